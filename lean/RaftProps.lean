import RaftProps.C11
import RaftProps.C12
import RaftProps.C18
import RaftProps.C14
import RaftProps.C19
import RaftProps.C02
import RaftProps.C06
import RaftProps.C04
import RaftProps.C05
import RaftProps.C03
import RaftProps.C15
import RaftProps.C07
import RaftProps.C09
import RaftProps.C13
import RaftProps.C20
import RaftProps.C01
import RaftProps.C08
import RaftProps.RN
import RaftProps.C16
import RaftProps.C17
import RaftProps.C10
import RaftProps.C14b
import RaftProps.C20b
import RaftProps.C07b
import RaftProps.C13b
import RaftProps.C02b
import RaftProps.C03b
import RaftProps.C05b
import RaftProps.C04b
import RaftProps.C06b
import RaftProps.C09b
import RaftProps.CfgLayer
import RaftProps.DiscLayer
import RaftProps.PDGuards
import RaftProps.C02c
import RaftProps.C05c
import RaftProps.C05d
import RaftProps.C05m
import RaftProps.C01d
import RaftProps.C01c
import RaftProps.C08c
import RaftProps.C01e
import RaftProps.C16c
import RaftProps.C01g
import RaftProps.C01g2
import RaftProps.C01h
import RaftProps.C01f
import RaftProps.C17c
import RaftProps.C01i
import RaftProps.C13c
import RaftProps.C01j
import RaftProps.C08d
import RaftProps.C13d
import RaftProps.C17d
import RaftProps.C01k
import RaftProps.C08e
import RaftProps.C01l
import RaftProps.C08f
import RaftProps.C01m
import RaftProps.C09c
import RaftProps.C09d
import RaftProps.C01n
import RaftProps.C13e
