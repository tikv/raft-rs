import RaftProofs.ClusterSnapHyp
import RaftProofs.ClusterSnapFull

/-!
Commit safety of `ClusterSem` with log compaction, the vocabulary (shared by `Snap` and `Snap5`):

* what `compact k` does to a node (`CompactOut`, `compact_out`, `compact_frame`), the log relation of a
  call with the compaction case (`LogRel'`, `CallStep`);
* the shape of a node without a pending snapshot (`NodeOk`);
* the chains of a history (`HistChain`) and **the ghost logs** of a node, the uncompacted versions
  (`Snap.Full`, `ClusterSnapFull`) of its logical and of its stored log (`FL`, `FS`; `NodeFull`: they hold
  the same entries up to the snapshot point, `NodeFull.persisted`: up to `persisted`), of a commit
  event (`EvF`), and what a step does to a ghost log (`FAcc`, `FCallStep`, `FL_same`, `FS_same`,
  `FL_restart`);
* the statements of the main induction for the ghost logs: `TermLe`, `LeaderLog`, `Covered`, `Promise`,
  `Sm`, `SAll`, and what is known about the sender of a `MsgAppend` / `MsgHeartbeat` (`AppSrc`, `HbSrc`).
-/
namespace RaftModel
namespace Cluster
namespace Snap
open Node Raft Raft.CC RaftProps.C02 RaftProps.C05

variable {cfg : JointConfig} {c0 : Nat} {h : List Sys}

/-- **the effect of `compact k`** under the storage contract: nothing but the storage changes, and of
the storage only the entries: the stored log — and with it the logical log — is cut below `k` -/
structure CompactOut (st st' : NState) (k : Nat) : Prop where
  msgs : st'.raft.msgs = st.raft.msgs
  term : st'.raft.term = st.raft.term
  state : st'.raft.state = st.raft.state
  id : st'.raft.id = st.raft.id
  committed : st'.raft.raftLog.committed = st.raft.raftLog.committed
  persisted : st'.raft.raftLog.persisted = st.raft.raftLog.persisted
  unstable : st'.raft.raftLog.unstable = st.raft.raftLog.unstable
  hs : st'.raft.raftLog.store.hardState = st.raft.raftLog.store.hardState
  inv : st'.raft.raftLog.Inv
  abs : st'.raft.raftLog.abs = st.raft.raftLog.abs.compactTo (k - 1)
  sto : storeLog st'.raft.raftLog.store = (storeLog st.raft.raftLog.store).compactTo (k - 1)
  ok : CompactOk st.raft.raftLog k

theorem storeLog_compactTo {s s' : MemStorage} (hw : s.WF) (ci : Nat) (hci : ci ≤ s.lastIndex)
    (h : s.compact ci = .ok s') : storeLog s' = (storeLog s).compactTo (ci - 1) := by
  obtain ⟨s2, h2, _, hfirst, _, hsnap, hents⟩ := RaftProps.C14.store_compact_ok hw ci (.inl hci)
  rw [h] at h2
  cases h2
  have hsl := hw.last_succ
  have hp := hw.first_pos
  by_cases hle : ci ≤ s.firstIndex
  · have h1 : storeLog s' = storeLog s := by
      unfold storeLog
      rw [hfirst, hsnap, hents, Nat.max_eq_left hle, show ci - s.firstIndex = 0 by omega]
      rfl
    have h2 : (storeLog s).compactTo (ci - 1) = storeLog s := by
      unfold LLog.compactTo
      rw [if_pos (by show ci - 1 ≤ s.firstIndex - 1; omega)]
    rw [h1, h2]
  · have hsn := hw.snap_lt
    unfold storeLog LLog.compactTo
    dsimp only
    rw [hfirst, hsnap, hents, Nat.max_eq_right (by omega),
      if_neg (show ¬ ci - 1 ≤ s.firstIndex - 1 by omega),
      if_neg (show ¬ ci - 1 = s.snapshotMetadata.index by omega)]
    congr 2
    omega

theorem compact_out {st st' : NState} {rnd : Option Nat} {k : Nat} {res : OpRes}
    (hinv : st.raft.raftLog.Inv) (hsn : st.raft.raftLog.unstable.snapshot = none)
    (hc : CompactOk st.raft.raftLog k)
    (h : Node.call st rnd (.compact k) = .ok (res, st')) : CompactOut st st' k := by
  unfold Node.call at h
  simp only [applyOp] at h
  split at h
  · rename_i store hcs
    have hcs' : st.raft.raftLog.store.compact k = .ok store := hcs
    cases h
    have hps := hinv.persisted_le_store
    obtain ⟨l', hl', hinv', habs1, _, _, _, _, _, _, _⟩ :=
      RaftProps.C14.compactStore_ok hinv k hc.1 (by have := hc.2; omega)
        (.inl (by have := hc.2; omega))
    have hle : l' = { st.raft.raftLog with store := store } := by
      unfold RaftLog.compactStore at hl'
      rw [hcs'] at hl'
      cases hl'; rfl
    subst hle
    exact ⟨rfl, rfl, rfl, rfl, rfl, rfl, rfl, CV.compact_hs hcs', hinv', habs1 hsn,
      storeLog_compactTo hinv.storeWF k (by have := hc.2; omega) hcs', hc⟩
  · cases h
  · cases h

/-- after a compaction an entry is left above the new snapshot point -/
theorem CompactOut.lt {st st' : NState} {k : Nat} (h : CompactOut st st' k)
    (hinv : st.raft.raftLog.Inv) :
    (st.raft.raftLog.abs.snapIdx < k - 1 → k - 1 < st.raft.raftLog.abs.lastIndex) ∧
    ((storeLog st.raft.raftLog.store).snapIdx < k - 1 →
      k - 1 < (storeLog st.raft.raftLog.store).lastIndex) := by
  have h1 := h.ok.2
  have h2 := hinv.persisted_le_store
  have h3 := hinv.committed_le_last
  have h4 := h.ok.1
  rw [hinv.lastIndex_abs] at h3
  have hsl : (storeLog st.raft.raftLog.store).lastIndex = st.raft.raftLog.store.lastIndex := by
    have := hinv.storeWF.last_succ
    have := hinv.storeWF.first_pos
    unfold storeLog LLog.lastIndex
    dsimp only
    omega
  constructor
  · intro _; omega
  · intro _; rw [hsl]; omega

/-- how a call changes the logical log: as without compaction (`LogRel`), or the call is a compaction -/
def LogRel' (st st' : NState) (op : NodeOp) : Prop :=
  LogRel st.raft st'.raft (CV.opMsg op) ∨ ∃ k, op = .compact k ∧ CompactOut st st' k

/-! ### `compact` in the per-call relation -/

/-- what `compact k` leaves alone (next to `CompactOut`): the tracker, the pending reads, the last
index of the log -/
theorem compact_frame {st st' : NState} {rnd : Option Nat} {k : Nat} {res : OpRes}
    (hinv : st.raft.raftLog.Inv) (hsn : st.raft.raftLog.unstable.snapshot = none)
    (hc : CompactOk st.raft.raftLog k)
    (h : Node.call st rnd (.compact k) = .ok (res, st')) :
    st'.raft.prs = st.raft.prs ∧ st'.raft.readOnly = st.raft.readOnly ∧
    st'.raft.raftLog.lastIndex = st.raft.raftLog.lastIndex := by
  have ho := compact_out hinv hsn hc h
  have hlast : st'.raft.raftLog.lastIndex = st.raft.raftLog.lastIndex := by
    rw [ho.inv.lastIndex_abs, hinv.lastIndex_abs, ho.abs]
    refine compactTo_lastIndex _ _ ?_
    have h1 := hc.1
    have h2 := hinv.committed_le_last
    rw [hinv.lastIndex_abs] at h2
    omega
  unfold Node.call at h
  simp only [applyOp] at h
  split at h
  · cases h; exact ⟨rfl, rfl, hlast⟩
  · cases h
  · cases h

/-! ### the nodes of a history -/

/-- the shape of every node of a history under `Hyp2w` -/
structure NodeOk (i : Nat) (st : NState) : Prop where
  inv : st.raft.raftLog.Inv
  snap : st.raft.raftLog.unstable.snapshot = none
  sidx : (storeLog st.raft.raftLog.store).snapIdx = st.raft.raftLog.abs.snapIdx
  sterm : (storeLog st.raft.raftLog.store).snapTerm = st.raft.raftLog.abs.snapTerm
  id : st.raft.id = i
  nb : st.raft.batchAppend = false

/-- the snapshot point is not beyond the commit index -/
theorem NodeOk.snap_le {i : Nat} {st : NState} (o : NodeOk i st) :
    st.raft.raftLog.abs.snapIdx ≤ st.raft.raftLog.committed := by
  have := o.inv.dummy_le_committed
  rw [o.inv.firstIndex_abs] at this
  simp only [LLog.firstIndex] at this
  omega

/-- what a `call` / `deliver` step does to the logical log of its node -/
inductive CallStep (a : Sys) (v : Nat) (sta stb : NState) : Prop
  | same (hl : stb.raft.raftLog.abs = sta.raft.raftLog.abs)
  | grew (es : List Entry) (hg : Appended sta.raft stb.raft es)
  | acc (m : Message) (hm : m ∈ a.net) (hty : m.msgType = .msgAppend) (hto : m.to = v)
      (ha : Accepted sta.raft.raftLog.abs stb.raft.raftLog.abs m)
      (hc : stb.raft.raftLog.committed =
        max sta.raft.raftLog.committed (min m.commit (m.index + m.entries.length)))
      (hci : sta.raft.raftLog.committed ≤ m.index)
      (hs : stb.raft.state = .follower) (ht : m.term = stb.raft.term ∨ m.term = 0)
  | compacted (k : Nat) (ho : CompactOut sta stb k)

/-! ### the chains of a history, and the ghost logs of a node -/

/-- a chain that sits somewhere in some state of the history -/
def HistChain (h : List Sys) (g : LLog) : Prop :=
  ∃ (m : Nat) (s : Sys) (loc : Loc), h[m]? = some s ∧ At s loc g

theorem hist_log {n : Nat} {s : Sys} (hn : h[n]? = some s) {i : Nat} {st : NState}
    (hi : s.node i = some st) : HistChain h st.raft.raftLog.abs :=
  ⟨n, s, .log i, hn, st, hi, rfl⟩

theorem hist_store {n : Nat} {s : Sys} (hn : h[n]? = some s) {i : Nat} {st : NState}
    (hi : s.node i = some st) : HistChain h (storeLog st.raft.raftLog.store) :=
  ⟨n, s, .store i, hn, st, hi, rfl⟩

/-- the uncompacted logical log of a node -/
noncomputable def FL (h : List Sys) (c0 : Nat) (st : NState) : LLog :=
  fl (HistChain h) c0 st.raft.raftLog.abs

/-- the uncompacted stored log of a node -/
noncomputable def FS (h : List Sys) (c0 : Nat) (st : NState) : LLog :=
  fl (HistChain h) c0 (storeLog st.raft.raftLog.store)

/-! ### the ghost-log invariant -/

/-- the ghost logs of a node: uncompacted versions of its logical log and of its stored log, with the
same entries up to the node's snapshot point -/
structure NodeFull (h : List Sys) (c0 : Nat) (st : NState) : Prop where
  log : Full (HistChain h) c0 st.raft.raftLog.abs (FL h c0 st)
  sto : Full (HistChain h) c0 (storeLog st.raft.raftLog.store) (FS h c0 st)
  pre : ∀ k, k ≤ st.raft.raftLog.abs.snapIdx → (FL h c0 st).entryAt k = (FS h c0 st).entryAt k

/-- what a step that is not a compaction does to the snapshot point and the first entry -/
theorem callstep_keeps {a : Sys} {v : Nat} {st st' : NState} (hs : Cluster.CallStep a v st st')
    (o : NodeOk v st)
    (hne : st.raft.raftLog.abs.snapTerm = none → c0 < st.raft.raftLog.abs.snapIdx →
      st.raft.raftLog.abs.ents ≠ []) :
    st'.raft.raftLog.abs.snapIdx = st.raft.raftLog.abs.snapIdx ∧
    st'.raft.raftLog.abs.snapTerm = st.raft.raftLog.abs.snapTerm ∧
    (st.raft.raftLog.abs.snapTerm = none → c0 < st.raft.raftLog.abs.snapIdx →
      st'.raft.raftLog.abs.entryAt (st.raft.raftLog.abs.snapIdx + 1) =
        st.raft.raftLog.abs.entryAt (st.raft.raftLog.abs.snapIdx + 1)) := by
  cases hs with
  | same hl => rw [hl]; exact ⟨rfl, rfl, fun _ _ => rfl⟩
  | grew es hg =>
    rw [hg.abs]
    refine ⟨rfl, rfl, fun hn hp => ?_⟩
    refine RaftProps.C05.c05_append_entryAt _ _ _ ?_
    have hlen : 0 < st.raft.raftLog.abs.ents.length := List.length_pos_iff.2 (hne hn hp)
    unfold LLog.lastIndex; omega
  | acc m _ _ _ hacc _ hci _ _ =>
    refine ⟨hacc.snap.1, hacc.snap.2, fun hn _ => hacc.low _ ?_⟩
    have hp := o.snap_le
    apply Classical.byContradiction
    intro hlt
    have heq : m.index = st.raft.raftLog.abs.snapIdx := by omega
    have hanc := hacc.anchor
    unfold LLog.matchTerm LLog.term at hanc
    rw [if_neg (by have := snap_le_last st.raft.raftLog.abs; omega), if_pos heq, hn] at hanc
    cases hanc

/-- what an accepted `MsgAppend` does to the uncompacted log (`Accepted` without the snapshot point) -/
structure FAcc (g g' : LLog) (m : Message) : Prop where
  ents : ∀ e ∈ m.entries, g'.entryAt e.index = some e
  low : ∀ k, k ≤ m.index → g'.entryAt k = g.entryAt k
  cases : (∀ k, g'.entryAt k = g.entryAt k) ∨
    (¬ (∀ e ∈ m.entries, g.matchTerm e.index e.term = true) ∧
      g'.lastIndex = m.index + m.entries.length ∧
      ∀ k e, g'.entryAt k = some e → g.entryAt k = some e ∨ e ∈ m.entries)

/-- **what an accepted batch keeps** (as `Accepted.keep`) -/
theorem FAcc.keep {g g' L : LLog} {m : Message} (ha : FAcc g g' m)
    (hc : ContigFrom (m.index + 1) m.entries)
    (hsub : ∀ e ∈ m.entries, L.entryAt e.index = some e) {i : Nat}
    (hcompat : ∀ j, j ≤ i → ∀ e, L.entryAt j = some e → g.entryAt j = some e) :
    ∀ k, k ≤ i → g'.entryAt k = g.entryAt k := by
  intro k hk
  rcases ha.cases with e | ⟨hnm, _, _⟩
  · exact e k
  · by_cases hkm : k ≤ m.index
    · exact ha.low k hkm
    · have hex : ∃ e ∈ m.entries, g.matchTerm e.index e.term ≠ true := by
        apply Classical.byContradiction
        intro hno
        apply hnm
        intro e he
        apply Classical.byContradiction
        intro hne
        exact hno ⟨e, he, hne⟩
      obtain ⟨e, he, hne⟩ := hex
      have hei : i < e.index := by
        apply Classical.byContradiction
        intro hle
        have := hcompat e.index (by omega) e (hsub e he)
        exact hne (g.matchTerm_of_entry this)
      have hb := contig_index_lt hc he
      obtain ⟨ek, hek, hidx⟩ := contig_entry hc (k := k) (by omega) (by omega)
      have h1 := ha.ents ek hek
      have h2 := hcompat k hk ek (by rw [← hidx]; exact hsub ek hek)
      rw [hidx] at h1
      rw [h1, h2]

/-- **what the new log agrees with** (as `Accepted.agree`) -/
theorem FAcc.agree {g g' L : LLog} {m : Message} (ha : FAcc g g' m)
    (hc : ContigFrom (m.index + 1) m.entries)
    (hsub : ∀ e ∈ m.entries, L.entryAt e.index = some e)
    (hanchor : ∀ k, k ≤ m.index → g.entryAt k = L.entryAt k) :
    ∀ k, k ≤ m.index + m.entries.length → g'.entryAt k = L.entryAt k := by
  intro k hk
  by_cases hkm : k ≤ m.index
  · rw [ha.low k hkm]; exact hanchor k hkm
  · obtain ⟨ek, hek, hidx⟩ := contig_entry hc (k := k) (by omega) (by omega)
    have h1 := ha.ents ek hek
    have h2 := hsub ek hek
    rw [hidx] at h1 h2
    rw [h1, h2]

/-- the ghost version of an accepted batch -/
theorem facc_of {g g' F F' : LLog} {m : Message} {C : LLog → Prop}
    (hF : Full C c0 g F) (hF' : Full C c0 g' F') (ha : Accepted g g' m)
    (hlow : ∀ k, k ≤ g.snapIdx → F'.entryAt k = F.entryAt k) : FAcc F F' m := by
  have hs := ha.snap.1
  have hcontig : ∀ e ∈ m.entries, g.snapIdx < e.index := by
    intro e he
    have := g'.entryAt_lt (ha.ents e he)
    rw [hs] at this
    exact this.1
  refine ⟨fun e he => hF'.entry (ha.ents e he), fun k hk => ?_, ?_⟩
  · by_cases hkp : k ≤ g.snapIdx
    · exact hlow k hkp
    · rw [hF'.ents k (by rw [hs]; omega), hF.ents k (by omega)]
      exact ha.low k hk
  · rcases ha.cases with c | ⟨c1, c2, c3⟩
    · left
      intro k
      by_cases hkp : k ≤ g.snapIdx
      · exact hlow k hkp
      · rw [hF'.ents k (by rw [hs]; omega), hF.ents k (by omega), c]
    · right
      refine ⟨fun hall => c1 (fun e he => ?_), by rw [hF'.last]; exact c2, fun k e hk => ?_⟩
      · have h1 := hall e he
        have hi := hcontig e he
        unfold LLog.matchTerm at h1 ⊢
        rw [hF.term_eq (Nat.le_of_lt hi) (.inr hi)] at h1
        exact h1
      · by_cases hkp : k ≤ g.snapIdx
        · left; rw [← hlow k hkp]; exact hk
        · rw [hF'.ents k (by rw [hs]; omega)] at hk
          rcases c3 k e hk with d | d
          · left; rw [hF.ents k (by omega)]; exact d
          · exact .inr d

/-- the restarted node's ghost log is the ghost stored log -/
theorem FL_restart {st st' : NState} (hl : st'.raft.raftLog.abs = storeLog st.raft.raftLog.store) :
    FL h c0 st' = FS h c0 st := by
  unfold FL FS; rw [hl]

theorem FL_same {st st' : NState} (hl : st'.raft.raftLog.abs = st.raft.raftLog.abs) :
    FL h c0 st' = FL h c0 st := by
  unfold FL; rw [hl]

theorem FS_same {st st' : NState}
    (hl : storeLog st'.raft.raftLog.store = storeLog st.raft.raftLog.store) :
    FS h c0 st' = FS h c0 st := by
  unfold FS; rw [hl]

/-- the two ghost logs of a node hold the same entries up to `persisted` -/
theorem NodeFull.persisted {i : Nat} {st : NState} (I : NodeFull h c0 st) (o : NodeOk i st) {k : Nat}
    (hk : k ≤ st.raft.raftLog.persisted) : (FL h c0 st).entryAt k = (FS h c0 st).entryAt k := by
  by_cases hp : k ≤ st.raft.raftLog.abs.snapIdx
  · exact I.pre k hp
  · rw [I.log.ents k (by omega), I.sto.ents k (by rw [o.sidx]; omega)]
    exact o.inv.abs_store_persisted o.snap hk

/-- a retained entry is an entry of the ghost log -/
theorem NodeFull.real {st : NState} (I : NodeFull h c0 st) {k : Nat}
    (hk : st.raft.raftLog.abs.snapIdx < k) :
    (FL h c0 st).entryAt k = st.raft.raftLog.abs.entryAt k := I.log.ents k hk

/-- … of the stepping node in a `call` / `deliver` step -/
inductive FCallStep (h : List Sys) (c0 : Nat) (a : Sys) (v : Nat) (sta stb : NState) : Prop
  | same (hl : ∀ k, (FL h c0 stb).entryAt k = (FL h c0 sta).entryAt k)
      (hli : stb.raft.raftLog.abs.lastIndex = sta.raft.raftLog.abs.lastIndex)
  | grew (es : List Entry) (hg : Appended sta.raft stb.raft es)
      (hl : ∀ k, k ≤ sta.raft.raftLog.abs.lastIndex →
        (FL h c0 stb).entryAt k = (FL h c0 sta).entryAt k)
      (hnew : ∀ k e, (FL h c0 stb).entryAt k = some e → sta.raft.raftLog.abs.lastIndex < k → e ∈ es)
  | acc (m : Message) (hm : m ∈ a.net) (hty : m.msgType = .msgAppend) (hto : m.to = v)
      (ha : FAcc (FL h c0 sta) (FL h c0 stb) m)
      (hanc : sta.raft.raftLog.abs.matchTerm m.index m.logTerm = true)
      (hc : stb.raft.raftLog.committed =
        max sta.raft.raftLog.committed (min m.commit (m.index + m.entries.length)))
      (hci : sta.raft.raftLog.committed ≤ m.index)
      (hs : stb.raft.state = .follower) (ht : m.term = stb.raft.term ∨ m.term = 0)

/-- a compaction that leaves an entry keeps the end of the log -/
theorem compactTo_last (g : LLog) (k : Nat) (hk : g.snapIdx < k → k < g.lastIndex) :
    (g.compactTo k).lastTerm = g.lastTerm ∧ (g.compactTo k).lastIndex = g.lastIndex := by
  by_cases hle : k ≤ g.snapIdx
  · have : g.compactTo k = g := by unfold LLog.compactTo; rw [if_pos hle]
    rw [this]; exact ⟨rfl, rfl⟩
  · have hk' := hk (by omega)
    have hl := compactTo_lastIndex g k (Nat.le_of_lt hk')
    refine ⟨?_, hl⟩
    obtain ⟨e, he⟩ := g.entryAt_exists (i := g.lastIndex) (by omega) (Nat.le_refl _)
    have he' : (g.compactTo k).entryAt g.lastIndex = some e := by
      rw [LLog.compactTo_entryAt g k _, if_neg (by omega)]; exact he
    unfold LLog.lastTerm
    rw [hl, g.term_of_entry he, (g.compactTo k).term_of_entry he']

/-- the uncompacted log of a commit event -/
noncomputable def EvF (h : List Sys) (c0 : Nat) (E : Ev) : LLog := fl (HistChain h) c0 E.gE

/-- **no entry is ahead of its holder's term** — for the ghost logs -/
structure TermLe (h : List Sys) (c0 : Nat) (s : Sys) : Prop where
  log : ∀ i st, s.node i = some st → ∀ e ∈ (FL h c0 st).ents, e.term ≤ st.raft.term
  sto : ∀ i st, s.node i = some st → ∀ e ∈ (FS h c0 st).ents,
    e.term ≤ st.raft.raftLog.store.hardState.term
  que : ∀ i st, s.node i = some st → ∀ x ∈ st.raft.msgs, x.msgType = .msgAppend →
    ∀ e ∈ x.entries, e.term ≤ x.term
  net : ∀ x ∈ s.net, x.msgType = .msgAppend → ∀ e ∈ x.entries, e.term ≤ x.term

/-- membership in a gap-free log, by `entryAt` -/
theorem mem_of_eqAll {F G : LLog} (hF : F.Contig) (heq : ∀ k, F.entryAt k = G.entryAt k) {e : Entry}
    (he : e ∈ F.ents) : e ∈ G.ents :=
  G.entryAt_mem (by rw [← heq]; exact hF.entryAt_of_mem he)

/-- `L` is the ghost (uncompacted) log of the leader of term `t` at some point `h[m]`, `m ≤ N` -/
def LeaderLog (h : List Sys) (c0 N t : Nat) (L : LLog) : Prop :=
  ∃ (m : Nat) (s : Sys) (l : Nat) (st : NState), m ≤ N ∧ h[m]? = some s ∧ s.node l = some st ∧
    st.raft.state = .leader ∧ st.raft.term = t ∧ L = FL h c0 st

/-- the prefix up to `cm` of `g` is covered by a past commit event of a term at most `term` -/
def Covered (h : List Sys) (c0 m cm term : Nat) (g : LLog) : Prop :=
  cm ≤ c0 ∨ ∃ E : Ev, E.ok h ∧ E.nE < m ∧ cm ≤ E.c ∧ E.t ≤ term ∧ EqUpTo g (EvF h c0 E) cm

/-- what an accepting append response promises about the log `g` of its sender -/
def Promise (h : List Sys) (c0 m : Nat) (a : Message) (g : LLog) : Prop :=
  ∃ L, LeaderLog h c0 m a.term L ∧ a.index ≤ L.lastIndex ∧ EqUpTo g L a.index

structure Sm (h : List Sys) (c0 m : Nat) (s : Sys) : Prop where
  lc : ∀ E : Ev, E.ok h → ∀ l st, s.node l = some st → st.raft.state = .leader →
    E.t < st.raft.term → Has (FL h c0 st) E.c E.t
  retm : ∀ E : Ev, E.ok h → ∀ v st, s.node v = some st → AckedMem s m E v st →
    Has (FL h c0 st) E.c E.t
  rets : ∀ E : Ev, E.ok h → ∀ v st, s.node v = some st → AckedDur s m E v →
    Has (FS h c0 st) E.c E.t
  a2m : ∀ v st, s.node v = some st → ∀ a, (a ∈ s.net ∨ a ∈ st.raft.msgs) → isAck a → a.frm = v →
    c0 < a.index → a.term = st.raft.term → Promise h c0 m a (FL h c0 st)
  a2s : ∀ v st, s.node v = some st → ∀ a ∈ s.net, isAck a → a.frm = v → c0 < a.index →
    a.term = st.raft.raftLog.store.hardState.term →
    Promise h c0 m a (FS h c0 st)
  g1 : ∀ E : Ev, E.ok h → ∀ v st g, s.node v = some st → (g ∈ s.net ∨ g ∈ st.raft.msgs) →
    isGrant g → g.frm = v → E.t < g.term → AckedMem s m E v st → ¬ LedBy h m g.term →
    ∃ q ∈ s.net, q.msgType = .msgRequestVote ∧ q.frm = g.to ∧ q.term = g.term ∧ UpTo q E.c E.t
  nctm : ∀ v st, s.node v = some st →
    Covered h c0 m st.raft.raftLog.committed st.raft.term (FL h c0 st)
  ncts : ∀ v st, s.node v = some st →
    Covered h c0 m st.raft.raftLog.store.hardState.commit st.raft.raftLog.store.hardState.term
      (FS h c0 st)
  scm : ∀ v st, s.node v = some st →
    st.raft.raftLog.store.hardState.commit ≤ st.raft.raftLog.committed

/-- everything up to index `n` -/
def SAll (h : List Sys) (c0 n : Nat) : Prop := ∀ m s, m ≤ n → h[m]? = some s → Sm h c0 m s

/-- what is known about the sender of a `MsgAppend` -/
structure AppSrc (h : List Sys) (c0 n : Nat) (m : Message) (L : LLog) (cL : Nat) : Prop where
  ll : LeaderLog h c0 n m.term L
  snap : L.snapIdx = c0
  ents : ∀ e ∈ m.entries, L.entryAt e.index = some e
  contig : ContigFrom (m.index + 1) m.entries
  anchor : m.logTerm ≠ 0 → c0 < m.index → Has L m.index m.logTerm
  last : m.index + m.entries.length ≤ L.lastIndex
  commit : m.commit ≤ cL
  cle : cL ≤ L.lastIndex
  cov : Covered h c0 n cL m.term L
  tnz : m.term ≠ 0

/-- what is known about the sender of a `MsgHeartbeat` -/
structure HbSrc (h : List Sys) (c0 n : Nat) (net : List Message) (m : Message) (L : LLog)
    (cL : Nat) : Prop where
  ll : LeaderLog h c0 n m.term L
  commit : m.commit ≤ cL
  cle : cL ≤ L.lastIndex
  cov : Covered h c0 n cL m.term L
  ack : m.commit = 0 ∨ ∃ x ∈ net, isAck x ∧ x.frm = m.to ∧ x.term = m.term ∧ m.commit ≤ x.index

end Snap
end Cluster
end RaftModel
