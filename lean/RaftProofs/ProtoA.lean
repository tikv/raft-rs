import RaftProofs.ProtoR

/-!
Plumbing of acknowledgements through images: what the durable image covers is contained in every
pending image and in the live outbox (while the node is up); every released acknowledgement is
covered by the durable image; released vote requests stay covered by the durable (term, vote).
-/
namespace RaftModel.P

structure InvA (s : PSys) : Prop where
  sub : ∀ a ∈ s.acks, OMsg.ack a.term a.frm a.idx a.pre ∈ (s.nodes a.frm).dacks
  o1 : ∀ i, (s.nodes i).up = true → ∀ m ∈ (s.nodes i).dacks, m.isAck = true → m ∈ (s.nodes i).outbox
  o2 : ∀ i, ∀ im ∈ (s.nodes i).pending, ∀ m ∈ im.acks, m ∈ (s.nodes i).outbox
  o3 : ∀ i, ∀ im ∈ (s.nodes i).pending, ∀ m ∈ (s.nodes i).dacks, m.isAck = true → m ∈ im.acks
  o4 : ∀ i, (s.nodes i).pending.Pairwise (fun a b => ∀ m ∈ a.acks, m ∈ b.acks)
  ia : ∀ i, ∀ im ∈ (s.nodes i).pending, ∀ m ∈ im.acks, m.isAck = true
  dn : ∀ i, (s.nodes i).up = false → (s.nodes i).pending = []
  posq : ∀ i t c lt li, OMsg.voteReq t c lt li ∈ (s.nodes i).outbox → 0 < c
  rqv : ∀ r ∈ s.reqs, 0 < r.cand ∧ (r.term < (s.nodes r.cand).dterm ∨
          (r.term = (s.nodes r.cand).dterm ∧ (s.nodes r.cand).dvote = r.cand))

theorem invA_init : InvA init := by
  constructor <;> simp [init]

/-- a step that changes node `i` only, releases no acknowledgement and no vote request, and leaves
the durable (term, vote) of `i` alone -/
theorem invA_node (s : PSys) (h : InvA s) (i : Nat) (n : PNode) (s' : PSys)
    (hn : s'.nodes = upd s.nodes i n) (hacks : s'.acks = s.acks) (hreqs : s'.reqs = s.reqs)
    (hsub : ∀ a ∈ s.acks, a.frm = i → OMsg.ack a.term a.frm a.idx a.pre ∈ n.dacks)
    (hreq : ∀ r ∈ s.reqs, r.cand = i → (r.term < n.dterm ∨ (r.term = n.dterm ∧ n.dvote = r.cand)))
    (posq : ∀ t c lt li, OMsg.voteReq t c lt li ∈ n.outbox → 0 < c)
    (o1 : n.up = true → ∀ m ∈ n.dacks, m.isAck = true → m ∈ n.outbox)
    (o2 : ∀ im ∈ n.pending, ∀ m ∈ im.acks, m ∈ n.outbox)
    (o3 : ∀ im ∈ n.pending, ∀ m ∈ n.dacks, m.isAck = true → m ∈ im.acks)
    (o4 : n.pending.Pairwise (fun a b => ∀ m ∈ a.acks, m ∈ b.acks))
    (ia : ∀ im ∈ n.pending, ∀ m ∈ im.acks, m.isAck = true)
    (dn : n.up = false → n.pending = []) : InvA s' := by
  obtain ⟨hnodei, hnode⟩ := upd_nodes hn
  constructor
  · intro a ha
    rw [hacks] at ha
    by_cases hj : a.frm = i
    · have := hsub a ha hj
      rw [hj, hnodei]; rw [hj] at this; exact this
    · rw [hnode _ hj]; exact h.sub a ha
  · intro j; by_cases hj : j = i
    · subst hj; rw [hnodei]; exact o1
    · rw [hnode j hj]; exact h.o1 j
  · intro j; by_cases hj : j = i
    · subst hj; rw [hnodei]; exact o2
    · rw [hnode j hj]; exact h.o2 j
  · intro j; by_cases hj : j = i
    · subst hj; rw [hnodei]; exact o3
    · rw [hnode j hj]; exact h.o3 j
  · intro j; by_cases hj : j = i
    · subst hj; rw [hnodei]; exact o4
    · rw [hnode j hj]; exact h.o4 j
  · intro j; by_cases hj : j = i
    · subst hj; rw [hnodei]; exact ia
    · rw [hnode j hj]; exact h.ia j
  · intro j; by_cases hj : j = i
    · subst hj; rw [hnodei]; exact dn
    · rw [hnode j hj]; exact h.dn j
  · intro j; by_cases hj : j = i
    · subst hj; rw [hnodei]; exact posq
    · rw [hnode j hj]; exact h.posq j
  · intro r hr
    rw [hreqs] at hr
    have := h.rqv r hr
    refine ⟨this.1, ?_⟩
    by_cases hj : r.cand = i
    · rw [hj, hnodei]; have := hreq r hr hj; rw [hj] at this; exact this
    · rw [hnode _ hj]; exact this.2

/-- the durable acknowledgements of `i` unchanged: released acknowledgements stay covered -/
theorem keep_sub (s : PSys) (h : InvA s) (i : Nat) :
    ∀ a ∈ s.acks, a.frm = i → OMsg.ack a.term a.frm a.idx a.pre ∈ (s.nodes i).dacks := by
  intro a ha hf; rw [← hf]; exact h.sub a ha

/-- the durable (term, vote) of `i` unchanged: released requests stay covered -/
theorem keep_req (s : PSys) (h : InvA s) (i : Nat) :
    ∀ r ∈ s.reqs, r.cand = i → (r.term < (s.nodes i).dterm ∨ (r.term = (s.nodes i).dterm ∧ (s.nodes i).dvote = r.cand)) := by
  intro r hr hc; have := (h.rqv r hr).2; rw [← hc]; exact this

/-- `posq` after appending non-request messages to the outbox -/
theorem posq_same (s : PSys) (hI : InvA s) (i : Nat) (extra : List OMsg)
    (hx : ∀ t c lt li, OMsg.voteReq t c lt li ∈ extra → 0 < c) :
    ∀ t c lt li, OMsg.voteReq t c lt li ∈ (s.nodes i).outbox ++ extra → 0 < c := by
  intro t c lt li hm
  rcases List.mem_append.1 hm with hm | hm
  · exact hI.posq i t c lt li hm
  · exact hx t c lt li hm

/-- node `i` keeps its durable state, its pending images and whether it is up, and appends `extra`
to its outbox: all the containments are kept -/
theorem invA_outbox_append (s : PSys) (h : InvA s) (i : Nat) (n : PNode) (extra : List OMsg) (s' : PSys)
    (hn : s'.nodes = upd s.nodes i n) (hacks : s'.acks = s.acks) (hreqs : s'.reqs = s.reqs)
    (hdk : n.dacks = (s.nodes i).dacks) (hdt : n.dterm = (s.nodes i).dterm) (hdv : n.dvote = (s.nodes i).dvote)
    (hup : n.up = (s.nodes i).up) (hp : n.pending = (s.nodes i).pending)
    (ho : n.outbox = (s.nodes i).outbox ++ extra)
    (hx : ∀ t c lt li, OMsg.voteReq t c lt li ∈ extra → 0 < c) : InvA s' := by
  have hsub : ∀ m, m ∈ (s.nodes i).outbox → m ∈ n.outbox := fun m hm => ho ▸ List.mem_append_left _ hm
  refine invA_node s h i n s' hn hacks hreqs (by rw [hdk]; exact keep_sub s h i) (by rw [hdt, hdv]; exact keep_req s h i)
    (ho ▸ posq_same s h i extra hx) ?_ ?_ ?_ ?_ ?_ ?_
  · intro hu m hm ha; rw [hdk] at hm; rw [hup] at hu; exact hsub m (h.o1 i hu m hm ha)
  · intro im him m hm; rw [hp] at him; exact hsub m (h.o2 i im him m hm)
  · intro im him m hm ha; rw [hp] at him; rw [hdk] at hm; exact h.o3 i im him m hm ha
  · rw [hp]; exact h.o4 i
  · intro im him; rw [hp] at him; exact h.ia i im him
  · intro hu; rw [hp]; rw [hup] at hu; exact h.dn i hu

/-- ... in particular when its outbox does not change either -/
theorem invA_keep (s : PSys) (h : InvA s) (i : Nat) (n : PNode) (s' : PSys)
    (hn : s'.nodes = upd s.nodes i n) (hacks : s'.acks = s.acks) (hreqs : s'.reqs = s.reqs)
    (hdk : n.dacks = (s.nodes i).dacks) (hdt : n.dterm = (s.nodes i).dterm) (hdv : n.dvote = (s.nodes i).dvote)
    (hup : n.up = (s.nodes i).up) (hp : n.pending = (s.nodes i).pending)
    (ho : n.outbox = (s.nodes i).outbox) : InvA s' :=
  invA_outbox_append s h i n [] s' hn hacks hreqs hdk hdt hdv hup hp (by rw [ho, List.append_nil])
    (fun _ _ _ _ hm => nomatch hm)

theorem mem_eraseIdx_of_ne {l : List OMsg} {k : Nat} {m x : OMsg} (hk : l[k]? = some x) (hm : m ∈ l)
    (hne : m ≠ x) : m ∈ l.eraseIdx k := by
  induction l generalizing k with
  | nil => cases hm
  | cons a l ih =>
    cases k with
    | zero =>
      simp only [List.getElem?_cons_zero, Option.some.injEq] at hk
      subst hk
      simp only [List.eraseIdx_cons_zero]
      rcases List.mem_cons.1 hm with h | h
      · exact absurd h hne
      · exact h
    | succ k =>
      simp only [List.getElem?_cons_succ] at hk
      simp only [List.eraseIdx_cons_succ]
      rcases List.mem_cons.1 hm with h | h
      · subst h; exact List.mem_cons_self
      · exact List.mem_cons_of_mem _ (ih hk h)

theorem invA_step (s s' : PSys) (e : Event) (hV : InvV (vsys s)) (hR : InvR s) (hI : InvA s)
    (h : applyEvent s e = .ok s') : InvA s' := by
  cases e with
  | bump i t | win i cfg q | stepDown i | leaderAppend i e | commitLeader i c cfg q | commitApp i c m
  | commitHB i c m | commitClaim i m =>
    obtain ⟨_, rfl⟩ := of_guard_ok h
    exact invA_keep s hI i _ _ rfl rfl rfl rfl rfl rfl rfl rfl rfl
  | commitSnap i t idx sterm =>
    obtain ⟨m, _, _, _, rfl⟩ := commitSnap_ok h
    exact invA_keep s hI i _ _ rfl rfl rfl rfl rfl rfl rfl rfl rfl
  | campaign i =>
    obtain ⟨hg, rfl⟩ := of_guard_ok h
    refine invA_outbox_append s hI i _ _ _ rfl rfl rfl rfl rfl rfl rfl rfl rfl ?_
    intro t c lt li hm; simp at hm; rw [hm.2.1]; exact hg.2.2.2.1
  | grant i c =>
    obtain ⟨r, _, _, _, rfl⟩ := grant_ok h
    exact invA_outbox_append s hI i _ _ _ rfl rfl rfl rfl rfl rfl rfl rfl rfl (by simp)
  | recvApp i m | ackCommitted i | ackSelf i idx =>
    obtain ⟨_, rfl⟩ := of_guard_ok h
    exact invA_outbox_append s hI i _ _ _ rfl rfl rfl rfl rfl rfl rfl rfl rfl (by simp)
  | installSnap i t idx sterm =>
    obtain ⟨m, _, _, _, rfl⟩ := installSnap_ok h
    exact invA_outbox_append s hI i _ _ _ rfl rfl rfl rfl rfl rfl rfl rfl rfl (by simp)
  | read r =>
    obtain ⟨rd, rfl⟩ := read_frame h
    exact ⟨hI.sub, hI.o1, hI.o2, hI.o3, hI.o4, hI.ia, hI.dn, hI.posq, hI.rqv⟩
  | sendApp i m | sendHB i to c | claim i idx | sendSnap i idx =>
    obtain ⟨_, rfl⟩ := of_guard_ok h
    exact ⟨hI.sub, hI.o1, hI.o2, hI.o3, hI.o4, hI.ia, hI.dn, hI.posq, hI.rqv⟩
  | rdy i =>
    obtain ⟨hg, rfl⟩ := of_guard_ok h
    refine invA_node s hI i _ _ rfl rfl rfl (keep_sub s hI i) (keep_req s hI i) (hI.posq i) (hI.o1 i) ?_ ?_ ?_ ?_ (by intro hu; simp only at hu; rw [hg] at hu; cases hu)
    · intro im him m hm
      simp only [List.mem_append, List.mem_singleton] at him
      rcases him with him | him
      · exact hI.o2 i im him m hm
      · subst him; simp only [image, List.mem_filter] at hm; exact hm.1
    · intro im him m hm ha
      simp only [List.mem_append, List.mem_singleton] at him
      rcases him with him | him
      · exact hI.o3 i im him m hm ha
      · subst him; simp only [image, List.mem_filter]; exact ⟨hI.o1 i hg m hm ha, ha⟩
    · simp only [List.pairwise_append, List.pairwise_cons, List.mem_singleton]
      refine ⟨hI.o4 i, ⟨by simp, List.Pairwise.nil⟩, ?_⟩
      intro a ha b hb m hm
      subst hb
      simp only [image, List.mem_filter]
      exact ⟨hI.o2 i a ha m hm, hI.ia i a ha m hm⟩
    · intro im him m hm
      simp only [List.mem_append, List.mem_singleton] at him
      rcases him with him | him
      · exact hI.ia i im him m hm
      · subst him; simp only [image, List.mem_filter] at hm; exact hm.2
  | persist i k =>
    obtain ⟨hg, im, him, rfl⟩ := persist_ok h
    have hmem : im ∈ (s.nodes i).pending := List.mem_of_getElem? him
    obtain ⟨hafter, hpp⟩ := pairwise_drop (hI.o4 i) hg.2.1 him
    have hle := (hV.pa i (im.term, im.vote) (List.mem_map.2 ⟨im, hmem, rfl⟩)).1
    refine invA_node s hI i _ _ rfl rfl rfl (fun a ha hf => hI.o3 i im hmem _ (keep_sub s hI i a ha hf) rfl) ?_ (hI.posq i)
      (fun _ m hm _ => hI.o2 i im hmem m hm) (fun x hx m hm => hI.o2 i x (List.mem_of_mem_drop hx) m hm)
      (fun x hx m hm _ => hafter x hx m hm) hpp (fun x hx => hI.ia i x (List.mem_of_mem_drop hx))
      (fun hu => by rw [hg.1] at hu; cases hu)
    -- the durable (term, vote) moves up in the order `le2`: released requests stay covered
    intro r hr hc
    exact le2_covers hle (Nat.ne_of_gt (hI.rqv r hr).1) (keep_req s hI i r hr hc)
  | release i key =>
    -- a vote request or a grant leaves the outbox: the acknowledgements stay
    have hbase : ∀ k m, (s.nodes i).outbox[k]? = some m → m.isAck = false →
        InvA { s with nodes := upd s.nodes i { s.nodes i with outbox := (s.nodes i).outbox.eraseIdx k } } := by
      intro k m hm hnotack
      have hkeep : ∀ x, x ∈ (s.nodes i).outbox → x.isAck = true → x ∈ (s.nodes i).outbox.eraseIdx k := by
        intro x hx hxa
        exact mem_eraseIdx_of_ne hm hx (by intro he; rw [he, hnotack] at hxa; cases hxa)
      refine invA_node s hI i _ _ rfl rfl rfl (keep_sub s hI i) (keep_req s hI i) (fun t c lt li hm => hI.posq i t c lt li (List.mem_of_mem_eraseIdx hm)) ?_ ?_ (hI.o3 i) (hI.o4 i) (hI.ia i) (hI.dn i)
      · intro hu x hx hxa; exact hkeep x (hI.o1 i hu x hx hxa) hxa
      · intro im him x hx; exact hkeep x (hI.o2 i im him x hx) (hI.ia i im him x hx)
    rcases release_ok h with ⟨_, ⟨t, f, idx, pre, hm, rfl⟩ | ⟨k, t, c, lt, li, hm, hr, rfl⟩ | ⟨k, t, v, c, gh, hm, _, rfl⟩⟩
    · have hown : f = i := (hR.dak i _ hm).1
      refine ⟨?_, hI.o1, hI.o2, hI.o3, hI.o4, hI.ia, hI.dn, hI.posq, hI.rqv⟩
      intro a ha
      rcases List.mem_cons.1 ha with ha | ha
      · subst ha; rw [← hown] at hm; exact hm
      · exact hI.sub a ha
    · have hb := hbase k _ hm rfl
      have hmem : OMsg.voteReq t c lt li ∈ (s.nodes i).outbox := List.mem_of_getElem? hm
      refine ⟨hb.sub, hb.o1, hb.o2, hb.o3, hb.o4, hb.ia, hb.dn, hb.posq, ?_⟩
      intro r hr'
      rcases List.mem_cons.1 hr' with hr' | hr'
      · subst hr'
        have hci : c = i := (hR.own i _ hmem).1
        refine ⟨hI.posq i t c lt li hmem, ?_⟩
        simp only [hci, upd, if_true]
        rcases hr with hr | hr
        · left; exact hr
        · right; exact ⟨hr.1.symm, by rw [hr.2, hci]⟩
      · exact hb.rqv r hr'
    · have hb := hbase k _ hm rfl
      exact ⟨hb.sub, hb.o1, hb.o2, hb.o3, hb.o4, hb.ia, hb.dn, hb.posq, hb.rqv⟩
  | crash i =>
    obtain ⟨_, rfl⟩ := of_guard_ok h
    exact invA_node s hI i _ _ rfl rfl rfl (keep_sub s hI i) (keep_req s hI i) (by simp) (by simp) (by simp) (by simp) (by simp) (by simp) (by simp)
  | restart i =>
    obtain ⟨_, rfl⟩ := of_guard_ok h
    refine invA_node s hI i _ _ rfl rfl rfl (keep_sub s hI i) (keep_req s hI i) (by intro t c lt li hm; simp [List.mem_filter, OMsg.isAck] at hm) ?_ (by simp) (by simp) (by simp) (by simp) (by simp)
    intro _ m hm ha
    simp only [List.mem_filter]; exact ⟨hm, ha⟩
  | bootstrap i donor idx =>
    obtain ⟨hf, _, _, _, _, rfl⟩ := bootstrap_ok h
    have hnr : ∀ r ∈ s.reqs, r.cand ≠ i := by
      intro r hr hc
      have := hI.rqv r hr
      rw [hc, hf.dterm, hf.dvote] at this
      omega
    refine invA_node s hI i _ _ rfl rfl rfl (keep_sub s hI i) (fun r hr hc => absurd hc (hnr r hr)) ?_ ?_ ?_ ?_ ?_ ?_ ?_
    · intro t c lt li hm; simp only [hf.outbox] at hm; cases hm
    · intro _ m hm; simp only [hf.dacks] at hm; cases hm
    · intro im him; simp only [hf.pending] at him; cases him
    · intro im him; simp only [hf.pending] at him; cases him
    · simp only [hf.pending]; exact List.Pairwise.nil
    · intro im him; simp only [hf.pending] at him; cases him
    · intro hu; cases hu

theorem invA_reachR (s : PSys) (h : Reach s) : InvA s := by
  induction h with
  | init => exact invA_init
  | step e hr hstep ih => exact invA_step _ _ e (invV_reachR _ hr) (invR_reachR _ hr) ih hstep

theorem invA_reach (c0 : Cfg) (s : PSys) (h : ReachC c0 s) : InvA s := invA_reachR s (reach_of_reachC h)

end RaftModel.P
