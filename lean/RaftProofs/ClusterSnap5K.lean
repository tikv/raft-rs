import RaftProofs.ClusterSnap5J

/-!
Commit safety of `ClusterSem` with compaction and snapshots, part 5K: the hypotheses of the main
induction (`Snap5.Hyp3a`, `Hyp3`, `GHyp3a q`), the term recorded for the *initial* snapshot point
(`snapT`, `GHyp3a.snapt`), **no entry is ahead of its holder's term** for the ghost logs — also for
the uncompacted version of every snapshot that travels (`term_le_of`: under `GHyp2w q`, with the
clauses of `GHyp3a q` owed only under `q`; `term_le`) —, and without `q` a known snapshot term sits at
the common initial snapshot point (`snapTerm_c0`).
-/
namespace RaftModel
namespace Cluster
namespace Snap5
open Node Raft Raft.CC RaftProps.C02 RaftProps.C05 Snap

/-- **the hypotheses of the main induction** on top of `Hyp2w` (as `Snap.Hyp3a`: `anch`, still a
**proof gap** here; `rirs` — a `MsgReadIndexResp` was sent by a leader of its term whose commit index
covered its index — in place of the gap `norir`; `snapt0`), plus `snapidx` -/
structure Hyp3a (cfg : JointConfig) (c0 : Nat) (h : List Sys) : Prop extends Hyp2w cfg c0 h where
  anch : ∀ s ∈ h, ∀ x ∈ s.net, x.msgType = .msgAppend → x.logTerm ≠ 0 ∨ x.index ≤ c0
  rirs : ∀ n s, h[n]? = some s → ∀ x ∈ s.net, x.msgType = .msgReadIndexResp → RirSrc h n x
  snapt0 : ∀ s0, h[0]? = some s0 → ∀ i sti, s0.node i = some sti → ∀ t0,
    sti.raft.raftLog.abs.snapTerm = some t0 → ∀ j stj, s0.node j = some stj → t0 ≤ stj.raft.term
  snapidx : ∀ s ∈ h, ∀ x ∈ s.net, x.msgType = .msgSnapshot → c0 < x.snapshot.metadata.index

/-- **the hypotheses of the main induction as first stated** (`RaftProps/C01e.lean`, part 2) on top of
`Hyp2` (as `Snap.Hyp3`), plus
* `snapidx`: a `MsgSnapshot` of the transport names an index above the common initial snapshot point
  `c0` (for `c0 = 0` a fact of the model: `prepare_send_snapshot` refuses an empty snapshot). -/
structure Hyp3 (cfg : JointConfig) (c0 : Nat) (h : List Sys) : Prop extends Hyp2 cfg c0 h where
  anch : ∀ s ∈ h, ∀ x ∈ s.net, x.msgType = .msgAppend → x.logTerm ≠ 0 ∨ x.index ≤ c0
  snapt0 : ∀ s0, h[0]? = some s0 → ∀ i sti, s0.node i = some sti → ∀ t0,
    sti.raft.raftLog.abs.snapTerm = some t0 → ∀ j stj, s0.node j = some stj → t0 ≤ stj.raft.term
  snapidx : ∀ s ∈ h, ∀ x ∈ s.net, x.msgType = .msgSnapshot → c0 < x.snapshot.metadata.index

/-- `Hyp3a` on top of `GHyp2w` — the bundle the main induction takes -/
structure GHyp3a (q : Prop) (cfg : JointConfig) (c0 : Nat) (h : List Sys) : Prop
    extends GHyp2w q cfg c0 h where
  anch : ∀ s ∈ h, ∀ x ∈ s.net, x.msgType = .msgAppend → x.logTerm ≠ 0 ∨ x.index ≤ c0
  rirs : ∀ n s, h[n]? = some s → ∀ x ∈ s.net, x.msgType = .msgReadIndexResp → RirSrc h n x
  snapt0 : ∀ s0, h[0]? = some s0 → ∀ i sti, s0.node i = some sti → ∀ t0,
    sti.raft.raftLog.abs.snapTerm = some t0 → ∀ j stj, s0.node j = some stj → t0 ≤ stj.raft.term
  snapidx : ∀ s ∈ h, ∀ x ∈ s.net, x.msgType = .msgSnapshot → c0 < x.snapshot.metadata.index

variable {q : Prop} {cfg : JointConfig} {c0 : Nat} {h : List Sys}

theorem Hyp3.toHyp2w (H : Hyp3 cfg c0 h) : Hyp2w cfg c0 h := H.toHyp2.toHyp2w

theorem Hyp3a.g (H : Hyp3a cfg c0 h) : GHyp3a True cfg c0 h :=
  { toGHyp2w := H.toHyp2w.g, anch := H.anch, rirs := H.rirs, snapt0 := H.snapt0,
    snapidx := H.snapidx }

theorem Hyp3.toHyp3a (H : Hyp3 cfg c0 h) : Hyp3a cfg c0 h :=
  { toHyp2w := H.toHyp2w, anch := H.anch, snapt0 := H.snapt0, snapidx := H.snapidx,
    rirs := fun _ s hn x hx hty => absurd hty (H.norir s (mem_of_get hn) x hx) }

/-- at the common initial snapshot point, a log knows no term but the one its node started with -/
def InitSnapT (h : List Sys) (c0 v : Nat) (g : LLog) : Prop :=
  g.snapIdx = c0 → ∀ t, g.snapTerm = some t →
    ∃ s0 st0, h[0]? = some s0 ∧ s0.node v = some st0 ∧ st0.raft.raftLog.abs.snapTerm = some t

theorem snapT (H : GHyp3a q cfg c0 h) : ∀ (n : Nat) (s : Sys), h[n]? = some s →
    ∀ v st, s.node v = some st → InitSnapT h c0 v st.raft.raftLog.abs ∧
      InitSnapT h c0 v (storeLog st.raft.raftLog.store) := by
  have H2 := H.toGHyp2w
  refine hist_induct h _ ?_ ?_
  · intro s h0 v st hv
    obtain ⟨_, sto, hboot, hwf, _, _⟩ := H.init s h0
    obtain ⟨c, rnd, hb⟩ := hboot v st hv
    obtain ⟨_, habs, hsl⟩ := boot_log c _ rnd st (hwf v st hv).1 hb
    refine ⟨fun _ t ht => ⟨s, st, h0, hv, ht⟩, fun _ t ht => ⟨s, st, h0, hv, ?_⟩⟩
    rw [habs, ← hsl]; exact ht
  · intro n a b ha hb ih v stb hvb
    obtain ⟨k, stk, stk', hka, hkb, hoth, hs⟩ := H2.stp ha hb
    by_cases hvk : v = k
    · subst hvk
      rw [hkb] at hvb; cases hvb
      obtain ⟨ia, is⟩ := ih v stk hka
      have oa := node_ok H2 ha hka
      have ob := node_ok H2 hb hkb
      -- the logical log
      have hlog : InitSnapT h c0 v stb.raft.raftLog.abs := by
        cases node_step H2 ha hb hka hkb with
        | same hl => rw [hl]; exact ia
        | grew es hg => rw [hg.abs]; exact ia
        | acc m _ _ _ hacc _ _ _ _ => intro h1 t h2; rw [hacc.snap.1] at h1; rw [hacc.snap.2] at h2; exact ia h1 t h2
        | restart hl _ _ => rw [hl]; exact is
        | compacted j ho =>
          rw [ho.abs]
          unfold LLog.compactTo
          split
          · exact ia
          · rename_i hgt
            intro h1
            have h1' : j - 1 = c0 := h1
            have := c0_le_snap H2 ha hka
            omega
        | restored m hm hty _ hl _ _ _ _ _ =>
          rw [hl]
          intro h1
          have h1' : m.snapshot.metadata.index = c0 := h1
          have := H.snapidx a (mem_of_get ha) m hm hty
          omega
      refine ⟨hlog, ?_⟩
      cases hs with
      | call rnd op res hop hco _ hns hpn _ hcall _ hpn' =>
        obtain ⟨_, hse, _⟩ := call_more H2 ha hka hop hco hns hpn hcall
        rcases hse with c | c | ⟨j, _, ho⟩
        · rw [c.storeLog]; exact is
        · subst c
          obtain ⟨u1, _⟩ := stabilize_out oa.inv hpn hcall
          rw [← abs_eq_storeLog ob.inv hpn' u1]; exact hlog
        · rw [ho.sto]
          unfold LLog.compactTo
          split
          · exact is
          · rename_i hgt
            intro h1
            have h1' : j - 1 = c0 := h1
            have h2 := c0_le_snap H2 ha hka
            rw [← oa.sidx hpn] at h2
            omega
      | snap rnd m _ _ _ _ hout _ =>
        cases hout with
        | skip hr => rw [hr]; exact is
        | handled x _ _ _ _ _ _ _ _ _ hsto _ => rw [hsto]; exact is
      | psnap rnd _ hout _ _ =>
        cases hout with
        | noop hr => rw [hr]; exact is
        | done sn L hp0 hr _ _ _ _ _ _ hents hmeta _ =>
          have hsl : storeLog stb.raft.raftLog.store =
              { snapIdx := sn.metadata.index, snapTerm := some sn.metadata.term, ents := [] } := by
            rw [hr]; exact storeLog_snap hents hmeta
          rw [hsl]
          have habsk := RaftLog.abs_some hp0
          intro h1 t h2
          exact ia (by rw [habsk]; exact h1) t (by rw [habsk]; exact h2)
      | send _ _ _ hsame _ _ => rw [hsame.1]; exact is
      | restart c rnd hboot _ =>
        obtain ⟨_, _, hsl⟩ := boot_log c _ rnd stb oa.inv.storeWF hboot
        rw [hsl]; exact is
    · rw [hoth v hvk] at hvb
      exact ih v stb hvb

/-- the term a node records for the common initial snapshot point is not above the initial term of any
node -/
theorem GHyp3a.snapt (H : GHyp3a q cfg c0 h) : ∀ s ∈ h, ∀ i st, s.node i = some st →
    st.raft.raftLog.abs.snapIdx = c0 → ∀ t0, st.raft.raftLog.abs.snapTerm = some t0 →
    ∀ s0, h[0]? = some s0 → ∀ j st0, s0.node j = some st0 → t0 ≤ st0.raft.term := by
  intro s hs i st hi hc t0 ht0 s0 h0 j st0 hj
  obtain ⟨n, hn⟩ := List.mem_iff_getElem?.1 hs
  obtain ⟨s0', sti, h0', hi0, he⟩ := (snapT H n s hn i st hi).1 hc t0 ht0
  rw [h0] at h0'; cases h0'
  exact H.snapt0 s0 h0 i sti hi0 t0 he j st0 hj

theorem Hyp3.snapt (H : Hyp3 cfg c0 h) : ∀ s ∈ h, ∀ i st, s.node i = some st →
    st.raft.raftLog.abs.snapIdx = c0 → ∀ t0, st.raft.raftLog.abs.snapTerm = some t0 →
    ∀ s0, h[0]? = some s0 → ∀ j st0, s0.node j = some st0 → t0 ≤ st0.raft.term :=
  H.toHyp3a.g.snapt

/-- **no entry is ahead of its holder's term** — for the ghost logs, the queued and transported
`MsgAppend`s, and the uncompacted version of every snapshot that travels; and the stored term is not
ahead of the term -/
structure TermLe (q : Prop) (h : List Sys) (c0 : Nat) (s : Sys) : Prop where
  log : ∀ i st, s.node i = some st → ∀ e ∈ (FL h c0 st).ents, e.term ≤ st.raft.term
  sto : ∀ i st, s.node i = some st → ∀ e ∈ (FS h c0 st).ents,
    e.term ≤ st.raft.raftLog.store.hardState.term
  que : ∀ i st, s.node i = some st → ∀ x ∈ st.raft.msgs, x.msgType = .msgAppend →
    ∀ e ∈ x.entries, e.term ≤ x.term
  net : ∀ x ∈ s.net, x.msgType = .msgAppend → ∀ e ∈ x.entries, e.term ≤ x.term
  sle : ∀ i st, s.node i = some st → st.raft.raftLog.store.hardState.term ≤ st.raft.term
  snq : q → ∀ i st, s.node i = some st → ∀ x ∈ st.raft.msgs, x.msgType = .msgSnapshot →
    ∀ F, Full (HistChain h) c0 (LLog.ofSnapshot x.snapshot) F → ∀ e ∈ F.ents, e.term ≤ x.term
  snn : ∀ x ∈ s.net, x.msgType = .msgSnapshot →
    ∀ F, Full (HistChain h) c0 (LLog.ofSnapshot x.snapshot) F → ∀ e ∈ F.ents, e.term ≤ x.term

/-- the clauses of `GHyp3a` enter only where a snapshot at the common initial point is installed
(`GHyp3a.snapt`), hence under `q` -/
theorem term_le_of (H : GHyp2w q cfg c0 h) (H3 : q → GHyp3a q cfg c0 h) :
    ∀ (n : Nat) (s : Sys), h[n]? = some s → TermLe q h c0 s := by
  have H2 := H
  refine hist_induct h _ ?_ ?_
  · intro s h0
    have hinit := hist_init H.hist s h0
    obtain ⟨hnet, sto, hboot, hwf, _, hbound⟩ := H.init s h0
    have key : ∀ i st, s.node i = some st →
        st.raft.term = (sto i).hardState.term ∧
        st.raft.raftLog.store.hardState = (sto i).hardState ∧
        (∀ e ∈ (FL h c0 st).ents, e ∈ (sto i).entries) ∧
        (∀ e ∈ (FS h c0 st).ents, e ∈ (sto i).entries) := by
      intro i st hi
      obtain ⟨c, rnd, hb⟩ := hboot i st hi
      have hbt := CV.boot_booted c _ rnd st hb
      obtain ⟨hinv, h2, h3⟩ := boot_log c _ rnd st (hwf i st hi).1 hb
      have I := (ghost_inv H2 0 s h0).node i st hi
      have hs : (storeLog st.raft.raftLog.store).snapIdx = c0 := by
        show st.raft.raftLog.store.firstIndex - 1 = c0
        rw [H.first0 s h0 i st hi]; rfl
      have hself : Full (HistChain h) c0 (storeLog st.raft.raftLog.store)
          (storeLog st.raft.raftLog.store) :=
        Full.self hs (storeLog_contig hinv.storeWF) (hist_store h0 hi)
      have e2 : ∀ k, (FS h c0 st).entryAt k = (storeLog (sto i)).entryAt k := by
        intro k; rw [← h3]; exact fl_eq (hist_agree H2) hself k
      have e1 : ∀ k, (FL h c0 st).entryAt k = (storeLog (sto i)).entryAt k := by
        intro k
        rw [← h2]
        exact fl_eq (hist_agree H2) (Full.self (by rw [h2, ← h3]; exact hs) (abs_Contig hinv)
          (hist_log h0 hi)) k
      exact ⟨hbt.term, hbt.hs, fun e he => mem_of_eqAll I.log.contig e1 he,
        fun e he => mem_of_eqAll I.sto.contig e2 he⟩
    refine ⟨fun i st hi e he => ?_, fun i st hi e he => ?_, fun i st hi x hx => ?_,
      fun x hx => ?_, fun i st hi => ?_, fun _ i st hi x hx => ?_, fun x hx => ?_⟩
    · obtain ⟨k1, _, k3, _⟩ := key i st hi
      rw [k1]; exact hbound i i st st hi hi e (k3 e he)
    · obtain ⟨_, k2, _, k4⟩ := key i st hi
      rw [k2]; exact hbound i i st st hi hi e (k4 e he)
    · rw [init_queue hinit i st hi] at hx; cases hx
    · rw [hnet] at hx; cases hx
    · obtain ⟨k1, k2, _, _⟩ := key i st hi
      rw [k1, k2]; exact Nat.le_refl _
    · rw [init_queue hinit i st hi] at hx; cases hx
    · rw [hnet] at hx; cases hx
  · intro n a b ha hb ih
    obtain ⟨s0, _, hall⟩ := H2.inv_at
    have Iinv := hall a (mem_of_get ha)
    obtain ⟨k, stk, stk', hka, hkb, hoth, hs⟩ := H2.stp ha hb
    have oa := node_ok H2 ha hka
    have ob := node_ok H2 hb hkb
    have Ia := (ghost_inv H2 n a ha).node k stk hka
    have Ib := (ghost_inv H2 (n + 1) b hb).node k stk' hkb
    -- the nodes that do not step, and the transport
    have hnode : ∀ i st, b.node i = some st → (i = k ∧ st = stk') ∨ (i ≠ k ∧ a.node i = some st) := by
      intro i st hi
      by_cases hik : i = k
      · subst hik; rw [hkb] at hi; cases hi; exact .inl ⟨rfl, rfl⟩
      · rw [hoth i hik] at hi; exact .inr ⟨hik, hi⟩
    have hnet : ∀ x ∈ b.net, x.msgType = .msgAppend → ∀ e ∈ x.entries, e.term ≤ x.term := by
      intro x hx hty
      rcases hs.net_sub x hx with c | c
      · exact ih.net x c hty
      · exact ih.que k stk hka x c hty
    have hsnn : ∀ x ∈ b.net, x.msgType = .msgSnapshot →
        ∀ F, Full (HistChain h) c0 (LLog.ofSnapshot x.snapshot) F → ∀ e ∈ F.ents, e.term ≤ x.term := by
      intro x hx hty
      rcases hs.net_sub x hx with c | c
      · exact ih.snn x c hty
      · exact ih.snq (H2.q_of_net hb hx hty) k stk hka x c hty
    suffices hk : (∀ e ∈ (FL h c0 stk').ents, e.term ≤ stk'.raft.term) ∧
        (∀ e ∈ (FS h c0 stk').ents, e.term ≤ stk'.raft.raftLog.store.hardState.term) ∧
        (∀ x ∈ stk'.raft.msgs, x.msgType = .msgAppend → ∀ e ∈ x.entries, e.term ≤ x.term) ∧
        stk'.raft.raftLog.store.hardState.term ≤ stk'.raft.term ∧
        (q → ∀ x ∈ stk'.raft.msgs, x.msgType = .msgSnapshot →
          ∀ F, Full (HistChain h) c0 (LLog.ofSnapshot x.snapshot) F →
            ∀ e ∈ F.ents, e.term ≤ x.term) by
      obtain ⟨k1, k2, k3, k4, k5⟩ := hk
      refine ⟨fun i st hi => ?_, fun i st hi => ?_, fun i st hi => ?_, hnet, fun i st hi => ?_,
        fun hq i st hi => ?_, hsnn⟩
      · rcases hnode i st hi with ⟨_, rfl⟩ | ⟨_, c⟩
        · exact k1
        · exact ih.log i st c
      · rcases hnode i st hi with ⟨_, rfl⟩ | ⟨_, c⟩
        · exact k2
        · exact ih.sto i st c
      · rcases hnode i st hi with ⟨_, rfl⟩ | ⟨_, c⟩
        · exact k3
        · exact ih.que i st c
      · rcases hnode i st hi with ⟨_, rfl⟩ | ⟨_, c⟩
        · exact k4
        · exact ih.sle i st c
      · rcases hnode i st hi with ⟨_, rfl⟩ | ⟨_, c⟩
        · exact k5 hq
        · exact ih.snq hq i st c
    -- a step that keeps the raft state up to the log
    have quiet : stk'.raft.term = stk.raft.term → stk'.raft.msgs = stk.raft.msgs →
        stk'.raft.raftLog.store.hardState.term = stk.raft.raftLog.store.hardState.term →
        (∀ k, (FL h c0 stk').entryAt k = (FL h c0 stk).entryAt k) →
        (∀ k, (FS h c0 stk').entryAt k = (FS h c0 stk).entryAt k) →
        (∀ e ∈ (FL h c0 stk').ents, e.term ≤ stk'.raft.term) ∧
        (∀ e ∈ (FS h c0 stk').ents, e.term ≤ stk'.raft.raftLog.store.hardState.term) ∧
        (∀ x ∈ stk'.raft.msgs, x.msgType = .msgAppend → ∀ e ∈ x.entries, e.term ≤ x.term) ∧
        stk'.raft.raftLog.store.hardState.term ≤ stk'.raft.term ∧
        (q → ∀ x ∈ stk'.raft.msgs, x.msgType = .msgSnapshot →
          ∀ F, Full (HistChain h) c0 (LLog.ofSnapshot x.snapshot) F →
            ∀ e ∈ F.ents, e.term ≤ x.term) := by
      intro q1 q2 q3 q4 q5
      refine ⟨fun e he => ?_, fun e he => ?_, fun x hx => ?_, ?_, fun hq x hx => ?_⟩
      · rw [q1]; exact ih.log k stk hka e (mem_of_eqAll Ib.log.contig q4 he)
      · rw [q3]; exact ih.sto k stk hka e (mem_of_eqAll Ib.sto.contig q5 he)
      · rw [q2] at hx; exact ih.que k stk hka x hx
      · rw [q1, q3]; exact ih.sle k stk hka
      · rw [q2] at hx; exact ih.snq hq k stk hka x hx
    cases hs with
    | restart c rnd hboot _ =>
      have hbt := CV.boot_booted c _ rnd stk' hboot
      obtain ⟨_, habs, hsl⟩ := boot_log c _ rnd stk' oa.inv.storeWF hboot
      refine ⟨?_, ?_, ?_, ?_, ?_⟩
      · rw [FL_restart habs, hbt.term]; exact ih.sto k stk hka
      · rw [FS_same hsl, hbt.hs]; exact ih.sto k stk hka
      · intro x hx; rw [hbt.msgs] at hx; cases hx
      · rw [hbt.hs, hbt.term]; exact Nat.le_refl _
      · intro _ x hx; rw [hbt.msgs] at hx; cases hx
    | send hp hu hq hsame _ _ =>
      refine ⟨?_, ?_, ?_, ?_, ?_⟩
      · rw [FL_same (st := stk) (by rw [hsame.1]), hsame.2.1]; exact ih.log k stk hka
      · rw [FS_same (st := stk) (by rw [hsame.1]), hsame.1]; exact ih.sto k stk hka
      · intro x hx; rw [hq] at hx; cases hx
      · rw [hsame.1, hsame.2.1]; exact ih.sle k stk hka
      · intro _ x hx; rw [hq] at hx; cases hx
    | psnap rnd hp hout hpend _ =>
      cases hout with
      | noop hr =>
        exact quiet (by rw [hr]) (by rw [hr]) (by rw [hr])
          (fun _ => by rw [FL_same (st := stk) (by rw [hr])])
          (fun _ => by rw [FS_same (st := stk) (by rw [hr])])
      | done sn L hp0 hr hinvL habs hcm hper hus hue hents hmeta hhs =>
        have hl : ∀ j, (FL h c0 stk').entryAt j = (FL h c0 stk).entryAt j :=
          fun _ => by rw [FL_same (st := stk) (by rw [hr]; exact habs)]
        have hlog : ∀ e ∈ (FL h c0 stk').ents, e.term ≤ stk.raft.term :=
          fun e he => ih.log k stk hka e (mem_of_eqAll Ib.log.contig hl he)
        have hterm : stk'.raft.term = stk.raft.term := by rw [hr]
        have hst : stk'.raft.raftLog.store.hardState.term =
            max stk.raft.raftLog.store.hardState.term sn.metadata.term := by rw [hr, hhs]
        -- the stored log is a prefix of the logical log; the snapshot's term is the term of an entry
        have hsnt : sn.metadata.term ≤ stk.raft.term := by
          have habsk := RaftLog.abs_some hp0
          by_cases hi0 : c0 < sn.metadata.index
          · obtain ⟨e, he, het⟩ := Ia.log.sT sn.metadata.term (by rw [habsk])
              (by rw [habsk]; exact hi0)
            rw [← het]
            exact ih.log k stk hka e ((FL h c0 stk).entryAt_mem he)
          · -- a snapshot at the common initial point is not installed (`snapidx`); use the bound anyway
            have hle := Ia.log.le
            rw [habsk] at hle
            have heq : sn.metadata.index = c0 := by
              have : c0 ≤ sn.metadata.index := hle
              omega
            have := (H3 (H.q_of_pend ha hka hpend)).snapt a (mem_of_get ha) k stk hka
              (by rw [habsk]; exact heq)
              sn.metadata.term (by rw [habsk])
            obtain ⟨s0', h0'⟩ : ∃ s0', h[0]? = some s0' := ⟨s0, by assumption⟩
            obtain ⟨st0, hst0⟩ := node_back_steps
              ((hist_all H.hist).2.2 0 n s0' a (Nat.zero_le _) h0' ha) k stk hka
            have h1 := this s0' h0' k st0 hst0
            obtain ⟨_, sto, hboot, _, _, _⟩ := H.init s0' h0'
            obtain ⟨c, rnd0, hb0⟩ := hboot k st0 hst0
            have hd0 : Dead s0' k st0.raft.term :=
              ⟨st0, hst0, by rw [(CV.boot_booted c _ rnd0 st0 hb0).hs,
                ← (CV.boot_booted c _ rnd0 st0 hb0).term]; exact Nat.le_refl _,
                .inr ⟨rfl, .inl (CV.boot_booted c _ rnd0 st0 hb0).state⟩⟩
            have hfl : TermFloor s0' k st0.raft.term :=
              ⟨st0, hst0, Nat.le_refl _, by rw [(CV.boot_booted c _ rnd0 st0 hb0).hs,
                ← (CV.boot_booted c _ rnd0 st0 hb0).term]; exact Nat.le_refl _⟩
            obtain ⟨st2, h2, h3, _⟩ := hfl.later H.hist h0' ha (Nat.zero_le _)
            rw [hka] at h2; cases h2
            omega
        refine ⟨fun e he => by rw [hterm]; exact hlog e he, fun e he => ?_, fun x hx => ?_, ?_,
          fun hq x hx => ?_⟩
        · -- entries of the stored ghost log are entries of the logical ghost log
          rw [hst]
          have hpnone : stk'.raft.raftLog.unstable.snapshot = none := by rw [hr]; exact hus
          have he' := Ib.sto.contig.entryAt_of_mem he
          have hidx : e.index ≤ stk'.raft.raftLog.abs.snapIdx := by
            have h1 := ((FS h c0 stk').entryAt_lt he').2
            rw [Ib.sto.last] at h1
            have hsl : storeLog stk'.raft.raftLog.store =
                { snapIdx := sn.metadata.index, snapTerm := some sn.metadata.term, ents := [] } := by
              rw [hr]; exact storeLog_snap hents hmeta
            rw [hsl] at h1
            have : stk'.raft.raftLog.abs.snapIdx = sn.metadata.index := by
              rw [hr]; show L.abs.snapIdx = _; rw [habs, RaftLog.abs_some hp0]
            rw [this]
            exact h1
          rw [← Ib.pre hpnone e.index hidx] at he'
          have := hlog e ((FL h c0 stk').entryAt_mem he')
          rw [← hp.1] at this
          omega
        · rw [show stk'.raft.msgs = stk.raft.msgs by rw [hr]] at hx; exact ih.que k stk hka x hx
        · rw [hst, hterm, hp.1]; exact Nat.max_le.2 ⟨Nat.le_refl _, hsnt⟩
        · rw [show stk'.raft.msgs = stk.raft.msgs by rw [hr]] at hx; exact ih.snq hq k stk hka x hx
    | snap rnd m hm hto hty hpn hout _ =>
      cases hout with
      | skip hr =>
        exact quiet (by rw [hr]) (by rw [hr]) (by rw [hr])
          (fun _ => by rw [FL_same (st := stk) (by rw [hr])])
          (fun _ => by rw [FS_same (st := stk) (by rw [hr])])
      | handled x hsf ht hle hid hq hack _ _ _ hsto hcase =>
        have hfs : FS h c0 stk' = FS h c0 stk := FS_same (by rw [hsto])
        have hqa : ∀ y ∈ stk'.raft.msgs, y.msgType ≠ .msgAppendResponse → y ∈ stk.raft.msgs := by
          intro y hy hne
          rw [hq] at hy
          rcases List.mem_append.1 hy with c | c
          · exact c
          · rw [List.mem_singleton.1 c] at hne; exact absurd hack.1 hne
        have hrest : (∀ e ∈ (FS h c0 stk').ents, e.term ≤ stk'.raft.raftLog.store.hardState.term) ∧
            (∀ y ∈ stk'.raft.msgs, y.msgType = .msgAppend → ∀ e ∈ y.entries, e.term ≤ y.term) ∧
            stk'.raft.raftLog.store.hardState.term ≤ stk'.raft.term ∧
            (q → ∀ y ∈ stk'.raft.msgs, y.msgType = .msgSnapshot →
              ∀ F, Full (HistChain h) c0 (LLog.ofSnapshot y.snapshot) F →
                ∀ e ∈ F.ents, e.term ≤ y.term) := by
          refine ⟨fun e he => ?_, fun y hy hyt => ?_, ?_, fun hq y hy hyt => ?_⟩
          · rw [hfs] at he; rw [hsto]; exact ih.sto k stk hka e he
          · exact ih.que k stk hka y (hqa y hy (by rw [hyt]; intro hc; cases hc)) hyt
          · rw [hsto]; exact Nat.le_trans (ih.sle k stk hka) hle
          · exact ih.snq hq k stk hka y (hqa y hy (by rw [hyt]; intro hc; cases hc)) hyt
        have keep : stk'.raft.raftLog.unstable = stk.raft.raftLog.unstable →
            ∀ e ∈ (FL h c0 stk').ents, e.term ≤ stk'.raft.term := by
          intro hu e he
          rw [FL_same (RaftLog.abs_congr hsto hu)] at he
          exact Nat.le_trans (ih.log k stk hka e he) hle
        cases hcase with
        | kept hu _ _ _ => exact ⟨keep hu, hrest⟩
        | ffwd hu _ _ _ _ _ _ => exact ⟨keep hu, hrest⟩
        | restored _ _ hu _ _ _ =>
          refine ⟨fun e he => ?_, hrest⟩
          have habs : stk'.raft.raftLog.abs = LLog.ofSnapshot m.snapshot := by
            rw [RaftLog.abs_some (sn := m.snapshot) (by rw [hu]; rfl), hu]; rfl
          have hmt := H2.facts0.snap_term_ne_zero ha hm hty
          have := ih.snn m hm hty (FL h c0 stk') (Ib.log.congr habs.symm) e he
          rcases ht with c | c
          · rw [← c]; exact this
          · exact absurd c hmt
    | call rnd op res hop hco hca hns hpn hss hcall hnet hpn' =>
      obtain ⟨g, hL, hq, _, hid⟩ := call_facts H2 ha hka hop hco hns hpn hcall
      obtain ⟨_, hse, hhs⟩ := call_more H2 ha hka hop hco hns hpn hcall
      -- the ghost log
      have hlog : ∀ e ∈ (FL h c0 stk').ents, e.term ≤ stk'.raft.term := by
        intro e he
        have hold : ∀ e ∈ (FL h c0 stk).ents, e.term ≤ stk'.raft.term :=
          fun e he => Nat.le_trans (ih.log k stk hka e he) hL.rt.le
        have he' := Ib.log.contig.entryAt_of_mem he
        cases fcall_step H2 ha hb hka hkb hnet hop hco hns hpn hcall with
        | same hl _ => exact hold e (mem_of_eqAll Ib.log.contig hl he)
        | grew es hg hl hnew =>
          by_cases hi : e.index ≤ stk.raft.raftLog.abs.lastIndex
          · rw [hl _ hi] at he'
            exact hold e ((FL h c0 stk).entryAt_mem he')
          · exact Nat.le_of_eq (hg.terms e (hnew _ e he' (by omega)))
        | acc m hm hty hto hacc _ _ _ _ ht =>
          rcases hacc.cases with c | ⟨_, _, c⟩
          · exact hold e (mem_of_eqAll Ib.log.contig c he)
          · rcases c e.index e he' with d | d
            · exact hold e ((FL h c0 stk).entryAt_mem d)
            · have := ih.net m hm hty e d
              rcases ht with t1 | t1 <;> omega
      -- the ghost stored log, and the stored term
      have hsto : (∀ e ∈ (FS h c0 stk').ents,
          e.term ≤ stk'.raft.raftLog.store.hardState.term) ∧
          stk'.raft.raftLog.store.hardState.term ≤ stk'.raft.term := by
        by_cases hst : op = .stabilize
        · subst hst
          obtain ⟨k1, k2, k3, _, k5, _⟩ := stabilize_out oa.inv hpn hcall
          refine ⟨fun e he => ?_, by rw [k2.1]; exact Nat.le_refl _⟩
          rw [k2.1, k5]
          rw [← FL_eq_FS ob.inv hpn' k1, FL_same k3] at he
          exact ih.log k stk hka e he
        · have hterm : stk'.raft.raftLog.store.hardState.term =
              stk.raft.raftLog.store.hardState.term := by
            rcases hhs with d | ⟨j, _, d⟩ | ⟨d, _⟩
            · rw [d]
            · rw [d]
            · exact absurd d hst
          rw [hterm]
          refine ⟨fun e he => ?_, Nat.le_trans (ih.sle k stk hka) hL.rt.le⟩
          rcases hse with c | c | ⟨j, _, ho⟩
          · rw [FS_same c.storeLog] at he; exact ih.sto k stk hka e he
          · exact absurd c hst
          · obtain ⟨_, l2⟩ := ho.lt oa.inv
            have hF2 := (Ia.sto.compact l2).congr ho.sto
            exact ih.sto k stk hka e (mem_of_eqAll Ib.sto.contig (fl_eq (hist_agree H2) hF2) he)
      -- the queue
      have hque : ∀ x ∈ stk'.raft.msgs, x.msgType = .msgAppend →
          ∀ e ∈ x.entries, e.term ≤ x.term := by
        intro x hx hty e he
        rcases g.qlk x hx (by rw [hty]; rfl) with c | c
        · exact ih.que k stk hka x c hty e he
        · rcases hq x hx hty with d | d
          · exact ih.que k stk hka x d hty e he
          · rw [c.term]
            exact hlog e ((FL h c0 stk').entryAt_mem (Ib.log.entry (subw_entries d e he)))
      -- the snapshots queued in this call come from the node's own storage
      have hsnq : q → ∀ x ∈ stk'.raft.msgs, x.msgType = .msgSnapshot →
          ∀ F, Full (HistChain h) c0 (LLog.ofSnapshot x.snapshot) F →
            ∀ e ∈ F.ents, e.term ≤ x.term := by
        intro hq x hx hty F hF e he
        by_cases hold : x ∈ stk.raft.msgs
        · exact ih.snq hq k stk hka x hold hty F hF e he
        · have hsn := hss hq x hx hold hty
          have hxt : x.term = stk'.raft.term := by
            rcases g.qlk x hx (by rw [hty]; rfl) with c | c
            · exact absurd c hold
            · exact c.term
          have he' := hF.contig.entryAt_of_mem he
          have hei := (F.entryAt_lt he')
          rw [hF.last, hF.snap] at hei
          have hil : (LLog.ofSnapshot x.snapshot).lastIndex = x.snapshot.metadata.index := by
            unfold LLog.ofSnapshot LLog.lastIndex; rfl
          rw [hil] at hei
          have hi0 : c0 < x.snapshot.metadata.index := by omega
          obtain ⟨es, hes, hest⟩ := snapshotCore_ok Ia oa.inv.storeWF hsn hi0
          obtain ⟨ef, hef, heft⟩ := hF.sT x.snapshot.metadata.term rfl hi0
          have heq := full_eq_below H2 hF Ia.sto hef hes (heft.trans hest.symm) e.index hei.2
          rw [heq] at he'
          have h1 := ih.sto k stk hka e ((FS h c0 stk).entryAt_mem he')
          have h2 := ih.sle k stk hka
          have h3 := hL.rt.le
          omega
      exact ⟨hlog, hsto.1, hque, hsto.2, hsnq⟩

theorem term_le (H : GHyp3a q cfg c0 h) : ∀ (n : Nat) (s : Sys), h[n]? = some s → TermLe q h c0 s :=
  term_le_of H.toGHyp2w fun _ => H

/-- without `q` a known snapshot term sits at the common initial snapshot point: a compaction
forgets the term, and no snapshot is restored -/
theorem snapTerm_c0 (H : GHyp2w q cfg c0 h) (nq : ¬ q) : ∀ (n : Nat) (s : Sys), h[n]? = some s →
    ∀ v st, s.node v = some st → ∀ t, st.raft.raftLog.abs.snapTerm = some t →
      st.raft.raftLog.abs.snapIdx = c0 := by
  refine hist_induct h _ ?_ ?_
  · intro s h0 v st hv t _
    rw [← (node_ok H h0 hv).sidx (H.pend0 s h0 v st hv)]
    show st.raft.raftLog.store.firstIndex - 1 = c0
    rw [H.first0 s h0 v st hv]; rfl
  · intro n a b ha hb ih v stb hvb t ht
    obtain ⟨sta, hva⟩ := step_node_back (H.steps n a b ha hb).step v stb hvb
    have oa := node_ok H ha hva
    have hpn := H.nopend nq n a ha v sta hva
    cases node_step H ha hb hva hvb with
    | same hl => rw [hl] at ht ⊢; exact ih v sta hva t ht
    | grew es hg => rw [hg.abs] at ht ⊢; exact ih v sta hva t ht
    | acc m _ _ _ hacc _ _ _ _ =>
      rw [hacc.snap.2] at ht; rw [hacc.snap.1]; exact ih v sta hva t ht
    | restart hl _ _ =>
      rw [hl] at ht ⊢
      rw [oa.sterm hpn] at ht; rw [oa.sidx hpn]; exact ih v sta hva t ht
    | compacted k ho =>
      rw [ho.abs] at ht ⊢
      unfold LLog.compactTo at ht ⊢
      split at ht
      · rename_i hle; rw [if_pos hle]; exact ih v sta hva t ht
      · cases ht
    | restored m hm hty _ _ _ _ _ _ _ => exact absurd (H.q_of_net ha hm hty) nq

end Snap5
end Cluster
end RaftModel
