import RaftModel.StorageSpec

/-!
Consecutively numbered entry lists and the conforming `MemStorage`, once for both users: C19
(`MemStorage.Inv`, stated with the executable `contigFrom`) and the `RaftLog` layers (`MemStorage.WF`,
stated with `ContigFrom`) speak of the same storages (`contigFrom_iff`, `MemStorage.inv_iff_wf`).
Each storage call is characterised once, by position (`take` / `drop` / `getElem?`), with the new
storage as an equation; the forms by log index of C19 are read off in `RaftProofs/Storage.lean`.
-/
namespace RaftModel

/-! ### contiguous batches -/

/-- entries of a batch are numbered consecutively from `start` -/
def ContigFrom (start : Nat) (ents : List Entry) : Prop :=
  ∀ k e, ents[k]? = some e → e.index = start + k

theorem ContigFrom.append {a b : List Entry} {s : Nat} (ha : ContigFrom s a)
    (hb : ContigFrom (s + a.length) b) : ContigFrom s (a ++ b) := by
  intro k e hk
  rcases Nat.lt_or_ge k a.length with h | h
  · rw [List.getElem?_append_left h] at hk; exact ha k e hk
  · rw [List.getElem?_append_right h] at hk
    have := hb _ _ hk; omega

theorem ContigFrom.take {a : List Entry} {s : Nat} (ha : ContigFrom s a) (n : Nat) :
    ContigFrom s (a.take n) := by
  intro k e hk
  rw [List.getElem?_take] at hk
  split at hk
  · exact ha k e hk
  · cases hk

theorem ContigFrom.drop {a : List Entry} {s : Nat} (ha : ContigFrom s a) (n : Nat) :
    ContigFrom (s + n) (a.drop n) := by
  intro k e hk
  rw [List.getElem?_drop] at hk
  have := ha _ _ hk; omega

theorem ContigFrom.head {s : Nat} {e : Entry} {t : List Entry}
    (ha : ContigFrom s (e :: t)) : e.index = s := by
  have := ha 0 e (by simp); omega

theorem ContigFrom.tail {s : Nat} {e : Entry} {t : List Entry}
    (ha : ContigFrom s (e :: t)) : ContigFrom (s + 1) t := by
  intro k x hk
  have := ha (k + 1) x (by simpa using hk); omega

theorem ContigFrom.getLast {a : List Entry} {s : Nat} (ha : ContigFrom s a) {e : Entry}
    (he : a.getLast? = some e) : e.index + 1 = s + a.length := by
  rw [List.getLast?_eq_getElem?] at he
  have hlt : a.length - 1 < a.length := by
    rcases Nat.lt_or_ge (a.length - 1) a.length with h1 | h1
    · exact h1
    · rw [List.getElem?_eq_none h1] at he; cases he
  have := ha _ _ he; omega

theorem ContigFrom.mem {a : List Entry} {s : Nat} (ha : ContigFrom s a) {e : Entry} (he : e ∈ a) :
    s ≤ e.index ∧ e.index < s + a.length := by
  obtain ⟨i, hi, rfl⟩ := List.getElem_of_mem he
  have := ha i _ (List.getElem?_eq_getElem hi)
  omega

/-- entries of a contiguous batch that all lie within the log end within the log -/
theorem ContigFrom.le_of_all_le {start n : Nat} {ents : List Entry} (hc : ContigFrom start ents)
    (h : ∀ e ∈ ents, e.index ≤ n) (hs : start ≤ n + 1) : start + ents.length ≤ n + 1 := by
  rcases Nat.eq_zero_or_pos ents.length with h0 | hpos
  · omega
  · have h1 := h _ (List.getElem_mem (Nat.sub_lt hpos Nat.one_pos))
    have h2 := hc _ _ (List.getElem?_eq_getElem (Nat.sub_lt hpos Nat.one_pos))
    omega

/-! ### the executable form -/

theorem contigFrom_cons (n : Nat) (e : Entry) (es : List Entry) :
    contigFrom n (e :: es) = true ↔ e.index = n ∧ contigFrom (n + 1) es = true := by
  simp [contigFrom]

theorem contigFrom_getElem? {n : Nat} {l : List Entry} (h : contigFrom n l = true) :
    ContigFrom n l := by
  induction l generalizing n with
  | nil => intro i e he; simp at he
  | cons a t ih =>
    rw [contigFrom_cons] at h
    intro i e he
    cases i with
    | zero => simp only [List.getElem?_cons_zero, Option.some.injEq] at he; subst he; exact h.1
    | succ j => have := ih h.2 j e (by simpa using he); omega

theorem contigFrom_iff {n : Nat} {l : List Entry} : contigFrom n l = true ↔ ContigFrom n l := by
  refine ⟨contigFrom_getElem?, fun h => ?_⟩
  induction l generalizing n with
  | nil => rfl
  | cons a t ih => exact (contigFrom_cons n a t).2 ⟨h.head, ih h.tail⟩

/-! ### the conforming storage -/

namespace MemStorage

/-- a conforming storage: entries are contiguous from `firstIndex`, the snapshot point is below -/
structure WF (s : MemStorage) : Prop where
  contig : ∀ k e, s.entries[k]? = some e → e.index = s.firstIndex + k
  snap_lt : s.snapshotMetadata.index < s.firstIndex

theorem firstIndex_of_nil {s : MemStorage} (h : s.entries = []) :
    s.firstIndex = s.snapshotMetadata.index + 1 := by simp [firstIndex, h]

theorem firstIndex_of_cons {s : MemStorage} {e : Entry} {es : List Entry} (h : s.entries = e :: es) :
    s.firstIndex = e.index := by simp [firstIndex, h]

theorem lastIndex_of_nil {s : MemStorage} (h : s.entries = []) :
    s.lastIndex = s.snapshotMetadata.index := by simp [lastIndex, h]

theorem inv_iff_wf (s : MemStorage) : s.Inv ↔ s.WF := by
  unfold Inv LogSpec.WF abs
  simp only [contigFrom_iff]
  exact ⟨fun h => ⟨h.2.1, h.1⟩, fun h => ⟨h.snap_lt, h.contig, firstIndex_of_nil⟩⟩

theorem WF.last_succ {s : MemStorage} (h : s.WF) :
    s.lastIndex + 1 = s.firstIndex + s.entries.length := by
  unfold lastIndex
  cases hl : s.entries.getLast? with
  | none =>
    have hnil : s.entries = [] := List.getLast?_eq_none_iff.1 hl
    simp [firstIndex, hnil]
  | some e => exact ContigFrom.getLast h.contig hl

theorem WF.first_pos {s : MemStorage} (h : s.WF) : 1 ≤ s.firstIndex := by
  have := h.snap_lt; omega

theorem head?_of_lt {s : MemStorage} {k : Nat} (hk : k < s.entries.length) :
    ∃ e0, s.entries.head? = some e0 ∧ e0.index = s.firstIndex := by
  cases hh : s.entries with
  | nil => simp [hh] at hk
  | cons a t => exact ⟨a, rfl, by simp [firstIndex, hh]⟩

/-- `first_index`, `last_index` and conformance depend on the entries and the snapshot point only -/
theorem congr {s s' : MemStorage} (he : s'.entries = s.entries)
    (hm : s'.snapshotMetadata = s.snapshotMetadata) :
    s'.firstIndex = s.firstIndex ∧ s'.lastIndex = s.lastIndex ∧ (s.WF → s'.WF) := by
  have hf : s'.firstIndex = s.firstIndex := by unfold MemStorage.firstIndex; rw [he, hm]
  have hl : s'.lastIndex = s.lastIndex := by unfold MemStorage.lastIndex; rw [he, hm]
  refine ⟨hf, hl, fun h => ⟨?_, ?_⟩⟩
  · rw [he, hf]; exact h.contig
  · rw [hm, hf]; exact h.snap_lt

/-- the stored entry at a position inside the log -/
theorem WF.getElem? {s : MemStorage} (h : s.WF) {i : Nat} (hi : i < s.entries.length) :
    ∃ e, s.entries[i]? = some e ∧ e.index = s.firstIndex + i :=
  ⟨s.entries[i], List.getElem?_eq_getElem hi, h.contig i _ (List.getElem?_eq_getElem hi)⟩

/-! #### `term` -/

/-- **the four answers of `Storage::term`** on a conforming storage (it never panics) -/
theorem WF.term_elim {s : MemStorage} (h : s.WF) (idx : Nat) (P : Res Nat → Prop)
    (p1 : idx = s.snapshotMetadata.index → P (.ok s.snapshotMetadata.term))
    (p2 : idx ≠ s.snapshotMetadata.index → idx < s.firstIndex → P (.err .compacted))
    (p3 : s.lastIndex < idx → P (.err .unavailable))
    (p4 : ∀ e, s.firstIndex ≤ idx → idx ≤ s.lastIndex →
      s.entries[idx - s.firstIndex]? = some e → P (.ok e.term)) : P (s.term idx) := by
  have hl := h.last_succ
  have hs := h.snap_lt
  unfold term
  by_cases h1 : idx = s.snapshotMetadata.index
  · rw [if_pos h1]; exact p1 h1
  rw [if_neg h1]
  by_cases h2 : idx < s.firstIndex
  · rw [if_pos h2]; exact p2 h1 h2
  rw [if_neg h2]
  by_cases h3 : s.lastIndex < idx
  · rw [if_pos h3]; exact p3 h3
  rw [if_neg h3]
  have hlt : idx - s.firstIndex < s.entries.length := by omega
  rw [List.getElem?_eq_getElem hlt]
  exact p4 _ (by omega) (by omega) (List.getElem?_eq_getElem hlt)

/-- `term` inside the stored range -/
theorem WF.term_in {s : MemStorage} (h : s.WF) {i : Nat} (h1 : s.firstIndex ≤ i)
    (h2 : i ≤ s.lastIndex) :
    ∃ e, s.entries[i - s.firstIndex]? = some e ∧ s.term i = .ok e.term := by
  have := h.snap_lt
  exact h.term_elim i (fun r => ∃ e, s.entries[i - s.firstIndex]? = some e ∧ r = .ok e.term)
    (by omega) (by omega) (by omega) (fun e _ _ he => ⟨e, he, rfl⟩)

/-- `term` at the position just below the first entry -/
theorem WF.term_dummy {s : MemStorage} (h : s.WF) :
    s.term (s.firstIndex - 1) =
      if s.firstIndex - 1 = s.snapshotMetadata.index then .ok s.snapshotMetadata.term
      else .err .compacted := by
  have hp := h.first_pos
  exact h.term_elim _ (fun r => r = if s.firstIndex - 1 = s.snapshotMetadata.index
      then .ok s.snapshotMetadata.term else .err .compacted)
    (fun hc => (if_pos hc).symm) (fun hc _ => (if_neg hc).symm)
    (fun hc => by have := h.last_succ; omega) (fun _ hc => by omega)

theorem WF.term_ok_le_last {s : MemStorage} (h : s.WF) {i t : Nat}
    (ht : s.term i = .ok t) : i ≤ s.lastIndex := by
  have := h.snap_lt; have := h.last_succ
  revert ht
  exact h.term_elim i (fun r => r = .ok t → i ≤ s.lastIndex) (by omega)
    (fun _ _ hc => by cases hc) (fun _ hc => by cases hc) (fun _ _ h2 _ _ => h2)

theorem WF.term_ne_panic {s : MemStorage} (h : s.WF) (i : Nat) (site : String) :
    s.term i ≠ .panic site := by
  refine h.term_elim i (fun r => r ≠ .panic site) ?_ ?_ ?_ ?_ <;> intros <;> intro hc <;> cases hc

/-! #### `entries`, `append`, `compact`, `apply_snapshot`, `commit_to` -/

/-- `entries` inside the stored range, storage available -/
theorem WF.entriesQ_in {s : MemStorage} (h : s.WF) {low high : Nat} (mx : Option Nat) (ca : Bool)
    (h1 : s.firstIndex ≤ low) (h2 : low < high) (h3 : high ≤ s.lastIndex + 1)
    (hav : (s.triggerLogUnavailable && ca) = false) :
    s.entriesQ low high mx ca =
      .ok (limitSize ((s.entries.drop (low - s.firstIndex)).take (high - low)) mx) := by
  have hl := h.last_succ
  have hlh : low ≤ high := Nat.le_of_lt h2
  have hhf : high - s.firstIndex ≤ s.entries.length :=
    Nat.sub_le_of_le_add (Nat.add_comm _ _ ▸ hl ▸ h3)
  obtain ⟨e0, he0, hi0⟩ := head?_of_lt (s := s) (k := 0)
    (Nat.lt_of_lt_of_le (Nat.sub_pos_of_lt (Nat.lt_of_le_of_lt h1 h2)) hhf)
  unfold entriesQ
  rw [if_neg (Nat.not_lt.mpr h1), if_neg (Nat.not_lt.mpr h3), hav]
  simp only [Bool.false_eq_true, if_false, he0]
  rw [hi0, if_neg (Nat.not_lt.mpr h1), if_neg (Nat.not_lt.mpr (Nat.le_trans h1 hlh)),
    if_neg (Nat.not_lt.mpr (Nat.sub_le_sub_right hlh _)), if_neg (Nat.not_lt.mpr hhf)]

/-- **`append`** of a contiguous batch starting at `first ≤ off ≤ last + 1`: the entries are cut at
the position of `off` and the batch is put behind; nothing else changes -/
theorem WF.append_ok {s : MemStorage} (hw : s.WF) (off : Nat) (u0 : Entry)
    (us : List Entry) (hc : ContigFrom off (u0 :: us)) (h1 : s.firstIndex ≤ off)
    (h2 : off ≤ s.lastIndex + 1) :
    ∃ s', s.append (u0 :: us) = .ok s' ∧
      s' = { s with entries := s.entries.take (off - s.firstIndex) ++ u0 :: us } ∧ s'.WF ∧
      s'.firstIndex = s.firstIndex ∧ s'.lastIndex = off + us.length := by
  have hsl := hw.last_succ
  have hu0 : u0.index = off := hc.head
  have hd : off - s.firstIndex ≤ s.entries.length :=
    Nat.sub_le_of_le_add (by rw [Nat.add_comm, ← hsl]; exact h2)
  have hfirst : ({ s with entries := s.entries.take (off - s.firstIndex) ++ u0 :: us } :
      MemStorage).firstIndex = s.firstIndex := by
    by_cases hk : off = s.firstIndex
    · rw [hk, Nat.sub_self]
      exact hu0.trans hk
    · have hpos : off - s.firstIndex ≠ 0 :=
        Nat.sub_ne_zero_of_lt (Nat.lt_of_le_of_ne h1 (Ne.symm hk))
      cases hE : s.entries with
      | nil =>
        rw [hE] at hd
        exact absurd (Nat.le_zero.1 hd) hpos
      | cons a t =>
        obtain ⟨n, hn⟩ := Nat.exists_eq_succ_of_ne_zero hpos
        rw [hn]
        exact (firstIndex_of_cons hE).symm
  have hwf : ({ s with entries := s.entries.take (off - s.firstIndex) ++ u0 :: us } :
      MemStorage).WF := by
    refine ⟨?_, by rw [hfirst]; exact hw.snap_lt⟩
    rw [hfirst]
    show ContigFrom s.firstIndex (s.entries.take (off - s.firstIndex) ++ u0 :: us)
    apply ContigFrom.append (ContigFrom.take hw.contig _)
    rw [List.length_take, Nat.min_eq_left hd, Nat.add_sub_cancel' h1]
    exact hc
  refine ⟨_, ?_, rfl, hwf, hfirst, ?_⟩
  · unfold append
    simp only []
    rw [hu0, if_neg (Nat.not_lt.2 h1), if_neg (Nat.not_lt.2 h2), if_neg (Nat.not_lt.2 hd)]
  · have := hwf.last_succ
    rw [hfirst] at this
    simp only [List.length_append, List.length_take, List.length_cons] at this
    rw [Nat.min_eq_left hd, ← Nat.add_assoc, Nat.add_sub_cancel' h1] at this
    exact Nat.succ.inj this

/-- **`compact(ci)`** for `ci ≤ last_index` (or a no-op `ci ≤ first_index`): the entries below `ci`
are dropped; nothing else changes -/
theorem WF.compact_ok {s : MemStorage} (hw : s.WF) (ci : Nat)
    (hci : ci ≤ s.lastIndex ∨ ci ≤ s.firstIndex) :
    ∃ s', s.compact ci = .ok s' ∧ s' = { s with entries := s.entries.drop (ci - s.firstIndex) } ∧
      s'.WF ∧ s'.firstIndex = max s.firstIndex ci ∧ s'.lastIndex = s.lastIndex := by
  have hsl := hw.last_succ
  by_cases hle : ci ≤ s.firstIndex
  · refine ⟨s, ?_, ?_, hw, by omega, rfl⟩
    · unfold compact; rw [if_pos hle]
    · rw [Nat.sub_eq_zero_of_le hle]; rfl
  · have hFc : s.firstIndex ≤ ci := Nat.le_of_lt (Nat.lt_of_not_le hle)
    have hlast : ci ≤ s.lastIndex := by omega
    have hk : ci - s.firstIndex < s.entries.length := by omega
    obtain ⟨e0, he0, hi0⟩ := head?_of_lt hk
    have hget : s.entries[ci - s.firstIndex]? = some s.entries[ci - s.firstIndex] :=
      List.getElem?_eq_some_iff.2 ⟨hk, rfl⟩
    have hidx := hw.contig _ _ hget
    have hfirst : ({ s with entries := s.entries.drop (ci - s.firstIndex) } :
        MemStorage).firstIndex = ci := by
      show (match (s.entries.drop (ci - s.firstIndex)).head? with
        | some e => e.index
        | none => s.snapshotMetadata.index + 1) = ci
      rw [List.head?_drop, hget]
      simp only []
      omega
    have hwf : ({ s with entries := s.entries.drop (ci - s.firstIndex) } : MemStorage).WF := by
      refine ⟨?_, by rw [hfirst]; have := hw.snap_lt; show s.snapshotMetadata.index < ci; omega⟩
      rw [hfirst]
      have := ContigFrom.drop (s := s.firstIndex) hw.contig (ci - s.firstIndex)
      rw [Nat.add_sub_cancel' hFc] at this
      exact this
    refine ⟨_, ?_, rfl, hwf, by rw [hfirst]; omega, ?_⟩
    · unfold compact
      rw [if_neg hle, if_neg (by omega), he0]
      simp only []
      rw [if_neg (by omega), if_neg (by omega), hi0]
    · have := hwf.last_succ
      rw [hfirst] at this
      simp only [List.length_drop] at this
      rw [← Nat.add_sub_assoc (Nat.le_of_lt hk), Nat.add_sub_sub_cancel hFc,
        Nat.add_comm s.entries.length s.firstIndex, ← hsl] at this
      exact Nat.succ.inj this

/-- what `append` and `compact` touch: the entries -/
theorem append_entries_only {s s' : MemStorage} {ents : List Entry} (h : s.append ents = .ok s') :
    s' = { s with entries := s'.entries } := by
  unfold append at h
  cases ents with
  | nil => cases h; rfl
  | cons e0 es =>
    simp only [] at h
    by_cases h1 : e0.index < s.firstIndex
    · rw [if_pos h1] at h; cases h
    rw [if_neg h1] at h
    by_cases h2 : s.lastIndex + 1 < e0.index
    · rw [if_pos h2] at h; cases h
    rw [if_neg h2] at h
    by_cases h3 : s.entries.length < e0.index - s.firstIndex
    · rw [if_pos h3] at h; cases h
    · rw [if_neg h3] at h; cases h; rfl

theorem compact_entries_only {s s' : MemStorage} {k : Nat} (h : s.compact k = .ok s') :
    s' = { s with entries := s'.entries } := by
  unfold compact at h
  by_cases h1 : k ≤ s.firstIndex
  · rw [if_pos h1] at h; cases h; rfl
  rw [if_neg h1] at h
  by_cases h2 : s.lastIndex + 1 < k
  · rw [if_pos h2] at h; cases h
  rw [if_neg h2] at h
  cases hh : s.entries.head? with
  | none => simp only [hh] at h; cases h; rfl
  | some e0 =>
    simp only [hh] at h
    by_cases h3 : k < e0.index
    · rw [if_pos h3] at h; cases h
    rw [if_neg h3] at h
    by_cases h4 : s.entries.length < k - e0.index
    · rw [if_pos h4] at h; cases h
    · rw [if_neg h4] at h; cases h; rfl

/-- **`apply_snapshot`** of a snapshot at or above `first_index`: an empty conforming storage right
after the snapshot point -/
theorem applySnapshot_ok (s : MemStorage) (sn : Snapshot) (h : s.firstIndex ≤ sn.metadata.index) :
    ∃ s', s.applySnapshot sn = .ok s' ∧
      s' = { s with
        snapshotMetadata := sn.metadata,
        hardState := { s.hardState with term := max s.hardState.term sn.metadata.term,
                                        commit := sn.metadata.index },
        entries := [], confState := sn.metadata.confState } ∧
      s'.WF ∧ s'.firstIndex = sn.metadata.index + 1 ∧ s'.lastIndex = sn.metadata.index := by
  refine ⟨_, by simp only [applySnapshot, if_neg (Nat.not_lt.2 h)], rfl, ⟨?_, ?_⟩, rfl, rfl⟩
  · intro k e hk; simp at hk
  · exact Nat.lt_succ_self _

theorem applySnapshot_inv {s s' : MemStorage} {sn : Snapshot} (h : s.applySnapshot sn = .ok s') :
    s.firstIndex ≤ sn.metadata.index := by
  unfold applySnapshot at h
  simp only [] at h
  by_cases hlt : sn.metadata.index < s.firstIndex
  · rw [if_pos hlt] at h; cases h
  · exact Nat.le_of_not_lt hlt

/-- **`commit_to`** an index inside the stored range: that index and the term of its entry go into
the hard state -/
theorem WF.commitTo_ok {s : MemStorage} (h : s.WF) {i : Nat} (h1 : s.firstIndex ≤ i)
    (h2 : i ≤ s.lastIndex) :
    ∃ e, s.entries[i - s.firstIndex]? = some e ∧ e.index = i ∧
      s.commitTo i = .ok { s with hardState := { s.hardState with commit := i, term := e.term } } := by
  have hl := h.last_succ
  have hd : i - s.firstIndex < s.entries.length := by omega
  obtain ⟨e0, he0, hi0⟩ := head?_of_lt hd
  obtain ⟨e, hge, hie⟩ := h.getElem? hd
  have hne : s.entries.isEmpty = false := by
    cases hs : s.entries with
    | nil => rw [hs] at hd; cases hd
    | cons a t => rfl
  refine ⟨e, hge, by omega, ?_⟩
  simp only [commitTo, hasEntryAt, hne, he0, hi0, decide_eq_true h1, decide_eq_true h2,
    Bool.not_false, Bool.and_self, Bool.not_true, Bool.false_eq_true, if_false]
  rw [if_neg (Nat.not_lt.mpr h1), hge]

end MemStorage
end RaftModel
