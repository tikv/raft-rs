import RaftProofs.RaftNodeC16
import RaftProps.C20b
import RaftProps.C16

/-!
Helper lemmas for C05 on the node model (`RaftProps/C05b.lean`): which functions of `src/raft.rs`
leave the *logical log* `raftLog.abs` alone (`LS`, an anchored relation in the style of
`RaftNodeC16.Frame`), and the vocabulary for what changes it: `Appended` (`append_entry`: `appendEntry_cases`),
`Won` (`become_leader`), `Restored` (`restore`).  The case analysis of `Raft::step` in this vocabulary (`step_log`,
`stepLeader_log`, `becomeLeader_won`, `poll_grew`) is read off `step_x` in `RaftProofs/ClusterBatchC.lean`.
-/
namespace RaftModel

/-- `l'` represents the same logical log as `l`: same entries / snapshot point, same last index,
the representation invariant is kept, the commit index did not move backwards.  Cursors
(`committed`, `applied`, `persisted`), the apply limit and the storage's test triggers may differ. -/
structure LogSame (l l' : RaftLog) : Prop where
  abs : l'.abs = l.abs
  last : l'.lastIndex = l.lastIndex
  inv : l.Inv → l'.Inv
  commit : l.committed ≤ l'.committed

theorem LogSame.rfl {l : RaftLog} : LogSame l l := ⟨Eq.refl _, Eq.refl _, id, Nat.le_refl _⟩

theorem LogSame.trans {a b c : RaftLog} (h1 : LogSame a b) (h2 : LogSame b c) : LogSame a c :=
  ⟨h2.abs.trans h1.abs, h2.last.trans h1.last, fun h => h2.inv (h1.inv h),
   Nat.le_trans h1.commit h2.commit⟩

theorem c05_commitTo_same {l l' : RaftLog} {to : Nat} (h : l.commitTo to = .ok l') :
    LogSame l l' := by
  obtain ⟨he, hle⟩ := RaftProps.C20.commitTo_ok_abs l l' to h
  refine ⟨by rw [he]; rfl, by rw [he]; rfl, fun hi => (RaftProps.C20.commitTo_ok_inv hi to h).1, hle⟩

theorem c05_maybeCommit_same {l l' : RaftLog} {mi t : Nat} {b : Bool}
    (h : l.maybeCommit mi t = .ok (l', b)) : LogSame l l' := by
  unfold RaftLog.maybeCommit at h
  split at h
  · split at h
    · split at h
      · split at h
        · rename_i l2 hct
          cases h
          exact c05_commitTo_same hct
        · cases h
        · cases h
      · cases h; exact LogSame.rfl
    · cases h; exact LogSame.rfl
    · cases h
  · cases h; exact LogSame.rfl

theorem c05_limit_same (l : RaftLog) (n : Nat) :
    LogSame l { l with maxApplyUnpersistedLogLimit := n } :=
  ⟨rfl, rfl, fun h => RaftProps.C20.Inv_limit h n, Nat.le_refl _⟩

theorem c05_snapshot_same (l : RaftLog) (ri : Nat) : LogSame l (l.snapshot ri).1 := by
  have hst := (RaftProps.C20.storeSnapshot_spec l.store ri).1
  have key : LogSame l ({ l with store := (l.store.snapshot ri).1 } : RaftLog) := by
    rcases hst with h1 | h1
    · rw [h1]; exact LogSame.rfl
    · rw [h1]
      exact ⟨rfl, rfl, fun h => RaftProps.C20.Inv_store_trigger h false, Nat.le_refl _⟩
  unfold RaftLog.snapshot
  split
  · split
    · exact LogSame.rfl
    · exact key
  · exact key

namespace Raft

/-- anchored: the node `r` holds the same logical log as the node `a` -/
def LS (a r : Raft) : Prop := LogSame a.raftLog r.raftLog

theorem LS.rfl {r : Raft} : LS r r := LogSame.rfl

theorem LS.trans {a b c : Raft} (h1 : LS a b) (h2 : LS b c) : LS a c := LogSame.trans h1 h2

theorem LS.abs {a r : Raft} (h : LS a r) : r.raftLog.abs = a.raftLog.abs := LogSame.abs h
theorem LS.last {a r : Raft} (h : LS a r) : r.raftLog.lastIndex = a.raftLog.lastIndex := LogSame.last h
theorem LS.inv {a r : Raft} (h : LS a r) (hi : a.raftLog.Inv) : r.raftLog.Inv := LogSame.inv h hi
theorem LS.commit {a r : Raft} (h : LS a r) : a.raftLog.committed ≤ r.raftLog.committed :=
  LogSame.commit h

/-- any structure update that keeps `raftLog` keeps `LS` -/
theorem LS.mk' {a r : Raft} {x1 x2 x3 : Nat} {x4 : List ReadState} {x6 x7 x8 : Nat}
    {x9 : StateRole} {x10 : Bool} {x11 : Nat}
    {x12 : Option Nat} {x13 : Nat} {x14 : ReadOnly} {x15 x16 : Nat} {x17 x18 x19 x20 x21 : Bool}
    {x22 x23 x24 x25 x26 : Nat} {x27 : Int} {x28 : UncommittedState} {x29 : Nat}
    {x30 : ProgressTracker} {x31 : List Message} {x32 : Option Nat} (h0 : LS a r) :
    LS a { term := x1, vote := x2, id := x3, readStates := x4, raftLog := r.raftLog,
           maxInflight := x6, maxMsgSize := x7, pendingRequestSnapshot := x8, state := x9,
           promotable := x10, leaderId := x11, leadTransferee := x12,
           pendingConfIndex := x13, readOnly := x14, electionElapsed := x15,
           heartbeatElapsed := x16, checkQuorum := x17, preVote := x18,
           skipBcastCommit := x19, batchAppend := x20, disableProposalForwarding := x21,
           heartbeatTimeout := x22, electionTimeout := x23, randomizedElectionTimeout := x24,
           minElectionTimeout := x25, maxElectionTimeout := x26, priority := x27,
           uncommittedState := x28, maxCommittedSizePerReady := x29, prs := x30, msgs := x31,
           nextRand := x32 } := h0

/-- a structure update of `raftLog` by a `LogSame` log -/
theorem LS.log {a r : Raft} {l : RaftLog} (hl : LogSame r.raftLog l) (h0 : LS a r) :
    LS a { r with raftLog := l } := LogSame.trans h0 hl

theorem send_ls {a r r' : Raft} {m : Message} (h : r.send m = .ok r') (h0 : LS a r) :
    LS a r' := by
  rw [send_eq r r' m h]; exact h0

theorem prepareSendSnapshot_ls {a r r' : Raft} {m m' : Message} {pr pr' : Progress} {to : Nat}
    {b : Bool} (h : r.prepareSendSnapshot m pr to = .ok (r', m', pr', b)) (h0 : LS a r) :
    LS a r' :=
  prepareSendSnapshot_parts h h0 (LS.log (c05_snapshot_same _ _) h0)

theorem tryBatching_ls {a r r' : Raft} {to : Nat} {pr pr' : Progress} {ents : List Entry} {b : Bool}
    (h : r.tryBatching to pr ents = .ok (r', pr', b)) (h0 : LS a r) : LS a r' :=
  tryBatching_parts h fun _ => LS.mk' h0

theorem maybeSendAppend_ls {a r r' : Raft} {to : Nat} {pr pr' : Progress} {ae b : Bool}
    (h : r.maybeSendAppend to pr ae = .ok (r', pr', b)) (h0 : LS a r) : LS a r' :=
  maybeSendAppend_parts h h0 (prepareSendSnapshot_ls · h0) (tryBatching_ls · h0) (fun hs _ => send_ls hs)

theorem sendAppendPr_ls {a r r' : Raft} {to : Nat} {pr pr' : Progress}
    (h : r.sendAppendPr to pr = .ok (r', pr')) (h0 : LS a r) : LS a r' :=
  sendAppendPr_parts h (maybeSendAppend_ls · h0)

theorem sendHeartbeat_ls {a r r' : Raft} {to : Nat} {pr : Progress} {ctx : Option Bytes}
    (h : r.sendHeartbeat to pr ctx = .ok r') (h0 : LS a r) : LS a r' := by
  unfold Raft.sendHeartbeat at h
  exact send_ls h h0

theorem sendAppend_ls {a r r' : Raft} {to : Nat}
    (h : r.sendAppend to = .ok r') (h0 : LS a r) : LS a r' :=
  sendAppend_parts h (sendAppendPr_ls · h0) fun _ => LS.mk'

theorem sendAppendAggressively_ls {a r r' : Raft} {to : Nat}
    (h : r.sendAppendAggressively to = .ok r') (h0 : LS a r) : LS a r' :=
  sendAppendAggressively_parts h (sendAppendAggressivelyPr_parts maybeSendAppend_ls _ _ _ · h0)
    fun _ => LS.mk'

theorem sendTimeoutNow_ls {a r r' : Raft} {to : Nat}
    (h : r.sendTimeoutNow to = .ok r') (h0 : LS a r) : LS a r' := by
  unfold Raft.sendTimeoutNow at h
  exact send_ls h h0

theorem bcastAppend_ls {a r r' : Raft} (h : r.bcastAppend = .ok r') (h0 : LS a r) :
    LS a r' :=
  bcastAppend_parts h h0 sendAppendPr_ls fun _ _ => LS.mk'

theorem bcastHeartbeatWithCtx_ls {a r r' : Raft} {ctx : Option Bytes}
    (h : r.bcastHeartbeatWithCtx ctx = .ok r') (h0 : LS a r) : LS a r' :=
  bcastHeartbeatWithCtx_parts h h0 sendHeartbeat_ls fun _ _ => LS.mk'

theorem bcastHeartbeat_ls {a r r' : Raft} (h : r.bcastHeartbeat = .ok r') (h0 : LS a r) :
    LS a r' := by
  unfold Raft.bcastHeartbeat at h
  exact bcastHeartbeatWithCtx_ls h h0

theorem maybeCommit_ls {a r r' : Raft} {b : Bool} (h : r.maybeCommit = .ok (r', b))
    (h0 : LS a r) : LS a r' :=
  maybeCommit_parts h h0 (fun hm => LS.log (c05_maybeCommit_same hm) h0) fun _ => LS.mk'

theorem maybeIncreaseUncommittedSize_ls {a r r' : Raft} {es : List Entry} {b : Bool}
    (h : r.maybeIncreaseUncommittedSize es = (r', b)) (h0 : LS a r) : LS a r' := by
  unfold Raft.maybeIncreaseUncommittedSize at h
  split at h
  cases h
  exact h0

theorem handleReadyReadIndex_ls {a r r' : Raft} {req : Message} {i : Nat} {om : Option Message}
    (h : r.handleReadyReadIndex req i = .ok (r', om)) (h0 : LS a r) : LS a r' := by
  unfold Raft.handleReadyReadIndex at h
  split at h
  · split at h
    · cases h
    · cases h; exact LS.mk' h0
  · cases h; exact h0

theorem respondReadStates_ls {a r r' : Raft} {rss : List ReadIndexStatus}
    (h : r.respondReadStates rss = .ok r') (h0 : LS a r) : LS a r' :=
  respondReadStates_parts h h0 handleReadyReadIndex_ls fun h _ => send_ls h

/-! ### leader side -/

theorem filterProposalEntry_ls {a r r' : Raft} {i : Nat} {e e' : Entry}
    (h : r.filterProposalEntry i e = some (r', e')) (h0 : LS a r) : LS a r' :=
  filterProposalEntry_parts h h0 fun _ => LS.mk' h0

theorem filterProposal_ls {a : Raft} : ∀ (es : List Entry) (r r' : Raft) (i : Nat)
    (oes : Option (List Entry)), r.filterProposal i es = (r', oes) → LS a r → LS a r' :=
  filterProposal_parts filterProposalEntry_ls

/-! ### follower side, role changes, votes, term preamble -/

theorem sendRequestSnapshot_ls {a r r' : Raft} (h : r.sendRequestSnapshot = .ok r')
    (h0 : LS a r) : LS a r' :=
  sendRequestSnapshot_parts h h0 fun h _ => send_ls h

theorem handleHeartbeat_ls {a r r' : Raft} {m : Message}
    (h : r.handleHeartbeat m = .ok r') (h0 : LS a r) : LS a r' :=
  handleHeartbeat_parts h (fun hc => LS.log (c05_commitTo_same hc) h0) sendRequestSnapshot_ls
    fun h _ => send_ls h

theorem reset_raftLog (r : Raft) (t : Nat) : (r.reset t).raftLog = r.raftLog := by
  rw [reset_eq]

theorem becomeFollower_ls {a r : Raft} (t l : Nat) (h0 : LS a r) : LS a (r.becomeFollower t l) := by
  unfold LS
  rw [RaftProps.C20.becomeFollower_raftLog]
  exact LogSame.trans h0 (c05_limit_same _ 0)

theorem sendVoteRequests_ls {a r r' : Raft} {ct : CampaignType} {vm : MsgType} {t : Nat}
    (h : r.sendVoteRequests ct vm t = .ok r') (h0 : LS a r) : LS a r' :=
  sendVoteRequests_parts h h0 fun h _ => send_ls h

theorem maybeCommitByVote_ls {a r r' : Raft} {m : Message} (h : r.maybeCommitByVote m = .ok r')
    (h0 : LS a r) : LS a r' :=
  maybeCommitByVote_parts h h0 (fun hm => LS.log (c05_maybeCommit_same hm) h0) (becomeFollower_ls _ _)

theorem stepVote_ls {a r r' : Raft} {m : Message} (h : r.stepVote m = .ok r') (h0 : LS a r) :
    LS a r' :=
  stepVote_parts h (fun hs _ => send_ls hs h0) LS.mk' maybeCommitByVote_ls

theorem stepTerm_ls {a r r' : Raft} {m : Message} {b : Bool} (h : r.stepTerm m = .ok (r', b))
    (h0 : LS a r) : LS a r' :=
  stepTerm_parts h h0 (fun _ _ => becomeFollower_ls _ _) (fun h _ => send_ls h) fun h _ => send_ls h

/-! ### `append_entry` and its two callers (`step_leader`'s `MsgPropose`, `become_leader`) -/

/-- what `append_entry` does to the proposed entries before appending them (raft.rs:1047-1051):
term := the leader's term, index := consecutive from `i` -/
def stampFrom (t : Nat) : Nat → List Entry → List Entry
  | _, [] => []
  | i, e :: es => { e with term := t, index := i } :: stampFrom t (i + 1) es

theorem stampFrom_length (t : Nat) : ∀ (es : List Entry) (i : Nat), (stampFrom t i es).length = es.length := by
  intro es
  induction es with
  | nil => intro i; rfl
  | cons e es ih => intro i; simp [stampFrom, ih]

theorem stampFrom_getElem? (t : Nat) : ∀ (es : List Entry) (i k : Nat),
    (stampFrom t i es)[k]? = (es[k]?).map (fun e => { e with term := t, index := i + k }) := by
  intro es
  induction es with
  | nil => intro i k; simp [stampFrom]
  | cons e es ih =>
    intro i k
    cases k with
    | zero => simp [stampFrom]
    | succ k =>
      simp only [stampFrom, List.getElem?_cons_succ, ih]
      congr 1
      funext x
      congr 1
      omega

theorem stampFrom_contig (t : Nat) (es : List Entry) (i : Nat) : ContigFrom i (stampFrom t i es) := by
  intro k e hk
  rw [stampFrom_getElem?] at hk
  cases h : es[k]? with
  | none => rw [h] at hk; cases hk
  | some x => rw [h] at hk; cases hk; rfl

theorem stampFrom_term (t : Nat) (es : List Entry) (i : Nat) : ∀ e ∈ stampFrom t i es, e.term = t := by
  intro e he
  obtain ⟨k, hk, rfl⟩ := List.getElem_of_mem he
  have := stampFrom_getElem? t es i k
  rw [List.getElem?_eq_getElem hk] at this
  cases h : es[k]? with
  | none => rw [h] at this; cases this
  | some x => rw [h] at this; simp only [Option.map_some, Option.some.injEq] at this; rw [this]

/-- the model's `zip (range n)` formulation is `stampFrom` -/
theorem stamp_eq (t li : Nat) (es : List Entry) :
    ((List.range es.length).zip es |>.map (fun (p : Nat × Entry) =>
      { p.2 with term := t, index := li + 1 + p.1 })) = stampFrom t (li + 1) es := by
  have key : ∀ (es : List Entry) (s : Nat),
      ((List.range' s es.length).zip es |>.map (fun (p : Nat × Entry) =>
        { p.2 with term := t, index := li + 1 + p.1 })) = stampFrom t (li + 1 + s) es := by
    intro es
    induction es with
    | nil => intro s; rfl
    | cons e es ih =>
      intro s
      simp only [List.length_cons, List.range'_succ, List.zip_cons_cons, List.map_cons, stampFrom]
      rw [ih (s + 1)]
      rfl
  rw [List.range_eq_range']
  exact key es 0

/-- one `append_entry` of the entries `es` happened between `a` and `r`, and nothing else touched
the logical log: it grew by `es` at its end -/
structure Appended (a r : Raft) (es : List Entry) : Prop where
  ne : es ≠ []
  abs : r.raftLog.abs = { a.raftLog.abs with ents := a.raftLog.abs.ents ++ es }
  contig : ContigFrom (a.raftLog.lastIndex + 1) es
  terms : ∀ e ∈ es, e.term = r.term
  last : r.raftLog.lastIndex = a.raftLog.lastIndex + es.length
  inv : r.raftLog.Inv
  commit : a.raftLog.committed ≤ r.raftLog.committed
  leader : r.state = .leader

/-- re-anchor on the left -/
theorem Appended.anchor {a r r' : Raft} {es : List Entry} (h0 : LS a r)
    (h : Appended r r' es) : Appended a r' es :=
  ⟨h.ne, by rw [h.abs, h0.abs], by rw [← h0.last]; exact h.contig, h.terms,
   by rw [h.last, h0.last], h.inv, Nat.le_trans h0.commit h.commit, h.leader⟩

/-- extend on the right by a step that keeps the logical log, the term and the role -/
theorem Appended.right {a r r' : Raft} {es : List Entry} (h : Appended a r es)
    (h1 : LS r r') (h2 : Frame r r') : Appended a r' es :=
  ⟨h.ne, by rw [h1.abs, h.abs], h.contig, by rw [h2.term]; exact h.terms,
   by rw [h1.last, h.last], h1.inv h.inv, Nat.le_trans h.commit h1.commit,
   by rw [h2.state]; exact h.leader⟩

/-- **`append_entry`** on a leader whose log satisfies the invariant: refused by the
uncommitted-size limit (nothing changes), or the entries — stamped with the leader's term and
consecutive indexes after `last_index` — are appended to the logical log -/
theorem appendEntry_cases {r r' : Raft} {es : List Entry} {b : Bool} (hinv : r.raftLog.Inv)
    (hs : r.state = .leader) (h : r.appendEntry es = .ok (r', b)) :
    (b = false ∧ r' = r) ∨
    (b = true ∧ es = [] ∧ LS r r' ∧ Frame r r') ∨
    (b = true ∧ Appended r r' (stampFrom r.term (r.raftLog.lastIndex + 1) es) ∧ Frame r r') := by
  unfold Raft.appendEntry at h
  split at h
  · cases h; exact .inl ⟨rfl, rfl⟩
  · rename_i r1 hinc
    have hl1 : r1.raftLog = r.raftLog := by
      unfold Raft.maybeIncreaseUncommittedSize at hinc
      split at hinc
      cases hinc; rfl
    have hf1 : Frame r r1 := maybeIncreaseUncommittedSize_frame hinc Frame.rfl
    simp only [] at h
    have hst := stamp_eq r1.term r1.raftLog.lastIndex es
    simp only [] at hst
    rw [hst] at h
    right
    cases es with
    | nil =>
      simp only [stampFrom, RaftLog.append] at h
      cases h
      refine .inl ⟨rfl, rfl, ?_, Frame.mk' hf1⟩
      show LogSame r.raftLog r1.raftLog
      rw [hl1]; exact LogSame.rfl
    | cons e es =>
      right
      have hinv1 : r1.raftLog.Inv := by rw [hl1]; exact hinv
      have hcl := hinv1.committed_le_last
      have hpo := hinv1.persisted_lt_off
      have hls := hinv1.last_succ
      obtain ⟨l', happ, hlast, habs, _, hcm, _, _, hinv'⟩ :=
        RaftProps.C14.C14_append_spec r1.raftLog hinv1
          { e with term := r1.term, index := r1.raftLog.lastIndex + 1 }
          (stampFrom r1.term (r1.raftLog.lastIndex + 1 + 1) es)
          (stampFrom_contig r1.term (e :: es) (r1.raftLog.lastIndex + 1))
          (by show r1.raftLog.committed < r1.raftLog.lastIndex + 1; omega)
          (Nat.le_refl _)
      simp only [stampFrom] at h
      rw [happ] at h
      cases h
      have hls1 : LS r r1 := by show LogSame r.raftLog r1.raftLog; rw [hl1]; exact LogSame.rfl
      rw [← hf1.term, ← hl1]
      refine ⟨rfl, Appended.anchor hls1
        ⟨by simp [stampFrom], ?_, stampFrom_contig _ _ _, ?_, ?_, ?_, ?_, ?_⟩, Frame.mk' hf1⟩
      · show l'.abs = _
        rw [habs]
        have hla := hinv1.lastIndex_abs
        simp only [LLog.lastIndex] at hla
        simp only [LLog.truncateAppend, stampFrom]
        rw [show r1.raftLog.lastIndex + 1 - 1 - r1.raftLog.abs.snapIdx = r1.raftLog.abs.ents.length by omega,
          List.take_of_length_le (Nat.le_refl _)]
      · intro x hx
        exact stampFrom_term r1.term (e :: es) _ x hx
      · show l'.lastIndex = _
        rw [hlast]
        simp only [stampFrom_length, List.length_cons]
        omega
      · exact hinv' (by show r1.raftLog.persisted < r1.raftLog.lastIndex + 1; omega)
      · show r1.raftLog.committed ≤ l'.committed; omega
      · show r1.state = .leader
        rw [hf1.state]; exact hs

/-- the empty entry a new leader appends (raft.rs:1274) -/
def leaderNoop (t i : Nat) : Entry := { term := t, index := i }

/-- the node won an election between `a` and `r`: it is now leader and its log grew by exactly the
empty entry of its new term -/
def Won (a r : Raft) : Prop := Appended a r [leaderNoop r.term (a.raftLog.lastIndex + 1)]

/-! ### `step_leader` -/

theorem filterProposal_length : ∀ (es : List Entry) (r r' : Raft) (i : Nat) (es' : List Entry),
    r.filterProposal i es = (r', some es') → es'.length = es.length := by
  intro es
  induction es with
  | nil => intro r r' i es' h; simp [Raft.filterProposal] at h; rw [← h.2]
  | cons e es ih =>
    intro r r' i es' h
    unfold Raft.filterProposal at h
    split at h
    · cases h
    · split at h
      · rename_i r2 es2 h3
        cases h
        simp only [List.length_cons, ih _ _ _ _ h3]
      · cases h

/-! ### snapshots: `restore`, `handle_snapshot` -/

/-- the logical log was replaced by the snapshot `sn` between `a` and `r` -/
structure Restored (a r : Raft) (sn : Snapshot) : Prop where
  abs : r.raftLog.abs = LLog.ofSnapshot sn
  inv : r.raftLog.Inv
  ge : a.raftLog.committed ≤ sn.metadata.index
  commit : sn.metadata.index ≤ r.raftLog.committed

theorem Restored.right {a r r' : Raft} {sn : Snapshot} (h : Restored a r sn) (h1 : LS r r') :
    Restored a r' sn :=
  ⟨by rw [h1.abs, h.abs], h1.inv h.inv, h.ge, Nat.le_trans h.commit h1.commit⟩

/-- `post_conf_change` (raft.rs:2743) in every role keeps the logical log -/
theorem postConfChange_ls {a r r' : Raft} {cs : ConfState}
    (h : r.postConfChange = .ok (r', cs)) (h0 : LS a r) : LS a r' :=
  postConfChange_parts h (LS.mk' h0) (fun _ _ => becomeFollower_ls _ _) (fun _ => maybeCommit_ls)
    (fun _ => bcastAppend_ls) (fun _ => maybeSendAppend_ls) (fun _ _ => LS.mk') (fun _ => LS.mk')
    respondReadStates_ls LS.mk'

end Raft
end RaftModel
