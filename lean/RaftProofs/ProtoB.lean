import RaftProofs.ProtoCDefs

/-!
`InvB` (shape of the ghost logs, ghost quorum evidence of every election, up-to-date checks recorded
with generated / released grants) holds initially and is preserved by every event of P: the clauses
about grants follow the flow of messages (`invB_msgs`), the others change only where the ghost history
does (`ghost_frame`).
-/
namespace RaftModel.P

theorem invB_init : InvB init := by
  constructor
  · intro t; exact ⟨[], by simp [init], by simp, by simp [init]⟩
  · intro p hp; simp [init] at hp
  · intro i t v c gh hm; simp [init] at hm
  · intro p hp; simp [init] at hp
  · intro ec hec; simp [init] at hec

theorem upToDate_self (l : List LEntry) : upToDate (lastTerm l) l.length l = true := by
  simp [upToDate]

/-- the clauses `gto`, `gt` of `InvB`: the up-to-date check recorded with a generated / released grant holds -/
def BMsgs (s : PSys) : Prop :=
  (∀ i t v c gh, OMsg.grant t v c gh ∈ (s.nodes i).outbox → upToDate gh.clt gh.cli gh.vlog = true) ∧
  (∀ p ∈ s.rgv, upToDate p.2.clt p.2.cli p.2.vlog = true)

/-- a grant in an outbox was there or is generated now, with the check; a released one was in an outbox -/
theorem invB_msgs {s s' : PSys} {e : Event} (h : applyEvent s e = .ok s') (hB : InvB s) : BMsgs s' := by
  refine ⟨fun i t v c gh hm => ?_, fun p hp => ?_⟩
  · rcases outbox_step h i with ⟨hs, _⟩ | ⟨_, hs, _⟩
    · rcases hs _ hm with ho | hg
      · exact hB.gto i t v c gh ho
      · cases hg with
        | campGrant => exact upToDate_self _
        | grant c r _ _ _ hu => exact hu
    · cases (hs _ hm).1
  · rcases released_step h (.grant p.1.term p.1.voter p.1.cand p.2) hp with hr | ⟨i, _, ho | hd⟩
    · exact hB.gt p hr
    · exact hB.gto i _ _ _ _ ho.1
    · cases hd.1

/-! ### the two events that change the ghost logs -/

theorem invB_win (s s' : PSys) (i : Nat) (c0 : Cfg) (q : List Nat)
    (h : applyEvent s (.win i c0 q) = .ok s') (hV : InvV (vsys s)) (hL : InvL s) (hB : InvB s)
    (hm : BMsgs s') : InvB s' := by
  have hf := win_fresh hV hL h
  obtain ⟨_, hq, _, hrg, rfl, _⟩ := win_guard h
  constructor
  · intro t
    by_cases ht : t = (s.nodes i).term
    · subst ht
      refine ⟨[], ?_, ?_, ?_⟩
      · simp only [updT, if_true, List.append_nil]
      · intro e he; cases he
      · intro e he
        simp only [updT, if_true] at he
        have hle := (hL.tle i).1 e he
        have hne' : e.term ≠ (s.nodes i).term := by
          intro heq
          obtain ⟨k, hk⟩ := List.getElem?_of_mem he
          have := PFL_mem (keep_log s hL i) k e hk
          rw [heq, hL.nole _ (fun j hj => hf ⟨j, hj⟩)] at this
          simp at this
        omega
    · simp only [updT, ht, if_false]; exact hB.ll t
  · intro p hp
    rcases List.mem_cons.1 hp with hp | hp
    · subst hp
      refine ⟨c0, q, List.mem_cons_self, hq, ?_⟩
      intro v hv
      obtain ⟨p', hp', h1, h2, h3, h4⟩ := hrg v hv
      refine ⟨p'.2, ?_, h2, ?_⟩
      · show (_, p'.2) ∈ s.rgv
        rw [← h1]; exact hp'
      · simp only [updT, if_true]
        rw [← h3, ← h4]; exact hB.gt p' hp'
    · have hne' : p.1 ≠ (s.nodes i).term := fun he => hf ⟨p.2, by rw [← he]; exact hp⟩
      obtain ⟨c', q', hc', hq', hall'⟩ := hB.eq p hp
      refine ⟨c', q', List.mem_cons_of_mem _ hc', hq', ?_⟩
      simp only [updT, hne', if_false]; exact hall'
  · exact hm.1
  · exact hm.2
  · intro ec hx
    rcases List.mem_cons.1 hx with hx | hx
    · subst hx; exact ⟨i, List.mem_cons_self⟩
    · obtain ⟨j, hj⟩ := hB.ee ec hx
      exact ⟨j, List.mem_cons_of_mem _ hj⟩

theorem invB_lappend (s : PSys) (i : Nat) (e : LEntry) (hL : InvL s) (hB : InvB s)
    (hrole : (s.nodes i).role = 2) (het : e.term = (s.nodes i).term)
    (hm : BMsgs { s with nodes := upd s.nodes i { s.nodes i with log := (s.nodes i).log ++ [e] }, llog := updT s.llog (s.nodes i).term ((s.nodes i).log ++ [e]) }) :
    InvB { s with nodes := upd s.nodes i { s.nodes i with log := (s.nodes i).log ++ [e] }, llog := updT s.llog (s.nodes i).term ((s.nodes i).log ++ [e]) } := by
  constructor
  · intro t
    by_cases ht : t = (s.nodes i).term
    · subst ht
      obtain ⟨r, hr, hrt, helt⟩ := hB.ll (s.nodes i).term
      refine ⟨r ++ [e], ?_, ?_, helt⟩
      · simp only [updT, if_true]
        rw [hL.ll i hrole, hr, List.append_assoc]
      · intro x hx
        rcases List.mem_append.1 hx with hx | hx
        · exact hrt x hx
        · rw [List.mem_singleton.1 hx]; exact het
    · simp only [updT, ht, if_false]; exact hB.ll t
  · exact hB.eq
  · exact hm.1
  · exact hm.2
  · exact hB.ee

theorem invB_step (s s' : PSys) (e : Event)
    (h : applyEvent s e = .ok s') (hV : InvV (vsys s)) (hL : InvL s) (hB : InvB s) : InvB s' := by
  have hm := invB_msgs h hB
  rcases ghost_frame h with ⟨i, cfg, q, rfl⟩ | ⟨i, x, rfl⟩ | ⟨i, c, cfg, q, rfl⟩ | ⟨i, key, rfl⟩ | ⟨r, rfl⟩ | hq
  · exact invB_win s s' i cfg q h hV hL hB hm
  · obtain ⟨hg, rfl⟩ := of_guard_ok h
    exact invB_lappend s i x hL hB hg.2.1 hg.2.2 hm
  · obtain ⟨_, rfl⟩ := of_guard_ok h
    exact ⟨hB.ll, hB.eq, hm.1, hm.2, hB.ee⟩
  · obtain ⟨h1, h2, h3, h4, _⟩ := release_ghost h
    refine ⟨h1 ▸ h3 ▸ hB.ll, fun p hp => ?_, hm.1, hm.2,
      fun ec hx => by rw [h4] at hx; exact (hB.ee ec hx).imp fun j hj => h2 ▸ hj⟩
    rw [h2] at hp
    obtain ⟨c', q, hc', hq, hall⟩ := hB.eq p hp
    refine ⟨c', q, h4 ▸ hc', hq, fun v hv => ?_⟩
    obtain ⟨gh', g1, g2, g3⟩ := hall v hv
    exact ⟨gh', released_mono h (.grant _ _ _ gh') g1, g2, h3 ▸ g3⟩
  · obtain ⟨rd, rfl⟩ := read_frame h
    exact ⟨hB.ll, hB.eq, hm.1, hm.2, hB.ee⟩
  · exact ⟨hq.llog ▸ hq.elog ▸ hB.ll, hq.elected ▸ hq.rgv ▸ hq.elog ▸ hq.ecfgs ▸ hB.eq, hm.1, hm.2,
      fun ec hx => by rw [hq.ecfgs] at hx; exact (hB.ee ec hx).imp fun j hj => hq.elected ▸ hj⟩

theorem invB_reachR (s : PSys) (h : Reach s) : InvB s := by
  induction h with
  | init => exact invB_init
  | step e hr hs ih =>
    exact invB_step _ _ e hs (invV_reachR _ hr) (invL_reachR _ hr) ih

theorem invB_reach (c0 : Cfg) (_hne : c0.incoming ≠ [] ∨ c0.outgoing ≠ []) (s : PSys) (h : ReachC c0 s) :
    InvB s := invB_reachR s (reach_of_reachC h)

end RaftModel.P
