import RaftProofs.ClusterStep

/-!
Cluster-level election safety, part G: the configuration-independent invariant `Inv1` of the cluster
semantics (`RaftModel.Cluster`): node ids, the real-vote messages in the queues and in the transport
are backed by the in-memory and the *stored* `(term, vote)` of their sender, and no node has two
different promises for one term.  It speaks of a node together with everything the node has sent:
`N1 net i st` for one node, carried through a step by `Moved.sender_inv` (only the moving node is
looked at, for a call, the hand-over of its queue and a restart).
-/
namespace RaftModel
namespace Cluster
open Node Raft.CV

/-! ### the invariant -/

/-- whom a real-vote message promises the sender's vote to: a request, the sender itself; a granted
response, the addressee -/
def tgt (x : Message) : Nat := if x.msgType = .msgRequestVote then x.frm else x.to

/-- the stored pair is at least `(t, v)` -/
def GeS (st : NState) (t v : Nat) : Prop :=
  t < st.raft.raftLog.store.hardState.term ∨
  (st.raft.raftLog.store.hardState.term = t ∧ st.raft.raftLog.store.hardState.vote = v)

/-- a vote request of `c` for term `t` is in the transport -/
def Req (net : List Message) (c t : Nat) : Prop :=
  ∃ q ∈ net, q.msgType = .msgRequestVote ∧ q.frm = c ∧ q.term = t

/-- a granted vote response `j → c` for term `t` is in the transport -/
def Grant (net : List Message) (j c t : Nat) : Prop :=
  ∃ g ∈ net, g.msgType = .msgRequestVoteResponse ∧ g.reject = false ∧ g.frm = j ∧ g.to = c ∧ g.term = t

/-- a real-vote message of node `i` (state `st`) is backed by the node's in-memory `(term, vote)` -/
def RVok (net : List Message) (st : NState) (i : Nat) (x : Message) : Prop :=
  x.frm = i ∧ x.term ≠ 0 ∧ tgt x ≠ 0 ∧ Ge st.raft x.term (tgt x) ∧
  (x.msgType = .msgRequestVoteResponse → Req net x.to x.term)

structure Inv1 (s : Sys) : Prop where
  ids : ∀ i st, s.node i = some st → st.raft.id = i ∧ i ≠ 0
  queue : ∀ i st, s.node i = some st → ∀ x ∈ st.raft.msgs, isRVm x = true → RVok s.net st i x
  net : ∀ x ∈ s.net, isRVm x = true →
    ∃ st, s.node x.frm = some st ∧ RVok s.net st x.frm x ∧ GeS st x.term (tgt x)
  once : ∀ i st, s.node i = some st → ∀ x y, (x ∈ s.net ∨ x ∈ st.raft.msgs) →
    (y ∈ s.net ∨ y ∈ st.raft.msgs) → isRVm x = true → isRVm y = true → x.frm = i → y.frm = i →
    x.term = y.term → tgt x = tgt y

theorem Ge.mono {r r' : Raft} {t v : Nat} (h : Ge r t v) (hv : v ≠ 0) (htv : TV r r') : Ge r' t v :=
  (GeV.mono (fun _ => h) htv) hv

theorem Req.mono {net net' : List Message} {c t : Nat} (h : Req net c t)
    (hsub : ∀ x ∈ net, x ∈ net') : Req net' c t := by
  obtain ⟨q, hq, h1⟩ := h
  exact ⟨q, hsub q hq, h1⟩

theorem Grant.mono {net net' : List Message} {j c t : Nat} (h : Grant net j c t)
    (hsub : ∀ x ∈ net, x ∈ net') : Grant net' j c t := by
  obtain ⟨q, hq, h1⟩ := h
  exact ⟨q, hsub q hq, h1⟩

theorem RVok.mono {net net' : List Message} {st st' : NState} {i : Nat} {x : Message}
    (h : RVok net st i x) (htv : TV st.raft st'.raft) (hsub : ∀ x ∈ net, x ∈ net') :
    RVok net' st' i x :=
  ⟨h.1, h.2.1, h.2.2.1, Ge.mono h.2.2.2.1 h.2.2.1 htv, fun hx => (h.2.2.2.2 hx).mono hsub⟩

theorem GeS.mono {a r : NState} {t v : Nat} (h : GeS a t v) (hr : HsRel a.raft r.raft)
    (hge : Ge r.raft t v) : GeS r t v := by
  unfold GeS at *
  rcases hr with ⟨h1, h2⟩ | ⟨h1, h2, _⟩ | ⟨h1, h2⟩
  · rw [h1, h2]; exact h
  · rw [h1, h2]; exact hge
  · rcases h with g | ⟨g, _⟩
    · left; omega
    · left; omega

theorem tgt_req {x : Message} (h : x.msgType = .msgRequestVote) : tgt x = x.frm := by
  unfold tgt; rw [if_pos h]

theorem tgt_resp {x : Message} (h : x.msgType = .msgRequestVoteResponse) : tgt x = x.to := by
  unfold tgt; rw [if_neg (by rw [h]; decide)]

/-- a message queued during a call is backed -/
theorem fresh_ok {net : List Message} {st st' : NState} {i : Nat} {m x : Message}
    (hid : st.raft.id = i) (hi : i ≠ 0) (hrv : isRVm x = true)
    (hf : Fresh st.raft m st'.raft x)
    (hm : m.msgType = .msgRequestVote → m ∈ net ∧ m.frm ≠ 0) : RVok net st' i x := by
  obtain ⟨f1, f2, f3, f4⟩ := hf
  rcases isRVm_type hrv with g | ⟨g, _⟩
  · obtain ⟨_, _, q3⟩ := f3 g
    have ht : tgt x = i := by rw [tgt_req g, f1, hid]
    refine ⟨f1.trans hid, f2, by rw [ht]; exact hi, ?_, fun hc => by rw [g] at hc; cases hc⟩
    rw [ht, ← hid]; exact q3 (by rw [hid]; exact hi)
  · obtain ⟨q1, q2, q3, _, q5⟩ := f4 g
    obtain ⟨m1, m2⟩ := hm q1
    have ht : tgt x = m.frm := by rw [tgt_resp g, q2]
    refine ⟨f1.trans hid, f2, by rw [ht]; exact m2, ?_, fun _ => ⟨m, m1, q1, q2.symm, q3.symm⟩⟩
    rw [ht, ← q2]; exact q5 (by rw [q2]; exact m2)

/-- old and new promises of one call agree -/
theorem once_step {net : List Message} {a r : Raft} {i : Nat} {m x y : Message}
    (hx : x.frm = i → isRVm x = true → ((x ∈ net ∨ x ∈ a.msgs) ∧ tgt x ≠ 0 ∧ Ge a x.term (tgt x)) ∨ Fresh a m r x)
    (hy : y.frm = i → isRVm y = true → ((y ∈ net ∨ y ∈ a.msgs) ∧ tgt y ≠ 0 ∧ Ge a y.term (tgt y)) ∨ Fresh a m r y)
    (hold : ∀ x y, (x ∈ net ∨ x ∈ a.msgs) → (y ∈ net ∨ y ∈ a.msgs) → isRVm x = true →
      isRVm y = true → x.frm = i → y.frm = i → x.term = y.term → tgt x = tgt y)
    (hxr : isRVm x = true) (hyr : isRVm y = true) (hxi : x.frm = i) (hyi : y.frm = i)
    (ht : x.term = y.term) : tgt x = tgt y := by
  -- an old promise against a new one
  have key : ∀ u v : Message, isRVm v = true → tgt u ≠ 0 → Ge a u.term (tgt u) → Fresh a m r v →
      u.term = v.term → tgt u = tgt v := by
    intro u v hv hu0 hge hf hterm
    obtain ⟨_, _, f3, f4⟩ := hf
    rcases isRVm_type hv with g | ⟨g, _⟩
    · obtain ⟨_, q2, _⟩ := f3 g
      exfalso
      rcases hge with e | ⟨e, _⟩ <;> omega
    · obtain ⟨_, _, _, q4, _⟩ := f4 g
      rw [tgt_resp g]
      rcases q4 with e | ⟨e1, e2⟩
      · exfalso
        rcases hge with e' | ⟨e', _⟩ <;> omega
      · rcases hge with e' | ⟨_, e'⟩
        · exfalso; omega
        · rcases e2 with e2 | e2
          · exact absurd (e'.symm.trans e2) hu0
          · exact e'.symm.trans e2
  rcases hx hxi hxr with ⟨x1, x2, x3⟩ | fx <;> rcases hy hyi hyr with ⟨y1, y2, y3⟩ | fy
  · exact hold x y x1 y1 hxr hyr hxi hyi ht
  · exact key x y hyr x2 x3 fy ht
  · exact (key y x hxr y2 y3 fx ht.symm).symm
  · -- two new ones
    obtain ⟨a1, _, a3, a4⟩ := fx
    obtain ⟨b1, _, b3, b4⟩ := fy
    rcases isRVm_type hxr with g | ⟨g, _⟩ <;> rcases isRVm_type hyr with g' | ⟨g', _⟩
    · rw [tgt_req g, tgt_req g', a1, b1]
    · exact absurd (b4 g').1 (a3 g).1
    · exact absurd (a4 g).1 (b3 g').1
    · rw [tgt_resp g, tgt_resp g', (a4 g).2.1, (b4 g').2.1]

theorem hsPersisted_ge {st : NState} {t v : Nat} (hp : hsPersisted st) (h : Ge st.raft t v) :
    GeS st t v := by
  unfold GeS; rw [hp.1, hp.2]; exact h

/-- **a sender-local invariant through one step.**  `N net i st` speaks of one node and of the
transport; it may read the transport monotonically, except that it may speak of *all* transported
messages of kind `R` that `i` itself sent (`grow`: more messages, none of them an `R`-message of `i`).
Queued `R`-messages carry the sender's id (`own`), so the hand-over of another node's queue is a
`grow`; the hand-over of the node's own queue is `hand`. -/
theorem Moved.sender_inv {C : Contract} {a b : Sys} {k : Nat} {st st' : NState}
    {N : List Message → Nat → NState → Prop} {R : Message → Prop} (M : Moved C a b k st st')
    (own : ∀ {net i st}, N net i st → ∀ x ∈ st.raft.msgs, R x → x.frm = i)
    (grow : ∀ {net net' i st}, (∀ x ∈ net, x ∈ net') →
      (∀ x ∈ net', R x → x.frm = i → x ∈ net) → N net i st → N net' i st)
    (hand : ∀ {net}, N net k st → hsPersisted st → N (net ++ st.raft.msgs) k
      { st with raft := { st.raft with nextRand := none, msgs := [], readStates := [] } })
    (hn : ∀ i st, a.node i = some st → N a.net i st)
    (call : ∀ rnd op res, b.net = a.net →
      (appOp op = true ∨ ∃ m, op = .step m ∧ m ∈ a.net ∧ m.to = k) →
      C.call st op st' → Node.call st rnd op = .ok (res, st') → N a.net k st')
    (restart : ∀ c rnd, b.net = a.net → c.id = k →
      Node.boot c st.raft.raftLog.store rnd = .ok (.ok st') → C.restart st st' → N a.net k st') :
    ∀ i st, b.node i = some st → N b.net i st := by
  intro i sti hi
  rcases M.node_after hi with ⟨rfl, rfl⟩ | ⟨hik, c⟩
  · cases M.act with
    | call rnd op res hop hc hcall hnet => rw [hnet]; exact call rnd op res hnet hop hc hcall
    | send hp _ hst hnet => rw [hst, hnet]; exact hand (hn i st M.hk) hp
    | restart c rnd hid hboot hc hnet => rw [hnet]; exact restart c rnd hnet hid hboot hc
  · rcases M.net_cases with e | e <;> rw [e]
    · exact hn i sti c
    · refine grow (fun _ g => List.mem_append_left _ g) (fun x hx hr hf => ?_) (hn i sti c)
      exact (List.mem_append.1 hx).resolve_right fun g =>
        hik ((own (hn k st M.hk) x g hr).symm.trans hf).symm

/-- `Inv1` for one node: its id, its queue, what it has sent, and "one promise per term" -/
structure N1 (net : List Message) (i : Nat) (st : NState) : Prop where
  ids : st.raft.id = i ∧ i ≠ 0
  queue : ∀ x ∈ st.raft.msgs, isRVm x = true → RVok net st i x
  sent : ∀ x ∈ net, isRVm x = true → x.frm = i → RVok net st i x ∧ GeS st x.term (tgt x)
  once : ∀ x y, (x ∈ net ∨ x ∈ st.raft.msgs) → (y ∈ net ∨ y ∈ st.raft.msgs) → isRVm x = true →
    isRVm y = true → x.frm = i → y.frm = i → x.term = y.term → tgt x = tgt y

/-- the per-node half of `Inv1` through a step -/
theorem n1_step {s s' : Sys} (hsnd : ∀ x ∈ s.net, isRVm x = true → x.frm ≠ 0)
    (hn : ∀ i st, s.node i = some st → N1 s.net i st) (hstep : Step s s') :
    ∀ i st, s'.node i = some st → N1 s'.net i st := by
  obtain ⟨k, st, st', M⟩ := hstep.moved
  have h0 := hn k st M.hk
  refine M.sender_inv (N := N1) (R := fun x => isRVm x = true)
    (fun h x hx hr => (h.queue x hx hr).1) ?_ ?_ hn ?_ ?_
  · -- growth of the transport by messages of others
    intro net net' i sti hsub hback h
    have back : ∀ x, (x ∈ net' ∨ x ∈ sti.raft.msgs) → isRVm x = true → x.frm = i →
        x ∈ net ∨ x ∈ sti.raft.msgs := fun x hx hr hf => hx.imp (fun g => hback x g hr hf) (fun g => g)
    exact ⟨h.ids, fun x hx hr => (h.queue x hx hr).mono (TV.refl _) hsub,
      fun x hx hr hf => ⟨((h.sent x (hback x hx hr hf) hr hf).1).mono (TV.refl _) hsub,
        (h.sent x (hback x hx hr hf) hr hf).2⟩,
      fun x y hx hy hxr hyr hxi hyi => h.once x y (back x hx hxr hxi) (back y hy hyr hyi) hxr hyr hxi hyi⟩
  · -- the hand-over of the own queue
    intro net h hp
    have hsub : ∀ x ∈ net, x ∈ net ++ st.raft.msgs := fun x hx => List.mem_append_left _ hx
    refine ⟨h.ids, fun x hx => (by cases hx), fun x hx hr hf => ?_, fun x y hx hy => ?_⟩
    · rcases List.mem_append.1 hx with g | g
      · exact ⟨(h.sent x g hr hf).1.mono (TV.refl _) hsub, (h.sent x g hr hf).2⟩
      · have hq := h.queue x g hr
        exact ⟨hq.mono (TV.refl _) hsub, hsPersisted_ge hp hq.2.2.2.1⟩
    · have fix : ∀ z, (z ∈ net ++ st.raft.msgs ∨ z ∈ ([] : List Message)) →
          z ∈ net ∨ z ∈ st.raft.msgs := fun z hz =>
        hz.elim (fun g => List.mem_append.1 g) (fun g => by cases g)
      exact h.once x y (fix x hx) (fix y hy)
  · -- a call or a delivery
    intro rnd op res _ hop _ hcall
    have hns := call_nstep st st' rnd op res hcall
    have hm : (opMsg op).msgType = .msgRequestVote → opMsg op ∈ s.net ∧ (opMsg op).frm ≠ 0 := by
      intro hq
      rcases hop with hop | ⟨m, rfl, hm, _⟩
      · have hloc : isRVt (opMsg op).msgType = false := by cases op <;> first | rfl | cases hop
        rw [hq] at hloc; cases hloc
      · exact ⟨hm, hsnd m hm (by unfold isRVm; simp [show m.msgType = .msgRequestVote from hq])⟩
    have hsub : ∀ x ∈ s.net, x ∈ s.net := fun _ h => h
    have hcls : ∀ x, (x ∈ s.net ∨ x ∈ st'.raft.msgs) → x.frm = k → isRVm x = true →
        ((x ∈ s.net ∨ x ∈ st.raft.msgs) ∧ tgt x ≠ 0 ∧ Ge st.raft x.term (tgt x)) ∨
        Fresh st.raft (opMsg op) st'.raft x := by
      intro x hx hxi hrv
      rcases hx with g | g
      · have h2 := (h0.sent x g hrv hxi).1
        exact .inl ⟨.inl g, h2.2.2.1, h2.2.2.2.1⟩
      · rcases hns.msgs x g hrv with q | q
        · have h2 := h0.queue x q hrv
          exact .inl ⟨.inr q, h2.2.2.1, h2.2.2.2.1⟩
        · exact .inr q
    refine ⟨⟨hns.id.trans h0.ids.1, h0.ids.2⟩, fun x hx hrv => ?_, fun x hx hrv hf => ?_,
      fun x y hx hy hxr hyr hxi hyi ht => ?_⟩
    · rcases hns.msgs x hx hrv with q | q
      · exact (h0.queue x q hrv).mono hns.tv hsub
      · exact fresh_ok h0.ids.1 h0.ids.2 hrv q hm
    · have h2 := h0.sent x hx hrv hf
      have h2' : RVok s.net st' k x := h2.1.mono hns.tv hsub
      exact ⟨h2', GeS.mono h2.2 hns.hs h2'.2.2.2.1⟩
    · exact once_step (fun a b => hcls x hx a b) (fun a b => hcls y hy a b) h0.once hxr hyr hxi hyi ht
  · -- a restart
    intro c rnd _ hci hb _
    have hbt := boot_booted c _ rnd st' hb
    refine ⟨⟨hbt.id.trans hci, by rw [← hci]; exact hbt.idnz⟩,
      fun x hx => (by rw [hbt.msgs] at hx; cases hx), fun x hx hrv hf => ?_, fun x y hx hy => ?_⟩
    · obtain ⟨h2, h3⟩ := h0.sent x hx hrv hf
      exact ⟨⟨h2.1, h2.2.1, h2.2.2.1, by unfold Ge; rw [hbt.term, hbt.vote]; exact h3, h2.2.2.2.2⟩,
        by unfold GeS; rw [hbt.hs]; exact h3⟩
    · rw [hbt.msgs] at hx hy
      exact h0.once x y (hx.imp (fun g => g) (fun g => by cases g))
        (hy.imp (fun g => g) (fun g => by cases g))

/-- `Inv1` is `N1` of every node, and every real-vote message of the transport has a sender -/
theorem inv1_iff {s : Sys} : Inv1 s ↔ (∀ i st, s.node i = some st → N1 s.net i st) ∧
    ∀ x ∈ s.net, isRVm x = true → ∃ st, s.node x.frm = some st := by
  constructor
  · intro h
    refine ⟨fun i st hn => ⟨h.ids i st hn, h.queue i st hn, fun x hx hr hf => ?_, h.once i st hn⟩,
      fun x hx hr => (h.net x hx hr).imp fun _ g => g.1⟩
    obtain ⟨stx, h1, h2, h3⟩ := h.net x hx hr
    rw [hf, hn] at h1; cases h1
    exact ⟨hf ▸ h2, h3⟩
  · rintro ⟨h, hs⟩
    refine ⟨fun i st hn => (h i st hn).ids, fun i st hn => (h i st hn).queue, fun x hx hr => ?_,
      fun i st hn => (h i st hn).once⟩
    obtain ⟨st, hn⟩ := hs x hx hr
    exact ⟨st, hn, ((h _ st hn).sent x hx hr rfl).1, ((h _ st hn).sent x hx hr rfl).2⟩

/-- **`Inv1` is preserved by every step of the cluster** -/
theorem Inv1.step {s s' : Sys} (hinv : Inv1 s) (hstep : Step s s') : Inv1 s' := by
  obtain ⟨hn, hs⟩ := inv1_iff.1 hinv
  have hsnd : ∀ x ∈ s.net, isRVm x = true → x.frm ≠ 0 := fun x hx hr =>
    (hs x hx hr).elim fun st g => (hn _ st g).ids.2
  refine inv1_iff.2 ⟨n1_step hsnd hn hstep, fun x hx hr => ?_⟩
  obtain ⟨k, st, st', M⟩ := hstep.moved
  have keep : ∀ i, (∃ sti, s.node i = some sti) → ∃ sti, s'.node i = some sti := fun i ⟨sti, g⟩ => by
    by_cases hik : i = k
    · exact ⟨st', hik ▸ M.hk'⟩
    · exact ⟨sti, (M.oth i hik).trans g⟩
  rcases M.net_cases with e | e <;> rw [e] at hx
  · exact keep _ (hs x hx hr)
  · rcases List.mem_append.1 hx with g | g
    · exact keep _ (hs x g hr)
    · exact ⟨st', ((hn k st M.hk).queue x g hr).1 ▸ M.hk'⟩

end Cluster
end RaftModel
