import RaftProofs.ClusterCommit5M
import RaftProps.C05d
import RaftProofs.ClusterLogMute
import RaftProofs.ClusterCommit5H

/-!
Cluster-level commit safety **with `batch_append`**: the standing hypotheses without `NoBatch`, and one `call` /
`deliver` step of such a history.

* `multiVoter_of_nolone`: `nolone` (no joint quorum fits into one node) implies C05d's `MultiVoter`.
* `HypB`, `Hyp2wB`: `Hyp` / `Hyp2w` with `nb` replaced by `MultiVoter` and `SaneAnchors` (the second branch of
  C05d's `BatchOk`) — an anchor hypothesis on *every* queue.
* `M.HypB`, `M.Hyp2wB`: the same with `SaneAnchors` asked only of the nodes that are not mute
  (`Cluster.M.SaneAnchors`), plus the frame fact `mono`.  The commit layer is developed under these; they are
  weaker, and the anchor hypothesis at the mute nodes is never needed: their queues are never sent.
* Under `M.HypB`: what the Log Matching layer with batching gives for every state (`M.InvL` and the queue
  invariants `InvB`), the proviso `Prov0` of the batching per-call layer for every `call` / `deliver` step of the
  history, the shape of every node (`node_okB`) and the storage half of the gateway from the per-call layers to the
  cluster level (`call_moreB`).
* The per-call relation `Gb` of a `call` / `deliver` step with the transport as backing (`kstep_gb`), the matched
  tables are backed by the transport in every state (`mokc`), **the leader's commit step** (`commit_step`) — for any
  history of `KStep`s whose transport never holds a `MsgSnapshot` — and, under `M.Hyp2wB`, the gateway from the
  per-call layers to the cluster level (`M.call_factsB`).
-/

namespace RaftModel
namespace ClusterB
open Cluster

theorem isQuorum_of_subset {vs Q : List Nat} (hne : vs ≠ []) (hsub : ∀ v ∈ vs, v ∈ Q) :
    IsQuorum vs Q := by
  unfold IsQuorum majority
  have hc : vs.countP (fun v => decide (v ∈ Q)) = vs.length := by
    rw [List.countP_eq_length]
    intro v hv
    exact decide_eq_true (hsub v hv)
  rw [hc]
  have : 0 < vs.length := List.length_pos_iff.2 hne
  omega

/-- **`nolone` implies `MultiVoter`** -/
theorem multiVoter_of_nolone {cfg : JointConfig}
    (hnl : ∀ i Q, IsJointQuorum cfg Q → ∃ k ∈ Q, k ≠ i) : MultiVoter cfg := by
  have hQ : IsJointQuorum cfg (cfg.incoming ++ cfg.outgoing) :=
    ⟨fun hne => isQuorum_of_subset hne (fun v hv => List.mem_append_left _ hv),
     fun hne => isQuorum_of_subset hne (fun v hv => List.mem_append_right _ hv)⟩
  have hc : ∀ k, k ∈ cfg.incoming ++ cfg.outgoing → Joint.contains cfg k = true := by
    intro k hk
    unfold Joint.contains
    rcases List.mem_append.1 hk with c | c
    · simp [c]
    · simp [c]
  obtain ⟨a, ha, _⟩ := hnl 0 _ hQ
  obtain ⟨b, hb, hab⟩ := hnl a _ hQ
  exact ⟨a, b, fun e => hab e.symm, hc a ha, hc b hb⟩

end ClusterB
end RaftModel

namespace RaftModel
namespace ClusterB
section
open Node Raft Raft.CC Raft.Bt Cluster RaftProps.C02 RaftProps.C05

/-- **the standing hypotheses without `NoBatch`**: `Hyp` (`RaftProofs/ClusterCommitHyp.lean`) with the
field `nb` (`batch_append = false` on every node of every state) replaced by
* `mv`: the configuration has two different voters (implied by `nolone` of `Hyp2wB`), and
* `sane`: no queued `MsgAppend` is anchored in the void (`SaneAnchors` of `RaftProps/C05d.lean`; the
  hypothesis the Log Matching layer with batching needs).
`batch_append` may be on, off, or switched by `set_batch_append` at any time. -/
structure HypB (cfg : JointConfig) (h : List Sys) : Prop where
  hist : History h
  fix : ∀ s ∈ h, FixedCfg cfg s
  ne : cfg.incoming ≠ []
  nd1 : cfg.incoming.Nodup
  nd2 : cfg.outgoing.Nodup
  init : ∀ s : Sys, h[0]? = some s → InitOk s
  steps : ∀ (n : Nat) (a b : Sys), h[n]? = some a → h[n + 1]? = some b → KStep a b
  nosnap : ∀ s ∈ h, NoSnapNet s
  mv : MultiVoter cfg
  sane : ∀ s ∈ h, SaneAnchors s

/-- `Hyp` is the special case "nobody batches" — given the two facts `HypB` asks for instead -/
theorem HypB.of_hyp {cfg : JointConfig} {h : List Sys} (H : Hyp cfg h) (hmv : MultiVoter cfg)
    (hsane : ∀ s ∈ h, SaneAnchors s) : HypB cfg h :=
  ⟨H.hist, H.fix, H.ne, H.nd1, H.nd2, H.init, H.steps, H.nosnap, hmv, hsane⟩

/-- `Hyp2w` without `NoBatch` -/
structure Hyp2wB (cfg : JointConfig) (c0 : Nat) (h : List Sys) : Prop extends HypB cfg h where
  nolone : ∀ i Q, IsJointQuorum cfg Q → ∃ k ∈ Q, k ≠ i
  shape : ∀ s ∈ h, ∀ i st, s.node i = some st →
    st.raft.raftLog.unstable.snapshot = none ∧ st.raft.raftLog.store.firstIndex = c0 + 1
  initc : ∀ s : Sys, h[0]? = some s → ∀ i st, s.node i = some st → st.raft.raftLog.committed = c0
  /-- the nodes start without a snapshot point: `SaneAnchors` (an anchor with `log_term = 0` is at index
  0) matches "anchored inside the log" only then -/
  c0z : c0 = 0

variable {cfg : JointConfig} {c0 : Nat} {h : List Sys}

theorem HypB.csteps (H : HypB cfg h) :
    ∀ (n : Nat) (a b : Sys), h[n]? = some a → h[n + 1]? = some b → CStep a b :=
  fun n a b ha hb => (H.steps n a b ha hb).cstep

/-- a leader's queue is clean in every state (C05d's `InvB.lc`) -/
theorem HypB.cleanQ (H : HypB cfg h) {s : Sys} (hs : s ∈ h) {k : Nat} {st : NState}
    (hk : s.node k = some st) (hl : st.raft.state = .leader) :
    CleanQ st.raft.msgs st.raft.raftLog.abs := by
  obtain ⟨_, _, hall⟩ :=
    RaftProps.C05.cluster_invB_batch cfg H.ne H.nd1 H.nd2 h H.hist H.fix H.init H.csteps H.mv H.sane
  exact (hall s hs).2.lc k st hk hl

/-- the shape of every node of a history under `Hyp2wB` (`NodeOk` without the batching flag) -/
structure NodeOkB (c0 i : Nat) (st : NState) : Prop where
  inv : st.raft.raftLog.Inv
  snap : st.raft.raftLog.unstable.snapshot = none
  snapIdx : st.raft.raftLog.abs.snapIdx = c0
  ssnap : (storeLog st.raft.raftLog.store).snapIdx = c0
  id : st.raft.id = i

theorem NodeOkB.of (hist : History h) {s : Sys} (hs : s ∈ h) {i : Nat} {st : NState}
    (hi : s.node i = some st) (hinv : st.raft.raftLog.Inv)
    (hshape : st.raft.raftLog.unstable.snapshot = none ∧ st.raft.raftLog.store.firstIndex = c0 + 1) :
    NodeOkB c0 i st := by
  obtain ⟨h1, h2⟩ := hshape
  refine ⟨hinv, h1, ?_, ?_, (((hist_all hist).1 s hs).ids i st hi).1⟩
  · rw [RaftLog.abs_none h1]; show st.raft.raftLog.store.firstIndex - 1 = c0; omega
  · show st.raft.raftLog.store.firstIndex - 1 = c0; omega
end

namespace M
open Node Raft Raft.CC Raft.Bt
open Cluster hiding At Prov InvL Trans EntriesOf SaneAnchors
open Cluster.M
open RaftProps.C02
open RaftProps.C05
/-- **`HypB` with the anchor hypothesis only at the nodes that are not mute**: `sane` is
`Cluster.M.SaneAnchors` (nothing is asked of a queue that holds a `MsgSnapshot`), and `mono` records that a
queued `MsgSnapshot` stays queued within a call. -/
structure HypB (cfg : JointConfig) (h : List Sys) : Prop where
  hist : History h
  fix : ∀ s ∈ h, FixedCfg cfg s
  ne : cfg.incoming ≠ []
  nd1 : cfg.incoming.Nodup
  nd2 : cfg.outgoing.Nodup
  init : ∀ s : Sys, h[0]? = some s → InitOk s
  steps : ∀ (n : Nat) (a b : Sys), h[n]? = some a → h[n + 1]? = some b → KStep a b
  nosnap : ∀ s ∈ h, NoSnapNet s
  mv : MultiVoter cfg
  sane : ∀ s ∈ h, SaneAnchors s
  /-- the frame property of every step (derived in the commit layer, `hyp2wB_takeK`) -/
  mono : ∀ (n : Nat) (a b : Sys), h[n]? = some a → h[n + 1]? = some b → MonoS a b

/-- `Hyp2wB` over `M.HypB` -/
structure Hyp2wB (cfg : JointConfig) (c0 : Nat) (h : List Sys) : Prop extends HypB cfg h where
  nolone : ∀ i Q, IsJointQuorum cfg Q → ∃ k ∈ Q, k ≠ i
  shape : ∀ s ∈ h, ∀ i st, s.node i = some st →
    st.raft.raftLog.unstable.snapshot = none ∧ st.raft.raftLog.store.firstIndex = c0 + 1
  initc : ∀ s : Sys, h[0]? = some s → ∀ i st, s.node i = some st → st.raft.raftLog.committed = c0
  /-- the nodes start without a snapshot point: `SaneAnchors` (an anchor with `log_term = 0` is at index
  0) matches "anchored inside the log" only then -/
  c0z : c0 = 0

variable {cfg : JointConfig} {c0 : Nat} {h : List Sys}

theorem HypB.csteps (H : HypB cfg h) :
    ∀ (n : Nat) (a b : Sys), h[n]? = some a → h[n + 1]? = some b → CStep a b :=
  fun n a b ha hb => (H.steps n a b ha hb).cstep

/-- **the Log Matching invariant and the queue invariants in every state**, batching on or off -/
theorem HypB.invLB (H : HypB cfg h) :
    ∃ s0, h[0]? = some s0 ∧ ∀ s ∈ h, InvL (Owner h) (EntriesOf s0) s ∧ InvB s := by
  obtain ⟨s0, h0⟩ := hist_head H.hist
  obtain ⟨all1, all2, _⟩ := hist_all H.hist
  refine ⟨s0, h0, fun s hs => ?_⟩
  obtain ⟨n, hn⟩ := List.mem_iff_getElem?.1 hs
  exact Live.invLB_all (live := live) H.nd1 H.nd2 H.mv h
    (owner_unique cfg H.ne H.nd1 H.nd2 h H.hist H.fix) H.init H.csteps all1 (all2 cfg H.fix) H.sane s0 h0
    (fun s hs => live_of_net (H.nosnap s hs)) (fun n a b ha hb => (H.mono n a b ha hb).mono) n s hn

theorem HypB.invL (H : HypB cfg h) :
    ∃ s0, h[0]? = some s0 ∧ ∀ s ∈ h, InvL (Owner h) (EntriesOf s0) s := by
  obtain ⟨s0, h0, hall⟩ := H.invLB
  exact ⟨s0, h0, fun s hs => (hall s hs).1⟩

theorem Hyp2wB.inv_at (H : Hyp2wB cfg c0 h) :
    ∃ s0, h[0]? = some s0 ∧ ∀ s ∈ h, InvL (Owner h) (EntriesOf s0) s := H.toHypB.invL

/-- **the proviso of the batching per-call layer holds for every `call` / `deliver` step of the
history**: a node that is leader before the call has a clean queue; a node that is leader only after the
call was candidate of the same term with its vote request in the transport, so its queue holds no
`MsgAppend` at all -/
theorem HypB.prov0 (H : HypB cfg h) {n : Nat} {a b : Sys} (ha : h[n]? = some a)
    (hb : h[n + 1]? = some b) {i : Nat} {st st' : NState} {rnd : Option Nat} {op : NodeOp}
    {res : OpRes} (hi : a.node i = some st) (hi' : b.node i = some st') (hnet : b.net = a.net)
    (hop : appOp op = true ∨ ∃ m, op = .step m ∧ m ∈ a.net ∧ m.to = i)
    (hcall : Node.call st rnd op = .ok (res, st')) :
    (st'.raft.state = .leader →
      st.raft.term = st'.raft.term ∧
        ((st.raft.state = .candidate ∧ ∀ x ∈ st.raft.msgs, x.msgType ≠ .msgAppend) ∨
          st.raft.state = .leader)) ∧
    Prov0 st.raft st'.raft := by
  obtain ⟨s0, _, hall⟩ := H.invLB
  obtain ⟨all1, all2, _⟩ := hist_all H.hist
  have hma := mem_of_get ha
  have hmb := mem_of_get hb
  have I := (hall a hma).1
  have rt := call_rt st st' rnd op res (I.inv i st hi) (not_drain_of_hop hop) hcall
  exact prov0_of_inv H.nd1 H.nd2 H.mv (hall a hma).2 (all1 a hma) (all1 b hmb)
    (all2 cfg H.fix b hmb) hi hi' hnet rt

theorem node_okB (H : Hyp2wB cfg c0 h) {n : Nat} {s : Sys} (hn : h[n]? = some s) {i : Nat}
    {st : NState} (hi : s.node i = some st) : NodeOkB c0 i st := by
  obtain ⟨s0, _, hall⟩ := H.inv_at
  have hm := mem_of_get hn
  exact .of H.hist hm hi ((hall s hm).inv i st hi) (H.shape s hm i st hi)

/-- **the commit index, the storage and the logical log over one `call` / `deliver` step of the
history**, batching on or off (`call_more` of `ClusterCommitPlain.lean`, plus `LogRel` — the log half of
`call_q`) -/
theorem call_moreB (H : Hyp2wB cfg c0 h) {n : Nat} {a b : Sys} {i : Nat} {st st' : NState}
    {rnd : Option Nat} {op : NodeOp} {res : OpRes}
    (ha : h[n]? = some a) (hb : h[n + 1]? = some b) (hi : a.node i = some st)
    (hi' : b.node i = some st') (hnet : b.net = a.net)
    (hop : appOp op = true ∨ ∃ m, op = .step m ∧ m ∈ a.net ∧ m.to = i)
    (hc : ∀ j, op ≠ .compact j)
    (hcall : Node.call st rnd op = .ok (res, st')) :
    Src st st' op ∧ (SLg st.raft st'.raft (CV.opMsg op) ∨ op = .stabilize) ∧ HsOut st st' op := by
  obtain ⟨s0, _, hall⟩ := H.inv_at
  have I := hall a (mem_of_get ha)
  have hsn := H.nosnap a (mem_of_get ha)
  have hop' := not_drain_of_hop hop
  have hms : ∀ m, op = .step m → m.msgType ≠ .msgSnapshot := by
    intro m hm
    rcases hop with h1 | ⟨m', h1, h2, _⟩
    · rw [hm] at h1; cases h1
    · rw [hm] at h1; cases h1; exact hsn m h2
  have hw : ∀ m, op = .step m → m.msgType = .msgAppend → MsgOk m := by
    intro m hm hty
    rcases hop with h1 | ⟨m', h1, h2, _⟩
    · rw [hm] at h1; cases h1
    · rw [hm] at h1; cases h1
      exact I.msgOk h2 hty
  have hs1 := (H.shape a (mem_of_get ha) i st hi).1
  have hp := (H.toHypB.prov0 ha hb hi hi' hnet hop hcall).2
  exact ⟨call_src st st' rnd op res (I.inv i st hi) hop' hc hs1 hcall,
    call_stob st st' rnd op res (I.inv i st hi) hp hop' hw hms hc hs1 hcall,
    call_hs st st' rnd op res hop' hs1 hcall⟩

end M
end ClusterB
end RaftModel

namespace RaftModel
namespace ClusterB
section
open Node Raft Raft.CC Raft.CB Raft.Bt Cluster RaftProps.C02 RaftProps.C05

/-- the per-call relation of a `call` / `deliver` step, with the transport as backing -/
theorem kstep_gb {s : Sys} {i : Nat} {st st' : NState} {rnd : Option Nat} {op : NodeOp} {res : OpRes}
    (hm : MOKc s) (hsn : NoSnapNet s) (hi : s.node i = some st)
    (hop : appOp op = true ∨ ∃ m, op = .step m ∧ m ∈ s.net)
    (h : Node.call st rnd op = .ok (res, st')) :
    Gb (Anet s.net) st.raft (CV.opMsg op) st'.raft := by
  have hop' : op ≠ .drain ∧ ∀ m, op ≠ .rstep m := by
    rcases hop with h1 | ⟨m, h1, _⟩
    · constructor
      · intro hc; rw [hc] at h1; cases h1
      · intro m hc; rw [hc] at h1; cases h1
    · rw [h1]
      exact ⟨(by intro hc; cases hc), (by intro m' hc; cases hc)⟩
  refine call_gb (Anet s.net) Anet.anti st st' rnd op res (hm i st hi) hop' ?_ ?_ h
  · intro m hm'
    rcases hop with h1 | ⟨m', h1, h2⟩
    · rw [hm'] at h1; cases h1
    · rw [hm'] at h1; cases h1; exact hsn m h2
  · intro m hm' t hack
    rcases hop with h1 | ⟨m', h1, h2⟩
    · rw [hm'] at h1; cases h1
    · rw [hm'] at h1; cases h1
      exact ⟨m, h2, ⟨hack.1, hack.2.1⟩, rfl, hack.2.2, Nat.le_refl _⟩

variable {cfg : JointConfig} {c0 : Nat} {h : List Sys}

/-- the matched tables are backed by the transport in every state -/
theorem mokc (hist : History h)
    (hsteps : ∀ (n : Nat) (a b : Sys), h[n]? = some a → h[n + 1]? = some b → KStep a b)
    (hnosnap : ∀ s ∈ h, NoSnapNet s) : ∀ (n : Nat) (s : Sys), h[n]? = some s → MOKc s :=
  mokc_hist h hist (fun n a b ha hb => (hsteps n a b ha hb).moved)
    fun _ a _ _ _ _ _ _ ha hm hk hop _ hcall =>
      (kstep_gb hm (hnosnap a (mem_of_get ha)) hk hop hcall).mok

/-- **the leader's commit step** of one step, seen from the moving node -/
theorem commit_of_gb {C : Contract} {a b : Sys} {k : Nat} {st st' : NState}
    (M : Moved C a b k st st') (hm : MOKc a) (hsn : NoSnapNet a) {l : Nat} {sta stb : NState}
    (hla : a.node l = some sta) (hlb : b.node l = some stb) (hfix : stb.raft.prs.voters = cfg)
    (hid : stb.raft.id = l) (hs : stb.raft.state = .leader)
    (hc : sta.raft.raftLog.committed < stb.raft.raftLog.committed) :
    stb.raft.raftLog.term stb.raft.raftLog.committed = .ok stb.raft.term ∧
    ∃ Q, IsJointQuorum cfg Q ∧ ∀ j ∈ Q,
      (j = l ∧ stb.raft.raftLog.committed ≤ stb.raft.raftLog.persisted) ∨
      Anet a.net j stb.raft.term stb.raft.raftLog.committed := by
  obtain ⟨rfl, rfl, rfl, rnd, op, res, hop, _, hcall⟩ := M.call_of_commit hla hlb hs hc
  have g := kstep_gb hm hsn hla (hop.imp (fun g => g) fun ⟨m, h1, h2, _⟩ => ⟨m, h1, h2⟩) hcall
  exact commit_of_lc g.lc g.mok hfix hid hs hc

/-- **the leader's commit step**: when a step moves the commit index of a node that is leader after
the step, the entry at the new commit index carries the leader's term, and a joint quorum of the
leader's voters has `matched` at least the new commit index, each of them accounted for: the leader
itself with `persisted`, or an accepting append response in the transport -/
theorem commit_step (hist : History h) (hfix : ∀ s ∈ h, FixedCfg cfg s)
    (hsteps : ∀ (n : Nat) (a b : Sys), h[n]? = some a → h[n + 1]? = some b → KStep a b)
    (hnosnap : ∀ s ∈ h, NoSnapNet s) (n : Nat) (a b : Sys)
    (ha : h[n]? = some a) (hb : h[n + 1]? = some b) (l : Nat) (sta stb : NState)
    (hla : a.node l = some sta) (hlb : b.node l = some stb) (hs : stb.raft.state = .leader)
    (hc : sta.raft.raftLog.committed < stb.raft.raftLog.committed) :
    stb.raft.raftLog.term stb.raft.raftLog.committed = .ok stb.raft.term ∧
    ∃ Q, IsJointQuorum cfg Q ∧ ∀ j ∈ Q,
      (j = l ∧ stb.raft.raftLog.committed ≤ stb.raft.raftLog.persisted) ∨
      Anet a.net j stb.raft.term stb.raft.raftLog.committed := by
  obtain ⟨k, st, st', M⟩ := (hsteps n a b ha hb).moved
  exact commit_of_gb M (mokc hist hsteps hnosnap n a ha) (hnosnap a (mem_of_get ha)) hla hlb
    (hfix b (mem_of_get hb) l stb hlb) (((hist_all hist).1 b (mem_of_get hb)).ids l stb hlb).1 hs hc

/-- the log half of `call_q`: how the call changed the logical log -/
structure QLb (a r : Raft) (m : Message) : Prop where
  l : LogRel a r m
end

namespace M
open Node Raft Raft.CC Raft.CB Raft.Bt
open Cluster hiding At Prov InvL Trans EntriesOf SaneAnchors
open Cluster.M
open RaftProps.C02
open RaftProps.C05
variable {cfg : JointConfig} {c0 : Nat} {h : List Sys}

/-- **everything the node-level layers say about one `call` / `deliver` step of the history**, batching
on or off: the relation `Gb` of the commit layer, the effect `LStepB` of the Log Matching layer with
batching, and how the logical log changed -/
theorem call_factsB (H : Hyp2wB cfg c0 h) {n : Nat} {a b : Sys} {i : Nat} {st st' : NState}
    {rnd : Option Nat} {op : NodeOp} {res : OpRes}
    (ha : h[n]? = some a) (hb : h[n + 1]? = some b) (hi : a.node i = some st)
    (hi' : b.node i = some st') (hnet : b.net = a.net)
    (hop : appOp op = true ∨ ∃ m, op = .step m ∧ m ∈ a.net ∧ m.to = i)
    (hc : ∀ j, op ≠ .compact j)
    (hcall : Node.call st rnd op = .ok (res, st')) :
    Gb (Anet a.net) st.raft (CV.opMsg op) st'.raft ∧ LStepB st.raft st'.raft (CV.opMsg op) ∧
    QLb st.raft st'.raft (CV.opMsg op) ∧ st.raft.id = i := by
  obtain ⟨s0, _, hall⟩ := H.inv_at
  have I := hall a (mem_of_get ha)
  have hsn := H.nosnap a (mem_of_get ha)
  have hop1 : appOp op = true ∨ ∃ m, op = .step m ∧ m ∈ a.net := by
    rcases hop with g | ⟨m, g1, g2, _⟩
    · exact .inl g
    · exact .inr ⟨m, g1, g2⟩
  have hop' := not_drain_of_hop hop
  have hms : ∀ m, op = .step m → m.msgType ≠ .msgSnapshot := by
    intro m hm
    rcases hop1 with h1 | ⟨m', h1, h2⟩
    · rw [hm] at h1; cases h1
    · rw [hm] at h1; cases h1; exact hsn m h2
  have g := kstep_gb (mokc H.hist H.steps H.nosnap n a ha) hsn hi hop1 hcall
  have hw : ∀ m, op = .step m → m.msgType = .msgAppend → MsgOk m := by
    intro m hm hty
    rcases hop1 with h1 | ⟨m', h1, h2⟩
    · rw [hm] at h1; cases h1
    · rw [hm] at h1; cases h1
      exact I.msgOk h2 hty
  have hp := (H.toHypB.prov0 ha hb hi hi' hnet hop hcall).2
  have hs1 := (H.shape a (mem_of_get ha) i st hi).1
  have hL := call_lstep_b st st' rnd op res (I.inv i st hi) hp hop' hw
    (fun j hj => absurd hj (hc j)) hcall
  have hq : LogRel st.raft st'.raft (CV.opMsg op) := by
    rcases call_stob st st' rnd op res (I.inv i st hi) hp hop' hw hms hc hs1 hcall with c | c
    · exact c.l
    · subst c
      exact .inl (stabilize_out (I.inv i st hi) hs1 hcall).2.2.1
  exact ⟨g, hL, ⟨hq⟩, (((hist_all H.hist).1 a (mem_of_get ha)).ids i st hi).1⟩

end M
end ClusterB
end RaftModel
