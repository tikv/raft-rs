import RaftProofs.ClusterCommitBatchHyp
import RaftProofs.ClusterLeaderAppend
import RaftProofs.ClusterSnapBaseAck
import RaftProofs.ClusterCommitBatchQueue
import RaftProofs.ClusterSnapBaseTime

/-!
Cluster-level commit safety **with `batch_append`**: one step of a history under `M.HypB` / `M.Hyp2wB`, and the facts
the message-level invariants rest on.

* `M.nodeRelB`: what one step does to one node (`NodeRel` or a restart); `M.trans_of_cstepB`: the transition of the
  Log Matching layer a step of the history induces, batching on or off.
* `Live.provenance`, `M.append_prov`, `M.hb_prov`: the provenance of `MsgAppend`s (those of the queues of nodes that
  are not mute, and of the transport) and `MsgHeartbeat`s — each was queued by the node that led its term at that
  moment, is a slice of that leader's log, and carries a commit index the leader had reached.
* `M.Hyp2wB.facts0`, `M.Hyp2wB.factsT`: a history under `M.Hyp2wB` has the facts of `Cluster.Snap5.Facts0 False` (no
  snapshot travels, the steps of the history never compact) and `FactsT`.  The invariants themselves (`ack_inv`,
  `req_inv`, `leader_no_ack`, a term is led in one stretch, …) are those of `ClusterSnapBase.lean` /
  `ClusterSnapBaseAck.lean` at `H.facts0`.
-/

namespace RaftModel
namespace ClusterB
namespace M
open Node Raft Raft.CC Raft.CB Raft.Bt
open Cluster hiding At Prov InvL Trans EntriesOf SaneAnchors
open Cluster.M
open RaftProps.C02
open RaftProps.C05
variable {cfg : JointConfig} {c0 : Nat} {h : List Sys}

/-- **one step, one node**, batching allowed (`cstep_nodeRel` without `NoBatch`) -/
theorem nodeRelB (H : HypB cfg h) {n : Nat} {a b : Sys} (ha : h[n]? = some a)
    (hb : h[n + 1]? = some b) (i : Nat) (sta stb : NState)
    (hia : a.node i = some sta) (hib : b.node i = some stb) :
    NodeRel sta stb ∨ IsRestart i a b := by
  obtain ⟨s0, _, hall⟩ := H.invLB
  obtain ⟨all1, all2, _⟩ := hist_all H.hist
  have hma := mem_of_get ha
  have hmb := mem_of_get hb
  exact nodeRel_of_cstep H.nd1 H.nd2 H.mv (hall a hma).1.inv (fun _ hm => (hall a hma).1.msgOk hm)
    (hall a hma).2 (all1 a hma) (all1 b hmb) (all2 cfg H.fix b hmb) (H.csteps n a b ha hb) i sta stb hia hib

/-- the transition a contract-abiding step of the history induces, batching on or off
(`trans_of_cstep` without `NoBatch`; the step is given by its position in the history) -/
theorem trans_of_cstepB (H : HypB cfg h) {n : Nat} {a b : Sys} (ha : h[n]? = some a)
    (hb : h[n + 1]? = some b) :
    ∃ k st st' pers crash, Trans a b k st st' pers crash := by
  obtain ⟨s0, _, hall⟩ := H.invL
  have I := hall a (mem_of_get ha)
  have callCase : ∀ (k : Nat) (st st' : NState) (rnd : Option Nat) (op : NodeOp) (res : OpRes),
      a.node k = some st → (appOp op = true ∨ ∃ m, op = .step m ∧ m ∈ a.net ∧ m.to = k) →
      (∀ j, op = .compact j → CompactOk st.raft.raftLog j) →
      Node.call st rnd op = .ok (res, st') → b = a.setNode k st' →
      ∃ k st st' pers crash, Trans a b k st st' pers crash := by
    intro k st st' rnd op res hk hop hc hcall hs'
    subst hs'
    have hsane := H.sane _ (mem_of_get hb)
    have hself : (a.setNode k st').node k = some st' := node_setNode_self a k st'
    have hop1 : appOp op = true ∨ ∃ m, op = .step m ∧ m ∈ a.net := by
      rcases hop with g | ⟨m, g1, g2, _⟩
      · exact .inl g
      · exact .inr ⟨m, g1, g2⟩
    have hw : ∀ m, op = .step m → m.msgType = .msgAppend → MsgOk m := by
      intro m hm hty
      rcases hop1 with h1 | ⟨m', h1, h2⟩
      · rw [hm] at h1; cases h1
      · rw [hm] at h1; cases h1
        exact I.msgOk h2 hty
    have hp := (H.prov0 ha hb hk hself rfl hop hcall).2
    have hL := call_lstep_b st st' rnd op res (I.inv k st hk) hp (not_drain_of_hop hop) hw hc hcall
    exact ⟨k, st, st', _, _, Live.trans_call_b I hk hop1 hcall hL
      (fun x hx hty hnq => hsane.notWeird hself hx hty hnq)
      (H.mono n a _ ha hb k st st' hk hself).mono⟩
  cases H.csteps n a b ha hb with
  | call i st st' rnd op res h1 h2 h3 h4 =>
    exact callCase i st st' rnd op res h1 (.inl h2) h3 h4 rfl
  | deliver i st st' rnd m res h1 h2 h3 h4 =>
    exact callCase i st st' rnd (.step m) res h1 (.inr ⟨m, rfl, h2, h3⟩)
      (fun j hc => by cases hc) h4 rfl
  | send i st st' h1 h2 h3 =>
    exact ⟨i, st, st', _, _, Live.trans_send I h1 h2 h3
      (live_of_net (H.nosnap _ (mem_of_get hb)) st.raft.msgs (fun x hx => List.mem_append_right _ hx))⟩
  | restart i st st' c rnd h1 _ h3 => exact ⟨i, st, st', _, _, Live.trans_restart I h1 h3⟩

end M
end ClusterB
end RaftModel

namespace RaftModel
namespace Cluster.Live
open Node Raft Raft.CC

/-- **provenance of messages, for the live queues and the transport** (`Cluster.provenance` with the
queues that are not live skipped): if every message of kind `K` that a call puts into a live queue was queued
before or satisfies `Φ` there and then, every message of kind `K` in a live queue or in the transport
satisfied `Φ` when it was queued.  What `send` moves to the transport comes from a live queue (`hsent`). -/
theorem provenance {live : List Message → Prop} (h : List Sys) (hh : History h)
    (hk : ∀ (n : Nat) (a b : Sys), h[n]? = some a → h[n + 1]? = some b → KStep a b)
    (hsent : ∀ s ∈ h, ∀ q : List Message, (∀ x ∈ q, x ∈ s.net) → live q)
    (hmono : ∀ (n : Nat) (a b : Sys), h[n]? = some a → h[n + 1]? = some b →
      ∀ i st st', a.node i = some st → b.node i = some st' → Mono live st st')
    (K : Message → Prop)
    (Φ : Nat → Nat → Message → Prop)
    (hfresh : ∀ n a b i st st' rnd op res, h[n]? = some a → h[n + 1]? = some b →
      a.node i = some st → b.node i = some st' → Node.call st rnd op = .ok (res, st') →
      (appOp op = true ∨ ∃ m, op = .step m ∧ m ∈ a.net ∧ m.to = i) → (∀ j, op ≠ .compact j) →
      b.net = a.net → live st'.raft.msgs →
      ∀ x ∈ st'.raft.msgs, K x → x ∈ st.raft.msgs ∨ Φ (n + 1) i x) :
    ∀ n s, h[n]? = some s →
      (∀ i st, s.node i = some st → live st.raft.msgs → ∀ x ∈ st.raft.msgs, K x → Gen Φ n i x) ∧
      (∀ x ∈ s.net, K x → ∃ i, Gen Φ n i x) := by
  refine local_hist (C := .k)
    (N := fun n _ i st => live st.raft.msgs → ∀ x ∈ st.raft.msgs, K x → Gen Φ n i x)
    (T := fun n x => K x → ∃ i, Gen Φ n i x) h hh (fun n a b ha hb => (hk n a b ha hb).moved)
    (fun _ g => g) (fun g hl x hx hk => (g hl x hx hk).mono (Nat.le_succ _))
    (fun g hk => (g hk).imp fun _ g => g.mono (Nat.le_succ _))
    (fun {_ _ i _} b hb hsub g x hx hk => ⟨i, g (hsent b (mem_of_get hb) _ hsub) x hx hk⟩)
    (fun _ _ _ hx => nomatch hx) ?_ ?_ ?_
  · intro i st c store rnd _ hb _ x hx
    rw [(CV.boot_booted c store rnd st hb).msgs] at hx; cases hx
  · intro n a b k st st' rnd op res ha hb ihn _ hk hk' hnet hop hc hcall hl x hx hK
    rcases hfresh n a b k st st' rnd op res ha hb hk hk' hcall hop hc.1 hnet hl x hx hK with g | g
    · exact (ihn k st hk (hmono n a b ha hb k st st' hk hk' hl (List.ne_nil_of_mem hx)) x g hK).mono
        (Nat.le_succ _)
    · exact ⟨n + 1, Nat.le_refl _, g⟩
  · intro n a b k st st' c rnd _ _ _ _ _ hb _ _ x hx
    rw [(CV.boot_booted c _ rnd st' hb).msgs] at hx; cases hx

end Cluster.Live

namespace ClusterB
namespace M
open Node Raft Raft.CC Raft.CB Raft.Bt
open Cluster hiding At Prov InvL Trans EntriesOf SaneAnchors
open Cluster.M
open RaftProps.C02
open RaftProps.C05
variable {cfg : JointConfig} {c0 : Nat} {h : List Sys}

/-- **provenance of `MsgAppend`s** -/
theorem append_prov (H : Hyp2wB cfg c0 h) : ∀ (n : Nat) (s : Sys), h[n]? = some s →
    (∀ i st, s.node i = some st → ¬ Raft.CP.QSnap st.raft.msgs →
      ∀ x ∈ st.raft.msgs, x.msgType = .msgAppend → Gen (AppGen h) n i x) ∧
    (∀ x ∈ s.net, x.msgType = .msgAppend → ∃ i, Gen (AppGen h) n i x) := by
  refine Live.provenance (live := live) h H.hist H.steps (fun s hs => live_of_net (H.nosnap s hs))
    (fun n a b ha hb => (H.mono n a b ha hb).mono) (fun x => x.msgType = .msgAppend) (AppGen h) ?_
  intro n a b i st st' rnd op res ha hb hi hi' hcall hop hnc hnet hnq x hx hty
  obtain ⟨g, _, _, hid⟩ := call_factsB H ha hb hi hi' hnet hop hnc hcall
  rcases g.qlk x hx (by rw [hty]; rfl) with c | c | c
  · exact .inl c
  · right
    obtain ⟨_, _, _, d⟩ := leader_queueB H hb hi' c.lead hx hty hnq
    exact ⟨b, st', hb, hi', c.lead, c.term.symm, c.frm.trans (g.id.trans hid), (c.app hty).1,
      (c.app hty).2, d⟩
  · -- a message of the start queue that was batched onto: described by the leader's queue invariant
    right
    obtain ⟨d1, d2, d3, d4⟩ := leader_queueB H hb hi' c.1 hx hty hnq
    exact ⟨b, st', hb, hi', c.1, d1.symm, d2, c.2.1, d3, d4⟩

/-- **provenance of `MsgHeartbeat`s** -/
theorem hb_prov (H : Hyp2wB cfg c0 h) : ∀ (n : Nat) (s : Sys), h[n]? = some s →
    (∀ i st, s.node i = some st → ∀ x ∈ st.raft.msgs, x.msgType = .msgHeartbeat →
      Gen (HbGen h) n i x) ∧
    (∀ x ∈ s.net, x.msgType = .msgHeartbeat → ∃ i, Gen (HbGen h) n i x) := by
  refine provenance h H.hist H.steps (fun x => x.msgType = .msgHeartbeat) (HbGen h) ?_
  intro n a b i st st' rnd op res ha hb hi hi' hcall hop hnc hnet x hx hty
  obtain ⟨g, _, _, hid⟩ := call_factsB H ha hb hi hi' hnet hop hnc hcall
  rcases g.qlk x hx (by rw [hty]; rfl) with c | c | c
  · exact .inl c
  · right
    have hid' : st'.raft.id = i := g.id.trans hid
    refine ⟨b, st', hb, hi', c.lead, c.term.symm, c.frm.trans hid', (c.hb hty).1, ?_⟩
    rcases (c.hb hty).2 with d | d
    · exact .inl d
    · right; rw [hnet, c.term]; exact d
  · obtain ⟨_, _, y, _, hbat⟩ := c
    rw [hbat.msgType] at hty; cases hty

open Node Raft Raft.CC RaftProps.C02
open Raft.CB Raft.Bt

/-- every step of the history, seen from the stepping node: no snapshot is delivered or installed,
no call compacts -/
theorem stp (H : Hyp2wB cfg c0 h) {n : Nat} {a b : Sys} (ha : h[n]? = some a)
    (hb : h[n + 1]? = some b) :
    ∃ k st st', a.node k = some st ∧ b.node k = some st' ∧ (∀ v, v ≠ k → b.node v = a.node v) ∧
      Snap5.Stp False a b k st st' := by
  have sa := H.shape a (mem_of_get ha)
  have sb := H.shape b (mem_of_get hb)
  cases H.steps n a b ha hb with
  | call k st st' rnd op res h1 h2 h3 h5 h4 =>
    exact ⟨k, st, st', h1, node_setNode_self a k st', fun v hv => node_setNode_ne a k v st' hv,
      .call rnd op res (.inl h2) (fun j hj => absurd hj (h3 j)) h5
        (fun m hm => by rw [hm] at h2; cases h2) (sa k st h1).1 (fun hq => hq.elim) h4 rfl
        (sb k st' (node_setNode_self a k st')).1 (fun hq => hq.elim)⟩
  | deliver k st st' rnd m res h1 h2 h3 h4 =>
    exact ⟨k, st, st', h1, node_setNode_self a k st', fun v hv => node_setNode_ne a k v st' hv,
      .call rnd (.step m) res (.inr ⟨m, rfl, h2, h3⟩) (fun j hc => by cases hc)
        (fun j hc => by cases hc)
        (fun m' hm' => by cases hm'; exact H.nosnap a (mem_of_get ha) m h2) (sa k st h1).1
        (fun hq => hq.elim) h4 rfl (sb k st' (node_setNode_self a k st')).1 (fun hq => hq.elim)⟩
  | send k st st' h1 h2 h2' h3 =>
    have hf : st'.raft.msgs = [] ∧ st'.raft.raftLog = st.raft.raftLog ∧
        st'.raft.term = st.raft.term ∧ st'.raft.state = st.raft.state ∧
        st'.raft = { st.raft with nextRand := none, msgs := [], readStates := [] } := by
      unfold Node.call at h3
      simp only [applyOp] at h3
      cases h3; exact ⟨rfl, rfl, rfl, rfl, rfl⟩
    exact ⟨k, st, st', h1, node_setNode_self a k st', fun v hv => node_setNode_ne a k v st' hv,
      .send h2 h2' hf.1 ⟨hf.2.1, hf.2.2.1, hf.2.2.2.1⟩ rfl hf.2.2.2.2⟩
  | restart k st st' c rnd h1 h2 h3 =>
    exact ⟨k, st, st', h1, node_setNode_self a k st', fun v hv => node_setNode_ne a k v st' hv,
      .restart c rnd h3 rfl (sb k st' (node_setNode_self a k st')).1⟩

/-- a compaction that keeps the snapshot point is none -/
theorem compactTo_noop {g g' : LLog} {j : Nat} (e : g' = g.compactTo j)
    (hs : g'.snapIdx = g.snapIdx) : g' = g := by
  unfold LLog.compactTo at e
  split at e
  · exact e
  · rw [e] at hs
    have : j = g.snapIdx := hs
    omega

/-- what a call of the history does to its node; a call that is not a step of the history but compacts
is described by `Snap.compact_out` -/
theorem call_out (H : Hyp2wB cfg c0 h) {n : Nat} {a b : Sys} {i : Nat} {st st' : NState}
    {rnd : Option Nat} {op : NodeOp} {res : OpRes}
    (ha : h[n]? = some a) (hb : h[n + 1]? = some b) (hi : a.node i = some st)
    (hi' : b.node i = some st') (hnet : b.net = a.net)
    (hop : appOp op = true ∨ ∃ m, op = .step m ∧ m ∈ a.net ∧ m.to = i)
    (hc : ∀ j, op = .compact j → CompactOk st.raft.raftLog j)
    (hpend : st.raft.raftLog.unstable.snapshot = none)
    (hcall : Node.call st rnd op = .ok (res, st')) : Snap5.CallOut st st' op := by
  have o := node_okB H ha hi
  have rt := call_rt st st' rnd op res o.inv (not_drain_of_hop hop) hcall
  by_cases hco : ∃ j, op = .compact j
  · obtain ⟨j, rfl⟩ := hco
    have ho := Snap.compact_out o.inv hpend (hc j rfl) hcall
    exact ⟨rt, .inr ⟨j, rfl, ho⟩, fun x hx _ => .inl (by rw [← ho.msgs]; exact hx),
      fun x hx _ => .inl (by rw [← ho.msgs]; exact hx)⟩
  · obtain ⟨g, _, hl, _⟩ := call_factsB H ha hb hi hi' hnet hop (fun j hj => hco ⟨j, hj⟩) hcall
    exact ⟨rt, .inl hl.l, g.qak, g.qrq⟩

/-- a history under `Hyp2wB` has the facts the message-level invariants rest on -/
theorem Hyp2wB.facts0 (H : Hyp2wB cfg c0 h) : Snap5.Facts0 False cfg h := by
  obtain ⟨s0, _, hall⟩ := H.inv_at
  exact
    { hist := H.hist, fix := H.fix, ne := H.ne, nd1 := H.nd1, nd2 := H.nd2, nolone := H.nolone,
      init := H.init
      rels := fun n a b ha hb => ⟨(H.csteps n a b ha hb).step, nodeRelB H.toHypB ha hb⟩
      node_inv := fun hn _ _ hi => (node_okB H hn hi).inv
      stp := stp H
      q_of_net := fun hn _ hx hty => H.nosnap _ (mem_of_get hn) _ hx hty
      node_id := fun hn _ _ hi => (node_okB H hn hi).id
      lead_tz := fun hn _ _ hl hs => (hall _ (mem_of_get hn)).tz _ _ hl (.inr hs)
      msg_ok := fun {n a} ha {m} hm hty =>
        have I := hall a (mem_of_get ha)
        ⟨I.msgOk hm hty,
          fun k st hk => I.agree .net (msgLog m) (.log k) _ ⟨m, hm, hty, rfl⟩ ⟨st, hk, rfl⟩⟩
      call_out := fun ha hb hi hi' hnet hop hc _ hpend hcall =>
        call_out H ha hb hi hi' hnet hop hc hpend hcall
      append_prov := fun n s hn => (append_prov H n s hn).2
      snap_prov := fun hq => hq.elim }

/-- … and the facts Log Matching across time rests on; the queues of the nodes that are not mute count -/
theorem Hyp2wB.factsT (H : Hyp2wB cfg c0 h) : Snap5.FactsT live cfg h :=
  { toFactsR := H.facts0.toFactsR, inv_at := H.inv_at, trans := fun ha hb => trans_of_cstepB H.toHypB ha hb }

/-- **Log Matching across time**: any two chains of any two states of the history agree -/
theorem agree_all (H : Hyp2wB cfg c0 h) (n n' : Nat) (s s' : Sys) (hn : h[n]? = some s)
    (hn' : h[n']? = some s') (l1 l2 : Loc) (g1 g2 : LLog) (h1 : At s l1 g1) (h2 : At s' l2 g2) :
    Agree g1 g2 :=
  H.factsT.agree_all n n' s s' hn hn' l1 l2 g1 g2 h1 h2

end M
end ClusterB
end RaftModel
