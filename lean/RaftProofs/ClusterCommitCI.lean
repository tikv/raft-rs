import RaftProofs.ClusterCommitHyp
import RaftProofs.ClusterCommit4CP

/-!
Cluster-level commit safety: prefixes of a history, and **the cluster invariant `CI`** — every progress
of a leader is within its log or its queue is poisoned by a `MsgSnapshot`; every pending read index is
committed; every `MsgAppend` that is queued or in the transport is anchored; every `MsgReadIndexResp`
comes from a leader whose commit index covered it.  `CI` on every state of a prefix gives the two
clauses `anch` and `rirs` that `Hyp3a` adds to `Hyp3w` for that prefix; that `CI` holds in every state
is proved by induction along the history with the commit layer on the prefix (`Snap.ci_all`, and
`ci_all` of `ClusterCommitPlain` from it).
-/
namespace RaftModel
namespace Cluster
open Node Raft Raft.CC Raft.CP RaftProps.C02 RaftProps.C05

variable {cfg : JointConfig} {c0 : Nat} {h : List Sys}

/-! ### prefixes -/

theorem History.take {l : List Sys} (hh : History l) : ∀ k, 0 < k → History (l.take k) := by
  induction hh with
  | init s hs =>
    intro k hk
    have : [s].take k = [s] := by
      cases k with
      | zero => omega
      | succ k => simp
    rw [this]; exact .init s hs
  | step l a b hh hstep ih =>
    intro k hk
    by_cases hle : k ≤ l.length + 1
    · have : (l ++ [a, b]).take k = (l ++ [a]).take k := by
        have e : l ++ [a, b] = (l ++ [a]) ++ [b] := by simp
        rw [e, List.take_append_of_le_length (by simp; omega)]
      rw [this]; exact ih k hk
    · have : (l ++ [a, b]).take k = l ++ [a, b] := List.take_of_length_le (by simp; omega)
      rw [this]; exact .step l a b hh hstep

theorem get_take {l : List Sys} {k n : Nat} {s : Sys} (h : (l.take k)[n]? = some s) :
    l[n]? = some s ∧ n < k := by
  rw [List.getElem?_take] at h
  split at h
  · rename_i hlt; exact ⟨h, hlt⟩
  · cases h

theorem take_get {l : List Sys} {k n : Nat} (hlt : n < k) : (l.take k)[n]? = l[n]? := by
  rw [List.getElem?_take, if_pos hlt]

theorem History.ne_nil {l : List Sys} (hh : History l) : l ≠ [] := by
  cases hh with
  | init s _ => intro hc; cases hc
  | step l a b _ _ => intro hc; simp at hc

/-! ### the cluster invariant -/

/-- the two facts about one node -/
structure NodeI (st : NState) : Prop where
  po : st.raft.state = .leader →
    QSnap st.raft.msgs ∨ PAll st.raft.raftLog.lastIndex st.raft.prs
  rd : st.raft.state = .leader → ∀ p ∈ st.raft.readOnly.pendingReadIndex,
    p.2.index ≤ st.raft.raftLog.committed

/-- a freshly booted node -/
theorem NodeI.boot {c : Config} {store : MemStorage} {rnd : Option Nat} {st : NState}
    (hb : Node.boot c store rnd = .ok (.ok st)) : NodeI st ∧ st.raft.msgs = [] := by
  have hbt := CV.boot_booted c store rnd st hb
  refine ⟨⟨fun hs => ?_, fun hs => ?_⟩, hbt.msgs⟩ <;> (rw [hbt.state] at hs; cases hs)

/-- a `MsgAppend` is anchored inside its sender's log -/
def Anch (c0 : Nat) (x : Message) : Prop := x.logTerm ≠ 0 ∨ x.index ≤ c0

theorem RirSrc.mono {n n' : Nat} {x : Message} (hs : RirSrc h n x) (hle : n ≤ n') :
    RirSrc h n' x := by
  obtain ⟨n0, s0, w, stw, h1, h2⟩ := hs
  exact ⟨n0, s0, w, stw, Nat.le_trans h1 hle, h2⟩

/-- **the cluster invariant** for the state `s = h[n]` -/
structure CI (h : List Sys) (c0 n : Nat) (s : Sys) : Prop where
  node : ∀ i st, s.node i = some st → NodeI st
  qa : ∀ i st, s.node i = some st → ∀ x ∈ st.raft.msgs, x.msgType = .msgAppend →
    QSnap st.raft.msgs ∨ Anch c0 x
  qr : ∀ i st, s.node i = some st → ∀ x ∈ st.raft.msgs, x.msgType = .msgReadIndexResp →
    RirSrc h n x
  na : ∀ x ∈ s.net, x.msgType = .msgAppend → Anch c0 x
  nr : ∀ x ∈ s.net, x.msgType = .msgReadIndexResp → RirSrc h n x

end Cluster
end RaftModel
