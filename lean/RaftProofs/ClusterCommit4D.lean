import RaftProofs.ClusterCommit4C

/-!
Cluster-level commit safety, part 4D: `PW` / `LW` through `reset` and the role changes.
-/
namespace RaftModel
namespace Raft
namespace PerCall
open RaftProps.C13

variable {E : Rule}

/-! ### `reset` -/

theorem reset_pall (r : Raft) (t : Nat) (hinv : r.raftLog.Inv) :
    PAll E r.msgs r.raftLog.lastIndex (r.reset t).prs := by
  intro p hp
  rw [reset_progress] at hp
  simp only [List.mem_map] at hp
  obtain ⟨q, _, rfl⟩ := hp
  dsimp only
  split
  · exact .of_ns hinv.persisted_le_last (Nat.le_refl _) (by intro hc; cases hc)
  · exact POk.reset _ _ _

/-- after `reset` the progress and read-only clauses hold whatever the role -/
theorem reset_pwp {a r : Raft} (t : Nat) (h0 : PW E a r) (st : StateRole) :
    PWP E a st (r.reset t).raftLog (r.reset t).prs (r.reset t).readOnly (r.reset t).batchAppend
      (r.reset t).msgs := by
  rw [reset_raftLog, reset_msgs, reset_batchAppend]
  refine ⟨h0.inv, h0.nb, fun _ => .inr (reset_pall r t h0.inv), fun _ p hp => ?_, h0.qa, h0.qr,
    h0.sn, h0.fi, h0.qf⟩
  rw [reset_readOnly] at hp; cases hp

theorem reset_pw {a r : Raft} (t : Nat) (h0 : PW E a r) : PW E a (r.reset t) := reset_pwp t h0 _

/-! ### role changes -/

theorem becomeFollower_nl (r : Raft) (t l : Nat) : (r.becomeFollower t l).state ≠ .leader := by
  rw [(RaftProps.C16.becomeFollower_proj r t l).1]; intro hc; cases hc

theorem becomeFollower_pw {a r : Raft} (t l : Nat) (h0 : PW E a r) :
    PW E a (r.becomeFollower t l) := by
  have h1 : PW E a (r.reset t) := reset_pw t h0
  have h2 := h1.log (c05_limit_same (r.reset t).raftLog 0)
  exact h2.nonleader (becomeFollower_nl r t l)

theorem becomeCandidate_pw {a r r' : Raft} (h : r.becomeCandidate = .ok r') (h0 : PW E a r) :
    PW E a r' ∧ r'.state = .candidate := by
  unfold Raft.becomeCandidate at h
  split at h
  · cases h
  · split at h
    · cases h
    · cases h
      have h1 := reset_pwp (r.term + 1) h0 .candidate
      exact ⟨h1, rfl⟩

theorem becomePreCandidate_pw {a r r' : Raft} (h : r.becomePreCandidate = .ok r') (h0 : PW E a r) :
    PW E a r' ∧ r'.state = .preCandidate := by
  unfold Raft.becomePreCandidate at h
  split at h
  · cases h
  · cases h
    exact ⟨h0.nonleader (by intro hc; cases hc), rfl⟩

theorem becomeLeader_lw {a r r' : Raft} (h : r.becomeLeader = .ok r') (h0 : PW E a r) :
    LW E a r' :=
  becomeLeader_parts2 (R := fun _ => True) (P := LW E a) h trivial
    (@fun _ _ pr0 e hg _ => by
      subst e
      -- the leader state before the empty entry is appended
      have h1 := reset_pwp r.term h0 .leader
      have h2 : LW E a { (r.reset r.term) with state := .leader } := ⟨h1, rfl⟩
      exact LW.mk' (h2.setPr (id := (r.reset r.term).id)
        ((h1.po rfl).imp (fun c => c) fun c => (c.get hg).becomeReplicate)))
    fun ha p => appendEntry_lw ha p

end PerCall
end Raft
end RaftModel
