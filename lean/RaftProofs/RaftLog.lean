import RaftModel.RaftLog
import RaftProofs.Contig

/-!
Helper lemmas for C14: well-formedness of the unstable part (that of the storage:
`RaftProofs/Contig.lean`), the representation invariant of `RaftLog`, and the facts about `abs` that
the property theorems in `RaftProps/C14.lean` use.
`Inv.abs_shape` gives the logical log in one form with or without a pending snapshot;
`Unstable.WF.truncateAndAppend_eq` gives `truncate_and_append` as one equation, from which `append`
(`cutAppend`) and `maybe_append` follow without a case distinction on where the batch starts.
-/
namespace RaftModel

/-! ### unstable -/

namespace Unstable

structure WF (u : Unstable) : Prop where
  contig : ∀ k e, u.entries[k]? = some e → e.index = u.offset + k
  size : u.entriesSize = approxSize u.entries
  snap : ∀ sn, u.snapshot = some sn → u.offset = sn.metadata.index + 1

end Unstable

/-! ### the representation invariant -/

namespace RaftLog

/-- The invariant of `RaftLog` (all the facts the queries rely on).  `applied ≤ committed` is kept
separate (`AppliedOk`) because of the documented restart window. -/
structure Inv (l : RaftLog) : Prop where
  storeWF : l.store.WF
  unstWF : l.unstable.WF
  first_le_off : l.unstable.snapshot = none → l.store.firstIndex ≤ l.unstable.offset
  off_le_last : l.unstable.snapshot = none → l.unstable.offset ≤ l.store.lastIndex + 1
  ents_empty : l.unstable.snapshot = none → l.unstable.entries = [] →
    l.unstable.offset = l.store.lastIndex + 1
  dummy_le_committed : l.firstIndex ≤ l.committed + 1
  committed_le_last : l.committed ≤ l.lastIndex
  persisted_lt_off : l.persisted < l.unstable.offset
  persisted_le_store : l.persisted ≤ l.store.lastIndex

/-- `applied ≤ committed` (false only in the restart window, see raft_log.rs:44-46) -/
def AppliedOk (l : RaftLog) : Prop := l.applied ≤ l.committed

/-! ### what a successful operation is

One inversion per operation of `raft_log.rs` that moves a cursor or the unstable part: the new log,
exactly, and the guard that let it through.  What an operation leaves alone (`store`, the other
cursors, the logical log) is read off the equation. -/

/-- `commit_to` (raft_log.rs:299): never decreases `committed`; raises it only to an index inside
the log, and touches nothing else -/
theorem commitTo_inv {l l' : RaftLog} {c : Nat} (h : l.commitTo c = .ok l') :
    (c ≤ l.committed ∧ l' = l) ∨
    (l.committed < c ∧ c ≤ l.lastIndex ∧ l' = { l with committed := c }) := by
  unfold commitTo at h
  by_cases hc : c ≤ l.committed
  · rw [if_pos hc] at h; cases h; exact .inl ⟨hc, rfl⟩
  · rw [if_neg hc] at h
    by_cases hl : l.lastIndex < c
    · rw [if_pos hl] at h; cases h
    · rw [if_neg hl] at h; cases h; exact .inr ⟨by omega, by omega, rfl⟩

/-- `applied_to` (raft_log.rs:322): index 0 is ignored; otherwise the apply cursor moves forward,
up to the commit index -/
theorem appliedTo_inv {l l' : RaftLog} {i : Nat} (h : l.appliedTo i = .ok l') :
    (i = 0 ∧ l' = l) ∨ (l.applied ≤ i ∧ i ≤ l.committed ∧ l' = { l with applied := i }) := by
  unfold appliedTo at h
  by_cases h0 : i = 0
  · rw [if_pos h0] at h; cases h; exact .inl ⟨h0, rfl⟩
  · rw [if_neg h0] at h
    by_cases hp : l.committed < i ∨ i < l.applied
    · rw [if_pos hp] at h; cases h
    · rw [if_neg hp] at h; cases h; exact .inr ⟨by omega, by omega, rfl⟩

/-- `maybe_commit` (raft_log.rs:525): `commit_to(max_index)` when that is beyond `committed` and the
entry there has the given term; otherwise nothing -/
theorem maybeCommit_inv {l l' : RaftLog} {i t : Nat} {b : Bool}
    (h : l.maybeCommit i t = .ok (l', b)) :
    (b = true ∧ l.committed < i ∧ i ≤ l.lastIndex ∧ l.term i = .ok t ∧
      l' = { l with committed := i }) ∨ (b = false ∧ l' = l) := by
  unfold maybeCommit at h
  by_cases hc : l.committed < i
  · rw [if_pos hc] at h
    cases ht : l.term i with
    | ok t' =>
      rw [ht] at h
      dsimp only at h
      by_cases htt : t' = t
      · rw [if_pos htt] at h
        cases hct : l.commitTo i with
        | ok l2 =>
          rw [hct] at h; cases h
          rcases commitTo_inv hct with ⟨hle, _⟩ | ⟨_, hl, e⟩
          · omega
          · exact .inl ⟨rfl, hc, hl, htt ▸ rfl, e⟩
        | err e => rw [hct] at h; cases h
        | panic s => rw [hct] at h; cases h
      · rw [if_neg htt] at h; cases h; exact .inr ⟨rfl, rfl⟩
    | err e => rw [ht] at h; cases h; exact .inr ⟨rfl, rfl⟩
    | panic s => rw [ht] at h; cases h
  · rw [if_neg hc] at h; cases h; exact .inr ⟨rfl, rfl⟩

/-- `maybe_persist` (raft_log.rs:545) either moves `persisted` up to `index` and says so, or
changes nothing -/
theorem maybePersist_inv {l l' : RaftLog} {index term : Nat} {b : Bool}
    (h : l.maybePersist index term = .ok (l', b)) :
    (b = true ∧ l' = { l with persisted := index } ∧ l.persisted < index) ∨ (b = false ∧ l' = l) := by
  have key : ∀ fu,
      (if l.persisted < index ∧ index < fu then
        match l.store.term index with
        | .ok t => if t = term then Res.ok (({ l with persisted := index } : RaftLog), true)
                   else .ok (l, false)
        | .err _ => .ok (l, false)
        | .panic s => .panic s
      else .ok (l, false)) = .ok (l', b) →
      (b = true ∧ l' = { l with persisted := index } ∧ l.persisted < index) ∨ (b = false ∧ l' = l) := by
    intro fu h
    by_cases hc : l.persisted < index ∧ index < fu
    · rw [if_pos hc] at h
      cases ht : l.store.term index with
      | ok t =>
        rw [ht] at h
        dsimp only at h
        by_cases htt : t = term
        · rw [if_pos htt] at h; cases h; exact .inl ⟨rfl, rfl, hc.1⟩
        · rw [if_neg htt] at h; cases h; exact .inr ⟨rfl, rfl⟩
      | err e => rw [ht] at h; cases h; exact .inr ⟨rfl, rfl⟩
      | panic s => rw [ht] at h; cases h
    · rw [if_neg hc] at h; cases h; exact .inr ⟨rfl, rfl⟩
  unfold maybePersist at h
  exact key _ h

/-- `maybe_persist_snap` (raft_log.rs:572) -/
theorem maybePersistSnap_inv {l l' : RaftLog} {i : Nat} {b : Bool}
    (h : l.maybePersistSnap i = .ok (l', b)) :
    (b = true ∧ l.persisted < i ∧ i ≤ l.committed ∧ i < l.unstable.offset ∧
      l' = { l with persisted := i }) ∨ (b = false ∧ l' = l) := by
  unfold maybePersistSnap at h
  by_cases h1 : l.persisted < i
  · rw [if_pos h1] at h
    by_cases h2 : l.committed < i
    · rw [if_pos h2] at h; cases h
    rw [if_neg h2] at h
    by_cases h3 : l.unstable.offset ≤ i
    · rw [if_pos h3] at h; cases h
    · rw [if_neg h3] at h; cases h; exact .inl ⟨rfl, h1, by omega, by omega, rfl⟩
  · rw [if_neg h1] at h; cases h; exact .inr ⟨rfl, rfl⟩

/-- `restore` (raft_log.rs:688) -/
theorem restore_inv {l l' : RaftLog} {sn : Snapshot} (h : l.restore sn = .ok l') :
    l.committed ≤ sn.metadata.index ∧
    l' = { l with persisted := if l.committed < l.persisted then l.committed else l.persisted,
                  committed := sn.metadata.index, unstable := l.unstable.restore sn } := by
  unfold restore at h
  by_cases hc : sn.metadata.index < l.committed
  · rw [if_pos hc] at h; cases h
  · rw [if_neg hc] at h; cases h; exact ⟨by omega, rfl⟩

/-- `stable_snap`, `stable_entries` (raft_log.rs:352-360), `append` (raft_log.rs:377): the unstable
part only -/
theorem stableSnap_inv {l l' : RaftLog} {i : Nat} (h : l.stableSnap i = .ok l') :
    ∃ u, l.unstable.stableSnap i = .ok u ∧ l' = { l with unstable := u } := by
  unfold stableSnap at h
  cases hu : l.unstable.stableSnap i with
  | ok u => rw [hu] at h; cases h; exact ⟨u, rfl, rfl⟩
  | err e => rw [hu] at h; cases h
  | panic s => rw [hu] at h; cases h

theorem stableEntries_inv {l l' : RaftLog} {i t : Nat} (h : l.stableEntries i t = .ok l') :
    ∃ u, l.unstable.stableEntries i t = .ok u ∧ l' = { l with unstable := u } := by
  unfold stableEntries at h
  cases hu : l.unstable.stableEntries i t with
  | ok u => rw [hu] at h; cases h; exact ⟨u, rfl, rfl⟩
  | err e => rw [hu] at h; cases h
  | panic s => rw [hu] at h; cases h

theorem append_inv {l l' : RaftLog} {ents : List Entry} {k : Nat}
    (h : l.append ents = .ok (l', k)) :
    (ents = [] ∧ l' = l) ∨
    ∃ u, l.unstable.truncateAndAppend ents = .ok u ∧ l' = { l with unstable := u } := by
  unfold append at h
  cases ents with
  | nil => cases h; exact .inl ⟨rfl, rfl⟩
  | cons e0 es =>
    simp only [] at h
    by_cases h0 : e0.index = 0
    · rw [if_pos h0] at h; cases h
    rw [if_neg h0] at h
    by_cases h1 : e0.index - 1 < l.committed
    · rw [if_pos h1] at h; cases h
    rw [if_neg h1] at h
    cases ht : l.unstable.truncateAndAppend (e0 :: es) with
    | ok u => rw [ht] at h; cases h; exact .inr ⟨u, rfl, rfl⟩
    | err e => rw [ht] at h; cases h
    | panic s => rw [ht] at h; cases h

/-- `truncate_and_append` keeps the pending snapshot -/
theorem _root_.RaftModel.Unstable.truncateAndAppend_snapshot {u u' : Unstable} {ents : List Entry}
    (h : u.truncateAndAppend ents = .ok u') : u'.snapshot = u.snapshot := by
  unfold Unstable.truncateAndAppend at h
  cases ents with
  | nil => cases h
  | cons e0 es =>
    simp only [] at h
    by_cases h1 : e0.index = u.offset + u.entries.length
    · rw [if_pos h1] at h; injection h with h; subst h; rfl
    · rw [if_neg h1] at h
      by_cases h2 : e0.index ≤ u.offset
      · rw [if_pos h2] at h; injection h with h; subst h; rfl
      · rw [if_neg h2] at h
        cases hm : u.mustCheckOutOfBounds u.offset e0.index with
        | ok x =>
          rw [hm] at h
          simp only [] at h
          split at h
          · cases h
          · injection h with h; subst h; rfl
        | err e => rw [hm] at h; cases h
        | panic s => rw [hm] at h; cases h

theorem firstIndex_none {l : RaftLog} (h : l.unstable.snapshot = none) :
    l.firstIndex = l.store.firstIndex := by
  simp [firstIndex, Unstable.maybeFirstIndex, h]

theorem firstIndex_some {l : RaftLog} {sn : Snapshot} (h : l.unstable.snapshot = some sn) :
    l.firstIndex = sn.metadata.index + 1 := by
  simp [firstIndex, Unstable.maybeFirstIndex, h]

theorem abs_none {l : RaftLog} (h : l.unstable.snapshot = none) :
    l.abs = { snapIdx := l.store.firstIndex - 1,
              snapTerm := if l.store.firstIndex - 1 = l.store.snapshotMetadata.index
                  then some l.store.snapshotMetadata.term else none,
              ents := l.store.entries.take (l.unstable.offset - l.store.firstIndex) ++
                l.unstable.entries } := by
  simp [abs, h]

theorem abs_some {l : RaftLog} {sn : Snapshot} (h : l.unstable.snapshot = some sn) :
    l.abs = { snapIdx := sn.metadata.index, snapTerm := some sn.metadata.term,
              ents := l.unstable.entries } := by
  simp [abs, h]

theorem Inv.last_succ {l : RaftLog} (h : l.Inv) :
    l.lastIndex + 1 = l.unstable.offset + l.unstable.entries.length := by
  unfold lastIndex Unstable.maybeLastIndex
  by_cases he : l.unstable.entries.length = 0
  · have hnil : l.unstable.entries = [] := List.eq_nil_of_length_eq_zero he
    cases hs : l.unstable.snapshot with
    | none =>
      have := h.ents_empty hs hnil
      simp only [he, if_true]; omega
    | some sn =>
      have := h.unstWF.snap sn hs
      simp only [he, if_true]; omega
  · simp only [he, if_false]; omega

theorem Inv.off_ge_first {l : RaftLog} (h : l.Inv) : l.firstIndex ≤ l.unstable.offset := by
  cases hs : l.unstable.snapshot with
  | none => rw [firstIndex_none hs]; exact h.first_le_off hs
  | some sn => rw [firstIndex_some hs, h.unstWF.snap sn hs]; exact Nat.le_refl _

theorem Inv.first_pos {l : RaftLog} (h : l.Inv) : 1 ≤ l.firstIndex := by
  cases hs : l.unstable.snapshot with
  | none => rw [firstIndex_none hs]; exact h.storeWF.first_pos
  | some sn => rw [firstIndex_some hs]; exact Nat.le_add_left 1 _

/-- number of storage entries that are part of the logical log -/
theorem Inv.take_len {l : RaftLog} (h : l.Inv) (hs : l.unstable.snapshot = none) :
    (l.store.entries.take (l.unstable.offset - l.store.firstIndex)).length =
      l.unstable.offset - l.store.firstIndex := by
  have := h.storeWF.last_succ
  have := h.off_le_last hs
  rw [List.length_take]; omega

/-- The logical log, with or without a pending snapshot: its snapshot point is just below
`firstIndex`, and its entries are `offset - firstIndex` stored ones followed by the unstable ones. -/
theorem Inv.abs_shape {l : RaftLog} (h : l.Inv) :
    l.abs.snapIdx = l.firstIndex - 1 ∧
    ∃ pre, l.abs.ents = pre ++ l.unstable.entries ∧
      pre.length = l.unstable.offset - l.firstIndex := by
  cases hs : l.unstable.snapshot with
  | none => rw [abs_none hs, firstIndex_none hs]; exact ⟨rfl, _, rfl, h.take_len hs⟩
  | some sn =>
    rw [abs_some hs, firstIndex_some hs, h.unstWF.snap sn hs]
    exact ⟨(Nat.add_sub_cancel ..).symm, [], rfl, (Nat.sub_self _).symm⟩

theorem Inv.firstIndex_abs {l : RaftLog} (h : l.Inv) : l.firstIndex = l.abs.firstIndex := by
  have := h.first_pos
  rw [LLog.firstIndex, h.abs_shape.1]; omega

theorem Inv.lastIndex_abs {l : RaftLog} (h : l.Inv) : l.lastIndex = l.abs.lastIndex := by
  obtain ⟨hsn, pre, he, hp⟩ := h.abs_shape
  have := h.last_succ; have := h.off_ge_first; have := h.first_pos
  rw [LLog.lastIndex, hsn, he, List.length_append, hp]; omega

/-- the entry of the logical log at raft index `i` inside the unstable part -/
theorem Inv.entryAt_unstable {l : RaftLog} (h : l.Inv) {i : Nat} (hi : l.unstable.offset ≤ i) :
    l.abs.entryAt i = l.unstable.entries[i - l.unstable.offset]? := by
  obtain ⟨hsn, pre, he, hp⟩ := h.abs_shape
  have hF := h.first_pos; have hFO := h.off_ge_first
  rw [LLog.entryAt, hsn, he,
    if_neg (Nat.not_le.mpr (Nat.lt_of_lt_of_le (Nat.sub_lt hF Nat.one_pos) (Nat.le_trans hFO hi))),
    Nat.sub_sub, Nat.sub_add_cancel hF,
    List.getElem?_append_right (hp ▸ Nat.sub_le_sub_right hi _), hp,
    Nat.sub_sub_sub_cancel_right hFO]

/-- … and inside the storage part (no pending snapshot) -/
theorem Inv.entryAt_store {l : RaftLog} (h : l.Inv) (hs : l.unstable.snapshot = none) {i : Nat}
    (h1 : l.store.firstIndex ≤ i) (h2 : i < l.unstable.offset) :
    l.abs.entryAt i = l.store.entries[i - l.store.firstIndex]? := by
  have hp := h.storeWF.first_pos
  have hlt : i - l.store.firstIndex < l.unstable.offset - l.store.firstIndex :=
    Nat.sub_lt_sub_right h1 h2
  rw [abs_none hs]
  simp only [LLog.entryAt]
  rw [if_neg (Nat.not_le.mpr (Nat.lt_of_lt_of_le (Nat.sub_lt hp Nat.one_pos) h1)), Nat.sub_sub,
    Nat.sub_add_cancel hp, List.getElem?_append_left (by rw [h.take_len hs]; exact hlt),
    List.getElem?_take, if_pos hlt]

/-- `maybe_term` at the position of an unstable entry -/
theorem _root_.RaftModel.Unstable.maybeTerm_entry (u : Unstable) {i : Nat} {e : Entry}
    (h1 : u.offset ≤ i) (he : u.entries[i - u.offset]? = some e) :
    u.maybeTerm i = .ok (some e.term) := by
  have hlt : i - u.offset < u.entries.length := (List.getElem?_eq_some_iff.1 he).1
  unfold Unstable.maybeTerm Unstable.maybeLastIndex
  rw [if_neg (by omega), if_neg (by omega)]
  simp only []
  rw [if_neg (by omega), he]

theorem Inv.term_abs {l : RaftLog} (h : l.Inv) (i : Nat) : l.term i = l.abs.term i := by
  have hfpos := h.first_pos
  unfold term LLog.term
  rw [if_neg (by omega), h.abs_shape.1, ← h.lastIndex_abs]
  by_cases hout : i < l.firstIndex - 1 ∨ l.lastIndex < i
  · rw [if_pos hout, if_pos hout]
  · rw [if_neg hout, if_neg hout]
    by_cases hu : l.unstable.offset ≤ i
    · -- inside the unstable entries
      have hls := h.last_succ; have hof := h.off_ge_first
      have hlt : i - l.unstable.offset < l.unstable.entries.length := by omega
      have hget := List.getElem?_eq_getElem hlt
      rw [l.unstable.maybeTerm_entry hu hget, if_neg (by omega), h.entryAt_unstable hu, hget]
    · have hlt : i < l.unstable.offset := Nat.lt_of_not_le hu
      cases hs : l.unstable.snapshot with
      | none =>
        -- below the unstable offset: storage answers
        have hfn := firstIndex_none hs
        have hmt : l.unstable.maybeTerm i = .ok none := by
          unfold Unstable.maybeTerm; rw [if_pos hlt, hs]
        rw [hmt]
        simp only []
        by_cases hd : i = l.firstIndex - 1
        · rw [if_pos hd, hd, hfn, h.storeWF.term_dummy, abs_none hs]
          by_cases hc : l.store.firstIndex - 1 = l.store.snapshotMetadata.index
          · simp [hc]
          · simp [hc]
        · rw [if_neg hd]
          have hol := h.off_le_last hs
          obtain ⟨e, he, ht⟩ := h.storeWF.term_in (i := i) (by omega) (by omega)
          rw [ht, h.entryAt_store hs (by omega) hlt, he]
      | some sn =>
        -- a pending snapshot: the only position below the offset is the snapshot's
        have hfs := firstIndex_some hs
        have ho := h.unstWF.snap sn hs
        have hd : i = sn.metadata.index := by omega
        have hmt : l.unstable.maybeTerm i = .ok (some sn.metadata.term) := by
          unfold Unstable.maybeTerm
          rw [if_pos hlt, hs]
          simp only []
          rw [if_pos hd]
        rw [hmt, if_pos (by omega), abs_some hs]

/-! ### queries that are functions of `term` / `lastIndex` only -/

theorem _root_.RaftModel.LLog.term_cases (g : LLog) (i : Nat) :
    (∃ t, g.term i = .ok t) ∨ g.term i = .err .compacted := by
  unfold LLog.term
  split
  · exact .inl ⟨_, rfl⟩
  · split
    · split
      · exact .inl ⟨_, rfl⟩
      · exact .inr rfl
    · split <;> exact .inl ⟨_, rfl⟩

theorem Inv.matchTerm_abs {l : RaftLog} (h : l.Inv) (i t : Nat) :
    l.matchTerm i t = .ok (l.abs.matchTerm i t) := by
  unfold matchTerm LLog.matchTerm
  rw [h.term_abs]
  rcases l.abs.term_cases i with ⟨t', ht⟩ | ht <;> rw [ht]

theorem Inv.findConflict_abs {l : RaftLog} (h : l.Inv) (ents : List Entry) :
    l.findConflict ents = .ok (l.abs.findConflict ents) := by
  induction ents with
  | nil => rfl
  | cons e es ih =>
    simp only [findConflict, LLog.findConflict, h.matchTerm_abs]
    cases l.abs.matchTerm e.index e.term
    · simp
    · simpa using ih

theorem Inv.lastTerm_abs {l : RaftLog} (h : l.Inv) : l.lastTerm = l.abs.lastTerm := by
  unfold lastTerm LLog.lastTerm
  rw [h.term_abs, h.lastIndex_abs]
  rcases l.abs.term_cases l.abs.lastIndex with ⟨t', ht⟩ | ht <;> rw [ht]

theorem Inv.isUpToDate_abs {l : RaftLog} (h : l.Inv) (i t : Nat) :
    l.isUpToDate i t = l.abs.isUpToDate i t := by
  unfold isUpToDate LLog.isUpToDate
  rw [h.lastTerm_abs, h.lastIndex_abs]

theorem Inv.fcbtLoop_abs {l : RaftLog} (h : l.Inv) (term : Nat)
    (hz : ∀ t0, l.abs.term 0 = .ok t0 → t0 ≤ term) (ci : Nat) :
    l.findConflictByTermLoop term ci = .ok (l.abs.findConflictByTerm term ci) := by
  induction ci with
  | zero =>
    simp only [findConflictByTermLoop, LLog.findConflictByTerm, h.term_abs]
    rcases l.abs.term_cases 0 with ⟨t', ht⟩ | ht
    · have := hz _ ht
      rw [ht]; simp only []
      rw [if_neg (by omega)]
    · rw [ht]
  | succ n ih =>
    simp only [findConflictByTermLoop, LLog.findConflictByTerm, h.term_abs]
    rcases l.abs.term_cases (n + 1) with ⟨t', ht⟩ | ht
    · rw [ht]; simp only []
      by_cases hlt : term < t'
      · rw [if_pos hlt, if_pos hlt]; exact ih
      · rw [if_neg hlt, if_neg hlt]
    · rw [ht]

theorem Inv.commitInfo_abs {l : RaftLog} (h : l.Inv) :
    l.commitInfo = match l.abs.term l.committed with
      | .ok t => .ok (l.committed, t)
      | _ => .panic "raft_log.commit_info.missing" := by
  unfold commitInfo
  rw [h.term_abs]
  rcases l.abs.term_cases l.committed with ⟨t', ht⟩ | ht <;> rw [ht]

/-! ### `truncate_and_append` -/

theorem approxSize_append (a b : List Entry) : approxSize (a ++ b) = approxSize a + approxSize b := by
  simp [approxSize, List.map_append, List.sum_append]

theorem approxSize_take_drop (a : List Entry) (n : Nat) :
    approxSize (a.take n) + approxSize (a.drop n) = approxSize a := by
  rw [← approxSize_append, List.take_append_drop]

/-- the three cases of `Unstable::truncate_and_append` (and the gap panic) -/
theorem _root_.RaftModel.Unstable.WF.truncateAndAppend {u : Unstable} (h : u.WF) (e0 : Entry)
    (es : List Entry) :
    (e0.index = u.offset + u.entries.length →
      u.truncateAndAppend (e0 :: es) = .ok { u with
        entries := u.entries ++ (e0 :: es),
        entriesSize := approxSize (u.entries ++ e0 :: es) }) ∧
    (e0.index ≤ u.offset → e0.index ≠ u.offset + u.entries.length →
      u.truncateAndAppend (e0 :: es) = .ok { u with
        offset := e0.index, entries := (e0 :: es),
        entriesSize := approxSize (e0 :: es) }) ∧
    (u.offset < e0.index → e0.index < u.offset + u.entries.length →
      u.truncateAndAppend (e0 :: es) = .ok { u with
        entries := u.entries.take (e0.index - u.offset) ++ (e0 :: es),
        entriesSize := approxSize (u.entries.take (e0.index - u.offset) ++ e0 :: es) }) ∧
    (u.offset + u.entries.length < e0.index →
      ∃ s, u.truncateAndAppend (e0 :: es) = .panic s) := by
  refine ⟨?_, ?_, ?_, ?_⟩
  · intro h1
    simp only [Unstable.truncateAndAppend, h1, if_true]
    rw [h.size, approxSize_append]
  · intro h1 h2
    simp only [Unstable.truncateAndAppend, if_neg h2, if_pos h1]
  · intro h1 h2
    have hsz := approxSize_take_drop u.entries (e0.index - u.offset)
    simp only [Unstable.truncateAndAppend]
    rw [if_neg (by omega), if_neg (by omega)]
    have hm : u.mustCheckOutOfBounds u.offset e0.index = .ok () := by
      unfold Unstable.mustCheckOutOfBounds
      rw [if_neg (by omega), if_neg (by omega)]
    rw [hm]
    simp only []
    rw [if_neg (by rw [h.size]; omega), approxSize_append, h.size]
    congr 2
    omega
  · intro h1
    simp only [Unstable.truncateAndAppend]
    rw [if_neg (by omega), if_neg (by omega)]
    have hm : u.mustCheckOutOfBounds u.offset e0.index =
        .panic "unstable.must_check_outofbounds.range" := by
      unfold Unstable.mustCheckOutOfBounds
      rw [if_neg (by omega), if_pos (by omega)]
    rw [hm]
    exact ⟨_, rfl⟩

/-- `Unstable::truncate_and_append` for a batch that starts at or before the end of the entries, in
one equation: the entries are cut at the batch's first index and the batch is put behind (a batch
from at or before the offset replaces everything and moves the offset down) -/
theorem _root_.RaftModel.Unstable.WF.truncateAndAppend_eq {u : Unstable} (h : u.WF) (e0 : Entry)
    (es : List Entry) (hle : e0.index ≤ u.offset + u.entries.length) :
    u.truncateAndAppend (e0 :: es) = .ok { u with
      offset := min u.offset e0.index,
      entries := u.entries.take (e0.index - u.offset) ++ e0 :: es,
      entriesSize := approxSize (u.entries.take (e0.index - u.offset) ++ e0 :: es) } := by
  obtain ⟨hA, hB, hC, _⟩ := h.truncateAndAppend e0 es
  by_cases heq : e0.index = u.offset + u.entries.length
  · rw [hA heq, Nat.min_eq_left (by omega), List.take_of_length_le (by omega)]
  · by_cases hlo : e0.index ≤ u.offset
    · rw [hB hlo heq, Nat.min_eq_right hlo, Nat.sub_eq_zero_of_le hlo, List.take_zero,
        List.nil_append]
    · rw [hC (by omega) (by omega), Nat.min_eq_left (by omega)]

/-! ### `append` -/

/-- the log after `append`ing a batch that starts at `idx`: the unstable entries cut at `idx`, the
batch behind them -/
def cutAppend (l : RaftLog) (idx : Nat) (sfx : List Entry) : RaftLog :=
  { l with unstable := { l.unstable with
      offset := min l.unstable.offset idx,
      entries := l.unstable.entries.take (idx - l.unstable.offset) ++ sfx,
      entriesSize := approxSize (l.unstable.entries.take (idx - l.unstable.offset) ++ sfx) } }

theorem lastIndex_of_ne_nil (l : RaftLog) (h : l.unstable.entries ≠ []) :
    l.lastIndex = l.unstable.offset + l.unstable.entries.length - 1 := by
  unfold lastIndex Unstable.maybeLastIndex
  rw [if_neg (mt List.eq_nil_of_length_eq_zero h)]

theorem cut_len_arith {o i u : Nat} (hle : i ≤ o + u) : min o i + min (i - o) u = i := by
  rcases Nat.le_total i o with h | h
  · rw [Nat.min_eq_right h, Nat.sub_eq_zero_of_le h, Nat.zero_min, Nat.add_zero]
  · rw [Nat.min_eq_left h, Nat.min_eq_left (Nat.sub_le_of_le_add (Nat.add_comm o u ▸ hle)),
      Nat.add_sub_cancel' h]

theorem lastIndex_cutAppend (l : RaftLog) (idx : Nat) (sfx : List Entry) (hne : sfx ≠ [])
    (hle : idx ≤ l.unstable.offset + l.unstable.entries.length) :
    (l.cutAppend idx sfx).lastIndex = idx + sfx.length - 1 := by
  rw [lastIndex_of_ne_nil _ (fun he => hne (List.append_eq_nil_iff.1 he).2)]
  show min l.unstable.offset idx +
    (l.unstable.entries.take (idx - l.unstable.offset) ++ sfx).length - 1 = _
  rw [List.length_append, List.length_take, ← Nat.add_assoc, cut_len_arith hle]

/-- cutting the log at `i` cuts its stored part (first index `f`, up to the offset `o`) at
`min o i` and the unstable part at `i - o` -/
theorem cut_arith {f o i : Nat} (hf : 1 ≤ f) (hi : f ≤ i) (ho : f ≤ o) :
    min (i - 1 - (f - 1)) (o - f) = min o i - f ∧ i - 1 - (f - 1) - (o - f) = i - o := by
  rw [Nat.sub_sub_sub_cancel_right hf, Nat.sub_sub_sub_cancel_right ho]
  obtain ⟨a, rfl⟩ := Nat.exists_eq_add_of_le hi
  obtain ⟨b, rfl⟩ := Nat.exists_eq_add_of_le ho
  rw [Nat.add_sub_cancel_left, Nat.add_sub_cancel_left, Nat.add_min_add_left,
    Nat.add_sub_cancel_left, Nat.add_sub_add_left, Nat.min_comm]
  exact ⟨rfl, rfl⟩

/-- the logical log after `append`, in terms of `truncateAppend` -/
theorem Inv.abs_cutAppend {l : RaftLog} (h : l.Inv) {idx : Nat} (hF : l.firstIndex ≤ idx)
    (sfx : List Entry) :
    (l.cutAppend idx sfx).abs = l.abs.truncateAppend (idx - 1) sfx := by
  cases hs : l.unstable.snapshot with
  | none =>
    have hp := h.storeWF.first_pos
    have hf := firstIndex_none hs
    have hfo := h.first_le_off hs
    rw [abs_none (l := l.cutAppend idx sfx) hs, abs_none hs]
    simp only [cutAppend, LLog.truncateAppend, LLog.mk.injEq, true_and]
    rw [← List.append_assoc, List.take_append, h.take_len hs, List.take_take]
    obtain ⟨e1, e2⟩ := cut_arith (o := l.unstable.offset) hp (hf ▸ hF) hfo
    rw [e1, e2]
    exact ⟨rfl, rfl⟩
  | some sn =>
    have ho := h.unstWF.snap sn hs
    have hf := firstIndex_some hs
    rw [abs_some (l := l.cutAppend idx sfx) hs, abs_some hs]
    simp only [cutAppend, LLog.truncateAppend, LLog.mk.injEq, true_and]
    rw [show idx - 1 - sn.metadata.index = idx - l.unstable.offset by omega]

/-- the invariant after `append` (the persisted cursor may have been moved back below the batch) -/
theorem Inv.cutAppend {l : RaftLog} (h : l.Inv) {idx : Nat} {sfx : List Entry}
    (hc : ContigFrom idx sfx) (hne : sfx ≠ []) (hF : l.firstIndex ≤ idx)
    (hle : idx ≤ l.unstable.offset + l.unstable.entries.length) (p : Nat) (hp : p < idx)
    (hp2 : p ≤ l.persisted) (hcm : l.committed < idx) :
    Inv { l.cutAppend idx sfx with persisted := p } := by
  have hpo := h.persisted_lt_off
  refine ⟨h.storeWF, ⟨?_, rfl, fun sn hs => ?_⟩, fun hs => ?_, fun hs => ?_,
    fun _ he => absurd (List.append_eq_nil_iff.1 he).2 hne, h.dummy_le_committed, ?_, ?_,
    Nat.le_trans hp2 h.persisted_le_store⟩
  · show ContigFrom (min l.unstable.offset idx)
      (l.unstable.entries.take (idx - l.unstable.offset) ++ sfx)
    by_cases hlo : idx ≤ l.unstable.offset
    · rw [Nat.min_eq_right hlo, Nat.sub_eq_zero_of_le hlo, List.take_zero, List.nil_append]
      exact hc
    · rw [Nat.min_eq_left (by omega)]
      apply ContigFrom.append (ContigFrom.take h.unstWF.contig _)
      rw [List.length_take, show l.unstable.offset + min (idx - l.unstable.offset)
        l.unstable.entries.length = idx by omega]
      exact hc
  · show min l.unstable.offset idx = sn.metadata.index + 1
    rw [h.unstWF.snap sn hs]
    exact Nat.min_eq_left (firstIndex_some (l := l) hs ▸ hF)
  · exact Nat.le_min.2 ⟨h.first_le_off hs, firstIndex_none (l := l) hs ▸ hF⟩
  · exact Nat.le_trans (Nat.min_le_left _ _) (h.off_le_last hs)
  · show l.committed ≤ (l.cutAppend idx sfx).lastIndex
    have hpos : 0 < sfx.length := List.length_pos_iff.2 hne
    rw [lastIndex_cutAppend l idx sfx hne hle]; omega
  · exact Nat.lt_min.2 ⟨Nat.lt_of_le_of_lt hp2 hpo, hp⟩

theorem Inv.append {l : RaftLog} (h : l.Inv) (e0 : Entry) (es : List Entry)
    (hc : ContigFrom e0.index (e0 :: es))
    (h1 : l.committed < e0.index) (h2 : e0.index ≤ l.lastIndex + 1) :
    ∃ l', l.append (e0 :: es) = .ok (l', e0.index + es.length) ∧
      l'.lastIndex = e0.index + es.length ∧
      l'.abs = l.abs.truncateAppend (e0.index - 1) (e0 :: es) ∧
      l'.store = l.store ∧ l'.committed = l.committed ∧ l'.persisted = l.persisted ∧
      l'.applied = l.applied ∧ l'.maxApplyUnpersistedLogLimit = l.maxApplyUnpersistedLogLimit ∧
      l'.unstable.snapshot = l.unstable.snapshot ∧
      (∀ p, p ≤ l.persisted → p < e0.index → Inv { l' with persisted := p }) := by
  have hle : e0.index ≤ l.unstable.offset + l.unstable.entries.length := by
    have := h.last_succ; omega
  have hF : l.firstIndex ≤ e0.index := by have := h.dummy_le_committed; omega
  have hne : e0 :: es ≠ [] := List.cons_ne_nil _ _
  have hlast : (l.cutAppend e0.index (e0 :: es)).lastIndex = e0.index + es.length := by
    rw [lastIndex_cutAppend l _ _ hne hle, List.length_cons]; omega
  refine ⟨l.cutAppend e0.index (e0 :: es), ?_, hlast, h.abs_cutAppend hF _, rfl, rfl, rfl, rfl,
    rfl, rfl, fun p hp2 hp => h.cutAppend hc hne hF hle p hp hp2 h1⟩
  unfold RaftLog.append
  simp only []
  rw [if_neg (by omega), if_neg (by omega), h.unstWF.truncateAndAppend_eq e0 es hle]
  simp only []
  rw [← hlast]
  rfl

/-! ### cursor updates -/

theorem abs_congr {l l' : RaftLog} (h1 : l'.store = l.store) (h2 : l'.unstable = l.unstable) :
    l'.abs = l.abs := by
  unfold RaftLog.abs; rw [h1, h2]

theorem firstIndex_congr {l l' : RaftLog} (h1 : l'.store = l.store)
    (h2 : l'.unstable = l.unstable) : l'.firstIndex = l.firstIndex := by
  unfold RaftLog.firstIndex; rw [h1, h2]

theorem lastIndex_congr {l l' : RaftLog} (h1 : l'.store = l.store)
    (h2 : l'.unstable = l.unstable) : l'.lastIndex = l.lastIndex := by
  unfold RaftLog.lastIndex; rw [h1, h2]

/-- only the cursors / the apply limit differ -/
theorem Inv.of_cursors {l l' : RaftLog} (h : l.Inv) (h1 : l'.store = l.store)
    (h2 : l'.unstable = l.unstable) (hc1 : l.firstIndex ≤ l'.committed + 1)
    (hc2 : l'.committed ≤ l.lastIndex) (hp1 : l'.persisted < l.unstable.offset)
    (hp2 : l'.persisted ≤ l.store.lastIndex) : l'.Inv := by
  have hf := firstIndex_congr h1 h2
  have hl := lastIndex_congr h1 h2
  refine ⟨h1 ▸ h.storeWF, h2 ▸ h.unstWF, ?_, ?_, ?_, ?_, ?_, ?_, ?_⟩
  · rw [h1, h2]; exact h.first_le_off
  · rw [h1, h2]; exact h.off_le_last
  · rw [h1, h2]; exact h.ents_empty
  · rw [hf]; exact hc1
  · rw [hl]; exact hc2
  · rw [h2]; exact hp1
  · rw [h1]; exact hp2

theorem Inv.set_cursors {l : RaftLog} (h : l.Inv) (c p a : Nat) (hc1 : l.firstIndex ≤ c + 1)
    (hc2 : c ≤ l.lastIndex) (hp1 : p < l.unstable.offset) (hp2 : p ≤ l.store.lastIndex) :
    Inv { l with committed := c, persisted := p, applied := a } :=
  h.of_cursors rfl rfl hc1 hc2 hp1 hp2

theorem Inv.commitTo {l : RaftLog} (h : l.Inv) (to : Nat) (hle : to ≤ l.lastIndex) :
    l.commitTo to = .ok { l with committed := max l.committed to } ∧
    Inv { l with committed := max l.committed to } := by
  have hd := h.dummy_le_committed
  have hc := h.committed_le_last
  constructor
  · unfold RaftLog.commitTo
    by_cases h1 : to ≤ l.committed
    · rw [if_pos h1, Nat.max_eq_left h1]
    · rw [if_neg h1, if_neg (by omega), Nat.max_eq_right (by omega)]
  · exact h.set_cursors _ l.persisted l.applied (by show l.firstIndex ≤ _; omega)
      (by show _ ≤ l.lastIndex; omega) h.persisted_lt_off h.persisted_le_store

theorem commitTo_panics (l : RaftLog) (to : Nat) (h1 : l.committed < to) (h2 : l.lastIndex < to) :
    ∃ s, l.commitTo to = .panic s := by
  unfold RaftLog.commitTo
  rw [if_neg (by omega), if_pos h2]; exact ⟨_, rfl⟩

theorem Inv.maybePersist {l : RaftLog} (h : l.Inv) (index term : Nat) :
    ∃ l' b, l.maybePersist index term = .ok (l', b) ∧ l'.Inv ∧ l'.abs = l.abs ∧
      l'.committed = l.committed ∧ l'.applied = l.applied ∧ l.persisted ≤ l'.persisted ∧
      (b = true → l'.persisted = index ∧ l.store.term index = .ok term) := by
  have key : ∀ fu, fu ≤ l.unstable.offset → ∃ l' b,
      (if l.persisted < index ∧ index < fu then
        match l.store.term index with
        | .ok t => if t = term then Res.ok (({ l with persisted := index } : RaftLog), true)
                   else .ok (l, false)
        | .err _ => .ok (l, false)
        | .panic s => .panic s
      else .ok (l, false)) = .ok (l', b) ∧ l'.Inv ∧ l'.abs = l.abs ∧
      l'.committed = l.committed ∧ l'.applied = l.applied ∧ l.persisted ≤ l'.persisted ∧
      (b = true → l'.persisted = index ∧ l.store.term index = .ok term) := by
    intro fu hfule
    by_cases hcond : l.persisted < index ∧ index < fu
    · rw [if_pos hcond]
      cases ht : l.store.term index with
      | ok t =>
        simp only []
        by_cases htt : t = term
        · rw [if_pos htt]
          have hle := h.storeWF.term_ok_le_last ht
          refine ⟨{ l with persisted := index }, true, rfl, ?_, rfl, rfl, rfl,
            by simp only; omega, fun _ => ⟨rfl, by rw [htt]⟩⟩
          exact h.set_cursors l.committed index l.applied h.dummy_le_committed
            h.committed_le_last (by omega) hle
        · rw [if_neg htt]
          exact ⟨l, false, rfl, h, rfl, rfl, rfl, Nat.le_refl _, fun hb => by cases hb⟩
      | err e => exact ⟨l, false, rfl, h, rfl, rfl, rfl, Nat.le_refl _, fun hb => by cases hb⟩
      | panic s => exact absurd ht (h.storeWF.term_ne_panic index s)
    · rw [if_neg hcond]
      exact ⟨l, false, rfl, h, rfl, rfl, rfl, Nat.le_refl _, fun hb => by cases hb⟩
  unfold RaftLog.maybePersist
  dsimp only
  cases hs : l.unstable.snapshot with
  | none => exact key _ (Nat.le_refl _)
  | some sn =>
    have := h.unstWF.snap sn hs
    exact key _ (by simp only; omega)

theorem Inv.restore {l : RaftLog} (h : l.Inv) (sn : Snapshot) (hc : l.committed ≤ sn.metadata.index) :
    ∃ l', l.restore sn = .ok l' ∧ l'.Inv ∧ l'.abs = LLog.ofSnapshot sn ∧
      l'.committed = sn.metadata.index ∧ l'.applied = l.applied ∧
      l'.persisted = min l.persisted l.committed := by
  have hpl := h.persisted_le_store
  refine ⟨{ l with
    persisted := if l.committed < l.persisted then l.committed else l.persisted,
    committed := sn.metadata.index,
    unstable := l.unstable.restore sn }, ?_, ?_, ?_, rfl, rfl, ?_⟩
  · unfold RaftLog.restore
    rw [if_neg (by omega)]
  · refine ⟨h.storeWF, ⟨?_, rfl, ?_⟩, ?_, ?_, ?_, ?_, ?_, ?_, ?_⟩
    · intro k e hk; simp [Unstable.restore] at hk
    · intro sn' hs; simp only [Unstable.restore, Option.some.injEq] at hs; subst hs; rfl
    · intro hs; simp [Unstable.restore] at hs
    · intro hs; simp [Unstable.restore] at hs
    · intro hs; simp [Unstable.restore] at hs
    · simp [RaftLog.firstIndex, Unstable.maybeFirstIndex, Unstable.restore]
    · simp [RaftLog.lastIndex, Unstable.maybeLastIndex, Unstable.restore]
    · simp only [Unstable.restore]; split <;> omega
    · simp only []; split <;> omega
  · simp [RaftLog.abs, Unstable.restore, LLog.ofSnapshot]
  · simp only []; split <;> omega

theorem restore_panics (l : RaftLog) (sn : Snapshot) (hc : sn.metadata.index < l.committed) :
    ∃ s, l.restore sn = .panic s := by
  unfold RaftLog.restore; rw [if_pos hc]; exact ⟨_, rfl⟩

theorem Inv.appliedTo {l : RaftLog} (h : l.Inv) (idx : Nat) (h1 : l.applied ≤ idx)
    (h2 : idx ≤ l.committed) :
    ∃ l', l.appliedTo idx = .ok l' ∧ l'.Inv ∧ l'.abs = l.abs ∧ l'.committed = l.committed ∧
      l'.persisted = l.persisted ∧ l'.applied = max l.applied idx := by
  unfold RaftLog.appliedTo
  by_cases h0 : idx = 0
  · rw [if_pos h0]
    exact ⟨l, rfl, h, rfl, rfl, rfl, by omega⟩
  · rw [if_neg h0, if_neg (by omega)]
    exact ⟨_, rfl, h.set_cursors l.committed l.persisted idx h.dummy_le_committed
      h.committed_le_last h.persisted_lt_off h.persisted_le_store, rfl, rfl, rfl,
      by simp only; omega⟩

/-! ### construction, and the committed prefix -/

theorem Inv.new {st : MemStorage} (h : st.WF) (limit : Nat) :
    ∃ l, RaftLog.new st limit = .ok l ∧ l.Inv ∧ l.AppliedOk ∧ l.store = st := by
  have hp := h.first_pos
  have hl := h.last_succ
  refine ⟨_, by unfold RaftLog.new; rw [if_neg (by omega)], ?_, Nat.le_refl _, rfl⟩
  refine ⟨h, ⟨?_, rfl, ?_⟩, ?_, ?_, ?_, ?_, ?_, ?_, ?_⟩
  · intro k e hk; simp [Unstable.new] at hk
  · intro sn hs; simp [Unstable.new] at hs
  · intro _; simp only [Unstable.new]; omega
  · intro _; simp only [Unstable.new]; omega
  · intro _ _; rfl
  · simp only [RaftLog.firstIndex, Unstable.maybeFirstIndex, Unstable.new]; omega
  · simp only [RaftLog.lastIndex, Unstable.maybeLastIndex, Unstable.new, List.length_nil,
      if_true]; omega
  · simp only [Unstable.new]; omega
  · exact Nat.le_refl _

/-- truncating after `keep` and appending leaves every position `≤ keep` (inside the log) alone -/
theorem _root_.RaftModel.LLog.truncateAppend_entryAt (g : LLog) (keep : Nat) (sfx : List Entry)
    (i : Nat) (h1 : i ≤ keep) (h2 : i ≤ g.lastIndex) :
    (g.truncateAppend keep sfx).entryAt i = g.entryAt i := by
  unfold LLog.truncateAppend LLog.entryAt
  simp only [LLog.lastIndex] at h2
  dsimp only
  by_cases h0 : i ≤ g.snapIdx
  · rw [if_pos h0, if_pos h0]
  · rw [if_neg h0, if_neg h0]
    rw [List.getElem?_append_left (by rw [List.length_take]; omega), List.getElem?_take,
      if_pos (by omega)]

/-! ### `maybe_append` -/

theorem _root_.RaftModel.LLog.findConflict_char (g : LLog) (ents : List Entry) :
    ∀ start, ContigFrom start ents →
    (g.findConflict ents = 0 ∧ ∀ e ∈ ents, g.matchTerm e.index e.term = true) ∨
    (∃ k, k < ents.length ∧ g.findConflict ents = start + k ∧
      ∀ e ∈ ents.take k, g.matchTerm e.index e.term = true) := by
  induction ents with
  | nil => intro _ _; exact .inl ⟨rfl, by simp⟩
  | cons e es ih =>
    intro start hc
    have he := hc.head
    by_cases hm : g.matchTerm e.index e.term = true
    · rcases ih (start + 1) hc.tail with ⟨h0, hall⟩ | ⟨k, hk, hf, hall⟩
      · left
        refine ⟨by simp [LLog.findConflict, hm, h0], ?_⟩
        intro x hx
        rcases List.mem_cons.1 hx with rfl | hx
        · exact hm
        · exact hall x hx
      · right
        refine ⟨k + 1, by simp only [List.length_cons]; omega,
          by simp only [LLog.findConflict, hm, if_true, hf]; omega, ?_⟩
        intro x hx
        rw [List.take_succ_cons] at hx
        rcases List.mem_cons.1 hx with rfl | hx
        · exact hm
        · exact hall x hx
    · right
      refine ⟨0, by simp, ?_, by simp⟩
      simp only [LLog.findConflict]
      rw [if_neg hm]; omega

theorem _root_.RaftModel.LLog.matchTerm_le_last (g : LLog) (i t : Nat)
    (hm : g.matchTerm i t = true) (ht : t ≠ 0) : i ≤ g.lastIndex := by
  unfold LLog.matchTerm LLog.term at hm
  by_cases hout : i < g.snapIdx ∨ g.lastIndex < i
  · rw [if_pos hout] at hm
    simp only [beq_iff_eq] at hm
    omega
  · omega

/-- the `else` branch of `maybe_append`, for the conflict at the `k`-th entry: the entries from there
on replace the log from their first index, the persisted cursor moves back below it -/
theorem Inv.appendConflict {l : RaftLog} (h : l.Inv) (idx ci : Nat) (ents : List Entry) {k : Nat}
    (hk : k < ents.length) (hci : ci = idx + 1 + k) (hc : ContigFrom (idx + 1) ents)
    (hcm : l.committed < ci) (hle : ci ≤ l.lastIndex + 1) :
    ∃ l1, l.appendConflict idx ci ents = .ok l1 ∧
      l1.abs = l.abs.truncateAppend (ci - 1) (ents.drop (ci - (idx + 1))) ∧
      l1.persisted = min l.persisted (ci - 1) ∧ l1.committed = l.committed ∧
      l1.applied = l.applied ∧ l1.lastIndex = idx + ents.length ∧ l1.Inv := by
  -- the arithmetic of the slice `ents[ci - (idx + 1)..]`
  have hck : ci - (idx + 1) = k := by rw [hci]; exact Nat.add_sub_cancel_left ..
  have hlen : idx + ents.length = ci + (ents.drop (k + 1)).length := by
    rw [List.length_drop]; omega
  have hpos : ci - 1 < ci := Nat.sub_lt (Nat.lt_of_le_of_lt (Nat.zero_le _) hcm) Nat.one_pos
  have hdrop : ents.drop k = ents[k] :: ents.drop (k + 1) := List.drop_eq_getElem_cons hk
  have hcd : ContigFrom (idx + 1 + k) (ents.drop k) := hc.drop k
  rw [hdrop, ← hci] at hcd
  have hek : ents[k].index = ci := hcd.head
  rw [← hek] at hcd hcm hle hpos hlen
  obtain ⟨l1, happ, hlast1, habs1, _, hcm1, hp1, hap1, _, _, hinv1⟩ :=
    h.append ents[k] (ents.drop (k + 1)) hcd hcm hle
  refine ⟨{ l1 with persisted := min l.persisted (ci - 1) }, ?_, ?_, rfl, hcm1, hap1,
    hlast1.trans hlen.symm,
    hinv1 _ (Nat.min_le_left _ _) (Nat.lt_of_le_of_lt (Nat.min_le_right _ _) (hek ▸ hpos))⟩
  · unfold RaftLog.appendConflict
    rw [if_neg (by rw [hci]; exact Nat.not_lt.mpr (Nat.le_add_right _ _)), hck,
      if_neg (Nat.not_lt.mpr (Nat.le_of_lt hk)), hdrop, happ]
    simp only []
    rw [hp1]
    by_cases hlt : ci - 1 < l.persisted
    · rw [if_pos hlt, Nat.min_eq_right (Nat.le_of_lt hlt)]
    · rw [if_neg hlt, Nat.min_eq_left (Nat.le_of_not_lt hlt), ← hp1]
  · show l1.abs = _
    rw [habs1, hek, hck, hdrop]

/-- `maybe_append` when the entries conflict above the commit index -/
theorem Inv.maybeAppend_conflict {l : RaftLog} (h : l.Inv) (idx term committed : Nat)
    (ents : List Entry) (hc : ContigFrom (idx + 1) ents) (hidx : idx ≤ l.lastIndex)
    (hterms : ∀ e ∈ ents, e.term ≠ 0)
    (hm : l.abs.matchTerm idx term = true)
    (hci : l.committed < l.abs.findConflict ents) :
    ∃ l', l.maybeAppend idx term committed ents =
        .ok (l', some (l.abs.findConflict ents, idx + ents.length)) ∧
      l'.abs = l.abs.truncateAppend (l.abs.findConflict ents - 1)
        (ents.drop (l.abs.findConflict ents - (idx + 1))) ∧
      l'.persisted = min l.persisted (l.abs.findConflict ents - 1) ∧
      l'.committed = max l.committed (min committed (idx + ents.length)) ∧
      l'.applied = l.applied ∧ l'.lastIndex = idx + ents.length ∧ l'.Inv := by
  rcases l.abs.findConflict_char ents (idx + 1) hc with ⟨h0, _⟩ | ⟨k, hk, hf, hall⟩
  · omega
  · -- the entries before the conflict match, so they lie within the log
    have hle : l.abs.findConflict ents ≤ l.lastIndex + 1 := by
      have := ContigFrom.le_of_all_le (n := l.lastIndex) (hc.take k) (fun e he => by
        rw [h.lastIndex_abs]
        exact l.abs.matchTerm_le_last _ _ (hall e he) (hterms e (List.mem_of_mem_take he)))
        (by omega)
      rw [List.length_take, Nat.min_eq_left (Nat.le_of_lt hk)] at this
      omega
    obtain ⟨l1, happ, habs1, hp1, hcm1, hap1, hlast1, hinv1⟩ :=
      h.appendConflict idx _ ents hk hf hc hci hle
    obtain ⟨hct, hcinv⟩ := hinv1.commitTo (min committed (idx + ents.length))
      (by rw [hlast1]; exact Nat.min_le_right _ _)
    refine ⟨{ l1 with committed := max l1.committed (min committed (idx + ents.length)) },
      ?_, habs1, hp1, by rw [← hcm1], hap1, hlast1, hcinv⟩
    unfold RaftLog.maybeAppend
    rw [h.matchTerm_abs, hm]
    simp only []
    rw [h.findConflict_abs]
    simp only []
    rw [if_neg (by omega), if_neg (by omega), happ]
    simp only []
    rw [hct]

theorem Inv.maybeAppend_nomatch {l : RaftLog} (h : l.Inv) (idx term committed : Nat)
    (ents : List Entry) (hm : l.abs.matchTerm idx term = false) :
    l.maybeAppend idx term committed ents = .ok (l, none) := by
  unfold RaftLog.maybeAppend
  rw [h.matchTerm_abs, hm]

theorem Inv.maybeAppend_panics {l : RaftLog} (h : l.Inv) (idx term committed : Nat)
    (ents : List Entry) (hm : l.abs.matchTerm idx term = true)
    (h0 : 0 < l.abs.findConflict ents) (hci : l.abs.findConflict ents ≤ l.committed) :
    ∃ s, l.maybeAppend idx term committed ents = .panic s := by
  unfold RaftLog.maybeAppend
  rw [h.matchTerm_abs, hm]
  simp only []
  rw [h.findConflict_abs]
  simp only []
  rw [if_neg (by omega), if_pos hci]
  exact ⟨_, rfl⟩

theorem Inv.maybeAppend_noconflict {l : RaftLog} (h : l.Inv) (idx term committed : Nat)
    (ents : List Entry) (hc : ContigFrom (idx + 1) ents) (hidx : idx ≤ l.lastIndex)
    (hterms : ∀ e ∈ ents, e.term ≠ 0)
    (hm : l.abs.matchTerm idx term = true) (hci : l.abs.findConflict ents = 0) :
    l.maybeAppend idx term committed ents =
        .ok ({ l with committed := max l.committed (min committed (idx + ents.length)) },
             some (0, idx + ents.length)) ∧
      Inv { l with committed := max l.committed (min committed (idx + ents.length)) } := by
  have hle : idx + ents.length ≤ l.lastIndex := by
    rcases l.abs.findConflict_char ents (idx + 1) hc with ⟨_, hall⟩ | ⟨k, hk, hf, _⟩
    · have := ContigFrom.le_of_all_le (n := l.lastIndex) hc (fun e he => by
        rw [h.lastIndex_abs]
        exact l.abs.matchTerm_le_last _ _ (hall e he) (hterms e he)) (by omega)
      omega
    · omega
  obtain ⟨hct, hcinv⟩ := h.commitTo (min committed (idx + ents.length))
    (Nat.le_trans (Nat.min_le_right _ _) hle)
  refine ⟨?_, hcinv⟩
  unfold RaftLog.maybeAppend
  rw [h.matchTerm_abs, hm]
  simp only []
  rw [h.findConflict_abs]
  simp only []
  rw [if_pos hci]
  simp only []
  rw [hct, hci]

end RaftLog
end RaftModel
