import RaftProofs.ClusterLeaseE
import RaftProofs.ClusterStep
import RaftProps.C02c

/-!
Cluster-level lease theorem (C16, second half), part F: the window invariant `ls_WInv t M` of the
cluster semantics — nobody is ahead of term `t`, the transport and the queues are *calm*, no
pre-candidate of term `t` outside `M` has a recorded grant of a member of `M` — and its preservation
by every step of `ClusterSem` between two states that satisfy the window hypotheses `ls_Hyp`.
-/
namespace RaftModel
namespace Cluster
open Node Raft Raft.CV Raft.LS RaftProps.C02

/-- a freshly built node knows no leader: the last thing `Raft::new` does is
`become_follower(term, INVALID_ID)` -/
theorem ls_boot_leaderId {c : Config} {store : MemStorage} {rnd : Option Nat} {st : NState}
    (h : Node.boot c store rnd = .ok (.ok st)) : st.raft.leaderId = 0 := by
  obtain ⟨_, _, _, _, _, _, _, hr⟩ := raftNew_inv (Node.boot_inv h).2.1
  rw [hr]; rfl

/-- a message that cannot disturb term `t`: its term is at most `t` — unless it is a pre-vote
request, or a granted pre-vote response which, if it answers a pre-campaign of term `t`
(`term = t + 1`), does not come from a member of `M` —, it is not a `MsgTimeoutNow`, and if it is a
(pre-)vote request it does not carry the transfer context -/
def ls_Calm (t : Nat) (M : List Nat) (x : Message) : Prop :=
  (x.term ≤ t ∨ x.msgType = .msgRequestPreVote ∨
    (x.msgType = .msgRequestPreVoteResponse ∧ x.reject = false ∧ (x.term = t + 1 → x.frm ∉ M))) ∧
  x.msgType ≠ .msgTimeoutNow ∧
  ((x.msgType = .msgRequestVote ∨ x.msgType = .msgRequestPreVote) → x.context ≠ campaignTransfer)

theorem ls_Calm.congr {t : Nat} {M : List Nat} {x y : Message} (h : hd y = hd x)
    (hc : ls_Calm t M y) : ls_Calm t M x := by
  unfold hd at h
  injection h with h1 h2
  injection h2 with h2 h3
  injection h3 with h3 h4
  injection h4 with h4 h5
  unfold ls_Calm at *
  rw [← h1, ← h2, ← h3, ← h4, ← h5]; exact hc

theorem ls_Calm.of_old {t : Nat} {M : List Nat} {q : List Message} {x : Message}
    (hq : ∀ y ∈ q, ls_Calm t M y) (h : Old q x) : ls_Calm t M x := by
  obtain ⟨y, hy, e⟩ := h
  exact (hq y hy).congr e

/-- the window invariant -/
structure ls_WInv (t : Nat) (M : List Nat) (s : Sys) : Prop where
  term : ∀ i st, s.node i = some st → st.raft.term ≤ t
  net : ∀ x ∈ s.net, ls_Calm t M x
  que : ∀ i st, s.node i = some st → ∀ x ∈ st.raft.msgs, ls_Calm t M x
  votes : ∀ i st, s.node i = some st → i ∉ M → st.raft.state = .preCandidate → st.raft.term = t →
    ∀ j ∈ M, (j, true) ∉ st.raft.prs.votes

/-- the hypotheses on a state of the window -/
structure ls_Hyp (t : Nat) (M : List Nat) (cfg : JointConfig) (s : Sys) : Prop where
  lease : ∀ j ∈ M, ∃ st, s.node j = some st ∧ st.raft.term = t ∧ st.raft.checkQuorum = true ∧
    st.raft.leaderId ≠ 0 ∧ st.raft.electionElapsed < st.raft.electionTimeout
  pv : ∀ i st, s.node i = some st → i ∉ M → st.raft.preVote = true
  lt : ∀ i st, s.node i = some st → st.raft.leadTransferee = none
  cfg : FixedCfg cfg s

/-- what one call does to the node it is made on, under the window hypotheses -/
theorem ls_call_node {t : Nat} {M : List Nat} {cfg : JointConfig} (hM : IsJointQuorum cfg M)
    (hne : cfg.incoming ≠ [] ∨ cfg.outgoing ≠ []) {s : Sys} (hinv1 : Inv1 s)
    (hw : ls_WInv t M s) (hs : ls_Hyp t M cfg s) {i : Nat} {st st' : NState}
    (hn : s.node i = some st) {op : NodeOp} (hco : CallOut st op st')
    (hmsg : ∀ m, op = .step m → ls_Calm t M m)
    (hpt : i ∈ M → st'.raft.term = t) (hplt : st'.raft.leadTransferee = none) :
    st'.raft.term ≤ t ∧ (∀ x ∈ st'.raft.msgs, ls_Calm t M x) ∧
    (i ∉ M → st'.raft.state = .preCandidate → st'.raft.term = t →
      ∀ j ∈ M, (j, true) ∉ st'.raft.prs.votes) := by
  obtain ⟨⟨m', hl, htag⟩, hrise⟩ := hco
  have hid : st.raft.id = i := (hinv1.ids i st hn).1
  have hterm0 : st.raft.term ≤ t := hw.term i st hn
  have hcfg : st.raft.prs.voters = cfg := hs.cfg i st hn
  -- the tag is a calm delivered message, or a message built by the application
  have hcalm : op = .step m' → ls_Calm t M m' := hmsg m'
  have htag' : (op = .step m' ∧ ls_Calm t M m') ∨ NoReq m' := by
    rcases htag with g | g
    · exact Or.inl ⟨g, hcalm g⟩
    · exact Or.inr g.2
  -- a quorum of grants meets `M`
  have hquorum : ∀ votes : List (Nat × Bool), Tracker.voteResult cfg votes = .won →
      ∃ v ∈ M, (v, true) ∈ votes := by
    intro votes hwon
    have hq := C02_won_gives_joint_quorum cfg votes hwon
    obtain ⟨v, _, hv1, hv2⟩ := joint_quorums_intersect cfg _ M hne hq hM
    exact ⟨v, hv2, mem_granters hv1⟩
  -- (1) the term
  have hterm : st'.raft.term ≤ t := by
    by_cases hiM : i ∈ M
    · rw [hpt hiM]; exact Nat.le_refl _
    · apply Classical.byContradiction
      intro hgt
      have hlt : st.raft.term < st'.raft.term := by omega
      rcases hrise hlt with ⟨m, hop, hcase⟩ | ⟨hr1, hr2⟩
      · have hcm := hmsg m hop
        rcases hcase with ⟨c1, c2, c3, c4⟩ | ⟨c1, c2, c3, c4, c5⟩ | c
        · rcases c4 with c4 | c4
          · rcases hcm.1 with g | g | g
            · omega
            · exact c2 g
            · exact c3 ⟨g.1, g.2.1⟩
          · exact hcm.2.1 c4
        · have hst : st.raft.term = t := by omega
          have hwon : Tracker.voteResult cfg (st.raft.prs.recordVote m.frm (!m.reject)).votes = .won := by
            have := c02_voted_tally st.raft m.frm (!m.reject)
            rw [hcfg] at this
            rw [← this]; exact c4
          obtain ⟨v, hvM, hv⟩ := hquorum _ hwon
          rcases mem_recordVote st.raft.prs m.frm (!m.reject) v hv with g | ⟨g1, g2⟩
          · exact hw.votes i st hn hiM c1 hst v hvM g
          · have hrj : m.reject = false := by simpa using g2
            have hmt : m.term = t + 1 := by
              rcases c5 with c5 | c5
              · rw [hrj] at c5; cases c5
              · rw [c5, hst]
            rcases hcm.1 with q | q | q
            · omega
            · rw [c2] at q; cases q
            · exact q.2.2 hmt (by rw [← g1]; exact hvM)
        · exact hcm.2.1 c
      · rcases hr2 with g | g
        · have := hs.pv i st hn hiM
          rw [this] at g; cases g
        · have hwon : Tracker.voteResult cfg (st.raft.prs.resetVotes.recordVote st.raft.id true).votes = .won := by
            have : Tracker.voteResult st.raft.prs.voters
                (st.raft.prs.resetVotes.recordVote st.raft.id true).votes = .won := g
            rw [hcfg] at this; exact this
          obtain ⟨v, hvM, hv⟩ := hquorum _ hwon
          rcases mem_recordVote st.raft.prs.resetVotes st.raft.id true v hv with q | ⟨q, _⟩
          · cases q
          · exact hiM (by rw [← hid, ← q]; exact hvM)
  refine ⟨hterm, ?_, ?_⟩
  · -- (2) the queue
    intro x hx
    have hold : Old st.raft.msgs x → ls_Calm t M x := ls_Calm.of_old (hw.que i st hn)
    by_cases ht : x.msgType = .msgTimeoutNow
    · rcases hl.tn with g | ⟨_, g⟩
      · exact hold (g x hx ht)
      · exact absurd hplt g
    · rcases hl.msgs x hx with g | ⟨e1, e2⟩
      · exact hold g
      · refine ⟨?_, ht, ?_⟩
        · rcases e2 with q | q | ⟨q1, q2, q3, q4, q5, q6⟩
          · exact Or.inl (Nat.le_trans q hterm)
          · exact Or.inr (Or.inl q)
          · refine Or.inr (Or.inr ⟨q1, q2, fun hxt hxM => q6 ?_⟩)
            have hiM : i ∈ M := by rw [← hid, ← q3]; exact hxM
            obtain ⟨st0, hn0, k1, k2, k3, k4⟩ := hs.lease i hiM
            rw [hn] at hn0; cases hn0
            have hcm : ls_Calm t M m' := by
              rcases htag' with g | g
              · exact g.2
              · exact absurd q4 g.2.1
            refine ⟨by omega, by omega, hcm.2.2 (Or.inr q4), k2, k3, k4⟩
        · intro hxt hctx
          have := e1 hxt hctx
          rcases htag' with g | g
          · exact g.2.2.1 this
          · exact g.1 this
  · -- (3) the recorded pre-vote grants
    intro hiM hpc hst j hjM hj
    rcases hl.pc hpc j hj with g | ⟨g1, g2, g3, g4⟩ | ⟨g1, g2, g3⟩
    · exact hiM (by rw [← hid, ← g]; exact hjM)
    · rcases htag' with q | q
      · rcases q.2.1 with k | k | k
        · rw [hst] at g4; omega
        · rw [g1] at k; cases k
        · exact k.2.2 (by rw [g4, hst]) (by rw [g3]; exact hjM)
      · exact q.2.2 g1
    · exact hw.votes i st hn hiM g1 (g2.trans hst) j hjM g3

/-- **the window invariant is preserved by every step between two states of the window**; a restart
must find a stored term `≤ t` -/
theorem ls_WInv.step {t : Nat} {M : List Nat} {cfg : JointConfig} (hM : IsJointQuorum cfg M)
    (hne : cfg.incoming ≠ [] ∨ cfg.outgoing ≠ []) {s s' : Sys} (hinv1 : Inv1 s)
    (hw : ls_WInv t M s) (hs : ls_Hyp t M cfg s) (hs' : ls_Hyp t M cfg s') (hstep : Step s s')
    (hrs : ∀ k st, s.node k = some st → IsRestart k s s' →
      st.raft.raftLog.store.hardState.term ≤ t) : ls_WInv t M s' := by
  obtain ⟨k, st, st', Mv⟩ := hstep.moved
  have hpost : (k ∈ M → st'.raft.term = t) ∧ st'.raft.leadTransferee = none := by
    refine ⟨fun hiM => ?_, hs'.lt k st' Mv.hk'⟩
    obtain ⟨st0, hn0, k1, _⟩ := hs'.lease k hiM
    rw [Mv.hk'] at hn0; cases hn0; exact k1
  have key := Mv.local_inv (T := ls_Calm t M) (T' := ls_Calm t M)
    (N := fun _ i st => st.raft.term ≤ t ∧ (∀ x ∈ st.raft.msgs, ls_Calm t M x) ∧
      (i ∉ M → st.raft.state = .preCandidate → st.raft.term = t →
        ∀ j ∈ M, (j, true) ∉ st.raft.prs.votes))
    (N' := fun _ i st => st.raft.term ≤ t ∧ (∀ x ∈ st.raft.msgs, ls_Calm t M x) ∧
      (i ∉ M → st.raft.state = .preCandidate → st.raft.term = t →
        ∀ j ∈ M, (j, true) ∉ st.raft.prs.votes))
    (fun _ g => g) (fun g => g) (fun g => g) (fun _ g => g.2.1)
    (fun g => ⟨g.1, fun _ hx => (by cases hx), g.2.2⟩)
    (fun i st hi => ⟨hw.term i st hi, hw.que i st hi, hw.votes i st hi⟩) hw.net ?_ ?_
  · exact ⟨fun i st hi => (key.1 i st hi).1, key.2, fun i st hi => (key.1 i st hi).2.1,
      fun i st hi => (key.1 i st hi).2.2⟩
  · intro rnd op res _ hop _ hcall
    refine ls_call_node hM hne hinv1 hw hs Mv.hk
      (call_out st st' rnd op res (not_drain_of_hop hop) hcall) ?_ hpost.1 hpost.2
    rintro m rfl
    rcases hop with h | ⟨m', e, hm, _⟩
    · cases h
    · cases e; exact hw.net m hm
  · intro c rnd hnet hid hb _
    have hbt := boot_booted c _ rnd st' hb
    refine ⟨?_, (by rw [hbt.msgs]; intro _ hx; cases hx), fun _ hpc => ?_⟩
    · rw [hbt.term]; exact hrs k st Mv.hk ⟨st, st', c, rnd, Mv.hk, hid, hb, Mv.eq_setNode hnet⟩
    · rw [hbt.state] at hpc; cases hpc

/-- **the leader of the window stays the leader** -/
theorem ls_lead_step {t : Nat} {M : List Nat} {cfg : JointConfig} {s s' : Sys} {l : Nat}
    (hlM : l ∈ M) (hw' : ls_WInv t M s') (hs' : ls_Hyp t M cfg s') (hstep : Step s s')
    (hl : leads s l t) : leads s' l t := by
  obtain ⟨stl, hnl, hsl, htl⟩ := hl
  obtain ⟨st1, hn1, k1, _, k3, _⟩ := hs'.lease l hlM
  refine ⟨st1, hn1, ?_, k1⟩
  obtain ⟨k, st, st', Mv⟩ := hstep.moved
  rcases Mv.node_at hnl hn1 with ⟨rfl, rfl, rfl⟩ | ⟨_, rfl⟩
  · cases Mv.act with
    | call rnd op res hop _ hcall _ =>
      obtain ⟨⟨m', hli, _⟩, _⟩ := call_out _ _ rnd op res (not_drain_of_hop hop) hcall
      rcases hli.ld hsl with g | g | g
      · exact g.1
      · have := hw'.term l st1 hn1
        omega
      · exact absurd g k3
    | send _ _ hst _ => rw [hst]; exact hsl
    | restart c rnd _ hb _ _ => exact absurd (ls_boot_leaderId hb) k3
  · exact hsl

end Cluster
end RaftModel
