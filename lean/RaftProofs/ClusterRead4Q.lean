import RaftProofs.ClusterRead4O

/-!
Cluster-level ReadIndex safety for **forwarded** reads, part 4Q: necessary conditions, decidable on
concrete states, for a step to be readable as the delivery of a `MsgReadIndex` (`DeliverAt`) or as a
`read_index` call (`ReadCallAt`) — used to discharge `once` / `uniqc` / `nonempty` on a concrete history.
-/
namespace RaftModel
namespace Raft
namespace RD
namespace R4
open Node

theorem bcastHeartbeatWithCtx_keeps (r : Raft) (ctx : Option Bytes) :
    Res.Post (fun r' => r'.raftLog = r.raftLog ∧ r'.state = r.state) (r.bcastHeartbeatWithCtx ctx) := by
  unfold bcastHeartbeatWithCtx
  apply forEachPeer_post (fun r' => r'.raftLog = r.raftLog ∧ r'.state = r.state)
  · intro r1 id pr h1
    unfold sendHeartbeat
    apply Res.post_bind (P := fun r' => r'.raftLog = r.raftLog ∧ r'.state = r.state)
    · apply Res.post_intro
      intro r2 hs
      rw [send_eq r1 r2 _ hs]
      exact h1
    · intro x hx; exact hx
  · intro r1 id pr h1
    exact h1
  · exact ⟨rfl, rfl⟩

/-- a `read_index` call (that is not answered at once) keeps the log and the role -/
theorem readIndex_keeps {a r : Raft} {K : Bytes} (h : RawNode.readIndex a K = .ok r) :
    (a.prs.isSingleton = true ∨ a.readOnly.option ≠ .safe) ∨
    (r.raftLog = a.raftLog ∧ r.state = a.state) := by
  unfold RawNode.readIndex at h
  obtain ⟨e, hstep⟩ := stepIgnore_inv h
  change a.step (riMsg K) = .ok (r, e) at hstep
  cases step_dispatch (stepTerm_same (.inl rfl)) hstep with
  | hup ty => cases ty
  | vote ty => rcases ty with ty | ty <;> cases ty
  | candidate _ _ hstep =>
    unfold stepCandidate at hstep
    simp only [riMsg] at hstep
    cases hstep; exact .inr ⟨rfl, rfl⟩
  | follower _ _ hstep =>
    unfold stepFollower at hstep
    simp only [riMsg] at hstep
    split at hstep
    · cases hstep; exact .inr ⟨rfl, rfl⟩
    · obtain ⟨r2, hs, hr⟩ := Res.bind_eq_ok hstep
      cases hr
      rw [send_eq a r _ hs]
      exact .inr ⟨rfl, rfl⟩
  | leader _ _ hstep =>
    unfold stepLeader at hstep
    simp only [riMsg] at hstep
    split at hstep
    · cases hstep
    · cases hstep
    · cases hstep; exact .inr ⟨rfl, rfl⟩
    · split at hstep
      · rename_i hsing
        refine .inl (.inl ?_)
        simp only [Bool.and_eq_true] at hsing
        exact hsing.1
      · split at hstep
        · simp only [List.head?_cons] at hstep
          obtain ⟨ro, hadd, hb⟩ := Res.bind_eq_ok hstep
          obtain ⟨r2, hbc, hr⟩ := Res.bind_eq_ok hb
          cases hr
          exact .inr (Res.Post.of_eq (P := fun r' => r'.raftLog = a.raftLog ∧ r'.state = a.state)
            (bcastHeartbeatWithCtx_keeps ({ a with readOnly := ro } : Raft) _) hbc)
        · rename_i hlease
          exact .inl (.inr (by rw [hlease]; decide))

/-- … as one call of a node -/
theorem callRead_keeps {st st' : NState} {rnd : Option Nat} {K : Bytes} {res : OpRes}
    (h4 : Node.call st rnd (.readIndex K) = .ok (res, st')) :
    (st.raft.prs.isSingleton = true ∨ st.raft.readOnly.option ≠ .safe) ∨
    (st'.raft.raftLog = st.raft.raftLog ∧ st'.raft.state = st.raft.state) := by
  cases applyOp_parts h4 with
  | readIndex hx => exact readIndex_keeps (a := ({ st.raft with nextRand := rnd } : Raft)) hx

end R4
end RD
end Raft

namespace Cluster
namespace R4
open Node Raft.RD.R4
open Raft.RD (riMsg)

/-- the node that a step `a → a.setNode k st'` moved, read off the result -/
theorem setNode_head (a : Sys) (k : Nat) (st' : NState) :
    (a.setNode k st').nodes.head? = some (k, st') ∧ (a.setNode k st').net = a.net := ⟨rfl, rfl⟩

/-- a necessary condition for `a → b` to deliver a `MsgReadIndex`: the transport is unchanged, a
`MsgReadIndex` of the transport is addressed to the node that moved, and that node queued no new
`MsgReadIndexResp` -/
def dChk (a b : Sys) : Bool :=
  decide (b.net = a.net) &&
  match b.nodes.head? with
  | some (k, st') =>
    match a.node k with
    | some st =>
      a.net.any (fun m => m.msgType == .msgReadIndex && m.to == k) &&
      st'.raft.msgs.all (fun x => x.msgType != .msgReadIndexResp || decide (x ∈ st.raft.msgs))
    | none => false
  | none => false

theorem dChk_of_deliver {cfg : JointConfig} {c0 : Nat} {h : List Sys} (H : Hyp3w cfg c0 h)
    (safe : ∀ s ∈ h, ∀ i st, s.node i = some st → st.raft.readOnly.option = .safe)
    {n k : Nat} {m : Message} (hty : m.msgType = .msgReadIndex) (hd : DeliverAt h n k m) :
    ∃ a b, h[n]? = some a ∧ h[n + 1]? = some b ∧ dChk a b = true := by
  have H2 := H.toHyp2w
  obtain ⟨a, b, st, st', rnd, res, h1, h2, h3, h4, h5, hcall, h7⟩ := hd
  refine ⟨a, b, h1, h2, ?_⟩
  have hold : ∀ x ∈ st'.raft.msgs, x.msgType = .msgReadIndexResp → x ∈ st.raft.msgs := by
    intro x hx hxt
    have viaRS : ∀ r1 : Raft, RS st.raft r1 → x ∈ r1.msgs → x ∈ st.raft.msgs := by
      intro r1 hs hx1
      have : x ∈ rdOf r1.msgs := mem_rdOf.2 ⟨hx1, by unfold isRd; rw [hxt]; rfl⟩
      rw [hs.rd] at this
      exact (mem_rdOf.1 this).1
    cases callRi_cases hty hcall with
    | keep hs _ => exact viaRS _ hs hx
    | fwd r1 hs _ _ y hmsgs hy =>
      rw [hmsgs] at hx
      rcases List.mem_append.1 hx with c | c
      · exact viaRS r1 hs c
      · rw [List.mem_singleton.1 c, hy.1] at hxt; cases hxt
    | now hs =>
      exfalso
      rcases hs with c | c
      · rw [not_singleton (H2.fix _ (mem_of_get h1)) H2.nolone h3] at c; cases c
      · exact c (safe a (mem_of_get h1) k st h3)
    | reg _ _ _ _ _ hmsgs =>
      rcases hmsgs x hx with c | ⟨c, _⟩
      · exact c
      · rw [c] at hxt; cases hxt
  unfold dChk
  rw [h7]
  simp only [(setNode_head a k st').1, (setNode_head a k st').2, h3, decide_true, Bool.true_and,
    Bool.and_eq_true, List.any_eq_true, List.all_eq_true, Bool.or_eq_true, bne_iff_ne, ne_eq,
    beq_iff_eq, decide_eq_true_eq]
  refine ⟨⟨m, h4, hty, h5⟩, fun x hx => ?_⟩
  by_cases hxt : x.msgType = .msgReadIndexResp
  · exact .inr (hold x hx hxt)
  · exact .inl hxt

/-- a necessary condition for `a → b` to be a `read_index` call: the transport, the log, the role, the
term and the read states of the node that moved are unchanged, and the node kept the read path
(`frame`), or is a follower that queued a `MsgReadIndex` last (`fwd`), or is a leader whose pending
requests are unchanged or end with a locally filed request (`reg`) -/
def rChk (a b : Sys) : Bool :=
  decide (b.net = a.net) &&
  match b.nodes.head? with
  | some (i, st') =>
    match a.node i with
    | some st =>
      decide (st'.raft.raftLog = st.raft.raftLog) && decide (st'.raft.state = st.raft.state) &&
      decide (st'.raft.term = st.raft.term) && decide (st'.raft.readStates = st.raft.readStates) &&
      ((decide (st'.raft.readOnly = st.raft.readOnly) && decide (rdOf st'.raft.msgs = rdOf st.raft.msgs)) ||
       (decide (st.raft.state = .follower) &&
          match st'.raft.msgs.getLast? with
          | some y => y.msgType == .msgReadIndex
          | none => false) ||
       (decide (st.raft.state = .leader) &&
          (decide (st'.raft.readOnly = st.raft.readOnly) ||
            match st'.raft.readOnly.pendingReadIndex.getLast? with
            | some p => p.2.req.frm == 0
            | none => false)))
    | none => false
  | none => false

theorem rChk_of_call {cfg : JointConfig} {c0 : Nat} {h : List Sys} (H : Hyp3w cfg c0 h)
    (safe : ∀ s ∈ h, ∀ i st, s.node i = some st → st.raft.readOnly.option = .safe)
    {n i : Nat} {K : Bytes} (hc : ReadCallAt h n i K) :
    ∃ a b, h[n]? = some a ∧ h[n + 1]? = some b ∧ rChk a b = true := by
  have H2 := H.toHyp2w
  obtain ⟨a, b, st, st', rnd, res, h1, h2, h3, hcall, h5⟩ := hc
  refine ⟨a, b, h1, h2, ?_⟩
  have nonow : ¬ (st.raft.prs.isSingleton = true ∨ st.raft.readOnly.option ≠ .safe) := by
    intro hs
    rcases hs with c | c
    · rw [not_singleton (H2.fix _ (mem_of_get h1)) H2.nolone h3] at c; cases c
    · exact c (safe a (mem_of_get h1) i st h3)
  obtain ⟨k1, k2⟩ : st'.raft.raftLog = st.raft.raftLog ∧ st'.raft.state = st.raft.state := by
    rcases callRead_keeps hcall with c | c
    · exact absurd c nonow
    · exact c
  obtain ⟨k3, k4⟩ : st'.raft.term = st.raft.term ∧ st'.raft.readStates = st.raft.readStates := by
    cases call_riOut hcall with
    | frame hf => exact ⟨hf.term, hf.rs⟩
    | fwd _ _ hcore _ => exact ⟨congrArg RCore.term hcore, congrArg RCore.rs hcore⟩
    | now hs => exact absurd hs nonow
    | reg _ _ _ _ hcore _ => exact ⟨congrArg RCore.term hcore, congrArg RCore.rs hcore⟩
  unfold rChk
  rw [h5]
  simp only [(setNode_head a i st').1, (setNode_head a i st').2, h3, decide_true, Bool.true_and, k1, k2,
    k3, k4]
  cases call_riOut hcall with
  | frame hf =>
    simp [hf.ro, hf.rd]
  | fwd hfo _ hcore hmsgs =>
    have : st'.raft.msgs.getLast? = some (st.raft.sendFill
        { msgType := .msgReadIndex, to := st.raft.leaderId, entries := [{ data := K }] }) := by
      rw [hmsgs]; simp
    have q := (sendFill_ri st.raft
      { msgType := .msgReadIndex, to := st.raft.leaderId, entries := [{ data := K }] } rfl).1
    simp [hfo, this, q]
  | now hs => exact absurd hs nonow
  | reg hl _ ro hadd hcore _ =>
    have e1 : st'.raft.readOnly = ro := congrArg RCore.ro hcore
    rcases addRequest_spec hadd with ⟨q1, _⟩ | ⟨_, _, q3, _⟩
    · simp [hl, e1, q1]
    · have : st'.raft.readOnly.pendingReadIndex.getLast? =
          some (K, { req := riMsg K, index := st.raft.raftLog.committed, acks := [st.raft.id] }) := by
        rw [e1, q3]; simp
      simp [hl, this, riMsg]

end R4
end Cluster
end RaftModel
