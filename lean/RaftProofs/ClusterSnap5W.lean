import RaftProofs.ClusterSnap5T
import RaftProofs.ClusterCommitCI
import RaftProofs.ClusterSnap4A

/-!
Commit safety of `ClusterSem` with compaction **and snapshots**, part 5W (towards discharging `anch`
and `rirs`):

* `Snap5.Hyp3w` = `Snap5.Hyp3a` minus `anch` minus `rirs`, and its general form `GHyp3w q`;
* `rule q`: the instance of the per-call relation `Raft.PerCall` (`ClusterCommit4A–4I`) for this layer.
  With `q` it is `Raft.CS.rule` (`ClusterSnap4A`): a pending snapshot lies within the log or is the
  index of a queued `MsgSnapshot`, and no queue excuses a node.  Without `q` it is `Raft.CP.rule`
  (`ClusterCommit4CP`): no progress is in the `Snapshot` state, and a queued `MsgSnapshot` excuses the
  node (`Mute`) — it never reaches the transport, so the node never sends again;
* `PIn`: a progress within the log, **the `Snapshot` state included** (its pending snapshot lies within
  the log); `call_pr2`: the per-call relation for every `NodeOp`, `compact` included;
* the cluster invariant `CI2 q` (`Cluster.CI` with `PIn` and `Mute q`, plus — under `q` — "every queued
  `MsgSnapshot` names an index within the commit index"); `NodeI2.within`, `CI2.anch`: what it says
  with `q`, when nothing is excused;
* prefixes of a history (`GHyp.take`, `GHyp2w.take`, `hyp3a_take`);
* provenance of the accepting append responses (`ack_prov`, from `Facts0.ack_prov`).
-/
namespace RaftModel
namespace Cluster
namespace Snap5
open Node Raft Raft.CC Raft.CS RaftProps.C02 RaftProps.C05 Snap

/-- **the hypotheses without the gaps `anch` and `rirs`** (`Snap5.Hyp3a` minus the two) -/
structure Hyp3w (cfg : JointConfig) (c0 : Nat) (h : List Sys) : Prop extends Hyp2w cfg c0 h where
  snapt0 : ∀ s0, h[0]? = some s0 → ∀ i sti, s0.node i = some sti → ∀ t0,
    sti.raft.raftLog.abs.snapTerm = some t0 → ∀ j stj, s0.node j = some stj → t0 ≤ stj.raft.term
  snapidx : ∀ s ∈ h, ∀ x ∈ s.net, x.msgType = .msgSnapshot → c0 < x.snapshot.metadata.index

/-- `Hyp3w` on top of `GHyp2w` (`GHyp3a` minus `anch` minus `rirs`) -/
structure GHyp3w (q : Prop) (cfg : JointConfig) (c0 : Nat) (h : List Sys) : Prop
    extends GHyp2w q cfg c0 h where
  snapt0 : ∀ s0, h[0]? = some s0 → ∀ i sti, s0.node i = some sti → ∀ t0,
    sti.raft.raftLog.abs.snapTerm = some t0 → ∀ j stj, s0.node j = some stj → t0 ≤ stj.raft.term
  snapidx : ∀ s ∈ h, ∀ x ∈ s.net, x.msgType = .msgSnapshot → c0 < x.snapshot.metadata.index

variable {q : Prop} {cfg : JointConfig} {c0 : Nat} {h : List Sys}

theorem Hyp3a.toHyp3w (H : Hyp3a cfg c0 h) : Hyp3w cfg c0 h :=
  { toHyp2w := H.toHyp2w, snapt0 := H.snapt0, snapidx := H.snapidx }

theorem Hyp3w.g (H : Hyp3w cfg c0 h) : GHyp3w True cfg c0 h :=
  { toGHyp2w := H.toHyp2w.g, snapt0 := H.snapt0, snapidx := H.snapidx }

/-- **the per-call relation of this layer** (an instance of `Raft.PerCall`): with `q` a pending
snapshot lies within the log or is the index of a queued `MsgSnapshot`, and no queue excuses a node
(`Raft.CS.rule`); without `q` no pending snapshot is admissible and a queued `MsgSnapshot` excuses
the node (`Raft.CP.rule`) — it never reaches the transport, so neither does anything the node queues
behind it -/
def rule (q : Prop) : PerCall.Rule where
  mute := fun ms => ¬ q ∧ CP.QSnap ms
  pend := fun ms li i => q ∧ (i ≤ li ∨ FS ms i)
  mute_mono := fun ⟨nq, x, hx, hty⟩ hs => ⟨nq, x, hs x hx hty, hty⟩
  pend_mono := fun ⟨hq, h⟩ hle hs => ⟨hq, h.imp (fun c => Nat.le_trans c hle)
    (fun ⟨x, hx, hty, hi⟩ => ⟨x, hs x hx hty, hty, hi⟩)⟩
  old := fun ms x => x ∈ ms
  flag := fun b => b = false
  floor := RaftLog.firstIndex
  old_mem := fun hx _ => hx
  old_batch := fun hc => nomatch hc
  floor_le := fun _ => Nat.le_refl _
  queued := fun _ hx hty => Classical.byCases
    (fun hq : q => .inr ⟨hq, .inr ⟨_, hx, hty, rfl⟩⟩) (fun nq => .inl ⟨nq, _, hx, hty⟩)

/-- a progress within a log whose last index is `li`, the `Snapshot` state (there is one only with
`q`) included -/
def PIn (q : Prop) (li : Nat) (pr : Progress) : Prop :=
  pr.matched ≤ li ∧ pr.nextIdx ≤ li + 1 ∧ (pr.state = .snapshot → q ∧ pr.pendingSnapshot ≤ li)

theorem PIn.pok {li : Nat} {pr : Progress} (hp : PIn q li pr) (ms : List Message) :
    PerCall.POk (rule q) ms li pr :=
  ⟨hp.1, hp.2.1, fun hs => ⟨(hp.2.2 hs).1, .inl (hp.2.2 hs).2⟩⟩

/-- the node is excused: snapshots do not travel and it has queued one -/
def Mute (q : Prop) (st : NState) : Prop := (rule q).mute st.raft.msgs

theorem Mute.not (hq : q) {st : NState} : ¬ Mute q st := fun h => h.1 hq

/-- what holds of a node between two calls -/
structure NodeI2 (q : Prop) (st : NState) : Prop where
  po : st.raft.state = .leader →
    Mute q st ∨ ∀ p ∈ st.raft.prs.progress, PIn q st.raft.raftLog.lastIndex p.2
  rd : st.raft.state = .leader → ∀ p ∈ st.raft.readOnly.pendingReadIndex,
    p.2.index ≤ st.raft.raftLog.committed
  qs : q → ∀ x ∈ st.raft.msgs, x.msgType = .msgSnapshot →
    x.snapshot.metadata.index ≤ st.raft.raftLog.committed

/-- with `q` no leader is excused, and a progress in the `Snapshot` state has its pending snapshot
within the log -/
theorem NodeI2.within {st : NState} (hI : NodeI2 q st) (hq : q) (hs : st.raft.state = .leader) :
    ∀ p ∈ st.raft.prs.progress, p.2.matched ≤ st.raft.raftLog.lastIndex ∧
      p.2.nextIdx ≤ st.raft.raftLog.lastIndex + 1 ∧
      (p.2.state = .snapshot → p.2.pendingSnapshot ≤ st.raft.raftLog.lastIndex) :=
  fun p hp => have g := (hI.po hs).resolve_left (Mute.not hq) p hp
    ⟨g.1, g.2.1, fun c => (g.2.2 c).2⟩

/-- **one call of a node, `compact` included, with snapshots in the queue** -/
theorem call_pr2 (st st' : NState) (rnd : Option Nat) (op : NodeOp) (res : OpRes)
    (hinv : st.raft.raftLog.Inv) (hnb : st.raft.batchAppend = false)
    (hop : op ≠ .drain ∧ ∀ m, op ≠ .rstep m)
    (hc : ∀ k, op = .compact k → CompactOk st.raft.raftLog k)
    (hsn : st.raft.raftLog.unstable.snapshot = none)
    (hms : ∀ m, op = .step m → m.msgType ≠ .msgSnapshot)
    (hI : NodeI2 q st)
    (hB : ∀ m, op = .step m → st.raft.state = .leader → m.msgType = .msgAppendResponse →
      m.reject = false → (m.term = 0 ∨ m.term = st.raft.term) →
      m.index ≤ st.raft.raftLog.lastIndex)
    (h : Node.call st rnd op = .ok (res, st')) : PerCall.PR (rule q) st.raft st'.raft := by
  have hpo : st.raft.state = .leader → (rule q).mute st.raft.msgs ∨
      PerCall.PAll (rule q) st.raft.msgs st.raft.raftLog.lastIndex st.raft.prs :=
    fun hs => (hI.po hs).imp id (fun c p hp => (c p hp).pok _)
  have hQ : st.raft.state = .leader → ∀ i,
      (rule q).pend st.raft.msgs st.raft.raftLog.lastIndex i → i ≤ st.raft.raftLog.lastIndex := by
    rintro _ i ⟨hq, c | ⟨x, hx, hty, rfl⟩⟩
    · exact c
    · exact Nat.le_trans (hI.qs hq x hx hty) hinv.committed_le_last
  by_cases hco : ∃ j, op = .compact j
  · obtain ⟨j, rfl⟩ := hco
    have ho := compact_out hinv hsn (hc j rfl) h
    obtain ⟨f1, f2, f3⟩ := compact_frame hinv hsn (hc j rfl) h
    exact (PerCall.PW.start hinv hnb hpo hI.rd).pr.of_same ho.state f1 f2 ho.msgs
      (Nat.le_of_eq f3.symm) (Nat.le_of_eq ho.committed.symm)
  · exact PerCall.call_pr st st' rnd op res hinv hnb hop (fun k hk => hco ⟨k, hk⟩) hsn hms hpo hQ
      hI.rd hB h

/-- the commit index over one call that is not the delivery of a snapshot -/
theorem call_commit_le {st st' : NState} {rnd : Option Nat} {op : NodeOp} {res : OpRes}
    (hinv : st.raft.raftLog.Inv) (hop : op ≠ .drain ∧ ∀ m, op ≠ .rstep m)
    (hc : ∀ k, op = .compact k → CompactOk st.raft.raftLog k)
    (hsn : st.raft.raftLog.unstable.snapshot = none)
    (h : Node.call st rnd op = .ok (res, st')) :
    st.raft.raftLog.committed ≤ st'.raft.raftLog.committed := by
  by_cases hco : ∃ j, op = .compact j
  · obtain ⟨j, rfl⟩ := hco
    exact Nat.le_of_eq (compact_out hinv hsn (hc j rfl) h).committed.symm
  · exact (call_src st st' rnd op res hinv hop (fun k hk => hco ⟨k, hk⟩) hsn h).1

/-! ### prefixes -/

theorem GHyp.take (H : GHyp q cfg h) {k : Nat} (hk : 0 < k) : GHyp q cfg (h.take k) where
  hist := History.take H.hist k hk
  fix := fun s hs => H.fix s (List.mem_of_mem_take hs)
  ne := H.ne
  nd1 := H.nd1
  nd2 := H.nd2
  init := fun s h0 => H.init s (get_take h0).1
  steps := fun n a b ha hb => H.steps n a b (get_take ha).1 (get_take hb).1
  nb := fun s hs => H.nb s (List.mem_of_mem_take hs)
  reqok := fun s hs => H.reqok s (List.mem_of_mem_take hs)
  quiet := fun nq s hs => H.quiet nq s (List.mem_of_mem_take hs)

theorem GHyp2w.take (H : GHyp2w q cfg c0 h) {k : Nat} (hk : 0 < k) :
    GHyp2w q cfg c0 (h.take k) where
  toGHyp := H.toGHyp.take hk
  nolone := H.nolone
  first0 := fun s h0 => H.first0 s (get_take h0).1
  initc := fun s h0 => H.initc s (get_take h0).1
  pend0 := fun s h0 => H.pend0 s (get_take h0).1

/-- **the cluster invariant** for the state `s = h[n]` -/
structure CI2 (q : Prop) (h : List Sys) (c0 n : Nat) (s : Sys) : Prop where
  node : ∀ i st, s.node i = some st → NodeI2 q st
  qa : ∀ i st, s.node i = some st → ∀ x ∈ st.raft.msgs, x.msgType = .msgAppend →
    Mute q st ∨ Anch c0 x
  qr : ∀ i st, s.node i = some st → ∀ x ∈ st.raft.msgs, x.msgType = .msgReadIndexResp →
    RirSrc h n x
  na : ∀ x ∈ s.net, x.msgType = .msgAppend → Anch c0 x
  nr : ∀ x ∈ s.net, x.msgType = .msgReadIndexResp → RirSrc h n x

/-- with `q` every queued `MsgAppend` is anchored -/
theorem CI2.anch {n : Nat} {s : Sys} (c : CI2 q h c0 n s) (hq : q) :
    ∀ i st, s.node i = some st → ∀ x ∈ st.raft.msgs, x.msgType = .msgAppend → Anch c0 x :=
  fun i st hi x hx hty => (c.qa i st hi x hx hty).resolve_left (Mute.not hq)

/-- the hypotheses of the main induction for a prefix all of whose states satisfy `CI2` -/
theorem hyp3a_take (H : GHyp3w q cfg c0 h) {k : Nat} (hk : 0 < k)
    (hci : ∀ m s, m < k → h[m]? = some s → CI2 q h c0 m s) : GHyp3a q cfg c0 (h.take k) where
  toGHyp2w := H.toGHyp2w.take hk
  anch := by
    intro s hs x hx hty
    obtain ⟨m, hm⟩ := List.mem_iff_getElem?.1 hs
    obtain ⟨hm', hlt⟩ := get_take hm
    exact (hci m s hlt hm').na x hx hty
  rirs := by
    intro n s hn x hx hty
    obtain ⟨hn', hlt⟩ := get_take hn
    obtain ⟨n0, s0, w, stw, h1, h2, h3⟩ := (hci n s hlt hn').nr x hx hty
    exact ⟨n0, s0, w, stw, h1, by rw [take_get (by omega)]; exact h2, h3⟩
  snapt0 := fun s0 h0 => H.snapt0 s0 (get_take h0).1
  snapidx := fun s hs => H.snapidx s (List.mem_of_mem_take hs)

/-! ### accepting append responses -/

/-- **provenance of the accepting append responses** (the record is `Cluster.AckGen`), also for
those that answer a `MsgSnapshot` -/
theorem ack_prov (H : GHyp2w q cfg c0 h) : ∀ (n : Nat) (s : Sys), h[n]? = some s →
    (∀ i st, s.node i = some st → ∀ x ∈ st.raft.msgs, (isAck x ∧ x.index ≠ 0) →
      Gen (AckGen h) n i x) ∧
    (∀ x ∈ s.net, (isAck x ∧ x.index ≠ 0) → ∃ i, Gen (AckGen h) n i x) :=
  H.facts0.ack_prov

end Snap5
end Cluster
end RaftModel
