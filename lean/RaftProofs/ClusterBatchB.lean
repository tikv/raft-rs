import RaftProofs.ClusterLogB
import RaftProofs.ClusterBatchA

/-!
Cluster-level Log Matching, part B: the per-call relations ("`r` is an intermediate state of a call that
started in `a`; the logical log and the stored entries are those of `a`; and this is what the queue holds").

* `N a r` (*no append*): every queued `MsgAppend` was queued in `a` **unchanged**.  Everything that does not
  reach `maybe_send_append` keeps it, whatever the role.
* `X a r` (the senders): the role is that of `a`, and every queued `MsgAppend` is `GoodX`: queued in `a`; or
  made in this call — gap-free, every link a link of the log of `a` or, **if `a` batches**, of a message queued
  in `a`, and tail-compatible with the log or anchored in the void; or, if `a` batches, a chain queued in `a`
  whose commit index `try_batching` refreshed.  The queue clause stands under the proviso that, if `a` batches,
  the `MsgAppend`s queued in `a` are gap-free and tail-compatible with the log of `a` (`CleanQ`): gluing onto a
  message needs it.  `maybe_send_append`, batching on or off, keeps `X` (`maybeSendAppend_x`), and with it the
  eight helpers that reach it.
* `K a r` (`RaftProofs/ClusterLogB.lean`; batching off: made messages are sub-logs of the log of `a`) and
  `L a r` (*leader mode*: `r` leads and, the queue of `a` being clean, every queued `MsgAppend` is `Good`) are
  what `X` says with the flag off (`X.k`) and from a leader (`X.l`); `X.ls` forgets the queue.

The sending helpers do not check the role; that a non-leader never reaches them is visible only at their call
sites, which is why `X` records that the role is kept.
-/
namespace RaftModel
namespace Raft
namespace Bt

/-- `k` is the chain of a `MsgAppend` of `ms` -/
def Kept (ms : List Message) (k : LLog) : Prop :=
  ∃ x0 ∈ ms, x0.msgType = .msgAppend ∧ msgLog x0 = k

/-- a chain anchored at a position `≠ 0` with term 0: what `prepare_send_entries` builds when the
progress points beyond the log (`term` answers 0 outside the log).  Nothing is known about such a
message; the cluster theorems assume that none is ever queued (`SaneAnchors`). -/
def Weird (k : LLog) : Prop := k.snapTerm = some 0 ∧ k.snapIdx ≠ 0

/-- the sources of the links of a `MsgAppend` made in a call: the log, the queued appends -/
def Src (ms : List Message) (g k : LLog) : Prop := k = g ∨ (Kept ms k ∧ ¬ Weird k)

structure Made (ms : List Message) (g k : LLog) : Prop where
  contig : k.Contig
  der : DerivedFrom (Src ms g) k
  tc : TailC k g

def Good (ms : List Message) (g k : LLog) : Prop := Kept ms k ∨ Made ms g k ∨ Weird k

/-- gap-free and tail-compatible with the log `g`, or anchored in the void -/
def Ok1 (g k : LLog) : Prop := Weird k ∨ (k.Contig ∧ TailC k g)

/-- the queued `MsgAppend`s are gap-free and tail-compatible with the log `g` -/
def CleanQ (ms : List Message) (g : LLog) : Prop :=
  ∀ x ∈ ms, x.msgType = .msgAppend → Ok1 g (msgLog x)

theorem Good.all {ms : List Message} {g k : LLog} (hc : CleanQ ms g) (h : Good ms g k) :
    Weird k ∨ (k.Contig ∧ TailC k g ∧ DerivedFrom (Src ms g) k) := by
  rcases h with ⟨x0, hx, hty, rfl⟩ | h | h
  · rcases hc x0 hx hty with c | c
    · exact .inl c
    · by_cases hw : Weird (msgLog x0)
      · exact .inl hw
      · exact .inr ⟨c.1, c.2, DerivedFrom.of_mem (.inr ⟨⟨x0, hx, hty, rfl⟩, hw⟩)⟩
  · exact .inr ⟨h.contig, h.tc, h.der⟩
  · exact .inl h

theorem Good.ok1 {ms : List Message} {g k : LLog} (hc : CleanQ ms g) (h : Good ms g k) : Ok1 g k := by
  rcases Good.all hc h with c | c
  · exact .inl c
  · exact .inr ⟨c.1, c.2.1⟩

theorem Kept.mono {ms ms' : List Message} {k : LLog}
    (hsub : ∀ x ∈ ms, x.msgType = .msgAppend → x ∈ ms') (h : Kept ms k) : Kept ms' k := by
  obtain ⟨x0, hx, hty, e⟩ := h
  exact ⟨x0, hsub x0 hx hty, hty, e⟩

theorem CleanQ.mono {ms ms' : List Message} {g : LLog}
    (hsub : ∀ x ∈ ms', x.msgType = .msgAppend → x ∈ ms) (h : CleanQ ms g) : CleanQ ms' g :=
  fun x hx hty => h x (hsub x hx hty) hty

theorem Ok1.log {g g' k : LLog} (h : Ok1 g k) (hl : g.lastIndex ≤ g'.lastIndex)
    (hk : PrevKeep g g') : Ok1 g' k := by
  rcases h with c | c
  · exact .inl c
  · exact .inr ⟨c.1, c.2.mono hl hk⟩

theorem CleanQ.log {ms : List Message} {g g' : LLog} (h : CleanQ ms g)
    (hl : g.lastIndex ≤ g'.lastIndex) (hk : PrevKeep g g') : CleanQ ms g' :=
  fun x hx hty => (h x hx hty).log hl hk

/-- `Good` relative to an intermediate queue all of whose appends are `Good` -/
theorem Good.rebase {ms ms' : List Message} {g k : LLog}
    (hms : ∀ x ∈ ms', x.msgType = .msgAppend → Good ms g (msgLog x))
    (h : Good ms' g k) : Good ms g k := by
  rcases h with ⟨x0, hx, hty, rfl⟩ | h | h
  · exact hms x0 hx hty
  · refine .inr (.inl ⟨h.contig, h.der.trans' ?_, h.tc⟩)
    intro y hy
    rcases hy with rfl | ⟨⟨x0, hx, hty, rfl⟩, hnw⟩
    · exact DerivedFrom.of_mem (.inl rfl)
    · rcases hms x0 hx hty with c | c | c
      · exact DerivedFrom.of_mem (.inr ⟨c, hnw⟩)
      · exact c.der
      · exact absurd c hnw
  · exact .inr (.inr h)

/-- `Good` relative to a log that extends the reference log at its end -/
theorem Good.extend {ms : List Message} {g g' k : LLog} (hs : Sub g g')
    (hl : g.lastIndex ≤ g'.lastIndex) (hk : PrevKeep g g') (h : Good ms g k) : Good ms g' k := by
  rcases h with c | h | h
  · exact .inl c
  · refine .inr (.inl ⟨h.contig, h.der.trans' ?_, h.tc.mono hl hk⟩)
    intro y hy
    rcases hy with rfl | c
    · exact DerivedFrom.of_sub hs (.inl rfl)
    · exact DerivedFrom.of_mem (.inr c)
  · exact .inr (.inr h)

/-! ### the plain relation -/

structure NP (a : Raft) (l : RaftLog) (b : Bool) (ms : List Message) : Prop where
  ls : LogSameS a.raftLog l
  ba : b = a.batchAppend
  q : ∀ x ∈ ms, x.msgType = .msgAppend → x ∈ a.msgs

/-- `NP` of the three fields of `r` it reads -/
def N0 (a r : Raft) : Prop := NP a r.raftLog r.batchAppend r.msgs

theorem N0.ls {a r : Raft} (h : N0 a r) : LogSameS a.raftLog r.raftLog := NP.ls h
theorem N0.ba {a r : Raft} (h : N0 a r) : r.batchAppend = a.batchAppend := NP.ba h
theorem N0.q {a r : Raft} (h : N0 a r) :
    ∀ x ∈ r.msgs, x.msgType = .msgAppend → x ∈ a.msgs := NP.q h
theorem N0.abs {a r : Raft} (h : N0 a r) : r.raftLog.abs = a.raftLog.abs := h.ls.same.abs
theorem N0.inv {a r : Raft} (h : N0 a r) (hi : a.raftLog.Inv) : r.raftLog.Inv := h.ls.same.inv hi

/-- the plain per-call relation, under the standing assumption that the log of the start state
satisfies the representation invariant -/
def N (a r : Raft) : Prop := a.raftLog.Inv → N0 a r

theorem N0.rfl {r : Raft} : N0 r r := ⟨LogSameS.rfl, Eq.refl _, fun _ hx _ => hx⟩
theorem N.rfl {r : Raft} : N r r := fun _ => N0.rfl

theorem N0.trans {a b c : Raft} (h1 : N0 a b) (h2 : N0 b c) : N0 a c :=
  ⟨h1.ls.trans h2.ls, h2.ba.trans h1.ba, fun x hx hty => h1.q x (h2.q x hx hty) hty⟩

theorem N0.then {a r r' : Raft} (h : N0 a r) (hi : a.raftLog.Inv) (h2 : N r r') : N0 a r' :=
  h.trans (h2 (h.inv hi))

theorem N0.of_fields {a r : Raft} (hl : r.raftLog = a.raftLog) (hb : r.batchAppend = a.batchAppend)
    (hm : r.msgs = a.msgs) : N0 a r :=
  ⟨by rw [hl]; exact LogSameS.rfl, hb, fun x hx _ => by rw [← hm]; exact hx⟩

/-- any structure update that keeps `raftLog`, `batchAppend` and `msgs` keeps `N` -/
theorem N.mk' {a r : Raft} {x1 x2 x3 : Nat} {x4 : List ReadState} {x6 x7 x8 : Nat}
    {x9 : StateRole} {x10 : Bool} {x11 : Nat}
    {x12 : Option Nat} {x13 : Nat} {x14 : ReadOnly} {x15 x16 : Nat} {x17 x18 x19 x21 : Bool}
    {x22 x23 x24 x25 x26 : Nat} {x27 : Int} {x28 : UncommittedState} {x29 : Nat}
    {x30 : ProgressTracker} {x32 : Option Nat} (h0 : N a r) :
    N a { term := x1, vote := x2, id := x3, readStates := x4, raftLog := r.raftLog,
          maxInflight := x6, maxMsgSize := x7, pendingRequestSnapshot := x8, state := x9,
          promotable := x10, leaderId := x11, leadTransferee := x12,
          pendingConfIndex := x13, readOnly := x14, electionElapsed := x15,
          heartbeatElapsed := x16, checkQuorum := x17, preVote := x18,
          skipBcastCommit := x19, batchAppend := r.batchAppend, disableProposalForwarding := x21,
          heartbeatTimeout := x22, electionTimeout := x23, randomizedElectionTimeout := x24,
          minElectionTimeout := x25, maxElectionTimeout := x26, priority := x27,
          uncommittedState := x28, maxCommittedSizePerReady := x29, prs := x30, msgs := r.msgs,
          nextRand := x32 } := fun hi => ⟨(h0 hi).ls, (h0 hi).ba, (h0 hi).q⟩

theorem N.log {a r : Raft} {l : RaftLog} (hl : LogSameS r.raftLog l) (h0 : N a r) :
    N a { r with raftLog := l } :=
  fun hi => ⟨(h0 hi).ls.trans hl, (h0 hi).ba, (h0 hi).q⟩

/-- queueing a message that is not a `MsgAppend` -/
theorem send_n {a r r' : Raft} {m : Message} (h : r.send m = .ok r')
    (hm : m.msgType ≠ .msgAppend) (h0 : N a r) : N a r' := by
  rw [send_eq r r' m h]
  intro hi
  have h0 := h0 hi
  refine ⟨h0.ls, h0.ba, fun x hx hty => ?_⟩
  rcases List.mem_append.1 hx with hx | hx
  · exact h0.q x hx hty
  · rw [List.mem_singleton.1 hx, sendFill_msgType] at hty
    exact absurd hty hm

/-- … given its type -/
theorem sendT_n {a r r' : Raft} {m : Message} {t : MsgType} (ht : t ≠ .msgAppend)
    (h : r.send m = .ok r') (e : m.msgType = t) (h0 : N a r) : N a r' :=
  send_n h (e ▸ ht) h0

theorem sendHeartbeat_n {a r r' : Raft} {to : Nat} {pr : Progress} {ctx : Option Bytes}
    (h : r.sendHeartbeat to pr ctx = .ok r') (h0 : N a r) : N a r' := by
  unfold Raft.sendHeartbeat at h
  exact send_n h nofun h0

theorem sendTimeoutNow_n {a r r' : Raft} {to : Nat}
    (h : r.sendTimeoutNow to = .ok r') (h0 : N a r) : N a r' := by
  unfold Raft.sendTimeoutNow at h
  exact send_n h nofun h0

theorem handleReadyReadIndex_n {a r r' : Raft} {req : Message} {i : Nat} {om : Option Message}
    (h : r.handleReadyReadIndex req i = .ok (r', om)) (h0 : N a r) :
    N a r' ∧ ∀ m', om = some m' → m'.msgType = .msgReadIndexResp :=
  ⟨handleReadyReadIndex_parts h h0 fun _ => N.mk' h0,
    ((handleReadyReadIndex_frameT r req i).of_eq h).2⟩

theorem sendRequestSnapshot_n {a r r' : Raft} (h : r.sendRequestSnapshot = .ok r')
    (h0 : N a r) : N a r' :=
  sendRequestSnapshot_parts h h0 (sendT_n (by decide))

theorem prepareSendSnapshot_n {a r r' : Raft} {m m' : Message} {pr pr' : Progress} {to : Nat}
    {b : Bool} (h : r.prepareSendSnapshot m pr to = .ok (r', m', pr', b)) (h0 : N a r) :
    N a r' :=
  prepareSendSnapshot_parts h h0 (N.log (logS_snapshot _ _) h0)

theorem viaSnapshot_n {a r r' : Raft} {to : Nat} {pr pr' : Progress} {sent : Bool}
    (h : RaftProps.C13.viaSnapshot r to pr = .ok (r', pr', sent)) (h0 : N a r) : N a r' := by
  unfold RaftProps.C13.viaSnapshot at h
  split at h
  · rename_i r1 m1 pr1 heq
    have h2 : m1.msgType = .msgSnapshot := by
      rw [((RaftProps.C13.C13_prepareSendSnapshot_spec _ _ _ _ _ _ _ _ heq).1 rfl).2.2.2.2.1]
    rw [Res.bind_eq_ok_iff] at h
    obtain ⟨r2, hs, h4⟩ := h
    cases h4
    exact send_n hs (by rw [h2]; decide) (prepareSendSnapshot_n heq h0)
  · rename_i r1 m1 pr1 heq
    cases h
    exact prepareSendSnapshot_n heq h0
  · cases h
  · cases h

theorem bcastHeartbeatWithCtx_n {a r r' : Raft} {ctx : Option Bytes}
    (h : r.bcastHeartbeatWithCtx ctx = .ok r') (h0 : N a r) : N a r' :=
  bcastHeartbeatWithCtx_parts h h0 sendHeartbeat_n fun _ _ => N.mk'

theorem bcastHeartbeat_n {a r r' : Raft} (h : r.bcastHeartbeat = .ok r') (h0 : N a r) :
    N a r' := by
  unfold Raft.bcastHeartbeat at h
  exact bcastHeartbeatWithCtx_n h h0

theorem maybeCommit_n {a r r' : Raft} {b : Bool} (h : r.maybeCommit = .ok (r', b))
    (h0 : N a r) : N a r' :=
  maybeCommit_parts h h0 (fun hl => N.log (logS_maybeCommit hl) h0) fun _ => N.mk'

theorem respondReadStates_n {a r r' : Raft} {rss : List ReadIndexStatus}
    (h : r.respondReadStates rss = .ok r') (h0 : N a r) : N a r' :=
  respondReadStates_parts h h0 (fun h p => (handleReadyReadIndex_n h p).1) (sendT_n (by decide))

theorem checkQuorumActive_n {a r r' : Raft} {b : Bool} (h : r.checkQuorumActive = (r', b))
    (h0 : N a r) : N a r' := by
  unfold Raft.checkQuorumActive at h
  split at h
  cases h
  exact N.mk' h0

theorem handleSnapshotStatus_n {a r : Raft} {m : Message} (h0 : N a r) :
    N a (r.handleSnapshotStatus m) := by
  unfold Raft.handleSnapshotStatus
  split
  · exact h0
  · split
    · exact h0
    · exact N.mk' h0

theorem handleUnreachable_n {a r : Raft} {m : Message} (h0 : N a r) :
    N a (r.handleUnreachable m) := by
  unfold Raft.handleUnreachable
  split
  · exact h0
  · split
    · exact N.mk' h0
    · exact h0

theorem filterProposalEntry_n {a r r' : Raft} {i : Nat} {e e' : Entry}
    (h : r.filterProposalEntry i e = some (r', e')) (h0 : N a r) : N a r' :=
  filterProposalEntry_parts h h0 fun _ => N.mk' h0

theorem filterProposal_n {a : Raft} : ∀ (es : List Entry) (r r' : Raft) (i : Nat)
    (oes : Option (List Entry)), r.filterProposal i es = (r', oes) → N a r → N a r' :=
  filterProposal_parts filterProposalEntry_n

/-! ### follower side, role changes, votes, term preamble -/

theorem handleHeartbeat_n {a r r' : Raft} {m : Message}
    (h : r.handleHeartbeat m = .ok r') (h0 : N a r) : N a r' :=
  handleHeartbeat_parts h (fun hc => N.log (logS_commitTo hc) h0) sendRequestSnapshot_n
    (sendT_n (by decide))

theorem reset_n0 {a r : Raft} (t : Nat) (h0 : N0 a r) : N0 a (r.reset t) :=
  ⟨by rw [reset_raftLog]; exact h0.ls, by rw [reset_batchAppend]; exact h0.ba,
   by rw [reset_msgs]; exact h0.q⟩

theorem reset_n {a r : Raft} (t : Nat) (h0 : N a r) : N a (r.reset t) := fun hi => reset_n0 t (h0 hi)

theorem becomeFollower_n {a r : Raft} (t l : Nat) (h0 : N a r) : N a (r.becomeFollower t l) :=
  fun hi =>
  ⟨by rw [RaftProps.C20.becomeFollower_raftLog]; exact (h0 hi).ls.trans (logS_limit _ 0),
   by rw [becomeFollower_batchAppend]; exact (h0 hi).ba,
   by rw [becomeFollower_msgs]; exact (h0 hi).q⟩

theorem becomeCandidate_n {a r r' : Raft} (h : r.becomeCandidate = .ok r') (h0 : N a r) :
    N a r' :=
  becomeCandidate_parts h h0 reset_n N.mk'

theorem becomePreCandidate_n {a r r' : Raft} (h : r.becomePreCandidate = .ok r') (h0 : N a r) :
    N a r' := by
  unfold Raft.becomePreCandidate at h
  split at h
  · cases h
  · cases h; exact N.mk' h0

theorem sendVoteRequests_n {a r r' : Raft} {ct : CampaignType} {vm : MsgType} {t : Nat}
    (hvm : vm ≠ .msgAppend)
    (h : r.sendVoteRequests ct vm t = .ok r') (h0 : N a r) : N a r' :=
  sendVoteRequests_parts h h0 (sendT_n hvm)

theorem maybeCommitByVote_n {a r r' : Raft} {m : Message} (h : r.maybeCommitByVote m = .ok r')
    (h0 : N a r) : N a r' :=
  maybeCommitByVote_parts h h0 (fun hc => N.log (logS_maybeCommit hc) h0) (becomeFollower_n _ _)

theorem stepVote_n {a r r' : Raft} {m : Message} (h : r.stepVote m = .ok r') (h0 : N a r) :
    N a r' :=
  stepVote_parts h (fun hs ht => send_n hs (voteResp_ne ht) h0) N.mk'
    maybeCommitByVote_n

theorem stepTerm_n {a r r' : Raft} {m : Message} {b : Bool} (h : r.stepTerm m = .ok (r', b))
    (h0 : N a r) : N a r' :=
  stepTerm_parts h h0 (fun _ _ => becomeFollower_n _ _) (sendT_n (by decide))
    (sendT_n (by decide))

/-! ### the leader-mode relation -/

structure LP (a : Raft) (l : RaftLog) (b : Bool) (s : StateRole) (ms : List Message) : Prop where
  ls : LogSameS a.raftLog l
  ba : b = a.batchAppend
  st : s = .leader
  q : ∀ x ∈ ms, x.msgType = .msgAppend → Good a.msgs a.raftLog.abs (msgLog x)

def L0 (a r : Raft) : Prop := LP a r.raftLog r.batchAppend r.state r.msgs

theorem L0.ls {a r : Raft} (h : L0 a r) : LogSameS a.raftLog r.raftLog := LP.ls h
theorem L0.ba {a r : Raft} (h : L0 a r) : r.batchAppend = a.batchAppend := LP.ba h
theorem L0.st {a r : Raft} (h : L0 a r) : r.state = .leader := LP.st h
theorem L0.q {a r : Raft} (h : L0 a r) :
    ∀ x ∈ r.msgs, x.msgType = .msgAppend → Good a.msgs a.raftLog.abs (msgLog x) := LP.q h
theorem L0.abs {a r : Raft} (h : L0 a r) : r.raftLog.abs = a.raftLog.abs := h.ls.same.abs
theorem L0.inv {a r : Raft} (h : L0 a r) (hi : a.raftLog.Inv) : r.raftLog.Inv := h.ls.same.inv hi

/-- the leader-mode relation under its standing assumptions: the representation invariant of the log
of the start state, and its queue clean -/
def L (a r : Raft) : Prop := a.raftLog.Inv → CleanQ a.msgs a.raftLog.abs → L0 a r

theorem L0.rfl {r : Raft} (hs : r.state = .leader) : L0 r r :=
  ⟨LogSameS.rfl, Eq.refl _, hs, fun x hx hty => .inl ⟨x, hx, hty, Eq.refl _⟩⟩

theorem L.rfl {r : Raft} (hs : r.state = .leader) : L r r := fun _ _ => L0.rfl hs

theorem N0.toL {a r : Raft} (h : N0 a r) (hs : r.state = .leader) : L0 a r :=
  ⟨h.ls, h.ba, hs, fun x hx hty => .inl ⟨x, h.q x hx hty, hty, Eq.refl _⟩⟩

/-- the queue of a leader-mode state is clean again -/
theorem L0.clean {a r : Raft} (h : L0 a r) (hc : CleanQ a.msgs a.raftLog.abs) :
    CleanQ r.msgs r.raftLog.abs := by
  intro x hx hty
  rw [h.abs]
  exact Good.ok1 hc (h.q x hx hty)

theorem L0.trans {a b c : Raft} (h1 : L0 a b) (h2 : L0 b c) : L0 a c := by
  refine ⟨h1.ls.trans h2.ls, h2.ba.trans h1.ba, h2.st, fun x hx hty => ?_⟩
  have := h2.q x hx hty
  rw [h1.abs] at this
  exact Good.rebase h1.q this

/-- `L` from `r` on, composed with `L0` up to `r` -/
theorem L0.then {a r r' : Raft} (h : L0 a r) (hi : a.raftLog.Inv)
    (hc : CleanQ a.msgs a.raftLog.abs) (h2 : L r r') : L0 a r' :=
  h.trans (h2 (h.inv hi) (h.clean hc))

/-- a plain step that keeps the role, in leader mode -/
theorem L.of_n {a r r' : Raft} (hn : N r r') (hst : r'.state = r.state) (h0 : L a r) : L a r' := by
  intro hi hc
  have h0 := h0 hi hc
  have hn := hn (h0.inv hi)
  exact ⟨h0.ls.trans hn.ls, hn.ba.trans h0.ba, hst.trans h0.st,
    fun x hx hty => h0.q x (hn.q x hx hty) hty⟩

/-- any structure update that keeps `raftLog`, `batchAppend`, `state` and `msgs` keeps `L` -/
theorem L.mk' {a r : Raft} {x1 x2 x3 : Nat} {x4 : List ReadState} {x6 x7 x8 : Nat}
    {x10 : Bool} {x11 : Nat}
    {x12 : Option Nat} {x13 : Nat} {x14 : ReadOnly} {x15 x16 : Nat} {x17 x18 x19 x21 : Bool}
    {x22 x23 x24 x25 x26 : Nat} {x27 : Int} {x28 : UncommittedState} {x29 : Nat}
    {x30 : ProgressTracker} {x32 : Option Nat} (h0 : L a r) :
    L a { term := x1, vote := x2, id := x3, readStates := x4, raftLog := r.raftLog,
          maxInflight := x6, maxMsgSize := x7, pendingRequestSnapshot := x8, state := r.state,
          promotable := x10, leaderId := x11, leadTransferee := x12,
          pendingConfIndex := x13, readOnly := x14, electionElapsed := x15,
          heartbeatElapsed := x16, checkQuorum := x17, preVote := x18,
          skipBcastCommit := x19, batchAppend := r.batchAppend, disableProposalForwarding := x21,
          heartbeatTimeout := x22, electionTimeout := x23, randomizedElectionTimeout := x24,
          minElectionTimeout := x25, maxElectionTimeout := x26, priority := x27,
          uncommittedState := x28, maxCommittedSizePerReady := x29, prs := x30, msgs := r.msgs,
          nextRand := x32 } :=
  fun hi hc => ⟨(h0 hi hc).ls, (h0 hi hc).ba, (h0 hi hc).st, (h0 hi hc).q⟩

theorem L.log {a r : Raft} {l : RaftLog} (hl : LogSameS r.raftLog l) (h0 : L a r) :
    L a { r with raftLog := l } :=
  fun hi hc => ⟨(h0 hi hc).ls.trans hl, (h0 hi hc).ba, (h0 hi hc).st, (h0 hi hc).q⟩

theorem L.mkSend {a r : Raft} {m : Message} {x1 x2 x3 : Nat} {x4 : List ReadState} {x6 x7 x8 : Nat}
    {x10 : Bool} {x11 : Nat}
    {x12 : Option Nat} {x13 : Nat} {x14 : ReadOnly} {x15 x16 : Nat} {x17 x18 x19 x21 : Bool}
    {x22 x23 x24 x25 x26 : Nat} {x27 : Int} {x28 : UncommittedState} {x29 : Nat}
    {x30 : ProgressTracker} {x32 : Option Nat} (hm : decide (m.msgType ≠ .msgAppend) = true)
    (h0 : L a r) :
    L a { term := x1, vote := x2, id := x3, readStates := x4, raftLog := r.raftLog,
          maxInflight := x6, maxMsgSize := x7, pendingRequestSnapshot := x8, state := r.state,
          promotable := x10, leaderId := x11, leadTransferee := x12,
          pendingConfIndex := x13, readOnly := x14, electionElapsed := x15,
          heartbeatElapsed := x16, checkQuorum := x17, preVote := x18,
          skipBcastCommit := x19, batchAppend := r.batchAppend, disableProposalForwarding := x21,
          heartbeatTimeout := x22, electionTimeout := x23, randomizedElectionTimeout := x24,
          minElectionTimeout := x25, maxElectionTimeout := x26, priority := x27,
          uncommittedState := x28, maxCommittedSizePerReady := x29, prs := x30,
          msgs := r.msgs ++ [r.sendFill m],
          nextRand := x32 } := by
  intro hi hc
  have h0 := h0 hi hc
  refine ⟨h0.ls, h0.ba, h0.st, fun x hx hty => ?_⟩
  rcases List.mem_append.1 hx with hx | hx
  · exact h0.q x hx hty
  · rw [List.mem_singleton.1 hx, sendFill_msgType] at hty
    exact absurd hty (of_decide_eq_true hm)

/-! ### the relation of the senders: `X`, which records the batching flag of the start state -/

/-- the sources of the links of a `MsgAppend` made in a call: the log, and — batching — the queued
appends -/
def SrcX (b : Bool) (ms : List Message) (g k : LLog) : Prop :=
  k = g ∨ (b = true ∧ Kept ms k ∧ ¬ Weird k)

/-- the chain of a `MsgAppend` made in a call that started with flag `b`, queue `ms` and log `g` -/
structure MadeX (b : Bool) (ms : List Message) (g k : LLog) : Prop where
  contig : k.Contig
  der : DerivedFrom (SrcX b ms g) k
  tc : Weird k ∨ TailC k g

/-- a queued `MsgAppend` after a call: queued before; made in the call; or — batching — a chain queued
before under a refreshed commit index, or anchored in the void -/
def GoodX (b : Bool) (ms : List Message) (g : LLog) (x : Message) : Prop :=
  x ∈ ms ∨ MadeX b ms g (msgLog x) ∨ (b = true ∧ (Kept ms (msgLog x) ∨ Weird (msgLog x)))

theorem SrcX.src {b : Bool} {ms : List Message} {g k : LLog} (h : SrcX b ms g k) : Src ms g k := by
  rcases h with c | ⟨_, c⟩
  · exact .inl c
  · exact .inr c

/-- batching off, a made chain is a sub-log of the log -/
theorem MadeX.sub {ms : List Message} {g k : LLog} (h : MadeX false ms g k) : Sub k g := by
  intro i e he
  obtain ⟨y, hy, h1, h2⟩ := h.der i e he
  rcases hy with rfl | ⟨c, _⟩
  · exact ⟨h1, h2⟩
  · cases c

/-- projection 1: batching off, what `K` says -/
theorem GoodX.k {ms : List Message} {g : LLog} {x : Message} (h : GoodX false ms g x) :
    x ∈ ms ∨ SubW x g := by
  rcases h with c | c | ⟨c, _⟩
  · exact .inl c
  · exact .inr ⟨c.contig, c.sub⟩
  · cases c

/-- projection 2: what `L` says -/
theorem GoodX.good {b : Bool} {ms : List Message} {g : LLog} {x : Message}
    (hty : x.msgType = .msgAppend) (h : GoodX b ms g x) : Good ms g (msgLog x) := by
  rcases h with c | c | ⟨_, c | c⟩
  · exact .inl ⟨x, c, hty, rfl⟩
  · rcases c.tc with w | t
    · exact .inr (.inr w)
    · exact .inr (.inl ⟨c.contig, c.der.mono fun _ => SrcX.src, t⟩)
  · exact .inl c
  · exact .inr (.inr c)

/-- under `CleanQ`: anchored in the void, or gap-free, tail-compatible and derived from the sources -/
theorem GoodX.all {b : Bool} {ms : List Message} {g : LLog} {x : Message}
    (hb : b = true) (hc : CleanQ ms g) (hty : x.msgType = .msgAppend) (h : GoodX b ms g x) :
    Weird (msgLog x) ∨
      ((msgLog x).Contig ∧ TailC (msgLog x) g ∧ DerivedFrom (SrcX b ms g) (msgLog x)) := by
  have kept : ∀ x0 ∈ ms, x0.msgType = .msgAppend → msgLog x0 = msgLog x →
      Weird (msgLog x) ∨
        ((msgLog x).Contig ∧ TailC (msgLog x) g ∧ DerivedFrom (SrcX b ms g) (msgLog x)) := by
    intro x0 hx0 hty0 e
    rw [← e]
    rcases hc x0 hx0 hty0 with c | c
    · exact .inl c
    · by_cases hw : Weird (msgLog x0)
      · exact .inl hw
      · exact .inr ⟨c.1, c.2, DerivedFrom.of_mem (.inr ⟨hb, ⟨x0, hx0, hty0, rfl⟩, hw⟩)⟩
  rcases h with c | c | ⟨_, ⟨x0, hx0, hty0, e⟩ | c⟩
  · exact kept x c hty rfl
  · rcases c.tc with w | t
    · exact .inl w
    · exact .inr ⟨c.contig, t, c.der⟩
  · exact kept x0 hx0 hty0 e
  · exact .inl c

/-! ### the relation -/

/-- the queue clause stands under the proviso that — if the start state batches — its queue is clean -/
structure XP (a : Raft) (l : RaftLog) (b : Bool) (s : StateRole) (ms : List Message) : Prop where
  ls : LogSameS a.raftLog l
  ba : b = a.batchAppend
  st : s = a.state
  q : (a.batchAppend = true → CleanQ a.msgs a.raftLog.abs) →
    ∀ x ∈ ms, x.msgType = .msgAppend → GoodX a.batchAppend a.msgs a.raftLog.abs x

def X0 (a r : Raft) : Prop := XP a r.raftLog r.batchAppend r.state r.msgs

theorem X0.ls {a r : Raft} (h : X0 a r) : LogSameS a.raftLog r.raftLog := XP.ls h
theorem X0.ba {a r : Raft} (h : X0 a r) : r.batchAppend = a.batchAppend := XP.ba h
theorem X0.st {a r : Raft} (h : X0 a r) : r.state = a.state := XP.st h
theorem X0.q {a r : Raft} (h : X0 a r) (hc : a.batchAppend = true → CleanQ a.msgs a.raftLog.abs) :
    ∀ x ∈ r.msgs, x.msgType = .msgAppend → GoodX a.batchAppend a.msgs a.raftLog.abs x := XP.q h hc
theorem X0.abs {a r : Raft} (h : X0 a r) : r.raftLog.abs = a.raftLog.abs := h.ls.same.abs
theorem X0.inv {a r : Raft} (h : X0 a r) (hi : a.raftLog.Inv) : r.raftLog.Inv := h.ls.same.inv hi

/-- the per-call relation of the sending helpers (they keep the role), under the standing assumption
that the log of the start state satisfies the representation invariant -/
def X (a r : Raft) : Prop := a.raftLog.Inv → X0 a r

theorem X0.rfl {r : Raft} : X0 r r := ⟨LogSameS.rfl, Eq.refl _, Eq.refl _, fun _ _ hx _ => .inl hx⟩
theorem X.rfl {r : Raft} : X r r := fun _ => X0.rfl

/-- **projection 0**: the logical log is kept -/
theorem X.ls {a r : Raft} (h : X a r) (hi : a.raftLog.Inv) : LS a r := (h hi).ls.same

/-- **projection 1**: batching off, `X` is `K` -/
theorem X0.k0 {a r : Raft} (h : X0 a r) (hb : a.batchAppend = false) : K0 a r :=
  ⟨h.ls, h.ba, fun x hx hty => (hb ▸ h.q (fun c => by rw [hb] at c; cases c) x hx hty).k⟩

theorem X.k {a r : Raft} (h : X a r) : K a r := fun hi hb => (h hi).k0 hb

/-- **projection 2**: from a leader with a clean queue, `X` is `L` -/
theorem X0.l0 {a r : Raft} (h : X0 a r) (hs : a.state = .leader)
    (hc : CleanQ a.msgs a.raftLog.abs) : L0 a r :=
  ⟨h.ls, h.ba, h.st.trans hs, fun x hx hty => (h.q (fun _ => hc) x hx hty).good hty⟩

theorem X.l {a r : Raft} (h : X a r) (hs : a.state = .leader) : L a r :=
  fun hi hc => (h hi).l0 hs hc

/-- what keeps `N` and the role keeps `X` -/
theorem X.of_n {a r r' : Raft} (hn : N r r') (hst : r'.state = r.state) (h0 : X a r) : X a r' := by
  intro hi
  have h0 := h0 hi
  have hn := hn (h0.inv hi)
  exact ⟨h0.ls.trans hn.ls, hn.ba.trans h0.ba, hst.trans h0.st,
    fun hc x hx hty => h0.q hc x (hn.q x hx hty) hty⟩

/-- any update that keeps `raftLog`, `batchAppend`, `state` and `msgs` keeps `X` -/
theorem X.frame {a r r' : Raft} (e1 : r'.raftLog = r.raftLog) (e2 : r'.batchAppend = r.batchAppend)
    (e3 : r'.state = r.state) (e4 : r'.msgs = r.msgs) (h0 : X a r) : X a r' := by
  intro hi
  unfold X0
  rw [e1, e2, e3, e4]
  exact h0 hi

/-- `GoodX` relative to an intermediate queue all of whose appends are `GoodX` -/
theorem GoodX.rebase {b : Bool} {ms ms' : List Message} {g : LLog} {x : Message}
    (hms : ∀ y ∈ ms', y.msgType = .msgAppend → GoodX b ms g y)
    (hty : x.msgType = .msgAppend) (h : GoodX b ms' g x) : GoodX b ms g x := by
  have kept : ∀ k, Kept ms' k → MadeX b ms g k ∨ (b = true → Kept ms k ∨ Weird k) := by
    rintro k ⟨x0, hx, hty0, rfl⟩
    rcases hms x0 hx hty0 with c | c | ⟨_, c⟩
    · exact .inr fun _ => .inl ⟨x0, c, hty0, rfl⟩
    · exact .inl c
    · exact .inr fun _ => c
  rcases h with c | c | ⟨hb, c | c⟩
  · exact hms x c hty
  · refine .inr (.inl ⟨c.contig, c.der.trans' ?_, c.tc⟩)
    intro y hy
    rcases hy with rfl | ⟨hb, hk, hnw⟩
    · exact DerivedFrom.of_mem (.inl rfl)
    · rcases kept y hk with d | d
      · exact d.der
      · rcases d hb with d | d
        · exact DerivedFrom.of_mem (.inr ⟨hb, d, hnw⟩)
        · exact absurd d hnw
  · rcases kept _ c with d | d
    · exact .inr (.inl d)
    · exact .inr (.inr ⟨hb, d hb⟩)
  · exact .inr (.inr ⟨hb, .inr c⟩)

theorem X.log {a r : Raft} {l : RaftLog} (hl : LogSameS r.raftLog l) (h0 : X a r) :
    X a { r with raftLog := l } :=
  fun hi => ⟨(h0 hi).ls.trans hl, (h0 hi).ba, (h0 hi).st, (h0 hi).q⟩

/-- the queue after an `X` stretch that started with a clean queue is clean -/
theorem X0.clean {a r : Raft} (h : X0 a r) (hc : CleanQ a.msgs a.raftLog.abs) :
    CleanQ r.msgs r.raftLog.abs := by
  intro x hx hty
  rw [h.abs]
  exact Good.ok1 hc ((h.q (fun _ => hc) x hx hty).good hty)

/-- an `X` stretch after a plain one that kept the role -/
theorem X.after {a r r' : Raft} (h0 : N0 a r) (hs : r.state = a.state) (hl : X r r') : X a r' := by
  intro hi
  have h1 := hl (h0.inv hi)
  refine ⟨h0.ls.trans h1.ls, h1.ba.trans h0.ba, h1.st.trans hs, fun hc x hx hty => ?_⟩
  have hcr : r.batchAppend = true → CleanQ r.msgs r.raftLog.abs := fun hb => by
    rw [h0.abs]; exact (hc (h0.ba ▸ hb)).mono h0.q
  have := h1.q hcr x hx hty
  rw [h0.abs, h0.ba] at this
  exact GoodX.rebase (fun y hy hty' => .inl (h0.q y hy hty')) hty this

theorem msgLog_batched (c : Nat) (msg : Message) (es : List Entry) :
    msgLog (RaftProps.C13.batchedMsg c msg es) =
      { msgLog msg with ents := (msgLog msg).ents ++ es } := rfl

/-- **`maybe_send_append`, batching on or off**: what it queues is a `MsgSnapshot`, or a fresh
`MsgAppend` that is a slice of the sender's logical log, or — batching — it glues the slice onto the
first queued `MsgAppend` for the peer -/
theorem maybeSendAppend_x {a r r' : Raft} {to : Nat} {pr pr' : Progress} {ae b : Bool}
    (h : r.maybeSendAppend to pr ae = .ok (r', pr', b)) (h0 : X a r) : X a r' := by
  have hfr := (maybeSendAppend_frame h Frame.rfl).state
  rcases RaftProps.C13.C13_send_classification r r' to pr pr' ae b h with
    ⟨_, he, _⟩ | ⟨_, _, hn, t, es, ht, hes, _, _, _, hcase⟩ | ⟨_, _, he, _⟩ | ⟨_, _, hv⟩
  · rw [he]; exact h0
  · intro hinv
    have h0 := h0 hinv
    have hri := h0.inv hinv
    obtain ⟨hc, hown⟩ := hri.entries_own hes
    have hfirst := hri.entries_first_le hes
    rw [hri.term_abs, h0.abs] at ht
    rw [h0.abs] at hown hfirst
    rcases hcase with ⟨hbt, htb⟩ | ⟨_, he⟩
    · -- batched
      have hbt : a.batchAppend = true := h0.ba ▸ hbt
      obtain ⟨hr', hb1, _⟩ := RaftProps.C13.C13_batching r r' to pr pr' es true htb
      obtain ⟨pre, msg, post, hms, _, hto, hcont, hms', _⟩ := hb1 rfl
      have hl' : r'.raftLog = r.raftLog := by rw [hr']
      have hb' : r'.batchAppend = r.batchAppend := by rw [hr']
      refine ⟨by rw [hl']; exact h0.ls, by rw [hb']; exact h0.ba, by rw [hfr]; exact h0.st,
        fun hcl x hx hty => ?_⟩
      rw [hms'] at hx
      have hold : ∀ y, y ∈ pre ∨ y ∈ post → y ∈ r.msgs := by
        intro y hy
        rw [hms]
        rcases hy with hy | hy
        · exact List.mem_append_left _ hy
        · exact List.mem_append_right _ (List.mem_cons_of_mem _ hy)
      have hmsg : msg ∈ r.msgs := by
        rw [hms]; exact List.mem_append_right _ List.mem_cons_self
      rcases List.mem_append.1 hx with hx | hx
      · exact h0.q hcl x (hold x (.inl hx)) hty
      · rcases List.mem_cons.1 hx with hx | hx
        · -- the glued message
          subst hx
          rcases GoodX.all hbt (hcl hbt) hto.1 (h0.q hcl msg hmsg hto.1) with hw | hg
          · exact .inr (.inr ⟨hbt, .inr hw⟩)
          · refine .inr (.inl ?_)
            rw [msgLog_batched]
            cases es with
            | nil =>
              simp only [List.append_nil]
              exact ⟨hg.1, hg.2.2, .inr hg.2.1⟩
            | cons e0 es =>
              -- the slice starts right after the end of the queued message
              have hstart : pr.nextIdx = (msgLog msg).lastIndex + 1 := by
                have h1 : e0.index = pr.nextIdx := by have := hc 0 e0 rfl; omega
                rcases (RaftProps.C13.C13_isContinuousEnts_char msg (e0 :: es)).1 hcont with
                  hnil | ⟨f, hf, hidx⟩
                · cases hnil
                · simp only [List.head?_cons, Option.some.injEq] at hf
                  subst hf
                  have hmc : ContigFrom (msg.index + 1) msg.entries := hg.1
                  show pr.nextIdx = msg.index + msg.entries.length + 1
                  cases hl : msg.entries.getLast? with
                  | none =>
                    have : msg.entries = [] := by simpa using hl
                    rw [hl] at hidx; simp only at hidx
                    rw [this]; simp; omega
                  | some last =>
                    rw [hl] at hidx; simp only at hidx
                    have := hmc.getLast hl
                    omega
              rw [hstart] at hc ht
              obtain ⟨g1, g2, g3⟩ := glue (msgLog msg) a.raftLog.abs e0 es t hg.1 hg.2.1 hc hown ht
              refine ⟨g1, g2.trans' ?_, .inr g3⟩
              intro y hy
              rcases hy with rfl | rfl
              · exact hg.2.2
              · exact DerivedFrom.of_mem (.inl rfl)
        · exact h0.q hcl x (hold x (.inr hx)) hty
    · -- a fresh message
      rw [he]
      refine ⟨h0.ls, h0.ba, h0.st, fun hcl x hx hty => ?_⟩
      rcases List.mem_append.1 hx with hx | hx
      · exact h0.q hcl x hx hty
      · rw [List.mem_singleton.1 hx]
        have hsub := sub_of_slice a.raftLog.abs pr.nextIdx t es (by omega) hc hown ht
        refine .inr (.inl ⟨?_, DerivedFrom.of_sub hsub (.inl rfl), ?_⟩)
        · show ContigFrom (pr.nextIdx - 1 + 1) es
          rw [show pr.nextIdx - 1 + 1 = pr.nextIdx by omega]; exact hc
        · by_cases hweird : t = 0 ∧ pr.nextIdx - 1 ≠ 0
          · exact .inl ⟨by show some t = some 0; rw [hweird.1], hweird.2⟩
          · -- the anchor lies within the log
            have hbound : pr.nextIdx ≤ a.raftLog.abs.lastIndex + 1 := by
              by_cases hout : a.raftLog.abs.lastIndex < pr.nextIdx - 1
              · have h0t : t = 0 := by
                  unfold LLog.term at ht
                  rw [if_pos (.inr hout)] at ht
                  cases ht; rfl
                exfalso
                apply hweird
                refine ⟨h0t, ?_⟩
                have : a.raftLog.abs.snapIdx ≤ a.raftLog.abs.lastIndex := by
                  unfold LLog.lastIndex; omega
                omega
              · omega
            exact .inr (tc_of_slice a.raftLog.abs pr.nextIdx t es (by omega) hc hown ht hfirst hbound)
  · rw [he]; exact h0
  · exact X.of_n (viaSnapshot_n hv N.rfl) hfr h0

/-! ### the helpers that reach `maybe_send_append` -/

theorem maybeCommit_x {a r r' : Raft} {b : Bool} (h : r.maybeCommit = .ok (r', b))
    (h0 : X a r) : X a r' :=
  X.of_n (maybeCommit_n h N.rfl) (maybeCommit_frame h Frame.rfl).state h0

theorem respondReadStates_x {a r r' : Raft} {rss : List ReadIndexStatus}
    (h : r.respondReadStates rss = .ok r') (h0 : X a r) : X a r' :=
  X.of_n (respondReadStates_n h N.rfl) (respondReadStates_frame h Frame.rfl).state h0

theorem sendTimeoutNow_x {a r r' : Raft} {to : Nat}
    (h : r.sendTimeoutNow to = .ok r') (h0 : X a r) : X a r' :=
  X.of_n (sendTimeoutNow_n h N.rfl) (sendTimeoutNow_frame h Frame.rfl).state h0

theorem sendAppendPr_x {a r r' : Raft} {to : Nat} {pr pr' : Progress}
    (h : r.sendAppendPr to pr = .ok (r', pr')) (h0 : X a r) : X a r' :=
  sendAppendPr_parts h (maybeSendAppend_x · h0)

theorem sendAppend_x {a r r' : Raft} {to : Nat}
    (h : r.sendAppend to = .ok r') (h0 : X a r) : X a r' :=
  sendAppend_parts h (sendAppendPr_x · h0) fun _ => X.frame rfl rfl rfl rfl

theorem sendAppendAggressively_x {a r r' : Raft} {to : Nat}
    (h : r.sendAppendAggressively to = .ok r') (h0 : X a r) : X a r' :=
  sendAppendAggressively_parts h
    (sendAppendAggressivelyPr_parts maybeSendAppend_x _ _ _ · h0) fun _ => X.frame rfl rfl rfl rfl

theorem bcastAppend_x {a r r' : Raft}
    (h : r.bcastAppend = .ok r') (h0 : X a r) : X a r' :=
  bcastAppend_parts h h0 sendAppendPr_x fun _ _ => X.frame rfl rfl rfl rfl

theorem handleAppendResponseAccepted_x {a r r' : Raft} {m : Message} {pr : Progress} {op : Bool}
    (h : r.handleAppendResponseAccepted m pr op = .ok r') (h0 : X a r) : X a r' :=
  handleAppendResponseAccepted_parts h (fun _ => X.frame rfl rfl rfl rfl h0)
    maybeCommit_x bcastAppend_x
    sendAppend_x sendAppendAggressively_x fun _ => sendTimeoutNow_x

theorem handleAppendResponse_x {a r r' : Raft} {m : Message}
    (h : r.handleAppendResponse m = .ok r') (h0 : X a r) : X a r' :=
  handleAppendResponse_parts h h0 (fun _ => X.frame rfl rfl rfl rfl h0) sendAppend_x
    (handleAppendResponseAccepted_x · h0)

theorem handleHeartbeatResponse_x {a r r' : Raft} {m : Message}
    (h : r.handleHeartbeatResponse m = .ok r') (h0 : X a r) : X a r' :=
  handleHeartbeatResponse_parts h h0 (sendAppendPr_x · h0) (fun _ => X.frame rfl rfl rfl rfl)
    (fun _ => X.frame rfl rfl rfl rfl) respondReadStates_x

theorem handleTransferLeader_x {a r r' : Raft} {m : Message}
    (h : r.handleTransferLeader m = .ok r') (h0 : X a r) : X a r' :=
  handleTransferLeader_parts h h0 (X.frame rfl rfl rfl rfl) (X.frame rfl rfl rfl rfl)
    (fun _ => sendTimeoutNow_x) (fun _ => sendAppendPr_x)
    fun _ => X.frame rfl rfl rfl rfl

/-! ### what `L` and `K` say of the senders -/

/-- an `X` stretch after a leader-mode one -/
theorem L.then_x {a r r' : Raft} (hx : X r r') (h0 : L a r) : L a r' := fun hi hc =>
  (h0 hi hc).trans ((hx ((h0 hi hc).inv hi)).l0 (h0 hi hc).st ((h0 hi hc).clean hc))

theorem maybeSendAppend_l {a r r' : Raft} {to : Nat} {pr pr' : Progress} {ae b : Bool}
    (h : r.maybeSendAppend to pr ae = .ok (r', pr', b)) (h0 : L a r) : L a r' :=
  L.then_x (maybeSendAppend_x h X.rfl) h0

theorem maybeCommit_l {a r r' : Raft} {b : Bool} (h : r.maybeCommit = .ok (r', b))
    (h0 : L a r) : L a r' :=
  L.then_x (maybeCommit_x h X.rfl) h0

theorem respondReadStates_l {a r r' : Raft} {rss : List ReadIndexStatus}
    (h : r.respondReadStates rss = .ok r') (h0 : L a r) : L a r' :=
  L.then_x (respondReadStates_x h X.rfl) h0

theorem bcastAppend_l {a r r' : Raft}
    (h : r.bcastAppend = .ok r') (h0 : L a r) : L a r' :=
  L.then_x (bcastAppend_x h X.rfl) h0

theorem handleAppendResponse_l {a r r' : Raft} {m : Message}
    (h : r.handleAppendResponse m = .ok r') (h0 : L a r) : L a r' :=
  L.then_x (handleAppendResponse_x h X.rfl) h0

theorem handleHeartbeatResponse_l {a r r' : Raft} {m : Message}
    (h : r.handleHeartbeatResponse m = .ok r') (h0 : L a r) : L a r' :=
  L.then_x (handleHeartbeatResponse_x h X.rfl) h0

theorem handleTransferLeader_l {a r r' : Raft} {m : Message}
    (h : r.handleTransferLeader m = .ok r') (h0 : L a r) : L a r' :=
  L.then_x (handleTransferLeader_x h X.rfl) h0

theorem sendAppend_l {a r r' : Raft} {to : Nat}
    (h : r.sendAppend to = .ok r') (h0 : L a r) : L a r' :=
  L.then_x (sendAppend_x h X.rfl) h0

theorem sendAppendAggressively_l {a r r' : Raft} {to : Nat}
    (h : r.sendAppendAggressively to = .ok r') (h0 : L a r) : L a r' :=
  L.then_x (sendAppendAggressively_x h X.rfl) h0

end Bt

/-- an `X` stretch after one of the layer without batching -/
theorem K.then_x {a r r' : Raft} (hx : Bt.X r r') (h0 : K a r) : K a r' := h0.trans hx.k

theorem maybeSendAppend_k {a r r' : Raft} {to : Nat} {pr pr' : Progress} {ae b : Bool}
    (h : r.maybeSendAppend to pr ae = .ok (r', pr', b)) (h0 : K a r) : K a r' :=
  K.then_x (Bt.maybeSendAppend_x h Bt.X.rfl) h0

theorem sendAppend_k {a r r' : Raft} {to : Nat}
    (h : r.sendAppend to = .ok r') (h0 : K a r) : K a r' :=
  K.then_x (Bt.sendAppend_x h Bt.X.rfl) h0

theorem sendAppendAggressively_k {a r r' : Raft} {to : Nat}
    (h : r.sendAppendAggressively to = .ok r') (h0 : K a r) : K a r' :=
  K.then_x (Bt.sendAppendAggressively_x h Bt.X.rfl) h0

theorem bcastAppend_k {a r r' : Raft}
    (h : r.bcastAppend = .ok r') (h0 : K a r) : K a r' :=
  K.then_x (Bt.bcastAppend_x h Bt.X.rfl) h0

theorem handleAppendResponse_k {a r r' : Raft} {m : Message}
    (h : r.handleAppendResponse m = .ok r') (h0 : K a r) : K a r' :=
  K.then_x (Bt.handleAppendResponse_x h Bt.X.rfl) h0

theorem handleHeartbeatResponse_k {a r r' : Raft} {m : Message}
    (h : r.handleHeartbeatResponse m = .ok r') (h0 : K a r) : K a r' :=
  K.then_x (Bt.handleHeartbeatResponse_x h Bt.X.rfl) h0

theorem handleTransferLeader_k {a r r' : Raft} {m : Message}
    (h : r.handleTransferLeader m = .ok r') (h0 : K a r) : K a r' :=
  K.then_x (Bt.handleTransferLeader_x h Bt.X.rfl) h0

end Raft
end RaftModel
