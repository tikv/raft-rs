import RaftProps.C17
import RaftProofs.NodeHandlers

/-!
Cluster-level leadership transfer (C17c), helper lemmas part A: **what ONE call of `Node.call` (any
`NodeOp`) does to the `MsgTimeoutNow` messages of the outgoing queue** (`call_tn`): every
`MsgTimeoutNow` that is in the queue after the call and was not there before was queued by a node that
is leader after the call, carries its id and term, and is addressed to a peer whose progress has
`matched = last_index` in the state after the call.

The two sites of `Raft::step` are covered by `RaftProps.C17.step_tn`; here the frame is lifted to the
entry points that are not `step` (`tick`, `ping`, `request_snapshot`, `apply_conf_change`,
`on_persist_entries`, `on_persist_snap`, `commit_apply`, the group-commit calls, `on_entries_fetched`,
the emulated application's storage steps and the run-time knobs), none of which queues a
`MsgTimeoutNow`.
-/
namespace RaftModel
namespace Raft
namespace XF
open Node RaftProps.C17

/-- what a call does to the `MsgTimeoutNow`s of the queue: nothing, or the node is (and stays) leader
and exactly one was appended, to a peer `x` with `matched = last_index` afterwards -/
def TnOut (r r' : Raft) : Prop :=
  TN r r' ∨ ∃ x, r.state = .leader ∧ TimeoutNowSent r r' x

theorem TnOut.of_tn {r r' : Raft} (h : TN r r') : TnOut r r' := Or.inl h

/-- `TnOut` in the form the cluster level uses -/
theorem TnOut.elim {r r' : Raft} (h : TnOut r r') :
    ∀ x ∈ r'.msgs, x.msgType = .msgTimeoutNow → x ∈ r.msgs ∨
      (r'.state = .leader ∧ x.term = r'.term ∧ x.frm = r'.id ∧
        ∃ pr, r'.prs.get x.to = some pr ∧ pr.matched = r'.raftLog.lastIndex) := by
  intro x hx hty
  have hin : x ∈ tnOf r'.msgs := by simp [tnOf, hx, hty]
  rcases h with h | ⟨y, hl, pr, h1, _, h3, h4, h5, h6, h7⟩
  · have h' : tnOf r'.msgs = tnOf r.msgs := h
    rw [h'] at hin
    simp [tnOf] at hin
    exact Or.inl hin.1
  · rw [h1] at hin
    simp only [List.mem_append, List.mem_singleton] at hin
    rcases hin with hin | hin
    · simp [tnOf] at hin
      exact Or.inl hin.1
    · right
      subst hin
      exact ⟨h5.trans hl, h6.symm, h7.symm, pr, h3, h4⟩

theorem step_tnout (r : Raft) (m : Message) : Res.Post (fun x => TnOut r x.1) (r.step m) :=
  Res.post_mono (step_tn r m) (fun a ha => by
    rcases ha with ha | ⟨h1, _, h3⟩
    · exact Or.inl ha
    · exact Or.inr ⟨_, h1, h3⟩)

theorem stepIgnore_tnout (r : Raft) (m : Message) : Res.Post (fun x => TnOut r x) (r.stepIgnore m) := by
  unfold stepIgnore
  exact Res.post_bind (step_tnout r m) (fun a ha => Res.post_ok ha)

/-- a message that is neither `MsgTransferLeader` nor `MsgAppendResponse` queues no `MsgTimeoutNow` -/
theorem step_tn_other (r : Raft) (m : Message) (h1 : m.msgType ≠ .msgTransferLeader)
    (h2 : m.msgType ≠ .msgAppendResponse) : Res.Post (fun x => TN r x.1) (r.step m) :=
  Res.post_mono (step_tn r m) (fun a ha => by
    rcases ha with ha | ⟨_, h | h, _⟩
    · exact ha
    · exact absurd h h1
    · exact absurd h h2)

theorem stepIgnore_tn (r : Raft) (m : Message) (h1 : m.msgType ≠ .msgTransferLeader)
    (h2 : m.msgType ≠ .msgAppendResponse) : Res.Post (fun x => TN r x) (r.stepIgnore m) := by
  unfold stepIgnore
  exact Res.post_bind (step_tn_other r m h1 h2) (fun a ha => Res.post_ok ha)

/-- a tick (`tick_election` or `tick_heartbeat`) queues no `MsgTimeoutNow`: what it steps is a
`MsgHup`, a `MsgCheckQuorum` or a `MsgBeat` -/
theorem tick_tn (r : Raft) : Res.Post (fun x => TN r x.1) r.tick :=
  have step : ∀ {r1 : Raft} {m : Message} {r2 : Raft}, r1.stepIgnore m = .ok r2 →
      m.msgType ≠ .msgTransferLeader → m.msgType ≠ .msgAppendResponse → TN r r1 → TN r r2 :=
    fun hs h1 h2 p => p.trans ((stepIgnore_tn _ _ h1 h2).of_eq hs)
  Res.post_intro fun _ ht => tick_parts (P := TN r) ht
    (fun he => tickElection_parts he (fun _ => TN.of_msgs rfl)
      fun hs ty _ => step hs (by simp [ty]) (by simp [ty]))
    (fun hb => tickHeartbeat_parts hb (fun _ _ p => p) (TN.refl r)
      (fun hs ty _ _ => step hs (by simp [ty]) (by simp [ty]))
      (fun hs ty _ _ => step hs (by simp [ty]) (by simp [ty]))
      (fun p => p))

theorem ping_tn (r : Raft) : Res.Post (fun x => TN r x) r.ping := by
  unfold ping
  split
  · exact Res.post_mono (bcastHeartbeat_frameT r) (fun a ha => ha.toTN)
  · exact Res.post_ok (TN.refl _)

theorem requestSnapshot_tn (r : Raft) : Res.Post (fun x => TN r x.1) r.requestSnapshot :=
  Res.post_intro fun _ h => requestSnapshot_parts (P := TN r) h (TN.refl r)
    (fun _ p => p)
    (fun hq p => p.trans ((sendRequestSnapshot_frameT _).of_eq hq).toTN)

theorem applyConfChange_tn (r : Raft) (cc : ConfChangeV2) :
    Res.Post (fun x => TN r x.1) (r.applyConfChange cc) :=
  Res.post_intro fun _ h => applyConfChange_parts (P := TN r) h (TN.refl r)
    (fun _ p => p)
    (fun hp p => p.trans ((postConfChange_tn _).of_eq hp))

theorem maybeCommit_tn {r0 r1 r2 : Raft} {b : Bool} (h : r1.maybeCommit = .ok (r2, b))
    (p : TN r0 r1) : TN r0 r2 :=
  p.trans ((maybeCommit_frameT r1).of_eq h).toTN

theorem bcastAppend_tn {r0 r1 r2 : Raft} (h : r1.bcastAppend = .ok r2) (p : TN r0 r1) :
    TN r0 r2 :=
  p.trans ((bcastAppend_frameT r1).of_eq h).toTN

theorem onPersistEntries_tn (r : Raft) (index term : Nat) :
    Res.Post (fun x => TN r x) (r.onPersistEntries index term) :=
  Res.post_intro fun _ h => onPersistEntries_parts (P := TN r) h
    (fun _ => TN.refl r) (fun _ p => p) (fun _ => maybeCommit_tn) (fun _ => bcastAppend_tn)

theorem onPersistSnap_tn (r : Raft) (index : Nat) :
    Res.Post (fun x => TN r x) (r.onPersistSnap index) :=
  Res.post_intro fun _ h => onPersistSnap_parts (P := TN r) h fun _ => TN.refl r

theorem commitApply_tn (r : Raft) (k : Nat) : Res.Post (fun x => TN r x) (r.commitApply k) :=
  Res.post_intro fun _ h => commitApplyInternal_parts (P := TN r) h
    (fun _ => TN.refl r)
    (fun _ => fun ha p => p.trans ((appendEntry_frameT _ _).of_eq ha).toTN)
    (fun _ p => p)

theorem reduceUncommittedSize_tn (r : Raft) (ents : List Entry) : TN r (r.reduceUncommittedSize ents) := by
  unfold reduceUncommittedSize
  split
  · exact TN.refl _
  · exact TN.of_msgs rfl

theorem enableGroupCommit_tn (r : Raft) (b : Bool) :
    Res.Post (fun x => TN r x) (r.enableGroupCommit b) :=
  Res.post_intro fun _ h => enableGroupCommit_parts (P := TN r) h (TN.refl r)
    (fun _ => maybeCommit_tn) (fun _ => bcastAppend_tn)

theorem assignCommitGroups_tn (r : Raft) (ids : List (Nat × Nat)) :
    Res.Post (fun x => TN r x) (r.assignCommitGroups ids) :=
  Res.post_intro fun _ h => assignCommitGroups_parts (P := TN r) h (TN.refl r)
    (fun _ _ p => p.trans (modifyProgress_frameT _ _ _).toTN)
    (fun _ => maybeCommit_tn) (fun _ => bcastAppend_tn)

theorem adjustMaxInflightMsgs_tn (r : Raft) (id cap : Nat) :
    Res.Post (fun x => TN r x) (r.adjustMaxInflightMsgs id cap) := by
  unfold adjustMaxInflightMsgs
  split
  · exact Res.post_ok (TN.refl _)
  · split
    · exact Res.post_ok (TN.of_msgs rfl)
    · trivial

/-- every `MsgTimeoutNow` in the queue after the call was there before, or the node is leader after the
call, the message carries its id and term, and the addressee's progress has `matched = last_index` -/
def CallTn (st st' : NState) : Prop :=
  ∀ x ∈ st'.raft.msgs, x.msgType = .msgTimeoutNow → x ∈ st.raft.msgs ∨
    (st'.raft.state = .leader ∧ x.term = st'.raft.term ∧ x.frm = st'.raft.id ∧
      ∃ pr, st'.raft.prs.get x.to = some pr ∧ pr.matched = st'.raft.raftLog.lastIndex)

theorem callTn_out {st st' : NState} {rnd : Option Nat}
    (h : TnOut ({ st.raft with nextRand := rnd } : Raft) st'.raft) : CallTn st st' :=
  fun x hx hty => h.elim x hx hty

theorem callTn_tn {st st' : NState} {rnd : Option Nat}
    (h : TN ({ st.raft with nextRand := rnd } : Raft) st'.raft) : CallTn st st' :=
  callTn_out (rnd := rnd) (Or.inl h)

theorem callTn_msgs {st st' : NState} (h : st'.raft.msgs = st.raft.msgs) : CallTn st st' :=
  fun _ hx _ => Or.inl (h ▸ hx)

theorem rawStep_tnout (r : Raft) (m : Message) :
    Res.Post (fun x => TnOut r x.1) (RawNode.step r m) := by
  unfold RawNode.step
  split
  · exact Res.post_ok (.of_tn (TN.refl r))
  · split
    · exact step_tnout r m
    · exact Res.post_ok (.of_tn (TN.refl r))

/-- **one call of a node** — every `NodeOp` -/
theorem call_tn (st st' : NState) (rnd : Option Nat) (op : NodeOp) (res : OpRes)
    (h : Node.call st rnd op = .ok (res, st')) : CallTn st st' := by
  cases applyOp_parts h with
  | tick hx => exact callTn_tn (rnd := rnd) (Res.Post.fst (tick_tn _) hx)
  | step hx => exact callTn_out (rnd := rnd) (Res.Post.fst (rawStep_tnout _ _) hx)
  | rstep hx | propose hx | proposeCc hx | campaign hx =>
    exact callTn_out (rnd := rnd) (Res.Post.fst (step_tnout _ _) hx)
  | readIndex hx | transferLeader hx | reportUnreachable hx | reportSnapshot hx =>
    exact callTn_out (rnd := rnd) ((stepIgnore_tnout _ _).of_eq hx)
  | ping hx => exact callTn_tn (rnd := rnd) ((ping_tn _).of_eq hx)
  | requestSnapshot hx => exact callTn_tn (rnd := rnd) (Res.Post.fst (requestSnapshot_tn _) hx)
  | confChanged hx | confRefused hx => exact callTn_tn (rnd := rnd) (Res.Post.fst (applyConfChange_tn _ _) hx)
  | stabilize hx =>
    exact stabilize_parts (Q := fun a => CallTn st a) hx fun _ => callTn_msgs rfl
  | onPersistEntries hx => exact callTn_tn (rnd := rnd) ((onPersistEntries_tn _ _ _).of_eq hx)
  | persistSnap hx =>
    exact persistSnap_parts (Q := fun a => CallTn st a) hx (callTn_msgs rfl)
      fun _ _ _ hp => callTn_tn (rnd := rnd) ((onPersistSnap_tn _ _).of_eq hp :)
  | commitApply hx =>
    exact commitApply_parts (Q := fun a => TN ({ st.raft with nextRand := rnd } : Raft) a.raft) hx
      (TN.refl _) (fun _ => reduceUncommittedSize_tn _ _)
      (fun ha p => p.trans ((commitApply_tn _ _).of_eq ha)) (fun p => p) |> callTn_tn (rnd := rnd)
  | compact | triggerSnap | triggerLog | setPriority | setBatchAppend | skipBcastCommit
  | setCheckQuorum | setMaxApplyUnpersistedLogLimit | setMaxCommittedSizePerReady
  | maybeFreeInflightBuffers | clearCommitGroup | checkGroupCommitConsistent | staleFetch =>
    exact callTn_msgs rfl
  | drain => exact fun _ hx _ => nomatch hx
  | adjustMaxInflight hx => exact callTn_tn (rnd := rnd) ((adjustMaxInflightMsgs_tn _ _ _).of_eq hx)
  | enableGroupCommit hx => exact callTn_tn (rnd := rnd) ((enableGroupCommit_tn _ _).of_eq hx)
  | assignCommitGroups hx => exact callTn_tn (rnd := rnd) ((assignCommitGroups_tn _ _).of_eq hx)
  | fetched _ _ _ hx => exact callTn_tn (rnd := rnd) ((sendAppend_frameT _ _).of_eq hx).toTN
  | fetchedAll _ _ _ hx => exact callTn_tn (rnd := rnd) ((sendAppendAggressively_frameT _ _).of_eq hx).toTN

end XF
end Raft
end RaftModel
