import RaftProofs.ClusterRead4N

/-!
Cluster-level ReadIndex safety for **forwarded** reads, part 4O: **`once` + `uniqc` give unique
registration** (`uniqr`), so `RdHypF` gives `RdHypF2`.

The `MsgReadIndex` values that carry one context `K` form a chain: the forwarding call queues the first,
and each delivery of one of them drops it, registers it, or queues one more (`{m with to := leader}`).
`ChainInv`: among those present in a state (queues and transport) at most one has not been delivered
yet, and once `K` has been registered all of them have been delivered.  With `once` (no value is
delivered twice) a second registration is impossible.
-/
namespace RaftModel
namespace Cluster
namespace R4
open Node Raft.RD.R4
open Raft.RD (reqCtx)

variable {cfg : JointConfig} {c0 : Nat} {h : List Sys}

/-- `x` is a `MsgReadIndex` with context `K` in a queue or in the transport of `s` -/
def InPlay (s : Sys) (K : Bytes) (x : Message) : Prop :=
  x.msgType = .msgReadIndex ∧ reqCtx x = some K ∧
  (x ∈ s.net ∨ ∃ v st, s.node v = some st ∧ x ∈ st.raft.msgs)

/-- `x` was delivered by a step before index `k` -/
def Dlv (h : List Sys) (k : Nat) (x : Message) : Prop := ∃ n, n < k ∧ DeliverAt h n x.to x

theorem Dlv.mono {k k' : Nat} {x : Message} (hd : Dlv h k x) (hle : k ≤ k') : Dlv h k' x := by
  obtain ⟨n, h1, h2⟩ := hd
  exact ⟨n, by omega, h2⟩

structure ChainInv (h : List Sys) (k : Nat) (K : Bytes) (s : Sys) : Prop where
  one : ∀ x y, InPlay s K x → InPlay s K y → ¬ Dlv h k x → ¬ Dlv h k y → x = y
  done : Issued h k K → ∀ x, InPlay s K x → Dlv h k x

/-- a context in play was forwarded by a call before -/
theorem inPlay_src (H : RdHypF cfg c0 h) {k : Nat} {s : Sys} (hk : h[k]? = some s) {K : Bytes}
    {x : Message} (hx : InPlay s K x) : ∃ nf f, nf < k ∧ FwdAt h nf f K := by
  obtain ⟨h1, h2, h3⟩ := hx
  have P := ri_prov H k s hk
  have : RiSrc h k x := by
    rcases h3 with c | ⟨v, st, hv, c⟩
    · exact P.net x c h1
    · exact P.q v st hv x c h1
  obtain ⟨n, f, ctx, g1, g2, g3, _⟩ := this
  rw [h2] at g3
  injection g3 with g3
  subst g3
  exact ⟨n, f, g1, g2⟩

/-- a context that some call forwards is not registered by a call -/
theorem fwd_not_regAt (H : RdHypF cfg c0 h) {nf f n i : Nat} {K : Bytes} (hf : FwdAt h nf f K)
    (hr : RegAt h n i K) : False := by
  have e := H.uniqc n nf i f K hr.call hf.call
  subst e
  exact regAt_not_fwdAt (.of_hyp3w H.toHyp3w) H.safe hr hf

/-- a forwarded context is registered only after the forwarding call -/
theorem fwd_before_reg (H : RdHypF cfg c0 h) {nf f n i : Nat} {K : Bytes} (hf : FwdAt h nf f K)
    (hr : Reg h n i K) : nf < n := by
  rcases hr with c | ⟨m0, idx, c⟩
  · exact (fwd_not_regAt H hf c).elim
  · obtain ⟨n2, g1, g2⟩ := fwdReg_src H c
    have e := H.uniqc n2 nf _ f K g2.call hf.call
    omega

/-- in-play messages after a step that moved node `k` only -/
theorem inPlay_setNode {a : Sys} {k : Nat} {st' : NState} {K : Bytes} {x : Message}
    (hx : InPlay (a.setNode k st') K x) : InPlay a K x ∨ x ∈ st'.raft.msgs := by
  obtain ⟨h1, h2, h3⟩ := hx
  rcases h3 with c | ⟨v, stv, hv, c⟩
  · exact .inl ⟨h1, h2, .inl c⟩
  · rcases node_cases hv with ⟨e1, e2⟩ | ⟨_, e2⟩
    · subst e2; exact .inr c
    · exact .inl ⟨h1, h2, .inr ⟨v, stv, e2, c⟩⟩

/-- what one step does to the `MsgReadIndex`s with context `K` that are in play -/
theorem step_sum (H : RdHypF cfg c0 h) {n : Nat} {a b : Sys} (ha : h[n]? = some a)
    (hb : h[n + 1]? = some b) (K : Bytes) :
    (∀ x, InPlay b K x → InPlay a K x) ∨
    (∃ y0 f, FwdAt h n f K ∧ ∀ x, InPlay b K x → InPlay a K x ∨ x = y0) ∨
    (∃ y0 m k, InPlay a K m ∧ DeliverAt h n k m ∧ m.to = k ∧
      ∀ x, InPlay b K x → InPlay a K x ∨ x = y0) := by
  have F := ReadFacts.of_hyp3w H.toHyp3w
  -- a `MsgReadIndex` of the moved node that was queued before
  have old : ∀ (k : Nat) (st : NState) (r1 : Raft) (x : Message), a.node k = some st →
      RS st.raft r1 → x ∈ r1.msgs → InPlay b K x → InPlay a K x := by
    intro k st r1 x hk hs hx hp
    have : x ∈ rdOf r1.msgs := mem_rdOf.2 ⟨hx, by unfold isRd; rw [hp.1]; rfl⟩
    rw [hs.rd] at this
    exact ⟨hp.1, hp.2.1, .inr ⟨k, st, hk, (mem_rdOf.1 this).1⟩⟩
  cases F.rd n a b ha hb with
  | call k st st' m hk hbe hm ho hrir =>
    left
    intro x hx
    have hx' := hx
    rw [hbe] at hx'
    rcases inPlay_setNode hx' with c | c
    · exact c
    · have hty := hx.1
      rcases ho.msgs x c with d | d | d | d | d
      · exact ⟨hx.1, hx.2.1, .inr ⟨k, st, hk, d⟩⟩
      · rw [hty] at d; cases d
      · rw [d.1] at hty; cases hty
      · rw [d.1] at hty; cases hty
      · rw [d.1] at hty; cases hty
  | read k st st' K' rnd res hk hbe hcall ho =>
    cases ho with
    | frame hf =>
      left
      intro x hx
      have hx' := hx
      rw [hbe] at hx'
      rcases inPlay_setNode hx' with c | c
      · exact c
      · exact old k st st'.raft x hk hf.toRS c hx
    | fwd hfo hlead hcore hmsgs =>
      by_cases hK : ∃ x, InPlay b K x ∧ ¬ InPlay a K x
      · right; left
        obtain ⟨x0, hx0, hnx0⟩ := hK
        -- the new message carries `K'`, so `K' = K` and this is the forwarding call
        have hx0' := hx0
        rw [hbe] at hx0'
        have hx0q : x0 ∈ st'.raft.msgs := by
          rcases inPlay_setNode hx0' with c | c
          · exact absurd c hnx0
          · exact c
        rw [hmsgs] at hx0q
        have hx0e : x0 = st.raft.sendFill
            { msgType := .msgReadIndex, to := st.raft.leaderId, entries := [{ data := K' }] } := by
          rcases List.mem_append.1 hx0q with c | c
          · exact absurd ⟨hx0.1, hx0.2.1, .inr ⟨k, st, hk, c⟩⟩ hnx0
          · exact List.mem_singleton.1 c
        have hKK : K' = K := by
          have q2 := (sendFill_ri st.raft
            { msgType := .msgReadIndex, to := st.raft.leaderId, entries := [{ data := K' }] } rfl).2.1
          have := hx0.2.1
          unfold reqCtx at this
          rw [hx0e, q2] at this
          injection this
        subst hKK
        obtain ⟨nf, f, hlt, hf⟩ := inPlay_src H hb hx0
        have hcallAt : ReadCallAt h n k K' := ⟨a, b, st, st', rnd, res, ha, hb, hk, hcall, hbe⟩
        have e := H.uniqc nf n f k K' hf.call hcallAt
        subst e
        refine ⟨x0, f, hf, fun x hx => ?_⟩
        have hx' := hx
        rw [hbe] at hx'
        rcases inPlay_setNode hx' with c | c
        · exact .inl c
        · rw [hmsgs] at c
          rcases List.mem_append.1 c with d | d
          · exact .inl ⟨hx.1, hx.2.1, .inr ⟨k, st, hk, d⟩⟩
          · exact .inr ((List.mem_singleton.1 d).trans hx0e.symm)
      · left
        intro x hx
        apply Classical.byContradiction
        intro hc
        exact hK ⟨x, hx, hc⟩
    | now hs => exact absurd hs (F.not_now H.safe (mem_of_get ha) hk)
    | reg hl hc ro hadd hcore hmsgs =>
      left
      intro x hx
      have hx' := hx
      rw [hbe] at hx'
      rcases inPlay_setNode hx' with c | c
      · exact c
      · rcases hmsgs x c with d | ⟨d, _⟩
        · exact ⟨hx.1, hx.2.1, .inr ⟨k, st, hk, d⟩⟩
        · have := hx.1; rw [d] at this; cases this
  | ri k st st' m rnd res hk hbe hm hto hty hcall ho =>
    cases ho with
    | keep hs _ =>
      left
      intro x hx
      have hx' := hx
      rw [hbe] at hx'
      rcases inPlay_setNode hx' with c | c
      · exact c
      · exact old k st st'.raft x hk hs c hx
    | fwd r1 hs hfo hcore y hmsgs hy =>
      by_cases hK : reqCtx m = some K
      · right; right
        refine ⟨y, m, k, ⟨hty, hK, .inl hm⟩, ⟨a, b, st, st', rnd, res, ha, hb, hk, hm, hto, hcall, hbe⟩,
          hto, fun x hx => ?_⟩
        have hx' := hx
        rw [hbe] at hx'
        rcases inPlay_setNode hx' with c | c
        · exact .inl c
        · rw [hmsgs] at c
          rcases List.mem_append.1 c with d | d
          · exact .inl (old k st r1 x hk hs d hx)
          · exact .inr (List.mem_singleton.1 d)
      · left
        intro x hx
        have hx' := hx
        rw [hbe] at hx'
        rcases inPlay_setNode hx' with c | c
        · exact c
        · rw [hmsgs] at c
          rcases List.mem_append.1 c with d | d
          · exact old k st r1 x hk hs d hx
          · exfalso
            apply hK
            have := hx.2.1
            unfold reqCtx at this ⊢
            rw [List.mem_singleton.1 d, hy.2.1] at this
            exact this
    | now hs => exact absurd hs (F.not_now H.safe (mem_of_get ha) hk)
    | reg hl hc ro hadd hcore hmsgs =>
      left
      intro x hx
      have hx' := hx
      rw [hbe] at hx'
      rcases inPlay_setNode hx' with c | c
      · exact c
      · rcases hmsgs x c with d | ⟨d, _⟩
        · exact ⟨hx.1, hx.2.1, .inr ⟨k, st, hk, d⟩⟩
        · have := hx.1; rw [d] at this; cases this
  | send k st st' hk hbe hst =>
    left
    intro x hx
    obtain ⟨h1, h2, h3⟩ := hx
    rw [hbe] at h3
    rcases h3 with c | ⟨v, stv, hv, c⟩
    · have c' : x ∈ a.net ++ st.raft.msgs := c
      rcases List.mem_append.1 c' with d | d
      · exact ⟨h1, h2, .inl d⟩
      · exact ⟨h1, h2, .inr ⟨k, st, hk, d⟩⟩
    · have hv' : (a.setNode k st').node v = some stv := hv
      rcases node_cases hv' with ⟨e1, e2⟩ | ⟨_, e2⟩
      · subst e2; rw [hst] at c; cases c
      · exact ⟨h1, h2, .inr ⟨v, stv, e2, c⟩⟩
  | restart k st st' hk hbe hf hq =>
    left
    intro x hx
    have hx' := hx
    rw [hbe] at hx'
    rcases inPlay_setNode hx' with c | c
    · exact c
    · rw [hq] at c; cases c

theorem chain_inv (H : RdHypF cfg c0 h) (K : Bytes) :
    ∀ (k : Nat) (s : Sys), h[k]? = some s → ChainInv h k K s := by
  have F := ReadFacts.of_hyp3w H.toHyp3w
  refine hist_induct h _ ?_ ?_
  · intro s h0
    have hinit := hist_init F.hist s h0
    have none : ∀ x, ¬ InPlay s K x := by
      intro x ⟨_, _, h3⟩
      rcases h3 with c | ⟨v, st, hv, c⟩
      · rw [hinit.1] at c; cases c
      · rw [init_queue hinit v st hv] at c; cases c
    exact ⟨fun x _ hx => (none x hx).elim, fun _ x hx => (none x hx).elim⟩
  · intro n a b ha hb ih
    have dm : ∀ x, ¬ Dlv h (n + 1) x → ¬ Dlv h n x :=
      fun x hnd hd => hnd (hd.mono (Nat.le_succ n))
    have dnow : ∀ k m, DeliverAt h n k m → m.to = k → Dlv h (n + 1) m :=
      fun k m hd hto => ⟨n, Nat.lt_succ_self n, by rw [hto]; exact hd⟩
    have fresh : ∀ k m, m.msgType = .msgReadIndex → DeliverAt h n k m → m.to = k →
        ¬ Dlv h n m := by
      intro k m hty hd hto ⟨n', hlt, hd'⟩
      rw [hto] at hd'
      have := H.once n' n k m hty hd' hd
      omega
    constructor
    · intro x y hx hy hnx hny
      rcases step_sum H ha hb K with hs | ⟨y0, f, hf, hs⟩ | ⟨y0, m, k, hmp, hd, hto, hs⟩
      · exact ih.one x y (hs x hx) (hs y hy) (dm x hnx) (dm y hny)
      · have empty : ∀ z, ¬ InPlay a K z := by
          intro z hz
          obtain ⟨nf, f', hlt, hf'⟩ := inPlay_src H ha hz
          have := H.uniqc nf n f' f K hf'.call hf.call
          omega
        rcases hs x hx with c | c
        · exact (empty x c).elim
        · rcases hs y hy with d | d
          · exact (empty y d).elim
          · rw [c, d]
      · have hmf := fresh k m hmp.1 hd hto
        have hmd := dnow k m hd hto
        have oldm : ∀ z, InPlay a K z → ¬ Dlv h (n + 1) z → False := by
          intro z hz hnz
          have := ih.one z m hz hmp (dm z hnz) hmf
          rw [this] at hnz
          exact hnz hmd
        rcases hs x hx with c | c
        · exact (oldm x c hnx).elim
        · rcases hs y hy with d | d
          · exact (oldm y d hny).elim
          · rw [c, d]
    · intro hiss x hx
      obtain ⟨n', i, hlt, hreg⟩ := hiss
      by_cases hn' : n' < n
      · have hI : Issued h n K := ⟨n', i, hn', hreg⟩
        rcases step_sum H ha hb K with hs | ⟨y0, f, hf, hs⟩ | ⟨y0, m, k, hmp, hd, hto, hs⟩
        · exact (ih.done hI x (hs x hx)).mono (Nat.le_succ n)
        · have := fwd_before_reg H hf hreg; omega
        · exact (fresh k m hmp.1 hd hto (ih.done hI m hmp)).elim
      · have e : n = n' := by omega
        subst e
        rcases hreg with c | ⟨m', idx, c⟩
        · obtain ⟨nf, f, _, hf⟩ := inPlay_src H hb hx
          exact (fwd_not_regAt H hf c).elim
        · -- this very step delivers `m'` and registers `K`
          have hctx : reqCtx m' = some K := (fwd_reg_covers F H.safe c).1
          have hdel := c.deliver
          obtain ⟨a', b', st, st', rnd, res, p1, p2, p3, p4, p5, hty, hcall, p8, hnot, rs, hrs, _⟩ := c
          rw [ha] at p1; cases p1
          rw [hb] at p2; cases p2
          have hmp : InPlay a K m' := ⟨hty, hctx, .inl p4⟩
          have hmf := fresh i m' hty hdel p5
          have hmd := dnow i m' hdel p5
          have hold : InPlay a K x := by
            have hx' := hx
            rw [p8] at hx'
            rcases inPlay_setNode hx' with d | d
            · exact d
            · have nopend : ∀ r1 : Raft, RS st.raft r1 → st'.raft.readOnly = r1.readOnly → False := by
                intro r1 hs e1
                rw [e1] at hrs
                rcases RS.ro_cases hs with ⟨g1, _⟩ | ⟨g1, _⟩
                · rw [g1] at hrs; exact hnot rs hrs
                · rw [g1] at hrs; cases hrs
              cases callRi_cases hty hcall with
              | keep hs _ => exact (nopend _ hs rfl).elim
              | fwd r1 hs _ hcore _ _ _ => exact (nopend r1 hs (congrArg RCore.ro hcore)).elim
              | now hs => exact absurd hs (F.not_now H.safe (mem_of_get ha) p3)
              | reg _ _ _ _ _ hmsgs =>
                rcases hmsgs x d with g | ⟨g, _⟩
                · exact ⟨hx.1, hx.2.1, .inr ⟨i, st, p3, g⟩⟩
                · have := hx.1; rw [g] at this; cases this
          by_cases hdx : Dlv h n x
          · exact hdx.mono (Nat.le_succ n)
          · rw [ih.one x m' hold hmp hdx hmf]; exact hmd

/-- a second registration of a context, after a first one, is impossible -/
theorem reg_once (H : RdHypF cfg c0 h) {n1 n2 i1 i2 : Nat} {K : Bytes} (h1 : Reg h n1 i1 K)
    (h2 : Reg h n2 i2 K) (hlt : n1 < n2) : False := by
  rcases h2 with c2 | ⟨m2, idx2, c2⟩
  · rcases h1 with c1 | ⟨m1, idx1, c1⟩
    · have := H.uniqc n1 n2 i1 i2 K c1.call c2.call
      omega
    · obtain ⟨nf, _, hf⟩ := fwdReg_src H c1
      exact fwd_not_regAt H hf c2
  · have hctx : reqCtx m2 = some K := (fwd_reg_covers (.of_hyp3w H.toHyp3w) H.safe c2).1
    have hdel := c2.deliver
    obtain ⟨a, b, st, st', rnd, res, p1, p2, p3, p4, p5, hty, _⟩ := c2
    obtain ⟨n', hlt', hd'⟩ :=
      (chain_inv H K n2 a p1).done ⟨n1, i1, hlt, h1⟩ m2 ⟨hty, hctx, .inl p4⟩
    rw [p5] at hd'
    have := H.once n' n2 i2 m2 hty hd' hdel
    omega

/-- **`once` + `uniqc` give unique registration** -/
theorem uniqr_of (H : RdHypF cfg c0 h) (n1 n2 i1 i2 : Nat) (K : Bytes) (h1 : Reg h n1 i1 K)
    (h2 : Reg h n2 i2 K) : n1 = n2 := by
  rcases Nat.lt_trichotomy n1 n2 with c | c | c
  · exact (reg_once H h1 h2 c).elim
  · exact c
  · exact (reg_once H h2 h1 c).elim

/-- the bundle for forwarded reads gives the bundle with unique registration -/
theorem RdHypF.toF2 (H : RdHypF cfg c0 h) : RdHypF2 cfg c0 h :=
  { toRdHypF := H, uniqr := uniqr_of H }

end R4
end Cluster
end RaftModel
