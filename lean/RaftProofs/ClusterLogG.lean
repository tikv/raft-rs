import RaftProofs.ClusterLogE
import RaftProofs.ClusterLogF
import RaftProofs.NodeHandlers

/-!
Cluster-level Log Matching, helper lemmas part G: the storage-side steps of the emulated application
(`stabilize`, `persist_snap`, `commit_apply`) as effects `EffX` on the logical log, the stored entries and the
queue (they keep the queue; `SameLog` for the two that keep the logical log), and what compaction does to the
stored log (`storeLog_compact`).
-/
namespace RaftModel

/-- the storage contract for `compact k` that the representation invariant needs: nothing beyond the
commit index and nothing that is not yet persisted is compacted away (the documented contract —
"compact only what has been applied", design assumption A5 — implies `k ≤ applied ≤ committed`
outside the restart window, and with the default `max_apply_unpersisted_log_limit = 0` also
`applied ≤ persisted`; this is the weaker form the proofs use) -/
def CompactOk (l : RaftLog) (k : Nat) : Prop := k ≤ l.committed ∧ k ≤ l.persisted

/-- replacing the storage by one with the same entries and snapshot point -/
theorem Inv_store_core {l : RaftLog} (h : l.Inv) (s' : MemStorage)
    (he : s'.entries = l.store.entries) (hm : s'.snapshotMetadata = l.store.snapshotMetadata) :
    RaftLog.Inv { l with store := s' } ∧ ({ l with store := s' } : RaftLog).abs = l.abs ∧
    ({ l with store := s' } : RaftLog).lastIndex = l.lastIndex := by
  have hf : s'.firstIndex = l.store.firstIndex := by unfold MemStorage.firstIndex; rw [he, hm]
  have hl : s'.lastIndex = l.store.lastIndex := by unfold MemStorage.lastIndex; rw [he, hm]
  have hfi : ({ l with store := s' } : RaftLog).firstIndex = l.firstIndex := by
    unfold RaftLog.firstIndex; dsimp only; rw [hf]
  have hli : ({ l with store := s' } : RaftLog).lastIndex = l.lastIndex := by
    unfold RaftLog.lastIndex; dsimp only; rw [hl]
  refine ⟨⟨⟨by rw [he, hf]; exact h.storeWF.contig, by rw [hm, hf]; exact h.storeWF.snap_lt⟩,
    h.unstWF, ?_, ?_, ?_, by rw [hfi]; exact h.dummy_le_committed,
    by rw [hli]; exact h.committed_le_last, h.persisted_lt_off, ?_⟩, ?_, hli⟩
  · intro hs; show s'.firstIndex ≤ _; rw [hf]; exact h.first_le_off hs
  · intro hs; show _ ≤ s'.lastIndex + 1; rw [hl]; exact h.off_le_last hs
  · intro hs hn; show _ = s'.lastIndex + 1; rw [hl]; exact h.ents_empty hs hn
  · show _ ≤ s'.lastIndex; rw [hl]; exact h.persisted_le_store
  · unfold RaftLog.abs
    dsimp only
    rw [he, hm, hf]

/-- with nothing unstable the logical log is the storage's own log -/
theorem abs_eq_storeLog {l : RaftLog} (h : l.Inv) (hs : l.unstable.snapshot = none)
    (he : l.unstable.entries = []) : l.abs = storeLog l.store := by
  have h1 := h.ents_empty hs he
  have h2 := h.storeWF.last_succ
  rw [RaftLog.abs_none hs]
  unfold storeLog
  rw [he, List.append_nil, List.take_of_length_le (by omega)]

/-- `MemStorage::compact` as a compaction of the storage's log -/
theorem storeLog_compact {s s' : MemStorage} (hw : s.WF) (ci : Nat) (hci : ci ≤ s.lastIndex)
    (h : s.compact ci = .ok s') : Sub (storeLog s') (storeLog s) := by
  obtain ⟨s2, h2, _, hfirst, _, hsnap, hents⟩ := RaftProps.C14.store_compact_ok hw ci (.inl hci)
  rw [h] at h2
  cases h2
  have hsl := hw.last_succ
  have hp := hw.first_pos
  by_cases hle : ci ≤ s.firstIndex
  · have : storeLog s' = storeLog s := by
      unfold storeLog
      rw [hfirst, hsnap, hents, Nat.max_eq_left hle, show ci - s.firstIndex = 0 by omega]
      rfl
    rw [this]; exact Sub.refl _
  · have hsn := hw.snap_lt
    have : storeLog s' = (storeLog s).compactTo (ci - 1) := by
      unfold storeLog LLog.compactTo
      dsimp only
      rw [hfirst, hsnap, hents, Nat.max_eq_right (by omega),
        if_neg (show ¬ ci - 1 ≤ s.firstIndex - 1 by omega),
        if_neg (show ¬ ci - 1 = s.snapshotMetadata.index by omega)]
      congr 2
      omega
    rw [this]
    apply Sub.compactTo
    unfold storeLog LLog.lastIndex
    dsimp only
    omega

namespace Raft
open Node

/-- an effect that only touched fields the effect does not read -/
theorem Eff.of_fields {r r' : Raft} {m : Message} (hinv : r.raftLog.Inv)
    (hl : r'.raftLog = r.raftLog) (hm : r'.msgs = r.msgs) : Eff r r' m :=
  ⟨by rw [hl]; exact hinv, .inl (by rw [hl]; exact Sub.refl _), .inl (by rw [hl]; exact Sub.refl _),
    fun x hx _ => .inl (by rw [← hm]; exact hx),
    fun _ _ _ => ⟨by rw [hl]; exact Nat.le_refl _, fun i e he _ => by rw [hl]; exact he⟩⟩

/-- … or the storage's bookkeeping fields (hard state, configuration, test triggers) -/
theorem Eff.of_store_core {r r' : Raft} {m : Message} (hinv : r.raftLog.Inv) (s' : MemStorage)
    (hl : r'.raftLog = { r.raftLog with store := s' }) (he : s'.entries = r.raftLog.store.entries)
    (hsm : s'.snapshotMetadata = r.raftLog.store.snapshotMetadata) (hm : r'.msgs = r.msgs) :
    Eff r r' m := by
  obtain ⟨h1, h2, h3⟩ := Inv_store_core hinv s' he hsm
  refine ⟨by rw [hl]; exact h1, .inl ?_, .inl (by rw [hl, h2]; exact Sub.refl _),
    fun x hx _ => .inl (by rw [← hm]; exact hx),
    fun _ _ _ => ⟨by rw [hl, h3]; exact Nat.le_refl _, fun i e hh _ => by rw [hl, h2]; exact hh⟩⟩
  rw [hl]
  show Sub (storeLog s') _
  rw [storeLog_eq_of_core he hsm]; exact Sub.refl _

namespace Bt

/-- an effect that only touched fields the effect does not read -/
theorem EffX.of_fields {r r' : Raft} {m : Message} (hinv : r.raftLog.Inv)
    (hl : r'.raftLog = r.raftLog) (hm : r'.msgs = r.msgs) : EffX r r' m :=
  ⟨by rw [hl]; exact hinv, .inl (by rw [hl]; exact Sub.refl _), .inl (by rw [hl]; exact Sub.refl _),
    fun x hx _ => .inl (by rw [← hm]; exact hx),
    fun _ _ _ => ⟨by rw [hl]; exact Nat.le_refl _, fun i e he _ => by rw [hl]; exact he⟩,
    fun _ _ _ => PrevKeep.of_eq (by rw [hl])⟩

/-- … or the storage's bookkeeping fields (hard state, configuration, test triggers) -/
theorem EffX.of_store_core {r r' : Raft} {m : Message} (hinv : r.raftLog.Inv) (s' : MemStorage)
    (hl : r'.raftLog = { r.raftLog with store := s' }) (he : s'.entries = r.raftLog.store.entries)
    (hsm : s'.snapshotMetadata = r.raftLog.store.snapshotMetadata) (hm : r'.msgs = r.msgs) :
    EffX r r' m := by
  obtain ⟨h1, h2, h3⟩ := Inv_store_core hinv s' he hsm
  refine ⟨by rw [hl]; exact h1, .inl ?_, .inl (by rw [hl, h2]; exact Sub.refl _),
    fun x hx _ => .inl (by rw [← hm]; exact hx),
    fun _ _ _ => ⟨by rw [hl, h3]; exact Nat.le_refl _, fun i e hh _ => by rw [hl, h2]; exact hh⟩,
    fun _ _ _ => PrevKeep.of_eq (by rw [hl]; exact h2)⟩
  rw [hl]
  show Sub (storeLog s') _
  rw [storeLog_eq_of_core he hsm]; exact Sub.refl _

/-- an effect followed by an update of the storage's bookkeeping fields that keeps the stored term -/
theorem EffX.then_store_core {r r1 r2 : Raft} {m : Message} (h : EffX r r1 m) (s' : MemStorage)
    (hl : r2.raftLog = { r1.raftLog with store := s' })
    (he : s'.entries = r1.raftLog.store.entries)
    (hsm : s'.snapshotMetadata = r1.raftLog.store.snapshotMetadata)
    (hhs : s'.hardState.term = r1.raftLog.store.hardState.term)
    (hm : r2.msgs = r1.msgs) (hs : r2.state = r1.state) (ht : r2.term = r1.term) : EffX r r2 m := by
  obtain ⟨h1, h2, h3⟩ := Inv_store_core h.inv s' he hsm
  have hsl : storeLog r2.raftLog.store = storeLog r1.raftLog.store := by
    rw [hl]; exact storeLog_eq_of_core he hsm
  have habs : r2.raftLog.abs = r1.raftLog.abs := by rw [hl]; exact h2
  have hlast : r2.raftLog.lastIndex = r1.raftLog.lastIndex := by rw [hl]; exact h3
  refine ⟨by rw [hl]; exact h1, ?_, ?_, ?_, ?_, ?_⟩
  · rw [hsl]
    rcases h.sto with c | ⟨c, c2⟩
    · exact .inl c
    · exact .inr ⟨c, by rw [hl, ht]; exact hhs.trans c2⟩
  · rw [habs]
    rcases h.log with c | ⟨es, c⟩ | ⟨c1, c2, c3⟩
    · exact .inl c
    · exact .inr (.inl ⟨es, ⟨c.ne, habs.trans c.abs, c.contig, by rw [ht]; exact c.terms,
        hlast.trans c.last, by rw [hl]; exact h1, by rw [hl]; exact c.commit,
        hs.trans c.leader⟩⟩)
    · exact .inr (.inr ⟨c1, by rw [hs]; exact c2, c3⟩)
  · rw [hm, habs, hs]; exact h.q
  · rw [hs, ht, habs, hlast]; exact h.keep
  · rw [hs, ht, habs]; exact h.pk

end Bt

/-! ### `stabilize`, `persist_snap`: the logical log is kept -/

/-- a storage-side step: the logical log and the queue are kept; the stored entries are kept (or
compacted), or replaced by the logical log under the current term -/
structure SameLog (r r' : Raft) : Prop where
  inv : r'.raftLog.Inv
  abs : r'.raftLog.abs = r.raftLog.abs
  msgs : r'.msgs = r.msgs
  sto : Sub (storeLog r'.raftLog.store) (storeLog r.raftLog.store) ∨
    (Sub (storeLog r'.raftLog.store) r.raftLog.abs ∧ r'.raftLog.store.hardState.term = r'.term)

theorem SameLog.eff {r r' : Raft} {m : Message} (hinv : r.raftLog.Inv) (h : SameLog r r') :
    Eff r r' m :=
  ⟨h.inv, h.sto, .inl (by rw [h.abs]; exact Sub.refl _),
    fun x hx _ => .inl (by rw [← h.msgs]; exact hx),
    fun _ _ _ => ⟨by rw [h.inv.lastIndex_abs, hinv.lastIndex_abs, h.abs]; exact Nat.le_refl _,
      fun i e he _ => by rw [h.abs]; exact he⟩⟩

theorem SameLog.effx {r r' : Raft} {m : Message} (hinv : r.raftLog.Inv) (h : SameLog r r') :
    Bt.EffX r r' m :=
  ⟨h.inv, h.sto, .inl (by rw [h.abs]; exact Sub.refl _),
    fun x hx _ => .inl (by rw [← h.msgs]; exact hx),
    fun _ _ _ => ⟨by rw [h.inv.lastIndex_abs, hinv.lastIndex_abs, h.abs]; exact Nat.le_refl _,
      fun i e he _ => by rw [h.abs]; exact he⟩,
    fun _ _ _ => PrevKeep.of_eq h.abs⟩

theorem stabilize_same {st st' : NState} {res : OpRes} (hinv : st.raft.raftLog.Inv)
    (h : Node.stabilize st = .ok (res, st')) : SameLog st.raft st'.raft ∧ RT st.raft st'.raft := by
  refine stabilize_parts (Q := fun s => SameLog st.raft s.raft ∧ RT st.raft s.raft) h
    fun {l} hl => ⟨?_, RT.rfl.ts rfl rfl⟩
  -- the log after the storage append
  have hl' : l.Inv ∧ l.abs = st.raft.raftLog.abs ∧
      (Sub (storeLog l.store) (storeLog st.raft.raftLog.store) ∨
        Sub (storeLog l.store) st.raft.raftLog.abs) := by
    cases hs : st.raft.raftLog.unstable.snapshot with
    | none =>
      obtain ⟨l2, e2, i2, a2, _, _, _, u2, s2, _⟩ := RaftProps.C14.stabilise_ok hinv hs
      rw [hl] at e2
      cases e2
      refine ⟨i2, a2, .inr ?_⟩
      rw [← abs_eq_storeLog i2 s2 u2, a2]; exact Sub.refl _
    | some sn =>
      by_cases hne : st.raft.raftLog.unstable.entries = []
      · have : st.raft.raftLog.stabilise = .ok st.raft.raftLog := by
          unfold RaftLog.stabilise; rw [hne]; rfl
        rw [this] at hl
        cases hl
        exact ⟨hinv, rfl, .inl (Sub.refl _)⟩
      · obtain ⟨s, hp⟩ := RaftProps.C14.stabilise_pending_panics hinv sn hs hne
        rw [hp] at hl; cases hl
  obtain ⟨i1, a1, s1⟩ := hl'
  obtain ⟨i2, a2, -⟩ := Inv_store_core i1
    (l.store.setHardState { l.store.hardState with term := st.raft.term, vote := st.raft.vote })
    rfl rfl
  have hsl : storeLog (l.store.setHardState
      { l.store.hardState with term := st.raft.term, vote := st.raft.vote }) = storeLog l.store :=
    storeLog_eq_of_core rfl rfl
  refine ⟨i2, a2.trans a1, rfl, ?_⟩
  rcases s1 with s1 | s1
  · exact .inl (by show Sub (storeLog _) _; rw [hsl]; exact s1)
  · exact .inr ⟨by show Sub (storeLog _) _; rw [hsl]; exact s1, rfl⟩

theorem stabilize_eff {st st' : NState} {res : OpRes} {m : Message} (hinv : st.raft.raftLog.Inv)
    (h : Node.stabilize st = .ok (res, st')) : Eff st.raft st'.raft m ∧ RT st.raft st'.raft :=
  (stabilize_same hinv h).imp (·.eff hinv) fun t => t

theorem stabilize_effx {st st' : NState} {res : OpRes} {m : Message} (hinv : st.raft.raftLog.Inv)
    (h : Node.stabilize st = .ok (res, st')) : Bt.EffX st.raft st'.raft m ∧ RT st.raft st'.raft :=
  (stabilize_same hinv h).imp (·.effx hinv) fun t => t

theorem persistSnap_same {st st' : NState} {res : OpRes} (hinv : st.raft.raftLog.Inv)
    (h : Node.persistSnap st = .ok (res, st')) : SameLog st.raft st'.raft ∧ RT st.raft st'.raft := by
  refine persistSnap_parts (Q := fun s => SameLog st.raft s.raft ∧ RT st.raft s.raft) h
    ⟨⟨hinv, rfl, rfl, .inl (Sub.refl _)⟩, RT.rfl⟩
    fun {sn store l raft} hsn hap hl hop => ?_
  have hge : st.raft.raftLog.store.firstIndex ≤ sn.metadata.index := by
    unfold MemStorage.applySnapshot at hap
    dsimp only at hap
    split at hap
    · cases hap
    · omega
  have hents : store.entries = [] := by
    unfold MemStorage.applySnapshot at hap
    dsimp only at hap
    split at hap
    · cases hap
    · cases hap; rfl
  unfold Raft.onPersistSnap at hop
  split at hop
  · rename_i l2 b hmp
    cases hop
    have hps : st.raft.raftLog.persistSnapshot = .ok l2 := by
      unfold RaftLog.persistSnapshot
      rw [hsn]
      simp only []
      rw [hap]
      simp only []
      rw [hl]
      simp only []
      rw [hmp]
    obtain ⟨l3, e3, i3, a3, _⟩ := RaftProps.C14.persistSnapshot_ok hinv sn hsn hge
    rw [hps] at e3
    cases e3
    have hst2 : l2.store = store := by
      rw [RaftModel.C06.maybePersistSnap_store hmp, RaftModel.C06.stableSnap_store hl]
    exact ⟨⟨i3, a3, rfl,
      .inl (Sub.of_no_entries (by show l2.store.entries = []; rw [hst2]; exact hents))⟩,
      RT.rfl.ts rfl rfl⟩
  · cases hop
  · cases hop

theorem persistSnap_eff {st st' : NState} {res : OpRes} {m : Message} (hinv : st.raft.raftLog.Inv)
    (h : Node.persistSnap st = .ok (res, st')) : Eff st.raft st'.raft m ∧ RT st.raft st'.raft :=
  (persistSnap_same hinv h).imp (·.eff hinv) fun t => t

theorem persistSnap_effx {st st' : NState} {res : OpRes} {m : Message} (hinv : st.raft.raftLog.Inv)
    (h : Node.persistSnap st = .ok (res, st')) : Bt.EffX st.raft st'.raft m ∧ RT st.raft st'.raft :=
  (persistSnap_same hinv h).imp (·.effx hinv) fun t => t

/-! ### `commit_apply` -/

namespace Bt

theorem commitApplyInternal_n {r r' : Raft} {applied : Nat} {skip : Bool}
    (hinv : r.raftLog.Inv) (h : r.commitApplyInternal applied skip = .ok r') :
    N0 r r' ∨ ∃ es, AppendedN r r' es := by
  unfold Raft.commitApplyInternal at h
  simp only [] at h
  split at h
  · cases h
  · cases h
  · rename_i log hlog
    obtain ⟨a', hl, _, _⟩ := RaftProps.PDGuards.applyCursor_cases _ _ _ _ hlog
    have hinv1 : log.Inv := by
      rw [hl]
      exact hinv.set_cursors r.raftLog.committed r.raftLog.persisted a' hinv.dummy_le_committed
        hinv.committed_le_last hinv.persisted_lt_off hinv.persisted_le_store
    have hk1 : N0 r ({ r with raftLog := log } : Raft) :=
      ⟨⟨⟨by rw [hl]; rfl, by rw [hl]; rfl, fun _ => hinv1, by rw [hl]; exact Nat.le_refl _⟩,
        by rw [hl], by rw [hl]⟩, rfl, fun x hx _ => hx⟩
    split at h
    · rename_i hcond
      split at h
      · rename_i r2 happe
        cases h
        rcases appendEntry_n (r := { r with raftLog := log }) hinv1 hcond.2.2.2 happe with
          ⟨hb, _⟩ | ⟨_, he, _⟩ | ⟨_, hA, _⟩
        · cases hb
        · cases he
        · right
          have hA' := AppendedN.anchor hk1 hA
          exact ⟨_, ⟨⟨hA'.app.ne, hA'.app.abs, hA'.app.contig, hA'.app.terms, hA'.app.last,
            hA'.app.inv, hA'.app.commit, hA'.app.leader⟩,
            ⟨hA'.qs.ents, hA'.qs.smeta, hA'.qs.ba, hA'.qs.q⟩⟩⟩
      · cases h
      · cases h
      · cases h
    · cases h
      exact .inl hk1

theorem commitApply_effx {st st' : NState} {k : Nat} {res : OpRes} {m : Message} (hinv : st.raft.raftLog.Inv)
    (h : Node.commitApply st k = .ok (res, st')) :
    (EffX st.raft st'.raft m ∧
      ∀ x ∈ st'.raft.msgs, x.msgType = .msgAppend → x ∈ st.raft.msgs) ∧ RT st.raft st'.raft := by
  unfold Node.commitApply at h
  simp only [] at h
  split at h
  · rename_i r2 hb
    rw [Res.bind_eq_ok_iff] at hb
    obtain ⟨r1, h1, h2⟩ := hb
    have hr1 : r1.raftLog = st.raft.raftLog ∧ r1.msgs = st.raft.msgs ∧ r1.state = st.raft.state ∧
        r1.term = st.raft.term ∧ r1.batchAppend = st.raft.batchAppend := by
      have hred : ∀ ents, (st.raft.reduceUncommittedSize ents).raftLog = st.raft.raftLog ∧
          (st.raft.reduceUncommittedSize ents).msgs = st.raft.msgs ∧
          (st.raft.reduceUncommittedSize ents).state = st.raft.state ∧
          (st.raft.reduceUncommittedSize ents).term = st.raft.term ∧
          (st.raft.reduceUncommittedSize ents).batchAppend = st.raft.batchAppend := by
        intro ents
        unfold Raft.reduceUncommittedSize
        split <;> exact ⟨rfl, rfl, rfl, rfl, rfl⟩
      split at h1
      · split at h1
        · cases h1; exact hred _
        · cases h1; exact ⟨rfl, rfl, rfl, rfl, rfl⟩
        · cases h1
      · cases h1; exact ⟨rfl, rfl, rfl, rfl, rfl⟩
    obtain ⟨e1, e2, e3, e4, e5⟩ := hr1
    have hvf := Res.Post.of_eq (CV.commitApply_vf _ _) h2
    have hrt : RT st.raft r2 := RT.rfl.ts (hvf.term.trans e4) (hvf.state.trans e3)
    have heff : EffX st.raft r2 m ∧ ∀ x ∈ r2.msgs, x.msgType = .msgAppend → x ∈ st.raft.msgs := by
      have hinv1 : r1.raftLog.Inv := by rw [e1]; exact hinv
      unfold Raft.commitApply at h2
      have : EffX r1 r2 m ∧ ∀ x ∈ r2.msgs, x.msgType = .msgAppend → x ∈ r1.msgs := by
        rcases commitApplyInternal_n hinv1 h2 with c | ⟨es, c⟩
        · exact ⟨c.effx hinv1, c.q⟩
        · exact ⟨c.effx, c.qs.q⟩
      exact ⟨this.1.rebase e1 e2 e3 e4 e5, by rw [← e2]; exact this.2⟩
    cases h
    split
    · exact ⟨⟨heff.1.then_store_core _ rfl rfl rfl rfl rfl rfl rfl, heff.2⟩, hrt.ts rfl rfl⟩
    · exact ⟨heff, hrt⟩
  · cases h
  · cases h

end Bt

/-- an effect that queued no `MsgAppend`, in the vocabulary of the layer without batching -/
theorem Bt.EffX.eff_of_kept {r r' : Raft} {m : Message} (h : Bt.EffX r r' m)
    (hq : ∀ x ∈ r'.msgs, x.msgType = .msgAppend → x ∈ r.msgs) : Eff r r' m :=
  ⟨h.inv, h.sto, h.log, fun x hx hty => .inl (hq x hx hty), h.keep⟩

theorem commitApply_eff {st st' : NState} {k : Nat} {res : OpRes} {m : Message} (hinv : st.raft.raftLog.Inv)
    (h : Node.commitApply st k = .ok (res, st')) :
    Eff st.raft st'.raft m ∧ RT st.raft st'.raft :=
  (Bt.commitApply_effx hinv h).imp (fun c => c.1.eff_of_kept c.2) fun t => t

theorem commitApplyInternal_k {r r' : Raft} {applied : Nat} {skip : Bool}
    (hinv : r.raftLog.Inv) (h : r.commitApplyInternal applied skip = .ok r') :
    K0 r r' ∨ ∃ es, AppendedK r r' es :=
  (Bt.commitApplyInternal_n hinv h).imp (·.k0) fun ⟨es, c⟩ => ⟨es, c.k⟩

end Raft
end RaftModel
