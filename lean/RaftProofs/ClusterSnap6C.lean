import RaftProofs.ClusterSnap6B
import RaftProofs.ClusterSnap5Y
import RaftProofs.ClusterBatchH
import RaftProofs.NodeHandlers

/-!
Commit safety of `ClusterSem` with compaction, snapshots and `request_snapshot`, part 6C (towards
deriving `reqok`): **one call of a node — every `NodeOp` — keeps the invariant `ReqI`**
("a node with a pending snapshot request is not leader and its log ends at or before the requested
index"), `RQ.call_reqI`; and a freshly booted node has no pending request (`RQ.boot_pend`).

`Raft::step` and `Raft::tick` are covered by `step_q` / `tick_q` (`ClusterSnap6B`); here the relation
`Q` is lifted to the entry points that are not `step` (`ping`, `apply_conf_change`,
`on_persist_entries`, `on_persist_snap`, `commit_apply`, the group-commit calls, `on_entries_fetched`,
the emulated application's storage steps — `stabilize`, `persist_snap`, `compact` — and the run-time
knobs), and `request_snapshot`, the one call that sets a request, is treated directly
(`requestSnapshot_out`: the request index is the last index, on a node that is not leader).
-/
namespace RaftModel
namespace Raft
namespace RQ
open Node

theorem postConfChange_q (r : Raft) : Res.Post (fun x => Q r x.1) r.postConfChange :=
  Res.post_intro fun _ h => postConfChange_parts (P := Q r) h
    (Q.of_same rfl rfl rfl)
    (fun _ _ _ p => p.trans (becomeFollower_q _ _ _))
    (fun _ _ _ _ hc p => p.trans ((maybeCommit_fp _).of_eq hc).toQ)
    (fun _ _ _ hb p => p.trans ((bcastAppend_fp _).of_eq hb).toQ)
    (fun _ _ _ _ _ _ _ ha p => p.trans ((maybeSendAppend_fp _ _ _ false).of_eq ha).toQ)
    (fun _ _ p => p.trans (set_fp _ _ _).toQ)
    (fun _ p => p.trans (Q.of_same rfl rfl rfl))
    (fun hr p => p.trans ((respondReadStates_fp _ _).of_eq hr).toQ)
    fun p => p.trans (Q.of_same rfl rfl rfl)

theorem applyConfChange_q (r : Raft) (cc : ConfChangeV2) :
    Res.Post (fun x => Q r x.1) (r.applyConfChange cc) :=
  Res.post_intro fun _ h => applyConfChange_parts (P := Q r) h (Q.refl r)
    (fun _ p => p.trans (Q.of_same rfl rfl rfl))
    fun hp p => p.trans ((postConfChange_q _).of_eq hp)

theorem ping_fp (r : Raft) : Res.Post (fun x => FrameP r x) r.ping := by
  unfold ping
  split
  · exact bcastHeartbeat_fp r
  · exact Res.post_ok (FrameP.refl _)

theorem logMaybePersist_pc {l l' : RaftLog} {i t : Nat} {b : Bool}
    (h : l.maybePersist i t = .ok (l', b)) : l'.unstable = l.unstable ∧ l'.store = l.store := by
  unfold RaftLog.maybePersist at h
  dsimp only at h
  split at h <;> split at h <;> (try split at h) <;> (try split at h) <;> cases h <;>
    exact ⟨rfl, rfl⟩

theorem logMaybePersistSnap_pc {l l' : RaftLog} {i : Nat} {b : Bool}
    (h : l.maybePersistSnap i = .ok (l', b)) : l'.unstable = l.unstable ∧ l'.store = l.store := by
  unfold RaftLog.maybePersistSnap at h
  split at h
  · split at h
    · cases h
    · split at h
      · cases h
      · cases h; exact ⟨rfl, rfl⟩
  · cases h; exact ⟨rfl, rfl⟩

theorem logAppliedTo_pc {l l' : RaftLog} {i : Nat}
    (h : l.appliedTo i = .ok l') : l'.unstable = l.unstable ∧ l'.store = l.store := by
  unfold RaftLog.appliedTo at h
  split at h
  · cases h; exact ⟨rfl, rfl⟩
  · split at h
    · cases h
    · cases h; exact ⟨rfl, rfl⟩

theorem onPersistEntries_fp (r : Raft) (index term : Nat) :
    Res.Post (fun x => FrameP r x) (r.onPersistEntries index term) :=
  Res.post_intro fun _ h => onPersistEntries_parts (P := FrameP r) h
    (fun hp => FrameP.of_log' (logMaybePersist_pc hp))
    (fun _ p => p.trans (set_fp _ _ _))
    (fun _ _ _ _ hc p => p.trans ((maybeCommit_fp _).of_eq hc))
    fun _ _ _ hb p => p.trans ((bcastAppend_fp _).of_eq hb)

theorem onPersistSnap_fp (r : Raft) (index : Nat) :
    Res.Post (fun x => FrameP r x) (r.onPersistSnap index) :=
  Res.post_intro fun _ h => onPersistSnap_parts (P := FrameP r) h
    fun hp => FrameP.of_log' (logMaybePersistSnap_pc hp)

theorem commitApply_q (r : Raft) (k : Nat) : Res.Post (fun x => Q r x) (r.commitApply k) :=
  Res.post_intro fun _ h => commitApplyInternal_parts (P := Q r) h
    (fun hl => (FrameP.of_log' (logAppliedTo_pc hl)).toQ)
    (fun hs _ _ _ _ ha p => p.of_pend hs ((appendEntry_ps _ _).of_eq ha).1)
    fun _ p => p.trans (Q.of_same rfl rfl rfl)

theorem reduceUncommittedSize_fp (r : Raft) (ents : List Entry) :
    FrameP r (r.reduceUncommittedSize ents) := by
  unfold reduceUncommittedSize
  split
  · exact FrameP.refl _
  · simp [FrameP, pcore]

theorem enableGroupCommit_fp (r : Raft) (b : Bool) :
    Res.Post (fun x => FrameP r x) (r.enableGroupCommit b) :=
  Res.post_intro fun _ h => enableGroupCommit_parts (P := FrameP r) h (by simp [FrameP, pcore])
    (fun _ _ _ _ hc p => p.trans ((maybeCommit_fp _).of_eq hc))
    fun _ _ _ hb p => p.trans ((bcastAppend_fp _).of_eq hb)

theorem assignCommitGroups_fp (r : Raft) (ids : List (Nat × Nat)) :
    Res.Post (fun x => FrameP r x) (r.assignCommitGroups ids) :=
  Res.post_intro fun _ h => assignCommitGroups_parts (P := FrameP r) h (FrameP.refl r)
    (fun _ _ p => p.trans (modifyProgress_fp _ _ _))
    (fun _ _ _ _ hc p => p.trans ((maybeCommit_fp _).of_eq hc))
    fun _ _ _ hb p => p.trans ((bcastAppend_fp _).of_eq hb)

theorem adjustMaxInflightMsgs_fp (r : Raft) (id cap : Nat) :
    Res.Post (fun x => FrameP r x) (r.adjustMaxInflightMsgs id cap) := by
  unfold adjustMaxInflightMsgs
  split
  · exact Res.post_ok (FrameP.refl _)
  · split
    · exact Res.post_ok (set_fp _ _ _)
    · trivial

/-! ### the invariant over one call -/

/-- the invariant on a node: a node with a pending snapshot request is not leader and its log ends at
or before the requested index -/
def ReqInv (st : NState) : Prop := ReqI st.raft

/-- the clause of `Snap5.Hyp` (`reqok`) for one node -/
def ReqOkN (st : NState) : Prop :=
  st.raft.pendingRequestSnapshot ≠ 0 → st.raft.raftLog.lastIndex ≤ st.raft.pendingRequestSnapshot

theorem ReqInv.reqOkN {st : NState} (h : ReqInv st) : ReqOkN st := fun hp => (h hp).2

theorem ReqInv.not_leader {st : NState} (h : ReqInv st) (hp : st.raft.pendingRequestSnapshot ≠ 0) :
    st.raft.state ≠ .leader := (h hp).1

theorem keeps_fp {st st' : NState} (hi : ReqI st.raft) (h : FrameP st.raft st'.raft) :
    ReqI st'.raft := h.toQ.keeps hi

theorem post_fst_rq {α β : Type} {P : α → Prop} {x : Res (α × β)} {a : α} {b : β}
    (hp : Res.Post (fun y => P y.1) x) (h : x = .ok (a, b)) : P a :=
  Res.Post.of_eq (P := fun y => P y.1) hp h

theorem rawStep_q {r r' : Raft} {m : Message} {e : Option RaftError}
    (h : RawNode.step r m = .ok (r', e)) : Q r r' := by
  unfold RawNode.step at h
  split at h
  · cases h; exact Q.refl r
  · split at h
    · exact (step_q r m).of_eq h
    · cases h; exact Q.refl r

/-- **one call of a node — every `NodeOp`, every outcome — keeps the invariant.**  The log satisfies
the representation invariant (needed for `stabilize`, `persist_snap`, `compact`: the last index is
read off the representation), and `compact` obeys the storage contract with no snapshot pending. -/
theorem call_reqI (st st' : NState) (rnd : Option Nat) (op : NodeOp) (res : OpRes)
    (hinv : st.raft.raftLog.Inv)
    (hco : ∀ k, op = .compact k →
      CompactOk st.raft.raftLog k ∧ st.raft.raftLog.unstable.snapshot = none)
    (hi : ReqInv st)
    (h : Node.call st rnd op = .ok (res, st')) : ReqInv st' := by
  -- the call runs on `st` with the random draw stored
  have keep : ∀ {r : Raft}, Q ({ st.raft with nextRand := rnd } : Raft) r → ReqI r :=
    fun q => (Q.trans (Q.of_same rfl rfl rfl) q).keeps hi
  have same : ∀ {st1 : NState}, st1.raft.pendingRequestSnapshot = st.raft.pendingRequestSnapshot →
      st1.raft.state = st.raft.state → st1.raft.raftLog.lastIndex = st.raft.raftLog.lastIndex →
      ReqInv st1 := fun h1 h2 h3 => (Q.of_same h1 h2 h3).keeps hi
  have hcall := h
  cases applyOp_parts h with
  | tick hx => exact keep (post_fst_rq (tick_q _) hx)
  | step hx => exact keep (rawStep_q hx)
  | rstep hx | propose hx | proposeCc hx | campaign hx => exact keep (post_fst_rq (step_q _ _) hx)
  | readIndex hx | transferLeader hx | reportUnreachable hx | reportSnapshot hx =>
    exact keep ((stepIgnore_q _ _).of_eq hx)
  | ping hx => exact keep ((ping_fp _).of_eq hx).toQ
  | requestSnapshot hx =>
    -- the one call that sets a request: the last index, on a node that is not leader
    rcases Cluster.Snap5.requestSnapshot_out hx with c | ⟨c1, _, c3, c4, c5, _⟩
    · rw [c]; exact keep (Q.refl _)
    · exact fun _ => ⟨by rw [c5]; exact c1, by rw [c3, c4]; exact Nat.le_refl _⟩
  | confChanged hx | confRefused hx => exact keep (post_fst_rq (applyConfChange_q _ _) hx)
  | stabilize _ =>
    have hinv' : (⟨{ st.raft with nextRand := rnd }, st.appCs⟩ : NState).raft.raftLog.Inv := hinv
    obtain ⟨L, hL, _, _⟩ := CC.stabilize_shape hcall
    refine same (by rw [hL]) (by rw [hL]) ?_
    rw [(stabilize_eff (m := default) hinv' hcall).1.inv.lastIndex_abs,
      (Bt.stabilize_abs hinv' hcall).1]
    exact hinv'.lastIndex_abs.symm
  | onPersistEntries hx => exact keep ((onPersistEntries_fp _ _ _).of_eq hx).toQ
  | persistSnap _ =>
    rcases CC.persist_out hinv hcall with hr | ⟨sn, L, _, hr, hinv2, habs, _, _, _, _, _, _, _⟩
    · show ReqI st'.raft
      rw [hr]; exact keep (Q.refl _)
    · refine same (by rw [hr]) (by rw [hr]) ?_
      rw [hr]
      show L.lastIndex = _
      rw [hinv2.lastIndex_abs, habs]
      exact hinv.lastIndex_abs.symm
  | commitApply hx =>
    exact commitApply_parts (Q := fun s => ReqI s.raft) hx (keep (Q.refl _))
      (fun _ => keep (reduceUncommittedSize_fp _ _).toQ)
      (fun ha p => ((commitApply_q _ _).of_eq ha).keeps p)
      fun p => (Q.of_same rfl rfl rfl).keeps p
  | compact _ =>
    obtain ⟨hc1, hc2⟩ := hco _ rfl
    exact same rfl rfl (Cluster.Snap.compact_frame hinv hc2 hc1 hcall).2.2
  | drain | triggerSnap | triggerLog | setPriority | setBatchAppend | skipBcastCommit
  | setCheckQuorum | setMaxApplyUnpersistedLogLimit | setMaxCommittedSizePerReady =>
    exact keep (Q.of_same rfl rfl rfl)
  | adjustMaxInflight hx => exact keep ((adjustMaxInflightMsgs_fp _ _ _).of_eq hx).toQ
  | maybeFreeInflightBuffers | clearCommitGroup => exact keep (mapProgress_fp _ _).toQ
  | enableGroupCommit hx => exact keep ((enableGroupCommit_fp _ _).of_eq hx).toQ
  | assignCommitGroups hx => exact keep ((assignCommitGroups_fp _ _).of_eq hx).toQ
  | checkGroupCommitConsistent | staleFetch => exact keep (Q.refl _)
  | fetched _ _ _ hx => exact keep ((sendAppend_fp _ _).of_eq hx).toQ
  | fetchedAll _ _ _ hx => exact keep ((sendAppendAggressively_fp _ _).of_eq hx).toQ

/-! ### a freshly booted node has no pending request -/

theorem raftNew_pend (c : Config) (store : MemStorage) (rnd : Option Nat) (r : Raft)
    (h : Raft.new c store rnd = .ok (.ok r)) : r.pendingRequestSnapshot = 0 := by
  obtain ⟨_, _, _, _, _, _, rfl⟩ := (raftNew_inv h).node
  rfl

/-- **a freshly booted node has no pending snapshot request** -/
theorem boot_pend (c : Config) (store : MemStorage) (rnd : Option Nat) (st : NState)
    (h : Node.boot c store rnd = .ok (.ok st)) : st.raft.pendingRequestSnapshot = 0 :=
  raftNew_pend c store rnd st.raft (Node.boot_inv h).2.1

theorem boot_reqInv (c : Config) (store : MemStorage) (rnd : Option Nat) (st : NState)
    (h : Node.boot c store rnd = .ok (.ok st)) : ReqInv st :=
  fun hp => absurd (boot_pend c store rnd st h) hp

end RQ
end Raft
end RaftModel
