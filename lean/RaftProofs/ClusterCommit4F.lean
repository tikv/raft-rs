import RaftProofs.ClusterCommit4E

/-!
Cluster-level commit safety, part 4F: the result of a call (`PR`), "nothing of the relation's types
queued yet" (`NF`), and `PW` through the candidate / follower side: elections, the vote arm and the
follower handlers.
-/
namespace RaftModel
namespace Raft
namespace PerCall
open RaftProps.C13

variable {E : Rule}

/-- what a call leaves (the relation without the bookkeeping on the log) -/
structure PR (E : Rule) (a r : Raft) : Prop where
  po : r.state = .leader → E.mute r.msgs ∨ PAll E r.msgs r.raftLog.lastIndex r.prs
  rd : r.state = .leader → ∀ p ∈ r.readOnly.pendingReadIndex, p.2.index ≤ r.raftLog.committed
  qa : ∀ x ∈ r.msgs, x.msgType = .msgAppend →
    E.old a.msgs x ∨ E.mute r.msgs ∨ x.index ≤ r.raftLog.lastIndex
  qr : ∀ x ∈ r.msgs, x.msgType = .msgReadIndexResp → x ∈ a.msgs ∨ x.index ≤ r.raftLog.committed
  sn : ∀ x ∈ a.msgs, x.msgType = .msgSnapshot → x ∈ r.msgs
  /-- every new `MsgAppend` is anchored at or above the snapshot point the log had when the call
  started (or the node is mute) -/
  qf : ∀ x ∈ r.msgs, x.msgType = .msgAppend →
    E.old a.msgs x ∨ E.mute r.msgs ∨ E.floor a.raftLog ≤ x.index + 1

theorem PW.pr {a r : Raft} (h : PW E a r) : PR E a r := ⟨h.po, h.rd, h.qa, h.qr, h.sn, h.qf⟩

/-- nothing of the relation's message types has been queued since `a`, and no queued `MsgSnapshot` is
lost -/
structure NF (a r : Raft) : Prop where
  old : ∀ x ∈ r.msgs, wqT x.msgType = true → x ∈ a.msgs
  sn : ∀ x ∈ a.msgs, x.msgType = .msgSnapshot → x ∈ r.msgs

theorem NF.rfl {a : Raft} : NF a a := ⟨fun _ hx _ => hx, fun _ hx _ => hx⟩

theorem NF.of_msgs {a r r' : Raft} (h : NF a r) (hm : r'.msgs = r.msgs) : NF a r' :=
  ⟨by rw [hm]; exact h.old, by rw [hm]; exact h.sn⟩

theorem NF.push {a r r' : Raft} (h : NF a r) {x : Message} (hm : r'.msgs = r.msgs ++ [x])
    (hx : wqT x.msgType = false) : NF a r' := by
  refine ⟨fun y hy hty => ?_, fun y hy hty => by rw [hm]; exact List.mem_append_left _ (h.sn y hy hty)⟩
  rw [hm] at hy
  rcases List.mem_append.1 hy with c | c
  · exact h.old y c hty
  · rw [List.mem_singleton.1 c, hx] at hty; cases hty

theorem NF.send {a r r' : Raft} {m : Message} (h : NF a r) (hs : r.send m = .ok r')
    (hx : wqT m.msgType = false) : NF a r' :=
  h.push (by rw [send_eq _ _ _ hs]) (by rw [sendFill_msgType]; exact hx)

theorem NF.pr {a r : Raft} (h : NF a r) (hs : r.state ≠ .leader) : PR E a r :=
  ⟨fun c => absurd c hs, fun c => absurd c hs,
   fun x hx hty => .inl (E.old_mem (h.old x hx (by rw [hty]; rfl)) hty),
   fun x hx hty => .inl (h.old x hx (by rw [hty]; rfl)), h.sn,
   fun x hx hty => .inl (E.old_mem (h.old x hx (by rw [hty]; rfl)) hty)⟩

/-! ### elections -/

theorem sendVoteRequests_pw {a r r' : Raft} {ct : CampaignType} {vm : MsgType} {t : Nat}
    (hvm : wqT vm = false) (h : r.sendVoteRequests ct vm t = .ok r') (h0 : PW E a r) : PW E a r' :=
  sendVoteRequests_parts h h0 (fun hs hty => send_pw hs (by rw [hty]; exact hvm))

theorem pollWith_pw {a r r' : Raft} {onPreWin : Raft → Res Raft} {frm : Nat} {t : MsgType}
    {v : Bool} {res : VoteResult}
    (hpre : ∀ r r', onPreWin r = .ok r' → PW E a r → PW E a r')
    (h : pollWith onPreWin r frm t v = .ok (r', res)) (h0 : PW E a r) : PW E a r' := by
  unfold Raft.pollWith at h
  have h1 : PW E a { r with prs := r.prs.recordVote frm v } := by
    refine h0.prs (fun hs => ?_)
    rcases h0.po hs with c | c
    · exact .inl c
    · right
      intro p hp
      rw [recordVote_progress] at hp
      exact c p hp
  simp only [] at h
  split at h
  · split at h
    · rw [Res.bind_eq_ok_iff] at h
      obtain ⟨r2, h2, h3⟩ := h
      cases h3
      exact hpre _ _ h2 h1
    · rw [Res.bind_eq_ok_iff] at h
      obtain ⟨r2, h2, h3⟩ := h
      cases h3
      rw [Res.bind_eq_ok_iff] at h2
      obtain ⟨r3, h4, h5⟩ := h2
      exact (bcastAppend_lw h5 (becomeLeader_lw h4 h1)).1
  · cases h; exact becomeFollower_pw _ _ h1
  · cases h; exact h1

theorem campaignWith_pw {a r r' : Raft}
    {poll : Raft → Nat → MsgType → Bool → Res (Raft × VoteResult)} {ct : CampaignType}
    (hpoll : ∀ r frm t v r' res, poll r frm t v = .ok (r', res) → PW E a r → PW E a r')
    (h : campaignWith poll r ct = .ok r') (h0 : PW E a r) : PW E a r' :=
  campaignWith_parts h h0 (fun hc h1 => (becomePreCandidate_pw hc h1).1)
    (fun hc h1 => (becomeCandidate_pw hc h1).1) (fun hp => hpoll _ _ _ _ _ _ hp)
    (fun hs hvm => sendVoteRequests_pw (by rcases hvm with c | c <;> rw [c] <;> rfl) hs)

theorem campaignAfterPreVote_pw {a r r' : Raft} (h : r.campaignAfterPreVote = .ok r')
    (h0 : PW E a r) : PW E a r' := by
  unfold Raft.campaignAfterPreVote at h
  exact campaignWith_pw (fun r frm t v r' res hp h1 =>
    pollWith_pw (fun _ _ hc => by cases hc) hp h1) h h0

theorem poll_pw {a r r' : Raft} {frm : Nat} {t : MsgType} {v : Bool} {res : VoteResult}
    (h : r.poll frm t v = .ok (r', res)) (h0 : PW E a r) : PW E a r' := by
  unfold Raft.poll at h
  exact pollWith_pw (fun _ _ hc h1 => campaignAfterPreVote_pw hc h1) h h0

theorem campaign_pw {a r r' : Raft} {ct : CampaignType} (h : r.campaign ct = .ok r')
    (h0 : PW E a r) : PW E a r' := by
  unfold Raft.campaign at h
  exact campaignWith_pw (fun _ _ _ _ _ _ hp h1 => poll_pw hp h1) h h0

theorem hup_pw {a r r' : Raft} {tl : Bool} (h : r.hup tl = .ok r') (h0 : PW E a r) : PW E a r' :=
  hup_parts h h0 (fun _ hc => campaign_pw hc h0)

/-! ### the vote arm, `maybe_commit_by_vote` -/

theorem maybeCommitByVote_pw {a r r' : Raft} {m : Message} (h : r.maybeCommitByVote m = .ok r')
    (h0 : PW E a r) : PW E a r' :=
  maybeCommitByVote_parts h h0 (fun hm => h0.log (c05_maybeCommit_same hm))
    (becomeFollower_pw _ _)

theorem voteResp_wq {t rt : MsgType} (h : voteRespMsgType t = some rt) : wqT rt = false := by
  cases t <;> simp [voteRespMsgType] at h <;> subst h <;> rfl

theorem stepVote_pw {a r r' : Raft} {m : Message} (h : r.stepVote m = .ok r') (h0 : PW E a r) :
    PW E a r' :=
  stepVote_parts h (fun hs hrt => send_pw hs (voteResp_wq hrt) h0) PW.mk' maybeCommitByVote_pw

/-! ### follower handlers -/

theorem sendRequestSnapshot_pw {a r r' : Raft} (h : r.sendRequestSnapshot = .ok r')
    (h0 : PW E a r) : PW E a r' :=
  sendRequestSnapshot_parts h h0 (fun hs hty => send_pw hs (by rw [hty]; rfl))

theorem handleHeartbeat_pw {a r r' : Raft} {m : Message}
    (h : r.handleHeartbeat m = .ok r') (h0 : PW E a r) : PW E a r' :=
  handleHeartbeat_parts h (fun hc => h0.log (c05_commitTo_same hc)) sendRequestSnapshot_pw
    (fun hs hty => send_pw hs (by rw [hty]; rfl))

theorem requestSnapshot_pw {a r r' : Raft} {e : Option RaftError}
    (h : r.requestSnapshot = .ok (r', e)) (h0 : PW E a r) : PW E a r' :=
  requestSnapshot_parts h h0 (fun _ => PW.mk') sendRequestSnapshot_pw

end PerCall
end Raft
end RaftModel
