import RaftProofs.ClusterCommit4H

/-!
Cluster-level commit safety, part 4I: **one call of a node** (`call_pr`): every `NodeOp` the cluster
semantics uses keeps "progress within the log or node mute" and "pending reads committed", every
`MsgAppend` it queues is anchored within the log (or the node is mute), every `MsgReadIndexResp`
it queues carries an index that is at most the commit index, and no queued `MsgSnapshot` is lost —
given that an accepted acknowledgement delivered to a leader of its term lies within the leader's log
and (`hQ`) that whatever `E` admits as a pending snapshot of that leader lies within its log.
-/
namespace RaftModel
namespace Raft
namespace PerCall
open Node RaftProps.C13

variable {E : Rule}

theorem PR.of_same {a r r' : Raft} (h : PR E a r) (hs : r'.state = r.state) (hp : r'.prs = r.prs)
    (hro : r'.readOnly = r.readOnly) (hm : r'.msgs = r.msgs)
    (hl : r.raftLog.lastIndex ≤ r'.raftLog.lastIndex)
    (hc : r.raftLog.committed ≤ r'.raftLog.committed) : PR E a r' := by
  refine ⟨fun c => ?_, fun c p hp' => ?_, fun x hx hty => ?_, fun x hx hty => ?_, ?_,
    by rw [hm]; exact h.qf⟩
  · rw [hs] at c; rw [hm, hp]
    exact (h.po c).imp (fun x => x) (fun d => d.mono hl (fun _ hx _ => hx))
  · rw [hs] at c; rw [hro] at hp'
    exact Nat.le_trans (h.rd c p hp') hc
  · rw [hm] at hx ⊢
    rcases h.qa x hx hty with d | d | d
    · exact .inl d
    · exact .inr (.inl d)
    · exact .inr (.inr (Nat.le_trans d hl))
  · rw [hm] at hx
    rcases h.qr x hx hty with d | d
    · exact .inl d
    · exact .inr (Nat.le_trans d hc)
  · rw [hm]; exact h.sn

theorem PR.rebase {a a' r : Raft} (h : PR E a r) (hm : a'.msgs = a.msgs)
    (hl : a'.raftLog = a.raftLog) : PR E a' r :=
  ⟨h.po, h.rd, by rw [hm]; exact h.qa, by rw [hm]; exact h.qr, by rw [hm]; exact h.sn,
    by rw [hm, hl]; exact h.qf⟩

/-- `RawNode::step` -/
theorem rawStep_pr {a r r' : Raft} {m : Message} {e : Option RaftError}
    (h : RawNode.step r m = .ok (r', e)) (h0 : PW E a r) (hn : NF a r)
    (hms : m.msgType ≠ .msgSnapshot)
    (hB : r.state = .leader → m.msgType = .msgAppendResponse → m.reject = false →
      (m.term = 0 ∨ m.term = r.term) → m.index ≤ r.raftLog.lastIndex)
    (hQ : r.state = .leader → ∀ i, E.pend r.msgs r.raftLog.lastIndex i → i ≤ r.raftLog.lastIndex) :
    PR E a r' := by
  rcases RawNode.step_inv h with rfl | ⟨_, h⟩
  · exact h0.pr
  · by_cases hty : m.msgType = .msgAppend
    · exact step_app_pr h h0 hn hty
    · exact (step_pw h h0 hty hms hB (fun _ => hQ)).pr

theorem localStep_pr {a r r' : Raft} {m : Message} {e : Option RaftError}
    (h : r.step m = .ok (r', e)) (h0 : PW E a r) (hna : m.msgType ≠ .msgAppend)
    (hms : m.msgType ≠ .msgSnapshot) (hnr : m.msgType ≠ .msgAppendResponse)
    (hss : m.msgType ≠ .msgSnapStatus) : PR E a r' :=
  (step_pw h h0 hna hms (fun _ hc => absurd hc hnr) (fun hc => absurd hc hss)).pr

/-- **one call of a node** -/
theorem call_pr (st st' : NState) (rnd : Option Nat) (op : NodeOp) (res : OpRes)
    (hinv : st.raft.raftLog.Inv) (hnb : E.flag st.raft.batchAppend)
    (hop : op ≠ .drain ∧ ∀ m, op ≠ .rstep m) (hc : ∀ k, op ≠ .compact k)
    (hsn : st.raft.raftLog.unstable.snapshot = none)
    (hms : ∀ m, op = .step m → m.msgType ≠ .msgSnapshot)
    (hpo : st.raft.state = .leader →
      E.mute st.raft.msgs ∨ PAll E st.raft.msgs st.raft.raftLog.lastIndex st.raft.prs)
    (hQ : st.raft.state = .leader → ∀ i,
      E.pend st.raft.msgs st.raft.raftLog.lastIndex i → i ≤ st.raft.raftLog.lastIndex)
    (hrd : st.raft.state = .leader → ∀ p ∈ st.raft.readOnly.pendingReadIndex,
      p.2.index ≤ st.raft.raftLog.committed)
    (hB : ∀ m, op = .step m → st.raft.state = .leader → m.msgType = .msgAppendResponse →
      m.reject = false → (m.term = 0 ∨ m.term = st.raft.term) →
      m.index ≤ st.raft.raftLog.lastIndex)
    (h : Node.call st rnd op = .ok (res, st')) : PR E st.raft st'.raft := by
  unfold Node.call at h
  generalize hst0 : ({ st with raft := { st.raft with nextRand := rnd } } : NState) = st0 at h
  refine PR.rebase (a := st0.raft) ?_ (by rw [← hst0]) (by rw [← hst0])
  have h0 : PW E st0.raft st0.raft := by rw [← hst0]; exact PW.start hinv hnb hpo hrd
  have hinv' : st0.raft.raftLog.Inv := by rw [← hst0]; exact hinv
  have hsn' : st0.raft.raftLog.unstable.snapshot = none := by rw [← hst0]; exact hsn
  have hQ' : st0.raft.state = .leader → ∀ i,
      E.pend st0.raft.msgs st0.raft.raftLog.lastIndex i → i ≤ st0.raft.raftLog.lastIndex := by
    rw [← hst0]; exact hQ
  have hB' : ∀ m, op = .step m → st0.raft.state = .leader → m.msgType = .msgAppendResponse →
      m.reject = false → (m.term = 0 ∨ m.term = st0.raft.term) →
      m.index ≤ st0.raft.raftLog.lastIndex := by
    rw [← hst0]; exact hB
  -- a call that leaves role, tracker, pending reads, queue, last index and commit index alone
  have same : ∀ {r' : Raft}, r'.state = st0.raft.state → r'.prs = st0.raft.prs →
      r'.readOnly = st0.raft.readOnly → r'.msgs = st0.raft.msgs →
      r'.raftLog.lastIndex = st0.raft.raftLog.lastIndex →
      r'.raftLog.committed = st0.raft.raftLog.committed → PR E st0.raft r' :=
    fun a b c d e f => PR.of_same h0.pr a b c d (Nat.le_of_eq e.symm) (Nat.le_of_eq f.symm)
  cases applyOp_parts h with
  | tick hx => exact (tick_pw hx h0).pr
  | step hx => exact rawStep_pr hx h0 NF.rfl (hms _ rfl) (hB' _ rfl) hQ'
  | rstep => exact absurd rfl (hop.2 _)
  | propose hx | proposeCc hx | campaign hx =>
    exact localStep_pr hx h0 (by intro hc; cases hc) (by intro hc; cases hc) (by intro hc; cases hc)
      (by intro hc; cases hc)
  | readIndex hx | transferLeader hx | reportUnreachable hx =>
    exact (stepIgnore_pw hx h0 (by intro hc; cases hc) (by intro hc; cases hc)
      (by intro hc; cases hc) (by intro hc; cases hc)).pr
  | reportSnapshot hx =>
    exact (stepIgnore_pw hx h0 (by intro hc; cases hc) (by intro hc; cases hc)
      (by intro hc; cases hc) (fun _ => hQ')).pr
  | ping hx => exact (ping_pw hx h0).pr
  | requestSnapshot hx => exact (requestSnapshot_pw hx h0).pr
  | confChanged hx | confRefused hx => exact (applyConfChange_pw hx h0).pr
  | stabilize hx =>
    refine stabilize_parts (Q := fun s => PR E st0.raft s.raft) hx fun {l} hl => ?_
    obtain ⟨l2, k1, k2, k3, k4, _⟩ := RaftProps.C14.stabilise_ok hinv' hsn'
    rw [hl] at k1
    cases k1
    refine same rfl rfl rfl rfl ?_ k4
    show l.lastIndex = st0.raft.raftLog.lastIndex
    rw [k2.lastIndex_abs, hinv'.lastIndex_abs, k3]
  | onPersistEntries hx => exact (onPersistEntries_pw hx h0).pr
  | persistSnap hx =>
    exact persistSnap_parts (Q := fun s => PR E st0.raft s.raft) hx h0.pr
      fun hs _ _ _ => by rw [hsn'] at hs; cases hs
  | commitApply hx =>
    simp only [Node.commitApply] at hx
    split at hx
    · rename_i r2 hb
      obtain ⟨r1, h1, h2⟩ := Res.bind_eq_ok hb
      have g1 : PW E st0.raft r1 := by
        split at h1
        · split at h1
          · cases h1
            unfold Raft.reduceUncommittedSize
            split
            · exact h0
            · exact PW.mk' h0
          · cases h1; exact h0
          · cases h1
        · cases h1; exact h0
      have g2 : PW E st0.raft r2 := commitApplyInternal_pw h2 g1
      cases hx
      split
      · exact PR.of_same g2.pr rfl rfl rfl rfl (Nat.le_refl _) (Nat.le_refl _)
      · exact g2.pr
    · cases hx
    · cases hx
  | compact => exact absurd rfl (hc _)
  | drain => exact absurd rfl hop.1
  | triggerSnap | triggerLog | setPriority | setBatchAppend | skipBcastCommit | setCheckQuorum
  | setMaxApplyUnpersistedLogLimit | setMaxCommittedSizePerReady =>
    exact same rfl rfl rfl rfl rfl rfl
  | adjustMaxInflight hx => exact (adjustMaxInflightMsgs_pw hx h0).pr
  | maybeFreeInflightBuffers => exact (maybeFreeInflightBuffers_pw h0).pr
  | enableGroupCommit hx => exact (enableGroupCommit_pw hx h0).pr
  | assignCommitGroups hx => exact (assignCommitGroups_pw hx h0).pr
  | clearCommitGroup => exact (clearCommitGroup_pw h0).pr
  | checkGroupCommitConsistent | staleFetch => exact h0.pr
  | fetched _ hs _ hx => exact (sendAppend_lw hx ⟨h0, hs⟩).1.pr
  | fetchedAll _ hs _ hx => exact (sendAppendAggressively_lw hx ⟨h0, hs⟩).1.pr

end PerCall
end Raft
end RaftModel
