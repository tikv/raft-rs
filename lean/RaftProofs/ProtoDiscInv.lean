import RaftProofs.ProtoDiscDefs

/-!
The invariant of the discipline layer PD (`InvD`) and the frame lemmas.
-/
namespace RaftModel.P

structure InvD (D : DSys) : Prop where
  /-- **APPL** the applied index is not beyond the commit index -/
  appl : ∀ i, D.applied i ≤ (D.pc.base.nodes i).commit
  /-- **INV1** at most one membership-change entry beyond the commit index: volatile log, ... -/
  v : ∀ i, One (D.pc.base.nodes i).log (D.pc.base.nodes i).commit
  /-- ... pending images, ... -/
  p : ∀ i, ∀ im ∈ (D.pc.base.nodes i).pending, One im.log im.commit
  /-- ... durable image -/
  d : ∀ i, One (D.pc.base.nodes i).dlog (D.pc.base.nodes i).dcommit
  /-- **MINV** the same for what a released append makes of a follower's log -/
  m : ∀ m ∈ D.pc.base.apps, One ((D.pc.base.llog m.term).take (m.prev + m.es.length)) m.commit
  /-- **PCONF** a leader's log holds no membership-change entry beyond `pending_conf_index` -/
  pc : ∀ i, (D.pc.base.nodes i).role = 2 →
        confCount (D.pc.base.nodes i).log = confCount ((D.pc.base.nodes i).log.take (D.pconf i)) ∧
        D.pconf i ≤ (D.pc.base.nodes i).log.length
  /-- **HUP / INV2** a candidate's and a leader's log hold at most one membership-change entry beyond
  the applied index -/
  hup : ∀ i, (D.pc.base.nodes i).role ≠ 0 → One (D.pc.base.nodes i).log (D.applied i)
  /-- **LVER** a leader's version is not below the versions recorded for its term -/
  lver : ∀ i, (D.pc.base.nodes i).role = 2 →
        verMono D.pc (D.pc.base.nodes i).term (confCount ((D.pc.base.nodes i).log.take (D.applied i))) = true

theorem invD_init : InvD dinit := by
  constructor
  · intro i; simp [dinit, cinit, init]
  · intro i; simp [dinit, cinit, init, One, confCount]
  · intro i im him; simp [dinit, cinit, init] at him
  · intro i; simp [dinit, cinit, init, One, confCount]
  · intro m hm; simp [dinit, cinit, init] at hm
  · intro i h; simp [dinit, cinit, init] at h
  · intro i h; simp [dinit, cinit, init] at h
  · intro i h; simp [dinit, cinit, init] at h

theorem verMono_mono {S : CSys} {t j j' : Nat} (h : verMono S t j = true) (hj : j ≤ j') : verMono S t j' = true := by
  obtain ⟨h1, h2⟩ := verMono_unpack h
  exact verMono_pack ⟨fun e he ht => Nat.le_trans (h1 e he ht) hj, fun p hp ht => Nat.le_trans (h2 p hp ht) hj⟩

theorem verMono_congr {S S' : CSys} (he : S'.evs = S.evs) (hc : S'.cvs = S.cvs) (t j : Nat) :
    verMono S' t j = verMono S t j := by
  unfold verMono; rw [he, hc]

/-- MINV is stable: the ghost logs only grow, and the message lies inside the ghost log of its term -/
theorem minv_keep {s s' : PSys} (hL : InvL s) (g : Grow s s')
    (hm : ∀ m ∈ s.apps, One ((s.llog m.term).take (m.prev + m.es.length)) m.commit)
    (happs : ∀ m ∈ s'.apps, m ∈ s.apps) :
    ∀ m ∈ s'.apps, One ((s'.llog m.term).take (m.prev + m.es.length)) m.commit := by
  intro m hm'
  have h0 := happs m hm'
  have ok := hL.msg m h0
  rw [g.take_eq ok.hl ok.len]
  exact hm m h0

/-- frame: only node `i` (and its applied index / `pending_conf_index`) changes -/
theorem invD_frame (D D' : DSys) (hD : InvD D) (i : Nat)
    (hn : ∀ j, j ≠ i → D'.pc.base.nodes j = D.pc.base.nodes j)
    (ha : ∀ j, j ≠ i → D'.applied j = D.applied j)
    (hp : ∀ j, j ≠ i → D'.pconf j = D.pconf j)
    (hm : ∀ m ∈ D'.pc.base.apps, One ((D'.pc.base.llog m.term).take (m.prev + m.es.length)) m.commit)
    (hvm : ∀ j, j ≠ i → (D.pc.base.nodes j).role = 2 → ∀ x, verMono D.pc (D.pc.base.nodes j).term x = true →
            verMono D'.pc (D.pc.base.nodes j).term x = true)
    (h1 : D'.applied i ≤ (D'.pc.base.nodes i).commit)
    (h2 : One (D'.pc.base.nodes i).log (D'.pc.base.nodes i).commit)
    (h3 : ∀ im ∈ (D'.pc.base.nodes i).pending, One im.log im.commit)
    (h4 : One (D'.pc.base.nodes i).dlog (D'.pc.base.nodes i).dcommit)
    (h5 : (D'.pc.base.nodes i).role = 2 →
        confCount (D'.pc.base.nodes i).log = confCount ((D'.pc.base.nodes i).log.take (D'.pconf i)) ∧
        D'.pconf i ≤ (D'.pc.base.nodes i).log.length)
    (h6 : (D'.pc.base.nodes i).role ≠ 0 → One (D'.pc.base.nodes i).log (D'.applied i))
    (h7 : (D'.pc.base.nodes i).role = 2 →
        verMono D'.pc (D'.pc.base.nodes i).term (confCount ((D'.pc.base.nodes i).log.take (D'.applied i))) = true) :
    InvD D' := by
  constructor
  · intro j
    by_cases hj : j = i
    · subst hj; exact h1
    · rw [hn j hj, ha j hj]; exact hD.appl j
  · intro j
    by_cases hj : j = i
    · subst hj; exact h2
    · rw [hn j hj]; exact hD.v j
  · intro j
    by_cases hj : j = i
    · subst hj; exact h3
    · rw [hn j hj]; exact hD.p j
  · intro j
    by_cases hj : j = i
    · subst hj; exact h4
    · rw [hn j hj]; exact hD.d j
  · exact hm
  · intro j
    by_cases hj : j = i
    · subst hj; exact h5
    · rw [hn j hj, hp j hj]; exact hD.pc j
  · intro j
    by_cases hj : j = i
    · subst hj; exact h6
    · rw [hn j hj, ha j hj]; exact hD.hup j
  · intro j
    by_cases hj : j = i
    · subst hj; exact h7
    · rw [hn j hj, ha j hj]
      intro hr
      exact hvm j hj hr _ (hD.lver j hr)

/-- nothing the invariant looks at changes, except possibly the released appends -/
theorem invD_congr (D D' : DSys) (hD : InvD D) (hn : D'.pc.base.nodes = D.pc.base.nodes)
    (he : D'.pc.evs = D.pc.evs) (hc : D'.pc.cvs = D.pc.cvs) (ha : D'.applied = D.applied) (hp : D'.pconf = D.pconf)
    (hm : ∀ m ∈ D'.pc.base.apps, One ((D'.pc.base.llog m.term).take (m.prev + m.es.length)) m.commit) :
    InvD D' := by
  constructor
  · intro j; rw [hn, ha]; exact hD.appl j
  · intro j; rw [hn]; exact hD.v j
  · intro j; rw [hn]; exact hD.p j
  · intro j; rw [hn]; exact hD.d j
  · exact hm
  · intro j; rw [hn, hp]; exact hD.pc j
  · intro j; rw [hn, ha]; exact hD.hup j
  · intro j; rw [hn, ha, verMono_congr he hc]; exact hD.lver j

theorem updN_self (f : Nat → Nat) (i : Nat) : updN f i (f i) = f := by
  funext j; by_cases h : j = i <;> simp [updN, h]

theorem updN_same (f : Nat → Nat) (i v : Nat) : updN f i v i = v := by simp [updN]
theorem updN_other (f : Nat → Nat) (i j v : Nat) (h : j ≠ i) : updN f i v j = f j := by simp [updN, h]

/-- frame, with the new node / applied index / `pending_conf_index` of `i` given explicitly -/
theorem invD_frame_upd (D D' : DSys) (hD : InvD D) (i : Nat) (n' : PNode) (a pcf : Nat)
    (hn : D'.pc.base.nodes = upd D.pc.base.nodes i n')
    (ha : D'.applied = updN D.applied i a)
    (hp : D'.pconf = updN D.pconf i pcf)
    (hm : ∀ m ∈ D'.pc.base.apps, One ((D'.pc.base.llog m.term).take (m.prev + m.es.length)) m.commit)
    (hvm : ∀ j, j ≠ i → (D.pc.base.nodes j).role = 2 → ∀ x, verMono D.pc (D.pc.base.nodes j).term x = true →
            verMono D'.pc (D.pc.base.nodes j).term x = true)
    (h1 : a ≤ n'.commit)
    (h2 : One n'.log n'.commit)
    (h3 : ∀ im ∈ n'.pending, One im.log im.commit)
    (h4 : One n'.dlog n'.dcommit)
    (h5 : n'.role = 2 → confCount n'.log = confCount (n'.log.take pcf) ∧ pcf ≤ n'.log.length)
    (h6 : n'.role ≠ 0 → One n'.log a)
    (h7 : n'.role = 2 → verMono D'.pc n'.term (confCount (n'.log.take a)) = true) :
    InvD D' := by
  have e1 : D'.pc.base.nodes i = n' := by rw [hn, upd_same]
  have e2 : D'.applied i = a := by rw [ha, updN_same]
  have e3 : D'.pconf i = pcf := by rw [hp, updN_same]
  refine invD_frame D D' hD i (fun j hj => by rw [hn, upd_other _ _ _ _ hj])
    (fun j hj => by rw [ha, updN_other _ _ _ _ hj]) (fun j hj => by rw [hp, updN_other _ _ _ _ hj]) hm hvm
    ?_ ?_ ?_ ?_ ?_ ?_ ?_
  · rw [e1, e2]; exact h1
  · rw [e1]; exact h2
  · rw [e1]; exact h3
  · rw [e1]; exact h4
  · rw [e1, e3]; exact h5
  · rw [e1, e2]; exact h6
  · rw [e1, e2]; exact h7

end RaftModel.P
