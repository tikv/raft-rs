import RaftProofs.ClusterCommitA

/-!
Cluster-level commit safety, helper lemmas part B: `SF` through the sending helpers that never batch
(the snapshot path of `maybe_send_append`, the heartbeat senders, the broadcast loops, the read-index
helpers) and the leader-side handlers that only touch a peer's progress.  The helpers that may batch
onto a queued `MsgAppend` are in `ClusterCommit5A`.
-/
namespace RaftModel
namespace Raft
namespace CC

/-- `RaftLog::snapshot` only consumes the storage's test trigger -/
theorem snapshot_core (l : RaftLog) (i : Nat) :
    (l.snapshot i).1 = l ∨
    (l.snapshot i).1 = { l with store := { l.store with triggerSnapUnavailable := false } } := by
  have hst : ∀ s : MemStorage, (s.snapshot i).1 = s ∨
      (s.snapshot i).1 = { s with triggerSnapUnavailable := false } := by
    intro s
    unfold MemStorage.snapshot
    split
    · exact .inr rfl
    · split <;> exact .inl rfl
  unfold RaftLog.snapshot
  split
  · split
    · exact .inl rfl
    · rcases hst l.store with e | e
      · left; dsimp only; rw [e]
      · right; dsimp only; rw [e]
  · rcases hst l.store with e | e
    · left; dsimp only; rw [e]
    · right; dsimp only; rw [e]

theorem SF.snapLog {a r : Raft} (i : Nat) (h0 : SF a r) :
    SF a { r with raftLog := (r.raftLog.snapshot i).1 } := by
  refine ⟨?_, h0.q⟩
  rw [← h0.core]
  rcases snapshot_core r.raftLog i with e | e <;> rw [e] <;> rfl

theorem updateState_matched {pr pr' : Progress} {n : Nat} (h : pr.updateState n = .ok pr') :
    pr'.matched = pr.matched := by
  unfold Progress.updateState at h
  split at h
  · split at h
    · cases h
    · split at h
      · cases h; rfl
      · cases h
  · cases h; rfl
  · cases h

/-- a stamped message that is neither an append nor a heartbeat -/
theorem sent_other (r : Raft) (m : Message) (hf : m.frm = 0) (ht : lkT m.msgType = true)
    (h1 : m.msgType ≠ .msgAppend) (h2 : m.msgType ≠ .msgHeartbeat) :
    Sent (score r) (r.sendFill m) := by
  obtain ⟨f1, f2, f3, _, _⟩ := sendFill_lk r m hf ht
  refine ⟨f1, f2, ?_, ?_, ?_⟩
  · rw [f3]; exact ht
  · intro hc; rw [f3] at hc; exact absurd hc h1
  · intro hc; rw [f3] at hc; exact absurd hc h2

theorem prepareSendSnapshot_sf {a r r' : Raft} {m m' : Message} {pr pr' : Progress} {to : Nat}
    {b : Bool} (h : r.prepareSendSnapshot m pr to = .ok (r', m', pr', b)) (h0 : SF a r) :
    SF a r' ∧ pr'.matched = pr.matched ∧
    (b = true → m'.msgType = .msgSnapshot ∧ m'.frm = m.frm ∧ m'.to = m.to) := by
  unfold Raft.prepareSendSnapshot at h
  split at h
  · cases h; exact ⟨h0, rfl, fun hb => nomatch hb⟩
  · simp only [] at h
    have hs := h0.snapLog pr.pendingRequestSnapshot
    split at h
    · cases h; exact ⟨hs, rfl, fun hb => nomatch hb⟩
    · cases h
    · cases h
    · split at h
      · cases h
      · cases h; exact ⟨hs, rfl, fun _ => ⟨rfl, rfl, rfl⟩⟩

theorem viaSnapshot_sf {a r r' : Raft} {to : Nat} {pr pr' : Progress} {sent : Bool}
    (h : RaftProps.C13.viaSnapshot r to pr = .ok (r', pr', sent)) (h0 : SF a r) :
    SF a r' ∧ pr'.matched = pr.matched := by
  unfold RaftProps.C13.viaSnapshot at h
  split at h
  · rename_i r1 m1 pr1 heq
    obtain ⟨h1, h2, h3⟩ := prepareSendSnapshot_sf heq h0
    rw [Res.bind_eq_ok_iff] at h
    obtain ⟨r2, hs, h4⟩ := h
    cases h4
    obtain ⟨e1, e2, e3⟩ := h3 rfl
    exact ⟨send_sf hs (sent_other r1 m1 (by rw [e2]) (by rw [e1]; rfl) (by rw [e1]; decide)
      (by rw [e1]; decide)) h1, h2⟩
  · rename_i r1 m1 pr1 heq
    cases h
    obtain ⟨h1, h2, _⟩ := prepareSendSnapshot_sf heq h0
    exact ⟨h1, h2⟩
  · cases h
  · cases h

/-- write-back after a sending helper that ran on the progress entry of `to` -/
theorem SF.writeBack {a r r1 : Raft} {to : Nat} {pr pr1 : Progress} (h0 : SF a r) (h1 : SF a r1)
    (hg : r.prs.get to = some pr) (hm : pr1.matched = pr.matched) :
    SF a { r1 with prs := r1.prs.set to pr1 } := by
  refine h1.setPr (fun old ho => ?_)
  have e1 : mfun r1.prs to = mfun r.prs to := by rw [h1.mtab, h0.mtab]
  rw [mfun_of_get ho, mfun_of_get hg] at e1
  injection e1 with e1
  rw [hm, e1]

/-- `P` of a node with the progress of peer `id` in hand (the `Q` of the `_parts2` lemmas): the
progress has the `matched` of the one a node with `P` stores for `id` -/
def Held (P : Raft → Prop) (r : Raft) (id : Nat) (p : Progress) : Prop :=
  P r ∧ ∃ r0 p0, P r0 ∧ r0.prs.get id = some p0 ∧ p.matched = p0.matched

theorem Held.of_get {P : Raft → Prop} {r : Raft} {id : Nat} {p : Progress} (h0 : P r)
    (hg : r.prs.get id = some p) : Held P r id p :=
  ⟨h0, r, p, h0, hg, rfl⟩

/-- a helper ran on the node and the progress in hand and kept its `matched` -/
theorem Held.step {P : Raft → Prop} {r r' : Raft} {id : Nat} {p p' : Progress} (q : Held P r id p)
    (h : P r' ∧ p'.matched = p.matched) : Held P r' id p' :=
  let ⟨r0, p0, h0, hg, e⟩ := q.2
  ⟨h.1, r0, p0, h0, hg, h.2.trans e⟩

/-- the write-back, for a predicate that survives storing a progress whose `matched` is the stored
one -/
theorem Held.set {P : Raft → Prop} {r : Raft} {id : Nat} {p : Progress}
    (wb : ∀ {r r1 to pr pr1}, P r → P r1 → r.prs.get to = some pr → pr1.matched = pr.matched →
      P { r1 with prs := r1.prs.set to pr1 })
    (q : Held P r id p) : P { r with prs := r.prs.set id p } :=
  let ⟨_, _, h0, hg, e⟩ := q.2
  wb h0 q.1 hg e

/-- the loop over the peers: `f` runs on the progress entry of `id` and keeps its `matched` -/
theorem forEachPeer_wb {P : Raft → Prop} {r r' : Raft}
    {f : Raft → Nat → Progress → Res (Raft × Progress)}
    (wb : ∀ {r r1 to pr pr1}, P r → P r1 → r.prs.get to = some pr → pr1.matched = pr.matched →
      P { r1 with prs := r1.prs.set to pr1 })
    (hf : ∀ r id pr r' pr', f r id pr = .ok (r', pr') → r.prs.get id = some pr → id ≠ r.id →
      P r → P r' ∧ pr'.matched = pr.matched)
    (h : r.forEachPeer f = .ok r') (h0 : P r) : P r' :=
  forEachPeer_parts2 (Q := Held P) h h0
    (fun hid hg hx p => (Held.of_get p hg).step (hf _ _ _ _ _ hx hg hid p)) (Held.set wb)

theorem forEachPeer_sf {a r r' : Raft} {f : Raft → Nat → Progress → Res (Raft × Progress)}
    (hf : ∀ r id pr r' pr', f r id pr = .ok (r', pr') → r.prs.get id = some pr → id ≠ r.id →
      SF a r → SF a r' ∧ pr'.matched = pr.matched)
    (h : r.forEachPeer f = .ok r') (h0 : SF a r) : SF a r' :=
  forEachPeer_wb SF.writeBack hf h h0

theorem sendHeartbeat_sf {a r r' : Raft} {to : Nat} {pr : Progress} {ctx : Option Bytes}
    (h : r.sendHeartbeat to pr ctx = .ok r') (hg : mfun r.prs to = some pr.matched)
    (hid : to ≠ r.id) (h0 : SF a r) : SF a r' := by
  unfold Raft.sendHeartbeat at h
  refine send_sf h ?_ h0
  let m0 : Message :=
    { msgType := .msgHeartbeat, to := to, commit := min pr.matched r.raftLog.committed,
      context := ctx.getD [] }
  obtain ⟨f1, f2, f3, f4, f5⟩ := sendFill_lk r m0 rfl rfl
  refine ⟨f1, f2, (by rw [f3]; rfl), (fun hc => by rw [f3] at hc; cases hc), fun _ => ?_⟩
  rw [f4, f5]
  exact ⟨Nat.min_le_right _ _, pr.matched, hg, Nat.min_le_left _ _, hid⟩

theorem sendTimeoutNow_sf {a r r' : Raft} {to : Nat}
    (h : r.sendTimeoutNow to = .ok r') (h0 : SF a r) : SF a r' := by
  unfold Raft.sendTimeoutNow at h
  exact send_sf h (sent_other r _ rfl rfl (by show MsgType.msgTimeoutNow ≠ _; decide)
    (by show MsgType.msgTimeoutNow ≠ _; decide)) h0

theorem bcastHeartbeatWithCtx_sf {a r r' : Raft} {ctx : Option Bytes}
    (h : r.bcastHeartbeatWithCtx ctx = .ok r') (h0 : SF a r) : SF a r' := by
  unfold Raft.bcastHeartbeatWithCtx at h
  refine forEachPeer_sf (fun r id pr r' pr' h hg hne h0 => ?_) h h0
  obtain ⟨r2, h2, h3⟩ := Res.bind_eq_ok h
  cases h3
  exact ⟨sendHeartbeat_sf h2 (mfun_of_get hg) hne h0, rfl⟩

theorem bcastHeartbeat_sf {a r r' : Raft} (h : r.bcastHeartbeat = .ok r') (h0 : SF a r) :
    SF a r' := by
  unfold Raft.bcastHeartbeat at h
  exact bcastHeartbeatWithCtx_sf h h0

theorem ping_sf {a r r' : Raft} (h : r.ping = .ok r') (h0 : SF a r) : SF a r' := by
  unfold Raft.ping at h
  split at h
  · exact bcastHeartbeat_sf h h0
  · cases h; exact h0

theorem handleReadyReadIndex_sf {a r r' : Raft} {req : Message} {i : Nat} {om : Option Message}
    (h : r.handleReadyReadIndex req i = .ok (r', om)) (h0 : SF a r) :
    SF a r' ∧ ∀ m', om = some m' → m'.msgType = .msgReadIndexResp ∧ m'.frm = 0 := by
  unfold Raft.handleReadyReadIndex at h
  split at h
  · split at h
    · cases h
    · cases h
      exact ⟨SF.mk' h0, fun _ hc => by cases hc⟩
  · cases h
    exact ⟨h0, fun _ hc => by cases hc; exact ⟨rfl, rfl⟩⟩

theorem respondReadStates_sf {a r r' : Raft} {rss : List ReadIndexStatus}
    (h : r.respondReadStates rss = .ok r') (h0 : SF a r) : SF a r' := by
  unfold Raft.respondReadStates at h
  refine foldl_parts (P := SF a) _ ?_ _ _ h (by intro r1 e; cases e; exact h0)
  intro acc rs r1 h1
  cases acc with
  | err e => cases h1
  | panic s => cases h1
  | ok r0 =>
    refine ⟨r0, rfl, fun h0 => ?_⟩
    change (r0.handleReadyReadIndex rs.req rs.index).bind _ = _ at h1
    rw [Res.bind_eq_ok_iff] at h1
    obtain ⟨⟨r2, om⟩, h2, h3⟩ := h1
    obtain ⟨hk, hty⟩ := handleReadyReadIndex_sf h2 h0
    cases om with
    | none => cases h3; exact hk
    | some m' =>
      obtain ⟨t1, t2⟩ := hty _ rfl
      exact send_sf h3 (sent_other r2 m' t2 (by rw [t1]; rfl) (by rw [t1]; decide)
        (by rw [t1]; decide)) hk

theorem checkQuorumActive_sf {a r r' : Raft} {b : Bool} (h : r.checkQuorumActive = (r', b))
    (h0 : SF a r) : SF a r' := by
  unfold Raft.checkQuorumActive at h
  split at h
  rename_i prs b' hq
  cases h
  unfold ProgressTracker.quorumRecentlyActive at hq
  cases hq
  refine ⟨?_, h0.q⟩
  rw [← h0.core]
  have : mfun ({ r.prs with progress := r.prs.progress.map (fun p =>
      if p.1 = r.id then (p.1, { p.2 with recentActive := true })
      else (p.1, { p.2 with recentActive := false })) } : ProgressTracker) = mfun r.prs := by
    have := mfun_mapProgress r (fun j pr => if j = r.id then { pr with recentActive := true }
      else { pr with recentActive := false }) (fun j pr => by split <;> rfl)
    rw [← this]
    unfold mapProgress mfun ProgressTracker.get
    dsimp only
    congr 2
    funext j
    congr 2
    apply List.map_congr_left
    intro p _
    split <;> rfl
  unfold score
  dsimp only
  rw [this]

/-! ### progress updates that keep `matched` -/

theorem updateCommitted_matched (p : Progress) (c : Nat) : (p.updateCommitted c).matched = p.matched := by
  unfold Progress.updateCommitted; split <;> rfl

theorem becomeProbe_matched (p : Progress) : p.becomeProbe.matched = p.matched := by
  unfold Progress.becomeProbe; split <;> rfl

theorem becomeReplicate_matched (p : Progress) : p.becomeReplicate.matched = p.matched := rfl

theorem handleSnapshotStatus_sf {a r : Raft} {m : Message} (h0 : SF a r) :
    SF a (r.handleSnapshotStatus m) := by
  unfold Raft.handleSnapshotStatus
  split
  · exact h0
  · rename_i pr hg
    split
    · exact h0
    · refine h0.setPr (fun old ho => ?_)
      rw [hg] at ho; cases ho
      split
      · exact becomeProbe_matched _
      · exact becomeProbe_matched _

theorem handleUnreachable_sf {a r : Raft} {m : Message} (h0 : SF a r) :
    SF a (r.handleUnreachable m) := by
  unfold Raft.handleUnreachable
  split
  · exact h0
  · rename_i pr hg
    split
    · refine h0.setPr (fun old ho => ?_)
      rw [hg] at ho; cases ho
      exact becomeProbe_matched _
    · exact h0

theorem filterProposal_sf {a : Raft} : ∀ (es : List Entry) (r r' : Raft) (i : Nat)
    (o : Option (List Entry)), r.filterProposal i es = (r', o) → SF a r → SF a r' :=
  filterProposal_parts fun he p => filterProposalEntry_parts he p fun _ => SF.mk' p

end CC
end Raft
end RaftModel
