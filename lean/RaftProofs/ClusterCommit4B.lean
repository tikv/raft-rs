import RaftProofs.ClusterCommit4A

/-!
Cluster-level commit safety, part 4B: `Progress` bookkeeping keeps a progress within the log (`POk`),
and `PW` through `maybe_send_append`, its callers, the heartbeat senders and the broadcast loops; the
leader-world version `LW` (`PW` on a leader).
-/
namespace RaftModel
namespace Raft
namespace PerCall
open RaftProps.C13

variable {E : Rule}

/-! ### `Progress` -/

theorem POk.updateState {ms : List Message} {li : Nat} {pr pr' : Progress} (h : POk E ms li pr)
    {last : Nat} (hl : last ≤ li) (hu : pr.updateState last = .ok pr') : POk E ms li pr' := by
  unfold Progress.updateState at hu
  split at hu
  · split at hu
    · cases hu
    · split at hu
      · cases hu
        exact ⟨h.1, by simp [Progress.optimisticUpdate]; omega, h.2.2⟩
      · cases hu
  · cases hu; exact h.congr rfl rfl rfl
  · cases hu

/-- `become_probe`: a progress in the `Snapshot` state resumes after its pending snapshot, which
must lie within the log -/
theorem POk.of_becomeProbe {ms : List Message} {li : Nat} {pr : Progress} (hm : pr.matched ≤ li)
    (hps : pr.state = .snapshot → pr.pendingSnapshot ≤ li) : POk E ms li pr.becomeProbe := by
  unfold Progress.becomeProbe
  split
  · rename_i hs
    refine .of_ns hm ?_ (by intro hc; cases hc)
    show max (pr.matched + 1) (pr.pendingSnapshot + 1) ≤ li + 1
    have := hps hs
    omega
  · refine .of_ns hm ?_ (by intro hc; cases hc)
    show pr.matched + 1 ≤ li + 1
    omega

theorem POk.becomeProbe {ms : List Message} {li : Nat} {pr : Progress} (h : POk E ms li pr)
    (hps : pr.state = .snapshot → pr.pendingSnapshot ≤ li) : POk E ms li pr.becomeProbe :=
  .of_becomeProbe h.1 hps

theorem POk.becomeProbe_ns {ms : List Message} {li : Nat} {pr : Progress} (h : POk E ms li pr)
    (hns : pr.state ≠ .snapshot) : POk E ms li pr.becomeProbe :=
  h.becomeProbe (fun hc => absurd hc hns)

theorem POk.becomeReplicate {ms : List Message} {li : Nat} {pr : Progress} (h : POk E ms li pr) :
    POk E ms li pr.becomeReplicate := by
  refine .of_ns h.1 ?_ (by intro hc; cases hc)
  show pr.matched + 1 ≤ li + 1
  have := h.1; omega

theorem POk.becomeSnapshot {ms : List Message} {li : Nat} {pr : Progress} (h : POk E ms li pr)
    {i : Nat} (hf : E.pend ms li i) : POk E ms li (pr.becomeSnapshot i) :=
  ⟨h.1, h.2.1, fun _ => hf⟩

theorem POk.maybeUpdate {ms : List Message} {li : Nat} {pr pr' : Progress} {n : Nat} {b : Bool}
    (h : POk E ms li pr)
    (hn : n ≤ li) (hu : pr.maybeUpdate n = .ok (pr', b)) :
    POk E ms li pr' ∧ n ≤ pr'.matched ∧ pr'.state = pr.state ∧
      pr'.pendingSnapshot = pr.pendingSnapshot := by
  obtain ⟨h1, h2, h3⟩ := h
  obtain ⟨_, rfl⟩ := Progress.maybeUpdate_inv hu
  exact ⟨⟨Nat.max_le.2 ⟨h1, hn⟩, Nat.max_le.2 ⟨h2, Nat.succ_le_succ hn⟩, h3⟩,
    Nat.le_max_right _ _, rfl, rfl⟩

theorem POk.maybeDecrTo {ms : List Message} {li : Nat} {pr pr' : Progress} {rej hint req : Nat}
    {b : Bool}
    (h : POk E ms li pr) (hu : pr.maybeDecrTo rej hint req = .ok (pr', b)) :
    POk E ms li pr' ∧ pr'.state = pr.state := by
  obtain ⟨h1, h2, h3⟩ := h
  cases Progress.maybeDecrTo_inv hu with
  | repStale | repSnap | stale | snapFirst | snapAgain => exact ⟨⟨h1, h2, h3⟩, rfl⟩
  | repDecr => exact ⟨⟨h1, Nat.succ_le_succ h1, h3⟩, rfl⟩
  | probeDecr _ hg =>
    -- the probe in flight was rejected: `next_idx - 1 = rej`
    refine ⟨⟨h1, ?_, h3⟩, rfl⟩
    have hrej : pr.nextIdx - 1 = rej ∧ pr.nextIdx ≠ 0 := by
      refine Classical.byContradiction fun hc => hg ⟨?_, by assumption⟩
      by_cases h0 : pr.nextIdx = 0
      · exact .inl h0
      · exact .inr fun he => hc ⟨he, h0⟩
    have hmin : min rej (hint + 1) ≤ rej := Nat.min_le_left _ _
    dsimp only
    split <;> omega

theorem POk.updateCommitted {ms : List Message} {li : Nat} {pr : Progress} (h : POk E ms li pr)
    (c : Nat) : POk E ms li (pr.updateCommitted c) := by
  unfold Progress.updateCommitted
  split
  · exact h.congr rfl rfl rfl
  · exact h

theorem POk.reset (ms : List Message) (li : Nat) (pr : Progress) : POk E ms li (pr.reset (li + 1)) :=
  .of_ns (Nat.zero_le _) (Nat.le_refl _) (by intro hc; cases hc)

theorem POk.new (ms : List Message) (li n : Nat) (cap : Nat) (hn : n ≤ li + 1) :
    POk E ms li (Progress.new n cap) :=
  .of_ns (Nat.zero_le _) hn (by intro hc; cases hc)

/-! ### `maybe_send_append` -/

/-- what one `maybe_send_append` for a progress within the log (or on a mute node) leaves -/
theorem maybeSendAppend_pw {a r r' : Raft} {to : Nat} {pr pr' : Progress} {ae b : Bool}
    (h : r.maybeSendAppend to pr ae = .ok (r', pr', b)) (h0 : PW E a r)
    (hp : E.mute r.msgs ∨ POk E r.msgs r.raftLog.lastIndex pr) :
    PW E a r' ∧ (E.mute r'.msgs ∨ POk E r'.msgs r'.raftLog.lastIndex pr') := by
  have hls : LS r r' := maybeSendAppend_ls h LS.rfl
  rcases C13_send_classification r r' to pr pr' ae b h with
    ⟨_, he, hpr, _⟩ | ⟨_, _, hn, t, es, ht, hes, _, _, hsu, hcase⟩ | ⟨_, _, he, hpr, _⟩ | ⟨_, _, hv⟩
  · rw [he, hpr]; exact ⟨h0, hp⟩
  · -- the progress, given that every queued `MsgSnapshot` stays queued
    have hprog : (∀ x ∈ r.msgs, x.msgType = .msgSnapshot → x ∈ r'.msgs) →
        (E.mute r'.msgs ∨ POk E r'.msgs r'.raftLog.lastIndex pr') := by
      intro hsn
      rcases hp with c | c
      · exact .inl (E.mute_mono c hsn)
      · right
        rw [hls.last]
        unfold SentUpdate at hsu
        cases hg : es.getLast? with
        | none =>
          rw [hg] at hsu; simp only at hsu; rw [hsu]; exact c.mono (Nat.le_refl _) hsn
        | some last =>
          rw [hg] at hsu; simp only at hsu
          have hm := (C13_entries_contiguous_bounded r.raftLog h0.inv pr.nextIdx _ true es hes).2.1
            last (List.mem_of_getLast? hg)
          exact (c.updateState hm.2 hsu).mono (Nat.le_refl _) hsn
    rcases hcase with ⟨hb, htb⟩ | ⟨_, he⟩
    · -- batched: one queued `MsgAppend` is replaced by one with the same anchor
      have hfl : E.flag true := by rw [← hb]; exact h0.nb
      obtain ⟨hr', hb1, _⟩ := C13_batching r r' to pr pr' es true htb
      obtain ⟨pre, msg, post, hms, _, hto, _, hms', _⟩ := hb1 rfl
      have hold : ∀ y, y ∈ pre ∨ y ∈ post → y ∈ r.msgs := by
        intro y hy
        rw [hms]
        rcases hy with hy | hy
        · exact List.mem_append_left _ hy
        · exact List.mem_append_right _ (List.mem_cons_of_mem _ hy)
      have hmsg : msg ∈ r.msgs := by
        rw [hms]; exact List.mem_append_right _ List.mem_cons_self
      have hsn : ∀ x ∈ r.msgs, x.msgType = .msgSnapshot → x ∈ r'.msgs := by
        intro x hx hty
        rw [hms] at hx
        rw [hms']
        rcases List.mem_append.1 hx with hx | hx
        · exact List.mem_append_left _ hx
        · rcases List.mem_cons.1 hx with hx | hx
          · rw [hx, hto.1] at hty; cases hty
          · exact List.mem_append_right _ (List.mem_cons_of_mem _ hx)
      have hnew : ∀ x ∈ r'.msgs, x ∈ r.msgs ∨ ∃ y ∈ r.msgs, y.msgType = .msgAppend ∧
          x.msgType = .msgAppend ∧ x.index = y.index ∧ x.logTerm = y.logTerm := by
        intro x hx
        rw [hms'] at hx
        rcases List.mem_append.1 hx with hx | hx
        · exact .inl (hold x (.inl hx))
        · rcases List.mem_cons.1 hx with hx | hx
          · rw [hx]
            exact .inr ⟨msg, hmsg, hto.1, hto.1, rfl, rfl⟩
          · exact .inl (hold x (.inr hx))
      refine ⟨?_, hprog hsn⟩
      rw [hr']
      exact h0.batch hfl hsn hnew
    · have hpw : PW E a r' := by
        rw [he]
        refine h0.push _ (fun _ => ?_) (fun hc => by cases hc) (fun _ => ?_)
        · rcases hp with c | c
          · exact .inl c
          · right
            show pr.nextIdx - 1 ≤ r.raftLog.lastIndex
            have := c.2.1; omega
        · -- the entries were read from the log: `next_idx` is not below the first index
          rcases hp with c | c
          · exact .inl c
          · right
            refine Nat.le_trans h0.fi ?_
            show r.raftLog.firstIndex ≤ pr.nextIdx - 1 + 1
            have hcl := h0.inv.committed_le_last
            have hd := h0.inv.dummy_le_committed
            by_cases hlt : pr.nextIdx ≤ r.raftLog.lastIndex ∧ pr.nextIdx < r.raftLog.firstIndex
            · rw [entries_compacted _ _ _ _ hlt.1 hlt.2] at hes; cases hes
            · have := c.2.1; omega
      exact ⟨hpw, hprog (fun x hx _ => by rw [he]; exact List.mem_append_left _ hx)⟩
  · rw [he, hpr]; exact ⟨h0, hp⟩
  · have hs := viaSnapshot_spec r r' to pr pr' b hv
    cases b with
    | true =>
      obtain ⟨_, sn, _, _, h4, h5⟩ := hs.1 rfl
      have hmem : snapMsg r to sn ∈ r'.msgs := by
        rw [h4]; exact List.mem_append_right _ (List.mem_singleton.2 rfl)
      have hsub : ∀ x ∈ r.msgs, x.msgType = .msgSnapshot → x ∈ r'.msgs := by
        intro x hx _; rw [h4]; exact List.mem_append_left _ hx
      refine ⟨?_, ?_⟩
      · rw [h4]
        exact (h0.log hls).pushFree (snapMsg r to sn) (by intro hc; cases hc) (by intro hc; cases hc)
      · rcases E.queued r'.raftLog.lastIndex hmem rfl with c | c
        · exact .inl c
        · rcases hp with d | d
          · exact .inl (E.mute_mono d hsub)
          · right
            rw [h5]
            exact (d.mono (Nat.le_of_eq hls.last.symm) hsub).becomeSnapshot c
    | false =>
      obtain ⟨h1, h2, _⟩ := hs.2 rfl
      refine ⟨by rw [h2]; exact h0.log hls, ?_⟩
      rw [h1, hls.last]
      rcases hp with c | c
      · left; rw [h2]; exact c
      · right; rw [h2]; exact c

theorem sendAppendPr_pw {a r r' : Raft} {to : Nat} {pr pr' : Progress}
    (h : r.sendAppendPr to pr = .ok (r', pr')) (h0 : PW E a r)
    (hp : E.mute r.msgs ∨ POk E r.msgs r.raftLog.lastIndex pr) :
    PW E a r' ∧ (E.mute r'.msgs ∨ POk E r'.msgs r'.raftLog.lastIndex pr') := by
  unfold Raft.sendAppendPr at h
  rw [Res.bind_eq_ok_iff] at h
  obtain ⟨⟨r1, pr1, b⟩, h1, h2⟩ := h
  cases h2
  exact maybeSendAppend_pw h1 h0 hp

theorem sendAppendAggressivelyPr_pw {a r' : Raft} {to : Nat} {pr' : Progress} (fuel : Nat) (r : Raft)
    (pr : Progress) (h : sendAppendAggressivelyPr fuel r to pr = .ok (r', pr')) (h0 : PW E a r)
    (hp : E.mute r.msgs ∨ POk E r.msgs r.raftLog.lastIndex pr) :
    PW E a r' ∧ (E.mute r'.msgs ∨ POk E r'.msgs r'.raftLog.lastIndex pr') :=
  sendAppendAggressivelyPr_parts2
    (Q := fun r1 _ p1 => PW E a r1 ∧ (E.mute r1.msgs ∨ POk E r1.msgs r1.raftLog.lastIndex p1))
    (fun hm q => maybeSendAppend_pw hm q.1 q.2) fuel r pr h ⟨h0, hp⟩

/-! ### the leader world -/

/-- `PW` on a leader -/
def LW (E : Rule) (a r : Raft) : Prop := PW E a r ∧ r.state = .leader

theorem LW.mk' {a r : Raft} {x1 x2 x3 : Nat} {x4 : List ReadState} {x6 x7 x8 : Nat}
    {x10 : Bool} {x11 : Nat}
    {x12 : Option Nat} {x13 : Nat} {x15 x16 : Nat} {x17 x18 x19 x21 : Bool}
    {x22 x23 x24 x25 x26 : Nat} {x27 : Int} {x28 : UncommittedState} {x29 : Nat}
    {x32 : Option Nat} (h0 : LW E a r) :
    LW E a { term := x1, vote := x2, id := x3, readStates := x4, raftLog := r.raftLog,
             maxInflight := x6, maxMsgSize := x7, pendingRequestSnapshot := x8, state := r.state,
             promotable := x10, leaderId := x11, leadTransferee := x12,
             pendingConfIndex := x13, readOnly := r.readOnly, electionElapsed := x15,
             heartbeatElapsed := x16, checkQuorum := x17, preVote := x18,
             skipBcastCommit := x19, batchAppend := r.batchAppend, disableProposalForwarding := x21,
             heartbeatTimeout := x22, electionTimeout := x23, randomizedElectionTimeout := x24,
             minElectionTimeout := x25, maxElectionTimeout := x26, priority := x27,
             uncommittedState := x28, maxCommittedSizePerReady := x29, prs := r.prs, msgs := r.msgs,
             nextRand := x32 } := h0

/-- the progress of a peer of a leader -/
theorem LW.getPr {a r : Raft} (h : LW E a r) {id : Nat} {pr : Progress} (hg : r.prs.get id = some pr) :
    E.mute r.msgs ∨ POk E r.msgs r.raftLog.lastIndex pr := by
  rcases h.1.po h.2 with c | c
  · exact .inl c
  · exact .inr (c.get hg)

theorem LW.setPr {a r : Raft} {id : Nat} {pr : Progress} (h0 : LW E a r)
    (hp : E.mute r.msgs ∨ POk E r.msgs r.raftLog.lastIndex pr) :
    LW E a { r with prs := r.prs.set id pr } := ⟨h0.1.setPr hp, h0.2⟩

/-- a leader with the progress of a peer in hand (the `Q` of the `_parts2` lemmas) -/
def LQ (E : Rule) (a r : Raft) (_ : Nat) (pr : Progress) : Prop :=
  LW E a r ∧ (E.mute r.msgs ∨ POk E r.msgs r.raftLog.lastIndex pr)

theorem LQ.set {a r : Raft} {id : Nat} {pr : Progress} (q : LQ E a r id pr) :
    LW E a { r with prs := r.prs.set id pr } := q.1.setPr q.2

theorem send_lw {a r r' : Raft} {m : Message} (h : r.send m = .ok r')
    (hm : wqT m.msgType = false) (h0 : LW E a r) : LW E a r' :=
  ⟨send_pw h hm h0.1, (send_frame h Frame.rfl).state.trans h0.2⟩

theorem sendHeartbeat_lw {a r r' : Raft} {to : Nat} {pr : Progress} {ctx : Option Bytes}
    (h : r.sendHeartbeat to pr ctx = .ok r') (h0 : LW E a r) : LW E a r' := by
  unfold Raft.sendHeartbeat at h
  exact send_lw h rfl h0

theorem sendTimeoutNow_lw {a r r' : Raft} {to : Nat}
    (h : r.sendTimeoutNow to = .ok r') (h0 : LW E a r) : LW E a r' := by
  unfold Raft.sendTimeoutNow at h
  exact send_lw h rfl h0

theorem sendAppendPr_lw {a r r' : Raft} {to : Nat} {pr pr' : Progress}
    (h : r.sendAppendPr to pr = .ok (r', pr')) (h0 : LW E a r)
    (hp : E.mute r.msgs ∨ POk E r.msgs r.raftLog.lastIndex pr) :
    LW E a r' ∧ (E.mute r'.msgs ∨ POk E r'.msgs r'.raftLog.lastIndex pr') := by
  obtain ⟨g1, g2⟩ := sendAppendPr_pw h h0.1 hp
  exact ⟨⟨g1, (sendAppendPr_frame h Frame.rfl).state.trans h0.2⟩, g2⟩

theorem sendAppend_lw {a r r' : Raft} {to : Nat}
    (h : r.sendAppend to = .ok r') (h0 : LW E a r) : LW E a r' :=
  sendAppend_parts2 (Q := LQ E a) h (fun hg ha => sendAppendPr_lw ha h0 (h0.getPr hg)) LQ.set

theorem sendAppendAggressively_lw {a r r' : Raft} {to : Nat}
    (h : r.sendAppendAggressively to = .ok r') (h0 : LW E a r) : LW E a r' :=
  sendAppendAggressively_parts2 (Q := LQ E a) h
    (fun hg ha =>
      have g := sendAppendAggressivelyPr_pw _ _ _ ha h0.1 (h0.getPr hg)
      ⟨⟨g.1, (sendAppendAggressivelyPr_frame _ _ _ ha Frame.rfl).state.trans h0.2⟩, g.2⟩) LQ.set

theorem forEachPeer_lw {a r r' : Raft} {f : Raft → Nat → Progress → Res (Raft × Progress)}
    (hf : ∀ r id pr r' pr', f r id pr = .ok (r', pr') → LW E a r →
      (E.mute r.msgs ∨ POk E r.msgs r.raftLog.lastIndex pr) →
      LW E a r' ∧ (E.mute r'.msgs ∨ POk E r'.msgs r'.raftLog.lastIndex pr'))
    (h : r.forEachPeer f = .ok r') (h0 : LW E a r) : LW E a r' :=
  forEachPeer_parts2 (Q := LQ E a) h h0 (fun _ hg hx p => hf _ _ _ _ _ hx p (p.getPr hg)) LQ.set

theorem bcastAppend_lw {a r r' : Raft} (h : r.bcastAppend = .ok r') (h0 : LW E a r) : LW E a r' := by
  unfold Raft.bcastAppend at h
  exact forEachPeer_lw (fun r id pr r' pr' h => sendAppendPr_lw h) h h0

theorem bcastHeartbeatWithCtx_lw {a r r' : Raft} {ctx : Option Bytes}
    (h : r.bcastHeartbeatWithCtx ctx = .ok r') (h0 : LW E a r) : LW E a r' := by
  unfold Raft.bcastHeartbeatWithCtx at h
  refine forEachPeer_lw (fun r id pr r' pr' h h0 hp => ?_) h h0
  rw [Res.bind_eq_ok_iff] at h
  obtain ⟨r1, h1, h2⟩ := h
  cases h2
  have g := sendHeartbeat_lw h1 h0
  refine ⟨g, ?_⟩
  rw [send_eq _ _ _ h1]
  rcases hp with c | c
  · exact .inl (E.mute_app c _)
  · exact .inr (c.app _)

theorem bcastHeartbeat_lw {a r r' : Raft} (h : r.bcastHeartbeat = .ok r') (h0 : LW E a r) :
    LW E a r' := by
  unfold Raft.bcastHeartbeat at h
  exact bcastHeartbeatWithCtx_lw h h0

end PerCall
end Raft
end RaftModel
