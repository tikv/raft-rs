import RaftProofs.ProtoReadDefs
import RaftProofs.ProtoVol

/-!
The **read-index layer** of P — proofs.

`InvRd` (RaftProofs/ProtoReadDefs.lean) holds initially, is preserved by every event of P (the 25
protocol events and the 5 read events), hence holds in every reachable state.  Consequences: every
read state handed to the application (and every released response) is a `SafeAnswer`; what `issue`
records, and that it stays valid forever.

Structure of the proof:
* `step_shape`: every event leaves `s.cmts` / `s.acks` / `s.ccfgs` alone or conses one element at the
  head (`ccfgs` in step with `cmts`), and only read events touch `s.rd` (`rd_frame`); hence `cmtsAt` / `acksAt` /
  `ccfgsAt` below the old length are stable (`cmtsAt_stable`, `acksAt_stable`, `ccfgsAt_stable`) and every clause except `lcm` is transported (`invRd_transport`);
* `lcm_step`: the clause `lcm` (a leader's commit index covers its own commits), read off `vol_step`;
* `invRd_read`: the five read events (`start_covers`, `read_confirmed` are the two real arguments).
-/
namespace RaftModel.P

/-! ### list facts -/

theorem drop_cons_stable {α : Type} (x : α) (l : List α) (n : Nat) (hn : n ≤ l.length) :
    (x :: l).drop ((x :: l).length - n) = l.drop (l.length - n) := by
  have : (x :: l).length - n = (l.length - n) + 1 := by simp only [List.length_cons]; omega
  rw [this, List.drop_succ_cons]

/-- the `n` oldest leader commits are not affected by a step that leaves `cmts` alone or conses onto it -/
theorem cmtsAt_stable {s s' : PSys} (h : s'.cmts = s.cmts ∨ ∃ x, s'.cmts = x :: s.cmts) {n : Nat}
    (hn : n ≤ s.cmts.length) : cmtsAt s' n = cmtsAt s n := by
  unfold cmtsAt
  rcases h with h | ⟨x, h⟩
  · rw [h]
  · rw [h]; exact drop_cons_stable x _ n hn

/-- the same for the released acknowledgements -/
theorem acksAt_stable {s s' : PSys} (h : s'.acks = s.acks ∨ ∃ x, s'.acks = x :: s.acks) {n : Nat}
    (hn : n ≤ s.acks.length) : acksAt s' n = acksAt s n := by
  unfold acksAt
  rcases h with h | ⟨x, h⟩
  · rw [h]
  · rw [h]; exact drop_cons_stable x _ n hn

/-- the same for the configuration ghosts of the leader commits -/
theorem ccfgsAt_stable {s s' : PSys} (h : s'.ccfgs = s.ccfgs ∨ ∃ x, s'.ccfgs = x :: s.ccfgs) {n : Nat}
    (hn : n ≤ s.ccfgs.length) : ccfgsAt s' n = ccfgsAt s n := by
  unfold ccfgsAt
  rcases h with h | ⟨x, h⟩
  · rw [h]
  · rw [h]; exact drop_cons_stable x _ n hn

/-- `ccfgs` is as long as `cmts` (they are consed in step) -/
theorem ccfgs_length {s : PSys} (h3 : InvC3 s) : s.ccfgs.length = s.cmts.length := by
  rw [← h3.cc, List.length_map]

theorem cmtsAt_sub {s : PSys} {n : Nat} {p : Nat × Nat} (h : p ∈ cmtsAt s n) : p ∈ s.cmts := by
  unfold cmtsAt at h; exact List.mem_of_mem_drop h

theorem acksAt_sub {s : PSys} {n : Nat} {a : Ack} (h : a ∈ acksAt s n) : a ∈ s.acks := by
  unfold acksAt at h; exact List.mem_of_mem_drop h

theorem cmtsAt_full (s : PSys) : cmtsAt s s.cmts.length = s.cmts := by
  unfold cmtsAt; rw [Nat.sub_self, List.drop_zero]

theorem ccfgsAt_full (s : PSys) : ccfgsAt s s.ccfgs.length = s.ccfgs := by
  unfold ccfgsAt; rw [Nat.sub_self, List.drop_zero]

theorem acksAt_full (s : PSys) : acksAt s s.acks.length = s.acks := by
  unfold acksAt; rw [Nat.sub_self, List.drop_zero]

/-- two records of a list with pairwise distinct request contexts and the same context are equal -/
theorem rid_unique {l : List ReadRec} (h : l.Pairwise (fun a b => a.rid ≠ b.rid)) {a b : ReadRec}
    (ha : a ∈ l) (hb : b ∈ l) (he : a.rid = b.rid) : a = b := by
  induction l with
  | nil => cases ha
  | cons x l ih =>
    rw [List.pairwise_cons] at h
    rcases List.mem_cons.mp ha with ha | ha <;> rcases List.mem_cons.mp hb with hb | hb
    · rw [ha, hb]
    · rw [ha] at he; exact absurd he (h.1 b hb)
    · rw [hb] at he; exact absurd he.symm (h.1 a ha)
    · exact ih h.2 ha hb

/-- the term at a valid index is the term of an entry of the list -/
theorem termAt_mem {l : List LEntry} {k : Nat} (h0 : 0 < k) (hk : k ≤ l.length) :
    ∃ e ∈ l, termAt l k = e.term := by
  have hlt : k - 1 < l.length := by omega
  refine ⟨l[k - 1], List.getElem_mem hlt, ?_⟩
  unfold termAt
  rw [if_neg (by omega), List.getElem?_eq_getElem hlt]

/-! ### the shape of a step -/

/-- `cmts`, `acks` and `ccfgs` grow at the head, by at most one element per step -/
theorem step_shape (s s' : PSys) (e : Event) (h : applyEvent s e = .ok s') :
    (s'.cmts = s.cmts ∨ ∃ x, s'.cmts = x :: s.cmts) ∧ (s'.acks = s.acks ∨ ∃ x, s'.acks = x :: s.acks) ∧
    (s'.ccfgs = s.ccfgs ∨ ∃ x, s'.ccfgs = x :: s.ccfgs) := by
  have hak : s'.acks = s.acks ∨ ∃ x, s'.acks = x :: s.acks := by
    rcases released_frame h with ⟨i, key, rfl⟩ | ⟨_, _, _, hak⟩
    · rcases release_ok h with ⟨_, ⟨_, _, _, _, _, rfl⟩ | ⟨_, _, _, _, _, _, _, rfl⟩ | ⟨_, _, _, _, _, _, _, rfl⟩⟩
      · exact Or.inr ⟨_, rfl⟩
      · exact Or.inl rfl
      · exact Or.inl rfl
    · exact Or.inl hak
  rcases commit_frame h with ⟨i, c, cfg, q, rfl⟩ | ⟨hc, hcc⟩
  · obtain ⟨_, rfl⟩ := of_guard_ok h
    exact ⟨Or.inr ⟨_, rfl⟩, hak, Or.inr ⟨_, rfl⟩⟩
  · exact ⟨Or.inl hc, hak, Or.inl hcc⟩

/-! ### the clause `lcm`: a leader's commit index covers its own commits -/

def Lcm (s : PSys) : Prop :=
  ∀ i, (s.nodes i).role = 2 → ∀ p ∈ s.cmts, p.1 = (s.nodes i).term → p.2 ≤ (s.nodes i).commit

theorem lcm_step (s s' : PSys) (e : Event)
    (h : applyEvent s e = .ok s') (hV : InvV (vsys s)) (hL : InvL s)
    (h3 : InvC3 s) (hl : Lcm s) : Lcm s' := by
  intro j hj p hp ht
  rcases commit_frame h with ⟨i, c, cfg, q, rfl⟩ | ⟨hc, _⟩
  · obtain ⟨hg, rfl⟩ := of_guard_ok h
    by_cases hji : j = i
    · subst hji
      simp only [upd, if_true] at ht ⊢
      rcases List.mem_cons.1 hp with rfl | hp
      · exact Nat.le_refl _
      · have := hl j hg.2.1 p hp ht; have := hg.2.2.1; omega
    · simp only [upd, hji, if_false] at hj ht ⊢
      rcases List.mem_cons.1 hp with rfl | hp
      · exact absurd (leader_unique (vsys s) hV i j hg.2.1 hj ht.symm) hji
      · exact hl j hj p hp ht
  · rw [hc] at hp
    cases vol_step h j with
    | keep h1 h2 _ h4 => have := hl j (h2 ▸ hj) p hp (ht.trans h1); omega
    | append _ _ h1 _ h2 _ h4 => have := hl j h1 p hp (ht.trans h2); omega
    | win cfg q he _ _ h1 =>
      -- the term is fresh: no leader commit of it exists
      subst he
      exact absurd (by have := (h3.cq p hp).2.2.2.1; rwa [ht, h1] at this) (win_fresh hV hL h)
    | cand _ _ h2 => rw [h2] at hj; cases hj
    | role0 h2 | bump _ h2 | merge _ _ h2 | install _ _ _ _ h2 | restart _ h2 | boot _ _ _ _ h2 =>
      rw [h2] at hj; cases hj

/-! ### transport of the other clauses along a step that does not touch `s.rd` -/

theorem invRd_transport {s s' : PSys} (hRd : InvRd s) (hrd : s'.rd = s.rd)
    (hcm : s'.cmts = s.cmts ∨ ∃ x, s'.cmts = x :: s.cmts)
    (hak : s'.acks = s.acks ∨ ∃ x, s'.acks = x :: s.acks)
    (hcf : s'.ccfgs = s.ccfgs ∨ ∃ x, s'.ccfgs = x :: s.ccfgs)
    (hlen : s.ccfgs.length = s.cmts.length) (hl : Lcm s') : InvRd s' := by
  have hF : ∀ r ∈ s.rd.issued, ccfgsAt s' r.ncm = ccfgsAt s r.ncm :=
    fun r hr => ccfgsAt_stable hcf (by rw [hlen]; exact (hRd.bnd r hr).1)
  have hC : ∀ r ∈ s.rd.issued, cmtsAt s' r.ncm = cmtsAt s r.ncm :=
    fun r hr => cmtsAt_stable hcm (hRd.bnd r hr).1
  have hA : ∀ r ∈ s.rd.issued, acksAt s' r.nak = acksAt s r.nak :=
    fun r hr => acksAt_stable hak (hRd.bnd r hr).2
  refine ⟨?_, ?_, ?_, ?_, ?_, hl, ?_⟩
  · rw [hrd]; exact hRd.uniq
  · intro r hr
    rw [hrd] at hr
    have := hRd.bnd r hr
    have h1 : s.cmts.length ≤ s'.cmts.length := by
      rcases hcm with h | ⟨x, h⟩ <;> rw [h] <;> simp
    have h2 : s.acks.length ≤ s'.acks.length := by
      rcases hak with h | ⟨x, h⟩ <;> rw [h] <;> simp
    omega
  · intro r hr p hp
    rw [hrd] at hr
    rw [hC r hr] at hp
    obtain ⟨cfg, q, hm, hq, hv⟩ := hRd.qe r hr p hp
    refine ⟨cfg, q, ?_, hq, ?_⟩
    · rw [hF r hr]; exact hm
    · rw [hA r hr]; exact hv
  · intro x hx
    rw [hrd] at hx
    obtain ⟨r, hr, h1, h2⟩ := hRd.st x hx
    refine ⟨r, by rw [hrd]; exact hr, h1, ?_⟩
    rw [hC r hr]; exact h2
  · intro x hx
    rw [hrd] at hx
    obtain ⟨r, hr, h1, h2⟩ := hRd.hb x hx
    refine ⟨r, by rw [hrd]; exact hr, h1, ?_⟩
    rw [hA r hr]; exact h2
  · intro d hd
    rw [hrd] at hd
    have hs := hRd.safe d hd
    unfold SafeAnswer at hs ⊢
    obtain ⟨r, hr, h1, h2, h3⟩ := hs
    refine ⟨r, by rw [hrd]; exact hr, h1, h2, ?_⟩
    rw [hC r hr]; exact h3

/-! ### the two arguments of the read layer -/

theorem dterm_le_term {s : PSys} (hV : InvV (vsys s)) (i : Nat) :
    (s.nodes i).dterm ≤ (s.nodes i).term :=
  (hV.dv i).fst_le

/-- a released acknowledgement carries a term not beyond its sender's current term -/
theorem ack_term_le {s : PSys} (hI : InvAll s) {a : Ack} (ha : a ∈ s.acks) :
    a.term ≤ (s.nodes a.frm).term :=
  Nat.le_trans (hI.r.ak a ha) (dterm_le_term hI.v a.frm)

/-- a leader that has committed an entry of its own term: its commit index covers every leader commit
of a term not beyond its own -/
theorem start_covers {s : PSys} (hI : InvAll s) (hl : Lcm s) (i : Nat)
    (hrole : (s.nodes i).role = 2) (h0 : 0 < (s.nodes i).commit)
    (hta : termAt (s.nodes i).log (s.nodes i).commit = (s.nodes i).term)
    (p : Nat × Nat) (hp : p ∈ s.cmts) (hle : p.1 ≤ (s.nodes i).term) : p.2 ≤ (s.nodes i).commit := by
  by_cases he : p.1 = (s.nodes i).term
  · exact hl i hrole p hp he
  · have hlt : p.1 < (s.nodes i).term := by omega
    have hel := leader_elected hI.v hrole
    have hlog := hI.l.ll i hrole
    obtain ⟨r, hr, _, het⟩ := hI.b.ll (s.nodes i).term
    have h1 := hI.c.lc p hp _ hlt hel
    have hlen := len_of_take_eq h1 (hI.c.c3.cq p hp).2.1
    by_cases hc : (s.nodes i).commit ≤ (s.elog (s.nodes i).term).length
    · exfalso
      rw [hlog, hr, termAt_append_left _ _ hc] at hta
      obtain ⟨e, hem, het'⟩ := termAt_mem h0 hc
      have := het e hem
      omega
    · omega

/-- a quorum `q` of a configuration adjacent to the reader's released, before the request was issued,
acknowledgements of term `tp`; the reader's leadership in its term was confirmed by a quorum after
the request was registered: `tp` is not beyond the reader's term -/
theorem read_quorum_term {s : PSys} (hI : InvAll s) (hRd : InvRd s) (cfgp cfg : Cfg)
    (hadj : adjOk cfgp cfg = true) (i rid : Nat) (r : ReadRec) (hr : r ∈ s.rd.issued) (hrid : r.rid = rid)
    (hq : rdQuorum s cfg i (s.nodes i).term rid = true)
    (q : List Nat) (hq1 : cfgp.isQuorum q = true) (tp : Nat)
    (hq2 : ∀ v ∈ q, ∃ a ∈ acksAt s r.nak, a.term = tp ∧ a.frm = v) : tp ≤ (s.nodes i).term := by
  unfold rdQuorum at hq
  obtain ⟨w, hw1, hw2⟩ := adj_intersect cfgp cfg hadj q _ hq1 hq
  obtain ⟨a, ha, hat, haf⟩ := hq2 w hw1
  have has : a ∈ s.acks := acksAt_sub ha
  rw [← hat]
  rcases List.mem_cons.mp hw2 with hw | hw
  · have := ack_term_le hI has
    rw [haf, hw] at this; exact this
  · rw [List.mem_map] at hw
    obtain ⟨h, hh, hf⟩ := hw
    rw [List.mem_filter] at hh
    obtain ⟨hh1, hh2⟩ := hh
    have hh2' := of_decide_eq_true hh2
    obtain ⟨r'', hr'', hrid'', hb⟩ := hRd.hb h hh1
    have e2 : r'' = r := rid_unique hRd.uniq hr'' hr (by rw [hrid'', hh2'.1, hrid])
    rw [e2] at hb
    have := hb a ha (by rw [haf, hf])
    omega

/-- a leader whose leadership in its term was confirmed by a quorum after it registered request `rid`
with read index `idx`: `idx` covers every leader commit that existed when `rid` was issued -/
theorem read_confirmed {s : PSys} (cfg : Cfg)
    (hI : InvAll s) (hRd : InvRd s) (i rid idx : Nat) (r : ReadRec) (hr : r ∈ s.rd.issued)
    (hrid : r.rid = rid)
    (hst : (⟨rid, i, (s.nodes i).term, idx⟩ : ReadStart) ∈ s.rd.started)
    (hq : rdQuorum s cfg i (s.nodes i).term rid = true)
    (hcf : rdCfgOk s cfg (s.nodes i).term r.ncm = true) :
    ∀ p ∈ cmtsAt s r.ncm, p.2 ≤ idx := by
  obtain ⟨r', hr', hrid', hcov⟩ := hRd.st _ hst
  have e1 : r' = r := rid_unique hRd.uniq hr' hr (hrid'.trans hrid.symm)
  rw [e1] at hcov
  intro p hp
  apply hcov p hp
  show p.1 ≤ (s.nodes i).term
  obtain ⟨cfgp, q, hm, hq1, hq2⟩ := hRd.qe r hr p hp
  unfold rdCfgOk at hcf
  simp only [List.all_eq_true, Bool.or_eq_true, decide_eq_true_eq] at hcf
  rcases hcf (p, cfgp) hm with hadj | hle
  · exact read_quorum_term hI hRd cfgp cfg hadj i rid r hr hrid hq q hq1 p.1
      (fun v hv => by obtain ⟨a, ha, h1, h2, _⟩ := hq2 v hv; exact ⟨a, ha, h1, h2⟩)
  · exact hle

/-! ### the read events -/

theorem invRd_read (s s' : PSys) (r : REvent)
    (h : applyEvent s (.read r) = .ok s') (hI : InvAll s)
    (hRd : InvRd s) : InvRd s' := by
  obtain ⟨rd, hrd, rfl⟩ := read_apply h
  cases r with
  | issue i rid =>
    obtain ⟨hg, rfl⟩ := of_guard_ok hrd
    have hnew : ∀ b ∈ s.rd.issued, rid ≠ b.rid := by
      intro b hb he
      apply hg.2
      simp only [List.any_eq_true, decide_eq_true_eq]
      exact ⟨b, hb, he.symm⟩
    refine ⟨?_, ?_, ?_, ?_, ?_, hRd.lcm, ?_⟩
    · exact List.pairwise_cons.mpr ⟨hnew, hRd.uniq⟩
    · intro r hr
      rcases List.mem_cons.mp hr with hr | hr
      · rw [hr]; exact ⟨Nat.le_refl _, Nat.le_refl _⟩
      · exact hRd.bnd r hr
    · intro r hr p hp
      rcases List.mem_cons.mp hr with hr | hr
      · rw [hr] at hp ⊢
        have hp' : p ∈ s.cmts := cmtsAt_sub hp
        obtain ⟨_, _, _, _, cfg, q, hm, hq, hacks⟩ := hI.c.c3.cq p hp'
        refine ⟨cfg, q, ?_, hq, ?_⟩
        · show (p, cfg) ∈ ccfgsAt _ s.cmts.length
          rw [← ccfgs_length hI.c.c3]
          exact (ccfgsAt_full s).symm ▸ hm
        intro v hv
        obtain ⟨a, ha, h1⟩ := hacks v hv
        refine ⟨a, ?_, h1⟩
        show a ∈ s.acks.drop (s.acks.length - s.acks.length)
        rw [Nat.sub_self, List.drop_zero]; exact ha
      · exact hRd.qe r hr p hp
    · intro x hx
      obtain ⟨r, hr, h1⟩ := hRd.st x hx
      exact ⟨r, List.mem_cons_of_mem _ hr, h1⟩
    · intro x hx
      obtain ⟨r, hr, h1⟩ := hRd.hb x hx
      exact ⟨r, List.mem_cons_of_mem _ hr, h1⟩
    · intro d hd
      have hs := hRd.safe d hd
      unfold SafeAnswer at hs ⊢
      obtain ⟨r, hr, h1⟩ := hs
      exact ⟨r, List.mem_cons_of_mem _ hr, h1⟩
  | start i rid =>
    obtain ⟨hg, rfl⟩ := of_guard_ok hrd
    refine ⟨hRd.uniq, hRd.bnd, hRd.qe, ?_, hRd.hb, hRd.lcm, hRd.safe⟩
    intro x hx
    rcases List.mem_cons.mp hx with hx | hx
    · have hany := hg.2.2.1
      simp only [List.any_eq_true, decide_eq_true_eq] at hany
      obtain ⟨r, hr, hrid⟩ := hany
      refine ⟨r, hr, by rw [hx]; exact hrid, ?_⟩
      intro p hp hle
      rw [hx] at hle ⊢
      exact start_covers hI hRd.lcm i hg.2.1 hg.2.2.2.1 hg.2.2.2.2 p (cmtsAt_sub hp) hle
    · exact hRd.st x hx
  | hback v =>
    obtain ⟨hg, rfl⟩ := of_guard_ok hrd
    refine ⟨hRd.uniq, hRd.bnd, hRd.qe, hRd.st, ?_, hRd.lcm, hRd.safe⟩
    intro h hh
    rcases List.mem_append.mp hh with hh | hh
    · rw [List.mem_map] at hh
      obtain ⟨x, hx, hxe⟩ := hh
      rw [List.mem_filter] at hx
      obtain ⟨r, hr, hrid, _⟩ := hRd.st x hx.1
      subst hxe
      refine ⟨r, hr, hrid, ?_⟩
      intro a ha haf
      have haf' : a.frm = v := haf
      have := ack_term_le hI (acksAt_sub ha)
      rw [haf'] at this
      exact this
    · exact hRd.hb h hh
  | resp i rid idx cfg =>
    obtain ⟨r, hfind, hg, rfl⟩ := readResp_ok hrd
    have hr := List.mem_of_find?_eq_some hfind
    have hrid : r.rid = rid := by simpa using List.find?_some hfind
    refine ⟨hRd.uniq, hRd.bnd, hRd.qe, hRd.st, hRd.hb, hRd.lcm, ?_⟩
    intro d hd
    rcases hd with hd | hd
    · rcases List.mem_cons.mp hd with hd | hd
      · unfold SafeAnswer
        refine ⟨r, hr, by rw [hd]; exact hrid, by rw [hd], ?_⟩
        rw [hd]
        exact read_confirmed cfg hI hRd i rid idx r hr hrid
          (by simpa using hg.2.2.1) hg.2.2.2.1 hg.2.2.2.2
      · exact hRd.safe d (Or.inl hd)
    · exact hRd.safe d (Or.inr hd)
  | rstate j rid idx cfg =>
    obtain ⟨r, hfind, hg, rfl⟩ := readState_ok hrd
    have hr := List.mem_of_find?_eq_some hfind
    have hrid : r.rid = rid := by simpa using List.find?_some hfind
    refine ⟨hRd.uniq, hRd.bnd, hRd.qe, hRd.st, hRd.hb, hRd.lcm, ?_⟩
    intro d hd
    rcases hd with hd | hd
    · exact hRd.safe d (Or.inl hd)
    · rcases List.mem_cons.mp hd with hd | hd
      · rcases hg.2.2 with hin | hloc
        · rw [hd]
          exact hRd.safe _ (Or.inl (by simpa using hin))
        · unfold SafeAnswer
          refine ⟨r, hr, by rw [hd]; exact hrid, by rw [hd]; exact hg.2.1, ?_⟩
          rw [hd]
          exact read_confirmed cfg hI hRd j rid idx r hr hrid
            (by simpa using hloc.2.1) hloc.2.2.1 hloc.2.2.2
      · exact hRd.safe d (Or.inr hd)

/-! ### the invariant -/

theorem invRd_init : InvRd init := by
  constructor
  · simp [init]
  · intro r hr; simp [init] at hr
  · intro r hr; simp [init] at hr
  · intro x hx; simp [init] at hx
  · intro x hx; simp [init] at hx
  · intro i _ p hp; simp [init] at hp
  · intro d hd; simp [init] at hd

theorem invRd_step (s s' : PSys) (e : Event)
    (h : applyEvent s e = .ok s') (hI : InvAll s) (hRd : InvRd s) : InvRd s' := by
  rcases rd_frame h with ⟨r, rfl⟩ | hrd
  · exact invRd_read s s' r h hI hRd
  · have sh := step_shape s s' e h
    exact invRd_transport hRd hrd sh.1 sh.2.1 sh.2.2 (ccfgs_length hI.c.c3)
      (lcm_step s s' e h hI.v hI.l hI.c.c3 hRd.lcm)

/-- `InvRd` holds in every reachable state (all histories, configurations may change) -/
theorem invRd_reachR (s : PSys) (h : Reach s) : InvRd s := by
  induction h with
  | init => exact invRd_init
  | step e hr hs ih =>
    exact invRd_step _ _ e hs (invAll_reachR _ hr) ih

/-- corollary: the fixed-configuration histories -/
theorem invRd_reach (c0 : Cfg) (hne : c0.incoming ≠ [] ∨ c0.outgoing ≠ []) (s : PSys) (h : ReachC c0 s) :
    InvRd s :=
  invRd_reachR s (reach_of_reachC h)

/-! ### consequences -/

/-- every read state handed to the application is safe -/
theorem read_done_safeR (s : PSys) (h : Reach s) (d : ReadResp) (hd : d ∈ s.rd.done) : SafeAnswer s d :=
  (invRd_reachR s h).safe d (Or.inr hd)

/-- every released read-index response is safe -/
theorem read_resp_safeR (s : PSys) (h : Reach s) (d : ReadResp) (hd : d ∈ s.rd.resps) : SafeAnswer s d :=
  (invRd_reachR s h).safe d (Or.inl hd)

/-- corollary for the fixed-configuration histories -/
theorem read_done_safe (c0 : Cfg) (hne : c0.incoming ≠ [] ∨ c0.outgoing ≠ []) (s : PSys) (h : ReachC c0 s)
    (d : ReadResp) (hd : d ∈ s.rd.done) : SafeAnswer s d :=
  (invRd_reach c0 hne s h).safe d (Or.inr hd)

/-- corollary for the fixed-configuration histories -/
theorem read_resp_safe (c0 : Cfg) (hne : c0.incoming ≠ [] ∨ c0.outgoing ≠ []) (s : PSys) (h : ReachC c0 s)
    (d : ReadResp) (hd : d ∈ s.rd.resps) : SafeAnswer s d :=
  (invRd_reach c0 hne s h).safe d (Or.inl hd)

/-- a request context identifies its record -/
theorem issued_rid_unique {s : PSys} (hRd : InvRd s) {a b : ReadRec}
    (ha : a ∈ s.rd.issued) (hb : b ∈ s.rd.issued) (he : a.rid = b.rid) : a = b :=
  rid_unique hRd.uniq ha hb he

/-- what `issue` records: the new record is at the head of `issued`, carries the request context, the
issuing node and the current numbers of leader commits and released acknowledgements (so `cmtsAt` /
`acksAt` of the post-state at these numbers are the current `cmts` / `acks`); the context was unused -/
theorem issue_records (s s' : PSys) (i rid : Nat) (h : applyEvent s (.read (.issue i rid)) = .ok s') :
    ∃ r, s'.rd.issued = r :: s.rd.issued ∧ r.rid = rid ∧ r.node = i ∧
      r.ncm = s.cmts.length ∧ r.nak = s.acks.length ∧
      s'.cmts = s.cmts ∧ s'.acks = s.acks ∧ cmtsAt s' r.ncm = s.cmts ∧ acksAt s' r.nak = s.acks ∧
      ∀ r' ∈ s.rd.issued, r'.rid ≠ rid := by
  obtain ⟨rd, hrd, rfl⟩ := read_apply h
  obtain ⟨hg, rfl⟩ := of_guard_ok hrd
  refine ⟨⟨rid, i, s.cmts.length, s.acks.length⟩, rfl, rfl, rfl, rfl, rfl, rfl, rfl, ?_, ?_, ?_⟩
  · exact cmtsAt_full s
  · exact acksAt_full s
  · intro b hb he
    apply hg.2
    simp only [List.any_eq_true, decide_eq_true_eq]
    exact ⟨b, hb, he⟩

/-- issued requests are never forgotten -/
theorem issued_step (s s' : PSys) (e : Event) (h : applyEvent s e = .ok s') :
    ∀ r ∈ s.rd.issued, r ∈ s'.rd.issued := by
  rcases rd_frame h with ⟨r, rfl⟩ | hrd
  · obtain ⟨rd, hrd, rfl⟩ := read_apply h
    cases r with
    | issue i rid =>
      obtain ⟨_, rfl⟩ := of_guard_ok hrd
      exact fun r hr => List.mem_cons_of_mem _ hr
    | start i rid | hback v =>
      obtain ⟨_, rfl⟩ := of_guard_ok hrd
      exact fun r hr => hr
    | resp i rid idx cfg =>
      obtain ⟨_, _, _, rfl⟩ := readResp_ok hrd
      exact fun r hr => hr
    | rstate j rid idx cfg =>
      obtain ⟨_, _, _, rfl⟩ := readState_ok hrd
      exact fun r hr => hr
  · rw [hrd]
    exact fun r hr => hr

/-- **forever**: along any history, an issued record stays issued, and the commits / released
acknowledgements it refers to (the `ncm` / `nak` oldest ones) stay the same lists -/
theorem issued_run (es : List Event) : ∀ (s s' : PSys), run s es = .ok s' →
    ∀ r ∈ s.rd.issued, r.ncm ≤ s.cmts.length → r.nak ≤ s.acks.length →
      r ∈ s'.rd.issued ∧ cmtsAt s' r.ncm = cmtsAt s r.ncm ∧ acksAt s' r.nak = acksAt s r.nak := by
  induction es with
  | nil =>
    intro s s' h r hr _ _
    simp only [run] at h
    cases h
    exact ⟨hr, rfl, rfl⟩
  | cons e es ih =>
    intro s s' h r hr h1 h2
    simp only [run] at h
    split at h
    · rename_i s1 hs1
      have sh := step_shape s s1 e hs1
      have l1 : s.cmts.length ≤ s1.cmts.length := by
        rcases sh.1 with h | ⟨x, h⟩ <;> rw [h] <;> simp
      have l2 : s.acks.length ≤ s1.acks.length := by
        rcases sh.2.1 with h | ⟨x, h⟩ <;> rw [h] <;> simp
      obtain ⟨a, b, c⟩ := ih s1 s' h r (issued_step s s1 e hs1 r hr) (by omega) (by omega)
      exact ⟨a, b.trans (cmtsAt_stable sh.1 h1), c.trans (acksAt_stable sh.2.1 h2)⟩
    · cases h

/-- what `issue` records stays valid forever: after `issue i rid` in state `s` and any further history
leading to a state `s2` satisfying `InvRd` (e.g. any reachable one), the record with context `rid` is
unique, was issued on `i`, and refers to exactly the leader commits / released acknowledgements of `s` -/
theorem issue_records_forever (s s1 s2 : PSys) (i rid : Nat) (es : List Event)
    (h : applyEvent s (.read (.issue i rid)) = .ok s1) (hrun : run s1 es = .ok s2) (hRd : InvRd s2) :
    ∃ r ∈ s2.rd.issued, r.rid = rid ∧ r.node = i ∧ cmtsAt s2 r.ncm = s.cmts ∧ acksAt s2 r.nak = s.acks ∧
      ∀ r' ∈ s2.rd.issued, r'.rid = rid → r' = r := by
  obtain ⟨r, hiss, hrid, hnode, hncm, hnak, hc, ha, hcm, hak, _⟩ := issue_records s s1 i rid h
  have hmem : r ∈ s1.rd.issued := by rw [hiss]; exact List.mem_cons_self
  obtain ⟨a, b, c⟩ := issued_run es s1 s2 hrun r hmem (by rw [hncm, hc]; exact Nat.le_refl _)
    (by rw [hnak, ha]; exact Nat.le_refl _)
  refine ⟨r, a, hrid, hnode, b.trans hcm, c.trans hak, ?_⟩
  intro r' hr' he
  exact rid_unique hRd.uniq hr' a (he.trans hrid.symm)

end RaftModel.P
