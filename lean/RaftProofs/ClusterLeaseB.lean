import RaftProofs.ClusterLeaseA

/-!
Cluster-level lease theorem (C16, second half), helper lemmas part B: the anchored per-call invariant
`LInv a m r` ("`r` is an intermediate state of a call that started in `a` with input message `m`") —
what the queue gained (`Emit`), where a new `MsgTimeoutNow` can come from, where the recorded
pre-vote grants of a pre-candidate come from, and what can end a leadership — and its preservation
by the role changes, `poll`, `campaign`, `hup`, `maybe_commit_by_vote`.
-/
namespace RaftModel
namespace Raft
namespace LS
open VoteOb

/-- the delivered message is a granted pre-vote response of `j` for the pre-campaign of term `t` -/
def PBack (m : Message) (t j : Nat) : Prop :=
  m.msgType = .msgRequestPreVoteResponse ∧ m.reject = false ∧ m.frm = j ∧ m.term = t + 1

/-- a message queued during the call (`tm`: the node's term now) -/
def Emit (a : Raft) (m : Message) (tm : Nat) (x : Message) : Prop :=
  ((x.msgType = .msgRequestVote ∨ x.msgType = .msgRequestPreVote) → x.context = campaignTransfer →
    m.msgType = .msgTimeoutNow) ∧
  (x.term ≤ tm ∨ x.msgType = .msgRequestPreVote ∨
    (x.msgType = .msgRequestPreVoteResponse ∧ x.reject = false ∧ x.frm = a.id ∧
      m.msgType = .msgRequestPreVote ∧ x.term = m.term ∧ ¬ Dropped a m))

/-- no new `MsgTimeoutNow` in the queue -/
def NT (a r : Raft) : Prop := ∀ x ∈ r.msgs, x.msgType = .msgTimeoutNow → Old a.msgs x

theorem Emit.congr {a : Raft} {m : Message} {tm : Nat} {x y : Message} (h : hd y = hd x)
    (he : Emit a m tm y) : Emit a m tm x := by
  unfold hd at h
  injection h with h1 h2
  injection h2 with h2 h3
  injection h3 with h3 h4
  injection h4 with h4 h5
  unfold Emit at *
  rw [← h1, ← h2, ← h3, ← h4, ← h5]; exact he

theorem Emit.mono {a : Raft} {m : Message} {tm tm' : Nat} {x : Message} (h : tm ≤ tm')
    (he : Emit a m tm x) : Emit a m tm' x :=
  ⟨he.1, he.2.imp (fun g => Nat.le_trans g h) (fun g => g)⟩

theorem Emit.of_plain {a : Raft} {m : Message} {tm : Nat} {x : Message} (hp : Plain tm x) :
    Emit a m tm x := by
  refine ⟨fun hx => ?_, Or.inl hp.2⟩
  have := hp.1
  rcases hx with hx | hx <;> rw [hx] at this <;> cases this

theorem hd_type {x y : Message} (h : hd y = hd x) : y.msgType = x.msgType := by
  unfold hd at h; injection h

/-- the per-call invariant -/
structure LInv (a : Raft) (m : Message) (r : Raft) : Prop where
  id : r.id = a.id
  tm : a.term ≤ r.term
  msgs : ∀ x ∈ r.msgs, Old a.msgs x ∨ Emit a m r.term x
  tn : NT a r ∨ (isTA m ∧ r.leadTransferee ≠ none)
  pc : r.state = .preCandidate → ∀ j, (j, true) ∈ r.prs.votes →
    j = a.id ∨ PBack m r.term j ∨ (a.state = .preCandidate ∧ a.term = r.term ∧ (j, true) ∈ a.prs.votes)
  ld : a.state = .leader → (r.state = .leader ∧ r.term = a.term) ∨ a.term < r.term ∨ r.leaderId = 0

theorem LInv.refl (a : Raft) (m : Message) : LInv a m a :=
  ⟨rfl, Nat.le_refl _, fun _ hx => Or.inl (Old.of_mem hx), Or.inl (fun _ hx _ => Old.of_mem hx),
   fun hs _ hj => Or.inr (Or.inr ⟨hs, rfl, hj⟩), fun hl => Or.inl ⟨hl, rfl⟩⟩

theorem LInv.nt {a r : Raft} {m : Message} (h : LInv a m r) (hm : ¬ isTA m) : NT a r :=
  h.tn.resolve_right (fun c => hm c.1)

/-- a plain step -/
theorem LInv.mf {a r r' : Raft} {m : Message} (h : LInv a m r) (hf : MF r r') : LInv a m r' := by
  refine ⟨hf.id.trans h.id, by rw [hf.term]; exact h.tm, ?_, ?_, ?_, ?_⟩
  · intro x hx
    rw [hf.term]
    rcases hf.msgs x hx with ⟨y, hy, e⟩ | hp
    · rcases h.msgs y hy with ⟨z, hz, e'⟩ | he
      · exact Or.inl ⟨z, hz, e'.trans e⟩
      · exact Or.inr (he.congr e)
    · exact Or.inr (Emit.of_plain hp)
  · rcases h.tn with hn | ⟨h1, h2⟩
    · left
      intro x hx ht
      rcases hf.msgs x hx with ⟨y, hy, e⟩ | hp
      · obtain ⟨z, hz, e'⟩ := hn y hy (by rw [hd_type e]; exact ht)
        exact ⟨z, hz, e'.trans e⟩
      · exact absurd ht (plainT_tn hp.1)
    · exact Or.inr ⟨h1, by rw [hf.lt]; exact h2⟩
  · rw [hf.state, hf.term, hf.votes]; exact h.pc
  · rw [hf.state, hf.term, hf.leaderId]; exact h.ld

/-- a step that keeps the queue and the identity and does not lower the term -/
theorem LInv.upd {a r r' : Raft} {m : Message} (h : LInv a m r) (hid : r'.id = r.id)
    (htm : r.term ≤ r'.term) (hmsgs : r'.msgs = r.msgs)
    (htn : NT a r ∨ (isTA m ∧ r'.leadTransferee ≠ none))
    (hpc : r'.state = .preCandidate → ∀ j, (j, true) ∈ r'.prs.votes →
      j = a.id ∨ PBack m r'.term j ∨
        (a.state = .preCandidate ∧ a.term = r'.term ∧ (j, true) ∈ a.prs.votes))
    (hld : a.state = .leader →
      (r'.state = .leader ∧ r'.term = a.term) ∨ a.term < r'.term ∨ r'.leaderId = 0) :
    LInv a m r' := by
  refine ⟨hid.trans h.id, Nat.le_trans h.tm htm, ?_, ?_, hpc, hld⟩
  · intro x hx
    rw [hmsgs] at hx
    exact (h.msgs x hx).imp (fun g => g) (Emit.mono htm)
  · rcases htn with hn | hn
    · left; intro x hx; rw [hmsgs] at hx; exact hn x hx
    · exact Or.inr hn

theorem ld_of_lt {a r : Raft} (h : a.term < r.term) :
    a.state = .leader → (r.state = .leader ∧ r.term = a.term) ∨ a.term < r.term ∨ r.leaderId = 0 :=
  fun _ => Or.inr (Or.inl h)

/-! ### `reset` and the role changes -/

theorem reset_all (r : Raft) (t : Nat) :
    (r.reset t).id = r.id ∧ (r.reset t).term = t ∧ (r.reset t).state = r.state ∧
    (r.reset t).leaderId = 0 ∧ (r.reset t).leadTransferee = none ∧ (r.reset t).msgs = r.msgs ∧
    (r.reset t).prs.votes = [] := by
  unfold reset
  simp only [mapProgress, abortLeaderTransfer, resetRandomizedElectionTimeout,
    ProgressTracker.resetVotes]
  split <;> simp_all

theorem becomeFollower_all (r : Raft) (t l : Nat) :
    (r.becomeFollower t l).id = r.id ∧ (r.becomeFollower t l).term = t ∧
    (r.becomeFollower t l).state = .follower ∧ (r.becomeFollower t l).leaderId = l ∧
    (r.becomeFollower t l).leadTransferee = none ∧ (r.becomeFollower t l).msgs = r.msgs ∧
    (r.becomeFollower t l).prs.votes = [] := by
  obtain ⟨h1, h2, _, _, h5, h6, h7⟩ := reset_all r t
  unfold becomeFollower
  exact ⟨h1, h2, rfl, rfl, h5, h6, h7⟩

theorem becomeFollower_linv {a r : Raft} {m : Message} (h : LInv a m r) (hnt : NT a r) (t l : Nat)
    (ht : r.term ≤ t) (hld : a.state = .leader → a.term < t ∨ l = 0) :
    LInv a m (r.becomeFollower t l) := by
  obtain ⟨h1, h2, h3, h4, _, h6, _⟩ := becomeFollower_all r t l
  refine h.upd h1 (by rw [h2]; exact ht) h6 (Or.inl hnt) ?_ ?_
  · intro hs; rw [h3] at hs; cases hs
  · intro hl
    rcases hld hl with g | g
    · exact Or.inr (Or.inl (by rw [h2]; exact g))
    · exact Or.inr (Or.inr (by rw [h4]; exact g))

theorem becomeCandidate_linv {a r r' : Raft} {m : Message} (h : LInv a m r) (hnt : NT a r)
    (hc : r.becomeCandidate = .ok r') : LInv a m r' ∧ r'.term = r.term + 1 ∧ r'.state = .candidate := by
  unfold becomeCandidate at hc
  split at hc
  · cases hc
  · split at hc
    · cases hc
    · cases hc
      obtain ⟨h1, h2, _, _, _, h6, _⟩ := reset_all r (r.term + 1)
      have htm : (r.reset (r.term + 1)).term = r.term + 1 := h2
      refine ⟨h.upd h1 (by show r.term ≤ (r.reset (r.term + 1)).term; omega) h6 (Or.inl hnt) ?_ ?_,
        h2, rfl⟩
      · intro hs; cases hs
      · intro _
        refine Or.inr (Or.inl ?_)
        show a.term < (r.reset (r.term + 1)).term
        have := h.tm; omega

theorem becomePreCandidate_linv {a r r' : Raft} {m : Message} (h : LInv a m r)
    (hc : r.becomePreCandidate = .ok r') :
    LInv a m r' ∧ r'.term = r.term ∧ r'.state = .preCandidate ∧ r'.prs.votes = [] := by
  have e := RaftProps.C16.becomePreCandidate_proj hc
  subst e
  refine ⟨h.upd rfl (Nat.le_refl _) rfl ?_ ?_ ?_, rfl, rfl, rfl⟩
  · exact h.tn
  · intro _ j hj; cases hj
  · intro _; exact Or.inr (Or.inr rfl)

/-- a step to the leader role that keeps queue, identity and term -/
theorem LInv.lead_upd {a r r' : Raft} {m : Message} (h : LInv a m r) (hnt : NT a r)
    (hid : r'.id = r.id) (htm : r'.term = r.term) (hmsgs : r'.msgs = r.msgs)
    (hs : r'.state = .leader) : LInv a m r' := by
  refine h.upd hid (by rw [htm]; exact Nat.le_refl _) hmsgs (Or.inl hnt) ?_ ?_
  · intro hc; rw [hs] at hc; cases hc
  · intro _
    rw [htm]
    rcases Nat.lt_or_ge a.term r.term with g | g
    · exact Or.inr (Or.inl g)
    · exact Or.inl ⟨hs, Nat.le_antisymm g h.tm⟩

theorem becomeLeader_linv {a r r' : Raft} {m : Message} (h : LInv a m r) (hnt : NT a r)
    (hc : r.becomeLeader = .ok r') : LInv a m r' ∧ r'.term = r.term := by
  unfold becomeLeader at hc
  split at hc
  · cases hc
  · simp only at hc
    split at hc
    · cases hc
    · split at hc
      · cases hc
      · rename_i pr _
        obtain ⟨h1, h2, _, _, _, h6, _⟩ := reset_all r r.term
        split at hc
        · rename_i r1 ha
          cases hc
          have hf := appendEntry_mf ha MF.rf
          have key : ∀ r2 : Raft, MF r2 r' → r2.id = r.id → r2.term = r.term → r2.msgs = r.msgs →
              r2.state = .leader → LInv a m r' ∧ r'.term = r.term :=
            fun r2 e5 e1 e2 e3 e4 => ⟨(h.lead_upd hnt e1 e2 e3 e4).mf e5, e5.term.trans e2⟩
          exact key _ hf h1 h2 h6 rfl
        · cases hc
        · cases hc
        · cases hc

/-! ### `poll`, `campaign`, `hup` -/

/-- recording a vote -/
theorem LInv.voted {a r : Raft} {m : Message} (h : LInv a m r) (frm : Nat) (v : Bool)
    (hfv : r.state = .preCandidate → v = true → frm = a.id ∨ PBack m r.term frm) :
    LInv a m (voted r frm v) := by
  refine h.upd rfl (Nat.le_refl _) rfl h.tn ?_ h.ld
  intro hs j hj
  rcases CV.mem_recordVote r.prs frm v j hj with e | ⟨e1, e2⟩
  · exact h.pc hs j e
  · rcases hfv hs e2 with g | g
    · exact Or.inl (e1.trans g)
    · exact Or.inr (Or.inl (by rw [e1]; exact g))

theorem pollWith_linv {a : Raft} {m : Message} (hm : ¬ isTA m) (onPreWin : Raft → Res Raft)
    {r r' : Raft} {frm : Nat} {t : MsgType} {v : Bool} {res : VoteResult} (h : LInv a m r)
    (hfv : r.state = .preCandidate → v = true → frm = a.id ∨ PBack m r.term frm)
    (hp : ∀ r1 r2, LInv a m r1 → r1.state = .preCandidate → onPreWin r1 = .ok r2 →
      LInv a m r2 ∧ r1.term ≤ r2.term)
    (hpoll : pollWith onPreWin r frm t v = .ok (r', res)) : LInv a m r' ∧ r.term ≤ r'.term := by
  obtain ⟨_, p2⟩ := c02_pollWith_cases hpoll
  have hv := h.voted frm v hfv
  rcases p2 with ⟨_, hpc, hf⟩ | ⟨_, _, hwon⟩ | ⟨_, e⟩ | ⟨_, e⟩
  · exact hp (voted r frm v) r' hv hpc hf
  · unfold wonBy at hwon
    rw [Res.bind_eq_ok_iff] at hwon
    obtain ⟨r1, hb, hbc⟩ := hwon
    obtain ⟨h1, h2⟩ := becomeLeader_linv hv (hv.nt hm) hb
    have hf := bcastAppend_mf hbc MF.rf
    exact ⟨h1.mf hf, by rw [hf.term, h2]; exact Nat.le_refl _⟩
  · subst e
    refine ⟨becomeFollower_linv hv (hv.nt hm) r.term 0 (Nat.le_refl _) (fun _ => Or.inr rfl), ?_⟩
    rw [(becomeFollower_all _ _ _).2.1]; exact Nat.le_refl _
  · subst e
    exact ⟨hv, Nat.le_refl _⟩

/-- the vote requests of a campaign -/
theorem sendVoteRequests_linv {a r r' : Raft} {m : Message} {ct : CampaignType} {vm : MsgType}
    {term : Nat} (h : LInv a m r)
    (hvm : vm = .msgRequestPreVote ∨ (vm = .msgRequestVote ∧ term ≤ r.term)) (hterm : term ≠ 0)
    (hct : ct = .transfer → m.msgType = .msgTimeoutNow)
    (hs : r.sendVoteRequests ct vm term = .ok r') : LInv a m r' ∧ r'.term = r.term := by
  have hvm' : vm = .msgRequestVote ∨ vm = .msgRequestPreVote := by
    rcases hvm with g | g
    · exact Or.inr g
    · exact Or.inl g.1
  obtain ⟨lt, c, cterm, _, _, e⟩ := c02_sendVoteRequests_spec hvm' hterm hs
  subst e
  refine ⟨⟨h.id, h.tm, ?_, ?_, h.pc, h.ld⟩, rfl⟩
  · intro x hx
    rcases List.mem_append.1 hx with g | g
    · exact h.msgs x g
    · right
      simp only [List.mem_map] at g
      obtain ⟨to, _, e⟩ := g
      subst e
      refine ⟨fun _ hc => ?_, ?_⟩
      · apply hct
        apply Classical.byContradiction
        intro hne
        have : (voteReq r vm ct term c cterm lt to).context = [] := by
          unfold voteReq; simp [hne]
        rw [this] at hc
        exact absurd hc (by decide)
      · rcases hvm with g | g
        · exact Or.inr (Or.inl g)
        · exact Or.inl g.2
  · rcases h.tn with hn | hn
    · left
      intro x hx ht
      rcases List.mem_append.1 hx with g | g
      · exact hn x g ht
      · simp only [List.mem_map] at g
        obtain ⟨to, _, e⟩ := g
        subst e
        have : vm = .msgTimeoutNow := ht
        rcases hvm' with g | g <;> rw [g] at this <;> cases this
    · exact Or.inr hn

theorem campaignWith_linv {a : Raft} {m : Message} (hm : ¬ isTA m)
    (poll : Raft → Nat → MsgType → Bool → Res (Raft × VoteResult))
    (hpoll : ∀ r1 r2 t res, LInv a m r1 → poll r1 r1.id t true = .ok (r2, res) →
      LInv a m r2 ∧ r1.term ≤ r2.term)
    {r r' : Raft} {ct : CampaignType} (h : LInv a m r)
    (hct : ct = .transfer → m.msgType = .msgTimeoutNow)
    (hc : campaignWith poll r ct = .ok r') : LInv a m r' ∧ r.term ≤ r'.term := by
  unfold campaignWith at hc
  dsimp only at hc
  rw [Res.bind_eq_ok_iff] at hc
  obtain ⟨⟨r1, vm, term⟩, hstart, hrest⟩ := hc
  have hst : LInv a m r1 ∧ r.term ≤ r1.term ∧ term ≠ 0 ∧
      (vm = .msgRequestPreVote ∨ (vm = .msgRequestVote ∧ term ≤ r1.term)) := by
    split at hstart
    · rw [Res.bind_eq_ok_iff] at hstart
      obtain ⟨r0, hb, hx⟩ := hstart
      obtain ⟨g1, g2, _, _⟩ := becomePreCandidate_linv h hb
      split at hx
      · cases hx
      · cases hx
        exact ⟨g1, by rw [g2]; exact Nat.le_refl _, by simp, Or.inl rfl⟩
    · rw [Res.bind_eq_ok_iff] at hstart
      obtain ⟨r0, hb, hx⟩ := hstart
      cases hx
      obtain ⟨g1, g2, _⟩ := becomeCandidate_linv h (h.nt hm) hb
      exact ⟨g1, by omega, by omega, Or.inr ⟨rfl, Nat.le_refl _⟩⟩
  obtain ⟨k1, k2, k3, k4⟩ := hst
  dsimp only at hrest
  rw [Res.bind_eq_ok_iff] at hrest
  obtain ⟨⟨r2, res⟩, hp, hfin⟩ := hrest
  obtain ⟨q1, q2⟩ := hpoll _ _ _ _ k1 hp
  dsimp only at hfin
  split at hfin
  · cases hfin; exact ⟨q1, Nat.le_trans k2 q2⟩
  · have hvm : vm = .msgRequestPreVote ∨ (vm = .msgRequestVote ∧ term ≤ r2.term) :=
      k4.imp (fun g => g) (fun g => ⟨g.1, Nat.le_trans g.2 q2⟩)
    obtain ⟨w1, w2⟩ := sendVoteRequests_linv q1 hvm k3 hct hfin
    exact ⟨w1, by rw [w2]; exact Nat.le_trans k2 q2⟩

theorem campaignAfterPreVote_linv {a r r' : Raft} {m : Message} (hm : ¬ isTA m) (h : LInv a m r)
    (hc : r.campaignAfterPreVote = .ok r') : LInv a m r' ∧ r.term ≤ r'.term := by
  unfold campaignAfterPreVote at hc
  refine campaignWith_linv hm _ (fun r1 r2 t res g1 g2 => ?_) h (fun hx => by cases hx) hc
  exact pollWith_linv hm _ g1 (fun _ _ => Or.inl g1.id) (fun _ _ _ _ hx => by cases hx) g2

theorem poll_linv {a : Raft} {m : Message} (hm : ¬ isTA m) {r r' : Raft} {frm : Nat} {t : MsgType}
    {v : Bool} {res : VoteResult} (h : LInv a m r)
    (hfv : r.state = .preCandidate → v = true → frm = a.id ∨ PBack m r.term frm)
    (hpoll : r.poll frm t v = .ok (r', res)) : LInv a m r' ∧ r.term ≤ r'.term := by
  unfold poll at hpoll
  exact pollWith_linv hm _ h hfv (fun r1 r2 g1 _ g3 => campaignAfterPreVote_linv hm g1 g3) hpoll

theorem campaign_linv {a r r' : Raft} {m : Message} (hm : ¬ isTA m) {ct : CampaignType}
    (h : LInv a m r) (hct : ct = .transfer → m.msgType = .msgTimeoutNow)
    (hc : r.campaign ct = .ok r') : LInv a m r' ∧ r.term ≤ r'.term := by
  unfold campaign at hc
  refine campaignWith_linv hm _ (fun r1 r2 t res g1 g2 => ?_) h hct hc
  exact poll_linv hm g1 (fun _ _ => Or.inl g1.id) g2

theorem hup_linv {a r r' : Raft} {m : Message} (hm : ¬ isTA m) {tr : Bool} (h : LInv a m r)
    (htr : tr = true → m.msgType = .msgTimeoutNow) (hc : r.hup tr = .ok r') :
    LInv a m r' ∧ r.term ≤ r'.term := by
  rcases c02_hup_cases hc with e | ⟨_, _, ct, hcamp, hct, _⟩
  · subst e; exact ⟨h, Nat.le_refl _⟩
  · exact campaign_linv hm h (fun g => htr (hct.1 g)) hcamp

/-! ### `maybe_commit_by_vote` -/

theorem maybeCommitByVote_linv {a r r' : Raft} {m : Message} (hm : ¬ isTA m) (m' : Message)
    (h : LInv a m r) (hc : r.maybeCommitByVote m' = .ok r') : LInv a m r' ∧ r'.term = r.term := by
  unfold maybeCommitByVote at hc
  split at hc
  · cases hc; exact ⟨h, rfl⟩
  · simp only at hc
    split at hc
    · cases hc; exact ⟨h, rfl⟩
    · split at hc
      · cases hc
      · cases hc
      · cases hc; exact ⟨h, rfl⟩
      · rename_i log _
        have hl : LInv a m ({ r with raftLog := log } : Raft) := h.mf (MF.mk' MF.rf)
        split at hc
        · cases hc; exact ⟨hl, rfl⟩
        · split at hc
          · cases hc
          · cases hc
          · cases hc
            refine ⟨becomeFollower_linv hl (hl.nt hm) r.term 0 (Nat.le_refl _) (fun _ => Or.inr rfl), ?_⟩
            exact (becomeFollower_all _ _ _).2.1
          · cases hc; exact ⟨hl, rfl⟩

end LS
end Raft
end RaftModel
