import RaftProofs.ProtoVStep
import RaftProofs.ProtoFlow

/-!
Promise durability for the other released messages (vote requests, append acknowledgements):
the durable term of the sender is never behind the term of anything it released, at release time
and at all later times (`InvR`).  Acknowledgements are released only when the durable image covers
them (`dacks`), and every image covers only acknowledgements generated at or below its term.
-/
namespace RaftModel.P

def OMsg.owner : OMsg → Nat
  | .voteReq _ c _ _ => c
  | .grant _ v _ _ => v
  | .ack _ f _ _ => f

def OMsg.term : OMsg → Nat
  | .voteReq t _ _ _ => t
  | .grant t _ _ _ => t
  | .ack t _ _ _ => t

structure InvR (s : PSys) : Prop where
  own : ∀ i, ∀ m ∈ (s.nodes i).outbox, m.owner = i ∧ (m.isAck = true → m.term ≤ (s.nodes i).term)
  pim : ∀ i, ∀ im ∈ (s.nodes i).pending, ∀ m ∈ im.acks, m.owner = i ∧ m.term ≤ im.term
  dak : ∀ i, ∀ m ∈ (s.nodes i).dacks, m.owner = i ∧ m.term ≤ (s.nodes i).dterm
  rq : ∀ r ∈ s.reqs, r.term ≤ (s.nodes r.cand).dterm
  ak : ∀ a ∈ s.acks, a.term ≤ (s.nodes a.frm).dterm

theorem invR_init : InvR init := by
  constructor <;> simp [init]

theorem Gen.owner {s : PSys} {j : Nat} {l' : List LEntry} {e : Event} {m : OMsg} (h : Gen s j l' e m) :
    m.owner = j ∧ (m.isAck = true → m.term = (s.nodes j).term) := by
  cases h <;> exact ⟨rfl, fun h => by first | rfl | cases h⟩

/-- the durable term of a node never decreases -/
theorem dterm_step {s s' : PSys} {e : Event} (h : applyEvent s e = .ok s') (hV : InvV (vsys s)) (j : Nat) :
    (s.nodes j).dterm ≤ (s'.nodes j).dterm := by
  refine (stages_step (Q := fun j im => (s.nodes j).dterm ≤ im.term) h (fun j => (hV.dv j).fst_le)
    (fun j im him => ?_) (fun j => Nat.le_refl _) ?_).2 j
  · exact (hV.pa j (im.term, im.vote) (List.mem_map.2 ⟨im, him, rfl⟩)).1.fst_le
  · rintro i d idx rfl
    obtain ⟨hf, _, _, _, _, rfl⟩ := bootstrap_ok h
    rw [hf.dterm]; exact Nat.zero_le _

/-- no case split on the event: a message in an outbox was there, was generated by the node in its
current term, or is a durably covered acknowledgement after a restart (`outbox_step`); images are old
images (`stages_step`); a released message was releasable (`released_step`) -/
theorem invR_step (s s' : PSys) (e : Event) (hV : InvV (vsys s)) (hI : InvR s)
    (h : applyEvent s e = .ok s') : InvR s' := by
  obtain ⟨hpim, hdak⟩ := stages_step (Q := fun j im => ∀ m ∈ im.acks, m.owner = j ∧ m.term ≤ im.term) h
    (fun j m hm => ⟨(hI.own j m (List.mem_filter.1 hm).1).1,
      (hI.own j m (List.mem_filter.1 hm).1).2 (List.mem_filter.1 hm).2⟩)
    hI.pim hI.dak (by
      rintro i d idx rfl
      obtain ⟨hf, _, _, _, _, rfl⟩ := bootstrap_ok h
      simp only [upd_same, dimage, hf.dacks]; exact fun m hm => nomatch hm)
  have rel : ∀ m, (Released s m → m.term ≤ (s.nodes m.owner).dterm) → Released s' m →
      m.term ≤ (s'.nodes m.owner).dterm := by
    intro m hold hm
    refine Nat.le_trans ?_ (dterm_step h hV m.owner)
    rcases released_step h m hm with hr | ⟨i, _, ⟨ho, hr⟩ | ⟨_, hd⟩⟩
    · exact hold hr
    · rw [(hI.own i m ho).1]
      cases m with
      | voteReq t c lt li =>
        simp only [releasable, Bool.or_eq_true, Bool.and_eq_true, decide_eq_true_eq] at hr
        show t ≤ _; omega
      | grant t v c gh =>
        simp only [releasable, Bool.or_eq_true, Bool.and_eq_true, decide_eq_true_eq] at hr
        show t ≤ _; omega
      | ack t f idx pre =>
        have hd : OMsg.ack t f idx pre ∈ (s.nodes i).dacks := by simpa [releasable] using hr
        exact (hI.dak i _ hd).2
    · rw [(hI.dak i m hd).1]; exact (hI.dak i m hd).2
  refine ⟨fun j m hm => ?_, hpim, hdak, fun r hr => rel (.voteReq r.term r.cand r.lastTerm r.lastIdx) (hI.rq r) hr,
    fun a ha => rel (.ack a.term a.frm a.idx a.pre) (hI.ak a) ha⟩
  rcases outbox_step h j with ⟨hs, ht, _⟩ | ⟨_, hs, ht, _⟩
  · rcases hs m hm with ho | hg
    · exact ⟨(hI.own j m ho).1, fun ha => Nat.le_trans ((hI.own j m ho).2 ha) ht⟩
    · exact ⟨hg.owner.1, fun ha => hg.owner.2 ha ▸ ht⟩
  · exact ⟨(hI.dak j m (hs m hm).2).1, fun _ => ht ▸ (hI.dak j m (hs m hm).2).2⟩

theorem invR_reachR (s : PSys) (h : Reach s) : InvR s := by
  induction h with
  | init => exact invR_init
  | step e hr hs ih => exact invR_step _ _ e (invV_reachR _ hr) ih hs

theorem invR_reach (c0 : Cfg) (s : PSys) (h : ReachC c0 s) : InvR s :=
  invR_reachR s (reach_of_reachC h)

end RaftModel.P
