import RaftProofs.LLog

/-!
The storage side of a `RaftLog`, and the step relation of the logical log.

`LogStep l l'` is what every contract-abiding operation does to the log as an observer of the
committed prefix sees it (`C14_step` proves it per operation, `C14_run` is its transitivity, the
trace invariant of C07b carries the hand-out history along it).

The storage-side steps of an application that follows the Ready contract — the storage write of
the unstable part (`Inv.write_log`), the move of a written unstable part into the stable part
(`Inv.stable_log`), their composition `stabilise`, persisting the pending snapshot, compaction — keep
the representation invariant and the logical log (compaction cuts it).  C14b and C07b quote them.
-/
namespace RaftModel

/-! ### the log across one step -/

/-- one step of the log as an observer of the committed prefix sees it: the invariant is kept, the
commit index does not decrease, an entry at or below the commit index is unaltered or covered by
the snapshot point -/
structure LogStep (l l' : RaftLog) : Prop where
  inv : l'.Inv
  comm : l.committed ≤ l'.committed
  pre : ∀ i, i ≤ l.committed → l'.abs.entryAt i = l.abs.entryAt i ∨ i ≤ l'.abs.snapIdx

theorem LogStep.refl {l : RaftLog} (h : l.Inv) : LogStep l l :=
  ⟨h, Nat.le_refl _, fun _ _ => .inl rfl⟩

theorem LogStep.of_abs_eq {l l' : RaftLog} (hinv : l'.Inv) (hc : l.committed ≤ l'.committed)
    (habs : l'.abs = l.abs) : LogStep l l' :=
  ⟨hinv, hc, fun i _ => .inl (by rw [habs])⟩

theorem LogStep.of_cursors {l l' : RaftLog} (hinv : l'.Inv) (h1 : l'.store = l.store)
    (h2 : l'.unstable = l.unstable) (hc : l.committed ≤ l'.committed) : LogStep l l' :=
  .of_abs_eq hinv hc (RaftLog.abs_congr h1 h2)

/-- a truncating append above the commit index -/
theorem LogStep.of_truncateAppend {l l' : RaftLog} (h : l.Inv) (hinv : l'.Inv)
    (hc : l.committed ≤ l'.committed) {keep : Nat} {sfx : List Entry}
    (habs : l'.abs = l.abs.truncateAppend keep sfx) (hk : l.committed ≤ keep) : LogStep l l' := by
  refine ⟨hinv, hc, fun i hi => .inl ?_⟩
  rw [habs]
  have := h.committed_le_last
  exact l.abs.truncateAppend_entryAt _ _ i (by omega) (by rw [← h.lastIndex_abs]; omega)

/-- a snapshot at or above the commit index replaces the log -/
theorem LogStep.of_snapshot {l l' : RaftLog} (hinv : l'.Inv) (hc : l.committed ≤ l'.committed)
    {sn : Snapshot} (habs : l'.abs = LLog.ofSnapshot sn) (hs : l.committed ≤ sn.metadata.index) :
    LogStep l l' :=
  ⟨hinv, hc, fun i hi => .inr (by rw [habs]; exact Nat.le_trans hi hs)⟩

/-- an index at or below the commit index that is covered by the snapshot point stays covered -/
theorem LogStep.covered {l l' : RaftLog} (h : LogStep l l') {j : Nat} (hj : j ≤ l.committed)
    (hc : j ≤ l.abs.snapIdx) : j ≤ l'.abs.snapIdx := by
  rcases h.pre j hj with h1 | h1
  · -- `entryAt` is `none` on both sides although `j ≤ committed' ≤ last'`
    apply Classical.byContradiction
    intro hcov
    have hl := h.inv.lastIndex_abs
    have hcl := h.inv.committed_le_last
    have hcm := h.comm
    rw [show l.abs.entryAt j = none by simp [LLog.entryAt, hc]] at h1
    simp only [LLog.entryAt, hcov, if_false] at h1
    have := List.getElem?_eq_none_iff.1 h1
    simp only [LLog.lastIndex] at hl
    omega
  · exact h1

theorem LogStep.trans {a b c : RaftLog} (h1 : LogStep a b) (h2 : LogStep b c) : LogStep a c := by
  refine ⟨h2.inv, Nat.le_trans h1.comm h2.comm, fun i hi => ?_⟩
  have hi' : i ≤ b.committed := Nat.le_trans hi h1.comm
  rcases h1.pre i hi with e1 | c1
  · rcases h2.pre i hi' with e2 | c2
    · exact .inl (e2.trans e1)
    · exact .inr c2
  · exact .inr (h2.covered hi' c1)

/-- an entry handed out stays what it was (or is compacted away) -/
theorem LogStep.keeps {l l' : RaftLog} (h : LogStep l l') {j : Nat} {e : Entry}
    (hj : j ≤ l.committed) (hold : l.abs.entryAt j = some e ∨ j ≤ l.abs.snapIdx) :
    l'.abs.entryAt j = some e ∨ j ≤ l'.abs.snapIdx := by
  rcases hold with h2 | h2
  · exact (h.pre j hj).imp_left (fun h1 => h1.trans h2)
  · exact .inr (h.covered hj h2)

end RaftModel

/-! ### the written Ready

A clause of the application contract `AppOk` of C07 (`RaftProps/C07b.lean`), defined here because
`Inv.write_log` establishes it and `Inv.stable_log` needs it. -/

namespace RaftProps.C07
open RaftModel

/-- "the updates of the Ready can be read by raft from the `Storage`" — what the documentation of
`advance_append_async` (raw_node.rs:708-714) requires before any of `advance*` is called: the
storage ends where the log ends, holds the unstable entries at their positions, and starts right
after the pending snapshot -/
structure Written (l : RaftLog) : Prop where
  first : l.store.firstIndex ≤ l.unstable.offset
  last : l.store.lastIndex = l.lastIndex
  ents : ∀ k e, l.unstable.entries[k]? = some e →
    l.store.entries[l.unstable.offset + k - l.store.firstIndex]? = some e
  snap : ∀ sn, l.unstable.snapshot = some sn →
    l.store.firstIndex = sn.metadata.index + 1 ∧
    l.store.snapshotMetadata.index = sn.metadata.index ∧
    l.store.snapshotMetadata.term = sn.metadata.term

end RaftProps.C07

namespace RaftModel
namespace RaftLog

/-! ### the storage write and the move into the stable part -/

theorem lastIndex_with_store {l : RaftLog} (st : MemStorage) (hl : st.lastIndex = l.lastIndex) :
    ({ l with store := st } : RaftLog).lastIndex = l.lastIndex := by
  unfold RaftLog.lastIndex at *
  simp only [] at *
  cases hm : l.unstable.maybeLastIndex with
  | some i => rfl
  | none => rw [hm] at hl; exact hl

/-- replacing the storage by one that ends where the log ends (and starts where the old one did,
when no snapshot is pending) keeps the invariant -/
theorem Inv.with_store {l : RaftLog} (h : l.Inv) (st : MemStorage) (hwf : st.WF)
    (hf : l.unstable.snapshot = none → st.firstIndex = l.store.firstIndex)
    (hl : st.lastIndex = l.lastIndex) : RaftLog.Inv { l with store := st } := by
  have hls := h.last_succ
  have hli := lastIndex_with_store st hl
  have hfi : ({ l with store := st } : RaftLog).firstIndex = l.firstIndex := by
    cases hs : l.unstable.snapshot with
    | none =>
      rw [RaftLog.firstIndex_none hs, RaftLog.firstIndex_none (l := { l with store := st }) hs]
      exact hf hs
    | some sn =>
      rw [RaftLog.firstIndex_some hs, RaftLog.firstIndex_some (l := { l with store := st }) hs]
  have hpo := h.persisted_lt_off
  refine ⟨hwf, h.unstWF, ?_, ?_, ?_, ?_, ?_, h.persisted_lt_off, ?_⟩
  · intro hs; show st.firstIndex ≤ l.unstable.offset; rw [hf hs]; exact h.first_le_off hs
  · intro hs; show l.unstable.offset ≤ st.lastIndex + 1; omega
  · intro hs he
    show l.unstable.offset = st.lastIndex + 1
    have : l.unstable.entries.length = 0 := by rw [he]; rfl
    omega
  · rw [hfi]; exact h.dummy_le_committed
  · rw [hli]; exact h.committed_le_last
  · show l.persisted ≤ st.lastIndex; omega

/-- the storage write of the pending Ready (its entries and snapshot are the current unstable
part): the invariant and the logical log are kept, the first index of the storage does not
decrease, and afterwards the Ready is `Written` -/
theorem Inv.write_log {l : RaftLog} {st1 st2 st3 : MemStorage} (h : l.Inv)
    (h1 : (l.unstable.snapshot = none ∧ st1 = l.store) ∨
      ∃ sn, l.unstable.snapshot = some sn ∧ l.store.applySnapshot sn = .ok st1)
    (h2 : st1.append l.unstable.entries = .ok st2)
    (he3 : st3.entries = st2.entries) (hm3 : st3.snapshotMetadata = st2.snapshotMetadata) :
    RaftLog.Inv { l with store := st3 } ∧ ({ l with store := st3 } : RaftLog).abs = l.abs ∧
    RaftProps.C07.Written { l with store := st3 } ∧ l.store.firstIndex ≤ st3.firstIndex ∧
    (l.unstable.snapshot = none → st3.firstIndex = l.store.firstIndex) ∧
    (∀ sn, l.unstable.snapshot = some sn → st3.firstIndex = sn.metadata.index + 1) := by
  obtain ⟨hf3, hl3, hw3⟩ := MemStorage.congr he3 hm3
  have hls := h.last_succ
  -- the storage after `apply_snapshot`
  have key : st1.WF ∧ st1.firstIndex ≤ l.unstable.offset ∧ l.unstable.offset ≤ st1.lastIndex + 1 ∧
      (l.unstable.entries = [] → st1.lastIndex = l.lastIndex) ∧
      l.store.firstIndex ≤ st1.firstIndex ∧
      (l.unstable.snapshot = none → st1 = l.store) ∧
      (∀ sn, l.unstable.snapshot = some sn → st1.firstIndex = sn.metadata.index + 1 ∧
        st1.snapshotMetadata = sn.metadata ∧ st1.entries = []) := by
    cases hs : l.unstable.snapshot with
    | none =>
      have h1 : st1 = l.store := by
        rcases h1 with ⟨_, h1⟩ | ⟨sn, h1, _⟩
        · exact h1
        · rw [hs] at h1; cases h1
      subst h1
      refine ⟨h.storeWF, h.first_le_off hs, h.off_le_last hs, ?_, Nat.le_refl _, fun _ => rfl,
        fun sn hsn => by cases hsn⟩
      intro he
      have hol := h.ents_empty hs he
      rw [he, List.length_nil, Nat.add_zero, hol] at hls
      exact (Nat.succ.inj hls).symm
    | some sn =>
      have h1 : l.store.applySnapshot sn = .ok st1 := by
        rcases h1 with ⟨h1, _⟩ | ⟨sn', h1, h1'⟩
        · rw [hs] at h1; cases h1
        · rw [Option.some.inj (hs.symm.trans h1)]
          exact h1'
      have hle := MemStorage.applySnapshot_inv h1
      have ho := h.unstWF.snap sn hs
      obtain ⟨st1', h1', hst1, hwf1, hfi, hli⟩ := MemStorage.applySnapshot_ok l.store sn hle
      rw [h1] at h1'; injection h1' with h1'; subst h1'
      refine ⟨hwf1, Nat.le_of_eq (hfi.trans ho.symm), by rw [hli, ho]; exact Nat.le_refl _, ?_,
        by rw [hfi]; exact Nat.le_succ_of_le hle, fun hn => (by cases hn), ?_⟩
      · intro he
        rw [he, List.length_nil, Nat.add_zero, ho] at hls
        rw [hli]
        exact (Nat.succ.inj hls).symm
      · intro sn' hsn'
        injection hsn' with hsn'
        subst hsn'
        exact ⟨hfi, by rw [hst1], by rw [hst1]⟩
  obtain ⟨hwf1, hfo1, hol1, hle1, hff1, hn1, hs1⟩ := key
  -- the storage after `append`
  have key2 : st2.WF ∧ st2.firstIndex = st1.firstIndex ∧ st2.lastIndex = l.lastIndex ∧
      st2.snapshotMetadata = st1.snapshotMetadata ∧
      st2.entries = st1.entries.take (l.unstable.offset - st1.firstIndex) ++ l.unstable.entries ∧
      (l.unstable.offset - st1.firstIndex) ≤ st1.entries.length := by
    have hl1 := hwf1.last_succ
    cases he : l.unstable.entries with
    | nil =>
      rw [he] at h2
      injection h2 with h2
      subst h2
      have hlen : l.unstable.entries.length = 0 := by rw [he]; rfl
      have := hle1 he
      have hall : l.unstable.offset - st1.firstIndex = st1.entries.length := by omega
      refine ⟨hwf1, rfl, this, rfl, ?_, Nat.le_of_eq hall⟩
      rw [List.append_nil, List.take_of_length_le (Nat.le_of_eq hall.symm)]
    | cons e0 es =>
      rw [he] at h2
      have hc : ContigFrom l.unstable.offset (e0 :: es) := he ▸ h.unstWF.contig
      have h0 : e0.index = l.unstable.offset := hc.head
      obtain ⟨s', hs', hst', hwf', hf', hl'⟩ := hwf1.append_ok e0.index e0 es
        (h0 ▸ hc) (by rw [h0]; exact hfo1) (by rw [h0]; exact hol1)
      have hm' : s'.snapshotMetadata = st1.snapshotMetadata := by rw [hst']
      have hent' : s'.entries = st1.entries.take (e0.index - st1.firstIndex) ++ e0 :: es := by
        rw [hst']
      rw [hs'] at h2
      injection h2 with h2
      subst h2
      have hlast : s'.lastIndex = l.lastIndex := by
        rw [he, List.length_cons, ← Nat.add_assoc] at hls
        rw [hl', h0]
        exact (Nat.succ.inj hls).symm
      refine ⟨hwf', hf', hlast, hm', by rw [hent', h0],
        Nat.sub_le_of_le_add (by rw [Nat.add_comm, ← hl1]; exact hol1)⟩
  obtain ⟨hwf2, hf2, hl2, hm2, hent2, hdl⟩ := key2
  have hwf := hw3 hwf2
  have hfn : l.unstable.snapshot = none → st3.firstIndex = l.store.firstIndex := by
    intro hs; rw [hf3, hf2, hn1 hs]
  have hinv := h.with_store st3 hwf hfn (by rw [hl3, hl2])
  have htake : (st1.entries.take (l.unstable.offset - st1.firstIndex)).length =
      l.unstable.offset - st1.firstIndex := by rw [List.length_take]; exact Nat.min_eq_left hdl
  refine ⟨hinv, ?_, ⟨?_, ?_, ?_, ?_⟩, by rw [hf3, hf2]; exact hff1, hfn, ?_⟩
  · cases hs : l.unstable.snapshot with
    | none =>
      have e1 := hn1 hs
      rw [RaftLog.abs_none hs, RaftLog.abs_none (l := { l with store := st3 }) hs]
      show LLog.mk _ _ _ = _
      rw [hf3, hf2, hm3, hm2, he3, hent2, e1,
        List.take_append_of_le_length (by rw [← e1, htake]; exact Nat.le_refl _), List.take_take,
        Nat.min_self]
    | some sn =>
      rw [RaftLog.abs_some hs, RaftLog.abs_some (l := { l with store := st3 }) hs]
  · show st3.firstIndex ≤ l.unstable.offset
    rw [hf3, hf2]
    exact hfo1
  · show st3.lastIndex = ({ l with store := st3 } : RaftLog).lastIndex
    rw [lastIndex_with_store st3 (by rw [hl3, hl2]), hl3, hl2]
  · intro k e hk
    show st3.entries[l.unstable.offset + k - st3.firstIndex]? = some e
    rw [he3, hent2, hf3, hf2, Nat.sub_add_comm hfo1,
      List.getElem?_append_right (by rw [htake]; exact Nat.le_add_right _ _), htake,
      Nat.add_sub_cancel_left]
    exact hk
  · intro sn hsn
    obtain ⟨a, b, _⟩ := hs1 sn hsn
    show st3.firstIndex = _ ∧ st3.snapshotMetadata.index = _ ∧ st3.snapshotMetadata.term = _
    rw [hf3, hf2, hm3, hm2, b]
    exact ⟨a, rfl, rfl⟩
  · intro sn hsn
    rw [hf3, hf2]; exact (hs1 sn hsn).1

/-- moving a `Written` unstable part into the stable part keeps the invariant and the logical log -/
theorem Inv.stable_log {l l2 : RaftLog} (h : l.Inv) (w : RaftProps.C07.Written l)
    (he : l2.unstable.entries = []) (hz : l2.unstable.entriesSize = 0)
    (hs : l2.unstable.snapshot = none) (hst : l2.store = l.store)
    (hc : l2.committed = l.committed) (hp : l2.persisted = l.persisted)
    (ho : l2.unstable.offset = l.lastIndex + 1) :
    l2.Inv ∧ l2.abs = l.abs ∧ l2.firstIndex = l.firstIndex ∧ l2.lastIndex = l.lastIndex ∧
    l.firstIndex = l.store.firstIndex := by
  have hls := h.last_succ
  have hpo := h.persisted_lt_off
  have hfp := h.storeWF.first_pos
  have hF : l.firstIndex = l.store.firstIndex := by
    cases hsn : l.unstable.snapshot with
    | none => exact RaftLog.firstIndex_none hsn
    | some sn => rw [RaftLog.firstIndex_some hsn, (w.snap sn hsn).1]
  have hfi : l2.firstIndex = l.firstIndex := by
    rw [RaftLog.firstIndex_none hs, hst, hF]
  have hli : l2.lastIndex = l.lastIndex := by
    have : l2.unstable.entries.length = 0 := by rw [he]; rfl
    simp only [RaftLog.lastIndex, Unstable.maybeLastIndex, this, if_true, hs, hst]
    exact w.last
  have hinv : l2.Inv := by
    refine ⟨hst ▸ h.storeWF, ⟨?_, ?_, ?_⟩, ?_, ?_, ?_, ?_, ?_, ?_, ?_⟩
    · intro k e hk; rw [he] at hk; simp at hk
    · rw [hz, he]; rfl
    · intro sn hsn; rw [hs] at hsn; cases hsn
    · intro _
      rw [hst, ho, hls]
      exact Nat.le_trans w.first (Nat.le_add_right _ _)
    · intro _; rw [hst, ho, w.last]; exact Nat.le_refl _
    · intro _ _; rw [hst, ho, w.last]
    · rw [hfi, hc]; exact h.dummy_le_committed
    · rw [hli, hc]; exact h.committed_le_last
    · rw [hp, ho, hls]
      exact Nat.lt_of_lt_of_le hpo (Nat.le_add_right _ _)
    · rw [hp, hst]; exact h.persisted_le_store
  have hsi2 : l2.abs.snapIdx = l.store.firstIndex - 1 := by
    rw [RaftLog.abs_none hs, hst]
  have hsi : l.abs.snapIdx = l.store.firstIndex - 1 := by
    cases hsn : l.unstable.snapshot with
    | none => rw [RaftLog.abs_none hsn]
    | some sn => rw [RaftLog.abs_some hsn, (w.snap sn hsn).1]; rfl
  have hsnt : l2.abs.snapTerm = l.abs.snapTerm := by
    rw [RaftLog.abs_none hs, hst]
    cases hsn : l.unstable.snapshot with
    | none => rw [RaftLog.abs_none hsn]
    | some sn =>
      obtain ⟨w1, w2, w3⟩ := w.snap sn hsn
      rw [RaftLog.abs_some hsn]
      simp only []
      rw [if_pos (by rw [w1, w2]; rfl), w3]
  refine ⟨hinv, LLog.ext_entryAt (by rw [hsi2, hsi]) hsnt ?_, hfi, hli, hF⟩
  intro i
  rcases Nat.lt_or_ge i l.store.firstIndex with hlt | hge
  · -- below the first index: covered on both sides
    have h1 : i ≤ l2.abs.snapIdx := by rw [hsi2]; exact Nat.le_sub_one_of_lt hlt
    have h2 : i ≤ l.abs.snapIdx := by rw [hsi]; exact Nat.le_sub_one_of_lt hlt
    simp [LLog.entryAt, h1, h2]
  · rcases Nat.lt_or_ge i l.unstable.offset with hlo | hgo
    · -- in the part that was stable already
      have hsn : l.unstable.snapshot = none := by
        cases hsn : l.unstable.snapshot with
        | none => rfl
        | some sn =>
          rw [h.unstWF.snap sn hsn, ← (w.snap sn hsn).1] at hlo
          exact absurd hlo (Nat.not_lt.2 hge)
      rw [h.entryAt_store hsn hge hlo, hinv.entryAt_store hs (by rw [hst]; exact hge)
        (by rw [ho, hls]; exact Nat.lt_of_lt_of_le hlo (Nat.le_add_right _ _)), hst]
    · rcases Nat.lt_or_ge i (l.lastIndex + 1) with hll | hgl
      · -- in the part that was unstable
        have hk : i - l.unstable.offset < l.unstable.entries.length :=
          Nat.sub_lt_left_of_lt_add hgo (by rw [← hls]; exact hll)
        have hget := List.getElem?_eq_some_iff.2
          ⟨hk, (rfl : l.unstable.entries[i - l.unstable.offset] = _)⟩
        have hw := w.ents _ _ hget
        rw [h.entryAt_unstable hgo, hget,
          hinv.entryAt_store hs (by rw [hst]; exact hge) (by rw [ho]; exact hll), hst]
        rw [Nat.add_sub_cancel' hgo] at hw
        exact hw
      · -- beyond the last index
        rw [h.entryAt_unstable hgo, hinv.entryAt_unstable (by rw [ho]; exact hgl), he]
        simp only [List.getElem?_nil]
        exact (List.getElem?_eq_none (Nat.le_sub_of_add_le' (by rw [← hls]; exact hgl))).symm

/-- **stabilise** (no pending snapshot): the unstable entries move to the storage, the logical log
and all cursors are unchanged, the invariant is kept, nothing is left unstable — the storage write
(`Inv.write_log`) followed by the move into the stable part (`Inv.stable_log`) -/
theorem Inv.stabilise_ok {l : RaftLog} (h : l.Inv) (hs : l.unstable.snapshot = none) :
    ∃ l', l.stabilise = .ok l' ∧ l'.Inv ∧ l'.abs = l.abs ∧ l'.committed = l.committed ∧
      l'.persisted = l.persisted ∧ l'.applied = l.applied ∧ l'.unstable.entries = [] ∧
      l'.unstable.snapshot = none ∧ l'.store.lastIndex = l.lastIndex := by
  have hls := h.last_succ
  cases hg : l.unstable.entries.getLast? with
  | none =>
    have hnil : l.unstable.entries = [] := List.getLast?_eq_none_iff.1 hg
    have := h.ents_empty hs hnil
    refine ⟨l, by unfold RaftLog.stabilise; rw [hg], h, rfl, rfl, rfl, rfl, hnil, hs, ?_⟩
    rw [hnil] at hls; simp at hls; omega
  | some e =>
    -- the append cannot fail: the unstable part starts inside `[first, last + 1]` of the storage
    obtain ⟨u0, us, hU⟩ : ∃ u0 us, l.unstable.entries = u0 :: us := by
      cases hU : l.unstable.entries with
      | nil => rw [hU] at hg; cases hg
      | cons a t => exact ⟨a, t, rfl⟩
    have hc : ContigFrom l.unstable.offset (u0 :: us) := hU ▸ h.unstWF.contig
    obtain ⟨st, happ, _⟩ := h.storeWF.append_ok l.unstable.offset u0 us hc
      (h.first_le_off hs) (h.off_le_last hs)
    rw [← hU] at happ
    obtain ⟨hinv1, habs1, hw, _⟩ := h.write_log (.inl ⟨hs, rfl⟩) happ rfl rfl
    have he := ContigFrom.getLast h.unstWF.contig hg
    have hli : ({ l with store := st } : RaftLog).lastIndex = l.lastIndex := by
      unfold RaftLog.lastIndex; simp only [Unstable.maybeLastIndex, hU]; rfl
    obtain ⟨hinv2, habs2, _, _, _⟩ := hinv1.stable_log
      (l2 := { l with store := st, unstable := { l.unstable with
        offset := e.index + 1, entries := [], entriesSize := 0 } })
      hw rfl rfl hs rfl rfl rfl (by
        show e.index + 1 = ({ l with store := st } : RaftLog).lastIndex + 1
        rw [hli]; omega)
    refine ⟨_, ?_, hinv2, habs2.trans habs1, rfl, rfl, rfl, rfl, hs, ?_⟩
    · unfold RaftLog.stabilise
      rw [hg]
      simp only []
      rw [happ]
      simp only [RaftLog.stableEntries, Unstable.stableEntries, hs, hg]
      simp
    · show st.lastIndex = l.lastIndex
      rw [← hli]; exact hw.last

/-! ### persisting the pending snapshot, compaction -/

/-- **persist the pending snapshot** (`apply_snapshot`, `stable_snap`, `maybe_persist_snap`), for
a snapshot at or above the storage's `first_index`: the logical log is unchanged, `persisted`
becomes at least the snapshot index, no snapshot is pending afterwards, the invariant is kept -/
theorem Inv.persistSnapshot_ok {l : RaftLog} (h : l.Inv) (sn : Snapshot)
    (hs : l.unstable.snapshot = some sn) (hge : l.store.firstIndex ≤ sn.metadata.index) :
    ∃ l', l.persistSnapshot = .ok l' ∧ l'.Inv ∧ l'.abs = l.abs ∧ l'.committed = l.committed ∧
      l'.applied = l.applied ∧ l'.persisted = max l.persisted sn.metadata.index ∧
      l'.unstable.snapshot = none ∧ l'.unstable.entries = l.unstable.entries := by
  have ho := h.unstWF.snap sn hs
  have hf := RaftLog.firstIndex_some hs
  have hd := h.dummy_le_committed
  have hpo := h.persisted_lt_off
  have hls := h.last_succ
  have hcl := h.committed_le_last
  refine ⟨{ l with
      store := { l.store with
        snapshotMetadata := sn.metadata,
        hardState := { l.store.hardState with
          term := max l.store.hardState.term sn.metadata.term, commit := sn.metadata.index },
        entries := [],
        confState := sn.metadata.confState },
      unstable := { l.unstable with snapshot := none },
      persisted := max l.persisted sn.metadata.index }, ?_, ?_, ?_, rfl, rfl, rfl, rfl, rfl⟩
  · unfold RaftLog.persistSnapshot
    rw [hs]
    simp only [MemStorage.applySnapshot]
    rw [if_neg (by omega)]
    simp only [RaftLog.stableSnap, Unstable.stableSnap, hs, ne_eq, not_true_eq_false, if_false]
    unfold RaftLog.maybePersistSnap
    by_cases hp : l.persisted < sn.metadata.index
    · simp only []
      have hm : max l.persisted sn.metadata.index = sn.metadata.index :=
        Nat.max_eq_right (Nat.le_of_lt hp)
      rw [if_pos hp, if_neg (by omega), if_neg (by omega), hm]
    · simp only []
      have hm : max l.persisted sn.metadata.index = l.persisted :=
        Nat.max_eq_left (Nat.not_lt.1 hp)
      rw [if_neg hp, hm]
  · refine ⟨⟨?_, ?_⟩, ⟨h.unstWF.contig, h.unstWF.size, ?_⟩, ?_, ?_, ?_, ?_, ?_, ?_, ?_⟩
    · intro k e hk; simp at hk
    · simp [MemStorage.firstIndex]
    · intro sn' hsn; cases hsn
    · intro _; simp [MemStorage.firstIndex]; omega
    · intro _; simp [MemStorage.lastIndex]; omega
    · intro _ hnil; simp [MemStorage.lastIndex]; omega
    · simp only [RaftLog.firstIndex, Unstable.maybeFirstIndex, MemStorage.firstIndex,
        List.head?_nil]
      omega
    · simp only [RaftLog.lastIndex, Unstable.maybeLastIndex, MemStorage.lastIndex,
        List.getLast?_nil]
      by_cases he : l.unstable.entries.length = 0
      · rw [he] at hls; simp only [he, if_true]; omega
      · simp only [he, if_false]; omega
    · show max l.persisted sn.metadata.index < l.unstable.offset; omega
    · simp only [MemStorage.lastIndex, List.getLast?_nil]; omega
  · rw [RaftLog.abs_some hs, RaftLog.abs_none rfl]
    simp [MemStorage.firstIndex]

/-- **compaction** of the storage up to `index` (`index ≤ committed`, `index ≤ persisted + 1`, and
`index ≤ storage.last_index` unless it is a no-op): the invariant is kept, cursors and the unstable
part are untouched, and without a pending snapshot the logical log is cut below `index` -/
theorem Inv.compactStore_ok {l : RaftLog} (h : l.Inv) (index : Nat) (h1 : index ≤ l.committed)
    (h2 : index ≤ l.persisted + 1)
    (h3 : index ≤ l.store.lastIndex ∨ index ≤ l.store.firstIndex) :
    ∃ l', l.compactStore index = .ok l' ∧ l'.Inv ∧
      (l.unstable.snapshot = none → l'.abs = l.abs.compactTo (index - 1)) ∧
      (∀ sn, l.unstable.snapshot = some sn → l'.abs = l.abs) ∧
      l'.unstable = l.unstable ∧ l'.committed = l.committed ∧ l'.persisted = l.persisted ∧
      l'.applied = l.applied ∧ l'.store.firstIndex = max l.store.firstIndex index ∧
      l'.store.lastIndex = l.store.lastIndex := by
  obtain ⟨st, hcomp, hst, hwf, hfirst, hlast⟩ := h.storeWF.compact_ok index h3
  have hsnap : st.snapshotMetadata = l.store.snapshotMetadata := by rw [hst]
  have hents : st.entries = l.store.entries.drop (index - l.store.firstIndex) := by rw [hst]
  have hpo := h.persisted_lt_off
  have hp := h.storeWF.first_pos
  have hl' : RaftLog.lastIndex { l with store := st } = l.lastIndex := by
    unfold RaftLog.lastIndex; simp only [hlast]
  refine ⟨{ l with store := st }, ?_, ?_, ?_, ?_, rfl, rfl, rfl, rfl, hfirst, hlast⟩
  · unfold RaftLog.compactStore; rw [hcomp]
  · refine ⟨hwf, h.unstWF, ?_, ?_, ?_, ?_, ?_, hpo, ?_⟩
    · intro hs; have := h.first_le_off hs; show st.firstIndex ≤ l.unstable.offset; omega
    · intro hs; have := h.off_le_last hs; show l.unstable.offset ≤ st.lastIndex + 1; omega
    · intro hs hn; have := h.ents_empty hs hn; show l.unstable.offset = st.lastIndex + 1; omega
    · have hd := h.dummy_le_committed
      cases hs : l.unstable.snapshot with
      | none =>
        rw [RaftLog.firstIndex_none hs] at hd
        rw [RaftLog.firstIndex_none (by exact hs)]
        show st.firstIndex ≤ l.committed + 1; omega
      | some sn =>
        rw [RaftLog.firstIndex_some hs] at hd
        rw [RaftLog.firstIndex_some (sn := sn) (by exact hs)]
        exact hd
    · rw [hl']; exact h.committed_le_last
    · have := h.persisted_le_store; show l.persisted ≤ st.lastIndex; omega
  · intro hs
    have hfo := h.first_le_off hs
    have htl := h.take_len hs
    rw [RaftLog.abs_none (by exact hs), RaftLog.abs_none hs]
    simp only [hfirst, hsnap, hents]
    unfold LLog.compactTo
    by_cases hle : index ≤ l.store.firstIndex
    · simp only []
      rw [if_pos (Nat.sub_le_sub_right hle 1), Nat.max_eq_left hle, Nat.sub_eq_zero_of_le hle]
      rfl
    · have hs2 := h.storeWF.snap_lt
      have hFi : l.store.firstIndex ≤ index := Nat.le_of_lt (Nat.lt_of_not_le hle)
      simp only []
      rw [if_neg (fun hc => hle ((Nat.sub_le_sub_iff_right hp).1 hc)), Nat.max_eq_right hFi,
        if_neg (show ¬ index - 1 = l.store.snapshotMetadata.index by omega)]
      simp only [LLog.mk.injEq, true_and]
      have hio : index ≤ l.unstable.offset := Nat.le_trans h2 hpo
      rw [Nat.sub_sub_sub_cancel_right hp,
        List.drop_append_of_le_length (by rw [htl]; exact Nat.sub_le_sub_right hio _),
        List.drop_take, Nat.sub_sub_sub_cancel_right hFi]
  · intro sn hs
    rw [RaftLog.abs_some (by exact hs), RaftLog.abs_some hs]

/-- compaction as a step of the log: entries below `k` are covered afterwards, nothing else moves -/
theorem Inv.compactStore_logStep {l l' : RaftLog} {k : Nat} (hinv : l.Inv)
    (ha : l.applied ≤ l.committed) (hk1 : k ≤ l.applied) (hk2 : k ≤ l.persisted + 1)
    (hk3 : k ≤ l.store.lastIndex) (h : l.compactStore k = .ok l') :
    LogStep l l' ∧ l'.unstable = l.unstable ∧ l'.committed = l.committed ∧
    l'.applied = l.applied ∧ l.store.firstIndex ≤ l'.store.firstIndex ∧
    l'.store.firstIndex ≤ max l.store.firstIndex k := by
  obtain ⟨l2, e, hinv', hn, hs, hu, hc, _, hap, hf, _⟩ :=
    hinv.compactStore_ok k (by omega) hk2 (.inl hk3)
  rw [h] at e; injection e with e; subst e
  refine ⟨⟨hinv', Nat.le_of_eq hc.symm, fun i _ => ?_⟩, hu, hc, hap,
    by rw [hf]; exact Nat.le_max_left _ _, Nat.le_of_eq hf⟩
  cases hsn : l.unstable.snapshot with
  | none => rw [hn hsn]; exact l.abs.compactTo_keeps _ i
  | some sn => rw [hs sn hsn]; exact .inl rfl

end RaftLog
end RaftModel
