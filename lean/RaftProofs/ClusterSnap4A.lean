import RaftProofs.ClusterCommit4I

/-!
Commit safety of `ClusterSem` with snapshots between nodes, part 4A: the per-call relation of
`ClusterCommit4A–4I` for the layer in which snapshots are really sent (namespace `Raft.CS`).

* Nothing mutes a node: `QSnap` is `False` here.  In `Raft.CP` it says "a `MsgSnapshot` is queued",
  which excuses a node only as long as no snapshot reaches the transport.
* A progress in the `Snapshot` state has its pending snapshot within the log *or equal to the snapshot
  index of a `MsgSnapshot` in the queue* (`POk`, `FS`: the storage decides what index a snapshot has;
  the cluster level knows, from the `SnapSend` contract, that it is the recorded commit index).

What this asks of the callers: `handle_snapshot_status` resumes a progress after its pending snapshot,
so `step_pw` / `call_pr` take the hypothesis `hQ` that every queued `MsgSnapshot` names an index
within the log; `maybe_send_append` on the snapshot path queues the `MsgSnapshot` whose index becomes
the pending snapshot (`PerCall.POk.becomeSnapshot`).

The definitions are written out (the cluster level reads them); `rule` packs the two choices, the
relations are the instances at `rule` (`PW.iff`, `PR.iff`), and the lemmas are those of
`Raft.PerCall` read through that.
-/
namespace RaftModel
namespace Raft
namespace CS
open Node

/-- no queue excuses a node in this layer: "a `MsgSnapshot` is queued" (`Raft.CP.QSnap`) excuses one
only as long as no snapshot reaches the transport.  The alternatives `QSnap …` in the definitions
below cannot hold -/
def QSnap (_ms : List Message) : Prop := False

theorem QSnap.append_left {ms : List Message} (l : List Message) (h : QSnap ms) : QSnap (ms ++ l) :=
  h.elim

/-- a `MsgSnapshot` with snapshot index `i` is in the queue -/
def FS (ms : List Message) (i : Nat) : Prop :=
  ∃ x ∈ ms, x.msgType = .msgSnapshot ∧ x.snapshot.metadata.index = i

/-- a progress within a log whose last index is `li` -/
def POk (ms : List Message) (li : Nat) (pr : Progress) : Prop :=
  pr.matched ≤ li ∧ pr.nextIdx ≤ li + 1 ∧
    (pr.state = .snapshot → pr.pendingSnapshot ≤ li ∨ FS ms pr.pendingSnapshot)

/-- every progress of the tracker is within the log -/
def PAll (ms : List Message) (li : Nat) (t : ProgressTracker) : Prop :=
  ∀ p ∈ t.progress, POk ms li p.2

/-- the relation on the fields it reads -/
structure PWP (a : Raft) (st : StateRole) (l : RaftLog) (t : ProgressTracker) (ro : ReadOnly)
    (b : Bool) (ms : List Message) : Prop where
  inv : l.Inv
  nb : b = false
  po : st = .leader → QSnap ms ∨ PAll ms l.lastIndex t
  rd : st = .leader → ∀ p ∈ ro.pendingReadIndex, p.2.index ≤ l.committed
  qa : ∀ x ∈ ms, x.msgType = .msgAppend → x ∈ a.msgs ∨ QSnap ms ∨ x.index ≤ l.lastIndex
  qr : ∀ x ∈ ms, x.msgType = .msgReadIndexResp → x ∈ a.msgs ∨ x.index ≤ l.committed
  sn : ∀ x ∈ a.msgs, x.msgType = .msgSnapshot → x ∈ ms
  /-- the first index of the log has not moved down since the start of the call … -/
  fi : a.raftLog.firstIndex ≤ l.firstIndex
  /-- … and every new `MsgAppend` is anchored at or above the snapshot point (its entries were read
  from the log: below the first index `RaftLog::entries` answers `Compacted`, and a `MsgSnapshot` is
  queued instead) -/
  qf : ∀ x ∈ ms, x.msgType = .msgAppend →
    x ∈ a.msgs ∨ QSnap ms ∨ a.raftLog.firstIndex ≤ x.index + 1

/-- **the per-call relation** -/
def PW (a r : Raft) : Prop := PWP a r.state r.raftLog r.prs r.readOnly r.batchAppend r.msgs

/-- `PW` on a leader -/
def LW (a r : Raft) : Prop := PW a r ∧ r.state = .leader

/-- the progress is within the log (the first alternative cannot hold) -/
def PQ (r : Raft) (pr : Progress) : Prop := QSnap r.msgs ∨ POk r.msgs r.raftLog.lastIndex pr

structure LogGrow (l l' : RaftLog) : Prop where
  inv : l'.Inv
  last : l.lastIndex ≤ l'.lastIndex
  commit : l.committed ≤ l'.committed
  first : l.firstIndex ≤ l'.firstIndex

/-- what a call leaves (the relation without the bookkeeping on the log) -/
structure PR (a r : Raft) : Prop where
  po : r.state = .leader → QSnap r.msgs ∨ PAll r.msgs r.raftLog.lastIndex r.prs
  rd : r.state = .leader → ∀ p ∈ r.readOnly.pendingReadIndex, p.2.index ≤ r.raftLog.committed
  qa : ∀ x ∈ r.msgs, x.msgType = .msgAppend →
    x ∈ a.msgs ∨ QSnap r.msgs ∨ x.index ≤ r.raftLog.lastIndex
  qr : ∀ x ∈ r.msgs, x.msgType = .msgReadIndexResp → x ∈ a.msgs ∨ x.index ≤ r.raftLog.committed
  sn : ∀ x ∈ a.msgs, x.msgType = .msgSnapshot → x ∈ r.msgs
  /-- every new `MsgAppend` is anchored at or above the snapshot point the log had when the call
  started -/
  qf : ∀ x ∈ r.msgs, x.msgType = .msgAppend →
    x ∈ a.msgs ∨ QSnap r.msgs ∨ a.raftLog.firstIndex ≤ x.index + 1

/-! ### the instance -/

/-- no queue mutes the node; a pending snapshot lies within the log or is the index of a queued
`MsgSnapshot` -/
def rule : PerCall.Rule where
  mute := QSnap
  pend := fun ms li i => i ≤ li ∨ FS ms i
  mute_mono := fun h _ => h.elim
  pend_mono := fun h hle hs => h.imp (fun c => Nat.le_trans c hle)
    (fun ⟨x, hx, hty, hi⟩ => ⟨x, hs x hx hty, hty, hi⟩)
  old := fun ms x => x ∈ ms
  flag := fun b => b = false
  floor := RaftLog.firstIndex
  old_mem := fun hx _ => hx
  old_batch := fun hc => nomatch hc
  floor_le := fun _ => Nat.le_refl _
  queued := fun _ hx hty => .inr (.inr ⟨_, hx, hty, rfl⟩)

theorem PW.iff {a r : Raft} : PW a r ↔ PerCall.PW rule a r :=
  ⟨fun h => ⟨h.inv, h.nb, h.po, h.rd, h.qa, h.qr, h.sn, h.fi, h.qf⟩,
   fun h => ⟨h.inv, h.nb, h.po, h.rd, h.qa, h.qr, h.sn, h.fi, h.qf⟩⟩

theorem PR.iff {a r : Raft} : PR a r ↔ PerCall.PR rule a r :=
  ⟨fun h => ⟨h.po, h.rd, h.qa, h.qr, h.sn, h.qf⟩, fun h => ⟨h.po, h.rd, h.qa, h.qr, h.sn, h.qf⟩⟩

/-! ### `POk`, `PAll` -/

theorem POk.mono {ms ms' : List Message} {li li' : Nat} {pr : Progress}
    (h : POk ms li pr) (hle : li ≤ li') (hs : ∀ x ∈ ms, x ∈ ms') : POk ms' li' pr :=
  PerCall.POk.mono (E := rule) h hle (fun x hx _ => hs x hx)

theorem POk.app {ms : List Message} {li : Nat} {pr : Progress}
    (h : POk ms li pr) (l : List Message) : POk (ms ++ l) li pr :=
  PerCall.POk.app (E := rule) h l

/-- only `matched`, `next_idx`, the state and the pending snapshot matter -/
theorem POk.congr {ms : List Message} {li : Nat} {pr pr' : Progress} (h : POk ms li pr)
    (h1 : pr'.matched = pr.matched)
    (h2 : pr'.nextIdx = pr.nextIdx) (h3 : pr'.state = pr.state)
    (h4 : pr'.pendingSnapshot = pr.pendingSnapshot := by rfl) : POk ms li pr' :=
  PerCall.POk.congr (E := rule) h h1 h2 h3 h4

/-- `become_probe`: a progress in the `Snapshot` state resumes after its pending snapshot, which
must lie within the log -/
theorem POk.becomeProbe {ms : List Message} {li : Nat} {pr : Progress} (h : POk ms li pr)
    (hps : pr.state = .snapshot → pr.pendingSnapshot ≤ li) : POk ms li pr.becomeProbe :=
  PerCall.POk.becomeProbe (E := rule) h hps

theorem POk.becomeProbe_ns {ms : List Message} {li : Nat} {pr : Progress} (h : POk ms li pr)
    (hns : pr.state ≠ .snapshot) : POk ms li pr.becomeProbe :=
  h.becomeProbe (fun hc => absurd hc hns)

theorem POk.becomeReplicate {ms : List Message} {li : Nat} {pr : Progress} (h : POk ms li pr) :
    POk ms li pr.becomeReplicate :=
  PerCall.POk.becomeReplicate (E := rule) h

theorem POk.maybeUpdate {ms : List Message} {li : Nat} {pr pr' : Progress} {n : Nat} {b : Bool}
    (h : POk ms li pr)
    (hn : n ≤ li) (hu : pr.maybeUpdate n = .ok (pr', b)) :
    POk ms li pr' ∧ n ≤ pr'.matched ∧ pr'.state = pr.state ∧
      pr'.pendingSnapshot = pr.pendingSnapshot :=
  PerCall.POk.maybeUpdate (E := rule) h hn hu

theorem POk.maybeDecrTo {ms : List Message} {li : Nat} {pr pr' : Progress} {rej hint req : Nat}
    {b : Bool}
    (h : POk ms li pr) (hu : pr.maybeDecrTo rej hint req = .ok (pr', b)) :
    POk ms li pr' ∧ pr'.state = pr.state :=
  PerCall.POk.maybeDecrTo (E := rule) h hu

theorem POk.updateCommitted {ms : List Message} {li : Nat} {pr : Progress} (h : POk ms li pr)
    (c : Nat) : POk ms li (pr.updateCommitted c) :=
  PerCall.POk.updateCommitted (E := rule) h c

theorem POk.reset (ms : List Message) (li : Nat) (pr : Progress) : POk ms li (pr.reset (li + 1)) :=
  PerCall.POk.reset (E := rule) ms li pr

theorem POk.new (ms : List Message) (li n : Nat) (cap : Nat) (hn : n ≤ li + 1) :
    POk ms li (Progress.new n cap) :=
  PerCall.POk.new (E := rule) ms li n cap hn

theorem PAll.mono {ms ms' : List Message} {li li' : Nat} {t : ProgressTracker}
    (h : PAll ms li t) (hle : li ≤ li') (hs : ∀ x ∈ ms, x ∈ ms') :
    PAll ms' li' t := fun p hp => (h p hp).mono hle hs

theorem PAll.app {ms : List Message} {li : Nat} {t : ProgressTracker}
    (h : PAll ms li t) (l : List Message) : PAll (ms ++ l) li t :=
  h.mono (Nat.le_refl _) (fun _ hx => List.mem_append_left _ hx)

theorem PAll.get {ms : List Message} {li : Nat} {t : ProgressTracker} (h : PAll ms li t) {id : Nat} {pr : Progress}
    (hg : t.get id = some pr) : POk ms li pr :=
  PerCall.PAll.get (E := rule) h hg

theorem PAll.set {ms : List Message} {li : Nat} {t : ProgressTracker} (h : PAll ms li t) (id : Nat) {pr : Progress}
    (hp : POk ms li pr) : PAll ms li (t.set id pr) :=
  PerCall.PAll.set (E := rule) h id hp

theorem PAll.modify {ms : List Message} {li : Nat} {t : ProgressTracker} (h : PAll ms li t) (id : Nat)
    (f : Progress → Progress) (hf : ∀ pr, POk ms li pr → POk ms li (f pr)) :
    PAll ms li { t with progress := NatMap.modify id f t.progress } :=
  PerCall.PAll.modify (E := rule) h id f hf

theorem PAll.map {ms : List Message} {li : Nat} {t : ProgressTracker} (h : PAll ms li t) (f : Nat → Progress → Progress)
    (hf : ∀ id pr, POk ms li pr → POk ms li (f id pr)) :
    PAll ms li { t with progress := t.progress.map (fun p => (p.1, f p.1 p.2)) } :=
  PerCall.PAll.map (E := rule) h f hf

/-! ### `PW` -/

theorem PW.inv {a r : Raft} (h : PW a r) : r.raftLog.Inv := PWP.inv h
theorem PW.nb {a r : Raft} (h : PW a r) : r.batchAppend = false := PWP.nb h
theorem PW.po {a r : Raft} (h : PW a r) :
    r.state = .leader → QSnap r.msgs ∨ PAll r.msgs r.raftLog.lastIndex r.prs := PWP.po h
theorem PW.rd {a r : Raft} (h : PW a r) :
    r.state = .leader → ∀ p ∈ r.readOnly.pendingReadIndex, p.2.index ≤ r.raftLog.committed :=
  PWP.rd h
theorem PW.qa {a r : Raft} (h : PW a r) : ∀ x ∈ r.msgs, x.msgType = .msgAppend →
    x ∈ a.msgs ∨ QSnap r.msgs ∨ x.index ≤ r.raftLog.lastIndex := PWP.qa h
theorem PW.qr {a r : Raft} (h : PW a r) : ∀ x ∈ r.msgs, x.msgType = .msgReadIndexResp →
    x ∈ a.msgs ∨ x.index ≤ r.raftLog.committed := PWP.qr h
theorem PW.sn {a r : Raft} (h : PW a r) : ∀ x ∈ a.msgs, x.msgType = .msgSnapshot → x ∈ r.msgs :=
  PWP.sn h
theorem PW.fi {a r : Raft} (h : PW a r) : a.raftLog.firstIndex ≤ r.raftLog.firstIndex := PWP.fi h
theorem PW.qf {a r : Raft} (h : PW a r) : ∀ x ∈ r.msgs, x.msgType = .msgAppend →
    x ∈ a.msgs ∨ QSnap r.msgs ∨ a.raftLog.firstIndex ≤ x.index + 1 := PWP.qf h

/-- the start of a call -/
theorem PW.start {a : Raft} (hinv : a.raftLog.Inv) (hnb : a.batchAppend = false)
    (hpo : a.state = .leader → QSnap a.msgs ∨ PAll a.msgs a.raftLog.lastIndex a.prs)
    (hrd : a.state = .leader → ∀ p ∈ a.readOnly.pendingReadIndex, p.2.index ≤ a.raftLog.committed) :
    PW a a :=
  PW.iff.2 (PerCall.PW.start hinv hnb hpo hrd)

/-- any structure update that keeps the role, the log, the tracker, the pending reads, the batching
flag and the queue keeps `PW` -/
theorem PW.mk' {a r : Raft} {x1 x2 x3 : Nat} {x4 : List ReadState} {x6 x7 x8 : Nat}
    {x10 : Bool} {x11 : Nat}
    {x12 : Option Nat} {x13 : Nat} {x15 x16 : Nat} {x17 x18 x19 x21 : Bool}
    {x22 x23 x24 x25 x26 : Nat} {x27 : Int} {x28 : UncommittedState} {x29 : Nat}
    {x32 : Option Nat} (h0 : PW a r) :
    PW a { term := x1, vote := x2, id := x3, readStates := x4, raftLog := r.raftLog,
           maxInflight := x6, maxMsgSize := x7, pendingRequestSnapshot := x8, state := r.state,
           promotable := x10, leaderId := x11, leadTransferee := x12,
           pendingConfIndex := x13, readOnly := r.readOnly, electionElapsed := x15,
           heartbeatElapsed := x16, checkQuorum := x17, preVote := x18,
           skipBcastCommit := x19, batchAppend := r.batchAppend, disableProposalForwarding := x21,
           heartbeatTimeout := x22, electionTimeout := x23, randomizedElectionTimeout := x24,
           minElectionTimeout := x25, maxElectionTimeout := x26, priority := x27,
           uncommittedState := x28, maxCommittedSizePerReady := x29, prs := r.prs, msgs := r.msgs,
           nextRand := x32 } := h0

/-- replacing the log by one that represents the same logical log -/
theorem PW.log {a r : Raft} {l : RaftLog} (hl : LogSame r.raftLog l) (h0 : PW a r) :
    PW a { r with raftLog := l } :=
  PW.iff.2 ((PW.iff.1 h0).log hl)

/-- replacing the tracker -/
theorem PW.prs {a r : Raft} {t : ProgressTracker} (h0 : PW a r)
    (ht : r.state = .leader → QSnap r.msgs ∨ PAll r.msgs r.raftLog.lastIndex t) :
    PW a { r with prs := t } :=
  ⟨h0.inv, h0.nb, ht, h0.rd, h0.qa, h0.qr, h0.sn, h0.fi, h0.qf⟩

/-- writing back one progress -/
theorem PW.setPr {a r : Raft} {id : Nat} {pr : Progress} (h0 : PW a r)
    (hp : QSnap r.msgs ∨ POk r.msgs r.raftLog.lastIndex pr) :
    PW a { r with prs := r.prs.set id pr } :=
  PW.iff.2 ((PW.iff.1 h0).setPr hp)

/-- replacing the pending reads -/
theorem PW.ro {a r : Raft} {ro : ReadOnly} (h0 : PW a r)
    (hr : r.state = .leader → ∀ p ∈ ro.pendingReadIndex, p.2.index ≤ r.raftLog.committed) :
    PW a { r with readOnly := ro } :=
  ⟨h0.inv, h0.nb, h0.po, hr, h0.qa, h0.qr, h0.sn, h0.fi, h0.qf⟩

/-- leaving the leader role (or staying outside it) with log, queue and flag untouched -/
theorem PW.nonleader {a r : Raft} (h0 : PW a r) {st : StateRole} {t : ProgressTracker}
    {ro : ReadOnly} (hst : st ≠ .leader) :
    PWP a st r.raftLog t ro r.batchAppend r.msgs :=
  ⟨h0.inv, h0.nb, fun h => absurd h hst, fun h => absurd h hst, h0.qa, h0.qr, h0.sn, h0.fi, h0.qf⟩

/-- appending one message to the queue: what is asked of an append or a read response -/
theorem PW.push {a r : Raft} (h0 : PW a r) (x : Message)
    (ha : x.msgType = .msgAppend → QSnap r.msgs ∨ x.index ≤ r.raftLog.lastIndex)
    (hr : x.msgType = .msgReadIndexResp → x.index ≤ r.raftLog.committed)
    (hf : x.msgType = .msgAppend → QSnap r.msgs ∨ r.raftLog.firstIndex ≤ x.index + 1) :
    PW a { r with msgs := r.msgs ++ [x] } :=
  PW.iff.2 ((PW.iff.1 h0).push x ha hr
    (fun hc => (hf hc).imp (fun c => c) (Nat.le_trans h0.fi)))

/-- queueing a `MsgSnapshot` (the tracker is replaced at the same time) -/
theorem PW.pushSnap {a r : Raft} (h0 : PW a r) (x : Message) (hx : x.msgType = .msgSnapshot)
    (t : ProgressTracker)
    (ht : r.state = .leader → PAll (r.msgs ++ [x]) r.raftLog.lastIndex t) :
    PW a { r with msgs := r.msgs ++ [x], prs := t } :=
  (h0.push x (fun hc => by rw [hx] at hc; cases hc) (fun hc => by rw [hx] at hc; cases hc)
    (fun hc => by rw [hx] at hc; cases hc)).prs (fun hs => .inr (ht hs))

/-! ### the leader world, the result of a call -/

theorem LW.pw {a r : Raft} (h : LW a r) : PW a r := h.1
theorem LW.lead {a r : Raft} (h : LW a r) : r.state = .leader := h.2

/-- the progress of a peer of a leader -/
theorem LW.getPr {a r : Raft} (h : LW a r) {id : Nat} {pr : Progress} (hg : r.prs.get id = some pr) :
    QSnap r.msgs ∨ POk r.msgs r.raftLog.lastIndex pr :=
  (h.1.po h.2).imp (fun c => c) (fun c => c.get hg)

theorem LW.setPr {a r : Raft} {id : Nat} {pr : Progress} (h0 : LW a r)
    (hp : QSnap r.msgs ∨ POk r.msgs r.raftLog.lastIndex pr) :
    LW a { r with prs := r.prs.set id pr } := ⟨h0.1.setPr hp, h0.2⟩

theorem PQ.imp {r : Raft} {pr pr' : Progress} (h : PQ r pr)
    (hf : POk r.msgs r.raftLog.lastIndex pr → POk r.msgs r.raftLog.lastIndex pr') : PQ r pr' :=
  Or.imp (fun x => x) hf h

theorem PQ.send {r r' : Raft} {pr : Progress} {m : Message} (h : r.send m = .ok r')
    (hp : PQ r pr) : PQ r' pr :=
  PerCall.PQ.send (E := rule) h hp

theorem becomeFollower_nl (r : Raft) (t l : Nat) : (r.becomeFollower t l).state ≠ .leader :=
  PerCall.becomeFollower_nl r t l

theorem PW.pr {a r : Raft} (h : PW a r) : PR a r := ⟨h.po, h.rd, h.qa, h.qr, h.sn, h.qf⟩

theorem PR.of_same {a r r' : Raft} (h : PR a r) (hs : r'.state = r.state) (hp : r'.prs = r.prs)
    (hro : r'.readOnly = r.readOnly) (hm : r'.msgs = r.msgs)
    (hl : r.raftLog.lastIndex ≤ r'.raftLog.lastIndex)
    (hc : r.raftLog.committed ≤ r'.raftLog.committed) : PR a r' :=
  PR.iff.2 ((PR.iff.1 h).of_same hs hp hro hm hl hc)

/-- an admissible pending snapshot lies within the log once every queued `MsgSnapshot` does -/
theorem pend_le {ms : List Message} {li i : Nat}
    (hQ : ∀ x ∈ ms, x.msgType = .msgSnapshot → x.snapshot.metadata.index ≤ li)
    (hp : rule.pend ms li i) : i ≤ li := by
  rcases hp with c | ⟨x, hx, hty, hi⟩
  · exact c
  · rw [← hi]; exact hQ x hx hty

/-! ### one call -/

/-- **one call of a node** -/
theorem call_pr (st st' : NState) (rnd : Option Nat) (op : NodeOp) (res : OpRes)
    (hinv : st.raft.raftLog.Inv) (hnb : st.raft.batchAppend = false)
    (hop : op ≠ .drain ∧ ∀ m, op ≠ .rstep m) (hc : ∀ k, op ≠ .compact k)
    (hsn : st.raft.raftLog.unstable.snapshot = none)
    (hms : ∀ m, op = .step m → m.msgType ≠ .msgSnapshot)
    (hpo : st.raft.state = .leader →
      QSnap st.raft.msgs ∨ PAll st.raft.msgs st.raft.raftLog.lastIndex st.raft.prs)
    (hQ : st.raft.state = .leader → ∀ x ∈ st.raft.msgs,
      x.msgType = .msgSnapshot → x.snapshot.metadata.index ≤ st.raft.raftLog.lastIndex)
    (hrd : st.raft.state = .leader → ∀ p ∈ st.raft.readOnly.pendingReadIndex,
      p.2.index ≤ st.raft.raftLog.committed)
    (hB : ∀ m, op = .step m → st.raft.state = .leader → m.msgType = .msgAppendResponse →
      m.reject = false → (m.term = 0 ∨ m.term = st.raft.term) →
      m.index ≤ st.raft.raftLog.lastIndex)
    (h : Node.call st rnd op = .ok (res, st')) : PR st.raft st'.raft :=
  PR.iff.2 (PerCall.call_pr st st' rnd op res hinv hnb hop hc hsn hms hpo
    (fun hs _ hp => pend_le (hQ hs) hp) hrd hB h)

end CS
end Raft
end RaftModel
