import RaftProofs.ClusterConfI

/-!
C09 at the cluster level, part J: `promotable` IS "voter of my own active configuration" — in every
state of every (plain) history.  `PromOk r : r.promotable = Joint.contains r.prs.voters r.id`.
`post_conf_change` establishes it whenever the configuration is replaced (`apply_conf_change`,
`restore`, `RawNode::new`); every other call keeps the configuration (`call_conf`), the id and the flag
(`CV.call_nstep`).
-/
namespace RaftModel
namespace Raft
open VoteOb Node

/-- the `promotable` flag says "I am a voter (either half) of my own active configuration" -/
def PromOk (r : Raft) : Prop := r.promotable = Joint.contains r.prs.voters r.id

theorem voters_of_tc {a r : Raft} (h : TC a r) : r.prs.voters = a.prs.voters := by
  have hc : r.prs.conf = a.prs.conf := congrArg Tracker.conf h
  unfold ProgressTracker.voters
  rw [hc]

/-- same configuration, same id, same flag -/
theorem PromOk.of_same {a r : Raft} (h : PromOk a) (h1 : TC a r) (h2 : r.id = a.id)
    (h3 : r.promotable = a.promotable) : PromOk r := by
  unfold PromOk at *
  rw [h3, voters_of_tc h1, h2]; exact h

/-- **`post_conf_change` sets the flag** (raft.rs:2743), in every branch -/
theorem postConfChange_promOk {r r' : Raft} {cs : ConfState} (h : r.postConfChange = .ok (r', cs)) :
    PromOk r' := by
  have := Res.Post.of_eq (CV.postConfChange_cases r) h
  rcases this with ⟨_, hv, e⟩ | e | ⟨r2, hf, e⟩
  · have e' : r' = _ := e
    rw [e']
    unfold PromOk
    rw [CV.becomeFollower_promotable]
    have hk := c02_becomeFollower_keep ({ r with promotable := false } : Raft) r.term 0
    unfold ProgressTracker.voters
    rw [hk.conf, hk.id]
    exact hv.symm
  · have e' : r' = _ := e
    rw [e']
    rfl
  · have e' : r' = _ := e
    rw [e']
    have h1 : r2.promotable = Joint.contains r2.prs.voters r2.id := by
      rw [hf.promotable, hf.voters, hf.id]
    split
    · split
      · exact h1
      · exact h1
    · exact h1

theorem applyConfChange_promOk {r r' : Raft} {cc : ConfChangeV2} {x : Except ErrKind ConfState}
    (hp : PromOk r) (h : r.applyConfChange cc = .ok (r', x)) : PromOk r' := by
  unfold Raft.applyConfChange at h
  simp only [] at h
  split at h
  · cases h; exact hp
  · rw [Res.bind_eq_ok_iff] at h
    obtain ⟨⟨r1, cs⟩, hpc, h⟩ := h
    cases h
    exact postConfChange_promOk hpc

/-- `restore`: the tracker view, the id and the flag are kept, or the flag was set by
`post_conf_change` -/
theorem restore_prom {r r' : Raft} {snap : Snapshot} {b : Bool}
    (h : r.restore snap = .ok (r', b)) :
    (TC r r' ∧ r'.id = r.id ∧ r'.promotable = r.promotable) ∨ PromOk r' := by
  rcases restore_cases h with ⟨_, rfl⟩ | ⟨_, _, rfl⟩ | ⟨_, _, _, l, _, rfl⟩ |
    ⟨_, _, _, l, prs, r1, cs, _, pr', _, _, _, hpc, _, _, rfl⟩
  · exact .inl ⟨TC.rfl, rfl, rfl⟩
  · exact .inl ⟨becomeFollower_tc _ _ TC.rfl, (c02_becomeFollower_keep _ _ _).id,
      CV.becomeFollower_promotable _ _ _⟩
  · exact .inl ⟨TC.mk' TC.rfl, rfl, rfl⟩
  · exact .inr ((postConfChange_promOk hpc).of_same (TC.set _ _ (TC.mk' TC.rfl)) rfl rfl)

theorem handleSnapshot_prom {r r' : Raft} {m : Message} (h : r.handleSnapshot m = .ok r') :
    (TC r r' ∧ r'.id = r.id ∧ r'.promotable = r.promotable) ∨ PromOk r' := by
  unfold Raft.handleSnapshot at h
  rw [Res.bind_eq_ok_iff] at h
  obtain ⟨⟨r1, ok⟩, hr, h⟩ := h
  simp only [] at h
  have hs : r' = { r1 with msgs := r'.msgs } := by
    split at h
    · rw [send_eq _ _ _ h]
    · rw [send_eq _ _ _ h]
  have hs1 : TC r1 r' ∧ r'.id = r1.id ∧ r'.promotable = r1.promotable := by
    rw [hs]; exact ⟨TC.mk' TC.rfl, rfl, rfl⟩
  rcases restore_prom hr with ⟨g1, g2, g3⟩ | g
  · exact .inl ⟨g1.trans hs1.1, hs1.2.1.trans g2, hs1.2.2.trans g3⟩
  · exact .inr (g.of_same hs1.1 hs1.2.1 hs1.2.2)

/-- the flag after a stretch of a call that keeps the tracker view: kept with the id, or set -/
theorem PromOk.of_vinv {a r : Raft} {m : Message} (hp : PromOk a) (hv : CV.VInv a m r)
    (htc : TC a r) : PromOk r :=
  hv.pk.elim (hp.of_same htc hv.id) fun g => g

/-- **every call through `Raft::step` or `tick` keeps `PromOk`** -/
theorem Run.promOk {a r : Raft} {m : Message} (h : Run a m r) (hp : PromOk a) : PromOk r := by
  induction h with
  | start => exact hp
  | plain _ hf ih =>
    exact ih.of_same hf.tc (congrArg HCore.id hf.core) (congrArg HCore.promotable hf.core)
  | follow t l _ _ _ _ ih =>
    exact ih.of_same (becomeFollower_tc _ _ TC.rfl) (c02_becomeFollower_keep _ _ _).id
      (CV.becomeFollower_promotable _ _ _)
  | reject _ _ hs ih => rw [send_eq _ _ _ hs]; exact ih
  | @hup r r' b _ hty _ _ _ hc ih =>
    exact ih.of_vinv ((CV.hup_vinv b (CV.VInv.refl r m)
      (by rcases hty with g | g <;> rw [g] <;> decide)).of_eq hc).1 (hup_tc hc TC.rfl)
  | @vote r r' _ _ _ hmt hc ih =>
    exact ih.of_vinv ((CV.stepVote_vinv (CV.VInv.refl r m) hmt).of_eq hc) (stepVote_tc hc TC.rfl)
  | poll _ hg _ hp hb ih =>
    exact ih.of_vinv (Run.poll .start hg ⟨rfl, rfl⟩ hp hb).vinv
      (maybeCommitByVote_tc hb (poll_tc hp TC.rfl))
  | snapshot _ _ _ hc ih =>
    exact (handleSnapshot_prom hc).elim (fun g => ih.of_same g.1 g.2.1 g.2.2) fun g => g
  | heard _ _ _ ih => exact ih
  | abort _ _ ih => exact ih
  | transferee _ _ ih => exact ih
  | timeoutNow _ _ _ hs ih =>
    unfold Raft.sendTimeoutNow at hs
    rw [send_eq _ _ _ hs]; exact ih

/-- **one call of a node, any `NodeOp`, keeps `PromOk` and the id** -/
theorem call_promOk (st st' : NState) (rnd : Option Nat) (op : NodeOp) (res : OpRes)
    (hp : PromOk st.raft) (h : Node.call st rnd op = .ok (res, st')) :
    PromOk st'.raft ∧ st'.raft.id = st.raft.id := by
  have hn := CV.call_nstep st st' rnd op res h
  refine ⟨?_, hn.id⟩
  have fromTC : TC st.raft st'.raft → PromOk st'.raft := by
    intro htc
    rcases hn.pk with g | g
    · exact hp.of_same htc hn.id g
    · exact g
  have hc := call_conf st st' rnd op res h
  have hp' : PromOk ({ st.raft with nextRand := rnd } : Raft) := hp
  cases applyOp_parts h with
  | confChanged hx | confRefused hx => exact applyConfChange_promOk hp' hx
  | step hx =>
    rcases RawNode.step_inv hx with hr | ⟨_, hx⟩
    · rw [hr]; exact hp'
    · exact (step_run rnd hx).promOk hp
  | rstep hx => exact (step_run rnd hx).promOk hp
  | _ => exact fromTC hc

end Raft

namespace Cluster
open Raft

/-- **`promotable` = "voter of my own active configuration", in every state of every history**; and
every node carries its own id -/
theorem prom_hist {h : List Sys} (hh : History h) :
    ∀ s ∈ h, ∀ i st, s.node i = some st → st.raft.id = i ∧ PromOk st.raft := fun s hs =>
  have ⟨n, hn⟩ := List.mem_iff_getElem?.1 hs
  node_hist (C := .free) (P := fun i st => st.raft.id = i ∧ PromOk st.raft) h hh
    (fun _ a b ha hb => (hist_step_at hh _ a b ha hb).moved) (fun g => g)
    (fun _ st c store rnd hid hb =>
      have B := CV.boot_booted c store rnd st hb
      ⟨B.id.trans hid, B.prom⟩)
    (fun _ _ _ st st' rnd op res _ _ ih _ hcall =>
      have g := call_promOk st st' rnd op res ih.2 hcall
      ⟨g.2.trans ih.1, g.1⟩) n s hn

end Cluster
end RaftModel
