import RaftProofs.ClusterVoteE
import RaftModel.Cluster
import RaftProofs.NodeHandlers

/-!
Cluster-level election safety, helper lemmas part F: what ONE call of `Node.call` (any `NodeOp`) and
`Node.boot` do to the part of a node the vote argument reads.
-/
namespace RaftModel
namespace Raft
namespace CV
open VoteOb Node

/-- what a call may do to the stored `(term, vote)`: nothing; write the current pair (`stabilize`);
raise the stored term keeping the stored vote (`persist_snap` of a snapshot of a later term) -/
def HsRel (a r : Raft) : Prop :=
  (r.raftLog.store.hardState.term = a.raftLog.store.hardState.term ∧
    r.raftLog.store.hardState.vote = a.raftLog.store.hardState.vote) ∨
  (r.raftLog.store.hardState.term = r.term ∧ r.raftLog.store.hardState.vote = r.vote ∧
    r.term = a.term ∧ r.vote = a.vote) ∨
  (a.raftLog.store.hardState.term < r.raftLog.store.hardState.term ∧
    r.raftLog.store.hardState.vote = a.raftLog.store.hardState.vote)

/-- one call on a node: `VInv` without the clause on the storage, plus `HsRel` -/
structure NStep (a : Raft) (m : Message) (r : Raft) : Prop where
  id : r.id = a.id
  hs : HsRel a r
  tv : TV a r
  pk : r.promotable = a.promotable ∨ r.promotable = Joint.contains r.prs.voters r.id
  nf : r.state ≠ .follower → a.state ≠ .follower ∨ r.promotable = true
  msgs : ∀ x ∈ r.msgs, isRVm x = true → x ∈ a.msgs ∨ Fresh a m r x
  cand : r.state = .candidate → ∀ j, (j, true) ∈ r.prs.votes → Backed a m r.term j
  lead : r.state = .leader →
    (a.state = .leader ∧ a.term = r.term) ∨
    ∃ Q, IsJointQuorum r.prs.voters Q ∧ ∀ j ∈ Q, Backed a m r.term j

theorem VInv.nstep {a r : Raft} {m : Message} (h : VInv a m r) : NStep a m r :=
  ⟨h.id, Or.inl ⟨by rw [h.hs], by rw [h.hs]⟩, h.tv, h.pk, h.nf, h.msgs, h.cand, h.lead⟩

/-- replacing the log of the result -/
theorem VInv.nstepLog {a r : Raft} {m : Message} (h : VInv a m r) (l : RaftLog)
    (hhs : HsRel a ({ r with raftLog := l } : Raft)) : NStep a m ({ r with raftLog := l } : Raft) :=
  ⟨h.id, hhs, h.tv, h.pk, h.nf, h.msgs, h.cand, h.lead⟩

/-- a call that started from `a` with another log -/
theorem VInv.nstepFrom {a r : Raft} {m : Message} {l : RaftLog}
    (h : VInv ({ a with raftLog := l } : Raft) m r) (hhs : HsRel a r) : NStep a m r :=
  ⟨h.id, hhs, h.tv, h.pk, h.nf, h.msgs, h.cand, h.lead⟩

theorem unitRes_ok {st : NState} {x : Res (Raft × Option RaftError)} {res : OpRes} {st' : NState}
    (h : unitRes st x = .ok (res, st')) : ∃ raft e, x = .ok (raft, e) ∧ st'.raft = raft := by
  unfold unitRes at h
  split at h
  · cases h; exact ⟨_, _, rfl, rfl⟩
  · cases h; exact ⟨_, _, rfl, rfl⟩
  · cases h
  · cases h

theorem okRes_ok {st : NState} {x : Res Raft} {res : OpRes} {st' : NState}
    (h : okRes st x = .ok (res, st')) : ∃ raft, x = .ok raft ∧ st'.raft = raft := by
  unfold okRes at h
  split at h
  · cases h; exact ⟨_, rfl, rfl⟩
  · cases h
  · cases h

/-- `on_entries_fetched`: a stale context changes nothing; otherwise the node is leader of the given term, the
peer has a progress, and the call is `send_append(to)` / `send_append_aggressively(to)` -/
theorem onEntriesFetched_ok {st : NState} {to term : Nat} {aggr : Bool} {res : OpRes} {st' : NState}
    (h : applyOp st (.onEntriesFetched to term aggr) = .ok (res, st')) :
    st' = st ∨
    (st.raft.term = term ∧ st.raft.state = .leader ∧ (st.raft.prs.get to).isSome = true ∧
      ∃ raft, (st.raft.sendAppendAggressively to = .ok raft ∨ st.raft.sendAppend to = .ok raft) ∧
        st' = { st with raft := raft }) := by
  simp only [applyOp] at h
  split at h
  · cases h; exact Or.inl rfl
  · rename_i hg
    split at h
    · cases h; exact Or.inl rfl
    · rename_i hp
      right
      have hg' : st.raft.term = term ∧ st.raft.state = .leader := by
        constructor
        · apply Classical.byContradiction; intro hc; exact hg (Or.inl hc)
        · apply Classical.byContradiction; intro hc; exact hg (Or.inr hc)
      refine ⟨hg'.1, hg'.2, ?_, ?_⟩
      · cases hq : st.raft.prs.get to with
        | none => rw [hq] at hp; exact absurd rfl hp
        | some _ => rfl
      · unfold okRes at h
        split at h
        · rename_i raft hx
          cases h
          refine ⟨raft, ?_, rfl⟩
          cases aggr with
          | true => left; simpa using hx
          | false => right; simpa using hx
        · cases h
        · cases h

/-- the message a call is tagged with: the stepped message, or a local one -/
def opMsg : NodeOp → Message
  | .step m => m
  | .rstep m => m
  | _ => mLocal

theorem compact_hs {s s' : MemStorage} {k : Nat} (h : s.compact k = .ok s') :
    s'.hardState = s.hardState := C06.storeCompact_hardState h

theorem hsRel_same {a r : Raft}
    (h : r.raftLog.store.hardState = a.raftLog.store.hardState) : HsRel a r :=
  Or.inl ⟨by rw [h], by rw [h]⟩

/-- the message a call steps is no real-vote message unless it is delivered -/
theorem runTag_local (a : Raft) {op : NodeOp} (h : opMsg op = mLocal) :
    isRVt (runTag a op).msgType = false := by
  cases op <;> first | rfl | (cases h; rfl)

/-- **one call of a node, any `NodeOp`** -/
theorem call_nstep (st st' : NState) (rnd : Option Nat) (op : NodeOp) (res : OpRes)
    (h : Node.call st rnd op = .ok (res, st')) : NStep st.raft (opMsg op) st'.raft := by
  have hrefl : VInv st.raft mLocal ({ st.raft with nextRand := rnd } : Raft) :=
    (Run.rand st.raft mLocal rnd).vinv
  cases applyOp_parts h with
  | stabilize hx =>
    exact stabilize_parts (Q := fun a => NStep st.raft mLocal a.raft) hx
      fun _ => hrefl.nstepLog _ (Or.inr (Or.inl ⟨rfl, rfl, rfl, rfl⟩))
  | persistSnap hx =>
    refine persistSnap_parts (Q := fun a => NStep st.raft mLocal a.raft) hx hrefl.nstep ?_
    intro s store l raft _ hap hl hop
    have hf := (onPersistSnap_hf hop HF.rf).vf
    have hv : VInv ({ st.raft with raftLog := l } : Raft) mLocal raft :=
      ((VInv.refl _ mLocal).vf ⟨rfl, rfl⟩).vf hf
    refine hv.nstepFrom ?_
    have e1 : raft.raftLog.store.hardState = store.hardState := by
      rw [hf.hs]; show l.store.hardState = _; rw [C06.stableSnap_store hl]
    have e2 : store.hardState = { st.raft.raftLog.store.hardState with
        term := max st.raft.raftLog.store.hardState.term s.metadata.term,
        commit := s.metadata.index } := by
      unfold MemStorage.applySnapshot at hap
      dsimp only at hap
      split at hap
      · cases hap
      · cases hap; rfl
    unfold HsRel
    rw [e1, e2]
    by_cases hmax : st.raft.raftLog.store.hardState.term < s.metadata.term
    · right; right
      exact ⟨by show _ < max _ _; omega, rfl⟩
    · left
      exact ⟨by show max _ _ = _; omega, rfl⟩
  | commitApply hx =>
    -- `VInv` up to `commit_apply`; recording the applied index touches the stored commit index only
    unfold Node.commitApply at hx
    simp only at hx
    split at hx
    · rename_i r2 hb
      obtain ⟨r1, h1, h2⟩ := Res.bind_eq_ok hb
      have hv1 : VInv st.raft mLocal r1 := by
        split at h1
        · split at h1
          · cases h1; exact hrefl.vf (reduceUncommittedSize_vf _ _)
          · cases h1; exact hrefl
          · cases h1
        · cases h1; exact hrefl
      have hv2 : VInv st.raft mLocal r2 := hv1.vf ((commitApply_vf _ _).of_eq h2)
      cases hx
      split
      · exact hv2.nstepLog _ (Or.inl ⟨by rw [← hv2.hs], by rw [← hv2.hs]⟩)
      · exact hv2.nstep
    · cases hx
    · cases hx
  | compact hc => exact hrefl.nstepLog _ (hsRel_same (compact_hs hc))
  | drain =>
    have hv : VInv st.raft mLocal
        ({ ({ st.raft with nextRand := rnd } : Raft) with msgs := [], readStates := [] } : Raft) :=
      hrefl.of_ncore rfl (by intro x hx; cases hx)
    exact hv.nstep
  | triggerSnap | triggerLog => exact hrefl.nstepLog _ (hsRel_same rfl)
  | confChanged hx | confRefused hx =>
    exact ((applyConfChange_vinv _ _).of_eq hx).rebaseRand.nstep
  | step hx => exact (call_run rfl h).vinv.nstep
  | rstep hx => exact (call_run rfl h).vinv.nstep
  | _ => exact ((call_run rfl h).vinv.retag (runTag_local _ rfl) rfl).nstep

/-- `drain` clears the queue and changes nothing else the vote argument reads -/
theorem drain_eq (st st' : NState) (h : Node.call st none .drain = .ok (.ok, st')) :
    ncore st'.raft = ncore st.raft ∧ st'.raft.msgs = [] := by
  unfold Node.call at h
  simp only [applyOp] at h
  cases h
  exact ⟨rfl, rfl⟩

/-! ### `RawNode::new` -/

/-- what a freshly booted node looks like -/
structure Booted (c : Config) (store : MemStorage) (r : Raft) : Prop where
  id : r.id = c.id
  idnz : c.id ≠ 0
  msgs : r.msgs = []
  state : r.state = .follower
  term : r.term = store.hardState.term
  vote : r.vote = store.hardState.vote
  hs : r.raftLog.store.hardState = store.hardState
  prom : r.promotable = Joint.contains r.prs.voters r.id

theorem postConfChange_follower_eq (r : Raft) (hs : r.state = .follower) :
    r.postConfChange = .ok ({ r with promotable := Joint.contains r.prs.voters r.id },
      r.prs.conf.toConfState) :=
  postConfChange_eq (by rw [hs]; decide)

theorem raftNew_booted (c : Config) (store : MemStorage) (rnd : Option Nat) (r : Raft)
    (hid : c.id ≠ 0) (h : Raft.new c store rnd = .ok (.ok r)) : Booted c store r := by
  obtain ⟨_, log, prs, hnew, _, _, _, rfl⟩ := raftNew_inv h
  have hk := c02_becomeFollower_keep (loadedNode c log rnd prs store.hardState) store.hardState.term 0
  obtain ⟨f1, _, _, f4, f5⟩ :=
    c02_becomeFollower_fields (loadedNode c log rnd prs store.hardState) store.hardState.term 0
  refine ⟨hk.id, hid, hk.msgs, f1, f4, ?_, ?_, ?_⟩
  · rw [f5]; exact if_neg (fun hc => hc rfl)
  · rw [hk.log.store]; exact congrArg (·.store.hardState) (RaftLog.new_inv hnew).2
  · rw [becomeFollower_promotable]
    unfold ProgressTracker.voters
    rw [hk.conf, hk.id]; rfl

theorem boot_booted (c : Config) (store : MemStorage) (rnd : Option Nat) (st : NState)
    (h : Node.boot c store rnd = .ok (.ok st)) : Booted c store st.raft :=
  have h1 := Node.boot_inv h
  raftNew_booted c store rnd st.raft h1.1 h1.2.1

end CV
end Raft
end RaftModel
