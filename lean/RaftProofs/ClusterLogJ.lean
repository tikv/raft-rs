import RaftProofs.ClusterLogI

/-!
Cluster-level Log Matching, part J: the cluster invariant `InvL` and its preservation by a transition
`Trans` (one node replaced, provenance of all chains known).

`own k t` is the *prophecy* "node `k` is the node that leads term `t` somewhere in the history under
consideration" (unique per term by Election Safety); the invariant is stated relative to it:

* `fresh`: while the owner of `t` can still become leader of `t` (its term is below `t`, or it is
  candidate of `t`), no entry of term `t` exists anywhere;
* `dur`: while the owner's *stored* term is below `t`, entries of term `t` exist only in its own
  volatile places (its in-memory log and queue) — so a crash then erases them all;
* `lead`: while a node leads `t`, every entry of term `t` anywhere has an index within its log;
* `agree`: all chains agree pairwise (same index and term ⇒ same entry, same predecessor term).
-/
namespace RaftModel
namespace Cluster
open Node Raft

/-- the node can still become leader of term `t` without a restart -/
def CanLead (r : Raft) (t : Nat) : Prop := r.term < t ∨ (r.term = t ∧ r.state = .candidate)

theorem CanLead.back {a r : Raft} {t : Nat} (rt : RT a r) (h : CanLead r t) : CanLead a t := by
  rcases h with h | ⟨h1, h2⟩
  · exact .inl (by have := rt.le; omega)
  · rcases rt.cand h2 with c | ⟨c1, c2⟩
    · exact .inl (by omega)
    · exact .inr ⟨by omega, c2⟩

structure InvL (own : Nat → Nat → Prop) (ini : Entry → Prop) (s : Sys) : Prop where
  inv : ∀ i st, s.node i = some st → st.raft.raftLog.Inv
  tz : ∀ i st, s.node i = some st → (st.raft.state = .candidate ∨ st.raft.state = .leader) →
    st.raft.term ≠ 0
  wfq : ∀ i st x, s.node i = some st → x ∈ st.raft.msgs → x.msgType = .msgAppend →
    ContigFrom (x.index + 1) x.entries
  wfn : ∀ x, x ∈ s.net → x.msgType = .msgAppend → ContigFrom (x.index + 1) x.entries
  nz : ∀ loc g, At s loc g → ∀ i e, g.entryAt i = some e → e.term ≠ 0
  agree : ∀ l1 g1 l2 g2, At s l1 g1 → At s l2 g2 → Agree g1 g2
  fresh : ∀ k t st, own k t → s.node k = some st → CanLead st.raft t →
    ∀ loc g, At s loc g → ∀ i e, g.entryAt i = some e → e.term ≠ t
  dur : ∀ k t st, own k t → s.node k = some st → st.raft.raftLog.store.hardState.term < t →
    ∀ loc g, At s loc g → ¬ Vol k loc → ∀ i e, g.entryAt i = some e → e.term ≠ t
  lead : ∀ k st, s.node k = some st → st.raft.state = .leader →
    ∀ loc g, At s loc g → ∀ i e, g.entryAt i = some e → e.term = st.raft.term →
      i ≤ st.raft.raftLog.lastIndex
  /-- every entry was there from the start (`ini`) or carries a term that has an owner -/
  orig : ∀ loc g, At s loc g → ∀ i e, g.entryAt i = some e → ini e ∨ ∃ k, own k e.term

/-- one transition: node `k` goes from `st` to `st'`, everything else is kept (the transport may
grow by `k`'s queue); `pers`: the step makes volatile content of `k` durable, which requires the
stored term to be the current one; `crash`: the step is a restart -/
structure Trans (s s' : Sys) (k : Nat) (st st' : NState) (pers crash : Prop) : Prop where
  hk : s.node k = some st
  hk' : s'.node k = some st'
  oth : ∀ j, j ≠ k → s'.node j = s.node j
  prov : Prov s s' k st st' pers
  pers_ge : pers → st'.raft.term ≤ st'.raft.raftLog.store.hardState.term
  rt : (RT st.raft st'.raft ∧ ¬ crash) ∨
    (st'.raft.state = .follower ∧ st'.raft.term = st.raft.raftLog.store.hardState.term ∧
      crash ∧ ¬ pers)
  novol : crash → ∀ loc' g', At s' loc' g' → ∀ i e, g'.entryAt i = some e →
    ∃ loc g, At s loc g ∧ g.entryAt i = some e ∧ ¬ Vol k loc
  hs : CV.HsRel st.raft st'.raft
  keep : st.raft.state = .leader → st'.raft.state = .leader → st'.raft.term = st.raft.term →
    st.raft.raftLog.lastIndex ≤ st'.raft.raftLog.lastIndex
  inv' : st'.raft.raftLog.Inv
  wfq' : ∀ x ∈ st'.raft.msgs, x.msgType = .msgAppend → ContigFrom (x.index + 1) x.entries
  wfn' : ∀ x ∈ s'.net, x ∈ s.net ∨ x ∈ st.raft.msgs

theorem vol_other {j k : Nat} (hjk : j ≠ k) {loc loc' : Loc}
    (hsrc : loc = loc' ∨ OfK k loc ∨ loc = .net) (hnv : ¬ Vol j loc') : ¬ Vol j loc := by
  rcases hsrc with h | h | h
  · rw [h]; exact hnv
  · intro hv
    cases loc with
    | log i => exact hjk ((show i = j from hv).symm.trans (show i = k from h))
    | queue i => exact hjk ((show i = j from hv).symm.trans (show i = k from h))
    | store i => exact hv
    | net => exact hv
  · rw [h]; intro hv; exact hv

namespace Live
variable {live : List Message → Prop}

structure InvL (live : List Message → Prop) (own : Nat → Nat → Prop) (ini : Entry → Prop) (s : Sys) : Prop where
  inv : ∀ i st, s.node i = some st → st.raft.raftLog.Inv
  tz : ∀ i st, s.node i = some st → (st.raft.state = .candidate ∨ st.raft.state = .leader) →
    st.raft.term ≠ 0
  wfq : ∀ i st x, s.node i = some st → x ∈ st.raft.msgs → x.msgType = .msgAppend →
    live st.raft.msgs → ContigFrom (x.index + 1) x.entries
  wfn : ∀ x, x ∈ s.net → x.msgType = .msgAppend → ContigFrom (x.index + 1) x.entries
  nz : ∀ loc g, At live s loc g → ∀ i e, g.entryAt i = some e → e.term ≠ 0
  agree : ∀ l1 g1 l2 g2, At live s l1 g1 → At live s l2 g2 → Agree g1 g2
  fresh : ∀ k t st, own k t → s.node k = some st → CanLead st.raft t →
    ∀ loc g, At live s loc g → ∀ i e, g.entryAt i = some e → e.term ≠ t
  dur : ∀ k t st, own k t → s.node k = some st → st.raft.raftLog.store.hardState.term < t →
    ∀ loc g, At live s loc g → ¬ Vol k loc → ∀ i e, g.entryAt i = some e → e.term ≠ t
  lead : ∀ k st, s.node k = some st → st.raft.state = .leader →
    ∀ loc g, At live s loc g → ∀ i e, g.entryAt i = some e → e.term = st.raft.term →
      i ≤ st.raft.raftLog.lastIndex
  /-- every entry was there from the start (`ini`) or carries a term that has an owner -/
  orig : ∀ loc g, At live s loc g → ∀ i e, g.entryAt i = some e → ini e ∨ ∃ k, own k e.term

/-- one transition: node `k` goes from `st` to `st'`, everything else is kept (the transport may
grow by `k`'s queue); `pers`: the step makes volatile content of `k` durable, which requires the
stored term to be the current one; `crash`: the step is a restart -/
structure Trans (live : List Message → Prop) (s s' : Sys) (k : Nat) (st st' : NState) (pers crash : Prop) : Prop where
  hk : s.node k = some st
  hk' : s'.node k = some st'
  oth : ∀ j, j ≠ k → s'.node j = s.node j
  prov : Prov live s s' k st st' pers
  pers_ge : pers → st'.raft.term ≤ st'.raft.raftLog.store.hardState.term
  rt : (RT st.raft st'.raft ∧ ¬ crash) ∨
    (st'.raft.state = .follower ∧ st'.raft.term = st.raft.raftLog.store.hardState.term ∧
      crash ∧ ¬ pers)
  novol : crash → ∀ loc' g', At live s' loc' g' → ∀ i e, g'.entryAt i = some e →
    ∃ loc g, At live s loc g ∧ g.entryAt i = some e ∧ ¬ Vol k loc
  hs : CV.HsRel st.raft st'.raft
  keep : st.raft.state = .leader → st'.raft.state = .leader → st'.raft.term = st.raft.term →
    st.raft.raftLog.lastIndex ≤ st'.raft.raftLog.lastIndex
  inv' : st'.raft.raftLog.Inv
  wfq' : ∀ x ∈ st'.raft.msgs, x.msgType = .msgAppend → live st'.raft.msgs →
    ContigFrom (x.index + 1) x.entries
  wfn' : ∀ x ∈ s'.net, x ∈ s.net ∨ (x ∈ st.raft.msgs ∧ live st.raft.msgs)

/-- a link that was in `s` cannot sit beyond the old last index of `k` with the term `k` leads in
`s'` -/
theorem no_old {own : Nat → Nat → Prop} {ini : Entry → Prop} {s s' : Sys} {k : Nat} {st st' : NState} {pers crash : Prop}
    (I : InvL live own ini s) (T : Trans live s s' k st st' pers crash)
    (hown' : ∀ i t, leads s' i t → own i t)
    (hl : st'.raft.state = .leader) {loc : Loc} {g : LLog} (hA : At live s loc g) {i : Nat} {e : Entry}
    (hE : g.entryAt i = some e) (ht : e.term = st'.raft.term)
    (hi : st.raft.raftLog.lastIndex < i) : False := by
  have hownk : own k st'.raft.term := hown' k _ ⟨st', T.hk', hl, rfl⟩
  rcases T.rt with ⟨rt, _⟩ | ⟨hf, _⟩
  · rcases rt.lead hl with c | ⟨c1, c2 | c2⟩
    · exact I.fresh k _ st hownk T.hk (.inl c) loc g hA i e hE ht
    · exact I.fresh k _ st hownk T.hk (.inr ⟨c1, c2⟩) loc g hA i e hE ht
    · have := I.lead k st T.hk c2 loc g hA i e hE (ht.trans c1.symm)
      omega
  · rw [hf] at hl; cases hl

theorem InvL.trans {own : Nat → Nat → Prop} {ini : Entry → Prop} {s s' : Sys} {k : Nat} {st st' : NState}
    {pers crash : Prop}
    (huniq : ∀ i j t, own i t → own j t → i = j)
    (hown' : ∀ i t, leads s' i t → own i t)
    (I : InvL live own ini s) (T : Trans live s s' k st st' pers crash) : InvL live own ini s' := by
  have node' : ∀ j stj', s'.node j = some stj' → (j = k ∧ st' = stj') ∨ (j ≠ k ∧ s.node j = some stj') := by
    intro j stj' hj
    by_cases hjk : j = k
    · subst hjk
      rw [T.hk'] at hj
      cases hj
      exact .inl ⟨rfl, rfl⟩
    · exact .inr ⟨hjk, by rw [← T.oth j hjk]; exact hj⟩
  have freshOwner : ∀ j stj', s'.node j = some stj' → stj'.raft.state = .leader →
      st'.raft.state = .leader → stj'.raft.term = st'.raft.term → j = k := by
    intro j stj' hj hl hl' ht
    exact huniq j k _ (hown' j _ ⟨stj', hj, hl, rfl⟩) (ht ▸ hown' k _ ⟨st', T.hk', hl', rfl⟩)
  refine ⟨?_, ?_, ?_, ?_, ?_, ?_, ?_, ?_, ?_, ?_⟩
  · -- inv
    intro j stj' hj
    rcases node' j stj' hj with ⟨_, rfl⟩ | ⟨_, h⟩
    · exact T.inv'
    · exact I.inv j stj' h
  · -- tz
    intro j stj' hj hs
    rcases node' j stj' hj with ⟨_, rfl⟩ | ⟨_, h⟩
    · rcases T.rt with ⟨rt, _⟩ | ⟨hf, _⟩
      · rcases hs with hs | hs
        · rcases rt.cand hs with c | ⟨c1, c2⟩
          · omega
          · rw [← c1]; exact I.tz k st T.hk (.inl c2)
        · rcases rt.lead hs with c | ⟨c1, c2 | c2⟩
          · omega
          · rw [← c1]; exact I.tz k st T.hk (.inl c2)
          · rw [← c1]; exact I.tz k st T.hk (.inr c2)
      · rcases hs with hs | hs <;> rw [hf] at hs <;> cases hs
    · exact I.tz j stj' h hs
  · -- wfq
    intro j stj' x hj hx hty
    rcases node' j stj' hj with ⟨_, rfl⟩ | ⟨_, h⟩
    · exact T.wfq' x hx hty
    · exact I.wfq j stj' x h hx hty
  · -- wfn
    intro x hx hty
    rcases T.wfn' x hx with h | h
    · exact I.wfn x h hty
    · exact I.wfq k st x T.hk h.1 hty h.2
  · -- nz
    intro loc' g' hat i e he
    rcases T.prov loc' g' hat i e he with ⟨loc, g, hA, hE, _⟩ | ⟨_, hl, ht, _⟩
    · exact I.nz loc g hA i e hE
    · rw [ht]
      rcases T.rt with ⟨rt, _⟩ | ⟨hf, _⟩
      · rcases rt.lead hl with c | ⟨c1, c2 | c2⟩
        · omega
        · rw [← c1]; exact I.tz k st T.hk (.inl c2)
        · rw [← c1]; exact I.tz k st T.hk (.inr c2)
      · rw [hf] at hl; cases hl
  · -- agree
    intro l1 g1 l2 g2 h1 h2 i e1 e2 he1 he2 hterm
    rcases T.prov l1 g1 h1 i e1 he1 with ⟨loc1, x1, hA1, hE1, hP1, _⟩ | ⟨_, hl1, ht1, hi1, hL1, hQ1⟩
    · rcases T.prov l2 g2 h2 i e2 he2 with ⟨loc2, x2, hA2, hE2, hP2, _⟩ | ⟨_, hl2, ht2, hi2, hL2, hQ2⟩
      · obtain ⟨heq, hpp⟩ := I.agree loc1 x1 loc2 x2 hA1 hA2 i e1 e2 hE1 hE2 hterm
        exact ⟨heq, fun p p' hp hp' => hpp p p' (hP1 p hp) (hP2 p' hp')⟩
      · exact (no_old I T hown' hl2 hA1 hE1 (hterm.trans ht2) hi2).elim
    · rcases T.prov l2 g2 h2 i e2 he2 with ⟨loc2, x2, hA2, hE2, hP2, _⟩ | ⟨_, hl2, ht2, hi2, hL2, hQ2⟩
      · exact (no_old I T hown' hl1 hA2 hE2 (hterm.symm.trans ht1) hi1).elim
      · rw [hL1] at hL2
        cases hL2
        refine ⟨rfl, fun p p' hp hp' => ?_⟩
        have a := hQ1 p hp
        have b := hQ2 p' hp'
        rw [a] at b
        cases b; rfl
  · -- fresh
    intro j t stj' hown hj hcl loc' g' hat i e he heq
    rcases T.prov loc' g' hat i e he with ⟨loc, g, hA, hE, _, _, hvol⟩ | ⟨_, hl, ht, _⟩
    · rcases node' j stj' hj with ⟨rfl, rfl⟩ | ⟨_, h⟩
      · rcases T.rt with ⟨rt, _⟩ | ⟨hf, hte, hcr, _⟩
        · exact I.fresh j t st hown T.hk (hcl.back rt) loc g hA i e hE heq
        · have hlt : st.raft.raftLog.store.hardState.term < t := by
            rcases hcl with c | ⟨_, c⟩
            · omega
            · rw [hf] at c; cases c
          obtain ⟨loc0, g0, hA0, hE0, hnv0⟩ := T.novol hcr loc' g' hat i e he
          exact I.dur j t st hown T.hk hlt loc0 g0 hA0 hnv0 i e hE0 heq
      · exact I.fresh j t stj' hown h hcl loc g hA i e hE heq
    · have hjk : j = k := huniq j k t hown (by
        have := hown' k _ ⟨st', T.hk', hl, rfl⟩
        rw [← ht, heq] at this; exact this)
      subst hjk
      rw [T.hk'] at hj
      cases hj
      rcases hcl with c | ⟨_, c⟩
      · omega
      · rw [hl] at c; cases c
  · -- dur
    intro j t stj' hown hj hst loc' g' hat hnv i e he heq
    rcases T.prov loc' g' hat i e he with ⟨loc, g, hA, hE, _, hsrc, hvol⟩ | ⟨hv, hl, ht, _⟩
    · rcases node' j stj' hj with ⟨rfl, rfl⟩ | ⟨hjk, h⟩
      · by_cases hvl : Vol j loc
        · rcases hvol hvl with hv' | hp
          · exact hnv hv'
          · rcases T.rt with ⟨rt, _⟩ | ⟨_, _, _, hnp⟩
            · have h1 := T.pers_ge hp
              have h2 := rt.le
              exact I.fresh j t st hown T.hk (.inl (by omega)) loc g hA i e hE heq
            · exact hnp hp
        · rcases T.hs with ⟨c, _⟩ | ⟨c1, _, c3, _⟩ | ⟨c, _⟩
          · exact I.dur j t st hown T.hk (by omega) loc g hA hvl i e hE heq
          · exact I.fresh j t st hown T.hk (.inl (by omega)) loc g hA i e hE heq
          · exact I.dur j t st hown T.hk (by omega) loc g hA hvl i e hE heq
      · exact I.dur j t stj' hown h hst loc g hA (vol_other hjk hsrc hnv) i e hE heq
    · have hjk : j = k := huniq j k t hown (by
        have := hown' k _ ⟨st', T.hk', hl, rfl⟩
        rw [← ht, heq] at this; exact this)
      subst hjk
      exact hnv hv
  · -- lead
    intro j stj' hj hlead loc' g' hat i e he heq
    rcases T.prov loc' g' hat i e he with ⟨loc, g, hA, hE, _⟩ | ⟨_, hl, ht, _, hL, _⟩
    · rcases node' j stj' hj with ⟨rfl, rfl⟩ | ⟨_, h⟩
      · have hownj : own j st'.raft.term := hown' j _ ⟨st', T.hk', hlead, rfl⟩
        rcases T.rt with ⟨rt, _⟩ | ⟨hf, _⟩
        · rcases rt.lead hlead with c | ⟨c1, c2 | c2⟩
          · exact (I.fresh j _ st hownj T.hk (.inl c) loc g hA i e hE heq).elim
          · exact (I.fresh j _ st hownj T.hk (.inr ⟨c1, c2⟩) loc g hA i e hE heq).elim
          · have h1 := I.lead j st T.hk c2 loc g hA i e hE (heq.trans c1.symm)
            have h2 := T.keep c2 hlead c1.symm
            omega
        · rw [hf] at hlead; cases hlead
      · exact I.lead j stj' h hlead loc g hA i e hE heq
    · have hjk : j = k := freshOwner j stj' hj hlead hl (heq.symm.trans ht)
      subst hjk
      rw [T.hk'] at hj
      cases hj
      have := (st'.raft.raftLog.abs.entryAt_lt hL).2
      rw [T.inv'.lastIndex_abs]; exact this
  · -- orig
    intro loc' g' hat i e he
    rcases T.prov loc' g' hat i e he with ⟨loc, g, hA, hE, _⟩ | ⟨_, hl, ht, _⟩
    · exact I.orig loc g hA i e hE
    · exact .inr ⟨k, by rw [ht]; exact hown' k _ ⟨st', T.hk', hl, rfl⟩⟩

end Live

theorem invL_live {own : Nat → Nat → Prop} {ini : Entry → Prop} {s : Sys} :
    InvL own ini s ↔ Live.InvL allQ own ini s :=
  ⟨fun I => ⟨I.inv, I.tz, fun i st x h1 h2 h3 _ => I.wfq i st x h1 h2 h3, I.wfn,
      fun loc g h => I.nz loc g (at_live.2 h),
      fun l1 g1 l2 g2 h1 h2 => I.agree l1 g1 l2 g2 (at_live.2 h1) (at_live.2 h2),
      fun k t st h1 h2 h3 loc g h => I.fresh k t st h1 h2 h3 loc g (at_live.2 h),
      fun k t st h1 h2 h3 loc g h => I.dur k t st h1 h2 h3 loc g (at_live.2 h),
      fun k st h1 h2 loc g h => I.lead k st h1 h2 loc g (at_live.2 h),
      fun loc g h => I.orig loc g (at_live.2 h)⟩,
   fun I => ⟨I.inv, I.tz, fun i st x h1 h2 h3 => I.wfq i st x h1 h2 h3 trivial, I.wfn,
      fun loc g h => I.nz loc g (at_live.1 h),
      fun l1 g1 l2 g2 h1 h2 => I.agree l1 g1 l2 g2 (at_live.1 h1) (at_live.1 h2),
      fun k t st h1 h2 h3 loc g h => I.fresh k t st h1 h2 h3 loc g (at_live.1 h),
      fun k t st h1 h2 h3 loc g h => I.dur k t st h1 h2 h3 loc g (at_live.1 h),
      fun k st h1 h2 loc g h => I.lead k st h1 h2 loc g (at_live.1 h),
      fun loc g h => I.orig loc g (at_live.1 h)⟩⟩

theorem trans_live {s s' : Sys} {k : Nat} {st st' : NState} {pers crash : Prop} :
    Trans s s' k st st' pers crash ↔ Live.Trans allQ s s' k st st' pers crash :=
  ⟨fun T => ⟨T.hk, T.hk', T.oth, prov_live.1 T.prov, T.pers_ge, T.rt,
      fun hc loc' g' h i e he => (T.novol hc loc' g' (at_live.2 h) i e he).imp
        fun _ ⟨g, h1, h2⟩ => ⟨g, at_live.1 h1, h2⟩,
      T.hs, T.keep, T.inv', fun x h1 h2 _ => T.wfq' x h1 h2,
      fun x hx => (T.wfn' x hx).imp id fun h => ⟨h, trivial⟩⟩,
   fun T => ⟨T.hk, T.hk', T.oth, prov_live.2 T.prov, T.pers_ge, T.rt,
      fun hc loc' g' h i e he => (T.novol hc loc' g' (at_live.1 h) i e he).imp
        fun _ ⟨g, h1, h2⟩ => ⟨g, at_live.2 h1, h2⟩,
      T.hs, T.keep, T.inv', fun x h1 h2 => T.wfq' x h1 h2 trivial,
      fun x hx => (T.wfn' x hx).imp id And.left⟩⟩

end Cluster
end RaftModel
