import RaftProofs.ProtoCfgK

/-!
**The cross-history configuration guard of the read-index events of P (`rdCfgOk`) is implied by the
local guard of PC** — in any state that satisfies the invariants of P (`InvAll`, `InvRd`) and the
invariant of the configuration ghosts (`InvCfg`).

The leader `i` of term `T` answers under the version `j` of the membership changes it has applied.
A leader commit `p` of a term beyond `T` that existed when the request was issued has a version `x`:
* `x` and `j` at distance at most one: the configurations are adjacent (T0);
* `x ≥ j + 2`: among the records that existed when the request was issued there is one of version
  exactly `j + 1` whose committed prefix holds `j + 2` membership changes.  Its term cannot be beyond
  `T` (its quorum — adjacent to the reader's — had acknowledged that term before the request was
  issued, and the reader's quorum confirmed `T` afterwards), cannot be `T` (the leader's version never
  decreases), cannot be below `T` (the leader of `T` was elected with that prefix, so under a version
  `≥ j + 1`, and the leader's version never decreases);
* `x + 2 ≤ j`: the leader's applied prefix is covered by a leader commit of a term `≤ T`; so some
  commit of a term `≤ T` of version `x + 1` has committed `x + 2` membership changes; the leader of
  `p`'s term was elected with that prefix, so under a version `≥ x + 1`, and `p`'s version is not
  below the version of the election of its term (C3).
-/
namespace RaftModel.P

/-! ### the local parts of the guards, unpacked -/

theorem respCore_unpack {s : PSys} {i rid idx : Nat} {cfg : Cfg} (h : respCore s i rid idx cfg = true) :
    (s.nodes i).up = true ∧ (s.nodes i).role = 2 ∧
    (⟨rid, i, (s.nodes i).term, idx⟩ : ReadStart) ∈ s.rd.started ∧
    rdQuorum s cfg i (s.nodes i).term rid = true := by
  simp only [respCore, Bool.and_eq_true, decide_eq_true_eq] at h
  obtain ⟨⟨⟨h1, h2⟩, h3⟩, h4⟩ := h
  exact ⟨h1, h2, by simpa using h3, h4⟩

theorem verMono_unpack {S : CSys} {t j : Nat} (h : verMono S t j = true) :
    (∀ e ∈ S.evs, e.1 = t → e.2 ≤ j) ∧ (∀ p ∈ S.cvs, p.1.1 = t → p.2 ≤ j) := by
  simp only [verMono, Bool.and_eq_true, List.all_eq_true, Bool.or_eq_true, bne_iff_ne, ne_eq,
    decide_eq_true_eq] at h
  refine ⟨fun e he ht => ?_, fun p hp ht => ?_⟩
  · rcases h.1 e he with h1 | h1
    · exact absurd ht h1
    · exact h1
  · rcases h.2 p hp with h1 | h1
    · exact absurd ht h1
    · exact h1

theorem verMono_pack {S : CSys} {t j : Nat}
    (h : (∀ e ∈ S.evs, e.1 = t → e.2 ≤ j) ∧ (∀ p ∈ S.cvs, p.1.1 = t → p.2 ≤ j)) : verMono S t j = true := by
  simp only [verMono, Bool.and_eq_true, List.all_eq_true, Bool.or_eq_true, bne_iff_ne, ne_eq,
    decide_eq_true_eq]
  refine ⟨fun e he => ?_, fun p hp => ?_⟩
  · by_cases ht : e.1 = t
    · exact Or.inr (h.1 e he ht)
    · exact Or.inl ht
  · by_cases ht : p.1.1 = t
    · exact Or.inr (h.2 p hp ht)
    · exact Or.inl ht

/-- E1 + E2 at an elected term: the election has a version record, and the log the leader was
elected with holds at most one membership change beyond it -/
theorem elected_version {S : CSys} (hI : InvAll S.base) (hC : InvCfg S) (t : Nat) (hel : Elected S.base t) :
    ∃ m, (t, m) ∈ S.evs ∧ confCount (S.base.elog t) ≤ m + 1 := by
  obtain ⟨j', hj'⟩ := hel
  obtain ⟨ce, Q, hce, _, _⟩ := hI.b.eq (t, j') hj'
  obtain ⟨m, hm, _⟩ := hC.e1 (t, ce) hce
  exact ⟨m, hm, (hC.e2 (t, m) hm).2.1⟩

/-! ### K for the read events -/

/-- **K (read)**, from the invariants -/
theorem read_adj_of_inv (S : CSys) (hI : InvAll S.base) (hRd : InvRd S.base) (hC : InvCfg S)
    (i rid idx : Nat) (cfg : Cfg) (applied : Nat) (r : ReadRec)
    (hfind : S.base.rd.issued.find? (fun r => r.rid = rid) = some r)
    (hloc : applied ≤ (S.base.nodes i).commit ∧
            S.vtab[confCount ((S.base.nodes i).log.take applied)]? = some cfg ∧
            verMono S (S.base.nodes i).term (confCount ((S.base.nodes i).log.take applied)) = true)
    (hcore : respCore S.base i rid idx cfg = true) :
    rdCfgOk S.base cfg (S.base.nodes i).term r.ncm = true := by
  obtain ⟨happ, hv, hmono⟩ := hloc
  obtain ⟨hme, hmc⟩ := verMono_unpack hmono
  obtain ⟨_, hrole, _, hquo⟩ := respCore_unpack hcore
  have hr := List.mem_of_find?_eq_some hfind
  have hrid : r.rid = rid := by simpa using List.find?_some hfind
  have helT := leader_elected hI.v hrole
  unfold rdCfgOk
  simp only [List.all_eq_true, Bool.or_eq_true, decide_eq_true_eq]
  intro pc hpc
  by_cases hle : pc.1.1 ≤ (S.base.nodes i).term
  · exact Or.inr hle
  left
  have hpc' : pc ∈ ccfgsAt S.base r.ncm := hpc
  obtain ⟨x, hx, hxv⟩ := hC.rc r hr pc hpc'
  have hxc := cvsAt_sub hx
  by_cases hadj : x ≤ confCount ((S.base.nodes i).log.take applied) + 1 ∧
      confCount ((S.base.nodes i).log.take applied) ≤ x + 1
  · exact hC.adj hxv hv hadj.1 hadj.2
  exfalso
  by_cases hfar : confCount ((S.base.nodes i).log.take applied) + 2 ≤ x
  · -- the commit's version is two or more beyond the reader's
    have hok : CvOk S.base.llog (cvsAt S r.ncm) := CvOk.drop _ hC.c2
    obtain ⟨_, hback⟩ := CvOk.mem hok _ hx
    rcases hback with h0 | ⟨p', hp', _, hcc⟩
    · simp only at h0; omega
    · simp only at hcc
      obtain ⟨rs, hrs, _, hccs, hvers⟩ := CvOk.minimal (p'.1.1 + 1)
        (confCount ((S.base.nodes i).log.take applied) + 2) (by omega) hok p' hp' (by omega) (by omega)
      have hrsc := cvsAt_sub hrs
      have hmem := cvs_mem_cmts hC hrsc
      rcases Nat.lt_trichotomy rs.1.1 (S.base.nodes i).term with hlt | heq | hgt
      · -- a commit of an earlier term: the reader was elected with its prefix
        have hlc := hI.c.lc rs.1 hmem _ hlt helT
        obtain ⟨m, hm, hcnt⟩ := elected_version hI hC _ helT
        have h0 := hme (_, m) hm rfl
        have h1 := confCount_take_le (S.base.elog (S.base.nodes i).term) rs.1.2
        rw [hlc] at h1
        unfold ccOf at hccs
        simp only at h0
        omega
      · -- a commit of the reader's own term: its version is not beyond the reader's
        have := hmc rs hrsc heq
        omega
      · -- a commit of a later term: the two quorums meet
        obtain ⟨cp, q, hcp, hq, hacks⟩ := hC.rq r hr rs hrs
        have hadj' : adjOk cp cfg = true := hC.adj hcp hv (by omega) (by omega)
        have := read_quorum_term hI hRd cp cfg hadj' i rid r hr hrid hquo q hq rs.1.1
          (fun v hv => by obtain ⟨a, ha, h1, h2, _⟩ := hacks v hv; exact ⟨a, ha, h1, h2⟩)
        omega
  · -- the reader has applied two membership changes more than the commit's version
    have hm : x + 2 ≤ confCount ((S.base.nodes i).log.take applied) := by omega
    rcases applied_covered hI.c.c3 happ with h0 | ⟨pp, hpp, h1, h2, h3⟩
    · omega
    · obtain ⟨rr, hrr, hrr1⟩ := cmts_mem_cvs hC hpp
      have hccpp : confCount ((S.base.nodes i).log.take applied) ≤ ccOf S.base.llog rr.1 := by
        rw [hrr1]
        unfold ccOf
        rw [confCount_of_take_eq h3 happ]
        exact confCount_take_mono _ (by omega)
      obtain ⟨r', hr', ht', hcc', hver'⟩ := CvOk.minimal ((S.base.nodes i).term + 1) (x + 2) (by omega)
        hC.c2 rr hrr (by rw [hrr1]; omega) (by omega)
      have hpcm : pc.1 ∈ S.base.cmts := cvs_mem_cmts hC hxc
      have helt : Elected S.base pc.1.1 := (hI.c.c3.cq pc.1 hpcm).2.2.2.1
      have hlc := hI.c.lc r'.1 (cvs_mem_cmts hC hr') pc.1.1 (by omega) helt
      obtain ⟨m, hmm, hcnt⟩ := elected_version hI hC _ helt
      have h4 := hC.c3 (pc.1, x) hxc (pc.1.1, m) hmm rfl
      have h5 := confCount_take_le (S.base.elog pc.1.1) r'.1.2
      rw [hlc] at h5
      unfold ccOf at hcc'
      simp only at h4
      omega

end RaftModel.P
