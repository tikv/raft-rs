import RaftProofs.ClusterSnapCompaction

/-!
Commit safety of `ClusterSem` **without log compaction** (`RaftModel.Cluster`; the bundles `Hyp` … `Hyp3` of
`ClusterCommitHyp`, the property files C01c / C01d), read off the development with compaction
(`RaftModel.Cluster.Snap`).

A history under `Cluster.Hyp…` is a history under `Snap.Hyp…` (`….of_old`: a step that never compacts
obeys the compaction contract).  Its nodes keep the snapshot point `c0` (`Hyp2w.shape`, `node_ok`), and a
log that starts at `c0` is its own uncompacted version (`Snap.Full.eq_self`).  So the ghost logs of the
`Snap` development are the logs themselves — `FL h c0 st = st.raft.raftLog.abs`,
`FS h c0 st = storeLog st.raft.raftLog.store`, `EvF h c0 E = E.gE` —, the notions `LeaderLog`, `Covered`,
`Promise`, `Sm`, `SAll` stated here for the logs coincide with their `Snap` namesakes for the ghost logs
(`leaderLog_iff` … `sall_iff`), and every theorem of this file is its `Snap` namesake for the history at
hand.

**The components of the main induction.**  For a history `h` under `Hyp3a`, `Sm h c0 m s` collects what
is known about the state `s = h[m]`, for **every** commit event `E` of the history (past or future — the
events are a prophecy, like the owners of the terms in the Log Matching layer):

* `lc` (Leader Completeness): a leader of a later term holds the committed entry;
* `retm` / `rets` (retention): a node that acknowledged the committed index for the event's term (or is
  the committing leader, with the index persisted) holds the committed entry — in its logical log, and
  in its storage once the acknowledgement is in the transport;
* `a2m` / `a2s` (the promise of an acknowledgement): while the node is in the term of its
  acknowledgement, its log (its storage, once the acknowledgement is in the transport and its stored
  term is that term) equals a log of that term's leader up to the acknowledged index;
* `g1`: a granted vote of a node that acknowledged an event, for a later term that has not been led
  yet, answers a request whose `(log_term, index)` is at least `(t, c)`;
* `nctm` / `ncts`: what a node has marked committed (what its storage records as committed) was
  committed by a past event of a term not above the node's (stored) term, with these entries;
* `scm`: the stored commit index is not ahead of the commit index.
-/
namespace RaftModel
namespace Cluster
namespace Snap
open Node Raft Raft.CC RaftProps.C02 RaftProps.C05

variable {cfg : JointConfig} {c0 : Nat} {h : List Sys}

theorem Hyp.of_old (H : Cluster.Hyp cfg h) : Hyp cfg h :=
  { hist := H.hist, fix := H.fix, ne := H.ne, nd1 := H.nd1, nd2 := H.nd2, init := H.init,
    steps := fun n a b ha hb => KStep.of_old (H.steps n a b ha hb), nb := H.nb, nosnap := H.nosnap }

theorem Hyp2w.of_old (H : Cluster.Hyp2w cfg c0 h) : Hyp2w cfg c0 h :=
  { toHyp := Hyp.of_old H.toHyp, nolone := H.nolone,
    nopend := fun s hs i st hi => (H.shape s hs i st hi).1,
    first0 := fun s h0 i st hi => (H.shape s (mem_of_get h0) i st hi).2,
    initc := H.initc }

theorem Hyp3a.of_old (H : Cluster.Hyp3a cfg c0 h) : Hyp3a cfg c0 h :=
  { toHyp2w := Hyp2w.of_old H.toHyp2w, anch := H.anch, rirs := H.rirs, snapt0 := H.snapt0 }

end Snap

open Node Raft Raft.CC RaftProps.C02 RaftProps.C05

variable {cfg : JointConfig} {c0 : Nat} {h : List Sys}

/-- the shape of every node of a history under `Hyp2w` -/
structure NodeOk (c0 i : Nat) (st : NState) : Prop where
  inv : st.raft.raftLog.Inv
  snap : st.raft.raftLog.unstable.snapshot = none
  snapIdx : st.raft.raftLog.abs.snapIdx = c0
  ssnap : (storeLog st.raft.raftLog.store).snapIdx = c0
  id : st.raft.id = i
  nb : st.raft.batchAppend = false

theorem node_ok (H : Hyp2w cfg c0 h) {n : Nat} {s : Sys} (hn : h[n]? = some s) {i : Nat}
    {st : NState} (hi : s.node i = some st) : NodeOk c0 i st := by
  have o := Snap.node_ok (.of_old H) hn hi
  have h2 : st.raft.raftLog.store.firstIndex - 1 = c0 := by
    rw [(H.shape s (mem_of_get hn) i st hi).2]; rfl
  exact ⟨o.inv, o.snap, by rw [← o.sidx]; exact h2, h2, o.id, o.nb⟩

/-! ### the ghost logs of a history without compaction -/

theorem FL_eq (H : Hyp2w cfg c0 h) {n : Nat} {s : Sys} (hn : h[n]? = some s) {i : Nat}
    {st : NState} (hi : s.node i = some st) : Snap.FL h c0 st = st.raft.raftLog.abs :=
  Snap.fl_self (node_ok H hn hi).snapIdx

theorem FS_eq (H : Hyp2w cfg c0 h) {n : Nat} {s : Sys} (hn : h[n]? = some s) {i : Nat}
    {st : NState} (hi : s.node i = some st) : Snap.FS h c0 st = storeLog st.raft.raftLog.store :=
  Snap.fl_self (node_ok H hn hi).ssnap

theorem EvF_eq (H : Hyp2w cfg c0 h) {E : Ev} (hE : E.ok h) : Snap.EvF h c0 E = E.gE := by
  obtain ⟨_, b, _, stb, _, hb, _, hlb, _, _, _, hg, _⟩ := Snap.Ev.facts (.of_old H) hE
  exact Snap.fl_self (by rw [hg]; exact (node_ok H hb hlb).snapIdx)

/-! ### leaders' logs, covered prefixes, the components of the main induction -/

/-- `L` is the logical log of the leader of term `t` at some point `h[m]`, `m ≤ N` -/
def LeaderLog (h : List Sys) (N t : Nat) (L : LLog) : Prop :=
  ∃ m s l st, m ≤ N ∧ h[m]? = some s ∧ s.node l = some st ∧ st.raft.state = .leader ∧
    st.raft.term = t ∧ L = st.raft.raftLog.abs

theorem LeaderLog.mono {h : List Sys} {N N' t : Nat} {L : LLog} (hl : LeaderLog h N t L)
    (hle : N ≤ N') : LeaderLog h N' t L := by
  obtain ⟨m, s, l, st, h1, h2⟩ := hl
  exact ⟨m, s, l, st, Nat.le_trans h1 hle, h2⟩

/-- the prefix up to `cm` of `g` is covered by a past commit event of a term at most `term` -/
def Covered (h : List Sys) (c0 m cm term : Nat) (g : LLog) : Prop :=
  cm ≤ c0 ∨ ∃ E : Ev, E.ok h ∧ E.nE < m ∧ cm ≤ E.c ∧ E.t ≤ term ∧ EqUpTo g E.gE cm

/-- what an accepting append response promises about the log `g` of its sender -/
def Promise (h : List Sys) (m : Nat) (a : Message) (g : LLog) : Prop :=
  ∃ L, LeaderLog h m a.term L ∧ a.index ≤ L.lastIndex ∧ EqUpTo g L a.index

structure Sm (h : List Sys) (c0 m : Nat) (s : Sys) : Prop where
  lc : ∀ E : Ev, E.ok h → ∀ l st, s.node l = some st → st.raft.state = .leader →
    E.t < st.raft.term → Has st.raft.raftLog.abs E.c E.t
  retm : ∀ E : Ev, E.ok h → ∀ v st, s.node v = some st → AckedMem s m E v st →
    Has st.raft.raftLog.abs E.c E.t
  rets : ∀ E : Ev, E.ok h → ∀ v st, s.node v = some st → AckedDur s m E v →
    Has (storeLog st.raft.raftLog.store) E.c E.t
  a2m : ∀ v st, s.node v = some st → ∀ a, (a ∈ s.net ∨ a ∈ st.raft.msgs) → isAck a → a.frm = v →
    c0 < a.index → a.term = st.raft.term → Promise h m a st.raft.raftLog.abs
  a2s : ∀ v st, s.node v = some st → ∀ a ∈ s.net, isAck a → a.frm = v → c0 < a.index →
    a.term = st.raft.raftLog.store.hardState.term →
    Promise h m a (storeLog st.raft.raftLog.store)
  g1 : ∀ E : Ev, E.ok h → ∀ v st g, s.node v = some st → (g ∈ s.net ∨ g ∈ st.raft.msgs) →
    isGrant g → g.frm = v → E.t < g.term → AckedMem s m E v st → ¬ LedBy h m g.term →
    ∃ q ∈ s.net, q.msgType = .msgRequestVote ∧ q.frm = g.to ∧ q.term = g.term ∧ UpTo q E.c E.t
  nctm : ∀ v st, s.node v = some st →
    Covered h c0 m st.raft.raftLog.committed st.raft.term st.raft.raftLog.abs
  ncts : ∀ v st, s.node v = some st →
    Covered h c0 m st.raft.raftLog.store.hardState.commit st.raft.raftLog.store.hardState.term
      (storeLog st.raft.raftLog.store)
  scm : ∀ v st, s.node v = some st →
    st.raft.raftLog.store.hardState.commit ≤ st.raft.raftLog.committed

/-- everything up to index `n` -/
def SAll (h : List Sys) (c0 n : Nat) : Prop := ∀ m s, m ≤ n → h[m]? = some s → Sm h c0 m s

/-- what is known about the sender of a `MsgAppend` -/
structure AppSrc (h : List Sys) (c0 n : Nat) (m : Message) (L : LLog) (cL : Nat) : Prop where
  ll : LeaderLog h n m.term L
  snap : L.snapIdx = c0
  ents : ∀ e ∈ m.entries, L.entryAt e.index = some e
  contig : ContigFrom (m.index + 1) m.entries
  anchor : L.term m.index = .ok m.logTerm
  last : m.index + m.entries.length ≤ L.lastIndex
  commit : m.commit ≤ cL
  cle : cL ≤ L.lastIndex
  cov : Covered h c0 n cL m.term L
  tnz : m.term ≠ 0

/-- what is known about the sender of a `MsgHeartbeat` -/
structure HbSrc (h : List Sys) (c0 n : Nat) (net : List Message) (m : Message) (L : LLog)
    (cL : Nat) : Prop where
  ll : LeaderLog h n m.term L
  commit : m.commit ≤ cL
  cle : cL ≤ L.lastIndex
  cov : Covered h c0 n cL m.term L
  ack : m.commit = 0 ∨ ∃ x ∈ net, isAck x ∧ x.frm = m.to ∧ x.term = m.term ∧ m.commit ≤ x.index

theorem leaderLog_iff (H : Hyp2w cfg c0 h) {N t : Nat} {L : LLog} :
    Snap.LeaderLog h c0 N t L ↔ LeaderLog h N t L := by
  constructor <;> rintro ⟨m, s, l, st, h1, h2, h3, h4, h5, h6⟩ <;>
    exact ⟨m, s, l, st, h1, h2, h3, h4, h5, by rw [h6, FL_eq H h2 h3]⟩

theorem covered_iff (H : Hyp2w cfg c0 h) {m cm term : Nat} {g : LLog} :
    Snap.Covered h c0 m cm term g ↔ Covered h c0 m cm term g := by
  constructor <;> rintro (hc | ⟨E, hE, h1, h2, h3, h4⟩)
  · exact .inl hc
  · exact .inr ⟨E, hE, h1, h2, h3, by rw [← EvF_eq H hE]; exact h4⟩
  · exact .inl hc
  · exact .inr ⟨E, hE, h1, h2, h3, by rw [EvF_eq H hE]; exact h4⟩

theorem promise_iff (H : Hyp2w cfg c0 h) {m : Nat} {a : Message} {g : LLog} :
    Snap.Promise h c0 m a g ↔ Promise h m a g := by
  constructor <;> rintro ⟨L, h1, h2⟩
  · exact ⟨L, (leaderLog_iff H).1 h1, h2⟩
  · exact ⟨L, (leaderLog_iff H).2 h1, h2⟩

theorem sm_iff (H : Hyp2w cfg c0 h) {m : Nat} {s : Sys} (hm : h[m]? = some s) :
    Snap.Sm h c0 m s ↔ Sm h c0 m s := by
  have fl := fun v st (hv : s.node v = some st) => FL_eq H hm hv
  have fs := fun v st (hv : s.node v = some st) => FS_eq H hm hv
  constructor <;> intro S
  · exact
      { lc := fun E hE l st hl => by rw [← fl l st hl]; exact S.lc E hE l st hl
        retm := fun E hE v st hv => by rw [← fl v st hv]; exact S.retm E hE v st hv
        rets := fun E hE v st hv => by rw [← fs v st hv]; exact S.rets E hE v st hv
        a2m := fun v st hv a ha h1 h2 h3 h4 => by
          rw [← fl v st hv]; exact (promise_iff H).1 (S.a2m v st hv a ha h1 h2 h3 h4)
        a2s := fun v st hv a ha h1 h2 h3 h4 => by
          rw [← fs v st hv]; exact (promise_iff H).1 (S.a2s v st hv a ha h1 h2 h3 h4)
        g1 := S.g1
        nctm := fun v st hv => by rw [← fl v st hv]; exact (covered_iff H).1 (S.nctm v st hv)
        ncts := fun v st hv => by rw [← fs v st hv]; exact (covered_iff H).1 (S.ncts v st hv)
        scm := S.scm }
  · exact
      { lc := fun E hE l st hl => by rw [fl l st hl]; exact S.lc E hE l st hl
        retm := fun E hE v st hv => by rw [fl v st hv]; exact S.retm E hE v st hv
        rets := fun E hE v st hv => by rw [fs v st hv]; exact S.rets E hE v st hv
        a2m := fun v st hv a ha h1 h2 h3 h4 => by
          rw [fl v st hv]; exact (promise_iff H).2 (S.a2m v st hv a ha h1 h2 h3 h4)
        a2s := fun v st hv a ha h1 h2 h3 h4 => by
          rw [fs v st hv]; exact (promise_iff H).2 (S.a2s v st hv a ha h1 h2 h3 h4)
        g1 := S.g1
        nctm := fun v st hv => by rw [fl v st hv]; exact (covered_iff H).2 (S.nctm v st hv)
        ncts := fun v st hv => by rw [fs v st hv]; exact (covered_iff H).2 (S.ncts v st hv)
        scm := S.scm }

theorem sall_iff (H : Hyp2w cfg c0 h) {n : Nat} : Snap.SAll h c0 n ↔ SAll h c0 n :=
  ⟨fun S m s hle hm => (sm_iff H hm).1 (S m s hle hm),
    fun S m s hle hm => (sm_iff H hm).2 (S m s hle hm)⟩

/-! ### the theorems -/

/-- the matched tables are backed by the transport in every state -/
theorem Hyp.mokc {cfg : JointConfig} {h : List Sys} (H : Hyp cfg h) :
    ∀ (n : Nat) (s : Sys), h[n]? = some s → MOKc s :=
  Snap.Hyp.mokc (.of_old H)

/-- **the leader's commit step**: when a step moves the commit index of a node that is leader after
the step, the entry at the new commit index carries the leader's term, and a joint quorum of the
leader's voters has `matched` at least the new commit index, each of them accounted for: the leader
itself with `persisted`, or an accepting append response in the transport -/
theorem Hyp.commit_step {cfg : JointConfig} {h : List Sys} (H : Hyp cfg h) (n : Nat) (a b : Sys)
    (ha : h[n]? = some a) (hb : h[n + 1]? = some b) (l : Nat) (sta stb : NState)
    (hla : a.node l = some sta) (hlb : b.node l = some stb) (hs : stb.raft.state = .leader)
    (hc : sta.raft.raftLog.committed < stb.raft.raftLog.committed) :
    stb.raft.raftLog.term stb.raft.raftLog.committed = .ok stb.raft.term ∧
    ∃ Q, IsJointQuorum cfg Q ∧ ∀ j ∈ Q,
      (j = l ∧ stb.raft.raftLog.committed ≤ stb.raft.raftLog.persisted) ∨
      Anet a.net j stb.raft.term stb.raft.raftLog.committed :=
  Snap.Hyp.commit_step (.of_old H) n a b ha hb l sta stb hla hlb hs hc

/-- **a leader's term is in its storage** -/
theorem leader_floor {cfg : JointConfig} {c0 : Nat} {h : List Sys} (H : Hyp2w cfg c0 h) {s : Sys}
    (hs : s ∈ h) {k τ : Nat} (hl : leads s k τ) : TermFloor s k τ :=
  Snap.leader_floor (.of_old H) hs hl

theorem Hyp2w.inv_at (H : Hyp2w cfg c0 h) :
    ∃ s0, h[0]? = some s0 ∧ ∀ s ∈ h, InvL (Owner h) (EntriesOf s0) s :=
  Snap.Hyp2w.inv_at (.of_old H)

theorem Hyp2.inv_at (H : Hyp2 cfg c0 h) :
    ∃ s0, h[0]? = some s0 ∧ ∀ s ∈ h, InvL (Owner h) (EntriesOf s0) s := H.toHyp2w.inv_at

/-- **the leader of a term is never restarted while the term is still led later** -/
theorem no_restart_between (H : Hyp2w cfg c0 h) {n d : Nat} {s s' : Sys} {l t : Nat}
    (hn : h[n]? = some s) (hn' : h[n + d]? = some s') (hl : leads s l t) (hl' : leads s' l t) :
    ∀ m a b, n ≤ m → m < n + d → h[m]? = some a → h[m + 1]? = some b → ¬ IsRestart l a b :=
  Snap.no_restart_between (.of_old H) hn hn' hl hl'

/-- **Log Matching across time**: any two chains of any two states of the history agree -/
theorem agree_all (H : Hyp2w cfg c0 h) (n n' : Nat) (s s' : Sys) (hn : h[n]? = some s)
    (hn' : h[n']? = some s') (l1 l2 : Loc) (g1 g2 : LLog) (h1 : At s l1 g1) (h2 : At s' l2 g2) :
    Agree g1 g2 :=
  Snap.agree_all (.of_old H) n n' s s' hn hn' l1 l2 g1 g2 h1 h2

theorem ack_inv (H : Hyp2w cfg c0 h) : ∀ (n : Nat) (s : Sys), h[n]? = some s → AckQ s ∧ AckN s :=
  Snap.ack_inv (.of_old H)

/-- the initial term of node `l` is below every term it ever leads -/
theorem lead_above_init (H : Hyp2w cfg c0 h) {s0 : Sys} (h0 : h[0]? = some s0) {l : Nat}
    {st0 : NState} (hl0 : s0.node l = some st0) {n : Nat} {s : Sys} (hn : h[n]? = some s) {t : Nat}
    (hl : leads s l t) : st0.raft.term < t :=
  Snap.lead_above_init (.of_old H) h0 hl0 hn hl

/-- what a commit event gives: the committing leader's state after the step -/
theorem Ev.facts (H : Hyp2w cfg c0 h) {E : Ev} (hE : E.ok h) :
    ∃ a b sta stb, h[E.nE]? = some a ∧ h[E.nE + 1]? = some b ∧ a.node E.l = some sta ∧
      b.node E.l = some stb ∧ stb.raft.state = .leader ∧ stb.raft.term = E.t ∧
      E.c = stb.raft.raftLog.committed ∧ E.gE = stb.raft.raftLog.abs ∧
      E.pE = stb.raft.raftLog.persisted ∧ sta.raft.raftLog.committed < E.c ∧ c0 < E.c ∧
      Has E.gE E.c E.t ∧
      ∃ Q, IsJointQuorum cfg Q ∧ ∀ j ∈ Q, (j = E.l ∧ E.c ≤ E.pE) ∨ Anet a.net j E.t E.c := by
  obtain ⟨a, b, sta, stb, ha, hb, hla, hlb, hs, ht, hc, hg, _, hp, hlt, hc0, hh, _, hQ⟩ :=
    Snap.Ev.facts (.of_old H) hE
  rw [EvF_eq H hE] at hh
  exact ⟨a, b, sta, stb, ha, hb, hla, hlb, hs, ht, hc, hg, hp, hlt, hc0, hh, hQ⟩

/-- the term of the common snapshot point is not above the initial term of any node, in every state -/
theorem Hyp3a.snapt (H : Hyp3a cfg c0 h) : ∀ s ∈ h, ∀ i st, s.node i = some st → ∀ t0,
    st.raft.raftLog.abs.snapTerm = some t0 →
    ∀ s0, h[0]? = some s0 → ∀ j st0, s0.node j = some st0 → t0 ≤ st0.raft.term :=
  Snap.Hyp3a.snapt (.of_old H)

theorem Hyp3.snapt (H : Hyp3 cfg c0 h) : ∀ s ∈ h, ∀ i st, s.node i = some st → ∀ t0,
    st.raft.raftLog.abs.snapTerm = some t0 →
    ∀ s0, h[0]? = some s0 → ∀ j st0, s0.node j = some st0 → t0 ≤ st0.raft.term :=
  Snap.Hyp3.snapt (.of_old H)

/-- the commit index and the storage over one `call` / `deliver` step of the history -/
theorem call_more (H : Hyp2w cfg c0 h) {n : Nat} {a : Sys} {i : Nat} {st st' : NState}
    {rnd : Option Nat} {op : NodeOp} {res : OpRes}
    (ha : h[n]? = some a) (hi : a.node i = some st)
    (hop : appOp op = true ∨ ∃ m, op = .step m ∧ m ∈ a.net ∧ m.to = i)
    (hc : ∀ j, op ≠ .compact j)
    (hcall : Node.call st rnd op = .ok (res, st')) :
    Src st st' op ∧ (SE st.raft st'.raft ∨ op = .stabilize) ∧ HsOut st st' op := by
  obtain ⟨h1, h2, h3⟩ :=
    Snap.call_more (.of_old H) ha hi hop (fun j hj => absurd hj (hc j)) hcall
  exact ⟨h1, h2.imp_right fun g => g.resolve_right fun ⟨k, hk, _⟩ => hc k hk, h3⟩

/-- **no entry is ahead of its holder's term**: every entry of a node's logical log has a term at most
the node's term, every stored entry a term at most the stored term, every entry of a `MsgAppend` a term
at most the message's term -/
structure TermLe (s : Sys) : Prop where
  log : ∀ i st, s.node i = some st → ∀ e ∈ st.raft.raftLog.abs.ents, e.term ≤ st.raft.term
  sto : ∀ i st, s.node i = some st → ∀ e ∈ st.raft.raftLog.store.entries,
    e.term ≤ st.raft.raftLog.store.hardState.term
  que : ∀ i st, s.node i = some st → ∀ x ∈ st.raft.msgs, x.msgType = .msgAppend →
    ∀ e ∈ x.entries, e.term ≤ x.term
  net : ∀ x ∈ s.net, x.msgType = .msgAppend → ∀ e ∈ x.entries, e.term ≤ x.term

theorem term_le (H : Hyp2w cfg c0 h) : ∀ (n : Nat) (s : Sys), h[n]? = some s → TermLe s := by
  intro n s hn
  have T := Snap.term_le (.of_old H) n s hn
  exact ⟨fun i st hi => by rw [← FL_eq H hn hi]; exact T.log i st hi,
    fun i st hi => by have := T.sto i st hi; rw [FS_eq H hn hi] at this; exact this, T.que, T.net⟩

/-- the log of a commit event is a leader's log -/
theorem Ev.leaderLog (H : Hyp2w cfg c0 h) {E : Ev} (hE : E.ok h) :
    LeaderLog h (E.nE + 1) E.t E.gE ∧ Has E.gE E.c E.t ∧ c0 < E.c := by
  obtain ⟨h1, h2, h3⟩ := Snap.Ev.leaderLog (.of_old H) hE
  rw [EvF_eq H hE] at h1 h2
  exact ⟨(leaderLog_iff H).1 h1, h2, h3⟩

/-- two logs of the leader of one term hold the same entry wherever both reach -/
theorem ll_eq (H : Hyp2w cfg c0 h) {N N' t : Nat} {L L' : LLog} (h1 : LeaderLog h N t L)
    (h2 : LeaderLog h N' t L') {k : Nat} (hk : k ≤ L.lastIndex) (hk' : k ≤ L'.lastIndex) :
    L.entryAt k = L'.entryAt k :=
  Snap.ll_eq (.of_old H) ((leaderLog_iff H).2 h1) ((leaderLog_iff H).2 h2) hk hk'

/-- a node's log that holds an entry of a leader's log at `c` equals that log up to `c` -/
theorem eq_ll (H : Hyp2w cfg c0 h) {n : Nat} {s : Sys} (hn : h[n]? = some s) {v : Nat}
    {st : NState} (hv : s.node v = some st) {N t : Nat} {L : LLog} (hL : LeaderLog h N t L)
    {c τ : Nat} (h1 : Has st.raft.raftLog.abs c τ) (h2 : Has L c τ) :
    EqUpTo st.raft.raftLog.abs L c := by
  rw [← FL_eq H hn hv] at h1 ⊢
  exact Snap.eq_ll (.of_old H) hn hv ((leaderLog_iff H).2 hL) h1 h2

/-- **the logs of two commit events agree**: the log of a past event `E0` holds the entry of any event
`E` that committed no more (`E.c ≤ E0.c`) — given, when `E0`'s term is the smaller one, that `E`'s term
has been led by now -/
theorem ctf (H : Hyp2w cfg c0 h) {n : Nat} (S : SAll h c0 n) {E0 E : Ev} (hE0 : E0.ok h)
    (hE : E.ok h) (hpast : E0.nE < n) (hc : E.c ≤ E0.c)
    (hled : E0.t < E.t → ∃ L, LeaderLog h n E.t L) : Has E0.gE E.c E.t := by
  rw [← EvF_eq H hE0]
  exact Snap.ctf (.of_old H) ((sall_iff H).2 S) hE0 hE hpast hc
    fun hlt => (hled hlt).imp fun _ => (leaderLog_iff H).2

/-- two leaders' logs that hold the same entry at `c` are equal up to `c` -/
theorem ll_eq_below (H : Hyp2w cfg c0 h) {N N' t t' : Nat} {L L' : LLog} (h1 : LeaderLog h N t L)
    (h2 : LeaderLog h N' t' L') {c τ : Nat} (hh : Has L c τ) (hh' : Has L' c τ) :
    EqUpTo L L' c :=
  Snap.ll_eq_below (.of_old H) ((leaderLog_iff H).2 h1) ((leaderLog_iff H).2 h2) hh hh'

/-- the commit index is never below the common snapshot point -/
theorem c0_le_committed (H : Hyp2w cfg c0 h) {n : Nat} {s : Sys} (hn : h[n]? = some s) {v : Nat}
    {st : NState} (hv : s.node v = some st) : c0 ≤ st.raft.raftLog.committed :=
  Snap.c0_le_committed (.of_old H) hn hv

/-- **the main induction** -/
theorem sall (H : Hyp3a cfg c0 h) : ∀ n, SAll h c0 n :=
  fun n => (sall_iff H.toHyp2w).1 (Snap.sall (.of_old H) n)

theorem sm_all (H : Hyp3a cfg c0 h) {n : Nat} {s : Sys} (hn : h[n]? = some s) : Sm h c0 n s :=
  sall H n n s (Nat.le_refl _) hn

/-- **provenance of the accepting append responses** -/
theorem ack_prov (H : Hyp2w cfg c0 h) : ∀ (n : Nat) (s : Sys), h[n]? = some s →
    (∀ i st, s.node i = some st → ∀ x ∈ st.raft.msgs, (isAck x ∧ x.index ≠ 0) →
      Gen (AckGen h) n i x) ∧
    (∀ x ∈ s.net, (isAck x ∧ x.index ≠ 0) → ∃ i, Gen (AckGen h) n i x) :=
  Snap.ack_prov (.of_old H)

/-- **the cluster invariant holds in every state of a history** -/
theorem ci_all (H : Hyp3w cfg c0 h) : ∀ (n : Nat) (s : Sys), h[n]? = some s → CI h c0 n s :=
  Snap.ci_all (.of_old H)

/-- **the proof gaps `anch` and `norir` are theorems**: the hypotheses of the main induction
follow from the hypotheses without gaps about the transport -/
theorem Hyp3w.toHyp3a (H : Hyp3w cfg c0 h) : Hyp3a cfg c0 h :=
  have S := Snap.Hyp3w.toHyp3a (.of_old H)
  { toHyp2w := H.toHyp2w, anch := S.anch, rirs := S.rirs, snapt0 := H.snapt0 }

end Cluster
end RaftModel
