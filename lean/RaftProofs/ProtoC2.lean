import RaftProofs.ProtoCDefs

/-!
Commit layer of P, clause group `InvC2`: the voter's log recorded with a grant (generated: `rgo`,
released: `rgr`) retains what the voter had acknowledged before, provided the leaders in between
held it.

`rgr` is *not* inductive relative to the invariants `InvV/InvR/InvL/InvA/InvB/InvC` alone: nothing in
them links the ghost records `rgv` to the released grants `grants` (they are added together by
`addReleased`, but no clause says so).  The link is needed to bound the term of a record of voter `v`
by the current term of `v` when `v` generates a new acknowledgement.  `InvG` below is that link; it is
inductive on its own (`invG_step` has no other hypothesis) and holds in every reachable state.
-/
namespace RaftModel.P

/-! ### the missing link: every ghost grant record belongs to a released grant -/

def InvG (s : PSys) : Prop := ∀ p ∈ s.rgv, p.1 ∈ s.grants

theorem invG_init : InvG init := by
  intro p hp; simp [init] at hp

theorem invG_step (s s' : PSys) (e : Event) (h : applyEvent s e = .ok s') (hG : InvG s) : InvG s' := by
  rcases released_frame h with ⟨i, key, rfl⟩ | ⟨_, hgr, hrgv, _⟩
  · rcases release_ok h with ⟨_, ⟨_, _, _, _, _, rfl⟩ | ⟨_, _, _, _, _, _, _, rfl⟩ | ⟨_, t, v, c, gh, _, _, rfl⟩⟩
    · exact hG
    · exact hG
    · intro p hp
      rcases List.mem_cons.1 hp with hp | hp
      · rw [hp]; exact List.mem_cons_self
      · exact List.mem_cons_of_mem _ (hG p hp)
  · intro p hp
    rw [hrgv] at hp; rw [hgr]; exact hG p hp

theorem invG_reachR (s : PSys) (h : Reach s) : InvG s := by
  induction h with
  | init => exact invG_init
  | step e _ hs ih => exact invG_step _ _ e hs ih

theorem invG_reachC (c0 : Cfg) (s : PSys) (h : ReachC c0 s) : InvG s := invG_reachR s (reach_of_reachC h)

/-! ### helpers -/

/-- a generated grant of node `i` is of a term not beyond the node's -/
theorem grant_term_le {s : PSys} (hV : InvV (vsys s)) {i t v cd : Nat} {gh : VGhost}
    (h : OMsg.grant t v cd gh ∈ (s.nodes i).outbox) : t ≤ (s.nodes i).term := by
  have hm : (⟨t, v, cd⟩ : Grant) ∈ ((vsys s).nodes i).og := by
    simp only [vsys, vproj]
    exact List.mem_filterMap.2 ⟨_, h, rfl⟩
  exact (hV.gu i ⟨t, v, cd⟩ (Or.inl hm)).2.1

/-- a released grant record of voter `v` is of a term not beyond `v`'s -/
theorem rgrant_term_le {s : PSys} (hV : InvV (vsys s)) (hG : InvG s) {p : Grant × VGhost}
    (hp : p ∈ s.rgv) : p.1.term ≤ (s.nodes p.1.voter).term :=
  (hV.gu p.1.voter p.1 (Or.inr ⟨hG p hp, rfl⟩)).2.1

theorem not_elected_of_early {s : PSys} {t : Nat}
    (h : (!(s.elected.any (fun p => p.1 = t))) = true) : ¬ Elected s t := by
  rintro ⟨j, hj⟩
  have : s.elected.any (fun p => p.1 = t) = true :=
    List.any_eq_true.2 ⟨(t, j), hj, by simp⟩
  rw [this] at h
  cases h

/-- while a node is up, every acknowledgement it knows is in its outbox -/
theorem nodeAcks_outbox {s : PSys} (hA : InvA s) {i : Nat} (hup : (s.nodes i).up = true) {t0 f idx : Nat}
    {pre : List LEntry} (h : nodeAcks (s.nodes i) (.ack t0 f idx pre)) :
    OMsg.ack t0 f idx pre ∈ (s.nodes i).outbox := by
  rcases h with h | ⟨im, him, hm⟩ | h
  · exact h
  · exact hA.o2 i im him _ hm
  · exact hA.o1 i hup _ h rfl

/-- transport along a step: for an acknowledgement known in the pre-state, the condition on the
leaders in between and the acknowledged prefix of the ghost log are those of the pre-state -/
theorem grow_back {s s' : PSys} (hL : InvL s) (hC1 : InvC1 s) (g : Grow s s') {j t0 f idx : Nat}
    {pre : List LEntry} {c T : Nat} (ha : nodeAcks (s.nodes j) (.ack t0 f idx pre)) (hc : c ≤ idx)
    (h : NClt s' t0 c T) : NClt s t0 c T ∧ (s'.llog t0).take c = (s.llog t0).take c := by
  obtain ⟨hlen, _, hel⟩ := hC1.atr j t0 f idx pre ha
  have hcl : c ≤ (s.llog t0).length := by omega
  exact ⟨g.nclt hel hcl (fun e he => (hL.lterm t0 e he).2) h, g.take_eq hel hcl⟩

/-- a generated grant is of the node's term, records the node's log and whether the term had a leader -/
theorem Gen.grant_rec {s : PSys} {j : Nat} {l' : List LEntry} {e : Event} {t v cd : Nat} {gh : VGhost}
    (h : Gen s j l' e (.grant t v cd gh)) (he : gh.early = true) :
    t = (s.nodes j).term ∧ gh.vlog = (s.nodes j).log ∧ ¬ Elected s t := by
  cases h with
  | campGrant => exact ⟨rfl, rfl, not_elected_of_early he⟩
  | grant => exact ⟨rfl, rfl, not_elected_of_early he⟩

/-! ### the step theorem -/

theorem invC2_init : InvC2 init := by
  constructor
  · intro i t v cd gh hg; simp [init] at hg
  · intro p hp; simp [init] at hp

/-- `InvC2` is preserved by every event.  Besides the other invariants it needs `InvG s` (ghost grant
records belong to released grants), see the head of this file.  No case split on the event: a grant and
an acknowledgement in an outbox were there or are generated now (`outbox_step`), a grant record was
released before or sat in the voter's outbox (`released_step`), an acknowledgement the voter knows it
knew before or generates now (`held_step`). -/
theorem invC2_step (s s' : PSys) (e : Event) (h : applyEvent s e = .ok s')
    (hV : InvV (vsys s)) (hR : InvR s) (hL : InvL s) (hA : InvA s) (hC : InvC s) (g : Grow s s')
    (hG : InvG s) : InvC2 s' := by
  have hC1 := hC.c1
  have h2 := hC.c2
  constructor
  · intro j t v cd gh hg he t0 f idx pre ha hlt c hc hN
    rcases outbox_step h j with ⟨hs, _⟩ | ⟨_, hs, _⟩
    · rcases hs _ ha with ha | ha
      · obtain ⟨k1, k2⟩ := grow_back hL hC1 g (Or.inl ha) hc hN
        rw [k2]
        rcases hs _ hg with hg | hg
        · exact h2.rgo j t v cd gh hg he t0 f idx pre ha hlt c hc k1
        · -- a new grant records the node's log, and its term has no leader yet
          obtain ⟨e1, e2, e3⟩ := hg.grant_rec he
          rw [e2]
          exact hC1.ret j t0 f idx pre ha c hc (e1 ▸ NCle_of_lt k1 e3)
      · -- a new acknowledgement is of the node's term, a grant in the outbox not beyond it
        exfalso
        have e1 := ha.ack_term
        rcases hs _ hg with hg | hg
        · have := grant_term_le hV hg; omega
        · have := (hg.grant_rec he).1; omega
    · cases (hs _ hg).1
  · intro p hp he t0 f idx pre ha hlt c hc hN
    -- an acknowledgement the voter generates now is of its term, the grant not beyond it
    have hold : nodeAcks (s.nodes p.1.voter) (.ack t0 f idx pre) ∨ (s.nodes p.1.voter).term < p.1.term := by
      rcases held_step h _ _ ha with ha | ha
      · exact Or.inl ha
      · exact Or.inr (ha.ack_term ▸ hlt)
    rcases released_step h (.grant p.1.term p.1.voter p.1.cand p.2) hp with hp | ⟨i, hup, hp | hp⟩
    · rcases hold with ha | hlt'
      · obtain ⟨k1, k2⟩ := grow_back hL hC1 g ha hc hN
        rw [k2]; exact h2.rgr p hp he t0 f idx pre ha hlt c hc k1
      · have := rgrant_term_le hV hG hp; simp only at this; omega
    · have hp := hp.1
      have hi : p.1.voter = i := (hR.own i _ hp).1
      rw [hi] at hold
      rcases hold with ha | hlt'
      · obtain ⟨k1, k2⟩ := grow_back hL hC1 g ha hc hN
        rw [k2]
        exact h2.rgo i _ _ _ _ hp he t0 f idx pre (nodeAcks_outbox hA hup ha) hlt c hc k1
      · have := grant_term_le hV hp; omega
    · cases hp.1

end RaftModel.P
