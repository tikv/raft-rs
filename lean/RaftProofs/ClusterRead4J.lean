import RaftProofs.ClusterRead4I

/-!
Cluster-level ReadIndex safety for **forwarded** reads, part 4J: **a request context occurs (pending,
queued, in a heartbeat / heartbeat response) only after it was registered** (`occ_issued`; read states
are not tracked here — they may come from a `MsgReadIndexResp`; `rs_src` of `ClusterRead4N` finds the
release behind them); late contexts and the term floor behind every heartbeat response that carries a
late context (`hbr_floor`).
-/
namespace RaftModel
namespace Cluster
namespace R4
open Raft.RD.R4
open Raft.RD (reqCtx boot_fresh)

variable {cfg : JointConfig} {c0 : Nat} {h : List Sys}

/-- a heartbeat or a heartbeat response -/
def IsHb (x : Message) : Prop := x.msgType = .msgHeartbeat ∨ x.msgType = .msgHeartbeatResponse

theorem IsHb.rd {x : Message} (hx : IsHb x) : isRd x = true := by
  unfold isRd
  rcases hx with c | c <;> rw [c] <;> rfl

/-- the context `K` occurs at the node state `r` -/
def OccR (r : Raft) (K : Bytes) : Prop :=
  (∃ rs, (K, rs) ∈ r.readOnly.pendingReadIndex) ∨ K ∈ r.readOnly.readIndexQueue ∨
  (∃ x ∈ r.msgs, IsHb x ∧ x.context = K)

/-- the context `K` occurs in the state `s`: pending or queued at a node, or in a heartbeat or
heartbeat response of a queue or of the transport -/
def Occ (s : Sys) (K : Bytes) : Prop :=
  (∃ v st, s.node v = some st ∧ OccR st.raft K) ∨ ∃ x ∈ s.net, IsHb x ∧ x.context = K

/-- `K` was registered by a step before index `k` -/
def Issued (h : List Sys) (k : Nat) (K : Bytes) : Prop := ∃ n i, n < k ∧ Reg h n i K

theorem Issued.mono {k k' : Nat} {K : Bytes} (hi : Issued h k K) (hle : k ≤ k') : Issued h k' K := by
  obtain ⟨n, i, h1, h2⟩ := hi
  exact ⟨n, i, by omega, h2⟩

/-- occurrence after a step that kept the read path (`RS`) up to a state `r1`, did not touch `rcore`
afterwards, and queued no heartbeat / heartbeat response after `r1` -/
theorem OccR.back {a r1 r : Raft} {K : Bytes} (hs : RS a r1) (hcore : rcore r = rcore r1)
    (hmsgs : ∀ x ∈ r.msgs, IsHb x → x ∈ r1.msgs) (ho : OccR r K) : OccR a K := by
  have e1 : r.readOnly = r1.readOnly := congrArg RCore.ro hcore
  rcases ho with ⟨rs, g⟩ | g | ⟨x, g1, g2, g3⟩
  · rw [e1] at g
    rcases RS.ro_cases hs with ⟨q, _⟩ | ⟨q, _⟩
    · rw [q] at g; exact .inl ⟨rs, g⟩
    · rw [q] at g; cases g
  · rw [e1] at g
    rcases RS.ro_cases hs with ⟨q, _⟩ | ⟨_, q⟩
    · rw [q] at g; exact .inr (.inl g)
    · rw [q] at g; cases g
  · have : x ∈ rdOf r1.msgs := mem_rdOf.2 ⟨hmsgs x g1 g2, g2.rd⟩
    rw [hs.rd] at this
    exact .inr (.inr ⟨x, (mem_rdOf.1 this).1, g2, g3⟩)

theorem occ_issued (F : ReadFacts cfg c0 h)
    (safe : ∀ s ∈ h, ∀ i st, s.node i = some st → st.raft.readOnly.option = .safe) :
    ∀ (k : Nat) (s : Sys), h[k]? = some s → ∀ K, K ≠ [] → Occ s K → Issued h k K := by
  intro k s hs K hK hocc
  have up : ∀ {n : Nat} {a : Sys}, (∀ i st, a.node i = some st → OccR st.raft K → Issued h n K) →
      (∀ x ∈ a.net, IsHb x → x.context = K → Issued h n K) → Occ a K → Issued h (n + 1) K := by
    intro n a ihn iht g
    rcases g with ⟨v, stv, hv, g⟩ | ⟨x, hx, g1, g2⟩
    · exact (ihn v stv hv g).mono (Nat.le_succ n)
    · exact (iht x hx g1 g2).mono (Nat.le_succ n)
  have key := F.local_hist
    (T := fun n x => IsHb x → x.context = K → Issued h n K)
    (N := fun n _ _ r => OccR r K → Issued h n K)
    (fun _ g => g) (fun g ho => (g ho).mono (Nat.le_succ _)) (fun g g1 g2 => (g g1 g2).mono (Nat.le_succ _))
    (fun g x hx g1 g2 => g (.inr (.inr ⟨x, hx, g1, g2⟩)))
    (fun g ho => g (ho.imp (fun q => q) (fun q => q.imp (fun q => q) (fun ⟨_, q, _⟩ => nomatch q))))
    (fun hf hq ho => by
      exfalso
      rcases ho with ⟨rs, g⟩ | g | ⟨x, g, _⟩
      · rw [hf.1] at g; cases g
      · rw [hf.2.1] at g; cases g
      · rw [hq] at g; cases g) ?_ ?_ ?_ k s hs
  · rcases hocc with ⟨v, st, hv, ho⟩ | ⟨x, hx, g1, g2⟩
    · exact key.1 v st hv ho
    · exact key.2 x hx g1 g2
  all_goals intro n a k st st'
  · intro m ha hb ihn iht hk hm ho _ hoc
    have up := up ihn iht
    apply up
    rcases hoc with ⟨rs, g⟩ | g | ⟨x, g1, g2, g3⟩
    · obtain ⟨_, ⟨rs0, q, _⟩, _⟩ := ho.pend K rs g
      exact .inl ⟨k, st, hk, .inl ⟨rs0, q⟩⟩
    · obtain ⟨d, hd⟩ := ho.queue
      rw [hd] at g
      exact .inl ⟨k, st, hk, .inr (.inl (List.mem_of_mem_drop g))⟩
    · rcases ho.msgs x g1 with c | c | c | c | c
      · exact .inl ⟨k, st, hk, .inr (.inr ⟨x, c, g2, g3⟩)⟩
      · have := g2.rd; unfold isRd at this; rw [c] at this; cases this
      · rcases c.2 with c | c
        · exact absurd (g3.symm.trans c) hK
        · rw [g3] at c; exact .inl ⟨k, st, hk, .inr (.inl c)⟩
      · rcases hm with q | ⟨q, _⟩
        · rw [c.2.1] at q; cases q
        · exact .inr ⟨m, q, .inl c.2.1, c.2.2.1.symm.trans g3⟩
      · rcases g2 with q | q <;> rw [c.1] at q <;> cases q
  · intro K' rnd res ha hb ihn iht hk hcall ho hoc
    have up := up ihn iht
    cases ho with
    | frame hf =>
      exact up (.inl ⟨k, st, hk, OccR.back (RS.refl _) hf.1
        (fun x hx hh => by
          have : x ∈ rdOf st'.raft.msgs := mem_rdOf.2 ⟨hx, hh.rd⟩
          rw [hf.rd] at this
          exact (mem_rdOf.1 this).1) hoc⟩)
    | fwd hfo hlead hcore hmsgs =>
      refine up (.inl ⟨k, st, hk, OccR.back (RS.refl _) hcore (fun x hx hh => ?_) hoc⟩)
      rw [hmsgs] at hx
      rcases List.mem_append.1 hx with c | c
      · exact c
      · exfalso
        rw [List.mem_singleton.1 c] at hh
        have := (sendFill_ri st.raft
          { msgType := .msgReadIndex, to := st.raft.leaderId, entries := [{ data := K' }] } rfl).1
        rcases hh with q | q <;> rw [this] at q <;> cases q
    | now hs => exact absurd hs (F.not_now safe (mem_of_get ha) hk)
    | reg hl hc ro hadd hcore hmsgs =>
      have e1 : st'.raft.readOnly = ro := congrArg RCore.ro hcore
      -- `K'` is pending after the call: it was pending before, or this call registers it
      have hK' : K = K' → Issued h (n + 1) K := by
        intro e
        subst e
        rcases addRequest_spec hadd with ⟨_, rs, q2⟩ | ⟨q1, _, q3, _⟩
        · exact up (.inl ⟨k, st, hk, .inl ⟨rs, q2⟩⟩)
        · refine ⟨n, k, Nat.lt_succ_self n, .inl ⟨a, _, st, st', rnd, res, ha, hb, hk, hcall, rfl, q1, ?_⟩⟩
          rw [e1, q3]
          exact ⟨_, List.mem_append_right _ (List.mem_singleton.2 rfl)⟩
      rcases hoc with ⟨rs, g⟩ | g | ⟨x, g1, g2, g3⟩
      · rw [e1] at g
        rcases addRequest_spec hadd with ⟨q1, _⟩ | ⟨_, _, q3, _⟩
        · rw [q1] at g; exact up (.inl ⟨k, st, hk, .inl ⟨rs, g⟩⟩)
        · rw [q3] at g
          rcases List.mem_append.1 g with g | g
          · exact up (.inl ⟨k, st, hk, .inl ⟨rs, g⟩⟩)
          · rw [List.mem_singleton] at g
            injection g with g
            exact hK' g
      · rw [e1] at g
        rcases addRequest_spec hadd with ⟨q1, _⟩ | ⟨_, _, _, q4⟩
        · rw [q1] at g; exact up (.inl ⟨k, st, hk, .inr (.inl g)⟩)
        · rw [q4] at g
          rcases List.mem_append.1 g with g | g
          · exact up (.inl ⟨k, st, hk, .inr (.inl g)⟩)
          · exact hK' (List.mem_singleton.1 g)
      · rcases hmsgs x g1 with c | ⟨_, c⟩
        · exact up (.inl ⟨k, st, hk, .inr (.inr ⟨x, c, g2, g3⟩)⟩)
        · exact hK' (g3.symm.trans c)
  · intro m rnd res ha hb ihn iht hk hm hto hty hcall ho hoc
    have up := up ihn iht
    cases ho with
    | keep hs _ =>
      exact up (.inl ⟨k, st, hk, OccR.back hs rfl (fun x hx _ => hx) hoc⟩)
    | fwd r1 hs hfo hcore y hmsgs hy =>
      refine up (.inl ⟨k, st, hk, OccR.back hs hcore (fun x hx hh => ?_) hoc⟩)
      rw [hmsgs] at hx
      rcases List.mem_append.1 hx with c | c
      · exact c
      · exfalso
        rw [List.mem_singleton.1 c] at hh
        rcases hh with q | q <;> rw [hy.1] at q <;> cases q
    | now hs => exact absurd hs (F.not_now safe (mem_of_get ha) hk)
    | reg hl hc ro hadd hcore hmsgs =>
      have e1 : st'.raft.readOnly = ro := congrArg RCore.ro hcore
      obtain ⟨en, hen, hcase⟩ := addRequest_specD hadd
      have hK' : K = en.data → Issued h (n + 1) K := by
        intro e
        subst e
        rcases hcase with ⟨_, rs, q2⟩ | ⟨q1, _, q3, _⟩
        · exact up (.inl ⟨k, st, hk, .inl ⟨rs, q2⟩⟩)
        · refine ⟨n, k, Nat.lt_succ_self n, .inr ⟨m, st.raft.raftLog.committed,
            a, _, st, st', rnd, res, ha, hb, hk, hm, hto, hty, hcall, rfl, q1, ?_⟩⟩
          rw [e1, q3]
          exact ⟨_, List.mem_append_right _ (List.mem_singleton.2 rfl), rfl⟩
      rcases hoc with ⟨rs, g⟩ | g | ⟨x, g1, g2, g3⟩
      · rw [e1] at g
        rcases hcase with ⟨q1, _⟩ | ⟨_, _, q3, _⟩
        · rw [q1] at g; exact up (.inl ⟨k, st, hk, .inl ⟨rs, g⟩⟩)
        · rw [q3] at g
          rcases List.mem_append.1 g with g | g
          · exact up (.inl ⟨k, st, hk, .inl ⟨rs, g⟩⟩)
          · rw [List.mem_singleton] at g
            injection g with g
            exact hK' g
      · rw [e1] at g
        rcases hcase with ⟨q1, _⟩ | ⟨_, _, _, q4⟩
        · rw [q1] at g; exact up (.inl ⟨k, st, hk, .inr (.inl g)⟩)
        · rw [q4] at g
          rcases List.mem_append.1 g with g | g
          · exact up (.inl ⟨k, st, hk, .inr (.inl g)⟩)
          · exact hK' (List.mem_singleton.1 g)
      · rcases hmsgs x g1 with c | ⟨_, c⟩
        · exact up (.inl ⟨k, st, hk, .inr (.inr ⟨x, c, g2, g3⟩)⟩)
        · apply hK'
          unfold reqCtx at c
          rw [hen] at c
          injection c with c
          exact g3.symm.trans c

/-! ### late contexts -/

/-- the context `K` is not empty and is not registered by any step before index `n0` -/
def Late (h : List Sys) (n0 : Nat) (K : Bytes) : Prop := K ≠ [] ∧ ∀ n i, Reg h n i K → n0 ≤ n

theorem late_not_occ (F : ReadFacts cfg c0 h)
    (safe : ∀ s ∈ h, ∀ i st, s.node i = some st → st.raft.readOnly.option = .safe)
    {n0 k : Nat} {s : Sys} (hk : h[k]? = some s)
    (hle : k ≤ n0) {K : Bytes} (hL : Late h n0 K) : ¬ Occ s K := by
  intro ho
  obtain ⟨n, i, h1, h2⟩ := occ_issued F safe k s hk K hL.1 ho
  have := hL.2 n i h2
  omega

/-- every heartbeat response with a late context was sent after `h[n0]` -/
structure HbrFloor (h : List Sys) (n0 : Nat) (s0 s : Sys) : Prop where
  q : ∀ v st, s.node v = some st → ∀ x ∈ st.raft.msgs, x.msgType = .msgHeartbeatResponse →
    Late h n0 x.context → FloorOK s0 x
  net : ∀ x ∈ s.net, x.msgType = .msgHeartbeatResponse → Late h n0 x.context → FloorOK s0 x

theorem hbr_floor (F : ReadFacts cfg c0 h)
    (safe : ∀ s ∈ h, ∀ i st, s.node i = some st → st.raft.readOnly.option = .safe)
    {n0 : Nat} {s0 : Sys} (hn0 : h[n0]? = some s0) :
    ∀ (k : Nat) (s : Sys), h[k]? = some s → HbrFloor h n0 s0 s := by
  -- a heartbeat response of the queue of the moved node that was queued before
  have old : ∀ (r0 r1 r : Raft),
      (∀ x ∈ r0.msgs, x.msgType = .msgHeartbeatResponse → Late h n0 x.context → FloorOK s0 x) →
      RS r0 r1 → (∀ x ∈ r.msgs, x.msgType = .msgHeartbeatResponse → x ∈ r1.msgs) →
      ∀ x ∈ r.msgs, x.msgType = .msgHeartbeatResponse → Late h n0 x.context → FloorOK s0 x := by
    intro r0 r1 r ih hs hm x hx hty hL
    have : x ∈ rdOf r1.msgs := mem_rdOf.2 ⟨hm x hx hty, by unfold isRd; rw [hty]; rfl⟩
    rw [hs.rd] at this
    exact ih x (mem_rdOf.1 this).1 hty hL
  intro k s hs
  have key := F.local_hist
    (T := fun _ x => x.msgType = .msgHeartbeatResponse → Late h n0 x.context → FloorOK s0 x)
    (N := fun _ _ _ r => ∀ x ∈ r.msgs, x.msgType = .msgHeartbeatResponse → Late h n0 x.context →
      FloorOK s0 x)
    (fun _ g => g) (fun g => g) (fun g => g) (fun g => g) (fun _ _ hx => nomatch hx)
    (fun _ hq x hx => by rw [hq] at hx; cases hx) ?_ ?_ ?_ k s hs
  · exact ⟨key.1, key.2⟩
  · intro n a k st st' m ha hb ihn _ hk hm ho _ x hx hty hL
    rcases ho.msgs x hx with c | c | c | c | c
    · exact ihn k st hk x c hty hL
    · rw [hty] at c; cases c
    · rw [c.1] at hty; cases hty
    · -- a fresh response: the step is after `n0`
      have hle : n0 ≤ n := by
        apply Classical.byContradiction
        intro hc
        exact late_not_occ F safe hb (by omega) hL
          (.inl ⟨k, st', node_setNode_self a k st', .inr (.inr ⟨x, hx, .inr hty, rfl⟩)⟩)
      intro τ hτ
      obtain ⟨st2, q1, q2, _⟩ := hτ.later F.hist hn0 ha hle
      have hid := F.id (mem_of_get ha) hk
      rw [c.2.2.2.1, hid, hk] at q1
      cases q1
      exact Nat.le_trans q2 c.2.2.2.2
    · rw [c.1] at hty; cases hty
  · intro n a k st st' K' _ _ ha _ ihn _ hk _ ho x hx hty hL
    cases ho with
    | frame hf => exact old _ _ _ (ihn k st hk) hf.toRS (fun _ hx _ => hx) x hx hty hL
    | fwd hfo hlead hcore hmsgs =>
      refine old _ _ _ (ihn k st hk) (RS.refl _) (fun y hy hyt => ?_) x hx hty hL
      rw [hmsgs] at hy
      rcases List.mem_append.1 hy with c | c
      · exact c
      · exfalso
        rw [List.mem_singleton.1 c] at hyt
        have := (sendFill_ri st.raft
          { msgType := .msgReadIndex, to := st.raft.leaderId, entries := [{ data := K' }] } rfl).1
        rw [this] at hyt; cases hyt
    | now hs => exact absurd hs (F.not_now safe (mem_of_get ha) hk)
    | reg hl hc ro hadd hcore hmsgs =>
      rcases hmsgs x hx with c | ⟨c, _⟩
      · exact ihn k st hk x c hty hL
      · rw [c] at hty; cases hty
  · intro n a k st st' m _ _ ha _ ihn _ hk hm hto hty' _ ho x hx hty hL
    cases ho with
    | keep hs _ => exact old _ _ _ (ihn k st hk) hs (fun _ hx _ => hx) x hx hty hL
    | fwd r1 hs hfo hcore y hmsgs hy =>
      refine old _ r1 _ (ihn k st hk) hs (fun z hz hzt => ?_) x hx hty hL
      rw [hmsgs] at hz
      rcases List.mem_append.1 hz with c | c
      · exact c
      · exfalso
        rw [List.mem_singleton.1 c, hy.1] at hzt; cases hzt
    | now hs => exact absurd hs (F.not_now safe (mem_of_get ha) hk)
    | reg hl hc ro hadd hcore hmsgs =>
      rcases hmsgs x hx with c | ⟨c, _⟩
      · exact ihn k st hk x c hty hL
      · rw [c] at hty; cases hty

end R4
end Cluster
end RaftModel
