import RaftProofs.ClusterCommit5H

/-!
Cluster-level commit safety, a node that does not batch: the relation `G` of `ClusterCommitD` is
`Gx False`, so what the handlers do to it is read off `ClusterCommit5C–5H`; **one call of a node as `G`**
(`call_g`).
-/
namespace RaftModel
namespace Raft
namespace CC
open CX Node

variable {A : Nat → Nat → Nat → Prop} {a r r' : Raft} {m : Message}

theorem G.rebase {A : Nat → Nat → Nat → Prop} {a a' r : Raft} {m : Message} (h : G A a' m r)
    (hid : a'.id = a.id)
    (hc : a'.raftLog.committed = a.raftLog.committed) (hm : a'.msgs = a.msgs) : G A a m r :=
  ((Gx.of_g h).rebase hid hc hm).g

/-- with nothing queued, only the state clauses matter -/
theorem G.of_old (ho : Old a r) (hid : r.id = a.id) (hm : MOK A r)
    (hl : r.state = .leader → r.raftLog.committed = a.raftLog.committed ∨ LCok r) : G A a m r :=
  (Gx.of_old ho hid hm hl).g

/-- a state that is not a leader satisfies the state clauses trivially -/
theorem G.of_old_nl (ho : Old a r) (hid : r.id = a.id) (hs : r.state ≠ .leader) : G A a m r :=
  (Gx.of_old_nl ho hid hs).g

/-- **lifting a sending helper**: on a leader, or when nothing new was queued -/
theorem G.sf (hA : ∀ j t x y, y ≤ x → A j t x → A j t y) (h0 : G A a m r) (h1 : SF r r')
    (hl : r.state = .leader ∨ ∀ x ∈ r'.msgs, x ∈ r.msgs) : G A a m r' :=
  ((Gx.of_g h0).sfn hA h1 hl).g

/-- any structure update that keeps `id`, `state`, `term`, `raftLog`, `prs` and `msgs` keeps `G` -/
theorem G.mk' {x2 : Nat}
    {x4 : List ReadState} {x6 x7 x8 : Nat}
    {x10 : Bool} {x11 : Nat}
    {x12 : Option Nat} {x13 : Nat} {x14 : ReadOnly} {x15 x16 : Nat} {x17 x18 x19 x20 x21 : Bool}
    {x22 x23 x24 x25 x26 : Nat} {x27 : Int} {x28 : UncommittedState} {x29 : Nat}
    {x32 : Option Nat} (h0 : G A a m r) :
    G A a m { term := r.term, vote := x2, id := r.id, readStates := x4, raftLog := r.raftLog,
              maxInflight := x6, maxMsgSize := x7, pendingRequestSnapshot := x8, state := r.state,
              promotable := x10, leaderId := x11, leadTransferee := x12,
              pendingConfIndex := x13, readOnly := x14, electionElapsed := x15,
              heartbeatElapsed := x16, checkQuorum := x17, preVote := x18,
              skipBcastCommit := x19, batchAppend := x20, disableProposalForwarding := x21,
              heartbeatTimeout := x22, electionTimeout := x23, randomizedElectionTimeout := x24,
              minElectionTimeout := x25, maxElectionTimeout := x26, priority := x27,
              uncommittedState := x28, maxCommittedSizePerReady := x29, prs := r.prs,
              msgs := r.msgs, nextRand := x32 } :=
  (Gx.mk' (Gx.of_g h0)).g

/-- the commit index moves up (and nothing else of the log): `commit_to` / `maybe_commit` -/
theorem G.commitUp {c : Nat}
    (h0 : G A a m r) (hid : r'.id = r.id) (hs : r'.state = r.state) (ht : r'.term = r.term)
    (hp : mfun r'.prs = mfun r.prs) (hq : r'.msgs = r.msgs)
    (hl : r'.raftLog = { r.raftLog with committed := c }) (hc : r.raftLog.committed ≤ c)
    (hlc : r'.state = .leader → LCok r') : G A a m r' :=
  ((Gx.of_g h0).commitUp hid hs ht hp hq hl hc hlc).g

/-- writing back a progress entry whose `matched` grew to a value backed by `A` -/
theorem G.setMatched {id : Nat} {pr : Progress} (h0 : G A a m r)
    (hb : pr.matched = 0 ∨ (id = r.id ∧ pr.matched ≤ r.raftLog.persisted) ∨ A id r.term pr.matched)
    (hge : ∀ old, r.prs.get id = some old → old.matched ≤ pr.matched) :
    G A a m { r with prs := r.prs.set id pr } :=
  ((Gx.of_g h0).setMatched hb hge).g

/-- replacing the tracker by one with the same matched table and the same voters -/
theorem G.setPrs {p : ProgressTracker} (h0 : G A a m r) (hp : mfun p = mfun r.prs)
    (hv : p.voters = r.prs.voters) : G A a m { r with prs := p } :=
  ((Gx.of_g h0).setPrs hp hv).g

/-- the anchor message matters only through accepted appends -/
theorem G.reanchor {m' : Message} (h : G A a m r) (hm : m.msgType ≠ .msgAppend) : G A a m' r :=
  ((Gx.of_g h).reanchor hm).g

/-- with nothing queued and the commit index of the start, the log may be re-represented (storage
writes, `applied`, `persisted` moving up) -/
theorem G.old_relog (h0 : G A a m r) (ho : Old a r)
    (hcm : r.raftLog.committed = a.raftLog.committed)
    (hid : r'.id = r.id) (hs : r'.state = r.state) (ht : r'.term = r.term)
    (hp : mfun r'.prs = mfun r.prs) (hq : r'.msgs = r.msgs)
    (hc : r'.raftLog.committed = r.raftLog.committed)
    (hpe : r.raftLog.persisted ≤ r'.raftLog.persisted) :
    G A a m r' ∧ Old a r' ∧ r'.raftLog.committed = a.raftLog.committed :=
  ((Gx.of_g h0).old_relog ho hcm hid hs ht hp hq hc hpe).imp Gx.g fun g => g

theorem becomeFollower_g (t l : Nat) (h0 : G A a m r) (ho : Old a r) :
    G A a m (r.becomeFollower t l) :=
  (becomeFollower_gx t l (Gx.of_g h0) ho).g

/-- a (pre-)candidate is no leader, and becoming one queues nothing -/
theorem becomeCandidate_g (h : r.becomeCandidate = .ok r') (h0 : G A a m r) (ho : Old a r) :
    G A a m r' ∧ Old a r' :=
  (becomeCandidate_gx h (Gx.of_g h0) ho).imp Gx.g fun g => g

theorem becomePreCandidate_g (h : r.becomePreCandidate = .ok r') (h0 : G A a m r)
    (ho : Old a r) : G A a m r' ∧ Old a r' :=
  (becomePreCandidate_gx h (Gx.of_g h0) ho).imp Gx.g fun g => g

/-- `append_entry` with nothing queued yet and the commit index still the one of the start -/
theorem appendEntry_g {es : List Entry} {b : Bool} (h : r.appendEntry es = .ok (r', b))
    (h0 : G A a m r) (ho : Old a r) (hcm : r.raftLog.committed = a.raftLog.committed) :
    G A a m r' ∧ Old a r' ∧ r'.raftLog.committed = a.raftLog.committed :=
  (appendEntry_gx h (Gx.of_g h0) ho hcm).imp Gx.g fun g => g

theorem becomeLeader_g (h : r.becomeLeader = .ok r') (h0 : G A a m r) (ho : Old a r)
    (hcm : r.raftLog.committed = a.raftLog.committed) :
    G A a m r' ∧ Old a r' ∧ r'.raftLog.committed = a.raftLog.committed ∧ r'.state = .leader :=
  (becomeLeader_gx h (Gx.of_g h0) ho hcm).imp Gx.g fun g => g

theorem maybeCommit_g {b : Bool} (h : r.maybeCommit = .ok (r', b)) (h0 : G A a m r) :
    G A a m r' :=
  (maybeCommit_gx h (Gx.of_g h0)).g

/-- **`step_leader`**, entered with nothing queued yet and the commit index of the start -/
theorem stepLeader_g {e : Option RaftError}
    (hA : ∀ j t x y, y ≤ x → A j t x → A j t y) (hnb : r.batchAppend = false)
    (hs : r.state = .leader) (ho : Old a r) (hcm : r.raftLog.committed = a.raftLog.committed)
    (hin : m.msgType = .msgAppendResponse → m.reject = false → A m.frm r.term m.index)
    (h : r.stepLeader m = .ok (r', e)) (h0 : G A a m r) : G A a m r' :=
  (stepLeader_gx hA (.of_off hnb) hs ho hcm hin h (.of_g h0)).g

/-- queueing one message that is not of a leader-side type -/
theorem send_g {x : Message} (h : r.send x = .ok r') (h0 : G A a m r)
    (hlk : lkT x.msgType = false) (hak : isAck (r.sendFill x) → AkOK m r (r.sendFill x))
    (hvk : isVoteMsg x.msgType = true → VkOK r (r.sendFill x))
    (hrq : x.msgType = .msgRequestVote → RqOK r (r.sendFill x)) : G A a m r' :=
  (send_gx h (Gx.of_g h0) hlk hak hvk hrq).g

/-- a message whose type is none of the tracked kinds -/
theorem send_g_plain {x : Message} (h : r.send x = .ok r') (h0 : G A a m r)
    (hlk : lkT x.msgType = false) (hak : x.msgType ≠ .msgAppendResponse ∨ x.reject = true)
    (hvk : isVoteMsg x.msgType = false) : G A a m r' :=
  (send_gx_plain h (Gx.of_g h0) hlk hak hvk).g

theorem sendRequestSnapshot_g (h : r.sendRequestSnapshot = .ok r') (h0 : G A a m r) :
    G A a m r' :=
  (sendRequestSnapshot_gx h (Gx.of_g h0)).g

/-- **`handle_append_entries`** on a follower, entered with nothing queued -/
theorem handleAppendEntries_g (hs : r.state = .follower) (ho : Old a r)
    (hm : m.msgType = .msgAppend) (h : r.handleAppendEntries m = .ok r') (h0 : G A a m r) :
    G A a m r' :=
  (handleAppendEntries_gx hs ho hm h (Gx.of_g h0)).g

/-- **`handle_heartbeat`** on a follower, entered with nothing queued -/
theorem handleHeartbeat_g (hs : r.state = .follower) (ho : Old a r)
    (h : r.handleHeartbeat m = .ok r') (h0 : G A a m r) : G A a m r' :=
  (handleHeartbeat_gx hs ho h (Gx.of_g h0)).g

theorem hup_g {tl : Bool} (hA : ∀ j t x y, y ≤ x → A j t x → A j t y)
    (hnb : r.batchAppend = false) (h : r.hup tl = .ok r') (h0 : G A a m r) (ho : Old a r)
    (hcm : r.raftLog.committed = a.raftLog.committed) : G A a m r' :=
  (hup_gx hA (.of_off hnb) h (.of_g h0) ho hcm).g

theorem maybeCommitByVote_g {mm : Message} (h : r.maybeCommitByVote mm = .ok r')
    (h0 : G A a m r) : G A a m r' :=
  (maybeCommitByVote_gx h (Gx.of_g h0)).g

theorem stepVote_g {mm : Message} (h : r.stepVote mm = .ok r') (h0 : G A a m r) : G A a m r' :=
  (stepVote_gx h (Gx.of_g h0)).g

/-- **`Raft::step`**, entered with nothing queued; the input is not a snapshot, and an accepting
append response is backed by `A` -/
theorem step_g {e : Option RaftError} (hA : ∀ j t x y, y ≤ x → A j t x → A j t y)
    (hnb : r.batchAppend = false) (hms : m.msgType ≠ .msgSnapshot)
    (hin : ∀ t, AckIn m t → A m.frm t m.index) (h : r.step m = .ok (r', e)) (h0 : G A a m r)
    (ho : Old a r) (hcm : r.raftLog.committed = a.raftLog.committed) : G A a m r' :=
  (step_gx hA (.of_off hnb) hms hin h (.of_g h0) ho hcm).g

theorem stepIgnore_g (hA : ∀ j t x y, y ≤ x → A j t x → A j t y) (hnb : r.batchAppend = false)
    (hms : m.msgType ≠ .msgSnapshot) (hin : ∀ t, AckIn m t → A m.frm t m.index)
    (h : r.stepIgnore m = .ok r') (h0 : G A a m r) (ho : Old a r)
    (hcm : r.raftLog.committed = a.raftLog.committed) : G A a m r' :=
  (stepIgnore_gx hA (.of_off hnb) hms hin h (.of_g h0) ho hcm).g

/-- the leader part of `post_conf_change` / the group-commit switches: `maybe_commit`, then sends -/
theorem commitThenSend_g {A : Nat → Nat → Nat → Prop} {a r r1 r' : Raft} {m : Message} {b : Bool}
    (hA : ∀ j t x y, y ≤ x → A j t x → A j t y)
    (hnb : r.batchAppend = false) (hs : r.state = .leader) (hmc : r.maybeCommit = .ok (r1, b))
    (hsf : r1.batchAppend = false → SF r1 r') (h0 : G A a m r) :
    G A a m r' ∧ r'.state = .leader :=
  (commitThenSend_gx hA (.of_off hnb) hs hmc
    (.of_sf (hsf ((maybeCommit_keeps hmc).2.1.trans hnb))) (.of_g h0)).imp Gx.g fun g => g

theorem commitApplyInternal_g {applied : Nat} {skip : Bool}
    (h : r.commitApplyInternal applied skip = .ok r') (h0 : G A a m r) (ho : Old a r)
    (hcm : r.raftLog.committed = a.raftLog.committed) :
    G A a m r' ∧ Old a r' ∧ r'.raftLog.committed = a.raftLog.committed :=
  (commitApplyInternal_gx h (Gx.of_g h0) ho hcm).imp Gx.g fun g => g

theorem tick_g {b : Bool}
    (hA : ∀ j t x y, y ≤ x → A j t x → A j t y) (hnb : r.batchAppend = false)
    (hmok : MOK A r) (h : r.tick = .ok (r', b)) : G A r m r' :=
  (tick_gx hA (.of_off hnb) hmok h).g

theorem applyConfChange_g {cc : ConfChangeV2} {res : Except ErrKind ConfState}
    (hA : ∀ j t x y, y ≤ x → A j t x → A j t y) (hnb : r.batchAppend = false) (hmok : MOK A r)
    (h : r.applyConfChange cc = .ok (r', res)) : G A r m r' :=
  (applyConfChange_gx hA (.of_off hnb) hmok h).g

theorem onPersistEntries_g {index term : Nat}
    (hA : ∀ j t x y, y ≤ x → A j t x → A j t y) (hnb : r.batchAppend = false) (hmok : MOK A r)
    (h : r.onPersistEntries index term = .ok r') : G A r m r' :=
  (onPersistEntries_gx hA (.of_off hnb) hmok h).g

theorem enableGroupCommit_g {b : Bool}
    (hA : ∀ j t x y, y ≤ x → A j t x → A j t y) (hnb : r.batchAppend = false) (hmok : MOK A r)
    (h : r.enableGroupCommit b = .ok r') : G A r m r' :=
  (enableGroupCommit_gx hA (.of_off hnb) hmok h).g

theorem assignCommitGroups_g {ids : List (Nat × Nat)}
    (hA : ∀ j t x y, y ≤ x → A j t x → A j t y) (hnb : r.batchAppend = false) (hmok : MOK A r)
    (h : r.assignCommitGroups ids = .ok r') : G A r m r' :=
  (assignCommitGroups_gx hA (.of_off hnb) hmok h).g

/-- a local message stepped by a wrapper of `RawNode`, re-anchored to the call's tag -/
theorem localStep_g {A : Nat → Nat → Nat → Prop} {r r' : Raft} {mm m : Message}
    {e : Option RaftError}
    (hA : ∀ j t x y, y ≤ x → A j t x → A j t y) (hnb : r.batchAppend = false) (hmok : MOK A r)
    (h1 : mm.msgType ≠ .msgSnapshot) (h2 : mm.msgType ≠ .msgAppendResponse)
    (h3 : mm.msgType ≠ .msgAppend) (h : r.step mm = .ok (r', e)) : G A r m r' :=
  (localStep_gx hA (.of_off hnb) hmok h1 h2 h3 h).g

theorem localStepIgnore_g {A : Nat → Nat → Nat → Prop} {r r' : Raft} {mm m : Message}
    (hA : ∀ j t x y, y ≤ x → A j t x → A j t y) (hnb : r.batchAppend = false) (hmok : MOK A r)
    (h1 : mm.msgType ≠ .msgSnapshot) (h2 : mm.msgType ≠ .msgAppendResponse)
    (h3 : mm.msgType ≠ .msgAppend) (h : r.stepIgnore mm = .ok r') : G A r m r' :=
  (localStepIgnore_gx hA (.of_off hnb) hmok h1 h2 h3 h).g

/-- a call that only re-represents the log (nothing queued, commit index kept) -/
theorem relog_g {L : RaftLog} (hmok : MOK A r) (hc : L.committed = r.raftLog.committed)
    (hp : r.raftLog.persisted ≤ L.persisted) : G A r m { r with raftLog := L } :=
  (relog_gx (r' := { r with raftLog := L }) hmok rfl rfl rfl rfl rfl hc hp).g

theorem nodeCommitApply_g {A : Nat → Nat → Nat → Prop} {st st' : NState} {m : Message} {k : Nat}
    {res : OpRes} (hmok : MOK A st.raft)
    (h : Node.commitApply st k = .ok (res, st')) :
    G A st.raft m st'.raft ∧ Old st.raft st'.raft :=
  (nodeCommitApply_gx hmok h).imp Gx.g fun g => g

/-- **one call of a node** — every `NodeOp` the cluster semantics uses (`step` for a delivered
message, and the application's calls) — for a node that does not batch and whose `matched` values are
accounted for; a delivered message is not a snapshot, and a delivered accepting append response is
backed by `A` -/
theorem call_g (A : Nat → Nat → Nat → Prop) (hA : ∀ j t x y, y ≤ x → A j t x → A j t y)
    (st st' : NState) (rnd : Option Nat) (op : NodeOp) (res : OpRes)
    (hnb : st.raft.batchAppend = false) (hmok : MOK A st.raft)
    (hop : op ≠ .drain ∧ ∀ m, op ≠ .rstep m)
    (hms : ∀ m, op = .step m → m.msgType ≠ .msgSnapshot)
    (hin : ∀ m, op = .step m → ∀ t, AckIn m t → A m.frm t m.index)
    (h : Node.call st rnd op = .ok (res, st')) : G A st.raft (CV.opMsg op) st'.raft :=
  (call_gx hA (.of_off hnb) hmok hop hms hin h).g

end CC
end Raft
end RaftModel
