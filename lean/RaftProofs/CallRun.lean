import RaftProofs.HelperFrame
import RaftProofs.RaftStep
import RaftProofs.NodeHandlers

/-!
What one call of a node goes through.

`Run a m r`: "`r` is a state the call with input message `m` goes through when it starts in `a`", as
an inductive predicate.  Its constructors are the things a call does that are not helpers (`HF`), each
with the guard under which the node model does it: the role changes to follower, `hup`, the vote arm,
the count of a vote response, a snapshot, a follower hearing from the leader, the three moves of a
leadership transfer.  The routing — the term preamble, the dispatch and the role
arms of `Raft::step`, the messages `tick` steps, the wrappers of `RawNode`, the `NodeOp`s — is walked
once here (`step_run`, `tick_run`, `call_run`).  An invariant of the calls of a node is then proved by
induction on `Run`: one case per constructor, each a lemma about that one function.
-/
namespace RaftModel
namespace Raft

namespace LS

/-- the lease test of the term preamble of `step` (raft.rs:1363-1384) drops the request `m` -/
def Dropped (a : Raft) (m : Message) : Prop :=
  m.term ≠ 0 ∧ a.term < m.term ∧ m.context ≠ campaignTransfer ∧ a.checkQuorum = true ∧
    a.leaderId ≠ 0 ∧ a.electionElapsed < a.electionTimeout

/-- the two messages that can make a leader send `MsgTimeoutNow` -/
def isTA (m : Message) : Prop := m.msgType = .msgTransferLeader ∨ m.msgType = .msgAppendResponse

def isVR (m : Message) : Prop := m.msgType = .msgRequestVote ∨ m.msgType = .msgRequestPreVote

end LS

namespace CV

/-- the tag of a call that is not `step` of a delivered message -/
def mLocal : Message := {}

end CV

open LS CV Node

/-- what `hup` reads of `r` is what it reads of `a`: `promotable`, the log (up to
`max_apply_unpersisted_log_limit`) and the page size of its scan -/
def HupPos (a r : Raft) : Prop :=
  r.promotable = a.promotable ∧ r.maxCommittedSizePerReady = a.maxCommittedSizePerReady ∧
    ∃ x, r.raftLog = { a.raftLog with maxApplyUnpersistedLogLimit := x }

inductive Run (a : Raft) (m : Message) : Raft → Prop
  | start : Run a m a
  /-- sending / replication / bookkeeping helpers, timers, the random draw -/
  | plain {r r' : Raft} : Run a m r → HF r r' → Run a m r'
  /-- `become_follower(t, l)`: on a message of a later term, on leader traffic of the own term reaching
  a candidate, on a failed quorum check -/
  | follow {r : Raft} (t l : Nat) : Run a m r → r.term ≤ t →
      (a.state = .leader → a.term < t ∨ l = 0) → (¬ isTA m ∨ r.msgs = a.msgs) →
      Run a m (r.becomeFollower t l)
  /-- the rejection of a pre-vote request of an earlier term -/
  | reject {r r' : Raft} : Run a m r → m.msgType = .msgRequestPreVote →
      r.send { msgType := .msgRequestPreVoteResponse, to := m.frm, term := r.term, reject := true }
        = .ok r' → Run a m r'
  /-- `hup`, on `MsgHup` or (a follower, with `transfer`) on `MsgTimeoutNow`, before anything else
  but a step down has happened -/
  | hup {r r' : Raft} (b : Bool) : Run a m r → m.msgType = .msgHup ∨ m.msgType = .msgTimeoutNow →
      (b = true → m.msgType = .msgTimeoutNow) → HupPos a r →
      (r.state = a.state ∧ r.term = a.term ∨ r.state = .follower) → r.hup b = .ok r' → Run a m r'
  /-- the vote arm: the request was not dropped by the lease test and is of the node's term -/
  | vote {r r' : Raft} : Run a m r → isVR m → ¬ Dropped a m →
      (m.msgType = .msgRequestVote → m.term = 0 ∨ m.term = r.term) → r.stepVote m = .ok r' →
      Run a m r'
  /-- a vote response counted by the (pre-)candidate it answers, which was one when the call began -/
  | poll {r r1 r' : Raft} {res : VoteResult} : Run a m r →
      (r.state = .candidate ∧ m.msgType = .msgRequestVoteResponse ∧ (m.term = 0 ∨ m.term = r.term)) ∨
      (r.state = .preCandidate ∧ m.msgType = .msgRequestPreVoteResponse ∧
        (m.reject = true ∨ m.term = r.term + 1)) →
      r.state = a.state ∧ r.term = a.term →
      r.poll m.frm m.msgType (!m.reject) = .ok (r1, res) → r1.maybeCommitByVote m = .ok r' →
      Run a m r'
  /-- a snapshot handled by a follower -/
  | snapshot {r r' : Raft} : Run a m r → r.state = .follower → m.msgType = .msgSnapshot →
      r.handleSnapshot m = .ok r' → Run a m r'
  /-- a follower hears from the leader -/
  | heard {r : Raft} : Run a m r → r.state = .follower → (a.state = .leader → a.term < r.term) →
      Run a m { r with electionElapsed := 0, leaderId := m.frm }
  /-- the leader's side of a transfer: drop the pending one (before anything is sent), … -/
  | abort {r : Raft} : Run a m r → ¬ isTA m ∨ r.msgs = a.msgs → Run a m r.abortLeaderTransfer
  /-- … note the new transferee, … -/
  | transferee {r : Raft} : Run a m r → isTA m →
      Run a m { r with electionElapsed := 0, leadTransferee := some m.frm }
  /-- … tell it to campaign -/
  | timeoutNow {r r' : Raft} {to : Nat} : Run a m r → isTA m → r.leadTransferee ≠ none →
      r.sendTimeoutNow to = .ok r' → Run a m r'

/-! ### the routing of `step` -/

/-- what is known when the term preamble hands `r1` to the dispatch -/
structure Passed (a : Raft) (m : Message) (r1 : Raft) : Prop where
  msgs : r1.msgs = a.msgs
  lead : a.state = .leader → r1.state = .leader ∨ a.term < r1.term
  nd : isVR m → ¬ Dropped a m
  term : m.term = 0 ∨ m.term = r1.term ∨ (m.msgType = .msgRequestPreVote ∨
    (m.msgType = .msgRequestPreVoteResponse ∧ ¬ m.reject = true))
  pos : HupPos a r1
  same : r1.state = a.state ∧ r1.term = a.term ∨ r1.state = .follower

/-- `become_follower` keeps the queue and what `hup` reads -/
theorem becomeFollower_pos (r : Raft) (t l : Nat) :
    (r.becomeFollower t l).msgs = r.msgs ∧ (r.becomeFollower t l).term = t ∧
      HupPos r (r.becomeFollower t l) := by
  unfold becomeFollower
  rw [reset_eq]
  exact ⟨rfl, rfl, rfl, rfl, 0, rfl⟩

theorem HupPos.rand (a : Raft) (rnd : Option Nat) : HupPos a { a with nextRand := rnd } :=
  ⟨rfl, rfl, a.raftLog.maxApplyUnpersistedLogLimit, rfl⟩

/-- the call begins: the random draw is stored -/
theorem Run.rand (a : Raft) (m : Message) (rnd : Option Nat) :
    Run a m { a with nextRand := rnd } := .plain .start HF.rf.upd

theorem stepTerm_run {a r1 : Raft} {m : Message} {b : Bool} (rnd : Option Nat)
    (hc : ({ a with nextRand := rnd } : Raft).stepTerm m = .ok (r1, b)) :
    Run a m r1 ∧ (b = true → Passed a m r1) := by
  have same : ∀ b', (b' = true → isVR m → ¬ Dropped a m) →
      (b' = true → m.term = 0 ∨ m.term = a.term ∨ (m.msgType = .msgRequestPreVote ∨
        (m.msgType = .msgRequestPreVoteResponse ∧ ¬ m.reject = true))) →
      Run a m { a with nextRand := rnd } ∧ (b' = true → Passed a m { a with nextRand := rnd }) :=
    fun b' g1 g2 => ⟨.rand a m rnd, fun hb =>
      ⟨rfl, fun hl => .inl hl, g1 hb, g2 hb, .rand a rnd, .inl ⟨rfl, rfl⟩⟩⟩
  cases stepTerm_inv hc with
  | zero hz => exact same true (fun _ _ hd => hd.1 hz) (fun _ => .inl hz)
  | leased _ _ _ => exact same false (fun hb => by cases hb) (fun hb => by cases hb)
  | prevote _ _ hnl hpv =>
    exact same true
      (fun _ hty hd => hnl ⟨hty, hd.2.2.1, hd.2.2.2.1, hd.2.2.2.2.1, hd.2.2.2.2.2⟩)
      (fun _ => .inr (.inr hpv))
  | follow l _ hgt hnl _ _ =>
    obtain ⟨e1, e2, e3⟩ := becomeFollower_pos ({ a with nextRand := rnd } : Raft) m.term l
    exact ⟨.follow m.term l (.rand a m rnd) (Nat.le_of_lt hgt) (fun _ => .inl hgt) (.inr rfl),
      fun _ => ⟨e1, fun _ => .inr (by rw [e2]; exact hgt),
        fun hty hd => hnl ⟨hty, hd.2.2.1, hd.2.2.2.1, hd.2.2.2.2.1, hd.2.2.2.2.2⟩,
        .inr (.inl e2.symm), e3, .inr rfl⟩⟩
  | staleAck _ _ _ hs =>
    exact ⟨.plain (.rand a m rnd) (send_hf hs rfl HF.rf), fun hb => by cases hb⟩
  | staleReject _ _ hty hs => exact ⟨.reject (.rand a m rnd) hty hs, fun hb => by cases hb⟩
  | stale _ _ => exact same false (fun hb => by cases hb) (fun hb => by cases hb)
  | same _ he =>
    have he' : m.term = a.term := he
    exact same true (fun _ _ hd => by have := hd.2.1; omega) (fun _ => .inr (.inl he))

theorem stepCandidate_run {a r r' : Raft} {m : Message} {e : Option RaftError}
    (h : Run a m r) (E : Passed a m r) (hs : r.state = .candidate ∨ r.state = .preCandidate)
    (hc : r.stepCandidate m = .ok (r', e)) : Run a m r' := by
  have hnf : r.state ≠ .follower := by rcases hs with g | g <;> rw [g] <;> decide
  have hnl : a.state = .leader → a.term < r.term := fun hl =>
    (E.lead hl).resolve_left (by rcases hs with g | g <;> rw [g] <;> decide)
  have hbf : ∀ t, m.msgType = t → t ≠ .msgTransferLeader → t ≠ .msgAppendResponse →
      r.term = m.term → Run a m (r.becomeFollower m.term m.frm) := fun t hty h1 h2 ht =>
    .follow _ _ h (Nat.le_of_eq ht) (fun hl => .inl (by rw [← ht]; exact hnl hl))
      (.inl (by
        rintro (g | g)
        · exact h1 (hty.symm.trans g)
        · exact h2 (hty.symm.trans g)))
  refine stepCandidate_cases hc h
    (fun ht ha ty => .plain (hbf _ ty (by decide) (by decide) ht) (handleAppendEntries_hf ha HF.rf))
    (fun ht ha ty => .plain (hbf _ ty (by decide) (by decide) ht) (handleHeartbeat_hf ha HF.rf))
    (fun ht ha ty => .snapshot (hbf _ ty (by decide) (by decide) ht) rfl ty ha)
    (fun hp h1 h2 hb => .poll h ?_ (E.same.resolve_right hnf) hp hb)
  rcases hs with g | g
  · refine .inl ⟨g, h1 g, ?_⟩
    rcases E.term with q | q | q | q
    · exact .inl q
    · exact .inr q
    · rw [h1 g] at q; cases q
    · rw [h1 g] at q; cases q.1
  · exact .inr ⟨g, (h2 g).1, (h2 g).2.imp (fun x => x) (·.2)⟩

theorem stepFollower_run {a r r' : Raft} {m : Message} {e : Option RaftError}
    (h : Run a m r) (E : Passed a m r) (hs : r.state = .follower)
    (hc : r.stepFollower m = .ok (r', e)) : Run a m r' := by
  have hh : Run a m { r with electionElapsed := 0, leaderId := m.frm } :=
    .heard h hs fun hl => (E.lead hl).resolve_left (by rw [hs]; decide)
  exact stepFollower_cases hc h
    (fun hq ty => .plain h (send_hf hq
      (by rcases ty with ty | ty | ty <;> (show plainT m.msgType = true; rw [ty]; rfl)) HF.rf))
    (fun ha _ => .plain hh (handleAppendEntries_hf ha HF.rf))
    (fun ha _ => .plain hh (handleHeartbeat_hf ha HF.rf))
    (fun ha ty => .snapshot hh hs ty ha)
    (fun hu ty _ => .hup true h (.inr ty) (fun _ => ty) E.pos (.inr hs) hu)
    (fun hl _ => .plain h (HF.rf.mk' (congrArg MemStorage.hardState (maybeCommit_store hl)) rfl))

theorem stepLeader_run {a r r' : Raft} {m : Message} {e : Option RaftError}
    (h : Run a m r) (E : Passed a m r) (hc : r.stepLeader m = .ok (r', e)) : Run a m r' :=
  have pl : ∀ {r1 r2 : Raft}, Run a m r1 → HF r1 r2 → Run a m r2 := fun p f => .plain p f
  have acc : ∀ {pr op r2}, m.msgType = .msgAppendResponse →
      r.handleAppendResponseAccepted m pr op = .ok r2 → Run a m r2 := fun ty hx =>
    handleAppendResponseAccepted_parts hx (fun _ => pl h (HF.rf.set _ _))
      (fun hx p => pl p (maybeCommit_hf hx HF.rf)) (fun hx p => pl p (bcastAppend_hf hx HF.rf))
      (fun hx p => pl p (sendAppend_hf hx HF.rf))
      (fun hx p => pl p (sendAppendAggressively_hf hx HF.rf))
      fun hlt hx p => .timeoutNow p (.inr ty) (by rw [← hlt]; simp) hx
  stepLeader_parts hc h (fun hx _ => pl h (bcastHeartbeat_hf hx HF.rf))
    (fun hq _ => pl h (checkQuorumActive_hf hq HF.rf))
    (fun ty p => .follow _ 0 p (Nat.le_refl _) (fun _ => .inr rfl)
      (.inl (by rintro (g | g) <;> rw [ty] at g <;> cases g)))
    (fun hf _ => pl h (filterProposal_hf _ _ _ _ _ hf HF.rf))
    (fun ha _ p => pl p (appendEntry_hf ha HF.rf)) (fun hb _ p => pl p (bcastAppend_hf hb HF.rf))
    (fun hr _ => pl h (handleReadyReadIndex_hf hr HF.rf))
    (fun hs ty p => pl p (sendT_hf rfl hs ty HF.rf)) (fun _ _ => pl h HF.rf.upd)
    (fun hb _ p => pl p (bcastHeartbeatWithCtx_hf hb HF.rf))
    (fun hx ty => handleAppendResponse_parts hx h (fun _ => pl h (HF.rf.set _ _))
      (fun hx p => pl p (sendAppend_hf hx HF.rf)) (acc ty))
    (fun hx _ => pl h (handleHeartbeatResponse_hf hx HF.rf))
    (fun _ => pl h (handleSnapshotStatus_hf HF.rf)) (fun _ => pl h (handleUnreachable_hf HF.rf))
    fun hx ty => handleTransferLeader_parts hx h (fun p => .abort p (.inr E.msgs))
      (fun p => .transferee p (.inl ty))
      (fun hlt hx p => .timeoutNow p (.inl ty) (by rw [hlt]; simp) hx)
      (fun _ hx p => pl p (sendAppendPr_hf hx HF.rf)) fun _ p => pl p (HF.rf.set _ _)

/-- everything `step` does after the term preamble -/
theorem dispatch_run {a r1 r' : Raft} {m : Message} {e : Option RaftError}
    (h : Run a m r1) (E : Passed a m r1) (hd : Dispatch r1 m r' e) : Run a m r' := by
  cases hd with
  | hup hty h1 => exact .hup false h (.inl hty) (fun hx => by cases hx) E.pos E.same h1
  | vote hty hv =>
    refine .vote h hty (E.nd hty) (fun hq => ?_) hv
    rcases E.term with g | g | g | g
    · exact .inl g
    · exact .inr g
    · rw [hq] at g; cases g
    · rw [hq] at g; cases g.1
  | candidate _ hs hc => exact stepCandidate_run h E hs hc
  | follower _ hs hc => exact stepFollower_run h E hs hc
  | leader _ _ hc => exact stepLeader_run h E hc

/-- **`Raft::step`** of the input message, at the beginning of the call -/
theorem step_run {a r' : Raft} {m : Message} {e : Option RaftError} (rnd : Option Nat)
    (hc : ({ a with nextRand := rnd } : Raft).step m = .ok (r', e)) : Run a m r' := by
  cases step_inv hc with
  | consumed hst => exact (stepTerm_run rnd hst).1
  | dispatched hst hd =>
    exact dispatch_run (stepTerm_run rnd hst).1 ((stepTerm_run rnd hst).2 rfl) hd

/-! ### `tick`: the messages the node steps itself -/

/-- a message of one of three types is of no other -/
theorem isLocal_no {x : Message} {t : MsgType} {Q : Prop}
    (hxt : x.msgType = .msgHup ∨ x.msgType = .msgBeat ∨ x.msgType = .msgCheckQuorum)
    (ht : x.msgType = t)
    (hne : t ≠ .msgHup ∧ t ≠ .msgBeat ∧ t ≠ .msgCheckQuorum := by decide) : Q := by
  rcases hxt with g | g | g <;> rw [ht] at g
  · exact absurd g hne.1
  · exact absurd g hne.2.1
  · exact absurd g hne.2.2

/-- `step` of a `MsgHup` / `MsgBeat` / `MsgCheckQuorum` the node builds, in a call that is not the
delivery of a message -/
theorem stepLocal_run {a r r' : Raft} {m x : Message} {e : Option RaftError} (h : Run a m r)
    (hm : m.msgType = .msgHup) (hx0 : x.term = 0)
    (hxt : x.msgType = .msgHup ∨ x.msgType = .msgBeat ∨ x.msgType = .msgCheckQuorum)
    (hpos : x.msgType = .msgHup → HupPos a r ∧ r.state = a.state ∧ r.term = a.term)
    (hc : r.step x = .ok (r', e)) : Run a m r' := by
  have hta : ¬ isTA m := by rintro (g | g) <;> rw [hm] at g <;> cases g
  cases step_dispatch (stepTerm_same (.inl hx0)) hc with
  | hup hty h1 =>
    exact .hup false h (.inl hm) (fun hx => by cases hx) (hpos hty).1 (.inl (hpos hty).2) h1
  | vote hty _ => rcases hty with g | g <;> exact isLocal_no hxt g
  | candidate _ hs hc =>
    refine stepCandidate_cases hc h (fun _ _ ty => isLocal_no hxt ty)
      (fun _ _ ty => isLocal_no hxt ty) (fun _ _ ty => isLocal_no hxt ty) (fun _ h1 h2 _ => ?_)
    rcases hs with g | g
    · exact isLocal_no hxt (h1 g)
    · exact isLocal_no hxt (h2 g).1
  | follower _ _ hc =>
    exact stepFollower_cases hc h
      (fun _ ty => by rcases ty with g | g | g <;> exact isLocal_no hxt g)
      (fun _ ty => isLocal_no hxt ty) (fun _ ty => isLocal_no hxt ty)
      (fun _ ty => isLocal_no hxt ty) (fun _ ty _ => isLocal_no hxt ty)
      (fun _ ty => isLocal_no hxt ty)
  | leader _ _ hc =>
    exact stepLeader_parts hc h (fun hx _ => .plain h (bcastHeartbeat_hf hx HF.rf))
      (fun hq _ => .plain h (checkQuorumActive_hf hq HF.rf))
      (fun _ p => .follow _ 0 p (Nat.le_refl _) (fun _ => .inr rfl) (.inl hta))
      (fun _ ty => isLocal_no hxt ty) (fun _ ty _ => isLocal_no hxt ty)
      (fun _ ty _ => isLocal_no hxt ty) (fun _ ty => isLocal_no hxt ty)
      (fun hs ty p => .plain p (sendT_hf rfl hs ty HF.rf)) (fun ty _ => isLocal_no hxt ty)
      (fun _ ty _ => isLocal_no hxt ty) (fun _ ty => isLocal_no hxt ty)
      (fun _ ty => isLocal_no hxt ty) (fun ty => isLocal_no hxt ty)
      (fun ty => isLocal_no hxt ty) (fun _ ty => isLocal_no hxt ty)

/-- **`Raft::tick`** -/
theorem tick_run {a r' : Raft} {m : Message} {b : Bool} (rnd : Option Nat)
    (hm : m.msgType = .msgHup) (hc : ({ a with nextRand := rnd } : Raft).tick = .ok (r', b)) :
    Run a m r' := by
  have hta : ¬ isTA m := by rintro (g | g) <;> rw [hm] at g <;> cases g
  have st : ∀ {r1 x r2}, r1.stepIgnore x = .ok r2 → x.term = 0 →
      x.msgType = .msgBeat ∨ x.msgType = .msgCheckQuorum → Run a m r1 → Run a m r2 :=
    fun hs h0 ht p => stepIgnore_parts hs fun hs' =>
      stepLocal_run p hm h0 (.inr ht) (fun ty => by rcases ht with g | g <;> rw [g] at ty <;> cases ty)
        hs'
  refine tick_parts hc (fun h => ?_)
    (fun h => tickHeartbeat_parts h (fun _ _ p => .plain p HF.rf.upd) (.rand a m rnd)
      (fun hs ty h0 _ p => st hs h0 (.inr ty) p) (fun hs ty h0 _ p => st hs h0 (.inl ty) p)
      fun p => .abort p (.inl hta))
  unfold Raft.tickElection at h
  simp only at h
  split at h
  · cases h; exact .plain .start HF.rf.upd
  · obtain ⟨r1, h1, h⟩ := Res.bind_eq_ok h
    cases h
    refine stepIgnore_parts h1 fun hs' => stepLocal_run ?_ hm rfl (.inl rfl) (fun _ => ?_) hs'
    · exact .plain .start HF.rf.upd
    · exact ⟨⟨rfl, rfl, a.raftLog.maxApplyUnpersistedLogLimit, rfl⟩, rfl, rfl⟩

/-! ### the calls of a node -/

/-- the message a call steps: the delivered one, or the one the wrapper of `RawNode` builds -/
def runTag (a : Raft) : NodeOp → Message
  | .step m | .rstep m => m
  | .propose c d => { msgType := .msgPropose, frm := a.id, entries := [{ data := d, context := c }] }
  | .proposeCc t c d => { msgType := .msgPropose, entries := [{ etype := t, data := d, context := c }] }
  | .readIndex c => { msgType := .msgReadIndex, entries := [{ data := c }] }
  | .transferLeader x => { msgType := .msgTransferLeader, frm := x }
  | .reportUnreachable x => { msgType := .msgUnreachable, frm := x }
  | .reportSnapshot x f => { msgType := .msgSnapStatus, frm := x, reject := f }
  | _ => mLocal

/-- the calls that run helpers only -/
def plainOp : NodeOp → Bool
  | .ping | .requestSnapshot | .onPersistEntries _ _ | .setPriority _ | .setBatchAppend _
  | .skipBcastCommit _ | .setCheckQuorum _ | .setMaxCommittedSizePerReady _
  | .setMaxApplyUnpersistedLogLimit _ | .adjustMaxInflight _ _ | .maybeFreeInflightBuffers
  | .clearCommitGroup | .enableGroupCommit _ | .assignCommitGroups _ | .checkGroupCommitConsistent
  | .onEntriesFetched _ _ _ => true
  | _ => false

/-- the storage-side steps of the application and the hand-over of the queue -/
def sideOp : NodeOp → Bool
  | .stabilize | .persistSnap | .commitApply _ | .compact _ | .drain | .triggerSnap
  | .triggerLog _ => true
  | _ => false

/-- the calls that go through `Run`: all but the storage-side ones and `apply_conf_change` -/
def viaRaft : NodeOp → Bool
  | .applyConfChange _ => false
  | op => !sideOp op

/-- **a call that runs helpers only** -/
theorem call_plain {st st' : NState} {rnd : Option Nat} {op : NodeOp} {res : OpRes}
    (hp : plainOp op = true) (h : Node.call st rnd op = .ok (res, st')) : HF st.raft st'.raft := by
  have h0 : HF st.raft ({ st.raft with nextRand := rnd } : Raft) := HF.rf.upd
  cases applyOp_parts h with
  | ping hx => exact ping_hf hx h0
  | requestSnapshot hx => exact requestSnapshot_hf hx h0
  | onPersistEntries hx => exact onPersistEntries_hf hx h0
  | setPriority | setBatchAppend | skipBcastCommit | setCheckQuorum
  | setMaxCommittedSizePerReady => exact h0.upd
  | setMaxApplyUnpersistedLogLimit => exact h0.logHs rfl
  | adjustMaxInflight hx => exact adjustMaxInflightMsgs_hf hx h0
  | maybeFreeInflightBuffers =>
    exact h0.map fun _ pr => { pr with ins := pr.ins.maybeFreeBuffer }
  | clearCommitGroup => exact h0.map fun _ pr => { pr with commitGroupId := 0 }
  | enableGroupCommit hx => exact enableGroupCommit_hf hx h0
  | assignCommitGroups hx => exact assignCommitGroups_hf hx h0
  | checkGroupCommitConsistent | staleFetch => exact h0
  | fetched _ _ _ hx => exact sendAppend_hf hx h0
  | fetchedAll _ _ _ hx => exact sendAppendAggressively_hf hx h0
  | _ => cases hp

/-- **a storage-side step, or the hand-over of the queue**: the fields of `HCore` stay -/
theorem call_side {st st' : NState} {rnd : Option Nat} {op : NodeOp} {res : OpRes}
    (hs : sideOp op = true) (h : Node.call st rnd op = .ok (res, st')) :
    hcore st'.raft = hcore st.raft := by
  cases applyOp_parts h with
  | stabilize hx =>
    exact stabilize_parts (Q := fun s => hcore s.raft = hcore st.raft) hx fun _ => rfl
  | persistSnap hx =>
    exact persistSnap_parts (Q := fun s => hcore s.raft = hcore st.raft) hx rfl
      fun _ _ _ hp => (onPersistSnap_hf hp HF.rf).core
  | commitApply hx =>
    exact commitApply_parts (Q := fun s => hcore s.raft = hcore st.raft) hx rfl
      (fun _ => (reduceUncommittedSize_hf HF.rf).core)
      (fun h2 q => (commitApply_hf h2 HF.rf).core.trans q) fun q => q
  | compact | drain | triggerSnap | triggerLog => rfl
  | _ => cases hs

/-- **one call of a node that goes through `Raft::step`, `tick` or helpers** -/
theorem call_run {st st' : NState} {rnd : Option Nat} {op : NodeOp} {res : OpRes}
    (hv : viaRaft op = true) (h : Node.call st rnd op = .ok (res, st')) :
    Run st.raft (runTag st.raft op) st'.raft := by
  have ig : ∀ {x : Message} {r : Raft},
      ({ st.raft with nextRand := rnd } : Raft).stepIgnore x = .ok r → Run st.raft x r :=
    fun hx => stepIgnore_parts hx fun hs => step_run rnd hs
  by_cases hp : plainOp op = true
  · exact .plain .start (call_plain hp h)
  cases applyOp_parts h with
  | tick hx => exact tick_run rnd rfl hx
  | step hx =>
    rcases RawNode.step_inv hx with rfl | ⟨_, hs⟩
    · exact .rand _ _ rnd
    · exact step_run rnd hs
  | rstep hx => exact step_run rnd hx
  | propose hx | proposeCc hx | campaign hx => exact step_run rnd hx
  | readIndex hx | transferLeader hx | reportUnreachable hx | reportSnapshot hx => exact ig hx
  | confChanged | confRefused | stabilize | persistSnap | commitApply | compact | drain | triggerSnap
  | triggerLog => cases hv
  | _ => exact absurd rfl hp

end Raft
end RaftModel
