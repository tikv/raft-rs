import RaftProofs.ClusterFlowH
import RaftProofs.ClusterFlowM
import RaftProofs.NodeHandlers

/-!
Cluster-level flow control (C13), part I: `HM` through **every** `NodeOp` (`call_hm`), and the
provenance of heartbeats with the tracker entry of the addressee (`hbm_point`): a `MsgHeartbeat` of the
transport or of a queue was queued by a step that ended in a state in which the sender led the
heartbeat's term and held, for the addressee, a progress with `matched ≥` the advertised commit index.
-/
namespace RaftModel
namespace Raft
namespace FH
open Node RD

/-- **one call of a node, any `NodeOp`**: every heartbeat the call queues advertises at most the
`matched` index the node holds for the addressee when the call returns -/
theorem call_hm {st st' : NState} {rnd : Option Nat} {op : NodeOp} {res : OpRes}
    (hc : Node.call st rnd op = .ok (res, st')) : HM st.raft st'.raft := by
  -- storing the random draw queues nothing
  have h0 : NHb st.raft ({ st.raft with nextRand := rnd } : Raft) := NHb.rfl
  have rf : ∀ {r : Raft}, RF ({ st.raft with nextRand := rnd } : Raft) r → HM st.raft r :=
    fun hf => (h0.rf hf).hm
  cases applyOp_parts hc with
  | tick hx => exact (tick_hm h0).of_eq hx
  | step hx => exact (rawStep_hm h0 _).of_eq hx
  | rstep hx | propose hx | proposeCc hx | campaign hx => exact ((step_sq h0 _).of_eq hx).1
  | readIndex hx | transferLeader hx | reportUnreachable hx | reportSnapshot hx =>
    exact (stepIgnore_hm h0 _).of_eq hx
  | ping hx => exact (ping_hm h0.hm).of_eq hx
  | requestSnapshot hx => exact rf ((requestSnapshot_rf _).of_eq hx)
  | confChanged hx | confRefused hx => exact ((applyConfChange_nhb h0 _).of_eq hx).hm
  | stabilize hx => exact stabilize_parts (Q := fun a => HM st.raft a.raft) hx fun _ => h0.hm
  | onPersistEntries hx => exact rf ((onPersistEntries_rf _ _ _).of_eq hx)
  | persistSnap hx =>
    exact persistSnap_parts (Q := fun a => HM st.raft a.raft) hx h0.hm
      fun _ _ _ hp => (NHb.rf (by exact h0) ((onPersistSnap_rf _ _).of_eq hp)).hm
  | commitApply hx =>
    exact (commitApply_parts (Q := fun a => NHb st.raft a.raft) hx h0
      (fun _ => h0.rf (reduceUncommittedSize_rf _ _))
      (fun ha p => p.rf ((commitApply_rf _ _).of_eq ha)) (fun p => p)).hm
  | drain => exact fun _ hx => nomatch hx
  | compact | triggerSnap | triggerLog | setPriority | setBatchAppend | skipBcastCommit
  | setCheckQuorum | setMaxApplyUnpersistedLogLimit | setMaxCommittedSizePerReady
  | checkGroupCommitConsistent | staleFetch => exact h0.hm
  | adjustMaxInflight hx => exact rf ((adjustMaxInflightMsgs_rf _ _ _).of_eq hx)
  | maybeFreeInflightBuffers | clearCommitGroup => exact rf (mapProgress_rf _ _)
  | enableGroupCommit hx => exact rf ((enableGroupCommit_rf _ _).of_eq hx)
  | assignCommitGroups hx => exact rf ((assignCommitGroups_rf _ _).of_eq hx)
  | fetched _ _ _ hx => exact rf ((sendAppend_rf _ _).of_eq hx)
  | fetchedAll _ _ _ hx => exact rf ((sendAppendAggressively_rf _ _).of_eq hx)

end FH
end Raft

namespace Cluster
namespace Flow
open Node Raft.CC Raft.FH

variable {cfg : JointConfig} {h : List Sys}

/-- what is recorded about a `MsgHeartbeat` when it is queued, with the sender's tracker entry -/
def HbmGen (h : List Sys) (n i : Nat) (x : Message) : Prop :=
  ∃ s st pr, h[n]? = some s ∧ s.node i = some st ∧ st.raft.state = .leader ∧
    st.raft.term = x.term ∧ x.frm = i ∧ x.commit ≤ st.raft.raftLog.committed ∧
    st.raft.prs.get x.to = some pr ∧ x.commit ≤ pr.matched ∧
    (x.commit = 0 ∨ Anet s.net x.to x.term x.commit)

theorem hbm_prov (F : ProvFacts h) : ∀ (n : Nat) (s : Sys), h[n]? = some s →
    (∀ i st, s.node i = some st → ∀ x ∈ st.raft.msgs, x.msgType = .msgHeartbeat →
      Gen (HbmGen h) n i x) ∧
    (∀ x ∈ s.net, x.msgType = .msgHeartbeat → ∃ i, Gen (HbmGen h) n i x) := by
  refine F.prov (fun x => x.msgType = .msgHeartbeat) (fun x hx => by rw [hx]; nofun) (HbmGen h) ?_
  intro n a b i st st' rnd op res ha hb hi hi' hcall hnet g x hx hty
  rcases call_hm hcall x hx hty with c | ⟨pr, c1, c2⟩
  · exact .inl c
  · rcases g.qlk x hx (by rw [hty]; rfl) with d | d
    · exact .inl d
    · right
      refine ⟨b, st', pr, hb, hi', d.lead, d.term.symm,
        d.frm.trans (g.id.trans (F.id (mem_of_get ha) hi)), (d.hb hty).1, c1, c2, ?_⟩
      rcases (d.hb hty).2 with e | e
      · exact .inl e
      · right; rw [hnet, d.term]; exact e

/-- the point of the history at which a heartbeat was queued -/
theorem hbm_point (F : ProvFacts h) {n : Nat} {s : Sys} (hn : h[n]? = some s) {x : Message}
    (hx : x ∈ s.net ∨ ∃ i st, s.node i = some st ∧ x ∈ st.raft.msgs)
    (hty : x.msgType = .msgHeartbeat) :
    ∃ n0 s0 st0 pr, n0 ≤ n ∧ h[n0]? = some s0 ∧ s0.node x.frm = some st0 ∧
      st0.raft.state = .leader ∧ st0.raft.term = x.term ∧
      x.commit ≤ st0.raft.raftLog.committed ∧
      st0.raft.prs.get x.to = some pr ∧ x.commit ≤ pr.matched ∧
      (x.commit = 0 ∨ Anet s0.net x.to x.term x.commit) := by
  have hp := hbm_prov F n s hn
  have key : ∃ i, Gen (HbmGen h) n i x := by
    rcases hx with c | ⟨i, st, hi, c⟩
    · exact hp.2 x c hty
    · exact ⟨i, hp.1 i st hi x c hty⟩
  obtain ⟨i, n0, hle, s0, st0, pr, h1, h2, h3, h4, h5, h6, h7, h8, h9⟩ := key
  subst h5
  exact ⟨n0, s0, st0, pr, hle, h1, h2, h3, h4, h6, h7, h8, h9⟩

/-- **the acknowledgement behind a heartbeat's commit index** above `c0`: at the point the heartbeat was
queued its sender held `matched ≥ commit` for the addressee and an accepting append response `a` of the
addressee for the heartbeat's term with `commit ≤ a.index` was in the transport; the addressee queued
`a` in a state in which its log agreed up to `a.index` with a log of that term's leader -/
theorem hb_acknowledged {c0 : Nat} {lg sl : NState → LLog} (P : ProvFacts h) (F : AckFacts h c0 lg sl)
    {n : Nat} {s : Sys} (hn : h[n]? = some s) {x : Message}
    (hx : x ∈ s.net ∨ ∃ i st, s.node i = some st ∧ x ∈ st.raft.msgs)
    (hty : x.msgType = .msgHeartbeat) (hc : c0 < x.commit) :
    ∃ n0 s0 stL pr a, n0 ≤ n ∧ h[n0]? = some s0 ∧ s0.node x.frm = some stL ∧
      stL.raft.state = .leader ∧ stL.raft.term = x.term ∧ x.commit ≤ stL.raft.raftLog.committed ∧
      stL.raft.prs.get x.to = some pr ∧ x.commit ≤ pr.matched ∧
      a ∈ s0.net ∧ isAck a ∧ a.frm = x.to ∧ a.term = x.term ∧ x.commit ≤ a.index ∧
      ∃ n1 s1 stj L, n1 ≤ n0 ∧ h[n1]? = some s1 ∧ s1.node x.to = some stj ∧ a ∈ stj.raft.msgs ∧
        stj.raft.term = x.term ∧ LeaderLogV lg h n1 x.term L ∧ a.index ≤ L.lastIndex ∧
        EqUpTo (lg stj) L a.index := by
  obtain ⟨n0, s0, st0, pr, h1, h2, h3, h4, h5, h6, p1, p2, h7⟩ := hbm_point P hn hx hty
  rcases h7 with c | ⟨a, a1, a2, a3, a4, a5⟩
  · omega
  · have hterm : a.term = x.term := a4.resolve_right (F.ack_term n0 s0 h2 a a1 a2 (by omega))
    obtain ⟨n1, s1, stj, L, b1, b2, b3, b4, b5, b6, b7, b8⟩ := ack_promise F h2 a1 a2 (by omega)
    rw [a3] at b3
    rw [hterm] at b5 b6
    exact ⟨n0, s0, st0, pr, a, h1, h2, h3, h4, h5, h6, p1, p2, a1, a2, a3, hterm, a5,
      n1, s1, stj, L, b1, b2, b3, b4, b5, b6, b7, b8⟩

end Flow
end Cluster
end RaftModel
