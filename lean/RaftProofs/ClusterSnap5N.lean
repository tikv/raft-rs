import RaftProofs.ClusterSnap5M

/-!
Commit safety of `ClusterSem` with compaction and snapshots, part 5N: the nodes that
do not step (`sm_other`), where the messages of the transport come from (`app_src`, `hb_src`,
`vote_src`, and **`snap_src`** for `MsgSnapshot`s), the anchor of an accepted batch, and a freshly queued
acknowledgement.
-/
namespace RaftModel
namespace Cluster
namespace Snap5
open Node Raft Raft.CC RaftProps.C02 RaftProps.C05 Snap

variable {q : Prop} {cfg : JointConfig} {c0 : Nat} {h : List Sys}

/-- **the components for a node that does not step** -/
theorem sm_other (F : Facts q cfg c0 h) {n : Nat} {a b : Sys} (ha : h[n]? = some a)
    {k : Nat} {stk stk' : NState}
    (hk : a.node k = some stk) (hs : Stp q a b k stk stk') {v : Nat} (hvk : v ≠ k) {st : NState} :
    -- acknowledgements of `v` that are around were around before
    (∀ x, (x ∈ b.net ∨ x ∈ st.raft.msgs) → isAck x → x.index ≠ 0 → x.frm = v →
      (x ∈ a.net ∨ x ∈ st.raft.msgs)) ∧
    (∀ x, x ∈ b.net → isAck x → x.index ≠ 0 → x.frm = v → x ∈ a.net) ∧
    (∀ g, (g ∈ b.net ∨ g ∈ st.raft.msgs) → isGrant g → g.frm = v →
      (g ∈ a.net ∨ g ∈ st.raft.msgs)) := by
  have I1 := (hist_all F.hist).1 a (mem_of_get ha)
  obtain ⟨hq, _⟩ := F.ack_inv n a ha
  have hnetack : ∀ x, x ∈ b.net → isAck x → x.index ≠ 0 → x.frm = v → x ∈ a.net := by
    intro x hx hack hidx hfrm
    rcases hs.net_sub x hx with c | c
    · exact c
    · exact absurd ((hq k stk hk x c hack hidx).1.symm.trans hfrm).symm hvk
  refine ⟨fun x hx hack hidx hfrm => ?_, hnetack, fun g hg hig hfrm => ?_⟩
  · rcases hx with c | c
    · exact .inl (hnetack x c hack hidx hfrm)
    · exact .inr c
  · rcases hg with c | c
    · rcases hs.net_sub g c with d | d
      · exact .inl d
      · have hrv : CV.isRVm g = true := by simp [CV.isRVm, hig.1, hig.2]
        exact absurd ((I1.queue k stk hk g d hrv).1.symm.trans hfrm).symm hvk
    · exact .inr c


theorem Covered.mono {h : List Sys} {c0 m m' cm term term' : Nat} {g : LLog}
    (hc : Covered h c0 m cm term g) (hm : m ≤ m') (ht : term ≤ term') :
    Covered h c0 m' cm term' g := by
  rcases hc with c | ⟨E, h1, h2, h3, h4, h5⟩
  · exact .inl c
  · exact .inr ⟨E, h1, Nat.lt_of_lt_of_le h2 hm, h3, Nat.le_trans h4 ht, h5⟩

theorem Promise.mono {h : List Sys} {c0 m m' : Nat} {a : Message} {g : LLog}
    (hp : Promise h c0 m a g) (hm : m ≤ m') : Promise h c0 m' a g := by
  obtain ⟨L, h1, h2⟩ := hp
  exact ⟨L, h1.mono hm, h2⟩

/-- what is known about the sender of a `MsgAppend` -/
structure AppSrc (h : List Sys) (c0 n : Nat) (m : Message) (L : LLog) (cL : Nat) : Prop where
  ll : LeaderLog h c0 n m.term L
  snap : L.snapIdx = c0
  ents : ∀ e ∈ m.entries, L.entryAt e.index = some e
  contig : ContigFrom (m.index + 1) m.entries
  anchor : m.logTerm ≠ 0 → c0 < m.index → Has L m.index m.logTerm
  last : m.index + m.entries.length ≤ L.lastIndex
  commit : m.commit ≤ cL
  cle : cL ≤ L.lastIndex
  cov : Covered h c0 n cL m.term L
  tnz : m.term ≠ 0

theorem app_src (F : Facts3 q cfg c0 h) {n : Nat} (S : SAll h c0 n) {a : Sys} (ha : h[n]? = some a)
    {m : Message} (hm : m ∈ a.net) (hty : m.msgType = .msgAppend) :
    ∃ L cL, AppSrc h c0 n m L cL := by
  obtain ⟨i, n0, hn0, s1, st, h1, h2, h3, h4, h5, h6, h7, h8⟩ :=
    F.append_prov n a ha m hm hty
  have o := F.node_inv h1 h2
  have I := (F.ghost_inv n0 s1 h1).node i st h2
  have hents := subw_entries h8
  have hanchor : st.raft.raftLog.abs.term m.index = .ok m.logTerm := by
    rw [← o.term_abs]; exact h7
  refine ⟨FL h c0 st, st.raft.raftLog.committed,
    ⟨n0, s1, i, st, hn0, h1, h2, h3, h4, rfl⟩, I.log.snap, fun e he => I.log.entry (hents e he), h8.1,
    fun hz hi => I.log.entry_of_term hanchor hz hi, ?_, h6, ?_, ?_,
    F.append_term_ne_zero ha hm hty⟩
  · -- the batch ends inside the sender's log
    rw [I.log.last]
    by_cases hE : m.entries = []
    · rw [hE]
      simp only [List.length_nil, Nat.add_zero]
      rcases F.anch a (mem_of_get ha) m hm hty with c | c
      · unfold LLog.term at hanchor
        split at hanchor
        · rename_i hout
          injection hanchor with hanchor
          exact absurd hanchor.symm c
        · rename_i hin; omega
      · have := I.log.le
        have := snap_le_last st.raft.raftLog.abs
        omega
    · obtain ⟨e, he⟩ := List.exists_mem_of_ne_nil _ hE
      have hlast : m.entries.getLast? = some (m.entries.getLast hE) := List.getLast?_eq_some_getLast hE
      have hidx := ContigFrom.getLast h8.1 hlast
      have hin := hents _ (List.getLast_mem hE)
      have := (st.raft.raftLog.abs.entryAt_lt hin).2
      omega
  · rw [I.log.last, ← o.lastIndex_abs]; exact o.committed_le_last
  · exact ((S n0 s1 hn0 h1).nctm i st h2).mono hn0 (Nat.le_of_eq h4)

/-- **the anchor of an accepted batch**: a log that matches the anchor of a `MsgAppend` equals the
sender's log up to the anchor -/
theorem anchor_eq (F : Facts3 q cfg c0 h) {n : Nat} {a : Sys} (ha : h[n]? = some a) {v : Nat}
    {st : NState} (hv : a.node v = some st) {m : Message} (hm : m ∈ a.net)
    (hty : m.msgType = .msgAppend) {N : Nat} {L : LLog} {cL : Nat} (src : AppSrc h c0 N m L cL)
    (hmt : st.raft.raftLog.abs.matchTerm m.index m.logTerm = true) :
    EqUpTo (FL h c0 st) L m.index := by
  have I := (F.ghost_inv n a ha).node v st hv
  by_cases hle : m.index ≤ c0
  · intro k hk
    unfold LLog.entryAt
    rw [if_pos (by rw [I.log.snap]; omega), if_pos (by rw [src.snap]; omega)]
  · rcases F.anch a (mem_of_get ha) m hm hty with c | c
    · exact eq_ll F.toFacts ha hv src.ll (I.log.has_of_match hmt c (by omega))
        (src.anchor c (by omega))
    · exact absurd c hle

/-- what is known about the sender of a `MsgHeartbeat` -/
structure HbSrc (h : List Sys) (c0 n : Nat) (net : List Message) (m : Message) (L : LLog)
    (cL : Nat) : Prop where
  ll : LeaderLog h c0 n m.term L
  commit : m.commit ≤ cL
  cle : cL ≤ L.lastIndex
  cov : Covered h c0 n cL m.term L
  ack : m.commit = 0 ∨ ∃ x ∈ net, isAck x ∧ x.frm = m.to ∧ x.term = m.term ∧ m.commit ≤ x.index

theorem hb_src (F : Facts3 q cfg c0 h) {n : Nat} (S : SAll h c0 n) {a : Sys} (ha : h[n]? = some a)
    {m : Message} (hm : m ∈ a.net) (hty : m.msgType = .msgHeartbeat) :
    ∃ L cL, HbSrc h c0 n a.net m L cL := by
  obtain ⟨i, n0, hn0, s1, st, h1, h2, h3, h4, h5, h6, h7⟩ :=
    F.hb_prov n a ha m hm hty
  have o := F.node_inv h1 h2
  refine ⟨FL h c0 st, st.raft.raftLog.committed,
    ⟨n0, s1, i, st, hn0, h1, h2, h3, h4, rfl⟩, h6, ?_, ?_, ?_⟩
  · rw [fl_last F.toFacts h1 h2, ← o.lastIndex_abs]; exact o.committed_le_last
  · exact ((S n0 s1 hn0 h1).nctm i st h2).mono hn0 (Nat.le_of_eq h4)
  · rcases h7 with c | ⟨x, hx, hack, hfrm, hterm, hidx⟩
    · exact .inl c
    · by_cases hz : m.commit = 0
      · exact .inl hz
      · right
        have hmono := (hist_all F.hist).2.2 n0 n s1 a hn0 h1 ha
        have hxa : x ∈ a.net := steps_net hmono x hx
        have hx0 : x.index ≠ 0 := by omega
        have := ((F.ack_inv n0 s1 h1).2 x hx hack hx0).2
        rcases hterm with d | d
        · exact ⟨x, hxa, hack, hfrm, d, hidx⟩
        · exact absurd d this

/-- **the commit point of a (pre-)vote message of the transport**: none, or the sender's log held an
entry of that term there, its commit index was at least that — and was covered by a past commit
event —, and the message's term is the sender's term then (plus one for a pre-vote request; a response
that carries a commit point is a rejection) -/
theorem vote_src (F : Facts q cfg c0 h) {n : Nat} (S : SAll h c0 n) {a : Sys} (ha : h[n]? = some a)
    {m : Message} (hm : m ∈ a.net) (hty : isVoteMsg m.msgType = true) :
    m.commit = 0 ∨ ∃ (n0 : Nat) (s0 : Sys) (w : Nat) (stw : NState), n0 ≤ n ∧ h[n0]? = some s0 ∧
      s0.node w = some stw ∧ m.commit ≤ stw.raft.raftLog.committed ∧
      stw.raft.raftLog.abs.term m.commit = .ok m.commitTerm ∧ VT stw.raft.term m ∧
      Covered h c0 n stw.raft.raftLog.committed stw.raft.term (FL h c0 stw) := by
  obtain ⟨w, n0, hn0, s0, stw, h1, h2, h3⟩ := F.vote_prov n a ha m hm hty
  rcases h3 with c | ⟨c1, c2, c3⟩
  · exact .inl c
  · right
    have o := F.node_inv h1 h2
    refine ⟨n0, s0, w, stw, hn0, h1, h2, c1, by rw [← o.term_abs]; exact c2, c3, ?_⟩
    exact ((S n0 s0 hn0 h1).nctm w stw h2).mono hn0 (Nat.le_refl _)

/-- the snapshot of a storage sits at its recorded commit index -/
theorem snapshotCore_index {s : MemStorage} {sn : Snapshot} (h : s.snapshotCore = .ok sn) :
    sn.metadata.index = s.hardState.commit := by
  unfold MemStorage.snapshotCore at h
  dsimp only at h
  split at h
  · cases h; rfl
  · split at h
    · split at h
      · cases h
      · split at h
        · cases h
        · split at h
          · cases h
          · cases h; rfl
    · cases h

/-- what is known about the sender of a `MsgSnapshot`: a leader of the message's term whose ghost log
holds the snapshot point, which is covered by a past commit event -/
structure SnapSrc (h : List Sys) (c0 n : Nat) (m : Message) (L : LLog) : Prop where
  ll : LeaderLog h c0 n m.term L
  hi : c0 < m.snapshot.metadata.index
  has : Has L m.snapshot.metadata.index m.snapshot.metadata.term
  cov : Covered h c0 n m.snapshot.metadata.index m.term L
  tnz : m.term ≠ 0

theorem snap_src (F : Facts3 q cfg c0 h) {n : Nat} (S : SAll h c0 n) {a : Sys} (ha : h[n]? = some a)
    {m : Message} (hm : m ∈ a.net) (hty : m.msgType = .msgSnapshot) :
    ∃ L, SnapSrc h c0 n m L := by
  have F2 := F.toFacts
  obtain ⟨i, n1, hn1, n0, a0, b0, st, st', e1, ha0, hb0, hi, hi', hlead, hterm, _, htle, hsn, hpn⟩ :=
    F2.snap_prov (F2.q_of_net ha hm hty) n a ha m hm hty
  subst e1
  have hi0 := F.snapidx a (mem_of_get ha) m hm hty
  have Ia := (F2.ghost_inv n0 a0 ha0).node i st hi
  have Ib := (F2.ghost_inv (n0 + 1) b0 hb0).node i st' hi'
  have oa := F2.node_inv ha0 hi
  have hidx := snapshotCore_index hsn
  obtain ⟨es, hes, hest⟩ := snapshotCore_ok Ia oa.storeWF hsn hi0
  have Sa := S n0 a0 (by omega) ha0
  have hscm := Sa.scm i st hi
  -- the stored ghost log and the logical ghost log agree up to the recorded commit index
  have hfs : ∀ k, k ≤ m.snapshot.metadata.index →
      (FS h c0 st).entryAt k = (FL h c0 st).entryAt k := by
    intro k hk
    exact covered_agree F2 S Ia.sto.snap Ia.log.snap (Sa.ncts i st hi) (Sa.nctm i st hi)
      (by omega) (by omega) k (by rw [← hidx]; exact hk) (by rw [hidx] at hk; omega)
  -- the step keeps the ghost log up to the commit index
  have hkeep : ∀ k, k ≤ m.snapshot.metadata.index →
      (FL h c0 st').entryAt k = (FL h c0 st).entryAt k := by
    intro k hk
    have hcl : k ≤ st.raft.raftLog.abs.lastIndex := by
      have := oa.committed_le_last
      rw [oa.lastIndex_abs] at this
      rw [hidx] at hk
      omega
    cases F2.fnode_step ha0 hb0 hi hi' with
    | same hl _ => exact hl k
    | grew es hg hl _ => exact hl k hcl
    | acc _ _ _ _ _ _ _ _ hs _ => rw [hs] at hlead; cases hlead
    | restart _ hs _ => rw [hs] at hlead; cases hlead
    | restored _ _ _ _ _ _ _ _ hs _ => rw [hs] at hlead; cases hlead
  have heq : ∀ k, k ≤ m.snapshot.metadata.index →
      (FL h c0 st').entryAt k = (FS h c0 st).entryAt k :=
    fun k hk => (hkeep k hk).trans (hfs k hk).symm
  refine ⟨FL h c0 st', ⟨n0 + 1, b0, i, st', hn1, hb0, hi', hlead, hterm, rfl⟩, hi0,
    ⟨es, by rw [heq _ (Nat.le_refl _)]; exact hes, hest⟩, ?_, F2.snap_term_ne_zero ha hm hty⟩
  rcases Sa.ncts i st hi with c | ⟨E, h1, h2, h3, h4, h5⟩
  · rw [← hidx] at c; omega
  · refine .inr ⟨E, h1, by omega, by rw [hidx]; exact h3, ?_, fun k hk => ?_⟩
    · have := F.term_sle (F2.q_of_net ha hm hty) n0 a0 ha0 i st hi
      omega
    · rw [heq k hk]; exact h5 k (by rw [← hidx]; exact hk)

end Snap5
end Cluster
end RaftModel
