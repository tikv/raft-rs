import RaftProofs.RaftNodeC16
import RaftProofs.RaftNodeC17
import RaftProofs.Quorum
import RaftProofs.RaftStep

/-!
Helper lemmas for the node-level vote obligations (`RaftProps.C02b`, `RaftProps.C03b`): "the log did
not change" relations, what the role changes keep, a case analysis of `poll` / `campaign` / `hup` and
of the role arms of `step`.
-/
namespace RaftModel
namespace Raft
/- everything below lives in `RaftModel.Raft.VoteOb` so that the relation names (`Keep`, `LogSame`, …)
cannot clash with other helper files of the node model -/
namespace VoteOb

/-! ### "the same log" -/

/-- the same log: everything but the `max_apply_unpersisted_log_limit` knob (which `become_follower`
zeroes) -/
structure LogSame (l l' : RaftLog) : Prop where
  store : l'.store = l.store
  unstable : l'.unstable = l.unstable
  committed : l'.committed = l.committed
  persisted : l'.persisted = l.persisted
  applied : l'.applied = l.applied

/-- the same entries (stable and unstable part, pending snapshot, persisted and applied index); the
commit index may have advanced -/
structure LogFrozen (l l' : RaftLog) : Prop where
  store : l'.store = l.store
  unstable : l'.unstable = l.unstable
  committed : l.committed ≤ l'.committed
  persisted : l'.persisted = l.persisted
  applied : l'.applied = l.applied

theorem LogSame.rfl {l : RaftLog} : LogSame l l := ⟨Eq.refl _, Eq.refl _, Eq.refl _, Eq.refl _, Eq.refl _⟩

theorem LogSame.trans {a b c : RaftLog} (h1 : LogSame a b) (h2 : LogSame b c) : LogSame a c :=
  ⟨h2.store.trans h1.store, h2.unstable.trans h1.unstable, h2.committed.trans h1.committed,
   h2.persisted.trans h1.persisted, h2.applied.trans h1.applied⟩

theorem LogSame.symm {a b : RaftLog} (h : LogSame a b) : LogSame b a :=
  ⟨h.store.symm, h.unstable.symm, h.committed.symm, h.persisted.symm, h.applied.symm⟩

theorem LogSame.limit (l : RaftLog) (x : Nat) : LogSame l { l with maxApplyUnpersistedLogLimit := x } :=
  ⟨Eq.refl _, Eq.refl _, Eq.refl _, Eq.refl _, Eq.refl _⟩

theorem LogSame.eq {l l' : RaftLog} (h : LogSame l l') :
    l' = { l with maxApplyUnpersistedLogLimit := l'.maxApplyUnpersistedLogLimit } := by
  obtain ⟨h1, h2, h3, h4, h5⟩ := h
  cases l; cases l'
  simp only at h1 h2 h3 h4 h5
  subst h1 h2 h3 h4 h5
  rfl

theorem LogSame.frozen {l l' : RaftLog} (h : LogSame l l') : LogFrozen l l' :=
  ⟨h.store, h.unstable, Nat.le_of_eq h.committed.symm, h.persisted, h.applied⟩

theorem LogFrozen.rfl {l : RaftLog} : LogFrozen l l := LogSame.rfl.frozen

theorem LogFrozen.trans {a b c : RaftLog} (h1 : LogFrozen a b) (h2 : LogFrozen b c) : LogFrozen a c :=
  ⟨h2.store.trans h1.store, h2.unstable.trans h1.unstable, Nat.le_trans h1.committed h2.committed,
   h2.persisted.trans h1.persisted, h2.applied.trans h1.applied⟩

theorem LogSame.lastIndex {l l' : RaftLog} (h : LogSame l l') : l'.lastIndex = l.lastIndex := by
  rw [h.eq]; rfl

theorem LogSame.firstIndex {l l' : RaftLog} (h : LogSame l l') : l'.firstIndex = l.firstIndex := by
  rw [h.eq]; rfl

theorem LogSame.term {l l' : RaftLog} (h : LogSame l l') (i : Nat) : l'.term i = l.term i := by
  rw [h.eq]; rfl

theorem LogSame.lastTerm {l l' : RaftLog} (h : LogSame l l') : l'.lastTerm = l.lastTerm := by
  rw [h.eq]; rfl

theorem LogSame.commitInfo {l l' : RaftLog} (h : LogSame l l') : l'.commitInfo = l.commitInfo := by
  rw [h.eq]; rfl

theorem LogSame.isUpToDate {l l' : RaftLog} (h : LogSame l l') (i t : Nat) :
    l'.isUpToDate i t = l.isUpToDate i t := by
  rw [h.eq]; rfl

theorem LogFrozen.lastIndex {l l' : RaftLog} (h : LogFrozen l l') : l'.lastIndex = l.lastIndex := by
  unfold RaftLog.lastIndex; rw [h.unstable, h.store]

theorem LogFrozen.firstIndex {l l' : RaftLog} (h : LogFrozen l l') : l'.firstIndex = l.firstIndex := by
  unfold RaftLog.firstIndex; rw [h.unstable, h.store]

theorem LogFrozen.term {l l' : RaftLog} (h : LogFrozen l l') (i : Nat) : l'.term i = l.term i := by
  unfold RaftLog.term; rw [h.firstIndex, h.lastIndex, h.unstable, h.store]

theorem LogFrozen.lastTerm {l l' : RaftLog} (h : LogFrozen l l') : l'.lastTerm = l.lastTerm := by
  unfold RaftLog.lastTerm; rw [h.lastIndex, h.term]

theorem LogFrozen.isUpToDate {l l' : RaftLog} (h : LogFrozen l l') (i t : Nat) :
    l'.isUpToDate i t = l.isUpToDate i t := by
  unfold RaftLog.isUpToDate; rw [h.lastTerm, h.lastIndex]

/-! ### what the role changes keep -/

/-- the part of the node that the campaign bookkeeping (`reset`, `become_*`, `record_vote`) never
touches: the log, the identity, the priority, the voter configuration, the outgoing queue -/
structure Keep (r r' : Raft) : Prop where
  log : LogSame r.raftLog r'.raftLog
  id : r'.id = r.id
  priority : r'.priority = r.priority
  conf : r'.prs.conf = r.prs.conf
  msgs : r'.msgs = r.msgs

theorem Keep.rfl {r : Raft} : Keep r r := ⟨LogSame.rfl, Eq.refl _, Eq.refl _, Eq.refl _, Eq.refl _⟩

theorem Keep.trans {a b c : Raft} (h1 : Keep a b) (h2 : Keep b c) : Keep a c :=
  ⟨h1.log.trans h2.log, h2.id.trans h1.id, h2.priority.trans h1.priority, h2.conf.trans h1.conf,
   h2.msgs.trans h1.msgs⟩

theorem c02_reset_fields (r : Raft) (t : Nat) :
    (r.reset t).id = r.id ∧ (r.reset t).raftLog = r.raftLog ∧ (r.reset t).priority = r.priority ∧
    (r.reset t).state = r.state ∧ (r.reset t).prs.conf = r.prs.conf ∧ (r.reset t).prs.votes = [] ∧
    (r.reset t).msgs = r.msgs ∧ (r.reset t).leaderId = 0 ∧ (r.reset t).electionElapsed = 0 := by
  rw [reset_eq]; exact ⟨rfl, rfl, rfl, rfl, rfl, rfl, rfl, rfl, rfl⟩

theorem c02_reset_keep (r : Raft) (t : Nat) : Keep r (r.reset t) := by
  obtain ⟨h1, h2, h3, _, h5, _, h7, _⟩ := c02_reset_fields r t
  exact ⟨by rw [h2]; exact LogSame.rfl, h1, h3, h5, h7⟩

theorem c02_becomeFollower_keep (r : Raft) (t l : Nat) : Keep r (r.becomeFollower t l) := by
  obtain ⟨h1, h2, h3, _, h5, _, h7, _⟩ := c02_reset_fields r t
  unfold becomeFollower
  refine ⟨?_, h1, h3, h5, h7⟩
  show LogSame r.raftLog { (r.reset t).raftLog with maxApplyUnpersistedLogLimit := 0 }
  rw [h2]; exact LogSame.limit _ _

theorem c02_becomeFollower_fields (r : Raft) (t l : Nat) :
    (r.becomeFollower t l).state = .follower ∧ (r.becomeFollower t l).leaderId = l ∧
    (r.becomeFollower t l).prs.votes = [] ∧ (r.becomeFollower t l).term = t ∧
    (r.becomeFollower t l).vote = (if r.term ≠ t then 0 else r.vote) := by
  obtain ⟨_, _, _, _, _, h6, _⟩ := c02_reset_fields r t
  obtain ⟨h8, h9⟩ := becomeFollower_term_vote r t l
  exact ⟨rfl, rfl, h6, h8, h9⟩

/-- `become_candidate` (raft.rs:1180): term + 1, vote for itself, an empty vote record -/
theorem c02_becomeCandidate_spec {r r' : Raft} (h : r.becomeCandidate = .ok r') :
    Keep r r' ∧ r'.term = r.term + 1 ∧ r'.vote = r.id ∧ r'.state = .candidate ∧
    r'.prs.votes = [] ∧ r.state ≠ .leader := by
  unfold becomeCandidate at h
  split at h
  · cases h
  · rename_i hl
    split at h
    · cases h
    · obtain ⟨h1, h2, h3, _, h5, h6, h7, _⟩ := c02_reset_fields r (r.term + 1)
      have ht := (reset_term_vote r (r.term + 1)).1
      -- with the reset state a variable, the projections of the update below reduce at once
      generalize r.reset (r.term + 1) = r0 at h h1 h2 h3 h5 h6 h7 ht
      cases h
      exact ⟨⟨by show LogSame r.raftLog r0.raftLog; rw [h2]; exact LogSame.rfl, h1, h3, h5, h7⟩,
        ht, h1, rfl, h6, hl⟩

/-- `become_pre_candidate` (raft.rs:1203): term and vote kept, an empty vote record -/
theorem c02_becomePreCandidate_spec {r r' : Raft} (h : r.becomePreCandidate = .ok r') :
    Keep r r' ∧ r'.term = r.term ∧ r'.vote = r.vote ∧ r'.state = .preCandidate ∧
    r'.prs.votes = [] ∧ r.state ≠ .leader := by
  unfold becomePreCandidate at h
  split at h
  · cases h
  · rename_i hl
    cases h
    exact ⟨⟨LogSame.rfl, rfl, rfl, rfl, rfl⟩, rfl, rfl, rfl, rfl, hl⟩

/-! ### the vote record -/

/-- the state in which `poll` tallies: the vote of `frm` recorded (first answer wins,
`entry(id).or_insert(vote)`) -/
def voted (r : Raft) (frm : Nat) (v : Bool) : Raft := { r with prs := r.prs.recordVote frm v }

theorem c02_recordVote_conf (t : ProgressTracker) (id : Nat) (v : Bool) :
    (t.recordVote id v).conf = t.conf := by
  unfold ProgressTracker.recordVote; split <;> rfl

theorem c02_voted_keep (r : Raft) (frm : Nat) (v : Bool) : Keep r (voted r frm v) :=
  ⟨LogSame.rfl, rfl, rfl, c02_recordVote_conf _ _ _, rfl⟩

theorem c02_voted_frame (r : Raft) (frm : Nat) (v : Bool) : Frame r (voted r frm v) :=
  ⟨rfl, rfl, rfl, rfl, rfl, rfl, rfl⟩

/-- the result of tallying the node's own vote alone: a function of the voter configuration and the
node's id only -/
def selfWins (r : Raft) : Prop := Tracker.voteResult r.prs.voters [(r.id, true)] = .won

theorem c02_selfWins_keep {r r' : Raft} (h : Keep r r') : selfWins r' ↔ selfWins r := by
  unfold selfWins ProgressTracker.voters; rw [h.conf, h.id]

/-- recording the own vote on an empty record -/
theorem c02_self_vote {r : Raft} (hv : r.prs.votes = []) :
    (voted r r.id true).prs.votes = [(r.id, true)] ∧
    (voted r r.id true).prs.tallyVotes.2.2 = Tracker.voteResult r.prs.voters [(r.id, true)] := by
  have h1 : (voted r r.id true).prs.votes = [(r.id, true)] := by
    simp [voted, ProgressTracker.recordVote, hv, NatMap.insert]
  refine ⟨h1, ?_⟩
  have h2 : (voted r r.id true).prs.voters = r.prs.voters := by
    unfold ProgressTracker.voters
    rw [(c02_voted_keep r r.id true).conf]
  show Tracker.voteResult (voted r r.id true).prs.voters (voted r r.id true).prs.votes = _
  rw [h1, h2]

theorem c02_self_counts (id : Nat) (vs : List Nat) :
    yesCount vs (fun i => [(id, true)].lookup i) + missingCount vs (fun i => [(id, true)].lookup i)
      = vs.length := by
  induction vs with
  | nil => rfl
  | cons v rest ih =>
    unfold yesCount missingCount at ih ⊢
    rw [List.countP_cons, List.countP_cons, List.length_cons]
    by_cases hv : v = id
    · subst hv
      simp [List.lookup] at ih ⊢
      omega
    · have hb : (v == id) = false := by simpa using hv
      simp [List.lookup, hb] at ih ⊢
      omega

theorem c02_self_half_not_lost (id : Nat) (vs : List Nat) :
    Majority.voteResult vs (fun i => [(id, true)].lookup i) ≠ .lost := by
  rw [Majority.voteResult_eq]
  by_cases h0 : vs = []
  · simp [h0]
  · have hk := c02_self_counts id vs
    have hpos : 0 < vs.length := List.length_pos_iff.mpr h0
    have hm := majority_le vs.length hpos
    rw [if_neg h0]
    split
    · simp
    · split
      · simp
      · omega

/-- the own vote alone never *loses*: every voter other than the node itself is still missing -/
theorem c02_self_not_lost (c : JointConfig) (id : Nat) : Tracker.voteResult c [(id, true)] ≠ .lost := by
  unfold Tracker.voteResult Joint.voteResult
  have h1 := c02_self_half_not_lost id c.incoming
  have h2 := c02_self_half_not_lost id c.outgoing
  cases h3 : Majority.voteResult c.incoming (fun i => [(id, true)].lookup i) <;>
    cases h4 : Majority.voteResult c.outgoing (fun i => [(id, true)].lookup i) <;> simp_all

/-! ### `become_leader`, `poll` -/

/-- `become_leader(); bcast_append()` — the only way into the leader role -/
def wonBy (r0 r' : Raft) : Prop := (r0.becomeLeader.bind (fun r => r.bcastAppend)) = .ok r'

theorem c02_becomeLeader_spec {r r' : Raft} (h : r.becomeLeader = .ok r') :
    r'.state = .leader ∧ r'.term = r.term ∧ r'.vote = r.vote ∧ r'.id = r.id ∧ r.state ≠ .follower := by
  unfold Raft.becomeLeader at h
  split at h
  · cases h
  · rename_i hf
    simp only at h
    split at h
    · cases h
    · split at h
      · cases h
      · split at h
        · rename_i r1 ha
          cases h
          have hf' := appendEntry_frame ha Frame.rfl
          obtain ⟨h1, _⟩ := c02_reset_fields r r.term
          have h2 := reset_term_vote r r.term
          refine ⟨hf'.state, hf'.term.trans h2.1, ?_, hf'.id.trans h1, hf⟩
          rw [hf'.vote]; show (r.reset r.term).vote = r.vote
          rw [h2.2]; simp
        · cases h
        · cases h
        · cases h

theorem c02_wonBy_spec {r0 r' : Raft} (h : wonBy r0 r') :
    r'.state = .leader ∧ r'.term = r0.term ∧ r'.vote = r0.vote ∧ r'.id = r0.id ∧
    r0.state ≠ .follower := by
  unfold wonBy at h
  rw [Res.bind_eq_ok_iff] at h
  obtain ⟨r1, h1, h2⟩ := h
  obtain ⟨a, b, c, d, e⟩ := c02_becomeLeader_spec h1
  have hf := bcastAppend_frame h2 Frame.rfl
  exact ⟨hf.state.trans a, hf.term.trans b, hf.vote.trans c, hf.id.trans d, e⟩

/-- `poll` (raft.rs:2281) unfolded: record the vote, tally, and act on the result -/
theorem c02_pollWith_cases {f : Raft → Res Raft} {r r' : Raft} {frm : Nat} {t : MsgType} {v : Bool}
    {res : VoteResult} (h : pollWith f r frm t v = .ok (r', res)) :
    res = (voted r frm v).prs.tallyVotes.2.2 ∧
    ((res = .won ∧ r.state = .preCandidate ∧ f (voted r frm v) = .ok r') ∨
     (res = .won ∧ r.state ≠ .preCandidate ∧ wonBy (voted r frm v) r') ∨
     (res = .lost ∧ r' = (voted r frm v).becomeFollower r.term 0) ∨
     (res = .pending ∧ r' = voted r frm v)) := by
  unfold Raft.pollWith at h
  simp only at h
  generalize hres : (r.prs.recordVote frm v).tallyVotes.2.2 = res0 at h
  have hres' : (voted r frm v).prs.tallyVotes.2.2 = res0 := hres
  cases res0 with
  | won =>
    simp only at h
    split at h
    · rename_i hpc
      rw [Res.bind_eq_ok_iff] at h
      obtain ⟨r2, h1, h2⟩ := h
      cases h2
      exact ⟨hres'.symm, Or.inl ⟨rfl, hpc, h1⟩⟩
    · rename_i hpc
      rw [Res.bind_eq_ok_iff] at h
      obtain ⟨r2, h1, h2⟩ := h
      cases h2
      exact ⟨hres'.symm, Or.inr (Or.inl ⟨rfl, hpc, h1⟩)⟩
  | lost =>
    simp only at h
    cases h
    exact ⟨hres'.symm, Or.inr (Or.inr (Or.inl ⟨rfl, rfl⟩))⟩
  | pending =>
    simp only at h
    cases h
    exact ⟨hres'.symm, Or.inr (Or.inr (Or.inr ⟨rfl, rfl⟩))⟩

/-! ### the vote requests of `campaign` -/

/-- the (pre-)vote request `campaign` sends to `to` (raft.rs:1303-1332, after `send` filled in the
sender and the priority) -/
def voteReq (r : Raft) (vm : MsgType) (ct : CampaignType) (term c cterm lt to : Nat) : Message :=
  { msgType := vm, to := to, frm := r.id, term := term, index := r.raftLog.lastIndex, logTerm := lt,
    commit := c, commitTerm := cterm, context := if ct = .transfer then campaignTransfer else [],
    deprecatedPriority := if r.priority > 0 then r.priority.toNat else 0, priority := r.priority }

/-- everybody a campaign asks for a vote: the voters of either half except the node itself -/
def c02_voteTargets (r : Raft) : List Nat :=
  (NatSet.union r.prs.conf.incoming r.prs.conf.outgoing).filter (fun id => id ≠ r.id)

/-- one iteration of the vote-request loop of `campaign` -/
def c02_voteStep (vm : MsgType) (ct : CampaignType) (term c cterm lt : Nat) (acc : Res Raft) (id : Nat) :
    Res Raft :=
  acc.bind (fun r =>
    if id = r.id then .ok r
    else r.send { msgType := vm, to := id, term := term,
                  index := r.raftLog.lastIndex, logTerm := lt, commit := c, commitTerm := cterm,
                  context := if ct = .transfer then campaignTransfer else [] })

theorem c02_voteStep_ok (r : Raft) (vm : MsgType) (ct : CampaignType) (term c cterm lt : Nat)
    (hvm : vm = .msgRequestVote ∨ vm = .msgRequestPreVote) (hterm : term ≠ 0) (ms : List Message)
    (id : Nat) :
    c02_voteStep vm ct term c cterm lt (.ok { r with msgs := ms }) id =
      .ok { r with msgs := ms ++ ([id].filter (fun id => id ≠ r.id)).map (voteReq r vm ct term c cterm lt) } := by
  unfold c02_voteStep
  simp only [Res.bind]
  by_cases hid : id = r.id
  · simp [hid]
  · rcases hvm with hvm | hvm <;> subst hvm <;>
      simp [hid, send, sendFill, isVoteMsg, hterm, voteReq]

theorem c02_voteLoop (r : Raft) (vm : MsgType) (ct : CampaignType) (term c cterm lt : Nat)
    (hvm : vm = .msgRequestVote ∨ vm = .msgRequestPreVote) (hterm : term ≠ 0) :
    ∀ (l : List Nat) (ms : List Message),
      l.foldl (c02_voteStep vm ct term c cterm lt) (.ok { r with msgs := ms }) =
      .ok { r with msgs := ms ++ (l.filter (fun id => id ≠ r.id)).map (voteReq r vm ct term c cterm lt) } := by
  intro l
  induction l with
  | nil => intro ms; simp
  | cons id rest ih =>
    intro ms
    rw [List.foldl_cons, c02_voteStep_ok r vm ct term c cterm lt hvm hterm, ih]
    by_cases hid : id = r.id <;> simp [hid]

/-- the vote-request loop of `campaign` (raft.rs:1303-1332): exactly one request per voter of either
half except the node itself, each carrying the node's last index / last term / commit point -/
theorem c02_sendVoteRequests_spec {r r' : Raft} {ct : CampaignType} {vm : MsgType} {term : Nat}
    (hvm : vm = .msgRequestVote ∨ vm = .msgRequestPreVote) (hterm : term ≠ 0)
    (h : r.sendVoteRequests ct vm term = .ok r') :
    ∃ lt c cterm, r.raftLog.lastTerm = .ok lt ∧ r.raftLog.commitInfo = .ok (c, cterm) ∧
      r' = { r with msgs := r.msgs ++ (c02_voteTargets r).map (voteReq r vm ct term c cterm lt) } := by
  unfold sendVoteRequests at h
  split at h
  · cases h
  · cases h
  · rename_i c cterm hci
    split at h
    · cases h
    · cases h
    · rename_i lt hlt
      refine ⟨lt, c, cterm, hlt, hci, ?_⟩
      have := c02_voteLoop r vm ct term c cterm lt hvm hterm
        (NatSet.union r.prs.conf.incoming r.prs.conf.outgoing) r.msgs
      unfold c02_voteStep at this
      rw [show ({ r with msgs := r.msgs } : Raft) = r from rfl] at this
      rw [this] at h
      cases h; rfl

theorem c02_voteTargets_keep {r r' : Raft} (h : Keep r r') : c02_voteTargets r' = c02_voteTargets r := by
  unfold c02_voteTargets; rw [h.conf, h.id]

theorem c02_voteReq_keep {r r' : Raft} (h : Keep r r') (vm : MsgType) (ct : CampaignType)
    (term c cterm lt : Nat) : voteReq r' vm ct term c cterm lt = voteReq r vm ct term c cterm lt := by
  funext to
  unfold voteReq; rw [h.id, h.priority, h.log.lastIndex]

/-! ### `campaign` -/

/-- the request type of a campaign -/
def campaignMsgType (ct : CampaignType) : MsgType :=
  if ct = .preElection then .msgRequestPreVote else .msgRequestVote

/-- outcome 1 of `campaign`: the node's own vote is a quorum of its configuration — it becomes a
candidate of `term + 1` with its own vote recorded, then leader at once (`become_leader`,
`bcast_append`); no vote request is sent -/
structure CampaignWon (r r' : Raft) : Prop where
  self : selfWins r
  path : ∃ r0, Keep r r0 ∧ r0.term = r.term + 1 ∧ r0.vote = r.id ∧ r0.state = .candidate ∧
    r0.prs.votes = [(r.id, true)] ∧ wonBy r0 r'

theorem CampaignWon.term {r r' : Raft} (w : CampaignWon r r') : r'.term = r.term + 1 := by
  obtain ⟨r0, _, k2, _, _, _, k6⟩ := w.path
  exact (c02_wonBy_spec k6).2.1.trans k2

/-- outcome 2 of `campaign`: the own vote is not a quorum (it is then pending: alone it never loses,
`c02_self_not_lost`); the node is a (pre-)candidate whose vote record holds its own vote only, one
request per other voter is queued, and nothing else of the log / identity / configuration moved -/
structure CampaignAsked (r r' : Raft) (ct : CampaignType) : Prop where
  notSelf : ¬ selfWins r
  log : LogSame r.raftLog r'.raftLog
  id : r'.id = r.id
  priority : r'.priority = r.priority
  conf : r'.prs.conf = r.prs.conf
  msgs : ∃ lt c cterm, r.raftLog.lastTerm = .ok lt ∧ r.raftLog.commitInfo = .ok (c, cterm) ∧
    r'.msgs = r.msgs ++
      (c02_voteTargets r).map (voteReq r (campaignMsgType ct) ct (r.term + 1) c cterm lt)
  term : r'.term = if ct = .preElection then r.term else r.term + 1
  vote : r'.vote = if ct = .preElection then r.vote else r.id
  state : r'.state = if ct = .preElection then .preCandidate else .candidate
  votes : r'.prs.votes = [(r.id, true)]

theorem c02_asked_of {r r2 r' : Raft} {ct : CampaignType} {vm : MsgType} (hk : Keep r r2)
    (hvm : vm = .msgRequestVote ∨ vm = .msgRequestPreVote)
    {term : Nat} (ht : term = r.term + 1) (hs : r2.sendVoteRequests ct vm term = .ok r') :
    LogSame r.raftLog r'.raftLog ∧ r'.id = r.id ∧ r'.priority = r.priority ∧
    r'.prs.conf = r.prs.conf ∧
    (∃ lt c cterm, r.raftLog.lastTerm = .ok lt ∧ r.raftLog.commitInfo = .ok (c, cterm) ∧
      r'.msgs = r.msgs ++ (c02_voteTargets r).map (voteReq r vm ct (r.term + 1) c cterm lt)) ∧
    r'.term = r2.term ∧ r'.vote = r2.vote ∧ r'.state = r2.state ∧ r'.prs.votes = r2.prs.votes := by
  subst ht
  obtain ⟨lt, c, cterm, h1, h2, h3⟩ := c02_sendVoteRequests_spec hvm (by omega) hs
  subst h3
  refine ⟨hk.log, hk.id, hk.priority, hk.conf, ⟨lt, c, cterm, ?_, ?_, ?_⟩, rfl, rfl, rfl, rfl⟩
  · rw [← hk.log.lastTerm]; exact h1
  · rw [← hk.log.commitInfo]; exact h2
  · show r2.msgs ++ _ = _
    rw [hk.msgs, c02_voteTargets_keep hk, c02_voteReq_keep hk]

/-- a real campaign (`CAMPAIGN_ELECTION` / `CAMPAIGN_TRANSFER`), whatever `poll` does when a
*pre-candidate* wins (the node is a candidate here) -/
theorem c02_campaignWith_election {f : Raft → Res Raft} {r r' : Raft} {ct : CampaignType}
    (hct : ct ≠ .preElection) (h : campaignWith (pollWith f) r ct = .ok r') :
    CampaignWon r r' ∨ CampaignAsked r r' ct := by
  unfold Raft.campaignWith at h
  simp only [hct, if_false] at h
  rw [Res.bind_eq_ok_iff] at h
  obtain ⟨⟨r1, vm, t⟩, h1, h2⟩ := h
  rw [Res.bind_eq_ok_iff] at h1
  obtain ⟨r0, h3, h4⟩ := h1
  cases h4
  obtain ⟨hk, e1, e2, e3, e4, _⟩ := c02_becomeCandidate_spec h3
  simp only at h2
  rw [Res.bind_eq_ok_iff] at h2
  obtain ⟨⟨r2, res⟩, h5, h6⟩ := h2
  simp only at h6
  obtain ⟨p1, p2⟩ := c02_pollWith_cases h5
  obtain ⟨v1, v2⟩ := c02_self_vote e4
  have hkv : Keep r (voted r1 r1.id true) := hk.trans (c02_voted_keep _ _ _)
  have hself : res = .won ↔ selfWins r := by
    rw [← c02_selfWins_keep hk, p1, v2]; exact Iff.rfl
  have hmt : campaignMsgType ct = .msgRequestVote := by simp [campaignMsgType, hct]
  rcases p2 with ⟨_, c, _⟩ | ⟨a, _, c⟩ | ⟨a, c⟩ | ⟨a, c⟩
  · rw [e3] at c; cases c
  · subst a
    simp only [if_true] at h6
    cases h6
    refine Or.inl ⟨hself.1 rfl, voted r1 r1.id true, hkv, e1, e2, e3, ?_, c⟩
    rw [v1, hk.id]
  · subst a
    exact absurd (p1.trans v2).symm (c02_self_not_lost _ _)
  · subst a
    simp only [show ¬ VoteResult.pending = VoteResult.won by decide, if_false] at h6
    subst c
    obtain ⟨q1, q2, q3, q4, q5, q6, q7, q8, q9⟩ := c02_asked_of hkv (Or.inl rfl) e1 h6
    refine Or.inr ⟨fun hw => (by cases hself.2 hw), q1, q2, q3, q4, (by rw [hmt]; exact q5), ?_, ?_,
      ?_, ?_⟩
    · rw [if_neg hct, q6]; exact e1
    · rw [if_neg hct, q7]; exact e2
    · rw [if_neg hct, q8]; exact e3
    · rw [q9, v1, hk.id]

/-- **`campaign`** (raft.rs:1287), all three kinds: either the own vote is a quorum and the node is
leader at once, or one request per other voter is queued -/
theorem c02_campaign_cases {r r' : Raft} {ct : CampaignType} (h : r.campaign ct = .ok r') :
    CampaignWon r r' ∨ CampaignAsked r r' ct := by
  by_cases hct : ct = .preElection
  · subst hct
    unfold Raft.campaign Raft.campaignWith at h
    simp only [if_true] at h
    rw [Res.bind_eq_ok_iff] at h
    obtain ⟨⟨r1, vm, t⟩, h1, h2⟩ := h
    rw [Res.bind_eq_ok_iff] at h1
    obtain ⟨r0, h3, h4⟩ := h1
    obtain ⟨hk, e1, e2, e3, e4, _⟩ := c02_becomePreCandidate_spec h3
    split at h4
    · cases h4
    · cases h4
      simp only at h2
      rw [Res.bind_eq_ok_iff] at h2
      obtain ⟨⟨r2, res⟩, h5, h6⟩ := h2
      simp only at h6
      unfold Raft.poll at h5
      obtain ⟨p1, p2⟩ := c02_pollWith_cases h5
      obtain ⟨v1, v2⟩ := c02_self_vote e4
      have hkv : Keep r (voted r1 r1.id true) := hk.trans (c02_voted_keep _ _ _)
      have hself : res = .won ↔ selfWins r := by
        rw [← c02_selfWins_keep hk, p1, v2]; exact Iff.rfl
      have hmt : campaignMsgType .preElection = .msgRequestPreVote := rfl
      have et : r1.term + 1 = r.term + 1 := by rw [e1]
      rcases p2 with ⟨a, _, c⟩ | ⟨_, c, _⟩ | ⟨a, c⟩ | ⟨a, c⟩
      · subst a
        simp only [if_true] at h6
        cases h6
        unfold Raft.campaignAfterPreVote at c
        rcases c02_campaignWith_election (by decide) c with w | w
        · obtain ⟨r0', k1, k2, k3, k4, k5, k6⟩ := w.path
          refine Or.inl ⟨hself.1 rfl, r0', hkv.trans k1, ?_, ?_, k4, ?_, k6⟩
          · rw [k2]; show r1.term + 1 = _; rw [e1]
          · rw [k3]; exact hkv.id
          · rw [k5, hkv.id]
        · exact absurd ((c02_selfWins_keep hkv).2 (hself.1 rfl)) w.notSelf
      · rw [e3] at c; exact absurd rfl c
      · subst a
        exact absurd (p1.trans v2).symm (c02_self_not_lost _ _)
      · subst a
        simp only [show ¬ VoteResult.pending = VoteResult.won by decide, if_false] at h6
        subst c
        obtain ⟨q1, q2, q3, q4, q5, q6, q7, q8, q9⟩ := c02_asked_of hkv (Or.inr rfl) et h6
        refine Or.inr ⟨fun hw => (by cases hself.2 hw), q1, q2, q3, q4, (by rw [hmt]; exact q5), ?_, ?_,
          ?_, ?_⟩
        · rw [if_pos rfl, q6]; exact e1
        · rw [if_pos rfl, q7]; exact e2
        · rw [if_pos rfl, q8]; exact e3
        · rw [q9, v1, hk.id]
  · unfold Raft.campaign Raft.poll at h
    exact c02_campaignWith_election hct h

/-- **`hup`** (raft.rs:1543): nothing, or a campaign of a promotable non-leader — a transfer when
asked for one, a pre-election with `pre_vote`, an election otherwise -/
theorem c02_hup_cases {r r' : Raft} {tr : Bool} (h : r.hup tr = .ok r') :
    r' = r ∨
    (r.state ≠ .leader ∧ r.promotable = true ∧
      ∃ ct, r.campaign ct = .ok r' ∧ (ct = .transfer ↔ tr = true) ∧
        (ct = .preElection ↔ (tr = false ∧ r.preVote = true))) := by
  cases hup_inv h with
  | idle => exact .inl rfl
  | campaign hl hp _ _ hct hc =>
    refine .inr ⟨hl, hp, _, hc, ?_⟩
    subst hct
    cases tr <;> cases r.preVote <;> simp

/-! ### the vote arm of `step` -/

/-- the condition of raft.rs:1497-1499 spelled out -/
theorem c02_voteGranted_iff (r : Raft) (m : Message) :
    r.voteGranted m = .ok true ↔
      r.canVote m = true ∧ r.raftLog.isUpToDate m.index m.logTerm = .ok true ∧
      (r.raftLog.lastIndex < m.index ∨ r.priority ≤ getPriority m) := by
  unfold Raft.voteGranted
  by_cases hc : r.canVote m = true
  · simp only [hc, if_true, true_and]
    cases hu : r.raftLog.isUpToDate m.index m.logTerm with
    | ok b => cases b <;> simp
    | err e => simp
    | panic s => simp
  · simp [hc]

theorem c02_voteGranted_false_iff (r : Raft) (m : Message) :
    r.voteGranted m = .ok false ↔
      r.canVote m = false ∨
      (r.canVote m = true ∧ r.raftLog.isUpToDate m.index m.logTerm = .ok false) ∨
      (r.canVote m = true ∧ r.raftLog.isUpToDate m.index m.logTerm = .ok true ∧
        ¬ (r.raftLog.lastIndex < m.index ∨ r.priority ≤ getPriority m)) := by
  unfold Raft.voteGranted
  by_cases hc : r.canVote m = true
  · simp only [hc, if_true, true_and]
    cases hu : r.raftLog.isUpToDate m.index m.logTerm with
    | ok b => cases b <;> simp
    | err e => simp
    | panic s => simp
  · simp [hc]

theorem c02_maybeCommit_frozen {l l' : RaftLog} {i t : Nat} {b : Bool}
    (h : l.maybeCommit i t = .ok (l', b)) : LogFrozen l l' := by
  rcases RaftLog.maybeCommit_inv h with ⟨_, hlt, _, _, rfl⟩ | ⟨_, rfl⟩
  · exact ⟨rfl, rfl, Nat.le_of_lt hlt, rfl, rfl⟩
  · exact LogFrozen.rfl

/-- `maybe_commit_by_vote` (raft.rs:2248): the commit index may advance; a (pre-)candidate that
thereby learns of an unapplied configuration change steps down at the same term; nothing else -/
theorem c02_maybeCommitByVote_spec {r r' : Raft} {m : Message} (h : r.maybeCommitByVote m = .ok r') :
    r'.msgs = r.msgs ∧ LogFrozen r.raftLog r'.raftLog ∧ r'.term = r.term ∧ r'.vote = r.vote ∧
    r'.id = r.id ∧ r'.prs.conf = r.prs.conf ∧
    ((r'.state = r.state ∧ r'.prs.votes = r.prs.votes ∧ r'.leaderId = r.leaderId ∧
        r'.electionElapsed = r.electionElapsed) ∨
     ((r.state = .candidate ∨ r.state = .preCandidate) ∧ r'.state = .follower ∧ r'.prs.votes = [])) := by
  cases maybeCommitByVote_inv h with
  | ignored => exact ⟨rfl, LogFrozen.rfl, rfl, rfl, rfl, rfl, .inl ⟨rfl, rfl, rfl, rfl⟩⟩
  | committed _ _ _ hmc =>
    exact ⟨rfl, c02_maybeCommit_frozen hmc, rfl, rfl, rfl, rfl, .inl ⟨rfl, rfl, rfl, rfl⟩⟩
  | @steppedDown log hr _ _ hmc =>
    have hk := c02_becomeFollower_keep ({ r with raftLog := log } : Raft) r.term 0
    obtain ⟨f1, _, f3, f4, f5⟩ := c02_becomeFollower_fields ({ r with raftLog := log } : Raft) r.term 0
    refine ⟨hk.msgs, (c02_maybeCommit_frozen hmc).trans hk.log.frozen, f4, ?_, hk.id, hk.conf,
      .inr ⟨hr, f1, f3⟩⟩
    rw [f5]; show (if r.term ≠ r.term then 0 else r.vote) = r.vote; simp

/-- the response to a granted request (raft.rs:1510-1515), as queued -/
def grantResp (r : Raft) (m : Message) (t : MsgType) : Message :=
  r.sendFill { msgType := t, to := m.frm, reject := false, term := m.term }

/-- the response to a refused request (raft.rs:1522-1528), as queued -/
def rejectResp (r : Raft) (m : Message) (t : MsgType) (c cterm : Nat) : Message :=
  r.sendFill { msgType := t, to := m.frm, reject := true, term := r.term, commit := c, commitTerm := cterm }

theorem c02_sendFill_resp (r : Raft) (x : Message)
    (ht : x.msgType = .msgRequestVoteResponse ∨ x.msgType = .msgRequestPreVoteResponse) :
    r.sendFill x = if x.frm = 0 then { x with frm := r.id } else x := by
  unfold Raft.sendFill
  rcases ht with ht | ht <;> by_cases hf : x.frm = 0 <;> simp [ht, hf, isVoteMsg]

/-- raft.rs:1510-1520: a grant queues exactly one response with `reject = false`; only a real vote is
recorded (`vote := m.from`, `election_elapsed := 0`) -/
theorem c02_stepVoteGrant_spec {r r' : Raft} {m : Message} {t : MsgType}
    (h : r.stepVoteGrant m t = .ok r') :
    r' = (if m.msgType = .msgRequestVote
          then { r with msgs := r.msgs ++ [grantResp r m t], electionElapsed := 0, vote := m.frm }
          else { r with msgs := r.msgs ++ [grantResp r m t] }) := by
  unfold Raft.stepVoteGrant at h
  split at h
  · rename_i r1 hs
    have := send_eq r r1 _ hs
    subst this
    split at h
    · rename_i hv; cases h; rw [if_pos hv]; rfl
    · rename_i hv; cases h; rw [if_neg hv]; rfl
  · cases h
  · cases h

/-- raft.rs:1522-1531: a refusal queues exactly one response with `reject = true` carrying the
commit point, then may use the commit point the request carried -/
theorem c02_stepVoteReject_spec {r r' : Raft} {m : Message} {t : MsgType}
    (h : r.stepVoteReject m t = .ok r') :
    ∃ c cterm, r.raftLog.commitInfo = .ok (c, cterm) ∧
      (r' = { r with msgs := r.msgs ++ [rejectResp r m t c cterm] } ∨
       ({ r with msgs := r.msgs ++ [rejectResp r m t c cterm] } : Raft).maybeCommitByVote m = .ok r') := by
  unfold Raft.stepVoteReject at h
  split at h
  · cases h
  · cases h
  · rename_i c cterm hci
    refine ⟨c, cterm, hci, ?_⟩
    split at h
    · rename_i r1 hs
      have := send_eq r r1 _ hs
      subst this
      split at h
      · exact Or.inr h
      · cases h; exact Or.inl rfl
    · cases h
    · cases h

/-- the outcome of the `MsgRequestVote | MsgRequestPreVote` arm of `step` (raft.rs:1489-1533) -/
structure VoteArm (r r' : Raft) (m : Message) : Prop where
  /-- exactly one message is queued: the response -/
  resp : ∃ t x, voteRespMsgType m.msgType = some t ∧ r'.msgs = r.msgs ++ [x] ∧ x.msgType = t ∧
    x.to = m.frm ∧ (x.reject = false ↔ r.voteGranted m = .ok true) ∧
    (x.reject = true ↔ r.voteGranted m = .ok false) ∧
    (x.reject = false → x.term = m.term) ∧
    (x.reject = true → x.term = r.term ∧ r.raftLog.commitInfo = .ok (x.commit, x.commitTerm))
  term : r'.term = r.term
  id : r'.id = r.id
  conf : r'.prs.conf = r.prs.conf
  log : LogFrozen r.raftLog r'.raftLog
  /-- granted: the log is untouched; a real vote is recorded, a pre-vote is not -/
  granted : r.voteGranted m = .ok true →
    r'.raftLog = r.raftLog ∧ r'.state = r.state ∧ r'.prs = r.prs ∧ r'.leaderId = r.leaderId ∧
    (m.msgType = .msgRequestVote → r'.vote = m.frm ∧ r'.electionElapsed = 0) ∧
    (m.msgType ≠ .msgRequestVote → r'.vote = r.vote ∧ r'.electionElapsed = r.electionElapsed)
  /-- refused: the vote and the election timer are untouched -/
  refused : r.voteGranted m = .ok false →
    r'.vote = r.vote ∧
    ((r'.state = r.state ∧ r'.prs.votes = r.prs.votes ∧ r'.leaderId = r.leaderId ∧
        r'.electionElapsed = r.electionElapsed) ∨
     ((r.state = .candidate ∨ r.state = .preCandidate) ∧ r'.state = .follower ∧ r'.prs.votes = []))
  decided : r.voteGranted m = .ok true ∨ r.voteGranted m = .ok false

theorem c02_stepVote_spec {r r' : Raft} {m : Message} (h : r.stepVote m = .ok r') : VoteArm r r' m := by
  unfold Raft.stepVote at h
  split at h
  · cases h
  · rename_i t ht
    have htt : t = .msgRequestVoteResponse ∨ t = .msgRequestPreVoteResponse := by
      cases hm : m.msgType <;> simp [hm, voteRespMsgType] at ht <;> simp [← ht]
    split at h
    · rename_i hg
      have hspec := c02_stepVoteGrant_spec h
      have hx : (grantResp r m t).msgType = t ∧ (grantResp r m t).to = m.frm ∧
          (grantResp r m t).reject = false ∧ (grantResp r m t).term = m.term := by
        unfold grantResp
        rw [c02_sendFill_resp _ _ htt]
        split <;> exact ⟨rfl, rfl, rfl, rfl⟩
      have hresp : ∃ t' x, voteRespMsgType m.msgType = some t' ∧
          (r.msgs ++ [grantResp r m t]) = r.msgs ++ [x] ∧ x.msgType = t' ∧
          x.to = m.frm ∧ (x.reject = false ↔ r.voteGranted m = .ok true) ∧
          (x.reject = true ↔ r.voteGranted m = .ok false) ∧
          (x.reject = false → x.term = m.term) ∧
          (x.reject = true → x.term = r.term ∧ r.raftLog.commitInfo = .ok (x.commit, x.commitTerm)) :=
        ⟨t, _, ht, rfl, hx.1, hx.2.1, by simp [hx.2.2.1, hg], by simp [hx.2.2.1, hg],
          fun _ => hx.2.2.2, by simp [hx.2.2.1]⟩
      by_cases hv : m.msgType = .msgRequestVote
      · rw [if_pos hv] at hspec
        subst hspec
        exact ⟨hresp, rfl, rfl, rfl, LogFrozen.rfl,
          fun _ => ⟨rfl, rfl, rfl, rfl, fun _ => ⟨rfl, rfl⟩, fun hn => absurd hv hn⟩,
          fun hf => (by rw [hg] at hf; cases hf), Or.inl hg⟩
      · rw [if_neg hv] at hspec
        subst hspec
        exact ⟨hresp, rfl, rfl, rfl, LogFrozen.rfl,
          fun _ => ⟨rfl, rfl, rfl, rfl, fun hn => absurd hn hv, fun _ => ⟨rfl, rfl⟩⟩,
          fun hf => (by rw [hg] at hf; cases hf), Or.inl hg⟩
    · rename_i hg
      obtain ⟨c, cterm, hci, hspec⟩ := c02_stepVoteReject_spec h
      have hx : (rejectResp r m t c cterm).msgType = t ∧ (rejectResp r m t c cterm).to = m.frm ∧
          (rejectResp r m t c cterm).reject = true ∧ (rejectResp r m t c cterm).term = r.term ∧
          (rejectResp r m t c cterm).commit = c ∧ (rejectResp r m t c cterm).commitTerm = cterm := by
        unfold rejectResp
        rw [c02_sendFill_resp _ _ htt]
        split <;> exact ⟨rfl, rfl, rfl, rfl, rfl, rfl⟩
      have hresp : ∃ t' x, voteRespMsgType m.msgType = some t' ∧
          (r.msgs ++ [rejectResp r m t c cterm]) = r.msgs ++ [x] ∧ x.msgType = t' ∧
          x.to = m.frm ∧ (x.reject = false ↔ r.voteGranted m = .ok true) ∧
          (x.reject = true ↔ r.voteGranted m = .ok false) ∧
          (x.reject = false → x.term = m.term) ∧
          (x.reject = true → x.term = r.term ∧ r.raftLog.commitInfo = .ok (x.commit, x.commitTerm)) :=
        ⟨t, _, ht, rfl, hx.1, hx.2.1, by simp [hx.2.2.1, hg], by simp [hx.2.2.1, hg],
          by simp [hx.2.2.1], fun _ => ⟨hx.2.2.2.1, by rw [hx.2.2.2.2.1, hx.2.2.2.2.2]; exact hci⟩⟩
      rcases hspec with hspec | hspec
      · subst hspec
        exact ⟨hresp, rfl, rfl, rfl, LogFrozen.rfl, fun hf => (by rw [hg] at hf; cases hf),
          fun _ => ⟨rfl, Or.inl ⟨rfl, rfl, rfl, rfl⟩⟩, Or.inr hg⟩
      · obtain ⟨q1, q2, q3, q4, q5, q6, q7⟩ := c02_maybeCommitByVote_spec hspec
        refine ⟨?_, q3, q5, q6, q2, fun hf => (by rw [hg] at hf; cases hf), fun _ => ⟨q4, q7⟩, Or.inr hg⟩
        rw [q1]; exact hresp
    · cases h
    · cases h

/-! ### the role arms of `step` -/

/-- `step_leader` (raft.rs:2072): the frame (term, vote, role, leader) is kept, except that a leader
without an active quorum steps down at the same term on `MsgCheckQuorum` -/
theorem c02_stepLeader_cases {r r' : Raft} {m : Message} {e : Option RaftError}
    (h : r.stepLeader m = .ok (r', e)) :
    Frame r r' ∨ (r'.state = .follower ∧ r'.term = r.term ∧ r'.vote = r.vote) := by
  by_cases hm : m.msgType = .msgCheckQuorum
  · unfold Raft.stepLeader at h
    simp only [hm, Raft.checkQuorumActive] at h
    cases hq : (r.prs.quorumRecentlyActive r.id).2
    · simp only [hq, Bool.not_false, if_true] at h
      cases h
      right
      obtain ⟨f1, _, _, f4, f5⟩ := c02_becomeFollower_fields
        ({ r with prs := (r.prs.quorumRecentlyActive r.id).1 } : Raft) r.term 0
      refine ⟨f1, f4, ?_⟩
      rw [f5]; show (if r.term ≠ r.term then 0 else r.vote) = r.vote; simp
    · simp only [hq, Bool.not_true, Bool.false_eq_true, if_false] at h
      cases h; exact Or.inl (Frame.mk' Frame.rfl)
  · exact .inl (stepLeader_parts h Frame.rfl
      (beat := fun hb _ => bcastHeartbeat_frame hb Frame.rfl)
      (quorum := fun _ hq => absurd hq hm)
      (follower := fun hq => absurd hq hm)
      (filter := fun hf _ => filterProposal_frame _ _ _ _ _ hf Frame.rfl)
      (append := fun ha _ => appendEntry_frame ha)
      (bcast := fun hb _ => bcastAppend_frame hb)
      (ready := fun hr _ => handleReadyReadIndex_frame hr Frame.rfl)
      (send := fun hx _ => send_frame hx)
      (ro := fun _ _ => Frame.mk' Frame.rfl)
      (hbctx := fun hb _ => bcastHeartbeatWithCtx_frame hb)
      (appResp := fun hx _ => handleAppendResponse_frame hx Frame.rfl)
      (hbResp := fun hx _ => handleHeartbeatResponse_frame hx Frame.rfl)
      (snapStatus := fun _ => handleSnapshotStatus_frame Frame.rfl)
      (unreachable := fun _ => handleUnreachable_frame Frame.rfl)
      (transfer := fun hx _ => handleTransferLeader_frame hx Frame.rfl))

/-- term, vote, role and identity are unchanged -/
structure TVS (r r' : Raft) : Prop where
  term : r'.term = r.term
  vote : r'.vote = r.vote
  state : r'.state = r.state
  id : r'.id = r.id

theorem c02_frame_tvs {r r' : Raft} (h : Frame r r') : TVS r r' := ⟨h.term, h.vote, h.state, h.id⟩

theorem TVS.frame {a r r' : Raft} (h : TVS a r) (hf : Frame r r') : TVS a r' :=
  ⟨hf.term.trans h.term, hf.vote.trans h.vote, hf.state.trans h.state, hf.id.trans h.id⟩

/-- `step_follower` (raft.rs:2377): term, vote and role are kept, except for `MsgTimeoutNow` →
`hup(true)` -/
theorem c02_stepFollower_cases {r r' : Raft} {m : Message} {e : Option RaftError}
    (hs : r.state = .follower) (h : r.stepFollower m = .ok (r', e)) :
    TVS r r' ∨ (m.msgType = .msgTimeoutNow ∧ r.promotable = true ∧ r.hup true = .ok r') := by
  cases stepFollower_inv h with
  | dropped | ignored => exact .inl (c02_frame_tvs Frame.rfl)
  | forwarded _ _ hx => exact .inl (c02_frame_tvs (send_frame hx Frame.rfl))
  | append _ hx =>
    have hf := handleAppendEntries_frame hx Frame.rfl
    exact .inl ⟨hf.term, hf.vote, hf.state, hf.id⟩
  | heartbeat _ hx =>
    have hf := handleHeartbeat_frame hx Frame.rfl
    exact .inl ⟨hf.term, hf.vote, hf.state, hf.id⟩
  | snapshot _ hx =>
    have hf := handleSnapshot_frame
      (show ({ r with electionElapsed := 0, leaderId := m.frm } : Raft).state = .follower from hs) hx
      Frame.rfl
    exact .inl ⟨hf.term, hf.vote, hf.state, hf.id⟩
  | timeoutNow hm hp hh => exact .inr ⟨hm, hp, hh⟩
  | readIndexResp => exact .inl ⟨rfl, rfl, rfl, rfl⟩

/-- `step_candidate` (raft.rs:2320) of a candidate or pre-candidate: nothing; or a message of the
leader of this term (`become_follower(m.term, m.from)`, then the follower's handler); or a response of
the right kind — `MsgRequestVoteResponse` for a candidate, `MsgRequestPreVoteResponse` for a
pre-candidate — is polled; since fix F16 a pre-candidate polls a *granted* pre-vote response only if
it carries the term of this pre-campaign, `m.term = r.term + 1` (any other grant: nothing) -/
theorem c02_stepCandidate_cases {r r' : Raft} {m : Message} {e : Option RaftError}
    (hs : r.state = .candidate ∨ r.state = .preCandidate)
    (h : r.stepCandidate m = .ok (r', e)) :
    r' = r ∨
    ((m.msgType = .msgAppend ∨ m.msgType = .msgHeartbeat ∨ m.msgType = .msgSnapshot) ∧
      r.term = m.term ∧ Frame (r.becomeFollower m.term m.frm) r') ∨
    (((r.state = .candidate ∧ m.msgType = .msgRequestVoteResponse) ∨
      (r.state = .preCandidate ∧ m.msgType = .msgRequestPreVoteResponse ∧
        (m.reject = true ∨ m.term = r.term + 1))) ∧
     ∃ r2 res, r.poll m.frm m.msgType (!m.reject) = .ok (r2, res) ∧ r2.maybeCommitByVote m = .ok r') := by
  cases stepCandidate_inv h with
  | dropped | ignored => exact .inl rfl
  | append ty ht h1 => exact .inr (.inl ⟨.inl ty, ht, handleAppendEntries_frame h1 Frame.rfl⟩)
  | heartbeat ty ht h1 => exact .inr (.inl ⟨.inr (.inl ty), ht, handleHeartbeat_frame h1 Frame.rfl⟩)
  | snapshot ty ht h1 =>
    exact .inr (.inl ⟨.inr (.inr ty), ht, handleSnapshot_frame rfl h1 Frame.rfl⟩)
  | polled _ hc hp h1 h2 =>
    refine .inr (.inr ⟨?_, _, _, h1, h2⟩)
    rcases hs with hs | hs
    · exact .inl ⟨hs, hc hs⟩
    · obtain ⟨a, b⟩ := hp hs
      exact .inr ⟨hs, a, b.imp_right And.right⟩

/-- the term preamble of `step` (raft.rs:1352-1482): the state is untouched; or a lower-term message
is answered (nothing but the queue changes) and consumed; or a higher-term message — not a pre-vote
request, not a granted pre-vote response, not a vote request ignored under the lease — makes the node
a follower of `m.term` first -/
theorem c02_stepTerm_cases {r r1 : Raft} {m : Message} {b : Bool} (h : r.stepTerm m = .ok (r1, b)) :
    (r1 = r ∧ (b = true → m.term = 0 ∨ m.term = r.term ∨
        (r.term < m.term ∧ (m.msgType = .msgRequestPreVote ∨
          (m.msgType = .msgRequestPreVoteResponse ∧ m.reject = false))))) ∨
    (b = false ∧ m.term < r.term ∧ m.term ≠ 0 ∧ ∃ x, r.send x = .ok r1 ∧
      ((m.msgType = .msgRequestPreVote ∧
          x = { msgType := .msgRequestPreVoteResponse, to := m.frm, term := r.term, reject := true }) ∨
       ((m.msgType = .msgHeartbeat ∨ m.msgType = .msgAppend) ∧
          x = newMessage m.frm .msgAppendResponse none))) ∨
    (b = true ∧ r.term < m.term ∧ m.msgType ≠ .msgRequestPreVote ∧
      ¬ (m.msgType = .msgRequestPreVoteResponse ∧ m.reject = false) ∧
      ∃ l, r1 = r.becomeFollower m.term l) := by
  cases stepTerm_inv h with
  | zero h0 => exact .inl ⟨rfl, fun _ => .inl h0⟩
  | leased _ _ _ => exact .inl ⟨rfl, fun hb => by cases hb⟩
  | prevote _ hgt _ hpv =>
    refine .inl ⟨rfl, fun _ => .inr (.inr ⟨hgt, ?_⟩)⟩
    rcases hpv with hpv | hpv
    · exact .inl hpv
    · exact .inr ⟨hpv.1, Bool.eq_false_iff.2 hpv.2⟩
  | follow l _ hgt _ hpv _ =>
    exact .inr (.inr ⟨rfl, hgt, fun e => hpv (.inl e),
      fun e => hpv (.inr ⟨e.1, Bool.eq_false_iff.1 e.2⟩), l, rfl⟩)
  | staleAck h0 hlt hc hs => exact .inr (.inl ⟨rfl, hlt, h0, _, hs, .inr ⟨hc.2, rfl⟩⟩)
  | staleReject h0 hlt hp hs => exact .inr (.inl ⟨rfl, hlt, h0, _, hs, .inl ⟨hp, rfl⟩⟩)
  | stale _ _ => exact .inl ⟨rfl, fun hb => by cases hb⟩
  | same _ he => exact .inl ⟨rfl, fun _ => .inr (.inl he)⟩

/-- `Raft::step` unfolded along its dispatch -/
theorem c02_step_cases {r r' : Raft} {m : Message} {res : Option RaftError}
    (h : r.step m = .ok (r', res)) :
    ∃ r1 b, r.stepTerm m = .ok (r1, b) ∧
      ((b = false ∧ r' = r1) ∨
       (b = true ∧
        ((m.msgType = .msgHup ∧ r1.hup false = .ok r') ∨
         ((m.msgType = .msgRequestVote ∨ m.msgType = .msgRequestPreVote) ∧ r1.stepVote m = .ok r') ∨
         (m.msgType ≠ .msgHup ∧ m.msgType ≠ .msgRequestVote ∧ m.msgType ≠ .msgRequestPreVote ∧
           (((r1.state = .candidate ∨ r1.state = .preCandidate) ∧ r1.stepCandidate m = .ok (r', res)) ∨
            (r1.state = .follower ∧ r1.stepFollower m = .ok (r', res)) ∨
            (r1.state = .leader ∧ r1.stepLeader m = .ok (r', res))))))) := by
  cases step_inv h with
  | consumed ht => exact ⟨_, false, ht, .inl ⟨rfl, rfl⟩⟩
  | dispatched ht hd =>
    refine ⟨_, true, ht, .inr ⟨rfl, ?_⟩⟩
    cases hd with
    | hup ty hh => exact .inl ⟨ty, hh⟩
    | vote ty hv => exact .inr (.inl ⟨ty, hv⟩)
    | candidate ty st hc => exact .inr (.inr ⟨ty.1, ty.2.1, ty.2.2, .inl ⟨st, hc⟩⟩)
    | follower ty st hf => exact .inr (.inr ⟨ty.1, ty.2.1, ty.2.2, .inr (.inl ⟨st, hf⟩)⟩)
    | leader ty st hl => exact .inr (.inr ⟨ty.1, ty.2.1, ty.2.2, .inr (.inr ⟨st, hl⟩)⟩)

/-! ### for the non-vacuity examples -/

/-- `x` succeeded with a value satisfying `p` -/
def c02_okAnd {α : Type} (x : Res α) (p : α → Bool) : Bool :=
  match x with
  | .ok a => p a
  | _ => false

/-- a log with one persisted entry (index 1, term 2), nothing committed -/
def c02_exLog : RaftLog :=
  { (default : RaftLog) with
    store := { entries := [{ term := 2, index := 1 }] }, persisted := 1, unstable := { offset := 2 } }

def c02_pr0 : Progress := { matched := 0, nextIdx := 1, recentActive := true }

/-- follower 1 of {1,2,3} at term 2 with that log, no vote, no leader -/
def c02_exFollower : Raft :=
  { raftLog := c02_exLog, id := 1, term := 2, state := .follower, promotable := true,
    electionTimeout := 10, heartbeatTimeout := 2, maxInflight := 256,
    prs := { progress := [(1, c02_pr0), (2, c02_pr0), (3, c02_pr0)], conf := { incoming := [1, 2, 3] } } }

/-- candidate 1 of {1,2,3} at term 3 with its own vote recorded -/
def c02_exCandidate : Raft :=
  { c02_exFollower with
    prs := { c02_exFollower.prs with votes := [(1, true)] }, term := 3, vote := 1, state := .candidate }

/-- the only voter of {1} -/
def c02_exSingle : Raft :=
  { c02_exFollower with
    prs := ({ progress := [(1, c02_pr0)], conf := { incoming := [1] } } : ProgressTracker) }

end VoteOb
end Raft
end RaftModel
