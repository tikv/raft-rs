import RaftProofs.ClusterLogJ
import RaftProofs.ClusterStep

/-!
Cluster-level Log Matching, part K: the contract-abiding steps `CStep`, the transitions `Trans` they
induce, the initial states `InitOk`, and the induction along a history.
-/
namespace RaftModel
namespace Cluster
open Node Raft

/-- no node of the state batches appends (`Config::batch_append = false`, never switched on) -/
def NoBatch (s : Sys) : Prop := ∀ i st, s.node i = some st → st.raft.batchAppend = false

/-- **a step of `ClusterSem` whose application call obeys the storage contract**: the same four rules
as `Cluster.Step`; the only extra premise is on `call`: `compact k` is called only with
`k ≤ committed` and `k ≤ persisted` (`CompactOk`) -/
inductive CStep : Sys → Sys → Prop where
  | call (s : Sys) (i : Nat) (st st' : NState) (rnd : Option Nat) (op : NodeOp) (res : OpRes) :
      s.node i = some st → appOp op = true →
      (∀ k, op = .compact k → CompactOk st.raft.raftLog k) →
      Node.call st rnd op = .ok (res, st') →
      CStep s (s.setNode i st')
  | deliver (s : Sys) (i : Nat) (st st' : NState) (rnd : Option Nat) (m : Message) (res : OpRes) :
      s.node i = some st → m ∈ s.net → m.to = i → Node.call st rnd (.step m) = .ok (res, st') →
      CStep s (s.setNode i st')
  | send (s : Sys) (i : Nat) (st st' : NState) :
      s.node i = some st → hsPersisted st → Node.call st none .drain = .ok (.ok, st') →
      CStep s { (s.setNode i st') with net := s.net ++ st.raft.msgs }
  | restart (s : Sys) (i : Nat) (st st' : NState) (c : Config) (rnd : Option Nat) :
      s.node i = some st → c.id = i → Node.boot c st.raft.raftLog.store rnd = .ok (.ok st') →
      CStep s (s.setNode i st')

theorem CStep.step {s s' : Sys} (h : CStep s s') : Step s s' := by
  cases h with
  | call i st st' rnd op res h1 h2 _ h3 => exact Step.call s i st st' rnd op res h1 h2 h3
  | deliver i st st' rnd m res h1 h2 h3 h4 => exact Step.deliver s i st st' rnd m res h1 h2 h3 h4
  | send i st st' h1 h2 h3 => exact Step.send s i st st' h1 h2 h3
  | restart i st st' c rnd h1 h2 h3 => exact Step.restart s i st st' c rnd h1 h2 h3

/-- the contract of `CStep` -/
def Contract.c : Contract :=
  ⟨fun st op _ => ∀ k, op = .compact k → CompactOk st.raft.raftLog k, fun _ => True, fun _ _ => True⟩

theorem CStep.moved {a b : Sys} (h : CStep a b) : ∃ k st st', Moved .c a b k st st' := by
  cases h with
  | call k st st' rnd op res h1 h2 h3 h4 =>
    exact ⟨k, st, st', h1, rfl, .call rnd op res (.inl h2) h3 h4 rfl⟩
  | deliver k st st' rnd m res h1 h2 h3 h4 =>
    exact ⟨k, st, st', h1, rfl,
      .call rnd (.step m) res (.inr ⟨m, rfl, h2, h3⟩) (fun _ hc => by cases hc) h4 rfl⟩
  | send k st st' h1 h2 h3 =>
    exact ⟨k, st, st', h1, rfl, .send h2 trivial (drain_state h3) rfl⟩
  | restart k st st' c rnd h1 h2 h3 =>
    exact ⟨k, st, st', h1, rfl, .restart c rnd h2 h3 trivial rfl⟩

namespace Live
variable {live : List Message → Prop}

/-- what the invariant knows of a transported `MsgAppend` -/
theorem InvL.msgOk {own : Nat → Nat → Prop} {ini : Entry → Prop} {s : Sys} (I : InvL live own ini s) {m : Message} (hm : m ∈ s.net)
    (hty : m.msgType = .msgAppend) : MsgOk m := by
  have hc := I.wfn m hm hty
  refine ⟨hc, fun e he => ?_⟩
  have hcg : (msgLog m).Contig := hc
  exact I.nz .net (msgLog m) ⟨m, hm, hty, rfl⟩ e.index e (hcg.entryAt_of_mem he)

/-- a delivered message is in the transport -/
theorem opMsg_net {s : Sys} {op : NodeOp} (hop : appOp op = true ∨ ∃ m, op = .step m ∧ m ∈ s.net) :
    (CV.opMsg op).msgType = .msgAppend → CV.opMsg op ∈ s.net := by
  intro hty
  rcases hop with h1 | ⟨m, h1, h2⟩
  · cases op <;> first | (cases h1; done) | (cases hty; done)
  · rw [h1]; exact h2

/-- the transition of a call / a delivery, from what the per-call layer says about it -/
theorem trans_call_g {s : Sys} {k : Nat} {st st' : NState} {rnd : Option Nat} {op : NodeOp} {res : OpRes}
    (hk : s.node k = some st) (h : Node.call st rnd op = .ok (res, st'))
    (prov : Prov live s (s.setNode k st') k st st' (st'.raft.raftLog.store.hardState.term = st'.raft.term))
    (rt : RT st.raft st'.raft) (inv' : st'.raft.raftLog.Inv)
    (keep : st.raft.state = .leader → st'.raft.state = .leader → st'.raft.term = st.raft.term →
      st.raft.raftLog.lastIndex ≤ st'.raft.raftLog.lastIndex)
    (wfq' : ∀ x ∈ st'.raft.msgs, x.msgType = .msgAppend → live st'.raft.msgs →
      ContigFrom (x.index + 1) x.entries) :
    Trans live s (s.setNode k st') k st st'
      (st'.raft.raftLog.store.hardState.term = st'.raft.term) False :=
  ⟨hk, node_setNode_self s k st', fun j hj => node_setNode_ne s k j st' hj, prov,
    fun hp => Nat.le_of_eq hp.symm, .inl ⟨rt, fun hc => hc⟩, fun hc => hc.elim,
    (CV.call_nstep st st' rnd op res h).hs, keep, inv', wfq', fun x hx => .inl hx⟩

/-- the transition of a call / a delivery -/
theorem trans_call {own : Nat → Nat → Prop} {ini : Entry → Prop} {s : Sys} (I : InvL live own ini s) (hnb : NoBatch s)
    {k : Nat} {st st' : NState} {rnd : Option Nat} {op : NodeOp} {res : OpRes}
    (hk : s.node k = some st)
    (hop : appOp op = true ∨ ∃ m, op = .step m ∧ m ∈ s.net)
    (hc : ∀ j, op = .compact j → CompactOk st.raft.raftLog j)
    (h : Node.call st rnd op = .ok (res, st')) (hmono : Mono live st st') :
    Trans live s (s.setNode k st') k st st'
      (st'.raft.raftLog.store.hardState.term = st'.raft.term) False := by
  have hw : ∀ m, op = .step m → m.msgType = .msgAppend → MsgOk m := by
    intro m hm hty
    rcases hop with h1 | ⟨m', h1, h2⟩
    · rw [hm] at h1; cases h1
    · rw [hm] at h1; cases h1
      exact I.msgOk h2 hty
  have hL := call_lstep st st' rnd op res (I.inv k st hk) (hnb k st hk) (not_drain_of_hop hop) hw hc h
  refine trans_call_g hk h (prov_node hk hL.eff (opMsg_net hop) hmono) hL.rt hL.eff.inv
    (fun h1 h2 h3 => (hL.eff.keep h1 h2 h3).1) fun x hx hty hnq' => ?_
  rcases hL.eff.q x hx hty with c | c | c
  · exact I.wfq k st x hk c hty (hmono hnq' (List.ne_nil_of_mem hx))
  · exact c.1
  · exact c.1

/-- the transition of `send` -/
theorem trans_send {own : Nat → Nat → Prop} {ini : Entry → Prop} {s : Sys} (I : InvL live own ini s)
    {k : Nat} {st st' : NState} (hk : s.node k = some st) (hp : hsPersisted st)
    (h : Node.call st none .drain = .ok (.ok, st')) (hnq : live st.raft.msgs) :
    Trans live s { (s.setNode k st') with net := s.net ++ st.raft.msgs } k st st' True False := by
  have hl : st'.raft.raftLog = st.raft.raftLog ∧ st'.raft.msgs = [] ∧ st'.raft.term = st.raft.term ∧
      st'.raft.state = st.raft.state := by
    unfold Node.call at h
    simp only [applyOp] at h
    cases h
    exact ⟨rfl, rfl, rfl, rfl⟩
  obtain ⟨hl1, hl2, hl3, hl4⟩ := hl
  refine ⟨hk, node_setNode_self s k _, fun j hj => node_setNode_ne s k j _ hj,
    prov_send hk hl1 hl2 True trivial hnq, fun _ => (by rw [hl1, hl3]; exact Nat.le_of_eq hp.1.symm),
    .inl ⟨RT.rfl.ts hl3 hl4, fun hc => hc⟩, fun hc => hc.elim, .inl ⟨by rw [hl1], by rw [hl1]⟩,
    fun _ _ _ => (by rw [hl1]; exact Nat.le_refl _), (by rw [hl1]; exact I.inv k st hk),
    fun x hx => (by rw [hl2] at hx; cases hx), fun x hx => ?_⟩
  exact (List.mem_append.1 hx).imp id (fun h => ⟨h, hnq⟩)

/-- the transition of a restart -/
theorem trans_restart {own : Nat → Nat → Prop} {ini : Entry → Prop} {s : Sys} (I : InvL live own ini s)
    {k : Nat} {st st' : NState} {c : Config} {rnd : Option Nat} (hk : s.node k = some st)
    (h : Node.boot c st.raft.raftLog.store rnd = .ok (.ok st')) :
    Trans live s (s.setNode k st') k st st' False True := by
  have hb := CV.boot_booted c _ rnd st' h
  obtain ⟨hinv', habs, hsl⟩ := boot_log c _ rnd st' (I.inv k st hk).storeWF h
  have hoth : ∀ j, j ≠ k → (s.setNode k st').node j = s.node j :=
    fun j hj => node_setNode_ne s k j st' hj
  have hself : (s.setNode k st').node k = some st' := node_setNode_self s k st'
  refine ⟨hk, hself, hoth, prov_restart hk habs hsl hb.msgs, fun hc => hc.elim,
    .inr ⟨hb.state, hb.term, trivial, fun hc => hc⟩, ?_, .inl ⟨by rw [hb.hs], by rw [hb.hs]⟩,
    fun _ h2 _ => (by rw [hb.state] at h2; cases h2), hinv', fun x hx => (by rw [hb.msgs] at hx; cases hx),
    fun x hx => .inl hx⟩
  -- after a restart every link comes from a durable place
  intro _ loc' g' hat i e he
  have hatS : At live s (.store k) (storeLog st.raft.raftLog.store) := ⟨st, hk, rfl⟩
  by_cases hof : OfK k loc'
  · cases loc' with
    | log j =>
      have hj : j = k := hof
      subst hj
      obtain ⟨st2, h1, h2⟩ := hat
      rw [hself] at h1
      cases h1
      subst h2
      exact ⟨.store j, _, hatS, by rw [← habs]; exact he, fun hv => hv⟩
    | store j =>
      have hj : j = k := hof
      subst hj
      obtain ⟨st2, h1, h2⟩ := hat
      rw [hself] at h1
      cases h1
      subst h2
      exact ⟨.store j, _, hatS, by rw [← hsl]; exact he, fun hv => hv⟩
    | queue j =>
      have hj : j = k := hof
      subst hj
      obtain ⟨st2, x, h1, hx, _⟩ := hat
      rw [hself] at h1
      cases h1
      rw [hb.msgs] at hx
      cases hx.1
    | net => exact absurd hof (by intro h; cases h)
  · by_cases hn : loc' = .net
    · subst hn
      exact ⟨.net, g', hat, he, fun hv => hv⟩
    · refine ⟨loc', g', at_other hoth hof hn hat, he, fun hv => hof ?_⟩
      cases loc' with
      | log j => exact hv
      | queue j => exact hv
      | store j => exact hv.elim
      | net => exact hv.elim

/-- **one contract-abiding step preserves the invariant** -/
theorem InvL.cstep {own : Nat → Nat → Prop} {ini : Entry → Prop} {s s' : Sys}
    (huniq : ∀ i j t, own i t → own j t → i = j)
    (hown' : ∀ i t, leads s' i t → own i t)
    (I : InvL live own ini s) (hnb : NoBatch s) (hstep : CStep s s')
    (hsent : ∀ q : List Message, (∀ x ∈ q, x ∈ s'.net) → live q)
    (hmono : ∀ i st st', s.node i = some st → s'.node i = some st' → Mono live st st') :
    InvL live own ini s' := by
  cases hstep with
  | call i st st' rnd op res h1 h2 h3 h4 =>
    exact I.trans huniq hown' (trans_call I hnb h1 (.inl h2) h3 h4
      (hmono i st st' h1 (node_setNode_self s i st')))
  | deliver i st st' rnd m res h1 h2 _ h4 =>
    exact I.trans huniq hown' (trans_call I hnb h1 (.inr ⟨m, rfl, h2⟩)
      (fun j hc => by cases hc) h4 (hmono i st st' h1 (node_setNode_self s i st')))
  | send i st st' h1 h2 h3 =>
    exact I.trans huniq hown' (trans_send I h1 h2 h3
      (hsent st.raft.msgs (fun x hx => List.mem_append_right _ hx)))
  | restart i st st' c rnd h1 _ h3 => exact I.trans huniq hown' (trans_restart I h1 h3)

end Live

/-! ### initial states -/

/-- **the initial states the theorems cover**: every node was booted (`RawNode::new`) from a storage
`sto i` such that
* each storage is well-formed (entries contiguous after the snapshot point — `MemStorage`'s own
  invariant) and holds no entry of term 0,
* the stored logs agree pairwise (e.g. they are all empty, or all copies / prefixes of one log),
* no stored entry has a term above the stored term of any node (nobody can still campaign for a term
  that already has entries: an initial state is a state in which all earlier terms are over). -/
def InitOk (s : Sys) : Prop :=
  s.net = [] ∧ ∃ sto : Nat → MemStorage,
    (∀ i st, s.node i = some st → ∃ c rnd, Node.boot c (sto i) rnd = .ok (.ok st)) ∧
    (∀ i st, s.node i = some st → (sto i).WF ∧ ∀ e ∈ (sto i).entries, e.term ≠ 0) ∧
    (∀ i j sti stj, s.node i = some sti → s.node j = some stj →
      Agree (storeLog (sto i)) (storeLog (sto j))) ∧
    (∀ i j sti stj, s.node i = some sti → s.node j = some stj →
      ∀ e ∈ (sto i).entries, e.term ≤ (sto j).hardState.term)

/-- the entries of a state -/
def EntriesOf (s : Sys) (e : Entry) : Prop := ∃ loc g i, At s loc g ∧ g.entryAt i = some e

namespace Live
variable {live : List Message → Prop}

/-- the entries of a state -/
def EntriesOf (live : List Message → Prop) (s : Sys) (e : Entry) : Prop :=
  ∃ loc g i, At live s loc g ∧ g.entryAt i = some e

theorem InvL.init {own : Nat → Nat → Prop} {s : Sys} (h : InitOk s) : InvL live own (EntriesOf live s) s := by
  obtain ⟨hnet, sto, hboot, hwf, hag, hbound⟩ := h
  -- every chain of the state is the stored log of some node's storage
  have chain : ∀ loc g, At live s loc g → ∃ i st, s.node i = some st ∧ g = storeLog (sto i) := by
    intro loc g hat
    cases loc with
    | log i =>
      obtain ⟨st, h1, h2⟩ := hat
      obtain ⟨c, rnd, hb⟩ := hboot i st h1
      exact ⟨i, st, h1, h2.trans (boot_log c _ rnd st (hwf i st h1).1 hb).2.1⟩
    | store i =>
      obtain ⟨st, h1, h2⟩ := hat
      obtain ⟨c, rnd, hb⟩ := hboot i st h1
      exact ⟨i, st, h1, h2.trans (boot_log c _ rnd st (hwf i st h1).1 hb).2.2⟩
    | queue i =>
      obtain ⟨st, x, h1, hx, _⟩ := hat
      obtain ⟨c, rnd, hb⟩ := hboot i st h1
      rw [(CV.boot_booted c _ rnd st hb).msgs] at hx
      cases hx.1
    | net =>
      obtain ⟨x, hx, _⟩ := hat
      rw [hnet] at hx
      cases hx
  have booted : ∀ i st, s.node i = some st → st.raft.state = .follower ∧
      st.raft.term = (sto i).hardState.term ∧
      st.raft.raftLog.store.hardState.term = (sto i).hardState.term := by
    intro i st h1
    obtain ⟨c, rnd, hb⟩ := hboot i st h1
    have b := CV.boot_booted c _ rnd st hb
    exact ⟨b.state, b.term, by rw [b.hs]⟩
  have bound : ∀ loc g, At live s loc g → ∀ i e, g.entryAt i = some e →
      ∀ k st, s.node k = some st → e.term ≤ (sto k).hardState.term := by
    intro loc g hat i e he k st hk
    obtain ⟨j, stj, hj, hg⟩ := chain loc g hat
    subst hg
    exact hbound j k stj st hj hk e ((storeLog (sto j)).entryAt_mem he)
  refine ⟨?_, ?_, ?_, ?_, ?_, ?_, ?_, ?_, ?_, fun loc g hat i e he => .inl ⟨loc, g, i, hat, he⟩⟩
  · intro i st h1
    obtain ⟨c, rnd, hb⟩ := hboot i st h1
    exact (boot_log c _ rnd st (hwf i st h1).1 hb).1
  · intro i st h1 hs
    rw [(booted i st h1).1] at hs
    rcases hs with hs | hs <;> cases hs
  · intro i st x h1 hx
    obtain ⟨c, rnd, hb⟩ := hboot i st h1
    rw [(CV.boot_booted c _ rnd st hb).msgs] at hx
    cases hx
  · intro x hx
    rw [hnet] at hx
    cases hx
  · intro loc g hat i e he
    obtain ⟨j, stj, hj, hg⟩ := chain loc g hat
    subst hg
    exact (hwf j stj hj).2 e ((storeLog (sto j)).entryAt_mem he)
  · intro l1 g1 l2 g2 h1 h2
    obtain ⟨i, sti, hi, hg1⟩ := chain l1 g1 h1
    obtain ⟨j, stj, hj, hg2⟩ := chain l2 g2 h2
    subst hg1 hg2
    exact hag i j sti stj hi hj
  · intro k t st _ hk hcl loc g hat i e he heq
    have hb := booted k st hk
    have := bound loc g hat i e he k st hk
    rcases hcl with c | ⟨_, c⟩
    · omega
    · rw [hb.1] at c; cases c
  · intro k t st _ hk hst loc g hat _ i e he heq
    have hb := booted k st hk
    have := bound loc g hat i e he k st hk
    omega
  · intro k st hk hl
    rw [(booted k st hk).1] at hl
    cases hl

end Live

/-! ### along a history -/

/-- the node that leads term `t` somewhere in the list -/
def Owner (h : List Sys) (k t : Nat) : Prop := ∃ s ∈ h, leads s k t

namespace Live
variable {live : List Message → Prop}

/-- **the invariant holds in every state** of a list of states that starts in an `InitOk` state,
proceeds by contract-abiding steps, never batches, and has at most one leading node per term -/
theorem invL_all (h : List Sys)
    (huniq : ∀ i j t, Owner h i t → Owner h j t → i = j)
    (hinit : ∀ s : Sys, h[0]? = some s → InitOk s)
    (hsteps : ∀ (n : Nat) (a b : Sys), h[n]? = some a → h[n + 1]? = some b → CStep a b)
    (hnb : ∀ s ∈ h, NoBatch s) (s0 : Sys) (h0 : h[0]? = some s0)
    (hsent : ∀ s ∈ h, ∀ q : List Message, (∀ x ∈ q, x ∈ s.net) → live q)
    (hmono : ∀ (n : Nat) (a b : Sys), h[n]? = some a → h[n + 1]? = some b →
      ∀ i st st', a.node i = some st → b.node i = some st' → Mono live st st') :
    ∀ (n : Nat) (s : Sys), h[n]? = some s → InvL live (Owner h) (EntriesOf live s0) s := by
  intro n
  induction n with
  | zero =>
    intro s hs
    rw [h0] at hs
    cases hs
    exact InvL.init (hinit s0 h0)
  | succ n ih =>
    intro s hs
    have hlt : n + 1 < h.length := by
      rcases Nat.lt_or_ge (n + 1) h.length with c | c
      · exact c
      · rw [List.getElem?_eq_none c] at hs; cases hs
    have hn : n < h.length := by omega
    have ha : h[n]? = some h[n] := List.getElem?_eq_getElem hn
    have hmem : s ∈ h := List.mem_iff_getElem?.2 ⟨n + 1, hs⟩
    exact (ih _ ha).cstep huniq (fun i t hl => ⟨s, hmem, hl⟩)
      (hnb _ (List.mem_iff_getElem?.2 ⟨n, ha⟩)) (hsteps n _ s ha hs) (hsent s hmem) (hmono n _ s ha hs)

end Live

/-! ### every queue live -/

theorem entriesOf_live (s : Sys) : Live.EntriesOf allQ s = EntriesOf s :=
  funext fun _ => propext
    ⟨fun ⟨loc, g, i, h1, h2⟩ => ⟨loc, g, i, at_live.2 h1, h2⟩,
     fun ⟨loc, g, i, h1, h2⟩ => ⟨loc, g, i, at_live.1 h1, h2⟩⟩

/-- what the invariant knows of a transported `MsgAppend` -/
theorem InvL.msgOk {own : Nat → Nat → Prop} {ini : Entry → Prop} {s : Sys} (I : InvL own ini s) {m : Message} (hm : m ∈ s.net)
    (hty : m.msgType = .msgAppend) : MsgOk m :=
  (invL_live.1 I).msgOk hm hty

/-- the transition of a call / a delivery -/
theorem trans_call {own : Nat → Nat → Prop} {ini : Entry → Prop} {s : Sys} (I : InvL own ini s) (hnb : NoBatch s)
    {k : Nat} {st st' : NState} {rnd : Option Nat} {op : NodeOp} {res : OpRes}
    (hk : s.node k = some st)
    (hop : appOp op = true ∨ ∃ m, op = .step m ∧ m ∈ s.net)
    (hc : ∀ j, op = .compact j → CompactOk st.raft.raftLog j)
    (h : Node.call st rnd op = .ok (res, st')) :
    Trans s (s.setNode k st') k st st'
      (st'.raft.raftLog.store.hardState.term = st'.raft.term) False :=
  trans_live.2 (Live.trans_call (invL_live.1 I) hnb hk hop hc h (mono_allQ st st'))

/-- the transition of `send` -/
theorem trans_send {own : Nat → Nat → Prop} {ini : Entry → Prop} {s : Sys} (I : InvL own ini s)
    {k : Nat} {st st' : NState} (hk : s.node k = some st) (hp : hsPersisted st)
    (h : Node.call st none .drain = .ok (.ok, st')) :
    Trans s { (s.setNode k st') with net := s.net ++ st.raft.msgs } k st st' True False :=
  trans_live.2 (Live.trans_send (invL_live.1 I) hk hp h trivial)

/-- the transition of a restart -/
theorem trans_restart {own : Nat → Nat → Prop} {ini : Entry → Prop} {s : Sys} (I : InvL own ini s)
    {k : Nat} {st st' : NState} {c : Config} {rnd : Option Nat} (hk : s.node k = some st)
    (h : Node.boot c st.raft.raftLog.store rnd = .ok (.ok st')) :
    Trans s (s.setNode k st') k st st' False True :=
  trans_live.2 (Live.trans_restart (invL_live.1 I) hk h)

/-- **the invariant holds in every state** of a list of states that starts in an `InitOk` state,
proceeds by contract-abiding steps, never batches, and has at most one leading node per term -/
theorem invL_all (h : List Sys)
    (huniq : ∀ i j t, Owner h i t → Owner h j t → i = j)
    (hinit : ∀ s : Sys, h[0]? = some s → InitOk s)
    (hsteps : ∀ (n : Nat) (a b : Sys), h[n]? = some a → h[n + 1]? = some b → CStep a b)
    (hnb : ∀ s ∈ h, NoBatch s) (s0 : Sys) (h0 : h[0]? = some s0) :
    ∀ (n : Nat) (s : Sys), h[n]? = some s → InvL (Owner h) (EntriesOf s0) s := by
  intro n s hs
  rw [← entriesOf_live]
  exact invL_live.2 (Live.invL_all h huniq hinit hsteps hnb s0 h0 (fun _ _ _ _ => trivial)
    (fun _ _ _ _ _ _ st st' _ _ => mono_allQ st st') n s hs)

end Cluster
end RaftModel
