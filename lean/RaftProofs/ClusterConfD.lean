import RaftProofs.ClusterConfB

/-!
C09 at the cluster level, part D: labelled steps of `ClusterSem` (who did what), traces, and what one
step / a trace does to the tracker view of a node.  `LStep` has exactly the premises of
`Cluster.Step`; the label only names the constructor and its arguments, so that "the segment contains
no restart of `i`" or "the changes node `i` applied, in order" can be said.
-/
namespace RaftModel
namespace Cluster
open Node Raft

/-- who did what in one step of the cluster -/
inductive Label where
  | call (i : Nat) (rnd : Option Nat) (op : NodeOp)
  | deliver (i : Nat) (rnd : Option Nat) (m : Message)
  | send (i : Nat)
  | restart (i : Nat) (c : Config) (rnd : Option Nat)

/-- the node a step acts on -/
def Label.node : Label → Nat
  | .call i _ _ => i
  | .deliver i _ _ => i
  | .send i => i
  | .restart i _ _ => i

/-- `Cluster.Step` with its label -/
inductive LStep : Sys → Label → Sys → Prop where
  | call (s : Sys) (i : Nat) (st st' : NState) (rnd : Option Nat) (op : NodeOp) (res : OpRes) :
      s.node i = some st → appOp op = true → Node.call st rnd op = .ok (res, st') →
      LStep s (.call i rnd op) (s.setNode i st')
  | deliver (s : Sys) (i : Nat) (st st' : NState) (rnd : Option Nat) (m : Message) (res : OpRes) :
      s.node i = some st → m ∈ s.net → m.to = i → Node.call st rnd (.step m) = .ok (res, st') →
      LStep s (.deliver i rnd m) (s.setNode i st')
  | send (s : Sys) (i : Nat) (st st' : NState) :
      s.node i = some st → hsPersisted st → Node.call st none .drain = .ok (.ok, st') →
      LStep s (.send i) { (s.setNode i st') with net := s.net ++ st.raft.msgs }
  | restart (s : Sys) (i : Nat) (st st' : NState) (c : Config) (rnd : Option Nat) :
      s.node i = some st → c.id = i → Node.boot c st.raft.raftLog.store rnd = .ok (.ok st') →
      LStep s (.restart i c rnd) (s.setNode i st')

theorem step_iff_lstep {s s' : Sys} : Step s s' ↔ ∃ l, LStep s l s' := by
  constructor
  · intro h
    cases h with
    | call i st st' rnd op res h1 h2 h3 => exact ⟨_, .call s i st st' rnd op res h1 h2 h3⟩
    | deliver i st st' rnd m res h1 h2 h3 h4 => exact ⟨_, .deliver s i st st' rnd m res h1 h2 h3 h4⟩
    | send i st st' h1 h2 h3 => exact ⟨_, .send s i st st' h1 h2 h3⟩
    | restart i st st' c rnd h1 h2 h3 => exact ⟨_, .restart s i st st' c rnd h1 h2 h3⟩
  · rintro ⟨l, h⟩
    cases h with
    | call i st st' rnd op res h1 h2 h3 => exact .call s i st st' rnd op res h1 h2 h3
    | deliver i st st' rnd m res h1 h2 h3 h4 => exact .deliver s i st st' rnd m res h1 h2 h3 h4
    | send i st st' h1 h2 h3 => exact .send s i st st' h1 h2 h3
    | restart i st st' c rnd h1 h2 h3 => exact .restart s i st st' c rnd h1 h2 h3

/-- a labelled run -/
inductive Trace : Sys → List Label → Sys → Prop where
  | refl (s : Sys) : Trace s [] s
  | tail (a b c : Sys) (ls : List Label) (l : Label) : Trace a ls b → LStep b l c → Trace a (ls ++ [l]) c

theorem steps_trace {s s' : Sys} (h : Steps s s') : ∃ ls, Trace s ls s' := by
  induction h with
  | refl => exact ⟨[], .refl _⟩
  | tail b c _ hs ih =>
    obtain ⟨ls, ht⟩ := ih
    obtain ⟨l, hl⟩ := step_iff_lstep.1 hs
    exact ⟨ls ++ [l], .tail _ _ _ _ _ ht hl⟩

/-- any two states of a history, the earlier first, are joined by a labelled run -/
theorem hist_trace {h : List Sys} (hh : History h) (i j : Nat) (s s' : Sys) (hij : i ≤ j)
    (hi : h[i]? = some s) (hj : h[j]? = some s') : ∃ ls, Trace s ls s' :=
  steps_trace ((hist_all hh).2.2 i j s s' hij hi hj)

/-- what a labelled step does to node `k`: every node other than the acting one is untouched -/
theorem lstep_other {s s' : Sys} {l : Label} (h : LStep s l s') (k : Nat) (hk : k ≠ l.node) :
    s'.node k = s.node k := by
  cases h with
  | call i st st' rnd op res => exact node_setNode_ne s i k st' hk
  | deliver i st st' rnd m res => exact node_setNode_ne s i k st' hk
  | send i st st' => exact node_setNode_ne s i k st' hk
  | restart i st st' c rnd => exact node_setNode_ne s i k st' hk

/-- what the node a label names did in the step -/
def Label.Did : Label → NState → NState → Prop
  | .call _ rnd op, st, st' => appOp op = true ∧ ∃ res, Node.call st rnd op = .ok (res, st')
  | .deliver _ rnd m, st, st' => ∃ res, Node.call st rnd (.step m) = .ok (res, st')
  | .send _, st, st' => Node.call st none .drain = .ok (.ok, st')
  | .restart i c rnd, st, st' => c.id = i ∧ Node.boot c st.raft.raftLog.store rnd = .ok (.ok st')

/-- **a labelled step seen from node `k`**: `k` is the node the label names and did what the label
says, or it is untouched -/
theorem lstep_at {s s' : Sys} {l : Label} (h : LStep s l s') {k : Nat} {st st' : NState}
    (h1 : s.node k = some st) (h2 : s'.node k = some st') :
    (k = l.node ∧ l.Did st st') ∨ (k ≠ l.node ∧ st' = st) := by
  by_cases hk : k = l.node
  · refine .inl ⟨hk, ?_⟩
    subst hk
    cases h with
    | call i stx stx' rnd op res g1 g2 g3 =>
      rw [show (Label.call i rnd op).node = i from rfl, node_setNode_self] at h2
      rw [show (Label.call i rnd op).node = i from rfl, g1] at h1
      cases h1; cases h2; exact ⟨g2, res, g3⟩
    | deliver i stx stx' rnd m res g1 _ _ g4 =>
      rw [show (Label.deliver i rnd m).node = i from rfl, node_setNode_self] at h2
      rw [show (Label.deliver i rnd m).node = i from rfl, g1] at h1
      cases h1; cases h2; exact ⟨res, g4⟩
    | send i stx stx' g1 _ g3 =>
      have h2' : (s.setNode i stx').node i = some st' := h2
      rw [node_setNode_self] at h2'
      rw [show (Label.send i).node = i from rfl, g1] at h1
      cases h1; cases h2'; exact g3
    | restart i stx stx' c rnd g1 g2 g3 =>
      rw [show (Label.restart i c rnd).node = i from rfl, node_setNode_self] at h2
      rw [show (Label.restart i c rnd).node = i from rfl, g1] at h1
      cases h1; cases h2; exact ⟨g2, g3⟩
  · refine .inr ⟨hk, ?_⟩
    rw [lstep_other h k hk, h1] at h2
    cases h2; rfl

/-- the effect of a labelled step on node `k`'s tracker view -/
def StepConf (l : Label) (k : Nat) (st st' : NState) : Prop :=
  match l with
  | .call i _ (.applyConfChange cc) =>
    if i = k then st'.raft.prs.toCC = RaftProps.C12.step st.raft.prs.toCC (RaftProps.C09.opOf cc)
    else st'.raft.prs.toCC = st.raft.prs.toCC
  | .call _ _ _ => st'.raft.prs.toCC = st.raft.prs.toCC
  | .deliver i _ m =>
    st'.raft.prs.toCC = st.raft.prs.toCC ∨
      (i = k ∧ m.msgType = .msgSnapshot ∧ ConfRestored m.snapshot.metadata.confState st'.raft)
  | .send _ => st'.raft.prs.toCC = st.raft.prs.toCC
  | .restart i _ _ =>
    if i = k then ConfRestored st.raft.raftLog.store.confState st'.raft
    else st'.raft.prs.toCC = st.raft.prs.toCC

theorem lstep_conf {s s' : Sys} {l : Label} (h : LStep s l s') (k : Nat) (st st' : NState)
    (h1 : s.node k = some st) (h2 : s'.node k = some st') : StepConf l k st st' := by
  rcases lstep_at h h1 h2 with ⟨rfl, hd⟩ | ⟨hk, rfl⟩
  · cases l with
    | call i rnd op =>
      obtain ⟨g2, res, g3⟩ := hd
      have hc := call_conf st st' rnd op res g3
      cases op <;> first
        | exact hc
        | (simp only [StepConf, Label.node, if_true]; exact hc)
        | (cases g2)
    | deliver i rnd m =>
      obtain ⟨res, g4⟩ := hd
      exact (call_conf st st' rnd (.step m) res g4).imp (fun g => g) fun g => ⟨rfl, g.1, g.2⟩
    | send i => exact call_conf st st' none .drain _ hd
    | restart i c rnd =>
      simp only [StepConf, Label.node, if_true]
      exact boot_conf c _ rnd st' hd.2
  · have hne : ¬ l.node = k := fun e => hk e.symm
    cases l with
    | call i rnd op =>
      have hne' : ¬ i = k := hne
      cases op <;> first
        | rfl
        | (simp only [StepConf, if_neg hne'])
    | deliver i rnd m => exact .inl rfl
    | send i => rfl
    | restart i c rnd =>
      have hne' : ¬ i = k := hne
      simp only [StepConf, if_neg hne']

/-- the changes node `i` applied along a run, in order -/
def appliedBy (i : Nat) : List Label → List ConfChangeV2
  | [] => []
  | .call j _ (.applyConfChange cc) :: ls => if j = i then cc :: appliedBy i ls else appliedBy i ls
  | _ :: ls => appliedBy i ls

theorem appliedBy_append (i : Nat) (l1 l2 : List Label) :
    appliedBy i (l1 ++ l2) = appliedBy i l1 ++ appliedBy i l2 := by
  induction l1 with
  | nil => rfl
  | cons x xs ih =>
    cases x with
    | call j rnd op =>
      cases op <;> simp only [List.cons_append, appliedBy, ih]
      split <;> simp
    | deliver j rnd m => simp only [List.cons_append, appliedBy, ih]
    | send j => simp only [List.cons_append, appliedBy, ih]
    | restart j c rnd => simp only [List.cons_append, appliedBy, ih]

/-- node `i` is neither restarted nor given a `MsgSnapshot` along the run -/
def ReconfFree (i : Nat) (ls : List Label) : Prop :=
  ∀ l ∈ ls, (∀ c rnd, l ≠ .restart i c rnd) ∧ (∀ rnd m, l = .deliver i rnd m → m.msgType ≠ .msgSnapshot)

theorem lstep_node_some {s s' : Sys} {l : Label} (h : LStep s l s') (i : Nat) (st' : NState)
    (hn : s'.node i = some st') : ∃ st, s.node i = some st := by
  by_cases hk : i = l.node
  · cases h with
    | call j st _ _ _ _ g1 => exact ⟨st, by rw [show i = j from hk]; exact g1⟩
    | deliver j st _ _ _ _ g1 => exact ⟨st, by rw [show i = j from hk]; exact g1⟩
    | send j st _ g1 => exact ⟨st, by rw [show i = j from hk]; exact g1⟩
    | restart j st _ _ _ g1 => exact ⟨st, by rw [show i = j from hk]; exact g1⟩
  · rw [lstep_other h i hk] at hn
    exact ⟨st', hn⟩

/-- **along a run on which node `i` is neither restarted nor sent a snapshot, its tracker view at the
end is the fold of the changer (`C12.step`) over the changes it applied, in order, from the view at
the start** -/
theorem trace_conf {s s' : Sys} {ls : List Label} (ht : Trace s ls s') (i : Nat)
    (hfree : ReconfFree i ls) (st st' : NState) (h1 : s.node i = some st)
    (h2 : s'.node i = some st') :
    st'.raft.prs.toCC =
      RaftProps.C09.configOf st.raft.prs.toCC ((appliedBy i ls).map RaftProps.C09.opOf) := by
  induction ht generalizing st' with
  | refl =>
    rw [h1] at h2; cases h2; rfl
  | tail b c ls l hab hbc ih =>
    obtain ⟨stb, hb⟩ := lstep_node_some hbc i st' h2
    have hfree' : ReconfFree i ls := fun x hx => hfree x (List.mem_append_left _ hx)
    have hl := hfree l (List.mem_append_right _ (List.mem_singleton.2 rfl))
    have ihb := ih hfree' stb hb
    have hc := lstep_conf hbc i stb st' hb h2
    rw [appliedBy_append, List.map_append]
    unfold RaftProps.C09.configOf RaftProps.C12.runOps
    rw [List.foldl_append]
    have ihb' : stb.raft.prs.toCC = List.foldl RaftProps.C12.step st.raft.prs.toCC
        ((appliedBy i ls).map RaftProps.C09.opOf) := ihb
    rw [← ihb']
    cases l with
    | call j rnd op =>
      cases op with
      | applyConfChange cc =>
        simp only [StepConf] at hc
        simp only [appliedBy]
        by_cases hj : j = i
        · rw [if_pos hj] at hc ⊢
          simpa using hc
        · rw [if_neg hj] at hc ⊢
          simpa using hc
      | _ => simp only [appliedBy, List.map_nil, List.foldl_nil]; exact hc
    | deliver j rnd m =>
      rcases hc with hc | ⟨hj, hm, _⟩
      · simpa [appliedBy] using hc
      · subst hj
        exact absurd hm (hl.2 rnd m rfl)
    | send j => simp only [appliedBy, List.map_nil, List.foldl_nil]; exact hc
    | restart j c rnd =>
      simp only [StepConf] at hc
      by_cases hj : j = i
      · subst hj
        exact absurd rfl (hl.1 c rnd)
      · rw [if_neg hj] at hc
        simpa [appliedBy] using hc

end Cluster
end RaftModel
