import RaftProofs.ClusterRead4L

/-!
Cluster-level ReadIndex safety for **forwarded** reads, part 4M:
* `pend_src`: where a pending request comes from — filed locally (`req.from = 0`, a `RegAt` step) or a
  delivered `MsgReadIndex` whose `from` made a forwarding `read_index` call with that context;
* `rir_prov`: **provenance of the `MsgReadIndexResp` messages** — each was queued by a call that released
  a pending request (`RirOk`: `index` / `entries` / `to` are those of the request, and a joint quorum
  has acknowledged a request that is not before it in the queue);
* `quorum_no_higher`, `rel_backers` and `rel_bound`: **whenever a registered request is released, a
  joint quorum of backers stands behind it, no term above the releasing node's was led before the
  registration, and its read index covers every commit index of every state up to the registration
  step**.
-/
namespace RaftModel
namespace Cluster
namespace R4
open Node Raft.RD.R4 RaftProps.C02
open Raft.RD (reqCtx boot_fresh)

variable {cfg : JointConfig} {c0 : Nat} {h : List Sys}

/-! ### where a pending request comes from -/

/-- a request filed under `K` with `req.from = frm`, pending in `h[k]`: filed by a `read_index` call
that registered `K` (`frm = 0`), or by a delivered `MsgReadIndex` of node `frm`, which made a
forwarding `read_index(K)` call -/
def PSrc (h : List Sys) (k : Nat) (K : Bytes) (frm : Nat) : Prop :=
  (frm = 0 ∧ ∃ n i, n < k ∧ RegAt h n i K) ∨ (∃ n, n < k ∧ FwdAt h n frm K)

theorem PSrc.mono {k k' : Nat} {K : Bytes} {frm : Nat} (hs : PSrc h k K frm) (hle : k ≤ k') :
    PSrc h k' K frm := by
  rcases hs with ⟨g0, n, i, g1, g2⟩ | ⟨n, g1, g2⟩
  · exact .inl ⟨g0, n, i, by omega, g2⟩
  · exact .inr ⟨n, by omega, g2⟩

theorem pend_src (H : RdHypF cfg c0 h) : ∀ (k : Nat) (s : Sys), h[k]? = some s →
    ∀ v st, s.node v = some st → ∀ K rs, (K, rs) ∈ st.raft.readOnly.pendingReadIndex →
      PSrc h k K rs.req.frm := by
  have F := ReadFacts.of_hyp3w H.toHyp3w
  let P : Nat → Raft → Prop := fun n r =>
    ∀ K rs, (K, rs) ∈ r.readOnly.pendingReadIndex → PSrc h n K rs.req.frm
  have up : ∀ {n r}, P n r → P (n + 1) r := fun g K rs hm => (g K rs hm).mono (Nat.le_succ _)
  have keepCase : ∀ {n : Nat} {r r' : Raft}, P n r → RS r r' → P (n + 1) r' := by
    intro n r r' ih hs K rs hm
    rcases RS.ro_cases hs with ⟨g1, _⟩ | ⟨g1, _⟩
    · rw [g1] at hm; exact up ih K rs hm
    · rw [g1] at hm; cases hm
  intro k s hs
  refine (F.local_hist (T := fun _ _ => True) (N := fun n _ _ r => P n r) (fun _ g => g) up
    (fun g => g) (fun _ _ _ => trivial) (fun g => g)
    (fun hf _ K rs hm => by rw [hf.1] at hm; cases hm) ?_ ?_ ?_ k s hs).1
  all_goals intro n a k st st'
  · intro m _ _ ihn _ hk hm ho _ K rs hmem
    obtain ⟨_, ⟨rs0, g1, g2, _⟩, _⟩ := ho.pend K rs hmem
    rw [g2]; exact up (ihn k st hk) K rs0 g1
  · intro K' rnd res ha hb ihn _ hk hcall ho
    cases ho with
    | frame hf => show P _ _; unfold P; rw [hf.ro]; exact up (ihn k st hk)
    | fwd hfo hlead hcore hmsgs =>
      have e1 : st'.raft.readOnly = st.raft.readOnly := congrArg RCore.ro hcore
      show P _ _; unfold P; rw [e1]; exact up (ihn k st hk)
    | now hs => exact absurd hs (F.not_now H.safe (mem_of_get ha) hk)
    | reg hl hc ro hadd hcore hmsgs =>
      have e1 : st'.raft.readOnly = ro := congrArg RCore.ro hcore
      show P _ _; unfold P; rw [e1]
      rcases addRequest_spec hadd with ⟨q1, _⟩ | ⟨q1, _, q3, _⟩
      · rw [q1]; exact up (ihn k st hk)
      · intro K rs hmem
        rw [q3] at hmem
        rcases List.mem_append.1 hmem with g | g
        · exact up (ihn k st hk) K rs g
        · rw [List.mem_singleton] at g
          injection g with g1 g2
          subst g1; subst g2
          refine .inl ⟨rfl, n, k, Nat.lt_succ_self n, a, _, st, st', rnd, res, ha, hb, hk, hcall, rfl,
            q1, ?_⟩
          rw [e1, q3]
          exact ⟨_, List.mem_append_right _ (List.mem_singleton.2 rfl)⟩
  · intro m rnd res ha hb ihn _ hk hm hto hty hcall ho
    cases ho with
    | keep hs _ => exact keepCase (ihn k st hk) hs
    | fwd r1 hs hfo hcore y hmsgs hy =>
      have e1 : st'.raft.readOnly = r1.readOnly := congrArg RCore.ro hcore
      show P _ _; unfold P; rw [e1]
      exact keepCase (ihn k st hk) hs
    | now hs => exact absurd hs (F.not_now H.safe (mem_of_get ha) hk)
    | reg hl hc ro hadd hcore hmsgs =>
      have e1 : st'.raft.readOnly = ro := congrArg RCore.ro hcore
      show P _ _; unfold P; rw [e1]
      obtain ⟨en, hen, hcase⟩ := addRequest_specD hadd
      rcases hcase with ⟨q1, _⟩ | ⟨q1, _, q3, _⟩
      · rw [q1]; exact up (ihn k st hk)
      · intro K rs hmem
        rw [q3] at hmem
        rcases List.mem_append.1 hmem with g | g
        · exact up (ihn k st hk) K rs g
        · rw [List.mem_singleton] at g
          injection g with g1 g2
          subst g1; subst g2
          obtain ⟨n', f, ctx, p1, p2, p3, p4⟩ := (ri_prov H n a ha).net m hm hty
          have : ctx = en.data := by
            unfold reqCtx at p3
            rw [hen] at p3
            injection p3 with p3
            exact p3.symm
          subst this
          subst p4
          exact .inr ⟨n', by omega, p2⟩

/-! ### provenance of `MsgReadIndexResp` -/

/-- the `MsgReadIndexResp` `y` was queued by a call of a step before index `k` that released a pending
request -/
def RirSrc (cfg : JointConfig) (h : List Sys) (k : Nat) (y : Message) : Prop :=
  ∃ n a v st m, n < k ∧ h[n]? = some a ∧ a.node v = some st ∧
    (m.msgType = .msgHup ∨ (m ∈ a.net ∧ m.to = v)) ∧ RirOk cfg st.raft m y

theorem RirSrc.mono {k k' : Nat} {y : Message} (hs : RirSrc cfg h k y) (hle : k ≤ k') :
    RirSrc cfg h k' y := by
  obtain ⟨n, a, v, st, m, h1, h2⟩ := hs
  exact ⟨n, a, v, st, m, by omega, h2⟩

structure RirProv (cfg : JointConfig) (h : List Sys) (k : Nat) (s : Sys) : Prop where
  q : ∀ v st, s.node v = some st → ∀ x ∈ st.raft.msgs, x.msgType = .msgReadIndexResp →
    RirSrc cfg h k x
  net : ∀ x ∈ s.net, x.msgType = .msgReadIndexResp → RirSrc cfg h k x

theorem rir_prov (F : ReadFacts cfg c0 h)
    (safe : ∀ s ∈ h, ∀ i st, s.node i = some st → st.raft.readOnly.option = .safe) :
    ∀ (k : Nat) (s : Sys), h[k]? = some s → RirProv cfg h k s := by
  have old : ∀ {n : Nat} {r0 r1 : Raft},
      (∀ x ∈ r0.msgs, x.msgType = .msgReadIndexResp → RirSrc cfg h n x) → RS r0 r1 →
      ∀ x ∈ r1.msgs, x.msgType = .msgReadIndexResp → RirSrc cfg h (n + 1) x := by
    intro n r0 r1 ih hs x hx hty
    have : x ∈ rdOf r1.msgs := mem_rdOf.2 ⟨hx, by unfold isRd; rw [hty]; rfl⟩
    rw [hs.rd] at this
    exact (ih x (mem_rdOf.1 this).1 hty).mono (Nat.le_succ n)
  intro k s hs
  have key := F.local_hist (T := fun n x => x.msgType = .msgReadIndexResp → RirSrc cfg h n x)
    (N := fun n _ _ r => ∀ x ∈ r.msgs, x.msgType = .msgReadIndexResp → RirSrc cfg h n x)
    (fun _ g => g) (fun g x hx hty => (g x hx hty).mono (Nat.le_succ _))
    (fun g hty => (g hty).mono (Nat.le_succ _)) (fun g => g) (fun _ _ hx => nomatch hx)
    (fun _ hq x hx => by rw [hq] at hx; cases hx) ?_ ?_ ?_ k s hs
  · exact ⟨key.1, key.2⟩
  all_goals intro n a k st st'
  · intro m ha _ ihn _ hk hm ho _ x hx hty
    rcases ho.msgs x hx with c | c | c | c | c
    · exact (ihn k st hk x c hty).mono (Nat.le_succ n)
    · rw [hty] at c; cases c
    · rw [c.1] at hty; cases hty
    · rw [c.1] at hty; cases hty
    · exact ⟨n, a, k, st, m, Nat.lt_succ_self n, ha, hk, hm, c⟩
  · intro K' rnd res ha _ ihn _ hk _ ho x hx hty
    cases ho with
    | frame hf => exact old (ihn k st hk) hf.toRS x hx hty
    | fwd hfo hlead hcore hmsgs =>
      rw [hmsgs] at hx
      rcases List.mem_append.1 hx with c | c
      · exact (ihn k st hk x c hty).mono (Nat.le_succ n)
      · exfalso
        rw [List.mem_singleton.1 c, (sendFill_ri st.raft
          { msgType := .msgReadIndex, to := st.raft.leaderId, entries := [{ data := K' }] } rfl).1] at hty
        cases hty
    | now hs => exact absurd hs (F.not_now safe (mem_of_get ha) hk)
    | reg hl hc ro hadd hcore hmsgs =>
      rcases hmsgs x hx with c | ⟨c, _⟩
      · exact (ihn k st hk x c hty).mono (Nat.le_succ n)
      · rw [c] at hty; cases hty
  · intro m rnd res ha _ ihn _ hk hm hto hty' _ ho x hx hty
    cases ho with
    | keep hs _ => exact old (ihn k st hk) hs x hx hty
    | fwd r1 hs hfo hcore y hmsgs hy =>
      rw [hmsgs] at hx
      rcases List.mem_append.1 hx with c | c
      · exact old (ihn k st hk) hs x c hty
      · exfalso
        rw [List.mem_singleton.1 c, hy.1] at hty; cases hty
    | now hs => exact absurd hs (F.not_now safe (mem_of_get ha) hk)
    | reg hl hc ro hadd hcore hmsgs =>
      rcases hmsgs x hx with c | ⟨c, _⟩
      · exact (ihn k st hk x c hty).mono (Nat.le_succ n)
      · rw [c] at hty; cases hty

/-! ### the quorum behind a release -/

/-- the acknowledgements behind an answer: `u` is the answering node `v`, or a heartbeat response of
`u` with a late context for the term `t` (or without term) is in `net` -/
def Backer (h : List Sys) (n0 : Nat) (net : List Message) (v t u : Nat) : Prop :=
  u = v ∨ ∃ y ∈ net, y.msgType = .msgHeartbeatResponse ∧ y.frm = u ∧ Late h n0 y.context ∧
    (y.term = t ∨ y.term = 0)

/-- **whoever has such a quorum behind it is not superseded**: a term led at or before `h[n0]` is not
above the term of a node that, later, has a joint quorum of backers -/
theorem no_higher (F : ReadFacts cfg c0 h)
    (safe : ∀ s ∈ h, ∀ i st, s.node i = some st → st.raft.readOnly.option = .safe)
    {n0 n : Nat} {s0 a : Sys} (hn0 : h[n0]? = some s0)
    (ha : h[n]? = some a) (hle : n0 ≤ n) {v : Nat} {st : NState} (hva : a.node v = some st)
    {Q : List Nat} (hQ : IsJointQuorum cfg Q)
    (hQb : ∀ u ∈ Q, Backer h n0 a.net v st.raft.term u)
    {n1 : Nat} {s1 : Sys} (hn1 : h[n1]? = some s1) (hle1 : n1 ≤ n0) {l' t' : Nat}
    (hl' : leads s1 l' t') : t' ≤ st.raft.term := by
  obtain ⟨_, Q', hQ', hQg⟩ :=
    C02_cluster_leader_has_quorum cfg h F.hist F.fix s1 (mem_of_get hn1) l' t' hl'
  obtain ⟨u, _, hu, hu'⟩ := joint_quorums_intersect cfg Q Q' (.inl F.ne) hQ hQ'
  have hfloor : TermFloor s0 u t' := by
    rcases hQg u hu' with e | ⟨g, hg, g1, g2, g3, _, g5⟩
    · rw [e]
      exact (F.floor _ (mem_of_get hn1) _ _ hl').later F.hist hn1 hn0 hle1
    · obtain ⟨stu, q1, q2, q3⟩ := C06_cluster_grant_durable h F.hist n1 n0 s1 s0 hn1 hn0 hle1 g hg g1 g2
      rw [g3] at q1
      rw [g5] at q2 q3
      refine ⟨stu, q1, ?_, ?_⟩
      · rcases q3 with c | ⟨c, _⟩ <;> omega
      · rcases q2 with c | ⟨c, _⟩ <;> omega
  rcases hQb u hu with e | ⟨y, hy, y1, y2, y3, y4⟩
  · rw [e] at hfloor
    obtain ⟨st2, q1, q2, _⟩ := hfloor.later F.hist hn0 ha hle
    rw [hva] at q1; cases q1
    exact q2
  · have := (hbr_floor F safe hn0 n a ha).net y hy y1 y3 t' (by rw [y2]; exact hfloor)
    rcases y4 with c | c <;> omega

theorem quorum_no_higher (H : Hyp3w cfg c0 h)
    (safe : ∀ s ∈ h, ∀ i st, s.node i = some st → st.raft.readOnly.option = .safe)
    {n0 n : Nat} {s0 a : Sys} (hn0 : h[n0]? = some s0)
    (ha : h[n]? = some a) (hle : n0 ≤ n) {v : Nat} {st : NState} (hva : a.node v = some st)
    {Q : List Nat} (hQ : IsJointQuorum cfg Q)
    (hQb : ∀ u ∈ Q, Backer h n0 a.net v st.raft.term u)
    {n1 : Nat} {s1 : Sys} (hn1 : h[n1]? = some s1) (hle1 : n1 ≤ n0) {l' t' : Nat}
    (hl' : leads s1 l' t') : t' ≤ st.raft.term :=
  no_higher (.of_hyp3w H) safe hn0 ha hle hva hQ hQb hn1 hle1 hl'

/-- **the release of a registered request**: if, in `h[n]`, node `v` holds the request `ctx`
(registered by the step `n0` on `i0`) pending and a joint quorum has acknowledged a request `Kack` that is
not before `ctx` in the queue (acknowledgements as seen by a call with input `m`), then `v = i0`,
`n0 < n`, the recorded read index covers the earlier commits of terms up to the node's, and the quorum
consists of backers -/
theorem rel_backers (H : RdBase cfg c0 h) {n0 i0 : Nat} {ctx : Bytes} (hreg : Reg h n0 i0 ctx)
    {n : Nat} {a : Sys} (ha : h[n]? = some a) {v : Nat} {st : NState} (hva : a.node v = some st)
    {m : Message} (hm : m.msgType = .msgHup ∨ (m ∈ a.net ∧ m.to = v))
    {rs0 : ReadIndexStatus} {Kack : Bytes} {acks : List Nat} {p i : Nat}
    (c1 : (ctx, rs0) ∈ st.raft.readOnly.pendingReadIndex)
    (c5 : st.raft.readOnly.readIndexQueue[p]? = some ctx)
    (c6 : st.raft.readOnly.readIndexQueue[i]? = some Kack) (c7 : p ≤ i)
    (c8 : Tracker.hasQuorum cfg acks = true) (c9 : ∀ u ∈ acks, AckOk st.raft m Kack u) :
    v = i0 ∧ n0 < n ∧ IdxOK h c0 n0 st.raft.term rs0.index ∧ IsJointQuorum cfg acks ∧
      ∀ u ∈ acks, Backer h n0 a.net v st.raft.term u := by
  have F := H.toReadFacts
  have PA := pend_ok F H.safe n a ha
  have TA := tgt_inv H hreg n a ha
  obtain ⟨t1, t2⟩ := TA.pend v st hva rs0 c1
  have hLk : Late h n0 Kack := TA.behind v st hva p i Kack c5 c7 c6
  refine ⟨t1, occ_after H hreg ha (.inl ⟨v, st, hva, .inl ⟨rs0, c1⟩⟩), t2,
    (RaftProps.C11.hasQuorum_iff cfg acks).1 c8, fun u hu => ?_⟩
  rcases c9 u hu with d | d | ⟨rsA, d1, d2⟩
  · exact .inl (d.trans (F.id (mem_of_get ha) hva))
  · right
    rcases hm with q | ⟨q, _⟩
    · rw [d.1] at q; cases q
    · exact ⟨m, q, d.1, d.2.1, by rw [d.2.2.1]; exact hLk, d.2.2.2⟩
  · rcases PA.acks v st hva Kack rsA d1 u d2 with e | ⟨y, y1, y2, y3, y4, y5⟩
    · exact .inl e
    · exact .inr ⟨y, y1, y2, y3, by rw [y4]; exact hLk, y5⟩

/-- … hence the recorded read index is at least the commit index of every node in every state up to
the registration step -/
theorem rel_bound (H : RdBase cfg c0 h) {n0 i0 : Nat} {ctx : Bytes} (hreg : Reg h n0 i0 ctx)
    {n : Nat} {a : Sys} (ha : h[n]? = some a) {v : Nat} {st : NState} (hva : a.node v = some st)
    {m : Message} (hm : m.msgType = .msgHup ∨ (m ∈ a.net ∧ m.to = v))
    {rs0 : ReadIndexStatus} {Kack : Bytes} {acks : List Nat} {p i : Nat}
    (c1 : (ctx, rs0) ∈ st.raft.readOnly.pendingReadIndex)
    (c5 : st.raft.readOnly.readIndexQueue[p]? = some ctx)
    (c6 : st.raft.readOnly.readIndexQueue[i]? = some Kack) (c7 : p ≤ i)
    (c8 : Tracker.hasQuorum cfg acks = true) (c9 : ∀ u ∈ acks, AckOk st.raft m Kack u) :
    v = i0 ∧ n0 < n ∧ ∀ nf sf, nf ≤ n0 → h[nf]? = some sf →
      ∀ u stu, sf.node u = some stu → stu.raft.raftLog.committed ≤ rs0.index := by
  have F := H.toReadFacts
  obtain ⟨t1, hafter, t2, hQ, hQb⟩ := rel_backers H hreg ha hva hm c1 c5 c6 c7 c8 c9
  obtain ⟨s0, hn0⟩ : ∃ s0, h[n0]? = some s0 := by
    obtain ⟨a0, _, _, q1, _⟩ := hreg.step
    exact ⟨a0, q1⟩
  refine ⟨t1, hafter, fun nf sf hle hnf => ?_⟩
  exact F.good _ _ _ _ hnf (t2.mono hle) (fun n1 s1 l' t' hn1 hle1 hl' =>
    no_higher F H.safe hn0 ha (by omega) hva hQ hQb hn1 (by omega) hl')

end R4
end Cluster
end RaftModel
