import RaftProofs.ClusterVoteC

/-!
Cluster-level election safety, helper lemmas part D: the per-call invariant `VInv` through
`poll`, `campaign`, `hup`, `maybe_commit_by_vote`, `post_conf_change`, `restore`, `handle_snapshot`.
-/
namespace RaftModel
namespace Raft
namespace CV
open VoteOb

/-- same `ncore`, and every real-vote message of the queue is accounted for -/
theorem VInv.of_ncore {a r r' : Raft} {m : Message} (h : VInv a m r) (hn : ncore r' = ncore r)
    (hm : ∀ x ∈ r'.msgs, isRVm x = true → x ∈ a.msgs ∨ Fresh a m r' x) : VInv a m r' := by
  have e1 : r'.term = r.term := congrArg NCore.term hn
  have e2 : r'.vote = r.vote := congrArg NCore.vote hn
  have e3 : r'.id = r.id := congrArg NCore.id hn
  have e4 : r'.state = r.state := congrArg NCore.state hn
  have e5 : r'.promotable = r.promotable := congrArg NCore.promotable hn
  have e6 : r'.prs.conf = r.prs.conf := congrArg NCore.conf hn
  have e7 : r'.prs.votes = r.prs.votes := congrArg NCore.votes hn
  have e8 : r'.raftLog.store.hardState = r.raftLog.store.hardState := congrArg NCore.hs hn
  have e9 : r'.prs.voters = r.prs.voters := by unfold ProgressTracker.voters; rw [e6]
  refine ⟨e3.trans h.id, e8.trans h.hs, h.tv.trans (TV.of_eq e1 e2), ?_, ?_, hm, ?_, ?_⟩
  · rw [e5, e9, e3]; exact h.pk
  · rw [e4, e5]; exact h.nf
  · rw [e4, e1, e7]; exact h.cand
  · rw [e4, e1, e9]; exact h.lead

theorem isRVm_type {x : Message} (h : isRVm x = true) :
    x.msgType = .msgRequestVote ∨ (x.msgType = .msgRequestVoteResponse ∧ x.reject = false) := by
  unfold isRVm at h
  simp only [Bool.or_eq_true, beq_iff_eq, Bool.and_eq_true, Bool.not_eq_true'] at h
  exact h

/-- the vote-request loop of `campaign` -/
theorem sendVoteRequests_vinv {a r : Raft} {m : Message} (h : VInv a m r) (ct : CampaignType)
    (vm : MsgType) (term : Nat) (hvm : vm = .msgRequestVote ∨ vm = .msgRequestPreVote)
    (hterm : term ≠ 0)
    (hreq : vm = .msgRequestVote → m.msgType ≠ .msgRequestVote ∧ a.term < term ∧ GeV r term a.id) :
    Res.Post (fun r' => VInv a m r' ∧ TV r r') (r.sendVoteRequests ct vm term) := by
  apply Res.post_intro
  intro r' hs
  obtain ⟨lt, c, cterm, _, _, e⟩ := c02_sendVoteRequests_spec hvm hterm hs
  subst e
  refine ⟨h.of_ncore rfl ?_, TV.refl _⟩
  intro x hx hrv
  rcases List.mem_append.1 hx with hx | hx
  · rcases h.msgs x hx hrv with g | g
    · exact Or.inl g
    · exact Or.inr (g.mono (TV.refl _))
  · right
    simp only [List.mem_map] at hx
    obtain ⟨to, _, e⟩ := hx
    have t1 : x.msgType = vm := by rw [← e]; rfl
    have t2 : x.frm = r.id := by rw [← e]; rfl
    have t3 : x.term = term := by rw [← e]; rfl
    have hv : vm = .msgRequestVote := by
      rcases isRVm_type hrv with g | ⟨g, _⟩
      · rw [← t1]; exact g
      · rcases hvm with q | q
        · exact q
        · rw [t1, q] at g; cases g
    obtain ⟨q1, q2, q3⟩ := hreq hv
    refine ⟨t2.trans h.id, by rw [t3]; exact hterm, fun _ => ⟨q1, by rw [t3]; exact q2, ?_⟩, fun hc => ?_⟩
    · rw [t3]; exact q3.mono (TV.refl _)
    · rw [t1, hv] at hc; cases hc

/-- `poll` (raft.rs:2281) -/
theorem pollWith_vinv {a : Raft} {m : Message} (onPreWin : Raft → Res Raft) (r : Raft) (frm : Nat)
    (t : MsgType) (v : Bool) (h : VInv a m r)
    (hs : r.state = .candidate ∨ r.state = .preCandidate)
    (hfv : r.state = .candidate → v = true → Backed a m r.term frm)
    (hp : ∀ r1, VInv a m r1 → r1.state = .preCandidate →
      Res.Post (fun x => VInv a m x ∧ TV r1 x) (onPreWin r1)) :
    Res.Post (fun x => VInv a m x.1 ∧ TV r x.1) (pollWith onPreWin r frm t v) := by
  apply Res.post_intro
  rintro ⟨r', res⟩ hpoll
  obtain ⟨p1, p2⟩ := c02_pollWith_cases hpoll
  have hv := h.voted frm v hfv
  have htv0 : TV r (voted r frm v) := TV.of_eq rfl rfl
  rcases p2 with ⟨_, hpc, hf⟩ | ⟨hw, hnp, hwon⟩ | ⟨_, e⟩ | ⟨_, e⟩
  · have := Res.Post.of_eq (hp _ hv hpc) hf
    exact ⟨this.1, htv0.trans this.2⟩
  · unfold wonBy at hwon
    rw [Res.bind_eq_ok_iff] at hwon
    obtain ⟨r1, hb, hbc⟩ := hwon
    have hcand : (voted r frm v).state = .candidate := by
      rcases hs with g | g
      · exact g
      · exact absurd g hnp
    have hQ : ∃ Q, IsJointQuorum (voted r frm v).prs.voters Q ∧
        ∀ j ∈ Q, Backed a m (voted r frm v).term j := by
      refine ⟨RaftProps.C02.granters (voted r frm v).prs.votes, ?_, fun j hj => ?_⟩
      · apply RaftProps.C02.C02_won_gives_joint_quorum
        have : (voted r frm v).prs.tallyVotes.2.2 = .won := by rw [← p1]; exact hw
        exact this
      · exact hv.cand hcand j (mem_granters hj)
    have h1 := Res.Post.of_eq (becomeLeader_vinv hv hQ) hb
    have hf := Res.Post.of_eq (bcastAppend_vf r1) hbc
    exact ⟨h1.1.vf hf, (htv0.trans h1.2).trans hf.tv⟩
  · subst e
    exact ⟨hv.becomeFollower r.term 0 (Nat.le_refl _),
      htv0.trans (becomeFollower_tv (voted r frm v) r.term 0 (Nat.le_refl _))⟩
  · subst e
    exact ⟨hv, htv0⟩

/-- `campaign` (raft.rs:1287), for any `poll` that meets the specification of `poll` -/
theorem campaignWith_vinv {a : Raft} {m : Message}
    (poll : Raft → Nat → MsgType → Bool → Res (Raft × VoteResult))
    (hpoll : ∀ r1 t, VInv a m r1 → (r1.state = .candidate ∨ r1.state = .preCandidate) →
      Res.Post (fun x => VInv a m x.1 ∧ TV r1 x.1) (poll r1 r1.id t true))
    (r : Raft) (ct : CampaignType) (h : VInv a m r)
    (hp : a.state ≠ .follower ∨ r.promotable = true) (hm : m.msgType ≠ .msgRequestVote) :
    Res.Post (fun x => VInv a m x ∧ TV r x) (campaignWith poll r ct) := by
  unfold campaignWith
  dsimp only
  apply Res.post_bind (P := fun x => VInv a m x.1 ∧ TV r x.1 ∧
      (x.1.state = .candidate ∨ x.1.state = .preCandidate) ∧ x.2.2 ≠ 0 ∧
      (x.2.1 = .msgRequestVote ∨ x.2.1 = .msgRequestPreVote) ∧
      (x.2.1 = .msgRequestVote → a.term < x.2.2 ∧ x.1.term = x.2.2 ∧ x.1.vote = a.id))
  · split
    · apply Res.post_bind (becomePreCandidate_vinv h hp)
      rintro r1 ⟨g1, g2, g3, _⟩
      split
      · trivial
      · exact ⟨g1, g2, Or.inr g3, by simp, Or.inr rfl, fun hc => by cases hc⟩
    · apply Res.post_bind (becomeCandidate_vinv h hp)
      rintro r1 ⟨g1, g2, g3, g4, g5, _⟩
      refine ⟨g1, g2, Or.inl g3, ?_, Or.inl rfl, fun _ => ⟨?_, rfl, g5⟩⟩
      · show r1.term ≠ 0; omega
      · show a.term < r1.term
        have := h.tv.le; omega
  · rintro ⟨r1, vm, term⟩ ⟨g1, g2, g3, g4, g5, g6⟩
    dsimp only at g1 g2 g3 g4 g5 g6 ⊢
    apply Res.post_bind (hpoll r1 vm g1 g3)
    rintro ⟨r2, res⟩ ⟨k1, k2⟩
    dsimp only at k1 k2 ⊢
    split
    · exact ⟨k1, g2.trans k2⟩
    · refine Res.post_mono (sendVoteRequests_vinv k1 ct vm term g5 g4 (fun hv => ?_))
        (fun x hx => ⟨hx.1, (g2.trans k2).trans hx.2⟩)
      obtain ⟨q1, q2, q3⟩ := g6 hv
      refine ⟨hm, q1, ?_⟩
      have : GeV r1 term a.id := fun _ => Or.inr ⟨q2, q3⟩
      exact this.mono k2

theorem campaignAfterPreVote_vinv {a r : Raft} {m : Message} (h : VInv a m r)
    (hp : a.state ≠ .follower ∨ r.promotable = true) (hm : m.msgType ≠ .msgRequestVote) :
    Res.Post (fun x => VInv a m x ∧ TV r x) r.campaignAfterPreVote := by
  unfold campaignAfterPreVote
  refine campaignWith_vinv _ (fun r1 t g1 g2 => ?_) r _ h hp hm
  exact pollWith_vinv _ r1 r1.id t true g1 g2 (fun _ _ => Or.inl g1.id) (fun _ _ _ => trivial)

theorem poll_vinv {a : Raft} {m : Message} (r : Raft) (frm : Nat) (t : MsgType) (v : Bool)
    (h : VInv a m r) (hs : r.state = .candidate ∨ r.state = .preCandidate)
    (hfv : r.state = .candidate → v = true → Backed a m r.term frm)
    (hm : m.msgType ≠ .msgRequestVote) :
    Res.Post (fun x => VInv a m x.1 ∧ TV r x.1) (r.poll frm t v) := by
  unfold poll
  refine pollWith_vinv _ r frm t v h hs hfv (fun r1 g1 g2 => ?_)
  exact campaignAfterPreVote_vinv g1 (g1.nf (by rw [g2]; decide)) hm

theorem campaign_vinv {a r : Raft} {m : Message} (ct : CampaignType) (h : VInv a m r)
    (hp : a.state ≠ .follower ∨ r.promotable = true) (hm : m.msgType ≠ .msgRequestVote) :
    Res.Post (fun x => VInv a m x ∧ TV r x) (r.campaign ct) := by
  unfold campaign
  refine campaignWith_vinv _ (fun r1 t g1 g2 => ?_) r ct h hp hm
  exact poll_vinv r1 r1.id t true g1 g2 (fun _ _ => Or.inl g1.id) hm

theorem hup_vinv {a r : Raft} {m : Message} (b : Bool) (h : VInv a m r)
    (hm : m.msgType ≠ .msgRequestVote) :
    Res.Post (fun x => VInv a m x ∧ TV r x) (r.hup b) := by
  unfold hup
  split
  · exact ⟨h, TV.refl _⟩
  · split
    · exact ⟨h, TV.refl _⟩
    · rename_i hpr
      have hp : a.state ≠ .follower ∨ r.promotable = true := Or.inr (by simpa using hpr)
      split
      · trivial
      · trivial
      · exact ⟨h, TV.refl _⟩
      · split
        · exact ⟨h, TV.refl _⟩
        · split
          · exact campaign_vinv _ h hp hm
          · split <;> exact campaign_vinv _ h hp hm

theorem maybeCommitByVote_vinv {a r : Raft} {m : Message} (m' : Message) (h : VInv a m r) :
    Res.Post (fun x => VInv a m x ∧ TV r x) (r.maybeCommitByVote m') :=
  Res.post_intro fun _ hc =>
    maybeCommitByVote_parts (P := fun x => VInv a m x ∧ TV r x) hc ⟨h, TV.refl _⟩
      (fun hl =>
        have hf := raftLog_vf r (congrArg MemStorage.hardState (maybeCommit_store hl))
        ⟨h.vf hf, hf.tv⟩)
      (fun p => ⟨p.1.becomeFollower _ 0 (Nat.le_refl _),
        p.2.trans (becomeFollower_tv _ _ 0 (Nat.le_refl _))⟩)

/-! ### `post_conf_change`, `restore` -/

/-- `post_conf_change` (raft.rs:2743), in terms of `VF` (cf. `postConfChange_spec` of C17) -/
theorem postConfChange_cases (r : Raft) :
    Res.Post (fun x =>
        (r.state = .leader ∧ Joint.contains r.prs.voters r.id = false ∧
          x.1 = ({ r with promotable := false } : Raft).becomeFollower r.term 0) ∨
        (x.1 = { r with promotable := Joint.contains r.prs.voters r.id }) ∨
        (∃ r2, VF { r with promotable := Joint.contains r.prs.voters r.id } r2 ∧
           x.1 = match r2.leadTransferee with
            | some e => if !Joint.contains r2.prs.voters e then r2.abortLeaderTransfer else r2
            | none => r2))
      r.postConfChange := by
  refine Res.post_mono
    (postConfChange_spec_of (F := VF) r VF.trans
      (fun hc => (maybeCommit_vf _).of_eq hc) (fun hb => (bcastAppend_vf _).of_eq hb)
      (fun ha => (maybeSendAppend_vf _ _ _ _).of_eq ha) set_vf (fun _ _ => ⟨rfl, rfl⟩)
      (fun hr => (respondReadStates_vf _ _).of_eq hr))
    fun _ h => ?_
  rcases h with h | ⟨_, h⟩ | ⟨r2, hf, _, _, _, e⟩
  · exact .inl h
  · exact .inr (.inl h)
  · exact .inr (.inr ⟨r2, hf, e⟩)

/-- setting `promotable` to "voter of the own configuration" -/
theorem VInv.setPromotable {a r : Raft} {m : Message} (h : VInv a m r) (b : Bool)
    (hb : b = Joint.contains r.prs.voters r.id) (hst : r.state = .follower ∨ a.state ≠ .follower) :
    VInv a m { r with promotable := b } := by
  refine ⟨h.id, h.hs, h.tv, Or.inr hb, ?_, h.msgs, h.cand, h.lead⟩
  intro hne
  rcases hst with g | g
  · exact absurd g hne
  · exact Or.inl g

theorem postConfChange_vinv' {a r : Raft} {m : Message}
    (hsp : ∀ b, b = Joint.contains r.prs.voters r.id → VInv a m { r with promotable := b }) :
    Res.Post (fun x => VInv a m x.1 ∧ TV r x.1) r.postConfChange := by
  apply Res.post_mono (postConfChange_cases r)
  rintro ⟨r', cs⟩ hc
  dsimp only at hc ⊢
  rcases hc with ⟨_, hv, e⟩ | e | ⟨r2, hf, e⟩
  · subst e
    have h1 := hsp false hv.symm
    have t0 : TV r ({ r with promotable := false } : Raft) := TV.of_eq rfl rfl
    exact ⟨h1.becomeFollower _ 0 (Nat.le_refl _),
      t0.trans (becomeFollower_tv ({ r with promotable := false } : Raft) r.term 0 (Nat.le_refl _))⟩
  · subst e
    exact ⟨hsp _ rfl, TV.of_eq rfl rfl⟩
  · have h1 := (hsp _ rfl).vf hf
    have t1 : TV r r2 := hf.tv
    subst e
    split
    · split
      · exact ⟨h1.vf (by simp [VF, ncore, abortLeaderTransfer]), t1⟩
      · exact ⟨h1, t1⟩
    · exact ⟨h1, t1⟩

theorem postConfChange_vinv {a r : Raft} {m : Message} (h : VInv a m r)
    (hst : r.state = .follower ∨ a.state ≠ .follower) :
    Res.Post (fun x => VInv a m x.1 ∧ TV r x.1) r.postConfChange :=
  postConfChange_vinv' (fun b hb => h.setPromotable b hb hst)

theorem restore_vinv {a r : Raft} {m : Message} (snap : Snapshot) (h : VInv a m r) :
    Res.Post (fun x => VInv a m x.1 ∧ TV r x.1) (r.restore snap) := by
  apply Res.post_intro
  rintro ⟨r', b⟩ hr
  rcases restore_cases hr with ⟨_, rfl⟩ | ⟨_, _, rfl⟩ | ⟨_, _, _, l, hc, rfl⟩ |
    ⟨_, hfol, _, l, prs, r2, cs, _, pr', _, hres, _, hp, _, _, rfl⟩
  · exact ⟨h, TV.refl _⟩
  · exact ⟨h.becomeFollower _ 0 (by omega), becomeFollower_tv _ _ 0 (by omega)⟩
  · have hf := raftLog_vf r (congrArg MemStorage.hardState (C06.commitTo_store hc))
    exact ⟨h.vf hf, hf.tv⟩
  · -- the tracker is replaced by the restored one: the node is a follower, and `post_conf_change`
    -- recomputes `promotable` from the new configuration
    have h1 : ∀ b, b = Joint.contains prs.voters r.id →
        VInv a m { ({ r with raftLog := l, prs := prs } : Raft) with promotable := b } := by
      intro b hb
      refine ⟨h.id, by show l.store.hardState = _; rw [C06.restore_store hres]; exact h.hs, h.tv,
        Or.inr hb, ?_, h.msgs, ?_, ?_⟩
      · intro hne; exact absurd hfol hne
      · intro hc; rw [hfol] at hc; cases hc
      · intro hc; rw [hfol] at hc; cases hc
    obtain ⟨g1, g2⟩ := (postConfChange_vinv' h1).of_eq hp
    have hf : VF r2 { r2 with prs := r2.prs.set r2.id pr', pendingRequestSnapshot := 0 } :=
      (set_vf _ _ _).trans ⟨rfl, rfl⟩
    exact ⟨g1.vf hf, (TV.trans (TV.of_eq rfl rfl) g2).trans hf.tv⟩

theorem handleSnapshot_vinv {a r : Raft} {m : Message} (m' : Message) (h : VInv a m r) :
    Res.Post (fun x => VInv a m x ∧ TV r x) (r.handleSnapshot m') := by
  unfold handleSnapshot
  apply Res.post_bind (restore_vinv m'.snapshot h)
  rintro ⟨r1, ok⟩ ⟨g1, g2⟩
  dsimp only at g1 g2 ⊢
  split
  · exact Res.post_mono (send_vf r1 _ rfl) (fun x hx => ⟨g1.vf hx, g2.trans hx.tv⟩)
  · exact Res.post_mono (send_vf r1 _ rfl) (fun x hx => ⟨g1.vf hx, g2.trans hx.tv⟩)

end CV
end Raft
end RaftModel
