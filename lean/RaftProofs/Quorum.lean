import RaftModel.Quorum

/-!
Helper lemmas for C11 (quorum arithmetic): the stable descending sort is a sorted permutation, the
element at position `majority n - 1` of a descending list is the largest value reached by a
majority, a closed form of the group-commit scan, vote counting as `countP`, and the pigeonhole
lemma behind quorum intersection.
-/
namespace RaftModel
open List

/-! ### specification vocabulary (set-level, independent of any list order) -/

/-- acknowledged index of voter `v` (`unwrap_or_default`: no entry counts as index 0) -/
def ackIdx (ack : Nat → Option Index) (v : Nat) : Nat := ((ack v).getD default).index

/-- commit group of voter `v` (no entry counts as group 0 = "no group") -/
def ackGrp (ack : Nat → Option Index) (v : Nat) : Nat := ((ack v).getD default).groupId

/-- number of voters of `vs` that acknowledged at least index `i` -/
def ackCount (vs : List Nat) (ack : Nat → Option Index) (i : Nat) : Nat :=
  vs.countP (fun v => decide (i ≤ ackIdx ack v))

/-- `i` is acknowledged by a majority of `vs` -/
def QuorumAcked (vs : List Nat) (ack : Nat → Option Index) (i : Nat) : Prop :=
  majority vs.length ≤ ackCount vs ack i

/-- the voters with acknowledged index `≥ i` span at least two (non-zero) commit groups -/
def TwoGroups (vs : List Nat) (ack : Nat → Option Index) (i : Nat) : Prop :=
  ∃ v ∈ vs, ∃ w ∈ vs, i ≤ ackIdx ack v ∧ i ≤ ackIdx ack w ∧
    ackGrp ack v ≠ 0 ∧ ackGrp ack w ≠ 0 ∧ ackGrp ack v ≠ ackGrp ack w

/-- number of voters that granted / have not answered -/
def yesCount (vs : List Nat) (check : Nat → Option Bool) : Nat :=
  vs.countP (fun v => check v == some true)
def missingCount (vs : List Nat) (check : Nat → Option Bool) : Nat :=
  vs.countP (fun v => check v == none)

/-- `A` (any list of ids, possibly containing non-voters) contains a majority of `vs` -/
def IsQuorum (vs A : List Nat) : Prop :=
  majority vs.length ≤ vs.countP (fun v => decide (v ∈ A))

/-- `A` contains a majority of each non-empty half -/
def IsJointQuorum (c : JointConfig) (A : List Nat) : Prop :=
  (c.incoming ≠ [] → IsQuorum c.incoming A) ∧ (c.outgoing ≠ [] → IsQuorum c.outgoing A)

/-- `i` is acknowledged by a majority of each non-empty half -/
def JointQuorumAcked (c : JointConfig) (ack : Nat → Option Index) (i : Nat) : Prop :=
  (c.incoming ≠ [] → QuorumAcked c.incoming ack i) ∧
  (c.outgoing ≠ [] → QuorumAcked c.outgoing ack i)

theorem majority_pos (n : Nat) : 0 < majority n := by simp [majority]
theorem majority_le (n : Nat) (h : 0 < n) : majority n ≤ n := by
  simp only [majority]; omega
theorem two_majorities (n : Nat) : n < majority n + majority n := by
  simp only [majority]; omega

theorem ackCount_perm {vs vs' : List Nat} (h : vs ~ vs') (ack : Nat → Option Index) (i : Nat) :
    ackCount vs ack i = ackCount vs' ack i := h.countP_eq _

theorem ackCount_anti (vs : List Nat) (ack : Nat → Option Index) {i j : Nat} (h : i ≤ j) :
    ackCount vs ack j ≤ ackCount vs ack i := by
  apply countP_mono_left
  intro v _ hv
  simp only [decide_eq_true_eq] at hv ⊢
  omega

theorem TwoGroups.anti {vs : List Nat} {ack : Nat → Option Index} {i j : Nat} (h : i ≤ j)
    (t : TwoGroups vs ack j) : TwoGroups vs ack i := by
  obtain ⟨v, hv, w, hw, h1, h2, h3⟩ := t
  exact ⟨v, hv, w, hw, by omega, by omega, h3⟩

theorem TwoGroups.perm {vs vs' : List Nat} (h : vs ~ vs') {ack : Nat → Option Index} {i : Nat}
    (t : TwoGroups vs ack i) : TwoGroups vs' ack i := by
  obtain ⟨v, hv, w, hw, h3⟩ := t
  exact ⟨v, h.mem_iff.1 hv, w, h.mem_iff.1 hw, h3⟩

namespace Majority

/-! ### the sort -/

/-- descending by index -/
def Desc (l : List Index) : Prop := l.Pairwise (fun a b => b.index ≤ a.index)

theorem insertDesc_perm (x : Index) (l : List Index) : insertDesc x l ~ x :: l := by
  induction l with
  | nil => exact Perm.refl _
  | cons y ys ih =>
    simp only [insertDesc]
    split
    · exact Perm.refl _
    · exact ((perm_cons y).2 ih).trans (Perm.swap x y ys)

theorem sortDesc_perm (l : List Index) : sortDesc l ~ l := by
  induction l with
  | nil => exact Perm.refl _
  | cons x xs ih => exact (insertDesc_perm x _).trans ((perm_cons x).2 ih)

theorem insertDesc_desc (x : Index) (l : List Index) (h : Desc l) : Desc (insertDesc x l) := by
  induction l with
  | nil => simp [insertDesc, Desc]
  | cons y ys ih =>
    unfold Desc at h
    rw [pairwise_cons] at h
    simp only [insertDesc]
    split
    · rename_i hyx
      unfold Desc
      rw [pairwise_cons, pairwise_cons]
      refine ⟨?_, h⟩
      intro z hz
      rcases mem_cons.1 hz with rfl | hz
      · exact hyx
      · have := h.1 z hz; omega
    · rename_i hyx
      unfold Desc
      rw [pairwise_cons]
      refine ⟨?_, ih h.2⟩
      intro z hz
      rcases mem_cons.1 ((insertDesc_perm x ys).mem_iff.1 hz) with rfl | hz
      · omega
      · exact h.1 z hz

theorem sortDesc_desc (l : List Index) : Desc (sortDesc l) := by
  induction l with
  | nil => simp [sortDesc, Desc]
  | cons x xs ih => exact insertDesc_desc x _ ih

/-! ### position `k` of a descending list -/

theorem desc_count_ge (l : List Index) (h : Desc l) (k : Nat) (x : Index) (hk : l[k]? = some x) :
    k + 1 ≤ l.countP (fun a => decide (x.index ≤ a.index)) := by
  induction l generalizing k with
  | nil => simp at hk
  | cons a l ih =>
    unfold Desc at h
    rw [pairwise_cons] at h
    cases k with
    | zero =>
      simp only [getElem?_cons_zero, Option.some.injEq] at hk
      subst hk
      simp
    | succ k =>
      simp only [getElem?_cons_succ] at hk
      have hx : x ∈ l := mem_of_getElem? hk
      have := h.1 x hx
      have := ih h.2 k hk
      rw [countP_cons_of_pos (by simpa using h.1 x hx)]
      omega

theorem desc_count_lt (l : List Index) (h : Desc l) (k : Nat) (x : Index) (hk : l[k]? = some x)
    (i : Nat) (hi : x.index < i) : l.countP (fun a => decide (i ≤ a.index)) ≤ k := by
  induction l generalizing k with
  | nil => simp
  | cons a l ih =>
    unfold Desc at h
    rw [pairwise_cons] at h
    cases k with
    | zero =>
      simp only [getElem?_cons_zero, Option.some.injEq] at hk
      subst hk
      have : countP (fun a => decide (i ≤ a.index)) (a :: l) = 0 := by
        rw [countP_eq_zero]
        intro b hb
        rcases mem_cons.1 hb with rfl | hb
        · simp; omega
        · have := h.1 b hb; simp; omega
      omega
    | succ k =>
      simp only [getElem?_cons_succ] at hk
      have := ih h.2 k hk
      rw [countP_cons]
      split <;> omega

theorem desc_getLast_le (l : List Index) (h : Desc l) (x : Index) (hl : l.getLast? = some x) :
    x ∈ l ∧ ∀ a ∈ l, x.index ≤ a.index := by
  obtain ⟨ys, rfl⟩ := getLast?_eq_some_iff.1 hl
  refine ⟨by simp, ?_⟩
  intro a ha
  unfold Desc at h
  rw [pairwise_append] at h
  rcases mem_append.1 ha with ha | ha
  · exact h.2.2 a ha x (by simp)
  · simp at ha; subst ha; exact Nat.le_refl _

/-! ### `committed_index` unfolded: no index/unwrap site fires -/

theorem acks_length (vs : List Nat) (ack : Nat → Option Index) : (acks vs ack).length = vs.length := by
  simp [acks]

theorem sorted_length (vs : List Nat) (ack : Nat → Option Index) :
    (sortDesc (acks vs ack)).length = vs.length := by
  rw [(sortDesc_perm _).length_eq, acks_length]

theorem committedIndex_unfold (vs : List Nat) (ack : Nat → Option Index) (hne : vs ≠ []) (gc : Bool) :
    ∃ qi last, (sortDesc (acks vs ack))[majority vs.length - 1]? = some qi ∧
      (sortDesc (acks vs ack)).getLast? = some last ∧
      committedIndex vs ack gc =
        (if gc then gcScan qi.index last.index qi.groupId true (sortDesc (acks vs ack))
         else (qi.index, false)) ∧
      committedIndexR vs ack gc = .ok (committedIndex vs ack gc) := by
  have hlen := sorted_length vs ack
  have hpos : 0 < vs.length := length_pos_iff.2 hne
  have hq : majority vs.length - 1 < (sortDesc (acks vs ack)).length := by
    simp only [majority, hlen]; omega
  have hne' : sortDesc (acks vs ack) ≠ [] := by
    intro h; rw [h] at hlen; simp at hlen; omega
  obtain ⟨qi, hqi⟩ : ∃ qi, (sortDesc (acks vs ack))[majority vs.length - 1]? = some qi :=
    ⟨_, getElem?_eq_getElem hq⟩
  obtain ⟨last, hlast⟩ : ∃ last, (sortDesc (acks vs ack)).getLast? = some last :=
    ⟨_, getLast?_eq_some_getLast hne'⟩
  have hemp : vs.isEmpty = false := by cases vs <;> simp_all
  refine ⟨qi, last, hqi, hlast, ?_, ?_⟩
  · simp only [committedIndex, hemp, hlen, hqi, hlast]
    cases gc <;> simp
  · simp only [committedIndexR, committedIndex, hemp, hlen, hqi, hlast]
    cases gc <;> simp

theorem committedIndexR_eq (vs : List Nat) (ack : Nat → Option Index) (gc : Bool) :
    committedIndexR vs ack gc = .ok (committedIndex vs ack gc) := by
  by_cases hne : vs = []
  · subst hne; simp [committedIndexR, committedIndex]
  · obtain ⟨_, _, _, _, _, h⟩ := committedIndex_unfold vs ack hne gc
    exact h

/-! ### plain quorum index -/

theorem countP_sorted (vs : List Nat) (ack : Nat → Option Index) (i : Nat) :
    (sortDesc (acks vs ack)).countP (fun a => decide (i ≤ a.index)) = ackCount vs ack i := by
  rw [(sortDesc_perm _).countP_eq, acks, countP_map]
  rfl

theorem mem_sorted {vs : List Nat} {ack : Nat → Option Index} {a : Index} :
    a ∈ sortDesc (acks vs ack) ↔ ∃ v ∈ vs, (ack v).getD default = a := by
  rw [(sortDesc_perm _).mem_iff, acks, mem_map]

/-- the plain quorum index is reached by a majority, no larger index is, and some voter
acknowledged exactly it -/
theorem quorumIndex_spec (vs : List Nat) (ack : Nat → Option Index) (hne : vs ≠ []) :
    QuorumAcked vs ack (committedIndex vs ack false).1 ∧
    (∀ i, (committedIndex vs ack false).1 < i → ¬ QuorumAcked vs ack i) ∧
    (∃ v ∈ vs, ackIdx ack v = (committedIndex vs ack false).1) ∧
    (committedIndex vs ack false).2 = false := by
  obtain ⟨qi, last, hqi, _, he, _⟩ := committedIndex_unfold vs ack hne false
  simp only [Bool.false_eq_true, if_false] at he
  rw [he]
  have hd := sortDesc_desc (acks vs ack)
  have hpos : 0 < majority vs.length := majority_pos _
  refine ⟨?_, ?_, ?_, rfl⟩
  · have := desc_count_ge _ hd _ _ hqi
    rw [countP_sorted] at this
    simp only [QuorumAcked]; omega
  · intro i hi
    have := desc_count_lt _ hd _ _ hqi i hi
    rw [countP_sorted] at this
    simp only [QuorumAcked]; omega
  · obtain ⟨v, hv, e⟩ := mem_sorted.1 (mem_of_getElem? hqi)
    exact ⟨v, hv, by simp [ackIdx, e]⟩

/-- there is exactly one "largest index acknowledged by a majority" -/
theorem quorumIndex_unique (vs : List Nat) (ack : Nat → Option Index) (r r' : Nat)
    (h1 : QuorumAcked vs ack r) (h2 : ∀ i, r < i → ¬ QuorumAcked vs ack i)
    (h1' : QuorumAcked vs ack r') (h2' : ∀ i, r' < i → ¬ QuorumAcked vs ack i) : r = r' := by
  rcases Nat.lt_trichotomy r r' with h | h | h
  · exact absurd h1' (h2 r' h)
  · exact h
  · exact absurd h1 (h2' r h)

theorem QuorumAcked.perm {vs vs' : List Nat} (h : vs ~ vs') {ack : Nat → Option Index} {i : Nat} :
    QuorumAcked vs ack i ↔ QuorumAcked vs' ack i := by
  simp only [QuorumAcked, ackCount_perm h, h.length_eq]

/-! ### closed form of the group-commit scan -/

/-- the element at which the scan returns early, if any -/
def firstOther : Nat → List Index → Option Index
  | _, [] => none
  | c, m :: ms =>
    if m.groupId = 0 then firstOther c ms
    else if c = 0 then firstOther m.groupId ms
    else if c = m.groupId then firstOther c ms
    else some m

theorem gcScan_eq (qci lastIdx c : Nat) (single : Bool) (l : List Index) :
    gcScan qci lastIdx c single l =
      match firstOther c l with
      | some m => (min m.index qci, true)
      | none => if single && l.all (fun m => decide (m.groupId ≠ 0)) then (qci, false)
                else (lastIdx, false) := by
  induction l generalizing c single with
  | nil => simp [gcScan, firstOther]
  | cons m ms ih =>
    simp only [gcScan, firstOther]
    by_cases h0 : m.groupId = 0
    · simp only [h0, if_true, ih]
      split <;> simp [h0]
    · simp only [h0, if_false]
      by_cases hc : c = 0
      · simp only [hc, if_true, ih]
        split <;> simp [h0]
      · simp only [hc, if_false]
        by_cases hcm : c = m.groupId
        · simp only [hcm, if_true, ih]
          split <;> simp [h0]
        · simp [hcm]

theorem firstOther_some (c : Nat) (l : List Index) (m : Index) (h : firstOther c l = some m) :
    ∃ pre post c', l = pre ++ m :: post ∧ m.groupId ≠ 0 ∧ c' ≠ 0 ∧ c' ≠ m.groupId ∧
      (∀ a ∈ pre, a.groupId = 0 ∨ a.groupId = c') ∧ (c ≠ 0 → c' = c) ∧
      (c = 0 → ∃ a ∈ pre, a.groupId = c') := by
  induction l generalizing c with
  | nil => simp [firstOther] at h
  | cons x xs ih =>
    simp only [firstOther] at h
    by_cases h0 : x.groupId = 0
    · simp only [h0, if_true] at h
      obtain ⟨pre, post, c', e, h1, h2, h3, h4, h5, h6⟩ := ih c h
      refine ⟨x :: pre, post, c', by simp [e], h1, h2, h3, ?_, h5, ?_⟩
      · intro a ha
        rcases mem_cons.1 ha with rfl | ha
        · exact Or.inl h0
        · exact h4 a ha
      · intro hc
        obtain ⟨a, ha, e⟩ := h6 hc
        exact ⟨a, mem_cons_of_mem _ ha, e⟩
    · simp only [h0, if_false] at h
      by_cases hc : c = 0
      · simp only [hc, if_true] at h
        obtain ⟨pre, post, c', e, h1, h2, h3, h4, h5, _⟩ := ih x.groupId h
        have hc' : c' = x.groupId := h5 h0
        refine ⟨x :: pre, post, c', by simp [e], h1, h2, h3, ?_, ?_, ?_⟩
        · intro a ha
          rcases mem_cons.1 ha with rfl | ha
          · exact Or.inr hc'.symm
          · exact h4 a ha
        · intro hcn; exact absurd hc hcn
        · intro _; exact ⟨x, mem_cons_self, hc'.symm⟩
      · simp only [hc, if_false] at h
        by_cases hcm : c = x.groupId
        · simp only [hcm, if_true] at h
          obtain ⟨pre, post, c', e, h1, h2, h3, h4, h5, _⟩ := ih x.groupId h
          have hc' : c' = x.groupId := h5 h0
          refine ⟨x :: pre, post, c', by simp [e], h1, h2, h3, ?_, ?_, ?_⟩
          · intro a ha
            rcases mem_cons.1 ha with rfl | ha
            · exact Or.inr hc'.symm
            · exact h4 a ha
          · intro _; rw [hc', hcm]
          · intro hcz; exact absurd hcz hc
        · simp only [hcm, if_false, Option.some.injEq] at h
          subst h
          exact ⟨[], xs, c, rfl, h0, hc, hcm, by simp, fun _ => rfl, fun hcz => absurd hcz hc⟩

theorem firstOther_none (c : Nat) (l : List Index) (h : firstOther c l = none) :
    ∃ c', (c ≠ 0 → c' = c) ∧ ∀ a ∈ l, a.groupId = 0 ∨ a.groupId = c' := by
  induction l generalizing c with
  | nil => exact ⟨c, fun _ => rfl, by simp⟩
  | cons x xs ih =>
    simp only [firstOther] at h
    by_cases h0 : x.groupId = 0
    · simp only [h0, if_true] at h
      obtain ⟨c', h1, h2⟩ := ih c h
      refine ⟨c', h1, ?_⟩
      intro a ha
      rcases mem_cons.1 ha with rfl | ha
      · exact Or.inl h0
      · exact h2 a ha
    · simp only [h0, if_false] at h
      by_cases hc : c = 0
      · simp only [hc, if_true] at h
        obtain ⟨c', h1, h2⟩ := ih x.groupId h
        refine ⟨c', fun hcn => absurd hc hcn, ?_⟩
        intro a ha
        rcases mem_cons.1 ha with rfl | ha
        · exact Or.inr (h1 h0).symm
        · exact h2 a ha
      · simp only [hc, if_false] at h
        by_cases hcm : c = x.groupId
        · simp only [hcm, if_true] at h
          obtain ⟨c', h1, h2⟩ := ih x.groupId h
          refine ⟨c', fun _ => by rw [h1 h0, hcm], ?_⟩
          intro a ha
          rcases mem_cons.1 ha with rfl | ha
          · exact Or.inr (h1 h0).symm
          · exact h2 a ha
        · simp [hcm] at h

/-- list-level "two groups at or above `i`" -/
def TG (l : List Index) (i : Nat) : Prop :=
  ∃ a ∈ l, ∃ b ∈ l, i ≤ a.index ∧ i ≤ b.index ∧ a.groupId ≠ 0 ∧ b.groupId ≠ 0 ∧
    a.groupId ≠ b.groupId

theorem TG_sorted (vs : List Nat) (ack : Nat → Option Index) (i : Nat) :
    TG (sortDesc (acks vs ack)) i ↔ TwoGroups vs ack i := by
  constructor
  · rintro ⟨a, ha, b, hb, h⟩
    obtain ⟨v, hv, rfl⟩ := mem_sorted.1 ha
    obtain ⟨w, hw, rfl⟩ := mem_sorted.1 hb
    exact ⟨v, hv, w, hw, h⟩
  · rintro ⟨v, hv, w, hw, h⟩
    exact ⟨_, mem_sorted.2 ⟨v, hv, rfl⟩, _, mem_sorted.2 ⟨w, hw, rfl⟩, h⟩

/-- what the scan computes on a descending list, when started from the group of an element `qi` of
the list whose index is `qci` -/
theorem gcScan_spec (l : List Index) (hd : Desc l) (qi : Index) (hqi : qi ∈ l) (lastIdx : Nat) :
    let r := gcScan qi.index lastIdx qi.groupId true l
    (TG l 0 → r.2 = true ∧ r.1 ≤ qi.index ∧ TG l r.1 ∧
      ∀ i, r.1 < i → i ≤ qi.index → ¬ TG l i) ∧
    (¬ TG l 0 → (∀ a ∈ l, a.groupId ≠ 0) → r = (qi.index, false)) ∧
    (¬ TG l 0 → (∃ a ∈ l, a.groupId = 0) → r = (lastIdx, false)) := by
  intro r
  have hr : r = gcScan qi.index lastIdx qi.groupId true l := rfl
  rw [gcScan_eq] at hr
  cases hfo : firstOther qi.groupId l with
  | some m =>
    rw [hfo] at hr
    simp only at hr
    obtain ⟨pre, post, c', e, h1, h2, h3, h4, h5, h6⟩ := firstOther_some _ _ _ hfo
    have hd' := hd
    unfold Desc at hd'
    rw [e, pairwise_append, pairwise_cons] at hd'
    obtain ⟨_, ⟨hmpost, _⟩, hprepost⟩ := hd'
    have hml : m ∈ l := by rw [e]; simp
    -- the witness pair at level r.1
    have hTG : TG l r.1 := by
      rw [hr]
      by_cases hc : qi.groupId = 0
      · obtain ⟨a, ha, hag⟩ := h6 hc
        have ham : m.index ≤ a.index := hprepost a ha m (by simp)
        refine ⟨a, by rw [e]; simp [ha], m, hml, ?_, ?_, hag ▸ h2, h1, hag ▸ h3⟩
        · simp only; exact Nat.le_trans (Nat.min_le_left _ _) ham
        · simp only; exact Nat.min_le_left _ _
      · have hcq := h5 hc
        refine ⟨qi, hqi, m, hml, ?_, ?_, hc, h1, hcq ▸ h3⟩
        · simp only; exact Nat.min_le_right _ _
        · simp only; exact Nat.min_le_left _ _
    have hmax : ∀ i, r.1 < i → i ≤ qi.index → ¬ TG l i := by
      rw [hr]
      simp only
      intro i hi hiq
      have hmi : m.index < i := by
        rcases Nat.le_total m.index qi.index with h | h
        · rw [Nat.min_eq_left h] at hi; exact hi
        · rw [Nat.min_eq_right h] at hi; omega
      rintro ⟨a, ha, b, hb, hia, hib, hag, hbg, hab⟩
      have inpre : ∀ z ∈ l, i ≤ z.index → z ∈ pre := by
        intro z hz hiz
        rw [e] at hz
        rcases mem_append.1 hz with hz | hz
        · exact hz
        · rcases mem_cons.1 hz with rfl | hz
          · omega
          · have := hmpost z hz; omega
      rcases h4 a (inpre a ha hia) with ea | ea
      · exact hag ea
      · rcases h4 b (inpre b hb hib) with eb | eb
        · exact hbg eb
        · exact hab (ea.trans eb.symm)
    refine ⟨fun _ => ⟨by rw [hr], by rw [hr]; exact Nat.min_le_right _ _, hTG, hmax⟩, ?_, ?_⟩
    · intro hn; exact absurd (by
        obtain ⟨a, ha, b, hb, _, _, h⟩ := hTG
        exact ⟨a, ha, b, hb, Nat.zero_le _, Nat.zero_le _, h⟩) hn
    · intro hn; exact absurd (by
        obtain ⟨a, ha, b, hb, _, _, h⟩ := hTG
        exact ⟨a, ha, b, hb, Nat.zero_le _, Nat.zero_le _, h⟩) hn
  | none =>
    rw [hfo] at hr
    simp only [Bool.true_and] at hr
    obtain ⟨c', _, hall⟩ := firstOther_none _ _ hfo
    have hnT : ¬ TG l 0 := by
      rintro ⟨a, ha, b, hb, _, _, hag, hbg, hab⟩
      rcases hall a ha with ea | ea
      · exact hag ea
      · rcases hall b hb with eb | eb
        · exact hbg eb
        · exact hab (ea.trans eb.symm)
    refine ⟨fun h => absurd h hnT, ?_, ?_⟩
    · intro _ hnz
      rw [hr, if_pos]
      rw [all_eq_true]
      intro a ha
      simpa using hnz a ha
    · intro _ ⟨a, ha, hz⟩
      rw [hr, if_neg]
      rw [all_eq_true]
      intro hall'
      have := hall' a ha
      simp [hz] at this

/-- **what group commit computes**, in terms of the voter set only -/
theorem groupCommit_spec (vs : List Nat) (ack : Nat → Option Index) (hne : vs ≠ []) :
    let q := (committedIndex vs ack false).1
    let r := committedIndex vs ack true
    (TwoGroups vs ack 0 → r.2 = true ∧ r.1 ≤ q ∧ TwoGroups vs ack r.1 ∧
      ∀ i, r.1 < i → i ≤ q → ¬ TwoGroups vs ack i) ∧
    (¬ TwoGroups vs ack 0 → (∀ v ∈ vs, ackGrp ack v ≠ 0) → r = (q, false)) ∧
    (¬ TwoGroups vs ack 0 → (∃ v ∈ vs, ackGrp ack v = 0) →
      r.2 = false ∧ (∃ v ∈ vs, ackIdx ack v = r.1) ∧ ∀ w ∈ vs, r.1 ≤ ackIdx ack w) := by
  intro q r
  obtain ⟨qi, last, hqi, hlast, he, _⟩ := committedIndex_unfold vs ack hne true
  obtain ⟨qi', _, hqi', _, he', _⟩ := committedIndex_unfold vs ack hne false
  rw [hqi] at hqi'
  simp only [Option.some.injEq] at hqi'
  subst hqi'
  simp only [if_true] at he
  simp only [Bool.false_eq_true, if_false] at he'
  have hq : q = qi.index := by simp only [q, he']
  have hr : r = gcScan qi.index last.index qi.groupId true (sortDesc (acks vs ack)) := he
  have hd := sortDesc_desc (acks vs ack)
  obtain ⟨s1, s2, s3⟩ := gcScan_spec _ hd qi (mem_of_getElem? hqi) last.index
  simp only [TG_sorted] at s1 s2 s3
  rw [← hr] at s1 s2 s3
  rw [← hq] at s1 s2
  refine ⟨s1, ?_, ?_⟩
  · intro hn hall
    apply s2 hn
    intro a ha
    obtain ⟨v, hv, rfl⟩ := mem_sorted.1 ha
    exact hall v hv
  · intro hn ⟨v, hv, hz⟩
    have := s3 hn ⟨_, mem_sorted.2 ⟨v, hv, rfl⟩, hz⟩
    rw [this]
    obtain ⟨hmem, hmin⟩ := desc_getLast_le _ hd last hlast
    obtain ⟨w, hw, e⟩ := mem_sorted.1 hmem
    refine ⟨rfl, ⟨w, hw, by simp [ackIdx, e]⟩, ?_⟩
    intro u hu
    exact hmin _ (mem_sorted.2 ⟨u, hu, rfl⟩)

/-! ### votes -/

theorem voteCount_eq (check : Nat → Option Bool) (vs : List Nat) (y m : Nat) :
    voteCount check vs (y, m) = (y + yesCount vs check, m + missingCount vs check) := by
  induction vs generalizing y m with
  | nil => simp [voteCount, yesCount, missingCount]
  | cons v vs ih =>
    simp only [voteCount]
    cases hc : check v with
    | none =>
      simp only [ih, yesCount, missingCount, countP_cons, hc]
      simp; omega
    | some b =>
      cases b <;> simp only [ih, yesCount, missingCount, countP_cons, hc] <;> simp <;> omega

theorem voteResult_eq (vs : List Nat) (check : Nat → Option Bool) :
    voteResult vs check =
      if vs = [] then .won
      else if majority vs.length ≤ yesCount vs check then .won
      else if majority vs.length ≤ yesCount vs check + missingCount vs check then .pending
      else .lost := by
  cases vs with
  | nil => simp [voteResult]
  | cons v vs =>
    simp only [voteResult, voteCount_eq, isEmpty_cons, Bool.false_eq_true, if_false, Nat.zero_add]
    simp

end Majority

/-! ### pigeonhole -/

/-- two predicates that each hold on a majority of a list hold together on some element -/
theorem countP_majorities_meet (vs : List Nat) (p q : Nat → Bool)
    (hp : majority vs.length ≤ vs.countP p) (hq : majority vs.length ≤ vs.countP q) :
    ∃ v ∈ vs, p v = true ∧ q v = true := by
  have key : ∀ l : List Nat, l.countP p + l.countP q ≤ l.length + l.countP (fun v => p v && q v) := by
    intro l
    induction l with
    | nil => simp
    | cons a l ih =>
      simp only [countP_cons, length_cons]
      cases p a <;> cases q a <;> simp <;> omega
  have h2 := two_majorities vs.length
  have : 0 < vs.countP (fun v => p v && q v) := by have := key vs; omega
  obtain ⟨v, hv, hpq⟩ := countP_pos_iff.1 this
  simp only [Bool.and_eq_true] at hpq
  exact ⟨v, hv, hpq.1, hpq.2⟩

/-- **Quorum intersection** (pigeonhole on duplicate-free lists): two duplicate-free sub-lists of
`vs`, each holding a majority of `vs`, share an element. -/
theorem majorities_intersect (vs A B : List Nat) (_hvs : vs.Nodup) (hA : A ⊆ vs) (hB : B ⊆ vs)
    (hAn : A.Nodup) (hBn : B.Nodup) (hAm : majority vs.length ≤ A.length)
    (hBm : majority vs.length ≤ B.length) : ∃ v, v ∈ A ∧ v ∈ B := by
  apply Classical.byContradiction
  intro hno
  have hdis : ∀ a ∈ A, ∀ b ∈ B, a ≠ b := by
    intro a ha b hb hab
    subst hab
    exact hno ⟨a, ha, hb⟩
  have hnd : (A ++ B).Nodup := nodup_append.2 ⟨hAn, hBn, hdis⟩
  have hsub : A ++ B ⊆ vs := by
    intro x hx
    rcases mem_append.1 hx with h | h
    · exact hA h
    · exact hB h
  have := hnd.length_le_of_subset hsub
  have := two_majorities vs.length
  simp only [length_append] at *
  omega

theorem quorums_intersect (vs A B : List Nat) (hA : IsQuorum vs A) (hB : IsQuorum vs B) :
    ∃ v ∈ vs, v ∈ A ∧ v ∈ B := by
  obtain ⟨v, hv, h1, h2⟩ := countP_majorities_meet vs _ _ hA hB
  exact ⟨v, hv, by simpa using h1, by simpa using h2⟩

theorem joint_quorums_intersect (c : JointConfig) (A B : List Nat)
    (hne : c.incoming ≠ [] ∨ c.outgoing ≠ [])
    (hA : IsJointQuorum c A) (hB : IsJointQuorum c B) :
    ∃ v, (v ∈ c.incoming ∨ v ∈ c.outgoing) ∧ v ∈ A ∧ v ∈ B := by
  rcases hne with h | h
  · obtain ⟨v, hv, h1, h2⟩ := quorums_intersect _ A B (hA.1 h) (hB.1 h)
    exact ⟨v, Or.inl hv, h1, h2⟩
  · obtain ⟨v, hv, h1, h2⟩ := quorums_intersect _ A B (hA.2 h) (hB.2 h)
    exact ⟨v, Or.inr hv, h1, h2⟩

end RaftModel
