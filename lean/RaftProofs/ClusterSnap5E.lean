import RaftProofs.ClusterSnapBaseTime

/-!
Commit safety of `ClusterSem` with compaction and snapshots, part 5E: the hypotheses `Snap5.Hyp2w`, `Hyp2`
and `GHyp2w q` (without `q` no snapshot is ever pending: `GHyp2w.nopend`, `q_of_pend`); the per-call facts
for a call that is not the delivery of a snapshot and runs without a pending snapshot (`call_facts`,
`call_more`; a compaction touches only the storage, `Snap.compact_out`), provenance of `MsgAppend`s,
`MsgHeartbeat`s and `MsgSnapshot`s, the nodes of a history (`node_ok`); with these a history under `GHyp2w q`
has the facts of `ClusterSnapBase.lean` (`GHyp2w.facts0`) and of `ClusterSnapBaseTime.lean` (`GHyp2w.factsT`,
every queue counts), whose theorems are restated here for the bundle where other modules use them.
-/

namespace RaftModel
namespace Cluster
namespace Snap5
open Node Raft Raft.CC RaftProps.C02 RaftProps.C05 Snap

variable {q : Prop} {cfg : JointConfig} {c0 : Nat} {h : List Sys}

/-- **the hypotheses of the commit layer** on top of `Hyp` without the proof gap `norir` (cf.
`Snap.Hyp2w`; `nopend` is gone): `nolone`, `first0`, `initc`, `pend0` as in `Hyp2` below -/
structure Hyp2w (cfg : JointConfig) (c0 : Nat) (h : List Sys) : Prop extends Hyp cfg h where
  nolone : ∀ i Q, IsJointQuorum cfg Q → ∃ k ∈ Q, k ≠ i
  first0 : ∀ s : Sys, h[0]? = some s → ∀ i st, s.node i = some st →
    st.raft.raftLog.store.firstIndex = c0 + 1
  initc : ∀ s : Sys, h[0]? = some s → ∀ i st, s.node i = some st → st.raft.raftLog.committed = c0
  pend0 : ∀ s : Sys, h[0]? = some s → ∀ i st, s.node i = some st →
    st.raft.raftLog.unstable.snapshot = none

/-- `Hyp2w` on top of `GHyp` — the bundle every lemma of this development takes -/
structure GHyp2w (q : Prop) (cfg : JointConfig) (c0 : Nat) (h : List Sys) : Prop
    extends GHyp q cfg h where
  nolone : ∀ i Q, IsJointQuorum cfg Q → ∃ k ∈ Q, k ≠ i
  first0 : ∀ s : Sys, h[0]? = some s → ∀ i st, s.node i = some st →
    st.raft.raftLog.store.firstIndex = c0 + 1
  initc : ∀ s : Sys, h[0]? = some s → ∀ i st, s.node i = some st → st.raft.raftLog.committed = c0
  pend0 : ∀ s : Sys, h[0]? = some s → ∀ i st, s.node i = some st →
    st.raft.raftLog.unstable.snapshot = none

theorem Hyp2w.g {cfg : JointConfig} {c0 : Nat} {h : List Sys} (H : Hyp2w cfg c0 h) :
    GHyp2w True cfg c0 h :=
  { toGHyp := H.toHyp.g, nolone := H.nolone, first0 := H.first0, initc := H.initc, pend0 := H.pend0 }

/-- **the hypotheses of the commit layer as first stated** (`RaftProps/C01e.lean`, part 2) on top of
`Hyp` (cf. `Snap.Hyp2`; `nopend` is gone):
* `nolone`: no joint quorum of `cfg` fits into a single node;
* `first0`: in the initial state every storage has the first index `c0 + 1`;
* `initc`: in the initial state every commit index is `c0`;
* `norir` (**proof gap**): no `MsgReadIndexResp` is ever in the transport;
* `pend0` (a fact of the model, like the no-new-pending premises of `KStep`): a freshly booted node
  has no pending snapshot. -/
structure Hyp2 (cfg : JointConfig) (c0 : Nat) (h : List Sys) : Prop extends Hyp cfg h where
  nolone : ∀ i Q, IsJointQuorum cfg Q → ∃ k ∈ Q, k ≠ i
  first0 : ∀ s : Sys, h[0]? = some s → ∀ i st, s.node i = some st →
    st.raft.raftLog.store.firstIndex = c0 + 1
  initc : ∀ s : Sys, h[0]? = some s → ∀ i st, s.node i = some st → st.raft.raftLog.committed = c0
  norir : ∀ s ∈ h, ∀ x ∈ s.net, x.msgType ≠ .msgReadIndexResp
  pend0 : ∀ s : Sys, h[0]? = some s → ∀ i st, s.node i = some st →
    st.raft.raftLog.unstable.snapshot = none

theorem Hyp2.toHyp2w {cfg : JointConfig} {c0 : Nat} {h : List Sys} (H : Hyp2 cfg c0 h) :
    Hyp2w cfg c0 h :=
  { toHyp := H.toHyp, nolone := H.nolone, first0 := H.first0, initc := H.initc, pend0 := H.pend0 }

/-- **a leader's term is in its storage** -/
theorem leader_floor {q : Prop} {cfg : JointConfig} {c0 : Nat} {h : List Sys}
    (H : GHyp2w q cfg c0 h) {s : Sys}
    (hs : s ∈ h) {k τ : Nat} (hl : leads s k τ) : TermFloor s k τ :=
  leader_floor_of H.hist H.fix H.nolone hs hl

theorem GHyp2w.inv_at (H : GHyp2w q cfg c0 h) :
    ∃ s0, h[0]? = some s0 ∧ ∀ s ∈ h, InvL (Owner h) (EntriesOf s0) s := H.toGHyp.invL

/-- without `q` no snapshot is ever pending: none is delivered -/
theorem GHyp2w.nopend (H : GHyp2w q cfg c0 h) (nq : ¬ q) : ∀ (n : Nat) (s : Sys), h[n]? = some s →
    ∀ v st, s.node v = some st → st.raft.raftLog.unstable.snapshot = none := by
  refine hist_induct h _ (fun s h0 => H.pend0 s h0) ?_
  intro n a b ha hb ih v stb hvb
  obtain ⟨k, stk, stk', hka, hkb, hoth, hs⟩ := H.stp ha hb
  by_cases hvk : v = k
  · subst hvk
    rw [hkb] at hvb; cases hvb
    cases hs with
    | call _ _ _ _ _ _ _ _ _ _ _ hpn' _ => exact hpn'
    | snap _ m hm _ hty _ _ _ => exact absurd (H.q_of_net ha hm hty) nq
    | psnap _ _ _ hpend _ => exact absurd (ih v stk hka) hpend
    | send _ _ _ hsame _ _ => rw [hsame.1]; exact ih v stk hka
    | restart _ _ _ _ hpn' => exact hpn'
  · rw [hoth v hvk] at hvb
    exact ih v stb hvb

/-- a pending snapshot was delivered as a `MsgSnapshot`: the snapshot clauses are in force -/
theorem GHyp2w.q_of_pend (H : GHyp2w q cfg c0 h) {n : Nat} {s : Sys} (hn : h[n]? = some s) {v : Nat}
    {st : NState} (hv : s.node v = some st) (hp : st.raft.raftLog.unstable.snapshot ≠ none) : q :=
  Classical.byContradiction fun nq => hp (H.nopend nq n s hn v st hv)

theorem Hyp2.inv_at (H : Hyp2 cfg c0 h) :
    ∃ s0, h[0]? = some s0 ∧ ∀ s ∈ h, InvL (Owner h) (EntriesOf s0) s := H.toHyp.g.invL

/-- everything the node-level layers say about one `call` / `deliver` step of the history -/
theorem call_facts (H : GHyp2w q cfg c0 h) {n : Nat} {a : Sys} {i : Nat} {st st' : NState}
    {rnd : Option Nat} {op : NodeOp} {res : OpRes}
    (ha : h[n]? = some a) (hi : a.node i = some st)
    (hop : appOp op = true ∨ ∃ m, op = .step m ∧ m ∈ a.net ∧ m.to = i)
    (hc : ∀ j, op = .compact j → CompactOk st.raft.raftLog j)
    (hms : ∀ m, op = .step m → m.msgType ≠ .msgSnapshot)
    (hpend : st.raft.raftLog.unstable.snapshot = none)
    (hcall : Node.call st rnd op = .ok (res, st')) :
    G (Anet a.net) st.raft (CV.opMsg op) st'.raft ∧ LStep st.raft st'.raft (CV.opMsg op) ∧
    QF st.raft st'.raft ∧ LogRel' st st' op ∧ st.raft.id = i := by
  obtain ⟨s0, _, hall⟩ := H.inv_at
  have I := hall a (mem_of_get ha)
  have hnb := H.nb a (mem_of_get ha)
  have hop1 : appOp op = true ∨ ∃ m, op = .step m ∧ m ∈ a.net := by
    rcases hop with g | ⟨m, g1, g2, _⟩
    · exact .inl g
    · exact .inr ⟨m, g1, g2⟩
  have hop' : op ≠ .drain ∧ ∀ m, op ≠ .rstep m := by
    rcases hop1 with h1 | ⟨m, h1, _⟩
    · constructor
      · intro hc; rw [hc] at h1; cases h1
      · intro m hc; rw [hc] at h1; cases h1
    · rw [h1]
      exact ⟨(by intro hc; cases hc), (by intro m' hc; cases hc)⟩
  have g := kstep_g (H.mokc n a ha) hnb hi hop1 hms hcall
  have hw : ∀ m, op = .step m → m.msgType = .msgAppend → MsgOk m := by
    intro m hm hty
    rcases hop1 with h1 | ⟨m', h1, h2⟩
    · rw [hm] at h1; cases h1
    · rw [hm] at h1; cases h1
      exact I.msgOk h2 hty
  have hL := call_lstep st st' rnd op res (I.inv i st hi) (hnb i st hi) hop' hw hc hcall
  have hid := (((hist_all H.hist).1 a (mem_of_get ha)).ids i st hi).1
  by_cases hco : ∃ j, op = .compact j
  · obtain ⟨j, rfl⟩ := hco
    have hout := compact_out (I.inv i st hi) hpend (hc j rfl) hcall
    exact ⟨g, hL, fun x hx _ => .inl (by rw [← hout.msgs]; exact hx), .inr ⟨j, rfl, hout⟩, hid⟩
  · have hnc : ∀ j, op ≠ .compact j := fun j hj => hco ⟨j, hj⟩
    have hq := call_q st st' rnd op res (I.inv i st hi) (hnb i st hi) hop' hms hnc hpend
      (fun x hx hty => by
        rcases g.qlk x hx (by rw [hty]; rfl) with c | c
        · exact .inl c
        · exact .inr c.lead) hcall
    exact ⟨g, hL, hq.q, .inl hq.l, hid⟩

/-- **provenance of `MsgAppend`s** (the record is `Cluster.AppGen`) -/
theorem append_prov (H : GHyp2w q cfg c0 h) : ∀ (n : Nat) (s : Sys), h[n]? = some s →
    (∀ i st, s.node i = some st → ∀ x ∈ st.raft.msgs, x.msgType = .msgAppend →
      Gen (AppGen h) n i x) ∧
    (∀ x ∈ s.net, x.msgType = .msgAppend → ∃ i, Gen (AppGen h) n i x) := by
  refine GHyp.provenance H.toGHyp (fun x => x.msgType = .msgAppend)
    (fun x hx hc => by rw [hx] at hc; cases hc) (AppGen h) ?_
  intro n a b i st st' rnd op res ha hb hi hi' hcall hop hco hns hpn _ _ x hx hty
  obtain ⟨g, _, hq, _, hid⟩ := call_facts H ha hi hop hco hns hpn hcall
  rcases g.qlk x hx (by rw [hty]; rfl) with c | c
  · exact .inl c
  · rcases hq x hx hty with d | d
    · exact .inl d
    · right
      exact ⟨b, st', hb, hi', c.lead, c.term.symm, c.frm.trans (g.id.trans hid), (c.app hty).1,
        (c.app hty).2, d⟩

/-- **provenance of `MsgHeartbeat`s** (the record is `Cluster.HbGen`) -/
theorem hb_prov (H : GHyp2w q cfg c0 h) : ∀ (n : Nat) (s : Sys), h[n]? = some s →
    (∀ i st, s.node i = some st → ∀ x ∈ st.raft.msgs, x.msgType = .msgHeartbeat →
      Gen (HbGen h) n i x) ∧
    (∀ x ∈ s.net, x.msgType = .msgHeartbeat → ∃ i, Gen (HbGen h) n i x) := by
  refine GHyp.provenance H.toGHyp (fun x => x.msgType = .msgHeartbeat)
    (fun x hx hc => by rw [hx] at hc; cases hc) (HbGen h) ?_
  intro n a b i st st' rnd op res ha hb hi hi' hcall hop hco hns hpn _ hnet x hx hty
  obtain ⟨g, _, _, _, hid⟩ := call_facts H ha hi hop hco hns hpn hcall
  rcases g.qlk x hx (by rw [hty]; rfl) with c | c
  · exact .inl c
  · right
    have hid' : st'.raft.id = i := g.id.trans hid
    refine ⟨b, st', hb, hi', c.lead, c.term.symm, c.frm.trans hid', (c.hb hty).1, ?_⟩
    rcases (c.hb hty).2 with d | d
    · exact .inl d
    · right; rw [hnet, c.term]; exact d

/-- the commit index, the stored entries and the stored hard state over one `call` / `deliver` step of
the history (`Cluster.call_more`; a compaction keeps the commit index and the hard state) -/
theorem call_more (H : GHyp2w q cfg c0 h) {n : Nat} {a : Sys} {i : Nat} {st st' : NState}
    {rnd : Option Nat} {op : NodeOp} {res : OpRes}
    (ha : h[n]? = some a) (hi : a.node i = some st)
    (hop : appOp op = true ∨ ∃ m, op = .step m ∧ m ∈ a.net ∧ m.to = i)
    (hc : ∀ j, op = .compact j → CompactOk st.raft.raftLog j)
    (hms : ∀ m, op = .step m → m.msgType ≠ .msgSnapshot)
    (hs1 : st.raft.raftLog.unstable.snapshot = none)
    (hcall : Node.call st rnd op = .ok (res, st')) :
    Src st st' op ∧
    (SE st.raft st'.raft ∨ op = .stabilize ∨ ∃ k, op = .compact k ∧ CompactOut st st' k) ∧
    HsOut st st' op := by
  obtain ⟨s0, _, hall⟩ := H.inv_at
  have I := hall a (mem_of_get ha)
  have hnb := H.nb a (mem_of_get ha)
  have hop' : op ≠ .drain ∧ ∀ m, op ≠ .rstep m := by
    rcases hop with h1 | ⟨m, h1, _⟩
    · constructor
      · intro hc; rw [hc] at h1; cases h1
      · intro m hc; rw [hc] at h1; cases h1
    · rw [h1]
      exact ⟨(by intro hc; cases hc), (by intro m' hc; cases hc)⟩
  have hw : ∀ m, op = .step m → m.msgType = .msgAppend → MsgOk m := by
    intro m hm hty
    rcases hop with h1 | ⟨m', h1, h2, _⟩
    · rw [hm] at h1; cases h1
    · rw [hm] at h1; cases h1
      exact I.msgOk h2 hty
  have hhs := call_hs st st' rnd op res hop' hs1 hcall
  by_cases hco : ∃ j, op = .compact j
  · obtain ⟨j, rfl⟩ := hco
    have hout := compact_out (I.inv i st hi) hs1 (hc j rfl) hcall
    exact ⟨Src.of_eq hout.committed, .inr (.inr ⟨j, rfl, hout⟩), hhs⟩
  · have hnc : ∀ j, op ≠ .compact j := fun j hj => hco ⟨j, hj⟩
    refine ⟨call_src st st' rnd op res (I.inv i st hi) hop' hnc hs1 hcall, ?_, hhs⟩
    rcases call_sto st st' rnd op res (I.inv i st hi) (hnb i st hi) hop' hw hms hnc hs1 hcall with c | c
    · exact .inl c
    · exact .inr (.inl c)

/-- the shape of every node of a history under `Hyp2` -/
structure NodeOk (i : Nat) (st : NState) : Prop where
  inv : st.raft.raftLog.Inv
  sidx : st.raft.raftLog.unstable.snapshot = none →
    (storeLog st.raft.raftLog.store).snapIdx = st.raft.raftLog.abs.snapIdx
  sterm : st.raft.raftLog.unstable.snapshot = none →
    (storeLog st.raft.raftLog.store).snapTerm = st.raft.raftLog.abs.snapTerm
  id : st.raft.id = i
  nb : st.raft.batchAppend = false
  req : st.raft.pendingRequestSnapshot ≠ 0 →
    st.raft.raftLog.lastIndex ≤ st.raft.pendingRequestSnapshot

theorem node_ok (H : GHyp2w q cfg c0 h) {n : Nat} {s : Sys} (hn : h[n]? = some s) {i : Nat}
    {st : NState} (hi : s.node i = some st) : NodeOk i st := by
  obtain ⟨s0, _, hall⟩ := H.inv_at
  have hm := mem_of_get hn
  refine ⟨(hall s hm).inv i st hi, fun h1 => ?_, fun h1 => ?_,
    (((hist_all H.hist).1 s hm).ids i st hi).1, H.nb s hm i st hi, H.reqok s hm i st hi⟩
  · rw [RaftLog.abs_none h1]; rfl
  · rw [RaftLog.abs_none h1]; rfl

/-- the snapshot point is not beyond the commit index -/
theorem snapIdx_le_committed {l : RaftLog} (hinv : l.Inv) : l.abs.snapIdx ≤ l.committed := by
  have := hinv.dummy_le_committed
  rw [hinv.firstIndex_abs] at this
  simp only [LLog.firstIndex] at this
  omega

theorem NodeOk.snap_le {i : Nat} {st : NState} (o : NodeOk i st) :
    st.raft.raftLog.abs.snapIdx ≤ st.raft.raftLog.committed := snapIdx_le_committed o.inv

/-- without a pending snapshot the snapshot point of the log is that of the storage -/
theorem storeLog_snapIdx {l : RaftLog} (hp : l.unstable.snapshot = none) :
    (storeLog l.store).snapIdx = l.abs.snapIdx := by
  rw [RaftLog.abs_none hp]; rfl

/-- **provenance of `MsgSnapshot`s**, where `SnapSend` is in force -/
theorem snap_prov (H : GHyp2w q cfg c0 h) (hq : q) : ∀ (n : Nat) (s : Sys), h[n]? = some s →
    (∀ i st, s.node i = some st → ∀ x ∈ st.raft.msgs, x.msgType = .msgSnapshot →
      Gen (SnapGen h) n i x) ∧
    (∀ x ∈ s.net, x.msgType = .msgSnapshot → ∃ i, Gen (SnapGen h) n i x) := by
  refine GHyp.provenance H.toGHyp (fun x => x.msgType = .msgSnapshot)
    (fun x hx hc => by rw [hx] at hc; cases hc) (SnapGen h) ?_
  intro n a b i st st' rnd op res ha hb hi hi' hcall hop hco hns hpn hss _ x hx hty
  obtain ⟨g, hL, _, _, hid⟩ := call_facts H ha hi hop hco hns hpn hcall
  by_cases hold : x ∈ st.raft.msgs
  · exact .inl hold
  rcases g.qlk x hx (by rw [hty]; rfl) with c | c
  · exact .inl c
  · right
    exact ⟨n, a, b, st, st', rfl, ha, hb, hi, hi', c.lead, c.term.symm, c.frm.trans (g.id.trans hid),
      hL.rt.le, hss hq x hx hold hty, hpn⟩

/-- a history under `GHyp2w q` has the facts the message-level invariants rest on -/
theorem GHyp2w.facts0 (H : GHyp2w q cfg c0 h) : Facts0 q cfg h := by
  obtain ⟨s0, _, hall⟩ := H.inv_at
  exact
    { hist := H.hist, fix := H.fix, ne := H.ne, nd1 := H.nd1, nd2 := H.nd2, nolone := H.nolone,
      init := H.init
      rels := fun n a b ha hb => ⟨(H.steps n a b ha hb).step,
        cstep_nodeRel (hall a (mem_of_get ha)) (H.nb a (mem_of_get ha)) (H.steps n a b ha hb).cstep⟩
      node_inv := fun hn _ _ hi => (node_ok H hn hi).inv
      stp := H.stp
      q_of_net := H.q_of_net
      node_id := fun hn _ _ hi => (node_ok H hn hi).id
      lead_tz := fun hn _ _ hl hs => (hall _ (mem_of_get hn)).tz _ _ hl (.inr hs)
      msg_ok := fun {n a} ha {m} hm hty =>
        have I := hall a (mem_of_get ha)
        ⟨I.msgOk hm hty,
          fun k st hk => I.agree .net (msgLog m) (.log k) _ ⟨m, hm, hty, rfl⟩ ⟨st, hk, rfl⟩⟩
      call_out := fun ha _ hi _ _ hop hc hms hpend hcall =>
        have g := call_facts H ha hi hop hc hms hpend hcall
        ⟨g.2.1.rt, g.2.2.2.1, g.1.qak, g.1.qrq⟩
      append_prov := fun n s hn => (append_prov H n s hn).2
      snap_prov := fun hq n s hn => (snap_prov H hq n s hn).2 }

theorem no_restart_between (H : GHyp2w q cfg c0 h) {n d : Nat} {s s' : Sys} {l t : Nat}
    (hn : h[n]? = some s) (hn' : h[n + d]? = some s') (hl : leads s l t) (hl' : leads s' l t) :
    ∀ m a b, n ≤ m → m < n + d → h[m]? = some a → h[m + 1]? = some b → ¬ IsRestart l a b :=
  H.facts0.no_restart_between hn hn' hl hl'

theorem lead_above_init (H : GHyp2w q cfg c0 h) {s0 : Sys} (h0 : h[0]? = some s0) {l : Nat}
    {st0 : NState} (hl0 : s0.node l = some st0) {n : Nat} {s : Sys} (hn : h[n]? = some s) {t : Nat}
    (hl : leads s l t) : st0.raft.term < t :=
  H.facts0.lead_above_init h0 hl0 hn hl

theorem ack_inv (H : GHyp2w q cfg c0 h) : ∀ (n : Nat) (s : Sys), h[n]? = some s → AckQ s ∧ AckN s :=
  H.facts0.ack_inv

theorem node_step (H : GHyp2w q cfg c0 h) {n : Nat} {a b : Sys} (ha : h[n]? = some a)
    (hb : h[n + 1]? = some b) {v : Nat} {sta stb : NState} (hva : a.node v = some sta)
    (hvb : b.node v = some stb) : NodeStep a v sta stb :=
  H.facts0.node_step ha hb hva hvb

/-- a history under `GHyp2w q` has the facts Log Matching across time rests on; every queue counts -/
theorem GHyp2w.factsT (H : GHyp2w q cfg c0 h) : FactsT allQ cfg h := by
  obtain ⟨s0, h0, hall⟩ := H.inv_at
  exact
    { toFactsR := H.facts0.toFactsR
      inv_at := ⟨s0, h0, fun s hs => by rw [entriesOf_live]; exact invL_live.1 (hall s hs)⟩
      trans := fun {n a b} ha hb => by
        obtain ⟨k, st, st', pers, crash, T⟩ :=
          trans_of_cstep (hall a (mem_of_get ha)) (H.nb a (mem_of_get ha)) (H.steps n a b ha hb).cstep
        exact ⟨k, st, st', pers, crash, trans_live.1 T⟩ }

/-- **Log Matching across time**: any two chains of any two states of the history agree -/
theorem agree_all (H : GHyp2w q cfg c0 h) (n n' : Nat) (s s' : Sys) (hn : h[n]? = some s)
    (hn' : h[n']? = some s') (l1 l2 : Loc) (g1 g2 : LLog) (h1 : At s l1 g1) (h2 : At s' l2 g2) :
    Agree g1 g2 :=
  H.factsT.agree_all n n' s s' hn hn' l1 l2 g1 g2 (at_live.1 h1) (at_live.1 h2)

theorem entry_prov (H : GHyp2w q cfg c0 h) :
    ∃ s0, h[0]? = some s0 ∧ ∀ (n : Nat) (s : Sys), h[n]? = some s → ∀ loc g, At s loc g →
      ∀ q e, g.entryAt q = some e → EntriesOf s0 e ∨ Born h n q e := by
  obtain ⟨s0, h0, hp⟩ := H.factsT.entry_prov
  rw [entriesOf_live] at hp
  exact ⟨s0, h0, fun n s hn loc g hat => hp n s hn loc g (at_live.1 hat)⟩

/-- an entry of the initial state has a term below every term that is ever led -/
theorem init_entry_term (H : GHyp2w q cfg c0 h) {s0 : Sys} (h0 : h[0]? = some s0) {e : Entry}
    (he : EntriesOf s0 e) {n : Nat} {s : Sys} (hn : h[n]? = some s) {l t : Nat}
    (hl : leads s l t) : e.term < t :=
  H.factsT.init_entry_term h0 (by rw [entriesOf_live]; exact he) hn hl

/-- the chains of a history agree pairwise (Log Matching across time) -/
theorem hist_agree (H : GHyp2w q cfg c0 h) : ∀ g g', HistChain h g → HistChain h g' → Agree g g' := by
  rintro g g' ⟨m, s, l, hm, hat⟩ ⟨m', s', l', hm', hat'⟩
  exact agree_all H m m' s s' hm hm' l l' g g' hat hat'

end Snap5
end Cluster
end RaftModel
