import RaftProofs.ClusterSnapHyp
import RaftProofs.ClusterCommit3H
import RaftProofs.ClusterCommit4M

/-!
Commit safety of `ClusterSem` with log compaction, the test histories (kernel-evaluated, as lists of
moves): `cx_hist` (a history with a real compaction, under `Snap.Hyp3`), `dx_hist` (the counterexample to
relabelled snapshots: `MemStorage::snapshot` with a request index beyond its snapshot index), `gx_hist`
(under `Snap.Hyp3w`, with a served `MsgReadIndex`).

**`cx_hist`: a concrete history with a real compaction** that satisfies every hypothesis of the
compaction layer (`Snap.Hyp3`).  The history of `ClusterCommit3H` (node 1 is elected leader of term 1 and commits its empty entry with
the acknowledgement of node 2) continued by nine steps: node 1 is proposed an entry (index 2), persists
it (`stabilize`, `on_persist_entries(2, 1)`) and sends its `MsgAppend`s; node 2 is delivered the one
that carries the entry, persists and sends its accepting response; node 1 is delivered the response and
moves its commit index to 2; finally **the application of node 1 compacts its log up to index 2**
(`compact 2`): entry 1 is dropped, the snapshot point of node 1 moves from 0 to 1 and its term is
forgotten.

**`dx_hist`: snapshots need a contract clause** — a history in which
`MemStorage::snapshot(request_index)` *relabels* a snapshot (finding (a) of the C01c report) and a
follower ends up with a commit index no leader has reached.  The history `cx_hist` up to the moment node 2 has persisted entry 2 and handed its
acknowledgement to the transport (which never delivers it: node 1's commit index stays 1), continued by:

1. the application of node 1 applies entry 1 (`commit_apply 1`): its storage records commit index 1;
2. the application of node 2 calls `request_snapshot`: node 2 queues a rejecting `MsgAppendResponse`
   with `request_snapshot = 2` (its last index), and sends it;
3. node 1 is delivered the request: `prepare_send_snapshot` asks its storage for a snapshot with
   `request_index = 2`; the storage's snapshot is at its commit index **1**, and
   `MemStorage::snapshot` sets the metadata index to the requested **2** — the `MsgSnapshot` claims
   index 2 with the term of index 1; node 1 sends it;
4. node 2 is delivered the snapshot and restores it (a requested snapshot is not fast-forwarded):
   its commit index is now **2**.

Every step obeys `Snap.KStep`; what is violated is the clause of the storage contract that the
commit layer needs for snapshots: *a storage answers `snapshot(request_index)` only when its snapshot
index is at least `request_index`* (`SnapshotTemporarilyUnavailable` otherwise).

**`gx_hist`: a concrete history with a `MsgReadIndexResp` in the transport and, later, a real
compaction** that satisfies `Snap.Hyp3w` — the hypotheses of `RaftProps/C01g.lean`, under which neither
`norir` nor `anch` is assumed.  The history of `ClusterCommit4M` (`c01y_hist`: node 1 leads term 1 with commit index 1; node 3 asks for
a read index, node 1 answers with a `MsgReadIndexResp`, whose delivery moves the commit index of node 3
from 0 to 1) continued by nine steps as in `cx_hist`: node 1 is proposed an entry (index 2),
persists it and sends its `MsgAppend`; node 2 is delivered it, persists and sends its accepting
response; node 1 is delivered the response and moves its commit index to 2; finally the application of
node 1 **compacts its log up to index 2** (`compact 2`).
-/
namespace RaftProps.C05.Move
open RaftModel RaftModel.Cluster RaftModel.Node RaftModel.Raft RaftModel.Raft.CC RaftProps.C02

/-- what `Snap.KStep` asks beyond `CStep`: `commit_apply` only within the persisted part of the log and
with term and vote persisted, and a node that is not the leader sends only with nothing unstable -/
def okPersist : Move → Bool
  | .call _ st (.commitApply k) =>
    decide (k ≤ st.raft.raftLog.persisted) &&
      decide (st.raft.raftLog.store.hardState.term = st.raft.term) &&
      decide (st.raft.raftLog.store.hardState.vote = st.raft.vote)
  | .send _ st =>
    decide (st.raft.state ≠ .leader →
      st.raft.raftLog.unstable.entries = [] ∧ st.raft.raftLog.unstable.snapshot = none)
  | _ => true

theorem kstepS (s : Sys) (mv : Move) (hn : s.node mv.node = some mv.st)
    (h : (mv.ok s && mv.okC && mv.okPersist) = true) : Snap.KStep s (mv.next s) := by
  cases mv with
  | call i st op =>
    simp only [ok, Bool.and_eq_true] at h
    refine Snap.KStep.call s i st _ none op _ hn h.1.1.1 (fun k hc => ?_) (fun k hc => ?_)
      (c02x_out _ h.1.1.2) <;> subst hc
    · simpa [okC, CompactOk] using h.1.2
    · simpa [okPersist, hsPersisted, and_assoc] using h.2
  | deliver i st m =>
    simp only [ok, Bool.and_eq_true, decide_eq_true_eq] at h
    exact Snap.KStep.deliver s i st _ none m _ hn h.1.1.1.1 h.1.1.1.2 (c02x_out _ h.1.1.2)
  | send i st =>
    simp only [ok, okPersist, Bool.and_eq_true, decide_eq_true_eq] at h
    exact Snap.KStep.send s i st _ hn h.1.1.1 h.2 (drain_eq h.1.1.2)
  | restart i st =>
    simp only [ok, Bool.and_eq_true] at h
    exact Snap.KStep.restart s i st _ (c02x_config i) none hn rfl (cf_bootOf_eq i st h.1.1)

theorem kstepsS (s : Sys) (l : List Move) (hf : found s l = l.map (some ·.st))
    (h : all (fun s mv => mv.ok s && mv.okC && mv.okPersist) s l = true) :
    Chained Snap.KStep (s :: run s l) :=
  chained kstepS s l hf h

end RaftProps.C05.Move

namespace RaftModel
namespace Cluster
namespace Snap
open Node Raft Raft.CC RaftProps.C02 RaftProps.C05

/-! ### what the test histories of the compaction and snapshot layers share -/

/-- the call returned `.ok` -/
def c02x_okOk (x : Out) : Bool :=
  match x with
  | .ok (.ok, _) => true
  | _ => false

/-- the outcome of an evaluated call, with the result `.ok` read off -/
theorem c02x_out' (x : Out) (h : c02x_okOk x = true) : x = .ok (.ok, c02x_st x) := by
  cases x with
  | ok p =>
    obtain ⟨r, st⟩ := p
    cases r <;> first | rfl | cases h
  | err e => cases h
  | panic s => cases h

theorem getIdx_mem (l : List Message) (i : Nat) (h : i < l.length) : l[i]! ∈ l := by
  rw [getElem!_pos l i h]; exact List.getElem_mem h

/-- the nodes of the initial state of the test histories: first index 1, commit index 0, no pending
snapshot, snapshot term 0 -/
theorem c02x_s0_facts {i : Nat} {st : NState} (hi : c02x_s0.node i = some st) :
    st.raft.raftLog.store.firstIndex = 0 + 1 ∧ st.raft.raftLog.committed = 0 ∧
    st.raft.raftLog.unstable.snapshot = none ∧ st.raft.raftLog.abs.snapTerm = some 0 :=
  have all : ∀ p ∈ c02x_s0.nodes, p.2.raft.raftLog.store.firstIndex = 0 + 1 ∧
      p.2.raft.raftLog.committed = 0 ∧ p.2.raft.raftLog.unstable.snapshot = none ∧
      p.2.raft.raftLog.abs.snapTerm = some 0 := by decide +kernel
  all _ (c02_lookup_mem _ i st hi)

/-! ### the states -/

def cx_a9 := c02x_st (Node.call c01x_a8 none (.propose [] [1]))
def cx_a10 := c02x_st (Node.call cx_a9 none .stabilize)
def cx_a11 := c02x_st (Node.call cx_a10 none (.onPersistEntries 2 1))
def cx_a12 := c02x_st (Node.call cx_a11 none .drain)
/-- the `MsgAppend` of node 1 for node 2 that carries entry 2 -/
def cx_app := cx_a11.raft.msgs[1]!
def cx_b7 := c02x_st (Node.call c01x_b6 none (.step cx_app))
def cx_b8 := c02x_st (Node.call cx_b7 none .stabilize)
def cx_b9 := c02x_st (Node.call cx_b8 none .drain)
/-- the accepting `MsgAppendResponse` of node 2 for index 2 -/
def cx_ack := cx_b8.raft.msgs.head!
def cx_a13 := c02x_st (Node.call cx_a12 none (.step cx_ack))
/-- node 1 after the compaction -/
def cx_a14 := c02x_st (Node.call cx_a13 none (.compact 2))

def cx_s15 : Sys := c01x_s14.setNode 1 cx_a9
def cx_s16 : Sys := cx_s15.setNode 1 cx_a10
def cx_s17 : Sys := cx_s16.setNode 1 cx_a11
def cx_s18 : Sys := { (cx_s17.setNode 1 cx_a12) with net := cx_s17.net ++ cx_a11.raft.msgs }
def cx_s19 : Sys := cx_s18.setNode 2 cx_b7
def cx_s20 : Sys := cx_s19.setNode 2 cx_b8
def cx_s21 : Sys := { (cx_s20.setNode 2 cx_b9) with net := cx_s20.net ++ cx_b8.raft.msgs }
def cx_s22 : Sys := cx_s21.setNode 1 cx_a13
def cx_s23 : Sys := cx_s22.setNode 1 cx_a14

def cx_tail : List Sys := [cx_s15, cx_s16, cx_s17, cx_s18, cx_s19, cx_s20, cx_s21, cx_s22, cx_s23]
def cx_hist : List Sys := c01x_hist ++ cx_tail

def cx_moves : List Move :=
  [.call 1 c01x_a8 (.propose [] [1]), .call 1 cx_a9 .stabilize, .call 1 cx_a10 (.onPersistEntries 2 1),
   .send 1 cx_a11, .deliver 2 c01x_b6 cx_app, .call 2 cx_b7 .stabilize, .send 2 cx_b8,
   .deliver 1 cx_a12 cx_ack, .call 1 cx_a13 (.compact 2)]

/-- what is assumed about one node: no pending snapshot -/
def cx_nodeOk (st : NState) : Bool := st.raft.raftLog.unstable.snapshot.isNone

def cx_chk (s : Sys) : Bool :=
  c02x_fixed s && c05x_nobatch s && s.net.all (fun x => decide (c01x_msgOk x)) &&
  s.nodes.all (fun p => cx_nodeOk p.2)

theorem cx_chk_ok (s : Sys) (h : cx_chk s = true) :
    FixedCfg c02x_cfg s ∧ NoBatch s ∧ (∀ x ∈ s.net, c01x_msgOk x) ∧
    ∀ i st, s.node i = some st → st.raft.raftLog.unstable.snapshot = none := by
  unfold cx_chk at h
  simp only [Bool.and_eq_true] at h
  obtain ⟨⟨⟨h1, h2⟩, h3⟩, h4⟩ := h
  refine ⟨c02x_fixed_ok s h1, c05x_nobatch_ok s h2, fun x hx => ?_, fun i st hi => ?_⟩
  · rw [List.all_eq_true] at h3
    exact of_decide_eq_true (h3 x hx)
  · rw [List.all_eq_true] at h4
    have := h4 _ (c02_lookup_mem s.nodes i st hi)
    unfold cx_nodeOk at this
    simpa [Option.isNone_iff_eq_none] using this

/-- **the history, evaluated once**: the moves are steps, the check holds in every state, and what the
last step (`compact 2` at node 1) does -/
theorem cx_eval :
    Move.all (fun s mv => mv.ok s && mv.okC && mv.okPersist) c01x_s14 cx_moves = true ∧
    (∀ s ∈ cx_hist, cx_chk s = true) ∧
    (c02x_okOk (Node.call cx_a13 none (.compact 2)) = true ∧
      cx_a14.raft.state = .leader ∧ cx_a14.raft.raftLog.committed = 2 ∧
      cx_a13.raft.raftLog.abs.snapIdx = 0 ∧ cx_a14.raft.raftLog.abs.snapIdx = 1 ∧
      cx_a14.raft.raftLog.abs.snapTerm = none) ∧
    cx_a13.raft.raftLog.abs.entryAt 1 = some c05x_app.entries.head! ∧
    cx_a14.raft.raftLog.abs.entryAt 1 = none ∧
    1 ≤ cx_a13.raft.raftLog.committed ∧ 1 ≤ cx_a14.raft.raftLog.committed ∧
    cx_a13.raft.raftLog.abs.snapIdx < 1 := by decide +kernel

theorem cx_ksteps_tail : Chained KStep (c01x_s14 :: cx_tail) :=
  Move.kstepsS c01x_s14 cx_moves rfl cx_eval.1

theorem cx_chk_all : ∀ s ∈ cx_hist, cx_chk s = true := cx_eval.2.1

theorem cx_ksteps : Chained KStep cx_hist :=
  chained_append_last (s := c01x_s14) rfl
    (Chained.mono (fun _ _ hc => KStep.of_old hc) _ c01x_ksteps) cx_ksteps_tail

theorem cx_history : History cx_hist := history_of_chained (fun _ _ hc => hc.step) _ cx_ksteps

/-- **the history satisfies every hypothesis of the commit layer with compaction** -/
theorem cx_hyp3 : Hyp3 c02x_cfg 0 cx_hist := by
  have h0 : cx_hist[0]? = some c02x_s0 := rfl
  have hall := fun s hs => cx_chk_ok s (cx_chk_all s hs)
  have init : ∀ s, cx_hist[0]? = some s → s = c02x_s0 := fun s hs => by rw [h0] at hs; cases hs; rfl
  exact
    { hist := cx_history
      fix := fun s hs => (hall s hs).1
      ne := by decide
      nd1 := by decide
      nd2 := by decide
      init := fun s hs => init s hs ▸ c05x_initOk
      steps := chained_at _ cx_ksteps
      nb := fun s hs => (hall s hs).2.1
      nosnap := fun s hs x hx => ((hall s hs).2.2.1 x hx).1
      nolone := c01x_nolone
      nopend := fun s hs i st hi => (hall s hs).2.2.2 i st hi
      first0 := fun s hs i st hi => (c02x_s0_facts (init s hs ▸ hi)).1
      initc := fun s hs i st hi => (c02x_s0_facts (init s hs ▸ hi)).2.1
      norir := fun s hs x hx => ((hall s hs).2.2.1 x hx).2.1
      anch := fun s hs x hx => ((hall s hs).2.2.1 x hx).2.2
      snapt0 := fun s hs i st hi t0 ht0 j stj _ => by
        rw [(c02x_s0_facts (init s hs ▸ hi)).2.2.2] at ht0
        cases ht0; exact Nat.zero_le _ }

def dx_a13 := c02x_st (Node.call cx_a12 none (.commitApply 1))
def dx_b10 := c02x_st (Node.call cx_b9 none .requestSnapshot)
def dx_b11 := c02x_st (Node.call dx_b10 none .drain)
/-- the snapshot request of node 2 -/
def dx_req := dx_b10.raft.msgs.head!
def dx_a14 := c02x_st (Node.call dx_a13 none (.step dx_req))
def dx_a15 := c02x_st (Node.call dx_a14 none .drain)
/-- the relabelled `MsgSnapshot` of node 1 -/
def dx_snap := dx_a14.raft.msgs.head!
def dx_b12 := c02x_st (Node.call dx_b11 none (.step dx_snap))

def dx_s22 : Sys := cx_s21.setNode 1 dx_a13
def dx_s23 : Sys := dx_s22.setNode 2 dx_b10
def dx_s24 : Sys := { (dx_s23.setNode 2 dx_b11) with net := dx_s23.net ++ dx_b10.raft.msgs }
def dx_s25 : Sys := dx_s24.setNode 1 dx_a14
def dx_s26 : Sys := { (dx_s25.setNode 1 dx_a15) with net := dx_s25.net ++ dx_a14.raft.msgs }
def dx_s27 : Sys := dx_s26.setNode 2 dx_b12

def dx_mid : List Sys := [cx_s15, cx_s16, cx_s17, cx_s18, cx_s19, cx_s20, cx_s21]
def dx_tail : List Sys := [dx_s22, dx_s23, dx_s24, dx_s25, dx_s26, dx_s27]
def dx_hist : List Sys := c01x_hist ++ dx_mid ++ dx_tail

def dx_moves : List Move :=
  cx_moves.take 7 ++
  [.call 1 cx_a12 (.commitApply 1), .call 2 cx_b9 .requestSnapshot, .send 2 dx_b10,
   .deliver 1 dx_a13 dx_req, .send 1 dx_a14, .deliver 2 dx_b11 dx_snap]

/-- fixed voters, no batching, and no leader has a commit index above 1 -/
def dx_chk (s : Sys) : Bool :=
  c02x_fixed s && c05x_nobatch s &&
  s.nodes.all (fun p => decide (p.2.raft.state = .leader → p.2.raft.raftLog.committed ≤ 1))

theorem dx_chk_ok (s : Sys) (h : dx_chk s = true) :
    FixedCfg c02x_cfg s ∧ NoBatch s ∧
    ∀ i st, s.node i = some st → st.raft.state = .leader → st.raft.raftLog.committed ≤ 1 := by
  unfold dx_chk at h
  simp only [Bool.and_eq_true] at h
  obtain ⟨⟨h1, h2⟩, h3⟩ := h
  refine ⟨c02x_fixed_ok s h1, c05x_nobatch_ok s h2, fun i st hi => ?_⟩
  rw [List.all_eq_true] at h3
  exact of_decide_eq_true (h3 _ (c02_lookup_mem s.nodes i st hi))

/-- **the history, evaluated once**: the moves are steps, the check holds in every state, and the
relabelled snapshot that node 1 sends and node 2 restores -/
theorem dx_eval :
    Move.all (fun s mv => mv.ok s && mv.okC && mv.okPersist) c01x_s14 dx_moves = true ∧
    (∀ s ∈ dx_hist, dx_chk s = true) ∧
    dx_a14.raft.msgs ≠ [] ∧
    dx_snap.msgType = .msgSnapshot ∧ dx_snap.frm = 1 ∧ dx_snap.snapshot.metadata.index = 2 ∧
    dx_a15.raft.raftLog.store.hardState.commit = 1 ∧ dx_a15.raft.raftLog.committed = 1 ∧
    dx_b12.raft.raftLog.committed = 2 ∧
    dx_b12.raft.raftLog.unstable.snapshot = some dx_snap.snapshot := by decide +kernel

theorem dx_ksteps_tail : Chained KStep (c01x_s14 :: (dx_mid ++ dx_tail)) :=
  Move.kstepsS c01x_s14 dx_moves rfl dx_eval.1

theorem dx_chk_all : ∀ s ∈ dx_hist, dx_chk s = true := dx_eval.2.1

theorem dx_ksteps : Chained KStep dx_hist := by
  rw [dx_hist, List.append_assoc]
  exact chained_append_last (s := c01x_s14) rfl
    (Chained.mono (fun _ _ hc => KStep.of_old hc) _ c01x_ksteps) dx_ksteps_tail

theorem dx_history : History dx_hist := history_of_chained (fun _ _ hc => hc.step) _ dx_ksteps

def gx_a13 := c02x_st (Node.call c01y_a12 none (.propose [] [1]))
def gx_a14 := c02x_st (Node.call gx_a13 none .stabilize)
def gx_a15 := c02x_st (Node.call gx_a14 none (.onPersistEntries 2 1))
def gx_a16 := c02x_st (Node.call gx_a15 none .drain)

def gx_app := gx_a15.raft.msgs.head!
def gx_b9 := c02x_st (Node.call c01y_b8 none (.step gx_app))
def gx_b10 := c02x_st (Node.call gx_b9 none .stabilize)
def gx_b11 := c02x_st (Node.call gx_b10 none .drain)

def gx_ack := gx_b10.raft.msgs.head!
def gx_a17 := c02x_st (Node.call gx_a16 none (.step gx_ack))

def gx_a18 := c02x_st (Node.call gx_a17 none (.compact 2))

def gx_s26 : Sys := c01y_s25.setNode 1 gx_a13
def gx_s27 : Sys := gx_s26.setNode 1 gx_a14
def gx_s28 : Sys := gx_s27.setNode 1 gx_a15
def gx_s29 : Sys := { (gx_s28.setNode 1 gx_a16) with net := gx_s28.net ++ gx_a15.raft.msgs }
def gx_s30 : Sys := gx_s29.setNode 2 gx_b9
def gx_s31 : Sys := gx_s30.setNode 2 gx_b10
def gx_s32 : Sys := { (gx_s31.setNode 2 gx_b11) with net := gx_s31.net ++ gx_b10.raft.msgs }
def gx_s33 : Sys := gx_s32.setNode 1 gx_a17
def gx_s34 : Sys := gx_s33.setNode 1 gx_a18

def gx_tail : List Sys := [gx_s26, gx_s27, gx_s28, gx_s29, gx_s30, gx_s31, gx_s32, gx_s33, gx_s34]
def gx_hist : List Sys := c01y_hist ++ gx_tail

def gx_moves : List Move :=
  [.call 1 c01y_a12 (.propose [] [1]), .call 1 gx_a13 .stabilize,
   .call 1 gx_a14 (.onPersistEntries 2 1), .send 1 gx_a15, .deliver 2 c01y_b8 gx_app,
   .call 2 gx_b9 .stabilize, .send 2 gx_b10, .deliver 1 gx_a16 gx_ack, .call 1 gx_a17 (.compact 2)]

/-- what `Snap.Hyp3w` assumes about the transport and the nodes of one state: no `MsgSnapshot`, no
pending snapshot -/
def gx_chk (s : Sys) : Bool :=
  c02x_fixed s && c05x_nobatch s && s.net.all (fun x => decide (c01y_msgOk x)) &&
  s.nodes.all (fun p => cx_nodeOk p.2)

theorem gx_chk_ok (s : Sys) (h : gx_chk s = true) :
    FixedCfg c02x_cfg s ∧ NoBatch s ∧ (∀ x ∈ s.net, x.msgType ≠ .msgSnapshot) ∧
    ∀ i st, s.node i = some st → st.raft.raftLog.unstable.snapshot = none := by
  unfold gx_chk at h
  simp only [Bool.and_eq_true] at h
  obtain ⟨⟨⟨h1, h2⟩, h3⟩, h4⟩ := h
  refine ⟨c02x_fixed_ok s h1, c05x_nobatch_ok s h2, fun x hx => ?_, fun i st hi => ?_⟩
  · rw [List.all_eq_true] at h3
    exact of_decide_eq_true (h3 x hx)
  · rw [List.all_eq_true] at h4
    have := h4 _ (c02_lookup_mem s.nodes i st hi)
    unfold cx_nodeOk at this
    simpa [Option.isNone_iff_eq_none] using this

/-- **the history, evaluated once**: the moves are steps, the check holds in every state, and what the
last step (`compact 2` at node 1) does -/
theorem gx_eval :
    Move.all (fun s mv => mv.ok s && mv.okC && mv.okPersist) c01y_s25 gx_moves = true ∧
    (∀ s ∈ gx_hist, gx_chk s = true) ∧
    c02x_okOk (Node.call gx_a17 none (.compact 2)) = true ∧
    gx_a18.raft.state = .leader ∧ gx_a18.raft.raftLog.committed = 2 ∧
    gx_a17.raft.raftLog.abs.snapIdx = 0 ∧ gx_a18.raft.raftLog.abs.snapIdx = 1 ∧
    gx_a18.raft.raftLog.abs.snapTerm = none := by decide +kernel

theorem gx_ksteps_tail : Chained KStep (c01y_s25 :: gx_tail) :=
  Move.kstepsS c01y_s25 gx_moves rfl gx_eval.1

theorem gx_chk_all : ∀ s ∈ gx_hist, gx_chk s = true := gx_eval.2.1

theorem gx_ksteps : Chained KStep gx_hist :=
  chained_append_last (s := c01y_s25) rfl
    (Chained.mono (fun _ _ hc => KStep.of_old hc) _ c01y_ksteps_all) gx_ksteps_tail

theorem gx_history : History gx_hist := history_of_chained (fun _ _ hc => hc.step) _ gx_ksteps

/-- **the history satisfies every hypothesis of `RaftProps/C01g.lean`** -/
theorem gx_hyp3w : Hyp3w c02x_cfg 0 gx_hist := by
  have h0 : gx_hist[0]? = some c02x_s0 := rfl
  have hall := fun s hs => gx_chk_ok s (gx_chk_all s hs)
  have init : ∀ s, gx_hist[0]? = some s → s = c02x_s0 := fun s hs => by rw [h0] at hs; cases hs; rfl
  exact
    { hist := gx_history
      fix := fun s hs => (hall s hs).1
      ne := by decide
      nd1 := by decide
      nd2 := by decide
      init := fun s hs => init s hs ▸ c05x_initOk
      steps := chained_at _ gx_ksteps
      nb := fun s hs => (hall s hs).2.1
      nosnap := fun s hs x hx => (hall s hs).2.2.1 x hx
      nolone := c01x_nolone
      nopend := fun s hs i st hi => (hall s hs).2.2.2 i st hi
      first0 := fun s hs i st hi => (c02x_s0_facts (init s hs ▸ hi)).1
      initc := fun s hs i st hi => (c02x_s0_facts (init s hs ▸ hi)).2.1
      snapt0 := fun s hs i st hi t0 ht0 j stj _ => by
        rw [(c02x_s0_facts (init s hs ▸ hi)).2.2.2] at ht0
        cases ht0; exact Nat.zero_le _ }

end Snap
end Cluster
end RaftModel
