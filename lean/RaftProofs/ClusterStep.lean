import RaftProofs.ClusterVoteF
import RaftProofs.ClusterHistory
import RaftProofs.NodeHandlers

/-!
One step of `ClusterSem` seen from the node that moves (`Moved`), for any contract the application
obeys (`Contract`), and the induction for cluster invariants that are *local*: a predicate on every
node, which may read the transport monotonically, and a predicate on every transported message
(`Moved.local_inv` for one step, `local_hist` along a history).  Provenance of messages
(`hist_provenance`) is the first such invariant.
-/
namespace RaftModel
namespace Cluster
open Node

/-- what the application promises beyond `Cluster.Step`, per kind of step (`call` covers a delivery:
then `op = .step m`) -/
structure Contract where
  call : NState → NodeOp → NState → Prop
  send : NState → Prop
  restart : NState → NState → Prop

/-- no promise: `Cluster.Step` itself -/
def Contract.free : Contract := ⟨fun _ _ _ => True, fun _ => True, fun _ _ => True⟩

/-- what the node `k` did in the step `a → b`, going from `st` to `st'` -/
inductive Act (C : Contract) (a b : Sys) (k : Nat) (st st' : NState) : Prop
  | call (rnd : Option Nat) (op : NodeOp) (res : OpRes)
      (hop : appOp op = true ∨ ∃ m, op = .step m ∧ m ∈ a.net ∧ m.to = k)
      (hc : C.call st op st') (hcall : Node.call st rnd op = .ok (res, st')) (hnet : b.net = a.net)
  | send (hp : hsPersisted st) (hc : C.send st)
      (hst : st' = { st with raft := { st.raft with nextRand := none, msgs := [], readStates := [] } })
      (hnet : b.net = a.net ++ st.raft.msgs)
  | restart (c : Config) (rnd : Option Nat) (hid : c.id = k)
      (hboot : Node.boot c st.raft.raftLog.store rnd = .ok (.ok st')) (hc : C.restart st st')
      (hnet : b.net = a.net)

/-- one step `a → b`: node `k` moves from `st` to `st'`, every other node stays -/
structure Moved (C : Contract) (a b : Sys) (k : Nat) (st st' : NState) : Prop where
  hk : a.node k = some st
  nodes : b.nodes = (a.setNode k st').nodes
  act : Act C a b k st st'

/-- the nodes of `a.setNode k st'` -/
theorem node_cases {a : Sys} {k v : Nat} {st' stv : NState}
    (hv : (a.setNode k st').node v = some stv) :
    (v = k ∧ stv = st') ∨ (v ≠ k ∧ a.node v = some stv) := by
  rw [node_setNode] at hv
  split at hv
  · rename_i e; cases hv; exact .inl ⟨e, rfl⟩
  · rename_i e; exact .inr ⟨e, hv⟩

theorem drain_state {st st' : NState} (h : Node.call st none .drain = .ok (.ok, st')) :
    st' = { st with raft := { st.raft with nextRand := none, msgs := [], readStates := [] } } := by
  cases applyOp_parts h; rfl

/-- an application call or a delivery is neither `drain` nor `rstep` -/
theorem not_drain_of_hop {op : NodeOp} {p : Message → Prop}
    (hop : appOp op = true ∨ ∃ m, op = .step m ∧ p m) : op ≠ .drain ∧ ∀ m, op ≠ .rstep m := by
  rcases hop with h | ⟨m, rfl, _⟩
  · exact ⟨fun e => (by rw [e] at h; cases h), fun m e => (by rw [e] at h; cases h)⟩
  · exact ⟨nofun, fun _ => nofun⟩

theorem Step.moved {a b : Sys} (h : Step a b) : ∃ k st st', Moved .free a b k st st' := by
  cases h with
  | call k st st' rnd op res h1 h2 h3 =>
    exact ⟨k, st, st', h1, rfl, .call rnd op res (.inl h2) trivial h3 rfl⟩
  | deliver k st st' rnd m res h1 h2 h3 h4 =>
    exact ⟨k, st, st', h1, rfl, .call rnd (.step m) res (.inr ⟨m, rfl, h2, h3⟩) trivial h4 rfl⟩
  | send k st st' h1 h2 h3 =>
    exact ⟨k, st, st', h1, rfl, .send h2 trivial (drain_state h3) rfl⟩
  | restart k st st' c rnd h1 h2 h3 =>
    exact ⟨k, st, st', h1, rfl, .restart c rnd h2 h3 trivial rfl⟩

/-- **a local invariant through a step that replaces one node**, whatever the step is: the other
nodes and the transport are taken care of, the moving node is left (`moved`) -/
theorem local_frame {N N' : List Message → Nat → NState → Prop} {T T' : Message → Prop}
    {a b : Sys} {k : Nat} {st st' : NState} (hk : a.node k = some st)
    (nodes : b.nodes = (a.setNode k st').nodes)
    (hnet : b.net = a.net ∨ b.net = a.net ++ st.raft.msgs)
    (mono : ∀ {net net' i st}, (∀ x ∈ net, x ∈ net') → N' net i st → N' net' i st)
    (up : ∀ {net i st}, N net i st → N' net i st) (upT : ∀ {x}, T x → T' x)
    (hand : (∀ x ∈ st.raft.msgs, x ∈ b.net) → ∀ x ∈ st.raft.msgs, T x)
    (hn : ∀ i st, a.node i = some st → N a.net i st) (ht : ∀ x ∈ a.net, T x)
    (moved : N' b.net k st') :
    (∀ i st, b.node i = some st → N' b.net i st) ∧ ∀ x ∈ b.net, T' x := by
  have sup : ∀ x ∈ a.net, x ∈ b.net := by
    intro x hx
    rcases hnet with e | e <;> rw [e]
    · exact hx
    · exact List.mem_append_left _ hx
  refine ⟨fun i sti hi => ?_, fun x hx => upT ?_⟩
  · have hi' : (a.setNode k st').node i = some sti := by
      unfold Sys.node at hi ⊢; rw [← nodes]; exact hi
    by_cases hik : i = k
    · subst hik
      rw [node_setNode_self] at hi'; cases hi'; exact moved
    · rw [node_setNode_ne a k i st' hik] at hi'
      exact mono sup (up (hn i sti hi'))
  · rcases hnet with e | e
    · rw [e] at hx; exact ht x hx
    · rw [e] at hx
      rcases List.mem_append.1 hx with g | g
      · exact ht x g
      · exact hand (fun y hy => by rw [e]; exact List.mem_append_right _ hy) x g

/-- node `k` is restarted from its own storage in this step -/
def _root_.RaftProps.C02.IsRestart (k : Nat) (s s' : Sys) : Prop :=
  ∃ st st' c rnd, s.node k = some st ∧ c.id = k ∧
    Node.boot c st.raft.raftLog.store rnd = .ok (.ok st') ∧ s' = s.setNode k st'

namespace Moved
variable {C : Contract} {a b : Sys} {k : Nat} {st st' : NState}

theorem hk' (M : Moved C a b k st st') : b.node k = some st' := by
  unfold Sys.node; rw [M.nodes]; exact node_setNode_self a k st'

theorem oth (M : Moved C a b k st st') : ∀ v, v ≠ k → b.node v = a.node v := by
  intro v hv
  unfold Sys.node; rw [M.nodes]; exact node_setNode_ne a k v st' hv

/-- a step that does not send replaces one node -/
theorem eq_setNode (M : Moved C a b k st st') (hnet : b.net = a.net) : b = a.setNode k st' := by
  cases b; cases a
  simp only [Sys.setNode] at *
  cases hnet; cases M.nodes; rfl

/-- a step that sends replaces one node and extends the transport by its queue -/
theorem eq_send (M : Moved C a b k st st') (hnet : b.net = a.net ++ st.raft.msgs) :
    b = { (a.setNode k st') with net := a.net ++ st.raft.msgs } := by
  cases b; cases a
  simp only [Sys.setNode] at *
  cases hnet; cases M.nodes; rfl

/-- a node after the step is the moving node in its new state, or an untouched one -/
theorem node_after (M : Moved C a b k st st') {i : Nat} {sti : NState} (hi : b.node i = some sti) :
    (i = k ∧ sti = st') ∨ (i ≠ k ∧ a.node i = some sti) := by
  by_cases hik : i = k
  · subst hik
    rw [M.hk'] at hi; cases hi
    exact .inl ⟨rfl, rfl⟩
  · exact .inr ⟨hik, by rw [← M.oth i hik]; exact hi⟩

/-- a node before and after the step: it is the moving node, or it has not changed -/
theorem node_at (M : Moved C a b k st st') {i : Nat} {sta stb : NState} (ha : a.node i = some sta)
    (hb : b.node i = some stb) : (i = k ∧ sta = st ∧ stb = st') ∨ (i ≠ k ∧ stb = sta) := by
  rcases M.node_after hb with ⟨rfl, rfl⟩ | ⟨hik, c⟩
  · rw [M.hk] at ha; cases ha; exact .inl ⟨rfl, rfl, rfl⟩
  · rw [ha] at c; cases c; exact .inr ⟨hik, rfl⟩

/-- a node that is leader after the step, with a larger commit index than before, is the moving
node, and the step is a call (or delivery) -/
theorem call_of_commit (M : Moved C a b k st st') {l : Nat} {sta stb : NState}
    (hla : a.node l = some sta) (hlb : b.node l = some stb) (hs : stb.raft.state = .leader)
    (hc : sta.raft.raftLog.committed < stb.raft.raftLog.committed) :
    l = k ∧ sta = st ∧ stb = st' ∧ ∃ rnd op res,
      (appOp op = true ∨ ∃ m, op = .step m ∧ m ∈ a.net ∧ m.to = k) ∧ C.call st op st' ∧
      Node.call st rnd op = .ok (res, st') := by
  rcases M.node_at hla hlb with ⟨rfl, rfl, rfl⟩ | ⟨_, rfl⟩
  · refine ⟨rfl, rfl, rfl, ?_⟩
    cases M.act with
    | call rnd op res hop hc' hcall _ => exact ⟨rnd, op, res, hop, hc', hcall⟩
    | send _ _ hst _ => rw [hst] at hc; exact absurd hc (Nat.lt_irrefl _)
    | restart c rnd _ hboot _ _ =>
      rw [(Raft.CV.boot_booted c _ rnd _ hboot).state] at hs; cases hs
  · exact absurd hc (Nat.lt_irrefl _)

/-- the transport after the step: what was there, plus (for a `send`) the queue of the moving node -/
theorem net_cases (M : Moved C a b k st st') : b.net = a.net ∨ b.net = a.net ++ st.raft.msgs := by
  cases M.act with
  | call _ _ _ _ _ _ hnet => exact .inl hnet
  | send _ _ _ hnet => exact .inr hnet
  | restart _ _ _ _ _ hnet => exact .inl hnet

/-- **a local invariant through one step.**  `N net i st` speaks of one node and may read the
transport monotonically; `T x` speaks of one transported message; what a node hands to the transport is
`T` (`hand`) and handing the queue over keeps `N` (`drain`).  Then only the moving node has to be looked at, and
only for a call (or delivery) and for a restart.  `N'`, `T'` are the predicates after the step
(`up`, `upT`: e.g. an index of the history that has moved on). -/
theorem local_inv {N N' : List Message → Nat → NState → Prop} {T T' : Message → Prop}
    (M : Moved C a b k st st')
    (mono : ∀ {net net' i st}, (∀ x ∈ net, x ∈ net') → N' net i st → N' net' i st)
    (up : ∀ {net i st}, N net i st → N' net i st) (upT : ∀ {x}, T x → T' x)
    (hand : ∀ {net i st}, (∀ x ∈ st.raft.msgs, x ∈ b.net) → N net i st → ∀ x ∈ st.raft.msgs, T x)
    (drain : ∀ {net i} {st : NState}, N net i st → N net i
      { st with raft := { st.raft with nextRand := none, msgs := [], readStates := [] } })
    (hn : ∀ i st, a.node i = some st → N a.net i st) (ht : ∀ x ∈ a.net, T x)
    (call : ∀ rnd op res, b.net = a.net →
      (appOp op = true ∨ ∃ m, op = .step m ∧ m ∈ a.net ∧ m.to = k) →
      C.call st op st' → Node.call st rnd op = .ok (res, st') → N' a.net k st')
    (restart : ∀ c rnd, b.net = a.net → c.id = k →
      Node.boot c st.raft.raftLog.store rnd = .ok (.ok st') → C.restart st st' → N' a.net k st') :
    (∀ i st, b.node i = some st → N' b.net i st) ∧ ∀ x ∈ b.net, T' x := by
  refine local_frame M.hk M.nodes M.net_cases mono up upT (fun g => hand g (hn k st M.hk)) hn ht ?_
  cases M.act with
  | call rnd op res hop hc hcall hnet => rw [hnet]; exact call rnd op res hnet hop hc hcall
  | send _ _ hst hnet =>
    rw [hst, hnet]; exact mono (fun _ g => List.mem_append_left _ g) (up (drain (hn k st M.hk)))
  | restart c rnd hid hboot hc hnet => rw [hnet]; exact restart c rnd hnet hid hboot hc

end Moved

/-- **a local invariant along a history** whose steps are `Moved` under the contract `C`: it holds
for freshly booted nodes and the empty transport, and is kept by a call and by a restart of one node,
where everything known about the state before the step may be used. -/
theorem local_hist {C : Contract} {N : Nat → List Message → Nat → NState → Prop}
    {T : Nat → Message → Prop} (h : List Sys) (hh : History h)
    (moved : ∀ n a b, h[n]? = some a → h[n + 1]? = some b → ∃ k st st', Moved C a b k st st')
    (mono : ∀ {n net net' i st}, (∀ x ∈ net, x ∈ net') → N n net i st → N n net' i st)
    (up : ∀ {n net i st}, N n net i st → N (n + 1) net i st)
    (upT : ∀ {n x}, T n x → T (n + 1) x)
    (hand : ∀ {n net i st} (b : Sys), h[n + 1]? = some b → (∀ x ∈ st.raft.msgs, x ∈ b.net) →
      N n net i st → ∀ x ∈ st.raft.msgs, T n x)
    (drain : ∀ {n net i} {st : NState}, N n net i st → N n net i
      { st with raft := { st.raft with nextRand := none, msgs := [], readStates := [] } })
    (boot : ∀ i st c store rnd, c.id = i → Node.boot c store rnd = .ok (.ok st) → N 0 [] i st)
    (call : ∀ n a b k st st' rnd op res, h[n]? = some a → h[n + 1]? = some b →
      (∀ i st, a.node i = some st → N n a.net i st) → (∀ x ∈ a.net, T n x) →
      a.node k = some st → b.node k = some st' → b.net = a.net →
      (appOp op = true ∨ ∃ m, op = .step m ∧ m ∈ a.net ∧ m.to = k) →
      C.call st op st' → Node.call st rnd op = .ok (res, st') → N (n + 1) a.net k st')
    (restart : ∀ n a b k st st' c rnd, h[n]? = some a → h[n + 1]? = some b →
      (∀ i st, a.node i = some st → N n a.net i st) → a.node k = some st → c.id = k →
      Node.boot c st.raft.raftLog.store rnd = .ok (.ok st') → C.restart st st' →
      N (n + 1) a.net k st') :
    ∀ n s, h[n]? = some s →
      (∀ i st, s.node i = some st → N n s.net i st) ∧ ∀ x ∈ s.net, T n x := by
  refine hist_induct h _ ?_ ?_
  · intro s h0
    have hi := hist_init hh s h0
    refine ⟨fun i st hn => ?_, fun x hx => by rw [hi.1] at hx; cases hx⟩
    obtain ⟨c, store, rnd, hc, hb⟩ := hi.2 i st hn
    rw [hi.1]; exact boot i st c store rnd hc hb
  · intro n a b ha hb ⟨ihn, iht⟩
    obtain ⟨k, st, st', M⟩ := moved n a b ha hb
    refine M.local_inv (N := N n) (N' := N (n + 1)) (T := T n) (T' := T (n + 1))
      mono up upT (hand b hb) drain ihn iht ?_ ?_
    · intro rnd op res hnet hop hc hcall
      exact call n a b k st st' rnd op res ha hb ihn iht M.hk M.hk' hnet hop hc hcall
    · intro c rnd _ hid hboot hc
      exact restart n a b k st st' c rnd ha hb ihn M.hk hid hboot hc

/-- **an invariant of single nodes along a history**: it holds for a freshly booted node and is kept
by a call (or delivery), by handing the queue over and by a restart -/
theorem node_hist {C : Contract} {P : Nat → NState → Prop} (h : List Sys) (hh : History h)
    (moved : ∀ n a b, h[n]? = some a → h[n + 1]? = some b → ∃ k st st', Moved C a b k st st')
    (drain : ∀ {i} {st : NState}, P i st → P i
      { st with raft := { st.raft with nextRand := none, msgs := [], readStates := [] } })
    (boot : ∀ i st c store rnd, c.id = i → Node.boot c store rnd = .ok (.ok st) → P i st)
    (call : ∀ (n : Nat) (a : Sys) k st st' rnd op res, h[n]? = some a → a.node k = some st → P k st →
      C.call st op st' → Node.call st rnd op = .ok (res, st') → P k st') :
    ∀ (n : Nat) (s : Sys), h[n]? = some s → ∀ i st, s.node i = some st → P i st := fun n s hs =>
  (local_hist (C := C) (N := fun _ _ i st => P i st) (T := fun _ _ => True) h hh moved
    (fun _ g => g) (fun g => g) (fun g => g) (fun _ _ _ _ _ _ => trivial) drain
    boot
    (fun n a _ k st st' rnd op res ha _ ihn _ hk _ _ _ hc hcall =>
      call n a k st st' rnd op res ha hk (ihn k st hk) hc hcall)
    (fun _ _ _ k _ st' c rnd _ _ _ _ hid hb _ => boot k st' c _ rnd hid hb) n s hs).1

/-! ### provenance of messages -/

/-- `x` was queued by node `i` in the step that led to `h[n]`, for some `n ≤ N`, with `Φ n i x` -/
def Gen (Φ : Nat → Nat → Message → Prop) (N i : Nat) (x : Message) : Prop := ∃ n, n ≤ N ∧ Φ n i x

theorem Gen.mono {Φ : Nat → Nat → Message → Prop} {N N' i : Nat} {x : Message} (h : Gen Φ N i x)
    (hle : N ≤ N') : Gen Φ N' i x := by
  obtain ⟨n, h1, h2⟩ := h
  exact ⟨n, Nat.le_trans h1 hle, h2⟩

/-- **provenance**: whatever is in a queue or in the transport was queued by a call (or delivery) of
its sender; `K` selects the kind of message, `hfresh` says what such a step establishes for every
message of that kind it queues, and `Φ n i x` is then available for the message ever after -/
theorem hist_provenance {C : Contract} (h : List Sys) (hh : History h)
    (moved : ∀ n a b, h[n]? = some a → h[n + 1]? = some b → ∃ k st st', Moved C a b k st st')
    (K : Message → Prop) (Φ : Nat → Nat → Message → Prop)
    (hfresh : ∀ n a b i st st' rnd op res, h[n]? = some a → h[n + 1]? = some b →
      a.node i = some st → b.node i = some st' → Node.call st rnd op = .ok (res, st') →
      (appOp op = true ∨ ∃ m, op = .step m ∧ m ∈ a.net ∧ m.to = i) → C.call st op st' →
      b.net = a.net →
      ∀ x ∈ st'.raft.msgs, K x → x ∈ st.raft.msgs ∨ Φ (n + 1) i x) :
    ∀ n s, h[n]? = some s →
      (∀ i st, s.node i = some st → ∀ x ∈ st.raft.msgs, K x → Gen Φ n i x) ∧
      (∀ x ∈ s.net, K x → ∃ i, Gen Φ n i x) := by
  refine local_hist (C := C) (N := fun n _ i st => ∀ x ∈ st.raft.msgs, K x → Gen Φ n i x)
    (T := fun n x => K x → ∃ i, Gen Φ n i x) h hh moved (fun _ g => g)
    (fun g x hx hk => (g x hx hk).mono (Nat.le_succ _))
    (fun g hk => (g hk).imp fun _ g => g.mono (Nat.le_succ _))
    (fun {_ _ i _} _ _ _ g x hx hk => ⟨i, g x hx hk⟩) (fun _ _ hx => nomatch hx) ?_ ?_ ?_
  · intro i st c store rnd _ hb x hx
    rw [(Raft.CV.boot_booted c store rnd st hb).msgs] at hx; cases hx
  · intro n a b k st st' rnd op res ha hb ihn _ hk hk' hnet hop hc hcall x hx hK
    rcases hfresh n a b k st st' rnd op res ha hb hk hk' hcall hop hc hnet x hx hK with g | g
    · exact (ihn k st hk x g hK).mono (Nat.le_succ _)
    · exact ⟨n + 1, Nat.le_refl _, g⟩
  · intro n a b k st st' c rnd _ _ _ _ _ hb _ x hx
    rw [(Raft.CV.boot_booted c _ rnd st' hb).msgs] at hx; cases hx

end Cluster
end RaftModel
