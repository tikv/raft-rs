import RaftProofs.ClusterCommitZ

/-!
Cluster-level commit safety, part 2L: pure facts about logical logs used by the main inductions:
what an accepted `MsgAppend` keeps (`Accepted.keep`) and what the new log agrees with
(`Accepted.agree`), the last term of a log, and the stored part of a log.
-/
namespace RaftModel
open Cluster Raft Raft.CC

theorem LLog.matchTerm_of_entry (g : LLog) {i : Nat} {e : Entry} (h : g.entryAt i = some e) :
    g.matchTerm i e.term = true := by
  unfold LLog.matchTerm
  rw [g.term_of_entry h]
  simp

/-- an entry of a contiguous batch, by index -/
theorem contig_entry {start : Nat} {es : List Entry} (hc : ContigFrom start es) {k : Nat}
    (h1 : start ≤ k) (h2 : k < start + es.length) : ∃ e ∈ es, e.index = k := by
  have hlt : k - start < es.length := by omega
  refine ⟨es[k - start], List.getElem_mem hlt, ?_⟩
  have := hc (k - start) _ (List.getElem?_eq_some_iff.2 ⟨hlt, rfl⟩)
  omega

theorem contig_index_lt {start : Nat} {es : List Entry} (hc : ContigFrom start es) {e : Entry}
    (he : e ∈ es) : start ≤ e.index ∧ e.index < start + es.length := by
  obtain ⟨k, hk, rfl⟩ := List.getElem_of_mem he
  have := hc k _ (List.getElem?_eq_some_iff.2 ⟨hk, rfl⟩)
  omega

/-- **what an accepted batch keeps**: if the sender's log `L` (which holds the batch) agrees with `g`
wherever it holds an entry up to `i`, the new log equals `g` up to `i` -/
theorem Accepted.keep {g g' L : LLog} {m : Message} (ha : Accepted g g' m)
    (hc : ContigFrom (m.index + 1) m.entries)
    (hsub : ∀ e ∈ m.entries, L.entryAt e.index = some e) {i : Nat}
    (hcompat : ∀ j, j ≤ i → ∀ e, L.entryAt j = some e → g.entryAt j = some e) :
    ∀ k, k ≤ i → g'.entryAt k = g.entryAt k := by
  intro k hk
  rcases ha.cases with e | ⟨hnm, _, _⟩
  · rw [e]
  · by_cases hkm : k ≤ m.index
    · exact ha.low k hkm
    · -- some entry of the batch does not match: it lies beyond `i`
      have hex : ∃ e ∈ m.entries, g.matchTerm e.index e.term ≠ true := by
        apply Classical.byContradiction
        intro hno
        apply hnm
        intro e he
        apply Classical.byContradiction
        intro hne
        exact hno ⟨e, he, hne⟩
      obtain ⟨e, he, hne⟩ := hex
      have hei : i < e.index := by
        apply Classical.byContradiction
        intro hle
        have := hcompat e.index (by omega) e (hsub e he)
        exact hne (g.matchTerm_of_entry this)
      have hb := contig_index_lt hc he
      obtain ⟨ek, hek, hidx⟩ := contig_entry hc (k := k) (by omega) (by omega)
      have h1 := ha.ents ek hek
      have h2 := hcompat k hk ek (by rw [← hidx]; exact hsub ek hek)
      rw [hidx] at h1
      rw [h1, h2]

/-- **what the new log agrees with**: the sender's log, up to the end of the batch -/
theorem Accepted.agree {g g' L : LLog} {m : Message} (ha : Accepted g g' m)
    (hc : ContigFrom (m.index + 1) m.entries)
    (hsub : ∀ e ∈ m.entries, L.entryAt e.index = some e)
    (hanchor : ∀ k, k ≤ m.index → g.entryAt k = L.entryAt k) :
    ∀ k, k ≤ m.index + m.entries.length → g'.entryAt k = L.entryAt k := by
  intro k hk
  by_cases hkm : k ≤ m.index
  · rw [ha.low k hkm]; exact hanchor k hkm
  · obtain ⟨ek, hek, hidx⟩ := contig_entry hc (k := k) (by omega) (by omega)
    have h1 := ha.ents ek hek
    have h2 := hsub ek hek
    rw [hidx] at h1 h2
    rw [h1, h2]

/-- the entries of a message are entries of a log it is a sub-log of -/
theorem subw_entries {x : Message} {g : LLog} (h : SubW x g) :
    ∀ e ∈ x.entries, g.entryAt e.index = some e := by
  intro e he
  have hc : (msgLog x).Contig := h.1
  exact (h.2 e.index e (hc.entryAt_of_mem he)).1

/-- a term answer that is not `0`, above the snapshot point, is the term of an entry -/
theorem LLog.entry_of_term (g : LLog) {i t : Nat} (h : g.term i = .ok t) (ht : t ≠ 0)
    (hs : g.snapIdx < i) : ∃ e, g.entryAt i = some e ∧ e.term = t :=
  g.matchTerm_entry (by unfold LLog.matchTerm; rw [h]; simp) ht hs

/-- the last term of a logical log: the term of its last entry, or the snapshot term of an empty one -/
theorem LLog.lastTerm_cases (g : LLog) :
    (g.snapIdx < g.lastIndex ∧ ∃ e, g.entryAt g.lastIndex = some e ∧ g.lastTerm = .ok e.term) ∨
    (g.lastIndex = g.snapIdx ∧ ∀ t, g.lastTerm = .ok t → g.snapTerm = some t) := by
  by_cases hlt : g.snapIdx < g.lastIndex
  · left
    obtain ⟨e, he⟩ := g.entryAt_exists hlt (Nat.le_refl _)
    refine ⟨hlt, e, he, ?_⟩
    unfold LLog.lastTerm
    rw [g.term_of_entry he]
  · right
    have hle : g.snapIdx ≤ g.lastIndex := by unfold LLog.lastIndex; omega
    have heq : g.lastIndex = g.snapIdx := by omega
    refine ⟨heq, fun t ht => ?_⟩
    unfold LLog.lastTerm LLog.term at ht
    rw [heq] at ht
    rw [if_neg (by omega), if_pos rfl] at ht
    cases hs : g.snapTerm with
    | none => rw [hs] at ht; cases ht
    | some t' => rw [hs] at ht; cases ht; rfl

namespace RaftLog

/-- below the unstable offset the logical log is the stored one (no pending snapshot) -/
theorem Inv.abs_store {l : RaftLog} (h : l.Inv) (hs : l.unstable.snapshot = none) {k : Nat}
    (hk : k < l.unstable.offset) : l.abs.entryAt k = (storeLog l.store).entryAt k := by
  have hp := h.storeWF.first_pos
  by_cases hk1 : l.store.firstIndex ≤ k
  · rw [h.entryAt_store hs hk1 hk]
    unfold LLog.entryAt storeLog
    simp only []
    rw [if_neg (by omega)]
    congr 1; omega
  · rw [abs_none hs]
    unfold LLog.entryAt storeLog
    simp only []
    rw [if_pos (by omega), if_pos (by omega)]

/-- … in particular up to `persisted` -/
theorem Inv.abs_store_persisted {l : RaftLog} (h : l.Inv) (hs : l.unstable.snapshot = none) {k : Nat}
    (hk : k ≤ l.persisted) : l.abs.entryAt k = (storeLog l.store).entryAt k :=
  h.abs_store hs (by have := h.persisted_lt_off; omega)

/-- with nothing unstable, the logical log is the stored one -/
theorem Inv.abs_store_all {l : RaftLog} (h : l.Inv) (hs : l.unstable.snapshot = none)
    (he : l.unstable.entries = []) (k : Nat) : l.abs.entryAt k = (storeLog l.store).entryAt k := by
  by_cases hk : k < l.unstable.offset
  · exact h.abs_store hs hk
  · have hoff := h.ents_empty hs he
    have hp := h.storeWF.first_pos
    have hl := h.storeWF.last_succ
    rw [h.entryAt_unstable (by omega), he]
    unfold LLog.entryAt storeLog
    simp only []
    rw [if_neg (by omega)]
    rw [List.getElem?_eq_none (by simp), List.getElem?_eq_none (by omega)]

end RaftLog
end RaftModel
