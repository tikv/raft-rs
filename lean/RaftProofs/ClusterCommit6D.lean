import RaftProofs.ClusterCommit6A

/-!
Cluster-level commit safety with `batch_append`, part 6D: **the theorems of the commit layer** — commit rule,
Leader Completeness, soundness of every (stored) commit index, State-Machine Safety — under `M.Hyp3wQ`, the
hypotheses without proof gaps about the transport, without `NoBatch` and with nothing assumed about queues.
Every other bundle of the commit layer with batching (`Hyp3wB`, `Hyp3wQ`, `Hyp3wK`, `Hyp3wL`, and the bundle
`Hyp3aB` of the main induction) contains these hypotheses, so `RaftProps/C01f.lean`, `C01k.lean`, `C01l.lean`,
`C01m.lean` state instances of the theorems below.
-/
namespace RaftModel
namespace ClusterB
open Node Raft Raft.CC Cluster

/-- the commit event of a step that moves the commit index of a node that is leader afterwards -/
theorem Ev.of_step {h : List Sys} {n : Nat} {a b : Sys} (ha : h[n]? = some a)
    (hb : h[n + 1]? = some b) {l : Nat} {sta stb : NState} (hla : a.node l = some sta)
    (hlb : b.node l = some stb) (hs : stb.raft.state = .leader)
    (hc : sta.raft.raftLog.committed < stb.raft.raftLog.committed) :
    Ev.ok h ⟨n, l, stb.raft.term, stb.raft.raftLog.committed, stb.raft.raftLog.abs,
      stb.raft.raftLog.persisted⟩ :=
  ⟨a, b, sta, stb, ha, hb, hla, hlb, hs, rfl, hc, rfl, rfl, rfl⟩

namespace M
open Cluster.M

/-- the logs of two commit events agree up to the smaller commit index -/
theorem ev_logs_agree {cfg : JointConfig} {c0 : Nat} {h : List Sys} (H : Hyp3wQ cfg c0 h)
    {E1 E2 : Ev} (h1 : E1.ok h) (h2 : E2.ok h) (hle : E1.c ≤ E2.c) : EqUpTo E1.gE E2.gE E1.c := by
  have Ha := H.toHyp3aB
  have H2 := Ha.toHyp2wB
  obtain ⟨l1, hh1, _⟩ := Ev.leaderLog H2 h1
  obtain ⟨l2, _, _⟩ := Ev.leaderLog H2 h2
  have S := sall Ha (E1.nE + E2.nE + 2)
  have := ctf H2 S h2 h1 (by omega) hle (fun _ => ⟨E1.gE, l1.mono (by omega)⟩)
  exact ll_eq_below H2 l1 l2 hh1 this

/-- **the commit rule with durable acknowledgements** (`C04_cluster_leader_commit_rule` of
`RaftProps/C01f.lean`, `C01k.lean`, `C01m.lean`) -/
theorem leader_commit_rule (cfg : JointConfig) (c0 : Nat) (h : List Sys)
    (H : Hyp3wQ cfg c0 h)
    (n : Nat) (a b : Sys) (ha : h[n]? = some a) (hb : h[n + 1]? = some b)
    (l : Nat) (sta stb : NState) (hla : a.node l = some sta) (hlb : b.node l = some stb)
    (t : Nat) (hs : stb.raft.state = .leader) (ht : stb.raft.term = t)
    (hc : sta.raft.raftLog.committed < stb.raft.raftLog.committed) :
    stb.raft.raftLog.term stb.raft.raftLog.committed = .ok t ∧
    ∃ Q, IsJointQuorum cfg Q ∧ ∀ j ∈ Q,
      (j = l ∧ stb.raft.raftLog.committed ≤ stb.raft.raftLog.persisted ∧
        ∀ k, k ≤ stb.raft.raftLog.committed →
          (storeLog stb.raft.raftLog.store).entryAt k = stb.raft.raftLog.abs.entryAt k) ∨
      ∃ x ∈ a.net, x.msgType = .msgAppendResponse ∧ x.reject = false ∧ x.frm = j ∧ x.term = t ∧
        stb.raft.raftLog.committed ≤ x.index ∧
        ∀ (m : Nat) (s : Sys) (stj : NState), h[m]? = some s → x ∈ s.net → s.node j = some stj →
          ∀ k, k ≤ stb.raft.raftLog.committed →
            (storeLog stj.raft.raftLog.store).entryAt k = stb.raft.raftLog.abs.entryAt k := by
  have Ha := H.toHyp3aB
  have H2 := Ha.toHyp2wB
  obtain ⟨h1, Q, hQ, hq⟩ :=
    commit_step H.hist H.fix H.steps H.nosnap n a b ha hb l sta stb hla hlb hs hc
  subst ht
  have hE := Ev.of_step ha hb hla hlb hs hc
  obtain ⟨_, hEh, hc0⟩ := Ev.leaderLog H2 hE
  have ob := node_okB H2 hb hlb
  refine ⟨h1, Q, hQ, fun j hj => ?_⟩
  rcases hq j hj with ⟨g1, g2⟩ | ⟨x, hx, hack, hfrm, hterm, hidx⟩
  · exact .inl ⟨g1, g2, fun k hk => (ob.inv.abs_store_persisted ob.snap (by omega)).symm⟩
  · right
    have hx0 : x.index ≠ 0 := by
      have : c0 < stb.raft.raftLog.committed := hc0
      omega
    have hterm' : x.term = stb.raft.term := by
      rcases hterm with d | d
      · exact d
      · exact absurd d ((H2.facts0.ack_inv n a ha).2 x hx hack hx0).2
    refine ⟨x, hx, hack.1, hack.2, hfrm, hterm', hidx, fun m s stj hm hxs hj k hk => ?_⟩
    have hh := (sm_all Ha hm).rets _ hE j stj hj (.inl ⟨x, hxs, hack, hfrm, hterm', hidx⟩)
    obtain ⟨e1, he1, ht1⟩ := hh
    obtain ⟨e2, he2, ht2⟩ := hEh
    have oj := node_okB H2 hm hj
    have hag := agree_all H2 m (n + 1) s b hm hb (.store j) (.log l) _ _ ⟨stj, hj, rfl⟩ (at_log hlb)
    exact eq_below hag (oj.ssnap.trans ob.snapIdx.symm) he1 he2 (ht1.trans ht2.symm) k hk

/-- **Leader Completeness** (`C03_cluster_leader_completeness`) -/
theorem leader_completeness (cfg : JointConfig) (c0 : Nat) (h : List Sys)
    (H : Hyp3wQ cfg c0 h)
    (n : Nat) (a b : Sys) (ha : h[n]? = some a) (hb : h[n + 1]? = some b)
    (l : Nat) (sta stb : NState) (hla : a.node l = some sta) (hlb : b.node l = some stb)
    (hs : stb.raft.state = .leader)
    (hc : sta.raft.raftLog.committed < stb.raft.raftLog.committed)
    (m : Nat) (s : Sys) (hm : h[m]? = some s) (l' : Nat) (st' : NState)
    (hl' : s.node l' = some st') (hs' : st'.raft.state = .leader)
    (ht : stb.raft.term < st'.raft.term) :
    ∀ k, k ≤ stb.raft.raftLog.committed →
      st'.raft.raftLog.abs.entryAt k = stb.raft.raftLog.abs.entryAt k := by
  have Ha := H.toHyp3aB
  have H2 := Ha.toHyp2wB
  have hE := Ev.of_step ha hb hla hlb hs hc
  obtain ⟨hEl, hEh, _⟩ := Ev.leaderLog H2 hE
  have hh := (sm_all Ha hm).lc _ hE l' st' hl' hs' ht
  exact eq_ll H2 hm hl' hEl hh hEh

/-- **every commit index is covered by a leader's commit** (`C04_cluster_follower_commit_sound`) -/
theorem follower_commit_sound (cfg : JointConfig) (c0 : Nat) (h : List Sys)
    (H : Hyp3wQ cfg c0 h) (m : Nat) (s : Sys) (hm : h[m]? = some s) (v : Nat) (st : NState)
    (hv : s.node v = some st) :
    st.raft.raftLog.committed ≤ c0 ∨
    ∃ (n : Nat) (a b : Sys) (l : Nat) (sta stb : NState), n < m ∧ h[n]? = some a ∧
      h[n + 1]? = some b ∧ a.node l = some sta ∧ b.node l = some stb ∧
      stb.raft.state = .leader ∧ sta.raft.raftLog.committed < stb.raft.raftLog.committed ∧
      st.raft.raftLog.committed ≤ stb.raft.raftLog.committed ∧ stb.raft.term ≤ st.raft.term ∧
      ∀ k, k ≤ st.raft.raftLog.committed →
        st.raft.raftLog.abs.entryAt k = stb.raft.raftLog.abs.entryAt k := by
  rcases (sm_all H.toHyp3aB hm).nctm v st hv with c | ⟨E, hE, h2, h3, h4, h5⟩
  · exact .inl c
  · right
    obtain ⟨a, b, sta, stb, ha, hb, hla, hlb, hs, ht, hc, e1, e2, _⟩ := hE
    exact ⟨E.nE, a, b, E.l, sta, stb, h2, ha, hb, hla, hlb, hs, hc, by rw [← e1]; exact h3,
      by rw [ht]; exact h4, by rw [← e2]; exact h5⟩

/-- … and so is every stored commit index (`C04_cluster_stored_commit_sound`) -/
theorem stored_commit_sound (cfg : JointConfig) (c0 : Nat) (h : List Sys)
    (H : Hyp3wQ cfg c0 h) (m : Nat) (s : Sys) (hm : h[m]? = some s) (v : Nat) (st : NState)
    (hv : s.node v = some st) :
    st.raft.raftLog.store.hardState.commit ≤ st.raft.raftLog.committed ∧
    (st.raft.raftLog.store.hardState.commit ≤ c0 ∨
     ∃ (n : Nat) (a b : Sys) (l : Nat) (sta stb : NState), n < m ∧ h[n]? = some a ∧
      h[n + 1]? = some b ∧ a.node l = some sta ∧ b.node l = some stb ∧
      stb.raft.state = .leader ∧ sta.raft.raftLog.committed < stb.raft.raftLog.committed ∧
      st.raft.raftLog.store.hardState.commit ≤ stb.raft.raftLog.committed ∧
      stb.raft.term ≤ st.raft.raftLog.store.hardState.term ∧
      ∀ k, k ≤ st.raft.raftLog.store.hardState.commit →
        (storeLog st.raft.raftLog.store).entryAt k = stb.raft.raftLog.abs.entryAt k) := by
  have S := sm_all H.toHyp3aB hm
  refine ⟨S.scm v st hv, ?_⟩
  rcases S.ncts v st hv with c | ⟨E, hE, h2, h3, h4, h5⟩
  · exact .inl c
  · right
    obtain ⟨a, b, sta, stb, ha, hb, hla, hlb, hs, ht, hc, e1, e2, _⟩ := hE
    exact ⟨E.nE, a, b, E.l, sta, stb, h2, ha, hb, hla, hlb, hs, hc, by rw [← e1]; exact h3,
      by rw [ht]; exact h4, by rw [← e2]; exact h5⟩

/-- **State-Machine Safety** (`C01_cluster_state_machine_safety`) -/
theorem state_machine_safety (cfg : JointConfig) (c0 : Nat) (h : List Sys)
    (H : Hyp3wQ cfg c0 h)
    (m1 : Nat) (s1 : Sys) (hm1 : h[m1]? = some s1) (v1 : Nat) (st1 : NState)
    (hv1 : s1.node v1 = some st1)
    (m2 : Nat) (s2 : Sys) (hm2 : h[m2]? = some s2) (v2 : Nat) (st2 : NState)
    (hv2 : s2.node v2 = some st2)
    (k : Nat) (hk1 : k ≤ st1.raft.raftLog.committed) (hk2 : k ≤ st2.raft.raftLog.committed) :
    st1.raft.raftLog.abs.entryAt k = st2.raft.raftLog.abs.entryAt k := by
  have Ha := H.toHyp3aB
  have H2 := Ha.toHyp2wB
  have o1 := node_okB H2 hm1 hv1
  have o2 := node_okB H2 hm2 hv2
  by_cases hk0 : k ≤ c0
  · unfold LLog.entryAt
    rw [if_pos (by rw [o1.snapIdx]; exact hk0), if_pos (by rw [o2.snapIdx]; exact hk0)]
  rcases (sm_all Ha hm1).nctm v1 st1 hv1 with c | ⟨E1, hE1, _, a3, _, a5⟩
  · omega
  rcases (sm_all Ha hm2).nctm v2 st2 hv2 with c | ⟨E2, hE2, _, b3, _, b5⟩
  · omega
  rw [a5 k hk1, b5 k hk2]
  rcases Nat.le_total E1.c E2.c with hle | hle
  · exact ev_logs_agree H hE1 hE2 hle k (by omega)
  · exact (ev_logs_agree H hE2 hE1 hle k (by omega)).symm

end M
end ClusterB
end RaftModel
