import RaftProofs.ClusterBatchC
import RaftProofs.ClusterLogD

/-!
Cluster-level Log Matching, part E: the effect `EffX r r' m` of one call on the log-related parts of a node
(logical log in links, stored entries, queue of `MsgAppend`s) — for `Raft::step` and for the other entry points of
the node model that keep the logical log.  The queue clause: a queued `MsgAppend` was queued before, or the node
is leader now and the message is `GoodX` for the batching flag, the queue and the NEW log; `pk`: a leader that
stays leader of its term keeps the predecessor terms of its log.

Every queue clause of `X` stands under the proviso `CleanQ` on a start state that batches; the top-level lemmas
take it in the form `ProvX`: "if the node batches and is leader before or after the call, its queue was clean
before".  `EffB` (the queue clause in the vocabulary of leader mode: `Kept` / `Made` / `Weird`) is what `EffX` says
whatever the flag (`EffX.effb`); `Eff` of `RaftProofs/ClusterLogE.lean` is what it says with batching off.
-/
namespace RaftModel
namespace Raft
namespace Bt

/-- the effect of one call (input message `m`; only a delivered `MsgAppend` matters) -/
structure EffB (r r' : Raft) (m : Message) : Prop where
  inv : r'.raftLog.Inv
  sto : Sub (storeLog r'.raftLog.store) (storeLog r.raftLog.store) ∨
    (Sub (storeLog r'.raftLog.store) r.raftLog.abs ∧ r'.raftLog.store.hardState.term = r'.term)
  log : Sub r'.raftLog.abs r.raftLog.abs ∨ Grew r r' ∨
    (m.msgType = .msgAppend ∧ r'.state ≠ .leader ∧
      DerivedFrom (fun g => g = r.raftLog.abs ∨ g = msgLog m) r'.raftLog.abs)
  /-- a queued `MsgAppend` keeps its chain, or the node is leader now and made it in this call -/
  q : ∀ x ∈ r'.msgs, x.msgType = .msgAppend →
    Kept r.msgs (msgLog x) ∨
    (r'.state = .leader ∧ (Made r.msgs r'.raftLog.abs (msgLog x) ∨ Weird (msgLog x)))
  keep : r.state = .leader → r'.state = .leader → r'.term = r.term →
    r.raftLog.lastIndex ≤ r'.raftLog.lastIndex ∧
    ∀ i e, r.raftLog.abs.entryAt i = some e → r'.raftLog.abs.snapIdx < i →
      r'.raftLog.abs.entryAt i = some e
  pk : r.state = .leader → r'.state = .leader → r'.term = r.term →
    PrevKeep r.raftLog.abs r'.raftLog.abs

/-- the effect of one call (input message `m`; only a delivered `MsgAppend` matters) -/
structure EffX (r r' : Raft) (m : Message) : Prop where
  inv : r'.raftLog.Inv
  sto : Sub (storeLog r'.raftLog.store) (storeLog r.raftLog.store) ∨
    (Sub (storeLog r'.raftLog.store) r.raftLog.abs ∧ r'.raftLog.store.hardState.term = r'.term)
  log : Sub r'.raftLog.abs r.raftLog.abs ∨ Grew r r' ∨
    (m.msgType = .msgAppend ∧ r'.state ≠ .leader ∧
      DerivedFrom (fun g => g = r.raftLog.abs ∨ g = msgLog m) r'.raftLog.abs)
  /-- a queued `MsgAppend` was queued before, or the node is leader now and made it in this call -/
  q : ∀ x ∈ r'.msgs, x.msgType = .msgAppend →
    x ∈ r.msgs ∨ (r'.state = .leader ∧ GoodX r.batchAppend r.msgs r'.raftLog.abs x)
  keep : r.state = .leader → r'.state = .leader → r'.term = r.term →
    r.raftLog.lastIndex ≤ r'.raftLog.lastIndex ∧
    ∀ i e, r.raftLog.abs.entryAt i = some e → r'.raftLog.abs.snapIdx < i →
      r'.raftLog.abs.entryAt i = some e
  pk : r.state = .leader → r'.state = .leader → r'.term = r.term →
    PrevKeep r.raftLog.abs r'.raftLog.abs

/-- `EffB`: the queue clause in the vocabulary of leader mode -/
theorem EffX.effb {r r' : Raft} {m : Message} (h : EffX r r' m) : EffB r r' m :=
  ⟨h.inv, h.sto, h.log, fun x hx hty => by
    rcases h.q x hx hty with c | ⟨hl, c⟩
    · exact .inl ⟨x, c, hty, rfl⟩
    · rcases c.good hty with d | d
      · exact .inl d
      · exact .inr ⟨hl, d⟩, h.keep, h.pk⟩

theorem good_effb {ms : List Message} {g k : LLog} (h : Good ms g k) :
    Kept ms k ∨ (Made ms g k ∨ Weird k) := h

theorem N0.effx {r r' : Raft} {m : Message} (h : N0 r r') (hinv : r.raftLog.Inv) : EffX r r' m :=
  ⟨h.inv hinv, .inl (storeLog_same h.ls.ents h.ls.smeta), .inl (by rw [h.abs]; exact Sub.refl _),
    fun x hx hty => .inl (h.q x hx hty),
    fun _ _ _ => ⟨by rw [h.ls.same.last]; exact Nat.le_refl _, fun i e he _ => by rw [h.abs]; exact he⟩,
    fun _ _ _ => PrevKeep.of_eq h.abs⟩

theorem X0.effx {r r' : Raft} {m : Message} (h : X0 r r') (hinv : r.raftLog.Inv)
    (hl : r.state = .leader) (hc : r.batchAppend = true → CleanQ r.msgs r.raftLog.abs) :
    EffX r r' m :=
  ⟨h.inv hinv, .inl (storeLog_same h.ls.ents h.ls.smeta), .inl (by rw [h.abs]; exact Sub.refl _),
    fun x hx hty => .inr ⟨h.st.trans hl, by rw [h.abs]; exact h.q hc x hx hty⟩,
    fun _ _ _ => ⟨by rw [h.ls.same.last]; exact Nat.le_refl _, fun i e he _ => by rw [h.abs]; exact he⟩,
    fun _ _ _ => PrevKeep.of_eq h.abs⟩

theorem AppendedX.effx {r r' : Raft} {m : Message} {es : List Entry} (h : AppendedX r r' es)
    (hc : r.batchAppend = true → CleanQ r.msgs r.raftLog.abs) : EffX r r' m :=
  ⟨h.app.inv, .inl (storeLog_same h.qs.ents h.qs.smeta), .inr (.inl ⟨es, h.app⟩),
    fun x hx hty => .inr ⟨h.app.leader, h.qs.q hc x hx hty⟩,
    fun _ _ _ => ⟨by rw [h.app.last]; omega, fun i e he _ => by
      rw [h.app.abs]
      have hl := (r.raftLog.abs.entryAt_lt he).2
      rw [RaftProps.C05.c05_append_entryAt _ _ _ hl]; exact he⟩,
    fun _ _ _ => h.app.prevKeep⟩

theorem AppendedN.effx {r r' : Raft} {m : Message} {es : List Entry} (h : AppendedN r r' es) :
    EffX r r' m :=
  ⟨h.app.inv, .inl (storeLog_same h.qs.ents h.qs.smeta), .inr (.inl ⟨es, h.app⟩),
    fun x hx hty => .inl (h.qs.q x hx hty),
    fun _ _ _ => ⟨by rw [h.app.last]; omega, fun i e he _ => by
      rw [h.app.abs]
      have hl := (r.raftLog.abs.entryAt_lt he).2
      rw [RaftProps.C05.c05_append_entryAt _ _ _ hl]; exact he⟩,
    fun _ _ _ => h.app.prevKeep⟩

theorem N0.effb {r r' : Raft} {m : Message} (h : N0 r r') (hinv : r.raftLog.Inv) : EffB r r' m :=
  (h.effx hinv).effb

theorem L0.effb {r r' : Raft} {m : Message} (h : L0 r r') (hinv : r.raftLog.Inv) : EffB r r' m :=
  ⟨h.inv hinv, .inl (storeLog_same h.ls.ents h.ls.smeta), .inl (by rw [h.abs]; exact Sub.refl _),
    fun x hx hty => by
      rcases h.q x hx hty with c | c
      · exact .inl c
      · exact .inr ⟨h.st, by rw [h.abs]; exact c⟩,
    fun _ _ _ => ⟨by rw [h.ls.same.last]; exact Nat.le_refl _, fun i e he _ => by rw [h.abs]; exact he⟩,
    fun _ _ _ => PrevKeep.of_eq h.abs⟩

theorem AppendedN.effb {r r' : Raft} {m : Message} {es : List Entry} (h : AppendedN r r' es) :
    EffB r r' m :=
  h.effx.effb

/-- the proviso of the top-level lemmas: a node that is leader before or after the call had a clean
queue before it -/
def Prov0 (r r' : Raft) : Prop :=
  (r.state = .leader ∨ r'.state = .leader) → CleanQ r.msgs r.raftLog.abs

theorem Prov0.rebase {a r r' : Raft} (h : Prov0 a r') (hl : r.raftLog = a.raftLog)
    (hm : r.msgs = a.msgs) (hs : r.state = a.state) : Prov0 r r' := by
  unfold Prov0 at *
  rw [hl, hm, hs]; exact h

/-- the proviso of the top-level lemmas: a batching node that is leader before or after the call had a
clean queue before it -/
def ProvX (r r' : Raft) : Prop := r.batchAppend = true → Prov0 r r'

theorem ProvX.rebase {a r r' : Raft} (h : ProvX a r') (hl : r.raftLog = a.raftLog)
    (hm : r.msgs = a.msgs) (hs : r.state = a.state) (hb : r.batchAppend = a.batchAppend) :
    ProvX r r' := fun c => (h (hb ▸ c)).rebase hl hm hs

/-- **`Raft::step` as an effect**, batching on or off (a delivered `MsgAppend` is well-numbered with
real terms) -/
theorem step_effx {r r' : Raft} {m : Message} {e : Option RaftError} (hinv : r.raftLog.Inv)
    (hcl : ProvX r r') (hw : m.msgType = .msgAppend → MsgOk m)
    (h : r.step m = .ok (r', e)) : EffX r r' m := by
  rcases step_x hinv h with c | ⟨_, hl, _, _, es, _, c⟩ | ⟨_, _, c⟩ | ⟨hm, hr, r0, c1, c2, c3⟩ |
    ⟨hm, hr, c⟩ | ⟨hl, _, c⟩
  · exact c.effx hinv
  · exact c.effx fun hb => hcl hb (.inl hl)
  · exact AppendedX.effx c fun hb => hcl hb (.inr c.app.leader)
  · obtain ⟨e1, e2, e3, e4, e5, e6⟩ := handleAppendEntries_eff (c1.inv hinv) (hw hm) c3
    have hst : r'.state = .follower := e6.state.trans c2
    refine ⟨e1, .inl (storeLog_same (by rw [e2]; exact c1.ls.ents) (by rw [e2]; exact c1.ls.smeta)),
      .inr (.inr ⟨hm, by rw [hst]; decide, by rw [c1.abs] at e3; exact e3⟩), ?_, ?_, ?_⟩
    · intro x hx hty
      exact .inl (c1.q x (e4 x hx hty) hty)
    · intro _ h2 _
      rw [hst] at h2; cases h2
    · intro _ h2 _
      rw [hst] at h2; cases h2
  · refine ⟨c.res.inv, .inl (storeLog_same c.qn.ents c.qn.smeta),
      .inl (Sub.of_no_entries (by rw [c.res.abs]; rfl)), ?_, ?_, ?_⟩
    · intro x hx hty
      exact .inl (c.qn.q x hx hty)
    · intro h1 _ h3
      rcases hr with hr | ⟨hr1, hr2⟩
      · exact absurd h1 hr
      · omega
    · intro h1 _ h3
      rcases hr with hr | ⟨hr1, hr2⟩
      · exact absurd h1 hr
      · omega
  · exact (c hinv).effx hinv hl fun hb => hcl hb (.inl hl)

/-- the same effect seen from a start state that differs in fields the effect does not read -/
theorem EffX.rebase {a r r' : Raft} {m : Message} (h : EffX r r' m) (hl : r.raftLog = a.raftLog)
    (hm : r.msgs = a.msgs) (hs : r.state = a.state) (ht : r.term = a.term)
    (hb : r.batchAppend = a.batchAppend) : EffX a r' m :=
  ⟨h.inv, by rw [← hl]; exact h.sto, by
    rcases h.log with c | ⟨es, c⟩ | c
    · exact .inl (by rw [← hl]; exact c)
    · exact .inr (.inl ⟨es, ⟨c.ne, by rw [← hl]; exact c.abs, by rw [← hl]; exact c.contig, c.terms,
        by rw [← hl]; exact c.last, c.inv, by rw [← hl]; exact c.commit, c.leader⟩⟩)
    · exact .inr (.inr (by rw [← hl]; exact c)),
    by rw [← hm, ← hb]; exact h.q, by rw [← hl, ← hs, ← ht]; exact h.keep,
    by rw [← hl, ← hs, ← ht]; exact h.pk⟩

theorem stepIgnore_effx {r r' : Raft} {m : Message} (hinv : r.raftLog.Inv)
    (hcl : ProvX r r') (hw : m.msgType = .msgAppend → MsgOk m)
    (h : r.stepIgnore m = .ok r') : EffX r r' m := by
  obtain ⟨_, hs⟩ := stepIgnore_inv h
  exact step_effx hinv hcl hw hs

theorem EffX.retag {r r' : Raft} {m m' : Message} (h : EffX r r' m) (hm : m.msgType ≠ .msgAppend) :
    EffX r r' m' :=
  ⟨h.inv, h.sto, by
    rcases h.log with c | c | ⟨c, _⟩
    · exact .inl c
    · exact .inr (.inl c)
    · exact absurd c hm, h.q, h.keep, h.pk⟩

/-! ### the entry points that keep the logical log -/

/-- what a call that keeps the logical log leaves: nothing but non-`MsgAppend` messages queued, or a
leader that replicated -/
def SL (r r' : Raft) : Prop := N0 r r' ∨ (r.state = .leader ∧ L r r')

/-- … in the vocabulary of `X` -/
def SX (r r' : Raft) : Prop := N0 r r' ∨ (r.state = .leader ∧ X r r')

theorem SX.sl {r r' : Raft} (h : SX r r') : SL r r' :=
  h.imp (fun c => c) fun c => ⟨c.1, c.2.l c.1⟩

theorem SX.effx {r r' : Raft} {m : Message} (h : SX r r') (hinv : r.raftLog.Inv) (hcl : ProvX r r') :
    EffX r r' m := by
  rcases h with c | ⟨hl, c⟩
  · exact c.effx hinv
  · exact (c hinv).effx hinv hl fun hb => hcl hb (.inl hl)

theorem postConfChange_x {r r' : Raft} {cs : ConfState}
    (h : r.postConfChange = .ok (r', cs)) (hinv : r.raftLog.Inv) : SX r r' :=
  postConfChange_split (Q := X r) h (fun _ _ => .inl (becomeFollower_n _ _ (N.mk' N.rfl) hinv))
    (.inl (N.mk' N.rfl hinv)) (fun _ => X.frame rfl rfl rfl rfl X.rfl) maybeCommit_x bcastAppend_x
    maybeSendAppend_x (fun _ _ => X.frame rfl rfl rfl rfl) (fun _ => X.frame rfl rfl rfl rfl)
    respondReadStates_x
    (fun hs _ p => .inr ⟨hs, X.frame rfl rfl rfl rfl p⟩) (fun hs _ p => .inr ⟨hs, p⟩)

theorem SX.after {a r r' : Raft} (h0 : N0 a r) (hs : r.state = a.state) (h : SX r r') : SX a r' := by
  rcases h with c | ⟨hl, c⟩
  · exact .inl (h0.trans c)
  · exact .inr ⟨hs ▸ hl, X.after h0 hs c⟩

theorem applyConfChange_x {r r' : Raft} {cc : ConfChangeV2} {res : Except ErrKind ConfState}
    (h : r.applyConfChange cc = .ok (r', res)) (hinv : r.raftLog.Inv) : SX r r' := by
  unfold Raft.applyConfChange at h
  simp only at h
  split at h
  · cases h; exact .inl N0.rfl
  · obtain ⟨⟨r2, cs⟩, h2, h⟩ := Res.bind_eq_ok h
    cases h
    refine SX.after ?_ ?_ (postConfChange_x h2 hinv)
    · exact N0.of_fields rfl rfl rfl
    · rfl

theorem ping_n {a r r' : Raft} (h : r.ping = .ok r') (h0 : N a r) : N a r' :=
  ping_parts h h0 fun hb _ => bcastHeartbeat_n hb h0

theorem requestSnapshot_n {a r r' : Raft} {e : Option RaftError}
    (h : r.requestSnapshot = .ok (r', e)) (h0 : N a r) : N a r' :=
  requestSnapshot_parts h h0 (fun _ => N.mk') sendRequestSnapshot_n

/-- a call that replicates only as leader: `pl` is what it does as leader, `pn` what it does
otherwise -/
theorem SX.of_role {r r' : Raft} (hinv : r.raftLog.Inv)
    (pl : r.state = .leader → X r r') (pn : r.state ≠ .leader → N r r') : SX r r' := by
  by_cases hs : r.state = .leader
  · exact .inr ⟨hs, pl hs⟩
  · exact .inl (pn hs hinv)

theorem enableGroupCommit_x {r r' : Raft} {b : Bool}
    (h : r.enableGroupCommit b = .ok r') (hinv : r.raftLog.Inv) : SX r r' :=
  SX.of_role hinv
    (fun _ => enableGroupCommit_parts h (X.frame rfl rfl rfl rfl X.rfl) (fun _ => maybeCommit_x)
      (fun _ => bcastAppend_x))
    (fun hs => enableGroupCommit_parts h (N.mk' N.rfl) (fun hl => absurd hl hs)
      (fun hl => absurd hl hs))

theorem adjustMaxInflightMsgs_n {a r r' : Raft} {t c : Nat}
    (h : r.adjustMaxInflightMsgs t c = .ok r') (h0 : N a r) : N a r' := by
  unfold Raft.adjustMaxInflightMsgs at h
  split at h
  · cases h; exact h0
  · split at h
    · cases h; exact N.mk' h0
    · cases h

theorem assignCommitGroups_x {r r' : Raft} {ids : List (Nat × Nat)}
    (h : r.assignCommitGroups ids = .ok r') (hinv : r.raftLog.Inv) : SX r r' :=
  SX.of_role hinv
    (fun _ => assignCommitGroups_parts h X.rfl (fun _ _ => X.frame rfl rfl rfl rfl)
      (fun _ => maybeCommit_x) (fun _ => bcastAppend_x))
    (fun hs => assignCommitGroups_parts h N.rfl (fun _ _ => N.mk') (fun hl => absurd hl hs)
      (fun hl => absurd hl hs))

/-- `on_persist_entries`: only `persisted` (and on a leader possibly the commit index) moves -/
theorem onPersistEntries_x {r r' : Raft} {index term : Nat} (hinv : r.raftLog.Inv)
    (h : r.onPersistEntries index term = .ok r') : SX r r' :=
  SX.of_role hinv
    (fun _ => onPersistEntries_parts h (fun hp => X.log (logS_maybePersist hinv hp) X.rfl)
      (fun _ => X.frame rfl rfl rfl rfl) (fun _ => maybeCommit_x) (fun _ => bcastAppend_x))
    (fun hs => onPersistEntries_parts h (fun hp => N.log (logS_maybePersist hinv hp) N.rfl)
      (fun _ => N.mk') (fun hl => absurd hl hs) (fun hl => absurd hl hs))

/-- the local messages of `tick_heartbeat` -/
def quietT (t : MsgType) : Bool :=
  match t with
  | .msgBeat | .msgCheckQuorum => true
  | _ => false

/-- `step` on `MsgBeat` / `MsgCheckQuorum` queues no `MsgAppend` -/
theorem stepIgnore_quiet_n {r r' : Raft} {m : Message} (hinv : r.raftLog.Inv)
    (hm : quietT m.msgType = true) (h : r.stepIgnore m = .ok r') :
    N0 r r' := by
  obtain ⟨_, hs⟩ := stepIgnore_inv h
  rcases step_x hinv hs with c | ⟨c, _⟩ | ⟨c, _⟩ | ⟨c, _⟩ | ⟨c, _⟩ | ⟨_, c, _⟩
  · exact c
  · rw [c] at hm; cases hm
  · rcases c with c | c | c | c <;> rw [c] at hm <;> cases hm
  · rw [c] at hm; cases hm
  · rw [c] at hm; cases hm
  · rcases c with c | c | c | c <;> rw [c] at hm <;> cases hm

/-- `tick` on a leader keeps the logical log and queues no `MsgAppend` -/
theorem tick_leader_n {r r' : Raft} {b : Bool} (hinv : r.raftLog.Inv)
    (hs : r.state = .leader) (h : r.tick = .ok (r', b)) : N0 r r' := by
  have quiet : ∀ {r1 m r2}, r1.stepIgnore m = .ok r2 → quietT m.msgType = true →
      N0 r r1 → N0 r r2 := fun hx hm p =>
    p.trans (stepIgnore_quiet_n (p.inv hinv) hm hx)
  unfold Raft.tick at h
  rw [hs] at h
  exact tickHeartbeat_parts (P := N0 r) h (fun _ _ p => p) N0.rfl
    (fun hx ty _ _ => quiet hx (by rw [ty]; rfl)) (fun hx ty _ _ => quiet hx (by rw [ty]; rfl))
    fun p => p

/-- **`tick` as an effect** -/
theorem tick_effx {r r' : Raft} {b : Bool} {m : Message} (hinv : r.raftLog.Inv)
    (hcl : ProvX r r') (h : r.tick = .ok (r', b)) : EffX r r' m := by
  by_cases hs : r.state = .leader
  · exact (tick_leader_n hinv hs h).effx hinv
  · have hel : r.tickElection = .ok (r', b) := by
      unfold Raft.tick at h
      cases hst : r.state <;> rw [hst] at h <;> first | exact h | exact absurd hst hs
    unfold Raft.tickElection at hel
    simp only at hel
    split at hel
    · cases hel
      refine N0.effx ?_ hinv
      exact N0.of_fields rfl rfl rfl
    · obtain ⟨r3, h3, hel⟩ := Res.bind_eq_ok hel
      cases hel
      have := stepIgnore_effx (r := ({ r with electionElapsed := 0 } : Raft)) hinv
        (hcl.rebase rfl rfl rfl rfl) (fun hc => by cases hc) h3
      exact (this.retag (by intro hc; cases hc)).rebase rfl rfl rfl rfl rfl

/-! ### in the vocabulary of leader mode -/

/-- **`Raft::step` as an effect**, from a clean queue -/
theorem step_effb {r r' : Raft} {m : Message} {e : Option RaftError} (hinv : r.raftLog.Inv)
    (hcl : Prov0 r r') (hw : m.msgType = .msgAppend → MsgOk m)
    (h : r.step m = .ok (r', e)) : EffB r r' m :=
  (step_effx hinv (fun _ => hcl) hw h).effb

/-- the same effect seen from a start state that differs in fields the effect does not read -/
theorem EffB.rebase {a r r' : Raft} {m : Message} (h : EffB r r' m) (hl : r.raftLog = a.raftLog)
    (hm : r.msgs = a.msgs) (hs : r.state = a.state) (ht : r.term = a.term) : EffB a r' m :=
  ⟨h.inv, by rw [← hl]; exact h.sto, by
    rcases h.log with c | ⟨es, c⟩ | c
    · exact .inl (by rw [← hl]; exact c)
    · exact .inr (.inl ⟨es, ⟨c.ne, by rw [← hl]; exact c.abs, by rw [← hl]; exact c.contig, c.terms,
        by rw [← hl]; exact c.last, c.inv, by rw [← hl]; exact c.commit, c.leader⟩⟩)
    · exact .inr (.inr (by rw [← hl]; exact c)),
    by rw [← hm]; exact h.q, by rw [← hl, ← hs, ← ht]; exact h.keep,
    by rw [← hl, ← hs, ← ht]; exact h.pk⟩

theorem stepIgnore_effb {r r' : Raft} {m : Message} (hinv : r.raftLog.Inv)
    (hcl : Prov0 r r') (hw : m.msgType = .msgAppend → MsgOk m)
    (h : r.stepIgnore m = .ok r') : EffB r r' m := by
  obtain ⟨_, hs⟩ := stepIgnore_inv h
  exact step_effb hinv hcl hw hs

theorem EffB.retag {r r' : Raft} {m m' : Message} (h : EffB r r' m) (hm : m.msgType ≠ .msgAppend) :
    EffB r r' m' :=
  ⟨h.inv, h.sto, by
    rcases h.log with c | c | ⟨c, _⟩
    · exact .inl c
    · exact .inr (.inl c)
    · exact absurd c hm, h.q, h.keep, h.pk⟩

theorem SL.effb {r r' : Raft} {m : Message} (h : SL r r') (hinv : r.raftLog.Inv) (hcl : Prov0 r r') :
    EffB r r' m := by
  rcases h with c | ⟨hl, c⟩
  · exact c.effb hinv
  · exact (c hinv (hcl (.inl hl))).effb hinv

theorem applyConfChange_b {r r' : Raft} {cc : ConfChangeV2} {res : Except ErrKind ConfState}
    (h : r.applyConfChange cc = .ok (r', res)) (hinv : r.raftLog.Inv) : SL r r' :=
  (applyConfChange_x h hinv).sl

theorem enableGroupCommit_b {r r' : Raft} {b : Bool}
    (h : r.enableGroupCommit b = .ok r') (hinv : r.raftLog.Inv) : SL r r' :=
  (enableGroupCommit_x h hinv).sl

theorem assignCommitGroups_b {r r' : Raft} {ids : List (Nat × Nat)}
    (h : r.assignCommitGroups ids = .ok r') (hinv : r.raftLog.Inv) : SL r r' :=
  (assignCommitGroups_x h hinv).sl

theorem onPersistEntries_b {r r' : Raft} {index term : Nat} (hinv : r.raftLog.Inv)
    (h : r.onPersistEntries index term = .ok r') : SL r r' :=
  (onPersistEntries_x hinv h).sl

/-- **`tick` as an effect** -/
theorem tick_effb {r r' : Raft} {b : Bool} {m : Message} (hinv : r.raftLog.Inv)
    (hcl : Prov0 r r') (h : r.tick = .ok (r', b)) : EffB r r' m :=
  (tick_effx hinv (fun _ => hcl) h).effb

end Bt
end Raft
end RaftModel
