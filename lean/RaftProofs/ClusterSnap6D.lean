import RaftProofs.ClusterSnap6C

/-!
Commit safety of `ClusterSem` with compaction, snapshots and `request_snapshot`, part 6D: **`reqok` is
derived**.  `Snap5.Hyp3r` is the bundle `Snap5.Hyp3w` (`RaftProps/C01i.lean`: `Hyp3r_partial`) *without*
the field `reqok`; `reqInv_of_gsteps` proves, by induction along any history of `GStep q` steps, that
every node of every state satisfies `RQ.ReqInv` ("a node with a pending snapshot request is not leader
and its log ends at or before the requested index"): initial states and restarted nodes are freshly
booted (`RQ.boot_pend`: no request), and a `call` / `deliver` / `send` step is one `Node.call` of the
stepping node (`RQ.call_reqI`, every `NodeOp`); the representation invariant of the logs comes from
`RaftProps.C05.cluster_inv`, which needs nothing about requests.  Hence `Hyp3r.reqInv`,
`Hyp3r.toHyp3w` — and `reqok` for the histories of the compaction layer (`ClusterSnapCompaction`).
-/
namespace RaftModel
namespace Cluster
namespace Snap5
open Node Raft Raft.CC RaftProps.C02 RaftProps.C05 Snap

/-- every node of the state satisfies `RQ.ReqInv` -/
def ReqInvS (s : Sys) : Prop := ∀ i st, s.node i = some st → RQ.ReqInv st

theorem ReqInvS.reqOk {s : Sys} (h : ReqInvS s) : ReqOk s :=
  fun i st hi => (h i st hi).reqOkN

/-- **the invariant in every state of a history of contract-abiding steps** -/
theorem reqInv_of_gsteps {q : Prop} {cfg : JointConfig} {h : List Sys} (hist : History h)
    (fix : ∀ s ∈ h, FixedCfg cfg s) (ne : cfg.incoming ≠ []) (nd1 : cfg.incoming.Nodup)
    (nd2 : cfg.outgoing.Nodup) (init : ∀ s : Sys, h[0]? = some s → InitOk s)
    (steps : ∀ (n : Nat) (a b : Sys), h[n]? = some a → h[n + 1]? = some b → GStep q a b)
    (nb : ∀ s ∈ h, NoBatch s) : ∀ (n : Nat) (s : Sys), h[n]? = some s → ReqInvS s := by
  obtain ⟨s0, _, hall⟩ := RaftProps.C05.cluster_inv cfg ne nd1 nd2 h hist fix init
    (fun n a b ha hb => (steps n a b ha hb).cstep) nb
  refine node_hist (C := .g q) (P := fun _ st => RQ.ReqInv st) h hist
    (fun n a b ha hb => (steps n a b ha hb).moved) (fun g => g)
    (fun _ st c store rnd _ hb => RQ.boot_reqInv c store rnd st hb) ?_
  intro n a k st st' rnd op res ha hk ih hc hcall
  refine RQ.call_reqI st st' rnd op res ((hall a (mem_of_get ha)).inv k st hk) ?_ ih hcall
  intro j hj
  refine ⟨hc.1 j hj, ?_⟩
  apply Classical.byContradiction
  intro hne
  have := (hc.2.2.1 (by rw [hj]; rfl)).2.2.1 hne
  rw [hj] at this
  cases this

/-- **the hypotheses of `RaftProps/C01j.lean`**: those of `Snap5.Hyp3w` (`Hyp3r_partial` of C01i)
*without* `reqok` — i.e. the hypotheses of C01h (`Snap2.Hyp3w`) without the gap `noreq`:
`request_snapshot` may be used freely -/
structure Hyp3r (cfg : JointConfig) (c0 : Nat) (h : List Sys) : Prop where
  hist : History h
  fix : ∀ s ∈ h, FixedCfg cfg s
  ne : cfg.incoming ≠ []
  nd1 : cfg.incoming.Nodup
  nd2 : cfg.outgoing.Nodup
  init : ∀ s : Sys, h[0]? = some s → InitOk s
  steps : ∀ (n : Nat) (a b : Sys), h[n]? = some a → h[n + 1]? = some b → KStep a b
  nb : ∀ s ∈ h, NoBatch s
  nolone : ∀ i Q, IsJointQuorum cfg Q → ∃ k ∈ Q, k ≠ i
  first0 : ∀ s : Sys, h[0]? = some s → ∀ i st, s.node i = some st →
    st.raft.raftLog.store.firstIndex = c0 + 1
  initc : ∀ s : Sys, h[0]? = some s → ∀ i st, s.node i = some st → st.raft.raftLog.committed = c0
  pend0 : ∀ s : Sys, h[0]? = some s → ∀ i st, s.node i = some st →
    st.raft.raftLog.unstable.snapshot = none
  snapt0 : ∀ s0, h[0]? = some s0 → ∀ i sti, s0.node i = some sti → ∀ t0,
    sti.raft.raftLog.abs.snapTerm = some t0 → ∀ j stj, s0.node j = some stj → t0 ≤ stj.raft.term
  snapidx : ∀ s ∈ h, ∀ x ∈ s.net, x.msgType = .msgSnapshot → c0 < x.snapshot.metadata.index

variable {cfg : JointConfig} {c0 : Nat} {h : List Sys}

/-- **the invariant in every state of the history** -/
theorem Hyp3r.reqInv (H : Hyp3r cfg c0 h) : ∀ (n : Nat) (s : Sys), h[n]? = some s → ReqInvS s :=
  reqInv_of_gsteps H.hist H.fix H.ne H.nd1 H.nd2 H.init
    (fun n a b ha hb => (H.steps n a b ha hb).g (q := True)) H.nb

/-- **`reqok` derived** -/
theorem Hyp3r.reqok (H : Hyp3r cfg c0 h) : ∀ s ∈ h, ReqOk s := by
  intro s hs
  obtain ⟨n, hn⟩ := List.mem_iff_getElem?.1 hs
  exact (H.reqInv n s hn).reqOk

/-- **the bundle without `reqok` implies the bundle of `RaftProps/C01i.lean`** -/
theorem Hyp3r.toHyp3w (H : Hyp3r cfg c0 h) : Hyp3w cfg c0 h :=
  { hist := H.hist, fix := H.fix, ne := H.ne, nd1 := H.nd1, nd2 := H.nd2, init := H.init,
    steps := H.steps, nb := H.nb, reqok := H.reqok, nolone := H.nolone, first0 := H.first0,
    initc := H.initc, pend0 := H.pend0, snapt0 := H.snapt0, snapidx := H.snapidx }

/-- … and conversely (forget `reqok`) -/
theorem Hyp3w.toHyp3r (H : Hyp3w cfg c0 h) : Hyp3r cfg c0 h :=
  { hist := H.hist, fix := H.fix, ne := H.ne, nd1 := H.nd1, nd2 := H.nd2, init := H.init,
    steps := H.steps, nb := H.nb, nolone := H.nolone, first0 := H.first0,
    initc := H.initc, pend0 := H.pend0, snapt0 := H.snapt0, snapidx := H.snapidx }

/-- the example history of `ClusterSnap5Z.lean` (42 states, `request_snapshot` used) satisfies the
bundle -/
theorem rx_hyp3r : Hyp3r RaftProps.C02.c02x_cfg 0 rx_hist :=
  (Hyp3a.toHyp3w (Hyp3.toHyp3a rx_hyp3)).toHyp3r

end Snap5
end Cluster
end RaftModel
