import RaftProofs.ClusterConfG
import RaftProofs.ClusterLogK
import RaftProofs.RaftNodePD
import RaftProofs.NodeHandlers

/-!
C09 at the cluster level, part H: the leader discipline `LB` (a leader has `ConfBounded`) through
`tick`, `commit_apply` (auto-leave), the storage-side steps of the emulated application, and through
EVERY `NodeOp` (`call_lb`), for a node whose log satisfies the representation invariant.
-/
namespace RaftModel
namespace Raft
open Node RaftProps.C09

/-- a leader stepping its own `MsgCheckQuorum` / `MsgBeat`: it steps down, or the log, the apply cursor
and `pending_conf_index` are kept -/
theorem step_local_cf {r r' : Raft} {m : Message} {e : Option RaftError} (hinv : r.raftLog.Inv)
    (hs : r.state = .leader) (h0 : m.term = 0)
    (hm : m.msgType = .msgCheckQuorum ∨ m.msgType = .msgBeat) (h : r.step m = .ok (r', e)) :
    r'.state = .follower ∨ (CF r r' ∧ LS r r') := by
  rw [step_leader (stepTerm_same (.inl h0)) (by rcases hm with g | g <;> exact .of_eq g) hs] at h
  have hnp : m.msgType ≠ .msgPropose := by
    rcases hm with g | g <;> (rw [g]; decide)
  rcases c09_stepLeader_other hnp h with hcf | hf
  · rcases stepLeader_log hinv LS.rfl hs h with hls | ⟨hm', _⟩
    · exact .inr ⟨hcf, hls⟩
    · exact absurd hm' hnp
  · exact .inl hf

theorem stepIgnore_local_cf {r r' : Raft} {m : Message} (hinv : r.raftLog.Inv)
    (hs : r.state = .leader) (h0 : m.term = 0)
    (hm : m.msgType = .msgCheckQuorum ∨ m.msgType = .msgBeat) (h : r.stepIgnore m = .ok r') :
    r'.state = .follower ∨ (CF r r' ∧ LS r r') :=
  have ⟨_, hs1⟩ := stepIgnore_inv h
  step_local_cf hinv hs h0 hm hs1

/-- a leader's tick: it steps down, or the log, the apply cursor and `pending_conf_index` are kept -/
theorem tickHeartbeat_cf {r r' : Raft} {b : Bool} (hinv : r.raftLog.Inv) (hs : r.state = .leader)
    (h : r.tickHeartbeat = .ok (r', b)) : r'.state = .follower ∨ (CF r r' ∧ LS r r') := by
  have step : ∀ {r1 r2 : Raft} {m : Message}, r1.stepIgnore m = .ok r2 →
      m.msgType = .msgCheckQuorum ∨ m.msgType = .msgBeat → m.term = 0 → r1.state = .leader →
      r1.state = .follower ∨ (CF r r1 ∧ LS r r1) → r2.state = .follower ∨ (CF r r2 ∧ LS r r2) := by
    intro r1 r2 m hx hm ht hl p
    rcases p with p | ⟨p1, p2⟩
    · rw [hl] at p; cases p
    · exact (stepIgnore_local_cf (p2.inv hinv) hl ht hm hx).imp_right
        fun q => ⟨p1.trans q.1, p2.trans q.2⟩
  exact tickHeartbeat_parts (P := fun x => x.state = .follower ∨ (CF r x ∧ LS r x)) h
    (fun _ _ => Or.imp_right (And.imp CF.mk' LS.mk'))
    (.inr ⟨CF.rfl, LS.rfl⟩) (fun hx hm ht hst => step hx (.inl hm) ht (hst.trans hs))
    (fun hx hm ht hl => step hx (.inr hm) ht hl) (Or.imp_right (And.imp CF.mk' LS.mk'))

/-- **`tick`** keeps the leader discipline -/
theorem tick_lb {r r' : Raft} {b : Bool} (hinv : r.raftLog.Inv)
    (hap : r.raftLog.applied ≤ r.raftLog.lastIndex) (hlb : LB r) (h : r.tick = .ok (r', b)) :
    LB r' := by
  have hE : r.tickElection = .ok (r', b) → LB r' := by
    intro h
    unfold Raft.tickElection at h
    simp only [] at h
    split at h
    · cases h; exact hlb
    · rw [Res.bind_eq_ok_iff] at h
      obtain ⟨r1, hs, h⟩ := h
      cases h
      obtain ⟨_, hs2⟩ := stepIgnore_inv hs
      exact step_lb (r := { r with electionElapsed := 0 }) hinv hap hlb hs2
  unfold Raft.tick at h
  split at h
  · exact hE h
  · exact hE h
  · exact hE h
  · rename_i hs
    intro hl'
    rcases tickHeartbeat_cf hinv hs h with g | ⟨g1, g2⟩
    · rw [g] at hl'; cases hl'
    · exact cb_of_same (hlb hs) g2.abs g1

/-- `commit_apply` (the second writer of a leader's log: auto-leave) keeps `ConfBounded`
(cf. `C09_one_pending_change_commit_apply`) -/
theorem cb_commit_apply {r r' : Raft} {applied : Nat} {skip : Bool} (hinv : r.raftLog.Inv)
    (hsk : skip = true → r.raftLog.applied ≤ applied) (hb : ConfBounded r)
    (h : r.commitApplyInternal applied skip = .ok r') : ConfBounded r' := by
  unfold Raft.commitApplyInternal at h
  simp only [] at h
  split at h
  · cases h
  · cases h
  · rename_i log hlog
    obtain ⟨a', hge, hl, ha0⟩ := c09_applyCursor _ _ _ _ hsk hlog
    have habs : log.abs = r.raftLog.abs := by rw [hl]; rfl
    have hinv1 : log.Inv := by
      rw [hl]
      exact hinv.set_cursors r.raftLog.committed r.raftLog.persisted a' hinv.dummy_le_committed
        hinv.committed_le_last hinv.persisted_lt_off hinv.persisted_le_store
    have hli : log.lastIndex = r.raftLog.lastIndex := by rw [hl]; rfl
    have happ : log.applied = a' := by rw [hl]
    have hb1 : ConfBounded { r with raftLog := log } := by
      intro i e he hc hi
      exact hb i e (by rw [← habs]; exact he) hc
        (by have : a' < i := by rw [← happ]; exact hi
            omega)
    split at h
    · rename_i hcond
      obtain ⟨_, hc1, hc2, hc3⟩ := hcond
      have hpa : r.pendingConfIndex ≤ a' := by
        by_cases h0 : applied = 0
        · have : r.pendingConfIndex ≤ applied := hc2
          omega
        · rw [ha0 h0]; exact hc2
      split at h
      · rename_i r2 happe
        cases h
        have hcf : CF _ r2 := appendEntry_cf happe CF.rfl
        rcases appendEntry_cases (r := { r with raftLog := log }) hinv1 hc3 happe with
          ⟨hb', _⟩ | ⟨_, he, _⟩ | ⟨_, hA, _⟩
        · cases hb'
        · cases he
        · have hlast : r2.raftLog.lastIndex = r.raftLog.lastIndex + 1 := by
            rw [hA.last]; simp only [stampFrom, List.length_cons, List.length_nil]
            show log.lastIndex + _ = _
            rw [hli]
          have hap2 : r2.raftLog.applied = a' := by rw [hcf.2]; exact happ
          have new : ∀ x e, r2.raftLog.abs.entryAt x = some e → isConf e → a' < x →
              x = r.raftLog.lastIndex + 1 := by
            intro x e hx hc hgt
            rcases c09_appended_entryAt (a := { r with raftLog := log }) hinv1 hA x e hx with
              ⟨_, h2⟩ | ⟨h1, h2⟩
            · have h2' : r.raftLog.abs.entryAt x = some e := by rw [← habs]; exact h2
              have := hb x e h2' hc (by omega)
              omega
            · have h1' : r.raftLog.lastIndex < x := by rw [← hli]; exact h1
              cases hk : x - log.lastIndex - 1 with
              | zero => rw [hli] at hk; omega
              | succ n =>
                have h2' := h2
                change (stampFrom _ _ _)[x - log.lastIndex - 1]? = some e at h2'
                rw [hk] at h2'
                simp [stampFrom] at h2'
          intro i e he hc hi
          show i ≤ r2.raftLog.lastIndex
          have : a' < i := by rw [← hap2]; exact hi
          rw [hlast, new i e he hc this]
          exact Nat.le_refl _
      · cases h
      · cases h
      · cases h
    · cases h
      exact hb1

/-- `post_conf_change` on a node that is leader afterwards keeps the apply cursor and
`pending_conf_index` -/
theorem postConfChange_cf_leader {a r r' : Raft} {cs : ConfState}
    (h : r.postConfChange = .ok (r', cs)) (hl : r'.state = .leader) (h0 : CF a r) : CF a r' := by
  -- a part that keeps the role and `CF` keeps "stepped down, or `CF`"
  have step : ∀ {r1 r2 : Raft}, Frame r1 r2 → (CF a r1 → CF a r2) →
      r1.state = .follower ∨ CF a r1 → r2.state = .follower ∨ CF a r2 :=
    fun hf hc => Or.imp (fun hs => hf.state.trans hs) hc
  have key : r'.state = .follower ∨ CF a r' :=
    postConfChange_parts h (.inr (CF.mk' h0)) (fun _ _ => fun _ => .inl rfl)
      (fun _ => fun hc => step (maybeCommit_frame hc Frame.rfl) (maybeCommit_cf hc))
      (fun _ => fun hb => step (bcastAppend_frame hb Frame.rfl) (bcastAppend_cf hb))
      (fun _ => fun hs => step (maybeSendAppend_frame hs Frame.rfl) (maybeSendAppend_cf hs))
      (fun _ _ => step (Frame.mk' Frame.rfl) CF.mk')
      (fun _ => step (Frame.mk' Frame.rfl) CF.mk')
      (fun hr => step (respondReadStates_frame hr Frame.rfl) (respondReadStates_cf hr))
      (step (Frame.mk' Frame.rfl) CF.mk')
  exact key.resolve_left (by rw [hl]; decide)

theorem applyConfChange_lb {r r' : Raft} {cc : ConfChangeV2} {x : Except ErrKind ConfState}
    (hlb : LB r) (h : r.applyConfChange cc = .ok (r', x)) : LB r' := by
  intro hl
  have habs := (applyConfChange_ls h LS.rfl).abs
  have hst : r.state = .leader := by
    rcases applyConfChange_state h with ⟨g, _⟩ | g
    · rw [← g]; exact hl
    · rw [g] at hl; cases hl
  have hcf : CF r r' := by
    unfold Raft.applyConfChange at h
    simp only [] at h
    split at h
    · cases h; exact CF.rfl
    · rw [Res.bind_eq_ok_iff] at h
      obtain ⟨⟨r1, cs⟩, hp, h⟩ := h
      cases h
      exact postConfChange_cf_leader hp hl (CF.mk' CF.rfl)
  exact cb_of_same (hlb hst) habs hcf

/-- the storage-side steps: every entry of the new logical log is an entry of the old one; role,
apply cursor and `pending_conf_index` are kept -/
structure StoreStep (r r' : Raft) : Prop where
  sub : ∀ i e, r'.raftLog.abs.entryAt i = some e → r.raftLog.abs.entryAt i = some e
  applied : r'.raftLog.applied = r.raftLog.applied
  pci : r'.pendingConfIndex = r.pendingConfIndex
  state : r'.state = r.state

theorem StoreStep.lb {r r' : Raft} (h : StoreStep r r') (hlb : LB r) : LB r' := by
  intro hl
  exact cb_of_sub (hlb (h.state ▸ hl)) h.sub (Nat.le_of_eq h.applied.symm)
    (Nat.le_of_eq h.pci.symm)

theorem StoreStep.of_abs {r r' : Raft} (ha : r'.raftLog.abs = r.raftLog.abs)
    (h1 : r'.raftLog.applied = r.raftLog.applied) (h2 : r'.pendingConfIndex = r.pendingConfIndex)
    (h3 : r'.state = r.state) : StoreStep r r' :=
  ⟨fun i e he => by rw [← ha]; exact he, h1, h2, h3⟩

theorem stabilize_storeStep {st st' : NState} {res : OpRes} (hinv : st.raft.raftLog.Inv)
    (h : Node.stabilize st = .ok (res, st')) : StoreStep st.raft st'.raft := by
  refine stabilize_parts (Q := fun s => StoreStep st.raft s.raft) h fun {l} hl => ?_
  have hl' : l.Inv ∧ l.abs = st.raft.raftLog.abs ∧ l.applied = st.raft.raftLog.applied := by
    cases hs : st.raft.raftLog.unstable.snapshot with
    | none =>
      obtain ⟨l2, e2, i2, a2, _, _, ap2, _⟩ := RaftProps.C14.stabilise_ok hinv hs
      rw [hl] at e2
      cases e2
      exact ⟨i2, a2, ap2⟩
    | some sn =>
      by_cases hne : st.raft.raftLog.unstable.entries = []
      · have : st.raft.raftLog.stabilise = .ok st.raft.raftLog := by
          unfold RaftLog.stabilise; rw [hne]; rfl
        rw [this] at hl
        cases hl
        exact ⟨hinv, rfl, rfl⟩
      · obtain ⟨s, hp⟩ := RaftProps.C14.stabilise_pending_panics hinv sn hs hne
        rw [hp] at hl; cases hl
  obtain ⟨i1, a1, ap1⟩ := hl'
  obtain ⟨_, a2, _⟩ := Inv_store_core i1
    (l.store.setHardState { l.store.hardState with term := st.raft.term, vote := st.raft.vote })
    rfl rfl
  exact StoreStep.of_abs (by show RaftLog.abs _ = _; rw [a2, a1]) ap1 rfl rfl

theorem persistSnap_storeStep {st st' : NState} {res : OpRes} (hinv : st.raft.raftLog.Inv)
    (h : Node.persistSnap st = .ok (res, st')) : StoreStep st.raft st'.raft := by
  refine persistSnap_parts (Q := fun s => StoreStep st.raft s.raft) h
    (StoreStep.of_abs rfl rfl rfl rfl) fun {sn store l raft} hsn hap hl hop => ?_
  have hge : st.raft.raftLog.store.firstIndex ≤ sn.metadata.index := by
    unfold MemStorage.applySnapshot at hap
    dsimp only at hap
    split at hap
    · cases hap
    · omega
  unfold Raft.onPersistSnap at hop
  split at hop
  · rename_i l2 b hmp
    cases hop
    have hps : st.raft.raftLog.persistSnapshot = .ok l2 := by
      unfold RaftLog.persistSnapshot
      rw [hsn]
      simp only []
      rw [hap]
      simp only []
      rw [hl]
      simp only []
      rw [hmp]
    obtain ⟨l3, e3, i3, a3, _, ap3, _⟩ := RaftProps.C14.persistSnapshot_ok hinv sn hsn hge
    rw [hps] at e3
    cases e3
    exact StoreStep.of_abs a3 ap3 rfl rfl
  · cases hop
  · cases hop

theorem compact_storeStep {r : Raft} {k : Nat} {store : MemStorage} (hinv : r.raftLog.Inv)
    (hc : CompactOk r.raftLog k) (h : r.raftLog.store.compact k = .ok store) :
    StoreStep r (withStore r (fun _ => store)) := by
  obtain ⟨l', hcs, _, habs1, habs2, _⟩ :=
    RaftProps.C14.compactStore_ok hinv k hc.1 (by have := hc.2; omega) (.inl (by
      have := hc.2; have := hinv.persisted_le_store; omega))
  have hl' : l' = { r.raftLog with store := store } := by
    unfold RaftLog.compactStore at hcs
    rw [h] at hcs
    cases hcs; rfl
  subst hl'
  refine ⟨?_, rfl, rfl, rfl⟩
  intro i e he
  have he' : ({ r.raftLog with store := store } : RaftLog).abs.entryAt i = some e := he
  cases hs : r.raftLog.unstable.snapshot with
  | none =>
    rw [habs1 hs] at he'
    have hkl : k - 1 ≤ r.raftLog.abs.lastIndex := by
      rw [← hinv.lastIndex_abs]; have := hinv.committed_le_last; have := hc.1; omega
    exact (Sub.compactTo _ _ hkl i e he').1
  | some sn =>
    rw [habs2 sn hs] at he'
    exact he'

theorem withStore_core_storeStep {r : Raft} (hinv : r.raftLog.Inv) (s' : MemStorage)
    (he : s'.entries = r.raftLog.store.entries)
    (hm : s'.snapshotMetadata = r.raftLog.store.snapshotMetadata) :
    StoreStep r { r with raftLog := { r.raftLog with store := s' } } := by
  obtain ⟨_, a2, _⟩ := Inv_store_core hinv s' he hm
  exact StoreStep.of_abs a2 rfl rfl rfl

/-- the node's `commit_apply k` step keeps the leader discipline -/
theorem nodeCommitApply_lb {st st' : NState} {k : Nat} {res : OpRes} (hinv : st.raft.raftLog.Inv)
    (hlb : LB st.raft) (h : Node.commitApply st k = .ok (res, st')) : LB st'.raft := by
  -- the invariant of the log goes along: `commit_apply` needs it, and the state after it too
  refine (commitApply_parts (Q := fun s => s.raft.raftLog.Inv ∧ LB s.raft) h ⟨hinv, hlb⟩
    (fun ents => ?_) (fun {r1 r2} h2 q => ?_) (fun {r} q => ?_)).2
  · have hred : (st.raft.reduceUncommittedSize ents).raftLog = st.raft.raftLog ∧
        (st.raft.reduceUncommittedSize ents).state = st.raft.state ∧
        (st.raft.reduceUncommittedSize ents).pendingConfIndex = st.raft.pendingConfIndex := by
      unfold Raft.reduceUncommittedSize
      split <;> exact ⟨rfl, rfl, rfl⟩
    refine ⟨by rw [hred.1]; exact hinv, fun hl => ?_⟩
    have hb := hlb (hred.2.1 ▸ hl)
    intro i e he hc hi
    rw [hred.1] at he hi
    rw [hred.2.2]
    exact hb i e he hc hi
  · have hinv1 : r1.raftLog.Inv := q.1
    have lb1 : LB r1 := q.2
    have hvf := Res.Post.of_eq (CV.commitApply_vf _ _) h2
    unfold Raft.commitApply at h2
    refine ⟨?_, fun hl => cb_commit_apply hinv1 (fun hc => by cases hc) (lb1 (hvf.state ▸ hl)) h2⟩
    rcases commitApplyInternal_k hinv1 h2 with g | ⟨es, g⟩
    · exact g.inv hinv1
    · exact g.app.inv
  · have hinv2 : r.raftLog.Inv := q.1
    have hs := Inv_store_core hinv2 { r.raftLog.store with
      hardState := { r.raftLog.store.hardState with commit := k }, confState := st.appCs } rfl rfl
    exact ⟨hs.1, (withStore_core_storeStep hinv2 _ rfl rfl).lb q.2⟩

theorem assignCommitGroups_cf_ls {r r' : Raft} {ids : List (Nat × Nat)}
    (h : r.assignCommitGroups ids = .ok r') : CF r r' ∧ LS r r' :=
  ⟨assignCommitGroups_parts h CF.rfl (fun _ _ => CF.mk') (fun _ => maybeCommit_cf)
    (fun _ => bcastAppend_cf),
   assignCommitGroups_parts h LS.rfl (fun _ _ => LS.mk') (fun _ => maybeCommit_ls)
    (fun _ => bcastAppend_ls)⟩

theorem enableGroupCommit_cf_ls {r r' : Raft} {b : Bool}
    (h : r.enableGroupCommit b = .ok r') : CF r r' ∧ LS r r' :=
  ⟨enableGroupCommit_parts h (CF.mk' CF.rfl) (fun _ => maybeCommit_cf) (fun _ => bcastAppend_cf),
   enableGroupCommit_parts h (LS.mk' LS.rfl) (fun _ => maybeCommit_ls) (fun _ => bcastAppend_ls)⟩

/-- **one call of a node, any `NodeOp`, keeps the leader discipline** — for a node whose log satisfies
the representation invariant and whose apply cursor is within the log; `compact` obeys the storage
contract -/
theorem call_lb (st st' : NState) (rnd : Option Nat) (op : NodeOp) (res : OpRes)
    (hinv : st.raft.raftLog.Inv) (hap : st.raft.raftLog.applied ≤ st.raft.raftLog.lastIndex)
    (hc : ∀ k, op = .compact k → CompactOk st.raft.raftLog k) (hlb : LB st.raft)
    (h : Node.call st rnd op = .ok (res, st')) : LB st'.raft := by
  -- the state with the draw stored gets a name; only these facts about it are used
  unfold Node.call at h
  generalize hst0 : ({ st with raft := { st.raft with nextRand := rnd } } : NState) = st0 at h
  have hinv' : st0.raft.raftLog.Inv := by rw [← hst0]; exact hinv
  have hap' : st0.raft.raftLog.applied ≤ st0.raft.raftLog.lastIndex := by rw [← hst0]; exact hap
  have hlb' : LB st0.raft := by rw [← hst0]; exact hlb
  have hc' : ∀ k, op = .compact k → CompactOk st0.raft.raftLog k := by rw [← hst0]; exact hc
  have viaStore : ∀ raft : Raft, StoreStep st0.raft raft → LB raft := fun raft hs => hs.lb hlb'
  have viaAbs : ∀ raft : Raft, raft.raftLog.abs = st0.raft.raftLog.abs →
      raft.raftLog.applied = st0.raft.raftLog.applied →
      raft.pendingConfIndex = st0.raft.pendingConfIndex → raft.state = st0.raft.state → LB raft :=
    fun raft a b c d => viaStore raft (StoreStep.of_abs a b c d)
  have viaSame : ∀ {raft : Raft}, CF st0.raft raft ∧ LS st0.raft raft →
      raft.state = st0.raft.state → LB raft :=
    fun hx hs => viaAbs _ hx.2.abs hx.1.2 hx.1.1 hs
  have viaIgnore : ∀ {m : Message} {raft : Raft}, st0.raft.stepIgnore m = .ok raft → LB raft :=
    fun hx => stepIgnore_parts hx (step_lb hinv' hap' hlb')
  cases applyOp_parts h with
  | tick hx => exact tick_lb hinv' hap' hlb' hx
  | step hx =>
    rcases RawNode.step_inv hx with hr | ⟨_, hx⟩
    · rw [hr]; exact hlb'
    · exact step_lb hinv' hap' hlb' hx
  | rstep hx | propose hx | proposeCc hx | campaign hx => exact step_lb hinv' hap' hlb' hx
  | readIndex hx | transferLeader hx | reportUnreachable hx | reportSnapshot hx => exact viaIgnore hx
  | ping hx =>
    exact viaSame ⟨ping_cf hx CF.rfl, ping_ls hx LS.rfl⟩ (Res.Post.of_eq (CV.ping_vf _) hx).state
  | requestSnapshot hx =>
    have hvf := Res.Post.of_eq (P := fun x => CV.VF _ x.1) (CV.requestSnapshot_vf _) hx
    intro hl
    have hl0 : st0.raft.state = .leader := hvf.state ▸ hl
    unfold Raft.requestSnapshot at hx
    rw [if_pos hl0] at hx
    cases hx
    exact hlb' hl0
  | confChanged hx | confRefused hx => exact applyConfChange_lb hlb' hx
  | stabilize hx => exact viaStore _ (stabilize_storeStep hinv' hx)
  | onPersistEntries hx =>
    have hvf := Res.Post.of_eq (CV.onPersistEntries_vf _ _ _) hx
    obtain ⟨a1, _, a3, a4⟩ := onPersistEntries_abs hx
    exact viaAbs _ a1 a4 a3 hvf.state
  | persistSnap hx => exact viaStore _ (persistSnap_storeStep hinv' hx)
  | commitApply hx => exact nodeCommitApply_lb hinv' hlb' hx
  | compact hx => exact viaStore _ (compact_storeStep hinv' (hc' _ rfl) hx)
  | drain | setPriority | setBatchAppend | skipBcastCommit | setCheckQuorum
  | maybeFreeInflightBuffers | clearCommitGroup | setMaxCommittedSizePerReady =>
    exact viaAbs _ rfl rfl rfl rfl
  | triggerSnap | triggerLog => exact viaStore _ (withStore_core_storeStep hinv' _ rfl rfl)
  | adjustMaxInflight hx =>
    unfold Raft.adjustMaxInflightMsgs at hx
    split at hx
    · cases hx; exact hlb'
    · split at hx
      · cases hx; exact viaAbs _ rfl rfl rfl rfl
      · cases hx
  | enableGroupCommit hx =>
    exact viaSame (enableGroupCommit_cf_ls hx) (Res.Post.of_eq (CV.enableGroupCommit_vf _ _) hx).state
  | assignCommitGroups hx =>
    exact viaSame (assignCommitGroups_cf_ls hx) (Res.Post.of_eq (CV.assignCommitGroups_vf _ _) hx).state
  | checkGroupCommitConsistent | staleFetch => exact hlb'
  | setMaxApplyUnpersistedLogLimit x =>
    exact viaStore _ (StoreStep.of_abs (c05_limit_same _ x).abs rfl rfl rfl)
  | fetched _ _ _ hx =>
    exact viaSame ⟨sendAppend_cf hx CF.rfl, sendAppend_ls hx LS.rfl⟩
      (Res.Post.of_eq (CV.sendAppend_vf _ _) hx).state
  | fetchedAll _ _ _ hx =>
    exact viaSame ⟨sendAppendAggressively_cf hx CF.rfl, sendAppendAggressively_ls hx LS.rfl⟩
      (Res.Post.of_eq (CV.sendAppendAggressively_vf _ _) hx).state

end Raft
end RaftModel
