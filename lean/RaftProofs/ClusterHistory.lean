import RaftModel.Cluster

/-!
Histories of `ClusterSem` by position: a history is a list of states, the facts of the cluster layers
are stated for `h[n]` and proved by induction on `n`.
-/
namespace RaftModel
namespace Cluster

theorem mem_of_get {α : Type} {h : List α} {n : Nat} {s : α} (hn : h[n]? = some s) : s ∈ h :=
  List.mem_iff_getElem?.2 ⟨n, hn⟩

/-- a position before one that exists exists -/
theorem get_of_get_later {α : Type} {h : List α} {n d : Nat} {b : α} (hb : h[n + d]? = some b) :
    ∃ a, h[n]? = some a := by
  rcases Nat.lt_or_ge n h.length with c | c
  · exact ⟨h[n], List.getElem?_eq_some_iff.2 ⟨c, rfl⟩⟩
  · rw [List.getElem?_eq_none (by omega)] at hb; cases hb

/-- induction along a list of states -/
theorem hist_induct {α : Type} (h : List α) (P : Nat → α → Prop)
    (h0 : ∀ s, h[0]? = some s → P 0 s)
    (hs : ∀ n a b, h[n]? = some a → h[n + 1]? = some b → P n a → P (n + 1) b) :
    ∀ n s, h[n]? = some s → P n s := by
  intro n
  induction n with
  | zero => exact h0
  | succ n ih =>
    intro s hn
    obtain ⟨a, ha⟩ := get_of_get_later (n := n) (d := 1) hn
    exact hs n a s ha hn (ih a ha)

/-- a history starts in an initial state -/
theorem hist_init {h : List Sys} (hh : History h) : ∀ s, h[0]? = some s → Init s := by
  induction hh with
  | init s0 hi => intro s h0; simp at h0; subst h0; exact hi
  | step l a b _ _ ih =>
    intro s h0
    apply ih s
    cases l with
    | nil => simpa using h0
    | cons x t => simpa using h0

/-- consecutive states of a history are related by `Step` -/
theorem hist_step_at {l : List Sys} (hh : History l) :
    ∀ (m : Nat) (a b : Sys), l[m]? = some a → l[m + 1]? = some b → Step a b := by
  induction hh with
  | init s hs =>
    intro m a b _ hb
    simp at hb
  | step h s s' hprev hstep ih =>
    intro m a b ha hb
    have hl : h ++ [s, s'] = (h ++ [s]) ++ [s'] := by simp
    rw [hl] at ha hb
    have hlen : (h ++ [s]).length = h.length + 1 := by simp
    have hlast : (h ++ [s])[h.length]? = some s := by simp
    by_cases hlt : m + 1 < (h ++ [s]).length
    · rw [List.getElem?_append_left hlt] at hb
      rw [List.getElem?_append_left (by omega)] at ha
      exact ih m a b ha hb
    · have hge : (h ++ [s]).length ≤ m + 1 := by omega
      rw [List.getElem?_append_right hge] at hb
      have h0 : m + 1 - (h ++ [s]).length = 0 := by
        cases hk : m + 1 - (h ++ [s]).length with
        | zero => rfl
        | succ n => rw [hk] at hb; simp at hb
      rw [h0] at hb
      simp only [List.getElem?_cons_zero, Option.some.injEq] at hb
      subst hb
      have hm : m = h.length := by omega
      rw [List.getElem?_append_left (by omega), hm, hlast] at ha
      cases ha
      exact hstep

/-! ### the association list of nodes -/

open Node

theorem lookup_filter_ne {α : Type} (i j : Nat) (hj : j ≠ i) :
    ∀ l : List (Nat × α), (l.filter (fun p => p.1 != i)).lookup j = l.lookup j := by
  intro l
  induction l with
  | nil => rfl
  | cons p rest ih =>
    obtain ⟨k, v⟩ := p
    rw [List.filter_cons]
    by_cases hk : k = i
    · have h1 : ¬ (((k, v).1 != i) = true) := by simp [hk]
      rw [if_neg h1]
      have h2 : (j == k) = false := by rw [hk]; simpa using hj
      rw [List.lookup_cons, h2]
      exact ih
    · have h1 : ((k, v).1 != i) = true := by simpa using hk
      rw [if_pos h1, List.lookup_cons, List.lookup_cons, ih]

theorem node_setNode_self (s : Sys) (i : Nat) (st : NState) : (s.setNode i st).node i = some st := by
  simp [Sys.node, Sys.setNode]

theorem node_setNode_ne (s : Sys) (i j : Nat) (st : NState) (h : j ≠ i) :
    (s.setNode i st).node j = s.node j := by
  have h2 : (j == i) = false := by simpa using h
  simp only [Sys.node, Sys.setNode, List.lookup, h2]
  exact lookup_filter_ne i j h _

theorem node_setNode (s : Sys) (i j : Nat) (st : NState) :
    (s.setNode i st).node j = if j = i then some st else s.node j := by
  by_cases h : j = i
  · subst h; simp [node_setNode_self]
  · simp [h, node_setNode_ne s i j st h]

end Cluster
end RaftModel
