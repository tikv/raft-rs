import RaftProofs.ProtoCfgInv
import RaftProofs.ProtoCfgRead

/-!
# PC: the cross-history configuration guards of P are redundant

On every state reachable in PC (`RaftModel/ProtoCfg.lean`) the *local* conditions PC checks at a
`win` / `commitLeader` (the configuration is the one of the membership changes applied so far, and
at most one further membership change sits in the winner's log / the committed prefix) together
with the configuration-free part of P's guard (`winCore` / `commitCore`) **imply** the
cross-history part of P's guard (`winAdj` / `commitAdj`).  So the cross-history guard is never the
reason for a rejection, every PC history is a P history (`reach_base`), and every theorem about P
holds for PC with no assumption about how the configurations of different events relate.

Files: `ProtoCfgDefs` (guard split, `InvCfg`, minimal-record lemma), `ProtoCfgE` (`InvE`: a vote
decided before its term had a leader was decided against a log older than the term),
`ProtoCfgK` (the two implications from the invariants), `ProtoCfgInv` (`InvCfg` is inductive),
`ProtoCfgRead` (the same for the read-index events `resp` / leader-local `rstate`: their guard
`rdCfgOk` is implied by "the configuration is the one of the applied membership changes and the
leader's version did not go backwards").
-/
namespace RaftModel.P

/-- every invariant of P holds on the P state underlying a reachable PC state -/
theorem invAll_reachPC (S : CSys) (hr : ReachPC S) : InvAll S.base := invAll_reachR _ (reach_base hr)

/-- **K (win)**: the cross-history part of the guard of `win` is implied -/
theorem win_adj_redundant (S : CSys) (hr : ReachPC S) (i : Nat) (cfg : Cfg) (q : List Nat) (applied : Nat)
    (hloc : applied ≤ (S.base.nodes i).commit ∧
            confCount (S.base.nodes i).log ≤ confCount ((S.base.nodes i).log.take applied) + 1 ∧
            S.vtab[confCount ((S.base.nodes i).log.take applied)]? = some cfg)
    (hcore : winCore S.base i cfg q = true) : winAdj S.base i cfg = true :=
  win_adj_of_inv S (invAll_reachR _ (reach_base hr)) (invE_reachR _ (reach_base hr)) (invCfg_reach hr)
    i cfg q applied hloc hcore

/-- **K (commitLeader)**: the cross-history part of the guard of `commitLeader` is implied -/
theorem commit_adj_redundant (S : CSys) (hr : ReachPC S) (i c : Nat) (cfg : Cfg) (q : List Nat) (applied : Nat)
    (hloc : applied ≤ (S.base.nodes i).commit ∧
            confCount ((S.base.nodes i).log.take c) ≤ confCount ((S.base.nodes i).log.take applied) + 1 ∧
            S.vtab[confCount ((S.base.nodes i).log.take applied)]? = some cfg)
    (hcore : commitCore S.base i c cfg q = true) : commitAdj S.base i c cfg = true :=
  commit_adj_of_inv S (invAll_reachR _ (reach_base hr)) (invCfg_reach hr) i c cfg q applied hloc hcore

/-- a later leader was elected with the prefix a leader is about to commit — before the commit is recorded -/
theorem commit_lc_redundant (S : CSys) (hr : ReachPC S) (i c : Nat) (cfg : Cfg) (q : List Nat) (applied : Nat)
    (hloc : applied ≤ (S.base.nodes i).commit ∧
            confCount ((S.base.nodes i).log.take c) ≤ confCount ((S.base.nodes i).log.take applied) + 1 ∧
            S.vtab[confCount ((S.base.nodes i).log.take applied)]? = some cfg)
    (hcore : commitCore S.base i c cfg q = true) (te : Nat) (hlt : (S.base.nodes i).term < te)
    (hel : Elected S.base te) : (S.base.elog te).take c = (S.base.nodes i).log.take c := by
  have hI := invAll_reachR _ (reach_base hr)
  rw [hI.l.ll i (commitCore_unpack hcore).2.1]
  exact commit_lc_new S hI (invCfg_reach hr) i c cfg q applied hloc hcore te hlt hel

/-! ### PC accepts `win` / `commitLeader` iff the local conditions and the core guard hold -/

/-- the local condition of PC's `win` -/
def winLocal (S : CSys) (i : Nat) (cfg : Cfg) (applied : Nat) : Prop :=
  applied ≤ (S.base.nodes i).commit ∧
  confCount (S.base.nodes i).log ≤ confCount ((S.base.nodes i).log.take applied) + 1 ∧
  S.vtab[confCount ((S.base.nodes i).log.take applied)]? = some cfg

/-- the local condition of PC's `commitLeader` -/
def commitLocal (S : CSys) (i c : Nat) (cfg : Cfg) (applied : Nat) : Prop :=
  applied ≤ (S.base.nodes i).commit ∧
  confCount ((S.base.nodes i).log.take c) ≤ confCount ((S.base.nodes i).log.take applied) + 1 ∧
  S.vtab[confCount ((S.base.nodes i).log.take applied)]? = some cfg ∧
  verMono S (S.base.nodes i).term (confCount ((S.base.nodes i).log.take applied)) = true

/-- what K needs of it -/
theorem commitLocal.k {S : CSys} {i c : Nat} {cfg : Cfg} {applied : Nat} (h : commitLocal S i c cfg applied) :
    applied ≤ (S.base.nodes i).commit ∧
    confCount ((S.base.nodes i).log.take c) ≤ confCount ((S.base.nodes i).log.take applied) + 1 ∧
    S.vtab[confCount ((S.base.nodes i).log.take applied)]? = some cfg := ⟨h.1, h.2.1, h.2.2.1⟩

/-- the state of PC after `win i cfg _ applied` -/
def winPostC (S : CSys) (i : Nat) (cfg : Cfg) (applied : Nat) : CSys :=
  { S with base := winPost S.base i cfg,
           evs := ((S.base.nodes i).term, confCount ((S.base.nodes i).log.take applied)) :: S.evs }

/-- the state of PC after `commitLeader i c cfg _ applied` -/
def commitPostC (S : CSys) (i c : Nat) (cfg : Cfg) (applied : Nat) : CSys :=
  { S with base := commitPost S.base i c cfg,
           cvs := (((S.base.nodes i).term, c), confCount ((S.base.nodes i).log.take applied)) :: S.cvs }

/-- in any state: PC's `win` succeeds iff local ∧ core ∧ cross-history -/
theorem winC_split (S : CSys) (i : Nat) (cfg : Cfg) (q : List Nat) (applied : Nat) (S' : CSys) :
    applyEventC S (.win i cfg q applied) = .ok S' ↔
      (winLocal S i cfg applied ∧ winCore S.base i cfg q = true ∧ winAdj S.base i cfg = true ∧
        S' = winPostC S i cfg applied) := by
  constructor
  · intro h
    obtain ⟨hloc, b, hb, rfl⟩ := winC_ok h
    obtain ⟨h1, h2, rfl⟩ := (win_split S.base i cfg q b).1 hb
    exact ⟨hloc, h1, h2, rfl⟩
  · rintro ⟨hloc, h1, h2, h3⟩
    have hb := (win_split S.base i cfg q _).2 ⟨h1, h2, rfl⟩
    subst h3
    unfold winLocal at hloc
    simp only [applyEventC]
    rw [if_pos hloc, hb]
    rfl

/-- in any state: PC's `commitLeader` succeeds iff local ∧ core ∧ cross-history -/
theorem commitC_split (S : CSys) (i c : Nat) (cfg : Cfg) (q : List Nat) (applied : Nat) (S' : CSys) :
    applyEventC S (.commitLeader i c cfg q applied) = .ok S' ↔
      (commitLocal S i c cfg applied ∧ commitCore S.base i c cfg q = true ∧ commitAdj S.base i c cfg = true ∧
        S' = commitPostC S i c cfg applied) := by
  constructor
  · intro h
    obtain ⟨hloc, b, hb, rfl⟩ := commitC_ok h
    obtain ⟨h1, h2, rfl⟩ := (commit_split S.base i c cfg q b).1 hb
    exact ⟨hloc, h1, h2, rfl⟩
  · rintro ⟨hloc, h1, h2, h3⟩
    have hb := (commit_split S.base i c cfg q _).2 ⟨h1, h2, rfl⟩
    subst h3
    unfold commitLocal at hloc
    simp only [applyEventC]
    rw [if_pos hloc, hb]
    rfl

/-- **on reachable states PC accepts `win` iff the local condition and the configuration-free part
of P's guard hold**: the cross-history guard is never the reason for a rejection -/
theorem winC_accepts_iff (S : CSys) (hr : ReachPC S) (i : Nat) (cfg : Cfg) (q : List Nat) (applied : Nat) :
    (∃ S', applyEventC S (.win i cfg q applied) = .ok S') ↔
      (winLocal S i cfg applied ∧ winCore S.base i cfg q = true) := by
  constructor
  · rintro ⟨S', h⟩
    obtain ⟨h1, h2, _⟩ := (winC_split S i cfg q applied S').1 h
    exact ⟨h1, h2⟩
  · rintro ⟨h1, h2⟩
    exact ⟨_, (winC_split S i cfg q applied _).2 ⟨h1, h2, win_adj_redundant S hr i cfg q applied h1 h2, rfl⟩⟩

/-- ... and the resulting state is the known one -/
theorem winC_accepts (S : CSys) (hr : ReachPC S) (i : Nat) (cfg : Cfg) (q : List Nat) (applied : Nat)
    (hloc : winLocal S i cfg applied) (hcore : winCore S.base i cfg q = true) :
    applyEventC S (.win i cfg q applied) = .ok (winPostC S i cfg applied) :=
  (winC_split S i cfg q applied _).2 ⟨hloc, hcore, win_adj_redundant S hr i cfg q applied hloc hcore, rfl⟩

/-- **on reachable states PC accepts `commitLeader` iff the local condition and the
configuration-free part of P's guard hold** -/
theorem commitC_accepts_iff (S : CSys) (hr : ReachPC S) (i c : Nat) (cfg : Cfg) (q : List Nat) (applied : Nat) :
    (∃ S', applyEventC S (.commitLeader i c cfg q applied) = .ok S') ↔
      (commitLocal S i c cfg applied ∧ commitCore S.base i c cfg q = true) := by
  constructor
  · rintro ⟨S', h⟩
    obtain ⟨h1, h2, _⟩ := (commitC_split S i c cfg q applied S').1 h
    exact ⟨h1, h2⟩
  · rintro ⟨h1, h2⟩
    exact ⟨_, (commitC_split S i c cfg q applied _).2
      ⟨h1, h2, commit_adj_redundant S hr i c cfg q applied h1.k h2, rfl⟩⟩

theorem commitC_accepts (S : CSys) (hr : ReachPC S) (i c : Nat) (cfg : Cfg) (q : List Nat) (applied : Nat)
    (hloc : commitLocal S i c cfg applied) (hcore : commitCore S.base i c cfg q = true) :
    applyEventC S (.commitLeader i c cfg q applied) = .ok (commitPostC S i c cfg applied) :=
  (commitC_split S i c cfg q applied _).2
    ⟨hloc, hcore, commit_adj_redundant S hr i c cfg q applied hloc.k hcore, rfl⟩

/-- the same, read as a statement about P: on the P state underlying a reachable PC state, P's own
`win` is accepted as soon as its configuration-free guard and PC's local condition hold -/
theorem win_accepted_by_P (S : CSys) (hr : ReachPC S) (i : Nat) (cfg : Cfg) (q : List Nat) (applied : Nat)
    (hloc : winLocal S i cfg applied) (hcore : winCore S.base i cfg q = true) :
    applyEvent S.base (.win i cfg q) = .ok (winPost S.base i cfg) :=
  (win_split S.base i cfg q _).2 ⟨hcore, win_adj_redundant S hr i cfg q applied hloc hcore, rfl⟩

theorem commit_accepted_by_P (S : CSys) (hr : ReachPC S) (i c : Nat) (cfg : Cfg) (q : List Nat) (applied : Nat)
    (hloc : commitLocal S i c cfg applied) (hcore : commitCore S.base i c cfg q = true) :
    applyEvent S.base (.commitLeader i c cfg q) = .ok (commitPost S.base i c cfg) :=
  (commit_split S.base i c cfg q _).2 ⟨hcore, commit_adj_redundant S hr i c cfg q applied hloc.k hcore, rfl⟩

/-! ### the read-index events -/

/-- **K (read)**: the cross-history part of the guard of `resp` / leader-local `rstate` is implied -/
theorem read_adj_redundant (S : CSys) (hr : ReachPC S) (i rid idx : Nat) (cfg : Cfg) (applied : Nat) (r : ReadRec)
    (hfind : S.base.rd.issued.find? (fun r => r.rid = rid) = some r)
    (hloc : applied ≤ (S.base.nodes i).commit ∧
            S.vtab[confCount ((S.base.nodes i).log.take applied)]? = some cfg ∧
            verMono S (S.base.nodes i).term (confCount ((S.base.nodes i).log.take applied)) = true)
    (hcore : respCore S.base i rid idx cfg = true) :
    rdCfgOk S.base cfg (S.base.nodes i).term r.ncm = true :=
  read_adj_of_inv S (invAll_reachR _ (reach_base hr)) (invRd_reachR _ (reach_base hr)) (invCfg_reach hr)
    i rid idx cfg applied r hfind hloc hcore

/-- the local condition of PC's `resp` / leader-local `rstate` -/
def readLocal (S : CSys) (i : Nat) (cfg : Cfg) (applied : Nat) : Prop :=
  applied ≤ (S.base.nodes i).commit ∧
  S.vtab[confCount ((S.base.nodes i).log.take applied)]? = some cfg ∧
  verMono S (S.base.nodes i).term (confCount ((S.base.nodes i).log.take applied)) = true

/-- the state of P after `resp _ rid idx _` for the request record `r` -/
def respPost (s : PSys) (rid idx : Nat) (r : ReadRec) : PSys :=
  { s with rd := { s.rd with resps := ⟨rid, r.node, idx⟩ :: s.rd.resps } }

/-- the state of P after `rstate j rid idx _` -/
def rstatePost (s : PSys) (j rid idx : Nat) : PSys :=
  { s with rd := { s.rd with done := ⟨rid, j, idx⟩ :: s.rd.done } }

/-- **P's `resp` succeeds iff the request is known and the configuration-free part and the
cross-history part of its guard hold** -/
theorem resp_split (s : PSys) (i rid idx : Nat) (cfg : Cfg) (s' : PSys) :
    applyEvent s (.read (.resp i rid idx cfg)) = .ok s' ↔
      ∃ r, s.rd.issued.find? (fun r => r.rid = rid) = some r ∧ respCore s i rid idx cfg = true ∧
        rdCfgOk s cfg (s.nodes i).term r.ncm = true ∧ s' = respPost s rid idx r := by
  constructor
  · intro h
    obtain ⟨rd, hrd, rfl⟩ := read_apply h
    obtain ⟨r, hfind, hg, rfl⟩ := readResp_ok hrd
    refine ⟨r, hfind, ?_, hg.2.2.2.2, rfl⟩
    simp only [respCore, Bool.and_eq_true, decide_eq_true_eq]
    exact ⟨⟨⟨hg.1, hg.2.1⟩, hg.2.2.1⟩, hg.2.2.2.1⟩
  · rintro ⟨r, hfind, hcore, hcf, hs'⟩
    simp only [respCore, Bool.and_eq_true, decide_eq_true_eq] at hcore
    obtain ⟨⟨⟨h1, h2⟩, h3⟩, h4⟩ := hcore
    subst hs'
    simp only [applyEvent, applyRead, hfind]
    rw [if_pos ⟨h1, h2, h3, h4, hcf⟩]
    rfl

/-- **P's `rstate` succeeds iff the request is known, was issued on this running node, and either
the answer is a released response or the guard of a leader-local read holds** -/
theorem rstate_split (s : PSys) (j rid idx : Nat) (cfg : Cfg) (s' : PSys) :
    applyEvent s (.read (.rstate j rid idx cfg)) = .ok s' ↔
      ∃ r, s.rd.issued.find? (fun r => r.rid = rid) = some r ∧ (s.nodes j).up = true ∧ r.node = j ∧
        (s.rd.resps.contains ⟨rid, j, idx⟩ = true ∨
          (respCore s j rid idx cfg = true ∧ rdCfgOk s cfg (s.nodes j).term r.ncm = true)) ∧
        s' = rstatePost s j rid idx := by
  constructor
  · intro h
    obtain ⟨rd, hrd, rfl⟩ := read_apply h
    obtain ⟨r, hfind, hg, rfl⟩ := readState_ok hrd
    refine ⟨r, hfind, hg.1, hg.2.1, ?_, rfl⟩
    rcases hg.2.2 with hin | hl
    · exact Or.inl hin
    · refine Or.inr ⟨?_, hl.2.2.2⟩
      simp only [respCore, Bool.and_eq_true, decide_eq_true_eq]
      exact ⟨⟨⟨hg.1, hl.1⟩, hl.2.1⟩, hl.2.2.1⟩
  · rintro ⟨r, hfind, hup, hnode, hor, hs'⟩
    subst hs'
    have hg : (s.nodes j).up = true ∧ r.node = j ∧ (s.rd.resps.contains ⟨rid, j, idx⟩ = true ∨
        ((s.nodes j).role = 2 ∧ s.rd.started.contains ⟨rid, j, (s.nodes j).term, idx⟩ = true ∧
          rdQuorum s cfg j (s.nodes j).term rid = true ∧ rdCfgOk s cfg (s.nodes j).term r.ncm = true)) := by
      refine ⟨hup, hnode, ?_⟩
      rcases hor with hin | ⟨hcore, hcf⟩
      · exact Or.inl hin
      · simp only [respCore, Bool.and_eq_true, decide_eq_true_eq] at hcore
        obtain ⟨⟨⟨_, h2⟩, h3⟩, h4⟩ := hcore
        exact Or.inr ⟨h2, h3, h4, hcf⟩
    simp only [applyEvent, applyRead, hfind]
    rw [if_pos hg]
    rfl

/-- in any state: PC's `resp` succeeds iff local ∧ known request ∧ core ∧ cross-history -/
theorem respC_split (S : CSys) (i rid idx : Nat) (cfg : Cfg) (applied : Nat) (S' : CSys) :
    applyEventC S (.resp i rid idx cfg applied) = .ok S' ↔
      (readLocal S i cfg applied ∧ ∃ r, S.base.rd.issued.find? (fun r => r.rid = rid) = some r ∧
        respCore S.base i rid idx cfg = true ∧ rdCfgOk S.base cfg (S.base.nodes i).term r.ncm = true ∧
        S' = { S with base := respPost S.base rid idx r }) := by
  constructor
  · intro h
    obtain ⟨hloc, b, hb, rfl⟩ := respC_ok h
    obtain ⟨r, h1, h2, h3, rfl⟩ := (resp_split S.base i rid idx cfg b).1 hb
    exact ⟨hloc, r, h1, h2, h3, rfl⟩
  · rintro ⟨hloc, r, h1, h2, h3, h4⟩
    have hb := (resp_split S.base i rid idx cfg _).2 ⟨r, h1, h2, h3, rfl⟩
    subst h4
    unfold readLocal at hloc
    simp only [applyEventC]
    rw [if_pos hloc, hb]

/-- in any state: PC's `rstate` succeeds iff the request is known, was issued on this running node,
and the answer is a released response or local ∧ core ∧ cross-history -/
theorem rstateC_split (S : CSys) (j rid idx : Nat) (cfg : Cfg) (applied : Nat) (S' : CSys) :
    applyEventC S (.rstate j rid idx cfg applied) = .ok S' ↔
      (∃ r, S.base.rd.issued.find? (fun r => r.rid = rid) = some r ∧ (S.base.nodes j).up = true ∧ r.node = j ∧
        (S.base.rd.resps.contains ⟨rid, j, idx⟩ = true ∨
          (readLocal S j cfg applied ∧ respCore S.base j rid idx cfg = true ∧
            rdCfgOk S.base cfg (S.base.nodes j).term r.ncm = true)) ∧
        S' = { S with base := rstatePost S.base j rid idx }) := by
  constructor
  · intro h
    obtain ⟨hloc, b, hb, rfl⟩ := rstateC_ok h
    obtain ⟨r, h1, h2, h3, h4, rfl⟩ := (rstate_split S.base j rid idx cfg b).1 hb
    refine ⟨r, h1, h2, h3, ?_, rfl⟩
    by_cases hin : S.base.rd.resps.contains ⟨rid, j, idx⟩ = true
    · exact Or.inl hin
    · exact Or.inr ⟨hloc.resolve_left hin, h4.resolve_left hin⟩
  · rintro ⟨r, h1, h2, h3, h4, h5⟩
    have hb := (rstate_split S.base j rid idx cfg _).2 ⟨r, h1, h2, h3,
      h4.elim Or.inl (fun h => Or.inr ⟨h.2.1, h.2.2⟩), rfl⟩
    subst h5
    have hloc : S.base.rd.resps.contains ⟨rid, j, idx⟩ = true ∨ readLocal S j cfg applied :=
      h4.elim Or.inl (fun h => Or.inr h.1)
    unfold readLocal at hloc
    simp only [applyEventC]
    rw [if_pos hloc, hb]

/-- a registered request is a known one -/
theorem started_find {s : PSys} (hRd : InvRd s) {x : ReadStart} (hx : x ∈ s.rd.started) :
    ∃ r, s.rd.issued.find? (fun r => r.rid = x.rid) = some r := by
  obtain ⟨r, hr, hrid, _⟩ := hRd.st x hx
  cases hf : s.rd.issued.find? (fun r => decide (r.rid = x.rid)) with
  | some r0 => exact ⟨r0, rfl⟩
  | none =>
    rw [List.find?_eq_none] at hf
    have := hf r hr
    simp [hrid] at this

/-- **on reachable states PC accepts `resp` iff the local condition and the configuration-free part
of P's guard hold**: the cross-history guard is never the reason for a rejection -/
theorem respC_accepts_iff (S : CSys) (hr : ReachPC S) (i rid idx : Nat) (cfg : Cfg) (applied : Nat) :
    (∃ S', applyEventC S (.resp i rid idx cfg applied) = .ok S') ↔
      (readLocal S i cfg applied ∧ respCore S.base i rid idx cfg = true) := by
  constructor
  · rintro ⟨S', h⟩
    obtain ⟨h1, r, _, h2, _⟩ := (respC_split S i rid idx cfg applied S').1 h
    exact ⟨h1, h2⟩
  · rintro ⟨h1, h2⟩
    obtain ⟨r, hfind⟩ := started_find (invRd_reachR _ (reach_base hr)) (respCore_unpack h2).2.2.1
    exact ⟨_, (respC_split S i rid idx cfg applied _).2
      ⟨h1, r, hfind, h2, read_adj_redundant S hr i rid idx cfg applied r hfind h1 h2, rfl⟩⟩

/-- **on reachable states PC accepts `rstate` iff the request is known, was issued on this running
node, and the answer is a released response or the local condition and the configuration-free part
of P's guard of a leader-local read hold** -/
theorem rstateC_accepts_iff (S : CSys) (hr : ReachPC S) (j rid idx : Nat) (cfg : Cfg) (applied : Nat) :
    (∃ S', applyEventC S (.rstate j rid idx cfg applied) = .ok S') ↔
      (∃ r, S.base.rd.issued.find? (fun r => r.rid = rid) = some r ∧ (S.base.nodes j).up = true ∧ r.node = j ∧
        (S.base.rd.resps.contains ⟨rid, j, idx⟩ = true ∨
          (readLocal S j cfg applied ∧ respCore S.base j rid idx cfg = true))) := by
  constructor
  · rintro ⟨S', h⟩
    obtain ⟨r, h1, h2, h3, h4, _⟩ := (rstateC_split S j rid idx cfg applied S').1 h
    exact ⟨r, h1, h2, h3, h4.elim Or.inl (fun h => Or.inr ⟨h.1, h.2.1⟩)⟩
  · rintro ⟨r, h1, h2, h3, h4⟩
    refine ⟨_, (rstateC_split S j rid idx cfg applied _).2 ⟨r, h1, h2, h3, ?_, rfl⟩⟩
    rcases h4 with hin | ⟨hl, hc⟩
    · exact Or.inl hin
    · exact Or.inr ⟨hl, hc, read_adj_redundant S hr j rid idx cfg applied r h1 hl hc⟩

/-- the same, read as a statement about P: on the P state underlying a reachable PC state, P's own
`resp` is accepted as soon as its configuration-free guard and PC's local condition hold -/
theorem resp_accepted_by_P (S : CSys) (hr : ReachPC S) (i rid idx : Nat) (cfg : Cfg) (applied : Nat)
    (hloc : readLocal S i cfg applied) (hcore : respCore S.base i rid idx cfg = true) :
    ∃ b, applyEvent S.base (.read (.resp i rid idx cfg)) = .ok b := by
  obtain ⟨r, hfind⟩ := started_find (invRd_reachR _ (reach_base hr)) (respCore_unpack hcore).2.2.1
  exact ⟨_, (resp_split S.base i rid idx cfg _).2
    ⟨r, hfind, hcore, read_adj_redundant S hr i rid idx cfg applied r hfind hloc hcore, rfl⟩⟩

end RaftModel.P
