import RaftProofs.ClusterFacts

/-!
Cluster-level flow control (C13), part M: provenance of the `MsgAppend`s and `MsgHeartbeat`s of a
history of `ClusterSem` — each was queued by a node that, in the state the queueing step ended in,
was the leader of the message's term and had reached the advertised commit index; a heartbeat's
commit index is moreover covered by an accepting `MsgAppendResponse` of the addressee for that term
which was in the transport at that moment (the per-call relation `Raft.CC.G` of the commit layer,
clauses `qlk` / `LkOK`), and the addressee's log agreed with a log of that term's leader up to the
acknowledged index when it queued the acknowledgement.  Stated over `ProvFacts` / `AckFacts`
(`ClusterFacts`): for the histories without compaction (C13c) and, over the ghost logs, for those with
compaction and snapshots (C13d, `ClusterFlow2A`).
-/
namespace RaftModel
namespace Cluster
namespace Flow
open Node Raft.CC

variable {cfg : JointConfig} {c0 : Nat} {h : List Sys}

/-- a `MsgAppend` or a `MsgHeartbeat` -/
def isAH (x : Message) : Prop := x.msgType = .msgAppend ∨ x.msgType = .msgHeartbeat

/-- what is recorded about a `MsgAppend` / `MsgHeartbeat` when it is queued -/
def FlowGen (h : List Sys) (n i : Nat) (x : Message) : Prop :=
  ∃ s st, h[n]? = some s ∧ s.node i = some st ∧ st.raft.state = .leader ∧
    st.raft.term = x.term ∧ x.frm = i ∧ x.commit ≤ st.raft.raftLog.committed ∧
    (x.msgType = .msgHeartbeat → x.commit = 0 ∨ Anet s.net x.to x.term x.commit)

theorem isAH_not_resp (x : Message) (hx : isAH x) : x.msgType ≠ .msgAppendResponse := by
  rcases hx with t | t <;> rw [t] <;> intro hc <;> cases hc

/-- **provenance of `MsgAppend`s and `MsgHeartbeat`s** -/
theorem flow_prov (F : ProvFacts h) : ∀ (n : Nat) (s : Sys), h[n]? = some s →
    (∀ i st, s.node i = some st → ∀ x ∈ st.raft.msgs, isAH x → Gen (FlowGen h) n i x) ∧
    (∀ x ∈ s.net, isAH x → ∃ i, Gen (FlowGen h) n i x) := by
  refine F.prov isAH isAH_not_resp (FlowGen h) ?_
  intro n a b i st st' rnd op res ha hb hi hi' hcall hnet g x hx hty
  have hlk : lkT x.msgType = true := by
    rcases hty with t | t <;> rw [t] <;> rfl
  rcases g.qlk x hx hlk with c | c
  · exact .inl c
  · right
    refine ⟨b, st', hb, hi', c.lead, c.term.symm, c.frm.trans (g.id.trans (F.id (mem_of_get ha) hi)),
      ?_, ?_⟩
    · rcases hty with t | t
      · exact (c.app t).1
      · exact (c.hb t).1
    · intro t
      rcases (c.hb t).2 with d | d
      · exact .inl d
      · right; rw [hnet, c.term]; exact d

/-- the point of the history at which the message was queued -/
theorem flow_point (F : ProvFacts h) {n : Nat} {s : Sys} (hn : h[n]? = some s) {x : Message}
    (hx : x ∈ s.net ∨ ∃ i st, s.node i = some st ∧ x ∈ st.raft.msgs) (hty : isAH x) :
    ∃ n0 s0 st0, n0 ≤ n ∧ h[n0]? = some s0 ∧ s0.node x.frm = some st0 ∧
      st0.raft.state = .leader ∧ st0.raft.term = x.term ∧
      x.commit ≤ st0.raft.raftLog.committed ∧
      (x.msgType = .msgHeartbeat → x.commit = 0 ∨ Anet s0.net x.to x.term x.commit) := by
  have hp := flow_prov F n s hn
  have key : ∃ i, Gen (FlowGen h) n i x := by
    rcases hx with c | ⟨i, st, hi, c⟩
    · exact hp.2 x c hty
    · exact ⟨i, hp.1 i st hi x c hty⟩
  obtain ⟨i, n0, hle, s0, st0, h1, h2, h3, h4, h5, h6, h7⟩ := key
  subst h5
  exact ⟨n0, s0, st0, hle, h1, h2, h3, h4, h6, h7⟩

/-- **what an acknowledgement in the transport promises**: the acknowledging node queued it in a
state `h[n1]` in which its log agreed, up to the acknowledged index, with a log that the leader of the
acknowledgement's term held at some point `≤ n1`, and that log reaches the acknowledged index -/
theorem ack_promise {lg sl : NState → LLog} (F : AckFacts h c0 lg sl) {n : Nat} {s : Sys}
    (hn : h[n]? = some s) {a : Message} (ha : a ∈ s.net) (hack : isAck a) (hidx : c0 < a.index) :
    ∃ n1 s1 stj L, n1 ≤ n ∧ h[n1]? = some s1 ∧ s1.node a.frm = some stj ∧ a ∈ stj.raft.msgs ∧
      stj.raft.term = a.term ∧ LeaderLogV lg h n1 a.term L ∧ a.index ≤ L.lastIndex ∧
      EqUpTo (lg stj) L a.index := by
  obtain ⟨n1, s1, stj, hle, h1, h2, h3, h4⟩ := F.ack_src n s hn a ha hack (by omega)
  obtain ⟨L, hL, hlast, heq⟩ := F.mem n1 s1 a.frm stj h1 h2 a (.inr h3) hack rfl hidx h4
  exact ⟨n1, s1, stj, L, hle, h1, h2, h3, h4.symm, hL, hlast, heq⟩

end Flow
end Cluster
end RaftModel
