import RaftProofs.ClusterXferB
import RaftProofs.ClusterCommit6C

/-!
Cluster-level leadership transfer (C17c), part C: **a concrete history with a completed leadership
transfer** (kernel-evaluated) that satisfies every hypothesis of the commit layer (`Hyp3w`).

The history of `RaftProofs/ClusterCommit3H.lean` (node 1 leads term 1, node 2 has acknowledged its whole
log — `matched = last_index = 1` — and index 1 is committed) continued by ten steps: the application of
node 1 calls `transfer_leader(2)`; node 2 is caught up, so node 1 queues a `MsgTimeoutNow` at once and
hands it to the transport; node 2 is delivered it and campaigns for term 2 (a real vote with the transfer
context); it persists its term and vote and sends its requests; node 1 steps down to term 2 and grants
its vote, persists and sends the response; node 2 is told that entry 1 is persisted and, with the vote
of node 1, becomes leader of term 2 — holding the entry that node 1 committed in term 1.
-/
namespace RaftModel
namespace Cluster
open Node Raft Raft.CC RaftProps.C02 RaftProps.C05

def c17x_a9 := c02x_st (Node.call c01x_a8 none (.transferLeader 2))
def c17x_a10 := c02x_st (Node.call c17x_a9 none .drain)
/-- the `MsgTimeoutNow` of node 1 for node 2 -/
def c17x_tn := c17x_a9.raft.msgs.tail.head!
def c17x_b7 := c02x_st (Node.call c01x_b6 none (.step c17x_tn))
def c17x_b8 := c02x_st (Node.call c17x_b7 none .stabilize)
def c17x_b9 := c02x_st (Node.call c17x_b8 none .drain)
/-- the transfer vote request of node 2 for node 1 -/
def c17x_rv := c17x_b8.raft.msgs.head!
def c17x_a11 := c02x_st (Node.call c17x_a10 none (.step c17x_rv))
def c17x_a12 := c02x_st (Node.call c17x_a11 none .stabilize)
def c17x_a13 := c02x_st (Node.call c17x_a12 none .drain)
/-- the granted vote of node 1 -/
def c17x_vr := c17x_a12.raft.msgs.head!
def c17x_b10 := c02x_st (Node.call c17x_b9 none (.onPersistEntries 1 1))
def c17x_b11 := c02x_st (Node.call c17x_b10 none (.step c17x_vr))

def c17x_s15 : Sys := c01x_s14.setNode 1 c17x_a9
def c17x_s16 : Sys :=
  { (c17x_s15.setNode 1 c17x_a10) with net := c17x_s15.net ++ c17x_a9.raft.msgs }
def c17x_s17 : Sys := c17x_s16.setNode 2 c17x_b7
def c17x_s18 : Sys := c17x_s17.setNode 2 c17x_b8
def c17x_s19 : Sys :=
  { (c17x_s18.setNode 2 c17x_b9) with net := c17x_s18.net ++ c17x_b8.raft.msgs }
def c17x_s20 : Sys := c17x_s19.setNode 1 c17x_a11
def c17x_s21 : Sys := c17x_s20.setNode 1 c17x_a12
def c17x_s22 : Sys :=
  { (c17x_s21.setNode 1 c17x_a13) with net := c17x_s21.net ++ c17x_a12.raft.msgs }
def c17x_s23 : Sys := c17x_s22.setNode 2 c17x_b10
def c17x_s24 : Sys := c17x_s23.setNode 2 c17x_b11

def c17x_tail : List Sys :=
  [c17x_s15, c17x_s16, c17x_s17, c17x_s18, c17x_s19, c17x_s20, c17x_s21, c17x_s22, c17x_s23,
   c17x_s24]

def c17x_hist : List Sys := c01x_hist ++ c17x_tail

def c17x_moves : List Move :=
  [.call 1 c01x_a8 (.transferLeader 2), .send 1 c17x_a9, .deliver 2 c01x_b6 c17x_tn,
   .call 2 c17x_b7 .stabilize, .send 2 c17x_b8, .deliver 1 c17x_a10 c17x_rv,
   .call 1 c17x_a11 .stabilize, .send 1 c17x_a12, .call 2 c17x_b9 (.onPersistEntries 1 1),
   .deliver 2 c17x_b10 c17x_vr]

/-- **the history, run once**: the step tests of the ten moves and the test of the new states; the leader
when it is asked to transfer; the `MsgTimeoutNow`; its delivery and the campaign of node 2; the commit step
of node 1 before (`C17_cluster_transfer_nonvacuous` and the examples after it) -/
theorem c17x_eval :
    (Move.all (fun s mv => mv.ok s && mv.okK && c01y_chk (mv.next s)) c01x_s14 c17x_moves &&
      c01y_chk c01x_s14) = true ∧
    (c01x_a8.raft.state = .leader ∧ c01x_a8.raft.term = 1 ∧
      c01x_a8.raft.prs.get 2 = some (c01x_a8.raft.prs.get 2).get! ∧
      (c01x_a8.raft.prs.get 2).get!.matched = c01x_a8.raft.raftLog.lastIndex ∧
      c01x_a8.raft.raftLog.lastIndex = 1 ∧
      c02x_ok (Node.call c01x_a8 none (.transferLeader 2)) = true ∧
      c17x_tn ∉ c01x_a8.raft.msgs ∧ c17x_a9.raft.msgs.tail ≠ []) ∧
    (c17x_tn.msgType = .msgTimeoutNow ∧ c17x_tn.frm = 1 ∧ c17x_tn.to = 2 ∧ c17x_tn.term = 1) ∧
    (c02x_ok (Node.call c01x_b6 none (.step c17x_tn)) = true ∧
      c01x_b6.raft.state = .follower ∧ c01x_b6.raft.term = 1 ∧
      c17x_b7.raft.state = .candidate ∧ c17x_b7.raft.term = 2 ∧
      c17x_b11.raft.state = .leader ∧ c17x_b11.raft.term = 2) ∧
    c01x_a7.raft.raftLog.committed < c01x_a8.raft.raftLog.committed := by
  decide +kernel

theorem c17x_checked : Chained KStep (c01x_s14 :: c17x_tail) ∧
    ∀ s ∈ c01x_s14 :: c17x_tail, c01y_chk s = true :=
  Move.checked Move.kstep c01x_s14 c17x_moves rfl c17x_eval.1

theorem c17x_ksteps_all : Chained KStep c17x_hist :=
  chained_append_last (s := c01x_s14) rfl c01x_ksteps c17x_checked.1

theorem c17x_history : History c17x_hist := history_of_chained (fun _ _ hc => hc.step) _ c17x_ksteps_all

theorem c17x_chk_tail : ∀ s ∈ c17x_tail, c01y_chk s = true :=
  fun s hs => c17x_checked.2 s (List.mem_cons_of_mem _ hs)

theorem c17x_chk_all : ∀ s ∈ c17x_hist, c01y_chk s = true := by
  intro s hs
  rcases List.mem_append.1 hs with c | c
  · exact c01y_chk_all s (List.mem_append_left _ c)
  · exact c17x_chk_tail s c

/-- **the history satisfies every hypothesis of the commit layer without gaps** -/
theorem c17x_hyp3w : Hyp3w c02x_cfg 0 c17x_hist :=
  have hall := fun s hs => c01y_chk_ok s (c17x_chk_all s hs)
  c01x_hyp3w_of c17x_history c17x_ksteps_all rfl (fun s hs => (hall s hs).1)
    (fun s hs => (hall s hs).2.1) (fun s hs x hx => (hall s hs).2.2.1 x hx) (fun s hs => (hall s hs).2.2.2)

end Cluster
end RaftModel
