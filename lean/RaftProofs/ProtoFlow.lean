import RaftProofs.ProtoEvents

/-!
Where the messages and the images of P come from.

A vote request, a grant or an acknowledgement is *generated* by one event into the outbox of the node
that acts (`Gen`), stays there — an acknowledgement is also copied into the images taken at Ready
boundaries and returns from the durable one at a restart — and is *released* from there
(`outbox_step`, `released_step`, `released_mono`, `held_step`).  A step never invents a pending or a
durable image: it takes a copy of the volatile state (`rdy`), makes a pending image the durable one
(`persist`), or leaves them alone, a fresh node started by `bootstrap` apart (`stages_step`).

An invariant clause that speaks of the messages in an outbox, of the released ones, or of the pending
and durable images is proved from these without a case split on the event: it holds of what is
generated, and it is stable.
-/
namespace RaftModel.P

/-- acknowledgements known to a node: generated, covered by a pending image, covered by the durable image -/
def nodeAcks (n : PNode) (m : OMsg) : Prop :=
  m ∈ n.outbox ∨ (∃ im ∈ n.pending, m ∈ im.acks) ∨ m ∈ n.dacks

/-- the message is among the released ones (a grant: with its ghost record) -/
def Released (s : PSys) : OMsg → Prop
  | .voteReq t c lt li => (⟨t, c, lt, li⟩ : VoteReq) ∈ s.reqs
  | .grant t v c gh => ((⟨t, v, c⟩ : Grant), gh) ∈ s.rgv
  | .ack t f idx pre => (⟨t, f, idx, pre⟩ : Ack) ∈ s.acks

/-- the messages an event puts into the outbox of node `i` (`l'`: the log of `i` after the event) -/
inductive Gen (s : PSys) (i : Nat) (l' : List LEntry) : Event → OMsg → Prop
  | campReq (hi : 0 < i) (ht : 0 < (s.nodes i).term) :
      Gen s i l' (.campaign i) (.voteReq (s.nodes i).term i (lastTerm (s.nodes i).log) (s.nodes i).log.length)
  | campGrant (hi : 0 < i) (ht : 0 < (s.nodes i).term) :
      Gen s i l' (.campaign i) (.grant (s.nodes i).term i i
        ⟨(s.nodes i).log, !(s.elected.any (fun p => p.1 = (s.nodes i).term)), lastTerm (s.nodes i).log, (s.nodes i).log.length⟩)
  | grant (c : Nat) (r : VoteReq) (hr : r ∈ s.reqs) (ht : r.term = (s.nodes i).term) (hc : r.cand = c)
      (hu : upToDate r.lastTerm r.lastIdx (s.nodes i).log = true) (h0 : 0 < c) :
      Gen s i l' (.grant i c) (.grant (s.nodes i).term i c
        ⟨(s.nodes i).log, !(s.elected.any (fun p => p.1 = (s.nodes i).term)), r.lastTerm, r.lastIdx⟩)
  | ackApp (m : App) : Gen s i l' (.recvApp i m) (.ack (s.nodes i).term i (m.prev + m.es.length) (l'.take (m.prev + m.es.length)))
  | ackCommitted : Gen s i l' (.ackCommitted i) (.ack (s.nodes i).term i (s.nodes i).commit (l'.take (s.nodes i).commit))
  | ackSelf (idx : Nat) : Gen s i l' (.ackSelf i idx) (.ack (s.nodes i).term i idx (l'.take idx))
  | ackSnap (t idx st : Nat) : Gen s i l' (.installSnap i t idx st) (.ack (s.nodes i).term i idx (l'.take idx))

/-- the outbox of a node after a step: every message was there before or was generated by the step, and
the node's term has not decreased — or the node is restarted: every message is an acknowledgement
covered by the durable image, and the node resumes its durable term and log -/
theorem outbox_step {s s' : PSys} {e : Event} (h : applyEvent s e = .ok s') (j : Nat) :
    ((∀ m ∈ (s'.nodes j).outbox, m ∈ (s.nodes j).outbox ∨ Gen s j (s'.nodes j).log e m) ∧
      (s.nodes j).term ≤ (s'.nodes j).term ∧ e ≠ .restart j) ∨
    (e = .restart j ∧ (∀ m ∈ (s'.nodes j).outbox, m.isAck = true ∧ m ∈ (s.nodes j).dacks) ∧
      (s'.nodes j).term = (s.nodes j).dterm ∧ (s'.nodes j).log = (s.nodes j).dlog) := by
  -- an event replaces one node record: say where the messages of the new outbox come from
  have one : ∀ {i : Nat} {n' : PNode}, (∀ m ∈ n'.outbox, m ∈ (s.nodes i).outbox ∨ Gen s i n'.log e m) →
      (s.nodes i).term ≤ n'.term → e ≠ .restart j →
      ((∀ m ∈ (upd s.nodes i n' j).outbox, m ∈ (s.nodes j).outbox ∨ Gen s j (upd s.nodes i n' j).log e m) ∧
        (s.nodes j).term ≤ (upd s.nodes i n' j).term ∧ e ≠ .restart j) ∨
      (e = .restart j ∧ (∀ m ∈ (upd s.nodes i n' j).outbox, m.isAck = true ∧ m ∈ (s.nodes j).dacks) ∧
        (upd s.nodes i n' j).term = (s.nodes j).dterm ∧ (upd s.nodes i n' j).log = (s.nodes j).dlog) := by
    intro i n' hn ht hne
    by_cases hj : j = i
    · subst hj; rw [upd_same]; exact Or.inl ⟨hn, ht, hne⟩
    · rw [upd_other _ _ _ _ hj]; exact Or.inl ⟨fun m hm => Or.inl hm, Nat.le_refl _, hne⟩
  have same : e ≠ .restart j →
      ((∀ m ∈ (s.nodes j).outbox, m ∈ (s.nodes j).outbox ∨ Gen s j (s.nodes j).log e m) ∧
        (s.nodes j).term ≤ (s.nodes j).term ∧ e ≠ .restart j) ∨
      (e = .restart j ∧ (∀ m ∈ (s.nodes j).outbox, m.isAck = true ∧ m ∈ (s.nodes j).dacks) ∧
        (s.nodes j).term = (s.nodes j).dterm ∧ (s.nodes j).log = (s.nodes j).dlog) :=
    fun hne => Or.inl ⟨fun m hm => Or.inl hm, Nat.le_refl _, hne⟩
  have app1 : ∀ {l : List OMsg} {x m : OMsg}, m ∈ l ++ [x] → m ∈ l ∨ m = x := by
    intro l x m h; simpa using h
  cases e with
  | read r => obtain ⟨rd, rfl⟩ := read_frame h; exact same nofun
  | sendApp i m | sendHB i to c | claim i idx | sendSnap i idx =>
    obtain ⟨_, rfl⟩ := of_guard_ok h; exact same nofun
  | rdy i | win i cfg q | stepDown i | leaderAppend i x | commitLeader i c cfg q | commitApp i c m
  | commitHB i c m | commitClaim i m =>
    obtain ⟨_, rfl⟩ := of_guard_ok h; exact one (fun _ hx => Or.inl hx) (Nat.le_refl _) nofun
  | bump i t =>
    obtain ⟨hg, rfl⟩ := of_guard_ok h; exact one (fun _ hx => Or.inl hx) (Nat.le_of_lt hg.2) nofun
  | persist i k => obtain ⟨_, _, _, rfl⟩ := persist_ok h; exact one (fun _ hx => Or.inl hx) (Nat.le_refl _) nofun
  | commitSnap i t idx sterm => obtain ⟨_, _, _, _, rfl⟩ := commitSnap_ok h; exact one (fun _ hx => Or.inl hx) (Nat.le_refl _) nofun
  | crash i => obtain ⟨_, rfl⟩ := of_guard_ok h; exact one (fun _ hx => nomatch hx) (Nat.le_refl _) nofun
  | restart i =>
    obtain ⟨_, rfl⟩ := of_guard_ok h
    by_cases hj : j = i
    · subst hj; simp only [upd_same]
      exact Or.inr ⟨trivial, fun m hm => ⟨(List.mem_filter.1 hm).2, (List.mem_filter.1 hm).1⟩, trivial, trivial⟩
    · simp only [upd_other _ _ _ _ hj]; exact same fun he => hj (by cases he; rfl)
  | release i key =>
    rcases release_ok h with ⟨_, ⟨_, _, _, _, _, rfl⟩ | ⟨_, _, _, _, _, _, _, rfl⟩ | ⟨_, _, _, _, _, _, _, rfl⟩⟩
    · exact same nofun
    · exact one (fun _ hx => Or.inl (List.mem_of_mem_eraseIdx hx)) (Nat.le_refl _) nofun
    · exact one (fun _ hx => Or.inl (List.mem_of_mem_eraseIdx hx)) (Nat.le_refl _) nofun
  | bootstrap i donor idx =>
    obtain ⟨hf, _, _, _, _, rfl⟩ := bootstrap_ok h
    exact one (fun _ hx => Or.inl hx) (by rw [hf.term]; exact Nat.zero_le _) nofun
  | campaign i =>
    obtain ⟨hg, rfl⟩ := of_guard_ok h
    refine one (fun x hx => ?_) (Nat.le_refl _) nofun
    simp only [List.mem_append, List.mem_cons, List.not_mem_nil, or_false] at hx
    rcases hx with hx | rfl | rfl
    · exact Or.inl hx
    · exact Or.inr (.campReq hg.2.2.2.1 hg.2.2.2.2)
    · exact Or.inr (.campGrant hg.2.2.2.1 hg.2.2.2.2)
  | grant i c =>
    obtain ⟨r, hr, hp, hg, rfl⟩ := grant_ok h
    refine one (fun x hx => ?_) (Nat.le_refl _) nofun
    rcases app1 hx with hx | rfl
    · exact Or.inl hx
    · exact Or.inr (.grant c r hr hp.1 hp.2.1 hp.2.2 hg.2.2.1)
  | recvApp i m' =>
    obtain ⟨_, rfl⟩ := of_guard_ok h
    refine one (fun x hx => ?_) (Nat.le_refl _) nofun
    rcases app1 hx with hx | rfl
    · exact Or.inl hx
    · exact Or.inr (.ackApp m')
  | ackCommitted i =>
    obtain ⟨_, rfl⟩ := of_guard_ok h
    refine one (fun x hx => ?_) (Nat.le_refl _) nofun
    rcases app1 hx with hx | rfl
    · exact Or.inl hx
    · exact Or.inr (.ackCommitted)
  | ackSelf i idx =>
    obtain ⟨_, rfl⟩ := of_guard_ok h
    refine one (fun x hx => ?_) (Nat.le_refl _) nofun
    rcases app1 hx with hx | rfl
    · exact Or.inl hx
    · exact Or.inr (.ackSelf idx)
  | installSnap i t idx sterm =>
    obtain ⟨m', _, ⟨_, rfl, _⟩, hg, rfl⟩ := installSnap_ok h
    refine one (fun x hx => ?_) (Nat.le_refl _) nofun
    rcases app1 hx with hx | rfl
    · exact Or.inl hx
    · have := Gen.ackSnap (s := s) (i := i) (l' := m'.pre) t m'.idx sterm
      have e : m'.pre.take m'.idx = m'.pre := by rw [← hg.2.2.2.2.1, List.take_length]
      rw [e] at this
      exact Or.inr this

/-- a released message was released before, or was in an outbox (a vote request, a grant) or covered by
a durable image (an acknowledgement) -/
theorem released_step {s s' : PSys} {e : Event} (h : applyEvent s e = .ok s') (m : OMsg) (hm : Released s' m) :
    Released s m ∨ ∃ i, (s.nodes i).up = true ∧
      ((m ∈ (s.nodes i).outbox ∧ releasable (s.nodes i) m = true) ∨ (m.isAck = true ∧ m ∈ (s.nodes i).dacks)) := by
  rcases released_frame h with ⟨i, key, rfl⟩ | ⟨h1, _, h3, h4⟩
  · rcases release_ok h with ⟨hup, ⟨_, _, _, _, hd, rfl⟩ | ⟨_, _, _, _, _, ho, hr, rfl⟩ | ⟨_, _, _, _, _, ho, hr, rfl⟩⟩
    · cases m with
      | ack t f idx pre =>
        rcases List.mem_cons.1 hm with hm | hm
        · cases hm; exact Or.inr ⟨i, hup, Or.inr ⟨rfl, hd⟩⟩
        · exact Or.inl hm
      | voteReq t c lt li => exact Or.inl hm
      | grant t v c gh => exact Or.inl hm
    · cases m with
      | voteReq t c lt li =>
        rcases List.mem_cons.1 hm with hm | hm
        · cases hm; exact Or.inr ⟨i, hup, Or.inl ⟨List.mem_of_getElem? ho, by
            simpa only [releasable, Bool.or_eq_true, Bool.and_eq_true, decide_eq_true_eq] using hr⟩⟩
        · exact Or.inl hm
      | ack t f idx pre => exact Or.inl hm
      | grant t v c gh => exact Or.inl hm
    · cases m with
      | grant t v c gh =>
        rcases List.mem_cons.1 hm with hm | hm
        · cases hm; exact Or.inr ⟨i, hup, Or.inl ⟨List.mem_of_getElem? ho, by
            simpa only [releasable, Bool.or_eq_true, Bool.and_eq_true, decide_eq_true_eq] using hr⟩⟩
        · exact Or.inl hm
      | ack t f idx pre => exact Or.inl hm
      | voteReq t c lt li => exact Or.inl hm
  · left
    cases m with
    | voteReq t c lt li => exact (show _ ∈ s.reqs from h1 ▸ hm)
    | grant t v c gh => exact (show _ ∈ s.rgv from h3 ▸ hm)
    | ack t f idx pre => exact (show _ ∈ s.acks from h4 ▸ hm)

/-- released messages are never forgotten -/
theorem released_mono {s s' : PSys} {e : Event} (h : applyEvent s e = .ok s') (m : OMsg) (hm : Released s m) :
    Released s' m := by
  rcases released_frame h with ⟨i, key, rfl⟩ | ⟨h1, _, h3, h4⟩
  · rcases release_ok h with ⟨_, ⟨_, _, _, _, _, rfl⟩ | ⟨_, _, _, _, _, _, _, rfl⟩ | ⟨_, _, _, _, _, _, _, rfl⟩⟩ <;>
      cases m <;> first | exact hm | exact List.mem_cons_of_mem _ hm
  · cases m with
    | voteReq t c lt li => exact (show _ ∈ s'.reqs from h1 ▸ hm)
    | grant t v c gh => exact (show _ ∈ s'.rgv from h3 ▸ hm)
    | ack t f idx pre => exact (show _ ∈ s'.acks from h4 ▸ hm)

/-! ### images -/

/-- the durable image of a node -/
def dimage (n : PNode) : Image := ⟨n.dterm, n.dvote, n.dlog, n.dcommit, n.dacks⟩

/-- a property of images that holds of the volatile, the pending and the durable image of every node
before a step holds of the pending and the durable images after it -/
theorem stages_step {Q : Nat → Image → Prop} {s s' : PSys} {e : Event} (h : applyEvent s e = .ok s')
    (hv : ∀ j, Q j (image (s.nodes j))) (hp : ∀ j, ∀ im ∈ (s.nodes j).pending, Q j im)
    (hd : ∀ j, Q j (dimage (s.nodes j)))
    (hb : ∀ i d idx, e = .bootstrap i d idx → Q i (dimage (s'.nodes i))) :
    (∀ j, ∀ im ∈ (s'.nodes j).pending, Q j im) ∧ (∀ j, Q j (dimage (s'.nodes j))) := by
  -- an event replaces one node record: say where its pending and durable images come from
  have one : ∀ (i : Nat) (n' : PNode), (∀ im ∈ n'.pending, Q i im) → Q i (dimage n') →
      (∀ j, ∀ im ∈ (upd s.nodes i n' j).pending, Q j im) ∧ (∀ j, Q j (dimage (upd s.nodes i n' j))) := by
    intro i n' h1 h2
    constructor <;> intro j <;> by_cases hj : j = i
    · subst hj; rw [upd_same]; exact h1
    · rw [upd_other _ _ _ _ hj]; exact hp j
    · subst hj; rw [upd_same]; exact h2
    · rw [upd_other _ _ _ _ hj]; exact hd j
  cases e with
  | read r => obtain ⟨rd, rfl⟩ := read_frame h; exact ⟨hp, hd⟩
  | sendApp i m | sendHB i to c | claim i idx | sendSnap i idx =>
    obtain ⟨_, rfl⟩ := of_guard_ok h; exact ⟨hp, hd⟩
  | bump i t | campaign i | win i cfg q | stepDown i | leaderAppend i x | recvApp i m | ackCommitted i
  | ackSelf i idx | commitLeader i c cfg q | commitApp i c m | commitHB i c m | commitClaim i m =>
    obtain ⟨_, rfl⟩ := of_guard_ok h; exact one i _ (hp i) (hd i)
  | grant i c => obtain ⟨_, _, _, _, rfl⟩ := grant_ok h; exact one i _ (hp i) (hd i)
  | installSnap i t idx sterm => obtain ⟨_, _, _, _, rfl⟩ := installSnap_ok h; exact one i _ (hp i) (hd i)
  | commitSnap i t idx sterm => obtain ⟨_, _, _, _, rfl⟩ := commitSnap_ok h; exact one i _ (hp i) (hd i)
  | release i key =>
    rcases release_ok h with ⟨_, ⟨_, _, _, _, _, rfl⟩ | ⟨_, _, _, _, _, _, _, rfl⟩ | ⟨_, _, _, _, _, _, _, rfl⟩⟩
    · exact ⟨hp, hd⟩
    · exact one i _ (hp i) (hd i)
    · exact one i _ (hp i) (hd i)
  | rdy i =>
    obtain ⟨_, rfl⟩ := of_guard_ok h
    refine one i _ (fun im him => ?_) (hd i)
    rcases List.mem_append.1 him with him | him
    · exact hp i im him
    · rw [List.mem_singleton.1 him]; exact hv i
  | persist i k =>
    obtain ⟨_, im, him, rfl⟩ := persist_ok h
    exact one i _ (fun x hx => hp i x (List.mem_of_mem_drop hx)) (hp i im (List.mem_of_getElem? him))
  | crash i | restart i =>
    obtain ⟨_, rfl⟩ := of_guard_ok h; exact one i _ (fun _ him => nomatch him) (hd i)
  | bootstrap i donor idx =>
    have hb' := hb i donor idx rfl
    obtain ⟨_, _, _, _, _, rfl⟩ := bootstrap_ok h
    exact one i _ (hp i) (by simpa [upd_same] using hb')

/-- a message a node knows after a step (generated, covered by a pending or the durable image) it knew
before, or the step generated it -/
theorem held_step {s s' : PSys} {e : Event} (h : applyEvent s e = .ok s') (j : Nat) (m : OMsg)
    (hm : nodeAcks (s'.nodes j) m) : nodeAcks (s.nodes j) m ∨ Gen s j (s'.nodes j).log e m := by
  obtain ⟨hp, hd⟩ := stages_step (Q := fun j im => ∀ m ∈ im.acks, nodeAcks (s.nodes j) m) h
    (fun j m hm => Or.inl (List.mem_filter.1 hm).1) (fun j im him m hm => Or.inr (Or.inl ⟨im, him, hm⟩))
    (fun j m hm => Or.inr (Or.inr hm))
    (by rintro i d idx rfl
        obtain ⟨hf, _, _, _, _, rfl⟩ := bootstrap_ok h
        simp only [upd_same, dimage, hf.dacks]; exact fun m hm => nomatch hm)
  rcases hm with hm | ⟨im, him, hm⟩ | hm
  · rcases outbox_step h j with ⟨hs, _⟩ | ⟨_, hs, _⟩
    · exact (hs m hm).imp Or.inl id
    · exact Or.inl (Or.inr (Or.inr (hs m hm).2))
  · exact Or.inl (hp j im him m hm)
  · exact Or.inl (hd j m hm)

/-- the term of a generated acknowledgement is the node's -/
theorem Gen.ack_term {s : PSys} {j : Nat} {l' : List LEntry} {e : Event} {t0 f idx : Nat} {pre : List LEntry}
    (h : Gen s j l' e (.ack t0 f idx pre)) : t0 = (s.nodes j).term := by
  cases h <;> rfl

end RaftModel.P
