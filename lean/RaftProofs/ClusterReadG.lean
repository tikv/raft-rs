import RaftProofs.ClusterReadA
import RaftProofs.ClusterRead4H

/-!
Cluster-level ReadIndex safety, the per-call relations of the two-type frame (`RD`: of the queue, the
heartbeats and their responses are tracked).

The per-call invariant `RInv a m r` of the read path ("`r` is an intermediate state of a call that
started in `a` with input `m`") and the per-call relation `ROut`, which is `RInv` with the voter
configuration made explicit and without the clause about the configuration of `r`.  The handlers are
traversed once, in the layer of forwarded reads (`R4.RInv`, `RaftProofs/ClusterRead4D.lean` … `4G`),
whose invariant also says what a queued `MsgReadIndexResp` means.  Here a `MsgReadIndexResp` is one of the
untracked messages, and a call that continues from an intermediate state `r` keeps the invariant
anchored at `a` (`ROut.comp`, `RInv.comp`).

Then what ONE call of `Node.call` does to the part of a node the read path uses — `call_rd` for every
`NodeOp` other than `read_index` (and other than the delivery of a `MsgReadIndex` / `MsgSnapshot`), and
`readIndex_cases` for `read_index`; both read off `RaftProofs/ClusterRead4G.lean`.

The two deliveries `call_rd` leaves out:
* `callRi_cases`: what the delivery of a `MsgReadIndex` does (`RiOutD`): nothing the read path reads
  changes (forwarded again, dropped, or the node falls back to follower), or the node is a leader that
  has committed in its term and registers the request with its commit index — read off
  `R4.callRi_cases` (`RaftProofs/ClusterRead4H.lean`), which also tracks the forwarded message;
* `stepRir_cases` / `callRir_cases`: a delivered `MsgReadIndexResp` adds a read state only on a
  follower, only if the response carries no term or the node's term (after the term preamble), and
  the read state is `(m.index, m.entries[0].data)`.
-/
namespace RaftModel
namespace Raft
namespace RD

/-- the delivered message is a heartbeat response of `u` for the context `K` and the term `t` (or one
without a term) -/
def AckBy (m : Message) (u : Nat) (K : Bytes) (t : Nat) : Prop :=
  m.msgType = .msgHeartbeatResponse ∧ m.frm = u ∧ m.context = K ∧ (m.term = t ∨ m.term = 0)

/-- who may be counted as having acknowledged `K` during a call that started in `a` with input `m`:
the node itself, the sender of the delivered heartbeat response, whoever was counted before -/
def AckOk (a : Raft) (m : Message) (K : Bytes) (u : Nat) : Prop :=
  u = a.id ∨ AckBy m u K a.term ∨ ∃ rsA, (K, rsA) ∈ a.readOnly.pendingReadIndex ∧ u ∈ rsA.acks

/-- the read state `x` answers a request `K` that was pending in `a`; it was released because the
joint quorum `acks` of `V` has acknowledged a request `Kack` that is not before `K` in the queue -/
def Ans (V : JointConfig) (a : Raft) (m : Message) (x : ReadState) : Prop :=
  ∃ (K : Bytes) (rs0 : ReadIndexStatus) (Kack : Bytes) (acks : List Nat) (p i : Nat),
    (K, rs0) ∈ a.readOnly.pendingReadIndex ∧ reqCtx rs0.req = some x.requestCtx ∧
    x.index = rs0.index ∧ (rs0.req.frm = 0 ∨ rs0.req.frm = a.id) ∧
    a.readOnly.readIndexQueue[p]? = some K ∧ a.readOnly.readIndexQueue[i]? = some Kack ∧ p ≤ i ∧
    Tracker.hasQuorum V acks = true ∧ ∀ u ∈ acks, AckOk a m Kack u

/-- `r` is an intermediate state of a call that started in `a` with input message `m` (which is not a
`MsgReadIndex` and not a `MsgSnapshot`) -/
structure RInv (a : Raft) (m : Message) (r : Raft) : Prop where
  id : r.id = a.id
  tle : a.term ≤ r.term
  opt : r.readOnly.option = a.readOnly.option
  pend : ∀ K rs, (K, rs) ∈ r.readOnly.pendingReadIndex → r.term = a.term ∧
    (∃ rs0, (K, rs0) ∈ a.readOnly.pendingReadIndex ∧ rs.req = rs0.req ∧ rs.index = rs0.index) ∧
    ∀ u ∈ rs.acks, AckOk a m K u
  queue : ∃ d, r.readOnly.readIndexQueue = a.readOnly.readIndexQueue.drop d
  conf : r.prs.conf = a.prs.conf
  rst : ∀ x ∈ r.readStates, x ∈ a.readStates ∨ m.msgType = .msgReadIndexResp ∨
    Ans a.prs.voters a m x
  msgs : ∀ x ∈ r.msgs, x ∈ a.msgs ∨ rdT x.msgType = false ∨ HbOk a x ∨ HbrOk a m x

/-- the per-call relation of the read path, with the voter configuration `V` the quorum was checked
against made explicit -/
structure ROut (V : JointConfig) (a : Raft) (m : Message) (r : Raft) : Prop where
  id : r.id = a.id
  tle : a.term ≤ r.term
  opt : r.readOnly.option = a.readOnly.option
  pend : ∀ K rs, (K, rs) ∈ r.readOnly.pendingReadIndex → r.term = a.term ∧
    (∃ rs0, (K, rs0) ∈ a.readOnly.pendingReadIndex ∧ rs.req = rs0.req ∧ rs.index = rs0.index) ∧
    ∀ u ∈ rs.acks, AckOk a m K u
  queue : ∃ d, r.readOnly.readIndexQueue = a.readOnly.readIndexQueue.drop d
  rst : ∀ x ∈ r.readStates, x ∈ a.readStates ∨ m.msgType = .msgReadIndexResp ∨ Ans V a m x
  msgs : ∀ x ∈ r.msgs, x ∈ a.msgs ∨ rdT x.msgType = false ∨ HbOk a x ∨ HbrOk a m x

theorem RInv.out {a r : Raft} {m : Message} (h : RInv a m r) : ROut a.prs.voters a m r :=
  ⟨h.id, h.tle, h.opt, h.pend, h.queue, h.rst, h.msgs⟩

theorem RInv.refl (a : Raft) (m : Message) : RInv a m a :=
  ⟨rfl, Nat.le_refl _, rfl,
    fun _ rs h => ⟨rfl, ⟨rs, h, rfl, rfl⟩, fun _ hu => .inr (.inr ⟨rs, h, hu⟩)⟩,
    ⟨0, rfl⟩, rfl, fun _ h => .inl h, fun _ h => .inl h⟩

theorem RInv.rs {a r r' : Raft} {m : Message} (h : RInv a m r) (hs : RS r r') : RInv a m r' := by
  refine ⟨hs.id.trans h.id, Nat.le_trans h.tle hs.tle, hs.option.trans h.opt, ?_, ?_,
    hs.conf.trans h.conf, ?_, ?_⟩
  · intro K rs hm
    rcases hs.keep with ⟨g1, g2⟩ | g
    · rw [g1] at hm
      obtain ⟨k1, k2⟩ := h.pend K rs hm
      exact ⟨g2.trans k1, k2⟩
    · rw [g] at hm; cases hm
  · rcases hs.keep with ⟨g1, _⟩ | g
    · rw [g1]; exact h.queue
    · exact ⟨a.readOnly.readIndexQueue.length, by rw [g, List.drop_length]; rfl⟩
  · rw [hs.rs]; exact h.rst
  · intro x hx
    by_cases hr : rdT x.msgType = false
    · exact .inr (.inl hr)
    · have : x ∈ rdOf r'.msgs := mem_rdOf.2 ⟨hx, by simpa [isRd] using hr⟩
      rw [hs.rd] at this
      exact h.msgs x (mem_rdOf.1 this).1

theorem RInv.rf {a r r' : Raft} {m : Message} (h : RInv a m r) (hf : RF r r') : RInv a m r' :=
  h.rs hf.toRS

/-! ### from the invariant of the forwarded-read layer -/

/-- **a call continued**: what the rest of the call, seen as a call that starts in `r`, does to `r` it
does to the state `a` the call started in -/
theorem ROut.comp {V : JointConfig} {a r r' : Raft} {m : Message} (h : ROut V a m r)
    (h' : R4.ROut V r m r') : ROut V a m r' := by
  -- who is counted since `r` is counted since `a`, as soon as `r` has a pending request (which ties
  -- the term of `r` to that of `a`)
  have ack : ∀ {K0 rs0}, (K0, rs0) ∈ r.readOnly.pendingReadIndex →
      ∀ {K u}, R4.AckOk r m K u → AckOk a m K u := by
    intro K0 rs0 h0 K u hu
    rcases hu with c | c | ⟨rsA, c1, c2⟩
    · exact .inl (c.trans h.id)
    · exact .inr (.inl (by rw [← (h.pend _ _ h0).1]; exact c))
    · exact (h.pend _ _ c1).2.2 u c2
  obtain ⟨d, hd⟩ := h.queue
  have inq : ∀ {p : Nat} {K : Bytes}, r.readOnly.readIndexQueue[p]? = some K →
      a.readOnly.readIndexQueue[d + p]? = some K := by
    intro p K hp; rw [hd, List.getElem?_drop] at hp; exact hp
  refine ⟨h'.id.trans h.id, Nat.le_trans h.tle h'.tle, h'.opt.trans h.opt, ?_, ?_, ?_, ?_⟩
  · intro K rs hm
    obtain ⟨k1, ⟨rs1, k2, k3, k4⟩, k5⟩ := h'.pend K rs hm
    obtain ⟨g1, ⟨rs0, g2, g3, g4⟩, _⟩ := h.pend K rs1 k2
    exact ⟨k1.trans g1, ⟨rs0, g2, k3.trans g3, k4.trans g4⟩, fun u hu => ack k2 (k5 u hu)⟩
  · obtain ⟨d', hd'⟩ := h'.queue
    exact ⟨d + d', by rw [hd', hd, List.drop_drop]⟩
  · intro x hx
    rcases h'.rst x hx with c | c | ⟨K, rs1, Kack, acks, p, i, c1, c2, c3, c4, c5, c6, c7, c8, c9⟩
    · exact h.rst x c
    · exact .inr (.inl c)
    · obtain ⟨_, ⟨rs0, g2, g3, g4⟩, _⟩ := h.pend K rs1 c1
      exact .inr (.inr ⟨K, rs0, Kack, acks, d + p, d + i, g2, by rw [← g3]; exact c2, c3.trans g4,
        by rw [← g3, ← h.id]; exact c4, inq c5, inq c6, by omega, c8, fun u hu => ack c1 (c9 u hu)⟩)
  · intro x hx
    rcases h'.msgs x hx with c | c | c | c | c
    · exact h.msgs x c
    · exact .inr (.inl (rdT_of_r4 c))
    · refine .inr (.inr (.inl ⟨c.1, ?_⟩))
      rcases c.2 with g | g
      · exact .inl g
      · rw [hd] at g; exact .inr (List.mem_of_mem_drop g)
    · exact .inr (.inr (.inr ⟨c.1, c.2.1, c.2.2.1, c.2.2.2.1.trans h.id,
        Nat.le_trans h.tle c.2.2.2.2⟩))
    · -- a `MsgReadIndexResp` is not tracked by this layer
      exact .inr (.inl (by rw [c.1]; rfl))

theorem ROut.of_r4 {V : JointConfig} {a r : Raft} {m : Message} (h : R4.ROut V a m r) :
    ROut V a m r :=
  ROut.comp ⟨rfl, Nat.le_refl _, rfl, (RInv.refl a m).pend, ⟨0, rfl⟩, fun _ hx => .inl hx,
    fun _ hx => .inl hx⟩ h

theorem RInv.comp {a r r' : Raft} {m : Message} (h : RInv a m r) (h' : R4.RInv r m r') :
    RInv a m r' := by
  have hv : r.prs.voters = a.prs.voters := by unfold ProgressTracker.voters; rw [h.conf]
  have o := h.out.comp (hv ▸ h'.out)
  exact ⟨o.id, o.tle, o.opt, o.pend, o.queue, h'.conf.trans h.conf, o.rst, o.msgs⟩

/-! ### what is used of the traversal outside `call_rd` -/

/-- `bcast_heartbeat_with_ctx`: only heartbeats with the given context are queued -/
theorem bcastHeartbeatWithCtx_out (r : Raft) (ctx : Option Bytes) :
    Res.Post (fun r' => rcore r' = rcore r ∧ ∀ x ∈ r'.msgs, x ∈ r.msgs ∨
        (x.msgType = .msgHeartbeat ∧ x.context = ctx.getD [])) (r.bcastHeartbeatWithCtx ctx) :=
  Res.post_mono (R4.bcastHeartbeatWithCtx_out r ctx) fun _ hx => ⟨rcore_eq_of_r4 hx.1, hx.2⟩

theorem stepLeader_rinv {a r : Raft} {m : Message} (h : RInv a m r)
    (hri : m.msgType ≠ .msgReadIndex)
    (hmt : m.msgType = .msgHeartbeatResponse → m.term = 0 ∨ m.term = r.term) :
    Res.Post (fun x => RInv a m x.1) (r.stepLeader m) :=
  Res.post_mono (R4.stepLeader_rinv (R4.RInv.refl r m) hri hmt) fun _ hx => h.comp hx

open CV Node

/-! ### `read_index` -/

/-- what a `read_index(K)` call does -/
inductive RiOut (a : Raft) (K : Bytes) (r : Raft) : Prop
  /-- dropped, or forwarded to the leader: nothing the read path reads has changed -/
  | frame (h : RF a r)
  /-- answered at once: single-voter group or lease-based reads -/
  | now (hs : a.prs.isSingleton = true ∨ a.readOnly.option ≠ .safe)
  /-- the leader has committed in its term: the request is registered (unless it is pending already)
  with the commit index as read index, and heartbeats carrying `K` are queued -/
  | reg (hl : a.state = .leader) (hc : a.commitToCurrentTerm = .ok true) (ro : ReadOnly)
      (hadd : a.readOnly.addRequest a.raftLog.committed (riMsg K) a.id = .ok ro)
      (hcore : rcore r = rcore ({ a with readOnly := ro } : Raft))
      (hmsgs : ∀ x ∈ r.msgs, x ∈ a.msgs ∨ (x.msgType = .msgHeartbeat ∧ x.context = K))

/-- a forwarded request is none of the tracked messages, so forwarding counts as `frame` -/
theorem RiOut.of_r4 {a r : Raft} {K : Bytes} (h : R4.RiOut a K r) : RiOut a K r := by
  cases h with
  | frame hf => exact .frame (RF.of_r4 hf)
  | fwd _ _ hcore hmsgs =>
    refine .frame ⟨rcore_eq_of_r4 hcore, ?_⟩
    rw [hmsgs, rdOf_append, rdOf_single_ne _ (isRd_of_type (by rw [sendFill_msgType]; rfl)),
      List.append_nil]
  | now hs => exact .now hs
  | reg hl hc ro hadd hcore hmsgs => exact .reg hl hc ro hadd (rcore_eq_of_r4 hcore) hmsgs

theorem readIndex_cases {a r : Raft} {K : Bytes} (h : RawNode.readIndex a K = .ok r) :
    RiOut a K r :=
  .of_r4 (R4.readIndex_cases h)

/-- … as one call of a node -/
theorem call_riOut {st st' : NState} {rnd : Option Nat} {K : Bytes} {res : OpRes}
    (h : Node.call st rnd (.readIndex K) = .ok (res, st')) : RiOut st.raft K st'.raft :=
  .of_r4 (R4.call_riOut h)

/-! ### one call of a node -/

/-- **one call of a node** (any `NodeOp` but `read_index`, `drain`; no `MsgReadIndex` / `MsgSnapshot`
is stepped) -/
theorem call_rd (st st' : NState) (rnd : Option Nat) (op : NodeOp) (res : OpRes)
    (hri : ∀ K, op ≠ .readIndex K) (hdr : op ≠ .drain)
    (hm : ∀ m, op = .step m ∨ op = .rstep m →
      m.msgType ≠ .msgReadIndex ∧ m.msgType ≠ .msgSnapshot)
    (h : Node.call st rnd op = .ok (res, st')) :
    ∃ V, (V = st.raft.prs.voters ∨ V = st'.raft.prs.voters) ∧
      ROut V st.raft (opMsg op) st'.raft := by
  obtain ⟨V, hV, ho⟩ := R4.call_rd st st' rnd op res hri hdr hm h
  exact ⟨V, hV, ROut.of_r4 ho⟩

/-! ### a delivered `MsgReadIndex` -/

/-- what the delivery of a `MsgReadIndex` `m` does -/
inductive RiOutD (a : Raft) (m : Message) (r : Raft) : Prop
  /-- forwarded again, dropped, or the node fell back to follower (higher term in `m`): nothing the
  read path reads has changed, except that the pending requests may have been discarded -/
  | keep (h : RS a r) (h2 : r.readOnly = a.readOnly ∨ r.state = .follower)
  /-- answered at once: single-voter group or lease-based reads -/
  | now (hs : a.prs.isSingleton = true ∨ a.readOnly.option ≠ .safe)
  /-- the node is a leader that has committed in its term: the request is registered (unless its
  context is pending already) with the commit index as read index -/
  | reg (hl : a.state = .leader) (hc : a.commitToCurrentTerm = .ok true) (ro : ReadOnly)
      (hadd : a.readOnly.addRequest a.raftLog.committed m a.id = .ok ro)
      (hcore : rcore r = rcore ({ a with readOnly := ro } : Raft))

theorem RiOutD.of_r4 {a r : Raft} {m : Message} (h : R4.RiOutD a m r) : RiOutD a m r := by
  cases h with
  | keep h h2 => exact .keep (RS.of_r4 h) h2
  | fwd r1 h _ hcore y hmsgs hy hfr =>
    -- the forwarded `MsgReadIndex` is not one of the tracked messages
    have hf : RF r1 r := ⟨rcore_eq_of_r4 hcore, by
      rw [hmsgs, rdOf_append, rdOf_single_ne _ (isRd_of_type (by rw [hy.1]; rfl)), List.append_nil]⟩
    exact .keep ((RS.of_r4 h).trans hf.toRS) (.inr hfr)
  | now hs => exact .now hs
  | reg hl hc ro hadd hcore _ => exact .reg hl hc ro hadd (rcore_eq_of_r4 hcore)

/-- **the delivery of a `MsgReadIndex`**, as one call of a node -/
theorem callRi_cases {st st' : NState} {rnd : Option Nat} {m : Message} {res : OpRes}
    (hty : m.msgType = .msgReadIndex) (h : Node.call st rnd (.step m) = .ok (res, st')) :
    RiOutD st.raft m st'.raft :=
  RiOutD.of_r4 (R4.callRi_cases hty h)

/-- `add_request` for an arbitrary request message -/
theorem addRequest_specM {ro ro' : ReadOnly} {idx id : Nat} {m : Message}
    (h : ro.addRequest idx m id = .ok ro') :
    ∃ en, m.entries.head? = some en ∧
      (ro' = ro ∨
        (ro'.pendingReadIndex = ro.pendingReadIndex ++
            [(en.data, { req := m, index := idx, acks := [id] })] ∧
          ro'.readIndexQueue = ro.readIndexQueue ++ [en.data])) := by
  unfold ReadOnly.addRequest at h
  split at h
  · cases h
  · rename_i en hen
    refine ⟨en, hen, ?_⟩
    dsimp only at h
    split at h
    · cases h; exact .inl rfl
    · cases h; exact .inr ⟨rfl, rfl⟩

/-! ### a delivered `MsgReadIndexResp` -/

theorem stepFollower_rir {r r' : Raft} {m : Message} {e : Option RaftError}
    (hty : m.msgType = .msgReadIndexResp) (h : r.stepFollower m = .ok (r', e)) :
    r'.state = r.state ∧ r'.term = r.term ∧
    (r'.readStates = r.readStates ∨ ∃ en, m.entries = [en] ∧
      r'.readStates = r.readStates ++ [{ index := m.index, requestCtx := en.data }]) := by
  unfold stepFollower at h
  simp only [hty] at h
  split at h
  · rename_i en hen
    split at h
    · cases h; exact ⟨rfl, rfl, .inr ⟨en, hen, rfl⟩⟩
    · cases h
    · cases h
  · cases h; exact ⟨rfl, rfl, .inl rfl⟩

/-- **a follower only turns a `MsgReadIndexResp` without term or of its current term into a read
state**: every read state after `step(m)`, `m` a `MsgReadIndexResp`, was there before, or the node is
a follower, `m.term` is 0 or the node's term, `m` has exactly one entry and the read state is
`(m.index, m.entries[0].data)` -/
theorem stepRir_cases {a r : Raft} {m : Message} {e : Option RaftError}
    (hty : m.msgType = .msgReadIndexResp) (h : a.step m = .ok (r, e)) :
    ∀ x ∈ r.readStates, x ∈ a.readStates ∨
      (r.state = .follower ∧ (m.term = 0 ∨ m.term = r.term) ∧
        ∃ en, m.entries = [en] ∧ x = { index := m.index, requestCtx := en.data }) := by
  cases step_inv h with
  | consumed heq =>
    rcases stepTerm_plain (.inr hty) heq with ⟨g, _⟩ | ⟨_, _, g⟩
    · subst g; exact fun x hx => .inl hx
    · cases g
  | dispatched heq hd =>
    rename_i r1
    have hrs : r1.readStates = a.readStates ∧ (m.term = 0 ∨ m.term = r1.term) := by
      rcases stepTerm_plain (.inr hty) heq with ⟨g, g2⟩ | ⟨hlt, g, _⟩
      · subst g; exact ⟨rfl, g2 rfl⟩
      · subst g
        exact ⟨(becomeFollower_rs a m.term 0 (by omega)).rs,
          .inr (becomeFollower_term_vote a m.term 0).1.symm⟩
    cases hd with
    | hup ty => rw [hty] at ty; cases ty
    | vote ty => rcases ty with ty | ty <;> rw [hty] at ty <;> cases ty
    | candidate _ _ hx =>
      unfold stepCandidate at hx
      simp only [hty] at hx
      cases hx; intro x hx; rw [hrs.1] at hx; exact .inl hx
    | follower _ hfo hx =>
      obtain ⟨k1, k2, k3⟩ := stepFollower_rir hty hx
      intro x hx
      rcases k3 with k3 | ⟨en, k3, k4⟩
      · rw [k3, hrs.1] at hx; exact .inl hx
      · rw [k4] at hx
        rcases List.mem_append.1 hx with g | g
        · rw [hrs.1] at g; exact .inl g
        · right
          refine ⟨k1.trans hfo, by rw [k2]; exact hrs.2, en, k3, List.mem_singleton.1 g⟩
    | leader _ _ hx =>
      unfold stepLeader at hx
      simp only [hty] at hx
      cases hx; intro x hx; rw [hrs.1] at hx; exact .inl hx

/-- … as one call of a node -/
theorem callRir_cases {st st' : NState} {rnd : Option Nat} {m : Message} {res : OpRes}
    (hty : m.msgType = .msgReadIndexResp) (h : Node.call st rnd (.step m) = .ok (res, st')) :
    ∀ x ∈ st'.raft.readStates, x ∈ st.raft.readStates ∨
      (st'.raft.state = .follower ∧ (m.term = 0 ∨ m.term = st'.raft.term) ∧
        ∃ en, m.entries = [en] ∧ x = { index := m.index, requestCtx := en.data }) := by
  cases applyOp_parts h with
  | step hx =>
    rcases RawNode.step_inv hx with rfl | ⟨_, hx⟩
    · exact fun x hx => .inl hx
    · -- the state stepped is `st.raft` with the draw stored; its `readStates` are those of `st.raft`
      have hs := stepRir_cases hty hx
      exact hs

end RD
end Raft
end RaftModel
