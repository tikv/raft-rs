import RaftProofs.ClusterSnap5Z
import RaftProofs.ClusterSnap5B
import RaftProofs.ClusterSnap2C

/-!
Commit safety of `ClusterSem` with compaction, snapshots **and `request_snapshot`**, part 5Y: two
per-call facts towards deriving `reqok` (`Raft::request_snapshot` asks for the last index; a follower
with a pending request does not append), the bundle of `RaftProps/C01i.lean`, and `reqok` is strictly
weaker than the `noreq` of `RaftProps/C01h.lean` (`Snap2.Hyp3w`, `ClusterSnap2C`): the history `rx_hist`
has a state with a pending request.
-/
namespace RaftModel
namespace Cluster
namespace Snap5
open Node Raft Raft.CC RaftProps.C02 RaftProps.C05 Snap

/-- **`Raft::request_snapshot`, completely** (a step towards deriving `reqok`): the call is dropped
(nothing changes), or — on a non-leader without a pending request — the request index is the last index
of the log, which is untouched, and one message is queued -/
theorem requestSnapshot_out {r r' : Raft} {e : Option RaftError}
    (h : r.requestSnapshot = .ok (r', e)) :
    r' = r ∨
    (r.state ≠ .leader ∧ r.pendingRequestSnapshot = 0 ∧
      r'.pendingRequestSnapshot = r.raftLog.lastIndex ∧ r'.raftLog = r.raftLog ∧
      r'.state = r.state ∧ ∃ x, r'.msgs = r.msgs ++ [x]) := by
  unfold Raft.requestSnapshot at h
  split at h
  · cases h; exact .inl rfl
  · rename_i hnl
    split at h
    · cases h; exact .inl rfl
    · split at h
      · cases h; exact .inl rfl
      · split at h
        · cases h; exact .inl rfl
        · rename_i hp
          simp only at h
          split at h
          · cases h
          · cases h
          · split at h
            · obtain ⟨r1, h1, h⟩ := Res.bind_eq_ok h
              cases h
              obtain ⟨_, _, h1⟩ := sendRequestSnapshot_inv h1
              rw [send_eq _ _ _ h1]
              exact .inr ⟨hnl, by omega, rfl, rfl, rfl, _, rfl⟩
            · cases h; exact .inl rfl

/-- **a follower with a pending snapshot request does not append** (`Raft::handle_append_entries`
answers with the request again; a step towards deriving `reqok`) -/
theorem handleAppendEntries_req {r r' : Raft} {m : Message} (hp : r.pendingRequestSnapshot ≠ 0)
    (h : r.handleAppendEntries m = .ok r') :
    r'.raftLog = r.raftLog ∧ r'.pendingRequestSnapshot = r.pendingRequestSnapshot ∧
    r'.state = r.state ∧ ∃ x, r'.msgs = r.msgs ++ [x] := by
  unfold Raft.handleAppendEntries at h
  rw [if_pos hp] at h
  obtain ⟨_, _, h⟩ := sendRequestSnapshot_inv h
  rw [send_eq _ _ _ h]
  exact ⟨rfl, rfl, rfl, _, rfl⟩

/-- **the bundle of `RaftProps/C01i.lean`**: `Snap2.Hyp3w` (C01h) with the proof gap `noreq` ("no node
ever has a pending snapshot request") replaced by the strictly weaker, invariant-shaped `reqok` ("the
log of a node with a pending snapshot request ends at or before the requested index").  *Partial*:
`reqok` is an invariant of the model (the request index is `last_index` at the time of the request,
`handle_append_entries` refuses to append while a request is pending, `become_candidate` /
`become_leader` clear the request, a restored snapshot clears it), but it is not derived here — that
needs one more per-call relation that tracks `pending_request_snapshot` through every `NodeOp`. -/
abbrev Hyp3r_partial (cfg : JointConfig) (c0 : Nat) (h : List Sys) : Prop := Hyp3w cfg c0 h

/-- `reqok` is strictly weaker than `noreq`: the history `rx_hist` satisfies the new bundle, and in
one of its states a node has a pending request -/
theorem rx_not_noReq : ¬ ∀ s ∈ rx_hist, Snap2.NoReq s := by
  intro hall
  have hm : rx_t2 ∈ rx_hist := by
    unfold rx_hist rx_tail
    exact List.mem_append_right _ (List.mem_cons_of_mem _ List.mem_cons_self)
  have h2 : rx_t2.node 2 = some rx_b11 := node_setNode_self rx_t1 2 rx_b11
  have h0 := hall rx_t2 hm 2 rx_b11 h2
  rw [rx_exercised.2.2.1] at h0
  cases h0

end Snap5
end Cluster
end RaftModel
