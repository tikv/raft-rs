import RaftProofs.ClusterVoteD
import RaftProofs.CallRun

/-!
Cluster-level election safety, helper lemmas part E: the per-call invariant `VInv` through the vote
arm of `step` and through `apply_conf_change`, and then through every call: `Run.vinv`, by induction on
what a call goes through (`RaftProofs.CallRun`).
-/
namespace RaftModel
namespace Raft
namespace CV
open VoteOb

/-- changing the tag of a call whose input is not a real-vote message -/
theorem VInv.retag {a r : Raft} {m1 m2 : Message} (h : VInv a m1 r)
    (h1 : isRVt m1.msgType = false) (h2 : isRVt m2.msgType = false) : VInv a m2 r := by
  have hb : ∀ t j, Backed a m1 t j → Backed a m2 t j := by
    intro t j hb
    rcases hb with g | g | g
    · exact Or.inl g
    · rw [g.1] at h1; cases h1
    · exact Or.inr (Or.inr g)
  refine ⟨h.id, h.hs, h.tv, h.pk, h.nf, ?_, fun hc j hj => hb _ _ (h.cand hc j hj), ?_⟩
  · intro x hx hrv
    rcases h.msgs x hx hrv with g | g
    · exact Or.inl g
    · right
      refine ⟨g.1, g.2.1, fun hc => ⟨?_, (g.2.2.1 hc).2⟩, fun hc => ?_⟩
      · intro hc2; rw [hc2] at h2; cases h2
      · have := (g.2.2.2 hc).1
        rw [this] at h1; cases h1
  · intro hl
    rcases h.lead hl with g | ⟨Q, q1, q2⟩
    · exact Or.inl g
    · exact Or.inr ⟨Q, q1, fun j hj => hb _ _ (q2 j hj)⟩

theorem sendFill_resp_fields (r : Raft) (x : Message)
    (hx : x.msgType = .msgRequestVoteResponse ∨ x.msgType = .msgRequestPreVoteResponse)
    (hf : x.frm = 0) :
    (r.sendFill x).msgType = x.msgType ∧ (r.sendFill x).frm = r.id ∧ (r.sendFill x).to = x.to ∧
    (r.sendFill x).term = x.term ∧ (r.sendFill x).reject = x.reject := by
  unfold sendFill
  rcases hx with g | g <;> simp [g, hf, isVoteMsg]

theorem send_term_ne_zero {r r' : Raft} {x : Message} (h : r.send x = .ok r')
    (hx : x.msgType = .msgRequestVoteResponse) : x.term ≠ 0 := by
  unfold Raft.send at h
  intro h0
  simp [hx, h0, isVoteMsg] at h

theorem stepVote_vinv {a r : Raft} {m : Message} (h : VInv a m r)
    (hmt : m.msgType = .msgRequestVote → m.term = 0 ∨ m.term = r.term) :
    Res.Post (fun x => VInv a m x) (r.stepVote m) := by
  unfold stepVote
  split
  · trivial
  · rename_i respType hrt
    have hcases : (m.msgType = .msgRequestVote ∧ respType = .msgRequestVoteResponse) ∨
        (m.msgType = .msgRequestPreVote ∧ respType = .msgRequestPreVoteResponse) := by
      unfold voteRespMsgType at hrt
      split at hrt
      · rename_i g; cases hrt; exact Or.inl ⟨g, rfl⟩
      · rename_i g; cases hrt; exact Or.inr ⟨g, rfl⟩
      · cases hrt
    split
    · -- granted
      rename_i hg
      unfold stepVoteGrant
      split
      · rename_i r1 heq
        have e1 := send_eq r r1 _ heq
        rcases hcases with ⟨hq, hrq⟩ | ⟨hq, hrq⟩
        · -- a real vote: the response is queued and the vote recorded
          rw [if_pos hq]
          have hterm : m.term ≠ 0 := by
            have := send_term_ne_zero heq (by simp [hrq])
            exact this
          have htm : m.term = r.term := by
            rcases hmt hq with g | g
            · exact absurd g hterm
            · exact g
          have hcv := RaftProps.C02.c02_canVote_real hq ((c02_voteGranted_iff r m).1 hg).1
          obtain ⟨f1, f2, f3, f4, f5⟩ := sendFill_resp_fields r
            { msgType := respType, to := m.frm, reject := false, term := m.term }
            (Or.inl (by simp [hrq])) rfl
          have htv : TV r ({ r1 with electionElapsed := 0, vote := m.frm } : Raft) := by
            subst e1
            refine Or.inr ⟨rfl, ?_⟩
            rcases hcv with g | g
            · exact Or.inl g.symm
            · exact Or.inr g.1
          subst e1
          refine Res.post_ok ⟨h.id, h.hs, h.tv.trans htv, h.pk, h.nf, ?_, h.cand, h.lead⟩
          intro x hx hrv
          rcases List.mem_append.1 hx with hx | hx
          · rcases h.msgs x hx hrv with g | g
            · exact Or.inl g
            · exact Or.inr (g.mono htv)
          · right
            simp only [List.mem_singleton] at hx
            subst hx
            refine ⟨f2.trans h.id, by rw [f4]; exact hterm, fun hc => ?_, fun _ => ?_⟩
            · rw [f1] at hc; simp [hrq] at hc
            · refine ⟨hq, f3, f4, ?_, ?_⟩
              · rw [f4, f3]
                show a.term < m.term ∨ (a.term = m.term ∧ (a.vote = 0 ∨ a.vote = m.frm))
                rcases h.tv with g | ⟨g1, g2⟩
                · left; omega
                · right
                  refine ⟨by omega, ?_⟩
                  rcases g2 with g2 | g2
                  · rcases hcv with q | q
                    · right; rw [← g2]; exact q
                    · left; rw [← g2]; exact q.1
                  · exact Or.inl g2
              · intro _
                rw [f4, f3]
                show m.term < r.term ∨ (r.term = m.term ∧ m.frm = m.frm)
                exact Or.inr ⟨htm.symm, rfl⟩
        · -- a pre-vote: nothing is recorded
          have hne : ¬ m.msgType = .msgRequestVote := by rw [hq]; decide
          rw [if_neg hne]
          exact Res.post_ok (h.vf (Res.Post.of_eq (P := fun x => VF r x)
            (send_vf r _ (by simp [hrq, isRVt])) heq))
      · trivial
      · trivial
    · -- refused
      unfold stepVoteReject
      split
      · trivial
      · trivial
      · split
        · rename_i r1 heq
          have e1 := send_eq r r1 _ heq
          have h1 : VInv a m r1 := by
            rcases hcases with ⟨hq, hrq⟩ | ⟨hq, hrq⟩
            · subst e1
              refine h.of_ncore rfl ?_
              intro x hx hrv
              rcases List.mem_append.1 hx with hx | hx
              · rcases h.msgs x hx hrv with g | g
                · exact Or.inl g
                · exact Or.inr (g.mono (TV.refl _))
              · exfalso
                simp only [List.mem_singleton] at hx
                obtain ⟨y, hy, y1, y2, y3⟩ : ∃ y : Message, x = r.sendFill y ∧ y.msgType = respType ∧
                    y.reject = true ∧ y.frm = 0 := ⟨_, hx, rfl, rfl, rfl⟩
                subst hy
                obtain ⟨f1, _, _, _, f5⟩ := sendFill_resp_fields r y (Or.inl (by rw [y1, hrq])) y3
                rw [y1] at f1; rw [y2] at f5
                rcases isRVm_type hrv with g | ⟨_, g⟩
                · rw [f1] at g; simp [hrq] at g
                · rw [f5] at g; cases g
            · exact h.vf (Res.Post.of_eq (P := fun x => VF r x)
                (send_vf r _ (by simp [hrq, isRVt])) heq)
          split
          · exact Res.post_mono (maybeCommitByVote_vinv m h1) (fun x hx => hx.1)
          · exact h1
        · trivial
        · trivial
    · trivial
    · trivial

theorem applyConfChange_vinv (a : Raft) (cc : ConfChangeV2) :
    Res.Post (fun x => VInv a mLocal x.1) (a.applyConfChange cc) := by
  unfold applyConfChange
  dsimp only
  split
  · exact VInv.refl a mLocal
  · rename_i cfg changes _
    have hsp : ∀ b, b = Joint.contains (a.prs.applyConf cfg changes a.raftLog.lastIndex).voters a.id →
        VInv a mLocal { ({ a with prs := a.prs.applyConf cfg changes a.raftLog.lastIndex } : Raft) with promotable := b } := by
      intro b hb
      refine ⟨rfl, rfl, TV.refl a, Or.inr hb, fun hne => Or.inl hne, fun x hx _ => Or.inl hx, ?_, ?_⟩
      · intro hc j hj
        exact Or.inr (Or.inr ⟨hc, rfl, hj⟩)
      · intro hl
        exact Or.inl ⟨hl, rfl⟩
    exact Res.post_bind (postConfChange_vinv' hsp) (fun b hb => hb.1)

/-- the call started from `a` with the random draw set -/
theorem VInv.rebaseRand {a r : Raft} {m : Message} {rnd : Option Nat}
    (h : VInv ({ a with nextRand := rnd } : Raft) m r) : VInv a m r :=
  ⟨h.id, h.hs, h.tv, h.pk, h.nf, h.msgs, h.cand, h.lead⟩

/-! ### every call -/

end CV
open CV

/-- **the per-call invariant holds along every call** -/
theorem Run.vinv {a r : Raft} {m : Message} (h : Run a m r) : VInv a m r := by
  induction h with
  | start => exact VInv.refl a m
  | plain _ hf ih => exact ih.vf hf.vf
  | follow t l _ ht _ _ ih => exact ih.becomeFollower t l ht
  | reject _ _ hs ih => exact ih.vf ((send_vf _ _ rfl).of_eq hs)
  | hup b _ hty _ _ _ hc ih =>
    exact ((hup_vinv b ih (by rcases hty with g | g <;> rw [g] <;> decide)).of_eq hc).1
  | vote _ _ _ hmt hc ih => exact (stepVote_vinv ih hmt).of_eq hc
  | @poll r r1 r' res _ hg _ hp hb ih =>
    have hs : r.state = .candidate ∨ r.state = .preCandidate := hg.imp (·.1) (·.1)
    have hm : m.msgType ≠ .msgRequestVote := by
      rcases hg with g | g <;> rw [g.2.1] <;> decide
    have hfv : r.state = .candidate → (!m.reject) = true → Backed a m r.term m.frm := by
      intro hc hv
      rcases hg with g | g
      · exact .inr (.inl ⟨g.2.1, by simpa using hv, rfl, g.2.2.elim .inr .inl⟩)
      · rw [g.1] at hc; cases hc
    exact ((maybeCommitByVote_vinv m
      ((poll_vinv r m.frm m.msgType (!m.reject) ih hs hfv hm).of_eq hp).1).of_eq hb).1
  | snapshot _ _ _ hc ih => exact ((handleSnapshot_vinv m ih).of_eq hc).1
  | heard _ _ _ ih => exact ih.vf ⟨rfl, rfl⟩
  | abort _ _ ih => exact ih.vf ⟨rfl, rfl⟩
  | transferee _ _ ih => exact ih.vf ⟨rfl, rfl⟩
  | timeoutNow _ _ _ hs ih => exact ih.vf ((sendTimeoutNow_vf _ _).of_eq hs)

namespace CV

theorem tick_vinv (a : Raft) : Res.Post (fun x => VInv a mLocal x.1) a.tick :=
  Res.post_intro fun _ hc => (tick_run a.nextRand rfl hc).vinv

theorem rawStep_vinv (a : Raft) (m : Message) :
    Res.Post (fun x => VInv a m x.1) (RawNode.step a m) :=
  Res.post_intro fun _ hc => (RawNode.step_inv hc).elim (fun e => e ▸ VInv.refl a m)
    fun hs => (step_run a.nextRand hs.2).vinv

/-- `step` / `step_ignore` of a message the application builds itself (not a real-vote message) -/
theorem localStep_vinv (a : Raft) (m : Message) (hm : isRVt m.msgType = false) :
    Res.Post (fun x => VInv a mLocal x.1) (a.step m) :=
  Res.post_intro fun _ hc => (step_run a.nextRand hc).vinv.retag hm rfl

theorem localStepIgnore_vinv (a : Raft) (m : Message) (hm : isRVt m.msgType = false) :
    Res.Post (fun x => VInv a mLocal x) (a.stepIgnore m) :=
  Res.post_intro fun _ hc => stepIgnore_parts hc fun hs => (step_run a.nextRand hs).vinv.retag hm rfl

end CV
end Raft
end RaftModel
