import RaftProofs.ClusterVoteF
import RaftProofs.ClusterReadOps

/-!
Cluster-level ReadIndex safety with forwarded reads (`RaftProps.C08f`), helper lemmas part A: the part
of the node state the read path uses (`rcore`: the `ReadOnly` bookkeeping, the term, the read states,
the id, the configuration; and the queue projected on the four message types of the read path:
heartbeats, heartbeat responses, `MsgReadIndex`, `MsgReadIndexResp`) and the frame lemmas `RF` of the
sending / replication helpers of the node model, of the leader-side and follower-side handlers and of
the entry points that never touch the read path.

The node model is traversed once, for this projection; the layer of reads issued at the leader
(`RaftProps.C08c`, namespace `RD`, `RaftProofs/ClusterReadA.lean` …) tracks only the heartbeats and
their responses and reads its frame lemmas off the ones proved here.
-/
namespace RaftModel
namespace Raft
namespace RD
namespace R4

/-- the four message types of the read path -/
def rdT : MsgType → Bool
  | .msgHeartbeat | .msgHeartbeatResponse | .msgReadIndexResp | .msgReadIndex => true
  | _ => false

/-- a message of the read path -/
def isRd (x : Message) : Bool := rdT x.msgType

theorem isRd_of_type {x : Message} (h : rdT x.msgType = false) : isRd x = false := h

/-- the messages of the read path in an outgoing queue, in order -/
def rdOf (l : List Message) : List Message := l.filter isRd

@[simp] theorem rdOf_append (a b : List Message) : rdOf (a ++ b) = rdOf a ++ rdOf b := by
  simp [rdOf]

theorem rdOf_single_ne (m : Message) (h : isRd m = false) : rdOf [m] = [] := by
  simp [rdOf, h]

theorem mem_rdOf {l : List Message} {x : Message} : x ∈ rdOf l ↔ x ∈ l ∧ isRd x = true := by
  simp [rdOf]

/-- the part of the node state the read path reads (everything but the queue) -/
structure RCore where
  ro : ReadOnly
  term : Nat
  rs : List ReadState
  id : Nat
  conf : Configuration

def rcore (r : Raft) : RCore :=
  { ro := r.readOnly, term := r.term, rs := r.readStates, id := r.id, conf := r.prs.conf }

/-- `r'` differs from `r` only outside `rcore`, and the same messages of the read path are queued -/
def RF (r r' : Raft) : Prop := rcore r' = rcore r ∧ rdOf r'.msgs = rdOf r.msgs

theorem RF.refl (r : Raft) : RF r r := ⟨rfl, rfl⟩
theorem RF.trans {a b c : Raft} (h1 : RF a b) (h2 : RF b c) : RF a c :=
  ⟨h2.1.trans h1.1, h2.2.trans h1.2⟩

theorem RF.ro {r r' : Raft} (h : RF r r') : r'.readOnly = r.readOnly := congrArg RCore.ro h.1
theorem RF.term {r r' : Raft} (h : RF r r') : r'.term = r.term := congrArg RCore.term h.1
theorem RF.rs {r r' : Raft} (h : RF r r') : r'.readStates = r.readStates := congrArg RCore.rs h.1
theorem RF.id {r r' : Raft} (h : RF r r') : r'.id = r.id := congrArg RCore.id h.1
theorem RF.conf {r r' : Raft} (h : RF r r') : r'.prs.conf = r.prs.conf := congrArg RCore.conf h.1
theorem RF.voters {r r' : Raft} (h : RF r r') : r'.prs.voters = r.prs.voters := by
  unfold ProgressTracker.voters; rw [h.conf]
theorem RF.rd {r r' : Raft} (h : RF r r') : rdOf r'.msgs = rdOf r.msgs := h.2

/-- a frame anchored at `a`, carried through one more call that keeps the frame -/
theorem RF.step {a r r' : Raft} {x : Res Raft} (h0 : RF a r)
    (hx : Res.Post (fun y => RF r y) x) (h : x = .ok r') : RF a r' :=
  h0.trans (Res.Post.of_eq hx h)

theorem RF.step1 {β : Type} {a r r' : Raft} {b : β} {x : Res (Raft × β)} (h0 : RF a r)
    (hx : Res.Post (fun y => RF r y.1) x) (h : x = .ok (r', b)) : RF a r' :=
  h0.trans (Res.Post.of_eq (P := fun y => RF r y.1) hx h)

/-! ### sending -/

theorem send_rf (r : Raft) (m : Message) (hm : rdT m.msgType = false) :
    Res.Post (fun r' => RF r r') (r.send m) := by
  apply Res.post_intro
  intro r' h
  rw [send_eq r r' m h]
  have : isRd (r.sendFill m) = false := isRd_of_type (by rw [sendFill_msgType]; exact hm)
  simp [RF, rcore, rdOf_single_ne _ this]

theorem tryBatchingLoop_rd (committed to : Nat) (pr : Progress) (ents : List Entry) :
    ∀ msgs, Res.Post (fun x => rdOf x.1 = rdOf msgs) (tryBatchingLoop committed to pr ents msgs) := by
  intro msgs
  induction msgs with
  | nil => simp [tryBatchingLoop, Res.Post]
  | cons msg rest ih =>
    unfold tryBatchingLoop
    split
    · rename_i hc
      have hne : ∀ (e : List Entry) (c : Nat),
          isRd ({ msg with entries := e, commit := c } : Message) = false := by
        intro e c; exact isRd_of_type (by simp [hc.1, rdT])
      have hne0 : isRd msg = false := isRd_of_type (by simp [hc.1, rdT])
      split
      · split
        · simp [Res.Post]
        · simp only
          split
          · trivial
          · split
            · simp [Res.Post, rdOf, hne]
            · trivial
            · trivial
      · have := hne msg.entries committed
        simp [Res.Post, rdOf, hne0, this]
    · split
      · rename_i rest' pr' b heq
        have := Res.Post.of_eq ih heq
        simp only [Res.Post] at this ⊢
        simp only [rdOf, List.filter_cons] at this ⊢
        rw [this]
      · trivial
      · trivial

theorem tryBatching_rf (r : Raft) (to : Nat) (pr : Progress) (ents : List Entry) :
    Res.Post (fun x => RF r x.1) (r.tryBatching to pr ents) := by
  unfold tryBatching
  split
  · rename_i msgs pr' b heq
    have := Res.Post.of_eq (tryBatchingLoop_rd _ _ _ _ _) heq
    simp only [Res.Post] at this ⊢
    simp [RF, rcore, this]
  · trivial
  · trivial

theorem prepareSendSnapshot_rf (r : Raft) (m : Message) (pr : Progress) (to : Nat) :
    Res.Post (fun x => RF r x.1) (r.prepareSendSnapshot m pr to) := by
  unfold prepareSendSnapshot
  split
  · simp [Res.Post, RF.refl]
  · simp only
    split
    · simp [Res.Post, RF, rcore]
    · trivial
    · trivial
    · split
      · trivial
      · simp [Res.Post, RF, rcore]

theorem maybeSendAppend_rf (r : Raft) (to : Nat) (pr : Progress) (ae : Bool) :
    Res.Post (fun x => RF r x.1) (r.maybeSendAppend to pr ae) :=
  Res.post_intro fun _ h => maybeSendAppend_parts (P := fun x => RF r x) h (RF.refl r)
    (fun hs => Res.Post.of_eq (P := fun x => RF r x.1) (prepareSendSnapshot_rf _ _ _ _) hs)
    (fun hb => Res.Post.of_eq (P := fun x => RF r x.1) (tryBatching_rf _ _ _ _) hb)
    (fun hs ht p => p.step (send_rf _ _ (by rcases ht with g | g <;> rw [g] <;> rfl)) hs)

theorem set_rf (r : Raft) (id : Nat) (pr : Progress) :
    RF r { r with prs := r.prs.set id pr } := by
  simp [RF, rcore, ProgressTracker.set]

theorem sendAppendPr_rf (r : Raft) (to : Nat) (pr : Progress) :
    Res.Post (fun x => RF r x.1) (r.sendAppendPr to pr) := by
  unfold sendAppendPr
  exact Res.post_bind (maybeSendAppend_rf r to pr true) (fun a ha => by
    simp only [Res.Post]; exact ha)

theorem sendAppendAggressivelyPr_rf (fuel : Nat) (r : Raft) (to : Nat) (pr : Progress) :
    Res.Post (fun x => RF r x.1) (sendAppendAggressivelyPr fuel r to pr) :=
  Res.post_intro fun _ h => sendAppendAggressivelyPr_parts (P := fun x => RF r x)
    (fun hm p => p.step1 (maybeSendAppend_rf _ _ _ _) hm) fuel r pr h (RF.refl r)

theorem sendAppend_rf (r : Raft) (to : Nat) :
    Res.Post (fun x => RF r x) (r.sendAppend to) := by
  unfold sendAppend
  split
  · trivial
  · exact Res.post_bind (sendAppendPr_rf r to _) (fun a ha => by
      simp only [Res.Post]; exact RF.trans ha (set_rf _ _ _))

theorem sendAppendAggressively_rf (r : Raft) (to : Nat) :
    Res.Post (fun x => RF r x) (r.sendAppendAggressively to) := by
  unfold sendAppendAggressively
  split
  · trivial
  · exact Res.post_bind (sendAppendAggressivelyPr_rf _ r to _) (fun a ha => by
      simp only [Res.Post]; exact RF.trans ha (set_rf _ _ _))

theorem sendTimeoutNow_rf (r : Raft) (to : Nat) :
    Res.Post (fun x => RF r x) (r.sendTimeoutNow to) := by
  unfold sendTimeoutNow
  exact send_rf r _ rfl

theorem forEachPeer_rf (r : Raft) (f : Raft → Nat → Progress → Res (Raft × Progress))
    (hf : ∀ r id pr, Res.Post (fun x => RF r x.1) (f r id pr)) :
    Res.Post (fun x => RF r x) (r.forEachPeer f) :=
  forEachPeer_post (fun x => RF r x) f
    (fun r1 id pr h1 => Res.post_mono (hf r1 id pr) fun _ hx => h1.trans hx)
    (fun r1 id pr h1 => h1.trans (set_rf r1 id pr)) r (RF.refl r)

theorem bcastAppend_rf (r : Raft) : Res.Post (fun x => RF r x) r.bcastAppend := by
  unfold bcastAppend
  exact forEachPeer_rf r _ (fun r id pr => sendAppendPr_rf r id pr)

theorem modifyProgress_rf (r : Raft) (id : Nat) (f : Progress → Progress) :
    RF r (r.modifyProgress id f) := by
  simp [RF, rcore, modifyProgress]

theorem mapProgress_rf (r : Raft) (f : Nat → Progress → Progress) :
    RF r (r.mapProgress f) := by
  simp [RF, rcore, mapProgress]

theorem maybeCommit_rf (r : Raft) : Res.Post (fun x => RF r x.1) r.maybeCommit :=
  Res.post_intro fun _ h => maybeCommit_parts (P := fun x => RF r x) h (RF.refl r)
    (fun _ => by simp [RF, rcore]) (fun _ p => p.trans (modifyProgress_rf _ _ _))

theorem appendEntry_rf (r : Raft) (es : List Entry) :
    Res.Post (fun x => RF r x.1) (r.appendEntry es) :=
  Res.post_intro fun _ h => appendEntry_parts (P := fun x => RF r x) h (RF.refl r)
    (fun hs => by
      unfold maybeIncreaseUncommittedSize at hs
      rw [← (Prod.mk.inj hs).1]; simp [RF, rcore])
    (fun _ p => p.trans (by simp [RF, rcore]))

/-! ### leader-side handlers -/

theorem checkQuorumActive_rf (r : Raft) : RF r r.checkQuorumActive.1 := by
  simp [RF, rcore, checkQuorumActive, ProgressTracker.quorumRecentlyActive]

theorem filterProposal_rf (es : List Entry) (r : Raft) (i : Nat) : RF r (r.filterProposal i es).1 :=
  filterProposal_parts (P := fun x => RF r x)
    (fun he p => filterProposalEntry_parts he p fun _ => p.trans (by simp [RF, rcore]))
    es r _ i _ rfl (RF.refl r)

theorem handleSnapshotStatus_rf (r : Raft) (m : Message) : RF r (r.handleSnapshotStatus m) := by
  unfold handleSnapshotStatus
  split
  · exact RF.refl _
  · split
    · exact RF.refl _
    · exact set_rf _ _ _

theorem handleUnreachable_rf (r : Raft) (m : Message) : RF r (r.handleUnreachable m) := by
  unfold handleUnreachable
  split
  · exact RF.refl _
  · split
    · exact set_rf _ _ _
    · exact RF.refl _

theorem handleAppendResponseAccepted_rf (r : Raft) (m : Message) (pr : Progress) (op : Bool) :
    Res.Post (fun x => RF r x) (r.handleAppendResponseAccepted m pr op) :=
  Res.post_intro fun _ h => handleAppendResponseAccepted_parts (P := fun x => RF r x) h
    (fun _ => set_rf r _ _)
    (fun hc p => p.step1 (maybeCommit_rf _) hc)
    (fun hb p => p.step (bcastAppend_rf _) hb)
    (fun ha p => p.step (sendAppend_rf _ _) ha)
    (fun ha p => p.step (sendAppendAggressively_rf _ _) ha)
    (fun _ ht p => p.step (sendTimeoutNow_rf _ _) ht)

theorem handleAppendResponse_rf (r : Raft) (m : Message) :
    Res.Post (fun x => RF r x) (r.handleAppendResponse m) :=
  Res.post_intro fun _ h => handleAppendResponse_parts (P := fun x => RF r x) h (RF.refl r)
    (fun _ => set_rf r _ _)
    (fun ha p => p.step (sendAppend_rf _ _) ha)
    (fun hacc => Res.Post.of_eq (handleAppendResponseAccepted_rf _ _ _ _) hacc)

theorem handleTransferLeader_rf (r : Raft) (m : Message) :
    Res.Post (fun x => RF r x) (r.handleTransferLeader m) :=
  Res.post_intro fun _ h => handleTransferLeader_parts (P := fun x => RF r x) h (RF.refl r)
    (fun p => p.trans (by simp [RF, rcore, abortLeaderTransfer]))
    (fun p => p.trans (by simp [RF, rcore]))
    (fun _ ht p => p.step (sendTimeoutNow_rf _ _) ht)
    (fun _ ha p => p.step1 (sendAppendPr_rf _ _ _) ha)
    (fun _ p => p.trans (set_rf _ _ _))

/-! ### follower-side handlers -/

theorem sendRequestSnapshot_rf (r : Raft) : Res.Post (fun x => RF r x) r.sendRequestSnapshot :=
  Res.post_intro fun _ h => sendRequestSnapshot_parts (P := fun x => RF r x) h (RF.refl r)
    (fun hs ht p => p.step (send_rf _ _ (by rw [ht]; rfl)) hs)

theorem handleAppendEntries_rf (r : Raft) (m : Message) :
    Res.Post (fun x => RF r x) (r.handleAppendEntries m) :=
  Res.post_intro fun _ h => handleAppendEntries_parts (P := fun x => RF r x) h (RF.refl r)
    (fun hq p => p.step (sendRequestSnapshot_rf _) hq)
    (fun _ => by simp [RF, rcore])
    (fun hs ht p => p.step (send_rf _ _ (by rw [ht]; rfl)) hs)

theorem requestSnapshot_rf (r : Raft) : Res.Post (fun x => RF r x.1) r.requestSnapshot :=
  Res.post_intro fun _ h => requestSnapshot_parts (P := fun x => RF r x) h (RF.refl r)
    (fun _ p => p.trans (by simp [RF, rcore]))
    (fun hq p => p.step (sendRequestSnapshot_rf _) hq)

/-! ### entry points that never touch the read path -/

theorem onPersistSnap_rf (r : Raft) (index : Nat) :
    Res.Post (fun x => RF r x) (r.onPersistSnap index) :=
  Res.post_intro fun _ h => onPersistSnap_parts (P := fun x => RF r x) h
    (fun _ => by simp [RF, rcore])

theorem onPersistEntries_rf (r : Raft) (index term : Nat) :
    Res.Post (fun x => RF r x) (r.onPersistEntries index term) :=
  Res.post_intro fun _ h => onPersistEntries_parts (P := fun x => RF r x) h
    (fun _ => by simp [RF, rcore])
    (fun _ p => p.trans (set_rf _ _ _))
    (fun _ _ _ _ hc p => p.step1 (maybeCommit_rf _) hc)
    (fun _ _ _ hb p => p.step (bcastAppend_rf _) hb)

theorem commitApplyInternal_rf (r : Raft) (applied : Nat) (skip : Bool) :
    Res.Post (fun x => RF r x) (r.commitApplyInternal applied skip) :=
  Res.post_intro fun _ h => commitApplyInternal_parts (P := fun x => RF r x) h
    (fun _ => by simp [RF, rcore])
    (fun _ _ _ _ _ ha p => p.step1 (appendEntry_rf _ _) ha)
    (fun _ p => p.trans (by simp [RF, rcore]))

theorem commitApply_rf (r : Raft) (applied : Nat) :
    Res.Post (fun x => RF r x) (r.commitApply applied) := by
  unfold commitApply
  exact commitApplyInternal_rf r applied false

theorem reduceUncommittedSize_rf (r : Raft) (ents : List Entry) :
    RF r (r.reduceUncommittedSize ents) := by
  unfold reduceUncommittedSize
  split
  · exact RF.refl _
  · simp [RF, rcore]

theorem adjustMaxInflightMsgs_rf (r : Raft) (t c : Nat) :
    Res.Post (fun x => RF r x) (r.adjustMaxInflightMsgs t c) := by
  unfold adjustMaxInflightMsgs
  split
  · exact RF.refl _
  · split
    · exact set_rf _ _ _
    · trivial

theorem enableGroupCommit_rf (r : Raft) (b : Bool) :
    Res.Post (fun x => RF r x) (r.enableGroupCommit b) :=
  Res.post_intro fun _ h => enableGroupCommit_parts (P := fun x => RF r x) h
    (by simp [RF, rcore])
    (fun _ _ _ _ hc p => p.step1 (maybeCommit_rf _) hc)
    (fun _ _ _ hb p => p.step (bcastAppend_rf _) hb)

theorem assignCommitGroups_rf (r : Raft) (ids : List (Nat × Nat)) :
    Res.Post (fun x => RF r x) (r.assignCommitGroups ids) :=
  Res.post_intro fun _ h => assignCommitGroups_parts (P := fun x => RF r x) h (RF.refl r)
    (fun _ _ p => p.trans (modifyProgress_rf _ _ _))
    (fun _ _ _ _ hc p => p.step1 (maybeCommit_rf _) hc)
    (fun _ _ _ hb p => p.step (bcastAppend_rf _) hb)

end R4
end RD
end Raft
end RaftModel
