import RaftProps.C13b
import RaftProofs.ClusterVoteF

/-!
C13e helper lemmas, part A (per-function layer): what the sending helpers of the node model do to the
`MsgAppend`s addressed to a peer `j` whose progress is in the `Snapshot` state (`SK pb j`) or in the `Probe`
state with `paused` (`PK j`): the progress of `j` keeps its state (and `pending_snapshot` / `paused`) and the
projection `apOf j` of the queue is unchanged.
-/
namespace RaftModel
namespace Raft
namespace F3
open RaftProps.C13

/-- the `MsgAppend`s addressed to `j` of an outgoing queue, in order -/
def apOf (j : Nat) (l : List Message) : List Message :=
  l.filter (fun m => m.to == j && m.msgType == .msgAppend)

theorem apOf_append (j : Nat) (a b : List Message) : apOf j (a ++ b) = apOf j a ++ apOf j b := by
  simp [apOf]

theorem apOf_single_to (j : Nat) (m : Message) (h : m.to ≠ j) : apOf j [m] = [] := by
  simp [apOf, h]

theorem apOf_single_ty (j : Nat) (m : Message) (h : m.msgType ≠ .msgAppend) : apOf j [m] = [] := by
  simp [apOf, h]

/-- a progress that `maybe_send_append` does not serve, of one of the two kinds tracked here -/
def Held (pb : Bool) (pr : Progress) : Prop :=
  pr.state = .snapshot ∨ (pb = true ∧ pr.state = .probe ∧ pr.paused = true)

variable {pb : Bool}

theorem Held.paused {pr : Progress} (h : Held pb pr) : pr.isPaused = true := by
  rcases h with h | h
  · exact C13_snapshot_state_is_paused pr h
  · exact (C13_isPaused_char pr).2 (Or.inl h.2)

/-- the progress of `j` is the same up to the fields that do not matter here -/
def SameHeld (pb : Bool) (pr pr' : Progress) : Prop :=
  pr'.state = pr.state ∧ pr'.pendingSnapshot = pr.pendingSnapshot ∧
  (pb = true → pr.state = .probe → pr'.paused = pr.paused)

theorem SameHeld.refl (pr : Progress) : SameHeld pb pr pr := ⟨rfl, rfl, fun _ _ => rfl⟩
theorem SameHeld.trans {a b c : Progress} (h1 : SameHeld pb a b) (h2 : SameHeld pb b c) : SameHeld pb a c :=
  ⟨h2.1.trans h1.1, h2.2.1.trans h1.2.1, fun hp h => (h2.2.2 hp (h1.1.trans h)).trans (h1.2.2 hp h)⟩
theorem SameHeld.held {a b : Progress} (h : SameHeld pb a b) (ha : Held pb a) : Held pb b := by
  obtain ⟨h1, _, h3⟩ := h
  rcases ha with ha | ⟨hp, ha, hb⟩
  · exact Or.inl (h1.trans ha)
  · exact Or.inr ⟨hp, h1.trans ha, (h3 hp ha).trans hb⟩

/-- **the relation tracked through a call**: when the progress of `j` is held before, it is held the same
way afterwards and the appends to `j` of the queue are unchanged -/
def SK (pb : Bool) (j : Nat) (r r' : Raft) : Prop :=
  ∀ pr, r.prs.get j = some pr → Held pb pr →
    (∃ pr', r'.prs.get j = some pr' ∧ SameHeld pb pr pr') ∧ apOf j r'.msgs = apOf j r.msgs

theorem SK.refl (j : Nat) (r : Raft) : SK pb j r r := fun pr h _ => ⟨⟨pr, h, SameHeld.refl (pb := pb) pr⟩, rfl⟩

theorem SK.trans {j : Nat} {a b c : Raft} (h1 : SK pb j a b) (h2 : SK pb j b c) : SK pb j a c := by
  intro pr hg hh
  obtain ⟨⟨pr1, hg1, hs1⟩, hm1⟩ := h1 pr hg hh
  obtain ⟨⟨pr2, hg2, hs2⟩, hm2⟩ := h2 pr1 hg1 (hs1.held hh)
  exact ⟨⟨pr2, hg2, hs1.trans hs2⟩, hm2.trans hm1⟩

theorem SK.of_eq {j : Nat} {r r' : Raft} (hp : r'.prs = r.prs) (hm : r'.msgs = r.msgs) : SK pb j r r' := by
  intro pr hg _
  exact ⟨⟨pr, by rw [hp]; exact hg, SameHeld.refl (pb := pb) pr⟩, by rw [hm]⟩

/-- the post-condition of a helper that works on the progress `pr` of peer `to` taken out of the tracker -/
def SendOk (pb : Bool) (j : Nat) (r : Raft) (to : Nat) (pr : Progress) (x : Raft × Progress) : Prop :=
  x.1.prs = r.prs ∧ (to ≠ j → apOf j x.1.msgs = apOf j r.msgs) ∧
  (Held pb pr → apOf j x.1.msgs = apOf j r.msgs ∧ x.2 = pr)

theorem SendOk.refl (j : Nat) (r : Raft) (to : Nat) (pr : Progress) : SendOk pb j r to pr (r, pr) :=
  ⟨rfl, fun _ => rfl, fun _ => ⟨rfl, rfl⟩⟩

theorem SendOk.trans {j : Nat} {r r1 r2 : Raft} {to : Nat} {pr pr1 pr2 : Progress}
    (h1 : SendOk pb j r to pr (r1, pr1)) (h2 : SendOk pb j r1 to pr1 (r2, pr2)) : SendOk pb j r to pr (r2, pr2) := by
  obtain ⟨a1, b1, c1⟩ := h1
  obtain ⟨a2, b2, c2⟩ := h2
  refine ⟨a2.trans a1, fun h => (b2 h).trans (b1 h), fun h => ?_⟩
  obtain ⟨d1, e1⟩ := c1 h
  dsimp only at e1 d1
  subst e1
  obtain ⟨d2, e2⟩ := c2 h
  exact ⟨d2.trans d1, e2⟩

/-- batching onto a queued append for `to ≠ j` leaves the appends to `j` alone -/
theorem apOf_batched (j to : Nat) (pre post : List Message) (msg : Message) (c : Nat) (ents : List Entry)
    (hm : IsAppendTo to msg) (hne : to ≠ j) :
    apOf j (pre ++ batchedMsg c msg ents :: post) = apOf j (pre ++ msg :: post) := by
  have h1 : msg.to ≠ j := by rw [hm.2]; exact hne
  have h2 : (batchedMsg c msg ents).to ≠ j := h1
  simp [apOf, h1, h2]

/-- `maybe_send_append` -/
theorem maybeSendAppend_sk (j : Nat) (r r' : Raft) (to : Nat) (pr pr' : Progress) (ae sent : Bool)
    (h : r.maybeSendAppend to pr ae = .ok (r', pr', sent)) : SendOk pb j r to pr (r', pr') := by
  by_cases hh : Held pb pr
  · rw [C13_no_send_when_paused r to pr ae hh.paused] at h
    cases h
    exact SendOk.refl j r to pr
  · rcases C13_send_classification r r' to pr pr' ae sent h with
      ⟨_, h1, h2, _⟩ | ⟨_, _, _, t, es, _, _, _, _, _, hr⟩ | ⟨_, _, h1, h2, _⟩ | ⟨_, _, hv⟩
    · rw [h1, h2]; exact SendOk.refl j r to pr
    · rcases hr with ⟨_, htb⟩ | ⟨_, h2⟩
      · obtain ⟨e1, e2, _⟩ := C13_batching r r' to pr pr' es true htb
        obtain ⟨pre, msg, post, q1, _, q3, _, q5, _⟩ := e2 rfl
        refine ⟨by rw [e1], fun hne => ?_, fun hc => absurd hc hh⟩
        rw [q5, q1]
        exact apOf_batched j to pre post msg _ es q3 hne
      · subst h2
        refine ⟨rfl, fun hne => ?_, fun hc => absurd hc hh⟩
        show apOf j (r.msgs ++ [appendMsg r to pr t es]) = apOf j r.msgs
        rw [apOf_append, apOf_single_to j _ (by exact hne)]
        simp
    · rw [h1, h2]; exact SendOk.refl j r to pr
    · have hs := viaSnapshot_spec r r' to pr pr' sent hv
      cases sent with
      | true =>
        obtain ⟨_, sn, _, _, h4, _⟩ := hs.1 rfl
        refine ⟨by rw [h4], fun _ => ?_, fun hc => absurd hc hh⟩
        rw [h4]
        show apOf j (r.msgs ++ [snapMsg r to sn]) = apOf j r.msgs
        rw [apOf_append, apOf_single_ty j _ (by simp [snapMsg])]
        simp
      | false =>
        obtain ⟨_, h2, _⟩ := hs.2 rfl
        exact ⟨by rw [h2], fun _ => by rw [h2], fun hc => absurd hc hh⟩

theorem sendAppendPr_sk (j : Nat) (r : Raft) (to : Nat) (pr : Progress) :
    Res.Post (SendOk pb j r to pr) (r.sendAppendPr to pr) :=
  Res.post_intro fun _ h =>
    sendAppendPr_parts2 (Q := fun r' _ pr' => SendOk pb j r to pr (r', pr')) h
      fun hs => maybeSendAppend_sk j r _ to pr _ true _ hs

/-- writing the progress of `to` back after a helper that satisfies `SendOk` -/
theorem sk_writeback (j : Nat) (r : Raft) (to : Nat) (pr : Progress) (hg : r.prs.get to = some pr)
    (x : Raft × Progress) (hx : SendOk pb j r to pr x) :
    SK pb j r { x.1 with prs := x.1.prs.set to x.2 } := by
  obtain ⟨a, b, c⟩ := hx
  intro q hq hh
  by_cases hne : to = j
  · subst hne
    rw [hg] at hq
    cases hq
    obtain ⟨c1, c2⟩ := c hh
    refine ⟨⟨pr, ?_, SameHeld.refl (pb := pb) pr⟩, c1⟩
    show (x.1.prs.set to x.2).get to = some pr
    rw [c2, a]
    exact ProgressTracker.get_set_self _ _ _ _ hg
  · refine ⟨⟨q, ?_, SameHeld.refl (pb := pb) q⟩, b hne⟩
    show (x.1.prs.set to x.2).get j = some q
    rw [ProgressTracker.get_set_ne _ _ _ _ (fun e => hne e.symm), a]
    exact hq

/-- the `Q` of the `_parts2` lemmas: the node `r1` with the progress `pr'` of peer `id` in hand, when
the progress was taken out in a state `rt` that `SK` relates to the start `r0` and the helper that
worked on it satisfies `SendOk` -/
def QS (pb : Bool) (j : Nat) (r0 : Raft) : Raft → Nat → Progress → Prop := fun r1 id pr' =>
  ∃ rt pr, SK pb j r0 rt ∧ rt.prs.get id = some pr ∧ SendOk pb j rt id pr (r1, pr')

theorem QS.set {j : Nat} {r0 r1 : Raft} {id : Nat} {pr' : Progress} (q : QS pb j r0 r1 id pr') :
    SK pb j r0 { r1 with prs := r1.prs.set id pr' } :=
  have ⟨rt, pr, h1, hg, h2⟩ := q
  h1.trans (sk_writeback j rt id pr hg (r1, pr') h2)

theorem sendAppend_sk (j : Nat) (r : Raft) (to : Nat) : Res.Post (SK pb j r) (r.sendAppend to) :=
  Res.post_intro fun _ h => sendAppend_parts2 (P := SK pb j r) (Q := QS pb j r) h
    (fun hg ha => ⟨r, _, SK.refl j r, hg, (sendAppendPr_sk j r to _).of_eq ha⟩) QS.set

theorem sendAppendAggressively_sk (j : Nat) (r : Raft) (to : Nat) :
    Res.Post (SK pb j r) (r.sendAppendAggressively to) :=
  Res.post_intro fun _ h => sendAppendAggressively_parts2 (P := SK pb j r) (Q := QS pb j r) h
    (fun {_ pr _ _} hg ha => ⟨r, pr, SK.refl j r, hg,
      sendAppendAggressivelyPr_parts2 (Q := fun r' _ pr' => SendOk pb j r to pr (r', pr'))
        (fun hs q => q.trans (maybeSendAppend_sk j _ _ to _ _ false _ hs)) _ _ _ ha
        (SendOk.refl j r to pr)⟩) QS.set

theorem bcastAppend_sk (j : Nat) (r : Raft) : Res.Post (SK pb j r) r.bcastAppend :=
  Res.post_intro fun _ h => bcastAppend_parts2 (P := SK pb j r) (Q := QS pb j r) h (SK.refl j r)
    (fun _ hg hx p => ⟨_, _, p, hg, (sendAppendPr_sk j _ _ _).of_eq hx⟩) QS.set

/-- sending a message that is not a `MsgAppend` -/
theorem send_keeps (j : Nat) {r r' : Raft} {m : Message} (h : r.send m = .ok r')
    (hm : m.msgType ≠ .msgAppend) :
    r'.prs = r.prs ∧ r'.state = r.state ∧ apOf j r'.msgs = apOf j r.msgs := by
  rw [send_eq r r' _ h]
  refine ⟨rfl, rfl, ?_⟩
  show apOf j (r.msgs ++ [_]) = apOf j r.msgs
  rw [apOf_append, apOf_single_ty j _ (by rw [sendFill_msgType]; exact hm)]
  simp

theorem bcastHeartbeatWithCtx_sk (j : Nat) (r : Raft) (ctx : Option Bytes) :
    Res.Post (SK pb j r) (r.bcastHeartbeatWithCtx ctx) :=
  Res.post_intro fun _ h => bcastHeartbeatWithCtx_parts2 (P := SK pb j r) (Q := QS pb j r) h
    (SK.refl j r)
    (fun {r1 id pr _} _ hg hx p => by
      unfold sendHeartbeat at hx
      have k := send_keeps j hx (by simp)
      exact ⟨r1, pr, p, hg, k.1, fun _ => k.2.2, fun _ => ⟨k.2.2, rfl⟩⟩) QS.set

theorem bcastHeartbeat_sk (j : Nat) (r : Raft) : Res.Post (SK pb j r) r.bcastHeartbeat := by
  unfold bcastHeartbeat
  exact bcastHeartbeatWithCtx_sk j r _

theorem ping_sk (j : Nat) (r : Raft) : Res.Post (SK pb j r) r.ping :=
  Res.post_intro fun _ h => ping_parts (P := SK pb j r) h (SK.refl j r)
    fun hb _ => (bcastHeartbeat_sk j r).of_eq hb

end F3
end Raft
end RaftModel
