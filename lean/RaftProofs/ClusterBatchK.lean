import RaftProofs.ClusterLogK
import RaftProps.C02c

/-!
Cluster-level Log Matching **with `batch_append`**, part K: the cluster side.

* `prov_node_b`: the provenance of all chains after a call whose effect is an `EffB` (a glued
  `MsgAppend` takes its links from the queued message and from the log);
* `InvB`: the two queue invariants that make batching harmless —
  `lc`: **a leader's queue is clean** (every queued `MsgAppend` is gap-free and tail-compatible with the
  leader's log, or anchored in the void), and
  `dq`: **a candidate whose vote request for its term is in the transport has no `MsgAppend` queued**
  (the `send` step that released the request drained the queue, and a candidate queues none);
* `Prov0` from them: a node that wins an election by somebody else's vote (a cluster with two voters:
  `MultiVoter`) has sent its request (`Inv1` / `Inv2` of Election Safety), so it wins with a queue that
  holds no `MsgAppend` of an earlier leadership;
* `invLB_all`: `InvL ∧ InvB` along a history, with no hypothesis on `batch_append`, under
  `MultiVoter` and `SaneAnchors` (no queued `MsgAppend` is anchored at a position `≠ 0` with term 0).

As in `ClusterLogI.lean`, the statements that speak of chains are made once for a predicate `live` on queues
(namespace `Live`; `Live.SaneAnchors live` asks for anchors inside the log at the live queues only).
-/
namespace RaftModel
namespace Cluster
open Node Raft Raft.Bt Raft.CV

/-- **no append anchored in the void**: no queued `MsgAppend` carries `log_term = 0` at an anchor
`index ≠ 0`.  (`RaftLog::term` answers 0 for every index outside the log, so this is what
`prepare_send_entries` builds exactly when `next_idx - 1` lies beyond the sender's last index.) -/
def SaneAnchors (s : Sys) : Prop :=
  ∀ i st, s.node i = some st → ∀ x ∈ st.raft.msgs, x.msgType = .msgAppend →
    x.logTerm = 0 → x.index = 0

/-- the configuration has two different voters (so nobody's own vote is a quorum) -/
def MultiVoter (cfg : JointConfig) : Prop :=
  ∃ a b, a ≠ b ∧ Joint.contains cfg a = true ∧ Joint.contains cfg b = true

/-- the queue invariants -/
structure InvB (s : Sys) : Prop where
  lc : ∀ k st, s.node k = some st → st.raft.state = .leader →
    CleanQ st.raft.msgs st.raft.raftLog.abs
  dq : ∀ k st, s.node k = some st → st.raft.state = .candidate → Req s.net k st.raft.term →
    ∀ x ∈ st.raft.msgs, x.msgType ≠ .msgAppend

namespace Live
variable {live : List Message → Prop}

/-- **no append anchored in the void in a live queue**: no `MsgAppend` of a live queue carries
`log_term = 0` at an anchor `index ≠ 0` (`Cluster.SaneAnchors` restricted to the live queues) -/
def SaneAnchors (live : List Message → Prop) (s : Sys) : Prop :=
  ∀ i st, s.node i = some st → live st.raft.msgs →
    ∀ x ∈ st.raft.msgs, x.msgType = .msgAppend → x.logTerm = 0 → x.index = 0

theorem SaneAnchors.notWeird {s : Sys} (h : SaneAnchors live s) {i : Nat} {st : NState} {x : Message}
    (hi : s.node i = some st) (hx : x ∈ st.raft.msgs) (hty : x.msgType = .msgAppend)
    (hnq : live st.raft.msgs) : ¬ Weird (msgLog x) := by
  intro hw
  obtain ⟨h1, h2⟩ := hw
  have h3 : x.logTerm = 0 := Option.some.inj h1
  exact h2 (h i st hi hnq x hx hty h3)

/-- **provenance for a call / a delivery at node `k`**, batching on or off -/
theorem prov_node_b {s : Sys} {k : Nat} {st st' : NState} {m : Message}
    (hk : s.node k = some st) (heff : EffB st.raft st'.raft m)
    (hm : m.msgType = .msgAppend → m ∈ s.net)
    (hsane : ∀ x ∈ st'.raft.msgs, x.msgType = .msgAppend → live st'.raft.msgs →
      ¬ Weird (msgLog x)) (hmono : Mono live st st') :
    Prov live s (s.setNode k st') k st st' (st'.raft.raftLog.store.hardState.term = st'.raft.term) :=
  prov_node_g hk heff.log heff.sto (fun x hx hty hnq' => by
    rcases heff.q x hx hty with c | ⟨_, c | c⟩
    · exact DerivedFrom.of_mem (.inr (.inr c))
    · exact c.der.mono fun y hy => hy.elim (fun d => .inr (.inl d)) fun d => .inr (.inr d.1)
    · exact absurd c (hsane x hx hty hnq')) hm hmono

/-- the transition of a call / a delivery whose effect is known -/
theorem trans_call_b {own : Nat → Nat → Prop} {ini : Entry → Prop} {s : Sys} (I : InvL live own ini s)
    {k : Nat} {st st' : NState} {rnd : Option Nat} {op : NodeOp} {res : OpRes}
    (hk : s.node k = some st)
    (hop : appOp op = true ∨ ∃ m, op = .step m ∧ m ∈ s.net)
    (h : Node.call st rnd op = .ok (res, st'))
    (hL : LStepB st.raft st'.raft (CV.opMsg op))
    (hsane : ∀ x ∈ st'.raft.msgs, x.msgType = .msgAppend → live st'.raft.msgs →
      ¬ Weird (msgLog x)) (hmono : Mono live st st') :
    Trans live s (s.setNode k st') k st st'
      (st'.raft.raftLog.store.hardState.term = st'.raft.term) False := by
  refine trans_call_g hk h (prov_node_b hk hL.eff (opMsg_net hop) hsane hmono) hL.rt hL.eff.inv
    (fun h1 h2 h3 => (hL.eff.keep h1 h2 h3).1) ?_
  intro x hx hty hnq'
  have hnq : live st.raft.msgs := hmono hnq' (List.ne_nil_of_mem hx)
  rcases hL.eff.q x hx hty with ⟨x0, hx0, hty0, e0⟩ | ⟨_, c | c⟩
  · have := I.wfq k st x0 hk hx0 hty0 hnq
    have h2 : (msgLog x0).Contig := this
    rw [e0] at h2
    exact h2
  · exact c.contig
  · exact absurd c (hsane x hx hty hnq')

end Live

/-! ### who wins an election has sent its request -/

/-- a vote request of `k` for term `t` in the transport: `k`'s term is at least `t` -/
private theorem req_term_le {s : Sys} (I1 : Inv1 s) {k t : Nat} {st : NState} (hk : s.node k = some st)
    (hr : Req s.net k t) : t ≤ st.raft.term := by
  obtain ⟨q, hq, hqt, hqf, hqterm⟩ := hr
  have hrv : isRVm q = true := by unfold isRVm; simp [hqt]
  obtain ⟨stk, hnk, hok, _⟩ := I1.net q hq hrv
  rw [hqf, hk] at hnk
  cases hnk
  have := hok.2.2.2.1
  unfold Ge at this
  rw [hqterm] at this
  rcases this with c | ⟨c, _⟩ <;> omega

/-- in a cluster with two voters, a leader's vote request for its term is in the transport -/
theorem leader_req {cfg : JointConfig} (hnd1 : cfg.incoming.Nodup) (hnd2 : cfg.outgoing.Nodup)
    (hmv : MultiVoter cfg) {s : Sys} (I1 : Inv1 s) (I2 : Inv2 cfg s) {k : Nat} {st : NState}
    (hk : s.node k = some st) (hl : st.raft.state = .leader) : Req s.net k st.raft.term := by
  obtain ⟨Q, hq, hQ⟩ := I2.lead k st hk hl
  by_cases hlone : ∀ j ∈ Q, j = k
  · obtain ⟨a, b, hab, ha, hb⟩ := hmv
    have e1 := RaftProps.C02.lone_joint_quorum_only_voter cfg Q k a hnd1 hnd2 hq hlone ha
    have e2 := RaftProps.C02.lone_joint_quorum_only_voter cfg Q k b hnd1 hnd2 hq hlone hb
    exact absurd (e1.trans e2.symm) hab
  · have hex : ∃ j, j ∈ Q ∧ j ≠ k := by
      apply Classical.byContradiction
      intro hc
      apply hlone
      intro j hj
      apply Classical.byContradiction
      intro hne
      exact hc ⟨j, hj, hne⟩
    obtain ⟨j, hj, hjk⟩ := hex
    obtain ⟨g, hg, hgt, hgr, _, hgto, hgterm⟩ := (hQ j hj).resolve_left hjk
    have hrv : isRVm g = true := by unfold isRVm; simp [hgt, hgr]
    obtain ⟨_, _, hok, _⟩ := I1.net g hg hrv
    have := hok.2.2.2.2 hgt
    rw [hgto, hgterm] at this
    exact this

/-- **the proviso of the per-call layer holds in the cluster**: a node that is leader before the call
has a clean queue (`lc`); a node that is leader only after the call was candidate of the same term
with its request in the transport, so its queue holds no `MsgAppend` (`dq`) -/
theorem prov0_of_inv {cfg : JointConfig} (hnd1 : cfg.incoming.Nodup) (hnd2 : cfg.outgoing.Nodup)
    (hmv : MultiVoter cfg) {s s' : Sys} (B : InvB s) (I1 : Inv1 s) (I1' : Inv1 s')
    (I2' : Inv2 cfg s')
    {k : Nat} {st st' : NState} (hk : s.node k = some st) (hk' : s'.node k = some st')
    (hnet : s'.net = s.net) (rt : RT st.raft st'.raft) :
    (st'.raft.state = .leader →
      st.raft.term = st'.raft.term ∧
        ((st.raft.state = .candidate ∧ ∀ x ∈ st.raft.msgs, x.msgType ≠ .msgAppend) ∨
          st.raft.state = .leader)) ∧
    Prov0 st.raft st'.raft := by
  have key : st'.raft.state = .leader →
      st.raft.term = st'.raft.term ∧
        ((st.raft.state = .candidate ∧ ∀ x ∈ st.raft.msgs, x.msgType ≠ .msgAppend) ∨
          st.raft.state = .leader) := by
    intro hl'
    have hreq : Req s.net k st'.raft.term := by
      have := leader_req hnd1 hnd2 hmv I1' I2' hk' hl'
      rw [hnet] at this
      exact this
    have h1 := req_term_le I1 hk hreq
    have h2 := rt.le
    have hterm : st.raft.term = st'.raft.term := by omega
    refine ⟨hterm, ?_⟩
    rcases rt.lead hl' with c | ⟨_, c | c⟩
    · omega
    · exact .inl ⟨c, B.dq k st hk c (by rw [hterm]; exact hreq)⟩
    · exact .inr c
  refine ⟨key, ?_⟩
  intro hor
  by_cases hl : st.raft.state = .leader
  · exact B.lc k st hk hl
  · have hl' : st'.raft.state = .leader := hor.resolve_left hl
    rcases (key hl').2 with ⟨_, hno⟩ | c
    · exact fun x hx hty => absurd hty (hno x hx)
    · exact absurd c hl

/-! ### the queue invariants along a step -/

/-- a call / a delivery at node `k` keeps the queue invariants -/
theorem InvB.call {cfg : JointConfig} (hnd1 : cfg.incoming.Nodup) (hnd2 : cfg.outgoing.Nodup)
    (hmv : MultiVoter cfg) {s : Sys} (B : InvB s) (I1 : Inv1 s)
    {k : Nat} {st st' : NState} {m : Message} (hk : s.node k = some st)
    (hinvk : st.raft.raftLog.Inv)
    (I1' : Inv1 (s.setNode k st')) (I2' : Inv2 cfg (s.setNode k st'))
    (hL : LStepB st.raft st'.raft m) : InvB (s.setNode k st') := by
  have hself : (s.setNode k st').node k = some st' := node_setNode_self s k st'
  have hnet : (s.setNode k st').net = s.net := rfl
  obtain ⟨hlead, hcl⟩ := prov0_of_inv hnd1 hnd2 hmv B I1 I1' I2' hk hself hnet hL.rt
  have node' : ∀ j stj', (s.setNode k st').node j = some stj' →
      (j = k ∧ st' = stj') ∨ (j ≠ k ∧ s.node j = some stj') := by
    intro j stj' hj
    by_cases hjk : j = k
    · subst hjk
      rw [hself] at hj
      cases hj
      exact .inl ⟨rfl, rfl⟩
    · exact .inr ⟨hjk, by rw [← node_setNode_ne s k j st' hjk]; exact hj⟩
  refine ⟨?_, ?_⟩
  · intro j stj' hj hl'
    rcases node' j stj' hj with ⟨rfl, rfl⟩ | ⟨_, h⟩
    · -- the queue of `k` after the call
      obtain ⟨hterm, hcase⟩ := hlead hl'
      have hc : CleanQ st.raft.msgs st.raft.raftLog.abs := hcl (.inr hl')
      intro x hx hty
      rcases hL.eff.q x hx hty with ⟨x0, hx0, hty0, e0⟩ | ⟨_, c | c⟩
      · rcases hcase with ⟨_, hno⟩ | hlk
        · exact absurd hty0 (hno x0 hx0)
        · have hkeep := hL.eff.keep hlk hl' hterm.symm
          have hpk := hL.eff.pk hlk hl' hterm.symm
          have h1 := (hc x0 hx0 hty0).log
            (by rw [← (hL.eff.inv).lastIndex_abs, ← hinvk.lastIndex_abs]; exact hkeep.1) hpk
          rw [e0] at h1
          exact h1
      · exact .inr ⟨c.contig, c.tc⟩
      · exact .inl c
    · exact B.lc j stj' h hl'
  · intro j stj' hj hcand hreq
    rw [hnet] at hreq
    rcases node' j stj' hj with ⟨rfl, rfl⟩ | ⟨_, h⟩
    · rcases hL.rt.cand hcand with c | ⟨c1, c2⟩
      · have := req_term_le I1 hk hreq
        omega
      · have hno := B.dq j st hk c2 (by rw [c1]; exact hreq)
        intro x hx hty
        rcases hL.eff.q x hx hty with ⟨x0, hx0, hty0, _⟩ | ⟨hl', _⟩
        · exact hno x0 hx0 hty0
        · rw [hcand] at hl'; cases hl'
    · exact B.dq j stj' h hcand hreq

/-- `send` at node `k` keeps the queue invariants: the queue of `k` is empty afterwards, and a vote
request in the queue of `k` is a request of `k` -/
theorem InvB.send {s : Sys} (B : InvB s) (I1 : Inv1 s) {k : Nat} {st st' : NState}
    (hk : s.node k = some st) (h : Node.call st none .drain = .ok (.ok, st')) :
    InvB { (s.setNode k st') with net := s.net ++ st.raft.msgs } := by
  have hl2 : st'.raft.msgs = [] := by
    unfold Node.call at h
    simp only [applyOp] at h
    cases h
    rfl
  have hself : ({ (s.setNode k st') with net := s.net ++ st.raft.msgs } : Sys).node k = some st' :=
    node_setNode_self s k st'
  have node' : ∀ j stj', ({ (s.setNode k st') with net := s.net ++ st.raft.msgs } : Sys).node j =
      some stj' → (j = k ∧ st' = stj') ∨ (j ≠ k ∧ s.node j = some stj') := by
    intro j stj' hj
    by_cases hjk : j = k
    · subst hjk
      rw [hself] at hj
      cases hj
      exact .inl ⟨rfl, rfl⟩
    · refine .inr ⟨hjk, ?_⟩
      have : ({ (s.setNode k st') with net := s.net ++ st.raft.msgs } : Sys).node j = s.node j :=
        node_setNode_ne s k j st' hjk
      rw [← this]; exact hj
  refine ⟨?_, ?_⟩
  · intro j stj' hj hl'
    rcases node' j stj' hj with ⟨_, rfl⟩ | ⟨_, h'⟩
    · intro x hx
      rw [hl2] at hx
      cases hx
    · exact B.lc j stj' h' hl'
  · intro j stj' hj hcand hreq
    rcases node' j stj' hj with ⟨_, rfl⟩ | ⟨hjk, h'⟩
    · intro x hx
      rw [hl2] at hx
      cases hx
    · obtain ⟨q, hq, hqt, hqf, hqterm⟩ := hreq
      have hq' : q ∈ s.net ++ st.raft.msgs := hq
      rcases List.mem_append.1 hq' with c | c
      · exact B.dq j stj' h' hcand ⟨q, c, hqt, hqf, hqterm⟩
      · have hrv : isRVm q = true := by unfold isRVm; simp [hqt]
        have := (I1.queue k st hk q c hrv).1
        exact absurd (hqf.symm.trans this) hjk

/-- a restart of node `k` keeps the queue invariants: it comes back as a follower -/
theorem InvB.restart {s : Sys} (B : InvB s) {k : Nat} {st st' : NState} {c : Config}
    {rnd : Option Nat} (h : Node.boot c st.raft.raftLog.store rnd = .ok (.ok st')) :
    InvB (s.setNode k st') := by
  have hb := CV.boot_booted c _ rnd st' h
  have hself : (s.setNode k st').node k = some st' := node_setNode_self s k st'
  have hnet : (s.setNode k st').net = s.net := rfl
  have node' : ∀ j stj', (s.setNode k st').node j = some stj' →
      (j = k ∧ st' = stj') ∨ (j ≠ k ∧ s.node j = some stj') := by
    intro j stj' hj
    by_cases hjk : j = k
    · subst hjk
      rw [hself] at hj
      cases hj
      exact .inl ⟨rfl, rfl⟩
    · exact .inr ⟨hjk, by rw [← node_setNode_ne s k j st' hjk]; exact hj⟩
  refine ⟨?_, ?_⟩
  · intro j stj' hj hl'
    rcases node' j stj' hj with ⟨_, rfl⟩ | ⟨_, h'⟩
    · rw [hb.state] at hl'; cases hl'
    · exact B.lc j stj' h' hl'
  · intro j stj' hj hcand hreq
    rw [hnet] at hreq
    rcases node' j stj' hj with ⟨_, rfl⟩ | ⟨_, h'⟩
    · rw [hb.state] at hcand; cases hcand
    · exact B.dq j stj' h' hcand hreq

theorem InvB.init {s : Sys} (h : InitOk s) : InvB s := by
  obtain ⟨_, sto, hboot, _⟩ := h
  have hf : ∀ i st, s.node i = some st → st.raft.state = .follower := by
    intro i st h1
    obtain ⟨c, rnd, hb⟩ := hboot i st h1
    exact (CV.boot_booted c _ rnd st hb).state
  refine ⟨?_, ?_⟩
  · intro k st hk hl
    rw [hf k st hk] at hl; cases hl
  · intro k st hk hc
    rw [hf k st hk] at hc; cases hc

namespace Live
variable {live : List Message → Prop}

/-- **one contract-abiding step preserves `InvL` and `InvB`**, whatever `batch_append` is -/
theorem invLB_cstep {cfg : JointConfig} (hnd1 : cfg.incoming.Nodup) (hnd2 : cfg.outgoing.Nodup)
    (hmv : MultiVoter cfg) {own : Nat → Nat → Prop} {ini : Entry → Prop} {s s' : Sys}
    (huniq : ∀ i j t, own i t → own j t → i = j)
    (hown' : ∀ i t, leads s' i t → own i t)
    (I : InvL live own ini s) (B : InvB s) (I1 : Inv1 s) (I1' : Inv1 s') (I2' : Inv2 cfg s')
    (hsane' : SaneAnchors live s') (hstep : CStep s s')
    (hsent : ∀ q : List Message, (∀ x ∈ q, x ∈ s'.net) → live q)
    (hmono : ∀ i st st', s.node i = some st → s'.node i = some st' → Mono live st st') :
    InvL live own ini s' ∧ InvB s' := by
  -- a call or a delivery
  have callCase : ∀ (k : Nat) (st st' : NState) (rnd : Option Nat) (op : NodeOp) (res : OpRes),
      s.node k = some st → (appOp op = true ∨ ∃ m, op = .step m ∧ m ∈ s.net) →
      (∀ j, op = .compact j → CompactOk st.raft.raftLog j) →
      Node.call st rnd op = .ok (res, st') → s' = s.setNode k st' →
      InvL live own ini s' ∧ InvB s' := by
    intro k st st' rnd op res hk hop hc h hs'
    subst hs'
    have hop' : op ≠ .drain ∧ ∀ m, op ≠ .rstep m := by
      rcases hop with h1 | ⟨m, h1, _⟩
      · constructor
        · intro hc; rw [hc] at h1; cases h1
        · intro m hc; rw [hc] at h1; cases h1
      · rw [h1]
        exact ⟨(by intro hc; cases hc), (by intro m' hc; cases hc)⟩
    have hw : ∀ m, op = .step m → m.msgType = .msgAppend → MsgOk m := by
      intro m hm hty
      rcases hop with h1 | ⟨m', h1, h2⟩
      · rw [hm] at h1; cases h1
      · rw [hm] at h1; cases h1
        exact I.msgOk h2 hty
    have hinvk := I.inv k st hk
    have rt := call_rt st st' rnd op res hinvk hop' h
    have hself : (s.setNode k st').node k = some st' := node_setNode_self s k st'
    obtain ⟨_, hcl⟩ := prov0_of_inv hnd1 hnd2 hmv B I1 I1' I2' hk hself rfl rt
    have hL := call_lstep_b st st' rnd op res hinvk hcl hop' hw hc h
    have hsane : ∀ x ∈ st'.raft.msgs, x.msgType = .msgAppend → live st'.raft.msgs →
        ¬ Weird (msgLog x) :=
      fun x hx hty hnq => hsane'.notWeird hself hx hty hnq
    exact ⟨I.trans huniq hown' (trans_call_b I hk hop h hL hsane (hmono k st st' hk hself)),
      B.call hnd1 hnd2 hmv I1 hk hinvk I1' I2' hL⟩
  cases hstep with
  | call i st st' rnd op res h1 h2 h3 h4 =>
    exact callCase i st st' rnd op res h1 (.inl h2) h3 h4 rfl
  | deliver i st st' rnd m res h1 h2 _ h4 =>
    exact callCase i st st' rnd (.step m) res h1 (.inr ⟨m, rfl, h2⟩) (fun j hc => by cases hc) h4 rfl
  | send i st st' h1 h2 h3 =>
    exact ⟨I.trans huniq hown' (trans_send I h1 h2 h3
      (hsent st.raft.msgs (fun x hx => List.mem_append_right _ hx))), B.send I1 h1 h3⟩
  | restart i st st' c rnd h1 _ h3 =>
    exact ⟨I.trans huniq hown' (trans_restart I h1 h3), B.restart h3⟩

/-- **`InvL` and `InvB` hold in every state** of a list of states that starts in an `InitOk` state,
proceeds by contract-abiding steps, has at most one leading node per term, satisfies the invariants
of Election Safety, has two voters and never queues an append anchored in the void -/
theorem invLB_all {cfg : JointConfig} (hnd1 : cfg.incoming.Nodup) (hnd2 : cfg.outgoing.Nodup)
    (hmv : MultiVoter cfg) (h : List Sys)
    (huniq : ∀ i j t, Owner h i t → Owner h j t → i = j)
    (hinit : ∀ s : Sys, h[0]? = some s → InitOk s)
    (hsteps : ∀ (n : Nat) (a b : Sys), h[n]? = some a → h[n + 1]? = some b → CStep a b)
    (hI1 : ∀ s ∈ h, Inv1 s) (hI2 : ∀ s ∈ h, Inv2 cfg s) (hsane : ∀ s ∈ h, SaneAnchors live s)
    (s0 : Sys) (h0 : h[0]? = some s0)
    (hsent : ∀ s ∈ h, ∀ q : List Message, (∀ x ∈ q, x ∈ s.net) → live q)
    (hmono : ∀ (n : Nat) (a b : Sys), h[n]? = some a → h[n + 1]? = some b →
      ∀ i st st', a.node i = some st → b.node i = some st' → Mono live st st') :
    ∀ (n : Nat) (s : Sys), h[n]? = some s → InvL live (Owner h) (EntriesOf live s0) s ∧ InvB s := by
  intro n
  induction n with
  | zero =>
    intro s hs
    rw [h0] at hs
    cases hs
    exact ⟨InvL.init (hinit s0 h0), InvB.init (hinit s0 h0)⟩
  | succ n ih =>
    intro s hs
    have hlt : n + 1 < h.length := by
      rcases Nat.lt_or_ge (n + 1) h.length with c | c
      · exact c
      · rw [List.getElem?_eq_none c] at hs; cases hs
    have hn : n < h.length := by omega
    have ha : h[n]? = some h[n] := List.getElem?_eq_getElem hn
    have hmem : s ∈ h := List.mem_iff_getElem?.2 ⟨n + 1, hs⟩
    have hmema : h[n] ∈ h := List.mem_iff_getElem?.2 ⟨n, ha⟩
    obtain ⟨I, B⟩ := ih _ ha
    exact invLB_cstep hnd1 hnd2 hmv huniq (fun i t hl => ⟨s, hmem, hl⟩) I B (hI1 _ hmema)
      (hI1 s hmem) (hI2 s hmem) (hsane s hmem) (hsteps n _ s ha hs) (hsent s hmem) (hmono n _ s ha hs)

end Live

/-! ### every queue live -/

theorem saneAnchors_live {s : Sys} : SaneAnchors s ↔ Live.SaneAnchors allQ s :=
  ⟨fun h i st hi _ => h i st hi, fun h i st hi => h i st hi trivial⟩

theorem SaneAnchors.notWeird {s : Sys} (h : SaneAnchors s) {i : Nat} {st : NState} {x : Message}
    (hi : s.node i = some st) (hx : x ∈ st.raft.msgs) (hty : x.msgType = .msgAppend) :
    ¬ Weird (msgLog x) :=
  (saneAnchors_live.1 h).notWeird hi hx hty trivial

/-- the transition of a call / a delivery whose effect is known -/
theorem trans_call_b {own : Nat → Nat → Prop} {ini : Entry → Prop} {s : Sys} (I : InvL own ini s)
    {k : Nat} {st st' : NState} {rnd : Option Nat} {op : NodeOp} {res : OpRes}
    (hk : s.node k = some st)
    (hop : appOp op = true ∨ ∃ m, op = .step m ∧ m ∈ s.net)
    (h : Node.call st rnd op = .ok (res, st'))
    (hL : LStepB st.raft st'.raft (CV.opMsg op))
    (hsane : ∀ x ∈ st'.raft.msgs, x.msgType = .msgAppend → ¬ Weird (msgLog x)) :
    Trans s (s.setNode k st') k st st'
      (st'.raft.raftLog.store.hardState.term = st'.raft.term) False :=
  trans_live.2 (Live.trans_call_b (invL_live.1 I) hk hop h hL (fun x hx hty _ => hsane x hx hty)
    (mono_allQ st st'))

/-- **`InvL` and `InvB` hold in every state** of a list of states that starts in an `InitOk` state,
proceeds by contract-abiding steps, has at most one leading node per term, satisfies the invariants
of Election Safety, has two voters and never queues an append anchored in the void -/
theorem invLB_all {cfg : JointConfig} (hnd1 : cfg.incoming.Nodup) (hnd2 : cfg.outgoing.Nodup)
    (hmv : MultiVoter cfg) (h : List Sys)
    (huniq : ∀ i j t, Owner h i t → Owner h j t → i = j)
    (hinit : ∀ s : Sys, h[0]? = some s → InitOk s)
    (hsteps : ∀ (n : Nat) (a b : Sys), h[n]? = some a → h[n + 1]? = some b → CStep a b)
    (hI1 : ∀ s ∈ h, Inv1 s) (hI2 : ∀ s ∈ h, Inv2 cfg s) (hsane : ∀ s ∈ h, SaneAnchors s)
    (s0 : Sys) (h0 : h[0]? = some s0) :
    ∀ (n : Nat) (s : Sys), h[n]? = some s → InvL (Owner h) (EntriesOf s0) s ∧ InvB s := by
  intro n s hs
  rw [← entriesOf_live]
  obtain ⟨I, B⟩ := Live.invLB_all (live := allQ) hnd1 hnd2 hmv h huniq hinit hsteps hI1 hI2
    (fun s hs => saneAnchors_live.1 (hsane s hs)) s0 h0 (fun _ _ _ _ => trivial)
    (fun _ _ _ _ _ _ st st' _ _ => mono_allQ st st') n s hs
  exact ⟨invL_live.2 I, B⟩

end Cluster
end RaftModel
