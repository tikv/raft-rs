import RaftProofs.ProtoEvents
import RaftProofs.ProtoV
import RaftProofs.ProtoQuorum

/-!
Every event of P acts on the vote-layer projection as one of the ten V-transitions or as the
identity; hence `InvV` holds in every reachable state of P.  `ReachC c0` singles out the histories
whose elections, leader commits and read answers are all decided under one joint configuration `c0`.
-/
namespace RaftModel.P

/-- the events of a fixed-configuration history: elections and leader commits use `c0` -/
def Event.cfgOk (c0 : Cfg) : Event → Prop
  | .win _ cfg _ => cfg = c0
  | .commitLeader _ _ cfg _ => cfg = c0
  | .read (.resp _ _ _ cfg) => cfg = c0
  | .read (.rstate _ _ _ cfg) => cfg = c0
  | _ => True

/-- reachable states of P under a fixed configuration -/
inductive ReachC (c0 : Cfg) : PSys → Prop where
  | init : ReachC c0 init
  | step {s s' : PSys} (e : Event) : ReachC c0 s → e.cfgOk c0 → applyEvent s e = .ok s' → ReachC c0 s'

theorem reach_of_reachC {c0 : Cfg} {s : PSys} (h : ReachC c0 s) : Reach s := by
  induction h with
  | init => exact .init
  | step e _ _ hs ih => exact .step e ih hs

/-- node `i` replaced by `n`: on the projection, node `i` is replaced by `vproj n` -/
theorem vsys_upd (s s' : PSys) (i : Nat) (n : PNode) (hn : s'.nodes = upd s.nodes i n) :
    vsys s' = { setN (vsys s) i (vproj n) with grants := s'.grants, elected := s'.elected, ecfgs := s'.ecfgs } := by
  simp only [vsys, setN, hn, vproj_upd]

theorem vsys_mk' (s : PSys) : (vsys s) = { nodes := fun j => vproj (s.nodes j), grants := s.grants, elected := s.elected, ecfgs := s.ecfgs } := rfl

theorem setN_self (v : VSys) (i : Nat) : setN v i (v.nodes i) = v := by
  cases v with
  | mk nodes grants elected ecfgs =>
    simp only [setN]
    congr
    funext j; by_cases h : j = i <;> simp [updV, h]

/-- a node update that leaves the vote-layer projection of the node unchanged -/
theorem vsys_same (s s' : PSys) (i : Nat) (n : PNode) (hn : s'.nodes = upd s.nodes i n)
    (hp : vproj n = vproj (s.nodes i)) (hg : s'.grants = s.grants) (he : s'.elected = s.elected)
    (hc : s'.ecfgs = s.ecfgs) :
    vsys s' = vsys s := by
  rw [vsys_upd s s' i n hn, hp, hg, he, hc]
  exact setN_self (vsys s) i

theorem invV_of_eq {v v' : VSys} (h : InvV v) (e : v' = v) : InvV v' := e ▸ h

/-- an event that changes node `i` only, as far as the vote layer sees: it is enough to show the
invariant for the projection with node `i` replaced by the projection `n'` of the new node -/
theorem invV_node {s s' : PSys} {i : Nat} {n : PNode} {n' : VNode} (hn : s'.nodes = upd s.nodes i n)
    (hg : s'.grants = s.grants) (he : s'.elected = s.elected) (hc : s'.ecfgs = s.ecfgs)
    (e : vproj n = n') (h : InvV (setN (vsys s) i n')) : InvV (vsys s') := by
  rw [vsys_upd s s' i n hn, e, hg, he, hc]
  exact h

theorem filterMap_eraseIdx_none {α β} (f : α → Option β) :
    ∀ (l : List α) (k : Nat) (m : α), l[k]? = some m → f m = none →
      (l.eraseIdx k).filterMap f = l.filterMap f := by
  intro l
  induction l with
  | nil => intro k m h; simp at h
  | cons a l ih =>
    intro k m h hf
    cases k with
    | zero =>
      simp only [List.getElem?_cons_zero, Option.some.injEq] at h
      subst h
      simp [List.eraseIdx, hf]
    | succ k =>
      simp only [List.getElem?_cons_succ] at h
      simp only [List.eraseIdx_cons_succ, List.filterMap_cons]
      rw [ih k m h hf]

theorem filterMap_eraseIdx_some {α β} (f : α → Option β) :
    ∀ (l : List α) (k : Nat) (m : α) (g : β), l[k]? = some m → f m = some g →
      ∃ k', (l.filterMap f)[k']? = some g ∧ (l.eraseIdx k).filterMap f = (l.filterMap f).eraseIdx k' := by
  intro l
  induction l with
  | nil => intro k m g h; simp at h
  | cons a l ih =>
    intro k m g h hf
    cases k with
    | zero =>
      simp only [List.getElem?_cons_zero, Option.some.injEq] at h
      subst h
      refine ⟨0, ?_, ?_⟩
      · simp [hf]
      · simp [List.eraseIdx, hf]
    | succ k =>
      simp only [List.getElem?_cons_succ] at h
      obtain ⟨k', h1, h2⟩ := ih k m g h hf
      simp only [List.eraseIdx_cons_succ, List.filterMap_cons]
      cases hfa : f a with
      | none => exact ⟨k', by simpa using h1, by simpa using h2⟩
      | some b => exact ⟨k' + 1, by simpa using h1, by simp [h2]⟩

theorem filterMap_grantOf_acks (l : List OMsg) : (l.filter OMsg.isAck).filterMap grantOf = [] := by
  rw [List.filterMap_eq_nil_iff]
  intro a ha
  have hack := (List.mem_filter.1 ha).2
  cases a with
  | ack t f idx pre => rfl
  | voteReq t c lt li => cases hack
  | grant t v c gh => cases hack

theorem og_append_nongrant (n : PNode) (m : OMsg) (hm : grantOf m = none) :
    (n.outbox ++ [m]).filterMap grantOf = n.outbox.filterMap grantOf := by
  simp [List.filterMap_append, hm]


/-- the projection of a node that appends an acknowledgement to its outbox -/
theorem vproj_ack (n : PNode) (m : OMsg) (hm : grantOf m = none) :
    vproj { n with outbox := n.outbox ++ [m] } = vproj n := by
  simp only [vproj, og_append_nongrant n m hm]

/-- ... and becomes a follower, with another log and commit index -/
theorem vproj_ack_role0 (n : PNode) (l : List LEntry) (c : Nat) (m : OMsg) (hm : grantOf m = none) :
    vproj { n with role := 0, log := l, commit := c, outbox := n.outbox ++ [m] } = nRole0 (vproj n) := by
  simp only [vproj, nRole0, og_append_nongrant n m hm]

theorem invV_step (s s' : PSys) (e : Event)
    (hI : InvV (vsys s)) (h : applyEvent s e = .ok s') : InvV (vsys s') := by
  cases e with
  | bump i t =>
    obtain ⟨hg, rfl⟩ := of_guard_ok h
    exact invV_node rfl rfl rfl rfl rfl (invV_bump hI i t hg.2)
  | campaign i =>
    obtain ⟨hg, rfl⟩ := of_guard_ok h
    refine invV_node rfl rfl rfl rfl ?_ (invV_campaign hI i hg.2.1 hg.2.2.2.1)
    simp [vproj, nCampaign, vsys, List.filterMap_append, List.filterMap_cons, grantOf]
  | grant i c =>
    obtain ⟨r, _, _, hg, rfl⟩ := grant_ok h
    refine invV_node rfl rfl rfl rfl ?_ (invV_grant hI i c hg.2.2.2.1 hg.2.2.1)
    simp [vproj, nGrant, vsys, List.filterMap_append, grantOf]
  | rdy i =>
    obtain ⟨_, rfl⟩ := of_guard_ok h
    refine invV_node rfl rfl rfl rfl ?_ (invV_rdy hI i)
    simp [vproj, nRdy, vsys, image, VNode.vol]
  | persist i k =>
    obtain ⟨hg, im, him, rfl⟩ := persist_ok h
    have hp : ((vsys s).nodes i).pend[k - 1]? = some (im.term, im.vote) := by
      simp [vsys, vproj, List.getElem?_map, him]
    refine invV_node rfl rfl rfl rfl ?_ (invV_persist hI i k (im.term, im.vote) hg.2.1 hp)
    simp [vproj, nPersist, vsys, List.map_drop]
  | release i key =>
    rcases release_ok h with ⟨_, ⟨t, f, idx, pre, _, rfl⟩ | ⟨k, t, c, lt, li, hm, _, rfl⟩ | ⟨k, t, v, c, gh, hm, hr, rfl⟩⟩
    · exact hI
    · refine invV_of_eq hI (vsys_same s _ i _ rfl ?_ rfl rfl rfl)
      simp only [vproj]
      rw [filterMap_eraseIdx_none grantOf _ k _ hm rfl]
    · obtain ⟨k', h1, h2⟩ := filterMap_eraseIdx_some grantOf _ k _ ⟨t, v, c⟩ hm rfl
      have e : vproj { s.nodes i with outbox := (s.nodes i).outbox.eraseIdx k } = nRelease ((vsys s).nodes i) k' := by
        simp only [vproj, nRelease, vsys, h2]
      rw [vsys_upd s _ i _ rfl, e]
      exact invV_release hI i k' ⟨t, v, c⟩ h1 hr
  | crash i =>
    obtain ⟨_, rfl⟩ := of_guard_ok h
    exact invV_node rfl rfl rfl rfl rfl (invV_crash hI i)
  | restart i =>
    obtain ⟨_, rfl⟩ := of_guard_ok h
    refine invV_node rfl rfl rfl rfl ?_ (invV_restart hI i)
    simp [vproj, nRestart, vsys, filterMap_grantOf_acks]
  | read r =>
    obtain ⟨rd, rfl⟩ := read_frame h
    exact hI
  | win i cfg q =>
    obtain ⟨hg, _⟩ := of_guard_ok h
    obtain ⟨_, hq, hall, _, rfl, _, hadj, _⟩ := win_guard h
    have hself : (⟨(s.nodes i).term, i, i⟩ : Grant) ∈ s.grants := by
      simpa [List.contains_iff_mem] using hg.2.2.2.2.1
    rw [vsys_upd s _ i _ rfl]
    refine invV_win hI i cfg q hq hg.2.2.1 hself hall ?_
    intro p hp hpt q' hq'
    exact adj_intersect cfg p.2 (hadj p hp hpt) q q' hq hq'
  | stepDown i =>
    obtain ⟨_, rfl⟩ := of_guard_ok h
    exact invV_node rfl rfl rfl rfl rfl (invV_role0 hI i)
  | recvApp i m =>
    obtain ⟨_, rfl⟩ := of_guard_ok h
    exact invV_node rfl rfl rfl rfl (vproj_ack_role0 _ _ (s.nodes i).commit _ rfl) (invV_role0 hI i)
  | installSnap i t idx sterm =>
    obtain ⟨m, _, _, _, rfl⟩ := installSnap_ok h
    exact invV_node rfl rfl rfl rfl (vproj_ack_role0 _ _ _ _ rfl) (invV_role0 hI i)
  | leaderAppend i e | commitLeader i c cfg q | commitApp i c m | commitHB i c m | commitClaim i m =>
    obtain ⟨_, rfl⟩ := of_guard_ok h
    exact invV_of_eq hI (vsys_same s _ i _ rfl rfl rfl rfl rfl)
  | commitSnap i t idx sterm =>
    obtain ⟨m, _, _, _, rfl⟩ := commitSnap_ok h
    exact invV_of_eq hI (vsys_same s _ i _ rfl rfl rfl rfl rfl)
  | ackCommitted i | ackSelf i idx =>
    obtain ⟨_, rfl⟩ := of_guard_ok h
    exact invV_of_eq hI (vsys_same s _ i _ rfl (vproj_ack _ _ rfl) rfl rfl rfl)
  | sendApp i m | sendHB i to c | claim i idx | sendSnap i idx =>
    obtain ⟨_, rfl⟩ := of_guard_ok h
    exact hI
  | bootstrap i donor idx =>
    obtain ⟨hf, _, _, _, _, rfl⟩ := bootstrap_ok h
    have hb : InvV (setN (vsys s) i { (vsys s).nodes i with term := (s.nodes donor).dterm, dterm := (s.nodes donor).dterm }) := by
      apply invV_boot hI i _ <;> simp [vsys, vproj, hf.term, hf.vote, hf.dvote, hf.outbox, hf.pending, hf.role]
    exact invV_node rfl rfl rfl rfl rfl hb

/-- **InvV holds in every reachable state** of P -/
theorem invV_reachR (s : PSys) (h : Reach s) : InvV (vsys s) := by
  induction h with
  | init => rw [vsys_init]; exact invV_init
  | step e _ hs ih => exact invV_step _ _ e ih hs

theorem invV_reach (c0 : Cfg) (s : PSys) (h : ReachC c0 s) : InvV (vsys s) :=
  invV_reachR s (reach_of_reachC h)

end RaftModel.P
