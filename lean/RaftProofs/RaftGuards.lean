import RaftModel.RaftStep
import RaftProofs.RaftLog

/-!
Guards of the node model taken one at a time; `maybe_decr_to`, `maybe_update` and the term preamble of
`step` taken apart once.

The model's functions open with guards, `if c then .err e else …` or `if c then .panic site else …`.
`Res.of_guard` says what the result tells about one of them; it is used instead of `split at h`,
which simplifies the whole nest of guards again at every level.
-/
namespace RaftModel

/-- a guard whose branch cannot be the result `z` (an error or a panic when `z` is `ok …`) did not
fire -/
theorem Res.of_guard {α : Type} {c : Prop} [Decidable c] {x y z : Res α}
    (h : (if c then x else y) = z) (hx : x ≠ z := by intro hb; cases hb) : ¬ c ∧ y = z := by
  by_cases hc : c
  · rw [if_pos hc] at h; exact absurd h hx
  · rw [if_neg hc] at h; exact ⟨hc, h⟩

/-- the same for `if c then … else .err e` -/
theorem Res.of_guard' {α : Type} {c : Prop} [Decidable c] {x y z : Res α}
    (h : (if c then x else y) = z) (hy : y ≠ z := by intro hb; cases hb) : c ∧ x = z := by
  by_cases hc : c
  · rw [if_pos hc] at h; exact ⟨hc, h⟩
  · rw [if_neg hc] at h; exact absurd h hy

/-- both branches of a guard -/
theorem Res.ite_cases {α : Type} {c : Prop} [Decidable c] {x y z : Res α}
    (h : (if c then x else y) = z) : (c ∧ x = z) ∨ (¬ c ∧ y = z) := by
  by_cases hc : c
  · rw [if_pos hc] at h; exact .inl ⟨hc, h⟩
  · rw [if_neg hc] at h; exact .inr ⟨hc, h⟩

namespace Progress

/-- **the ways `maybe_decr_to` ends** (progress.rs:166), one constructor each -/
inductive DecrTo (p : Progress) (rejected matchHint rs : Nat) : Progress → Bool → Prop
  /-- `Replicate`: a rejection at or below `matched` is stale -/
  | repStale : p.state = .replicate → rejected < p.matched ∨ (rejected = p.matched ∧ rs = 0) →
      DecrTo p rejected matchHint rs p false
  | repDecr : p.state = .replicate → ¬ (rejected < p.matched ∨ (rejected = p.matched ∧ rs = 0)) →
      rs = 0 → DecrTo p rejected matchHint rs { p with nextIdx := p.matched + 1 } true
  | repSnap : p.state = .replicate → ¬ (rejected < p.matched ∨ (rejected = p.matched ∧ rs = 0)) →
      rs ≠ 0 → DecrTo p rejected matchHint rs { p with pendingRequestSnapshot := rs } true
  /-- `Probe` / `Snapshot`: a rejection of anything but the probe in flight is stale -/
  | stale : p.state ≠ .replicate → (p.nextIdx = 0 ∨ p.nextIdx - 1 ≠ rejected) ∧ rs = 0 →
      DecrTo p rejected matchHint rs p false
  /-- … the probe in flight: `next_idx := max(min(rejected, match_hint + 1), matched + 1)` -/
  | probeDecr : p.state ≠ .replicate → ¬ ((p.nextIdx = 0 ∨ p.nextIdx - 1 ≠ rejected) ∧ rs = 0) →
      rs = 0 → ¬ U64_MAX ≤ matchHint →
      DecrTo p rejected matchHint rs
        { p with nextIdx := if min rejected (matchHint + 1) < p.matched + 1 then p.matched + 1
                            else min rejected (matchHint + 1), paused := false } true
  | snapFirst : p.state ≠ .replicate → rs ≠ 0 → p.pendingRequestSnapshot = 0 →
      DecrTo p rejected matchHint rs { p with pendingRequestSnapshot := rs, paused := false } true
  | snapAgain : p.state ≠ .replicate → rs ≠ 0 → p.pendingRequestSnapshot ≠ 0 →
      DecrTo p rejected matchHint rs { p with paused := false } true

theorem maybeDecrTo_inv {p p' : Progress} {rejected matchHint rs : Nat} {b : Bool}
    (h : p.maybeDecrTo rejected matchHint rs = .ok (p', b)) : DecrTo p rejected matchHint rs p' b := by
  unfold maybeDecrTo at h
  by_cases hs : p.state = .replicate
  · rw [if_pos hs] at h
    by_cases h1 : rejected < p.matched ∨ (rejected = p.matched ∧ rs = 0)
    · rw [if_pos h1] at h; cases h; exact .repStale hs h1
    rw [if_neg h1] at h
    by_cases h2 : rs = 0
    · rw [if_pos h2] at h; cases h; exact .repDecr hs h1 h2
    · rw [if_neg h2] at h; cases h; exact .repSnap hs h1 h2
  rw [if_neg hs] at h
  by_cases h1 : (p.nextIdx = 0 ∨ p.nextIdx - 1 ≠ rejected) ∧ rs = 0
  · rw [if_pos h1] at h; cases h; exact .stale hs h1
  rw [if_neg h1] at h
  by_cases h2 : rs = 0
  · rw [if_pos h2] at h
    obtain ⟨h3, h⟩ := Res.of_guard h
    cases h; exact .probeDecr hs h1 h2 h3
  rw [if_neg h2] at h
  by_cases h3 : p.pendingRequestSnapshot = 0
  · rw [if_pos h3] at h; cases h; exact .snapFirst hs h2 h3
  · rw [if_neg h3] at h; cases h; exact .snapAgain hs h2 h3

/-- `maybe_update` (progress.rs:136) in closed form: it fails only on the overflow of `n + 1`;
`matched` and `next_idx` are raised to `n` and `n + 1`, an advancing acknowledgement un-pauses, and
the answer is whether `matched` advanced -/
theorem maybeUpdate_eq (p : Progress) (n : Nat) :
    p.maybeUpdate n = if U64_MAX ≤ n then .panic "progress.maybe_update.overflow" else
      .ok ({ p with matched := max p.matched n, nextIdx := max p.nextIdx (n + 1),
                    paused := if p.matched < n then false else p.paused },
        decide (p.matched < n)) := by
  unfold maybeUpdate
  dsimp only
  split
  · rfl
  · by_cases hm : p.matched < n
    · rw [decide_eq_true hm, if_pos rfl, Nat.max_eq_right (Nat.le_of_lt hm), if_pos hm]
      by_cases hx : p.nextIdx < n + 1
      · rw [if_pos hx, Nat.max_eq_right (Nat.le_of_lt hx)]
      · rw [if_neg hx, Nat.max_eq_left (Nat.le_of_not_lt hx)]
    · rw [decide_eq_false hm, if_neg Bool.false_ne_true, Nat.max_eq_left (Nat.le_of_not_lt hm),
        if_neg hm]
      by_cases hx : p.nextIdx < n + 1
      · rw [if_pos hx, Nat.max_eq_right (Nat.le_of_lt hx)]
      · rw [if_neg hx, Nat.max_eq_left (Nat.le_of_not_lt hx)]

/-- `update_committed` (progress.rs:151) in closed form -/
theorem updateCommitted_eq (p : Progress) (ci : Nat) :
    p.updateCommitted ci = { p with committedIndex := max p.committedIndex ci } := by
  unfold updateCommitted
  split
  · rw [Nat.max_eq_right (by omega)]
  · rw [Nat.max_eq_left (by omega)]

/-- **`maybe_update`** (progress.rs:136) where it returns: `matched` goes up to `n` and `next_idx` to `n + 1`; a
move of `matched` clears `paused` and is reported -/
theorem maybeUpdate_inv {p p' : Progress} {n : Nat} {b : Bool} (h : p.maybeUpdate n = .ok (p', b)) :
    b = decide (p.matched < n) ∧
    p' = { p with matched := max p.matched n, nextIdx := max p.nextIdx (n + 1),
                  paused := if p.matched < n then false else p.paused } := by
  rw [maybeUpdate_eq] at h
  obtain ⟨_, h⟩ := Res.of_guard h
  cases h; exact ⟨rfl, rfl⟩

end Progress

namespace Raft

/-- the lease that makes a node ignore a vote request of a higher term (raft.rs:1366-1395) -/
abbrev Leased (r : Raft) (m : Message) : Prop :=
  (m.msgType = .msgRequestVote ∨ m.msgType = .msgRequestPreVote) ∧ ¬ m.context = campaignTransfer ∧
    (r.checkQuorum = true ∧ r.leaderId ≠ 0 ∧ r.electionElapsed < r.electionTimeout)

/-- **the ways the term preamble of `step` ends** (raft.rs:1352-1482), one constructor each: the
state it hands on and whether the dispatch runs -/
inductive TermStep (r : Raft) (m : Message) : Raft → Bool → Prop
  /-- a local message -/
  | zero : m.term = 0 → TermStep r m r true
  /-- higher term, vote request ignored under the lease -/
  | leased : m.term ≠ 0 → r.term < m.term → Leased r m → TermStep r m r false
  /-- higher term, pre-vote request or granted pre-vote response: the term is not adopted -/
  | prevote : m.term ≠ 0 → r.term < m.term → ¬ Leased r m →
      m.msgType = .msgRequestPreVote ∨ (m.msgType = .msgRequestPreVoteResponse ∧ ¬ m.reject = true) →
      TermStep r m r true
  /-- higher term otherwise: `become_follower(m.term, l)`, with the sender as leader for leader traffic -/
  | follow (l : Nat) : m.term ≠ 0 → r.term < m.term → ¬ Leased r m →
      ¬ (m.msgType = .msgRequestPreVote ∨ (m.msgType = .msgRequestPreVoteResponse ∧ ¬ m.reject = true)) →
      (l = m.frm ∧ (m.msgType = .msgAppend ∨ m.msgType = .msgHeartbeat ∨ m.msgType = .msgSnapshot) ∨
        l = 0 ∧ ¬ (m.msgType = .msgAppend ∨ m.msgType = .msgHeartbeat ∨ m.msgType = .msgSnapshot)) →
      TermStep r m (r.becomeFollower m.term l) true
  /-- lower term, leader traffic with `check_quorum` or `pre_vote`: an append response goes back -/
  | staleAck {r' : Raft} : m.term ≠ 0 → m.term < r.term →
      (r.checkQuorum = true ∨ r.preVote = true) ∧ (m.msgType = .msgHeartbeat ∨ m.msgType = .msgAppend) →
      r.send (newMessage m.frm .msgAppendResponse none) = .ok r' → TermStep r m r' false
  /-- lower term, pre-vote request: rejected -/
  | staleReject {r' : Raft} : m.term ≠ 0 → m.term < r.term → m.msgType = .msgRequestPreVote →
      r.send { msgType := .msgRequestPreVoteResponse, to := m.frm, term := r.term, reject := true } = .ok r' →
      TermStep r m r' false
  /-- lower term otherwise: dropped -/
  | stale : m.term ≠ 0 → m.term < r.term →
      ¬ ((r.checkQuorum = true ∨ r.preVote = true) ∧ (m.msgType = .msgHeartbeat ∨ m.msgType = .msgAppend)) →
      m.msgType ≠ .msgRequestPreVote → TermStep r m r false
  /-- the node's own term -/
  | same : m.term ≠ 0 → m.term = r.term → TermStep r m r true

theorem stepTerm_inv {r r' : Raft} {m : Message} {b : Bool} (h : r.stepTerm m = .ok (r', b)) :
    TermStep r m r' b := by
  unfold stepTerm at h
  by_cases h0 : m.term = 0
  · rw [if_pos h0] at h; cases h; exact .zero h0
  rw [if_neg h0] at h
  by_cases hgt : r.term < m.term
  · rw [if_pos hgt] at h
    dsimp only at h
    by_cases hl : Leased r m
    · rw [if_pos hl] at h; cases h; exact .leased h0 hgt hl
    rw [if_neg hl] at h
    by_cases hp : m.msgType = .msgRequestPreVote ∨ (m.msgType = .msgRequestPreVoteResponse ∧ ¬ m.reject = true)
    · rw [if_pos hp] at h; cases h; exact .prevote h0 hgt hl hp
    rw [if_neg hp] at h
    by_cases ht : m.msgType = .msgAppend ∨ m.msgType = .msgHeartbeat ∨ m.msgType = .msgSnapshot
    · rw [if_pos ht] at h; cases h; exact .follow _ h0 hgt hl hp (.inl ⟨rfl, ht⟩)
    · rw [if_neg ht] at h; cases h; exact .follow _ h0 hgt hl hp (.inr ⟨rfl, ht⟩)
  rw [if_neg hgt] at h
  by_cases hlt : m.term < r.term
  · rw [if_pos hlt] at h
    by_cases hc : (r.checkQuorum = true ∨ r.preVote = true) ∧ (m.msgType = .msgHeartbeat ∨ m.msgType = .msgAppend)
    · rw [if_pos hc] at h
      cases hs : r.send (newMessage m.frm .msgAppendResponse none) with
      | ok r1 => rw [hs] at h; cases h; exact .staleAck h0 hlt hc hs
      | err e => rw [hs] at h; cases h
      | panic s => rw [hs] at h; cases h
    rw [if_neg hc] at h
    by_cases hp : m.msgType = .msgRequestPreVote
    · rw [if_pos hp] at h
      cases hs : r.send { msgType := .msgRequestPreVoteResponse, to := m.frm, term := r.term, reject := true } with
      | ok r1 => rw [hs] at h; cases h; exact .staleReject h0 hlt hp hs
      | err e => rw [hs] at h; cases h
      | panic s => rw [hs] at h; cases h
    · rw [if_neg hp] at h; cases h; exact .stale h0 hlt hc hp
  · rw [if_neg hlt] at h; cases h; exact .same h0 (by omega)

/-- the constructors of `TermStep` carry the guards in full: the preamble ends as each of them says -/
theorem stepTerm_of {r r' : Raft} {m : Message} {b : Bool} (h : TermStep r m r' b) :
    r.stepTerm m = .ok (r', b) := by
  unfold stepTerm
  cases h with
  | zero h0 => rw [if_pos h0]
  | leased h0 hgt hl => rw [if_neg h0, if_pos hgt]; dsimp only; rw [if_pos hl]
  | prevote h0 hgt hl hp => rw [if_neg h0, if_pos hgt]; dsimp only; rw [if_neg hl, if_pos hp]
  | follow l h0 hgt hl hp hx =>
    rw [if_neg h0, if_pos hgt]; dsimp only; rw [if_neg hl, if_neg hp]
    rcases hx with ⟨rfl, ht⟩ | ⟨rfl, ht⟩
    · rw [if_pos ht]
    · rw [if_neg ht]
  | staleAck h0 hlt hc hs => rw [if_neg h0, if_neg (by omega), if_pos hlt, if_pos hc, hs]
  | staleReject h0 hlt hp hs =>
    have hc : ¬ ((r.checkQuorum = true ∨ r.preVote = true) ∧
        (m.msgType = .msgHeartbeat ∨ m.msgType = .msgAppend)) := by
      intro c; rcases c.2 with c | c <;> rw [hp] at c <;> cases c
    rw [if_neg h0, if_neg (by omega), if_pos hlt, if_neg hc, if_pos hp, hs]
  | stale h0 hlt hc hp => rw [if_neg h0, if_neg (by omega), if_pos hlt, if_neg hc, if_neg hp]
  | same h0 he => rw [if_neg h0, if_neg (by omega), if_neg (by omega)]

end Raft
end RaftModel
