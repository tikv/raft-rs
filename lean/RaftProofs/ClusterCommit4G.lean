import RaftProofs.ClusterCommit4F

/-!
Cluster-level commit safety, part 4G: `PW` through `step_candidate`, `step_follower`, the term preamble
and `Raft::step`: for a message that is not a `MsgAppend` (nor a `MsgSnapshot`, excluded by the
hypothesis `hms`) the relation is kept; for a `MsgAppend` — the only call that can shorten the log —
nothing of the relation's types is queued and the node ends outside the leader role (`step_app_pr`).
-/
namespace RaftModel
namespace Raft
namespace PerCall
open RaftProps.C13

variable {E : Rule}

/-! ### the term preamble -/

theorem stepTerm_pw {a r r' : Raft} {m : Message} {b : Bool} (h : r.stepTerm m = .ok (r', b))
    (h0 : PW E a r) : PW E a r' :=
  stepTerm_parts h h0 (fun _ _ => becomeFollower_pw _ _)
    (fun hs hx => send_pw hs (by rw [hx]; rfl)) (fun hs hx => send_pw hs (by rw [hx]; rfl))

theorem stepTerm_nf {a r r' : Raft} {m : Message} {b : Bool} (h : r.stepTerm m = .ok (r', b))
    (h0 : NF a r) : NF a r' :=
  stepTerm_parts h h0 (fun _ _ h1 => h1.of_msgs (becomeFollower_msgs _ _ _))
    (fun hs hx h1 => h1.send hs (by rw [hx]; rfl)) (fun hs hx h1 => h1.send hs (by rw [hx]; rfl))

/-! ### `step_candidate`, `step_follower` -/

theorem stepCandidate_pw {a r r' : Raft} {m : Message} {e : Option RaftError}
    (h : r.stepCandidate m = .ok (r', e)) (h0 : PW E a r) (hna : m.msgType ≠ .msgAppend)
    (hms : m.msgType ≠ .msgSnapshot) : PW E a r' :=
  stepCandidate_parts h h0 (fun _ => becomeFollower_pw _ _ h0) (fun _ hty => absurd hty hna)
    (fun hh _ => handleHeartbeat_pw hh) (fun _ hty => absurd hty hms) (fun hp _ _ => poll_pw hp h0)
    maybeCommitByVote_pw

theorem stepFollower_pw {a r r' : Raft} {m : Message} {e : Option RaftError}
    (h : r.stepFollower m = .ok (r', e)) (h0 : PW E a r) (hna : m.msgType ≠ .msgAppend)
    (hms : m.msgType ≠ .msgSnapshot) : PW E a r' := by
  unfold Raft.stepFollower at h
  split at h
  · rename_i hty
    split at h
    · cases h; exact h0
    · split at h
      · cases h; exact h0
      · rw [Res.bind_eq_ok_iff] at h
        obtain ⟨r1, h1, h2⟩ := h
        cases h2
        exact send_pw h1 (by show wqT m.msgType = false; rw [hty]; rfl) h0
  · rename_i hty; exact absurd hty hna
  · rw [Res.bind_eq_ok_iff] at h
    obtain ⟨r1, h1, h2⟩ := h
    cases h2
    exact handleHeartbeat_pw h1 (PW.mk' h0)
  · rename_i hty; exact absurd hty hms
  · rename_i hty
    split at h
    · cases h; exact h0
    · rw [Res.bind_eq_ok_iff] at h
      obtain ⟨r1, h1, h2⟩ := h
      cases h2
      exact send_pw h1 (by show wqT m.msgType = false; rw [hty]; rfl) h0
  · split at h
    · rw [Res.bind_eq_ok_iff] at h
      obtain ⟨r1, h1, h2⟩ := h
      cases h2
      exact hup_pw h1 h0
    · cases h; exact h0
  · rename_i hty
    split at h
    · cases h; exact h0
    · rw [Res.bind_eq_ok_iff] at h
      obtain ⟨r1, h1, h2⟩ := h
      cases h2
      exact send_pw h1 (by show wqT m.msgType = false; rw [hty]; rfl) h0
  · split at h
    · simp only [] at h
      split at h
      · rename_i log b hm
        cases h
        exact PW.mk' (r := { r with raftLog := log }) (h0.log (c05_maybeCommit_same hm))
      · cases h
      · cases h
    · cases h; exact h0
  · cases h; exact h0

/-! ### `Raft::step` -/

/-- `Raft::step` on a message that is neither a `MsgAppend` nor a `MsgSnapshot` -/
theorem step_pw {a r r' : Raft} {m : Message} {e : Option RaftError}
    (h : r.step m = .ok (r', e)) (h0 : PW E a r) (hna : m.msgType ≠ .msgAppend)
    (hms : m.msgType ≠ .msgSnapshot)
    (hB : r.state = .leader → m.msgType = .msgAppendResponse → m.reject = false →
      (m.term = 0 ∨ m.term = r.term) → m.index ≤ r.raftLog.lastIndex)
    (hQ : m.msgType = .msgSnapStatus → r.state = .leader →
      ∀ i, E.pend r.msgs r.raftLog.lastIndex i → i ≤ r.raftLog.lastIndex) : PW E a r' := by
  cases step_inv h with
  | consumed ht => exact stepTerm_pw ht h0
  | dispatched ht hd =>
    have g1 := stepTerm_pw ht h0
    cases hd with
    | hup _ h1 => exact hup_pw h1 g1
    | vote _ hv => exact stepVote_pw hv g1
    | candidate _ _ hc => exact stepCandidate_pw hc g1 hna hms
    | follower _ _ hf => exact stepFollower_pw hf g1 hna hms
    | leader _ hl hx =>
      obtain ⟨he, hterm⟩ := stepTerm_lead ht hl
      subst he
      exact stepLeader_pw hx ⟨g1, hl⟩ (fun hty hrej => hB hl hty hrej (hterm hty)) hQ

/-- `Raft::step` on a `MsgAppend`: the only call that may shorten the log queues nothing of the
relation's types, and a node that goes through `handle_append_entries` is a follower afterwards -/
theorem step_app_pr {a r r' : Raft} {m : Message} {e : Option RaftError}
    (h : r.step m = .ok (r', e)) (h0 : PW E a r) (hn : NF a r) (hty : m.msgType = .msgAppend) :
    PR E a r' := by
  cases step_inv h with
  | consumed ht => exact (stepTerm_pw ht h0).pr
  | dispatched ht hd =>
    rename_i r1
    have g1 := stepTerm_pw ht h0
    have n1 := stepTerm_nf ht hn
    -- a follower that handles the append
    have key : ∀ (r2 : Raft), NF a r2 → r2.state = .follower →
        r2.handleAppendEntries m = .ok r' → PR E a r' := by
      intro r2 n2 s2 hh
      obtain ⟨⟨resp, hm, hr⟩, _⟩ := handleAppendEntries_msgs hh
      refine (n2.push hm (by rw [hr]; rfl)).pr ?_
      rw [(handleAppendEntries_frame hh Frame.rfl).state, s2]
      intro hc; cases hc
    cases hd with
    | hup ty => rw [hty] at ty; cases ty
    | vote ty => rcases ty with ty | ty <;> rw [hty] at ty <;> cases ty
    | candidate _ _ h =>
      unfold Raft.stepCandidate at h
      rw [hty] at h
      simp only [] at h
      split at h
      · cases h
      · rw [Res.bind_eq_ok_iff] at h
        obtain ⟨r2, h1, h2⟩ := h
        cases h2
        exact key _ (n1.of_msgs (becomeFollower_msgs _ _ _)) rfl h1
    | follower _ hs h =>
      unfold Raft.stepFollower at h
      rw [hty] at h
      simp only [] at h
      rw [Res.bind_eq_ok_iff] at h
      obtain ⟨r2, h1, h2⟩ := h
      cases h2
      exact key { r1 with electionElapsed := 0, leaderId := m.frm } (n1.of_msgs rfl) hs h1
    | leader _ _ h =>
      unfold Raft.stepLeader at h
      rw [hty] at h
      simp only [] at h
      cases h
      exact g1.pr

end PerCall
end Raft
end RaftModel
