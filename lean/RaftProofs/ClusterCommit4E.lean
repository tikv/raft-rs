import RaftProofs.ClusterCommit4D

/-!
Cluster-level commit safety, part 4E: `LW` through the leader-side handlers
(`handle_append_response` under the hypothesis that an accepted acknowledgement lies within the log,
`handle_heartbeat_response`, `handle_transfer_leader`, `handle_snapshot_status`, `handle_unreachable`)
and `step_leader`.
-/
namespace RaftModel
namespace Raft
namespace PerCall
open RaftProps.C13

variable {E : Rule}

theorem checkQuorumActive_lw {a r r' : Raft} {b : Bool} (h : r.checkQuorumActive = (r', b))
    (h0 : LW E a r) : LW E a r' := by
  unfold Raft.checkQuorumActive at h
  split at h
  rename_i prs b' hq
  cases h
  refine ⟨PW.prs h0.1 (fun hs => ?_), h0.2⟩
  unfold ProgressTracker.quorumRecentlyActive at hq
  simp only [Prod.mk.injEq] at hq
  rw [← hq.1]
  rcases h0.1.po hs with c | c
  · exact .inl c
  · right
    intro p hp
    simp only [List.mem_map] at hp
    obtain ⟨q, hq', rfl⟩ := hp
    split <;> exact (c q hq').congr rfl rfl rfl

theorem handleAppendResponseAccepted_lw {a r r' : Raft} {m : Message} {pr : Progress} {op : Bool}
    (h : r.handleAppendResponseAccepted m pr op = .ok r') (h0 : LW E a r) (hp : PQ E r pr) :
    LW E a r' := by
  refine handleAppendResponseAccepted_parts2 (R := LW E a) h (fun hp1 => h0.setPr (hp.imp fun c => ?_))
    maybeCommit_lw bcastAppend_lw sendAppend_lw sendAppendAggressively_lw (fun q => q)
    fun _ _ _ hx q => sendTimeoutNow_lw hx q
  rcases hp1 with ⟨_, rfl⟩ | ⟨_, rfl⟩ | ⟨_, ins, _, rfl⟩
  · exact c.becomeReplicate
  · split
    · rename_i hcu
      refine c.becomeProbe (fun _ => ?_)
      unfold Progress.isSnapshotCaughtUp at hcu
      simp only [Bool.and_eq_true, decide_eq_true_eq] at hcu
      exact Nat.le_trans hcu.2 c.1
    · exact c
  · exact c.congr rfl rfl rfl

theorem handleAppendResponse_lw {a r r' : Raft} {m : Message}
    (h : r.handleAppendResponse m = .ok r') (h0 : LW E a r)
    (hB : m.reject = false → m.index ≤ r.raftLog.lastIndex) : LW E a r' := by
  have hp2 : ∀ {pr0}, r.prs.get m.frm = some pr0 →
      PQ E r (({ pr0 with recentActive := true } : Progress).updateCommitted m.commit) :=
    fun {pr0} hg => PQ.imp (h0.getPr hg) fun c =>
      (c.congr (pr' := { pr0 with recentActive := true }) rfl rfl rfl).updateCommitted _
  exact handleAppendResponse_parts2 (R := LW E a) h h0
    (fun hg _ hd => h0.setPr (by
      have hp3 := (hp2 hg).imp fun c => (c.maybeDecrTo hd).1
      split
      · rename_i hrep
        exact hp3.imp fun c => c.becomeProbe_ns (by rw [hrep]; intro hc; cases hc)
      · exact hp3))
    sendAppend_lw (fun hg _ hd => h0.setPr ((hp2 hg).imp fun c => (c.maybeDecrTo hd).1))
    (fun hg hr hu => h0.setPr ((hp2 hg).imp fun c => (c.maybeUpdate (hB hr) hu).1))
    fun hg hr hu ha =>
      handleAppendResponseAccepted_lw ha h0 ((hp2 hg).imp fun c => (c.maybeUpdate (hB hr) hu).1)

theorem PQ.send {r r' : Raft} {pr : Progress} {m : Message} (h : r.send m = .ok r')
    (hp : PQ E r pr) : PQ E r' pr := by
  rw [send_eq _ _ _ h]
  rcases hp with c | c
  · exact .inl (E.mute_app c _)
  · exact .inr (c.app _)

theorem recvAck_lw {a r : Raft} (id : Nat) (ctx : Bytes) (h0 : LW E a r) :
    LW E a { r with readOnly := (r.readOnly.recvAck id ctx).1 } := by
  refine ⟨h0.1.ro (fun hs p hp => ?_), h0.2⟩
  obtain ⟨q, hq, he⟩ := recvAck_index _ _ _ p hp
  rw [← he]; exact h0.1.rd hs q hq

/-- `advance` only releases pending reads -/
theorem advanced_lw {a r : Raft} {ro' : ReadOnly} {ctx : Bytes} {rss : List ReadIndexStatus}
    (ha : r.readOnly.advance ctx = .ok (ro', rss)) (h0 : LW E a r) :
    LW E a { r with readOnly := ro' } :=
  ⟨h0.1.ro fun hs p hp => h0.1.rd hs p ((advance_sub ha).1 p hp), h0.2⟩

/-- … and the released ones are answered: each carries a committed index -/
theorem advance_lw {a r r' : Raft} {ro' : ReadOnly} {ctx : Bytes} {rss : List ReadIndexStatus}
    (h0 : LW E a r) (ha : r.readOnly.advance ctx = .ok (ro', rss))
    (h : ({ r with readOnly := ro' } : Raft).respondReadStates rss = .ok r') : LW E a r' := by
  refine respondReadStates_lw h (advanced_lw ha h0) (fun rs hrs => ?_)
  obtain ⟨k, hk⟩ := (advance_sub ha).2 rs hrs
  exact h0.1.rd h0.2 (k, rs) hk

theorem handleHeartbeatResponse_lw {a r r' : Raft} {m : Message}
    (h : r.handleHeartbeatResponse m = .ok r') (h0 : LW E a r) : LW E a r' :=
  handleHeartbeatResponse_parts2 (P := LW E a) (Q := LQ E a) h h0
    (@fun pr _ hg ht => ⟨h0, PQ.imp (h0.getPr hg) fun c => by
      have c1 : POk E r.msgs r.raftLog.lastIndex
          (({ (pr.updateCommitted m.commit) with recentActive := true } : Progress).resume) :=
        (c.updateCommitted m.commit).congr rfl rfl rfl
      rcases ht with rfl | ⟨ins, _, rfl⟩
      · exact c1
      · exact c1.congr rfl rfl rfl⟩)
    (fun q ha => sendAppendPr_lw ha q.1 q.2) LQ.set (fun q => recvAck_lw _ _ q)
    (fun ha q => advanced_lw ha q) fun ha hr q _ => advance_lw q ha hr

theorem handleTransferLeader_lw {a r r' : Raft} {m : Message}
    (h : r.handleTransferLeader m = .ok r') (h0 : LW E a r) : LW E a r' :=
  handleTransferLeader_parts2 (R := LW E a) (Q := LQ E a) h h0 h0 (fun p => LW.mk' p)
    (fun p => LW.mk' p) (fun p => p) (fun _ _ _ hs p => sendTimeoutNow_lw hs p)
    (fun _ hg ha p => sendAppendPr_lw ha p (p.getPr hg)) LQ.set

/-- `handle_snapshot_status` moves a progress out of the `Snapshot` state to resume after its pending
snapshot: whatever `E` admits as a pending snapshot has to lie within the log -/
theorem handleSnapshotStatus_lw {a r : Raft} {m : Message} (h0 : LW E a r)
    (hQ : ∀ i, E.pend r.msgs r.raftLog.lastIndex i → i ≤ r.raftLog.lastIndex) :
    LW E a (r.handleSnapshotStatus m) := by
  unfold Raft.handleSnapshotStatus
  split
  · exact h0
  · rename_i pr hg
    split
    · exact h0
    · rename_i hs
      have hs' : pr.state = .snapshot := by
        cases hst : pr.state <;> simp_all
      refine h0.setPr ?_
      rcases h0.getPr hg with c | c
      · exact .inl c
      · right
        split
        · exact (POk.of_becomeProbe (pr := pr.snapshotFailure) c.1
            (fun _ => Nat.zero_le _)).congr rfl rfl rfl
        · exact (c.becomeProbe (fun _ => hQ _ (c.2.2 hs'))).congr rfl rfl rfl

theorem handleUnreachable_lw {a r : Raft} {m : Message} (h0 : LW E a r) :
    LW E a (r.handleUnreachable m) := by
  unfold Raft.handleUnreachable
  split
  · exact h0
  · rename_i pr hg
    split
    · rename_i hrep
      exact h0.setPr (PQ.imp (h0.getPr hg)
        (fun c => c.becomeProbe_ns (by rw [hrep]; intro hc; cases hc)))
    · exact h0

theorem filterProposalEntry_lw {a r r' : Raft} {i : Nat} {e e' : Entry}
    (h : r.filterProposalEntry i e = some (r', e')) (h0 : LW E a r) : LW E a r' :=
  filterProposalEntry_parts h h0 (fun _ => LW.mk' h0)

theorem filterProposal_lw {a : Raft} : ∀ (es : List Entry) (r r' : Raft) (i : Nat)
    (oes : Option (List Entry)), r.filterProposal i es = (r', oes) → LW E a r → LW E a r' :=
  filterProposal_parts filterProposalEntry_lw

theorem stepLeader_pw {a r r' : Raft} {m : Message} {e : Option RaftError}
    (h : r.stepLeader m = .ok (r', e)) (h0 : LW E a r)
    (hB : m.msgType = .msgAppendResponse → m.reject = false → m.index ≤ r.raftLog.lastIndex)
    (hQ : m.msgType = .msgSnapStatus → r.state = .leader →
      ∀ i, E.pend r.msgs r.raftLog.lastIndex i → i ≤ r.raftLog.lastIndex) :
    PW E a r' := by
  -- only the quorum check leaves the leader role; its arm is known by the type of the message
  let P : Raft → Prop := fun r1 => PW E a r1 ∧ (m.msgType ≠ .msgCheckQuorum → r1.state = .leader)
  have lw : ∀ {r1}, P r1 → m.msgType ≠ .msgCheckQuorum → LW E a r1 := fun p hn => ⟨p.1, p.2 hn⟩
  have lp : ∀ {r1}, LW E a r1 → P r1 := fun q => ⟨q.1, fun _ => q.2⟩
  have ne : ∀ {t : MsgType}, m.msgType = t → t ≠ .msgCheckQuorum → m.msgType ≠ .msgCheckQuorum :=
    fun e hn => e ▸ hn
  refine (stepLeader_parts2 (P := P) h (lp h0) (fun hb _ => lp (bcastHeartbeat_lw hb h0))
    (fun hq _ => lp (checkQuorumActive_lw hq h0))
    (fun ty p => ⟨becomeFollower_pw _ _ p.1, fun hn => absurd ty hn⟩)
    (fun hf _ => lp (filterProposal_lw _ _ _ _ _ hf h0))
    (fun ha ty p => lp (appendEntry_lw ha (lw p (ne ty (by decide)))))
    (fun hb ty p => lp (bcastAppend_lw hb (lw p (ne ty (by decide)))))
    (fun hr _ => lp (handleReadyReadIndex_lw hr h0).1) (fun hr hs _ p => ?_) (fun _ ha => lp ?_)
    (fun hb ty p => lp (bcastHeartbeatWithCtx_lw hb (lw p (ne ty (by decide)))))
    (fun ha ty => lp (handleAppendResponse_lw ha h0 (hB ty)))
    (fun hh _ => lp (handleHeartbeatResponse_lw hh h0))
    (fun ty => lp (handleSnapshotStatus_lw h0 (hQ ty h0.2))) (fun _ => lp (handleUnreachable_lw h0))
    fun ht _ => lp (handleTransferLeader_lw ht h0)).1
  · -- the answer carries the commit index, and `handle_ready_read_index` keeps the log
    obtain ⟨g1, gl, gm⟩ := handleReadyReadIndex_lw hr h0
    obtain ⟨t1, t2⟩ := gm _ rfl
    exact lp (send_rir_lw hs t1 (by rw [t2, gl]; exact Nat.le_refl _) g1)
  · refine ⟨h0.1.ro (fun hs p hp => ?_), h0.2⟩
    rcases addRequest_index ha p hp with c | c
    · exact h0.1.rd hs p c
    · rw [c]; exact Nat.le_refl _

end PerCall
end Raft
end RaftModel
