import RaftProofs.ClusterConf2C

/-!
C09 at the cluster level, part 2E: **who writes the stored `ConfState`**
(`raft_log.store.confState`, what a restarted node restores its configuration from) and the
application's record `appCs`: through every `NodeOp`, `send`, `restart`, labelled steps and runs.
-/
namespace RaftModel
namespace Raft

theorem commitApplyInternal_storedCs {r r' : Raft} {k : Nat} {skip : Bool}
    (h : r.commitApplyInternal k skip = .ok r') :
    r'.raftLog.store.confState = r.raftLog.store.confState := by
  have K := Sc.SC.keepsAll (· = r.raftLog.store.confState)
  refine commitApplyInternal_parts (P := LP fun l => l.store.confState = r.raftLog.store.confState)
    h (fun hl => ?_) (fun _ => appendEntry_lp K.toKeeps) fun _ p => p
  -- moving the apply cursor does not touch the storage
  rename_i l
  have hst : l.store = r.raftLog.store := by
    cases skip with
    | false =>
      simp only [Bool.not_false, if_true] at hl
      exact C06.appliedTo_store hl
    | true =>
      simp only [Bool.not_true, Bool.false_eq_true, if_false] at hl
      split at hl
      · cases hl
      · cases hl; rfl
  exact congrArg MemStorage.confState hst

theorem step_storedCs {r r' : Raft} {m : Message} {e : Option RaftError}
    (h : r.step m = .ok (r', e)) : r'.raftLog.store.confState = r.raftLog.store.confState :=
  step_lp (Sc.SC.keepsAll (· = r.raftLog.store.confState)) h rfl

theorem stepIgnore_storedCs {r r' : Raft} {m : Message}
    (h : r.stepIgnore m = .ok r') : r'.raftLog.store.confState = r.raftLog.store.confState :=
  stepIgnore_lp (Sc.SC.keepsAll (· = r.raftLog.store.confState)) h rfl

end Raft

namespace Node
open Raft

/-- what one call does to the stored `ConfState` -/
def StoredCs (st st' : NState) : NodeOp → Prop
  | .commitApply _ =>
    st'.raft.raftLog.store.confState = st.raft.raftLog.store.confState ∨
      st'.raft.raftLog.store.confState = st.appCs
  | .persistSnap =>
    st'.raft.raftLog.store.confState = st.raft.raftLog.store.confState ∨
      ∃ sn, st.raft.raftLog.unstable.snapshot = some sn ∧
        st'.raft.raftLog.store.confState = sn.metadata.confState ∧
        st'.appCs = sn.metadata.confState
  | _ => st'.raft.raftLog.store.confState = st.raft.raftLog.store.confState

theorem msAppend_confState {s s' : MemStorage} {ents : List Entry} (h : s.append ents = .ok s') :
    s'.confState = s.confState := by
  unfold MemStorage.append at h
  split at h
  · cases h; rfl
  · split at h
    · cases h
    · split at h
      · cases h
      · simp only [] at h
        split at h
        · cases h
        · cases h; rfl

theorem msCompact_confState {s s' : MemStorage} {k : Nat} (h : s.compact k = .ok s') :
    s'.confState = s.confState := by
  unfold MemStorage.compact at h
  split at h
  · cases h; rfl
  · split at h
    · cases h
    · split at h
      · cases h; rfl
      · split at h
        · cases h
        · split at h
          · cases h
          · cases h; rfl

theorem stabilize_storedCs {st st' : NState} {res : OpRes} (h : Node.stabilize st = .ok (res, st')) :
    st'.raft.raftLog.store.confState = st.raft.raftLog.store.confState := by
  refine stabilize_parts
    (Q := fun s => s.raft.raftLog.store.confState = st.raft.raftLog.store.confState) h
    fun {l} hl => ?_
  show l.store.confState = _
  unfold RaftLog.stabilise at hl
  split at hl
  · cases hl; rfl
  · split at hl
    · rename_i store hap
      rw [C06.stableEntries_store hl]
      exact msAppend_confState hap
    · cases hl
    · cases hl

theorem onPersistSnap_storedCs {r r' : Raft} {index : Nat} (h : r.onPersistSnap index = .ok r') :
    r'.raftLog.store.confState = r.raftLog.store.confState := by
  unfold Raft.onPersistSnap at h
  split at h
  · rename_i log b hp
    cases h
    rcases RaftLog.maybePersistSnap_inv hp with ⟨_, _, _, _, rfl⟩ | ⟨_, rfl⟩ <;> rfl
  · cases h
  · cases h

theorem onPersistEntries_storedCs {r r' : Raft} {index term : Nat}
    (h : r.onPersistEntries index term = .ok r') :
    r'.raftLog.store.confState = r.raftLog.store.confState :=
  have K := Sc.SC.keepsAll (· = r.raftLog.store.confState)
  onPersistEntries_parts h (fun hp => congrArg MemStorage.confState (C06.maybePersist_store hp))
    (fun _ p => p) (fun _ => maybeCommit_lp K) fun _ => bcastAppend_lp K.toKeeps

theorem persistSnap_storedCs {st st' : NState} {res : OpRes}
    (h : Node.persistSnap st = .ok (res, st')) : StoredCs st st' .persistSnap := by
  refine persistSnap_parts (Q := fun s => StoredCs st s .persistSnap) h (Or.inl rfl)
    fun {sn store l r} hsn hst hl hp => ?_
  have hstore : store.confState = sn.metadata.confState := by
    unfold MemStorage.applySnapshot at hst
    simp only [] at hst
    split at hst
    · cases hst
    · cases hst; rfl
  refine Or.inr ⟨sn, hsn, ?_, rfl⟩
  rw [onPersistSnap_storedCs hp]
  show l.store.confState = _
  rw [C06.stableSnap_store hl, hstore]

theorem nodeCommitApply_storedCs {st st' : NState} {res : OpRes} {k : Nat}
    (h : Node.commitApply st k = .ok (res, st')) : StoredCs st st' (.commitApply k) := by
  refine commitApply_parts (Q := fun s => StoredCs st s (.commitApply k)) h (Or.inl rfl)
    (fun ents => Or.inl ?_) (fun h2 q => ?_) (fun _ => Or.inr rfl)
  · show (st.raft.reduceUncommittedSize ents).raftLog.store.confState = _
    unfold Raft.reduceUncommittedSize
    split <;> rfl
  · rcases q with e | e
    · exact Or.inl ((commitApplyInternal_storedCs h2).trans e)
    · exact Or.inr ((commitApplyInternal_storedCs h2).trans e)

theorem assignCommitGroups_storedCs {r r' : Raft} {ids : List (Nat × Nat)}
    (h : r.assignCommitGroups ids = .ok r') :
    r'.raftLog.store.confState = r.raftLog.store.confState :=
  assignCommitGroups_lp (Sc.SC.keepsAll (· = r.raftLog.store.confState)) h rfl

/-- what every `NodeOp` does to the stored `ConfState` (`call` is `applyOp` once the random draw is
stored) -/
theorem applyOp_storedCs (st st' : NState) (op : NodeOp) (res : OpRes)
    (h : applyOp st op = .ok (res, st')) : StoredCs st st' op := by
  have K := Sc.SC.keepsAll (· = st.raft.raftLog.store.confState)
  have lp0 : LP (fun l => l.store.confState = st.raft.raftLog.store.confState) st.raft := rfl
  cases applyOp_parts h with
  | tick hx => exact tick_lp K hx lp0
  | step hx =>
    rcases RawNode.step_inv hx with hr | ⟨_, hx⟩
    · rw [hr]; exact rfl
    · exact step_storedCs hx
  | rstep hx | propose hx | proposeCc hx | campaign hx => exact step_storedCs hx
  | readIndex hx | transferLeader hx | reportUnreachable hx | reportSnapshot hx =>
    exact stepIgnore_storedCs hx
  | ping hx => exact ping_lp hx lp0
  | requestSnapshot hx => exact requestSnapshot_lp hx lp0
  | confChanged hx | confRefused hx => exact applyConfChange_lp K hx lp0
  | stabilize hx => exact stabilize_storedCs hx
  | onPersistEntries hx => exact onPersistEntries_storedCs hx
  | persistSnap hx => exact persistSnap_storedCs hx
  | commitApply hx => exact nodeCommitApply_storedCs hx
  | compact hx => exact msCompact_confState hx
  | drain | triggerSnap | triggerLog | setPriority | setBatchAppend | skipBcastCommit
  | setCheckQuorum | maybeFreeInflightBuffers | clearCommitGroup | checkGroupCommitConsistent
  | setMaxApplyUnpersistedLogLimit | setMaxCommittedSizePerReady | staleFetch =>
    exact rfl
  | adjustMaxInflight hx =>
    unfold Raft.adjustMaxInflightMsgs at hx
    split at hx
    · cases hx; exact rfl
    · split at hx
      · cases hx; exact rfl
      · cases hx
  | enableGroupCommit hx => exact enableGroupCommit_lp K hx lp0
  | assignCommitGroups hx => exact assignCommitGroups_storedCs hx
  | fetched _ _ _ hx => exact sendAppend_lp K.toKeeps hx lp0
  | fetchedAll _ _ _ hx => exact sendAppendAggressively_lp K.toKeeps hx lp0

/-- **one call of a node, any `NodeOp`: who writes the stored `ConfState`** — `commit_apply` (the
application's record `appCs`, when the index is within the stored range) and `persist_snap` (the
snapshot's `ConfState`); nothing else -/
theorem call_storedCs (st st' : NState) (rnd : Option Nat) (op : NodeOp) (res : OpRes)
    (h : Node.call st rnd op = .ok (res, st')) : StoredCs st st' op :=
  applyOp_storedCs { st with raft := { st.raft with nextRand := rnd } } st' op res h

/-- `Raft::new` keeps the `ConfState` of the storage it is given -/
theorem raftNew_storedCs (c : Config) (store : MemStorage) (rnd : Option Nat) (r : Raft)
    (h : Raft.new c store rnd = .ok (.ok r)) :
    r.raftLog.store.confState = store.confState := by
  obtain ⟨_, log, prs, hnew, _, _, _, rfl⟩ := raftNew_inv h
  rw [RaftProps.C20.becomeFollower_raftLog]
  exact congrArg (·.store.confState) (RaftLog.new_inv hnew).2

/-- `RawNode::new` from a storage: the stored `ConfState` is kept, and it is the application's
record -/
theorem boot_storedCs (c : Config) (store : MemStorage) (rnd : Option Nat) (st : NState)
    (h : Node.boot c store rnd = .ok (.ok st)) :
    st.raft.raftLog.store.confState = store.confState ∧ st.appCs = store.confState :=
  ⟨raftNew_storedCs c store rnd st.raft (boot_inv h).2.1, (boot_inv h).2.2⟩

end Node

namespace Cluster
open Node Raft

/-- the steps that write node `i`'s stored `ConfState`: its `commit_apply` and `persist_snap` calls -/
def RecLabel (i : Nat) : Label → Prop
  | .call j _ (.commitApply _) => j = i
  | .call j _ .persistSnap => j = i
  | _ => False

/-- one labelled step keeps the stored `ConfState` of node `k` unless it is a recording call of `k`
(a `restart` of `k` boots from the node's own storage and keeps it) -/
theorem lstep_storedCs {s s' : Sys} {l : Label} (h : LStep s l s') (k : Nat) (st st' : NState)
    (h1 : s.node k = some st) (h2 : s'.node k = some st') (hl : ¬ RecLabel k l) :
    st'.raft.raftLog.store.confState = st.raft.raftLog.store.confState := by
  rcases lstep_at h h1 h2 with ⟨rfl, hd⟩ | ⟨_, rfl⟩
  · cases l with
    | call i rnd op =>
      obtain ⟨_, res, g3⟩ := hd
      have hc := call_storedCs st st' rnd op res g3
      cases op <;> first
        | exact hc
        | exact absurd rfl hl
    | deliver i rnd m => exact hd.elim fun res g4 => call_storedCs st st' rnd (.step m) res g4
    | send i => exact call_storedCs st st' none .drain _ hd
    | restart i c rnd => exact (boot_storedCs c _ rnd st' hd.2).1
  · rfl

/-- what a call of node `i` does to its stored `ConfState` (`StoredCs`: `commit_apply` may write the
application's record `appCs`, `persist_snap` the snapshot's `ConfState`, every other call nothing) -/
theorem lstep_records {s s' : Sys} {i : Nat} {rnd : Option Nat} {op : NodeOp}
    (h : LStep s (.call i rnd op) s') (st st' : NState) (h1 : s.node i = some st)
    (h2 : s'.node i = some st') : StoredCs st st' op :=
  (lstep_at h h1 h2).elim (fun g => g.2.2.elim fun res g3 => call_storedCs st st' rnd op res g3)
    fun g => absurd rfl g.1

/-- no recording call of node `i` in the run -/
def RecFree (i : Nat) (ls : List Label) : Prop := ∀ l ∈ ls, ¬ RecLabel i l

/-- along a run without recording call of node `i` (restarts of `i` allowed) its stored `ConfState`
stays -/
theorem trace_storedCs {s s' : Sys} {ls : List Label} (ht : Trace s ls s') (i : Nat)
    (hfree : RecFree i ls) (st st' : NState) (h1 : s.node i = some st)
    (h2 : s'.node i = some st') :
    st'.raft.raftLog.store.confState = st.raft.raftLog.store.confState := by
  induction ht generalizing st' with
  | refl =>
    rw [h1] at h2; cases h2; rfl
  | tail b c ls l hab hbc ih =>
    obtain ⟨stb, hb⟩ := lstep_node_some hbc i st' h2
    have hfree' : RecFree i ls := fun x hx => hfree x (List.mem_append_left _ hx)
    have hl := hfree l (List.mem_append_right _ (List.mem_singleton.2 rfl))
    rw [lstep_storedCs hbc i stb st' hb h2 hl]
    exact ih hfree' stb hb

/-- **after a restart the configuration is `restore` of the last recorded `ConfState`**: from any
state `s`, along a run without recording call of node `i`, then a `restart` of `i` — the restarted
node's tracker view is `confchange::restore` (on the empty tracker) of the `ConfState` node `i`'s
storage held in `s`, which is also the application's record and the stored `ConfState` afterwards -/
theorem restart_restores_stored {s s1 s2 : Sys} {ls : List Label} {c : Config} {rnd : Option Nat}
    (i : Nat) (ht : Trace s ls s1) (hfree : RecFree i ls) (hr : LStep s1 (.restart i c rnd) s2)
    (st st2 : NState) (h1 : s.node i = some st) (h2 : s2.node i = some st2) :
    RaftModel.restore Tracker.empty st.raft.raftLog.store.confState = .ok st2.raft.prs.toCC ∧
    st2.appCs = st.raft.raftLog.store.confState ∧
    st2.raft.raftLog.store.confState = st.raft.raftLog.store.confState := by
  cases hr with
  | restart _ stx stx' _ _ g1 g2 g3 =>
    rw [node_setNode_self] at h2
    cases h2
    have e := trace_storedCs ht i hfree st stx h1 g1
    have hb : ConfRestored stx.raft.raftLog.store.confState st2.raft := boot_conf c _ rnd st2 g3
    obtain ⟨b1, b2⟩ := boot_storedCs c _ rnd st2 g3
    rw [e] at hb b1 b2
    exact ⟨hb, b2, b1⟩

end Cluster
end RaftModel
