import RaftModel.Inflights

/-!
Helper lemmas for C18: the ring-buffer invariant, absence of panics, and the refinement of every
ring operation to the FIFO specification.  The index arithmetic of the ring is done once, on
numbers (`wrap` and the `*_arith` lemmas); the lemmas about states only quote it.
-/
namespace RaftModel
namespace Inflights

/-- position of the `k`-th oldest element in the ring (the code's "increase index and maybe rotate") -/
def widx (s : Inflights) (k : Nat) : Nat :=
  if s.cap ≤ s.start + k then s.start + k - s.cap else s.start + k

/-- `contents` with the modulus spelled as the conditional subtraction the code performs -/
def items (s : Inflights) : List Nat :=
  (List.range s.count).map fun k => (s.buffer[s.widx k]?).getD 0

structure Inv (s : Inflights) : Prop where
  count_le : s.count ≤ s.cap
  start_lt : s.start < s.cap ∨ s.start = 0
  len_le : s.buffer.length ≤ s.cap
  noWrap : s.start + s.count ≤ s.cap → s.start + s.count ≤ s.buffer.length
  wrap : s.cap < s.start + s.count → s.buffer.length = s.cap
  pend : ∀ c, s.incomingCap = some c → 0 < s.count ∧ c < s.cap
  unalloc : s.alloc = false → s.buffer = []

/-! ### index arithmetic

`c` is the capacity, `a` the start, `n` the count, `len` the length of the buffer. -/

/-- "maybe rotate": a position below `2 * c` brought back below `c` -/
def wrap (c j : Nat) : Nat := if c ≤ j then j - c else j

theorem wrap_add {c a b : Nat} (h : a + b < 2 * c) : wrap c (wrap c a + b) = wrap c (a + b) := by
  unfold wrap
  by_cases h1 : c ≤ a
  · rw [if_pos h1, if_neg (by omega), if_pos (by omega)]; omega
  · rw [if_neg h1]

theorem wrap_eq_mod {c j : Nat} (h : j < 2 * c) : wrap c j = j % c := by
  unfold wrap
  by_cases h1 : c ≤ j
  · rw [if_pos h1, Nat.mod_eq_sub_mod h1, Nat.mod_eq_of_lt (by omega)]
  · rw [if_neg h1, Nat.mod_eq_of_lt (by omega)]

/-- different positions of the window are different slots -/
theorem wrap_ne {c a k n : Nat} (hk : k < n) (hn : n < c) :
    wrap c (a + n) ≠ wrap c (a + k) := by
  unfold wrap; split <;> split <;> omega

/-- the slots of the window exist -/
theorem wrap_lt_len {c a n len k : Nat} (hk : k < n) (hn : n ≤ c) (ha : a < c ∨ a = 0)
    (hnw : a + n ≤ c → a + n ≤ len) (hw : c < a + n → len = c) : wrap c (a + k) < len := by
  unfold wrap; split <;> omega

/-- `add` writes inside the buffer or just behind it, and the buffer keeps its shape -/
theorem put_arith {c a n len : Nat} (hn : n < c) (ha : a < c ∨ a = 0) (hl : len ≤ c)
    (hnw : a + n ≤ c → a + n ≤ len) (hw : c < a + n → len = c) :
    wrap c (a + n) ≤ len ∧
    (if wrap c (a + n) = len then len + 1 else len) ≤ c ∧
    (a + (n + 1) ≤ c → a + (n + 1) ≤ if wrap c (a + n) = len then len + 1 else len) ∧
    (c < a + (n + 1) → (if wrap c (a + n) = len then len + 1 else len) = c) := by
  unfold wrap
  by_cases h1 : c ≤ a + n
  · -- the window reaches the end of the buffer, which is therefore full
    have hlen : len = c := by
      rcases Nat.lt_or_eq_of_le h1 with h2 | h2
      · exact hw h2
      · exact Nat.le_antisymm hl (h2 ▸ hnw (Nat.le_of_eq h2.symm))
    clear hnw hw
    subst hlen
    rw [if_pos h1, if_neg (by omega)]
    omega
  · have h2 := hnw (Nat.le_of_lt (Nat.lt_of_not_le h1))
    clear hnw hw
    rw [if_neg h1]; split <;> omega

/-- freeing the `t` oldest elements moves the start and keeps the shape -/
theorem drop_arith {c a n len t : Nat} (ht : t ≤ n) (hn : n ≤ c) (ha : a < c ∨ a = 0)
    (hl : len ≤ c) (hnw : a + n ≤ c → a + n ≤ len) (hw : c < a + n → len = c) :
    (wrap c (a + t) < c ∨ wrap c (a + t) = 0) ∧
    (wrap c (a + t) + (n - t) ≤ c → wrap c (a + t) + (n - t) ≤ len) ∧
    (c < wrap c (a + t) + (n - t) → len = c) := by
  unfold wrap
  by_cases h1 : c ≤ a + t
  · -- the freed part reaches the end of the buffer, which is therefore full
    have hlen : len = c := by
      rcases Nat.lt_or_eq_of_le (Nat.le_trans h1 (Nat.add_le_add_left ht a)) with h2 | h2
      · exact hw h2
      · exact Nat.le_antisymm hl (h2 ▸ hnw (Nat.le_of_eq h2.symm))
    clear hnw hw
    rw [if_pos h1]
    omega
  · rw [if_neg h1, Nat.add_assoc, Nat.add_sub_cancel' ht]
    exact ⟨.inl (Nat.lt_of_not_le h1), hnw, hw⟩

/-- A wrapped window in a full buffer of length `st + a`, `a` elements up to the end of the buffer
and `b` from its beginning, laid out afresh from position 0 as `set_cap` does.  The `k`-th element
stays the `k`-th element. -/
theorem relayout {α : Type} (buf : List α) {st a b : Nat} (hlen : buf.length = st + a)
    (hb : b ≤ st) :
    (buf.drop st ++ buf.take b).length = a + b ∧
    ∀ k, k < a + b → (buf.drop st ++ buf.take b)[k]? = buf[wrap (st + a) (st + k)]? := by
  have hd : (buf.drop st).length = a := by rw [List.length_drop, hlen, Nat.add_sub_cancel_left]
  refine ⟨by rw [List.length_append, hd, List.length_take, hlen, Nat.min_eq_left (by omega)],
    fun k hk => ?_⟩
  unfold wrap
  by_cases hk2 : k < a
  · rw [if_neg (by omega), List.getElem?_append_left (hd ▸ hk2), List.getElem?_drop]
  · obtain ⟨j, rfl⟩ : ∃ j, k = a + j := ⟨k - a, by omega⟩
    rw [if_pos (by omega), List.getElem?_append_right (by omega), hd, List.getElem?_take,
      Nat.add_sub_cancel_left, if_pos (by omega)]
    congr 1
    omega

/-! ### the window as a list -/

theorem Inv.two_cap {s : Inflights} (h : Inv s) {k : Nat} (hk : k < s.cap) :
    s.start + k < 2 * s.cap := by
  have := h.start_lt; omega

theorem items_eq_contents (s : Inflights) (h : Inv s) : s.items = s.contents := by
  unfold items contents
  apply List.map_congr_left
  intro k hk
  have hk' : k < s.cap := Nat.lt_of_lt_of_le (List.mem_range.mp hk) h.count_le
  rw [← wrap_eq_mod (h.two_cap hk')]; rfl

@[simp] theorem items_length (s : Inflights) : s.items.length = s.count := by
  simp [items]

theorem items_getElem? (s : Inflights) (k : Nat) :
    s.items[k]? = if k < s.count then some ((s.buffer[s.widx k]?).getD 0) else none := by
  unfold items
  simp only [List.getElem?_map]
  by_cases hk : k < s.count
  · simp [hk]
  · simp [hk]

theorem items_eq_nil_iff (s : Inflights) : s.items = [] ↔ s.count = 0 := by
  rw [← List.length_eq_zero_iff, items_length]

theorem widx_lt (s : Inflights) (h : Inv s) (k : Nat) (hk : k < s.count) :
    s.widx k < s.buffer.length :=
  wrap_lt_len hk h.count_le h.start_lt h.noWrap h.wrap

/-- stepping `k` slots on from the `t`-th element, rotating if need be, reaches the `t + k`-th -/
theorem widx_add (s : Inflights) (h : Inv s) (t k : Nat) (ht : t < s.count) (hk : t + k ≤ s.count) :
    (if s.cap ≤ s.widx t + k then s.widx t + k - s.cap else s.widx t + k) = s.widx (t + k) := by
  show wrap s.cap (wrap s.cap (s.start + t) + k) = wrap s.cap (s.start + (t + k))
  have := h.start_lt; have := h.count_le
  rw [wrap_add (by omega), Nat.add_assoc]

theorem buffer_at (s : Inflights) (h : Inv s) (k : Nat) (hk : k < s.count) :
    s.buffer[s.widx k]? = some ((s.buffer[s.widx k]?).getD 0) := by
  rw [List.getElem?_eq_getElem (widx_lt s h k hk)]; rfl

theorem items_drop (s : Inflights) (i : Nat) (hi : i < s.count) :
    s.items.drop i = (s.buffer[s.widx i]?).getD 0 :: s.items.drop (i + 1) := by
  have hl : i < s.items.length := by simpa using hi
  rw [List.drop_eq_getElem_cons hl]
  congr 1
  have := items_getElem? s i
  rw [if_pos hi, List.getElem?_eq_getElem hl] at this
  exact Option.some.inj this

/-- two rings with the same count whose slots agree on the window have the same items -/
theorem items_congr (s t : Inflights) (hc : t.count = s.count)
    (h : ∀ k, k < s.count → (t.buffer[t.widx k]?).getD 0 = (s.buffer[s.widx k]?).getD 0) :
    t.items = s.items := by
  apply List.ext_getElem?
  intro k
  rw [items_getElem?, items_getElem?, hc]
  by_cases hk : k < s.count
  · rw [if_pos hk, if_pos hk, h k hk]
  · rw [if_neg hk, if_neg hk]

theorem inv_new (c : Nat) : Inv (new c) := by
  constructor <;> simp [new]

/-- abstraction function: what the ring means as a FIFO -/
def abs (s : Inflights) : Fifo := { items := s.items, cap := s.cap, pending := s.incomingCap }

theorem full_abs (s : Inflights) : s.full = s.abs.full := by
  simp [full, Fifo.full, abs]

/-- no reduction of the capacity is pending on an empty window -/
theorem Inv.pending_none {s : Inflights} (h : Inv s) (hc : s.count = 0) : s.incomingCap = none := by
  cases hic : s.incomingCap with
  | none => rfl
  | some c => have := (h.pend c hic).1; omega

/-! ### `reset`, `maybe_free_buffer`, `set_cap` -/

theorem reset_refines (s : Inflights) (_h : Inv s) :
    Inv s.reset ∧ s.reset.abs = s.abs.reset := by
  refine ⟨?_, ?_⟩
  · constructor <;> simp [reset]
  · simp [reset, abs, Fifo.reset, items]

theorem maybeFreeBuffer_refines (s : Inflights) (h : Inv s) :
    Inv s.maybeFreeBuffer ∧ s.maybeFreeBuffer.abs = s.abs := by
  unfold maybeFreeBuffer
  by_cases hc : s.count = 0
  · rw [if_pos hc]
    refine ⟨⟨h.count_le, .inr rfl, Nat.zero_le _, fun _ => by rw [hc]; exact Nat.le_refl 0,
      fun hw => ?_, h.pend, fun _ => rfl⟩, ?_⟩
    · have := h.count_le
      simp only [hc] at hw; omega
    · simp [abs, items, hc]
  · rw [if_neg hc]; exact ⟨h, rfl⟩

theorem setCap_refines (s : Inflights) (h : Inv s) (n : Nat) :
    ∃ s', s.setCap n = .ok s' ∧ Inv s' ∧ s'.abs = s.abs.setCap n := by
  have h1 := h.count_le; have h2 := h.start_lt; have h3 := h.len_le
  unfold setCap
  by_cases hcn : s.cap = n
  · -- same capacity: a pending reduction is dropped
    subst hcn
    rw [if_pos rfl]
    exact ⟨_, rfl, ⟨h1, h2, h3, h.noWrap, h.wrap, (fun _ hc => nomatch hc), h.unalloc⟩,
      (if_pos (Nat.le_refl s.cap)).symm⟩
  · rw [if_neg hcn]
    by_cases hlt : s.cap < n
    · rw [if_pos hlt]
      have hle : s.abs.cap ≤ n := Nat.le_of_lt hlt
      by_cases hw : s.start + s.count ≤ s.cap
      · -- growing, window not wrapped: `reserve` only
        rw [if_pos hw]
        refine ⟨_, rfl, ⟨Nat.le_trans h1 (Nat.le_of_lt hlt), h2.imp_left (Nat.lt_trans · hlt),
          Nat.le_trans h3 (Nat.le_of_lt hlt), fun _ => h.noWrap hw,
          fun hw' => absurd hw' (Nat.not_lt.mpr (Nat.le_trans hw (Nat.le_of_lt hlt))),
          (fun _ hc => nomatch hc), h.unalloc⟩, ?_⟩
        rw [Fifo.setCap, if_pos hle]
        simp only [abs, Fifo.mk.injEq, and_true]
        refine items_congr s _ rfl (fun k hk => ?_)
        show (s.buffer[wrap n (s.start + k)]?).getD 0 = (s.buffer[wrap s.cap (s.start + k)]?).getD 0
        unfold wrap
        rw [if_neg (by omega), if_neg (by omega)]
      · -- growing, window wrapped: the two pieces are laid out afresh from position 0
        rw [if_neg hw]
        have hlen : s.buffer.length = s.cap := h.wrap (Nat.lt_of_not_le hw)
        have hst : s.start < s.cap :=
          h2.resolve_right (fun e => hw (by rw [e, Nat.zero_add]; exact h1))
        have hcn' : s.count ≤ n := Nat.le_trans h1 (Nat.le_of_lt hlt)
        rw [if_neg (fun hne => hne hlen.symm), if_neg (Nat.not_lt.mpr (hlen ▸ Nat.le_of_lt hst)),
          if_neg (Nat.not_lt.mpr (Nat.le_of_lt hst)),
          if_neg (Nat.not_lt.mpr (Nat.sub_le_of_le_add
            (Nat.add_comm _ _ ▸ Nat.le_of_lt (Nat.lt_of_not_le hw)))),
          if_neg (Nat.not_lt.mpr (Nat.le_trans (Nat.sub_le _ _) (hlen ▸ h1)))]
        -- `a` elements up to the end of the buffer, `b` from its beginning
        obtain ⟨a, ha⟩ := Nat.exists_eq_add_of_le (Nat.le_of_lt hst)
        obtain ⟨b, hb⟩ := Nat.exists_eq_add_of_le (Nat.le_of_lt
          (Nat.lt_of_add_lt_add_left (ha ▸ Nat.lt_of_not_le hw)))
        rw [show s.count - (s.cap - s.start) = b by
          rw [ha, Nat.add_sub_cancel_left, hb, Nat.add_sub_cancel_left]]
        have hbs : b ≤ s.start := by
          have : a + b ≤ a + s.start := by rw [← hb, Nat.add_comm a, ← ha]; exact h1
          exact Nat.le_of_add_le_add_left this
        obtain ⟨hl', hget⟩ := relayout s.buffer (b := b) (hlen.trans ha) hbs
        refine ⟨_, rfl, ⟨hcn', .inr rfl, by rw [hl', ← hb]; exact hcn',
          fun _ => by rw [hl']; exact Nat.le_of_eq ((Nat.zero_add _).trans hb),
          fun hw' => absurd hw' (Nat.not_lt.mpr (by rw [Nat.zero_add]; exact hcn')),
          (fun _ hc => nomatch hc),
          fun ha => absurd (Nat.lt_of_le_of_lt (Nat.zero_le _) hlt) (of_decide_eq_false ha)⟩, ?_⟩
        rw [Fifo.setCap, if_pos hle]
        simp only [abs, Fifo.mk.injEq, and_true]
        refine items_congr s _ rfl (fun k hk => ?_)
        show ((s.buffer.drop s.start ++ s.buffer.take b)[wrap n (0 + k)]?).getD 0
          = (s.buffer[wrap s.cap (s.start + k)]?).getD 0
        rw [ha, ← hget k (hb ▸ hk), Nat.zero_add,
          show wrap n k = k from if_neg (Nat.not_le.mpr (Nat.lt_of_lt_of_le hk hcn'))]
    · rw [if_neg hlt]
      have hnle : ¬ s.abs.cap ≤ n := fun hle => hcn (by have : s.cap ≤ n := hle; omega)
      rw [Fifo.setCap, if_neg hnle]
      by_cases hc0 : s.count = 0
      · -- shrinking an empty window takes effect at once
        have hi : s.abs.items = [] := (items_eq_nil_iff s).2 hc0
        rw [if_pos hc0, if_pos hi]
        refine ⟨_, rfl, ?_, ?_⟩
        · cases ha : s.alloc
          · have hb := h.unalloc ha
            constructor <;> simp [hc0, hb]
          · constructor <;> simp [hc0]
        · simp [abs, items, hc0]
      · -- shrinking a non-empty window is deferred
        have hi : ¬ s.abs.items = [] := mt (items_eq_nil_iff s).1 hc0
        rw [if_neg hc0, if_neg hi]
        exact ⟨_, rfl, ⟨h1, h2, h3, h.noWrap, h.wrap,
          fun c hc => ⟨Nat.pos_of_ne_zero hc0, by cases hc; show n < s.cap; omega⟩, h.unalloc⟩, rfl⟩

/-! ### `add` -/

theorem add_full (s : Inflights) (x : Nat) (hf : s.full = true) :
    s.add x = .error "inflights.add.full" := by
  simp [add, hf]

theorem not_full_lt (s : Inflights) (h : Inv s) (hf : s.full = false) : s.count < s.cap := by
  have h1 := h.count_le
  simp only [full, Bool.or_eq_false_iff, beq_eq_false_iff_ne] at hf
  omega

/-- the state `add` produces when it does not panic -/
def put (s : Inflights) (x : Nat) : Inflights :=
  { s with
    buffer := if s.widx s.count = s.buffer.length then s.buffer ++ [x]
              else s.buffer.set (s.widx s.count) x,
    count := s.count + 1,
    alloc := if s.alloc then true else decide (0 < s.cap) }

theorem add_eq_put (s : Inflights) (h : Inv s) (x : Nat) (hf : s.full = false) :
    s.add x = .ok (s.put x) := by
  have hlt := not_full_lt s h hf
  have hbuf : (if s.alloc then s.buffer else []) = s.buffer := by
    cases ha : s.alloc
    · simp [h.unalloc ha]
    · simp
  have hdbg : (!s.alloc && (s.count ≠ 0 || s.start ≠ 0 || s.incomingCap.isSome)) = false := by
    cases ha : s.alloc
    · -- nothing has been stored in a buffer that was never allocated
      have h4 := h.noWrap; have h5 := h.wrap; have h2 := h.start_lt
      rw [h.unalloc ha] at h4 h5
      simp only [List.length_nil] at h4 h5
      have hc : s.count = 0 := by omega
      have hs : s.start = 0 := by omega
      simp [hc, hs, h.pending_none hc]
    · simp
  unfold add
  rw [hf, hdbg]
  simp only [Bool.false_eq_true, if_false, hbuf]
  have hnext : (if s.cap ≤ s.start + s.count then s.start + s.count - s.cap else s.start + s.count)
      = s.widx s.count := rfl
  have hnl : s.widx s.count ≤ s.buffer.length :=
    (put_arith hlt h.start_lt h.len_le h.noWrap h.wrap).1
  rw [hnext, if_neg (Nat.not_lt.mpr hnl)]
  rfl

theorem put_inv (s : Inflights) (h : Inv s) (x : Nat) (hlt : s.count < s.cap) : Inv (s.put x) := by
  obtain ⟨_, hl, hnw, hw⟩ := put_arith hlt h.start_lt h.len_le h.noWrap h.wrap
  have hlen : (s.put x).buffer.length =
      if s.widx s.count = s.buffer.length then s.buffer.length + 1 else s.buffer.length := by
    simp only [put]; split <;> simp
  refine ⟨hlt, h.start_lt, hlen ▸ hl, hlen ▸ hnw, hlen ▸ hw,
    fun c hc => ⟨Nat.succ_pos _, (h.pend c hc).2⟩, fun ha => ?_⟩
  -- the capacity is positive, so the buffer counts as allocated
  simp only [put] at ha
  split at ha
  · cases ha
  · exact absurd (of_decide_eq_false ha) (by omega)

theorem put_items (s : Inflights) (h : Inv s) (x : Nat) (hlt : s.count < s.cap) :
    (s.put x).items = s.items ++ [x] := by
  have hnl : s.widx s.count ≤ s.buffer.length :=
    (put_arith hlt h.start_lt h.len_le h.noWrap h.wrap).1
  apply List.ext_getElem?
  intro k
  rw [items_getElem?, List.getElem?_append, items_length]
  show (if k < s.count + 1 then some (((s.put x).buffer[s.widx k]?).getD 0) else none) = _
  by_cases hk : k < s.count
  · rw [if_pos (Nat.lt_succ_of_lt hk), if_pos hk, items_getElem?, if_pos hk]
    have hkl := widx_lt s h k hk
    have hne : s.widx s.count ≠ s.widx k := wrap_ne hk hlt
    simp only [put]
    split
    · rw [List.getElem?_append_left hkl]
    · rw [List.getElem?_set_ne hne]
  · by_cases hk2 : k = s.count
    · subst hk2
      rw [if_pos (Nat.lt_succ_self _), if_neg hk]
      simp only [Nat.sub_self, List.getElem?_cons_zero, put]
      split
      · rename_i he
        rw [he, List.getElem?_append_right (Nat.le_refl _)]; simp
      · rw [List.getElem?_set_self (by omega)]; simp
    · rw [if_neg (by omega), if_neg hk, List.getElem?_eq_none (by simp; omega)]

theorem add_refines (s : Inflights) (h : Inv s) (x : Nat) (hf : s.full = false) :
    ∃ s', s.add x = .ok s' ∧ Inv s' ∧ s'.abs = s.abs.add x := by
  have hlt := not_full_lt s h hf
  refine ⟨_, add_eq_put s h x hf, put_inv s h x hlt, ?_⟩
  simp only [abs, Fifo.add, put_items s h x hlt]
  rfl

/-! ### `free_to`, `free_first_one` -/

theorem freeLoop_spec (s : Inflights) (h : Inv s) (to : Nat) :
    ∀ n i, i + n = s.count →
      freeLoop s.buffer s.cap to n (s.widx i) i =
        .ok (s.widx (i + ((s.items.drop i).takeWhile (fun b => decide (b ≤ to))).length),
             i + ((s.items.drop i).takeWhile (fun b => decide (b ≤ to))).length) := by
  intro n
  induction n with
  | zero =>
    intro i hi
    have : s.items.drop i = [] := by
      apply List.drop_of_length_le; simp; omega
    simp [freeLoop, this]
  | succ n ih =>
    intro i hi
    have hic : i < s.count := by omega
    simp only [freeLoop]
    rw [buffer_at s h i hic, items_drop s i hic]
    simp only
    by_cases hb : to < (s.buffer[s.widx i]?).getD 0
    · rw [if_pos hb]
      have : ¬ ((s.buffer[s.widx i]?).getD 0 ≤ to) := by omega
      simp [this]
    · rw [if_neg hb, widx_add s h i 1 hic hic, ih (i + 1) (by omega)]
      have : (s.buffer[s.widx i]?).getD 0 ≤ to := by omega
      simp only [List.takeWhile_cons, this, decide_true, if_true, List.length_cons]
      have e : ∀ t, i + 1 + t = i + (t + 1) := by intro t; omega
      rw [e]

theorem dropWhile_eq_drop_takeWhile {α} (p : α → Bool) (l : List α) :
    l.dropWhile p = l.drop (l.takeWhile p).length := by
  induction l with
  | nil => rfl
  | cons a l ih =>
    by_cases ha : p a
    · simp [ha, ih]
    · simp [ha]

/-- the state after freeing the `t` oldest elements (before a deferred capacity is applied) -/
def dropN (s : Inflights) (t : Nat) : Inflights := { s with count := s.count - t, start := s.widx t }

theorem dropN_inv (s : Inflights) (h : Inv s) (t : Nat) (ht : t ≤ s.count)
    (hp : s.incomingCap = none ∨ t < s.count) : Inv (s.dropN t) := by
  obtain ⟨ha, hnw, hw⟩ := drop_arith ht h.count_le h.start_lt h.len_le h.noWrap h.wrap
  refine ⟨Nat.le_trans (Nat.sub_le _ _) h.count_le, ha, h.len_le, hnw, hw, fun c hcc => ?_, h.unalloc⟩
  rcases hp with hp | hp
  · rw [show (s.dropN t).incomingCap = s.incomingCap from rfl, hp] at hcc; cases hcc
  · exact ⟨Nat.sub_pos_of_lt hp, (h.pend c hcc).2⟩

theorem dropN_items (s : Inflights) (h : Inv s) (t : Nat) (ht : t ≤ s.count) :
    (s.dropN t).items = s.items.drop t := by
  apply List.ext_getElem?
  intro k
  rw [items_getElem?, List.getElem?_drop, items_getElem?]
  show (if k < s.count - t then _ else _) = _
  by_cases hk : k < s.count - t
  · rw [if_pos hk, if_pos (by omega)]
    show some ((s.buffer[if s.cap ≤ s.widx t + k then s.widx t + k - s.cap else s.widx t + k]?).getD 0) = _
    rw [widx_add s h t k (by omega) (by omega)]
  · rw [if_neg hk, if_neg (by omega)]

theorem freeTo_refines (s : Inflights) (h : Inv s) (to : Nat) :
    ∃ s', s.freeTo to = .ok s' ∧ Inv s' ∧ s'.abs = s.abs.freeTo to := by
  unfold freeTo
  by_cases hc0 : s.count = 0
  · rw [if_pos hc0]
    refine ⟨s, rfl, h, ?_⟩
    have hi : s.items = [] := (items_eq_nil_iff s).2 hc0
    simp [abs, Fifo.freeTo, Fifo.drained, hi, h.pending_none hc0]
  · rw [if_neg hc0]
    have hpos : 0 < s.count := by omega
    have hw0 : s.widx 0 = s.start := by
      have := h.start_lt; have := h.count_le
      unfold widx; split <;> omega
    have hb0 := buffer_at s h 0 hpos
    rw [hw0] at hb0
    rw [hb0]
    simp only
    have hitems := items_drop s 0 hpos
    rw [hw0, List.drop_zero] at hitems
    by_cases hlt : to < (s.buffer[s.start]?).getD 0
    · rw [if_pos hlt]
      refine ⟨s, rfl, h, ?_⟩
      have : ¬ ((s.buffer[s.start]?).getD 0 ≤ to) := by omega
      simp only [abs, Fifo.freeTo]
      rw [hitems, List.dropWhile_cons]
      simp only [this, decide_false, Bool.false_eq_true, if_false]
      simp [Fifo.drained]
    · rw [if_neg hlt]
      have hloop := freeLoop_spec s h to s.count 0 (by omega)
      rw [hw0] at hloop
      rw [hloop]
      simp only [Nat.zero_add, List.drop_zero]
      generalize ht : (List.takeWhile (fun b => decide (b ≤ to)) s.items).length = t
      have htle : t ≤ s.count := by
        rw [← ht, ← items_length s]; exact (List.takeWhile_sublist _).length_le
      have hdw : s.items.dropWhile (fun b => decide (b ≤ to)) = s.items.drop t := by
        rw [dropWhile_eq_drop_takeWhile, ht]
      have hd : ({ s with count := s.count - t, start := s.widx t } : Inflights) = s.dropN t := rfl
      rw [hd]
      have hcnt : (s.dropN t).count = s.count - t := rfl
      have hinc : (s.dropN t).incomingCap = s.incomingCap := rfl
      by_cases hz : s.count - t = 0
      · rw [if_pos hz]
        have hnil : s.items.drop t = [] := by
          apply List.drop_of_length_le; simp; omega
        cases hic : s.incomingCap with
        | none =>
          refine ⟨_, rfl, dropN_inv s h t htle (Or.inl hic), ?_⟩
          simp only [abs, Fifo.freeTo, hdw, dropN_items s h t htle, hnil, Fifo.drained, hinc, hic]
          rfl
        | some c =>
          refine ⟨_, rfl, ?_, ?_⟩
          · constructor <;> simp [hz]
          · simp only [abs, Fifo.freeTo, hdw, hnil, Fifo.drained, hic]
            simp [items, hz]
      · rw [if_neg hz]
        refine ⟨_, rfl, dropN_inv s h t htle (Or.inr (by omega)), ?_⟩
        have hne : s.items.drop t ≠ [] := by
          intro hh
          have := congrArg List.length hh
          simp at this; omega
        simp only [abs, Fifo.freeTo, hdw, dropN_items s h t htle, hinc]
        cases hdr : s.items.drop t with
        | nil => exact absurd hdr hne
        | cons a l => simp [Fifo.drained]; rfl

theorem freeFirstOne_refines (s : Inflights) (h : Inv s) :
    ∃ s', s.freeFirstOne = .ok s' ∧ Inv s' ∧ s'.abs = s.abs.freeFirstOne := by
  unfold freeFirstOne
  by_cases hc : 0 < s.count
  · rw [if_pos hc]
    have hw0 : s.widx 0 = s.start := by
      have := h.start_lt; have := h.count_le
      unfold widx; split <;> omega
    have hb0 := buffer_at s h 0 hc
    rw [hw0] at hb0
    rw [hb0]
    simp only
    have hitems := items_drop s 0 hc
    rw [hw0, List.drop_zero] at hitems
    obtain ⟨s', e, i, a⟩ := freeTo_refines s h ((s.buffer[s.start]?).getD 0)
    refine ⟨s', e, i, ?_⟩
    rw [a]
    simp only [Fifo.freeFirstOne, abs]
    rw [hitems]
  · rw [if_neg hc]
    refine ⟨s, rfl, h, ?_⟩
    have hi : s.items = [] := (items_eq_nil_iff s).2 (by omega)
    simp [abs, Fifo.freeFirstOne, hi]

end Inflights
end RaftModel
