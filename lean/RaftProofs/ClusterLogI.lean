import RaftProofs.ClusterLogH
import RaftProofs.ClusterVoteH

/-!
Cluster-level Log Matching, part I: the chains of a cluster state (logical logs, stored logs, queued
and transported `MsgAppend`s, with their location), the provenance relation `Prov` between the chains
of two consecutive states, and its proof for the four rules of `Cluster.Step`.

The development (parts I, J, K and `ClusterBatchK.lean`) is stated once, in the namespace `Live`, for a predicate
`live` on message queues: the queued `MsgAppend`s of a node are chains of the state only if its queue is `live`.
* `live := allQ` (every queue) gives `At`, `Prov` below and `Trans`, `InvL` of part J;
* `live := fun ms => ¬ Raft.CP.QSnap ms` (`RaftProofs/ClusterLogMute.lean`) skips the queue of a *mute* node (a
  `MsgSnapshot` is queued, so the node sends nothing more before it restarts).
What the proofs need of `live`: a non-empty live queue after a call was live before it (`Live.Mono`), and a
queue that `send` moves to the transport is live.
-/
namespace RaftModel
namespace Cluster
open Node Raft

/-- where a list of entries sits -/
inductive Loc where
  | log (i : Nat)
  | store (i : Nat)
  | queue (i : Nat)
  | net
  deriving DecidableEq

/-- the chain `g` sits at `loc` in state `s` -/
def At (s : Sys) : Loc → LLog → Prop
  | .log i, g => ∃ st, s.node i = some st ∧ g = st.raft.raftLog.abs
  | .store i, g => ∃ st, s.node i = some st ∧ g = storeLog st.raft.raftLog.store
  | .queue i, g => ∃ st x, s.node i = some st ∧ x ∈ st.raft.msgs ∧ x.msgType = .msgAppend ∧ g = msgLog x
  | .net, g => ∃ x, x ∈ s.net ∧ x.msgType = .msgAppend ∧ g = msgLog x

/-- the volatile locations of node `k`: what a crash of `k` destroys -/
def Vol (k : Nat) : Loc → Prop
  | .log i => i = k
  | .queue i => i = k
  | _ => False

/-- the locations of node `k` -/
def OfK (k : Nat) : Loc → Prop
  | .log i => i = k
  | .queue i => i = k
  | .store i => i = k
  | .net => False

/-- **provenance**: every link of a chain of `s'` is (at most as informative as) a link of a chain of
`s` — at the same place, or at node `k` or in the transport; a link of a volatile place of `k` moves
to a durable place only in a persisting step (`pers`) — or it is *fresh*: appended by `k`, leader in
`s'`, with its term, beyond the last index it had in `s` -/
def Prov (s s' : Sys) (k : Nat) (st st' : NState) (pers : Prop) : Prop :=
  ∀ loc' g', At s' loc' g' → ∀ i e, g'.entryAt i = some e →
    (∃ loc g, At s loc g ∧ g.entryAt i = some e ∧
      (∀ p, g'.prevTerm i = some p → g.prevTerm i = some p) ∧
      (loc = loc' ∨ OfK k loc ∨ loc = .net) ∧ (Vol k loc → Vol k loc' ∨ pers)) ∨
    (Vol k loc' ∧ st'.raft.state = .leader ∧ e.term = st'.raft.term ∧
      st.raft.raftLog.lastIndex < i ∧ st'.raft.raftLog.abs.entryAt i = some e ∧
      ∀ p, g'.prevTerm i = some p → st'.raft.raftLog.abs.prevTerm i = some p)

/-- every queue counts -/
abbrev allQ : List Message → Prop := fun _ => True

namespace Live
variable {live : List Message → Prop}

/-- a queue of `st'` that is live and not empty comes from a live queue of `st` -/
def Mono (live : List Message → Prop) (st st' : NState) : Prop :=
  live st'.raft.msgs → st'.raft.msgs ≠ [] → live st.raft.msgs

/-- the chain `g` sits at `loc` in state `s`; the queue of a node counts only if it is `live` -/
def At (live : List Message → Prop) (s : Sys) : Loc → LLog → Prop
  | .log i, g => ∃ st, s.node i = some st ∧ g = st.raft.raftLog.abs
  | .store i, g => ∃ st, s.node i = some st ∧ g = storeLog st.raft.raftLog.store
  | .queue i, g => ∃ st x, s.node i = some st ∧ (x ∈ st.raft.msgs ∧ live st.raft.msgs) ∧
      x.msgType = .msgAppend ∧ g = msgLog x
  | .net, g => ∃ x, x ∈ s.net ∧ x.msgType = .msgAppend ∧ g = msgLog x

/-- **provenance**: every link of a chain of `s'` is (at most as informative as) a link of a chain of
`s` — at the same place, or at node `k` or in the transport; a link of a volatile place of `k` moves
to a durable place only in a persisting step (`pers`) — or it is *fresh*: appended by `k`, leader in
`s'`, with its term, beyond the last index it had in `s` -/
def Prov (live : List Message → Prop) (s s' : Sys) (k : Nat) (st st' : NState) (pers : Prop) : Prop :=
  ∀ loc' g', At live s' loc' g' → ∀ i e, g'.entryAt i = some e →
    (∃ loc g, At live s loc g ∧ g.entryAt i = some e ∧
      (∀ p, g'.prevTerm i = some p → g.prevTerm i = some p) ∧
      (loc = loc' ∨ OfK k loc ∨ loc = .net) ∧ (Vol k loc → Vol k loc' ∨ pers)) ∨
    (Vol k loc' ∧ st'.raft.state = .leader ∧ e.term = st'.raft.term ∧
      st.raft.raftLog.lastIndex < i ∧ st'.raft.raftLog.abs.entryAt i = some e ∧
      ∀ p, g'.prevTerm i = some p → st'.raft.raftLog.abs.prevTerm i = some p)

/-- the places that do not belong to `k` and are not the transport are untouched -/
theorem at_other {s s' : Sys} {k : Nat} (hoth : ∀ j, j ≠ k → s'.node j = s.node j)
    {loc : Loc} {g : LLog} (hl : ¬ OfK k loc) (hn : loc ≠ .net) (h : At live s' loc g) : At live s loc g := by
  cases loc with
  | log i =>
    have : i ≠ k := hl
    obtain ⟨st, h1, h2⟩ := h
    exact ⟨st, by rw [← hoth i this]; exact h1, h2⟩
  | store i =>
    have : i ≠ k := hl
    obtain ⟨st, h1, h2⟩ := h
    exact ⟨st, by rw [← hoth i this]; exact h1, h2⟩
  | queue i =>
    have : i ≠ k := hl
    obtain ⟨st, x, h1, h2⟩ := h
    exact ⟨st, x, by rw [← hoth i this]; exact h1, h2⟩
  | net => exact absurd rfl hn

theorem prov_same {s : Sys} {k : Nat} {st st' : NState} {pers : Prop} {loc : Loc} {g : LLog}
    {i : Nat} {e : Entry} (h : At live s loc g) (he : g.entryAt i = some e) :
    (∃ loc0 g0, At live s loc0 g0 ∧ g0.entryAt i = some e ∧
      (∀ p, g.prevTerm i = some p → g0.prevTerm i = some p) ∧
      (loc0 = loc ∨ OfK k loc0 ∨ loc0 = .net) ∧ (Vol k loc0 → Vol k loc ∨ pers)) ∨
    (Vol k loc ∧ st'.raft.state = .leader ∧ e.term = st'.raft.term ∧
      st.raft.raftLog.lastIndex < i ∧ st'.raft.raftLog.abs.entryAt i = some e ∧
      ∀ p, g.prevTerm i = some p → st'.raft.raftLog.abs.prevTerm i = some p) :=
  .inl ⟨loc, g, h, he, fun _ hp => hp, .inl rfl, fun hv => .inl hv⟩

/-- the links of the new logical log of `k` after a call -/
theorem prov_log {s : Sys} {k : Nat} {st st' : NState} {m : Message}
    (hk : s.node k = some st)
    (hlog : Sub st'.raft.raftLog.abs st.raft.raftLog.abs ∨ Grew st.raft st'.raft ∨
      (m.msgType = .msgAppend ∧ st'.raft.state ≠ .leader ∧
        DerivedFrom (fun g => g = st.raft.raftLog.abs ∨ g = msgLog m) st'.raft.raftLog.abs))
    (hm : m.msgType = .msgAppend → m ∈ s.net) (i : Nat) (e : Entry)
    (he : st'.raft.raftLog.abs.entryAt i = some e) :
    (∃ loc g, At live s loc g ∧ g.entryAt i = some e ∧
      (∀ p, st'.raft.raftLog.abs.prevTerm i = some p → g.prevTerm i = some p) ∧
      (OfK k loc ∨ loc = .net) ∧ (Vol k loc → loc = .log k)) ∨
    (st'.raft.state = .leader ∧ e.term = st'.raft.term ∧ st.raft.raftLog.lastIndex < i) := by
  have hatL : At live s (.log k) st.raft.raftLog.abs := ⟨st, hk, rfl⟩
  rcases hlog with c | ⟨es, c⟩ | ⟨c1, _, c3⟩
  · obtain ⟨h1, h2⟩ := c i e he
    exact .inl ⟨.log k, _, hatL, h1, h2, .inl rfl, fun _ => rfl⟩
  · have hla : st.raft.raftLog.lastIndex = st.raft.raftLog.abs.lastIndex := by
      have hls := c.last
      have hl' := c.inv.lastIndex_abs
      rw [c.abs] at hl'
      simp only [LLog.lastIndex, List.length_append] at hl' ⊢
      omega
    rcases Nat.lt_or_ge st.raft.raftLog.lastIndex i with hlt | hge
    · right
      refine ⟨c.leader, ?_, hlt⟩
      rw [c.abs, LLog.append_entryAt_new _ _ _ (by omega)] at he
      exact c.terms e (List.mem_of_getElem? he)
    · left
      obtain ⟨h1, h2⟩ := LLog.append_old_link st.raft.raftLog.abs es i (by omega)
      rw [c.abs, h1] at he
      refine ⟨.log k, _, hatL, he, ?_, .inl rfl, fun _ => rfl⟩
      intro p hp
      rw [c.abs, h2] at hp
      exact hp
  · obtain ⟨g, hg, h1, h2⟩ := c3 i e he
    rcases hg with hg | hg
    · subst hg
      exact .inl ⟨.log k, _, hatL, h1, h2, .inl rfl, fun _ => rfl⟩
    · subst hg
      exact .inl ⟨.net, _, ⟨m, hm c1, c1, rfl⟩, h1, h2, .inr rfl, fun hv => (by cases hv)⟩

/-- **provenance for a call / a delivery at node `k`**, from the clauses of the effect of the call: what became of the
logical log and of the stored entries, and for every queued `MsgAppend` that every link of its chain is a link of
the old log, of the new log, or of a `MsgAppend` that was queued before -/
theorem prov_node_g {s : Sys} {k : Nat} {st st' : NState} {m : Message}
    (hk : s.node k = some st)
    (hlog : Sub st'.raft.raftLog.abs st.raft.raftLog.abs ∨ Grew st.raft st'.raft ∨
      (m.msgType = .msgAppend ∧ st'.raft.state ≠ .leader ∧
        DerivedFrom (fun g => g = st.raft.raftLog.abs ∨ g = msgLog m) st'.raft.raftLog.abs))
    (hsto : Sub (storeLog st'.raft.raftLog.store) (storeLog st.raft.raftLog.store) ∨
      (Sub (storeLog st'.raft.raftLog.store) st.raft.raftLog.abs ∧
        st'.raft.raftLog.store.hardState.term = st'.raft.term))
    (hq : ∀ x ∈ st'.raft.msgs, x.msgType = .msgAppend → live st'.raft.msgs →
      DerivedFrom (fun g => g = st.raft.raftLog.abs ∨ g = st'.raft.raftLog.abs ∨
        Bt.Kept st.raft.msgs g) (msgLog x))
    (hm : m.msgType = .msgAppend → m ∈ s.net) (hmono : Mono live st st') :
    Prov live s (s.setNode k st') k st st' (st'.raft.raftLog.store.hardState.term = st'.raft.term) := by
  have hoth : ∀ j, j ≠ k → (s.setNode k st').node j = s.node j :=
    fun j hj => node_setNode_ne s k j st' hj
  have hself : (s.setNode k st').node k = some st' := node_setNode_self s k st'
  have hatL : At live s (.log k) st.raft.raftLog.abs := ⟨st, hk, rfl⟩
  -- the analysis of a link of the new logical log, in `Prov` format for a volatile target
  have viaLog : ∀ (loc' : Loc) (g' : LLog) (i : Nat) (e : Entry), Vol k loc' →
      st'.raft.raftLog.abs.entryAt i = some e →
      (∀ p, g'.prevTerm i = some p → st'.raft.raftLog.abs.prevTerm i = some p) →
      (∃ loc g, At live s loc g ∧ g.entryAt i = some e ∧
        (∀ p, g'.prevTerm i = some p → g.prevTerm i = some p) ∧
        (loc = loc' ∨ OfK k loc ∨ loc = .net) ∧
        (Vol k loc → Vol k loc' ∨ st'.raft.raftLog.store.hardState.term = st'.raft.term)) ∨
      (Vol k loc' ∧ st'.raft.state = .leader ∧ e.term = st'.raft.term ∧
        st.raft.raftLog.lastIndex < i ∧ st'.raft.raftLog.abs.entryAt i = some e ∧
        ∀ p, g'.prevTerm i = some p → st'.raft.raftLog.abs.prevTerm i = some p) := by
    intro loc' g' i e hv he hp
    rcases prov_log hk hlog hm i e he with ⟨loc, g, h1, h2, h3, h4, _⟩ | ⟨h1, h2, h3⟩
    · exact .inl ⟨loc, g, h1, h2, fun p hpp => h3 p (hp p hpp), .inr h4, fun _ => .inl hv⟩
    · exact .inr ⟨hv, h1, h2, h3, he, hp⟩
  intro loc' g' hat i e he
  by_cases hof : OfK k loc'
  · cases loc' with
    | log j =>
      have hj : j = k := hof
      subst hj
      obtain ⟨st2, h1, h2⟩ := hat
      rw [hself] at h1
      cases h1
      subst h2
      exact viaLog _ _ i e rfl he (fun _ hp => hp)
    | store j =>
      have hj : j = k := hof
      subst hj
      obtain ⟨st2, h1, h2⟩ := hat
      rw [hself] at h1
      cases h1
      subst h2
      rcases hsto with c | ⟨c, c2⟩
      · obtain ⟨e1, e2⟩ := c i e he
        exact .inl ⟨.store j, _, ⟨st, hk, rfl⟩, e1, e2, .inl rfl, fun hv => (by cases hv)⟩
      · obtain ⟨e1, e2⟩ := c i e he
        exact .inl ⟨.log j, _, hatL, e1, e2, .inr (.inl rfl), fun _ => .inr c2⟩
    | queue j =>
      have hj : j = k := hof
      subst hj
      obtain ⟨st2, x, h1, hx, hty, h2⟩ := hat
      rw [hself] at h1
      cases h1
      subst h2
      obtain ⟨hx, hnq'⟩ := hx
      have hnq : live st.raft.msgs := hmono hnq' (List.ne_nil_of_mem hx)
      obtain ⟨y, hy, e1, e2⟩ := hq x hx hty hnq' i e he
      rcases hy with rfl | rfl | ⟨x0, hx0, hty0, rfl⟩
      · exact .inl ⟨.log j, _, hatL, e1, e2, .inr (.inl rfl), fun _ => .inl rfl⟩
      · exact viaLog _ _ i e rfl e1 e2
      · exact .inl ⟨.queue j, _, ⟨st, x0, hk, ⟨hx0, hnq⟩, hty0, rfl⟩, e1, e2, .inl rfl,
          fun hv => .inl hv⟩
    | net => exact absurd hof (by intro h; cases h)
  · by_cases hn : loc' = .net
    · subst hn
      exact prov_same (k := k) (st := st) (st' := st') (by exact hat) he
    · exact prov_same (at_other hoth hof hn hat) he

/-- … for an effect in the vocabulary of the layer without batching -/
theorem prov_node {s : Sys} {k : Nat} {st st' : NState} {m : Message}
    (hk : s.node k = some st) (heff : Eff st.raft st'.raft m)
    (hm : m.msgType = .msgAppend → m ∈ s.net) (hmono : Mono live st st') :
    Prov live s (s.setNode k st') k st st' (st'.raft.raftLog.store.hardState.term = st'.raft.term) :=
  prov_node_g hk heff.log heff.sto (fun x hx hty _ => by
    rcases heff.q x hx hty with c | c | c
    · exact DerivedFrom.of_mem (.inr (.inr ⟨x, c, hty, rfl⟩))
    · exact DerivedFrom.of_sub c.2 (.inl rfl)
    · exact DerivedFrom.of_sub c.2 (.inr (.inl rfl))) hm hmono

/-- **provenance for `send` at node `k`**: the queue moves to the transport -/
theorem prov_send {s : Sys} {k : Nat} {st st' : NState} (hk : s.node k = some st)
    (hl : st'.raft.raftLog = st.raft.raftLog) (hq : st'.raft.msgs = []) (pers : Prop)
    (hp : pers) (hnq : live st.raft.msgs) :
    Prov live s { (s.setNode k st') with net := s.net ++ st.raft.msgs } k st st' pers := by
  have hoth : ∀ j, j ≠ k →
      ({ (s.setNode k st') with net := s.net ++ st.raft.msgs } : Sys).node j = s.node j :=
    fun j hj => node_setNode_ne s k j st' hj
  have hself : ({ (s.setNode k st') with net := s.net ++ st.raft.msgs } : Sys).node k = some st' :=
    node_setNode_self s k st'
  intro loc' g' hat i e he
  by_cases hof : OfK k loc'
  · cases loc' with
    | log j =>
      have hj : j = k := hof
      subst hj
      obtain ⟨st2, h1, h2⟩ := hat
      rw [hself] at h1
      cases h1
      subst h2
      exact .inl ⟨.log j, _, ⟨st, hk, rfl⟩, (by rw [← hl]; exact he),
        fun p hpp => (by rw [← hl]; exact hpp), .inl rfl, fun hv => .inl hv⟩
    | store j =>
      have hj : j = k := hof
      subst hj
      obtain ⟨st2, h1, h2⟩ := hat
      rw [hself] at h1
      cases h1
      subst h2
      exact .inl ⟨.store j, _, ⟨st, hk, rfl⟩, (by rw [← hl]; exact he),
        fun p hpp => (by rw [← hl]; exact hpp), .inl rfl, fun hv => .inl hv⟩
    | queue j =>
      have hj : j = k := hof
      subst hj
      obtain ⟨st2, x, h1, hx, _⟩ := hat
      rw [hself] at h1
      cases h1
      rw [hq] at hx
      cases hx.1
    | net => exact absurd hof (by intro h; cases h)
  · by_cases hn : loc' = .net
    · subst hn
      obtain ⟨x, hx, hty, h2⟩ := hat
      subst h2
      rcases List.mem_append.1 hx with hx | hx
      · exact prov_same (k := k) (st := st) (st' := st') (loc := .net) ⟨x, hx, hty, rfl⟩ he
      · exact .inl ⟨.queue k, _, ⟨st, x, hk, ⟨hx, hnq⟩, hty, rfl⟩, he, fun _ hpp => hpp, .inr (.inl rfl),
          fun _ => .inr hp⟩
    · exact prov_same (at_other hoth hof hn hat) he

/-- **provenance for a restart of node `k`**: the logical log is the stored one, the queue is empty -/
theorem prov_restart {s : Sys} {k : Nat} {st st' : NState} (hk : s.node k = some st)
    (hl : st'.raft.raftLog.abs = storeLog st.raft.raftLog.store)
    (hs : storeLog st'.raft.raftLog.store = storeLog st.raft.raftLog.store)
    (hq : st'.raft.msgs = []) : Prov live s (s.setNode k st') k st st' False := by
  have hoth : ∀ j, j ≠ k → (s.setNode k st').node j = s.node j :=
    fun j hj => node_setNode_ne s k j st' hj
  have hself : (s.setNode k st').node k = some st' := node_setNode_self s k st'
  have hatS : At live s (.store k) (storeLog st.raft.raftLog.store) := ⟨st, hk, rfl⟩
  intro loc' g' hat i e he
  by_cases hof : OfK k loc'
  · cases loc' with
    | log j =>
      have hj : j = k := hof
      subst hj
      obtain ⟨st2, h1, h2⟩ := hat
      rw [hself] at h1
      cases h1
      subst h2
      exact .inl ⟨.store j, _, hatS, (by rw [← hl]; exact he), fun p hp => (by rw [← hl]; exact hp),
        .inr (.inl rfl), fun hv => (by cases hv)⟩
    | store j =>
      have hj : j = k := hof
      subst hj
      obtain ⟨st2, h1, h2⟩ := hat
      rw [hself] at h1
      cases h1
      subst h2
      exact .inl ⟨.store j, _, hatS, (by rw [← hs]; exact he), fun p hp => (by rw [← hs]; exact hp),
        .inl rfl, fun hv => (by cases hv)⟩
    | queue j =>
      have hj : j = k := hof
      subst hj
      obtain ⟨st2, x, h1, hx, _⟩ := hat
      rw [hself] at h1
      cases h1
      rw [hq] at hx
      cases hx.1
    | net => exact absurd hof (by intro h; cases h)
  · by_cases hn : loc' = .net
    · subst hn
      exact prov_same (k := k) (st := st) (st' := st') (by exact hat) he
    · exact prov_same (at_other hoth hof hn hat) he

end Live

/-! ### every queue live -/

theorem at_live {s : Sys} {loc : Loc} {g : LLog} : At s loc g ↔ Live.At allQ s loc g := by
  cases loc with
  | queue i =>
    exact ⟨fun ⟨st, x, h1, h2, h3⟩ => ⟨st, x, h1, ⟨h2, trivial⟩, h3⟩,
      fun ⟨st, x, h1, h2, h3⟩ => ⟨st, x, h1, h2.1, h3⟩⟩
  | log i => exact Iff.rfl
  | store i => exact Iff.rfl
  | net => exact Iff.rfl

theorem prov_live {s s' : Sys} {k : Nat} {st st' : NState} {pers : Prop} :
    Prov s s' k st st' pers ↔ Live.Prov allQ s s' k st st' pers := by
  constructor
  · intro h loc' g' hat i e he
    rcases h loc' g' (at_live.2 hat) i e he with ⟨loc, g, h1, h2⟩ | c
    · exact .inl ⟨loc, g, at_live.1 h1, h2⟩
    · exact .inr c
  · intro h loc' g' hat i e he
    rcases h loc' g' (at_live.1 hat) i e he with ⟨loc, g, h1, h2⟩ | c
    · exact .inl ⟨loc, g, at_live.2 h1, h2⟩
    · exact .inr c

theorem mono_allQ (st st' : NState) : Live.Mono allQ st st' := fun _ _ => trivial


/-- **provenance for a call / a delivery at node `k`** -/
theorem prov_node {s : Sys} {k : Nat} {st st' : NState} {m : Message}
    (hk : s.node k = some st) (heff : Eff st.raft st'.raft m)
    (hm : m.msgType = .msgAppend → m ∈ s.net) :
    Prov s (s.setNode k st') k st st' (st'.raft.raftLog.store.hardState.term = st'.raft.term) :=
  prov_live.2 (Live.prov_node hk heff hm (mono_allQ st st'))

/-- **provenance for `send` at node `k`**: the queue moves to the transport -/
theorem prov_send {s : Sys} {k : Nat} {st st' : NState} (hk : s.node k = some st)
    (hl : st'.raft.raftLog = st.raft.raftLog) (hq : st'.raft.msgs = []) (pers : Prop)
    (hp : pers) :
    Prov s { (s.setNode k st') with net := s.net ++ st.raft.msgs } k st st' pers :=
  prov_live.2 (Live.prov_send hk hl hq pers hp trivial)

/-- **provenance for a restart of node `k`**: the logical log is the stored one, the queue is empty -/
theorem prov_restart {s : Sys} {k : Nat} {st st' : NState} (hk : s.node k = some st)
    (hl : st'.raft.raftLog.abs = storeLog st.raft.raftLog.store)
    (hs : storeLog st'.raft.raftLog.store = storeLog st.raft.raftLog.store)
    (hq : st'.raft.msgs = []) : Prov s (s.setNode k st') k st st' False :=
  prov_live.2 (Live.prov_restart hk hl hs hq)

end Cluster
end RaftModel
