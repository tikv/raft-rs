import RaftProofs.ClusterCommit5E

/-!
Cluster-level commit safety, `Gx` through `step_follower`, `step_candidate`, the term preamble,
`Raft::step` and `tick`.
-/
namespace RaftModel
namespace Raft
namespace CX
open CC CB VoteOb

variable {f : Prop} {A : Nat → Nat → Nat → Prop} {a r r' : Raft} {m : Message}

/-- forwarding a message to the leader -/
theorem forward_gx {a r r' : Raft} {m x : Message}
    (h : r.send x = .ok r') (h0 : Gx f A a m r)
    (hx : x.msgType = .msgPropose ∨ x.msgType = .msgTransferLeader ∨ x.msgType = .msgReadIndex) :
    Gx f A a m r' := by
  rcases hx with g | g | g <;>
    exact send_gx_plain h h0 (by rw [g]; rfl) (.inl (by rw [g]; intro hc; cases hc)) (by rw [g]; rfl)

/-- **`step_follower`**, entered with nothing queued and the commit index of the start; the input is
not a snapshot -/
theorem stepFollower_gx {e : Option RaftError}
    (hA : ∀ j t x y, y ≤ x → A j t x → A j t y) (hb : FlagUp f r) (hs : r.state = .follower)
    (ho : Old a r) (hcm : r.raftLog.committed = a.raftLog.committed)
    (hms : m.msgType ≠ .msgSnapshot)
    (h : r.stepFollower m = .ok (r', e)) (h0 : Gx f A a m r) : Gx f A a m r' := by
  unfold Raft.stepFollower at h
  split at h
  · -- propose
    split at h
    · cases h; exact h0
    · split at h
      · cases h; exact h0
      · obtain ⟨r1, h1, h⟩ := Res.bind_eq_ok h
        cases h
        rename_i hty _ _
        exact forward_gx h1 h0 (.inl hty)
  · -- append
    obtain ⟨r1, h1, h⟩ := Res.bind_eq_ok h
    cases h
    rename_i hty
    exact handleAppendEntries_gx (r := { r with electionElapsed := 0, leaderId := m.frm }) hs
      (Old.mk' ho) hty h1 (Gx.mk' h0)
  · obtain ⟨r1, h1, h⟩ := Res.bind_eq_ok h
    cases h
    exact handleHeartbeat_gx (r := { r with electionElapsed := 0, leaderId := m.frm }) hs
      (Old.mk' ho) h1 (Gx.mk' h0)
  · rename_i hty; exact absurd hty hms
  · split at h
    · cases h; exact h0
    · obtain ⟨r1, h1, h⟩ := Res.bind_eq_ok h
      cases h
      rename_i hty _
      exact forward_gx h1 h0 (.inr (.inl hty))
  · split at h
    · obtain ⟨r1, h1, h⟩ := Res.bind_eq_ok h
      cases h
      exact hup_gx hA hb h1 h0 ho hcm
    · cases h; exact h0
  · split at h
    · cases h; exact h0
    · obtain ⟨r1, h1, h⟩ := Res.bind_eq_ok h
      cases h
      rename_i hty _
      exact forward_gx h1 h0 (.inr (.inr hty))
  · -- read index response
    split at h
    · simp only [] at h
      split at h
      · rename_i log b hmc
        cases h
        have g0 : Gx f A a m ({ r with readStates := r.readStates ++
            [{ index := m.index, requestCtx := (by assumption : Entry).data }] } : Raft) := Gx.mk' h0
        rcases RaftLog.c04_maybeCommit_spec hmc with ⟨_, hlt, _, _, hl⟩ | ⟨_, hl⟩
        · exact g0.commitUp rfl rfl rfl rfl rfl hl (Nat.le_of_lt hlt)
            (fun hc => by rw [show ({ r with readStates := _, raftLog := log } : Raft).state = r.state
              from rfl, hs] at hc; cases hc)
        · rw [hl]; exact g0
      · cases h
      · cases h
    · cases h; exact h0
  · cases h; exact h0

/-- **`step_candidate`**, entered with nothing queued and the commit index of the start -/
theorem stepCandidate_gx {e : Option RaftError}
    (hA : ∀ j t x y, y ≤ x → A j t x → A j t y) (hb : FlagUp f r) (ho : Old a r)
    (hcm : r.raftLog.committed = a.raftLog.committed)
    (hms : m.msgType ≠ .msgSnapshot)
    (h : r.stepCandidate m = .ok (r', e)) (h0 : Gx f A a m r) : Gx f A a m r' := by
  have hfol : ∀ t l, Gx f A a m (r.becomeFollower t l) ∧ (r.becomeFollower t l).state = .follower ∧
      Old a (r.becomeFollower t l) :=
    fun t l => ⟨becomeFollower_gx t l h0 ho, (RaftProps.C16.becomeFollower_proj r t l).1,
      ho.becomeFollower t l⟩
  unfold Raft.stepCandidate at h
  split at h
  · cases h; exact h0
  · split at h
    · cases h
    · obtain ⟨r1, h1, h⟩ := Res.bind_eq_ok h
      cases h
      rename_i hty _
      obtain ⟨g1, g2, g3⟩ := hfol m.term m.frm
      exact handleAppendEntries_gx g2 g3 hty h1 g1
  · split at h
    · cases h
    · obtain ⟨r1, h1, h⟩ := Res.bind_eq_ok h
      cases h
      obtain ⟨g1, g2, g3⟩ := hfol m.term m.frm
      exact handleHeartbeat_gx g2 g3 h1 g1
  · rename_i hty; exact absurd hty hms
  · split at h
    · cases h; exact h0
    · split at h
      · cases h; exact h0
      · obtain ⟨⟨r1, res⟩, h1, h⟩ := Res.bind_eq_ok h
        obtain ⟨r2, h2, h⟩ := Res.bind_eq_ok h
        cases h
        exact maybeCommitByVote_gx h2 (poll_ok hA _ _ _ _ _ _ h1 h0 ho hb hcm).1
  · split at h
    · cases h; exact h0
    · split at h
      · cases h; exact h0
      · obtain ⟨⟨r1, res⟩, h1, h⟩ := Res.bind_eq_ok h
        obtain ⟨r2, h2, h⟩ := Res.bind_eq_ok h
        cases h
        exact maybeCommitByVote_gx h2 (poll_ok hA _ _ _ _ _ _ h1 h0 ho hb hcm).1
  · cases h; exact h0

/-- the term preamble: the dispatch runs on a state with nothing queued; a consumed message leaves at
most a reply that claims nothing -/
theorem stepTerm_gx {a r r1 : Raft} {m : Message} {b : Bool}
    (h : r.stepTerm m = .ok (r1, b)) (h0 : Gx f A a m r) (ho : Old a r) :
    Gx f A a m r1 ∧ (b = true → Old a r1) := by
  cases stepTerm_inv h with
  | zero | prevote | same => exact ⟨h0, fun _ => ho⟩
  | leased | stale => exact ⟨h0, fun hc => by cases hc⟩
  | follow l => exact ⟨becomeFollower_gx _ _ h0 ho, fun _ => ho.becomeFollower _ _⟩
  | staleAck _ _ _ hs =>
    refine ⟨send_gx hs h0 rfl (fun _ => ?_) (fun hc => by cases hc) (fun hc => by cases hc),
      fun hc => by cases hc⟩
    exact akok_of_fill r _ rfl rfl (.inl rfl)
  | staleReject _ _ _ hs =>
    refine ⟨send_gx hs h0 rfl (fun hc => ?_) (fun _ => ?_) (fun hc => by cases hc),
      fun hc => by cases hc⟩
    · have := hc.1; rw [sendFill_msgType] at this; cases this
    · left; exact (sendFill_vote r _ rfl).1

/-- **`Raft::step`**, entered with nothing queued; the input is not a snapshot, and an accepting
append response is backed by `A` -/
theorem step_gx {e : Option RaftError}
    (hA : ∀ j t x y, y ≤ x → A j t x → A j t y) (hb : FlagUp f r) (hms : m.msgType ≠ .msgSnapshot)
    (hin : ∀ t, AckIn m t → A m.frm t m.index)
    (h : r.step m = .ok (r', e)) (h0 : Gx f A a m r) (ho : Old a r)
    (hcm : r.raftLog.committed = a.raftLog.committed) : Gx f A a m r' := by
  cases step_inv h with
  | consumed hst => exact (stepTerm_gx hst h0 ho).1
  | dispatched hst hd =>
    obtain ⟨g1, o1⟩ := stepTerm_gx hst h0 ho
    have o1 := o1 rfl
    have b1 := hb.of_eq (stepTerm_batch hst)
    have c1 := (stepTerm_cp (P := fun x => x = a.raftLog.committed) hst ⟨hcm⟩).h
    cases hd with
    | hup _ h2 => exact hup_gx hA b1 h2 g1 o1 c1
    | vote _ hv => exact stepVote_gx hv g1
    | candidate _ _ hx => exact stepCandidate_gx hA b1 o1 c1 hms hx g1
    | follower _ hs hx => exact stepFollower_gx hA b1 hs o1 c1 hms hx g1
    | leader _ hs hx =>
      refine stepLeader_gx hA b1 hs o1 c1 (fun hty hrej => ?_) hx g1
      exact hin _ ⟨hty, hrej, stepTerm_ack_term hst hty⟩

theorem stepIgnore_gx (hA : ∀ j t x y, y ≤ x → A j t x → A j t y) (hb : FlagUp f r)
    (hms : m.msgType ≠ .msgSnapshot) (hin : ∀ t, AckIn m t → A m.frm t m.index)
    (h : r.stepIgnore m = .ok r') (h0 : Gx f A a m r) (ho : Old a r)
    (hcm : r.raftLog.committed = a.raftLog.committed) : Gx f A a m r' := by
  obtain ⟨_, h1⟩ := stepIgnore_inv h
  exact step_gx hA hb hms hin h1 h0 ho hcm

theorem tick_gx {b : Bool} (hA : ∀ j t x y, y ≤ x → A j t x → A j t y) (hb : FlagUp f r)
    (hmok : MOK A r) (h : r.tick = .ok (r', b)) : Gx f A r m r' := by
  unfold Raft.tick at h
  have elect : r.tickElection = .ok (r', b) → Gx f A r m r' := by
    intro h
    unfold Raft.tickElection at h
    simp only [] at h
    split at h
    · cases h; exact Gx.mk' (Gx.start hmok)
    · obtain ⟨r1, h1, h⟩ := Res.bind_eq_ok h
      cases h
      have g := stepIgnore_gx (a := r) hA (r := { r with electionElapsed := 0 }) hb
        (by intro hc; cases hc) (noAck_local (by intro hc; cases hc)) h1
        (Gx.mk' (Gx.start hmok)) (Old.mk' Old.rfl) rfl
      exact g.reanchor (by intro hc; cases hc)
  split at h
  · exact elect h
  · exact elect h
  · exact elect h
  · rename_i hs
    obtain ⟨ra, hr, hq, hbt⟩ := tickHeartbeat_inv h
    -- after the check-quorum phase
    have key : (∀ m', Gx f A r m' ra) ∧ Old r ra ∧
        ra.raftLog.committed = r.raftLog.committed ∧ FlagUp f ra := by
      cases hq with
      | early _ => exact ⟨fun _ => Gx.mk' (Gx.start hmok), Old.mk' Old.rfl, rfl, hb⟩
      | unchecked _ _ e =>
        subst e
        split
        · exact ⟨fun _ => Gx.mk' (Gx.mk' (Gx.start hmok)), Old.mk' Old.rfl, rfl, hb⟩
        · exact ⟨fun _ => Gx.mk' (Gx.start hmok), Old.mk' Old.rfl, rfl, hb⟩
      | @checked r2 _ _ h3 =>
        have g := stepIgnore_gx (a := r) hA
          (r := { r with heartbeatElapsed := r.heartbeatElapsed + 1, electionElapsed := 0 }) hb
          (by intro hc; cases hc) (noAck_local (by intro hc; cases hc)) h3
          (Gx.mk' (Gx.start hmok)) (Old.mk' Old.rfl) rfl
        obtain ⟨c1, c2, c3⟩ := cq_step
          (r := { r with heartbeatElapsed := r.heartbeatElapsed + 1, electionElapsed := 0 }) hs h3
        have k2 : (∀ m', Gx f A r m' r2) ∧ Old r r2 ∧
            r2.raftLog.committed = r.raftLog.committed ∧ FlagUp f r2 :=
          ⟨fun _ => g.reanchor (by intro hc; cases hc), by unfold Old; rw [c1]; exact fun _ hx => hx,
            c2, hb.of_eq c3⟩
        split
        · exact ⟨fun _ => Gx.mk' (k2.1 _), Old.mk' k2.2.1, k2.2.2.1, k2.2.2.2⟩
        · exact k2
    obtain ⟨g1, o1, c1, n1⟩ := key
    cases hbt with
    | deposed _ => exact g1 _
    | quiet _ _ => exact g1 _
    | beat _ _ h3 =>
      exact (stepIgnore_gx (a := r) hA (r := { ra with heartbeatElapsed := 0 }) n1
        (by intro hc; cases hc) (noAck_local (by intro hc; cases hc)) h3
        (Gx.mk' (g1 _)) (Old.mk' o1) c1).reanchor (by intro hc; cases hc)

end CX
end Raft
end RaftModel
