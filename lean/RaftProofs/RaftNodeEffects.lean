import RaftProofs.ClusterCommitA
import RaftProofs.ClusterReadOps

/-!
What single operations of the node model do to the fields the per-call relation of the commit layer
reads (`ClusterCommit4A–4I`): the read-only queue, the tracker under `reset` and `record_vote`, the log
under `append_entry`, the index of a message under `send`, and the term preamble of `Raft::step` on a
node that stays leader.
-/
namespace RaftModel
namespace Raft
open RaftProps.C13

/-! ### `ReadOnly` -/

theorem recvAck_index (ro : ReadOnly) (id : Nat) (ctx : Bytes) :
    ∀ p ∈ (ro.recvAck id ctx).1.pendingReadIndex, ∃ q ∈ ro.pendingReadIndex, q.2.index = p.2.index := by
  intro p hp
  obtain ⟨⟨rs0, h0, _, hi⟩, _⟩ := (RD.recvAck_spec ro id ctx).2.2.1 p.1 p.2 hp
  exact ⟨(p.1, rs0), h0, hi.symm⟩

theorem advance_sub {ro ro' : ReadOnly} {ctx : Bytes} {rss : List ReadIndexStatus}
    (h : ro.advance ctx = .ok (ro', rss)) :
    (∀ p ∈ ro'.pendingReadIndex, p ∈ ro.pendingReadIndex) ∧
    (∀ rs ∈ rss, ∃ k, (k, rs) ∈ ro.pendingReadIndex) := by
  obtain ⟨_, _, h3, h4⟩ := RD.advance_spec h
  refine ⟨h3, fun rs hr => ?_⟩
  obtain ⟨_, _, k, _, _, _, hk⟩ := h4 rs hr
  exact ⟨k, hk⟩

theorem addRequest_index {ro ro' : ReadOnly} {i : Nat} {req : Message} {id : Nat}
    (h : ro.addRequest i req id = .ok ro') :
    ∀ p ∈ ro'.pendingReadIndex, p ∈ ro.pendingReadIndex ∨ p.2.index = i := by
  unfold ReadOnly.addRequest at h
  split at h
  · cases h
  · simp only [] at h
    split at h
    · cases h; exact fun p hp => .inl hp
    · cases h
      intro p hp
      rcases List.mem_append.1 hp with c | c
      · exact .inl c
      · rw [List.mem_singleton.1 c]; exact .inr rfl

/-! ### `append_entry`, `send` -/

theorem appendEntry_shape {r r' : Raft} {es : List Entry} {b : Bool}
    (h : r.appendEntry es = .ok (r', b)) :
    ∃ l u, r' = { r with raftLog := l, uncommittedState := u } := by
  unfold Raft.appendEntry at h
  split at h
  · cases h; exact ⟨r.raftLog, r.uncommittedState, rfl⟩
  · rename_i r1 hinc
    have h1 : r1 = { r with uncommittedState := r1.uncommittedState } := by
      unfold Raft.maybeIncreaseUncommittedSize at hinc
      split at hinc
      cases hinc; rfl
    simp only [] at h
    split at h
    · rename_i log k happ
      cases h
      exact ⟨log, r1.uncommittedState, by rw [h1]⟩
    · cases h
    · cases h

theorem sendFill_index (r : Raft) (m : Message) : (r.sendFill m).index = m.index := by
  unfold sendFill
  simp only
  split <;> split <;> split <;> rfl

/-! ### `reset`, `record_vote` -/

theorem reset_progress (r : Raft) (t : Nat) :
    (r.reset t).prs.progress = r.prs.progress.map (fun q => (q.1,
      if q.1 = r.id then
        { (q.2.reset (r.raftLog.lastIndex + 1)) with matched := r.raftLog.persisted,
                                                       committedIndex := r.raftLog.committed }
      else q.2.reset (r.raftLog.lastIndex + 1))) := by
  unfold Raft.reset
  simp only [Raft.mapProgress, Raft.abortLeaderTransfer, Raft.resetRandomizedElectionTimeout,
    ProgressTracker.resetVotes]
  by_cases h : r.term ≠ t <;> simp [h]

theorem reset_readOnly (r : Raft) (t : Nat) :
    (r.reset t).readOnly.pendingReadIndex = [] := by
  rw [(RD.reset_read r t).1]; rfl

theorem _root_.RaftModel.RaftLog.Inv.persisted_le_last {l : RaftLog} (h : l.Inv) : l.persisted ≤ l.lastIndex := by
  have h1 := h.last_succ
  have h2 := h.persisted_lt_off
  omega

theorem recordVote_progress (t : ProgressTracker) (id : Nat) (v : Bool) :
    (t.recordVote id v).progress = t.progress := by
  unfold ProgressTracker.recordVote
  split <;> rfl

/-! ### the term preamble -/

/-- a node that is leader after the preamble has not been touched by it, and an append response it
goes on to handle carries its term (or none) -/
theorem stepTerm_lead {r r' : Raft} {m : Message} (h : r.stepTerm m = .ok (r', true))
    (hs : r'.state = .leader) :
    r' = r ∧ (m.msgType = .msgAppendResponse → m.term = 0 ∨ m.term = r.term) := by
  cases stepTerm_inv h with
  | zero h0 => exact ⟨rfl, fun _ => .inl h0⟩
  | prevote _ _ _ hp =>
    refine ⟨rfl, fun hty => ?_⟩
    rcases hp with c | ⟨c, _⟩ <;> (rw [hty] at c; cases c)
  | follow l _ _ _ _ _ => rw [(RaftProps.C16.becomeFollower_proj r m.term l).1] at hs; cases hs
  | same _ he => exact ⟨rfl, fun _ => .inr he⟩

end Raft
end RaftModel
