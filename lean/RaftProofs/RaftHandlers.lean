import RaftProofs.RaftNode
import RaftProofs.RaftStep

/-!
The composite handlers of `src/raft.rs`, taken apart once.

A handler of the node model is a fixed arrangement of calls to other handlers and of record updates.
For each composite handler `f` the lemma `f_parts` says so for an arbitrary predicate `P` on node
states: if `P` survives every part `f` calls and every update `f` makes, then `P` survives `f`.  A frame
relation or invariant that is carried through all handlers names, for a composite handler, only what it
knows about the parts.  (`P := fun r' => R r r'` serves relations and `Res.Post` statements.)

What a premise is told, beside the equation of the part: the type of a message that is sent (for the
predicates that watch the queue), the arm of a dispatcher (the type of the message stepped), and the
role or guard under which the handler reaches the part (`r.state = .leader →` where only a leader gets
there).

Where a handler takes a progress out of the tracker, works on it and stores it back, or ends with a step
that is the exception, `f_parts2` is the full statement and `f_parts` its instance for one predicate.
In `f_parts2`, `P : Raft → Prop` is asked of nodes, `Q : Raft → Nat → Progress → Prop` of a node
together with the progress of peer `id` it holds in hand (the helpers that return the pair carry `Q`,
the write-back turns `Q` into `P`; the premises are told which stored progress was taken out and how
it was touched), and `R : Raft → Prop` is what is known while the handler works when `P` is asked of
its result only.  In `f_parts` a premise about a stored progress quantifies over every progress.
Where the parts do not share one predicate there is a first-order form instead: `SendCase`,
`Restore` (and `ByVote`, `TermStep` below this file).
-/
namespace RaftModel

namespace Raft

/-! ### Sending: from `maybe_send_append` to the broadcasts -/

/-- a snapshot that `prepare_send_snapshot` (raft.rs:679) hands over for sending is a `MsgSnapshot` -/
theorem prepareSendSnapshot_msgType {r r' : Raft} {m m' : Message} {pr pr' : Progress} {to : Nat}
    (h : r.prepareSendSnapshot m pr to = .ok (r', m', pr', true)) : m'.msgType = .msgSnapshot := by
  unfold Raft.prepareSendSnapshot at h
  split at h
  · cases h
  · simp only at h
    split at h
    · cases h
    · cases h
    · cases h
    · split at h
      · cases h
      · cases h; rfl

/-- `prepare_send_entries` (raft.rs:729) fills in a `MsgAppend` -/
theorem prepareSendEntries_msgType {r : Raft} {m m' : Message} {pr pr' : Progress} {term : Nat}
    {ents : List Entry} (h : r.prepareSendEntries m pr term ents = .ok (m', pr')) :
    m'.msgType = .msgAppend := by
  unfold Raft.prepareSendEntries at h
  split at h
  · cases h
  · simp only at h
    split at h
    · cases h; rfl
    · split at h
      · cases h; rfl
      · cases h
      · cases h

/-- `prepare_send_snapshot` (raft.rs:679): fetching the snapshot may change the log (the storage), and
nothing else of the node. -/
theorem prepareSendSnapshot_parts {P : Raft → Prop} {r r' : Raft} {m m' : Message}
    {pr pr' : Progress} {to : Nat} {b : Bool}
    (h : r.prepareSendSnapshot m pr to = .ok (r', m', pr', b)) (h0 : P r)
    (snap : P { r with raftLog := (r.raftLog.snapshot pr.pendingRequestSnapshot).1 }) : P r' := by
  unfold Raft.prepareSendSnapshot at h
  split at h
  · cases h; exact h0
  · simp only at h
    split at h
    · cases h; exact snap
    · cases h
    · cases h
    · split at h
      · cases h
      · cases h; exact snap

/-- `try_batching` (raft.rs:747) rewrites the queue, and nothing else of the node. -/
theorem tryBatching_parts {P : Raft → Prop} {r r' : Raft} {to : Nat} {pr pr' : Progress}
    {ents : List Entry} {b : Bool} (h : r.tryBatching to pr ents = .ok (r', pr', b))
    (queue : ∀ {ms pr1 b1}, tryBatchingLoop r.raftLog.committed to pr ents r.msgs = .ok (ms, pr1, b1) →
      P { r with msgs := ms }) : P r' := by
  unfold Raft.tryBatching at h
  split at h
  · rename_i hl; cases h; exact queue hl
  · cases h
  · cases h

/-- the snapshot arm of `maybe_send_append` (raft.rs:812-815, 841-849): `prepare_send_snapshot`, then
`send` -/
def sendSnapshotTo (r : Raft) (to : Nat) (pr : Progress) : Res (Raft × Progress × Bool) :=
  match r.prepareSendSnapshot { to := to } pr to with
  | .ok (r, m, pr, true) => (r.send m).bind (fun r => .ok (r, pr, true))
  | .ok (r, _, pr, false) => .ok (r, pr, false)
  | .err e => .err e
  | .panic s => .panic s

/-- the entries arm of `maybe_send_append` (raft.rs:829-835): `try_batching` if configured, else
`prepare_send_entries` and `send` -/
def sendEntriesTo (r : Raft) (to : Nat) (pr : Progress) (term : Nat) (ents : List Entry) :
    Res (Raft × Progress × Bool) :=
  match (if r.batchAppend then r.tryBatching to pr ents else .ok (r, pr, false) :
      Res (Raft × Progress × Bool)) with
  | .ok (r, pr, true) => .ok (r, pr, true)
  | .ok (r, pr, false) =>
    (match r.prepareSendEntries { to := to } pr term ents with
      | .ok (m, pr) => (r.send m).bind (fun r => .ok (r, pr, true))
      | .err e => .err e
      | .panic s => .panic s)
  | .err e => .err e
  | .panic s => .panic s

/-- what `maybe_send_append` reads before it acts -/
abbrev sendRead (r : Raft) (pr : Progress) : Res (List Entry) :=
  r.raftLog.entries pr.nextIdx (some r.maxMsgSize) true

/-- **the ways `maybe_send_append` ends** (raft.rs:794-851), one constructor each, for all three
outcomes.  Only the two arms act; every other case is decided by reading the progress and the log. -/
inductive SendCase (r : Raft) (to : Nat) (pr : Progress) (ae : Bool) :
    Res (Raft × Progress × Bool) → Prop
  /-- a paused progress gets nothing -/
  | paused : pr.isPaused = true → SendCase r to pr ae (.ok (r, pr, false))
  /-- the follower asked for a snapshot -/
  | requested {res} : pr.isPaused = false → pr.pendingRequestSnapshot ≠ 0 →
      res = r.sendSnapshotTo to pr → SendCase r to pr ae res
  | readPanic {s} : pr.isPaused = false → pr.pendingRequestSnapshot = 0 → sendRead r pr = .panic s →
      SendCase r to pr ae (.panic s)
  /-- nothing to send (or the read failed) and an empty append is not wanted -/
  | idle : pr.isPaused = false → pr.pendingRequestSnapshot = 0 → ae = false →
      (sendRead r pr = .ok [] ∨ ∃ e, sendRead r pr = .err e) → SendCase r to pr ae (.ok (r, pr, false))
  /-- the anchor of the append is `next_idx - 1` -/
  | underflow : pr.isPaused = false → pr.pendingRequestSnapshot = 0 → pr.nextIdx = 0 →
      (∀ s, sendRead r pr ≠ .panic s) → SendCase r to pr ae (.panic "raft.maybe_send_append.underflow")
  | termPanic {s} : pr.isPaused = false → pr.pendingRequestSnapshot = 0 → pr.nextIdx ≠ 0 →
      r.raftLog.term (pr.nextIdx - 1) = .panic s → SendCase r to pr ae (.panic s)
  /-- entries and anchor term read: the entries arm -/
  | entries {t es res} : pr.isPaused = false → pr.pendingRequestSnapshot = 0 → pr.nextIdx ≠ 0 →
      sendRead r pr = .ok es → (ae = true ∨ es ≠ []) → r.raftLog.term (pr.nextIdx - 1) = .ok t →
      res = r.sendEntriesTo to pr t es → SendCase r to pr ae res
  /-- the storage fetches the entries asynchronously -/
  | fetching : pr.isPaused = false → pr.pendingRequestSnapshot = 0 → pr.nextIdx ≠ 0 → ae = true →
      sendRead r pr = .err .logTemporarilyUnavailable →
      (∀ s, r.raftLog.term (pr.nextIdx - 1) ≠ .panic s) → SendCase r to pr ae (.ok (r, pr, false))
  /-- the entries or their anchor term are gone: the snapshot arm -/
  | fallback {res} : pr.isPaused = false → pr.pendingRequestSnapshot = 0 → pr.nextIdx ≠ 0 →
      ((∃ es e, sendRead r pr = .ok es ∧ (ae = true ∨ es ≠ []) ∧
          r.raftLog.term (pr.nextIdx - 1) = .err e) ∨
       (∃ e, sendRead r pr = .err e ∧ e ≠ .logTemporarilyUnavailable ∧ ae = true ∧
          ∀ s, r.raftLog.term (pr.nextIdx - 1) ≠ .panic s)) →
      res = r.sendSnapshotTo to pr → SendCase r to pr ae res

/-- the one place where the nest of `match`es of `maybe_send_append` is opened; to take a result of
unknown outcome apart, `generalize` it first -/
theorem maybeSendAppend_case (r : Raft) (to : Nat) (pr : Progress) (ae : Bool) :
    SendCase r to pr ae (r.maybeSendAppend to pr ae) := by
  unfold Raft.maybeSendAppend
  by_cases hp : pr.isPaused = true
  · rw [if_pos hp]; exact .paused hp
  rw [if_neg hp]
  have hp : pr.isPaused = false := Bool.eq_false_iff.2 hp
  dsimp only
  by_cases hq : pr.pendingRequestSnapshot ≠ 0
  · rw [if_pos hq]; exact .requested hp hq rfl
  rw [if_neg hq]
  have hq : pr.pendingRequestSnapshot = 0 := Classical.not_not.1 hq
  cases he : r.raftLog.entries pr.nextIdx (some r.maxMsgSize) true with
  | panic s => exact .readPanic hp hq he
  | ok es =>
    dsimp only
    by_cases hae : (!ae && es.isEmpty) = true
    · rw [if_pos hae]
      rw [Bool.and_eq_true, Bool.not_eq_true', List.isEmpty_iff] at hae
      exact .idle hp hq hae.1 (.inl (hae.2 ▸ he))
    rw [if_neg hae]
    have hae : ae = true ∨ es ≠ [] := by
      cases ae
      · exact .inr fun hc => hae (by rw [hc]; rfl)
      · exact .inl rfl
    by_cases hn : pr.nextIdx = 0
    · rw [if_pos hn]; exact .underflow hp hq hn fun s hc => by rw [sendRead, he] at hc; cases hc
    rw [if_neg hn]
    cases ht : r.raftLog.term (pr.nextIdx - 1) with
    | panic s => exact .termPanic hp hq hn ht
    | ok t => exact .entries hp hq hn he hae ht rfl
    | err e => exact .fallback hp hq hn (.inl ⟨es, e, he, hae, ht⟩) rfl
  | err e =>
    dsimp only
    rw [Bool.and_true]
    by_cases hae : (!ae) = true
    · rw [if_pos hae]; exact .idle hp hq (by simpa using hae) (.inr ⟨e, he⟩)
    rw [if_neg hae]
    have hae : ae = true := by simpa using hae
    by_cases hn : pr.nextIdx = 0
    · rw [if_pos hn]; exact .underflow hp hq hn fun s hc => by rw [sendRead, he] at hc; cases hc
    rw [if_neg hn]
    cases ht : r.raftLog.term (pr.nextIdx - 1) with
    | panic s => exact .termPanic hp hq hn ht
    | ok t =>
      by_cases hl : e = .logTemporarilyUnavailable
      · subst hl; exact .fetching hp hq hn hae he fun s hc => by rw [ht] at hc; cases hc
      · refine .fallback hp hq hn (.inr ⟨e, he, hl, hae, fun s hc => by rw [ht] at hc; cases hc⟩) ?_
        cases e <;> first | exact absurd rfl hl | rfl
    | err e2 =>
      by_cases hl : e = .logTemporarilyUnavailable
      · subst hl; exact .fetching hp hq hn hae he fun s hc => by rw [ht] at hc; cases hc
      · refine .fallback hp hq hn (.inr ⟨e, he, hl, hae, fun s hc => by rw [ht] at hc; cases hc⟩) ?_
        cases e <;> first | exact absurd rfl hl | rfl

theorem maybeSendAppend_inv {r r' : Raft} {to : Nat} {pr pr' : Progress} {ae b : Bool}
    (h : r.maybeSendAppend to pr ae = .ok (r', pr', b)) : SendCase r to pr ae (.ok (r', pr', b)) :=
  h ▸ maybeSendAppend_case r to pr ae

theorem sendSnapshotTo_parts2 {Q : Raft → Nat → Progress → Prop} {r r' : Raft} {to : Nat}
    {pr pr' : Progress} {b : Bool} (h : r.sendSnapshotTo to pr = .ok (r', pr', b))
    (snap : ∀ {r2 m m2 pr2 b2}, r.prepareSendSnapshot m pr to = .ok (r2, m2, pr2, b2) → Q r2 to pr2)
    (send : ∀ {r1 r2 m p}, r1.send m = .ok r2 → m.msgType = .msgSnapshot → Q r1 to p → Q r2 to p) :
    Q r' to pr' := by
  unfold sendSnapshotTo at h
  split at h
  · rename_i hs
    obtain ⟨r3, h3, h⟩ := Res.bind_eq_ok h
    cases h; exact send h3 (prepareSendSnapshot_msgType hs) (snap hs)
  · rename_i hs; cases h; exact snap hs
  · cases h
  · cases h

theorem sendEntriesTo_parts2 {Q : Raft → Nat → Progress → Prop} {r r' : Raft} {to : Nat}
    {pr pr' : Progress} {t : Nat} {es : List Entry} {b : Bool}
    (h : r.sendEntriesTo to pr t es = .ok (r', pr', b)) (h0 : Q r to pr)
    (batch : ∀ {r2 pr2 b2}, r.tryBatching to pr es = .ok (r2, pr2, b2) → Q r2 to pr2)
    (prep : ∀ {r1 p m m' p'}, r1.prepareSendEntries m p t es = .ok (m', p') → Q r1 to p → Q r1 to p')
    (send : ∀ {r1 r2 m p}, r1.send m = .ok r2 → m.msgType = .msgAppend → Q r1 to p → Q r2 to p) :
    Q r' to pr' := by
  have hb : ∀ {r2 pr2 b2}, (if r.batchAppend then r.tryBatching to pr es else
      .ok (r, pr, false)) = .ok (r2, pr2, b2) → Q r2 to pr2 := by
    intro r2 pr2 b2 hb
    split at hb
    · exact batch hb
    · cases hb; exact h0
  unfold sendEntriesTo at h
  split at h
  · rename_i hbt; cases h; exact hb hbt
  · rename_i hbt
    split at h
    · rename_i he
      obtain ⟨r3, h3, h⟩ := Res.bind_eq_ok h
      cases h; exact send h3 (prepareSendEntries_msgType he) (prep he (hb hbt))
    · cases h
    · cases h
  · cases h
  · cases h

/-- `maybe_send_append` (raft.rs:794): a snapshot is prepared and sent, or the entries are batched onto
a queued `MsgAppend`, or a new `MsgAppend` is sent; `Q` of the node and the progress in hand survives
the two arms. -/
theorem maybeSendAppend_parts2 {Q : Raft → Nat → Progress → Prop} {r r' : Raft} {to : Nat}
    {pr pr' : Progress} {ae b : Bool} (h : r.maybeSendAppend to pr ae = .ok (r', pr', b))
    (h0 : Q r to pr)
    (snap : ∀ {r2 m m2 pr2 b2}, r.prepareSendSnapshot m pr to = .ok (r2, m2, pr2, b2) → Q r2 to pr2)
    (batch : ∀ {es r2 pr2 b2}, r.tryBatching to pr es = .ok (r2, pr2, b2) → Q r2 to pr2)
    (prep : ∀ {r1 p m t es m' p'}, r1.prepareSendEntries m p t es = .ok (m', p') →
      Q r1 to p → Q r1 to p')
    (send : ∀ {r1 r2 m p}, r1.send m = .ok r2 → m.msgType = .msgSnapshot ∨ m.msgType = .msgAppend →
      Q r1 to p → Q r2 to p) : Q r' to pr' := by
  cases maybeSendAppend_inv h with
  | paused | idle | fetching => exact h0
  | requested _ _ hs | fallback _ _ _ _ hs =>
    exact sendSnapshotTo_parts2 hs.symm snap fun hx ty => send hx (.inl ty)
  | entries _ _ _ _ _ _ hs =>
    exact sendEntriesTo_parts2 hs.symm h0 batch prep fun hx ty => send hx (.inr ty)

theorem maybeSendAppend_parts {P : Raft → Prop} {r r' : Raft} {to : Nat} {pr pr' : Progress}
    {ae b : Bool} (h : r.maybeSendAppend to pr ae = .ok (r', pr', b)) (h0 : P r)
    (snap : ∀ {r2 m m2 pr2 b2}, r.prepareSendSnapshot m pr to = .ok (r2, m2, pr2, b2) → P r2)
    (batch : ∀ {ents r2 pr2 b2}, r.tryBatching to pr ents = .ok (r2, pr2, b2) → P r2)
    (send : ∀ {r1 r2 m}, r1.send m = .ok r2 → m.msgType = .msgSnapshot ∨ m.msgType = .msgAppend →
      P r1 → P r2) : P r' :=
  maybeSendAppend_parts2 (Q := fun r _ _ => P r) h h0 snap batch (fun _ p => p) send

theorem sendAppendPr_parts2 {Q : Raft → Nat → Progress → Prop} {r r' : Raft} {to : Nat}
    {pr pr' : Progress} (h : r.sendAppendPr to pr = .ok (r', pr'))
    (step : ∀ {r2 pr2 b}, r.maybeSendAppend to pr true = .ok (r2, pr2, b) → Q r2 to pr2) :
    Q r' to pr' := by
  unfold Raft.sendAppendPr at h
  obtain ⟨⟨r2, pr2, b⟩, h2, h⟩ := Res.bind_eq_ok h
  cases h; exact step h2

theorem sendAppendPr_parts {P : Raft → Prop} {r r' : Raft} {to : Nat} {pr pr' : Progress}
    (h : r.sendAppendPr to pr = .ok (r', pr'))
    (step : ∀ {r2 pr2 b}, r.maybeSendAppend to pr true = .ok (r2, pr2, b) → P r2) : P r' :=
  sendAppendPr_parts2 (Q := fun r _ _ => P r) h step

/-- the loop of `send_append_aggressively` (raft.rs:783) is `maybe_send_append` repeated -/
theorem sendAppendAggressivelyPr_parts2 {Q : Raft → Nat → Progress → Prop} {r' : Raft} {to : Nat}
    {pr' : Progress}
    (step : ∀ {r1 pr1 r2 pr2 b}, r1.maybeSendAppend to pr1 false = .ok (r2, pr2, b) →
      Q r1 to pr1 → Q r2 to pr2) :
    ∀ (fuel : Nat) (r : Raft) (pr : Progress),
      sendAppendAggressivelyPr fuel r to pr = .ok (r', pr') → Q r to pr → Q r' to pr' := by
  intro fuel
  induction fuel with
  | zero => intro r pr h; cases h
  | succ n ih =>
    intro r pr h h0
    unfold sendAppendAggressivelyPr at h
    split at h
    · rename_i hm; exact ih _ _ h (step hm h0)
    · rename_i hm; cases h; exact step hm h0
    · cases h
    · cases h

theorem sendAppendAggressivelyPr_parts {P : Raft → Prop} {r' : Raft} {to : Nat} {pr' : Progress}
    (step : ∀ {r1 pr1 r2 pr2 b}, r1.maybeSendAppend to pr1 false = .ok (r2, pr2, b) → P r1 → P r2) :
    ∀ (fuel : Nat) (r : Raft) (pr : Progress),
      sendAppendAggressivelyPr fuel r to pr = .ok (r', pr') → P r → P r' :=
  sendAppendAggressivelyPr_parts2 (Q := fun r _ _ => P r) step

theorem sendAppendPr_inv {r r' : Raft} {to : Nat} {pr pr' : Progress}
    (h : r.sendAppendPr to pr = .ok (r', pr')) :
    ∃ b, r.maybeSendAppend to pr true = .ok (r', pr', b) := by
  unfold Raft.sendAppendPr at h
  obtain ⟨⟨r1, pr1, b⟩, hm, h⟩ := Res.bind_eq_ok h
  cases h; exact ⟨b, hm⟩

/-- `send_append` (raft.rs:892): the peer's progress is taken out, used and stored back -/
theorem sendAppend_inv {r r' : Raft} {to : Nat} (h : r.sendAppend to = .ok r') :
    ∃ pr r1 pr1, r.prs.get to = some pr ∧ r.sendAppendPr to pr = .ok (r1, pr1) ∧
      r' = { r1 with prs := r1.prs.set to pr1 } := by
  unfold Raft.sendAppend at h
  split at h
  · cases h
  · rename_i pr hg
    obtain ⟨⟨r1, pr1⟩, hs, h⟩ := Res.bind_eq_ok h
    cases h; exact ⟨pr, r1, pr1, hg, hs, rfl⟩

theorem sendAppend_parts2 {P : Raft → Prop} {Q : Raft → Nat → Progress → Prop} {r r' : Raft}
    {to : Nat} (h : r.sendAppend to = .ok r')
    (app : ∀ {pr r2 pr2}, r.prs.get to = some pr → r.sendAppendPr to pr = .ok (r2, pr2) → Q r2 to pr2)
    (set : ∀ {r1 pr'}, Q r1 to pr' → P { r1 with prs := r1.prs.set to pr' }) : P r' := by
  obtain ⟨_, _, _, hg, hs, rfl⟩ := sendAppend_inv h
  exact set (app hg hs)

theorem sendAppend_parts {P : Raft → Prop} {r r' : Raft} {to : Nat} (h : r.sendAppend to = .ok r')
    (app : ∀ {pr r2 pr2}, r.sendAppendPr to pr = .ok (r2, pr2) → P r2)
    (set : ∀ {r1} pr', P r1 → P { r1 with prs := r1.prs.set to pr' }) : P r' :=
  sendAppend_parts2 (Q := fun r _ _ => P r) h (fun _ ha => app ha) fun q => set _ q

theorem sendAppendAggressively_parts2 {P : Raft → Prop} {Q : Raft → Nat → Progress → Prop}
    {r r' : Raft} {to : Nat} (h : r.sendAppendAggressively to = .ok r')
    (app : ∀ {fuel pr r2 pr2}, r.prs.get to = some pr →
      sendAppendAggressivelyPr fuel r to pr = .ok (r2, pr2) → Q r2 to pr2)
    (set : ∀ {r1 pr'}, Q r1 to pr' → P { r1 with prs := r1.prs.set to pr' }) : P r' := by
  unfold Raft.sendAppendAggressively at h
  split at h
  · cases h
  · rename_i hg
    obtain ⟨⟨r2, pr2⟩, h2, h⟩ := Res.bind_eq_ok h
    cases h; exact set (app hg h2)

theorem sendAppendAggressively_parts {P : Raft → Prop} {r r' : Raft} {to : Nat}
    (h : r.sendAppendAggressively to = .ok r')
    (app : ∀ {fuel pr r2 pr2}, sendAppendAggressivelyPr fuel r to pr = .ok (r2, pr2) → P r2)
    (set : ∀ {r1} pr', P r1 → P { r1 with prs := r1.prs.set to pr' }) : P r' :=
  sendAppendAggressively_parts2 (Q := fun r _ _ => P r) h (fun _ ha => app ha) fun q => set _ q

/-- a fold in the `Res` monad whose step, when it succeeds, started from a success and keeps `P` -/
theorem foldl_parts {α : Type} {P : Raft → Prop} {r' : Raft} (step : Res Raft → α → Res Raft)
    (hstep : ∀ acc x r1, step acc x = .ok r1 → ∃ r0, acc = .ok r0 ∧ (P r0 → P r1)) :
    ∀ (l : List α) (acc : Res Raft), l.foldl step acc = .ok r' → (∀ r, acc = .ok r → P r) → P r' := by
  intro l
  induction l with
  | nil => intro acc h h0; exact h0 r' h
  | cons x rest ih =>
    intro acc h h0
    refine ih (step acc x) h fun r1 h1 => ?_
    obtain ⟨r0, e0, hf⟩ := hstep acc x r1 h1
    exact hf (h0 r0 e0)

/-- `for_each_peer`: `f` runs on every other peer in turn (it is told on whose progress, never the
node's own) and the progress it returns is stored back -/
theorem forEachPeer_parts2 {P : Raft → Prop} {Q : Raft → Nat → Progress → Prop} {r r' : Raft}
    {f : Raft → Nat → Progress → Res (Raft × Progress)} (h : r.forEachPeer f = .ok r') (h0 : P r)
    (hf : ∀ {r1 id pr r2 pr2}, id ≠ r1.id → r1.prs.get id = some pr → f r1 id pr = .ok (r2, pr2) →
      P r1 → Q r2 id pr2)
    (set : ∀ {r1 id pr'}, Q r1 id pr' → P { r1 with prs := r1.prs.set id pr' }) : P r' := by
  unfold Raft.forEachPeer at h
  refine foldl_parts _ (fun acc id r1 h1 => ?_) _ _ h (by intro r1 e; cases e; exact h0)
  cases acc with
  | err e => cases h1
  | panic s => cases h1
  | ok r0 =>
    refine ⟨r0, rfl, fun p0 => ?_⟩
    change (if id = r0.id then Res.ok r0 else _) = _ at h1
    split at h1
    · cases h1; exact p0
    · rename_i hid
      split at h1
      · cases h1; exact p0
      · rename_i hg
        obtain ⟨⟨r2, pr2⟩, h2, h1⟩ := Res.bind_eq_ok h1
        cases h1; exact set (hf hid hg h2 p0)

theorem forEachPeer_parts {P : Raft → Prop} {r r' : Raft}
    {f : Raft → Nat → Progress → Res (Raft × Progress)} (h : r.forEachPeer f = .ok r') (h0 : P r)
    (hf : ∀ {r1 id pr r2 pr2}, f r1 id pr = .ok (r2, pr2) → P r1 → P r2)
    (set : ∀ {r1} id pr', P r1 → P { r1 with prs := r1.prs.set id pr' }) : P r' :=
  forEachPeer_parts2 (Q := fun r _ _ => P r) h h0 (fun _ _ hx p => hf hx p) fun q => set _ _ q

theorem bcastAppend_parts2 {P : Raft → Prop} {Q : Raft → Nat → Progress → Prop} {r r' : Raft}
    (h : r.bcastAppend = .ok r') (h0 : P r)
    (app : ∀ {r1 id pr r2 pr2}, id ≠ r1.id → r1.prs.get id = some pr →
      r1.sendAppendPr id pr = .ok (r2, pr2) → P r1 → Q r2 id pr2)
    (set : ∀ {r1 id pr'}, Q r1 id pr' → P { r1 with prs := r1.prs.set id pr' }) : P r' :=
  forEachPeer_parts2 h h0 app set

theorem bcastAppend_parts {P : Raft → Prop} {r r' : Raft} (h : r.bcastAppend = .ok r') (h0 : P r)
    (app : ∀ {r1 id pr r2 pr2}, r1.sendAppendPr id pr = .ok (r2, pr2) → P r1 → P r2)
    (set : ∀ {r1} id pr', P r1 → P { r1 with prs := r1.prs.set id pr' }) : P r' :=
  forEachPeer_parts h h0 app set

/-- `bcast_heartbeat_with_ctx` (raft.rs:927): the heartbeat leaves the progress it reads as it is -/
theorem bcastHeartbeatWithCtx_parts2 {P : Raft → Prop} {Q : Raft → Nat → Progress → Prop}
    {r r' : Raft} {ctx : Option Bytes} (h : r.bcastHeartbeatWithCtx ctx = .ok r') (h0 : P r)
    (hb : ∀ {r1 id pr r2}, id ≠ r1.id → r1.prs.get id = some pr →
      r1.sendHeartbeat id pr ctx = .ok r2 → P r1 → Q r2 id pr)
    (set : ∀ {r1 id pr'}, Q r1 id pr' → P { r1 with prs := r1.prs.set id pr' }) : P r' := by
  refine forEachPeer_parts2 h h0 (fun hid hg h2 p1 => ?_) set
  obtain ⟨r3, h3, h2⟩ := Res.bind_eq_ok h2
  cases h2; exact hb hid hg h3 p1

theorem bcastHeartbeatWithCtx_parts {P : Raft → Prop} {r r' : Raft} {ctx : Option Bytes}
    (h : r.bcastHeartbeatWithCtx ctx = .ok r') (h0 : P r)
    (hb : ∀ {r1 id pr r2}, r1.sendHeartbeat id pr ctx = .ok r2 → P r1 → P r2)
    (set : ∀ {r1} id pr', P r1 → P { r1 with prs := r1.prs.set id pr' }) : P r' :=
  bcastHeartbeatWithCtx_parts2 (Q := fun r _ _ => P r) h h0 (fun _ _ hx p => hb hx p)
    fun q => set _ _ q

/-- `handle_ready_read_index` (raft.rs:2930): a local read is recorded as a `ReadState`; for a
forwarded one the answer is handed back and the node is unchanged -/
theorem handleReadyReadIndex_parts {P : Raft → Prop} {r r' : Raft} {req : Message} {i : Nat}
    {om : Option Message} (h : r.handleReadyReadIndex req i = .ok (r', om)) (h0 : P r)
    (read : ∀ rs, P { r with readStates := rs }) : P r' := by
  unfold Raft.handleReadyReadIndex at h
  split at h
  · split at h
    · cases h
    · cases h; exact read _
  · cases h; exact h0

/-- the answer `handle_ready_read_index` hands back for a forwarded read is a `MsgReadIndexResp` -/
theorem handleReadyReadIndex_msgType {r r' : Raft} {req m' : Message} {i : Nat}
    (h : r.handleReadyReadIndex req i = .ok (r', some m')) : m'.msgType = .msgReadIndexResp := by
  unfold Raft.handleReadyReadIndex at h
  split at h
  · split at h <;> cases h
  · cases h; rfl

/-- answering the reads that `ReadOnly::advance` released: a `ReadState` is recorded for a local
request, a `MsgReadIndexResp` is sent for a forwarded one -/
theorem respondReadStates_parts {P : Raft → Prop} {r r' : Raft} {rss : List ReadIndexStatus}
    (h : r.respondReadStates rss = .ok r') (h0 : P r)
    (ready : ∀ {r1 req i r2 om}, r1.handleReadyReadIndex req i = .ok (r2, om) → P r1 → P r2)
    (send : ∀ {r1 r2 m}, r1.send m = .ok r2 → m.msgType = .msgReadIndexResp → P r1 → P r2) :
    P r' := by
  unfold Raft.respondReadStates at h
  refine foldl_parts _ (fun acc rs r1 h1 => ?_) _ _ h (by intro r1 e; cases e; exact h0)
  cases acc with
  | err e => cases h1
  | panic s => cases h1
  | ok r0 =>
    refine ⟨r0, rfl, fun p0 => ?_⟩
    change (r0.handleReadyReadIndex rs.req rs.index).bind _ = _ at h1
    obtain ⟨⟨r2, om⟩, h2, h1⟩ := Res.bind_eq_ok h1
    cases om with
    | some m =>
      exact send h1 (handleReadyReadIndex_msgType h2) (ready h2 p0)
    | none => cases h1; exact ready h2 p0

/-! ### Committing and appending -/

/-- `Raft::maybe_commit` (raft.rs:939): the tracker's quorum index is offered to the log with the
current term; if the log takes it, the leader's own `committed_index` is brought up to date. -/
theorem maybeCommit_parts2 {P : Raft → Prop} {r r' : Raft} {b : Bool}
    (h : r.maybeCommit = .ok (r', b)) (h0 : P r)
    (took : ∀ {i l'}, r.raftLog.maybeCommit i r.term = .ok (l', true) →
      P (({ r with raftLog := l' } : Raft).modifyProgress r.id
        (fun pr => pr.updateCommitted l'.committed))) : P r' := by
  unfold Raft.maybeCommit at h
  split at h
  · cases h
  · cases h
  · split at h
    · cases h
    · cases h
    · rename_i hl; cases h; exact took hl
    · cases h; exact h0

theorem maybeCommit_parts {P : Raft → Prop} {r r' : Raft} {b : Bool}
    (h : r.maybeCommit = .ok (r', b)) (h0 : P r)
    (log : ∀ {i l' b'}, r.raftLog.maybeCommit i r.term = .ok (l', b') → P { r with raftLog := l' })
    (own : ∀ {r1 : Raft} f, P r1 → P (r1.modifyProgress r1.id f)) : P r' :=
  maybeCommit_parts2 h h0 fun hl => own (r1 := { r with raftLog := _ }) _ (log hl)

/-- `Raft::append_entry` (raft.rs:1043): the uncommitted size is checked and raised, then the
entries are stamped with term and index and appended to the log. -/
theorem appendEntry_parts {P : Raft → Prop} {r r' : Raft} {es : List Entry} {b : Bool}
    (h : r.appendEntry es = .ok (r', b)) (h0 : P r)
    (size : ∀ {r1 b1}, r.maybeIncreaseUncommittedSize es = (r1, b1) → P r1)
    (log : ∀ {r1 : Raft} {es' l' n}, r1.raftLog.append es' = .ok (l', n) → P r1 →
      P { r1 with raftLog := l' }) : P r' := by
  unfold Raft.appendEntry at h
  split at h
  · cases h; exact h0
  · rename_i hm
    simp only at h
    split at h
    · rename_i ha; cases h; exact log ha (size hm)
    · cases h
    · cases h

/-- `maybe_commit`, then `bcast_append` if the commit index moved: the common end of the handlers
below. -/
theorem commitThenBcast_parts {P : Raft → Prop} {r r' : Raft}
    (h : (match r.maybeCommit with
      | .ok (r, true) => r.bcastAppend
      | .ok (r, false) => .ok r
      | .err e => .err e
      | .panic s => .panic s) = .ok r') (h0 : P r)
    (commit : ∀ {r1 r2 b}, r1.maybeCommit = .ok (r2, b) → P r1 → P r2)
    (bcast : ∀ {r1 r2}, r1.bcastAppend = .ok r2 → P r1 → P r2) : P r' := by
  split at h
  · rename_i hc; exact bcast h (commit hc h0)
  · rename_i hc; cases h; exact commit hc h0
  · cases h
  · cases h

/-! ### The leader's handlers -/

/-- `handle_append_response` after a successful `maybe_update` (raft.rs:1846-1890): the progress is
touched (`set` is told how) and stored, `maybe_commit` runs, then either `bcast_append`, `send_append`
or nothing, then `send_append_aggressively`; `R` is carried through these.  `P` is asked of the
result: the state they reach (`done`), or that state after `send_timeout_now` to the transferee that
has caught up (`tn`). -/
theorem handleAppendResponseAccepted_parts2 {P R : Raft → Prop} {r r' : Raft} {m : Message}
    {pr : Progress} {op : Bool} (h : r.handleAppendResponseAccepted m pr op = .ok r')
    (set : ∀ {pr1}, (pr.state = .probe ∧ pr1 = pr.becomeReplicate) ∨
        (pr.state = .snapshot ∧ pr1 = if pr.isSnapshotCaughtUp then pr.becomeProbe else pr) ∨
        (pr.state = .replicate ∧ ∃ ins, pr.ins.freeTo m.index = .ok ins ∧ pr1 = { pr with ins := ins }) →
      R { r with prs := r.prs.set m.frm pr1 })
    (commit : ∀ {r1 r2 b}, r1.maybeCommit = .ok (r2, b) → R r1 → R r2)
    (bcast : ∀ {r1 r2}, r1.bcastAppend = .ok r2 → R r1 → R r2)
    (app : ∀ {r1 r2}, r1.sendAppend m.frm = .ok r2 → R r1 → R r2)
    (aggr : ∀ {r1 r2}, r1.sendAppendAggressively m.frm = .ok r2 → R r1 → R r2)
    (done : ∀ {r1}, R r1 → P r1)
    (tn : ∀ {r1 r2 p}, r1.leadTransferee = some m.frm → r1.prs.get m.frm = some p →
      p.matched = r1.raftLog.lastIndex → r1.sendTimeoutNow m.frm = .ok r2 → R r1 → P r2) : P r' := by
  unfold Raft.handleAppendResponseAccepted at h
  obtain ⟨pr1, hp1, h⟩ := Res.bind_eq_ok h
  have q1 : R { r with prs := r.prs.set m.frm pr1 } := by
    refine set ?_
    split at hp1
    · rename_i hs; cases hp1; exact .inl ⟨hs, rfl⟩
    · rename_i hs; cases hp1; exact .inr (.inl ⟨hs, rfl⟩)
    · rename_i hs
      split at hp1
      · rename_i ins hi; cases hp1; exact .inr (.inr ⟨hs, ins, hi, rfl⟩)
      · cases hp1
  obtain ⟨r2, h2, h⟩ := Res.bind_eq_ok h
  obtain ⟨r3, h3, h⟩ := Res.bind_eq_ok h
  have q2 : R r2 := by
    split at h2
    · rename_i hc
      split at h2
      · exact bcast h2 (commit hc q1)
      · cases h2; exact commit hc q1
    · rename_i hc
      split at h2
      · exact app h2 (commit hc q1)
      · cases h2; exact commit hc q1
    · cases h2
    · cases h2
  have q3 : R r3 := aggr h3 q2
  split at h
  · rename_i ht
    split at h
    · cases h
    · rename_i hg
      split at h
      · rename_i hm; exact tn ht.symm hg hm h q3
      · cases h; exact done q3
  · cases h; exact done q3

theorem handleAppendResponseAccepted_parts {P : Raft → Prop} {r r' : Raft} {m : Message}
    {pr : Progress} {op : Bool} (h : r.handleAppendResponseAccepted m pr op = .ok r')
    (set : ∀ pr', P { r with prs := r.prs.set m.frm pr' })
    (commit : ∀ {r1 r2 b}, r1.maybeCommit = .ok (r2, b) → P r1 → P r2)
    (bcast : ∀ {r1 r2}, r1.bcastAppend = .ok r2 → P r1 → P r2)
    (app : ∀ {r1 r2}, r1.sendAppend m.frm = .ok r2 → P r1 → P r2)
    (aggr : ∀ {r1 r2}, r1.sendAppendAggressively m.frm = .ok r2 → P r1 → P r2)
    (tn : ∀ {r1 r2}, some m.frm = r1.leadTransferee → r1.sendTimeoutNow m.frm = .ok r2 →
      P r1 → P r2) : P r' :=
  handleAppendResponseAccepted_parts2 (R := P) h (fun _ => set _) commit bcast app aggr (fun p => p)
    fun hl _ _ hs p => tn hl.symm hs p

/-- an acknowledgement from a known peer goes to `maybe_update` -/
theorem handleAppendResponse_ack {r : Raft} {m : Message} {pr0 : Progress}
    (hg : r.prs.get m.frm = some pr0) (hr : m.reject = false) :
    r.handleAppendResponse m =
      match (({ pr0 with recentActive := true } : Progress).updateCommitted m.commit).maybeUpdate
          m.index with
      | .panic s => .panic s
      | .err e => .err e
      | .ok (pr, false) => .ok { r with prs := r.prs.set m.frm pr }
      | .ok (pr, true) => r.handleAppendResponseAccepted m pr
          (({ pr0 with recentActive := true } : Progress).updateCommitted m.commit).isPaused := by
  unfold Raft.handleAppendResponse
  simp only [hr, Bool.false_eq_true, false_and, if_false, Res.bind, hg]
  rfl

/-- **the ways `handle_append_response` ends well** (raft.rs:1676), with the sender's progress in
hand: the sender is unknown; a rejection that `maybe_decr_to` finds stale is only stored (`stale`), one
it takes makes a replicating peer probe and `send_append` runs (`probe`); an acknowledgement that does
not advance `matched` is only stored (`kept`), one that does continues in
`handleAppendResponseAccepted` (`advanced`) -/
inductive AppResp (r : Raft) (m : Message) : Raft → Prop
  | unknown : r.prs.get m.frm = none → AppResp r m r
  | stale {pr0 hint pr1} : r.prs.get m.frm = some pr0 → m.reject = true →
      (({ pr0 with recentActive := true } : Progress).updateCommitted m.commit).maybeDecrTo
        m.index hint m.requestSnapshot = .ok (pr1, false) →
      AppResp r m { r with prs := r.prs.set m.frm pr1 }
  | probe {pr0 hint pr1 r'} : r.prs.get m.frm = some pr0 → m.reject = true →
      (({ pr0 with recentActive := true } : Progress).updateCommitted m.commit).maybeDecrTo
        m.index hint m.requestSnapshot = .ok (pr1, true) →
      ({ r with prs := r.prs.set m.frm (if pr1.state = .replicate then pr1.becomeProbe else pr1) }
        : Raft).sendAppend m.frm = .ok r' → AppResp r m r'
  | kept {pr0 pr1} : r.prs.get m.frm = some pr0 → m.reject = false →
      (({ pr0 with recentActive := true } : Progress).updateCommitted m.commit).maybeUpdate m.index
        = .ok (pr1, false) → AppResp r m { r with prs := r.prs.set m.frm pr1 }
  | advanced {pr0 pr1 r'} : r.prs.get m.frm = some pr0 → m.reject = false →
      (({ pr0 with recentActive := true } : Progress).updateCommitted m.commit).maybeUpdate m.index
        = .ok (pr1, true) →
      r.handleAppendResponseAccepted m pr1
        (({ pr0 with recentActive := true } : Progress).updateCommitted m.commit).isPaused = .ok r' →
      AppResp r m r'

theorem handleAppendResponse_inv {r r' : Raft} {m : Message}
    (h : r.handleAppendResponse m = .ok r') : AppResp r m r' := by
  unfold Raft.handleAppendResponse at h
  obtain ⟨npi, -, h⟩ := Res.bind_eq_ok h
  split at h
  · rename_i hg; cases h; exact .unknown hg
  · rename_i hg
    simp only at h
    split at h
    · rename_i hr
      split at h
      · cases h
      · cases h
      · rename_i hd; exact .probe hg hr hd h
      · rename_i hd; cases h; exact .stale hg hr hd
    · rename_i hr
      have hr : m.reject = false := Bool.eq_false_iff.2 hr
      split at h
      · cases h
      · cases h
      · rename_i hu; cases h; exact .kept hg hr hu
      · rename_i hu; exact .advanced hg hr hu h

/-- `handle_append_response` (raft.rs:1676).  The stored progress `pr0` is marked active and its
`committed_index` updated; a rejection decrements it (`probe`: it is stored, as `Probe`, and
`send_append` follows; `stale`: it is only stored); an acknowledgement that does not move `matched`
is only stored (`upd`), one that does continues in `handleAppendResponseAccepted` (`acc`). -/
theorem handleAppendResponse_parts2 {P R : Raft → Prop} {r r' : Raft} {m : Message}
    (h : r.handleAppendResponse m = .ok r') (h0 : P r)
    (probe : ∀ {pr0 hint pr1}, r.prs.get m.frm = some pr0 → m.reject = true →
      (({ pr0 with recentActive := true } : Progress).updateCommitted m.commit).maybeDecrTo
        m.index hint m.requestSnapshot = .ok (pr1, true) →
      R { r with prs := r.prs.set m.frm (if pr1.state = .replicate then pr1.becomeProbe else pr1) })
    (app : ∀ {r1 r2}, r1.sendAppend m.frm = .ok r2 → R r1 → P r2)
    (stale : ∀ {pr0 hint pr1}, r.prs.get m.frm = some pr0 → m.reject = true →
      (({ pr0 with recentActive := true } : Progress).updateCommitted m.commit).maybeDecrTo
        m.index hint m.requestSnapshot = .ok (pr1, false) →
      P { r with prs := r.prs.set m.frm pr1 })
    (upd : ∀ {pr0 pr1}, r.prs.get m.frm = some pr0 → m.reject = false →
      (({ pr0 with recentActive := true } : Progress).updateCommitted m.commit).maybeUpdate m.index
        = .ok (pr1, false) → P { r with prs := r.prs.set m.frm pr1 })
    (acc : ∀ {pr0 pr1 r2}, r.prs.get m.frm = some pr0 → m.reject = false →
      (({ pr0 with recentActive := true } : Progress).updateCommitted m.commit).maybeUpdate m.index
        = .ok (pr1, true) →
      r.handleAppendResponseAccepted m pr1
        (({ pr0 with recentActive := true } : Progress).updateCommitted m.commit).isPaused = .ok r2 →
      P r2) : P r' := by
  cases handleAppendResponse_inv h with
  | unknown => exact h0
  | stale hg hr hd => exact stale hg hr hd
  | probe hg hr hd hs => exact app hs (probe hg hr hd)
  | kept hg hr hu => exact upd hg hr hu
  | advanced hg hr hu ha => exact acc hg hr hu ha

theorem handleAppendResponse_parts {P : Raft → Prop} {r r' : Raft} {m : Message}
    (h : r.handleAppendResponse m = .ok r') (h0 : P r)
    (set : ∀ pr', P { r with prs := r.prs.set m.frm pr' })
    (app : ∀ {r1 r2}, r1.sendAppend m.frm = .ok r2 → P r1 → P r2)
    (acc : ∀ {pr op r2}, r.handleAppendResponseAccepted m pr op = .ok r2 → P r2) : P r' :=
  handleAppendResponse_parts2 (R := P) h h0 (fun _ _ _ => set _) app (fun _ _ _ => set _)
    (fun _ _ _ => set _) fun _ _ _ ha => acc ha

/-- the tail of `handle_heartbeat_response` (raft.rs:1918-1934): the acknowledgement is recorded in
the read-only queue and, with a quorum, the queue is advanced and the released reads are answered -/
def heartbeatAck (r : Raft) (m : Message) : Res Raft :=
  if r.readOnly.option ≠ .safe ∨ m.context.isEmpty then .ok r
  else
    let (ro, acks) := r.readOnly.recvAck m.frm m.context
    let r := { r with readOnly := ro }
    match acks with
    | none => .ok r
    | some acks =>
      if r.prs.hasQuorum acks then
        (r.readOnly.advance m.context).bind (fun (ro, rss) =>
          ({ r with readOnly := ro } : Raft).respondReadStates rss)
      else .ok r

theorem heartbeatAck_parts {P : Raft → Prop} {r r' : Raft} {m : Message}
    (h : r.heartbeatAck m = .ok r') (h0 : P r)
    (ack : ∀ {r1 : Raft}, P r1 →
      P { r1 with readOnly := (r1.readOnly.recvAck m.frm m.context).1 })
    (adv : ∀ {r1 : Raft} {ro' rss}, r1.readOnly.advance m.context = .ok (ro', rss) → P r1 →
      P { r1 with readOnly := ro' })
    (resp : ∀ {r1 : Raft} {ro' rss r2}, r1.readOnly.advance m.context = .ok (ro', rss) →
      ({ r1 with readOnly := ro' } : Raft).respondReadStates rss = .ok r2 →
      P r1 → P { r1 with readOnly := ro' } → P r2) : P r' := by
  unfold Raft.heartbeatAck at h
  split at h
  · cases h; exact h0
  · split at h
    rename_i ro _ hra
    have p3 : P { r with readOnly := ro } := by
      have := ack h0
      rwa [hra] at this
    simp only at h
    split at h
    · cases h; exact p3
    · split at h
      · obtain ⟨⟨ro2, rss⟩, ha, h⟩ := Res.bind_eq_ok h
        exact resp (r1 := { r with readOnly := ro }) ha h p3
          (adv (r1 := { r with readOnly := ro }) ha p3)
      · cases h; exact p3

/-- **the ways `handle_heartbeat_response` ends well** (raft.rs:1893), with the sender's progress in
hand.  The stored progress `pr0` is marked active and resumed, and one slot of a full window is freed:
this is `pr1`.  A peer that is not behind has it stored (`stored`); for one that is, `send_append` runs
on it first (`sent`).  Then the acknowledgement goes to the read-only queue. -/
inductive HbResp (r : Raft) (m : Message) : Raft → Prop
  | unknown : r.prs.get m.frm = none → HbResp r m r
  | stored {pr0 pr1 r'} : r.prs.get m.frm = some pr0 →
      (¬ (pr0.state = .replicate ∧ pr0.ins.full = true) ∧
          pr1 = ({ pr0.updateCommitted m.commit with recentActive := true } : Progress).resume ∨
        (pr0.state = .replicate ∧ pr0.ins.full = true) ∧ ∃ ins, pr0.ins.freeFirstOne = .ok ins ∧
          pr1 = { ({ pr0.updateCommitted m.commit with recentActive := true } : Progress).resume with
            ins := ins }) →
      ¬ (pr1.matched < r.raftLog.lastIndex ∨ pr1.pendingRequestSnapshot ≠ 0) →
      ({ r with prs := r.prs.set m.frm pr1 } : Raft).heartbeatAck m = .ok r' → HbResp r m r'
  | sent {pr0 pr1 r2 pr2 r'} : r.prs.get m.frm = some pr0 →
      (¬ (pr0.state = .replicate ∧ pr0.ins.full = true) ∧
          pr1 = ({ pr0.updateCommitted m.commit with recentActive := true } : Progress).resume ∨
        (pr0.state = .replicate ∧ pr0.ins.full = true) ∧ ∃ ins, pr0.ins.freeFirstOne = .ok ins ∧
          pr1 = { ({ pr0.updateCommitted m.commit with recentActive := true } : Progress).resume with
            ins := ins }) →
      pr1.matched < r.raftLog.lastIndex ∨ pr1.pendingRequestSnapshot ≠ 0 →
      r.sendAppendPr m.frm pr1 = .ok (r2, pr2) →
      ({ r2 with prs := r2.prs.set m.frm pr2 } : Raft).heartbeatAck m = .ok r' → HbResp r m r'

theorem handleHeartbeatResponse_inv {r r' : Raft} {m : Message}
    (h : r.handleHeartbeatResponse m = .ok r') : HbResp r m r' := by
  unfold Raft.handleHeartbeatResponse at h
  split at h
  · rename_i hg; cases h; exact .unknown hg
  · rename_i pr0 hg
    obtain ⟨pr1, hp1, h⟩ := Res.bind_eq_ok h
    have ht : (¬ (pr0.state = .replicate ∧ pr0.ins.full = true) ∧
          pr1 = ({ pr0.updateCommitted m.commit with recentActive := true } : Progress).resume ∨
        (pr0.state = .replicate ∧ pr0.ins.full = true) ∧ ∃ ins, pr0.ins.freeFirstOne = .ok ins ∧
          pr1 = { ({ pr0.updateCommitted m.commit with recentActive := true } : Progress).resume with
            ins := ins }) := by
      rw [Progress.updateCommitted_eq] at hp1 ⊢
      split at hp1
      · rename_i hc
        split at hp1
        · rename_i ins hi; cases hp1; exact .inr ⟨hc, ins, hi, rfl⟩
        · cases hp1
      · rename_i hc; cases hp1; exact .inl ⟨hc, rfl⟩
    obtain ⟨r2, h2, h⟩ := Res.bind_eq_ok h
    split at h2
    · rename_i hc
      obtain ⟨⟨r3, pr3⟩, h3, h2⟩ := Res.bind_eq_ok h2
      cases h2; exact .sent hg ht hc h3 h
    · rename_i hc; cases h2; exact .stored hg ht hc h

/-- `handle_heartbeat_response` (raft.rs:1893): the stored progress is marked active, resumed and, if
its window is full, one slot is freed (`touch`); `send_append` may run on it if it is behind; it is
stored back; then the acknowledgement is recorded in the read-only queue (`ack`) and, with a quorum, the
queue is advanced (`adv`) and the released reads are answered (`resp`). -/
theorem handleHeartbeatResponse_parts2 {P : Raft → Prop} {Q : Raft → Nat → Progress → Prop}
    {r r' : Raft} {m : Message} (h : r.handleHeartbeatResponse m = .ok r') (h0 : P r)
    (touch : ∀ {pr pr1}, r.prs.get m.frm = some pr →
      (pr1 = ({ pr.updateCommitted m.commit with recentActive := true } : Progress).resume ∨
        ∃ ins, ({ pr.updateCommitted m.commit with recentActive := true } : Progress).resume.ins.freeFirstOne
            = .ok ins ∧
          pr1 = { ({ pr.updateCommitted m.commit with recentActive := true } : Progress).resume with
            ins := ins }) → Q r m.frm pr1)
    (app : ∀ {pr r2 pr2}, Q r m.frm pr → r.sendAppendPr m.frm pr = .ok (r2, pr2) → Q r2 m.frm pr2)
    (set : ∀ {r1 pr'}, Q r1 m.frm pr' → P { r1 with prs := r1.prs.set m.frm pr' })
    (ack : ∀ {r1 : Raft}, P r1 →
      P { r1 with readOnly := (r1.readOnly.recvAck m.frm m.context).1 })
    (adv : ∀ {r1 : Raft} {ro' rss}, r1.readOnly.advance m.context = .ok (ro', rss) → P r1 →
      P { r1 with readOnly := ro' })
    (resp : ∀ {r1 : Raft} {ro' rss r2}, r1.readOnly.advance m.context = .ok (ro', rss) →
      ({ r1 with readOnly := ro' } : Raft).respondReadStates rss = .ok r2 →
      P r1 → P { r1 with readOnly := ro' } → P r2) : P r' := by
  have tch : ∀ {pr0 pr1 : Progress},
      (¬ (pr0.state = .replicate ∧ pr0.ins.full = true) ∧
          pr1 = ({ pr0.updateCommitted m.commit with recentActive := true } : Progress).resume ∨
        (pr0.state = .replicate ∧ pr0.ins.full = true) ∧ ∃ ins, pr0.ins.freeFirstOne = .ok ins ∧
          pr1 = { ({ pr0.updateCommitted m.commit with recentActive := true } : Progress).resume with
            ins := ins }) →
      pr1 = ({ pr0.updateCommitted m.commit with recentActive := true } : Progress).resume ∨
        ∃ ins, ({ pr0.updateCommitted m.commit with recentActive := true } : Progress).resume.ins.freeFirstOne
            = .ok ins ∧
          pr1 = { ({ pr0.updateCommitted m.commit with recentActive := true } : Progress).resume with
            ins := ins } := by
    rintro pr0 pr1 (⟨_, e⟩ | ⟨_, ins, hi, e⟩)
    · exact .inl e
    · refine .inr ⟨ins, ?_, e⟩
      rw [Progress.updateCommitted_eq]; exact hi
  cases handleHeartbeatResponse_inv h with
  | unknown => exact h0
  | stored hg ht _ ha => exact heartbeatAck_parts ha (set (touch hg (tch ht))) ack adv resp
  | sent hg ht _ hs ha =>
    exact heartbeatAck_parts ha (set (app (touch hg (tch ht)) hs)) ack adv resp

theorem handleHeartbeatResponse_parts {P : Raft → Prop} {r r' : Raft} {m : Message}
    (h : r.handleHeartbeatResponse m = .ok r') (h0 : P r)
    (app : ∀ {pr r2 pr2}, r.sendAppendPr m.frm pr = .ok (r2, pr2) → P r2)
    (set : ∀ {r1} pr', P r1 → P { r1 with prs := r1.prs.set m.frm pr' })
    (ro : ∀ {r1} ro', P r1 → P { r1 with readOnly := ro' })
    (resp : ∀ {r1 r2 rss}, r1.respondReadStates rss = .ok r2 → P r1 → P r2) : P r' :=
  handleHeartbeatResponse_parts2 (Q := fun r _ _ => P r) h h0 (fun _ _ => h0) (fun _ ha => app ha)
    (fun q => set _ q) (ro _) (fun _ => ro _) fun _ hr _ p => resp hr p

/-- `handle_transfer_leader` (raft.rs:1937): a request that changes nothing (`h0`); else a pending
transfer to another peer is aborted and the transferee is recorded (`R` is carried through these), and
it is sent `MsgTimeoutNow` if caught up (`tn`), else an append on its stored progress (`app`), which is
stored back (`set`). -/
theorem handleTransferLeader_parts2 {P R : Raft → Prop} {Q : Raft → Nat → Progress → Prop}
    {r r' : Raft} {m : Message} (h : r.handleTransferLeader m = .ok r') (h0 : P r) (r0 : R r)
    (abort : R r → R r.abortLeaderTransfer)
    (start : ∀ {r1}, R r1 →
      R { r1 with electionElapsed := 0, leadTransferee := some m.frm })
    (done : ∀ {r1}, R r1 → P r1)
    (tn : ∀ {r1 r2 : Raft} {pr}, r1.leadTransferee = some m.frm → r1.prs.get m.frm = some pr →
      pr.matched = r1.raftLog.lastIndex → r1.sendTimeoutNow m.frm = .ok r2 → R r1 → P r2)
    (app : ∀ {r1 : Raft} {pr r2 pr2}, r1.leadTransferee = some m.frm → r1.prs.get m.frm = some pr →
      r1.sendAppendPr m.frm pr = .ok (r2, pr2) → R r1 → Q r2 m.frm pr2)
    (set : ∀ {r1 pr'}, Q r1 m.frm pr' → P { r1 with prs := r1.prs.set m.frm pr' }) : P r' := by
  have cont : ∀ {r1 : Raft}, R r1 →
      (if m.frm = r1.id then Res.ok r1
        else
          let r : Raft := { r1 with electionElapsed := 0, leadTransferee := some m.frm }
          match r.prs.get m.frm with
          | none => .panic "raft.handle_transfer_leader.unwrap"
          | some pr =>
            if pr.matched = r.raftLog.lastIndex then r.sendTimeoutNow m.frm
            else (r.sendAppendPr m.frm pr).bind
              (fun (r, pr) => .ok { r with prs := r.prs.set m.frm pr })) = .ok r' → P r' := by
    intro r1 p1 hc
    by_cases hid : m.frm = r1.id
    · rw [if_pos hid] at hc; cases hc; exact done p1
    rw [if_neg hid] at hc
    dsimp only at hc
    cases hg : r1.prs.get m.frm with
    | none => rw [hg] at hc; cases hc
    | some pr =>
      rw [hg] at hc
      dsimp only at hc
      by_cases hm : pr.matched = r1.raftLog.lastIndex
      · rw [if_pos hm] at hc
        exact tn (r1 := { r1 with electionElapsed := 0, leadTransferee := some m.frm }) rfl hg hm hc
          (start p1)
      · rw [if_neg hm] at hc
        obtain ⟨⟨r3, pr3⟩, h3, hc⟩ := Res.bind_eq_ok hc
        cases hc
        exact set (app (r1 := { r1 with electionElapsed := 0, leadTransferee := some m.frm }) rfl hg h3
          (start p1))
  unfold Raft.handleTransferLeader at h
  cases hg : r.prs.get m.frm with
  | none => rw [hg] at h; cases h; exact h0
  | some p0 =>
    rw [hg] at h
    dsimp only at h
    by_cases hl : r.prs.conf.learners.contains m.frm = true
    · rw [if_pos hl] at h; cases h; exact h0
    rw [if_neg hl] at h
    cases ht : r.leadTransferee with
    | none => rw [ht] at h; exact cont r0 h
    | some last =>
      rw [ht] at h
      dsimp only at h
      by_cases hlast : last = m.frm
      · rw [if_pos hlast] at h; cases h; exact h0
      · rw [if_neg hlast] at h; exact cont (abort r0) h

theorem handleTransferLeader_parts {P : Raft → Prop} {r r' : Raft} {m : Message}
    (h : r.handleTransferLeader m = .ok r') (h0 : P r)
    (abort : P r → P r.abortLeaderTransfer)
    (start : ∀ {r1}, P r1 →
      P { r1 with electionElapsed := 0, leadTransferee := some m.frm })
    (tn : ∀ {r1 r2 : Raft}, r1.leadTransferee = some m.frm → r1.sendTimeoutNow m.frm = .ok r2 →
      P r1 → P r2)
    (app : ∀ {r1 : Raft} {pr r2 pr2}, r1.leadTransferee = some m.frm →
      r1.sendAppendPr m.frm pr = .ok (r2, pr2) → P r1 → P r2)
    (set : ∀ {r1} pr', P r1 → P { r1 with prs := r1.prs.set m.frm pr' }) : P r' :=
  handleTransferLeader_parts2 (R := P) (Q := fun r _ _ => P r) h h0 h0 abort start (fun p => p)
    (fun hl _ _ hs p => tn hl hs p) (fun hl _ ha p => app hl ha p) fun q => set _ q

/-- the per-entry body of the proposal filter (raft.rs:2111-2159): an admitted configuration change
moves `pending_conf_index`, a refused one is replaced by an empty entry. -/
theorem filterProposalEntry_parts {P : Raft → Prop} {r r' : Raft} {i : Nat} {e e' : Entry}
    (h : r.filterProposalEntry i e = some (r', e')) (h0 : P r)
    (pending : ∀ i', P { r with pendingConfIndex := i' }) : P r' := by
  unfold Raft.filterProposalEntry at h
  simp only at h
  split at h
  · cases h
  · cases h; exact h0
  · -- refused because another change is pending, or decided by the joint state
    split at h
    · split at h
      · cases h; exact pending _
      · cases h; exact h0
    · split at h
      · cases h; exact pending _
      · cases h; exact h0

theorem filterProposal_parts {P : Raft → Prop}
    (entry : ∀ {r1 r2 i e e'}, r1.filterProposalEntry i e = some (r2, e') → P r1 → P r2) :
    ∀ (es : List Entry) (r r' : Raft) (i : Nat) (oes : Option (List Entry)),
      r.filterProposal i es = (r', oes) → P r → P r' := by
  intro es
  induction es with
  | nil => intro r r' i oes h h0; cases h; exact h0
  | cons e es ih =>
    intro r r' i oes h h0
    unfold Raft.filterProposal at h
    split at h
    · cases h; exact h0
    · rename_i he
      split at h
      · rename_i hes; cases h; exact ih _ _ _ _ hes (entry he h0)
      · rename_i hes; cases h; exact ih _ _ _ _ hes (entry he h0)

/-! ### Terms, role changes and elections -/

/-- the term preamble of `step` (raft.rs:1352-1482): a message of a higher term makes the node a
follower of that term; a stale `MsgAppend` / `MsgHeartbeat` is acknowledged (`ack`), a stale
`MsgRequestPreVote` rejected (`rej`). -/
theorem stepTerm_parts {P : Raft → Prop} {r r' : Raft} {m : Message} {b : Bool}
    (h : r.stepTerm m = .ok (r', b)) (h0 : P r)
    (bf : ∀ {r1 : Raft} l, r1.term < m.term → P r1 → P (r1.becomeFollower m.term l))
    (ack : ∀ {r1 r2 x}, r1.send x = .ok r2 → x.msgType = .msgAppendResponse → P r1 → P r2)
    (rej : ∀ {r1 r2 x}, r1.send x = .ok r2 → x.msgType = .msgRequestPreVoteResponse → P r1 → P r2) :
    P r' := by
  cases stepTerm_inv h with
  | zero | leased | prevote | stale | same => exact h0
  | follow l _ hgt => exact bf l hgt h0
  | staleAck _ _ _ hs => exact ack hs rfl h0
  | staleReject _ _ _ hs => exact rej hs rfl h0

/-- `become_candidate` (raft.rs:1180): `reset` to the next term, then a vote for itself. -/
theorem becomeCandidate_parts {P : Raft → Prop} {r r' : Raft} (h : r.becomeCandidate = .ok r')
    (h0 : P r) (reset : ∀ {r1} t, P r1 → P (r1.reset t))
    (cand : ∀ {r1}, P r1 → P { r1 with vote := r1.id, state := .candidate }) : P r' := by
  unfold Raft.becomeCandidate at h
  split at h
  · cases h
  · split at h
    · cases h
    · cases h; exact cand (reset _ h0)

/-- `become_leader` (raft.rs:1230): `reset` at the same term (`R` is asked of that state only), the
leader's bookkeeping (its own progress `pr0` replicates, `pending_conf_index` covers the whole log),
then the empty entry of the new term is appended. -/
theorem becomeLeader_parts2 {P R : Raft → Prop} {r r' : Raft} (h : r.becomeLeader = .ok r')
    (reset : R (r.reset r.term))
    (lead : ∀ {r1} us {pr0}, r1 = r.reset r.term → r1.prs.get r1.id = some pr0 → R r1 →
      P { r1 with leaderId := r1.id, state := .leader, uncommittedState := us,
                  prs := r1.prs.set r1.id pr0.becomeReplicate,
                  pendingConfIndex := r1.raftLog.lastIndex })
    (app : ∀ {r1 r2 es b}, r1.appendEntry es = .ok (r2, b) → P r1 → P r2) : P r' := by
  unfold Raft.becomeLeader at h
  split at h
  · cases h
  · simp only at h
    split at h
    · cases h
    · split at h
      · cases h
      · rename_i hg
        split at h
        · rename_i ha; cases h; exact app ha (lead _ rfl hg reset)
        · cases h
        · cases h
        · cases h

theorem becomeLeader_parts {P : Raft → Prop} {r r' : Raft} (h : r.becomeLeader = .ok r')
    (h0 : P r) (reset : ∀ {r1} t, P r1 → P (r1.reset t))
    (lead : ∀ {r1} us pr, P r1 →
      P { r1 with leaderId := r1.id, state := .leader, uncommittedState := us,
                  prs := r1.prs.set r1.id pr, pendingConfIndex := r1.raftLog.lastIndex })
    (app : ∀ {r1 r2 es b}, r1.appendEntry es = .ok (r2, b) → P r1 → P r2) : P r' :=
  becomeLeader_parts2 (R := P) h (reset _ h0) (fun us _ _ _ p => lead us _ p) app

/-- the vote-request loop of `campaign` (raft.rs:1303-1332) only sends, and only `voteMsg`s. -/
theorem sendVoteRequests_parts {P : Raft → Prop} {r r' : Raft} {ct : CampaignType} {vm : MsgType}
    {term : Nat} (h : r.sendVoteRequests ct vm term = .ok r') (h0 : P r)
    (send : ∀ {r1 r2 m}, r1.send m = .ok r2 → m.msgType = vm → P r1 → P r2) : P r' := by
  unfold Raft.sendVoteRequests at h
  split at h
  · cases h
  · cases h
  · split at h
    · cases h
    · cases h
    · refine foldl_parts _ (fun acc id r1 h1 => ?_) _ _ h (by intro r1 e; cases e; exact h0)
      cases acc with
      | err e => cases h1
      | panic s => cases h1
      | ok r0 =>
        refine ⟨r0, rfl, fun p0 => ?_⟩
        change (if id = r0.id then Res.ok r0 else _) = _ at h1
        split at h1
        · cases h1; exact p0
        · exact send h1 rfl p0

/-- `maybe_commit_by_vote` (raft.rs:2248): the commit index advances to the one the vote response
carries; a (pre-)candidate that thereby learns of an unapplied configuration change steps down. -/
theorem maybeCommitByVote_parts {P : Raft → Prop} {r r' : Raft} {m : Message}
    (h : r.maybeCommitByVote m = .ok r') (h0 : P r)
    (commit : ∀ {log}, r.raftLog.maybeCommit m.commit m.commitTerm = .ok (log, true) →
      P { r with raftLog := log })
    (bf : ∀ {r1 : Raft}, P r1 → P (r1.becomeFollower r1.term 0)) : P r' := by
  cases maybeCommitByVote_inv h with
  | ignored => exact h0
  | committed _ _ _ hc => exact commit hc
  | steppedDown _ _ _ hc => exact bf (commit hc)

/-- `poll` (raft.rs:2281): the vote is recorded and tallied; a won election makes the node leader and
broadcasts the new term's entry (a won pre-election goes on to `onPreWin`), a lost one makes it a
follower. -/
theorem pollWith_parts {P : Raft → Prop} {onPreWin : Raft → Res Raft} {r r' : Raft} {frm : Nat}
    {t : MsgType} {v : Bool} {res : VoteResult} (h : pollWith onPreWin r frm t v = .ok (r', res))
    (h0 : P r)
    (vote : ∀ {r1} frm v, P r1 → P { r1 with prs := r1.prs.recordVote frm v })
    (preWin : ∀ {r1 r2}, onPreWin r1 = .ok r2 → P r1 → P r2)
    (lead : ∀ {r1 r2}, r1.becomeLeader = .ok r2 → P r1 → P r2)
    (bcast : ∀ {r1 r2}, r1.bcastAppend = .ok r2 → P r1 → P r2)
    (bf : ∀ {r1 : Raft}, P r1 → P (r1.becomeFollower r1.term 0)) : P r' := by
  unfold Raft.pollWith at h
  simp only at h
  split at h
  · split at h
    · obtain ⟨r2, h2, h⟩ := Res.bind_eq_ok h
      cases h; exact preWin h2 (vote _ _ h0)
    · obtain ⟨r3, h3, h⟩ := Res.bind_eq_ok h
      obtain ⟨r2, h2, h3⟩ := Res.bind_eq_ok h3
      cases h; exact bcast h3 (lead h2 (vote _ _ h0))
  · cases h; exact bf (vote _ _ h0)
  · cases h; exact vote _ _ h0

/-- `campaign` (raft.rs:1287): the node becomes a (pre-)candidate, polls its own vote, and unless that
alone wins asks every other voter. -/
theorem campaignWith_parts {P : Raft → Prop}
    {poll : Raft → Nat → MsgType → Bool → Res (Raft × VoteResult)} {r r' : Raft} {ct : CampaignType}
    (h : campaignWith poll r ct = .ok r') (h0 : P r)
    (pre : ∀ {r1 r2}, r1.becomePreCandidate = .ok r2 → P r1 → P r2)
    (cand : ∀ {r1 r2}, r1.becomeCandidate = .ok r2 → P r1 → P r2)
    (poll : ∀ {r1 frm t v r2 res}, poll r1 frm t v = .ok (r2, res) → P r1 → P r2)
    (req : ∀ {r1 r2 ct vm t}, r1.sendVoteRequests ct vm t = .ok r2 →
      vm = .msgRequestPreVote ∨ vm = .msgRequestVote → P r1 → P r2) : P r' := by
  unfold Raft.campaignWith at h
  obtain ⟨⟨r1, vm, t⟩, h1, h⟩ := Res.bind_eq_ok h
  obtain ⟨⟨r2, res⟩, h2, h⟩ := Res.bind_eq_ok h
  have p1 : P r1 ∧ (vm = .msgRequestPreVote ∨ vm = .msgRequestVote) := by
    split at h1
    · obtain ⟨r0, hb, h1⟩ := Res.bind_eq_ok h1
      split at h1
      · cases h1
      · cases h1; exact ⟨pre hb h0, .inl rfl⟩
    · obtain ⟨r0, hb, h1⟩ := Res.bind_eq_ok h1
      cases h1; exact ⟨cand hb h0, .inr rfl⟩
  simp only at h
  split at h
  · cases h; exact poll h2 p1.1
  · exact req h p1.2 (poll h2 p1.1)

/-- `poll` and `campaign` call each other, to depth two: a pre-candidate that wins the pre-vote
campaigns for real, and in that campaign it is a candidate. -/
theorem poll_parts {P : Raft → Prop} {r r' : Raft} {frm : Nat} {t : MsgType} {v : Bool}
    {res : VoteResult} (h : r.poll frm t v = .ok (r', res)) (h0 : P r)
    (vote : ∀ {r1} frm v, P r1 → P { r1 with prs := r1.prs.recordVote frm v })
    (lead : ∀ {r1 r2}, r1.becomeLeader = .ok r2 → P r1 → P r2)
    (bcast : ∀ {r1 r2}, r1.bcastAppend = .ok r2 → P r1 → P r2)
    (bf : ∀ {r1 : Raft}, P r1 → P (r1.becomeFollower r1.term 0))
    (pre : ∀ {r1 r2}, r1.becomePreCandidate = .ok r2 → P r1 → P r2)
    (cand : ∀ {r1 r2}, r1.becomeCandidate = .ok r2 → P r1 → P r2)
    (req : ∀ {r1 r2 ct vm t}, r1.sendVoteRequests ct vm t = .ok r2 →
      vm = .msgRequestPreVote ∨ vm = .msgRequestVote → P r1 → P r2) : P r' :=
  pollWith_parts h h0 vote
    (fun hc p1 => campaignWith_parts hc p1 pre cand
      (fun hp p2 => pollWith_parts hp p2 vote (fun hx => by cases hx) lead bcast bf) req)
    lead bcast bf

theorem campaign_parts {P : Raft → Prop} {r r' : Raft} {ct : CampaignType}
    (h : r.campaign ct = .ok r') (h0 : P r)
    (vote : ∀ {r1} frm v, P r1 → P { r1 with prs := r1.prs.recordVote frm v })
    (lead : ∀ {r1 r2}, r1.becomeLeader = .ok r2 → P r1 → P r2)
    (bcast : ∀ {r1 r2}, r1.bcastAppend = .ok r2 → P r1 → P r2)
    (bf : ∀ {r1 : Raft}, P r1 → P (r1.becomeFollower r1.term 0))
    (pre : ∀ {r1 r2}, r1.becomePreCandidate = .ok r2 → P r1 → P r2)
    (cand : ∀ {r1 r2}, r1.becomeCandidate = .ok r2 → P r1 → P r2)
    (req : ∀ {r1 r2 ct vm t}, r1.sendVoteRequests ct vm t = .ok r2 →
      vm = .msgRequestPreVote ∨ vm = .msgRequestVote → P r1 → P r2) : P r' :=
  campaignWith_parts h h0 pre cand (poll_parts · · vote lead bcast bf pre cand req) req

/-- **the ways `hup` ends well** (raft.rs:1543): nothing; or a promotable non-leader without an
unapplied configuration change, and not a singleton with unpersisted entries, campaigns — a transfer
when asked for one, a pre-election with `pre_vote`, an election otherwise -/
inductive Hup (r : Raft) (tl : Bool) : Raft → Prop
  | idle : Hup r tl r
  | campaign {ct : CampaignType} {r' : Raft} : r.state ≠ .leader → r.promotable = true →
      r.hasUnappliedConfChanges r.hupScanLow (r.raftLog.committed + 1) = .ok false →
      ¬ (r.raftLog.persisted < r.raftLog.lastIndex ∧ r.prs.hasQuorum [r.id] = true) →
      ct = (if tl then .transfer else if r.preVote then .preElection else .election) →
      r.campaign ct = .ok r' → Hup r tl r'

theorem hup_inv {r r' : Raft} {tl : Bool} (h : r.hup tl = .ok r') : Hup r tl r' := by
  unfold Raft.hup at h
  rcases Res.ite_cases h with ⟨_, h⟩ | ⟨hl, h⟩
  · cases h; exact .idle
  rcases Res.ite_cases h with ⟨_, h⟩ | ⟨hp, h⟩
  · cases h; exact .idle
  have hp : r.promotable = true := by simpa using hp
  cases hu : r.hasUnappliedConfChanges r.hupScanLow (r.raftLog.committed + 1) with
  | panic s => rw [hu] at h; cases h
  | err e => rw [hu] at h; cases h
  | ok b =>
    rw [hu] at h
    cases b with
    | true => cases h; exact .idle
    | false =>
      dsimp only at h
      rcases Res.ite_cases h with ⟨_, h⟩ | ⟨hq, h⟩
      · cases h; exact .idle
      refine .campaign hl hp hu hq rfl ?_
      cases tl with
      | true => exact h
      | false =>
        cases hpv : r.preVote with
        | true => rw [hpv] at h; exact h
        | false => rw [hpv] at h; exact h

/-- `hup`: nothing, or one of the three kinds of campaign. -/
theorem hup_parts {P : Raft → Prop} {r r' : Raft} {tl : Bool} (h : r.hup tl = .ok r') (h0 : P r)
    (camp : ∀ {ct r2}, r.state ≠ .leader → r.campaign ct = .ok r2 → P r2) : P r' := by
  cases hup_inv h with
  | idle => exact h0
  | campaign hl _ _ _ _ hc => exact camp hl hc

/-! ### The follower's handlers -/

/-- `send_request_snapshot` (raft.rs:2918): a rejecting `MsgAppendResponse` carries the request. -/
theorem sendRequestSnapshot_parts {P : Raft → Prop} {r r' : Raft}
    (h : r.sendRequestSnapshot = .ok r') (h0 : P r)
    (send : ∀ {r1 r2 x}, r1.send x = .ok r2 → x.msgType = .msgAppendResponse → P r1 → P r2) :
    P r' := by
  unfold Raft.sendRequestSnapshot at h
  simp only at h
  split at h
  · exact send h rfl h0
  · cases h
  · cases h

/-- `request_snapshot` (raft.rs:2486): unless the request is dropped, the last index is recorded as
pending and the request is sent. -/
theorem requestSnapshot_parts {P : Raft → Prop} {r r' : Raft} {e : Option RaftError}
    (h : r.requestSnapshot = .ok (r', e)) (h0 : P r)
    (pend : ∀ {r1} i, P r1 → P { r1 with pendingRequestSnapshot := i })
    (req : ∀ {r1 r2}, r1.sendRequestSnapshot = .ok r2 → P r1 → P r2) : P r' := by
  unfold Raft.requestSnapshot at h
  rcases Res.ite_cases h with ⟨_, h⟩ | ⟨_, h⟩
  · cases h; exact h0
  rcases Res.ite_cases h with ⟨_, h⟩ | ⟨_, h⟩
  · cases h; exact h0
  rcases Res.ite_cases h with ⟨_, h⟩ | ⟨_, h⟩
  · cases h; exact h0
  rcases Res.ite_cases h with ⟨_, h⟩ | ⟨_, h⟩
  · cases h; exact h0
  dsimp only at h
  cases ht : r.raftLog.term r.raftLog.lastIndex with
  | panic s => rw [ht] at h; cases h
  | err e => rw [ht] at h; cases h
  | ok t =>
    rw [ht] at h
    dsimp only at h
    rcases Res.ite_cases h with ⟨_, h⟩ | ⟨_, h⟩
    · obtain ⟨r2, h2, h⟩ := Res.bind_eq_ok h
      cases h; exact req h2 (pend _ h0)
    · cases h; exact h0

/-- **the ways `handle_append_entries` ends well** (raft.rs:2528): a node waiting for a snapshot repeats
its request; a stale append is answered with the commit index; an append that `maybe_append` takes is
acknowledged with the new last index; one it refuses is rejected with the hint of
`find_conflict_by_term` -/
inductive AppendHandled (r : Raft) (m : Message) : Raft → Prop
  | waiting {r'} : r.pendingRequestSnapshot ≠ 0 → r.sendRequestSnapshot = .ok r' →
      AppendHandled r m r'
  | stale {r'} : r.pendingRequestSnapshot = 0 → m.index < r.raftLog.committed →
      r.send { msgType := .msgAppendResponse, to := m.frm, index := r.raftLog.committed,
               commit := r.raftLog.committed } = .ok r' → AppendHandled r m r'
  | accepted {l ci last r'} : r.pendingRequestSnapshot = 0 → ¬ m.index < r.raftLog.committed →
      r.raftLog.maybeAppend m.index m.logTerm m.commit m.entries = .ok (l, some (ci, last)) →
      ({ r with raftLog := l } : Raft).send
        { msgType := .msgAppendResponse, to := m.frm, index := last, commit := l.committed }
        = .ok r' → AppendHandled r m r'
  | rejected {l hint ht r'} : r.pendingRequestSnapshot = 0 → ¬ m.index < r.raftLog.committed →
      r.raftLog.maybeAppend m.index m.logTerm m.commit m.entries = .ok (l, none) →
      l.findConflictByTerm (min m.index l.lastIndex) m.logTerm = .ok (hint, some ht) →
      ({ r with raftLog := l } : Raft).send
        { msgType := .msgAppendResponse, to := m.frm, index := m.index, reject := true,
          rejectHint := hint, logTerm := ht, commit := l.committed } = .ok r' →
      AppendHandled r m r'

theorem handleAppendEntries_inv {r r' : Raft} {m : Message}
    (h : r.handleAppendEntries m = .ok r') : AppendHandled r m r' := by
  unfold Raft.handleAppendEntries at h
  by_cases hp : r.pendingRequestSnapshot ≠ 0
  · rw [if_pos hp] at h; exact .waiting hp h
  rw [if_neg hp] at h
  have hp : r.pendingRequestSnapshot = 0 := Classical.not_not.1 hp
  by_cases hi : m.index < r.raftLog.committed
  · rw [if_pos hi] at h; exact .stale hp hi h
  rw [if_neg hi] at h
  cases ha : r.raftLog.maybeAppend m.index m.logTerm m.commit m.entries with
  | panic s => rw [ha] at h; cases h
  | err e => rw [ha] at h; cases h
  | ok x =>
    obtain ⟨l, res⟩ := x
    rw [ha] at h
    cases res with
    | some p => obtain ⟨ci, last⟩ := p; exact .accepted hp hi ha h
    | none =>
      dsimp only at h
      cases hf : l.findConflictByTerm (min m.index l.lastIndex) m.logTerm with
      | panic s => rw [hf] at h; cases h
      | err e => rw [hf] at h; cases h
      | ok y =>
        obtain ⟨hint, o⟩ := y
        rw [hf] at h
        cases o with
        | none => cases h
        | some ht => exact .rejected hp hi ha hf h

/-- `handle_append_entries` (raft.rs:2528): a node waiting for a snapshot repeats its request; a
stale append is answered with the commit index; otherwise `maybe_append` gives the new log, and the
outcome is reported in a `MsgAppendResponse`. -/
theorem handleAppendEntries_parts {P : Raft → Prop} {r r' : Raft} {m : Message}
    (h : r.handleAppendEntries m = .ok r') (h0 : P r)
    (req : ∀ {r1 r2}, r1.sendRequestSnapshot = .ok r2 → P r1 → P r2)
    (app : ∀ {l c}, r.raftLog.maybeAppend m.index m.logTerm m.commit m.entries = .ok (l, c) →
      P { r with raftLog := l })
    (send : ∀ {r1 r2 x}, r1.send x = .ok r2 → x.msgType = .msgAppendResponse → P r1 → P r2) :
    P r' := by
  cases handleAppendEntries_inv h with
  | waiting _ hs => exact req hs h0
  | stale _ _ hs => exact send hs rfl h0
  | accepted _ _ ha hs => exact send hs rfl (app ha)
  | rejected _ _ ha _ hs => exact send hs rfl (app ha)

/-- `handle_heartbeat` (raft.rs:2591) taken apart: `commit_to(m.commit)`, then the answer — the snapshot
request if one is pending, else the `MsgHeartbeatResponse` -/
theorem handleHeartbeat_inv {r r' : Raft} {m : Message} (h : r.handleHeartbeat m = .ok r') :
    ∃ l, r.raftLog.commitTo m.commit = .ok l ∧
      ((r.pendingRequestSnapshot ≠ 0 ∧ ({ r with raftLog := l } : Raft).sendRequestSnapshot = .ok r') ∨
       (r.pendingRequestSnapshot = 0 ∧ ({ r with raftLog := l } : Raft).send
          { msgType := .msgHeartbeatResponse, to := m.frm, context := m.context,
            commit := l.committed } = .ok r')) := by
  unfold Raft.handleHeartbeat at h
  cases hc : r.raftLog.commitTo m.commit with
  | panic s => rw [hc] at h; cases h
  | err e => rw [hc] at h; cases h
  | ok l =>
    rw [hc] at h
    dsimp only at h
    by_cases hp : r.pendingRequestSnapshot ≠ 0
    · rw [if_pos hp] at h; exact ⟨l, rfl, .inl ⟨hp, h⟩⟩
    · rw [if_neg hp] at h; exact ⟨l, rfl, .inr ⟨Classical.not_not.1 hp, h⟩⟩

/-- `handle_heartbeat` (raft.rs:2591): the commit index follows the leader's, then the heartbeat is
answered, by the snapshot request if one is pending. -/
theorem handleHeartbeat_parts {P : Raft → Prop} {r r' : Raft} {m : Message}
    (h : r.handleHeartbeat m = .ok r')
    (commit : ∀ {l}, r.raftLog.commitTo m.commit = .ok l → P { r with raftLog := l })
    (req : ∀ {r1 r2}, r1.sendRequestSnapshot = .ok r2 → P r1 → P r2)
    (send : ∀ {r1 r2 x}, r1.send x = .ok r2 → x.msgType = .msgHeartbeatResponse → P r1 → P r2) :
    P r' := by
  obtain ⟨l, hc, ⟨_, hs⟩ | ⟨_, hs⟩⟩ := handleHeartbeat_inv h
  · exact req hs (commit hc)
  · exact send hs rfl (commit hc)

/-! ### Persistence, application and group commit -/

/-- `on_persist_snap` (raft.rs:1089) -/
theorem onPersistSnap_parts {P : Raft → Prop} {r r' : Raft} {index : Nat}
    (h : r.onPersistSnap index = .ok r')
    (persist : ∀ {l b}, r.raftLog.maybePersistSnap index = .ok (l, b) → P { r with raftLog := l }) :
    P r' := by
  unfold Raft.onPersistSnap at h
  split at h
  · rename_i hp; cases h; exact persist hp
  · cases h
  · cases h

/-- **the ways `on_persist_entries` ends well** (raft.rs:1060): only `persisted` moves (nothing new is
persisted, or the node is no leader, or it has no progress of its own); or the leader's own progress
takes the index — without moving, or moving, after which `maybe_commit` runs and a new commit index is
broadcast -/
inductive Persisted (r : Raft) (index term : Nat) : Raft → Prop
  | logOnly {l b} : r.raftLog.maybePersist index term = .ok (l, b) →
      ¬ (b = true ∧ r.state = .leader) → Persisted r index term { r with raftLog := l }
  | noSelf {l} : r.raftLog.maybePersist index term = .ok (l, true) → r.state = .leader →
      r.prs.get r.id = none → Persisted r index term { r with raftLog := l }
  | kept {l pr pr'} : r.raftLog.maybePersist index term = .ok (l, true) → r.state = .leader →
      r.prs.get r.id = some pr → pr.maybeUpdate index = .ok (pr', false) →
      Persisted r index term { r with raftLog := l, prs := r.prs.set r.id pr' }
  | moved {l pr pr' r2 b r'} : r.raftLog.maybePersist index term = .ok (l, true) →
      r.state = .leader → r.prs.get r.id = some pr → pr.maybeUpdate index = .ok (pr', true) →
      ({ r with raftLog := l, prs := r.prs.set r.id pr' } : Raft).maybeCommit = .ok (r2, b) →
      (b = true ∧ r2.shouldBcastCommit = true ∧ r2.bcastAppend = .ok r') ∨
        (¬ (b = true ∧ r2.shouldBcastCommit = true) ∧ r' = r2) →
      Persisted r index term r'

theorem onPersistEntries_inv {r r' : Raft} {index term : Nat}
    (h : r.onPersistEntries index term = .ok r') : Persisted r index term r' := by
  unfold Raft.onPersistEntries at h
  cases hp : r.raftLog.maybePersist index term with
  | panic s => rw [hp] at h; cases h
  | err e => rw [hp] at h; cases h
  | ok x =>
    obtain ⟨l, b⟩ := x
    rw [hp] at h
    dsimp only at h
    by_cases hl : b = true ∧ r.state = .leader
    · rw [if_pos hl] at h
      obtain ⟨rfl, hs⟩ := hl
      cases hg : r.prs.get r.id with
      | none => rw [hg] at h; cases h; exact .noSelf hp hs hg
      | some pr =>
        rw [hg] at h
        dsimp only at h
        cases hu : pr.maybeUpdate index with
        | panic s => rw [hu] at h; cases h
        | err e => rw [hu] at h; cases h
        | ok y =>
          obtain ⟨pr', u⟩ := y
          rw [hu] at h
          dsimp only at h
          cases u with
          | false => cases h; exact .kept hp hs hg hu
          | true =>
            cases hc : ({ r with raftLog := l, prs := r.prs.set r.id pr' } : Raft).maybeCommit with
            | panic s => rw [if_pos rfl, hc] at h; cases h
            | err e => rw [if_pos rfl, hc] at h; cases h
            | ok z =>
              obtain ⟨r2, c⟩ := z
              rw [if_pos rfl, hc] at h
              cases c with
              | false => cases h; exact .moved hp hs hg hu hc (.inr ⟨fun hh => (nomatch hh.1), rfl⟩)
              | true =>
                dsimp only at h
                by_cases hb : r2.shouldBcastCommit = true
                · rw [if_pos hb] at h; exact .moved hp hs hg hu hc (.inl ⟨rfl, hb, h⟩)
                · rw [if_neg hb] at h; cases h
                  exact .moved hp hs hg hu hc (.inr ⟨fun hh => hb hh.2, rfl⟩)
    · rw [if_neg hl] at h; cases h; exact .logOnly hp hl

/-- `on_persist_entries` (raft.rs:1060): `persisted` moves; a leader then updates its own progress
(`set` is told whose, that `maybe_persist` took the index, and from what to what) and, if that moved, tries to commit and broadcasts a new commit
index. -/
theorem onPersistEntries_parts2 {P : Raft → Prop} {r r' : Raft} {index term : Nat}
    (h : r.onPersistEntries index term = .ok r')
    (persist : ∀ {l b}, r.raftLog.maybePersist index term = .ok (l, b) → P { r with raftLog := l })
    (set : r.state = .leader → ∀ {r1 pr pr' u}, r1.id = r.id →
      r.raftLog.maybePersist index term = .ok (r1.raftLog, true) → r1.prs.get r1.id = some pr →
      pr.maybeUpdate index = .ok (pr', u) → P r1 → P { r1 with prs := r1.prs.set r1.id pr' })
    (commit : r.state = .leader → ∀ {r1 r2 b}, r1.maybeCommit = .ok (r2, b) → P r1 → P r2)
    (bcast : r.state = .leader → ∀ {r1 r2}, r1.bcastAppend = .ok r2 → P r1 → P r2) : P r' := by
  cases onPersistEntries_inv h with
  | logOnly hp => exact persist hp
  | noSelf hp => exact persist hp
  | @kept l pr pr' hp hs hg hu =>
    exact set hs (r1 := { r with raftLog := l }) rfl hp hg hu (persist hp)
  | @moved l pr pr' r2 b _ hp hs hg hu hc hb =>
    have p1 := set hs (r1 := { r with raftLog := l }) rfl hp hg hu (persist hp)
    rcases hb with ⟨_, _, hb⟩ | ⟨_, rfl⟩
    · exact bcast hs hb (commit hs hc p1)
    · exact commit hs hc p1

theorem onPersistEntries_parts {P : Raft → Prop} {r r' : Raft} {index term : Nat}
    (h : r.onPersistEntries index term = .ok r')
    (persist : ∀ {l b}, r.raftLog.maybePersist index term = .ok (l, b) → P { r with raftLog := l })
    (set : ∀ {r1} pr', P r1 → P { r1 with prs := r1.prs.set r1.id pr' })
    (commit : r.state = .leader → ∀ {r1 r2 b}, r1.maybeCommit = .ok (r2, b) → P r1 → P r2)
    (bcast : r.state = .leader → ∀ {r1 r2}, r1.bcastAppend = .ok r2 → P r1 → P r2) : P r' :=
  onPersistEntries_parts2 h persist (fun _ _ _ _ _ _ _ _ _ p => set _ p) commit bcast

/-- `commit_apply_internal` (raft.rs:973): `applied` moves; a leader whose joint configuration leaves
automatically then appends the empty `ConfChangeV2` and records its index. -/
theorem commitApplyInternal_parts {P : Raft → Prop} {r r' : Raft} {applied : Nat} {skip : Bool}
    (h : r.commitApplyInternal applied skip = .ok r')
    (apply : ∀ {l}, (if !skip then r.raftLog.appliedTo applied
        else if applied = 0 then .panic "raft.commit_apply_internal.assert"
        else .ok { r.raftLog with applied := applied }) = .ok l → P { r with raftLog := l })
    (app : r.state = .leader → ∀ {r1 r2 es b}, r1.appendEntry es = .ok (r2, b) → P r1 → P r2)
    (conf : ∀ {r1} i, P r1 → P { r1 with pendingConfIndex := i }) : P r' := by
  unfold Raft.commitApplyInternal at h
  simp only at h
  split at h
  · cases h
  · cases h
  · rename_i hl
    split at h
    · rename_i hc
      split at h
      · rename_i ha; cases h; exact conf _ (app hc.2.2.2 ha (apply hl))
      · cases h
      · cases h
      · cases h
    · cases h; exact apply hl

/-- `enable_group_commit` (raft.rs:515): the flag is stored; a leader switching it off tries to
commit. -/
theorem enableGroupCommit_parts {P : Raft → Prop} {r r' : Raft} {enable : Bool}
    (h : r.enableGroupCommit enable = .ok r')
    (flag : P { r with prs := { r.prs with groupCommit := enable } })
    (commit : r.state = .leader → ∀ {r1 r2 b}, r1.maybeCommit = .ok (r2, b) → P r1 → P r2)
    (bcast : r.state = .leader → ∀ {r1 r2}, r1.bcastAppend = .ok r2 → P r1 → P r2) : P r' := by
  unfold Raft.enableGroupCommit at h
  simp only at h
  split at h
  · rename_i hl; exact commitThenBcast_parts h flag (commit hl.1) (bcast hl.1)
  · cases h; exact flag

/-- `assign_commit_groups` (raft.rs:533): the group ids are stored in the progresses; a leader with
group commit on then tries to commit. -/
theorem assignCommitGroups_parts2 {P : Raft → Prop} {r r' : Raft} {ids : List (Nat × Nat)}
    (h : r.assignCommitGroups ids = .ok r') (h0 : P r)
    (group : ∀ {r1} id g, P r1 → P (r1.modifyProgress id (fun pr => { pr with commitGroupId := g })))
    (commit : r.state = .leader → ∀ {r1 r2 b}, r1.maybeCommit = .ok (r2, b) → P r1 → P r2)
    (bcast : r.state = .leader → ∀ {r1 r2}, r1.bcastAppend = .ok r2 → P r1 → P r2) : P r' := by
  unfold Raft.assignCommitGroups at h
  obtain ⟨r1, h1, h⟩ := Res.bind_eq_ok h
  -- the loop keeps the role
  have p1 : P r1 ∧ r1.state = r.state := by
    refine foldl_parts (P := fun r1 => P r1 ∧ r1.state = r.state) _ (fun acc p r2 h2 => ?_) _ _ h1
      (by intro r2 e; cases e; exact ⟨h0, rfl⟩)
    cases acc with
    | err e => cases h2
    | panic s => cases h2
    | ok r0 =>
      refine ⟨r0, rfl, fun p0 => ?_⟩
      change (if p.2 = 0 then Res.panic _ else Res.ok _) = _ at h2
      split at h2
      · cases h2
      · cases h2; exact ⟨group _ _ p0.1, p0.2⟩
  split at h
  · rename_i hl
    have hl : r.state = .leader := p1.2.symm.trans hl.1
    exact commitThenBcast_parts h p1.1 (commit hl) (bcast hl)
  · cases h; exact p1.1

theorem assignCommitGroups_parts {P : Raft → Prop} {r r' : Raft} {ids : List (Nat × Nat)}
    (h : r.assignCommitGroups ids = .ok r') (h0 : P r)
    (group : ∀ {r1} id f, P r1 → P (r1.modifyProgress id f))
    (commit : r.state = .leader → ∀ {r1 r2 b}, r1.maybeCommit = .ok (r2, b) → P r1 → P r2)
    (bcast : r.state = .leader → ∀ {r1 r2}, r1.bcastAppend = .ok r2 → P r1 → P r2) : P r' :=
  assignCommitGroups_parts2 h h0 (fun _ _ p => group _ _ p) commit bcast

/-! ### Configuration changes and `restore` -/

/-- `post_conf_change` (raft.rs:2743): `promotable` is recomputed; a leader that is no longer a voter
steps down; a leader that stays tries to commit and sends appends (to all if the commit index moved,
else only where something is pending), lets its own acknowledgement release pending reads, and
aborts a transfer to a removed peer.  `R` is what is known while the leader that stays is at work,
`Q` what is known of a peer's progress between `maybe_send_append` and the write-back. -/
theorem postConfChange_parts2 {P R : Raft → Prop} {Q : Raft → Nat → Progress → Prop} {r r' : Raft}
    {cs : ConfState} (h : r.postConfChange = .ok (r', cs))
    (down : r.state = .leader → Joint.contains r.prs.voters r.id = false →
      P (({ r with promotable := Joint.contains r.prs.voters r.id } : Raft).becomeFollower r.term 0))
    (stay : P { r with promotable := Joint.contains r.prs.voters r.id })
    (lead : r.state = .leader → R { r with promotable := Joint.contains r.prs.voters r.id })
    (commit : ∀ {r1 r2 b}, r1.maybeCommit = .ok (r2, b) → R r1 → R r2)
    (bcast : ∀ {r1 r2}, r1.bcastAppend = .ok r2 → R r1 → R r2)
    (app : ∀ {r1 id pr r2 pr2 b}, id ≠ r1.id → r1.prs.get id = some pr →
      r1.maybeSendAppend id pr false = .ok (r2, pr2, b) → R r1 → Q r2 id pr2)
    (set : ∀ {r1 id pr'}, Q r1 id pr' → R { r1 with prs := r1.prs.set id pr' })
    (ack : ∀ {r1 : Raft} {ctx}, r1.readOnly.lastPendingRequestCtx = some ctx → R r1 →
      R { r1 with readOnly := (r1.readOnly.recvAck r1.id ctx).1 })
    (adv : ∀ {r1 : Raft} {ctx ro' rss}, r1.readOnly.advance ctx = .ok (ro', rss) → R r1 →
      R { r1 with readOnly := ro' })
    (resp : ∀ {r1 : Raft} {ctx ro' rss r2}, r1.readOnly.advance ctx = .ok (ro', rss) →
      ({ r1 with readOnly := ro' } : Raft).respondReadStates rss = .ok r2 →
      R r1 → R { r1 with readOnly := ro' } → R r2)
    (abort : r.state = .leader → ∀ {r1}, R r1 → P r1.abortLeaderTransfer)
    (done : r.state = .leader → ∀ {r1}, R r1 → P r1) : P r' := by
  unfold Raft.postConfChange at h
  dsimp only at h
  rcases Res.ite_cases h with ⟨hd, h⟩ | ⟨_, h⟩
  · simp only [Bool.and_eq_true, Bool.not_eq_eq_eq_not, Bool.not_true, beq_iff_eq] at hd
    cases h; exact down hd.2 hd.1
  · rcases Res.ite_cases h with ⟨_, h⟩ | ⟨hl, h⟩
    · cases h; exact stay
    · have hl : r.state = .leader := Classical.byContradiction fun hn => hl (.inl hn)
      obtain ⟨r1, h1, h⟩ := Res.bind_eq_ok h
      have q1 : R r1 := by
        split at h1
        · rename_i hc; exact bcast h1 (commit hc (lead hl))
        · rename_i hc
          refine forEachPeer_parts2 h1 (commit hc (lead hl)) (fun hid hg h2 q => ?_) set
          obtain ⟨⟨r3, pr3, b⟩, h3, h2⟩ := Res.bind_eq_ok h2
          cases h2; exact app hid hg h3 q
        · cases h1
        · cases h1
      obtain ⟨r2, h2, h⟩ := Res.bind_eq_ok h
      have q2 : R r2 := by
        split at h2
        · cases h2; exact q1
        · rename_i ctx hctx
          have q3 : R { r1 with readOnly := (r1.readOnly.recvAck r1.id ctx).1 } := ack hctx q1
          split at h2
          · split at h2
            · obtain ⟨⟨ro2, rss⟩, ha, h2⟩ := Res.bind_eq_ok h2
              exact resp (r1 := { r1 with readOnly := (r1.readOnly.recvAck r1.id ctx).1 }) ha h2 q3
                (adv (r1 := { r1 with readOnly := (r1.readOnly.recvAck r1.id ctx).1 }) ha q3)
            · cases h2; exact q3
          · cases h2; exact q3
      split at h
      · split at h
        · cases h; exact abort hl q2
        · cases h; exact done hl q2
      · cases h; exact done hl q2

theorem postConfChange_split {P Q : Raft → Prop} {r r' : Raft} {cs : ConfState}
    (h : r.postConfChange = .ok (r', cs))
    (down : r.state = .leader → Joint.contains r.prs.voters r.id = false →
      P (({ r with promotable := Joint.contains r.prs.voters r.id } : Raft).becomeFollower r.term 0))
    (stay : P { r with promotable := Joint.contains r.prs.voters r.id })
    (lead : r.state = .leader → Q { r with promotable := Joint.contains r.prs.voters r.id })
    (commit : ∀ {r1 r2 b}, r1.maybeCommit = .ok (r2, b) → Q r1 → Q r2)
    (bcast : ∀ {r1 r2}, r1.bcastAppend = .ok r2 → Q r1 → Q r2)
    (app : ∀ {r1 id pr r2 pr2 b}, r1.maybeSendAppend id pr false = .ok (r2, pr2, b) → Q r1 → Q r2)
    (set : ∀ {r1} id pr', Q r1 → Q { r1 with prs := r1.prs.set id pr' })
    (ro : ∀ {r1} ro', Q r1 → Q { r1 with readOnly := ro' })
    (resp : ∀ {r1 r2 rss}, r1.respondReadStates rss = .ok r2 → Q r1 → Q r2)
    (abort : r.state = .leader → ∀ {r1}, Q r1 → P r1.abortLeaderTransfer)
    (done : r.state = .leader → ∀ {r1}, Q r1 → P r1) : P r' :=
  postConfChange_parts2 (R := Q) (Q := fun r _ _ => Q r) h down stay lead commit bcast
    (fun _ _ ha q => app ha q) (fun q => set _ _ q) (fun _ => ro _) (fun _ => ro _)
    (fun _ hr _ q => resp hr q) abort done

/-- `postConfChange_split` for a predicate that survives every part; what only a leader does is
asked of a leader only -/
theorem postConfChange_parts {P : Raft → Prop} {r r' : Raft} {cs : ConfState}
    (h : r.postConfChange = .ok (r', cs))
    (prom : P { r with promotable := Joint.contains r.prs.voters r.id })
    (down : r.state = .leader → Joint.contains r.prs.voters r.id = false →
      ∀ {r1}, P r1 → P (r1.becomeFollower r1.term 0))
    (commit : r.state = .leader → ∀ {r1 r2 b}, r1.maybeCommit = .ok (r2, b) → P r1 → P r2)
    (bcast : r.state = .leader → ∀ {r1 r2}, r1.bcastAppend = .ok r2 → P r1 → P r2)
    (app : r.state = .leader → ∀ {r1 id pr r2 pr2 b},
      r1.maybeSendAppend id pr false = .ok (r2, pr2, b) → P r1 → P r2)
    (set : ∀ {r1} id pr', P r1 → P { r1 with prs := r1.prs.set id pr' })
    (ro : ∀ {r1} ro', P r1 → P { r1 with readOnly := ro' })
    (resp : ∀ {r1 r2 rss}, r1.respondReadStates rss = .ok r2 → P r1 → P r2)
    (abort : ∀ {r1}, P r1 → P r1.abortLeaderTransfer) : P r' :=
  postConfChange_split (Q := fun r1 => r.state = .leader ∧ P r1) h (fun hl hv => down hl hv prom)
    prom (fun hl => ⟨hl, prom⟩) (fun hc q => ⟨q.1, commit q.1 hc q.2⟩)
    (fun hb q => ⟨q.1, bcast q.1 hb q.2⟩) (fun ha q => ⟨q.1, app q.1 ha q.2⟩)
    (fun _ _ q => ⟨q.1, set _ _ q.2⟩) (fun _ q => ⟨q.1, ro _ q.2⟩)
    (fun hr q => ⟨q.1, resp hr q.2⟩) (fun _ => fun q => abort q.2) fun _ => fun q => q.2

/-- `apply_conf_change` (raft.rs:2834): a valid change replaces the configuration and the
progresses, then `post_conf_change` runs. -/
theorem applyConfChange_parts2 {P : Raft → Prop} {r r' : Raft} {cc : ConfChangeV2}
    {res : Except ErrKind ConfState} (h : r.applyConfChange cc = .ok (r', res)) (h0 : P r)
    (conf : ∀ {cfg changes}, (match cc.classify with
        | .leave => leaveJoint r.prs.toCC
        | .enter al => enterJoint r.prs.toCC al cc.changes
        | .simple => simple r.prs.toCC cc.changes) = .ok (cfg, changes) →
      P { r with prs := r.prs.applyConf cfg changes r.raftLog.lastIndex })
    (post : ∀ {r1 r2 cs}, r1.postConfChange = .ok (r2, cs) → P r1 → P r2) : P r' := by
  unfold Raft.applyConfChange at h
  simp only at h
  split at h
  · cases h; exact h0
  · rename_i hc
    obtain ⟨⟨r2, cs⟩, h2, h⟩ := Res.bind_eq_ok h
    cases h; exact post h2 (conf hc)

theorem applyConfChange_parts {P : Raft → Prop} {r r' : Raft} {cc : ConfChangeV2}
    {res : Except ErrKind ConfState} (h : r.applyConfChange cc = .ok (r', res)) (h0 : P r)
    (conf : ∀ {r1} prs, P r1 → P { r1 with prs := prs })
    (post : ∀ {r1 r2 cs}, r1.postConfChange = .ok (r2, cs) → P r1 → P r2) : P r' :=
  applyConfChange_parts2 h h0 (fun _ => conf _ h0) post

/-- the fast-forward test of `restore` (raft.rs:2690-2702): the log already holds the snapshot's last
entry, and the snapshot is not the answer to a pending request -/
def fastForward (r : Raft) (snap : Snapshot) : Prop :=
  (r.pendingRequestSnapshot = 0 ∨ snap.metadata.index < r.pendingRequestSnapshot) ∧
    r.raftLog.matchTerm snap.metadata.index snap.metadata.term = .ok true

/-- **the ways `restore` ends** (raft.rs:2640), one constructor each -/
inductive Restore (r : Raft) (snap : Snapshot) : Raft → Bool → Prop
  /-- a stale snapshot, or one whose configuration does not hold the node -/
  | ignored : Restore r snap r false
  | follow : r.state ≠ .follower → ¬ snap.metadata.index < r.raftLog.committed →
      Restore r snap (r.becomeFollower (r.term + 1) 0) false
  /-- the log already holds the snapshot's last entry: only the commit index moves -/
  | forward {l : RaftLog} : r.state = .follower → ¬ snap.metadata.index < r.raftLog.committed →
      fastForward r snap → r.raftLog.commitTo snap.metadata.index = .ok l →
      Restore r snap { r with raftLog := l } false
  /-- the log and the progresses are replaced, `post_conf_change` runs and the node's own progress is
  brought up to the snapshot -/
  | full {l : RaftLog} {prs : ProgressTracker} {r1 : Raft} {cs : ConfState} {pr pr' : Progress}
      {u : Bool} : r.state = .follower → ¬ snap.metadata.index < r.raftLog.committed →
      ¬ fastForward r snap → r.raftLog.restore snap = .ok l →
      r.prs.clear.restore l.lastIndex snap.metadata.confState = .ok prs →
      ({ r with raftLog := l, prs := prs } : Raft).postConfChange = .ok (r1, cs) →
      r1.prs.get r1.id = some pr → pr.maybeUpdate (pr.nextIdx - 1) = .ok (pr', u) →
      Restore r snap { r1 with prs := r1.prs.set r1.id pr', pendingRequestSnapshot := 0 } true

theorem restore_inv {r r' : Raft} {snap : Snapshot} {b : Bool}
    (h : r.restore snap = .ok (r', b)) : Restore r snap r' b := by
  unfold Raft.restore at h
  dsimp only at h
  by_cases hfresh : snap.metadata.index < r.raftLog.committed
  · rw [if_pos hfresh] at h; cases h; exact .ignored
  rw [if_neg hfresh] at h
  by_cases hs : r.state ≠ .follower
  · rw [if_pos hs] at h
    obtain ⟨_, h⟩ := Res.of_guard h
    cases h; exact .follow hs hfresh
  rw [if_neg hs] at h
  have hs : r.state = .follower := Classical.not_not.1 hs
  rcases Res.ite_cases h with ⟨_, h⟩ | ⟨_, h⟩
  · cases h; exact .ignored
  generalize hff : (if r.pendingRequestSnapshot = 0 ∨ snap.metadata.index < r.pendingRequestSnapshot
      then (match r.raftLog.matchTerm snap.metadata.index snap.metadata.term with
        | .ok b => Res.ok b
        | .err _ => .ok false
        | .panic s => .panic s)
      else Res.ok false) = ff at h
  have hft : ff = .ok true ↔ fastForward r snap := by
    unfold fastForward
    rw [← hff]
    by_cases hreq : r.pendingRequestSnapshot = 0 ∨ snap.metadata.index < r.pendingRequestSnapshot
    · rw [if_pos hreq]
      cases r.raftLog.matchTerm snap.metadata.index snap.metadata.term with
      | ok b1 => exact ⟨fun e => ⟨hreq, e⟩, fun e => e.2⟩
      | err e => exact ⟨nofun, fun e => nomatch e.2⟩
      | panic s => exact ⟨nofun, fun e => nomatch e.2⟩
    · rw [if_neg hreq]; exact ⟨nofun, fun e => absurd e.1 hreq⟩
  rcases ff with (_ | _) | _ | _
  · -- full restore
    have hnf : ¬ fastForward r snap := fun hc => nomatch hft.2 hc
    dsimp only at h
    cases hr : r.raftLog.restore snap with
    | panic s => rw [hr] at h; cases h
    | err e => rw [hr] at h; cases h
    | ok l =>
      rw [hr] at h
      dsimp only at h
      cases hprs : r.prs.clear.restore l.lastIndex snap.metadata.confState with
      | error e => rw [hprs] at h; cases h
      | ok prs =>
        rw [hprs] at h
        dsimp only at h
        obtain ⟨⟨r2, cs2⟩, h2, h⟩ := Res.bind_eq_ok h
        dsimp only at h
        obtain ⟨_, h⟩ := Res.of_guard h
        cases hg : r2.prs.get r2.id with
        | none => rw [hg] at h; cases h
        | some pr =>
          rw [hg] at h
          dsimp only at h
          obtain ⟨_, h⟩ := Res.of_guard h
          obtain ⟨⟨pr2, b2⟩, hu, h⟩ := Res.bind_eq_ok h
          cases h
          exact .full hs hfresh hnf hr hprs h2 hg hu
  · -- fast forward
    dsimp only at h
    cases hc : r.raftLog.commitTo snap.metadata.index with
    | ok l => rw [hc] at h; cases h; exact .forward hs hfresh (hft.1 rfl) hc
    | err e => rw [hc] at h; cases h
    | panic s => rw [hc] at h; cases h
  · cases h
  · cases h

/-- `restore_inv` without the outcome of the fast-forward test, as a disjunction -/
theorem restore_cases {r r' : Raft} {snap : Snapshot} {b : Bool}
    (h : r.restore snap = .ok (r', b)) :
    (b = false ∧ r' = r) ∨
    (b = false ∧ r.state ≠ .follower ∧ r' = r.becomeFollower (r.term + 1) 0) ∨
    (b = false ∧ r.state = .follower ∧ ¬ snap.metadata.index < r.raftLog.committed ∧
      ∃ l, r.raftLog.commitTo snap.metadata.index = .ok l ∧ r' = { r with raftLog := l }) ∨
    (b = true ∧ r.state = .follower ∧ ¬ snap.metadata.index < r.raftLog.committed ∧
      ∃ l prs r1 cs pr pr' u, r.raftLog.restore snap = .ok l ∧
        r.prs.clear.restore l.lastIndex snap.metadata.confState = .ok prs ∧
        ({ r with raftLog := l, prs := prs } : Raft).postConfChange = .ok (r1, cs) ∧
        r1.prs.get r1.id = some pr ∧ pr.maybeUpdate (pr.nextIdx - 1) = .ok (pr', u) ∧
        r' = { r1 with prs := r1.prs.set r1.id pr', pendingRequestSnapshot := 0 }) := by
  cases restore_inv h with
  | ignored => exact .inl ⟨rfl, rfl⟩
  | follow hs => exact .inr (.inl ⟨rfl, hs, rfl⟩)
  | forward hs hf _ hc => exact .inr (.inr (.inl ⟨rfl, hs, hf, _, hc, rfl⟩))
  | full hs hf _ hl hp hpc hg hu =>
    exact .inr (.inr (.inr ⟨rfl, hs, hf, _, _, _, _, _, _, _, hl, hp, hpc, hg, hu, rfl⟩))

/-- `restore`: what `restore_inv` says, for a predicate carried through the parts; `own` is told how
the node's own progress is brought up to the snapshot. -/
theorem restore_parts2 {P : Raft → Prop} {r r' : Raft} {snap : Snapshot} {b : Bool}
    (h : r.restore snap = .ok (r', b)) (h0 : P r)
    (follow : r.state ≠ .follower → P (r.becomeFollower (r.term + 1) 0))
    (commit : ∀ {l}, r.raftLog.commitTo snap.metadata.index = .ok l →
      ¬ snap.metadata.index < r.raftLog.committed → P { r with raftLog := l })
    (log : ∀ {l prs}, r.raftLog.restore snap = .ok l →
      r.prs.clear.restore l.lastIndex snap.metadata.confState = .ok prs →
      ¬ snap.metadata.index < r.raftLog.committed → P { r with raftLog := l, prs := prs })
    (post : r.state = .follower → ∀ {r1 r2 cs}, r1.postConfChange = .ok (r2, cs) → P r1 → P r2)
    (own : ∀ {r1 pr pr' u}, r1.prs.get r1.id = some pr → pr.maybeUpdate (pr.nextIdx - 1) = .ok (pr', u) →
      P r1 → P { r1 with prs := r1.prs.set r1.id pr', pendingRequestSnapshot := 0 }) : P r' := by
  cases restore_inv h with
  | ignored => exact h0
  | follow hs => exact follow hs
  | forward _ hf _ hc => exact commit hc hf
  | full hs hf _ hl hp hpc hg hu => exact own hg hu (post hs hpc (log hl hp hf))

theorem restore_parts {P : Raft → Prop} {r r' : Raft} {snap : Snapshot} {b : Bool}
    (h : r.restore snap = .ok (r', b)) (h0 : P r)
    (follow : r.state ≠ .follower → P (r.becomeFollower (r.term + 1) 0))
    (commit : ∀ {l}, r.raftLog.commitTo snap.metadata.index = .ok l →
      ¬ snap.metadata.index < r.raftLog.committed → P { r with raftLog := l })
    (log : ∀ {l prs}, r.raftLog.restore snap = .ok l →
      r.prs.clear.restore l.lastIndex snap.metadata.confState = .ok prs →
      ¬ snap.metadata.index < r.raftLog.committed → P { r with raftLog := l, prs := prs })
    (post : r.state = .follower → ∀ {r1 r2 cs}, r1.postConfChange = .ok (r2, cs) → P r1 → P r2)
    (own : ∀ {r1} pr', P r1 →
      P { r1 with prs := r1.prs.set r1.id pr', pendingRequestSnapshot := 0 }) : P r' :=
  restore_parts2 h h0 follow commit log post fun _ _ p => own _ p

/-- `handle_snapshot` (raft.rs:2605) taken apart: `restore`, then a `MsgAppendResponse` with the new last
index or, if the snapshot was not taken, the commit index -/
theorem handleSnapshot_inv {r r' : Raft} {m : Message} (h : r.handleSnapshot m = .ok r') :
    ∃ r1 b, r.restore m.snapshot = .ok (r1, b) ∧
      r1.send { msgType := .msgAppendResponse, to := m.frm,
                index := if b = true then r1.raftLog.lastIndex else r1.raftLog.committed } = .ok r' := by
  unfold Raft.handleSnapshot at h
  obtain ⟨⟨r1, b⟩, h1, h⟩ := Res.bind_eq_ok h
  refine ⟨r1, b, h1, ?_⟩
  cases b
  · exact h
  · exact h

/-- `handle_snapshot` (raft.rs:2605): `restore`, then a `MsgAppendResponse` with the new last index or,
if the snapshot was not taken, the commit index. -/
theorem handleSnapshot_parts {P : Raft → Prop} {r r' : Raft} {m : Message}
    (h : r.handleSnapshot m = .ok r')
    (restore : ∀ {r1 b}, r.restore m.snapshot = .ok (r1, b) → P r1)
    (send : ∀ {r1 r2 x}, r1.send x = .ok r2 → x.msgType = .msgAppendResponse → P r1 → P r2) :
    P r' := by
  obtain ⟨r1, b, h1, hs⟩ := handleSnapshot_inv h
  exact send hs rfl (restore h1)

/-! ### The dispatchers -/

/-- `Raft::step_leader` (raft.rs:2072): one arm per message type — heartbeat broadcast, quorum check,
proposal, read index, the three responses, the two status reports, leader transfer.  Every part is
given the message type of its arm; `ro` is told the `add_request` that queued the read, `send` that the
message is the answer `handle_ready_read_index` handed back. -/
theorem stepLeader_parts2 {P : Raft → Prop} {r r' : Raft} {m : Message} {e : Option RaftError}
    (h : r.stepLeader m = .ok (r', e)) (h0 : P r)
    (beat : ∀ {r2}, r.bcastHeartbeat = .ok r2 → m.msgType = .msgBeat → P r2)
    (quorum : ∀ {r1 b}, r.checkQuorumActive = (r1, b) → m.msgType = .msgCheckQuorum → P r1)
    (follower : ∀ {r1 : Raft}, m.msgType = .msgCheckQuorum → P r1 → P (r1.becomeFollower r1.term 0))
    (filter : ∀ {r1 oes}, r.filterProposal 0 m.entries = (r1, oes) → m.msgType = .msgPropose → P r1)
    (append : ∀ {r1 es r2 b}, r1.appendEntry es = .ok (r2, b) → m.msgType = .msgPropose →
      P r1 → P r2)
    (bcast : ∀ {r1 r2}, r1.bcastAppend = .ok r2 → m.msgType = .msgPropose → P r1 → P r2)
    (ready : ∀ {r2 om}, r.handleReadyReadIndex m r.raftLog.committed = .ok (r2, om) →
      m.msgType = .msgReadIndex → P r2)
    (send : ∀ {r1 r2 m'}, r.handleReadyReadIndex m r.raftLog.committed = .ok (r1, some m') →
      r1.send m' = .ok r2 → m.msgType = .msgReadIndex → P r1 → P r2)
    (ro : ∀ {ro'}, m.msgType = .msgReadIndex →
      r.readOnly.addRequest r.raftLog.committed m r.id = .ok ro' → P { r with readOnly := ro' })
    (hbctx : ∀ {r1 ctx r2}, r1.bcastHeartbeatWithCtx ctx = .ok r2 → m.msgType = .msgReadIndex →
      P r1 → P r2)
    (appResp : ∀ {r2}, r.handleAppendResponse m = .ok r2 → m.msgType = .msgAppendResponse → P r2)
    (hbResp : ∀ {r2}, r.handleHeartbeatResponse m = .ok r2 → m.msgType = .msgHeartbeatResponse →
      P r2)
    (snapStatus : m.msgType = .msgSnapStatus → P (r.handleSnapshotStatus m))
    (unreachable : m.msgType = .msgUnreachable → P (r.handleUnreachable m))
    (transfer : ∀ {r2}, r.handleTransferLeader m = .ok r2 → m.msgType = .msgTransferLeader →
      P r2) : P r' := by
  unfold Raft.stepLeader at h
  split at h
  · rename_i ty
    obtain ⟨r1, h1, h⟩ := Res.bind_eq_ok h
    cases h; exact beat h1 ty
  · rename_i ty
    split at h
    rename_i hq
    split at h
    · cases h; exact follower ty (quorum hq ty)
    · cases h; exact quorum hq ty
  · rename_i ty
    split at h
    · cases h
    · split at h
      · cases h; exact h0
      · split at h
        · cases h; exact h0
        · split at h
          · rename_i hf; cases h; exact filter hf ty
          · rename_i hf
            split at h
            · rename_i ha; cases h; exact append ha ty (filter hf ty)
            · rename_i ha
              obtain ⟨r3, h3, h⟩ := Res.bind_eq_ok h
              cases h; exact bcast h3 ty (append ha ty (filter hf ty))
            · cases h
            · cases h
  · rename_i ty
    -- a read request is answered at once (a single voter, or lease-based reads) or queued
    -- until a heartbeat round confirms the leadership
    have answerNow :
        ((r.handleReadyReadIndex m r.raftLog.committed).bind fun (r, om) =>
          match om with
          | some m' => (r.send m').bind (fun r => .ok (r, none))
          | none => .ok (r, none)) = Res.ok (r', e) → P r' := by
      intro ha
      obtain ⟨⟨r2, om⟩, h2, ha⟩ := Res.bind_eq_ok ha
      cases om with
      | some m' =>
        obtain ⟨r3, h3, ha⟩ := Res.bind_eq_ok ha
        cases ha
        exact send h2 h3 ty (ready h2 ty)
      | none => cases ha; exact ready h2 ty
    split at h
    · cases h
    · cases h
    · cases h; exact h0
    · simp only at h
      split at h
      · exact answerNow h
      · split at h
        · split at h
          · cases h
          · obtain ⟨ro1, ha, h⟩ := Res.bind_eq_ok h
            obtain ⟨r3, h3, h⟩ := Res.bind_eq_ok h
            cases h; exact hbctx h3 ty (ro ty ha)
        · exact answerNow h
  · rename_i ty
    obtain ⟨r1, h1, h⟩ := Res.bind_eq_ok h
    cases h; exact appResp h1 ty
  · rename_i ty
    obtain ⟨r1, h1, h⟩ := Res.bind_eq_ok h
    cases h; exact hbResp h1 ty
  · rename_i ty; cases h; exact snapStatus ty
  · rename_i ty; cases h; exact unreachable ty
  · rename_i ty
    obtain ⟨r1, h1, h⟩ := Res.bind_eq_ok h
    cases h; exact transfer h1 ty
  · cases h; exact h0

theorem stepLeader_parts {P : Raft → Prop} {r r' : Raft} {m : Message} {e : Option RaftError}
    (h : r.stepLeader m = .ok (r', e)) (h0 : P r)
    (beat : ∀ {r2}, r.bcastHeartbeat = .ok r2 → m.msgType = .msgBeat → P r2)
    (quorum : ∀ {r1 b}, r.checkQuorumActive = (r1, b) → m.msgType = .msgCheckQuorum → P r1)
    (follower : ∀ {r1 : Raft}, m.msgType = .msgCheckQuorum → P r1 → P (r1.becomeFollower r1.term 0))
    (filter : ∀ {r1 oes}, r.filterProposal 0 m.entries = (r1, oes) → m.msgType = .msgPropose → P r1)
    (append : ∀ {r1 es r2 b}, r1.appendEntry es = .ok (r2, b) → m.msgType = .msgPropose →
      P r1 → P r2)
    (bcast : ∀ {r1 r2}, r1.bcastAppend = .ok r2 → m.msgType = .msgPropose → P r1 → P r2)
    (ready : ∀ {i r2 om}, r.handleReadyReadIndex m i = .ok (r2, om) → m.msgType = .msgReadIndex →
      P r2)
    (send : ∀ {r1 r2 m'}, r1.send m' = .ok r2 → m'.msgType = .msgReadIndexResp → P r1 → P r2)
    (ro : m.msgType = .msgReadIndex → ∀ ro', P { r with readOnly := ro' })
    (hbctx : ∀ {r1 ctx r2}, r1.bcastHeartbeatWithCtx ctx = .ok r2 → m.msgType = .msgReadIndex →
      P r1 → P r2)
    (appResp : ∀ {r2}, r.handleAppendResponse m = .ok r2 → m.msgType = .msgAppendResponse → P r2)
    (hbResp : ∀ {r2}, r.handleHeartbeatResponse m = .ok r2 → m.msgType = .msgHeartbeatResponse →
      P r2)
    (snapStatus : m.msgType = .msgSnapStatus → P (r.handleSnapshotStatus m))
    (unreachable : m.msgType = .msgUnreachable → P (r.handleUnreachable m))
    (transfer : ∀ {r2}, r.handleTransferLeader m = .ok r2 → m.msgType = .msgTransferLeader →
      P r2) : P r' :=
  stepLeader_parts2 h h0 beat quorum follower filter append bcast ready
    (fun hr hs _ p => send hs (handleReadyReadIndex_msgType hr) p) (fun ty _ => ro ty _)
    hbctx appResp hbResp snapStatus unreachable transfer

/-- **the ways `step_candidate` ends well** (raft.rs:2320), one constructor per arm: a proposal is
dropped; a message from a leader of the same term makes the node a follower, which then handles it; a
vote response of the right kind is counted and its commit hint followed; anything else is ignored -/
inductive CandidateStep (r : Raft) (m : Message) : Raft → Option RaftError → Prop
  | dropped : m.msgType = .msgPropose → CandidateStep r m r (some .proposalDropped)
  | append {r2} : m.msgType = .msgAppend → r.term = m.term →
      (r.becomeFollower m.term m.frm).handleAppendEntries m = .ok r2 → CandidateStep r m r2 none
  | heartbeat {r2} : m.msgType = .msgHeartbeat → r.term = m.term →
      (r.becomeFollower m.term m.frm).handleHeartbeat m = .ok r2 → CandidateStep r m r2 none
  | snapshot {r2} : m.msgType = .msgSnapshot → r.term = m.term →
      (r.becomeFollower m.term m.frm).handleSnapshot m = .ok r2 → CandidateStep r m r2 none
  | polled {r1 res r2} :
      m.msgType = .msgRequestPreVoteResponse ∨ m.msgType = .msgRequestVoteResponse →
      (r.state = .candidate → m.msgType = .msgRequestVoteResponse) →
      (r.state = .preCandidate → m.msgType = .msgRequestPreVoteResponse ∧
        (m.reject = true ∨ (r.term < U64_MAX ∧ m.term = r.term + 1))) →
      r.poll m.frm m.msgType (!m.reject) = .ok (r1, res) → r1.maybeCommitByVote m = .ok r2 →
      CandidateStep r m r2 none
  | ignored : CandidateStep r m r none

theorem stepCandidate_inv {r r' : Raft} {m : Message} {e : Option RaftError}
    (h : r.stepCandidate m = .ok (r', e)) : CandidateStep r m r' e := by
  have response :
      m.msgType = .msgRequestPreVoteResponse ∨ m.msgType = .msgRequestVoteResponse →
      (if (r.state = .preCandidate ∧ m.msgType ≠ .msgRequestPreVoteResponse) ∨
          (r.state = .candidate ∧ m.msgType ≠ .msgRequestVoteResponse) then Res.ok (r, none)
        else if r.state = .preCandidate ∧ m.reject = false ∧
            ¬ (r.term < U64_MAX ∧ m.term = r.term + 1) then .ok (r, none)
        else (r.poll m.frm m.msgType (!m.reject)).bind (fun (r, _) =>
          (r.maybeCommitByVote m).bind (fun r => .ok (r, none)))) = .ok (r', e) →
      CandidateStep r m r' e := by
    intro ty hr
    rcases Res.ite_cases hr with ⟨_, hr⟩ | ⟨hty, hr⟩
    · cases hr; exact .ignored
    rcases Res.ite_cases hr with ⟨_, hr⟩ | ⟨hpre, hr⟩
    · cases hr; exact .ignored
    obtain ⟨⟨r1, res⟩, h1, hr⟩ := Res.bind_eq_ok hr
    obtain ⟨r2, h2, hr⟩ := Res.bind_eq_ok hr
    cases hr
    refine .polled ty (fun hc => ?_) (fun hp => ⟨?_, ?_⟩) h1 h2
    · exact Classical.byContradiction fun hn => hty (.inr ⟨hc, hn⟩)
    · exact Classical.byContradiction fun hn => hty (.inl ⟨hp, hn⟩)
    · cases hrj : m.reject
      · exact .inr (Classical.byContradiction fun hn => hpre ⟨hp, hrj, hn⟩)
      · exact .inl rfl
  unfold Raft.stepCandidate at h
  split at h
  · rename_i ty; cases h; exact .dropped ty
  · rename_i ty
    obtain ⟨ht, h⟩ := Res.of_guard h
    obtain ⟨r1, h1, h⟩ := Res.bind_eq_ok h
    cases h; exact .append ty (Classical.not_not.1 ht) h1
  · rename_i ty
    obtain ⟨ht, h⟩ := Res.of_guard h
    obtain ⟨r1, h1, h⟩ := Res.bind_eq_ok h
    cases h; exact .heartbeat ty (Classical.not_not.1 ht) h1
  · rename_i ty
    obtain ⟨ht, h⟩ := Res.of_guard h
    obtain ⟨r1, h1, h⟩ := Res.bind_eq_ok h
    cases h; exact .snapshot ty (Classical.not_not.1 ht) h1
  · rename_i ty; exact response (.inl ty) h
  · rename_i ty; exact response (.inr ty) h
  · cases h; exact .ignored

/-- `Raft::step_candidate` (raft.rs:2320), with the state each part is applied to -/
theorem stepCandidate_cases {P : Raft → Prop} {r r' : Raft} {m : Message} {e : Option RaftError}
    (h : r.stepCandidate m = .ok (r', e)) (h0 : P r)
    (app : ∀ {r2}, r.term = m.term → (r.becomeFollower m.term m.frm).handleAppendEntries m = .ok r2 →
      m.msgType = .msgAppend → P r2)
    (hb : ∀ {r2}, r.term = m.term → (r.becomeFollower m.term m.frm).handleHeartbeat m = .ok r2 →
      m.msgType = .msgHeartbeat → P r2)
    (snap : ∀ {r2}, r.term = m.term → (r.becomeFollower m.term m.frm).handleSnapshot m = .ok r2 →
      m.msgType = .msgSnapshot → P r2)
    (poll : ∀ {r1 res r2}, r.poll m.frm m.msgType (!m.reject) = .ok (r1, res) →
      (r.state = .candidate → m.msgType = .msgRequestVoteResponse) →
      (r.state = .preCandidate → m.msgType = .msgRequestPreVoteResponse ∧
        (m.reject = true ∨ (r.term < U64_MAX ∧ m.term = r.term + 1))) →
      r1.maybeCommitByVote m = .ok r2 → P r2) : P r' := by
  cases stepCandidate_inv h with
  | dropped | ignored => exact h0
  | append ty ht h1 => exact app ht h1 ty
  | heartbeat ty ht h1 => exact hb ht h1 ty
  | snapshot ty ht h1 => exact snap ht h1 ty
  | polled _ hc hp h1 h2 => exact poll h1 hc hp h2

/-- **the ways `step_follower` ends well** (raft.rs:2377), one constructor per arm: a proposal
without a leader to forward it to is dropped; proposals, transfers and read requests are forwarded to the
leader; a message from the leader resets the election timer and is handled; `MsgTimeoutNow` starts a
campaign; a read-index answer is recorded and its commit hint followed; anything else is ignored -/
inductive FollowerStep (r : Raft) (m : Message) : Raft → Option RaftError → Prop
  | dropped : m.msgType = .msgPropose → r.leaderId = 0 ∨ r.disableProposalForwarding = true →
      FollowerStep r m r (some .proposalDropped)
  | forwarded {r2} :
      m.msgType = .msgPropose ∨ m.msgType = .msgTransferLeader ∨ m.msgType = .msgReadIndex →
      r.leaderId ≠ 0 → r.send { m with to := r.leaderId } = .ok r2 → FollowerStep r m r2 none
  | append {r2} : m.msgType = .msgAppend →
      ({ r with electionElapsed := 0, leaderId := m.frm } : Raft).handleAppendEntries m = .ok r2 →
      FollowerStep r m r2 none
  | heartbeat {r2} : m.msgType = .msgHeartbeat →
      ({ r with electionElapsed := 0, leaderId := m.frm } : Raft).handleHeartbeat m = .ok r2 →
      FollowerStep r m r2 none
  | snapshot {r2} : m.msgType = .msgSnapshot →
      ({ r with electionElapsed := 0, leaderId := m.frm } : Raft).handleSnapshot m = .ok r2 →
      FollowerStep r m r2 none
  | timeoutNow {r2} : m.msgType = .msgTimeoutNow → r.promotable = true → r.hup true = .ok r2 →
      FollowerStep r m r2 none
  | readIndexResp {en l b} : m.msgType = .msgReadIndexResp → m.entries = [en] →
      r.raftLog.maybeCommit m.index m.term = .ok (l, b) →
      FollowerStep r m { r with
        readStates := r.readStates ++ [{ index := m.index, requestCtx := en.data }],
        raftLog := l } none
  | ignored : FollowerStep r m r none

theorem stepFollower_inv {r r' : Raft} {m : Message} {e : Option RaftError}
    (h : r.stepFollower m = .ok (r', e)) : FollowerStep r m r' e := by
  have forward : r.leaderId ≠ 0 →
      ((r.send { m with to := r.leaderId }).bind fun r => Res.ok (r, none)) = .ok (r', e) →
      m.msgType = .msgPropose ∨ m.msgType = .msgTransferLeader ∨ m.msgType = .msgReadIndex →
      FollowerStep r m r' e := by
    intro hl hs ty
    obtain ⟨r1, h1, hs⟩ := Res.bind_eq_ok hs
    cases hs; exact .forwarded ty hl h1
  unfold Raft.stepFollower at h
  split at h
  · rename_i ty
    rcases Res.ite_cases h with ⟨hl, h⟩ | ⟨hl, h⟩
    · cases h; exact .dropped ty (.inl hl)
    rcases Res.ite_cases h with ⟨hd, h⟩ | ⟨_, h⟩
    · cases h; exact .dropped ty (.inr hd)
    · exact forward hl h (.inl ty)
  · rename_i ty
    obtain ⟨r1, h1, h⟩ := Res.bind_eq_ok h
    cases h; exact .append ty h1
  · rename_i ty
    obtain ⟨r1, h1, h⟩ := Res.bind_eq_ok h
    cases h; exact .heartbeat ty h1
  · rename_i ty
    obtain ⟨r1, h1, h⟩ := Res.bind_eq_ok h
    cases h; exact .snapshot ty h1
  · rename_i ty
    rcases Res.ite_cases h with ⟨_, h⟩ | ⟨hl, h⟩
    · cases h; exact .ignored
    · exact forward hl h (.inr (.inl ty))
  · rename_i ty
    rcases Res.ite_cases h with ⟨hp, h⟩ | ⟨_, h⟩
    · obtain ⟨r1, h1, h⟩ := Res.bind_eq_ok h
      cases h; exact .timeoutNow ty hp h1
    · cases h; exact .ignored
  · rename_i ty
    rcases Res.ite_cases h with ⟨_, h⟩ | ⟨hl, h⟩
    · cases h; exact .ignored
    · exact forward hl h (.inr (.inr ty))
  · rename_i ty
    split at h
    · rename_i en hen
      dsimp only at h
      cases hl : r.raftLog.maybeCommit m.index m.term with
      | ok x => rw [hl] at h; cases h; exact .readIndexResp ty hen hl
      | err x => rw [hl] at h; cases h
      | panic x => rw [hl] at h; cases h
    · cases h; exact .ignored
  · cases h; exact .ignored

/-- `Raft::step_candidate` (raft.rs:2320): a message from a leader of the same term makes the node a
follower, which then handles it; a vote response is counted and its commit hint followed. -/
theorem stepCandidate_parts {P : Raft → Prop} {r r' : Raft} {m : Message} {e : Option RaftError}
    (h : r.stepCandidate m = .ok (r', e)) (h0 : P r)
    (follower : r.term = m.term → P (r.becomeFollower m.term m.frm))
    (app : ∀ {r1 r2}, r1.handleAppendEntries m = .ok r2 → m.msgType = .msgAppend → P r1 → P r2)
    (hb : ∀ {r1 r2}, r1.handleHeartbeat m = .ok r2 → m.msgType = .msgHeartbeat → P r1 → P r2)
    (snap : ∀ {r1 r2}, r1.handleSnapshot m = .ok r2 → m.msgType = .msgSnapshot → P r1 → P r2)
    (poll : ∀ {r2 res}, r.poll m.frm m.msgType (!m.reject) = .ok (r2, res) →
      (r.state = .candidate → m.msgType = .msgRequestVoteResponse) →
      (r.state = .preCandidate → m.msgType = .msgRequestPreVoteResponse ∧
        (m.reject = true ∨ (r.term < U64_MAX ∧ m.term = r.term + 1))) → P r2)
    (byVote : ∀ {r1 r2}, r1.maybeCommitByVote m = .ok r2 → P r1 → P r2) : P r' :=
  stepCandidate_cases h h0 (fun ht ha ty => app ha ty (follower ht))
    (fun ht ha ty => hb ha ty (follower ht)) (fun ht ha ty => snap ha ty (follower ht))
    fun hp h1 h2 hv => byVote hv (poll hp h1 h2)

/-- **the ways the vote arm of `step` ends well** (raft.rs:1489-1533): the vote is granted — the answer
is sent and a real vote recorded —, or refused — the rejection carries the commit point, and the
request's commit point is followed unless it is a pre-vote request from beyond the next term -/
inductive VoteStep (r : Raft) (m : Message) : Raft → Prop
  | granted {t r1} : voteRespMsgType m.msgType = some t → r.voteGranted m = .ok true →
      r.send { msgType := t, to := m.frm, reject := false, term := m.term } = .ok r1 →
      VoteStep r m
        (if m.msgType = .msgRequestVote then { r1 with electionElapsed := 0, vote := m.frm } else r1)
  | refused {t c ct r1 r'} : voteRespMsgType m.msgType = some t → r.voteGranted m = .ok false →
      r.raftLog.commitInfo = .ok (c, ct) →
      r.send { msgType := t, to := m.frm, reject := true, term := r.term, commit := c,
               commitTerm := ct } = .ok r1 →
      (if m.msgType ≠ .msgRequestPreVote ∨ m.term ≤ r1.term + 1 then r1.maybeCommitByVote m
        else .ok r1) = .ok r' → VoteStep r m r'

theorem stepVote_inv {r r' : Raft} {m : Message} (h : r.stepVote m = .ok r') : VoteStep r m r' := by
  unfold Raft.stepVote at h
  cases hty : voteRespMsgType m.msgType with
  | none => rw [hty] at h; cases h
  | some t =>
    rw [hty] at h
    dsimp only at h
    cases hg : r.voteGranted m with
    | err x => rw [hg] at h; cases h
    | panic x => rw [hg] at h; cases h
    | ok g =>
      rw [hg] at h
      cases g with
      | true =>
        unfold Raft.stepVoteGrant at h
        cases hs : r.send { msgType := t, to := m.frm, reject := false, term := m.term } with
        | err x => rw [hs] at h; cases h
        | panic x => rw [hs] at h; cases h
        | ok r1 =>
          rw [hs] at h
          dsimp only at h
          by_cases hv : m.msgType = .msgRequestVote
          · rw [if_pos hv] at h; cases h
            have := VoteStep.granted hty hg hs
            rwa [if_pos hv] at this
          · rw [if_neg hv] at h; cases h
            have := VoteStep.granted hty hg hs
            rwa [if_neg hv] at this
      | false =>
        unfold Raft.stepVoteReject at h
        cases hc : r.raftLog.commitInfo with
        | err x => rw [hc] at h; cases h
        | panic x => rw [hc] at h; cases h
        | ok cc =>
          obtain ⟨c, ct⟩ := cc
          rw [hc] at h
          dsimp only at h
          cases hs : r.send { msgType := t, to := m.frm, reject := true, term := r.term,
                              commit := c, commitTerm := ct } with
          | err x => rw [hs] at h; cases h
          | panic x => rw [hs] at h; cases h
          | ok r1 => rw [hs] at h; exact .refused hty hg hc hs h

/-- `Raft::step_follower` (raft.rs:2377), with the state each part is applied to -/
theorem stepFollower_cases {P : Raft → Prop} {r r' : Raft} {m : Message} {e : Option RaftError}
    (h : r.stepFollower m = .ok (r', e)) (h0 : P r)
    (send : ∀ {r2}, r.send { m with to := r.leaderId } = .ok r2 →
      m.msgType = .msgPropose ∨ m.msgType = .msgTransferLeader ∨ m.msgType = .msgReadIndex → P r2)
    (app : ∀ {r2}, ({ r with electionElapsed := 0, leaderId := m.frm } : Raft).handleAppendEntries m
      = .ok r2 → m.msgType = .msgAppend → P r2)
    (hb : ∀ {r2}, ({ r with electionElapsed := 0, leaderId := m.frm } : Raft).handleHeartbeat m
      = .ok r2 → m.msgType = .msgHeartbeat → P r2)
    (snap : ∀ {r2}, ({ r with electionElapsed := 0, leaderId := m.frm } : Raft).handleSnapshot m
      = .ok r2 → m.msgType = .msgSnapshot → P r2)
    (hup : ∀ {r2}, r.hup true = .ok r2 → m.msgType = .msgTimeoutNow → r.promotable = true → P r2)
    (read : ∀ {rs l' b}, r.raftLog.maybeCommit m.index m.term = .ok (l', b) →
      m.msgType = .msgReadIndexResp → P { r with readStates := rs, raftLog := l' }) : P r' := by
  cases stepFollower_inv h with
  | dropped | ignored => exact h0
  | forwarded ty _ hs => exact send hs ty
  | append ty h1 => exact app h1 ty
  | heartbeat ty h1 => exact hb h1 ty
  | snapshot ty h1 => exact snap h1 ty
  | timeoutNow ty hp h1 => exact hup h1 ty hp
  | readIndexResp ty _ hl => exact read hl ty

/-- `Raft::step_follower` (raft.rs:2377): proposals, transfers and read requests are forwarded to the
leader; a message from the leader resets the election timer and is handled; `MsgTimeoutNow` starts
a campaign; a read-index answer is recorded and its commit hint followed. -/
theorem stepFollower_parts {P : Raft → Prop} {r r' : Raft} {m : Message} {e : Option RaftError}
    (h : r.stepFollower m = .ok (r', e)) (h0 : P r)
    (send : ∀ {r2}, r.send { m with to := r.leaderId } = .ok r2 →
      m.msgType = .msgPropose ∨ m.msgType = .msgTransferLeader ∨ m.msgType = .msgReadIndex → P r2)
    (lead : P { r with electionElapsed := 0, leaderId := m.frm })
    (app : ∀ {r1 r2}, r1.handleAppendEntries m = .ok r2 → m.msgType = .msgAppend → P r1 → P r2)
    (hb : ∀ {r1 r2}, r1.handleHeartbeat m = .ok r2 → m.msgType = .msgHeartbeat → P r1 → P r2)
    (snap : ∀ {r1 r2}, r1.handleSnapshot m = .ok r2 → m.msgType = .msgSnapshot → P r1 → P r2)
    (hup : ∀ {r2}, r.hup true = .ok r2 → m.msgType = .msgTimeoutNow → r.promotable = true → P r2)
    (read : ∀ {rs l' b}, r.raftLog.maybeCommit m.index m.term = .ok (l', b) →
      m.msgType = .msgReadIndexResp → P { r with readStates := rs, raftLog := l' }) : P r' :=
  stepFollower_cases h h0 send (fun ha ty => app ha ty lead) (fun ha ty => hb ha ty lead)
    (fun ha ty => snap ha ty lead) hup read

/-- the `MsgRequestVote | MsgRequestPreVote` arm of `step` (raft.rs:1489-1533): the answer is sent;
a granted real vote is recorded, a rejection is followed by `maybe_commit_by_vote`. -/
theorem stepVote_parts {P : Raft → Prop} {r r' : Raft} {m : Message}
    (h : r.stepVote m = .ok r')
    (send : ∀ {m' r2}, r.send m' = .ok r2 → voteRespMsgType m.msgType = some m'.msgType → P r2)
    (voted : ∀ {r1 : Raft}, P r1 → P { r1 with electionElapsed := 0, vote := m.frm })
    (byVote : ∀ {r1 r2}, r1.maybeCommitByVote m = .ok r2 → P r1 → P r2) : P r' := by
  cases stepVote_inv h with
  | @granted t r1 hty _ hs =>
    have p1 : P r1 := send hs hty
    split
    · exact voted p1
    · exact p1
  | @refused t c ct r1 _ hty _ _ hs hb =>
    have p1 : P r1 := send hs hty
    split at hb
    · exact byVote hb p1
    · cases hb; exact p1

/-- `Raft::step` (raft.rs:1350): the term preamble, which may consume the message; then `MsgHup`,
the vote requests, and the dispatch on the role. -/
theorem step_parts {P : Raft → Prop} {r r' : Raft} {m : Message} {e : Option RaftError}
    (h : r.step m = .ok (r', e))
    (term : ∀ {r1 b}, r.stepTerm m = .ok (r1, b) → P r1)
    (hup : ∀ {r1 r2}, r1.hup false = .ok r2 → m.msgType = .msgHup → P r1 → P r2)
    (vote : ∀ {r1 r2}, r1.stepVote m = .ok r2 → P r1 → P r2)
    (candidate : ∀ {r1 r2 e}, r1.stepCandidate m = .ok (r2, e) →
      r1.state = .preCandidate ∨ r1.state = .candidate → P r1 → P r2)
    (follower : ∀ {r1 r2 e}, r1.stepFollower m = .ok (r2, e) → r1.state = .follower → P r1 → P r2)
    (leader : ∀ {r1 r2 e}, r1.stepLeader m = .ok (r2, e) → r1.state = .leader → P r1 → P r2) :
    P r' := by
  cases step_inv h with
  | consumed ht => exact term ht
  | dispatched ht hd =>
    cases hd with
    | hup ty hh => exact hup hh ty (term ht)
    | vote _ hv => exact vote hv (term ht)
    | candidate _ st hc => exact candidate hc st.symm (term ht)
    | follower _ st hf => exact follower hf st (term ht)
    | leader _ st hl => exact leader hl st (term ht)

theorem stepIgnore_parts {P : Raft → Prop} {r r' : Raft} {m : Message}
    (h : r.stepIgnore m = .ok r') (step : ∀ {e}, r.step m = .ok (r', e) → P r') : P r' :=
  have ⟨_, h1⟩ := stepIgnore_inv h
  step h1

/-- `Raft::tick_election` (raft.rs:1107): the election timer advances; when it runs out on a
promotable node it is reset and the node steps a `MsgHup`. -/
theorem tickElection_parts {P : Raft → Prop} {r r' : Raft} {b : Bool}
    (h : r.tickElection = .ok (r', b))
    (elapsed : ∀ n, P { r with electionElapsed := n })
    (step : ∀ {r1 m r2}, r1.stepIgnore m = .ok r2 → m.msgType = .msgHup → m.term = 0 →
      P r1 → P r2) : P r' := by
  unfold Raft.tickElection at h
  simp only at h
  split at h
  · cases h; exact elapsed _
  · obtain ⟨r1, h1, h⟩ := Res.bind_eq_ok h
    cases h; exact step h1 rfl rfl (elapsed _)

/-- the first phase of a leader's tick (raft.rs:1126-1139): both timers count; when the election timer
runs out it is reset, a leader under `check_quorum` steps a `MsgCheckQuorum`, and a node that is still
leader gives up a transfer that did not finish -/
inductive TickQuorum (r : Raft) : Raft → Bool → Prop
  | early : ¬ r.electionTimeout ≤ r.electionElapsed + 1 →
      TickQuorum r { r with heartbeatElapsed := r.heartbeatElapsed + 1,
                            electionElapsed := r.electionElapsed + 1 } false
  | unchecked {r2 : Raft} : r.electionTimeout ≤ r.electionElapsed + 1 → ¬ r.checkQuorum = true →
      r2 = { r with heartbeatElapsed := r.heartbeatElapsed + 1, electionElapsed := 0 } →
      TickQuorum r
        (if r2.state = .leader ∧ r2.leadTransferee.isSome then r2.abortLeaderTransfer else r2) false
  | checked {r2 : Raft} : r.electionTimeout ≤ r.electionElapsed + 1 → r.checkQuorum = true →
      ({ r with heartbeatElapsed := r.heartbeatElapsed + 1, electionElapsed := 0 } : Raft).stepIgnore
        (newMessage 0 .msgCheckQuorum (some r.id)) = .ok r2 →
      TickQuorum r
        (if r2.state = .leader ∧ r2.leadTransferee.isSome then r2.abortLeaderTransfer else r2) true

/-- the second phase (raft.rs:1141-1147): a node that is still leader steps a `MsgBeat` when the
heartbeat timer runs out -/
inductive TickBeat (ra : Raft) (hr : Bool) : Raft → Bool → Prop
  | deposed : ra.state ≠ .leader → TickBeat ra hr ra hr
  | quiet : ra.state = .leader → ¬ ra.heartbeatTimeout ≤ ra.heartbeatElapsed → TickBeat ra hr ra hr
  | beat {r'} : ra.state = .leader → ra.heartbeatTimeout ≤ ra.heartbeatElapsed →
      ({ ra with heartbeatElapsed := 0 } : Raft).stepIgnore (newMessage 0 .msgBeat (some ra.id))
        = .ok r' → TickBeat ra hr r' true

/-- **`tick_heartbeat` (raft.rs:1121-1149) taken apart**: the two phases -/
theorem tickHeartbeat_inv {r r' : Raft} {b : Bool} (h : r.tickHeartbeat = .ok (r', b)) :
    ∃ ra hr, TickQuorum r ra hr ∧ TickBeat ra hr r' b := by
  unfold Raft.tickHeartbeat at h
  dsimp only at h
  obtain ⟨⟨ra, hr⟩, h1, h⟩ := Res.bind_eq_ok h
  refine ⟨ra, hr, ?_, ?_⟩
  · rcases Res.ite_cases h1 with ⟨hto, h1⟩ | ⟨hto, h1⟩
    · obtain ⟨⟨r2, b2⟩, h2, h1⟩ := Res.bind_eq_ok h1
      dsimp only at h1
      have key : TickQuorum r (if r2.state = .leader ∧ r2.leadTransferee.isSome
          then r2.abortLeaderTransfer else r2) b2 := by
        rcases Res.ite_cases h2 with ⟨hcq, h2⟩ | ⟨hcq, h2⟩
        · obtain ⟨r3, h3, h2⟩ := Res.bind_eq_ok h2
          cases h2; exact .checked hto hcq h3
        · cases h2; exact .unchecked hto hcq rfl
      rcases Res.ite_cases h1 with ⟨hc, h1⟩ | ⟨hc, h1⟩
      · cases h1; rwa [if_pos hc] at key
      · cases h1; rwa [if_neg hc] at key
    · cases h1; exact .early hto
  · dsimp only at h
    rcases Res.ite_cases h with ⟨hl, h⟩ | ⟨hl, h⟩
    · cases h; exact .deposed hl
    have hl : ra.state = .leader := Classical.not_not.1 hl
    rcases Res.ite_cases h with ⟨hb, h⟩ | ⟨hb, h⟩
    · obtain ⟨r3, h3, h⟩ := Res.bind_eq_ok h
      cases h; exact .beat hl hb h3
    · cases h; exact .quiet hl hb

/-- `Raft::tick_heartbeat` (raft.rs:1121): both timers advance; when the election timer runs out the
leader checks its quorum (`MsgCheckQuorum`, stepped in the role `tick` found) and gives up a transfer
that did not finish; when the heartbeat timer runs out and the node is still leader it steps a
`MsgBeat`. -/
theorem tickHeartbeat_parts {P : Raft → Prop} {r r' : Raft} {b : Bool}
    (h : r.tickHeartbeat = .ok (r', b))
    (elapsed : ∀ {r1 : Raft} hb el, P r1 → P { r1 with heartbeatElapsed := hb, electionElapsed := el })
    (h0 : P r)
    (quorum : ∀ {r1 m r2}, r1.stepIgnore m = .ok r2 → m.msgType = .msgCheckQuorum → m.term = 0 →
      r1.state = r.state → P r1 → P r2)
    (beat : ∀ {r1 m r2}, r1.stepIgnore m = .ok r2 → m.msgType = .msgBeat → m.term = 0 →
      r1.state = .leader → P r1 → P r2)
    (abort : ∀ {r1 : Raft}, P r1 → P r1.abortLeaderTransfer) : P r' := by
  obtain ⟨ra, hr, h1, h2⟩ := tickHeartbeat_inv h
  have p1 : P ra := by
    cases h1 with
    | early => exact elapsed _ _ h0
    | unchecked _ _ e =>
      subst e
      split
      · exact abort (elapsed _ _ h0)
      · exact elapsed _ _ h0
    | checked _ _ h3 =>
      have p2 := quorum h3 rfl rfl rfl (elapsed _ _ h0)
      split
      · exact abort p2
      · exact p2
  cases h2 with
  | deposed | quiet => exact p1
  | beat hl _ h3 => exact beat h3 rfl rfl hl (elapsed _ _ p1)

theorem tick_parts {P : Raft → Prop} {r r' : Raft} {b : Bool} (h : r.tick = .ok (r', b))
    (election : r.tickElection = .ok (r', b) → P r')
    (heartbeat : r.tickHeartbeat = .ok (r', b) → P r') : P r' := by
  unfold Raft.tick at h
  split at h
  · exact election h
  · exact election h
  · exact election h
  · exact heartbeat h

/-- `Raft::ping` (raft.rs:915): a leader broadcasts a heartbeat -/
theorem ping_parts {P : Raft → Prop} {r r' : Raft} (h : r.ping = .ok r') (h0 : P r)
    (beat : ∀ {r2}, r.bcastHeartbeat = .ok r2 → r.state = .leader → P r2) : P r' := by
  unfold Raft.ping at h
  split at h
  · rename_i hl; exact beat h hl
  · cases h; exact h0

end Raft
end RaftModel
