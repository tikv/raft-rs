import RaftProofs.ClusterSnap5N

/-!
Commit safety of `ClusterSem` with compaction and snapshots, part 5O: the induction
steps for **retention in the logical log** (`retm_step`) and for **the promise of an acknowledgement in
the logical log** (`a2m_step`), with the cases of a delivered and of an installed snapshot.
-/
namespace RaftModel
namespace Cluster
namespace Snap5
open Node Raft Raft.CC RaftProps.C02 RaftProps.C05 Snap

variable {q : Prop} {cfg : JointConfig} {c0 : Nat} {h : List Sys}

/-- `persist_snap` keeps the logical log -/
theorem persist_abs {st st' : NState} {rnd : Option Nat} (h : PersistOut st st' rnd) :
    st'.raft.raftLog.abs = st.raft.raftLog.abs := by
  cases h with
  | noop hr => rw [hr]
  | done _ L _ hr _ habs _ _ _ _ _ _ _ => rw [hr]; exact habs

/-- … and the commit index, the term and the role -/
theorem persist_same {st st' : NState} {rnd : Option Nat} (h : PersistOut st st' rnd) :
    st'.raft.raftLog.committed = st.raft.raftLog.committed ∧ st'.raft.term = st.raft.term ∧
    st'.raft.state = st.raft.state := by
  cases h with
  | noop hr => rw [hr]; exact ⟨rfl, rfl, rfl⟩
  | done _ L _ hr _ _ hc _ _ _ _ _ _ => rw [hr]; exact ⟨hc, rfl, rfl⟩

/-- a step of node `v` after which `v` is no leader, or has its old commit index, is not a commit
event -/
theorem not_ev_at {E : Ev} (hE : E.ok h) {n : Nat} {a b : Sys} (ha : h[n]? = some a)
    (hb : h[n + 1]? = some b) {v : Nat} {stk stk' : NState} (hka : a.node v = some stk)
    (hkb : b.node v = some stk') (hoth : ∀ w, w ≠ v → b.node w = a.node w)
    (hq : stk'.raft.state ≠ .leader ∨ stk'.raft.raftLog.committed ≤ stk.raft.raftLog.committed) :
    E.nE ≠ n := by
  refine not_ev_of_same hE ha hb (fun w sta stb hwa hwb hl => ?_)
  by_cases hw : w = v
  · subst hw
    rw [hkb] at hwb; cases hwb
    rw [hka] at hwa; cases hwa
    rcases hq with c | c
    · exact absurd hl c
    · exact c
  · rw [hoth w hw, hwa] at hwb; cases hwb; exact Nat.le_refl _

/-- a node that acknowledged an event has reached the event's term -/
theorem acked_term (F : Facts q cfg c0 h) {n : Nat} {a : Sys} (ha : h[n]? = some a) {E : Ev}
    (hE : E.ok h) {v : Nat} {st : NState} (hv : a.node v = some st) (hk : AckedMem a n E v st) :
    E.t ≤ st.raft.term := by
  obtain ⟨_, _, hc0⟩ := F.leaderLog hE
  obtain ⟨hq, hn⟩ := F.ack_inv n a ha
  rcases hk with ⟨x, hx, hack, hfrm, hterm, hidx⟩ | ⟨hvl, hlt, _⟩
  · have hx0 : x.index ≠ 0 := by omega
    rcases hx with c | c
    · have := ((hn x c hack hx0).1 st (by rw [hfrm]; exact hv)).1
      omega
    · have := (hq v st hv x c hack hx0).2.1
      omega
  · obtain ⟨a', b', sta, stb, ha', hb', hla, hlb, hs, ht, _⟩ := hE
    have hfl := F.leader_floor (mem_of_get hb') (k := E.l) (τ := E.t) ⟨stb, hlb, hs, ht⟩
    obtain ⟨st2, h1, h2, _⟩ := hfl.later F.hist hb' ha (by omega)
    rw [← hvl, hv] at h1; cases h1
    exact h2

/-- **the sender of an accepted batch agrees with a log that holds the committed entry**: wherever the
sender's log (a leader's log of the event's term or a later one) holds an entry up to the committed
index, the node's log holds the same entry -/
theorem compat_has (F : Facts q cfg c0 h) {n : Nat} (S : SAll h c0 n) {a : Sys} (ha : h[n]? = some a)
    {v : Nat} {st : NState} (hv : a.node v = some st) {E : Ev} (hE : E.ok h)
    (hh : Has (FL h c0 st) E.c E.t) {τ : Nat} {L : LLog} (hL : LeaderLog h c0 n τ L)
    (hle : E.t ≤ τ) :
    ∀ j, j ≤ E.c → ∀ e, L.entryAt j = some e → (FL h c0 st).entryAt j = some e := by
  intro j hj e he
  by_cases hlt : E.t < τ
  · have hLh := ll_has F S hL hE hle (fun hc => by omega)
    rw [eq_ll F ha hv hL hh hLh j hj]; exact he
  · have heq : τ = E.t := by omega
    subst heq
    obtain ⟨hEl, hEh, _⟩ := F.leaderLog hE
    obtain ⟨eE, heE, _⟩ := id hEh
    rw [eq_ll F ha hv hEl hh hEh j hj, ← ll_eq F hL hEl (L.entryAt_lt he).2
      (Nat.le_trans hj ((EvF h c0 E).entryAt_lt heE).2)]
    exact he

/-- the snapshot of a `MsgSnapshot` of the transport carries a real term -/
theorem SnapSrc.snapt_ne {n : Nat} {m : Message} {L : LLog} (F : Facts q cfg c0 h)
    (src : SnapSrc h c0 n m L) : m.snapshot.metadata.term ≠ 0 := by
  obtain ⟨e, he, het⟩ := src.has
  obtain ⟨m0, s0, l0, stl, _, a2, a3, _, _, rfl⟩ := src.ll
  rw [← het]
  exact (F.ghost_nz a2 a3).1 _ e he

/-- **the ghost log of a node that restored the snapshot of `m`** equals the sender's up to the
snapshot index, and ends there -/
theorem restored_src (F : Facts3 q cfg c0 h) {n : Nat} (S : SAll h c0 n) {a b : Sys} (ha : h[n]? = some a)
    (hb : h[n + 1]? = some b) {v : Nat} {st' : NState} (hkb : b.node v = some st') {m : Message}
    (hm : m ∈ a.net) (hty : m.msgType = .msgSnapshot)
    (hl : st'.raft.raftLog.abs = LLog.ofSnapshot m.snapshot) :
    ∃ L, SnapSrc h c0 n m L ∧ EqUpTo (FL h c0 st') L m.snapshot.metadata.index ∧
      st'.raft.raftLog.abs.lastIndex = m.snapshot.metadata.index := by
  have F2 := F.toFacts
  obtain ⟨L, src⟩ := snap_src F S ha hm hty
  have Ib := (F2.ghost_inv (n + 1) b hb).node v st' hkb
  obtain ⟨e, he, het⟩ := Ib.log.sT m.snapshot.metadata.term (by rw [hl]; rfl)
    (by rw [hl]; exact src.hi)
  rw [hl] at he
  have he' : (FL h c0 st').entryAt m.snapshot.metadata.index = some e := he
  obtain ⟨eL, heL, hetL⟩ := src.has
  obtain ⟨m0, s0, l0, stl, _, a2, a3, _, _, hLeq⟩ := id src.ll
  have Il := (F2.ghost_inv m0 s0 a2).node l0 stl a3
  rw [hLeq] at heL
  refine ⟨L, src, ?_, by rw [hl]; unfold LLog.ofSnapshot LLog.lastIndex; rfl⟩
  rw [hLeq]
  exact F2.flogs_eq_below hb a2 hkb a3 he' heL (het.trans hetL.symm)

/-- **a node whose ghost log holds the snapshot's last entry does not restore the snapshot**: its log
matches `(index, term)` -/
theorem restore_nodrop (F : Facts3 q cfg c0 h) (hq : q) {n : Nat} {a : Sys} (ha : h[n]? = some a)
    {v : Nat}
    {stk : NState} (hka : a.node v = some stk) {i t : Nat} (hi0 : c0 < i)
    (hci : stk.raft.raftLog.committed ≤ i) (hh : Has (FL h c0 stk) i t) :
    stk.raft.raftLog.matchTerm i t = .ok true := by
  have F2 := F.toFacts
  have I := (F2.ghost_inv n a ha).node v stk hka
  have o := F2.node_inv ha hka
  obtain ⟨e, he, het⟩ := hh
  rw [o.matchTerm_abs]
  congr 1
  have hp := snapIdx_le_committed o
  by_cases hpi : stk.raft.raftLog.abs.snapIdx < i
  · rw [I.log.ents i hpi] at he
    rw [← het]
    exact stk.raft.raftLog.abs.matchTerm_of_entry he
  · have heq : i = stk.raft.raftLog.abs.snapIdx := by omega
    cases hst : stk.raft.raftLog.abs.snapTerm with
    | none =>
      have := (F.snap_lt hq n a ha v stk hka).log hst (by omega)
      omega
    | some t' =>
      obtain ⟨e', he', het'⟩ := I.log.sT t' hst (by omega)
      rw [← heq, he] at he'
      cases he'
      unfold LLog.matchTerm LLog.term
      rw [if_neg (by have := snap_le_last stk.raft.raftLog.abs; omega), if_pos heq, hst]
      simp only []
      rw [← het, het']
      simp

/-- **a node that fast-forwarded its commit index to the snapshot of `m`** holds the sender's log up to
the snapshot index -/
theorem ffwd_src (F : Facts3 q cfg c0 h) {n : Nat} (S : SAll h c0 n) {a : Sys} (ha : h[n]? = some a)
    {v : Nat} {stk : NState} (hka : a.node v = some stk) {m : Message}
    (hm : m ∈ a.net) (hty : m.msgType = .msgSnapshot)
    (hmt : stk.raft.raftLog.matchTerm m.snapshot.metadata.index m.snapshot.metadata.term = .ok true) :
    ∃ L, SnapSrc h c0 n m L ∧ EqUpTo (FL h c0 stk) L m.snapshot.metadata.index := by
  have F2 := F.toFacts
  obtain ⟨L, src⟩ := snap_src F S ha hm hty
  have I := (F2.ghost_inv n a ha).node v stk hka
  have o := F2.node_inv ha hka
  rw [o.matchTerm_abs] at hmt
  have hmt' : stk.raft.raftLog.abs.matchTerm m.snapshot.metadata.index
      m.snapshot.metadata.term = true := by injection hmt
  exact ⟨L, src, eq_ll F2 ha hka src.ll (I.log.has_of_match hmt' (src.snapt_ne F2) src.hi) src.has⟩

/-- a node whose commit index reaches `E.c`, at a moment when the event's term has been led, holds the
committed entry -/
theorem commit_has (F : Facts q cfg c0 h) {n : Nat} (S : SAll h c0 n) {a : Sys} (ha : h[n]? = some a)
    {v : Nat} {stk : NState} (hka : a.node v = some stk) {E : Ev} (hE : E.ok h)
    (hc : E.c ≤ stk.raft.raftLog.committed) {L : LLog} (hL : LeaderLog h c0 n E.t L) :
    Has (FL h c0 stk) E.c E.t := by
  obtain ⟨_, _, hc0⟩ := F.leaderLog hE
  rcases (S n a (Nat.le_refl _) ha).nctm v stk hka with c | ⟨E0, hE0, hp0, hc1, _, hq0⟩
  · omega
  · have := ctf F S hE0 hE hp0 (by omega) (fun _ => ⟨L, hL⟩)
    exact hq0.has hc this

theorem retm_step (F : Facts3 q cfg c0 h) {n : Nat} (S : SAll h c0 n) {a b : Sys}
    (ha : h[n]? = some a) (hb : h[n + 1]? = some b) :
    ∀ E : Ev, E.ok h → ∀ v st', b.node v = some st' → AckedMem b (n + 1) E v st' →
      Has (FL h c0 st') E.c E.t := by
  intro E hE v st' hvb hk
  have F2 := F.toFacts
  have Sa := S n a (Nat.le_refl _) ha
  obtain ⟨hEl, hEh, hc0⟩ := F2.leaderLog hE
  obtain ⟨k, stk, stk', hka, hkb, hoth, hs⟩ := F2.stp ha hb
  by_cases hvk : v = k
  · subst hvk
    rw [hkb] at hvb; cases hvb
    cases hs with
    | restart c rnd hboot hnet _ =>
      have hbt := CV.boot_booted c _ rnd st' hboot
      have hst := (hist_all F.hist).1 a (mem_of_get ha)
      obtain ⟨_, habs, _⟩ := boot_log c _ rnd st' (F2.node_inv ha hka).storeWF hboot
      -- the acknowledgement is in the transport, or the event is an earlier one
      have hne : E.nE ≠ n := by
        intro he
        obtain ⟨a', b', sta, stb, ha', hb', hla, hlb, hsl, _⟩ := hE
        rw [he] at ha' hb'
        rw [ha] at ha'; cases ha'
        rw [hb] at hb'; cases hb'
        have := ev_at_step ⟨a, b, sta, stb, by rw [he]; exact ha, by rw [he]; exact hb, hla, hlb,
          hsl, by assumption⟩ (by rw [he]; exact ha) (by rw [he]; exact hb) hoth
        rw [this, hkb] at hlb; cases hlb
        rw [hbt.state] at hsl; cases hsl
      have hdur : AckedDur a n E v := by
        rcases hk with ⟨x, hx, h2⟩ | ⟨h1, h2, h3⟩
        · left
          rcases hx with c | c
          · rw [hnet] at c; exact ⟨x, c, h2⟩
          · rw [hbt.msgs] at c; cases c
        · exact .inr ⟨h1, by omega, h3⟩
      rw [FL_restart habs]
      exact Sa.rets E hE v stk hka hdur
    | send hp hu hq hsame hnet _ =>
      have hne : E.nE ≠ n := by
        intro he
        obtain ⟨a', b', sta, stb, ha', hb', hla, hlb, _, _, hc, _⟩ := hE
        rw [he] at ha' hb'
        rw [ha] at ha'; cases ha'
        rw [hb] at hb'; cases hb'
        by_cases hl : E.l = v
        · rw [hl, hka] at hla; cases hla
          rw [hl, hkb] at hlb; cases hlb
          rw [hsame.1] at hc; omega
        · rw [hoth E.l hl, hla] at hlb; cases hlb; omega
      have := acked_back (a := a) (st := stk) (fun x hx => by
        rw [hnet] at hx; exact List.mem_append.1 hx) (fun x hx => by rw [hq] at hx; cases hx) hne hk
      rw [FL_same (st := stk) (by rw [hsame.1])]
      exact Sa.retm E hE v stk hka this
    | call rnd op res hop hnc hca hns hpn hss hcall hnet hpn' _ =>
      by_cases hold : AckedMem a n E v stk
      · have hh := Sa.retm E hE v stk hka hold
        have hreach : E.c ≤ stk.raft.raftLog.abs.lastIndex := by
          obtain ⟨e, he, _⟩ := hh
          rw [← fl_last F2 ha hka]; exact ((FL h c0 stk).entryAt_lt he).2
        cases F2.fcall_step ha hb hka hkb hnet hop hnc hns hpn hcall with
        | same hl _ => exact Has.of_eq (hl _) hh
        | grew es hg hl _ => exact Has.of_eq (hl _ hreach) hh
        | acc m hm hty hto hacc _ _ _ _ ht =>
          obtain ⟨L, cL, src⟩ := app_src F S ha hm hty
          have hterm : E.t ≤ m.term := by
            have h1 := acked_term F2 ha hE hka hold
            have h2 := (F2.call_out ha hb hka hkb hnet hop hnc hns hpn hcall).rt.le
            rcases ht with c | c
            · omega
            · exact absurd c src.tnz
          have hcomp := compat_has F2 S ha hka hE hh src.ll hterm
          exact Has.of_eq (hacc.keep src.contig src.ents hcomp E.c (Nat.le_refl _)) hh
      · -- the acknowledgement is new, or the event is this very step
        rcases hk with ⟨x, hx, hack, hfrm, hterm, hidx⟩ | ⟨h1, h2, h3⟩
        · have hx0 : x.index ≠ 0 := by omega
          have hxq : x ∈ st'.raft.msgs ∧ x ∉ stk.raft.msgs := by
            rcases hx with c | c
            · rw [hnet] at c
              exact absurd (.inl ⟨x, .inl c, hack, hfrm, hterm, hidx⟩) hold
            · exact ⟨c, fun d => hold (.inl ⟨x, .inr d, hack, hfrm, hterm, hidx⟩)⟩
          obtain ⟨_, f2, _, m, _, hm, hty, hmt, hcase⟩ :=
            F2.fresh_ack2 ha hb hka hkb hnet hop hnc hns hpn hcall hxq.1 hxq.2 hack hx0
          obtain ⟨L, cL, src⟩ := app_src F S ha hm hty
          rcases hcase with ⟨hacc, hanc0, hxi⟩ | ⟨hl, hxi, _⟩
          · -- accepted: the new log is the sender's up to the end of the batch
            have hanc := anchor_eq F ha hka hm hty src hanc0
            have hag := hacc.agree src.contig src.ents hanc
            have hLh : Has L E.c E.t :=
              ll_has F2 S src.ll hE (by rw [hmt, hterm]; exact Nat.le_refl _)
                (fun _ => by have := src.last; omega)
            exact Has.of_eq (hag E.c (by omega)) hLh
          · -- the commit index was acknowledged: it is covered by a past event
            rw [hl]
            rcases Sa.nctm v stk hka with c | ⟨E0, hE0, hp0, hc1, _, hq0⟩
            · omega
            · have := ctf F2 S hE0 hE hp0 (by omega)
                (fun _ => ⟨L, by rw [← hterm, ← hmt]; exact src.ll⟩)
              exact hq0.has (by omega) this
        · have hne : E.nE = n := by
            apply Classical.byContradiction
            intro hne
            exact hold (.inr ⟨h1, by omega, h3⟩)
          obtain ⟨a', b', sta, stb, ha', hb', hla, hlb, _, _, _, _, hg, _⟩ := id hE
          rw [hne, hb] at hb'; cases hb'
          rw [← h1, hkb] at hlb; cases hlb
          have hev : EvF h c0 E = FL h c0 st' := by unfold EvF FL; rw [hg]
          rw [← hev]; exact hEh
    | psnap rnd hp hout hpend hnet =>
      have hne := not_ev_at hE ha hb hka hkb hoth (.inr (Nat.le_of_eq (persist_same hout).1))
      have hold := acked_back (a := a) (st := stk) (fun x hx => by rw [hnet] at hx; exact .inl hx)
        (fun x hx => by rw [hout.msgs] at hx; exact hx) hne hk
      rw [FL_same (persist_abs hout)]
      exact Sa.retm E hE v stk hka hold
    | snap rnd m hm hto hty hpn hout hnet =>
      cases hout with
      | skip hr =>
        have hne := not_ev_at hE ha hb hka hkb hoth (.inr (by rw [hr]; exact Nat.le_refl _))
        have hold := acked_back (a := a) (st := stk) (fun x hx => by rw [hnet] at hx; exact .inl hx)
          (fun x hx => by rw [hr] at hx; exact hx) hne hk
        rw [FL_same (st := stk) (by rw [hr])]
        exact Sa.retm E hE v stk hka hold
      | handled x hsf ht hle hid hq hack hxto hxfrm hxt hsto hcase =>
        have hne := not_ev_at hE ha hb hka hkb hoth (.inl (by rw [hsf]; intro hc; cases hc))
        have hmt := F2.snap_term_ne_zero ha hm hty
        have hmterm : m.term = st'.raft.term := by
          rcases ht with c | c
          · exact c
          · exact absurd c hmt
        by_cases hold : AckedMem a n E v stk
        · have hh := Sa.retm E hE v stk hka hold
          have hterm : E.t ≤ m.term := by
            have h1 := acked_term F2 ha hE hka hold
            omega
          cases hcase with
          | kept hu _ _ _ => rw [FL_same (RaftLog.abs_congr hsto hu)]; exact hh
          | ffwd hu _ _ _ _ _ _ => rw [FL_same (RaftLog.abs_congr hsto hu)]; exact hh
          | restored hle' hnm hu hc _ _ =>
            have hl : st'.raft.raftLog.abs = LLog.ofSnapshot m.snapshot := by
              rw [RaftLog.abs_some (sn := m.snapshot) (by rw [hu]; rfl), hu]; rfl
            obtain ⟨L, src, heq, _⟩ := restored_src F S ha hb hkb hm hty hl
            obtain ⟨ei, hei, heit⟩ := id src.has
            by_cases hci : E.c ≤ m.snapshot.metadata.index
            · have hLh := ll_has F2 S src.ll hE hterm
                (fun _ => Nat.le_trans hci (L.entryAt_lt hei).2)
              exact Has.of_eq (heq E.c hci) hLh
            · -- the node holds the sender's entry at the snapshot index: it would not have restored
              exfalso
              have hcomp := compat_has F2 S ha hka hE hh src.ll hterm
              have h1 := hcomp m.snapshot.metadata.index (by omega) ei hei
              rcases hnm with hnm | hnm
              · exact hnm (restore_nodrop F (F2.q_of_net ha hm hty) ha hka src.hi hle' ⟨ei, h1, heit⟩)
              · -- a pending request: the log ends at or before the snapshot index
                obtain ⟨eh, heh, _⟩ := id hh
                have hb1 := ((FL h c0 stk).entryAt_lt heh).2
                rw [fl_last F2 ha hka, ← (F2.node_inv ha hka).lastIndex_abs] at hb1
                omega
        · -- the acknowledgement is the one queued in this step
          rcases hk with ⟨y, hy, hacky, hyf, hyt, hyi⟩ | ⟨h1, h2, h3⟩
          · have hyx : y = x := by
              rcases hy with c | c
              · rw [hnet] at c
                exact absurd (.inl ⟨y, .inl c, hacky, hyf, hyt, hyi⟩) hold
              · rw [hq] at c
                rcases List.mem_append.1 c with d | d
                · exact absurd (.inl ⟨y, .inr d, hacky, hyf, hyt, hyi⟩) hold
                · exact List.mem_singleton.1 d
            subst hyx
            have hEt : E.t = m.term := by rw [← hyt, hxt, hmterm]
            cases hcase with
            | kept hu _ hc hx =>
              obtain ⟨L, src⟩ := snap_src F S ha hm hty
              rw [FL_same (RaftLog.abs_congr hsto hu)]
              exact commit_has F2 S ha hka hE (by rw [← hc, ← hx]; exact hyi)
                (by rw [hEt]; exact src.ll)
            | ffwd hu _ _ hc hmt' _ hx =>
              obtain ⟨L, src, heq⟩ := ffwd_src F S ha hka hm hty hmt'
              obtain ⟨ei, hei, _⟩ := id src.has
              rw [FL_same (RaftLog.abs_congr hsto hu)]
              have hci : E.c ≤ m.snapshot.metadata.index := by rw [← hc, ← hx]; exact hyi
              have hLh := ll_has F2 S src.ll hE (Nat.le_of_eq hEt)
                (fun _ => Nat.le_trans hci (L.entryAt_lt hei).2)
              exact Has.of_eq (heq E.c hci) hLh
            | restored _ _ hu _ _ hx =>
              have hl : st'.raft.raftLog.abs = LLog.ofSnapshot m.snapshot := by
                rw [RaftLog.abs_some (sn := m.snapshot) (by rw [hu]; rfl), hu]; rfl
              obtain ⟨L, src, heq, _⟩ := restored_src F S ha hb hkb hm hty hl
              obtain ⟨ei, hei, _⟩ := id src.has
              have hci : E.c ≤ m.snapshot.metadata.index := by rw [← hx]; exact hyi
              have hLh := ll_has F2 S src.ll hE (Nat.le_of_eq hEt)
                (fun _ => Nat.le_trans hci (L.entryAt_lt hei).2)
              exact Has.of_eq (heq E.c hci) hLh
          · exact absurd (.inr ⟨h1, by omega, h3⟩) hold
  · have hva : a.node v = some st' := by rw [← hoth v hvk]; exact hvb
    obtain ⟨o1, _, _⟩ := sm_other F2 ha hka hs hvk (st := st')
    have hne : E.nE ≠ n ∨ E.l ≠ v := by
      by_cases he : E.nE = n
      · right
        have := ev_at_step hE (by rw [he]; exact ha) (by rw [he]; exact hb) hoth
        rw [this]; exact fun hc => hvk hc.symm
      · exact .inl he
    refine Sa.retm E hE v st' hva ?_
    rcases hk with ⟨x, hx, hack, hfrm, hterm, hidx⟩ | ⟨h1, h2, h3⟩
    · exact .inl ⟨x, o1 x hx hack (by omega) hfrm, hack, hfrm, hterm, hidx⟩
    · rcases hne with c | c
      · exact .inr ⟨h1, by omega, h3⟩
      · exact absurd h1.symm c


/-- the snapshot point of a leader's log -/
theorem LeaderLog.snap (F : Facts q cfg c0 h) {N t : Nat} {L : LLog} (hL : LeaderLog h c0 N t L) :
    L.snapIdx = c0 := by
  obtain ⟨m, s, l, st, _, a2, a3, _, _, rfl⟩ := hL
  exact ((F.ghost_inv m s a2).node l st a3).log.snap

/-- two leaders' logs that hold the same entry at `c` are equal up to `c` -/
theorem ll_eq_below (F : Facts q cfg c0 h) {N N' t t' : Nat} {L L' : LLog} (h1 : LeaderLog h c0 N t L)
    (h2 : LeaderLog h c0 N' t' L') {c τ : Nat} (hh : Has L c τ) (hh' : Has L' c τ) :
    EqUpTo L L' c := by
  obtain ⟨m, s, l, st, _, a2, a3, _, _, rfl⟩ := h1
  exact eq_ll F a2 a3 h2 hh hh'

/-- the promise of an acknowledgement of the commit index -/
theorem commit_promise (F : Facts q cfg c0 h) {n : Nat} (S : SAll h c0 n) {a : Sys}
    (ha : h[n]? = some a) {v : Nat} {stk : NState} (hka : a.node v = some stk) {x : Message}
    (hxi : x.index = stk.raft.raftLog.committed) (hidx : c0 < x.index)
    (hle : stk.raft.term ≤ x.term) {L : LLog} (hL : LeaderLog h c0 n x.term L) :
    Promise h c0 (n + 1) x (FL h c0 stk) := by
  have hLl : LeaderLog h c0 (n + 1) x.term L := hL.mono (Nat.le_succ _)
  rcases (S n a (Nat.le_refl _) ha).nctm v stk hka with c | ⟨E0, hE0, hp0, hc1, ht0, hq0⟩
  · omega
  · obtain ⟨hEl0, hEh0, _⟩ := F.leaderLog hE0
    obtain ⟨e0, he0, _⟩ := id hEh0
    have hE0c : E0.c ≤ (EvF h c0 E0).lastIndex := ((EvF h c0 E0).entryAt_lt he0).2
    have ht0' : E0.t ≤ x.term := by omega
    by_cases hlt : E0.t < x.term
    · have hLh : Has L E0.c E0.t := ll_has F S hL hE0 (Nat.le_of_lt hlt) (fun hc => by omega)
      obtain ⟨eL, heL, _⟩ := id hLh
      have hLE := ll_eq_below F hL hEl0 hLh hEh0
      refine ⟨L, hLl, ?_, ?_⟩
      · rw [hxi]; exact Nat.le_trans hc1 (L.entryAt_lt heL).2
      · rw [hxi]
        exact hq0.trans ((hLE.mono hc1).symm)
    · have hteq : E0.t = x.term := by omega
      refine ⟨EvF h c0 E0, ?_, ?_, ?_⟩
      · rw [← hteq]; exact hEl0.mono (by omega)
      · rw [hxi]; omega
      · rw [hxi]; exact hq0

/-- an acknowledgement of a node that is around carries a term the node has reached -/
theorem ack_term_le (F : Facts q cfg c0 h) {n : Nat} {a : Sys} (ha : h[n]? = some a) {v : Nat}
    {st : NState} (hv : a.node v = some st) {x : Message} (hx : x ∈ a.net ∨ x ∈ st.raft.msgs)
    (hack : isAck x) (hfrm : x.frm = v) (hidx : x.index ≠ 0) : x.term ≤ st.raft.term := by
  obtain ⟨hq, hn⟩ := F.ack_inv n a ha
  rcases hx with c | c
  · exact ((hn x c hack hidx).1 st (by rw [hfrm]; exact hv)).1
  · exact (hq v st hv x c hack hidx).2.1

theorem a2m_step (F : Facts3 q cfg c0 h) {n : Nat} (S : SAll h c0 n) {a b : Sys}
    (ha : h[n]? = some a) (hb : h[n + 1]? = some b) :
    ∀ v st', b.node v = some st' → ∀ x, (x ∈ b.net ∨ x ∈ st'.raft.msgs) → isAck x → x.frm = v →
      c0 < x.index → x.term = st'.raft.term → Promise h c0 (n + 1) x (FL h c0 st') := by
  intro v st' hvb x hx hack hfrm hidx hterm
  have F2 := F.toFacts
  have Sa := S n a (Nat.le_refl _) ha
  have hx0 : x.index ≠ 0 := by omega
  obtain ⟨k, stk, stk', hka, hkb, hoth, hs⟩ := F2.stp ha hb
  by_cases hvk : v = k
  · subst hvk
    rw [hkb] at hvb; cases hvb
    cases hs with
    | restart c rnd hboot hnet _ =>
      have hbt := CV.boot_booted c _ rnd st' hboot
      obtain ⟨_, habs, _⟩ := boot_log c _ rnd st' (F2.node_inv ha hka).storeWF hboot
      have hxa : x ∈ a.net := by
        rcases hx with c | c
        · rw [hnet] at c; exact c
        · rw [hbt.msgs] at c; cases c
      rw [FL_restart habs]
      exact (Sa.a2s v stk hka x hxa hack hfrm hidx (by rw [hterm, hbt.term])).mono (Nat.le_succ _)
    | send hp hu hq hsame hnet _ =>
      have hxa : x ∈ a.net ∨ x ∈ stk.raft.msgs := by
        rcases hx with c | c
        · rw [hnet] at c; exact List.mem_append.1 c
        · rw [hq] at c; cases c
      rw [FL_same (st := stk) (by rw [hsame.1])]
      exact (Sa.a2m v stk hka x hxa hack hfrm hidx (by rw [hterm, hsame.2.1])).mono (Nat.le_succ _)
    | call rnd op res hop hnc hca hns hpn hss hcall hnet hpn' _ =>
      have hL := (F2.call_out ha hb hka hkb hnet hop hnc hns hpn hcall).rt
      by_cases hold : x ∈ a.net ∨ x ∈ stk.raft.msgs
      · have hle := ack_term_le F2 ha hka hold hack hfrm hx0
        have hteq : x.term = stk.raft.term := by have := hL.le; omega
        obtain ⟨L1, hl1, hreach, heq⟩ := Sa.a2m v stk hka x hold hack hfrm hidx hteq
        refine ⟨L1, hl1.mono (Nat.le_succ _), hreach, ?_⟩
        cases F2.fcall_step ha hb hka hkb hnet hop hnc hns hpn hcall with
        | same hl _ => exact fun j hj => (hl j).trans (heq j hj)
        | grew es hg hl _ =>
          intro j hj
          rw [← heq j hj]
          refine hl j ?_
          -- the old log reaches the acknowledged index
          obtain ⟨e, he⟩ := L1.entryAt_exists (i := x.index) (by rw [hl1.snap F2]; exact hidx) hreach
          rw [← heq x.index (Nat.le_refl _)] at he
          rw [← fl_last F2 ha hka]
          exact Nat.le_trans hj ((FL h c0 stk).entryAt_lt he).2
        | acc m hm hty hto hacc _ _ _ _ ht =>
          obtain ⟨L, cL, src⟩ := app_src F S ha hm hty
          have hmt : m.term = x.term := by
            rcases ht with c | c
            · rw [c, hterm]
            · exact absurd c src.tnz
          have hcomp : ∀ j, j ≤ x.index → ∀ e, L.entryAt j = some e →
              (FL h c0 stk).entryAt j = some e := by
            intro j hj e he
            rw [heq j hj, ← ll_eq F2 (by rw [← hmt]; exact src.ll) hl1 (L.entryAt_lt he).2
              (Nat.le_trans hj hreach)]
            exact he
          intro j hj
          rw [hacc.keep src.contig src.ents hcomp j hj]
          exact heq j hj
      · -- a fresh acknowledgement
        have hxq : x ∈ st'.raft.msgs ∧ x ∉ stk.raft.msgs := by
          rcases hx with c | c
          · rw [hnet] at c; exact absurd (.inl c) hold
          · exact ⟨c, fun d => hold (.inr d)⟩
        obtain ⟨_, _, _, m, _, hm, hty, hmt, hcase⟩ :=
          F2.fresh_ack2 ha hb hka hkb hnet hop hnc hns hpn hcall hxq.1 hxq.2 hack hx0
        obtain ⟨L, cL, src⟩ := app_src F S ha hm hty
        have hLl : LeaderLog h c0 (n + 1) x.term L := by
          rw [← hmt]; exact src.ll.mono (Nat.le_succ _)
        rcases hcase with ⟨hacc, hanc0, hxi⟩ | ⟨hl, hxi, _⟩
        · have hanc := anchor_eq F ha hka hm hty src hanc0
          have hag := hacc.agree src.contig src.ents hanc
          exact ⟨L, hLl, by rw [hxi]; exact src.last, fun j hj => hag j (by omega)⟩
        · rw [hl]
          rcases Sa.nctm v stk hka with c | ⟨E0, hE0, hp0, hc1, ht0, hq0⟩
          · omega
          · obtain ⟨hEl0, hEh0, _⟩ := F2.leaderLog hE0
            obtain ⟨e0, he0, _⟩ := id hEh0
            have hE0c : E0.c ≤ (EvF h c0 E0).lastIndex := ((EvF h c0 E0).entryAt_lt he0).2
            have ht0' : E0.t ≤ x.term := by
              have := hL.le; omega
            by_cases hlt : E0.t < x.term
            · -- the sender, leader of a later term, holds the event's entry
              have hLh : Has L E0.c E0.t :=
                ll_has F2 S (by rw [← hmt] at hlt ⊢; exact src.ll) hE0 (Nat.le_of_lt hlt)
                  (fun hc => by omega)
              obtain ⟨eL, heL, _⟩ := id hLh
              have hLE := ll_eq_below F2 src.ll hEl0 hLh hEh0
              refine ⟨L, hLl, ?_, ?_⟩
              · rw [hxi]; exact Nat.le_trans hc1 (L.entryAt_lt heL).2
              · rw [hxi]
                exact hq0.trans ((hLE.mono hc1).symm)
            · have hteq : E0.t = x.term := by omega
              refine ⟨EvF h c0 E0, ?_, ?_, ?_⟩
              · rw [← hteq]; exact hEl0.mono (by omega)
              · rw [hxi]; omega
              · rw [hxi]; exact hq0
    | psnap rnd hp hout hpend hnet =>
      have hxa : x ∈ a.net ∨ x ∈ stk.raft.msgs := by
        rcases hx with c | c
        · rw [hnet] at c; exact .inl c
        · rw [hout.msgs] at c; exact .inr c
      rw [FL_same (persist_abs hout)]
      exact (Sa.a2m v stk hka x hxa hack hfrm hidx (by rw [hterm, (persist_same hout).2.1])).mono
        (Nat.le_succ _)
    | snap rnd m hm hto hty hpn hout hnet =>
      cases hout with
      | skip hr =>
        have hxa : x ∈ a.net ∨ x ∈ stk.raft.msgs := by
          rcases hx with c | c
          · rw [hnet] at c; exact .inl c
          · rw [hr] at c; exact .inr c
        rw [FL_same (st := stk) (by rw [hr])]
        exact (Sa.a2m v stk hka x hxa hack hfrm hidx (by rw [hterm, hr])).mono (Nat.le_succ _)
      | handled y hsf ht hle hid hq hacky hyto hyfrm hyt hsto hcase =>
        have hmt := F2.snap_term_ne_zero ha hm hty
        have hmterm : m.term = st'.raft.term := by
          rcases ht with c | c
          · exact c
          · exact absurd c hmt
        by_cases hold : x ∈ a.net ∨ x ∈ stk.raft.msgs
        · -- an acknowledgement that was around: the node was in that term already
          have hle' := ack_term_le F2 ha hka hold hack hfrm hx0
          have hteq : x.term = stk.raft.term := by omega
          obtain ⟨L1, hl1, hreach, heq1⟩ := Sa.a2m v stk hka x hold hack hfrm hidx hteq
          cases hcase with
          | kept hu _ _ _ =>
            rw [FL_same (RaftLog.abs_congr hsto hu)]
            exact ⟨L1, hl1.mono (Nat.le_succ _), hreach, heq1⟩
          | ffwd hu _ _ _ _ _ _ =>
            rw [FL_same (RaftLog.abs_congr hsto hu)]
            exact ⟨L1, hl1.mono (Nat.le_succ _), hreach, heq1⟩
          | restored hlec hnm hu hc _ _ =>
            have hl : st'.raft.raftLog.abs = LLog.ofSnapshot m.snapshot := by
              rw [RaftLog.abs_some (sn := m.snapshot) (by rw [hu]; rfl), hu]; rfl
            obtain ⟨L, src, heq, _⟩ := restored_src F S ha hb hkb hm hty hl
            obtain ⟨ei, hei, heit⟩ := id src.has
            have hiL := (L.entryAt_lt hei).2
            have hsame : LeaderLog h c0 n x.term L := by rw [hterm, ← hmterm]; exact src.ll
            by_cases hci : x.index ≤ m.snapshot.metadata.index
            · refine ⟨L1, hl1.mono (Nat.le_succ _), hreach, fun j hj => ?_⟩
              rw [heq j (by omega)]
              exact ll_eq F2 hsame hl1 (by omega) (by omega)
            · -- the node holds the sender's entry at the snapshot index: it would not have restored
              exfalso
              have h1 : (FL h c0 stk).entryAt m.snapshot.metadata.index = some ei := by
                rw [heq1 _ (by omega), ← ll_eq F2 hsame hl1 hiL (by omega)]
                exact hei
              rcases hnm with hnm | hnm
              · exact hnm (restore_nodrop F (F2.q_of_net ha hm hty) ha hka src.hi hlec ⟨ei, h1, heit⟩)
              · -- a pending request: the log ends at or before the snapshot index
                obtain ⟨m1, s1, l1, st1, _, hs1, hl1', _, _, rfl⟩ := hl1
                have hF := ((F2.ghost_inv m1 s1 hs1).node l1 st1 hl1').log
                obtain ⟨e1, he1⟩ := hF.exists_entry (k := x.index) hidx
                  (by rw [← hF.last]; exact hreach)
                have h2 : (FL h c0 stk).entryAt x.index = some e1 := by
                  rw [heq1 _ (Nat.le_refl _)]; exact he1
                have hb1 := ((FL h c0 stk).entryAt_lt h2).2
                rw [fl_last F2 ha hka, ← (F2.node_inv ha hka).lastIndex_abs] at hb1
                omega
        · -- the acknowledgement queued in this step
          have hxy : x = y := by
            rcases hx with c | c
            · rw [hnet] at c; exact absurd (.inl c) hold
            · rw [hq] at c
              rcases List.mem_append.1 c with d | d
              · exact absurd (.inr d) hold
              · exact List.mem_singleton.1 d
          subst hxy
          cases hcase with
          | kept hu _ hc hxi =>
            obtain ⟨L, src⟩ := snap_src F S ha hm hty
            rw [FL_same (RaftLog.abs_congr hsto hu)]
            exact commit_promise F2 S ha hka (by rw [hxi, hc]) hidx (by rw [hterm]; exact hle)
              (by rw [hterm, ← hmterm]; exact src.ll)
          | ffwd hu _ _ hc hmt' _ hxi =>
            obtain ⟨L, src, heq⟩ := ffwd_src F S ha hka hm hty hmt'
            obtain ⟨ei, hei, _⟩ := id src.has
            rw [FL_same (RaftLog.abs_congr hsto hu)]
            refine ⟨L, by rw [hterm, ← hmterm]; exact src.ll.mono (Nat.le_succ _), ?_, ?_⟩
            · rw [hxi, hc]; exact (L.entryAt_lt hei).2
            · rw [hxi, hc]; exact heq
          | restored _ _ hu _ _ hxi =>
            have hl : st'.raft.raftLog.abs = LLog.ofSnapshot m.snapshot := by
              rw [RaftLog.abs_some (sn := m.snapshot) (by rw [hu]; rfl), hu]; rfl
            obtain ⟨L, src, heq, _⟩ := restored_src F S ha hb hkb hm hty hl
            obtain ⟨ei, hei, _⟩ := id src.has
            refine ⟨L, by rw [hterm, ← hmterm]; exact src.ll.mono (Nat.le_succ _), ?_, ?_⟩
            · rw [hxi]; exact (L.entryAt_lt hei).2
            · rw [hxi]; exact heq
  · have hva : a.node v = some st' := by rw [← hoth v hvk]; exact hvb
    obtain ⟨o1, _, _⟩ := sm_other F2 ha hka hs hvk (st := st')
    exact (Sa.a2m v st' hva x (o1 x hx hack hx0 hfrm) hack hfrm hidx hterm).mono (Nat.le_succ _)



end Snap5
end Cluster
end RaftModel
