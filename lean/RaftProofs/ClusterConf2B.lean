import RaftProofs.RaftNodeC04
import RaftProofs.RaftNodeC09
import RaftProofs.RawNodeC06

/-!
C09 at the cluster level, what `Raft::step` and `Raft::tick` leave alone in the log, two instances of
the traversal `f_lp` of `RaftProofs/RaftNodeC04.lean`:

* **the apply cursor `raft_log.applied`** (its only writers are `commit_apply` and `Raft::new`): none
  of the log operations those functions use moves the cursor (`AP.keepsAll`); `AP P r` is
  `P r.raftLog.applied`, and EVERY function satisfies `f r = .ok r' → AP P r → AP P r'` for every `P`
  (for the commit index only the upward closed `P` survive the committing functions);
* **the stored `ConfState` (`raft_log.store.confState`)**: the `RaftLog` operations never touch the
  storage (the `…_store` lemmas of `RawNodeC06`), except that fetching a snapshot may
  consume the storage's "unavailable" trigger (`C20.storeSnapshot_spec`); `SC P r` is
  `P r.raftLog.store.confState`.
-/
namespace RaftModel
namespace Raft
namespace Ap

structure AP (P : Nat → Prop) (r : Raft) : Prop where
  h : P r.raftLog.applied

theorem logRestore_applied {l l' : RaftLog} {sn : Snapshot} (h : l.restore sn = .ok l') :
    l'.applied = l.applied := by
  rw [(RaftLog.restore_inv h).2]

/-- no log operation that `step` and `tick` reach moves the apply cursor -/
theorem AP.keepsAll (P : Nat → Prop) : RaftLog.KeepsAll (fun l => P l.applied) :=
  .of_eq P c09_snapshot_applied c09_append_applied (fun _ _ => rfl) c09_commitTo_applied
    (fun _ _ => rfl) logRestore_applied

theorem modifyProgress_ap {P : Nat → Prop} {r : Raft} {id : Nat} {f : Progress → Progress}
    (h0 : AP P r) : AP P (r.modifyProgress id f) := ⟨h0.h⟩

theorem mapProgress_ap {P : Nat → Prop} {r : Raft} {f : Nat → Progress → Progress}
    (h0 : AP P r) : AP P (r.mapProgress f) := ⟨h0.h⟩

theorem maybeIncreaseUncommittedSize_ap {P : Nat → Prop} {r r' : Raft} {es : List Entry} {b : Bool}
    (h : r.maybeIncreaseUncommittedSize es = (r', b)) (h0 : AP P r) : AP P r' :=
  ⟨maybeIncreaseUncommittedSize_lp (Q := fun l => P l.applied) h h0.h⟩

theorem becomeFollower_raftLog (r : Raft) (t l : Nat) :
    (r.becomeFollower t l).raftLog = { r.raftLog with maxApplyUnpersistedLogLimit := 0 } :=
  Raft.becomeFollower_raftLog r t l

/-- the log queries do not read `max_apply_unpersisted_log_limit` -/
theorem c04_log_limit_irrelevant (l : RaftLog) (n : Nat) :
    (∀ i, ({ l with maxApplyUnpersistedLogLimit := n } : RaftLog).term i = l.term i) ∧
    (∀ i t, ({ l with maxApplyUnpersistedLogLimit := n } : RaftLog).matchTerm i t = l.matchTerm i t) ∧
    ({ l with maxApplyUnpersistedLogLimit := n } : RaftLog).lastIndex = l.lastIndex :=
  Raft.c04_log_limit_irrelevant l n

theorem step_ap {P : Nat → Prop} {r r' : Raft} {m : Message} {e : Option RaftError}
    (h : r.step m = .ok (r', e)) (h0 : AP P r) : AP P r' :=
  ⟨step_lp (AP.keepsAll P) h h0.h⟩

theorem stepIgnore_ap {P : Nat → Prop} {r r' : Raft} {m : Message}
    (h : r.stepIgnore m = .ok r') (h0 : AP P r) : AP P r' :=
  ⟨stepIgnore_lp (AP.keepsAll P) h h0.h⟩

theorem tick_ap {P : Nat → Prop} {r r' : Raft} {b : Bool}
    (h : r.tick = .ok (r', b)) (h0 : AP P r) : AP P r' :=
  ⟨tick_lp (AP.keepsAll P) h h0.h⟩

end Ap

namespace Sc

structure SC (P : ConfState → Prop) (r : Raft) : Prop where
  h : P r.raftLog.store.confState

theorem snapshot_stcs (l : RaftLog) (i : Nat) :
    (l.snapshot i).1.store.confState = l.store.confState := by
  have key : (l.store.snapshot i).1.confState = l.store.confState := by
    rcases (RaftProps.C20.storeSnapshot_spec l.store i).1 with h1 | h1
    · rw [h1]
    · rw [h1]
  unfold RaftLog.snapshot
  split
  · split
    · rfl
    · exact key
  · exact key

/-- no log operation that `step` and `tick` reach changes the stored `ConfState` -/
theorem SC.keepsAll (P : ConfState → Prop) : RaftLog.KeepsAll (fun l => P l.store.confState) :=
  .of_eq P snapshot_stcs (fun h => congrArg MemStorage.confState (C06.append_store h))
    (fun _ _ => rfl) (fun h => congrArg MemStorage.confState (C06.commitTo_store h))
    (fun _ _ => rfl) (fun h => congrArg MemStorage.confState (C06.restore_store h))

theorem modifyProgress_sc {P : ConfState → Prop} {r : Raft} {id : Nat} {f : Progress → Progress}
    (h0 : SC P r) : SC P (r.modifyProgress id f) := ⟨h0.h⟩

theorem mapProgress_sc {P : ConfState → Prop} {r : Raft} {f : Nat → Progress → Progress}
    (h0 : SC P r) : SC P (r.mapProgress f) := ⟨h0.h⟩

theorem maybeIncreaseUncommittedSize_sc {P : ConfState → Prop} {r r' : Raft} {es : List Entry} {b : Bool}
    (h : r.maybeIncreaseUncommittedSize es = (r', b)) (h0 : SC P r) : SC P r' :=
  ⟨maybeIncreaseUncommittedSize_lp (Q := fun l => P l.store.confState) h h0.h⟩

theorem becomeFollower_raftLog (r : Raft) (t l : Nat) :
    (r.becomeFollower t l).raftLog = { r.raftLog with maxApplyUnpersistedLogLimit := 0 } :=
  Raft.becomeFollower_raftLog r t l

/-- the log queries do not read `max_apply_unpersisted_log_limit` -/
theorem c04_log_limit_irrelevant (l : RaftLog) (n : Nat) :
    (∀ i, ({ l with maxApplyUnpersistedLogLimit := n } : RaftLog).term i = l.term i) ∧
    (∀ i t, ({ l with maxApplyUnpersistedLogLimit := n } : RaftLog).matchTerm i t = l.matchTerm i t) ∧
    ({ l with maxApplyUnpersistedLogLimit := n } : RaftLog).lastIndex = l.lastIndex :=
  Raft.c04_log_limit_irrelevant l n

theorem step_sc {P : ConfState → Prop} {r r' : Raft} {m : Message} {e : Option RaftError}
    (h : r.step m = .ok (r', e)) (h0 : SC P r) : SC P r' :=
  ⟨step_lp (SC.keepsAll P) h h0.h⟩

theorem stepIgnore_sc {P : ConfState → Prop} {r r' : Raft} {m : Message}
    (h : r.stepIgnore m = .ok r') (h0 : SC P r) : SC P r' :=
  ⟨stepIgnore_lp (SC.keepsAll P) h h0.h⟩

theorem tick_sc {P : ConfState → Prop} {r r' : Raft} {b : Bool}
    (h : r.tick = .ok (r', b)) (h0 : SC P r) : SC P r' :=
  ⟨tick_lp (SC.keepsAll P) h h0.h⟩

end Sc
end Raft
end RaftModel
