import RaftProofs.ClusterCommitAppendCall

/-!
Commit safety of `ClusterSem`, towards snapshots, part 2A: `Raft::step` on a `MsgSnapshot`, unfolded
(`step_snap_unfold`: either `handle_snapshot` runs on a follower state that differs from the start
state only in role, term and bookkeeping, or the log is untouched), and `Raft::restore` on a follower,
*whatever its pending snapshot request* (`restore_full`): with a request pending and a snapshot that is
not older than the requested index, the log is replaced by the snapshot even when it holds the
snapshot's last entry.
-/
namespace RaftModel
namespace Raft
namespace CC
open Node

theorem stepTerm_snap_term {r r1 : Raft} {m : Message} (h : r.stepTerm m = .ok (r1, true))
    (hty : m.msgType = .msgSnapshot) : m.term = r1.term ∨ m.term = 0 := by
  by_cases h0 : m.term = 0
  · exact .inr h0
  · exact .inl (RaftProps.C20.stepTerm_term_eq r r1 m h0 (.inr (.inr hty)) h).symm

theorem becomeFollower_prs (r : Raft) (t l : Nat) :
    (r.becomeFollower t l).pendingRequestSnapshot = r.pendingRequestSnapshot := rfl

theorem stepTerm_prs {r r1 : Raft} {m : Message} (h : r.stepTerm m = .ok (r1, true)) :
    r1.pendingRequestSnapshot = r.pendingRequestSnapshot := by
  rcases RaftProps.C16.stepTerm_true h with g | ⟨_, _, _, l, g⟩
  · rw [g]
  · rw [g]; rfl

/-- **`step` on a `MsgSnapshot`** -/
theorem step_snap_unfold {r r' : Raft} {m : Message} {e : Option RaftError}
    (hm : m.msgType = .msgSnapshot) (h : r.step m = .ok (r', e)) :
    (∃ r0, r0.handleSnapshot m = .ok r' ∧ r0.state = .follower ∧ SameLog r r0 ∧
      (m.term = r0.term ∨ m.term = 0) ∧ r0.pendingRequestSnapshot = r.pendingRequestSnapshot) ∨
    r' = r := by
  cases step_inv h with
  | consumed hst =>
    -- a `MsgSnapshot` the preamble consumes is dropped without an answer
    right
    cases stepTerm_inv hst with
    | leased _ _ hl => rcases hl.1 with c | c <;> rw [hm] at c <;> cases c
    | staleAck _ _ hc => rcases hc.2 with c | c <;> rw [hm] at c <;> cases c
    | staleReject _ _ hc => rw [hm] at hc; cases hc
    | stale => rfl
  | dispatched hst hd =>
    rename_i r1
    have hsl := stepTerm_sameLog hst
    have htm := stepTerm_snap_term hst hm
    cases hd with
    | hup ty => rw [hm] at ty; cases ty
    | vote ty => rcases ty with c | c <;> rw [hm] at c <;> cases c
    | candidate _ _ hc =>
      -- a candidate and a pre-candidate alike become follower of their term and handle the snapshot
      unfold Raft.stepCandidate at hc
      rw [hm] at hc
      simp only [] at hc
      split at hc
      · cases hc
      · obtain ⟨r2, h2, hc⟩ := Res.bind_eq_ok hc
        cases hc
        left
        refine ⟨_, h2, (RaftProps.C16.becomeFollower_proj _ _ _).1, ?_, ?_⟩
        · exact ⟨(becomeFollower_msgs _ _ _).trans hsl.1, (becomeFollower_id _ _ _).trans hsl.2.1,
            by rw [(becomeFollower_term_vote _ _ _).1]; rename_i hne; have := hsl.2.2.1; omega,
            by
              rw [becomeFollower_raftLog]
              rcases hsl.2.2.2 with e1 | e1 <;> rw [e1] <;> exact .inr rfl⟩
        · exact ⟨.inl (becomeFollower_term_vote _ _ _).1.symm,
            (becomeFollower_prs _ _ _).trans (stepTerm_prs hst)⟩
    | follower _ hs hc =>
      unfold Raft.stepFollower at hc
      rw [hm] at hc
      simp only [] at hc
      obtain ⟨r2, h2, hc⟩ := Res.bind_eq_ok hc
      cases hc
      left
      exact ⟨_, h2, hs, ⟨hsl.1, hsl.2.1, hsl.2.2.1, hsl.2.2.2⟩, htm,
        (show r1.pendingRequestSnapshot = _ from stepTerm_prs hst)⟩
    | leader _ hs hc =>
      unfold Raft.stepLeader at hc
      rw [hm] at hc
      simp only [] at hc
      cases hc
      right
      rcases RaftProps.C16.stepTerm_true hst with g | ⟨_, _, _, l, g⟩
      · exact g
      · rw [g, (RaftProps.C16.becomeFollower_proj _ _ _).1] at hs; cases hs

/-- away from the leader role `post_conf_change` only recomputes `promotable` -/
theorem postConfChange_nl_eq {r r' : Raft} {cs : ConfState} (hs : r.state ≠ .leader)
    (h : r.postConfChange = .ok (r', cs)) :
    r' = { r with promotable := Joint.contains r.prs.voters r.id } := by
  rw [postConfChange_eq hs] at h
  cases h; rfl

/-- **`Raft::restore` on a follower**, completely, whatever its pending snapshot request: nothing is
queued, role / term / identity and the storage are untouched, and either the log is kept — the commit
index stays, or is fast-forwarded to the snapshot index, which the log holds with the snapshot's term;
the pending request stays — or the log is replaced by the snapshot (`RaftLog::restore`; the snapshot is
not below the commit index, and the log does not hold its last entry **or a request is pending and the
snapshot is not older than the requested index**: fix F10) and the request is cleared -/
theorem restore_full {r r' : Raft} {snap : Snapshot} {b : Bool} (hf : r.state = .follower)
    (h : r.restore snap = .ok (r', b)) :
    r'.msgs = r.msgs ∧ r'.term = r.term ∧ r'.state = r.state ∧ r'.id = r.id ∧
    r'.raftLog.store = r.raftLog.store ∧
    ((b = false ∧ r'.raftLog.unstable = r.raftLog.unstable ∧
        r'.raftLog.persisted = r.raftLog.persisted ∧ r'.raftLog.applied = r.raftLog.applied ∧
        (r'.raftLog.committed = r.raftLog.committed ∨
          (r.raftLog.committed ≤ snap.metadata.index ∧
            r'.raftLog.committed = snap.metadata.index ∧
            r.raftLog.matchTerm snap.metadata.index snap.metadata.term = .ok true ∧
            snap.metadata.index ≤ r.raftLog.lastIndex)) ∧
        r'.pendingRequestSnapshot = r.pendingRequestSnapshot) ∨
     (b = true ∧ r.raftLog.committed ≤ snap.metadata.index ∧
        (r.raftLog.matchTerm snap.metadata.index snap.metadata.term ≠ .ok true ∨
          (r.pendingRequestSnapshot ≠ 0 ∧ r.pendingRequestSnapshot ≤ snap.metadata.index)) ∧
        r.raftLog.restore snap = .ok r'.raftLog ∧ r'.pendingRequestSnapshot = 0)) := by
  cases restore_inv h with
  | ignored => exact ⟨rfl, rfl, rfl, rfl, rfl, .inl ⟨rfl, rfl, rfl, rfl, .inl rfl, rfl⟩⟩
  | follow hst => exact absurd hf hst
  | forward _ hge hff hc =>
    have hmt := hff.2
    refine ⟨rfl, rfl, rfl, rfl, ?_, .inl ⟨rfl, ?_⟩⟩
    · exact RaftModel.C06.commitTo_store hc
    · rcases RaftLog.commitTo_inv hc with ⟨hle, rfl⟩ | ⟨hlt, hli, rfl⟩
      · exact ⟨rfl, rfl, rfl, .inl rfl, rfl⟩
      · exact ⟨rfl, rfl, rfl, .inr ⟨Nat.le_of_lt hlt, rfl, hmt, hli⟩, rfl⟩
  | full _ hge hnf hl _ hpc _ _ =>
    have e1 := postConfChange_nl_eq (by show r.state ≠ .leader; rw [hf]; intro hc; cases hc) hpc
    subst e1
    refine ⟨rfl, rfl, rfl, rfl, RaftModel.C06.restore_store hl, .inr ⟨rfl, by omega, ?_, hl, rfl⟩⟩
    -- the log does not hold the snapshot's last entry, or the snapshot answers a pending request
    by_cases hcnd : r.pendingRequestSnapshot = 0 ∨ snap.metadata.index < r.pendingRequestSnapshot
    · exact .inl fun hc => hnf ⟨hcnd, hc⟩
    · exact .inr ⟨fun h0 => hcnd (.inl h0), by omega⟩

end CC
end Raft
end RaftModel
