import RaftProofs.ClusterCommitBatchHyp

/-!
Cluster-level commit safety **with `batch_append`**: **the clean-queue invariant of the commit
layer** (`M.leader_queue`): in every state of a history under `M.Hyp2wB`, every `MsgAppend` in a live queue
of a leader — queued in this leadership, possibly batched onto afterwards — carries the leader's term and
id, is anchored inside the leader's log (`term index = log_term`), and is a slice of the leader's log.
This is what the provenance of `MsgAppend`s needs for a message that `try_batching` has glued entries
onto (the relation `Gb` only says it is a `BatOf` an old queued message).  Stated for a predicate `live` on
queues with the Log Matching invariant, the anchor hypothesis and the frame property for `live`: the queues
of the leaders that are not mute (`M.leader_queueB`) and, where `SaneAnchors` holds of every queue, all
queues are the two uses.
-/

namespace RaftModel
namespace ClusterB
section
open Node Raft Raft.CC Raft.CB Raft.Bt Cluster RaftProps.C02 RaftProps.C05

theorem LLog.term_low (g : LLog) (i : Nat) (h : i ≤ g.snapIdx) :
    g.term i = if i < g.snapIdx then .ok 0 else
      match g.snapTerm with
      | some t => .ok t
      | none => .err .compacted := by
  unfold LLog.term LLog.lastIndex
  by_cases h1 : i < g.snapIdx
  · rw [if_pos (.inl h1), if_pos h1]
  · rw [if_neg (by omega), if_pos (by omega), if_neg h1]
    cases g.snapTerm <;> rfl

theorem LLog.term_append_old (g : LLog) (es : List Entry) (i : Nat) (hi : i ≤ g.lastIndex) :
    ({ g with ents := g.ents ++ es } : LLog).term i = g.term i := by
  have he := RaftProps.C05.c05_append_entryAt g es i hi
  by_cases h1 : g.snapIdx < i
  · obtain ⟨a, ha⟩ := g.entryAt_exists h1 hi
    rw [g.term_of_entry ha, LLog.term_of_entry _ (he.trans ha)]
  · exact (LLog.term_low _ i (by show i ≤ g.snapIdx; omega)).trans
      (LLog.term_low g i (by omega)).symm

/-- a gap-free chain that ends within the log `L`, is tail-compatible with it, agrees with it, and is
anchored inside it is a sub-log of `L` -/
theorem sub_of_clean {x : Message} {L : LLog} (htc : TailC (msgLog x) L)
    (hag : Agree (msgLog x) L) (hs0 : L.snapIdx ≤ x.index)
    (hanch : L.term x.index = .ok x.logTerm) : Sub (msgLog x) L := by
  have key : ∀ i e, (msgLog x).entryAt i = some e → L.entryAt i = some e := by
    intro i e he
    have hlt := (msgLog x).entryAt_lt he
    have hsx : (msgLog x).snapIdx = x.index := rfl
    have htc1 := htc.1
    obtain ⟨eL, heL⟩ := (msgLog x).entryAt_exists (i := (msgLog x).lastIndex) (by omega)
      (Nat.le_refl _)
    obtain ⟨e', he'⟩ := L.entryAt_exists (i := (msgLog x).lastIndex) (by omega) htc.1
    have ht : eL.term = e'.term := by
      have h1 := (msgLog x).prevTerm_of_entry (i := (msgLog x).lastIndex + 1)
        (by simpa using heL) (by omega)
      have h2 := L.prevTerm_of_entry (i := (msgLog x).lastIndex + 1) (by simpa using he') (by omega)
      exact (htc.2 _ _ h2 h1).symm
    obtain ⟨b, hb⟩ := L.entryAt_exists (i := i) (by omega) (by omega)
    have := agree_matching hag ((msgLog x).lastIndex - i) (msgLog x).lastIndex eL e' heL he' ht i e b
      (by omega) he hb
    rw [this]; exact hb
  intro i e he
  refine ⟨key i e he, fun p hp => ?_⟩
  have hlt := (msgLog x).entryAt_lt he
  have hsx : (msgLog x).snapIdx = x.index := rfl
  by_cases hi : i = x.index + 1
  · have hp' : (msgLog x).prevTerm i = some x.logTerm := by
      unfold LLog.prevTerm msgLog; rw [if_pos hi]
    rw [hp'] at hp
    cases hp
    exact L.prevTerm_of_term (key i e he) (by rw [hi]; simpa using hanch)
  · obtain ⟨a, ha⟩ := (msgLog x).entryAt_exists (i := i - 1) (by omega) (by omega)
    have h1 := (msgLog x).prevTerm_of_entry ha (by omega)
    rw [h1] at hp
    cases hp
    exact L.prevTerm_of_entry (key (i - 1) a ha) (by omega)

end

namespace M
open Node Raft Raft.CC Raft.CB Raft.Bt
open Cluster hiding At Prov InvL Trans EntriesOf SaneAnchors
open Cluster.M
open RaftProps.C02
open RaftProps.C05
variable {cfg : JointConfig} {c0 : Nat} {h : List Sys} {live : List Message → Prop}

/-- the header part of the clean-queue invariant, at the live queues -/
def LQ (live : List Message → Prop) (s : Sys) : Prop :=
  ∀ i st, s.node i = some st → st.raft.state = .leader → live st.raft.msgs →
    ∀ x ∈ st.raft.msgs, x.msgType = .msgAppend →
      x.term = st.raft.term ∧ x.frm = i ∧ st.raft.raftLog.term x.index = .ok x.logTerm

/-- what a `call` / `deliver` step at node `k` does to `LQ` -/
theorem lq_call (H : Hyp2wB cfg c0 h) (hsane : ∀ s ∈ h, Live.SaneAnchors live s)
    (hmono : ∀ (n : Nat) (a b : Sys), h[n]? = some a → h[n + 1]? = some b →
      ∀ i st st', a.node i = some st → b.node i = some st' → Live.Mono live st st')
    {n : Nat} {a : Sys} (ha : h[n]? = some a) {k : Nat}
    {st st' : NState} {rnd : Option Nat} {op : NodeOp} {res : OpRes}
    (hb : h[n + 1]? = some (a.setNode k st')) (h1 : a.node k = some st)
    (hop : appOp op = true ∨ ∃ m, op = .step m ∧ m ∈ a.net ∧ m.to = k)
    (hnc : ∀ j, op ≠ .compact j) (hcall : Node.call st rnd op = .ok (res, st'))
    (ih : LQ live a) : LQ live (a.setNode k st') := by
  intro j stj hj hl hnq' x hx hty
  by_cases hjk : j ≠ k
  · rw [node_setNode_ne a k j st' hjk] at hj
    exact ih j stj hj hl hnq' x hx hty
  have hjk : j = k := Classical.not_not.1 hjk
  subst hjk
  rw [node_setNode_self] at hj; cases hj
  have hself := node_setNode_self a j st'
  have hnq : live st.raft.msgs := hmono n a _ ha hb j st st' h1 hself hnq' (List.ne_nil_of_mem hx)
  obtain ⟨g, _, hq, hid⟩ := call_factsB H ha hb h1 hself rfl hop hnc hcall
  obtain ⟨hterm, hcase⟩ := (H.toHypB.prov0 ha hb h1 hself rfl hop hcall).1 hl
  obtain ⟨s0, _, hall⟩ := H.inv_at
  have I := hall a (mem_of_get ha)
  have I' := hall _ (mem_of_get hb)
  have hinv := I.inv j st h1
  have hinv' := I'.inv j st' hself
  -- the logical log below the old last index is untouched
  have hkeep : ∀ i t, i ≤ st.raft.raftLog.abs.lastIndex → st.raft.raftLog.term i = .ok t →
      st'.raft.raftLog.term i = .ok t := by
    intro i t hi ht
    rw [hinv.term_abs] at ht
    rw [hinv'.term_abs]
    rcases hq.l with c | ⟨es, c⟩ | c
    · rw [c]; exact ht
    · rw [c.abs, LLog.term_append_old _ _ _ hi]; exact ht
    · rcases hop with h2 | ⟨m, rfl, h2, h3⟩
      · cases op <;> first | (cases h2; done) | (cases c; done)
      · have hty' : m.msgType = .msgAppend := c
        have hok := I.msgOk h2 hty'
        have hag := I.agree .net (msgLog m) (.log j) _ ⟨m, h2, hty', rfl⟩ ⟨st, h1, rfl⟩
        cases append_call hinv hty' hok hag hcall with
        | noacc hl' _ _ => rw [hl']; exact ht
        | acc _ _ _ hs _ _ => rw [hs] at hl; cases hl
  -- an old queued append
  have old : ∀ y ∈ st.raft.msgs, y.msgType = .msgAppend →
      y.term = st'.raft.term ∧ y.frm = j ∧ st'.raft.raftLog.term y.index = .ok y.logTerm := by
    intro y hy hyt
    rcases hcase with ⟨_, hno⟩ | hlk
    · exact absurd hyt (hno y hy)
    · obtain ⟨e1, e2, e3⟩ := ih j st h1 hlk hnq y hy hyt
      refine ⟨e1.trans hterm, e2, hkeep _ _ ?_ e3⟩
      -- the anchor lies within the log (no anchor in the void)
      apply Classical.byContradiction
      intro hout
      have hz : y.logTerm = 0 := by
        rw [hinv.term_abs] at e3
        unfold LLog.term at e3
        rw [if_pos (.inr (by omega))] at e3
        exact (Res.ok.inj e3).symm
      have := hsane a (mem_of_get ha) j st h1 hnq y hy hyt hz
      omega
  rcases g.qlk x hx (by rw [hty]; rfl) with c | c | ⟨_, _, y, hy, hbat⟩
  · exact old x c hty
  · exact ⟨c.term, c.frm.trans (g.id.trans hid), (c.app hty).2⟩
  · obtain ⟨e1, e2, e3⟩ := old y hy hbat.src
    exact ⟨hbat.term.trans e1, hbat.frm.trans e2, by rw [hbat.index, hbat.logTerm]; exact e3⟩

/-- the header part of the clean-queue invariant holds in every state -/
theorem lq_all (H : Hyp2wB cfg c0 h) (hsane : ∀ s ∈ h, Live.SaneAnchors live s)
    (hmono : ∀ (n : Nat) (a b : Sys), h[n]? = some a → h[n + 1]? = some b →
      ∀ i st st', a.node i = some st → b.node i = some st' → Live.Mono live st st') :
    ∀ (n : Nat) (s : Sys), h[n]? = some s → LQ live s := by
  refine hist_induct h (fun _ s => LQ live s) ?_ ?_
  · intro s h0 i st hi _ _ x hx _
    rw [init_queue (hist_init H.hist s h0) i st hi] at hx; cases hx
  · intro n a b ha hb ih
    cases H.steps n a b ha hb with
    | call k st st' rnd op res h1 h2 h3 _ h4 =>
      exact lq_call H hsane hmono ha hb h1 (.inl h2) h3 h4 ih
    | deliver k st st' rnd m res h1 h2 h3 h4 =>
      exact lq_call H hsane hmono ha hb h1 (.inr ⟨m, rfl, h2, h3⟩) (fun j hc => by cases hc) h4 ih
    | send k st st' h1 _ _ h3 =>
      intro j stj hj hl hnq x hx hty
      have hj' : (a.setNode k st').node j = some stj := hj
      by_cases hjk : j = k
      · subst hjk
        rw [node_setNode_self] at hj'; cases hj'
        have hq : st'.raft.msgs = [] := by
          unfold Node.call at h3
          simp only [applyOp] at h3
          cases h3; rfl
        rw [hq] at hx; cases hx
      · rw [node_setNode_ne a k j st' hjk] at hj'
        exact ih j stj hj' hl hnq x hx hty
    | restart k st st' c rnd h1 _ h3 =>
      intro j stj hj hl hnq x hx hty
      by_cases hjk : j = k
      · subst hjk
        rw [node_setNode_self] at hj; cases hj
        rw [(CV.boot_booted c _ rnd st' h3).msgs] at hx; cases hx
      · rw [node_setNode_ne a k j st' hjk] at hj
        exact ih j stj hj hl hnq x hx hty

/-- **the clean-queue invariant of the commit layer**: every `MsgAppend` in a live queue of a leader carries
the leader's term and id, is anchored inside the leader's log, and is a slice of the leader's log —
whether it was queued on its own or glued together by `try_batching`.  `hI`, `hsane`, `hmono` are the Log
Matching invariant, the anchor hypothesis and the frame property *for `live`*; everything else comes from
`H`. -/
theorem leader_queue {ini : Entry → Prop} (H : Hyp2wB cfg c0 h)
    (hI : ∀ s ∈ h, Live.InvL live (Owner h) ini s) (hsane : ∀ s ∈ h, Live.SaneAnchors live s)
    (hmono : ∀ (n : Nat) (a b : Sys), h[n]? = some a → h[n + 1]? = some b →
      ∀ i st st', a.node i = some st → b.node i = some st' → Live.Mono live st st')
    {n : Nat} {s : Sys} (hn : h[n]? = some s) {i : Nat}
    {st : NState} (hi : s.node i = some st) (hl : st.raft.state = .leader) {x : Message}
    (hx : x ∈ st.raft.msgs) (hty : x.msgType = .msgAppend) (hnq : live st.raft.msgs) :
    x.term = st.raft.term ∧ x.frm = i ∧ st.raft.raftLog.term x.index = .ok x.logTerm ∧
    SubW x st.raft.raftLog.abs := by
  obtain ⟨e1, e2, e3⟩ := lq_all H hsane hmono n s hn i st hi hl hnq x hx hty
  refine ⟨e1, e2, e3, ?_⟩
  obtain ⟨s0, _, hall⟩ := H.toHypB.invLB
  have hm := mem_of_get hn
  have I := hI s hm
  have B := (hall s hm).2
  have hc := I.wfq i st x hi hx hty hnq
  refine ⟨hc, ?_⟩
  have o := node_okB H hn hi
  have hag := I.agree (.queue i) (msgLog x) (.log i) _ ⟨st, x, hi, ⟨hx, hnq⟩, hty, rfl⟩ ⟨st, hi, rfl⟩
  rcases B.lc i st hi hl x hx hty with hw | ⟨_, htc⟩
  · exact absurd hw (Live.SaneAnchors.notWeird (hsane s hm) hi hx hty hnq)
  · refine sub_of_clean htc hag ?_ (by rw [← o.inv.term_abs]; exact e3)
    rw [o.snapIdx, H.c0z]; exact Nat.zero_le _

/-- … at the queue of a leader that is not mute -/
theorem leader_queueB (H : Hyp2wB cfg c0 h) {n : Nat} {s : Sys} (hn : h[n]? = some s) {i : Nat}
    {st : NState} (hi : s.node i = some st) (hl : st.raft.state = .leader) {x : Message}
    (hx : x ∈ st.raft.msgs) (hty : x.msgType = .msgAppend) (hnq : ¬ Raft.CP.QSnap st.raft.msgs) :
    x.term = st.raft.term ∧ x.frm = i ∧ st.raft.raftLog.term x.index = .ok x.logTerm ∧
    SubW x st.raft.raftLog.abs := by
  obtain ⟨s0, _, hall⟩ := H.toHypB.invL
  exact leader_queue (live := Cluster.M.live) H hall H.sane (fun n a b ha hb => (H.mono n a b ha hb).mono) hn hi hl
    hx hty hnq

end M
end ClusterB
end RaftModel
