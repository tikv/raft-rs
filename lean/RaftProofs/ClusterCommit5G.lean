import RaftProofs.ClusterCommit5F

/-!
Cluster-level commit safety, `Gx` through `post_conf_change`, `apply_conf_change`, `on_persist_entries`,
`commit_apply` and the group-commit switches.
-/
namespace RaftModel
namespace Raft
namespace CX
open CC CB VoteOb

variable {f : Prop} {A : Nat → Nat → Nat → Prop} {a r r' : Raft} {m : Message}

/-- the leader part of `post_conf_change` / the group-commit switches: `maybe_commit`, then sends -/
theorem commitThenSend_gx {r1 : Raft} {b : Bool} (hA : ∀ j t x y, y ≤ x → A j t x → A j t y)
    (hb : FlagUp f r) (hs : r.state = .leader) (hmc : r.maybeCommit = .ok (r1, b)) (hsf : SFx r1 r')
    (h0 : Gx f A a m r) : Gx f A a m r' ∧ r'.state = .leader :=
  have q := ((Gl.mk h0 hs hb).commit hmc).sf hA hsf
  ⟨q.g, q.lead⟩

theorem postConfChange_gx {cs : ConfState} (hA : ∀ j t x y, y ≤ x → A j t x → A j t y)
    (hb : FlagUp f r) (h : r.postConfChange = .ok (r', cs)) (h0 : Gx f A a m r) (ho : Old a r) :
    Gx f A a m r' :=
  postConfChange_parts2 (R := Gl f A a m)
    (Q := fun r2 id p2 => ∃ r1, Gl f A a m r1 ∧ Held (SFx r1) r2 id p2) h
    (fun _ _ => becomeFollower_gx _ _ (Gx.mk' h0) (Old.mk' ho)) (Gx.mk' h0)
    (fun hl => ⟨Gx.mk' h0, hl, hb⟩) (fun hc q => q.commit hc)
    (fun hx q => q.sf hA (bcastAppend_sfx hx SFx.rfl))
    (fun _ hg ha q => ⟨_, q, (Held.of_get SFx.rfl hg).step (maybeSendAppend_sfx ha SFx.rfl)⟩)
    (fun ⟨_, q, hq⟩ => q.sf hA (Held.set SFx.writeBack hq))
    (fun _ q => ⟨Gx.mk' q.g, q.lead, q.fl⟩) (fun _ q => ⟨Gx.mk' q.g, q.lead, q.fl⟩)
    (fun _ hr _ q => q.sf hA (.of_sf (respondReadStates_sf hr SF.rfl)))
    (fun _ _ q => Gx.mk' q.g) fun _ _ q => q.g

theorem applyConfChange_gx {cc : ConfChangeV2} {res : Except ErrKind ConfState}
    (hA : ∀ j t x y, y ≤ x → A j t x → A j t y) (hb : FlagUp f r) (hmok : MOK A r)
    (h : r.applyConfChange cc = .ok (r', res)) : Gx f A r m r' := by
  unfold Raft.applyConfChange at h
  simp only [] at h
  split at h
  · cases h; exact Gx.start hmok
  · rename_i cfg changes _
    obtain ⟨⟨r1, cs⟩, h1, h⟩ := Res.bind_eq_ok h
    cases h
    refine postConfChange_gx
      (r := ({ r with prs := r.prs.applyConf cfg changes r.raftLog.lastIndex } : Raft)) hA hb h1
      (Gx.of_old Old.rfl rfl ⟨fun hs j x hx => ?_⟩ (fun _ => .inl rfl)) Old.rfl
    rcases applyConf_mfun _ _ _ _ j x hx with g | g
    · exact .inl g
    · exact hmok.h hs j x g

/-- `Gx` with the role the call started in, as the group-commit switches carry it -/
def Gs (f : Prop) (A : Nat → Nat → Nat → Prop) (a : Raft) (m : Message) (r r1 : Raft) : Prop :=
  Gx f A a m r1 ∧ r1.state = r.state ∧ FlagUp f r1

theorem Gs.gl {r1 : Raft} (p : Gs f A a m r r1) (hl : r.state = .leader) : Gl f A a m r1 :=
  ⟨p.1, p.2.1.trans hl, p.2.2⟩

theorem Gl.gs {r1 : Raft} (q : Gl f A a m r1) (hl : r.state = .leader) : Gs f A a m r r1 :=
  ⟨q.g, q.lead.trans hl.symm, q.fl⟩

theorem onPersistEntries_gx {index term : Nat}
    (hA : ∀ j t x y, y ≤ x → A j t x → A j t y) (hb : FlagUp f r) (hmok : MOK A r)
    (h : r.onPersistEntries index term = .ok r') : Gx f A r m r' := by
  refine (onPersistEntries_parts2 (P := Gs f A r m r) h (fun hp => ⟨?_, rfl, hb⟩)
    (fun _ {r1 pr pr' u} _ hp hg hu p => ?_) (fun hl _ _ _ hc p => ((p.gl hl).commit hc).gs hl)
    fun hl _ _ hx p => ((p.gl hl).sf hA (bcastAppend_sfx hx SFx.rfl)).gs hl).1
  · rcases maybePersist_shape hp with ⟨_, e, hlt⟩ | ⟨_, e⟩ <;> rw [e]
    · exact (Gx.start hmok).persistUp (Nat.le_of_lt hlt)
    · exact Gx.mk' (Gx.start hmok)
  · -- `maybe_persist` took the index: the node's own `matched` moves to `persisted` at most
    have hpe : r1.raftLog.persisted = index := by
      rcases maybePersist_shape hp with ⟨_, e, _⟩ | ⟨c, _⟩
      · rw [e]
      · cases c
    cases u with
    | false =>
      exact ⟨p.1.setPrs (mfun_set _ _ _ fun old ho => by
        rw [hg] at ho; cases ho; exact (maybeUpdate_matched hu).1 rfl) rfl, p.2⟩
    | true =>
      obtain ⟨e1, e2⟩ := (maybeUpdate_matched hu).2 rfl
      exact ⟨p.1.setMatched (.inr (.inl ⟨rfl, by rw [e1, hpe]; exact Nat.le_refl _⟩))
        fun old ho => by rw [hg] at ho; cases ho; omega, p.2⟩

theorem commitApplyInternal_gx {applied : Nat} {skip : Bool}
    (h : r.commitApplyInternal applied skip = .ok r') (h0 : Gx f A a m r) (ho : Old a r)
    (hcm : r.raftLog.committed = a.raftLog.committed) :
    Gx f A a m r' ∧ Old a r' ∧ r'.raftLog.committed = a.raftLog.committed := by
  refine commitApplyInternal_parts
    (P := fun r1 => Gx f A a m r1 ∧ Old a r1 ∧ r1.raftLog.committed = a.raftLog.committed) h
    (fun {log} hlog => ?_) (fun _ _ _ _ _ ha p => appendEntry_gx ha p.1 p.2.1 p.2.2)
    fun _ p => ⟨Gx.mk' p.1, Old.mk' p.2.1, p.2.2⟩
  have hshape : log = r.raftLog ∨ log = { r.raftLog with applied := applied } := by
    split at hlog
    · exact appliedTo_shape hlog
    · split at hlog
      · cases hlog
      · cases hlog; exact .inr rfl
  rcases hshape with e | e <;> rw [e]
  · exact ⟨h0, ho, hcm⟩
  · exact h0.old_relog ho hcm rfl rfl rfl rfl rfl rfl (Nat.le_refl _)

theorem enableGroupCommit_gx {b : Bool}
    (hA : ∀ j t x y, y ≤ x → A j t x → A j t y) (hb : FlagUp f r) (hmok : MOK A r)
    (h : r.enableGroupCommit b = .ok r') : Gx f A r m r' :=
  (enableGroupCommit_parts (P := Gs f A r m r) h ⟨(Gx.start hmok).setPrs rfl rfl, rfl, hb⟩
    (fun hl _ _ _ hc p => ((p.gl hl).commit hc).gs hl)
    fun hl _ _ hx p => ((p.gl hl).sf hA (bcastAppend_sfx hx SFx.rfl)).gs hl).1

theorem assignCommitGroups_gx {ids : List (Nat × Nat)}
    (hA : ∀ j t x y, y ≤ x → A j t x → A j t y) (hb : FlagUp f r) (hmok : MOK A r)
    (h : r.assignCommitGroups ids = .ok r') : Gx f A r m r' :=
  (assignCommitGroups_parts2 (P := Gs f A r m r) h ⟨Gx.start hmok, rfl, hb⟩
    (fun id g p => ⟨p.1.setPrs (mfun_modifyProgress _ id _ fun _ => rfl) rfl, p.2⟩)
    (fun hl _ _ _ hc p => ((p.gl hl).commit hc).gs hl)
    fun hl _ _ hx p => ((p.gl hl).sf hA (bcastAppend_sfx hx SFx.rfl)).gs hl).1

end CX
end Raft
end RaftModel
