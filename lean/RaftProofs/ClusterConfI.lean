import RaftProofs.ClusterConfH

/-!
C09 at the cluster level, part I: the leader discipline along histories (under the log invariant of
the nodes and the compaction contract), and what the proposal filter lets through.
-/
namespace RaftModel
namespace Raft
open RaftProps.C09

/-- **a proposal that appends a membership-change entry**: on a leader with `ConfBounded`, if
`step_leader` on a `MsgPropose` leaves a membership-change entry at an index beyond the old last
index, then before the call the log held NO membership-change entry beyond the apply cursor -/
theorem stepLeader_appends_conf {r r' : Raft} {m : Message} {e : Option RaftError}
    (hinv : r.raftLog.Inv) (hap : r.raftLog.applied ≤ r.raftLog.lastIndex)
    (hs : r.state = .leader) (hm : m.msgType = .msgPropose) (hb : ConfBounded r)
    (h : r.stepLeader m = .ok (r', e)) (x : Nat) (e' : Entry) (hx : r.raftLog.lastIndex < x)
    (hx' : r'.raftLog.abs.entryAt x = some e') (hc' : isConf e') :
    ∀ i e0, r.raftLog.abs.entryAt i = some e0 → isConf e0 → i ≤ r.raftLog.applied := by
  have old_none : ∀ {r2 : Raft}, r2.raftLog.abs = r.raftLog.abs →
      r2.raftLog.abs.entryAt x = some e' → False := by
    intro r2 ha hx2
    rw [ha] at hx2
    have := (r.raftLog.abs.entryAt_lt hx2).2
    have hla := hinv.lastIndex_abs
    simp only [LLog.lastIndex] at hla this
    omega
  rcases c09_stepLeader_propose hinv hs hm h with ⟨h1, _⟩ | ⟨r1, oes, hf, hc⟩
  · exact (old_none (by rw [h1]) hx').elim
  · obtain ⟨hF, hlog⟩ := c09_filterOut hap hf
    rcases hc with ⟨h1, _⟩ | ⟨es, ho, _, hcf, hl | hA⟩
    · exact (old_none (by rw [h1, hlog]) hx').elim
    · exact (old_none (by rw [hl.abs, hlog]) hx').elim
    · subst ho
      have hinv1 : r1.raftLog.Inv := by rw [hlog]; exact hinv
      rcases c09_appended_entryAt hinv1 hA x e' hx' with ⟨h1, _⟩ | ⟨_, h2⟩
      · rw [hlog] at h1; omega
      · obtain ⟨e0, he0, hc0⟩ := c09_stamp_conf h2 hc'
        rcases hF with ⟨_, g2⟩ | ⟨g0, _⟩
        · exact absurd hc0 (g2 es rfl e0 (List.mem_of_getElem? he0))
        · exact C09_no_unapplied_change_when_not_pending r hb g0

/-- the same through `Raft::step` for a local proposal (`RawNode::propose` /
`RawNode::propose_conf_change`: term 0) on a leader -/
theorem step_propose_appends_conf {r r' : Raft} {m : Message} {e : Option RaftError}
    (hinv : r.raftLog.Inv) (hap : r.raftLog.applied ≤ r.raftLog.lastIndex)
    (hs : r.state = .leader) (hm : m.msgType = .msgPropose) (h0 : m.term = 0) (hb : ConfBounded r)
    (h : r.step m = .ok (r', e)) (x : Nat) (e' : Entry) (hx : r.raftLog.lastIndex < x)
    (hx' : r'.raftLog.abs.entryAt x = some e') (hc' : isConf e') :
    ∀ i e0, r.raftLog.abs.entryAt i = some e0 → isConf e0 → i ≤ r.raftLog.applied := by
  rw [step_leader (stepTerm_same (.inl h0)) (.of_eq hm) hs] at h
  exact stepLeader_appends_conf hinv hap hs hm hb h x e' hx hx' hc'

end Raft

namespace Cluster
open Raft

/-- the log of every node satisfies the representation invariant and its apply cursor is within it -/
def LogOk (s : Sys) : Prop :=
  ∀ i st, s.node i = some st →
    st.raft.raftLog.Inv ∧ st.raft.raftLog.applied ≤ st.raft.raftLog.lastIndex

/-- **the leader discipline in every state of a history** (every node in the leader role has
`ConfBounded`) whose nodes' logs satisfy the representation
invariant and whose `compact` calls obey the storage contract -/
theorem lb_hist {h : List Sys} (hh : History h) (hlog : ∀ s ∈ h, LogOk s)
    (hcon : ∀ (n : Nat) (a b : Sys), h[n]? = some a → h[n + 1]? = some b → CStep a b) :
    ∀ (n : Nat) (s : Sys), h[n]? = some s → ∀ i st, s.node i = some st → LB st.raft :=
  node_hist (C := .c) (P := fun _ st => LB st.raft) h hh (fun n a b ha hb => (hcon n a b ha hb).moved)
    (fun g => g)
    (fun _ st c store rnd _ hb hl => by rw [(CV.boot_booted c store rnd st hb).state] at hl; cases hl)
    fun _ a k st st' rnd op res ha hk ih hc hcall =>
      call_lb st st' rnd op res (hlog a (mem_of_get ha) k st hk).1 (hlog a (mem_of_get ha) k st hk).2
        hc ih hcall

end Cluster
end RaftModel
