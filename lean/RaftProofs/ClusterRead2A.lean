import RaftProofs.ClusterReadG
import RaftProofs.ClusterSnap2A

/-!
Cluster-level ReadIndex safety **with compaction and snapshots**, part 2A: what the delivery of a
`MsgSnapshot` does to the part of a node the read path uses.

`call_rd` (`ClusterRead4G.lean`) excludes the delivery of a `MsgSnapshot` because `Raft::restore` replaces
the progress tracker, and the per-call invariant `RInv` carries "the configuration is the one of the
start of the call".  Nothing is answered during such a call: `restore` does not touch `read_only` or
`read_states`, `handle_snapshot` queues one `MsgAppendResponse`.  `RW` is the frame `RS` without the
configuration; `snapStep_rd` gives the per-call relation `ROut` (which does not mention the
configuration of the result) for the delivery of a `MsgSnapshot`.  Proved for the frame of the four
message types that carry a read context (`R4`); the two-type form is read off it.
-/
namespace RaftModel
namespace Raft
namespace RD
namespace R4
open CV Node

/-- the frame `RS` without the configuration -/
structure RW (r r' : Raft) : Prop where
  keep : (r'.readOnly = r.readOnly ∧ r'.term = r.term) ∨
    r'.readOnly = ReadOnly.new r.readOnly.option
  tle : r.term ≤ r'.term
  rs : r'.readStates = r.readStates
  id : r'.id = r.id
  rd : rdOf r'.msgs = rdOf r.msgs

theorem RW.refl (r : Raft) : RW r r := ⟨.inl ⟨rfl, rfl⟩, Nat.le_refl _, rfl, rfl, rfl⟩

theorem RS.toRW {r r' : Raft} (h : RS r r') : RW r r' := ⟨h.keep, h.tle, h.rs, h.id, h.rd⟩

theorem RW.option {r r' : Raft} (h : RW r r') : r'.readOnly.option = r.readOnly.option := by
  rcases h.keep with ⟨g, _⟩ | g <;> rw [g] <;> rfl

theorem RW.trans {a b c : Raft} (h1 : RW a b) (h2 : RW b c) : RW a c := by
  refine ⟨?_, Nat.le_trans h1.tle h2.tle, h2.rs.trans h1.rs, h2.id.trans h1.id, h2.rd.trans h1.rd⟩
  rcases h2.keep with ⟨g1, g2⟩ | g
  · rcases h1.keep with ⟨k1, k2⟩ | k
    · exact .inl ⟨g1.trans k1, g2.trans k2⟩
    · exact .inr (g1.trans k)
  · right; rw [g, h1.option]

/-- the per-call relation survives a frame that may change the configuration -/
theorem RInv.rw_out {a r r' : Raft} {m : Message} (h : RInv a m r) (hs : RW r r') :
    ROut a.prs.voters a m r' := by
  refine ⟨hs.id.trans h.id, Nat.le_trans h.tle hs.tle, hs.option.trans h.opt, ?_, ?_, ?_, ?_⟩
  · intro K rs hm
    rcases hs.keep with ⟨g1, g2⟩ | g
    · rw [g1] at hm
      obtain ⟨k1, k2⟩ := h.pend K rs hm
      exact ⟨g2.trans k1, k2⟩
    · rw [g] at hm; cases hm
  · rcases hs.keep with ⟨g1, _⟩ | g
    · rw [g1]; exact h.queue
    · exact ⟨a.readOnly.readIndexQueue.length, by rw [g, List.drop_length]; rfl⟩
  · rw [hs.rs]; exact h.rst
  · intro x hx
    by_cases hr : rdT x.msgType = false
    · exact .inr (.inl hr)
    · have : x ∈ rdOf r'.msgs := mem_rdOf.2 ⟨hx, by simpa [isRd] using hr⟩
      rw [hs.rd] at this
      exact h.msgs x (mem_rdOf.1 this).1

/-- an update of the log, the tracker and the pending snapshot request leaves the read path alone -/
theorem RW.of_same {r r' : Raft} (h1 : r'.readOnly = r.readOnly) (h2 : r'.term = r.term)
    (h3 : r'.readStates = r.readStates) (h4 : r'.id = r.id) (h5 : r'.msgs = r.msgs) : RW r r' :=
  ⟨.inl ⟨h1, h2⟩, Nat.le_of_eq h2.symm, h3, h4, by rw [h5]⟩

/-- **`Raft::restore`** does not touch the read path (the progress tracker may be replaced): every
part keeps it, and where `post_conf_change` runs the node is a follower, so only `promotable` moves -/
theorem restore_rw {r r' : Raft} {snap : Snapshot} {b : Bool} (h : r.restore snap = .ok (r', b)) :
    RW r r' :=
  (restore_parts (P := fun x => RW r x ∧ (r.state = .follower → x.state = .follower)) h
    ⟨RW.refl r, fun hf => hf⟩
    (fun hs => ⟨(becomeFollower_rs r (r.term + 1) 0 (by omega)).toRW, fun hf => absurd hf hs⟩)
    (fun _ _ => ⟨.of_same rfl rfl rfl rfl rfl, fun hf => hf⟩)
    (fun _ _ _ => ⟨.of_same rfl rfl rfl rfl rfl, fun hf => hf⟩)
    (fun hf _ _ _ hp p => by
      rw [postConfChange_eq (by rw [p.2 hf]; intro hc; cases hc)] at hp
      cases hp
      exact ⟨p.1.trans (.of_same rfl rfl rfl rfl rfl), p.2⟩)
    fun _ p => ⟨p.1.trans (.of_same rfl rfl rfl rfl rfl), p.2⟩).1

/-- **`Raft::handle_snapshot`**: `restore`, then one `MsgAppendResponse` is queued -/
theorem handleSnapshot_rw {r r' : Raft} {m : Message} (h : r.handleSnapshot m = .ok r') :
    RW r r' := by
  obtain ⟨r1, b, hres, h2⟩ := handleSnapshot_inv h
  exact (restore_rw hres).trans
    (Res.Post.of_eq (P := fun x => RF r1 x) (send_rf r1 _ rfl) h2).toRS.toRW

/-- **`Raft::step` for a `MsgSnapshot`** -/
theorem step_snap_out {a r r' : Raft} {m : Message} {e : Option RaftError} (h : RInv a m r)
    (hsn : m.msgType = .msgSnapshot) (hx : r.step m = .ok (r', e)) :
    ROut a.prs.voters a m r' := by
  have hri : m.msgType ≠ .msgReadIndex := by rw [hsn]; intro hc; cases hc
  have hst := stepTerm_rs r m
  cases step_inv hx with
  | consumed ht => exact (h.rs (hst.of_eq ht).1).out
  | dispatched ht hd =>
    rename_i r1
    obtain ⟨h1, hT⟩ := hst.of_eq ht
    dsimp only at h1 hT
    have h1' := h.rs h1
    cases hd with
    | hup ty => rw [hsn] at ty; cases ty
    | vote ty => rcases ty with ty | ty <;> rw [hsn] at ty <;> cases ty
    | candidate _ _ hc =>
      unfold stepCandidate at hc
      rw [hsn] at hc
      dsimp only at hc
      split at hc
      · cases hc
      · rename_i htm
        have ht' : r1.term ≤ m.term := by
          have : r1.term = m.term := by
            apply Classical.byContradiction; intro hc; exact htm hc
          omega
        obtain ⟨r2, h2, hc⟩ := Res.bind_eq_ok hc
        cases hc
        exact h1'.rw_out ((becomeFollower_rs r1 m.term m.frm ht').toRW.trans (handleSnapshot_rw h2))
    | follower _ _ hf =>
      unfold stepFollower at hf
      rw [hsn] at hf
      dsimp only at hf
      obtain ⟨r2, h2, hf⟩ := Res.bind_eq_ok hf
      cases hf
      exact h1'.rw_out
        ((RF.toRS (r := r1) (by simp [RF, rcore])).toRW.trans (handleSnapshot_rw h2))
    | leader _ _ hl => exact ((stepLeader_rinv h1' hri (fun hq => hT rfl hq)).of_eq hl).out

/-- **the delivery of a `MsgSnapshot` at a node** -/
theorem snapStep_rd (st st' : NState) (rnd : Option Nat) (m : Message) (res : OpRes)
    (hsn : m.msgType = .msgSnapshot)
    (h : Node.call st rnd (.step m) = .ok (res, st')) :
    ROut st.raft.prs.voters st.raft m st'.raft := by
  unfold Node.call at h
  simp only [applyOp] at h
  obtain ⟨raft, e, hx, hr⟩ := unitRes_ok h
  rw [hr]
  have rebase : ∀ {r : Raft}, ROut ({ st.raft with nextRand := rnd } : Raft).prs.voters
      ({ st.raft with nextRand := rnd } : Raft) m r → ROut st.raft.prs.voters st.raft m r :=
    fun ho => ⟨ho.id, ho.tle, ho.opt, ho.pend, ho.queue, ho.rst, ho.msgs⟩
  apply rebase
  rcases RawNode.step_inv hx with rfl | ⟨_, hx⟩
  · exact (RInv.refl _ m).out
  · exact step_snap_out (RInv.refl _ m) hsn hx

end R4

open Node

/-- the frame `RS` without the configuration -/
structure RW (r r' : Raft) : Prop where
  keep : (r'.readOnly = r.readOnly ∧ r'.term = r.term) ∨
    r'.readOnly = ReadOnly.new r.readOnly.option
  tle : r.term ≤ r'.term
  rs : r'.readStates = r.readStates
  id : r'.id = r.id
  rd : rdOf r'.msgs = rdOf r.msgs

theorem RW.option {r r' : Raft} (h : RW r r') : r'.readOnly.option = r.readOnly.option := by
  rcases h.keep with ⟨g, _⟩ | g <;> rw [g] <;> rfl

/-- **the delivery of a `MsgSnapshot` at a node** -/
theorem snapStep_rd (st st' : NState) (rnd : Option Nat) (m : Message) (res : OpRes)
    (hsn : m.msgType = .msgSnapshot)
    (h : Node.call st rnd (.step m) = .ok (res, st')) :
    ROut st.raft.prs.voters st.raft m st'.raft :=
  .of_r4 (R4.snapStep_rd st st' rnd m res hsn h)

end RD
end Raft
end RaftModel
