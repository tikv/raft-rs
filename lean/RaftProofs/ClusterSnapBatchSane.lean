import RaftProofs.ClusterSnapHyp
import RaftProofs.ClusterCommitBatchHyp
import RaftProofs.ClusterCommitBatchStep
import RaftProofs.ClusterSnapBaseTime

/-!
C01n: the compaction stack over bundles with `mv` + `sane` (C05d's `SaneAnchors`) in place of `nb` (`NoBatch`),
namespace `RaftModel.Cluster.Snap.J`.

* `J.Hyp`: the bundle; under it Log Matching and the queue invariants of C05d hold in every state (`Hyp.invL`,
  `Hyp.invLB`), the matched tables are backed by the transport (`Hyp.mokc`), the leader's commit step
  (`Hyp.commit_step`), the proviso of the batching per-call layer at every step (`Hyp.prov0`), one step and one node
  (`nodeRelB`), the Log-Matching transition of a step (`trans_of_cstepB`).
* `J.Hyp2w`, `J.Hyp2`: a history under `J.Hyp2w` has the facts `Snap5.FactsT allQ` (`Hyp2w.factsT`), so "a term is
  led in one stretch" and Log Matching across time hold of it (`Dead.step`, `leader_log_ext`, `agree_all`).
-/

namespace RaftModel
namespace Cluster
namespace Snap
namespace J
open Node Raft Raft.CC

theorem KStep.cstep {s s' : Sys} (h : KStep s s') : CStep s s' := Snap.KStep.cstep h

theorem KStep.step {s s' : Sys} (h : KStep s s') : Step s s' := h.cstep.step

/-- **provenance**: `K` selects the kind of message; the hypothesis `hfresh` says what a `call` /
`deliver` step establishes for every message of that kind it queues -/
theorem provenance (h : List Sys) (hh : History h)
    (hk : ∀ (n : Nat) (a b : Sys), h[n]? = some a → h[n + 1]? = some b → KStep a b)
    (K : Message → Prop)
    (Φ : Nat → Nat → Message → Prop)
    (hfresh : ∀ n a b i st st' rnd op res, h[n]? = some a → h[n + 1]? = some b →
      a.node i = some st → b.node i = some st' → Node.call st rnd op = .ok (res, st') →
      (appOp op = true ∨ ∃ m, op = .step m ∧ m ∈ a.net ∧ m.to = i) →
      (∀ j, op = .compact j → CompactOk st.raft.raftLog j) →
      b.net = a.net →
      ∀ x ∈ st'.raft.msgs, K x → x ∈ st.raft.msgs ∨ Φ (n + 1) i x) :
    ∀ n s, h[n]? = some s →
      (∀ i st, s.node i = some st → ∀ x ∈ st.raft.msgs, K x → Gen Φ n i x) ∧
      (∀ x ∈ s.net, K x → ∃ i, Gen Φ n i x) :=
  hist_provenance h hh (fun n a b ha hb => (hk n a b ha hb).cstep.moved) K Φ hfresh

/-- **the standing hypotheses** on a history of `ClusterSem` (all explicit, see the report):
fixed voter configuration (as for Election Safety), the initial states and the absence of batching of
the Log Matching layer, contract-abiding steps (`KStep`), and no snapshot traffic -/
structure Hyp (cfg : JointConfig) (h : List Sys) : Prop where
  hist : History h
  fix : ∀ s ∈ h, FixedCfg cfg s
  ne : cfg.incoming ≠ []
  nd1 : cfg.incoming.Nodup
  nd2 : cfg.outgoing.Nodup
  init : ∀ s : Sys, h[0]? = some s → InitOk s
  steps : ∀ (n : Nat) (a b : Sys), h[n]? = some a → h[n + 1]? = some b → KStep a b
  mv : MultiVoter cfg
  sane : ∀ s ∈ h, SaneAnchors s
  nosnap : ∀ s ∈ h, NoSnapNet s

theorem Hyp.csteps {cfg : JointConfig} {h : List Sys} (H : Hyp cfg h) :
    ∀ (n : Nat) (a b : Sys), h[n]? = some a → h[n + 1]? = some b → CStep a b :=
  fun n a b ha hb => (H.steps n a b ha hb).cstep

/-- the Log Matching invariant in every state -/
theorem Hyp.invL {cfg : JointConfig} {h : List Sys} (H : Hyp cfg h) :
    ∃ s0, h[0]? = some s0 ∧ ∀ s ∈ h, InvL (Owner h) (EntriesOf s0) s :=
  RaftProps.C05.cluster_inv_batch cfg H.ne H.nd1 H.nd2 h H.hist H.fix H.init H.csteps
    (.inr ⟨H.mv, H.sane⟩)

/-- the Log Matching invariant and the queue invariants of C05d in every state -/
theorem Hyp.invLB {cfg : JointConfig} {h : List Sys} (H : Hyp cfg h) :
    ∃ s0, h[0]? = some s0 ∧ ∀ s ∈ h, InvL (Owner h) (EntriesOf s0) s ∧ InvB s :=
  RaftProps.C05.cluster_invB_batch cfg H.ne H.nd1 H.nd2 h H.hist H.fix H.init H.csteps H.mv H.sane

/-- the matched tables are backed by the transport in every state -/
theorem Hyp.mokc {cfg : JointConfig} {h : List Sys} (H : Hyp cfg h) :
    ∀ (n : Nat) (s : Sys), h[n]? = some s → MOKc s :=
  mokc_hist h H.hist (fun n a b ha hb => (H.steps n a b ha hb).cstep.moved)
    fun _ a _ _ _ _ _ _ ha hm hk hop _ hcall =>
      (ClusterB.kstep_gb hm (H.nosnap a (mem_of_get ha)) hk hop hcall).mok

/-- **the leader's commit step**: when a step moves the commit index of a node that is leader after
the step, the entry at the new commit index carries the leader's term, and a joint quorum of the
leader's voters has `matched` at least the new commit index, each of them accounted for: the leader
itself with `persisted`, or an accepting append response in the transport -/
theorem Hyp.commit_step {cfg : JointConfig} {h : List Sys} (H : Hyp cfg h) (n : Nat) (a b : Sys)
    (ha : h[n]? = some a) (hb : h[n + 1]? = some b) (l : Nat) (sta stb : NState)
    (hla : a.node l = some sta) (hlb : b.node l = some stb) (hs : stb.raft.state = .leader)
    (hc : sta.raft.raftLog.committed < stb.raft.raftLog.committed) :
    stb.raft.raftLog.term stb.raft.raftLog.committed = .ok stb.raft.term ∧
    ∃ Q, IsJointQuorum cfg Q ∧ ∀ j ∈ Q,
      (j = l ∧ stb.raft.raftLog.committed ≤ stb.raft.raftLog.persisted) ∨
      Anet a.net j stb.raft.term stb.raft.raftLog.committed := by
  obtain ⟨k, st, st', M⟩ := (H.steps n a b ha hb).cstep.moved
  exact ClusterB.commit_of_gb M (H.mokc n a ha) (H.nosnap a (mem_of_get ha)) hla hlb
    (H.fix b (mem_of_get hb) l stb hlb) (((hist_all H.hist).1 b (mem_of_get hb)).ids l stb hlb).1 hs hc

open Node Raft Raft.CC Raft.CB Raft.Bt ClusterB RaftProps.C02 RaftProps.C05

variable {cfg : JointConfig} {h : List Sys}

/-- **the proviso of the batching per-call layer holds for every `call` / `deliver` step of the
history**: a node that is leader before the call has a clean queue; a node that is leader only after the
call was candidate of the same term with its vote request in the transport, so its queue holds no
`MsgAppend` at all -/
theorem Hyp.prov0 (H : Hyp cfg h) {n : Nat} {a b : Sys} (ha : h[n]? = some a)
    (hb : h[n + 1]? = some b) {i : Nat} {st st' : NState} {rnd : Option Nat} {op : NodeOp}
    {res : OpRes} (hi : a.node i = some st) (hi' : b.node i = some st') (hnet : b.net = a.net)
    (hop : appOp op = true ∨ ∃ m, op = .step m ∧ m ∈ a.net ∧ m.to = i)
    (hcall : Node.call st rnd op = .ok (res, st')) :
    (st'.raft.state = .leader →
      st.raft.term = st'.raft.term ∧
        ((st.raft.state = .candidate ∧ ∀ x ∈ st.raft.msgs, x.msgType ≠ .msgAppend) ∨
          st.raft.state = .leader)) ∧
    Prov0 st.raft st'.raft := by
  obtain ⟨s0, _, hall⟩ := H.invLB
  obtain ⟨all1, all2, _⟩ := hist_all H.hist
  have hma := mem_of_get ha
  have hmb := mem_of_get hb
  have I := (hall a hma).1
  have rt := call_rt st st' rnd op res (I.inv i st hi) (not_drain_of_hop hop) hcall
  exact prov0_of_inv H.nd1 H.nd2 H.mv (hall a hma).2 (all1 a hma) (all1 b hmb)
    (all2 cfg H.fix b hmb) hi hi' hnet rt

/-- **one step, one node**, batching allowed (`cstep_nodeRel` without `NoBatch`) -/
theorem nodeRelB (H : Hyp cfg h) {n : Nat} {a b : Sys} (ha : h[n]? = some a)
    (hb : h[n + 1]? = some b) (i : Nat) (sta stb : NState)
    (hia : a.node i = some sta) (hib : b.node i = some stb) :
    NodeRel sta stb ∨ IsRestart i a b := by
  obtain ⟨s0, _, hall⟩ := H.invLB
  obtain ⟨all1, all2, _⟩ := hist_all H.hist
  have hma := mem_of_get ha
  have hmb := mem_of_get hb
  exact RaftProps.C05.cstep_nodeRel_batch H.nd1 H.nd2 H.mv (hall a hma).1 (hall a hma).2 (all1 a hma)
    (all1 b hmb) (all2 cfg H.fix b hmb) (H.csteps n a b ha hb) i sta stb hia hib

/-- the transition a contract-abiding step of the history induces, batching on or off
(`trans_of_cstep` without `NoBatch`; the step is given by its position in the history) -/
theorem trans_of_cstepB (H : Hyp cfg h) {n : Nat} {a b : Sys} (ha : h[n]? = some a)
    (hb : h[n + 1]? = some b) :
    ∃ k st st' pers crash, Trans a b k st st' pers crash := by
  obtain ⟨s0, _, hall⟩ := H.invL
  have I := hall a (mem_of_get ha)
  have callCase : ∀ (k : Nat) (st st' : NState) (rnd : Option Nat) (op : NodeOp) (res : OpRes),
      a.node k = some st → (appOp op = true ∨ ∃ m, op = .step m ∧ m ∈ a.net ∧ m.to = k) →
      (∀ j, op = .compact j → CompactOk st.raft.raftLog j) →
      Node.call st rnd op = .ok (res, st') → b = a.setNode k st' →
      ∃ k st st' pers crash, Trans a b k st st' pers crash := by
    intro k st st' rnd op res hk hop hc hcall hs'
    subst hs'
    have hsane := H.sane _ (mem_of_get hb)
    have hself : (a.setNode k st').node k = some st' := node_setNode_self a k st'
    have hop1 : appOp op = true ∨ ∃ m, op = .step m ∧ m ∈ a.net := by
      rcases hop with g | ⟨m, g1, g2, _⟩
      · exact .inl g
      · exact .inr ⟨m, g1, g2⟩
    have hw : ∀ m, op = .step m → m.msgType = .msgAppend → MsgOk m := by
      intro m hm hty
      rcases hop1 with h1 | ⟨m', h1, h2⟩
      · rw [hm] at h1; cases h1
      · rw [hm] at h1; cases h1
        exact I.msgOk h2 hty
    have hp := (H.prov0 ha hb hk hself rfl hop hcall).2
    have hL := call_lstep_b st st' rnd op res (I.inv k st hk) hp (not_drain_of_hop hop) hw hc hcall
    exact ⟨k, st, st', _, _, trans_call_b I hk hop1 hcall hL
      (fun x hx hty => hsane.notWeird hself hx hty)⟩
  cases H.csteps n a b ha hb with
  | call i st st' rnd op res h1 h2 h3 h4 =>
    exact callCase i st st' rnd op res h1 (.inl h2) h3 h4 rfl
  | deliver i st st' rnd m res h1 h2 h3 h4 =>
    exact callCase i st st' rnd (.step m) res h1 (.inr ⟨m, rfl, h2, h3⟩)
      (fun j hc => by cases hc) h4 rfl
  | send i st st' h1 h2 h3 => exact ⟨i, st, st', _, _, trans_send I h1 h2 h3⟩
  | restart i st st' c rnd h1 _ h3 => exact ⟨i, st, st', _, _, trans_restart I h1 h3⟩

open Node Raft Raft.CC RaftProps.C02 RaftProps.C05

variable {cfg : JointConfig} {c0 : Nat} {h : List Sys}

/-- **the hypotheses of the commit layer** on top of `Hyp` without the proof gap `norir`
(cf. `Cluster.Hyp2w`; `shape` is gone) — the bundle every lemma of this development takes:
* `nolone`: no joint quorum of `cfg` fits into a single node;
* `nopend` (**proof gap** of the compaction-only stage, goes together with `nosnap`): no node ever has a
  pending snapshot;
* `first0`: in the initial state every storage has the first index `c0 + 1` (the common snapshot point;
  later states may have compacted further);
* `initc`: in the initial state every commit index is `c0`. -/
structure Hyp2w (cfg : JointConfig) (c0 : Nat) (h : List Sys) : Prop extends Hyp cfg h where
  nolone : ∀ i Q, IsJointQuorum cfg Q → ∃ k ∈ Q, k ≠ i
  nopend : ∀ s ∈ h, ∀ i st, s.node i = some st → st.raft.raftLog.unstable.snapshot = none
  first0 : ∀ s : Sys, h[0]? = some s → ∀ i st, s.node i = some st →
    st.raft.raftLog.store.firstIndex = c0 + 1
  initc : ∀ s : Sys, h[0]? = some s → ∀ i st, s.node i = some st → st.raft.raftLog.committed = c0

/-- **the hypotheses of the commit layer as first stated** (`RaftProps/C01e.lean`) on top of `Hyp`
(cf. `Cluster.Hyp2`; `shape` is gone) — `Hyp2w` and `norir`, discharged in `RaftProps/C01g.lean`:
* `nolone`: no joint quorum of `cfg` fits into a single node;
* `nopend` (**proof gap** of the compaction-only stage, goes together with `nosnap`): no node ever has a
  pending snapshot;
* `first0`: in the initial state every storage has the first index `c0 + 1` (the common snapshot point;
  later states may have compacted further);
* `initc`: in the initial state every commit index is `c0`;
* `norir` (**proof gap**): no `MsgReadIndexResp` is ever in the transport. -/
structure Hyp2 (cfg : JointConfig) (c0 : Nat) (h : List Sys) : Prop extends Hyp cfg h where
  nolone : ∀ i Q, IsJointQuorum cfg Q → ∃ k ∈ Q, k ≠ i
  nopend : ∀ s ∈ h, ∀ i st, s.node i = some st → st.raft.raftLog.unstable.snapshot = none
  first0 : ∀ s : Sys, h[0]? = some s → ∀ i st, s.node i = some st →
    st.raft.raftLog.store.firstIndex = c0 + 1
  initc : ∀ s : Sys, h[0]? = some s → ∀ i st, s.node i = some st → st.raft.raftLog.committed = c0
  norir : ∀ s ∈ h, ∀ x ∈ s.net, x.msgType ≠ .msgReadIndexResp

theorem Hyp2.toHyp2w {cfg : JointConfig} {c0 : Nat} {h : List Sys} (H : Hyp2 cfg c0 h) :
    Hyp2w cfg c0 h :=
  { toHyp := H.toHyp, nolone := H.nolone, nopend := H.nopend, first0 := H.first0, initc := H.initc }

theorem Hyp2w.inv_at (H : Hyp2w cfg c0 h) :
    ∃ s0, h[0]? = some s0 ∧ ∀ s ∈ h, InvL (Owner h) (EntriesOf s0) s := H.toHyp.invL

theorem Hyp2.inv_at (H : Hyp2 cfg c0 h) :
    ∃ s0, h[0]? = some s0 ∧ ∀ s ∈ h, InvL (Owner h) (EntriesOf s0) s := H.toHyp.invL

/-- a history under `Hyp2w` has the facts "a term is led in one stretch" and Log Matching across time
rest on (`ClusterSnapBase`, `ClusterSnapBaseTime`); every queue counts -/
theorem Hyp2w.factsT (H : Hyp2w cfg c0 h) : Snap5.FactsT allQ cfg h := by
  obtain ⟨s0, h0, hall⟩ := H.inv_at
  exact
    { hist := H.hist, fix := H.fix, ne := H.ne, nd1 := H.nd1, nd2 := H.nd2, nolone := H.nolone,
      init := H.init
      rels := fun n a b ha hb => ⟨(H.steps n a b ha hb).step, nodeRelB H.toHyp ha hb⟩
      node_inv := fun hn _ _ hi => (hall _ (mem_of_get hn)).inv _ _ hi
      inv_at := ⟨s0, h0, fun s hs => by rw [entriesOf_live]; exact invL_live.1 (hall s hs)⟩
      trans := fun ha hb => by
        obtain ⟨k, st, st', pers, crash, T⟩ := trans_of_cstepB H.toHyp ha hb
        exact ⟨k, st, st', pers, crash, trans_live.1 T⟩ }

/-- one step keeps `Dead` -/
theorem Dead.step (H : Hyp2w cfg c0 h) {n : Nat} {a b : Sys} (ha : h[n]? = some a)
    (hb : h[n + 1]? = some b) {l t : Nat} (hd : Dead a l t) : Dead b l t :=
  H.factsT.dead_step ha hb hd

/-- **the logs of the leader of a term at two points of the history**: same node, and the later log
extends the earlier one -/
theorem leader_log_ext (H : Hyp2w cfg c0 h) {n d : Nat} {s s' : Sys} {l l' t : Nat} {st st' : NState}
    (hn : h[n]? = some s) (hn' : h[n + d]? = some s')
    (hk : s.node l = some st) (hk' : s'.node l' = some st')
    (hs : st.raft.state = .leader) (hs' : st'.raft.state = .leader)
    (ht : st.raft.term = t) (ht' : st'.raft.term = t) :
    l = l' ∧ st.raft.raftLog.lastIndex ≤ st'.raft.raftLog.lastIndex ∧
    (∀ k e, st.raft.raftLog.abs.entryAt k = some e → st'.raft.raftLog.abs.snapIdx < k →
      st'.raft.raftLog.abs.entryAt k = some e) ∧
    (∀ k e', st'.raft.raftLog.abs.entryAt k = some e' → k ≤ st.raft.raftLog.lastIndex →
      st.raft.raftLog.abs.entryAt k = some e') :=
  H.factsT.leader_log_ext hn hn' hk hk' hs hs' ht ht'

/-- the transition a contract-abiding step induces -/
theorem trans_of_cstep {own : Nat → Nat → Prop} {ini : Entry → Prop} {a b : Sys}
    (I : InvL own ini a) (hnb : NoBatch a) (hstep : CStep a b) :
    ∃ k st st' pers crash, Trans a b k st st' pers crash :=
  Cluster.trans_of_cstep I hnb hstep

/-- **Log Matching across time**: any two chains of any two states of the history agree -/
theorem agree_all (H : Hyp2w cfg c0 h) (n n' : Nat) (s s' : Sys) (hn : h[n]? = some s)
    (hn' : h[n']? = some s') (l1 l2 : Loc) (g1 g2 : LLog) (h1 : At s l1 g1) (h2 : At s' l2 g2) :
    Agree g1 g2 :=
  H.factsT.agree_all n n' s s' hn hn' l1 l2 g1 g2 (at_live.1 h1) (at_live.1 h2)

end J
end Snap
end Cluster
end RaftModel
