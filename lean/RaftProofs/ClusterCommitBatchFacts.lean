import RaftProofs.ClusterSnap5T
import RaftProofs.ClusterCommitBatchInd

/-!
Cluster-level commit safety **with `batch_append`**: a history under `M.Hyp2wB` / `M.Hyp3aB` has the facts
the main induction rests on (`Cluster.Snap5.Facts False`, `Facts3 False`: no snapshot travels).  Its
nodes keep the snapshot point `c0`, so the ghost logs are the logs (`FL_eq`, `FS_eq`, `EvF_eq`); a
compaction between two nodes of the history is none (`compact_noop`).  The components of the main
induction in the vocabulary of `ClusterB` (`Sm`, `Covered`, `LeaderLog`, `Promise`, with `ClusterB.Ev`) are
those of `Cluster.Snap5` (`sm_iff` …), and `M.sall`, `M.sm_all`, `M.ctf`, `M.ack_bound` are the theorems of
`ClusterSnap5M–5T` at `H.facts`.
-/
namespace RaftModel
namespace ClusterB
namespace M
open Node Raft Raft.CC RaftProps.C02
open RaftProps.C05
open Raft.CB Raft.Bt
open Cluster hiding At Prov InvL Trans EntriesOf SaneAnchors
open Cluster.M
variable {cfg : JointConfig} {c0 : Nat} {h : List Sys}

/-! ### the ghost logs are the logs -/

/-- the ghost log of a node of the history is its logical log -/
theorem FL_eq (H : Hyp2wB cfg c0 h) {n : Nat} {s : Sys} (hn : h[n]? = some s) {i : Nat}
    {st : NState} (hi : s.node i = some st) : Snap.FL h c0 st = st.raft.raftLog.abs :=
  Snap.fl_self (node_okB H hn hi).snapIdx

/-- … its uncompacted stored log is its stored log -/
theorem FS_eq (H : Hyp2wB cfg c0 h) {n : Nat} {s : Sys} (hn : h[n]? = some s) {i : Nat}
    {st : NState} (hi : s.node i = some st) : Snap.FS h c0 st = storeLog st.raft.raftLog.store :=
  Snap.fl_self (node_okB H hn hi).ssnap

/-- the commit events of the two vocabularies -/
def evB (E : Cluster.Ev) : Ev := ⟨E.nE, E.l, E.t, E.c, E.gE, E.pE⟩

def evC (E : Ev) : Cluster.Ev := ⟨E.nE, E.l, E.t, E.c, E.gE, E.pE⟩

/-- … and the ghost log of a commit event is its log -/
theorem EvF_eq (H : Hyp2wB cfg c0 h) {E : Cluster.Ev} (hE : E.ok h) : Snap.EvF h c0 E = E.gE := by
  obtain ⟨_, b, _, stb, _, hb, _, hlb, _, _, _, hg, _⟩ := Ev.facts H (E := evB E) hE
  have hg' : E.gE = stb.raft.raftLog.abs := hg
  exact Snap.fl_self (by rw [hg']; exact (node_okB H hb hlb).snapIdx)

/-- the log of a node of the history is its own uncompacted version -/
theorem full_abs (H : Hyp2wB cfg c0 h) {n : Nat} {s : Sys} (hn : h[n]? = some s) {i : Nat}
    {st : NState} (hi : s.node i = some st) :
    Snap.Full (Snap.HistChain h) c0 st.raft.raftLog.abs st.raft.raftLog.abs :=
  have o := node_okB H hn hi
  Snap.Full.self o.snapIdx (abs_Contig o.inv) (Snap.hist_log hn hi)

theorem full_store (H : Hyp2wB cfg c0 h) {n : Nat} {s : Sys} (hn : h[n]? = some s) {i : Nat}
    {st : NState} (hi : s.node i = some st) :
    Snap.Full (Snap.HistChain h) c0 (storeLog st.raft.raftLog.store)
      (storeLog st.raft.raftLog.store) :=
  have o := node_okB H hn hi
  Snap.Full.self o.ssnap (storeLog_contig o.inv.storeWF) (Snap.hist_store hn hi)

/-! ### one call -/

/-- a compaction that leads from a node of the history to a node of the history leaves the logs alone:
both keep the snapshot point `c0` -/
theorem compact_noop (H : Hyp2wB cfg c0 h) {n : Nat} {a b : Sys} (ha : h[n]? = some a)
    (hb : h[n + 1]? = some b) {k : Nat} {st st' : NState} (hka : a.node k = some st)
    (hkb : b.node k = some st') {j : Nat} (ho : Snap.CompactOut st st' j) :
    st'.raft.raftLog.abs = st.raft.raftLog.abs ∧
    storeLog st'.raft.raftLog.store = storeLog st.raft.raftLog.store :=
  have oa := node_okB H ha hka
  have ob := node_okB H hb hkb
  ⟨compactTo_noop ho.abs (ob.snapIdx.trans oa.snapIdx.symm),
   compactTo_noop ho.sto (ob.ssnap.trans oa.ssnap.symm)⟩

/-- the commit index, the stored entries and the stored hard state over one call -/
theorem facts_call_more (H : Hyp2wB cfg c0 h) {n : Nat} {a b : Sys} {i : Nat} {st st' : NState}
    {rnd : Option Nat} {op : NodeOp} {res : OpRes}
    (ha : h[n]? = some a) (hb : h[n + 1]? = some b) (hi : a.node i = some st)
    (hi' : b.node i = some st') (hnet : b.net = a.net)
    (hop : appOp op = true ∨ ∃ m, op = .step m ∧ m ∈ a.net ∧ m.to = i)
    (hc : ∀ j, op = .compact j → CompactOk st.raft.raftLog j)
    (hs1 : st.raft.raftLog.unstable.snapshot = none)
    (hcall : Node.call st rnd op = .ok (res, st')) :
    Src st st' op ∧
    (SE st.raft st'.raft ∨ op = .stabilize ∨ ∃ k, op = .compact k ∧ Snap.CompactOut st st' k) ∧
    HsOut st st' op := by
  have o := node_okB H ha hi
  by_cases hco : ∃ j, op = .compact j
  · obtain ⟨j, rfl⟩ := hco
    have hout := Snap.compact_out o.inv hs1 (hc j rfl) hcall
    exact ⟨Src.of_eq hout.committed, .inr (.inr ⟨j, rfl, hout⟩),
      call_hs st st' rnd _ res (not_drain_of_hop hop) hs1 hcall⟩
  · obtain ⟨h1, h2, h3⟩ := call_moreB H ha hb hi hi' hnet hop (fun j hj => hco ⟨j, hj⟩) hcall
    exact ⟨h1, h2.imp (fun c => c.se) .inl, h3⟩

/-- an accepted batch, on the logs as ghost logs -/
theorem facts_facc_call (H : Hyp2wB cfg c0 h) {n : Nat} {a b : Sys} (ha : h[n]? = some a)
    (hb : h[n + 1]? = some b) {k : Nat} {st st' : NState} {m : Message}
    (hka : a.node k = some st) (hkb : b.node k = some st')
    (hacc : Accepted st.raft.raftLog.abs st'.raft.raftLog.abs m) :
    Snap.FAcc (Snap.FL h c0 st) (Snap.FL h c0 st') m := by
  have oa := node_okB H ha hka
  rw [FL_eq H ha hka, FL_eq H hb hkb]
  refine Snap.facc_of (full_abs H ha hka) (full_abs H hb hkb) hacc (fun i hi => ?_)
  rw [LLog.entryAt, LLog.entryAt, if_pos hi,
    if_pos (by rw [(node_okB H hb hkb).snapIdx, ← oa.snapIdx]; exact hi)]

/-- what a call does to the logs as ghost logs -/
theorem facts_fcall_step (H : Hyp2wB cfg c0 h) {n : Nat} {a b : Sys} (ha : h[n]? = some a)
    (hb : h[n + 1]? = some b) {k : Nat} {st st' : NState} {rnd : Option Nat} {op : NodeOp}
    {res : OpRes} (hka : a.node k = some st) (hkb : b.node k = some st') (hnet : b.net = a.net)
    (hop : appOp op = true ∨ ∃ m, op = .step m ∧ m ∈ a.net ∧ m.to = k)
    (hco : ∀ j, op = .compact j → CompactOk st.raft.raftLog j)
    (hpn : st.raft.raftLog.unstable.snapshot = none)
    (hcall : Node.call st rnd op = .ok (res, st')) : Snap.FCallStep h c0 a k st st' := by
  have oa := node_okB H ha hka
  have e1 := FL_eq H ha hka
  have e2 := FL_eq H hb hkb
  by_cases hcomp : ∃ j, op = .compact j
  · obtain ⟨j, rfl⟩ := hcomp
    have hl := compact_noop H ha hb hka hkb (Snap.compact_out oa.inv hpn (hco j rfl) hcall) |>.1
    exact .same (fun _ => by rw [e1, e2, hl]) (by rw [hl])
  · cases H.facts0.call_step0 ha hb hka hkb hnet hop (fun j hj => hcomp ⟨j, hj⟩)
      (fun m hm => by
        rcases hop with g | ⟨m', g1, g2, _⟩
        · rw [hm] at g; cases g
        · rw [hm] at g1; cases g1; exact H.nosnap a (mem_of_get ha) m g2) hpn hcall with
    | same hl => exact .same (fun _ => by rw [e1, e2, hl]) (by rw [hl])
    | grew es hg =>
      refine .grew es hg (fun i hi => ?_) (fun i e he hi => ?_)
      · rw [e1, e2, hg.abs]; exact RaftProps.C05.c05_append_entryAt _ _ _ hi
      · rw [e2, hg.abs, LLog.append_entryAt_new _ _ _ hi] at he
        exact List.mem_of_getElem? he
    | acc m hm hty hto hacc hc hci hs ht =>
      exact .acc m hm hty hto (facts_facc_call H ha hb hka hkb hacc) hacc.anchor hc hci hs ht

/-- a chain at a place that counts is a chain -/
theorem at_of_live {s : Sys} {loc : Loc} {g : LLog} (hat : At s loc g) : Cluster.At s loc g := by
  cases loc with
  | log i => exact hat
  | store i => exact hat
  | queue i =>
    obtain ⟨st, x, h1, h2, h3⟩ := hat
    exact ⟨st, x, h1, h2.1, h3⟩
  | net => exact hat

theorem entriesOf_of_live {s : Sys} {e : Entry} (he : EntriesOf s e) : Cluster.EntriesOf s e := by
  obtain ⟨loc, g, i, hat, hg⟩ := he
  exact ⟨loc, g, i, at_of_live hat, hg⟩

/-- initially the queues are empty: every chain sits at a live place -/
theorem entriesOf_init (H : Hyp2wB cfg c0 h) {s0 : Sys} (h0 : h[0]? = some s0) {e : Entry}
    (he : Cluster.EntriesOf s0 e) : EntriesOf s0 e := by
  obtain ⟨loc, g, i, hat, hg⟩ := he
  refine ⟨loc, g, i, ?_, hg⟩
  cases loc with
  | log i => exact hat
  | store i => exact hat
  | queue i =>
    obtain ⟨st, x, h1, hx, _⟩ := hat
    rw [init_queue (hist_init H.hist s0 h0) i st h1] at hx; cases hx
  | net => exact hat

/-- the chains of the initial state start at the common snapshot point and are gap-free -/
theorem init_chain (H : Hyp2wB cfg c0 h) {s0 : Sys} (h0 : h[0]? = some s0) {loc : Loc} {g : LLog}
    (hat : At s0 loc g) : g.snapIdx = c0 ∧ g.Contig := by
  have hinit := hist_init H.hist s0 h0
  cases loc with
  | log j =>
    obtain ⟨stj, h1, h2⟩ := hat
    have o := node_okB H h0 h1
    rw [h2]; exact ⟨o.snapIdx, abs_Contig o.inv⟩
  | store j =>
    obtain ⟨stj, h1, h2⟩ := hat
    have o := node_okB H h0 h1
    rw [h2]; exact ⟨o.ssnap, storeLog_contig o.inv.storeWF⟩
  | queue j =>
    obtain ⟨stj, x, h1, hx, _⟩ := hat
    rw [init_queue hinit j stj h1] at hx; cases hx.1
  | net =>
    obtain ⟨x, hx, _⟩ := hat
    rw [hinit.1] at hx; cases hx

/-- the logs are their own uncompacted versions: the invariant of the ghost logs, with nothing to say about snapshots -/
theorem facts_ghost_inv (H : Hyp2wB cfg c0 h) (n : Nat) (s : Sys) (hn : h[n]? = some s) :
    Snap5.GhostInv False h c0 n s := by
  refine ⟨fun v st hv => ?_, fun hq => hq.elim,
    fun x hx hty => absurd hty (H.nosnap s (mem_of_get hn) x hx)⟩
  have o := node_okB H hn hv
  have past : ∀ (loc : Loc) (g : LLog), Cluster.At s loc g → Snap5.PastLog h n g :=
    fun loc g hat k e he => ⟨n, s, loc, g, Nat.le_refl n, hn, hat, he⟩
  refine ⟨?_, ?_, fun _ k hk => ?_, fun hc => ?_, ?_, ?_⟩
  · rw [FL_eq H hn hv]; exact full_abs H hn hv
  · rw [FS_eq H hn hv]; exact full_store H hn hv
  · rw [FL_eq H hn hv, FS_eq H hn hv, LLog.entryAt, LLog.entryAt, if_pos hk,
      if_pos (by rw [o.ssnap, ← o.snapIdx]; exact hk)]
  · have := o.inv.storeWF.snap_lt
    have h2 : st.raft.raftLog.store.firstIndex - 1 = c0 := o.ssnap
    omega
  · rw [FL_eq H hn hv]; exact past (.log v) _ ⟨st, hv, rfl⟩
  · rw [FS_eq H hn hv]; exact past (.store v) _ ⟨st, hv, rfl⟩

/-- below an entry of the initial state a log holds entries of the initial state -/
theorem facts_init_below (H : Hyp2wB cfg c0 h) {s0 : Sys} (h0 : h[0]? = some s0) {n : Nat} {s : Sys}
    (hn : h[n]? = some s) {v : Nat} {st : NState} (hv : s.node v = some st) {k : Nat} {e : Entry}
    (he : (Snap.FL h c0 st).entryAt k = some e) (hini : Cluster.EntriesOf s0 e) {c : Nat} {ec : Entry}
    (hc : c ≤ k) (hec : (Snap.FL h c0 st).entryAt c = some ec) : Cluster.EntriesOf s0 ec := by
  have o := node_okB H hn hv
  rw [FL_eq H hn hv] at he hec
  obtain ⟨loc, g, i, hat, hg⟩ := entriesOf_init H h0 hini
  obtain ⟨hgs, hgc⟩ := init_chain H h0 hat
  have hi : i = k := by rw [← hgc.index hg, (abs_Contig o.inv).index he]
  subst hi
  have hag := agree_all H n 0 s s0 hn h0 _ _ _ _ (at_log hv) hat
  have heq := eq_below hag (o.snapIdx.trans hgs.symm) he hg rfl c hc
  exact ⟨loc, g, c, at_of_live hat, by rw [← heq]; exact hec⟩

/-! ### the facts -/

/-- **a history under `Hyp2wB` has the facts the main induction rests on** -/
theorem Hyp2wB.facts (H : Hyp2wB cfg c0 h) : Snap5.Facts False cfg c0 h where
  toFacts0 := H.facts0
  initc := H.initc
  ghost_nz := fun {n s} hn {v st} hv => by
    obtain ⟨s0, _, hall⟩ := H.inv_at
    have I := hall s (mem_of_get hn)
    rw [FL_eq H hn hv, FS_eq H hn hv]
    exact ⟨fun k e he => I.nz (.log v) _ ⟨st, hv, rfl⟩ k e he,
      fun k e he => I.nz (.store v) _ ⟨st, hv, rfl⟩ k e he⟩
  fentry_prov := by
    obtain ⟨s0, h0, hprov⟩ := H.factsT.entry_prov
    refine ⟨s0, h0, fun n s hn v st hv k e he => ?_⟩
    rw [FL_eq H hn hv] at he
    exact (hprov n s hn (.log v) _ ⟨st, hv, rfl⟩ k e he).imp entriesOf_of_live id
  ev_facts := fun {E} hE => by
    obtain ⟨a, b, sta, stb, ha, hb, hla, hlb, hs, ht, hc, hg, hp, hlt, hc0, hh, hQ⟩ :=
      Ev.facts H (E := evB E) hE
    have hF : Snap.EvF h c0 E = E.gE := EvF_eq H hE
    have hg' : E.gE = stb.raft.raftLog.abs := hg
    refine ⟨a, b, sta, stb, ha, hb, hla, hlb, hs, ht, hc, hg', ?_, hp, hlt, hc0, ?_, ?_, hQ⟩
    · rw [hF, hg', FL_eq H hb hlb]
    · rw [hF]; exact hh
    · have : E.c = stb.raft.raftLog.committed := hc
      rw [(node_okB H hb hlb).snapIdx]; exact hc0
  vote_prov := fun n s hn => (vote_prov H n s hn).2
  c0_le_snap := fun hn _ _ hv => Nat.le_of_eq (node_okB H hn hv).snapIdx.symm
  call_more := fun ha hb hi hi' hnet hop hc _ hs1 hcall =>
    facts_call_more H ha hb hi hi' hnet hop hc hs1 hcall
  facc_call := fun ha hb _ _ _ _ _ _ hka hkb _ _ _ _ _ _ hacc =>
    facts_facc_call H ha hb hka hkb hacc
  fcall_step := fun ha hb _ _ _ _ _ _ hka hkb hnet hop hco _ hpn hcall =>
    facts_fcall_step H ha hb hka hkb hnet hop hco hpn hcall
  flogs_eq_below := fun hn hn' _ _ _ _ hi hj _ _ _ h1 h2 ht => by
    rw [FL_eq H hn hi] at h1 ⊢
    rw [FL_eq H hn' hj] at h2 ⊢
    exact logs_eq_below H hn hn' hi hj h1 h2 ht
  ghost_inv := facts_ghost_inv H
  fs_compact := fun ha hb _ _ _ hka hkb _ ho => by
    rw [FS_eq H ha hka, FS_eq H hb hkb, (compact_noop H ha hb hka hkb ho).2]
    exact fun _ => rfl
  init_below := facts_init_below H
  init_entry_term := fun h0 _ he => H.factsT.init_entry_term h0 (entriesOf_init H h0 he)
  leader_flogs_eq := fun hn hn' _ _ _ _ _ hk hk' hs hs' ht ht' _ h1 h2 => by
    rw [FL_eq H hn hk, FL_eq H hn' hk']
    exact leader_logs_eq H hn hn' hk hk' hs hs' ht ht' h1 h2
  hb_prov := fun n s hn => (hb_prov H n s hn).2

/-- … and one under `Hyp3aB` those with the clauses of that bundle -/
theorem Hyp3aB.facts (H : Hyp3aB cfg c0 h) : Snap5.Facts3 False cfg c0 h where
  toFacts := H.toHyp2wB.facts
  anch := H.anch
  rirs := H.rirs
  snapidx := fun s hs x hx hty => absurd hty (H.nosnap s hs x hx)
  snapt := fun s hs i st hi _ => H.snapt s hs i st hi
  term_log := fun n s hn i st hi e he => by
    rw [FL_eq H.toHyp2wB hn hi] at he
    exact (term_le H.toHyp2wB n s hn).log i st hi e he
  term_sto := fun n s hn i st hi e he => by
    rw [FS_eq H.toHyp2wB hn hi] at he
    exact (term_le H.toHyp2wB n s hn).sto i st hi e he
  term_sle := fun hq => hq.elim
  pend_ok := fun n s hn v st sn hv hp => by
    rw [(node_okB H.toHyp2wB hn hv).snap] at hp; cases hp
  snap_lt := fun hq => hq.elim

/-! ### the components of the main induction in the two vocabularies -/

theorem leaderLog_iff (H : Hyp2wB cfg c0 h) {N t : Nat} {L : LLog} :
    Snap5.LeaderLog h c0 N t L ↔ LeaderLog h N t L := by
  constructor <;> rintro ⟨m, s, l, st, h1, h2, h3, h4, h5, h6⟩ <;>
    exact ⟨m, s, l, st, h1, h2, h3, h4, h5, by rw [h6, FL_eq H h2 h3]⟩

theorem covered_iff (H : Hyp2wB cfg c0 h) {m cm term : Nat} {g : LLog} :
    Snap5.Covered h c0 m cm term g ↔ Covered h c0 m cm term g := by
  constructor <;> rintro (hc | ⟨E, hE, h1, h2, h3, h4⟩)
  · exact .inl hc
  · exact .inr ⟨evB E, hE, h1, h2, h3, fun k hk => (h4 k hk).trans (by rw [EvF_eq H hE]; rfl)⟩
  · exact .inl hc
  · exact .inr ⟨evC E, hE, h1, h2, h3,
      fun k hk => (h4 k hk).trans (by rw [EvF_eq H (E := evC E) hE]; rfl)⟩

theorem promise_iff (H : Hyp2wB cfg c0 h) {m : Nat} {a : Message} {g : LLog} :
    Snap5.Promise h c0 m a g ↔ Promise h m a g := by
  constructor <;> rintro ⟨L, h1, h2⟩
  · exact ⟨L, (leaderLog_iff H).1 h1, h2⟩
  · exact ⟨L, (leaderLog_iff H).2 h1, h2⟩

/-- the components of the main induction, in the two vocabularies -/
theorem sm_iff (H : Hyp2wB cfg c0 h) {m : Nat} {s : Sys} (hm : h[m]? = some s) :
    Snap5.Sm h c0 m s ↔ Sm h c0 m s := by
  have fl := fun v st (hv : s.node v = some st) => FL_eq H hm hv
  have fs := fun v st (hv : s.node v = some st) => FS_eq H hm hv
  constructor <;> intro S
  · exact
      { lc := fun E hE l st hl => by rw [← fl l st hl]; exact S.lc (evC E) hE l st hl
        retm := fun E hE v st hv => by rw [← fl v st hv]; exact S.retm (evC E) hE v st hv
        rets := fun E hE v st hv => by rw [← fs v st hv]; exact S.rets (evC E) hE v st hv
        a2m := fun v st hv a ha h1 h2 h3 h4 => by
          rw [← fl v st hv]; exact (promise_iff H).1 (S.a2m v st hv a ha h1 h2 h3 h4)
        a2s := fun v st hv a ha h1 h2 h3 h4 => by
          rw [← fs v st hv]; exact (promise_iff H).1 (S.a2s v st hv a ha h1 h2 h3 h4)
        g1 := fun E hE => S.g1 (evC E) hE
        nctm := fun v st hv => by rw [← fl v st hv]; exact (covered_iff H).1 (S.nctm v st hv)
        ncts := fun v st hv => by rw [← fs v st hv]; exact (covered_iff H).1 (S.ncts v st hv)
        scm := S.scm }
  · exact
      { lc := fun E hE l st hl => by rw [fl l st hl]; exact S.lc (evB E) hE l st hl
        retm := fun E hE v st hv => by rw [fl v st hv]; exact S.retm (evB E) hE v st hv
        rets := fun E hE v st hv => by rw [fs v st hv]; exact S.rets (evB E) hE v st hv
        a2m := fun v st hv a ha h1 h2 h3 h4 => by
          rw [fl v st hv]; exact (promise_iff H).2 (S.a2m v st hv a ha h1 h2 h3 h4)
        a2s := fun v st hv a ha h1 h2 h3 h4 => by
          rw [fs v st hv]; exact (promise_iff H).2 (S.a2s v st hv a ha h1 h2 h3 h4)
        g1 := fun E hE => S.g1 (evB E) hE
        nctm := fun v st hv => by rw [fl v st hv]; exact (covered_iff H).2 (S.nctm v st hv)
        ncts := fun v st hv => by rw [fs v st hv]; exact (covered_iff H).2 (S.ncts v st hv)
        scm := S.scm }

theorem sall_iff (H : Hyp2wB cfg c0 h) {n : Nat} : Snap5.SAll h c0 n ↔ SAll h c0 n :=
  ⟨fun S m s hle hm => (sm_iff H hm).1 (S m s hle hm),
    fun S m s hle hm => (sm_iff H hm).2 (S m s hle hm)⟩

/-! ### the theorems -/

/-- **the main induction** -/
theorem sall (H : Hyp3aB cfg c0 h) : ∀ n, SAll h c0 n :=
  fun n => (sall_iff H.toHyp2wB).1 (Snap5.sall H.facts n)

theorem sm_all (H : Hyp3aB cfg c0 h) {n : Nat} {s : Sys} (hn : h[n]? = some s) : Sm h c0 n s :=
  sall H n n s (Nat.le_refl _) hn

/-- **the logs of two commit events agree**: the log of a past event `E0` holds the entry of any event
`E` that committed no more (`E.c ≤ E0.c`) — given, when `E0`'s term is the smaller one, that `E`'s term
has been led by now -/
theorem ctf (H : Hyp2wB cfg c0 h) {n : Nat} (S : SAll h c0 n) {E0 E : Ev} (hE0 : E0.ok h)
    (hE : E.ok h) (hpast : E0.nE < n) (hc : E.c ≤ E0.c)
    (hled : E0.t < E.t → ∃ L, LeaderLog h n E.t L) : Has E0.gE E.c E.t := by
  have := Snap5.ctf H.facts ((sall_iff H).2 S) (E0 := evC E0) (E := evC E) hE0 hE hpast hc
    (fun hlt => (hled hlt).imp fun _ hL => (leaderLog_iff H).2 hL)
  rw [EvF_eq H (E := evC E0) hE0] at this
  exact this

/-- two leaders' logs that hold the same entry at `c` are equal up to `c` -/
theorem ll_eq_below (H : Hyp2wB cfg c0 h) {N N' t t' : Nat} {L L' : LLog} (h1 : LeaderLog h N t L)
    (h2 : LeaderLog h N' t' L') {c τ : Nat} (hh : Has L c τ) (hh' : Has L' c τ) :
    EqUpTo L L' c := by
  obtain ⟨m, s, l, st, _, a2, a3, _, _, rfl⟩ := h1
  exact eq_ll H a2 a3 h2 hh hh'

/-- **an accepted acknowledgement for the term of a leader lies within that leader's log** -/
theorem ack_bound (H : Hyp3aB cfg c0 h) {n : Nat} {a : Sys} (ha : h[n]? = some a) {k : Nat}
    {st : NState} (hk : a.node k = some st) (hs : st.raft.state = .leader) {x : Message}
    (hx : x ∈ a.net) (hack : isAck x) (ht : x.term = 0 ∨ x.term = st.raft.term) :
    x.index ≤ st.raft.raftLog.lastIndex :=
  Snap5.ack_bound H.facts ha hk hs hx hack ht

end M
end ClusterB
end RaftModel
