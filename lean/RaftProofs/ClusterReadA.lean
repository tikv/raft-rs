import RaftProofs.ClusterRead4F

/-!
Cluster-level ReadIndex safety for reads issued at the leader (`RaftProps.C08c`), helper lemmas part A:
the part of the node state the read path uses (`rcore`: the `ReadOnly` bookkeeping, the term, the read
states, the id, the configuration; and the queue projected on its heartbeats and heartbeat responses),
the frame `RF` ("nothing of it has changed") and the transitive relation `RS r r'` ("`r'` is reached
from `r` by steps that do not use the read path: the `ReadOnly` bookkeeping is untouched and the term is
the same, or the bookkeeping was cleared by `reset`; the term does not decrease; read states, id,
configuration and the queued heartbeats / heartbeat responses are untouched").

The layer of forwarded reads (`RD.R4`, `RaftProofs/ClusterRead4A.lean` …) tracks `MsgReadIndex` and
`MsgReadIndexResp` in the queue as well, so its frames `R4.RF` and `R4.RS` say more about the queue than
these (`RF.of_r4`, `RS.of_r4`), and what is proved there of a function of the node model holds here.
-/
namespace RaftModel
namespace Raft
namespace RD

/-- the two message types that carry a read-request context -/
def rdT : MsgType → Bool
  | .msgHeartbeat | .msgHeartbeatResponse => true
  | _ => false

/-- a heartbeat or a heartbeat response -/
def isRd (x : Message) : Bool := rdT x.msgType

theorem isRd_of_type {x : Message} (h : rdT x.msgType = false) : isRd x = false := h

/-- the heartbeats and heartbeat responses of an outgoing queue, in order -/
def rdOf (l : List Message) : List Message := l.filter isRd

@[simp] theorem rdOf_append (a b : List Message) : rdOf (a ++ b) = rdOf a ++ rdOf b := by
  simp [rdOf]

theorem rdOf_single_ne (m : Message) (h : isRd m = false) : rdOf [m] = [] := by
  simp [rdOf, h]

theorem mem_rdOf {l : List Message} {x : Message} : x ∈ rdOf l ↔ x ∈ l ∧ isRd x = true := by
  simp [rdOf]

/-- the part of the node state the read path reads (everything but the queue) -/
structure RCore where
  ro : ReadOnly
  term : Nat
  rs : List ReadState
  id : Nat
  conf : Configuration

def rcore (r : Raft) : RCore :=
  { ro := r.readOnly, term := r.term, rs := r.readStates, id := r.id, conf := r.prs.conf }

/-- `r'` differs from `r` only outside `rcore`, and the same heartbeats / heartbeat responses are
queued -/
def RF (r r' : Raft) : Prop := rcore r' = rcore r ∧ rdOf r'.msgs = rdOf r.msgs

theorem RF.refl (r : Raft) : RF r r := ⟨rfl, rfl⟩
theorem RF.trans {a b c : Raft} (h1 : RF a b) (h2 : RF b c) : RF a c :=
  ⟨h2.1.trans h1.1, h2.2.trans h1.2⟩

theorem RF.ro {r r' : Raft} (h : RF r r') : r'.readOnly = r.readOnly := congrArg RCore.ro h.1
theorem RF.term {r r' : Raft} (h : RF r r') : r'.term = r.term := congrArg RCore.term h.1
theorem RF.rs {r r' : Raft} (h : RF r r') : r'.readStates = r.readStates := congrArg RCore.rs h.1
theorem RF.id {r r' : Raft} (h : RF r r') : r'.id = r.id := congrArg RCore.id h.1
theorem RF.conf {r r' : Raft} (h : RF r r') : r'.prs.conf = r.prs.conf := congrArg RCore.conf h.1
theorem RF.voters {r r' : Raft} (h : RF r r') : r'.prs.voters = r.prs.voters := by
  unfold ProgressTracker.voters; rw [h.conf]
theorem RF.rd {r r' : Raft} (h : RF r r') : rdOf r'.msgs = rdOf r.msgs := h.2

structure RS (r r' : Raft) : Prop where
  keep : (r'.readOnly = r.readOnly ∧ r'.term = r.term) ∨
    r'.readOnly = ReadOnly.new r.readOnly.option
  tle : r.term ≤ r'.term
  rs : r'.readStates = r.readStates
  id : r'.id = r.id
  conf : r'.prs.conf = r.prs.conf
  rd : rdOf r'.msgs = rdOf r.msgs

theorem RS.refl (r : Raft) : RS r r := ⟨.inl ⟨rfl, rfl⟩, Nat.le_refl _, rfl, rfl, rfl, rfl⟩

theorem RF.toRS {r r' : Raft} (h : RF r r') : RS r r' :=
  ⟨.inl ⟨h.ro, h.term⟩, Nat.le_of_eq h.term.symm, h.rs, h.id, h.conf, h.rd⟩

theorem RS.option {r r' : Raft} (h : RS r r') : r'.readOnly.option = r.readOnly.option := by
  rcases h.keep with ⟨g, _⟩ | g <;> rw [g] <;> rfl

theorem RS.trans {a b c : Raft} (h1 : RS a b) (h2 : RS b c) : RS a c := by
  refine ⟨?_, Nat.le_trans h1.tle h2.tle, h2.rs.trans h1.rs, h2.id.trans h1.id,
    h2.conf.trans h1.conf, h2.rd.trans h1.rd⟩
  rcases h2.keep with ⟨g1, g2⟩ | g
  · rcases h1.keep with ⟨k1, k2⟩ | k
    · exact .inl ⟨g1.trans k1, g2.trans k2⟩
    · exact .inr (g1.trans k)
  · right; rw [g, h1.option]

theorem RS.voters {r r' : Raft} (h : RS r r') : r'.prs.voters = r.prs.voters := by
  unfold ProgressTracker.voters; rw [h.conf]

theorem RS.post_rf {r r1 : Raft} {x : Res Raft} (h : RS r r1)
    (hx : Res.Post (fun y => RF r1 y) x) : Res.Post (fun y => RS r y) x :=
  Res.post_mono hx (fun _ hy => h.trans hy.toRS)

/-! ### from the frames of the forwarded-read layer -/

theorem rdT_of_r4 {t : MsgType} (h : R4.rdT t = false) : rdT t = false := by
  cases t <;> first | rfl | cases h

/-- the tracked messages of this layer are among those of the other -/
theorem rdOf_r4 (l : List Message) : rdOf (R4.rdOf l) = rdOf l := by
  unfold rdOf R4.rdOf
  rw [List.filter_filter]
  congr 1
  funext x
  cases h : isRd x
  · rfl
  · cases h' : R4.isRd x
    · rw [show isRd x = false from rdT_of_r4 h'] at h; cases h
    · rfl

theorem rdOf_eq_of_r4 {l l' : List Message} (h : R4.rdOf l' = R4.rdOf l) : rdOf l' = rdOf l := by
  rw [← rdOf_r4 l', h, rdOf_r4]

theorem rcore_eq_of_r4 {r r' : Raft} (h : R4.rcore r' = R4.rcore r) : rcore r' = rcore r := by
  show RCore.mk (R4.rcore r').ro (R4.rcore r').term (R4.rcore r').rs (R4.rcore r').id
    (R4.rcore r').conf = _
  rw [h]; rfl

theorem RF.of_r4 {r r' : Raft} (h : R4.RF r r') : RF r r' :=
  ⟨rcore_eq_of_r4 h.1, rdOf_eq_of_r4 h.2⟩

theorem RS.of_r4 {r r' : Raft} (h : R4.RS r r') : RS r r' :=
  ⟨h.keep, h.tle, h.rs, h.id, h.conf, rdOf_eq_of_r4 h.rd⟩

/-! ### sending -/

/-- here a `MsgReadIndex` or `MsgReadIndexResp` may be queued as well -/
theorem send_rf (r : Raft) (m : Message) (hm : rdT m.msgType = false) :
    Res.Post (fun r' => RF r r') (r.send m) := by
  apply Res.post_intro
  intro r' h
  rw [send_eq r r' m h]
  have : isRd (r.sendFill m) = false := isRd_of_type (by rw [sendFill_msgType]; exact hm)
  simp [RF, rcore, rdOf_single_ne _ this]

theorem maybeSendAppend_rf (r : Raft) (to : Nat) (pr : Progress) (ae : Bool) :
    Res.Post (fun x => RF r x.1) (r.maybeSendAppend to pr ae) :=
  Res.post_mono (R4.maybeSendAppend_rf r to pr ae) fun _ => RF.of_r4

theorem sendAppendPr_rf (r : Raft) (to : Nat) (pr : Progress) :
    Res.Post (fun x => RF r x.1) (r.sendAppendPr to pr) :=
  Res.post_mono (R4.sendAppendPr_rf r to pr) fun _ => RF.of_r4

theorem sendAppend_rf (r : Raft) (to : Nat) :
    Res.Post (fun x => RF r x) (r.sendAppend to) :=
  Res.post_mono (R4.sendAppend_rf r to) fun _ => RF.of_r4

theorem sendAppendAggressively_rf (r : Raft) (to : Nat) :
    Res.Post (fun x => RF r x) (r.sendAppendAggressively to) :=
  Res.post_mono (R4.sendAppendAggressively_rf r to) fun _ => RF.of_r4

theorem forEachPeer_rf (r : Raft) (f : Raft → Nat → Progress → Res (Raft × Progress))
    (hf : ∀ r id pr, Res.Post (fun x => RF r x.1) (f r id pr)) :
    Res.Post (fun x => RF r x) (r.forEachPeer f) :=
  forEachPeer_post (fun x => RF r x) f
    (fun r1 id pr h1 => Res.post_mono (hf r1 id pr) fun _ hx => h1.trans hx)
    (fun r1 id pr h1 => h1.trans (RF.of_r4 (R4.set_rf r1 id pr))) r (RF.refl r)

theorem bcastAppend_rf (r : Raft) : Res.Post (fun x => RF r x) r.bcastAppend :=
  Res.post_mono (R4.bcastAppend_rf r) fun _ => RF.of_r4

theorem mapProgress_rf (r : Raft) (f : Nat → Progress → Progress) : RF r (r.mapProgress f) :=
  RF.of_r4 (R4.mapProgress_rf r f)

theorem maybeCommit_rf (r : Raft) : Res.Post (fun x => RF r x.1) r.maybeCommit :=
  Res.post_mono (R4.maybeCommit_rf r) fun _ => RF.of_r4

theorem appendEntry_rf (r : Raft) (es : List Entry) :
    Res.Post (fun x => RF r x.1) (r.appendEntry es) :=
  Res.post_mono (R4.appendEntry_rf r es) fun _ => RF.of_r4

/-! ### leader-side handlers -/

theorem checkQuorumActive_rf (r : Raft) : RF r r.checkQuorumActive.1 :=
  RF.of_r4 (R4.checkQuorumActive_rf r)

theorem filterProposal_rf (es : List Entry) (r : Raft) (i : Nat) : RF r (r.filterProposal i es).1 :=
  RF.of_r4 (R4.filterProposal_rf es r i)

theorem handleSnapshotStatus_rf (r : Raft) (m : Message) : RF r (r.handleSnapshotStatus m) :=
  RF.of_r4 (R4.handleSnapshotStatus_rf r m)

theorem handleUnreachable_rf (r : Raft) (m : Message) : RF r (r.handleUnreachable m) :=
  RF.of_r4 (R4.handleUnreachable_rf r m)

theorem handleAppendResponse_rf (r : Raft) (m : Message) :
    Res.Post (fun x => RF r x) (r.handleAppendResponse m) :=
  Res.post_mono (R4.handleAppendResponse_rf r m) fun _ => RF.of_r4

theorem handleTransferLeader_rf (r : Raft) (m : Message) :
    Res.Post (fun x => RF r x) (r.handleTransferLeader m) :=
  Res.post_mono (R4.handleTransferLeader_rf r m) fun _ => RF.of_r4

/-! ### follower-side handlers -/

theorem sendRequestSnapshot_rf (r : Raft) : Res.Post (fun x => RF r x) r.sendRequestSnapshot :=
  Res.post_mono (R4.sendRequestSnapshot_rf r) fun _ => RF.of_r4

theorem handleAppendEntries_rf (r : Raft) (m : Message) :
    Res.Post (fun x => RF r x) (r.handleAppendEntries m) :=
  Res.post_mono (R4.handleAppendEntries_rf r m) fun _ => RF.of_r4

theorem requestSnapshot_rf (r : Raft) : Res.Post (fun x => RF r x.1) r.requestSnapshot :=
  Res.post_mono (R4.requestSnapshot_rf r) fun _ => RF.of_r4

/-! ### entry points that never touch the read path -/

theorem onPersistSnap_rf (r : Raft) (index : Nat) :
    Res.Post (fun x => RF r x) (r.onPersistSnap index) :=
  Res.post_mono (R4.onPersistSnap_rf r index) fun _ => RF.of_r4

theorem onPersistEntries_rf (r : Raft) (index term : Nat) :
    Res.Post (fun x => RF r x) (r.onPersistEntries index term) :=
  Res.post_mono (R4.onPersistEntries_rf r index term) fun _ => RF.of_r4

theorem commitApply_rf (r : Raft) (applied : Nat) :
    Res.Post (fun x => RF r x) (r.commitApply applied) :=
  Res.post_mono (R4.commitApply_rf r applied) fun _ => RF.of_r4

theorem reduceUncommittedSize_rf (r : Raft) (ents : List Entry) :
    RF r (r.reduceUncommittedSize ents) :=
  RF.of_r4 (R4.reduceUncommittedSize_rf r ents)

theorem adjustMaxInflightMsgs_rf (r : Raft) (t c : Nat) :
    Res.Post (fun x => RF r x) (r.adjustMaxInflightMsgs t c) :=
  Res.post_mono (R4.adjustMaxInflightMsgs_rf r t c) fun _ => RF.of_r4

theorem enableGroupCommit_rf (r : Raft) (b : Bool) :
    Res.Post (fun x => RF r x) (r.enableGroupCommit b) :=
  Res.post_mono (R4.enableGroupCommit_rf r b) fun _ => RF.of_r4

theorem assignCommitGroups_rf (r : Raft) (ids : List (Nat × Nat)) :
    Res.Post (fun x => RF r x) (r.assignCommitGroups ids) :=
  Res.post_mono (R4.assignCommitGroups_rf r ids) fun _ => RF.of_r4

/-! ### the role changes, `poll`, `hup`, the term preamble and the vote arm of `step` -/

theorem becomeFollower_rs (r : Raft) (t l : Nat) (ht : r.term ≤ t) :
    RS r (r.becomeFollower t l) :=
  RS.of_r4 (R4.becomeFollower_rs r t l ht)

theorem poll_rs (r : Raft) (frm : Nat) (t : MsgType) (v : Bool) :
    Res.Post (fun x => RS r x.1) (r.poll frm t v) :=
  Res.post_mono (R4.poll_rs r frm t v) fun _ => RS.of_r4

theorem hup_rs (r : Raft) (b : Bool) : Res.Post (fun x => RS r x) (r.hup b) :=
  Res.post_mono (R4.hup_rs r b) fun _ => RS.of_r4

theorem maybeCommitByVote_rs (r : Raft) (m' : Message) :
    Res.Post (fun x => RS r x) (r.maybeCommitByVote m') :=
  Res.post_mono (R4.maybeCommitByVote_rs r m') fun _ => RS.of_r4

theorem stepTerm_rs (r : Raft) (m : Message) :
    Res.Post (fun x => RS r x.1 ∧
        (x.2 = true → m.msgType = .msgHeartbeatResponse → m.term = 0 ∨ m.term = x.1.term))
      (r.stepTerm m) :=
  Res.post_mono (R4.stepTerm_rs r m) fun _ hx => ⟨RS.of_r4 hx.1, hx.2⟩

theorem stepVote_rs (r : Raft) (m : Message) :
    Res.Post (fun x => RS r x) (r.stepVote m) :=
  Res.post_mono (R4.stepVote_rs r m) fun _ => RS.of_r4

end RD
end Raft
end RaftModel
