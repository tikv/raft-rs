import RaftProofs.ProtoEvents
import RaftProofs.ProtoLog

/-!
What one accepted event of P does to the term, role, log and commit index of a node (`Vol`,
`vol_step`): one analysis of `applyEvent`, from which facts about a single node along a step — the
term and the commit index do not decrease, a leader's log only grows, a candidate's log is frozen — are
read off by cases on `Vol` instead of cases on the event.  The constructors that stand for one event
name it, so that a proof can treat that event by itself or rule it out.
-/
namespace RaftModel.P

inductive Vol (e : Event) (j : Nat) (n n' : PNode) : Prop
  /-- nothing, or the commit index rises -/
  | keep (ht : n'.term = n.term) (hr : n'.role = n.role) (hl : n'.log = n.log) (hc : n.commit ≤ n'.commit)
  | role0 (hr' : n'.role = 0) (ht : n'.term = n.term) (hl : n'.log = n.log) (hc : n'.commit = n.commit)
  | cand (he : e = .campaign j) (hr : n.role ≠ 2) (hr' : n'.role = 1) (ht : n'.term = n.term)
      (hl : n'.log = n.log) (hc : n'.commit = n.commit)
  | win (cfg : Cfg) (q : List Nat) (he : e = .win j cfg q) (hr : n.role = 1) (hr' : n'.role = 2)
      (ht : n'.term = n.term) (hl : n'.log = n.log) (hc : n'.commit = n.commit)
  | bump (ht : n.term < n'.term) (hr' : n'.role = 0) (hl : n'.log = n.log) (hc : n'.commit = n.commit)
  | append (x : LEntry) (he : e = .leaderAppend j x) (hr : n.role = 2) (hr' : n'.role = 2)
      (ht : n'.term = n.term) (hl : n'.log = n.log ++ [x]) (hc : n'.commit = n.commit)
  /-- `maybe_append`: the committed prefix stays -/
  | merge (m : App) (he : e = .recvApp j m) (hr' : n'.role = 0) (ht : n'.term = n.term)
      (hc : n'.commit = n.commit) (hl : n'.log.take n.commit = n.log.take n.commit)
  /-- the log becomes the snapshot's prefix, all of it committed -/
  | install (t idx st : Nat) (he : e = .installSnap j t idx st) (hr' : n'.role = 0) (ht : n'.term = n.term)
      (hc : n.commit ≤ n'.commit) (hlen : n'.log.length ≤ n'.commit)
  /-- the node resumes from its durable image -/
  | restart (he : e = .restart j) (hr' : n'.role = 0) (ht : n'.term = n.dterm) (hl : n'.log = n.dlog)
      (hc : n'.commit = n.dcommit)
  /-- a fresh node is started from a committed prefix -/
  | boot (d idx : Nat) (he : e = .bootstrap j d idx) (hf : Fresh n) (hr' : n'.role = 0)
      (hlen : n'.log.length ≤ n'.commit)

theorem Vol.refl (e : Event) (j : Nat) (n : PNode) : Vol e j n n := .keep rfl rfl rfl (Nat.le_refl _)

/-- an event replaces one node record: it is enough to say what happens to that one -/
theorem Vol.upd {e : Event} {f : Nat → PNode} {i : Nat} {n' : PNode} (h : Vol e i (f i) n') (j : Nat) :
    Vol e j (f j) (upd f i n' j) := by
  by_cases hj : j = i
  · subst hj; rw [upd_same]; exact h
  · rw [upd_other _ _ _ _ hj]; exact .refl e j _

theorem vol_step {s s' : PSys} {e : Event} (h : applyEvent s e = .ok s') (j : Nat) :
    Vol e j (s.nodes j) (s'.nodes j) := by
  cases e with
  | read r => obtain ⟨rd, rfl⟩ := read_frame h; exact .refl _ _ _
  | sendApp i m | sendHB i to c | claim i idx | sendSnap i idx =>
    obtain ⟨_, rfl⟩ := of_guard_ok h; exact .refl _ _ _
  | release i key =>
    rcases release_ok h with ⟨_, ⟨_, _, _, _, _, rfl⟩ | ⟨_, _, _, _, _, _, _, rfl⟩ | ⟨_, _, _, _, _, _, _, rfl⟩⟩
    · exact .refl _ _ _
    · refine Vol.upd ?_ j; exact .keep rfl rfl rfl (Nat.le_refl _)
    · refine Vol.upd ?_ j; exact .keep rfl rfl rfl (Nat.le_refl _)
  | rdy i | ackCommitted i | ackSelf i idx =>
    obtain ⟨_, rfl⟩ := of_guard_ok h; refine Vol.upd ?_ j; exact .keep rfl rfl rfl (Nat.le_refl _)
  | persist i k =>
    obtain ⟨_, _, _, rfl⟩ := persist_ok h; refine Vol.upd ?_ j; exact .keep rfl rfl rfl (Nat.le_refl _)
  | commitLeader i c cfg q =>
    obtain ⟨hg, rfl⟩ := of_guard_ok h; refine Vol.upd ?_ j; exact .keep rfl rfl rfl (Nat.le_of_lt hg.2.2.1)
  | commitApp i c m =>
    obtain ⟨hg, rfl⟩ := of_guard_ok h; refine Vol.upd ?_ j; exact .keep rfl rfl rfl (Nat.le_of_lt hg.2.2.2.1)
  | commitHB i c m =>
    obtain ⟨hg, rfl⟩ := of_guard_ok h; refine Vol.upd ?_ j; exact .keep rfl rfl rfl (Nat.le_of_lt hg.2.2.2.2.1)
  | commitClaim i m =>
    obtain ⟨hg, rfl⟩ := of_guard_ok h; refine Vol.upd ?_ j; exact .keep rfl rfl rfl (Nat.le_of_lt hg.2.2.1)
  | commitSnap i t idx sterm =>
    obtain ⟨_, _, _, hg, rfl⟩ := commitSnap_ok h
    refine Vol.upd ?_ j; exact .keep rfl rfl rfl (Nat.le_of_lt hg.2.2.1)
  | bump i t => obtain ⟨hg, rfl⟩ := of_guard_ok h; refine Vol.upd ?_ j; exact .bump hg.2 rfl rfl rfl
  | campaign i =>
    obtain ⟨hg, rfl⟩ := of_guard_ok h; refine Vol.upd ?_ j; exact .cand rfl hg.2.2.1 rfl rfl rfl rfl
  | grant i c => obtain ⟨_, _, _, _, rfl⟩ := grant_ok h; refine Vol.upd ?_ j; exact .role0 rfl rfl rfl rfl
  | crash i | stepDown i => obtain ⟨_, rfl⟩ := of_guard_ok h; refine Vol.upd ?_ j; exact .role0 rfl rfl rfl rfl
  | win i cfg q =>
    obtain ⟨hg, rfl⟩ := of_guard_ok h; refine Vol.upd ?_ j; exact .win cfg q rfl hg.2.1 rfl rfl rfl rfl
  | leaderAppend i x =>
    obtain ⟨hg, rfl⟩ := of_guard_ok h; refine Vol.upd ?_ j; exact .append x rfl hg.2.1 hg.2.1 rfl rfl rfl
  | recvApp i m =>
    obtain ⟨hg, rfl⟩ := of_guard_ok h
    refine Vol.upd ?_ j
    refine .merge m rfl rfl rfl rfl ?_
    have hp := mergeAt_prefix m.es (s.nodes i).log m.prev hg.2.2.2.2.1
    rcases hg.2.2.2.2.2.2 with h0 | hgt
    · show (mergeAt _ _ _).take _ = _; rw [hp.1 h0]
    · have e1 := congrArg (List.take (s.nodes i).commit) (hp.2 (by omega)).2
      rwa [List.take_take, List.take_take, Nat.min_eq_left (by omega)] at e1
  | installSnap i t idx sterm =>
    obtain ⟨_, _, _, hg, rfl⟩ := installSnap_ok h
    refine Vol.upd ?_ j; exact .install t idx sterm rfl rfl rfl hg.2.2.2.1 (Nat.le_of_eq hg.2.2.2.2.1)
  | restart i => obtain ⟨_, rfl⟩ := of_guard_ok h; refine Vol.upd ?_ j; exact .restart rfl rfl rfl rfl rfl
  | bootstrap i donor idx =>
    obtain ⟨hf, _, _, _, _, rfl⟩ := bootstrap_ok h
    refine Vol.upd ?_ j
    exact .boot donor idx rfl hf hf.role (by show (List.take idx _).length ≤ idx; rw [List.length_take]; omega)

end RaftModel.P
