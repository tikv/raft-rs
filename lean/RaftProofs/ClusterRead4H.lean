import RaftProofs.ClusterRead4G

/-!
Cluster-level ReadIndex safety for **forwarded** reads (`RaftProps.C08f`), part 4H: what the delivery of
a `MsgReadIndex` does, over the read-path projection of `RaftProofs/ClusterRead4A–4G.lean` (`rdT` covers
`MsgReadIndex` / `MsgReadIndexResp`, so the frame lemmas preserve those messages of a queue too, and
`RInv` / `ROut` have a clause `RirOk` for every queued `MsgReadIndexResp`): forwarded again (`fwd`, with the forwarded message), dropped / demoted (`keep`), or
registered by a leader that has committed in its term, with the heartbeats it queues (`reg`).
-/
namespace RaftModel
namespace Raft
namespace RD
open Node

/-- the term preamble of `step` for the two message types of a forwarded read: they are never
answered by the preamble, and a higher term makes the node a follower -/
theorem stepTerm_plain {r r1 : Raft} {m : Message} {go : Bool}
    (hty : m.msgType = .msgReadIndex ∨ m.msgType = .msgReadIndexResp)
    (h : r.stepTerm m = .ok (r1, go)) :
    (r1 = r ∧ (go = true → m.term = 0 ∨ m.term = r.term)) ∨
    (r.term < m.term ∧ r1 = r.becomeFollower m.term 0 ∧ go = true) := by
  have no : ∀ {t : MsgType}, m.msgType = t → t ≠ .msgReadIndex → t ≠ .msgReadIndexResp → False :=
    fun e h1 h2 => by rcases hty with g | g <;> rw [e] at g <;> contradiction
  cases stepTerm_inv h with
  | zero h0 => exact .inl ⟨rfl, fun _ => .inl h0⟩
  | leased _ _ _ => exact .inl ⟨rfl, nofun⟩
  | prevote _ _ _ hpv =>
    rcases hpv with c | ⟨c, _⟩ <;> exact (no c (by decide) (by decide)).elim
  | follow l _ hlt _ _ hl =>
    rcases hl with ⟨_, c | c | c⟩ | ⟨rfl, _⟩
    · exact (no c (by decide) (by decide)).elim
    · exact (no c (by decide) (by decide)).elim
    · exact (no c (by decide) (by decide)).elim
    · exact .inr ⟨hlt, rfl, rfl⟩
  | staleAck _ _ hc _ => rcases hc.2 with c | c <;> exact (no c (by decide) (by decide)).elim
  | staleReject _ _ c _ => exact (no c (by decide) (by decide)).elim
  | stale _ _ => exact .inl ⟨rfl, nofun⟩
  | same _ he => exact .inl ⟨rfl, fun _ => .inr he⟩

theorem becomeFollower_state (r : Raft) (t l : Nat) : (r.becomeFollower t l).state = .follower := rfl

namespace R4

/-- what `send` fills into a `MsgReadIndex` -/
theorem sendFill_ri (r : Raft) (x : Message) (ht : x.msgType = .msgReadIndex) :
    (r.sendFill x).msgType = .msgReadIndex ∧ (r.sendFill x).entries = x.entries ∧
    (x.frm ≠ 0 → (r.sendFill x).frm = x.frm) ∧ (x.frm = 0 → (r.sendFill x).frm = r.id) ∧
    (r.sendFill x).term = x.term ∧ (r.sendFill x).to = x.to := by
  unfold sendFill
  by_cases h0 : x.frm = 0 <;> simp [h0, ht, isVoteMsg]

/-- what the delivery of a `MsgReadIndex` `m` does -/
inductive RiOutD (a : Raft) (m : Message) (r : Raft) : Prop
  /-- dropped, or the node fell back to follower and dropped: nothing the read path reads has changed,
  except that the pending requests may have been discarded -/
  | keep (h : RS a r) (h2 : r.readOnly = a.readOnly ∨ r.state = .follower)
  /-- forwarded again by a follower (`r1`: the state after the term preamble), which stays one -/
  | fwd (r1 : Raft) (h : RS a r1) (hfo : r1.state = .follower) (hcore : rcore r = rcore r1)
      (y : Message) (hmsgs : r.msgs = r1.msgs ++ [y])
      (hy : y.msgType = .msgReadIndex ∧ y.entries = m.entries ∧ (m.frm ≠ 0 → y.frm = m.frm) ∧
        (m.frm = 0 → y.frm = a.id) ∧ y.term = m.term)
      (hfr : r.state = .follower)
  /-- answered at once: single-voter group or lease-based reads -/
  | now (hs : a.prs.isSingleton = true ∨ a.readOnly.option ≠ .safe)
  /-- the node is a leader that has committed in its term: the request is registered (unless its
  context is pending already) with the commit index as read index; only heartbeats carrying the
  context are queued -/
  | reg (hl : a.state = .leader) (hc : a.commitToCurrentTerm = .ok true) (ro : ReadOnly)
      (hadd : a.readOnly.addRequest a.raftLog.committed m a.id = .ok ro)
      (hcore : rcore r = rcore ({ a with readOnly := ro } : Raft))
      (hmsgs : ∀ x ∈ r.msgs, x ∈ a.msgs ∨ (x.msgType = .msgHeartbeat ∧ some x.context = reqCtx m))

theorem stepFollower_ri {r r' : Raft} {m : Message} {e : Option RaftError}
    (hty : m.msgType = .msgReadIndex) (h : r.stepFollower m = .ok (r', e)) :
    r' = r ∨ (rcore r' = rcore r ∧ r'.state = r.state ∧
      r'.msgs = r.msgs ++ [r.sendFill { m with to := r.leaderId }]) := by
  unfold stepFollower at h
  simp only [hty] at h
  split at h
  · cases h; exact .inl rfl
  · obtain ⟨r2, hs, hr⟩ := Res.bind_eq_ok h
    cases hr
    rw [send_eq r r' _ hs]
    exact .inr ⟨rfl, rfl, by rw [hty]⟩

theorem stepRi_cases {a r : Raft} {m : Message} {e : Option RaftError}
    (hty : m.msgType = .msgReadIndex) (h : a.step m = .ok (r, e)) : RiOutD a m r := by
  have fol : ∀ (r1 : Raft), RS a r1 → r1.id = a.id → r1.state = .follower →
      (r1.readOnly = a.readOnly ∨ r1.state = .follower) →
      r1.stepFollower m = .ok (r, e) → RiOutD a m r := by
    intro r1 hrs hid hfo h2 hsf
    rcases stepFollower_ri hty hsf with g | ⟨g1, g2, g3⟩
    · subst g; exact .keep hrs h2
    · obtain ⟨q1, q2, q3, q4, q5, _⟩ := sendFill_ri r1 { m with to := r1.leaderId } hty
      exact .fwd r1 hrs hfo g1 _ g3 ⟨q1, q2, q3, fun h0 => (q4 h0).trans hid, q5⟩ (g2.trans hfo)
  cases step_inv h with
  | consumed heq =>
    rcases stepTerm_plain (.inl hty) heq with ⟨g, _⟩ | ⟨_, _, g⟩
    · subst g; exact .keep (RS.refl _) (.inl rfl)
    · cases g
  | dispatched heq hd =>
    rcases stepTerm_plain (.inl hty) heq with ⟨g, _⟩ | ⟨hlt, g, _⟩
    · subst g
      cases hd with
      | hup ty => rw [hty] at ty; cases ty
      | vote ty => rcases ty with ty | ty <;> rw [hty] at ty <;> cases ty
      | candidate _ _ hx =>
        unfold stepCandidate at hx
        simp only [hty] at hx
        cases hx; exact .keep (RS.refl _) (.inl rfl)
      | follower _ hfo hx => exact fol _ (RS.refl _) rfl hfo (.inl rfl) hx
      | leader _ hl hx =>
        unfold stepLeader at hx
        simp only [hty] at hx
        split at hx
        · cases hx
        · cases hx
        · cases hx; exact .keep (RS.refl _) (.inl rfl)
        · rename_i hc
          split at hx
          · rename_i hsing
            refine .now (.inl ?_)
            simp only [Bool.and_eq_true] at hsing
            exact hsing.1
          · split at hx
            · rename_i hsafe
              split at hx
              · cases hx
              · rename_i en hen
                obtain ⟨ro, hadd, hb⟩ := Res.bind_eq_ok hx
                obtain ⟨r2, hbc, hr⟩ := Res.bind_eq_ok hb
                cases hr
                obtain ⟨k1, k2⟩ := Res.Post.of_eq (bcastHeartbeatWithCtx_out _ _) hbc
                refine .reg hl hc ro hadd k1 (fun x hx => ?_)
                rcases k2 x hx with c | ⟨c1, c2⟩
                · exact .inl c
                · refine .inr ⟨c1, ?_⟩
                  unfold reqCtx
                  rw [hen, c2]
                  rfl
            · rename_i hlease
              exact .now (.inr (by rw [hlease]; decide))
    · subst g
      rw [step_follower heq (.of_eq hty) rfl] at h
      exact fol _ (becomeFollower_rs a m.term 0 (by omega)) (becomeFollower_rs a m.term 0 (by omega)).id
        rfl (.inr rfl) h

theorem RiOutD.rebase {a r : Raft} {m : Message} {rnd : Option Nat}
    (ho : RiOutD ({ a with nextRand := rnd } : Raft) m r) : RiOutD a m r := by
  cases ho with
  | keep h h2 => exact .keep ⟨h.keep, h.tle, h.rs, h.id, h.conf, h.rd⟩ h2
  | fwd r1 h hfo hcore y hmsgs hy hfr =>
    exact .fwd r1 ⟨h.keep, h.tle, h.rs, h.id, h.conf, h.rd⟩ hfo hcore y hmsgs hy hfr
  | now hs => exact .now hs
  | reg hl hc ro hadd hcore hmsgs => exact .reg hl hc ro hadd hcore hmsgs

/-- **the delivery of a `MsgReadIndex`**, as one call of a node -/
theorem callRi_cases {st st' : NState} {rnd : Option Nat} {m : Message} {res : OpRes}
    (hty : m.msgType = .msgReadIndex) (h : Node.call st rnd (.step m) = .ok (res, st')) :
    RiOutD st.raft m st'.raft := by
  cases applyOp_parts h with
  | step hx =>
    apply RiOutD.rebase (rnd := rnd)
    rcases RawNode.step_inv hx with rfl | ⟨_, hx⟩
    · exact .keep (RS.refl _) (.inl rfl)
    · exact stepRi_cases hty hx

end R4
end RD
end Raft
end RaftModel
