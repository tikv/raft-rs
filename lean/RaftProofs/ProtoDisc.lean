import RaftProofs.ProtoDiscStep

/-!
# PD: PC's local conditions follow from what single library calls enforce

On every state reachable in PD (`RaftModel/ProtoDisc.lean`) the local conditions PC checks at a `win`,
a `commitLeader` and a read answer — the applied index is not beyond the commit index, at most one
membership-change entry lies beyond the applied index in the winner's log / in the prefix a leader
commits, a leader's version never decreases — are **implied**, for the applied index PD tracks.  What
stays a run-time check is the table lookup `vtab[version]? = some cfg` (the determinism of
`apply_conf_change`).  So every PD history is a PC history (`reach_pc`), hence a P history, and PD
refuses `win` / `commitLeader` / `resp` / `rstate` only because the reported applied index is not the
tracked one, the configuration is not the one of the tracked version, or the configuration-free part
of P's guard fails.

Files: `ProtoDiscDefs` (`One`, the events of PD unpacked, `reach_pc`), `ProtoDiscInv` (the invariant
`InvD`: APPL, INV1 for volatile / pending / durable logs, MINV for released appends, PCONF, HUP/INV2,
LVER; frame lemmas), `ProtoDiscStep` (`InvD` is inductive).
-/
namespace RaftModel.P

/-- **the local condition of PC's `win` is implied** (all but the table lookup) -/
theorem win_local_redundant (D : DSys) (hr : ReachPD D) (i : Nat) (cfg : Cfg) (q : List Nat)
    (hcore : winCore D.pc.base i cfg q = true)
    (htab : D.pc.vtab[confCount ((D.pc.base.nodes i).log.take (D.applied i))]? = some cfg) :
    winLocalB D.pc i cfg (D.applied i) = true := by
  have hD := invD_reach hr
  obtain ⟨_, hrole, _⟩ := winCore_unpack hcore
  simp only [winLocalB, Bool.and_eq_true, decide_eq_true_eq]
  exact ⟨⟨hD.appl i, hD.hup i (by rw [hrole]; decide)⟩, htab⟩

/-- **the local condition of PC's `commitLeader` is implied** (all but the table lookup) -/
theorem commit_local_redundant (D : DSys) (hr : ReachPD D) (i c : Nat) (cfg : Cfg) (q : List Nat)
    (hcore : commitCore D.pc.base i c cfg q = true)
    (htab : D.pc.vtab[confCount ((D.pc.base.nodes i).log.take (D.applied i))]? = some cfg) :
    commitLocalB D.pc i c cfg (D.applied i) = true := by
  have hD := invD_reach hr
  obtain ⟨_, hrole, _⟩ := commitCore_unpack hcore
  simp only [commitLocalB, Bool.and_eq_true, decide_eq_true_eq]
  refine ⟨⟨⟨hD.appl i, ?_⟩, htab⟩, hD.lver i hrole⟩
  have h1 := hD.hup i (by rw [hrole]; decide)
  have h2 := confCount_take_le (D.pc.base.nodes i).log c
  unfold One at h1
  omega

/-- **the local condition of PC's `resp` / leader-local `rstate` is implied** (all but the table lookup) -/
theorem read_local_redundant (D : DSys) (hr : ReachPD D) (i rid idx : Nat) (cfg : Cfg)
    (hcore : respCore D.pc.base i rid idx cfg = true)
    (_htab : D.pc.vtab[confCount ((D.pc.base.nodes i).log.take (D.applied i))]? = some cfg) :
    D.applied i ≤ (D.pc.base.nodes i).commit ∧
    verMono D.pc (D.pc.base.nodes i).term (confCount ((D.pc.base.nodes i).log.take (D.applied i))) = true := by
  have hD := invD_reach hr
  obtain ⟨_, hrole, _⟩ := respCore_unpack hcore
  exact ⟨hD.appl i, hD.lver i hrole⟩

/-! ### the Boolean local conditions and the propositional ones of `RaftProofs/ProtoCfg.lean` -/

theorem winLocalB_iff (S : CSys) (i : Nat) (cfg : Cfg) (applied : Nat) :
    winLocalB S i cfg applied = true ↔ winLocal S i cfg applied := by
  simp only [winLocalB, winLocal, Bool.and_eq_true, decide_eq_true_eq, and_assoc]

theorem commitLocalB_iff (S : CSys) (i c : Nat) (cfg : Cfg) (applied : Nat) :
    commitLocalB S i c cfg applied = true ↔ commitLocal S i c cfg applied := by
  simp only [commitLocalB, commitLocal, Bool.and_eq_true, decide_eq_true_eq, and_assoc]

/-! ### the facts behind: what holds of every node in every reachable state of PD -/

/-- the applied index is never beyond the commit index -/
theorem applied_le_commit (D : DSys) (hr : ReachPD D) (i : Nat) : D.applied i ≤ (D.pc.base.nodes i).commit :=
  (invD_reach hr).appl i

/-- every log a node can continue from — volatile, pending image, durable image — holds at most one
membership-change entry beyond its commit index -/
theorem one_conf_beyond_commit (D : DSys) (hr : ReachPD D) (i : Nat) :
    confCount (D.pc.base.nodes i).log ≤
      confCount ((D.pc.base.nodes i).log.take (D.pc.base.nodes i).commit) + 1 ∧
    (∀ im ∈ (D.pc.base.nodes i).pending, confCount im.log ≤ confCount (im.log.take im.commit) + 1) ∧
    confCount (D.pc.base.nodes i).dlog ≤
      confCount ((D.pc.base.nodes i).dlog.take (D.pc.base.nodes i).dcommit) + 1 :=
  ⟨(invD_reach hr).v i, (invD_reach hr).p i, (invD_reach hr).d i⟩

/-- a candidate's and a leader's log hold at most one membership-change entry beyond the applied index -/
theorem one_conf_beyond_applied (D : DSys) (hr : ReachPD D) (i : Nat) (hrole : (D.pc.base.nodes i).role ≠ 0) :
    confCount (D.pc.base.nodes i).log ≤ confCount ((D.pc.base.nodes i).log.take (D.applied i)) + 1 :=
  (invD_reach hr).hup i hrole

/-! ### PD accepts `win` / `commitLeader` / `resp` / `rstate` iff the reported applied index is the
tracked one, the configuration is the one of the tracked version, and the configuration-free part of
P's guard holds -/

theorem winD_mk {D : DSys} {i : Nat} {cfg : Cfg} {q : List Nat} {applied : Nat} {S : CSys}
    (ha : applied = D.applied i) (hS : applyEventC D.pc (.win i cfg q applied) = .ok S) :
    applyEventD D (.win i cfg q applied) =
      .ok { D with pc := S, pconf := updN D.pconf i (D.pc.base.nodes i).log.length } := by
  simp only [applyEventD]
  rw [if_pos ha, hS]

theorem commitD_mk {D : DSys} {i c : Nat} {cfg : Cfg} {q : List Nat} {applied : Nat} {S : CSys}
    (ha : applied = D.applied i) (hS : applyEventC D.pc (.commitLeader i c cfg q applied) = .ok S) :
    applyEventD D (.commitLeader i c cfg q applied) = .ok { D with pc := S } := by
  simp only [applyEventD]
  rw [if_pos ha, hS]
  rfl

theorem respD_mk {D : DSys} {i rid idx : Nat} {cfg : Cfg} {applied : Nat} {S : CSys}
    (ha : applied = D.applied i) (hS : applyEventC D.pc (.resp i rid idx cfg applied) = .ok S) :
    applyEventD D (.resp i rid idx cfg applied) = .ok { D with pc := S } := by
  simp only [applyEventD]
  rw [if_pos ha, hS]
  rfl

theorem rstateD_mk {D : DSys} {j rid idx : Nat} {cfg : Cfg} {applied : Nat} {S : CSys}
    (ha : applied = D.applied j ∨ D.pc.base.rd.resps.contains ⟨rid, j, idx⟩ = true)
    (hS : applyEventC D.pc (.rstate j rid idx cfg applied) = .ok S) :
    applyEventD D (.rstate j rid idx cfg applied) = .ok { D with pc := S } := by
  simp only [applyEventD]
  rw [if_pos ha, hS]
  rfl

/-- **on reachable states PD accepts `win` iff the reported applied index is the tracked one, the
configuration is the one of its version, and the configuration-free part of P's guard holds** -/
theorem winD_accepts_iff (D : DSys) (hr : ReachPD D) (i : Nat) (cfg : Cfg) (q : List Nat) (applied : Nat) :
    (∃ D', applyEventD D (.win i cfg q applied) = .ok D') ↔
      (applied = D.applied i ∧
       D.pc.vtab[confCount ((D.pc.base.nodes i).log.take (D.applied i))]? = some cfg ∧
       winCore D.pc.base i cfg q = true) := by
  constructor
  · rintro ⟨D', h⟩
    obtain ⟨ha, S, hS, _⟩ := stepD_win h
    obtain ⟨hloc, hcore⟩ := (winC_accepts_iff D.pc (reach_pc hr) i cfg q applied).1 ⟨S, hS⟩
    subst ha
    exact ⟨rfl, hloc.2.2, hcore⟩
  · rintro ⟨ha, htab, hcore⟩
    subst ha
    have hloc := (winLocalB_iff _ _ _ _).1 (win_local_redundant D hr i cfg q hcore htab)
    exact ⟨_, winD_mk rfl (winC_accepts D.pc (reach_pc hr) i cfg q _ hloc hcore)⟩

/-- **... the same for `commitLeader`** -/
theorem commitD_accepts_iff (D : DSys) (hr : ReachPD D) (i c : Nat) (cfg : Cfg) (q : List Nat) (applied : Nat) :
    (∃ D', applyEventD D (.commitLeader i c cfg q applied) = .ok D') ↔
      (applied = D.applied i ∧
       D.pc.vtab[confCount ((D.pc.base.nodes i).log.take (D.applied i))]? = some cfg ∧
       commitCore D.pc.base i c cfg q = true) := by
  constructor
  · rintro ⟨D', h⟩
    obtain ⟨ha, S, hS, _⟩ := stepD_commitLeader h
    obtain ⟨hloc, hcore⟩ := (commitC_accepts_iff D.pc (reach_pc hr) i c cfg q applied).1 ⟨S, hS⟩
    subst ha
    exact ⟨rfl, hloc.2.2.1, hcore⟩
  · rintro ⟨ha, htab, hcore⟩
    subst ha
    have hloc := (commitLocalB_iff _ _ _ _ _).1 (commit_local_redundant D hr i c cfg q hcore htab)
    exact ⟨_, commitD_mk rfl (commitC_accepts D.pc (reach_pc hr) i c cfg q _ hloc hcore)⟩

/-- **... for `resp`** -/
theorem respD_accepts_iff (D : DSys) (hr : ReachPD D) (i rid idx : Nat) (cfg : Cfg) (applied : Nat) :
    (∃ D', applyEventD D (.resp i rid idx cfg applied) = .ok D') ↔
      (applied = D.applied i ∧
       D.pc.vtab[confCount ((D.pc.base.nodes i).log.take (D.applied i))]? = some cfg ∧
       respCore D.pc.base i rid idx cfg = true) := by
  constructor
  · rintro ⟨D', h⟩
    obtain ⟨ha, S, hS, _⟩ := stepD_resp h
    obtain ⟨hloc, hcore⟩ := (respC_accepts_iff D.pc (reach_pc hr) i rid idx cfg applied).1 ⟨S, hS⟩
    subst ha
    exact ⟨rfl, hloc.2.1, hcore⟩
  · rintro ⟨ha, htab, hcore⟩
    subst ha
    obtain ⟨h1, h2⟩ := read_local_redundant D hr i rid idx cfg hcore htab
    obtain ⟨S, hS⟩ := (respC_accepts_iff D.pc (reach_pc hr) i rid idx cfg _).2 ⟨⟨h1, htab, h2⟩, hcore⟩
    exact ⟨_, respD_mk rfl hS⟩

/-- **... and for `rstate`**: the request is known and was issued on this running node, and the answer
is a released response or the guard of a leader-local read holds for the tracked applied index -/
theorem rstateD_accepts_iff (D : DSys) (hr : ReachPD D) (j rid idx : Nat) (cfg : Cfg) (applied : Nat) :
    (∃ D', applyEventD D (.rstate j rid idx cfg applied) = .ok D') ↔
      (∃ r, D.pc.base.rd.issued.find? (fun r => r.rid = rid) = some r ∧ (D.pc.base.nodes j).up = true ∧ r.node = j ∧
        (D.pc.base.rd.resps.contains ⟨rid, j, idx⟩ = true ∨
          (applied = D.applied j ∧
           D.pc.vtab[confCount ((D.pc.base.nodes j).log.take (D.applied j))]? = some cfg ∧
           respCore D.pc.base j rid idx cfg = true))) := by
  constructor
  · rintro ⟨D', h⟩
    obtain ⟨ha, S, hS, _⟩ := stepD_rstate h
    obtain ⟨r, h1, h2, h3, h4⟩ := (rstateC_accepts_iff D.pc (reach_pc hr) j rid idx cfg applied).1 ⟨S, hS⟩
    refine ⟨r, h1, h2, h3, ?_⟩
    by_cases hin : D.pc.base.rd.resps.contains ⟨rid, j, idx⟩ = true
    · exact Or.inl hin
    · obtain ⟨hloc, hcore⟩ := h4.resolve_left hin
      have ha' := ha.resolve_right hin
      subst ha'
      exact Or.inr ⟨rfl, hloc.2.1, hcore⟩
  · rintro ⟨r, h1, h2, h3, h4⟩
    rcases h4 with hin | ⟨ha, htab, hcore⟩
    · obtain ⟨S, hS⟩ := (rstateC_accepts_iff D.pc (reach_pc hr) j rid idx cfg applied).2
        ⟨r, h1, h2, h3, Or.inl hin⟩
      exact ⟨_, rstateD_mk (Or.inr hin) hS⟩
    · subst ha
      obtain ⟨h5, h6⟩ := read_local_redundant D hr j rid idx cfg hcore htab
      obtain ⟨S, hS⟩ := (rstateC_accepts_iff D.pc (reach_pc hr) j rid idx cfg _).2
        ⟨r, h1, h2, h3, Or.inr ⟨⟨h5, htab, h6⟩, hcore⟩⟩
      exact ⟨_, rstateD_mk (Or.inl rfl) hS⟩

end RaftModel.P
