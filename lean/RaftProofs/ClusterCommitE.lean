import RaftProofs.ClusterCommitD
import RaftProofs.RaftGuards

/-!
Cluster-level commit safety, what the handlers do to the parts of the state the per-call relation
reads: `reset` and the role changes, `append_entry`, the progress updates of `handle_append_response`,
what `send` fills into an acknowledgement or a vote message, the term preamble.
-/
namespace RaftModel
namespace Raft
namespace CC
open VoteOb

theorem Old.mk' {a r : Raft} {x1 x2 x3 : Nat} {x4 : List ReadState} {x5 : RaftLog} {x6 x7 x8 : Nat}
    {x9 : StateRole} {x10 : Bool} {x11 : Nat}
    {x12 : Option Nat} {x13 : Nat} {x14 : ReadOnly} {x15 x16 : Nat} {x17 x18 x19 x20 x21 : Bool}
    {x22 x23 x24 x25 x26 : Nat} {x27 : Int} {x28 : UncommittedState} {x29 : Nat}
    {x30 : ProgressTracker} {x32 : Option Nat} (h0 : Old a r) :
    Old a { term := x1, vote := x2, id := x3, readStates := x4, raftLog := x5,
            maxInflight := x6, maxMsgSize := x7, pendingRequestSnapshot := x8, state := x9,
            promotable := x10, leaderId := x11, leadTransferee := x12,
            pendingConfIndex := x13, readOnly := x14, electionElapsed := x15,
            heartbeatElapsed := x16, checkQuorum := x17, preVote := x18,
            skipBcastCommit := x19, batchAppend := x20, disableProposalForwarding := x21,
            heartbeatTimeout := x22, electionTimeout := x23, randomizedElectionTimeout := x24,
            minElectionTimeout := x25, maxElectionTimeout := x26, priority := x27,
            uncommittedState := x28, maxCommittedSizePerReady := x29, prs := x30,
            msgs := r.msgs, nextRand := x32 } := h0

/-! ### `reset` and the role changes -/

theorem reset_id (r : Raft) (t : Nat) : (r.reset t).id = r.id := (RaftProps.C16.reset_proj r t).2.2.1

/-- after `reset` every `matched` is `0`, except the node's own, which is `persisted` -/
theorem reset_mfun (r : Raft) (t : Nat) (j x : Nat) (h : mfun (r.reset t).prs j = some x) :
    x = 0 ∨ (j = r.id ∧ x = r.raftLog.persisted) := by
  unfold reset at h
  simp only [mapProgress, abortLeaderTransfer, resetRandomizedElectionTimeout,
    ProgressTracker.resetVotes] at h
  have key : ∀ (l : List (Nat × Progress)) (n c p i : Nat),
      ((l.map (fun q => (q.1, if q.1 = i then
          { (q.2.reset n) with matched := p, committedIndex := c } else q.2.reset n))).lookup j).map
        (·.matched) = some x → x = 0 ∨ (j = i ∧ x = p) := by
    intro l n c p i hl
    rw [get_map_progress l (fun k q => if k = i then
      { (q.reset n) with matched := p, committedIndex := c } else q.reset n) j] at hl
    cases hlk : l.lookup j with
    | none => rw [hlk] at hl; cases hl
    | some q =>
      rw [hlk] at hl
      simp only [Option.map_some] at hl
      split at hl
      · rename_i hji
        injection hl with hl
        exact .inr ⟨hji, hl.symm⟩
      · injection hl with hl
        exact .inl hl.symm
  unfold mfun ProgressTracker.get at h
  split at h <;> exact key _ _ _ _ _ h

theorem reset_mok {A : Nat → Nat → Nat → Prop} (r : Raft) (t : Nat) :
    ∀ j x, mfun (r.reset t).prs j = some x →
      x = 0 ∨ (j = (r.reset t).id ∧ x ≤ (r.reset t).raftLog.persisted) ∨ A j (r.reset t).term x := by
  intro j x h
  rcases reset_mfun r t j x h with g | ⟨g1, g2⟩
  · exact .inl g
  · right; left
    rw [reset_id, reset_raftLog]
    exact ⟨g1, Nat.le_of_eq g2⟩

theorem Old.reset {a r : Raft} (t : Nat) (h : Old a r) : Old a (r.reset t) := by
  unfold Old; rw [reset_msgs]; exact h

theorem Old.becomeFollower {a r : Raft} (t l : Nat) (h : Old a r) : Old a (r.becomeFollower t l) := by
  unfold Old; rw [becomeFollower_msgs]; exact h

theorem becomeFollower_id (r : Raft) (t l : Nat) : (r.becomeFollower t l).id = r.id :=
  (RaftProps.C16.becomeFollower_proj r t l).2.2.1

theorem becomeLeader_batch {r r' : Raft} (h : r.becomeLeader = .ok r') :
    r'.batchAppend = r.batchAppend :=
  becomeLeader_parts (P := fun r1 => r1.batchAppend = r.batchAppend) h rfl
    (fun t p => (reset_batchAppend _ t).trans p) (fun _ _ p => p)
    (fun ha p => (appendEntry_fields ha).2.1.trans p)

theorem becomePreCandidate_batch {r r' : Raft} (h : r.becomePreCandidate = .ok r') :
    r'.batchAppend = r.batchAppend := by
  unfold Raft.becomePreCandidate at h
  split at h
  · cases h
  · cases h; rfl

theorem becomeCandidate_batch {r r' : Raft} (h : r.becomeCandidate = .ok r') :
    r'.batchAppend = r.batchAppend :=
  becomeCandidate_parts (P := fun r1 => r1.batchAppend = r.batchAppend) h rfl
    (fun t p => (reset_batchAppend _ t).trans p) (fun p => p)

theorem mfun_recordVote (p : ProgressTracker) (id : Nat) (v : Bool) :
    mfun (p.recordVote id v) = mfun p := by
  unfold ProgressTracker.recordVote; split <;> rfl

theorem voters_recordVote (p : ProgressTracker) (id : Nat) (v : Bool) :
    (p.recordVote id v).voters = p.voters := by
  unfold ProgressTracker.recordVote; split <;> rfl

/-! ### appending and acknowledging -/

theorem append_persisted {l l' : RaftLog} {es : List Entry} {n : Nat}
    (h : l.append es = .ok (l', n)) : l'.persisted = l.persisted := by
  rcases RaftLog.append_inv h with ⟨_, rfl⟩ | ⟨u, _, rfl⟩ <;> rfl

theorem appendEntry_persisted {r r' : Raft} {es : List Entry} {b : Bool}
    (h : r.appendEntry es = .ok (r', b)) : r'.raftLog.persisted = r.raftLog.persisted := by
  unfold Raft.appendEntry at h
  split at h
  · cases h; rfl
  · rename_i r1 hm
    have e1 : r1.raftLog = r.raftLog := by
      unfold Raft.maybeIncreaseUncommittedSize at hm
      split at hm
      cases hm; rfl
    simp only at h
    split at h
    · rename_i log n ha
      cases h
      rw [e1] at ha
      exact append_persisted ha
    · cases h
    · cases h

theorem maybeDecrTo_matched {p p' : Progress} {rej hint rs : Nat} {b : Bool}
    (h : p.maybeDecrTo rej hint rs = .ok (p', b)) : p'.matched = p.matched := by
  cases Progress.maybeDecrTo_inv h <;> rfl

theorem maybeUpdate_matched {p p' : Progress} {n : Nat} {b : Bool}
    (h : p.maybeUpdate n = .ok (p', b)) :
    (b = false → p'.matched = p.matched) ∧ (b = true → p'.matched = n ∧ p.matched < n) := by
  obtain ⟨rfl, rfl⟩ := Progress.maybeUpdate_inv h
  exact ⟨fun hb => Nat.max_eq_left (Nat.le_of_not_lt (of_decide_eq_false hb)),
    fun hb => ⟨Nat.max_eq_right (Nat.le_of_lt (of_decide_eq_true hb)), of_decide_eq_true hb⟩⟩

theorem filterProposal_msgs {a : Raft} : ∀ (es : List Entry) (r r' : Raft) (i : Nat)
    (o : Option (List Entry)), r.filterProposal i es = (r', o) → Old a r → Old a r' :=
  filterProposal_parts fun he p => filterProposalEntry_parts he p fun _ => Old.mk' p

theorem maybeCommit_keeps {r r' : Raft} {b : Bool} (h : r.maybeCommit = .ok (r', b)) :
    r'.state = r.state ∧ r'.batchAppend = r.batchAppend ∧ r'.msgs = r.msgs ∧
    r'.readOnly = r.readOnly ∧ r'.leadTransferee = r.leadTransferee := by
  obtain ⟨mci, gc, _, hh | hh⟩ := maybeCommit_spec h
  · rw [hh.2.2.2.2]; exact ⟨rfl, rfl, rfl, rfl, rfl⟩
  · rw [hh.2]; exact ⟨rfl, rfl, rfl, rfl, rfl⟩

/-! ### what `send` fills in -/

/-- what `send` fills into an append response built without sender -/
theorem sendFill_ack (r : Raft) (x : Message) (ht : x.msgType = .msgAppendResponse)
    (hf : x.frm = 0) :
    (r.sendFill x).frm = r.id ∧ (r.sendFill x).term = r.term ∧ (r.sendFill x).index = x.index ∧
    (r.sendFill x).to = x.to ∧ (r.sendFill x).reject = x.reject :=
  ⟨by rw [sendFill_frm, if_pos hf], by rw [sendFill_term_eq, ht]; rfl, (sendFill_keeps r x).2.2.2.2,
    (sendFill_keeps r x).1, (sendFill_keeps r x).2.2.2.1⟩

theorem akok_of_fill {m : Message} (r : Raft) (x : Message) (ht : x.msgType = .msgAppendResponse)
    (hf : x.frm = 0)
    (hsrc : x.index = 0 ∨ (r.state = .follower ∧ m.msgType = .msgAppend ∧ x.to = m.frm ∧
      (x.index ≤ r.raftLog.committed ∨ x.index = m.index + m.entries.length))) :
    AkOK m r (r.sendFill x) := by
  obtain ⟨f1, f2, f3, f4, _⟩ := sendFill_ack r x ht hf
  refine ⟨f2, f1, ?_⟩
  rw [f3, f4]; exact hsrc

theorem sendFill_vote (r : Raft) (x : Message) (ht : isVoteMsg x.msgType = true) :
    (r.sendFill x).commit = x.commit ∧ (r.sendFill x).commitTerm = x.commitTerm ∧
    (r.sendFill x).reject = x.reject ∧ (r.sendFill x).term = x.term :=
  ⟨(sendFill_keeps r x).2.1, (sendFill_keeps r x).2.2.1, (sendFill_keeps r x).2.2.2.1,
    by rw [sendFill_term_eq, ht]; rfl⟩

theorem voteResp_type {t rt : MsgType} (h : voteRespMsgType t = some rt) :
    (rt = .msgRequestVoteResponse ∨ rt = .msgRequestPreVoteResponse) := by
  cases t <;> simp [voteRespMsgType] at h <;> simp [← h]

/-! ### the term preamble -/

/-- the term of a message that passed the term preamble: none, or the node's term after the
preamble — except for the two pre-vote messages of a higher term, which leave the node alone -/
theorem stepTerm_true_term {r r1 : Raft} {m : Message} (h : r.stepTerm m = .ok (r1, true)) :
    m.term = 0 ∨ m.term = r1.term ∨ m.msgType = .msgRequestPreVote ∨
      (m.msgType = .msgRequestPreVoteResponse ∧ m.reject = false) := by
  cases stepTerm_inv h with
  | zero h0 => exact .inl h0
  | prevote _ _ _ hp => exact .inr (.inr (hp.imp (fun c => c) fun c => ⟨c.1, by simpa using c.2⟩))
  | follow l => exact .inr (.inl (becomeFollower_term_vote _ _ _).1.symm)
  | same _ he => exact .inr (.inl he)

theorem stepTerm_term_of_not_prevote {r r1 : Raft} {m : Message}
    (h : r.stepTerm m = .ok (r1, true)) (h1 : m.msgType ≠ .msgRequestPreVote)
    (h2 : m.msgType ≠ .msgRequestPreVoteResponse) : m.term = r1.term ∨ m.term = 0 := by
  rcases stepTerm_true_term h with c | c | c | c
  · exact .inr c
  · exact .inl c
  · exact absurd c h1
  · exact absurd c.1 h2

theorem stepTerm_ack_term {r r1 : Raft} {m : Message} (h : r.stepTerm m = .ok (r1, true))
    (hty : m.msgType = .msgAppendResponse) : m.term = r1.term ∨ m.term = 0 :=
  stepTerm_term_of_not_prevote h (by rw [hty]; intro hc; cases hc) (by rw [hty]; intro hc; cases hc)

theorem stepTerm_batch {r r1 : Raft} {m : Message} (h : r.stepTerm m = .ok (r1, true)) :
    r1.batchAppend = r.batchAppend := by
  rcases RaftProps.C16.stepTerm_true h with g | ⟨_, _, _, l, g⟩
  · rw [g]
  · rw [g]; exact becomeFollower_batchAppend _ _ _

theorem noAck_local {A : Nat → Nat → Nat → Prop} {m : Message}
    (hm : m.msgType ≠ .msgAppendResponse) : ∀ t, AckIn m t → A m.frm t m.index :=
  fun _ h => absurd h.1 hm

/-- the local `MsgCheckQuorum` stepped by a leader queues nothing and keeps log and flags -/
theorem cq_step {r r' : Raft} {frm : Option Nat} (hs : r.state = .leader)
    (h : r.stepIgnore (newMessage 0 .msgCheckQuorum frm) = .ok r') :
    r'.msgs = r.msgs ∧ r'.raftLog.committed = r.raftLog.committed ∧
    r'.batchAppend = r.batchAppend := by
  obtain ⟨_, h⟩ := stepIgnore_inv h
  rw [step_leader (stepTerm_same (.inl rfl)) (.of_eq (t := .msgCheckQuorum) rfl) hs] at h
  unfold Raft.stepLeader at h
  simp only [newMessage, Raft.checkQuorumActive] at h
  cases hq : (r.prs.quorumRecentlyActive r.id).2
  · simp only [hq, Bool.not_false, if_true] at h
    cases h
    exact ⟨becomeFollower_msgs _ _ _, becomeFollower_committed _ _ _,
      becomeFollower_batchAppend _ _ _⟩
  · simp only [hq, Bool.not_true, Bool.false_eq_true, if_false] at h
    cases h
    exact ⟨rfl, rfl, rfl⟩

end CC
end Raft
end RaftModel
