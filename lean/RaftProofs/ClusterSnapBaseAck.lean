import RaftProofs.ClusterSnapBase

/-!
Commit safety of `ClusterSem`, from `Facts0`: **the message-level invariants** — accepting append
responses carry their sender and a term it has reached (also those that answer a snapshot); no late
acknowledgements; the initial term of a node is below every term it leads; a candidate's vote requests
describe the end of its log (`req_inv`); `cand_q` and `leader_no_ack` — for steps that may compact,
deliver or install a snapshot.
-/
namespace RaftModel
namespace Cluster
namespace Snap5
open Node Raft Raft.CC RaftProps.C02 RaftProps.C05 Snap

variable {q : Prop} {cfg : JointConfig} {h : List Sys}

/-- what a `call` / `deliver` step queues as accepting append response with a positive index: it
carries the node's id and its (non-zero) term after the step -/
theorem Facts0.fresh_ack (B : Facts0 q cfg h) {n : Nat} {a b : Sys} {i : Nat} {st st' : NState}
    {rnd : Option Nat} {op : NodeOp} {res : OpRes}
    (ha : h[n]? = some a) (hb : h[n + 1]? = some b) (hi : a.node i = some st)
    (hi' : b.node i = some st') (hnet : b.net = a.net)
    (hop : appOp op = true ∨ ∃ m, op = .step m ∧ m ∈ a.net ∧ m.to = i)
    (hc : ∀ j, op = .compact j → CompactOk st.raft.raftLog j)
    (hns : ∀ m, op = .step m → m.msgType ≠ .msgSnapshot)
    (hpn : st.raft.raftLog.unstable.snapshot = none)
    (hcall : Node.call st rnd op = .ok (res, st'))
    {x : Message} (hx : x ∈ st'.raft.msgs) (hack : isAck x) (hidx : x.index ≠ 0) :
    x ∈ st.raft.msgs ∨ (x.frm = i ∧ x.term = st'.raft.term ∧ x.term ≠ 0 ∧
      st'.raft.state = .follower) := by
  have g := B.call_out ha hb hi hi' hnet hop hc hns hpn hcall
  by_cases hold : x ∈ st.raft.msgs
  · exact .inl hold
  rcases g.qak x hx hack with c | c
  · exact .inl c
  · right
    rcases c.src with d | ⟨d1, d2, _, _⟩
    · exact absurd d hidx
    · -- the input is a `MsgAppend` of the transport
      rcases hop with g1 | ⟨m, g1, g2, g3⟩
      · cases op <;> first | (cases g1; done) | (cases d2; done)
      · subst g1
        have hty : m.msgType = .msgAppend := d2
        have hmt := B.append_term_ne_zero ha g2 hty
        refine ⟨c.frm.trans (B.node_id hb hi'), c.term, ?_, d1⟩
        obtain ⟨hok, hag⟩ := B.msg_ok ha g2 hty
        cases append_call (B.node_inv ha hi) hty hok (hag i st hi) hcall with
        | noacc _ _ hq =>
          rcases hq x hx with e | e | e | ⟨_, _, e⟩
          · exact absurd e hold
          · exact absurd e hidx
          · rw [hack.2] at e; cases e
          · rcases e with e | e
            · rw [c.term, ← e]; exact hmt
            · exact absurd e hmt
        | acc _ _ _ _ ht _ =>
          rcases ht with e | e
          · rw [c.term, ← e]; exact hmt
          · exact absurd e hmt

/-- **the accepting append responses a step queues** (positive index): they carry the node's id and
its (non-zero) term after the step, and the node is a follower then -/
theorem Facts0.step_ack (B : Facts0 q cfg h) {n : Nat} {a b : Sys} (ha : h[n]? = some a)
    (hb : h[n + 1]? = some b) {k : Nat}
    {st st' : NState} (hka : a.node k = some st) (hkb : b.node k = some st') (hs : Stp q a b k st st')
    {x : Message} (hx : x ∈ st'.raft.msgs) (hack : isAck x) (hidx : x.index ≠ 0) :
    x ∈ st.raft.msgs ∨ (x.frm = k ∧ x.term = st'.raft.term ∧ x.term ≠ 0 ∧
      st'.raft.state = .follower) := by
  cases hs with
  | call rnd op res hop hco _ hns hpn _ hcall hnet _ =>
    exact B.fresh_ack ha hb hka hkb hnet hop hco hns hpn hcall hx hack hidx
  | snap rnd m hm _ hty _ hout _ =>
    cases hout with
    | skip hr => rw [hr] at hx; exact .inl hx
    | handled y hsf ht _ hid hq _ _ hfrm hxt _ _ =>
      rw [hq] at hx
      rcases List.mem_append.1 hx with c | c
      · exact .inl c
      · right
        rw [List.mem_singleton.1 c]
        have hmt := B.snap_term_ne_zero ha hm hty
        refine ⟨by rw [hfrm, hid]; exact B.node_id ha hka, hxt, ?_, hsf⟩
        rcases ht with e | e
        · rw [hxt, ← e]; exact hmt
        · exact absurd e hmt
  | psnap rnd _ hout _ _ => rw [hout.msgs] at hx; exact .inl hx
  | send _ _ hq _ _ _ => rw [hq] at hx; cases hx
  | restart c rnd hboot _ => rw [(CV.boot_booted c _ rnd st' hboot).msgs] at hx; cases hx

/-- the term of the stepping node does not decrease, unless the step is a restart -/
theorem Facts0.stp_term_le (B : Facts0 q cfg h) {n : Nat} {a b : Sys} (ha : h[n]? = some a)
    (hb : h[n + 1]? = some b) {k : Nat}
    {st st' : NState} (hka : a.node k = some st) (hkb : b.node k = some st')
    (hs : Stp q a b k st st') :
    st.raft.term ≤ st'.raft.term ∨ st'.raft.msgs = [] := by
  cases hs with
  | call rnd op res hop hco _ hns hpn _ hcall hnet _ =>
    exact .inl (B.call_out ha hb hka hkb hnet hop hco hns hpn hcall).rt.le
  | snap rnd m _ _ _ _ hout _ =>
    cases hout with
    | skip hr => exact .inl (by rw [hr]; exact Nat.le_refl _)
    | handled y _ _ hle _ _ _ _ _ _ _ _ => exact .inl hle
  | psnap rnd _ hout _ _ =>
    cases hout with
    | noop hr => exact .inl (by rw [hr]; exact Nat.le_refl _)
    | done sn L _ hr _ _ _ _ _ _ _ _ _ => exact .inl (by rw [hr]; exact Nat.le_refl _)
  | send _ _ hq _ _ _ => exact .inr hq
  | restart c rnd hboot _ => exact .inr (CV.boot_booted c _ rnd st' hboot).msgs

/-- **the accepting append responses that are around**: a queued one carries its sender and a term the sender has reached; one in the transport carries a term its sender never falls below -/
theorem Facts0.ack_inv (B : Facts0 q cfg h) : ∀ (n : Nat) (s : Sys), h[n]? = some s → AckQ s ∧ AckN s := by
  refine hist_induct h _ ?_ ?_
  · intro s h0
    have hinit := hist_init B.hist s h0
    refine ⟨fun v st hv a ha => ?_, fun a ha => ?_⟩
    · rw [init_queue hinit v st hv] at ha; cases ha
    · rw [hinit.1] at ha; cases ha
  · intro n a b ha hb ⟨ihq, ihn⟩
    have hstep := (B.rels n a b ha hb).1
    obtain ⟨k, stk, stk', hka, hkb, hoth, hs⟩ := B.stp ha hb
    refine ⟨fun v stv hv x hx hack hidx => ?_, fun x hx hack hidx => ?_⟩
    · by_cases hvk : v = k
      · subst hvk
        rw [hkb] at hv; cases hv
        rcases B.step_ack ha hb hka hkb hs hx hack hidx with c | ⟨c1, c2, c3, _⟩
        · obtain ⟨d1, d2, d3⟩ := ihq v stk hka x c hack hidx
          rcases B.stp_term_le ha hb hka hkb hs with e | e
          · exact ⟨d1, Nat.le_trans d2 e, d3⟩
          · rw [e] at hx; cases hx
        · exact ⟨c1, Nat.le_of_eq c2, c3⟩
      · rw [hoth v hvk] at hv
        exact ihq v stv hv x hx hack hidx
    · rcases hs.net_sub x hx with g | g
      · exact ⟨(ihn x g hack hidx).1.step hstep, (ihn x g hack hidx).2⟩
      · -- the queue of the stepping node was handed over: the step is a `send`
        obtain ⟨d1, d2, d3⟩ := ihq k stk hka x g hack hidx
        refine ⟨?_, d3⟩
        cases hs with
        | send hp _ _ _ _ _ =>
          have hfa : FloorAt a x.frm x.term := by
            intro st2 hk2
            rw [d1, hka] at hk2; cases hk2
            exact ⟨d2, by rw [hp.1]; exact d2⟩
          exact hfa.step hstep
        | call _ _ _ _ _ _ _ _ _ _ hnet _ =>
          rw [hnet] at hx
          exact (ihn x hx hack hidx).1.step hstep
        | snap _ _ _ _ _ _ _ hnet =>
          rw [hnet] at hx
          exact (ihn x hx hack hidx).1.step hstep
        | psnap _ _ _ _ hnet =>
          rw [hnet] at hx
          exact (ihn x hx hack hidx).1.step hstep
        | restart _ _ _ hnet =>
          rw [hnet] at hx
          exact (ihn x hx hack hidx).1.step hstep

/-- an acknowledgement of a term below the floor of its sender that is around after a step was around before it -/
theorem Facts0.ack_back (B : Facts0 q cfg h) {n : Nat} {a b : Sys} (ha : h[n]? = some a)
    (hb : h[n + 1]? = some b) {v T : Nat} (hf : FloorAt a v T) {x : Message} (hack : isAck x)
    (hidx : x.index ≠ 0) (hfrm : x.frm = v) (ht : x.term < T) (hp : Pending b v x) :
    Pending a v x := by
  have hstep := (B.rels n a b ha hb).1
  have hfb : FloorAt b v T := hf.step hstep
  obtain ⟨hq, _⟩ := B.ack_inv n a ha
  obtain ⟨k, stk, stk', hka, hkb, hoth, hs⟩ := B.stp ha hb
  rcases hp with g | ⟨stv, hv, g⟩
  · rcases hs.net_sub x g with c | c
    · exact .inl c
    · have := (hq k stk hka x c hack hidx).1
      rw [hfrm] at this
      subst this
      exact .inr ⟨stk, hka, c⟩
  · by_cases hvk : v = k
    · subst hvk
      rw [hkb] at hv; cases hv
      rcases B.step_ack ha hb hka hkb hs g hack hidx with c | ⟨_, c2, _, _⟩
      · exact .inr ⟨stk, hka, c⟩
      · have := (hfb stk' hkb).1
        omega
    · rw [hoth v hvk] at hv
      exact .inr ⟨stv, hv, g⟩

/-- **no late acknowledgements** -/
theorem Facts0.ack_fwd (B : Facts0 q cfg h) {v T : Nat} {x : Message} (hack : isAck x)
    (hidx : x.index ≠ 0) (hfrm : x.frm = v) (ht : x.term < T) :
    ∀ (d n : Nat) (a b : Sys), h[n]? = some a → h[n + d]? = some b → FloorAt a v T →
      Pending b v x → Pending a v x := by
  intro d
  induction d with
  | zero => intro n a b ha hb _ hp; rw [Nat.add_zero, ha] at hb; cases hb; exact hp
  | succ d ih =>
    intro n a b ha hb hf hp
    have hlt : n + 1 < h.length := by
      rcases Nat.lt_or_ge (n + 1) h.length with c | c
      · exact c
      · have : h.length ≤ n + (d + 1) := by omega
        rw [List.getElem?_eq_none this] at hb; cases hb
    have h1 : h[n + 1]? = some h[n + 1] := List.getElem?_eq_some_iff.2 ⟨hlt, rfl⟩
    have hstep := (B.rels n a _ ha h1).1
    have hp1 := ih (n + 1) _ b h1 (by rw [← hb]; congr 1; omega) (hf.step hstep) hp
    exact B.ack_back ha h1 hf hack hidx hfrm ht hp1


/-- a step of a node that changes neither role, term, queue nor the end of the log -/
structure Quiet (st st' : NState) : Prop where
  state : st'.raft.state = st.raft.state
  term : st'.raft.term = st.raft.term
  msgs : st'.raft.msgs = st.raft.msgs
  last : st'.raft.raftLog.lastIndex = st.raft.raftLog.lastIndex
  lterm : st'.raft.raftLog.lastTerm = st.raft.raftLog.lastTerm

theorem quiet_of_raft {st st' : NState} {rnd : Option Nat}
    (hr : st'.raft = { st.raft with nextRand := rnd }) : Quiet st st' := by
  constructor <;> rw [hr]

theorem quiet_psnap {st st' : NState} {rnd : Option Nat} (hinv : st.raft.raftLog.Inv)
    (hout : PersistOut st st' rnd) : Quiet st st' := by
  cases hout with
  | noop hr => exact quiet_of_raft hr
  | done sn L _ hr hinvL habs _ _ _ _ _ _ _ =>
    refine ⟨by rw [hr], by rw [hr], by rw [hr], ?_, ?_⟩
    · rw [hr]; show L.lastIndex = _; rw [hinvL.lastIndex_abs, hinv.lastIndex_abs, habs]
    · rw [hr]; show L.lastTerm = _; rw [hinvL.lastTerm_abs, hinv.lastTerm_abs, habs]

/-- what a step does to the role, the term, the queue and the end of the log of its node, unless it is
an ordinary call: nothing, or the node is a follower afterwards -/
theorem Facts0.stp_quiet (B : Facts0 q cfg h) {n : Nat} {a b : Sys} (ha : h[n]? = some a) {k : Nat}
    {st st' : NState} (hka : a.node k = some st) (hs : Stp q a b k st st') :
    (∃ rnd op res, (appOp op = true ∨ ∃ m, op = .step m ∧ m ∈ a.net ∧ m.to = k) ∧
      (∀ j, op = .compact j → CompactOk st.raft.raftLog j) ∧
      (∀ m, op = .step m → m.msgType ≠ .msgSnapshot) ∧
      st.raft.raftLog.unstable.snapshot = none ∧ Node.call st rnd op = .ok (res, st') ∧
      b.net = a.net) ∨
    (Quiet st st' ∧ b.net = a.net) ∨ (st'.raft.state = .follower ∧ b.net = a.net) ∨
    (st'.raft.msgs = [] ∧ st'.raft.state = st.raft.state ∧ st'.raft.term = st.raft.term ∧
      st'.raft.raftLog = st.raft.raftLog ∧ b.net = a.net ++ st.raft.msgs) := by
  cases hs with
  | call rnd op res hop hco _ hns hpn _ hcall hnet _ =>
    exact .inl ⟨rnd, op, res, hop, hco, hns, hpn, hcall, hnet⟩
  | snap rnd m _ _ _ _ hout hnet =>
    cases hout with
    | skip hr => exact .inr (.inl ⟨quiet_of_raft hr, hnet⟩)
    | handled y hsf _ _ _ _ _ _ _ _ _ _ => exact .inr (.inr (.inl ⟨hsf, hnet⟩))
  | psnap rnd _ hout _ hnet => exact .inr (.inl ⟨quiet_psnap (B.node_inv ha hka) hout, hnet⟩)
  | send _ _ hq hsame hnet _ => exact .inr (.inr (.inr ⟨hq, hsame.2.2, hsame.2.1, hsame.1, hnet⟩))
  | restart c rnd hboot hnet => exact .inr (.inr (.inl ⟨(CV.boot_booted c _ rnd st' hboot).state, hnet⟩))

/-- **a candidate's vote requests describe the end of its log** -/
theorem Facts0.req_inv (B : Facts0 q cfg h) : ∀ (n : Nat) (s : Sys), h[n]? = some s → ReqInv s := by
  have hall1 := (hist_all B.hist).1
  refine hist_induct h _ ?_ ?_
  · intro s h0 x st hx hs
    obtain ⟨c, store, rnd, _, hb⟩ := (hist_init B.hist s h0).2 x st hx
    rw [(CV.boot_booted c store rnd st hb).state] at hs; cases hs
  · intro n a b ha hb ih
    have I1 := hall1 a (mem_of_get ha)
    obtain ⟨k, stk, stk', hka, hkb, hoth, hstp⟩ := B.stp ha hb
    -- a real vote request of `x` that was around before the step, at a term `x` had not reached
    have noOld : ∀ x st q, a.node x = some st → (q ∈ a.net ∨ q ∈ st.raft.msgs) →
        q.msgType = .msgRequestVote → q.frm = x → q.term ≤ st.raft.term := by
      intro x st q hx hq hty hfrm
      have hrv : CV.isRVm q = true := by simp [CV.isRVm, hty]
      have hge : CV.Ge st.raft q.term (tgt q) := by
        rcases hq with g | g
        · obtain ⟨stq, h1, hok, _⟩ := I1.net q g hrv
          rw [hfrm, hx] at h1; cases h1
          exact hok.2.2.2.1
        · exact (I1.queue x st hx q g hrv).2.2.2.1
      rcases hge with c | ⟨c, _⟩ <;> omega
    intro x stx hx hs q hq hty hfrm hterm
    by_cases hxk : x = k
    · subst hxk
      rw [hkb] at hx; cases hx
      rcases B.stp_quiet ha hka hstp with ⟨rnd, op, res, hop, hnc, hns, hpn, h4, hnet⟩ |
        ⟨hqt, hnet⟩ | ⟨hf, _⟩ | ⟨f1, f2, f4, f3, hnet⟩
      · have g := B.call_out ha hb hka hkb hnet hop hnc hns hpn h4
        have hL := g.rt
        -- a request queued in this call is accurate
        have fresh : q ∈ stk'.raft.msgs → q ∉ stk.raft.msgs →
            q.index = stk'.raft.raftLog.lastIndex ∧ stk'.raft.raftLog.lastTerm = .ok q.logTerm := by
          intro hq1 hq2
          rcases g.qrq q hq1 hty with c | c
          · exact absurd c hq2
          · exact ⟨c.last, c.lt⟩
        rcases hL.cand hs with c | ⟨c1, c2⟩
        · have hold : ¬ (q ∈ a.net ∨ q ∈ stk.raft.msgs) := by
            intro hc
            have := noOld x stk q hka hc hty hfrm
            omega
          rcases hq with g1 | g1
          · rw [hnet] at g1; exact absurd (.inl g1) hold
          · exact fresh g1 (fun hc => hold (.inr hc))
        · have hns' := B.node_step ha hb hka hkb
          have hi1 := B.node_inv ha hka
          have hi2 := B.node_inv hb hkb
          have he12 : stk'.raft.raftLog.lastIndex = stk.raft.raftLog.lastIndex ∧
              stk'.raft.raftLog.lastTerm = stk.raft.raftLog.lastTerm := by
            rw [hi1.lastIndex_abs, hi2.lastIndex_abs, hi1.lastTerm_abs, hi2.lastTerm_abs]
            cases hns' with
            | same hl => rw [hl]; exact ⟨rfl, rfl⟩
            | grew es hg => rw [hg.leader] at hs; cases hs
            | acc m _ _ _ _ _ _ hs' _ => rw [hs'] at hs; cases hs
            | restart _ hs' _ => rw [hs'] at hs; cases hs
            | compacted j ho =>
              rw [ho.abs]
              obtain ⟨k1, k2⟩ := compactTo_last _ (j - 1) (ho.lt hi1).1
              exact ⟨k2, k1⟩
            | restored m _ _ _ _ _ _ _ hs' _ => rw [hs'] at hs; cases hs
          obtain ⟨e1, e2⟩ := he12
          by_cases hold : q ∈ a.net ∨ q ∈ stk.raft.msgs
          · have := ih x stk hka c2 q hold hty hfrm (by omega)
            rw [e1, e2]; exact this
          · rcases hq with g1 | g1
            · rw [hnet] at g1; exact absurd (.inl g1) hold
            · exact fresh g1 (fun hc => hold (.inr hc))
      · rw [hqt.last, hqt.lterm]
        rw [hnet, hqt.msgs] at hq
        exact ih x stk hka (by rw [← hqt.state]; exact hs) q hq hty hfrm (by rw [← hqt.term]; exact hterm)
      · rw [hf] at hs; cases hs
      · rw [f3]
        refine ih x stk hka (by rw [← f2]; exact hs) q ?_ hty hfrm (by rw [← f4]; exact hterm)
        rcases hq with g | g
        · rw [hnet] at g; exact (List.mem_append.1 g).imp (fun c => c) (fun c => c)
        · rw [f1] at g; cases g
    · rw [hoth x hxk] at hx
      refine ih x stx hx hs q ?_ hty hfrm hterm
      rcases hq with g | g
      · rcases hstp.net_sub q g with c | c
        · exact .inl c
        · -- a queued real vote request carries its sender
          have hrv : CV.isRVm q = true := by simp [CV.isRVm, hty]
          have := (I1.queue k stk hka q c hrv).1
          exact absurd (hfrm.symm.trans this) hxk
      · exact .inr g

/-- a real vote request of `x` that is around carries a term `x` has reached -/
theorem Facts0.req_term_le (B : Facts0 q cfg h) {n : Nat} {a : Sys} (ha : h[n]? = some a) {x : Nat}
    {st : NState} {q : Message} (hx : a.node x = some st) (hq : q ∈ a.net ∨ q ∈ st.raft.msgs)
    (hty : q.msgType = .msgRequestVote) (hfrm : q.frm = x) : q.term ≤ st.raft.term := by
  have I1 := (hist_all B.hist).1 a (mem_of_get ha)
  have hrv : CV.isRVm q = true := by simp [CV.isRVm, hty]
  have hge : CV.Ge st.raft q.term (tgt q) := by
    rcases hq with g | g
    · obtain ⟨stq, h1, hok, _⟩ := I1.net q g hrv
      rw [hfrm, hx] at h1; cases h1
      exact hok.2.2.2.1
    · exact (I1.queue x st hx q g hrv).2.2.2.1
  rcases hge with c | ⟨c, _⟩ <;> omega

/-- a candidate or leader whose vote request for its term is in the transport has no acknowledgement with a positive index queued -/
theorem Facts0.cand_q (B : Facts0 q cfg h) : ∀ (n : Nat) (s : Sys), h[n]? = some s → CandQ s := by
  have hall1 := (hist_all B.hist).1
  refine hist_induct h _ ?_ ?_
  · intro s h0 x st hx _ _ a ha
    rw [init_queue (hist_init B.hist s h0) x st hx] at ha; cases ha
  · intro n a b ha hb ih
    have I1 := hall1 a (mem_of_get ha)
    obtain ⟨k, stk, stk', hka, hkb, hoth, hstp⟩ := B.stp ha hb
    intro x stx hx hs ⟨q, hq, hty, hfrm, hterm⟩ y hy hack
    -- the request was in the transport before, unless the step is a `send` of the requester
    by_cases hxk : x = k
    · subst hxk
      rw [hkb] at hx; cases hx
      rcases B.stp_quiet ha hka hstp with ⟨rnd, op, res, hop, hnc, hns, hpn, h4, hnet⟩ |
        ⟨hqt, hnet⟩ | ⟨hf, _⟩ | ⟨f1, _, _, _, _⟩
      · rw [hnet] at hq
        apply Classical.byContradiction
        intro hidx
        have hL := (B.call_out ha hb hka hkb hnet hop hnc hns hpn h4).rt
        have hqt := B.req_term_le ha hka (.inl hq) hty hfrm
        rcases B.fresh_ack ha hb hka hkb hnet hop hnc hns hpn h4 hy hack hidx with c | ⟨_, _, _, c⟩
        · have hold : (stk.raft.state = .candidate ∨ stk.raft.state = .leader) ∧
              stk.raft.term = stk'.raft.term := by
            rcases hs with hs | hs
            · rcases hL.cand hs with d | ⟨d1, d2⟩
              · omega
              · exact ⟨.inl d2, d1⟩
            · rcases hL.lead hs with d | ⟨d1, d2⟩
              · omega
              · exact ⟨d2, d1⟩
          exact hidx (ih x stk hka hold.1 ⟨q, hq, hty, hfrm, by rw [hold.2]; exact hterm⟩ y c hack)
        · rcases hs with hs | hs <;> rw [c] at hs <;> cases hs
      · rw [hnet] at hq
        rw [hqt.msgs] at hy
        exact ih x stk hka (by rw [← hqt.state]; exact hs)
          ⟨q, hq, hty, hfrm, by rw [← hqt.term]; exact hterm⟩ y hy hack
      · rw [hf] at hs; rcases hs with hs | hs <;> cases hs
      · rw [f1] at hy; cases hy
    · rw [hoth x hxk] at hx
      refine ih x stx hx hs ⟨q, ?_, hty, hfrm, hterm⟩ y hy hack
      rcases hstp.net_sub q hq with c | c
      · exact c
      · have hrv : CV.isRVm q = true := by simp [CV.isRVm, hty]
        have := (I1.queue k stk hka q c hrv).1
        exact absurd (hfrm.symm.trans this) hxk

/-- **a leader's queue holds no acknowledgement** -/
theorem Facts0.leader_no_ack (B : Facts0 q cfg h) {n : Nat} {s : Sys} (hn : h[n]? = some s) {l : Nat}
    {st : NState} (hl : s.node l = some st) (hs : st.raft.state = .leader) :
    ∀ a ∈ st.raft.msgs, isAck a → a.index = 0 := by
  have hall := hist_all B.hist
  have hm := mem_of_get hn
  have I1 := hall.1 s hm
  have I2 := hall.2.1 cfg B.fix s hm
  obtain ⟨Q, hQ, hQg⟩ := I2.lead l st hl hs
  obtain ⟨j, hj, hjl⟩ := B.nolone l Q hQ
  rcases hQg j hj with c | ⟨g, hg, g1, g2, g3, g4, g5⟩
  · exact absurd c hjl
  · have hrv : CV.isRVm g = true := by simp [CV.isRVm, g1, g2]
    obtain ⟨stj, _, hok, _⟩ := I1.net g hg hrv
    obtain ⟨q, hq, q1, q2, q3⟩ := hok.2.2.2.2 g1
    exact B.cand_q n s hn l st hl (.inr hs) ⟨q, hq, q1, by rw [q2, g4], by rw [q3, g5]⟩

/-- **provenance of the accepting append responses** (the record is `Cluster.AckGen`), also for
those that answer a `MsgSnapshot` -/
theorem Facts0.ack_prov (B : Facts0 q cfg h) : ∀ (n : Nat) (s : Sys), h[n]? = some s →
    (∀ i st, s.node i = some st → ∀ x ∈ st.raft.msgs, (isAck x ∧ x.index ≠ 0) →
      Gen (AckGen h) n i x) ∧
    (∀ x ∈ s.net, (isAck x ∧ x.index ≠ 0) → ∃ i, Gen (AckGen h) n i x) := by
  refine hist_induct h _ ?_ ?_
  · intro s h0
    have hinit : Init s := hist_init B.hist s h0
    refine ⟨fun i st hi x hx _ => ?_, fun x hx _ => ?_⟩
    · rw [init_queue hinit i st hi] at hx; cases hx
    · rw [hinit.1] at hx; cases hx
  · intro n a b ha hb ⟨ihq, ihn⟩
    obtain ⟨k, st, st', hka, hkb, hoth, hs⟩ := B.stp ha hb
    have up : ∀ {i x}, Gen (AckGen h) n i x → Gen (AckGen h) (n + 1) i x :=
      fun g => g.mono (Nat.le_succ n)
    have hqk : ∀ x ∈ st'.raft.msgs, (isAck x ∧ x.index ≠ 0) → Gen (AckGen h) (n + 1) k x := by
      intro x hx hk
      rcases B.step_ack ha hb hka hkb hs hx hk.1 hk.2 with c | ⟨c1, c2, _, _⟩
      · exact up (ihq k st hka x c hk)
      · exact ⟨n + 1, Nat.le_refl _, b, st', hb, hkb, hx, c2, c1⟩
    refine ⟨fun i sti hi x hx hk => ?_, fun x hx hk => ?_⟩
    · by_cases hik : i = k
      · subst hik
        rw [hkb] at hi; cases hi
        exact hqk x hx hk
      · rw [hoth i hik] at hi
        exact up (ihq i sti hi x hx hk)
    · rcases hs.net_sub x hx with g | g
      · exact (ihn x g hk).imp (fun _ g => up g)
      · exact ⟨k, up (ihq k st hka x g hk)⟩

end Snap5
end Cluster
end RaftModel
