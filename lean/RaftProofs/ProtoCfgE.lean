import RaftProofs.ProtoCfgDefs

/-!
An invariant of P that the commit layer never needed: **a vote decided before its term had a
leader was decided against a candidate log whose last term is older than the term.**

(`InvE`, for every message in an outbox and every released one: a vote request advertises a last term
below its own term unless the term already has a leader — an entry of term `t` exists only once a
leader of `t` exists; a grant flagged `early` was generated before any leader of its term existed,
against such a request.)

It is what excludes a second `win` in a term by a candidate whose log holds entries of that very
term (needed for the same-term part of `win_adj_redundant`).
-/
namespace RaftModel.P

/-- what `InvE` says of one message -/
def EOk (s : PSys) : OMsg → Prop
  | .voteReq t _ lt _ => lt < t ∨ Elected s t
  | .grant t _ _ gh => gh.early = true → gh.clt < t
  | .ack .. => True

structure InvE (s : PSys) : Prop where
  out : ∀ i, ∀ m ∈ (s.nodes i).outbox, EOk s m
  rel : ∀ m, Released s m → EOk s m

theorem InvE.rg {s : PSys} (h : InvE s) : ∀ p ∈ s.rgv, p.2.early = true → p.2.clt < p.1.term :=
  fun p hp => h.rel (.grant p.1.term p.1.voter p.1.cand p.2) hp

theorem invE_init : InvE init :=
  ⟨fun i m hm => by simp [init] at hm, fun m hm => by cases m <;> simp [Released, init] at hm⟩

theorem elected_step {s s' : PSys} {e : Event} (h : applyEvent s e = .ok s') {t : Nat} (ht : Elected s t) :
    Elected s' t := by
  rcases election_frame h with ⟨i, cfg, q, rfl⟩ | ⟨hel, _⟩
  · obtain ⟨_, rfl⟩ := of_guard_ok h
    exact ht.imp fun j hj => List.mem_cons_of_mem _ hj
  · exact ht.imp fun j hj => hel ▸ hj

/-- the last term of a node's log is below the node's term unless that term has a leader already -/
theorem lastTerm_lt_or_elected {s : PSys} (hL : InvL s) (i : Nat) (hpos : 0 < (s.nodes i).term) :
    lastTerm (s.nodes i).log < (s.nodes i).term ∨ Elected s (s.nodes i).term := by
  by_cases hel : Elected s (s.nodes i).term
  · exact Or.inr hel
  · left
    by_cases hne : (s.nodes i).log = []
    · rw [hne]; simpa [lastTerm] using hpos
    · have hlen : 0 < (s.nodes i).log.length := List.length_pos_iff.mpr hne
      obtain ⟨x, hx, hxt⟩ := termAt_some hlen (Nat.le_refl _)
      rw [lastTerm_eq_termAt, hxt]
      have hle := (hL.tle i).1 x (List.mem_of_getElem? hx)
      have hne' : x.term ≠ (s.nodes i).term := by
        intro heq
        have := PFL_mem (keep_log s hL i) _ x hx
        rw [heq, hL.nole _ (fun j hj => hel ⟨j, hj⟩)] at this
        simp at this
      omega

/-- no case split on the event: what holds of a message stays true (elections are only added), and it
holds of the messages `campaign` and `grant` generate -/
theorem invE_step (s s' : PSys) (e : Event)
    (h : applyEvent s e = .ok s') (hL : InvL s) (hE : InvE s) : InvE s' := by
  have keep : ∀ m, EOk s m → EOk s' m := by
    intro m hm
    cases m with
    | voteReq t c lt li => exact hm.imp id (elected_step h)
    | grant t v c gh => exact hm
    | ack t f idx pre => trivial
  have ofAck : ∀ m, m.isAck = true → EOk s' m := by
    intro m hm
    cases m with
    | ack t f idx pre => trivial
    | voteReq t c lt li => cases hm
    | grant t v c gh => cases hm
  refine ⟨fun i m hm => ?_, fun m hm => ?_⟩
  · rcases outbox_step h i with ⟨hs, _⟩ | ⟨_, hs, _⟩
    · rcases hs m hm with ho | hg
      · exact keep m (hE.out i m ho)
      · cases hg with
        | campReq _ ht => exact (lastTerm_lt_or_elected hL i ht).imp id (elected_step h)
        | campGrant _ ht =>
          exact fun he => (lastTerm_lt_or_elected hL i ht).resolve_right (not_elected_of_early he)
        | grant c r hr ht _ _ _ =>
          intro he
          rcases hE.rel (.voteReq r.term r.cand r.lastTerm r.lastIdx) hr with h1 | h1
          · exact ht ▸ h1
          · exact absurd (ht ▸ h1) (not_elected_of_early he)
        | ackApp | ackCommitted | ackSelf | ackSnap => trivial
    · exact ofAck m (hs m hm).1
  · rcases released_step h m hm with hr | ⟨i, _, ho | hd⟩
    · exact keep m (hE.rel m hr)
    · exact keep m (hE.out i m ho.1)
    · exact ofAck m hd.1

theorem invE_reachR (s : PSys) (h : Reach s) : InvE s := by
  induction h with
  | init => exact invE_init
  | step e hr hs ih => exact invE_step _ _ e hs (invL_reachR _ hr) ih

end RaftModel.P
