import RaftProofs.ClusterLogA
import RaftProofs.RaftNodeC05
import RaftProps.C13b
import RaftProps.C14b
import RaftProofs.ClusterVoteF

/-!
Cluster-level Log Matching, helper lemmas part B: `LogSameS` ("same logical log over the same stored entries"),
and the vocabulary of the per-call relation of the layer without batching, `K a r` ("`r` is an intermediate state
of a call that started in `a`, the logical log and the storage's entries are those of `a`, and every `MsgAppend`
queued since is a sub-log of that logical log"; `K` carries `batchAppend = false`).  The handlers keep the
relations `N` and `X` of `RaftProofs/ClusterBatchB.lean`; `K` is what `X` says when batching is off (`X.k`).
-/
namespace RaftModel

theorem abs_Contig {l : RaftLog} (h : l.Inv) : l.abs.Contig := by
  have := RaftProps.C14.abs_contig h
  unfold LLog.Contig
  exact this

/-! ### same logical log, same stored entries -/

/-- `LogSame` and the storage holds the same entries and snapshot point -/
structure LogSameS (l l' : RaftLog) : Prop where
  same : LogSame l l'
  ents : l'.store.entries = l.store.entries
  smeta : l'.store.snapshotMetadata = l.store.snapshotMetadata

theorem LogSameS.rfl {l : RaftLog} : LogSameS l l := ⟨LogSame.rfl, Eq.refl _, Eq.refl _⟩

theorem LogSameS.trans {a b c : RaftLog} (h1 : LogSameS a b) (h2 : LogSameS b c) : LogSameS a c :=
  ⟨h1.same.trans h2.same, h2.ents.trans h1.ents, h2.smeta.trans h1.smeta⟩

theorem LogSameS.of_store {l l' : RaftLog} (h : LogSame l l') (hs : l'.store = l.store) :
    LogSameS l l' := ⟨h, by rw [hs], by rw [hs]⟩

theorem logS_commitTo {l l' : RaftLog} {to : Nat} (h : l.commitTo to = .ok l') : LogSameS l l' :=
  .of_store (c05_commitTo_same h) (RaftModel.C06.commitTo_store h)

theorem logS_maybeCommit {l l' : RaftLog} {mi t : Nat} {b : Bool}
    (h : l.maybeCommit mi t = .ok (l', b)) : LogSameS l l' :=
  .of_store (c05_maybeCommit_same h) (Raft.CV.maybeCommit_store h)

theorem logS_maybePersist {l l' : RaftLog} {index term : Nat} {b : Bool} (hinv : l.Inv)
    (h : l.maybePersist index term = .ok (l', b)) : LogSameS l l' := by
  obtain ⟨l2, b2, h2, hinv', habs, hc, -⟩ := RaftProps.C14.C14_maybePersist_spec l hinv index term
  rw [h] at h2
  cases h2
  have hsto := RaftModel.C06.maybePersist_store h
  exact ⟨⟨habs, by rw [hinv'.lastIndex_abs, hinv.lastIndex_abs, habs], fun _ => hinv', by omega⟩,
    by rw [hsto], by rw [hsto]⟩

theorem logS_limit (l : RaftLog) (n : Nat) :
    LogSameS l { l with maxApplyUnpersistedLogLimit := n } :=
  .of_store (c05_limit_same l n) rfl

theorem logS_snapshot (l : RaftLog) (ri : Nat) : LogSameS l (l.snapshot ri).1 := by
  refine ⟨c05_snapshot_same l ri, ?_, ?_⟩
  all_goals
    have hst := (RaftProps.C20.storeSnapshot_spec l.store ri).1
    unfold RaftLog.snapshot
    split
    · split
      · rfl
      · rcases hst with h1 | h1 <;> (dsimp only; rw [h1])
    · rcases hst with h1 | h1 <;> (dsimp only; rw [h1])

namespace Raft

/-- a freshly queued `MsgAppend`: numbered from its anchor, and a sub-log of `g` -/
def SubW (x : Message) (g : LLog) : Prop :=
  ContigFrom (x.index + 1) x.entries ∧ Sub (msgLog x) g

/-- anchored: `r` holds the logical log and the stored entries of `a`, batching is off as in `a`, and
every queued `MsgAppend` was queued in `a` or is a sub-log of that logical log -/
structure KP (a : Raft) (l : RaftLog) (b : Bool) (ms : List Message) : Prop where
  ls : LogSameS a.raftLog l
  ba : b = a.batchAppend
  q : ∀ x ∈ ms, x.msgType = .msgAppend → x ∈ a.msgs ∨ SubW x a.raftLog.abs

/-- `KP` of the three fields of `r` it reads (a definition, so that structure updates of the other
fields are transparent to it) -/
def K0 (a r : Raft) : Prop := KP a r.raftLog r.batchAppend r.msgs

theorem K0.ls {a r : Raft} (h : K0 a r) : LogSameS a.raftLog r.raftLog := KP.ls h
theorem K0.ba {a r : Raft} (h : K0 a r) : r.batchAppend = a.batchAppend := KP.ba h
theorem K0.q {a r : Raft} (h : K0 a r) :
    ∀ x ∈ r.msgs, x.msgType = .msgAppend → x ∈ a.msgs ∨ SubW x a.raftLog.abs := KP.q h
theorem K0.abs {a r : Raft} (h : K0 a r) : r.raftLog.abs = a.raftLog.abs := h.ls.same.abs
theorem K0.inv {a r : Raft} (h : K0 a r) (hi : a.raftLog.Inv) : r.raftLog.Inv := h.ls.same.inv hi

/-- the per-call relation, under the standing assumptions on the start state: its log satisfies the
representation invariant and batching is off -/
def K (a r : Raft) : Prop := a.raftLog.Inv → a.batchAppend = false → K0 a r


/-- any structure update that keeps `raftLog`, `batchAppend` and `msgs` keeps `K` -/
theorem K.mk' {a r : Raft} {x1 x2 x3 : Nat} {x4 : List ReadState} {x6 x7 x8 : Nat}
    {x9 : StateRole} {x10 : Bool} {x11 : Nat}
    {x12 : Option Nat} {x13 : Nat} {x14 : ReadOnly} {x15 x16 : Nat} {x17 x18 x19 x21 : Bool}
    {x22 x23 x24 x25 x26 : Nat} {x27 : Int} {x28 : UncommittedState} {x29 : Nat}
    {x30 : ProgressTracker} {x32 : Option Nat} (h0 : K a r) :
    K a { term := x1, vote := x2, id := x3, readStates := x4, raftLog := r.raftLog,
          maxInflight := x6, maxMsgSize := x7, pendingRequestSnapshot := x8, state := x9,
          promotable := x10, leaderId := x11, leadTransferee := x12,
          pendingConfIndex := x13, readOnly := x14, electionElapsed := x15,
          heartbeatElapsed := x16, checkQuorum := x17, preVote := x18,
          skipBcastCommit := x19, batchAppend := r.batchAppend, disableProposalForwarding := x21,
          heartbeatTimeout := x22, electionTimeout := x23, randomizedElectionTimeout := x24,
          minElectionTimeout := x25, maxElectionTimeout := x26, priority := x27,
          uncommittedState := x28, maxCommittedSizePerReady := x29, prs := x30, msgs := r.msgs,
          nextRand := x32 } := fun hi hb => ⟨(h0 hi hb).ls, (h0 hi hb).ba, (h0 hi hb).q⟩

/-- a structure update of `raftLog` by a log that represents the same logical log over the same
stored entries -/
theorem K.log {a r : Raft} {l : RaftLog} (hl : LogSameS r.raftLog l) (h0 : K a r) :
    K a { r with raftLog := l } :=
  fun hi hb => ⟨(h0 hi hb).ls.trans hl, (h0 hi hb).ba, (h0 hi hb).q⟩

theorem K.rfl' {r : Raft} : K0 r r := ⟨LogSameS.rfl, Eq.refl _, fun _ hx _ => .inl hx⟩

theorem K.rfl {r : Raft} : K r r := fun _ _ => K.rfl'

theorem K0.trans {a b c : Raft} (h1 : K0 a b) (h2 : K0 b c) : K0 a c := by
  refine ⟨h1.ls.trans h2.ls, h2.ba.trans h1.ba, fun x hx hty => ?_⟩
  rcases h2.q x hx hty with h | h
  · exact h1.q x h hty
  · right; rw [← h1.abs]; exact h

/-- `K` from `r` on, composed with `K0` up to `r` -/
theorem K0.then {a r r' : Raft} (h : K0 a r) (hi : a.raftLog.Inv) (hb : a.batchAppend = false)
    (h2 : K r r') : K0 a r' :=
  h.trans (h2 (h.inv hi) (h.ba.trans hb))

theorem K.trans {a r r' : Raft} (h0 : K a r) (h : K r r') : K a r' :=
  fun hi hb => (h0 hi hb).then hi hb h

theorem reset_batchAppend (r : Raft) (t : Nat) : (r.reset t).batchAppend = r.batchAppend := by
  unfold Raft.reset
  simp only [Raft.mapProgress, Raft.abortLeaderTransfer, Raft.resetRandomizedElectionTimeout]
  by_cases h : r.term ≠ t <;> simp [h]

theorem becomeFollower_batchAppend (r : Raft) (t l : Nat) :
    (r.becomeFollower t l).batchAppend = r.batchAppend := by
  unfold Raft.becomeFollower
  exact reset_batchAppend r t

theorem voteResp_ne {t rt : MsgType} (h : voteRespMsgType t = some rt) : rt ≠ .msgAppend := by
  unfold voteRespMsgType at h
  split at h <;> (try cases h) <;> decide

end Raft
end RaftModel
