import RaftProofs.ClusterCommitX
import RaftProofs.ClusterLogG
import RaftProofs.ClusterVoteF
import RaftProofs.RaftNodeC04

/-!
Cluster-level commit safety: **what one call does to what the storage holds**.

* **who writes the stored commit index** (`call_hs`): only `commit_apply k` (to `k`, when the storage holds
  index `k`); every other call of the node leaves `hard_state.commit` of the storage alone (no pending
  snapshot).  And `stabilize`, completely (`stabilize_out`).
* **the stored entries and the logical log** (`Bt.call_slg`, over the per-call relations `N` / `X` of
  `RaftProofs/ClusterBatch*.lean`, batching on or off): only `stabilize` (and `compact`, which the contract
  excludes) changes the stored entries; the logical log is kept, grows by a leader's append, or the call
  delivered a `MsgAppend`.  `call_sto` is the first half with the hypothesis of the layer without batching.
* the commit index of a freshly booted node (`boot_committed`): the stored commit index, or — when the
  storage holds no hard state — the index before the first stored entry.  And `commit_apply j` returns only
  for `j` within the commit index (`commitApply_call_le`).
-/

namespace RaftModel
namespace Raft
namespace CC
open Node CV

theorem stabilise_hs {l l' : RaftLog} (h : l.stabilise = .ok l') :
    l'.store.hardState = l.store.hardState := by
  unfold RaftLog.stabilise at h
  split at h
  · cases h; rfl
  · split at h
    · rename_i st ha
      rw [C06.stableEntries_store h]
      exact C06.storeAppend_hardState ha
    · cases h
    · cases h

/-- what one call does to the stored hard state: nothing; `commit_apply k` writes `commit := k`;
`stabilize` writes term and vote -/
def HsOut (st st' : NState) (op : NodeOp) : Prop :=
  st'.raft.raftLog.store.hardState = st.raft.raftLog.store.hardState ∨
  (∃ k, op = .commitApply k ∧ st'.raft.raftLog.store.hardState =
    { st.raft.raftLog.store.hardState with commit := k }) ∨
  (op = .stabilize ∧
    st'.raft.raftLog.store.hardState.commit = st.raft.raftLog.store.hardState.commit)

/-- **the stored hard state after one call** -/
theorem call_hs (st st' : NState) (rnd : Option Nat) (op : NodeOp) (res : OpRes)
    (hop : op ≠ .drain ∧ ∀ m, op ≠ .rstep m)
    (hsn : st.raft.raftLog.unstable.snapshot = none)
    (h : Node.call st rnd op = .ok (res, st')) : HsOut st st' op := by
  cases applyOp_parts h with
  | tick hx => exact .inl (Res.Post.of_eq (tick_vinv _) hx).hs
  | step hx => exact .inl (Res.Post.of_eq (rawStep_vinv _ _) hx).hs
  | rstep => exact absurd rfl (hop.2 _)
  | propose hx | proposeCc hx | campaign hx =>
    exact .inl (Res.Post.of_eq (localStep_vinv _ _ rfl) hx).hs
  | readIndex hx | transferLeader hx | reportUnreachable hx | reportSnapshot hx =>
    exact .inl (Res.Post.of_eq (localStepIgnore_vinv _ _ rfl) hx).hs
  | ping hx => exact .inl (Res.Post.of_eq (ping_vf _) hx).hs
  | requestSnapshot hx =>
    exact .inl (Res.Post.of_eq (P := fun x => VF _ x.1) (requestSnapshot_vf _) hx).hs
  | confChanged hx | confRefused hx => exact .inl (Res.Post.of_eq (applyConfChange_vinv _ _) hx).hs
  | stabilize hx =>
    refine stabilize_parts (Q := fun s => HsOut st s .stabilize) hx fun {l} hl => .inr (.inr ⟨rfl, ?_⟩)
    show l.store.hardState.commit = _
    rw [stabilise_hs hl]
  | onPersistEntries hx => exact .inl (Res.Post.of_eq (onPersistEntries_vf _ _ _) hx).hs
  | persistSnap hx =>
    refine persistSnap_parts (Q := fun s => HsOut st s .persistSnap) hx (.inl rfl) fun hs _ _ _ => ?_
    rw [show _ = none from hsn] at hs; cases hs
  | @commitApply k _ _ hx =>
    -- `commit_apply` leaves the stored hard state alone; the application then records `k`
    have key := commitApply_parts
      (Q := fun s => s.raft.raftLog.store.hardState = st.raft.raftLog.store.hardState ∨
        s.raft.raftLog.store.hardState = { st.raft.raftLog.store.hardState with commit := k }) hx
      (.inl rfl) (fun ents => .inl (reduceUncommittedSize_vf _ ents).hs)
      (fun h2 q => q.imp (Res.Post.of_eq (commitApply_vf _ _) h2).hs.trans
        (Res.Post.of_eq (commitApply_vf _ _) h2).hs.trans)
      (fun q => .inr (q.elim (congrArg (fun hs : HardState => { hs with commit := k }))
        (congrArg (fun hs : HardState => { hs with commit := k }))))
    exact key.imp (fun e => e) fun e => .inl ⟨k, rfl, e⟩
  | compact hc => exact .inl (compact_hs hc)
  | drain => exact absurd rfl hop.1
  | triggerSnap | triggerLog | setPriority | setBatchAppend | skipBcastCommit | setCheckQuorum
  | maybeFreeInflightBuffers | clearCommitGroup | checkGroupCommitConsistent
  | setMaxApplyUnpersistedLogLimit | setMaxCommittedSizePerReady | staleFetch =>
    exact .inl rfl
  | adjustMaxInflight hx => exact .inl (Res.Post.of_eq (adjustMaxInflightMsgs_vf _ _ _) hx).hs
  | enableGroupCommit hx => exact .inl (Res.Post.of_eq (enableGroupCommit_vf _ _) hx).hs
  | assignCommitGroups hx => exact .inl (Res.Post.of_eq (assignCommitGroups_vf _ _) hx).hs
  | fetched _ _ _ hx => exact .inl (Res.Post.of_eq (sendAppend_vf _ _) hx).hs
  | fetchedAll _ _ _ hx => exact .inl (Res.Post.of_eq (sendAppendAggressively_vf _ _) hx).hs

end CC
end Raft

namespace Cluster
open Node Raft Raft.CC

/-- **`stabilize`**: nothing is left unstable, term and vote are in the storage; role, term, queue,
logical log and cursors are untouched -/
theorem stabilize_out {st st' : NState} {rnd : Option Nat} {res : OpRes}
    (hinv : st.raft.raftLog.Inv) (hsn : st.raft.raftLog.unstable.snapshot = none)
    (h : Node.call st rnd .stabilize = .ok (res, st')) :
    st'.raft.raftLog.unstable.entries = [] ∧ hsPersisted st' ∧
    st'.raft.raftLog.abs = st.raft.raftLog.abs ∧ st'.raft.msgs = st.raft.msgs ∧
    st'.raft.term = st.raft.term ∧ st'.raft.state = st.raft.state ∧
    st'.raft.raftLog.committed = st.raft.raftLog.committed ∧
    st'.raft.raftLog.persisted = st.raft.raftLog.persisted := by
  unfold Node.call at h
  simp only [applyOp] at h
  have hinv' : ({ st.raft with nextRand := rnd } : Raft).raftLog.Inv := hinv
  obtain ⟨e1, e2⟩ := stabilize_abs (st := { st with raft := { st.raft with nextRand := rnd } })
    hinv' hsn h
  unfold Node.stabilize at h
  simp only [] at h
  split at h
  · rename_i l hl0
    have hl : st.raft.raftLog.stabilise = .ok l := hl0
    cases h
    obtain ⟨l2, k1, _, _, k4, k5, _, k7, _⟩ := RaftProps.C14.stabilise_ok hinv hsn
    rw [hl] at k1
    cases k1
    exact ⟨k7, ⟨rfl, rfl⟩, e1, e2, rfl, rfl, k4, k5⟩
  · cases h
  · cases h

end Cluster

namespace Raft
namespace CC
open Node CV

/-! ### the stored entries -/

/-- the stored entries and the stored snapshot point are the same -/
def SE (a r : Raft) : Prop :=
  r.raftLog.store.entries = a.raftLog.store.entries ∧
  r.raftLog.store.snapshotMetadata = a.raftLog.store.snapshotMetadata

theorem SE.storeLog {a r : Raft} (h : SE a r) : storeLog r.raftLog.store = storeLog a.raftLog.store :=
  storeLog_eq_of_core h.1 h.2

end CC

namespace Bt
open Node CC

/-- the stored entries are kept, and the logical log is kept, grew by a leader's append, or the input
was a `MsgAppend` (`SE` and `LogRel`) -/
structure SLg (a r : Raft) (m : Message) : Prop where
  se : SE a r
  l : LogRel a r m

theorem SLg.of_n0 {a r : Raft} {m : Message} (h : N0 a r) : SLg a r m :=
  ⟨⟨h.ls.ents, h.ls.smeta⟩, .inl h.abs⟩

theorem SLg.of_x0 {a r : Raft} {m : Message} (h : X0 a r) : SLg a r m :=
  ⟨⟨h.ls.ents, h.ls.smeta⟩, .inl h.abs⟩

theorem SLg.of_sx {a r : Raft} {m : Message} (h : SX a r) (hinv : a.raftLog.Inv) : SLg a r m :=
  h.elim SLg.of_n0 fun c => SLg.of_x0 (c.2 hinv)

theorem SLg.of_appX {a r : Raft} {m : Message} {es : List Entry} (h : AppendedX a r es) :
    SLg a r m :=
  ⟨⟨h.qs.ents, h.qs.smeta⟩, .inr (.inl ⟨es, h.app⟩)⟩

theorem SLg.of_fields {a r : Raft} {m : Message} (hl : r.raftLog = a.raftLog) : SLg a r m :=
  ⟨⟨by rw [hl], by rw [hl]⟩, .inl (by rw [hl])⟩

theorem SLg.rebase {a a' r : Raft} {m : Message} (h : SLg a' r m) (hl : a'.raftLog = a.raftLog) :
    SLg a r m := by
  refine ⟨⟨by rw [← hl]; exact h.se.1, by rw [← hl]; exact h.se.2⟩, ?_⟩
  rcases h.l with c | ⟨es, c⟩ | c
  · exact .inl (by rw [← hl]; exact c)
  · exact .inr (.inl ⟨es, ⟨c.ne, by rw [← hl]; exact c.abs, by rw [← hl]; exact c.contig, c.terms,
      by rw [← hl]; exact c.last, c.inv, by rw [← hl]; exact c.commit, c.leader⟩⟩)
  · exact .inr (.inr c)

theorem SLg.retag {a r : Raft} {m m' : Message} (h : SLg a r m) (hm : m.msgType ≠ .msgAppend) :
    SLg a r m' :=
  ⟨h.se, h.l.imp (fun g => g) (fun g => g.imp (fun g => g) (fun g => absurd g hm))⟩

/-- the application records the commit index and its configuration in the storage -/
theorem SLg.record {a r : Raft} {m : Message} (h : SLg a r m) (hs : HardState) (cs : ConfState) :
    SLg a (withStore r fun s => { s with hardState := hs, confState := cs }) m :=
  ⟨h.se, h.l.imp (fun g => g) (fun g => g.imp (fun ⟨es, c⟩ => ⟨es, ⟨c.ne, c.abs, c.contig, c.terms,
    c.last, (Inv_store_core c.inv { r.raftLog.store with hardState := hs, confState := cs } rfl rfl).1,
    c.commit, c.leader⟩⟩) (fun g => g))⟩

/-- **`Raft::step`** keeps the stored entries (no `MsgSnapshot`), batching on or off -/
theorem step_slg {r r' : Raft} {m : Message} {e : Option RaftError} (hinv : r.raftLog.Inv)
    (hw : m.msgType = .msgAppend → MsgOk m) (hms : m.msgType ≠ .msgSnapshot)
    (h : r.step m = .ok (r', e)) : SLg r r' m := by
  rcases step_x hinv h with c | ⟨_, _, _, _, es, _, c⟩ | ⟨_, _, c⟩ | ⟨hm, _, r0, c1, _, c3⟩ |
    ⟨hm, _, _⟩ | ⟨_, _, c⟩
  · exact .of_n0 c
  · exact .of_appX c
  · exact .of_appX c
  · obtain ⟨_, e2, _⟩ := handleAppendEntries_eff (c1.inv hinv) (hw hm) c3
    exact ⟨⟨by rw [e2]; exact c1.ls.ents, by rw [e2]; exact c1.ls.smeta⟩, .inr (.inr hm)⟩
  · exact absurd hm hms
  · exact .of_x0 (c hinv)

/-- a message the node steps on its own behalf -/
theorem stepIgnore_slg {r r' : Raft} {m m' : Message} (hinv : r.raftLog.Inv)
    (hm : m.msgType ≠ .msgAppend) (hms : m.msgType ≠ .msgSnapshot) (h : r.stepIgnore m = .ok r') :
    SLg r r' m' :=
  stepIgnore_parts (P := fun x => SLg r x m') h fun hs =>
    (step_slg hinv (fun hc => absurd hc hm) hms hs).retag hm

theorem tick_slg {r r' : Raft} {b : Bool} {m : Message} (hinv : r.raftLog.Inv)
    (h : r.tick = .ok (r', b)) : SLg r r' m := by
  by_cases hs : r.state = .leader
  · exact .of_n0 (tick_leader_n hinv hs h)
  · have hel : r.tickElection = .ok (r', b) := by
      unfold Raft.tick at h
      cases hst : r.state <;> rw [hst] at h <;> first | exact h | exact absurd hst hs
    unfold Raft.tickElection at hel
    simp only at hel
    split at hel
    · cases hel; exact .of_fields rfl
    · obtain ⟨r3, h3, hel⟩ := Res.bind_eq_ok hel
      cases hel
      exact (stepIgnore_slg (r := ({ r with electionElapsed := 0 } : Raft)) hinv
        (by intro hc; cases hc) (by intro hc; cases hc) h3).rebase rfl

/-- **the stored entries and the logical log after one call**, batching on or off: the stored entries
are untouched unless the call is `stabilize`; the logical log is untouched, grew by a leader's append, or
the call delivered a `MsgAppend` -/
theorem call_slg (st st' : NState) (rnd : Option Nat) (op : NodeOp) (res : OpRes)
    (hinv : st.raft.raftLog.Inv)
    (hop : op ≠ .drain ∧ ∀ m, op ≠ .rstep m)
    (hw : ∀ m, op = .step m → m.msgType = .msgAppend → MsgOk m)
    (hms : ∀ m, op = .step m → m.msgType ≠ .msgSnapshot)
    (hc : ∀ k, op ≠ .compact k)
    (hsn : st.raft.raftLog.unstable.snapshot = none)
    (h : Node.call st rnd op = .ok (res, st')) :
    SLg st.raft st'.raft (CV.opMsg op) ∨ op = .stabilize := by
  -- the call runs on the state with the random draw stored
  unfold Node.call at h
  generalize hst0 : ({ st with raft := { st.raft with nextRand := rnd } } : NState) = st0 at h
  have hinv' : st0.raft.raftLog.Inv := by rw [← hst0]; exact hinv
  have hsn' : st0.raft.raftLog.unstable.snapshot = none := by rw [← hst0]; exact hsn
  have ofR : ∀ {r : Raft} {m : Message}, SLg st0.raft r m → SLg st.raft r m := fun hs =>
    hs.rebase (by rw [← hst0])
  have own : ∀ {r : Raft} {m : Message} {e}, m.msgType ≠ .msgAppend → m.msgType ≠ .msgSnapshot →
      st0.raft.step m = .ok (r, e) → SLg st.raft r CV.mLocal := fun hm hms hx =>
    ofR ((step_slg hinv' (fun hc => absurd hc hm) hms hx).retag hm)
  cases applyOp_parts h with
  | tick hx => exact .inl (ofR (tick_slg hinv' hx))
  | step hx =>
    refine .inl (ofR ?_)
    rcases RawNode.step_inv hx with rfl | ⟨_, hx⟩
    · exact .of_fields rfl
    · exact step_slg hinv' (hw _ rfl) (hms _ rfl) hx
  | rstep => exact absurd rfl (hop.2 _)
  | propose hx | proposeCc hx | campaign hx =>
    exact .inl (own (by intro hc; cases hc) (by intro hc; cases hc) hx)
  | readIndex hx | transferLeader hx | reportUnreachable hx | reportSnapshot hx =>
    exact .inl (ofR (stepIgnore_slg hinv' (by intro hc; cases hc) (by intro hc; cases hc) hx))
  | ping hx => exact .inl (ofR (.of_n0 (ping_n hx N.rfl hinv')))
  | requestSnapshot hx => exact .inl (ofR (.of_n0 (requestSnapshot_n hx N.rfl hinv')))
  | confChanged hx | confRefused hx => exact .inl (ofR (.of_sx (applyConfChange_x hx hinv') hinv'))
  | stabilize => exact .inr rfl
  | onPersistEntries hx => exact .inl (ofR (.of_sx (onPersistEntries_x hinv' hx) hinv'))
  | persistSnap hx =>
    refine .inl (ofR (persistSnap_parts (Q := fun s => SLg st0.raft s.raft _) hx (.of_fields rfl) ?_))
    intro s _ _ _ hs _ _ _
    rw [hsn'] at hs; cases hs
  | @commitApply k _ _ hx =>
    unfold Node.commitApply at hx
    simp only at hx
    split at hx
    · rename_i r2 hb
      obtain ⟨r1, h1, h2⟩ := Res.bind_eq_ok hb
      have e1 : r1.raftLog = st0.raft.raftLog := by
        split at h1
        · split at h1
          · cases h1
            unfold Raft.reduceUncommittedSize
            split <;> rfl
          · cases h1; rfl
          · cases h1
        · cases h1; rfl
      have s2 : SLg st0.raft r2 CV.mLocal := by
        unfold Raft.commitApply at h2
        rcases commitApplyInternal_n (e1 ▸ hinv') h2 with c | ⟨es, c⟩
        · exact (SLg.of_n0 c).rebase e1
        · exact (SLg.of_appX c.toX).rebase e1
      cases hx
      refine .inl (ofR ?_)
      split
      · exact s2.record _ _
      · exact s2
    · cases hx
    · cases hx
  | compact => exact absurd rfl (hc _)
  | drain => exact absurd rfl hop.1
  | triggerSnap | triggerLog | setMaxApplyUnpersistedLogLimit =>
    exact .inl (ofR ⟨⟨rfl, rfl⟩, .inl rfl⟩)
  | setPriority | setBatchAppend | skipBcastCommit | setCheckQuorum
  | maybeFreeInflightBuffers | clearCommitGroup | checkGroupCommitConsistent
  | setMaxCommittedSizePerReady | staleFetch =>
    exact .inl (ofR (.of_fields rfl))
  | adjustMaxInflight hx => exact .inl (ofR (.of_n0 (adjustMaxInflightMsgs_n hx N.rfl hinv')))
  | enableGroupCommit hx => exact .inl (ofR (.of_sx (enableGroupCommit_x hx hinv') hinv'))
  | assignCommitGroups hx => exact .inl (ofR (.of_sx (assignCommitGroups_x hx hinv') hinv'))
  | fetched _ _ _ hx => exact .inl (ofR (.of_x0 (sendAppend_x hx X.rfl hinv')))
  | fetchedAll _ _ _ hx => exact .inl (ofR (.of_x0 (sendAppendAggressively_x hx X.rfl hinv')))

end Bt

namespace CC
open Node CV

/-- **the stored entries after one call**: untouched unless the call is `stabilize` -/
theorem call_sto (st st' : NState) (rnd : Option Nat) (op : NodeOp) (res : OpRes)
    (hinv : st.raft.raftLog.Inv) (hnb : st.raft.batchAppend = false)
    (hop : op ≠ .drain ∧ ∀ m, op ≠ .rstep m)
    (hw : ∀ m, op = .step m → m.msgType = .msgAppend → MsgOk m)
    (hms : ∀ m, op = .step m → m.msgType ≠ .msgSnapshot)
    (hc : ∀ k, op ≠ .compact k)
    (hsn : st.raft.raftLog.unstable.snapshot = none)
    (h : Node.call st rnd op = .ok (res, st')) : SE st.raft st'.raft ∨ op = .stabilize :=
  have _ := hnb
  (Bt.call_slg st st' rnd op res hinv hop hw hms hc hsn h).imp (·.se) fun g => g

end CC

open Node

/-! ### a freshly booted node; `commit_apply` -/

theorem boot_committed (c : Config) (store : MemStorage) (rnd : Option Nat) (st : NState)
    (h : Node.boot c store rnd = .ok (.ok st)) :
    st.raft.raftLog.committed = store.hardState.commit ∨
    (store.hardState = {} ∧ st.raft.raftLog.committed = store.firstIndex - 1) := by
  obtain ⟨_, log, prs, hnew, _, _, _, hr⟩ := raftNew_inv (Node.boot_inv h).2.1
  have e : st.raft.raftLog.committed =
      if store.hardState ≠ {} then store.hardState.commit else log.committed := by
    rw [hr, becomeFollower_committed]; rfl
  rw [e]
  by_cases hh : store.hardState ≠ {}
  · rw [if_pos hh]; exact .inl rfl
  · rw [if_neg hh, (RaftLog.new_inv hnew).2]; exact .inr ⟨Classical.not_not.1 hh, rfl⟩

end Raft

namespace Cluster
open Node Raft

/-- `commit_apply j` returns only for `j = 0` or `j` within the commit index -/
theorem commitApply_call_le {st st' : NState} {rnd : Option Nat} {j : Nat} {res : OpRes}
    (h : Node.call st rnd (.commitApply j) = .ok (res, st')) :
    j = 0 ∨ j ≤ st.raft.raftLog.committed := by
  unfold Node.call at h
  simp only [applyOp, Node.commitApply] at h
  split at h
  · rename_i r2 hb
    rw [Res.bind_eq_ok_iff] at hb
    obtain ⟨r1, h1, h2⟩ := hb
    have e1 : r1.raftLog = ({ st.raft with nextRand := rnd } : Raft).raftLog := by
      split at h1
      · split at h1
        · cases h1
          unfold Raft.reduceUncommittedSize
          split <;> rfl
        · cases h1; rfl
        · cases h1
      · cases h1; rfl
    unfold Raft.commitApply Raft.commitApplyInternal at h2
    simp only [Bool.not_false, if_true] at h2
    split at h2
    · cases h2
    · cases h2
    · rename_i log hl
      rcases RaftLog.appliedTo_inv hl with ⟨h0, _⟩ | ⟨_, hj, _⟩
      · exact .inl h0
      · rw [e1] at hj; exact .inr hj
  · cases h
  · cases h

end Cluster
end RaftModel
