import RaftProofs.ClusterSnapBatchPerCall
import RaftProofs.ClusterSnapBatchBundle
import RaftProofs.ClusterSnapBatchSane

/-!
Commit safety of `ClusterSem` with log compaction AND `batch_append` (C01n): one call, and the cluster-level
gateways of the batching layer over the joined bundle.

* `call_prf'`: **the per-call relation of the batching layer with the anchoring fact `qf`, for every `NodeOp`,
  `compact` included**.  `Raft.PB.F.PRb` (`RaftProofs/ClusterSnapBatchPerCall.lean`: `Raft.PB.PRb` of `ClusterCommitBatchPerCall`
  extended by `fi` / `qf`) is what the compaction layer needs from one call (`Snap5.call_pr2` gives it under
  `batchAppend = false`): every `MsgAppend` queued in a call is anchored at or above the snapshot point the log had
  when the call started — or has the anchor of an old queued `MsgAppend` (`try_batching`), or the queue is poisoned
  by a `MsgSnapshot`.
* **the cluster-level gateways**, conditional on C05d's `SaneAnchors` (`hsane`) — what stands in the places where
  the compaction stack (`ClusterSnapHyp`, `ClusterSnap5C–5X`) uses `nb`:
  `prov0S` (for `HypB.prov0`): the proviso `Prov0` of the batching per-call layer at every step;
  `nodeRelS` (for `cstep_nodeRel … H.nb`): one step, one node;
  `trans_of_cstepS` (for `trans_of_cstep … H.nb`): the Log-Matching transition of a step, compaction (`CompactOk`)
  included;
  `call_factsS` (for `Snap5.call_facts`): what the node-level layers say about one `call` / `deliver` step — `Gb`,
  `LStepB`, `LogRel'` (the call may be a compaction).
  The first three are those of the stack `Snap.J` (`ClusterSnapBatchSane`) at `Hyp3wB.j`: with `SaneAnchors` the
  joined bundle is a bundle of that stack.
-/

namespace RaftModel
namespace Cluster
namespace Snap7
open Node Raft Raft.CC Raft.CP RaftProps.C02 RaftProps.C05 Snap

/-- the extended relation implies the relation of C01f -/
theorem prb_of_prf {a r : Raft} (h : PB.F.PRb a r) : PB.PRb a r :=
  ⟨h.po, h.rd, h.qa, h.qr, h.sn⟩

/-- **one call of a node, `compact` included, batching allowed, with the anchoring fact**
(`Raft.PB.F.call_prb` with its premise "the op is not a compaction" replaced by the storage contract
`CompactOk`) -/
theorem call_prf' (st st' : NState) (rnd : Option Nat) (op : NodeOp) (res : OpRes)
    (hinv : st.raft.raftLog.Inv)
    (hop : op ≠ .drain ∧ ∀ m, op ≠ .rstep m)
    (hc : ∀ k, op = .compact k → CompactOk st.raft.raftLog k)
    (hsn : st.raft.raftLog.unstable.snapshot = none)
    (hms : ∀ m, op = .step m → m.msgType ≠ .msgSnapshot)
    (hpo : st.raft.state = .leader →
      QSnap st.raft.msgs ∨ PAll st.raft.raftLog.lastIndex st.raft.prs)
    (hrd : st.raft.state = .leader → ∀ p ∈ st.raft.readOnly.pendingReadIndex,
      p.2.index ≤ st.raft.raftLog.committed)
    (hB : ∀ m, op = .step m → st.raft.state = .leader → m.msgType = .msgAppendResponse →
      m.reject = false → (m.term = 0 ∨ m.term = st.raft.term) →
      m.index ≤ st.raft.raftLog.lastIndex)
    (h : Node.call st rnd op = .ok (res, st')) : PB.F.PRb st.raft st'.raft := by
  by_cases hco : ∃ j, op = .compact j
  · obtain ⟨j, rfl⟩ := hco
    have ho := compact_out hinv hsn (hc j rfl) h
    obtain ⟨f1, f2, f3⟩ := Snap.compact_frame hinv hsn (hc j rfl) h
    exact PB.F.PRb.of_same (PB.F.PWb.start hinv hpo hrd).pr ho.state f1 f2 ho.msgs
      (Nat.le_of_eq f3.symm) (Nat.le_of_eq ho.committed.symm)
  · exact PB.F.call_prb st st' rnd op res hinv hop (fun k hk => hco ⟨k, hk⟩) hsn hms hpo hrd hB h

open Raft.CB Raft.Bt ClusterB

variable {cfg : JointConfig} {c0 : Nat} {h : List Sys}

/-- with `SaneAnchors` in every state the joined bundle is a bundle of the stack `Snap.J` -/
theorem Hyp3wB.j (H : Hyp3wB cfg c0 h) (hSA : ∀ s ∈ h, SaneAnchors s) : Snap.J.Hyp cfg h :=
  { hist := H.hist, fix := H.fix, ne := H.ne, nd1 := H.nd1, nd2 := H.nd2, init := H.init,
    steps := H.steps, mv := multiVoter_of_nolone H.nolone, sane := hSA, nosnap := H.nosnap }

/-- **the proviso of the batching per-call layer holds for every `call` / `deliver` step of the
history**: a node that is leader before the call has a clean queue; a node that is leader only after the
call was candidate of the same term with its vote request in the transport, so its queue holds no
`MsgAppend` at all -/
theorem prov0S (H : Hyp3wB cfg c0 h) (hSA : ∀ s ∈ h, SaneAnchors s) {n : Nat} {a b : Sys} (ha : h[n]? = some a)
    (hb : h[n + 1]? = some b) {i : Nat} {st st' : NState} {rnd : Option Nat} {op : NodeOp}
    {res : OpRes} (hi : a.node i = some st) (hi' : b.node i = some st') (hnet : b.net = a.net)
    (hop : appOp op = true ∨ ∃ m, op = .step m ∧ m ∈ a.net ∧ m.to = i)
    (hcall : Node.call st rnd op = .ok (res, st')) :
    (st'.raft.state = .leader →
      st.raft.term = st'.raft.term ∧
        ((st.raft.state = .candidate ∧ ∀ x ∈ st.raft.msgs, x.msgType ≠ .msgAppend) ∨
          st.raft.state = .leader)) ∧
    Prov0 st.raft st'.raft :=
  (H.j hSA).prov0 ha hb hi hi' hnet hop hcall

/-- **one step, one node**, batching allowed (`cstep_nodeRel` without `NoBatch`) -/
theorem nodeRelS (H : Hyp3wB cfg c0 h) (hSA : ∀ s ∈ h, SaneAnchors s) {n : Nat} {a b : Sys} (ha : h[n]? = some a)
    (hb : h[n + 1]? = some b) (i : Nat) (sta stb : NState)
    (hia : a.node i = some sta) (hib : b.node i = some stb) :
    NodeRel sta stb ∨ IsRestart i a b :=
  Snap.J.nodeRelB (H.j hSA) ha hb i sta stb hia hib

/-- the transition a contract-abiding step of the history induces, batching on or off
(`trans_of_cstep` without `NoBatch`; the step is given by its position in the history) -/
theorem trans_of_cstepS (H : Hyp3wB cfg c0 h) (hSA : ∀ s ∈ h, SaneAnchors s) {n : Nat} {a b : Sys} (ha : h[n]? = some a)
    (hb : h[n + 1]? = some b) :
    ∃ k st st' pers crash, Trans a b k st st' pers crash :=
  Snap.J.trans_of_cstepB (H.j hSA) ha hb

/-- **everything the node-level layers say about one `call` / `deliver` step of a history with batching
and compaction** (`Snap5.call_facts` / `ClusterB.M.call_factsB` joined): the relation `Gb` of the commit
layer, the effect `LStepB` of the Log Matching layer with batching, and how the logical log changed —
as without compaction (`LogRel`), or the call is a compaction (`Snap.LogRel'`) -/
theorem call_factsS (H : Hyp3wB cfg c0 h) (hSA : ∀ s ∈ h, SaneAnchors s)
    {n : Nat} {a b : Sys} {i : Nat} {st st' : NState}
    {rnd : Option Nat} {op : NodeOp} {res : OpRes}
    (ha : h[n]? = some a) (hb : h[n + 1]? = some b) (hi : a.node i = some st)
    (hi' : b.node i = some st') (hnet : b.net = a.net)
    (hop : appOp op = true ∨ ∃ m, op = .step m ∧ m ∈ a.net ∧ m.to = i)
    (hc : ∀ j, op = .compact j → CompactOk st.raft.raftLog j)
    (hcall : Node.call st rnd op = .ok (res, st')) :
    Gb (Anet a.net) st.raft (CV.opMsg op) st'.raft ∧ LStepB st.raft st'.raft (CV.opMsg op) ∧
    Snap.LogRel' st st' op ∧ st.raft.id = i := by
  obtain ⟨s0, _, hall⟩ := H.invLB_partial hSA
  have I := (hall a (mem_of_get ha)).1
  have hsn := H.nosnap a (mem_of_get ha)
  have hop1 : appOp op = true ∨ ∃ m, op = .step m ∧ m ∈ a.net := by
    rcases hop with g | ⟨m, g1, g2, _⟩
    · exact .inl g
    · exact .inr ⟨m, g1, g2⟩
  have hop' := not_drain_of_hop hop
  have hms : ∀ m, op = .step m → m.msgType ≠ .msgSnapshot := by
    intro m hm
    rcases hop1 with h1 | ⟨m', h1, h2⟩
    · rw [hm] at h1; cases h1
    · rw [hm] at h1; cases h1; exact hsn m h2
  have g := kstep_gb (H.mokc n a ha) hsn hi hop1 hcall
  have hw : ∀ m, op = .step m → m.msgType = .msgAppend → MsgOk m := by
    intro m hm hty
    rcases hop1 with h1 | ⟨m', h1, h2⟩
    · rw [hm] at h1; cases h1
    · rw [hm] at h1; cases h1
      exact I.msgOk h2 hty
  have hp := (prov0S H hSA ha hb hi hi' hnet hop hcall).2
  have hs1 := H.nopend a (mem_of_get ha) i st hi
  have hL := call_lstep_b st st' rnd op res (I.inv i st hi) hp hop' hw hc hcall
  have hid := (((hist_all H.hist).1 a (mem_of_get ha)).ids i st hi).1
  by_cases hco : ∃ j, op = .compact j
  · obtain ⟨j, rfl⟩ := hco
    have hout := Snap.compact_out (I.inv i st hi) hs1 (hc j rfl) hcall
    exact ⟨g, hL, .inr ⟨j, rfl, hout⟩, hid⟩
  · have hnc : ∀ j, op ≠ .compact j := fun j hj => hco ⟨j, hj⟩
    have hq : LogRel st.raft st'.raft (CV.opMsg op) := by
      rcases call_stob st st' rnd op res (I.inv i st hi) hp hop' hw hms hnc hs1 hcall with c | c
      · exact c.l
      · subst c
        exact .inl (stabilize_out (I.inv i st hi) hs1 hcall).2.2.1
    exact ⟨g, hL, .inl hq, hid⟩

end Snap7
end Cluster
end RaftModel
