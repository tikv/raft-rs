import RaftProofs.ClusterRead4N

/-!
Cluster-level ReadIndex safety for **reads issued at the leader** (`RdHyp`, `RaftProps/C08c.lean`;
`RdHypS`, `RaftProps/C08d.lean`), read off the development with forwarded reads (`R4`,
`ClusterRead4I–4N`): without `MsgReadIndex` in the transport only a local call registers (`Reg.local`),
so unique non-empty contexts of the registering calls give the bundle `R4.RdBase` the invariants of `R4`
are stated for (`RdBase.of_local`); without `MsgReadIndexResp` in the transport every read state answers
a request of the node's own queue.
-/
namespace RaftModel
namespace Cluster
open Node

variable {cfg : JointConfig} {c0 : Nat} {h : List Sys}

theorem R4.Reg.local (nori : ∀ s ∈ h, ∀ x ∈ s.net, x.msgType ≠ .msgReadIndex) {n i : Nat} {K : Bytes}
    (hr : R4.Reg h n i K) : RegAt h n i K := by
  rcases hr with c | ⟨m, idx, a, _, _, _, _, _, p1, _, _, p4, _, p6, _⟩
  · exact c
  · exact absurd p6 (nori a (mem_of_get p1) m p4)

theorem R4.RdBase.of_local (F : R4.ReadFacts cfg c0 h)
    (safe : ∀ s ∈ h, ∀ i st, s.node i = some st → st.raft.readOnly.option = .safe)
    (nori : ∀ s ∈ h, ∀ x ∈ s.net, x.msgType ≠ .msgReadIndex)
    (uniq : ∀ n1 n2 i1 i2 K, RegAt h n1 i1 K → RegAt h n2 i2 K → n1 = n2)
    (nonempty : ∀ n i K, RegAt h n i K → K ≠ []) : R4.RdBase cfg c0 h :=
  ⟨F, safe, fun n1 n2 i1 i2 K h1 h2 => uniq n1 n2 i1 i2 K (h1.local nori) (h2.local nori),
    fun n i K hr => nonempty n i K (hr.local nori)⟩

theorem RdHyp.toBase (H : RdHyp cfg c0 h) : R4.RdBase cfg c0 h :=
  .of_local (.of_hyp3w H.toHyp3w) H.safe H.nori H.uniq H.nonempty

theorem Late.r4 (nori : ∀ s ∈ h, ∀ x ∈ s.net, x.msgType ≠ .msgReadIndex) {n0 : Nat} {K : Bytes}
    (hl : Late h n0 K) : R4.Late h n0 K :=
  ⟨hl.1, fun n i hr => hl.2 n i (hr.local nori)⟩

/-- **every read state for `ctx`, in every state of the history, sits on the issuing node, appears
after the registration, and its index is at least every commit index of the moment the request was
registered** -/
theorem read_state_ok (B : R4.RdBase cfg c0 h)
    (norir : ∀ s ∈ h, ∀ x ∈ s.net, x.msgType ≠ .msgReadIndexResp) {n0 i0 : Nat} {ctx : Bytes}
    (hreg : RegAt h n0 i0 ctx) {s0 : Sys} (hn0 : h[n0]? = some s0) {k : Nat} {s : Sys}
    (hk : h[k]? = some s) {v : Nat} {st : NState} (hv : s.node v = some st) {x : ReadState}
    (hx : x ∈ st.raft.readStates) (hctx : x.requestCtx = ctx) :
    v = i0 ∧ n0 < k ∧ ∀ u stu, s0.node u = some stu → stu.raft.raftLog.committed ≤ x.index := by
  obtain ⟨n, a, w, stw, m, rs0, Kack, acks, p, i, hlt, ha, hwa, hm, c1, c3, _, hloc, c5, c6, c7, c8, c9⟩ :=
    R4.rs_src B.toReadFacts B.safe k s hk v st hv x hx
  rw [hctx] at c1 c5
  obtain ⟨q1, q2, q3⟩ := R4.rel_bound B (.inl hreg) ha hwa hm c1 c5 c6 c7 c8 c9
  rcases hloc with rfl | ⟨_, a', y, ha', hy, hty⟩
  · exact ⟨q1, by omega, fun u stu hu => by rw [c3]; exact q3 n0 s0 (Nat.le_refl _) hn0 u stu hu⟩
  · exact absurd hty (norir a' (mem_of_get ha') y hy)

/-- a read state carries a context that a `read_index` call has registered -/
theorem read_state_reg (F : R4.ReadFacts cfg c0 h)
    (safe : ∀ s ∈ h, ∀ i st, s.node i = some st → st.raft.readOnly.option = .safe)
    (nori : ∀ s ∈ h, ∀ x ∈ s.net, x.msgType ≠ .msgReadIndex) {k : Nat} {s : Sys}
    (hk : h[k]? = some s) {v : Nat} {st : NState} (hv : s.node v = some st) {x : ReadState}
    (hx : x ∈ st.raft.readStates) (hne : x.requestCtx ≠ []) :
    ∃ n i, n < k ∧ RegAt h n i x.requestCtx := by
  obtain ⟨n, a, w, stw, _, rs0, _, _, _, _, hlt, ha, hwa, _, c1, _⟩ := R4.rs_src F safe k s hk v st hv x hx
  obtain ⟨n1, i1, h1, h2⟩ := R4.occ_issued F safe n a ha x.requestCtx hne
    (.inl ⟨w, stw, hwa, .inl ⟨rs0, c1⟩⟩)
  exact ⟨n1, i1, by omega, h2.local nori⟩

/-- **the node that adds a read state for `ctx` is not superseded**: no term above its own was led at or
before the registration -/
theorem read_state_term (B : R4.RdBase cfg c0 h)
    (norir : ∀ s ∈ h, ∀ x ∈ s.net, x.msgType ≠ .msgReadIndexResp) {n0 i0 : Nat} {ctx : Bytes}
    (hreg : RegAt h n0 i0 ctx)
    {n : Nat} {a b : Sys} (ha : h[n]? = some a) (hb : h[n + 1]? = some b) {v : Nat}
    {st st' : NState} (hva : a.node v = some st) (hvb : b.node v = some st') {x : ReadState}
    (hx : x ∈ st'.raft.readStates) (hnew : x ∉ st.raft.readStates) (hctx : x.requestCtx = ctx)
    {n1 : Nat} {s1 : Sys} (hn1 : h[n1]? = some s1) (hle1 : n1 ≤ n0) {l' t' : Nat}
    (hl' : leads s1 l' t') : t' ≤ st.raft.term := by
  have F := B.toReadFacts
  obtain ⟨s0, hn0⟩ : ∃ s0, h[n0]? = some s0 := by
    obtain ⟨a0, _, _, _, _, _, q, _⟩ := hreg
    exact ⟨a0, q⟩
  rcases R4.rs_step F B.safe ha hb hva hvb hx hnew with
    ⟨m, hm, K, rs0, Kack, acks, p, i, c1, c2, _, _, c5, c6, c7, c8, c9⟩ | ⟨y, q, _, c, _⟩
  · have hK : K = ctx := by
      have := (R4.pend_ok F B.safe n a ha).req v st hva K rs0 c1
      rw [c2] at this
      injection this with this
      rw [← this, hctx]
    subst hK
    obtain ⟨_, hlt, _, hQ, hQb⟩ := R4.rel_backers B (.inl hreg) ha hva hm c1 c5 c6 c7 c8 c9
    exact R4.no_higher F B.safe hn0 ha (by omega) hva hQ hQb hn1 hle1 hl'
  · exact absurd c (norir a (mem_of_get ha) y q)

/-- **whoever has such a quorum behind it is not superseded**: a term led at or before `h[n0]` is not
above the term of a node that, later, has a joint quorum of backers -/
theorem quorum_no_higher (H : RdHyp cfg c0 h) {n0 n : Nat} {s0 a : Sys} (hn0 : h[n0]? = some s0)
    (ha : h[n]? = some a) (hle : n0 ≤ n) {v : Nat} {st : NState} (hva : a.node v = some st)
    {Q : List Nat} (hQ : IsJointQuorum cfg Q)
    (hQb : ∀ u ∈ Q, Backer h n0 a.net v st.raft.term u)
    {n1 : Nat} {s1 : Sys} (hn1 : h[n1]? = some s1) (hle1 : n1 ≤ n0) {l' t' : Nat}
    (hl' : leads s1 l' t') : t' ≤ st.raft.term :=
  R4.no_higher (.of_hyp3w H.toHyp3w) H.safe hn0 ha hle hva hQ
    (fun u hu => (hQb u hu).imp id fun ⟨y, y1, y2, y3, y4, y5⟩ => ⟨y, y1, y2, y3, y4.r4 H.nori, y5⟩)
    hn1 hle1 hl'

end Cluster
end RaftModel
