import RaftModel.RawNode
import RaftProofs.RaftLogReads

/-!
Helper lemmas for C06b / C07: `RawNodeM.ready` / `genLightReady` / `commitReady` in pieces, what each
call is (the new node as an equation: `env_ok`, `storageWrite_parts`, `commitReady_ok`,
`commitApply_ok`, `onPersistReady_eq` / `_inv` / `_rel`, `advanceAppend_ok`, `advance_ok`, `new_ok`), the
record queue, and one hand-out of committed entries (from `RaftLog.Inv.slicePrefix`).
-/
namespace RaftModel
namespace RawNodeM

/-! ### `ready` in pieces -/

def readyTv (n : RawNodeM) : Bool :=
  decide (n.hardState.vote ≠ n.prevHs.vote ∨ n.hardState.term ≠ n.prevHs.term)

def readyHsChanged (n : RawNodeM) : Bool := decide (n.hardState ≠ n.prevHs)

def readyUhn (n : RawNodeM) : Nat :=
  if n.readyHsChanged && n.readyTv then n.maxNumber + 1 else n.unpersistedHsNumber

def readyRecord (n : RawNodeM) : ReadyRecord :=
  { number := n.maxNumber + 1,
    snapshot := n.log.unstable.snapshot.map (fun sn => (sn.metadata.index, sn.metadata.term)),
    lastEntry := n.log.unstable.entries.getLast?.map (fun e => (e.index, e.term)) }

def readyN1 (n : RawNodeM) (csi : Nat) : RawNodeM :=
  { n with maxNumber := n.maxNumber + 1, unpersistedHsNumber := n.readyUhn, readStates := [],
           commitSinceIndex := csi }

def readyRd (n : RawNodeM) (light : LightReady) : Ready :=
  { number := n.maxNumber + 1,
    ss := if n.softState ≠ n.prevSs then some n.softState else none,
    hs := if n.readyHsChanged then some n.hardState else none,
    readStates := n.readStates,
    entries := n.log.unstable.entries,
    snapshot := n.log.unstable.snapshot,
    isPersistedMsg := decide (n.role ≠ ROLE_LEADER) || decide (n.readyUhn ≠ 0),
    light := light,
    mustSync := (n.readyHsChanged && n.readyTv) || n.log.unstable.snapshot.isSome ||
      n.log.unstable.entries.getLast?.isSome }

theorem ready_eq (n : RawNodeM) : n.ready =
    (match n.drainRecords with
     | .ok recs =>
       (match n.readySnapshot with
        | .ok csi =>
          (match (n.readyN1 csi).genLightReady with
           | .ok (n2, light) =>
             .ok ({ n2 with records := recs ++ [n.readyRecord] }, n.readyRd light)
           | .err e => .err e
           | .panic s => .panic s)
        | .err e => .err e
        | .panic s => .panic s)
     | .err e => .err e
     | .panic s => .panic s) := rfl

theorem ready_ok {n n' : RawNodeM} {rd : Ready} (h : n.ready = .ok (n', rd)) :
    ∃ recs csi n2 light, n.drainRecords = .ok recs ∧ n.readySnapshot = .ok csi ∧
      (n.readyN1 csi).genLightReady = .ok (n2, light) ∧
      n' = { n2 with records := recs ++ [n.readyRecord] } ∧ rd = n.readyRd light := by
  rw [ready_eq] at h
  cases hd : n.drainRecords with
  | ok recs =>
    cases hs : n.readySnapshot with
    | ok csi =>
      cases hg : (n.readyN1 csi).genLightReady with
      | ok p =>
        obtain ⟨n2, light⟩ := p
        simp only [hd, hs, hg] at h
        injection h with h
        injection h with h1 h2
        exact ⟨recs, csi, n2, light, rfl, rfl, hg, h1.symm, h2.symm⟩
      | err e => simp only [hd, hs, hg] at h; cases h
      | panic s => simp only [hd, hs, hg] at h; cases h
    | err e => simp only [hd, hs] at h; cases h
    | panic s => simp only [hd, hs] at h; cases h
  | err e => simp only [hd] at h; cases h
  | panic s => simp only [hd] at h; cases h

/-- new `commit_since_index` after the committed entries `ces` were taken -/
def csiAfter (csi : Nat) (ces : List Entry) : Nat :=
  match ces.getLast? with
  | some e => e.index
  | none => csi

theorem genLightReady_ok {n n' : RawNodeM} {l : LightReady} (h : n.genLightReady = .ok (n', l)) :
    ∃ o, n.log.nextEntriesSince n.commitSinceIndex (some n.maxCommittedSizePerReady) = .ok o ∧
      l = { commitIndex := none, committedEntries := o.getD [], messages := n.msgs } ∧
      n' = { n with commitSinceIndex := csiAfter n.commitSinceIndex (o.getD []), msgs := [] } ∧
      (∀ e, (o.getD []).getLast? = some e → n.commitSinceIndex < e.index) := by
  unfold genLightReady at h
  cases ho : n.log.nextEntriesSince n.commitSinceIndex (some n.maxCommittedSizePerReady) with
  | ok o =>
    simp only [ho] at h
    cases hl : (o.getD []).getLast? with
    | none =>
      simp only [hl] at h
      injection h with h
      injection h with h1 h2
      refine ⟨o, rfl, h2.symm, ?_, ?_⟩
      · rw [← h1]; simp [csiAfter, hl]
      · intro e he; rw [hl] at he; cases he
    | some e =>
      simp only [hl] at h
      by_cases hlt : n.commitSinceIndex < e.index
      · simp only [hlt, if_true] at h
        injection h with h
        injection h with h1 h2
        refine ⟨o, rfl, h2.symm, ?_, ?_⟩
        · rw [← h1]; simp [csiAfter, hl]
        · intro e' he'; rw [hl] at he'; cases he'; exact hlt
      · simp only [hlt, if_false] at h; cases h
  | err e => simp only [ho] at h; cases h
  | panic s => simp only [ho] at h; cases h

/-- `has_next_entries_since` and `next_entries_since` test the same condition -/
theorem hasNext_false_next_none {l : RaftLog} {i : Nat} (mx : Option Nat)
    (h : l.hasNextEntriesSince i = .ok false) : l.nextEntriesSince i mx = .ok none := by
  unfold RaftLog.hasNextEntriesSince at h
  unfold RaftLog.nextEntriesSince
  by_cases hu : U64_MAX ≤ i
  · simp only [hu, if_true] at h; cases h
  · simp only [hu, if_false, RaftLog.appliedIndexUpperBound] at h ⊢
    injection h with h
    have := of_decide_eq_false h
    simp only [this, if_false]

theorem hasNext_true_next_some {l : RaftLog} {i : Nat} (mx : Option Nat)
    (h : l.hasNextEntriesSince i = .ok true) :
    l.nextEntriesSince i mx =
      (let ub := min l.committed (min U64_MAX (l.persisted + l.maxApplyUnpersistedLogLimit))
       match l.slice (max (i + 1) l.firstIndex) (ub + 1) mx false with
       | .ok v => .ok (some v)
       | .err _ => .panic "raft_log.next_entries_since.slice_error"
       | .panic s => .panic s) := by
  unfold RaftLog.hasNextEntriesSince at h
  unfold RaftLog.nextEntriesSince
  by_cases hu : U64_MAX ≤ i
  · simp only [hu, if_true] at h; cases h
  · simp only [hu, if_false, RaftLog.appliedIndexUpperBound] at h ⊢
    injection h with h
    have := of_decide_eq_true h
    simp only [this, if_true]
    rfl

/-! ### the record queue -/

/-- one iteration of the `while` loop of `on_persist_ready` -/
def recStep (acc : Nat × Nat × Nat) (r : ReadyRecord) : Nat × Nat × Nat :=
  let acc1 : Nat × Nat × Nat := match r.snapshot with
    | some (i, _) => (0, 0, i)
    | none => acc
  match r.lastEntry with
  | some (i, t) => (i, t, acc1.2.2)
  | none => acc1

/-- what a batch of popped records asks to persist: `(index, term, snap_index)` -/
def persistTarget (popped : List ReadyRecord) (acc : Nat × Nat × Nat) : Nat × Nat × Nat :=
  popped.foldl recStep acc

theorem popRecords_eq (number : Nat) (recs : List ReadyRecord) (acc : Nat × Nat × Nat) :
    popRecords number recs acc =
      (recs.dropWhile (fun r => decide (r.number ≤ number)),
       persistTarget (recs.takeWhile (fun r => decide (r.number ≤ number))) acc) := by
  induction recs generalizing acc with
  | nil => rfl
  | cons r rs ih =>
    obtain ⟨index, term, snapIndex⟩ := acc
    unfold popRecords
    by_cases hlt : number < r.number
    · have hn : ¬ r.number ≤ number := by omega
      simp [hlt, hn, List.takeWhile_cons, persistTarget]
    · have hn : r.number ≤ number := by omega
      simp only [hlt, if_false, List.dropWhile_cons, List.takeWhile_cons, hn, decide_true,
        if_true, persistTarget, List.foldl_cons]
      rw [ih]
      simp only [persistTarget]
      congr 2
      unfold recStep
      cases r.snapshot with
      | none => cases r.lastEntry with
        | none => rfl
        | some p => rfl
      | some q => cases r.lastEntry with
        | none => rfl
        | some p => rfl

/-- the queue invariant: numbers strictly increasing and bounded by `max_number` -/
def RecOk (n : RawNodeM) : Prop :=
  (n.records.map (·.number)).Pairwise (· < ·) ∧ ∀ r ∈ n.records, r.number ≤ n.maxNumber

theorem pairwise_dropWhile {l : List ReadyRecord} (p : ReadyRecord → Bool)
    (h : (l.map (·.number)).Pairwise (· < ·)) :
    ((l.dropWhile p).map (·.number)).Pairwise (· < ·) := by
  induction l with
  | nil => simpa using h
  | cons a t ih =>
    simp only [List.map_cons, List.pairwise_cons] at h
    rw [List.dropWhile_cons]
    split
    · exact ih h.2
    · simp only [List.map_cons, List.pairwise_cons]; exact h

theorem mem_dropWhile_of_sorted {l : List ReadyRecord} (number : Nat)
    (h : (l.map (·.number)).Pairwise (· < ·)) (r : ReadyRecord) :
    r ∈ l.dropWhile (fun r => decide (r.number ≤ number)) ↔ r ∈ l ∧ number < r.number := by
  induction l with
  | nil => simp
  | cons a t ih =>
    simp only [List.map_cons, List.pairwise_cons] at h
    rw [List.dropWhile_cons]
    by_cases ha : a.number ≤ number
    · simp only [ha, decide_true, if_true]
      rw [ih h.2]
      constructor
      · rintro ⟨h1, h2⟩; exact ⟨List.mem_cons_of_mem _ h1, h2⟩
      · rintro ⟨h1, h2⟩
        rcases List.mem_cons.1 h1 with rfl | h1
        · omega
        · exact ⟨h1, h2⟩
    · simp only [ha, decide_false, Bool.false_eq_true, if_false]
      constructor
      · intro hm
        refine ⟨hm, ?_⟩
        rcases List.mem_cons.1 hm with rfl | hm
        · omega
        · have := h.1 r.number (List.mem_map.2 ⟨r, hm, rfl⟩); omega
      · rintro ⟨h1, _⟩; exact h1

end RawNodeM
end RaftModel

namespace RaftModel
namespace RawNodeM

/-! ### `commit_ready` right after `ready` -/

/-- `commit_ready` of a Ready whose record is the last one and was computed from the current
unstable part: never panics, clears the unstable part, touches nothing else of the log -/
theorem commitReady_spec (n : RawNodeM) (rd : Ready) (rec : ReadyRecord)
    (hlast : n.records.getLast? = some rec) (hnum : rec.number = rd.number)
    (hsnap : rec.snapshot =
      n.log.unstable.snapshot.map (fun sn => (sn.metadata.index, sn.metadata.term)))
    (hent : rec.lastEntry = n.log.unstable.entries.getLast?.map (fun e => (e.index, e.term))) :
    ∃ l2, n.commitReady rd = .ok { n with prevSs := rd.ss.getD n.prevSs,
                                          prevHs := rd.hs.getD n.prevHs, log := l2 } ∧
      l2.unstable.entries = [] ∧ l2.unstable.snapshot = none ∧ l2.store = n.log.store ∧
      l2.committed = n.log.committed ∧ l2.persisted = n.log.persisted ∧
      l2.applied = n.log.applied ∧
      l2.maxApplyUnpersistedLogLimit = n.log.maxApplyUnpersistedLogLimit ∧
      (match n.log.unstable.entries.getLast? with
        | some e => l2.unstable.offset = e.index + 1 ∧ l2.unstable.entriesSize = 0
        | none => l2.unstable.offset = n.log.unstable.offset ∧
            l2.unstable.entriesSize = n.log.unstable.entriesSize) := by
  unfold commitReady
  simp only [hlast, hnum, ne_eq, not_true_eq_false, if_false, hsnap, hent]
  cases hs : n.log.unstable.snapshot with
  | none =>
    cases he : n.log.unstable.entries.getLast? with
    | none =>
      have hnil : n.log.unstable.entries = [] := by
        cases hh : n.log.unstable.entries with
        | nil => rfl
        | cons a t => rw [hh] at he; simp [List.getLast?_cons] at he
      simp only [Option.map_none]
      exact ⟨n.log, rfl, hnil, hs, rfl, rfl, rfl, rfl, rfl, rfl, rfl⟩
    | some e =>
      simp only [Option.map_none, Option.map_some, RaftLog.stableEntries,
        Unstable.stableEntries, hs, Option.isSome_none, Bool.false_eq_true, if_false, he,
        ne_eq, not_true_eq_false, or_self]
      exact ⟨_, rfl, rfl, rfl, rfl, rfl, rfl, rfl, rfl, rfl, rfl⟩
  | some sn =>
    cases he : n.log.unstable.entries.getLast? with
    | none =>
      have hnil : n.log.unstable.entries = [] := by
        cases hh : n.log.unstable.entries with
        | nil => rfl
        | cons a t => rw [hh] at he; simp [List.getLast?_cons] at he
      simp only [Option.map_none, Option.map_some, RaftLog.stableSnap, Unstable.stableSnap, hs,
        ne_eq, not_true_eq_false, if_false]
      exact ⟨_, rfl, hnil, rfl, rfl, rfl, rfl, rfl, rfl, rfl, rfl⟩
    | some e =>
      simp only [Option.map_some, RaftLog.stableSnap, Unstable.stableSnap, hs,
        ne_eq, not_true_eq_false, if_false, RaftLog.stableEntries, Unstable.stableEntries,
        Option.isSome_none, Bool.false_eq_true, he, or_self]
      exact ⟨_, rfl, rfl, rfl, rfl, rfl, rfl, rfl, rfl, rfl, rfl⟩

/-- … under the `RaftLog` invariant: the size counter is reset and the new offset is
`last_index + 1` -/
theorem commitReady_stable (n : RawNodeM) (rd : Ready) (rec : ReadyRecord) (hinv : n.log.Inv)
    (hlast : n.records.getLast? = some rec) (hnum : rec.number = rd.number)
    (hsnap : rec.snapshot =
      n.log.unstable.snapshot.map (fun sn => (sn.metadata.index, sn.metadata.term)))
    (hent : rec.lastEntry = n.log.unstable.entries.getLast?.map (fun e => (e.index, e.term))) :
    ∃ l2, n.commitReady rd = .ok { n with prevSs := rd.ss.getD n.prevSs,
                                          prevHs := rd.hs.getD n.prevHs, log := l2 } ∧
      l2.unstable.entries = [] ∧ l2.unstable.entriesSize = 0 ∧ l2.unstable.snapshot = none ∧
      l2.store = n.log.store ∧ l2.committed = n.log.committed ∧ l2.persisted = n.log.persisted ∧
      l2.applied = n.log.applied ∧
      l2.maxApplyUnpersistedLogLimit = n.log.maxApplyUnpersistedLogLimit ∧
      l2.unstable.offset = n.log.lastIndex + 1 := by
  obtain ⟨l2, hc, he, hs, hst, hcm, hp, ha, hlim, hoff⟩ :=
    commitReady_spec n rd rec hlast hnum hsnap hent
  have hls := hinv.last_succ
  have key : l2.unstable.entriesSize = 0 ∧ l2.unstable.offset = n.log.lastIndex + 1 := by
    cases hg : n.log.unstable.entries.getLast? with
    | none =>
      have hnil := List.getLast?_eq_none_iff.1 hg
      rw [hg] at hoff
      rw [hnil, List.length_nil, Nat.add_zero] at hls
      exact ⟨by rw [hoff.2, hinv.unstWF.size, hnil]; rfl, by rw [hoff.1]; exact hls.symm⟩
    | some e =>
      rw [hg] at hoff
      have := ContigFrom.getLast hinv.unstWF.contig hg
      exact ⟨hoff.2, by rw [hoff.1]; omega⟩
  exact ⟨l2, hc, he, key.1, hs, hst, hcm, hp, ha, hlim, key.2⟩

theorem getLast?_append_singleton {α : Type} (l : List α) (a : α) :
    (l ++ [a]).getLast? = some a := by
  simp

/-- the state right after `ready`: log, term, vote, role untouched; bookkeeping as computed -/
theorem ready_state {n n' : RawNodeM} {rd : Ready} (h : n.ready = .ok (n', rd)) :
    n'.log = n.log ∧ n'.term = n.term ∧ n'.vote = n.vote ∧ n'.role = n.role ∧
    n'.leaderId = n.leaderId ∧ n'.prevHs = n.prevHs ∧ n'.prevSs = n.prevSs ∧
    n'.maxNumber = n.maxNumber + 1 ∧ rd.number = n.maxNumber + 1 ∧
    n'.records.getLast? = some n.readyRecord ∧ n'.msgs = [] ∧ n'.readStates = [] ∧
    n'.maxCommittedSizePerReady = n.maxCommittedSizePerReady := by
  obtain ⟨recs, csi, n2, light, _, _, hg, hn', hrd⟩ := ready_ok h
  obtain ⟨o, _, _, hn2, _⟩ := genLightReady_ok hg
  subst hn' hrd hn2
  refine ⟨rfl, rfl, rfl, rfl, rfl, rfl, rfl, rfl, rfl, ?_, rfl, rfl, rfl⟩
  exact getLast?_append_singleton _ _

/-! ### what each call is: the new node as an equation

No assumption on the state; what a call leaves alone (`Frame`, the `Fr` of C06, the queue, the
storage) is read off these. -/

theorem env_ok {n n' : RawNodeM} {e : EnvEffect} (h : n.env e = .ok n') :
    ∃ l, applyLogOps n.log e.ops = .ok l ∧
      n' = { n with log := { l with maxApplyUnpersistedLogLimit := e.limit },
                    term := e.term, vote := e.vote, role := e.role, leaderId := e.leaderId,
                    msgs := e.msgs, readStates := e.readStates } := by
  unfold RawNodeM.env at h
  cases ha : applyLogOps n.log e.ops with
  | ok l => simp only [ha] at h; injection h with h; exact ⟨l, rfl, h.symm⟩
  | err e => simp only [ha] at h; cases h
  | panic s => simp only [ha] at h; cases h

theorem applyHs_congr (st2 : MemStorage) (o : Option HardState) :
    (match o with | some hs => st2.setHardState hs | none => st2).entries = st2.entries ∧
    (match o with | some hs => st2.setHardState hs | none => st2).snapshotMetadata =
      st2.snapshotMetadata := by
  cases o <;> exact ⟨rfl, rfl⟩

/-- the application's storage write: `apply_snapshot` (if the Ready carries one), `append`,
`set_hardstate` (if it carries one), on the storage only -/
theorem storageWrite_parts {n n' : RawNodeM} {rd : Ready} (h : n.storageWrite rd = .ok n') :
    ∃ st1 st2, ((rd.snapshot = none ∧ st1 = n.log.store) ∨
        ∃ sn, rd.snapshot = some sn ∧ n.log.store.applySnapshot sn = .ok st1) ∧
      st1.append rd.entries = .ok st2 ∧
      n' = { n with log := { n.log with store :=
        match rd.hs with | some hs => st2.setHardState hs | none => st2 } } := by
  unfold storageWrite at h
  simp only [] at h
  cases hs : rd.snapshot with
  | none =>
    simp only [hs] at h
    cases h2 : n.log.store.append rd.entries with
    | ok st2 =>
      simp only [h2] at h
      injection h with h
      exact ⟨_, st2, .inl ⟨rfl, rfl⟩, h2, h.symm⟩
    | err e => simp only [h2] at h; cases h
    | panic p => simp only [h2] at h; cases h
  | some sn =>
    simp only [hs] at h
    cases h1 : n.log.store.applySnapshot sn with
    | ok st1 =>
      simp only [h1] at h
      cases h2 : st1.append rd.entries with
      | ok st2 =>
        simp only [h2] at h
        injection h with h
        exact ⟨st1, st2, .inr ⟨sn, rfl, h1⟩, h2, h.symm⟩
      | err e => simp only [h2] at h; cases h
      | panic p => simp only [h2] at h; cases h
    | err e => simp only [h1] at h; cases h
    | panic p => simp only [h1] at h; cases h

theorem storageWrite_ok {n n' : RawNodeM} {rd : Ready} (h : n.storageWrite rd = .ok n') :
    ∃ st, n' = { n with log := { n.log with store := st } } :=
  let ⟨_, _, _, _, e⟩ := storageWrite_parts h; ⟨_, e⟩

/-- `commit_ready`: `prev_ss`, `prev_hs` and the unstable part of the log -/
theorem commitReady_ok {n n' : RawNodeM} {rd : Ready} (h : n.commitReady rd = .ok n') :
    ∃ l2, n' = { n with prevSs := rd.ss.getD n.prevSs, prevHs := rd.hs.getD n.prevHs,
                        log := l2 } ∧ l2.store = n.log.store := by
  unfold commitReady at h
  simp only [] at h
  cases hr : n.records.getLast? with
  | none => simp only [hr] at h; cases h
  | some rec =>
    simp only [hr] at h
    by_cases hnum : rec.number ≠ rd.number
    · rw [if_pos hnum] at h; cases h
    rw [if_neg hnum] at h
    -- the log after `stable_snap`, then after `stable_entries`
    have k1 : ∀ l1 : RaftLog, (match rec.snapshot with
        | some (index, _) => n.log.stableSnap index
        | none => Res.ok n.log) = .ok l1 → l1.store = n.log.store := by
      intro l1 h1
      cases hs : rec.snapshot with
      | none => rw [hs] at h1; cases h1; rfl
      | some q =>
        rw [hs] at h1
        obtain ⟨u, _, rfl⟩ := RaftLog.stableSnap_inv h1; rfl
    have k2 : ∀ l1 l2 : RaftLog, (match rec.lastEntry with
        | some (index, term) => l1.stableEntries index term
        | none => Res.ok l1) = .ok l2 → l2.store = l1.store := by
      intro l1 l2 h2
      cases he : rec.lastEntry with
      | none => rw [he] at h2; cases h2; rfl
      | some q =>
        rw [he] at h2
        obtain ⟨u, _, rfl⟩ := RaftLog.stableEntries_inv h2; rfl
    split at h
    · rename_i l1 h1
      split at h
      · rename_i l2 h2
        injection h with h
        exact ⟨l2, h.symm, (k2 l1 l2 h2).trans (k1 l1 h1)⟩
      · cases h
      · cases h
    · cases h
    · cases h

/-- `commit_apply`: the log only (`applied_to`, then the auto-leave entry of a leader) -/
theorem commitApply_ok {n n' : RawNodeM} {a : Nat} {eff : Effect}
    (h : n.commitApply a eff = .ok n') :
    ∃ l1 l2, n.log.appliedTo a = .ok l1 ∧
      (l2 = l1 ∨ ∃ k, (n.isLeader && !eff.appended.isEmpty) = true ∧
        l1.append eff.appended = .ok (l2, k)) ∧
      n' = { n with log := l2 } := by
  unfold commitApply at h
  cases h1 : n.log.appliedTo a with
  | ok l1 =>
    simp only [h1] at h
    by_cases hb : (n.isLeader && !eff.appended.isEmpty) = true
    · rw [if_pos hb] at h
      cases hp : l1.append eff.appended with
      | ok p =>
        obtain ⟨l2, k⟩ := p
        simp only [hp] at h
        injection h with h
        exact ⟨l1, l2, rfl, .inr ⟨k, hb, hp⟩, h.symm⟩
      | err e => simp only [hp] at h; cases h
      | panic s => simp only [hp] at h; cases h
    · rw [if_neg hb] at h
      injection h with h
      exact ⟨l1, l1, rfl, .inl rfl, h.symm⟩
  | err e => simp only [h1] at h; cases h
  | panic s => simp only [h1] at h; cases h

/-- **`on_persist_ready` is the two forwarded notices**: the records up to `k` are popped, their
fold `persistTarget` names a snapshot index and an entry to report persisted -/
theorem onPersistReady_eq (n : RawNodeM) (k : Nat) (eff : Effect) :
    n.onPersistReady k eff =
      (let tgt := persistTarget (n.records.takeWhile (fun r => decide (r.number ≤ k))) (0, 0, 0)
       let n1 : RawNodeM :=
         { n with unpersistedHsNumber := if n.unpersistedHsNumber ≤ k then 0 else n.unpersistedHsNumber,
                  records := n.records.dropWhile (fun r => decide (r.number ≤ k)) }
       match (if tgt.2.2 ≠ 0 then n1.onPersistSnap tgt.2.2 else .ok n1) with
       | .ok n2 => if tgt.1 ≠ 0 then n2.onPersistEntries tgt.1 tgt.2.1 eff else .ok n2
       | .err e => .err e
       | .panic s => .panic s) := by
  unfold onPersistReady
  rw [popRecords_eq]
  generalize persistTarget (n.records.takeWhile (fun r => decide (r.number ≤ k))) (0, 0, 0) = tgt
  obtain ⟨idx, tm, sidx⟩ := tgt
  rfl

theorem onPersistReady_inv {n n' : RawNodeM} {k : Nat} {eff : Effect}
    (h : n.onPersistReady k eff = .ok n') :
    ∃ idx tm sidx n2,
      persistTarget (n.records.takeWhile (fun r => decide (r.number ≤ k))) (0, 0, 0) = (idx, tm, sidx) ∧
      (if sidx ≠ 0 then
          ({ n with unpersistedHsNumber := if n.unpersistedHsNumber ≤ k then 0 else n.unpersistedHsNumber,
                    records := n.records.dropWhile (fun r => decide (r.number ≤ k)) } : RawNodeM).onPersistSnap sidx
        else .ok { n with unpersistedHsNumber := if n.unpersistedHsNumber ≤ k then 0 else n.unpersistedHsNumber,
                          records := n.records.dropWhile (fun r => decide (r.number ≤ k)) }) = .ok n2 ∧
      (if idx ≠ 0 then n2.onPersistEntries idx tm eff else .ok n2) = .ok n' := by
  rw [onPersistReady_eq] at h
  generalize persistTarget (n.records.takeWhile (fun r => decide (r.number ≤ k))) (0, 0, 0) = tgt at h ⊢
  obtain ⟨idx, tm, sidx⟩ := tgt
  simp only [] at h
  split at h
  · exact ⟨idx, tm, sidx, _, rfl, by assumption, h⟩
  · cases h
  · cases h

/-- a reflexive, transitive relation that the two notices respect holds across `on_persist_ready` -/
theorem onPersistReady_rel {R : RawNodeM → RawNodeM → Prop} (refl : ∀ a, R a a)
    (trans : ∀ {a b c}, R a b → R b c → R a c)
    (hs : ∀ {a b i}, a.onPersistSnap i = .ok b → R a b)
    (he : ∀ {a b i t eff}, a.onPersistEntries i t eff = .ok b → R a b)
    {n n' : RawNodeM} {k : Nat} {eff : Effect} (h : n.onPersistReady k eff = .ok n') :
    R { n with unpersistedHsNumber := if n.unpersistedHsNumber ≤ k then 0 else n.unpersistedHsNumber,
               records := n.records.dropWhile (fun r => decide (r.number ≤ k)) } n' := by
  obtain ⟨idx, tm, sidx, n2, _, h1, h2⟩ := onPersistReady_inv h
  refine trans ?_ ?_ (b := n2)
  · by_cases hc : sidx ≠ 0
    · rw [if_pos hc] at h1; exact hs h1
    · rw [if_neg hc] at h1; injection h1 with h1; subst h1; exact refl _
  · by_cases hc : idx ≠ 0
    · rw [if_pos hc] at h2; exact he h2
    · rw [if_neg hc] at h2; injection h2 with h2; subst h2; exact refl _

/-- `advance_append` in pieces, with what its closing assertions establish: a non-leader hands out
no messages, and on return `prev_hs` is the current hard state -/
theorem advanceAppend_ok {n n' : RawNodeM} {rd : Ready} {eff : Effect} {light : LightReady}
    (h : n.advanceAppend rd eff = .ok (n', light)) :
    ∃ n1 n2 n3 l3, n.commitReady rd = .ok n1 ∧ n1.onPersistReady n1.maxNumber eff = .ok n2 ∧
      n2.genLightReady = .ok (n3, l3) ∧ light.committedEntries = l3.committedEntries ∧
      light.messages = l3.messages ∧ (n3.role = ROLE_LEADER ∨ l3.messages = []) ∧
      (n' = n3 ∨ n' = { n3 with prevHs := { n3.prevHs with commit := n3.hardState.commit } }) ∧
      n'.hardState = n'.prevHs := by
  unfold advanceAppend at h
  cases h1 : n.commitReady rd with
  | ok n1 =>
    simp only [h1] at h
    cases h2 : n1.onPersistReady n1.maxNumber eff with
    | ok n2 =>
      simp only [h2] at h
      cases h3 : n2.genLightReady with
      | ok p =>
        obtain ⟨n3, l3⟩ := p
        simp only [h3] at h
        refine ⟨n1, n2, n3, l3, by first | rfl | exact h1, by first | rfl | exact h2,
          by first | rfl | exact h3, ?_⟩
        by_cases hm : n3.role ≠ ROLE_LEADER ∧ l3.messages ≠ []
        · rw [if_pos hm] at h
          cases h
        · rw [if_neg hm] at h
          have hrole : n3.role = ROLE_LEADER ∨ l3.messages = [] := by
            by_cases h5 : n3.role = ROLE_LEADER
            · exact .inl h5
            · exact .inr (Classical.not_not.1 (fun h6 => hm ⟨h5, h6⟩))
          by_cases hcm : n3.prevHs.commit < n3.hardState.commit
          · rw [if_pos hcm] at h
            by_cases hh : n3.hardState ≠ { n3.prevHs with commit := n3.hardState.commit }
            · rw [if_pos hh] at h
              cases h
            · rw [if_neg hh] at h
              injection h with h
              injection h with ha hb
              subst ha hb
              exact ⟨rfl, rfl, hrole, .inr rfl, Classical.not_not.1 hh⟩
          · rw [if_neg hcm] at h
            by_cases hne : n3.hardState.commit ≠ n3.prevHs.commit
            · rw [if_pos hne] at h
              cases h
            · rw [if_neg hne] at h
              by_cases hh : n3.hardState ≠ n3.prevHs
              · rw [if_pos hh] at h
                cases h
              · rw [if_neg hh] at h
                injection h with h
                injection h with ha hb
                subst ha hb
                exact ⟨rfl, rfl, hrole, .inl rfl, Classical.not_not.1 hh⟩
      | err e => simp only [h3] at h; cases h
      | panic s => simp only [h3] at h; cases h
    | err e => simp only [h2] at h; cases h
    | panic s => simp only [h2] at h; cases h
  | err e => simp only [h1] at h; cases h
  | panic s => simp only [h1] at h; cases h

theorem advance_ok {n n' : RawNodeM} {rd : Ready} {eff1 eff2 : Effect} {light : LightReady}
    (h : n.advance rd eff1 eff2 = .ok (n', light)) :
    ∃ n1, n.advanceAppend rd eff1 = .ok (n1, light) ∧
      n1.commitApply n.commitSinceIndex eff2 = .ok n' := by
  unfold advance at h
  simp only [] at h
  cases h1 : n.advanceAppend rd eff1 with
  | ok p =>
    obtain ⟨n1, l1⟩ := p
    simp only [h1] at h
    unfold advanceApplyTo at h
    cases h2 : n1.commitApply n.commitSinceIndex eff2 with
    | ok n2 =>
      simp only [h2] at h
      injection h with h; injection h with ha hb; subst ha hb
      exact ⟨n1, rfl, h2⟩
    | err e => simp only [h2] at h; cases h
    | panic s => simp only [h2] at h; cases h
  | err e => simp only [h1] at h; cases h
  | panic s => simp only [h1] at h; cases h

/-- `RawNode::new`: term and vote are the stored ones, `prev_hs` agrees, no Ready yet, the log is
`RaftLog::new` over the storage with the commit index / apply index moved by `load_state` -/
theorem new_ok {st : MemStorage} {limit applied maxc : Nat} {n : RawNodeM}
    (h : RawNodeM.new st limit applied maxc = .ok n) :
    ∃ log c, RaftLog.new st limit = .ok log ∧
      (c = log.committed ∨ (log.committed ≤ c ∧ c ≤ log.lastIndex)) ∧
      n.log = { log with committed := c, applied := if 0 < applied then applied else log.applied,
                         maxApplyUnpersistedLogLimit := 0 } ∧
      n.term = st.hardState.term ∧ n.vote = st.hardState.vote ∧ n.prevHs.term = n.term ∧
      n.prevHs.vote = n.vote ∧ n.unpersistedHsNumber = 0 ∧ n.maxNumber = 0 ∧ n.records = [] ∧
      n.role = ROLE_FOLLOWER ∧ n.commitSinceIndex = applied := by
  unfold RawNodeM.new at h
  cases hl : RaftLog.new st limit with
  | ok log =>
    simp only [hl] at h
    by_cases hd : st.hardState ≠ {}
    · rw [if_pos hd] at h
      by_cases hr : st.hardState.commit < log.committed ∨ log.lastIndex < st.hardState.commit
      · rw [if_pos hr] at h; cases h
      · rw [if_neg hr] at h
        simp only [] at h
        injection h with h; subst h
        refine ⟨log, st.hardState.commit, rfl, .inr ⟨by omega, by omega⟩, ?_, rfl, rfl, rfl, rfl,
          rfl, rfl, rfl, rfl, rfl⟩
        show ({ (if 0 < applied then _ else _ : RaftLog) with maxApplyUnpersistedLogLimit := 0 }) = _
        split <;> rfl
    · rw [if_neg hd] at h
      simp only [] at h
      injection h with h; subst h
      have hd := Classical.not_not.1 hd
      refine ⟨log, log.committed, rfl, .inl rfl, ?_, by rw [hd], by rw [hd], rfl, rfl, rfl, rfl,
        rfl, rfl, rfl⟩
      show ({ (if 0 < applied then _ else _ : RaftLog) with maxApplyUnpersistedLogLimit := 0 }) = _
      split <;> rfl
  | err e => simp only [hl] at h; cases h
  | panic s => simp only [hl] at h; cases h

end RawNodeM
end RaftModel

namespace RaftModel
namespace RawNodeM

/-! ### fields of the Ready -/

theorem readyTv_iff (n : RawNodeM) :
    n.readyTv = true ↔ (n.vote ≠ n.prevHs.vote ∨ n.term ≠ n.prevHs.term) := by
  unfold readyTv hardState; exact decide_eq_true_iff

theorem readyHsChanged_iff (n : RawNodeM) : n.readyHsChanged = true ↔ n.hardState ≠ n.prevHs := by
  unfold readyHsChanged; exact decide_eq_true_iff

theorem readyTv_changed (n : RawNodeM) (h : n.readyTv = true) : n.readyHsChanged = true := by
  rw [readyHsChanged_iff]
  rw [readyTv_iff] at h
  intro hc
  rw [← hc] at h
  simp [hardState] at h

theorem readyRd_hs_changed (n : RawNodeM) (light : LightReady) (h : n.hardState ≠ n.prevHs) :
    (n.readyRd light).hs = some n.hardState := by
  have := (readyHsChanged_iff n).2 h
  show (if n.readyHsChanged then some n.hardState else none) = _
  rw [this]; rfl

theorem readyRd_hs_same (n : RawNodeM) (light : LightReady) (h : n.hardState = n.prevHs) :
    (n.readyRd light).hs = none := by
  have : n.readyHsChanged = false := by
    cases hb : n.readyHsChanged with
    | false => rfl
    | true => exact absurd h ((readyHsChanged_iff n).1 hb)
  show (if n.readyHsChanged then some n.hardState else none) = _
  rw [this]; rfl

theorem readyRd_hs_getD (n : RawNodeM) (light : LightReady) :
    (n.readyRd light).hs.getD n.prevHs = n.hardState := by
  by_cases h : n.hardState = n.prevHs
  · rw [readyRd_hs_same n light h]; exact h.symm
  · rw [readyRd_hs_changed n light h]; rfl

theorem readyRd_ss_getD (n : RawNodeM) (light : LightReady) :
    (n.readyRd light).ss.getD n.prevSs = n.softState := by
  show (if n.softState ≠ n.prevSs then some n.softState else none).getD n.prevSs = _
  by_cases h : n.softState = n.prevSs
  · rw [if_neg (by simpa using h)]; exact h.symm
  · rw [if_pos h]; rfl

theorem readyRd_ss_none_iff (n : RawNodeM) (light : LightReady) :
    (n.readyRd light).ss = none ↔ n.softState = n.prevSs := by
  show (if n.softState ≠ n.prevSs then some n.softState else none) = none ↔ _
  by_cases h : n.softState = n.prevSs
  · rw [if_neg (by simpa using h)]; simp [h]
  · rw [if_pos h]; simp [h]

theorem readyRd_hs_none_iff (n : RawNodeM) (light : LightReady) :
    (n.readyRd light).hs = none ↔ n.hardState = n.prevHs := by
  by_cases h : n.hardState = n.prevHs
  · rw [readyRd_hs_same n light h]; simp [h]
  · rw [readyRd_hs_changed n light h]; simp [h]

theorem getLast?_isSome_iff {α : Type} (l : List α) : l.getLast?.isSome = true ↔ l ≠ [] := by
  cases l with
  | nil => simp
  | cons a t => simp [List.getLast?_cons]

theorem readyRd_mustSync (n : RawNodeM) (light : LightReady) :
    (n.readyRd light).mustSync = true ↔
      (n.log.unstable.entries ≠ [] ∨ n.log.unstable.snapshot.isSome = true ∨
        n.term ≠ n.prevHs.term ∨ n.vote ≠ n.prevHs.vote) := by
  show ((n.readyHsChanged && n.readyTv) || n.log.unstable.snapshot.isSome ||
      n.log.unstable.entries.getLast?.isSome) = true ↔ _
  rw [Bool.or_eq_true, Bool.or_eq_true, Bool.and_eq_true, getLast?_isSome_iff, readyTv_iff]
  constructor
  · rintro ((⟨_, h2 | h2⟩ | h2) | h2)
    · right; right; right; exact h2
    · right; right; left; exact h2
    · right; left; exact h2
    · left; exact h2
  · rintro (h1 | h1 | h1 | h1)
    · right; exact h1
    · left; right; exact h1
    · left; left
      exact ⟨readyTv_changed n ((readyTv_iff n).2 (.inr h1)), .inr h1⟩
    · left; left
      exact ⟨readyTv_changed n ((readyTv_iff n).2 (.inl h1)), .inl h1⟩

end RawNodeM
end RaftModel

/-! ### entries that are entries of the logical log -/

namespace RaftModel
namespace RaftLog

/-- `es` are the entries of the logical log at `lo, lo+1, …` -/
def Matches (l : RaftLog) (lo : Nat) (es : List Entry) : Prop :=
  ∀ k e, es[k]? = some e → l.abs.entryAt (lo + k) = some e

theorem Matches.append {l : RaftLog} {lo : Nat} {a b : List Entry} (ha : l.Matches lo a)
    (hb : l.Matches (lo + a.length) b) : l.Matches lo (a ++ b) := by
  intro j e hj
  rcases Nat.lt_or_ge j a.length with hlt | hge
  · rw [List.getElem?_append_left hlt] at hj; exact ha j e hj
  · rw [List.getElem?_append_right hge] at hj
    have := hb _ e hj
    rw [show lo + a.length + (j - a.length) = lo + j by omega] at this
    exact this

end RaftLog
end RaftModel

/-! ### one hand-out -/

namespace RaftModel
namespace RawNodeM

theorem hasNext_eq (l : RaftLog) (i : Nat) (hi : i < U64_MAX) :
    l.hasNextEntriesSince i = .ok (decide (max (i + 1) l.firstIndex <
      min l.committed (min U64_MAX (l.persisted + l.maxApplyUnpersistedLogLimit)) + 1)) := by
  unfold RaftLog.hasNextEntriesSince RaftLog.appliedIndexUpperBound
  rw [if_neg (by omega)]

theorem contig_getLast {es : List Entry} {s : Nat} (hc : ContigFrom s es) (e : Entry)
    (he : es.getLast? = some e) : e.index + 1 = s + es.length := hc.getLast he

theorem genLightReady_csi_lt {n n' : RawNodeM} {light : LightReady}
    (h : n.genLightReady = .ok (n', light)) : n.commitSinceIndex < U64_MAX := by
  obtain ⟨o, ho, _, _, _⟩ := genLightReady_ok h
  apply Classical.byContradiction
  intro hc
  unfold RaftLog.nextEntriesSince at ho
  rw [if_pos (by omega)] at ho
  cases ho

/-- the two ways `gen_light_ready` ends: nothing is due, or `slice` returned a non-empty prefix of
the entries due, from `max (commit_since_index + 1) first_index` on -/
theorem genLightReady_cases {n n' : RawNodeM} {light : LightReady} (hinv : n.log.Inv)
    (h : n.genLightReady = .ok (n', light)) :
    (n.log.hasNextEntriesSince n.commitSinceIndex = .ok false ∧ light.committedEntries = [] ∧
      n'.commitSinceIndex = n.commitSinceIndex) ∨
    (n.log.hasNextEntriesSince n.commitSinceIndex = .ok true ∧ light.committedEntries ≠ [] ∧
      n'.commitSinceIndex = csiAfter n.commitSinceIndex light.committedEntries ∧
      max (n.commitSinceIndex + 1) n.log.firstIndex + light.committedEntries.length ≤
        min n.log.committed (min U64_MAX (n.log.persisted + n.log.maxApplyUnpersistedLogLimit)) + 1 ∧
      ∀ k e, light.committedEntries[k]? = some e →
        n.log.abs.entryAt (max (n.commitSinceIndex + 1) n.log.firstIndex + k) = some e ∧
        e.index = max (n.commitSinceIndex + 1) n.log.firstIndex + k) := by
  obtain ⟨o, ho, hl, hn', _⟩ := genLightReady_ok h
  have hhn := hasNext_eq n.log n.commitSinceIndex (genLightReady_csi_lt h)
  by_cases hb : max (n.commitSinceIndex + 1) n.log.firstIndex <
      min n.log.committed (min U64_MAX (n.log.persisted + n.log.maxApplyUnpersistedLogLimit)) + 1
  · have htrue : n.log.hasNextEntriesSince n.commitSinceIndex = .ok true := by
      rw [hhn]; simp [hb]
    rw [hasNext_true_next_some _ htrue] at ho
    have hcl := hinv.committed_le_last
    obtain ⟨es, hs, hne, hlen, hm⟩ := hinv.slicePrefix
      (max (n.commitSinceIndex + 1) n.log.firstIndex)
      (min n.log.committed (min U64_MAX (n.log.persisted + n.log.maxApplyUnpersistedLogLimit)) + 1)
      (some n.maxCommittedSizePerReady) (by omega) hb (by omega)
    simp only [] at ho
    rw [hs] at ho
    injection ho with ho
    subst ho hl hn'
    exact .inr ⟨htrue, hne, rfl, by simp only [Option.getD_some]; omega, hm⟩
  · have hfalse : n.log.hasNextEntriesSince n.commitSinceIndex = .ok false := by
      rw [hhn]; simp [hb]
    rw [hasNext_false_next_none _ hfalse] at ho
    injection ho with ho
    subst ho hl hn'
    exact .inl ⟨hfalse, rfl, by simp [csiAfter]⟩

/-- one hand-out (`gen_light_ready`) when nothing not yet handed out has been compacted -/
theorem genLightReady_handout {n n' : RawNodeM} {light : LightReady} (hinv : n.log.Inv)
    (hcsi : n.log.firstIndex ≤ n.commitSinceIndex + 1)
    (h : n.genLightReady = .ok (n', light)) :
    ContigFrom (n.commitSinceIndex + 1) light.committedEntries ∧
    (∀ k e, light.committedEntries[k]? = some e →
      n.log.abs.entryAt (n.commitSinceIndex + 1 + k) = some e) ∧
    n'.commitSinceIndex = n.commitSinceIndex + light.committedEntries.length ∧
    (light.committedEntries ≠ [] →
      n'.commitSinceIndex ≤ n.log.committed ∧
      n'.commitSinceIndex ≤ n.log.persisted + n.log.maxApplyUnpersistedLogLimit) ∧
    (light.committedEntries ≠ [] ↔ n.log.hasNextEntriesSince n.commitSinceIndex = .ok true) := by
  have hmax : max (n.commitSinceIndex + 1) n.log.firstIndex = n.commitSinceIndex + 1 := by omega
  rcases genLightReady_cases hinv h with ⟨hf, hnil, hc⟩ | ⟨ht, hne, hc, hle, hm⟩
  · rw [hnil, hc, hf]
    exact ⟨fun k e hk => by simp at hk, fun k e hk => by simp at hk, rfl,
      fun hne => absurd rfl hne, by simp⟩
  · rw [hmax] at hle hm
    have hcon : ContigFrom (n.commitSinceIndex + 1) light.committedEntries :=
      fun k e hk => (hm k e hk).2
    have hcsi' : n'.commitSinceIndex = n.commitSinceIndex + light.committedEntries.length := by
      rw [hc]
      unfold csiAfter
      cases hl : light.committedEntries.getLast? with
      | none => exact absurd (List.getLast?_eq_none_iff.1 hl) hne
      | some e => have := hcon.getLast hl; simp only; omega
    exact ⟨hcon, fun k e hk => (hm k e hk).1, hcsi', fun _ => by omega,
      fun _ => ht, fun _ => hne⟩

/-- committed entries are handed out exactly when `has_next_entries_since` says so (no assumption
on `commit_since_index`) -/
theorem genLightReady_nonempty_iff {n n' : RawNodeM} {light : LightReady} (hinv : n.log.Inv)
    (h : n.genLightReady = .ok (n', light)) :
    light.committedEntries ≠ [] ↔ n.log.hasNextEntriesSince n.commitSinceIndex = .ok true := by
  rcases genLightReady_cases hinv h with ⟨hf, hnil, _⟩ | ⟨ht, hne, _⟩
  · rw [hnil, hf]; simp
  · exact ⟨fun _ => ht, fun _ => hne⟩

/-- what `on_persist_ready` & co. never touch -/
def Frame (n n' : RawNodeM) : Prop :=
  n'.records = n.records ∧ n'.maxNumber = n.maxNumber ∧ n'.commitSinceIndex = n.commitSinceIndex

theorem onPersistSnap_frame {n n' : RawNodeM} {i : Nat} (h : n.onPersistSnap i = .ok n') :
    Frame n n' := by
  unfold onPersistSnap at h
  split at h
  · injection h with h; subst h; exact ⟨rfl, rfl, rfl⟩
  · cases h
  · cases h

theorem onPersistEntries_frame {n n' : RawNodeM} {i t : Nat} {eff : Effect}
    (h : n.onPersistEntries i t eff = .ok n') : Frame n n' := by
  unfold onPersistEntries at h
  split at h
  · split at h
    · split at h
      · injection h with h; subst h; exact ⟨rfl, rfl, rfl⟩
      · cases h
      · cases h
    · injection h with h; subst h; exact ⟨rfl, rfl, rfl⟩
  · cases h
  · cases h

/-- frame: `on_persist_ready` pops a prefix of the queue and otherwise touches only the log, the
message queue and `unpersisted_hs_number` -/
theorem onPersistReady_records {n n' : RawNodeM} {number : Nat} {eff : Effect}
    (h : n.onPersistReady number eff = .ok n') :
    n'.records = n.records.dropWhile (fun r => decide (r.number ≤ number)) ∧
    n'.maxNumber = n.maxNumber ∧ n'.commitSinceIndex = n.commitSinceIndex :=
  onPersistReady_rel (R := Frame) (fun _ => ⟨rfl, rfl, rfl⟩)
    (fun f g => ⟨g.1.trans f.1, g.2.1.trans f.2.1, g.2.2.trans f.2.2⟩)
    onPersistSnap_frame onPersistEntries_frame h

end RawNodeM
end RaftModel
