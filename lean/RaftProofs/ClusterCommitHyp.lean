import RaftProofs.ClusterCommitKStep
import RaftProps.C05c

/-!
Cluster-level commit safety: **the hypotheses on a history** of `ClusterSem` under which the commit layer
without log compaction is stated (`RaftProps/C01c.lean`, `RaftProps/C01d.lean`).  They form a ladder:

* `Hyp`: fixed voter configuration, the initial states and the absence of batching of the Log Matching
  layer, contract-abiding steps (`KStep`), no snapshot traffic;
* `Hyp2w` = `Hyp` + `nolone`, `shape`, `initc`; `Hyp2` = `Hyp2w` + `norir`;
* `Hyp3w` = `Hyp2w` + `snapt0` (what C01d assumes); `Hyp3a` = `Hyp3w` + `anch`, `rirs` (what the main
  induction uses; both are derived: `Hyp3w.toHyp3a`); `Hyp3` = `Hyp2` + `anch`, `snapt0` (what C01c
  assumes).

The development with compaction has bundles of the same names in `RaftModel.Cluster.Snap`; every
history of a bundle here is one of its namesake there (`Snap.Hyp.of_old` … `Snap.Hyp3.of_old`).
-/
namespace RaftModel
namespace Cluster
open Node Raft Raft.CC RaftProps.C02 RaftProps.C05

/-- **the standing hypotheses** on a history of `ClusterSem` (all explicit, see the report):
fixed voter configuration (as for Election Safety), the initial states and the absence of batching of
the Log Matching layer, contract-abiding steps (`KStep`), and no snapshot traffic -/
structure Hyp (cfg : JointConfig) (h : List Sys) : Prop where
  hist : History h
  fix : ∀ s ∈ h, FixedCfg cfg s
  ne : cfg.incoming ≠ []
  nd1 : cfg.incoming.Nodup
  nd2 : cfg.outgoing.Nodup
  init : ∀ s : Sys, h[0]? = some s → InitOk s
  steps : ∀ (n : Nat) (a b : Sys), h[n]? = some a → h[n + 1]? = some b → KStep a b
  nb : ∀ s ∈ h, NoBatch s
  nosnap : ∀ s ∈ h, NoSnapNet s

/-- **the hypotheses of the commit layer** on top of `Hyp` (see the report for each):
* `nolone`: no joint quorum of `cfg` fits into a single node (at least two voters are needed to win);
* `shape` (**proof gap**: snapshots and log compaction are not covered): no node ever has a pending
  snapshot and every storage keeps its first index `c0 + 1`;
* `initc`: in the initial state every commit index is `c0` (nothing beyond the common snapshot point is
  committed yet).

(`Hyp2w` is `Hyp2` without the proof gap `norir`.) -/
structure Hyp2w (cfg : JointConfig) (c0 : Nat) (h : List Sys) : Prop extends Hyp cfg h where
  nolone : ∀ i Q, IsJointQuorum cfg Q → ∃ k ∈ Q, k ≠ i
  shape : ∀ s ∈ h, ∀ i st, s.node i = some st →
    st.raft.raftLog.unstable.snapshot = none ∧ st.raft.raftLog.store.firstIndex = c0 + 1
  initc : ∀ s : Sys, h[0]? = some s → ∀ i st, s.node i = some st → st.raft.raftLog.committed = c0

/-- the hypotheses of the commit layer as first stated (`RaftProps/C01c.lean`): `Hyp2w` and
* `norir` (a **proof gap** of C01c, discharged in `RaftProps/C01d.lean`): no `MsgReadIndexResp` is ever
  in the transport. -/
structure Hyp2 (cfg : JointConfig) (c0 : Nat) (h : List Sys) : Prop extends Hyp2w cfg c0 h where
  norir : ∀ s ∈ h, ∀ x ∈ s.net, x.msgType ≠ .msgReadIndexResp

/-- where a `MsgReadIndexResp` comes from: some node led the message's term at some earlier point, with
a commit index that covered the message's index -/
def RirSrc (h : List Sys) (n : Nat) (x : Message) : Prop :=
  ∃ n0 s0 w stw, n0 ≤ n ∧ h[n0]? = some s0 ∧ s0.node w = some stw ∧ stw.raft.state = .leader ∧
    stw.raft.term = x.term ∧ x.index ≤ stw.raft.raftLog.committed

/-- **the hypotheses of the main induction** on top of `Hyp2w` — two facts about the messages of the
transport that the induction uses (both are *derived* from the other hypotheses in
`RaftProofs/ClusterCommitPlain.lean`: `Hyp3w.toHyp3a`), and one hypothesis on the initial state
(`snapt0`):
* `anch`: a `MsgAppend` is anchored inside its sender's log (`log_term ≠ 0` unless the anchor is the
  common snapshot point) — follows from `next_idx ≤ last_index + 1` for every progress of a leader;
* `rirs`: a `MsgReadIndexResp` was sent by a leader of its term whose commit index covered its index —
  follows from "every pending read index is at most the commit index";
* `snapt0` (a hypothesis on the initial state, like `InitOk`'s bound on the terms of the initial
  entries): the term an initial storage records for the common snapshot point `c0` is not above the
  initial term of any node. -/
structure Hyp3a (cfg : JointConfig) (c0 : Nat) (h : List Sys) : Prop extends Hyp2w cfg c0 h where
  anch : ∀ s ∈ h, ∀ x ∈ s.net, x.msgType = .msgAppend → x.logTerm ≠ 0 ∨ x.index ≤ c0
  rirs : ∀ n s, h[n]? = some s → ∀ x ∈ s.net, x.msgType = .msgReadIndexResp → RirSrc h n x
  snapt0 : ∀ s0, h[0]? = some s0 → ∀ i sti, s0.node i = some sti → ∀ t0,
    sti.raft.raftLog.abs.snapTerm = some t0 → ∀ j stj, s0.node j = some stj → t0 ≤ stj.raft.term

/-- **the hypotheses of the commit layer without proof gaps about the transport**: `Hyp2w` and the
hypothesis `snapt0` on the initial state (`anch` and `rirs` of `Hyp3a` are derived) -/
structure Hyp3w (cfg : JointConfig) (c0 : Nat) (h : List Sys) : Prop extends Hyp2w cfg c0 h where
  snapt0 : ∀ s0, h[0]? = some s0 → ∀ i sti, s0.node i = some sti → ∀ t0,
    sti.raft.raftLog.abs.snapTerm = some t0 → ∀ j stj, s0.node j = some stj → t0 ≤ stj.raft.term

/-- the hypotheses of the commit layer as first stated (`RaftProps/C01c.lean`), with the two
proof gaps `norir` (in `Hyp2`) and `anch` -/
structure Hyp3 (cfg : JointConfig) (c0 : Nat) (h : List Sys) : Prop extends Hyp2 cfg c0 h where
  anch : ∀ s ∈ h, ∀ x ∈ s.net, x.msgType = .msgAppend → x.logTerm ≠ 0 ∨ x.index ≤ c0
  snapt0 : ∀ s0, h[0]? = some s0 → ∀ i sti, s0.node i = some sti → ∀ t0,
    sti.raft.raftLog.abs.snapTerm = some t0 → ∀ j stj, s0.node j = some stj → t0 ≤ stj.raft.term

theorem Hyp3.toHyp3w {cfg : JointConfig} {c0 : Nat} {h : List Sys} (H : Hyp3 cfg c0 h) :
    Hyp3w cfg c0 h :=
  { toHyp2w := H.toHyp2.toHyp2w, snapt0 := H.snapt0 }

end Cluster
end RaftModel
