import RaftProofs.ClusterCommitE
import RaftProofs.ClusterCommitZ

/-!
Cluster-level commit safety: **one delivery of a `MsgAppend` or a `MsgHeartbeat` at a node**.

* `Raft::step` on a `MsgAppend`, unfolded: either `handle_append_entries` runs on a follower state that
  differs from the start state only in role, term and bookkeeping, or the log is untouched; one delivery of
  a `MsgAppend` at a node, completely (`append_call`).
* `Raft::step` on a `MsgHeartbeat`, unfolded (`step_hb_unfold`), and one delivery of a heartbeat at a node
  (`hb_call`): the commit index is untouched, or the heartbeat was obeyed by a follower of the heartbeat's
  term — `committed := max(committed, m.commit)`, the logical log untouched.
-/

namespace RaftModel
namespace Raft
namespace CC

/-- the states the term preamble can hand to the dispatch, seen from the log -/
def SameLog (r r0 : Raft) : Prop :=
  r0.msgs = r.msgs ∧ r0.id = r.id ∧ r.term ≤ r0.term ∧
  (r0.raftLog = r.raftLog ∨ r0.raftLog = { r.raftLog with maxApplyUnpersistedLogLimit := 0 })

theorem SameLog.abs {r r0 : Raft} (h : SameLog r r0) : r0.raftLog.abs = r.raftLog.abs := by
  rcases h.2.2.2 with e | e <;> rw [e] <;> rfl

theorem SameLog.committed {r r0 : Raft} (h : SameLog r r0) :
    r0.raftLog.committed = r.raftLog.committed := by
  rcases h.2.2.2 with e | e <;> rw [e]

theorem SameLog.inv {r r0 : Raft} (h : SameLog r r0) (hi : r.raftLog.Inv) : r0.raftLog.Inv := by
  rcases h.2.2.2 with e | e <;> rw [e]
  · exact hi
  · exact (c05_limit_same r.raftLog 0).inv hi

theorem stepTerm_sameLog {r r1 : Raft} {m : Message} (h : r.stepTerm m = .ok (r1, true)) :
    SameLog r r1 := by
  rcases RaftProps.C16.stepTerm_true h with g | ⟨hlt, _, _, l, g⟩
  · rw [g]; exact ⟨rfl, rfl, Nat.le_refl _, .inl rfl⟩
  · rw [g]
    exact ⟨becomeFollower_msgs _ _ _, becomeFollower_id _ _ _,
      by rw [(becomeFollower_term_vote _ _ _).1]; omega, .inr (becomeFollower_raftLog _ _ _)⟩

/-- **`step` on a `MsgAppend`** -/
theorem step_append_unfold {r r' : Raft} {m : Message} {e : Option RaftError}
    (hm : m.msgType = .msgAppend) (h : r.step m = .ok (r', e)) :
    (∃ r0, r0.handleAppendEntries m = .ok r' ∧ r0.state = .follower ∧ SameLog r r0 ∧
      (m.term = r0.term ∨ m.term = 0)) ∨
    (r'.raftLog = r.raftLog ∧ r'.id = r.id ∧ ∀ x ∈ r'.msgs, x ∈ r.msgs ∨ x.index = 0) := by
  cases step_inv h with
  | consumed hst =>
    right
    cases stepTerm_inv hst with
    | leased | stale => exact ⟨rfl, rfl, fun _ hx => .inl hx⟩
    | staleAck _ _ _ hs =>
      rw [send_eq _ _ _ hs]
      refine ⟨rfl, rfl, fun x hx => ?_⟩
      rcases List.mem_append.1 hx with g | g
      · exact .inl g
      · right
        rw [List.mem_singleton.1 g]
        exact (sendFill_ack r _ rfl rfl).2.2.1
    | staleReject _ _ hty => rw [hm] at hty; cases hty
  | dispatched hst hd =>
    have hsl := stepTerm_sameLog hst
    have htm := stepTerm_term_of_not_prevote hst (by rw [hm]; intro hc; cases hc)
      (by rw [hm]; intro hc; cases hc)
    cases hd with
    | hup ty => rw [hm] at ty; cases ty
    | vote ty => rcases ty with ty | ty <;> rw [hm] at ty <;> cases ty
    | candidate _ _ hx =>
      unfold Raft.stepCandidate at hx
      rw [hm] at hx
      simp only [] at hx
      split at hx
      · cases hx
      · rename_i hne
        obtain ⟨r2, h2, hx⟩ := Res.bind_eq_ok hx
        cases hx
        left
        refine ⟨_, h2, (RaftProps.C16.becomeFollower_proj _ _ _).1, ?_, ?_⟩
        · exact ⟨(becomeFollower_msgs _ _ _).trans hsl.1, (becomeFollower_id _ _ _).trans hsl.2.1,
            by rw [(becomeFollower_term_vote _ _ _).1]; have := hsl.2.2.1; omega,
            by
              rw [becomeFollower_raftLog]
              rcases hsl.2.2.2 with e1 | e1 <;> rw [e1] <;> exact .inr rfl⟩
        · left; exact (becomeFollower_term_vote _ _ _).1.symm
    | follower _ hs hx =>
      unfold Raft.stepFollower at hx
      rw [hm] at hx
      simp only [] at hx
      obtain ⟨r2, h2, hx⟩ := Res.bind_eq_ok hx
      cases hx
      left
      exact ⟨_, h2, hs, ⟨hsl.1, hsl.2.1, hsl.2.2.1, hsl.2.2.2⟩, htm⟩
    | leader _ hs hx =>
      unfold Raft.stepLeader at hx
      rw [hm] at hx
      simp only [] at hx
      cases hx
      right
      rcases hsl.2.2.2 with e1 | e1
      · exact ⟨e1, hsl.2.1, fun x hx => .inl (by rw [← hsl.1]; exact hx)⟩
      · -- a leader is handed over unchanged
        rcases stepTerm_passed hst with g | ⟨_, _, _, l, g⟩
        · rw [g]; exact ⟨rfl, rfl, fun _ hx => .inl hx⟩
        · rw [g, (RaftProps.C16.becomeFollower_proj _ _ _).1] at hs; cases hs

open Node

/-! ### one delivery of a `MsgAppend` -/

/-- the outcome of delivering the `MsgAppend` `m` to a node (`st → st'`) -/
inductive AppOut (st st' : NState) (m : Message) : Prop
  /-- not accepted: log and commit index are untouched; whatever was queued is a rejection or
  acknowledges nothing beyond the commit index -/
  | noacc (hl : st'.raft.raftLog.abs = st.raft.raftLog.abs)
      (hc : st'.raft.raftLog.committed = st.raft.raftLog.committed)
      (hq : ∀ x ∈ st'.raft.msgs, x ∈ st.raft.msgs ∨ x.index = 0 ∨ x.reject = true ∨
        (x.index = st.raft.raftLog.committed ∧ st'.raft.state = .follower ∧
          (m.term = st'.raft.term ∨ m.term = 0)))
  /-- accepted -/
  | acc (ha : Accepted st.raft.raftLog.abs st'.raft.raftLog.abs m)
      (hc : st'.raft.raftLog.committed =
        max st.raft.raftLog.committed (min m.commit (m.index + m.entries.length)))
      (hci : st.raft.raftLog.committed ≤ m.index)
      (hs : st'.raft.state = .follower) (ht : m.term = st'.raft.term ∨ m.term = 0)
      (hq : ∀ x ∈ st'.raft.msgs, x ∈ st.raft.msgs ∨
        (x.reject = false ∧ x.index = m.index + m.entries.length))

theorem append_call {st st' : NState} {rnd : Option Nat} {m : Message} {res : OpRes}
    (hinv : st.raft.raftLog.Inv) (hm : m.msgType = .msgAppend) (hok : MsgOk m)
    (hag : Agree (msgLog m) st.raft.raftLog.abs)
    (h : Node.call st rnd (.step m) = .ok (res, st')) : AppOut st st' m := by
  have hsame : AppOut st { st with raft := { st.raft with nextRand := rnd } } m :=
    .noacc rfl rfl (fun x hx => .inl hx)
  cases applyOp_parts h with
  | step hx =>
    rcases RawNode.step_inv hx with rfl | ⟨_, hx⟩
    · exact hsame
    · rcases step_append_unfold hm hx with ⟨r0, h0, hs0, hsl, htm⟩ | ⟨h1, _, h3⟩
      · have hsl' : SameLog st.raft r0 := hsl
        have hinv0 : r0.raftLog.Inv := hsl'.inv hinv
        have hag0 : Agree (msgLog m) r0.raftLog.abs := by rw [hsl'.abs]; exact hag
        obtain ⟨⟨resp, f1, f2, f3, f4, f5⟩, hcase⟩ := handleAppendEntries_full hinv0 hok hag0 h0
        rcases hcase with ⟨g1, g2⟩ | ⟨g1, g2, g3, g4⟩
        · refine .noacc (by rw [show _ = r0.raftLog from g1]; exact hsl'.abs)
            (by rw [show _ = r0.raftLog from g1]; exact hsl'.committed) (fun x hx => ?_)
          rcases g2 x hx with c | c | c
          · exact .inl (by rw [← hsl'.1]; exact c)
          · exact .inr (.inr (.inl c))
          · exact .inr (.inr (.inr ⟨by rw [c]; exact hsl'.committed, f4.trans hs0,
              by rw [show _ = r0.term from f3]; exact htm⟩))
        · refine .acc (by rw [← hsl'.abs]; exact g1) (g3.1.trans (by rw [hsl'.committed]))
            (by rw [← hsl'.committed]; exact g3.2) (f4.trans hs0)
            (by rw [show _ = r0.term from f3]; exact htm) (fun x hx => ?_)
          rcases g4 x hx with c | c
          · exact .inl (by rw [← hsl'.1]; exact c)
          · exact .inr c
      · refine .noacc (by rw [show _ = _ from h1]) (by rw [show _ = _ from h1]) (fun x hx => ?_)
        rcases h3 x hx with c | c
        · exact .inl c
        · exact .inr (.inl c)

/-! ### one delivery of a `MsgHeartbeat` -/

/-- **`step` on a `MsgHeartbeat`** -/
theorem step_hb_unfold {r r' : Raft} {m : Message} {e : Option RaftError}
    (hm : m.msgType = .msgHeartbeat) (h : r.step m = .ok (r', e)) :
    (∃ r0, r0.handleHeartbeat m = .ok r' ∧ r0.state = .follower ∧ SameLog r r0 ∧
      (m.term = r0.term ∨ m.term = 0)) ∨
    r'.raftLog = r.raftLog := by
  cases step_inv h with
  | consumed hst =>
    right
    cases stepTerm_inv hst with
    | leased | stale => rfl
    | staleAck _ _ _ hs => rw [send_eq _ _ _ hs]
    | staleReject _ _ _ hs => rw [send_eq _ _ _ hs]
  | dispatched hst hd =>
    have hsl := stepTerm_sameLog hst
    have htm := stepTerm_term_of_not_prevote hst (by rw [hm]; intro hc; cases hc)
      (by rw [hm]; intro hc; cases hc)
    cases hd with
    | hup ty => rw [hm] at ty; cases ty
    | vote ty => rcases ty with ty | ty <;> rw [hm] at ty <;> cases ty
    | candidate _ _ hx =>
      unfold Raft.stepCandidate at hx
      rw [hm] at hx
      simp only [] at hx
      split at hx
      · cases hx
      · rename_i hne
        obtain ⟨r2, h2, hx⟩ := Res.bind_eq_ok hx
        cases hx
        left
        refine ⟨_, h2, (RaftProps.C16.becomeFollower_proj _ _ _).1, ?_, ?_⟩
        · exact ⟨(becomeFollower_msgs _ _ _).trans hsl.1, (becomeFollower_id _ _ _).trans hsl.2.1,
            by rw [(becomeFollower_term_vote _ _ _).1]; have := hsl.2.2.1; omega,
            by
              rw [becomeFollower_raftLog]
              rcases hsl.2.2.2 with e1 | e1 <;> rw [e1] <;> exact .inr rfl⟩
        · left; exact (becomeFollower_term_vote _ _ _).1.symm
    | follower _ hs hx =>
      unfold Raft.stepFollower at hx
      rw [hm] at hx
      simp only [] at hx
      obtain ⟨r2, h2, hx⟩ := Res.bind_eq_ok hx
      cases hx
      left
      exact ⟨_, h2, hs, ⟨hsl.1, hsl.2.1, hsl.2.2.1, hsl.2.2.2⟩, htm⟩
    | leader _ hs hx =>
      unfold Raft.stepLeader at hx
      rw [hm] at hx
      simp only [] at hx
      cases hx
      right
      rcases hsl.2.2.2 with e1 | e1
      · exact e1
      · rcases stepTerm_passed hst with g | ⟨_, _, _, l, g⟩
        · rw [g]
        · rw [g, (RaftProps.C16.becomeFollower_proj _ _ _).1] at hs; cases hs

/-- **one delivery of a `MsgHeartbeat`** -/
theorem hb_call {st st' : NState} {rnd : Option Nat} {m : Message} {res : OpRes}
    (hinv : st.raft.raftLog.Inv) (hm : m.msgType = .msgHeartbeat)
    (h : Node.call st rnd (.step m) = .ok (res, st')) :
    st'.raft.raftLog.committed = st.raft.raftLog.committed ∨
    (st'.raft.raftLog.committed = max st.raft.raftLog.committed m.commit ∧
      (m.term = st'.raft.term ∨ m.term = 0) ∧ st.raft.term ≤ st'.raft.term ∧
      st'.raft.raftLog.abs = st.raft.raftLog.abs ∧ st'.raft.state = .follower) := by
  cases applyOp_parts h with
  | step hx =>
    rcases RawNode.step_inv hx with hr | ⟨_, hx⟩
    · exact .inl (by rw [hr])
    · rcases step_hb_unfold hm hx with ⟨r0, h0, hs0, hsl, htm⟩ | c
      · right
        have hsl' : SameLog st.raft r0 := hsl
        have hfr := handleHeartbeat_frame h0 Frame.rfl
        refine ⟨?_, ?_, ?_, ?_, ?_⟩
        · exact (handleHeartbeat_spec h0).1.trans (by rw [hsl'.committed])
        · rw [hfr.term]; exact htm
        · rw [hfr.term]; exact hsl'.2.2.1
        · rw [(handleHeartbeat_ls h0 LS.rfl).abs]; exact hsl'.abs
        · rw [hfr.state]; exact hs0
      · exact .inl (by rw [c])

end CC
end Raft
end RaftModel
