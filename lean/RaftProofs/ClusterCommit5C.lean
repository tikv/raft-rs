import RaftProofs.ClusterCommit5A
import RaftProofs.ClusterCommitM

/-!
Cluster-level commit safety, the per-call relation with batching: `Gb A a m r` (as `CC.G`; a
leader-side message may also be a batched version of a message of the start queue) and the relation
`Gx f` the handlers are taken through, which puts a proposition `f` next to such a message: a handler
that may reach `maybe_send_append` asks that `f` holds if the node batches (`FlagUp`).  `Gb` is `Gx True`,
`G` is `Gx False`.  What the steps inside a call have in common is said once (`QOK.carry`, `Gx.next`).
-/
namespace RaftModel
namespace Raft
namespace CB
open CC

/-- a queued `MsgAppend` of the start queue that was batched onto during the call -/
def BkOK (a r : Raft) (x : Message) : Prop :=
  r.state = .leader ∧ x.commit ≤ r.raftLog.committed ∧ ∃ y ∈ a.msgs, BatOf y x

theorem BkOK.mono {a r r' : Raft} {x : Message} (h : BkOK a r x) (hs : r'.state = r.state)
    (hc : r.raftLog.committed ≤ r'.raftLog.committed) : BkOK a r' x :=
  ⟨hs.trans h.1, Nat.le_trans h.2.1 hc, h.2.2⟩

/-- as `CC.G`; a leader-side message may also be a batched version of a message of the start queue -/
structure Gb (A : Nat → Nat → Nat → Prop) (a : Raft) (m : Message) (r : Raft) : Prop where
  id : r.id = a.id
  mok : MOK A r
  lc : r.state = .leader → r.raftLog.committed = a.raftLog.committed ∨ LCok r
  qlk : ∀ x ∈ r.msgs, lkT x.msgType = true → x ∈ a.msgs ∨ LkOK A r x ∨ BkOK a r x
  qak : ∀ x ∈ r.msgs, isAck x → x ∈ a.msgs ∨ AkOK m r x
  qvk : ∀ x ∈ r.msgs, isVoteMsg x.msgType = true → x ∈ a.msgs ∨ VkOK r x
  qrq : ∀ x ∈ r.msgs, x.msgType = .msgRequestVote → x ∈ a.msgs ∨ RqOK r x

/-- `CC.G` is a special case -/
theorem Gb.of_g {A : Nat → Nat → Nat → Prop} {a r : Raft} {m : Message} (h : G A a m r) : Gb A a m r :=
  ⟨h.id, h.mok, h.lc, fun x hx hty => (h.qlk x hx hty).imp (fun g => g) (fun g => .inl g), h.qak, h.qvk,
    h.qrq⟩

/-- the leader-side queue clause of `Gb`, unfolded -/
theorem Gb.qlk' {A : Nat → Nat → Nat → Prop} {a r : Raft} {m : Message}
    (h : Gb A a m r) :
    ∀ x ∈ r.msgs, lkT x.msgType = true → x ∈ a.msgs ∨ LkOK A r x ∨
      (r.state = .leader ∧ x.commit ≤ r.raftLog.committed ∧
        ∃ y ∈ a.msgs, BatOf y x) := h.qlk

/-- a batched message is a `MsgAppend`: neither an ack, nor a vote message -/
theorem BatOf.not_ack {y x : Message} (h : BatOf y x) : ¬ isAck x := by
  intro hc; have := h.msgType; rw [hc.1] at this; cases this

theorem BatOf.not_vote {y x : Message} (h : BatOf y x) : isVoteMsg x.msgType ≠ true := by
  rw [h.msgType]; decide

theorem BatOf.not_rq {y x : Message} (h : BatOf y x) : x.msgType ≠ .msgRequestVote := by
  rw [h.msgType]; decide

end CB

namespace CX
open CC CB VoteOb

/-- what a message queued during the call says, related to the state `r` (the four queue clauses of
`CB.Gb`); a batched message comes with `f` -/
structure QOK (f : Prop) (A : Nat → Nat → Nat → Prop) (a : Raft) (m : Message) (r : Raft)
    (x : Message) : Prop where
  lk : lkT x.msgType = true → LkOK A r x ∨ (f ∧ BkOK a r x)
  ak : isAck x → AkOK m r x
  vk : isVoteMsg x.msgType = true → VkOK r x
  rq : x.msgType = .msgRequestVote → RqOK r x

/-- as `CB.Gb`, with `f` next to a batched message -/
structure Gx (f : Prop) (A : Nat → Nat → Nat → Prop) (a : Raft) (m : Message) (r : Raft) : Prop where
  id : r.id = a.id
  mok : MOK A r
  lc : r.state = .leader → r.raftLog.committed = a.raftLog.committed ∨ LCok r
  q : ∀ x ∈ r.msgs, x ∈ a.msgs ∨ QOK f A a m r x

/-- a node that batches has the flag `f` -/
def FlagUp (f : Prop) (r : Raft) : Prop := r.batchAppend = true → f

variable {f : Prop} {A : Nat → Nat → Nat → Prop} {a r r' : Raft} {m : Message}

theorem FlagUp.of_eq (h : FlagUp f r) (e : r'.batchAppend = r.batchAppend) : FlagUp f r' :=
  fun hb => h (e.symm.trans hb)

theorem FlagUp.of_off (h : r.batchAppend = false) : FlagUp f r := fun hb => by rw [h] at hb; cases hb

theorem FlagUp.triv : FlagUp True r := fun _ => trivial

theorem Gx.start (hm : MOK A a) : Gx f A a m a := ⟨rfl, hm, fun _ => .inl rfl, fun _ h => .inl h⟩

/-- with batching: forget the flag -/
theorem Gx.gb (h : Gx f A a m r) : Gb A a m r :=
  ⟨h.id, h.mok, h.lc,
    fun x hx hty => (h.q x hx).imp (fun g => g) fun g => (g.lk hty).imp (fun g => g) And.right,
    fun x hx hty => (h.q x hx).imp (fun g => g) (·.ak hty),
    fun x hx hty => (h.q x hx).imp (fun g => g) (·.vk hty),
    fun x hx hty => (h.q x hx).imp (fun g => g) (·.rq hty)⟩

theorem Gx.of_gb (h : Gb A a m r) : Gx True A a m r :=
  ⟨h.id, h.mok, h.lc, fun x hx => Classical.byCases .inl fun hn => .inr
    ⟨fun hty => ((h.qlk x hx hty).resolve_left hn).imp (fun g => g) fun g => ⟨trivial, g⟩,
      fun hty => (h.qak x hx hty).resolve_left hn, fun hty => (h.qvk x hx hty).resolve_left hn,
      fun hty => (h.qrq x hx hty).resolve_left hn⟩⟩

/-- without batching -/
theorem Gx.g (h : Gx False A a m r) : G A a m r :=
  ⟨h.id, h.mok, h.lc,
    fun x hx hty => (h.q x hx).imp (fun g => g) fun g => (g.lk hty).elim (fun g => g) fun g => g.1.elim,
    fun x hx hty => (h.q x hx).imp (fun g => g) (·.ak hty),
    fun x hx hty => (h.q x hx).imp (fun g => g) (·.vk hty),
    fun x hx hty => (h.q x hx).imp (fun g => g) (·.rq hty)⟩

theorem Gx.of_g (h : G A a m r) : Gx f A a m r :=
  ⟨h.id, h.mok, h.lc, fun x hx => Classical.byCases .inl fun hn => .inr
    ⟨fun hty => .inl ((h.qlk x hx hty).resolve_left hn), fun hty => (h.qak x hx hty).resolve_left hn,
      fun hty => (h.qvk x hx hty).resolve_left hn, fun hty => (h.qrq x hx hty).resolve_left hn⟩⟩

/-- what was said of a queued message stays true when the commit index moves up, a leader stays
leader, a follower stays follower, and the identity, the term and the log's terms are kept -/
theorem QOK.carry {x : Message} (g : QOK f A a m r x) (eid : r'.id = r.id)
    (hsl : r.state = .leader → r'.state = .leader)
    (hsf : r.state = .follower → r'.state = .follower) (et : r'.term = r.term)
    (hc : r.raftLog.committed ≤ r'.raftLog.committed) (etm : r'.raftLog.term = r.raftLog.term)
    (el : r'.raftLog.lastIndex = r.raftLog.lastIndex)
    (elt : r'.raftLog.lastTerm = r.raftLog.lastTerm) : QOK f A a m r' x := by
  refine ⟨fun hty => ?_, fun hty => ?_, fun hty => ?_, fun hty => ?_⟩
  · rcases g.lk hty with g | g
    · exact .inl ⟨hsl g.lead, g.term.trans et.symm, g.frm.trans eid.symm,
        fun hh => by rw [etm]; exact ⟨Nat.le_trans (g.app hh).1 hc, (g.app hh).2⟩,
        fun hh => by rw [et]; exact ⟨Nat.le_trans (g.hb hh).1 hc, (g.hb hh).2⟩⟩
    · exact .inr ⟨g.1, hsl g.2.1, Nat.le_trans g.2.2.1 hc, g.2.2.2⟩
  · have g := g.ak hty
    exact ⟨g.term.trans et.symm, g.frm.trans eid.symm, g.src.imp (fun d => d) fun d =>
      ⟨hsf d.1, d.2.1, d.2.2.1, d.2.2.2.imp (fun d => Nat.le_trans d hc) fun d => d⟩⟩
  · have g := g.vk hty
    unfold VkOK at *
    rw [etm, et]
    exact g.imp (fun d => d) fun d => ⟨Nat.le_trans d.1 hc, d.2⟩
  · have g := g.rq hty
    exact ⟨g.term.trans et.symm, g.last.trans el.symm, elt.trans g.lt⟩

/-- **one step inside a call**: every message of the new queue was queued before or is accounted for in
the new state, and what `QOK.carry` asks of the state holds -/
theorem Gx.next (h0 : Gx f A a m r) (eid : r'.id = r.id)
    (hsl : r.state = .leader → r'.state = .leader)
    (hsf : r.state = .follower → r'.state = .follower) (et : r'.term = r.term)
    (hc : r.raftLog.committed ≤ r'.raftLog.committed) (etm : r'.raftLog.term = r.raftLog.term)
    (el : r'.raftLog.lastIndex = r.raftLog.lastIndex)
    (elt : r'.raftLog.lastTerm = r.raftLog.lastTerm) (hm : MOK A r')
    (hlc : r'.state = .leader → r'.raftLog.committed = a.raftLog.committed ∨ LCok r')
    (hq : ∀ x ∈ r'.msgs, x ∈ r.msgs ∨ QOK f A a m r' x) : Gx f A a m r' :=
  ⟨eid.trans h0.id, hm, hlc, fun x hx => (hq x hx).elim
    (fun hx => (h0.q x hx).imp (fun g => g) fun g => g.carry eid hsl hsf et hc etm el elt) .inr⟩

/-- the state changes in what the queue clauses do not read, or by the commit index moving up -/
theorem Gx.keep (h0 : Gx f A a m r) (eid : r'.id = r.id)
    (es : r'.state = r.state) (et : r'.term = r.term)
    (hc : r.raftLog.committed ≤ r'.raftLog.committed) (etm : r'.raftLog.term = r.raftLog.term)
    (el : r'.raftLog.lastIndex = r.raftLog.lastIndex)
    (elt : r'.raftLog.lastTerm = r.raftLog.lastTerm) (eq : r'.msgs = r.msgs) (hm : MOK A r')
    (hlc : r'.state = .leader → r'.raftLog.committed = a.raftLog.committed ∨ LCok r') :
    Gx f A a m r' :=
  h0.next eid (fun h => es.trans h) (fun h => es.trans h) et hc etm el elt hm hlc
    fun _ hx => .inl (eq ▸ hx)

/-- with nothing queued, only the state clauses matter -/
theorem Gx.of_old (ho : Old a r) (hid : r.id = a.id) (hm : MOK A r)
    (hl : r.state = .leader → r.raftLog.committed = a.raftLog.committed ∨ LCok r) : Gx f A a m r :=
  ⟨hid, hm, hl, fun x hx => .inl (ho x hx)⟩

/-- a state that is not a leader satisfies the state clauses trivially -/
theorem Gx.of_old_nl (ho : Old a r) (hid : r.id = a.id) (hs : r.state ≠ .leader) : Gx f A a m r :=
  .of_old ho hid ⟨fun h => absurd h hs⟩ fun h => absurd h hs

/-- any structure update that keeps `id`, `state`, `term`, `raftLog`, `prs` and `msgs` keeps `Gx` -/
theorem Gx.mk' {x2 : Nat}
    {x4 : List ReadState} {x6 x7 x8 : Nat}
    {x10 : Bool} {x11 : Nat}
    {x12 : Option Nat} {x13 : Nat} {x14 : ReadOnly} {x15 x16 : Nat} {x17 x18 x19 x20 x21 : Bool}
    {x22 x23 x24 x25 x26 : Nat} {x27 : Int} {x28 : UncommittedState} {x29 : Nat}
    {x32 : Option Nat} (h0 : Gx f A a m r) :
    Gx f A a m { term := r.term, vote := x2, id := r.id, readStates := x4, raftLog := r.raftLog,
                 maxInflight := x6, maxMsgSize := x7, pendingRequestSnapshot := x8, state := r.state,
                 promotable := x10, leaderId := x11, leadTransferee := x12,
                 pendingConfIndex := x13, readOnly := x14, electionElapsed := x15,
                 heartbeatElapsed := x16, checkQuorum := x17, preVote := x18,
                 skipBcastCommit := x19, batchAppend := x20, disableProposalForwarding := x21,
                 heartbeatTimeout := x22, electionTimeout := x23, randomizedElectionTimeout := x24,
                 minElectionTimeout := x25, maxElectionTimeout := x26, priority := x27,
                 uncommittedState := x28, maxCommittedSizePerReady := x29, prs := r.prs,
                 msgs := r.msgs, nextRand := x32 } :=
  h0.keep rfl rfl rfl (Nat.le_refl _) rfl rfl rfl rfl ⟨h0.mok.h⟩ h0.lc

/-- **lifting a sending helper**: on a leader, or when nothing new was queued; a message the helper
batched onto comes with `f` -/
theorem Gx.sfq (hA : ∀ j t x y, y ≤ x → A j t x → A j t y) (h0 : Gx f A a m r)
    (hc : score r' = score r)
    (hq : ∀ x ∈ r'.msgs, x ∈ r.msgs ∨ Sent (score r) x ∨
      (f ∧ ∃ y ∈ r.msgs, BatOf y x ∧ x.commit = r.raftLog.committed))
    (hl : r.state = .leader ∨ ∀ x ∈ r'.msgs, x ∈ r.msgs) : Gx f A a m r' := by
  have e1 : r'.state = r.state := congrArg SCore.state hc
  have e3 : r'.id = r.id := congrArg SCore.id hc
  have e4 : r'.raftLog.committed = r.raftLog.committed := congrArg SCore.committed hc
  have e5 : r'.term = r.term := congrArg SCore.term hc
  have e6 : r'.raftLog.term = r.raftLog.term := congrArg SCore.tm hc
  refine h0.next e3 (fun h => e1.trans h) (fun h => e1.trans h) e5 (Nat.le_of_eq e4.symm) e6
    (congrArg SCore.last hc) (congrArg SCore.lterm hc) (h0.mok.of_core hc)
    (fun hs => (h0.lc (e1 ▸ hs)).imp (fun g => e4.trans g) fun g => g.of_core hc) fun x hx => ?_
  rcases hl with hs | hl
  · rcases hq x hx with g | g | ⟨hon, y, hy, hb, hcm⟩
    · exact .inl g
    · -- a message the helper queued
      refine .inr ⟨fun _ => .inl ⟨e1.trans hs, g.term.trans e5.symm, g.frm.trans e3.symm,
        fun hh => by rw [e4, e6, (g.app hh).1]; exact ⟨Nat.le_refl _, (g.app hh).2⟩, fun hh => ?_⟩,
        fun hty => ?_, fun hty => ?_, fun hty => ?_⟩
      · obtain ⟨c1, mv, c2, c3, c4⟩ := g.hb hh
        rw [e4, e5]
        refine ⟨c1, ?_⟩
        rcases h0.mok.h hs x.to mv c2 with d | ⟨d, _⟩ | d
        · left; omega
        · exact absurd d c4
        · right; exact hA _ _ _ _ c3 d
      · have := g.ty; rw [hty.1] at this; cases this
      · have := g.ty
        cases hm : x.msgType <;> rw [hm] at this hty <;> first | (cases this; done) | (cases hty; done)
      · have := g.ty; rw [hty] at this; cases this
    · -- a queued append the helper batched onto
      have hcm' : x.commit ≤ r'.raftLog.committed := by rw [e4, hcm]; exact Nat.le_refl _
      refine .inr ⟨fun _ => ?_, fun hty => absurd hty hb.not_ack, fun hty => absurd hty hb.not_vote,
        fun hty => absurd hty hb.not_rq⟩
      rcases h0.q y hy with g2 | g2
      · exact .inr ⟨hon, e1.trans hs, hcm', y, g2, hb⟩
      · rcases g2.lk (by rw [hb.src]; rfl) with g2 | ⟨_, _, _, z, hz, hb2⟩
        · refine .inl ⟨e1.trans g2.lead, hb.term.trans (g2.term.trans e5.symm),
            hb.frm.trans (g2.frm.trans e3.symm), fun _ => ?_, fun hh => ?_⟩
          · rw [hb.index, hb.logTerm, e6]; exact ⟨hcm', (g2.app hb.src).2⟩
          · rw [hb.msgType] at hh; cases hh
        · exact .inr ⟨hon, e1.trans hs, hcm', z, hz, hb2.trans hb⟩
  · exact .inl (hl x hx)

/-- a helper that may batch, on a node whose flag is up -/
theorem Gx.sf (hA : ∀ j t x y, y ≤ x → A j t x → A j t y) (hf : FlagUp f r)
    (h0 : Gx f A a m r) (h1 : SFx r r')
    (hl : r.state = .leader ∨ ∀ x ∈ r'.msgs, x ∈ r.msgs) : Gx f A a m r' :=
  h0.sfq hA h1.core (fun x hx => (h1.q x hx).imp (fun g => g) (Or.imp (fun g => g) fun g =>
    ⟨hf g.1, g.2⟩)) hl

/-- a helper that never batches -/
theorem Gx.sfn (hA : ∀ j t x y, y ≤ x → A j t x → A j t y) (h0 : Gx f A a m r) (h1 : SF r r')
    (hl : r.state = .leader ∨ ∀ x ∈ r'.msgs, x ∈ r.msgs) : Gx f A a m r' :=
  h0.sfq hA h1.core (fun x hx => (h1.q x hx).imp (fun g => g) .inl) hl

/-- the commit index moves up (and nothing else of the log): `commit_to` / `maybe_commit` -/
theorem Gx.commitUp {c : Nat}
    (h0 : Gx f A a m r) (hid : r'.id = r.id) (hs : r'.state = r.state) (ht : r'.term = r.term)
    (hp : mfun r'.prs = mfun r.prs) (hq : r'.msgs = r.msgs)
    (hl : r'.raftLog = { r.raftLog with committed := c }) (hc : r.raftLog.committed ≤ c)
    (hlc : r'.state = .leader → LCok r') : Gx f A a m r' := by
  refine h0.keep hid hs ht (by rw [hl]; exact hc) (by rw [hl]; rfl) (by rw [hl]; rfl)
    (by rw [hl]; rfl) hq ⟨?_⟩ fun h => .inr (hlc h)
  rw [hs, hp, hid, hl, ht]; exact h0.mok.h

/-- writing back a progress entry whose `matched` grew to a value backed by `A` -/
theorem Gx.setMatched {id : Nat} {pr : Progress} (h0 : Gx f A a m r)
    (hb : pr.matched = 0 ∨ (id = r.id ∧ pr.matched ≤ r.raftLog.persisted) ∨ A id r.term pr.matched)
    (hge : ∀ old, r.prs.get id = some old → old.matched ≤ pr.matched) :
    Gx f A a m { r with prs := r.prs.set id pr } := by
  have hm : ∀ j x, mfun (r.prs.set id pr) j = some x →
      (j = id ∧ x = pr.matched) ∨ (j ≠ id ∧ mfun r.prs j = some x) := by
    intro j x hx
    by_cases hj : j = id
    · subst hj
      left
      unfold mfun at hx
      cases hg : r.prs.get j with
      | none =>
        have : (r.prs.set j pr).get j = none := by
          simp only [ProgressTracker.get, ProgressTracker.set] at *
          rw [c04_lookup_modify_self, hg]; rfl
        rw [this] at hx; cases hx
      | some old =>
        rw [c04_get_set_self r.prs j pr old hg] at hx
        injection hx with hx
        exact ⟨rfl, hx.symm⟩
    · right
      unfold mfun at hx ⊢
      rw [c04_get_set_ne r.prs id j pr hj] at hx
      exact ⟨hj, hx⟩
  refine h0.keep rfl rfl rfl (Nat.le_refl _) rfl rfl rfl rfl ⟨fun hs j x hx => ?_⟩ fun hs => ?_
  · rcases hm j x hx with ⟨g1, g2⟩ | ⟨_, g⟩
    · rw [g1, g2]; exact hb
    · exact h0.mok.h hs j x g
  · rcases h0.lc hs with g | ⟨⟨Q, hQ, hQm⟩, g2⟩
    · exact .inl g
    · right
      refine ⟨⟨Q, hQ, fun v hv => ?_⟩, g2⟩
      obtain ⟨x, hx, hle⟩ := hQm v hv
      by_cases hvi : v = id
      · subst hvi
        obtain ⟨old, ho, hom⟩ := get_of_mfun hx
        refine ⟨pr.matched, ?_, ?_⟩
        · show mfun (r.prs.set v pr) v = some pr.matched
          unfold mfun; rw [c04_get_set_self r.prs v pr old ho]; rfl
        · have := hge old ho
          show r.raftLog.committed ≤ pr.matched
          omega
      · refine ⟨x, ?_, hle⟩
        show mfun (r.prs.set id pr) v = some x
        unfold mfun at hx ⊢
        rw [c04_get_set_ne r.prs id v pr hvi]; exact hx

/-- replacing the tracker by one with the same matched table and the same voters -/
theorem Gx.setPrs {p : ProgressTracker} (h0 : Gx f A a m r) (hp : mfun p = mfun r.prs)
    (hv : p.voters = r.prs.voters) : Gx f A a m { r with prs := p } := by
  refine h0.keep rfl rfl rfl (Nat.le_refl _) rfl rfl rfl rfl ⟨?_⟩ fun hs => ?_
  · show r.state = .leader → ∀ j x, mfun p j = some x → _
    rw [hp]; exact h0.mok.h
  · refine (h0.lc hs).imp (fun g => g) fun g => ?_
    unfold LCok at *
    show (∃ Q, IsJointQuorum p.voters Q ∧ ∀ v ∈ Q, ∃ x, mfun p v = some x ∧ _) ∧ _
    rw [hp, hv]; exact g

/-- `persisted` moves up (and nothing else of the log) -/
theorem Gx.persistUp {p : Nat} (h0 : Gx f A a m r) (hp : r.raftLog.persisted ≤ p) :
    Gx f A a m { r with raftLog := { r.raftLog with persisted := p } } :=
  h0.keep rfl rfl rfl (Nat.le_refl _) rfl rfl rfl rfl
    ⟨fun hs j x hx => (h0.mok.h hs j x hx).imp (fun g => g)
      (Or.imp (fun g => ⟨g.1, Nat.le_trans g.2 hp⟩) fun g => g)⟩ h0.lc

/-- queueing one message that is not of a leader-side type -/
theorem send_gx {x : Message} (h : r.send x = .ok r') (h0 : Gx f A a m r)
    (hlk : lkT x.msgType = false) (hak : isAck (r.sendFill x) → AkOK m r (r.sendFill x))
    (hvk : isVoteMsg x.msgType = true → VkOK r (r.sendFill x))
    (hrq : x.msgType = .msgRequestVote → RqOK r (r.sendFill x)) : Gx f A a m r' := by
  rw [send_eq r r' x h]
  refine h0.next rfl (fun g => g) (fun g => g) rfl (Nat.le_refl _) rfl rfl rfl ⟨h0.mok.h⟩ h0.lc
    fun y hy => ?_
  rcases List.mem_append.1 hy with hy | hy
  · exact .inl hy
  · rw [List.mem_singleton.1 hy]
    refine .inr ⟨fun hty => ?_, fun hty => ?_, fun hty => ?_, fun hty => ?_⟩
    · rw [sendFill_msgType, hlk] at hty; cases hty
    · have := hak hty
      exact ⟨this.term, this.frm, this.src⟩
    · rw [sendFill_msgType] at hty
      exact hvk hty
    · rw [sendFill_msgType] at hty
      have := hrq hty
      exact ⟨this.term, this.last, this.lt⟩

/-- a message whose type is none of the tracked kinds -/
theorem send_gx_plain {x : Message} (h : r.send x = .ok r') (h0 : Gx f A a m r)
    (hlk : lkT x.msgType = false) (hak : x.msgType ≠ .msgAppendResponse ∨ x.reject = true)
    (hvk : isVoteMsg x.msgType = false) : Gx f A a m r' := by
  refine send_gx h h0 hlk (fun hc => ?_) (fun hc => by rw [hvk] at hc; cases hc) (fun hc => ?_)
  · rcases hak with g | g
    · exact absurd (by rw [← sendFill_msgType r x]; exact hc.1) g
    · have := hc.2; rw [(sendFill_keeps r x).2.2.2.1, g] at this; cases this
  · rw [hc] at hvk; cases hvk

/-- the anchor message matters only through accepted appends -/
theorem Gx.reanchor {m' : Message} (h : Gx f A a m r) (hm : m.msgType ≠ .msgAppend) : Gx f A a m' r :=
  ⟨h.id, h.mok, h.lc, fun x hx => (h.q x hx).imp (fun g => g) fun g =>
    ⟨g.lk, fun hty => ⟨(g.ak hty).term, (g.ak hty).frm,
      (g.ak hty).src.elim .inl fun d => absurd d.2.1 hm⟩, g.vk, g.rq⟩⟩

theorem Gx.rebase {a' : Raft} (h : Gx f A a' m r) (hid : a'.id = a.id)
    (hc : a'.raftLog.committed = a.raftLog.committed) (hm : a'.msgs = a.msgs) : Gx f A a m r :=
  ⟨h.id.trans hid, h.mok, fun hs => by rw [← hc]; exact h.lc hs,
    fun x hx => (h.q x hx).imp (fun g => by rw [← hm]; exact g) fun g =>
      ⟨fun hty => (g.lk hty).imp (fun d => d) fun d =>
        ⟨d.1, d.2.1, d.2.2.1, by rw [← hm]; exact d.2.2.2⟩, g.ak, g.vk, g.rq⟩⟩

/-- with nothing queued and the commit index of the start, the log may be re-represented (storage
writes, `applied`, `persisted` moving up) -/
theorem Gx.old_relog (h0 : Gx f A a m r) (ho : Old a r)
    (hcm : r.raftLog.committed = a.raftLog.committed) (hid : r'.id = r.id)
    (hs : r'.state = r.state) (ht : r'.term = r.term)
    (hp : mfun r'.prs = mfun r.prs) (hq : r'.msgs = r.msgs)
    (hc : r'.raftLog.committed = r.raftLog.committed)
    (hpe : r.raftLog.persisted ≤ r'.raftLog.persisted) :
    Gx f A a m r' ∧ Old a r' ∧ r'.raftLog.committed = a.raftLog.committed := by
  have ho' : Old a r' := by unfold Old; rw [hq]; exact ho
  refine ⟨⟨hid.trans h0.id, ⟨fun hl j x hx => ?_⟩, fun _ => .inl (hc.trans hcm),
    fun x hx => .inl (ho' x hx)⟩, ho', hc.trans hcm⟩
  rw [hs] at hl
  rw [hp] at hx
  rcases h0.mok.h hl j x hx with g | ⟨g1, g2⟩ | g
  · exact .inl g
  · exact .inr (.inl ⟨g1.trans hid.symm, Nat.le_trans g2 hpe⟩)
  · right; right; rw [ht]; exact g

end CX

end Raft
end RaftModel
