import RaftProofs.ClusterReadFacts

/-!
Cluster-level ReadIndex safety for **forwarded** reads, part 3B: the bundle `RdHypF` (the read layer's
`RdHyp` with `nori` / `norir` replaced by `once`: every `MsgReadIndex` is delivered at most once, and
unique non-empty contexts over all `read_index` calls), and the leader-side half:

* `fwd_reg_covers` (leader side): a delivered `MsgReadIndex` that REGISTERS its context does so on a
  leader that has committed in its term, under the context of the message, with the leader's commit
  index, and that index covers every commit event before the delivery step of a term up to the
  leader's (`IdxOK`, by `idx_ok_reg`); hence it covers every commit index of every state `h[n]`,
  `n ≤ k`, in which no term above the leader's is led;
-/
namespace RaftModel
namespace Cluster
open Node Raft.RD

/-- the step `h[n] → h[n+1]` can be read as the delivery of the message `m` of the transport to node `k` -/
def DeliverAt (h : List Sys) (n k : Nat) (m : Message) : Prop :=
  ∃ (a b : Sys) (st st' : NState) (rnd : Option Nat) (res : OpRes),
    h[n]? = some a ∧ h[n + 1]? = some b ∧ a.node k = some st ∧ m ∈ a.net ∧ m.to = k ∧
    Node.call st rnd (.step m) = .ok (res, st') ∧ b = a.setNode k st'

/-- the step `h[n] → h[n+1]` is a `read_index(ctx)` call on node `f` that FORWARDS: `f` is a follower with
a known leader and queues a `MsgReadIndex` carrying `ctx` -/
def FwdAt (h : List Sys) (n f : Nat) (ctx : Bytes) : Prop :=
  ∃ (a b : Sys) (st st' : NState) (rnd : Option Nat) (res : OpRes),
    h[n]? = some a ∧ h[n + 1]? = some b ∧ a.node f = some st ∧
    Node.call st rnd (.readIndex ctx) = .ok (res, st') ∧ b = a.setNode f st' ∧
    st.raft.state = .follower ∧ st.raft.leaderId ≠ 0 ∧
    ∃ y ∈ st'.raft.msgs, y ∉ st.raft.msgs ∧ y.msgType = .msgReadIndex ∧ reqCtx y = some ctx

theorem FwdAt.call {h : List Sys} {n f : Nat} {ctx : Bytes} (hf : FwdAt h n f ctx) :
    ReadCallAt h n f ctx := by
  obtain ⟨a, b, st, st', rnd, res, h1, h2, h3, h4, h5, _⟩ := hf
  exact ⟨a, b, st, st', rnd, res, h1, h2, h3, h4, h5⟩

/-- the delivery of the `MsgReadIndex` `m` to node `l` at step `k` **registers** the context `K` with
read index `idx`: `K` was not pending on `l` before and is pending afterwards -/
def FwdRegAt (h : List Sys) (k l : Nat) (m : Message) (K : Bytes) (idx : Nat) : Prop :=
  ∃ (a b : Sys) (st st' : NState) (rnd : Option Nat) (res : OpRes),
    h[k]? = some a ∧ h[k + 1]? = some b ∧ a.node l = some st ∧ m ∈ a.net ∧ m.to = l ∧
    m.msgType = .msgReadIndex ∧
    Node.call st rnd (.step m) = .ok (res, st') ∧ b = a.setNode l st' ∧
    (∀ rs, (K, rs) ∉ st.raft.readOnly.pendingReadIndex) ∧
    ∃ rs, (K, rs) ∈ st'.raft.readOnly.pendingReadIndex ∧ rs.index = idx

theorem FwdRegAt.deliver {h : List Sys} {k l : Nat} {m : Message} {K : Bytes} {idx : Nat}
    (hr : FwdRegAt h k l m K idx) : DeliverAt h k l m := by
  obtain ⟨a, b, st, st', rnd, res, h1, h2, h3, h4, h5, _, h7, h8, _⟩ := hr
  exact ⟨a, b, st, st', rnd, res, h1, h2, h3, h4, h5, h7, h8⟩

/-- `FwdAt` and `FwdRegAt` mention the history only through the two states of the step -/
theorem FwdAt.of_states {h h' : List Sys} {n f : Nat} {ctx : Bytes} (hf : FwdAt h n f ctx)
    (e1 : h'[n]? = h[n]?) (e2 : h'[n + 1]? = h[n + 1]?) : FwdAt h' n f ctx := by
  obtain ⟨a, b, st, st', rnd, res, h1, h2, rest⟩ := hf
  exact ⟨a, b, st, st', rnd, res, e1.trans h1, e2.trans h2, rest⟩

theorem FwdRegAt.of_states {h h' : List Sys} {k l : Nat} {m : Message} {K : Bytes} {idx : Nat}
    (hr : FwdRegAt h k l m K idx) (e1 : h'[k]? = h[k]?) (e2 : h'[k + 1]? = h[k + 1]?) :
    FwdRegAt h' k l m K idx := by
  obtain ⟨a, b, st, st', rnd, res, h1, h2, rest⟩ := hr
  exact ⟨a, b, st, st', rnd, res, e1.trans h1, e2.trans h2, rest⟩

/-- **the hypotheses of the read layer with forwarded reads**: those of the commit layer (`Hyp3w`),
`safe`, and — in place of `nori` / `norir` of `RdHyp` —
* `once`: no two steps of the history deliver the same `MsgReadIndex` to the same node (the transport
  does not duplicate forwarded read requests; F17 is exactly a second delivery);
* `uniqc` / `nonempty`: the contexts of ALL `read_index` calls, at all nodes, whether they register,
  forward or drop the request, are unique and not empty. -/
structure RdHypF (cfg : JointConfig) (c0 : Nat) (h : List Sys) : Prop extends Hyp3w cfg c0 h where
  safe : ∀ s ∈ h, ∀ i st, s.node i = some st → st.raft.readOnly.option = .safe
  once : ∀ n1 n2 k m, m.msgType = .msgReadIndex → DeliverAt h n1 k m → DeliverAt h n2 k m → n1 = n2
  uniqc : ∀ n1 n2 i1 i2 K, ReadCallAt h n1 i1 K → ReadCallAt h n2 i2 K → n1 = n2
  nonempty : ∀ n i K, ReadCallAt h n i K → K ≠ []

variable {cfg : JointConfig} {c0 : Nat} {h : List Sys}

/-- a history without any `MsgReadIndex` in the transport (the setting of C08c) satisfies `once` -/
theorem RdHypF.of_nori (H3 : Hyp3w cfg c0 h)
    (safe : ∀ s ∈ h, ∀ i st, s.node i = some st → st.raft.readOnly.option = .safe)
    (nori : ∀ s ∈ h, ∀ x ∈ s.net, x.msgType ≠ .msgReadIndex)
    (uniqc : ∀ n1 n2 i1 i2 K, ReadCallAt h n1 i1 K → ReadCallAt h n2 i2 K → n1 = n2)
    (nec : ∀ n i K, ReadCallAt h n i K → K ≠ []) : RdHypF cfg c0 h :=
  { toHyp3w := H3, safe := safe, uniqc := uniqc, nonempty := nec,
    once := fun n1 _ _ m hty h1 _ => by
      obtain ⟨a, _, _, _, _, _, p1, _, _, p4, _⟩ := h1
      exact absurd hty (nori a (mem_of_get p1) m p4) }

/-- **leader side**: a delivered `MsgReadIndex` that registers a context -/
theorem fwd_reg_covers (F : R4.ReadFacts cfg c0 h)
    (safe : ∀ s ∈ h, ∀ i st, s.node i = some st → st.raft.readOnly.option = .safe) {k l : Nat} {m : Message} {K : Bytes} {idx : Nat}
    (hr : FwdRegAt h k l m K idx) :
    reqCtx m = some K ∧
    ∃ a st, h[k]? = some a ∧ a.node l = some st ∧ st.raft.state = .leader ∧
      st.raft.commitToCurrentTerm = .ok true ∧
      idx = st.raft.raftLog.committed ∧ IdxOK h c0 k st.raft.term idx ∧
      ∀ n sn, n ≤ k → h[n]? = some sn →
        (∀ n1 s1 l' t', h[n1]? = some s1 → n1 ≤ n → leads s1 l' t' → t' ≤ st.raft.term) →
        ∀ u stu, sn.node u = some stu → stu.raft.raftLog.committed ≤ idx := by
  obtain ⟨a, b, st, st', rnd, res, h1, h2, h3, h4, h5, hty, h7, h8, hnot, rs, hrs, hidx⟩ := hr
  cases callRi_cases hty h7 with
  | keep hk _ =>
    exfalso
    rcases hk.keep with ⟨g, _⟩ | g
    · rw [g] at hrs; exact hnot rs hrs
    · rw [g] at hrs; cases hrs
  | now hs => exact absurd hs (F.not_now safe (mem_of_get h1) h3)
  | reg hl hc ro hadd hcore =>
    have e1 : st'.raft.readOnly = ro := congrArg RCore.ro hcore
    rw [e1] at hrs
    obtain ⟨en, hen, hcase⟩ := addRequest_specM hadd
    rcases hcase with q | ⟨q, _⟩
    · rw [q] at hrs; exact absurd hrs (hnot rs)
    · rw [q] at hrs
      rcases List.mem_append.1 hrs with g | g
      · exact absurd g (hnot rs)
      · have g' := List.mem_singleton.1 g
        injection g' with g1 g2
        have hi : idx = st.raft.raftLog.committed := by rw [← hidx, g2]
        have hok := F.idx_reg _ _ _ _ h1 h3 hl hc
        refine ⟨by unfold reqCtx; rw [hen, g1]; rfl, a, st, h1, h3, hl, hc, hi, by rw [hi]; exact hok,
          fun n sn hle hn hno => ?_⟩
        rw [hi]
        exact F.good _ _ _ _ hn (hok.mono hle) hno

end Cluster
end RaftModel
