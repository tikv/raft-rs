import RaftProofs.ClusterCommit5C

/-!
Cluster-level commit safety, `Gx` through the role changes, `append_entry`, `maybe_commit`,
`handle_append_response` (the only place where a peer's `matched` grows), `step_leader` and the
follower handlers `handle_append_entries`, `handle_heartbeat`.
-/
namespace RaftModel
namespace Raft
namespace CX
open CC CB VoteOb

variable {f : Prop} {A : Nat → Nat → Nat → Prop} {a r r' : Raft} {m : Message}

theorem becomeFollower_gx (t l : Nat) (h0 : Gx f A a m r) (ho : Old a r) :
    Gx f A a m (r.becomeFollower t l) :=
  Gx.of_old_nl (ho.becomeFollower t l) ((becomeFollower_id r t l).trans h0.id)
    (by rw [(RaftProps.C16.becomeFollower_proj r t l).1]; intro hc; cases hc)

/-- a (pre-)candidate is no leader, and becoming one queues nothing -/
theorem becomeCandidate_gx (h : r.becomeCandidate = .ok r') (h0 : Gx f A a m r) (ho : Old a r) :
    Gx f A a m r' ∧ Old a r' := by
  obtain ⟨hk, _, _, hs, _⟩ := c02_becomeCandidate_spec h
  have ho' : Old a r' := by unfold Old; rw [hk.msgs]; exact ho
  exact ⟨Gx.of_old_nl ho' (hk.id.trans h0.id) (by rw [hs]; intro hc; cases hc), ho'⟩

theorem becomePreCandidate_gx (h : r.becomePreCandidate = .ok r') (h0 : Gx f A a m r) (ho : Old a r) :
    Gx f A a m r' ∧ Old a r' := by
  unfold Raft.becomePreCandidate at h
  split at h
  · cases h
  · cases h
    exact ⟨Gx.of_old_nl (Old.mk' ho) h0.id (by intro hc; cases hc), Old.mk' ho⟩

/-- `append_entry` with nothing queued yet and the commit index still the one of the start -/
theorem appendEntry_gx {es : List Entry}
    {b : Bool} (h : r.appendEntry es = .ok (r', b)) (h0 : Gx f A a m r) (ho : Old a r)
    (hcm : r.raftLog.committed = a.raftLog.committed) :
    Gx f A a m r' ∧ Old a r' ∧ r'.raftLog.committed = a.raftLog.committed := by
  obtain ⟨e1, e2, e3, e4, e5⟩ := appendEntry_spec h
  obtain ⟨e6, _, _⟩ := appendEntry_fields h
  have e7 := appendEntry_persisted h
  have ho' : Old a r' := by unfold Old; rw [e6]; exact ho
  refine ⟨Gx.of_old ho' (e3.trans h0.id) ⟨?_⟩ (fun _ => .inl (e1.trans hcm)), ho', e1.trans hcm⟩
  rw [e5, e2, e3, e7, e4]
  exact h0.mok.h

theorem becomeLeader_gx (h : r.becomeLeader = .ok r') (h0 : Gx f A a m r) (ho : Old a r)
    (hcm : r.raftLog.committed = a.raftLog.committed) :
    Gx f A a m r' ∧ Old a r' ∧ r'.raftLog.committed = a.raftLog.committed ∧ r'.state = .leader := by
  refine becomeLeader_parts2 (R := fun _ => True)
    (P := fun r1 => Gx f A a m r1 ∧ Old a r1 ∧ r1.raftLog.committed = a.raftLog.committed ∧
      r1.state = .leader) h trivial (@fun _ us pr0 e hg _ => ?_)
    fun ha p => have g := appendEntry_gx ha p.1 p.2.1 p.2.2.1
      ⟨g.1, g.2.1, g.2.2, (appendEntry_spec ha).2.2.2.2.trans p.2.2.2⟩
  subst e
  have hcm' : (r.reset r.term).raftLog.committed = a.raftLog.committed := by
    rw [reset_raftLog]; exact hcm
  refine ⟨Gx.of_old (ho.reset r.term) ((reset_id r r.term).trans h0.id) ⟨fun _ j x hx => ?_⟩
    (fun _ => .inl hcm'), ho.reset r.term, hcm', rfl⟩
  -- after `reset` every `matched` is `0`, or the node's own and `persisted`
  have hm : mfun ((r.reset r.term).prs.set (r.reset r.term).id pr0.becomeReplicate) =
      mfun (r.reset r.term).prs :=
    mfun_set _ _ _ fun old ho => by rw [hg] at ho; cases ho; rfl
  have hx' : mfun (r.reset r.term).prs j = some x := by rw [← hm]; exact hx
  rcases reset_mfun r r.term j x hx' with g | ⟨g1, g2⟩
  · exact .inl g
  · refine .inr (.inl ⟨g1.trans (reset_id r r.term).symm, ?_⟩)
    show x ≤ (r.reset r.term).raftLog.persisted
    rw [reset_raftLog]; exact Nat.le_of_eq g2

theorem maybeCommit_gx {b : Bool}
    (h : r.maybeCommit = .ok (r', b)) (h0 : Gx f A a m r) : Gx f A a m r' := by
  cases b with
  | false =>
    obtain ⟨mci, gc, _, hh | hh⟩ := maybeCommit_spec h
    · cases hh.1
    · rw [hh.2]; exact h0
  | true =>
    obtain ⟨mci, gc, hm, e1, e2, e3, e4, _, ⟨Q, hQ, hQm⟩, e5, e6⟩ :=
      RaftProps.C04.C04_leader_commit_rule r r' h
    have hshape : r' = ({ r with raftLog := { r.raftLog with committed := mci } } : Raft).modifyProgress
        r.id (fun pr => pr.updateCommitted mci) := by
      unfold Raft.maybeCommit at h
      rw [hm] at h
      simp only [] at h
      split at h
      · cases h
      · cases h
      · rename_i log hl
        cases h
        have : log = { r.raftLog with committed := mci } := by
          have := e5
          simp only [modifyProgress] at this
          exact this
        subst this
        rfl
      · cases h
    have hp : mfun r'.prs = mfun r.prs := by
      rw [hshape]
      exact mfun_modifyProgress _ _ _ (fun pr => updateCommitted_matched pr mci)
    have hv : r'.prs.voters = r.prs.voters := by rw [hshape]; rfl
    refine h0.commitUp (by rw [hshape]; rfl) (by rw [hshape]; rfl) e6 hp (by rw [hshape]; rfl) e5
      (Nat.le_of_lt e2) (fun _ => ?_)
    refine ⟨⟨Q, by rw [hv]; exact hQ, fun v hv' => ?_⟩, ?_⟩
    · obtain ⟨pr, hg, hle⟩ := hQm v hv'
      refine ⟨pr.matched, ?_, by rw [e1]; exact hle⟩
      rw [hp]; exact mfun_of_get hg
    · rw [e1, e6, e5]
      exact e4

/-- what is carried while a leader works: `Gx`, the role, the flag -/
structure Gl (f : Prop) (A : Nat → Nat → Nat → Prop) (a : Raft) (m : Message) (r : Raft) : Prop where
  g : Gx f A a m r
  lead : r.state = .leader
  fl : FlagUp f r

theorem Gl.sf (hA : ∀ j t x y, y ≤ x → A j t x → A j t y) (q : Gl f A a m r) (hx : SFx r r') :
    Gl f A a m r' :=
  ⟨q.g.sf hA q.fl hx (.inl q.lead), hx.state.trans q.lead, q.fl.of_eq hx.batch⟩

theorem Gl.commit {b : Bool} (hc : r.maybeCommit = .ok (r', b)) (q : Gl f A a m r) : Gl f A a m r' :=
  ⟨maybeCommit_gx hc q.g, (maybeCommit_keeps hc).1.trans q.lead, q.fl.of_eq (maybeCommit_keeps hc).2.1⟩

theorem handleAppendResponseAccepted_gx {pr : Progress} {op : Bool}
    (hA : ∀ j t x y, y ≤ x → A j t x → A j t y) (hf : FlagUp f r)
    (hs : r.state = .leader) (hb : A m.frm r.term pr.matched)
    (hge : ∀ old, r.prs.get m.frm = some old → old.matched ≤ pr.matched)
    (h : r.handleAppendResponseAccepted m pr op = .ok r') (h0 : Gx f A a m r) : Gx f A a m r' := by
  refine handleAppendResponseAccepted_parts2 (R := Gl f A a m) h (fun hp => ⟨?_, hs, hf⟩)
    (fun hc q => q.commit hc) (fun hx q => q.sf hA (bcastAppend_sfx hx SFx.rfl))
    (fun hx q => q.sf hA (sendAppend_sfx hx SFx.rfl))
    (fun hx q => q.sf hA (sendAppendAggressively_sfx hx SFx.rfl)) (fun q => q.g)
    fun _ _ _ hx q => q.g.sfn hA (sendTimeoutNow_sf hx SF.rfl) (.inl q.lead)
  rename_i pr1
  have hm1 : pr1.matched = pr.matched := by
    rcases hp with ⟨_, rfl⟩ | ⟨_, rfl⟩ | ⟨_, ins, _, rfl⟩
    · rfl
    · split
      · exact becomeProbe_matched _
      · rfl
    · rfl
  exact h0.setMatched (by rw [hm1]; exact .inr (.inr hb)) fun old ho => by rw [hm1]; exact hge old ho

theorem handleAppendResponse_gx (hA : ∀ j t x y, y ≤ x → A j t x → A j t y) (hb : FlagUp f r)
    (hs : r.state = .leader) (hin : m.reject = false → A m.frm r.term m.index)
    (h : r.handleAppendResponse m = .ok r') (h0 : Gx f A a m r) : Gx f A a m r' := by
  have hm0 : ∀ pr0 : Progress,
      (({ pr0 with recentActive := true } : Progress).updateCommitted m.commit).matched = pr0.matched :=
    fun _ => updateCommitted_matched _ _
  -- storing a progress with the stored `matched`
  have keep : ∀ {pr0 pr1 : Progress}, r.prs.get m.frm = some pr0 → pr1.matched = pr0.matched →
      SF r { r with prs := r.prs.set m.frm pr1 } := fun hg e =>
    SF.rfl.setPr fun old ho => by rw [hg] at ho; cases ho; exact e
  refine handleAppendResponse_parts2 (R := SF r) h h0 (fun hg _ hd => keep hg ?_)
    (fun hx q => h0.sf hA hb (sendAppend_sfx hx (.of_sf q)) (.inl hs))
    (fun hg _ hd => h0.sfn hA (keep hg ((maybeDecrTo_matched hd).trans (hm0 _))) (.inl hs))
    (fun hg _ hu => h0.sfn hA (keep hg (((maybeUpdate_matched hu).1 rfl).trans (hm0 _))) (.inl hs))
    fun hg hrej hu ha => ?_
  · have hm2 := (maybeDecrTo_matched hd).trans (hm0 _)
    split
    · rw [becomeProbe_matched]; exact hm2
    · exact hm2
  · obtain ⟨e1, e2⟩ := (maybeUpdate_matched hu).2 rfl
    rw [hm0] at e2
    exact handleAppendResponseAccepted_gx hA hb hs (by rw [e1]; exact hin hrej)
      (fun old ho => by rw [hg] at ho; cases ho; omega) ha h0

/-- **`step_leader`**, entered with nothing queued yet and the commit index of the start -/
theorem stepLeader_gx {e : Option RaftError}
    (hA : ∀ j t x y, y ≤ x → A j t x → A j t y) (hb : FlagUp f r) (hs : r.state = .leader)
    (ho : Old a r) (hcm : r.raftLog.committed = a.raftLog.committed)
    (hin : m.msgType = .msgAppendResponse → m.reject = false → A m.frm r.term m.index)
    (h : r.stepLeader m = .ok (r', e)) (h0 : Gx f A a m r) : Gx f A a m r' := by
  unfold Raft.stepLeader at h
  split at h
  · -- beat
    obtain ⟨r1, h1, h⟩ := Res.bind_eq_ok h
    cases h
    exact h0.sfn hA (bcastHeartbeat_sf h1 SF.rfl) (.inl hs)
  · -- check quorum
    split at h
    rename_i r1 active hq
    have hsf := checkQuorumActive_sf hq SF.rfl
    have hm1 : r1.msgs = r.msgs := by
      unfold Raft.checkQuorumActive at hq
      split at hq
      cases hq; rfl
    have g1 := h0.sfn hA hsf (.inl hs)
    have ho1 : Old a r1 := by unfold Old; rw [hm1]; exact ho
    split at h
    · cases h; exact becomeFollower_gx _ _ g1 ho1
    · cases h; exact g1
  · -- propose
    split at h
    · cases h
    · split at h
      · cases h; exact h0
      · split at h
        · cases h; exact h0
        · split at h
          · rename_i r1 hf
            cases h
            exact h0.sfn hA (filterProposal_sf _ _ _ _ _ hf SF.rfl) (.inl hs)
          · rename_i r1 es hf
            have hsf := filterProposal_sf _ _ _ _ _ hf (SF.rfl (r := r))
            have g1 := h0.sfn hA hsf (.inl hs)
            have ho1 := filterProposal_msgs (a := a) _ _ _ _ _ hf ho
            have hc1 : r1.raftLog.committed = a.raftLog.committed := hsf.committed.trans hcm
            split at h
            · rename_i r2 ha
              cases h
              exact (appendEntry_gx ha g1 ho1 hc1).1
            · rename_i r2 ha
              obtain ⟨g2, _, _⟩ := appendEntry_gx ha g1 ho1 hc1
              obtain ⟨e1, e2, e3, e4, e5⟩ := appendEntry_spec ha
              obtain ⟨_, e7, _⟩ := appendEntry_fields ha
              obtain ⟨r3, h3, h⟩ := Res.bind_eq_ok h
              cases h
              exact g2.sf hA (hb.of_eq (e7.trans hsf.batch)) (bcastAppend_sfx h3 SFx.rfl)
                (.inl (e5.trans (hsf.state.trans hs)))
            · cases h
            · cases h
  · -- read index
    split at h
    · cases h
    · cases h
    · cases h; exact h0
    · simp only [] at h
      have answer : ∀ r0 : Raft, Gx f A a m r0 → r0.state = .leader →
          ((r0.handleReadyReadIndex m r0.raftLog.committed).bind (fun x =>
            match x.2 with
            | some m' => (x.1.send m').bind (fun r => .ok (r, none))
            | none => .ok (x.1, none)) : Res (Raft × Option RaftError)) = .ok (r', e) →
          Gx f A a m r' := by
        intro r0 g0 hs0 hh
        obtain ⟨⟨r1, om⟩, h1, hh⟩ := Res.bind_eq_ok hh
        obtain ⟨hk, hty⟩ := handleReadyReadIndex_sf h1 (SF.rfl (r := r0))
        cases om with
        | none => cases hh; exact g0.sfn hA hk (.inl hs0)
        | some m' =>
          obtain ⟨r2, h2, hh⟩ := Res.bind_eq_ok hh
          cases hh
          obtain ⟨t1, t2⟩ := hty _ rfl
          exact g0.sfn hA (send_sf h2 (sent_other r1 m' t2 (by rw [t1]; rfl) (by rw [t1]; decide)
            (by rw [t1]; decide)) hk) (.inl hs0)
      split at h
      · exact answer r h0 hs h
      · split at h
        · split at h
          · cases h
          · obtain ⟨ro, h1, h⟩ := Res.bind_eq_ok h
            obtain ⟨r2, h2, h⟩ := Res.bind_eq_ok h
            cases h
            exact h0.sfn hA (bcastHeartbeatWithCtx_sf h2 (SF.mk' SF.rfl)) (.inl hs)
        · exact answer r h0 hs h
  · -- append response
    obtain ⟨r1, h1, h⟩ := Res.bind_eq_ok h
    cases h
    rename_i hty
    exact handleAppendResponse_gx hA hb hs (hin hty) h1 h0
  · obtain ⟨r1, h1, h⟩ := Res.bind_eq_ok h
    cases h
    exact h0.sf hA hb (handleHeartbeatResponse_sfx h1 SFx.rfl) (.inl hs)
  · cases h; exact h0.sfn hA (handleSnapshotStatus_sf SF.rfl) (.inl hs)
  · cases h; exact h0.sfn hA (handleUnreachable_sf SF.rfl) (.inl hs)
  · obtain ⟨r1, h1, h⟩ := Res.bind_eq_ok h
    cases h
    exact h0.sf hA hb (handleTransferLeader_sfx h1 SFx.rfl) (.inl hs)
  · cases h; exact h0

theorem sendRequestSnapshot_gx (h : r.sendRequestSnapshot = .ok r') (h0 : Gx f A a m r) : Gx f A a m r' := by
  obtain ⟨_, _, hx⟩ := sendRequestSnapshot_inv h
  exact send_gx_plain hx h0 rfl (.inr rfl) rfl

/-- **`handle_append_entries`** on a follower, entered with nothing queued -/
theorem handleAppendEntries_gx (hs : r.state = .follower) (ho : Old a r) (hm : m.msgType = .msgAppend)
    (h : r.handleAppendEntries m = .ok r') (h0 : Gx f A a m r) : Gx f A a m r' := by
  have g1 : ∀ log, Gx f A a m ({ r with raftLog := log } : Raft) := fun _ =>
    Gx.of_old_nl ho h0.id (by rw [hs]; intro hc; cases hc)
  cases handleAppendEntries_inv h with
  | waiting _ hr => exact sendRequestSnapshot_gx hr h0
  | stale _ _ hx =>
    -- already committed beyond the anchor: acknowledge the commit index
    refine send_gx hx h0 rfl (fun _ => ?_) (fun hc => by cases hc) (fun hc => by cases hc)
    exact akok_of_fill r _ rfl rfl (.inr ⟨hs, hm, rfl, .inl (Nat.le_refl _)⟩)
  | @accepted log ci last _ _ _ hma hx =>
    have hlast : last = m.index + m.entries.length := by
      rcases RaftLog.maybeAppend_inv hma with ⟨_, _, hn⟩ | ⟨_, _, _, _, _, _, hn⟩
      · cases hn
      · cases hn; rfl
    refine send_gx hx (g1 log) rfl (fun _ => ?_) (fun hc => by cases hc) (fun hc => by cases hc)
    exact akok_of_fill _ _ rfl rfl (.inr ⟨hs, hm, rfl, .inr hlast⟩)
  | @rejected log _ _ _ _ _ _ _ hx => exact send_gx_plain hx (g1 log) rfl (.inr rfl) rfl

/-- **`handle_heartbeat`** on a follower, entered with nothing queued -/
theorem handleHeartbeat_gx (hs : r.state = .follower) (ho : Old a r)
    (h : r.handleHeartbeat m = .ok r') (h0 : Gx f A a m r) : Gx f A a m r' := by
  obtain ⟨log, _, hx⟩ := handleHeartbeat_inv h
  have g1 : Gx f A a m ({ r with raftLog := log } : Raft) :=
    Gx.of_old_nl ho h0.id (by rw [hs]; intro hc; cases hc)
  rcases hx with ⟨_, hx⟩ | ⟨_, hx⟩
  · exact sendRequestSnapshot_gx hx g1
  · exact send_gx_plain hx g1 rfl (.inl (by intro hc; cases hc)) rfl

end CX
end Raft
end RaftModel
