import RaftProofs.ClusterLogK
import RaftProps.C13b

/-!
Cluster-level commit safety, helper lemmas part A: the *matched table* of a progress tracker, the part
of the node state the sending / replication helpers never touch (`score`), the anchored relation
`SF a r` ("`r` is reached from `a` by queueing leader-side messages only"), and what `send` fills into
a message.

`SF` says what a helper does that does not batch; a helper that may batch onto a queued `MsgAppend`
satisfies it when `batch_append` is off (`ClusterCommit5A`).
-/
namespace RaftModel
namespace Raft
namespace CC

/-- the matched table of a tracker: `id ↦ matched` -/
def mfun (p : ProgressTracker) : Nat → Option Nat := fun j => (p.get j).map (·.matched)

theorem mfun_of_get {p : ProgressTracker} {j : Nat} {pr : Progress} (h : p.get j = some pr) :
    mfun p j = some pr.matched := by
  unfold mfun; rw [h]; rfl

theorem get_of_mfun {p : ProgressTracker} {j x : Nat} (h : mfun p j = some x) :
    ∃ pr, p.get j = some pr ∧ pr.matched = x := by
  unfold mfun at h
  cases hg : p.get j with
  | none => rw [hg] at h; cases h
  | some pr => rw [hg] at h; cases h; exact ⟨pr, rfl, rfl⟩

/-- writing back a progress whose `matched` is the one in the table keeps the table -/
theorem mfun_set (p : ProgressTracker) (id : Nat) (pr : Progress)
    (h : ∀ old, p.get id = some old → pr.matched = old.matched) : mfun (p.set id pr) = mfun p := by
  funext j
  unfold mfun
  by_cases hj : j = id
  · subst hj
    cases hg : p.get j with
    | none =>
      have : (p.set j pr).get j = none := by
        simp only [ProgressTracker.get, ProgressTracker.set] at *
        rw [c04_lookup_modify_self, hg]; rfl
      rw [this]
    | some old =>
      rw [c04_get_set_self p j pr old hg]
      simp only [Option.map_some, h old hg]
  · rw [c04_get_set_ne p id j pr hj]

theorem get_map_progress (l : List (Nat × Progress)) (f : Nat → Progress → Progress) (j : Nat) :
    (l.map (fun p => (p.1, f p.1 p.2))).lookup j = (l.lookup j).map (f j) := by
  induction l with
  | nil => rfl
  | cons x rest ih =>
    obtain ⟨k, v⟩ := x
    by_cases hk : j = k
    · subst hk; simp
    · have h2 : (j == k) = false := by simp; omega
      simp only [List.map_cons, List.lookup_cons, h2]
      exact ih

/-- rewriting every progress entry by a function that keeps `matched` keeps the table -/
theorem mfun_mapProgress (r : Raft) (f : Nat → Progress → Progress)
    (hf : ∀ j pr, (f j pr).matched = pr.matched) : mfun (r.mapProgress f).prs = mfun r.prs := by
  funext j
  unfold mfun mapProgress ProgressTracker.get
  dsimp only
  rw [get_map_progress]
  cases r.prs.progress.lookup j with
  | none => rfl
  | some pr => simp only [Option.map_some, hf]

theorem mfun_modifyProgress (r : Raft) (id : Nat) (f : Progress → Progress)
    (hf : ∀ pr, (f pr).matched = pr.matched) : mfun (r.modifyProgress id f).prs = mfun r.prs := by
  funext j
  unfold mfun modifyProgress ProgressTracker.get
  dsimp only
  by_cases hj : j = id
  · subst hj
    rw [c04_lookup_modify_self]
    cases r.prs.progress.lookup j with
    | none => rfl
    | some pr => simp only [Option.map_some, hf]
  · rw [c04_lookup_modify_ne id j hj]

/-! ### the send core -/

/-- the part of the node state the sending helpers never touch -/
structure SCore where
  term : Nat
  vote : Nat
  id : Nat
  state : StateRole
  unstable : Unstable
  committed : Nat
  persisted : Nat
  applied : Nat
  sents : List Entry
  smeta : SnapshotMetadata
  shs : HardState
  mtab : Nat → Option Nat
  conf : Configuration
  gc : Bool
  batch : Bool
  tm : Nat → Res Nat
  last : Nat
  lterm : Res Nat

def score (r : Raft) : SCore :=
  { term := r.term, vote := r.vote, id := r.id, state := r.state, unstable := r.raftLog.unstable,
    committed := r.raftLog.committed, persisted := r.raftLog.persisted,
    applied := r.raftLog.applied, sents := r.raftLog.store.entries,
    smeta := r.raftLog.store.snapshotMetadata, shs := r.raftLog.store.hardState,
    mtab := mfun r.prs, conf := r.prs.conf, gc := r.prs.groupCommit, batch := r.batchAppend,
    tm := r.raftLog.term, last := r.raftLog.lastIndex, lterm := r.raftLog.lastTerm }

/-- the message types the leader-side helpers queue -/
def lkT : MsgType → Bool
  | .msgAppend | .msgHeartbeat | .msgSnapshot | .msgTimeoutNow | .msgReadIndexResp => true
  | _ => false

/-- a message queued by a sending helper on a node with core `c` -/
structure Sent (c : SCore) (x : Message) : Prop where
  frm : x.frm = c.id
  term : x.term = c.term
  ty : lkT x.msgType = true
  app : x.msgType = .msgAppend → x.commit = c.committed ∧ c.tm x.index = .ok x.logTerm
  hb : x.msgType = .msgHeartbeat →
    x.commit ≤ c.committed ∧ ∃ mv, c.mtab x.to = some mv ∧ x.commit ≤ mv ∧ x.to ≠ c.id

/-- anchored: `r` has the core of `a`, and every queued message was queued in `a` or is `Sent` -/
structure SFP (a : Raft) (c : SCore) (ms : List Message) : Prop where
  core : c = score a
  q : ∀ x ∈ ms, x ∈ a.msgs ∨ Sent (score a) x

def SF (a r : Raft) : Prop := SFP a (score r) r.msgs

theorem SF.core {a r : Raft} (h : SF a r) : score r = score a := SFP.core h
theorem SF.q {a r : Raft} (h : SF a r) : ∀ x ∈ r.msgs, x ∈ a.msgs ∨ Sent (score a) x := SFP.q h
theorem SF.rfl {r : Raft} : SF r r := ⟨Eq.refl _, fun _ hx => .inl hx⟩

theorem SF.term {a r : Raft} (h : SF a r) : r.term = a.term := congrArg SCore.term h.core
theorem SF.id {a r : Raft} (h : SF a r) : r.id = a.id := congrArg SCore.id h.core
theorem SF.state {a r : Raft} (h : SF a r) : r.state = a.state := congrArg SCore.state h.core
theorem SF.committed {a r : Raft} (h : SF a r) : r.raftLog.committed = a.raftLog.committed :=
  congrArg SCore.committed h.core
theorem SF.persisted {a r : Raft} (h : SF a r) : r.raftLog.persisted = a.raftLog.persisted :=
  congrArg SCore.persisted h.core
theorem SF.mtab {a r : Raft} (h : SF a r) : mfun r.prs = mfun a.prs := congrArg SCore.mtab h.core
theorem SF.conf {a r : Raft} (h : SF a r) : r.prs.conf = a.prs.conf := congrArg SCore.conf h.core
theorem SF.batch {a r : Raft} (h : SF a r) : r.batchAppend = a.batchAppend :=
  congrArg SCore.batch h.core
theorem SF.tm {a r : Raft} (h : SF a r) : r.raftLog.term = a.raftLog.term := congrArg SCore.tm h.core
theorem SF.last {a r : Raft} (h : SF a r) : r.raftLog.lastIndex = a.raftLog.lastIndex :=
  congrArg SCore.last h.core
theorem SF.lterm {a r : Raft} (h : SF a r) : r.raftLog.lastTerm = a.raftLog.lastTerm :=
  congrArg SCore.lterm h.core
theorem SF.vote {a r : Raft} (h : SF a r) : r.vote = a.vote := congrArg SCore.vote h.core

theorem SF.trans {a b c : Raft} (h1 : SF a b) (h2 : SF b c) : SF a c := by
  refine ⟨h2.core.trans h1.core, fun x hx => ?_⟩
  rcases h2.q x hx with g | g
  · exact h1.q x g
  · right; rw [← h1.core]; exact g

/-- any structure update that keeps `term`, `vote`, `id`, `state`, `raftLog`, `batchAppend`, `prs` and
`msgs` keeps `SF` -/
theorem SF.mk' {a r : Raft} {x4 : List ReadState} {x6 x7 x8 : Nat}
    {x10 : Bool} {x11 : Nat}
    {x12 : Option Nat} {x13 : Nat} {x14 : ReadOnly} {x15 x16 : Nat} {x17 x18 x19 x21 : Bool}
    {x22 x23 x24 x25 x26 : Nat} {x27 : Int} {x28 : UncommittedState} {x29 : Nat}
    {x32 : Option Nat} (h0 : SF a r) :
    SF a { term := r.term, vote := r.vote, id := r.id, readStates := x4, raftLog := r.raftLog,
           maxInflight := x6, maxMsgSize := x7, pendingRequestSnapshot := x8, state := r.state,
           promotable := x10, leaderId := x11, leadTransferee := x12,
           pendingConfIndex := x13, readOnly := x14, electionElapsed := x15,
           heartbeatElapsed := x16, checkQuorum := x17, preVote := x18,
           skipBcastCommit := x19, batchAppend := r.batchAppend, disableProposalForwarding := x21,
           heartbeatTimeout := x22, electionTimeout := x23, randomizedElectionTimeout := x24,
           minElectionTimeout := x25, maxElectionTimeout := x26, priority := x27,
           uncommittedState := x28, maxCommittedSizePerReady := x29, prs := r.prs, msgs := r.msgs,
           nextRand := x32 } := ⟨h0.core, h0.q⟩

/-- writing back a progress entry whose `matched` is unchanged -/
theorem SF.setPr {a r : Raft} {id : Nat} {pr : Progress} (h0 : SF a r)
    (h : ∀ old, r.prs.get id = some old → pr.matched = old.matched) :
    SF a { r with prs := r.prs.set id pr } := by
  refine ⟨?_, h0.q⟩
  rw [← h0.core]
  have := mfun_set r.prs id pr h
  unfold score
  dsimp only
  rw [this]
  rfl

/-- queueing one message that is `Sent` -/
theorem send_sf {a r r' : Raft} {m : Message} (h : r.send m = .ok r')
    (hs : Sent (score r) (r.sendFill m)) (h0 : SF a r) : SF a r' := by
  rw [send_eq r r' m h]
  refine ⟨h0.core, fun x hx => ?_⟩
  rcases List.mem_append.1 hx with hx | hx
  · exact h0.q x hx
  · right; rw [List.mem_singleton.1 hx, ← h0.core]; exact hs

/-! ### what `send` fills in -/

theorem sendFill_keeps (r : Raft) (m : Message) :
    (r.sendFill m).to = m.to ∧ (r.sendFill m).commit = m.commit ∧
    (r.sendFill m).commitTerm = m.commitTerm ∧ (r.sendFill m).reject = m.reject ∧
    (r.sendFill m).index = m.index :=
  ⟨by simp only [sendFill, apply_ite Message.to, ite_self],
   by simp only [sendFill, apply_ite Message.commit, ite_self],
   by simp only [sendFill, apply_ite Message.commitTerm, ite_self],
   by simp only [sendFill, apply_ite Message.reject, ite_self],
   by simp only [sendFill, apply_ite Message.index, ite_self]⟩

theorem sendFill_frm (r : Raft) (m : Message) :
    (r.sendFill m).frm = if m.frm = 0 then r.id else m.frm := by
  simp only [sendFill, apply_ite Message.frm, ite_self]

theorem sendFill_term_eq (r : Raft) (m : Message) :
    (r.sendFill m).term =
      if (!isVoteMsg m.msgType && m.msgType != .msgPropose && m.msgType != .msgReadIndex) = true
      then r.term else m.term := by
  simp only [sendFill, apply_ite Message.term, apply_ite Message.msgType, ite_self]

theorem lkT_stamped {t : MsgType} (h : lkT t = true) :
    (!isVoteMsg t && t != .msgPropose && t != .msgReadIndex) = true := by
  cases t <;> first | rfl | cases h

/-- what `send` fills into a message built without sender and term, of a type that is stamped -/
theorem sendFill_lk (r : Raft) (m : Message) (hf : m.frm = 0) (ht : lkT m.msgType = true) :
    (r.sendFill m).frm = r.id ∧ (r.sendFill m).term = r.term ∧
    (r.sendFill m).msgType = m.msgType ∧ (r.sendFill m).commit = m.commit ∧
    (r.sendFill m).to = m.to :=
  ⟨by rw [sendFill_frm, if_pos hf], by rw [sendFill_term_eq, if_pos (lkT_stamped ht)],
    sendFill_msgType r m, (sendFill_keeps r m).2.1, (sendFill_keeps r m).1⟩

end CC
end Raft
end RaftModel
