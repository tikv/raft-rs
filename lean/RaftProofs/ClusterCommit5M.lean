import RaftProofs.ClusterCommitKStep
import RaftProofs.ClusterCommitHyp
import RaftProofs.ClusterCommitAppendCall
import RaftProofs.ClusterCommitStored
import RaftProofs.ClusterCommitEvidence
import RaftProofs.ClusterCommitCI
import RaftProofs.ClusterBatchK

/-!
Cluster-level commit safety **with `batch_append`**, part 5M: where the modules the batching line shares with the
layer without batching meet the cluster side of batching (`RaftProofs/ClusterBatchK.lean`), and `call_stob`: what
one call does to the stored entries and the logical log (`Bt.call_slg`), stated with the proviso `Prov0` of the
batching layer, which it does not need.
-/
namespace RaftModel
namespace Raft
namespace Bt
open Node CC

theorem call_stob (st st' : NState) (rnd : Option Nat) (op : NodeOp) (res : OpRes)
    (hinv : st.raft.raftLog.Inv) (hcl : Prov0 st.raft st'.raft)
    (hop : op ≠ .drain ∧ ∀ m, op ≠ .rstep m)
    (hw : ∀ m, op = .step m → m.msgType = .msgAppend → MsgOk m)
    (hms : ∀ m, op = .step m → m.msgType ≠ .msgSnapshot)
    (hc : ∀ k, op ≠ .compact k)
    (hsn : st.raft.raftLog.unstable.snapshot = none)
    (h : Node.call st rnd op = .ok (res, st')) :
    SLg st.raft st'.raft (CV.opMsg op) ∨ op = .stabilize :=
  have _ := hcl
  call_slg st st' rnd op res hinv hop hw hms hc hsn h

end Bt
end Raft
end RaftModel
