import RaftModel.Unstable

/-!
The three-outcome result `Res` of the model's functions: what `bind` tells about an outcome, and the
postcondition `Res.Post` (holds of the value when the outcome is `ok`).
-/
namespace RaftModel

theorem Res.bind_eq_ok {α β : Type} {x : Res α} {f : α → Res β} {b : β}
    (h : x.bind f = .ok b) : ∃ a, x = .ok a ∧ f a = .ok b := by
  cases x with
  | ok a => exact ⟨a, rfl, h⟩
  | err e => cases h
  | panic s => cases h

theorem Res.bind_eq_ok_iff {α β : Type} {x : Res α} {f : α → Res β} {b : β} :
    x.bind f = .ok b ↔ ∃ a, x = .ok a ∧ f a = .ok b := by
  constructor
  · exact Res.bind_eq_ok
  · rintro ⟨a, rfl, h⟩; exact h

/-- a panic propagates through `bind` only from one of the two halves -/
theorem Res.bind_eq_panic {α β : Type} {x : Res α} {f : α → Res β} {s : String}
    (h : x.bind f = .panic s) : x = .panic s ∨ ∃ a, x = .ok a ∧ f a = .panic s := by
  cases x with
  | ok a => exact .inr ⟨a, rfl, h⟩
  | err e => cases h
  | panic s' => exact .inl (by simpa [Res.bind] using h)

theorem Res.bind_ok {α β : Type} (a : α) (f : α → Res β) : (Res.ok a).bind f = f a := rfl

/-- postcondition of a three-outcome computation: holds of the value when the outcome is `ok` -/
def Res.Post {α : Type} (P : α → Prop) : Res α → Prop
  | .ok a => P a
  | .err _ => True
  | .panic _ => True

theorem Res.Post.of_eq {α : Type} {P : α → Prop} {x : Res α} {a : α} (hp : Res.Post P x)
    (h : x = .ok a) : P a := by
  subst h; exact hp

/-- the same for a computation that returns a pair, about its first component -/
theorem Res.Post.fst {α β : Type} {P : α → Prop} {x : Res (α × β)} {a : α} {b : β}
    (hp : Res.Post (fun y => P y.1) x) (h : x = .ok (a, b)) : P a :=
  Res.Post.of_eq (P := fun y => P y.1) hp h

theorem Res.post_bind {α β : Type} {P : α → Prop} {Q : β → Prop} {x : Res α} {f : α → Res β}
    (hx : Res.Post P x) (hf : ∀ a, P a → Res.Post Q (f a)) : Res.Post Q (x.bind f) := by
  cases x with
  | ok a => exact hf a hx
  | err e => trivial
  | panic s => trivial

theorem Res.post_ok {α : Type} {P : α → Prop} {a : α} (h : P a) : Res.Post P (.ok a) := h

theorem Res.post_mono {α : Type} {P Q : α → Prop} {x : Res α} (hx : Res.Post P x)
    (h : ∀ a, P a → Q a) : Res.Post Q x := by
  cases x with
  | ok a => exact h a hx
  | err e => trivial
  | panic s => trivial

theorem Res.post_intro {α : Type} {P : α → Prop} {x : Res α} (h : ∀ a, x = .ok a → P a) :
    Res.Post P x := by
  cases x with
  | ok a => exact h a rfl
  | err e => trivial
  | panic s => trivial

theorem Res.post_ite {α : Type} {P : α → Prop} {c : Prop} [Decidable c] {x y : Res α}
    (hx : Res.Post P x) (hy : Res.Post P y) : Res.Post P (if c then x else y) := by
  split <;> assumption

end RaftModel
