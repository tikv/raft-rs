import RaftProofs.ClusterSnap6A
import RaftProofs.ClusterSnap2A

/-!
Commit safety of `ClusterSem` with compaction, snapshots and `request_snapshot`, part 6B (towards
deriving `reqok`): **who may touch `pending_request_snapshot`, and who may extend the log of a node
with a pending request**.

`RQ.Q r r'`: the pending snapshot request was dropped, or it is unchanged and a node that is not leader
is still not leader and its log has not grown.  Every function of `Raft::step` and `Raft::tick`
satisfies it (`step_q`, `tick_q`; a composite handler because its parts do, `RaftHandlers.lean` with
`P := Q r`): `reset` (`become_candidate`, `become_leader`) and a successful `restore` clear
the request, `become_follower` keeps it, `handle_append_entries` does not append while a request is
pending, and `append_entry` runs only on a leader.  The only function that sets a request is
`Raft::request_snapshot` (`ClusterSnap5Y`, `requestSnapshot_out`).
-/
namespace RaftModel
namespace Raft
namespace RQ

def Q (r r' : Raft) : Prop :=
  r'.pendingRequestSnapshot = 0 ∨
  (r'.pendingRequestSnapshot = r.pendingRequestSnapshot ∧
    (r.state ≠ .leader → r'.state ≠ .leader ∧ r'.raftLog.lastIndex ≤ r.raftLog.lastIndex))

theorem Q.refl (r : Raft) : Q r r := Or.inr ⟨rfl, fun h => ⟨h, Nat.le_refl _⟩⟩

theorem Q.trans {a b c : Raft} (h1 : Q a b) (h2 : Q b c) : Q a c := by
  rcases h2 with h2 | ⟨h2, h2'⟩
  · exact Or.inl h2
  · rcases h1 with h1 | ⟨h1, h1'⟩
    · exact Or.inl (h2.trans h1)
    · refine Or.inr ⟨h2.trans h1, fun h => ?_⟩
      obtain ⟨b1, b2⟩ := h1' h
      obtain ⟨c1, c2⟩ := h2' b1
      exact ⟨c1, Nat.le_trans c2 b2⟩

theorem FrameP.toQ {r r' : Raft} (h : FrameP r r') : Q r r' :=
  Or.inr ⟨h.pend, fun hs => ⟨by rw [h.state]; exact hs, Nat.le_of_eq h.last⟩⟩

theorem Q.of_zero {r r' : Raft} (h : r'.pendingRequestSnapshot = 0) : Q r r' := Or.inl h

theorem Q.of_same {r r' : Raft} (h1 : r'.pendingRequestSnapshot = r.pendingRequestSnapshot)
    (h2 : r'.state = r.state) (h3 : r'.raftLog.lastIndex = r.raftLog.lastIndex) : Q r r' :=
  Or.inr ⟨h1, fun hs => ⟨by rw [h2]; exact hs, Nat.le_of_eq h3⟩⟩

theorem Q.of_nl {r r' : Raft} (h1 : r'.pendingRequestSnapshot = r.pendingRequestSnapshot)
    (h2 : r'.state ≠ .leader) (h3 : r'.raftLog.lastIndex = r.raftLog.lastIndex) : Q r r' :=
  Or.inr ⟨h1, fun _ => ⟨h2, Nat.le_of_eq h3⟩⟩

theorem Q.of_leader {r r' : Raft} (h1 : r'.pendingRequestSnapshot = r.pendingRequestSnapshot)
    (hs : r.state = .leader) : Q r r' := Or.inr ⟨h1, fun h => absurd hs h⟩

/-- the invariant: the log of a node with a pending snapshot request ends at or before the requested
index, and such a node is not leader -/
def ReqI (r : Raft) : Prop :=
  r.pendingRequestSnapshot ≠ 0 →
    r.state ≠ .leader ∧ r.raftLog.lastIndex ≤ r.pendingRequestSnapshot

theorem Q.keeps {r r' : Raft} (h : Q r r') (hi : ReqI r) : ReqI r' := by
  intro hp
  rcases h with h | ⟨h1, h2⟩
  · exact absurd h hp
  · rw [h1] at hp
    obtain ⟨a1, a2⟩ := hi hp
    obtain ⟨b1, b2⟩ := h2 a1
    exact ⟨b1, by rw [h1]; exact Nat.le_trans b2 a2⟩

/-! ### role changes -/

theorem reset_pend_rq (r : Raft) (t : Nat) : (r.reset t).pendingRequestSnapshot = 0 := by
  unfold reset
  simp only [mapProgress, abortLeaderTransfer, resetRandomizedElectionTimeout]

theorem becomeFollower_last_rq (r : Raft) (t l : Nat) :
    (r.becomeFollower t l).raftLog.lastIndex = r.raftLog.lastIndex := by
  unfold becomeFollower
  exact lastIndex_congr (by simp only [reset_raftLog]) (by simp only [reset_raftLog])
    (by simp only [reset_raftLog])

theorem becomeFollower_q (r : Raft) (t l : Nat) : Q r (r.becomeFollower t l) :=
  Q.of_nl rfl (fun hc : StateRole.follower = .leader => by cases hc) (becomeFollower_last_rq r t l)

theorem becomeCandidate_q (r : Raft) : Res.Post (fun x => Q r x) r.becomeCandidate :=
  Res.post_intro fun _ h => becomeCandidate_parts (P := Q r) h (Q.refl r)
    (fun t _ => Q.of_zero (reset_pend_rq _ t))
    fun p => p.trans (Q.of_nl rfl (by intro hc; cases hc) rfl)

theorem becomePreCandidate_q (r : Raft) : Res.Post (fun x => Q r x) r.becomePreCandidate := by
  unfold becomePreCandidate
  split
  · trivial
  · exact Res.post_ok (Q.of_nl rfl (by intro hc; cases hc) rfl)

theorem appendEntry_ps (r : Raft) (es : List Entry) :
    Res.Post (fun x => x.1.pendingRequestSnapshot = r.pendingRequestSnapshot ∧ x.1.state = r.state)
      (r.appendEntry es) := by
  unfold appendEntry
  split
  · exact ⟨rfl, rfl⟩
  · rename_i r1 heq
    have h1 : r1.pendingRequestSnapshot = r.pendingRequestSnapshot ∧ r1.state = r.state := by
      unfold maybeIncreaseUncommittedSize at heq
      simp only [Prod.mk.injEq] at heq
      rw [← heq.1]; exact ⟨rfl, rfl⟩
    simp only
    split
    · simp only [Res.Post]; exact h1
    · trivial
    · trivial

theorem becomeLeader_q (r : Raft) : Res.Post (fun x => Q r x) r.becomeLeader := by
  unfold becomeLeader
  split
  · trivial
  · dsimp only
    split
    · trivial
    · split
      · trivial
      · split
        · rename_i r1 heq
          have h1 := Res.Post.of_eq (appendEntry_ps _ _) heq
          exact Res.post_ok (Q.of_zero (h1.1.trans (reset_pend_rq r r.term)))
        · trivial
        · trivial
        · trivial

theorem pollWith_q (onPreWin : Raft → Res Raft) (hp : ∀ r, Res.Post (fun x => Q r x) (onPreWin r))
    (r : Raft) (frm : Nat) (t : MsgType) (vote : Bool) :
    Res.Post (fun x => Q r x.1) (pollWith onPreWin r frm t vote) :=
  Res.post_intro fun _ h => pollWith_parts (P := Q r) h (Q.refl r)
    (fun _ _ p => p.trans (Q.of_same rfl rfl rfl))
    (fun hw p => p.trans ((hp _).of_eq hw))
    (fun hl p => p.trans ((becomeLeader_q _).of_eq hl))
    (fun hb p => p.trans ((bcastAppend_fp _).of_eq hb).toQ)
    fun p => p.trans (becomeFollower_q _ _ _)

theorem campaignWith_q (poll : Raft → Nat → MsgType → Bool → Res (Raft × VoteResult))
    (hp : ∀ r f t v, Res.Post (fun x => Q r x.1) (poll r f t v)) (r : Raft) (ct : CampaignType) :
    Res.Post (fun x => Q r x) (campaignWith poll r ct) :=
  Res.post_intro fun _ h => campaignWith_parts (P := Q r) h (Q.refl r)
    (fun hb p => p.trans ((becomePreCandidate_q _).of_eq hb))
    (fun hb p => p.trans ((becomeCandidate_q _).of_eq hb))
    (fun hq p => p.trans ((hp _ _ _ _).of_eq hq))
    fun hr _ p => p.trans ((sendVoteRequests_fp _ _ _ _).of_eq hr).toQ

theorem campaignAfterPreVote_q (r : Raft) : Res.Post (fun x => Q r x) r.campaignAfterPreVote := by
  unfold campaignAfterPreVote
  exact campaignWith_q _ (fun r f t v => pollWith_q _ (by intro _; trivial) r f t v) r _

theorem poll_q (r : Raft) (frm : Nat) (t : MsgType) (vote : Bool) :
    Res.Post (fun x => Q r x.1) (r.poll frm t vote) := by
  unfold poll
  exact pollWith_q _ campaignAfterPreVote_q r frm t vote

theorem campaign_q (r : Raft) (ct : CampaignType) : Res.Post (fun x => Q r x) (r.campaign ct) := by
  unfold campaign
  exact campaignWith_q _ poll_q r ct

theorem hup_q (r : Raft) (b : Bool) : Res.Post (fun x => Q r x) (r.hup b) :=
  Res.post_intro fun _ h => hup_parts (P := Q r) h (Q.refl r) fun _ hc => (campaign_q r _).of_eq hc

theorem maybeCommitByVote_q (r : Raft) (m : Message) :
    Res.Post (fun x => Q r x) (r.maybeCommitByVote m) :=
  Res.post_intro fun _ h => maybeCommitByVote_parts (P := Q r) h (Q.refl r)
    (fun hc => (FrameP.of_log' (logMaybeCommit_pc hc)).toQ)
    fun p => p.trans (becomeFollower_q _ _ _)

/-! ### the follower side -/

/-- `handle_append_entries` with a request pending only repeats the request -/
theorem handleAppendEntries_q (r : Raft) (m : Message) :
    Res.Post (fun x => Q r x) (r.handleAppendEntries m) := by
  refine Res.post_intro fun r' h => ?_
  cases handleAppendEntries_inv h with
  | waiting _ hr => exact ((sendRequestSnapshot_fp r).of_eq hr).toQ
  | stale hp _ hs => exact Q.of_zero (((send_fp _ _).of_eq hs).pend.trans hp)
  | accepted hp _ _ hs => exact Q.of_zero (((send_fp _ _).of_eq hs).pend.trans hp)
  | rejected hp _ _ _ hs => exact Q.of_zero (((send_fp _ _).of_eq hs).pend.trans hp)

theorem handleHeartbeat_fp (r : Raft) (m : Message) :
    Res.Post (fun x => FrameP r x) (r.handleHeartbeat m) :=
  Res.post_intro fun _ h => handleHeartbeat_parts (P := FrameP r) h
    (fun hc => FrameP.of_log' (logCommitTo_pc hc))
    (fun hr p => p.trans ((sendRequestSnapshot_fp _).of_eq hr))
    fun hs _ p => p.trans ((send_fp _ _).of_eq hs)

/-- a node that is not a follower becomes one; a follower that takes the snapshot drops its request;
one that does not keeps its log -/
theorem restore_q (r : Raft) (snap : Snapshot) : Res.Post (fun x => Q r x.1) (r.restore snap) :=
  Res.post_intro fun ⟨_, _⟩ h => by
    cases restore_inv h with
    | ignored => exact Q.refl r
    | follow => exact becomeFollower_q r _ _
    | forward _ _ _ hc => exact (FrameP.of_log' (logCommitTo_pc hc)).toQ
    | full => exact Q.of_zero rfl

theorem handleSnapshot_q (r : Raft) (m : Message) :
    Res.Post (fun x => Q r x) (r.handleSnapshot m) :=
  Res.post_intro fun _ h => handleSnapshot_parts (P := Q r) h
    (fun hr => (restore_q r m.snapshot).of_eq hr)
    fun hs _ p => p.trans ((send_fp _ _).of_eq hs).toQ

theorem stepCandidate_q (r : Raft) (m : Message) :
    Res.Post (fun x => Q r x.1) (r.stepCandidate m) :=
  Res.post_intro fun _ h => stepCandidate_parts (P := Q r) h (Q.refl r)
    (fun _ => becomeFollower_q r _ _)
    (fun ha _ p => p.trans ((handleAppendEntries_q _ m).of_eq ha))
    (fun hb _ p => p.trans ((handleHeartbeat_fp _ m).of_eq hb).toQ)
    (fun hs _ p => p.trans ((handleSnapshot_q _ m).of_eq hs))
    (fun hp _ _ => (poll_q r _ _ _).of_eq hp)
    fun hv p => p.trans ((maybeCommitByVote_q _ m).of_eq hv)

theorem stepFollower_q (r : Raft) (m : Message) :
    Res.Post (fun x => Q r x.1) (r.stepFollower m) :=
  Res.post_intro fun _ h => stepFollower_parts (P := Q r) h (Q.refl r)
    (fun hs _ => ((send_fp r _).of_eq hs).toQ)
    (Q.of_same rfl rfl rfl)
    (fun ha _ p => p.trans ((handleAppendEntries_q _ m).of_eq ha))
    (fun hb _ p => p.trans ((handleHeartbeat_fp _ m).of_eq hb).toQ)
    (fun hs _ p => p.trans ((handleSnapshot_q _ m).of_eq hs))
    (fun hh _ _ => (hup_q r true).of_eq hh)
    fun hc _ => Q.trans (Q.of_same rfl rfl rfl)
      (FrameP.of_log' (r := { r with readStates := _ }) (logMaybeCommit_pc hc)).toQ

theorem stepTerm_q (r : Raft) (m : Message) : Res.Post (fun x => Q r x.1) (r.stepTerm m) :=
  Res.post_intro fun _ h => stepTerm_parts (P := Q r) h (Q.refl r)
    (fun _ _ p => p.trans (becomeFollower_q _ _ _))
    (fun hs _ p => p.trans ((send_fp _ _).of_eq hs).toQ)
    fun hs _ p => p.trans ((send_fp _ _).of_eq hs).toQ

theorem stepVote_q (r : Raft) (m : Message) : Res.Post (fun x => Q r x) (r.stepVote m) :=
  Res.post_intro fun _ h => stepVote_parts (P := Q r) h
    (fun hs _ => ((send_fp r _).of_eq hs).toQ)
    (fun p => p.trans (Q.of_same rfl rfl rfl))
    fun hv p => p.trans ((maybeCommitByVote_q _ m).of_eq hv)

/-! ### the leader side -/

theorem handleAppendResponseAccepted_fp (r : Raft) (m : Message) (pr : Progress) (op : Bool) :
    Res.Post (fun r' => FrameP r r') (r.handleAppendResponseAccepted m pr op) :=
  Res.post_intro fun _ h => handleAppendResponseAccepted_parts (P := FrameP r) h
    (fun _ => set_fp r m.frm _)
    (fun hc p => p.trans ((maybeCommit_fp _).of_eq hc))
    (fun hb p => p.trans ((bcastAppend_fp _).of_eq hb))
    (fun ha p => p.trans ((sendAppend_fp _ _).of_eq ha))
    (fun ha p => p.trans ((sendAppendAggressively_fp _ _).of_eq ha))
    fun _ ht p => p.trans ((sendTimeoutNow_fp _ _).of_eq ht)

theorem handleAppendResponse_fp (r : Raft) (m : Message) :
    Res.Post (fun r' => FrameP r r') (r.handleAppendResponse m) :=
  Res.post_intro fun _ h => handleAppendResponse_parts (P := FrameP r) h (FrameP.refl r)
    (fun _ => set_fp r m.frm _)
    (fun ha p => p.trans ((sendAppend_fp _ _).of_eq ha))
    fun ha => (handleAppendResponseAccepted_fp r m _ _).of_eq ha

theorem handleTransferLeader_fp (r : Raft) (m : Message) :
    Res.Post (fun a => FrameP r a) (r.handleTransferLeader m) :=
  Res.post_intro fun _ h => handleTransferLeader_parts (P := FrameP r) h (FrameP.refl r)
    (fun p => p.trans (by simp [FrameP, pcore, abortLeaderTransfer]))
    (fun p => p.trans (by simp [FrameP, pcore]))
    (fun _ ht p => p.trans ((sendTimeoutNow_fp _ _).of_eq ht))
    (fun _ ha p => p.trans ((sendAppendPr_fp _ _ _).of_eq ha))
    fun _ p => p.trans (set_fp _ _ _)

/-- on a leader `Q` only asks that the request is dropped or unchanged -/
theorem Q.of_pend {r r1 r2 : Raft} (hs : r.state = .leader) (p : Q r r1)
    (h : r2.pendingRequestSnapshot = r1.pendingRequestSnapshot) : Q r r2 := by
  rcases p with p | ⟨p, _⟩
  · exact Q.of_zero (h.trans p)
  · exact Q.of_leader (h.trans p) hs

/-- `step_leader` on a leader -/
theorem stepLeader_q (r : Raft) (m : Message) (hs : r.state = .leader) :
    Res.Post (fun x => Q r x.1) (r.stepLeader m) :=
  Res.post_intro fun _ h => stepLeader_parts (P := Q r) h (Q.refl r)
    (fun hb _ => ((bcastHeartbeat_fp r).of_eq hb).toQ)
    (fun hq _ => by have := checkQuorumActive_fp r; rw [hq] at this; exact this.toQ)
    (fun _ p => p.trans (becomeFollower_q _ _ _))
    (fun hf _ => by have := filterProposal_fp m.entries r 0; rw [hf] at this; exact this.toQ)
    (fun ha _ p => p.of_pend hs ((appendEntry_ps _ _).of_eq ha).1)
    (fun hb _ p => p.trans ((bcastAppend_fp _).of_eq hb).toQ)
    (fun hr _ => ((handleReadyReadIndex_fp r m _).of_eq hr).toQ)
    (fun hx _ p => p.trans ((send_fp _ _).of_eq hx).toQ)
    (fun _ _ => Q.of_same rfl rfl rfl)
    (fun hb _ p => p.trans ((bcastHeartbeatWithCtx_fp _ _).of_eq hb).toQ)
    (fun ha _ => ((handleAppendResponse_fp r m).of_eq ha).toQ)
    (fun hb _ => ((handleHeartbeatResponse_fp r m).of_eq hb).toQ)
    (fun _ => (handleSnapshotStatus_fp r m).toQ)
    (fun _ => (handleUnreachable_fp r m).toQ)
    fun ht _ => ((handleTransferLeader_fp r m).of_eq ht).toQ

/-- **`Raft::step`, every state and message**: the pending snapshot request is dropped, or kept by a
node whose log does not grow and that does not become leader -/
theorem step_q (r : Raft) (m : Message) : Res.Post (fun x => Q r x.1) (r.step m) :=
  Res.post_intro fun _ h => step_parts (P := Q r) h
    (fun ht => (stepTerm_q r m).of_eq ht)
    (fun hh _ p => p.trans ((hup_q _ false).of_eq hh))
    (fun hv p => p.trans ((stepVote_q _ m).of_eq hv))
    (fun hc _ p => p.trans ((stepCandidate_q _ m).of_eq hc))
    (fun hf _ p => p.trans ((stepFollower_q _ m).of_eq hf))
    fun hl hs p => p.trans ((stepLeader_q _ m hs).of_eq hl)

theorem stepIgnore_q (r : Raft) (m : Message) : Res.Post (fun x => Q r x) (r.stepIgnore m) := by
  unfold stepIgnore
  exact Res.post_bind (step_q r m) (fun a ha => Res.post_ok ha)

/-- a tick (`tick_election` or `tick_heartbeat`) -/
theorem tick_q (r : Raft) : Res.Post (fun x => Q r x.1) r.tick :=
  Res.post_intro fun _ h => tick_parts (P := Q r) h
    (fun he => tickElection_parts he (fun _ => Q.of_same rfl rfl rfl)
      fun hs _ _ p => p.trans ((stepIgnore_q _ _).of_eq hs))
    fun hh => tickHeartbeat_parts hh (fun _ _ p => p.trans (Q.of_same rfl rfl rfl)) (Q.refl r)
      (fun hs _ _ _ p => p.trans ((stepIgnore_q _ _).of_eq hs))
      (fun hs _ _ _ p => p.trans ((stepIgnore_q _ _).of_eq hs))
      fun p => p.trans (Q.of_same rfl rfl rfl)

end RQ
end Raft
end RaftModel
