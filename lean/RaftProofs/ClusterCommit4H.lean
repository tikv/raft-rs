import RaftProofs.ClusterCommit4G

/-!
Cluster-level commit safety, part 4H: `PW` through `tick`, `post_conf_change` / `apply_conf_change`,
`on_persist_entries`, `commit_apply`, the group-commit switches and the remaining `Raft`-level entry
points.
-/
namespace RaftModel
namespace Raft
namespace PerCall
open RaftProps.C13

variable {E : Rule}

/-! ### `tick` -/

theorem stepIgnore_pw {a r r' : Raft} {m : Message} (h : r.stepIgnore m = .ok r') (h0 : PW E a r)
    (hna : m.msgType ≠ .msgAppend) (hms : m.msgType ≠ .msgSnapshot)
    (hnr : m.msgType ≠ .msgAppendResponse)
    (hQ : m.msgType = .msgSnapStatus → r.state = .leader →
      ∀ i, E.pend r.msgs r.raftLog.lastIndex i → i ≤ r.raftLog.lastIndex) : PW E a r' :=
  stepIgnore_parts h (fun hs => step_pw hs h0 hna hms (fun _ hc => absurd hc hnr) hQ)

/-- a local message that `tick` steps -/
theorem tickStep_pw {a r r' : Raft} {m : Message} (h : r.stepIgnore m = .ok r')
    (hty : m.msgType = .msgHup ∨ m.msgType = .msgCheckQuorum ∨ m.msgType = .msgBeat)
    (h0 : PW E a r) : PW E a r' := by
  have hne : ∀ t : MsgType, (t = .msgHup ∨ t = .msgCheckQuorum ∨ t = .msgBeat → False) →
      m.msgType ≠ t := fun t ht hc => ht (hc ▸ hty)
  exact stepIgnore_pw h h0 (hne _ (by decide)) (hne _ (by decide)) (hne _ (by decide))
    fun hc => absurd hc (hne _ (by decide))

theorem tickElection_pw {a r r' : Raft} {b : Bool} (h : r.tickElection = .ok (r', b))
    (h0 : PW E a r) : PW E a r' :=
  tickElection_parts h (fun _ => PW.mk' h0) fun hs ty _ p => tickStep_pw hs (.inl ty) p

theorem tickHeartbeat_pw {a r r' : Raft} {b : Bool} (h : r.tickHeartbeat = .ok (r', b))
    (h0 : PW E a r) : PW E a r' :=
  tickHeartbeat_parts h (fun _ _ p => PW.mk' p) h0
    (fun hs ty _ _ p => tickStep_pw hs (.inr (.inl ty)) p)
    (fun hs ty _ _ p => tickStep_pw hs (.inr (.inr ty)) p) fun p => PW.mk' p

theorem tick_pw {a r r' : Raft} {b : Bool} (h : r.tick = .ok (r', b)) (h0 : PW E a r) :
    PW E a r' :=
  tick_parts h (fun h => tickElection_pw h h0) fun h => tickHeartbeat_pw h h0

/-! ### `post_conf_change`, `apply_conf_change` -/

theorem maybeSendAppend_lw {a r r' : Raft} {to : Nat} {pr pr' : Progress} {ae b : Bool}
    (h : r.maybeSendAppend to pr ae = .ok (r', pr', b)) (h0 : LW E a r) (hp : PQ E r pr) :
    LW E a r' ∧ PQ E r' pr' := by
  obtain ⟨g1, g2⟩ := maybeSendAppend_pw h h0.1 hp
  exact ⟨⟨g1, (maybeSendAppend_frame h Frame.rfl).state.trans h0.2⟩, g2⟩

theorem postConfChange_pw {a r r' : Raft} {cs : ConfState}
    (h : r.postConfChange = .ok (r', cs)) (h0 : PW E a r) : PW E a r' :=
  postConfChange_parts2 (P := PW E a) (R := LW E a) (Q := LQ E a) h
    (fun _ _ => becomeFollower_pw _ _ (PW.mk' h0)) (PW.mk' h0) (fun hl => ⟨PW.mk' h0, hl⟩)
    maybeCommit_lw bcastAppend_lw (fun _ hg ha q => maybeSendAppend_lw ha q (q.getPr hg)) LQ.set
    (fun _ q => recvAck_lw _ _ q) (fun ha q => advanced_lw ha q) (fun ha hr q _ => advance_lw q ha hr)
    (fun _ _ q => (LW.mk' q).1) fun _ _ q => q.1

theorem PAll.applyConf {ms : List Message} {li : Nat} {t : ProgressTracker} (h : PAll E ms li t)
    (conf : Configuration)
    (changes : MapChange) : PAll E ms li (t.applyConf conf changes li) := by
  unfold ProgressTracker.applyConf
  simp only []
  have key : ∀ (l : MapChange) (m : List (Nat × Progress)), (∀ p ∈ m, POk E ms li p.2) →
      ∀ p ∈ l.foldl (fun m c => match c.2 with
        | .add => NatMap.insert c.1 { Progress.new li t.maxInflight with recentActive := true } m
        | .remove => NatMap.erase c.1 m) m, POk E ms li p.2 := by
    intro l
    induction l with
    | nil => intro m hm; exact hm
    | cons c rest ih =>
      intro m hm
      simp only [List.foldl_cons]
      apply ih
      intro p hp
      split at hp
      · rcases CV.mem_insert _ _ _ _ hp with d | d
        · rw [d]
          exact .of_ns (Nat.zero_le _) (Nat.le_succ _) (by intro hc; cases hc)
        · exact hm p d
      · exact hm p (List.mem_filter.1 hp).1
  exact key changes t.progress h

theorem applyConfChange_pw {a r r' : Raft} {cc : ConfChangeV2} {res : Except ErrKind ConfState}
    (h : r.applyConfChange cc = .ok (r', res)) (h0 : PW E a r) : PW E a r' := by
  unfold Raft.applyConfChange at h
  simp only [] at h
  split at h
  · cases h; exact h0
  · rename_i cfg changes _
    rw [Res.bind_eq_ok_iff] at h
    obtain ⟨⟨r1, cs⟩, h1, h2⟩ := h
    cases h2
    refine postConfChange_pw h1 (h0.prs (fun hs => ?_))
    rcases h0.po hs with c | c
    · exact .inl c
    · exact .inr (c.applyConf _ _)

/-! ### `on_persist_entries`, `commit_apply`, group commit -/

/-- `PW` with the role the call started in -/
def PS (E : Rule) (a r r1 : Raft) : Prop := PW E a r1 ∧ r1.state = r.state

theorem PS.lw {a r r1 : Raft} (p : PS E a r r1) (hl : r.state = .leader) : LW E a r1 :=
  ⟨p.1, p.2.trans hl⟩

theorem LW.ps {a r r1 : Raft} (q : LW E a r1) (hl : r.state = .leader) : PS E a r r1 :=
  ⟨q.1, q.2.trans hl.symm⟩

theorem onPersistEntries_pw {a r r' : Raft} {index term : Nat}
    (h : r.onPersistEntries index term = .ok r') (h0 : PW E a r) : PW E a r' := by
  -- what `maybe_persist` leaves of the log
  have key : ∀ {l b}, r.raftLog.maybePersist index term = .ok (l, b) →
      LogSame r.raftLog l ∧ (b = true → index ≤ l.lastIndex) := fun {l b} hmp => by
    obtain ⟨l', b', hmp', hinv', habs', hc', _, _, hb'⟩ := RaftLog.Inv.maybePersist h0.inv index term
    rw [hmp] at hmp'
    cases hmp'
    have hlast : l.lastIndex = r.raftLog.lastIndex := by
      rw [hinv'.lastIndex_abs, h0.inv.lastIndex_abs, habs']
    exact ⟨⟨habs', hlast, fun _ => hinv', by omega⟩,
      fun hb => by rw [← (hb' hb).1]; exact hinv'.persisted_le_last⟩
  exact (onPersistEntries_parts2 (P := PS E a r) h (fun hp => ⟨h0.log (key hp).1, rfl⟩)
    (fun hl _ _ _ _ _ hp hg hu p =>
      ((p.lw hl).setPr (PQ.imp ((p.lw hl).getPr hg) fun c =>
        (c.maybeUpdate ((key hp).2 rfl) hu).1)).ps hl)
    (fun hl _ _ _ hc p => (maybeCommit_lw hc (p.lw hl)).ps hl)
    fun hl _ _ hx p => (bcastAppend_lw hx (p.lw hl)).ps hl).1

theorem commitApplyInternal_pw {a r r' : Raft} {applied : Nat} {skip : Bool}
    (h : r.commitApplyInternal applied skip = .ok r') (h0 : PW E a r) : PW E a r' := by
  refine (commitApplyInternal_parts (P := PS E a r) h (fun {log} hlog => ⟨?_, rfl⟩)
    (fun hl _ _ _ _ ha p => (appendEntry_lw ha (p.lw hl)).ps hl) fun _ p => ⟨PW.mk' p.1, p.2⟩).1
  obtain ⟨a', hl, _, _⟩ := RaftProps.PDGuards.applyCursor_cases _ _ _ _ hlog
  have hinv1 : log.Inv := by
    rw [hl]
    exact h0.inv.set_cursors r.raftLog.committed r.raftLog.persisted a' h0.inv.dummy_le_committed
      h0.inv.committed_le_last h0.inv.persisted_lt_off h0.inv.persisted_le_store
  exact h0.log ⟨by rw [hl]; rfl, by rw [hl]; rfl, fun _ => hinv1, by rw [hl]; exact Nat.le_refl _⟩

theorem enableGroupCommit_pw {a r r' : Raft} {b : Bool}
    (h : r.enableGroupCommit b = .ok r') (h0 : PW E a r) : PW E a r' :=
  (enableGroupCommit_parts (P := PS E a r) h ⟨h0.prs h0.po, rfl⟩
    (fun hl _ _ _ hc p => (maybeCommit_lw hc (p.lw hl)).ps hl)
    fun hl _ _ hx p => (bcastAppend_lw hx (p.lw hl)).ps hl).1

theorem assignCommitGroups_pw {a r r' : Raft} {ids : List (Nat × Nat)}
    (h : r.assignCommitGroups ids = .ok r') (h0 : PW E a r) : PW E a r' :=
  (assignCommitGroups_parts2 (P := PS E a r) h ⟨h0, rfl⟩
    (fun _ _ p => ⟨PW.prs p.1 fun hs => (p.1.po hs).imp (fun x => x)
      fun c => c.modify _ _ fun pr hp => hp.congr rfl rfl rfl, p.2⟩)
    (fun hl _ _ _ hc p => (maybeCommit_lw hc (p.lw hl)).ps hl)
    fun hl _ _ hx p => (bcastAppend_lw hx (p.lw hl)).ps hl).1

theorem ping_pw {a r r' : Raft} (h : r.ping = .ok r') (h0 : PW E a r) : PW E a r' :=
  ping_parts h h0 fun hb hl => (bcastHeartbeat_lw hb ⟨h0, hl⟩).1

theorem adjustMaxInflightMsgs_pw {a r r' : Raft} {t c : Nat}
    (h : r.adjustMaxInflightMsgs t c = .ok r') (h0 : PW E a r) : PW E a r' := by
  unfold Raft.adjustMaxInflightMsgs at h
  split at h
  · cases h; exact h0
  · rename_i pr hg
    split at h
    · cases h
      refine h0.prs (fun hs => ?_)
      rcases h0.po hs with d | d
      · exact .inl d
      · exact .inr (d.set _ ((d.get hg).congr rfl rfl rfl))
    · cases h

theorem maybeFreeInflightBuffers_pw {a r : Raft} (h0 : PW E a r) :
    PW E a r.maybeFreeInflightBuffers := by
  unfold Raft.maybeFreeInflightBuffers Raft.mapProgress
  exact h0.prs (fun hs => (h0.po hs).imp (fun x => x)
    (fun c => c.map (fun _ pr => { pr with ins := pr.ins.maybeFreeBuffer })
      (fun id pr hp => hp.congr rfl rfl rfl)))

theorem clearCommitGroup_pw {a r : Raft} (h0 : PW E a r) : PW E a r.clearCommitGroup := by
  unfold Raft.clearCommitGroup Raft.mapProgress
  exact h0.prs (fun hs => (h0.po hs).imp (fun x => x)
    (fun c => c.map (fun _ pr => { pr with commitGroupId := 0 })
      (fun id pr hp => hp.congr rfl rfl rfl)))

end PerCall
end Raft
end RaftModel
