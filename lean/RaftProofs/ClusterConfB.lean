import RaftProofs.ClusterConfA

/-!
C09 at the cluster level, helper lemmas part B: the tracker view `prs.toCC` through the vote arm,
through `restore` (the only function besides `apply_conf_change` that replaces it: then it is
`confchange::restore` of the snapshot's `ConfState` on the empty tracker), and then through every call
that goes through `Raft::step` or `tick`: `Run.tcs`, by induction on what a call goes through
(`RaftProofs.CallRun`); then through every `NodeOp` (`call_conf`) and after `RawNode::new` (`boot_conf`).
-/
namespace RaftModel
namespace Raft
open Node

/-- the tracker view of `r` is `confchange::restore` of `cs` from the empty tracker -/
def ConfRestored (cs : ConfState) (r : Raft) : Prop :=
  RaftModel.restore Tracker.empty cs = .ok r.prs.toCC

/-- what one `step m` may do to the tracker view: nothing, or — for a `MsgSnapshot` — replace it by
the restored `ConfState` of the snapshot -/
def TCS (a : Raft) (m : Message) (r : Raft) : Prop :=
  TC a r ∨ (m.msgType = .msgSnapshot ∧ ConfRestored m.snapshot.metadata.confState r)

theorem ConfRestored.of_tc {cs : ConfState} {r r' : Raft} (h : ConfRestored cs r) (h1 : TC r r') :
    ConfRestored cs r' := by
  unfold ConfRestored at *; unfold TC at h1; rw [h1]; exact h

theorem TCS.trans {a r r' : Raft} {m : Message} (h : TCS a m r) (h1 : TCS r m r') :
    TCS a m r' := by
  rcases h1 with h1 | h1
  · rcases h with h | ⟨hm, h⟩
    · exact .inl (h.trans h1)
    · exact .inr ⟨hm, h.of_tc h1⟩
  · exact .inr h1

theorem TCS.tc {a r r' : Raft} {m : Message} (h : TCS a m r) (h1 : TC r r') : TCS a m r' :=
  h.trans (.inl h1)

theorem stepVote_tc {a r r' : Raft} {m : Message}
    (h : r.stepVote m = .ok r') (h0 : TC a r) : TC a r' :=
  stepVote_parts h (fun hs _ => send_tc hs h0) TC.mk' maybeCommitByVote_tc

theorem clear_toCC (t : ProgressTracker) : t.clear.toCC = Tracker.empty := rfl

/-- **`Raft::restore`** (raft.rs:2640): the tracker view is kept (stale / fast-forwarded snapshot, a
non-follower stepping down, a snapshot whose configuration does not contain the node) or it is
`confchange::restore` of the snapshot's `ConfState` on the empty tracker -/
theorem restore_tc {a r r' : Raft} {snap : Snapshot} {b : Bool}
    (h : r.restore snap = .ok (r', b)) (h0 : TC a r) :
    TC a r' ∨ ConfRestored snap.metadata.confState r' := by
  refine restore_parts (P := fun x => TC a x ∨ ConfRestored snap.metadata.confState x) h (.inl h0)
    (fun _ => .inl (becomeFollower_tc _ _ h0))
    (fun _ _ => .inl (TC.mk' h0))
    (fun {l _} _ hprs _ => .inr ?_)
    (fun _ => fun hp => Or.imp (fun g => (postConfChange_tc hp g).1)
      (·.of_tc (postConfChange_tc hp TC.rfl).1))
    (fun _ => Or.imp (TC.set _ _ ∘ TC.mk') (·.of_tc (TC.set _ _ (TC.mk' TC.rfl))))
  have h2 := RaftProps.C09.C09_restore_is_restore r.prs.clear l.lastIndex snap.metadata.confState
  rw [hprs, clear_toCC] at h2
  exact h2.symm

theorem handleSnapshot_tc {a r r' : Raft} {m : Message}
    (h : r.handleSnapshot m = .ok r') (h0 : TC a r) :
    TC a r' ∨ ConfRestored m.snapshot.metadata.confState r' :=
  handleSnapshot_parts (P := fun x => TC a x ∨ ConfRestored m.snapshot.metadata.confState x) h
    (restore_tc · h0) fun hs _ => Or.imp (send_tc hs) (·.of_tc (send_tc hs TC.rfl))

/-- **every call through `Raft::step` or `tick`**: the tracker view is kept, or the message is a
`MsgSnapshot` and the view is the restored `ConfState` of its snapshot -/
theorem Run.tcs {a r : Raft} {m : Message} (h : Run a m r) : TCS a m r := by
  induction h with
  | start => exact .inl TC.rfl
  | plain _ hf ih => exact ih.tc hf.tc
  | follow t l _ _ _ _ ih => exact ih.tc (becomeFollower_tc t l TC.rfl)
  | reject _ _ hs ih => exact ih.tc (send_tc hs TC.rfl)
  | hup _ _ _ _ _ _ hc ih => exact ih.tc (hup_tc hc TC.rfl)
  | vote _ _ _ _ hc ih => exact ih.tc (stepVote_tc hc TC.rfl)
  | poll _ _ _ hp hb ih => exact ih.tc (maybeCommitByVote_tc hb (poll_tc hp TC.rfl))
  | snapshot _ _ hm hc ih => exact ih.trans ((handleSnapshot_tc hc TC.rfl).imp_right (⟨hm, ·⟩))
  | heard _ _ _ ih => exact ih.tc (TC.mk' TC.rfl)
  | abort _ _ ih => exact ih.tc (TC.mk' TC.rfl)
  | transferee _ _ ih => exact ih.tc (TC.mk' TC.rfl)
  | timeoutNow _ _ _ hs ih => exact ih.tc (sendTimeoutNow_tc hs TC.rfl)

/-- a message that is not a `MsgSnapshot` keeps the tracker view -/
theorem Run.tc {a r : Raft} {m : Message} (h : Run a m r) (hm : m.msgType ≠ .msgSnapshot) :
    TC a r :=
  h.tcs.resolve_right fun g => hm g.1

/-! ### every call of a node, and `RawNode::new` -/

/-- what a call does to the tracker view: `apply_conf_change` runs the changer (`C12.step` = run the
changer's method for the change; on success `apply_conf`, on error nothing); a stepped `MsgSnapshot` may
restore the snapshot's `ConfState`; EVERY other call keeps it -/
def CallConf (st st' : NState) : NodeOp → Prop
  | .applyConfChange cc =>
    st'.raft.prs.toCC = RaftProps.C12.step st.raft.prs.toCC (RaftProps.C09.opOf cc)
  | .step m => TCS st.raft m st'.raft
  | .rstep m => TCS st.raft m st'.raft
  | _ => TC st.raft st'.raft

theorem call_conf (st st' : NState) (rnd : Option Nat) (op : NodeOp) (res : OpRes)
    (h : Node.call st rnd op = .ok (res, st')) : CallConf st st' op := by
  cases hs : sideOp op with
  | true =>
    have h1 : TC st.raft st'.raft := congrArg HCore.cc (call_side hs h)
    cases op <;> first | exact h1 | cases hs
  | false =>
    cases applyOp_parts h with
    | confChanged hx | confRefused hx =>
      exact RaftProps.C09.C09_apply_conf_change_step { st.raft with nextRand := rnd } _ _ _ hx
    | step | rstep => exact (call_run rfl h).tcs
    | stabilize | persistSnap | commitApply | compact | drain | triggerSnap | triggerLog => cases hs
    | _ => exact (call_run rfl h).tc (by simp [runTag, CV.mLocal])

/-- **`RawNode::new`**: the tracker view of a freshly built node is `confchange::restore` of the
stored `ConfState` on the empty tracker -/
theorem raftNew_conf (c : Config) (store : MemStorage) (rnd : Option Nat) (r : Raft)
    (h : Raft.new c store rnd = .ok (.ok r)) : ConfRestored store.confState r := by
  obtain ⟨_, log, prs, _, hprs, _, _, rfl⟩ := raftNew_inv h
  have h2 := RaftProps.C09.C09_restore_is_restore (ProgressTracker.new c.maxInflightMsgs)
    log.lastIndex store.confState
  rw [hprs] at h2
  exact ConfRestored.of_tc (r := loadedNode c log rnd prs store.hardState) h2.symm
    (becomeFollower_tc _ _ TC.rfl)

theorem boot_conf (c : Config) (store : MemStorage) (rnd : Option Nat) (st : NState)
    (h : Node.boot c store rnd = .ok (.ok st)) : ConfRestored store.confState st.raft :=
  raftNew_conf c store rnd st.raft (Node.boot_inv h).2.1

/-! ### `step`, `tick` and the term preamble, under their names -/

theorem stepTerm_tc {a r r' : Raft} {m : Message} {b : Bool}
    (h : r.stepTerm m = .ok (r', b)) (h0 : TC a r) : TC a r' :=
  stepTerm_parts h h0 (fun _ _ => becomeFollower_tc _ _) (fun h _ => send_tc h) fun h _ => send_tc h

/-- **`Raft::step`, every role, every message**: the tracker view is kept, or the message is a
`MsgSnapshot` and the view is the restored `ConfState` of its snapshot -/
theorem step_tc {a r r' : Raft} {m : Message} {e : Option RaftError}
    (h : r.step m = .ok (r', e)) (h0 : TC a r) : TCS a m r' :=
  TCS.trans (.inl h0) (step_run r.nextRand h).tcs

/-- a message that is not a `MsgSnapshot` keeps the tracker view -/
theorem step_tc_other {a r r' : Raft} {m : Message} {e : Option RaftError}
    (hm : m.msgType ≠ .msgSnapshot) (h : r.step m = .ok (r', e)) (h0 : TC a r) : TC a r' :=
  h0.trans ((step_run r.nextRand h).tc hm)

theorem stepIgnore_tc {a r r' : Raft} {m : Message} (hm : m.msgType ≠ .msgSnapshot)
    (h : r.stepIgnore m = .ok r') (h0 : TC a r) : TC a r' :=
  stepIgnore_parts h (step_tc_other hm · h0)

theorem tick_tc {a r r' : Raft} {b : Bool} (h : r.tick = .ok (r', b)) (h0 : TC a r) :
    TC a r' :=
  h0.trans ((tick_run (m := CV.mLocal) r.nextRand rfl h).tc (by simp [CV.mLocal]))

end Raft
end RaftModel
