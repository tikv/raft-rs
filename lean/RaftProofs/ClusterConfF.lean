import RaftProofs.ClusterConfE
import RaftProofs.NodeHandlers

/-!
C09 at the cluster level, part F: the campaign guard through EVERY `NodeOp` (`call_cand_routes`,
`call_elected`): a call starts an election only if it is `tick`, `campaign`, or a stepped
`MsgTimeoutNow` (`MsgHup` too for a direct `Raft::step`), and only when `HupGuard` held in the state
the call started from.
-/
namespace RaftModel
namespace Raft
open Node

/-- `apply_conf_change` keeps role and term, or a removed leader steps down -/
theorem applyConfChange_state {r r' : Raft} {cc : ConfChangeV2} {x : Except ErrKind ConfState}
    (h : r.applyConfChange cc = .ok (r', x)) :
    (r'.state = r.state ∧ r'.term = r.term) ∨ r'.state = .follower := by
  unfold Raft.applyConfChange at h
  simp only [] at h
  split at h
  · cases h; exact .inl ⟨rfl, rfl⟩
  · rename_i cfg changes _
    rw [Res.bind_eq_ok_iff] at h
    obtain ⟨⟨r1, cs⟩, hp, h⟩ := h
    cases h
    have := Res.Post.of_eq (CV.postConfChange_cases _) hp
    rcases this with ⟨_, _, e⟩ | e | ⟨r2, hf, e⟩
    · right
      have e' : r1 = _ := e
      rw [e']; rfl
    · left
      have e' : r1 = _ := e
      rw [e']; exact ⟨rfl, rfl⟩
    · left
      have e' : r1 = _ := e
      rw [e']
      have h1 := hf.state
      have h2 := hf.term
      split
      · split
        · exact ⟨h1, h2⟩
        · exact ⟨h1, h2⟩
      · exact ⟨h1, h2⟩

/-- the calls that can start an election -/
def electOp : NodeOp → Prop
  | .tick => True
  | .campaign => True
  | .step m => m.msgType = .msgTimeoutNow
  | .rstep m => m.msgType = .msgHup ∨ m.msgType = .msgTimeoutNow
  | _ => False

/-- the routes into a candidacy, per call -/
def Routes (st st' : NState) (op : NodeOp) : Prop :=
  (HupGuard st.raft ∧ electOp op) ∨
  (st.raft.state = .preCandidate ∧ st'.raft.state = .candidate ∧
    ∃ m, (op = .step m ∨ op = .rstep m) ∧ m.msgType = .msgRequestPreVoteResponse)

/-- **one call of a node, any `NodeOp`: every route into a candidacy.**  If after the call the node is
candidate or pre-candidate and (role, term) changed, then the guard held before the call and the call
is `tick`, `campaign` or a stepped `MsgTimeoutNow` (`MsgHup` for a direct `Raft::step`) — or the node
was a pre-candidate, is now candidate, and the call stepped a `MsgRequestPreVoteResponse` (it won its
pre-vote: `campaign_after_pre_vote`, which raft-rs does not guard again) -/
theorem call_cand_routes (st st' : NState) (rnd : Option Nat) (op : NodeOp) (res : OpRes)
    (h : Node.call st rnd op = .ok (res, st')) (hel : Elected0 st.raft st'.raft) :
    Routes st st' op := by
  have same : st'.raft.state = st.raft.state ∧ st'.raft.term = st.raft.term → Routes st st' op :=
    fun hx => absurd hel (ne0_same hx.1 hx.2)
  cases hs : sideOp op with
  | true =>
    have hc := call_side hs h
    exact same ⟨congrArg HCore.state hc, congrArg HCore.term hc⟩
  | false =>
    by_cases hp : plainOp op = true
    · have hc := (call_plain hp h).core
      exact same ⟨congrArg HCore.state hc, congrArg HCore.term hc⟩
    cases applyOp_parts h with
    | confChanged hx | confRefused hx =>
      rcases applyConfChange_state hx with g | g
      · exact same g
      · exact absurd hel (ne0_follower g)
    | step hx =>
      rcases RawNode.step_inv hx with rfl | ⟨hloc, hx⟩
      · exact same ⟨rfl, rfl⟩
      · rcases (step_run rnd hx).routes hel with ⟨g, hm⟩ | ⟨g1, g2, g3⟩
        · refine .inl ⟨g, hm.resolve_left fun hm => ?_⟩
          rw [hm] at hloc; exact hloc rfl
        · exact .inr ⟨g1, g2, _, .inl rfl, g3⟩
    | rstep hx =>
      exact ((step_run rnd hx).routes hel).imp (fun g => g) fun g => ⟨g.1, g.2.1, _, .inr rfl, g.2.2⟩
    | tick | campaign => exact .inl ⟨(((call_run rfl h).routes hel).resolve_right nofun).1, trivial⟩
    | stabilize | persistSnap | commitApply | compact | drain | triggerSnap | triggerLog => cases hs
    | propose | proposeCc | readIndex | transferLeader | reportUnreachable | reportSnapshot =>
      rcases (call_run rfl h).routes hel with ⟨_, hm⟩ | ⟨_, _, hm⟩
      · rcases hm with hm | hm <;> cases hm
      · cases hm
    | _ => exact absurd rfl hp

/-- **one call of a node, any `NodeOp`**: if it starts an election, the guard held before the call,
and the call is `tick` (election timeout), `campaign`, or a stepped `MsgTimeoutNow` (transfer) —
for a direct `Raft::step` also a `MsgHup` -/
theorem call_elected (st st' : NState) (rnd : Option Nat) (op : NodeOp) (res : OpRes)
    (h : Node.call st rnd op = .ok (res, st')) (hel : Elected st.raft st'.raft) :
    HupGuard st.raft ∧ electOp op := by
  rcases call_cand_routes st st' rnd op res h hel.zero with g | ⟨a, b, _⟩
  · exact g
  · exact absurd ⟨a, b⟩ hel.2.2

/-- a freshly booted node is a follower -/
theorem boot_not_elected {c : Config} {store : MemStorage} {rnd : Option Nat} {st' : NState}
    (a : Raft) (h : Node.boot c store rnd = .ok (.ok st')) : ¬ Elected a st'.raft :=
  not_elected_follower (CV.boot_booted c store rnd st' h).state

end Raft
end RaftModel
