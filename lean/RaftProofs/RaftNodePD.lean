import RaftProps.C14b
import RaftProps.C05b
import RaftProps.C13b
import RaftProofs.RaftNodeC04
import RaftProofs.RaftNodeC05
import RaftProofs.RaftNodeC09

/-!
Helper lemmas for `RaftProps/PDGuards.lean`: the scan of `has_unapplied_conf_changes` against the
logical log, and what `maybe_send_append` / `bcast_append` do to the queue of `MsgAppend`s.
-/
namespace RaftModel

namespace Raft
open RaftProps.C14

/-- **the scan of `has_unapplied_conf_changes` against the logical log**: for a log satisfying the
representation invariant, a range `[lo, hi)` inside the log and enough fuel (one page holds at least
one entry), `scan` never fails, and it answers `true` exactly when some entry with index in
`[lo, hi)` is a membership-change entry -/
theorem scanConf_spec (l : RaftLog) (hinv : l.Inv) (hi page : Nat) (hhi : hi ≤ l.lastIndex + 1) :
    ∀ fuel lo, l.firstIndex ≤ lo → hi - lo < fuel →
      ∃ b, scanConf l hi page fuel lo = .ok b ∧
        (b = true ↔ ∃ i e, lo ≤ i ∧ i < hi ∧ l.abs.entryAt i = some e ∧ isConfEntry e = true) := by
  intro fuel
  induction fuel with
  | zero => intro lo _ h; omega
  | succ fuel ih =>
    intro lo hlo hfuel
    unfold scanConf
    by_cases hlt : lo < hi
    · rw [if_pos hlt, slice_ok hinv lo hi (some page) false (by simp) hlo (by omega) hhi]
      obtain ⟨hcon, hlen⟩ := range_contig hinv lo hi hlo (by omega) hhi
      obtain ⟨⟨k, hk⟩, hnon, _⟩ := RaftModel.limitSize_spec (l.abs.range lo hi) (some page)
      have hne : l.abs.range lo hi ≠ [] := by
        intro hn; rw [hn] at hlen; simp at hlen; omega
      have hfa : l.abs.firstIndex ≤ lo := by rw [← hinv.firstIndex_abs]; exact hlo
      generalize hE : limitSize (l.abs.range lo hi) (some page) = E at hk hnon
      have hEn : E.length ≤ hi - lo := by
        rw [hk, List.length_take]; omega
      have hEj : ∀ j, j < E.length → E[j]? = l.abs.entryAt (lo + j) := by
        intro j hj
        rw [hk, List.getElem?_take, if_pos (by rw [hk, List.length_take] at hj; omega)]
        exact (l.abs.range_getElem? hi j hfa).trans (if_pos (by omega))
      cases E with
      | nil => exact absurd rfl (hnon hne)
      | cons e0 rest =>
        simp only []
        by_cases hany : (e0 :: rest).any isConfEntry = true
        · rw [if_pos hany]
          refine ⟨true, rfl, ?_⟩
          simp only [true_iff]
          obtain ⟨x, hx, hxc⟩ := List.any_eq_true.1 hany
          obtain ⟨j, hj, hjx⟩ := List.getElem_of_mem hx
          refine ⟨lo + j, x, by omega, by omega, ?_, hxc⟩
          rw [← hEj j hj, List.getElem?_eq_some_iff]
          exact ⟨hj, hjx⟩
        · rw [if_neg hany]
          have hpos : 0 < (e0 :: rest).length := by simp
          obtain ⟨b, hb, hiff⟩ := ih (lo + (e0 :: rest).length) (by omega) (by omega)
          refine ⟨b, hb, hiff.trans ⟨?_, ?_⟩⟩
          · rintro ⟨i, e, h1, h2, h3, h4⟩
            exact ⟨i, e, by omega, h2, h3, h4⟩
          · rintro ⟨i, e, h1, h2, h3, h4⟩
            by_cases hin : i < lo + (e0 :: rest).length
            · exfalso
              apply hany
              have := hEj (i - lo) (by omega)
              rw [show lo + (i - lo) = i by omega, h3] at this
              exact List.any_eq_true.2 ⟨e, List.mem_of_getElem? this, h4⟩
            · exact ⟨i, e, by omega, h2, h3, h4⟩
    · rw [if_neg hlt]
      refine ⟨false, rfl, ?_⟩
      simp only [Bool.false_eq_true, false_iff]
      rintro ⟨i, _, h1, h2, _⟩
      omega


/-! ### the queue of `MsgAppend`s -/

theorem sendFill_commit (r : Raft) (m : Message) : (r.sendFill m).commit = m.commit := by
  simp only [Raft.sendFill, apply_ite Message.commit, ite_self]

/-- anchored: `r` has the commit index of `a`, and every `MsgAppend` in `r`'s queue either was
already in `a`'s queue or carries `a`'s commit index -/
def AQ (a r : Raft) : Prop :=
  r.raftLog.committed = a.raftLog.committed ∧
  ∀ m ∈ r.msgs, m.msgType = .msgAppend → m ∈ a.msgs ∨ m.commit = a.raftLog.committed

theorem AQ.rfl {r : Raft} : AQ r r := ⟨Eq.refl _, fun _ hm _ => .inl hm⟩

/-- one step: the commit index is kept and every queued `MsgAppend` is old or carries it -/
theorem AQ.step {a r r' : Raft} (h0 : AQ a r) (hc : r'.raftLog.committed = r.raftLog.committed)
    (hm : ∀ m ∈ r'.msgs, m.msgType = .msgAppend → m ∈ r.msgs ∨ m.commit = r.raftLog.committed) :
    AQ a r' := by
  refine ⟨hc.trans h0.1, fun m hmem hty => ?_⟩
  rcases hm m hmem hty with h | h
  · exact h0.2 m h hty
  · exact .inr (h.trans h0.1)

/-- any structure update that keeps `raftLog` and `msgs` keeps `AQ` -/
theorem AQ.mk' {a r : Raft} {x1 x2 x3 : Nat} {x4 : List ReadState} {x6 x7 x8 : Nat}
    {x9 : StateRole} {x10 : Bool} {x11 : Nat}
    {x12 : Option Nat} {x13 : Nat} {x14 : ReadOnly} {x15 x16 : Nat} {x17 x18 x19 x20 x21 : Bool}
    {x22 x23 x24 x25 x26 : Nat} {x27 : Int} {x28 : UncommittedState} {x29 : Nat}
    {x30 : ProgressTracker} {x32 : Option Nat} (h0 : AQ a r) :
    AQ a { term := x1, vote := x2, id := x3, readStates := x4, raftLog := r.raftLog,
           maxInflight := x6, maxMsgSize := x7, pendingRequestSnapshot := x8, state := x9,
           promotable := x10, leaderId := x11, leadTransferee := x12,
           pendingConfIndex := x13, readOnly := x14, electionElapsed := x15,
           heartbeatElapsed := x16, checkQuorum := x17, preVote := x18,
           skipBcastCommit := x19, batchAppend := x20, disableProposalForwarding := x21,
           heartbeatTimeout := x22, electionTimeout := x23, randomizedElectionTimeout := x24,
           minElectionTimeout := x25, maxElectionTimeout := x26, priority := x27,
           uncommittedState := x28, maxCommittedSizePerReady := x29, prs := x30, msgs := r.msgs,
           nextRand := x32 } := h0

/-- `prepare_send_snapshot` does not touch the queue -/
theorem prepareSendSnapshot_msgs {r r1 : Raft} {m m1 : Message} {pr pr1 : Progress} {to : Nat}
    {b : Bool} (h : r.prepareSendSnapshot m pr to = .ok (r1, m1, pr1, b)) :
    r1.msgs = r.msgs ∧ (b = true → m1.msgType = .msgSnapshot) := by
  unfold Raft.prepareSendSnapshot at h
  split at h
  · cases h; exact ⟨rfl, fun hb => nomatch hb⟩
  · simp only [] at h
    split at h
    · cases h; exact ⟨rfl, fun hb => nomatch hb⟩
    · cases h
    · cases h
    · split at h
      · cases h
      · cases h; exact ⟨rfl, fun _ => rfl⟩

/-- the snapshot path of `maybe_send_append` queues at most a `MsgSnapshot` -/
theorem viaSnapshot_msgs {r r' : Raft} {to : Nat} {pr pr' : Progress} {sent : Bool}
    (h : RaftProps.C13.viaSnapshot r to pr = .ok (r', pr', sent)) :
    r'.msgs = r.msgs ∨ ∃ msg, r'.msgs = r.msgs ++ [msg] ∧ msg.msgType = .msgSnapshot := by
  unfold RaftProps.C13.viaSnapshot at h
  split at h
  · rename_i r1 m1 pr1 heq
    obtain ⟨h1, h2⟩ := prepareSendSnapshot_msgs heq
    rw [Res.bind_eq_ok_iff] at h
    obtain ⟨r2, hs, h4⟩ := h
    cases h4
    rw [send_eq _ _ _ hs]
    exact .inr ⟨_, by rw [← h1], (sendFill_to_type r1 m1).2.trans (h2 rfl)⟩
  · rename_i r1 m1 pr1 heq
    cases h
    exact .inl (prepareSendSnapshot_msgs heq).1
  · cases h
  · cases h

/-- **`maybe_send_append`**: the commit index is kept, and every `MsgAppend` in the queue afterwards
is one that was queued before, or carries the commit index — the freshly queued one
(`prepare_send_entries`, with or without entries) and the one `try_batching` extended alike -/
theorem maybeSendAppend_aq {a r r' : Raft} {to : Nat} {pr pr' : Progress} {ae b : Bool}
    (h : r.maybeSendAppend to pr ae = .ok (r', pr', b)) (h0 : AQ a r) : AQ a r' := by
  have hc : r'.raftLog.committed = r.raftLog.committed :=
    (maybeSendAppend_cp (P := fun x => x = r.raftLog.committed) h ⟨rfl⟩).h
  refine h0.step hc ?_
  rcases RaftProps.C13.C13_send_classification r r' to pr pr' ae b h with
    ⟨_, he, _⟩ | ⟨_, _, _, t, es, _, _, _, _, _, hcase⟩ | ⟨_, _, he, _⟩ | ⟨_, _, hv⟩
  · rw [he]; exact fun m hm _ => .inl hm
  · rcases hcase with ⟨_, htb⟩ | ⟨_, he⟩
    · obtain ⟨pre, msg, post, h1, _, _, _, h2, _⟩ :=
        (RaftProps.C13.C13_batching r r' to pr pr' es true htb).2.1 rfl
      intro m hm _
      rw [h2] at hm
      rw [h1]
      rcases List.mem_append.1 hm with hm | hm
      · exact .inl (List.mem_append_left _ hm)
      · rcases List.mem_cons.1 hm with hm | hm
        · right; rw [hm]; rfl
        · exact .inl (List.mem_append_right _ (List.mem_cons_of_mem _ hm))
    · intro m hm _
      rw [he] at hm
      rcases List.mem_append.1 hm with hm | hm
      · exact .inl hm
      · right
        rw [List.mem_singleton.1 hm]; rfl
  · rw [he]; exact fun m hm _ => .inl hm
  · rcases viaSnapshot_msgs hv with he | ⟨msg, he, hty⟩
    · rw [he]; exact fun m hm _ => .inl hm
    · intro m hm hm2
      rw [he] at hm
      rcases List.mem_append.1 hm with hm | hm
      · exact .inl hm
      · rw [List.mem_singleton.1 hm, hty] at hm2; cases hm2

theorem sendAppendPr_aq {a r r' : Raft} {to : Nat} {pr pr' : Progress}
    (h : r.sendAppendPr to pr = .ok (r', pr')) (h0 : AQ a r) : AQ a r' :=
  sendAppendPr_parts h (maybeSendAppend_aq · h0)

theorem sendAppend_aq {a r r' : Raft} {to : Nat}
    (h : r.sendAppend to = .ok r') (h0 : AQ a r) : AQ a r' :=
  sendAppend_parts h (sendAppendPr_aq · h0) fun _ => AQ.mk'

theorem sendAppendAggressively_aq {a r r' : Raft} {to : Nat}
    (h : r.sendAppendAggressively to = .ok r') (h0 : AQ a r) : AQ a r' :=
  sendAppendAggressively_parts h (sendAppendAggressivelyPr_parts maybeSendAppend_aq _ _ _ · h0)
    fun _ => AQ.mk'

/-- **`bcast_append`**: every `MsgAppend` queued (or extended) by the broadcast carries the commit
index the leader has at that moment -/
theorem bcastAppend_aq {a r r' : Raft} (h : r.bcastAppend = .ok r') (h0 : AQ a r) : AQ a r' :=
  bcastAppend_parts h h0 sendAppendPr_aq fun _ _ => AQ.mk'

/-! ### entry points other than `step` on a leader: the logical log is not touched -/

/-- `apply_conf_change` (raft.rs:2834) keeps the logical log -/
theorem applyConfChange_ls {a r r' : Raft} {cc : ConfChangeV2} {res : Except ErrKind ConfState}
    (h : r.applyConfChange cc = .ok (r', res)) (h0 : LS a r) : LS a r' :=
  applyConfChange_parts h h0 (fun _ => LS.mk') postConfChange_ls

/-- `ping` (raft.rs:915) keeps the logical log -/
theorem ping_ls {a r r' : Raft} (h : r.ping = .ok r') (h0 : LS a r) : LS a r' :=
  ping_parts h h0 fun hb _ => bcastHeartbeat_ls hb h0

theorem ping_cf {a r r' : Raft} (h : r.ping = .ok r') (h0 : CF a r) : CF a r' :=
  ping_parts h h0 fun hb _ => bcastHeartbeat_cf hb h0

/-- `on_persist_entries` (raft.rs:1060) keeps the logical log, `pending_conf_index` and the apply
cursor: it moves `persisted`, and on a leader possibly the commit index -/
theorem onPersistEntries_abs {r r' : Raft} {index term : Nat}
    (h : r.onPersistEntries index term = .ok r') :
    r'.raftLog.abs = r.raftLog.abs ∧ r'.raftLog.lastIndex = r.raftLog.lastIndex ∧
    r'.pendingConfIndex = r.pendingConfIndex ∧ r'.raftLog.applied = r.raftLog.applied := by
  -- a step that keeps `LS` and `CF` keeps the four equations
  have step : ∀ {r1 r2 : Raft}, LS r1 r2 → CF r1 r2 →
      (r1.raftLog.abs = r.raftLog.abs ∧ r1.raftLog.lastIndex = r.raftLog.lastIndex ∧
        r1.pendingConfIndex = r.pendingConfIndex ∧ r1.raftLog.applied = r.raftLog.applied) →
      r2.raftLog.abs = r.raftLog.abs ∧ r2.raftLog.lastIndex = r.raftLog.lastIndex ∧
        r2.pendingConfIndex = r.pendingConfIndex ∧ r2.raftLog.applied = r.raftLog.applied :=
    fun hl hc p => ⟨hl.abs.trans p.1, hl.last.trans p.2.1, hc.1.trans p.2.2.1, hc.2.trans p.2.2.2⟩
  refine onPersistEntries_parts h (fun hp => ?_) (fun _ p => p)
    (fun _ => fun hc => step (maybeCommit_ls hc LS.rfl) (maybeCommit_cf hc CF.rfl))
    (fun _ => fun hb => step (bcastAppend_ls hb LS.rfl) (bcastAppend_cf hb CF.rfl))
  -- `maybe_persist` at most moves `persisted`
  rename_i l b
  have hshape : l = r.raftLog ∨ l = { r.raftLog with persisted := index } := by
    unfold RaftLog.maybePersist at hp
    simp only [] at hp
    repeat' (split at hp)
    all_goals first
      | (injection hp with hp; injection hp with hp _; subst hp; exact .inl rfl)
      | (injection hp with hp; injection hp with hp _; subst hp; exact .inr rfl)
      | (exfalso; cases hp)
  rcases hshape with e | e <;> rw [e] <;> exact ⟨rfl, rfl, rfl, rfl⟩

/-- `on_persist_snap` (raft.rs:1089) only moves `persisted` -/
theorem onPersistSnap_abs {r r' : Raft} {index : Nat} (h : r.onPersistSnap index = .ok r') :
    r'.raftLog.abs = r.raftLog.abs ∧ r'.raftLog.lastIndex = r.raftLog.lastIndex ∧
    r'.pendingConfIndex = r.pendingConfIndex ∧ r'.raftLog.applied = r.raftLog.applied := by
  unfold Raft.onPersistSnap at h
  split at h
  · rename_i log b hmp
    cases h
    unfold RaftLog.maybePersistSnap at hmp
    split at hmp
    · split at hmp
      · cases hmp
      · split at hmp
        · cases hmp
        · cases hmp; exact ⟨rfl, rfl, rfl, rfl⟩
    · cases hmp; exact ⟨rfl, rfl, rfl, rfl⟩
  · cases h
  · cases h

/-- `step` on a message type that cannot change the log keeps the logical log (anchored) -/
theorem stepIgnore_quiet_ls {a r r' : Raft} {m : Message} (hinv : a.raftLog.Inv)
    (hm : RaftProps.C05.logChanging m.msgType = false) (h : r.stepIgnore m = .ok r')
    (h0 : LS a r) : LS a r' := by
  obtain ⟨e, hs⟩ := stepIgnore_inv h
  refine h0.trans ?_
  rcases step_log (h0.inv hinv) hs with c | ⟨c, _⟩ | ⟨c, _⟩ | ⟨c, _⟩ | ⟨c, _⟩
  · exact c
  · rw [c] at hm; cases hm
  · rcases c with c | c | c | c <;> rw [c] at hm <;> cases hm
  · rw [c] at hm; cases hm
  · rw [c] at hm; cases hm

/-- `tick` on a leader (`tick_heartbeat`, raft.rs:1121: `MsgCheckQuorum`, `MsgBeat`) keeps the
logical log -/
theorem tick_leader_ls {r r' : Raft} {b : Bool} (hinv : r.raftLog.Inv) (hs : r.state = .leader)
    (h : r.tick = .ok (r', b)) : LS r r' := by
  unfold Raft.tick at h
  rw [hs] at h
  exact tickHeartbeat_parts h (fun _ _ => LS.mk') LS.rfl
    (fun hx hm _ _ => stepIgnore_quiet_ls hinv (by rw [hm]; rfl) hx)
    (fun hx hm _ _ => stepIgnore_quiet_ls hinv (by rw [hm]; rfl) hx) LS.mk'

end Raft
end RaftModel
