import RaftProofs.ClusterCommitBatchStep

/-!
Cluster-level commit safety **with `batch_append`**: the vocabulary of the batching world (it has its own commit
events `Ev`), and its first facts under `M.Hyp2wB`.

* holding an entry (`Has`), what one step does to the log of one node (`NodeStep`; `M.node_step`:
  `Snap5.Facts0.node_step` without its compaction and snapshot cases);
* commit events bundled (`CommitEv`, `Ev`), and the vocabulary of the main induction: a node has acknowledged an
  event (`AckedMem`, `AckedDur`), a vote request is at least `(t, c)` (`UpTo`), a term was led (`LedBy`), a granted
  real vote (`isGrant`);
* facts about commit events (`Ev.facts_of`, `M.Ev.facts`) and about the logs of the leader of one term at different
  times (`M.logs_eq_below`, `M.leader_logs_eq`).
-/

namespace RaftModel
namespace ClusterB
section
open Node Raft Raft.CC Raft.CB Raft.Bt Cluster RaftProps.C02 RaftProps.C05

variable {cfg : JointConfig} {c0 : Nat} {h : List Sys}

/-- `g` holds an entry of term `t` at index `c` -/
def Has (g : LLog) (c t : Nat) : Prop := ∃ e, g.entryAt c = some e ∧ e.term = t

/-- what one step does to one node -/
inductive NodeStep (a : Sys) (v : Nat) (sta stb : NState) : Prop
  /-- the logical log is untouched (another node stepped, a `send`, or a call that keeps the log) -/
  | same (hl : stb.raft.raftLog.abs = sta.raft.raftLog.abs)
  /-- a leader appended entries of its term -/
  | grew (es : List Entry) (hg : Appended sta.raft stb.raft es)
  /-- a `MsgAppend` of the transport was accepted -/
  | acc (m : Message) (hm : m ∈ a.net) (hty : m.msgType = .msgAppend) (hto : m.to = v)
      (ha : Accepted sta.raft.raftLog.abs stb.raft.raftLog.abs m)
      (hc : stb.raft.raftLog.committed =
        max sta.raft.raftLog.committed (min m.commit (m.index + m.entries.length)))
      (hci : sta.raft.raftLog.committed ≤ m.index)
      (hs : stb.raft.state = .follower) (ht : m.term = stb.raft.term ∨ m.term = 0)
  /-- crash and restart: the log is the stored one -/
  | restart (hl : stb.raft.raftLog.abs = storeLog sta.raft.raftLog.store)
      (hs : stb.raft.state = .follower)
      (ht : stb.raft.term = sta.raft.raftLog.store.hardState.term)
end

namespace M
open Node Raft Raft.CC Raft.CB Raft.Bt
open Cluster hiding At Prov InvL Trans EntriesOf SaneAnchors
open Cluster.M
open RaftProps.C02
open RaftProps.C05
variable {cfg : JointConfig} {c0 : Nat} {h : List Sys}

theorem node_step (H : Hyp2wB cfg c0 h) {n : Nat} {a b : Sys} (ha : h[n]? = some a)
    (hb : h[n + 1]? = some b) {v : Nat} {sta stb : NState} (hva : a.node v = some sta)
    (hvb : b.node v = some stb) : NodeStep a v sta stb := by
  cases H.facts0.node_step ha hb hva hvb with
  | same hl => exact .same hl
  | grew es hg => exact .grew es hg
  | acc m hm hty hto ha' hc hci hs ht => exact .acc m hm hty hto ha' hc hci hs ht
  | restart hl hs ht => exact .restart hl hs ht
  | compacted j ho =>
    exact .same (compactTo_noop ho.abs
      ((node_okB H hb hvb).snapIdx.trans (node_okB H ha hva).snapIdx.symm))
  | restored m hm hty _ _ _ _ _ _ _ => exact absurd hty (H.nosnap a (mem_of_get ha) m hm)

end M
end ClusterB
end RaftModel

namespace RaftModel
namespace ClusterB
open Node Raft Raft.CC Raft.CB Raft.Bt Cluster RaftProps.C02 RaftProps.C05

/-- **a commit event**: the step `h[nE] → h[nE + 1]` takes the commit index of node `l`, leader of
term `t` after the step, up to `c`; `gE` is its logical log and `pE` its `persisted` after the step -/
def CommitEv (h : List Sys) (nE l t c : Nat) (gE : LLog) (pE : Nat) : Prop :=
  ∃ a b sta stb, h[nE]? = some a ∧ h[nE + 1]? = some b ∧ a.node l = some sta ∧
    b.node l = some stb ∧ stb.raft.state = .leader ∧ stb.raft.term = t ∧
    sta.raft.raftLog.committed < stb.raft.raftLog.committed ∧ c = stb.raft.raftLog.committed ∧
    gE = stb.raft.raftLog.abs ∧ pE = stb.raft.raftLog.persisted

/-- a commit event, bundled -/
structure Ev where
  nE : Nat
  l : Nat
  t : Nat
  c : Nat
  gE : LLog
  pE : Nat

def Ev.ok (h : List Sys) (E : Ev) : Prop := CommitEv h E.nE E.l E.t E.c E.gE E.pE

/-- node `v` (state `st` in `s = h[n]`) has acknowledged the event's index for the event's term — the
response is in the transport or still queued —, or is the committing leader itself, after the event,
with the index persisted -/
def AckedMem (s : Sys) (n : Nat) (E : Ev) (v : Nat) (st : NState) : Prop :=
  (∃ a, (a ∈ s.net ∨ a ∈ st.raft.msgs) ∧ isAck a ∧ a.frm = v ∧ a.term = E.t ∧ E.c ≤ a.index) ∨
  (v = E.l ∧ E.nE < n ∧ E.c ≤ E.pE)

/-- … durably: the response is in the transport -/
def AckedDur (s : Sys) (n : Nat) (E : Ev) (v : Nat) : Prop :=
  (∃ a, a ∈ s.net ∧ isAck a ∧ a.frm = v ∧ a.term = E.t ∧ E.c ≤ a.index) ∨
  (v = E.l ∧ E.nE < n ∧ E.c ≤ E.pE)

/-- the request's `(log_term, index)` is at least `(t, c)` -/
def UpTo (q : Message) (c t : Nat) : Prop := t < q.logTerm ∨ (q.logTerm = t ∧ c ≤ q.index)

/-- some node leads term `T` in a state `h[m']`, `m' ≤ m` -/
def LedBy (h : List Sys) (m T : Nat) : Prop := ∃ m' s l, m' ≤ m ∧ h[m']? = some s ∧ leads s l T

/-- a granted real vote -/
def isGrant (g : Message) : Prop := g.msgType = .msgRequestVoteResponse ∧ g.reject = false

end ClusterB
end RaftModel

namespace RaftModel
namespace ClusterB
section
open Node Raft Raft.CC Raft.CB Raft.Bt Cluster RaftProps.C02 RaftProps.C05
variable {cfg : JointConfig} {c0 : Nat} {h : List Sys}

/-- what a commit event gives: the committing leader's state after the step — in any history of `KStep`s
whose transport never holds a `MsgSnapshot` and whose nodes have the shape `NodeOkB` -/
theorem Ev.facts_of (hist : History h) (hfix : ∀ s ∈ h, FixedCfg cfg s)
    (hsteps : ∀ (n : Nat) (a b : Sys), h[n]? = some a → h[n + 1]? = some b → KStep a b)
    (hnosnap : ∀ s ∈ h, NoSnapNet s)
    (hok : ∀ {n : Nat} {s : Sys} {i : Nat} {st : NState}, h[n]? = some s → s.node i = some st →
      NodeOkB c0 i st) {E : Ev} (hE : E.ok h) :
    ∃ a b sta stb, h[E.nE]? = some a ∧ h[E.nE + 1]? = some b ∧ a.node E.l = some sta ∧
      b.node E.l = some stb ∧ stb.raft.state = .leader ∧ stb.raft.term = E.t ∧
      E.c = stb.raft.raftLog.committed ∧ E.gE = stb.raft.raftLog.abs ∧
      E.pE = stb.raft.raftLog.persisted ∧ sta.raft.raftLog.committed < E.c ∧ c0 < E.c ∧
      Has E.gE E.c E.t ∧
      ∃ Q, IsJointQuorum cfg Q ∧ ∀ j ∈ Q, (j = E.l ∧ E.c ≤ E.pE) ∨ Anet a.net j E.t E.c := by
  obtain ⟨a, b, sta, stb, ha, hb, hla, hlb, hs, ht, hc, e1, e2, e3⟩ := hE
  obtain ⟨hterm, Q, hQ, hq⟩ :=
    commit_step hist hfix hsteps hnosnap E.nE a b ha hb E.l sta stb hla hlb hs hc
  have oa := hok ha hla
  have ob := hok hb hlb
  have hc0 : c0 < E.c := by
    have := oa.inv.dummy_le_committed
    rw [oa.inv.firstIndex_abs] at this
    simp only [LLog.firstIndex] at this
    rw [oa.snapIdx] at this
    omega
  refine ⟨a, b, sta, stb, ha, hb, hla, hlb, hs, ht, e1, e2, e3, by rw [e1]; exact hc, hc0, ?_,
    Q, hQ, fun j hj => ?_⟩
  · -- the entry at the new commit index carries the leader's term
    rw [ob.inv.term_abs] at hterm
    have hle := ob.inv.committed_le_last
    rw [ob.inv.lastIndex_abs] at hle
    obtain ⟨e, he⟩ := stb.raft.raftLog.abs.entryAt_exists (i := stb.raft.raftLog.committed)
      (by rw [ob.snapIdx, ← e1]; exact hc0) hle
    rw [stb.raft.raftLog.abs.term_of_entry he] at hterm
    rw [e2, e1]
    exact ⟨e, he, by injection hterm with hterm; rw [hterm, ht]⟩
  · rw [e1, e3, ← ht]; exact hq j hj
end

namespace M
open Node Raft Raft.CC Raft.CB Raft.Bt
open Cluster hiding At Prov InvL Trans EntriesOf SaneAnchors
open Cluster.M
open RaftProps.C02
open RaftProps.C05
variable {cfg : JointConfig} {c0 : Nat} {h : List Sys}

/-- a log of the history: the logical log of node `i` in `h[n]` -/
theorem at_log {s : Sys} {i : Nat} {st : NState} (hi : s.node i = some st) :
    At s (.log i) st.raft.raftLog.abs := ⟨st, hi, rfl⟩

/-- two logs of the history that hold entries of the same term at `q` are equal up to `q` -/
theorem logs_eq_below (H : Hyp2wB cfg c0 h) {n n' : Nat} {s s' : Sys} (hn : h[n]? = some s)
    (hn' : h[n']? = some s') {i j : Nat} {st st' : NState} (hi : s.node i = some st)
    (hj : s'.node j = some st') {q : Nat} {e1 e2 : Entry}
    (h1 : st.raft.raftLog.abs.entryAt q = some e1) (h2 : st'.raft.raftLog.abs.entryAt q = some e2)
    (ht : e1.term = e2.term) :
    ∀ k, k ≤ q → st.raft.raftLog.abs.entryAt k = st'.raft.raftLog.abs.entryAt k :=
  eq_below (agree_all H n n' s s' hn hn' _ _ _ _ (at_log hi) (at_log hj))
    ((node_okB H hn hi).snapIdx.trans (node_okB H hn' hj).snapIdx.symm) h1 h2 ht

/-- the logs of the leader of term `t` at two points of the history hold the same entry at every
index both reach -/
theorem leader_logs_eq (H : Hyp2wB cfg c0 h) {n n' : Nat} {s s' : Sys} (hn : h[n]? = some s)
    (hn' : h[n']? = some s') {l l' t : Nat} {st st' : NState} (hk : s.node l = some st)
    (hk' : s'.node l' = some st') (hs : st.raft.state = .leader) (hs' : st'.raft.state = .leader)
    (ht : st.raft.term = t) (ht' : st'.raft.term = t) {k : Nat}
    (h1 : k ≤ st.raft.raftLog.abs.lastIndex) (h2 : k ≤ st'.raft.raftLog.abs.lastIndex) :
    st.raft.raftLog.abs.entryAt k = st'.raft.raftLog.abs.entryAt k := by
  have o1 := node_okB H hn hk
  have o2 := node_okB H hn' hk'
  by_cases hk0 : k ≤ c0
  · unfold LLog.entryAt
    rw [if_pos (by rw [o1.snapIdx]; exact hk0), if_pos (by rw [o2.snapIdx]; exact hk0)]
  · obtain ⟨e, he⟩ := st.raft.raftLog.abs.entryAt_exists (i := k) (by rw [o1.snapIdx]; omega) h1
    obtain ⟨e', he'⟩ := st'.raft.raftLog.abs.entryAt_exists (i := k) (by rw [o2.snapIdx]; omega) h2
    rcases Nat.le_total n n' with hle | hle
    · obtain ⟨d, rfl⟩ := Nat.exists_eq_add_of_le hle
      obtain ⟨_, _, hkept, _⟩ := H.facts0.leader_log_ext hn hn' hk hk' hs hs' ht ht'
      rw [he, hkept k e he (by rw [o2.snapIdx]; omega)]
    · obtain ⟨d, rfl⟩ := Nat.exists_eq_add_of_le hle
      obtain ⟨_, _, hkept, _⟩ := H.facts0.leader_log_ext hn' hn hk' hk hs' hs ht' ht
      rw [he', hkept k e' he' (by rw [o1.snapIdx]; omega)]

/-- what a commit event gives: the committing leader's state after the step -/
theorem Ev.facts (H : Hyp2wB cfg c0 h) {E : Ev} (hE : E.ok h) :
    ∃ a b sta stb, h[E.nE]? = some a ∧ h[E.nE + 1]? = some b ∧ a.node E.l = some sta ∧
      b.node E.l = some stb ∧ stb.raft.state = .leader ∧ stb.raft.term = E.t ∧
      E.c = stb.raft.raftLog.committed ∧ E.gE = stb.raft.raftLog.abs ∧
      E.pE = stb.raft.raftLog.persisted ∧ sta.raft.raftLog.committed < E.c ∧ c0 < E.c ∧
      Has E.gE E.c E.t ∧
      ∃ Q, IsJointQuorum cfg Q ∧ ∀ j ∈ Q, (j = E.l ∧ E.c ≤ E.pE) ∨ Anet a.net j E.t E.c :=
  Ev.facts_of H.hist H.fix H.steps H.nosnap (fun hn hi => node_okB H hn hi) hE

end M
end ClusterB
end RaftModel
