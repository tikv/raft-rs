import RaftProofs.ClusterCommitBatchBundles
import RaftProofs.ClusterCommitBatchHyp

/-!
Commit safety of `ClusterSem` **with log compaction AND `batch_append`** (C01n): the joined bundle, its first
building blocks and the leader's commit step.

* `Snap7.Hyp3wB`: the fields of `Snap.Hyp3w` (C01g part 1: compaction under `CompactOk`, no snapshots
  between nodes) **without `nb`**, plus `c0z : c0 = 0` (needed by the batching layer, C01f);
* it contains both lines of development: `Hyp3wB.of_hyp3w` (C01g's bundle with `c0 = 0`),
  `Hyp3wB.of_hyp3wL` (C01m's bundle: batching, no compaction); it is closed under prefixes
  (`Hyp3wB.take`, the shape needed by the circle-breaking induction of C01f / C01g);
* `call_prb'`: the per-call relation of the batching layer (`Raft.PB.call_prb`, C01f) **for every
  `NodeOp`, `compact` included**;
* `Hyp3wB.invLB_partial`: Log Matching and the clean-queue invariant of C05d on a history with batching
  and compaction, **conditional** on C05d's `SaneAnchors` (which C01f / C01m derive only for histories
  without compaction);
* `Hyp3wB.mokc`, `Hyp3wB.commit_step`: the statements of `mokc`, `commit_step` of
  `RaftProofs/ClusterCommitBatchHyp.lean` (C01f) over `Snap.KStep` / `Snap7.Hyp3wB`: the per-call relation `Gb` of
  the batching layer (`Raft.CB.call_gb`, `ClusterB.kstep_gb`) holds for every `NodeOp`, `compact` included, so the
  same arguments go through.
-/

namespace RaftModel
namespace Cluster
namespace Snap7
open Node Raft Raft.CC Raft.CP Raft.PB RaftProps.C02 RaftProps.C05 Snap

/-- **the hypotheses of the commit layer with compaction and with `batch_append` allowed**:
`Snap.Hyp3w` (flattened) without `nb`, plus `c0 = 0` -/
structure Hyp3wB (cfg : JointConfig) (c0 : Nat) (h : List Sys) : Prop where
  hist : History h
  fix : ∀ s ∈ h, FixedCfg cfg s
  ne : cfg.incoming ≠ []
  nd1 : cfg.incoming.Nodup
  nd2 : cfg.outgoing.Nodup
  init : ∀ s : Sys, h[0]? = some s → InitOk s
  steps : ∀ (n : Nat) (a b : Sys), h[n]? = some a → h[n + 1]? = some b → Snap.KStep a b
  nosnap : ∀ s ∈ h, NoSnapNet s
  nolone : ∀ i Q, IsJointQuorum cfg Q → ∃ k ∈ Q, k ≠ i
  nopend : ∀ s ∈ h, ∀ i st, s.node i = some st → st.raft.raftLog.unstable.snapshot = none
  first0 : ∀ s : Sys, h[0]? = some s → ∀ i st, s.node i = some st →
    st.raft.raftLog.store.firstIndex = c0 + 1
  initc : ∀ s : Sys, h[0]? = some s → ∀ i st, s.node i = some st → st.raft.raftLog.committed = c0
  c0z : c0 = 0
  snapt0 : ∀ s0, h[0]? = some s0 → ∀ i sti, s0.node i = some sti → ∀ t0,
    sti.raft.raftLog.abs.snapTerm = some t0 → ∀ j stj, s0.node j = some stj → t0 ≤ stj.raft.term

variable {cfg : JointConfig} {c0 : Nat} {h : List Sys}

/-- C01g's bundle (compaction, no batching) with `c0 = 0` is a special case -/
theorem Hyp3wB.of_hyp3w (H : Snap.Hyp3w cfg 0 h) : Hyp3wB cfg 0 h :=
  { hist := H.hist, fix := H.fix, ne := H.ne, nd1 := H.nd1, nd2 := H.nd2, init := H.init,
    steps := H.steps, nosnap := H.nosnap, nolone := H.nolone, nopend := H.nopend,
    first0 := H.first0, initc := H.initc, c0z := rfl, snapt0 := H.snapt0 }

/-- C01m's bundle (batching, no compaction) is a special case -/
theorem Hyp3wB.of_hyp3wL (H : ClusterB.Hyp3wL cfg c0 h) : Hyp3wB cfg c0 h :=
  { hist := H.hist, fix := H.fix, ne := H.ne, nd1 := H.nd1, nd2 := H.nd2, init := H.init,
    steps := fun n a b ha hb => Snap.KStep.of_old (H.steps n a b ha hb),
    nosnap := H.nosnap, nolone := H.nolone,
    nopend := fun s hs i st hi => (H.shape s hs i st hi).1,
    first0 := fun s h0 i st hi => (H.shape s (mem_of_get h0) i st hi).2,
    initc := H.initc, c0z := H.c0z, snapt0 := H.snapt0 }

/-- **conditional**: with `NoBatch` in every state the bundle is C01g's -/
theorem Hyp3wB.toHyp3w_partial (H : Hyp3wB cfg c0 h) (nb : ∀ s ∈ h, NoBatch s) :
    Snap.Hyp3w cfg c0 h :=
  { hist := H.hist, fix := H.fix, ne := H.ne, nd1 := H.nd1, nd2 := H.nd2, init := H.init,
    steps := H.steps, nb := nb, nosnap := H.nosnap, nolone := H.nolone, nopend := H.nopend,
    first0 := H.first0, initc := H.initc, snapt0 := H.snapt0 }

/-- the bundle is closed under non-empty prefixes -/
theorem Hyp3wB.take (H : Hyp3wB cfg c0 h) {k : Nat} (hk : 0 < k) : Hyp3wB cfg c0 (h.take k) where
  hist := History.take H.hist k hk
  fix := fun s hs => H.fix s (List.mem_of_mem_take hs)
  ne := H.ne
  nd1 := H.nd1
  nd2 := H.nd2
  init := fun s h0 => H.init s (get_take h0).1
  steps := fun n a b ha hb => H.steps n a b (get_take ha).1 (get_take hb).1
  nosnap := fun s hs => H.nosnap s (List.mem_of_mem_take hs)
  nolone := H.nolone
  nopend := fun s hs => H.nopend s (List.mem_of_mem_take hs)
  first0 := fun s h0 => H.first0 s (get_take h0).1
  initc := fun s h0 => H.initc s (get_take h0).1
  c0z := H.c0z
  snapt0 := fun s0 h0 => H.snapt0 s0 (get_take h0).1

theorem Hyp3wB.csteps (H : Hyp3wB cfg c0 h) :
    ∀ (n : Nat) (a b : Sys), h[n]? = some a → h[n + 1]? = some b → CStep a b :=
  fun n a b ha hb => (H.steps n a b ha hb).cstep

/-! ### `compact` in the per-call relation of the batching layer -/

/-- **one call of a node, `compact` included, batching allowed** (`Raft.PB.call_prb` with its premise
"the op is not a compaction" replaced by the storage contract `CompactOk`; `Snap5.call_pr2` without the
hypothesis `batchAppend = false`) -/
theorem call_prb' (st st' : NState) (rnd : Option Nat) (op : NodeOp) (res : OpRes)
    (hinv : st.raft.raftLog.Inv)
    (hop : op ≠ .drain ∧ ∀ m, op ≠ .rstep m)
    (hc : ∀ k, op = .compact k → CompactOk st.raft.raftLog k)
    (hsn : st.raft.raftLog.unstable.snapshot = none)
    (hms : ∀ m, op = .step m → m.msgType ≠ .msgSnapshot)
    (hpo : st.raft.state = .leader →
      QSnap st.raft.msgs ∨ PAll st.raft.raftLog.lastIndex st.raft.prs)
    (hrd : st.raft.state = .leader → ∀ p ∈ st.raft.readOnly.pendingReadIndex,
      p.2.index ≤ st.raft.raftLog.committed)
    (hB : ∀ m, op = .step m → st.raft.state = .leader → m.msgType = .msgAppendResponse →
      m.reject = false → (m.term = 0 ∨ m.term = st.raft.term) →
      m.index ≤ st.raft.raftLog.lastIndex)
    (h : Node.call st rnd op = .ok (res, st')) : PRb st.raft st'.raft := by
  by_cases hco : ∃ j, op = .compact j
  · obtain ⟨j, rfl⟩ := hco
    have ho := compact_out hinv hsn (hc j rfl) h
    obtain ⟨f1, f2, f3⟩ := Snap.compact_frame hinv hsn (hc j rfl) h
    exact PRb.of_same (PWb.start hinv hpo hrd).pr ho.state f1 f2 ho.msgs
      (Nat.le_of_eq f3.symm) (Nat.le_of_eq ho.committed.symm)
  · exact call_prb st st' rnd op res hinv hop (fun k hk => hco ⟨k, hk⟩) hsn hms hpo hrd hB h

/-! ### Log Matching with batching and compaction, conditional on `SaneAnchors` -/

/-- **conditional** (C05d applied to the joined bundle): Log Matching (`InvL`) and the clean-queue
invariant (`InvB`) hold in every state of a history with batching and compaction, *provided* no
`MsgAppend` is ever queued with an anchor in the void (`SaneAnchors`).  C01f / C01m derive
`SaneAnchors` from the commit layer for histories without compaction; with compaction that derivation
is what is missing (see `RaftProps/C01n.REPORT.md`). -/
theorem Hyp3wB.invLB_partial (H : Hyp3wB cfg c0 h) (hsane : ∀ s ∈ h, SaneAnchors s) :
    ∃ s0, h[0]? = some s0 ∧ ∀ s ∈ h, InvL (Owner h) (EntriesOf s0) s ∧ InvB s :=
  RaftProps.C05.cluster_invB_batch cfg H.ne H.nd1 H.nd2 h H.hist H.fix H.init H.csteps
    (ClusterB.multiVoter_of_nolone H.nolone) hsane

open Node Raft Raft.CC Raft.CB Raft.Bt ClusterB RaftProps.C02 RaftProps.C05

/-- the matched tables are backed by the transport in every state -/
theorem Hyp3wB.mokc (H : Hyp3wB cfg c0 h) : ∀ (n : Nat) (s : Sys), h[n]? = some s → MOKc s :=
  mokc_hist h H.hist (fun n a b ha hb => (H.steps n a b ha hb).cstep.moved)
    fun _ a _ _ _ _ _ _ ha hm hk hop _ hcall =>
      (kstep_gb hm (H.nosnap a (mem_of_get ha)) hk hop hcall).mok

/-- **the leader's commit step** (`ClusterB.commit_of_gb` at the step of the history) -/
theorem Hyp3wB.commit_step (H : Hyp3wB cfg c0 h) (n : Nat) (a b : Sys)
    (ha : h[n]? = some a) (hb : h[n + 1]? = some b) (l : Nat) (sta stb : NState)
    (hla : a.node l = some sta) (hlb : b.node l = some stb) (hs : stb.raft.state = .leader)
    (hc : sta.raft.raftLog.committed < stb.raft.raftLog.committed) :
    stb.raft.raftLog.term stb.raft.raftLog.committed = .ok stb.raft.term ∧
    ∃ Q, IsJointQuorum cfg Q ∧ ∀ j ∈ Q,
      (j = l ∧ stb.raft.raftLog.committed ≤ stb.raft.raftLog.persisted) ∨
      Anet a.net j stb.raft.term stb.raft.raftLog.committed := by
  obtain ⟨k, st, st', M⟩ := (H.steps n a b ha hb).cstep.moved
  exact commit_of_gb M (H.mokc n a ha) (H.nosnap a (mem_of_get ha)) hla hlb
    (H.fix b (mem_of_get hb) l stb hlb)
    (((hist_all H.hist).1 b (mem_of_get hb)).ids l stb hlb).1 hs hc

end Snap7
end Cluster
end RaftModel
