import RaftProofs.ProtoCfgK

/-!
`InvCfg` holds in every reachable state of PC.
-/
namespace RaftModel.P

theorem invCfg_init : InvCfg cinit := by
  constructor
  · intro a c1 c2 h; simp [cinit] at h
  · intro a c h; simp [cinit] at h
  · intro p hp; simp [cinit, init] at hp
  · intro x hx; simp [cinit] at hx
  · simp [cinit, init]
  · intro pc hpc; simp [cinit, init] at hpc
  · intro x hx; simp [cinit] at hx
  · simp [cinit, CvOk]
  · intro p hp; simp [cinit] at hp
  · intro r hr; simp [cinit, init] at hr
  · intro r hr; simp [cinit, init] at hr

/-- the count of membership changes committed by a recorded leader commit is stable -/
theorem cc_stable {s s' : PSys} (g : Grow s s') (h3 : InvC3 s) {p : Nat × Nat} (hp : p ∈ s.cmts) :
    ccOf s'.llog p = ccOf s.llog p := by
  obtain ⟨_, hlen, _, hel, _⟩ := h3.cq p hp
  unfold ccOf
  rw [g.take_eq hel hlen]

/-- frame: `base` makes a step that leaves the configuration ghosts, the leader commits and the
election logs alone -/
theorem invCfg_frame (S : CSys) (b : PSys) (hC : InvCfg S) (h3 : InvC3 S.base) (g : Grow S.base b)
    (hec : b.ecfgs = S.base.ecfgs) (hcc : b.ccfgs = S.base.ccfgs) (hcm : b.cmts = S.base.cmts)
    (hel : b.elog = S.base.elog) (hak : ∀ a ∈ S.base.acks, a ∈ b.acks)
    (hRd : InvRd S.base)
    (hak' : b.acks = S.base.acks ∨ ∃ x, b.acks = x :: S.base.acks)
    (hiss : b.rd.issued = S.base.rd.issued ∨
      ∃ rid i, b.rd.issued = ⟨rid, i, S.base.cmts.length, S.base.acks.length⟩ :: S.base.rd.issued) :
    InvCfg { S with base := b } := by
  have hlen : S.cvs.length = S.base.cmts.length := by rw [← hC.c1m, List.length_map]
  have hiss' : ∀ r ∈ b.rd.issued, r ∈ S.base.rd.issued ∨
      (r.ncm = S.base.cmts.length ∧ r.nak = S.base.acks.length) := by
    intro r hr
    rcases hiss with h | ⟨rid, i, h⟩
    · rw [h] at hr; exact Or.inl hr
    · rw [h] at hr
      rcases List.mem_cons.1 hr with hr | hr
      · subst hr; exact Or.inr ⟨rfl, rfl⟩
      · exact Or.inl hr
  constructor
  · exact hC.t0a
  · exact hC.t0s
  · intro p hp
    simp only at hp
    rw [hec] at hp
    exact hC.e1 p hp
  · intro x hx
    obtain ⟨h1, h2, h3'⟩ := hC.e2 x hx
    refine ⟨g.el _ h1, ?_, ?_⟩
    · simp only; rw [hel]; exact h2
    · rcases h3' with h0 | ⟨p, hp, hlt, hle⟩
      · exact Or.inl h0
      · refine Or.inr ⟨p, ?_, hlt, ?_⟩
        · simp only; rw [hcm]; exact hp
        · simp only; rw [cc_stable g h3 hp]; exact hle
  · simp only; rw [hcm]; exact hC.c1m
  · intro pc hpc
    simp only at hpc
    rw [hcc] at hpc
    exact hC.c1 pc hpc
  · intro x hx
    obtain ⟨cfg, q, h1, h2, h3'⟩ := hC.cq x hx
    refine ⟨cfg, q, h1, h2, ?_⟩
    intro v hv
    obtain ⟨a, ha, h4⟩ := h3' v hv
    exact ⟨a, hak a ha, h4⟩
  · exact CvOk.congr (fun x hx => cc_stable g h3 (cvs_mem_cmts hC hx)) hC.c2
  · exact hC.c3
  · intro r hr pc hpc
    have e1 : ccfgsAt b r.ncm = ccfgsAt S.base r.ncm := by unfold ccfgsAt; rw [hcc]
    rw [e1] at hpc
    rcases hiss' r hr with hr | ⟨h1, _⟩
    · exact hC.rc r hr pc hpc
    · rw [h1] at hpc ⊢
      rw [← ccfgs_length h3, ccfgsAt_full] at hpc
      obtain ⟨x, hx, hv⟩ := hC.c1 pc hpc
      refine ⟨x, ?_, hv⟩
      show (pc.1, x) ∈ S.cvs.drop (S.cvs.length - S.base.cmts.length)
      rw [hlen, Nat.sub_self, List.drop_zero]; exact hx
  · intro r hr x hx
    have hx' : x ∈ cvsAt S r.ncm := hx
    rcases hiss' r hr with hr | ⟨h1, h2⟩
    · have e2 : acksAt b r.nak = acksAt S.base r.nak := acksAt_stable hak' (hRd.bnd r hr).2
      rw [e2]
      exact hC.rq r hr x hx'
    · have e2 : acksAt b r.nak = S.base.acks := by
        rw [h2, acksAt_stable hak' (Nat.le_refl _), acksAt_full]
      rw [e2]
      exact hC.cq x (cvsAt_sub hx')

/-- a new version is appended to the table: adjacent (both ways) to the last one, meeting itself -/
theorem invCfg_push (S : CSys) (hC : InvCfg S) (cfg : Cfg) (hs : adjOk cfg cfg = true)
    (hp : ∀ a prev, a + 1 = S.vtab.length → S.vtab[a]? = some prev → adj2 prev cfg = true) :
    InvCfg { S with vtab := S.vtab ++ [cfg] } := by
  have hkeep : ∀ (a : Nat) c, S.vtab[a]? = some c → (S.vtab ++ [cfg])[a]? = some c := by
    intro a c h
    have hlt := (List.getElem?_eq_some_iff.mp h).1
    rw [List.getElem?_append_left hlt]; exact h
  constructor
  · intro a c1 c2 h1 h2
    simp only at h1 h2
    by_cases ha : a + 1 < S.vtab.length
    · rw [List.getElem?_append_left (by omega)] at h1
      rw [List.getElem?_append_left ha] at h2
      exact hC.t0a a c1 c2 h1 h2
    · by_cases ha' : a + 1 = S.vtab.length
      · rw [List.getElem?_append_left (by omega)] at h1
        rw [List.getElem?_append_right (by omega)] at h2
        have : a + 1 - S.vtab.length = 0 := by omega
        rw [this] at h2
        simp at h2
        subst h2
        exact hp a c1 ha' h1
      · exfalso
        have : (S.vtab ++ [cfg]).length ≤ a + 1 := by simp; omega
        rw [List.getElem?_eq_none this] at h2
        cases h2
  · intro a c h
    simp only at h
    by_cases ha : a < S.vtab.length
    · rw [List.getElem?_append_left ha] at h
      exact hC.t0s a c h
    · rw [List.getElem?_append_right (by omega)] at h
      have hm := List.mem_of_getElem? h
      simp at hm
      subst hm; exact hs
  · intro p hp'
    obtain ⟨m, h1, h2⟩ := hC.e1 p hp'
    exact ⟨m, h1, hkeep _ _ h2⟩
  · exact hC.e2
  · exact hC.c1m
  · intro pc hpc
    obtain ⟨j, h1, h2⟩ := hC.c1 pc hpc
    exact ⟨j, h1, hkeep _ _ h2⟩
  · intro x hx
    obtain ⟨c, q, h1, h2⟩ := hC.cq x hx
    exact ⟨c, q, hkeep _ _ h1, h2⟩
  · exact hC.c2
  · exact hC.c3
  · intro r hr pc hpc
    obtain ⟨x, h1, h2⟩ := hC.rc r hr pc hpc
    exact ⟨x, h1, hkeep _ _ h2⟩
  · intro r hr x hx
    obtain ⟨c, q, h1, h2⟩ := hC.rq r hr x hx
    exact ⟨c, q, hkeep _ _ h1, h2⟩

theorem invCfg_win (S S' : CSys) (i : Nat) (cfg : Cfg) (q : List Nat) (applied : Nat)
    (h : applyEventC S (.win i cfg q applied) = .ok S') (hI : InvAll S.base) (hC : InvCfg S) : InvCfg S' := by
  obtain ⟨⟨happ, hcnt, hv⟩, b, hb, rfl⟩ := winC_ok h
  have g := grow_step S.base b _ hI.v hI.l hb
  have hs' := (win_guard hb).2.2.2.2.1
  have hf := win_fresh hI.v hI.l hb
  have hne : ∀ t, Elected S.base t → t ≠ (S.base.nodes i).term := fun t ht he => hf (he ▸ ht)
  have hcm : b.cmts = S.base.cmts := by rw [hs']
  have hacks : b.acks = S.base.acks := by rw [hs']
  have hccf : b.ccfgs = S.base.ccfgs := by rw [hs']
  have hecf : b.ecfgs = ((S.base.nodes i).term, cfg) :: S.base.ecfgs := by rw [hs']
  have helog : ∀ t, t ≠ (S.base.nodes i).term → b.elog t = S.base.elog t := by
    intro t ht; rw [hs']; simp only [updT, ht, if_false]
  have helog' : b.elog (S.base.nodes i).term = (S.base.nodes i).log := by
    rw [hs']; simp only [updT, if_true]
  have hel' : Elected b (S.base.nodes i).term := ⟨i, by rw [hs']; exact List.mem_cons_self⟩
  constructor
  · exact hC.t0a
  · exact hC.t0s
  · intro p hp
    simp only at hp
    rw [hecf] at hp
    rcases List.mem_cons.1 hp with hp | hp
    · subst hp
      exact ⟨_, List.mem_cons_self, hv⟩
    · obtain ⟨m, h1, h2⟩ := hC.e1 p hp
      exact ⟨m, List.mem_cons_of_mem _ h1, h2⟩
  · intro x hx
    simp only at hx
    rcases List.mem_cons.1 hx with hx | hx
    · subst hx
      refine ⟨hel', ?_, ?_⟩
      · simp only; rw [helog']; exact hcnt
      · simp only
        rcases applied_covered hI.c.c3 happ with h0 | ⟨p, hp, h1, h2, h3⟩
        · exact Or.inl h0
        · right
          have hpel := (hI.c.c3.cq p hp).2.2.2.1
          have hpne := hne p.1 hpel
          refine ⟨p, by rw [hcm]; exact hp, by omega, ?_⟩
          rw [cc_stable g hI.c.c3 hp]
          unfold ccOf
          rw [confCount_of_take_eq h3 happ]
          exact confCount_take_mono _ (by omega)
    · obtain ⟨h1, h2, h3⟩ := hC.e2 x hx
      refine ⟨g.el _ h1, ?_, ?_⟩
      · simp only; rw [helog _ (hne _ h1)]; exact h2
      · rcases h3 with h0 | ⟨p, hp, hlt, hle⟩
        · exact Or.inl h0
        · refine Or.inr ⟨p, ?_, hlt, ?_⟩
          · simp only; rw [hcm]; exact hp
          · simp only; rw [cc_stable g hI.c.c3 hp]; exact hle
  · simp only; rw [hcm]; exact hC.c1m
  · intro pc hpc
    simp only at hpc
    rw [hccf] at hpc
    exact hC.c1 pc hpc
  · intro x hx
    simp only; rw [hacks]
    exact hC.cq x hx
  · exact CvOk.congr (fun x hx => cc_stable g hI.c.c3 (cvs_mem_cmts hC hx)) hC.c2
  · intro p hp e he het
    simp only at hp he
    rcases List.mem_cons.1 he with he | he
    · exfalso
      subst he
      have hpel := (hI.c.c3.cq p.1 (cvs_mem_cmts hC hp)).2.2.2.1
      exact hne _ hpel het.symm
    · exact hC.c3 p hp e he het
  · intro r hr pc hpc
    have hrd : b.rd = S.base.rd := by rw [hs']
    have e1 : ccfgsAt b r.ncm = ccfgsAt S.base r.ncm := by unfold ccfgsAt; rw [hccf]
    simp only at hr hpc
    rw [hrd] at hr; rw [e1] at hpc
    exact hC.rc r hr pc hpc
  · intro r hr x hx
    have hrd : b.rd = S.base.rd := by rw [hs']
    have e2 : acksAt b r.nak = acksAt S.base r.nak := by unfold acksAt; rw [hacks]
    simp only at hr
    rw [hrd] at hr
    simp only; rw [e2]
    exact hC.rq r hr x hx

theorem invCfg_commit (S S' : CSys) (i c : Nat) (cfg : Cfg) (q : List Nat) (applied : Nat)
    (h : applyEventC S (.commitLeader i c cfg q applied) = .ok S') (hI : InvAll S.base) (hRd : InvRd S.base)
    (hC : InvCfg S) : InvCfg S' := by
  have hlenc : S.cvs.length = S.base.cmts.length := by rw [← hC.c1m, List.length_map]
  obtain ⟨⟨happ, hcnt, hv, hmono⟩, b, hb, rfl⟩ := commitC_ok h
  obtain ⟨_, hrole, _, _, _, hq, hacks, _, _, hs'⟩ := commitLeader_guard hb
  have hll : (S.base.nodes i).log = S.base.llog (S.base.nodes i).term := hI.l.ll i hrole
  have hllog : b.llog = S.base.llog := by rw [hs']
  have helog : b.elog = S.base.elog := by rw [hs']
  have hecf : b.ecfgs = S.base.ecfgs := by rw [hs']
  have hak : b.acks = S.base.acks := by rw [hs']
  have hcm : b.cmts = ((S.base.nodes i).term, c) :: S.base.cmts := by rw [hs']
  have hccf : b.ccfgs = (((S.base.nodes i).term, c), cfg) :: S.base.ccfgs := by rw [hs']
  have hel : ∀ t, Elected S.base t → Elected b t := by
    rintro t ⟨j, hj⟩; exact ⟨j, by rw [hs']; exact hj⟩
  constructor
  · exact hC.t0a
  · exact hC.t0s
  · intro p hp
    simp only at hp
    rw [hecf] at hp
    exact hC.e1 p hp
  · intro x hx
    obtain ⟨h1, h2, h3⟩ := hC.e2 x hx
    refine ⟨hel _ h1, ?_, ?_⟩
    · simp only; rw [helog]; exact h2
    · rcases h3 with h0 | ⟨p, hp, hlt, hle⟩
      · exact Or.inl h0
      · refine Or.inr ⟨p, ?_, hlt, ?_⟩
        · simp only; rw [hcm]; exact List.mem_cons_of_mem _ hp
        · simp only; rw [hllog]; exact hle
  · simp only [List.map_cons]; rw [hcm, hC.c1m]
  · intro pc hpc
    simp only at hpc
    rw [hccf] at hpc
    rcases List.mem_cons.1 hpc with hpc | hpc
    · subst hpc
      exact ⟨_, List.mem_cons_self, hv⟩
    · obtain ⟨j, h1, h2⟩ := hC.c1 pc hpc
      exact ⟨j, List.mem_cons_of_mem _ h1, h2⟩
  · intro x hx
    simp only at hx ⊢
    rw [hak]
    rcases List.mem_cons.1 hx with hx | hx
    · subst hx
      exact ⟨cfg, q, hv, hq, hacks⟩
    · exact hC.cq x hx
  · simp only; rw [hllog]
    refine ⟨hC.c2, ?_, ?_⟩
    · simp only [ccOf]; rw [← hll]; exact hcnt
    · simp only
      rcases applied_covered hI.c.c3 happ with h0 | ⟨p, hp, h1, h2, h3⟩
      · exact Or.inl h0
      · right
        obtain ⟨r, hr, hr1⟩ := cmts_mem_cvs hC hp
        refine ⟨r, hr, by rw [hr1]; exact h2, ?_⟩
        rw [hr1]
        unfold ccOf
        rw [confCount_of_take_eq h3 happ]
        exact confCount_take_mono _ (by omega)
  · intro p hp e he het
    simp only at hp he
    rcases List.mem_cons.1 hp with hp | hp
    · subst hp
      simp only [verMono, Bool.and_eq_true, List.all_eq_true, Bool.or_eq_true, bne_iff_ne, ne_eq,
        decide_eq_true_eq] at hmono
      rcases hmono.1 e he with h1 | h1
      · exact absurd het h1
      · exact h1
    · exact hC.c3 p hp e he het
  · intro r hr pc hpc
    have hrd : b.rd = S.base.rd := by rw [hs']
    simp only at hr hpc
    rw [hrd] at hr
    have hb := (hRd.bnd r hr).1
    have e1 : ccfgsAt b r.ncm = ccfgsAt S.base r.ncm :=
      ccfgsAt_stable (Or.inr ⟨_, hccf⟩) (by rw [ccfgs_length hI.c.c3]; exact hb)
    rw [e1] at hpc
    obtain ⟨x, hx, hxv⟩ := hC.rc r hr pc hpc
    refine ⟨x, ?_, hxv⟩
    show (pc.1, x) ∈ (_ :: S.cvs).drop ((_ :: S.cvs).length - r.ncm)
    rw [drop_cons_stable _ _ _ (by rw [hlenc]; exact hb)]
    exact hx
  · intro r hr x hx
    have hrd : b.rd = S.base.rd := by rw [hs']
    simp only at hr
    rw [hrd] at hr
    have hb := (hRd.bnd r hr).1
    have hx' : x ∈ (_ :: S.cvs).drop ((_ :: S.cvs).length - r.ncm) := hx
    rw [drop_cons_stable _ _ _ (by rw [hlenc]; exact hb)] at hx'
    have e2 : acksAt b r.nak = acksAt S.base r.nak := by unfold acksAt; rw [hak]
    simp only; rw [e2]
    exact hC.rq r hr x hx'

theorem invCfg_step (S S' : CSys) (e : CEvent) (h : applyEventC S e = .ok S') (hI : InvAll S.base)
    (hRd : InvRd S.base) (hC : InvCfg S) : InvCfg S' := by
  -- `base` makes a step of P other than `win` / `commitLeader`
  have frame : ∀ e b, isWinOrCommit e = false ∨ (∃ r, e = .read r) → applyEvent S.base e = .ok b →
      InvCfg { S with base := b } := by
    intro e b hw hb
    have hsh : b.ecfgs = S.base.ecfgs ∧ b.ccfgs = S.base.ccfgs ∧ b.cmts = S.base.cmts ∧ b.elog = S.base.elog ∧
        (∀ a ∈ S.base.acks, a ∈ b.acks) := by
      rcases hw with hw | ⟨r, rfl⟩
      · exact base_shape S.base b e hw hb
      · obtain ⟨rd, rfl⟩ := read_frame hb; exact ⟨rfl, rfl, rfl, rfl, fun a h => h⟩
    obtain ⟨h1, h2, h3, h4, h5⟩ := hsh
    exact invCfg_frame S b hC hI.c.c3 (grow_step S.base b e hI.v hI.l hb) h1 h2 h3 h4 h5 hRd
      (step_shape S.base b e hb).2.1 (issued_shape S.base b e hb)
  cases e with
  | base e =>
    obtain ⟨hw, b, hb, rfl⟩ := baseC_ok h
    exact frame e b (Or.inl hw) hb
  | cfgInit cfg =>
    obtain ⟨hg, rfl⟩ := of_guard_ok h
    have := invCfg_push S hC cfg hg.2 (by
      intro a prev ha; rw [hg.1] at ha; simp at ha)
    rw [hg.1] at this
    exact this
  | applyConf i idx cfg =>
    rcases applyConfC_ok h with rfl | ⟨_, prev, hprev, hadj, rfl⟩
    · exact hC
    · refine invCfg_push S hC cfg hadj.2 ?_
      intro a p ha hp
      have : S.vtab.length - 1 = a := by omega
      rw [this, hp] at hprev
      injection hprev with hprev
      rw [hprev]; exact hadj.1
  | win i cfg q applied => exact invCfg_win S S' i cfg q applied h hI hC
  | commitLeader i c cfg q applied => exact invCfg_commit S S' i c cfg q applied h hI hRd hC
  | resp i rid idx cfg applied =>
    obtain ⟨_, b, hb, rfl⟩ := respC_ok h
    exact frame _ b (Or.inr ⟨_, rfl⟩) hb
  | rstate j rid idx cfg applied =>
    obtain ⟨_, b, hb, rfl⟩ := rstateC_ok h
    exact frame _ b (Or.inr ⟨_, rfl⟩) hb

/-- **`InvCfg` holds in every reachable state of PC** -/
theorem invCfg_reach {S : CSys} (h : ReachPC S) : InvCfg S := by
  induction h with
  | init => exact invCfg_init
  | step e hr hs ih =>
    exact invCfg_step _ _ e hs (invAll_reachR _ (reach_base hr)) (invRd_reachR _ (reach_base hr)) ih

end RaftModel.P
