import RaftProofs.RaftNodeC04
import RaftProofs.RaftNodeC10
import RaftProofs.RaftNodeC17
import RaftProofs.RawNodeC06

/-!
The helper frame.  The sending / replication / bookkeeping helpers of the node model write only the
queue, the log, the progress map and some counters: `HF a r` says so once, in the strongest form the
layers use — the fields of `HCore` are equal, the stored hard state and the key set of the progress map
stay, and the queue changes as `QF` says (plain messages of a term not above the node's are appended,
entries and commit index of a queued `MsgAppend` are rewritten).  Each helper has one lemma `f_hf`, an
instance of its `f_parts`; the frames of the layers (`VF`, `MF`, `TC`) are read off `HF` where they are
defined.
-/
namespace RaftModel

namespace Raft

namespace LS

/-- message types the helpers send: no (pre-)vote message, no `MsgTimeoutNow` -/
def plainT : MsgType → Bool
  | .msgRequestVote | .msgRequestPreVote | .msgRequestVoteResponse | .msgRequestPreVoteResponse
  | .msgTimeoutNow => false
  | _ => true

theorem plainT_vote {t : MsgType} (h : plainT t = true) : isVoteMsg t = false := by
  cases t <;> simp_all [plainT, isVoteMsg]

theorem plainT_tn {t : MsgType} (h : plainT t = true) : t ≠ .msgTimeoutNow := by
  cases t <;> simp_all [plainT]

theorem plainT_of_eq {m : Message} {t : MsgType} (h : m.msgType = t) (ht : plainT t = true) :
    plainT m.msgType = true := by rw [h]; exact ht

/-- a plain message queued while the node's term is (at most) `tm` -/
def Plain (tm : Nat) (x : Message) : Prop := plainT x.msgType = true ∧ x.term ≤ tm

theorem sendFill_term (r : Raft) (m : Message) (hp : plainT m.msgType = true) (h0 : m.term = 0) :
    (r.sendFill m).term ≤ r.term := by
  have hv := plainT_vote hp
  unfold sendFill
  simp only
  by_cases hq : m.msgType = .msgPropose ∨ m.msgType = .msgReadIndex
  · rcases hq with hq | hq <;> by_cases hf : m.frm = 0 <;> simp [hf, hq, isVoteMsg, h0]
  · have h1 : m.msgType ≠ .msgPropose := fun e => hq (Or.inl e)
    have h2 : m.msgType ≠ .msgReadIndex := fun e => hq (Or.inr e)
    have h3 : m.msgType ≠ .msgRequestVote := by intro e; rw [e] at hp; cases hp
    have h4 : m.msgType ≠ .msgRequestPreVote := by intro e; rw [e] at hp; cases hp
    by_cases hf : m.frm = 0 <;> simp [hf, hv, h1, h2, h3, h4]

end LS

namespace CV

/-! ### the `RaftLog` operations never touch the stored hard state -/

theorem snapshot_hs (l : RaftLog) (i : Nat) : (l.snapshot i).1.store.hardState = l.store.hardState := by
  have hst : ∀ s : MemStorage, (s.snapshot i).1.hardState = s.hardState := by
    intro s
    unfold MemStorage.snapshot
    split
    · rfl
    · split <;> rfl
  unfold RaftLog.snapshot
  split
  · split
    · rfl
    · exact hst _
  · exact hst _

theorem maybeCommit_store {l l' : RaftLog} {i t : Nat} {b : Bool}
    (h : l.maybeCommit i t = .ok (l', b)) : l'.store = l.store := by
  rcases RaftLog.maybeCommit_inv h with ⟨_, _, _, _, rfl⟩ | ⟨_, rfl⟩ <;> rfl

theorem appendConflict_store {l l' : RaftLog} {i c : Nat} {ents : List Entry}
    (h : l.appendConflict i c ents = .ok l') : l'.store = l.store := by
  obtain ⟨l1, n, ha, rfl⟩ := RaftLog.appendConflict_inv h
  have := C06.append_store ha
  split <;> exact this

theorem maybeAppend_store {l l' : RaftLog} {i t c : Nat} {ents : List Entry} {o : Option (Nat × Nat)}
    (h : l.maybeAppend i t c ents = .ok (l', o)) : l'.store = l.store := by
  rcases RaftLog.maybeAppend_inv h with ⟨_, rfl, _⟩ | ⟨ci, l1, _, _, hc, hct, _⟩
  · rfl
  · refine (C06.commitTo_store hct).trans ?_
    rcases hc with ⟨_, rfl⟩ | ⟨_, _, ha⟩
    · rfl
    · exact appendConflict_store ha

end CV

open LS CV

/-- what the helpers do to the queue while the node's term is `tm`: they append plain messages of a
term `≤ tm`, and rewrite the entries and the commit index of a queued `MsgAppend` -/
inductive QF (tm : Nat) : List Message → List Message → Prop
  | refl (q : List Message) : QF tm q q
  | send {q q' : List Message} (x : Message) : QF tm q q' → Plain tm x → QF tm q (q' ++ [x])
  | batch {q l1 l2 : List Message} (y : Message) (e : List Entry) (c : Nat) :
      QF tm q (l1 ++ y :: l2) → y.msgType = .msgAppend →
      QF tm q (l1 ++ { y with entries := e, commit := c } :: l2)

namespace QF
variable {tm : Nat}

theorem trans {a b c : List Message} (h1 : QF tm a b) (h2 : QF tm b c) : QF tm a c := by
  induction h2 with
  | refl => exact h1
  | send x _ hp ih => exact .send x ih hp
  | batch y e c _ hy ih => exact .batch y e c ih hy

theorem cons (x : Message) {q q' : List Message} (h : QF tm q q') : QF tm (x :: q) (x :: q') := by
  induction h with
  | refl => exact .refl _
  | send y _ hp ih => exact .send y ih hp
  | @batch l1 l2 y e c _ hy ih => exact .batch (l1 := x :: l1) y e c ih hy

end QF

/-- the fields that neither a helper nor a storage-side step of the application writes -/
structure HCore where
  id : Nat
  term : Nat
  vote : Nat
  state : StateRole
  leaderId : Nat
  lt : Option Nat
  promotable : Bool
  cc : Tracker
  votes : List (Nat × Bool)

def hcore (r : Raft) : HCore :=
  { id := r.id, term := r.term, vote := r.vote, state := r.state, leaderId := r.leaderId,
    lt := r.leadTransferee, promotable := r.promotable, cc := r.prs.toCC, votes := r.prs.votes }

/-- **the helper frame**, anchored at `a`: `r` is reached from `a` by helpers only -/
structure HF (a r : Raft) : Prop where
  core : hcore r = hcore a
  hs : r.raftLog.store.hardState = a.raftLog.store.hardState
  msgs : QF a.term a.msgs r.msgs

theorem HF.rf {r : Raft} : HF r r := ⟨rfl, rfl, .refl _⟩

theorem HF.term {a r : Raft} (h : HF a r) : r.term = a.term := congrArg HCore.term h.core

theorem HF.trans {a b c : Raft} (h1 : HF a b) (h2 : HF b c) : HF a c :=
  ⟨h2.core.trans h1.core, h2.hs.trans h1.hs,
    h1.msgs.trans (by have := h2.msgs; rwa [h1.term] at this)⟩

/-- any structure update outside the frame keeps it: the log may change if the stored hard state
stays, the progress map if its key set stays -/
theorem HF.mk' {a r : Raft} {x4 : List ReadState} {l : RaftLog} {x6 x7 x8 : Nat}
    {x13 : Nat} {x14 : ReadOnly} {x15 x16 : Nat} {x17 x18 x19 x20 x21 : Bool}
    {x22 x23 x24 x25 x26 : Nat} {x27 : Int} {x28 : UncommittedState} {x29 : Nat}
    {y1 : List (Nat × Progress)} {y4 : Nat} {y5 : Bool} {x32 : Option Nat}
    (h0 : HF a r) (hl : l.store.hardState = r.raftLog.store.hardState)
    (hk : y1.map (·.1) = r.prs.progress.map (·.1)) :
    HF a { term := r.term, vote := r.vote, id := r.id, readStates := x4, raftLog := l,
           maxInflight := x6, maxMsgSize := x7, pendingRequestSnapshot := x8, state := r.state,
           promotable := r.promotable, leaderId := r.leaderId, leadTransferee := r.leadTransferee,
           pendingConfIndex := x13, readOnly := x14, electionElapsed := x15,
           heartbeatElapsed := x16, checkQuorum := x17, preVote := x18,
           skipBcastCommit := x19, batchAppend := x20, disableProposalForwarding := x21,
           heartbeatTimeout := x22, electionTimeout := x23, randomizedElectionTimeout := x24,
           minElectionTimeout := x25, maxElectionTimeout := x26, priority := x27,
           uncommittedState := x28, maxCommittedSizePerReady := x29,
           prs := { progress := y1, conf := r.prs.conf, votes := r.prs.votes, maxInflight := y4,
                    groupCommit := y5 },
           msgs := r.msgs, nextRand := x32 } :=
  h0.trans ⟨by unfold Raft.hcore ProgressTracker.toCC; simp only [hk], hl, .refl _⟩

/-- an update of fields outside the frame, log and tracker untouched -/
theorem HF.upd {a r : Raft} {x4 : List ReadState} {x6 x7 x8 : Nat}
    {x13 : Nat} {x14 : ReadOnly} {x15 x16 : Nat} {x17 x18 x19 x20 x21 : Bool}
    {x22 x23 x24 x25 x26 : Nat} {x27 : Int} {x28 : UncommittedState} {x29 : Nat}
    {y4 : Nat} {y5 : Bool} {x32 : Option Nat} (h0 : HF a r) :
    HF a { term := r.term, vote := r.vote, id := r.id, readStates := x4, raftLog := r.raftLog,
           maxInflight := x6, maxMsgSize := x7, pendingRequestSnapshot := x8, state := r.state,
           promotable := r.promotable, leaderId := r.leaderId, leadTransferee := r.leadTransferee,
           pendingConfIndex := x13, readOnly := x14, electionElapsed := x15,
           heartbeatElapsed := x16, checkQuorum := x17, preVote := x18,
           skipBcastCommit := x19, batchAppend := x20, disableProposalForwarding := x21,
           heartbeatTimeout := x22, electionTimeout := x23, randomizedElectionTimeout := x24,
           minElectionTimeout := x25, maxElectionTimeout := x26, priority := x27,
           uncommittedState := x28, maxCommittedSizePerReady := x29,
           prs := { progress := r.prs.progress, conf := r.prs.conf, votes := r.prs.votes,
                    maxInflight := y4, groupCommit := y5 },
           msgs := r.msgs, nextRand := x32 } :=
  h0.mk' rfl rfl

theorem HF.log {a r : Raft} {l : RaftLog} (h0 : HF a r)
    (hl : l.store = r.raftLog.store) : HF a { r with raftLog := l } :=
  h0.mk' (congrArg MemStorage.hardState hl) rfl

theorem HF.set {a r : Raft} (id : Nat) (p : Progress) (h0 : HF a r) :
    HF a { r with prs := r.prs.set id p } :=
  h0.mk' rfl (NatMap.keys_modify _ _ _)

theorem HF.modify {a r : Raft} (id : Nat) (f : Progress → Progress) (h0 : HF a r) :
    HF a (r.modifyProgress id f) :=
  h0.mk' rfl (NatMap.keys_modify _ _ _)

theorem HF.map {a r : Raft} (f : Nat → Progress → Progress) (h0 : HF a r) :
    HF a (r.mapProgress f) :=
  h0.mk' rfl (by rw [List.map_map]; rfl)

theorem HF.logHs {a r : Raft} {l : RaftLog} (h0 : HF a r)
    (hl : l.store.hardState = r.raftLog.store.hardState) : HF a { r with raftLog := l } :=
  h0.mk' hl rfl

/-! ### sending -/

theorem send_hf {a r r' : Raft} {m : Message} (h : r.send m = .ok r')
    (hp : plainT m.msgType = true) (h0 : HF a r) : HF a r' := by
  have hv := plainT_vote hp
  have ht0 : m.term = 0 := by
    unfold Raft.send at h
    rw [hv] at h
    simp only [Bool.false_and, Bool.false_eq_true, if_false, Bool.not_false, Bool.true_and] at h
    split at h
    · cases h
    · rename_i hc; simpa using hc
  rw [send_eq r r' m h]
  exact h0.trans ⟨rfl, rfl, .send _ (.refl _)
    ⟨by rw [sendFill_msgType]; exact hp, sendFill_term r m hp ht0⟩⟩

theorem sendT_hf {a r r' : Raft} {m : Message} {t : MsgType} (ht : plainT t = true)
    (h : r.send m = .ok r') (e : m.msgType = t) (h0 : HF a r) : HF a r' :=
  send_hf h (plainT_of_eq e ht) h0

theorem prepareSendSnapshot_hf {a r r' : Raft} {m m' : Message} {pr pr' : Progress} {to : Nat}
    {b : Bool} (h : r.prepareSendSnapshot m pr to = .ok (r', m', pr', b)) (h0 : HF a r) :
    HF a r' :=
  prepareSendSnapshot_parts h h0 (h0.logHs (snapshot_hs _ _))

theorem tryBatchingLoop_qf (tm committed to : Nat) (pr : Progress) (ents : List Entry) :
    ∀ (msgs msgs' : List Message) (pr' : Progress) (b : Bool),
      tryBatchingLoop committed to pr ents msgs = .ok (msgs', pr', b) → QF tm msgs msgs' := by
  intro msgs
  induction msgs with
  | nil =>
    intro msgs' pr' b h
    simp [tryBatchingLoop] at h
    rw [h.1]; exact .refl _
  | cons msg rest ih =>
    intro msgs' pr' b h
    unfold tryBatchingLoop at h
    split at h
    · rename_i hc
      have hb : ∀ (e : List Entry) (c : Nat),
          QF tm (msg :: rest) (({ msg with entries := e, commit := c } : Message) :: rest) :=
        fun e c => QF.batch (l1 := []) msg e c (.refl _) hc.1
      split at h
      · split at h
        · cases h; exact .refl _
        · simp only at h
          split at h
          · cases h
          · split at h
            · cases h; exact hb _ _
            · cases h
            · cases h
      · cases h; exact hb _ _
    · split at h
      · rename_i rest' pr1 b1 heq
        cases h
        exact (ih _ _ _ heq).cons msg
      · cases h
      · cases h

theorem tryBatching_hf {a r r' : Raft} {to : Nat} {pr pr' : Progress} {ents : List Entry} {b : Bool}
    (h : r.tryBatching to pr ents = .ok (r', pr', b)) (h0 : HF a r) : HF a r' :=
  tryBatching_parts h fun hl => h0.trans ⟨rfl, rfl, tryBatchingLoop_qf _ _ _ _ _ _ _ _ _ hl⟩

theorem maybeSendAppend_hf {a r r' : Raft} {to : Nat} {pr pr' : Progress} {ae b : Bool}
    (h : r.maybeSendAppend to pr ae = .ok (r', pr', b)) (h0 : HF a r) : HF a r' :=
  maybeSendAppend_parts h h0 (prepareSendSnapshot_hf · h0) (tryBatching_hf · h0) fun hs ht =>
    send_hf hs (ht.elim (plainT_of_eq · rfl) (plainT_of_eq · rfl))

theorem sendAppendPr_hf {a r r' : Raft} {to : Nat} {pr pr' : Progress}
    (h : r.sendAppendPr to pr = .ok (r', pr')) (h0 : HF a r) : HF a r' :=
  sendAppendPr_parts h (maybeSendAppend_hf · h0)

theorem sendHeartbeat_hf {a r r' : Raft} {to : Nat} {pr : Progress} {ctx : Option Bytes}
    (h : r.sendHeartbeat to pr ctx = .ok r') (h0 : HF a r) : HF a r' := by
  unfold Raft.sendHeartbeat at h
  exact send_hf h rfl h0

theorem sendAppend_hf {a r r' : Raft} {to : Nat}
    (h : r.sendAppend to = .ok r') (h0 : HF a r) : HF a r' :=
  sendAppend_parts h (sendAppendPr_hf · h0) fun _ => HF.set _ _

theorem sendAppendAggressively_hf {a r r' : Raft} {to : Nat}
    (h : r.sendAppendAggressively to = .ok r') (h0 : HF a r) : HF a r' :=
  sendAppendAggressively_parts h
    (sendAppendAggressivelyPr_parts maybeSendAppend_hf _ _ _ · h0) fun _ => HF.set _ _

theorem bcastAppend_hf {a r r' : Raft} (h : r.bcastAppend = .ok r') (h0 : HF a r) : HF a r' :=
  bcastAppend_parts h h0 sendAppendPr_hf fun _ _ => HF.set _ _

theorem bcastHeartbeatWithCtx_hf {a r r' : Raft} {ctx : Option Bytes}
    (h : r.bcastHeartbeatWithCtx ctx = .ok r') (h0 : HF a r) : HF a r' :=
  bcastHeartbeatWithCtx_parts h h0 sendHeartbeat_hf fun _ _ => HF.set _ _

theorem bcastHeartbeat_hf {a r r' : Raft} (h : r.bcastHeartbeat = .ok r') (h0 : HF a r) :
    HF a r' := by
  unfold Raft.bcastHeartbeat at h
  exact bcastHeartbeatWithCtx_hf h h0

theorem ping_hf {a r r' : Raft} (h : r.ping = .ok r') (h0 : HF a r) : HF a r' :=
  ping_parts h h0 fun hb _ => bcastHeartbeat_hf hb h0

theorem maybeCommit_hf {a r r' : Raft} {b : Bool} (h : r.maybeCommit = .ok (r', b))
    (h0 : HF a r) : HF a r' :=
  maybeCommit_parts h h0 (fun hl => h0.log (maybeCommit_store hl)) fun _ => HF.modify _ _

theorem maybeIncreaseUncommittedSize_hf {a r r' : Raft} {es : List Entry} {b : Bool}
    (h : r.maybeIncreaseUncommittedSize es = (r', b)) (h0 : HF a r) : HF a r' := by
  unfold Raft.maybeIncreaseUncommittedSize at h
  split at h
  cases h
  exact h0.upd

theorem appendEntry_hf {a r r' : Raft} {es : List Entry} {b : Bool}
    (h : r.appendEntry es = .ok (r', b)) (h0 : HF a r) : HF a r' :=
  appendEntry_parts h h0 (maybeIncreaseUncommittedSize_hf · h0)
    fun ha p => p.log (C06.append_store ha)

theorem handleReadyReadIndex_hf {a r r' : Raft} {req : Message} {i : Nat} {om : Option Message}
    (h : r.handleReadyReadIndex req i = .ok (r', om)) (h0 : HF a r) : HF a r' :=
  handleReadyReadIndex_parts h h0 fun _ => h0.upd

theorem respondReadStates_hf {a r r' : Raft} {rss : List ReadIndexStatus}
    (h : r.respondReadStates rss = .ok r') (h0 : HF a r) : HF a r' :=
  respondReadStates_parts h h0 handleReadyReadIndex_hf (sendT_hf rfl)

/-! ### leader side -/

theorem checkQuorumActive_hf {a r r' : Raft} {b : Bool} (h : r.checkQuorumActive = (r', b))
    (h0 : HF a r) : HF a r' := by
  unfold Raft.checkQuorumActive at h
  split at h
  rename_i prs b1 heq
  cases h
  unfold ProgressTracker.quorumRecentlyActive at heq
  cases heq
  refine h0.mk' rfl ?_
  rw [List.map_map]
  refine List.map_congr_left fun p _ => ?_
  dsimp only [Function.comp]
  split <;> rfl

theorem handleHeartbeatResponse_hf {a r r' : Raft} {m : Message}
    (h : r.handleHeartbeatResponse m = .ok r') (h0 : HF a r) : HF a r' :=
  handleHeartbeatResponse_parts h h0 (sendAppendPr_hf · h0) (fun _ => HF.set _ _) (fun _ => HF.upd)
    respondReadStates_hf

theorem handleSnapshotStatus_hf {a r : Raft} {m : Message} (h0 : HF a r) :
    HF a (r.handleSnapshotStatus m) := by
  unfold Raft.handleSnapshotStatus
  split
  · exact h0
  · split
    · exact h0
    · exact h0.set _ _

theorem handleUnreachable_hf {a r : Raft} {m : Message} (h0 : HF a r) :
    HF a (r.handleUnreachable m) := by
  unfold Raft.handleUnreachable
  split
  · exact h0
  · split
    · exact h0.set _ _
    · exact h0

/-! ### follower side -/

theorem sendRequestSnapshot_hf {a r r' : Raft} (h : r.sendRequestSnapshot = .ok r')
    (h0 : HF a r) : HF a r' :=
  sendRequestSnapshot_parts h h0 (sendT_hf rfl)

theorem handleAppendEntries_hf {a r r' : Raft} {m : Message}
    (h : r.handleAppendEntries m = .ok r') (h0 : HF a r) : HF a r' :=
  handleAppendEntries_parts h h0 sendRequestSnapshot_hf (fun ha => h0.log (maybeAppend_store ha))
    (sendT_hf rfl)

theorem handleHeartbeat_hf {a r r' : Raft} {m : Message}
    (h : r.handleHeartbeat m = .ok r') (h0 : HF a r) : HF a r' :=
  handleHeartbeat_parts h (fun hc => h0.log (C06.commitTo_store hc)) sendRequestSnapshot_hf
    (sendT_hf rfl)

theorem requestSnapshot_hf {a r r' : Raft} {e : Option RaftError}
    (h : r.requestSnapshot = .ok (r', e)) (h0 : HF a r) : HF a r' :=
  requestSnapshot_parts h h0 (fun _ => HF.upd) sendRequestSnapshot_hf

/-! ### bookkeeping calls -/

theorem onPersistSnap_hf {a r r' : Raft} {i : Nat} (h : r.onPersistSnap i = .ok r') (h0 : HF a r) :
    HF a r' :=
  onPersistSnap_parts h fun hp => h0.log (C06.maybePersistSnap_store hp)

theorem onPersistEntries_hf {a r r' : Raft} {i t : Nat} (h : r.onPersistEntries i t = .ok r')
    (h0 : HF a r) : HF a r' :=
  onPersistEntries_parts h (fun hp => h0.log (C06.maybePersist_store hp)) (fun _ => HF.set _ _)
    (fun _ => maybeCommit_hf) (fun _ => bcastAppend_hf)

theorem commitApplyInternal_hf {a r r' : Raft} {i : Nat} {b : Bool}
    (h : r.commitApplyInternal i b = .ok r') (h0 : HF a r) : HF a r' :=
  commitApplyInternal_parts h
    (fun hl => h0.log (by
      split at hl
      · exact C06.appliedTo_store hl
      · split at hl
        · cases hl
        · cases hl; rfl))
    (fun _ => appendEntry_hf) (fun _ => HF.upd)

theorem commitApply_hf {a r r' : Raft} {i : Nat} (h : r.commitApply i = .ok r') (h0 : HF a r) :
    HF a r' := commitApplyInternal_hf h h0

theorem reduceUncommittedSize_hf {a r : Raft} {es : List Entry} (h0 : HF a r) :
    HF a (r.reduceUncommittedSize es) := by
  unfold Raft.reduceUncommittedSize
  split
  · exact h0
  · exact h0.upd

theorem adjustMaxInflightMsgs_hf {a r r' : Raft} {t c : Nat}
    (h : r.adjustMaxInflightMsgs t c = .ok r') (h0 : HF a r) : HF a r' := by
  unfold Raft.adjustMaxInflightMsgs at h
  split at h
  · cases h; exact h0
  · split at h
    · cases h; exact h0.set _ _
    · cases h

theorem enableGroupCommit_hf {a r r' : Raft} {b : Bool}
    (h : r.enableGroupCommit b = .ok r') (h0 : HF a r) : HF a r' :=
  enableGroupCommit_parts h h0.upd (fun _ => maybeCommit_hf) (fun _ => bcastAppend_hf)

theorem assignCommitGroups_hf {a r r' : Raft} {ids : List (Nat × Nat)}
    (h : r.assignCommitGroups ids = .ok r') (h0 : HF a r) : HF a r' :=
  assignCommitGroups_parts h h0 (fun _ _ => HF.modify _ _) (fun _ => maybeCommit_hf)
    (fun _ => bcastAppend_hf)

theorem filterProposalEntry_hf {a r r' : Raft} {i : Nat} {e e' : Entry}
    (h : r.filterProposalEntry i e = some (r', e')) (h0 : HF a r) : HF a r' :=
  filterProposalEntry_parts h h0 fun _ => h0.upd

theorem filterProposal_hf {a : Raft} : ∀ (es : List Entry) (r r' : Raft) (i : Nat)
    (oes : Option (List Entry)), r.filterProposal i es = (r', oes) → HF a r → HF a r' :=
  filterProposal_parts filterProposalEntry_hf

end Raft
end RaftModel
