import RaftProofs.ClusterRead4A

/-!
Cluster-level ReadIndex safety with forwarded reads, helper lemmas part C: the transitive relation
`RS r r'` ("`r'` is reached from `r` by steps that do not use the read path: the `ReadOnly` bookkeeping
is untouched and the term is the same, or the bookkeeping was cleared by `reset`; the term does not
decrease; read states, id, configuration and the queued messages of the read path are untouched") and
its proof for the role changes, `poll`, `campaign`, `hup`, `maybe_commit_by_vote`.
-/
namespace RaftModel
namespace Raft
namespace RD
namespace R4
open VoteOb

structure RS (r r' : Raft) : Prop where
  keep : (r'.readOnly = r.readOnly ∧ r'.term = r.term) ∨
    r'.readOnly = ReadOnly.new r.readOnly.option
  tle : r.term ≤ r'.term
  rs : r'.readStates = r.readStates
  id : r'.id = r.id
  conf : r'.prs.conf = r.prs.conf
  rd : rdOf r'.msgs = rdOf r.msgs

theorem RS.refl (r : Raft) : RS r r := ⟨.inl ⟨rfl, rfl⟩, Nat.le_refl _, rfl, rfl, rfl, rfl⟩

theorem RF.toRS {r r' : Raft} (h : RF r r') : RS r r' :=
  ⟨.inl ⟨h.ro, h.term⟩, Nat.le_of_eq h.term.symm, h.rs, h.id, h.conf, h.rd⟩

theorem RS.option {r r' : Raft} (h : RS r r') : r'.readOnly.option = r.readOnly.option := by
  rcases h.keep with ⟨g, _⟩ | g <;> rw [g] <;> rfl

theorem RS.trans {a b c : Raft} (h1 : RS a b) (h2 : RS b c) : RS a c := by
  refine ⟨?_, Nat.le_trans h1.tle h2.tle, h2.rs.trans h1.rs, h2.id.trans h1.id,
    h2.conf.trans h1.conf, h2.rd.trans h1.rd⟩
  rcases h2.keep with ⟨g1, g2⟩ | g
  · rcases h1.keep with ⟨k1, k2⟩ | k
    · exact .inl ⟨g1.trans k1, g2.trans k2⟩
    · exact .inr (g1.trans k)
  · right; rw [g, h1.option]

theorem RS.voters {r r' : Raft} (h : RS r r') : r'.prs.voters = r.prs.voters := by
  unfold ProgressTracker.voters; rw [h.conf]

theorem RS.post_rf {r r1 : Raft} {x : Res Raft} (h : RS r r1)
    (hx : Res.Post (fun y => RF r1 y) x) : Res.Post (fun y => RS r y) x :=
  Res.post_mono hx (fun _ hy => h.trans hy.toRS)

/-! ### `reset` and the role changes -/

theorem reset_rs (r : Raft) (t : Nat) (ht : r.term ≤ t) : RS r (r.reset t) := by
  obtain ⟨h1, _, _, _, h5, _, h7, _⟩ := c02_reset_fields r t
  obtain ⟨e1, e2⟩ := reset_read r t
  exact ⟨.inr e1, by rw [(reset_term_vote r t).1]; exact ht, e2, h1, h5, by rw [h7]⟩

theorem becomeFollower_rs (r : Raft) (t l : Nat) (ht : r.term ≤ t) :
    RS r (r.becomeFollower t l) := by
  have h := reset_rs r t ht
  unfold becomeFollower
  exact ⟨h.keep, h.tle, h.rs, h.id, h.conf, h.rd⟩

theorem becomeCandidate_rs (r : Raft) : Res.Post (fun r' => RS r r') r.becomeCandidate := by
  unfold becomeCandidate
  split
  · trivial
  · split
    · trivial
    · have h := reset_rs r (r.term + 1) (Nat.le_succ _)
      exact ⟨h.keep, h.tle, h.rs, h.id, h.conf, h.rd⟩

theorem becomePreCandidate_rs (r : Raft) : Res.Post (fun r' => RS r r') r.becomePreCandidate := by
  unfold becomePreCandidate
  split
  · trivial
  · exact RF.toRS (by simp [RF, rcore, ProgressTracker.resetVotes])

theorem becomeLeader_rs (r : Raft) : Res.Post (fun r' => RS r r') r.becomeLeader :=
  have h := reset_rs r r.term (Nat.le_refl _)
  Res.post_intro fun _ hb => becomeLeader_parts2 (P := RS r) (R := RS r) hb
    ⟨h.keep, h.tle, h.rs, h.id, h.conf, h.rd⟩
    (fun _ _ _ _ p => ⟨p.keep, p.tle, p.rs, p.id, by rw [← p.conf]; rfl, p.rd⟩)
    fun ha p => p.trans ((appendEntry_rf _ _).of_eq ha).toRS

/-! ### `campaign`, `poll`, `hup` -/

theorem sendVoteRequests_rs (r : Raft) (ct : CampaignType) (vm : MsgType) (term : Nat)
    (hvm : vm = .msgRequestVote ∨ vm = .msgRequestPreVote) :
    Res.Post (fun r' => RS r r') (r.sendVoteRequests ct vm term) :=
  Res.post_intro fun _ h =>
    (sendVoteRequests_parts (P := fun x => RF r x) h (RF.refl r) fun hs ht p =>
      p.step (send_rf _ _ (by rw [ht]; rcases hvm with g | g <;> rw [g] <;> rfl)) hs).toRS

/-- the parts of `poll` and `campaign` -/
theorem poll_rs (r : Raft) (frm : Nat) (t : MsgType) (v : Bool) :
    Res.Post (fun x => RS r x.1) (r.poll frm t v) :=
  Res.post_intro fun _ h => poll_parts (P := RS r) h (RS.refl r)
    (fun _ _ p => p.trans (RF.toRS (by simp [RF, rcore, ProgressTracker.recordVote]; split <;> rfl)))
    (fun hl p => p.trans ((becomeLeader_rs _).of_eq hl))
    (fun hb p => p.trans ((bcastAppend_rf _).of_eq hb).toRS)
    (fun p => p.trans (becomeFollower_rs _ _ 0 (Nat.le_refl _)))
    (fun hp p => p.trans ((becomePreCandidate_rs _).of_eq hp))
    (fun hc p => p.trans ((becomeCandidate_rs _).of_eq hc))
    fun hs hvm p => p.trans ((sendVoteRequests_rs _ _ _ _ hvm.symm).of_eq hs)

theorem campaign_rs (r : Raft) (ct : CampaignType) :
    Res.Post (fun x => RS r x) (r.campaign ct) :=
  Res.post_intro fun _ h => campaign_parts (P := RS r) h (RS.refl r)
    (fun _ _ p => p.trans (RF.toRS (by simp [RF, rcore, ProgressTracker.recordVote]; split <;> rfl)))
    (fun hl p => p.trans ((becomeLeader_rs _).of_eq hl))
    (fun hb p => p.trans ((bcastAppend_rf _).of_eq hb).toRS)
    (fun p => p.trans (becomeFollower_rs _ _ 0 (Nat.le_refl _)))
    (fun hp p => p.trans ((becomePreCandidate_rs _).of_eq hp))
    (fun hc p => p.trans ((becomeCandidate_rs _).of_eq hc))
    fun hs hvm p => p.trans ((sendVoteRequests_rs _ _ _ _ hvm.symm).of_eq hs)

theorem hup_rs (r : Raft) (b : Bool) : Res.Post (fun x => RS r x) (r.hup b) :=
  Res.post_intro fun _ h => hup_parts (P := fun x => RS r x) h (RS.refl r)
    fun _ hc => Res.Post.of_eq (campaign_rs _ _) hc

theorem maybeCommitByVote_rs (r : Raft) (m' : Message) :
    Res.Post (fun x => RS r x) (r.maybeCommitByVote m') :=
  Res.post_intro fun _ h => maybeCommitByVote_parts (P := RS r) h (RS.refl r)
    (fun _ => RF.toRS (by simp [RF, rcore]))
    fun p => p.trans (becomeFollower_rs _ _ 0 (Nat.le_refl _))

end R4
end RD
end Raft
end RaftModel
