import RaftProofs.ProtoVStep
import RaftProofs.ProtoQuorum
import RaftProofs.ProtoLog
import RaftProofs.ProtoFlow

/-!
The **log layer** of P: every list of entries that exists anywhere in the system (volatile and
durable logs, pending images, acknowledged prefixes, snapshots, append messages) is a
*prefix-from-leader* list with respect to the ghost leader logs `llog`; leaders' logs are the ghost
logs of their terms; ghost logs only grow by extension.  Consequence: Log Matching for every pair
of lists, in every reachable state.
-/
namespace RaftModel.P

/-- every list of entries held inside one node: logs, images, acknowledged prefixes (generated,
covered by an image, covered by the durable image), voters' logs recorded with generated grants -/
def nodeLists (n : PNode) (l : List LEntry) : Prop :=
  l = n.log ∨ l = n.dlog ∨
  (∃ im ∈ n.pending, l = im.log ∨ ∃ t f idx, OMsg.ack t f idx l ∈ im.acks) ∨
  (∃ t f idx, OMsg.ack t f idx l ∈ n.outbox) ∨
  (∃ t f idx, OMsg.ack t f idx l ∈ n.dacks) ∨
  (∃ t v c gh, OMsg.grant t v c gh ∈ n.outbox ∧ gh.vlog = l)

/-- every list of entries that exists in the system -/
def listsOf (s : PSys) (l : List LEntry) : Prop :=
  (∃ i, nodeLists (s.nodes i) l) ∨
  (∃ a ∈ s.acks, l = a.pre) ∨ (∃ m ∈ s.snaps, l = m.pre) ∨ (∃ t, l = s.llog t) ∨
  (∃ p ∈ s.rgv, l = p.2.vlog) ∨ (∃ t, l = s.elog t)

theorem listsOf_log (s : PSys) (i : Nat) : listsOf s (s.nodes i).log := Or.inl ⟨i, Or.inl rfl⟩
theorem listsOf_dlog (s : PSys) (i : Nat) : listsOf s (s.nodes i).dlog := Or.inl ⟨i, Or.inr (Or.inl rfl)⟩
theorem listsOf_acks (s : PSys) (a : Ack) (h : a ∈ s.acks) : listsOf s a.pre := Or.inr (Or.inl ⟨a, h, rfl⟩)
theorem listsOf_snap (s : PSys) (m : Snap) (h : m ∈ s.snaps) : listsOf s m.pre := Or.inr (Or.inr (Or.inl ⟨m, h, rfl⟩))
theorem listsOf_llog (s : PSys) (t : Nat) : listsOf s (s.llog t) := Or.inr (Or.inr (Or.inr (Or.inl ⟨t, rfl⟩)))

/-- a released append is a slice of the ghost log of its term, anchored in it -/
structure MsgOk (s : PSys) (m : App) : Prop where
  hl : ∃ j, (m.term, j) ∈ s.elected
  len : m.prev + m.es.length ≤ (s.llog m.term).length
  slice : m.es = ((s.llog m.term).drop m.prev).take m.es.length
  anchor : m.prevTerm = termAt (s.llog m.term) m.prev

structure InvL (s : PSys) : Prop where
  pfl : ∀ l, listsOf s l → PFL s.llog l
  msg : ∀ m ∈ s.apps, MsgOk s m
  lterm : ∀ t e, e ∈ s.llog t → 1 ≤ e.term ∧ e.term ≤ t
  nole : ∀ t, (∀ j, (t, j) ∉ s.elected) → s.llog t = []
  ll : ∀ i, (s.nodes i).role = 2 → (s.nodes i).log = s.llog (s.nodes i).term
  tle : ∀ i, (∀ e ∈ (s.nodes i).log, e.term ≤ (s.nodes i).term) ∧
             (∀ e ∈ (s.nodes i).dlog, e.term ≤ (s.nodes i).dterm) ∧
             (∀ im ∈ (s.nodes i).pending, ∀ e ∈ im.log, e.term ≤ im.term)
  stle : ∀ m ∈ s.snaps, ∀ e ∈ m.pre, e.term ≤ m.term
  cand : ∀ i, (s.nodes i).role = 1 → ((s.nodes i).term, i) ∉ s.elected
  pos : ∀ i, (s.nodes i).role ≠ 0 → 0 < (s.nodes i).term

theorem invL_init : InvL init := by
  constructor
  · intro l hl
    have : l = [] := by
      rcases hl with ⟨i, hn⟩ | ⟨a, ha, _⟩ | ⟨m, hm, _⟩ | ⟨t, h⟩ | ⟨p, hp, _⟩ | ⟨t, h⟩
      · rcases hn with h | h | ⟨im, him, _⟩ | ⟨t, f, idx, h⟩ | ⟨t, f, idx, h⟩ | ⟨t, v, c, gh, h, _⟩
        · simpa [init] using h
        · simpa [init] using h
        · simp [init] at him
        · simp [init] at h
        · simp [init] at h
        · simp [init] at h
      · simp [init] at ha
      · simp [init] at hm
      · simpa [init] using h
      · simp [init] at hp
      · simpa [init] using h
    rw [this]; exact PFL_nil _
  · intro m hm; simp [init] at hm
  · intro t e he; simp [init] at he
  · intro t _; rfl
  · intro i h; simp [init] at h
  · intro i; simp [init]
  · intro m hm; simp [init] at hm
  · intro i h; simp [init] at h
  · intro i h; simp [init] at h

/-- an entry of a PFL list has a positive term bounded by its own term's leader log -/
theorem pfl_term_pos {s : PSys} (h : InvL s) {l : List LEntry} (hl : PFL s.llog l) {e : LEntry}
    (he : e ∈ l) : 1 ≤ e.term := by
  obtain ⟨i, hi⟩ := List.getElem?_of_mem he
  have := PFL_mem hl i e hi
  exact (h.lterm e.term e (List.mem_of_getElem? this)).1

/-- a released append stays a slice of the ghost log of its term when the ghost logs are extended -/
theorem MsgOk.ext {s s' : PSys} {m : App} (ok : MsgOk s m) (hext : ∀ t, ∃ r, s'.llog t = s.llog t ++ r)
    (hels : ∀ p ∈ s.elected, p ∈ s'.elected) : MsgOk s' m := by
  obtain ⟨r, hr⟩ := hext m.term
  have hlen := ok.len
  refine ⟨ok.hl.imp fun j hj => hels _ hj, by rw [hr, List.length_append]; omega, ?_, ?_⟩
  · rw [hr, List.drop_append_of_le_length (by omega),
      List.take_append_of_le_length (by rw [List.length_drop]; omega)]
    exact ok.slice
  · rw [hr, termAt_append_left _ _ (by omega)]; exact ok.anchor

/-- **Log Matching** for any two lists of the system -/
theorem logMatching_of_invL {s : PSys} (h : InvL s) (l1 l2 : List LEntry) (h1 : listsOf s l1)
    (h2 : listsOf s l2) (k : Nat) (x y : LEntry) (hx : l1[k]? = some x) (hy : l2[k]? = some y)
    (ht : x.term = y.term) : l1.take (k + 1) = l2.take (k + 1) :=
  PFL_agree (h.pfl l1 h1) (h.pfl l2 h2) hx hy ht

/-- every list inside node `i` is prefix-from-leader -/
theorem keep_node (s : PSys) (h : InvL s) (i : Nat) : ∀ l, nodeLists (s.nodes i) l → PFL s.llog l :=
  fun l hl => h.pfl l (Or.inl ⟨i, hl⟩)
theorem keep_log (s : PSys) (h : InvL s) (i : Nat) : PFL s.llog (s.nodes i).log := h.pfl _ (listsOf_log s i)
theorem keep_dlog (s : PSys) (h : InvL s) (i : Nat) : PFL s.llog (s.nodes i).dlog := h.pfl _ (listsOf_dlog s i)

/-- the prefix carried by an acknowledgement a node knows, the log recorded with a grant in its outbox -/
theorem pfl_ack {s : PSys} (h : InvL s) {i t f idx : Nat} {pre : List LEntry}
    (ha : nodeAcks (s.nodes i) (.ack t f idx pre)) : PFL s.llog pre := by
  rcases ha with ha | ⟨im, him, ha⟩ | ha
  · exact keep_node s h i pre (Or.inr (Or.inr (Or.inr (Or.inl ⟨t, f, idx, ha⟩))))
  · exact keep_node s h i pre (Or.inr (Or.inr (Or.inl ⟨im, him, Or.inr ⟨t, f, idx, ha⟩⟩)))
  · exact keep_node s h i pre (Or.inr (Or.inr (Or.inr (Or.inr (Or.inl ⟨t, f, idx, ha⟩)))))

theorem pfl_grant {s : PSys} (h : InvL s) {i t v c : Nat} {gh : VGhost}
    (hg : OMsg.grant t v c gh ∈ (s.nodes i).outbox) : PFL s.llog gh.vlog :=
  keep_node s h i _ (Or.inr (Or.inr (Or.inr (Or.inr (Or.inr ⟨t, v, c, gh, hg, rfl⟩)))))

/-- what the guard of `recvApp` (and of `commitApp`) means against the ghost log of the message's term:
the message is a slice inside that log, the node's log agrees with it up to the anchor, and the merged
log is the node's log (which then agrees with the ghost log up to the end of the message) or the prefix
of the ghost log up to the end of the message -/
theorem recvApp_sem {s : PSys} (h : InvL s) {i : Nat} {m : App} (hm : m ∈ s.apps)
    (hprev : m.prev ≤ (s.nodes i).log.length) (hpt : termAt (s.nodes i).log m.prev = m.prevTerm) :
    MsgOk s m ∧ (s.nodes i).log.take m.prev = (s.llog m.term).take m.prev ∧
    ((mergeAt (s.nodes i).log m.prev m.es = (s.nodes i).log ∧
        (s.nodes i).log.take (m.prev + m.es.length) = (s.llog m.term).take (m.prev + m.es.length)) ∨
      mergeAt (s.nodes i).log m.prev m.es = (s.llog m.term).take (m.prev + m.es.length)) := by
  have ok := h.msg m hm
  have hLL : PFL s.llog (s.llog m.term) := h.pfl _ (listsOf_llog s m.term)
  have hpre := anchor_take (keep_log s h i) hLL hprev (by have := ok.len; omega) (hpt.trans ok.anchor)
  exact ⟨ok, hpre, mergeAt_cases s.llog _ hLL m.es _ m.prev (keep_log s h i) hprev hpre ok.slice ok.len⟩

end RaftModel.P
