import RaftModel.ProtoDisc
import RaftProofs.ProtoCfg

/-!
The discipline layer **PD** over PC (`RaftModel/ProtoDisc.lean`) — definitions and basic lemmas.

* `One l c`: the list `l` holds at most one membership-change entry beyond index `c`;
* what an accepted event of PD is, event by event (`stepD_*`);
* `reach_pc`: every PD history is a PC history.
-/
namespace RaftModel.P

/-! ### "at most one membership-change entry beyond index `c`" -/

def One (l : List LEntry) (c : Nat) : Prop := confCount l ≤ confCount (l.take c) + 1

theorem One.mono {l : List LEntry} {c c' : Nat} (h : One l c) (hc : c ≤ c') : One l c' := by
  unfold One at *
  have := confCount_take_mono l hc
  omega

theorem One.of_len {l : List LEntry} {c : Nat} (h : l.length ≤ c) : One l c := by
  unfold One
  rw [List.take_of_length_le h]
  omega

theorem One.take {l : List LEntry} {c : Nat} (h : One l c) (K : Nat) : One (l.take K) c := by
  unfold One at *
  rw [List.take_take]
  by_cases hk : c ≤ K
  · rw [Nat.min_eq_left hk]
    have := confCount_take_le l K
    omega
  · rw [Nat.min_eq_right (by omega)]
    omega

theorem confCount_snoc (l : List LEntry) (e : LEntry) :
    confCount (l ++ [e]) = confCount l + (if isConf e then 1 else 0) := by
  rw [confCount_append]
  congr 1
  unfold confCount
  by_cases h : isConf e <;> simp [h]

/-- no membership-change entry beyond `a`: the counts agree from `a` on -/
theorem confCount_take_ge {l : List LEntry} {a b : Nat} (h : confCount l = confCount (l.take a)) (hab : a ≤ b) :
    confCount (l.take b) = confCount l := by
  have h1 := confCount_take_mono l hab
  have h2 := confCount_take_le l b
  omega

/-- a node's commit index lies inside its log -/
theorem commit_le_len {s : PSys} (h3 : InvC3 s) (i : Nat) : (s.nodes i).commit ≤ (s.nodes i).log.length := by
  rcases h3.cm i with h0 | ⟨p, hp, h1, _, h2⟩
  · omega
  · have := (h3.cq p hp).2.1
    exact len_of_take_eq h2 (by omega)

/-! ### accepted events of PD, unpacked -/

theorem liftC_ok {D D' : DSys} {r : Except String CSys} (h : liftC D r = .ok D') :
    ∃ S, r = .ok S ∧ D' = { D with pc := S } := by
  cases r with
  | ok S => simp only [liftC] at h; injection h with h; exact ⟨S, rfl, h.symm⟩
  | error x => simp [liftC] at h

theorem stepD_pc {D D' : DSys} {e : CEvent} (h : applyEventD D (.pc e) = .ok D') :
    refined e = false ∧ ∃ S, applyEventC D.pc e = .ok S ∧ D' = { D with pc := S } := by
  simp only [applyEventD] at h
  split at h
  · cases h
  · rename_i hr
    exact ⟨by simpa using hr, liftC_ok h⟩

theorem stepD_apply {D D' : DSys} {i k : Nat} (h : applyEventD D (.apply i k) = .ok D') :
    (D.pc.base.nodes i).up = true ∧ D.applied i ≤ k ∧ k ≤ (D.pc.base.nodes i).commit ∧
    D' = { D with applied := updN D.applied i k } := by
  obtain ⟨hg, rfl⟩ := of_guard_ok h
  exact ⟨hg.1, hg.2.1, hg.2.2, rfl⟩

theorem stepD_restart {D D' : DSys} {i a : Nat} (h : applyEventD D (.restart i a) = .ok D') :
    a ≤ (D.pc.base.nodes i).dcommit ∧ ∃ S, applyEventC D.pc (.base (.restart i)) = .ok S ∧
    D' = { D with pc := S, applied := updN D.applied i a } := by
  obtain ⟨hg, h⟩ := of_guard h
  split at h
  · rename_i S hS; exact ⟨hg, S, hS, (Except.ok.inj h).symm⟩
  · cases h

theorem stepD_campaign {D D' : DSys} {i : Nat} (h : applyEventD D (.campaign i) = .ok D') :
    D.applied i ≤ (D.pc.base.nodes i).commit ∧
    confCount ((D.pc.base.nodes i).log.take (D.pc.base.nodes i).commit) =
      confCount ((D.pc.base.nodes i).log.take (D.applied i)) ∧
    ∃ S, applyEventC D.pc (.base (.campaign i)) = .ok S ∧ D' = { D with pc := S } := by
  obtain ⟨hg, h⟩ := of_guard h
  exact ⟨hg.1, hg.2, liftC_ok h⟩

theorem stepD_win {D D' : DSys} {i : Nat} {cfg : Cfg} {q : List Nat} {applied : Nat}
    (h : applyEventD D (.win i cfg q applied) = .ok D') :
    applied = D.applied i ∧ ∃ S, applyEventC D.pc (.win i cfg q applied) = .ok S ∧
    D' = { D with pc := S, pconf := updN D.pconf i (D.pc.base.nodes i).log.length } := by
  obtain ⟨hg, h⟩ := of_guard h
  split at h
  · rename_i S hS; exact ⟨hg, S, hS, (Except.ok.inj h).symm⟩
  · cases h

theorem stepD_leaderAppend {D D' : DSys} {i : Nat} {e : LEntry} (h : applyEventD D (.leaderAppend i e) = .ok D') :
    ∃ S, applyEventC D.pc (.base (.leaderAppend i e)) = .ok S ∧
    ((isConf e = true ∧ D.pconf i ≤ D.applied i ∧
        D' = { D with pc := S, pconf := updN D.pconf i ((D.pc.base.nodes i).log.length + 1) }) ∨
     (isConf e = false ∧ D' = { D with pc := S })) := by
  simp only [applyEventD] at h
  split at h
  · rename_i hc
    split at h
    · rename_i hg
      split at h
      · rename_i S hS
        injection h with h
        exact ⟨S, hS, Or.inl ⟨hc, hg, h.symm⟩⟩
      · cases h
    · cases h
  · rename_i hc
    obtain ⟨S, hS, hD⟩ := liftC_ok h
    exact ⟨S, hS, Or.inr ⟨by simpa using hc, hD⟩⟩

theorem stepD_sendApp {D D' : DSys} {i : Nat} {m : App} (h : applyEventD D (.sendApp i m) = .ok D') :
    m.commit = (D.pc.base.nodes i).commit ∧
    ∃ S, applyEventC D.pc (.base (.sendApp i m)) = .ok S ∧ D' = { D with pc := S } := by
  obtain ⟨hg, h⟩ := of_guard h
  exact ⟨hg, liftC_ok h⟩

theorem stepD_recvAppC {D D' : DSys} {i : Nat} {m : App} (h : applyEventD D (.recvAppC i m) = .ok D') :
    ∃ S, applyEventC D.pc (.base (.recvApp i m)) = .ok S ∧
    (((S.base.nodes i).commit < min m.commit (m.prev + m.es.length) ∧
        ∃ S2, applyEventC S (.base (.commitApp i (min m.commit (m.prev + m.es.length)) m)) = .ok S2 ∧
          D' = { D with pc := S2 }) ∨
     (¬ (S.base.nodes i).commit < min m.commit (m.prev + m.es.length) ∧ D' = { D with pc := S })) := by
  simp only [applyEventD] at h
  split at h
  · rename_i S hS
    split at h
    · rename_i hg
      obtain ⟨S2, hS2, hD⟩ := liftC_ok h
      exact ⟨S, hS, Or.inl ⟨hg, S2, hS2, hD⟩⟩
    · rename_i hg
      injection h with h
      exact ⟨S, hS, Or.inr ⟨hg, h.symm⟩⟩
  · cases h

theorem stepD_commitLeader {D D' : DSys} {i c : Nat} {cfg : Cfg} {q : List Nat} {applied : Nat}
    (h : applyEventD D (.commitLeader i c cfg q applied) = .ok D') :
    applied = D.applied i ∧ ∃ S, applyEventC D.pc (.commitLeader i c cfg q applied) = .ok S ∧
    D' = { D with pc := S } := by
  obtain ⟨hg, h⟩ := of_guard h
  exact ⟨hg, liftC_ok h⟩

theorem stepD_resp {D D' : DSys} {i rid idx : Nat} {cfg : Cfg} {applied : Nat}
    (h : applyEventD D (.resp i rid idx cfg applied) = .ok D') :
    applied = D.applied i ∧ ∃ S, applyEventC D.pc (.resp i rid idx cfg applied) = .ok S ∧
    D' = { D with pc := S } := by
  obtain ⟨hg, h⟩ := of_guard h
  exact ⟨hg, liftC_ok h⟩

theorem stepD_rstate {D D' : DSys} {j rid idx : Nat} {cfg : Cfg} {applied : Nat}
    (h : applyEventD D (.rstate j rid idx cfg applied) = .ok D') :
    (applied = D.applied j ∨ D.pc.base.rd.resps.contains ⟨rid, j, idx⟩ = true) ∧
    ∃ S, applyEventC D.pc (.rstate j rid idx cfg applied) = .ok S ∧ D' = { D with pc := S } := by
  obtain ⟨hg, h⟩ := of_guard h
  exact ⟨hg, liftC_ok h⟩

/-! ### every PD history is a PC history -/

/-- a step of PD, seen from PC: no step, one step, or two steps -/
theorem stepD_steps {D D' : DSys} {e : DEvent} (h : applyEventD D e = .ok D') :
    D'.pc = D.pc ∨ (∃ e', applyEventC D.pc e' = .ok D'.pc) ∨
    (∃ e1 e2 S, applyEventC D.pc e1 = .ok S ∧ applyEventC S e2 = .ok D'.pc) := by
  cases e with
  | pc e =>
    obtain ⟨_, S, hS, hD⟩ := stepD_pc h
    subst hD; exact Or.inr (Or.inl ⟨_, hS⟩)
  | apply i k =>
    obtain ⟨_, _, _, hD⟩ := stepD_apply h
    subst hD; exact Or.inl rfl
  | restart i a =>
    obtain ⟨_, S, hS, hD⟩ := stepD_restart h
    subst hD; exact Or.inr (Or.inl ⟨_, hS⟩)
  | campaign i =>
    obtain ⟨_, _, S, hS, hD⟩ := stepD_campaign h
    subst hD; exact Or.inr (Or.inl ⟨_, hS⟩)
  | win i cfg q applied =>
    obtain ⟨_, S, hS, hD⟩ := stepD_win h
    subst hD; exact Or.inr (Or.inl ⟨_, hS⟩)
  | leaderAppend i e =>
    obtain ⟨S, hS, ⟨_, _, hD⟩ | ⟨_, hD⟩⟩ := stepD_leaderAppend h
    · subst hD; exact Or.inr (Or.inl ⟨_, hS⟩)
    · subst hD; exact Or.inr (Or.inl ⟨_, hS⟩)
  | sendApp i m =>
    obtain ⟨_, S, hS, hD⟩ := stepD_sendApp h
    subst hD; exact Or.inr (Or.inl ⟨_, hS⟩)
  | recvAppC i m =>
    obtain ⟨S, hS, ⟨_, S2, hS2, hD⟩ | ⟨_, hD⟩⟩ := stepD_recvAppC h
    · subst hD; exact Or.inr (Or.inr ⟨_, _, S, hS, hS2⟩)
    · subst hD; exact Or.inr (Or.inl ⟨_, hS⟩)
  | commitLeader i c cfg q applied =>
    obtain ⟨_, S, hS, hD⟩ := stepD_commitLeader h
    subst hD; exact Or.inr (Or.inl ⟨_, hS⟩)
  | resp i rid idx cfg applied =>
    obtain ⟨_, S, hS, hD⟩ := stepD_resp h
    subst hD; exact Or.inr (Or.inl ⟨_, hS⟩)
  | rstate j rid idx cfg applied =>
    obtain ⟨_, S, hS, hD⟩ := stepD_rstate h
    subst hD; exact Or.inr (Or.inl ⟨_, hS⟩)

/-- **every PD history is a PC history** -/
theorem reach_pc {D : DSys} (h : ReachPD D) : ReachPC D.pc := by
  induction h with
  | init => exact ReachPC.init
  | step e _ hs ih =>
    rcases stepD_steps hs with h1 | ⟨e', h1⟩ | ⟨e1, e2, S, h1, h2⟩
    · rw [h1]; exact ih
    · exact ReachPC.step e' ih h1
    · exact ReachPC.step e2 (ReachPC.step e1 ih h1) h2

end RaftModel.P
