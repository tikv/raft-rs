import RaftProofs.ClusterReadK

/-!
Cluster-level ReadIndex safety: **what the read layer uses of the layers below** (`ReadFacts`), so that
it is stated once — for the histories without compaction (`Hyp3w`: C08c, C08e, C08f) and for those with
compaction and snapshots (`ClusterRead2B`: C08d).

* a history with a fixed configuration in which no quorum fits into one node (Election Safety and the
  term floors of the vote layer need no more; `floor`: a leader's term is in its storage);
* `rd`: one step of the history as the read path sees it (`RdStep`: the per-call relations `ROut`,
  `RiOut`, `RiOutD` of `ClusterRead4D–4H`);
* of the commit layer two facts: the commit index of a leader that has committed in its term covers
  the earlier commit events of terms up to its own (`idx_reg`), and an index that does so covers every
  commit index of the moment if no later term was led before (`good`).
-/
namespace RaftModel
namespace Cluster
namespace R4
open Node Raft Raft.RD.R4
open Raft.RD (reqCtx Fresh boot_fresh)

/-- what one step of a history does, for the read path -/
inductive RdStep (cfg : JointConfig) (a b : Sys) : Prop
  /-- a call other than `read_index`, or the delivery of a message `m` of the transport that is not a
  `MsgReadIndex` -/
  | call (k : Nat) (st st' : NState) (m : Message) (hk : a.node k = some st)
      (hb : b = a.setNode k st') (hm : m.msgType = .msgHup ∨ (m ∈ a.net ∧ m.to = k))
      (ho : ROut cfg st.raft m st'.raft)
      (hrir : m.msgType = .msgReadIndexResp →
        (∃ rnd res, Node.call st rnd (.step m) = .ok (res, st')) ∧
        ∀ x ∈ st'.raft.readStates, x ∈ st.raft.readStates ∨
          (st'.raft.state = .follower ∧ (m.term = 0 ∨ m.term = st'.raft.term) ∧
            ∃ en, m.entries = [en] ∧ x = { index := m.index, requestCtx := en.data }))
  /-- a `read_index(K)` call -/
  | read (k : Nat) (st st' : NState) (K : Bytes) (rnd : Option Nat) (res : OpRes)
      (hk : a.node k = some st) (hb : b = a.setNode k st')
      (hcall : Node.call st rnd (.readIndex K) = .ok (res, st'))
      (ho : RiOut st.raft K st'.raft)
  /-- the delivery of a `MsgReadIndex` of the transport -/
  | ri (k : Nat) (st st' : NState) (m : Message) (rnd : Option Nat) (res : OpRes)
      (hk : a.node k = some st) (hb : b = a.setNode k st') (hm : m ∈ a.net) (hto : m.to = k)
      (hty : m.msgType = .msgReadIndex)
      (hcall : Node.call st rnd (.step m) = .ok (res, st'))
      (ho : RiOutD st.raft m st'.raft)
  /-- the queue is handed to the transport; the read states are taken -/
  | send (k : Nat) (st st' : NState) (hk : a.node k = some st)
      (hb : b = { (a.setNode k st') with net := a.net ++ st.raft.msgs })
      (hst : st'.raft = { st.raft with nextRand := none, msgs := [], readStates := [] })
  /-- crash and restart -/
  | restart (k : Nat) (st st' : NState) (hk : a.node k = some st) (hb : b = a.setNode k st')
      (hf : Fresh st'.raft) (hq : st'.raft.msgs = [])

structure ReadFacts (cfg : JointConfig) (c0 : Nat) (h : List Sys) : Prop where
  hist : History h
  fix : ∀ s ∈ h, FixedCfg cfg s
  ne : cfg.incoming ≠ []
  nolone : ∀ (i : Nat) (Q : List Nat), IsJointQuorum cfg Q → ∃ k ∈ Q, k ≠ i
  floor : ∀ s ∈ h, ∀ (k τ : Nat), leads s k τ → TermFloor s k τ
  rd : ∀ (n : Nat) (a b : Sys), h[n]? = some a → h[n + 1]? = some b → RdStep cfg a b
  idx_reg : ∀ (n0 : Nat) (a : Sys) (v : Nat) (st : NState), h[n0]? = some a → a.node v = some st →
    st.raft.state = .leader → st.raft.commitToCurrentTerm = .ok true →
    IdxOK h c0 n0 st.raft.term st.raft.raftLog.committed
  good : ∀ (n0 : Nat) (s0 : Sys) (t r : Nat), h[n0]? = some s0 → IdxOK h c0 n0 t r →
    (∀ n1 s1 l' t', h[n1]? = some s1 → n1 ≤ n0 → leads s1 l' t' → t' ≤ t) →
    ∀ u stu, s0.node u = some stu → stu.raft.raftLog.committed ≤ r

variable {cfg : JointConfig} {c0 : Nat} {h : List Sys}

theorem ReadFacts.id (F : ReadFacts cfg c0 h) {s : Sys} (hs : s ∈ h) {i : Nat} {st : NState}
    (hi : s.node i = some st) : st.raft.id = i :=
  (((hist_all F.hist).1 s hs).ids i st hi).1

theorem ReadFacts.not_singleton (F : ReadFacts cfg c0 h) {s : Sys} (hs : s ∈ h) {i : Nat}
    {st : NState} (hi : s.node i = some st) : st.raft.prs.isSingleton = false :=
  Cluster.not_singleton (F.fix s hs) F.nolone hi

/-- with `Safe` on every node no read is answered at once -/
theorem ReadFacts.not_now (F : ReadFacts cfg c0 h)
    (safe : ∀ s ∈ h, ∀ i st, s.node i = some st → st.raft.readOnly.option = .safe)
    {s : Sys} (hs : s ∈ h) {i : Nat} {st : NState} (hi : s.node i = some st) :
    ¬ (st.raft.prs.isSingleton = true ∨ st.raft.readOnly.option ≠ .safe) := by
  rintro (c | c)
  · rw [F.not_singleton hs hi] at c; cases c
  · exact c (safe s hs i st hi)

/-- a node of `h[n+1]` was there in `h[n]` -/
theorem ReadFacts.node_back (F : ReadFacts cfg c0 h) {n : Nat} {a b : Sys} (ha : h[n]? = some a)
    (hb : h[n + 1]? = some b) {i : Nat} {st' : NState} (hi : b.node i = some st') :
    ∃ st, a.node i = some st :=
  step_node_back (hist_step_at F.hist n a b ha hb) i st' hi

/-- **a call or a delivery, as the read path sees it**; `hsn`: what is known of a delivered
`MsgSnapshot` (which `call_rd` does not cover) -/
theorem RdStep.of_call {a : Sys} {k : Nat} {st st' : NState} {rnd : Option Nat} {op : NodeOp}
    {res : OpRes} (hk : a.node k = some st) (hfa : FixedCfg cfg a)
    (hfb : FixedCfg cfg (a.setNode k st'))
    (hop : appOp op = true ∨ ∃ m, op = .step m ∧ m ∈ a.net ∧ m.to = k)
    (hsn : ∀ m, op = .step m → m ∈ a.net → m.msgType = .msgSnapshot →
      ROut st.raft.prs.voters st.raft m st'.raft)
    (hcall : Node.call st rnd op = .ok (res, st')) : RdStep cfg a (a.setNode k st') := by
  have fin : ∀ (m : Message),
      (∃ V, (V = st.raft.prs.voters ∨ V = st'.raft.prs.voters) ∧ ROut V st.raft m st'.raft) →
      ROut cfg st.raft m st'.raft := by
    rintro m ⟨V, c | c, ho⟩
    · rw [← hfa k st hk, ← c]; exact ho
    · rw [← hfb k st' (node_setNode_self a k st'), ← c]; exact ho
  rcases hop with h2 | ⟨m, rfl, h2, h3⟩
  · by_cases hri : ∃ K, op = .readIndex K
    · obtain ⟨K, rfl⟩ := hri
      exact .read k st st' K rnd res hk rfl hcall (call_riOut hcall)
    · have hop : CV.opMsg op = CV.mLocal := by
        cases op <;> first | rfl | (cases h2; done)
      refine .call k st st' CV.mLocal hk rfl (.inl rfl) (fin _ ?_) (fun hc => by cases hc)
      rw [← hop]
      refine call_rd st st' rnd op res (fun K hK => hri ⟨K, hK⟩) ?_ ?_ hcall
      · intro hc; rw [hc] at h2; cases h2
      · intro m hm
        rcases hm with hm | hm <;> rw [hm] at h2 <;> cases h2
  · by_cases hty : m.msgType = .msgReadIndex
    · exact .ri k st st' m rnd res hk rfl h2 h3 hty hcall (callRi_cases hty hcall)
    · refine .call k st st' m hk rfl (.inr ⟨h2, h3⟩) (fin _ ?_)
        (fun hc => ⟨⟨rnd, res, hcall⟩, RD.callRir_cases hc hcall⟩)
      by_cases hs : m.msgType = .msgSnapshot
      · exact ⟨_, .inl rfl, hsn m rfl h2 hs⟩
      · refine call_rd st st' rnd (.step m) res (fun K hK => by cases hK) (by intro hc; cases hc) ?_
          hcall
        intro m' hm
        have e : m' = m := by
          rcases hm with hm | hm
          · injection hm with hm; exact hm.symm
          · cases hm
        subst e
        exact ⟨hty, hs⟩

/-- **one step, as the read path sees it** -/
theorem RdStep.of_moved {C : Contract} {a b : Sys} {k : Nat} {st st' : NState}
    (M : Moved C a b k st st') (hfa : FixedCfg cfg a) (hfb : FixedCfg cfg b)
    (hsn : ∀ m rnd res, m ∈ a.net → m.msgType = .msgSnapshot →
      Node.call st rnd (.step m) = .ok (res, st') → ROut st.raft.prs.voters st.raft m st'.raft) :
    RdStep cfg a b := by
  have hk := M.hk
  cases M.act with
  | call rnd op res hop _ hcall hnet =>
    cases M.eq_setNode hnet
    exact .of_call hk hfa hfb hop (fun m hm hn hs => by subst hm; exact hsn m rnd res hn hs hcall) hcall
  | send _ _ hst hnet => exact .send k st st' hk (M.eq_send hnet) (congrArg NState.raft hst)
  | restart c rnd _ hboot _ hnet =>
    exact .restart k st st' hk (M.eq_setNode hnet) (boot_fresh c _ rnd st' hboot)
      (CV.boot_booted c _ rnd st' hboot).msgs

/-- **a local invariant of the read path along a history**: `N` speaks of one node (and may read the
transport monotonically), `T` of one transported message; it holds for a fresh node, survives handing
the queue over, and is kept at the moving node by the three kinds of calls `RdStep` tells apart -/
theorem ReadFacts.local_hist (F : ReadFacts cfg c0 h) {N : Nat → List Message → Nat → Raft → Prop}
    {T : Nat → Message → Prop}
    (mono : ∀ {n net net' i r}, (∀ x ∈ net, x ∈ net') → N n net i r → N n net' i r)
    (up : ∀ {n net i r}, N n net i r → N (n + 1) net i r) (upT : ∀ {n x}, T n x → T (n + 1) x)
    (hand : ∀ {n net i r}, N n net i r → ∀ x ∈ r.msgs, T n x)
    (drain : ∀ {n net i} {r : Raft}, N n net i r →
      N n net i { r with nextRand := none, msgs := [], readStates := [] })
    (fresh : ∀ {n net i r}, Fresh r → r.msgs = [] → N n net i r)
    (call : ∀ (n : Nat) (a : Sys) k st st' m, h[n]? = some a → h[n + 1]? = some (a.setNode k st') →
      (∀ i st, a.node i = some st → N n a.net i st.raft) → (∀ x ∈ a.net, T n x) →
      a.node k = some st → (m.msgType = .msgHup ∨ (m ∈ a.net ∧ m.to = k)) →
      ROut cfg st.raft m st'.raft →
      (m.msgType = .msgReadIndexResp →
        (∃ rnd res, Node.call st rnd (.step m) = .ok (res, st')) ∧
        ∀ x ∈ st'.raft.readStates, x ∈ st.raft.readStates ∨
          (st'.raft.state = .follower ∧ (m.term = 0 ∨ m.term = st'.raft.term) ∧
            ∃ en, m.entries = [en] ∧ x = { index := m.index, requestCtx := en.data })) →
      N (n + 1) a.net k st'.raft)
    (read : ∀ (n : Nat) (a : Sys) k st st' K rnd res, h[n]? = some a →
      h[n + 1]? = some (a.setNode k st') →
      (∀ i st, a.node i = some st → N n a.net i st.raft) → (∀ x ∈ a.net, T n x) →
      a.node k = some st → Node.call st rnd (.readIndex K) = .ok (res, st') →
      RiOut st.raft K st'.raft → N (n + 1) a.net k st'.raft)
    (ri : ∀ (n : Nat) (a : Sys) k st st' m rnd res, h[n]? = some a →
      h[n + 1]? = some (a.setNode k st') →
      (∀ i st, a.node i = some st → N n a.net i st.raft) → (∀ x ∈ a.net, T n x) →
      a.node k = some st → m ∈ a.net → m.to = k → m.msgType = .msgReadIndex →
      Node.call st rnd (.step m) = .ok (res, st') → RiOutD st.raft m st'.raft →
      N (n + 1) a.net k st'.raft) :
    ∀ (n : Nat) (s : Sys), h[n]? = some s →
      (∀ i st, s.node i = some st → N n s.net i st.raft) ∧ ∀ x ∈ s.net, T n x := by
  refine hist_induct h _ ?_ ?_
  · intro s h0
    have hi := hist_init F.hist s h0
    refine ⟨fun i st hn => ?_, fun x hx => by rw [hi.1] at hx; cases hx⟩
    obtain ⟨c, store, rnd, _, hb⟩ := hi.2 i st hn
    exact fresh (boot_fresh c store rnd st hb) (CV.boot_booted c store rnd st hb).msgs
  · intro n a b ha hb ⟨ihn, iht⟩
    have key : ∀ k st st', a.node k = some st → b.nodes = (a.setNode k st').nodes →
        (b.net = a.net ∨ b.net = a.net ++ st.raft.msgs) → N (n + 1) b.net k st'.raft →
        (∀ i st, b.node i = some st → N (n + 1) b.net i st.raft) ∧ ∀ x ∈ b.net, T (n + 1) x :=
      fun k st st' hk hnodes hnet moved =>
        local_frame (N := fun net i st => N n net i st.raft)
          (N' := fun net i st => N (n + 1) net i st.raft) (T := T n) (T' := T (n + 1)) hk hnodes
          hnet mono up upT (fun _ => hand (ihn k st hk)) ihn iht moved
    cases F.rd n a b ha hb with
    | call k st st' m hk hbe hm ho hrir =>
      subst hbe
      exact key k st st' hk rfl (.inl rfl)
        (call n a k st st' m ha hb ihn iht hk hm ho hrir)
    | read k st st' K rnd res hk hbe hcall ho =>
      subst hbe
      exact key k st st' hk rfl (.inl rfl)
        (read n a k st st' K rnd res ha hb ihn iht hk hcall ho)
    | ri k st st' m rnd res hk hbe hm hto hty hcall ho =>
      subst hbe
      exact key k st st' hk rfl (.inl rfl)
        (ri n a k st st' m rnd res ha hb ihn iht hk hm hto hty hcall ho)
    | send k st st' hk hbe hst =>
      subst hbe
      refine key k st st' hk rfl (.inr rfl) ?_
      rw [hst]
      exact mono (fun _ g => List.mem_append_left _ g) (up (drain (ihn k st hk)))
    | restart k st st' hk hbe hf hq =>
      subst hbe
      exact key k st st' hk rfl (.inl rfl) (fresh hf hq)

/-- without compaction (`Hyp3w`, C01d) -/
theorem ReadFacts.of_hyp3w (H : Hyp3w cfg c0 h) : ReadFacts cfg c0 h := by
  have H2 := H.toHyp2w
  have H3 := H.toHyp3a
  refine ⟨H2.hist, H2.fix, H2.ne, H2.nolone, fun s hs k τ hl => leader_floor H2 hs hl, ?_,
    fun _ _ _ _ ha hv hl hc => idx_ok_reg H3 ha hv hl hc,
    fun _ _ _ _ hn hi hno => good_ofA H3 hn hi hno⟩
  intro n a b ha hb
  obtain ⟨k, st, st', M⟩ := (H2.steps n a b ha hb).moved
  exact .of_moved M (H2.fix a (mem_of_get ha)) (H2.fix b (mem_of_get hb))
    fun m _ _ hn hs _ => absurd hs (H2.nosnap a (mem_of_get ha) m hn)

end R4
end Cluster
end RaftModel
