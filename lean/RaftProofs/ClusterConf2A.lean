import RaftProofs.ClusterLogK
import RaftProofs.ClusterConfI

/-!
C09 at the cluster level, part 2A: **the representation invariant of every node's log
along plain histories** — no `FixedCfg`, no Election Safety, none of the cross-node clauses of
`InitOk`.

`RaftLog.Inv` is not inductive on its own: a delivered `MsgAppend` must be well-numbered with real
terms (`MsgOk`), hence every `MsgAppend` in the transport and in the queues must be, hence every log
entry must carry a non-zero term, hence candidates and leaders must have a non-zero term.  The five
clauses `inv`, `tz`, `wfq`, `wfn`, `nz` of the Log Matching invariant `InvL`
(`RaftProofs/ClusterLogJ.lean`) are closed under the steps by themselves — they never look at
`own` / `agree` / `fresh` / `dur` / `lead` / `orig` — and that sub-invariant is `InvS` here.  The
per-call lemma is `call_lstep` (`RaftProofs/ClusterLogH.lean`); what it REALLY needs: `Inv` of the
node, `batchAppend = false` of the node, `MsgOk` of a delivered `MsgAppend`, `CompactOk` for `compact`.
-/
namespace RaftModel
namespace Cluster
open Node Raft

/-- the part of `InvL` that is inductive without any ownership of terms -/
structure InvS (s : Sys) : Prop where
  inv : ∀ i st, s.node i = some st → st.raft.raftLog.Inv
  tz : ∀ i st, s.node i = some st → (st.raft.state = .candidate ∨ st.raft.state = .leader) →
    st.raft.term ≠ 0
  wfq : ∀ i st x, s.node i = some st → x ∈ st.raft.msgs → x.msgType = .msgAppend →
    ContigFrom (x.index + 1) x.entries
  wfn : ∀ x, x ∈ s.net → x.msgType = .msgAppend → ContigFrom (x.index + 1) x.entries
  nz : ∀ loc g, At s loc g → ∀ i e, g.entryAt i = some e → e.term ≠ 0

theorem InvS.msgOk {s : Sys} (I : InvS s) {m : Message} (hm : m ∈ s.net)
    (hty : m.msgType = .msgAppend) : MsgOk m := by
  have hc := I.wfn m hm hty
  refine ⟨hc, fun e he => ?_⟩
  have hcg : (msgLog m).Contig := hc
  exact I.nz .net (msgLog m) ⟨m, hm, hty, rfl⟩ e.index e (hcg.entryAt_of_mem he)

/-- one transition of node `k` (the shape of `Trans`, without its Log Matching fields) -/
theorem InvS.move {s s' : Sys} {k : Nat} {st st' : NState} {pers : Prop} (I : InvS s)
    (hk : s.node k = some st) (hk' : s'.node k = some st')
    (oth : ∀ j, j ≠ k → s'.node j = s.node j)
    (prov : Prov s s' k st st' pers)
    (rt : RT st.raft st'.raft ∨ st'.raft.state = .follower)
    (inv' : st'.raft.raftLog.Inv)
    (wfq' : ∀ x ∈ st'.raft.msgs, x.msgType = .msgAppend → ContigFrom (x.index + 1) x.entries)
    (wfn' : ∀ x ∈ s'.net, x ∈ s.net ∨ x ∈ st.raft.msgs) : InvS s' := by
  have node' : ∀ j stj', s'.node j = some stj' →
      (j = k ∧ st' = stj') ∨ (j ≠ k ∧ s.node j = some stj') := by
    intro j stj' hj
    by_cases hjk : j = k
    · subst hjk
      rw [hk'] at hj
      cases hj
      exact .inl ⟨rfl, rfl⟩
    · exact .inr ⟨hjk, by rw [← oth j hjk]; exact hj⟩
  have tzk : (st'.raft.state = .candidate ∨ st'.raft.state = .leader) → st'.raft.term ≠ 0 := by
    intro hs
    rcases rt with rt | hf
    · rcases hs with hs | hs
      · rcases rt.cand hs with c | ⟨c1, c2⟩
        · omega
        · rw [← c1]; exact I.tz k st hk (.inl c2)
      · rcases rt.lead hs with c | ⟨c1, c2 | c2⟩
        · omega
        · rw [← c1]; exact I.tz k st hk (.inl c2)
        · rw [← c1]; exact I.tz k st hk (.inr c2)
    · rcases hs with hs | hs <;> rw [hf] at hs <;> cases hs
  refine ⟨?_, ?_, ?_, ?_, ?_⟩
  · intro j stj' hj
    rcases node' j stj' hj with ⟨_, rfl⟩ | ⟨_, h⟩
    · exact inv'
    · exact I.inv j stj' h
  · intro j stj' hj hs
    rcases node' j stj' hj with ⟨_, rfl⟩ | ⟨_, h⟩
    · exact tzk hs
    · exact I.tz j stj' h hs
  · intro j stj' x hj hx hty
    rcases node' j stj' hj with ⟨_, rfl⟩ | ⟨_, h⟩
    · exact wfq' x hx hty
    · exact I.wfq j stj' x h hx hty
  · intro x hx hty
    rcases wfn' x hx with h | h
    · exact I.wfn x h hty
    · exact I.wfq k st x hk h hty
  · intro loc' g' hat i e he
    rcases prov loc' g' hat i e he with ⟨loc, g, hA, hE, _⟩ | ⟨_, hl, ht, _⟩
    · exact I.nz loc g hA i e hE
    · rw [ht]; exact tzk (.inr hl)

/-- a call / a delivery at node `k` -/
theorem InvS.call {s : Sys} (I : InvS s) {k : Nat} {st st' : NState} {rnd : Option Nat}
    {op : NodeOp} {res : OpRes} (hk : s.node k = some st) (hnb : st.raft.batchAppend = false)
    (hop : appOp op = true ∨ ∃ m, op = .step m ∧ m ∈ s.net)
    (hc : ∀ j, op = .compact j → CompactOk st.raft.raftLog j)
    (h : Node.call st rnd op = .ok (res, st')) : InvS (s.setNode k st') := by
  have hop' : op ≠ .drain ∧ ∀ m, op ≠ .rstep m := by
    rcases hop with h1 | ⟨m, h1, _⟩
    · constructor
      · intro hc; rw [hc] at h1; cases h1
      · intro m hc; rw [hc] at h1; cases h1
    · rw [h1]
      exact ⟨(by intro hc; cases hc), (by intro m' hc; cases hc)⟩
  have hw : ∀ m, op = .step m → m.msgType = .msgAppend → MsgOk m := by
    intro m hm hty
    rcases hop with h1 | ⟨m', h1, h2⟩
    · rw [hm] at h1; cases h1
    · rw [hm] at h1; cases h1
      exact I.msgOk h2 hty
  have hL := call_lstep st st' rnd op res (I.inv k st hk) hnb hop' hw hc h
  have hm : (CV.opMsg op).msgType = .msgAppend → CV.opMsg op ∈ s.net := by
    intro hty
    rcases hop with h1 | ⟨m, h1, h2⟩
    · cases op <;> first | (cases h1; done) | (cases hty; done)
    · rw [h1]; exact h2
  refine I.move hk (node_setNode_self s k st') (fun j hj => node_setNode_ne s k j st' hj)
    (prov_node hk hL.eff hm) (.inl hL.rt) hL.eff.inv ?_ (fun x hx => .inl hx)
  intro x hx hty
  rcases hL.eff.q x hx hty with c | c | c
  · exact I.wfq k st x hk c hty
  · exact c.1
  · exact c.1

theorem InvS.send {s : Sys} (I : InvS s) {k : Nat} {st st' : NState} (hk : s.node k = some st)
    (h : Node.call st none .drain = .ok (.ok, st')) :
    InvS { (s.setNode k st') with net := s.net ++ st.raft.msgs } := by
  have hl : st'.raft.raftLog = st.raft.raftLog ∧ st'.raft.msgs = [] ∧ st'.raft.term = st.raft.term ∧
      st'.raft.state = st.raft.state := by
    rw [drain_raft h]
    exact ⟨rfl, rfl, rfl, rfl⟩
  obtain ⟨hl1, hl2, hl3, hl4⟩ := hl
  refine I.move (s' := { (s.setNode k st') with net := s.net ++ st.raft.msgs }) hk
    (node_setNode_self s k _) (fun j hj => node_setNode_ne s k j _ hj)
    (prov_send hk hl1 hl2 True trivial) (.inl (RT.rfl.ts hl3 hl4))
    (by rw [hl1]; exact I.inv k st hk) (fun x hx => by rw [hl2] at hx; cases hx)
    (fun x hx => List.mem_append.1 hx)

theorem InvS.restart {s : Sys} (I : InvS s) {k : Nat} {st st' : NState} {c : Config}
    {rnd : Option Nat} (hk : s.node k = some st)
    (h : Node.boot c st.raft.raftLog.store rnd = .ok (.ok st')) : InvS (s.setNode k st') := by
  have hb := CV.boot_booted c _ rnd st' h
  obtain ⟨hinv', habs, hsl⟩ := boot_log c _ rnd st' (I.inv k st hk).storeWF h
  exact I.move hk (node_setNode_self s k st') (fun j hj => node_setNode_ne s k j st' hj)
    (prov_restart hk habs hsl hb.msgs) (.inr hb.state) hinv'
    (fun x hx => by rw [hb.msgs] at hx; cases hx) (fun x hx => .inl hx)

/-- **one contract-abiding step of a non-batching node keeps the invariant** -/
theorem InvS.cstep {s s' : Sys} (I : InvS s) (hnb : NoBatch s) (hstep : CStep s s') : InvS s' := by
  cases hstep with
  | call i st st' rnd op res h1 h2 h3 h4 => exact I.call h1 (hnb i st h1) (.inl h2) h3 h4
  | deliver i st st' rnd m res h1 h2 _ h4 =>
    exact I.call h1 (hnb i st h1) (.inr ⟨m, rfl, h2⟩) (fun j hc => by cases hc) h4
  | send i st st' h1 _ h3 => exact I.send h1 h3
  | restart i st st' c rnd h1 _ h3 => exact I.restart h1 h3

/-- **the initial clause**: every node was booted from a well-formed storage (`MemStorage.WF`:
entries contiguous after the snapshot point) that holds no entry of term 0.  Node-local: nothing
relates the storages of different nodes (the second clause of `InitOk`, and nothing else of it). -/
def InitSto (s : Sys) : Prop :=
  ∀ i st, s.node i = some st → ∃ c sto rnd,
    Node.boot c sto rnd = .ok (.ok st) ∧ sto.WF ∧ ∀ e ∈ sto.entries, e.term ≠ 0

theorem InitOk.initSto {s : Sys} (h : InitOk s) : InitSto s := by
  obtain ⟨_, sto, hboot, hwf, _, _⟩ := h
  intro i st hi
  obtain ⟨c, rnd, hb⟩ := hboot i st hi
  exact ⟨c, sto i, rnd, hb, hwf i st hi⟩

theorem InvS.init {s : Sys} (h0 : Init s) (h : InitSto s) : InvS s := by
  have hnet := h0.1
  have booted : ∀ i st, s.node i = some st → st.raft.state = .follower ∧ st.raft.msgs = [] := by
    intro i st h1
    obtain ⟨c, sto, rnd, hb, _⟩ := h i st h1
    have b := CV.boot_booted c _ rnd st hb
    exact ⟨b.state, b.msgs⟩
  refine ⟨?_, ?_, ?_, ?_, ?_⟩
  · intro i st h1
    obtain ⟨c, sto, rnd, hb, hwf, _⟩ := h i st h1
    exact (boot_log c _ rnd st hwf hb).1
  · intro i st h1 hs
    rw [(booted i st h1).1] at hs
    rcases hs with hs | hs <;> cases hs
  · intro i st x h1 hx
    rw [(booted i st h1).2] at hx
    cases hx
  · intro x hx
    rw [hnet] at hx
    cases hx
  · intro loc g hat i e he
    cases loc with
    | log j =>
      obtain ⟨st, h1, h2⟩ := hat
      obtain ⟨c, sto, rnd, hb, hwf, hnz⟩ := h j st h1
      rw [h2, (boot_log c _ rnd st hwf hb).2.1] at he
      exact hnz e ((storeLog sto).entryAt_mem he)
    | store j =>
      obtain ⟨st, h1, h2⟩ := hat
      obtain ⟨c, sto, rnd, hb, hwf, hnz⟩ := h j st h1
      rw [h2, (boot_log c _ rnd st hwf hb).2.2] at he
      exact hnz e ((storeLog sto).entryAt_mem he)
    | queue j =>
      obtain ⟨st, x, h1, hx, _⟩ := hat
      rw [(booted j st h1).2] at hx
      cases hx
    | net =>
      obtain ⟨x, hx, _⟩ := hat
      rw [hnet] at hx
      cases hx

/-- **`InvS` in every state of a history** whose `compact` calls obey the storage contract, whose
nodes do not batch, and whose initial storages are well-formed -/
theorem invS_hist {h : List Sys} (hh : History h)
    (hcon : ∀ (n : Nat) (a b : Sys), h[n]? = some a → h[n + 1]? = some b → CStep a b)
    (hnb : ∀ s ∈ h, NoBatch s)
    (hinit : ∀ s, h[0]? = some s → InitSto s) :
    ∀ (n : Nat) (s : Sys), h[n]? = some s → InvS s :=
  hist_induct h (fun _ s => InvS s) (fun s hs => InvS.init (hist_init hh s hs) (hinit s hs))
    fun n a b ha hb ia => ia.cstep (hnb a (mem_of_get ha)) (hcon n a b ha hb)

/-- **the representation invariant of every node's log, in every state of a history** -/
theorem logInv_hist {h : List Sys} (hh : History h)
    (hcon : ∀ (n : Nat) (a b : Sys), h[n]? = some a → h[n + 1]? = some b → CStep a b)
    (hnb : ∀ s ∈ h, NoBatch s)
    (hinit : ∀ s, h[0]? = some s → InitSto s) :
    ∀ s ∈ h, ∀ i st, s.node i = some st → st.raft.raftLog.Inv := by
  intro s hs i st hi
  obtain ⟨n, hn⟩ := List.mem_iff_getElem?.1 hs
  exact (invS_hist hh hcon hnb hinit n s hn).inv i st hi

/-- **`LogOk` in every state of a history**: the representation invariant comes from `logInv_hist`;
the apply cursors are a hypothesis (`happ`) — `applied ≤ last_index` is NOT an invariant of plain
histories: `Raft::new` takes `Config.applied` unchecked (`RaftProps.PDGuards.PD_restart_gap`), at the
initial boot and at every `restart`. -/
theorem logOk_hist {h : List Sys} (hh : History h)
    (hcon : ∀ (n : Nat) (a b : Sys), h[n]? = some a → h[n + 1]? = some b → CStep a b)
    (hnb : ∀ s ∈ h, NoBatch s)
    (hinit : ∀ s, h[0]? = some s → InitSto s)
    (happ : ∀ s ∈ h, ∀ i st, s.node i = some st →
      st.raft.raftLog.applied ≤ st.raft.raftLog.lastIndex) :
    ∀ s ∈ h, LogOk s :=
  fun s hs i st hi => ⟨logInv_hist hh hcon hnb hinit s hs i st hi, happ s hs i st hi⟩

end Cluster
end RaftModel
