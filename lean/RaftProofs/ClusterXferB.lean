import RaftProofs.ClusterXferA
import RaftProofs.ClusterFacts

/-!
Cluster-level leadership transfer (C17c, C17d), part B: **provenance of the `MsgTimeoutNow` messages of a
history** (`tn_prov`: each was queued by a node that led the message's term, for an addressee whose
progress had `matched = last_index` at that moment), and **what stands behind that `matched`**
(`matched_backed`): an accepting `MsgAppendResponse` of the addressee for the leader's term that covers
the leader's whole log is in the transport; when the addressee queued it, its log held the leader's whole
log; and its *storage* holds the leader's whole log in every state in which the response is in the
transport and the stored term is still the leader's term.  Stated over `ProvFacts` / `AckFacts`
(`ClusterFacts`): for the logs themselves without compaction, for the ghost logs with it.
-/
namespace RaftModel
namespace Cluster
open Node Raft Raft.CC

variable {cfg : JointConfig} {c0 : Nat} {h : List Sys}

/-- what is recorded about a `MsgTimeoutNow` when it is queued: the node that queues it leads the
message's term, and its progress for the addressee has `matched = last_index` -/
def TnGen (h : List Sys) (n i : Nat) (x : Message) : Prop :=
  ∃ s st pr, h[n]? = some s ∧ s.node i = some st ∧ st.raft.state = .leader ∧
    x.term = st.raft.term ∧ x.frm = i ∧ st.raft.prs.get x.to = some pr ∧
    pr.matched = st.raft.raftLog.lastIndex

/-- **provenance of the `MsgTimeoutNow` messages** (queues and transport) -/
theorem tn_prov (F : ProvFacts h) : ∀ (n : Nat) (s : Sys), h[n]? = some s →
    (∀ i st, s.node i = some st → ∀ x ∈ st.raft.msgs, x.msgType = .msgTimeoutNow →
      Gen (TnGen h) n i x) ∧
    (∀ x ∈ s.net, x.msgType = .msgTimeoutNow → ∃ i, Gen (TnGen h) n i x) := by
  refine F.prov (fun x => x.msgType = .msgTimeoutNow) (fun x hx => by rw [hx]; nofun) (TnGen h) ?_
  intro n a b i st st' rnd op res _ hb _ hi' hcall _ _ x hx hK
  rcases XF.call_tn st st' rnd op res hcall x hx hK with c | ⟨c1, c2, c3, pr, c4, c5⟩
  · exact .inl c
  · exact .inr ⟨b, st', pr, hb, hi', c1, c2, c3.trans (F.id (mem_of_get hb) hi'), c4, c5⟩

/-- the source of a `MsgTimeoutNow` found anywhere in `h[n]` -/
theorem tn_source (F : ProvFacts h) {n : Nat} {s : Sys} (hn : h[n]? = some s) {x : Message}
    (hx : x ∈ s.net ∨ ∃ i st, s.node i = some st ∧ x ∈ st.raft.msgs)
    (hty : x.msgType = .msgTimeoutNow) :
    ∃ (n0 : Nat) (s0 : Sys) (stL : NState) (pr : Progress), n0 ≤ n ∧ h[n0]? = some s0 ∧
      s0.node x.frm = some stL ∧ stL.raft.state = .leader ∧ stL.raft.term = x.term ∧
      stL.raft.prs.get x.to = some pr ∧ pr.matched = stL.raft.raftLog.lastIndex := by
  have hp := tn_prov F n s hn
  have key : ∃ i, Gen (TnGen h) n i x := by
    rcases hx with hx | ⟨i, st, hi, hx⟩
    · exact hp.2 x hx hty
    · exact ⟨i, hp.1 i st hi x hx hty⟩
  obtain ⟨i, n0, hle, s0, stL, pr, h1, h2, h3, h4, h5, h6, h7⟩ := key
  subst h5
  exact ⟨n0, s0, stL, pr, hle, h1, h2, h3, h4.symm, h6, h7⟩

/-- the acknowledgement that stands behind `matched = last_index` of a leader's progress for `j`:
`a` is an accepting `MsgAppendResponse` of `j` for the leader's term `t` that covers the leader's last
index `li`; `j` queued it at `h[n1]`, `n1 ≤ n0`, in term `t`, with a log that held the leader's log `gL`
up to `li`; and the storage of `j` holds `gL` up to `li` wherever `a` is in the transport and the stored
term of `j` is `t` (logs in the view `lg`, `sl`) -/
def XferAck (lg sl : NState → LLog) (h : List Sys) (n0 : Nat) (s0 : Sys) (j t li : Nat) (gL : LLog)
    (a : Message) : Prop :=
  a ∈ s0.net ∧ a.msgType = .msgAppendResponse ∧ a.reject = false ∧ a.frm = j ∧ a.term = t ∧
  li ≤ a.index ∧
  (∃ (n1 : Nat) (s1 : Sys) (stj : NState), n1 ≤ n0 ∧ h[n1]? = some s1 ∧ s1.node j = some stj ∧
    a ∈ stj.raft.msgs ∧ stj.raft.term = t ∧ ∀ k, k ≤ li → (lg stj).entryAt k = gL.entryAt k) ∧
  (∀ (m : Nat) (s' : Sys) (stj : NState), h[m]? = some s' → a ∈ s'.net → s'.node j = some stj →
    stj.raft.raftLog.store.hardState.term = t → ∀ k, k ≤ li → (sl stj).entryAt k = gL.entryAt k)

/-- **what backs a leader's `matched = last_index`** for a peer `j` -/
theorem matched_backed {lg sl : NState → LLog} (F : AckFacts h c0 lg sl) {n0 : Nat} {s0 : Sys}
    (hn0 : h[n0]? = some s0) {l : Nat} {stL : NState} (hl : s0.node l = some stL)
    (hs : stL.raft.state = .leader) {j : Nat} {pr : Progress} (hg : stL.raft.prs.get j = some pr)
    (hm : pr.matched = stL.raft.raftLog.lastIndex) :
    stL.raft.raftLog.lastIndex ≤ c0 ∨
    (j = l ∧ stL.raft.raftLog.lastIndex ≤ stL.raft.raftLog.persisted) ∨
    ∃ a, XferAck lg sl h n0 s0 j stL.raft.term stL.raft.raftLog.lastIndex (lg stL) a := by
  have hLL : LeaderLogV lg h n0 stL.raft.term (lg stL) :=
    ⟨n0, s0, l, stL, Nat.le_refl _, hn0, hl, hs, rfl, rfl⟩
  have hmok := (F.mokc n0 s0 hn0 l stL hl).h hs j pr.matched (mfun_of_get hg)
  rw [hm] at hmok
  rcases hmok with c | ⟨c1, c2⟩ | ⟨a, ha, hack, hfrm, hterm, hidx⟩
  · left; omega
  · exact .inr (.inl ⟨c1.trans (F.id n0 s0 l stL hn0 hl), c2⟩)
  · by_cases hc : a.index ≤ c0
    · left; omega
    · right; right
      have hx0 : a.index ≠ 0 := by omega
      have hterm' : a.term = stL.raft.term :=
        hterm.resolve_right (F.ack_term n0 s0 hn0 a ha hack hx0)
      -- every promise about `a` reaches the leader's log at `h[n0]`
      have fin : ∀ {m : Nat} {g : LLog}, PromiseV lg h m a g →
          ∀ k, k ≤ stL.raft.raftLog.lastIndex → g.entryAt k = (lg stL).entryAt k := by
        intro m g ⟨L', hL', hle, heq⟩ k hk
        rw [heq k (by omega), hterm'] at *
        exact F.ll_eq hL' hLL (by omega) (by rw [F.last n0 s0 l stL hn0 hl]; exact hk)
      obtain ⟨n1, s1, st1, hn1, h1, h2, h3, h4⟩ := F.ack_src n0 s0 hn0 a ha hack hx0
      rw [hfrm] at h2
      refine ⟨a, ha, hack.1, hack.2, hfrm, hterm', hidx,
        ⟨n1, s1, st1, hn1, h1, h2, h3, h4.symm.trans hterm',
          fin (F.mem n1 s1 j st1 h1 h2 a (.inr h3) hack hfrm (by omega) h4)⟩, ?_⟩
      intro m s' stj hm' has hj hst
      exact fin (F.sto m s' j stj hm' hj a has hack hfrm (by omega) (hterm'.trans hst.symm))

/-- the transport only grows along a history -/
theorem hist_net_mono (hh : History h) {n n' : Nat} {s s' : Sys} (hn : h[n]? = some s)
    (hn' : h[n']? = some s') (hle : n ≤ n') : ∀ x ∈ s.net, x ∈ s'.net :=
  steps_net ((hist_all hh).2.2 n n' s s' hle hn hn')

end Cluster
end RaftModel
