import RaftProofs.ClusterRead4J

/-!
Cluster-level ReadIndex safety for **forwarded** reads, part 4L:
* `ri_prov`: **provenance of the `MsgReadIndex` messages** of the queues and of the transport — each
  carries the context of a forwarding `read_index` call (`FwdAt`) of the node named in `from`, at an
  earlier step (forwarding again keeps `entries` and `from`);
* `reg_nonempty`: registered contexts are not empty;
* `tgt_inv`: the invariants of ONE registered request `ctx` (registered by the step `h[n0] → h[n0+1]`
  on node `i0`): everything behind it in a queue is late, wherever it is pending it is pending on `i0`
  with a read index that covers the earlier commits of terms up to the leader's.
-/
namespace RaftModel
namespace Cluster
namespace R4
open Node Raft.RD.R4
open Raft.RD (reqCtx Fresh boot_fresh)

variable {cfg : JointConfig} {c0 : Nat} {h : List Sys}

/-- the `MsgReadIndex` `x` carries the context of a forwarding `read_index` call of node `x.from`
before index `k` -/
def RiSrc (h : List Sys) (k : Nat) (x : Message) : Prop :=
  ∃ n f ctx, n < k ∧ FwdAt h n f ctx ∧ reqCtx x = some ctx ∧ x.frm = f

theorem RiSrc.mono {k k' : Nat} {x : Message} (hs : RiSrc h k x) (hle : k ≤ k') : RiSrc h k' x := by
  obtain ⟨n, f, ctx, h1, h2⟩ := hs
  exact ⟨n, f, ctx, by omega, h2⟩

structure RiProv (h : List Sys) (k : Nat) (s : Sys) : Prop where
  q : ∀ v st, s.node v = some st → ∀ x ∈ st.raft.msgs, x.msgType = .msgReadIndex → RiSrc h k x
  net : ∀ x ∈ s.net, x.msgType = .msgReadIndex → RiSrc h k x

theorem ri_prov (H : RdHypF cfg c0 h) : ∀ (k : Nat) (s : Sys), h[k]? = some s → RiProv h k s := by
  have F := ReadFacts.of_hyp3w H.toHyp3w
  -- a `MsgReadIndex` of the moved node that was queued before
  have old : ∀ {n : Nat} {r0 r1 : Raft}, (∀ x ∈ r0.msgs, x.msgType = .msgReadIndex → RiSrc h n x) →
      RS r0 r1 → ∀ x ∈ r1.msgs, x.msgType = .msgReadIndex → RiSrc h (n + 1) x := by
    intro n r0 r1 ih hs x hx hty
    have : x ∈ rdOf r1.msgs := mem_rdOf.2 ⟨hx, by unfold isRd; rw [hty]; rfl⟩
    rw [hs.rd] at this
    exact (ih x (mem_rdOf.1 this).1 hty).mono (Nat.le_succ n)
  intro k s hs
  have key := F.local_hist (T := fun n x => x.msgType = .msgReadIndex → RiSrc h n x)
    (N := fun n _ _ r => ∀ x ∈ r.msgs, x.msgType = .msgReadIndex → RiSrc h n x)
    (fun _ g => g) (fun g x hx hty => (g x hx hty).mono (Nat.le_succ _))
    (fun g hty => (g hty).mono (Nat.le_succ _)) (fun g => g) (fun _ _ hx => nomatch hx)
    (fun _ hq x hx => by rw [hq] at hx; cases hx) ?_ ?_ ?_ k s hs
  · exact ⟨key.1, key.2⟩
  all_goals intro n a k st st'
  · intro m ha hb ihn _ hk hm ho _ x hx hty
    rcases ho.msgs x hx with c | c | c | c | c
    · exact (ihn k st hk x c hty).mono (Nat.le_succ n)
    · rw [hty] at c; cases c
    · rw [c.1] at hty; cases hty
    · rw [c.1] at hty; cases hty
    · rw [c.1] at hty; cases hty
  · intro K' rnd res ha hb ihn _ hk hcall ho x hx hty
    cases ho with
    | frame hf => exact old (ihn k st hk) hf.toRS x hx hty
    | fwd hfo hlead hcore hmsgs =>
      rw [hmsgs] at hx
      rcases List.mem_append.1 hx with c | c
      · exact (ihn k st hk x c hty).mono (Nat.le_succ n)
      · have hxe := List.mem_singleton.1 c
        obtain ⟨q1, q2, _, q4, _, _⟩ := sendFill_ri st.raft
          { msgType := .msgReadIndex, to := st.raft.leaderId, entries := [{ data := K' }] } rfl
        have hctx : reqCtx x = some K' := by
          unfold reqCtx; rw [hxe, q2]; rfl
        have hcallAt : ReadCallAt h n k K' := ⟨a, _, st, st', rnd, res, ha, hb, hk, hcall, rfl⟩
        have hfw : FwdAt h n k K' := by
          refine ⟨a, _, st, st', rnd, res, ha, hb, hk, hcall, rfl, hfo, hlead, x, ?_, ?_, hty, hctx⟩
          · rw [hmsgs]; exact List.mem_append_right _ c
          · intro hin
            obtain ⟨n', f', ctx', g1, g2, g3, _⟩ := ihn k st hk x hin hty
            rw [hctx] at g3
            injection g3 with g3
            subst g3
            have := H.uniqc n' n f' k K' g2.call hcallAt
            omega
        refine ⟨n, k, K', Nat.lt_succ_self n, hfw, hctx, ?_⟩
        rw [hxe, q4 rfl]
        exact F.id (mem_of_get ha) hk
    | now hs => exact absurd hs (F.not_now H.safe (mem_of_get ha) hk)
    | reg hl hc ro hadd hcore hmsgs =>
      rcases hmsgs x hx with c | ⟨c, _⟩
      · exact (ihn k st hk x c hty).mono (Nat.le_succ n)
      · rw [c] at hty; cases hty
  · intro m rnd res ha hb ihn iht hk hm hto hty' hcall ho x hx hty
    cases ho with
    | keep hs _ => exact old (ihn k st hk) hs x hx hty
    | fwd r1 hs hfo hcore y hmsgs hy =>
      rw [hmsgs] at hx
      rcases List.mem_append.1 hx with c | c
      · exact old (ihn k st hk) hs x c hty
      · have hxe := List.mem_singleton.1 c
        obtain ⟨n', f', ctx', g1, g2, g3, g4⟩ := (iht m hm hty').mono (Nat.le_succ n)
        have hf0 : f' ≠ 0 := by
          obtain ⟨a', _, st0, _, _, _, p1, _, p3, _⟩ := g2
          exact (((hist_all F.hist).1 a' (mem_of_get p1)).ids f' st0 p3).2
        refine ⟨n', f', ctx', g1, g2, ?_, ?_⟩
        · unfold reqCtx at g3 ⊢
          rw [hxe, hy.2.1]; exact g3
        · rw [hxe, hy.2.2.1 (by rw [g4]; exact hf0)]; exact g4
    | now hs => exact absurd hs (F.not_now H.safe (mem_of_get ha) hk)
    | reg hl hc ro hadd hcore hmsgs =>
      rcases hmsgs x hx with c | ⟨c, _⟩
      · exact (ihn k st hk x c hty).mono (Nat.le_succ n)
      · rw [c] at hty; cases hty

/-- the `MsgReadIndex` behind a registration by delivery: it carries the registered context, which is
the context of a forwarding `read_index` call of node `m.from` at an earlier step -/
theorem fwdReg_src (H : RdHypF cfg c0 h) {k l : Nat} {m : Message} {K : Bytes} {idx : Nat}
    (hr : FwdRegAt h k l m K idx) : ∃ n, n < k ∧ FwdAt h n m.frm K := by
  have hc := (fwd_reg_covers (.of_hyp3w H.toHyp3w) H.safe hr).1
  obtain ⟨a, b, st, st', rnd, res, h1, h2, h3, h4, h5, hty, _⟩ := hr
  obtain ⟨n, f, ctx, g1, g2, g3, g4⟩ := (ri_prov H k a h1).net m h4 hty
  have : ctx = K := by
    have e : reqCtx m = some K := hc
    rw [e] at g3
    injection g3 with g3
    exact g3.symm
  subst this
  subst g4
  exact ⟨n, g1, g2⟩

/-- registered contexts are not empty -/
theorem reg_nonempty (H : RdHypF cfg c0 h) {n i : Nat} {K : Bytes} (hr : Reg h n i K) : K ≠ [] := by
  rcases hr with c | ⟨m, idx, c⟩
  · exact H.nonempty n i K c.call
  · obtain ⟨n', _, g⟩ := fwdReg_src H c
    exact H.nonempty n' m.frm K g.call

theorem RdHypF2.toBase (H : RdHypF2 cfg c0 h) : RdBase cfg c0 h :=
  ⟨.of_hyp3w H.toHyp3w, H.safe, H.uniqr, fun _ _ _ hr => reg_nonempty H.toRdHypF hr⟩

theorem RdBase.late (H : RdBase cfg c0 h) {n0 i0 : Nat} {ctx : Bytes} (hreg : Reg h n0 i0 ctx) :
    Late h n0 ctx :=
  ⟨H.nonemptyr _ _ _ hreg, fun _ _ hr => Nat.le_of_eq (H.uniq_node hr hreg).1.symm⟩

theorem late_ctx (H : RdHypF2 cfg c0 h) {n0 i0 : Nat} {ctx : Bytes} (hreg : Reg h n0 i0 ctx) :
    Late h n0 ctx :=
  H.toBase.late hreg

/-- where `ctx` occurs, the step that registered it lies behind -/
theorem occ_after (H : RdBase cfg c0 h) {n0 i0 : Nat} {ctx : Bytes} (hreg : Reg h n0 i0 ctx)
    {k : Nat} {s : Sys} (hk : h[k]? = some s) (ho : Occ s ctx) : n0 < k := by
  obtain ⟨n, i, h1, h2⟩ := occ_issued H.toReadFacts H.safe k s hk ctx (H.nonemptyr _ _ _ hreg) ho
  rw [(H.uniq_node h2 hreg).1] at h1
  exact h1

structure TgtInv (h : List Sys) (c0 n0 i0 : Nat) (ctx : Bytes) (s : Sys) : Prop where
  /-- whatever is queued at or behind `ctx` is late -/
  behind : ∀ v st, s.node v = some st → ∀ (p p' : Nat) (K' : Bytes),
    st.raft.readOnly.readIndexQueue[p]? = some ctx → p ≤ p' →
    st.raft.readOnly.readIndexQueue[p']? = some K' → Late h n0 K'
  /-- `ctx` is pending only on `i0`, with a read index that covers the earlier commits -/
  pend : ∀ v st, s.node v = some st → ∀ rs, (ctx, rs) ∈ st.raft.readOnly.pendingReadIndex →
    v = i0 ∧ IdxOK h c0 n0 st.raft.term rs.index

theorem tgt_inv (H : RdBase cfg c0 h) {n0 i0 : Nat} {ctx : Bytes} (hreg : Reg h n0 i0 ctx) :
    ∀ (k : Nat) (s : Sys), h[k]? = some s → TgtInv h c0 n0 i0 ctx s := by
  have F := H.toReadFacts
  -- the invariant at one node
  let P : Nat → Raft → Prop := fun v r =>
    (∀ (p p' : Nat) (K'' : Bytes), r.readOnly.readIndexQueue[p]? = some ctx → p ≤ p' →
      r.readOnly.readIndexQueue[p']? = some K'' → Late h n0 K'') ∧
    ∀ rs, (ctx, rs) ∈ r.readOnly.pendingReadIndex → v = i0 ∧ IdxOK h c0 n0 r.term rs.index
  have keepCase : ∀ {k : Nat} {r r' : Raft}, P k r → RS r r' → P k r' := by
    intro k r r' ih hs
    rcases RS.ro_cases hs with ⟨g1, g2⟩ | ⟨g1, g2⟩
    · show (_ ∧ _); rw [g1, g2]; exact ih
    · show (_ ∧ _); rw [g1, g2]
      exact ⟨fun p _ _ hp => (by simp at hp), fun _ hm => (by cases hm)⟩
  -- a registration of `K'` on `k` by this very step
  have regCase : ∀ {n : Nat} {a : Sys} (k : Nat) (st st' : NState) (K' : Bytes) (ro : ReadOnly)
      (req : Message), h[n]? = some a → h[n + 1]? = some (a.setNode k st') → P k st.raft →
      a.node k = some st → Reg h n k K' →
      st.raft.state = .leader → st.raft.commitToCurrentTerm = .ok true →
      st'.raft.readOnly = ro → st'.raft.term = st.raft.term →
      ro.pendingReadIndex = st.raft.readOnly.pendingReadIndex ++
        [(K', { req := req, index := st.raft.raftLog.committed, acks := [st.raft.id] })] →
      ro.readIndexQueue = st.raft.readOnly.readIndexQueue ++ [K'] → P k st'.raft := by
    intro n a k st st' K' ro req ha hb ih hk hregK hl hc e1 e2 q3 q4
    constructor
    · intro p p' K'' hp hle hp'
      have hafter : n0 ≤ n := by
        have : Occ (a.setNode k st') ctx :=
          .inl ⟨k, st', node_setNode_self a k st', .inr (.inl (List.mem_of_getElem? hp))⟩
        have := occ_after H hreg hb this
        omega
      rw [e1, q4] at hp hp'
      by_cases hlt : p' < st.raft.readOnly.readIndexQueue.length
      · rw [List.getElem?_append_left hlt] at hp'
        rw [List.getElem?_append_left (by omega)] at hp
        exact ih.1 p p' K'' hp hle hp'
      · rw [List.getElem?_append_right (by omega)] at hp'
        have : K'' = K' := by
          cases hq : p' - st.raft.readOnly.readIndexQueue.length with
          | zero => rw [hq] at hp'; simpa using hp'.symm
          | succ j => rw [hq] at hp'; simp at hp'
        subst this
        exact ⟨H.nonemptyr _ _ _ hregK,
          fun n' i' hr => by rw [(H.uniq_node hr hregK).1]; exact hafter⟩
    · intro rs hmem
      rw [e1, q3] at hmem
      rw [e2]
      rcases List.mem_append.1 hmem with g | g
      · exact ih.2 rs g
      · rw [List.mem_singleton] at g
        injection g with g1 g2
        subst g2
        rw [← g1] at hregK
        obtain ⟨u1, u2⟩ := H.uniq_node hregK hreg
        subst u1
        exact ⟨u2, F.idx_reg _ _ _ _ ha hk hl hc⟩
  intro k s hs
  have key := (F.local_hist (T := fun _ _ => True) (N := fun _ _ v r => P v r)
    (fun _ g => g) (fun g => g) (fun g => g) (fun _ _ _ => trivial) (fun g => g)
    (fun hf _ => by
      show (_ ∧ _); rw [hf.1, hf.2.1]
      exact ⟨fun p _ _ hp => (by simp at hp), fun _ hm => (by cases hm)⟩) ?_ ?_ ?_ k s hs).1
  · exact ⟨fun v st hv => (key v st hv).1, fun v st hv => (key v st hv).2⟩
  all_goals intro n a k st st'
  · intro m _ _ ihn _ hk hm ho _
    constructor
    · intro p p' K' hp hle hp'
      obtain ⟨d, hd⟩ := ho.queue
      rw [hd, List.getElem?_drop] at hp hp'
      exact (ihn k st hk).1 (d + p) (d + p') K' hp (by omega) hp'
    · intro rs hmem
      obtain ⟨g0, ⟨rs0, g1, _, g3⟩, _⟩ := ho.pend ctx rs hmem
      rw [g0, g3]
      exact (ihn k st hk).2 rs0 g1
  · intro K' rnd res ha hb ihn _ hk hcall ho
    cases ho with
    | frame hf => show (_ ∧ _); rw [hf.ro, hf.term]; exact ihn k st hk
    | fwd hfo hlead hcore hmsgs =>
      have e1 : st'.raft.readOnly = st.raft.readOnly := congrArg RCore.ro hcore
      have e2 : st'.raft.term = st.raft.term := congrArg RCore.term hcore
      show (_ ∧ _); rw [e1, e2]; exact ihn k st hk
    | now hs => exact absurd hs (F.not_now H.safe (mem_of_get ha) hk)
    | reg hl hc ro hadd hcore hmsgs =>
      have e1 : st'.raft.readOnly = ro := congrArg RCore.ro hcore
      have e2 : st'.raft.term = st.raft.term := congrArg RCore.term hcore
      rcases addRequest_spec hadd with ⟨q1, _⟩ | ⟨q1, _, q3, q4⟩
      · show (_ ∧ _); rw [e1, e2, q1]; exact ihn k st hk
      · have hregK : Reg h n k K' := by
          refine .inl ⟨a, _, st, st', rnd, res, ha, hb, hk, hcall, rfl, q1, ?_⟩
          rw [e1, q3]
          exact ⟨_, List.mem_append_right _ (List.mem_singleton.2 rfl)⟩
        exact regCase k st st' K' ro _ ha hb (ihn k st hk) hk hregK hl hc e1 e2 q3 q4
  · intro m rnd res ha hb ihn _ hk hm hto hty hcall ho
    cases ho with
    | keep hs _ => exact keepCase (ihn k st hk) hs
    | fwd r1 hs hfo hcore y hmsgs hy =>
      have e1 : st'.raft.readOnly = r1.readOnly := congrArg RCore.ro hcore
      have e2 : st'.raft.term = r1.term := congrArg RCore.term hcore
      show (_ ∧ _); rw [e1, e2]; exact keepCase (ihn k st hk) hs
    | now hs => exact absurd hs (F.not_now H.safe (mem_of_get ha) hk)
    | reg hl hc ro hadd hcore hmsgs =>
      have e1 : st'.raft.readOnly = ro := congrArg RCore.ro hcore
      have e2 : st'.raft.term = st.raft.term := congrArg RCore.term hcore
      obtain ⟨en, hen, hcase⟩ := addRequest_specD hadd
      rcases hcase with ⟨q1, _⟩ | ⟨q1, _, q3, q4⟩
      · show (_ ∧ _); rw [e1, e2, q1]; exact ihn k st hk
      · have hregK : Reg h n k en.data := by
          refine .inr ⟨m, st.raft.raftLog.committed, a, _, st, st', rnd, res, ha, hb, hk, hm, hto,
            hty, hcall, rfl, q1, ?_⟩
          rw [e1, q3]
          exact ⟨_, List.mem_append_right _ (List.mem_singleton.2 rfl), rfl⟩
        exact regCase k st st' en.data ro _ ha hb (ihn k st hk) hk hregK hl hc e1 e2 q3 q4

end R4
end Cluster
end RaftModel
