import RaftProofs.ClusterCommitBatchPerCall

/-!
The per-call relation of the batching layer (`Raft.PB`, `ClusterCommitBatchPerCall`) with the two facts on the
snapshot point that the compaction layer needs (namespace `Raft.PB.F`): `fi`, the first index of the
log has not moved down since the start of the call, and `qf`, every new `MsgAppend` is anchored at or
above the first index the log had then, or at the anchor of an old queued `MsgAppend` (batching).

As in `ClusterCommitBatchPerCall` the definitions are written out and the lemmas are those of `Raft.PerCall` at
`rule`, which is that of `Raft.PB` with the first index as the snapshot point.
-/

namespace RaftModel
namespace Raft
namespace PB
namespace F
open CP Node

/-- the relation on the fields it reads -/
structure PWPb (a : Raft) (st : StateRole) (l : RaftLog) (t : ProgressTracker) (ro : ReadOnly)
    (ms : List Message) : Prop where
  inv : l.Inv
  po : st = .leader → QSnap ms ∨ PAll l.lastIndex t
  rd : st = .leader → ∀ p ∈ ro.pendingReadIndex, p.2.index ≤ l.committed
  qa : ∀ x ∈ ms, x.msgType = .msgAppend →
    (∃ y ∈ a.msgs, y.msgType = .msgAppend ∧ y.index = x.index ∧ y.logTerm = x.logTerm) ∨
      QSnap ms ∨ x.index ≤ l.lastIndex
  qr : ∀ x ∈ ms, x.msgType = .msgReadIndexResp → x ∈ a.msgs ∨ x.index ≤ l.committed
  sn : ∀ x ∈ a.msgs, x.msgType = .msgSnapshot → x ∈ ms
  /-- the first index of the log has not moved down since the start of the call … -/
  fi : a.raftLog.firstIndex ≤ l.firstIndex
  /-- … and every new `MsgAppend` is anchored at or above the snapshot point, or at the anchor of an
  old queued `MsgAppend` (batching) -/
  qf : ∀ x ∈ ms, x.msgType = .msgAppend →
    (∃ y ∈ a.msgs, y.msgType = .msgAppend ∧ y.index = x.index ∧ y.logTerm = x.logTerm) ∨
      QSnap ms ∨ a.raftLog.firstIndex ≤ x.index + 1

/-- **the per-call relation** -/
def PWb (a r : Raft) : Prop := PWPb a r.state r.raftLog r.prs r.readOnly r.msgs

/-- `PWb` on a leader -/
def LWb (a r : Raft) : Prop := PWb a r ∧ r.state = .leader

theorem LWb.pw {a r : Raft} (h : LWb a r) : PWb a r := h.1

theorem LWb.lead {a r : Raft} (h : LWb a r) : r.state = .leader := h.2

/-- what a call leaves (the relation without the bookkeeping on the log) -/
structure PRb (a r : Raft) : Prop where
  po : r.state = .leader → QSnap r.msgs ∨ PAll r.raftLog.lastIndex r.prs
  rd : r.state = .leader → ∀ p ∈ r.readOnly.pendingReadIndex, p.2.index ≤ r.raftLog.committed
  qa : ∀ x ∈ r.msgs, x.msgType = .msgAppend →
    (∃ y ∈ a.msgs, y.msgType = .msgAppend ∧ y.index = x.index ∧ y.logTerm = x.logTerm) ∨
      QSnap r.msgs ∨ x.index ≤ r.raftLog.lastIndex
  qr : ∀ x ∈ r.msgs, x.msgType = .msgReadIndexResp → x ∈ a.msgs ∨ x.index ≤ r.raftLog.committed
  sn : ∀ x ∈ a.msgs, x.msgType = .msgSnapshot → x ∈ r.msgs
  /-- every new `MsgAppend` is anchored at or above the snapshot point the log had when the call
  started, or at the anchor of an old queued `MsgAppend` (or the queue is poisoned) -/
  qf : ∀ x ∈ r.msgs, x.msgType = .msgAppend →
    (∃ y ∈ a.msgs, y.msgType = .msgAppend ∧ y.index = x.index ∧ y.logTerm = x.logTerm) ∨
      QSnap r.msgs ∨ a.raftLog.firstIndex ≤ x.index + 1

/-! ### the instance -/

def rule : PerCall.Rule :=
  { PB.rule with floor := RaftLog.firstIndex, floor_le := fun _ => Nat.le_refl _ }

theorem PWb.iff {a r : Raft} : PWb a r ↔ PerCall.PW rule a r :=
  ⟨fun h => ⟨h.inv, trivial, h.po, h.rd, h.qa, h.qr, h.sn, h.fi, h.qf⟩,
   fun h => ⟨h.inv, h.po, h.rd, h.qa, h.qr, h.sn, h.fi, h.qf⟩⟩

theorem PRb.iff {a r : Raft} : PRb a r ↔ PerCall.PR rule a r :=
  ⟨fun h => ⟨h.po, h.rd, h.qa, h.qr, h.sn, h.qf⟩, fun h => ⟨h.po, h.rd, h.qa, h.qr, h.sn, h.qf⟩⟩

/-! ### `PWb` -/

theorem PWb.inv {a r : Raft} (h : PWb a r) : r.raftLog.Inv := PWPb.inv h

theorem PWb.po {a r : Raft} (h : PWb a r) :
    r.state = .leader → QSnap r.msgs ∨ PAll r.raftLog.lastIndex r.prs := PWPb.po h

theorem PWb.rd {a r : Raft} (h : PWb a r) :
    r.state = .leader → ∀ p ∈ r.readOnly.pendingReadIndex, p.2.index ≤ r.raftLog.committed :=
  PWPb.rd h

theorem PWb.qa {a r : Raft} (h : PWb a r) : ∀ x ∈ r.msgs, x.msgType = .msgAppend →
    (∃ y ∈ a.msgs, y.msgType = .msgAppend ∧ y.index = x.index ∧ y.logTerm = x.logTerm) ∨
      QSnap r.msgs ∨ x.index ≤ r.raftLog.lastIndex := PWPb.qa h

theorem PWb.qr {a r : Raft} (h : PWb a r) : ∀ x ∈ r.msgs, x.msgType = .msgReadIndexResp →
    x ∈ a.msgs ∨ x.index ≤ r.raftLog.committed := PWPb.qr h

theorem PWb.sn {a r : Raft} (h : PWb a r) : ∀ x ∈ a.msgs, x.msgType = .msgSnapshot → x ∈ r.msgs :=
  PWPb.sn h

theorem PWb.fi {a r : Raft} (h : PWb a r) : a.raftLog.firstIndex ≤ r.raftLog.firstIndex := PWPb.fi h

theorem PWb.qf {a r : Raft} (h : PWb a r) : ∀ x ∈ r.msgs, x.msgType = .msgAppend →
    (∃ y ∈ a.msgs, y.msgType = .msgAppend ∧ y.index = x.index ∧ y.logTerm = x.logTerm) ∨
      QSnap r.msgs ∨ a.raftLog.firstIndex ≤ x.index + 1 := PWPb.qf h

/-- the start of a call -/
theorem PWb.start {a : Raft} (hinv : a.raftLog.Inv)
    (hpo : a.state = .leader → QSnap a.msgs ∨ PAll a.raftLog.lastIndex a.prs)
    (hrd : a.state = .leader → ∀ p ∈ a.readOnly.pendingReadIndex, p.2.index ≤ a.raftLog.committed) :
    PWb a a :=
  PWb.iff.2 (PerCall.PW.start hinv trivial hpo hrd)

/-- any structure update that keeps the role, the log, the tracker, the pending reads and the
queue keeps `PWb` -/
theorem PWb.mk' {a r : Raft} {x1 x2 x3 : Nat} {x4 : List ReadState} {x6 x7 x8 : Nat}
    {x10 : Bool} {x11 : Nat}
    {x12 : Option Nat} {x13 : Nat} {x15 x16 : Nat} {x17 x18 x19 x20 x21 : Bool}
    {x22 x23 x24 x25 x26 : Nat} {x27 : Int} {x28 : UncommittedState} {x29 : Nat}
    {x32 : Option Nat} (h0 : PWb a r) :
    PWb a { term := x1, vote := x2, id := x3, readStates := x4, raftLog := r.raftLog,
            maxInflight := x6, maxMsgSize := x7, pendingRequestSnapshot := x8, state := r.state,
            promotable := x10, leaderId := x11, leadTransferee := x12,
            pendingConfIndex := x13, readOnly := r.readOnly, electionElapsed := x15,
            heartbeatElapsed := x16, checkQuorum := x17, preVote := x18,
            skipBcastCommit := x19, batchAppend := x20, disableProposalForwarding := x21,
            heartbeatTimeout := x22, electionTimeout := x23, randomizedElectionTimeout := x24,
            minElectionTimeout := x25, maxElectionTimeout := x26, priority := x27,
            uncommittedState := x28, maxCommittedSizePerReady := x29, prs := r.prs, msgs := r.msgs,
            nextRand := x32 } := h0

theorem LWb.mk' {a r : Raft} {x1 x2 x3 : Nat} {x4 : List ReadState} {x6 x7 x8 : Nat}
    {x10 : Bool} {x11 : Nat}
    {x12 : Option Nat} {x13 : Nat} {x15 x16 : Nat} {x17 x18 x19 x20 x21 : Bool}
    {x22 x23 x24 x25 x26 : Nat} {x27 : Int} {x28 : UncommittedState} {x29 : Nat}
    {x32 : Option Nat} (h0 : LWb a r) :
    LWb a { term := x1, vote := x2, id := x3, readStates := x4, raftLog := r.raftLog,
            maxInflight := x6, maxMsgSize := x7, pendingRequestSnapshot := x8, state := r.state,
            promotable := x10, leaderId := x11, leadTransferee := x12,
            pendingConfIndex := x13, readOnly := r.readOnly, electionElapsed := x15,
            heartbeatElapsed := x16, checkQuorum := x17, preVote := x18,
            skipBcastCommit := x19, batchAppend := x20, disableProposalForwarding := x21,
            heartbeatTimeout := x22, electionTimeout := x23, randomizedElectionTimeout := x24,
            minElectionTimeout := x25, maxElectionTimeout := x26, priority := x27,
            uncommittedState := x28, maxCommittedSizePerReady := x29, prs := r.prs, msgs := r.msgs,
            nextRand := x32 } := ⟨PWb.mk' h0.1, h0.2⟩

/-- replacing the log by one that represents the same logical log -/
theorem PWb.log {a r : Raft} {l : RaftLog} (hl : LogSame r.raftLog l) (h0 : PWb a r) :
    PWb a { r with raftLog := l } :=
  PWb.iff.2 ((PWb.iff.1 h0).log hl)

/-- replacing the tracker -/
theorem PWb.prs {a r : Raft} {t : ProgressTracker} (h0 : PWb a r)
    (ht : r.state = .leader → QSnap r.msgs ∨ PAll r.raftLog.lastIndex t) :
    PWb a { r with prs := t } :=
  ⟨h0.inv, ht, h0.rd, h0.qa, h0.qr, h0.sn, h0.fi, h0.qf⟩

/-- writing back one progress -/
theorem PWb.setPr {a r : Raft} {id : Nat} {pr : Progress} (h0 : PWb a r)
    (hp : QSnap r.msgs ∨ POk r.raftLog.lastIndex pr) :
    PWb a { r with prs := r.prs.set id pr } :=
  PWb.iff.2 ((PWb.iff.1 h0).setPr hp)

/-- replacing the pending reads -/
theorem PWb.ro {a r : Raft} {ro : ReadOnly} (h0 : PWb a r)
    (hr : r.state = .leader → ∀ p ∈ ro.pendingReadIndex, p.2.index ≤ r.raftLog.committed) :
    PWb a { r with readOnly := ro } :=
  ⟨h0.inv, h0.po, hr, h0.qa, h0.qr, h0.sn, h0.fi, h0.qf⟩

/-- leaving the leader role (or staying outside it) with log and queue untouched -/
theorem PWb.nonleader {a r : Raft} (h0 : PWb a r) {st : StateRole} {t : ProgressTracker}
    {ro : ReadOnly} (hst : st ≠ .leader) :
    PWPb a st r.raftLog t ro r.msgs :=
  ⟨h0.inv, fun h => absurd h hst, fun h => absurd h hst, h0.qa, h0.qr, h0.sn, h0.fi, h0.qf⟩

/-- appending one message to the queue: what is asked of an append or a read response -/
theorem PWb.push {a r : Raft} (h0 : PWb a r) (x : Message)
    (ha : x.msgType = .msgAppend → QSnap r.msgs ∨ x.index ≤ r.raftLog.lastIndex)
    (hr : x.msgType = .msgReadIndexResp → x.index ≤ r.raftLog.committed)
    (hf : x.msgType = .msgAppend → QSnap r.msgs ∨ r.raftLog.firstIndex ≤ x.index + 1) :
    PWb a { r with msgs := r.msgs ++ [x] } :=
  PWb.iff.2 ((PWb.iff.1 h0).push x ha hr
    (fun hc => (hf hc).imp (fun c => c) (Nat.le_trans h0.fi)))

/-! ### the leader world, the result of a call -/

/-- the progress of a peer of a leader -/
theorem LWb.getPr {a r : Raft} (h : LWb a r) {id : Nat} {pr : Progress} (hg : r.prs.get id = some pr) :
    QSnap r.msgs ∨ POk r.raftLog.lastIndex pr := by
  rcases h.1.po h.2 with c | c
  · exact .inl c
  · exact .inr (c.get hg)

theorem LWb.setPr {a r : Raft} {id : Nat} {pr : Progress} (h0 : LWb a r)
    (hp : QSnap r.msgs ∨ POk r.raftLog.lastIndex pr) :
    LWb a { r with prs := r.prs.set id pr } := ⟨h0.1.setPr hp, h0.2⟩

theorem PWb.pr {a r : Raft} (h : PWb a r) : PRb a r := ⟨h.po, h.rd, h.qa, h.qr, h.sn, h.qf⟩

/-- `Raft.CP.PR` implies `PRb`: a message queued before the call has its own anchor -/
theorem _root_.RaftModel.Raft.CP.PR.prf {a r : Raft} (h : PR a r) : PRb a r := by
  refine ⟨h.po, h.rd, fun x hx hty => ?_, h.qr, h.sn, fun x hx hty => ?_⟩
  · rcases h.qa x hx hty with c | c | c
    · exact .inl ⟨x, c, hty, rfl, rfl⟩
    · exact .inr (.inl c)
    · exact .inr (.inr c)
  · rcases h.qf x hx hty with c | c | c
    · exact .inl ⟨x, c, hty, rfl, rfl⟩
    · exact .inr (.inl c)
    · exact .inr (.inr c)

/-- `Raft.CP.PW` implies `PWb` -/
theorem _root_.RaftModel.Raft.CP.PW.pwf {a r : Raft} (h : PW a r) : PWb a r := by
  refine ⟨h.inv, h.po, h.rd, fun x hx hty => ?_, h.qr, h.sn, h.fi, fun x hx hty => ?_⟩
  · rcases h.qa x hx hty with c | c | c
    · exact .inl ⟨x, c, hty, rfl, rfl⟩
    · exact .inr (.inl c)
    · exact .inr (.inr c)
  · rcases h.qf x hx hty with c | c | c
    · exact .inl ⟨x, c, hty, rfl, rfl⟩
    · exact .inr (.inl c)
    · exact .inr (.inr c)

theorem PRb.of_same {a r r' : Raft} (h : PRb a r) (hs : r'.state = r.state) (hp : r'.prs = r.prs)
    (hro : r'.readOnly = r.readOnly) (hm : r'.msgs = r.msgs)
    (hl : r.raftLog.lastIndex ≤ r'.raftLog.lastIndex)
    (hc : r.raftLog.committed ≤ r'.raftLog.committed) : PRb a r' :=
  PRb.iff.2 ((PRb.iff.1 h).of_same hs hp hro hm hl hc)

/-- **one call of a node** -/
theorem call_prb (st st' : NState) (rnd : Option Nat) (op : NodeOp) (res : OpRes)
    (hinv : st.raft.raftLog.Inv)
    (hop : op ≠ .drain ∧ ∀ m, op ≠ .rstep m) (hc : ∀ k, op ≠ .compact k)
    (hsn : st.raft.raftLog.unstable.snapshot = none)
    (hms : ∀ m, op = .step m → m.msgType ≠ .msgSnapshot)
    (hpo : st.raft.state = .leader →
      QSnap st.raft.msgs ∨ PAll st.raft.raftLog.lastIndex st.raft.prs)
    (hrd : st.raft.state = .leader → ∀ p ∈ st.raft.readOnly.pendingReadIndex,
      p.2.index ≤ st.raft.raftLog.committed)
    (hB : ∀ m, op = .step m → st.raft.state = .leader → m.msgType = .msgAppendResponse →
      m.reject = false → (m.term = 0 ∨ m.term = st.raft.term) →
      m.index ≤ st.raft.raftLog.lastIndex)
    (h : Node.call st rnd op = .ok (res, st')) : PRb st.raft st'.raft :=
  PRb.iff.2 (PerCall.call_pr st st' rnd op res hinv trivial hop hc hsn hms hpo
    (fun _ _ hc => hc.elim) hrd hB h)

end F
end PB
end Raft
end RaftModel
