import RaftProofs.ClusterSnap5L

/-!
Commit safety of `ClusterSem`: **what the main induction rests on**.  `Facts q cfg c0 h` extends
`Facts0 q cfg h` (`ClusterSnapBase.lean`: the history and its steps seen from the stepping node, what one
call does to role, term, logical log and queue) by the facts about a history `h` that look at logs
across time: the ghost logs of the nodes (`ghost_inv`), what one call does to the commit index and the
storage and to the ghost logs, where entries, heartbeats and vote messages come from, Log Matching
across time for the ghost logs, commit events.  The components of the main induction (`Sm`,
`ClusterSnap5M–5T`) are derived from it.  `Facts3` adds what the bundle of the main induction adds
(`anch`, `rirs`, the snapshot clauses).  A history under `GHyp2w q` / `GHyp3a q` has them (`GHyp2w.facts`,
`GHyp3a.facts`: the lemmas of `ClusterSnap5C–5L`); so has a history with `batch_append` and without
compaction (`ClusterB.M`, `ClusterCommitBatchFacts.lean`), whose ghost logs are its logs.
-/
namespace RaftModel
namespace Cluster
namespace Snap5
open Node Raft Raft.CC RaftProps.C02 RaftProps.C05 Snap

variable {q : Prop} {cfg : JointConfig} {c0 : Nat} {h : List Sys}

/-- **provenance of the (pre-)vote messages** -/
theorem vote_prov (H : GHyp2w q cfg c0 h) : ∀ (n : Nat) (s : Sys), h[n]? = some s →
    (∀ i st, s.node i = some st → ∀ x ∈ st.raft.msgs, isVoteMsg x.msgType = true →
      Gen (VoteGen h) n i x) ∧
    (∀ x ∈ s.net, isVoteMsg x.msgType = true → ∃ i, Gen (VoteGen h) n i x) := by
  refine GHyp.provenance H.toGHyp (fun x => isVoteMsg x.msgType = true)
    (fun x hx hc => by rw [hc] at hx; cases hx) (VoteGen h) ?_
  intro n a b i st st' rnd op res ha hb hi hi' hcall hop hnc hns hpn _ _ x hx hty
  obtain ⟨g, _, _, _, _⟩ := call_facts H ha hi hop hnc hns hpn hcall
  rcases g.qvk x hx hty with c | c
  · exact .inl c
  · exact .inr ⟨b, st', hb, hi', c⟩

/-- the entries of the ghost logs carry real terms -/
theorem ghost_nz (H : GHyp2w q cfg c0 h) {n : Nat} {s : Sys} (hn : h[n]? = some s) {v : Nat}
    {st : NState} (hv : s.node v = some st) :
    (∀ k e, (FL h c0 st).entryAt k = some e → e.term ≠ 0) ∧
    (∀ k e, (FS h c0 st).entryAt k = some e → e.term ≠ 0) := by
  obtain ⟨s0, _, hall⟩ := H.inv_at
  have I := (ghost_inv H n s hn).node v st hv
  constructor <;> intro k e he
  · obtain ⟨m, s1, loc, g, _, hs1, hat, hg⟩ := I.pastL k e he
    exact (hall s1 (mem_of_get hs1)).nz loc g hat k e hg
  · obtain ⟨m, s1, loc, g, _, hs1, hat, hg⟩ := I.pastS k e he
    exact (hall s1 (mem_of_get hs1)).nz loc g hat k e hg

/-- **where the entries of a ghost log come from**: an entry of the initial state, or created by the
leader of its term -/
theorem fentry_prov (H : GHyp2w q cfg c0 h) :
    ∃ s0, h[0]? = some s0 ∧ ∀ (n : Nat) (s : Sys), h[n]? = some s → ∀ v st, s.node v = some st →
      ∀ k e, (FL h c0 st).entryAt k = some e → EntriesOf s0 e ∨ Born h n k e := by
  obtain ⟨s0, h0, hprov⟩ := entry_prov H
  refine ⟨s0, h0, fun n s hn v st hv k e he => ?_⟩
  obtain ⟨m, s1, loc, g, hm, hs1, hat, hg⟩ := ((ghost_inv H n s hn).node v st hv).pastL k e he
  refine (hprov m s1 hs1 loc g hat k e hg).imp id ?_
  rintro ⟨m', s', l, stl, c1, c2⟩
  exact ⟨m', s', l, stl, Nat.le_trans c1 hm, c2⟩

/-- the chains of the initial state start at the common snapshot point and are gap-free -/
theorem init_chain (H : GHyp2w q cfg c0 h) {s0 : Sys} (h0 : h[0]? = some s0) {loc : Loc} {g : LLog}
    (hat : At s0 loc g) : g.snapIdx = c0 ∧ g.Contig := by
  have hinit := hist_init H.hist s0 h0
  have hsn : ∀ j stj, s0.node j = some stj → (storeLog stj.raft.raftLog.store).snapIdx = c0 := by
    intro j stj h1
    show stj.raft.raftLog.store.firstIndex - 1 = c0
    rw [H.first0 s0 h0 j stj h1]; rfl
  cases loc with
  | log j =>
    obtain ⟨stj, h1, h2⟩ := hat
    have o := node_ok H h0 h1
    rw [h2]
    exact ⟨by rw [← storeLog_snapIdx (H.pend0 s0 h0 j stj h1)]; exact hsn j stj h1, abs_Contig o.inv⟩
  | store j =>
    obtain ⟨stj, h1, h2⟩ := hat
    have o := node_ok H h0 h1
    rw [h2]; exact ⟨hsn j stj h1, storeLog_contig o.inv.storeWF⟩
  | queue j =>
    obtain ⟨stj, x, h1, hx, _⟩ := hat
    rw [init_queue hinit j stj h1] at hx; cases hx
  | net =>
    obtain ⟨x, hx, _⟩ := hat
    rw [hinit.1] at hx; cases hx

/-- below an entry of the initial state a ghost log holds entries of the initial state -/
theorem init_below (H : GHyp2w q cfg c0 h) {s0 : Sys} (h0 : h[0]? = some s0) {n : Nat} {s : Sys}
    (hn : h[n]? = some s) {v : Nat} {st : NState} (hv : s.node v = some st) {k : Nat} {e : Entry}
    (he : (FL h c0 st).entryAt k = some e) (hini : EntriesOf s0 e) {c : Nat} {ec : Entry}
    (hc : c ≤ k) (hec : (FL h c0 st).entryAt c = some ec) : EntriesOf s0 ec := by
  have I := (ghost_inv H n s hn).node v st hv
  obtain ⟨loc, g, i, hat, hg⟩ := hini
  obtain ⟨hgs, hgc⟩ := init_chain H h0 hat
  have hi : i = k := by rw [← hgc.index hg, I.log.contig.index he]
  subst hi
  have hag : Agree (FL h c0 st) g :=
    agree_of_derived (hist_agree H) I.log.der (DerivedFrom.of_mem ⟨0, s0, loc, h0, hat⟩)
  have heq := eq_below hag (I.log.snap.trans hgs.symm) he hg rfl c hc
  exact ⟨loc, g, c, hat, by rw [← heq]; exact hec⟩

/-- a compaction does not touch the uncompacted stored log -/
theorem fs_compact (H : GHyp2w q cfg c0 h) {n : Nat} {a b : Sys} (ha : h[n]? = some a)
    (_hb : h[n + 1]? = some b) {k : Nat} {st st' : NState} (hka : a.node k = some st)
    (_hkb : b.node k = some st') {j : Nat} (ho : CompactOut st st' j) :
    ∀ i, (FS h c0 st').entryAt i = (FS h c0 st).entryAt i := by
  have Ia := (ghost_inv H n a ha).node k st hka
  obtain ⟨_, l2⟩ := ho.lt (node_ok H ha hka).inv
  exact fl_eq (hist_agree H) ((Ia.sto.compact l2).congr ho.sto)

/-- **what the main induction rests on** -/
structure Facts (q : Prop) (cfg : JointConfig) (c0 : Nat) (h : List Sys) : Prop
    extends Facts0 q cfg h where
  initc : ∀ s : Sys, h[0]? = some s → ∀ i st, s.node i = some st → st.raft.raftLog.committed = c0
  ghost_nz {n : Nat} {s : Sys} (hn : h[n]? = some s) {v : Nat}
    {st : NState} (hv : s.node v = some st) :
    (∀ k e, (FL h c0 st).entryAt k = some e → e.term ≠ 0) ∧
    (∀ k e, (FS h c0 st).entryAt k = some e → e.term ≠ 0)
  fentry_prov : ∃ s0, h[0]? = some s0 ∧ ∀ (n : Nat) (s : Sys), h[n]? = some s →
    ∀ v st, s.node v = some st →
      ∀ k e, (FL h c0 st).entryAt k = some e → EntriesOf s0 e ∨ Born h n k e
  ev_facts {E : Ev} (hE : E.ok h) :
    ∃ a b sta stb, h[E.nE]? = some a ∧ h[E.nE + 1]? = some b ∧ a.node E.l = some sta ∧
      b.node E.l = some stb ∧ stb.raft.state = .leader ∧ stb.raft.term = E.t ∧
      E.c = stb.raft.raftLog.committed ∧ E.gE = stb.raft.raftLog.abs ∧
      EvF h c0 E = FL h c0 stb ∧
      E.pE = stb.raft.raftLog.persisted ∧ sta.raft.raftLog.committed < E.c ∧ c0 < E.c ∧
      Has (EvF h c0 E) E.c E.t ∧ stb.raft.raftLog.abs.snapIdx < E.c ∧
      ∃ Q, IsJointQuorum cfg Q ∧ ∀ j ∈ Q, (j = E.l ∧ E.c ≤ E.pE) ∨ Anet a.net j E.t E.c
  vote_prov : ∀ (n : Nat) (s : Sys), h[n]? = some s →
    ∀ x ∈ s.net, isVoteMsg x.msgType = true → ∃ i, Gen (VoteGen h) n i x
  c0_le_snap {n : Nat} {s : Sys} (hn : h[n]? = some s) {v : Nat}
    {st : NState} (hv : s.node v = some st) : c0 ≤ st.raft.raftLog.abs.snapIdx
  call_more {n : Nat} {a b : Sys} {i : Nat} {st st' : NState}
    {rnd : Option Nat} {op : NodeOp} {res : OpRes}
    (ha : h[n]? = some a) (hb : h[n + 1]? = some b) (hi : a.node i = some st)
    (hi' : b.node i = some st') (hnet : b.net = a.net)
    (hop : appOp op = true ∨ ∃ m, op = .step m ∧ m ∈ a.net ∧ m.to = i)
    (hc : ∀ j, op = .compact j → CompactOk st.raft.raftLog j)
    (hms : ∀ m, op = .step m → m.msgType ≠ .msgSnapshot)
    (hs1 : st.raft.raftLog.unstable.snapshot = none)
    (hcall : Node.call st rnd op = .ok (res, st')) :
    Src st st' op ∧
    (SE st.raft st'.raft ∨ op = .stabilize ∨ ∃ k, op = .compact k ∧ CompactOut st st' k) ∧
    HsOut st st' op
  facc_call {n : Nat} {a b : Sys} (ha : h[n]? = some a)
    (hb : h[n + 1]? = some b) {k : Nat} {st st' : NState} {rnd : Option Nat} {m : Message}
    {res : OpRes} (hka : a.node k = some st) (hkb : b.node k = some st') (hnet : b.net = a.net)
    (hm : m ∈ a.net) (hto : m.to = k) (hty : m.msgType ≠ .msgSnapshot)
    (hpn : st.raft.raftLog.unstable.snapshot = none)
    (hcall : Node.call st rnd (.step m) = .ok (res, st'))
    (hacc : Accepted st.raft.raftLog.abs st'.raft.raftLog.abs m) :
    FAcc (FL h c0 st) (FL h c0 st') m
  fcall_step {n : Nat} {a b : Sys} (ha : h[n]? = some a)
    (hb : h[n + 1]? = some b) {k : Nat} {st st' : NState} {rnd : Option Nat} {op : NodeOp}
    {res : OpRes} (hka : a.node k = some st) (hkb : b.node k = some st') (hnet : b.net = a.net)
    (hop : appOp op = true ∨ ∃ m, op = .step m ∧ m ∈ a.net ∧ m.to = k)
    (hco : ∀ j, op = .compact j → CompactOk st.raft.raftLog j)
    (hns : ∀ m, op = .step m → m.msgType ≠ .msgSnapshot)
    (hpn : st.raft.raftLog.unstable.snapshot = none)
    (hcall : Node.call st rnd op = .ok (res, st')) : FCallStep h c0 a k st st'
  flogs_eq_below {n n' : Nat} {s s' : Sys} (hn : h[n]? = some s)
    (hn' : h[n']? = some s') {i j : Nat} {st st' : NState} (hi : s.node i = some st)
    (hj : s'.node j = some st') {q : Nat} {e1 e2 : Entry}
    (h1 : (FL h c0 st).entryAt q = some e1) (h2 : (FL h c0 st').entryAt q = some e2)
    (ht : e1.term = e2.term) :
    ∀ k, k ≤ q → (FL h c0 st).entryAt k = (FL h c0 st').entryAt k
  ghost_inv : ∀ (n : Nat) (s : Sys), h[n]? = some s →
    GhostInv q h c0 n s
  fs_compact {n : Nat} {a b : Sys} (ha : h[n]? = some a) (hb : h[n + 1]? = some b) {k : Nat}
    {st st' : NState} (hka : a.node k = some st) (hkb : b.node k = some st') {j : Nat}
    (ho : CompactOut st st' j) : ∀ i, (FS h c0 st').entryAt i = (FS h c0 st).entryAt i
  init_below {s0 : Sys} (h0 : h[0]? = some s0) {n : Nat} {s : Sys} (hn : h[n]? = some s) {v : Nat}
    {st : NState} (hv : s.node v = some st) {k : Nat} {e : Entry}
    (he : (FL h c0 st).entryAt k = some e) (hini : EntriesOf s0 e) {c : Nat} {ec : Entry}
    (hc : c ≤ k) (hec : (FL h c0 st).entryAt c = some ec) : EntriesOf s0 ec
  init_entry_term {s0 : Sys} (h0 : h[0]? = some s0) {e : Entry}
    (he : EntriesOf s0 e) {n : Nat} {s : Sys} (hn : h[n]? = some s) {l t : Nat}
    (hl : leads s l t) : e.term < t
  leader_flogs_eq {n n' : Nat} {s s' : Sys} (hn : h[n]? = some s)
    (hn' : h[n']? = some s') {l l' t : Nat} {st st' : NState} (hk : s.node l = some st)
    (hk' : s'.node l' = some st') (hs : st.raft.state = .leader) (hs' : st'.raft.state = .leader)
    (ht : st.raft.term = t) (ht' : st'.raft.term = t) {k : Nat}
    (h1 : k ≤ st.raft.raftLog.abs.lastIndex) (h2 : k ≤ st'.raft.raftLog.abs.lastIndex) :
    (FL h c0 st).entryAt k = (FL h c0 st').entryAt k
  hb_prov : ∀ (n : Nat) (s : Sys), h[n]? = some s →
    ∀ x ∈ s.net, x.msgType = .msgHeartbeat → ∃ i, Gen (HbGen h) n i x

/-- **a freshly queued acknowledgement, completely**: it answers a `MsgAppend` of the transport of the
node's (new) term; either the batch was accepted and the response acknowledges its end, or the log is
untouched and the response acknowledges the commit index -/
theorem Facts.fresh_ack2 (F : Facts q cfg c0 h) {n : Nat} {a b : Sys} (ha : h[n]? = some a)
    (hb : h[n + 1]? = some b) {k : Nat}
    {st st' : NState} {rnd : Option Nat} {op : NodeOp} {res : OpRes} (h1 : a.node k = some st)
    (hkb : b.node k = some st') (hnet : b.net = a.net)
    (hop : appOp op = true ∨ ∃ m, op = .step m ∧ m ∈ a.net ∧ m.to = k)
    (hnc : ∀ j, op = .compact j → CompactOk st.raft.raftLog j)
    (hns : ∀ m, op = .step m → m.msgType ≠ .msgSnapshot)
    (hpn : st.raft.raftLog.unstable.snapshot = none)
    (h4 : Node.call st rnd op = .ok (res, st'))
    {x : Message} (hx : x ∈ st'.raft.msgs) (hold : x ∉ st.raft.msgs) (hack : isAck x)
    (hidx : x.index ≠ 0) :
    x.frm = k ∧ x.term = st'.raft.term ∧ st'.raft.state = .follower ∧
    ∃ m, op = .step m ∧ m ∈ a.net ∧ m.msgType = .msgAppend ∧ m.term = x.term ∧
      ((FAcc (FL h c0 st) (FL h c0 st') m ∧
          st.raft.raftLog.abs.matchTerm m.index m.logTerm = true ∧
          x.index = m.index + m.entries.length) ∨
       (FL h c0 st' = FL h c0 st ∧ x.index = st.raft.raftLog.committed ∧
          st'.raft.raftLog.committed = st.raft.raftLog.committed)) := by
  rcases F.fresh_ack ha hb h1 hkb hnet hop hnc hns hpn h4 hx hack hidx with c | ⟨c1, c2, c3, c4⟩
  · exact absurd c hold
  refine ⟨c1, c2, c4, ?_⟩
  have g := F.call_out ha hb h1 hkb hnet hop hnc hns hpn h4
  rcases g.qak x hx hack with c | c
  · exact absurd c hold
  rcases c.src with d | ⟨_, d2, _, _⟩
  · exact absurd d hidx
  rcases hop with g1 | ⟨m, rfl, g2, g3⟩
  · cases op <;> first | (cases g1; done) | (cases d2; done)
  · have hty : m.msgType = .msgAppend := d2
    obtain ⟨hok, hag⟩ := F.msg_ok ha g2 hty
    have hmt := F.append_term_ne_zero ha g2 hty
    cases append_call (F.node_inv ha h1) hty hok (hag k st h1) h4 with
    | noacc hl hc hq =>
      rcases hq x hx with e | e | e | ⟨e1, _, e3⟩
      · exact absurd e hold
      · exact absurd e hidx
      · rw [hack.2] at e; cases e
      · refine ⟨m, rfl, g2, hty, ?_, .inr ⟨FL_same hl, e1, hc⟩⟩
        rcases e3 with e | e
        · rw [c2]; exact e
        · exact absurd e hmt
    | acc ha' _ hci _ ht hq =>
      rcases hq x hx with e | ⟨_, e⟩
      · exact absurd e hold
      · refine ⟨m, rfl, g2, hty, ?_,
          .inl ⟨F.facc_call ha hb h1 hkb hnet g2 g3 (hns m rfl) hpn h4 ha', ha'.anchor, e⟩⟩
        rcases ht with e | e
        · rw [c2]; exact e
        · exact absurd e hmt

/-- **what the main induction rests on**, with the clauses of its bundle -/
structure Facts3 (q : Prop) (cfg : JointConfig) (c0 : Nat) (h : List Sys) : Prop
    extends Facts q cfg c0 h where
  anch : ∀ s ∈ h, ∀ x ∈ s.net, x.msgType = .msgAppend → x.logTerm ≠ 0 ∨ x.index ≤ c0
  rirs : ∀ n s, h[n]? = some s → ∀ x ∈ s.net, x.msgType = .msgReadIndexResp → RirSrc h n x
  snapidx : ∀ s ∈ h, ∀ x ∈ s.net, x.msgType = .msgSnapshot → c0 < x.snapshot.metadata.index
  snapt : ∀ s ∈ h, ∀ i st, s.node i = some st →
    st.raft.raftLog.abs.snapIdx = c0 → ∀ t0, st.raft.raftLog.abs.snapTerm = some t0 →
    ∀ s0, h[0]? = some s0 → ∀ j st0, s0.node j = some st0 → t0 ≤ st0.raft.term
  term_log : ∀ (n : Nat) (s : Sys), h[n]? = some s → ∀ i st, s.node i = some st →
    ∀ e ∈ (FL h c0 st).ents, e.term ≤ st.raft.term
  term_sto : ∀ (n : Nat) (s : Sys), h[n]? = some s → ∀ i st, s.node i = some st →
    ∀ e ∈ (FS h c0 st).ents, e.term ≤ st.raft.raftLog.store.hardState.term
  term_sle (hq : q) : ∀ (n : Nat) (s : Sys), h[n]? = some s → ∀ i st, s.node i = some st →
    st.raft.raftLog.store.hardState.term ≤ st.raft.term
  pend_ok : ∀ (n : Nat) (s : Sys), h[n]? = some s →
    ∀ v st sn, s.node v = some st → st.raft.raftLog.unstable.snapshot = some sn →
      st.raft.raftLog.unstable.entries = [] ∧ st.raft.raftLog.committed = sn.metadata.index ∧
      c0 < sn.metadata.index ∧ st.raft.raftLog.persisted ≤ sn.metadata.index ∧ q
  snap_lt (hq : q) : ∀ (n : Nat) (s : Sys), h[n]? = some s →
    ∀ v st, s.node v = some st → SnapLt c0 st

/-- **what one step does to the ghost log of one node** -/
theorem Facts.fnode_step (F : Facts q cfg c0 h) {n : Nat} {a b : Sys} (ha : h[n]? = some a)
    (hb : h[n + 1]? = some b) {v : Nat} {sta stb : NState} (hva : a.node v = some sta)
    (hvb : b.node v = some stb) : FNodeStep h c0 a v sta stb := by
  obtain ⟨k, stk, stk', hka, hkb, hoth, hs⟩ := F.stp ha hb
  by_cases hvk : v = k
  · subst hvk
    rw [hka] at hva; cases hva
    rw [hkb] at hvb; cases hvb
    have same : stb.raft.raftLog.abs = sta.raft.raftLog.abs → FNodeStep h c0 a v sta stb :=
      fun hl => .same (fun _ => by rw [FL_same hl]) (by rw [hl])
    cases hs with
    | call rnd op res hop hco _ hns hpn _ hcall hnet _ =>
      exact fcall_node (F.fcall_step ha hb hka hkb hnet hop hco hns hpn hcall)
    | snap rnd m hm hto hty _ hout _ =>
      cases hout with
      | skip hr => exact same (by rw [hr])
      | handled x hsf ht _ _ _ _ _ _ _ hsto hcase =>
        cases hcase with
        | kept hu _ _ _ => exact same (RaftLog.abs_congr hsto hu)
        | ffwd hu _ _ _ _ _ _ => exact same (RaftLog.abs_congr hsto hu)
        | restored hle hnm hu hc _ _ =>
          refine .restored m hm hty hto ?_ hc hle hnm hsf ht
          rw [RaftLog.abs_some (sn := m.snapshot) (by rw [hu]; rfl), hu]
          rfl
    | psnap rnd _ hout _ _ =>
      cases hout with
      | noop hr => exact same (by rw [hr])
      | done sn L _ hr _ habs _ _ _ _ _ _ _ => exact same (by rw [hr]; exact habs)
    | send _ _ _ hsame _ _ => exact same (by rw [hsame.1])
    | restart c rnd hboot _ =>
      have hbt := CV.boot_booted c _ rnd stb hboot
      obtain ⟨_, habs, _⟩ := boot_log c _ rnd stb (F.node_inv ha hka).storeWF hboot
      exact .restart (FL_restart habs) hbt.state hbt.term
  · rw [hoth v hvk, hva] at hvb
    cases hvb
    exact .same (fun _ => rfl) rfl

/-- a history under `GHyp2w q` has the facts the main induction rests on -/
theorem GHyp2w.facts (H : GHyp2w q cfg c0 h) : Facts q cfg c0 h :=
  { toFacts0 := H.facts0, initc := H.initc, ghost_nz := ghost_nz H, fentry_prov := fentry_prov H,
    ev_facts := Ev.facts H, vote_prov := fun n s hn => (vote_prov H n s hn).2,
    c0_le_snap := c0_le_snap H, call_more := fun ha _ hi _ _ => call_more H ha hi,
    facc_call := facc_call H,
    fcall_step := fcall_step H,
    flogs_eq_below := flogs_eq_below H, ghost_inv := ghost_inv H, fs_compact := fs_compact H,
    init_below := init_below H, init_entry_term := init_entry_term H,
    leader_flogs_eq := leader_flogs_eq H, hb_prov := fun n s hn => (hb_prov H n s hn).2 }

/-- … and one under `GHyp3a q` those with the clauses of that bundle -/
theorem GHyp3a.facts (H : GHyp3a q cfg c0 h) : Facts3 q cfg c0 h :=
  { toFacts := H.toGHyp2w.facts, anch := H.anch, rirs := H.rirs, snapidx := H.snapidx,
    snapt := H.snapt, term_log := fun n s hn => (term_le H n s hn).log,
    term_sto := fun n s hn => (term_le H n s hn).sto,
    term_sle := fun _ n s hn => (term_le H n s hn).sle, pend_ok := pend_ok H, snap_lt := snap_lt H }

end Snap5
end Cluster
end RaftModel
