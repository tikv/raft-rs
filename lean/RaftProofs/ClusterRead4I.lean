import RaftProofs.ClusterRead4H
import RaftProofs.ClusterRead3B

/-!
Cluster-level ReadIndex safety for **forwarded** reads (`RaftProps.C08f`), part 4I: the generalised
notion of registration (`Reg` = a local `read_index` call or a delivered `MsgReadIndex` makes the context
pending), the bundle `RdHypF2`, the bundle `RdBase` (what the invariants of `4I–4M` use:
`ReadFacts`, `safe`, unique registration of non-empty contexts; `RdHyp`, `RdHypS` and `RdHypF2` give
it), and the first cluster invariant `pend_ok`.
-/
namespace RaftModel
namespace Cluster
namespace R4
open Node Raft.RD.R4
open Raft.RD (reqCtx Fresh boot_fresh rd_lookup_mem rd_lookup_none)

/-- the step `h[n] → h[n+1]` **registers** the context `K` on node `i`: a `read_index(K)` call of the
application of `i` (`RegAt`) or the delivery of a `MsgReadIndex` carrying `K` to `i` (`FwdRegAt`) makes
`K` pending, and it was not pending on `i` before -/
def Reg (h : List Sys) (n i : Nat) (K : Bytes) : Prop :=
  RegAt h n i K ∨ ∃ m idx, FwdRegAt h n i m K idx

/-- **the hypotheses of the read layer with forwarded reads, with unique registration**: `RdHypF`
(`Hyp3w`, `safe`, `once`, `uniqc`, `nonempty`) and
* `uniqr`: a context is registered (made pending on some node, by a local call or by a delivered
  `MsgReadIndex`) by at most one step of the history.  This is `uniq` of C08c's `RdHyp` read over both
  kinds of registration. -/
structure RdHypF2 (cfg : JointConfig) (c0 : Nat) (h : List Sys) : Prop extends RdHypF cfg c0 h where
  uniqr : ∀ n1 n2 i1 i2 K, Reg h n1 i1 K → Reg h n2 i2 K → n1 = n2

theorem Reg.step {h : List Sys} {n i : Nat} {K : Bytes} (hr : Reg h n i K) :
    ∃ a b st', h[n]? = some a ∧ h[n + 1]? = some b ∧ b = a.setNode i st' := by
  rcases hr with ⟨a, b, st, st', _, _, p1, p2, _, _, p5, _⟩ |
    ⟨_, _, a, b, st, st', _, _, p1, p2, _, _, _, _, _, p5, _⟩
  · exact ⟨a, b, st', p1, p2, p5⟩
  · exact ⟨a, b, st', p1, p2, p5⟩

/-- **what the invariants of the read path use**: `ReadFacts`, `safe`, and that
registration — by a local call or by a delivered `MsgReadIndex` — is unique and of a non-empty context.
`RdHyp` (reads at the leader, C08c) and `RdHypF2` (forwarded reads, C08f) both give it. -/
structure RdBase (cfg : JointConfig) (c0 : Nat) (h : List Sys) : Prop extends ReadFacts cfg c0 h where
  safe : ∀ s ∈ h, ∀ i st, s.node i = some st → st.raft.readOnly.option = .safe
  uniqr : ∀ n1 n2 i1 i2 K, Reg h n1 i1 K → Reg h n2 i2 K → n1 = n2
  nonemptyr : ∀ n i K, Reg h n i K → K ≠ []

/-- two registrations of one context are the same step on the same node -/
theorem Reg.uniq_node {h : List Sys}
    (uniqr : ∀ n1 n2 i1 i2 K, Reg h n1 i1 K → Reg h n2 i2 K → n1 = n2)
    {n1 n2 i1 i2 : Nat} {K : Bytes} (h1 : Reg h n1 i1 K) (h2 : Reg h n2 i2 K) :
    n1 = n2 ∧ i1 = i2 := by
  have e := uniqr n1 n2 i1 i2 K h1 h2
  subst e
  refine ⟨rfl, ?_⟩
  obtain ⟨a, b, st', p1, p2, p5⟩ := h1.step
  obtain ⟨a', b', st2', q1, q2, q5⟩ := h2.step
  rw [p1] at q1; cases q1
  rw [p2] at q2; cases q2
  exact setNode_head_inj (p5.symm.trans q5)

theorem RdBase.uniq_node {cfg : JointConfig} {c0 : Nat} {h : List Sys} (H : RdBase cfg c0 h)
    {n1 n2 i1 i2 : Nat} {K : Bytes} (h1 : Reg h n1 i1 K) (h2 : Reg h n2 i2 K) :
    n1 = n2 ∧ i1 = i2 := Reg.uniq_node H.uniqr h1 h2

theorem RdHypF2.uniq_node {cfg : JointConfig} {c0 : Nat} {h : List Sys} (H : RdHypF2 cfg c0 h)
    {n1 n2 i1 i2 : Nat} {K : Bytes} (h1 : Reg h n1 i1 K) (h2 : Reg h n2 i2 K) :
    n1 = n2 ∧ i1 = i2 := Reg.uniq_node H.uniqr h1 h2

/-! ### `add_request` for a delivered request -/

theorem addRequest_specD {ro ro' : ReadOnly} {idx id : Nat} {m : Message}
    (h : ro.addRequest idx m id = .ok ro') :
    ∃ en, m.entries.head? = some en ∧
      ((ro' = ro ∧ ∃ rs, (en.data, rs) ∈ ro.pendingReadIndex) ∨
        ((∀ rs, (en.data, rs) ∉ ro.pendingReadIndex) ∧ ro'.option = ro.option ∧
          ro'.pendingReadIndex = ro.pendingReadIndex ++
            [(en.data, { req := m, index := idx, acks := [id] })] ∧
          ro'.readIndexQueue = ro.readIndexQueue ++ [en.data])) := by
  unfold ReadOnly.addRequest at h
  split at h
  · cases h
  · rename_i en hen
    refine ⟨en, hen, ?_⟩
    dsimp only at h
    split at h
    · rename_i hs
      cases h
      left
      refine ⟨rfl, ?_⟩
      cases hl : ro.pendingReadIndex.lookup en.data with
      | none => rw [hl] at hs; cases hs
      | some rs => exact ⟨rs, rd_lookup_mem _ _ _ hl⟩
    · rename_i hs
      cases h
      right
      refine ⟨?_, rfl, rfl, rfl⟩
      cases hl : ro.pendingReadIndex.lookup en.data with
      | none => exact rd_lookup_none _ _ hl
      | some rs => rw [hl] at hs; exact absurd rfl hs

/-! ### what the read path keeps of a node across a `keep` / `fwd` delivery -/

/-- the node after a dropped or forwarded `MsgReadIndex`: the pending requests, the queue and the term
are unchanged, or nothing is pending / queued any more -/
theorem RS.ro_cases {r r' : Raft} (hs : RS r r') :
    (r'.readOnly = r.readOnly ∧ r'.term = r.term) ∨
    (r'.readOnly.pendingReadIndex = [] ∧ r'.readOnly.readIndexQueue = []) := by
  rcases hs.keep with g | g
  · exact .inl g
  · right; rw [g]; exact ⟨rfl, rfl⟩

/-! ### the first cluster invariant -/

structure PendOk (s : Sys) : Prop where
  req : ∀ v st, s.node v = some st → ∀ K rs, (K, rs) ∈ st.raft.readOnly.pendingReadIndex →
    reqCtx rs.req = some K
  acks : ∀ v st, s.node v = some st → ∀ K rs, (K, rs) ∈ st.raft.readOnly.pendingReadIndex →
    ∀ u ∈ rs.acks, u = v ∨ HbrIn s.net u K st.raft.term

theorem pend_ok (F : ReadFacts cfg c0 h)
    (safe : ∀ s ∈ h, ∀ i st, s.node i = some st → st.raft.readOnly.option = .safe) :
    ∀ (n : Nat) (s : Sys), h[n]? = some s → PendOk s := by
  intro n s hs
  -- a registration, by a local call or by a delivered `MsgReadIndex`
  have regCase : ∀ {net : List Message} {k : Nat} {r r' : Raft} {ro : ReadOnly} {m : Message},
      r.id = k →
      ((∀ K rs, (K, rs) ∈ r.readOnly.pendingReadIndex → reqCtx rs.req = some K) ∧
        ∀ K rs, (K, rs) ∈ r.readOnly.pendingReadIndex →
          ∀ u ∈ rs.acks, u = k ∨ HbrIn net u K r.term) →
      r.readOnly.addRequest r.raftLog.committed m r.id = .ok ro →
      rcore r' = rcore ({ r with readOnly := ro } : Raft) →
      (∀ K rs, (K, rs) ∈ r'.readOnly.pendingReadIndex → reqCtx rs.req = some K) ∧
        ∀ K rs, (K, rs) ∈ r'.readOnly.pendingReadIndex →
          ∀ u ∈ rs.acks, u = k ∨ HbrIn net u K r'.term := by
    intro net k r r' ro m hid ih hadd hcore
    have e1 : r'.readOnly = ro := congrArg RCore.ro hcore
    have e2 : r'.term = r.term := congrArg RCore.term hcore
    rw [e1, e2]
    obtain ⟨en, hen, hcase⟩ := addRequest_specD hadd
    rcases hcase with ⟨q1, _⟩ | ⟨_, _, q3, _⟩
    · rw [q1]; exact ih
    · rw [q3]
      constructor
      · intro K rs hmem
        rcases List.mem_append.1 hmem with g | g
        · exact ih.1 K rs g
        · rw [List.mem_singleton] at g
          injection g with g1 g2
          subst g1; subst g2
          unfold reqCtx
          rw [hen]; rfl
      · intro K rs hmem u hu
        rcases List.mem_append.1 hmem with g | g
        · exact ih.2 K rs g u hu
        · rw [List.mem_singleton] at g
          injection g with g1 g2
          subst g2
          left
          rw [List.mem_singleton] at hu
          rw [hu]; exact hid
  have key := (F.local_hist (T := fun _ _ => True)
    (N := fun _ net v r => (∀ K rs, (K, rs) ∈ r.readOnly.pendingReadIndex → reqCtx rs.req = some K) ∧
      ∀ K rs, (K, rs) ∈ r.readOnly.pendingReadIndex → ∀ u ∈ rs.acks, u = v ∨ HbrIn net u K r.term)
    (fun hsub g => ⟨g.1, fun K rs hm u hu => (g.2 K rs hm u hu).imp (fun g => g) (·.mono hsub)⟩)
    (fun g => g) (fun g => g) (fun _ _ _ => trivial) (fun g => g)
    (fun hf _ => by rw [hf.1]; exact ⟨fun _ _ hm => (by cases hm), fun _ _ hm => (by cases hm)⟩)
    ?_ ?_ ?_ n s hs).1
  · exact ⟨fun v st hv => (key v st hv).1, fun v st hv => (key v st hv).2⟩
  · intro n a k st st' m ha _ ihn _ hk hm ho _
    constructor
    · intro K rs hmem
      obtain ⟨_, ⟨rs0, g1, g2, _⟩, _⟩ := ho.pend K rs hmem
      rw [g2]; exact (ihn k st hk).1 K rs0 g1
    · intro K rs hmem u hu
      obtain ⟨g0, _, g3⟩ := ho.pend K rs hmem
      rcases g3 u hu with c | c | ⟨rsA, c1, c2⟩
      · exact .inl (c.trans (F.id (mem_of_get ha) hk))
      · right
        rcases hm with q | ⟨q, _⟩
        · rw [c.1] at q; cases q
        · exact ⟨m, q, c.1, c.2.1, c.2.2.1, by rw [g0]; exact c.2.2.2⟩
      · rw [g0]; exact (ihn k st hk).2 K rsA c1 u c2
  · intro n a k st st' K' _ _ ha _ ihn _ hk _ ho
    cases ho with
    | frame hf =>
      rw [hf.ro, hf.term]
      exact ⟨(ihn k st hk).1, (ihn k st hk).2⟩
    | fwd hfo hlead hcore hmsgs =>
      have e1 : st'.raft.readOnly = st.raft.readOnly := congrArg RCore.ro hcore
      have e2 : st'.raft.term = st.raft.term := congrArg RCore.term hcore
      rw [e1, e2]
      exact ⟨(ihn k st hk).1, (ihn k st hk).2⟩
    | now hs => exact absurd hs (F.not_now safe (mem_of_get ha) hk)
    | reg hl hc ro hadd hcore hmsgs =>
      exact regCase (F.id (mem_of_get ha) hk) (ihn k st hk) hadd hcore
  · intro n a k st st' m _ _ ha _ ihn _ hk hm hto hty _ ho
    have keepCase : ∀ (k : Nat) (st : NState) (r' : Raft), a.node k = some st → RS st.raft r' →
        ((∀ K rs, (K, rs) ∈ r'.readOnly.pendingReadIndex → reqCtx rs.req = some K) ∧
          (∀ K rs, (K, rs) ∈ r'.readOnly.pendingReadIndex →
            ∀ u ∈ rs.acks, u = k ∨ HbrIn a.net u K r'.term)) := by
      intro k st r' hk hs
      rcases RS.ro_cases hs with ⟨g1, g2⟩ | ⟨g1, _⟩
      · rw [g1, g2]; exact ⟨(ihn k st hk).1, (ihn k st hk).2⟩
      · rw [g1]; exact ⟨fun _ _ hm => (by cases hm), fun _ _ hm => (by cases hm)⟩
    cases ho with
    | keep hs _ => exact keepCase k st _ hk hs
    | fwd r1 hs hfo hcore y hmsgs hy =>
      have e1 : st'.raft.readOnly = r1.readOnly := congrArg RCore.ro hcore
      have e2 : st'.raft.term = r1.term := congrArg RCore.term hcore
      rw [e1, e2]
      exact keepCase k st r1 hk hs
    | now hs => exact absurd hs (F.not_now safe (mem_of_get ha) hk)
    | reg hl hc ro hadd hcore hmsgs =>
      exact regCase (F.id (mem_of_get ha) hk) (ihn k st hk) hadd hcore

end R4
end Cluster
end RaftModel
