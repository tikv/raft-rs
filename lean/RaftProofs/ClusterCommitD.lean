import RaftProofs.ClusterCommitA

/-!
Cluster-level commit safety, the vocabulary of the per-call relation for the commit layer.  `G A a m r`
("`r` is an intermediate state of a call that started in `a` with input message `m`"):

* `mok`: on a leader every `matched` is `0`, the leader's own (`≤ persisted`), or backed by `A` — the
  abstract predicate "an accepting append response of that node, for that term, with at least that
  index is in the transport" (the input message of the call included);
* `lc`: a leader's commit index is the one the call started with, or `maybe_commit` moved it: a joint
  quorum has `matched ≥ committed` and the entry at `committed` carries the leader's term;
* what the messages queued during the call say, related to the state the call ends in.

The handlers are taken through the relation `Gx` of `ClusterCommit5C`, of which `G` is the case of a node
that does not batch.
-/
namespace RaftModel
namespace Raft
namespace CC

/-- an accepting append response -/
def isAck (x : Message) : Prop := x.msgType = .msgAppendResponse ∧ x.reject = false

/-- the delivered message is an accepting append response for term `t` (or carries no term) -/
def AckIn (m : Message) (t : Nat) : Prop :=
  m.msgType = .msgAppendResponse ∧ m.reject = false ∧ (m.term = t ∨ m.term = 0)

/-- every `matched` of a leader is accounted for -/
structure MOK (A : Nat → Nat → Nat → Prop) (r : Raft) : Prop where
  h : r.state = .leader → ∀ j x, mfun r.prs j = some x →
    x = 0 ∨ (j = r.id ∧ x ≤ r.raftLog.persisted) ∨ A j r.term x

/-- the leader's commit rule held when the commit index was set -/
def LCok (r : Raft) : Prop :=
  (∃ Q, IsJointQuorum r.prs.voters Q ∧
    ∀ v ∈ Q, ∃ x, mfun r.prs v = some x ∧ r.raftLog.committed ≤ x) ∧
  r.raftLog.term r.raftLog.committed = .ok r.term

/-- a leader-side message queued during the call -/
structure LkOK (A : Nat → Nat → Nat → Prop) (r : Raft) (x : Message) : Prop where
  lead : r.state = .leader
  term : x.term = r.term
  frm : x.frm = r.id
  app : x.msgType = .msgAppend →
    x.commit ≤ r.raftLog.committed ∧ r.raftLog.term x.index = .ok x.logTerm
  hb : x.msgType = .msgHeartbeat →
    x.commit ≤ r.raftLog.committed ∧ (x.commit = 0 ∨ A x.to r.term x.commit)

/-- an accepting append response queued during the call -/
structure AkOK (m : Message) (r : Raft) (x : Message) : Prop where
  term : x.term = r.term
  frm : x.frm = r.id
  src : x.index = 0 ∨ (r.state = .follower ∧ m.msgType = .msgAppend ∧ x.to = m.frm ∧
      (x.index ≤ r.raftLog.committed ∨ x.index = m.index + m.entries.length))

/-- the term of a (pre-)vote message that carries a commit point: the sender's term — plus one for a
pre-vote request —, and a response that carries one is a rejection -/
def VT (t : Nat) (x : Message) : Prop :=
  (x.msgType = .msgRequestPreVote → x.term = t + 1) ∧
  (x.msgType ≠ .msgRequestPreVote → x.term = t) ∧
  (x.msgType = .msgRequestPreVoteResponse ∨ x.msgType = .msgRequestVoteResponse → x.reject = true)

/-- the commit evidence of a (pre-)vote message queued during the call -/
def VkOK (r : Raft) (x : Message) : Prop :=
  x.commit = 0 ∨ (x.commit ≤ r.raftLog.committed ∧ r.raftLog.term x.commit = .ok x.commitTerm ∧
    VT r.term x)

/-- a real vote request queued during the call describes the end of the sender's log -/
structure RqOK (r : Raft) (x : Message) : Prop where
  term : x.term = r.term
  last : x.index = r.raftLog.lastIndex
  lt : r.raftLog.lastTerm = .ok x.logTerm

structure G (A : Nat → Nat → Nat → Prop) (a : Raft) (m : Message) (r : Raft) : Prop where
  id : r.id = a.id
  mok : MOK A r
  lc : r.state = .leader → r.raftLog.committed = a.raftLog.committed ∨ LCok r
  qlk : ∀ x ∈ r.msgs, lkT x.msgType = true → x ∈ a.msgs ∨ LkOK A r x
  qak : ∀ x ∈ r.msgs, isAck x → x ∈ a.msgs ∨ AkOK m r x
  qvk : ∀ x ∈ r.msgs, isVoteMsg x.msgType = true → x ∈ a.msgs ∨ VkOK r x
  qrq : ∀ x ∈ r.msgs, x.msgType = .msgRequestVote → x ∈ a.msgs ∨ RqOK r x

/-- nothing has been queued yet in this call -/
def Old (a r : Raft) : Prop := ∀ x ∈ r.msgs, x ∈ a.msgs

theorem Old.rfl {a : Raft} : Old a a := fun _ h => h

theorem G.start {A : Nat → Nat → Nat → Prop} {a : Raft} {m : Message} (hm : MOK A a) : G A a m a :=
  ⟨rfl, hm, fun _ => .inl rfl, fun _ h _ => .inl h, fun _ h _ => .inl h, fun _ h _ => .inl h,
    fun _ h _ => .inl h⟩

theorem MOK.of_core {A : Nat → Nat → Nat → Prop} {r r' : Raft} (h : MOK A r)
    (hc : score r' = score r) : MOK A r' := by
  constructor
  have e1 : r'.state = r.state := congrArg SCore.state hc
  have e2 : mfun r'.prs = mfun r.prs := congrArg SCore.mtab hc
  have e3 : r'.id = r.id := congrArg SCore.id hc
  have e4 : r'.raftLog.persisted = r.raftLog.persisted := congrArg SCore.persisted hc
  have e5 : r'.term = r.term := congrArg SCore.term hc
  rw [e1, e2, e3, e4, e5]
  exact h.h

theorem LCok.of_core {r r' : Raft} (h : LCok r) (hc : score r' = score r) : LCok r' := by
  have e2 : mfun r'.prs = mfun r.prs := congrArg SCore.mtab hc
  have e3 : r'.prs.conf = r.prs.conf := congrArg SCore.conf hc
  have e4 : r'.raftLog.committed = r.raftLog.committed := congrArg SCore.committed hc
  have e5 : r'.term = r.term := congrArg SCore.term hc
  have e6 : r'.raftLog.term = r.raftLog.term := congrArg SCore.tm hc
  unfold LCok ProgressTracker.voters at *
  rw [e2, e3, e4, e5, e6]
  exact h

theorem Old.sf_nl {a r r' : Raft} (ho : Old a r) (h : ∀ x ∈ r'.msgs, x ∈ r.msgs) : Old a r' :=
  fun x hx => ho x (h x hx)

end CC
end Raft
end RaftModel
