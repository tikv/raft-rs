import RaftProofs.ClusterReadA
import RaftProofs.RaftNodeC10
import RaftProps.C13b

/-!
Cluster-level flow control (C13), part H: **a heartbeat queued during a call advertises at most the
`matched` index the node's tracker holds for the addressee when the call ends** (`HM`).

Heartbeats are only queued by `bcast_heartbeat_with_ctx` (`send_heartbeat`, raft.rs:855), the last thing
`step_leader` does for `MsgBeat` / a safe `MsgReadIndex` and all `ping` does; everything else queues no
heartbeat (`NHb`: the frame lemmas `RF` / `RS` of the ReadIndex layer, `RaftProofs/ClusterRead4{A,C,F}`
and `ClusterReadA`, say so for the sending / replication helpers, the leader handlers and the role
changes; the remaining functions are traversed here).
-/
namespace RaftModel
namespace Raft
namespace FH
open RD

/-- no heartbeat has been queued since `a` -/
def NHb (a r : Raft) : Prop := ∀ x ∈ r.msgs, x.msgType = .msgHeartbeat → x ∈ a.msgs

/-- every heartbeat queued since `a` advertises at most the `matched` index that `r` holds for its
addressee -/
def HM (a r : Raft) : Prop := ∀ x ∈ r.msgs, x.msgType = .msgHeartbeat →
  x ∈ a.msgs ∨ ∃ pr, r.prs.get x.to = some pr ∧ x.commit ≤ pr.matched

theorem NHb.rfl {a : Raft} : NHb a a := fun _ h _ => h

theorem NHb.hm {a r : Raft} (h : NHb a r) : HM a r := fun x hx ht => .inl (h x hx ht)

theorem NHb.of_rd {a r r' : Raft} (h : NHb a r) (hrd : rdOf r'.msgs = rdOf r.msgs) : NHb a r' := by
  intro x hx ht
  have : x ∈ rdOf r'.msgs := mem_rdOf.2 ⟨hx, by simp [isRd, ht, rdT]⟩
  rw [hrd] at this
  exact h x (mem_rdOf.1 this).1 ht

theorem NHb.rf {a r r' : Raft} (h : NHb a r) (hf : RF r r') : NHb a r' := h.of_rd hf.rd
theorem NHb.rs {a r r' : Raft} (h : NHb a r) (hs : RS r r') : NHb a r' := h.of_rd hs.rd

theorem NHb.post_rf {a r : Raft} {x : Res Raft} (h : NHb a r)
    (hx : Res.Post (fun y => RF r y) x) : Res.Post (NHb a) x :=
  Res.post_mono hx (fun _ hy => h.rf hy)

theorem NHb.post_rs {a r : Raft} {x : Res Raft} (h : NHb a r)
    (hx : Res.Post (fun y => RS r y) x) : Res.Post (NHb a) x :=
  Res.post_mono hx (fun _ hy => h.rs hy)

theorem NHb.post_rf1 {a r : Raft} {β : Type} {x : Res (Raft × β)} (h : NHb a r)
    (hx : Res.Post (fun y => RF r y.1) x) : Res.Post (fun y => NHb a y.1) x :=
  Res.post_mono hx (fun _ hy => h.rf hy)

theorem NHb.send {a r : Raft} (h : NHb a r) (m : Message) (hm : m.msgType ≠ .msgHeartbeat) :
    Res.Post (NHb a) (r.send m) := by
  apply Res.post_intro
  intro r' hs
  rw [send_eq r r' m hs]
  intro x hx ht
  rcases List.mem_append.1 hx with g | g
  · exact h x g ht
  · rw [List.mem_singleton.1 g, sendFill_msgType] at ht
    exact absurd ht hm

theorem NHb.becomeFollower {a r : Raft} (h : NHb a r) (t l : Nat) :
    NHb a (r.becomeFollower t l) := by
  intro x hx ht
  rw [becomeFollower_msgs] at hx
  exact h x hx ht

/-! ### read-index answers -/

theorem handleReadyReadIndex_nhb {a r : Raft} (h : NHb a r) (req : Message) (index : Nat) :
    Res.Post (fun x => NHb a x.1 ∧ ∀ m, x.2 = some m → m.msgType = .msgReadIndexResp)
      (r.handleReadyReadIndex req index) := by
  unfold handleReadyReadIndex
  split
  · split
    · trivial
    · exact ⟨h, fun m hm => by cases hm⟩
  · exact ⟨h, fun m hm => by cases hm; rfl⟩

theorem respondReadStates_nhb {a r : Raft} (h : NHb a r) (rss : List ReadIndexStatus) :
    Res.Post (NHb a) (r.respondReadStates rss) :=
  Res.post_intro fun _ hr => respondReadStates_parts (P := NHb a) hr h
    (fun hi p => ((handleReadyReadIndex_nhb p _ _).of_eq hi).1)
    (fun hs ty p => (p.send _ (by rw [ty]; intro hc; cases hc)).of_eq hs)

/-! ### leader side -/

theorem handleHeartbeatResponse_nhb {a r : Raft} (h : NHb a r) (m : Message) :
    Res.Post (NHb a) (r.handleHeartbeatResponse m) :=
  Res.post_intro fun _ hh => handleHeartbeatResponse_parts (P := NHb a) hh h
    (fun ha => h.rf ((sendAppendPr_rf r m.frm _).of_eq ha))
    (fun _ p => p)
    (fun _ p => p)
    (fun hr p => (respondReadStates_nhb p _).of_eq hr)

/-- `bcast_heartbeat_with_ctx`: every heartbeat it queues advertises at most the addressee's `matched` -/
theorem bcastHeartbeatWithCtx_hm {a r : Raft} (h : HM a r) (ctx : Option Bytes) :
    Res.Post (HM a) (r.bcastHeartbeatWithCtx ctx) :=
  Res.post_intro fun _ hb => bcastHeartbeatWithCtx_parts2 (P := HM a)
    (Q := fun r2 id pr => HM a { r2 with prs := r2.prs.set id pr }) hb h
    (fun {r1 id pr r2} _ hg hs h1 => by
      rw [RaftProps.C13.C13_heartbeat_commit] at hs
      cases hs
      intro x hx ht
      dsimp only at hx ⊢
      rcases List.mem_append.1 hx with g | g
      · rcases h1 x g ht with c | ⟨pr', c1, c2⟩
        · exact .inl c
        · right
          by_cases hto : x.to = id
          · rw [hto] at c1 ⊢
            rw [hg] at c1; cases c1
            exact ⟨pr, ProgressTracker.get_set_self _ _ _ _ hg, c2⟩
          · exact ⟨pr', by rw [ProgressTracker.get_set_ne _ _ _ _ hto]; exact c1, c2⟩
      · right
        rw [List.mem_singleton.1 g]
        exact ⟨pr, ProgressTracker.get_set_self _ _ _ _ hg,
          (RaftProps.C13.C13_heartbeat_commit_le r1 id pr ctx).2⟩)
    fun q => q

theorem bcastHeartbeat_hm {a r : Raft} (h : HM a r) : Res.Post (HM a) r.bcastHeartbeat := by
  unfold bcastHeartbeat
  exact bcastHeartbeatWithCtx_hm h _

theorem ping_hm {a r : Raft} (h : HM a r) : Res.Post (HM a) r.ping := by
  unfold ping
  split
  · exact bcastHeartbeat_hm h
  · exact h

/-- the postcondition of `step` and `step_leader`: `HM`, and no heartbeat at all unless the message is a
`MsgBeat` or a `MsgReadIndex` -/
abbrev SQ (a : Raft) (m : Message) : Raft × Option RaftError → Prop := fun x =>
  HM a x.1 ∧ (m.msgType ≠ .msgBeat → m.msgType ≠ .msgReadIndex → NHb a x.1)

theorem SQ.of_nhb {a r : Raft} {m : Message} {e : Option RaftError} (h : NHb a r) : SQ a m (r, e) :=
  ⟨h.hm, fun _ _ => h⟩

theorem HM.send {a r : Raft} (h : HM a r) (m : Message) (hm : m.msgType ≠ .msgHeartbeat) :
    Res.Post (HM a) (r.send m) := by
  apply Res.post_intro
  intro r' hs
  rw [send_eq r r' m hs]
  intro x hx ht
  rcases List.mem_append.1 hx with g | g
  · exact h x g ht
  · rw [List.mem_singleton.1 g, sendFill_msgType] at ht
    exact absurd ht hm

theorem stepLeader_sq {a r : Raft} (h : NHb a r) (m : Message) :
    Res.Post (SQ a m) (r.stepLeader m) :=
  -- in every arm but `MsgBeat` and `MsgReadIndex` the postcondition is `NHb`
  have nhb : ∀ {r1 : Raft} {t : MsgType}, m.msgType = t → t ≠ .msgBeat → t ≠ .msgReadIndex →
      SQ a m (r1, none) → NHb a r1 := fun ty h1 h2 p => p.2 (ty ▸ h1) (ty ▸ h2)
  Res.post_intro fun _ hs => stepLeader_parts (P := fun r1 => SQ a m (r1, none)) hs (SQ.of_nhb h)
    (fun hb ty => ⟨(bcastHeartbeat_hm h.hm).of_eq hb, fun hc => absurd ty hc⟩)
    (fun hq _ => SQ.of_nhb (by have := h.rf (checkQuorumActive_rf r); rwa [hq] at this))
    (fun ty p => SQ.of_nhb ((nhb ty (by decide) (by decide) p).becomeFollower _ _))
    (fun hf _ => SQ.of_nhb (by have := h.rf (filterProposal_rf m.entries r 0); rwa [hf] at this))
    (fun ha ty p => SQ.of_nhb ((nhb ty (by decide) (by decide) p).rf ((appendEntry_rf _ _).of_eq ha)))
    (fun hb ty p => SQ.of_nhb ((nhb ty (by decide) (by decide) p).rf ((bcastAppend_rf _).of_eq hb)))
    (fun hr _ => SQ.of_nhb ((handleReadyReadIndex_nhb h _ _).of_eq hr).1)
    (fun hs ty p => ⟨(p.1.send _ (by rw [ty]; decide)).of_eq hs,
      fun h1 h2 => ((p.2 h1 h2).send _ (by rw [ty]; decide)).of_eq hs⟩)
    (fun _ _ => SQ.of_nhb h)
    (fun hb ty p => ⟨(bcastHeartbeatWithCtx_hm p.1 _).of_eq hb, fun _ hc => absurd ty hc⟩)
    (fun ha _ => SQ.of_nhb (h.rf ((handleAppendResponse_rf r m).of_eq ha)))
    (fun hh _ => SQ.of_nhb ((handleHeartbeatResponse_nhb h m).of_eq hh))
    (fun _ => SQ.of_nhb (h.rf (handleSnapshotStatus_rf r m)))
    (fun _ => SQ.of_nhb (h.rf (handleUnreachable_rf r m)))
    (fun ht _ => SQ.of_nhb (h.rf ((handleTransferLeader_rf r m).of_eq ht)))

/-! ### configuration changes -/

theorem postConfChange_nhb {a r : Raft} (h : NHb a r) :
    Res.Post (fun x => NHb a x.1) r.postConfChange :=
  Res.post_intro fun _ hp => postConfChange_parts (P := NHb a) hp h
    (fun _ _ => fun p => p.becomeFollower _ _)
    (fun _ => fun hc p => p.rf ((maybeCommit_rf _).of_eq hc))
    (fun _ => fun hb p => p.rf ((bcastAppend_rf _).of_eq hb))
    (fun _ => fun ha p => p.rf ((maybeSendAppend_rf _ _ _ _).of_eq ha))
    (fun _ _ p => p)
    (fun _ p => p)
    (fun hr p => (respondReadStates_nhb p _).of_eq hr)
    (fun p => p)

theorem applyConfChange_nhb {a r : Raft} (h : NHb a r) (cc : ConfChangeV2) :
    Res.Post (fun x => NHb a x.1) (r.applyConfChange cc) :=
  Res.post_intro fun _ ha => applyConfChange_parts (P := NHb a) ha h
    (fun _ p => p) (fun hp p => (postConfChange_nhb p).of_eq hp)

/-! ### follower / candidate side -/

theorem handleHeartbeat_nhb {a r : Raft} (h : NHb a r) (m : Message) :
    Res.Post (NHb a) (r.handleHeartbeat m) :=
  Res.post_intro fun _ hh => handleHeartbeat_parts (P := NHb a) hh
    (fun _ => h)
    (fun hq p => p.rf ((sendRequestSnapshot_rf _).of_eq hq))
    (fun hs ty p => (p.send _ (by rw [ty]; intro hc; cases hc)).of_eq hs)

theorem restore_nhb {a r : Raft} (h : NHb a r) (snap : Snapshot) :
    Res.Post (fun x => NHb a x.1) (r.restore snap) :=
  Res.post_intro fun _ hr => restore_parts (P := NHb a) hr h
    (fun _ => h.becomeFollower _ _)
    (fun _ _ => h)
    (fun _ _ _ => h)
    (fun _ => fun hp p => (postConfChange_nhb p).of_eq hp)
    (fun _ p => p)

theorem handleSnapshot_nhb {a r : Raft} (h : NHb a r) (m : Message) :
    Res.Post (NHb a) (r.handleSnapshot m) :=
  Res.post_intro fun _ hs => handleSnapshot_parts (P := NHb a) hs
    (fun hr => (restore_nhb h _).of_eq hr)
    (fun hs ty p => (p.send _ (by rw [ty]; intro hc; cases hc)).of_eq hs)

theorem stepCandidate_nhb {a r : Raft} (h : NHb a r) (m : Message) :
    Res.Post (fun x => NHb a x.1) (r.stepCandidate m) :=
  Res.post_intro fun _ hs => stepCandidate_parts (P := NHb a) hs h
    (fun _ => h.becomeFollower _ _)
    (fun ha _ p => p.rf ((handleAppendEntries_rf _ m).of_eq ha))
    (fun hb _ p => (handleHeartbeat_nhb p m).of_eq hb)
    (fun hs _ p => (handleSnapshot_nhb p m).of_eq hs)
    (fun hp _ _ => h.rs ((poll_rs r _ _ _).of_eq hp))
    (fun hb p => p.rs ((maybeCommitByVote_rs _ m).of_eq hb))

theorem stepFollower_nhb {a r : Raft} (h : NHb a r) (m : Message) :
    Res.Post (fun x => NHb a x.1) (r.stepFollower m) :=
  Res.post_intro fun _ hs => stepFollower_parts (P := NHb a) hs h
    (fun hs ty => (h.send _ (by rcases ty with ty | ty | ty <;> simp [ty])).of_eq hs)
    h
    (fun ha _ p => p.rf ((handleAppendEntries_rf _ m).of_eq ha))
    (fun hb _ p => (handleHeartbeat_nhb p m).of_eq hb)
    (fun hs _ p => (handleSnapshot_nhb p m).of_eq hs)
    (fun hh _ _ => h.rs ((hup_rs r true).of_eq hh))
    (fun _ _ => h)

/-! ### `step`, `tick` -/

theorem step_sq {a r : Raft} (h : NHb a r) (m : Message) : Res.Post (SQ a m) (r.step m) := by
  refine Res.post_intro fun ⟨r', e⟩ hx => ?_
  cases step_inv hx with
  | consumed ht => exact SQ.of_nhb (h.rs ((stepTerm_rs r m).of_eq ht).1)
  | dispatched ht hd =>
    have h1 : NHb a _ := h.rs ((stepTerm_rs r m).of_eq ht).1
    cases hd with
    | hup _ hh => exact SQ.of_nhb (h1.rs ((hup_rs _ false).of_eq hh))
    | vote _ hv => exact SQ.of_nhb (h1.rs ((stepVote_rs _ m).of_eq hv))
    | candidate _ _ hc => exact SQ.of_nhb ((stepCandidate_nhb h1 m).of_eq hc)
    | follower _ _ hf => exact SQ.of_nhb ((stepFollower_nhb h1 m).of_eq hf)
    | leader _ _ hl => exact (stepLeader_sq h1 m).of_eq hl

theorem stepIgnore_hm {a r : Raft} (h : NHb a r) (m : Message) :
    Res.Post (HM a) (r.stepIgnore m) := by
  unfold stepIgnore
  exact Res.post_bind (step_sq h m) (fun x hx => hx.1)

theorem stepIgnore_nhb {a r : Raft} (h : NHb a r) (m : Message) (h1 : m.msgType ≠ .msgBeat)
    (h2 : m.msgType ≠ .msgReadIndex) : Res.Post (NHb a) (r.stepIgnore m) := by
  unfold stepIgnore
  exact Res.post_bind (step_sq h m) (fun x hx => hx.2 h1 h2)

theorem tickElection_hm {a r : Raft} (h : NHb a r) :
    Res.Post (fun x => HM a x.1) r.tickElection := by
  unfold tickElection
  simp only []
  split
  · exact h.hm
  · exact Res.post_bind (stepIgnore_hm (r := { r with electionElapsed := 0 }) h _) (fun x hx => hx)

theorem tickHeartbeat_hm {a r : Raft} (h : NHb a r) :
    Res.Post (fun x => HM a x.1) r.tickHeartbeat := by
  refine Res.post_intro fun ⟨r', b⟩ hx => ?_
  obtain ⟨ra, hr, hq, hb⟩ := tickHeartbeat_inv hx
  have h1 : NHb a ra := by
    cases hq with
    | early _ => exact h
    | unchecked _ _ e => subst e; split <;> exact h
    | checked _ _ hs =>
      have h2 := (stepIgnore_nhb (by exact h) _ (by intro hc; simp [newMessage] at hc)
        (by intro hc; simp [newMessage] at hc)).of_eq hs
      split <;> exact h2
  cases hb with
  | deposed _ => exact h1.hm
  | quiet _ _ => exact h1.hm
  | beat _ _ hs => exact (stepIgnore_hm (r := { ra with heartbeatElapsed := 0 }) h1 _).of_eq hs

theorem tick_hm {a r : Raft} (h : NHb a r) : Res.Post (fun x => HM a x.1) r.tick := by
  unfold tick
  split
  · exact tickElection_hm h
  · exact tickElection_hm h
  · exact tickElection_hm h
  · exact tickHeartbeat_hm h

theorem rawStep_hm {a r : Raft} (h : NHb a r) (m : Message) :
    Res.Post (fun x => HM a x.1) (RawNode.step r m) := by
  unfold RawNode.step
  split
  · exact h.hm
  · split
    · exact Res.post_mono (step_sq h m) (fun x hx => hx.1)
    · exact h.hm

end FH
end Raft
end RaftModel
