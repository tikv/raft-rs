import RaftProofs.ClusterConfD

/-!
C09 at the cluster level, part E: the campaign guard.  `Elected r r'` says that a call took the node
into a (pre-)candidacy it was not in before; `HupGuard r` is what `hup` checks before it campaigns.
Every call that goes through `Raft::step` or `tick` (`Run.routes`, by induction on what a call goes
through): a change into a candidacy happens through `hup` — on a `MsgHup` or a `MsgTimeoutNow`, with
`HupGuard` in the state the call started from — or is the real election of a pre-candidate that won
its pre-vote.
-/
namespace RaftModel
namespace Raft
open VoteOb

/-- candidate or pre-candidate -/
def Cand (r : Raft) : Prop := r.state = .candidate ∨ r.state = .preCandidate

/-- the call started an election: the node ends up (pre-)candidate, not in the role and term it was
in, and not by winning the pre-vote of a pre-candidacy it was already in (`campaign_after_pre_vote`:
that election was started — and guarded — when the node became pre-candidate) -/
def Elected (r r' : Raft) : Prop :=
  Cand r' ∧ ¬ (r'.state = r.state ∧ r'.term = r.term) ∧
    ¬ (r.state = .preCandidate ∧ r'.state = .candidate)

/-- what `hup` (raft.rs:1543) requires before any campaign: the node is promotable (a voter of its
own configuration) and its own scan `has_unapplied_conf_changes` over `(applied, committed]` (from
`max(applied + 1, first_index)`) finds no membership-change entry -/
def HupGuard (r : Raft) : Prop :=
  r.promotable = true ∧
    r.hasUnappliedConfChanges r.hupScanLow (r.raftLog.committed + 1) = .ok false

theorem slice_limit (l : RaftLog) (x lo hi : Nat) (ps : Option Nat) (b : Bool) :
    ({ l with maxApplyUnpersistedLogLimit := x } : RaftLog).slice lo hi ps b = l.slice lo hi ps b := rfl

theorem scanConf_limit (l : RaftLog) (x hi ps : Nat) : ∀ (fuel lo : Nat),
    scanConf { l with maxApplyUnpersistedLogLimit := x } hi ps fuel lo = scanConf l hi ps fuel lo := by
  intro fuel
  induction fuel with
  | zero => intro lo; rfl
  | succ n ih =>
    intro lo
    unfold scanConf
    rw [slice_limit]
    split
    · split
      · rfl
      · split
        · rfl
        · exact ih _
      · rfl
      · rfl
    · rfl

/-- `hup`'s guard reads `promotable`, the log up to `max_apply_unpersisted_log_limit`, and the page
size of its scan -/
theorem HupPos.guard {a r : Raft} (h : HupPos a r) (hg : HupGuard r) : HupGuard a := by
  obtain ⟨hp, hm, x, hlog⟩ := h
  have hscan : r.hasUnappliedConfChanges r.hupScanLow (r.raftLog.committed + 1) =
      a.hasUnappliedConfChanges a.hupScanLow (a.raftLog.committed + 1) := by
    unfold hasUnappliedConfChanges hupScanLow
    rw [hlog, hm]
    show (if a.raftLog.committed ≤ a.raftLog.applied then Res.ok false
      else scanConf { a.raftLog with maxApplyUnpersistedLogLimit := x } _ _ _ _) = _
    rw [scanConf_limit]
    rfl
  unfold HupGuard at *
  rw [← hp, ← hscan]; exact hg

/-- `hup`: nothing, or the guard held -/
theorem hup_guard {r r' : Raft} {b : Bool} (h : r.hup b = .ok r') : r' = r ∨ HupGuard r := by
  unfold Raft.hup at h
  split at h
  · cases h; exact .inl rfl
  · split at h
    · cases h; exact .inl rfl
    · rename_i hp
      have hp' : r.promotable = true := by simpa using hp
      split at h
      · cases h
      · cases h
      · cases h; exact .inl rfl
      · rename_i hs
        exact .inr ⟨hp', hs⟩

theorem not_elected_same {r r' : Raft} (h1 : r'.state = r.state) (h2 : r'.term = r.term) :
    ¬ Elected r r' := fun h => h.2.1 ⟨h1, h2⟩

theorem not_elected_follower {r r' : Raft} (h1 : r'.state = .follower) : ¬ Elected r r' := by
  intro h
  rcases h.1 with g | g <;> (rw [h1] at g; cases g)

theorem not_elected_leader {r r' : Raft} (h1 : r'.state = .leader) : ¬ Elected r r' := by
  intro h
  rcases h.1 with g | g <;> (rw [h1] at g; cases g)

/-- `poll` then `maybe_commit_by_vote` on a (pre-)candidate never *starts* an election: the node stays
what it was, steps down, wins, or — a pre-candidate that won the pre-vote — goes on to the real
election of the candidacy it already had -/
theorem poll_not_elected {r r2 r' : Raft} {frm : Nat} {t : MsgType} {v : Bool} {res : VoteResult}
    {m : Message} (hs : r.state = .candidate ∨ r.state = .preCandidate)
    (hp : r.poll frm t v = .ok (r2, res)) (hc : r2.maybeCommitByVote m = .ok r') :
    ¬ Elected r r' := by
  obtain ⟨_, _, ht, _, _, _, hst⟩ := c02_maybeCommitByVote_spec hc
  have hfin : r'.state = r2.state ∨ r'.state = .follower := by
    rcases hst with ⟨g, _⟩ | ⟨_, g, _⟩
    · exact .inl g
    · exact .inr g
  unfold Raft.poll at hp
  obtain ⟨_, p2⟩ := c02_pollWith_cases hp
  rcases p2 with ⟨_, hpc, hf⟩ | ⟨_, _, hwon⟩ | ⟨_, e⟩ | ⟨_, e⟩
  · -- a pre-candidate won the pre-vote
    unfold Raft.campaignAfterPreVote at hf
    have h2 : r2.state = .candidate ∨ r2.state = .leader := by
      rcases c02_campaignWith_election (by decide) hf with w | w
      · obtain ⟨r0, _, _, _, _, _, k6⟩ := w.path
        exact .inr (c02_wonBy_spec k6).1
      · left; rw [w.state]; simp
    intro hel
    rcases hfin with g | g
    · rcases h2 with q | q
      · exact hel.2.2 ⟨hpc, g.trans q⟩
      · exact not_elected_leader (g.trans q) hel
    · exact not_elected_follower g hel
  · have h2 := (c02_wonBy_spec hwon).1
    rcases hfin with g | g
    · exact not_elected_leader (g.trans h2)
    · exact not_elected_follower g
  · subst e
    rcases hfin with g | g
    · exact not_elected_follower (g.trans rfl)
    · exact not_elected_follower g
  · subst e
    rcases hfin with g | g
    · exact not_elected_same g ht
    · exact not_elected_follower g

/-- candidate or pre-candidate after the call, with (role, term) changed -/
def Elected0 (r r' : Raft) : Prop := Cand r' ∧ ¬ (r'.state = r.state ∧ r'.term = r.term)

theorem Elected.zero {r r' : Raft} (h : Elected r r') : Elected0 r r' := ⟨h.1, h.2.1⟩

theorem ne0_same {r r' : Raft} (h1 : r'.state = r.state) (h2 : r'.term = r.term) :
    ¬ Elected0 r r' := fun h => h.2 ⟨h1, h2⟩

theorem ne0_follower {r r' : Raft} (h1 : r'.state = .follower) : ¬ Elected0 r r' := by
  intro h
  rcases h.1 with g | g <;> (rw [h1] at g; cases g)

/-- the routes into a candidacy in a call with input `m`: the guarded one (`hup`, by `MsgHup` or
`MsgTimeoutNow`), or the one continuation raft-rs does not guard again — a pre-candidate that
receives a pre-vote response, wins the pre-vote and starts the real election of the same campaign
(`campaign_after_pre_vote`) -/
def RoutesVia (a : Raft) (m : Message) (r : Raft) : Prop :=
  Elected0 a r →
    (HupGuard a ∧ (m.msgType = .msgHup ∨ m.msgType = .msgTimeoutNow)) ∨
    (a.state = .preCandidate ∧ r.state = .candidate ∧ m.msgType = .msgRequestPreVoteResponse)

theorem RoutesVia.same {a r r' : Raft} {m : Message} (h : RoutesVia a m r)
    (hs : r'.state = r.state) (ht : r'.term = r.term) : RoutesVia a m r' := by
  intro hel
  have hel' : Elected0 a r := ⟨by unfold Cand at *; rw [← hs]; exact hel.1,
    by rw [← hs, ← ht]; exact hel.2⟩
  exact (h hel').imp (fun g => g) fun g => ⟨g.1, hs.trans g.2.1, g.2.2⟩

theorem RoutesVia.follower {a r' : Raft} {m : Message} (hs : r'.state = .follower) :
    RoutesVia a m r' := fun hel => absurd hel (ne0_follower hs)

/-- **every call through `Raft::step` or `tick`: every route into a candidacy** -/
theorem Run.routes {a r : Raft} {m : Message} (h : Run a m r) : RoutesVia a m r := by
  induction h with
  | start => exact fun hel => absurd hel (ne0_same rfl rfl)
  | plain _ hf ih =>
    exact ih.same (congrArg HCore.state hf.core) (congrArg HCore.term hf.core)
  | follow t l _ _ _ _ _ => exact .follower rfl
  | reject _ _ hs ih => rw [send_eq _ _ _ hs]; exact ih.same rfl rfl
  | hup b _ hty _ hpos _ hc ih =>
    rcases hup_guard hc with e | g
    · rw [e]; exact ih
    · exact fun _ => .inl ⟨hpos.guard g, hty⟩
  | vote _ _ _ _ hc ih =>
    have hva := c02_stepVote_spec hc
    rcases hva.decided with g | g
    · exact ih.same (hva.granted g).2.1 hva.term
    · rcases (hva.refused g).2 with ⟨q, _⟩ | ⟨_, q, _⟩
      · exact ih.same q hva.term
      · exact .follower q
  | @poll r r1 r' res _ hg hsame hp hb _ =>
    intro hel
    have hs : r.state = .candidate ∨ r.state = .preCandidate := hg.imp (·.1) (·.1)
    have hne := poll_not_elected hs hp hb
    have hpc : r.state = .preCandidate ∧ r'.state = .candidate :=
      Classical.byContradiction fun hn =>
        hne ⟨hel.1, by rw [hsame.1, hsame.2]; exact hel.2, hn⟩
    refine .inr ⟨hsame.1.symm.trans hpc.1, hpc.2, ?_⟩
    rcases hg with g | g
    · rw [g.1] at hpc; cases hpc.1
    · exact g.2.1
  | snapshot _ hs _ hc _ => exact .follower ((handleSnapshot_frame hs hc Frame.rfl).state.trans hs)
  | heard _ hs _ _ => exact .follower hs
  | abort _ _ ih => exact ih.same rfl rfl
  | transferee _ _ ih => exact ih.same rfl rfl
  | timeoutNow _ _ _ hs ih =>
    unfold Raft.sendTimeoutNow at hs
    rw [send_eq _ _ _ hs]; exact ih.same rfl rfl

/-- **`Raft::step`, every role, every message: an election is started only through `hup`** — by a
`MsgHup` or (on a follower) a `MsgTimeoutNow` — **and only when the guard holds in the state the call
started from** -/
theorem step_elected {r r' : Raft} {m : Message} {e : Option RaftError}
    (h : r.step m = .ok (r', e)) (hel : Elected r r') :
    HupGuard r ∧ (m.msgType = .msgHup ∨ m.msgType = .msgTimeoutNow) :=
  ((step_run r.nextRand h).routes hel.zero).resolve_right fun g => hel.2.2 ⟨g.1, g.2.1⟩

/-- **every route into a candidacy through `Raft::step`**: the guarded one (`hup`, by `MsgHup` or
`MsgTimeoutNow`), or the one continuation raft-rs does not guard again — a pre-candidate that receives
a pre-vote response, wins the pre-vote and starts the real election of the same campaign
(`campaign_after_pre_vote`) -/
theorem step_cand_routes {r r' : Raft} {m : Message} {e : Option RaftError}
    (h : r.step m = .ok (r', e)) (hc : Cand r') (hne : ¬ (r'.state = r.state ∧ r'.term = r.term)) :
    (HupGuard r ∧ (m.msgType = .msgHup ∨ m.msgType = .msgTimeoutNow)) ∨
    (r.state = .preCandidate ∧ r'.state = .candidate ∧ m.msgType = .msgRequestPreVoteResponse) :=
  (step_run r.nextRand h).routes ⟨hc, hne⟩

end Raft
end RaftModel
