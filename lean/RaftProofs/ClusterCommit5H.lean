import RaftProofs.ClusterCommit5G

/-!
Cluster-level commit safety: **one call of a node** as `Gx` (`call_gx`), for every `NodeOp` the cluster
semantics uses; then the relation `Gb` (a node that may batch) as the instance `Gx True`: `call_gb` and
what each handler does.
-/
namespace RaftModel
namespace Raft
namespace CX
open CC CB VoteOb Node

variable {f : Prop} {A : Nat → Nat → Nat → Prop} {a r r' : Raft} {m : Message}

/-- a local message stepped by a wrapper of `RawNode`, re-anchored to the call's tag -/
theorem localStep_gx {r r' : Raft} {mm m : Message} {e : Option RaftError}
    (hA : ∀ j t x y, y ≤ x → A j t x → A j t y) (hb : FlagUp f r) (hmok : MOK A r)
    (h1 : mm.msgType ≠ .msgSnapshot) (h2 : mm.msgType ≠ .msgAppendResponse)
    (h3 : mm.msgType ≠ .msgAppend) (h : r.step mm = .ok (r', e)) : Gx f A r m r' :=
  (step_gx hA hb h1 (noAck_local h2) h (Gx.start hmok) Old.rfl rfl).reanchor h3

theorem localStepIgnore_gx {r r' : Raft} {mm m : Message}
    (hA : ∀ j t x y, y ≤ x → A j t x → A j t y) (hb : FlagUp f r) (hmok : MOK A r)
    (h1 : mm.msgType ≠ .msgSnapshot) (h2 : mm.msgType ≠ .msgAppendResponse)
    (h3 : mm.msgType ≠ .msgAppend) (h : r.stepIgnore mm = .ok r') : Gx f A r m r' :=
  stepIgnore_parts h fun hs => localStep_gx hA hb hmok h1 h2 h3 hs

/-- a call that only re-represents the log (nothing queued, commit index kept) -/
theorem relog_gx (hmok : MOK A r) (hid : r'.id = r.id) (hs : r'.state = r.state)
    (ht : r'.term = r.term) (hp : mfun r'.prs = mfun r.prs) (hq : r'.msgs = r.msgs)
    (hc : r'.raftLog.committed = r.raftLog.committed)
    (hpe : r.raftLog.persisted ≤ r'.raftLog.persisted) : Gx f A r m r' :=
  ((Gx.start hmok).old_relog Old.rfl rfl hid hs ht hp hq hc hpe).1

theorem nodeCommitApply_gx {st st' : NState} {k : Nat} {res : OpRes} (hmok : MOK A st.raft)
    (h : Node.commitApply st k = .ok (res, st')) :
    Gx f A st.raft m st'.raft ∧ Old st.raft st'.raft := by
  unfold Node.commitApply at h
  simp only [] at h
  split at h
  · rename_i r2 hb
    obtain ⟨r1, h1, h2⟩ := Res.bind_eq_ok hb
    have g1 : Gx f A st.raft m r1 ∧ Old st.raft r1 ∧
        r1.raftLog.committed = st.raft.raftLog.committed := by
      have red : ∀ ents, Gx f A st.raft m (st.raft.reduceUncommittedSize ents) ∧
          Old st.raft (st.raft.reduceUncommittedSize ents) ∧
          (st.raft.reduceUncommittedSize ents).raftLog.committed = st.raft.raftLog.committed := by
        intro ents
        unfold Raft.reduceUncommittedSize
        split
        · exact ⟨Gx.start hmok, Old.rfl, rfl⟩
        · exact ⟨Gx.mk' (Gx.start hmok), Old.mk' Old.rfl, rfl⟩
      split at h1
      · split at h1
        · cases h1; exact red _
        · cases h1; exact ⟨Gx.start hmok, Old.rfl, rfl⟩
        · cases h1
      · cases h1; exact ⟨Gx.start hmok, Old.rfl, rfl⟩
    obtain ⟨g2, o2, c2⟩ := commitApplyInternal_gx h2 g1.1 g1.2.1 g1.2.2
    cases h
    split
    · dsimp only
      have := g2.old_relog (r' := withStore r2 (fun s =>
        { s with hardState := { s.hardState with commit := k }, confState := st.appCs })) o2 c2
        rfl rfl rfl rfl rfl rfl (Nat.le_refl _)
      exact ⟨this.1, this.2.1⟩
    · exact ⟨g2, o2⟩
  · cases h
  · cases h

theorem mapProgress_gx (hmok : MOK A r) (g : Nat → Progress → Progress)
    (hg : ∀ j pr, (g j pr).matched = pr.matched) : Gx f A r m (r.mapProgress g) :=
  (Gx.start hmok).setPrs (p := (r.mapProgress g).prs) (mfun_mapProgress r g hg) rfl

/-- `RawNode::step`: the filter for local messages and unknown peers, then `Raft::step` -/
theorem rawStep_gx {e : Option RaftError}
    (hA : ∀ j t x y, y ≤ x → A j t x → A j t y) (hb : FlagUp f r) (hmok : MOK A r)
    (hms : m.msgType ≠ .msgSnapshot) (hin : ∀ t, AckIn m t → A m.frm t m.index)
    (h : RawNode.step r m = .ok (r', e)) : Gx f A r m r' := by
  rcases RawNode.step_inv h with rfl | ⟨_, h⟩
  · exact Gx.start hmok
  · exact step_gx hA hb hms hin h (Gx.start hmok) Old.rfl rfl

theorem ping_gx (hA : ∀ j t x y, y ≤ x → A j t x → A j t y) (hmok : MOK A r) (h : r.ping = .ok r') :
    Gx f A r m r' :=
  ping_parts h (Gx.start hmok) fun hb hl => (Gx.start hmok).sfn hA (bcastHeartbeat_sf hb SF.rfl) (.inl hl)

theorem adjustMaxInflightMsgs_gx {id cap : Nat} (hmok : MOK A r)
    (h : r.adjustMaxInflightMsgs id cap = .ok r') : Gx f A r m r' := by
  unfold Raft.adjustMaxInflightMsgs at h
  split at h
  · cases h; exact Gx.start hmok
  · rename_i pr hg
    split at h
    · cases h
      exact (Gx.start hmok).setPrs (mfun_set _ _ _ (fun old ho => by rw [hg] at ho; cases ho; rfl)) rfl
    · cases h

/-- **one call of a node** — every `NodeOp` the cluster semantics uses (`step` for a delivered
message, and the application's calls) — for a node whose `matched` values are accounted for and whose
flag is up if it batches; a delivered message is not a snapshot, and a delivered accepting append
response is backed by `A` -/
theorem call_gx (hA : ∀ j t x y, y ≤ x → A j t x → A j t y) {st st' : NState} {rnd : Option Nat}
    {op : NodeOp} {res : OpRes} (hb : FlagUp f st.raft) (hmok : MOK A st.raft)
    (hop : op ≠ .drain ∧ ∀ m, op ≠ .rstep m)
    (hms : ∀ m, op = .step m → m.msgType ≠ .msgSnapshot)
    (hin : ∀ m, op = .step m → ∀ t, AckIn m t → A m.frm t m.index)
    (h : Node.call st rnd op = .ok (res, st')) : Gx f A st.raft (CV.opMsg op) st'.raft := by
  have hmok' : MOK A ({ st.raft with nextRand := rnd } : Raft) := ⟨hmok.h⟩
  have hb' : FlagUp f ({ st.raft with nextRand := rnd } : Raft) := hb
  refine Gx.rebase (a' := ({ st.raft with nextRand := rnd } : Raft)) ?_ rfl rfl rfl
  cases applyOp_parts h with
  | tick hx => exact tick_gx hA hb' hmok' hx
  | step hx => exact rawStep_gx hA hb' hmok' (hms _ rfl) (hin _ rfl) hx
  | rstep => exact absurd rfl (hop.2 _)
  | propose hx | proposeCc hx | campaign hx =>
    exact localStep_gx hA hb' hmok' (by intro hc; cases hc) (by intro hc; cases hc)
      (by intro hc; cases hc) hx
  | readIndex hx | transferLeader hx | reportUnreachable hx | reportSnapshot hx =>
    exact localStepIgnore_gx hA hb' hmok' (by intro hc; cases hc) (by intro hc; cases hc)
      (by intro hc; cases hc) hx
  | ping hx => exact ping_gx hA hmok' hx
  | requestSnapshot hx =>
    exact requestSnapshot_parts hx (Gx.start hmok') (fun _ => Gx.mk') sendRequestSnapshot_gx
  | confChanged hx | confRefused hx => exact applyConfChange_gx hA hb' hmok' hx
  | stabilize hx =>
    refine stabilize_parts (Q := fun s => Gx f A _ _ s.raft) hx fun hl => ?_
    exact relog_gx hmok' rfl rfl rfl rfl rfl (stabilise_cursors hl).1
      (Nat.le_of_eq (stabilise_cursors hl).2.symm)
  | onPersistEntries hx => exact onPersistEntries_gx hA hb' hmok' hx
  | persistSnap hx =>
    obtain ⟨L, e1, e2, e3⟩ := persistSnap_shape hx
    rw [e1]
    exact relog_gx hmok' rfl rfl rfl rfl rfl e2 e3
  | commitApply hx => exact (nodeCommitApply_gx hmok' hx).1
  | drain => exact absurd rfl hop.1
  | compact | triggerSnap | triggerLog | setMaxApplyUnpersistedLogLimit =>
    exact relog_gx hmok' rfl rfl rfl rfl rfl rfl (Nat.le_refl _)
  | setPriority | setBatchAppend | skipBcastCommit | setCheckQuorum | setMaxCommittedSizePerReady =>
    exact Gx.mk' (Gx.start hmok')
  | adjustMaxInflight hx => exact adjustMaxInflightMsgs_gx hmok' hx
  | maybeFreeInflightBuffers =>
    exact mapProgress_gx hmok' (fun _ pr => { pr with ins := pr.ins.maybeFreeBuffer }) (fun _ _ => rfl)
  | enableGroupCommit hx => exact enableGroupCommit_gx hA hb' hmok' hx
  | assignCommitGroups hx => exact assignCommitGroups_gx hA hb' hmok' hx
  | clearCommitGroup =>
    exact mapProgress_gx hmok' (fun _ pr => { pr with commitGroupId := 0 }) (fun _ _ => rfl)
  | checkGroupCommitConsistent | staleFetch => exact Gx.start hmok'
  | fetched _ hl _ hx => exact (Gx.start hmok').sf hA hb' (sendAppend_sfx hx SFx.rfl) (.inl hl)
  | fetchedAll _ hl _ hx =>
    exact (Gx.start hmok').sf hA hb' (sendAppendAggressively_sfx hx SFx.rfl) (.inl hl)

end CX

/-! ### a node that may batch: `Gb` is `Gx True` -/
namespace CB
open CC CX Node

variable {A : Nat → Nat → Nat → Prop} {a r r' : Raft} {m : Message}

theorem Gb.start (hm : MOK A a) : Gb A a m a := (Gx.start (f := True) hm).gb

/-- with nothing queued, only the state clauses matter -/
theorem Gb.of_old (ho : Old a r) (hid : r.id = a.id) (hm : MOK A r)
    (hl : r.state = .leader → r.raftLog.committed = a.raftLog.committed ∨ LCok r) : Gb A a m r :=
  (Gx.of_old (f := True) ho hid hm hl).gb

/-- a state that is not a leader satisfies the state clauses trivially -/
theorem Gb.of_old_nl (ho : Old a r) (hid : r.id = a.id) (hs : r.state ≠ .leader) : Gb A a m r :=
  (Gx.of_old_nl (f := True) ho hid hs).gb

/-- **lifting a sending helper**: on a leader, or when nothing new was queued -/
theorem Gb.sf (hA : ∀ j t x y, y ≤ x → A j t x → A j t y) (h0 : Gb A a m r) (h1 : SFb r r')
    (hl : r.state = .leader ∨ ∀ x ∈ r'.msgs, x ∈ r.msgs) : Gb A a m r' :=
  ((Gx.of_gb h0).sfq hA h1.core (fun x hx => (h1.q x hx).imp (fun g => g)
    (Or.imp (fun g => g) fun g => ⟨trivial, g⟩)) hl).gb

/-- any structure update that keeps `id`, `state`, `term`, `raftLog`, `prs` and `msgs` keeps `Gb` -/
theorem Gb.mk' {x2 : Nat}
    {x4 : List ReadState} {x6 x7 x8 : Nat}
    {x10 : Bool} {x11 : Nat}
    {x12 : Option Nat} {x13 : Nat} {x14 : ReadOnly} {x15 x16 : Nat} {x17 x18 x19 x20 x21 : Bool}
    {x22 x23 x24 x25 x26 : Nat} {x27 : Int} {x28 : UncommittedState} {x29 : Nat}
    {x32 : Option Nat} (h0 : Gb A a m r) :
    Gb A a m {term := r.term, vote := x2, id := r.id, readStates := x4, raftLog := r.raftLog,
              maxInflight := x6, maxMsgSize := x7, pendingRequestSnapshot := x8, state := r.state,
              promotable := x10, leaderId := x11, leadTransferee := x12,
              pendingConfIndex := x13, readOnly := x14, electionElapsed := x15,
              heartbeatElapsed := x16, checkQuorum := x17, preVote := x18,
              skipBcastCommit := x19, batchAppend := x20, disableProposalForwarding := x21,
              heartbeatTimeout := x22, electionTimeout := x23, randomizedElectionTimeout := x24,
              minElectionTimeout := x25, maxElectionTimeout := x26, priority := x27,
              uncommittedState := x28, maxCommittedSizePerReady := x29, prs := r.prs,
              msgs := r.msgs, nextRand := x32 } :=
  (Gx.mk' (Gx.of_gb h0)).gb

/-- the commit index moves up (and nothing else of the log): `commit_to` / `maybe_commit` -/
theorem Gb.commitUp {c : Nat}
    (h0 : Gb A a m r) (hid : r'.id = r.id) (hs : r'.state = r.state) (ht : r'.term = r.term)
    (hp : mfun r'.prs = mfun r.prs) (hq : r'.msgs = r.msgs)
    (hl : r'.raftLog = { r.raftLog with committed := c }) (hc : r.raftLog.committed ≤ c)
    (hlc : r'.state = .leader → LCok r') : Gb A a m r' :=
  ((Gx.of_gb h0).commitUp hid hs ht hp hq hl hc hlc).gb

/-- writing back a progress entry whose `matched` grew to a value backed by `A` -/
theorem Gb.setMatched {id : Nat} {pr : Progress} (h0 : Gb A a m r)
    (hb : pr.matched = 0 ∨ (id = r.id ∧ pr.matched ≤ r.raftLog.persisted) ∨ A id r.term pr.matched)
    (hge : ∀ old, r.prs.get id = some old → old.matched ≤ pr.matched) :
    Gb A a m { r with prs := r.prs.set id pr } :=
  ((Gx.of_gb h0).setMatched hb hge).gb

/-- replacing the tracker by one with the same matched table and the same voters -/
theorem Gb.setPrs {p : ProgressTracker} (h0 : Gb A a m r) (hp : mfun p = mfun r.prs)
    (hv : p.voters = r.prs.voters) : Gb A a m { r with prs := p } :=
  ((Gx.of_gb h0).setPrs hp hv).gb

theorem Gb.reanchor {m' : Message} (h : Gb A a m r) (hm : m.msgType ≠ .msgAppend) : Gb A a m' r :=
  ((Gx.of_gb h).reanchor hm).gb

/-- with nothing queued and the commit index of the start, the log may be re-represented (storage
writes, `applied`, `persisted` moving up) -/
theorem Gb.old_relog (h0 : Gb A a m r) (ho : Old a r)
    (hcm : r.raftLog.committed = a.raftLog.committed)
    (hid : r'.id = r.id) (hs : r'.state = r.state) (ht : r'.term = r.term)
    (hp : mfun r'.prs = mfun r.prs) (hq : r'.msgs = r.msgs)
    (hc : r'.raftLog.committed = r.raftLog.committed)
    (hpe : r.raftLog.persisted ≤ r'.raftLog.persisted) :
    Gb A a m r' ∧ Old a r' ∧ r'.raftLog.committed = a.raftLog.committed :=
  ((Gx.of_gb h0).old_relog ho hcm hid hs ht hp hq hc hpe).imp Gx.gb fun g => g

theorem becomeFollower_gb (t l : Nat) (h0 : Gb A a m r) (ho : Old a r) :
    Gb A a m (r.becomeFollower t l) :=
  (becomeFollower_gx t l (Gx.of_gb h0) ho).gb

theorem becomeCandidate_gb (h : r.becomeCandidate = .ok r') (h0 : Gb A a m r) (ho : Old a r) :
    Gb A a m r' ∧ Old a r' :=
  (becomeCandidate_gx h (Gx.of_gb h0) ho).imp Gx.gb fun g => g

theorem becomePreCandidate_gb (h : r.becomePreCandidate = .ok r') (h0 : Gb A a m r)
    (ho : Old a r) : Gb A a m r' ∧ Old a r' :=
  (becomePreCandidate_gx h (Gx.of_gb h0) ho).imp Gx.gb fun g => g

/-- `append_entry` with nothing queued yet and the commit index still the one of the start -/
theorem appendEntry_gb {es : List Entry} {b : Bool} (h : r.appendEntry es = .ok (r', b))
    (h0 : Gb A a m r) (ho : Old a r) (hcm : r.raftLog.committed = a.raftLog.committed) :
    Gb A a m r' ∧ Old a r' ∧ r'.raftLog.committed = a.raftLog.committed :=
  (appendEntry_gx h (Gx.of_gb h0) ho hcm).imp Gx.gb fun g => g

theorem becomeLeader_gb (h : r.becomeLeader = .ok r') (h0 : Gb A a m r) (ho : Old a r)
    (hcm : r.raftLog.committed = a.raftLog.committed) :
    Gb A a m r' ∧ Old a r' ∧ r'.raftLog.committed = a.raftLog.committed ∧ r'.state = .leader :=
  (becomeLeader_gx h (Gx.of_gb h0) ho hcm).imp Gx.gb fun g => g

theorem maybeCommit_gb {b : Bool} (h : r.maybeCommit = .ok (r', b)) (h0 : Gb A a m r) :
    Gb A a m r' :=
  (maybeCommit_gx h (Gx.of_gb h0)).gb

/-- **`step_leader`**, entered with nothing queued yet and the commit index of the start -/
theorem stepLeader_gb {e : Option RaftError}
    (hA : ∀ j t x y, y ≤ x → A j t x → A j t y)
    (hs : r.state = .leader) (ho : Old a r) (hcm : r.raftLog.committed = a.raftLog.committed)
    (hin : m.msgType = .msgAppendResponse → m.reject = false → A m.frm r.term m.index)
    (h : r.stepLeader m = .ok (r', e)) (h0 : Gb A a m r) : Gb A a m r' :=
  (stepLeader_gx hA .triv hs ho hcm hin h (.of_gb h0)).gb

/-- queueing one message that is not of a leader-side type -/
theorem send_gb {x : Message} (h : r.send x = .ok r') (h0 : Gb A a m r)
    (hlk : lkT x.msgType = false) (hak : isAck (r.sendFill x) → AkOK m r (r.sendFill x))
    (hvk : isVoteMsg x.msgType = true → VkOK r (r.sendFill x))
    (hrq : x.msgType = .msgRequestVote → RqOK r (r.sendFill x)) : Gb A a m r' :=
  (send_gx h (Gx.of_gb h0) hlk hak hvk hrq).gb

/-- a message whose type is none of the tracked kinds -/
theorem send_g_plain {x : Message} (h : r.send x = .ok r') (h0 : Gb A a m r)
    (hlk : lkT x.msgType = false) (hak : x.msgType ≠ .msgAppendResponse ∨ x.reject = true)
    (hvk : isVoteMsg x.msgType = false) : Gb A a m r' :=
  (send_gx_plain h (Gx.of_gb h0) hlk hak hvk).gb

theorem sendRequestSnapshot_gb (h : r.sendRequestSnapshot = .ok r') (h0 : Gb A a m r) :
    Gb A a m r' :=
  (sendRequestSnapshot_gx h (Gx.of_gb h0)).gb

/-- **`handle_append_entries`** on a follower, entered with nothing queued -/
theorem handleAppendEntries_gb (hs : r.state = .follower) (ho : Old a r)
    (hm : m.msgType = .msgAppend) (h : r.handleAppendEntries m = .ok r') (h0 : Gb A a m r) :
    Gb A a m r' :=
  (handleAppendEntries_gx hs ho hm h (Gx.of_gb h0)).gb

/-- **`handle_heartbeat`** on a follower, entered with nothing queued -/
theorem handleHeartbeat_gb (hs : r.state = .follower) (ho : Old a r)
    (h : r.handleHeartbeat m = .ok r') (h0 : Gb A a m r) : Gb A a m r' :=
  (handleHeartbeat_gx hs ho h (Gx.of_gb h0)).gb

theorem hup_gb {tl : Bool} (hA : ∀ j t x y, y ≤ x → A j t x → A j t y)
    (h : r.hup tl = .ok r') (h0 : Gb A a m r) (ho : Old a r)
    (hcm : r.raftLog.committed = a.raftLog.committed) : Gb A a m r' :=
  (hup_gx hA .triv h (.of_gb h0) ho hcm).gb

theorem maybeCommitByVote_gb {mm : Message} (h : r.maybeCommitByVote mm = .ok r')
    (h0 : Gb A a m r) : Gb A a m r' :=
  (maybeCommitByVote_gx h (Gx.of_gb h0)).gb

theorem stepVote_gb {mm : Message} (h : r.stepVote mm = .ok r') (h0 : Gb A a m r) :
    Gb A a m r' :=
  (stepVote_gx h (Gx.of_gb h0)).gb

/-- **`Raft::step`**, entered with nothing queued; the input is not a snapshot, and an accepting
append response is backed by `A` -/
theorem step_gb {e : Option RaftError} (hA : ∀ j t x y, y ≤ x → A j t x → A j t y)
    (hms : m.msgType ≠ .msgSnapshot) (hin : ∀ t, AckIn m t → A m.frm t m.index)
    (h : r.step m = .ok (r', e)) (h0 : Gb A a m r) (ho : Old a r)
    (hcm : r.raftLog.committed = a.raftLog.committed) : Gb A a m r' :=
  (step_gx hA .triv hms hin h (.of_gb h0) ho hcm).gb

theorem commitApplyInternal_gb {applied : Nat} {skip : Bool}
    (h : r.commitApplyInternal applied skip = .ok r') (h0 : Gb A a m r) (ho : Old a r)
    (hcm : r.raftLog.committed = a.raftLog.committed) :
    Gb A a m r' ∧ Old a r' ∧ r'.raftLog.committed = a.raftLog.committed :=
  (commitApplyInternal_gx h (Gx.of_gb h0) ho hcm).imp Gx.gb fun g => g

theorem tick_gb {b : Bool} (hA : ∀ j t x y, y ≤ x → A j t x → A j t y)
    (hmok : MOK A r) (h : r.tick = .ok (r', b)) : Gb A r m r' :=
  (tick_gx hA .triv hmok h).gb

theorem applyConfChange_gb {cc : ConfChangeV2} {res : Except ErrKind ConfState}
    (hA : ∀ j t x y, y ≤ x → A j t x → A j t y) (hmok : MOK A r)
    (h : r.applyConfChange cc = .ok (r', res)) : Gb A r m r' :=
  (applyConfChange_gx hA .triv hmok h).gb

theorem onPersistEntries_gb {index term : Nat}
    (hA : ∀ j t x y, y ≤ x → A j t x → A j t y) (hmok : MOK A r)
    (h : r.onPersistEntries index term = .ok r') : Gb A r m r' :=
  (onPersistEntries_gx hA .triv hmok h).gb

theorem enableGroupCommit_gb {b : Bool}
    (hA : ∀ j t x y, y ≤ x → A j t x → A j t y) (hmok : MOK A r)
    (h : r.enableGroupCommit b = .ok r') : Gb A r m r' :=
  (enableGroupCommit_gx hA .triv hmok h).gb

theorem assignCommitGroups_gb {ids : List (Nat × Nat)}
    (hA : ∀ j t x y, y ≤ x → A j t x → A j t y) (hmok : MOK A r)
    (h : r.assignCommitGroups ids = .ok r') : Gb A r m r' :=
  (assignCommitGroups_gx hA .triv hmok h).gb

/-- **one call of a node** — every `NodeOp` the cluster semantics uses (`step` for a delivered
message, and the application's calls) — for a node (batching or not) whose `matched` values are
accounted for; a delivered message is not a snapshot, and a delivered accepting append response is
backed by `A` -/
theorem call_gb (A : Nat → Nat → Nat → Prop) (hA : ∀ j t x y, y ≤ x → A j t x → A j t y)
    (st st' : NState) (rnd : Option Nat) (op : NodeOp) (res : OpRes)
    (hmok : MOK A st.raft)
    (hop : op ≠ .drain ∧ ∀ m, op ≠ .rstep m)
    (hms : ∀ m, op = .step m → m.msgType ≠ .msgSnapshot)
    (hin : ∀ m, op = .step m → ∀ t, AckIn m t → A m.frm t m.index)
    (h : Node.call st rnd op = .ok (res, st')) : Gb A st.raft (CV.opMsg op) st'.raft :=
  (call_gx hA .triv hmok hop hms hin h).gb

end CB
end Raft
end RaftModel
