import RaftProofs.ClusterTestHyp

/-!
Cluster-level commit safety, part 4M: **a concrete history with a read-index round trip**
(kernel-evaluated) that satisfies every hypothesis of the commit layer without gaps (`Hyp3w`), in which
a `MsgReadIndexResp` **is** in the transport and a follower moves its commit index by it.

The history of `RaftProofs/ClusterCommit3H.lean` (node 1 leads term 1 and has committed index 1 with
the acknowledgement of node 2) continued by eleven steps: node 3 is delivered the `MsgAppend` with the
leader's entry and persists it; its application asks for a read index (`read_index`), the forwarded
`MsgReadIndex` reaches node 1, which records the pending read at its commit index 1 and broadcasts
heartbeats carrying the context; node 2 obeys its heartbeat and answers; with that answer node 1 has a
quorum for the read and queues the `MsgReadIndexResp(index = 1, term = 1)` for node 3; node 3 — whose
commit index is still 0 (its heartbeat, with `commit = min(matched, committed) = 0`, was never
delivered) — receives it and commits index 1 (`maybe_commit(1, 1)`).
-/
namespace RaftModel
namespace Cluster
open Node Raft Raft.CC RaftProps.C02 RaftProps.C05

/-- the `MsgAppend` for node 3 that node 1 sent when it was elected -/
def c01y_app3 := c05x_a5.raft.msgs.tail.head!
def c01y_c1 := c02x_st (Node.call (c02x_boot 3) none (.step c01y_app3))
def c01y_c2 := c02x_st (Node.call c01y_c1 none .stabilize)
def c01y_c3 := c02x_st (Node.call c01y_c2 none (.readIndex [7]))
def c01y_c4 := c02x_st (Node.call c01y_c3 none .drain)
/-- the forwarded `MsgReadIndex` of node 3 -/
def c01y_ri := c01y_c3.raft.msgs.tail.head!
def c01y_a9 := c02x_st (Node.call c01x_a8 none (.step c01y_ri))
def c01y_a10 := c02x_st (Node.call c01y_a9 none .drain)
/-- the heartbeat for node 2 that carries the read context -/
def c01y_hb := c01y_a9.raft.msgs.tail.head!
def c01y_b7 := c02x_st (Node.call c01x_b6 none (.step c01y_hb))
def c01y_b8 := c02x_st (Node.call c01y_b7 none .drain)
def c01y_hbr := c01y_b7.raft.msgs.head!
def c01y_a11 := c02x_st (Node.call c01y_a10 none (.step c01y_hbr))
def c01y_a12 := c02x_st (Node.call c01y_a11 none .drain)
/-- the `MsgReadIndexResp` for node 3 -/
def c01y_rir := c01y_a11.raft.msgs.head!
def c01y_c5 := c02x_st (Node.call c01y_c4 none (.step c01y_rir))

def c01y_s15 : Sys := c01x_s14.setNode 3 c01y_c1
def c01y_s16 : Sys := c01y_s15.setNode 3 c01y_c2
def c01y_s17 : Sys := c01y_s16.setNode 3 c01y_c3
def c01y_s18 : Sys :=
  { (c01y_s17.setNode 3 c01y_c4) with net := c01y_s17.net ++ c01y_c3.raft.msgs }
def c01y_s19 : Sys := c01y_s18.setNode 1 c01y_a9
def c01y_s20 : Sys :=
  { (c01y_s19.setNode 1 c01y_a10) with net := c01y_s19.net ++ c01y_a9.raft.msgs }
def c01y_s21 : Sys := c01y_s20.setNode 2 c01y_b7
def c01y_s22 : Sys :=
  { (c01y_s21.setNode 2 c01y_b8) with net := c01y_s21.net ++ c01y_b7.raft.msgs }
def c01y_s23 : Sys := c01y_s22.setNode 1 c01y_a11
def c01y_s24 : Sys :=
  { (c01y_s23.setNode 1 c01y_a12) with net := c01y_s23.net ++ c01y_a11.raft.msgs }
def c01y_s25 : Sys := c01y_s24.setNode 3 c01y_c5

def c01y_tail : List Sys :=
  [c01y_s15, c01y_s16, c01y_s17, c01y_s18, c01y_s19, c01y_s20, c01y_s21, c01y_s22, c01y_s23,
   c01y_s24, c01y_s25]

def c01y_hist : List Sys := c01x_hist ++ c01y_tail

theorem tail_head_mem (l : List Message) (h : l.tail ≠ []) : l.tail.head! ∈ l :=
  List.mem_of_mem_tail (c02x_head_mem _ h)

def c01y_moves : List Move :=
  [.deliver 3 (c02x_boot 3) c01y_app3, .call 3 c01y_c1 .stabilize, .call 3 c01y_c2 (.readIndex [7]),
   .send 3 c01y_c3, .deliver 1 c01x_a8 c01y_ri, .send 1 c01y_a9, .deliver 2 c01x_b6 c01y_hb,
   .send 2 c01y_b7, .deliver 1 c01y_a10 c01y_hbr, .send 1 c01y_a11, .deliver 3 c01y_c4 c01y_rir]

/-- what `Hyp3w` assumes about one message of the transport -/
def c01y_msgOk (x : Message) : Prop := x.msgType ≠ .msgSnapshot

instance (x : Message) : Decidable (c01y_msgOk x) := by unfold c01y_msgOk; infer_instance

def c01y_chk (s : Sys) : Bool :=
  c02x_fixed s && c05x_nobatch s && s.net.all (fun x => decide (c01y_msgOk x)) &&
  s.nodes.all (fun p => c01x_nodeOk p.2)

theorem c01y_chk_ok (s : Sys) (h : c01y_chk s = true) :
    FixedCfg c02x_cfg s ∧ NoBatch s ∧ (∀ x ∈ s.net, c01y_msgOk x) ∧
    ∀ i st, s.node i = some st → c01x_nodeOk st = true := by
  unfold c01y_chk at h
  simp only [Bool.and_eq_true] at h
  obtain ⟨⟨⟨h1, h2⟩, h3⟩, h4⟩ := h
  refine ⟨c02x_fixed_ok s h1, c05x_nobatch_ok s h2, fun x hx => ?_, fun i st hi => ?_⟩
  · rw [List.all_eq_true] at h3
    exact of_decide_eq_true (h3 x hx)
  · rw [List.all_eq_true] at h4
    exact h4 _ (c02_lookup_mem s.nodes i st hi)

/-! Three more steps (`c01z_hist`): the application of node 2 calls `request_snapshot`, the rejecting
`MsgAppendResponse` with the request reaches node 1, which queues a `MsgSnapshot` for node 2 and moves its
progress to `Snapshot` — a message it can never hand to the transport in a history without snapshot
traffic. -/

def c01z_b9 := c02x_st (Node.call c01y_b8 none .requestSnapshot)
def c01z_b10 := c02x_st (Node.call c01z_b9 none .drain)
def c01z_rq := c01z_b9.raft.msgs.head!
def c01z_a13 := c02x_st (Node.call c01y_a12 none (.step c01z_rq))

def c01z_s26 : Sys := c01y_s25.setNode 2 c01z_b9
def c01z_s27 : Sys :=
  { (c01z_s26.setNode 2 c01z_b10) with net := c01z_s26.net ++ c01z_b9.raft.msgs }
def c01z_s28 : Sys := c01z_s27.setNode 1 c01z_a13

def c01z_tail : List Sys := [c01z_s26, c01z_s27, c01z_s28]
def c01z_hist : List Sys := c01y_hist ++ c01z_tail

def c01z_moves : List Move :=
  [.call 2 c01y_b8 .requestSnapshot, .send 2 c01z_b9, .deliver 1 c01y_a12 c01z_rq]

/-- **both histories, run once**: the step tests of the fourteen moves and the test of every new state;
the delivery of the `MsgReadIndexResp` to node 3 (`C01d_cluster_nonvacuous`, `C01g_cluster_nonvacuous…`);
node 1 at the end (`C01d_snapshot_state_reachable`) -/
theorem c01y_eval :
    (Move.all (fun s mv => mv.ok s && mv.okK && c01y_chk (mv.next s)) c01x_s14
      (c01y_moves ++ c01z_moves) && c01y_chk c01x_s14) = true ∧
    (c01y_a11.raft.msgs ≠ [] ∧ c01y_rir.msgType = .msgReadIndexResp ∧ c01y_rir.frm = 1 ∧
      c01y_rir.to = 3 ∧ c01y_rir.index = 1 ∧ c01y_rir.term = 1 ∧
      c02x_ok (Node.call c01y_c4 none (.step c01y_rir)) = true ∧
      c01y_c5.raft.state = .follower ∧ c01y_c4.raft.raftLog.committed = 0 ∧
      c01y_c5.raft.raftLog.committed = 1) ∧
    c01z_a13.raft.state = .leader ∧
    c01z_a13.raft.prs.get 2 = some (c01z_a13.raft.prs.get 2).get! ∧
    (c01z_a13.raft.prs.get 2).get!.state = .snapshot ∧ c01z_a13.raft.msgs ≠ [] ∧
    c01z_a13.raft.msgs.head!.msgType = .msgSnapshot := by
  decide +kernel

theorem c01z_checked : Chained KStep (c01x_s14 :: (c01y_tail ++ c01z_tail)) ∧
    ∀ s ∈ c01x_s14 :: (c01y_tail ++ c01z_tail), c01y_chk s = true :=
  Move.checked Move.kstep c01x_s14 (c01y_moves ++ c01z_moves) rfl c01y_eval.1

theorem c01z_ksteps_all : Chained KStep c01z_hist := by
  rw [c01z_hist, c01y_hist, List.append_assoc]
  exact chained_append_last (s := c01x_s14) rfl c01x_ksteps c01z_checked.1

theorem c01y_ksteps_all : Chained KStep c01y_hist := chained_prefix _ c01z_tail c01z_ksteps_all

theorem c01y_history : History c01y_hist := history_of_chained (fun _ _ hc => hc.step) _ c01y_ksteps_all

theorem c01z_history : History c01z_hist := history_of_chained (fun _ _ hc => hc.step) _ c01z_ksteps_all

theorem c01y_chk_tail : ∀ s ∈ c01y_tail, c01y_chk s = true :=
  fun s hs => c01z_checked.2 s (List.mem_cons_of_mem _ (List.mem_append_left _ hs))

theorem c01y_chk_all : ∀ s ∈ c01y_hist, c01y_chk s = true := by
  intro s hs
  rcases List.mem_append.1 hs with c | c
  · have h1 := c01x_chk_all s c
    unfold c01x_chk at h1
    unfold c01y_chk
    simp only [Bool.and_eq_true] at h1 ⊢
    obtain ⟨⟨⟨a1, a2⟩, a3⟩, a4⟩ := h1
    refine ⟨⟨⟨a1, a2⟩, ?_⟩, a4⟩
    rw [List.all_eq_true] at a3 ⊢
    intro x hx
    exact decide_eq_true (of_decide_eq_true (a3 x hx)).1
  · exact c01y_chk_tail s c

/-- **the history satisfies every hypothesis of the commit layer without gaps** -/
theorem c01y_hyp3w : Hyp3w c02x_cfg 0 c01y_hist :=
  have hall := fun s hs => c01y_chk_ok s (c01y_chk_all s hs)
  c01x_hyp3w_of c01y_history c01y_ksteps_all rfl (fun s hs => (hall s hs).1)
    (fun s hs => (hall s hs).2.1) (fun s hs => (hall s hs).2.2.1) (fun s hs => (hall s hs).2.2.2)

theorem c01z_chk_tail : ∀ s ∈ c01z_tail, c01y_chk s = true :=
  fun s hs => c01z_checked.2 s (List.mem_cons_of_mem _ (List.mem_append_right _ hs))

theorem c01z_chk_all : ∀ s ∈ c01z_hist, c01y_chk s = true := by
  intro s hs
  rcases List.mem_append.1 hs with c | c
  · exact c01y_chk_all s c
  · exact c01z_chk_tail s c

theorem c01z_hyp3w : Hyp3w c02x_cfg 0 c01z_hist :=
  have hall := fun s hs => c01y_chk_ok s (c01z_chk_all s hs)
  c01x_hyp3w_of c01z_history c01z_ksteps_all rfl (fun s hs => (hall s hs).1)
    (fun s hs => (hall s hs).2.1) (fun s hs => (hall s hs).2.2.1) (fun s hs => (hall s hs).2.2.2)

end Cluster
end RaftModel
