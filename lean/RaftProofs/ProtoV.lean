import RaftModel.Proto

/-!
The **vote layer** of the abstract protocol P: terms, votes, durable images, generated/released
grants, elections.  `VSys` is the projection of a `PSys` onto the fields this layer reads; every P
event acts on the projection as one of ten V-transitions (or as the identity), and the invariant
`InvV` is preserved by each of them.  Consequences: at most one vote per (term, voter) is ever
released (across crashes), at most one leader per term, a leader's term and self-vote are durable.
-/
namespace RaftModel.P

/-- `a` is not later than `b` in the (term, vote) order of one node's history:
the term grew, or the term is the same and the vote was either not yet cast or is the same -/
def le2 (a b : Nat × Nat) : Prop := a.1 < b.1 ∨ (a.1 = b.1 ∧ (a.2 = 0 ∨ a.2 = b.2))

theorem le2_refl (a : Nat × Nat) : le2 a a := Or.inr ⟨rfl, Or.inr rfl⟩

theorem le2_trans {a b c : Nat × Nat} (h1 : le2 a b) (h2 : le2 b c) : le2 a c := by
  unfold le2 at *; omega

theorem le2.fst_le {a b : Nat × Nat} (h : le2 a b) : a.1 ≤ b.1 := by
  unfold le2 at h; omega

/-- a promise `(t, c)` covered by the (term, vote) `d` stays covered when `d` moves up -/
theorem le2_covers {d p : Nat × Nat} {t c : Nat} (h : le2 d p) (hc : c ≠ 0)
    (hd : t < d.1 ∨ (t = d.1 ∧ d.2 = c)) : t < p.1 ∨ (t = p.1 ∧ p.2 = c) := by
  unfold le2 at h; omega

/-- nothing lies strictly between a cast vote and itself -/
theorem le2_squeeze {d p : Nat × Nat} (h1 : le2 d p) (h2 : le2 p d) (hd : d.2 ≠ 0) : p.1 = d.1 ∧ p.2 = d.2 := by
  unfold le2 at *; omega

/-- casting the vote, or keeping it, in the same term -/
theorem le2_vote {t x c : Nat} (h : x = 0 ∨ x = c) : le2 (t, x) (t, c) := Or.inr ⟨rfl, h⟩

structure VNode where
  term : Nat
  vote : Nat
  dterm : Nat
  dvote : Nat
  role : Nat
  pend : List (Nat × Nat)
  og : List Grant
  deriving Repr

def VNode.d (n : VNode) : Nat × Nat := (n.dterm, n.dvote)
def VNode.vol (n : VNode) : Nat × Nat := (n.term, n.vote)

structure VSys where
  nodes : Nat → VNode
  grants : List Grant
  elected : List (Nat × Nat)
  ecfgs : List (Nat × Cfg) := []

def grantOf : OMsg → Option Grant
  | .grant t v c _ => some ⟨t, v, c⟩
  | _ => none

def vproj (n : PNode) : VNode :=
  { term := n.term, vote := n.vote, dterm := n.dterm, dvote := n.dvote, role := n.role,
    pend := n.pending.map (fun im => (im.term, im.vote)), og := n.outbox.filterMap grantOf }

def vsys (s : PSys) : VSys :=
  { nodes := fun j => vproj (s.nodes j), grants := s.grants, elected := s.elected, ecfgs := s.ecfgs }

def updV (f : Nat → VNode) (i : Nat) (n : VNode) : Nat → VNode := fun j => if j = i then n else f j

@[simp] theorem updV_same (f : Nat → VNode) (i : Nat) (n : VNode) : updV f i n i = n := by simp [updV]
theorem updV_other (f : Nat → VNode) (i j : Nat) (n : VNode) (h : j ≠ i) : updV f i n j = f j := by
  simp [updV, h]

theorem vproj_upd (f : Nat → PNode) (i : Nat) (n : PNode) :
    (fun j => vproj (upd f i n j)) = updV (fun j => vproj (f j)) i (vproj n) := by
  funext j; by_cases h : j = i <;> simp [upd, updV, h]

/-- membership in the union of the grants node `i` has generated and those it has released -/
def inU (v : VSys) (i : Nat) (g : Grant) : Prop := g ∈ (v.nodes i).og ∨ (g ∈ v.grants ∧ g.voter = i)

structure InvV (v : VSys) : Prop where
  dv : ∀ i, le2 (v.nodes i).d (v.nodes i).vol
  pa : ∀ i, ∀ p ∈ (v.nodes i).pend, le2 (v.nodes i).d p ∧ le2 p (v.nodes i).vol
  pp : ∀ i, (v.nodes i).pend.Pairwise le2
  go : ∀ i, ∀ g ∈ (v.nodes i).og, g.voter = i
  g1 : ∀ g ∈ v.grants, g.cand ≠ 0 ∧ (g.term < (v.nodes g.voter).dterm ∨
          (g.term = (v.nodes g.voter).dterm ∧ (v.nodes g.voter).dvote = g.cand))
  gu : ∀ i g, inU v i g → g.cand ≠ 0 ∧ g.term ≤ (v.nodes i).term ∧
          (g.term = (v.nodes i).term → (v.nodes i).vote = g.cand)
  gc : ∀ i a b, inU v i a → inU v i b → a.term = b.term → a.cand = b.cand
  el : ∀ p ∈ v.elected, (⟨p.1, p.2, p.2⟩ : Grant) ∈ v.grants ∧
          ∃ cfg q, (p.1, cfg) ∈ v.ecfgs ∧ cfg.isQuorum q = true ∧ ∀ x ∈ q, (⟨p.1, x, p.2⟩ : Grant) ∈ v.grants
  eu : ∀ a ∈ v.elected, ∀ b ∈ v.elected, a.1 = b.1 → a.2 = b.2
  ld : ∀ i, (v.nodes i).role = 2 → ((v.nodes i).term, i) ∈ v.elected ∧
          (v.nodes i).dterm = (v.nodes i).term ∧ (v.nodes i).dvote = i ∧ (v.nodes i).vote = i ∧ 0 < i

def vinit : VSys :=
  { nodes := fun _ => ⟨0, 0, 0, 0, 0, [], []⟩, grants := [], elected := [], ecfgs := [] }

theorem vsys_init : vsys init = vinit := by
  simp [vsys, init, vinit, vproj]

theorem invV_init : InvV vinit := by
  constructor <;> simp [vinit, le2, VNode.d, VNode.vol, inU]


/-! ### the node-level effect of the ten V-transitions -/

def setN (v : VSys) (i : Nat) (n : VNode) : VSys := { v with nodes := updV v.nodes i n }

def nBump (n : VNode) (t : Nat) : VNode := { n with term := t, vote := 0, role := 0 }
def nCampaign (n : VNode) (i : Nat) : VNode := { n with vote := i, role := 1, og := n.og ++ [⟨n.term, i, i⟩] }
def nGrant (n : VNode) (i c : Nat) : VNode := { n with vote := c, role := 0, og := n.og ++ [⟨n.term, i, c⟩] }
def nRdy (n : VNode) : VNode := { n with pend := n.pend ++ [n.vol] }
def nPersist (n : VNode) (p : Nat × Nat) (k : Nat) : VNode := { n with dterm := p.1, dvote := p.2, pend := n.pend.drop k }
def nRelease (n : VNode) (k : Nat) : VNode := { n with og := n.og.eraseIdx k }
def nCrash (n : VNode) : VNode := { n with pend := [], og := [], role := 0 }
def nRestart (n : VNode) : VNode := { n with term := n.dterm, vote := n.dvote, pend := [], og := [], role := 0 }
def nWin (n : VNode) : VNode := { n with role := 2 }
def nRole0 (n : VNode) : VNode := { n with role := 0 }

/-! ### the ten V-transitions preserve the invariant -/

section transitions
variable {v : VSys}

/-- frame: a transition that touches only node `i` and neither grants nor elected leaves the facts
about other nodes alone; we restate each clause for node `i` only -/
theorem invV_of_node (h : InvV v) (i : Nat) (n' : VNode)
    (dv : le2 n'.d n'.vol)
    (pa : ∀ p ∈ n'.pend, le2 n'.d p ∧ le2 p n'.vol)
    (pp : n'.pend.Pairwise le2)
    (go : ∀ g ∈ n'.og, g.voter = i)
    (g1 : ∀ g ∈ v.grants, g.voter = i → (g.term < n'.dterm ∨ (g.term = n'.dterm ∧ n'.dvote = g.cand)))
    (gu : ∀ g, (g ∈ n'.og ∨ (g ∈ v.grants ∧ g.voter = i)) → g.cand ≠ 0 ∧ g.term ≤ n'.term ∧
            (g.term = n'.term → n'.vote = g.cand))
    (gc : ∀ a b, (a ∈ n'.og ∨ (a ∈ v.grants ∧ a.voter = i)) → (b ∈ n'.og ∨ (b ∈ v.grants ∧ b.voter = i)) →
            a.term = b.term → a.cand = b.cand)
    (ld : n'.role = 2 → (n'.term, i) ∈ v.elected ∧ n'.dterm = n'.term ∧ n'.dvote = i ∧ n'.vote = i ∧ 0 < i) :
    InvV (setN v i n') := by
  unfold setN
  constructor
  · intro j; by_cases hj : j = i
    · subst hj; simp only [updV_same]; exact dv
    · simp only [updV_other _ _ _ _ hj]; exact h.dv j
  · intro j; by_cases hj : j = i
    · subst hj; simp only [updV_same]; exact pa
    · simp only [updV_other _ _ _ _ hj]; exact h.pa j
  · intro j; by_cases hj : j = i
    · subst hj; simp only [updV_same]; exact pp
    · simp only [updV_other _ _ _ _ hj]; exact h.pp j
  · intro j; by_cases hj : j = i
    · subst hj; simp only [updV_same]; exact go
    · simp only [updV_other _ _ _ _ hj]; exact h.go j
  · intro g hg
    refine ⟨(h.g1 g hg).1, ?_⟩
    by_cases hj : g.voter = i
    · have := g1 g hg hj
      simp only [hj, updV_same]; exact this
    · simp only [updV_other _ _ _ _ hj]; exact (h.g1 g hg).2
  · intro j g hg
    by_cases hj : j = i
    · subst hj
      simp only [inU, updV_same] at hg
      simpa using gu g hg
    · simp only [inU, updV_other _ _ _ _ hj] at hg ⊢
      exact h.gu j g hg
  · intro j a b ha hb
    by_cases hj : j = i
    · subst hj
      simp only [inU, updV_same] at ha hb
      exact gc a b ha hb
    · simp only [inU, updV_other _ _ _ _ hj] at ha hb
      exact h.gc j a b ha hb
  · exact h.el
  · exact h.eu
  · intro j; by_cases hj : j = i
    · subst hj; simp only [updV_same]; exact ld
    · simp only [updV_other _ _ _ _ hj]; exact h.ld j

/-- T1: adopt a higher term -/
theorem invV_bump (h : InvV v) (i t : Nat) (ht : (v.nodes i).term < t) :
    InvV (setN v i (nBump (v.nodes i) t)) := by
  unfold nBump
  have hup : le2 (v.nodes i).vol (t, 0) := Or.inl ht
  apply invV_of_node h i _
  · exact le2_trans (h.dv i) hup
  · intro p hp
    exact ⟨(h.pa i p hp).1, le2_trans (h.pa i p hp).2 hup⟩
  · exact h.pp i
  · exact h.go i
  · intro g hg hv; have := (h.g1 g hg).2; rw [hv] at this; exact this
  · intro g hg
    have := h.gu i g hg
    refine ⟨this.1, ?_, ?_⟩
    · simp only; omega
    · simp only; intro he; omega
  · intro a b ha hb; exact h.gc i a b ha hb
  · simp

/-- T2/T3: decide a vote for `c` (possibly oneself), generate the grant, take any role but the leader's -/
theorem invV_vote (h : InvV v) (i c r : Nat) (hv : (v.nodes i).vote = 0 ∨ (v.nodes i).vote = c)
    (hc : 0 < c) (hr : r ≠ 2) :
    InvV (setN v i { v.nodes i with vote := c, role := r, og := (v.nodes i).og ++ [⟨(v.nodes i).term, i, c⟩] }) := by
  have hcur : ∀ g, inU v i g → g.term = (v.nodes i).term → g.cand = c := by
    intro g hg he
    have := h.gu i g hg
    have hvg := this.2.2 he
    rcases hv with hv | hv
    · rw [hv] at hvg; exact absurd hvg.symm this.1
    · rw [hv] at hvg; exact hvg.symm
  have hup : le2 (v.nodes i).vol ((v.nodes i).term, c) := le2_vote hv
  apply invV_of_node h i _
  · exact le2_trans (h.dv i) hup
  · intro p hp
    exact ⟨(h.pa i p hp).1, le2_trans (h.pa i p hp).2 hup⟩
  · exact h.pp i
  · intro g hg
    simp only [List.mem_append, List.mem_singleton] at hg
    rcases hg with hg | hg
    · exact h.go i g hg
    · rw [hg]
  · intro g hg hvo; have := (h.g1 g hg).2; rw [hvo] at this; exact this
  · intro g hg
    simp only [List.mem_append, List.mem_singleton] at hg
    rcases hg with (hg | hg) | hg
    · have := h.gu i g (Or.inl hg)
      exact ⟨this.1, this.2.1, fun he => (hcur g (Or.inl hg) he).symm⟩
    · subst hg; simp; omega
    · have := h.gu i g (Or.inr hg)
      exact ⟨this.1, this.2.1, fun he => (hcur g (Or.inr hg) he).symm⟩
  · intro a b ha hb hab
    simp only [List.mem_append, List.mem_singleton] at ha hb
    have key : ∀ g, ((g ∈ (v.nodes i).og ∨ g = ⟨(v.nodes i).term, i, c⟩) ∨ (g ∈ v.grants ∧ g.voter = i)) →
        inU v i g ∨ g = ⟨(v.nodes i).term, i, c⟩ := by
      intro g hg
      rcases hg with (hg | hg) | hg
      · exact Or.inl (Or.inl hg)
      · exact Or.inr hg
      · exact Or.inl (Or.inr hg)
    rcases key a ha with hua | hea <;> rcases key b hb with hub | heb
    · exact h.gc i a b hua hub hab
    · subst heb; simp only at hab ⊢; exact hcur a hua hab
    · subst hea; simp only at hab ⊢; exact (hcur b hub hab.symm).symm
    · rw [hea, heb]
  · exact fun h2 => absurd h2 hr

/-- T2: campaign — vote for oneself, generate the self-grant -/
theorem invV_campaign (h : InvV v) (i : Nat) (hv : (v.nodes i).vote = 0) (hi : 0 < i) :
    InvV (setN v i (nCampaign (v.nodes i) i)) := invV_vote h i i 1 (Or.inl hv) hi (by decide)

/-- T3: decide a vote for another candidate, generate the grant -/
theorem invV_grant (h : InvV v) (i c : Nat) (hv : (v.nodes i).vote = 0 ∨ (v.nodes i).vote = c)
    (hc : 0 < c) : InvV (setN v i (nGrant (v.nodes i) i c)) := invV_vote h i c 0 hv hc (by decide)

/-- T4: take an image of the volatile (term, vote) at a Ready boundary -/
theorem invV_rdy (h : InvV v) (i : Nat) :
    InvV (setN v i (nRdy (v.nodes i))) := by
  unfold nRdy
  apply invV_of_node h i _
  · exact h.dv i
  · intro p hp
    simp only [List.mem_append, List.mem_singleton] at hp
    rcases hp with hp | hp
    · exact h.pa i p hp
    · subst hp; exact ⟨h.dv i, le2_refl _⟩
  · simp only [List.pairwise_append, List.pairwise_cons, List.mem_singleton]
    refine ⟨h.pp i, ⟨by simp, List.Pairwise.nil⟩, ?_⟩
    intro a ha b hb; subst hb; exact (h.pa i a ha).2
  · exact h.go i
  · intro g hg hvo; have := (h.g1 g hg).2; rw [hvo] at this; exact this
  · intro g hg; exact h.gu i g hg
  · intro a b ha hb; exact h.gc i a b ha hb
  · exact h.ld i

/-- in a list of pairwise related elements the `k`-th one is related to all later ones, and those are
pairwise related -/
theorem pairwise_drop {α : Type} {R : α → α → Prop} {l : List α} (h : l.Pairwise R) {k : Nat} {p : α}
    (hk : 0 < k) (hp : l[k - 1]? = some p) : (∀ x ∈ l.drop k, R p x) ∧ (l.drop k).Pairwise R := by
  have hlt : k - 1 < l.length := (List.getElem?_eq_some_iff.mp hp).1
  have hpe : l[k - 1] = p := (List.getElem?_eq_some_iff.mp hp).2
  have hsplit := List.take_append_drop (k - 1) l
  rw [List.drop_eq_getElem_cons hlt, hpe, show k - 1 + 1 = k by omega] at hsplit
  rw [← hsplit, List.pairwise_append] at h
  exact List.pairwise_cons.1 h.2.1

/-- T5: make the `k`-th pending image durable -/
theorem invV_persist (h : InvV v) (i k : Nat) (p : Nat × Nat) (hk : 0 < k)
    (hp : (v.nodes i).pend[k - 1]? = some p) :
    InvV (setN v i (nPersist (v.nodes i) p k)) := by
  unfold nPersist
  have hmem : p ∈ (v.nodes i).pend := List.mem_of_getElem? hp
  have hpa := h.pa i p hmem
  obtain ⟨hafter, hpp⟩ := pairwise_drop (h.pp i) hk hp
  have hdp := hpa.1
  apply invV_of_node h i _
  · exact hpa.2
  · intro x hx
    exact ⟨hafter x hx, (h.pa i x (List.mem_of_mem_drop hx)).2⟩
  · exact hpp
  · exact h.go i
  · intro g hg hvo
    have h2 := (h.g1 g hg).2
    rw [hvo] at h2
    exact le2_covers hdp (h.g1 g hg).1 h2
  · intro g hg; exact h.gu i g hg
  · intro a b ha hb; exact h.gc i a b ha hb
  · intro hr
    -- a leader's durable (term, vote) is its volatile one, with the vote cast
    obtain ⟨hel, hdt, hdvo, hvo, hi⟩ := h.ld i hr
    have e : (v.nodes i).vol = (v.nodes i).d := by
      show ((v.nodes i).term, (v.nodes i).vote) = ((v.nodes i).dterm, (v.nodes i).dvote)
      rw [hdt, hdvo, hvo]
    have hsq := le2_squeeze hdp (e ▸ hpa.2) (by show (v.nodes i).dvote ≠ 0; omega)
    exact ⟨hel, hsq.1.trans hdt, hsq.2.trans hdvo, hvo, hi⟩

/-- a generated grant whose promise is durable joins the released ones -/
theorem invV_released (h : InvV v) (i : Nat) (g : Grant) (hmem : g ∈ (v.nodes i).og)
    (hr : g.term < (v.nodes i).dterm ∨ ((v.nodes i).dterm = g.term ∧ (v.nodes i).dvote = g.cand)) :
    InvV { v with grants := g :: v.grants } := by
  have hvo : g.voter = i := h.go i g hmem
  -- the union of generated and released grants of a node does not change
  have hU : ∀ j x, inU { v with grants := g :: v.grants } j x → inU v j x := by
    intro j x hx
    rcases hx with hx | ⟨hx, hxv⟩
    · exact Or.inl hx
    · rcases List.mem_cons.1 hx with hx | hx
      · subst hx; rw [← hxv, hvo]; exact Or.inl hmem
      · exact Or.inr ⟨hx, hxv⟩
  refine ⟨h.dv, h.pa, h.pp, h.go, ?_, fun j x hx => h.gu j x (hU j x hx),
    fun j a b ha hb => h.gc j a b (hU j a ha) (hU j b hb), ?_, h.eu, h.ld⟩
  · intro x hx
    rcases List.mem_cons.1 hx with hx | hx
    · subst hx
      refine ⟨(h.gu i x (Or.inl hmem)).1, ?_⟩
      show x.term < (v.nodes x.voter).dterm ∨ (x.term = (v.nodes x.voter).dterm ∧ (v.nodes x.voter).dvote = x.cand)
      rw [hvo]
      rcases hr with hr | hr
      · exact Or.inl hr
      · exact Or.inr ⟨hr.1.symm, hr.2⟩
    · exact h.g1 x hx
  · intro p hp
    obtain ⟨hs, cfg, q, hc, hq, hall⟩ := h.el p hp
    exact ⟨List.mem_cons_of_mem _ hs, cfg, q, hc, hq, fun x hx => List.mem_cons_of_mem _ (hall x hx)⟩

/-- T6: release a generated grant whose promise is durable -/
theorem invV_release (h : InvV v) (i k : Nat) (g : Grant) (hg : (v.nodes i).og[k]? = some g)
    (hr : g.term < (v.nodes i).dterm ∨ ((v.nodes i).dterm = g.term ∧ (v.nodes i).dvote = g.cand)) :
    InvV { setN v i (nRelease (v.nodes i) k) with grants := g :: v.grants } := by
  have h1 := invV_released h i g (List.mem_of_getElem? hg) hr
  have hsub : ∀ x, (x ∈ (v.nodes i).og.eraseIdx k ∨ (x ∈ g :: v.grants ∧ x.voter = i)) →
      inU { v with grants := g :: v.grants } i x :=
    fun x hx => hx.elim (fun hx => Or.inl (List.mem_of_mem_eraseIdx hx)) Or.inr
  refine invV_of_node h1 i (nRelease (v.nodes i) k) (h.dv i) (h.pa i) (h.pp i)
    (fun x hx => h.go i x (List.mem_of_mem_eraseIdx hx)) ?_ (fun x hx => h1.gu i x (hsub x hx))
    (fun a b ha hb => h1.gc i a b (hsub a ha) (hsub b hb)) (h.ld i)
  intro x hx hvo
  have := (h1.g1 x hx).2
  rw [hvo] at this
  exact this

/-- T7: crash — volatile images and generated-but-unreleased messages are lost -/
theorem invV_crash (h : InvV v) (i : Nat) :
    InvV (setN v i (nCrash (v.nodes i))) := by
  unfold nCrash
  apply invV_of_node h i _
  · exact h.dv i
  · simp
  · simp
  · simp
  · intro g hg hvo; have := (h.g1 g hg).2; rw [hvo] at this; exact this
  · intro g hg
    simp only [List.not_mem_nil, false_or] at hg
    exact h.gu i g (Or.inr hg)
  · intro a b ha hb
    simp only [List.not_mem_nil, false_or] at ha hb
    exact h.gc i a b (Or.inr ha) (Or.inr hb)
  · simp

/-- T8: restart from the durable image -/
theorem invV_restart (h : InvV v) (i : Nat) :
    InvV (setN v i (nRestart (v.nodes i))) := by
  unfold nRestart
  apply invV_of_node h i _
  · exact le2_refl _
  · simp
  · simp
  · simp
  · intro g hg hvo; have := (h.g1 g hg).2; rw [hvo] at this; exact this
  · intro g hg
    simp only [List.not_mem_nil, false_or] at hg
    have := h.g1 g hg.1
    rw [hg.2] at this
    refine ⟨this.1, ?_, ?_⟩
    · simp only; omega
    · simp only; intro he; rcases this.2 with h2 | h2
      · omega
      · exact h2.2
  · intro a b ha hb
    simp only [List.not_mem_nil, false_or] at ha hb
    exact h.gc i a b (Or.inr ha) (Or.inr hb)
  · simp

/-- an election is recorded: node `j` gathered, for term `t`, its own released self-grant and the
released grants of a quorum `q` that meets every quorum an election of `t` was decided under before -/
theorem invV_elect (h : InvV v) (t j : Nat) (cfg : Cfg) (q : List Nat) (hq : cfg.isQuorum q = true)
    (hself : (⟨t, j, j⟩ : Grant) ∈ v.grants) (hall : ∀ x ∈ q, (⟨t, x, j⟩ : Grant) ∈ v.grants)
    (hmeet : ∀ p ∈ v.ecfgs, p.1 = t → ∀ q', p.2.isQuorum q' = true → ∃ x, x ∈ q ∧ x ∈ q') :
    InvV { v with elected := (t, j) :: v.elected, ecfgs := (t, cfg) :: v.ecfgs } := by
  refine ⟨h.dv, h.pa, h.pp, h.go, h.g1, h.gu, h.gc, ?_, ?_, ?_⟩
  · intro p hp
    rcases List.mem_cons.1 hp with hp | hp
    · subst hp; exact ⟨hself, cfg, q, List.mem_cons_self, hq, hall⟩
    · obtain ⟨hs, cfg', q', hc', hq', hall'⟩ := h.el p hp
      exact ⟨hs, cfg', q', List.mem_cons_of_mem _ hc', hq', hall'⟩
  · -- at most one elected node per term: a second election of this term shares a voter with this one
    have key : ∀ b ∈ v.elected, b.1 = t → b.2 = j := by
      intro b hb hbt
      obtain ⟨_, cfg', q', hc', hq', hall'⟩ := h.el b hb
      obtain ⟨x, hx1, hx2⟩ := hmeet _ hc' hbt q' hq'
      have g1 := hall x hx1
      have g2 := hall' x hx2
      rw [hbt] at g2
      exact (h.gc x ⟨_, x, j⟩ ⟨_, x, b.2⟩ (Or.inr ⟨g1, rfl⟩) (Or.inr ⟨g2, rfl⟩) rfl).symm
    intro a ha b hb hab
    rcases List.mem_cons.1 ha with ha | ha <;> rcases List.mem_cons.1 hb with hb | hb
    · rw [ha, hb]
    · rw [ha] at hab ⊢; exact (key b hb hab.symm).symm
    · rw [hb] at hab ⊢; exact key a ha hab
    · exact h.eu a ha b hb hab
  · intro k hr
    have := h.ld k hr
    exact ⟨List.mem_cons_of_mem _ this.1, this.2⟩

/-- T9: win an election with a quorum of released grants (own durable self-vote included) -/
theorem invV_win (h : InvV v) (i : Nat) (cfg : Cfg) (q : List Nat) (hq : cfg.isQuorum q = true)
    (hvote : (v.nodes i).vote = i)
    (hself : (⟨(v.nodes i).term, i, i⟩ : Grant) ∈ v.grants)
    (hall : ∀ x ∈ q, (⟨(v.nodes i).term, x, i⟩ : Grant) ∈ v.grants)
    (hmeet : ∀ p ∈ v.ecfgs, p.1 = (v.nodes i).term → ∀ q', p.2.isQuorum q' = true → ∃ x, x ∈ q ∧ x ∈ q') :
    InvV { setN v i (nWin (v.nodes i)) with elected := ((v.nodes i).term, i) :: v.elected,
                                             ecfgs := ((v.nodes i).term, cfg) :: v.ecfgs } := by
  have h1 := invV_elect h (v.nodes i).term i cfg q hq hself hall hmeet
  -- the released self-grant: the candidate's term and self-vote are durable
  have hg1 := h.g1 _ hself
  have hdv := h.dv i
  simp only [le2, VNode.d, VNode.vol] at hdv
  simp only at hg1
  refine invV_of_node h1 i (nWin (v.nodes i)) (h.dv i) (h.pa i) (h.pp i) (h.go i) ?_ (h.gu i) (h.gc i) ?_
  · intro g hg hvo; have := (h.g1 g hg).2; rw [hvo] at this; exact this
  · intro _
    refine ⟨List.mem_cons_self, ?_, ?_, hvote, ?_⟩
    · show (v.nodes i).dterm = (v.nodes i).term
      rcases hg1.2 with h2 | h2 <;> omega
    · rcases hg1.2 with h2 | h2
      · omega
      · exact h2.2
    · have := hg1.1; omega

/-- T10: leave the candidate / leader role in the same term -/
theorem invV_role0 (h : InvV v) (i : Nat) :
    InvV (setN v i (nRole0 (v.nodes i))) := by
  unfold nRole0
  apply invV_of_node h i _
  · exact h.dv i
  · exact h.pa i
  · exact h.pp i
  · exact h.go i
  · intro g hg hvo; have := (h.g1 g hg).2; rw [hvo] at this; exact this
  · intro g hg; exact h.gu i g hg
  · intro a b ha hb; exact h.gc i a b ha hb
  · simp

/-- T11: a fresh node is started from a durable committed prefix of another node -/
theorem invV_boot (h : InvV v) (i t : Nat) (h0 : (v.nodes i).term = 0) (hv : (v.nodes i).vote = 0)
    (hd : (v.nodes i).dvote = 0) (hp : (v.nodes i).pend = []) (ho : (v.nodes i).og = [])
    (hr : (v.nodes i).role = 0) :
    InvV (setN v i { v.nodes i with term := t, dterm := t }) := by
  have hnone : ∀ g, inU v i g → False := by
    intro g hg
    have hgu := h.gu i g hg
    have he : g.term = (v.nodes i).term := by omega
    have hvc := hgu.2.2 he
    rw [hv] at hvc
    exact hgu.1 hvc.symm
  apply invV_of_node h i _
  · simp [le2, VNode.d, VNode.vol, hv, hd]
  · simp [hp]
  · simp [hp]
  · simp [ho]
  · intro g hg hvo; exact (hnone g (Or.inr ⟨hg, hvo⟩)).elim
  · intro g hg
    simp only [ho, List.not_mem_nil, false_or] at hg
    exact (hnone g (Or.inr hg)).elim
  · intro a b ha hb
    simp only [ho, List.not_mem_nil, false_or] at ha
    exact (hnone a (Or.inr ha)).elim
  · simp [hr]

end transitions

end RaftModel.P
