import RaftProofs.ClusterCommit5D

/-!
Cluster-level commit safety, `Gx` through `poll`, `campaign`, `hup`, `maybe_commit_by_vote` and the
vote arm of `step`.
-/
namespace RaftModel
namespace Raft
namespace CX
open CC CB VoteOb

variable {f : Prop} {A : Nat → Nat → Nat → Prop} {a r r' : Raft} {m : Message}

/-- the vote-request loop of `campaign` -/
theorem sendVoteRequests_gx {ct : CampaignType} {vm : MsgType} {term : Nat}
    (hvm : vm = .msgRequestVote ∨ vm = .msgRequestPreVote) (hterm : term ≠ 0)
    (hrq : vm = .msgRequestVote → term = r.term)
    (hpq : vm = .msgRequestPreVote → term = r.term + 1)
    (h : r.sendVoteRequests ct vm term = .ok r') (h0 : Gx f A a m r) : Gx f A a m r' := by
  obtain ⟨lt, c, cterm, hlt, hci, e⟩ := c02_sendVoteRequests_spec hvm hterm h
  have hci' : c = r.raftLog.committed ∧ r.raftLog.term c = .ok cterm := by
    unfold RaftLog.commitInfo at hci
    split at hci
    · rename_i t ht
      cases hci
      exact ⟨rfl, ht⟩
    · cases hci
    · cases hci
  have hnew : ∀ y ∈ (c02_voteTargets r).map (voteReq r vm ct term c cterm lt),
      y.msgType = vm ∧ y.term = term ∧ y.index = r.raftLog.lastIndex ∧ y.logTerm = lt ∧
      y.commit = c ∧ y.commitTerm = cterm := by
    intro y hy
    obtain ⟨to, _, rfl⟩ := List.mem_map.1 hy
    exact ⟨rfl, rfl, rfl, rfl, rfl, rfl⟩
  have hvm' : lkT vm = false ∧ vm ≠ .msgAppendResponse := by
    rcases hvm with g | g <;> rw [g] <;> exact ⟨rfl, by intro hc; cases hc⟩
  rw [e]
  refine h0.next rfl (fun g => g) (fun g => g) rfl (Nat.le_refl _) rfl rfl rfl ⟨h0.mok.h⟩ h0.lc
    fun y hy => ?_
  rcases List.mem_append.1 hy with hy | hy
  · exact .inl hy
  · obtain ⟨f1, f2, f3, f4, f5, f6⟩ := hnew y hy
    refine .inr ⟨fun hty => ?_, fun hty => ?_, fun _ => .inr ?_, fun hty => ?_⟩
    · rw [f1, hvm'.1] at hty; cases hty
    · exact absurd (f1.symm.trans hty.1) hvm'.2
    · show y.commit ≤ r.raftLog.committed ∧ r.raftLog.term y.commit = .ok y.commitTerm ∧
        VT r.term y
      rw [f5, f6]
      refine ⟨Nat.le_of_eq hci'.1, hci'.2, fun hc => ?_, fun hc => ?_, fun hc => ?_⟩
      · rw [f2]; exact hpq (f1.symm.trans hc)
      · rw [f2]
        rcases hvm with g | g
        · exact hrq g
        · exact absurd (f1.trans g) hc
      · rw [f1] at hc
        rcases hvm with g | g <;> rw [g] at hc <;> rcases hc with c | c <;> cases c
    · exact ⟨f2.trans (hrq (f1.symm.trans hty)), f3, by rw [f4]; exact hlt⟩

/-- **`poll`**, entered with nothing queued and the commit index of the start -/
theorem pollWith_gx {pre : Raft → Res Raft} {frm : Nat} {t : MsgType} {v : Bool} {res : VoteResult}
    (hA : ∀ j t x y, y ≤ x → A j t x → A j t y) (hb : FlagUp f r)
    (hf : ∀ r0 r1, pre r0 = .ok r1 → Gx f A a m r0 → Old a r0 → FlagUp f r0 →
      r0.raftLog.committed = a.raftLog.committed → Gx f A a m r1)
    (h : pollWith pre r frm t v = .ok (r', res)) (h0 : Gx f A a m r) (ho : Old a r)
    (hcm : r.raftLog.committed = a.raftLog.committed) :
    Gx f A a m r' ∧ (res ≠ .won → Old a r' ∧ r'.raftLog.committed = a.raftLog.committed ∧
      r'.term = r.term) := by
  have g1 : Gx f A a m (voted r frm v) :=
    h0.setPrs (mfun_recordVote _ _ _) (voters_recordVote _ _ _)
  have ho1 : Old a (voted r frm v) := ho
  obtain ⟨_, hc⟩ := c02_pollWith_cases h
  rcases hc with ⟨c1, _, c3⟩ | ⟨c1, _, c3⟩ | ⟨c1, c2⟩ | ⟨c1, c2⟩
  · exact ⟨hf _ _ c3 g1 ho1 hb hcm, fun hne => absurd c1 hne⟩
  · unfold wonBy at c3
    obtain ⟨r1, h1, h2⟩ := Res.bind_eq_ok c3
    obtain ⟨g2, _, _, g5⟩ := becomeLeader_gx h1 g1 ho1 hcm
    exact ⟨g2.sf hA (FlagUp.of_eq (r := voted r frm v) hb (becomeLeader_batch h1))
      (bcastAppend_sfx h2 SFx.rfl) (.inl g5),
      fun hne => absurd c1 hne⟩
  · rw [c2]
    refine ⟨becomeFollower_gx _ _ g1 ho1, fun _ => ⟨ho1.becomeFollower _ _, ?_, ?_⟩⟩
    · rw [becomeFollower_committed]; exact hcm
    · exact (becomeFollower_term_vote _ _ _).1
  · rw [c2]
    exact ⟨g1, fun _ => ⟨ho1, hcm, rfl⟩⟩

/-- the shape of what `poll` guarantees, as used by `campaign` -/
def PollOkx (f : Prop) (A : Nat → Nat → Nat → Prop) (a : Raft) (m : Message)
    (poll : Raft → Nat → MsgType → Bool → Res (Raft × VoteResult)) : Prop :=
  ∀ r0 r1 frm t v res, poll r0 frm t v = .ok (r1, res) → Gx f A a m r0 → Old a r0 → FlagUp f r0 →
    r0.raftLog.committed = a.raftLog.committed →
    Gx f A a m r1 ∧ (res ≠ .won → Old a r1 ∧ r1.raftLog.committed = a.raftLog.committed ∧
      r1.term = r0.term)

theorem campaignWith_gx {poll : Raft → Nat → MsgType → Bool → Res (Raft × VoteResult)}
    {ct : CampaignType} (hpoll : PollOkx f A a m poll) (hb : FlagUp f r)
    (h : campaignWith poll r ct = .ok r') (h0 : Gx f A a m r) (ho : Old a r)
    (hcm : r.raftLog.committed = a.raftLog.committed) : Gx f A a m r' := by
  unfold Raft.campaignWith at h
  obtain ⟨⟨r1, vm, term⟩, hstart, h⟩ := Res.bind_eq_ok h
  simp only [] at h
  -- the state after the role change
  have hs1 : Gx f A a m r1 ∧ Old a r1 ∧ FlagUp f r1 ∧
      r1.raftLog.committed = a.raftLog.committed ∧ term ≠ 0 ∧
      (vm = .msgRequestVote ∨ vm = .msgRequestPreVote) ∧ (vm = .msgRequestVote → term = r1.term) ∧
      (vm = .msgRequestPreVote → term = r1.term + 1) := by
    split at hstart
    · obtain ⟨r2, h2, h3⟩ := Res.bind_eq_ok hstart
      obtain ⟨g1, g2⟩ := becomePreCandidate_gx h2 h0 ho
      obtain ⟨hk, _⟩ := c02_becomePreCandidate_spec h2
      split at h3
      · cases h3
      · cases h3
        exact ⟨g1, g2, hb.of_eq (becomePreCandidate_batch h2), hk.log.committed.trans hcm, by omega,
          .inr rfl, (fun hc => by cases hc), (fun _ => rfl)⟩
    · obtain ⟨r2, h2, h3⟩ := Res.bind_eq_ok hstart
      cases h3
      obtain ⟨g1, g2⟩ := becomeCandidate_gx h2 h0 ho
      obtain ⟨hk, e1, _⟩ := c02_becomeCandidate_spec h2
      exact ⟨g1, g2, hb.of_eq (becomeCandidate_batch h2), hk.log.committed.trans hcm,
        by rw [e1]; omega, .inl rfl, (fun _ => rfl), (fun hc => by cases hc)⟩
  obtain ⟨g1, o1, b1, c1, t1, v1, q1, p1⟩ := hs1
  obtain ⟨⟨r3, res⟩, hp, h⟩ := Res.bind_eq_ok h
  obtain ⟨g3, hrest⟩ := hpoll _ _ _ _ _ _ hp g1 o1 b1 c1
  simp only [] at h
  split at h
  · cases h; exact g3
  · rename_i hne
    obtain ⟨_, _, t3⟩ := hrest hne
    exact sendVoteRequests_gx v1 t1 (fun hv => (q1 hv).trans t3.symm)
      (fun hv => by rw [p1 hv, t3]) h g3

theorem pollWith_ok {pre : Raft → Res Raft} (hA : ∀ j t x y, y ≤ x → A j t x → A j t y)
    (hf : ∀ r0 r1, pre r0 = .ok r1 → Gx f A a m r0 → Old a r0 → FlagUp f r0 →
      r0.raftLog.committed = a.raftLog.committed → Gx f A a m r1) :
    PollOkx f A a m (pollWith pre) :=
  fun _ _ _ _ _ _ h h0 ho hb hcm => pollWith_gx hA hb hf h h0 ho hcm

theorem campaignAfterPreVote_gx (hA : ∀ j t x y, y ≤ x → A j t x → A j t y) (hb : FlagUp f r)
    (h : r.campaignAfterPreVote = .ok r') (h0 : Gx f A a m r) (ho : Old a r)
    (hcm : r.raftLog.committed = a.raftLog.committed) : Gx f A a m r' := by
  unfold Raft.campaignAfterPreVote at h
  refine campaignWith_gx (pollWith_ok hA ?_) hb h h0 ho hcm
  intro r0 r1 hc
  cases hc

theorem poll_ok (hA : ∀ j t x y, y ≤ x → A j t x → A j t y) : PollOkx f A a m Raft.poll := by
  unfold Raft.poll
  exact pollWith_ok hA (fun r0 r1 h h0 ho hb hcm => campaignAfterPreVote_gx hA hb h h0 ho hcm)

theorem campaign_gx {ct : CampaignType} (hA : ∀ j t x y, y ≤ x → A j t x → A j t y)
    (hb : FlagUp f r) (h : r.campaign ct = .ok r') (h0 : Gx f A a m r) (ho : Old a r)
    (hcm : r.raftLog.committed = a.raftLog.committed) : Gx f A a m r' := by
  unfold Raft.campaign at h
  exact campaignWith_gx (poll_ok hA) hb h h0 ho hcm

theorem hup_gx {tl : Bool} (hA : ∀ j t x y, y ≤ x → A j t x → A j t y) (hb : FlagUp f r)
    (h : r.hup tl = .ok r') (h0 : Gx f A a m r) (ho : Old a r)
    (hcm : r.raftLog.committed = a.raftLog.committed) : Gx f A a m r' :=
  hup_parts h h0 fun _ hc => campaign_gx hA hb hc h0 ho hcm

/-- `become_follower` at the same term, on a node that is not the leader: whatever was queued in this
call stays described by the new state -/
theorem becomeFollower_same_gx (l : Nat) (h0 : Gx f A a m r) (hs : r.state ≠ .leader) :
    Gx f A a m (r.becomeFollower r.term l) := by
  have hst : (r.becomeFollower r.term l).state = .follower :=
    (RaftProps.C16.becomeFollower_proj r r.term l).1
  have hst' : (r.becomeFollower r.term l).state ≠ .leader := by rw [hst]; intro hc; cases hc
  have hlog := becomeFollower_raftLog r r.term l
  exact h0.next (becomeFollower_id r r.term l)
    (fun h => absurd h hs) (fun _ => hst) (becomeFollower_term_vote r r.term l).1
    (Nat.le_of_eq (becomeFollower_committed r r.term l).symm) (by rw [hlog]; rfl) (by rw [hlog]; rfl)
    (by rw [hlog]; rfl) ⟨fun h => absurd h hst'⟩ (fun h => absurd h hst')
    fun x hx => .inl (by rw [becomeFollower_msgs] at hx; exact hx)

theorem maybeCommitByVote_gx {a r r' : Raft} {m mm : Message}
    (h : r.maybeCommitByVote mm = .ok r') (h0 : Gx f A a m r) : Gx f A a m r' := by
  unfold Raft.maybeCommitByVote at h
  split at h
  · cases h; exact h0
  · simp only at h
    split at h
    · cases h; exact h0
    · rename_i hnl
      have hs : r.state ≠ .leader := fun hc => hnl (.inr hc)
      split at h
      · cases h
      · cases h
      · cases h; exact h0
      · rename_i log hmc
        rcases RaftLog.c04_maybeCommit_spec hmc with ⟨_, hlt, _, _, hl⟩ | ⟨hb, _⟩
        · have g1 : Gx f A a m ({ r with raftLog := log } : Raft) :=
            h0.commitUp rfl rfl rfl rfl rfl hl (Nat.le_of_lt hlt) (fun hc => absurd hc hs)
          split at h
          · cases h; exact g1
          · split at h
            · cases h
            · cases h
            · cases h; exact becomeFollower_same_gx 0 g1 hs
            · cases h; exact g1
        · cases hb

/-! ### the vote arm -/

theorem stepVote_gx {a r r' : Raft} {m mm : Message}
    (h : r.stepVote mm = .ok r') (h0 : Gx f A a m r) : Gx f A a m r' := by
  unfold Raft.stepVote at h
  split at h
  · cases h
  · rename_i rt hrt
    have hty := voteResp_type hrt
    have hlk : lkT rt = false := by rcases hty with g | g <;> rw [g] <;> rfl
    have hiv : isVoteMsg rt = true := by rcases hty with g | g <;> rw [g] <;> rfl
    have hna : rt ≠ .msgAppendResponse := by rcases hty with g | g <;> rw [g] <;> (intro hc; cases hc)
    have hnr : rt ≠ .msgRequestVote := by rcases hty with g | g <;> rw [g] <;> (intro hc; cases hc)
    split at h
    · -- grant
      unfold Raft.stepVoteGrant at h
      split at h
      · rename_i r1 hs
        have g1 : Gx f A a m r1 := by
          refine send_gx hs h0 hlk (fun hc => ?_) (fun _ => ?_) (fun hc => absurd hc hnr)
          · have := hc.1; rw [sendFill_msgType] at this; exact absurd this hna
          · left; exact (sendFill_vote r _ hiv).1
        split at h
        · cases h; exact Gx.mk' g1
        · cases h; exact g1
      · cases h
      · cases h
    · -- reject
      unfold Raft.stepVoteReject at h
      split at h
      · cases h
      · cases h
      · rename_i c cterm hci
        have hci' : c = r.raftLog.committed ∧ r.raftLog.term c = .ok cterm := by
          unfold RaftLog.commitInfo at hci
          split at hci
          · rename_i t ht
            cases hci
            exact ⟨rfl, ht⟩
          · cases hci
          · cases hci
        split at h
        · rename_i r1 hs
          have g1 : Gx f A a m r1 := by
            refine send_gx hs h0 hlk (fun hc => ?_) (fun _ => ?_) (fun hc => absurd hc hnr)
            · have := hc.1; rw [sendFill_msgType] at this; exact absurd this hna
            · right
              obtain ⟨f1, f2, f3, f4⟩ := sendFill_vote r
                { msgType := rt, to := mm.frm, reject := true, term := r.term, commit := c,
                  commitTerm := cterm } hiv
              rw [f1, f2]
              refine ⟨Nat.le_of_eq hci'.1, hci'.2, fun hc => ?_, fun _ => f4, fun _ => f3⟩
              rw [sendFill_msgType] at hc
              rcases hty with g | g <;> rw [g] at hc <;> cases hc
          split at h
          · exact maybeCommitByVote_gx h g1
          · cases h; exact g1
        · cases h
        · cases h
    · cases h
    · cases h

end CX
end Raft
end RaftModel
