import RaftProofs.ClusterCommit6A
import RaftProofs.ClusterCommit6D

/-!
Cluster-level commit safety with `batch_append`, with queued `MsgSnapshot`s allowed: **the bundles `Hyp3wK`**
(`RaftProps/C01k.lean`) **and `Hyp3wL`** (`RaftProps/C01l.lean`, `C01m.lean`).

`Hyp3wK cfg c0 h` = the fields of `Hyp3wB` (`ClusterCommitBatchInd.lean`) without the redundant `mv` and with
`nosq` ("no `MsgSnapshot` is ever queued") replaced by the disjunction `mute` — the shape of C05d's
`BatchOk`:

* nobody ever batches (`NoBatch` in every state — then this is C01d's `Hyp3w`), **or**
* in every state, a node that has a `MsgSnapshot` queued has no `MsgAppend` anchored in the void in its
  queue (`SaneQ`, `ClusterCommit6A.lean`; vacuous under `nosq`).

`Hyp3wK.cases`: a history under `Hyp3wK` is a history under C01d's `Hyp3w` or under `Hyp3wQ`.

`Hyp3wL` = `Hyp3wK` **without the field `mute`**, i.e. C01d's `Hyp3w` without `NoBatch`, plus `c0z : c0 = 0`.
It does **not** imply `Hyp3wK`: `ClusterCommit7B.lean` exhibits a history (kernel-evaluated) under `Hyp3wL` in
which somebody batches and `SaneQ` fails (`Hyp3wL.toHyp3wK_partial` takes `mute` as an explicit hypothesis).
**`Hyp3wL` is the bundle `M.Hyp3wQ`** of the commit layer that assumes nothing about queues (`mv` is derived from
`nolone`); hence the hypotheses `M.Hyp3aB` of the main induction, the frame fact `MonoS` of every step, the
anchor property at the nodes that are not mute, and `Cluster.M.InvL` (Log Matching for logs, storages, transport
and the queues of the nodes that are not mute) in every state.
-/

namespace RaftModel
namespace ClusterB
open Node Raft Raft.CC Raft.CP RaftProps.C02 RaftProps.C05 Raft.CB Raft.Bt Cluster

/-- **the hypotheses of the commit layer with `batch_append` and queued `MsgSnapshot`s allowed** -/
structure Hyp3wK (cfg : JointConfig) (c0 : Nat) (h : List Sys) : Prop where
  hist : History h
  fix : ∀ s ∈ h, FixedCfg cfg s
  ne : cfg.incoming ≠ []
  nd1 : cfg.incoming.Nodup
  nd2 : cfg.outgoing.Nodup
  init : ∀ s : Sys, h[0]? = some s → InitOk s
  steps : ∀ (n : Nat) (a b : Sys), h[n]? = some a → h[n + 1]? = some b → KStep a b
  nosnap : ∀ s ∈ h, NoSnapNet s
  nolone : ∀ i Q, IsJointQuorum cfg Q → ∃ k ∈ Q, k ≠ i
  shape : ∀ s ∈ h, ∀ i st, s.node i = some st →
    st.raft.raftLog.unstable.snapshot = none ∧ st.raft.raftLog.store.firstIndex = c0 + 1
  initc : ∀ s : Sys, h[0]? = some s → ∀ i st, s.node i = some st → st.raft.raftLog.committed = c0
  c0z : c0 = 0
  snapt0 : ∀ s0, h[0]? = some s0 → ∀ i sti, s0.node i = some sti → ∀ t0,
    sti.raft.raftLog.abs.snapTerm = some t0 → ∀ j stj, s0.node j = some stj → t0 ≤ stj.raft.term
  /-- nobody batches, or the mute nodes (a `MsgSnapshot` is queued) queue no append anchored in the void -/
  mute : (∀ s ∈ h, NoBatch s) ∨ (∀ s ∈ h, SaneQ s)

variable {cfg : JointConfig} {c0 : Nat} {h : List Sys}

/-- C01d's bundle, if nobody batches -/
theorem Hyp3wK.toHyp3w (H : Hyp3wK cfg c0 h) (nb : ∀ s ∈ h, NoBatch s) : Hyp3w cfg c0 h :=
  ⟨⟨⟨H.hist, H.fix, H.ne, H.nd1, H.nd2, H.init, H.steps, nb, H.nosnap⟩, H.nolone, H.shape, H.initc⟩,
    H.snapt0⟩

/-- the bundle of `ClusterCommit6A.lean`, if the mute nodes are sane -/
theorem Hyp3wK.toHyp3wQ (H : Hyp3wK cfg c0 h) (sq : ∀ s ∈ h, SaneQ s) : Hyp3wQ cfg c0 h :=
  { hist := H.hist, fix := H.fix, ne := H.ne, nd1 := H.nd1, nd2 := H.nd2, init := H.init,
    steps := H.steps, nosnap := H.nosnap, mv := multiVoter_of_nolone H.nolone, nolone := H.nolone,
    shape := H.shape, initc := H.initc, c0z := H.c0z, snapt0 := H.snapt0, saneq := sq }

/-- the hypotheses with nothing assumed about queues (forget `mute`) -/
theorem Hyp3wK.toM (H : Hyp3wK cfg c0 h) : M.Hyp3wQ cfg c0 h :=
  { hist := H.hist, fix := H.fix, ne := H.ne, nd1 := H.nd1, nd2 := H.nd2, init := H.init,
    steps := H.steps, nosnap := H.nosnap, mv := multiVoter_of_nolone H.nolone, nolone := H.nolone,
    shape := H.shape, initc := H.initc, c0z := H.c0z, snapt0 := H.snapt0 }

theorem Hyp3wK.cases (H : Hyp3wK cfg c0 h) : Hyp3w cfg c0 h ∨ Hyp3wQ cfg c0 h :=
  H.mute.elim (fun nb => .inl (H.toHyp3w nb)) (fun sq => .inr (H.toHyp3wQ sq))

/-- **C01f's bundle is a special case** (`nosq` makes `SaneQ` vacuous) -/
theorem Hyp3wK.of_hyp3wB (H : Hyp3wB cfg c0 h) : Hyp3wK cfg c0 h :=
  { hist := H.hist, fix := H.fix, ne := H.ne, nd1 := H.nd1, nd2 := H.nd2, init := H.init,
    steps := H.steps, nosnap := H.nosnap, nolone := H.nolone, shape := H.shape, initc := H.initc,
    c0z := H.c0z, snapt0 := H.snapt0, mute := .inr (fun s hs => SaneQ.of_nosq (H.nosq s hs)) }

/-- **C01d's bundle with `c0 = 0` is a special case** — every history of C01d whose nodes start without
a snapshot point, *whether or not a `MsgSnapshot` is ever queued* -/
theorem Hyp3wK.of_hyp3w {cfg : JointConfig} {h : List Sys} (H : Hyp3w cfg 0 h) : Hyp3wK cfg 0 h :=
  { hist := H.hist, fix := H.fix, ne := H.ne, nd1 := H.nd1, nd2 := H.nd2, init := H.init,
    steps := H.steps, nosnap := H.nosnap, nolone := H.nolone, shape := H.shape, initc := H.initc,
    c0z := rfl, snapt0 := H.snapt0, mute := .inl H.nb }

/-- the bundle from `Hyp3wQ` -/
theorem Hyp3wK.of_hyp3wQ (H : Hyp3wQ cfg c0 h) : Hyp3wK cfg c0 h :=
  { hist := H.hist, fix := H.fix, ne := H.ne, nd1 := H.nd1, nd2 := H.nd2, init := H.init,
    steps := H.steps, nosnap := H.nosnap, nolone := H.nolone, shape := H.shape, initc := H.initc,
    c0z := H.c0z, snapt0 := H.snapt0, mute := .inr H.saneq }

/-- **the hypotheses of the commit layer with `batch_append` and queued `MsgSnapshot`s allowed, nothing
assumed about queues**: `Hyp3wK` without `mute` -/
structure Hyp3wL (cfg : JointConfig) (c0 : Nat) (h : List Sys) : Prop where
  hist : History h
  fix : ∀ s ∈ h, FixedCfg cfg s
  ne : cfg.incoming ≠ []
  nd1 : cfg.incoming.Nodup
  nd2 : cfg.outgoing.Nodup
  init : ∀ s : Sys, h[0]? = some s → InitOk s
  steps : ∀ (n : Nat) (a b : Sys), h[n]? = some a → h[n + 1]? = some b → KStep a b
  nosnap : ∀ s ∈ h, NoSnapNet s
  nolone : ∀ i Q, IsJointQuorum cfg Q → ∃ k ∈ Q, k ≠ i
  shape : ∀ s ∈ h, ∀ i st, s.node i = some st →
    st.raft.raftLog.unstable.snapshot = none ∧ st.raft.raftLog.store.firstIndex = c0 + 1
  initc : ∀ s : Sys, h[0]? = some s → ∀ i st, s.node i = some st → st.raft.raftLog.committed = c0
  c0z : c0 = 0
  snapt0 : ∀ s0, h[0]? = some s0 → ∀ i sti, s0.node i = some sti → ∀ t0,
    sti.raft.raftLog.abs.snapTerm = some t0 → ∀ j stj, s0.node j = some stj → t0 ≤ stj.raft.term

/-- C01k's bundle is a special case (forget `mute`) -/
theorem Hyp3wK.toHyp3wL (H : Hyp3wK cfg c0 h) : Hyp3wL cfg c0 h :=
  { hist := H.hist, fix := H.fix, ne := H.ne, nd1 := H.nd1, nd2 := H.nd2, init := H.init,
    steps := H.steps, nosnap := H.nosnap, nolone := H.nolone, shape := H.shape, initc := H.initc,
    c0z := H.c0z, snapt0 := H.snapt0 }

/-- **conditional**: `Hyp3wL` and `mute` give `Hyp3wK` (the field cannot be derived:
`c01l_not_hyp3wK`, `ClusterCommit7B.lean`) -/
theorem Hyp3wL.toHyp3wK_partial (H : Hyp3wL cfg c0 h)
    (mute : (∀ s ∈ h, NoBatch s) ∨ (∀ s ∈ h, SaneQ s)) : Hyp3wK cfg c0 h :=
  { hist := H.hist, fix := H.fix, ne := H.ne, nd1 := H.nd1, nd2 := H.nd2, init := H.init,
    steps := H.steps, nosnap := H.nosnap, nolone := H.nolone, shape := H.shape, initc := H.initc,
    c0z := H.c0z, snapt0 := H.snapt0, mute := mute }

/-- C01d's bundle with `c0 = 0` is a special case -/
theorem Hyp3wL.of_hyp3w {cfg : JointConfig} {h : List Sys} (H : Hyp3w cfg 0 h) : Hyp3wL cfg 0 h :=
  (Hyp3wK.of_hyp3w H).toHyp3wL

/-- the bundle is closed under non-empty prefixes -/
theorem Hyp3wL.take (H : Hyp3wL cfg c0 h) {k : Nat} (hk : 0 < k) : Hyp3wL cfg c0 (h.take k) where
  hist := History.take H.hist k hk
  fix := fun s hs => H.fix s (List.mem_of_mem_take hs)
  ne := H.ne
  nd1 := H.nd1
  nd2 := H.nd2
  init := fun s h0 => H.init s (get_take h0).1
  steps := fun n a b ha hb => H.steps n a b (get_take ha).1 (get_take hb).1
  nosnap := fun s hs => H.nosnap s (List.mem_of_mem_take hs)
  nolone := H.nolone
  shape := fun s hs => H.shape s (List.mem_of_mem_take hs)
  initc := fun s h0 => H.initc s (get_take h0).1
  c0z := H.c0z
  snapt0 := fun s0 h0 => H.snapt0 s0 (get_take h0).1

/-- `Hyp3wL` is the bundle `M.Hyp3wQ` (`mv` is derived from `nolone`) -/
theorem Hyp3wL.toHyp3wQM (H : Hyp3wL cfg c0 h) : M.Hyp3wQ cfg c0 h :=
  { hist := H.hist, fix := H.fix, ne := H.ne, nd1 := H.nd1, nd2 := H.nd2, init := H.init,
    steps := H.steps, nosnap := H.nosnap, mv := multiVoter_of_nolone H.nolone, nolone := H.nolone,
    shape := H.shape, initc := H.initc, c0z := H.c0z, snapt0 := H.snapt0 }

/-- … and conversely -/
theorem Hyp3wL.of_hyp3wQM (H : M.Hyp3wQ cfg c0 h) : Hyp3wL cfg c0 h :=
  { hist := H.hist, fix := H.fix, ne := H.ne, nd1 := H.nd1, nd2 := H.nd2, init := H.init,
    steps := H.steps, nosnap := H.nosnap, nolone := H.nolone, shape := H.shape, initc := H.initc,
    c0z := H.c0z, snapt0 := H.snapt0 }

/-- **the hypotheses of the main induction follow from `Hyp3wL` alone** -/
theorem Hyp3wL.toHyp3aM (H : Hyp3wL cfg c0 h) : M.Hyp3aB cfg c0 h := H.toHyp3wQM.toHyp3aB

/-- the frame property of every step of a history under `Hyp3wL`: **a queued `MsgSnapshot` stays queued
until the queue is emptied** (`send`, restart) -/
theorem Hyp3wL.mono (H : Hyp3wL cfg c0 h) (n : Nat) (a b : Sys) (ha : h[n]? = some a)
    (hb : h[n + 1]? = some b) : Cluster.M.MonoS a b :=
  H.toHyp3aM.toHyp2wB.toHypB.mono n a b ha hb

/-- no queued `MsgAppend` of a **non-mute** node is anchored in the void -/
theorem Hyp3wL.sane (H : Hyp3wL cfg c0 h) : ∀ s ∈ h, Cluster.M.SaneAnchors s :=
  H.toHyp3aM.toHyp2wB.toHypB.sane

/-- **Log Matching (`Cluster.M.InvL`: logs, storages, transport, queues of non-mute nodes) and the queue
invariants `InvB` in every state**, batching on or off, nothing assumed about queues -/
theorem Hyp3wL.invLB (H : Hyp3wL cfg c0 h) :
    ∃ s0, h[0]? = some s0 ∧ ∀ s ∈ h, Cluster.M.InvL (Owner h) (Cluster.M.EntriesOf s0) s ∧ InvB s :=
  H.toHyp3aM.toHyp2wB.toHypB.invLB

end ClusterB
end RaftModel
