import RaftProofs.ClusterCommit4I

/-!
Cluster-level commit safety, part 4: the per-call relation of `ClusterCommit4A–4I` for the commit
layer (namespace `Raft.CP`), which assumes that no snapshot ever reaches the transport.

* `QSnap ms`, "a `MsgSnapshot` is queued", is the escape `mute`: `send` hands over the whole queue, so
  under that hypothesis such a node says nothing any more, and every clause on progress and on queued
  `MsgAppend`s holds from then on;
* no pending snapshot is admissible: `POk` demands `state ≠ Snapshot`.

The definitions are written out (the cluster level reads them); `rule` packs these choices, the
relations are the instances at `rule` (`PW.iff`, `PR.iff`), and the lemmas the cluster level uses are
those of `Raft.PerCall` read through that.
-/
namespace RaftModel
namespace Raft
namespace CP
open Node

/-- a `MsgSnapshot` is queued -/
def QSnap (ms : List Message) : Prop := ∃ x ∈ ms, x.msgType = .msgSnapshot

/-- a progress within a log whose last index is `li` -/
def POk (li : Nat) (pr : Progress) : Prop :=
  pr.matched ≤ li ∧ pr.nextIdx ≤ li + 1 ∧ pr.state ≠ .snapshot

/-- every progress of the tracker is within the log -/
def PAll (li : Nat) (t : ProgressTracker) : Prop := ∀ p ∈ t.progress, POk li p.2

/-- the relation on the fields it reads -/
structure PWP (a : Raft) (st : StateRole) (l : RaftLog) (t : ProgressTracker) (ro : ReadOnly)
    (b : Bool) (ms : List Message) : Prop where
  inv : l.Inv
  nb : b = false
  po : st = .leader → QSnap ms ∨ PAll l.lastIndex t
  rd : st = .leader → ∀ p ∈ ro.pendingReadIndex, p.2.index ≤ l.committed
  qa : ∀ x ∈ ms, x.msgType = .msgAppend → x ∈ a.msgs ∨ QSnap ms ∨ x.index ≤ l.lastIndex
  qr : ∀ x ∈ ms, x.msgType = .msgReadIndexResp → x ∈ a.msgs ∨ x.index ≤ l.committed
  sn : ∀ x ∈ a.msgs, x.msgType = .msgSnapshot → x ∈ ms
  /-- the first index of the log has not moved down since the start of the call … -/
  fi : a.raftLog.firstIndex ≤ l.firstIndex
  /-- … and every new `MsgAppend` is anchored at or above the snapshot point (its entries were read
  from the log: below the first index `RaftLog::entries` answers `Compacted`, and a `MsgSnapshot` is
  queued instead) -/
  qf : ∀ x ∈ ms, x.msgType = .msgAppend →
    x ∈ a.msgs ∨ QSnap ms ∨ a.raftLog.firstIndex ≤ x.index + 1

/-- **the per-call relation** -/
def PW (a r : Raft) : Prop := PWP a r.state r.raftLog r.prs r.readOnly r.batchAppend r.msgs

/-- `PW` on a leader -/
def LW (a r : Raft) : Prop := PW a r ∧ r.state = .leader

/-- the queue is poisoned, or the progress is within the log -/
def PQ (r : Raft) (pr : Progress) : Prop := QSnap r.msgs ∨ POk r.raftLog.lastIndex pr

structure LogGrow (l l' : RaftLog) : Prop where
  inv : l'.Inv
  last : l.lastIndex ≤ l'.lastIndex
  commit : l.committed ≤ l'.committed
  first : l.firstIndex ≤ l'.firstIndex

/-- what a call leaves (the relation without the bookkeeping on the log) -/
structure PR (a r : Raft) : Prop where
  po : r.state = .leader → QSnap r.msgs ∨ PAll r.raftLog.lastIndex r.prs
  rd : r.state = .leader → ∀ p ∈ r.readOnly.pendingReadIndex, p.2.index ≤ r.raftLog.committed
  qa : ∀ x ∈ r.msgs, x.msgType = .msgAppend →
    x ∈ a.msgs ∨ QSnap r.msgs ∨ x.index ≤ r.raftLog.lastIndex
  qr : ∀ x ∈ r.msgs, x.msgType = .msgReadIndexResp → x ∈ a.msgs ∨ x.index ≤ r.raftLog.committed
  sn : ∀ x ∈ a.msgs, x.msgType = .msgSnapshot → x ∈ r.msgs
  /-- every new `MsgAppend` is anchored at or above the snapshot point the log had when the call
  started (or the queue is poisoned) -/
  qf : ∀ x ∈ r.msgs, x.msgType = .msgAppend →
    x ∈ a.msgs ∨ QSnap r.msgs ∨ a.raftLog.firstIndex ≤ x.index + 1

/-! ### the instance -/

/-- a queued `MsgSnapshot` mutes the node; no pending snapshot is admissible -/
def rule : PerCall.Rule where
  mute := QSnap
  pend := fun _ _ _ => False
  mute_mono := fun ⟨x, hx, hty⟩ hs => ⟨x, hs x hx hty, hty⟩
  pend_mono := fun h _ _ => h
  old := fun ms x => x ∈ ms
  flag := fun b => b = false
  floor := RaftLog.firstIndex
  old_mem := fun hx _ => hx
  old_batch := fun hc => nomatch hc
  floor_le := fun _ => Nat.le_refl _
  queued := fun _ hx hty => .inl ⟨_, hx, hty⟩

theorem PW.iff {a r : Raft} : PW a r ↔ PerCall.PW rule a r :=
  ⟨fun h => ⟨h.inv, h.nb, h.po, h.rd, h.qa, h.qr, h.sn, h.fi, h.qf⟩,
   fun h => ⟨h.inv, h.nb, h.po, h.rd, h.qa, h.qr, h.sn, h.fi, h.qf⟩⟩

theorem PR.iff {a r : Raft} : PR a r ↔ PerCall.PR rule a r :=
  ⟨fun h => ⟨h.po, h.rd, h.qa, h.qr, h.sn, h.qf⟩, fun h => ⟨h.po, h.rd, h.qa, h.qr, h.sn, h.qf⟩⟩

/-! ### `POk`, `PAll` -/

theorem POk.new (li n : Nat) (cap : Nat) (hn : n ≤ li + 1) : POk li (Progress.new n cap) :=
  PerCall.POk.new (E := rule) [] li n cap hn

theorem PAll.get {li : Nat} {t : ProgressTracker} (h : PAll li t) {id : Nat} {pr : Progress}
    (hg : t.get id = some pr) : POk li pr :=
  PerCall.PAll.get (E := rule) (ms := []) h hg

/-- only `matched`, `next_idx` and the state matter -/
theorem POk.congr {li : Nat} {pr pr' : Progress} (h : POk li pr) (h1 : pr'.matched = pr.matched)
    (h2 : pr'.nextIdx = pr.nextIdx) (h3 : pr'.state = pr.state) : POk li pr' :=
  ⟨h1 ▸ h.1, h2 ▸ h.2.1, h3 ▸ h.2.2⟩

/-! ### `PW` -/

theorem PW.inv {a r : Raft} (h : PW a r) : r.raftLog.Inv := PWP.inv h
theorem PW.nb {a r : Raft} (h : PW a r) : r.batchAppend = false := PWP.nb h
theorem PW.po {a r : Raft} (h : PW a r) :
    r.state = .leader → QSnap r.msgs ∨ PAll r.raftLog.lastIndex r.prs := PWP.po h
theorem PW.rd {a r : Raft} (h : PW a r) :
    r.state = .leader → ∀ p ∈ r.readOnly.pendingReadIndex, p.2.index ≤ r.raftLog.committed :=
  PWP.rd h
theorem PW.qa {a r : Raft} (h : PW a r) : ∀ x ∈ r.msgs, x.msgType = .msgAppend →
    x ∈ a.msgs ∨ QSnap r.msgs ∨ x.index ≤ r.raftLog.lastIndex := PWP.qa h
theorem PW.qr {a r : Raft} (h : PW a r) : ∀ x ∈ r.msgs, x.msgType = .msgReadIndexResp →
    x ∈ a.msgs ∨ x.index ≤ r.raftLog.committed := PWP.qr h
theorem PW.sn {a r : Raft} (h : PW a r) : ∀ x ∈ a.msgs, x.msgType = .msgSnapshot → x ∈ r.msgs :=
  PWP.sn h
theorem PW.fi {a r : Raft} (h : PW a r) : a.raftLog.firstIndex ≤ r.raftLog.firstIndex := PWP.fi h
theorem PW.qf {a r : Raft} (h : PW a r) : ∀ x ∈ r.msgs, x.msgType = .msgAppend →
    x ∈ a.msgs ∨ QSnap r.msgs ∨ a.raftLog.firstIndex ≤ x.index + 1 := PWP.qf h

/-- the start of a call -/
theorem PW.start {a : Raft} (hinv : a.raftLog.Inv) (hnb : a.batchAppend = false)
    (hpo : a.state = .leader → QSnap a.msgs ∨ PAll a.raftLog.lastIndex a.prs)
    (hrd : a.state = .leader → ∀ p ∈ a.readOnly.pendingReadIndex, p.2.index ≤ a.raftLog.committed) :
    PW a a :=
  PW.iff.2 (PerCall.PW.start hinv hnb hpo hrd)

/-- leaving the leader role (or staying outside it) with log, queue and flag untouched -/
theorem PW.nonleader {a r : Raft} (h0 : PW a r) {st : StateRole} {t : ProgressTracker}
    {ro : ReadOnly} (hst : st ≠ .leader) :
    PWP a st r.raftLog t ro r.batchAppend r.msgs :=
  ⟨h0.inv, h0.nb, fun h => absurd h hst, fun h => absurd h hst, h0.qa, h0.qr, h0.sn, h0.fi, h0.qf⟩

/-- queueing a `MsgSnapshot` poisons the queue: everything holds from then on -/
theorem PW.poison {a r : Raft} (h0 : PW a r) (x : Message) (hx : x.msgType = .msgSnapshot)
    (t : ProgressTracker) : PW a { r with msgs := r.msgs ++ [x], prs := t } :=
  PW.iff.2 (((PW.iff.1 h0).push x (fun hc => by rw [hx] at hc; cases hc)
    (fun hc => by rw [hx] at hc; cases hc) (fun hc => by rw [hx] at hc; cases hc)).prs
    fun _ => .inl ⟨x, List.mem_append_right _ (List.mem_singleton.2 rfl), hx⟩)

/-! ### the leader world, the result of a call -/

theorem LW.pw {a r : Raft} (h : LW a r) : PW a r := h.1
theorem LW.lead {a r : Raft} (h : LW a r) : r.state = .leader := h.2

theorem PQ.send {r r' : Raft} {pr : Progress} {m : Message} (h : r.send m = .ok r')
    (hp : PQ r pr) : PQ r' pr :=
  PerCall.PQ.send (E := rule) h hp

theorem becomeFollower_nl (r : Raft) (t l : Nat) : (r.becomeFollower t l).state ≠ .leader :=
  PerCall.becomeFollower_nl r t l

theorem PW.pr {a r : Raft} (h : PW a r) : PR a r := ⟨h.po, h.rd, h.qa, h.qr, h.sn, h.qf⟩

theorem PR.of_same {a r r' : Raft} (h : PR a r) (hs : r'.state = r.state) (hp : r'.prs = r.prs)
    (hro : r'.readOnly = r.readOnly) (hm : r'.msgs = r.msgs)
    (hl : r.raftLog.lastIndex ≤ r'.raftLog.lastIndex)
    (hc : r.raftLog.committed ≤ r'.raftLog.committed) : PR a r' :=
  PR.iff.2 ((PR.iff.1 h).of_same hs hp hro hm hl hc)

/-! ### one call -/

/-- **one call of a node** -/
theorem call_pr (st st' : NState) (rnd : Option Nat) (op : NodeOp) (res : OpRes)
    (hinv : st.raft.raftLog.Inv) (hnb : st.raft.batchAppend = false)
    (hop : op ≠ .drain ∧ ∀ m, op ≠ .rstep m) (hc : ∀ k, op ≠ .compact k)
    (hsn : st.raft.raftLog.unstable.snapshot = none)
    (hms : ∀ m, op = .step m → m.msgType ≠ .msgSnapshot)
    (hpo : st.raft.state = .leader →
      QSnap st.raft.msgs ∨ PAll st.raft.raftLog.lastIndex st.raft.prs)
    (hrd : st.raft.state = .leader → ∀ p ∈ st.raft.readOnly.pendingReadIndex,
      p.2.index ≤ st.raft.raftLog.committed)
    (hB : ∀ m, op = .step m → st.raft.state = .leader → m.msgType = .msgAppendResponse →
      m.reject = false → (m.term = 0 ∨ m.term = st.raft.term) →
      m.index ≤ st.raft.raftLog.lastIndex)
    (h : Node.call st rnd op = .ok (res, st')) : PR st.raft st'.raft :=
  PR.iff.2 (PerCall.call_pr st st' rnd op res hinv hnb hop hc hsn hms hpo (fun _ _ hc => hc.elim)
    hrd hB h)

end CP
end Raft
end RaftModel
