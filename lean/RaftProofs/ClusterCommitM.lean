import RaftProofs.ClusterCommitE
import RaftProofs.NodeHandlers

/-!
Cluster-level commit safety, what the application's calls do to the parts of the state the per-call
relation reads: the matched table under `apply_conf`, and the cursors of the log under `maybe_persist`,
`applied_to`, `stabilize` and `persist_snap`.
-/
namespace RaftModel
namespace Raft
namespace CC
open VoteOb Node

/-! ### `apply_conf_change` -/

theorem lookup_cons_eq {α : Type} (k : Nat) (v : α) (l : List (Nat × α)) :
    ((k, v) :: l).lookup k = some v := by
  simp

theorem lookup_cons_ne {α : Type} (j k : Nat) (v : α) (l : List (Nat × α)) (h : j ≠ k) :
    ((k, v) :: l).lookup j = l.lookup j := by
  have : (j == k) = false := by simpa using h
  simp [List.lookup_cons, this]

theorem lookup_insert {α : Type} (k : Nat) (v : α) (l : List (Nat × α)) (j : Nat) (p : α)
    (h : (NatMap.insert k v l).lookup j = some p) : (j = k ∧ p = v) ∨ l.lookup j = some p := by
  induction l with
  | nil =>
    simp only [NatMap.insert] at h
    by_cases hj : j = k
    · subst hj; rw [lookup_cons_eq] at h; injection h with h; exact .inl ⟨rfl, h.symm⟩
    · rw [lookup_cons_ne _ _ _ _ hj] at h; cases h
  | cons x rest ih =>
    obtain ⟨k', v'⟩ := x
    simp only [NatMap.insert] at h
    by_cases hj : j = k
    · subst hj
      split at h
      · rw [lookup_cons_eq] at h; injection h with h; exact .inl ⟨rfl, h.symm⟩
      · split at h
        · rw [lookup_cons_eq] at h; injection h with h; exact .inl ⟨rfl, h.symm⟩
        · rename_i h1 h2
          rw [lookup_cons_ne _ _ _ _ (fun hc => h2 hc)] at h
          rcases ih h with g | g
          · exact .inl g
          · right; rw [lookup_cons_ne _ _ _ _ (fun hc => h2 hc)]; exact g
    · right
      split at h
      · rw [lookup_cons_ne _ _ _ _ hj] at h; exact h
      · split at h
        · rename_i hk
          subst hk
          rw [lookup_cons_ne _ _ _ _ hj] at h
          rw [lookup_cons_ne _ _ _ _ hj]; exact h
        · by_cases hj' : j = k'
          · subst hj'
            rw [lookup_cons_eq] at h ⊢; exact h
          · rw [lookup_cons_ne _ _ _ _ hj'] at h ⊢
            rcases ih h with ⟨g, _⟩ | g
            · exact absurd g hj
            · exact g

theorem lookup_erase {α : Type} (k : Nat) (l : List (Nat × α)) (j : Nat) (p : α)
    (h : (NatMap.erase k l).lookup j = some p) : l.lookup j = some p := by
  induction l with
  | nil => cases h
  | cons x rest ih =>
    obtain ⟨k', v'⟩ := x
    unfold NatMap.erase at h ih
    by_cases hk : k' = k
    · subst hk
      have hf : List.filter (fun p => p.1 != k') ((k', v') :: rest) =
          List.filter (fun p => p.1 != k') rest := by
        simp
      rw [hf] at h
      by_cases hj : j = k'
      · subst hj
        have hnone : ∀ l : List (Nat × α), (l.filter (fun p => p.1 != j)).lookup j = none := by
          intro l
          induction l with
          | nil => rfl
          | cons y r ih2 =>
            obtain ⟨ky, vy⟩ := y
            by_cases hy : ky = j
            · subst hy; simpa [List.filter_cons] using ih2
            · have : ((ky, vy).1 != j) = true := by simpa using hy
              rw [List.filter_cons, if_pos this, lookup_cons_ne _ _ _ _ (fun hc => hy hc.symm)]
              exact ih2
        rw [hnone] at h; cases h
      · rw [lookup_cons_ne _ _ _ _ hj]; exact ih h
    · have hf : List.filter (fun p => p.1 != k) ((k', v') :: rest) =
          (k', v') :: List.filter (fun p => p.1 != k) rest := by
        have : ((k', v').1 != k) = true := by simpa using hk
        rw [List.filter_cons, if_pos this]
      rw [hf] at h
      by_cases hj : j = k'
      · subst hj; rw [lookup_cons_eq] at h ⊢; exact h
      · rw [lookup_cons_ne _ _ _ _ hj] at h ⊢; exact ih h

theorem foldl_lookup {α β : Type} (f : List (Nat × α) → β → List (Nat × α)) (P : α → Prop) (j : Nat)
    (hf : ∀ m c p, (f m c).lookup j = some p → P p ∨ m.lookup j = some p) :
    ∀ (cs : List β) (l : List (Nat × α)) (p : α), (cs.foldl f l).lookup j = some p →
      P p ∨ l.lookup j = some p := by
  intro cs
  induction cs with
  | nil => intro l p hl; exact .inr hl
  | cons c rest ih =>
    intro l p hl
    simp only [List.foldl_cons] at hl
    rcases ih _ p hl with g | g
    · exact .inl g
    · exact hf _ _ _ g

theorem applyConf_mfun (t : ProgressTracker) (conf : Configuration) (changes : MapChange)
    (nextIdx : Nat) (j x : Nat) (h : mfun (t.applyConf conf changes nextIdx) j = some x) :
    x = 0 ∨ mfun t j = some x := by
  unfold mfun ProgressTracker.get at *
  cases hl : (t.applyConf conf changes nextIdx).progress.lookup j with
  | none => rw [hl] at h; cases h
  | some pr =>
    rw [hl] at h
    injection h with h
    have : pr.matched = 0 ∨ t.progress.lookup j = some pr := by
      unfold ProgressTracker.applyConf at hl
      refine foldl_lookup _ (fun p : Progress => p.matched = 0) j (fun m c p hh => ?_) _ _ _ hl
      split at hh
      · rcases lookup_insert _ _ _ _ _ hh with ⟨_, g2⟩ | g2
        · left; rw [g2]; rfl
        · exact .inr g2
      · exact .inr (lookup_erase _ _ _ _ hh)
    rcases this with g | g
    · left; rw [← h]; exact g
    · right; rw [g]; simp [h]

/-! ### the cursors of the log -/

theorem maybePersist_shape {l l' : RaftLog} {i t : Nat} {b : Bool}
    (h : l.maybePersist i t = .ok (l', b)) :
    (b = true ∧ l' = { l with persisted := i } ∧ l.persisted < i) ∨ (b = false ∧ l' = l) :=
  RaftLog.maybePersist_inv h

theorem appliedTo_shape {l l' : RaftLog} {i : Nat} (h : l.appliedTo i = .ok l') :
    l' = l ∨ l' = { l with applied := i } :=
  (RaftLog.appliedTo_inv h).imp (·.2) (·.2.2)

theorem stableEntries_cursors {l l' : RaftLog} {i t : Nat} (h : l.stableEntries i t = .ok l') :
    l'.committed = l.committed ∧ l'.persisted = l.persisted ∧ l'.store = l.store := by
  obtain ⟨u, _, rfl⟩ := RaftLog.stableEntries_inv h
  exact ⟨rfl, rfl, rfl⟩

theorem stabilise_cursors {l l' : RaftLog} (h : l.stabilise = .ok l') :
    l'.committed = l.committed ∧ l'.persisted = l.persisted := by
  unfold RaftLog.stabilise at h
  split at h
  · cases h; exact ⟨rfl, rfl⟩
  · split at h
    · obtain ⟨e1, e2, _⟩ := stableEntries_cursors h
      exact ⟨e1, e2⟩
    · cases h
    · cases h

/-- what `stabilize` leaves of the `Raft` state: everything but the log's representation -/
theorem stabilize_shape {st st' : NState} {res : OpRes} (h : Node.stabilize st = .ok (res, st')) :
    ∃ L, st'.raft = { st.raft with raftLog := L } ∧ L.committed = st.raft.raftLog.committed ∧
      L.persisted = st.raft.raftLog.persisted := by
  unfold Node.stabilize at h
  simp only [] at h
  split at h
  · rename_i l hl0
    have hl : st.raft.raftLog.stabilise = .ok l := hl0
    cases h
    obtain ⟨e1, e2⟩ := stabilise_cursors hl
    exact ⟨_, rfl, e1, e2⟩
  · cases h
  · cases h

theorem stableSnap_cursors {l l' : RaftLog} {i : Nat} (h : l.stableSnap i = .ok l') :
    l'.committed = l.committed ∧ l'.persisted = l.persisted := by
  obtain ⟨u, _, rfl⟩ := RaftLog.stableSnap_inv h
  exact ⟨rfl, rfl⟩

theorem maybePersistSnap_cursors {l l' : RaftLog} {i : Nat} {b : Bool}
    (h : l.maybePersistSnap i = .ok (l', b)) :
    l'.committed = l.committed ∧ l.persisted ≤ l'.persisted := by
  rcases RaftLog.maybePersistSnap_inv h with ⟨_, hlt, _, _, rfl⟩ | ⟨_, rfl⟩
  · exact ⟨rfl, Nat.le_of_lt hlt⟩
  · exact ⟨rfl, Nat.le_refl _⟩

theorem persistSnap_shape {st st' : NState} {res : OpRes} (h : Node.persistSnap st = .ok (res, st')) :
    ∃ L, st'.raft = { st.raft with raftLog := L } ∧ L.committed = st.raft.raftLog.committed ∧
      st.raft.raftLog.persisted ≤ L.persisted := by
  unfold Node.persistSnap at h
  simp only [] at h
  split at h
  · cases h; exact ⟨_, rfl, rfl, Nat.le_refl _⟩
  · split at h
    · cases h; exact ⟨_, rfl, rfl, Nat.le_refl _⟩
    · cases h
    · rename_i store _
      split at h
      · cases h
      · cases h
      · rename_i l hl
        obtain ⟨e1, e2⟩ := stableSnap_cursors hl
        split at h
        · rename_i raft hr
          cases h
          unfold Raft.onPersistSnap at hr
          split at hr
          · rename_i log b hm
            cases hr
            obtain ⟨e3, e4⟩ := maybePersistSnap_cursors hm
            exact ⟨_, rfl, e3.trans e1, by rw [← e2] at *; exact e4⟩
          · cases hr
          · cases hr
        · cases h
        · cases h

end CC
end Raft
end RaftModel
