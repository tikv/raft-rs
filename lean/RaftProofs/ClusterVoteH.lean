import RaftProofs.ClusterVoteG

/-!
Cluster-level election safety, part H: the invariant `Inv2 cfg` under a fixed voter configuration
(a non-follower is a voter; the recorded grants of a candidate and the quorum behind a leader are
backed by granted responses in the transport) — a local invariant (`N2 cfg net i st` for one node,
`Moved.local_inv`) —, initial states, and histories.
-/
namespace RaftModel
namespace Cluster
open Node Raft.CV

structure Inv2 (cfg : JointConfig) (s : Sys) : Prop where
  prom : ∀ i st, s.node i = some st → st.raft.promotable = Joint.contains cfg i
  nonfol : ∀ i st, s.node i = some st → st.raft.state ≠ .follower → Joint.contains cfg i = true
  cand : ∀ i st, s.node i = some st → st.raft.state = .candidate →
    ∀ j, (j, true) ∈ st.raft.prs.votes → j = i ∨ Grant s.net j i st.raft.term
  lead : ∀ i st, s.node i = some st → st.raft.state = .leader →
    ∃ Q, IsJointQuorum cfg Q ∧ ∀ j ∈ Q, j = i ∨ Grant s.net j i st.raft.term

/-- `Inv2 cfg` for one node -/
structure N2 (cfg : JointConfig) (net : List Message) (i : Nat) (st : NState) : Prop where
  prom : st.raft.promotable = Joint.contains cfg i
  nonfol : st.raft.state ≠ .follower → Joint.contains cfg i = true
  cand : st.raft.state = .candidate →
    ∀ j, (j, true) ∈ st.raft.prs.votes → j = i ∨ Grant net j i st.raft.term
  lead : st.raft.state = .leader →
    ∃ Q, IsJointQuorum cfg Q ∧ ∀ j ∈ Q, j = i ∨ Grant net j i st.raft.term

theorem inv2_iff {cfg : JointConfig} {s : Sys} :
    Inv2 cfg s ↔ ∀ i st, s.node i = some st → N2 cfg s.net i st :=
  ⟨fun h i st hn => ⟨h.prom i st hn, h.nonfol i st hn, h.cand i st hn, h.lead i st hn⟩,
   fun h => ⟨fun i st hn => (h i st hn).prom, fun i st hn => (h i st hn).nonfol,
     fun i st hn => (h i st hn).cand, fun i st hn => (h i st hn).lead⟩⟩

theorem N2.mono {cfg : JointConfig} {net net' : List Message} {i : Nat} {st : NState}
    (hsub : ∀ x ∈ net, x ∈ net') (h : N2 cfg net i st) : N2 cfg net' i st :=
  ⟨h.prom, h.nonfol, fun hc j hj => (h.cand hc j hj).imp (fun g => g) (·.mono hsub),
   fun hl => (h.lead hl).imp fun _ q => ⟨q.1, fun j hj => (q.2 j hj).imp (fun g => g) (·.mono hsub)⟩⟩

/-- **`Inv2 cfg` is preserved by every step between states of configuration `cfg`** -/
theorem Inv2.step {cfg : JointConfig} {s s' : Sys} (hinv1 : Inv1 s) (hinv : Inv2 cfg s)
    (hstep : Step s s') (hf' : FixedCfg cfg s') : Inv2 cfg s' := by
  obtain ⟨k, st, st', M⟩ := hstep.moved
  have hcfg : st'.raft.prs.voters = cfg := hf' k st' M.hk'
  refine inv2_iff.2 (M.local_inv (N := N2 cfg) (N' := N2 cfg) (T := fun _ => True)
    (T' := fun _ => True) N2.mono (fun h => h) (fun h => h) (fun _ _ _ _ => trivial)
    (fun h => ⟨h.prom, h.nonfol, h.cand, h.lead⟩) (inv2_iff.1 hinv) (fun _ _ => trivial)
    ?_ ?_).1
  · -- a call or a delivery
    intro rnd op res _ hop _ hcall
    obtain ⟨hid, _⟩ := hinv1.ids k st M.hk
    have h0 := inv2_iff.1 hinv k st M.hk
    have hns := call_nstep st st' rnd op res hcall
    have hm : ∀ t j, MBack (opMsg op) t j → Grant s.net j k t := by
      intro t j hb
      rcases hop with hop | ⟨m, rfl, hm, hto⟩
      · have hloc : (opMsg op).msgType = .msgHup := by cases op <;> first | rfl | cases hop
        have hb1 := hb.1
        rw [hloc] at hb1; cases hb1
      · obtain ⟨b1, b2, b3, b4⟩ := hb
        have b1' : m.msgType = .msgRequestVoteResponse := b1
        have b2' : m.reject = false := b2
        obtain ⟨_, _, hok, _⟩ := hinv1.net m hm (by unfold isRVm; simp [b1', b2'])
        exact ⟨m, hm, b1', b2', b3, hto, b4.resolve_right hok.2.1⟩
    have hprom' : st'.raft.promotable = Joint.contains cfg k := by
      rcases hns.pk with g | g
      · rw [g]; exact h0.prom
      · rw [g, hcfg, hns.id, hid]
    have back : ∀ j, Backed st.raft (opMsg op) st'.raft.term j →
        j = k ∨ Grant s.net j k st'.raft.term := by
      rintro j (g | g | ⟨g1, g2, g3⟩)
      · exact .inl (g.trans hid)
      · exact .inr (hm _ j g)
      · rw [← g2]; exact h0.cand g1 j g3
    refine ⟨hprom', fun hne => ?_, fun hc j hj => back j (hns.cand hc j hj), fun hl => ?_⟩
    · rcases hns.nf hne with g | g
      · exact h0.nonfol g
      · rw [← hprom']; exact g
    · rcases hns.lead hl with ⟨g1, g2⟩ | ⟨Q, q1, q2⟩
      · rw [← g2]; exact h0.lead g1
      · exact ⟨Q, by rw [← hcfg]; exact q1, fun j hj => back j (q2 j hj)⟩
  · -- a restart
    intro c rnd _ hci hb _
    have hbt := boot_booted c _ rnd st' hb
    exact ⟨by rw [hbt.prom, hcfg, hbt.id, hci], fun hne => absurd hbt.state hne,
      fun hc => (by rw [hbt.state] at hc; cases hc), fun hl => (by rw [hbt.state] at hl; cases hl)⟩

/-! ### initial states -/

theorem Inv1.init {s : Sys} (h : Init s) : Inv1 s := by
  obtain ⟨hnet, hboot⟩ := h
  refine ⟨?_, ?_, ?_, ?_⟩
  · intro i st hn
    obtain ⟨c, store, rnd, hc, hb⟩ := hboot i st hn
    have hbt := boot_booted c store rnd st hb
    exact ⟨hbt.id.trans hc, by rw [← hc]; exact hbt.idnz⟩
  · intro i st hn x hx
    obtain ⟨c, store, rnd, hc, hb⟩ := hboot i st hn
    have hbt := boot_booted c store rnd st hb
    rw [hbt.msgs] at hx; cases hx
  · intro x hx
    rw [hnet] at hx; cases hx
  · intro i st hn x y hx
    obtain ⟨c, store, rnd, hc, hb⟩ := hboot i st hn
    have hbt := boot_booted c store rnd st hb
    rw [hnet, hbt.msgs] at hx
    rcases hx with g | g <;> cases g

theorem Inv2.init {cfg : JointConfig} {s : Sys} (h : Init s) (hf : FixedCfg cfg s) : Inv2 cfg s := by
  obtain ⟨hnet, hboot⟩ := h
  refine ⟨?_, ?_, ?_, ?_⟩
  · intro i st hn
    obtain ⟨c, store, rnd, hc, hb⟩ := hboot i st hn
    have hbt := boot_booted c store rnd st hb
    rw [hbt.prom, hf i st hn, hbt.id, hc]
  · intro i st hn hne
    obtain ⟨c, store, rnd, hc, hb⟩ := hboot i st hn
    exact absurd (boot_booted c store rnd st hb).state hne
  · intro i st hn hc'
    obtain ⟨c, store, rnd, hc, hb⟩ := hboot i st hn
    rw [(boot_booted c store rnd st hb).state] at hc'; cases hc'
  · intro i st hn hl
    obtain ⟨c, store, rnd, hc, hb⟩ := hboot i st hn
    rw [(boot_booted c store rnd st hb).state] at hl; cases hl

/-! ### histories -/

/-- reflexive-transitive closure of `Step` -/
inductive Steps : Sys → Sys → Prop where
  | refl (s : Sys) : Steps s s
  | tail (a b c : Sys) : Steps a b → Step b c → Steps a c

theorem step_net {s s' : Sys} (h : Step s s') : ∀ x ∈ s.net, x ∈ s'.net := by
  cases h with
  | call => intro x hx; exact hx
  | deliver => intro x hx; exact hx
  | send => intro x hx; exact List.mem_append_left _ hx
  | restart => intro x hx; exact hx

theorem steps_net {s s' : Sys} (h : Steps s s') : ∀ x ∈ s.net, x ∈ s'.net := by
  induction h with
  | refl => intro x hx; exact hx
  | tail b c _ hs ih => intro x hx; exact step_net hs x (ih x hx)

theorem step_node_some {s s' : Sys} (h : Step s s') (i : Nat) (st : NState)
    (hn : s.node i = some st) : ∃ st', s'.node i = some st' := by
  have key : ∀ (k : Nat) (stk : NState), ∃ st', (s.setNode k stk).node i = some st' := by
    intro k stk
    rw [node_setNode]
    split
    · exact ⟨_, rfl⟩
    · exact ⟨st, hn⟩
  cases h with
  | call k => exact key k _
  | deliver k => exact key k _
  | send k => exact key k _
  | restart k => exact key k _

/-- everything the proofs need about a history -/
theorem hist_all {l : List Sys} (hh : History l) :
    (∀ s ∈ l, Inv1 s) ∧
    (∀ cfg, (∀ s ∈ l, FixedCfg cfg s) → ∀ s ∈ l, Inv2 cfg s) ∧
    (∀ (i j : Nat) (s s' : Sys), i ≤ j → l[i]? = some s → l[j]? = some s' → Steps s s') := by
  have h1 : ∀ n s, l[n]? = some s → Inv1 s :=
    hist_induct l (fun _ s => Inv1 s) (fun s h0 => Inv1.init (hist_init hh s h0))
      fun n a b ha hb ia => ia.step (hist_step_at hh n a b ha hb)
  refine ⟨fun s hs => (List.mem_iff_getElem?.1 hs).elim fun n hn => h1 n s hn, fun cfg hf s hs => ?_,
    fun i j s s' hij hi hj => ?_⟩
  · obtain ⟨n, hn⟩ := List.mem_iff_getElem?.1 hs
    exact hist_induct l (fun _ s => Inv2 cfg s)
      (fun s h0 => Inv2.init (hist_init hh s h0) (hf s (mem_of_get h0)))
      (fun n a b ha hb ia => ia.step (h1 n a ha) (hist_step_at hh n a b ha hb) (hf b (mem_of_get hb)))
      n s hn
  · obtain ⟨d, rfl⟩ : ∃ d, j = i + d := ⟨j - i, by omega⟩
    clear hij
    induction d generalizing s' with
    | zero => rw [Nat.add_zero, hi] at hj; cases hj; exact .refl _
    | succ d ih =>
      obtain ⟨b, hb⟩ := get_of_get_later (n := i + d) (d := 1) hj
      exact .tail _ _ _ (ih b hb) (hist_step_at hh (i + d) b s' hb hj)

end Cluster
end RaftModel
