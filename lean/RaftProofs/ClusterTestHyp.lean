import RaftProofs.ClusterCommit3H

/-!
What the test histories of the ClusterSem layers share: chains of steps put together
(`chained_append_last`, `history_of_chained`), and the bundle `Hyp3` of a test history over `c02x_cfg` that
starts in `c02x_s0`, from what is tested state by state (`c01x_chk`): for the histories that continue the
one of `C01_cluster_nonvacuous` (`ClusterFlowX`, `ClusterReadN`, `ClusterReadO`).
-/
namespace RaftModel
namespace Cluster
open RaftProps.C02 RaftProps.C05

/-! ### chains of steps put together -/

theorem chained_append {R : Sys → Sys → Prop} : ∀ (l : List Sys) (s : Sys) (t : List Sys),
    Chained R (l ++ [s]) → Chained R (s :: t) → Chained R (l ++ s :: t) := by
  intro l
  induction l with
  | nil => intro s t _ h2; exact h2
  | cons x l ih =>
    intro s t h1 h2
    cases l with
    | nil => exact ⟨h1.1, h2⟩
    | cons y l' => exact ⟨h1.1, ih s t h1.2 h2⟩

/-- `chained_append` for a chain named as a whole: its last state is read off by evaluation -/
theorem chained_append_last {R : Sys → Sys → Prop} {l : List Sys} {s : Sys} {t : List Sys}
    (hl : l.getLast? = some s) (h1 : Chained R l) (h2 : Chained R (s :: t)) : Chained R (l ++ t) := by
  obtain ⟨l', rfl⟩ := List.getLast?_eq_some_iff.1 hl
  rw [List.append_assoc]
  exact chained_append l' s t h1 h2

/-- an initial stretch of a chain is a chain -/
theorem chained_prefix {R : Sys → Sys → Prop} : ∀ (l t : List Sys), Chained R (l ++ t) → Chained R l := by
  intro l
  induction l with
  | nil => intro _ _; trivial
  | cons x l ih =>
    intro t h
    cases l with
    | nil => trivial
    | cons y l' => exact ⟨h.1, ih t h.2⟩

/-- a chain of steps from the initial state of the test histories is a history -/
theorem history_of_chained {R : Sys → Sys → Prop} (hR : ∀ a b, R a b → Step a b) (t : List Sys)
    (h : Chained R (c02x_s0 :: t)) : History (c02x_s0 :: t) :=
  chained_history [] c02x_s0 (History.init _ c02x_init) t (Chained.mono hR _ h)

/-! ### the bundle from the checks -/

theorem c01x_hyp3_of {h : List Sys} (hh : History h) (hk : Chained KStep h)
    (h0 : h[0]? = some c02x_s0) (hchk : ∀ s ∈ h, c01x_chk s = true) : Hyp3 c02x_cfg 0 h :=
  have hall := fun s hs => c01x_chk_ok s (hchk s hs)
  have W := c01x_hyp3w_of hh hk h0 (fun s hs => (hall s hs).1)
    (fun s hs => (hall s hs).2.1) (fun s hs x hx => ((hall s hs).2.2.1 x hx).1)
    (fun s hs => (hall s hs).2.2.2)
  ⟨⟨W.toHyp2w, fun s hs x hx => ((hall s hs).2.2.1 x hx).2.1⟩,
    fun s hs x hx => ((hall s hs).2.2.1 x hx).2.2, W.snapt0⟩

end Cluster
end RaftModel
