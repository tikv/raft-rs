import RaftProofs.ClusterRead2A
import RaftProofs.ClusterReadK
import RaftProofs.ClusterSnap6D
import RaftProofs.ClusterReadLocal

/-!
Cluster-level ReadIndex safety **with compaction, snapshots and `request_snapshot`** (C08d).

The commit index of one node over a step that is not its restart (`step_commit_le`: calls,
**compaction, the delivery of a `MsgSnapshot`, the installation of a pending snapshot** included), over
a stretch without restart (`commit_mono`), and **the read index recorded at registration covers every
earlier commit of a term not above the leader's** (`idx_ok_reg`) — from the snapshot layer: Election
Safety and `commit_mono` for the leader's own term; Leader Completeness over the ghost (uncompacted) logs
(`Snap5.Sm.lc`), the agreement of ghost logs (`Snap5.eq_ll`), the ghost entry at a compacted / restored
snapshot point (`Full.sT`) and `Snap5.term_le` for earlier terms.

The hypotheses `RdHypS` (those of the snapshot layer, `Snap5.Hyp3r`, plus the read-specific fields of
`RdHyp`), and the read layer for them: the histories of the snapshot layer provide `R4.ReadFacts`
(`ReadFacts.of_snap5`: the delivery of a `MsgSnapshot` is an ordinary step of the read path, by
`snapStep_rd`; `idx_ok_reg`; every commit index is covered by a commit event of a leader,
`Snap5.Sm.nctm`), hence `RdHypS` gives `R4.RdBase` and the theorems of `ClusterReadLocal` apply.
-/
namespace RaftModel
namespace Cluster
namespace Snap5
namespace Rd
open Node Raft Raft.CC Raft.RD RaftProps.C02 Snap

variable {cfg : JointConfig} {c0 : Nat} {h : List Sys}

/-- **the commit index of a node does not decrease over a step that is not a restart of the node** -/
theorem step_commit_le (H : Hyp2w cfg c0 h) {n : Nat} {a b : Sys} (ha : h[n]? = some a)
    (hb : h[n + 1]? = some b) {v : Nat} {st st' : NState} (hv : a.node v = some st)
    (hv' : b.node v = some st') (hnr : ¬ IsRestart v a b) :
    st.raft.raftLog.committed ≤ st'.raft.raftLog.committed := by
  obtain ⟨k, sk, sk', M⟩ := (H.steps n a b ha hb).moved
  refine (M.rel_or_restart (R := fun x y => x.raft.raftLog.committed ≤ y.raft.raftLog.committed)
    hv hv' (Nat.le_refl _) (Nat.le_refl _) ?_).resolve_right hnr
  intro rnd op res _ hop ⟨q3, _, q, qs⟩ q4
  have o := node_ok H.g ha M.hk
  by_cases hsn : ∃ m, op = .step m ∧ m.msgType = .msgSnapshot
  · obtain ⟨m, rfl, hsn⟩ := hsn
    cases snap_call hsn o.req q4 with
    | skip hr => rw [hr]; exact Nat.le_refl _
    | handled x hs ht hle hid hq hack hto hfrm hxt hsto hcase hprs =>
      cases hcase with
      | kept hu hp hc hx => exact Nat.le_of_eq hc.symm
      | ffwd hu hp hle hc hm hl hx => rw [hc]; exact hle
      | restored hle hm hu hc hp hx => rw [hc]; exact hle
  · by_cases hpend : sk.raft.raftLog.unstable.snapshot = none
    · exact call_commit_le o.inv (not_drain_of_hop hop) q3 hpend q4
    · rcases hop with hop | ⟨m, rfl, _⟩
      · have e := (q hop).2.2.1 hpend
        subst e
        cases persist_out o.inv q4 with
        | noop hr => rw [hr]; exact Nat.le_refl _
        | done sn L hpd hr hinv habs hc hp hus hue hents hmeta hhs =>
          rw [hr]; exact Nat.le_of_eq hc.symm
      · exact absurd (qs m rfl).1 hpend

/-! ### the commit index of one node over a stretch without restart -/

theorem commit_mono (H : Hyp2w cfg c0 h) (v : Nat) : ∀ (d n : Nat) (s s' : Sys) (st st' : NState),
    h[n]? = some s → h[n + d]? = some s' →
    (∀ m a b, n ≤ m → m < n + d → h[m]? = some a → h[m + 1]? = some b → ¬ IsRestart v a b) →
    s.node v = some st → s'.node v = some st' →
    st.raft.raftLog.committed ≤ st'.raft.raftLog.committed :=
  hist_stretch (hist_step_at H.hist) v (R := fun x y => x.raft.raftLog.committed ≤ y.raft.raftLog.committed)
    (fun _ => Nat.le_refl _) Nat.le_trans fun _ _ _ _ _ ha hb hva hvb hnr =>
      step_commit_le H ha hb hva hvb hnr

/-! ### the read index recorded at registration -/

/-- **a leader that has committed an entry of its own term has a commit index that covers every
earlier commit event of its own and of all earlier terms** — with compaction and snapshots (its own:
the commit index of a leader only grows; earlier terms: Leader Completeness over the ghost logs — the
committed entry of an earlier term cannot lie behind an entry of the leader's term, also when the
entry at the commit index is only known as the term of a snapshot point) -/
theorem idx_ok_reg (H : Hyp3a cfg c0 h) {n0 : Nat} {a : Sys} (ha : h[n0]? = some a) {v : Nat}
    {st : NState} (hv : a.node v = some st) (hl : st.raft.state = .leader)
    (hc : st.raft.commitToCurrentTerm = .ok true) :
    IdxOK h c0 n0 st.raft.term st.raft.raftLog.committed := by
  have H2 := H.toHyp2w
  have o := node_ok H2.g ha hv
  have I := (ghost_inv H2.g n0 a ha).node v st hv
  obtain ⟨s0, h0, hall⟩ := H2.g.inv_at
  have htz : st.raft.term ≠ 0 := (hall a (mem_of_get ha)).tz v st hv (.inr hl)
  have hterm : st.raft.raftLog.term st.raft.raftLog.committed = .ok st.raft.term := by
    unfold commitToCurrentTerm at hc
    split at hc
    · rename_i t ht
      injection hc with hc
      have : t = st.raft.term := by simpa using hc
      rw [ht, this]
    · cases hc
    · cases hc
  refine ⟨c0_le_committed H2.g.facts ha hv, fun E hE hlt hle => ?_⟩
  obtain ⟨a', b', sta, stb, ea, eb, hla, hlb, hs, ht, hcE, hg, hev, _⟩ := Ev.facts H2.g hE
  by_cases heq : E.t = st.raft.term
  · -- the leader's own earlier commit
    have hll : E.l = v :=
      C02_cluster_election_safety cfg H2.ne H2.nd1 H2.nd2 h H2.hist H2.fix b' a (mem_of_get eb)
        (mem_of_get ha) E.l v E.t ⟨stb, hlb, hs, ht⟩ ⟨st, hv, hl, heq.symm⟩
    rw [hll] at hlb
    obtain ⟨d, hd⟩ : ∃ d, n0 = E.nE + 1 + d := ⟨n0 - (E.nE + 1), by omega⟩
    have ha' : h[E.nE + 1 + d]? = some a := by rw [← hd]; exact ha
    have hnr := no_restart_between H2.g eb ha' ⟨stb, hlb, hs, ht⟩ ⟨st, hv, hl, heq.symm⟩
    have := commit_mono H2 v d (E.nE + 1) b' a stb st eb ha' hnr hlb hv
    rw [hcE]; exact this
  · have hlt2 : E.t < st.raft.term := by omega
    apply Classical.byContradiction
    intro hgt
    have hgt : st.raft.raftLog.committed < E.c := by omega
    have hhas : Has (FL h c0 st) E.c E.t := (sm_all H.g.facts ha).lc E hE v st hv hl hlt2
    obtain ⟨hEl, hEh, _⟩ := Ev.leaderLog H2 hE
    have hequ := eq_ll H2.g.facts ha hv hEl hhas hEh
    -- the ghost log holds an entry of the leader's term at the commit index
    have hent : ∃ e, (FL h c0 st).entryAt st.raft.raftLog.committed = some e ∧
        e.term = st.raft.term := by
      rw [o.inv.term_abs] at hterm
      unfold LLog.term at hterm
      split at hterm
      · injection hterm with hterm; exact absurd hterm.symm htz
      · split at hterm
        · rename_i hidx
          split at hterm
          · rename_i t0 hst
            injection hterm with hterm
            rw [hterm] at hst
            by_cases hp : st.raft.raftLog.abs.snapIdx = c0
            · exfalso
              obtain ⟨st0, hv0⟩ := node_back_steps
                ((hist_all H2.hist).2.2 0 n0 s0 a (Nat.zero_le _) h0 ha) v st hv
              have h1 := H.g.snapt a (mem_of_get ha) v st hv hp _ hst s0 h0 v st0 hv0
              have h2 := lead_above_init H2.g h0 hv0 ha ⟨st, hv, hl, rfl⟩
              omega
            · have hp' : c0 < st.raft.raftLog.abs.snapIdx := by
                have := I.log.le; omega
              obtain ⟨e, he, het⟩ := I.log.sT _ hst hp'
              exact ⟨e, by rw [hidx]; exact he, het⟩
          · cases hterm
        · split at hterm
          · rename_i e he
            injection hterm with hterm
            exact ⟨e, I.log.entry he, hterm⟩
          · injection hterm with hterm; exact absurd hterm.symm htz
    obtain ⟨e, he, het⟩ := hent
    have he' : (EvF h c0 E).entryAt st.raft.raftLog.committed = some e := by
      rw [← hequ _ (by omega)]; exact he
    have hmem := (EvF h c0 E).entryAt_mem he'
    rw [hev] at hmem
    have := (term_le H.g (E.nE + 1) b' eb).log E.l stb hlb e hmem
    omega

/-- **the hypotheses of the read layer on top of the snapshot layer**: `Snap5.Hyp3r` (compaction,
snapshots between nodes, `request_snapshot`; `RaftProofs/ClusterSnap6D.lean`) and the read-specific
fields of `RdHyp` (`RaftProofs/ClusterReadK.lean`) -/
structure RdHypS (cfg : JointConfig) (c0 : Nat) (h : List Sys) : Prop extends Hyp3r cfg c0 h where
  norir : ∀ s ∈ h, ∀ x ∈ s.net, x.msgType ≠ .msgReadIndexResp
  safe : ∀ s ∈ h, ∀ i st, s.node i = some st → st.raft.readOnly.option = .safe
  nori : ∀ s ∈ h, ∀ x ∈ s.net, x.msgType ≠ .msgReadIndex
  uniq : ∀ n1 n2 i1 i2 K, RegAt h n1 i1 K → RegAt h n2 i2 K → n1 = n2
  nonempty : ∀ n i K, RegAt h n i K → K ≠ []

theorem RdHypS.toHyp3w (H : RdHypS cfg c0 h) : Hyp3w cfg c0 h := H.toHyp3r.toHyp3w

theorem _root_.RaftModel.Cluster.R4.ReadFacts.of_snap5 (H : Hyp3w cfg c0 h) : R4.ReadFacts cfg c0 h := by
  have H2 := H.toHyp2w
  have H3 := Hyp3w.toHyp3a H
  refine ⟨H2.hist, H2.fix, H2.ne, H2.nolone, fun s hs k τ hl => leader_floor H2.g hs hl, ?_,
    fun _ _ _ _ ha hv hl hc => idx_ok_reg H3 ha hv hl hc, ?_⟩
  · intro n a b ha hb
    obtain ⟨k, st, st', M⟩ := (H2.steps n a b ha hb).moved
    exact .of_moved M (H2.fix a (mem_of_get ha)) (H2.fix b (mem_of_get hb))
      fun m rnd res _ hs hc => R4.snapStep_rd st st' rnd m res hs hc
  · intro n0 s0 t r hn0 hidx hno u stu hu
    rcases (sm_all H3.g.facts hn0).nctm u stu hu with c | ⟨E, hE, e1, e2, _, _⟩
    · exact Nat.le_trans c hidx.1
    · obtain ⟨_, b', _, stb, _, eb, _, hlb, hs, ht, _⟩ := Ev.facts H2.g hE
      have := hno (E.nE + 1) b' E.l E.t eb (by omega) ⟨stb, hlb, hs, ht⟩
      exact Nat.le_trans e2 (hidx.2 E hE e1 this)

theorem RdHypS.toBase (H : RdHypS cfg c0 h) : R4.RdBase cfg c0 h :=
  .of_local (.of_snap5 H.toHyp3w) H.safe H.nori H.uniq H.nonempty

theorem late_ctx (H : RdHypS cfg c0 h) {n0 i0 : Nat} {ctx : Bytes} (hreg : RegAt h n0 i0 ctx) :
    Late h n0 ctx :=
  ⟨H.nonempty n0 i0 ctx hreg, fun _ _ hr =>
    Nat.le_of_eq (H.toBase.uniq_node (.inl hr) (.inl hreg)).1.symm⟩

/-- **whoever has such a quorum behind it is not superseded**: a term led at or before `h[n0]` is not
above the term of a node that, later, has a joint quorum of backers -/
theorem quorum_no_higher (H : RdHypS cfg c0 h) {n0 n : Nat} {s0 a : Sys} (hn0 : h[n0]? = some s0)
    (ha : h[n]? = some a) (hle : n0 ≤ n) {v : Nat} {st : NState} (hva : a.node v = some st)
    {Q : List Nat} (hQ : IsJointQuorum cfg Q)
    (hQb : ∀ u ∈ Q, Backer h n0 a.net v st.raft.term u)
    {n1 : Nat} {s1 : Sys} (hn1 : h[n1]? = some s1) (hle1 : n1 ≤ n0) {l' t' : Nat}
    (hl' : leads s1 l' t') : t' ≤ st.raft.term :=
  R4.no_higher H.toBase.toReadFacts H.safe hn0 ha hle hva hQ
    (fun u hu => (hQb u hu).imp id fun ⟨y, y1, y2, y3, y4, y5⟩ => ⟨y, y1, y2, y3, y4.r4 H.nori, y5⟩)
    hn1 hle1 hl'

end Rd
end Snap5
end Cluster
end RaftModel
