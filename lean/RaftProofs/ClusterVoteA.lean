import RaftProofs.HelperFrame

/-!
Helper lemmas for the cluster-level election-safety proof (`RaftProps.C02c`), part A: the projection
of the node state the vote argument reads (`ncore`: term, vote, id, role, `promotable`, the
configuration, the recorded votes, the hard state *in the storage*; and the queue projected on its
real-vote messages) and the frame `VF` of the sending / replication helpers of the node model, read
off the helper frame (`HF.vf`).
-/
namespace RaftModel
namespace Raft
namespace CV

/-- the two message types of a real election -/
def isRVt : MsgType → Bool
  | .msgRequestVote | .msgRequestVoteResponse => true
  | _ => false

/-- a real vote request, or a *granted* real vote response -/
def isRVm (x : Message) : Bool :=
  x.msgType == .msgRequestVote || (x.msgType == .msgRequestVoteResponse && !x.reject)

theorem isRVm_of_type {x : Message} (h : isRVt x.msgType = false) : isRVm x = false := by
  have h1 : x.msgType ≠ .msgRequestVote := fun e => by rw [e] at h; cases h
  have h2 : x.msgType ≠ .msgRequestVoteResponse := fun e => by rw [e] at h; cases h
  simp [isRVm, h1, h2]

/-- the real-vote messages of an outgoing queue, in order -/
def rvOf (l : List Message) : List Message := l.filter isRVm

@[simp] theorem rvOf_append (a b : List Message) : rvOf (a ++ b) = rvOf a ++ rvOf b := by
  simp [rvOf]

theorem rvOf_single_ne (m : Message) (h : isRVm m = false) : rvOf [m] = [] := by
  simp [rvOf, h]

theorem mem_rvOf {l : List Message} {x : Message} : x ∈ rvOf l ↔ x ∈ l ∧ isRVm x = true := by
  simp [rvOf]

/-- the part of the node state the vote argument reads (everything but the queue) -/
structure NCore where
  term : Nat
  vote : Nat
  id : Nat
  state : StateRole
  promotable : Bool
  conf : Configuration
  votes : List (Nat × Bool)
  hs : HardState

def ncore (r : Raft) : NCore :=
  { term := r.term, vote := r.vote, id := r.id, state := r.state, promotable := r.promotable,
    conf := r.prs.conf, votes := r.prs.votes, hs := r.raftLog.store.hardState }

/-- `r'` differs from `r` only outside `ncore`, and the same real-vote messages are queued -/
def VF (r r' : Raft) : Prop := ncore r' = ncore r ∧ rvOf r'.msgs = rvOf r.msgs

theorem VF.refl (r : Raft) : VF r r := ⟨rfl, rfl⟩
theorem VF.trans {a b c : Raft} (h1 : VF a b) (h2 : VF b c) : VF a c :=
  ⟨h2.1.trans h1.1, h2.2.trans h1.2⟩

theorem VF.term {r r' : Raft} (h : VF r r') : r'.term = r.term := congrArg NCore.term h.1
theorem VF.vote {r r' : Raft} (h : VF r r') : r'.vote = r.vote := congrArg NCore.vote h.1
theorem VF.id {r r' : Raft} (h : VF r r') : r'.id = r.id := congrArg NCore.id h.1
theorem VF.state {r r' : Raft} (h : VF r r') : r'.state = r.state := congrArg NCore.state h.1
theorem VF.promotable {r r' : Raft} (h : VF r r') : r'.promotable = r.promotable :=
  congrArg NCore.promotable h.1
theorem VF.conf {r r' : Raft} (h : VF r r') : r'.prs.conf = r.prs.conf := congrArg NCore.conf h.1
theorem VF.voters {r r' : Raft} (h : VF r r') : r'.prs.voters = r.prs.voters := by
  unfold ProgressTracker.voters; rw [h.conf]
theorem VF.votes {r r' : Raft} (h : VF r r') : r'.prs.votes = r.prs.votes := congrArg NCore.votes h.1
theorem VF.hs {r r' : Raft} (h : VF r r') :
    r'.raftLog.store.hardState = r.raftLog.store.hardState := congrArg NCore.hs h.1
theorem VF.rv {r r' : Raft} (h : VF r r') : rvOf r'.msgs = rvOf r.msgs := h.2

/-! ### `VF` of the helpers, read off the helper frame -/

end CV
open CV

theorem QF.plain_rv {tm : Nat} {x : Message} (h : LS.Plain tm x) : isRVm x = false :=
  isRVm_of_type (by have := h.1; revert this; cases x.msgType <;> simp [LS.plainT, isRVt])

/-- the real-vote messages of the queue stay, in order -/
theorem QF.rv {tm : Nat} {q q' : List Message} (h : QF tm q q') : rvOf q' = rvOf q := by
  induction h with
  | refl => rfl
  | send x _ hp ih => rw [rvOf_append, rvOf_single_ne _ (QF.plain_rv hp), List.append_nil, ih]
  | @batch l1 l2 y e c _ hy ih =>
    rw [← ih]
    have h1 : isRVm y = false := isRVm_of_type (by rw [hy]; rfl)
    have h2 : isRVm ({ y with entries := e, commit := c } : Message) = false :=
      isRVm_of_type (by show isRVt y.msgType = false; rw [hy]; rfl)
    simp [rvOf, h1, h2]

theorem HF.vf {a r : Raft} (h : HF a r) : VF a r := by
  have e := h.core
  unfold hcore at e
  injection e with e1 e2 e3 e4 e5 e6 e7 e8 e9
  refine ⟨?_, h.msgs.rv⟩
  unfold ncore
  have hc : r.prs.conf = a.prs.conf := congrArg Tracker.conf e8
  rw [e1, e2, e3, e4, e7, hc, e9, h.hs]

namespace CV

/-- an update of the log that keeps the stored hard state -/
theorem raftLog_vf (r : Raft) {l : RaftLog} (h : l.store.hardState = r.raftLog.store.hardState) :
    VF r { r with raftLog := l } :=
  ⟨congrArg (fun x => ({ ncore r with hs := x } : NCore)) h, rfl⟩

/-- `send` of any message that is not a real-vote message -/
theorem send_vf (r : Raft) (m : Message) (hm : isRVt m.msgType = false) :
    Res.Post (fun r' => VF r r') (r.send m) := by
  apply Res.post_intro
  intro r' h
  rw [send_eq r r' m h]
  have : isRVm (r.sendFill m) = false := isRVm_of_type (by rw [sendFill_msgType]; exact hm)
  exact ⟨rfl, by rw [rvOf_append, rvOf_single_ne _ this, List.append_nil]⟩

theorem set_vf (r : Raft) (id : Nat) (pr : Progress) :
    VF r { r with prs := r.prs.set id pr } := (HF.rf.set id pr).vf

theorem sendTimeoutNow_vf (r : Raft) (to : Nat) :
    Res.Post (fun x => VF r x) (r.sendTimeoutNow to) := by
  unfold sendTimeoutNow
  exact send_vf r _ rfl

theorem maybeSendAppend_vf (r : Raft) (to : Nat) (pr : Progress) (ae : Bool) :
    Res.Post (fun x => VF r x.1) (r.maybeSendAppend to pr ae) :=
  Res.post_intro fun _ h => (maybeSendAppend_hf h HF.rf).vf

theorem sendAppend_vf (r : Raft) (to : Nat) :
    Res.Post (fun x => VF r x) (r.sendAppend to) :=
  Res.post_intro fun _ h => (sendAppend_hf h HF.rf).vf

theorem sendAppendAggressively_vf (r : Raft) (to : Nat) :
    Res.Post (fun x => VF r x) (r.sendAppendAggressively to) :=
  Res.post_intro fun _ h => (sendAppendAggressively_hf h HF.rf).vf

theorem bcastAppend_vf (r : Raft) : Res.Post (fun x => VF r x) r.bcastAppend :=
  Res.post_intro fun _ h => (bcastAppend_hf h HF.rf).vf

theorem ping_vf (r : Raft) : Res.Post (fun x => VF r x) r.ping :=
  Res.post_intro fun _ h => (ping_hf h HF.rf).vf

theorem maybeCommit_vf (r : Raft) : Res.Post (fun x => VF r x.1) r.maybeCommit :=
  Res.post_intro fun _ h => (maybeCommit_hf h HF.rf).vf

theorem appendEntry_vf (r : Raft) (es : List Entry) :
    Res.Post (fun x => VF r x.1) (r.appendEntry es) :=
  Res.post_intro fun _ h => (appendEntry_hf h HF.rf).vf

theorem respondReadStates_vf (r : Raft) (rss : List ReadIndexStatus) :
    Res.Post (fun x => VF r x) (r.respondReadStates rss) :=
  Res.post_intro fun _ h => (respondReadStates_hf h HF.rf).vf

theorem requestSnapshot_vf (r : Raft) : Res.Post (fun x => VF r x.1) r.requestSnapshot :=
  Res.post_intro fun _ h => (requestSnapshot_hf h HF.rf).vf

theorem onPersistEntries_vf (r : Raft) (index term : Nat) :
    Res.Post (fun x => VF r x) (r.onPersistEntries index term) :=
  Res.post_intro fun _ h => (onPersistEntries_hf h HF.rf).vf

theorem commitApply_vf (r : Raft) (applied : Nat) :
    Res.Post (fun x => VF r x) (r.commitApply applied) :=
  Res.post_intro fun _ h => (commitApply_hf h HF.rf).vf

theorem reduceUncommittedSize_vf (r : Raft) (ents : List Entry) :
    VF r (r.reduceUncommittedSize ents) := (reduceUncommittedSize_hf HF.rf).vf

theorem adjustMaxInflightMsgs_vf (r : Raft) (t c : Nat) :
    Res.Post (fun x => VF r x) (r.adjustMaxInflightMsgs t c) :=
  Res.post_intro fun _ h => (adjustMaxInflightMsgs_hf h HF.rf).vf

theorem enableGroupCommit_vf (r : Raft) (b : Bool) :
    Res.Post (fun x => VF r x) (r.enableGroupCommit b) :=
  Res.post_intro fun _ h => (enableGroupCommit_hf h HF.rf).vf

theorem assignCommitGroups_vf (r : Raft) (ids : List (Nat × Nat)) :
    Res.Post (fun x => VF r x) (r.assignCommitGroups ids) :=
  Res.post_intro fun _ h => (assignCommitGroups_hf h HF.rf).vf

/-! ### the other helpers, under their names -/

theorem modifyProgress_vf (r : Raft) (id : Nat) (f : Progress → Progress) :
    VF r (r.modifyProgress id f) :=
  (HF.rf.modify id f).vf

theorem mapProgress_vf (r : Raft) (f : Nat → Progress → Progress) :
    VF r (r.mapProgress f) :=
  (HF.rf.map f).vf

theorem sendAppendPr_vf (r : Raft) (to : Nat) (pr : Progress) :
    Res.Post (fun x => VF r x.1) (r.sendAppendPr to pr) :=
  Res.post_intro fun _ h => (sendAppendPr_hf h HF.rf).vf

theorem bcastHeartbeatWithCtx_vf (r : Raft) (ctx : Option Bytes) :
    Res.Post (fun x => VF r x) (r.bcastHeartbeatWithCtx ctx) :=
  Res.post_intro fun _ h => (bcastHeartbeatWithCtx_hf h HF.rf).vf

theorem bcastHeartbeat_vf (r : Raft) : Res.Post (fun x => VF r x) r.bcastHeartbeat :=
  Res.post_intro fun _ h => (bcastHeartbeat_hf h HF.rf).vf

theorem handleReadyReadIndex_vf (r : Raft) (req : Message) (index : Nat) :
    Res.Post (fun x => VF r x.1 ∧ ∀ m, x.2 = some m → m.msgType = .msgReadIndexResp)
      (r.handleReadyReadIndex req index) :=
  Res.post_intro fun _ h => ⟨(handleReadyReadIndex_hf h HF.rf).vf,
    ((handleReadyReadIndex_frameT r req index).of_eq h).2⟩

theorem checkQuorumActive_vf (r : Raft) : VF r r.checkQuorumActive.1 :=
  (checkQuorumActive_hf rfl HF.rf).vf

theorem filterProposal_vf (es : List Entry) (r : Raft) (i : Nat) :
    VF r (r.filterProposal i es).1 :=
  (filterProposal_hf es r _ i _ rfl HF.rf).vf

theorem handleHeartbeatResponse_vf (r : Raft) (m : Message) :
    Res.Post (fun x => VF r x) (r.handleHeartbeatResponse m) :=
  Res.post_intro fun _ h => (handleHeartbeatResponse_hf h HF.rf).vf

theorem handleSnapshotStatus_vf (r : Raft) (m : Message) : VF r (r.handleSnapshotStatus m) :=
  (handleSnapshotStatus_hf HF.rf).vf

theorem handleUnreachable_vf (r : Raft) (m : Message) : VF r (r.handleUnreachable m) :=
  (handleUnreachable_hf HF.rf).vf

theorem handleAppendResponseAccepted_vf (r : Raft) (m : Message) (pr : Progress) (op : Bool) :
    Res.Post (fun x => VF r x) (r.handleAppendResponseAccepted m pr op) :=
  Res.post_intro fun _ h => handleAppendResponseAccepted_parts (P := VF r) h
    (fun _ => set_vf _ _ _)
    (fun hc p => p.trans ((maybeCommit_vf _).of_eq hc))
    (fun hb p => p.trans ((bcastAppend_vf _).of_eq hb))
    (fun ha p => p.trans ((sendAppend_vf _ _).of_eq ha))
    (fun ha p => p.trans ((sendAppendAggressively_vf _ _).of_eq ha))
    (fun _ ht p => p.trans ((sendTimeoutNow_vf _ _).of_eq ht))

theorem handleAppendResponse_vf (r : Raft) (m : Message) :
    Res.Post (fun x => VF r x) (r.handleAppendResponse m) :=
  Res.post_intro fun _ h => handleAppendResponse_parts (P := VF r) h (VF.refl r)
    (fun _ => set_vf _ _ _)
    (fun ha p => p.trans ((sendAppend_vf _ _).of_eq ha))
    (fun ha => (handleAppendResponseAccepted_vf r m _ _).of_eq ha)

theorem handleTransferLeader_vf (r : Raft) (m : Message) :
    Res.Post (fun x => VF r x) (r.handleTransferLeader m) :=
  Res.post_intro fun _ h => handleTransferLeader_parts (P := VF r) h (VF.refl r)
    (fun p => p.trans ⟨rfl, rfl⟩)
    (fun p => p.trans ⟨rfl, rfl⟩)
    (fun _ ht p => p.trans ((sendTimeoutNow_vf _ _).of_eq ht))
    (fun _ ha p => p.trans ((sendAppendPr_vf _ _ _).of_eq ha))
    (fun _ p => p.trans (set_vf _ _ _))

theorem handleAppendEntries_vf (r : Raft) (m : Message) :
    Res.Post (fun x => VF r x) (r.handleAppendEntries m) :=
  Res.post_intro fun _ h => (handleAppendEntries_hf h HF.rf).vf

theorem handleHeartbeat_vf (r : Raft) (m : Message) :
    Res.Post (fun x => VF r x) (r.handleHeartbeat m) :=
  Res.post_intro fun _ h => (handleHeartbeat_hf h HF.rf).vf

theorem onPersistSnap_vf (r : Raft) (index : Nat) :
    Res.Post (fun x => VF r x) (r.onPersistSnap index) :=
  Res.post_intro fun _ h => (onPersistSnap_hf h HF.rf).vf

theorem commitApplyInternal_vf (r : Raft) (applied : Nat) (skip : Bool) :
    Res.Post (fun x => VF r x) (r.commitApplyInternal applied skip) :=
  Res.post_intro fun _ h => (commitApplyInternal_hf h HF.rf).vf

end CV
end Raft
end RaftModel
