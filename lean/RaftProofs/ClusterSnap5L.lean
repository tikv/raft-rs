import RaftProofs.ClusterSnap5K

/-!
Commit safety of `ClusterSem` with compaction and snapshots, part 5L: two invariants about snapshot
points that the snapshot cases of the main induction need:

* `snap_lt` (under `q`: it rests on `compact k → k ≤ hard_state.commit`): a snapshot point whose term
  is forgotten (a compaction point) lies **strictly below** the commit index (of the logical log) resp.
  the recorded commit index (of the storage) — so a snapshot a node restores, which is not below its
  commit index, never sits on such a point;
* `pend_ok`: a pending snapshot is all there is of the logical log (nothing was appended behind it), and
  its index is the commit index.
-/
namespace RaftModel
namespace Cluster
namespace Snap5
open Node Raft Raft.CC RaftProps.C02 RaftProps.C05 Snap

variable {q : Prop} {cfg : JointConfig} {c0 : Nat} {h : List Sys}

/-- `commit_apply k` writes the commit index `k` into the storage only when the storage holds index
`k` -/
theorem commitApply_hs_cond {st st' : NState} {rnd : Option Nat} {k : Nat} {res : OpRes}
    (h : Node.call st rnd (.commitApply k) = .ok (res, st')) :
    st'.raft.raftLog.store.hardState.commit = st.raft.raftLog.store.hardState.commit ∨
    (st'.raft.raftLog.store.hardState.commit = k ∧ st'.raft.raftLog.store.firstIndex ≤ k) := by
  unfold Node.call at h
  have hrefl : CV.VInv st.raft CV.mLocal ({ st.raft with nextRand := rnd } : Raft) :=
    (CV.VInv.refl st.raft CV.mLocal).vf (by simp [CV.VF, CV.ncore])
  simp only [applyOp, Node.commitApply] at h
  split at h
  · rename_i r2 hb
    rw [Res.bind_eq_ok_iff] at hb
    obtain ⟨r1, h1, h2⟩ := hb
    have hv1 : CV.VInv st.raft CV.mLocal r1 := by
      split at h1
      · split at h1
        · cases h1; exact hrefl.vf (CV.reduceUncommittedSize_vf _ _)
        · cases h1; exact hrefl
        · cases h1
      · cases h1; exact hrefl
    have hv2 : CV.VInv st.raft CV.mLocal r2 :=
      hv1.vf (Res.Post.of_eq (CV.commitApply_vf _ _) h2)
    cases h
    split
    · rename_i hcond
      right
      exact ⟨rfl, hcond.1⟩
    · left
      show r2.raftLog.store.hardState.commit = _
      rw [hv2.hs]
  · cases h
  · cases h

/-- a compaction point lies strictly below the (recorded) commit index -/
structure SnapLt (c0 : Nat) (st : NState) : Prop where
  log : st.raft.raftLog.abs.snapTerm = none → c0 < st.raft.raftLog.abs.snapIdx →
    st.raft.raftLog.abs.snapIdx < st.raft.raftLog.committed
  sto : (storeLog st.raft.raftLog.store).snapTerm = none →
    c0 < (storeLog st.raft.raftLog.store).snapIdx →
    (storeLog st.raft.raftLog.store).snapIdx < st.raft.raftLog.store.hardState.commit

theorem compactTo_none (g : LLog) (k : Nat) :
    (g.compactTo k = g) ∨ ((g.compactTo k).snapIdx = k ∧ g.snapIdx < k) := by
  unfold LLog.compactTo
  split
  · exact .inl rfl
  · exact .inr ⟨rfl, by omega⟩

theorem snap_lt (H : GHyp3a q cfg c0 h) (hq : q) : ∀ (n : Nat) (s : Sys), h[n]? = some s →
    ∀ v st, s.node v = some st → SnapLt c0 st := by
  have H2 := H.toGHyp2w
  refine hist_induct h _ ?_ ?_
  · intro s h0 v st hv
    have hf0 := H.first0 s h0 v st hv
    obtain ⟨_, sto, hboot, hwf, _, _⟩ := H.init s h0
    obtain ⟨c, rnd, hb⟩ := hboot v st hv
    obtain ⟨_, habs, hsl⟩ := boot_log c _ rnd st (hwf v st hv).1 hb
    have hs : (storeLog st.raft.raftLog.store).snapIdx = c0 := by
      show st.raft.raftLog.store.firstIndex - 1 = c0
      rw [hf0]; rfl
    refine ⟨fun _ hc => ?_, fun _ hc => ?_⟩
    · rw [habs, ← hsl, hs] at hc; omega
    · rw [hs] at hc; omega
  · intro n a b ha hb ih v stb hvb
    obtain ⟨k, stk, stk', hka, hkb, hoth, hs⟩ := H2.stp ha hb
    by_cases hvk : v = k
    · subst hvk
      rw [hkb] at hvb; cases hvb
      obtain ⟨il, is⟩ := ih v stk hka
      have oa := node_ok H2 ha hka
      have ob := node_ok H2 hb hkb
      cases hs with
      | call rnd op res hop hco _ hns hpn _ hcall hnet hpn' hcs =>
        obtain ⟨hsrc, hse, hhs⟩ := call_more H2 ha hka hop hco hns hpn hcall
        have hcle := hsrc.1
        -- the logical log
        have hlog : stb.raft.raftLog.abs.snapTerm = none → c0 < stb.raft.raftLog.abs.snapIdx →
            stb.raft.raftLog.abs.snapIdx < stb.raft.raftLog.committed := by
          cases H2.facts0.call_step ha hb hka hkb hnet hop hco hns hpn hcall with
          | same hl => rw [hl]; intro h1 h2; have := il h1 h2; omega
          | grew es hg =>
            have e1 : stb.raft.raftLog.abs.snapIdx = stk.raft.raftLog.abs.snapIdx := by rw [hg.abs]
            have e2 : stb.raft.raftLog.abs.snapTerm = stk.raft.raftLog.abs.snapTerm := by rw [hg.abs]
            rw [e1, e2]; intro h1 h2; have := il h1 h2; omega
          | acc m _ _ _ hacc _ _ _ _ =>
            rw [hacc.snap.1, hacc.snap.2]; intro h1 h2; have := il h1 h2; omega
          | compacted j ho =>
            rw [ho.abs, ho.committed]
            rcases compactTo_none stk.raft.raftLog.abs (j - 1) with c | ⟨c1, c2⟩
            · rw [c]; exact il
            · intro _ _; rw [c1]; have := ho.ok.1; omega
        refine ⟨hlog, ?_⟩
        rcases hse with c | c | ⟨j, c, ho⟩
        · rw [c.storeLog]
          intro h1 h2
          have h3 := is h1 h2
          rcases hhs with d | ⟨j, rfl, d⟩ | ⟨_, _⟩
          · rw [d]; exact h3
          · rcases commitApply_hs_cond hcall with e | ⟨e1, e2⟩
            · rw [e]; exact h3
            · rw [e1]
              have : stb.raft.raftLog.store.firstIndex = stk.raft.raftLog.store.firstIndex := by
                unfold MemStorage.firstIndex; rw [c.1, c.2]
              rw [this] at e2
              show stk.raft.raftLog.store.firstIndex - 1 < j
              have := oa.inv.storeWF.first_pos
              omega
          · rename_i d2; rw [d2]; exact h3
        · subst c
          obtain ⟨u1, _, u3, _⟩ := stabilize_out oa.inv hpn hcall
          have heq := abs_eq_storeLog ob.inv hpn' u1
          have hcm : stb.raft.raftLog.store.hardState.commit =
              stk.raft.raftLog.store.hardState.commit := by
            rcases hhs with d | ⟨j, d, _⟩ | ⟨_, d⟩
            · rw [d]
            · cases d
            · exact d
          rw [← heq, u3, hcm, ← oa.sidx hpn, ← oa.sterm hpn]
          exact is
        · cases c
          rw [ho.sto, ho.hs]
          rcases compactTo_none (storeLog stk.raft.raftLog.store) (j - 1) with c | ⟨c1, c2⟩
          · rw [c]; exact is
          · intro _ _; rw [c1]; have := hcs hq j rfl; omega
      | snap rnd m hm _ hty hpn hout _ =>
        cases hout with
        | skip hr =>
          have e : stb.raft.raftLog = stk.raft.raftLog := by rw [hr]
          exact ⟨by rw [e]; exact il, by rw [e]; exact is⟩
        | handled x _ _ _ _ _ _ _ _ _ hsto hcase =>
          refine ⟨?_, by rw [hsto]; exact is⟩
          cases hcase with
          | kept hu _ hc _ => rw [RaftLog.abs_congr hsto hu, hc]; exact il
          | ffwd hu _ hle hc _ _ _ =>
            rw [RaftLog.abs_congr hsto hu, hc]; intro h1 h2; have := il h1 h2; omega
          | restored _ _ hu _ _ _ =>
            intro h1
            rw [RaftLog.abs_some (sn := m.snapshot) (by rw [hu]; rfl)] at h1
            cases h1
      | psnap rnd _ hout _ _ =>
        cases hout with
        | noop hr =>
          have e : stb.raft.raftLog = stk.raft.raftLog := by rw [hr]
          exact ⟨by rw [e]; exact il, by rw [e]; exact is⟩
        | done sn L hp0 hr _ habs hcm _ _ _ hents hmeta _ =>
          refine ⟨?_, ?_⟩
          · rw [hr]; show L.abs.snapTerm = none → c0 < L.abs.snapIdx → L.abs.snapIdx < L.committed
            rw [habs, hcm]; exact il
          · intro h1
            have hsl : storeLog stb.raft.raftLog.store =
                { snapIdx := sn.metadata.index, snapTerm := some sn.metadata.term, ents := [] } := by
              rw [hr]; exact storeLog_snap hents hmeta
            rw [hsl] at h1; cases h1
      | send _ _ _ hsame _ _ => exact ⟨by rw [hsame.1]; exact il, by rw [hsame.1]; exact is⟩
      | restart c rnd hboot _ _ =>
        have hbt := CV.boot_booted c _ rnd stb hboot
        obtain ⟨_, habs, hsl⟩ := boot_log c _ rnd stb oa.inv.storeWF hboot
        refine ⟨?_, by rw [hsl, hbt.hs]; exact is⟩
        rw [habs]
        intro h1 h2
        have h3 := is h1 h2
        rcases boot_committed c _ rnd stb hboot with e | ⟨e0, _⟩
        · rw [e]; exact h3
        · rw [e0] at h3
          have : ({} : HardState).commit = 0 := rfl
          omega
    · rw [hoth v hvk] at hvb
      exact ih v stb hvb

/-- a pending snapshot is all there is of the logical log, at the commit index -/
theorem pend_ok (H : GHyp3a q cfg c0 h) : ∀ (n : Nat) (s : Sys), h[n]? = some s →
    ∀ v st sn, s.node v = some st → st.raft.raftLog.unstable.snapshot = some sn →
      st.raft.raftLog.unstable.entries = [] ∧ st.raft.raftLog.committed = sn.metadata.index ∧
      c0 < sn.metadata.index ∧ st.raft.raftLog.persisted ≤ sn.metadata.index ∧ q := by
  have H2 := H.toGHyp2w
  refine hist_induct h _ ?_ ?_
  · intro s h0 v st sn hv hp
    rw [H.pend0 s h0 v st hv] at hp; cases hp
  · intro n a b ha hb ih v stb sn hvb hp
    obtain ⟨k, stk, stk', hka, hkb, hoth, hs⟩ := H2.stp ha hb
    by_cases hvk : v = k
    · subst hvk
      rw [hkb] at hvb; cases hvb
      cases hs with
      | call _ _ _ _ _ _ _ _ _ _ _ hpn' _ => rw [hpn'] at hp; cases hp
      | snap rnd m hm _ hty hpn hout _ =>
        cases hout with
        | skip hr => rw [hr] at hp; rw [hpn] at hp; cases hp
        | handled x _ _ _ _ _ _ _ _ _ hsto hcase =>
          cases hcase with
          | kept hu _ _ _ => rw [hu, hpn] at hp; cases hp
          | ffwd hu _ _ _ _ _ _ => rw [hu, hpn] at hp; cases hp
          | restored hle _ hu hc hper _ =>
            rw [hu] at hp ⊢
            have : m.snapshot = sn := by
              have : some m.snapshot = some sn := hp
              cases this; rfl
            subst this
            refine ⟨rfl, hc, H.snapidx a (mem_of_get ha) m hm hty, ?_, H2.q_of_net ha hm hty⟩
            rw [hper]
            split <;> omega
      | psnap rnd _ hout _ _ =>
        cases hout with
        | noop hr => rw [hr] at hp ⊢; exact ih v stk sn hka hp
        | done sn' L _ hr _ _ _ _ hus _ _ _ _ => rw [hr] at hp; rw [hus] at hp; cases hp
      | send _ _ _ hsame _ _ => rw [hsame.1] at hp ⊢; exact ih v stk sn hka hp
      | restart c rnd hboot _ hpn' => rw [hpn'] at hp; cases hp
    · rw [hoth v hvk] at hvb
      exact ih v stb sn hvb hp

end Snap5
end Cluster
end RaftModel
