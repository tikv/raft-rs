import RaftProofs.RaftGuards
import RaftProofs.Res

/-!
Helper lemmas about the node model (`RaftModel.Raft*`): what `send`, `reset`, `become_follower`,
`maybe_commit_by_vote` and the vote arm of `step` do to `term` / `vote`.
-/
namespace RaftModel

/-- an equation with a conditional on the left, taken apart without naming the condition -/
theorem ite_eq_iff_or {α : Type} {c : Prop} [Decidable c] {x y z : α} :
    (if c then x else y) = z ↔ (c ∧ x = z) ∨ (¬ c ∧ y = z) := by
  by_cases hc : c <;> simp [hc]

end RaftModel

namespace RaftModel.Raft

theorem send_eq (r r' : Raft) (m : Message) (h : r.send m = .ok r') :
    r' = { r with msgs := r.msgs ++ [r.sendFill m] } := by
  unfold Raft.send at h
  split at h
  · cases h
  · split at h
    · cases h
    · cases h; rfl

theorem send_term_vote (r r' : Raft) (m : Message) (h : r.send m = .ok r') :
    r'.term = r.term ∧ r'.vote = r.vote := by
  rw [send_eq r r' m h]; exact ⟨rfl, rfl⟩

/-- `reset` (raft.rs:1008) as one record update: no `if` is left but the one in `vote`, and every
projection of `r.reset t` is read off after `rw [reset_eq]` -/
theorem reset_eq (r : Raft) (t : Nat) :
    r.reset t =
      { r with
        term := t, vote := if r.term ≠ t then 0 else r.vote, leaderId := 0,
        randomizedElectionTimeout := r.nextRand.getD r.randomizedElectionTimeout,
        electionElapsed := 0, heartbeatElapsed := 0, leadTransferee := none, pendingConfIndex := 0,
        readOnly := ReadOnly.new r.readOnly.option, pendingRequestSnapshot := 0,
        prs := { r.prs.resetVotes with
          progress := r.prs.resetVotes.progress.map (fun p => (p.1,
            if p.1 = r.id then
              { p.2.reset (r.raftLog.lastIndex + 1) with
                matched := r.raftLog.persisted, committedIndex := r.raftLog.committed }
            else p.2.reset (r.raftLog.lastIndex + 1))) } } := by
  unfold Raft.reset
  simp only [Raft.mapProgress, Raft.abortLeaderTransfer, Raft.resetRandomizedElectionTimeout]
  by_cases h : r.term ≠ t
  · simp only [if_pos h]
  · simp only [if_neg h]
    have : r.term = t := Classical.not_not.1 h
    subst this; rfl

theorem reset_term_vote (r : Raft) (t : Nat) :
    (r.reset t).term = t ∧ (r.reset t).vote = if r.term ≠ t then 0 else r.vote := by
  rw [reset_eq]; exact ⟨rfl, rfl⟩

theorem becomeFollower_term_vote (r : Raft) (t l : Nat) :
    (r.becomeFollower t l).term = t ∧
    (r.becomeFollower t l).vote = if r.term ≠ t then 0 else r.vote := by
  unfold Raft.becomeFollower
  exact reset_term_vote r t

theorem becomeFollower_same_term (r : Raft) (l : Nat) :
    (r.becomeFollower r.term l).term = r.term ∧ (r.becomeFollower r.term l).vote = r.vote := by
  have := becomeFollower_term_vote r r.term l
  simpa using this

/-- **the ways `maybe_commit_by_vote` ends** (raft.rs:2248) -/
inductive ByVote (r : Raft) (m : Message) : Raft → Prop
  /-- no usable commit point in the message, a leader, or the log does not take it -/
  | ignored : ByVote r m r
  | committed {log : RaftLog} : r.state ≠ .leader → m.commitTerm ≠ 0 → r.raftLog.committed < m.commit →
      r.raftLog.maybeCommit m.commit m.commitTerm = .ok (log, true) →
      ByVote r m { r with raftLog := log }
  /-- a (pre-)candidate that learns of an unapplied configuration change gives up its campaign -/
  | steppedDown {log : RaftLog} : r.state = .candidate ∨ r.state = .preCandidate →
      m.commitTerm ≠ 0 → r.raftLog.committed < m.commit →
      r.raftLog.maybeCommit m.commit m.commitTerm = .ok (log, true) →
      ByVote r m (({ r with raftLog := log } : Raft).becomeFollower r.term 0)

theorem maybeCommitByVote_inv {r r' : Raft} {m : Message} (h : r.maybeCommitByVote m = .ok r') :
    ByVote r m r' := by
  unfold Raft.maybeCommitByVote at h
  rcases ite_eq_iff_or.1 h with ⟨_, h⟩ | ⟨hz, h⟩
  · cases h; exact .ignored
  dsimp only at h
  rcases ite_eq_iff_or.1 h with ⟨_, h⟩ | ⟨hn, h⟩
  · cases h; exact .ignored
  have hl : r.state ≠ .leader := fun hc => hn (.inr hc)
  have hlt : r.raftLog.committed < m.commit := Nat.lt_of_not_le fun hc => hn (.inl hc)
  have hct : m.commitTerm ≠ 0 := fun hc => hz (.inr hc)
  split at h
  · cases h
  · cases h
  · cases h; exact .ignored
  · rename_i log hc
    rcases ite_eq_iff_or.1 h with ⟨_, h⟩ | ⟨hr, h⟩
    · cases h; exact .committed hl hct hlt hc
    · have hr : r.state = .candidate ∨ r.state = .preCandidate := by
        cases hs : r.state <;> simp [hs] at hr ⊢
      split at h
      · cases h
      · cases h
      · cases h; exact .steppedDown hr hct hlt hc
      · cases h; exact .committed hl hct hlt hc

theorem maybeCommitByVote_term_vote (r r' : Raft) (m : Message)
    (h : r.maybeCommitByVote m = .ok r') : r'.term = r.term ∧ r'.vote = r.vote := by
  cases maybeCommitByVote_inv h with
  | ignored | committed => exact ⟨rfl, rfl⟩
  | steppedDown => exact becomeFollower_same_term { r with raftLog := _ } 0

theorem stepVoteGrant_prevote (r r' : Raft) (m : Message) (t : MsgType)
    (hm : m.msgType = .msgRequestPreVote) (h : r.stepVoteGrant m t = .ok r') :
    r'.term = r.term ∧ r'.vote = r.vote := by
  unfold Raft.stepVoteGrant at h
  split at h
  · rename_i r1 hs
    simp only [hm] at h
    split at h
    · rename_i hc; cases hc
    · cases h; exact send_term_vote r r' _ hs
  · cases h
  · cases h

theorem stepVoteReject_term_vote (r r' : Raft) (m : Message) (t : MsgType)
    (h : r.stepVoteReject m t = .ok r') : r'.term = r.term ∧ r'.vote = r.vote := by
  unfold Raft.stepVoteReject at h
  split at h
  · cases h
  · cases h
  · split at h
    · rename_i r1 hs
      have h1 := send_term_vote r r1 _ hs
      split at h
      · have h2 := maybeCommitByVote_term_vote r1 r' m h
        exact ⟨h2.1.trans h1.1, h2.2.trans h1.2⟩
      · cases h; exact h1
    · cases h
    · cases h

theorem stepVote_prevote (r r' : Raft) (m : Message) (hm : m.msgType = .msgRequestPreVote)
    (h : r.stepVote m = .ok r') : r'.term = r.term ∧ r'.vote = r.vote := by
  unfold Raft.stepVote at h
  split at h
  · cases h
  · split at h
    · exact stepVoteGrant_prevote r r' m _ hm h
    · exact stepVoteReject_term_vote r r' m _ h
    · cases h
    · cases h

/-- the term preamble never changes term or vote for a pre-vote request -/
theorem stepTerm_prevote (r r' : Raft) (m : Message) (b : Bool)
    (hm : m.msgType = .msgRequestPreVote) (h : r.stepTerm m = .ok (r', b)) :
    r'.term = r.term ∧ r'.vote = r.vote := by
  cases stepTerm_inv h with
  | zero | leased | prevote | stale | same => exact ⟨rfl, rfl⟩
  | follow l _ _ _ hpv => exact absurd (.inl hm) hpv
  | staleAck _ _ _ hs | staleReject _ _ _ hs => exact send_term_vote _ _ _ hs

end RaftModel.Raft
