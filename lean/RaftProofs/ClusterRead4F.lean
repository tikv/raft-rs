import RaftProofs.ClusterRead4E

/-!
Cluster-level ReadIndex safety with forwarded reads, helper lemmas part F: `RInv` through the arms of
`step`, `step` itself (for every message that is neither a `MsgReadIndex` nor a `MsgSnapshot`), `tick`
and the `RawNode` wrappers.
-/
namespace RaftModel
namespace Raft
namespace RD
namespace R4
open VoteOb

/-- message types that play no part in the read path (as input of a call) -/
def plainT : MsgType → Bool
  | .msgHeartbeat | .msgHeartbeatResponse | .msgReadIndexResp => false
  | _ => true

theorem AckOk.retag {a : Raft} {m1 m2 : Message} {K : Bytes} {u : Nat}
    (hp : plainT m1.msgType = true) (h : AckOk a m1 K u) : AckOk a m2 K u := by
  rcases h with c | c | c
  · exact .inl c
  · rw [c.1] at hp; cases hp
  · exact .inr (.inr c)

/-- the tag of a call may be changed when the old one plays no part in the read path -/
theorem RInv.retag {a r : Raft} {m1 m2 : Message} (h : RInv a m1 r)
    (hp : plainT m1.msgType = true) : RInv a m2 r := by
  refine ⟨h.id, h.tle, h.opt, ?_, h.queue, h.conf, ?_, ?_⟩
  · intro K rs hm
    obtain ⟨k1, k2, k3⟩ := h.pend K rs hm
    exact ⟨k1, k2, fun u hu => (k3 u hu).retag hp⟩
  · intro x hx
    rcases h.rst x hx with c | c | ⟨K, rs0, Kack, acks, p, i, c1, c2, c3, c4, c5, c6, c7, c8, c9⟩
    · exact .inl c
    · rw [c] at hp; cases hp
    · exact .inr (.inr ⟨K, rs0, Kack, acks, p, i, c1, c2, c3, c4, c5, c6, c7, c8,
        fun u hu => (c9 u hu).retag hp⟩)
  · intro x hx
    rcases h.msgs x hx with c | c | c | c | ⟨c0, K, rs0, Kack, acks, p, i, c1, c2, c3, c4, c5, c6, c7, c8, c9⟩
    · exact .inl c
    · exact .inr (.inl c)
    · exact .inr (.inr (.inl c))
    · rw [c.2.1] at hp; cases hp
    · exact .inr (.inr (.inr (.inr ⟨c0, K, rs0, Kack, acks, p, i, c1, c2, c3, c4, c5, c6, c7, c8,
        fun u hu => (c9 u hu).retag hp⟩)))

/-! ### the role arms -/

theorem stepCandidate_rinv {a r : Raft} {m : Message} (h : RInv a m r)
    (hsn : m.msgType ≠ .msgSnapshot) :
    Res.Post (fun x => RInv a m x.1) (r.stepCandidate m) :=
  Res.post_intro fun _ hs => stepCandidate_parts (P := RInv a m) hs h
    (fun ht => h.rs (becomeFollower_rs r m.term m.frm (Nat.le_of_eq ht)))
    (fun ha _ p => p.rf ((handleAppendEntries_rf _ m).of_eq ha))
    (fun hh ty p => (handleHeartbeat_rinv p ty).of_eq hh)
    (fun _ ty _ => absurd ty hsn)
    (fun hp _ _ => h.rs ((poll_rs r _ _ _).of_eq hp))
    (fun hv p => p.rs ((maybeCommitByVote_rs _ m).of_eq hv))

theorem stepFollower_rinv {a r : Raft} {m : Message} (h : RInv a m r)
    (hri : m.msgType ≠ .msgReadIndex) (hsn : m.msgType ≠ .msgSnapshot) :
    Res.Post (fun x => RInv a m x.1) (r.stepFollower m) :=
  Res.post_intro fun _ hs => stepFollower_parts (P := RInv a m) hs h
    (fun hsnd ty => h.rf ((send_rf r _ (by
      rcases ty with c | c | c <;> first | exact absurd c hri | simp [c, rdT])).of_eq hsnd))
    (h.rf (by simp [RF, rcore]))
    (fun ha _ p => p.rf ((handleAppendEntries_rf _ m).of_eq ha))
    (fun hh ty p => (handleHeartbeat_rinv p ty).of_eq hh)
    (fun _ ty _ => absurd ty hsn)
    (fun hh _ _ => h.rs ((hup_rs r true).of_eq hh))
    (fun _ ty => ⟨h.id, h.tle, h.opt, h.pend, h.queue, h.conf, fun _ _ => .inr (.inl ty), h.msgs⟩)

theorem stepLeader_rinv {a r : Raft} {m : Message} (h : RInv a m r)
    (hri : m.msgType ≠ .msgReadIndex)
    (hmt : m.msgType = .msgHeartbeatResponse → m.term = 0 ∨ m.term = r.term) :
    Res.Post (fun x => RInv a m x.1) (r.stepLeader m) :=
  Res.post_intro fun _ hs => stepLeader_parts2 (P := RInv a m) hs h
    (fun hb _ => (bcastHeartbeat_rinv h).of_eq hb)
    (fun hq _ => h.rf (by have := checkQuorumActive_rf r; rw [hq] at this; exact this))
    (fun _ p => p.rs (becomeFollower_rs _ _ 0 (Nat.le_refl _)))
    (fun hf _ => h.rf (by have := filterProposal_rf m.entries r 0; rw [hf] at this; exact this))
    (fun ha _ p => p.rf ((appendEntry_rf _ _).of_eq ha))
    (fun hb _ p => p.rf ((bcastAppend_rf _).of_eq hb))
    (fun _ ty => absurd ty hri) (fun _ _ ty => absurd ty hri) (fun ty => absurd ty hri)
    (fun _ ty => absurd ty hri)
    (fun ha _ => h.rf ((handleAppendResponse_rf r m).of_eq ha))
    (fun hh ty => (handleHeartbeatResponse_rinv h ty (hmt ty)).of_eq hh)
    (fun _ => h.rf (handleSnapshotStatus_rf r m)) (fun _ => h.rf (handleUnreachable_rf r m))
    (fun ht _ => h.rf ((handleTransferLeader_rf r m).of_eq ht))

/-! ### the term preamble and the vote arm -/

theorem stepTerm_rs (r : Raft) (m : Message) :
    Res.Post (fun x => RS r x.1 ∧
        (x.2 = true → m.msgType = .msgHeartbeatResponse → m.term = 0 ∨ m.term = x.1.term))
      (r.stepTerm m) := by
  apply Res.post_intro
  rintro ⟨r1, b⟩ h
  rcases c02_stepTerm_cases h with ⟨e, hb⟩ | ⟨hb, _, _, x, hs, hx⟩ | ⟨_, hlt, _, _, l, e⟩
  · -- untouched
    subst e
    refine ⟨RS.refl _, fun hb' hty => ?_⟩
    rcases hb hb' with c | c | ⟨_, c | ⟨c, _⟩⟩
    · exact .inl c
    · exact .inr c
    · rw [hty] at c; cases c
    · rw [hty] at c; cases c
  · -- a message of a lower term is answered and consumed
    have hx' : rdT x.msgType = false := by
      rcases hx with ⟨_, e⟩ | ⟨_, e⟩ <;> rw [e] <;> rfl
    exact ⟨(Res.Post.of_eq (send_rf r x hx') hs).toRS, fun hc => by rw [hb] at hc; cases hc⟩
  · -- a higher term makes the node a follower of that term
    subst e
    exact ⟨becomeFollower_rs r m.term l (Nat.le_of_lt hlt),
      fun _ _ => .inr (becomeFollower_term_vote r m.term l).1.symm⟩

theorem stepVote_rs (r : Raft) (m : Message) :
    Res.Post (fun x => RS r x) (r.stepVote m) :=
  Res.post_intro fun _ h => stepVote_parts (P := fun x => RS r x) h
    (fun {m'} _ hs ht => by
      have hrd : rdT m'.msgType = false := by
        unfold voteRespMsgType at ht
        split at ht
        · rw [← Option.some.inj ht]; rfl
        · rw [← Option.some.inj ht]; rfl
        · cases ht
      exact (Res.Post.of_eq (send_rf r _ hrd) hs).toRS)
    (fun p => p.trans (RF.toRS (by simp [RF, rcore])))
    (fun hb p => p.trans (Res.Post.of_eq (maybeCommitByVote_rs _ m) hb))

/-! ### `step`, `tick`, the wrappers -/

theorem step_rinv {a r : Raft} {m : Message} (h : RInv a m r)
    (hri : m.msgType ≠ .msgReadIndex) (hsn : m.msgType ≠ .msgSnapshot) :
    Res.Post (fun x => RInv a m x.1) (r.step m) := by
  refine Res.post_intro fun ⟨r', e⟩ hx => ?_
  have hst := stepTerm_rs r m
  cases step_inv hx with
  | consumed ht => exact h.rs (hst.of_eq ht).1
  | dispatched ht hd =>
    obtain ⟨h1, hT⟩ := hst.of_eq ht
    dsimp only at h1 hT
    have h1' := h.rs h1
    cases hd with
    | hup _ hh => exact h1'.rs ((hup_rs _ false).of_eq hh)
    | vote _ hv => exact h1'.rs ((stepVote_rs _ m).of_eq hv)
    | candidate _ _ hc => exact (stepCandidate_rinv h1' hsn).of_eq hc
    | follower _ _ hf => exact (stepFollower_rinv h1' hri hsn).of_eq hf
    | leader _ _ hl => exact (stepLeader_rinv h1' hri (fun hq => hT rfl hq)).of_eq hl

theorem stepIgnore_rinv {a r : Raft} {m : Message} (h : RInv a m r)
    (hri : m.msgType ≠ .msgReadIndex) (hsn : m.msgType ≠ .msgSnapshot) :
    Res.Post (fun x => RInv a m x) (r.stepIgnore m) := by
  unfold stepIgnore
  exact Res.post_bind (step_rinv h hri hsn) (fun b hb => hb)

open CV in
/-- a message the timers make the node step: `RInv` is carried under the tag of that message -/
theorem tickStep_rinv {a r1 r2 : Raft} {m : Message} (hs : r1.stepIgnore m = .ok r2)
    (ty : m.msgType = .msgHup ∨ m.msgType = .msgCheckQuorum ∨ m.msgType = .msgBeat)
    (p : RInv a mLocal r1) : RInv a mLocal r2 :=
  ((stepIgnore_rinv (m := m) (p.retag rfl) (by rcases ty with c | c | c <;> rw [c] <;> decide)
    (by rcases ty with c | c | c <;> rw [c] <;> decide)).of_eq hs).retag
      (by rcases ty with c | c | c <;> rw [c] <;> rfl)

open CV in
theorem tickElection_rinv (a : Raft) :
    Res.Post (fun x => RInv a mLocal x.1) a.tickElection :=
  Res.post_intro fun _ h => tickElection_parts (P := RInv a mLocal) h
    (fun _ => (RInv.refl a mLocal).rf (by simp [RF, rcore]))
    fun hs ty _ p => tickStep_rinv hs (.inl ty) p

open CV in
theorem tickHeartbeat_rinv (a : Raft) :
    Res.Post (fun x => RInv a mLocal x.1) a.tickHeartbeat :=
  Res.post_intro fun _ h => tickHeartbeat_parts (P := RInv a mLocal) h
    (fun _ _ p => p.rf (by simp [RF, rcore])) (RInv.refl a mLocal)
    (fun hs ty _ _ p => tickStep_rinv hs (.inr (.inl ty)) p)
    (fun hs ty _ _ p => tickStep_rinv hs (.inr (.inr ty)) p)
    fun p => p.rf (by simp [RF, rcore, abortLeaderTransfer])

open CV in
theorem tick_rinv (a : Raft) : Res.Post (fun x => RInv a mLocal x.1) a.tick :=
  Res.post_intro fun _ h => tick_parts (P := RInv a mLocal) h
    (fun he => (tickElection_rinv a).of_eq he) fun hh => (tickHeartbeat_rinv a).of_eq hh

theorem rawStep_rinv (a : Raft) (m : Message)
    (hri : m.msgType ≠ .msgReadIndex) (hsn : m.msgType ≠ .msgSnapshot) :
    Res.Post (fun x => RInv a m x.1) (RawNode.step a m) := by
  unfold RawNode.step
  split
  · exact RInv.refl a m
  · split
    · exact step_rinv (RInv.refl a m) hri hsn
    · exact RInv.refl a m

open CV in
/-- `step` / `step_ignore` of a message the application builds itself -/
theorem localStep_rinv (a : Raft) (m : Message) (hp : plainT m.msgType = true)
    (hri : m.msgType ≠ .msgReadIndex) (hsn : m.msgType ≠ .msgSnapshot) :
    Res.Post (fun x => RInv a mLocal x.1) (a.step m) :=
  Res.post_mono (step_rinv (RInv.refl a m) hri hsn) (fun _ hx => hx.retag hp)

open CV in
theorem localStepIgnore_rinv (a : Raft) (m : Message) (hp : plainT m.msgType = true)
    (hri : m.msgType ≠ .msgReadIndex) (hsn : m.msgType ≠ .msgSnapshot) :
    Res.Post (fun x => RInv a mLocal x) (a.stepIgnore m) :=
  Res.post_mono (stepIgnore_rinv (RInv.refl a m) hri hsn) (fun _ hx => hx.retag hp)

end R4
end RD
end Raft
end RaftModel
