import RaftProofs.RaftHandlers

/-!
Helper lemmas for C17 (leadership transfer), in the `Res.Post` style: the projection
of the outgoing queue on its `MsgTimeoutNow` messages, frame lemmas for the sending / replication
helpers of the node model (`FrameT`), and for the handlers that change the role what they do to the
queued `MsgTimeoutNow`s and to `lead_transferee` (`TR`).  The handlers are taken apart by the closure
lemmas of `RaftHandlers`.  `post_conf_change`, whose outcome depends on more than a closure lemma can
say, is specified whole, for the later layers as well (`postConfChange_spec_of`, for any relation the
replication steps keep).
-/
namespace RaftModel
namespace Raft

/-- the `MsgTimeoutNow` messages of an outgoing queue, in order -/
def tnOf (l : List Message) : List Message := l.filter (fun m => m.msgType == .msgTimeoutNow)

@[simp] theorem tnOf_append (a b : List Message) : tnOf (a ++ b) = tnOf a ++ tnOf b := by
  simp [tnOf]

theorem tnOf_single_ne (m : Message) (h : m.msgType ≠ .msgTimeoutNow) : tnOf [m] = [] := by
  simp [tnOf, h]

theorem tnOf_single_eq (m : Message) (h : m.msgType = .msgTimeoutNow) : tnOf [m] = [m] := by
  simp [tnOf, h]

theorem ite_msgType {c : Prop} [Decidable c] {a b : Message} {t : MsgType} (ha : a.msgType = t)
    (hb : b.msgType = t) : (if c then a else b).msgType = t := by
  split <;> assumption

theorem sendFill_msgType (r : Raft) (m : Message) : (r.sendFill m).msgType = m.msgType := by
  unfold sendFill
  -- the sender, then the term, then the priority are filled in; each step keeps the type
  have h1 : (if m.frm = 0 then { m with frm := r.id } else m).msgType = m.msgType :=
    ite_msgType rfl rfl
  generalize (if m.frm = 0 then { m with frm := r.id } else m) = m1 at h1 ⊢
  exact ite_msgType (ite_msgType h1 h1) (ite_msgType h1 h1)

/-- the part of the node state that the sending / replication helpers never touch, with the
queue projected on its `MsgTimeoutNow` messages -/
structure Core where
  tn : List Message
  term : Nat
  vote : Nat
  id : Nat
  state : StateRole
  leadTransferee : Option Nat
  conf : Configuration
  electionElapsed : Nat
  heartbeatElapsed : Nat
  electionTimeout : Nat
  heartbeatTimeout : Nat
  checkQuorum : Bool
  promotable : Bool
  leaderId : Nat
  priority : Int

def core (r : Raft) : Core :=
  { tn := tnOf r.msgs, term := r.term, vote := r.vote, id := r.id, state := r.state,
    leadTransferee := r.leadTransferee, conf := r.prs.conf, electionElapsed := r.electionElapsed,
    heartbeatElapsed := r.heartbeatElapsed, electionTimeout := r.electionTimeout,
    heartbeatTimeout := r.heartbeatTimeout, checkQuorum := r.checkQuorum,
    promotable := r.promotable, leaderId := r.leaderId, priority := r.priority }

/-- `r'` differs from `r` only outside `core` -/
def FrameT (r r' : Raft) : Prop := core r' = core r

theorem FrameT.refl (r : Raft) : FrameT r r := rfl
theorem FrameT.trans {a b c : Raft} (h1 : FrameT a b) (h2 : FrameT b c) : FrameT a c := by
  unfold FrameT at *; rw [h2, h1]

theorem FrameT.tn {r r' : Raft} (h : FrameT r r') : tnOf r'.msgs = tnOf r.msgs := congrArg Core.tn h
theorem FrameT.term {r r' : Raft} (h : FrameT r r') : r'.term = r.term := congrArg Core.term h
theorem FrameT.vote {r r' : Raft} (h : FrameT r r') : r'.vote = r.vote := congrArg Core.vote h
theorem FrameT.id {r r' : Raft} (h : FrameT r r') : r'.id = r.id := congrArg Core.id h
theorem FrameT.state {r r' : Raft} (h : FrameT r r') : r'.state = r.state := congrArg Core.state h
theorem FrameT.leadTransferee {r r' : Raft} (h : FrameT r r') :
    r'.leadTransferee = r.leadTransferee := congrArg Core.leadTransferee h
theorem FrameT.conf {r r' : Raft} (h : FrameT r r') : r'.prs.conf = r.prs.conf := congrArg Core.conf h
theorem FrameT.electionElapsed {r r' : Raft} (h : FrameT r r') :
    r'.electionElapsed = r.electionElapsed := congrArg Core.electionElapsed h
theorem FrameT.heartbeatElapsed {r r' : Raft} (h : FrameT r r') :
    r'.heartbeatElapsed = r.heartbeatElapsed := congrArg Core.heartbeatElapsed h
theorem FrameT.electionTimeout {r r' : Raft} (h : FrameT r r') :
    r'.electionTimeout = r.electionTimeout := congrArg Core.electionTimeout h
theorem FrameT.heartbeatTimeout {r r' : Raft} (h : FrameT r r') :
    r'.heartbeatTimeout = r.heartbeatTimeout := congrArg Core.heartbeatTimeout h
theorem FrameT.checkQuorum {r r' : Raft} (h : FrameT r r') : r'.checkQuorum = r.checkQuorum :=
  congrArg Core.checkQuorum h
theorem FrameT.promotable {r r' : Raft} (h : FrameT r r') : r'.promotable = r.promotable :=
  congrArg Core.promotable h
theorem FrameT.leaderId {r r' : Raft} (h : FrameT r r') : r'.leaderId = r.leaderId :=
  congrArg Core.leaderId h
theorem FrameT.priority {r r' : Raft} (h : FrameT r r') : r'.priority = r.priority :=
  congrArg Core.priority h

theorem send_frameT (r : Raft) (m : Message) (hm : m.msgType ≠ .msgTimeoutNow) :
    Res.Post (fun r' => FrameT r r') (r.send m) := by
  apply Res.post_intro
  intro r' h
  rw [send_eq r r' m h]
  have : (r.sendFill m).msgType ≠ .msgTimeoutNow := by rw [sendFill_msgType]; exact hm
  simp [FrameT, core, tnOf_single_ne _ this]

theorem tryBatchingLoop_tn (committed to : Nat) (pr : Progress) (ents : List Entry) :
    ∀ msgs, Res.Post (fun x => tnOf x.1 = tnOf msgs) (tryBatchingLoop committed to pr ents msgs) := by
  intro msgs
  induction msgs with
  | nil => simp [tryBatchingLoop, Res.Post]
  | cons msg rest ih =>
    unfold tryBatchingLoop
    split
    · rename_i hc
      have hne : (msg.msgType == MsgType.msgTimeoutNow) = false := by simp [hc.1]
      split
      · split
        · simp [Res.Post]
        · simp only
          split
          · trivial
          · split
            · simp [Res.Post, tnOf, hne]
            · trivial
            · trivial
      · simp [Res.Post, tnOf, hne]
    · split
      · rename_i rest' pr' b heq
        have := Res.Post.of_eq ih heq
        simp only [Res.Post] at this ⊢
        simp only [tnOf, List.filter_cons] at this ⊢
        rw [this]
      · trivial
      · trivial

theorem msgs_frameT (r : Raft) {ms : List Message} (h : tnOf ms = tnOf r.msgs) :
    FrameT r { r with msgs := ms } := by
  unfold FrameT core
  simp only [h]

theorem tryBatching_frameT (r : Raft) (to : Nat) (pr : Progress) (ents : List Entry) :
    Res.Post (fun x => FrameT r x.1) (r.tryBatching to pr ents) :=
  Res.post_intro fun _ h => tryBatching_parts (P := FrameT r) h
    fun hl => msgs_frameT r ((tryBatchingLoop_tn _ _ _ _ _).of_eq hl)

theorem prepareSendSnapshot_frameT (r : Raft) (m : Message) (pr : Progress) (to : Nat) :
    Res.Post (fun x => FrameT r x.1) (r.prepareSendSnapshot m pr to) :=
  Res.post_intro fun _ h => prepareSendSnapshot_parts (P := FrameT r) h (FrameT.refl r) rfl

theorem prepareSendEntries_type (r : Raft) (m : Message) (pr : Progress) (term : Nat)
    (ents : List Entry) :
    Res.Post (fun x => x.1.msgType = .msgAppend) (r.prepareSendEntries m pr term ents) :=
  Res.post_intro fun _ h => prepareSendEntries_msgType h

theorem maybeSendAppend_frameT (r : Raft) (to : Nat) (pr : Progress) (ae : Bool) :
    Res.Post (fun x => FrameT r x.1) (r.maybeSendAppend to pr ae) :=
  Res.post_intro fun _ h => maybeSendAppend_parts (P := FrameT r) h (FrameT.refl r)
    (fun hs => (prepareSendSnapshot_frameT r _ pr to).of_eq hs)
    (fun hb => (tryBatching_frameT r to pr _).of_eq hb)
    (fun hs ty p => p.trans ((send_frameT _ _ (by rcases ty with ty | ty <;> simp [ty])).of_eq hs))

theorem set_frameT (r : Raft) (id : Nat) (pr : Progress) :
    FrameT r { r with prs := r.prs.set id pr } := by
  simp [FrameT, core, ProgressTracker.set]

theorem sendAppendPr_frameT (r : Raft) (to : Nat) (pr : Progress) :
    Res.Post (fun x => FrameT r x.1) (r.sendAppendPr to pr) :=
  Res.post_intro fun _ h => sendAppendPr_parts (P := FrameT r) h
    fun hm => (maybeSendAppend_frameT r to pr true).of_eq hm

theorem sendHeartbeat_frameT (r : Raft) (to : Nat) (pr : Progress) (ctx : Option Bytes) :
    Res.Post (fun x => FrameT r x) (r.sendHeartbeat to pr ctx) := by
  unfold sendHeartbeat
  exact send_frameT r _ (by simp)

theorem sendAppend_frameT (r : Raft) (to : Nat) :
    Res.Post (fun x => FrameT r x) (r.sendAppend to) :=
  Res.post_intro fun _ h => sendAppend_parts (P := FrameT r) h
    (fun ha => (sendAppendPr_frameT r to _).of_eq ha) (fun _ p => p.trans (set_frameT _ _ _))

theorem sendAppendAggressively_frameT (r : Raft) (to : Nat) :
    Res.Post (fun x => FrameT r x) (r.sendAppendAggressively to) :=
  Res.post_intro fun _ h => sendAppendAggressively_parts (P := FrameT r) h
    (fun ha => sendAppendAggressivelyPr_parts
      (fun hm p => p.trans ((maybeSendAppend_frameT _ _ _ _).of_eq hm)) _ _ _ ha (FrameT.refl r))
    (fun _ p => p.trans (set_frameT _ _ _))

theorem bcastAppend_frameT (r : Raft) : Res.Post (fun x => FrameT r x) r.bcastAppend :=
  Res.post_intro fun _ h => bcastAppend_parts (P := FrameT r) h (FrameT.refl r)
    (fun ha p => p.trans ((sendAppendPr_frameT _ _ _).of_eq ha))
    (fun _ _ p => p.trans (set_frameT _ _ _))

theorem bcastHeartbeatWithCtx_frameT (r : Raft) (ctx : Option Bytes) :
    Res.Post (fun x => FrameT r x) (r.bcastHeartbeatWithCtx ctx) :=
  Res.post_intro fun _ h => bcastHeartbeatWithCtx_parts (P := FrameT r) h (FrameT.refl r)
    (fun hb p => p.trans ((sendHeartbeat_frameT _ _ _ ctx).of_eq hb))
    (fun _ _ p => p.trans (set_frameT _ _ _))

theorem bcastHeartbeat_frameT (r : Raft) : Res.Post (fun x => FrameT r x) r.bcastHeartbeat := by
  unfold bcastHeartbeat
  exact bcastHeartbeatWithCtx_frameT r _

theorem modifyProgress_frameT (r : Raft) (id : Nat) (f : Progress → Progress) :
    FrameT r (r.modifyProgress id f) := by
  simp [FrameT, core, modifyProgress]

theorem maybeCommit_frameT (r : Raft) : Res.Post (fun x => FrameT r x.1) r.maybeCommit :=
  Res.post_intro fun _ h => maybeCommit_parts (P := FrameT r) h (FrameT.refl r) (fun _ => rfl)
    (fun _ p => p.trans (modifyProgress_frameT _ _ _))

theorem maybeIncreaseUncommittedSize_frameT {r r1 : Raft} {es : List Entry} {b : Bool}
    (h : r.maybeIncreaseUncommittedSize es = (r1, b)) : FrameT r r1 := by
  unfold maybeIncreaseUncommittedSize at h
  split at h
  cases h; rfl

theorem appendEntry_frameT (r : Raft) (es : List Entry) :
    Res.Post (fun x => FrameT r x.1) (r.appendEntry es) :=
  Res.post_intro fun _ h => appendEntry_parts (P := FrameT r) h (FrameT.refl r)
    maybeIncreaseUncommittedSize_frameT
    (fun _ p => p)

theorem handleReadyReadIndex_frameT (r : Raft) (req : Message) (index : Nat) :
    Res.Post (fun x => FrameT r x.1 ∧ ∀ m, x.2 = some m → m.msgType = .msgReadIndexResp)
      (r.handleReadyReadIndex req index) := by
  unfold handleReadyReadIndex
  split
  · split
    · trivial
    · simp [Res.Post, FrameT, core]
  · simp [Res.Post, FrameT.refl]

theorem respondReadStates_frameT (r : Raft) (rss : List ReadIndexStatus) :
    Res.Post (fun x => FrameT r x) (r.respondReadStates rss) :=
  Res.post_intro fun _ h => respondReadStates_parts (P := FrameT r) h (FrameT.refl r)
    (fun hr p => p.trans ((handleReadyReadIndex_frameT _ _ _).of_eq hr).1)
    (fun hs ty p => p.trans ((send_frameT _ _ (by simp [ty])).of_eq hs))

/-! ### leader-side handlers -/

theorem checkQuorumActive_frameT (r : Raft) : FrameT r r.checkQuorumActive.1 := by
  simp [FrameT, core, checkQuorumActive, ProgressTracker.quorumRecentlyActive]

theorem filterProposal_frameT (es : List Entry) (r : Raft) (i : Nat) :
    FrameT r (r.filterProposal i es).1 :=
  filterProposal_parts (P := FrameT r)
    (fun he p => p.trans (filterProposalEntry_parts (P := FrameT _) he (FrameT.refl _) fun _ => rfl))
    es r _ i _ rfl (FrameT.refl r)

theorem handleHeartbeatResponse_frameT (r : Raft) (m : Message) :
    Res.Post (fun x => FrameT r x) (r.handleHeartbeatResponse m) :=
  Res.post_intro fun _ h => handleHeartbeatResponse_parts (P := FrameT r) h (FrameT.refl r)
    (fun ha => (sendAppendPr_frameT r m.frm _).of_eq ha)
    (fun _ p => p.trans (set_frameT _ _ _))
    (fun _ p => p)
    (fun hr p => p.trans ((respondReadStates_frameT _ _).of_eq hr))

/-- what `handle_append_response` does to a transfer: everything it does keeps `FrameT`, except the
`MsgTimeoutNow` it may end with, sent to the transferee that has caught up -/
theorem handleAppendResponse_xfer {r r' : Raft} {m : Message}
    (h : r.handleAppendResponse m = .ok r') :
    ∃ r3, FrameT r r3 ∧ (r' = r3 ∨ ∃ p, r3.leadTransferee = some m.frm ∧ r3.prs.get m.frm = some p ∧
      p.matched = r3.raftLog.lastIndex ∧ r3.sendTimeoutNow m.frm = .ok r') := by
  have keep : ∀ {r1 : Raft}, FrameT r r1 → ∃ r3, FrameT r r3 ∧ (r1 = r3 ∨ ∃ p,
      r3.leadTransferee = some m.frm ∧ r3.prs.get m.frm = some p ∧
      p.matched = r3.raftLog.lastIndex ∧ r3.sendTimeoutNow m.frm = .ok r1) :=
    fun q => ⟨_, q, .inl rfl⟩
  refine handleAppendResponse_parts2 (R := FrameT r) h (keep (FrameT.refl r))
    (fun _ _ _ => set_frameT r m.frm _)
    (fun hx q => keep (q.trans ((sendAppend_frameT _ _).of_eq hx)))
    (fun _ _ _ => keep (set_frameT r m.frm _)) (fun _ _ _ => keep (set_frameT r m.frm _)) ?_
  intro _ _ r2 _ _ _ ha
  exact handleAppendResponseAccepted_parts2 (R := FrameT r) ha (fun _ => set_frameT r m.frm _)
    (fun hc q => q.trans ((maybeCommit_frameT _).of_eq hc))
    (fun hb q => q.trans ((bcastAppend_frameT _).of_eq hb))
    (fun hx q => q.trans ((sendAppend_frameT _ _).of_eq hx))
    (fun hx q => q.trans ((sendAppendAggressively_frameT _ _).of_eq hx))
    keep (fun hl hg hm hs q => ⟨_, q, .inr ⟨_, hl, hg, hm, hs⟩⟩)

theorem handleSnapshotStatus_frameT (r : Raft) (m : Message) : FrameT r (r.handleSnapshotStatus m) := by
  unfold handleSnapshotStatus
  split
  · exact FrameT.refl _
  · split
    · exact FrameT.refl _
    · exact set_frameT _ _ _

theorem handleUnreachable_frameT (r : Raft) (m : Message) : FrameT r (r.handleUnreachable m) := by
  unfold handleUnreachable
  split
  · exact FrameT.refl _
  · split
    · exact set_frameT _ _ _
    · exact FrameT.refl _

theorem sendVoteRequests_frameT (r : Raft) (ct : CampaignType) (voteMsg : MsgType) (term : Nat)
    (hv : voteMsg ≠ .msgTimeoutNow) :
    Res.Post (fun x => FrameT r x) (r.sendVoteRequests ct voteMsg term) :=
  Res.post_intro fun _ h => sendVoteRequests_parts (P := FrameT r) h (FrameT.refl r)
    (fun hs ty p => p.trans ((send_frameT _ _ (ty ▸ hv)).of_eq hs))

theorem sendRequestSnapshot_frameT (r : Raft) : Res.Post (fun x => FrameT r x) r.sendRequestSnapshot :=
  Res.post_intro fun _ h => sendRequestSnapshot_parts (P := FrameT r) h (FrameT.refl r)
    (fun hs ty p => p.trans ((send_frameT _ _ (by simp [ty])).of_eq hs))

theorem handleAppendEntries_frameT (r : Raft) (m : Message) :
    Res.Post (fun x => FrameT r x) (r.handleAppendEntries m) :=
  Res.post_intro fun _ h => handleAppendEntries_parts (P := FrameT r) h (FrameT.refl r)
    (fun hq p => p.trans ((sendRequestSnapshot_frameT _).of_eq hq))
    (fun _ => rfl)
    (fun hs ty p => p.trans ((send_frameT _ _ (by simp [ty])).of_eq hs))

theorem handleHeartbeat_frameT (r : Raft) (m : Message) :
    Res.Post (fun x => FrameT r x) (r.handleHeartbeat m) :=
  Res.post_intro fun _ h => handleHeartbeat_parts (P := FrameT r) h
    (fun _ => rfl)
    (fun hq p => p.trans ((sendRequestSnapshot_frameT _).of_eq hq))
    (fun hs ty p => p.trans ((send_frameT _ _ (by simp [ty])).of_eq hs))

/-! ### role changes: the outgoing queue is untouched -/

theorem reset_msgs (r : Raft) (t : Nat) : (r.reset t).msgs = r.msgs := by
  rw [reset_eq]

theorem reset_leadTransferee (r : Raft) (t : Nat) : (r.reset t).leadTransferee = none := by
  rw [reset_eq]

theorem becomeFollower_leadTransferee (r : Raft) (t l : Nat) :
    (r.becomeFollower t l).leadTransferee = none := by
  unfold becomeFollower; exact reset_leadTransferee r t

theorem becomeFollower_msgs (r : Raft) (t l : Nat) : (r.becomeFollower t l).msgs = r.msgs := by
  unfold becomeFollower; exact reset_msgs r t

/-- `r'` has the same `MsgTimeoutNow` messages queued as `r` -/
def TN (r r' : Raft) : Prop := tnOf r'.msgs = tnOf r.msgs

theorem TN.refl (r : Raft) : TN r r := rfl
theorem TN.trans {a b c : Raft} (h1 : TN a b) (h2 : TN b c) : TN a c := by
  unfold TN at *; rw [h2, h1]
theorem FrameT.toTN {r r' : Raft} (h : FrameT r r') : TN r r' := h.tn
theorem TN.of_msgs {r r' : Raft} (h : r'.msgs = r.msgs) : TN r r' := by unfold TN; rw [h]

/-! ### who may touch `lead_transferee`

`Rel r r'`: the pending transfer was dropped, or it is unchanged and a leader stayed leader.  Every
function of the node model except `handle_transfer_leader` satisfies it. -/

def Rel (r r' : Raft) : Prop :=
  r'.leadTransferee = none ∨
  (r'.leadTransferee = r.leadTransferee ∧ (r.state = .leader → r'.state = .leader))

theorem Rel.refl (r : Raft) : Rel r r := Or.inr ⟨rfl, fun h => h⟩
theorem Rel.trans {a b c : Raft} (h1 : Rel a b) (h2 : Rel b c) : Rel a c := by
  rcases h2 with h2 | ⟨h2, h2'⟩
  · exact Or.inl h2
  · rcases h1 with h1 | ⟨h1, h1'⟩
    · exact Or.inl (h2.trans h1)
    · exact Or.inr ⟨h2.trans h1, fun h => h2' (h1' h)⟩
theorem FrameT.toRel {r r' : Raft} (h : FrameT r r') : Rel r r' :=
  Or.inr ⟨h.leadTransferee, fun hs => h.state.trans hs⟩
theorem Rel.of_none {r r' : Raft} (h : r'.leadTransferee = none) : Rel r r' := Or.inl h
theorem Rel.of_same {r r' : Raft} (h1 : r'.leadTransferee = r.leadTransferee)
    (h2 : r'.state = r.state) : Rel r r' := Or.inr ⟨h1, fun hs => h2.trans hs⟩

/-- `TN` and `Rel` together: what the election and follower side of the node model does to a
leadership transfer — it queues no `MsgTimeoutNow` and starts no transfer. -/
structure TR (r r' : Raft) : Prop where
  tn : TN r r'
  rel : Rel r r'

theorem TR.refl (r : Raft) : TR r r := ⟨TN.refl r, Rel.refl r⟩
theorem TR.trans {a b c : Raft} (h1 : TR a b) (h2 : TR b c) : TR a c :=
  ⟨h1.tn.trans h2.tn, h1.rel.trans h2.rel⟩
theorem FrameT.toTR {r r' : Raft} (h : FrameT r r') : TR r r' := ⟨h.toTN, h.toRel⟩
theorem TR.of_same {r r' : Raft} (hm : r'.msgs = r.msgs)
    (hl : r'.leadTransferee = r.leadTransferee) (hs : r'.state = r.state) : TR r r' :=
  ⟨TN.of_msgs hm, Rel.of_same hl hs⟩
theorem TR.of_none {r r' : Raft} (hm : r'.msgs = r.msgs) (hl : r'.leadTransferee = none) :
    TR r r' :=
  ⟨TN.of_msgs hm, Rel.of_none hl⟩

theorem send_tr {r r' : Raft} {m : Message} (h : r.send m = .ok r')
    (hm : m.msgType ≠ .msgTimeoutNow) : TR r r' :=
  ((send_frameT r m hm).of_eq h).toTR

theorem reset_tr (r : Raft) (t : Nat) : TR r (r.reset t) :=
  TR.of_none (reset_msgs r t) (reset_leadTransferee r t)

theorem becomeFollower_tr (r : Raft) (t l : Nat) : TR r (r.becomeFollower t l) :=
  TR.of_none (becomeFollower_msgs r t l) (becomeFollower_leadTransferee r t l)

theorem becomeCandidate_tr (r : Raft) : Res.Post (fun x => TR r x) r.becomeCandidate := by
  unfold becomeCandidate
  split
  · trivial
  · split
    · trivial
    · -- the vote for itself and the new role touch neither the queue nor the transferee
      have hm := reset_msgs r (r.term + 1)
      have hl := reset_leadTransferee r (r.term + 1)
      generalize r.reset (r.term + 1) = r1 at hm hl
      exact Res.post_ok (TR.of_none hm hl)

theorem becomePreCandidate_tr (r : Raft) : Res.Post (fun x => TR r x) r.becomePreCandidate := by
  unfold becomePreCandidate
  split
  · trivial
  · rename_i hs
    exact Res.post_ok ⟨TN.refl r, Or.inr ⟨rfl, fun h => absurd h hs⟩⟩

theorem becomeLeader_tr (r : Raft) : Res.Post (fun x => TR r x) r.becomeLeader :=
  Res.post_intro fun _ h => becomeLeader_parts (P := TR r) h (TR.refl r)
    (fun t p => p.trans (reset_tr _ t))
    (fun _ _ p => ⟨p.tn, p.rel.trans (Or.inr ⟨rfl, fun _ => rfl⟩)⟩)
    (fun ha p => p.trans ((appendEntry_frameT _ _).of_eq ha).toTR)

theorem poll_tr (r : Raft) (frm : Nat) (t : MsgType) (vote : Bool) :
    Res.Post (fun x => TR r x.1) (r.poll frm t vote) :=
  Res.post_intro fun _ h => poll_parts (P := TR r) h (TR.refl r)
    (fun _ _ p => p.trans (TR.of_same rfl rfl rfl))
    (fun hl p => p.trans ((becomeLeader_tr _).of_eq hl))
    (fun hb p => p.trans ((bcastAppend_frameT _).of_eq hb).toTR)
    (fun p => p.trans (becomeFollower_tr _ _ _))
    (fun hp p => p.trans ((becomePreCandidate_tr _).of_eq hp))
    (fun hc p => p.trans ((becomeCandidate_tr _).of_eq hc))
    (fun hr ty p => p.trans
      ((sendVoteRequests_frameT _ _ _ _ (by rcases ty with ty | ty <;> simp [ty])).of_eq hr).toTR)

theorem campaign_tr (r : Raft) (ct : CampaignType) : Res.Post (fun x => TR r x) (r.campaign ct) :=
  Res.post_intro fun _ h => campaign_parts (P := TR r) h (TR.refl r)
    (fun _ _ p => p.trans (TR.of_same rfl rfl rfl))
    (fun hl p => p.trans ((becomeLeader_tr _).of_eq hl))
    (fun hb p => p.trans ((bcastAppend_frameT _).of_eq hb).toTR)
    (fun p => p.trans (becomeFollower_tr _ _ _))
    (fun hp p => p.trans ((becomePreCandidate_tr _).of_eq hp))
    (fun hc p => p.trans ((becomeCandidate_tr _).of_eq hc))
    (fun hr ty p => p.trans
      ((sendVoteRequests_frameT _ _ _ _ (by rcases ty with ty | ty <;> simp [ty])).of_eq hr).toTR)

theorem hup_tr (r : Raft) (b : Bool) : Res.Post (fun x => TR r x) (r.hup b) :=
  Res.post_intro fun _ h => hup_parts (P := TR r) h (TR.refl r)
    fun _ hc => (campaign_tr r _).of_eq hc

theorem maybeCommitByVote_tr (r : Raft) (m : Message) :
    Res.Post (fun x => TR r x) (r.maybeCommitByVote m) :=
  Res.post_intro fun _ h => maybeCommitByVote_parts (P := TR r) h (TR.refl r)
    (fun _ => TR.of_same rfl rfl rfl) (fun p => p.trans (becomeFollower_tr _ _ _))

/-- `post_conf_change` (raft.rs:2743), for a relation `F` that the leader's replication and
read-index steps keep: (A) the leader was removed / demoted and steps down (fix F14), or (B) the node
is not leader or there is no incoming voter and only `promotable` changed, or (C) the state is
`F`-related to the one with the new `promotable` and at the end a transferee that is no longer a
voter has been dropped. -/
theorem postConfChange_spec_of {F : Raft → Raft → Prop} (r : Raft)
    (trans : ∀ {a b c}, F a b → F b c → F a c)
    (commit : ∀ {r1 r2 b}, r1.maybeCommit = .ok (r2, b) → F r1 r2)
    (bcast : ∀ {r1 r2}, r1.bcastAppend = .ok r2 → F r1 r2)
    (app : ∀ {r1 id pr r2 pr2 b}, r1.maybeSendAppend id pr false = .ok (r2, pr2, b) → F r1 r2)
    (set : ∀ r1 id pr, F r1 { r1 with prs := r1.prs.set id pr })
    (ro : ∀ r1 ro', F r1 { r1 with readOnly := ro' })
    (resp : ∀ {r1 r2 rss}, r1.respondReadStates rss = .ok r2 → F r1 r2) :
    Res.Post (fun x =>
        (r.state = .leader ∧ Joint.contains r.prs.voters r.id = false ∧
          x.1 = ({ r with promotable := false } : Raft).becomeFollower r.term 0) ∨
        ((r.state ≠ .leader ∨ r.prs.conf.incoming = []) ∧
          x.1 = { r with promotable := Joint.contains r.prs.voters r.id }) ∨
        (∃ r2, F { r with promotable := Joint.contains r.prs.voters r.id } r2 ∧
          r.state = .leader ∧ Joint.contains r.prs.voters r.id = true ∧ r.prs.conf.incoming ≠ [] ∧
           x.1 = match r2.leadTransferee with
            | some e => if !Joint.contains r2.prs.voters e then r2.abortLeaderTransfer else r2
            | none => r2))
      r.postConfChange := by
  unfold postConfChange
  dsimp only
  split
  · rename_i h
    simp only [Bool.and_eq_true, Bool.not_eq_true', beq_iff_eq] at h
    refine Res.post_ok (Or.inl ⟨h.2, h.1, ?_⟩)
    rw [h.1]
  · rename_i h1
    split
    · rename_i h
      refine Res.post_ok (Or.inr (Or.inl ⟨?_, rfl⟩))
      rcases h with h | h
      · exact Or.inl h
      · right
        simpa [Configuration.toConfState] using h
    · rename_i h2
      have hl : r.state = .leader := by
        apply Classical.byContradiction; intro hc; exact h2 (Or.inl hc)
      have hv : Joint.contains r.prs.voters r.id = true := by
        cases hc : Joint.contains r.prs.voters r.id with
        | true => rfl
        | false => simp [hc, hl] at h1
      have hi : r.prs.conf.incoming ≠ [] := by
        intro hc; apply h2; right; simp [Configuration.toConfState, hc]
      apply Res.post_bind (P := fun x => F { r with promotable := Joint.contains r.prs.voters r.id } x)
      · split
        · rename_i r1 heq
          exact Res.post_intro fun _ hb => trans (commit heq) (bcast hb)
        · rename_i r1 heq
          refine Res.post_intro fun _ hf => forEachPeer_parts (P := F _) hf (commit heq)
            (fun ha p => ?_) (fun _ _ p => trans p (set _ _ _))
          obtain ⟨⟨r3, pr3, b⟩, hm, hk⟩ := Res.bind_eq_ok ha
          cases hk; exact trans p (app hm)
        · trivial
        · trivial
      · intro r1 hr1
        apply Res.post_bind (P := fun x => F { r with promotable := Joint.contains r.prs.voters r.id } x)
        · split
          · exact hr1
          · split
            · split
              · apply Res.post_bind (P := fun _ => True)
                · exact Res.post_intro (fun _ _ => trivial)
                · intro a _
                  exact Res.post_intro fun _ hr =>
                    trans (trans (trans hr1 (ro _ _)) (ro _ _)) (resp hr)
              · exact trans hr1 (ro _ _)
            · exact trans hr1 (ro _ _)
        · intro r2 hr2
          exact Res.post_ok (Or.inr (Or.inr ⟨r2, hr2, hl, hv, hi, rfl⟩))

theorem postConfChange_spec (r : Raft) :
    Res.Post (fun x =>
        (r.state = .leader ∧ Joint.contains r.prs.voters r.id = false ∧
          x.1 = ({ r with promotable := false } : Raft).becomeFollower r.term 0) ∨
        ((r.state ≠ .leader ∨ r.prs.conf.incoming = []) ∧
          x.1 = { r with promotable := Joint.contains r.prs.voters r.id }) ∨
        (∃ r2, FrameT { r with promotable := Joint.contains r.prs.voters r.id } r2 ∧
          r.state = .leader ∧ Joint.contains r.prs.voters r.id = true ∧ r.prs.conf.incoming ≠ [] ∧
           x.1 = match r2.leadTransferee with
            | some e => if !Joint.contains r2.prs.voters e then r2.abortLeaderTransfer else r2
            | none => r2))
      r.postConfChange :=
  postConfChange_spec_of r FrameT.trans
    (fun hc => (maybeCommit_frameT _).of_eq hc) (fun hb => (bcastAppend_frameT _).of_eq hb)
    (fun ha => (maybeSendAppend_frameT _ _ _ _).of_eq ha) set_frameT (fun _ _ => rfl)
    (fun hr => (respondReadStates_frameT _ _).of_eq hr)

theorem postConfChange_tr (r : Raft) : Res.Post (fun x => TR r x.1) r.postConfChange := by
  apply Res.post_mono (postConfChange_spec r)
  intro a h
  have prom : ∀ b, TR r { r with promotable := b } := fun _ => TR.of_same rfl rfl rfl
  rcases h with ⟨_, _, h⟩ | ⟨_, h⟩ | ⟨r2, hf, _, _, _, h⟩
  · rw [h]; exact (prom _).trans (becomeFollower_tr _ _ _)
  · rw [h]; exact prom _
  · rw [h]
    have hr : TR r r2 := (prom _).trans hf.toTR
    split
    · split
      · exact hr.trans (TR.of_none rfl rfl)
      · exact hr
    · exact hr

theorem postConfChange_tn (r : Raft) : Res.Post (fun x => TN r x.1) r.postConfChange :=
  Res.post_mono (postConfChange_tr r) fun _ h => h.tn

theorem postConfChange_rel (r : Raft) : Res.Post (fun x => Rel r x.1) r.postConfChange :=
  Res.post_mono (postConfChange_tr r) fun _ h => h.rel

theorem reset_conf (r : Raft) (t : Nat) : (r.reset t).prs.conf = r.prs.conf := by
  rw [reset_eq]; rfl

theorem becomeFollower_conf (r : Raft) (t l : Nat) :
    (r.becomeFollower t l).prs.conf = r.prs.conf := by
  unfold becomeFollower; exact reset_conf r t

/-- `post_conf_change` never changes the configuration -/
theorem postConfChange_conf (r : Raft) :
    Res.Post (fun x => x.1.prs.conf = r.prs.conf) r.postConfChange := by
  apply Res.post_mono (postConfChange_spec r)
  intro a h
  rcases h with ⟨_, _, h⟩ | ⟨_, h⟩ | ⟨r2, hf, _, _, _, h⟩
  · rw [h]; exact becomeFollower_conf _ _ _
  · rw [h]
  · rw [h]
    have := hf.conf
    split
    · split <;> exact this
    · exact this

theorem restore_tr (r : Raft) (snap : Snapshot) : Res.Post (fun x => TR r x.1) (r.restore snap) :=
  Res.post_intro fun _ h => restore_parts (P := TR r) h (TR.refl r)
    (fun _ => becomeFollower_tr _ _ _)
    (fun _ _ => TR.of_same rfl rfl rfl)
    (fun _ _ _ => TR.of_same rfl rfl rfl)
    (fun _ => fun hp p => p.trans ((postConfChange_tr _).of_eq hp))
    (fun _ p => p.trans (TR.of_same rfl rfl rfl))

theorem handleSnapshot_tr (r : Raft) (m : Message) :
    Res.Post (fun x => TR r x) (r.handleSnapshot m) :=
  Res.post_intro fun _ h => handleSnapshot_parts (P := TR r) h
    (fun hr => (restore_tr r m.snapshot).of_eq hr)
    (fun hs ty p => p.trans (send_tr hs (by simp [ty])))

theorem stepCandidate_tr (r : Raft) (m : Message) :
    Res.Post (fun x => TR r x.1) (r.stepCandidate m) :=
  Res.post_intro fun _ h => stepCandidate_parts (P := TR r) h (TR.refl r)
    (fun _ => becomeFollower_tr _ _ _)
    (fun ha _ p => p.trans ((handleAppendEntries_frameT _ m).of_eq ha).toTR)
    (fun hb _ p => p.trans ((handleHeartbeat_frameT _ m).of_eq hb).toTR)
    (fun hs _ p => p.trans ((handleSnapshot_tr _ m).of_eq hs))
    (fun hp _ _ => (poll_tr r _ _ _).of_eq hp)
    (fun hb p => p.trans ((maybeCommitByVote_tr _ m).of_eq hb))

theorem stepTerm_tr (r : Raft) (m : Message) : Res.Post (fun x => TR r x.1) (r.stepTerm m) :=
  Res.post_intro fun _ h => stepTerm_parts (P := TR r) h (TR.refl r)
    (fun _ _ p => p.trans (becomeFollower_tr _ _ _))
    (fun hs ty p => p.trans (send_tr hs (by simp [ty])))
    (fun hs ty p => p.trans (send_tr hs (by simp [ty])))

theorem stepVote_tr (r : Raft) (m : Message) : Res.Post (fun x => TR r x) (r.stepVote m) :=
  Res.post_intro fun _ h => stepVote_parts (P := TR r) h
    (fun hs ty => send_tr hs fun e => by
      rw [e] at ty; unfold voteRespMsgType at ty; split at ty <;> cases ty)
    (fun p => p.trans (TR.of_same rfl rfl rfl))
    (fun hb p => p.trans ((maybeCommitByVote_tr _ m).of_eq hb))

theorem stepFollower_tr (r : Raft) (m : Message) :
    Res.Post (fun x => TR r x.1) (r.stepFollower m) :=
  have lead : TR r { r with electionElapsed := 0, leaderId := m.frm } := TR.of_same rfl rfl rfl
  Res.post_intro fun _ h => stepFollower_parts (P := TR r) h (TR.refl r)
    (fun hs ty => send_tr hs (by rcases ty with ty | ty | ty <;> simp [ty]))
    lead
    (fun ha _ p => p.trans ((handleAppendEntries_frameT _ m).of_eq ha).toTR)
    (fun hb _ p => p.trans ((handleHeartbeat_frameT _ m).of_eq hb).toTR)
    (fun hs _ p => p.trans ((handleSnapshot_tr _ m).of_eq hs))
    (fun hh _ _ => (hup_tr r true).of_eq hh)
    (fun _ _ => TR.of_same rfl rfl rfl)

/-! ### the two halves of `TR`, as `RaftProps.C17` uses them -/

theorem hup_tn (r : Raft) (b : Bool) : Res.Post (fun x => TN r x) (r.hup b) :=
  Res.post_mono (hup_tr r b) fun _ h => h.tn

theorem stepCandidate_tn (r : Raft) (m : Message) :
    Res.Post (fun x => TN r x.1) (r.stepCandidate m) :=
  Res.post_mono (stepCandidate_tr r m) fun _ h => h.tn

theorem stepFollower_tn (r : Raft) (m : Message) :
    Res.Post (fun x => TN r x.1) (r.stepFollower m) :=
  Res.post_mono (stepFollower_tr r m) fun _ h => h.tn

theorem stepTerm_tn (r : Raft) (m : Message) : Res.Post (fun x => TN r x.1) (r.stepTerm m) :=
  Res.post_mono (stepTerm_tr r m) fun _ h => h.tn

theorem stepVote_tn (r : Raft) (m : Message) : Res.Post (fun x => TN r x) (r.stepVote m) :=
  Res.post_mono (stepVote_tr r m) fun _ h => h.tn

theorem hup_rel (r : Raft) (b : Bool) : Res.Post (fun x => Rel r x) (r.hup b) :=
  Res.post_mono (hup_tr r b) fun _ h => h.rel

theorem stepCandidate_rel (r : Raft) (m : Message) :
    Res.Post (fun x => Rel r x.1) (r.stepCandidate m) :=
  Res.post_mono (stepCandidate_tr r m) fun _ h => h.rel

theorem stepFollower_rel (r : Raft) (m : Message) :
    Res.Post (fun x => Rel r x.1) (r.stepFollower m) :=
  Res.post_mono (stepFollower_tr r m) fun _ h => h.rel

theorem stepTerm_rel (r : Raft) (m : Message) : Res.Post (fun x => Rel r x.1) (r.stepTerm m) :=
  Res.post_mono (stepTerm_tr r m) fun _ h => h.rel

theorem stepVote_rel (r : Raft) (m : Message) : Res.Post (fun x => Rel r x) (r.stepVote m) :=
  Res.post_mono (stepVote_tr r m) fun _ h => h.rel

end Raft
end RaftModel
