import RaftProofs.ClusterRead4F

/-!
Cluster-level ReadIndex safety with forwarded reads, helper lemmas part G: what ONE call of `Node.call`
does to the part of a node the read path uses — `call_rd` for every `NodeOp` other than `read_index`
(and other than the delivery of a `MsgReadIndex` / `MsgSnapshot`), and `readIndex_cases` for
`read_index`.
-/
namespace RaftModel
namespace Raft
namespace RD
open CV Node
namespace R4

/-- the per-call relation of the read path, with the voter configuration `V` the quorum was checked
against made explicit -/
structure ROut (V : JointConfig) (a : Raft) (m : Message) (r : Raft) : Prop where
  id : r.id = a.id
  tle : a.term ≤ r.term
  opt : r.readOnly.option = a.readOnly.option
  pend : ∀ K rs, (K, rs) ∈ r.readOnly.pendingReadIndex → r.term = a.term ∧
    (∃ rs0, (K, rs0) ∈ a.readOnly.pendingReadIndex ∧ rs.req = rs0.req ∧ rs.index = rs0.index) ∧
    ∀ u ∈ rs.acks, AckOk a m K u
  queue : ∃ d, r.readOnly.readIndexQueue = a.readOnly.readIndexQueue.drop d
  rst : ∀ x ∈ r.readStates, x ∈ a.readStates ∨ m.msgType = .msgReadIndexResp ∨ Ans V a m x
  msgs : ∀ x ∈ r.msgs, x ∈ a.msgs ∨ rdT x.msgType = false ∨ HbOk a x ∨ HbrOk a m x ∨ RirOk V a m x

theorem RInv.out {a r : Raft} {m : Message} (h : RInv a m r) : ROut a.prs.voters a m r :=
  ⟨h.id, h.tle, h.opt, h.pend, h.queue, h.rst, h.msgs⟩

/-- the anchor may differ in fields the invariant does not read -/
theorem RInv.rebaseRand {a r : Raft} {m : Message} {rnd : Option Nat}
    (h : RInv ({ a with nextRand := rnd } : Raft) m r) : RInv a m r :=
  ⟨h.id, h.tle, h.opt, h.pend, h.queue, h.conf, h.rst, h.msgs⟩

theorem applyConfChange_out (a : Raft) (cc : ConfChangeV2) :
    Res.Post (fun x => ∃ V, (V = a.prs.voters ∨ V = x.1.prs.voters) ∧ ROut V a mLocal x.1)
      (a.applyConfChange cc) := by
  unfold applyConfChange
  dsimp only
  split
  · exact ⟨_, .inl rfl, (RInv.refl a mLocal).out⟩
  · rename_i cfg changes _
    apply Res.post_bind (postConfChange_rinv (RInv.refl
      ({ a with prs := a.prs.applyConf cfg changes a.raftLog.lastIndex } : Raft) mLocal))
    rintro ⟨r', cs⟩ h
    dsimp only at h ⊢
    have hv : ({ a with prs := a.prs.applyConf cfg changes a.raftLog.lastIndex } : Raft).prs.voters
        = r'.prs.voters := by
      unfold ProgressTracker.voters; rw [h.conf]
    refine ⟨r'.prs.voters, .inr rfl, h.id, h.tle, h.opt, h.pend, h.queue, ?_, ?_⟩
    · intro x hx
      have := h.rst x hx
      rw [hv] at this
      exact this
    · intro x hx
      have := h.msgs x hx
      rw [hv] at this
      exact this

/-! ### `read_index` -/

/-- what a `read_index(K)` call does -/
inductive RiOut (a : Raft) (K : Bytes) (r : Raft) : Prop
  /-- dropped, or forwarded to the leader: nothing the read path reads has changed -/
  | frame (h : RF a r)
  /-- forwarded to the leader: a follower with a known leader queues the request -/
  | fwd (hfo : a.state = .follower) (hlead : a.leaderId ≠ 0) (hcore : rcore r = rcore a)
      (hmsgs : r.msgs = a.msgs ++
        [a.sendFill { msgType := .msgReadIndex, to := a.leaderId, entries := [{ data := K }] }])
  /-- answered at once: single-voter group or lease-based reads -/
  | now (hs : a.prs.isSingleton = true ∨ a.readOnly.option ≠ .safe)
  /-- the leader has committed in its term: the request is registered (unless it is pending already)
  with the commit index as read index, and heartbeats carrying `K` are queued -/
  | reg (hl : a.state = .leader) (hc : a.commitToCurrentTerm = .ok true) (ro : ReadOnly)
      (hadd : a.readOnly.addRequest a.raftLog.committed (riMsg K) a.id = .ok ro)
      (hcore : rcore r = rcore ({ a with readOnly := ro } : Raft))
      (hmsgs : ∀ x ∈ r.msgs, x ∈ a.msgs ∨ (x.msgType = .msgHeartbeat ∧ x.context = K))

theorem readIndex_cases {a r : Raft} {K : Bytes} (h : RawNode.readIndex a K = .ok r) :
    RiOut a K r := by
  unfold RawNode.readIndex at h
  obtain ⟨e, hstep⟩ := stepIgnore_inv h
  change a.step (riMsg K) = .ok (r, e) at hstep
  cases step_dispatch (stepTerm_same (.inl rfl)) hstep with
  | hup ty => cases ty
  | vote ty => rcases ty with ty | ty <;> cases ty
  | candidate _ _ hstep =>
    unfold stepCandidate at hstep
    simp only [riMsg] at hstep
    cases hstep; exact .frame (RF.refl _)
  | follower _ hfo hstep =>
    unfold stepFollower at hstep
    simp only [riMsg] at hstep
    split at hstep
    · cases hstep; exact .frame (RF.refl _)
    · rename_i hlead
      obtain ⟨r2, hs, hr⟩ := Res.bind_eq_ok hstep
      cases hr
      rw [send_eq a r _ hs]
      exact .fwd hfo hlead rfl rfl
  | leader _ hl hstep =>
    unfold stepLeader at hstep
    simp only [riMsg] at hstep
    split at hstep
    · cases hstep
    · cases hstep
    · cases hstep; exact .frame (RF.refl _)
    · rename_i hc
      split at hstep
      · rename_i hsing
        refine .now (.inl ?_)
        simp only [Bool.and_eq_true] at hsing
        exact hsing.1
      · split at hstep
        · rename_i hsafe
          simp only [List.head?_cons] at hstep
          obtain ⟨ro, hadd, hb⟩ := Res.bind_eq_ok hstep
          obtain ⟨r2, hbc, hr⟩ := Res.bind_eq_ok hb
          cases hr
          obtain ⟨k1, k2⟩ := Res.Post.of_eq (bcastHeartbeatWithCtx_out _ _) hbc
          exact .reg hl hc ro hadd k1 k2
        · rename_i hlease
          exact .now (.inr (by rw [hlease]; decide))

/-- the outcome does not read the random draw -/
theorem riOut_rebase {a r : Raft} {K : Bytes} {rnd : Option Nat}
    (ho : RiOut ({ a with nextRand := rnd } : Raft) K r) : RiOut a K r := by
  cases ho with
  | frame hf => exact .frame hf
  | fwd hfo hlead hcore hmsgs => exact .fwd hfo hlead hcore hmsgs
  | now hs => exact .now hs
  | reg hl hc ro hadd hcore hmsgs => exact .reg hl hc ro hadd hcore hmsgs

/-- … as one call of a node -/
theorem call_riOut {st st' : NState} {rnd : Option Nat} {K : Bytes} {res : OpRes}
    (h : Node.call st rnd (.readIndex K) = .ok (res, st')) : RiOut st.raft K st'.raft := by
  cases applyOp_parts h with
  | readIndex hx => exact riOut_rebase (readIndex_cases hx)

/-! ### one call of a node -/

/-- **one call of a node** (any `NodeOp` but `read_index`, `drain`; no `MsgReadIndex` / `MsgSnapshot`
is stepped) -/
theorem call_rd (st st' : NState) (rnd : Option Nat) (op : NodeOp) (res : OpRes)
    (hri : ∀ K, op ≠ .readIndex K) (hdr : op ≠ .drain)
    (hm : ∀ m, op = .step m ∨ op = .rstep m →
      m.msgType ≠ .msgReadIndex ∧ m.msgType ≠ .msgSnapshot)
    (h : Node.call st rnd op = .ok (res, st')) :
    ∃ V, (V = st.raft.prs.voters ∨ V = st'.raft.prs.voters) ∧
      ROut V st.raft (opMsg op) st'.raft := by
  unfold Node.call at h
  generalize hst0 : ({ st with raft := { st.raft with nextRand := rnd } } : NState) = st0 at h
  have hrefl : RInv st.raft mLocal st0.raft := by
    rw [← hst0]; exact (RInv.refl st.raft mLocal).rf ⟨rfl, rfl⟩
  have rebase : ∀ {m : Message} {r : Raft}, RInv st0.raft m r → RInv st.raft m r := by
    rw [← hst0]; exact RInv.rebaseRand
  have fin : ∀ {m : Message} {r : Raft}, RInv st.raft m r →
      ∃ V, (V = st.raft.prs.voters ∨ V = r.prs.voters) ∧ ROut V st.raft m r :=
    fun hh => ⟨_, .inl rfl, hh.out⟩
  have conf : ∀ {cc : ConfChangeV2} {x : Raft × Except ErrKind ConfState},
      st0.raft.applyConfChange cc = .ok x →
      ∃ V, (V = st.raft.prs.voters ∨ V = x.1.prs.voters) ∧ ROut V st.raft mLocal x.1 := by
    rw [← hst0]
    intro cc x heq
    obtain ⟨V, hV, ho⟩ := Res.Post.of_eq (applyConfChange_out _ cc) heq
    exact ⟨V, hV, ho.id, ho.tle, ho.opt, ho.pend, ho.queue, ho.rst, ho.msgs⟩
  cases applyOp_parts h with
  | tick hx =>
    have hr := Res.Post.of_eq (tick_rinv _) hx
    exact fin (rebase hr)
  | step hx =>
    obtain ⟨m1, m2⟩ := hm _ (.inl rfl)
    have hr := Res.Post.of_eq (rawStep_rinv _ _ m1 m2) hx
    exact fin (rebase hr)
  | rstep hx =>
    obtain ⟨m1, m2⟩ := hm _ (.inr rfl)
    have hr := Res.Post.of_eq (step_rinv (RInv.refl _ _) m1 m2) hx
    exact fin (rebase hr)
  | propose hx | proposeCc hx | campaign hx =>
    have hr := Res.Post.of_eq (localStep_rinv _ _ rfl (by simp) (by simp)) hx
    exact fin (rebase hr)
  | readIndex => exact absurd rfl (hri _)
  | transferLeader hx | reportUnreachable hx | reportSnapshot hx =>
    have hr := Res.Post.of_eq (localStepIgnore_rinv _ _ rfl (by simp) (by simp)) hx
    exact fin (rebase hr)
  | ping hx =>
    unfold Raft.ping at hx
    split at hx
    · exact fin (Res.Post.of_eq (bcastHeartbeat_rinv hrefl) hx)
    · cases hx; exact fin hrefl
  | requestSnapshot hx =>
    exact fin (hrefl.rf (Res.Post.of_eq (P := fun x => RF _ x.1) (requestSnapshot_rf _) hx))
  | confChanged hx | confRefused hx =>
    exact conf hx
  | stabilize hx =>
    exact fin (stabilize_parts (Q := fun s => RInv st.raft mLocal s.raft) hx
      fun _ => hrefl.rf ⟨rfl, rfl⟩)
  | onPersistEntries hx => exact fin (hrefl.rf (Res.Post.of_eq (onPersistEntries_rf _ _ _) hx))
  | persistSnap hx =>
    exact fin (persistSnap_parts (Q := fun s => RInv st.raft mLocal s.raft) hx hrefl
      fun {_ _ l _} _ _ _ hp =>
        have hl : RF st0.raft { st0.raft with raftLog := l } := ⟨rfl, rfl⟩
        (hrefl.rf hl).rf (Res.Post.of_eq (onPersistSnap_rf _ _) hp))
  | commitApply hx =>
    exact fin (commitApply_parts (Q := fun s => RInv st.raft mLocal s.raft) hx hrefl
      (fun _ => hrefl.rf (reduceUncommittedSize_rf _ _))
      (fun h2 q => q.rf (Res.Post.of_eq (commitApply_rf _ _) h2))
      (fun q => q.rf ⟨rfl, rfl⟩))
  | drain => exact absurd rfl hdr
  | compact | triggerSnap | triggerLog | setPriority | setBatchAppend | skipBcastCommit
  | setCheckQuorum | setMaxApplyUnpersistedLogLimit | setMaxCommittedSizePerReady =>
    exact fin (hrefl.rf ⟨rfl, rfl⟩)
  | adjustMaxInflight hx =>
    exact fin (hrefl.rf (Res.Post.of_eq (adjustMaxInflightMsgs_rf _ _ _) hx))
  | maybeFreeInflightBuffers | clearCommitGroup => exact fin (hrefl.rf (mapProgress_rf _ _))
  | enableGroupCommit hx => exact fin (hrefl.rf (Res.Post.of_eq (enableGroupCommit_rf _ _) hx))
  | assignCommitGroups hx => exact fin (hrefl.rf (Res.Post.of_eq (assignCommitGroups_rf _ _) hx))
  | checkGroupCommitConsistent | staleFetch => exact fin hrefl
  | fetched _ _ _ hx => exact fin (hrefl.rf (Res.Post.of_eq (sendAppend_rf _ _) hx))
  | fetchedAll _ _ _ hx =>
    exact fin (hrefl.rf (Res.Post.of_eq (sendAppendAggressively_rf _ _) hx))

end R4

/-! ### `RawNode::new` -/

theorem Fresh.rs {r r' : Raft} (h : Fresh r) (hs : R4.RS r r') : Fresh r' := by
  obtain ⟨h1, h2, h3⟩ := h
  refine ⟨?_, ?_, by rw [hs.rs]; exact h3⟩
  · rcases hs.keep with ⟨g, _⟩ | g
    · rw [g]; exact h1
    · rw [g]; rfl
  · rcases hs.keep with ⟨g, _⟩ | g
    · rw [g]; exact h2
    · rw [g]; rfl

theorem raftNew_fresh (c : Config) (store : MemStorage) (rnd : Option Nat) (r : Raft)
    (h : Raft.new c store rnd = .ok (.ok r)) : Fresh r := by
  obtain ⟨_, log, prs, _, _, _, _, rfl⟩ := raftNew_inv h
  exact Fresh.rs (r := loadedNode c log rnd prs store.hardState) ⟨rfl, rfl, rfl⟩
    (R4.becomeFollower_rs _ _ 0 (Nat.le_refl _))

theorem boot_fresh (c : Config) (store : MemStorage) (rnd : Option Nat) (st : NState)
    (h : Node.boot c store rnd = .ok (.ok st)) : Fresh st.raft :=
  raftNew_fresh c store rnd st.raft (Node.boot_inv h).2.1

end RD
end Raft
end RaftModel
