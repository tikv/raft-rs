import RaftProofs.ClusterConf2A
import RaftProofs.ClusterConf2B

/-!
C09 at the cluster level, part 2C: **the apply cursor stays at or below the commit
index** (`AppOk`: `applied ≤ committed`; with `RaftLog.Inv`, `committed ≤ last_index`, this is the
cursor half of `LogOk`) — through every `NodeOp` (`call_appOk`), `send`, and a `restart` that obeys the
**restart contract** `Config.applied ≤` the stored commit index (`BootOk`; `Raft::new` takes
`Config.applied` unchecked: `RaftProps.PDGuards.PD_restart_gap`).  No log invariant, no compaction
contract, no batching hypothesis is needed for this half.
-/
namespace RaftModel
namespace Raft

/-- the apply cursor is at or below the commit index -/
def AppOk (r : Raft) : Prop := r.raftLog.applied ≤ r.raftLog.committed

theorem AppOk.of {a r : Raft} (h0 : AppOk a) (h1 : r.raftLog.applied = a.raftLog.applied)
    (h2 : a.raftLog.committed ≤ r.raftLog.committed) : AppOk r := by
  unfold AppOk at *; omega

/-- `applied ≤ committed` survives every log operation that `step` and `tick` reach: none moves the
apply cursor (`Ap.AP.keepsAll`), none lowers the commit index (`CP.keepsAll`) -/
theorem AppOk.keepsAll : RaftLog.KeepsAll (fun l => l.applied ≤ l.committed) := by
  have both : ∀ {l l' : RaftLog}, l'.applied = l.applied → l.committed ≤ l'.committed →
      l.applied ≤ l.committed → l'.applied ≤ l'.committed := by
    intro l l' ha hc p; omega
  have KA := fun a => Ap.AP.keepsAll (· = a)
  exact {
    snapshot := fun i p => both ((KA _).snapshot i rfl) ((CP.keepsAll _).snapshot i (Nat.le_refl _)) p
    append := fun h p => both ((KA _).append h rfl) ((CP.keepsAll _).append h (Nat.le_refl _)) p
    limit := fun _ p => p
    commitTo := fun h p => both ((KA _).commitTo h rfl) ((CP.keepsAll _).commitTo h (Nat.le_refl _)) p
    persisted := fun _ p => p
    restore := fun h p => both ((KA _).restore h rfl) ((CP.keepsAll _).restore h (Nat.le_refl _)) p }

theorem step_appOk {r r' : Raft} {m : Message} {e : Option RaftError} (h0 : AppOk r)
    (h : r.step m = .ok (r', e)) : AppOk r' :=
  step_lp AppOk.keepsAll h h0

theorem stepIgnore_appOk {r r' : Raft} {m : Message} (h0 : AppOk r)
    (h : r.stepIgnore m = .ok r') : AppOk r' :=
  stepIgnore_lp AppOk.keepsAll h h0

theorem tick_appOk {r r' : Raft} {b : Bool} (h0 : AppOk r) (h : r.tick = .ok (r', b)) :
    AppOk r' :=
  tick_lp AppOk.keepsAll h h0

theorem applyConfChange_appOk {r r' : Raft} {cc : ConfChangeV2} {res : Except ErrKind ConfState}
    (h0 : AppOk r) (h : r.applyConfChange cc = .ok (r', res)) : AppOk r' :=
  applyConfChange_lp AppOk.keepsAll h h0

theorem requestSnapshot_appOk {r r' : Raft} {e : Option RaftError} (h0 : AppOk r)
    (h : r.requestSnapshot = .ok (r', e)) : AppOk r' :=
  requestSnapshot_lp (Q := fun l => l.applied ≤ l.committed) h h0

/-- `Raft::commit_apply` (the checked form): the cursor moves to an index at or below the commit
index, which stays -/
theorem commitApply_appOk {r r' : Raft} {k : Nat} (h0 : AppOk r) (h : r.commitApply k = .ok r') :
    AppOk r' := by
  unfold Raft.commitApply at h
  refine commitApplyInternal_parts (P := AppOk) h (fun hl => ?_)
    (fun _ => appendEntry_lp AppOk.keepsAll.toKeeps) (fun _ p => p)
  simp only [Bool.not_false, if_true] at hl
  rcases RaftLog.appliedTo_inv hl with ⟨_, rfl⟩ | ⟨_, hk, rfl⟩
  · exact h0
  · exact hk

end Raft

namespace Node
open Raft

theorem stabilize_cursors {st st' : NState} {res : OpRes} (h : Node.stabilize st = .ok (res, st')) :
    st'.raft.raftLog.applied = st.raft.raftLog.applied ∧
    st'.raft.raftLog.committed = st.raft.raftLog.committed := by
  refine stabilize_parts (Q := fun s => s.raft.raftLog.applied = st.raft.raftLog.applied ∧
    s.raft.raftLog.committed = st.raft.raftLog.committed) h fun {l} hl => ?_
  show l.applied = _ ∧ l.committed = _
  unfold RaftLog.stabilise at hl
  split at hl
  · cases hl; exact ⟨rfl, rfl⟩
  · split at hl
    · obtain ⟨u, _, rfl⟩ := RaftLog.stableEntries_inv hl
      exact ⟨rfl, rfl⟩
    · cases hl
    · cases hl

theorem persistSnap_appOk {st st' : NState} {res : OpRes} (h0 : AppOk st.raft)
    (h : Node.persistSnap st = .ok (res, st')) : AppOk st'.raft := by
  refine persistSnap_parts (Q := fun s => AppOk s.raft) h h0 fun {sn store l r} _ _ hl hp => ?_
  have hl' : l.applied = st.raft.raftLog.applied ∧ l.committed = st.raft.raftLog.committed := by
    obtain ⟨u, _, rfl⟩ := RaftLog.stableSnap_inv hl
    exact ⟨rfl, rfl⟩
  have a1 := (onPersistSnap_abs hp).2.2.2
  have a2 := RaftProps.C04.C04_onPersistSnap_keeps_commit _ _ _ hp
  exact h0.of (a1.trans hl'.1) (Nat.le_of_eq (a2.trans hl'.2).symm)

theorem nodeCommitApply_appOk {st st' : NState} {res : OpRes} {k : Nat} (h0 : AppOk st.raft)
    (h : Node.commitApply st k = .ok (res, st')) : AppOk st'.raft := by
  refine commitApply_parts (Q := fun s => AppOk s.raft) h h0 (fun ents => ?_)
    (fun h2 q => commitApply_appOk q h2) (fun q => q)
  show AppOk (st.raft.reduceUncommittedSize ents)
  unfold Raft.reduceUncommittedSize
  split <;> exact h0

/-- every `NodeOp` keeps `applied ≤ committed` (`call` is `applyOp` once the random draw is stored) -/
theorem applyOp_appOk (st st' : NState) (op : NodeOp) (res : OpRes)
    (h0 : AppOk st.raft) (h : applyOp st op = .ok (res, st')) : AppOk st'.raft := by
  have viaEq : ∀ raft : Raft, raft.raftLog.applied = st.raft.raftLog.applied →
      raft.raftLog.committed = st.raft.raftLog.committed → AppOk raft :=
    fun raft a b => h0.of a (Nat.le_of_eq b.symm)
  cases applyOp_parts h with
  | tick hx => exact tick_appOk h0 hx
  | step hx =>
    rcases RawNode.step_inv hx with hr | ⟨_, hx⟩
    · rw [hr]; exact h0
    · exact step_appOk h0 hx
  | rstep hx | propose hx | proposeCc hx | campaign hx => exact step_appOk h0 hx
  | readIndex hx | transferLeader hx | reportUnreachable hx | reportSnapshot hx =>
    exact stepIgnore_appOk h0 hx
  | ping hx => exact ping_lp (Q := fun l => l.applied ≤ l.committed) hx h0
  | requestSnapshot hx => exact requestSnapshot_appOk h0 hx
  | confChanged hx | confRefused hx => exact applyConfChange_appOk h0 hx
  | stabilize hx =>
    obtain ⟨a, b⟩ := stabilize_cursors hx
    exact viaEq _ a b
  | onPersistEntries hx =>
    obtain ⟨_, _, _, a4⟩ := onPersistEntries_abs hx
    exact h0.of a4 (RaftProps.C04.C04_commit_monotone_onPersistEntries _ _ _ _ hx)
  | persistSnap hx => exact persistSnap_appOk h0 hx
  | commitApply hx => exact nodeCommitApply_appOk h0 hx
  | compact | drain | triggerSnap | triggerLog | setPriority | setBatchAppend | skipBcastCommit
  | setCheckQuorum | maybeFreeInflightBuffers | clearCommitGroup | setMaxApplyUnpersistedLogLimit
  | setMaxCommittedSizePerReady =>
    exact viaEq _ rfl rfl
  | adjustMaxInflight hx =>
    unfold Raft.adjustMaxInflightMsgs at hx
    split at hx
    · cases hx; exact h0
    · split at hx
      · cases hx; exact viaEq _ rfl rfl
      · cases hx
  | enableGroupCommit hx => exact enableGroupCommit_lp AppOk.keepsAll hx h0
  | assignCommitGroups hx => exact assignCommitGroups_lp AppOk.keepsAll hx h0
  | checkGroupCommitConsistent | staleFetch => exact h0
  | fetched _ _ _ hx => exact sendAppend_lp AppOk.keepsAll.toKeeps hx h0
  | fetchedAll _ _ _ hx => exact sendAppendAggressively_lp AppOk.keepsAll.toKeeps hx h0

/-- **one call of a node, any `NodeOp`, keeps `applied ≤ committed`** -/
theorem call_appOk (st st' : NState) (rnd : Option Nat) (op : NodeOp) (res : OpRes)
    (h0 : AppOk st.raft) (h : Node.call st rnd op = .ok (res, st')) : AppOk st'.raft :=
  applyOp_appOk { st with raft := { st.raft with nextRand := rnd } } st' op res h0 h

/-- **the restart contract**: the application boots the node with an applied index at or below the
commit index of the stored hard state -/
def BootOk (c : Config) (store : MemStorage) : Prop := c.applied ≤ store.hardState.commit

theorem boot_appOk (c : Config) (store : MemStorage) (rnd : Option Nat) (st : NState)
    (hc : BootOk c store) (h : Node.boot c store rnd = .ok (.ok st)) : AppOk st.raft := by
  obtain ⟨a1, a2, a3⟩ := RaftProps.PDGuards.PD_restart_new c store rnd st.raft (boot_inv h).2.1
  unfold AppOk BootOk at *
  rw [a1, a2]
  by_cases hs : store.hardState = {}
  · have : store.hardState.commit = 0 := by rw [hs]
    rw [if_neg (by omega), if_neg (by simpa using hs)]
    exact Nat.le_refl _
  · have := (a3 hs).1
    rw [if_pos hs]
    split
    · exact hc
    · exact this

theorem boot_applied (c : Config) (store : MemStorage) (rnd : Option Nat) (st : NState)
    (h : Node.boot c store rnd = .ok (.ok st)) :
    st.raft.raftLog.applied = (if c.applied > 0 then c.applied else store.firstIndex - 1) :=
  (RaftProps.PDGuards.PD_restart_new c store rnd st.raft (boot_inv h).2.1).1

end Node

namespace Cluster
open Node Raft

/-- the apply cursor of every node is at or below its commit index -/
def AppAll (s : Sys) : Prop := ∀ i st, s.node i = some st → AppOk st.raft

/-- one labelled step: the restart contract is asked of `restart` labels only -/
theorem AppAll.lstep {s s' : Sys} {l : Label} (h : AppAll s) (hs : LStep s l s')
    (hc : ∀ i c rnd st, l = .restart i c rnd → s.node i = some st →
      BootOk c st.raft.raftLog.store) : AppAll s' := by
  intro k st' h2
  obtain ⟨st, h1⟩ := lstep_node_some hs k st' h2
  rcases lstep_at hs h1 h2 with ⟨rfl, hd⟩ | ⟨_, rfl⟩
  · cases l with
    | call i rnd op => exact hd.2.elim fun res g => call_appOk st st' rnd op res (h _ st h1) g
    | deliver i rnd m => exact hd.elim fun res g => call_appOk st st' rnd (.step m) res (h _ st h1) g
    | send i => exact call_appOk st st' none .drain _ (h _ st h1) hd
    | restart i c rnd => exact boot_appOk c _ rnd st' (hc i c rnd st rfl h1) hd.2
  · exact h k st' h1

/-- **the initial clause with the restart contract**: `InitSto`, and the boot obeyed `BootOk` -/
def InitSto2 (s : Sys) : Prop :=
  ∀ i st, s.node i = some st → ∃ c sto rnd,
    Node.boot c sto rnd = .ok (.ok st) ∧ sto.WF ∧ (∀ e ∈ sto.entries, e.term ≠ 0) ∧ BootOk c sto

theorem InitSto2.initSto {s : Sys} (h : InitSto2 s) : InitSto s := by
  intro i st hi
  obtain ⟨c, sto, rnd, h1, h2, h3, _⟩ := h i st hi
  exact ⟨c, sto, rnd, h1, h2, h3⟩

theorem InitSto2.appAll {s : Sys} (h : InitSto2 s) : AppAll s := by
  intro i st hi
  obtain ⟨c, sto, rnd, h1, _, _, h4⟩ := h i st hi
  exact boot_appOk c sto rnd st h4 h1

/-- the restart contract along a history: every `restart` step boots with `BootOk` -/
def RestartsOk (h : List Sys) : Prop :=
  ∀ (n : Nat) (a b : Sys), h[n]? = some a → h[n + 1]? = some b →
    ∀ i c rnd st, LStep a (.restart i c rnd) b → a.node i = some st →
      BootOk c st.raft.raftLog.store

/-- a sufficient check on the states alone: after every step, every node's apply cursor is at or
below the commit index its storage recorded before the step (then whatever `Config.applied` a
`restart` used was 0 or that cursor) -/
theorem restartsOk_of_cursor {h : List Sys}
    (hc : ∀ (n : Nat) (a b : Sys) (i : Nat) (st st' : NState), h[n]? = some a → h[n + 1]? = some b →
      a.node i = some st → b.node i = some st' →
      st'.raft.raftLog.applied ≤ st.raft.raftLog.store.hardState.commit) : RestartsOk h := by
  intro n a b ha hb i c rnd st hl hi
  cases hl with
  | restart _ st0 st' _ _ g1 g2 g3 =>
    rw [hi] at g1; cases g1
    have e := boot_applied c _ rnd st' g3
    have := hc n a _ i st st' ha hb hi (node_setNode_self _ _ _)
    unfold BootOk
    by_cases h0 : c.applied > 0
    · rw [if_pos h0] at e; omega
    · omega

/-- **`applied ≤ committed` in every state of a history** whose boots obey the restart contract -/
theorem appAll_hist {h : List Sys} (hh : History h) (hrs : RestartsOk h)
    (hinit : ∀ s, h[0]? = some s → InitSto2 s) :
    ∀ (n : Nat) (s : Sys), h[n]? = some s → AppAll s := by
  refine hist_induct h (fun _ s => AppAll s) (fun s hs => (hinit s hs).appAll) ?_
  intro n a b ha hb ia
  obtain ⟨l, hl⟩ := step_iff_lstep.1 (hist_step_at hh n a b ha hb)
  refine ia.lstep hl ?_
  intro i c rnd st e hi
  subst e
  exact hrs n a b ha hb i c rnd st hl hi

/-- **`LogOk` in every state of a history** — representation invariant and apply cursor —, under:
the compaction contract (`CStep`), no batching, well-formed initial storages, and the restart contract
(`Config.applied ≤` stored commit index at every boot) -/
theorem logOk_hist_full {h : List Sys} (hh : History h)
    (hcon : ∀ (n : Nat) (a b : Sys), h[n]? = some a → h[n + 1]? = some b → CStep a b)
    (hnb : ∀ s ∈ h, NoBatch s) (hrs : RestartsOk h)
    (hinit : ∀ s, h[0]? = some s → InitSto2 s) :
    ∀ s ∈ h, LogOk s := by
  intro s hs i st hi
  obtain ⟨n, hn⟩ := List.mem_iff_getElem?.1 hs
  have hinv := logInv_hist hh hcon hnb (fun s h0 => (hinit s h0).initSto) s hs i st hi
  have hap : st.raft.raftLog.applied ≤ st.raft.raftLog.committed := appAll_hist hh hrs hinit n s hn i st hi
  exact ⟨hinv, Nat.le_trans hap hinv.committed_le_last⟩

end Cluster
end RaftModel
