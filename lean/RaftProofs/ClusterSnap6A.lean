import RaftProofs.RaftNodeC17
import RaftProofs.RaftHandlers

/-!
Commit safety of `ClusterSem` with compaction, snapshots and `request_snapshot`, part 6A (towards
deriving `reqok`): **frame lemmas for `pending_request_snapshot`, the role and the last index**.

`RQ.FrameP r r'`: `r'` has the pending snapshot request, the role, the unstable part of the log and the
stored entries / snapshot metadata of `r` (hence the same `last_index`).  Every sending / replication
helper of the node model satisfies it: a composite handler because its parts do
(`RaftHandlers.lean`, with `P := FrameP r`).
-/
namespace RaftModel
namespace Raft
namespace RQ

/-- the part of the node state the invariant `ReqOkN` speaks about -/
structure PCore where
  pend : Nat
  state : StateRole
  unst : Unstable
  ents : List Entry
  smeta : SnapshotMetadata

def pcore (r : Raft) : PCore :=
  { pend := r.pendingRequestSnapshot, state := r.state, unst := r.raftLog.unstable,
    ents := r.raftLog.store.entries, smeta := r.raftLog.store.snapshotMetadata }

/-- `r'` differs from `r` only outside `pcore` -/
def FrameP (r r' : Raft) : Prop := pcore r' = pcore r

theorem FrameP.refl (r : Raft) : FrameP r r := rfl
theorem FrameP.trans {a b c : Raft} (h1 : FrameP a b) (h2 : FrameP b c) : FrameP a c := by
  unfold FrameP at *; rw [h2, h1]

theorem FrameP.pend {r r' : Raft} (h : FrameP r r') :
    r'.pendingRequestSnapshot = r.pendingRequestSnapshot := congrArg PCore.pend h
theorem FrameP.state {r r' : Raft} (h : FrameP r r') : r'.state = r.state := congrArg PCore.state h
theorem FrameP.unst {r r' : Raft} (h : FrameP r r') : r'.raftLog.unstable = r.raftLog.unstable :=
  congrArg PCore.unst h
theorem FrameP.ents {r r' : Raft} (h : FrameP r r') :
    r'.raftLog.store.entries = r.raftLog.store.entries := congrArg PCore.ents h
theorem FrameP.smeta {r r' : Raft} (h : FrameP r r') :
    r'.raftLog.store.snapshotMetadata = r.raftLog.store.snapshotMetadata := congrArg PCore.smeta h

/-- the last index is a function of the unstable part and of the stored entries / snapshot metadata -/
theorem lastIndex_congr {l l' : RaftLog} (h1 : l'.unstable = l.unstable)
    (h2 : l'.store.entries = l.store.entries)
    (h3 : l'.store.snapshotMetadata = l.store.snapshotMetadata) : l'.lastIndex = l.lastIndex := by
  unfold RaftLog.lastIndex MemStorage.lastIndex
  rw [h1, h2, h3]

theorem FrameP.last {r r' : Raft} (h : FrameP r r') :
    r'.raftLog.lastIndex = r.raftLog.lastIndex := lastIndex_congr h.unst h.ents h.smeta

/-- a change of the log that keeps the unstable part and the stored entries / snapshot metadata -/
theorem FrameP.of_log {r : Raft} {l : RaftLog} (h1 : l.unstable = r.raftLog.unstable)
    (h2 : l.store.entries = r.raftLog.store.entries)
    (h3 : l.store.snapshotMetadata = r.raftLog.store.snapshotMetadata) :
    FrameP r { r with raftLog := l } := by
  simp [FrameP, pcore, h1, h2, h3]

theorem send_fp (r : Raft) (m : Message) : Res.Post (fun r' => FrameP r r') (r.send m) := by
  apply Res.post_intro
  intro r' h
  rw [send_eq r r' m h]
  simp [FrameP, pcore]

theorem tryBatching_fp (r : Raft) (to : Nat) (pr : Progress) (ents : List Entry) :
    Res.Post (fun x => FrameP r x.1) (r.tryBatching to pr ents) :=
  Res.post_intro fun _ h => tryBatching_parts (P := FrameP r) h fun _ => by simp [FrameP, pcore]

theorem storeSnapshot_pc (s : MemStorage) (k : Nat) :
    (s.snapshot k).1.entries = s.entries ∧ (s.snapshot k).1.snapshotMetadata = s.snapshotMetadata := by
  unfold MemStorage.snapshot
  split
  · exact ⟨rfl, rfl⟩
  · split <;> exact ⟨rfl, rfl⟩

theorem logSnapshot_pc (l : RaftLog) (k : Nat) :
    (l.snapshot k).1.unstable = l.unstable ∧ (l.snapshot k).1.store.entries = l.store.entries ∧
      (l.snapshot k).1.store.snapshotMetadata = l.store.snapshotMetadata := by
  have hs := storeSnapshot_pc l.store k
  unfold RaftLog.snapshot
  split
  · split
    · exact ⟨rfl, rfl, rfl⟩
    · exact ⟨rfl, hs.1, hs.2⟩
  · exact ⟨rfl, hs.1, hs.2⟩

theorem prepareSendSnapshot_fp (r : Raft) (m : Message) (pr : Progress) (to : Nat) :
    Res.Post (fun x => FrameP r x.1) (r.prepareSendSnapshot m pr to) :=
  have hs := logSnapshot_pc r.raftLog pr.pendingRequestSnapshot
  Res.post_intro fun _ h => prepareSendSnapshot_parts (P := FrameP r) h (FrameP.refl r)
    (FrameP.of_log hs.1 hs.2.1 hs.2.2)

theorem maybeSendAppend_fp (r : Raft) (to : Nat) (pr : Progress) (ae : Bool) :
    Res.Post (fun x => FrameP r x.1) (r.maybeSendAppend to pr ae) :=
  Res.post_intro fun _ h => maybeSendAppend_parts (P := FrameP r) h (FrameP.refl r)
    (fun hs => (prepareSendSnapshot_fp r _ pr to).of_eq hs)
    (fun hb => (tryBatching_fp r to pr _).of_eq hb)
    (fun hs _ p => p.trans ((send_fp _ _).of_eq hs))

theorem set_fp (r : Raft) (id : Nat) (pr : Progress) :
    FrameP r { r with prs := r.prs.set id pr } := by
  simp [FrameP, pcore]

theorem sendAppendPr_fp (r : Raft) (to : Nat) (pr : Progress) :
    Res.Post (fun x => FrameP r x.1) (r.sendAppendPr to pr) :=
  Res.post_intro fun _ h => sendAppendPr_parts (P := FrameP r) h
    fun hm => (maybeSendAppend_fp r to pr true).of_eq hm

theorem sendAppendAggressivelyPr_fp (fuel : Nat) (r : Raft) (to : Nat) (pr : Progress) :
    Res.Post (fun x => FrameP r x.1) (sendAppendAggressivelyPr fuel r to pr) :=
  Res.post_intro fun _ h => sendAppendAggressivelyPr_parts (P := FrameP r)
    (fun hm p => p.trans ((maybeSendAppend_fp _ to _ false).of_eq hm)) fuel r pr h (FrameP.refl r)

theorem sendHeartbeat_fp (r : Raft) (to : Nat) (pr : Progress) (ctx : Option Bytes) :
    Res.Post (fun x => FrameP r x) (r.sendHeartbeat to pr ctx) := by
  unfold sendHeartbeat
  exact send_fp r _

theorem sendAppend_fp (r : Raft) (to : Nat) :
    Res.Post (fun x => FrameP r x) (r.sendAppend to) :=
  Res.post_intro fun _ h => sendAppend_parts (P := FrameP r) h
    (fun ha => (sendAppendPr_fp r to _).of_eq ha) fun _ p => p.trans (set_fp _ _ _)

theorem sendAppendAggressively_fp (r : Raft) (to : Nat) :
    Res.Post (fun x => FrameP r x) (r.sendAppendAggressively to) :=
  Res.post_intro fun _ h => sendAppendAggressively_parts (P := FrameP r) h
    (fun ha => (sendAppendAggressivelyPr_fp _ r to _).of_eq ha) fun _ p => p.trans (set_fp _ _ _)

theorem forEachPeer_fp (r : Raft) (f : Raft → Nat → Progress → Res (Raft × Progress))
    (hf : ∀ r id pr, Res.Post (fun x => FrameP r x.1) (f r id pr)) :
    Res.Post (fun x => FrameP r x) (r.forEachPeer f) :=
  Res.post_intro fun _ h => forEachPeer_parts (P := FrameP r) h (FrameP.refl r)
    (fun h2 p => p.trans ((hf _ _ _).of_eq h2)) fun _ _ p => p.trans (set_fp _ _ _)

theorem bcastAppend_fp (r : Raft) : Res.Post (fun x => FrameP r x) r.bcastAppend := by
  unfold bcastAppend
  exact forEachPeer_fp r _ (fun r id pr => sendAppendPr_fp r id pr)

theorem bcastHeartbeatWithCtx_fp (r : Raft) (ctx : Option Bytes) :
    Res.Post (fun x => FrameP r x) (r.bcastHeartbeatWithCtx ctx) :=
  Res.post_intro fun _ h => bcastHeartbeatWithCtx_parts (P := FrameP r) h (FrameP.refl r)
    (fun hb p => p.trans ((sendHeartbeat_fp _ _ _ ctx).of_eq hb)) fun _ _ p => p.trans (set_fp _ _ _)

theorem bcastHeartbeat_fp (r : Raft) : Res.Post (fun x => FrameP r x) r.bcastHeartbeat := by
  unfold bcastHeartbeat
  exact bcastHeartbeatWithCtx_fp r _

theorem modifyProgress_fp (r : Raft) (id : Nat) (f : Progress → Progress) :
    FrameP r (r.modifyProgress id f) := by
  simp [FrameP, pcore, modifyProgress]

theorem mapProgress_fp (r : Raft) (f : Nat → Progress → Progress) :
    FrameP r (r.mapProgress f) := by
  simp [FrameP, pcore, mapProgress]

theorem logCommitTo_pc {l l' : RaftLog} {k : Nat} (h : l.commitTo k = .ok l') :
    l'.unstable = l.unstable ∧ l'.store = l.store := by
  unfold RaftLog.commitTo at h
  split at h
  · cases h; exact ⟨rfl, rfl⟩
  · split at h
    · cases h
    · cases h; exact ⟨rfl, rfl⟩

theorem logMaybeCommit_pc {l l' : RaftLog} {k t : Nat} {b : Bool}
    (h : l.maybeCommit k t = .ok (l', b)) : l'.unstable = l.unstable ∧ l'.store = l.store := by
  unfold RaftLog.maybeCommit at h
  split at h
  · split at h
    · split at h
      · split at h
        · rename_i hc
          cases h
          exact logCommitTo_pc hc
        · cases h
        · cases h
      · cases h; exact ⟨rfl, rfl⟩
    · cases h; exact ⟨rfl, rfl⟩
    · cases h
  · cases h; exact ⟨rfl, rfl⟩

theorem FrameP.of_log' {r : Raft} {l : RaftLog} (h : l.unstable = r.raftLog.unstable ∧
    l.store = r.raftLog.store) : FrameP r { r with raftLog := l } :=
  FrameP.of_log h.1 (by rw [h.2]) (by rw [h.2])

theorem maybeCommit_fp (r : Raft) : Res.Post (fun x => FrameP r x.1) r.maybeCommit :=
  Res.post_intro fun _ h => maybeCommit_parts (P := FrameP r) h (FrameP.refl r)
    (fun hc => FrameP.of_log' (logMaybeCommit_pc hc)) fun _ p => p.trans (modifyProgress_fp _ _ _)

theorem handleReadyReadIndex_fp (r : Raft) (req : Message) (index : Nat) :
    Res.Post (fun x => FrameP r x.1) (r.handleReadyReadIndex req index) := by
  unfold handleReadyReadIndex
  split
  · split
    · trivial
    · simp [Res.Post, FrameP, pcore]
  · simp [Res.Post, FrameP.refl]

theorem respondReadStates_fp (r : Raft) (rss : List ReadIndexStatus) :
    Res.Post (fun x => FrameP r x) (r.respondReadStates rss) :=
  Res.post_intro fun _ h => respondReadStates_parts (P := FrameP r) h (FrameP.refl r)
    (fun hr p => p.trans ((handleReadyReadIndex_fp _ _ _).of_eq hr))
    fun hs _ p => p.trans ((send_fp _ _).of_eq hs)

/-! ### leader-side handlers -/

theorem checkQuorumActive_fp (r : Raft) : FrameP r r.checkQuorumActive.1 := by
  simp [FrameP, pcore, checkQuorumActive, ProgressTracker.quorumRecentlyActive]

theorem filterProposal_fp (es : List Entry) (r : Raft) (i : Nat) :
    FrameP r (r.filterProposal i es).1 :=
  filterProposal_parts (P := FrameP r)
    (fun he p => filterProposalEntry_parts he p fun _ => p.trans (by simp [FrameP, pcore]))
    es r _ i _ rfl (FrameP.refl r)

theorem handleHeartbeatResponse_fp (r : Raft) (m : Message) :
    Res.Post (fun x => FrameP r x) (r.handleHeartbeatResponse m) :=
  Res.post_intro fun _ h => handleHeartbeatResponse_parts (P := FrameP r) h (FrameP.refl r)
    (fun ha => (sendAppendPr_fp r m.frm _).of_eq ha) (fun _ p => p.trans (set_fp _ _ _))
    (fun _ p => p.trans (by simp [FrameP, pcore]))
    fun hr p => p.trans ((respondReadStates_fp _ _).of_eq hr)

theorem handleSnapshotStatus_fp (r : Raft) (m : Message) : FrameP r (r.handleSnapshotStatus m) := by
  unfold handleSnapshotStatus
  split
  · exact FrameP.refl _
  · split
    · exact FrameP.refl _
    · exact set_fp _ _ _

theorem handleUnreachable_fp (r : Raft) (m : Message) : FrameP r (r.handleUnreachable m) := by
  unfold handleUnreachable
  split
  · exact FrameP.refl _
  · split
    · exact set_fp _ _ _
    · exact FrameP.refl _

theorem sendVoteRequests_fp (r : Raft) (ct : CampaignType) (voteMsg : MsgType) (term : Nat) :
    Res.Post (fun x => FrameP r x) (r.sendVoteRequests ct voteMsg term) :=
  Res.post_intro fun _ h => sendVoteRequests_parts (P := FrameP r) h (FrameP.refl r)
    fun hs _ p => p.trans ((send_fp _ _).of_eq hs)

theorem sendRequestSnapshot_fp (r : Raft) : Res.Post (fun x => FrameP r x) r.sendRequestSnapshot :=
  Res.post_intro fun _ h => sendRequestSnapshot_parts (P := FrameP r) h (FrameP.refl r)
    fun hs _ p => p.trans ((send_fp _ _).of_eq hs)

theorem sendTimeoutNow_fp (r : Raft) (to : Nat) : Res.Post (fun x => FrameP r x) (r.sendTimeoutNow to) := by
  unfold sendTimeoutNow
  exact send_fp r _

end RQ
end Raft
end RaftModel
