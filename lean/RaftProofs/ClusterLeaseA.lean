import RaftProps.C16
import RaftProofs.ClusterVoteH

/-!
Cluster-level lease theorem (C16, second half), helper lemmas part A: the *plain frame* `MF a r`
("`r` is reached from `a` by sending / replication / bookkeeping helpers only"): term, role, id, known
leader, pending transferee and the recorded votes are untouched, and every message of the queue is an
old one (up to the fields `try_batching` rewrites) or a *plain* message — not a (pre-)vote message,
not a `MsgTimeoutNow`, carrying a term `≤` the node's term.  The helpers have it because they have the
helper frame (`HF.mf`, `RaftProofs.HelperFrame`).
-/
namespace RaftModel
namespace Raft
namespace LS

/-- the fields of a message the lease argument reads (everything `try_batching` leaves alone) -/
def hd (x : Message) : MsgType × Nat × Nat × Bool × Bytes :=
  (x.msgType, x.term, x.frm, x.reject, x.context)

theorem Plain.congr {tm : Nat} {x y : Message} (h : hd y = hd x) (hp : Plain tm y) : Plain tm x := by
  unfold hd at h
  injection h with h1 h2
  injection h2 with h2 h3
  unfold Plain at *
  rw [← h1, ← h2]; exact hp

/-- old message of the queue `q`, up to the rewritten fields -/
def Old (q : List Message) (x : Message) : Prop := ∃ y ∈ q, hd y = hd x

theorem Old.of_mem {q : List Message} {x : Message} (h : x ∈ q) : Old q x := ⟨x, h, rfl⟩

theorem Old.trans {q q' : List Message} {x : Message} (h : Old q' x) (hq : ∀ y ∈ q', Old q y) :
    Old q x := by
  obtain ⟨y, hy, e⟩ := h
  obtain ⟨z, hz, e'⟩ := hq y hy
  exact ⟨z, hz, e'.trans e⟩

/-- the plain frame, anchored at `a` -/
structure MF (a r : Raft) : Prop where
  term : r.term = a.term
  state : r.state = a.state
  id : r.id = a.id
  leaderId : r.leaderId = a.leaderId
  lt : r.leadTransferee = a.leadTransferee
  votes : r.prs.votes = a.prs.votes
  msgs : ∀ x ∈ r.msgs, Old a.msgs x ∨ Plain a.term x

theorem MF.rf {r : Raft} : MF r r :=
  ⟨Eq.refl _, Eq.refl _, Eq.refl _, Eq.refl _, Eq.refl _, Eq.refl _, fun _ hx => Or.inl (Old.of_mem hx)⟩

theorem MF.trans {a b c : Raft} (h1 : MF a b) (h2 : MF b c) : MF a c := by
  refine ⟨h2.term.trans h1.term, h2.state.trans h1.state, h2.id.trans h1.id,
    h2.leaderId.trans h1.leaderId, h2.lt.trans h1.lt, h2.votes.trans h1.votes, ?_⟩
  intro x hx
  rcases h2.msgs x hx with ⟨y, hy, e⟩ | hp
  · rcases h1.msgs y hy with ho | hp
    · obtain ⟨z, hz, e'⟩ := ho
      exact Or.inl ⟨z, hz, e'.trans e⟩
    · exact Or.inr (Plain.congr e hp)
  · rw [h1.term] at hp; exact Or.inr hp

/-- any structure update of the fields outside the frame keeps the frame -/
theorem MF.mk' {a r : Raft} {x2 : Nat} {x4 : List ReadState} {x5 : RaftLog} {x6 x7 x8 : Nat} {x10 : Bool}
    {x13 : Nat} {x14 : ReadOnly} {x15 x16 : Nat} {x17 x18 x19 x20 x21 : Bool}
    {x22 x23 x24 x25 x26 : Nat} {x27 : Int} {x28 : UncommittedState} {x29 : Nat}
    {y1 : List (Nat × Progress)} {y2 : Configuration} {y4 : Nat} {y5 : Bool} {x32 : Option Nat}
    (h0 : MF a r) :
    MF a { term := r.term, vote := x2, id := r.id, readStates := x4, raftLog := x5,
           maxInflight := x6, maxMsgSize := x7, pendingRequestSnapshot := x8, state := r.state,
           promotable := x10, leaderId := r.leaderId, leadTransferee := r.leadTransferee,
           pendingConfIndex := x13, readOnly := x14, electionElapsed := x15,
           heartbeatElapsed := x16, checkQuorum := x17, preVote := x18,
           skipBcastCommit := x19, batchAppend := x20, disableProposalForwarding := x21,
           heartbeatTimeout := x22, electionTimeout := x23, randomizedElectionTimeout := x24,
           minElectionTimeout := x25, maxElectionTimeout := x26, priority := x27,
           uncommittedState := x28, maxCommittedSizePerReady := x29,
           prs := { progress := y1, conf := y2, votes := r.prs.votes, maxInflight := y4,
                    groupCommit := y5 },
           msgs := r.msgs, nextRand := x32 } :=
  h0.trans ⟨Eq.refl _, Eq.refl _, Eq.refl _, Eq.refl _, Eq.refl _, Eq.refl _,
    fun _ hx => Or.inl (Old.of_mem hx)⟩

theorem p_hbr : plainT .msgHeartbeatResponse = true := rfl
theorem p_hb : plainT .msgHeartbeat = true := rfl
theorem p_rir : plainT .msgReadIndexResp = true := rfl

/-! ### `MF` of the helpers, read off the helper frame -/

end LS
open LS

/-- every message of the queue is an old one, up to the rewritten fields, or a plain one -/
theorem QF.old {tm : Nat} {q q' : List Message} (h : QF tm q q') :
    ∀ x ∈ q', Old q x ∨ Plain tm x := by
  induction h with
  | refl => exact fun x hx => .inl (Old.of_mem hx)
  | send y _ hp ih =>
    intro x hx
    rcases List.mem_append.1 hx with g | g
    · exact ih x g
    · rw [List.mem_singleton.1 g]; exact .inr hp
  | @batch l1 l2 y e c _ hy ih =>
    intro x hx
    rcases List.mem_append.1 hx with g | g
    · exact ih x (List.mem_append_left _ g)
    · rcases List.mem_cons.1 g with g | g
      · have e0 : hd y = hd x := by rw [g]; rfl
        rcases ih y (List.mem_append_right _ List.mem_cons_self) with ⟨z, hz, e'⟩ | hp
        · exact .inl ⟨z, hz, e'.trans e0⟩
        · exact .inr (Plain.congr e0 hp)
      · exact ih x (List.mem_append_right _ (List.mem_cons_of_mem _ g))

theorem HF.mf {a r : Raft} (h : HF a r) : MF a r := by
  have e := h.core
  unfold hcore at e
  injection e with e1 e2 e3 e4 e5 e6 e7 e8 e9
  exact ⟨e2, e4, e1, e5, e6, e9, h.msgs.old⟩

namespace LS

/-- `send` of a plain message -/
theorem send_mf {a r r' : Raft} {m : Message} (h : r.send m = .ok r')
    (hp : plainT m.msgType = true) (h0 : MF a r) : MF a r' :=
  h0.trans (send_hf h hp HF.rf).mf

/-- `maybe_send_append` queues a `MsgSnapshot` or a `MsgAppend`, or rewrites a queued `MsgAppend` -/
theorem maybeSendAppend_mf {a r r' : Raft} {to : Nat} {pr pr' : Progress} {ae b : Bool}
    (h : r.maybeSendAppend to pr ae = .ok (r', pr', b)) (h0 : MF a r) : MF a r' :=
  h0.trans (maybeSendAppend_hf h HF.rf).mf

theorem sendHeartbeat_mf {a r r' : Raft} {to : Nat} {pr : Progress} {ctx : Option Bytes}
    (h : r.sendHeartbeat to pr ctx = .ok r') (h0 : MF a r) : MF a r' :=
  h0.trans (sendHeartbeat_hf h HF.rf).mf

theorem bcastAppend_mf {a r r' : Raft} (h : r.bcastAppend = .ok r') (h0 : MF a r) :
    MF a r' :=
  h0.trans (bcastAppend_hf h HF.rf).mf

theorem maybeCommit_mf {a r r' : Raft} {b : Bool} (h : r.maybeCommit = .ok (r', b))
    (h0 : MF a r) : MF a r' :=
  h0.trans (maybeCommit_hf h HF.rf).mf

theorem appendEntry_mf {a r r' : Raft} {es : List Entry} {b : Bool}
    (h : r.appendEntry es = .ok (r', b)) (h0 : MF a r) : MF a r' :=
  h0.trans (appendEntry_hf h HF.rf).mf

theorem respondReadStates_mf {a r r' : Raft} {rss : List ReadIndexStatus}
    (h : r.respondReadStates rss = .ok r') (h0 : MF a r) : MF a r' :=
  h0.trans (respondReadStates_hf h HF.rf).mf

theorem checkQuorumActive_mf {a r r' : Raft} {b : Bool} (h : r.checkQuorumActive = (r', b))
    (h0 : MF a r) : MF a r' :=
  h0.trans (checkQuorumActive_hf h HF.rf).mf

/-! ### the other helpers, under their names -/

theorem adjustMaxInflightMsgs_mf {a r r' : Raft} {t c : Nat}
    (h : r.adjustMaxInflightMsgs t c = .ok r') (h0 : MF a r) : MF a r' :=
  h0.trans (adjustMaxInflightMsgs_hf h HF.rf).mf

theorem assignCommitGroups_mf {a r r' : Raft} {ids : List (Nat × Nat)}
    (h : r.assignCommitGroups ids = .ok r') (h0 : MF a r) : MF a r' :=
  h0.trans (assignCommitGroups_hf h HF.rf).mf

theorem bcastHeartbeatWithCtx_mf {a r r' : Raft} {ctx : Option Bytes}
    (h : r.bcastHeartbeatWithCtx ctx = .ok r') (h0 : MF a r) : MF a r' :=
  h0.trans (bcastHeartbeatWithCtx_hf h HF.rf).mf

theorem bcastHeartbeat_mf {a r r' : Raft} (h : r.bcastHeartbeat = .ok r') (h0 : MF a r) :
    MF a r' :=
  h0.trans (bcastHeartbeat_hf h HF.rf).mf

theorem commitApply_mf {a r r' : Raft} {i : Nat} (h : r.commitApply i = .ok r') (h0 : MF a r) :
    MF a r' :=
  h0.trans (commitApply_hf h HF.rf).mf

theorem enableGroupCommit_mf {a r r' : Raft} {b : Bool}
    (h : r.enableGroupCommit b = .ok r') (h0 : MF a r) : MF a r' :=
  h0.trans (enableGroupCommit_hf h HF.rf).mf

theorem handleAppendEntries_mf {a r r' : Raft} {m : Message}
    (h : r.handleAppendEntries m = .ok r') (h0 : MF a r) : MF a r' :=
  h0.trans (handleAppendEntries_hf h HF.rf).mf

theorem handleHeartbeatResponse_mf {a r r' : Raft} {m : Message}
    (h : r.handleHeartbeatResponse m = .ok r') (h0 : MF a r) : MF a r' :=
  h0.trans (handleHeartbeatResponse_hf h HF.rf).mf

theorem handleHeartbeat_mf {a r r' : Raft} {m : Message}
    (h : r.handleHeartbeat m = .ok r') (h0 : MF a r) : MF a r' :=
  h0.trans (handleHeartbeat_hf h HF.rf).mf

theorem handleReadyReadIndex_mf {a r r' : Raft} {req : Message} {i : Nat} {om : Option Message}
    (h : r.handleReadyReadIndex req i = .ok (r', om)) (h0 : MF a r) : MF a r' :=
  h0.trans (handleReadyReadIndex_hf h HF.rf).mf

theorem handleSnapshotStatus_mf {a r : Raft} {m : Message} (h0 : MF a r) :
    MF a (r.handleSnapshotStatus m) :=
  h0.trans (handleSnapshotStatus_hf HF.rf).mf

theorem handleUnreachable_mf {a r : Raft} {m : Message} (h0 : MF a r) :
    MF a (r.handleUnreachable m) :=
  h0.trans (handleUnreachable_hf HF.rf).mf

theorem onPersistEntries_mf {a r r' : Raft} {i t : Nat} (h : r.onPersistEntries i t = .ok r')
    (h0 : MF a r) : MF a r' :=
  h0.trans (onPersistEntries_hf h HF.rf).mf

theorem onPersistSnap_mf {a r r' : Raft} {i : Nat} (h : r.onPersistSnap i = .ok r') (h0 : MF a r) :
    MF a r' :=
  h0.trans (onPersistSnap_hf h HF.rf).mf

theorem ping_mf {a r r' : Raft} (h : r.ping = .ok r') (h0 : MF a r) : MF a r' :=
  h0.trans (ping_hf h HF.rf).mf

theorem reduceUncommittedSize_mf {a r : Raft} {es : List Entry} (h0 : MF a r) :
    MF a (r.reduceUncommittedSize es) :=
  h0.trans (reduceUncommittedSize_hf HF.rf).mf

theorem requestSnapshot_mf {a r r' : Raft} {e : Option RaftError}
    (h : r.requestSnapshot = .ok (r', e)) (h0 : MF a r) : MF a r' :=
  h0.trans (requestSnapshot_hf h HF.rf).mf

theorem sendAppendAggressively_mf {a r r' : Raft} {to : Nat}
    (h : r.sendAppendAggressively to = .ok r') (h0 : MF a r) : MF a r' :=
  h0.trans (sendAppendAggressively_hf h HF.rf).mf

theorem sendAppendPr_mf {a r r' : Raft} {to : Nat} {pr pr' : Progress}
    (h : r.sendAppendPr to pr = .ok (r', pr')) (h0 : MF a r) : MF a r' :=
  h0.trans (sendAppendPr_hf h HF.rf).mf

theorem sendAppend_mf {a r r' : Raft} {to : Nat}
    (h : r.sendAppend to = .ok r') (h0 : MF a r) : MF a r' :=
  h0.trans (sendAppend_hf h HF.rf).mf

theorem filterProposal_mf {a : Raft} : ∀ (es : List Entry) (r r' : Raft) (i : Nat)
    (oes : Option (List Entry)), r.filterProposal i es = (r', oes) → MF a r → MF a r' :=
  fun es r r' i oes h h0 => h0.trans (filterProposal_hf es r r' i oes h HF.rf).mf

theorem handleReadyReadIndex_type {r r' : Raft} {req : Message} {i : Nat} {m' : Message}
    (h : r.handleReadyReadIndex req i = .ok (r', some m')) : plainT m'.msgType = true := by
  rw [((handleReadyReadIndex_frameT r req i).of_eq h).2 m' (Eq.refl _)]; rfl

end LS
end Raft
end RaftModel
