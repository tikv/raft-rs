import RaftProofs.ClusterSnap6D

/-!
Commit safety of `ClusterSem` **with log compaction** (`RaftModel.Cluster.Snap`; the bundles `Snap.Hyp2w`
… `Snap.Hyp3` of `ClusterSnapHyp`, the property files C01e part 1 and C01g), read off the development
with compaction and snapshots (`RaftModel.Cluster.Snap5`, `ClusterSnap5C–5X`) at `q := False`.

A history under `Snap.Hyp2w` is a history under `Snap5.GHyp2w False`: no snapshot is ever pending
(`nopend`), so a step of `Snap.KStep` is a step of `Snap5.GStep False`; no `MsgSnapshot` is in the
transport (`nosnap`), which is `quiet`; and `reqok` is the invariant of `ClusterSnap6D`, which holds
along any history of such steps.  The notions of the two namespaces coincide for such a history —
`LeaderLog`, `Covered`, `Promise` are the same definitions, `Snap.NodeOk` / `Snap.NodeFull` are
`Snap5.NodeOk` / `Snap5.NodeFull` of a node without a pending snapshot, `Snap.Sm` and `Snap5.Sm` have the
same components, `Cluster.CI` is `Snap5.CI2 False` — and every
theorem of this file is its `Snap5` namesake for the history at hand.
-/
namespace RaftModel
namespace Cluster
namespace Snap
open Node Raft Raft.CC RaftProps.C02 RaftProps.C05

variable {cfg : JointConfig} {c0 : Nat} {h : List Sys}

/-! ### the bundles -/

theorem Hyp2w.gsteps (H : Hyp2w cfg c0 h) (n : Nat) (a b : Sys) (ha : h[n]? = some a)
    (hb : h[n + 1]? = some b) : Snap5.GStep False a b :=
  .of_snap id (H.steps n a b ha hb) (H.nopend a (mem_of_get ha)) (H.nopend b (mem_of_get hb))

theorem Hyp2w.g (H : Hyp2w cfg c0 h) : Snap5.GHyp2w False cfg c0 h :=
  { hist := H.hist, fix := H.fix, ne := H.ne, nd1 := H.nd1, nd2 := H.nd2, init := H.init,
    steps := H.gsteps, nb := H.nb,
    reqok := fun s hs => by
      obtain ⟨n, hn⟩ := List.mem_iff_getElem?.1 hs
      exact (Snap5.reqInv_of_gsteps H.hist H.fix H.ne H.nd1 H.nd2 H.init H.gsteps H.nb n s hn).reqOk
    quiet := fun _ => H.nosnap,
    nolone := H.nolone, first0 := H.first0, initc := H.initc,
    pend0 := fun s h0 => H.nopend s (mem_of_get h0) }

theorem Hyp3a.g (H : Hyp3a cfg c0 h) : Snap5.GHyp3a False cfg c0 h :=
  { toGHyp2w := H.toHyp2w.g, anch := H.anch, rirs := H.rirs, snapt0 := H.snapt0,
    snapidx := fun s hs x hx hty => absurd hty (H.nosnap s hs x hx) }

theorem Hyp3w.g (H : Hyp3w cfg c0 h) : Snap5.GHyp3w False cfg c0 h :=
  { toGHyp2w := H.toHyp2w.g, snapt0 := H.snapt0,
    snapidx := fun s hs x hx hty => absurd hty (H.nosnap s hs x hx) }

/-! ### the notions of the two namespaces -/

theorem NodeOk.of_g {i : Nat} {st : NState} (o : Snap5.NodeOk i st)
    (hp : st.raft.raftLog.unstable.snapshot = none) : NodeOk i st :=
  ⟨o.inv, hp, o.sidx hp, o.sterm hp, o.id, o.nb⟩

theorem NodeFull.of_g {n : Nat} {st : NState} (I : Snap5.NodeFull h c0 n st)
    (hp : st.raft.raftLog.unstable.snapshot = none) : NodeFull h c0 st :=
  ⟨I.log, I.sto, I.pre hp⟩

theorem Sm.of_g {m : Nat} {s : Sys} (S : Snap5.Sm h c0 m s) : Sm h c0 m s :=
  ⟨S.lc, S.retm, S.rets, S.a2m, S.a2s, S.g1, S.nctm, S.ncts, S.scm⟩

theorem Sm.g {m : Nat} {s : Sys} (S : Sm h c0 m s) : Snap5.Sm h c0 m s :=
  ⟨S.lc, S.retm, S.rets, S.a2m, S.a2s, S.g1, S.nctm, S.ncts, S.scm⟩

theorem SAll.g {n : Nat} (S : SAll h c0 n) : Snap5.SAll h c0 n :=
  fun m s hle hm => (S m s hle hm).g

/-! ### under `Hyp2w` -/

theorem Hyp2w.inv_at (H : Hyp2w cfg c0 h) :
    ∃ s0, h[0]? = some s0 ∧ ∀ s ∈ h, InvL (Owner h) (EntriesOf s0) s := H.toHyp.invL

theorem Hyp2.inv_at (H : Hyp2 cfg c0 h) :
    ∃ s0, h[0]? = some s0 ∧ ∀ s ∈ h, InvL (Owner h) (EntriesOf s0) s := H.toHyp.invL

/-- **a leader's term is in its storage** -/
theorem leader_floor {cfg : JointConfig} {c0 : Nat} {h : List Sys} (H : Hyp2w cfg c0 h) {s : Sys}
    (hs : s ∈ h) {k τ : Nat} (hl : leads s k τ) : TermFloor s k τ :=
  Snap5.leader_floor H.g hs hl

/-- **the leader of a term is never restarted while the term is still led later** -/
theorem no_restart_between (H : Hyp2w cfg c0 h) {n d : Nat} {s s' : Sys} {l t : Nat}
    (hn : h[n]? = some s) (hn' : h[n + d]? = some s') (hl : leads s l t) (hl' : leads s' l t) :
    ∀ m a b, n ≤ m → m < n + d → h[m]? = some a → h[m + 1]? = some b → ¬ IsRestart l a b :=
  Snap5.no_restart_between H.g hn hn' hl hl'

/-- **Log Matching across time**: any two chains of any two states of the history agree -/
theorem agree_all (H : Hyp2w cfg c0 h) (n n' : Nat) (s s' : Sys) (hn : h[n]? = some s)
    (hn' : h[n']? = some s') (l1 l2 : Loc) (g1 g2 : LLog) (h1 : At s l1 g1) (h2 : At s' l2 g2) :
    Agree g1 g2 :=
  Snap5.agree_all H.g n n' s s' hn hn' l1 l2 g1 g2 h1 h2

theorem node_ok (H : Hyp2w cfg c0 h) {n : Nat} {s : Sys} (hn : h[n]? = some s) {i : Nat}
    {st : NState} (hi : s.node i = some st) : NodeOk i st :=
  .of_g (Snap5.node_ok H.g hn hi) (H.nopend s (mem_of_get hn) i st hi)

/-- the chains of a history agree pairwise (Log Matching across time) -/
theorem hist_agree (H : Hyp2w cfg c0 h) : ∀ g g', HistChain h g → HistChain h g' → Agree g g' :=
  Snap5.hist_agree H.g

/-- the commit index, the stored entries and the stored hard state over one `call` / `deliver` step of
the history (`Cluster.call_more`; a compaction keeps the commit index and the hard state) -/
theorem call_more (H : Hyp2w cfg c0 h) {n : Nat} {a : Sys} {i : Nat} {st st' : NState}
    {rnd : Option Nat} {op : NodeOp} {res : OpRes}
    (ha : h[n]? = some a) (hi : a.node i = some st)
    (hop : appOp op = true ∨ ∃ m, op = .step m ∧ m ∈ a.net ∧ m.to = i)
    (hc : ∀ j, op = .compact j → CompactOk st.raft.raftLog j)
    (hcall : Node.call st rnd op = .ok (res, st')) :
    Src st st' op ∧
    (SE st.raft st'.raft ∨ op = .stabilize ∨ ∃ k, op = .compact k ∧ CompactOut st st' k) ∧
    HsOut st st' op := by
  refine Snap5.call_more H.g ha hi hop hc (fun m hm => ?_) (H.nopend a (mem_of_get ha) i st hi) hcall
  rcases hop with g | ⟨m', g1, g2, _⟩
  · rw [hm] at g; cases g
  · rw [hm] at g1; cases g1
    exact H.nosnap a (mem_of_get ha) m g2

theorem node_full (H : Hyp2w cfg c0 h) : ∀ (n : Nat) (s : Sys), h[n]? = some s →
    ∀ v st, s.node v = some st → NodeFull h c0 st :=
  fun n s hn v st hv =>
    .of_g ((Snap5.ghost_inv H.g n s hn).node v st hv) (H.nopend s (mem_of_get hn) v st hv)

theorem ack_inv (H : Hyp2w cfg c0 h) : ∀ (n : Nat) (s : Sys), h[n]? = some s → AckQ s ∧ AckN s :=
  Snap5.ack_inv H.g

/-- the initial term of node `l` is below every term it ever leads -/
theorem lead_above_init (H : Hyp2w cfg c0 h) {s0 : Sys} (h0 : h[0]? = some s0) {l : Nat}
    {st0 : NState} (hl0 : s0.node l = some st0) {n : Nat} {s : Sys} (hn : h[n]? = some s) {t : Nat}
    (hl : leads s l t) : st0.raft.term < t :=
  Snap5.lead_above_init H.g h0 hl0 hn hl

/-- two uncompacted logs of the history that hold entries of the same term at `q` are equal up to `q` -/
theorem full_eq_below (H : Hyp2w cfg c0 h) {g1 g2 F1 F2 : LLog}
    (h1 : Full (HistChain h) c0 g1 F1) (h2 : Full (HistChain h) c0 g2 F2) {q : Nat} {e1 e2 : Entry}
    (he1 : F1.entryAt q = some e1) (he2 : F2.entryAt q = some e2) (ht : e1.term = e2.term) :
    ∀ k, k ≤ q → F1.entryAt k = F2.entryAt k :=
  Snap5.full_eq_below H.g h1 h2 he1 he2 ht

/-- the common snapshot point is not beyond the snapshot point of any node -/
theorem c0_le_snap (H : Hyp2w cfg c0 h) {n : Nat} {s : Sys} (hn : h[n]? = some s) {v : Nat}
    {st : NState} (hv : s.node v = some st) : c0 ≤ st.raft.raftLog.abs.snapIdx :=
  Snap5.c0_le_snap H.g hn hv

/-- what a commit event gives: the committing leader's state after the step -/
theorem Ev.facts (H : Hyp2w cfg c0 h) {E : Ev} (hE : E.ok h) :
    ∃ a b sta stb, h[E.nE]? = some a ∧ h[E.nE + 1]? = some b ∧ a.node E.l = some sta ∧
      b.node E.l = some stb ∧ stb.raft.state = .leader ∧ stb.raft.term = E.t ∧
      E.c = stb.raft.raftLog.committed ∧ E.gE = stb.raft.raftLog.abs ∧
      EvF h c0 E = FL h c0 stb ∧
      E.pE = stb.raft.raftLog.persisted ∧ sta.raft.raftLog.committed < E.c ∧ c0 < E.c ∧
      Has (EvF h c0 E) E.c E.t ∧ stb.raft.raftLog.abs.snapIdx < E.c ∧
      ∃ Q, IsJointQuorum cfg Q ∧ ∀ j ∈ Q, (j = E.l ∧ E.c ≤ E.pE) ∨ Anet a.net j E.t E.c :=
  Snap5.Ev.facts H.g hE

/-- **no entry is ahead of its holder's term** — for the ghost logs -/
theorem term_le (H : Hyp2w cfg c0 h) : ∀ (n : Nat) (s : Sys), h[n]? = some s → TermLe h c0 s :=
  fun n s hn =>
    have T := Snap5.term_le_of H.g False.elim n s hn
    ⟨T.log, T.sto, T.que, T.net⟩

/-- the log of a commit event is a leader's log -/
theorem Ev.leaderLog (H : Hyp2w cfg c0 h) {E : Ev} (hE : E.ok h) :
    LeaderLog h c0 (E.nE + 1) E.t (EvF h c0 E) ∧ Has (EvF h c0 E) E.c E.t ∧ c0 < E.c :=
  H.g.facts.leaderLog hE

/-- two logs of the leader of one term hold the same entry wherever both reach -/
theorem ll_eq (H : Hyp2w cfg c0 h) {N N' t : Nat} {L L' : LLog} (h1 : LeaderLog h c0 N t L)
    (h2 : LeaderLog h c0 N' t L') {k : Nat} (hk : k ≤ L.lastIndex) (hk' : k ≤ L'.lastIndex) :
    L.entryAt k = L'.entryAt k :=
  Snap5.ll_eq H.g.facts h1 h2 hk hk'

/-- a node's log that holds an entry of a leader's log at `c` equals that log up to `c` -/
theorem eq_ll (H : Hyp2w cfg c0 h) {n : Nat} {s : Sys} (hn : h[n]? = some s) {v : Nat}
    {st : NState} (hv : s.node v = some st) {N t : Nat} {L : LLog} (hL : LeaderLog h c0 N t L)
    {c τ : Nat} (h1 : Has (FL h c0 st) c τ) (h2 : Has L c τ) :
    EqUpTo (FL h c0 st) L c :=
  Snap5.eq_ll H.g.facts hn hv hL h1 h2

/-- **the logs of two commit events agree**: the log of a past event `E0` holds the entry of any event
`E` that committed no more (`E.c ≤ E0.c`) — given, when `E0`'s term is the smaller one, that `E`'s term
has been led by now -/
theorem ctf (H : Hyp2w cfg c0 h) {n : Nat} (S : SAll h c0 n) {E0 E : Ev} (hE0 : E0.ok h)
    (hE : E.ok h) (hpast : E0.nE < n) (hc : E.c ≤ E0.c)
    (hled : E0.t < E.t → ∃ L, LeaderLog h c0 n E.t L) : Has (EvF h c0 E0) E.c E.t :=
  Snap5.ctf H.g.facts S.g hE0 hE hpast hc hled

/-- two leaders' logs that hold the same entry at `c` are equal up to `c` -/
theorem ll_eq_below (H : Hyp2w cfg c0 h) {N N' t t' : Nat} {L L' : LLog} (h1 : LeaderLog h c0 N t L)
    (h2 : LeaderLog h c0 N' t' L') {c τ : Nat} (hh : Has L c τ) (hh' : Has L' c τ) :
    EqUpTo L L' c :=
  Snap5.ll_eq_below H.g.facts h1 h2 hh hh'

/-- the commit index is never below the common snapshot point -/
theorem c0_le_committed (H : Hyp2w cfg c0 h) {n : Nat} {s : Sys} (hn : h[n]? = some s) {v : Nat}
    {st : NState} (hv : s.node v = some st) : c0 ≤ st.raft.raftLog.committed :=
  Snap5.c0_le_committed H.g.facts hn hv

/-- **provenance of the accepting append responses** (the record is `Cluster.AckGen`) -/
theorem ack_prov (H : Hyp2w cfg c0 h) : ∀ (n : Nat) (s : Sys), h[n]? = some s →
    (∀ i st, s.node i = some st → ∀ x ∈ st.raft.msgs, (isAck x ∧ x.index ≠ 0) →
      Gen (AckGen h) n i x) ∧
    (∀ x ∈ s.net, (isAck x ∧ x.index ≠ 0) → ∃ i, Gen (AckGen h) n i x) :=
  Snap5.ack_prov H.g

/-! ### under `Hyp3a` -/

/-- the term a node records for its snapshot point is not above the initial term of any node -/
theorem Hyp3a.snapt (H : Hyp3a cfg c0 h) : ∀ s ∈ h, ∀ i st, s.node i = some st → ∀ t0,
    st.raft.raftLog.abs.snapTerm = some t0 →
    ∀ s0, h[0]? = some s0 → ∀ j st0, s0.node j = some st0 → t0 ≤ st0.raft.term := by
  intro s hs i st hi t0 ht0
  obtain ⟨n, hn⟩ := List.mem_iff_getElem?.1 hs
  exact H.g.snapt s hs i st hi (Snap5.snapTerm_c0 H.toHyp2w.g id n s hn i st hi t0 ht0) t0 ht0

theorem Hyp3.snapt (H : Hyp3 cfg c0 h) : ∀ s ∈ h, ∀ i st, s.node i = some st → ∀ t0,
    st.raft.raftLog.abs.snapTerm = some t0 →
    ∀ s0, h[0]? = some s0 → ∀ j st0, s0.node j = some st0 → t0 ≤ st0.raft.term :=
  H.toHyp3a.snapt

/-- **the main induction** -/
theorem sall (H : Hyp3a cfg c0 h) : ∀ n, SAll h c0 n :=
  fun n m s hle hm => .of_g (Snap5.sall H.g.facts n m s hle hm)

theorem sm_all (H : Hyp3a cfg c0 h) {n : Nat} {s : Sys} (hn : h[n]? = some s) : Sm h c0 n s :=
  sall H n n s (Nat.le_refl _) hn

/-- **State-Machine Safety for the ghost logs**: the uncompacted logs of any two nodes, in any two
states of the history, hold the same entry at every index both commit indexes cover -/
theorem sms_ghost (H : Hyp3a cfg c0 h)
    {m1 : Nat} {s1 : Sys} (hm1 : h[m1]? = some s1) {v1 : Nat} {st1 : NState}
    (hv1 : s1.node v1 = some st1)
    {m2 : Nat} {s2 : Sys} (hm2 : h[m2]? = some s2) {v2 : Nat} {st2 : NState}
    (hv2 : s2.node v2 = some st2)
    {k : Nat} (hk1 : k ≤ st1.raft.raftLog.committed) (hk2 : k ≤ st2.raft.raftLog.committed) :
    (FL h c0 st1).entryAt k = (FL h c0 st2).entryAt k :=
  Snap5.sms_ghost H.g.facts hm1 hv1 hm2 hv2 hk1 hk2

/-! ### under `Hyp3w` -/

/-- **the cluster invariant holds in every state of a history** -/
theorem ci_all (H : Hyp3w cfg c0 h) : ∀ (n : Nat) (s : Sys), h[n]? = some s → CI h c0 n s := by
  intro n s hn
  have c := Snap5.ci_all H.g n s hn
  refine ⟨fun i st hi => ⟨fun hs => ?_, (c.node i st hi).rd⟩,
    fun i st hi x hx hty => (c.qa i st hi x hx hty).imp_left And.right, c.qr, c.na, c.nr⟩
  refine ((c.node i st hi).po hs).imp And.right fun g p hp => ?_
  exact ⟨(g p hp).1, (g p hp).2.1, fun hc => ((g p hp).2.2 hc).1⟩

/-- **the proof gaps `anch` and `norir` of the compaction layer are theorems**: the hypotheses
of the main induction follow from the hypotheses without gaps about the transport -/
theorem Hyp3w.toHyp3a (H : Hyp3w cfg c0 h) : Hyp3a cfg c0 h :=
  have G := H.g.toGHyp3a
  { toHyp2w := H.toHyp2w, anch := G.anch, rirs := G.rirs, snapt0 := H.snapt0 }

end Snap
end Cluster
end RaftModel
