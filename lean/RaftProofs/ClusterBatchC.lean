import RaftProofs.ClusterBatchB

/-!
Cluster-level Log Matching, part C: what `append_entry`, `become_leader`, the elections, `restore` and finally
`Raft::step` do to the logical log **and** to the queue of `MsgAppend`s and the stored entries, for the relations
`N` and `X` of part B.  What a call queues after it appended to the log (a proposal, the empty entry of a new
leader) is described relative to the *new* log (`AppendedX`) and — like every queue clause of `X` — under the
proviso that the queue of a start state that batches was clean.  `step_x` is the one case analysis of `step`;
`step_b` below, `step_k` (`RaftProofs/ClusterLogC.lean`) are what it says from a clean queue, with batching off.
-/
namespace RaftModel
namespace Raft

theorem appendEntry_fields {r r' : Raft} {es : List Entry} {b : Bool}
    (h : r.appendEntry es = .ok (r', b)) :
    r'.msgs = r.msgs ∧ r'.batchAppend = r.batchAppend ∧ r'.raftLog.store = r.raftLog.store := by
  unfold Raft.appendEntry at h
  split at h
  · cases h; exact ⟨rfl, rfl, rfl⟩
  · rename_i r1 hinc
    have hl1 : r1.raftLog = r.raftLog ∧ r1.msgs = r.msgs ∧ r1.batchAppend = r.batchAppend := by
      unfold Raft.maybeIncreaseUncommittedSize at hinc
      split at hinc
      cases hinc; exact ⟨rfl, rfl, rfl⟩
    simp only [] at h
    split at h
    · rename_i log k happ
      cases h
      exact ⟨hl1.2.1, hl1.2.2, (RaftModel.C06.append_store happ).trans (by rw [hl1.1])⟩
    · cases h
    · cases h

theorem Appended.sub {a r : Raft} {es : List Entry} (h : Appended a r es) :
    Sub a.raftLog.abs r.raftLog.abs := by
  rw [h.abs]; exact Sub.append _ _

/-- the logical log grew at its end by entries of the (new) leader's term -/
def Grew (r r' : Raft) : Prop := ∃ es, Appended r r' es

namespace Bt

/-- the queue / storage half of a call that queued no `MsgAppend` -/
structure QNN (a r : Raft) : Prop where
  ents : r.raftLog.store.entries = a.raftLog.store.entries
  smeta : r.raftLog.store.snapshotMetadata = a.raftLog.store.snapshotMetadata
  ba : r.batchAppend = a.batchAppend
  q : ∀ x ∈ r.msgs, x.msgType = .msgAppend → x ∈ a.msgs

theorem N0.qn {a r : Raft} (h : N0 a r) : QNN a r := ⟨h.ls.ents, h.ls.smeta, h.ba, h.q⟩

/-- the queue / storage half of a leader-mode call whose final logical log is `r`'s -/
structure QSB (a r : Raft) : Prop where
  ents : r.raftLog.store.entries = a.raftLog.store.entries
  smeta : r.raftLog.store.snapshotMetadata = a.raftLog.store.snapshotMetadata
  ba : r.batchAppend = a.batchAppend
  q : ∀ x ∈ r.msgs, x.msgType = .msgAppend → Good a.msgs r.raftLog.abs (msgLog x)
  cl : CleanQ r.msgs r.raftLog.abs

/-- `Appended`, nothing queued since -/
structure AppendedN (a r : Raft) (es : List Entry) : Prop where
  app : Appended a r es
  qs : QNN a r

/-- `Appended` with the queue facts of leader mode -/
structure AppendedB (a r : Raft) (es : List Entry) : Prop where
  app : Appended a r es
  qs : CleanQ a.msgs a.raftLog.abs → QSB a r

theorem _root_.RaftModel.Raft.Appended.prevKeep {a r : Raft} {es : List Entry} (h : Appended a r es) :
    PrevKeep a.raftLog.abs r.raftLog.abs := by
  rw [h.abs]; exact PrevKeep.append _ _

theorem _root_.RaftModel.Raft.Appended.lastLe {a r : Raft} {es : List Entry} (h : Appended a r es) :
    a.raftLog.abs.lastIndex ≤ r.raftLog.abs.lastIndex := by
  rw [h.abs, LLog.lastIndex_append]; omega

/-- the queue / storage half of a call whose final logical log is `r`'s; the queue clauses stand under
the proviso that — if the start state batches — its queue is clean -/
structure QSX (a r : Raft) : Prop where
  ents : r.raftLog.store.entries = a.raftLog.store.entries
  smeta : r.raftLog.store.snapshotMetadata = a.raftLog.store.snapshotMetadata
  ba : r.batchAppend = a.batchAppend
  q : (a.batchAppend = true → CleanQ a.msgs a.raftLog.abs) →
    ∀ x ∈ r.msgs, x.msgType = .msgAppend → GoodX a.batchAppend a.msgs r.raftLog.abs x
  cl : (a.batchAppend = true → CleanQ a.msgs a.raftLog.abs) →
    r.batchAppend = true → CleanQ r.msgs r.raftLog.abs

/-- `Appended` with the queue facts -/
structure AppendedX (a r : Raft) (es : List Entry) : Prop where
  app : Appended a r es
  qs : QSX a r

/-- from a clean queue, `AppendedB` -/
theorem AppendedX.b {a r : Raft} {es : List Entry} (h : AppendedX a r es) : AppendedB a r es := by
  refine ⟨h.app, fun hc => ?_⟩
  have hq : ∀ x ∈ r.msgs, x.msgType = .msgAppend → Good a.msgs r.raftLog.abs (msgLog x) :=
    fun x hx hty => (h.qs.q (fun _ => hc) x hx hty).good hty
  exact ⟨h.qs.ents, h.qs.smeta, h.qs.ba, hq,
    fun x hx hty => Good.ok1 (hc.log h.app.lastLe h.app.prevKeep) (hq x hx hty)⟩

theorem AppendedN.toX {a r : Raft} {es : List Entry} (h : AppendedN a r es) : AppendedX a r es := by
  refine ⟨h.app, h.qs.ents, h.qs.smeta, h.qs.ba, fun _ x hx hty => ?_, fun hc hb x hx hty => ?_⟩
  · exact .inl (h.qs.q x hx hty)
  · exact (hc (h.qs.ba ▸ hb) x (h.qs.q x hx hty) hty).log h.app.lastLe h.app.prevKeep

/-- extend on the right by a step that keeps the logical log, the term and the role -/
theorem AppendedX.right {a r r' : Raft} {es : List Entry} (h : AppendedX a r es)
    (h1 : X r r') (h2 : Frame r r') : AppendedX a r' es := by
  have h1 := h1 h.app.inv
  refine ⟨h.app.right h1.ls.same h2, h1.ls.ents.trans h.qs.ents, h1.ls.smeta.trans h.qs.smeta,
    h1.ba.trans h.qs.ba, fun hc x hx hty => ?_, fun hc hb => h1.clean (h.qs.cl hc (h1.ba ▸ hb))⟩
  rw [h1.abs]
  have := h1.q (h.qs.cl hc) x hx hty
  rw [h.qs.ba] at this
  exact GoodX.rebase (h.qs.q hc) hty this

theorem AppendedN.anchor {a r r' : Raft} {es : List Entry} (h0 : N0 a r)
    (h : AppendedN r r' es) : AppendedN a r' es :=
  ⟨Appended.anchor h0.ls.same h.app,
    ⟨h.qs.ents.trans h0.ls.ents, h.qs.smeta.trans h0.ls.smeta, h.qs.ba.trans h0.ba,
      fun x hx hty => h0.q x (h.qs.q x hx hty) hty⟩⟩

/-- a leader-mode stretch after a plain one -/
theorem L.after {a r r' : Raft} (h0 : N0 a r) (hl : L r r') : L a r' := by
  intro hi hc
  have hcr : CleanQ r.msgs r.raftLog.abs := by rw [h0.abs]; exact hc.mono h0.q
  have h1 := hl (h0.inv hi) hcr
  refine ⟨h0.ls.trans h1.ls, h1.ba.trans h0.ba, h1.st, fun x hx hty => ?_⟩
  have := h1.q x hx hty
  rw [h0.abs] at this
  exact Good.rebase (fun y hy hty' => .inl ⟨y, h0.q y hy hty', hty', Eq.refl _⟩) this

/-! ### `append_entry` -/

theorem appendEntry_n {r r' : Raft} {es : List Entry} {b : Bool} (hinv : r.raftLog.Inv)
    (hs : r.state = .leader) (h : r.appendEntry es = .ok (r', b)) :
    (b = false ∧ r' = r) ∨
    (b = true ∧ es = [] ∧ N0 r r' ∧ Frame r r') ∨
    (b = true ∧ AppendedN r r' (stampFrom r.term (r.raftLog.lastIndex + 1) es) ∧ Frame r r') := by
  obtain ⟨f1, f2, f3⟩ := appendEntry_fields h
  rcases appendEntry_cases hinv hs h with c | ⟨c1, c2, c3, c4⟩ | ⟨c1, c2, c3⟩
  · exact .inl c
  · refine .inr (.inl ⟨c1, c2, ⟨⟨c3, by rw [f3], by rw [f3]⟩, f2, fun x hx _ => by rw [← f1]; exact hx⟩, c4⟩)
  · refine .inr (.inr ⟨c1, ⟨c2, ⟨by rw [f3], by rw [f3], f2, fun x hx _ => by rw [← f1]; exact hx⟩⟩, c3⟩)

/-! ### `become_leader`, elections -/

/-- `Won`, nothing queued since -/
def WonN (a r : Raft) : Prop := AppendedN a r [leaderNoop r.term (a.raftLog.lastIndex + 1)]

/-- `Won` with the queue facts of leader mode -/
def WonB (a r : Raft) : Prop := AppendedB a r [leaderNoop r.term (a.raftLog.lastIndex + 1)]

theorem WonB.won {a r : Raft} (h : WonB a r) : Won a r := h.app

def WonX (a r : Raft) : Prop := AppendedX a r [leaderNoop r.term (a.raftLog.lastIndex + 1)]

theorem WonN.toX {a r : Raft} (h : WonN a r) : WonX a r := AppendedN.toX h

theorem WonX.right {a r r' : Raft} (h : WonX a r) (h1 : X r r') (h2 : Frame r r') :
    WonX a r' := by
  unfold WonX
  rw [h2.term]
  exact AppendedX.right h h1 h2

theorem becomeLeader_n {a r r' : Raft} (hinv : a.raftLog.Inv) (h0 : N0 a r)
    (h : r.becomeLeader = .ok r') : WonN a r' := by
  unfold Raft.becomeLeader at h
  split at h
  · cases h
  · simp only [] at h
    split at h
    · cases h
    · split at h
      · cases h
      · rename_i pr hpr
        have hl : N0 a (r.reset r.term) := reset_n0 _ h0
        split at h
        · rename_i r2 happ
          cases h
          rcases appendEntry_n (by exact hl.inv hinv) (by rfl) happ with ⟨hb, _⟩ | ⟨_, he, _⟩ | ⟨_, hA, hfr⟩
          · cases hb
          · cases he
          · have hA' := AppendedN.anchor (a := a) (by exact hl) hA
            unfold WonN
            rw [hfr.term, ← LS.last hl.ls.same]
            exact hA'
        · cases h
        · cases h
        · cases h

theorem pollWith_x {a r r' : Raft} {onPreWin : Raft → Res Raft} {frm : Nat} {t : MsgType}
    {v : Bool} {res : VoteResult}
    (hpre : ∀ r r', N0 a r → onPreWin r = .ok r' → N0 a r' ∨ WonX a r')
    (hinv : a.raftLog.Inv) (h0 : N0 a r)
    (h : pollWith onPreWin r frm t v = .ok (r', res)) :
    N0 a r' ∨ WonX a r' := by
  unfold Raft.pollWith at h
  simp only at h
  generalize hres : (r.prs.recordVote frm v).tallyVotes.2.2 = res0 at h
  cases res0 with
  | won =>
    simp only at h
    split at h
    · rw [Res.bind_eq_ok_iff] at h
      obtain ⟨r2, h1, h2⟩ := h
      cases h2
      exact hpre _ _ (by exact h0) h1
    · rw [Res.bind_eq_ok_iff] at h
      obtain ⟨r2, h1, h2⟩ := h
      cases h2
      rw [Res.bind_eq_ok_iff] at h1
      obtain ⟨r3, h3, h4⟩ := h1
      have hw := (becomeLeader_n hinv (by exact h0) h3).toX
      exact .inr (hw.right (bcastAppend_x h4 X.rfl) (bcastAppend_frame h4 Frame.rfl))
  | lost =>
    simp only at h
    cases h
    exact .inl (becomeFollower_n _ _ (fun _ => by exact h0) hinv)
  | pending =>
    simp only at h
    cases h
    exact .inl h0

theorem campaignWith_x {a r r' : Raft}
    {poll : Raft → Nat → MsgType → Bool → Res (Raft × VoteResult)} {ct : CampaignType}
    (hpoll : ∀ r frm t v r' res, N0 a r → poll r frm t v = .ok (r', res) → N0 a r' ∨ WonX a r')
    (hinv : a.raftLog.Inv)
    (h0 : N0 a r) (h : campaignWith poll r ct = .ok r') : N0 a r' ∨ WonX a r' := by
  unfold Raft.campaignWith at h
  rw [Res.bind_eq_ok_iff] at h
  obtain ⟨⟨r1, vm, t⟩, h1, h2⟩ := h
  have hl1 : N0 a r1 ∧ vm ≠ .msgAppend := by
    split at h1
    · rw [Res.bind_eq_ok_iff] at h1
      obtain ⟨r0, h3, h4⟩ := h1
      split at h4
      · cases h4
      · cases h4; exact ⟨becomePreCandidate_n h3 (fun _ => h0) hinv, by decide⟩
    · rw [Res.bind_eq_ok_iff] at h1
      obtain ⟨r0, h3, h4⟩ := h1
      cases h4; exact ⟨becomeCandidate_n h3 (fun _ => h0) hinv, by decide⟩
  obtain ⟨hl1, hvm⟩ := hl1
  simp only at h2
  rw [Res.bind_eq_ok_iff] at h2
  obtain ⟨⟨r2, res⟩, h5, h6⟩ := h2
  simp only at h6
  rcases hpoll _ _ _ _ _ _ hl1 h5 with hl2 | hw
  · split at h6
    · cases h6; exact .inl hl2
    · exact .inl (sendVoteRequests_n hvm h6 (fun _ => hl2) hinv)
  · split at h6
    · cases h6; exact .inr hw
    · have hfr := RaftProps.C16.sendVoteRequests_frame h6 Frame.rfl
      exact .inr (hw.right (X.of_n (sendVoteRequests_n hvm h6 N.rfl) hfr.state X.rfl) hfr)

theorem campaignAfterPreVote_x {a r r' : Raft} (hinv : a.raftLog.Inv)
    (h0 : N0 a r) (h : r.campaignAfterPreVote = .ok r') : N0 a r' ∨ WonX a r' := by
  unfold Raft.campaignAfterPreVote at h
  refine campaignWith_x ?_ hinv h0 h
  intro r1 frm t v r2 res hl hp
  exact pollWith_x (fun _ _ _ hc => by cases hc) hinv hl hp

theorem poll_x {a r r' : Raft} {frm : Nat} {t : MsgType} {v : Bool} {res : VoteResult}
    (hinv : a.raftLog.Inv) (h0 : N0 a r)
    (h : r.poll frm t v = .ok (r', res)) : N0 a r' ∨ WonX a r' := by
  unfold Raft.poll at h
  exact pollWith_x (fun _ _ hl hc => campaignAfterPreVote_x hinv hl hc) hinv h0 h

theorem campaign_x {a r r' : Raft} {ct : CampaignType} (hinv : a.raftLog.Inv)
    (h0 : N0 a r)
    (h : r.campaign ct = .ok r') : N0 a r' ∨ WonX a r' := by
  unfold Raft.campaign at h
  exact campaignWith_x (fun _ _ _ _ _ _ hl hp => poll_x hinv hl hp) hinv h0 h

theorem hup_x {a r r' : Raft} {tl : Bool} (hinv : a.raftLog.Inv)
    (h0 : N0 a r) (h : r.hup tl = .ok r') : N0 a r' ∨ (WonX a r' ∧ r.state ≠ .leader) :=
  hup_parts (P := fun x => N0 a x ∨ (WonX a x ∧ r.state ≠ .leader)) h (.inl h0)
    fun hl hc => (campaign_x hinv h0 hc).imp (fun k => k) (⟨·, hl⟩)

/-! ### `step_leader` -/

/-- the message types on which a leader may queue `MsgAppend`s without changing its log -/
def Sending (t : MsgType) : Prop :=
  t = .msgPropose ∨ t = .msgAppendResponse ∨ t = .msgHeartbeatResponse ∨ t = .msgTransferLeader

/-- **`step_leader`**: nothing is queued but non-`MsgAppend` messages (`N0`), or the leader replicates
(`X`), or it appended the entries of a proposal and replicated -/
theorem stepLeader_x {r r' : Raft} {m : Message} {e : Option RaftError}
    (hinv : r.raftLog.Inv) (hs : r.state = .leader)
    (h : r.stepLeader m = .ok (r', e)) :
    N0 r r' ∨ (Sending m.msgType ∧ X r r') ∨
    (m.msgType = .msgPropose ∧ e = none ∧ ∃ es, es.length = m.entries.length ∧
      AppendedX r r' (stampFrom r.term (r.raftLog.lastIndex + 1) es)) := by
  have hl0 : X r r := X.rfl
  -- one of the three responses: the handler's result is the arm's
  have resp : ∀ {f : Raft → Message → Res Raft}, (∀ {r2}, f r m = .ok r2 → X r r2) →
      ((f r m).bind fun r => Res.ok (r, (none : Option RaftError))) = .ok (r', e) → X r r' := by
    intro f hf hb
    obtain ⟨r1, h1, hb⟩ := Res.bind_eq_ok hb
    cases hb; exact hf h1
  by_cases hq : Sending m.msgType
  · unfold Raft.stepLeader at h
    rcases hq with hm | hm | hm | hm
    · simp only [hm] at h
      split at h
      · cases h
      · split at h
        · cases h; exact .inl N0.rfl
        · split at h
          · cases h; exact .inl N0.rfl
          · split at h
            · rename_i r1 hf
              cases h
              exact .inl (filterProposal_n _ _ _ _ _ hf N.rfl hinv)
            · rename_i r1 es hf
              have hl1 : N0 r r1 := filterProposal_n _ _ _ _ _ hf N.rfl hinv
              have hf1 : Frame r r1 := filterProposal_frame _ _ _ _ _ hf Frame.rfl
              have hlen := filterProposal_length _ _ _ _ _ hf
              have hi1 := hl1.inv hinv
              split at h
              · rename_i r2 happ
                cases h
                rcases appendEntry_n hi1 (hf1.state.trans hs) happ with
                  ⟨_, he⟩ | ⟨hb, _⟩ | ⟨hb, _⟩
                · rw [he]; exact .inl hl1
                · cases hb
                · cases hb
              · rename_i r2 happ
                rw [Res.bind_eq_ok_iff] at h
                obtain ⟨r3, hb, h3⟩ := h
                cases h3
                rcases appendEntry_n hi1 (hf1.state.trans hs) happ with
                  ⟨hb', _⟩ | ⟨_, _, hl2, hf2⟩ | ⟨_, hA, hf2⟩
                · cases hb'
                · have hl12 := hl1.trans hl2
                  have hs2 : r2.state = .leader := (hf2.state.trans hf1.state).trans hs
                  exact .inr (.inl ⟨.inl hm, X.after hl12 (hs2.trans hs.symm) (bcastAppend_x hb X.rfl)⟩)
                · refine .inr (.inr ⟨hm, rfl, es, hlen, ?_⟩)
                  have hA1 := (AppendedN.anchor hl1 hA).toX
                  have hA' := hA1.right (bcastAppend_x hb X.rfl) (bcastAppend_frame hb Frame.rfl)
                  rw [hf1.term, hl1.ls.same.last] at hA'
                  exact hA'
              · cases h
              · cases h
    · simp only [hm] at h
      exact .inr (.inl ⟨.inr (.inl hm), resp (handleAppendResponse_x · hl0) h⟩)
    · simp only [hm] at h
      exact .inr (.inl ⟨.inr (.inr (.inl hm)), resp (handleHeartbeatResponse_x · hl0) h⟩)
    · simp only [hm] at h
      exact .inr (.inl ⟨.inr (.inr (.inr hm)), resp (handleTransferLeader_x · hl0) h⟩)
  · exact .inl (stepLeader_parts (P := N r) h N.rfl
      (fun h _ => bcastHeartbeat_n h N.rfl) (fun h _ => checkQuorumActive_n h N.rfl)
      (fun _ => becomeFollower_n _ _)
      (fun _ ty => absurd (.inl ty) hq) (fun _ ty => absurd (.inl ty) hq)
      (fun _ ty => absurd (.inl ty) hq)
      (fun h _ => (handleReadyReadIndex_n h N.rfl).1) (sendT_n (by decide))
      (fun _ _ => N.mk' N.rfl) (fun h _ => bcastHeartbeatWithCtx_n h)
      (fun _ ty => absurd (.inr (.inl ty)) hq) (fun _ ty => absurd (.inr (.inr (.inl ty))) hq)
      (fun _ => handleSnapshotStatus_n N.rfl) (fun _ => handleUnreachable_n N.rfl)
      (fun _ ty => absurd (.inr (.inr (.inr ty))) hq) hinv)

/-! ### snapshots -/

/-- `Restored` with the queue facts: nothing but non-`MsgAppend` messages were queued -/
structure RestoredN (a r : Raft) (sn : Snapshot) : Prop where
  res : Restored a r sn
  qn : QNN a r

theorem QNN.send {a r r' : Raft} {m : Message} (h0 : QNN a r) (h : r.send m = .ok r')
    (hm : m.msgType ≠ .msgAppend) : QNN a r' := by
  rw [send_eq r r' m h]
  refine ⟨h0.ents, h0.smeta, h0.ba, fun x hx hty => ?_⟩
  rcases List.mem_append.1 hx with hx | hx
  · exact h0.q x hx hty
  · rw [List.mem_singleton.1 hx, sendFill_msgType] at hty
    exact absurd hty hm

/-- the queue facts do not read the fields that `restore` touches after it has replaced the log -/
theorem RestoredN.of_fields {a r r' : Raft} {sn : Snapshot} (h : RestoredN a r sn)
    (hl : r'.raftLog = r.raftLog) (hb : r'.batchAppend = r.batchAppend) (hm : r'.msgs = r.msgs) :
    RestoredN a r' sn :=
  ⟨⟨by rw [hl]; exact h.res.abs, by rw [hl]; exact h.res.inv, h.res.ge,
      by rw [hl]; exact h.res.commit⟩,
    ⟨by rw [hl]; exact h.qn.ents, by rw [hl]; exact h.qn.smeta, hb.trans h.qn.ba,
      by rw [hm]; exact h.qn.q⟩⟩

theorem restore_n {a r r' : Raft} {snap : Snapshot} {b : Bool} (hinv : a.raftLog.Inv)
    (h0 : N0 a r) (h : r.restore snap = .ok (r', b)) :
    N0 a r' ∨ RestoredN a r' snap := by
  have h0' : N a r := fun _ => h0
  -- the snapshot is taken by a follower, on which `post_conf_change` only recomputes `promotable`
  refine (restore_parts (P := fun x => (r.state = .follower → x.state = .follower) ∧
      (N0 a x ∨ RestoredN a x snap)) h ⟨fun hs => hs, .inl h0⟩
    (fun _ => ⟨fun _ => RaftProps.C20.becomeFollower_state _ _ _,
      .inl (becomeFollower_n _ _ h0' hinv)⟩)
    (fun hc _ => ⟨fun hs => hs, .inl (N.log (logS_commitTo hc) h0' hinv)⟩)
    (fun hl _ hfresh => ⟨fun hs => hs, .inr ?_⟩) (fun hs => fun hp p => ?_)
    (fun _ p => ⟨p.1, p.2.imp (fun k => k) (·.of_fields rfl rfl rfl)⟩)).2
  · obtain ⟨l', hr', hinv', habs', hcm', -⟩ :=
      (RaftProps.C14.C14_restore_spec r.raftLog (h0.inv hinv) snap).1 (by omega)
    cases hr'.symm.trans hl
    have hsto := RaftModel.C06.restore_store hl
    have hc := h0.ls.same.commit
    exact ⟨⟨habs', hinv', by omega, Nat.le_of_eq hcm'.symm⟩,
      ⟨(congrArg MemStorage.entries hsto).trans h0.ls.ents,
        (congrArg MemStorage.snapshotMetadata hsto).trans h0.ls.smeta, h0.ba, h0.q⟩⟩
  · rw [postConfChange_eq (by rw [p.1 hs]; decide)] at hp
    cases hp
    exact ⟨p.1, p.2.imp (fun k => k) (·.of_fields rfl rfl rfl)⟩

theorem handleSnapshot_n {a r r' : Raft} {m : Message} (hinv : a.raftLog.Inv)
    (h0 : N0 a r)
    (h : r.handleSnapshot m = .ok r') : N0 a r' ∨ RestoredN a r' m.snapshot :=
  handleSnapshot_parts (P := fun x => N0 a x ∨ RestoredN a x m.snapshot) h
    (restore_n hinv h0) fun hs e p =>
      p.imp (fun k => sendT_n (by decide) hs e (fun _ => k) hinv)
        (fun R => ⟨R.res.right (send_ls hs LS.rfl), QNN.send R.qn hs (by rw [e]; decide)⟩)

/-! ### `step_follower`, `step_candidate`, `step` -/

theorem stepFollower_x {a r r' : Raft} {m : Message} {e : Option RaftError}
    (hinv : a.raftLog.Inv) (h0 : N0 a r) (hs : r.state = .follower)
    (h : r.stepFollower m = .ok (r', e)) :
    N0 a r' ∨ (m.msgType = .msgTimeoutNow ∧ WonX a r') ∨
    (m.msgType = .msgAppend ∧ ∃ r0, N0 a r0 ∧ r0.state = .follower ∧
      r0.handleAppendEntries m = .ok r') ∨
    (m.msgType = .msgSnapshot ∧ RestoredN a r' m.snapshot) := by
  have h0' : N a r := fun _ => h0
  have fwd : ∀ (x : Nat), m.msgType ≠ .msgAppend →
      (r.send { m with to := x }).bind (fun r => Res.ok (r, (none : Option RaftError))) = .ok (r', e) →
      N0 a r' := by
    intro x hne hh
    rw [Res.bind_eq_ok_iff] at hh
    obtain ⟨r1, h1, h2⟩ := hh
    cases h2
    exact send_n h1 hne h0' hinv
  unfold Raft.stepFollower at h
  split at h
  · rename_i hm
    refine .inl ?_
    split at h
    · cases h; exact h0
    · split at h
      · cases h; exact h0
      · exact fwd _ (by rw [hm]; decide) h
  · rename_i hm
    rw [Res.bind_eq_ok_iff] at h
    obtain ⟨r1, h1, h2⟩ := h
    cases h2
    exact .inr (.inr (.inl ⟨hm, { r with electionElapsed := 0, leaderId := m.frm }, h0, hs, h1⟩))
  · rw [Res.bind_eq_ok_iff] at h
    obtain ⟨r1, h1, h2⟩ := h
    cases h2
    exact .inl (handleHeartbeat_n h1 (by exact h0') hinv)
  · rename_i hm
    rw [Res.bind_eq_ok_iff] at h
    obtain ⟨r1, h1, h2⟩ := h
    cases h2
    rcases handleSnapshot_n hinv (by exact h0) h1 with c | c
    · exact .inl c
    · exact .inr (.inr (.inr ⟨hm, c⟩))
  · rename_i hm
    refine .inl ?_
    split at h
    · cases h; exact h0
    · exact fwd _ (by rw [hm]; decide) h
  · rename_i hm
    split at h
    · rw [Res.bind_eq_ok_iff] at h
      obtain ⟨r1, h1, h2⟩ := h
      cases h2
      rcases hup_x hinv h0 h1 with c | ⟨c, _⟩
      · exact .inl c
      · exact .inr (.inl ⟨hm, c⟩)
    · cases h; exact .inl h0
  · rename_i hm
    refine .inl ?_
    split at h
    · cases h; exact h0
    · exact fwd _ (by rw [hm]; decide) h
  · split at h
    · simp only [] at h
      split at h
      · rename_i log b hmc
        cases h
        exact .inl (N.log (r := { r with readStates := _ }) (logS_maybeCommit hmc) (by exact h0') hinv)
      · cases h
      · cases h
    · cases h; exact .inl h0
  · cases h; exact .inl h0

theorem stepCandidate_x {a r r' : Raft} {m : Message} {e : Option RaftError}
    (hinv : a.raftLog.Inv) (h0 : N0 a r)
    (h : r.stepCandidate m = .ok (r', e)) :
    N0 a r' ∨
    ((m.msgType = .msgRequestVoteResponse ∨ m.msgType = .msgRequestPreVoteResponse) ∧ WonX a r') ∨
    (m.msgType = .msgAppend ∧ ∃ r0, N0 a r0 ∧ r0.state = .follower ∧
      r0.handleAppendEntries m = .ok r') ∨
    (m.msgType = .msgSnapshot ∧ RestoredN a r' m.snapshot) := by
  have h0' : N a r := fun _ => h0
  have votes : ∀ (hm : m.msgType = .msgRequestVoteResponse ∨ m.msgType = .msgRequestPreVoteResponse),
      ((r.poll m.frm m.msgType (!m.reject)).bind (fun (p : Raft × VoteResult) =>
        (p.1.maybeCommitByVote m).bind (fun r => Res.ok (r, (none : Option RaftError))))) = .ok (r', e) →
      N0 a r' ∨
      ((m.msgType = .msgRequestVoteResponse ∨ m.msgType = .msgRequestPreVoteResponse) ∧ WonX a r') ∨
      (m.msgType = .msgAppend ∧ ∃ r0, N0 a r0 ∧ r0.state = .follower ∧
        r0.handleAppendEntries m = .ok r') ∨
      (m.msgType = .msgSnapshot ∧ RestoredN a r' m.snapshot) := by
    intro hm h
    rw [Res.bind_eq_ok_iff] at h
    obtain ⟨⟨r1, res⟩, h1, h2⟩ := h
    simp only [] at h2
    rw [Res.bind_eq_ok_iff] at h2
    obtain ⟨r2, h3, h4⟩ := h2
    cases h4
    rcases poll_x hinv h0 h1 with c | c
    · exact .inl (maybeCommitByVote_n h3 (fun _ => c) hinv)
    · have := RaftProps.C16.maybeCommitByVote_leader c.app.leader h3
      rw [this]
      exact .inr (.inl ⟨hm, c⟩)
  have hbf : ∀ t l, N0 a (r.becomeFollower t l) := fun t l => becomeFollower_n t l h0' hinv
  unfold Raft.stepCandidate at h
  split at h
  · cases h; exact .inl h0
  · rename_i hm
    split at h
    · cases h
    · rw [Res.bind_eq_ok_iff] at h
      obtain ⟨r1, h1, h2⟩ := h
      cases h2
      exact .inr (.inr (.inl ⟨hm, _, hbf _ _,
        RaftProps.C20.becomeFollower_state _ _ _, h1⟩))
  · split at h
    · cases h
    · rw [Res.bind_eq_ok_iff] at h
      obtain ⟨r1, h1, h2⟩ := h
      cases h2
      exact .inl (handleHeartbeat_n h1 (fun _ => hbf _ _) hinv)
  · rename_i hm
    split at h
    · cases h
    · rw [Res.bind_eq_ok_iff] at h
      obtain ⟨r1, h1, h2⟩ := h
      cases h2
      rcases handleSnapshot_n hinv (hbf _ _) h1 with c | c
      · exact .inl c
      · exact .inr (.inr (.inr ⟨hm, c⟩))
  · rename_i hm
    split at h
    · cases h; exact .inl h0
    · split at h
      · cases h; exact .inl h0
      · exact votes (.inr hm) h
  · rename_i hm
    split at h
    · cases h; exact .inl h0
    · split at h
      · cases h; exact .inl h0
      · exact votes (.inl hm) h
  · cases h; exact .inl h0

/-- **`Raft::step`: every way the logical log, the queue of `MsgAppend`s and the stored entries can
change**, batching on or off.  `step_log`, `step_k`, `step_b` are what it says about the log alone, with
batching off, and from a clean queue. -/
theorem step_x {r r' : Raft} {m : Message} {e : Option RaftError} (hinv : r.raftLog.Inv)
    (h : r.step m = .ok (r', e)) :
    N0 r r' ∨
    (m.msgType = .msgPropose ∧ r.state = .leader ∧ r'.term = r.term ∧ e = none ∧
      ∃ es, es.length = m.entries.length ∧
        AppendedX r r' (stampFrom r.term (r.raftLog.lastIndex + 1) es)) ∨
    ((m.msgType = .msgHup ∨ m.msgType = .msgTimeoutNow ∨ m.msgType = .msgRequestVoteResponse ∨
        m.msgType = .msgRequestPreVoteResponse) ∧
      (r.state ≠ .leader ∨ (r.term < m.term ∧ m.term ≤ r'.term)) ∧ WonX r r') ∨
    (m.msgType = .msgAppend ∧ (r.state ≠ .leader ∨ (r.term < m.term ∧ m.term ≤ r'.term)) ∧
      ∃ r0, N0 r r0 ∧ r0.state = .follower ∧ r0.handleAppendEntries m = .ok r') ∨
    (m.msgType = .msgSnapshot ∧ (r.state ≠ .leader ∨ (r.term < m.term ∧ m.term ≤ r'.term)) ∧
      RestoredN r r' m.snapshot) ∨
    (r.state = .leader ∧ Sending m.msgType ∧ X r r') := by
  cases step_inv h with
  | consumed ht => exact .inl (stepTerm_n ht N.rfl hinv)
  | dispatched ht hd =>
    rename_i r1
    have hl1 : N0 r r1 := stepTerm_n ht N.rfl hinv
    obtain ⟨hld, hnl⟩ := RaftProps.C16.dispatched_from ht hd
    cases hd with
    | hup hm h1 =>
      rcases hup_x hinv hl1 h1 with c | ⟨c, c2⟩
      · exact .inl c
      · exact .inr (.inr (.inl ⟨.inl hm, hnl c2, c⟩))
    | vote _ hv => exact .inl (stepVote_n hv (fun _ => hl1) hinv)
    | candidate _ hst h =>
      have hn : r1.state ≠ .leader := by rcases hst with hst | hst <;> rw [hst] <;> decide
      rcases stepCandidate_x hinv hl1 h with c | ⟨hm, c⟩ | ⟨hm, c⟩ | ⟨hm, c⟩
      · exact .inl c
      · refine .inr (.inr (.inl ⟨?_, hnl hn, c⟩))
        rcases hm with hm | hm
        · exact .inr (.inr (.inl hm))
        · exact .inr (.inr (.inr hm))
      · exact .inr (.inr (.inr (.inl ⟨hm, hnl hn, c⟩)))
      · exact .inr (.inr (.inr (.inr (.inl ⟨hm, hnl hn, c⟩))))
    | follower _ hst h =>
      have hn : r1.state ≠ .leader := by rw [hst]; decide
      rcases stepFollower_x hinv hl1 hst h with c | ⟨hm, c⟩ | ⟨hm, c⟩ | ⟨hm, c⟩
      · exact .inl c
      · exact .inr (.inr (.inl ⟨.inr (.inl hm), hnl hn, c⟩))
      · exact .inr (.inr (.inr (.inl ⟨hm, hnl hn, c⟩)))
      · exact .inr (.inr (.inr (.inr (.inl ⟨hm, hnl hn, c⟩))))
    | leader _ hst hx =>
      have hr := hld hst
      subst hr
      rcases stepLeader_x hinv hst hx with c | c | ⟨hm, he, es, hlen, c⟩
      · exact .inl c
      · exact .inr (.inr (.inr (.inr (.inr ⟨hst, c.1, c.2⟩))))
      · exact .inr (.inl ⟨hm, hst, RaftProps.C16.stepLeader_term hx, he, es, hlen, c⟩)

/-- **`Raft::step` from a clean queue**: `step_x` in the vocabulary of leader mode -/
theorem step_b {r r' : Raft} {m : Message} {e : Option RaftError} (hinv : r.raftLog.Inv)
    (h : r.step m = .ok (r', e)) :
    N0 r r' ∨
    (m.msgType = .msgPropose ∧ r.state = .leader ∧ r'.term = r.term ∧ e = none ∧
      ∃ es, es.length = m.entries.length ∧
        AppendedB r r' (stampFrom r.term (r.raftLog.lastIndex + 1) es)) ∨
    ((m.msgType = .msgHup ∨ m.msgType = .msgTimeoutNow ∨ m.msgType = .msgRequestVoteResponse ∨
        m.msgType = .msgRequestPreVoteResponse) ∧
      (r.state ≠ .leader ∨ (r.term < m.term ∧ m.term ≤ r'.term)) ∧ WonB r r') ∨
    (m.msgType = .msgAppend ∧ (r.state ≠ .leader ∨ (r.term < m.term ∧ m.term ≤ r'.term)) ∧
      ∃ r0, N0 r r0 ∧ r0.state = .follower ∧ r0.handleAppendEntries m = .ok r') ∨
    (m.msgType = .msgSnapshot ∧ (r.state ≠ .leader ∨ (r.term < m.term ∧ m.term ≤ r'.term)) ∧
      RestoredN r r' m.snapshot) ∨
    (r.state = .leader ∧ Sending m.msgType ∧ L r r') := by
  rcases step_x hinv h with c | ⟨c1, c2, c3, c4, es, c5, c⟩ | ⟨c1, c2, c⟩ | c | c | ⟨c1, c2, c⟩
  · exact .inl c
  · exact .inr (.inl ⟨c1, c2, c3, c4, es, c5, c.b⟩)
  · exact .inr (.inr (.inl ⟨c1, c2, AppendedX.b c⟩))
  · exact .inr (.inr (.inr (.inl c)))
  · exact .inr (.inr (.inr (.inr (.inl c))))
  · exact .inr (.inr (.inr (.inr (.inr ⟨c1, c2, c.l c1⟩))))

end Bt

/-! ### what the case analysis says about the logical log alone (`RaftProofs/RaftNodeC05.lean`: `LS`, `Appended`, `Won`, `Restored`) -/

theorem Won.anchor {a r r' : Raft} (h0 : LS a r) (h : Won r r') : Won a r' := by
  unfold Won
  rw [← LS.last h0]
  exact Appended.anchor h0 h

/-- **`become_leader`**: the only change to the logical log is the appended empty entry -/
theorem becomeLeader_won {a r r' : Raft} (hinv : a.raftLog.Inv) (h0 : LS a r)
    (h : r.becomeLeader = .ok r') : Won a r' :=
  .anchor h0 (Bt.becomeLeader_n (h0.inv hinv) Bt.N0.rfl h).app

theorem poll_grew {a r r' : Raft} {frm : Nat} {t : MsgType} {v : Bool} {res : VoteResult}
    (hinv : a.raftLog.Inv) (h0 : LS a r) (h : r.poll frm t v = .ok (r', res)) :
    LS a r' ∨ Won a r' :=
  (Bt.poll_x (h0.inv hinv) Bt.N0.rfl h).imp (fun c => h0.trans c.ls.same) fun c => .anchor h0 c.app

/-- **`step_leader`**: only `MsgPropose` changes the logical log, and only by appending the
proposed entries (as many as proposed, stamped with the leader's term, consecutive indexes) -/
theorem stepLeader_log {a r r' : Raft} {m : Message} {e : Option RaftError}
    (hinv : a.raftLog.Inv) (h0 : LS a r) (hs : r.state = .leader)
    (h : r.stepLeader m = .ok (r', e)) :
    LS a r' ∨
    (m.msgType = .msgPropose ∧ e = none ∧ ∃ es, es.length = m.entries.length ∧
      Appended a r' (stampFrom r.term (a.raftLog.lastIndex + 1) es)) := by
  rcases Bt.stepLeader_x (h0.inv hinv) hs h with c | ⟨_, c⟩ | ⟨c1, c2, es, c3, c⟩
  · exact .inl (h0.trans c.ls.same)
  · exact .inl (h0.trans (c.ls (h0.inv hinv)))
  · refine .inr ⟨c1, c2, es, c3, ?_⟩
    rw [← LS.last h0]
    exact Appended.anchor h0 c.app

/-- **`Raft::step`: every way the logical log can change.**  For a node whose log satisfies the
invariant and any message, after `step` returns the logical log is the same (`LS`: same entries and
snapshot point, invariant kept, commit index not decreased), or
* a leader appended the proposed entries (`MsgPropose`, same term), or
* a non-leader (or a leader deposed by the message's higher term, which the new term then is at
  least) campaigned and won on the spot
  and appended the empty entry of its new term (`MsgHup`, `MsgTimeoutNow`, a (pre-)vote response), or
* a follower (possibly just made one by the term preamble / `become_follower`) ran
  `handle_append_entries` (`MsgAppend`), or restored a snapshot (`MsgSnapshot`). -/
theorem step_log {r r' : Raft} {m : Message} {e : Option RaftError} (hinv : r.raftLog.Inv)
    (h : r.step m = .ok (r', e)) :
    LS r r' ∨
    (m.msgType = .msgPropose ∧ r.state = .leader ∧ r'.term = r.term ∧ e = none ∧
      ∃ es, es.length = m.entries.length ∧
        Appended r r' (stampFrom r.term (r.raftLog.lastIndex + 1) es)) ∨
    ((m.msgType = .msgHup ∨ m.msgType = .msgTimeoutNow ∨ m.msgType = .msgRequestVoteResponse ∨
        m.msgType = .msgRequestPreVoteResponse) ∧
      (r.state ≠ .leader ∨ (r.term < m.term ∧ m.term ≤ r'.term)) ∧ Won r r') ∨
    (m.msgType = .msgAppend ∧ (r.state ≠ .leader ∨ (r.term < m.term ∧ m.term ≤ r'.term)) ∧
      ∃ r0, LS r r0 ∧ r0.state = .follower ∧ r0.handleAppendEntries m = .ok r') ∨
    (m.msgType = .msgSnapshot ∧ (r.state ≠ .leader ∨ (r.term < m.term ∧ m.term ≤ r'.term)) ∧
      Restored r r' m.snapshot) := by
  rcases Bt.step_x hinv h with c | ⟨c1, c2, c3, c4, es, c5, c⟩ | ⟨c1, c2, c⟩ | ⟨c1, c2, r0, c3, c4⟩ |
    ⟨c1, c2, c⟩ | ⟨_, _, c⟩
  · exact .inl c.ls.same
  · exact .inr (.inl ⟨c1, c2, c3, c4, es, c5, c.app⟩)
  · exact .inr (.inr (.inl ⟨c1, c2, c.app⟩))
  · exact .inr (.inr (.inr (.inl ⟨c1, c2, r0, c3.ls.same, c4⟩)))
  · exact .inr (.inr (.inr (.inr ⟨c1, c2, c.res⟩)))
  · exact .inl (c.ls hinv)

end Raft
end RaftModel
