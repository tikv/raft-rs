import RaftProofs.ClusterCommitPlain

/-!
What the layers above the commit layer — flow control (`ClusterFlow*`, C13c / C13d) and leadership
transfer (`ClusterXfer*`, C17c / C17d) — use of it, so that they are stated once for the histories without
compaction and for those with compaction and snapshots.

* `ProvFacts h`: a fact that a call establishes for the messages it queues, with the per-call relation
  `G` of the commit layer at hand, is known of every such message of every queue and of the transport
  ever after (`provenance` and `kstep_g` of the layer);
* `AckFacts h c0 lg sl`: what stands behind a `matched` index and behind an accepting append response —
  for a *view* of the logs: `lg st` is the log of a node, `sl st` its stored log.  Without compaction
  these are the logical logs themselves; with compaction they are the ghost (uncompacted) logs
  `Snap.FL` / `Snap.FS`, in terms of which the commit layer is stated there.
-/
namespace RaftModel
namespace Cluster
open Node Raft Raft.CC

structure ProvFacts (h : List Sys) : Prop where
  hist : History h
  prov : ∀ (K : Message → Prop), (∀ x, K x → x.msgType ≠ .msgAppendResponse) →
    ∀ (Φ : Nat → Nat → Message → Prop),
    (∀ (n : Nat) (a b : Sys) (i : Nat) (st st' : NState) (rnd : Option Nat) (op : NodeOp) (res : OpRes),
      h[n]? = some a → h[n + 1]? = some b → a.node i = some st → b.node i = some st' →
      Node.call st rnd op = .ok (res, st') → b.net = a.net →
      G (Anet a.net) st.raft (CV.opMsg op) st'.raft →
      ∀ x ∈ st'.raft.msgs, K x → x ∈ st.raft.msgs ∨ Φ (n + 1) i x) →
    ∀ (n : Nat) (s : Sys), h[n]? = some s →
      (∀ i st, s.node i = some st → ∀ x ∈ st.raft.msgs, K x → Gen Φ n i x) ∧
      (∀ x ∈ s.net, K x → ∃ i, Gen Φ n i x)

theorem ProvFacts.id {h : List Sys} (F : ProvFacts h) {s : Sys} (hs : s ∈ h) {i : Nat} {st : NState}
    (hi : s.node i = some st) : st.raft.id = i :=
  (((hist_all F.hist).1 s hs).ids i st hi).1

/-- a log the leader of term `t` held at some point `≤ N`, in the view `lg` -/
def LeaderLogV (lg : NState → LLog) (h : List Sys) (N t : Nat) (L : LLog) : Prop :=
  ∃ (m : Nat) (s : Sys) (l : Nat) (st : NState), m ≤ N ∧ h[m]? = some s ∧ s.node l = some st ∧
    st.raft.state = .leader ∧ st.raft.term = t ∧ L = lg st

/-- what an accepting append response promises about the log `g` of its sender -/
def PromiseV (lg : NState → LLog) (h : List Sys) (m : Nat) (a : Message) (g : LLog) : Prop :=
  ∃ L, LeaderLogV lg h m a.term L ∧ a.index ≤ L.lastIndex ∧ EqUpTo g L a.index

structure AckFacts (h : List Sys) (c0 : Nat) (lg sl : NState → LLog) : Prop where
  id : ∀ (n : Nat) (s : Sys) (i : Nat) (st : NState), h[n]? = some s → s.node i = some st →
    st.raft.id = i
  last : ∀ (n : Nat) (s : Sys) (i : Nat) (st : NState), h[n]? = some s → s.node i = some st →
    (lg st).lastIndex = st.raft.raftLog.lastIndex
  mokc : ∀ (n : Nat) (s : Sys), h[n]? = some s → MOKc s
  ack_term : ∀ (n : Nat) (s : Sys), h[n]? = some s → ∀ a ∈ s.net, isAck a → a.index ≠ 0 → a.term ≠ 0
  /-- the sender queued it, in the term it carries -/
  ack_src : ∀ (n : Nat) (s : Sys), h[n]? = some s → ∀ a ∈ s.net, isAck a → a.index ≠ 0 →
    ∃ (n1 : Nat) (s1 : Sys) (stj : NState), n1 ≤ n ∧ h[n1]? = some s1 ∧ s1.node a.frm = some stj ∧
      a ∈ stj.raft.msgs ∧ a.term = stj.raft.term
  /-- while the sender is in that term, its log is a log of the term's leader up to the index -/
  mem : ∀ (n : Nat) (s : Sys) (v : Nat) (st : NState), h[n]? = some s → s.node v = some st →
    ∀ a, (a ∈ s.net ∨ a ∈ st.raft.msgs) → isAck a → a.frm = v → c0 < a.index →
    a.term = st.raft.term → PromiseV lg h n a (lg st)
  /-- … and so is its stored log, once the response is in the transport and the stored term is that term -/
  sto : ∀ (n : Nat) (s : Sys) (v : Nat) (st : NState), h[n]? = some s → s.node v = some st →
    ∀ a ∈ s.net, isAck a → a.frm = v → c0 < a.index →
    a.term = st.raft.raftLog.store.hardState.term → PromiseV lg h n a (sl st)
  ll_eq : ∀ {N N' t L L'}, LeaderLogV lg h N t L → LeaderLogV lg h N' t L' →
    ∀ {k}, k ≤ L.lastIndex → k ≤ L'.lastIndex → L.entryAt k = L'.entryAt k

variable {cfg : JointConfig} {c0 : Nat} {h : List Sys}

/-! ### without compaction -/

theorem ProvFacts.of_hyp (H : Hyp cfg h) : ProvFacts h := by
  refine ⟨H.hist, fun K _ Φ hfresh => provenance h H.hist H.steps K Φ ?_⟩
  intro n a b i st st' rnd op res ha hb hi hi' hcall hop _ hnet
  exact hfresh n a b i st st' rnd op res ha hb hi hi' hcall hnet
    (kstep_g (H.mokc n a ha) (H.nb a (mem_of_get ha)) (H.nosnap a (mem_of_get ha)) hi
      (hop.imp (fun g => g) fun ⟨m, h1, h2, _⟩ => ⟨m, h1, h2⟩) hcall)

theorem AckFacts.of_hyp3w (H : Hyp3w cfg c0 h) :
    AckFacts h c0 (fun st => st.raft.raftLog.abs) (fun st => storeLog st.raft.raftLog.store) := by
  have H2 := H.toHyp2w
  have Ha := H.toHyp3a
  refine ⟨fun n s i st hn hi => (node_ok H2 hn hi).id,
    fun n s i st hn hi => (node_ok H2 hn hi).inv.lastIndex_abs.symm,
    H2.toHyp.mokc, fun n s hn a ha hack h0 => ((ack_inv H2 n s hn).2 a ha hack h0).2, ?_,
    fun n s v st hn hv => (sm_all Ha hn).a2m v st hv, fun n s v st hn hv => (sm_all Ha hn).a2s v st hv,
    fun h1 h2 _ hk hk' => Cluster.ll_eq H2 h1 h2 hk hk'⟩
  intro n s hn a ha hack h0
  obtain ⟨i, n1, hn1, s1, st1, h1, h2, h3, h4, h5⟩ := (ack_prov H2 n s hn).2 a ha ⟨hack, h0⟩
  subst h5
  exact ⟨n1, s1, st1, hn1, h1, h2, h3, h4⟩

end Cluster
end RaftModel
