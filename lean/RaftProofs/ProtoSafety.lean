import RaftProofs.ProtoC4

/-!
Safety consequences of the commit-layer invariants, for any state that satisfies them:
agreement of leader commits, State Machine Safety for every pair of (volatile, durable, pending)
node states, Leader Completeness for nodes in the leader role, snapshots, and the ghost
"committed log" that every reported entry belongs to and that only grows.
-/
namespace RaftModel.P

/-- any two leader commits agree on their common prefix -/
theorem commits_agree {s : PSys} (hB : InvB s) (hC : InvC s)
    {p p' : Nat × Nat} (hp : p ∈ s.cmts) (hp' : p' ∈ s.cmts) {k : Nat} (hk : k ≤ p.2) (hk' : k ≤ p'.2) :
    (s.llog p.1).take k = (s.llog p'.1).take k := by
  rcases Nat.le_total p.1 p'.1 with h | h
  · exact (cmt_prefix_le hB hC.c3 hC.lc hp h (hC.c3.cq p' hp').2.2.2.1 hk).symm
  · exact cmt_prefix_le hB hC.c3 hC.lc hp' h (hC.c3.cq p hp).2.2.2.1 hk'

/-- two committed prefixes (of any two logs, as of any terms) agree -/
theorem cmtPre_agree {s : PSys} (hB : InvB s) (hC : InvC s)
    {t t' k k' : Nat} {l l' : List LEntry} (h : CmtPre s t k l) (h' : CmtPre s t' k' l') {m : Nat}
    (hm : m ≤ k) (hm' : m ≤ k') : l.take m = l'.take m := by
  rcases h with h | ⟨p, hp, h1, _, h3⟩
  · have : m = 0 := by omega
    subst this; simp
  rcases h' with h' | ⟨p', hp', h1', _, h3'⟩
  · have : m = 0 := by omega
    subst this; simp
  rw [take_of_take_eq h3 hm, take_of_take_eq h3' hm']
  exact commits_agree hB hC hp hp' (by omega) (by omega)

/-- **State Machine Safety**: the logs of any two nodes agree up to any index both report committed -/
theorem sm_safety {s : PSys} (hB : InvB s) (hC : InvC s) (i j k : Nat)
    (hi : k ≤ (s.nodes i).commit) (hj : k ≤ (s.nodes j).commit) :
    (s.nodes i).log.take k = (s.nodes j).log.take k :=
  cmtPre_agree hB hC (hC.c3.cm i) (hC.c3.cm j) hi hj

/-- ... also against what any node holds durably (what it restarts from) -/
theorem sm_safety_durable {s : PSys} (hB : InvB s) (hC : InvC s) (i j k : Nat)
    (hi : k ≤ (s.nodes i).commit) (hj : k ≤ (s.nodes j).dcommit) :
    (s.nodes i).log.take k = (s.nodes j).dlog.take k :=
  cmtPre_agree hB hC (hC.c3.cm i) (hC.c3.cmd j) hi hj

/-- ... and against every released snapshot -/
theorem snapshot_committed {s : PSys} (hB : InvB s) (hC : InvC s) (m : Snap) (hm : m ∈ s.snaps)
    (i : Nat) (hi : m.idx ≤ (s.nodes i).commit) : (s.nodes i).log.take m.idx = m.pre := by
  have := cmtPre_agree hB hC (hC.c3.cm i) (snap_cmtPre hB hC hm) hi (Nat.le_refl _)
  obtain ⟨_, _, _, hpre, _⟩ := hC.c3.csn m hm
  rw [this, hpre, List.take_take, Nat.min_self]

/-- **Leader Completeness**: a node in the leader role holds every prefix committed by a leader of a
term not beyond its own -/
theorem leader_complete {s : PSys} (hV : InvV (vsys s)) (hL : InvL s) (hB : InvB s)
    (hC : InvC s) (i : Nat) (hi : (s.nodes i).role = 2) (p : Nat × Nat) (hp : p ∈ s.cmts)
    (ht : p.1 ≤ (s.nodes i).term) : (s.nodes i).log.take p.2 = (s.llog p.1).take p.2 := by
  rw [hL.ll i hi]
  have hel := leader_elected hV hi
  exact cmt_prefix hB hC.c3 hC.lc hp ht hel

/-- the ghost log of every elected term holds every prefix committed in an earlier term -/
theorem leader_complete_ghost {s : PSys} (hB : InvB s) (hC : InvC s) (p : Nat × Nat)
    (hp : p ∈ s.cmts) (t : Nat) (ht : p.1 ≤ t) (hel : Elected s t) :
    (s.llog t).take p.2 = (s.llog p.1).take p.2 :=
  cmt_prefix hB hC.c3 hC.lc hp ht hel

/-! ### the committed log -/

/-- entry `e` is committed at (1-based) index `k`: some leader commit covers `k` and the log of that
leader holds `e` there -/
def Committed (s : PSys) (k : Nat) (e : LEntry) : Prop :=
  0 < k ∧ ∃ p ∈ s.cmts, k ≤ p.2 ∧ (s.llog p.1)[k - 1]? = some e

/-- at most one entry is ever committed at an index -/
theorem committed_unique {s : PSys} (hB : InvB s) (hC : InvC s) {k : Nat} {e e' : LEntry}
    (h : Committed s k e) (h' : Committed s k e') : e = e' := by
  obtain ⟨hk, p, hp, h1, h2⟩ := h
  obtain ⟨_, p', hp', h1', h2'⟩ := h'
  have := commits_agree hB hC hp hp' h1 h1'
  have := getElem?_of_take_eq this (show k - 1 < k by omega)
  rw [h2, h2'] at this
  injection this

/-- every entry of a committed prefix is a committed entry -/
theorem CmtPre.committed {s : PSys} (hC : InvC s) {t c : Nat} {l : List LEntry} (h : CmtPre s t c l)
    {k : Nat} (hk : 0 < k) (hi : k ≤ c) : ∃ e, l[k - 1]? = some e ∧ Committed s k e := by
  rcases h with h0 | ⟨p, hp, h1, _, h3⟩
  · omega
  · have hlen := (hC.c3.cq p hp).2.1
    have hx : k - 1 < (s.llog p.1).length := by omega
    refine ⟨(s.llog p.1)[k - 1], ?_, hk, p, hp, by omega, List.getElem?_eq_getElem hx⟩
    rw [getElem?_of_take_eq h3 (show k - 1 < c by omega)]
    exact List.getElem?_eq_getElem hx

/-- every entry a node reports committed (index within its commit index) is a committed entry -/
theorem reported_is_committed {s : PSys} (hC : InvC s) (i k : Nat) (hk : 0 < k)
    (hi : k ≤ (s.nodes i).commit) : ∃ e, (s.nodes i).log[k - 1]? = some e ∧ Committed s k e :=
  (hC.c3.cm i).committed hC hk hi

/-- the same for what a node holds durably -/
theorem durable_is_committed {s : PSys} (hC : InvC s) (i k : Nat) (hk : 0 < k)
    (hi : k ≤ (s.nodes i).dcommit) : ∃ e, (s.nodes i).dlog[k - 1]? = some e ∧ Committed s k e :=
  (hC.c3.cmd i).committed hC hk hi

/-- every entry inside a released snapshot is a committed entry -/
theorem snapshot_is_committed {s : PSys} (hB : InvB s) (hC : InvC s) (m : Snap) (hm : m ∈ s.snaps)
    (k : Nat) (hk : 0 < k) (hi : k ≤ m.idx) : ∃ e, m.pre[k - 1]? = some e ∧ Committed s k e :=
  (snap_cmtPre hB hC hm).committed hC hk hi

/-- **a committed entry stays committed** (the committed log only grows) -/
theorem committed_step {s s' : PSys} (hC : InvC s) (g : Grow s s') (e : Event)
    (h : applyEvent s e = .ok s') {k : Nat} {x : LEntry} (hk : Committed s k x) : Committed s' k x := by
  obtain ⟨h0, p, hp, h1, h2⟩ := hk
  obtain ⟨_, hlen, _, hel, _⟩ := hC.c3.cq p hp
  refine ⟨h0, p, cmts_step s s' e h p hp, h1, ?_⟩
  have := g.take_eq hel hlen
  rw [getElem?_of_take_eq this (show k - 1 < p.2 by omega)]
  exact h2

/-- every leader of a later term holds the committed prefix: the retention condition is met for good -/
theorem ncle_of_committed {s : PSys} (hB : InvB s) (hC : InvC s) {p : Nat × Nat}
    (hp : p ∈ s.cmts) (T : Nat) : NCle s p.1 p.2 T :=
  fun t' h1 _ hel => cmt_prefix hB hC.c3 hC.lc hp (Nat.le_of_lt h1) hel

/-- **a committed prefix is durable on a deciding quorum, for good**: for every leader commit there
is a deciding quorum each of whose members holds the committed prefix in its durable log — in the
state in which the commit happened and in every later state, whatever was truncated, overwritten,
crashed or restarted in between -/
theorem committed_durable_on_quorum {s : PSys} (hA : InvA s) (hB : InvB s) (hC : InvC s)
    (p : Nat × Nat) (hp : p ∈ s.cmts) :
    ∃ cfg q, (p, cfg) ∈ s.ccfgs ∧ cfg.isQuorum q = true ∧
      ∀ v ∈ q, (s.nodes v).dlog.take p.2 = (s.llog p.1).take p.2 := by
  obtain ⟨_, _, _, _, cfg, q, hcfg, hq, hacks⟩ := hC.c3.cq p hp
  refine ⟨cfg, q, hcfg, hq, ?_⟩
  intro v hv
  obtain ⟨a, ha, hat, haf, hai⟩ := hacks v hv
  have hsub := hA.sub a ha
  rw [haf, hat] at hsub
  exact hC.c1.retd v p.1 v a.idx a.pre hsub p.2 hai (ncle_of_committed hB hC hp _)

/-- ... and, while such a member is up, in its volatile log as well -/
theorem committed_held_by_quorum {s : PSys} (hA : InvA s) (hB : InvB s) (hC : InvC s)
    (p : Nat × Nat) (hp : p ∈ s.cmts) :
    ∃ cfg q, (p, cfg) ∈ s.ccfgs ∧ cfg.isQuorum q = true ∧ ∀ v ∈ q, (s.nodes v).up = true →
      (s.nodes v).log.take p.2 = (s.llog p.1).take p.2 := by
  obtain ⟨_, _, _, _, cfg, q, hcfg, hq, hacks⟩ := hC.c3.cq p hp
  refine ⟨cfg, q, hcfg, hq, ?_⟩
  intro v hv hup
  obtain ⟨a, ha, hat, haf, hai⟩ := hacks v hv
  have hsub := hA.sub a ha
  rw [haf, hat] at hsub
  exact hC.c1.ret v p.1 v a.idx a.pre (hA.o1 v hup _ hsub rfl) p.2 hai (ncle_of_committed hB hC hp _)

/-- every commit index of every node lies within a recorded leader commit of a term not beyond the node's -/
theorem commit_within_leader_commit {s : PSys} (hC : InvC s) (i : Nat)
    (h0 : 0 < (s.nodes i).commit) :
    ∃ p ∈ s.cmts, (s.nodes i).commit ≤ p.2 ∧ p.1 ≤ (s.nodes i).term := by
  rcases hC.c3.cm i with h | ⟨p, hp, h1, h2, _⟩
  · omega
  · exact ⟨p, hp, h1, h2⟩

end RaftModel.P
