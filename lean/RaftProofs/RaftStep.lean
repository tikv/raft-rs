import RaftProofs.RaftGuards
import RaftProofs.Res
import RaftModel.NodeOps

/-!
`Raft::step`, its term preamble and `Raft::new` taken apart once.

`Stepped r m r' e` lists the ways a successful `step` ends: the preamble (`TermStep`, `RaftGuards`)
consumed the message, or it handed a state `r1` to the dispatch, and `Dispatch r1 m r' e` has one
constructor per arm with the equation of the handler called.  `step_inv` is the one place where
`Raft.step` is unfolded for a successful run; `step_of_consumed`, `step_leader` … are the same facts read
forwards, for the proofs that compute what `step` returns.

`Built c store rnd r` says what a successful `Raft::new` went through and gives the node it returns as
a closed term, `(loadedNode …).becomeFollower term 0`: whatever is asked of a freshly built node is read
off that record.  `Node.boot_inv` takes `Node::boot` back to `Raft::new`.
-/
namespace RaftModel
namespace Raft

/-- neither `MsgHup` nor a (pre-)vote request: the message goes to the handler of the node's role -/
abbrev ToRole (m : Message) : Prop :=
  m.msgType ≠ .msgHup ∧ m.msgType ≠ .msgRequestVote ∧ m.msgType ≠ .msgRequestPreVote

theorem ToRole.of_eq {m : Message} {t : MsgType} (h : m.msgType = t)
    (ht : t ≠ .msgHup ∧ t ≠ .msgRequestVote ∧ t ≠ .msgRequestPreVote := by decide) : ToRole m := by
  rw [ToRole, h]; exact ht

/-- **the ways the dispatch of `step` ends** (raft.rs:1484-1540), one constructor per arm -/
inductive Dispatch (r : Raft) (m : Message) : Raft → Option RaftError → Prop
  | hup {r' : Raft} : m.msgType = .msgHup → r.hup false = .ok r' → Dispatch r m r' none
  | vote {r' : Raft} : m.msgType = .msgRequestVote ∨ m.msgType = .msgRequestPreVote →
      r.stepVote m = .ok r' → Dispatch r m r' none
  | candidate {r' : Raft} {e : Option RaftError} : ToRole m →
      r.state = .candidate ∨ r.state = .preCandidate → r.stepCandidate m = .ok (r', e) →
      Dispatch r m r' e
  | follower {r' : Raft} {e : Option RaftError} : ToRole m → r.state = .follower →
      r.stepFollower m = .ok (r', e) → Dispatch r m r' e
  | leader {r' : Raft} {e : Option RaftError} : ToRole m → r.state = .leader →
      r.stepLeader m = .ok (r', e) → Dispatch r m r' e

/-- **the ways `Raft::step` ends**: the preamble consumed the message, or handed `r1` to the dispatch -/
inductive Stepped (r : Raft) (m : Message) : Raft → Option RaftError → Prop
  | consumed {r1 : Raft} : r.stepTerm m = .ok (r1, false) → Stepped r m r1 none
  | dispatched {r1 r' : Raft} {e : Option RaftError} : r.stepTerm m = .ok (r1, true) →
      Dispatch r1 m r' e → Stepped r m r' e

theorem step_inv {r r' : Raft} {m : Message} {e : Option RaftError}
    (h : r.step m = .ok (r', e)) : Stepped r m r' e := by
  unfold Raft.step at h
  split at h
  · cases h
  · cases h
  · rename_i ht; cases h; exact .consumed ht
  · rename_i ht
    refine .dispatched ht ?_
    split at h
    · rename_i ty
      obtain ⟨r2, h2, h⟩ := Res.bind_eq_ok h
      cases h; exact .hup ty h2
    · rename_i ty
      split at h
      · rename_i hv; cases h; exact .vote (.inl ty) hv
      · cases h
      · cases h
    · rename_i ty
      split at h
      · rename_i hv; cases h; exact .vote (.inr ty) hv
      · cases h
      · cases h
    · rename_i t1 t2 t3
      split at h
      · rename_i st; exact .candidate ⟨t1, t2, t3⟩ (.inr st) h
      · rename_i st; exact .candidate ⟨t1, t2, t3⟩ (.inl st) h
      · rename_i st; exact .follower ⟨t1, t2, t3⟩ st h
      · rename_i st; exact .leader ⟨t1, t2, t3⟩ st h

/-- a successful `step` whose preamble hands on `r1` is the dispatch on `r1` -/
theorem step_dispatch {r r1 r' : Raft} {m : Message} {e : Option RaftError}
    (ht : r.stepTerm m = .ok (r1, true)) (h : r.step m = .ok (r', e)) : Dispatch r1 m r' e := by
  cases step_inv h with
  | consumed ht' => rw [ht] at ht'; cases ht'
  | dispatched ht' hd => rw [ht] at ht'; cases ht'; exact hd

/-- `let _ = self.step(m)` went through: so did `step`, whatever it returned -/
theorem stepIgnore_inv {r r' : Raft} {m : Message} (h : r.stepIgnore m = .ok r') :
    ∃ e, r.step m = .ok (r', e) := by
  unfold Raft.stepIgnore at h
  obtain ⟨⟨r1, e⟩, hs, h⟩ := Res.bind_eq_ok h
  cases h; exact ⟨e, hs⟩

/-- a (pre-)vote request that the preamble lets through is handled by the vote arm -/
theorem Dispatch.vote_inv {r1 r' : Raft} {m : Message} {e : Option RaftError}
    (hty : m.msgType = .msgRequestVote ∨ m.msgType = .msgRequestPreVote) (hd : Dispatch r1 m r' e) :
    r1.stepVote m = .ok r' := by
  cases hd with
  | hup ty _ => rcases hty with c | c <;> rw [c] at ty <;> cases ty
  | vote _ hv => exact hv
  | candidate ty | follower ty | leader ty =>
    rcases hty with c | c
    · exact absurd c ty.2.1
    · exact absurd c ty.2.2

/-! ### the preamble -/

/-- a local message (term 0) and a message of the node's own term pass the preamble untouched -/
theorem stepTerm_same {r : Raft} {m : Message} (h : m.term = 0 ∨ m.term = r.term) :
    r.stepTerm m = .ok (r, true) := by
  by_cases h0 : m.term = 0
  · exact stepTerm_of (.zero h0)
  · exact stepTerm_of (.same h0 (h.resolve_left h0))

/-- a vote response that is not from a higher term, or a granted pre-vote response of any term, leaves
the node as it is in the preamble: it is dropped when stale and passed on otherwise -/
theorem stepTerm_voteResp {r : Raft} {m : Message}
    (hty : m.msgType = .msgRequestPreVoteResponse ∨ m.msgType = .msgRequestVoteResponse)
    (ht : ¬ r.term < m.term ∨ (m.msgType = .msgRequestPreVoteResponse ∧ m.reject = false)) :
    r.stepTerm m = .ok (r, true) ∨ (m.term < r.term ∧ r.stepTerm m = .ok (r, false)) := by
  have hreq : ¬ (m.msgType = .msgRequestVote ∨ m.msgType = .msgRequestPreVote) := by
    intro c; rcases hty with e | e <;> rw [e] at c <;> rcases c with c | c <;> cases c
  by_cases h0 : m.term = 0
  · exact .inl (stepTerm_of (.zero h0))
  by_cases hgt : r.term < m.term
  · obtain ⟨hm, hg⟩ := ht.resolve_left (fun c => c hgt)
    exact .inl (stepTerm_of (.prevote h0 hgt (fun l => hreq l.1) (.inr ⟨hm, by rw [hg]; decide⟩)))
  by_cases hlt : m.term < r.term
  · refine .inr ⟨hlt, stepTerm_of (.stale h0 hlt ?_ (fun c => hreq (.inr c)))⟩
    intro c; rcases hty with e | e <;> rw [e] at c <;> rcases c.2 with c | c <;> cases c
  · exact .inl (stepTerm_of (.same h0 (by omega)))

/-- what the dispatch is handed when the preamble lets a message through: the node itself, or
`become_follower(m.term, _)` of it on a higher-term message that is neither under the lease, nor a
pre-vote request, nor a granted pre-vote response -/
theorem stepTerm_passed {r r1 : Raft} {m : Message} (h : r.stepTerm m = .ok (r1, true)) :
    r1 = r ∨ (r.term < m.term ∧ ¬ Leased r m ∧
      ¬ (m.msgType = .msgRequestPreVote ∨ (m.msgType = .msgRequestPreVoteResponse ∧ ¬ m.reject = true)) ∧
      ∃ l, r1 = r.becomeFollower m.term l) := by
  cases stepTerm_inv h with
  | zero | prevote | same => exact .inl rfl
  | follow l _ hgt hl hpv => exact .inr ⟨hgt, hl, hpv, l, rfl⟩

/-! ### `step`, read forwards -/

theorem step_of_consumed {r r1 : Raft} {m : Message} (ht : r.stepTerm m = .ok (r1, false)) :
    r.step m = .ok (r1, none) := by
  unfold Raft.step; rw [ht]

theorem step_hup {r r1 : Raft} {m : Message} (ht : r.stepTerm m = .ok (r1, true))
    (ty : m.msgType = .msgHup) : r.step m = (r1.hup false).bind (fun r => .ok (r, none)) := by
  unfold Raft.step; rw [ht, ty]

/-- a message for the node's role goes to the handler of the state the preamble hands on -/
theorem step_role {r r1 : Raft} {m : Message} (ht : r.stepTerm m = .ok (r1, true)) (ty : ToRole m) :
    r.step m = match r1.state with
      | .preCandidate | .candidate => r1.stepCandidate m
      | .follower => r1.stepFollower m
      | .leader => r1.stepLeader m := by
  unfold Raft.step; rw [ht]
  dsimp only
  split
  · exact absurd ‹_› ty.1
  · exact absurd ‹_› ty.2.1
  · exact absurd ‹_› ty.2.2
  · rfl

theorem step_leader {r r1 : Raft} {m : Message} (ht : r.stepTerm m = .ok (r1, true))
    (ty : ToRole m) (hs : r1.state = .leader) : r.step m = r1.stepLeader m := by
  rw [step_role ht ty, hs]

theorem step_follower {r r1 : Raft} {m : Message} (ht : r.stepTerm m = .ok (r1, true))
    (ty : ToRole m) (hs : r1.state = .follower) : r.step m = r1.stepFollower m := by
  rw [step_role ht ty, hs]

theorem step_candidate {r r1 : Raft} {m : Message} (ht : r.stepTerm m = .ok (r1, true))
    (ty : ToRole m) (hs : r1.state = .candidate ∨ r1.state = .preCandidate) :
    r.step m = r1.stepCandidate m := by
  rw [step_role ht ty]
  rcases hs with hs | hs <;> rw [hs]

/-- `send_request_snapshot` (raft.rs:2918) where it returns: the term of the last index is known, and a
rejecting `MsgAppendResponse` for the leader carries the request -/
theorem sendRequestSnapshot_inv {r r' : Raft} (h : r.sendRequestSnapshot = .ok r') :
    ∃ t, r.raftLog.term r.raftLog.lastIndex = .ok t ∧
      r.send { msgType := .msgAppendResponse, index := r.raftLog.committed, reject := true,
               rejectHint := r.raftLog.lastIndex, to := r.leaderId,
               requestSnapshot := r.pendingRequestSnapshot, logTerm := t } = .ok r' := by
  unfold Raft.sendRequestSnapshot at h
  dsimp only at h
  cases ht : r.raftLog.term r.raftLog.lastIndex with
  | ok t => rw [ht] at h; exact ⟨t, rfl, h⟩
  | err e => rw [ht] at h; cases h
  | panic s => rw [ht] at h; cases h

/-! ### `Raft::new` -/

/-- away from the leader role `post_conf_change` only recomputes `promotable` -/
theorem postConfChange_eq {r : Raft} (hs : r.state ≠ .leader) :
    r.postConfChange = .ok ({ r with promotable := Joint.contains r.prs.voters r.id },
      r.prs.conf.toConfState) := by
  unfold Raft.postConfChange
  simp [hs]

/-- `commit_apply_internal(applied, true)` away from the leader role only sets the apply cursor -/
theorem commitApplyInternal_unchecked {r : Raft} {n : Nat} (hs : r.state ≠ .leader) (hn : 0 < n) :
    r.commitApplyInternal n true = .ok { r with raftLog := { r.raftLog with applied := n } } := by
  unfold Raft.commitApplyInternal
  simp only [Bool.not_true, Bool.false_eq_true, if_false]
  rw [if_neg (by omega)]
  dsimp only
  rw [if_neg (fun hc => hs hc.2.2.2)]

/-- the node `Raft::new` starts from (raft.rs:340-380): a follower at term 0 with an empty tracker -/
def bootNode (c : Config) (log : RaftLog) (rnd : Option Nat) : Raft :=
  { prs := ProgressTracker.new c.maxInflightMsgs, msgs := [], id := c.id, readStates := [],
    raftLog := log, maxInflight := c.maxInflightMsgs, maxMsgSize := c.maxSizePerMsg,
    pendingRequestSnapshot := 0, state := .follower, promotable := false,
    checkQuorum := c.checkQuorum, preVote := c.preVote, readOnly := ReadOnly.new c.readOnlyOption,
    heartbeatTimeout := c.heartbeatTick, electionTimeout := c.electionTick, leaderId := 0,
    leadTransferee := none, term := 0, electionElapsed := 0, pendingConfIndex := 0, vote := 0,
    heartbeatElapsed := 0, randomizedElectionTimeout := 0,
    minElectionTimeout := c.minElectionTick', maxElectionTimeout := c.maxElectionTick',
    skipBcastCommit := c.skipBcastCommit, batchAppend := c.batchAppend, priority := c.priority,
    uncommittedState := { maxUncommittedSize := c.maxUncommittedSize, uncommittedSize := 0,
                          lastLogTailIndex := 0 },
    maxCommittedSizePerReady := c.maxCommittedSizePerReady,
    disableProposalForwarding := c.disableProposalForwarding, nextRand := rnd }

/-- … and the node it hands to the final `become_follower`: the tracker restored from the stored
`ConfState`, `promotable` recomputed, the stored hard state loaded (`load_state`; an empty one, `{}`,
is not, and its term and vote are those of `bootNode`), the apply cursor at `Config.applied` if that
is set -/
def loadedNode (c : Config) (log : RaftLog) (rnd : Option Nat) (prs : ProgressTracker)
    (hs : HardState) : Raft :=
  { bootNode c log rnd with
    prs := prs, promotable := Joint.contains prs.voters c.id, term := hs.term, vote := hs.vote,
    raftLog := { log with committed := if hs ≠ {} then hs.commit else log.committed,
                          applied := if c.applied > 0 then c.applied else log.applied } }

/-- **what `Raft::new` builds** (raft.rs:322): the guards it passed and the node as a closed term -/
structure Built (c : Config) (store : MemStorage) (rnd : Option Nat) (r : Raft) : Prop where
  valid : c.validate = true
  node : ∃ log prs, RaftLog.new store c.maxApplyUnpersistedLogLimit = .ok log ∧
    (ProgressTracker.new c.maxInflightMsgs).restore log.lastIndex store.confState = .ok prs ∧
    confStateEq prs.conf.toConfState store.confState = true ∧
    (store.hardState ≠ {} → ¬ (store.hardState.commit < log.committed ∨
      log.lastIndex < store.hardState.commit)) ∧
    r = (loadedNode c log rnd prs store.hardState).becomeFollower store.hardState.term 0

theorem raftNew_inv {c : Config} {store : MemStorage} {rnd : Option Nat} {r : Raft}
    (h : Raft.new c store rnd = .ok (.ok r)) : Built c store rnd r := by
  unfold Raft.new at h
  split at h
  · cases h
  · rename_i hv
    refine ⟨by simpa using hv, ?_⟩
    dsimp only [MemStorage.initialState] at h
    split at h
    · cases h
    · cases h
    · rename_i log hnew
      split at h
      · cases h
      · rename_i prs hprs
        rw [postConfChange_eq (by intro hc; cases hc)] at h
        obtain ⟨hcs, h⟩ := Res.of_guard h
        obtain ⟨r2, h2, h⟩ := Res.bind_eq_ok h
        obtain ⟨r3, h3, h⟩ := Res.bind_eq_ok h
        cases h
        refine ⟨log, prs, hnew, hprs, by simpa using hcs, ?_⟩
        -- `load_state`, unless the stored hard state is empty
        have e2 : (store.hardState ≠ {} → ¬ (store.hardState.commit < log.committed ∨
              log.lastIndex < store.hardState.commit)) ∧
            r2 = { loadedNode c log rnd prs store.hardState with
                   raftLog := { log with committed :=
                     if store.hardState ≠ {} then store.hardState.commit else log.committed } } := by
          by_cases hh : store.hardState ≠ {}
          · rw [if_pos hh] at h2
            unfold Raft.loadState at h2
            obtain ⟨hr, h2⟩ := Res.of_guard h2
            cases h2
            exact ⟨fun _ => hr, by rw [if_pos hh]; rfl⟩
          · rw [if_neg hh] at h2
            cases h2
            refine ⟨fun hx => absurd hx hh, ?_⟩
            rw [if_neg hh, Classical.not_not.1 hh]; rfl
        obtain ⟨hr, rfl⟩ := e2
        refine ⟨hr, ?_⟩
        -- `commit_apply_internal(applied, true)` on a follower
        by_cases hca : c.applied > 0
        · rw [if_pos hca, commitApplyInternal_unchecked (by intro hc; cases hc) hca] at h3
          cases h3
          unfold loadedNode; rw [if_pos hca]
        · rw [if_neg hca] at h3
          cases h3
          unfold loadedNode; rw [if_neg hca]

/-- `RaftLog::new` (raft_log.rs:66) over a storage: all cursors at the storage's own -/
theorem _root_.RaftModel.RaftLog.new_inv {store : MemStorage} {limit : Nat} {log : RaftLog}
    (h : RaftLog.new store limit = .ok log) :
    store.firstIndex ≠ 0 ∧
    log = { store := store, committed := store.firstIndex - 1, persisted := store.lastIndex,
            applied := store.firstIndex - 1, unstable := Unstable.new (store.lastIndex + 1),
            maxApplyUnpersistedLogLimit := limit } := by
  unfold RaftLog.new at h
  obtain ⟨h0, h⟩ := Res.of_guard h
  cases h; exact ⟨h0, rfl⟩

end Raft

/-- `RawNode::step` (raw_node.rs:415) refuses the message and leaves the node as it is, or is
`Raft::step` of a message that is not local -/
theorem RawNode.step_inv {r r' : Raft} {m : Message} {e : Option RaftError}
    (h : RawNode.step r m = .ok (r', e)) :
    r' = r ∨ (¬ isLocalMsg m.msgType = true ∧ r.step m = .ok (r', e)) := by
  unfold RawNode.step at h
  split at h
  · cases h; exact .inl rfl
  · rename_i hloc
    split at h
    · exact .inr ⟨hloc, h⟩
    · cases h; exact .inl rfl

/-- `Node::boot` is `RawNode::new` — `Raft::new` for a non-zero id — beside the application's record of
the stored `ConfState` -/
theorem Node.boot_inv {c : Config} {store : MemStorage} {rnd : Option Nat} {st : Node.NState}
    (h : Node.boot c store rnd = .ok (.ok st)) :
    c.id ≠ 0 ∧ Raft.new c store rnd = .ok (.ok st.raft) ∧ st.appCs = store.confState := by
  unfold Node.boot at h
  split at h
  · rename_i raft hn
    cases h
    unfold RawNode.new at hn
    obtain ⟨hid, hn⟩ := Res.of_guard hn
    exact ⟨hid, hn, rfl⟩
  · cases h
  · cases h
  · cases h

end RaftModel
