import RaftProps.C09b
import RaftProofs.ClusterVoteH

/-!
C09 at the cluster level, helper lemmas part A: the changer's view of a node's tracker
(`prs.toCC`: the configuration — voters, outgoing voters, learners, staged learners, auto-leave — and
the key set of the progress map) is kept by every function of the node model except
`apply_conf_change` and `restore`.  The relation is `TC` of `RaftProofs/RaftNodeC09.lean`
(anchored: `TC a r` = "`r` has the tracker view of `a`").  The helpers keep it because they have the
helper frame (`HF.tc`); here it goes through the role changes, `poll`, `campaign`, `hup` and
`maybe_commit_by_vote`.
-/
namespace RaftModel
namespace Raft
open VoteOb

theorem HF.tc {a r : Raft} (h : HF a r) : TC a r := by
  have e := congrArg HCore.cc h.core
  exact e

theorem TC.trans {a b c : Raft} (h1 : TC a b) (h2 : TC b c) : TC a c := by
  unfold TC at *; rw [h2, h1]

/-- a structure update of `prs` that keeps the configuration and the progress map -/
theorem TC.prs {a r : Raft} {p : ProgressTracker} (hc : p.conf = r.prs.conf)
    (hp : p.progress = r.prs.progress) (h0 : TC a r) : TC a { r with prs := p } := by
  show p.toCC = _
  unfold TC at h0
  rw [← h0]
  unfold ProgressTracker.toCC
  rw [hc, hp]

theorem sendHeartbeat_tc {a r r' : Raft} {to : Nat} {pr : Progress} {ctx : Option Bytes}
    (h : r.sendHeartbeat to pr ctx = .ok r') (h0 : TC a r) : TC a r' :=
  h0.trans (sendHeartbeat_hf h HF.rf).tc

theorem sendTimeoutNow_tc {a r r' : Raft} {to : Nat}
    (h : r.sendTimeoutNow to = .ok r') (h0 : TC a r) : TC a r' := by
  unfold Raft.sendTimeoutNow at h
  exact send_tc h h0

theorem resetVotes_tc {a r : Raft} (h0 : TC a r) : TC a { r with prs := r.prs.resetVotes } :=
  TC.prs rfl rfl h0

theorem recordVote_tc {a r : Raft} (frm : Nat) (v : Bool) (h0 : TC a r) :
    TC a { r with prs := r.prs.recordVote frm v } :=
  TC.prs (c02_recordVote_conf _ _ _) (by unfold ProgressTracker.recordVote; split <;> rfl) h0

theorem becomeCandidate_tc {a r r' : Raft} (h : r.becomeCandidate = .ok r') (h0 : TC a r) :
    TC a r' :=
  becomeCandidate_parts h h0 reset_tc TC.mk'

theorem becomePreCandidate_tc {a r r' : Raft} (h : r.becomePreCandidate = .ok r') (h0 : TC a r) :
    TC a r' := by
  unfold Raft.becomePreCandidate at h
  split at h
  · cases h
  · cases h
    exact TC.prs rfl rfl h0

theorem becomeLeader_tc {a r r' : Raft} (h : r.becomeLeader = .ok r') (h0 : TC a r) :
    TC a r' :=
  becomeLeader_parts h h0 reset_tc (fun _ _ h1 => (c09_set_toCC _ _ _).trans h1)
    fun ha p => p.trans (appendEntry_hf ha HF.rf).tc

theorem sendVoteRequests_tc {a r r' : Raft} {ct : CampaignType} {vm : MsgType} {term : Nat}
    (h : r.sendVoteRequests ct vm term = .ok r') (h0 : TC a r) : TC a r' :=
  sendVoteRequests_parts h h0 fun h _ => send_tc h

theorem poll_tc {a r r' : Raft} {frm : Nat} {t : MsgType} {v : Bool} {res : VoteResult}
    (h : r.poll frm t v = .ok (r', res)) (h0 : TC a r) : TC a r' :=
  poll_parts h h0 recordVote_tc becomeLeader_tc bcastAppend_tc (becomeFollower_tc _ _)
    becomePreCandidate_tc becomeCandidate_tc fun h _ => sendVoteRequests_tc h

theorem campaign_tc {a r r' : Raft} {ct : CampaignType} (h : r.campaign ct = .ok r')
    (h0 : TC a r) : TC a r' :=
  campaign_parts h h0 recordVote_tc becomeLeader_tc bcastAppend_tc (becomeFollower_tc _ _)
    becomePreCandidate_tc becomeCandidate_tc fun h _ => sendVoteRequests_tc h

theorem hup_tc {a r r' : Raft} {b : Bool} (h : r.hup b = .ok r') (h0 : TC a r) : TC a r' :=
  hup_parts h h0 fun _ hc => campaign_tc hc h0

theorem maybeCommitByVote_tc {a r r' : Raft} {m : Message} (h : r.maybeCommitByVote m = .ok r')
    (h0 : TC a r) : TC a r' :=
  maybeCommitByVote_parts h h0 (fun _ => TC.mk' h0) (becomeFollower_tc _ _)

/-! ### the helpers, under their names -/

theorem TC.modify {a r : Raft} (id : Nat) (f : Progress → Progress) (h0 : TC a r) :
    TC a (r.modifyProgress id f) := by
  unfold TC; rw [c09_modifyProgress_toCC]; exact h0

theorem TC.map {a r : Raft} (f : Nat → Progress → Progress) (h0 : TC a r) :
    TC a (r.mapProgress f) := by
  unfold TC; rw [c09_mapProgress_toCC]; exact h0

theorem sendAppend_tc {a r r' : Raft} {to : Nat}
    (h : r.sendAppend to = .ok r') (h0 : TC a r) : TC a r' :=
  h0.trans (sendAppend_hf h HF.rf).tc

theorem sendAppendAggressively_tc {a r r' : Raft} {to : Nat}
    (h : r.sendAppendAggressively to = .ok r') (h0 : TC a r) : TC a r' :=
  h0.trans (sendAppendAggressively_hf h HF.rf).tc

theorem bcastHeartbeatWithCtx_tc {a r r' : Raft} {ctx : Option Bytes}
    (h : r.bcastHeartbeatWithCtx ctx = .ok r') (h0 : TC a r) : TC a r' :=
  h0.trans (bcastHeartbeatWithCtx_hf h HF.rf).tc

theorem bcastHeartbeat_tc {a r r' : Raft} (h : r.bcastHeartbeat = .ok r') (h0 : TC a r) :
    TC a r' :=
  h0.trans (bcastHeartbeat_hf h HF.rf).tc

theorem appendEntry_tc {a r r' : Raft} {es : List Entry} {b : Bool}
    (h : r.appendEntry es = .ok (r', b)) (h0 : TC a r) : TC a r' :=
  h0.trans (appendEntry_hf h HF.rf).tc

theorem checkQuorumActive_tc {a r r' : Raft} {b : Bool} (h : r.checkQuorumActive = (r', b))
    (h0 : TC a r) : TC a r' :=
  h0.trans (checkQuorumActive_hf h HF.rf).tc

theorem handleHeartbeatResponse_tc {a r r' : Raft} {m : Message}
    (h : r.handleHeartbeatResponse m = .ok r') (h0 : TC a r) : TC a r' :=
  h0.trans (handleHeartbeatResponse_hf h HF.rf).tc

theorem handleSnapshotStatus_tc {a r : Raft} {m : Message} (h0 : TC a r) :
    TC a (r.handleSnapshotStatus m) :=
  h0.trans (handleSnapshotStatus_hf HF.rf).tc

theorem handleUnreachable_tc {a r : Raft} {m : Message} (h0 : TC a r) :
    TC a (r.handleUnreachable m) :=
  h0.trans (handleUnreachable_hf HF.rf).tc

theorem sendRequestSnapshot_tc {a r r' : Raft} (h : r.sendRequestSnapshot = .ok r')
    (h0 : TC a r) : TC a r' :=
  h0.trans (sendRequestSnapshot_hf h HF.rf).tc

theorem handleAppendResponseAccepted_tc {a r r' : Raft} {m : Message} {pr : Progress} {op : Bool}
    (h : r.handleAppendResponseAccepted m pr op = .ok r') (h0 : TC a r) : TC a r' :=
  handleAppendResponseAccepted_parts h (fun _ => TC.set _ _ h0) maybeCommit_tc bcastAppend_tc
    sendAppend_tc sendAppendAggressively_tc fun _ => sendTimeoutNow_tc

theorem handleAppendResponse_tc {a r r' : Raft} {m : Message}
    (h : r.handleAppendResponse m = .ok r') (h0 : TC a r) : TC a r' :=
  handleAppendResponse_parts h h0 (fun _ => TC.set _ _ h0) sendAppend_tc
    (handleAppendResponseAccepted_tc · h0)

theorem handleTransferLeader_tc {a r r' : Raft} {m : Message}
    (h : r.handleTransferLeader m = .ok r') (h0 : TC a r) : TC a r' :=
  handleTransferLeader_parts h h0 TC.mk' TC.mk' (fun _ => sendTimeoutNow_tc)
    (fun _ => sendAppendPr_tc) (TC.set _)

end Raft
end RaftModel
