import RaftProofs.ClusterCommit4B

/-!
Cluster-level commit safety, part 4C: `PW` under a log that grew or new pending reads, and `LW`
through `maybe_commit`, `append_entry` and the read-index helpers.
-/
namespace RaftModel
namespace Raft
namespace PerCall
open RaftProps.C13

variable {E : Rule}

/-- the node is mute, or the progress is within the log -/
def PQ (E : Rule) (r : Raft) (pr : Progress) : Prop := E.mute r.msgs ∨ POk E r.msgs r.raftLog.lastIndex pr

theorem PQ.imp {r : Raft} {pr pr' : Progress} (h : PQ E r pr)
    (hf : POk E r.msgs r.raftLog.lastIndex pr → POk E r.msgs r.raftLog.lastIndex pr') : PQ E r pr' :=
  Or.imp (fun x => x) hf h

/-- replacing the log by one whose last, commit and first index are not below the present ones -/
theorem PW.grow {a r : Raft} {l : RaftLog} (h0 : PW E a r) (hinv : l.Inv)
    (hlast : r.raftLog.lastIndex ≤ l.lastIndex) (hcommit : r.raftLog.committed ≤ l.committed)
    (hfirst : r.raftLog.firstIndex ≤ l.firstIndex) : PW E a { r with raftLog := l } := by
  refine ⟨hinv, h0.nb, fun hs => ?_, fun hs p hp => ?_, fun x hx hty => ?_,
    fun x hx hty => ?_, h0.sn, Nat.le_trans h0.fi hfirst, h0.qf⟩
  · rcases h0.po hs with c | c
    · exact .inl c
    · exact .inr (c.mono hlast (fun _ hx _ => hx))
  · exact Nat.le_trans (h0.rd hs p hp) hcommit
  · rcases h0.qa x hx hty with c | c | c
    · exact .inl c
    · exact .inr (.inl c)
    · exact .inr (.inr (Nat.le_trans c hlast))
  · rcases h0.qr x hx hty with c | c
    · exact .inl c
    · exact .inr (Nat.le_trans c hcommit)

/-- replacing the pending reads -/
theorem PW.ro {a r : Raft} {ro : ReadOnly} (h0 : PW E a r)
    (hr : r.state = .leader → ∀ p ∈ ro.pendingReadIndex, p.2.index ≤ r.raftLog.committed) :
    PW E a { r with readOnly := ro } :=
  ⟨h0.inv, h0.nb, h0.po, hr, h0.qa, h0.qr, h0.sn, h0.fi, h0.qf⟩

/-! ### `maybe_commit`, `append_entry` -/

theorem maybeCommit_lw {a r r' : Raft} {b : Bool} (h : r.maybeCommit = .ok (r', b))
    (h0 : LW E a r) : LW E a r' :=
  maybeCommit_parts2 (P := LW E a) h h0 fun hm =>
    have h1 := h0.1.log (c05_maybeCommit_same hm)
    ⟨PW.prs h1 fun hs => (h1.po hs).imp (fun x => x)
      fun c => c.modify _ _ fun pr hp => hp.updateCommitted _, h0.2⟩

theorem appendEntry_lw {a r r' : Raft} {es : List Entry} {b : Bool}
    (h : r.appendEntry es = .ok (r', b)) (h0 : LW E a r) : LW E a r' := by
  obtain ⟨l, u, he⟩ := appendEntry_shape h
  have hg : r'.raftLog.Inv ∧ r.raftLog.lastIndex ≤ r'.raftLog.lastIndex ∧
      r.raftLog.committed ≤ r'.raftLog.committed ∧
      r.raftLog.firstIndex ≤ r'.raftLog.firstIndex := by
    rcases appendEntry_cases h0.1.inv h0.2 h with ⟨_, c⟩ | ⟨_, _, c, _⟩ | ⟨_, c, _⟩
    · rw [c]; exact ⟨h0.1.inv, Nat.le_refl _, Nat.le_refl _, Nat.le_refl _⟩
    · exact ⟨c.inv h0.1.inv, Nat.le_of_eq c.last.symm, c.commit, by
        rw [(c.inv h0.1.inv).firstIndex_abs, h0.1.inv.firstIndex_abs, c.abs]; exact Nat.le_refl _⟩
    · exact ⟨c.inv, by rw [c.last]; omega, c.commit, by
        rw [c.inv.firstIndex_abs, h0.1.inv.firstIndex_abs, c.abs]; exact Nat.le_refl _⟩
  have hl : r'.raftLog = l := by rw [he]
  rw [hl] at hg
  rw [he]
  exact ⟨PW.mk' (r := { r with raftLog := l }) (h0.1.grow hg.1 hg.2.1 hg.2.2.1 hg.2.2.2), h0.2⟩

/-! ### the read-index helpers -/

/-- queueing a `MsgReadIndexResp` whose index is at most the commit index -/
theorem send_rir_lw {a r r' : Raft} {m : Message} (h : r.send m = .ok r')
    (hm : m.msgType = .msgReadIndexResp) (hi : m.index ≤ r.raftLog.committed) (h0 : LW E a r) :
    LW E a r' := by
  refine ⟨?_, (send_frame h Frame.rfl).state.trans h0.2⟩
  rw [send_eq r r' m h]
  refine h0.1.push _ (fun hc => ?_) (fun _ => ?_) (fun hc => ?_)
  · rw [sendFill_msgType, hm] at hc; cases hc
  · rw [sendFill_index]; exact hi
  · rw [sendFill_msgType, hm] at hc; cases hc

theorem handleReadyReadIndex_lw {a r r' : Raft} {req : Message} {i : Nat} {om : Option Message}
    (h : r.handleReadyReadIndex req i = .ok (r', om)) (h0 : LW E a r) :
    LW E a r' ∧ r'.raftLog = r.raftLog ∧
      ∀ m', om = some m' → m'.msgType = .msgReadIndexResp ∧ m'.index = i := by
  unfold Raft.handleReadyReadIndex at h
  split at h
  · split at h
    · cases h
    · cases h; exact ⟨LW.mk' h0, rfl, fun _ hc => by cases hc⟩
  · cases h; exact ⟨h0, rfl, fun _ hc => by cases hc; exact ⟨rfl, rfl⟩⟩

theorem respondReadStates_lw {a r r' : Raft} {rss : List ReadIndexStatus}
    (h : r.respondReadStates rss = .ok r') (h0 : LW E a r)
    (hr : ∀ rs ∈ rss, rs.index ≤ r.raftLog.committed) : LW E a r' := by
  unfold Raft.respondReadStates at h
  have key : ∀ (l : List ReadIndexStatus) (acc : Res Raft),
      l.foldl (fun (acc : Res Raft) rs =>
        acc.bind (fun r =>
          (r.handleReadyReadIndex rs.req rs.index).bind (fun (r, om) =>
            match om with
            | some m => r.send m
            | none => .ok r))) acc = .ok r' →
      (∀ rs ∈ l, rs.index ≤ r.raftLog.committed) →
      (∀ r1, acc = .ok r1 → LW E a r1 ∧ r1.raftLog = r.raftLog) →
      LW E a r' ∧ r'.raftLog = r.raftLog := by
    intro l
    induction l with
    | nil => intro acc h _ h1; exact h1 r' h
    | cons rs rest ih =>
      intro acc h hl h1
      simp only [List.foldl_cons] at h
      refine ih _ h (fun x hx => hl x (List.mem_cons_of_mem _ hx)) ?_
      intro r2 h2
      cases acc with
      | err e => cases h2
      | panic s => cases h2
      | ok r0 =>
        obtain ⟨g0, gl⟩ := h1 r0 rfl
        change (r0.handleReadyReadIndex rs.req rs.index).bind _ = _ at h2
        rw [Res.bind_eq_ok_iff] at h2
        obtain ⟨⟨r3, om⟩, h3, h4⟩ := h2
        obtain ⟨g3, gl3, gm⟩ := handleReadyReadIndex_lw h3 g0
        dsimp only at h4
        split at h4
        · rename_i m'
          obtain ⟨t1, t2⟩ := gm m' rfl
          have hi : m'.index ≤ r3.raftLog.committed := by
            rw [t2, gl3, gl]; exact hl rs List.mem_cons_self
          refine ⟨send_rir_lw h4 t1 hi g3, ?_⟩
          rw [send_eq _ _ _ h4]
          exact gl3.trans gl
        · cases h4; exact ⟨g3, gl3.trans gl⟩
  exact (key rss (.ok r) h hr (fun r1 e => by cases e; exact ⟨h0, rfl⟩)).1

end PerCall
end Raft
end RaftModel
