import RaftProofs.Inflights
import RaftProofs.ClusterCommitA

/-!
Cluster-level flow control (C13), part A: the in-flight window invariant (`Inflights.Inv` of
`RaftProofs/Inflights.lean`, which contains `count ≤ cap`) through the `Inflights`, `Progress` and
`ProgressTracker` operations: `PI pr` ("the window of `pr` is well-formed") and `TOk t` ("every
progress of the tracker has a well-formed window").
-/
namespace RaftModel
namespace Raft
namespace FL

/-! ### the window operations keep the ring invariant -/

theorem add_inv {s s' : Inflights} {x : Nat} (h : s.Inv) (e : s.add x = .ok s') : s'.Inv := by
  cases hf : s.full with
  | true => rw [Inflights.add_full s x hf] at e; cases e
  | false =>
    obtain ⟨s1, e1, i1, _⟩ := Inflights.add_refines s h x hf
    rw [e1] at e; cases e; exact i1

theorem freeTo_inv {s s' : Inflights} {x : Nat} (h : s.Inv) (e : s.freeTo x = .ok s') : s'.Inv := by
  obtain ⟨s1, e1, i1, _⟩ := Inflights.freeTo_refines s h x
  rw [e1] at e; cases e; exact i1

theorem freeFirstOne_inv {s s' : Inflights} (h : s.Inv) (e : s.freeFirstOne = .ok s') : s'.Inv := by
  obtain ⟨s1, e1, i1, _⟩ := Inflights.freeFirstOne_refines s h
  rw [e1] at e; cases e; exact i1

theorem setCap_inv {s s' : Inflights} {n : Nat} (h : s.Inv) (e : s.setCap n = .ok s') : s'.Inv := by
  obtain ⟨s1, e1, i1, _⟩ := Inflights.setCap_refines s h n
  rw [e1] at e; cases e; exact i1

theorem reset_inv {s : Inflights} (h : s.Inv) : s.reset.Inv := (Inflights.reset_refines s h).1

theorem maybeFreeBuffer_inv {s : Inflights} (h : s.Inv) : s.maybeFreeBuffer.Inv :=
  (Inflights.maybeFreeBuffer_refines s h).1

/-! ### `Progress` -/

/-- the in-flight window of the progress is well-formed (`Inflights.Inv`: a ring buffer that
represents a FIFO of at most `cap` indexes — in particular `count ≤ cap` —, with a deferred capacity
reduction only while non-empty) -/
def PI (p : Progress) : Prop := p.ins.Inv

theorem PI.count_le {p : Progress} (h : PI p) : p.ins.count ≤ p.ins.cap := Inflights.Inv.count_le h

theorem PI.new (n c : Nat) : PI (Progress.new n c) := Inflights.inv_new c

theorem PI.resetState {p : Progress} (h : PI p) (st : ProgressState) : PI (p.resetState st) :=
  reset_inv h

theorem PI.reset {p : Progress} (h : PI p) (n : Nat) : PI (p.reset n) := reset_inv h

theorem PI.becomeProbe {p : Progress} (h : PI p) : PI p.becomeProbe := by
  unfold Progress.becomeProbe
  split <;> exact reset_inv h

theorem PI.becomeReplicate {p : Progress} (h : PI p) : PI p.becomeReplicate := reset_inv h

theorem PI.becomeSnapshot {p : Progress} (h : PI p) (i : Nat) : PI (p.becomeSnapshot i) :=
  reset_inv h

theorem PI.updateCommitted {p : Progress} (h : PI p) (c : Nat) : PI (p.updateCommitted c) := by
  unfold Progress.updateCommitted
  split <;> exact h

theorem PI.maybeUpdate {p : Progress} (h : PI p) (n : Nat) :
    Res.Post (fun x => PI x.1) (p.maybeUpdate n) :=
  Res.post_intro fun ⟨_, _⟩ hu => by
    obtain ⟨_, rfl⟩ := Progress.maybeUpdate_inv hu
    exact h

theorem PI.maybeDecrTo {p : Progress} (h : PI p) (a b c : Nat) :
    Res.Post (fun x => PI x.1) (p.maybeDecrTo a b c) := by
  unfold Progress.maybeDecrTo
  -- every branch returns `p` with fields other than the window updated, or panics
  exact Res.post_ite (Res.post_ite h (Res.post_ite h h))
    (Res.post_ite h (Res.post_ite (Res.post_ite trivial h) (Res.post_ite h h)))

theorem PI.updateState {p : Progress} (h : PI p) (last : Nat) :
    Res.Post PI (p.updateState last) := by
  unfold Progress.updateState
  split
  · split
    · trivial
    · split
      · rename_i ins heq
        exact add_inv (s := (p.optimisticUpdate last).ins) h heq
      · trivial
  · exact h
  · trivial

/-! ### `ProgressTracker` -/

/-- every progress of the tracker has a well-formed in-flight window -/
def TOk (t : ProgressTracker) : Prop := ∀ p ∈ t.progress, PI p.2

theorem TOk.get {t : ProgressTracker} (h : TOk t) {id : Nat} {pr : Progress}
    (hg : t.get id = some pr) : PI pr := h (id, pr) (RaftProps.C02.c02_lookup_mem _ _ _ hg)

theorem TOk.set {t : ProgressTracker} (h : TOk t) (id : Nat) {pr : Progress} (hp : PI pr) :
    TOk (t.set id pr) := by
  intro p hp'
  simp only [ProgressTracker.set, NatMap.modify, List.mem_map] at hp'
  obtain ⟨q, hq, rfl⟩ := hp'
  split
  · exact hp
  · exact h q hq

theorem TOk.modify {t : ProgressTracker} (h : TOk t) (id : Nat) (f : Progress → Progress)
    (hf : ∀ pr, PI pr → PI (f pr)) : TOk { t with progress := NatMap.modify id f t.progress } := by
  intro p hp'
  simp only [NatMap.modify, List.mem_map] at hp'
  obtain ⟨q, hq, rfl⟩ := hp'
  split
  · exact hf _ (h q hq)
  · exact h q hq

theorem TOk.map {t : ProgressTracker} (h : TOk t) (f : Nat → Progress → Progress)
    (hf : ∀ id pr, PI pr → PI (f id pr)) :
    TOk { t with progress := t.progress.map (fun p => (p.1, f p.1 p.2)) } := by
  intro p hp'
  simp only [List.mem_map] at hp'
  obtain ⟨q, hq, rfl⟩ := hp'
  exact hf _ _ (h q hq)

theorem TOk.new (n : Nat) : TOk (ProgressTracker.new n) := by
  intro p hp; cases hp

theorem TOk.clear (t : ProgressTracker) : TOk t.clear := by
  intro p hp; cases hp

theorem TOk.recordVote {t : ProgressTracker} (h : TOk t) (id : Nat) (v : Bool) :
    TOk (t.recordVote id v) := by
  unfold ProgressTracker.recordVote
  split <;> exact h

theorem TOk.quorumRecentlyActive {t : ProgressTracker} (h : TOk t) (id : Nat) :
    TOk (t.quorumRecentlyActive id).1 := by
  unfold ProgressTracker.quorumRecentlyActive
  simp only []
  intro p hp'
  simp only [List.mem_map] at hp'
  obtain ⟨q, hq, rfl⟩ := hp'
  split <;> exact h q hq

theorem TOk.applyConf {t : ProgressTracker} (h : TOk t) (conf : Configuration)
    (changes : MapChange) (li : Nat) : TOk (t.applyConf conf changes li) := by
  unfold ProgressTracker.applyConf
  simp only []
  have key : ∀ (l : MapChange) (m : List (Nat × Progress)), (∀ p ∈ m, PI p.2) →
      ∀ p ∈ l.foldl (fun m c => match c.2 with
        | .add => NatMap.insert c.1 { Progress.new li t.maxInflight with recentActive := true } m
        | .remove => NatMap.erase c.1 m) m, PI p.2 := by
    intro l
    induction l with
    | nil => intro m hm; exact hm
    | cons c rest ih =>
      intro m hm
      simp only [List.foldl_cons]
      apply ih
      intro p hp
      split at hp
      · rcases CV.mem_insert _ _ _ _ hp with d | d
        · rw [d]; exact PI.new li t.maxInflight
        · exact hm p d
      · exact hm p (List.mem_filter.1 hp).1
  exact key changes t.progress h

theorem TOk.restoreLoop (li : Nat) (l : List ConfChangeSingle) : ∀ {t t' : ProgressTracker},
    TOk t → t.restoreLoop li l = .ok t' → TOk t' := by
  induction l with
  | nil => intro t t' h e; unfold ProgressTracker.restoreLoop at e; cases e; exact h
  | cons c rest ih =>
    intro t t' h e
    unfold ProgressTracker.restoreLoop at e
    split at e
    · cases e
    · exact ih (h.applyConf _ _ _) e

theorem TOk.restore {t t' : ProgressTracker} (h : TOk t) {li : Nat} {cs : ConfState}
    (e : t.restore li cs = .ok t') : TOk t' := by
  unfold ProgressTracker.restore at e
  simp only [] at e
  split at e
  · exact TOk.restoreLoop _ _ h e
  · split at e
    · cases e
    · rename_i t1 h1
      have g1 := TOk.restoreLoop _ _ h h1
      split at e
      · cases e
      · cases e; exact g1.applyConf _ _ _

end FL
end Raft
end RaftModel
