import RaftProofs.ClusterSnap5X
import RaftProofs.ClusterSnap5V

/-!
Commit safety of `ClusterSem` **with log compaction and snapshots**, without `request_snapshot`: the
contract-abiding steps `Snap2.KStep`, the bundles `Snap2.Hyp` … `Snap2.Hyp3w` of `RaftProps/C01e.lean`
(part 2), `C01g2.lean` and `C01h.lean`, and the 34-state history `Snap2.sx_hist` that satisfies them.

These bundles are those of the development `Snap5` (`ClusterSnap5C–5X`) with `noreq` — no node ever
has a pending snapshot request — in place of the invariant `reqok`; a node without a pending request
satisfies `ReqOk`, `Snap2.KStep` is `Snap5.KStep`, and the definitions a conclusion mentions
(`Past`, `LeaderLog`, `Covered`, …) unfold to the same statements in both namespaces.  So every bundle
of `Snap2` implies its namesake of `Snap5` (`Snap5.Hyp.of_snap2` …), and what holds under a bundle of
`Snap2` is the statement of `Snap5` applied to it.
-/
namespace RaftModel
namespace Cluster
namespace Snap2
open Node Raft Raft.CC Snap

/-- **what a node may queue as `MsgSnapshot`**: the snapshot its storage holds — at the storage's
recorded commit index, with the term of that index, *not relabelled*: the storage answers
`snapshot(request_index)` only when its snapshot index is at least `request_index` (what
`MemStorage::snapshot` does not enforce, see `C01e_snapshot_request_index_counterexample`) -/
def SnapSend (st st' : NState) : Prop :=
  ∀ x ∈ st'.raft.msgs, x ∉ st.raft.msgs → x.msgType = .msgSnapshot →
    st.raft.raftLog.store.snapshotCore = .ok x.snapshot

/-- **a step of `ClusterSem` whose application obeys the storage and Ready contracts, snapshots
included**: the rules of `Snap.KStep` with these extra premises —
* `call` / `deliver`: `SnapSend` (no relabelled snapshots);
* a snapshot is installed at once: while a snapshot is pending (`unstable.snapshot`), the only call the
  application makes is `persist_snap`, and no message is offered to the node (**simplification**, see
  the report);
* `persist_snap` installs a pending snapshot only when term and vote are persisted (the `HardState` —
  term, vote, commit — is written as a whole: `apply_snapshot` writes the commit index);
* a call that is not the delivery of a `MsgSnapshot` leaves no snapshot pending (**proof gap**: a fact
  of the model — only `restore` sets `unstable.snapshot` — that is not derived here);
* `compact k` only up to the commit index **the storage records** (`k ≤ hard_state.commit`, the applied
  index the application wrote: "compact only what has been applied").  Needed with snapshots: a node
  that compacts beyond its recorded commit index, crashes and restarts has a snapshot point *at* its
  commit index whose term it has forgotten; a snapshot at that index then replaces its log — and drops
  entries it has acknowledged. -/
inductive KStep : Sys → Sys → Prop where
  | call (s : Sys) (i : Nat) (st st' : NState) (rnd : Option Nat) (op : NodeOp) (res : OpRes) :
      s.node i = some st → appOp op = true → (∀ k, op = .compact k → CompactOk st.raft.raftLog k) →
      (∀ k, op = .commitApply k → k ≤ st.raft.raftLog.persisted ∧ hsPersisted st) →
      (op = .persistSnap → st.raft.raftLog.unstable.snapshot ≠ none → hsPersisted st) →
      (st.raft.raftLog.unstable.snapshot ≠ none → op = .persistSnap) →
      (st.raft.raftLog.unstable.snapshot = none → st'.raft.raftLog.unstable.snapshot = none) →
      (∀ k, op = .compact k → k ≤ st.raft.raftLog.store.hardState.commit) →
      SnapSend st st' →
      Node.call st rnd op = .ok (res, st') →
      KStep s (s.setNode i st')
  | deliver (s : Sys) (i : Nat) (st st' : NState) (rnd : Option Nat) (m : Message) (res : OpRes) :
      s.node i = some st → m ∈ s.net → m.to = i →
      st.raft.raftLog.unstable.snapshot = none →
      (m.msgType ≠ .msgSnapshot → st'.raft.raftLog.unstable.snapshot = none) → SnapSend st st' →
      Node.call st rnd (.step m) = .ok (res, st') →
      KStep s (s.setNode i st')
  | send (s : Sys) (i : Nat) (st st' : NState) :
      s.node i = some st → hsPersisted st →
      (st.raft.state ≠ .leader →
        st.raft.raftLog.unstable.entries = [] ∧ st.raft.raftLog.unstable.snapshot = none) →
      Node.call st none .drain = .ok (.ok, st') →
      KStep s { (s.setNode i st') with net := s.net ++ st.raft.msgs }
  | restart (s : Sys) (i : Nat) (st st' : NState) (c : Config) (rnd : Option Nat) :
      s.node i = some st → c.id = i → Node.boot c st.raft.raftLog.store rnd = .ok (.ok st') →
      st'.raft.raftLog.unstable.snapshot = none →
      KStep s (s.setNode i st')

/-- no node has asked for a snapshot (`request_snapshot` is not used: **proof gap**) -/
def NoReq (s : Sys) : Prop := ∀ i st, s.node i = some st → st.raft.pendingRequestSnapshot = 0

/-- **the standing hypotheses** on a history of `ClusterSem` (all explicit, see the report): those of
`Snap.Hyp` with `Snap2.KStep` steps, **without** "no `MsgSnapshot` in the transport", and with
`noreq` (**proof gap**): no node has a pending snapshot request -/
structure Hyp (cfg : JointConfig) (h : List Sys) : Prop where
  hist : History h
  fix : ∀ s ∈ h, FixedCfg cfg s
  ne : cfg.incoming ≠ []
  nd1 : cfg.incoming.Nodup
  nd2 : cfg.outgoing.Nodup
  init : ∀ s : Sys, h[0]? = some s → InitOk s
  steps : ∀ (n : Nat) (a b : Sys), h[n]? = some a → h[n + 1]? = some b → KStep a b
  nb : ∀ s ∈ h, NoBatch s
  noreq : ∀ s ∈ h, NoReq s

open RaftProps.C02 RaftProps.C05

/-- **the hypotheses of the commit layer** on top of `Hyp` without the proof gap `norir` (cf.
`Snap.Hyp2w`; `nopend` is gone): `nolone`, `first0`, `initc`, `pend0` as in `Hyp2` below -/
structure Hyp2w (cfg : JointConfig) (c0 : Nat) (h : List Sys) : Prop extends Hyp cfg h where
  nolone : ∀ i Q, IsJointQuorum cfg Q → ∃ k ∈ Q, k ≠ i
  first0 : ∀ s : Sys, h[0]? = some s → ∀ i st, s.node i = some st →
    st.raft.raftLog.store.firstIndex = c0 + 1
  initc : ∀ s : Sys, h[0]? = some s → ∀ i st, s.node i = some st → st.raft.raftLog.committed = c0
  pend0 : ∀ s : Sys, h[0]? = some s → ∀ i st, s.node i = some st →
    st.raft.raftLog.unstable.snapshot = none

/-- **the hypotheses of the commit layer as first stated** (`RaftProps/C01e.lean`, part 2) on top of
`Hyp` (cf. `Snap.Hyp2`; `nopend` is gone):
* `nolone`: no joint quorum of `cfg` fits into a single node;
* `first0`: in the initial state every storage has the first index `c0 + 1`;
* `initc`: in the initial state every commit index is `c0`;
* `norir` (**proof gap**): no `MsgReadIndexResp` is ever in the transport;
* `pend0` (a fact of the model, like the no-new-pending premises of `KStep`): a freshly booted node
  has no pending snapshot. -/
structure Hyp2 (cfg : JointConfig) (c0 : Nat) (h : List Sys) : Prop extends Hyp cfg h where
  nolone : ∀ i Q, IsJointQuorum cfg Q → ∃ k ∈ Q, k ≠ i
  first0 : ∀ s : Sys, h[0]? = some s → ∀ i st, s.node i = some st →
    st.raft.raftLog.store.firstIndex = c0 + 1
  initc : ∀ s : Sys, h[0]? = some s → ∀ i st, s.node i = some st → st.raft.raftLog.committed = c0
  norir : ∀ s ∈ h, ∀ x ∈ s.net, x.msgType ≠ .msgReadIndexResp
  pend0 : ∀ s : Sys, h[0]? = some s → ∀ i st, s.node i = some st →
    st.raft.raftLog.unstable.snapshot = none

theorem Hyp2.toHyp2w {cfg : JointConfig} {c0 : Nat} {h : List Sys} (H : Hyp2 cfg c0 h) :
    Hyp2w cfg c0 h :=
  { toHyp := H.toHyp, nolone := H.nolone, first0 := H.first0, initc := H.initc, pend0 := H.pend0 }

/-- the shape of every node of a history under `Hyp2` -/
structure NodeOk (i : Nat) (st : NState) : Prop where
  inv : st.raft.raftLog.Inv
  sidx : st.raft.raftLog.unstable.snapshot = none →
    (storeLog st.raft.raftLog.store).snapIdx = st.raft.raftLog.abs.snapIdx
  sterm : st.raft.raftLog.unstable.snapshot = none →
    (storeLog st.raft.raftLog.store).snapTerm = st.raft.raftLog.abs.snapTerm
  id : st.raft.id = i
  nb : st.raft.batchAppend = false
  req : st.raft.pendingRequestSnapshot = 0

/-- the entry `e` at index `k` sits in a chain of a state `h[m]`, `m ≤ n` -/
def Past (h : List Sys) (n k : Nat) (e : Entry) : Prop :=
  ∃ (m : Nat) (s : Sys) (loc : Loc) (g : LLog), m ≤ n ∧ h[m]? = some s ∧ At s loc g ∧
    g.entryAt k = some e

/-- every entry of `F` sits in a chain of a state up to `h[n]` -/
def PastLog (h : List Sys) (n : Nat) (F : LLog) : Prop := ∀ k e, F.entryAt k = some e → Past h n k e

/-- the ghost logs of a node (of the state `h[n]`) -/
structure NodeFull (h : List Sys) (c0 n : Nat) (st : NState) : Prop where
  log : Full (HistChain h) c0 st.raft.raftLog.abs (FL h c0 st)
  sto : Full (HistChain h) c0 (storeLog st.raft.raftLog.store) (FS h c0 st)
  pre : st.raft.raftLog.unstable.snapshot = none →
    ∀ k, k ≤ st.raft.raftLog.abs.snapIdx → (FL h c0 st).entryAt k = (FS h c0 st).entryAt k
  smeta : c0 < st.raft.raftLog.store.snapshotMetadata.index →
    ∃ e, (FS h c0 st).entryAt st.raft.raftLog.store.snapshotMetadata.index = some e ∧
      e.term = st.raft.raftLog.store.snapshotMetadata.term
  pastL : PastLog h n (FL h c0 st)
  pastS : PastLog h n (FS h c0 st)

/-- **the hypotheses of the main induction** on top of `Hyp2w` (as `Snap.Hyp3a`: `anch`, still a
**proof gap** here; `rirs` — a `MsgReadIndexResp` was sent by a leader of its term whose commit index
covered its index — in place of the gap `norir`; `snapt0`), plus `snapidx` -/
structure Hyp3a (cfg : JointConfig) (c0 : Nat) (h : List Sys) : Prop extends Hyp2w cfg c0 h where
  anch : ∀ s ∈ h, ∀ x ∈ s.net, x.msgType = .msgAppend → x.logTerm ≠ 0 ∨ x.index ≤ c0
  rirs : ∀ n s, h[n]? = some s → ∀ x ∈ s.net, x.msgType = .msgReadIndexResp → RirSrc h n x
  snapt0 : ∀ s0, h[0]? = some s0 → ∀ i sti, s0.node i = some sti → ∀ t0,
    sti.raft.raftLog.abs.snapTerm = some t0 → ∀ j stj, s0.node j = some stj → t0 ≤ stj.raft.term
  snapidx : ∀ s ∈ h, ∀ x ∈ s.net, x.msgType = .msgSnapshot → c0 < x.snapshot.metadata.index

/-- **the hypotheses of the main induction as first stated** (`RaftProps/C01e.lean`, part 2) on top of
`Hyp2` (as `Snap.Hyp3`), plus
* `snapidx`: a `MsgSnapshot` of the transport names an index above the common initial snapshot point
  `c0` (for `c0 = 0` a fact of the model: `prepare_send_snapshot` refuses an empty snapshot). -/
structure Hyp3 (cfg : JointConfig) (c0 : Nat) (h : List Sys) : Prop extends Hyp2 cfg c0 h where
  anch : ∀ s ∈ h, ∀ x ∈ s.net, x.msgType = .msgAppend → x.logTerm ≠ 0 ∨ x.index ≤ c0
  snapt0 : ∀ s0, h[0]? = some s0 → ∀ i sti, s0.node i = some sti → ∀ t0,
    sti.raft.raftLog.abs.snapTerm = some t0 → ∀ j stj, s0.node j = some stj → t0 ≤ stj.raft.term
  snapidx : ∀ s ∈ h, ∀ x ∈ s.net, x.msgType = .msgSnapshot → c0 < x.snapshot.metadata.index

/-- **the hypotheses without the gaps `anch` and `rirs`** (`Snap2.Hyp3a` minus the two) -/
structure Hyp3w (cfg : JointConfig) (c0 : Nat) (h : List Sys) : Prop extends Hyp2w cfg c0 h where
  snapt0 : ∀ s0, h[0]? = some s0 → ∀ i sti, s0.node i = some sti → ∀ t0,
    sti.raft.raftLog.abs.snapTerm = some t0 → ∀ j stj, s0.node j = some stj → t0 ≤ stj.raft.term
  snapidx : ∀ s ∈ h, ∀ x ∈ s.net, x.msgType = .msgSnapshot → c0 < x.snapshot.metadata.index

/-- `L` is the ghost (uncompacted) log of the leader of term `t` at some point `h[m]`, `m ≤ N` -/
def LeaderLog (h : List Sys) (c0 N t : Nat) (L : LLog) : Prop :=
  ∃ (m : Nat) (s : Sys) (l : Nat) (st : NState), m ≤ N ∧ h[m]? = some s ∧ s.node l = some st ∧
    st.raft.state = .leader ∧ st.raft.term = t ∧ L = FL h c0 st

/-- the prefix up to `cm` of `g` is covered by a past commit event of a term at most `term` -/
def Covered (h : List Sys) (c0 m cm term : Nat) (g : LLog) : Prop :=
  cm ≤ c0 ∨ ∃ E : Ev, E.ok h ∧ E.nE < m ∧ cm ≤ E.c ∧ E.t ≤ term ∧ EqUpTo g (EvF h c0 E) cm

/-- what is known about the sender of a `MsgAppend` -/
structure AppSrc (h : List Sys) (c0 n : Nat) (m : Message) (L : LLog) (cL : Nat) : Prop where
  ll : LeaderLog h c0 n m.term L
  snap : L.snapIdx = c0
  ents : ∀ e ∈ m.entries, L.entryAt e.index = some e
  contig : ContigFrom (m.index + 1) m.entries
  anchor : m.logTerm ≠ 0 → c0 < m.index → Has L m.index m.logTerm
  last : m.index + m.entries.length ≤ L.lastIndex
  commit : m.commit ≤ cL
  cle : cL ≤ L.lastIndex
  cov : Covered h c0 n cL m.term L
  tnz : m.term ≠ 0

/-- what is known about the sender of a `MsgHeartbeat` -/
structure HbSrc (h : List Sys) (c0 n : Nat) (net : List Message) (m : Message) (L : LLog)
    (cL : Nat) : Prop where
  ll : LeaderLog h c0 n m.term L
  commit : m.commit ≤ cL
  cle : cL ≤ L.lastIndex
  cov : Covered h c0 n cL m.term L
  ack : m.commit = 0 ∨ ∃ x ∈ net, isAck x ∧ x.frm = m.to ∧ x.term = m.term ∧ m.commit ≤ x.index

end Snap2

/-! ### the bundles of `Snap2` imply those of `Snap5` -/

namespace Snap5
open Node Raft Raft.CC RaftProps.C02 RaftProps.C05 Snap

theorem SnapSend.of_snap2 {st st' : NState} (h : Snap2.SnapSend st st') : SnapSend st st' := h

theorem KStep.of_snap2 {a b : Sys} (hs : Snap2.KStep a b) : KStep a b := by
  cases hs with
  | call i st st' rnd op res h1 h2 h3 h4 h5 h6 h7 h8 h9 h10 =>
    exact .call a i st st' rnd op res h1 h2 h3 h4 h5 h6 h7 h8 h9 h10
  | deliver i st st' rnd m res h1 h2 h3 h4 h5 h6 h7 =>
    exact .deliver a i st st' rnd m res h1 h2 h3 h4 h5 h6 h7
  | send i st st' h1 h2 h3 h4 => exact .send a i st st' h1 h2 h3 h4
  | restart i st st' c rnd h1 h2 h3 h4 => exact .restart a i st st' c rnd h1 h2 h3 h4

theorem KStep.to_snap2 {a b : Sys} (hs : KStep a b) : Snap2.KStep a b := by
  cases hs with
  | call i st st' rnd op res h1 h2 h3 h4 h5 h6 h7 h8 h9 h10 =>
    exact .call a i st st' rnd op res h1 h2 h3 h4 h5 h6 h7 h8 h9 h10
  | deliver i st st' rnd m res h1 h2 h3 h4 h5 h6 h7 =>
    exact .deliver a i st st' rnd m res h1 h2 h3 h4 h5 h6 h7
  | send i st st' h1 h2 h3 h4 => exact .send a i st st' h1 h2 h3 h4
  | restart i st st' c rnd h1 h2 h3 h4 => exact .restart a i st st' c rnd h1 h2 h3 h4

/-- "no pending request" implies `ReqOk` -/
theorem ReqOk.of_noReq {s : Sys} (h : Snap2.NoReq s) : ReqOk s :=
  fun i st hi hne => absurd (h i st hi) hne

theorem NodeOk.of_snap2 {i : Nat} {st : NState} (o : Snap2.NodeOk i st) : NodeOk i st :=
  ⟨o.inv, o.sidx, o.sterm, o.id, o.nb, fun hne => absurd o.req hne⟩

theorem NodeFull.of_snap2 {h : List Sys} {c0 n : Nat} {st : NState}
    (I : Snap2.NodeFull h c0 n st) : NodeFull h c0 n st :=
  ⟨I.log, I.sto, I.pre, I.smeta, I.pastL, I.pastS⟩

variable {cfg : JointConfig} {c0 : Nat} {h : List Sys}

theorem Hyp.of_snap2 (H : Snap2.Hyp cfg h) : Hyp cfg h :=
  { hist := H.hist, fix := H.fix, ne := H.ne, nd1 := H.nd1, nd2 := H.nd2, init := H.init,
    steps := fun n a b ha hb => .of_snap2 (H.steps n a b ha hb),
    nb := H.nb, reqok := fun s hs => .of_noReq (H.noreq s hs) }

theorem Hyp2w.of_snap2 (H : Snap2.Hyp2w cfg c0 h) : Hyp2w cfg c0 h :=
  { toHyp := .of_snap2 H.toHyp, nolone := H.nolone, first0 := H.first0, initc := H.initc,
    pend0 := H.pend0 }

theorem Hyp3a.of_snap2 (H : Snap2.Hyp3a cfg c0 h) : Hyp3a cfg c0 h :=
  { toHyp2w := .of_snap2 H.toHyp2w, anch := H.anch, rirs := H.rirs, snapt0 := H.snapt0,
    snapidx := H.snapidx }

/-- **the hypotheses of `RaftProps/C01h.lean` imply those of `RaftProps/C01i.lean`** -/
theorem Hyp3w.of_snap2 (H : Snap2.Hyp3w cfg c0 h) : Hyp3w cfg c0 h :=
  { toHyp2w := .of_snap2 H.toHyp2w, snapt0 := H.snapt0, snapidx := H.snapidx }

end Snap5

/-! ### what holds under the bundles of `Snap2` -/

namespace Snap2
open Node Raft Raft.CC RaftProps.C02 Snap
open RaftProps.C05 hiding cx_a9 cx_a10 cx_app cx_hist cx_moves cx_s15 cx_s16

variable {cfg : JointConfig} {c0 : Nat} {h : List Sys}

theorem Hyp3.toHyp2w (H : Hyp3 cfg c0 h) : Hyp2w cfg c0 h := H.toHyp2.toHyp2w

theorem Hyp3.toHyp3a (H : Hyp3 cfg c0 h) : Hyp3a cfg c0 h :=
  { toHyp2w := H.toHyp2w, anch := H.anch, snapt0 := H.snapt0, snapidx := H.snapidx,
    rirs := fun _ s hn x hx hty => absurd hty (H.norir s (mem_of_get hn) x hx) }

theorem Hyp3a.toHyp3w (H : Hyp3a cfg c0 h) : Hyp3w cfg c0 h :=
  { toHyp2w := H.toHyp2w, snapt0 := H.snapt0, snapidx := H.snapidx }

/-- the two proof gaps `anch` and `rirs` are invariants (`Snap5.ci_all`) -/
theorem Hyp3w.toHyp3a (H : Hyp3w cfg c0 h) : Hyp3a cfg c0 h :=
  have H5 := (Snap5.Hyp3w.of_snap2 H).toHyp3a
  { toHyp2w := H.toHyp2w, anch := H5.anch, rirs := H5.rirs, snapt0 := H.snapt0,
    snapidx := H.snapidx }

/-- a history without pending snapshot requests that satisfies `Snap5.Hyp3` -/
theorem Hyp3.of_snap5 (H : Snap5.Hyp3 cfg c0 h) (hr : ∀ s ∈ h, NoReq s) : Hyp3 cfg c0 h :=
  { hist := H.hist, fix := H.fix, ne := H.ne, nd1 := H.nd1, nd2 := H.nd2, init := H.init,
    steps := fun n a b ha hb => (H.steps n a b ha hb).to_snap2, nb := H.nb, noreq := hr,
    nolone := H.nolone, first0 := H.first0, initc := H.initc, norir := H.norir, pend0 := H.pend0,
    anch := H.anch, snapt0 := H.snapt0, snapidx := H.snapidx }

/-- **the hypotheses of the development without compaction and snapshots** (`Cluster.Hyp3`, C01c)
**imply those of this one** for the histories in which no node queues a `MsgSnapshot` and
`request_snapshot` is not used -/
theorem Hyp3.of_old (H : Cluster.Hyp3 cfg c0 h)
    (hq : ∀ s ∈ h, ∀ i st, s.node i = some st → ∀ x ∈ st.raft.msgs, x.msgType ≠ .msgSnapshot)
    (hr : ∀ s ∈ h, NoReq s) : Hyp3 cfg c0 h :=
  .of_snap5 (.of_old H hq fun s hs => .of_noReq (hr s hs)) hr

/-- **provenance** (as `Snap.provenance`): `K` selects a kind of message that is not an append
response; `hfresh` says what an ordinary call establishes for every message of that kind it queues -/
theorem provenance (H : Hyp cfg h) (K : Message → Prop)
    (hK : ∀ x, K x → x.msgType ≠ .msgAppendResponse)
    (Φ : Nat → Nat → Message → Prop)
    (hfresh : ∀ n a b i st st' rnd op res, h[n]? = some a → h[n + 1]? = some b →
      a.node i = some st → b.node i = some st' → Node.call st rnd op = .ok (res, st') →
      (appOp op = true ∨ ∃ m, op = .step m ∧ m ∈ a.net ∧ m.to = i) →
      (∀ j, op = .compact j → CompactOk st.raft.raftLog j) →
      (∀ m, op = .step m → m.msgType ≠ .msgSnapshot) →
      st.raft.raftLog.unstable.snapshot = none → SnapSend st st' →
      b.net = a.net →
      ∀ x ∈ st'.raft.msgs, K x → x ∈ st.raft.msgs ∨ Φ (n + 1) i x) :
    ∀ n s, h[n]? = some s →
      (∀ i st, s.node i = some st → ∀ x ∈ st.raft.msgs, K x → Gen Φ n i x) ∧
      (∀ x ∈ s.net, K x → ∃ i, Gen Φ n i x) :=
  Snap5.provenance (.of_snap2 H) K hK Φ hfresh

theorem Hyp2.inv_at (H : Hyp2 cfg c0 h) :
    ∃ s0, h[0]? = some s0 ∧ ∀ s ∈ h, InvL (Owner h) (EntriesOf s0) s :=
  (Snap5.Hyp.of_snap2 H.toHyp).g.invL

/-- the two ghost logs of a node hold the same entries up to `persisted` (no snapshot pending) -/
theorem NodeFull.persisted {i n : Nat} {st : NState} (I : NodeFull h c0 n st) (o : NodeOk i st)
    (hp : st.raft.raftLog.unstable.snapshot = none) {k : Nat}
    (hk : k ≤ st.raft.raftLog.persisted) : (FL h c0 st).entryAt k = (FS h c0 st).entryAt k :=
  (Snap5.NodeFull.of_snap2 I).persisted (.of_snap2 o) hp hk

theorem Hyp3.snapt (H : Hyp3 cfg c0 h) : ∀ s ∈ h, ∀ i st, s.node i = some st →
    st.raft.raftLog.abs.snapIdx = c0 → ∀ t0, st.raft.raftLog.abs.snapTerm = some t0 →
    ∀ s0, h[0]? = some s0 → ∀ j st0, s0.node j = some st0 → t0 ≤ st0.raft.term :=
  (Snap5.Hyp3a.of_snap2 H.toHyp3a).g.snapt

/-- the log of a commit event is a leader's log -/
theorem Ev.leaderLog (H : Hyp2w cfg c0 h) {E : Ev} (hE : E.ok h) :
    LeaderLog h c0 (E.nE + 1) E.t (EvF h c0 E) ∧ Has (EvF h c0 E) E.c E.t ∧ c0 < E.c :=
  Snap5.Ev.leaderLog (.of_snap2 H) hE

/-! ### a concrete history with a real snapshot

The history `cx_hist` of `ClusterSnapExamples` up to the state in which node 1, leader of term 1, has commit index 2
(entries 1 and 2, acknowledged by node 2; node 3 has heard nothing yet), continued by eleven steps:
the application of node 1 records the commit index (`commit_apply 2`), **compacts its log up to
index 2** (`compact 2`: entry 1 is gone) and sends; node 3 is delivered the first `MsgAppend` (entry 1),
persists and sends its acknowledgement for index 1; node 1 is delivered it, cannot send entry 2 with its
anchor (the term of index 1 is compacted away) and **queues a `MsgSnapshot` (index 2, term 1)**, which it
sends; node 3 is delivered it and **restores the snapshot** (its entry 1 is replaced, its commit index
is 2), installs it in its storage (`persist_snap`) and sends its acknowledgement for index 2. -/

def sx_a14 := c02x_st (Node.call cx_a13 none (.commitApply 2))
def sx_a15 := c02x_st (Node.call sx_a14 none (.compact 2))
def sx_a16 := c02x_st (Node.call sx_a15 none .drain)
/-- the first `MsgAppend` of node 1 for node 3 (entry 1) -/
def sx_app := cx_s22.net[4]!
def sx_c1 := c02x_st (Node.call (c02x_boot 3) none (.step sx_app))
def sx_c2 := c02x_st (Node.call sx_c1 none .stabilize)
def sx_c3 := c02x_st (Node.call sx_c2 none .drain)
/-- the acknowledgement of node 3 for index 1 -/
def sx_ack := sx_c2.raft.msgs.head!
def sx_a17 := c02x_st (Node.call sx_a16 none (.step sx_ack))
def sx_a18 := c02x_st (Node.call sx_a17 none .drain)
/-- the `MsgSnapshot` (index 2, term 1) of node 1 for node 3 -/
def sx_snap := sx_a17.raft.msgs.head!
/-- node 3 with the snapshot pending -/
def sx_c4 := c02x_st (Node.call sx_c3 none (.step sx_snap))
/-- node 3 with the snapshot installed -/
def sx_c5 := c02x_st (Node.call sx_c4 none .persistSnap)
def sx_c6 := c02x_st (Node.call sx_c5 none .drain)

def sx_t1 : Sys := cx_s22.setNode 1 sx_a14
def sx_t2 : Sys := sx_t1.setNode 1 sx_a15
def sx_t3 : Sys := { (sx_t2.setNode 1 sx_a16) with net := sx_t2.net ++ sx_a15.raft.msgs }
def sx_t4 : Sys := sx_t3.setNode 3 sx_c1
def sx_t5 : Sys := sx_t4.setNode 3 sx_c2
def sx_t6 : Sys := { (sx_t5.setNode 3 sx_c3) with net := sx_t5.net ++ sx_c2.raft.msgs }
def sx_t7 : Sys := sx_t6.setNode 1 sx_a17
def sx_t8 : Sys := { (sx_t7.setNode 1 sx_a18) with net := sx_t7.net ++ sx_a17.raft.msgs }
def sx_t9 : Sys := sx_t8.setNode 3 sx_c4
def sx_t10 : Sys := sx_t9.setNode 3 sx_c5
def sx_t11 : Sys := { (sx_t10.setNode 3 sx_c6) with net := sx_t10.net ++ sx_c5.raft.msgs }

def sx_mid : List Sys := [cx_s15, cx_s16, cx_s17, cx_s18, cx_s19, cx_s20, cx_s21, cx_s22]
def sx_tail : List Sys :=
  [sx_t1, sx_t2, sx_t3, sx_t4, sx_t5, sx_t6, sx_t7, sx_t8, sx_t9, sx_t10, sx_t11]
/-- the part without compaction and snapshots -/
def sx_pre : List Sys := c01x_hist ++ sx_mid
def sx_hist : List Sys := sx_pre ++ sx_tail

/-- the same calls as in `ClusterSnap5V`; the proof unfolds both sides (`rfl` would have the elaborator
evaluate the projections `.net` and `.raft.msgs` of the states) -/
theorem sx_hist_eq : sx_hist = Snap5.sx_hist := by
  simp only [sx_hist, sx_pre, sx_mid, sx_tail, sx_t1, sx_t2, sx_t3, sx_t4, sx_t5, sx_t6, sx_t7, sx_t8,
    sx_t9, sx_t10, sx_t11, sx_a14, sx_a15, sx_a16, sx_a17, sx_a18, sx_c1, sx_c2, sx_c3, sx_c4, sx_c5,
    sx_c6, sx_app, sx_ack, sx_snap,
    Snap5.sx_hist, Snap5.sx_pre, Snap5.sx_mid, Snap5.sx_tail, Snap5.sx_t1, Snap5.sx_t2, Snap5.sx_t3,
    Snap5.sx_t4, Snap5.sx_t5, Snap5.sx_t6, Snap5.sx_t7, Snap5.sx_t8, Snap5.sx_t9, Snap5.sx_t10,
    Snap5.sx_t11, Snap5.sx_a14, Snap5.sx_a15, Snap5.sx_a16, Snap5.sx_a17, Snap5.sx_a18, Snap5.sx_c1,
    Snap5.sx_c2, Snap5.sx_c3, Snap5.sx_c4, Snap5.sx_c5, Snap5.sx_c6, Snap5.sx_app, Snap5.sx_ack,
    Snap5.sx_snap]

theorem sx_history : History sx_hist := sx_hist_eq ▸ Snap5.sx_history

/-- **the history satisfies every hypothesis of the commit layer with compaction and snapshots**, and
none of its nodes ever has a pending snapshot request -/
theorem sx_hyp3 : Hyp3 c02x_cfg 0 sx_hist :=
  sx_hist_eq ▸ Hyp3.of_snap5 Snap5.sx_hyp3 fun s hs => (Snap5.sx_chk_ok s (Snap5.sx_chk_all s hs)).2.2.2

end Snap2
end Cluster
end RaftModel
