import RaftProofs.ClusterFlow3A
import RaftProofs.NodeHandlers

/-!
C13e helper lemmas, part B: the entry points of a node that do not go through the response handlers of
`Raft::step` — the local calls at a leader (`tick`, `propose`, `propose_conf_change`, `read_index`, `ping`),
the persistence / group-commit calls, `on_entries_fetched`, the knobs and the emulated application's steps —
queue no `MsgAppend` for a peer whose progress is held (`NA`), and the lifting to `Node.call`.
-/
namespace RaftModel
namespace Raft
namespace F3
open Node

variable {pb : Bool}

/-- the conclusion at the level of one function: with the progress of `j` held before, the appends to `j`
of the queue are the same afterwards -/
def NA (pb : Bool) (j : Nat) (r r' : Raft) : Prop :=
  ∀ pr, r.prs.get j = some pr → Held pb pr → apOf j r'.msgs = apOf j r.msgs

theorem SK.na {j : Nat} {r r' : Raft} (h : SK pb j r r') : NA pb j r r' :=
  fun pr hg hh => (h pr hg hh).2

/-- held the same way afterwards, or the node left the leader role without queueing anything for `j` -/
def WK (pb : Bool) (j : Nat) (r r' : Raft) : Prop :=
  SK pb j r r' ∨ (r'.state ≠ .leader ∧ NA pb j r r')

theorem WK.na {j : Nat} {r r' : Raft} (h : WK pb j r r') : NA pb j r r' := by
  rcases h with h | h
  · exact h.na
  · exact h.2

theorem SK.of_get {j : Nat} {r r' : Raft} (hp : r'.prs.get j = r.prs.get j) (hm : r'.msgs = r.msgs) :
    SK pb j r r' := by
  intro pr hg _
  exact ⟨⟨pr, by rw [hp]; exact hg, SameHeld.refl pr⟩, by rw [hm]⟩

theorem SK.then_na {j : Nat} {a b c : Raft} (h1 : SK pb j a b) (h2 : NA pb j b c) : NA pb j a c := by
  intro pr hg hh
  obtain ⟨⟨pr1, hg1, hs1⟩, hm1⟩ := h1 pr hg hh
  exact (h2 pr1 hg1 (hs1.held hh)).trans hm1

theorem SK.then_wk {j : Nat} {a b c : Raft} (h1 : SK pb j a b) (h2 : WK pb j b c) : WK pb j a c := by
  rcases h2 with h2 | ⟨h2, h3⟩
  · exact Or.inl (h1.trans h2)
  · exact Or.inr ⟨h2, h1.then_na h3⟩

theorem lookup_mapv {α : Type} (g : Nat → α → α) (j : Nat) (l : List (Nat × α)) :
    (l.map (fun p => (p.1, g p.1 p.2))).lookup j = (l.lookup j).map (g j) := by
  induction l with
  | nil => rfl
  | cons a l ih =>
    obtain ⟨k, v⟩ := a
    simp only [List.map_cons, List.lookup_cons]
    by_cases h : j = k
    · subst h; simp
    · have : (j == k) = false := by simp [h]
      simp only [this]
      exact ih

theorem mapProgress_sk (j : Nat) (r : Raft) (f : Nat → Progress → Progress)
    (hf : ∀ id pr, SameHeld pb pr (f id pr)) : SK pb j r (r.mapProgress f) := by
  intro pr hg _
  refine ⟨⟨f j pr, ?_, hf j pr⟩, rfl⟩
  show ((r.prs.progress.map (fun p => (p.1, f p.1 p.2))).lookup j) = some (f j pr)
  rw [lookup_mapv]
  have : r.prs.progress.lookup j = some pr := hg
  rw [this]; rfl

theorem modifyProgress_sk (j : Nat) (r : Raft) (id : Nat) (f : Progress → Progress)
    (hf : ∀ pr, SameHeld pb pr (f pr)) : SK pb j r (r.modifyProgress id f) := by
  intro pr hg _
  have hg' : r.prs.progress.lookup j = some pr := hg
  by_cases h : j = id
  · subst h
    refine ⟨⟨f pr, ?_, hf pr⟩, rfl⟩
    show (NatMap.modify j f r.prs.progress).lookup j = some (f pr)
    rw [NatMap.lookup_modify_self, hg']; rfl
  · refine ⟨⟨pr, ?_, SameHeld.refl pr⟩, rfl⟩
    show (NatMap.modify id f r.prs.progress).lookup j = some pr
    rw [NatMap.lookup_modify_ne id j h, hg']

theorem setPr_sk (j : Nat) (r : Raft) (id : Nat) (p q : Progress) (hg : r.prs.get id = some p)
    (hs : j ≠ id ∨ SameHeld pb p q) : SK pb j r { r with prs := r.prs.set id q } := by
  intro pr hq hh
  by_cases h : j = id
  · subst h
    rw [hg] at hq; cases hq
    rcases hs with hs | hs
    · exact absurd rfl hs
    · exact ⟨⟨q, ProgressTracker.get_set_self _ _ _ _ hg, hs⟩, rfl⟩
  · refine ⟨⟨pr, ?_, SameHeld.refl pr⟩, rfl⟩
    show (r.prs.set id q).get j = some pr
    rw [ProgressTracker.get_set_ne _ _ _ _ h]; exact hq

theorem checkQuorumActive_sk (j : Nat) (r : Raft) : SK pb j r r.checkQuorumActive.1 := by
  have h : r.checkQuorumActive.1 =
      r.mapProgress (fun id pr => if id = r.id then { pr with recentActive := true }
        else { pr with recentActive := false }) := by
    simp only [checkQuorumActive, ProgressTracker.quorumRecentlyActive, mapProgress]
    congr 2
    apply List.map_congr_left
    intro p _
    split <;> rfl
  rw [h]
  apply mapProgress_sk
  intro id pr
  split <;> exact ⟨rfl, rfl, fun _ _ => rfl⟩

theorem updateCommitted_same (pr : Progress) (c : Nat) : SameHeld pb pr (pr.updateCommitted c) := by
  unfold Progress.updateCommitted
  split <;> exact ⟨rfl, rfl, fun _ _ => rfl⟩

theorem maybeCommit_sk (j : Nat) (r : Raft) : Res.Post (fun x => SK pb j r x.1) r.maybeCommit :=
  Res.post_intro fun _ h => maybeCommit_parts2 (P := SK pb j r) h (SK.refl j r) fun _ =>
    SK.trans (SK.of_eq rfl rfl) (modifyProgress_sk j _ _ _ fun pr => updateCommitted_same pr _)

/-- the two parts that the handlers ending with `maybe_commit`, `bcast_append` name -/
theorem SK.commit {j : Nat} {r0 r1 r2 : Raft} {b : Bool} (h : r1.maybeCommit = .ok (r2, b))
    (p : SK pb j r0 r1) : SK pb j r0 r2 := p.trans ((maybeCommit_sk j r1).of_eq h)

theorem SK.bcast {j : Nat} {r0 r1 r2 : Raft} (h : r1.bcastAppend = .ok r2) (p : SK pb j r0 r1) :
    SK pb j r0 r2 := p.trans ((bcastAppend_sk j r1).of_eq h)

theorem send_sk (j : Nat) (r : Raft) (m : Message) (hm : m.msgType ≠ .msgAppend) :
    Res.Post (SK pb j r) (r.send m) :=
  Res.post_intro fun _ h => have k := send_keeps j h hm
    fun pr hg _ => ⟨⟨pr, by rw [k.1]; exact hg, SameHeld.refl pr⟩, k.2.2⟩

theorem appendEntry_sk (j : Nat) (r : Raft) (es : List Entry) :
    Res.Post (fun x => SK pb j r x.1) (r.appendEntry es) :=
  Res.post_intro fun _ h => appendEntry_parts (P := SK pb j r) h (SK.refl j r)
    (fun hs => by cases hs; exact SK.of_eq rfl rfl) (fun _ p => p.trans (SK.of_eq rfl rfl))

theorem filterProposal_sk (j : Nat) (es : List Entry) (r : Raft) (i : Nat) :
    SK pb j r (r.filterProposal i es).1 :=
  filterProposal_parts (P := SK pb j r)
    (fun he p => filterProposalEntry_parts (P := SK pb j r) he p fun _ => p.trans (SK.of_eq rfl rfl))
    es r _ i _ rfl (SK.refl j r)

theorem NA.of_msgs {j : Nat} {r r' : Raft} (h : r'.msgs = r.msgs) : NA pb j r r' := by
  intro pr _ _; rw [h]

theorem handleSnapshotStatus_msgs (r : Raft) (m : Message) : (r.handleSnapshotStatus m).msgs = r.msgs := by
  unfold handleSnapshotStatus
  split
  · rfl
  · split <;> rfl

theorem handleUnreachable_msgs (r : Raft) (m : Message) : (r.handleUnreachable m).msgs = r.msgs := by
  unfold handleUnreachable
  split
  · rfl
  · split <;> rfl

theorem handleTransferLeader_sk (j : Nat) (r : Raft) (m : Message) :
    Res.Post (SK pb j r) (r.handleTransferLeader m) :=
  Res.post_intro fun _ h =>
    handleTransferLeader_parts2 (P := SK pb j r) (R := SK pb j r) (Q := QS pb j r) h (SK.refl j r)
      (SK.refl j r) (fun p => p.trans (SK.of_eq rfl rfl)) (fun p => p.trans (SK.of_eq rfl rfl))
      (fun p => p)
      (fun _ _ _ hs p => p.trans ((send_sk j _ _ (by simp [newMessage])).of_eq hs))
      (fun _ hg ha p => ⟨_, _, p, hg, (sendAppendPr_sk j _ _ _).of_eq ha⟩) QS.set

/-! ### a message at a leader that is not a replication response -/

/-- what `step_leader` does with a message `m` that is not a replication response: `SK`; or nothing is
queued for `j` — after a failed quorum check, which leaves the leader role, and after a status report,
which may release the progress of the reporting peer -/
def LK (pb : Bool) (j : Nat) (m : Message) (r r' : Raft) : Prop :=
  SK pb j r r' ∨ (NA pb j r r' ∧ ((m.msgType = .msgCheckQuorum ∧ r'.state ≠ .leader) ∨
    m.msgType = .msgSnapStatus ∨ m.msgType = .msgUnreachable))

theorem LK.na {j : Nat} {m : Message} {r r' : Raft} (h : LK pb j m r r') : NA pb j r r' :=
  h.elim SK.na (·.1)

theorem LK.wk {j : Nat} {m : Message} {r r' : Raft} (h : LK pb j m r r')
    (ty : m.msgType = .msgCheckQuorum ∨ m.msgType = .msgBeat) : WK pb j r r' := by
  rcases h with h | ⟨h1, ⟨_, h2⟩ | h2 | h2⟩
  · exact .inl h
  · exact .inr ⟨h2, h1⟩
  all_goals rcases ty with ty | ty <;> rw [ty] at h2 <;> cases h2

theorem stepLeader_lk (j : Nat) (r : Raft) (m : Message) (h1 : m.msgType ≠ .msgAppendResponse)
    (h2 : m.msgType ≠ .msgHeartbeatResponse) :
    Res.Post (fun x => LK pb j m r x.1) (r.stepLeader m) := by
  refine Res.post_intro fun ⟨r', e⟩ h => ?_
  -- a part that keeps `SK`, reached only for a proposal or a read
  have keep : ∀ {r1 r2 : Raft}, (m.msgType = .msgPropose ∨ m.msgType = .msgReadIndex) →
      SK pb j r1 r2 → LK pb j m r r1 → LK pb j m r r2 := by
    intro r1 r2 ty s p
    rcases p with p | ⟨_, ⟨t, _⟩ | t | t⟩
    · exact .inl (p.trans s)
    all_goals rcases ty with ty | ty <;> rw [ty] at t <;> cases t
  exact stepLeader_parts2 (P := LK pb j m r) h (.inl (SK.refl j r))
    (fun hb _ => .inl ((bcastHeartbeat_sk j r).of_eq hb))
    (fun hq _ => .inl (by have := checkQuorumActive_sk (pb := pb) j r; rw [hq] at this; exact this))
    (fun {r1} ty p => .inr ⟨fun pr hg hh => by rw [becomeFollower_msgs]; exact p.na pr hg hh,
      .inl ⟨ty, by simp [becomeFollower]⟩⟩)
    (fun hf _ => .inl (by
      have := filterProposal_sk (pb := pb) j m.entries r 0; rw [hf] at this; exact this))
    (fun ha ty => keep (.inl ty) ((appendEntry_sk j _ _).of_eq ha))
    (fun hb ty => keep (.inl ty) ((bcastAppend_sk j _).of_eq hb))
    (fun hr _ => .inl (handleReadyReadIndex_parts (P := SK pb j r) hr (SK.refl j r)
      fun _ => SK.of_eq rfl rfl))
    (fun hr hs ty => keep (.inr ty)
      ((send_sk j _ _ (by rw [handleReadyReadIndex_msgType hr]; decide)).of_eq hs))
    (fun _ _ => .inl (SK.of_eq rfl rfl))
    (fun hb ty => keep (.inr ty) ((bcastHeartbeatWithCtx_sk j _ _).of_eq hb))
    (fun _ ty => absurd ty h1) (fun _ ty => absurd ty h2)
    (fun ty => .inr ⟨NA.of_msgs (handleSnapshotStatus_msgs r m), .inr (.inl ty)⟩)
    (fun ty => .inr ⟨NA.of_msgs (handleUnreachable_msgs r m), .inr (.inr ty)⟩)
    (fun ht _ => .inl ((handleTransferLeader_sk j r m).of_eq ht))

/-- a vote request at a leader: the answer is sent, the vote may be recorded -/
theorem stepVote_sk (j : Nat) (r : Raft) (m : Message) (hl : r.state = .leader) :
    Res.Post (SK pb j r) (r.stepVote m) :=
  Res.post_intro fun _ h =>
    (stepVote_parts (P := fun x => x.state = .leader ∧ SK pb j r x) h
      (fun {m' _} hs hrt =>
        have hm' : m'.msgType ≠ .msgAppend := fun c => by
          rw [c] at hrt; unfold voteRespMsgType at hrt; split at hrt <;> cases hrt
        ⟨(send_keeps j hs hm').2.1.trans hl, (send_sk j r _ hm').of_eq hs⟩)
      (fun p => ⟨p.1, p.2.trans (SK.of_eq rfl rfl)⟩)
      (fun hv p => by
        cases maybeCommitByVote_inv hv with
        | ignored => exact p
        | committed hn _ _ _ => exact absurd p.1 hn
        | steppedDown hs _ _ _ => rw [p.1] at hs; rcases hs with hs | hs <;> cases hs)).2

/-- `Raft::step` at a leader, for a message of its term (or without term) that is not a replication
response -/
theorem step_lk (j : Nat) (r : Raft) (m : Message) (hl : r.state = .leader)
    (ht : m.term = 0 ∨ m.term = r.term) (h1 : m.msgType ≠ .msgAppendResponse)
    (h2 : m.msgType ≠ .msgHeartbeatResponse) :
    Res.Post (fun x => LK pb j m r x.1) (r.step m) := by
  refine Res.post_intro fun ⟨r', e⟩ hx => ?_
  cases step_dispatch (stepTerm_same ht) hx with
  | hup _ hh => unfold hup at hh; rw [if_pos hl] at hh; cases hh; exact .inl (SK.refl j r)
  | vote _ hv => exact .inl ((stepVote_sk j r m hl).of_eq hv)
  | candidate _ hs => rw [hl] at hs; rcases hs with hs | hs <;> cases hs
  | follower _ hs => rw [hl] at hs; cases hs
  | leader _ _ hx => exact (stepLeader_lk j r m h1 h2).of_eq hx

theorem stepIgnore_lk (j : Nat) (r : Raft) (m : Message) (hl : r.state = .leader)
    (ht : m.term = 0 ∨ m.term = r.term) (h1 : m.msgType ≠ .msgAppendResponse)
    (h2 : m.msgType ≠ .msgHeartbeatResponse) :
    Res.Post (fun x => LK pb j m r x) (r.stepIgnore m) :=
  Res.post_intro fun _ h => have ⟨_, hs⟩ := stepIgnore_inv h
    (step_lk j r m hl ht h1 h2).of_eq hs

theorem WK.frame {j : Nat} {r r1 r2 : Raft} (h : WK pb j r r1) (hp : r2.prs = r1.prs)
    (hm : r2.msgs = r1.msgs) (hs : r2.state = r1.state) : WK pb j r r2 :=
  h.imp (·.trans (SK.of_eq hp hm))
    fun c => ⟨by rw [hs]; exact c.1, fun pr hg hh => by rw [hm]; exact c.2 pr hg hh⟩

/-- a tick of a leader -/
theorem tick_leader_na (j : Nat) (r : Raft) (hl : r.state = .leader) :
    Res.Post (fun x => NA pb j r x.1) r.tick := by
  refine Res.post_intro fun ⟨r', b⟩ h => ?_
  have h : r.tickHeartbeat = .ok (r', b) := by unfold tick at h; rw [hl] at h; exact h
  -- the two messages the timers make the leader step
  have stp : ∀ {r1 m r2}, r1.stepIgnore m = .ok r2 →
      m.msgType = .msgCheckQuorum ∨ m.msgType = .msgBeat → m.term = 0 → r1.state = .leader →
      WK pb j r r1 → WK pb j r r2 := by
    intro r1 m r2 hs ty t0 hl1 p
    rcases p with p | p
    · exact p.then_wk (((stepIgnore_lk j r1 m hl1 (.inl t0) (by rcases ty with c | c <;> rw [c] <;> decide)
        (by rcases ty with c | c <;> rw [c] <;> decide)).of_eq hs).wk ty)
    · exact absurd hl1 p.1
  exact WK.na (tickHeartbeat_parts (P := WK pb j r) h (fun _ _ p => p.frame rfl rfl rfl)
    (.inl (SK.refl j r)) (fun hs ty t0 hst => stp hs (.inl ty) t0 (hst.trans hl))
    (fun hs ty t0 hl1 => stp hs (.inr ty) t0 hl1) (fun p => p.frame rfl rfl rfl))

/-! ### the remaining entry points that are not `Raft::step` -/

theorem maybeUpdate_same (pr pr2 : Progress) (n : Nat) (b : Bool) (h : pr.maybeUpdate n = .ok (pr2, b))
    (hp : pb = false) : SameHeld pb pr pr2 := by
  obtain ⟨_, rfl⟩ := Progress.maybeUpdate_inv h
  exact ⟨rfl, rfl, fun hc => by rw [hp] at hc; cases hc⟩

theorem onPersistEntries_sk (j : Nat) (r : Raft) (index term : Nat) (hj : pb = false ∨ j ≠ r.id) :
    Res.Post (SK pb j r) (r.onPersistEntries index term) :=
  Res.post_intro fun _ h => onPersistEntries_parts2 (P := SK pb j r) h (fun _ => SK.of_eq rfl rfl)
    (fun _ _ pr pr' _ hid _ hg hu p => p.trans (setPr_sk j _ _ pr pr' hg
      (hj.elim (fun c => .inr (maybeUpdate_same pr pr' _ _ hu c)) fun c => .inl (hid ▸ c))))
    (fun _ _ _ _ hc p => p.commit hc) fun _ _ _ hb p => p.bcast hb

theorem onPersistSnap_sk (j : Nat) (r : Raft) (index : Nat) :
    Res.Post (SK pb j r) (r.onPersistSnap index) :=
  Res.post_intro fun _ h => onPersistSnap_parts (P := SK pb j r) h fun _ => SK.of_eq rfl rfl

theorem commitApply_sk (j : Nat) (r : Raft) (k : Nat) : Res.Post (SK pb j r) (r.commitApply k) :=
  Res.post_intro fun _ h => commitApplyInternal_parts (P := SK pb j r) h (fun _ => SK.of_eq rfl rfl)
    (fun _ _ _ _ _ ha p => p.trans ((appendEntry_sk j _ _).of_eq ha))
    fun _ p => p.trans (SK.of_eq rfl rfl)

theorem reduceUncommittedSize_sk (j : Nat) (r : Raft) (ents : List Entry) :
    SK pb j r (r.reduceUncommittedSize ents) := by
  unfold reduceUncommittedSize
  split
  · exact SK.refl j _
  · exact SK.of_eq rfl rfl

theorem enableGroupCommit_sk (j : Nat) (r : Raft) (b : Bool) :
    Res.Post (SK pb j r) (r.enableGroupCommit b) :=
  Res.post_intro fun _ h => enableGroupCommit_parts (P := SK pb j r) h (SK.of_get rfl rfl)
    (fun _ _ _ _ hc p => p.commit hc) fun _ _ _ hb p => p.bcast hb

theorem assignCommitGroups_sk (j : Nat) (r : Raft) (ids : List (Nat × Nat)) :
    Res.Post (SK pb j r) (r.assignCommitGroups ids) :=
  Res.post_intro fun _ h => assignCommitGroups_parts2 (P := SK pb j r) h (SK.refl j r)
    (fun _ _ p => p.trans (modifyProgress_sk j _ _ _ fun _ => ⟨rfl, rfl, fun _ _ => rfl⟩))
    (fun _ _ _ _ hc p => p.commit hc) fun _ _ _ hb p => p.bcast hb

theorem adjustMaxInflightMsgs_sk (j : Nat) (r : Raft) (id cap : Nat) :
    Res.Post (SK pb j r) (r.adjustMaxInflightMsgs id cap) := by
  unfold adjustMaxInflightMsgs
  split
  · exact Res.post_ok (SK.refl j _)
  · rename_i pr hg
    split
    · exact Res.post_ok (setPr_sk j r id pr _ hg (Or.inr ⟨rfl, rfl, fun _ _ => rfl⟩))
    · trivial

/-! ### one call of a node -/

theorem requestSnapshot_leader (r : Raft) (hl : r.state = .leader) :
    r.requestSnapshot = .ok (r, some .requestSnapshotDropped) := by
  unfold requestSnapshot
  simp [hl]

/-- the conclusion for one call: with the progress of `j` held before the call, every `MsgAppend` for `j`
of the queue after the call was in the queue before, in the same order (sublist of the projection; equality
except for `drain`, which empties the queue) -/
def CallNA (pb : Bool) (j : Nat) (st st' : NState) : Prop :=
  ∀ pr, st.raft.prs.get j = some pr → Held pb pr →
    (apOf j st'.raft.msgs).Sublist (apOf j st.raft.msgs)

theorem callNA_na {j : Nat} {st st' : NState} {rnd : Option Nat}
    (h : NA pb j ({ st.raft with nextRand := rnd } : Raft) st'.raft) : CallNA pb j st st' := by
  intro pr hg hh
  have := h pr hg hh
  rw [this]
  exact List.Sublist.refl _

theorem callNA_sk {j : Nat} {st st' : NState} {rnd : Option Nat}
    (h : SK pb j ({ st.raft with nextRand := rnd } : Raft) st'.raft) : CallNA pb j st st' :=
  callNA_na (rnd := rnd) h.na

theorem callNA_eq {j : Nat} {st st' : NState} (hm : st'.raft.msgs = st.raft.msgs) : CallNA pb j st st' := by
  intro pr _ _
  rw [hm]
  exact List.Sublist.refl _

/-- the calls covered by `call_na_partial` at a leader of term `t`: all but `apply_conf_change`, and a
stepped message only when it carries no term or the leader's term and is not one of the two replication
responses -/
def covered (t : Nat) : NodeOp → Bool
  | .step m | .rstep m =>
    (m.term == 0 || m.term == t) && m.msgType != .msgAppendResponse &&
      m.msgType != .msgHeartbeatResponse
  | .applyConfChange _ => false
  | _ => true

/-- **one call of a node that is leader before the call** — every covered `NodeOp` -/
theorem call_na_partial (j : Nat) (st st' : NState) (rnd : Option Nat) (op : NodeOp) (res : OpRes)
    (h : Node.call st rnd op = .ok (res, st')) (hc : covered st.raft.term op = true)
    (hl : st.raft.state = .leader) (hj : pb = false ∨ j ≠ st.raft.id) : CallNA pb j st st' := by
  -- a stepped message
  have stepped : ∀ {m : Message} {e}, covered st.raft.term (.step m) = true →
      ({ st.raft with nextRand := rnd } : Raft).step m = .ok (st'.raft, e) → CallNA pb j st st' := by
    intro m e hc hx
    have hc' : (m.term = 0 ∨ m.term = st.raft.term) ∧ m.msgType ≠ .msgAppendResponse ∧
        m.msgType ≠ .msgHeartbeatResponse := by
      simpa [covered, and_assoc] using hc
    exact callNA_na (rnd := rnd) (Res.Post.fst (step_lk (pb := pb) j
      ({ st.raft with nextRand := rnd } : Raft) m hl hc'.1 hc'.2.1 hc'.2.2) hx).na
  have ignored : ∀ {m : Message}, covered st.raft.term (.step m) = true →
      ({ st.raft with nextRand := rnd } : Raft).stepIgnore m = .ok st'.raft → CallNA pb j st st' :=
    fun hc hx => have ⟨_, hs⟩ := stepIgnore_inv hx
      stepped hc hs
  cases applyOp_parts h with
  | tick hx => exact callNA_na (rnd := rnd) (Res.Post.fst (tick_leader_na j _ hl) hx)
  | step hx =>
    rcases RawNode.step_inv hx with hr | ⟨_, hx⟩
    · exact callNA_eq (by rw [hr])
    · exact stepped hc hx
  | rstep hx => exact stepped hc hx
  | propose hx | proposeCc hx => exact stepped rfl hx
  | readIndex hx | transferLeader hx | reportUnreachable hx | reportSnapshot hx => exact ignored rfl hx
  | campaign hx => exact stepped rfl hx
  | ping hx => exact callNA_sk (rnd := rnd) ((ping_sk j _).of_eq hx)
  | requestSnapshot hx =>
    rw [requestSnapshot_leader ({ st.raft with nextRand := rnd } : Raft) hl] at hx
    cases hx
    exact callNA_eq rfl
  | confChanged | confRefused => cases hc
  | stabilize hx => exact stabilize_parts (Q := fun a => CallNA pb j st a) hx fun _ => callNA_eq rfl
  | onPersistEntries hx =>
    exact callNA_sk (rnd := rnd)
      ((onPersistEntries_sk j ({ st.raft with nextRand := rnd } : Raft) _ _ hj).of_eq hx)
  | persistSnap hx =>
    exact persistSnap_parts (Q := fun a => CallNA pb j st a) hx (callNA_eq rfl)
      fun _ _ _ hp => by
        have h2 := (onPersistSnap_sk (pb := pb) j _ _).of_eq hp
        exact callNA_sk (rnd := rnd) (SK.trans (SK.of_eq rfl rfl) h2)
  | commitApply hx =>
    exact callNA_sk (rnd := rnd) (commitApply_parts
      (Q := fun a => SK pb j ({ st.raft with nextRand := rnd } : Raft) a.raft) hx (SK.refl j _)
      (fun _ => reduceUncommittedSize_sk j _ _)
      (fun ha p => p.trans ((commitApply_sk (pb := pb) j _ _).of_eq ha))
      (fun p => p.trans (SK.of_eq rfl rfl)))
  | drain => exact fun _ _ _ => List.nil_sublist _
  | compact | triggerSnap | triggerLog | setPriority | setBatchAppend | skipBcastCommit
  | setCheckQuorum | setMaxApplyUnpersistedLogLimit | setMaxCommittedSizePerReady
  | maybeFreeInflightBuffers | clearCommitGroup | checkGroupCommitConsistent | staleFetch =>
    exact callNA_eq rfl
  | adjustMaxInflight hx =>
    exact callNA_sk (rnd := rnd) ((adjustMaxInflightMsgs_sk j _ _ _).of_eq hx)
  | enableGroupCommit hx => exact callNA_sk (rnd := rnd) ((enableGroupCommit_sk j _ _).of_eq hx)
  | assignCommitGroups hx => exact callNA_sk (rnd := rnd) ((assignCommitGroups_sk j _ _).of_eq hx)
  | fetched _ _ _ hx => exact callNA_sk (rnd := rnd) ((sendAppend_sk j _ _).of_eq hx)
  | fetchedAll _ _ _ hx => exact callNA_sk (rnd := rnd) ((sendAppendAggressively_sk j _ _).of_eq hx)

end F3
end Raft
end RaftModel
