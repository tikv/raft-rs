import RaftProofs.RaftNodeC17
import RaftProofs.ConfChange

/-!
Cluster-level ReadIndex safety, the part that does not depend on which queued messages a layer tracks:
the vocabulary (the context of a request, what a heartbeat or heartbeat response queued during a call
may carry, a node without reads), what the operations of `ReadOnly` (`recv_ack`, `advance`) and
`Raft::reset` do to the read bookkeeping, and invariants carried through a fold in the `Res` monad.
Both read layers build on it: `RD` (reads issued at the leader, `RaftProps/C08c.lean`) and `RD.R4`
(forwarded reads, `RaftProps/C08f.lean`).
-/
namespace RaftModel
namespace Raft
namespace RD

/-- the request context a `MsgReadIndex` carries -/
def reqCtx (req : Message) : Option Bytes := req.entries.head?.map (·.data)

/-- the request message `RawNode::read_index` builds -/
def riMsg (K : Bytes) : Message := { msgType := .msgReadIndex, entries := [{ data := K }] }

/-- a heartbeat queued during a call that started in `a` carries no context or one of the queue -/
def HbOk (a : Raft) (x : Message) : Prop :=
  x.msgType = .msgHeartbeat ∧ (x.context = [] ∨ x.context ∈ a.readOnly.readIndexQueue)

/-- a heartbeat response queued during a call that started in `a` with input `m` answers the
delivered heartbeat -/
def HbrOk (a : Raft) (m x : Message) : Prop :=
  x.msgType = .msgHeartbeatResponse ∧ m.msgType = .msgHeartbeat ∧ x.context = m.context ∧
    x.frm = a.id ∧ a.term ≤ x.term

/-- nothing is pending, nothing was answered -/
def Fresh (r : Raft) : Prop :=
  r.readOnly.pendingReadIndex = [] ∧ r.readOnly.readIndexQueue = [] ∧ r.readStates = []

theorem rd_lookup_mem {β : Type} : ∀ (l : List (Bytes × β)) (k : Bytes) (v : β),
    l.lookup k = some v → (k, v) ∈ l := by
  intro l
  induction l with
  | nil => intro k v h; simp [List.lookup] at h
  | cons p rest ih =>
    intro k v h
    obtain ⟨k', v'⟩ := p
    rw [List.lookup_cons] at h
    by_cases hk : k = k'
    · subst hk
      simp at h
      subst h
      exact List.mem_cons_self
    · have : (k == k') = false := by simpa using hk
      rw [this] at h
      exact List.mem_cons_of_mem _ (ih k v h)

theorem rd_lookup_none {β : Type} : ∀ (l : List (Bytes × β)) (k : Bytes),
    l.lookup k = none → ∀ v, (k, v) ∉ l := by
  intro l
  induction l with
  | nil => intro k _ v h; cases h
  | cons p rest ih =>
    intro k h v hm
    obtain ⟨k', v'⟩ := p
    rw [List.lookup_cons] at h
    by_cases hk : k = k'
    · subst hk; simp at h
    · have : (k == k') = false := by simpa using hk
      rw [this] at h
      rcases List.mem_cons.1 hm with g | g
      · injection g with g1 _; exact hk g1
      · exact ih k h v g

/-! ### `recv_ack` -/

theorem recvAck_spec (ro : ReadOnly) (id : Nat) (K : Bytes) :
    (ro.recvAck id K).1.option = ro.option ∧
    (ro.recvAck id K).1.readIndexQueue = ro.readIndexQueue ∧
    (∀ K' rs, (K', rs) ∈ (ro.recvAck id K).1.pendingReadIndex →
      (∃ rs0, (K', rs0) ∈ ro.pendingReadIndex ∧ rs.req = rs0.req ∧ rs.index = rs0.index) ∧
      ∀ u ∈ rs.acks, (u = id ∧ K' = K) ∨ ∃ rsA, (K', rsA) ∈ ro.pendingReadIndex ∧ u ∈ rsA.acks) ∧
    (∀ acks, (ro.recvAck id K).2 = some acks →
      ∃ rsA, (K, rsA) ∈ ro.pendingReadIndex ∧ ∀ u ∈ acks, u = id ∨ u ∈ rsA.acks) := by
  unfold ReadOnly.recvAck
  split
  · refine ⟨rfl, rfl, fun K' rs h => ⟨⟨rs, h, rfl, rfl⟩, fun u hu => .inr ⟨rs, h, hu⟩⟩, ?_⟩
    intro acks h; cases h
  · rename_i rsA hl
    have hmem := rd_lookup_mem _ _ _ hl
    refine ⟨rfl, rfl, fun K' rs h => ?_, ?_⟩
    · dsimp only at h
      obtain ⟨p, hp, e⟩ := List.mem_map.1 h
      by_cases hk : p.1 = K
      · rw [if_pos hk] at e
        injection e with e1 e2
        subst e2
        refine ⟨⟨p.2, by rw [← e1]; exact hp, rfl, rfl⟩, fun u hu => ?_⟩
        rcases RaftProofs.ConfChange.mem_insert.1 hu with g | g
        · exact .inl ⟨g, by rw [← e1]; exact hk⟩
        · right
          refine ⟨rsA, ?_, g⟩
          rw [← e1, hk]; exact hmem
      · rw [if_neg hk] at e
        subst e
        exact ⟨⟨rs, hp, rfl, rfl⟩, fun u hu => .inr ⟨rs, hp, hu⟩⟩
    · intro acks h
      dsimp only at h
      injection h with h
      subst h
      exact ⟨rsA, hmem, fun u hu => RaftProofs.ConfChange.mem_insert.1 hu⟩

/-! ### `advance` -/

theorem findPos_spec (ro : ReadOnly) (K : Bytes) : ∀ (q : List Bytes) (i j : Nat),
    ro.findPos K q i = .ok (some j) → ∃ p, j = i + p ∧ q[p]? = some K := by
  intro q
  induction q with
  | nil => intro i j h; simp [ReadOnly.findPos] at h
  | cons x rest ih =>
    intro i j h
    unfold ReadOnly.findPos at h
    split at h
    · cases h
    · split at h
      · rename_i hx
        injection h with h
        injection h with h
        exact ⟨0, by omega, by simp [hx]⟩
      · obtain ⟨p, hp, hq⟩ := ih (i + 1) j h
        exact ⟨p + 1, by omega, by simpa using hq⟩

theorem popN_spec : ∀ (n : Nat) (ro : ReadOnly) (acc : List ReadIndexStatus) (ro' : ReadOnly)
    (out : List ReadIndexStatus), ReadOnly.popN n ro acc = .ok (ro', out) →
    ro'.option = ro.option ∧ ro'.readIndexQueue = ro.readIndexQueue.drop n ∧
    (∀ p ∈ ro'.pendingReadIndex, p ∈ ro.pendingReadIndex) ∧
    ∃ popped, out = acc ++ popped ∧ ∀ rs ∈ popped, ∃ (p : Nat) (Kp : Bytes), p < n ∧
      ro.readIndexQueue[p]? = some Kp ∧ (Kp, rs) ∈ ro.pendingReadIndex := by
  intro n
  induction n with
  | zero =>
    intro ro acc ro' out h
    simp only [ReadOnly.popN] at h
    injection h with h
    injection h with h1 h2
    subst h1; subst h2
    exact ⟨rfl, rfl, fun p hp => hp, [], by simp, fun rs hrs => by cases hrs⟩
  | succ n ih =>
    intro ro acc ro' out h
    unfold ReadOnly.popN at h
    split at h
    · cases h
    · rename_i x rest hq
      split at h
      · cases h
      · rename_i st hl
        obtain ⟨h1, h2, h3, popped, h4, h5⟩ := ih _ _ _ _ h
        have hsub : ∀ p ∈ ro.pendingReadIndex.filter (fun p => p.1 != x),
            p ∈ ro.pendingReadIndex := fun p hp => (List.mem_filter.1 hp).1
        refine ⟨h1, ?_, fun p hp => hsub p (h3 p hp), [st] ++ popped, ?_, ?_⟩
        · rw [h2, hq]; rfl
        · rw [h4]; simp
        · intro rs hrs
          rcases List.mem_append.1 hrs with g | g
          · rw [List.mem_singleton.1 g]
            exact ⟨0, x, Nat.succ_pos _, by rw [hq]; rfl, rd_lookup_mem _ _ _ hl⟩
          · obtain ⟨p, Kp, g1, g2, g3⟩ := h5 rs g
            exact ⟨p + 1, Kp, by omega, by rw [hq]; simpa using g2, hsub _ g3⟩

theorem advance_spec {ro ro' : ReadOnly} {K : Bytes} {rss : List ReadIndexStatus}
    (h : ro.advance K = .ok (ro', rss)) :
    ro'.option = ro.option ∧ (∃ d, ro'.readIndexQueue = ro.readIndexQueue.drop d) ∧
    (∀ p ∈ ro'.pendingReadIndex, p ∈ ro.pendingReadIndex) ∧
    ∀ rs ∈ rss, ∃ (p i : Nat) (Kp : Bytes), p ≤ i ∧ ro.readIndexQueue[i]? = some K ∧
      ro.readIndexQueue[p]? = some Kp ∧ (Kp, rs) ∈ ro.pendingReadIndex := by
  unfold ReadOnly.advance at h
  split at h
  · rename_i i hf
    obtain ⟨p0, hp0, hq0⟩ := findPos_spec ro K _ _ _ hf
    obtain ⟨h1, h2, h3, popped, h4, h5⟩ := popN_spec _ _ _ _ _ h
    refine ⟨h1, ⟨_, h2⟩, h3, fun rs hrs => ?_⟩
    rw [h4, List.nil_append] at hrs
    obtain ⟨p, Kp, g1, g2, g3⟩ := h5 rs hrs
    exact ⟨p, i, Kp, by omega, by rw [← hq0]; congr 1; omega, g2, g3⟩
  · injection h with h
    injection h with h1 h2
    subst h1; subst h2
    exact ⟨rfl, ⟨0, rfl⟩, fun p hp => hp, fun rs hrs => by cases hrs⟩
  · cases h
  · cases h

/-! ### `reset` -/

theorem reset_read (r : Raft) (t : Nat) :
    (r.reset t).readOnly = ReadOnly.new r.readOnly.option ∧
    (r.reset t).readStates = r.readStates := by
  unfold reset
  simp only [mapProgress, abortLeaderTransfer, resetRandomizedElectionTimeout,
    ProgressTracker.resetVotes]
  split <;> simp

/-! ### folds over the peers -/

theorem foldl_post {β : Type} (I : Raft → Prop) (g : Raft → β → Res Raft) :
    ∀ (l : List β), (∀ r b, b ∈ l → I r → Res.Post I (g r b)) → ∀ (acc : Res Raft),
      Res.Post I acc → Res.Post I (l.foldl (fun acc b => acc.bind (fun r => g r b)) acc) := by
  intro l
  induction l with
  | nil => intro _ acc h; exact h
  | cons b rest ih =>
    intro hg acc h
    simp only [List.foldl_cons]
    apply ih (fun r b' hb' => hg r b' (List.mem_cons_of_mem _ hb'))
    exact Res.post_bind h (fun x hx => hg x b List.mem_cons_self hx)

theorem forEachPeer_post (I : Raft → Prop)
    (f : Raft → Nat → Progress → Res (Raft × Progress))
    (hf : ∀ r id pr, I r → Res.Post (fun x => I x.1) (f r id pr))
    (hset : ∀ r id pr, I r → I { r with prs := r.prs.set id pr }) (r : Raft) (h : I r) :
    Res.Post I (r.forEachPeer f) :=
  Res.post_intro fun _ hp => forEachPeer_parts (P := I) hp h
    (fun hx p => (hf _ _ _ p).of_eq hx) fun _ _ p => hset _ _ _ p

end RD
end Raft
end RaftModel
