import RaftProofs.ClusterSnap5C
import RaftProofs.ClusterLeaderAppend
import RaftProps.C05d

/-!
Commit safety of `ClusterSem`, the part that does not look at logs across time.  `FactsR cfg h` is what
"a term is led in one stretch" rests on (the clauses of the bundle, `NodeRels h`, the representation
invariant of the logs); `Facts0 q cfg h extends FactsR` is **what the message-level invariants rest on**
(one step seen from the stepping node, what a call does to its node and queues, where `MsgAppend`s and
`MsgSnapshot`s come from).  A history with compaction and snapshots (`GHyp2w q`) has these facts, and so
has one with `batch_append` (`ClusterB.M.Hyp2wB`, with `q := False`); a history with both, under C05d's
`SaneAnchors` (`Snap.J.Hyp2w`), has `FactsR`.  From `FactsR`: a leader's term is in its storage, a term
is led in one stretch; from `Facts0`: what one step does to the logical log of one node.
-/
namespace RaftModel
namespace Cluster
namespace Snap5
open Node Raft Raft.CC RaftProps.C02 RaftProps.C05 Snap

variable {q : Prop} {cfg : JointConfig} {h : List Sys}

/-- **a leader's term is in its storage** -/
theorem leader_floor_of {cfg : JointConfig} {h : List Sys} (hist : History h)
    (fix : ∀ s ∈ h, FixedCfg cfg s) (nolone : ∀ i Q, IsJointQuorum cfg Q → ∃ k ∈ Q, k ≠ i) {s : Sys}
    (hs : s ∈ h) {k τ : Nat} (hl : leads s k τ) : TermFloor s k τ := by
  obtain ⟨st, hk, hst, hterm⟩ := hl
  have hall := hist_all hist
  have I1 := hall.1 s hs
  have I2 := hall.2.1 cfg fix s hs
  obtain ⟨Q, hQ, hQg⟩ := I2.lead k st hk hst
  obtain ⟨j, hj, hjk⟩ := nolone k Q hQ
  rcases hQg j hj with e | ⟨g, hg, g1, g2, g3, g4, g5⟩
  · exact absurd e hjk
  · -- the grant `g` answers a request of `k` that is in the transport
    have hrv : CV.isRVm g = true := by simp [CV.isRVm, g1, g2]
    obtain ⟨stj, _, hok, _⟩ := I1.net g hg hrv
    obtain ⟨q, hq, q1, q2, q3⟩ := hok.2.2.2.2 g1
    have hrvq : CV.isRVm q = true := by simp [CV.isRVm, q1]
    obtain ⟨stk, hstk, hokq, hges⟩ := I1.net q hq hrvq
    rw [q2, g4, hk] at hstk
    cases hstk
    refine ⟨st, hk, Nat.le_of_eq hterm.symm, ?_⟩
    rw [q3, g5, hterm] at hges
    rcases hges with c | ⟨c, _⟩ <;> omega




/-- what is recorded about a `MsgSnapshot` when it is queued: the step `h[m-1] → h[m]` of node `i`,
leader of the message's term after it, whose storage held the snapshot before it -/
def SnapGen (h : List Sys) (m i : Nat) (x : Message) : Prop :=
  ∃ (n : Nat) (a b : Sys) (st st' : NState), m = n + 1 ∧ h[n]? = some a ∧ h[n + 1]? = some b ∧
    a.node i = some st ∧ b.node i = some st' ∧ st'.raft.state = .leader ∧
    st'.raft.term = x.term ∧ x.frm = i ∧ st.raft.term ≤ st'.raft.term ∧
    st.raft.raftLog.store.snapshotCore = .ok x.snapshot ∧
    st.raft.raftLog.unstable.snapshot = none


/-- what a call does to its node: role and term, the logical log, and the acknowledgements and vote
requests it queues -/
structure CallOut (st st' : NState) (op : NodeOp) : Prop where
  rt : RT st.raft st'.raft
  log : LogRel' st st' op
  qak : ∀ x ∈ st'.raft.msgs, isAck x → x ∈ st.raft.msgs ∨ AkOK (CV.opMsg op) st'.raft x
  qrq : ∀ x ∈ st'.raft.msgs, x.msgType = .msgRequestVote → x ∈ st.raft.msgs ∨ RqOK st'.raft x

/-- **what "a term is led in one stretch" rests on**: the clauses of the bundle, what one step does to one
node (`NodeRels`), and the representation invariant of the logs -/
structure FactsR (cfg : JointConfig) (h : List Sys) : Prop where
  hist : History h
  fix : ∀ s ∈ h, FixedCfg cfg s
  ne : cfg.incoming ≠ []
  nd1 : cfg.incoming.Nodup
  nd2 : cfg.outgoing.Nodup
  nolone : ∀ i Q, IsJointQuorum cfg Q → ∃ k ∈ Q, k ≠ i
  init : ∀ s : Sys, h[0]? = some s → InitOk s
  rels : NodeRels h
  node_inv {n : Nat} {s : Sys} (hn : h[n]? = some s) {i : Nat}
    {st : NState} (hi : s.node i = some st) : st.raft.raftLog.Inv

/-- **what the message-level invariants rest on** -/
structure Facts0 (q : Prop) (cfg : JointConfig) (h : List Sys) : Prop extends FactsR cfg h where
  stp {n : Nat} {a b : Sys} (ha : h[n]? = some a) (hb : h[n + 1]? = some b) :
    ∃ k st st', a.node k = some st ∧ b.node k = some st' ∧ (∀ v, v ≠ k → b.node v = a.node v) ∧
      Stp q a b k st st'
  q_of_net {n : Nat} {s : Sys} (hn : h[n]? = some s) {x : Message}
    (hx : x ∈ s.net) (hty : x.msgType = .msgSnapshot) : q
  node_id {n : Nat} {s : Sys} (hn : h[n]? = some s) {i : Nat}
    {st : NState} (hi : s.node i = some st) : st.raft.id = i
  lead_tz {n : Nat} {s : Sys} (hn : h[n]? = some s) {l : Nat}
    {st : NState} (hl : s.node l = some st) (hs : st.raft.state = .leader) : st.raft.term ≠ 0
  msg_ok {n : Nat} {a : Sys} (ha : h[n]? = some a) {m : Message}
    (hm : m ∈ a.net) (hty : m.msgType = .msgAppend) :
    MsgOk m ∧ ∀ k st, a.node k = some st → Agree (msgLog m) st.raft.raftLog.abs
  call_out {n : Nat} {a b : Sys} {i : Nat} {st st' : NState}
    {rnd : Option Nat} {op : NodeOp} {res : OpRes}
    (ha : h[n]? = some a) (hb : h[n + 1]? = some b) (hi : a.node i = some st)
    (hi' : b.node i = some st') (hnet : b.net = a.net)
    (hop : appOp op = true ∨ ∃ m, op = .step m ∧ m ∈ a.net ∧ m.to = i)
    (hc : ∀ j, op = .compact j → CompactOk st.raft.raftLog j)
    (hms : ∀ m, op = .step m → m.msgType ≠ .msgSnapshot)
    (hpend : st.raft.raftLog.unstable.snapshot = none)
    (hcall : Node.call st rnd op = .ok (res, st')) : CallOut st st' op
  append_prov : ∀ (n : Nat) (s : Sys), h[n]? = some s →
    ∀ x ∈ s.net, x.msgType = .msgAppend → ∃ i, Gen (AppGen h) n i x
  snap_prov (hq : q) : ∀ (n : Nat) (s : Sys), h[n]? = some s →
    ∀ x ∈ s.net, x.msgType = .msgSnapshot → ∃ i, Gen (SnapGen h) n i x

/-- **a leader's term is in its storage** -/
theorem FactsR.leader_floor (B : FactsR cfg h) {s : Sys}
    (hs : s ∈ h) {k τ : Nat} (hl : leads s k τ) : TermFloor s k τ :=
  leader_floor_of B.hist B.fix B.nolone hs hl

/-- one step keeps `Dead` -/
theorem FactsR.dead_step (B : FactsR cfg h) {n : Nat} {a b : Sys} (ha : h[n]? = some a)
    (hb : h[n + 1]? = some b) {l t : Nat} (hd : Dead a l t) : Dead b l t := by
  obtain ⟨st, hk, hst, hdd⟩ := hd
  obtain ⟨hstep, hnr⟩ := B.rels n a b ha hb
  obtain ⟨st', hk', hmem, hrel⟩ := C06_cluster_step_term_vote a b hstep l st hk
  have hst' : t ≤ st'.raft.raftLog.store.hardState.term := by
    have hge : t ≤ st.raft.term := by rcases hdd with c | ⟨c, _⟩ <;> omega
    rcases hrel with ⟨g, _⟩ | ⟨g1, _, g3, _⟩ | ⟨g, _⟩ <;> omega
  refine ⟨st', hk', hst', ?_⟩
  rcases hnr l st st' hk hk' with c | c
  · have rt := c.rt
    have hle := rt.le
    by_cases hlt : t < st'.raft.term
    · exact .inl hlt
    · right
      have hge : t ≤ st.raft.term := by rcases hdd with c | ⟨c, _⟩ <;> omega
      have e1 : st'.raft.term = t := by omega
      have e0 : st.raft.term = t := by omega
      have hrole : st.raft.state = .follower ∨ st.raft.state = .preCandidate := by
        rcases hdd with c | ⟨_, c⟩
        · omega
        · exact c
      refine ⟨e1, ?_⟩
      cases hs' : st'.raft.state with
      | follower => exact .inl rfl
      | preCandidate => exact .inr rfl
      | candidate =>
        rcases rt.cand hs' with c | ⟨_, c⟩
        · omega
        · rcases hrole with r | r <;> rw [r] at c <;> cases c
      | leader =>
        rcases rt.lead hs' with c | ⟨_, c | c⟩
        · omega
        · rcases hrole with r | r <;> rw [r] at c <;> cases c
        · rcases hrole with r | r <;> rw [r] at c <;> cases c
  · obtain ⟨st1, st2, cf, rnd, h1, _, h3, h4⟩ := c
    rw [h4, node_setNode_self] at hk'
    cases hk'
    rw [hk] at h1; cases h1
    have hbt := CV.boot_booted cf _ rnd st' h3
    by_cases hlt : t < st'.raft.term
    · exact .inl hlt
    · right
      rw [hbt.term] at hlt ⊢
      exact ⟨by omega, .inl hbt.state⟩

/-- … and so do any number of steps -/
theorem FactsR.dead_later (B : FactsR cfg h) {l t : Nat} :
    ∀ (d n : Nat) (a b : Sys), h[n]? = some a → h[n + d]? = some b → Dead a l t → Dead b l t := by
  intro d
  induction d with
  | zero => intro n a b ha hb hd; rw [Nat.add_zero, ha] at hb; cases hb; exact hd
  | succ d ih =>
    intro n a b ha hb hd
    have hlt : n + 1 < h.length := by
      rcases Nat.lt_or_ge (n + 1) h.length with c | c
      · exact c
      · have : h.length ≤ n + (d + 1) := by omega
        rw [List.getElem?_eq_none this] at hb; cases hb
    have h1 : h[n + 1]? = some h[n + 1] := List.getElem?_eq_some_iff.2 ⟨hlt, rfl⟩
    exact ih (n + 1) _ b h1 (by rw [← hb]; congr 1; omega) (B.dead_step ha h1 hd)

/-- **the leader of a term is never restarted while the term is still led later** -/
theorem FactsR.no_restart_between (B : FactsR cfg h) {n d : Nat} {s s' : Sys} {l t : Nat}
    (hn : h[n]? = some s) (hn' : h[n + d]? = some s') (hl : leads s l t) (hl' : leads s' l t) :
    ∀ m a b, n ≤ m → m < n + d → h[m]? = some a → h[m + 1]? = some b → ¬ IsRestart l a b := by
  intro m a b hm1 hm2 ha hb hr
  -- after the restart the node is dead for `t`
  have hfl : TermFloor a l t :=
    (B.leader_floor (mem_of_get hn) hl).later B.hist hn ha hm1
  obtain ⟨st1, st2, cf, rnd, h1, _, h3, h4⟩ := hr
  obtain ⟨st, hk, _, hk2⟩ := hfl
  rw [hk] at h1; cases h1
  have hbt := CV.boot_booted cf _ rnd st2 h3
  have hdead : Dead b l t := by
    refine ⟨st2, by rw [h4]; exact node_setNode_self a l st2, by rw [hbt.hs]; exact hk2, ?_⟩
    by_cases hlt : t < st2.raft.term
    · exact .inl hlt
    · right
      rw [hbt.term] at hlt ⊢
      exact ⟨by omega, .inl hbt.state⟩
  have : Dead s' l t :=
    B.dead_later (n + d - (m + 1)) (m + 1) b s' hb (by rw [← hn']; congr 1; omega) hdead
  exact this.not_leads hl'

/-- **the logs of the leader of a term at two points of the history**: same node, and the later log
extends the earlier one -/
theorem FactsR.leader_log_ext (B : FactsR cfg h) {n d : Nat} {s s' : Sys} {l l' t : Nat} {st st' : NState}
    (hn : h[n]? = some s) (hn' : h[n + d]? = some s')
    (hk : s.node l = some st) (hk' : s'.node l' = some st')
    (hs : st.raft.state = .leader) (hs' : st'.raft.state = .leader)
    (ht : st.raft.term = t) (ht' : st'.raft.term = t) :
    l = l' ∧ st.raft.raftLog.lastIndex ≤ st'.raft.raftLog.lastIndex ∧
    (∀ k e, st.raft.raftLog.abs.entryAt k = some e → st'.raft.raftLog.abs.snapIdx < k →
      st'.raft.raftLog.abs.entryAt k = some e) ∧
    (∀ k e', st'.raft.raftLog.abs.entryAt k = some e' → k ≤ st.raft.raftLog.lastIndex →
      st.raft.raftLog.abs.entryAt k = some e') := by
  have hll : l = l' :=
    C02_cluster_election_safety cfg B.ne B.nd1 B.nd2 h B.hist B.fix s s' (mem_of_get hn)
      (mem_of_get hn') l l' t ⟨st, hk, hs, ht⟩ ⟨st', hk', hs', ht'⟩
  subst hll
  have hx := B.rels.leader_extends l d n s s' st st' hn hn'
    (B.no_restart_between hn hn' ⟨st, hk, hs, ht⟩ ⟨st', hk', hs', ht'⟩) hk hk' hs hs' (ht'.trans ht.symm)
  have e1 := (B.node_inv hn hk).lastIndex_abs
  have e2 := (B.node_inv hn' hk').lastIndex_abs
  exact ⟨rfl, by rw [e1, e2]; exact hx.last, hx.kept,
    fun k e' he hle => hx.old k e' he (by rw [← e1]; exact hle)⟩




/-- the initial term of node `l` is below every term it ever leads -/
theorem FactsR.lead_above_init (B : FactsR cfg h) {s0 : Sys} (h0 : h[0]? = some s0) {l : Nat}
    {st0 : NState} (hl0 : s0.node l = some st0) {n : Nat} {s : Sys} (hn : h[n]? = some s) {t : Nat}
    (hl : leads s l t) : st0.raft.term < t := by
  obtain ⟨_, sto, hboot, _, _, _⟩ := B.init s0 h0
  obtain ⟨c, rnd, hb⟩ := hboot l st0 hl0
  have hbt := CV.boot_booted c _ rnd st0 hb
  have hd0 : Dead s0 l st0.raft.term :=
    ⟨st0, hl0, by rw [hbt.hs, ← hbt.term]; exact Nat.le_refl _, .inr ⟨rfl, .inl hbt.state⟩⟩
  have hd : Dead s l st0.raft.term := B.dead_later n 0 s0 s h0 (by rw [Nat.zero_add]; exact hn) hd0
  obtain ⟨st, hk, hst, htm⟩ := hl
  obtain ⟨st2, hk2, _, hd2⟩ := hd
  rw [hk] at hk2; cases hk2
  rcases hd2 with c | ⟨c, c2⟩
  · omega
  · rcases c2 with c2 | c2 <;> rw [hst] at c2 <;> cases c2

/-- the term of every `MsgAppend` of the transport is a leader's term: not `0` -/
theorem Facts0.append_term_ne_zero (B : Facts0 q cfg h) {n : Nat} {s : Sys} (hn : h[n]? = some s)
    {x : Message} (hx : x ∈ s.net) (hty : x.msgType = .msgAppend) : x.term ≠ 0 := by
  obtain ⟨i, m, _, s1, st, h1, h2, h3, h4, _⟩ := B.append_prov n s hn x hx hty
  rw [← h4]
  exact B.lead_tz h1 h2 h3

/-- the term of every `MsgSnapshot` of the transport is a leader's term: not `0` -/
theorem Facts0.snap_term_ne_zero (B : Facts0 q cfg h) {n : Nat} {s : Sys} (hn : h[n]? = some s)
    {x : Message} (hx : x ∈ s.net) (hty : x.msgType = .msgSnapshot) : x.term ≠ 0 := by
  obtain ⟨i, m, _, n0, a, b, st, st', _, _, hb, _, h2, h3, h4, _⟩ :=
    B.snap_prov (B.q_of_net hn hx hty) n s hn x hx hty
  rw [← h4]
  exact B.lead_tz hb h2 h3

/-! ### one step and the logical log of one node -/

/-- what one step does to one node -/
inductive NodeStep (a : Sys) (v : Nat) (sta stb : NState) : Prop
  /-- the logical log is untouched -/
  | same (hl : stb.raft.raftLog.abs = sta.raft.raftLog.abs)
  /-- a leader appended entries of its term -/
  | grew (es : List Entry) (hg : Appended sta.raft stb.raft es)
  /-- a `MsgAppend` of the transport was accepted -/
  | acc (m : Message) (hm : m ∈ a.net) (hty : m.msgType = .msgAppend) (hto : m.to = v)
      (ha : Accepted sta.raft.raftLog.abs stb.raft.raftLog.abs m)
      (hc : stb.raft.raftLog.committed =
        max sta.raft.raftLog.committed (min m.commit (m.index + m.entries.length)))
      (hci : sta.raft.raftLog.committed ≤ m.index)
      (hs : stb.raft.state = .follower) (ht : m.term = stb.raft.term ∨ m.term = 0)
  /-- crash and restart: the log is the stored one -/
  | restart (hl : stb.raft.raftLog.abs = storeLog sta.raft.raftLog.store)
      (hs : stb.raft.state = .follower)
      (ht : stb.raft.term = sta.raft.raftLog.store.hardState.term)
  /-- the application compacted the storage -/
  | compacted (k : Nat) (ho : CompactOut sta stb k)
  /-- the snapshot of a `MsgSnapshot` of the transport replaced the log -/
  | restored (m : Message) (hm : m ∈ a.net) (hty : m.msgType = .msgSnapshot) (hto : m.to = v)
      (hl : stb.raft.raftLog.abs = LLog.ofSnapshot m.snapshot)
      (hc : stb.raft.raftLog.committed = m.snapshot.metadata.index)
      (hle : sta.raft.raftLog.committed ≤ m.snapshot.metadata.index)
      (hnm : sta.raft.raftLog.matchTerm m.snapshot.metadata.index m.snapshot.metadata.term ≠
        .ok true ∨ sta.raft.raftLog.lastIndex ≤ m.snapshot.metadata.index)
      (hs : stb.raft.state = .follower) (ht : m.term = stb.raft.term ∨ m.term = 0)

/-- a call that is not a compaction and not the delivery of a snapshot, without a pending snapshot:
as without compaction (`Cluster.CallStep`) -/
theorem Facts0.call_step0 (B : Facts0 q cfg h) {n : Nat} {a b : Sys} (ha : h[n]? = some a)
    (hb : h[n + 1]? = some b) {k : Nat}
    {st st' : NState} {rnd : Option Nat} {op : NodeOp} {res : OpRes} (h1 : a.node k = some st)
    (h1' : b.node k = some st') (hnet : b.net = a.net)
    (hop : appOp op = true ∨ ∃ m, op = .step m ∧ m ∈ a.net ∧ m.to = k)
    (hnc : ∀ j, op ≠ .compact j) (hns : ∀ m, op = .step m → m.msgType ≠ .msgSnapshot)
    (hpn : st.raft.raftLog.unstable.snapshot = none)
    (h4 : Node.call st rnd op = .ok (res, st')) :
    Cluster.CallStep a k st st' := by
  have generic : (∀ m, op = .step m → m.msgType ≠ .msgAppend) → Cluster.CallStep a k st st' := by
    intro hna
    have hl := (B.call_out ha hb h1 h1' hnet hop (fun j hj => absurd hj (hnc j)) hns hpn h4).log
    rcases hl with (c | ⟨es, c⟩ | c) | ⟨j, c, _⟩
    · exact .same c
    · exact .grew es c
    · rcases hop with h2 | ⟨m, rfl, _, _⟩
      · cases op <;> first | (cases h2; done) | (cases c; done)
      · exact absurd c (hna m rfl)
    · exact absurd c (hnc j)
  rcases hop with h2 | ⟨m, rfl, h2, h3⟩
  · exact generic (fun m hm => by rw [hm] at h2; cases h2)
  · by_cases hty : m.msgType = .msgAppend
    · obtain ⟨hok, hag⟩ := B.msg_ok ha h2 hty
      cases append_call (B.node_inv ha h1) hty hok (hag k st h1) h4 with
      | noacc hl _ _ => exact .same hl
      | acc ha' hc hci hs ht _ => exact .acc m h2 hty h3 ha' hc hci hs ht
    · exact generic (fun m' hm' => by cases hm'; exact hty)

/-- what a `call` / `deliver` step does to the logical log of its node (`Snap.CallStep`: a compaction included) -/
theorem Facts0.call_step (B : Facts0 q cfg h) {n : Nat} {a b : Sys} (ha : h[n]? = some a)
    (hb : h[n + 1]? = some b) {k : Nat}
    {st st' : NState} {rnd : Option Nat} {op : NodeOp} {res : OpRes} (h1 : a.node k = some st)
    (h1' : b.node k = some st') (hnet : b.net = a.net)
    (hop : appOp op = true ∨ ∃ m, op = .step m ∧ m ∈ a.net ∧ m.to = k)
    (hco : ∀ j, op = .compact j → CompactOk st.raft.raftLog j)
    (hns : ∀ m, op = .step m → m.msgType ≠ .msgSnapshot)
    (hpn : st.raft.raftLog.unstable.snapshot = none)
    (h4 : Node.call st rnd op = .ok (res, st')) :
    Snap.CallStep a k st st' := by
  by_cases hcomp : ∃ j, op = .compact j
  · obtain ⟨j, rfl⟩ := hcomp
    exact .compacted j (compact_out (B.node_inv ha h1) hpn (hco j rfl) h4)
  · cases B.call_step0 ha hb h1 h1' hnet hop (fun j hj => hcomp ⟨j, hj⟩) hns hpn h4 with
    | same hl => exact .same hl
    | grew es hg => exact .grew es hg
    | acc m hm hty hto ha' hc hci hs ht => exact .acc m hm hty hto ha' hc hci hs ht

/-- **what one step does to the logical log of one node** -/
theorem Facts0.node_step (B : Facts0 q cfg h) {n : Nat} {a b : Sys} (ha : h[n]? = some a)
    (hb : h[n + 1]? = some b) {v : Nat} {sta stb : NState} (hva : a.node v = some sta)
    (hvb : b.node v = some stb) : NodeStep a v sta stb := by
  obtain ⟨k, stk, stk', hka, hkb, hoth, hs⟩ := B.stp ha hb
  by_cases hvk : v = k
  · subst hvk
    rw [hka] at hva; cases hva
    rw [hkb] at hvb; cases hvb
    cases hs with
    | call rnd op res hop hco _ hns hpn _ hcall hnet _ =>
      cases B.call_step ha hb hka hkb hnet hop hco hns hpn hcall with
      | same hl => exact .same hl
      | grew es hg => exact .grew es hg
      | acc m hm hty hto ha' hc hci hs ht => exact .acc m hm hty hto ha' hc hci hs ht
      | compacted j ho => exact .compacted j ho
    | snap rnd m hm hto hty hpn hout _ =>
      cases hout with
      | skip hr => exact .same (by rw [hr])
      | handled x hsf ht _ _ _ _ _ _ _ hsto hcase =>
        cases hcase with
        | kept hu _ _ _ => exact .same (RaftLog.abs_congr hsto hu)
        | ffwd hu _ _ _ _ _ _ => exact .same (RaftLog.abs_congr hsto hu)
        | restored hle hnm hu hc _ _ =>
          refine .restored m hm hty hto ?_ hc hle hnm hsf ht
          rw [RaftLog.abs_some (sn := m.snapshot) (by rw [hu]; rfl), hu]
          rfl
    | psnap rnd _ hout _ _ =>
      cases hout with
      | noop hr => exact .same (by rw [hr])
      | done sn L _ hr _ habs _ _ _ _ _ _ _ => exact .same (by rw [hr]; exact habs)
    | send _ _ _ hsame _ _ => exact .same (by rw [hsame.1])
    | restart c rnd hboot _ =>
      have hbt := CV.boot_booted c _ rnd stb hboot
      obtain ⟨_, habs, _⟩ := boot_log c _ rnd stb (B.node_inv ha hka).storeWF hboot
      exact .restart habs hbt.state hbt.term
  · rw [hoth v hvk, hva] at hvb
    cases hvb
    exact .same rfl


end Snap5
end Cluster
end RaftModel
