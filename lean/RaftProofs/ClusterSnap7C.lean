import RaftProofs.ClusterSnapBatchBundle
import RaftProofs.ClusterCommit5c4M
import RaftProofs.ClusterSnapExamples

/-!
Commit safety of `ClusterSem` with log compaction AND `batch_append`, part 7C (C01n): **a concrete
history with batching on AND a real compaction** (kernel-evaluated) that satisfies the joined bundle
`Snap7.Hyp3wB`.

The history of `RaftProofs/ClusterCommit5c4M.lean` (`c01w_hist`, 25 states: node 1 leads term 1, the
application switches `batch_append` on, two proposals are glued by `try_batching` onto the queued
`MsgAppend` for node 2, node 2 acknowledges the batched message, node 1 commits index 3) continued by
three steps: the application of node 1 — leader, `batch_append = true`, commit index 3 —
**compacts its log up to index 2** (`compact 2`: the snapshot point moves from 0 to 1), then, still
batching, is proposed another entry (index 4; the `MsgAppend`s it queues are anchored at index 3, above
the new snapshot point) and a second one, which `try_batching` glues onto the queued `MsgAppend` for
node 2 **after the compaction**.
-/
namespace RaftModel
namespace Cluster
namespace Snap7
open Node Raft Raft.CC ClusterB RaftProps.C02 RaftProps.C05

def nx_a16 := c02x_st (Node.call c01w_a15 none (.compact 2))
def nx_a17 := c02x_st (Node.call nx_a16 none (.propose [] [3]))
def nx_a18 := c02x_st (Node.call nx_a17 none (.propose [] [4]))

def nx_s25 : Sys := c01w_s24.setNode 1 nx_a16
def nx_s26 : Sys := nx_s25.setNode 1 nx_a17
def nx_s27 : Sys := nx_s26.setNode 1 nx_a18

def nx_tail : List Sys := [nx_s25, nx_s26, nx_s27]
def nx_hist : List Sys := c01w_hist ++ nx_tail

def nx_moves : List Move :=
  [.call 1 c01w_a15 (.compact 2), .call 1 nx_a16 (.propose [] [3]), .call 1 nx_a17 (.propose [] [4])]

/-- what `Snap7.Hyp3wB` assumes about one state: fixed voters, no `MsgSnapshot` in the transport, no
pending snapshot -/
def nx_chk (s : Sys) : Bool :=
  c02x_fixed s && s.net.all (fun x => decide (x.msgType ≠ .msgSnapshot)) &&
  s.nodes.all (fun p => Snap.cx_nodeOk p.2)

theorem nx_chk_ok (s : Sys) (h : nx_chk s = true) :
    FixedCfg c02x_cfg s ∧ (∀ x ∈ s.net, x.msgType ≠ .msgSnapshot) ∧
    ∀ i st, s.node i = some st → st.raft.raftLog.unstable.snapshot = none := by
  unfold nx_chk at h
  simp only [Bool.and_eq_true] at h
  obtain ⟨⟨h1, h3⟩, h4⟩ := h
  refine ⟨c02x_fixed_ok s h1, fun x hx => ?_, fun i st hi => ?_⟩
  · rw [List.all_eq_true] at h3
    exact of_decide_eq_true (h3 x hx)
  · rw [List.all_eq_true] at h4
    have := h4 _ (c02_lookup_mem s.nodes i st hi)
    unfold Snap.cx_nodeOk at this
    simpa [Option.isNone_iff_eq_none] using this

/-- **the history, run once**: the step tests of the three calls and the test of every new state; node 1
around the compaction; the queued `MsgAppend` before and after the second proposal
(`C01n_cluster_batch_compaction_nonvacuous`) -/
theorem nx_eval :
    (Move.all (fun s mv => mv.ok s && mv.okC && mv.okPersist && nx_chk (mv.next s)) c01w_s24 nx_moves &&
      nx_chk c01w_s24) = true ∧
    (Snap.c02x_okOk (Node.call c01w_a15 none (.compact 2)) = true ∧
      nx_a16.raft.state = .leader ∧ nx_a16.raft.batchAppend = true ∧
      nx_a16.raft.raftLog.committed = 3 ∧ c01w_a15.raft.raftLog.abs.snapIdx = 0 ∧
      nx_a16.raft.raftLog.abs.snapIdx = 1 ∧ nx_a16.raft.raftLog.abs.snapTerm = none) ∧
    nx_a17.raft.raftLog.abs.snapIdx = 1 ∧ nx_a17.raft.msgs ≠ [] ∧ nx_a18.raft.msgs ≠ [] ∧
    nx_a17.raft.msgs.head!.msgType = .msgAppend ∧ nx_a17.raft.msgs.head!.index = 3 ∧
    nx_a18.raft.msgs.head!.entries.drop 1 ≠ [] ∧
    nx_a18.raft.msgs.head! = { nx_a17.raft.msgs.head! with
      entries := nx_a17.raft.msgs.head!.entries ++ nx_a18.raft.msgs.head!.entries.drop 1,
      commit := 3 } := by
  decide +kernel

theorem nx_checked : Chained Snap.KStep (c01w_s24 :: nx_tail) ∧
    ∀ s ∈ c01w_s24 :: nx_tail, nx_chk s = true :=
  Move.checked Move.kstepS c01w_s24 nx_moves rfl nx_eval.1

/-- **a continuation of `c01w_hist` by `Snap.KStep`s through states that pass `nx_chk` satisfies every
hypothesis of the joined bundle** -/
theorem c01w_extend {tail : List Sys}
    (hk : Chained Snap.KStep (c01w_s24 :: tail) ∧ ∀ s ∈ c01w_s24 :: tail, nx_chk s = true) :
    Hyp3wB c02x_cfg 0 (c01w_hist ++ tail) := by
  have hks : Chained Snap.KStep (c01w_hist ++ tail) :=
    chained_append_last (s := c01w_s24) rfl
      (Chained.mono (fun _ _ hc => Snap.KStep.of_old hc) _ c01w_ksteps_all) hk.1
  have h0 : (c01w_hist ++ tail)[0]? = some c02x_s0 := rfl
  have h0' : c01w_hist[0]? = some c02x_s0 := rfl
  have W := c01w_hyp3wB
  have hall : ∀ s ∈ c01w_hist ++ tail,
      FixedCfg c02x_cfg s ∧ (∀ x ∈ s.net, x.msgType ≠ .msgSnapshot) ∧
      ∀ i st, s.node i = some st → st.raft.raftLog.unstable.snapshot = none := by
    intro s hs
    rcases List.mem_append.1 hs with c | c
    · exact ⟨W.fix s c, fun x hx => W.nosnap s c x hx, fun i st hi => (W.shape s c i st hi).1⟩
    · exact nx_chk_ok s (hk.2 s (List.mem_cons_of_mem _ c))
  exact
    { hist := history_of_chained (fun _ _ hc => hc.step) _ hks, fix := fun s hs => (hall s hs).1,
      ne := W.ne, nd1 := W.nd1, nd2 := W.nd2,
      init := fun s hs => W.init s (by rw [h0'] ; rw [h0] at hs; exact hs),
      steps := chained_at _ hks,
      nosnap := fun s hs x hx => (hall s hs).2.1 x hx,
      nolone := W.nolone,
      nopend := fun s hs i st hi => (hall s hs).2.2 i st hi,
      first0 := fun s hs i st hi =>
        (W.shape s (mem_of_get (by rw [h0']; rw [h0] at hs; exact hs)) i st hi).2,
      initc := fun s hs => W.initc s (by rw [h0']; rw [h0] at hs; exact hs),
      c0z := rfl,
      snapt0 := fun s hs => W.snapt0 s (by rw [h0']; rw [h0] at hs; exact hs) }

/-- **the history satisfies every hypothesis of the joined bundle** -/
theorem nx_hyp3wB : Hyp3wB c02x_cfg 0 nx_hist := c01w_extend nx_checked

end Snap7
end Cluster
end RaftModel
