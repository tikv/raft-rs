import RaftProofs.ClusterSnapFacts

/-!
Commit safety of `ClusterSem` with compaction and snapshots, part 5M: **the
components of the main induction** (`Sm`), and the facts about leaders'
logs and commit events that follow from the components at earlier points (`SAll`).
-/
namespace RaftModel
namespace Cluster
namespace Snap5
open Node Raft Raft.CC RaftProps.C02 RaftProps.C05 Snap

variable {q : Prop} {cfg : JointConfig} {c0 : Nat} {h : List Sys}

/-- `L` is the ghost (uncompacted) log of the leader of term `t` at some point `h[m]`, `m ≤ N` -/
def LeaderLog (h : List Sys) (c0 N t : Nat) (L : LLog) : Prop :=
  ∃ (m : Nat) (s : Sys) (l : Nat) (st : NState), m ≤ N ∧ h[m]? = some s ∧ s.node l = some st ∧
    st.raft.state = .leader ∧ st.raft.term = t ∧ L = FL h c0 st

theorem LeaderLog.mono {h : List Sys} {c0 N N' t : Nat} {L : LLog} (hl : LeaderLog h c0 N t L)
    (hle : N ≤ N') : LeaderLog h c0 N' t L := by
  obtain ⟨m, s, l, st, h1, h2⟩ := hl
  exact ⟨m, s, l, st, Nat.le_trans h1 hle, h2⟩

/-- the prefix up to `cm` of `g` is covered by a past commit event of a term at most `term` -/
def Covered (h : List Sys) (c0 m cm term : Nat) (g : LLog) : Prop :=
  cm ≤ c0 ∨ ∃ E : Ev, E.ok h ∧ E.nE < m ∧ cm ≤ E.c ∧ E.t ≤ term ∧ EqUpTo g (EvF h c0 E) cm

/-- what an accepting append response promises about the log `g` of its sender -/
def Promise (h : List Sys) (c0 m : Nat) (a : Message) (g : LLog) : Prop :=
  ∃ L, LeaderLog h c0 m a.term L ∧ a.index ≤ L.lastIndex ∧ EqUpTo g L a.index

structure Sm (h : List Sys) (c0 m : Nat) (s : Sys) : Prop where
  lc : ∀ E : Ev, E.ok h → ∀ l st, s.node l = some st → st.raft.state = .leader →
    E.t < st.raft.term → Has (FL h c0 st) E.c E.t
  retm : ∀ E : Ev, E.ok h → ∀ v st, s.node v = some st → AckedMem s m E v st →
    Has (FL h c0 st) E.c E.t
  rets : ∀ E : Ev, E.ok h → ∀ v st, s.node v = some st → AckedDur s m E v →
    Has (FS h c0 st) E.c E.t
  a2m : ∀ v st, s.node v = some st → ∀ a, (a ∈ s.net ∨ a ∈ st.raft.msgs) → isAck a → a.frm = v →
    c0 < a.index → a.term = st.raft.term → Promise h c0 m a (FL h c0 st)
  a2s : ∀ v st, s.node v = some st → ∀ a ∈ s.net, isAck a → a.frm = v → c0 < a.index →
    a.term = st.raft.raftLog.store.hardState.term →
    Promise h c0 m a (FS h c0 st)
  g1 : ∀ E : Ev, E.ok h → ∀ v st g, s.node v = some st → (g ∈ s.net ∨ g ∈ st.raft.msgs) →
    isGrant g → g.frm = v → E.t < g.term → AckedMem s m E v st → ¬ LedBy h m g.term →
    ∃ q ∈ s.net, q.msgType = .msgRequestVote ∧ q.frm = g.to ∧ q.term = g.term ∧ UpTo q E.c E.t
  nctm : ∀ v st, s.node v = some st →
    Covered h c0 m st.raft.raftLog.committed st.raft.term (FL h c0 st)
  ncts : ∀ v st, s.node v = some st →
    Covered h c0 m st.raft.raftLog.store.hardState.commit st.raft.raftLog.store.hardState.term
      (FS h c0 st)
  scm : ∀ v st, s.node v = some st →
    st.raft.raftLog.store.hardState.commit ≤ st.raft.raftLog.committed

/-- everything up to index `n` -/
def SAll (h : List Sys) (c0 n : Nat) : Prop := ∀ m s, m ≤ n → h[m]? = some s → Sm h c0 m s


/-- the log of a commit event is a leader's log -/
theorem Facts.leaderLog (F : Facts q cfg c0 h) {E : Ev} (hE : E.ok h) :
    LeaderLog h c0 (E.nE + 1) E.t (EvF h c0 E) ∧ Has (EvF h c0 E) E.c E.t ∧ c0 < E.c := by
  obtain ⟨a, b, sta, stb, ha, hb, hla, hlb, hs, ht, hc, _, hg, _, _, hc0, hh, _⟩ := F.ev_facts hE
  exact ⟨⟨E.nE + 1, b, E.l, stb, Nat.le_refl _, hb, hlb, hs, ht, hg⟩, hh, hc0⟩

theorem Ev.leaderLog (H : Hyp2w cfg c0 h) {E : Ev} (hE : E.ok h) :
    LeaderLog h c0 (E.nE + 1) E.t (EvF h c0 E) ∧ Has (EvF h c0 E) E.c E.t ∧ c0 < E.c :=
  H.g.facts.leaderLog hE

/-- the end of a leader's ghost log is the end of its logical log -/
theorem fl_last (F : Facts q cfg c0 h) {n : Nat} {s : Sys} (hn : h[n]? = some s) {v : Nat}
    {st : NState} (hv : s.node v = some st) :
    (FL h c0 st).lastIndex = st.raft.raftLog.abs.lastIndex :=
  ((F.ghost_inv n s hn).node v st hv).log.last

/-- two logs of the leader of one term hold the same entry wherever both reach -/
theorem ll_eq (F : Facts q cfg c0 h) {N N' t : Nat} {L L' : LLog} (h1 : LeaderLog h c0 N t L)
    (h2 : LeaderLog h c0 N' t L') {k : Nat} (hk : k ≤ L.lastIndex) (hk' : k ≤ L'.lastIndex) :
    L.entryAt k = L'.entryAt k := by
  obtain ⟨m, s, l, st, _, a2, a3, a4, a5, rfl⟩ := h1
  obtain ⟨m', s', l', st', _, b2, b3, b4, b5, rfl⟩ := h2
  exact F.leader_flogs_eq a2 b2 a3 b3 a4 b4 a5 b5 (by rw [← fl_last F a2 a3]; exact hk)
    (by rw [← fl_last F b2 b3]; exact hk')

/-- a node's log that holds an entry of a leader's log at `c` equals that log up to `c` -/
theorem eq_ll (F : Facts q cfg c0 h) {n : Nat} {s : Sys} (hn : h[n]? = some s) {v : Nat}
    {st : NState} (hv : s.node v = some st) {N t : Nat} {L : LLog} (hL : LeaderLog h c0 N t L)
    {c τ : Nat} (h1 : Has (FL h c0 st) c τ) (h2 : Has L c τ) :
    EqUpTo (FL h c0 st) L c := by
  obtain ⟨m', s', l', st', _, b2, b3, _, _, rfl⟩ := hL
  obtain ⟨e1, he1, ht1⟩ := h1
  obtain ⟨e2, he2, ht2⟩ := h2
  exact F.flogs_eq_below hn b2 hv b3 he1 he2 (ht1.trans ht2.symm)

/-- **a leader of the event's term or a later one holds the committed entry** (for the event's own
term: once its log reaches the index) -/
theorem ll_has (F : Facts q cfg c0 h) {n : Nat} (S : SAll h c0 n) {τ : Nat} {L : LLog}
    (hL : LeaderLog h c0 n τ L) {E : Ev} (hE : E.ok h) (hle : E.t ≤ τ)
    (hreach : τ = E.t → E.c ≤ L.lastIndex) : Has L E.c E.t := by
  by_cases hlt : E.t < τ
  · obtain ⟨m, s, l, st, a1, a2, a3, a4, a5, rfl⟩ := hL
    exact (S m s a1 a2).lc E hE l st a3 a4 (by rw [a5]; exact hlt)
  · have heq : τ = E.t := by omega
    subst heq
    obtain ⟨hEl, hEh, _⟩ := F.leaderLog hE
    obtain ⟨e, he, het⟩ := hEh
    have := ll_eq F hL hEl (hreach rfl) ((EvF h c0 E).entryAt_lt he).2
    exact ⟨e, this.trans he, het⟩

/-- **the logs of two commit events agree**: the log of a past event `E0` holds the entry of any event
`E` that committed no more (`E.c ≤ E0.c`) — given, when `E0`'s term is the smaller one, that `E`'s term
has been led by now -/
theorem ctf (F : Facts q cfg c0 h) {n : Nat} (S : SAll h c0 n) {E0 E : Ev} (hE0 : E0.ok h)
    (hE : E.ok h) (hpast : E0.nE < n) (hc : E.c ≤ E0.c)
    (hled : E0.t < E.t → ∃ L, LeaderLog h c0 n E.t L) : Has (EvF h c0 E0) E.c E.t := by
  obtain ⟨hl0, hh0, _⟩ := F.leaderLog hE0
  obtain ⟨e0, he0, _⟩ := id hh0
  have hl0' : LeaderLog h c0 n E0.t (EvF h c0 E0) := hl0.mono (by omega)
  by_cases h1 : E.t ≤ E0.t
  · exact ll_has F S hl0' hE h1 (fun _ => Nat.le_trans hc ((EvF h c0 E0).entryAt_lt he0).2)
  · obtain ⟨L, hL⟩ := hled (by omega)
    -- the leader of `E`'s term holds `E0`'s entry, hence `E0`'s log up to there
    have hLh0 : Has L E0.c E0.t := ll_has F S hL hE0 (by omega) (fun hc' => by omega)
    obtain ⟨eL, heL, hetL⟩ := hLh0
    have hreach : E.c ≤ L.lastIndex := Nat.le_trans hc (L.entryAt_lt heL).2
    have hLh : Has L E.c E.t := ll_has F S hL hE (Nat.le_refl _) (fun _ => hreach)
    obtain ⟨m, s, l, st, a1, a2, a3, a4, a5, rfl⟩ := hL
    have hq := eq_ll F a2 a3 hl0 ⟨eL, heL, hetL⟩ hh0
    exact Has.of_eq (hq E.c hc).symm hLh



/-- **the logs of two past commit events agree** up to the smaller commit index -/
theorem ev_agree_past (F : Facts q cfg c0 h) {n : Nat} (S : SAll h c0 n) {E1 E2 : Ev} (h1 : E1.ok h)
    (h2 : E2.ok h) (hp1 : E1.nE < n) (hp2 : E2.nE < n) (hle : E1.c ≤ E2.c) :
    EqUpTo (EvF h c0 E1) (EvF h c0 E2) E1.c := by
  obtain ⟨l1, hh1, _⟩ := F.leaderLog h1
  obtain ⟨l2, _, _⟩ := F.leaderLog h2
  have := ctf F S h2 h1 hp2 hle (fun _ => ⟨EvF h c0 E1, l1.mono (by omega)⟩)
  obtain ⟨m, s, l, st, _, a2, a3, _, _, e⟩ := l1
  rw [e] at hh1 ⊢
  exact eq_ll F a2 a3 l2 hh1 this

/-- two covered prefixes agree -/
theorem covered_agree (F : Facts q cfg c0 h) {n : Nat} (S : SAll h c0 n) {m1 m2 c1 c2 t1 t2 : Nat}
    {g1 g2 : LLog} (hs1 : g1.snapIdx = c0) (hs2 : g2.snapIdx = c0)
    (h1 : Covered h c0 m1 c1 t1 g1) (h2 : Covered h c0 m2 c2 t2 g2) (hm1 : m1 ≤ n) (hm2 : m2 ≤ n) :
    ∀ k, k ≤ c1 → k ≤ c2 → g1.entryAt k = g2.entryAt k := by
  intro k hk1 hk2
  by_cases hk0 : k ≤ c0
  · unfold LLog.entryAt
    rw [if_pos (by rw [hs1]; exact hk0), if_pos (by rw [hs2]; exact hk0)]
  rcases h1 with c | ⟨E1, a1, a2, a3, _, a5⟩
  · omega
  rcases h2 with c | ⟨E2, b1, b2, b3, _, b5⟩
  · omega
  rw [a5 k hk1, b5 k hk2]
  rcases Nat.le_total E1.c E2.c with hle | hle
  · exact ev_agree_past F S a1 b1 (by omega) (by omega) hle k (by omega)
  · exact (ev_agree_past F S b1 a1 (by omega) (by omega) hle k (by omega)).symm

end Snap5
end Cluster
end RaftModel
