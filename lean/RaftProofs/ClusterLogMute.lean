import RaftProofs.ClusterBatchK
import RaftProofs.ClusterCommit4CP

/-!
Cluster-level Log Matching **without the queues of mute nodes**: the instance
`live ms := ¬ Raft.CP.QSnap ms` of the development `Cluster.Live` (`RaftProofs/ClusterLogI.lean` … `ClusterBatchK.lean`).  A node with a
`MsgSnapshot` in its queue is *mute*: `send` hands the whole queue to the transport, which under `NoSnapNet`
never holds a `MsgSnapshot`, so the node sends nothing more before it restarts, and what its queue holds
never becomes a chain of another place.  The two facts the general layer asks of `live`:

* `MonoS`: a queued `MsgSnapshot` stays queued within a call, or the queue is emptied (a hypothesis here,
  derived in the commit layer from `Raft.PB.PWb.sn`);
* a queue that reaches a transport without `MsgSnapshot`s is live (`live_of_net`).
-/
namespace RaftModel
namespace Cluster
namespace M
open Node Raft Raft.Bt

/-- **frame property of one step at a node**: a queued `MsgSnapshot` stays queued, or the queue is
emptied.  (True of every `Node.call`; taken as a hypothesis at this layer and *derived* in the commit layer
from `Raft.PB.PWb.sn`.) -/
def MonoQ (st st' : NState) : Prop :=
  Raft.CP.QSnap st.raft.msgs → Raft.CP.QSnap st'.raft.msgs ∨ st'.raft.msgs = []

/-- the frame property for a step of the cluster -/
def MonoS (a b : Sys) : Prop :=
  ∀ i st st', a.node i = some st → b.node i = some st' → MonoQ st st'

/-- the queue of a node that is not mute -/
abbrev live (ms : List Message) : Prop := ¬ Raft.CP.QSnap ms

/-- the chain `g` sits at `loc` in state `s` — **the queues of mute nodes are skipped** -/
abbrev At : Sys → Loc → LLog → Prop := Live.At live

abbrev InvL : (Nat → Nat → Prop) → (Entry → Prop) → Sys → Prop := Live.InvL live

abbrev Trans : Sys → Sys → Nat → NState → NState → Prop → Prop → Prop := Live.Trans live

abbrev EntriesOf : Sys → Entry → Prop := Live.EntriesOf live

/-- **no append anchored in the void**: no `MsgAppend` queued at a node that is not mute carries
`log_term = 0` at an anchor `index ≠ 0`.  (`RaftLog::term` answers 0 for every index outside the log, so this
is what `prepare_send_entries` builds exactly when `next_idx - 1` lies beyond the sender's last index.) -/
def SaneAnchors (s : Sys) : Prop :=
  ∀ i st, s.node i = some st → ¬ Raft.CP.QSnap st.raft.msgs →
    ∀ x ∈ st.raft.msgs, x.msgType = .msgAppend → x.logTerm = 0 → x.index = 0

theorem SaneAnchors.notWeird {s : Sys} (h : SaneAnchors s) {i : Nat} {st : NState} {x : Message}
    (hi : s.node i = some st) (hx : x ∈ st.raft.msgs) (hty : x.msgType = .msgAppend)
    (hnq : live st.raft.msgs) : ¬ Weird (msgLog x) :=
  Live.SaneAnchors.notWeird (live := live) h hi hx hty hnq

theorem MonoQ.mono {st st' : NState} (h : MonoQ st st') : Live.Mono live st st' :=
  fun hnq' hne hq => (h hq).elim hnq' hne

theorem MonoS.mono {a b : Sys} (h : MonoS a b) :
    ∀ i st st', a.node i = some st → b.node i = some st' → Live.Mono live st st' :=
  fun i st st' hi hi' => (h i st st' hi hi').mono

/-- what reaches a transport that holds no `MsgSnapshot` is live -/
theorem live_of_net {net : List Message} (hns : ∀ x ∈ net, x.msgType ≠ .msgSnapshot)
    (q : List Message) (hq : ∀ x ∈ q, x ∈ net) : live q :=
  fun ⟨y, hy, hty⟩ => hns y (hq y hy) hty

end M
end Cluster
end RaftModel
