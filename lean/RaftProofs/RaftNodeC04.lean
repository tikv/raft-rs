import RaftProofs.RaftNodeC16
import RaftProofs.RaftNodeC10

/-!
Helper lemmas for C04 on the node model: what every function of `src/raft.rs` / `src/raft_log.rs`
does to the commit index `raft_log.committed`.

The handlers of `raft.rs` change the log only through a handful of operations of `raft_log.rs`; so a
predicate of the log that survives those operations survives every handler (`RaftLog.Keeps`,
`RaftLog.KeepsAll`, the lemmas `f_lp`).  For the commit index: a function that never commits keeps
`CP P r` (`P r.raftLog.committed`) for every `P`, so in particular the commit index is unchanged;
a function that may commit keeps it for the upward closed `P := (c ≤ ·)`.  The `…_spec` lemmas say
where exactly the commit index goes.
-/
namespace RaftModel

/-! ### `raft_log.rs`: the three writers of `committed` -/
namespace RaftLog

/-- `commit_to` (raft_log.rs:299): never decreases `committed`; raises it only to an index inside
the log, and touches nothing else -/
theorem c04_commitTo_spec {l l' : RaftLog} {c : Nat} (h : l.commitTo c = .ok l') :
    (c ≤ l.committed ∧ l' = l) ∨
    (l.committed < c ∧ c ≤ l.lastIndex ∧ l' = { l with committed := c }) :=
  commitTo_inv h

theorem c04_commitTo_committed {l l' : RaftLog} {c : Nat} (h : l.commitTo c = .ok l') :
    l'.committed = max l.committed c := by
  rcases c04_commitTo_spec h with ⟨hc, rfl⟩ | ⟨hc, _, rfl⟩
  · exact (Nat.max_eq_left hc).symm
  · exact (Nat.max_eq_right (Nat.le_of_lt hc)).symm

/-- `maybe_commit` (raft_log.rs:525): when it commits `i`, then `i` is beyond the commit index,
inside the log, and the entry at `i` carries term `t`; otherwise the log is unchanged -/
theorem c04_maybeCommit_spec {l l' : RaftLog} {i t : Nat} {b : Bool}
    (h : l.maybeCommit i t = .ok (l', b)) :
    (b = true ∧ l.committed < i ∧ i ≤ l.lastIndex ∧ l.term i = .ok t ∧
      l' = { l with committed := i }) ∨
    (b = false ∧ l' = l) := maybeCommit_inv h

/-- `RaftLog::restore` (raft_log.rs:688): the commit index becomes the snapshot index, which is not
below the old one (the `assert!`) -/
theorem c04_restore_committed {l l' : RaftLog} {sn : Snapshot} (h : l.restore sn = .ok l') :
    l'.committed = sn.metadata.index ∧ l.committed ≤ sn.metadata.index := by
  obtain ⟨hc, rfl⟩ := restore_inv h
  exact ⟨rfl, hc⟩

/-- `append` (raft_log.rs:377) does not touch the commit index -/
theorem c04_append_committed {l l' : RaftLog} {es : List Entry} {n : Nat}
    (h : l.append es = .ok (l', n)) : l'.committed = l.committed := by
  rcases append_inv h with ⟨_, rfl⟩ | ⟨u, _, rfl⟩ <;> rfl

/-- the conflicting suffix is replaced by `append`, and `persisted` pulled back behind it -/
theorem appendConflict_inv {l l' : RaftLog} {idx ci : Nat} {es : List Entry}
    (h : l.appendConflict idx ci es = .ok l') :
    ∃ l1 n, l.append (es.drop (ci - (idx + 1))) = .ok (l1, n) ∧
      l' = if ci - 1 < l1.persisted then { l1 with persisted := ci - 1 } else l1 := by
  unfold appendConflict at h
  obtain ⟨_, h⟩ := Res.of_guard h
  obtain ⟨_, h⟩ := Res.of_guard h
  cases ha : l.append (es.drop (ci - (idx + 1))) with
  | ok x => obtain ⟨l1, n⟩ := x; rw [ha] at h; cases h; exact ⟨l1, n, rfl, rfl⟩
  | err e => rw [ha] at h; cases h
  | panic s => rw [ha] at h; cases h

theorem c04_appendConflict_committed {l l' : RaftLog} {idx ci : Nat} {es : List Entry}
    (h : l.appendConflict idx ci es = .ok l') : l'.committed = l.committed := by
  obtain ⟨l1, n, ha, rfl⟩ := appendConflict_inv h
  have := c04_append_committed ha
  split <;> exact this

/-- **the ways `maybe_append` ends well** (raft_log.rs:262): the anchor does not match and the log is
left alone; or it matches, a conflicting suffix beyond the commit index (if there is one) is replaced,
and `commit_to` runs -/
theorem maybeAppend_inv {l l' : RaftLog} {idx term c : Nat} {ents : List Entry}
    {res : Option (Nat × Nat)} (h : l.maybeAppend idx term c ents = .ok (l', res)) :
    (l.matchTerm idx term = .ok false ∧ l' = l ∧ res = none) ∨
    ∃ ci l1, l.matchTerm idx term = .ok true ∧ l.findConflict ents = .ok ci ∧
      ((ci = 0 ∧ l1 = l) ∨ (ci ≠ 0 ∧ l.committed < ci ∧ l.appendConflict idx ci ents = .ok l1)) ∧
      l1.commitTo (min c (idx + ents.length)) = .ok l' ∧ res = some (ci, idx + ents.length) := by
  unfold maybeAppend at h
  cases hm : l.matchTerm idx term with
  | err e => rw [hm] at h; cases h
  | panic s => rw [hm] at h; cases h
  | ok b =>
    rw [hm] at h
    cases b with
    | false => cases h; exact .inl ⟨rfl, rfl, rfl⟩
    | true =>
      dsimp only at h
      cases hf : l.findConflict ents with
      | err e => rw [hf] at h; cases h
      | panic s => rw [hf] at h; cases h
      | ok ci =>
        rw [hf] at h
        dsimp only at h
        generalize hl1 : (if ci = 0 then Res.ok l
          else if ci ≤ l.committed then Res.panic "raft_log.maybe_append.conflict_committed"
          else l.appendConflict idx ci ents) = x1 at h
        cases x1 with
        | err e => cases h
        | panic s => cases h
        | ok l1 =>
          dsimp only at h
          cases hc : l1.commitTo (min c (idx + ents.length)) with
          | err e => rw [hc] at h; cases h
          | panic s => rw [hc] at h; cases h
          | ok l2 =>
            rw [hc] at h
            cases h
            refine .inr ⟨ci, l1, rfl, rfl, ?_, hc, rfl⟩
            rcases ite_eq_iff_or.1 hl1 with ⟨h0, hl1⟩ | ⟨h0, hl1⟩
            · cases hl1; exact .inl ⟨h0, rfl⟩
            · obtain ⟨hle, hl1⟩ := Res.of_guard hl1
              exact .inr ⟨h0, Nat.lt_of_not_le hle, hl1⟩

/-- `maybe_append` (raft_log.rs:262): a rejected append (`None`) leaves the log alone; an accepted
one returns `last_new = idx + |ents|` and commits `min(leader_commit, last_new)` through
`commit_to` -/
theorem c04_maybeAppend_spec {l l' : RaftLog} {idx term c : Nat} {ents : List Entry}
    {res : Option (Nat × Nat)} (h : l.maybeAppend idx term c ents = .ok (l', res)) :
    (res = none ∧ l' = l ∧ l.matchTerm idx term = .ok false) ∨
    (∃ ci, res = some (ci, idx + ents.length) ∧ l.matchTerm idx term = .ok true ∧
      l'.committed = max l.committed (min c (idx + ents.length))) := by
  rcases maybeAppend_inv h with ⟨hm, rfl, rfl⟩ | ⟨ci, l1, hm, _, hl1, hc, rfl⟩
  · exact .inl ⟨rfl, rfl, hm⟩
  · refine .inr ⟨ci, rfl, hm, ?_⟩
    have hc1 : l1.committed = l.committed := by
      rcases hl1 with ⟨_, rfl⟩ | ⟨_, _, ha⟩
      · rfl
      · exact c04_appendConflict_committed ha
    rw [c04_commitTo_committed hc, hc1]

theorem c04_snapshot_committed (l : RaftLog) (i : Nat) : (l.snapshot i).1.committed = l.committed := by
  unfold snapshot
  split
  · split
    · rfl
    · rfl
  · rfl

/-! ### predicates of the log that survive its operations -/

/-- What a predicate of the log has to survive in order to survive the functions of `raft.rs` that
never move the commit index: the snapshot fetched for a peer (the storage may consume its
"unavailable" trigger), `append`, and the reset of `max_apply_unpersisted_log_limit` in
`become_follower`. -/
structure Keeps (Q : RaftLog → Prop) : Prop where
  snapshot : ∀ {l : RaftLog} (i : Nat), Q l → Q (l.snapshot i).1
  append : ∀ {l l' : RaftLog} {es : List Entry} {n : Nat}, l.append es = .ok (l', n) → Q l → Q l'
  limit : ∀ {l : RaftLog} (n : Nat), Q l → Q { l with maxApplyUnpersistedLogLimit := n }

/-- … and in order to survive everything that `step` and `tick` reach: the writers of the commit
index as well — `commit_to`, `RaftLog::restore`, and the `persisted` that `maybe_append` pulls back
behind a replaced suffix. -/
structure KeepsAll (Q : RaftLog → Prop) : Prop extends Keeps Q where
  commitTo : ∀ {l l' : RaftLog} {c : Nat}, l.commitTo c = .ok l' → Q l → Q l'
  persisted : ∀ {l : RaftLog} (p : Nat), Q l → Q { l with persisted := p }
  restore : ∀ {l l' : RaftLog} {sn : Snapshot}, l.restore sn = .ok l' → Q l → Q l'

/-- `maybe_commit` (raft_log.rs:525) changes the log through `commit_to` only -/
theorem maybeCommit_parts {Q : RaftLog → Prop} {l l' : RaftLog} {i t : Nat} {b : Bool}
    (h : l.maybeCommit i t = .ok (l', b)) (h0 : Q l)
    (commit : ∀ {l1}, l.commitTo i = .ok l1 → Q l1) : Q l' := by
  rcases maybeCommit_inv h with ⟨_, h1, h2, _, rfl⟩ | ⟨_, rfl⟩
  · exact commit (by unfold commitTo; rw [if_neg (by omega), if_neg (by omega)])
  · exact h0

/-- `maybe_append` (raft_log.rs:262): a conflicting suffix is replaced by `append`, with `persisted`
pulled back behind it; then `commit_to` -/
theorem maybeAppend_parts {Q : RaftLog → Prop} {l l' : RaftLog} {idx term c : Nat}
    {ents : List Entry} {res : Option (Nat × Nat)}
    (h : l.maybeAppend idx term c ents = .ok (l', res)) (h0 : Q l)
    (app : ∀ {es l1 n}, l.append es = .ok (l1, n) → Q l1)
    (pers : ∀ {l1 : RaftLog} p, Q l1 → Q { l1 with persisted := p })
    (commit : ∀ {l1 l2 c}, l1.commitTo c = .ok l2 → Q l1 → Q l2) : Q l' := by
  rcases maybeAppend_inv h with ⟨_, rfl, _⟩ | ⟨ci, l1, _, _, hl1, hc, _⟩
  · exact h0
  · refine commit hc ?_
    rcases hl1 with ⟨_, rfl⟩ | ⟨_, _, ha⟩
    · exact h0
    · obtain ⟨l2, n, ha2, rfl⟩ := appendConflict_inv ha
      split
      · exact pers _ (app ha2)
      · exact app ha2

theorem KeepsAll.maybeCommit {Q : RaftLog → Prop} (K : KeepsAll Q) {l l' : RaftLog} {i t : Nat}
    {b : Bool} (h : l.maybeCommit i t = .ok (l', b)) (h0 : Q l) : Q l' :=
  maybeCommit_parts h h0 (K.commitTo · h0)

theorem KeepsAll.maybeAppend {Q : RaftLog → Prop} (K : KeepsAll Q) {l l' : RaftLog}
    {idx term c : Nat} {ents : List Entry} {res : Option (Nat × Nat)}
    (h : l.maybeAppend idx term c ents = .ok (l', res)) (h0 : Q l) : Q l' :=
  maybeAppend_parts h h0 (K.append · h0) K.persisted K.commitTo

/-- a component `f` of the log that these operations leave alone: every predicate of it survives -/
theorem Keeps.of_eq {α : Type} {f : RaftLog → α} (P : α → Prop)
    (snapshot : ∀ (l : RaftLog) (i : Nat), f (l.snapshot i).1 = f l)
    (append : ∀ {l l' : RaftLog} {es : List Entry} {n : Nat}, l.append es = .ok (l', n) → f l' = f l)
    (limit : ∀ (l : RaftLog) (n : Nat), f { l with maxApplyUnpersistedLogLimit := n } = f l) :
    Keeps (fun l => P (f l)) where
  snapshot i p := by rw [snapshot]; exact p
  append ha p := by rw [append ha]; exact p
  limit n p := by rw [limit]; exact p

theorem KeepsAll.of_eq {α : Type} {f : RaftLog → α} (P : α → Prop)
    (snapshot : ∀ (l : RaftLog) (i : Nat), f (l.snapshot i).1 = f l)
    (append : ∀ {l l' : RaftLog} {es : List Entry} {n : Nat}, l.append es = .ok (l', n) → f l' = f l)
    (limit : ∀ (l : RaftLog) (n : Nat), f { l with maxApplyUnpersistedLogLimit := n } = f l)
    (commitTo : ∀ {l l' : RaftLog} {c : Nat}, l.commitTo c = .ok l' → f l' = f l)
    (persisted : ∀ (l : RaftLog) (p : Nat), f { l with persisted := p } = f l)
    (restore : ∀ {l l' : RaftLog} {sn : Snapshot}, l.restore sn = .ok l' → f l' = f l) :
    KeepsAll (fun l => P (f l)) where
  toKeeps := Keeps.of_eq P snapshot append limit
  commitTo h p := by rw [commitTo h]; exact p
  persisted n p := by rw [persisted]; exact p
  restore h p := by rw [restore h]; exact p

end RaftLog

namespace Raft

/-! ### Every handler changes the log only through the operations of `raft_log.rs`

The lemmas `f_lp` carry an arbitrary predicate `Q` of the log through `f`, given that `Q` survives
the log operations `f` can reach (`RaftLog.Keeps` / `RaftLog.KeepsAll`).  What happens to the commit
index (`CP`, below), to the apply cursor and to the stored `ConfState` (`ClusterConf2B`) are
instances. -/

/-- `Q` holds of the log of `r` (under a name, so that the closure lemmas of `RaftHandlers` find their
predicate `P := LP Q` by first-order unification) -/
def LP (Q : RaftLog → Prop) (r : Raft) : Prop := Q r.raftLog

variable {Q : RaftLog → Prop}

theorem send_lp {r r' : Raft} {m : Message} (h : r.send m = .ok r') (h0 : LP Q r) :
    LP Q r' := by
  rw [send_eq r r' m h]; exact h0

theorem prepareSendSnapshot_lp (K : RaftLog.Keeps Q) {r r' : Raft} {m m' : Message}
    {pr pr' : Progress} {to : Nat} {b : Bool}
    (h : r.prepareSendSnapshot m pr to = .ok (r', m', pr', b)) (h0 : LP Q r) :
    LP Q r' :=
  prepareSendSnapshot_parts h h0 (K.snapshot _ h0)

theorem tryBatching_lp {r r' : Raft} {to : Nat} {pr pr' : Progress} {ents : List Entry} {b : Bool}
    (h : r.tryBatching to pr ents = .ok (r', pr', b)) (h0 : LP Q r) : LP Q r' :=
  tryBatching_parts h fun _ => h0

theorem maybeSendAppend_lp (K : RaftLog.Keeps Q) {r r' : Raft} {to : Nat} {pr pr' : Progress}
    {ae b : Bool} (h : r.maybeSendAppend to pr ae = .ok (r', pr', b)) (h0 : LP Q r) :
    LP Q r' :=
  maybeSendAppend_parts h h0 (prepareSendSnapshot_lp K · h0) (tryBatching_lp · h0) (fun hs _ => send_lp hs)

theorem sendAppendPr_lp (K : RaftLog.Keeps Q) {r r' : Raft} {to : Nat} {pr pr' : Progress}
    (h : r.sendAppendPr to pr = .ok (r', pr')) (h0 : LP Q r) : LP Q r' :=
  sendAppendPr_parts h (maybeSendAppend_lp K · h0)

theorem sendAppendAggressivelyPr_lp (K : RaftLog.Keeps Q) {r' : Raft} {to : Nat} {pr' : Progress} :
    ∀ (fuel : Nat) (r : Raft) (pr : Progress),
      sendAppendAggressivelyPr fuel r to pr = .ok (r', pr') → LP Q r → LP Q r' :=
  sendAppendAggressivelyPr_parts (maybeSendAppend_lp K)

theorem sendHeartbeat_lp {r r' : Raft} {to : Nat} {pr : Progress} {ctx : Option Bytes}
    (h : r.sendHeartbeat to pr ctx = .ok r') (h0 : LP Q r) : LP Q r' := by
  unfold Raft.sendHeartbeat at h
  exact send_lp h h0

theorem sendAppend_lp (K : RaftLog.Keeps Q) {r r' : Raft} {to : Nat}
    (h : r.sendAppend to = .ok r') (h0 : LP Q r) : LP Q r' :=
  sendAppend_parts h (sendAppendPr_lp K · h0) fun _ p => p

theorem sendAppendAggressively_lp (K : RaftLog.Keeps Q) {r r' : Raft} {to : Nat}
    (h : r.sendAppendAggressively to = .ok r') (h0 : LP Q r) : LP Q r' :=
  sendAppendAggressively_parts h (sendAppendAggressivelyPr_lp K _ _ _ · h0) fun _ p => p

theorem sendTimeoutNow_lp {r r' : Raft} {to : Nat}
    (h : r.sendTimeoutNow to = .ok r') (h0 : LP Q r) : LP Q r' := by
  unfold Raft.sendTimeoutNow at h
  exact send_lp h h0

theorem bcastAppend_lp (K : RaftLog.Keeps Q) {r r' : Raft} (h : r.bcastAppend = .ok r')
    (h0 : LP Q r) : LP Q r' :=
  bcastAppend_parts h h0 (sendAppendPr_lp K) fun _ _ p => p

theorem bcastHeartbeatWithCtx_lp {r r' : Raft} {ctx : Option Bytes}
    (h : r.bcastHeartbeatWithCtx ctx = .ok r') (h0 : LP Q r) : LP Q r' :=
  bcastHeartbeatWithCtx_parts h h0 sendHeartbeat_lp fun _ _ p => p

theorem bcastHeartbeat_lp {r r' : Raft} (h : r.bcastHeartbeat = .ok r') (h0 : LP Q r) :
    LP Q r' := by
  unfold Raft.bcastHeartbeat at h
  exact bcastHeartbeatWithCtx_lp h h0

/-! #### commit, append, read index -/

theorem maybeCommit_lp (K : RaftLog.KeepsAll Q) {r r' : Raft} {b : Bool}
    (h : r.maybeCommit = .ok (r', b)) (h0 : LP Q r) : LP Q r' :=
  maybeCommit_parts h h0 (K.maybeCommit · h0) fun _ p => p

theorem maybeIncreaseUncommittedSize_lp {r r' : Raft} {es : List Entry} {b : Bool}
    (h : r.maybeIncreaseUncommittedSize es = (r', b)) (h0 : LP Q r) : LP Q r' := by
  unfold Raft.maybeIncreaseUncommittedSize at h
  split at h
  cases h
  exact h0

theorem appendEntry_lp (K : RaftLog.Keeps Q) {r r' : Raft} {es : List Entry} {b : Bool}
    (h : r.appendEntry es = .ok (r', b)) (h0 : LP Q r) : LP Q r' :=
  appendEntry_parts h h0 (maybeIncreaseUncommittedSize_lp · h0) K.append

theorem handleReadyReadIndex_lp {r r' : Raft} {req : Message} {i : Nat} {om : Option Message}
    (h : r.handleReadyReadIndex req i = .ok (r', om)) (h0 : LP Q r) : LP Q r' :=
  handleReadyReadIndex_parts h h0 fun _ => h0

theorem respondReadStates_lp {r r' : Raft} {rss : List ReadIndexStatus}
    (h : r.respondReadStates rss = .ok r') (h0 : LP Q r) : LP Q r' :=
  respondReadStates_parts h h0 handleReadyReadIndex_lp fun hs _ => send_lp hs

/-! #### leader side -/

theorem checkQuorumActive_lp {r r' : Raft} {b : Bool} (h : r.checkQuorumActive = (r', b))
    (h0 : LP Q r) : LP Q r' := by
  unfold Raft.checkQuorumActive at h
  split at h
  cases h
  exact h0

theorem handleAppendResponseAccepted_lp (K : RaftLog.KeepsAll Q) {r r' : Raft} {m : Message}
    {pr : Progress} {op : Bool} (h : r.handleAppendResponseAccepted m pr op = .ok r')
    (h0 : LP Q r) : LP Q r' :=
  handleAppendResponseAccepted_parts h (fun _ => h0) (maybeCommit_lp K) (bcastAppend_lp K.toKeeps)
    (sendAppend_lp K.toKeeps) (sendAppendAggressively_lp K.toKeeps) fun _ => sendTimeoutNow_lp

theorem handleAppendResponse_lp (K : RaftLog.KeepsAll Q) {r r' : Raft} {m : Message}
    (h : r.handleAppendResponse m = .ok r') (h0 : LP Q r) : LP Q r' :=
  handleAppendResponse_parts h h0 (fun _ => h0) (sendAppend_lp K.toKeeps)
    (handleAppendResponseAccepted_lp K · h0)

theorem handleHeartbeatResponse_lp (K : RaftLog.Keeps Q) {r r' : Raft} {m : Message}
    (h : r.handleHeartbeatResponse m = .ok r') (h0 : LP Q r) : LP Q r' :=
  handleHeartbeatResponse_parts h h0 (sendAppendPr_lp K · h0) (fun _ p => p) (fun _ p => p)
    respondReadStates_lp

theorem handleTransferLeader_lp (K : RaftLog.Keeps Q) {r r' : Raft} {m : Message}
    (h : r.handleTransferLeader m = .ok r') (h0 : LP Q r) : LP Q r' :=
  handleTransferLeader_parts h h0 (fun p => p) (fun p => p) (fun _ => sendTimeoutNow_lp)
    (fun _ => sendAppendPr_lp K)
    fun _ p => p

theorem handleSnapshotStatus_lp {r : Raft} {m : Message} (h0 : LP Q r) :
    LP Q (r.handleSnapshotStatus m) := by
  unfold Raft.handleSnapshotStatus
  split
  · exact h0
  · split
    · exact h0
    · exact h0

theorem handleUnreachable_lp {r : Raft} {m : Message} (h0 : LP Q r) :
    LP Q (r.handleUnreachable m) := by
  unfold Raft.handleUnreachable
  split
  · exact h0
  · split
    · exact h0
    · exact h0

theorem filterProposalEntry_lp {r r' : Raft} {i : Nat} {e e' : Entry}
    (h : r.filterProposalEntry i e = some (r', e')) (h0 : LP Q r) : LP Q r' :=
  filterProposalEntry_parts h h0 fun _ => h0

theorem filterProposal_lp : ∀ (es : List Entry) (r r' : Raft) (i : Nat)
    (oes : Option (List Entry)), r.filterProposal i es = (r', oes) → LP Q r → LP Q r' :=
  filterProposal_parts filterProposalEntry_lp

/-! #### role changes -/

theorem reset_raftLog (r : Raft) (t : Nat) : (r.reset t).raftLog = r.raftLog := by
  rw [reset_eq]

theorem reset_lp {r : Raft} {t : Nat} (h0 : LP Q r) : LP Q (r.reset t) := by
  unfold LP; rw [reset_raftLog]; exact h0

theorem becomeFollower_raftLog (r : Raft) (t l : Nat) :
    (r.becomeFollower t l).raftLog = { r.raftLog with maxApplyUnpersistedLogLimit := 0 } := by
  unfold Raft.becomeFollower
  simp only [reset_raftLog]

theorem becomeFollower_lp (K : RaftLog.Keeps Q) {r : Raft} {t l : Nat} (h0 : LP Q r) :
    LP Q (r.becomeFollower t l) := by
  unfold LP; rw [becomeFollower_raftLog]; exact K.limit 0 h0

theorem becomeCandidate_lp {r r' : Raft} (h : r.becomeCandidate = .ok r') (h0 : LP Q r) :
    LP Q r' :=
  becomeCandidate_parts h h0 (fun _ => reset_lp) fun p => p

theorem becomePreCandidate_lp {r r' : Raft} (h : r.becomePreCandidate = .ok r') (h0 : LP Q r) :
    LP Q r' := by
  unfold Raft.becomePreCandidate at h
  split at h
  · cases h
  · cases h; exact h0

theorem becomeLeader_lp (K : RaftLog.Keeps Q) {r r' : Raft} (h : r.becomeLeader = .ok r')
    (h0 : LP Q r) : LP Q r' :=
  becomeLeader_parts h h0 (fun _ => reset_lp) (fun _ _ p => p) (appendEntry_lp K)

/-! #### campaigning -/

theorem sendVoteRequests_lp {r r' : Raft} {ct : CampaignType} {vm : MsgType} {t : Nat}
    (h : r.sendVoteRequests ct vm t = .ok r') (h0 : LP Q r) : LP Q r' :=
  sendVoteRequests_parts h h0 fun hs _ => send_lp hs

theorem poll_lp (K : RaftLog.Keeps Q) {r r' : Raft} {frm : Nat} {t : MsgType} {v : Bool}
    {res : VoteResult} (h : r.poll frm t v = .ok (r', res)) (h0 : LP Q r) : LP Q r' :=
  poll_parts h h0 (fun _ _ p => p) (becomeLeader_lp K) (bcastAppend_lp K)
    (becomeFollower_lp K) becomePreCandidate_lp becomeCandidate_lp
    fun hs _ => sendVoteRequests_lp hs

theorem campaign_lp (K : RaftLog.Keeps Q) {r r' : Raft} {ct : CampaignType}
    (h : r.campaign ct = .ok r') (h0 : LP Q r) : LP Q r' :=
  campaign_parts h h0 (fun _ _ p => p) (becomeLeader_lp K) (bcastAppend_lp K)
    (becomeFollower_lp K) becomePreCandidate_lp becomeCandidate_lp
    fun hs _ => sendVoteRequests_lp hs

theorem hup_lp (K : RaftLog.Keeps Q) {r r' : Raft} {b : Bool} (h : r.hup b = .ok r')
    (h0 : LP Q r) : LP Q r' :=
  hup_parts h h0 fun _ hc => campaign_lp K hc h0

/-! #### follower side -/

theorem maybeCommitByVote_lp (K : RaftLog.KeepsAll Q) {r r' : Raft} {m : Message}
    (h : r.maybeCommitByVote m = .ok r') (h0 : LP Q r) : LP Q r' :=
  maybeCommitByVote_parts h h0 (K.maybeCommit · h0) (becomeFollower_lp K.toKeeps)

theorem sendRequestSnapshot_lp {r r' : Raft} (h : r.sendRequestSnapshot = .ok r')
    (h0 : LP Q r) : LP Q r' :=
  sendRequestSnapshot_parts h h0 fun hs _ => send_lp hs

theorem handleAppendEntries_lp (K : RaftLog.KeepsAll Q) {r r' : Raft} {m : Message}
    (h : r.handleAppendEntries m = .ok r') (h0 : LP Q r) : LP Q r' :=
  handleAppendEntries_parts h h0 sendRequestSnapshot_lp (K.maybeAppend · h0) fun hs _ => send_lp hs

theorem handleHeartbeat_lp (K : RaftLog.KeepsAll Q) {r r' : Raft} {m : Message}
    (h : r.handleHeartbeat m = .ok r') (h0 : LP Q r) : LP Q r' :=
  handleHeartbeat_parts h (K.commitTo · h0) sendRequestSnapshot_lp fun hs _ => send_lp hs

/-- `post_conf_change` (raft.rs:2743): a leader re-evaluates `maybe_commit` under the new
configuration, sends appends and answers the reads the new quorum confirms -/
theorem postConfChange_lp (K : RaftLog.KeepsAll Q) {r r' : Raft} {cs : ConfState}
    (h : r.postConfChange = .ok (r', cs)) (h0 : LP Q r) : LP Q r' :=
  postConfChange_parts h h0 (fun _ _ => becomeFollower_lp K.toKeeps) (fun _ => maybeCommit_lp K)
    (fun _ => bcastAppend_lp K.toKeeps) (fun _ => maybeSendAppend_lp K.toKeeps) (fun _ _ p => p)
    (fun _ p => p) respondReadStates_lp fun p => p

/-- away from the leader role `post_conf_change` only recomputes `promotable` -/
theorem postConfChange_nonleader_lp {r r' : Raft} {cs : ConfState} (hs : r.state ≠ .leader)
    (h : r.postConfChange = .ok (r', cs)) (h0 : LP Q r) : LP Q r' :=
  postConfChange_parts h h0 (fun hl => absurd hl hs) (fun hl => absurd hl hs)
    (fun hl => absurd hl hs) (fun hl => absurd hl hs) (fun _ _ p => p) (fun _ p => p)
    respondReadStates_lp fun p => p

theorem restore_lp (K : RaftLog.KeepsAll Q) {r r' : Raft} {snap : Snapshot} {b : Bool}
    (h : r.restore snap = .ok (r', b)) (h0 : LP Q r) : LP Q r' :=
  restore_parts h h0 (fun _ => becomeFollower_lp K.toKeeps h0) (fun hc _ => K.commitTo hc h0)
    (fun hl _ _ => K.restore hl h0) (fun _ => postConfChange_lp K) fun _ p => p

theorem handleSnapshot_lp (K : RaftLog.KeepsAll Q) {r r' : Raft} {m : Message}
    (h : r.handleSnapshot m = .ok r') (h0 : LP Q r) : LP Q r' :=
  handleSnapshot_parts h (restore_lp K · h0) fun hs _ => send_lp hs

/-! #### the dispatchers -/

theorem stepLeader_lp (K : RaftLog.KeepsAll Q) {r r' : Raft} {m : Message} {e : Option RaftError}
    (h : r.stepLeader m = .ok (r', e)) (h0 : LP Q r) : LP Q r' :=
  stepLeader_parts h h0 (fun hb _ => bcastHeartbeat_lp hb h0) (fun hq _ => checkQuorumActive_lp hq h0)
    (fun _ => becomeFollower_lp K.toKeeps) (fun hf _ => filterProposal_lp _ _ _ _ _ hf h0)
    (fun ha _ => appendEntry_lp K.toKeeps ha) (fun hb _ => bcastAppend_lp K.toKeeps hb)
    (fun hr _ => handleReadyReadIndex_lp hr h0) (fun hs _ => send_lp hs) (fun _ _ => h0)
    (fun hb _ => bcastHeartbeatWithCtx_lp hb) (fun ha _ => handleAppendResponse_lp K ha h0)
    (fun hh _ => handleHeartbeatResponse_lp K.toKeeps hh h0) (fun _ => handleSnapshotStatus_lp h0)
    (fun _ => handleUnreachable_lp h0) (fun ht _ => handleTransferLeader_lp K.toKeeps ht h0)

theorem stepCandidate_lp (K : RaftLog.KeepsAll Q) {r r' : Raft} {m : Message}
    {e : Option RaftError} (h : r.stepCandidate m = .ok (r', e)) (h0 : LP Q r) : LP Q r' :=
  stepCandidate_parts h h0 (fun _ => becomeFollower_lp K.toKeeps h0)
    (fun ha _ => handleAppendEntries_lp K ha) (fun hh _ => handleHeartbeat_lp K hh)
    (fun hs _ => handleSnapshot_lp K hs) (fun hp _ _ => poll_lp K.toKeeps hp h0)
    (maybeCommitByVote_lp K)

theorem stepFollower_lp (K : RaftLog.KeepsAll Q) {r r' : Raft} {m : Message}
    {e : Option RaftError} (h : r.stepFollower m = .ok (r', e)) (h0 : LP Q r) : LP Q r' :=
  stepFollower_parts h h0 (fun hs _ => send_lp hs h0) h0 (fun ha _ => handleAppendEntries_lp K ha)
    (fun hh _ => handleHeartbeat_lp K hh) (fun hs _ => handleSnapshot_lp K hs)
    (fun hh _ _ => hup_lp K.toKeeps hh h0) (fun hl _ => K.maybeCommit hl h0)

theorem stepTerm_lp (K : RaftLog.Keeps Q) {r r' : Raft} {m : Message} {b : Bool}
    (h : r.stepTerm m = .ok (r', b)) (h0 : LP Q r) : LP Q r' :=
  stepTerm_parts h h0 (fun _ _ => becomeFollower_lp K) (fun hs _ => send_lp hs)
    fun hs _ => send_lp hs

theorem stepVote_lp (K : RaftLog.KeepsAll Q) {r r' : Raft} {m : Message}
    (h : r.stepVote m = .ok r') (h0 : LP Q r) : LP Q r' :=
  stepVote_parts h (fun hs _ => send_lp hs h0) (fun p => p) (maybeCommitByVote_lp K)

theorem step_lp (K : RaftLog.KeepsAll Q) {r r' : Raft} {m : Message} {e : Option RaftError}
    (h : r.step m = .ok (r', e)) (h0 : LP Q r) : LP Q r' :=
  step_parts h (stepTerm_lp K.toKeeps · h0) (fun hh _ => hup_lp K.toKeeps hh) (stepVote_lp K)
    (fun hc _ => stepCandidate_lp K hc) (fun hf _ => stepFollower_lp K hf)
    (fun hl _ => stepLeader_lp K hl)

theorem stepIgnore_lp (K : RaftLog.KeepsAll Q) {r r' : Raft} {m : Message}
    (h : r.stepIgnore m = .ok r') (h0 : LP Q r) : LP Q r' :=
  stepIgnore_parts h (step_lp K · h0)

theorem tickElection_lp (K : RaftLog.KeepsAll Q) {r r' : Raft} {b : Bool}
    (h : r.tickElection = .ok (r', b)) (h0 : LP Q r) : LP Q r' :=
  tickElection_parts h (fun _ => h0) fun hs _ _ => stepIgnore_lp K hs

theorem tickHeartbeat_lp (K : RaftLog.KeepsAll Q) {r r' : Raft} {b : Bool}
    (h : r.tickHeartbeat = .ok (r', b)) (h0 : LP Q r) : LP Q r' :=
  tickHeartbeat_parts h (fun _ _ p => p) h0 (fun hs _ _ _ => stepIgnore_lp K hs)
    (fun hs _ _ _ => stepIgnore_lp K hs) fun p => p

theorem tick_lp (K : RaftLog.KeepsAll Q) {r r' : Raft} {b : Bool}
    (h : r.tick = .ok (r', b)) (h0 : LP Q r) : LP Q r' :=
  tick_parts h (tickElection_lp K · h0) (tickHeartbeat_lp K · h0)

/-! #### the other entry points of `RawNode` -/

theorem ping_lp {r r' : Raft} (h : r.ping = .ok r') (h0 : LP Q r) : LP Q r' :=
  ping_parts h h0 fun hb _ => bcastHeartbeat_lp hb h0

theorem requestSnapshot_lp {r r' : Raft} {e : Option RaftError}
    (h : r.requestSnapshot = .ok (r', e)) (h0 : LP Q r) : LP Q r' :=
  requestSnapshot_parts h h0 (fun _ p => p) sendRequestSnapshot_lp

theorem applyConfChange_lp (K : RaftLog.KeepsAll Q) {r r' : Raft} {cc : ConfChangeV2}
    {res : Except ErrKind ConfState} (h : r.applyConfChange cc = .ok (r', res)) (h0 : LP Q r) :
    LP Q r' :=
  applyConfChange_parts h h0 (fun _ p => p) (postConfChange_lp K)

theorem enableGroupCommit_lp (K : RaftLog.KeepsAll Q) {r r' : Raft} {enable : Bool}
    (h : r.enableGroupCommit enable = .ok r') (h0 : LP Q r) : LP Q r' :=
  enableGroupCommit_parts h h0 (fun _ => maybeCommit_lp K) fun _ => bcastAppend_lp K.toKeeps

theorem assignCommitGroups_lp (K : RaftLog.KeepsAll Q) {r r' : Raft} {ids : List (Nat × Nat)}
    (h : r.assignCommitGroups ids = .ok r') (h0 : LP Q r) : LP Q r' :=
  assignCommitGroups_parts h h0 (fun _ _ p => p) (fun _ => maybeCommit_lp K)
    fun _ => bcastAppend_lp K.toKeeps

/-! ### The commit index

`CP P r` is `P r.raftLog.committed`.  A function that never commits carries `CP P` for every `P` (so
the commit index is unchanged: take `P := (· = c)`); a function that may commit carries it for the
upward closed `P := (c ≤ ·)` (the commit index does not decrease). -/

/-- `P` holds of the commit index of `r` (a structure, so that the unifier never looks inside) -/
structure CP (P : Nat → Prop) (r : Raft) : Prop where
  h : P r.raftLog.committed

/-- any structure update that keeps `raft_log` keeps the commit index -/
theorem CP.mk' {P : Nat → Prop} {r : Raft} {x1 x2 x3 : Nat} {x4 : List ReadState} {x6 x7 x8 : Nat}
    {x9 : StateRole} {x10 : Bool} {x11 : Nat} {x12 : Option Nat} {x13 : Nat} {x14 : ReadOnly}
    {x15 x16 : Nat} {x17 x18 x19 x20 x21 : Bool} {x22 x23 x24 x25 x26 : Nat} {x27 : Int}
    {x28 : UncommittedState} {x29 : Nat} {x30 : ProgressTracker} {x31 : List Message}
    {x32 : Option Nat} (h0 : CP P r) :
    CP P { term := x1, vote := x2, id := x3, readStates := x4, raftLog := r.raftLog,
           maxInflight := x6, maxMsgSize := x7, pendingRequestSnapshot := x8, state := x9,
           promotable := x10, leaderId := x11, leadTransferee := x12, pendingConfIndex := x13,
           readOnly := x14, electionElapsed := x15, heartbeatElapsed := x16, checkQuorum := x17,
           preVote := x18, skipBcastCommit := x19, batchAppend := x20,
           disableProposalForwarding := x21, heartbeatTimeout := x22, electionTimeout := x23,
           randomizedElectionTimeout := x24, minElectionTimeout := x25, maxElectionTimeout := x26,
           priority := x27, uncommittedState := x28, maxCommittedSizePerReady := x29, prs := x30,
           msgs := x31, nextRand := x32 } := ⟨h0.h⟩

/-- … also when the other fields of `raft_log` change -/
theorem CP.mkLog {P : Nat → Prop} {r : Raft} {x1 x2 x3 : Nat} {x4 : List ReadState} {x6 x7 x8 : Nat}
    {x9 : StateRole} {x10 : Bool} {x11 : Nat} {x12 : Option Nat} {x13 : Nat} {x14 : ReadOnly}
    {x15 x16 : Nat} {x17 x18 x19 x20 x21 : Bool} {x22 x23 x24 x25 x26 : Nat} {x27 : Int}
    {x28 : UncommittedState} {x29 : Nat} {x30 : ProgressTracker} {x31 : List Message}
    {x32 : Option Nat} {y1 : MemStorage} {y2 : Unstable} {y3 y4 y5 : Nat} (h0 : CP P r) :
    CP P { term := x1, vote := x2, id := x3, readStates := x4,
           raftLog := { store := y1, unstable := y2, committed := r.raftLog.committed,
                        persisted := y3, applied := y4, maxApplyUnpersistedLogLimit := y5 },
           maxInflight := x6, maxMsgSize := x7, pendingRequestSnapshot := x8, state := x9,
           promotable := x10, leaderId := x11, leadTransferee := x12, pendingConfIndex := x13,
           readOnly := x14, electionElapsed := x15, heartbeatElapsed := x16, checkQuorum := x17,
           preVote := x18, skipBcastCommit := x19, batchAppend := x20,
           disableProposalForwarding := x21, heartbeatTimeout := x22, electionTimeout := x23,
           randomizedElectionTimeout := x24, minElectionTimeout := x25, maxElectionTimeout := x26,
           priority := x27, uncommittedState := x28, maxCommittedSizePerReady := x29, prs := x30,
           msgs := x31, nextRand := x32 } := ⟨h0.h⟩

/-- decompose `h : f … = .ok …`, then chain the anchored lemmas in the list -/
macro "c04_auto" h:ident "[" ls:Lean.Parser.Tactic.SolveByElim.arg,* "]" : tactic =>
  `(tactic| (frame_dec $h:ident <;> (try injections) <;> (try subst_vars) <;>
      (solve_by_elim (maxDepth := 14) only [*, $ls,*, CP.mk'])))

/-- every predicate of the commit index survives the log operations that do not commit -/
theorem CP.keeps (P : Nat → Prop) : RaftLog.Keeps (fun l => P l.committed) :=
  .of_eq P RaftLog.c04_snapshot_committed RaftLog.c04_append_committed fun _ _ => rfl

/-- a lower bound of the commit index survives all of them -/
theorem CP.keepsAll (c : Nat) : RaftLog.KeepsAll (fun l => c ≤ l.committed) where
  toKeeps := CP.keeps (c ≤ ·)
  commitTo hc p := by
    rw [RaftLog.c04_commitTo_committed hc]; exact Nat.le_trans p (Nat.le_max_left _ _)
  persisted _ p := p
  restore hl p := by
    obtain ⟨e, hle⟩ := RaftLog.c04_restore_committed hl
    rw [e]; exact Nat.le_trans p hle

/-! #### the functions that never commit -/

theorem send_cp {P : Nat → Prop} {r r' : Raft} {m : Message} (h : r.send m = .ok r')
    (h0 : CP P r) : CP P r' :=
  ⟨send_lp (Q := fun l => P l.committed) h h0.h⟩

theorem maybeSendAppend_cp {P : Nat → Prop} {r r' : Raft} {to : Nat} {pr pr' : Progress}
    {ae b : Bool} (h : r.maybeSendAppend to pr ae = .ok (r', pr', b)) (h0 : CP P r) :
    CP P r' :=
  ⟨maybeSendAppend_lp (CP.keeps P) h h0.h⟩

theorem sendAppend_cp {P : Nat → Prop} {r r' : Raft} {to : Nat}
    (h : r.sendAppend to = .ok r') (h0 : CP P r) : CP P r' :=
  ⟨sendAppend_lp (CP.keeps P) h h0.h⟩

theorem sendAppendAggressively_cp {P : Nat → Prop} {r r' : Raft} {to : Nat}
    (h : r.sendAppendAggressively to = .ok r') (h0 : CP P r) : CP P r' :=
  ⟨sendAppendAggressively_lp (CP.keeps P) h h0.h⟩

theorem bcastAppend_cp {P : Nat → Prop} {r r' : Raft} (h : r.bcastAppend = .ok r')
    (h0 : CP P r) : CP P r' :=
  ⟨bcastAppend_lp (CP.keeps P) h h0.h⟩

theorem bcastHeartbeat_cp {P : Nat → Prop} {r r' : Raft} (h : r.bcastHeartbeat = .ok r')
    (h0 : CP P r) : CP P r' :=
  ⟨bcastHeartbeat_lp (Q := fun l => P l.committed) h h0.h⟩

theorem modifyProgress_cp {P : Nat → Prop} {r : Raft} {id : Nat} {f : Progress → Progress}
    (h0 : CP P r) : CP P (r.modifyProgress id f) := ⟨h0.h⟩

theorem mapProgress_cp {P : Nat → Prop} {r : Raft} {f : Nat → Progress → Progress}
    (h0 : CP P r) : CP P (r.mapProgress f) := ⟨h0.h⟩

theorem maybeIncreaseUncommittedSize_cp {P : Nat → Prop} {r r' : Raft} {es : List Entry} {b : Bool}
    (h : r.maybeIncreaseUncommittedSize es = (r', b)) (h0 : CP P r) : CP P r' :=
  ⟨maybeIncreaseUncommittedSize_lp (Q := fun l => P l.committed) h h0.h⟩

theorem appendEntry_cp {P : Nat → Prop} {r r' : Raft} {es : List Entry} {b : Bool}
    (h : r.appendEntry es = .ok (r', b)) (h0 : CP P r) : CP P r' :=
  ⟨appendEntry_lp (CP.keeps P) h h0.h⟩

theorem poll_cp {P : Nat → Prop} {r r' : Raft} {frm : Nat} {t : MsgType} {v : Bool}
    {res : VoteResult} (h : r.poll frm t v = .ok (r', res)) (h0 : CP P r) : CP P r' :=
  ⟨poll_lp (CP.keeps P) h h0.h⟩

theorem hup_cp {P : Nat → Prop} {r r' : Raft} {b : Bool} (h : r.hup b = .ok r') (h0 : CP P r) :
    CP P r' :=
  ⟨hup_lp (CP.keeps P) h h0.h⟩

theorem sendRequestSnapshot_cp {P : Nat → Prop} {r r' : Raft} (h : r.sendRequestSnapshot = .ok r')
    (h0 : CP P r) : CP P r' :=
  ⟨sendRequestSnapshot_lp (Q := fun l => P l.committed) h h0.h⟩

theorem stepTerm_cp {P : Nat → Prop} {r r' : Raft} {m : Message} {b : Bool}
    (h : r.stepTerm m = .ok (r', b)) (h0 : CP P r) : CP P r' :=
  ⟨stepTerm_lp (CP.keeps P) h h0.h⟩

theorem becomeFollower_committed (r : Raft) (t l : Nat) :
    (r.becomeFollower t l).raftLog.committed = r.raftLog.committed := by
  rw [becomeFollower_raftLog]

/-- the log queries do not read `max_apply_unpersisted_log_limit` -/
theorem c04_log_limit_irrelevant (l : RaftLog) (n : Nat) :
    (∀ i, ({ l with maxApplyUnpersistedLogLimit := n } : RaftLog).term i = l.term i) ∧
    (∀ i t, ({ l with maxApplyUnpersistedLogLimit := n } : RaftLog).matchTerm i t = l.matchTerm i t) ∧
    ({ l with maxApplyUnpersistedLogLimit := n } : RaftLog).lastIndex = l.lastIndex :=
  ⟨fun _ => rfl, fun _ _ => rfl, rfl⟩

/-! #### the functions that may commit: the commit index does not decrease -/

theorem maybeCommit_cle {c : Nat} {r r' : Raft} {b : Bool} (h : r.maybeCommit = .ok (r', b))
    (h0 : CP (fun x => c ≤ x) r) : CP (fun x => c ≤ x) r' :=
  ⟨maybeCommit_lp (CP.keepsAll c) h h0.h⟩

theorem postConfChange_cle {c : Nat} {r r' : Raft} {cs : ConfState}
    (h : r.postConfChange = .ok (r', cs)) (h0 : CP (fun x => c ≤ x) r) :
    CP (fun x => c ≤ x) r' :=
  ⟨postConfChange_lp (CP.keepsAll c) h h0.h⟩

theorem step_cle {c : Nat} {r r' : Raft} {m : Message} {e : Option RaftError}
    (h : r.step m = .ok (r', e)) (h0 : CP (fun x => c ≤ x) r) : CP (fun x => c ≤ x) r' :=
  ⟨step_lp (CP.keepsAll c) h h0.h⟩

theorem stepIgnore_cle {c : Nat} {r r' : Raft} {m : Message}
    (h : r.stepIgnore m = .ok r') (h0 : CP (fun x => c ≤ x) r) : CP (fun x => c ≤ x) r' :=
  ⟨stepIgnore_lp (CP.keepsAll c) h h0.h⟩

theorem tick_cle {c : Nat} {r r' : Raft} {b : Bool}
    (h : r.tick = .ok (r', b)) (h0 : CP (fun x => c ≤ x) r) : CP (fun x => c ≤ x) r' :=
  ⟨tick_lp (CP.keepsAll c) h h0.h⟩

/-! ### Where the commit index goes -/

/-- `Raft::maybe_commit` (raft.rs:939), exactly: the tracker's `maximal_committed_index` is handed to
`RaftLog::maybe_commit` with the node's *current term*; on success only `committed` (and the
leader's own `committed_index` book-keeping) change -/
theorem maybeCommit_spec {r r' : Raft} {b : Bool} (h : r.maybeCommit = .ok (r', b)) :
    ∃ mci gc, r.prs.maximalCommittedIndex = .ok (mci, gc) ∧
      ((b = true ∧ r.raftLog.committed < mci ∧ mci ≤ r.raftLog.lastIndex ∧
          r.raftLog.term mci = .ok r.term ∧
          r' = ({ r with raftLog := { r.raftLog with committed := mci } } : Raft).modifyProgress r.id
                 (fun pr => pr.updateCommitted mci)) ∨
       (b = false ∧ r' = r)) := by
  unfold Raft.maybeCommit at h
  split at h
  · cases h
  · cases h
  · rename_i mci gc hm
    refine ⟨mci, gc, hm, ?_⟩
    split at h
    · cases h
    · cases h
    · rename_i log hl
      cases h
      rcases RaftLog.c04_maybeCommit_spec hl with ⟨_, h1, h2, h3, rfl⟩ | ⟨hb, _⟩
      · exact Or.inl ⟨rfl, h1, h2, h3, rfl⟩
      · cases hb
    · rename_i log hl
      cases h
      exact Or.inr ⟨rfl, rfl⟩

/-- `append_entry` (raft.rs:1043) only appends: the commit index and the whole tracker are
untouched -/
theorem appendEntry_spec {r r' : Raft} {es : List Entry} {b : Bool}
    (h : r.appendEntry es = .ok (r', b)) :
    r'.raftLog.committed = r.raftLog.committed ∧ r'.prs = r.prs ∧ r'.id = r.id ∧
    r'.term = r.term ∧ r'.state = r.state := by
  unfold Raft.appendEntry at h
  split at h
  · cases h; exact ⟨rfl, rfl, rfl, rfl, rfl⟩
  · rename_i r1 hm
    have e1 : r1 = { r with uncommittedState := r1.uncommittedState } := by
      unfold Raft.maybeIncreaseUncommittedSize at hm
      split at hm
      cases hm; rfl
    simp only at h
    split at h
    · rename_i log n ha
      cases h
      have := RaftLog.c04_append_committed ha
      rw [e1] at this ⊢
      exact ⟨this, rfl, rfl, rfl, rfl⟩
    · cases h
    · cases h

/-- `maybe_commit_by_vote` (raft.rs:2248): the commit index moves only to `m.commit`, only on a
non-leader, and only when the local entry at `m.commit` carries `m.commit_term` -/
theorem maybeCommitByVote_spec {r r' : Raft} {m : Message} (h : r.maybeCommitByVote m = .ok r') :
    r'.raftLog.committed = r.raftLog.committed ∨
    (r.state ≠ .leader ∧ m.commitTerm ≠ 0 ∧ r.raftLog.committed < m.commit ∧
      m.commit ≤ r.raftLog.lastIndex ∧ r.raftLog.term m.commit = .ok m.commitTerm ∧
      r'.raftLog.committed = m.commit) := by
  have took : ∀ {log}, r.raftLog.maybeCommit m.commit m.commitTerm = .ok (log, true) →
      m.commit ≤ r.raftLog.lastIndex ∧ r.raftLog.term m.commit = .ok m.commitTerm ∧
        log.committed = m.commit := by
    intro log hm
    rcases RaftLog.c04_maybeCommit_spec hm with ⟨_, _, h2, h3, e⟩ | ⟨hb, _⟩
    · exact ⟨h2, h3, e ▸ rfl⟩
    · cases hb
  cases maybeCommitByVote_inv h with
  | ignored => exact .inl rfl
  | committed hl hz hlt hc =>
    obtain ⟨h2, h3, e⟩ := took hc
    exact .inr ⟨hl, hz, hlt, h2, h3, e⟩
  | steppedDown hr hz hlt hc =>
    obtain ⟨h2, h3, e⟩ := took hc
    have hl : r.state ≠ .leader := fun hx => by rw [hx] at hr; rcases hr with c | c <;> cases c
    exact .inr ⟨hl, hz, hlt, h2, h3, (becomeFollower_committed { r with raftLog := _ } _ _).trans e⟩

/-- `handle_append_entries` (raft.rs:2528): the commit index moves only when the append matched
(`maybe_append` returned `Some`), and then to `min(m.commit, m.index + |entries|)` -/
theorem handleAppendEntries_spec {r r' : Raft} {m : Message}
    (h : r.handleAppendEntries m = .ok r') :
    r'.raftLog.committed = r.raftLog.committed ∨
    (r.pendingRequestSnapshot = 0 ∧ r.raftLog.committed ≤ m.index ∧
      r.raftLog.matchTerm m.index m.logTerm = .ok true ∧
      r.raftLog.committed < r'.raftLog.committed ∧
      r'.raftLog.committed = min m.commit (m.index + m.entries.length)) := by
  cases handleAppendEntries_inv h with
  | waiting _ hs =>
    exact .inl (sendRequestSnapshot_cp (P := fun x => x = r.raftLog.committed) hs ⟨rfl⟩).h
  | stale _ _ hs => exact .inl (send_cp (P := fun x => x = r.raftLog.committed) hs ⟨rfl⟩).h
  | @accepted log ci last _ hp hi hm hs =>
    have e1 := (send_cp (P := fun x => x = log.committed) hs ⟨rfl⟩).h
    rcases RaftLog.c04_maybeAppend_spec hm with ⟨hn, _⟩ | ⟨ci', _, hmt, hc⟩
    · cases hn
    · by_cases hle : min m.commit (m.index + m.entries.length) ≤ r.raftLog.committed
      · left; rw [e1, hc]; exact Nat.max_eq_left hle
      · right
        have : log.committed = min m.commit (m.index + m.entries.length) := by
          rw [hc]; exact Nat.max_eq_right (by omega)
        exact ⟨hp, by omega, hmt, by rw [e1, this]; omega, by rw [e1, this]⟩
  | rejected _ _ hm _ hs =>
    rcases RaftLog.c04_maybeAppend_spec hm with ⟨_, rfl, _⟩ | ⟨ci', hn, _⟩
    · exact .inl (send_cp (P := fun x => x = r.raftLog.committed) hs ⟨rfl⟩).h
    · cases hn

/-- `handle_heartbeat` (raft.rs:2591): `commit_to(m.commit)`; it panics when `m.commit` is beyond
the log -/
theorem handleHeartbeat_spec {r r' : Raft} {m : Message} (h : r.handleHeartbeat m = .ok r') :
    r'.raftLog.committed = max r.raftLog.committed m.commit ∧
    (r.raftLog.committed < m.commit → m.commit ≤ r.raftLog.lastIndex) := by
  obtain ⟨log, hc, hs⟩ := handleHeartbeat_inv h
  have e1 : r'.raftLog.committed = log.committed := by
    rcases hs with ⟨_, hs⟩ | ⟨_, hs⟩
    · exact (sendRequestSnapshot_cp (P := fun x => x = log.committed) hs ⟨rfl⟩).h
    · exact (send_cp (P := fun x => x = log.committed) hs ⟨rfl⟩).h
  refine ⟨by rw [e1, RaftLog.c04_commitTo_committed hc], fun hlt => ?_⟩
  rcases RaftLog.c04_commitTo_spec hc with ⟨h1, _⟩ | ⟨_, h2, _⟩
  · omega
  · exact h2

/-- `Raft::restore` (raft.rs:2640), what it does to the commit index: nothing, or (on a follower,
for a snapshot not below the commit index) it moves it to the snapshot index — by the fast-forward
`commit_to` when the log already holds the snapshot's last entry (`match_term`; result `false`), or
by the full `RaftLog::restore` (result `true`) -/
theorem restore_spec {r r' : Raft} {snap : Snapshot} {b : Bool}
    (h : r.restore snap = .ok (r', b)) :
    (b = false ∧ r'.raftLog.committed = r.raftLog.committed) ∨
    (r.state = .follower ∧ r.raftLog.committed ≤ snap.metadata.index ∧
      r'.raftLog.committed = snap.metadata.index ∧
      (b = false → r.raftLog.matchTerm snap.metadata.index snap.metadata.term = .ok true ∧
        snap.metadata.index ≤ r.raftLog.lastIndex)) := by
  cases restore_inv h with
  | ignored => exact .inl ⟨rfl, rfl⟩
  | follow => exact .inl ⟨rfl, becomeFollower_committed _ _ _⟩
  | forward hf hge hft hc =>
    rename_i l
    by_cases hlt : r.raftLog.committed < snap.metadata.index
    · rcases RaftLog.c04_commitTo_spec hc with ⟨h1, _⟩ | ⟨_, h2, rfl⟩
      · omega
      · exact .inr ⟨hf, by omega, rfl, fun _ => ⟨hft.2, h2⟩⟩
    · refine .inl ⟨rfl, ?_⟩
      show l.committed = _
      rw [RaftLog.c04_commitTo_committed hc]
      exact Nat.max_eq_left (by omega)
  | full hf hge _ hl _ hpc =>
    obtain ⟨hc1, hc2⟩ := RaftLog.c04_restore_committed hl
    have e1 := postConfChange_nonleader_lp (Q := fun x => x.committed = snap.metadata.index)
      (by show r.state ≠ .leader; rw [hf]; simp) hpc hc1
    exact .inr ⟨hf, hc2, e1, fun hb => by cases hb⟩

theorem handleSnapshot_committed {r r' : Raft} {m : Message} (h : r.handleSnapshot m = .ok r') :
    ∃ r1 b, r.restore m.snapshot = .ok (r1, b) ∧ r'.raftLog.committed = r1.raftLog.committed := by
  obtain ⟨r1, b, hr, hs⟩ := handleSnapshot_inv h
  exact ⟨r1, b, hr, (send_cp (P := fun x => x = r1.raftLog.committed) hs ⟨rfl⟩).h⟩

/-! ### Where a leader's commit index can move inside `step` -/

theorem handleAppendResponseAccepted_commit {r r' : Raft} {m : Message} {pr : Progress} {op : Bool}
    (h : r.handleAppendResponseAccepted m pr op = .ok r') :
    ∃ pr1 r2 b, ({ r with prs := r.prs.set m.frm pr1 } : Raft).maybeCommit = .ok (r2, b) ∧
      r'.raftLog.committed = r2.raftLog.committed := by
  unfold Raft.handleAppendResponseAccepted at h
  obtain ⟨pr1, _, h⟩ := Res.bind_eq_ok h
  simp only at h
  obtain ⟨r3, h3, h⟩ := Res.bind_eq_ok h
  obtain ⟨r4, h4, h⟩ := Res.bind_eq_ok h
  -- after `maybe_commit` only messages are sent
  have tail : ∀ r2 : Raft, CP (· = r2.raftLog.committed) r3 →
      r'.raftLog.committed = r2.raftLog.committed := by
    intro r2 p3
    have p4 := sendAppendAggressively_cp h4 p3
    split at h
    · split at h
      · cases h
      · split at h
        · exact (send_cp h p4).h
        · cases h; exact p4.h
    · cases h; exact p4.h
  split at h3
  · rename_i r2 hm
    refine ⟨pr1, r2, true, hm, tail r2 ?_⟩
    split at h3
    · exact bcastAppend_cp h3 ⟨rfl⟩
    · cases h3; exact ⟨rfl⟩
  · rename_i r2 hm
    refine ⟨pr1, r2, false, hm, tail r2 ?_⟩
    split at h3
    · exact sendAppend_cp h3 ⟨rfl⟩
    · cases h3; exact ⟨rfl⟩
  · cases h3
  · cases h3

/-- `handle_append_response` (raft.rs:1676): the commit index moves only through `maybe_commit`,
evaluated after the sender's progress has been updated -/
theorem handleAppendResponse_commit {r r' : Raft} {m : Message}
    (h : r.handleAppendResponse m = .ok r') :
    r'.raftLog.committed = r.raftLog.committed ∨
    ∃ pr1 r2, ({ r with prs := r.prs.set m.frm pr1 } : Raft).maybeCommit = .ok (r2, true) ∧
      r'.raftLog.committed = r2.raftLog.committed := by
  -- a predicate of the commit index: `send_append` keeps it
  let T : Nat → Prop := fun c => c = r.raftLog.committed ∨
    ∃ pr1 r2, ({ r with prs := r.prs.set m.frm pr1 } : Raft).maybeCommit = .ok (r2, true) ∧
      c = r2.raftLog.committed
  show LP (fun l => T l.committed) r'
  refine handleAppendResponse_parts h (Or.inl rfl) (fun _ => Or.inl rfl)
    (sendAppend_lp (CP.keeps T)) fun ha => ?_
  obtain ⟨pr1, r2, b, hm, e⟩ := handleAppendResponseAccepted_commit ha
  cases b with
  | true => exact .inr ⟨pr1, r2, hm, e⟩
  | false =>
    obtain ⟨_, _, _, hh | hh⟩ := maybeCommit_spec hm
    · cases hh.1
    · exact .inl (by rw [e, hh.2])

theorem stepLeader_commit {r r' : Raft} {m : Message} {e : Option RaftError}
    (h : r.stepLeader m = .ok (r', e)) :
    r'.raftLog.committed = r.raftLog.committed ∨
    (m.msgType = .msgAppendResponse ∧
      ∃ pr1 r2, ({ r with prs := r.prs.set m.frm pr1 } : Raft).maybeCommit = .ok (r2, true) ∧
        r'.raftLog.committed = r2.raftLog.committed) := by
  -- a predicate of the commit index: every arm but `MsgAppendResponse` is built from functions
  -- that never commit
  let T : Nat → Prop := fun c => c = r.raftLog.committed ∨
    (m.msgType = .msgAppendResponse ∧
      ∃ pr1 r2, ({ r with prs := r.prs.set m.frm pr1 } : Raft).maybeCommit = .ok (r2, true) ∧
        c = r2.raftLog.committed)
  have K := CP.keeps T
  have h0 : LP (fun l => T l.committed) r := Or.inl rfl
  show LP (fun l => T l.committed) r'
  refine stepLeader_parts h h0 (fun hb _ => bcastHeartbeat_lp hb h0)
    (fun hq _ => checkQuorumActive_lp hq h0) (fun _ => becomeFollower_lp K)
    (fun hf _ => filterProposal_lp _ _ _ _ _ hf h0) (fun ha _ => appendEntry_lp K ha)
    (fun hb _ => bcastAppend_lp K hb) (fun hr _ => handleReadyReadIndex_lp hr h0)
    (fun hs _ => send_lp hs) (fun _ _ => h0) (fun hb _ => bcastHeartbeatWithCtx_lp hb)
    (fun ha ty => ?_) (fun hh _ => handleHeartbeatResponse_lp K hh h0)
    (fun _ => handleSnapshotStatus_lp h0) (fun _ => handleUnreachable_lp h0)
    (fun ht _ => handleTransferLeader_lp K ht h0)
  exact (handleAppendResponse_commit ha).imp_right fun c => ⟨ty, c⟩

/-! ### The leader's own progress: who writes `matched` -/

theorem c04_lookup_modify_self {α : Type} (k : Nat) (f : α → α) (m : List (Nat × α)) :
    (NatMap.modify k f m).lookup k = (m.lookup k).map f :=
  NatMap.lookup_modify_self k f m

theorem c04_lookup_modify_ne {α : Type} (k j : Nat) (hj : j ≠ k) (f : α → α)
    (m : List (Nat × α)) : (NatMap.modify k f m).lookup j = m.lookup j :=
  NatMap.lookup_modify_ne k j hj f m

theorem c04_get_set_self (t : ProgressTracker) (id : Nat) (p q : Progress) (h : t.get id = some q) :
    (t.set id p).get id = some p :=
  t.get_set_self id p q h

theorem c04_get_set_ne (t : ProgressTracker) (id j : Nat) (p : Progress) (h : j ≠ id) :
    (t.set id p).get j = t.get j :=
  t.get_set_ne id j p h

/-- the leader's own progress entry -/
def selfProgress (r : Raft) : Option Progress := r.prs.get r.id

/-- `bcast_append` (raft.rs:904) skips the leader itself: its id and its own progress entry are
untouched -/
theorem bcastAppend_self {r r' : Raft} (h : r.bcastAppend = .ok r') :
    r'.id = r.id ∧ selfProgress r' = selfProgress r := by
  refine bcastAppend_parts2 (P := fun x => x.id = r.id ∧ selfProgress x = selfProgress r)
    (Q := fun x id _ => id ≠ x.id ∧ x.id = r.id ∧ selfProgress x = selfProgress r) h ⟨rfl, rfl⟩
    ?_ ?_
  · -- sending touches neither the id nor the tracker
    intro r1 id pr r2 pr2 hne _ hs ⟨i0, s0⟩
    have i2 : r2.id = r1.id := (sendAppendPr_frame hs Frame.rfl).id
    have p2 : r2.prs = r1.prs := (sendAppendPr_rel _ _ _ _ _ hs).1
    refine ⟨by rw [i2]; exact hne, i2.trans i0, ?_⟩
    show r2.prs.get r2.id = _
    rw [p2, i2]; exact s0
  · intro r1 id pr' ⟨hne, i0, s0⟩
    refine ⟨i0, ?_⟩
    show (r1.prs.set id pr').get r1.id = _
    rw [c04_get_set_ne _ _ _ _ (fun e => hne e.symm)]; exact s0

/-- `maybe_commit` only records the new commit index in the leader's own `committed_index` -/
theorem maybeCommit_self {r r' : Raft} {b : Bool} (h : r.maybeCommit = .ok (r', b)) :
    r'.id = r.id ∧ (selfProgress r').map (·.matched) = (selfProgress r).map (·.matched) := by
  obtain ⟨mci, gc, _, hh | hh⟩ := maybeCommit_spec h
  · obtain ⟨_, _, _, _, rfl⟩ := hh
    refine ⟨rfl, ?_⟩
    simp only [selfProgress, Raft.modifyProgress, ProgressTracker.get]
    rw [c04_lookup_modify_self]
    cases r.prs.progress.lookup r.id with
    | none => rfl
    | some pr =>
      simp only [Option.map_some, Progress.updateCommitted]
      split <;> rfl
  · obtain ⟨_, rfl⟩ := hh; exact ⟨rfl, rfl⟩

end Raft
end RaftModel
