import RaftProofs.ProtoL
import RaftProofs.ProtoVol

/-!
`InvL` is preserved by every event of P (given the vote-layer invariant of the pre-state), hence
holds in every reachable state.  `win` and `leaderAppend` change the ghost logs and have a lemma each;
for every other event (`invL_plain`) the clauses are proved one by one: what a step does to a node's log
(`vol_step`), where images, acknowledgements and grants come from (`stages_step`, `held_step`,
`outbox_step`, `released_step`), what is sent (`net_frame`).
-/
namespace RaftModel.P

/-- election safety at the vote layer: two nodes in the leader role with the same term are equal -/
theorem leader_unique (v : VSys) (hV : InvV v)
    (i j : Nat) (hi : (v.nodes i).role = 2) (hj : (v.nodes j).role = 2)
    (ht : (v.nodes j).term = (v.nodes i).term) : j = i := by
  have l1 := (hV.ld j hj).1
  have l2 := (hV.ld i hi).1
  rw [ht] at l1
  exact hV.eu _ l1 _ l2 rfl

/-- nobody was elected before for the term a candidate wins: an earlier election of that term was
decided under a configuration whose quorums meet the winner's (guard of `win`), the common voter
voted once, so the earlier winner is this candidate — which has not been elected yet -/
theorem win_fresh_elected {s s' : PSys} {i : Nat} {cfg : Cfg} {q : List Nat} (hV : InvV (vsys s)) (hL : InvL s)
    (h : applyEvent s (.win i cfg q) = .ok s') : ∀ j, ((s.nodes i).term, j) ∉ s.elected := by
  obtain ⟨hrole, hq, hall, _, _, _, hadj, _⟩ := win_guard h
  intro j hj
  obtain ⟨_, cj, qj, hcj, hqj, hgj⟩ := hV.el _ hj
  obtain ⟨v, hv1, hv2⟩ :=
    adj_intersect cfg cj (hadj ((s.nodes i).term, cj) hcj rfl) q qj hq hqj
  have g1 := hall v hv1
  have g2 := hgj v hv2
  have : i = j := hV.gc v ⟨_, v, i⟩ ⟨_, v, j⟩ (Or.inr ⟨g1, rfl⟩) (Or.inr ⟨g2, rfl⟩) rfl
  subst this
  exact hL.cand i hrole hj

/-- The clauses of `InvL` about lists and messages, for every event, given what the event does to the
ghost logs (`hext`, `hels`, `hg1`, `hg2`) and to the volatile logs (`hlog`): every list is
prefix-from-leader, released appends are slices, logs of pending and durable images and of snapshots are
bounded by their terms. -/
theorem invL_lists (s s' : PSys) (e : Event) (h : applyEvent s e = .ok s') (hV : InvV (vsys s)) (hI : InvL s)
    (hext : ∀ t, ∃ r, s'.llog t = s.llog t ++ r) (hels : ∀ p ∈ s.elected, p ∈ s'.elected)
    (hg1 : ∀ t, PFL s'.llog (s'.llog t)) (hg2 : ∀ t, PFL s'.llog (s'.elog t))
    (hlog : ∀ j, PFL s'.llog (s'.nodes j).log) :
    (∀ l, listsOf s' l → PFL s'.llog l) ∧ (∀ m ∈ s'.apps, MsgOk s' m) ∧
    (∀ j, (∀ x ∈ (s'.nodes j).dlog, x.term ≤ (s'.nodes j).dterm) ∧
      ∀ im ∈ (s'.nodes j).pending, ∀ x ∈ im.log, x.term ≤ im.term) ∧
    (∀ m ∈ s'.snaps, ∀ x ∈ m.pre, x.term ≤ m.term) := by
  have mono : ∀ {l}, PFL s.llog l → PFL s'.llog l := fun hl => PFL_mono hext hl
  -- the logs of pending and durable images
  obtain ⟨hpend, hdur⟩ := stages_step (Q := fun _ im => PFL s.llog im.log ∧ ∀ x ∈ im.log, x.term ≤ im.term) h
    (fun j => ⟨keep_log s hI j, (hI.tle j).1⟩)
    (fun j im him => ⟨keep_node s hI j _ (Or.inr (Or.inr (Or.inl ⟨im, him, Or.inl rfl⟩))), (hI.tle j).2.2 im him⟩)
    (fun j => ⟨keep_dlog s hI j, (hI.tle j).2.1⟩) (by
      rintro i d idx rfl
      obtain ⟨_, _, _, _, _, rfl⟩ := bootstrap_ok h
      simp only [upd_same, dimage]
      exact ⟨PFL_take (keep_dlog s hI d) _, fun x hx => (hI.tle d).2.1 x (List.mem_of_mem_take hx)⟩)
  -- the lists carried by acknowledgements and grants
  have hacks : ∀ j t f idx pre, nodeAcks (s'.nodes j) (.ack t f idx pre) → PFL s'.llog pre := by
    intro j t f idx pre ha
    rcases held_step h j _ ha with ho | hg
    · exact mono (pfl_ack hI ho)
    · cases hg <;> exact PFL_take (hlog j) _
  have hgrants : ∀ j t v c gh, OMsg.grant t v c gh ∈ (s'.nodes j).outbox → PFL s'.llog gh.vlog := by
    intro j t v c gh hg
    rcases outbox_step h j with ⟨hs, _⟩ | ⟨_, hs, _⟩
    · rcases hs _ hg with ho | hg
      · exact mono (pfl_grant hI ho)
      · cases hg <;> exact mono (keep_log s hI j)
    · cases (hs _ hg).1
  -- what is sent
  have hnet : (∀ m ∈ s'.apps, m ∈ s.apps ∨ MsgOk s m) ∧
      (∀ m ∈ s'.snaps, m ∈ s.snaps ∨ (PFL s.llog m.pre ∧ ∀ x ∈ m.pre, x.term ≤ m.term)) := by
    rcases net_frame h with ⟨i, m, rfl, rfl⟩ | ⟨i, to, c, rfl, rfl⟩ | ⟨i, idx, rfl, rfl⟩ | ⟨i, idx, rfl, rfl⟩ |
      ⟨e1, _, _, e4⟩
    · obtain ⟨⟨_, hrole, hmt, _, hprev, hpt, hes, _⟩, _⟩ := of_guard_ok h
      refine ⟨fun m' hm' => ?_, fun m hm => Or.inl hm⟩
      rcases List.mem_cons.1 hm' with rfl | hm'
      · have hlen : m'.es.length ≤ (s.nodes i).log.length - m'.prev := by
          have := congrArg List.length hes
          rw [List.length_take, List.length_drop] at this
          omega
        rw [hI.ll i hrole] at hlen hprev hpt hes
        exact Or.inr ⟨⟨i, hmt ▸ (hV.ld i hrole).1⟩, hmt ▸ by omega, hmt ▸ hes, hmt ▸ hpt⟩
      · exact Or.inl hm'
    · exact ⟨fun m hm => Or.inl hm, fun m hm => Or.inl hm⟩
    · exact ⟨fun m hm => Or.inl hm, fun m hm => Or.inl hm⟩
    · refine ⟨fun m hm => Or.inl hm, fun m' hm' => ?_⟩
      rcases List.mem_cons.1 hm' with rfl | hm'
      · exact Or.inr ⟨PFL_take (keep_log s hI i) _, fun x hx => (hI.tle i).1 x (List.mem_of_mem_take hx)⟩
      · exact Or.inl hm'
    · rw [e1, e4]; exact ⟨fun m hm => Or.inl hm, fun m hm => Or.inl hm⟩
  refine ⟨fun l hl => ?_, fun m hm => ((hnet.1 m hm).elim (hI.msg m) id).ext hext hels,
    fun j => ⟨(hdur j).2, fun im him => (hpend j im him).2⟩, fun m hm => (hnet.2 m hm).elim (hI.stle m) fun h => h.2⟩
  rcases hl with ⟨j, hn⟩ | ⟨a, ha, rfl⟩ | ⟨m, hm, rfl⟩ | ⟨t, rfl⟩ | ⟨p, hp, rfl⟩ | ⟨t, rfl⟩
  · rcases hn with rfl | rfl | ⟨im, him, rfl | ⟨t, f, idx, ha⟩⟩ | ⟨t, f, idx, ha⟩ | ⟨t, f, idx, ha⟩ |
      ⟨t, v, c, gh, hg, rfl⟩
    · exact hlog j
    · exact mono (hdur j).1
    · exact mono (hpend j im him).1
    · exact hacks j t f idx l (Or.inr (Or.inl ⟨im, him, ha⟩))
    · exact hacks j t f idx l (Or.inl ha)
    · exact hacks j t f idx l (Or.inr (Or.inr ha))
    · exact hgrants j t v c gh hg
  · rcases released_step h (.ack a.term a.frm a.idx a.pre) ha with hr | ⟨i, _, ⟨ho, _⟩ | ⟨_, hd⟩⟩
    · exact mono (hI.pfl _ (listsOf_acks s a hr))
    · exact mono (pfl_ack hI (Or.inl ho))
    · exact mono (pfl_ack hI (Or.inr (Or.inr hd)))
  · exact mono ((hnet.2 m hm).elim (fun hm => hI.pfl _ (listsOf_snap s m hm)) fun h => h.1)
  · exact hg1 t
  · rcases released_step h (.grant p.1.term p.1.voter p.1.cand p.2) hp with hr | ⟨i, _, ⟨ho, _⟩ | ⟨hk, _⟩⟩
    · exact mono (hI.pfl _ (Or.inr (Or.inr (Or.inr (Or.inr (Or.inl ⟨p, hr, rfl⟩))))))
    · exact mono (pfl_grant hI ho)
    · cases hk
  · exact hg2 t

/-- `win`: the ghost log of the new term is the winner's log -/
theorem invL_win (s s' : PSys) (i : Nat) (cfg : Cfg) (q : List Nat) (h : applyEvent s (.win i cfg q) = .ok s')
    (hV : InvV (vsys s)) (hI : InvL s) : InvL s' := by
  have hfresh := win_fresh_elected hV hI h
  obtain ⟨hrole, _, _, _, rfl, _⟩ := win_guard h
  have hempty : s.llog (s.nodes i).term = [] := hI.nole _ hfresh
  have hext : ∀ t, ∃ r, updT s.llog (s.nodes i).term (s.nodes i).log t = s.llog t ++ r := by
    intro t
    by_cases ht : t = (s.nodes i).term
    · subst ht; exact ⟨(s.nodes i).log, by simp [updT, hempty]⟩
    · exact ⟨[], by simp [updT, ht]⟩
  have hmono : ∀ l, PFL s.llog l → PFL (updT s.llog (s.nodes i).term (s.nodes i).log) l :=
    fun l hl => PFL_mono hext hl
  have hplog := keep_log s hI i
  have hghost : ∀ (f : Nat → List LEntry), (∀ t, PFL s.llog (f t)) → ∀ t,
      PFL (updT s.llog (s.nodes i).term (s.nodes i).log) (updT f (s.nodes i).term (s.nodes i).log t) := by
    intro f hf t
    by_cases ht : t = (s.nodes i).term
    · subst ht; simp only [updT, if_true]; exact hmono _ hplog
    · simp only [updT, ht, if_false]; exact hmono _ (hf t)
  obtain ⟨hpfl, hmsg, himg, hstle⟩ := invL_lists s _ _ h hV hI hext (fun p hp => List.mem_cons_of_mem _ hp)
    (hghost s.llog fun t => hI.pfl _ (listsOf_llog s t))
    (hghost s.elog fun t => hI.pfl _ (Or.inr (Or.inr (Or.inr (Or.inr (Or.inr ⟨t, rfl⟩))))))
    (fun j => by
      by_cases hji : j = i
      · subst hji; simp only [upd_same]; exact hmono _ (keep_log s hI j)
      · simp only [upd_other _ _ _ _ hji]; exact hmono _ (keep_log s hI j))
  refine ⟨hpfl, hmsg, ?_, ?_, ?_, fun j => ⟨?_, himg j⟩, hstle, ?_, ?_⟩
  · intro t e he
    by_cases ht : t = (s.nodes i).term
    · subst ht; simp only [updT, if_true] at he
      exact ⟨pfl_term_pos hI hplog he, (hI.tle i).1 e he⟩
    · simp only [updT, ht, if_false] at he; exact hI.lterm t e he
  · intro t ht
    by_cases hte : t = (s.nodes i).term
    · subst hte; exact absurd List.mem_cons_self (ht i)
    · simp only [updT, hte, if_false]
      exact hI.nole t (fun j hj => ht j (List.mem_cons_of_mem _ hj))
  · intro j hr
    by_cases hji : j = i
    · subst hji; simp [upd, updT]
    · simp only [upd, hji, if_false] at hr ⊢
      have hne' : (s.nodes j).term ≠ (s.nodes i).term := by
        intro he
        have := (hV.ld j (by simpa [vsys, vproj] using hr)).1
        simp only [vsys, vproj] at this
        rw [he] at this
        exact hfresh j this
      simp only [updT, hne', if_false]
      exact hI.ll j hr
  · by_cases hji : j = i
    · subst hji; simp only [upd_same]; exact (hI.tle j).1
    · simp only [upd_other _ _ _ _ hji]; exact (hI.tle j).1
  · intro j hr
    by_cases hji : j = i
    · subst hji; simp [upd] at hr
    · simp only [upd, hji, if_false] at hr ⊢
      intro hmem
      simp only [List.mem_cons, Prod.mk.injEq] at hmem
      rcases hmem with ⟨_, h2⟩ | hmem
      · exact hji h2
      · exact hI.cand j hr hmem
  · intro j hr
    by_cases hji : j = i
    · subst hji; simp only [upd, if_true] at hr ⊢; exact hI.pos j (by rw [hrole]; decide)
    · simp only [upd, hji, if_false] at hr ⊢; exact hI.pos j hr

/-- `leaderAppend`: the leader's log and the ghost log of its term grow by the same entry -/
theorem invL_lappend (s s' : PSys) (i : Nat) (e : LEntry) (h : applyEvent s (.leaderAppend i e) = .ok s')
    (hV : InvV (vsys s)) (hI : InvL s) : InvL s' := by
  obtain ⟨⟨_, hrole, het⟩, rfl⟩ := of_guard_ok h
  have hll := hI.ll i hrole
  have hext : ∀ t, ∃ r, updT s.llog (s.nodes i).term ((s.nodes i).log ++ [e]) t = s.llog t ++ r := by
    intro t
    by_cases ht : t = (s.nodes i).term
    · subst ht; exact ⟨[e], by simp [updT, hll]⟩
    · exact ⟨[], by simp [updT, ht]⟩
  have hmono : ∀ l, PFL s.llog l → PFL (updT s.llog (s.nodes i).term ((s.nodes i).log ++ [e])) l :=
    fun l hl => PFL_mono hext hl
  have hplog := keep_log s hI i
  have hnew : PFL (updT s.llog (s.nodes i).term ((s.nodes i).log ++ [e])) ((s.nodes i).log ++ [e]) := by
    apply PFL_snoc (hmono _ hplog)
    rw [het]; simp only [updT, if_true]
    exact List.take_of_length_le (by simp)
  have hpos : 0 < (s.nodes i).term := hI.pos i (by rw [hrole]; decide)
  obtain ⟨hpfl, hmsg, himg, hstle⟩ := invL_lists s _ _ h hV hI hext (fun p hp => hp)
    (fun t => by
      by_cases ht : t = (s.nodes i).term
      · subst ht; simp only [updT, if_true]; exact hnew
      · simp only [updT, ht, if_false]; exact hmono _ (hI.pfl _ (listsOf_llog s t)))
    (fun t => hmono _ (hI.pfl _ (Or.inr (Or.inr (Or.inr (Or.inr (Or.inr ⟨t, rfl⟩)))))))
    (fun j => by
      by_cases hji : j = i
      · subst hji; simp only [upd_same]; exact hnew
      · simp only [upd_other _ _ _ _ hji]; exact hmono _ (keep_log s hI j))
  refine ⟨hpfl, hmsg, ?_, ?_, ?_, fun j => ⟨?_, himg j⟩, hstle, ?_, ?_⟩
  · intro t x hx
    by_cases ht : t = (s.nodes i).term
    · subst ht; simp only [updT, if_true, List.mem_append, List.mem_singleton] at hx
      rcases hx with hx | hx
      · exact ⟨pfl_term_pos hI hplog hx, (hI.tle i).1 x hx⟩
      · subst hx; omega
    · simp only [updT, ht, if_false] at hx; exact hI.lterm t x hx
  · intro t ht
    by_cases hte : t = (s.nodes i).term
    · subst hte
      have := (hV.ld i (by simpa [vsys, vproj] using hrole)).1
      exact absurd (by simpa [vsys, vproj] using this) (ht i)
    · simp only [updT, hte, if_false]; exact hI.nole t ht
  · intro j hr
    by_cases hji : j = i
    · subst hji; simp [upd, updT]
    · simp only [upd, hji, if_false] at hr ⊢
      have hne' : (s.nodes j).term ≠ (s.nodes i).term := by
        intro he
        exact hji (leader_unique (vsys s) hV i j (by simpa [vsys, vproj] using hrole)
          (by simpa [vsys, vproj] using hr) (by simpa [vsys, vproj] using he))
      simp only [updT, hne', if_false]
      exact hI.ll j hr
  · by_cases hji : j = i
    · subst hji; simp only [upd_same]
      intro x hx
      rcases List.mem_append.1 hx with hx | hx
      · exact (hI.tle j).1 x hx
      · rw [List.mem_singleton.1 hx, het]; exact Nat.le_refl _
    · simp only [upd_other _ _ _ _ hji]; exact (hI.tle j).1
  · intro j hr
    by_cases hji : j = i
    · subst hji; simp [upd, hrole] at hr
    · simp only [upd, hji, if_false] at hr ⊢; exact hI.cand j hr
  · intro j hr
    by_cases hji : j = i
    · subst hji; simp only [upd, if_true] at hr ⊢; exact hpos
    · simp only [upd, hji, if_false] at hr ⊢; exact hI.pos j hr

/-- every event but `win` and `leaderAppend` -/
theorem invL_plain (s s' : PSys) (e : Event) (h : applyEvent s e = .ok s') (hV : InvV (vsys s)) (hI : InvL s)
    (hnw : ∀ i cfg q, e ≠ .win i cfg q) (hna : ∀ i x, e ≠ .leaderAppend i x)
    (hel : s'.elected = s.elected) (helog : s'.elog = s.elog) (hll : s'.llog = s.llog) : InvL s' := by
  -- the volatile log, and the clauses about roles
  have hnode : ∀ j, PFL s.llog (s'.nodes j).log ∧ (∀ x ∈ (s'.nodes j).log, x.term ≤ (s'.nodes j).term) ∧
      ((s'.nodes j).role = 2 → (s'.nodes j).log = s.llog (s'.nodes j).term) ∧
      ((s'.nodes j).role = 1 → ((s'.nodes j).term, j) ∉ s.elected) ∧
      ((s'.nodes j).role ≠ 0 → 0 < (s'.nodes j).term) := by
    intro j
    -- a follower meets the clauses about leaders and candidates
    have h0 : ∀ (r : Nat), r = 0 → ∀ (l : List LEntry) (t : Nat),
        (r = 2 → l = s.llog t) ∧ (r = 1 → (t, j) ∉ s.elected) ∧ (r ≠ 0 → 0 < t) := by
      intro r hr l t
      subst hr
      exact ⟨fun h2 => (by cases h2), fun h1 => (by cases h1), fun hn => absurd rfl hn⟩
    cases vol_step h j with
    | keep ht hr hl =>
      rw [hl, ht, hr]; exact ⟨keep_log s hI j, (hI.tle j).1, hI.ll j, hI.cand j, hI.pos j⟩
    | role0 hr' ht hl => exact ⟨hl ▸ keep_log s hI j, hl ▸ ht ▸ (hI.tle j).1, h0 _ hr' _ _⟩
    | bump ht hr' hl =>
      exact ⟨hl ▸ keep_log s hI j, hl ▸ fun x hx => Nat.le_trans ((hI.tle j).1 x hx) (Nat.le_of_lt ht), h0 _ hr' _ _⟩
    | restart _ hr' ht hl => exact ⟨hl ▸ keep_dlog s hI j, hl ▸ ht ▸ (hI.tle j).2.1, h0 _ hr' _ _⟩
    | win cfg q he => exact absurd he (hnw j cfg q)
    | append x he => exact absurd he (hna j x)
    | cand he _ hr' ht hl =>
      subst he
      obtain ⟨hg, _⟩ := of_guard_ok h
      refine ⟨hl ▸ keep_log s hI j, hl ▸ ht ▸ (hI.tle j).1, fun h2 => ?_, fun _ hmem => ?_,
        fun _ => ht ▸ hg.2.2.2.2⟩
      · rw [hr'] at h2; cases h2
      -- an elected node has released its self-grant, so it has voted in this term
      · rw [ht] at hmem
        have := (hV.gu j _ (Or.inr ⟨(hV.el _ hmem).1, rfl⟩)).2.2 rfl
        simp only [vsys, vproj] at this
        have := hg.2.1; have := hg.2.2.2.1; omega
    | merge m he hr' ht =>
      subst he
      obtain ⟨⟨_, hm, hmt, _, hprev, hpt, _⟩, rfl⟩ := of_guard_ok h
      simp only [upd_same]
      obtain ⟨_, _, hspec⟩ := recvApp_sem hI (List.contains_iff_mem.1 hm) hprev hpt
      refine ⟨?_, fun x hx => ?_, h0 _ rfl _ _⟩ <;> rcases hspec with ⟨h1, _⟩ | h1
      · rw [h1]; exact keep_log s hI j
      · rw [h1]; exact PFL_take (hI.pfl _ (listsOf_llog s m.term)) _
      · rw [h1] at hx; exact (hI.tle j).1 x hx
      · rw [h1] at hx; exact hmt ▸ (hI.lterm m.term x (List.mem_of_mem_take hx)).2
    | install t idx st he hr' ht =>
      subst he
      obtain ⟨m, hmem, _, hg, rfl⟩ := installSnap_ok h
      simp only [upd_same]
      exact ⟨hI.pfl _ (listsOf_snap s m hmem), fun x hx => hg.2.1 ▸ hI.stle m hmem x hx, h0 _ rfl _ _⟩
    | boot d idx he hf hr' =>
      subst he
      obtain ⟨_, _, _, _, _, rfl⟩ := bootstrap_ok h
      simp only [upd_same] at hr' ⊢
      exact ⟨PFL_take (keep_dlog s hI d) _, fun x hx => (hI.tle d).2.1 x (List.mem_of_mem_take hx), h0 _ hr' _ _⟩
  obtain ⟨hpfl, hmsg, himg, hstle⟩ := invL_lists s s' e h hV hI (fun t => ⟨[], by rw [hll, List.append_nil]⟩)
    (fun p hp => hel ▸ hp) (fun t => by rw [hll]; exact hI.pfl _ (listsOf_llog s t))
    (fun t => by rw [hll, helog]; exact hI.pfl _ (Or.inr (Or.inr (Or.inr (Or.inr (Or.inr ⟨t, rfl⟩))))))
    (fun j => hll ▸ (hnode j).1)
  exact ⟨hpfl, hmsg, hll ▸ hI.lterm, hll ▸ hel ▸ hI.nole, fun j hr => hll ▸ (hnode j).2.2.1 hr,
    fun j => ⟨(hnode j).2.1, himg j⟩, hstle, fun j hr => hel ▸ (hnode j).2.2.2.1 hr, fun j hr => (hnode j).2.2.2.2 hr⟩

theorem invL_step (s s' : PSys) (e : Event)
    (hV : InvV (vsys s)) (hI : InvL s) (h : applyEvent s e = .ok s') : InvL s' := by
  rcases election_cases h with ⟨i, cfg, q, rfl⟩ | ⟨i, x, rfl⟩ | ⟨hnw, hna, hel, helog, _, hll⟩
  · exact invL_win s s' i cfg q h hV hI
  · exact invL_lappend s s' i x h hV hI
  · exact invL_plain s s' e h hV hI hnw hna hel helog hll

/-- **InvL holds in every reachable state** of P -/
theorem invL_reachR (s : PSys) (h : Reach s) : InvL s := by
  induction h with
  | init => exact invL_init
  | step e hr hs ih => exact invL_step _ _ e (invV_reachR _ hr) ih hs

theorem invL_reach (c0 : Cfg) (_hne : c0.incoming ≠ [] ∨ c0.outgoing ≠ []) (s : PSys) (h : ReachC c0 s) :
    InvL s := invL_reachR s (reach_of_reachC h)

end RaftModel.P
