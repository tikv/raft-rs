import RaftProofs.Contig

/-!
Helper lemmas for C19 (`MemStorage` honours the `Storage` contract): selection by log index is
selection by position on a contiguous list, `limit_size`, and the per-operation refinement lemmas,
each the positional fact of `RaftProofs/Contig.lean` said through `abs`.  Core Lean only.
-/
namespace RaftModel

/-! ### selecting by log index is selecting by position -/

/-- selecting by index below `m` is taking a prefix by position -/
theorem ContigFrom.filter_lt {n : Nat} {l : List Entry} (h : ContigFrom n l) (m : Nat) :
    l.filter (fun e => decide (e.index < m)) = l.take (m - n) := by
  induction l generalizing n with
  | nil => simp
  | cons e es ih =>
    have he := h.head
    by_cases hm : e.index < m
    · have : m - n = (m - (n + 1)) + 1 := by omega
      rw [List.filter_cons_of_pos (by simpa using hm), this, List.take_succ_cons, ih h.tail]
    · have h0 : m - n = 0 := by omega
      rw [List.filter_cons_of_neg (by simpa using hm), h0, List.take_zero]
      rw [List.filter_eq_nil_iff]
      intro a ha
      have := h.tail.mem ha
      simp; omega

/-- selecting by index from `m` on is dropping a prefix by position -/
theorem ContigFrom.filter_ge {n : Nat} {l : List Entry} (h : ContigFrom n l) (m : Nat) :
    l.filter (fun e => decide (m ≤ e.index)) = l.drop (m - n) := by
  induction l generalizing n with
  | nil => simp
  | cons e es ih =>
    have he := h.head
    by_cases hm : m ≤ e.index
    · have h0 : m - n = 0 := by omega
      rw [h0, List.drop_zero, List.filter_eq_self]
      intro a ha
      rcases List.mem_cons.1 ha with rfl | ha
      · simpa using hm
      · have := h.tail.mem ha
        simp; omega
    · have : m - n = (m - (n + 1)) + 1 := by omega
      rw [List.filter_cons_of_neg (by simpa using hm), this, List.drop_succ_cons, ih h.tail]

theorem filter_and_eq {α} (p q : α → Bool) (l : List α) :
    l.filter (fun a => p a && q a) = (l.filter p).filter q := by
  rw [List.filter_filter]
  congr 1; funext a; exact Bool.and_comm _ _

/-- selecting the indexes in `[low, high)` is a position slice -/
theorem ContigFrom.filter_range {n : Nat} {l : List Entry} (h : ContigFrom n l) (low high : Nat)
    (hl : n ≤ low) :
    l.filter (fun e => decide (low ≤ e.index) && decide (e.index < high)) =
      (l.drop (low - n)).take (high - low) := by
  refine Eq.trans (filter_and_eq (fun e : Entry => decide (low ≤ e.index))
    (fun e => decide (e.index < high)) l) ?_
  rw [h.filter_ge]
  have h2 := h.drop (low - n)
  rw [h2.filter_lt]
  congr 1; omega

theorem ContigFrom.find? {n : Nat} {l : List Entry} (h : ContigFrom n l) (idx : Nat)
    (hn : n ≤ idx) : l.find? (fun e => e.index == idx) = l[idx - n]? := by
  induction l generalizing n with
  | nil => simp
  | cons e es ih =>
    have he0 := h.head
    by_cases he : e.index = idx
    · have h0 : idx - n = 0 := by omega
      rw [List.find?_cons_of_pos (by simpa using he), h0]; rfl
    · have : idx - n = (idx - (n + 1)) + 1 := by omega
      rw [List.find?_cons_of_neg (by simpa using he), this, List.getElem?_cons_succ]
      exact ih h.tail (by omega)

theorem ContigFrom.find?_lt {n : Nat} {l : List Entry} (h : ContigFrom n l) (idx : Nat)
    (hn : idx < n) : l.find? (fun e => e.index == idx) = none := by
  rw [List.find?_eq_none]
  intro a ha
  have := h.mem ha
  simp; omega

/-! ### `limit_size` -/

@[simp] theorem totalSize_nil : totalSize [] = 0 := rfl
@[simp] theorem totalSize_cons (e : Entry) (l : List Entry) :
    totalSize (e :: l) = e.computeSize + totalSize l := by simp [totalSize]
theorem totalSize_append (a b : List Entry) : totalSize (a ++ b) = totalSize a + totalSize b := by
  simp [totalSize, List.sum_append]

theorem computeSize_pos (e : Entry) (h : e.index ≠ 0) : 0 < e.computeSize := by
  unfold Entry.computeSize
  rw [if_pos h]
  omega

theorem totalSize_eq_zero (l : List Entry) (hp : ∀ e ∈ l, 0 < e.computeSize)
    (h0 : totalSize l = 0) : l = [] := by
  cases l with
  | nil => rfl
  | cons e es =>
    have := hp e (List.mem_cons_self)
    rw [totalSize_cons] at h0
    omega

theorem limitCount_le (max size : Nat) (l : List Entry) : limitCount max size l ≤ l.length := by
  induction l generalizing size with
  | nil => simp [limitCount]
  | cons e es ih =>
    simp only [limitCount, List.length_cons]
    split
    · have := ih (size + e.computeSize); omega
    · split
      · have := ih (size + e.computeSize); omega
      · omega

theorem limitCount_pos (max : Nat) (e : Entry) (es : List Entry) :
    1 ≤ limitCount max 0 (e :: es) := by
  simp only [limitCount, if_true]; omega

/-- everything `limit_size`'s `take_while` accepts stays within `max`, unless all that precedes the
last accepted entry (accumulator included) has size 0 -/
theorem limitCount_within (max size : Nat) (l : List Entry) :
    size + totalSize (l.take (limitCount max size l)) ≤ max ∨
    size + totalSize ((l.take (limitCount max size l)).dropLast) = 0 ∨
    limitCount max size l = 0 := by
  induction l generalizing size with
  | nil => right; right; rfl
  | cons e es ih =>
    simp only [limitCount]
    by_cases h0 : size = 0
    · simp only [h0, if_true]
      rcases ih (0 + e.computeSize) with h | h | h
      · left
        rw [Nat.add_comm 1, List.take_succ_cons, totalSize_cons]; omega
      · right; left
        rw [Nat.add_comm 1, List.take_succ_cons]
        cases hk : limitCount max (0 + e.computeSize) es with
        | zero => simp
        | succ k =>
          rw [hk] at h
          cases es with
          | nil => simp [limitCount] at hk
          | cons e' es' =>
            rw [List.take_succ_cons] at h ⊢
            rw [List.dropLast_cons_cons, totalSize_cons]
            omega
      · right; left
        rw [h]; simp
    · simp only [h0, if_false]
      by_cases hle : size + e.computeSize ≤ max
      · simp only [hle, if_true]
        rcases ih (size + e.computeSize) with h | h | h
        · left
          rw [Nat.add_comm 1, List.take_succ_cons, totalSize_cons]; omega
        · omega
        · left
          rw [h]; simp; omega
      · simp only [hle, if_false]
        right; right; trivial

/-- the entry after the accepted prefix would exceed `max` (and the accepted part is not size 0) -/
theorem limitCount_maximal (max size : Nat) (l : List Entry)
    (hk : limitCount max size l < l.length) :
    size + totalSize (l.take (limitCount max size l)) ≠ 0 ∧
    max < size + totalSize (l.take (limitCount max size l)) +
      (l[limitCount max size l]'hk).computeSize := by
  induction l generalizing size with
  | nil => simp at hk
  | cons e es ih =>
    simp only [limitCount] at hk ⊢
    by_cases h0 : size = 0
    · simp only [h0, if_true] at hk ⊢
      have hk' : limitCount max (0 + e.computeSize) es < es.length := by
        simp only [List.length_cons] at hk; omega
      have := ih (0 + e.computeSize) hk'
      simp only [Nat.add_comm 1 (limitCount _ _ _), List.take_succ_cons, totalSize_cons,
        List.getElem_cons_succ]
      omega
    · simp only [h0, if_false] at hk ⊢
      by_cases hle : size + e.computeSize ≤ max
      · simp only [hle, if_true] at hk ⊢
        have hk' : limitCount max (size + e.computeSize) es < es.length := by
          simp only [List.length_cons] at hk; omega
        have := ih (size + e.computeSize) hk'
        simp only [Nat.add_comm 1 (limitCount _ _ _), List.take_succ_cons, totalSize_cons,
          List.getElem_cons_succ]
        omega
      · simp only [hle, if_false]
        simp only [List.take_zero, totalSize_nil, List.getElem_cons_zero]
        omega

/-- **`util::limit_size`**: the result is a prefix; it is non-empty when the input is; without a
limit (`None` / `NO_LIMIT`) it is everything; with a limit `m` its total size is within `m` unless
everything before its last entry has size 0 (in particular: unless it is a single entry); and it is
maximal: the next entry, if any, would push the total beyond `m`. -/
theorem limitSize_spec (ents : List Entry) (max : Option Nat) :
    (∃ k, limitSize ents max = ents.take k) ∧
    (ents ≠ [] → limitSize ents max ≠ []) ∧
    (max = none ∨ max = some NO_LIMIT → limitSize ents max = ents) ∧
    (∀ m, max = some m → m ≠ NO_LIMIT →
      totalSize (limitSize ents max) ≤ m ∨ totalSize (limitSize ents max).dropLast = 0) ∧
    (∀ m, max = some m → ∀ e rest, ents = limitSize ents max ++ e :: rest →
      totalSize (limitSize ents max) ≠ 0 ∧ m < totalSize (limitSize ents max) + e.computeSize) := by
  unfold limitSize
  by_cases h1 : ents.length ≤ 1
  · simp only [h1, if_true]
    refine ⟨⟨ents.length, by simp⟩, fun h => h, fun _ => trivial, ?_, ?_⟩
    · intro m _ _
      right
      have hd : ents.dropLast = [] := by
        cases ents with
        | nil => rfl
        | cons a t =>
          cases t with
          | nil => rfl
          | cons b t' => simp at h1
      rw [hd]; rfl
    · intro m _ e rest he
      have := congrArg List.length he
      simp at this
  · simp only [h1, if_false]
    cases max with
    | none =>
      refine ⟨⟨ents.length, by simp⟩, fun h => h, fun _ => rfl, fun m hm => by simp at hm, fun m hm => by simp at hm⟩
    | some m =>
      by_cases hm : m = NO_LIMIT
      · simp only [hm, if_true]
        refine ⟨⟨ents.length, by simp⟩, fun h => h, fun _ => trivial, ?_, ?_⟩
        · intro m' h1' h2'; simp at h1'; omega
        · intro m' _ e rest he
          have := congrArg List.length he
          simp at this
      · simp only [hm, if_false]
        refine ⟨⟨_, rfl⟩, ?_, ?_, ?_, ?_⟩
        · intro hne
          cases ents with
          | nil => exact absurd rfl hne
          | cons e es =>
            have := limitCount_pos m e es
            intro hnil
            have hl := congrArg List.length hnil
            simp only [List.length_take, List.length_nil, List.length_cons] at hl
            omega
        · intro h; rcases h with h | h
          · simp at h
          · simp at h; exact absurd h hm
        · intro m' hm' _
          simp only [Option.some.injEq] at hm'; subst hm'
          rcases limitCount_within m 0 ents with h | h | h
          · left; omega
          · right; omega
          · right; rw [h]; simp
        · intro m' hm' e rest he
          simp only [Option.some.injEq] at hm'; subst hm'
          have hlen := congrArg List.length he
          simp only [List.length_append, List.length_take, List.length_cons] at hlen
          have hle := limitCount_le m 0 ents
          have hk : limitCount m 0 ents < ents.length := by
            rw [Nat.min_eq_left hle] at hlen; omega
          have hmax := limitCount_maximal m 0 ents hk
          have hd : List.drop (limitCount m 0 ents) ents = e :: rest :=
            List.append_cancel_left ((List.take_append_drop _ ents).trans he)
          rw [List.drop_eq_getElem_cons hk] at hd
          have hget := (List.cons.inj hd).1
          rw [hget] at hmax
          omega

/-! ### `MemStorageCore`: the invariant of C19 is the conforming storage of `RaftProofs/Contig.lean` -/
namespace MemStorage

theorem Inv.wf {s : MemStorage} (h : s.Inv) : s.WF := (inv_iff_wf s).1 h

theorem Inv.lastIdx {s : MemStorage} (h : s.Inv) : s.abs.lastIdx = s.lastIndex := by
  have := h.wf.last_succ
  simp only [LogSpec.lastIdx, abs]; omega

theorem inv_new : MemStorage.new.Inv := by decide

/-! ### per-operation refinement: the positional facts, said by log index -/

theorem append_refines (s : MemStorage) (h : s.Inv) (b0 : Entry) (b : List Entry)
    (hp : s.abs.pre (.append (b0 :: b)) = true) :
    ∃ s', s.append (b0 :: b) = .ok s' ∧ s'.Inv ∧ s'.abs = s.abs.step (.append (b0 :: b)) ∧
      s'.firstIndex = s.firstIndex ∧ s'.lastIndex = b0.index + b.length := by
  have hw := h.wf
  simp only [LogSpec.pre, Bool.and_eq_true, decide_eq_true_eq, h.lastIdx] at hp
  obtain ⟨⟨hc, hf⟩, hl⟩ := hp
  obtain ⟨s', e, he, hw', hfi, hli⟩ := hw.append_ok b0.index b0 b (contigFrom_iff.1 hc) hf hl
  refine ⟨s', e, (inv_iff_wf s').2 hw', ?_, hfi, hli⟩
  simp only [abs, LogSpec.step, hfi, ContigFrom.filter_lt hw.contig]
  rw [he]

theorem compact_refines (s : MemStorage) (h : s.Inv) (ci : Nat)
    (hp : s.abs.pre (.compact ci) = true) :
    ∃ s', s.compact ci = .ok s' ∧ s'.Inv ∧ s'.abs = s.abs.step (.compact ci) ∧
      s'.firstIndex = max s.firstIndex ci ∧ s'.lastIndex = s.lastIndex := by
  have hw := h.wf
  simp only [LogSpec.pre, Bool.or_eq_true, decide_eq_true_eq, h.lastIdx] at hp
  obtain ⟨s', e, he, hw', hfi, hli⟩ := hw.compact_ok ci hp.symm
  refine ⟨s', e, (inv_iff_wf s').2 hw', ?_, hfi, hli⟩
  simp only [LogSpec.step]
  by_cases hle : ci ≤ s.firstIndex
  · rw [if_pos (show ci ≤ s.abs.firstIdx from hle), he, Nat.sub_eq_zero_of_le hle]; rfl
  · rw [if_neg (show ¬ ci ≤ s.abs.firstIdx from hle)]
    simp only [abs, hfi, ContigFrom.filter_ge hw.contig, Nat.max_eq_right (Nat.le_of_not_le hle)]
    rw [he]

theorem applySnapshot_refines (s : MemStorage) (_h : s.Inv) (snap : Snapshot) :
    ∃ s', s.step (.applySnapshot snap) = .ok s' ∧ s'.Inv ∧
      s'.abs = s.abs.step (.applySnapshot snap) := by
  by_cases hlt : snap.metadata.index < s.firstIndex
  · refine ⟨s, ?_, _h, ?_⟩
    · simp only [step, applySnapshot, if_pos hlt]
    · simp only [LogSpec.step]; rw [if_pos (show snap.metadata.index < s.abs.firstIdx from hlt)]
  · obtain ⟨s', e, he, hw', _⟩ := applySnapshot_ok s snap (Nat.le_of_not_lt hlt)
    refine ⟨s', by simp only [step, e], (inv_iff_wf s').2 hw', ?_⟩
    simp only [LogSpec.step]
    rw [if_neg (show ¬ snap.metadata.index < s.abs.firstIdx from hlt), he]; rfl

theorem commitTo_refines (s : MemStorage) (h : s.Inv) (i : Nat)
    (hp : s.abs.pre (.commitTo i) = true) :
    ∃ s', s.commitTo i = .ok s' ∧ s'.Inv ∧ s'.abs = s.abs.step (.commitTo i) ∧
      s'.hardState.commit = i := by
  have hw := h.wf
  simp only [LogSpec.pre, Bool.and_eq_true, decide_eq_true_eq, h.lastIdx] at hp
  have hfi : s.firstIndex ≤ i := hp.1
  obtain ⟨e, hge, _, hc⟩ := hw.commitTo_ok hfi hp.2
  have hfind : s.abs.entryAt i = some e := (ContigFrom.find? hw.contig i hfi).trans hge
  refine ⟨_, hc, (inv_iff_wf _).2 ⟨hw.contig, hw.snap_lt⟩, ?_, rfl⟩
  simp only [LogSpec.step, hfind]; rfl

/-! ### queries -/

theorem term_refines (s : MemStorage) (h : s.Inv) (idx : Nat) : s.term idx = s.abs.term idx := by
  have hw := h.wf
  have hl := hw.last_succ
  have hsn := hw.snap_lt
  unfold LogSpec.term LogSpec.termAt
  refine hw.term_elim idx (fun r => r = _) ?_ ?_ ?_ ?_
  · intro hs; rw [if_pos (show idx = s.abs.snapIdx from hs)]; rfl
  · intro hs hc
    rw [if_neg (show ¬ idx = s.abs.snapIdx from hs),
      show s.abs.entryAt idx = none from ContigFrom.find?_lt hw.contig idx hc]
    simp only [Option.map_none]; rw [if_pos (show idx < s.abs.firstIdx from hc)]
  · intro hu
    rw [if_neg (show ¬ idx = s.abs.snapIdx by show ¬ idx = s.snapshotMetadata.index; omega),
      show s.abs.entryAt idx = s.entries[idx - s.firstIndex]? from
        ContigFrom.find? hw.contig idx (by omega), List.getElem?_eq_none (by omega)]
    simp only [Option.map_none]
    rw [if_neg (show ¬ idx < s.abs.firstIdx by show ¬ idx < s.firstIndex; omega)]
  · intro e hf _ hge
    rw [if_neg (show ¬ idx = s.abs.snapIdx by show ¬ idx = s.snapshotMetadata.index; omega),
      show s.abs.entryAt idx = s.entries[idx - s.firstIndex]? from
        ContigFrom.find? hw.contig idx hf, hge]
    rfl

theorem entries_refines (s : MemStorage) (h : s.Inv) (low high : Nat) (maxSize : Option Nat)
    (canAsync : Bool) (hl : s.firstIndex ≤ low) (hlh : low ≤ high) (hh : high ≤ s.lastIndex + 1)
    (hne : s.entries ≠ []) (ht : (s.triggerLogUnavailable && canAsync) = false) :
    s.entriesQ low high maxSize canAsync = .ok (s.abs.entries low high maxSize) := by
  have hw := h.wf
  have hlast := hw.last_succ
  obtain ⟨e0, he0, hi0⟩ := head?_of_lt (s := s) (List.length_pos_iff.2 hne)
  simp only [entriesQ, ht, he0, hi0, Bool.false_eq_true, if_false]
  -- none of the range checks fires
  have hhf : high - s.firstIndex ≤ s.entries.length :=
    Nat.sub_le_of_le_add (Nat.add_comm _ _ ▸ hlast ▸ hh)
  rw [if_neg (Nat.not_lt.mpr hl), if_neg (Nat.not_lt.mpr hh), if_neg (Nat.not_lt.mpr hl),
    if_neg (Nat.not_lt.mpr (Nat.le_trans hl hlh)),
    if_neg (Nat.not_lt.mpr (Nat.sub_le_sub_right hlh _)), if_neg (Nat.not_lt.mpr hhf)]
  simp only [LogSpec.entries, LogSpec.range, abs]
  rw [ContigFrom.filter_range hw.contig low high hl]

theorem _root_.RaftModel.LogSpec.commitOk_iff (l : LogSpec) : l.commitOk = true ↔
    l.hs.commit = l.snapIdx ∨ (l.firstIdx ≤ l.hs.commit ∧ l.hs.commit ≤ l.lastIdx) := by
  simp [LogSpec.commitOk]

theorem snapshotCore_refines (s : MemStorage) (h : s.Inv) (hc : s.abs.commitOk = true) :
    ∃ t, s.abs.termAt s.hardState.commit = some t ∧
      s.snapshotCore = .ok { data := [], metadata :=
        { index := s.hardState.commit, term := t, confState := s.confState } } := by
  have hw := h.wf
  have hlast := hw.last_succ
  have hli := h.lastIdx
  have h1 := hw.snap_lt
  rw [LogSpec.commitOk_iff] at hc
  unfold snapshotCore LogSpec.termAt
  by_cases hs : s.hardState.commit = s.snapshotMetadata.index
  · refine ⟨s.snapshotMetadata.term, ?_, ?_⟩
    · rw [if_pos (show s.hardState.commit = s.abs.snapIdx from hs)]; rfl
    · simp only [hs, if_true]
  · have hr : s.firstIndex ≤ s.hardState.commit ∧ s.hardState.commit ≤ s.lastIndex := by
      rcases hc with hc | hc
      · exact absurd hc hs
      · rw [hli] at hc; exact hc
    have hd : s.hardState.commit - s.firstIndex < s.entries.length := by omega
    obtain ⟨e0, he0, hi0⟩ := head?_of_lt hd
    obtain ⟨e, hge, _⟩ := hw.getElem? hd
    refine ⟨e.term, ?_, ?_⟩
    · rw [if_neg (show ¬ s.hardState.commit = s.abs.snapIdx from hs)]
      have : s.abs.entryAt s.hardState.commit = some e :=
        (ContigFrom.find? hw.contig _ hr.1).trans hge
      rw [this]; rfl
    · simp only [he0, hi0]
      rw [if_neg hs, if_pos (Nat.lt_of_lt_of_le h1 hr.1), if_neg (Nat.not_lt.mpr hr.1), hge]

theorem snapshot_refines (s : MemStorage) (h : s.Inv) (hc : s.abs.commitOk = true) (req : Nat)
    (hns : s.triggerSnapUnavailable = false) :
    ∃ snap, s.abs.snapshot req = some snap ∧ s.snapshot req = (s, .ok snap) := by
  obtain ⟨t, ht, hcore⟩ := snapshotCore_refines s h hc
  refine ⟨{ data := [], metadata :=
    { index := max s.hardState.commit req, term := t, confState := s.confState } }, ?_, ?_⟩
  · simp only [LogSpec.snapshot]
    rw [show s.abs.hs.commit = s.hardState.commit from rfl, ht]; rfl
  · simp only [snapshot, hns, hcore, Bool.false_eq_true, if_false]
    by_cases hr : s.hardState.commit < req
    · rw [if_pos hr, Nat.max_eq_right (by omega)]
    · rw [if_neg hr, Nat.max_eq_left (by omega)]

/-- one call from a state satisfying the invariant, under the documented precondition: no panic,
the invariant is re-established, and the meaning changes as the specification says -/
theorem step_refines (s : MemStorage) (h : s.Inv) (op : StorageOp) (hp : s.abs.pre op = true) :
    ∃ s', s.step op = .ok s' ∧ s'.Inv ∧ s'.abs = s.abs.step op := by
  have same : ∀ s' : MemStorage, s'.entries = s.entries →
      s'.snapshotMetadata = s.snapshotMetadata → s'.Inv :=
    fun s' he hm => (inv_iff_wf s').2 ((congr he hm).2.2 h.wf)
  cases op with
  | setHardState hs => exact ⟨_, rfl, same _ rfl rfl, rfl⟩
  | setConfState cs => exact ⟨_, rfl, same _ rfl rfl, rfl⟩
  | commitTo i =>
    obtain ⟨s', e, i', a, _⟩ := commitTo_refines s h i hp
    exact ⟨s', e, i', a⟩
  | applySnapshot snap => exact applySnapshot_refines s h snap
  | compact ci =>
    obtain ⟨s', e, i', a, _⟩ := compact_refines s h ci hp
    exact ⟨s', e, i', a⟩
  | append ents =>
    cases ents with
    | nil => exact ⟨s, rfl, h, rfl⟩
    | cons b0 b =>
      obtain ⟨s', e, i', a, _⟩ := append_refines s h b0 b hp
      exact ⟨s', e, i', a⟩
  | triggerSnapUnavailable => exact ⟨_, rfl, same _ rfl rfl, rfl⟩
  | triggerLogUnavailable v => exact ⟨_, rfl, same _ rfl rfl, rfl⟩
  | snapshot req =>
    have hc : s.abs.commitOk = true := hp
    by_cases hns : s.triggerSnapUnavailable = true
    · refine ⟨{ s with triggerSnapUnavailable := false }, ?_, same _ rfl rfl, rfl⟩
      simp only [step, snapshot, hns, if_true]
    · have hns' : s.triggerSnapUnavailable = false := by simpa using hns
      obtain ⟨snap, _, e⟩ := snapshot_refines s h hc req hns'
      refine ⟨s, ?_, h, rfl⟩
      simp only [step, e]

end MemStorage

/-! ### the specification keeps the stored commit index meaningful -/
namespace LogSpec

theorem pre_of_preC (l : LogSpec) (op : StorageOp) (h : l.preC op = true) : l.pre op = true := by
  cases op with
  | compact ci =>
    simp only [preC, pre, Bool.or_eq_true, Bool.and_eq_true] at h ⊢
    rcases h with h | h
    · exact Or.inl h
    · exact Or.inr h.1
  | append ents =>
    cases ents with
    | nil => rfl
    | cons b0 b =>
      simp only [preC, Bool.and_eq_true] at h
      exact h.1
  | snapshot req => exact h
  | setHardState hs => rfl
  | setConfState cs => rfl
  | commitTo i => exact h
  | applySnapshot snap => rfl
  | triggerSnapUnavailable => rfl
  | triggerLogUnavailable v => rfl

theorem WF.filter_lt_length {l : LogSpec} (hw : l.WF) (m : Nat) (h1 : l.firstIdx ≤ m)
    (h2 : m ≤ l.lastIdx + 1) :
    (l.ents.filter (fun e => decide (e.index < m))).length = m - l.firstIdx := by
  rw [(contigFrom_iff.1 hw.2.1).filter_lt, List.length_take]
  simp only [lastIdx] at h2
  have := hw.1
  omega

theorem WF.filter_ge_length {l : LogSpec} (hw : l.WF) (m : Nat) :
    (l.ents.filter (fun e => decide (m ≤ e.index))).length = l.ents.length - (m - l.firstIdx) := by
  rw [(contigFrom_iff.1 hw.2.1).filter_ge, List.length_drop]

theorem commitOk_step (l : LogSpec) (hw : l.WF) (hc : l.commitOk = true) (op : StorageOp)
    (hp : l.preC op = true) : (l.step op).commitOk = true := by
  rw [commitOk_iff] at hc ⊢
  cases op with
  | setHardState hs =>
    simp only [preC, Bool.or_eq_true, Bool.and_eq_true, beq_iff_eq, decide_eq_true_eq] at hp
    exact hp
  | setConfState cs => exact hc
  | commitTo i =>
    simp only [preC, pre, Bool.and_eq_true, decide_eq_true_eq] at hp
    simp only [step]
    cases l.entryAt i with
    | none => exact hc
    | some e => exact Or.inr hp
  | applySnapshot snap =>
    simp only [step]
    by_cases hlt : snap.metadata.index < l.firstIdx
    · rw [if_pos hlt]; exact hc
    · rw [if_neg hlt]; exact Or.inl rfl
  | compact ci =>
    simp only [preC, Bool.or_eq_true, Bool.and_eq_true, decide_eq_true_eq] at hp
    simp only [step]
    by_cases hle : ci ≤ l.firstIdx
    · rw [if_pos hle]; exact hc
    · rw [if_neg hle]
      have hp' := hp.resolve_left hle
      have hlen := hw.filter_ge_length ci
      simp only [lastIdx] at hc hp' ⊢
      rw [hlen]
      have := hw.1
      omega
  | append ents =>
    cases ents with
    | nil => exact hc
    | cons b0 b =>
      simp only [preC, pre, Bool.or_eq_true, Bool.and_eq_true, beq_iff_eq, decide_eq_true_eq] at hp
      obtain ⟨⟨⟨_, hf⟩, hl⟩, hcm⟩ := hp
      have hlen := hw.filter_lt_length b0.index hf hl
      simp only [step, lastIdx, List.length_append, List.length_cons] at hc ⊢
      rw [hlen]
      simp only [lastIdx] at hl
      omega
  | triggerSnapUnavailable => exact hc
  | triggerLogUnavailable v => exact hc
  | snapshot req => exact hc

end LogSpec

end RaftModel
