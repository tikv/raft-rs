import RaftProofs.ClusterConfF

/-!
C09 at the cluster level, part G: `ConfBounded` ("every membership entry of the log beyond the apply
cursor is at or below `pending_conf_index`") alone — without `AtMostOneUnapplied`, which a new leader
need not satisfy for the entries it inherits (see the last example of `RaftProps/C09b.lean`) — through
the writers of a leader's log: the proposal filter + `append_entry`, `become_leader`, `commit_apply`
(auto-leave), and through `Raft::step` for EVERY message and role.  The proofs follow those of
`PendingOk` in `RaftProps/C09b.lean` (bounded half).
-/
namespace RaftModel
namespace Raft
open VoteOb RaftProps.C09

/-- the leader discipline as a node invariant: a node in the leader role has `ConfBounded` -/
def LB (r : Raft) : Prop := r.state = .leader → ConfBounded r

theorem cb_of_same {a r : Raft} (hb : ConfBounded a) (habs : r.raftLog.abs = a.raftLog.abs)
    (hcf : CF a r) : ConfBounded r := by
  obtain ⟨hp, ha⟩ := hcf
  intro i e he hc hi
  rw [habs] at he; rw [ha] at hi; rw [hp]
  exact hb i e he hc hi

/-- the entries of the new log are entries of the old one, the apply cursor did not go back,
`pending_conf_index` did not decrease -/
theorem cb_of_sub {a r : Raft} (hb : ConfBounded a)
    (hsub : ∀ i e, r.raftLog.abs.entryAt i = some e → a.raftLog.abs.entryAt i = some e)
    (hap : a.raftLog.applied ≤ r.raftLog.applied) (hp : a.pendingConfIndex ≤ r.pendingConfIndex) :
    ConfBounded r := by
  intro i e he hc hi
  have := hb i e (hsub i e he) hc (by omega)
  omega

theorem cb_after_drop {a r' : Raft} {oes : Option (List Entry)} (hb : ConfBounded a)
    (hf : FilterOut a r'.pendingConfIndex oes) (habs : r'.raftLog.abs = a.raftLog.abs)
    (happ : r'.raftLog.applied = a.raftLog.applied) : ConfBounded r' := by
  intro i e he hc hi
  rw [habs] at he
  rw [happ] at hi
  rcases hf with ⟨h1, _⟩ | ⟨h0, _⟩
  · rw [h1]; exact hb i e he hc hi
  · have := C09_no_unapplied_change_when_not_pending a hb h0 i e he hc
    omega

theorem cb_after_append {a r1 r' : Raft} {es : List Entry}
    (hb : ConfBounded a) (hf : FilterOut a r'.pendingConfIndex (some es))
    (hl1 : r1.raftLog.abs = a.raftLog.abs) (hli : r1.raftLog.lastIndex = a.raftLog.lastIndex)
    (hinv1 : r1.raftLog.Inv) {t : Nat}
    (hA : Appended r1 r' (stampFrom t (r1.raftLog.lastIndex + 1) es))
    (happ : r'.raftLog.applied = a.raftLog.applied) : ConfBounded r' := by
  have cls : ∀ x e, r'.raftLog.abs.entryAt x = some e → isConf e →
      (a.raftLog.abs.entryAt x = some e) ∨
      (a.raftLog.lastIndex < x ∧ ∃ e0, es[x - a.raftLog.lastIndex - 1]? = some e0 ∧ isConf e0) := by
    intro x e hx hc
    rcases c09_appended_entryAt hinv1 hA x e hx with ⟨_, h2⟩ | ⟨h1, h2⟩
    · rw [hl1] at h2; exact .inl h2
    · rw [hli] at h1 h2
      exact .inr ⟨h1, c09_stamp_conf h2 hc⟩
  rcases hf with ⟨h1, h2⟩ | ⟨h0, k, hk1, hk2⟩
  · have old : ∀ x e, r'.raftLog.abs.entryAt x = some e → isConf e →
        a.raftLog.abs.entryAt x = some e := by
      intro x e hx hc
      rcases cls x e hx hc with h | ⟨_, e0, he0, hc0⟩
      · exact h
      · exact absurd hc0 (h2 es rfl e0 (List.mem_of_getElem? he0))
    intro i e he hc hi
    rw [happ] at hi
    rw [h1]; exact hb i e (old i e he hc) hc hi
  · have new : ∀ x e, r'.raftLog.abs.entryAt x = some e → isConf e → a.raftLog.applied < x →
        x = a.raftLog.lastIndex + k + 1 := by
      intro x e hx hc hgt
      rcases cls x e hx hc with h | ⟨hlt, e0, he0, hc0⟩
      · have := C09_no_unapplied_change_when_not_pending a hb h0 x e h hc
        omega
      · have := hk2 es rfl _ e0 he0 hc0
        omega
    intro i e he hc hi
    rw [happ] at hi
    rw [hk1, new i e he hc hi]
    exact Nat.le_refl _

/-- `MsgPropose` on a leader keeps `ConfBounded` (cf. `C09_one_pending_change_propose`) -/
theorem cb_propose {r r' : Raft} {m : Message} {e : Option RaftError}
    (hinv : r.raftLog.Inv) (hap : r.raftLog.applied ≤ r.raftLog.lastIndex)
    (hs : r.state = .leader) (hm : m.msgType = .msgPropose) (hb : ConfBounded r)
    (h : r.stepLeader m = .ok (r', e)) : ConfBounded r' := by
  rcases c09_stepLeader_propose hinv hs hm h with ⟨h1, _⟩ | ⟨r1, oes, hf, hc⟩
  · rw [h1]; exact hb
  · obtain ⟨hF, hlog⟩ := c09_filterOut hap hf
    rcases hc with ⟨h1, _⟩ | ⟨es, ho, _, hcf, hl | hA⟩
    · rw [h1]
      exact cb_after_drop hb hF (by rw [hlog]) (by rw [hlog])
    · refine cb_after_drop (oes := oes) hb (by rw [hcf.1]; exact hF) ?_ ?_
      · rw [hl.abs, hlog]
      · rw [hcf.2, hlog]
    · subst ho
      refine cb_after_append (r1 := r1) hb (by rw [hcf.1]; exact hF) (by rw [hlog])
        (by rw [hlog]) (by rw [hlog]; exact hinv) hA ?_
      rw [hcf.2, hlog]

/-- `step_leader`, every message (cf. `C09_one_pending_change_step_leader`) -/
theorem cb_step_leader {r r' : Raft} {m : Message} {e : Option RaftError}
    (hinv : r.raftLog.Inv) (hap : r.raftLog.applied ≤ r.raftLog.lastIndex)
    (hs : r.state = .leader) (hb : ConfBounded r) (h : r.stepLeader m = .ok (r', e))
    (hs' : r'.state = .leader) : ConfBounded r' := by
  by_cases hm : m.msgType = .msgPropose
  · exact cb_propose hinv hap hs hm hb h
  · rcases stepLeader_log hinv LS.rfl hs h with hl | ⟨hm', _⟩
    · rcases c09_stepLeader_other hm h with hcf | hf
      · exact cb_of_same hb hl.abs hcf
      · rw [hf] at hs'; cases hs'
    · exact absurd hm' hm

/-- `become_leader` then `bcast_append` (`wonBy`): `ConfBounded`, unconditionally -/
theorem wonBy_cb {r0 r' : Raft} (hinv : r0.raftLog.Inv) (h : wonBy r0 r') :
    ConfBounded r' := by
  unfold wonBy at h
  rw [Res.bind_eq_ok_iff] at h
  obtain ⟨r1, h1, h2⟩ := h
  have hb := (C09_one_pending_change_become_leader r0 r1 hinv h1).1
  exact cb_of_same hb (bcastAppend_ls h2 LS.rfl).abs (bcastAppend_cf h2 CF.rfl)

theorem keep_inv {r r0 : Raft} (hk : Keep r r0) (hinv : r.raftLog.Inv) : r0.raftLog.Inv := by
  rw [hk.log.eq]
  exact RaftProps.C20.Inv_limit hinv _

theorem campaignWon_cb {r r' : Raft} (hinv : r.raftLog.Inv) (h : CampaignWon r r') :
    ConfBounded r' := by
  obtain ⟨r0, hk, _, _, _, _, hw⟩ := h.path
  exact wonBy_cb (keep_inv hk hinv) hw

theorem campaign_lb {r r' : Raft} {ct : CampaignType} (hinv : r.raftLog.Inv)
    (h : r.campaign ct = .ok r') : LB r' := by
  intro hl
  rcases c02_campaign_cases h with w | w
  · exact campaignWon_cb hinv w
  · rw [w.state] at hl
    split at hl <;> cases hl

/-- `hup`: nothing, or whoever comes out as leader has `ConfBounded` -/
theorem hup_lb {r r' : Raft} {b : Bool} (hinv : r.raftLog.Inv) (h : r.hup b = .ok r') :
    r' = r ∨ LB r' := by
  rcases c02_hup_cases h with e | ⟨_, _, ct, hc, _⟩
  · exact .inl e
  · exact .inr (campaign_lb hinv hc)

/-- `poll` then `maybe_commit_by_vote` on a (pre-)candidate: whoever comes out as leader has
`ConfBounded` -/
theorem poll_lb {r r2 r' : Raft} {frm : Nat} {t : MsgType} {v : Bool} {res : VoteResult}
    {m : Message} (hinv : r.raftLog.Inv) (hs : r.state = .candidate ∨ r.state = .preCandidate)
    (hp : r.poll frm t v = .ok (r2, res)) (hc : r2.maybeCommitByVote m = .ok r') : LB r' := by
  intro hl
  obtain ⟨_, _, _, _, _, _, hst⟩ := c02_maybeCommitByVote_spec hc
  have h2l : r2.state = .leader := by
    rcases hst with ⟨g, _⟩ | ⟨_, g, _⟩
    · rw [← g]; exact hl
    · rw [g] at hl; cases hl
  have e := RaftProps.C16.maybeCommitByVote_leader h2l hc
  subst e
  have hvinv : (voted r frm v).raftLog.Inv := hinv
  unfold Raft.poll at hp
  obtain ⟨_, p2⟩ := c02_pollWith_cases hp
  rcases p2 with ⟨_, _, hf⟩ | ⟨_, _, hwon⟩ | ⟨_, e⟩ | ⟨_, e⟩
  · unfold Raft.campaignAfterPreVote at hf
    rcases c02_campaignWith_election (by decide) hf with w | w
    · exact campaignWon_cb hvinv w
    · rw [w.state] at h2l; simp at h2l
  · exact wonBy_cb hvinv hwon
  · subst e; cases h2l
  · subst e
    rcases hs with g | g <;> (have : r.state = .leader := h2l; rw [g] at this; cases this)

/-- **`Raft::step`, every role, every message** keeps the leader discipline: on a node whose log
satisfies the representation invariant and whose apply cursor is within the log, if the node is leader
after the step then `ConfBounded` holds — because it held and the node stayed leader (proposal filter),
or because it just won (`become_leader` sets `pending_conf_index` to the inherited last index) -/
theorem step_lb {r r' : Raft} {m : Message} {e : Option RaftError}
    (hinv : r.raftLog.Inv) (hap : r.raftLog.applied ≤ r.raftLog.lastIndex) (hlb : LB r)
    (h : r.step m = .ok (r', e)) : LB r' := by
  obtain ⟨r1, b, ht, hc⟩ := c02_step_cases h
  -- after the term preamble: the same node up to the queue, or a follower with the same log
  have h1 : (r1.raftLog = r.raftLog ∧ r1.state = r.state ∧
        r1.pendingConfIndex = r.pendingConfIndex ∧
        (r1.state = .candidate ∨ r1.state = .preCandidate ∨ r1.state = .leader → b = true → r1 = r)) ∨
      (r1.state = .follower ∧ r1.raftLog.Inv) := by
    rcases c02_stepTerm_cases ht with ⟨e1, _⟩ | ⟨hb, _, _, x, hs, _⟩ | ⟨_, _, _, _, l, e1⟩
    · subst e1; exact .inl ⟨rfl, rfl, rfl, fun _ _ => rfl⟩
    · have := send_eq _ _ _ hs
      subst this
      exact .inl ⟨rfl, rfl, rfl, fun _ hb' => by rw [hb] at hb'; cases hb'⟩
    · subst e1
      exact .inr ⟨rfl, (becomeFollower_ls _ _ LS.rfl).inv hinv⟩
  have hinv1 : r1.raftLog.Inv := by
    rcases h1 with ⟨a1, _⟩ | ⟨_, a2⟩
    · rw [a1]; exact hinv
    · exact a2
  have lb1 : LB r1 := by
    rcases h1 with ⟨a1, a2, a3, _⟩ | ⟨a1, _⟩
    · intro hl
      have hb := hlb (a2 ▸ hl)
      intro i e he hc hi
      rw [a1] at he hi
      rw [a3]
      exact hb i e he hc hi
    · intro hl; rw [a1] at hl; cases hl
  have viaHup : ∀ tr, r1.hup tr = .ok r' → LB r' := by
    intro tr hh
    rcases hup_lb hinv1 hh with e1 | g
    · rw [e1]; exact lb1
    · exact g
  rcases hc with ⟨_, e1⟩ | ⟨hbt, ⟨_, hh⟩ | ⟨_, hv⟩ | ⟨_, _, _, ⟨hs, hcand⟩ | ⟨hs, hf⟩ | ⟨hs, hl⟩⟩⟩
  · rw [e1]; exact lb1
  · exact viaHup false hh
  · intro hl'
    have hva := c02_stepVote_spec hv
    have hst : r'.state = r1.state := by
      rcases hva.decided with g | g
      · exact (hva.granted g).2.1
      · rcases (hva.refused g).2 with ⟨q, _⟩ | ⟨_, q, _⟩
        · exact q
        · rw [q] at hl'; cases hl'
    have hl1 : r1.state = .leader := hst ▸ hl'
    exact cb_of_same (lb1 hl1) (stepVote_ls hv LS.rfl).abs (c09_stepVote_leader hl1 hv)
  · have hr : r1 = r := by
      rcases h1 with ⟨_, _, _, a4⟩ | ⟨a1, _⟩
      · rcases hs with g | g
        · exact a4 (.inl g) hbt
        · exact a4 (.inr (.inl g)) hbt
      · rcases hs with g | g <;> (rw [a1] at g; cases g)
    subst hr
    rcases c02_stepCandidate_cases hs hcand with e1 | ⟨_, _, hfr⟩ | ⟨_, r2, res, hp, hmc⟩
    · rw [e1]; exact lb1
    · intro hl'
      have : r'.state = .follower := hfr.state.trans rfl
      rw [this] at hl'; cases hl'
    · exact poll_lb hinv hs hp hmc
  · rcases c02_stepFollower_cases hs hf with tvs | ⟨_, _, hh⟩
    · intro hl'
      rw [tvs.state, hs] at hl'; cases hl'
    · exact viaHup true hh
  · have hr : r1 = r := by
      rcases h1 with ⟨_, _, _, a4⟩ | ⟨a1, _⟩
      · exact a4 (.inr (.inr hs)) hbt
      · rw [a1] at hs; cases hs
    subst hr
    intro hl'
    exact cb_step_leader hinv hap hs (hlb hs) hl hl'

end Raft
end RaftModel
