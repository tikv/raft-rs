import RaftProofs.RaftLog

/-!
The sequence model `LLog` read entry by entry: `entryAt` against the list of entries, after an append at the end,
after cutting at a conflict and continuing with a batch (`truncateAppend`), after a compaction, and against
`matchTerm` / `term`;
positions above a point split into the first and the successors (`above_cases`).
(`LLog.truncateAppend_entryAt`, `LLog.matchTerm_le_last`: `RaftProofs/RaftLog.lean`.)
-/
namespace RaftModel

theorem LLog.entryAt_some_iff (g : LLog) (i : Nat) (e : Entry) :
    g.entryAt i = some e ↔ g.snapIdx < i ∧ g.ents[i - g.snapIdx - 1]? = some e := by
  unfold LLog.entryAt
  by_cases h : i ≤ g.snapIdx
  · rw [if_pos h]; constructor
    · intro h'; cases h'
    · intro h'; omega
  · rw [if_neg h]; constructor
    · intro h'; exact ⟨by omega, h'⟩
    · intro h'; exact h'.2

/-- the `k`-th position above the snapshot point reads the `k`-th entry -/
theorem LLog.entryAt_add (g : LLog) (k : Nat) : g.entryAt (g.snapIdx + 1 + k) = g.ents[k]? := by
  unfold LLog.entryAt
  rw [if_neg (Nat.not_le_of_lt (Nat.lt_add_right k (Nat.lt_succ_self _))), Nat.add_assoc,
    Nat.add_sub_cancel_left, Nat.add_sub_cancel_left]

theorem LLog.entryAt_lt (g : LLog) {i : Nat} {e : Entry} (h : g.entryAt i = some e) :
    g.snapIdx < i ∧ i ≤ g.lastIndex := by
  obtain ⟨h1, h2⟩ := (g.entryAt_some_iff i e).1 h
  obtain ⟨h3, _⟩ := List.getElem?_eq_some_iff.1 h2
  unfold LLog.lastIndex
  omega

theorem LLog.entryAt_exists (g : LLog) {i : Nat} (h1 : g.snapIdx < i) (h2 : i ≤ g.lastIndex) :
    ∃ e, g.entryAt i = some e := by
  unfold LLog.lastIndex at h2
  have hlt : i - g.snapIdx - 1 < g.ents.length := by omega
  exact ⟨g.ents[i - g.snapIdx - 1], (g.entryAt_some_iff i _).2
    ⟨h1, List.getElem?_eq_some_iff.2 ⟨hlt, rfl⟩⟩⟩

theorem LLog.entryAt_mem (g : LLog) {i : Nat} {e : Entry} (h : g.entryAt i = some e) :
    e ∈ g.ents := by
  obtain ⟨_, h2⟩ := (g.entryAt_some_iff i e).1 h
  exact List.mem_of_getElem? h2

/-- a log that holds an entry at `j` holds one at every position between its snapshot point and `j` -/
theorem LLog.entryAt_below (g : LLog) {i j : Nat} {e : Entry} (h : g.entryAt j = some e)
    (h1 : g.snapIdx < i) (h2 : i ≤ j) : ∃ a, g.entryAt i = some a :=
  g.entryAt_exists h1 (Nat.le_trans h2 (g.entryAt_lt h).2)

/-- a position above `s` is the first one or the successor of one above `s` -/
theorem above_cases {s i : Nat} (h : s < i) : i = s + 1 ∨ ∃ j, s < j ∧ i = j + 1 := by
  cases i with
  | zero => cases h
  | succ j =>
    rcases Nat.lt_or_eq_of_le (Nat.le_of_lt_succ h) with h1 | rfl
    · exact .inr ⟨j, h1, rfl⟩
    · exact .inl rfl

theorem ContigFrom.mem_take {n : Nat} {l : List Entry} (hc : ContigFrom n l) {e : Entry} (he : e ∈ l)
    {k : Nat} (hk : e.index < n + k) : e ∈ l.take k := by
  obtain ⟨i, hi, rfl⟩ := List.getElem_of_mem he
  have := hc i _ (List.getElem?_eq_getElem hi)
  rw [List.mem_take_iff_getElem]
  exact ⟨i, by omega, rfl⟩

theorem LLog.append_entryAt_new (g : LLog) (es : List Entry) (i : Nat) (hi : g.lastIndex < i) :
    ({ g with ents := g.ents ++ es } : LLog).entryAt i = es[i - g.lastIndex - 1]? := by
  obtain ⟨d, rfl⟩ := Nat.exists_eq_add_of_le (show g.lastIndex + 1 ≤ i from hi)
  have e : g.lastIndex + (1 + d) = g.snapIdx + 1 + (g.ents.length + d) := by
    unfold LLog.lastIndex; omega
  rw [Nat.add_assoc, Nat.add_sub_cancel_left, Nat.add_sub_cancel_left, e]
  exact (LLog.entryAt_add _ _).trans
    (by rw [List.getElem?_append_right (Nat.le_add_right _ _), Nat.add_sub_cancel_left])

/-- the term the log answers for a position it holds as an entry -/
theorem LLog.term_of_entry (g : LLog) {i : Nat} {a : Entry} (h : g.entryAt i = some a) :
    g.term i = .ok a.term := by
  have hl := g.entryAt_lt h
  unfold LLog.term
  rw [if_neg (by omega), if_neg (by omega), h]

theorem LLog.matchTerm_iff (g : LLog) {i t : Nat} : g.matchTerm i t = true ↔ g.term i = .ok t := by
  unfold LLog.matchTerm
  cases g.term i with
  | ok t' => exact ⟨fun h => (by rw [beq_iff_eq.1 h]), fun h => (by cases h; exact beq_self_eq_true _)⟩
  | err _ => exact ⟨fun h => (by cases h), fun h => (by cases h)⟩
  | panic _ => exact ⟨fun h => (by cases h), fun h => (by cases h)⟩

/-! ### compaction; extensionality -/

/-- **compaction of the sequence model, entry by entry**: what lies at or below the new snapshot point is
gone, the rest is kept -/
theorem LLog.compactTo_entryAt (g : LLog) (k i : Nat) :
    (g.compactTo k).entryAt i = if i ≤ k then none else g.entryAt i := by
  unfold LLog.compactTo
  by_cases h : k ≤ g.snapIdx
  · rw [if_pos h]
    by_cases h2 : i ≤ k
    · rw [if_pos h2]; exact if_pos (Nat.le_trans h2 h)
    · rw [if_neg h2]
  · rw [if_neg h]
    by_cases h2 : i ≤ k
    · rw [if_pos h2]; exact if_pos h2
    · rw [if_neg h2]
      obtain ⟨m, rfl⟩ := Nat.exists_eq_add_of_le (Nat.le_of_not_le h)
      obtain ⟨d, rfl⟩ := Nat.exists_eq_add_of_le (show g.snapIdx + m + 1 ≤ i from Nat.lt_of_not_le h2)
      have e : g.snapIdx + m + 1 + d = g.snapIdx + 1 + (m + d) := by omega
      refine (LLog.entryAt_add ⟨_, _, _⟩ d).trans ?_
      rw [e, g.entryAt_add, List.getElem?_drop, Nat.add_sub_cancel_left]

/-- … nothing changes at an index, or it is now covered -/
theorem LLog.compactTo_keeps (g : LLog) (upTo i : Nat) :
    (g.compactTo upTo).entryAt i = g.entryAt i ∨ i ≤ (g.compactTo upTo).snapIdx := by
  rw [g.compactTo_entryAt]
  by_cases hi : i ≤ upTo
  · right
    unfold LLog.compactTo
    by_cases h : upTo ≤ g.snapIdx
    · rw [if_pos h]; omega
    · rw [if_neg h]; exact hi
  · exact .inl (if_neg hi)

/-- two sequence models with the same snapshot point and the same entry at every index are equal -/
theorem LLog.ext_entryAt {g g' : LLog} (h1 : g'.snapIdx = g.snapIdx)
    (h2 : g'.snapTerm = g.snapTerm) (h3 : ∀ i, g'.entryAt i = g.entryAt i) : g' = g := by
  obtain ⟨a, b, c⟩ := g
  obtain ⟨a', b', c'⟩ := g'
  cases h1; cases h2
  congr 1
  exact List.ext_getElem? fun k =>
    (LLog.entryAt_add ⟨a, b, c'⟩ k).symm.trans ((h3 _).trans (LLog.entryAt_add ⟨a, b, c⟩ k))

end RaftModel

namespace RaftProps.C05
open RaftModel

theorem c05_append_entryAt (g : LLog) (es : List Entry) (i : Nat) (hi : i ≤ g.lastIndex) :
    ({ g with ents := g.ents ++ es } : LLog).entryAt i = g.entryAt i := by
  unfold LLog.entryAt
  simp only [LLog.lastIndex] at hi
  dsimp only
  by_cases h0 : i ≤ g.snapIdx
  · rw [if_pos h0, if_pos h0]
  · rw [if_neg h0, if_neg h0, List.getElem?_append_left (by omega)]

/-- every entry of a gap-free sequence model sits at its own index -/
theorem c05_entryAt_of_mem (g : LLog) (hc : ContigFrom g.firstIndex g.ents) :
    ∀ e ∈ g.ents, g.entryAt e.index = some e := by
  intro e he
  obtain ⟨k, hk, rfl⟩ := List.getElem_of_mem he
  rw [hc k _ (List.getElem?_eq_getElem hk)]
  exact (g.entryAt_add k).trans (List.getElem?_eq_getElem hk)

theorem c05_matchTerm_entryAt (g : LLog) (i t : Nat) (hm : g.matchTerm i t = true) (ht : t ≠ 0)
    (hi : g.snapIdx < i) : ∃ e, g.entryAt i = some e ∧ e.term = t := by
  obtain ⟨e, he⟩ := g.entryAt_exists hi (g.matchTerm_le_last i t hm ht)
  have := (g.term_of_entry he).symm.trans (g.matchTerm_iff.1 hm)
  cases this
  exact ⟨e, he, rfl⟩

/-- a batch numbered from `n + 1`, anchored inside the log, whose first `k` entries match the log by
term lies with them inside the log -/
theorem _root_.RaftModel.LLog.matched_prefix_le_last (g : LLog) {es : List Entry} {n k : Nat}
    (hc : ContigFrom (n + 1) es) (ht : ∀ e ∈ es, e.term ≠ 0) (hn : n ≤ g.lastIndex)
    (hk : k ≤ es.length) (hall : ∀ e ∈ es.take k, g.matchTerm e.index e.term = true) :
    n + k ≤ g.lastIndex := by
  have := ContigFrom.le_of_all_le (n := g.lastIndex) (hc.take k)
    (fun e he => g.matchTerm_le_last _ _ (hall e he) (ht e (List.mem_of_mem_take he)))
    (Nat.succ_le_succ hn)
  rw [List.length_take, Nat.min_eq_left hk, Nat.add_right_comm] at this
  exact Nat.le_of_succ_le_succ this

/-- truncating after `keep` (inside the log) and appending: the positions above `keep` read the
appended entries -/
theorem _root_.RaftModel.LLog.truncateAppend_entryAt_above (g : LLog) (sfx : List Entry)
    {keep : Nat} (j : Nat) (h1 : g.snapIdx ≤ keep) (h2 : keep ≤ g.lastIndex) :
    (g.truncateAppend keep sfx).entryAt (keep + 1 + j) = sfx[j]? := by
  obtain ⟨d, rfl⟩ := Nat.exists_eq_add_of_le h1
  have hd : d ≤ g.ents.length := Nat.le_of_add_le_add_left h2
  have hkeep : (g.ents.take (g.snapIdx + d - g.snapIdx)).length = d := by
    rw [Nat.add_sub_cancel_left, List.length_take]
    exact Nat.min_eq_left hd
  have e : g.snapIdx + d + 1 + j = g.snapIdx + 1 + (d + j) := by omega
  rw [e]
  exact (LLog.entryAt_add _ _).trans (by
    show (g.ents.take (g.snapIdx + d - g.snapIdx) ++ sfx)[d + j]? = sfx[j]?
    rw [List.getElem?_append_right (by rw [hkeep]; exact Nat.le_add_right d j), hkeep,
      Nat.add_sub_cancel_left])

/-- **cutting the log at the first conflict**: the log cut before index `c` and continued with the
entries of index `≥ c` of a batch numbered from `n + 1` (`snapIdx ≤ n < c ≤ last + 1`) reads the
batch from `c` on.  Below `c` it reads the old log (`LLog.truncateAppend_entryAt`). -/
theorem _root_.RaftModel.LLog.truncateAppend_batch (g : LLog) (es : List Entry) {n c i : Nat}
    (hs : g.snapIdx ≤ n) (hc1 : n < c) (hc2 : c ≤ g.lastIndex + 1) (hi : c ≤ i) :
    (g.truncateAppend (c - 1) (es.drop (c - (n + 1)))).entryAt i = es[i - n - 1]? := by
  -- `c` is the index of the `k`-th entry of the batch, `i` lies `j` positions above it
  obtain ⟨k, rfl⟩ := Nat.exists_eq_add_of_le (show n + 1 ≤ c from hc1)
  obtain ⟨j, rfl⟩ := Nat.exists_eq_add_of_le hi
  have e : n + k + 1 + j - n - 1 = k + j := by omega
  have hk : n + k + 1 ≤ g.lastIndex + 1 := Nat.add_right_comm n 1 k ▸ hc2
  rw [Nat.add_sub_cancel_left, Nat.add_right_comm n 1 k, Nat.add_sub_cancel,
    g.truncateAppend_entryAt_above (es.drop k) j (Nat.le_trans hs (Nat.le_add_right n k))
      (Nat.le_of_succ_le_succ hk),
    List.getElem?_drop, e]

end RaftProps.C05
