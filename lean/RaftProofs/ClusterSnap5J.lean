import RaftProofs.ClusterSnap5G

/-!
Commit safety of `ClusterSem` with compaction and snapshots, part 5J: two ghost
logs of the history that share an entry are equal below it, the ghost logs of the leader of one term
extend each other, and the facts about a commit event.
-/
namespace RaftModel
namespace Cluster
namespace Snap5
open Node Raft Raft.CC RaftProps.C02 RaftProps.C05 Snap

variable {q : Prop} {cfg : JointConfig} {c0 : Nat} {h : List Sys}

/-- two uncompacted logs of the history that hold entries of the same term at `q` are equal up to `q` -/
theorem full_eq_below (H : GHyp2w q cfg c0 h) {g1 g2 F1 F2 : LLog}
    (h1 : Full (HistChain h) c0 g1 F1) (h2 : Full (HistChain h) c0 g2 F2) {q : Nat} {e1 e2 : Entry}
    (he1 : F1.entryAt q = some e1) (he2 : F2.entryAt q = some e2) (ht : e1.term = e2.term) :
    ∀ k, k ≤ q → F1.entryAt k = F2.entryAt k :=
  eq_below (agree_of_derived (hist_agree H) h1.der h2.der) (h1.snap.trans h2.snap.symm) he1 he2 ht

/-- the ghost logs of two nodes of the history -/
theorem flogs_eq_below (H : GHyp2w q cfg c0 h) {n n' : Nat} {s s' : Sys} (hn : h[n]? = some s)
    (hn' : h[n']? = some s') {i j : Nat} {st st' : NState} (hi : s.node i = some st)
    (hj : s'.node j = some st') {q : Nat} {e1 e2 : Entry}
    (h1 : (FL h c0 st).entryAt q = some e1) (h2 : (FL h c0 st').entryAt q = some e2)
    (ht : e1.term = e2.term) :
    ∀ k, k ≤ q → (FL h c0 st).entryAt k = (FL h c0 st').entryAt k :=
  full_eq_below H ((ghost_inv H n s hn).node i st hi).log ((ghost_inv H n' s' hn').node j st' hj).log
    h1 h2 ht

/-- **the ghost log of a leader only grows** while it leads its term -/
theorem leader_ghost_ext (H : GHyp2w q cfg c0 h) (i : Nat) :
    ∀ (d n : Nat) (s s' : Sys) (st st' : NState), h[n]? = some s → h[n + d]? = some s' →
      (∀ m a b, n ≤ m → m < n + d → h[m]? = some a → h[m + 1]? = some b → ¬ IsRestart i a b) →
      s.node i = some st → s'.node i = some st' →
      st.raft.state = .leader → st'.raft.state = .leader → st'.raft.term = st.raft.term →
      st.raft.raftLog.abs.lastIndex ≤ st'.raft.raftLog.abs.lastIndex ∧
      ∀ k, k ≤ st.raft.raftLog.abs.lastIndex →
        (FL h c0 st').entryAt k = (FL h c0 st).entryAt k := by
  obtain ⟨s0, _, hall⟩ := H.inv_at
  intro d
  induction d with
  | zero =>
    intro n s s' st st' hn hn' _ hi hi' _ _ _
    rw [Nat.add_zero, hn] at hn'
    cases hn'
    rw [hi] at hi'
    cases hi'
    exact ⟨Nat.le_refl _, fun _ _ => rfl⟩
  | succ d ih =>
    intro n s s' st st' hn hn' hnr hi hi' hl hl' ht
    have hlt : n + 1 < h.length := by
      rcases Nat.lt_or_ge (n + 1) h.length with c | c
      · exact c
      · have : h.length ≤ n + (d + 1) := by omega
        rw [List.getElem?_eq_none this] at hn'; cases hn'
    have h1 : h[n + 1]? = some h[n + 1] := List.getElem?_eq_some_iff.2 ⟨hlt, rfl⟩
    have hstep := H.csteps n s _ hn h1
    have hsm : s ∈ h := mem_of_get hn
    obtain ⟨st1, hi1⟩ := step_node_some hstep.step i st hi
    have hn1' : h[n + 1 + d]? = some s' := by rw [← hn']; congr 1; omega
    have hnr1 : ∀ m a b, n + 1 ≤ m → m < n + 1 + d → h[m]? = some a → h[m + 1]? = some b →
        ¬ IsRestart i a b := fun m a b hm1 hm2 ha hb => hnr m a b (by omega) (by omega) ha hb
    rcases cstep_nodeRel (hall s hsm) (H.nb s hsm) hstep i st st1 hi hi1 with c | c
    · have hrest := rt_path h hall H.nb H.csteps i d (n + 1) _ s' st1 st' h1 hn1' hnr1 hi1 hi'
      have ht1 : st1.raft.term = st.raft.term := by
        have := c.rt.le; have := hrest.le; omega
      have hl1 : st1.raft.state = .leader := by
        rcases hrest.lead hl' with c1 | ⟨_, c2 | c2⟩
        · omega
        · rcases c.rt.cand c2 with c3 | ⟨_, c4⟩
          · omega
          · rw [hl] at c4; cases c4
        · exact c2
      obtain ⟨r1, r2⟩ := ih (n + 1) _ s' st1 st' h1 hn1' hnr1 hi1 hi' hl1 hl' (ht.trans ht1.symm)
      -- the first step
      have first : st.raft.raftLog.abs.lastIndex ≤ st1.raft.raftLog.abs.lastIndex ∧
          ∀ k, k ≤ st.raft.raftLog.abs.lastIndex →
            (FL h c0 st1).entryAt k = (FL h c0 st).entryAt k := by
        cases fnode_step H hn h1 hi hi1 with
        | same hl0 hli => exact ⟨Nat.le_of_eq hli.symm, fun k _ => hl0 k⟩
        | grew es hg hl0 _ =>
          refine ⟨?_, hl0⟩
          rw [hg.abs]; unfold LLog.lastIndex; simp only [List.length_append]; omega
        | acc m _ _ _ _ _ _ _ hs _ => rw [hs] at hl1; cases hl1
        | restart _ hs _ => rw [hs] at hl1; cases hl1
        | restored m _ _ _ _ _ _ _ hs _ => rw [hs] at hl1; cases hl1
      exact ⟨Nat.le_trans first.1 r1,
        fun k hk => (r2 k (Nat.le_trans hk first.1)).trans (first.2 k hk)⟩
    · exact absurd c (hnr n s _ (Nat.le_refl _) (by omega) hn h1)

/-- the ghost logs of the leader of term `t` at two points of the history hold the same entry at every
index both reach -/
theorem leader_flogs_eq (H : GHyp2w q cfg c0 h) {n n' : Nat} {s s' : Sys} (hn : h[n]? = some s)
    (hn' : h[n']? = some s') {l l' t : Nat} {st st' : NState} (hk : s.node l = some st)
    (hk' : s'.node l' = some st') (hs : st.raft.state = .leader) (hs' : st'.raft.state = .leader)
    (ht : st.raft.term = t) (ht' : st'.raft.term = t) {k : Nat}
    (h1 : k ≤ st.raft.raftLog.abs.lastIndex) (h2 : k ≤ st'.raft.raftLog.abs.lastIndex) :
    (FL h c0 st).entryAt k = (FL h c0 st').entryAt k := by
  have hll : l = l' :=
    C02_cluster_election_safety cfg H.ne H.nd1 H.nd2 h H.hist H.fix s s' (mem_of_get hn)
      (mem_of_get hn') l l' t ⟨st, hk, hs, ht⟩ ⟨st', hk', hs', ht'⟩
  subst hll
  rcases Nat.le_total n n' with hle | hle
  · obtain ⟨d, rfl⟩ := Nat.exists_eq_add_of_le hle
    exact ((leader_ghost_ext H l d n s s' st st' hn hn'
      (no_restart_between H hn hn' ⟨st, hk, hs, ht⟩ ⟨st', hk', hs', ht'⟩) hk hk' hs hs'
      (ht'.trans ht.symm)).2 k h1).symm
  · obtain ⟨d, rfl⟩ := Nat.exists_eq_add_of_le hle
    exact (leader_ghost_ext H l d n' s' s st' st hn' hn
      (no_restart_between H hn' hn ⟨st', hk', hs', ht'⟩ ⟨st, hk, hs, ht⟩) hk' hk hs' hs
      (ht.trans ht'.symm)).2 k h2

/-- the common snapshot point is not beyond the snapshot point of any node -/
theorem c0_le_snap (H : GHyp2w q cfg c0 h) {n : Nat} {s : Sys} (hn : h[n]? = some s) {v : Nat}
    {st : NState} (hv : s.node v = some st) : c0 ≤ st.raft.raftLog.abs.snapIdx :=
  ((ghost_inv H n s hn).node v st hv).log.le

/-- the commit event of a step that moves the commit index of a node that is leader afterwards -/
theorem ev_of_step {n : Nat} {a b : Sys} (ha : h[n]? = some a)
    (hb : h[n + 1]? = some b) {l : Nat} {sta stb : NState} (hla : a.node l = some sta)
    (hlb : b.node l = some stb) (hs : stb.raft.state = .leader)
    (hc : sta.raft.raftLog.committed < stb.raft.raftLog.committed) :
    Ev.ok h ⟨n, l, stb.raft.term, stb.raft.raftLog.committed, stb.raft.raftLog.abs,
      stb.raft.raftLog.persisted⟩ :=
  ⟨a, b, sta, stb, ha, hb, hla, hlb, hs, rfl, hc, rfl, rfl, rfl⟩

/-- what a commit event gives: the committing leader's state after the step -/
theorem Ev.facts (H : GHyp2w q cfg c0 h) {E : Ev} (hE : E.ok h) :
    ∃ a b sta stb, h[E.nE]? = some a ∧ h[E.nE + 1]? = some b ∧ a.node E.l = some sta ∧
      b.node E.l = some stb ∧ stb.raft.state = .leader ∧ stb.raft.term = E.t ∧
      E.c = stb.raft.raftLog.committed ∧ E.gE = stb.raft.raftLog.abs ∧
      EvF h c0 E = FL h c0 stb ∧
      E.pE = stb.raft.raftLog.persisted ∧ sta.raft.raftLog.committed < E.c ∧ c0 < E.c ∧
      Has (EvF h c0 E) E.c E.t ∧ stb.raft.raftLog.abs.snapIdx < E.c ∧
      ∃ Q, IsJointQuorum cfg Q ∧ ∀ j ∈ Q, (j = E.l ∧ E.c ≤ E.pE) ∨ Anet a.net j E.t E.c := by
  obtain ⟨a, b, sta, stb, ha, hb, hla, hlb, hs, ht, hc, e1, e2, e3⟩ := hE
  obtain ⟨hterm, Q, hQ, hq⟩ := H.toGHyp.commit_step E.nE a b ha hb E.l sta stb hla hlb hs hc
  have oa := node_ok H ha hla
  have ob := node_ok H hb hlb
  have Ib := (ghost_inv H (E.nE + 1) b hb).node E.l stb hlb
  have hc0 : c0 < E.c := by
    have := oa.snap_le
    have := c0_le_snap H ha hla
    omega
  -- the step keeps the snapshot point below the new commit index
  have hsb : stb.raft.raftLog.abs.snapIdx < E.c := by
    rw [e1]
    cases node_step H ha hb hla hlb with
    | same hl => rw [hl]; have := oa.snap_le; omega
    | grew es hg => rw [hg.abs]; have := oa.snap_le; show sta.raft.raftLog.abs.snapIdx < _; omega
    | acc m _ _ _ _ _ _ hsf _ => rw [hsf] at hs; cases hs
    | restart _ hsf _ => rw [hsf] at hs; cases hs
    | compacted k ho => rw [ho.committed] at hc; omega
    | restored m _ _ _ _ _ _ _ hsf _ => rw [hsf] at hs; cases hs
  have hev : EvF h c0 E = FL h c0 stb := by unfold EvF FL; rw [e2]
  refine ⟨a, b, sta, stb, ha, hb, hla, hlb, hs, ht, e1, e2, hev, e3, by rw [e1]; exact hc, hc0, ?_,
    hsb, Q, hQ, fun j hj => ?_⟩
  · -- the entry at the new commit index carries the leader's term
    rw [ob.inv.term_abs] at hterm
    have hle := ob.inv.committed_le_last
    rw [ob.inv.lastIndex_abs] at hle
    obtain ⟨e, he⟩ := stb.raft.raftLog.abs.entryAt_exists (i := stb.raft.raftLog.committed)
      (by rw [← e1]; exact hsb) hle
    rw [stb.raft.raftLog.abs.term_of_entry he] at hterm
    rw [hev, e1]
    exact ⟨e, Ib.log.entry he, by injection hterm with hterm; rw [hterm, ht]⟩
  · rw [e1, e3, ← ht]; exact hq j hj


end Snap5
end Cluster
end RaftModel
