import RaftProofs.ClusterCommitP
import RaftProofs.ClusterHistory

/-!
Cluster-level commit safety: the contract-abiding steps `KStep` with their contract (`Contract.k`,
`KStep.moved`); the first cluster invariant: every `matched` of a leader is backed by an accepting append
response in the transport (`MOKc`); and **provenance of messages**: whatever is in a queue or in the
transport was queued by a `call` / `deliver` step of its sender, and a fact `Φ n i x` established for the
state right after that step (index `n` of the history, node `i`) is available for the message ever after.
-/

namespace RaftModel
namespace Cluster
open Node Raft Raft.CC

/-- **a step of `ClusterSem` whose application obeys the storage and Ready contracts**: the four rules
of `Cluster.Step` with these extra premises —
* `call`: the log is never compacted (`compact` is not called: **proof gap**, see the report), and
  `commit_apply k` is called only for `k ≤ persisted` (the application records an applied index in its
  storage only for entries that are in that storage: `Ready` hands out committed entries up to
  `persisted + max_apply_unpersisted_log_limit`, default `0`) and only when term and vote are
  persisted (the `HardState` — term, vote, commit — is written as a whole: a commit index is never
  stored next to an older term);
* `send` (*persist before send*, the Ready contract for `persisted_messages`): a node that is not the
  leader hands its queue to the transport only when it has no unstable entries and no unstable
  snapshot — everything it may have acknowledged is in its storage; a leader's messages are sent
  immediately (its own acknowledgement is `on_persist_entries`). -/
inductive KStep : Sys → Sys → Prop where
  | call (s : Sys) (i : Nat) (st st' : NState) (rnd : Option Nat) (op : NodeOp) (res : OpRes) :
      s.node i = some st → appOp op = true → (∀ k, op ≠ .compact k) →
      (∀ k, op = .commitApply k → k ≤ st.raft.raftLog.persisted ∧ hsPersisted st) →
      Node.call st rnd op = .ok (res, st') →
      KStep s (s.setNode i st')
  | deliver (s : Sys) (i : Nat) (st st' : NState) (rnd : Option Nat) (m : Message) (res : OpRes) :
      s.node i = some st → m ∈ s.net → m.to = i → Node.call st rnd (.step m) = .ok (res, st') →
      KStep s (s.setNode i st')
  | send (s : Sys) (i : Nat) (st st' : NState) :
      s.node i = some st → hsPersisted st →
      (st.raft.state ≠ .leader →
        st.raft.raftLog.unstable.entries = [] ∧ st.raft.raftLog.unstable.snapshot = none) →
      Node.call st none .drain = .ok (.ok, st') →
      KStep s { (s.setNode i st') with net := s.net ++ st.raft.msgs }
  | restart (s : Sys) (i : Nat) (st st' : NState) (c : Config) (rnd : Option Nat) :
      s.node i = some st → c.id = i → Node.boot c st.raft.raftLog.store rnd = .ok (.ok st') →
      KStep s (s.setNode i st')

theorem KStep.cstep {s s' : Sys} (h : KStep s s') : CStep s s' := by
  cases h with
  | call i st st' rnd op res h1 h2 h3 _ h4 =>
    exact CStep.call s i st st' rnd op res h1 h2 (fun k hk => absurd hk (h3 k)) h4
  | deliver i st st' rnd m res h1 h2 h3 h4 => exact CStep.deliver s i st st' rnd m res h1 h2 h3 h4
  | send i st st' h1 h2 _ h3 => exact CStep.send s i st st' h1 h2 h3
  | restart i st st' c rnd h1 h2 h3 => exact CStep.restart s i st st' c rnd h1 h2 h3

theorem KStep.step {s s' : Sys} (h : KStep s s') : Step s s' := h.cstep.step

/-- the contract of `KStep` -/
def Contract.k : Contract :=
  ⟨fun st op _ => (∀ k, op ≠ .compact k) ∧
      ∀ k, op = .commitApply k → k ≤ st.raft.raftLog.persisted ∧ hsPersisted st,
   fun st => st.raft.state ≠ .leader →
      st.raft.raftLog.unstable.entries = [] ∧ st.raft.raftLog.unstable.snapshot = none,
   fun _ _ => True⟩

theorem KStep.moved {a b : Sys} (h : KStep a b) : ∃ k st st', Moved .k a b k st st' := by
  cases h with
  | call k st st' rnd op res h1 h2 h3 h5 h4 =>
    exact ⟨k, st, st', h1, rfl, .call rnd op res (.inl h2) ⟨h3, h5⟩ h4 rfl⟩
  | deliver k st st' rnd m res h1 h2 h3 h4 =>
    exact ⟨k, st, st', h1, rfl, .call rnd (.step m) res (.inr ⟨m, rfl, h2, h3⟩)
      ⟨fun _ hc => (by cases hc), fun _ hc => (by cases hc)⟩ h4 rfl⟩
  | send k st st' h1 h2 h2' h3 =>
    exact ⟨k, st, st', h1, rfl, .send h2 h2' (drain_state h3) rfl⟩
  | restart k st st' c rnd h1 h2 h3 =>
    exact ⟨k, st, st', h1, rfl, .restart c rnd h2 h3 trivial rfl⟩

/-- no `MsgSnapshot` is ever in the transport (**proof gap**: snapshots are not covered) -/
def NoSnapNet (s : Sys) : Prop := ∀ x ∈ s.net, x.msgType ≠ .msgSnapshot

/-- an accepting append response of `j` for term `t` (or without term) with index at least `x` is in
`net` -/
def Anet (net : List Message) (j t x : Nat) : Prop :=
  ∃ a ∈ net, isAck a ∧ a.frm = j ∧ (a.term = t ∨ a.term = 0) ∧ x ≤ a.index

theorem Anet.anti {net : List Message} : ∀ j t x y, y ≤ x → Anet net j t x → Anet net j t y :=
  fun _ _ _ _ hle ⟨a, h1, h2, h3, h4, h5⟩ => ⟨a, h1, h2, h3, h4, Nat.le_trans hle h5⟩

theorem Anet.mono {net net' : List Message} (hsub : ∀ x ∈ net, x ∈ net') {j t x : Nat}
    (h : Anet net j t x) : Anet net' j t x := by
  obtain ⟨a, h1, h2⟩ := h
  exact ⟨a, hsub a h1, h2⟩

theorem _root_.RaftModel.Raft.CC.MOK.mono {A B : Nat → Nat → Nat → Prop} {r : Raft} (h : MOK A r)
    (hab : ∀ j t x, A j t x → B j t x) : MOK B r :=
  ⟨fun hs j x hx => (h.h hs j x hx).imp (fun g => g) (fun g => g.imp (fun g => g) (hab _ _ _))⟩

/-- every node's `matched` values are backed by the transport -/
def MOKc (s : Sys) : Prop := ∀ i st, s.node i = some st → MOK (Anet s.net) st.raft

/-- the per-call relation of a `call` / `deliver` step, with the transport as backing -/
theorem kstep_g {s : Sys} {i : Nat} {st st' : NState} {rnd : Option Nat} {op : NodeOp} {res : OpRes}
    (hm : MOKc s) (hnb : NoBatch s) (hsn : NoSnapNet s) (hi : s.node i = some st)
    (hop : appOp op = true ∨ ∃ m, op = .step m ∧ m ∈ s.net)
    (h : Node.call st rnd op = .ok (res, st')) :
    G (Anet s.net) st.raft (CV.opMsg op) st'.raft := by
  have hop' : op ≠ .drain ∧ ∀ m, op ≠ .rstep m := by
    rcases hop with h1 | ⟨m, h1, _⟩
    · constructor
      · intro hc; rw [hc] at h1; cases h1
      · intro m hc; rw [hc] at h1; cases h1
    · rw [h1]
      exact ⟨(by intro hc; cases hc), (by intro m' hc; cases hc)⟩
  refine call_g (Anet s.net) Anet.anti st st' rnd op res (hnb i st hi) (hm i st hi) hop' ?_ ?_ h
  · intro m hm'
    rcases hop with h1 | ⟨m', h1, h2⟩
    · rw [hm'] at h1; cases h1
    · rw [hm'] at h1; cases h1; exact hsn m h2
  · intro m hm' t hack
    rcases hop with h1 | ⟨m', h1, h2⟩
    · rw [hm'] at h1; cases h1
    · rw [hm'] at h1; cases h1
      exact ⟨m, h2, ⟨hack.1, hack.2.1⟩, rfl, hack.2.2, Nat.le_refl _⟩

theorem MOKc.init {s : Sys} (h : Init s) : MOKc s := by
  intro i st hi
  obtain ⟨c, store, rnd, _, hb⟩ := h.2 i st hi
  have := CV.boot_booted c store rnd st hb
  exact ⟨fun hs => by rw [this.state] at hs; cases hs⟩

/-- **`MOKc` in every state of a history**, from what a call (or delivery) does to the matched table
of the node it is made on -/
theorem mokc_hist {C : Contract} (h : List Sys) (hh : History h)
    (moved : ∀ n a b, h[n]? = some a → h[n + 1]? = some b → ∃ k st st', Moved C a b k st st')
    (call : ∀ (n : Nat) (a : Sys) k st st' rnd op res, h[n]? = some a → MOKc a → a.node k = some st →
      (appOp op = true ∨ ∃ m, op = .step m ∧ m ∈ a.net) → C.call st op st' →
      Node.call st rnd op = .ok (res, st') → MOK (Anet a.net) st'.raft) :
    ∀ (n : Nat) (s : Sys), h[n]? = some s → MOKc s := fun n s hs =>
  (local_hist (C := C) (N := fun _ net _ st => MOK (Anet net) st.raft) (T := fun _ _ => True)
    h hh moved (fun hsub hm => hm.mono fun _ _ _ => Anet.mono hsub) (fun g => g) (fun g => g)
    (fun _ _ _ _ _ _ => trivial) (fun hm => ⟨hm.h⟩)
    (fun i st c store rnd _ hb =>
      ⟨fun hl => by rw [(CV.boot_booted c store rnd st hb).state] at hl; cases hl⟩)
    (fun n a _ k st st' rnd op res ha _ ihn _ hk _ _ hop hc hcall =>
      call n a k st st' rnd op res ha ihn hk (hop.imp (fun g => g) fun ⟨m, h1, h2, _⟩ => ⟨m, h1, h2⟩)
        hc hcall)
    (fun _ _ _ _ _ st' c rnd _ _ _ _ _ hb _ =>
      ⟨fun hl => by rw [(CV.boot_booted c _ rnd st' hb).state] at hl; cases hl⟩) n s hs).1

/-- **the leader's commit step**, from what the relation of the call says about the commit rule and
the matched table: the entry at the new commit index carries the leader's term, and a joint quorum of
the leader's voters has `matched` at least the new commit index, each of them accounted for: the leader
itself with `persisted`, or an accepting append response in the transport -/
theorem commit_of_lc {cfg : JointConfig} {net : List Message} {l : Nat} {sta stb : Raft}
    (hlc : stb.state = .leader → stb.raftLog.committed = sta.raftLog.committed ∨ LCok stb)
    (hmok : MOK (Anet net) stb) (hfix : stb.prs.voters = cfg) (hid : stb.id = l)
    (hs : stb.state = .leader) (hc : sta.raftLog.committed < stb.raftLog.committed) :
    stb.raftLog.term stb.raftLog.committed = .ok stb.term ∧
    ∃ Q, IsJointQuorum cfg Q ∧ ∀ j ∈ Q,
      (j = l ∧ stb.raftLog.committed ≤ stb.raftLog.persisted) ∨
      Anet net j stb.term stb.raftLog.committed := by
  rcases hlc hs with e | ⟨⟨Q, hQ, hQm⟩, hterm⟩
  · omega
  · refine ⟨hterm, Q, by rw [← hfix]; exact hQ, fun j hj => ?_⟩
    obtain ⟨x, hx, hle⟩ := hQm j hj
    rcases hmok.h hs j x hx with d | ⟨d1, d2⟩ | d
    · omega
    · left; exact ⟨d1.trans hid, Nat.le_trans hle d2⟩
    · right; exact Anet.anti _ _ _ _ hle d

/-! ### provenance of messages -/

/-- the queue of a freshly booted node is empty -/
theorem init_queue {s : Sys} (h : Init s) (i : Nat) (st : NState) (hi : s.node i = some st) :
    st.raft.msgs = [] := by
  obtain ⟨c, store, rnd, _, hb⟩ := h.2 i st hi
  exact (CV.boot_booted c store rnd st hb).msgs

/-- **provenance**: `K` selects the kind of message; the hypothesis `hfresh` says what a `call` /
`deliver` step establishes for every message of that kind it queues -/
theorem provenance (h : List Sys) (hh : History h)
    (hk : ∀ (n : Nat) (a b : Sys), h[n]? = some a → h[n + 1]? = some b → KStep a b)
    (K : Message → Prop)
    (Φ : Nat → Nat → Message → Prop)
    (hfresh : ∀ n a b i st st' rnd op res, h[n]? = some a → h[n + 1]? = some b →
      a.node i = some st → b.node i = some st' → Node.call st rnd op = .ok (res, st') →
      (appOp op = true ∨ ∃ m, op = .step m ∧ m ∈ a.net ∧ m.to = i) → (∀ j, op ≠ .compact j) →
      b.net = a.net →
      ∀ x ∈ st'.raft.msgs, K x → x ∈ st.raft.msgs ∨ Φ (n + 1) i x) :
    ∀ n s, h[n]? = some s →
      (∀ i st, s.node i = some st → ∀ x ∈ st.raft.msgs, K x → Gen Φ n i x) ∧
      (∀ x ∈ s.net, K x → ∃ i, Gen Φ n i x) :=
  hist_provenance h hh (fun n a b ha hb => (hk n a b ha hb).moved) K Φ
    fun n a b i st st' rnd op res ha hb hi hi' hcall hop hc =>
      hfresh n a b i st st' rnd op res ha hb hi hi' hcall hop hc.1

end Cluster
end RaftModel
