import RaftProofs.ClusterRead4P
import RaftProofs.ClusterRead4Q

/-!
Cluster-level ReadIndex safety for **forwarded** reads, part 4R: the concrete history `c08z_hist`
satisfies the WHOLE bundle `RdHypF` — `once`, `uniqc` and `nonempty` are discharged with the decidable
necessary conditions of part 4Q evaluated on every step: step 16 is the only step that can be read as the
delivery of a `MsgReadIndex`, step 14 the only one that can be read as a `read_index` call (of `[9]`).
-/
namespace RaftModel
namespace Cluster
open RaftProps.C02

/-- a check on the step `h[n] → h[n+1]` -/
def stepChk (h : List Sys) (f : Sys → Sys → Bool) (n : Nat) : Bool :=
  match h[n]?, h[n + 1]? with
  | some a, some b => f a b
  | _, _ => false

theorem stepChk_eq {h : List Sys} {f : Sys → Sys → Bool} {n : Nat} {a b : Sys}
    (h1 : h[n]? = some a) (h2 : h[n + 1]? = some b) : stepChk h f n = f a b := by
  simp [stepChk, h1, h2]

theorem range_all {N : Nat} {p : Nat → Bool} (h : (List.range N).all p = true) {n : Nat}
    (hn : n < N) : p n = true :=
  List.all_eq_true.1 h n (List.mem_range.2 hn)

/-- no step but step 16 can be read as the delivery of a `MsgReadIndex` -/
theorem c08z_dchk_all :
    (List.range 23).all (fun n => n == 16 || !stepChk c08z_hist R4.dChk n) = true := by
  decide +kernel

/-- no step but step 14 can be read as a `read_index` call -/
theorem c08z_rchk_all :
    (List.range 23).all (fun n => n == 14 || !stepChk c08z_hist R4.rChk n) = true := by
  decide +kernel

theorem c08z_len : c08z_hist.length = 24 := by decide

theorem c08z_deliver_at {n k : Nat} {m : Message} (hty : m.msgType = .msgReadIndex)
    (hd : DeliverAt c08z_hist n k m) : n = 16 := by
  obtain ⟨a, b, h1, h2, hc⟩ := R4.dChk_of_deliver c08z_hyp3w c08z_safe hty hd
  have hn : n < 23 := by
    have := (List.getElem?_eq_some_iff.1 h2).1
    rw [c08z_len] at this
    omega
  have := range_all c08z_dchk_all hn
  simp only [stepChk_eq h1 h2, hc, Bool.not_true, Bool.or_false, beq_iff_eq] at this
  exact this

theorem c08z_call_step {n i : Nat} {K : Bytes} (hc : ReadCallAt c08z_hist n i K) : n = 14 := by
  obtain ⟨a, b, h1, h2, hc⟩ := R4.rChk_of_call c08z_hyp3w c08z_safe hc
  have hn : n < 23 := by
    have := (List.getElem?_eq_some_iff.1 h2).1
    rw [c08z_len] at this
    omega
  have := range_all c08z_rchk_all hn
  simp only [stepChk_eq h1 h2, hc, Bool.not_true, Bool.or_false, beq_iff_eq] at this
  exact this

/-- the `read_index` call of step 14 is `read_index([9])` -/
theorem c08z_call_ctx {i : Nat} {K : Bytes} (hc : ReadCallAt c08z_hist 14 i K) : K = c08y_K := by
  obtain ⟨a, b, st, st', rnd, res, h1, h2, h3, hcall, h5⟩ := hc
  have e1 : c08z_hist[14]? = some c01x_s14 := rfl
  have e2 : c08z_hist[14 + 1]? = some c08y_s15 := rfl
  rw [e1] at h1; cases h1
  rw [e2] at h2; cases h2
  have hh : c08y_s15.nodes.head? = some (i, st') := by rw [h5]; rfl
  have hh2 : c08y_s15.nodes.head? = some (2, c08y_b7) := rfl
  rw [hh2] at hh
  injection hh with hh
  injection hh with hi hst
  subst hi; subst hst
  have e3 : c01x_s14.node 2 = some c01x_b6 := rfl
  rw [e3] at h3; cases h3
  cases Raft.RD.R4.call_riOut hcall with
  | frame hf => exact absurd hf.rd (by decide)
  | fwd _ _ _ hmsgs =>
    have m1 : c08y_b7.raft.msgs = [c08y_fwd] := by decide
    have m2 : c01x_b6.raft.msgs = [] := by decide
    rw [m1, m2] at hmsgs
    simp only [List.nil_append, List.cons.injEq, and_true] at hmsgs
    have q := (Raft.RD.R4.sendFill_ri c01x_b6.raft
      { msgType := .msgReadIndex, to := c01x_b6.raft.leaderId, entries := [{ data := K }] } rfl).2.1
    rw [← hmsgs] at q
    have q2 : c08y_fwd.entries = [{ data := c08y_K }] := by decide
    rw [q2] at q
    simp only [List.cons.injEq, and_true] at q
    exact (congrArg Entry.data q).symm
  | now hs => exact absurd hs (by decide)
  | reg hl _ _ _ _ _ => exact absurd hl (by decide)

/-- **the concrete history satisfies the whole bundle `RdHypF`** -/
theorem c08z_rdHypF : RdHypF c02x_cfg 0 c08z_hist :=
  { toHyp3w := c08z_hyp3w
    safe := c08z_safe
    once := fun n1 n2 _ _ hty d1 d2 => by
      rw [c08z_deliver_at hty d1, c08z_deliver_at hty d2]
    uniqc := fun n1 n2 _ _ _ c1 c2 => by
      rw [c08z_call_step c1, c08z_call_step c2]
    nonempty := fun n i K c => by
      have e := c08z_call_step c
      subst e
      rw [c08z_call_ctx c]
      decide }

end Cluster
end RaftModel
