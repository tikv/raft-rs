import RaftProofs.ClusterLogG

/-!
Cluster-level commit safety, part X: every `MsgAppend` queued by a call is a slice of the logical log
the call ends with (`call_q`; `call_lstep` of the Log Matching layer only says "of the log before or
after the call").
-/
namespace RaftModel
namespace Raft
namespace CC
open Node

/-- every queued `MsgAppend` was queued in `a` or is a sub-log of the logical log of `r` -/
def QF (a r : Raft) : Prop :=
  ∀ x ∈ r.msgs, x.msgType = .msgAppend → x ∈ a.msgs ∨ SubW x r.raftLog.abs

/-- how a call changes the logical log (no compaction, no snapshot): not at all, a leader appended
entries of its term, or the input was a `MsgAppend` -/
def LogRel (a r : Raft) (m : Message) : Prop :=
  r.raftLog.abs = a.raftLog.abs ∨ (∃ es, Appended a r es) ∨ m.msgType = .msgAppend

/-- both facts about a call -/
structure QL (a r : Raft) (m : Message) : Prop where
  q : QF a r
  l : LogRel a r m

theorem QL.of_same {a r : Raft} {m : Message} (h : ∀ x ∈ r.msgs, x ∈ a.msgs)
    (hl : r.raftLog.abs = a.raftLog.abs) : QL a r m := ⟨fun x hx _ => .inl (h x hx), .inl hl⟩

theorem QL.of_k0 {a r : Raft} {m : Message} (h : K0 a r) : QL a r m := ⟨h.qs.q, .inl h.abs⟩

theorem step_qf {r r' : Raft} {m : Message} {e : Option RaftError} (hinv : r.raftLog.Inv)
    (hnb : r.batchAppend = false) (hms : m.msgType ≠ .msgSnapshot)
    (hlk : ∀ x ∈ r'.msgs, x.msgType = .msgAppend → x ∈ r.msgs ∨ r'.state = .leader)
    (h : r.step m = .ok (r', e)) : QL r r' m := by
  rcases step_k hinv hnb h with c | ⟨_, _, _, _, es, _, c⟩ | ⟨_, _, c⟩ | ⟨hm, hr, r0, c1, c2, c3⟩ |
    ⟨hm, hr, c⟩
  · exact QL.of_k0 c
  · exact ⟨c.qs.q, .inr (.inl ⟨_, c.app⟩)⟩
  · exact ⟨c.qs.q, .inr (.inl ⟨_, c.app⟩)⟩
  · refine ⟨fun x hx hty => ?_, .inr (.inr hm)⟩
    rcases hlk x hx hty with g | g
    · exact .inl g
    · have hst : r'.state = .follower := by
        have := handleAppendEntries_frame c3 Frame.rfl
        rw [this.state]; exact c2
      rw [hst] at g; cases g
  · exact absurd hm hms

theorem QL.rebase {a a' r : Raft} {m : Message} (h : QL a' r m) (hm : a'.msgs = a.msgs)
    (hl : a'.raftLog = a.raftLog) (hs : a'.state = a.state) (ht : a'.term = a.term) : QL a r m := by
  refine ⟨fun x hx hty => by rw [← hm]; exact h.q x hx hty, ?_⟩
  rcases h.l with c | ⟨es, c⟩ | c
  · exact .inl (by rw [← hl]; exact c)
  · exact .inr (.inl ⟨es, ⟨c.ne, by rw [← hl]; exact c.abs, by rw [← hl]; exact c.contig, c.terms,
      by rw [← hl]; exact c.last, c.inv, by rw [← hl]; exact c.commit, c.leader⟩⟩)
  · exact .inr (.inr c)

theorem QL.retag {a r : Raft} {m m' : Message} (h : QL a r m) (hm : m.msgType ≠ .msgAppend) :
    QL a r m' :=
  ⟨h.q, h.l.imp (fun g => g) (fun g => g.imp (fun g => g) (fun g => absurd g hm))⟩

theorem tick_qf {r r' : Raft} {b : Bool} {m : Message} (hinv : r.raftLog.Inv) (hnb : r.batchAppend = false)
    (hlk : ∀ x ∈ r'.msgs, x.msgType = .msgAppend → x ∈ r.msgs ∨ r'.state = .leader)
    (h : r.tick = .ok (r', b)) : QL r r' m := by
  by_cases hs : r.state = .leader
  · exact QL.of_k0 (tick_leader_k hinv hnb hs h)
  · have hel : r.tickElection = .ok (r', b) := by
      unfold Raft.tick at h
      cases hst : r.state <;> rw [hst] at h <;> first | exact h | exact absurd hst hs
    unfold Raft.tickElection at hel
    simp only at hel
    split at hel
    · cases hel; exact QL.of_same (fun _ hx => hx) rfl
    · obtain ⟨r3, h3, hel⟩ := Res.bind_eq_ok hel
      cases hel
      obtain ⟨_, hs1⟩ := stepIgnore_inv h3
      have := step_qf (r := { r with electionElapsed := 0 }) hinv hnb (by intro hc; cases hc) hlk hs1
      exact (this.retag (by intro hc; cases hc)).rebase rfl rfl rfl rfl

/-- `stabilize` keeps the logical log (no pending snapshot) -/
theorem stabilize_abs {st st' : NState} {res : OpRes} (hinv : st.raft.raftLog.Inv)
    (hsn : st.raft.raftLog.unstable.snapshot = none) (h : Node.stabilize st = .ok (res, st')) :
    st'.raft.raftLog.abs = st.raft.raftLog.abs ∧ st'.raft.msgs = st.raft.msgs := by
  unfold Node.stabilize at h
  simp only [] at h
  split at h
  · rename_i l hl0
    have hl : st.raft.raftLog.stabilise = .ok l := hl0
    cases h
    obtain ⟨l2, e2, _, a2, _⟩ := RaftProps.C14.stabilise_ok hinv hsn
    rw [hl] at e2
    cases e2
    exact ⟨a2, rfl⟩
  · cases h
  · cases h

theorem nodeCommitApply_ql {st st' : NState} {m : Message} {k : Nat} {res : OpRes}
    (hinv : st.raft.raftLog.Inv) (h : Node.commitApply st k = .ok (res, st')) :
    QL st.raft st'.raft m := by
  unfold Node.commitApply at h
  simp only [] at h
  split at h
  · rename_i r2 hb
    obtain ⟨r1, h1, h2⟩ := Res.bind_eq_ok hb
    have hr1 : r1.raftLog = st.raft.raftLog ∧ r1.msgs = st.raft.msgs ∧ r1.state = st.raft.state ∧
        r1.term = st.raft.term := by
      have hred : ∀ ents, (st.raft.reduceUncommittedSize ents).raftLog = st.raft.raftLog ∧
          (st.raft.reduceUncommittedSize ents).msgs = st.raft.msgs ∧
          (st.raft.reduceUncommittedSize ents).state = st.raft.state ∧
          (st.raft.reduceUncommittedSize ents).term = st.raft.term := by
        intro ents
        unfold Raft.reduceUncommittedSize
        split <;> exact ⟨rfl, rfl, rfl, rfl⟩
      split at h1
      · split at h1
        · cases h1; exact hred _
        · cases h1; exact ⟨rfl, rfl, rfl, rfl⟩
        · cases h1
      · cases h1; exact ⟨rfl, rfl, rfl, rfl⟩
    obtain ⟨e1, e2, e3, e4⟩ := hr1
    have hinv1 : r1.raftLog.Inv := by rw [e1]; exact hinv
    unfold Raft.commitApply at h2
    have hq2 : QL r1 r2 m := by
      rcases commitApplyInternal_k hinv1 h2 with c | ⟨es, c⟩
      · exact QL.of_k0 c
      · exact ⟨c.qs.q, .inr (.inl ⟨es, c.app⟩)⟩
    have hq : QL st.raft r2 m := hq2.rebase e2 e1 e3 e4
    cases h
    split
    · exact ⟨hq.q, hq.l.imp (fun g => g) (fun g => g.imp (fun ⟨es, c⟩ => ⟨es, ⟨c.ne, c.abs, c.contig,
        c.terms, c.last, by
          exact (Inv_store_core c.inv ({ r2.raftLog.store with
            hardState := { r2.raftLog.store.hardState with commit := k },
            confState := st.appCs }) rfl rfl).1, c.commit, c.leader⟩⟩) (fun g => g))⟩
    · exact hq
  · cases h
  · cases h

theorem stepIgnore_qf {r r' : Raft} {m : Message} (hinv : r.raftLog.Inv)
    (hnb : r.batchAppend = false) (hms : m.msgType ≠ .msgSnapshot)
    (hlk : ∀ x ∈ r'.msgs, x.msgType = .msgAppend → x ∈ r.msgs ∨ r'.state = .leader)
    (h : r.stepIgnore m = .ok r') : QL r r' m :=
  stepIgnore_parts (P := fun r1 => QL r r1 m) h fun hs => step_qf hinv hnb hms hlk hs

/-- **every `MsgAppend` queued by a call is a slice of the log the call ends with** -/
theorem call_q (st st' : NState) (rnd : Option Nat) (op : NodeOp) (res : OpRes)
    (hinv : st.raft.raftLog.Inv) (hnb : st.raft.batchAppend = false)
    (hop : op ≠ .drain ∧ ∀ m, op ≠ .rstep m)
    (hms : ∀ m, op = .step m → m.msgType ≠ .msgSnapshot)
    (hnc : ∀ j, op ≠ .compact j) (hsn : st.raft.raftLog.unstable.snapshot = none)
    (hlk : ∀ x ∈ st'.raft.msgs, x.msgType = .msgAppend → x ∈ st.raft.msgs ∨ st'.raft.state = .leader)
    (h : Node.call st rnd op = .ok (res, st')) : QL st.raft st'.raft (CV.opMsg op) := by
  -- the call runs on the state with the random draw stored
  unfold Node.call at h
  generalize hst0 : ({ st with raft := { st.raft with nextRand := rnd } } : NState) = st0 at h
  have hinv' : st0.raft.raftLog.Inv := by rw [← hst0]; exact hinv
  have hnb' : st0.raft.batchAppend = false := by rw [← hst0]; exact hnb
  have hsn' : st0.raft.raftLog.unstable.snapshot = none := by rw [← hst0]; exact hsn
  have hlk' : ∀ x ∈ st'.raft.msgs, x.msgType = .msgAppend → x ∈ st0.raft.msgs ∨
      st'.raft.state = .leader := by rw [← hst0]; exact hlk
  refine QL.rebase (a' := st0.raft) ?_ (by rw [← hst0]) (by rw [← hst0]) (by rw [← hst0])
    (by rw [← hst0])
  have same : ∀ {m : Message}, QL st0.raft st0.raft m := QL.of_same (fun _ hx => hx) rfl
  cases applyOp_parts h with
  | tick hx => exact tick_qf hinv' hnb' hlk' hx
  | step hx =>
    rcases RawNode.step_inv hx with rfl | ⟨_, hx⟩
    · exact same
    · exact step_qf hinv' hnb' (hms _ rfl) hlk' hx
  | rstep => exact absurd rfl (hop.2 _)
  | propose hx | proposeCc hx | campaign hx =>
    exact (step_qf hinv' hnb' (by intro hc; cases hc) hlk' hx).retag (by intro hc; cases hc)
  | readIndex hx | transferLeader hx | reportUnreachable hx | reportSnapshot hx =>
    exact (stepIgnore_qf hinv' hnb' (by intro hc; cases hc) hlk' hx).retag (by intro hc; cases hc)
  | ping hx => exact QL.of_k0 (ping_k hx K.rfl hinv' hnb')
  | requestSnapshot hx => exact QL.of_k0 (requestSnapshot_k hx K.rfl hinv' hnb')
  | confChanged hx | confRefused hx => exact QL.of_k0 (applyConfChange_k hx K.rfl hinv' hnb')
  | stabilize hx =>
    obtain ⟨e1, e2⟩ := stabilize_abs hinv' hsn' hx
    exact QL.of_same (fun x hx => by rw [e2] at hx; exact hx) e1
  | onPersistEntries hx => exact QL.of_k0 (onPersistEntries_k hinv' hnb' hx)
  | persistSnap hx =>
    refine persistSnap_parts (Q := fun s => QL _ s.raft _) hx same fun hs _ _ _ => ?_
    rw [hsn'] at hs; cases hs
  | commitApply hx => exact nodeCommitApply_ql hinv' hx
  | compact => exact absurd rfl (hnc _)
  | drain => exact absurd rfl hop.1
  | triggerSnap | triggerLog | setPriority | setBatchAppend | skipBcastCommit | setCheckQuorum
  | maybeFreeInflightBuffers | clearCommitGroup | setMaxApplyUnpersistedLogLimit
  | setMaxCommittedSizePerReady =>
    exact QL.of_same (fun _ hx => hx) rfl
  | adjustMaxInflight hx => exact QL.of_k0 (adjustMaxInflightMsgs_k hx K.rfl hinv' hnb')
  | enableGroupCommit hx => exact QL.of_k0 (enableGroupCommit_k hx K.rfl hinv' hnb')
  | assignCommitGroups hx => exact QL.of_k0 (assignCommitGroups_k hx K.rfl hinv' hnb')
  | checkGroupCommitConsistent | staleFetch => exact same
  | fetched _ _ _ hx => exact QL.of_k0 (sendAppend_k hx K.rfl hinv' hnb')
  | fetchedAll _ _ _ hx => exact QL.of_k0 (sendAppendAggressively_k hx K.rfl hinv' hnb')

end CC
end Raft
end RaftModel
