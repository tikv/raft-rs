import RaftProofs.ClusterRead4D

/-!
Cluster-level ReadIndex safety with forwarded reads, helper lemmas part E: answering released requests
(`respond_read_states`), the acknowledge-and-advance block shared by `handle_heartbeat_response` and
`post_conf_change`, and these two handlers as `RInv`.
-/
namespace RaftModel
namespace Raft
namespace RD
namespace R4

/-- what `respond_read_states` does: only the read states (and `MsgReadIndexResp`s in the queue)
change; every new read state answers one of the released requests that was issued locally -/
structure RespOut (r0 : Raft) (rss : List ReadIndexStatus) (r : Raft) : Prop where
  ro : r.readOnly = r0.readOnly
  term : r.term = r0.term
  id : r.id = r0.id
  conf : r.prs.conf = r0.prs.conf
  msgs : ∀ x ∈ r.msgs, x ∈ r0.msgs ∨ ∃ s ∈ rss, x.msgType = .msgReadIndexResp ∧
    x.entries = s.req.entries ∧ x.index = s.index ∧ x.to = s.req.frm
  rs : ∀ x ∈ r.readStates, x ∈ r0.readStates ∨ ∃ s ∈ rss, (s.req.frm = 0 ∨ s.req.frm = r0.id) ∧
    reqCtx s.req = some x.requestCtx ∧ x.index = s.index

theorem sendFill_rir (r : Raft) (to index : Nat) (es : List Entry) :
    (r.sendFill { msgType := .msgReadIndexResp, to := to, index := index, entries := es }).msgType =
      .msgReadIndexResp ∧
    (r.sendFill { msgType := .msgReadIndexResp, to := to, index := index, entries := es }).entries = es ∧
    (r.sendFill { msgType := .msgReadIndexResp, to := to, index := index, entries := es }).index = index ∧
    (r.sendFill { msgType := .msgReadIndexResp, to := to, index := index, entries := es }).to = to := by
  unfold sendFill
  simp [isVoteMsg]

theorem respondReadStates_out (r0 : Raft) (rss : List ReadIndexStatus) :
    Res.Post (fun r => RespOut r0 rss r) (r0.respondReadStates rss) := by
  unfold respondReadStates
  apply foldl_post (fun r => RespOut r0 rss r)
    (fun (r : Raft) (rs : ReadIndexStatus) =>
      (r.handleReadyReadIndex rs.req rs.index).bind (fun (r, om) =>
        match om with
        | some m => r.send m
        | none => .ok r))
  · intro r s hs h
    dsimp only
    unfold handleReadyReadIndex
    split
    · rename_i hfrm
      split
      · trivial
      · rename_i e he
        simp only [Res.bind, Res.Post]
        refine ⟨h.ro, h.term, h.id, h.conf, h.msgs, fun x hx => ?_⟩
        rcases List.mem_append.1 hx with g | g
        · exact h.rs x g
        · right
          rw [List.mem_singleton.1 g]
          refine ⟨s, hs, ?_, ?_, rfl⟩
          · rw [← h.id]; exact hfrm
          · unfold reqCtx; rw [he]; rfl
    · simp only [Res.bind]
      apply Res.post_intro
      intro r' hsend
      rw [send_eq r r' _ hsend]
      refine ⟨h.ro, h.term, h.id, h.conf, ?_, h.rs⟩
      intro x hx
      have hx' : x ∈ r.msgs ++ [r.sendFill _] := hx
      rcases List.mem_append.1 hx' with g | g
      · exact h.msgs x g
      · rw [List.mem_singleton.1 g]
        obtain ⟨q1, q2, q3, q4⟩ := sendFill_rir r s.req.frm s.index s.req.entries
        exact .inr ⟨s, hs, q1, q2, q3, q4⟩
  · exact ⟨rfl, rfl, rfl, rfl, fun x hx => .inl hx, fun x hx => .inl hx⟩

/-- **acknowledge and advance**: `recv_ack(who, K)`, and — when the acknowledgements form a quorum —
`advance(K)` and `respond_read_states` -/
theorem ackRespond_rinv {a r : Raft} {m : Message} (h : RInv a m r) (who : Nat) (K : Bytes)
    (hwho : ∀ rs, (K, rs) ∈ r.readOnly.pendingReadIndex → who = a.id ∨ AckBy m who K a.term)
    {ro : ReadOnly} {oacks : Option (List Nat)} (hp : r.readOnly.recvAck who K = (ro, oacks)) :
    RInv a m { r with readOnly := ro } ∧
    ∀ acks, oacks = some acks → Tracker.hasQuorum r.prs.voters acks = true →
      Res.Post (fun x => RInv a m x)
        ((ro.advance K).bind (fun (ro', rss) =>
          ({ r with readOnly := ro' } : Raft).respondReadStates rss)) := by
  obtain ⟨s1, s2, s3, s4⟩ := recvAck_spec r.readOnly who K
  rw [hp] at s1 s2 s3 s4
  dsimp only at s1 s2 s3 s4
  -- the pending entries after `recv_ack`
  have hpend : ∀ K' rs, (K', rs) ∈ ro.pendingReadIndex → r.term = a.term ∧
      (∃ rs0, (K', rs0) ∈ a.readOnly.pendingReadIndex ∧ rs.req = rs0.req ∧ rs.index = rs0.index) ∧
      ∀ u ∈ rs.acks, AckOk a m K' u := by
    intro K' rs hm
    obtain ⟨⟨rs1, g1, g2, g3⟩, g4⟩ := s3 K' rs hm
    obtain ⟨k1, ⟨rs0, k2, k3, k4⟩, _⟩ := h.pend K' rs1 g1
    refine ⟨k1, ⟨rs0, k2, g2.trans k3, g3.trans k4⟩, fun u hu => ?_⟩
    rcases g4 u hu with ⟨e1, e2⟩ | ⟨rsA, q1, q2⟩
    · subst e2; subst e1
      rcases hwho rs1 g1 with c | c
      · exact .inl c
      · exact .inr (.inl c)
    · exact (h.pend K' rsA q1).2.2 u q2
  have h1 : RInv a m { r with readOnly := ro } :=
    ⟨h.id, h.tle, s1.trans h.opt, hpend, by show ∃ d, ro.readIndexQueue = _; rw [s2]; exact h.queue,
      h.conf, h.rst, h.msgs⟩
  refine ⟨h1, fun acks hacks hq => ?_⟩
  obtain ⟨rsA, a1, a2⟩ := s4 acks hacks
  have hacked : ∀ u ∈ acks, AckOk a m K u := by
    intro u hu
    rcases a2 u hu with c | c
    · subst c
      rcases hwho rsA a1 with c | c
      · exact .inl c
      · exact .inr (.inl c)
    · exact (h.pend K rsA a1).2.2 u c
  apply Res.post_intro
  intro r3 hr3
  obtain ⟨⟨ro', rss⟩, hadv, hresp⟩ := Res.bind_eq_ok hr3
  dsimp only at hresp
  obtain ⟨v1, ⟨d, v2⟩, v3, v4⟩ := advance_spec hadv
  have hout := Res.Post.of_eq (respondReadStates_out _ rss) hresp
  obtain ⟨d0, hd0⟩ := h.queue
  have hq' : ro'.readIndexQueue = a.readOnly.readIndexQueue.drop (d0 + d) := by
    rw [v2, s2, hd0, List.drop_drop]
  refine ⟨hout.id.trans h.id, by rw [hout.term]; exact h.tle, ?_, ?_, ?_, hout.conf.trans h.conf, ?_, ?_⟩
  · rw [hout.ro]; exact v1.trans (s1.trans h.opt)
  · intro K' rs hm
    rw [hout.ro] at hm
    rw [hout.term]
    exact hpend K' rs (v3 _ hm)
  · rw [hout.ro]; exact ⟨_, hq'⟩
  · intro x hx
    rcases hout.rs x hx with g | ⟨s, hs, g1, g2, g3⟩
    · exact h.rst x g
    · right; right
      obtain ⟨p, i, Kp, w1, w2, w3, w4⟩ := v4 s hs
      obtain ⟨_, ⟨rs0, k2, k3, k4⟩, _⟩ := hpend Kp s w4
      refine ⟨Kp, rs0, K, acks, d0 + p, d0 + i, k2, by rw [← k3]; exact g2, g3.trans k4, ?_, ?_, ?_,
        by omega, ?_, hacked⟩
      · rw [← k3]
        rcases g1 with c | c
        · exact .inl c
        · exact .inr (c.trans h.id)
      · rw [s2, hd0, List.getElem?_drop] at w3; exact w3
      · rw [s2, hd0, List.getElem?_drop] at w2; exact w2
      · have : r.prs.voters = a.prs.voters := by unfold ProgressTracker.voters; rw [h.conf]
        rw [← this]; exact hq
  · intro x hx
    rcases hout.msgs x hx with g | ⟨s, hs, g0, g1, g2, g3⟩
    · exact h.msgs x g
    · right; right; right; right
      obtain ⟨p, i, Kp, w1, w2, w3, w4⟩ := v4 s hs
      obtain ⟨_, ⟨rs0, k2, k3, k4⟩, _⟩ := hpend Kp s w4
      refine ⟨g0, Kp, rs0, K, acks, d0 + p, d0 + i, k2, by rw [← k3]; exact g1, g2.trans k4,
        by rw [← k3]; exact g3, ?_, ?_, by omega, ?_, hacked⟩
      · rw [s2, hd0, List.getElem?_drop] at w3; exact w3
      · rw [s2, hd0, List.getElem?_drop] at w2; exact w2
      · have : r.prs.voters = a.prs.voters := by unfold ProgressTracker.voters; rw [h.conf]
        rw [← this]; exact hq

/-! ### `handle_heartbeat_response` -/

theorem handleHeartbeatResponse_rinv {a r : Raft} {m : Message} (h : RInv a m r)
    (hty : m.msgType = .msgHeartbeatResponse) (hmt : m.term = 0 ∨ m.term = r.term) :
    Res.Post (fun x => RInv a m x) (r.handleHeartbeatResponse m) := by
  unfold handleHeartbeatResponse
  split
  · exact h
  · dsimp only
    apply Res.post_bind (P := fun _ => True)
    · split
      · split <;> trivial
      · trivial
    · intro pr1 _
      apply Res.post_bind (P := fun x => RInv a m x ∧ x.term = r.term)
      · split
        · exact Res.post_bind (sendAppendPr_rf r m.frm pr1) (fun x hx => by
            simp only [Res.Post]
            exact ⟨(h.rf hx).rf (set_rf _ _ _), hx.term⟩)
        · exact ⟨h.rf (set_rf _ _ _), rfl⟩
      · rintro r1 ⟨h1, ht1⟩
        split
        · exact h1
        · generalize hp : r1.readOnly.recvAck m.frm m.context = p
          obtain ⟨ro, oacks⟩ := p
          have hwho : ∀ rs, (m.context, rs) ∈ r1.readOnly.pendingReadIndex →
              m.frm = a.id ∨ AckBy m m.frm m.context a.term := by
            intro rs hrs
            right
            refine ⟨hty, rfl, rfl, ?_⟩
            have := (h1.pend _ rs hrs).1
            rcases hmt with c | c
            · exact .inr c
            · left; rw [c, ← ht1]; exact this
          obtain ⟨k1, k2⟩ := ackRespond_rinv h1 m.frm m.context hwho hp
          dsimp only
          split
          · exact k1
          · rename_i acks
            split
            · rename_i hq
              exact k2 acks rfl hq
            · exact k1

/-! ### `post_conf_change` -/

theorem postConfChange_rinv {a r : Raft} {m : Message} (h : RInv a m r) :
    Res.Post (fun x => RInv a m x.1) r.postConfChange := by
  unfold postConfChange
  dsimp only
  have h0 : ∀ b, RInv a m { r with promotable := b } := fun b => h.rf (by simp [RF, rcore])
  split
  · exact (h0 _).rs (becomeFollower_rs _ _ 0 (Nat.le_refl _))
  · split
    · exact h0 _
    · apply Res.post_bind (P := fun x => RInv a m x)
      · split
        · rename_i r1 heq
          have h1 := Res.Post.of_eq (P := fun x => RF _ x.1) (maybeCommit_rf _) heq
          exact Res.post_mono (bcastAppend_rf r1) (fun x hx => ((h0 _).rf h1).rf hx)
        · rename_i r1 heq
          have h1 := Res.Post.of_eq (P := fun x => RF _ x.1) (maybeCommit_rf _) heq
          refine Res.post_mono (forEachPeer_rf r1 _ ?_) (fun x hx => ((h0 _).rf h1).rf hx)
          intro r3 id pr
          exact Res.post_bind (maybeSendAppend_rf r3 id pr false) (fun a ha => ha)
        · trivial
        · trivial
      · intro r1 hr1
        apply Res.post_bind (P := fun x => RInv a m x)
        · split
          · exact hr1
          · rename_i ctx _
            generalize hp : r1.readOnly.recvAck r1.id ctx = p
            obtain ⟨ro, oacks⟩ := p
            obtain ⟨k1, k2⟩ := ackRespond_rinv hr1 r1.id ctx (fun _ _ => .inl hr1.id) hp
            dsimp only
            split
            · rename_i acks
              split
              · rename_i hq
                exact k2 acks rfl hq
              · exact k1
            · exact k1
        · intro r2 hr2
          simp only [Res.Post]
          split
          · split
            · exact hr2.rf (by simp [RF, rcore, abortLeaderTransfer])
            · exact hr2
          · exact hr2

end R4
end RD
end Raft
end RaftModel
