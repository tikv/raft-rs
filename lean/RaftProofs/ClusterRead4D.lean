import RaftProofs.ClusterRead4C

/-!
Cluster-level ReadIndex safety with forwarded reads, helper lemmas part D: the per-call invariant
`RInv a m r` of the read path ("`r` is an intermediate state of a call that started in `a` with input
`m`"), through `handle_heartbeat` and the heartbeat broadcasts.
-/
namespace RaftModel
namespace Raft
namespace RD
namespace R4

/-! ### the per-call invariant of the read path -/

/-- the delivered message is a heartbeat response of `u` for the context `K` and the term `t` (or one
without a term) -/
def AckBy (m : Message) (u : Nat) (K : Bytes) (t : Nat) : Prop :=
  m.msgType = .msgHeartbeatResponse ∧ m.frm = u ∧ m.context = K ∧ (m.term = t ∨ m.term = 0)

/-- who may be counted as having acknowledged `K` during a call that started in `a` with input `m`:
the node itself, the sender of the delivered heartbeat response, whoever was counted before -/
def AckOk (a : Raft) (m : Message) (K : Bytes) (u : Nat) : Prop :=
  u = a.id ∨ AckBy m u K a.term ∨ ∃ rsA, (K, rsA) ∈ a.readOnly.pendingReadIndex ∧ u ∈ rsA.acks

/-- the read state `x` answers a request `K` that was pending in `a`; it was released because the
joint quorum `acks` of `V` has acknowledged a request `Kack` that is not before `K` in the queue -/
def Ans (V : JointConfig) (a : Raft) (m : Message) (x : ReadState) : Prop :=
  ∃ (K : Bytes) (rs0 : ReadIndexStatus) (Kack : Bytes) (acks : List Nat) (p i : Nat),
    (K, rs0) ∈ a.readOnly.pendingReadIndex ∧ reqCtx rs0.req = some x.requestCtx ∧
    x.index = rs0.index ∧ (rs0.req.frm = 0 ∨ rs0.req.frm = a.id) ∧
    a.readOnly.readIndexQueue[p]? = some K ∧ a.readOnly.readIndexQueue[i]? = some Kack ∧ p ≤ i ∧
    Tracker.hasQuorum V acks = true ∧ ∀ u ∈ acks, AckOk a m Kack u

/-- a `MsgReadIndexResp` queued during the call answers a request `K` that was pending in `a` and was
filed by another node (`to = req.from`, `index` = the recorded read index, `entries` = those of the
request); it was released because the joint quorum `acks` of `V` has acknowledged a request `Kack` that
is not before `K` in the queue -/
def RirOk (V : JointConfig) (a : Raft) (m : Message) (x : Message) : Prop :=
  x.msgType = .msgReadIndexResp ∧
  ∃ (K : Bytes) (rs0 : ReadIndexStatus) (Kack : Bytes) (acks : List Nat) (p i : Nat),
    (K, rs0) ∈ a.readOnly.pendingReadIndex ∧ x.entries = rs0.req.entries ∧
    x.index = rs0.index ∧ x.to = rs0.req.frm ∧
    a.readOnly.readIndexQueue[p]? = some K ∧ a.readOnly.readIndexQueue[i]? = some Kack ∧ p ≤ i ∧
    Tracker.hasQuorum V acks = true ∧ ∀ u ∈ acks, AckOk a m Kack u

/-- `r` is an intermediate state of a call that started in `a` with input message `m` (which is not a
`MsgReadIndex` and not a `MsgSnapshot`) -/
structure RInv (a : Raft) (m : Message) (r : Raft) : Prop where
  id : r.id = a.id
  tle : a.term ≤ r.term
  opt : r.readOnly.option = a.readOnly.option
  pend : ∀ K rs, (K, rs) ∈ r.readOnly.pendingReadIndex → r.term = a.term ∧
    (∃ rs0, (K, rs0) ∈ a.readOnly.pendingReadIndex ∧ rs.req = rs0.req ∧ rs.index = rs0.index) ∧
    ∀ u ∈ rs.acks, AckOk a m K u
  queue : ∃ d, r.readOnly.readIndexQueue = a.readOnly.readIndexQueue.drop d
  conf : r.prs.conf = a.prs.conf
  rst : ∀ x ∈ r.readStates, x ∈ a.readStates ∨ m.msgType = .msgReadIndexResp ∨
    Ans a.prs.voters a m x
  msgs : ∀ x ∈ r.msgs, x ∈ a.msgs ∨ rdT x.msgType = false ∨ HbOk a x ∨ HbrOk a m x ∨
    RirOk a.prs.voters a m x

theorem RInv.refl (a : Raft) (m : Message) : RInv a m a :=
  ⟨rfl, Nat.le_refl _, rfl,
    fun _ rs h => ⟨rfl, ⟨rs, h, rfl, rfl⟩, fun _ hu => .inr (.inr ⟨rs, h, hu⟩)⟩,
    ⟨0, rfl⟩, rfl, fun _ h => .inl h, fun _ h => .inl h⟩

theorem RInv.rs {a r r' : Raft} {m : Message} (h : RInv a m r) (hs : RS r r') : RInv a m r' := by
  refine ⟨hs.id.trans h.id, Nat.le_trans h.tle hs.tle, hs.option.trans h.opt, ?_, ?_,
    hs.conf.trans h.conf, ?_, ?_⟩
  · intro K rs hm
    rcases hs.keep with ⟨g1, g2⟩ | g
    · rw [g1] at hm
      obtain ⟨k1, k2⟩ := h.pend K rs hm
      exact ⟨g2.trans k1, k2⟩
    · rw [g] at hm; cases hm
  · rcases hs.keep with ⟨g1, _⟩ | g
    · rw [g1]; exact h.queue
    · exact ⟨a.readOnly.readIndexQueue.length, by rw [g, List.drop_length]; rfl⟩
  · rw [hs.rs]; exact h.rst
  · intro x hx
    by_cases hr : rdT x.msgType = false
    · exact .inr (.inl hr)
    · have : x ∈ rdOf r'.msgs := mem_rdOf.2 ⟨hx, by simpa [isRd] using hr⟩
      rw [hs.rd] at this
      exact h.msgs x (mem_rdOf.1 this).1

theorem RInv.rf {a r r' : Raft} {m : Message} (h : RInv a m r) (hf : RF r r') : RInv a m r' :=
  h.rs hf.toRS

/-- what `send` fills into a heartbeat / heartbeat response built without sender -/
theorem sendFill_rd (r : Raft) (x : Message) (hf : x.frm = 0) (ht : rdT x.msgType = true) :
    (r.sendFill x).frm = r.id ∧ (x.msgType ≠ .msgReadIndex → (r.sendFill x).term = r.term) ∧
    (r.sendFill x).msgType = x.msgType ∧ (r.sendFill x).context = x.context := by
  unfold sendFill
  cases hm : x.msgType <;> rw [hm] at ht <;> simp_all [rdT, isVoteMsg]

/-- queueing one message -/
theorem RInv.send {a r r' : Raft} {m x : Message} (h : RInv a m r) (hsend : r.send x = .ok r')
    (hx : rdT x.msgType = false ∨ HbOk a (r.sendFill x) ∨ HbrOk a m (r.sendFill x)) :
    RInv a m r' := by
  rw [send_eq r r' x hsend]
  refine ⟨h.id, h.tle, h.opt, h.pend, h.queue, h.conf, h.rst, ?_⟩
  intro y hy
  rcases List.mem_append.1 hy with g | g
  · exact h.msgs y g
  · rw [List.mem_singleton.1 g]
    rcases hx with c | c | c
    · exact .inr (.inl (by rw [sendFill_msgType]; exact c))
    · exact .inr (.inr (.inl c))
    · exact .inr (.inr (.inr (.inl c)))

/-! ### `handle_heartbeat` -/

theorem handleHeartbeat_rinv {a r : Raft} {m : Message} (h : RInv a m r)
    (hm : m.msgType = .msgHeartbeat) :
    Res.Post (fun x => RInv a m x) (r.handleHeartbeat m) := by
  refine Res.post_intro fun r' hx => ?_
  obtain ⟨log, _, hs⟩ := handleHeartbeat_inv hx
  have h1 : RInv a m { r with raftLog := log } := h.rf (by simp [RF, rcore])
  rcases hs with ⟨_, hs⟩ | ⟨_, hs⟩
  · exact h1.rf ((sendRequestSnapshot_rf _).of_eq hs)
  · refine h1.send hs (.inr (.inr ?_))
    obtain ⟨f1, f2, f3, f4⟩ := sendFill_rd ({ r with raftLog := log } : Raft)
      { msgType := .msgHeartbeatResponse, to := m.frm, context := m.context,
        commit := log.committed } rfl rfl
    exact ⟨f3, hm, f4, f1.trans h.id, by rw [f2 (by simp)]; exact h.tle⟩

/-! ### broadcasting heartbeats -/

/-- `bcast_heartbeat_with_ctx`: only heartbeats with the given context are queued -/
theorem bcastHeartbeatWithCtx_out (r : Raft) (ctx : Option Bytes) :
    Res.Post (fun r' => rcore r' = rcore r ∧ ∀ x ∈ r'.msgs, x ∈ r.msgs ∨
        (x.msgType = .msgHeartbeat ∧ x.context = ctx.getD [])) (r.bcastHeartbeatWithCtx ctx) := by
  unfold bcastHeartbeatWithCtx
  apply forEachPeer_post (fun r' => rcore r' = rcore r ∧ ∀ x ∈ r'.msgs, x ∈ r.msgs ∨
        (x.msgType = .msgHeartbeat ∧ x.context = ctx.getD []))
  · intro r1 id pr h1
    unfold sendHeartbeat
    apply Res.post_bind (P := fun r' => rcore r' = rcore r ∧ ∀ x ∈ r'.msgs, x ∈ r.msgs ∨
        (x.msgType = .msgHeartbeat ∧ x.context = ctx.getD []))
    · apply Res.post_intro
      intro r2 hs
      rw [send_eq r1 r2 _ hs]
      refine ⟨h1.1, fun x hx => ?_⟩
      rcases List.mem_append.1 hx with g | g
      · exact h1.2 x g
      · rw [List.mem_singleton.1 g]
        obtain ⟨_, _, f3, f4⟩ := sendFill_rd r1
          { msgType := .msgHeartbeat, to := id, commit := min pr.matched r1.raftLog.committed,
            context := ctx.getD [] } rfl rfl
        exact .inr ⟨f3, f4⟩
    · intro x hx; exact hx
  · intro r1 id pr h1
    exact ⟨by rw [← h1.1]; simp [rcore, ProgressTracker.set], h1.2⟩
  · exact ⟨rfl, fun x hx => .inl hx⟩

theorem bcastHeartbeatWithCtx_rinv {a r : Raft} {m : Message} (h : RInv a m r)
    (ctx : Option Bytes) (hc : ctx.getD [] = [] ∨ ctx.getD [] ∈ a.readOnly.readIndexQueue) :
    Res.Post (fun x => RInv a m x) (r.bcastHeartbeatWithCtx ctx) := by
  apply Res.post_mono (bcastHeartbeatWithCtx_out r ctx)
  intro r' ⟨h1, h2⟩
  have e1 : r'.readOnly = r.readOnly := congrArg RCore.ro h1
  have e2 : r'.term = r.term := congrArg RCore.term h1
  have e3 : r'.readStates = r.readStates := congrArg RCore.rs h1
  have e4 : r'.id = r.id := congrArg RCore.id h1
  have e5 : r'.prs.conf = r.prs.conf := congrArg RCore.conf h1
  refine ⟨e4.trans h.id, by rw [e2]; exact h.tle, by rw [e1]; exact h.opt, ?_, by rw [e1]; exact h.queue,
    e5.trans h.conf, by rw [e3]; exact h.rst, ?_⟩
  · intro K rs hm
    rw [e1] at hm
    rw [e2]
    exact h.pend K rs hm
  · intro x hx
    rcases h2 x hx with g | ⟨g1, g2⟩
    · exact h.msgs x g
    · exact .inr (.inr (.inl ⟨g1, by rw [g2]; exact hc⟩))

theorem bcastHeartbeat_rinv {a r : Raft} {m : Message} (h : RInv a m r) :
    Res.Post (fun x => RInv a m x) r.bcastHeartbeat := by
  unfold bcastHeartbeat
  apply bcastHeartbeatWithCtx_rinv h
  unfold ReadOnly.lastPendingRequestCtx
  cases hl : r.readOnly.readIndexQueue.getLast? with
  | none => exact .inl rfl
  | some c =>
    right
    obtain ⟨d, hd⟩ := h.queue
    have : c ∈ r.readOnly.readIndexQueue := List.mem_of_getLast? hl
    rw [hd] at this
    exact List.mem_of_mem_drop this

end R4
end RD
end Raft
end RaftModel
