import RaftProps.C16

/-!
Cluster-level Log Matching, helper lemmas part F: role and term transitions of one call (`RT`): the
term never decreases; a node that is candidate of term `t` afterwards was candidate of `t` before or
had a smaller term; a node that is leader of `t` afterwards was leader or candidate of `t` before or
had a smaller term.  (So: once a node has left the candidate / leader roles of a term it can never
lead that term again without a restart.)
-/
namespace RaftModel
namespace Raft

structure RT (a r : Raft) : Prop where
  le : a.term ≤ r.term
  cand : r.state = .candidate → a.term < r.term ∨ (a.term = r.term ∧ a.state = .candidate)
  lead : r.state = .leader →
    a.term < r.term ∨ (a.term = r.term ∧ (a.state = .candidate ∨ a.state = .leader))

theorem RT.rfl {r : Raft} : RT r r :=
  ⟨Nat.le_refl _, fun h => .inr ⟨Eq.refl _, h⟩, fun h => .inr ⟨Eq.refl _, .inr h⟩⟩

theorem RT.trans {a b c : Raft} (h1 : RT a b) (h2 : RT b c) : RT a c := by
  refine ⟨Nat.le_trans h1.le h2.le, fun hc => ?_, fun hc => ?_⟩
  · rcases h2.cand hc with d | ⟨d1, d2⟩
    · left; have := h1.le; omega
    · rcases h1.cand d2 with e | ⟨e1, e2⟩
      · left; omega
      · right; exact ⟨e1.trans d1, e2⟩
  · rcases h2.lead hc with d | ⟨d1, d2⟩
    · left; have := h1.le; omega
    · rcases d2 with d2 | d2
      · rcases h1.cand d2 with e | ⟨e1, e2⟩
        · left; omega
        · right; exact ⟨e1.trans d1, .inl e2⟩
      · rcases h1.lead d2 with e | ⟨e1, e2⟩
        · left; omega
        · right; exact ⟨e1.trans d1, e2⟩

/-- a start state that differs in fields `RT` does not read -/
theorem RT.rebase {a r r' : Raft} (h : RT r r') (hs : r.state = a.state) (ht : r.term = a.term) :
    RT a r' := by
  refine ⟨by rw [← ht]; exact h.le, ?_, ?_⟩
  · rw [← ht, ← hs]; exact h.cand
  · rw [← ht, ← hs]; exact h.lead

theorem RT.ts {a r r' : Raft} (h0 : RT a r) (ht : r'.term = r.term) (hs : r'.state = r.state) :
    RT a r' :=
  ⟨by rw [ht]; exact h0.le, by rw [ht, hs]; exact h0.cand, by rw [ht, hs]; exact h0.lead⟩

theorem RT.frame {a r r' : Raft} (h0 : RT a r) (hf : Frame r r') : RT a r' :=
  h0.ts hf.term hf.state

/-- any state reached with a term not smaller, in the follower or pre-candidate role -/
theorem RT.quiet {a r r' : Raft} (h0 : RT a r) (ht : r.term ≤ r'.term)
    (hs : r'.state = .follower ∨ r'.state = .preCandidate) : RT a r' :=
  ⟨Nat.le_trans h0.le ht,
   fun h => (by rcases hs with hs | hs <;> rw [hs] at h <;> cases h),
   fun h => (by rcases hs with hs | hs <;> rw [hs] at h <;> cases h)⟩

theorem RT.raised {a r r' : Raft} (h0 : RT a r) (ht : r.term < r'.term) : RT a r' :=
  ⟨(by have := h0.le; omega), fun _ => .inl (by have := h0.le; omega),
   fun _ => .inl (by have := h0.le; omega)⟩

/-- from the candidate or leader role to the leader role at the same term -/
theorem RT.win {a r r' : Raft} (h0 : RT a r) (hs : r.state = .candidate ∨ r.state = .leader)
    (ht : r'.term = r.term) (hl : r'.state = .leader) : RT a r' := by
  refine ⟨(by rw [ht]; exact h0.le), fun h => (by rw [hl] at h; cases h), fun _ => ?_⟩
  rw [ht]
  rcases hs with hs | hs
  · rcases h0.cand hs with c | ⟨c1, c2⟩
    · exact .inl c
    · exact .inr ⟨c1, .inl c2⟩
  · exact h0.lead hs

theorem becomeFollower_rt {a r : Raft} (t l : Nat) (h0 : RT a r) (ht : r.term ≤ t) :
    RT a (r.becomeFollower t l) :=
  h0.quiet (by rw [(becomeFollower_term_vote r t l).1]; exact ht)
    (.inl (RaftProps.C16.becomeFollower_proj r t l).1)

theorem becomeFollower_same_rt {a r : Raft} (l : Nat) (h0 : RT a r) :
    RT a (r.becomeFollower r.term l) := becomeFollower_rt _ _ h0 (Nat.le_refl _)

theorem becomeLeader_rt {a r r' : Raft} (h : r.becomeLeader = .ok r') (h0 : RT a r)
    (hs : r.state ≠ .preCandidate) : RT a r' := by
  obtain ⟨h2, h1, _, _, hnf⟩ := VoteOb.c02_becomeLeader_spec h
  refine h0.win ?_ h1 h2
  cases hst : r.state
  · exact absurd hst hnf
  · exact .inl rfl
  · exact .inr rfl
  · exact absurd hst hs

theorem pollWith_rt {a r r' : Raft} {onPreWin : Raft → Res Raft} {frm : Nat} {t : MsgType}
    {v : Bool} {res : VoteResult}
    (hpre : ∀ r r', RT a r → onPreWin r = .ok r' → RT a r')
    (h0 : RT a r) (h : pollWith onPreWin r frm t v = .ok (r', res)) : RT a r' := by
  unfold Raft.pollWith at h
  simp only at h
  generalize hres : (r.prs.recordVote frm v).tallyVotes.2.2 = res0 at h
  have h0' : RT a ({ r with prs := r.prs.recordVote frm v } : Raft) := h0.frame (by frame_triv)
  cases res0 with
  | won =>
    simp only at h
    split at h
    · rw [Res.bind_eq_ok_iff] at h
      obtain ⟨r2, h1, h2⟩ := h
      cases h2
      exact hpre _ _ h0' h1
    · rename_i hpc
      rw [Res.bind_eq_ok_iff] at h
      obtain ⟨r2, h1, h2⟩ := h
      cases h2
      rw [Res.bind_eq_ok_iff] at h1
      obtain ⟨r3, h3, h4⟩ := h1
      exact (becomeLeader_rt h3 h0' hpc).frame (bcastAppend_frame h4 Frame.rfl)
  | lost =>
    simp only at h
    cases h
    exact becomeFollower_same_rt 0 h0'
  | pending =>
    simp only at h
    cases h
    exact h0'

theorem campaignWith_rt {a r r' : Raft}
    {poll : Raft → Nat → MsgType → Bool → Res (Raft × VoteResult)} {ct : CampaignType}
    (hpoll : ∀ r frm t v r' res, RT a r → poll r frm t v = .ok (r', res) → RT a r')
    (h0 : RT a r) (h : campaignWith poll r ct = .ok r') : RT a r' := by
  unfold Raft.campaignWith at h
  rw [Res.bind_eq_ok_iff] at h
  obtain ⟨⟨r1, vm, t⟩, h1, h2⟩ := h
  have hl1 : RT a r1 := by
    split at h1
    · rw [Res.bind_eq_ok_iff] at h1
      obtain ⟨r0, h3, h4⟩ := h1
      split at h4
      · cases h4
      · cases h4
        have := RaftProps.C16.becomePreCandidate_proj h3
        subst this
        exact h0.quiet (Nat.le_refl _) (.inr rfl)
    · rw [Res.bind_eq_ok_iff] at h1
      obtain ⟨r0, h3, h4⟩ := h1
      cases h4
      have e1 := (VoteOb.c02_becomeCandidate_spec h3).2.1
      exact h0.raised (by omega)
  simp only at h2
  rw [Res.bind_eq_ok_iff] at h2
  obtain ⟨⟨r2, res⟩, h5, h6⟩ := h2
  simp only at h6
  have hl2 := hpoll _ _ _ _ _ _ hl1 h5
  split at h6
  · cases h6; exact hl2
  · exact hl2.frame (RaftProps.C16.sendVoteRequests_frame h6 Frame.rfl)

theorem campaignAfterPreVote_rt {a r r' : Raft} (h0 : RT a r)
    (h : r.campaignAfterPreVote = .ok r') : RT a r' := by
  unfold Raft.campaignAfterPreVote at h
  refine campaignWith_rt ?_ h0 h
  intro r1 frm t v r2 res hl hp
  exact pollWith_rt (fun _ _ _ hc => by cases hc) hl hp

theorem poll_rt {a r r' : Raft} {frm : Nat} {t : MsgType} {v : Bool} {res : VoteResult}
    (h0 : RT a r) (h : r.poll frm t v = .ok (r', res)) : RT a r' := by
  unfold Raft.poll at h
  exact pollWith_rt (fun _ _ hl hc => campaignAfterPreVote_rt hl hc) h0 h

theorem campaign_rt {a r r' : Raft} {ct : CampaignType} (h0 : RT a r)
    (h : r.campaign ct = .ok r') : RT a r' := by
  unfold Raft.campaign at h
  exact campaignWith_rt (fun _ _ _ _ _ _ hl hp => poll_rt hl hp) h0 h

theorem hup_rt {a r r' : Raft} {tl : Bool} (h0 : RT a r) (h : r.hup tl = .ok r') : RT a r' :=
  hup_parts h h0 fun _ => campaign_rt h0

theorem maybeCommitByVote_rt {a r r' : Raft} {m : Message} (h : r.maybeCommitByVote m = .ok r')
    (h0 : RT a r) : RT a r' := by
  rcases RaftProps.C16.maybeCommitByVote_cases h Frame.rfl with c | c
  · exact h0.frame c
  · exact h0.quiet (by rw [c.term]; exact Nat.le_refl _) (.inl c.state)

theorem stepVote_rt {a r r' : Raft} {m : Message} (h : r.stepVote m = .ok r') (h0 : RT a r) :
    RT a r' := by
  have ho := (RaftProps.C16.stepVote_outcome h).1
  rcases ho.role with ⟨c1, _⟩ | ⟨_, c2, _⟩
  · exact ⟨by rw [ho.term]; exact h0.le, by rw [ho.term, c1]; exact h0.cand,
      by rw [ho.term, c1]; exact h0.lead⟩
  · exact h0.quiet (by rw [ho.term]; exact Nat.le_refl _) (.inl c2)

theorem stepTerm_rt {a r r' : Raft} {m : Message} {b : Bool} (h : r.stepTerm m = .ok (r', b))
    (h0 : RT a r) : RT a r' := by
  rcases RaftProps.C16.stepTerm_cases h with c | ⟨c, _, _, _, _, l, c2⟩
  · exact h0.frame c
  · rw [c2]; exact becomeFollower_rt _ _ h0 (by omega)

theorem stepLeader_rt {a r r' : Raft} {m : Message} {e : Option RaftError}
    (h : r.stepLeader m = .ok (r', e)) (h0 : RT a r) : RT a r' :=
  have key : ∀ {r2}, Frame r r2 → RT a r2 := h0.frame
  stepLeader_parts h h0
    (fun hb _ => key (bcastHeartbeat_frame hb Frame.rfl))
    (fun hq _ => key (checkQuorumActive_frame hq Frame.rfl))
    (fun _ p => becomeFollower_same_rt 0 p)
    (fun hf _ => key (filterProposal_frame _ _ _ _ _ hf Frame.rfl))
    (fun ha _ p => p.frame (appendEntry_frame ha Frame.rfl))
    (fun hb _ p => p.frame (bcastAppend_frame hb Frame.rfl))
    (fun hr _ => key (handleReadyReadIndex_frame hr Frame.rfl))
    (fun hs _ p => p.frame (send_frame hs Frame.rfl))
    (fun _ _ => key (Frame.mk' Frame.rfl))
    (fun hb _ p => p.frame (bcastHeartbeatWithCtx_frame hb Frame.rfl))
    (fun ha _ => key (handleAppendResponse_frame ha Frame.rfl))
    (fun hh _ => key (handleHeartbeatResponse_frame hh Frame.rfl))
    (fun _ => key (handleSnapshotStatus_frame Frame.rfl))
    (fun _ => key (handleUnreachable_frame Frame.rfl))
    (fun ht _ => key (handleTransferLeader_frame ht Frame.rfl))

theorem postConfChange_rt {r r' : Raft} {cs : ConfState}
    (h : r.postConfChange = .ok (r', cs)) : RT r r' :=
  postConfChange_split (Q := Frame r) h
    (fun _ _ => becomeFollower_same_rt 0 (RT.rfl.frame (Frame.mk' Frame.rfl)))
    (RT.rfl.frame (Frame.mk' Frame.rfl)) (fun _ => Frame.mk' Frame.rfl) maybeCommit_frame
    bcastAppend_frame maybeSendAppend_frame (fun _ _ => Frame.mk') (fun _ => Frame.mk')
    respondReadStates_frame (fun _ {_} q => RT.rfl.frame (Frame.mk' q)) fun _ {_} q => RT.rfl.frame q

theorem applyConfChange_rt {r r' : Raft} {cc : ConfChangeV2} {res : Except ErrKind ConfState}
    (h : r.applyConfChange cc = .ok (r', res)) : RT r r' :=
  applyConfChange_parts h RT.rfl (fun _ p => p.ts rfl rfl) fun h p => p.trans (postConfChange_rt h)

theorem restore_rt {a r r' : Raft} {snap : Snapshot} {b : Bool} (h : r.restore snap = .ok (r', b))
    (h0 : RT a r) : RT a r' :=
  restore_parts h h0 (fun _ => becomeFollower_rt _ _ h0 (Nat.le_succ _)) (fun _ _ => h0.ts rfl rfl)
    (fun _ _ _ => h0.ts rfl rfl) (fun _ => fun h p => p.trans (postConfChange_rt h))
    (fun _ p => p.ts rfl rfl)

theorem handleSnapshot_rt {a r r' : Raft} {m : Message} (h : r.handleSnapshot m = .ok r')
    (h0 : RT a r) : RT a r' :=
  handleSnapshot_parts h (restore_rt · h0) fun hs _ p => p.frame (send_frame hs Frame.rfl)

theorem stepFollower_rt {a r r' : Raft} {m : Message} {e : Option RaftError}
    (_hs : r.state = .follower) (h : r.stepFollower m = .ok (r', e)) (h0 : RT a r) : RT a r' :=
  stepFollower_parts h h0 (fun hs _ => h0.frame (send_frame hs Frame.rfl)) (h0.ts rfl rfl)
    (fun h _ p => p.frame (handleAppendEntries_frame h Frame.rfl))
    (fun h _ p => p.frame (handleHeartbeat_frame h Frame.rfl)) (fun h _ => handleSnapshot_rt h)
    (fun h _ _ => hup_rt h0 h) (fun _ _ => h0.ts rfl rfl)

theorem stepCandidate_rt {a r r' : Raft} {m : Message} {e : Option RaftError}
    (h : r.stepCandidate m = .ok (r', e)) (h0 : RT a r) : RT a r' :=
  stepCandidate_parts h h0 (fun ht => becomeFollower_rt _ _ h0 (Nat.le_of_eq ht))
    (fun h _ p => p.frame (handleAppendEntries_frame h Frame.rfl))
    (fun h _ p => p.frame (handleHeartbeat_frame h Frame.rfl)) (fun h _ => handleSnapshot_rt h)
    (fun h _ _ => poll_rt h0 h) maybeCommitByVote_rt

/-- **`Raft::step`: role and term transitions** -/
theorem step_rt {r r' : Raft} {m : Message} {e : Option RaftError}
    (h : r.step m = .ok (r', e)) : RT r r' :=
  step_parts h (stepTerm_rt · RT.rfl) (fun h _ p => hup_rt p h) stepVote_rt
    (fun h _ p => stepCandidate_rt h p) (fun h st p => stepFollower_rt st h p)
    (fun h _ p => stepLeader_rt h p)

theorem stepIgnore_rt {r r' : Raft} {m : Message} (h : r.stepIgnore m = .ok r') : RT r r' :=
  stepIgnore_parts h step_rt

theorem tick_rt {r r' : Raft} {b : Bool} (h : r.tick = .ok (r', b)) : RT r r' :=
  tick_parts h
    (tickElection_parts · (fun _ => RT.rfl.ts rfl rfl) fun h _ _ p => p.trans (stepIgnore_rt h))
    (tickHeartbeat_parts · (fun _ _ p => p.ts rfl rfl) RT.rfl
      (fun h _ _ _ p => p.trans (stepIgnore_rt h)) (fun h _ _ _ p => p.trans (stepIgnore_rt h))
      fun p => p.ts rfl rfl)

end Raft
end RaftModel
