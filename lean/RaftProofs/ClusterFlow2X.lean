import RaftProofs.ClusterFlow2A

/-!
Flow control / leadership transfer with compaction, snapshots and `request_snapshot` (C13d / C17d),
part 2X: **a concrete history** (kernel-evaluated) that satisfies `Snap5.Hyp3r` and has a
`MsgHeartbeat` and a `MsgTimeoutNow` in its transport.

The 42-state history `Snap5.rx_hist` of `ClusterSnap5Z.lean` (compaction at node 1, a snapshot for the
late node 3, `request_snapshot` at node 2 served by a second snapshot) holds `MsgAppend`s but no
`MsgHeartbeat` and no `MsgTimeoutNow`.  It is continued by four steps of node 1 (leader of term 1, log
compacted to index 1, last index 2, commit index 2):

* `ping`: queues `MsgHeartbeat`s — the one for node 2 advertises commit index `2` (`matched = 2`), the
  one for node 3 commit index `1` (`matched = 1`);
* `send`;
* `transfer_leader(2)`: node 2 has `matched = 2 = last_index`, so a `MsgTimeoutNow` for node 2 is queued
  at once;
* `send`.
-/
namespace RaftModel
namespace Cluster
namespace Snap5
namespace Flow2
open Node Raft Raft.CC RaftProps.C02 RaftProps.C05 Snap

def fx_a21 := c02x_st (Node.call rx_a20 none .ping)
def fx_a22 := c02x_st (Node.call fx_a21 none .drain)
def fx_a23 := c02x_st (Node.call fx_a22 none (.transferLeader 2))
def fx_a24 := c02x_st (Node.call fx_a23 none .drain)

/-- the heartbeat of node 1 for node 2 (commit index 2) -/
def fx_hb := fx_a21.raft.msgs.head!
/-- the heartbeat of node 1 for node 3 (commit index 1) -/
def fx_hb3 := fx_a21.raft.msgs.tail.head!
/-- the `MsgTimeoutNow` of node 1 for node 2 -/
def fx_tn := fx_a23.raft.msgs.head!

def fx_t1 : Sys := rx_t8.setNode 1 fx_a21
def fx_t2 : Sys := { (fx_t1.setNode 1 fx_a22) with net := fx_t1.net ++ fx_a21.raft.msgs }
def fx_t3 : Sys := fx_t2.setNode 1 fx_a23
def fx_t4 : Sys := { (fx_t3.setNode 1 fx_a24) with net := fx_t3.net ++ fx_a23.raft.msgs }

def fx_tail : List Sys := [fx_t1, fx_t2, fx_t3, fx_t4]

/-- the 46-state history -/
def fx_hist : List Sys := rx_hist ++ fx_tail

def fx_moves : List Move :=
  [.call 1 rx_a20 .ping, .send 1 fx_a21, .call 1 fx_a22 (.transferLeader 2), .send 1 fx_a23]

/-- **the history, run once**: the step tests of the four moves and the test of the new states, and
everything the statements at the end read off the history -/
theorem fx_eval :
    (Move.all (fun s mv => mv.ok s && mv.okC && mv.okPersist && mv.okSnap && rx_chk (mv.next s)) rx_t8
      fx_moves && rx_chk rx_t8) = true ∧
    (9 < sx_t11.net.length ∧ 7 < sx_t11.net.length ∧ fx_a21.raft.msgs ≠ [] ∧
      fx_a23.raft.msgs ≠ [] ∧ c02x_ok (Node.call fx_a22 none (.transferLeader 2)) = true) ∧
    (rx_app.msgType = .msgAppend ∧ rx_app.frm = 1 ∧ rx_app.to = 2 ∧
      rx_app.term = 1 ∧ rx_app.commit = 2) ∧
    (sx_t11.net[7]!.msgType = .msgAppend ∧
      sx_t11.net[7]!.entries ≠ [] ∧ sx_t11.net[7]!.frm = 1 ∧ sx_t11.net[7]!.commit = 1) ∧
    (fx_hb.msgType = .msgHeartbeat ∧ fx_hb.frm = 1 ∧ fx_hb.to = 2 ∧
      fx_hb.term = 1 ∧ fx_hb.commit = 2) ∧
    (fx_tn.msgType = .msgTimeoutNow ∧ fx_tn.frm = 1 ∧ fx_tn.to = 2 ∧
      fx_tn.term = 1) ∧
    (fx_a23.raft.state = .leader ∧ fx_a23.raft.term = 1 ∧
      fx_a23.raft.raftLog.lastIndex = 2 ∧ fx_a23.raft.raftLog.abs.snapIdx = 1 ∧
      (fx_a23.raft.prs.get 2).map (·.matched) = some 2) ∧
    fx_a22.raft.raftLog.abs.snapIdx = 1 ∧
    rx_snap ∈ rx_t8.net ∧ rx_snap.msgType = .msgSnapshot ∧ rx_snap.to = 2 := by
  decide +kernel

theorem fx_checked : Chained KStep (rx_t8 :: fx_tail) ∧ ∀ s ∈ rx_t8 :: fx_tail, rx_chk s = true :=
  Move.checked Move.kstep5 rx_t8 fx_moves rfl fx_eval.1

theorem fx_tail_steps : Chained KStep (rx_t8 :: fx_tail) := fx_checked.1

theorem fx_ksteps : Chained KStep fx_hist :=
  chained_append_last (s := rx_t8) rfl rx_ksteps fx_tail_steps

theorem fx_history : History fx_hist := history_of_chained (fun _ _ hc => hc.step) _ fx_ksteps

theorem fx_chk_tail : ∀ s ∈ fx_tail, rx_chk s = true :=
  fun s hs => fx_checked.2 s (List.mem_cons_of_mem _ hs)

theorem fx_all (s : Sys) (hs : s ∈ fx_hist) :
    FixedCfg c02x_cfg s ∧ NoBatch s ∧ (∀ x ∈ s.net, sx_msgOk x) ∧ ReqOk s := by
  rcases List.mem_append.1 hs with c | c
  · exact rx_all s c
  · exact rx_chk_ok s (fx_chk_tail s c)

/-- **`Snap5.Hyp3`** for a history over `c02x_cfg` that starts in `c02x_s0`, proceeds by `Snap5.KStep`s
and whose states pass the check of the test histories of the snapshot layer -/
theorem sx_hyp3_of {h : List Sys} (hh : History h) (hk : Chained KStep h) (h0 : h[0]? = some c02x_s0)
    (hall : ∀ s ∈ h, FixedCfg c02x_cfg s ∧ NoBatch s ∧ (∀ x ∈ s.net, sx_msgOk x) ∧ ReqOk s) :
    Hyp3 c02x_cfg 0 h := by
  have H := sx_hyp3
  have h0' : sx_hist[0]? = some c02x_s0 := rfl
  have at0 : ∀ {P : Sys → Prop}, (∀ s, sx_hist[0]? = some s → P s) → ∀ s, h[0]? = some s → P s := by
    intro P hp s hs
    rw [h0] at hs; cases hs
    exact hp _ h0'
  exact ⟨⟨⟨hh, fun s hs => (hall s hs).1, H.ne, H.nd1, H.nd2, at0 H.init,
    chained_at _ hk, fun s hs => (hall s hs).2.1, fun s hs => (hall s hs).2.2.2⟩,
    H.nolone, at0 H.first0, at0 H.initc, fun s hs x hx => ((hall s hs).2.2.1 x hx).1, at0 H.pend0⟩,
    fun s hs x hx => ((hall s hs).2.2.1 x hx).2.1, at0 H.snapt0,
    fun s hs x hx => ((hall s hs).2.2.1 x hx).2.2⟩

/-- **the history satisfies `Snap5.Hyp3r`** (the bundle of `RaftProps/C01j.lean`) -/
theorem fx_hyp3r : Hyp3r c02x_cfg 0 fx_hist :=
  (Hyp3a.toHyp3w (Hyp3.toHyp3a (sx_hyp3_of fx_history fx_ksteps rfl fx_all))).toHyp3r

/-! ### what the history holds -/

theorem fx_s33 : fx_hist[33]? = some sx_t11 := rfl
theorem fx_s43 : fx_hist[43]? = some fx_t2 := rfl
theorem fx_s45 : fx_hist[45]? = some fx_t4 := rfl

/-- the empty `MsgAppend` of node 1 for node 2 with commit index 2 (`rx_app`) is in the transport of
`h[33]` -/
theorem fx_app_mem : rx_app ∈ sx_t11.net := getIdx_mem _ 9 fx_eval.2.1.1

theorem fx_app_facts : rx_app.msgType = .msgAppend ∧ rx_app.frm = 1 ∧ rx_app.to = 2 ∧
    rx_app.term = 1 ∧ rx_app.commit = 2 :=
  fx_eval.2.2.1

/-- an entry-carrying `MsgAppend` of node 1 is in the transport of `h[33]` too -/
theorem fx_app1_facts : sx_t11.net[7]! ∈ sx_t11.net ∧ sx_t11.net[7]!.msgType = .msgAppend ∧
    sx_t11.net[7]!.entries ≠ [] ∧ sx_t11.net[7]!.frm = 1 ∧ sx_t11.net[7]!.commit = 1 :=
  ⟨getIdx_mem _ 7 fx_eval.2.1.2.1, fx_eval.2.2.2.1⟩

/-- the heartbeat for node 2 is in the transport of `h[43]`, advertising commit index `2 > c0` -/
theorem fx_hb_mem : fx_hb ∈ fx_t2.net :=
  List.mem_append_right _ (c02x_head_mem _ fx_eval.2.1.2.2.1)

theorem fx_hb_facts : fx_hb.msgType = .msgHeartbeat ∧ fx_hb.frm = 1 ∧ fx_hb.to = 2 ∧
    fx_hb.term = 1 ∧ fx_hb.commit = 2 :=
  fx_eval.2.2.2.2.1

/-- the `MsgTimeoutNow` for node 2 is in the transport of `h[45]` -/
theorem fx_tn_mem : fx_tn ∈ fx_t4.net :=
  List.mem_append_right _ (c02x_head_mem _ fx_eval.2.1.2.2.2.1)

/-- the call that queued it -/
theorem fx_tn_call : fx_tn ∈ fx_a23.raft.msgs ∧
    ∃ res, Node.call fx_a22 none (.transferLeader 2) = .ok (res, fx_a23) :=
  ⟨c02x_head_mem _ fx_eval.2.1.2.2.2.1, _, c02x_out _ fx_eval.2.1.2.2.2.2⟩

theorem fx_tn_facts : fx_tn.msgType = .msgTimeoutNow ∧ fx_tn.frm = 1 ∧ fx_tn.to = 2 ∧
    fx_tn.term = 1 :=
  fx_eval.2.2.2.2.2.1

/-- node 1, when it queued the `MsgTimeoutNow`: leader of term 1, log compacted (snapshot point 1),
last index 2, `matched = 2` for node 2 -/
theorem fx_a23_facts : fx_a23.raft.state = .leader ∧ fx_a23.raft.term = 1 ∧
    fx_a23.raft.raftLog.lastIndex = 2 ∧ fx_a23.raft.raftLog.abs.snapIdx = 1 ∧
    (fx_a23.raft.prs.get 2).map (·.matched) = some 2 :=
  fx_eval.2.2.2.2.2.2.1

/-- node 1's log is compacted when it sends the heartbeat, and the `MsgSnapshot` for node 2 is in the
transport of the last state of `rx_hist` -/
theorem fx_snap_facts : fx_a22.raft.raftLog.abs.snapIdx = 1 ∧
    rx_snap ∈ rx_t8.net ∧ rx_snap.msgType = .msgSnapshot ∧ rx_snap.to = 2 :=
  fx_eval.2.2.2.2.2.2.2

end Flow2
end Snap5
end Cluster
end RaftModel
