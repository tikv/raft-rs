import RaftModel.ConfChange

/-!
Helper lemmas for C12 (configuration-change algebra): sorted-list sets, counting (pigeonhole) lemmas
for quorum overlap, the key set an `IncrChangeMap` stands for, the loop invariant `LI` of
`Changer::apply`, the effect of changes of one type on membership (`Moves`: a change touches its own
id only and puts it into the set its type names), the closed forms of `simple` / `enter_joint` /
`leave_joint` on a consistent tracker, and the `restore` round trip.
-/
namespace RaftProofs.ConfChange
open RaftModel

/-! ## sorted duplicate-free lists as sets -/

/-- the representation invariant of a `NatSet` -/
def Sorted (s : List Nat) : Prop := s.Pairwise (· < ·)

theorem Sorted.nodup {s : List Nat} (h : Sorted s) : s.Nodup :=
  List.Pairwise.imp (fun hab => Nat.ne_of_lt hab) h

theorem sorted_nil : Sorted [] := List.Pairwise.nil

theorem mem_insert {x y : Nat} {s : List Nat} : y ∈ NatSet.insert x s ↔ y = x ∨ y ∈ s := by
  induction s with
  | nil => simp [NatSet.insert]
  | cons a s ih =>
    simp only [NatSet.insert]
    split
    · simp
    · split
      · subst_vars; simp
      · simp [ih]
        constructor
        · rintro (h | h | h) <;> simp [h]
        · rintro (h | h | h) <;> simp [h]

theorem sorted_insert {x : Nat} {s : List Nat} (h : Sorted s) : Sorted (NatSet.insert x s) := by
  induction s with
  | nil => simp [NatSet.insert, Sorted]
  | cons a s ih =>
    simp only [NatSet.insert]
    have h' := List.pairwise_cons.mp h
    split
    · rename_i hxa
      refine List.pairwise_cons.mpr ⟨?_, h⟩
      intro b hb
      rcases List.mem_cons.mp hb with hb | hb
      · subst hb; exact hxa
      · exact Nat.lt_trans hxa (h'.1 b hb)
    · split
      · exact h
      · rename_i h1 h2
        refine List.pairwise_cons.mpr ⟨?_, ih h'.2⟩
        intro b hb
        rcases mem_insert.mp hb with hb | hb
        · subst hb; omega
        · exact h'.1 b hb

theorem mem_erase {x y : Nat} {s : List Nat} : y ∈ NatSet.erase x s ↔ y ∈ s ∧ y ≠ x := by
  simp [NatSet.erase]

theorem sorted_erase {x : Nat} {s : List Nat} (h : Sorted s) : Sorted (NatSet.erase x s) :=
  List.Pairwise.filter _ h

/-- two sorted lists with the same members are equal -/
theorem sorted_ext {a b : List Nat} (ha : Sorted a) (hb : Sorted b)
    (h : ∀ x, x ∈ a ↔ x ∈ b) : a = b :=
  List.Perm.eq_of_pairwise (fun _ _ _ _ hab hba => absurd hab (Nat.lt_asymm hba)) ha hb
    ((List.perm_ext_iff_of_nodup ha.nodup hb.nodup).mpr h)

theorem insert_of_mem {x : Nat} {s : List Nat} (hs : Sorted s) (hx : x ∈ s) : NatSet.insert x s = s :=
  sorted_ext (sorted_insert hs) hs (fun y => by
    rw [mem_insert]; constructor
    · rintro (h | h)
      · subst h; exact hx
      · exact h
    · exact Or.inr)

theorem erase_of_not_mem {x : Nat} {s : List Nat} (hx : x ∉ s) : NatSet.erase x s = s := by
  simp only [NatSet.erase]
  apply List.filter_eq_self.mpr
  intro a ha
  simp
  intro h; subst h; exact hx ha

theorem mem_union {y : Nat} {a b : List Nat} : y ∈ NatSet.union a b ↔ y ∈ a ∨ y ∈ b := by
  simp only [NatSet.union]
  induction b generalizing a with
  | nil => simp
  | cons x b ih =>
    simp only [List.foldl_cons, ih, mem_insert, List.mem_cons]
    constructor
    · rintro ((h | h) | h) <;> simp [h]
    · rintro (h | h | h) <;> simp [h]

theorem sorted_union {a b : List Nat} (ha : Sorted a) : Sorted (NatSet.union a b) := by
  simp only [NatSet.union]
  induction b generalizing a with
  | nil => simpa using ha
  | cons x b ih => exact ih (sorted_insert ha)

theorem mem_ofList {y : Nat} {l : List Nat} : y ∈ NatSet.ofList l ↔ y ∈ l := by
  have := @mem_union y [] l
  simpa [NatSet.union, NatSet.ofList] using this

theorem sorted_ofList {l : List Nat} : Sorted (NatSet.ofList l) :=
  @sorted_union [] l sorted_nil

theorem union_nil_left {b : List Nat} (hb : Sorted b) : NatSet.union [] b = b :=
  sorted_ext (sorted_union sorted_nil) hb (fun x => by simp [mem_union])

/-! ## counting: duplicate-free sublists, pigeonhole, majorities -/

theorem length_filter_add_filter_not (p : Nat → Bool) (l : List Nat) :
    (l.filter p).length + (l.filter (fun x => !p x)).length = l.length := by
  induction l with
  | nil => rfl
  | cons a l ih =>
    simp only [List.filter_cons]
    cases p a <;> simp <;> omega

/-- pigeonhole: two predicates that together hold more often than `U` is long meet on `U` -/
theorem pigeonhole (U : List Nat) (p q : Nat → Bool)
    (h : U.length < (U.filter p).length + (U.filter q).length) :
    ∃ x ∈ U, p x = true ∧ q x = true := by
  induction U with
  | nil => simp at h
  | cons a U ih =>
    by_cases hpq : p a = true ∧ q a = true
    · exact ⟨a, by simp, hpq⟩
    · have : U.length < (U.filter p).length + (U.filter q).length := by
        simp only [List.filter_cons, List.length_cons] at h
        cases hp : p a <;> cases hq : q a <;> simp [hp, hq] at h hpq <;> omega
      obtain ⟨x, hx, hpx⟩ := ih this
      exact ⟨x, List.mem_cons_of_mem _ hx, hpx⟩

/-- `util::majority` -/
def majority (n : Nat) : Nat := n / 2 + 1

/-- `q` contains a majority of the (duplicate-free) voter list `v` -/
def HasMajority (q v : List Nat) : Prop :=
  majority v.length ≤ (v.filter (fun x => decide (x ∈ q))).length

instance (q v : List Nat) : Decidable (HasMajority q v) := by
  unfold HasMajority; exact inferInstance

/-- **Majorities of the same voter set intersect** (counting form): any two sets that each contain
`n/2+1` of the `n` voters share a voter. -/
theorem majorities_intersect {v q₁ q₂ : List Nat}
    (h₁ : HasMajority q₁ v) (h₂ : HasMajority q₂ v) : ∃ x ∈ v, x ∈ q₁ ∧ x ∈ q₂ := by
  unfold HasMajority majority at h₁ h₂
  have := pigeonhole v (fun x => decide (x ∈ q₁)) (fun x => decide (x ∈ q₂)) (by omega)
  simpa using this

/-- the same for explicit sub-lists: two duplicate-free sub-lists of `v`, each of size ≥ `|v|/2+1`,
share an element -/
theorem majorities_intersect_sublists {v q₁ q₂ : List Nat}
    (hn₁ : q₁.Nodup) (hn₂ : q₂.Nodup) (hs₁ : ∀ x ∈ q₁, x ∈ v) (hs₂ : ∀ x ∈ q₂, x ∈ v)
    (h₁ : majority v.length ≤ q₁.length) (h₂ : majority v.length ≤ q₂.length) :
    ∃ x, x ∈ q₁ ∧ x ∈ q₂ := by
  have c₁ : q₁.length ≤ (v.filter (fun x => decide (x ∈ q₁))).length :=
    List.Nodup.length_le_of_subset hn₁ (fun x hx => by simp [hs₁ x hx, hx])
  have c₂ : q₂.length ≤ (v.filter (fun x => decide (x ∈ q₂))).length :=
    List.Nodup.length_le_of_subset hn₂ (fun x hx => by simp [hs₂ x hx, hx])
  obtain ⟨x, _, hx⟩ := @majorities_intersect v q₁ q₂ (by unfold HasMajority; omega) (by unfold HasMajority; omega)
  exact ⟨x, hx⟩

/-- **±1-member version**: if the duplicate-free voter lists `v` and `v'` differ by at most one
member (symmetric difference ≤ 1), a majority of `v` and a majority of `v'` share a voter of `v`. -/
theorem majorities_intersect_symmdiff {v v' q₁ q₂ : List Nat} (hv : v.Nodup) (hv' : v'.Nodup)
    (hd : NatSet.symmDiffCount v' v ≤ 1)
    (h₁ : HasMajority q₁ v) (h₂ : HasMajority q₂ v') : ∃ x ∈ v, x ∈ q₁ ∧ x ∈ q₂ := by
  unfold HasMajority majority at h₁ h₂
  unfold NatSet.symmDiffCount at hd
  -- sizes: |v| ≤ |v'| + |v \ v'|  and  |v'| ≤ |v| + |v' \ v|
  have s1 := length_filter_add_filter_not (fun x => decide (x ∈ v')) v
  have s2 := length_filter_add_filter_not (fun x => decide (x ∈ v)) v'
  have i1 : (v.filter (fun x => decide (x ∈ v'))).length ≤ v'.length :=
    List.Nodup.length_le_of_subset (List.Nodup.sublist List.filter_sublist hv) (fun x hx => by simpa using (List.mem_filter.mp hx).2)
  have i2 : (v'.filter (fun x => decide (x ∈ v))).length ≤ v.length :=
    List.Nodup.length_le_of_subset (List.Nodup.sublist List.filter_sublist hv') (fun x hx => by simpa using (List.mem_filter.mp hx).2)
  have i5 : (v.filter (fun x => decide (x ∈ v'))).length ≤ (v'.filter (fun x => decide (x ∈ v))).length :=
    List.Nodup.length_le_of_subset (List.Nodup.sublist List.filter_sublist hv) (fun x hx => by
      simp only [List.mem_filter, decide_eq_true_eq] at hx ⊢; exact ⟨hx.2, hx.1⟩)
  have i6 : (v'.filter (fun x => decide (x ∈ v))).length ≤ (v.filter (fun x => decide (x ∈ v'))).length :=
    List.Nodup.length_le_of_subset (List.Nodup.sublist List.filter_sublist hv') (fun x hx => by
      simp only [List.mem_filter, decide_eq_true_eq] at hx ⊢; exact ⟨hx.2, hx.1⟩)
  -- members of q₂ among v' split into those in v and those outside v
  have s3 := length_filter_add_filter_not (fun x => decide (x ∈ v)) (v'.filter (fun x => decide (x ∈ q₂)))
  have i3 : ((v'.filter (fun x => decide (x ∈ q₂))).filter (fun x => decide (x ∈ v))).length
      ≤ (v.filter (fun x => decide (x ∈ q₂))).length := by
    apply List.Nodup.length_le_of_subset
    · exact List.Nodup.sublist List.filter_sublist (List.Nodup.sublist List.filter_sublist hv')
    · intro x hx
      simp only [List.mem_filter, decide_eq_true_eq] at hx ⊢
      exact ⟨hx.2, hx.1.2⟩
  have i4 : ((v'.filter (fun x => decide (x ∈ q₂))).filter (fun x => !decide (x ∈ v))).length
      ≤ (v'.filter (fun x => !decide (x ∈ v))).length := by
    apply List.Nodup.length_le_of_subset
    · exact List.Nodup.sublist List.filter_sublist (List.Nodup.sublist List.filter_sublist hv')
    · intro x hx
      simp only [List.mem_filter] at hx ⊢
      exact ⟨hx.1.1, hx.2⟩
  have := pigeonhole v (fun x => decide (x ∈ q₁)) (fun x => decide (x ∈ q₂)) (by omega)
  simpa using this

end RaftProofs.ConfChange

namespace RaftProofs.ConfChange
open RaftModel

/-! ## the key set an `IncrChangeMap` stands for -/

/-- base key set with the pending changes applied -/
def eff (m : IncrChangeMap) : NatSet := applyChanges m.base m.changes

theorem applyChanges_append (p : NatSet) (a b : MapChange) :
    applyChanges p (a ++ b) = applyChanges (applyChanges p a) b := by
  simp [applyChanges, List.foldl_append]

theorem eff_push_add (m : IncrChangeMap) (id : Nat) : eff (m.push id .add) = NatSet.insert id (eff m) := by
  simp [eff, IncrChangeMap.push, applyChanges_append]; simp [applyChanges]

theorem eff_push_remove (m : IncrChangeMap) (id : Nat) : eff (m.push id .remove) = NatSet.erase id (eff m) := by
  simp [eff, IncrChangeMap.push, applyChanges_append]; simp [applyChanges]

theorem base_push (m : IncrChangeMap) (id : Nat) (ty : MapChangeType) : (m.push id ty).base = m.base := rfl

theorem sorted_applyChanges {p : NatSet} (hp : Sorted p) (ch : MapChange) : Sorted (applyChanges p ch) := by
  induction ch generalizing p with
  | nil => exact hp
  | cons c ch ih =>
    simp only [applyChanges, List.foldl_cons]
    cases c.2
    · exact ih (sorted_insert hp)
    · exact ih (sorted_erase hp)

private theorem contains_aux (base : NatSet) (id : Nat) (l : MapChange) (b : Bool)
    (hb : b = true ↔ id ∈ base) :
    (match l.find? (fun c => c.1 == id) with
      | some (_, .remove) => false
      | some (_, .add) => true
      | none => b) = true ↔ id ∈ applyChanges base l.reverse := by
  induction l with
  | nil => simpa [applyChanges] using hb
  | cons c l ih =>
    obtain ⟨i, ty⟩ := c
    simp only [List.reverse_cons, applyChanges_append, List.find?_cons]
    by_cases hi : i = id
    · subst hi
      cases ty <;> simp [applyChanges, mem_insert, mem_erase]
    · have : (i == id) = false := by simpa using hi
      simp only [this]
      rw [ih]
      cases ty <;> simp [applyChanges, mem_insert, mem_erase, Ne.symm hi]

/-- `IncrChangeMap::contains` is membership in the key set with the pending changes applied -/
theorem contains_iff (m : IncrChangeMap) (id : Nat) : m.contains id = true ↔ id ∈ eff m := by
  have := contains_aux m.base id m.changes.reverse (decide (id ∈ m.base)) (by simp)
  rw [List.reverse_reverse] at this
  exact this

theorem contains_false_iff (m : IncrChangeMap) (id : Nat) : m.contains id = false ↔ id ∉ eff m := by
  rw [← contains_iff]; simp

/-! ## the loop invariant of `Changer::apply` -/

/-- configuration `cfg` and key set `P` are consistent (everything `check_invariants` looks at, plus
exact tracking, plus `learners_next ∩ incoming = ∅`, plus "id 0 is never a member") -/
structure LI (cfg : Configuration) (P : NatSet) : Prop where
  sInc : Sorted cfg.incoming
  sOut : Sorted cfg.outgoing
  sL : Sorted cfg.learners
  sLN : Sorted cfg.learnersNext
  sP : Sorted P
  exact : ∀ x, x ∈ P ↔ x ∈ cfg.incoming ∨ x ∈ cfg.outgoing ∨ x ∈ cfg.learners ∨ x ∈ cfg.learnersNext
  lInc : ∀ x, x ∈ cfg.learners → x ∉ cfg.incoming
  lOut : ∀ x, x ∈ cfg.learners → x ∉ cfg.outgoing
  lnOut : ∀ x, x ∈ cfg.learnersNext → x ∈ cfg.outgoing
  lnInc : ∀ x, x ∈ cfg.learnersNext → x ∉ cfg.incoming
  zero : 0 ∉ P

/-! ## what a change does to membership -/

/-- `s'` is `s` with the members of `ids` taken out and those of them satisfying `p` put in -/
def Upd (ids : List Nat) (p : Nat → Prop) (s s' : NatSet) : Prop :=
  (Sorted s → Sorted s') ∧ ∀ x, x ∈ s' ↔ (x ∈ s ∧ x ∉ ids) ∨ (x ∈ ids ∧ p x)

theorem Upd.nil {p : Nat → Prop} {s : NatSet} : Upd [] p s s :=
  ⟨fun h => h, fun x => by simp⟩

theorem Upd.append {a b : List Nat} {p : Nat → Prop} {s s₁ s₂ : NatSet}
    (h₁ : Upd a p s s₁) (h₂ : Upd b p s₁ s₂) : Upd (a ++ b) p s s₂ :=
  ⟨fun h => h₂.1 (h₁.1 h), fun x => by
    rw [h₂.2, h₁.2, List.mem_append]
    by_cases ha : x ∈ a <;> by_cases hb : x ∈ b <;> simp [ha, hb]⟩

theorem Upd.insert {i : Nat} {p : Nat → Prop} {s : NatSet} (hp : p i) :
    Upd [i] p s (NatSet.insert i s) :=
  ⟨sorted_insert, fun x => by
    rw [mem_insert, List.mem_singleton]
    by_cases e : x = i
    · simp [e, hp]
    · simp [e]⟩

theorem Upd.erase {i : Nat} {p : Nat → Prop} {s : NatSet} (hp : ¬ p i) :
    Upd [i] p s (NatSet.erase i s) :=
  ⟨sorted_erase, fun x => by
    rw [mem_erase, List.mem_singleton]
    by_cases e : x = i
    · simp [e, hp]
    · simp [e]⟩

theorem Upd.insert_erase {i : Nat} {p : Nat → Prop} {s : NatSet} (hp : p i) :
    Upd [i] p s (NatSet.insert i (NatSet.erase i s)) :=
  ⟨fun h => sorted_insert (sorted_erase h), fun x => by
    rw [mem_insert, mem_erase, List.mem_singleton]
    by_cases e : x = i
    · simp [e, hp]
    · simp [e]⟩

theorem Upd.same {i : Nat} {p : Nat → Prop} {s : NatSet} (hp : p i ↔ i ∈ s) : Upd [i] p s s :=
  ⟨fun h => h, fun x => by
    rw [List.mem_singleton]
    by_cases e : x = i
    · simp [e, hp]
    · simp [e]⟩

theorem Upd.mem_of_true {i : Nat} {p : Nat → Prop} {s s' : NatSet} (u : Upd [i] p s s') (hp : p i)
    (x : Nat) : x ∈ s' ↔ x = i ∨ x ∈ s := by
  rw [u.2, List.mem_singleton]
  by_cases e : x = i
  · simp [e, hp]
  · simp [e]

theorem Upd.mem_of_false {i : Nat} {p : Nat → Prop} {s s' : NatSet} (u : Upd [i] p s s')
    (hp : ¬ p i) (x : Nat) : x ∈ s' ↔ x ∈ s ∧ x ≠ i := by
  rw [u.2, List.mem_singleton]
  by_cases e : x = i
  · simp [e, hp]
  · simp [e]

/-- The effect of changes of type `ty` for the ids `ids` on a configuration and the set of tracked
ids: each id leaves the incoming voters, the learners and the staged learners and enters the set
`ty` names (staged instead of learner while it is an outgoing voter); it is tracked afterwards
unless it was removed and is no outgoing voter. -/
structure Moves (ty : ConfChangeType) (ids : List Nat) (cfg : Configuration) (P : NatSet)
    (cfg' : Configuration) (P' : NatSet) : Prop where
  outgoing : cfg'.outgoing = cfg.outgoing
  autoLeave : cfg'.autoLeave = cfg.autoLeave
  incoming : Upd ids (fun _ => ty = .addNode) cfg.incoming cfg'.incoming
  learners : Upd ids (fun x => ty = .addLearnerNode ∧ x ∉ cfg.outgoing) cfg.learners cfg'.learners
  learnersNext : Upd ids (fun x => ty = .addLearnerNode ∧ x ∈ cfg.outgoing)
    cfg.learnersNext cfg'.learnersNext
  progress : Upd ids (fun x => ty ≠ .removeNode ∨ x ∈ cfg.outgoing) P P'

theorem Moves.nil {ty : ConfChangeType} {cfg : Configuration} {P : NatSet} :
    Moves ty [] cfg P cfg P :=
  ⟨rfl, rfl, .nil, .nil, .nil, .nil⟩

theorem Moves.append {ty : ConfChangeType} {a b : List Nat} {cfg cfg₁ cfg₂ : Configuration}
    {P P₁ P₂ : NatSet} (m₁ : Moves ty a cfg P cfg₁ P₁) (m₂ : Moves ty b cfg₁ P₁ cfg₂ P₂) :
    Moves ty (a ++ b) cfg P cfg₂ P₂ := by
  obtain ⟨o₂, a₂, i₂, l₂, n₂, p₂⟩ := m₂
  rw [m₁.outgoing] at l₂ n₂ p₂
  exact ⟨o₂.trans m₁.outgoing, a₂.trans m₁.autoLeave, m₁.incoming.append i₂,
    m₁.learners.append l₂, m₁.learnersNext.append n₂, m₁.progress.append p₂⟩

/-- such changes keep the loop invariant: an id outside `ids` is where it was, and an id of `ids` is
in one set only, a staged learner only if an outgoing voter, and tracked iff it is in some set -/
theorem Moves.li {ty : ConfChangeType} {ids : List Nat} {cfg cfg' : Configuration} {P P' : NatSet}
    (m : Moves ty ids cfg P cfg' P') (h : LI cfg P) (hz : 0 ∉ ids) : LI cfg' P' := by
  obtain ⟨ho, _, ⟨sI, mI⟩, ⟨sL, mL⟩, ⟨sN, mN⟩, ⟨sP, mP⟩⟩ := m
  have key : ∀ x,
      (x ∈ P' ↔ x ∈ cfg'.incoming ∨ x ∈ cfg'.outgoing ∨ x ∈ cfg'.learners ∨ x ∈ cfg'.learnersNext) ∧
      (x ∈ cfg'.learners → x ∉ cfg'.incoming) ∧ (x ∈ cfg'.learners → x ∉ cfg'.outgoing) ∧
      (x ∈ cfg'.learnersNext → x ∈ cfg'.outgoing) ∧ (x ∈ cfg'.learnersNext → x ∉ cfg'.incoming) := by
    intro x
    rw [mP x, mI x, mL x, mN x, ho]
    by_cases hx : x ∈ ids
    · by_cases hxo : x ∈ cfg.outgoing <;> cases ty <;> simp [hx, hxo]
    · simp only [hx, not_false_eq_true, and_true, false_and, or_false]
      exact ⟨h.exact x, h.lInc x, h.lOut x, h.lnOut x, h.lnInc x⟩
  refine ⟨sI h.sInc, ho ▸ h.sOut, sL h.sL, sN h.sLN, sP h.sP, fun x => (key x).1,
    fun x => (key x).2.1, fun x => (key x).2.2.1, fun x => (key x).2.2.2.1,
    fun x => (key x).2.2.2.2, ?_⟩
  rw [mP 0]
  exact fun h0 => h0.elim (fun h1 => h.zero h1.1) (fun h1 => hz h1.1)

/-- One iteration of the loop of `Changer::apply`, for a node id other than 0.  An id whose progress
is not tracked is in none of the sets, so that `init_progress` puts it where a move would. -/
theorem applyOne_moves {cfg : Configuration} {prs : IncrChangeMap} (h : LI cfg (eff prs))
    (ty : ConfChangeType) {id : Nat} (hid : id ≠ 0) :
    Moves ty [id] cfg (eff prs) (applyOne (cfg, prs) ⟨ty, id⟩).1
      (eff (applyOne (cfg, prs) ⟨ty, id⟩).2) ∧
    (applyOne (cfg, prs) ⟨ty, id⟩).2.base = prs.base := by
  by_cases hc : id ∈ eff prs
  · have hc' := (contains_iff prs id).mpr hc
    cases ty <;> simp only [applyOne, hid, if_false]
    · simp only [makeVoter, hc', Bool.not_true, Bool.false_eq_true, if_false]
      exact ⟨⟨rfl, rfl, .insert (by simp), .erase (by simp), .erase (by simp),
        .same (by simp [hc])⟩, by trivial⟩
    · by_cases ho : id ∈ cfg.outgoing
      · simp only [removeNode, hc', ho, decide_true, Bool.not_true, Bool.false_eq_true, if_false]
        exact ⟨⟨rfl, rfl, .erase (by simp), .erase (by simp), .erase (by simp),
          .same (by simp [hc, ho])⟩, by trivial⟩
      · simp only [removeNode, hc', ho, decide_false, Bool.not_true, Bool.not_false,
          Bool.false_eq_true, if_false, if_true, eff_push_remove]
        exact ⟨⟨rfl, rfl, .erase (by simp), .erase (by simp), .erase (by simp),
          .erase (by simp [ho])⟩, by trivial⟩
    · by_cases hl : id ∈ cfg.learners
      · simp only [makeLearner, hc', hl, decide_true, Bool.not_true, Bool.false_eq_true, if_false,
          if_true]
        have ho := h.lOut id hl
        have hn : id ∉ cfg.learnersNext := fun hn => ho (h.lnOut id hn)
        exact ⟨⟨rfl, rfl, .same (by simp [h.lInc id hl]), .same (by simp [hl, ho]),
          .same (by simp [ho, hn]), .same (by simp [hc])⟩, by trivial⟩
      · by_cases ho : id ∈ cfg.outgoing
        · simp only [makeLearner, hc', hl, ho, decide_true, decide_false, Bool.not_true,
            Bool.false_eq_true, if_false, if_true]
          exact ⟨⟨rfl, rfl, .erase (by simp), .erase (by simp [ho]), .insert_erase (by simp [ho]),
            .same (by simp [hc])⟩, by trivial⟩
        · simp only [makeLearner, hc', hl, ho, decide_false, Bool.not_true, Bool.false_eq_true,
            if_false]
          exact ⟨⟨rfl, rfl, .erase (by simp), .insert_erase (by simp [ho]), .erase (by simp [ho]),
            .same (by simp [hc])⟩, by trivial⟩
  · have hc' := (contains_false_iff prs id).mpr hc
    have hn : id ∉ cfg.incoming ∧ id ∉ cfg.outgoing ∧ id ∉ cfg.learners ∧ id ∉ cfg.learnersNext := by
      simpa only [not_or] using mt (h.exact id).mpr hc
    cases ty <;> simp only [applyOne, hid, if_false]
    · simp only [makeVoter, hc', initProgress, Bool.not_false, if_true, eff_push_add]
      exact ⟨⟨rfl, rfl, .insert (by simp), .same (by simp [hn]), .same (by simp [hn]),
        .insert (by simp)⟩, by trivial⟩
    · simp only [removeNode, hc', Bool.not_false, if_true]
      exact ⟨⟨rfl, rfl, .same (by simp [hn]), .same (by simp [hn]), .same (by simp [hn]),
        .same (by simp [hc, hn])⟩, by trivial⟩
    · simp only [makeLearner, hc', initProgress, Bool.not_false, Bool.not_true, Bool.false_eq_true,
        if_true, if_false, eff_push_add]
      exact ⟨⟨rfl, rfl, .same (by simp [hn]), .insert (by simp [hn]), .same (by simp [hn]),
        .insert (by simp)⟩, by trivial⟩

/-- one iteration of `Changer::apply` keeps the loop invariant and leaves the base map, the
outgoing voters and the auto-leave flag alone; node id 0 is skipped -/
theorem applyOne_spec {cfg : Configuration} {prs : IncrChangeMap} (h : LI cfg (eff prs))
    (cc : ConfChangeSingle) :
    LI (applyOne (cfg, prs) cc).1 (eff (applyOne (cfg, prs) cc).2) ∧
    (applyOne (cfg, prs) cc).2.base = prs.base ∧
    (applyOne (cfg, prs) cc).1.outgoing = cfg.outgoing ∧
    (applyOne (cfg, prs) cc).1.autoLeave = cfg.autoLeave := by
  obtain ⟨ty, id⟩ := cc
  by_cases hid : id = 0
  · subst hid
    exact ⟨h, rfl, rfl, rfl⟩
  · obtain ⟨m, hb⟩ := applyOne_moves h ty hid
    exact ⟨m.li h (by simpa using Ne.symm hid), hb, m.outgoing, m.autoLeave⟩

theorem applyFold_spec {cfg : Configuration} {prs : IncrChangeMap} (h : LI cfg (eff prs))
    (ccs : List ConfChangeSingle) :
    LI (ccs.foldl applyOne (cfg, prs)).1 (eff (ccs.foldl applyOne (cfg, prs)).2) ∧
    (ccs.foldl applyOne (cfg, prs)).2.base = prs.base ∧
    (ccs.foldl applyOne (cfg, prs)).1.outgoing = cfg.outgoing ∧
    (ccs.foldl applyOne (cfg, prs)).1.autoLeave = cfg.autoLeave := by
  induction ccs generalizing cfg prs with
  | nil => exact ⟨h, rfl, rfl, rfl⟩
  | cons cc ccs ih =>
    obtain ⟨h1, h2, h3, h4⟩ := applyOne_spec h cc
    have := @ih (applyOne (cfg, prs) cc).1 (applyOne (cfg, prs) cc).2 h1
    simp only [List.foldl_cons]
    refine ⟨this.1, this.2.1.trans h2, this.2.2.1.trans h3, this.2.2.2.trans h4⟩

abbrev ccsOf (ty : ConfChangeType) (ids : List Nat) : List ConfChangeSingle :=
  ids.map (fun id => (⟨ty, id⟩ : ConfChangeSingle))

/-- a batch of changes of one type, as `restore` builds them -/
theorem applyFold_moves {cfg : Configuration} {prs : IncrChangeMap} (h : LI cfg (eff prs))
    (ty : ConfChangeType) (ids : List Nat) (hz : 0 ∉ ids) :
    Moves ty ids cfg (eff prs) ((ccsOf ty ids).foldl applyOne (cfg, prs)).1
      (eff ((ccsOf ty ids).foldl applyOne (cfg, prs)).2) := by
  induction ids generalizing cfg prs with
  | nil => exact Moves.nil
  | cons id ids ih =>
    have hid : id ≠ 0 := fun e => hz (by simp [e])
    obtain ⟨m, _⟩ := applyOne_moves h ty hid
    exact m.append (ih (m.li h (by simpa using Ne.symm hid)) (fun e => hz (List.mem_cons_of_mem _ e)))

/-! ## the tracker invariant and the exact outcome of the three changer methods -/

/-- the invariant of a tracker: `LI` plus "not joint ⇒ no staged learners, no auto-leave" -/
def CfgInv (t : Tracker) : Prop :=
  LI t.conf t.progress ∧ (t.conf.outgoing = [] → t.conf.learnersNext = [] ∧ t.conf.autoLeave = false)

theorem eff_base (P : NatSet) : eff { changes := [], base := P } = P := rfl

theorem checkInvariantsB_of_LI {cfg : Configuration} {prs : IncrChangeMap} (h : LI cfg (eff prs))
    (hj : cfg.outgoing = [] → cfg.learnersNext = [] ∧ cfg.autoLeave = false) :
    checkInvariantsB cfg prs = true := by
  obtain ⟨h1, h2, h3, h4, h5, h6, h7, h8, h9, h10, h11⟩ := h
  simp only [checkInvariantsB, Bool.and_eq_true, List.all_eq_true, contains_iff, Bool.or_eq_true,
    Bool.not_eq_true', decide_eq_true_eq, decide_eq_false_iff_not, joint, List.isEmpty_iff]
  refine ⟨⟨⟨⟨?_, ?_⟩, ?_⟩, ?_⟩, ?_⟩
  · intro x hx; exact (h6 x).mpr (Or.inl hx)
  · intro x hx; exact (h6 x).mpr (Or.inr (Or.inl hx))
  · intro x hx; exact ⟨⟨(h6 x).mpr (Or.inr (Or.inr (Or.inl hx))), h8 x hx⟩, h7 x hx⟩
  · intro x hx; exact ⟨(h6 x).mpr (Or.inr (Or.inr (Or.inr hx))), h9 x hx⟩
  · by_cases ho : cfg.outgoing = []
    · right; simpa using hj ho
    · left; simpa using ho

theorem checkAndCopy_ok {t : Tracker} (h : CfgInv t) :
    checkAndCopy t = .ok (t.conf, { changes := [], base := t.progress }) := by
  have := @checkInvariantsB_of_LI t.conf { changes := [], base := t.progress } h.1 h.2
  simp [checkAndCopy, checkInvariants, this]

theorem eq_nil_of_subset_nil {l o : List Nat} (h : ∀ x, x ∈ l → x ∈ o) (ho : o = []) : l = [] := by
  subst ho
  cases l with
  | nil => rfl
  | cons a l => exact absurd (h a (by simp)) (by simp)

theorem isEmpty_false_of_mem {l : List Nat} {x : Nat} (h : x ∈ l) : l.isEmpty = false := by
  cases l with
  | nil => simp at h
  | cons a l => rfl

/-- from a consistent tracker, `simple` fails only for the three documented reasons -/
theorem simple_eq {t : Tracker} (h : CfgInv t) (ccs : List ConfChangeSingle) :
    simple t ccs =
      if joint t.conf then .error .simpleInJoint
      else
        let st := ccs.foldl applyOne (t.conf, { changes := [], base := t.progress })
        if st.1.incoming.isEmpty then .error .removedAll
        else if NatSet.symmDiffCount st.1.incoming t.conf.incoming > 1 then .error .multiVoter
        else .ok (st.1, st.2.changes) := by
  unfold simple
  by_cases hj : joint t.conf = true
  · simp [hj]
  · simp only [hj, Bool.false_eq_true, ↓reduceIte, checkAndCopy_ok h, applyAll]
    obtain ⟨f1, _, f3, f4⟩ := @applyFold_spec t.conf { changes := [], base := t.progress } h.1 ccs
    have ho : t.conf.outgoing = [] := by simpa [joint] using hj
    have hck : checkInvariantsB (ccs.foldl applyOne (t.conf, { changes := [], base := t.progress })).1
        (ccs.foldl applyOne (t.conf, { changes := [], base := t.progress })).2 = true := by
      apply checkInvariantsB_of_LI f1
      intro _
      exact ⟨eq_nil_of_subset_nil f1.lnOut (f3.trans ho), f4.trans (h.2 ho).2⟩
    generalize ccs.foldl applyOne (t.conf, { changes := [], base := t.progress }) = st at *
    by_cases he : st.1.incoming.isEmpty = true
    · simp [he]
    · by_cases hs : NatSet.symmDiffCount st.1.incoming t.conf.incoming > 1
      · simp [he, hs]
      · simp [he, hs, checkInvariants, hck]

/-- the loop state `enter_joint` starts from: the incoming voters copied to the outgoing half -/
theorem enter_LI {t : Tracker} (h : CfgInv t) (ho : t.conf.outgoing = []) :
    LI { t.conf with outgoing := t.conf.incoming } (eff { changes := [], base := t.progress }) := by
  obtain ⟨h1, h2, h3, h4, h5, h6, h7, h8, h9, h10, h11⟩ := h.1
  have hl : t.conf.learnersNext = [] := (h.2 ho).1
  refine ⟨h1, h1, h3, h4, h5, ?_, h7, h7, ?_, h10, h11⟩
  · intro x; rw [eff_base, h6 x, ho]; simp
  · intro x hx; rw [hl] at hx; simp at hx

theorem LI.autoLeave {cfg : Configuration} {P : NatSet} (h : LI cfg P) (al : Bool) :
    LI { cfg with autoLeave := al } P :=
  ⟨h.sInc, h.sOut, h.sL, h.sLN, h.sP, h.exact, h.lInc, h.lOut, h.lnOut, h.lnInc, h.zero⟩

theorem enterJoint_eq {t : Tracker} (h : CfgInv t) (al : Bool) (ccs : List ConfChangeSingle) :
    enterJoint t al ccs =
      if joint t.conf then .error .alreadyJoint
      else if t.conf.incoming.isEmpty then .error .zeroVoterJoint
      else
        let st := ccs.foldl applyOne
          ({ t.conf with outgoing := t.conf.incoming }, { changes := [], base := t.progress })
        if st.1.incoming.isEmpty then .error .removedAll
        else .ok ({ st.1 with autoLeave := al }, st.2.changes) := by
  unfold enterJoint
  by_cases hj : joint t.conf = true
  · simp [hj]
  · have ho : t.conf.outgoing = [] := by simpa [joint] using hj
    simp only [hj, Bool.false_eq_true, ↓reduceIte, checkAndCopy_ok h, applyAll, ho,
      union_nil_left h.1.sInc]
    split
    · rfl
    · rename_i hne
      have hne' : t.conf.incoming ≠ [] := by simpa using hne
      obtain ⟨f1, _, f3, f4⟩ := applyFold_spec (enter_LI h ho) ccs
      have hck : checkInvariantsB
          { (ccs.foldl applyOne ({ t.conf with outgoing := t.conf.incoming }, { changes := [], base := t.progress })).1 with autoLeave := al }
          (ccs.foldl applyOne ({ t.conf with outgoing := t.conf.incoming }, { changes := [], base := t.progress })).2 = true := by
        exact checkInvariantsB_of_LI (f1.autoLeave al) (fun hh => absurd (f3.symm.trans hh) hne')
      generalize ccs.foldl applyOne ({ t.conf with outgoing := t.conf.incoming }, { changes := [], base := t.progress }) = st at *
      by_cases he : st.1.incoming.isEmpty = true
      · simp [he]
      · simp [he, checkInvariants, hck]

theorem mem_eff_leaveRemovals (cfg : Configuration) (os : List Nat) (prs : IncrChangeMap) (x : Nat) :
    x ∈ eff (os.foldl (fun prs id =>
      if !decide (id ∈ cfg.incoming) && !decide (id ∈ cfg.learners) then prs.push id .remove else prs) prs) ↔
    x ∈ eff prs ∧ ¬ (x ∈ os ∧ x ∉ cfg.incoming ∧ x ∉ cfg.learners) := by
  induction os generalizing prs with
  | nil => simp
  | cons o os ih =>
    rw [List.foldl_cons, ih, List.mem_cons]
    by_cases c : (!decide (o ∈ cfg.incoming) && !decide (o ∈ cfg.learners)) = true
    · rw [if_pos c, eff_push_remove, mem_erase]
      have c' : o ∉ cfg.incoming ∧ o ∉ cfg.learners := by simpa using c
      by_cases e : x = o
      · simp [e, c']
      · simp [e]
    · rw [if_neg c]
      have c' : ¬ (o ∉ cfg.incoming ∧ o ∉ cfg.learners) := by simpa using c
      by_cases e : x = o
      · simp only [e, c', and_false, not_false_eq_true]
      · simp [e]

theorem sorted_eff_leaveRemovals (cfg : Configuration) (os : List Nat) (prs : IncrChangeMap)
    (h : Sorted (eff prs)) :
    Sorted (eff (os.foldl (fun prs id =>
      if !decide (id ∈ cfg.incoming) && !decide (id ∈ cfg.learners) then prs.push id .remove else prs) prs)) := by
  induction os generalizing prs with
  | nil => exact h
  | cons o os ih =>
    simp only [List.foldl_cons]
    apply ih
    split
    · rw [eff_push_remove]; exact sorted_erase h
    · exact h

/-- the configuration `leave_joint` produces -/
def leaveCfg (c : Configuration) : Configuration :=
  { c with learners := NatSet.union c.learners c.learnersNext, learnersNext := [],
           outgoing := [], autoLeave := false }

/-- the pending progress changes `leave_joint` produces -/
def leavePrs (t : Tracker) : IncrChangeMap :=
  leaveRemovals { t.conf with learners := NatSet.union t.conf.learners t.conf.learnersNext, learnersNext := [] }
    { changes := [], base := t.progress }

theorem mem_eff_leavePrs (t : Tracker) (x : Nat) :
    x ∈ eff (leavePrs t) ↔
      x ∈ t.progress ∧ ¬ (x ∈ t.conf.outgoing ∧ x ∉ t.conf.incoming ∧
        x ∉ NatSet.union t.conf.learners t.conf.learnersNext) :=
  mem_eff_leaveRemovals
    { t.conf with learners := NatSet.union t.conf.learners t.conf.learnersNext, learnersNext := [] }
    t.conf.outgoing { changes := [], base := t.progress } x

theorem base_leaveRemovals (cfg : Configuration) (os : List Nat) (prs : IncrChangeMap) :
    (os.foldl (fun prs id =>
      if !decide (id ∈ cfg.incoming) && !decide (id ∈ cfg.learners) then prs.push id .remove else prs) prs).base
      = prs.base := by
  induction os generalizing prs with
  | nil => rfl
  | cons o os ih =>
    simp only [List.foldl_cons, ih]
    split <;> rfl

theorem leavePrs_base (t : Tracker) : (leavePrs t).base = t.progress :=
  base_leaveRemovals _ _ _

theorem leave_LI {t : Tracker} (h : CfgInv t) : LI (leaveCfg t.conf) (eff (leavePrs t)) := by
  obtain ⟨h1, h2, h3, h4, h5, h6, h7, h8, h9, h10, h11⟩ := h.1
  refine ⟨h1, sorted_nil, sorted_union h3, sorted_nil, ?_, ?_, ?_, ?_, ?_, ?_, ?_⟩
  · exact sorted_eff_leaveRemovals _ _ _ h5
  · intro x
    rw [mem_eff_leavePrs]
    simp only [leaveCfg, mem_union]
    grind
  · intro x; simp only [leaveCfg, mem_union]; grind
  · intro x; simp [leaveCfg]
  · intro x; simp [leaveCfg]
  · intro x; simp [leaveCfg]
  · rw [mem_eff_leavePrs]; grind

theorem leaveJoint_eq {t : Tracker} (h : CfgInv t) :
    leaveJoint t =
      if !joint t.conf then .error .notJoint
      else .ok (leaveCfg t.conf, (leavePrs t).changes) := by
  unfold leaveJoint
  by_cases hj : joint t.conf = true
  · have ho : t.conf.outgoing.isEmpty = false := by simpa [joint] using hj
    simp only [hj, Bool.not_true, Bool.false_eq_true, ↓reduceIte, checkAndCopy_ok h, ho]
    have := checkInvariantsB_of_LI (leave_LI h) (fun _ => ⟨rfl, rfl⟩)
    simp only [leaveCfg, leavePrs] at this
    simp [checkInvariants, this, leaveCfg, leavePrs]
  · simp [hj]

/-! ## preservation of the invariant -/

theorem progress_applyConf (t : Tracker) (cfg : Configuration) (prs : IncrChangeMap)
    (hb : prs.base = t.progress) : (t.applyConf cfg prs.changes).progress = eff prs := by
  simp [Tracker.applyConf, eff, hb]

/-- **`simple` preserves the invariant**, and what it returns has at least one voter and differs
from the old incoming voters by at most one member. -/
theorem simple_inv {t : Tracker} (h : CfgInv t) {ccs : List ConfChangeSingle}
    {cfg : Configuration} {ch : MapChange} (hr : simple t ccs = .ok (cfg, ch)) :
    CfgInv (t.applyConf cfg ch) ∧ cfg.incoming ≠ [] ∧
    NatSet.symmDiffCount cfg.incoming t.conf.incoming ≤ 1 ∧ cfg.outgoing = [] := by
  rw [simple_eq h] at hr
  by_cases hj : joint t.conf = true
  · simp [hj] at hr
  · have ho : t.conf.outgoing = [] := by simpa [joint] using hj
    obtain ⟨f1, f2, f3, f4⟩ := @applyFold_spec t.conf { changes := [], base := t.progress } h.1 ccs
    simp only [hj, Bool.false_eq_true, ↓reduceIte] at hr
    generalize ccs.foldl applyOne (t.conf, { changes := [], base := t.progress }) = st at *
    by_cases he : st.1.incoming.isEmpty = true
    · simp [he] at hr
    · by_cases hs : NatSet.symmDiffCount st.1.incoming t.conf.incoming > 1
      · simp [he, hs] at hr
      · simp only [he, hs, Bool.false_eq_true, ↓reduceIte, Except.ok.injEq, Prod.mk.injEq] at hr
        obtain ⟨rfl, rfl⟩ := hr
        refine ⟨⟨?_, ?_⟩, by simpa using he, by omega, f3.trans ho⟩
        · rw [show (t.applyConf st.1 st.2.changes).conf = st.1 from rfl, progress_applyConf t st.1 st.2 f2]
          exact f1
        · intro _
          exact ⟨eq_nil_of_subset_nil f1.lnOut (f3.trans ho), f4.trans (h.2 ho).2⟩

/-- **`enter_joint` preserves the invariant**; the result has at least one incoming voter, its
outgoing half is the old incoming half, and `auto_leave` is as requested. -/
theorem enterJoint_inv {t : Tracker} (h : CfgInv t) {al : Bool} {ccs : List ConfChangeSingle}
    {cfg : Configuration} {ch : MapChange} (hr : enterJoint t al ccs = .ok (cfg, ch)) :
    CfgInv (t.applyConf cfg ch) ∧ cfg.incoming ≠ [] ∧ cfg.outgoing = t.conf.incoming ∧
    t.conf.incoming ≠ [] ∧ t.conf.outgoing = [] ∧ cfg.autoLeave = al := by
  rw [enterJoint_eq h] at hr
  by_cases hj : joint t.conf = true
  · simp [hj] at hr
  · have ho : t.conf.outgoing = [] := by simpa [joint] using hj
    simp only [hj, Bool.false_eq_true, ↓reduceIte] at hr
    by_cases hz : t.conf.incoming.isEmpty = true
    · simp [hz] at hr
    · simp only [hz, Bool.false_eq_true, ↓reduceIte] at hr
      have hne : t.conf.incoming ≠ [] := by simpa using hz
      obtain ⟨f1, f2, f3, f4⟩ := applyFold_spec (enter_LI h ho) ccs
      generalize ccs.foldl applyOne ({ t.conf with outgoing := t.conf.incoming }, { changes := [], base := t.progress }) = st at *
      by_cases he : st.1.incoming.isEmpty = true
      · simp [he] at hr
      · simp only [he, Bool.false_eq_true, ↓reduceIte, Except.ok.injEq, Prod.mk.injEq] at hr
        obtain ⟨rfl, rfl⟩ := hr
        refine ⟨⟨?_, ?_⟩, by simpa using he, f3, hne, ho, rfl⟩
        · rw [progress_applyConf t _ st.2 f2]
          exact f1.autoLeave _
        · intro hh
          exact absurd (f3.symm.trans hh) hne

/-- **`leave_joint` preserves the invariant**; the incoming voters are untouched, the outgoing half
is dropped, the staged learners become learners. -/
theorem leaveJoint_inv {t : Tracker} (h : CfgInv t)
    {cfg : Configuration} {ch : MapChange} (hr : leaveJoint t = .ok (cfg, ch)) :
    CfgInv (t.applyConf cfg ch) ∧ cfg.incoming = t.conf.incoming ∧ cfg.outgoing = [] ∧
    t.conf.outgoing ≠ [] ∧ cfg.learnersNext = [] ∧ cfg.autoLeave = false ∧
    (∀ x, x ∈ cfg.learners ↔ x ∈ t.conf.learners ∨ x ∈ t.conf.learnersNext) := by
  rw [leaveJoint_eq h] at hr
  by_cases hj : joint t.conf = true
  · simp only [hj, Bool.not_true, Bool.false_eq_true, ↓reduceIte, Except.ok.injEq, Prod.mk.injEq] at hr
    obtain ⟨rfl, rfl⟩ := hr
    refine ⟨⟨?_, fun _ => ⟨rfl, rfl⟩⟩, rfl, rfl, by simpa [joint] using hj, rfl, rfl, ?_⟩
    · rw [progress_applyConf t _ (leavePrs t) (leavePrs_base t)]
      exact leave_LI h
    · intro x; simp [leaveCfg, mem_union]
  · simp [hj] at hr

/-! ## `restore`: step lemmas -/

theorem length_le_one_of_nodup_all_eq {l : List Nat} {v : Nat} (hn : l.Nodup) (h : ∀ x ∈ l, x = v) :
    l.length ≤ 1 := by
  match l, hn, h with
  | [], _, _ => simp
  | [_], _, _ => simp
  | a :: b :: l, hn, h =>
    have ha := h a (by simp)
    have hb := h b (by simp)
    have := (List.nodup_cons.mp hn).1
    subst ha hb
    simp at this

theorem symmDiffCount_self (a : List Nat) : NatSet.symmDiffCount a a = 0 := by
  simp [NatSet.symmDiffCount]

theorem symmDiffCount_insert_le {a b : List Nat} {v : Nat} (ha : Sorted a)
    (h : ∀ x, x ∈ a ↔ x = v ∨ x ∈ b) : NatSet.symmDiffCount a b ≤ 1 := by
  unfold NatSet.symmDiffCount
  have h1 : (a.filter (fun x => !decide (x ∈ b))).length ≤ 1 := by
    apply @length_le_one_of_nodup_all_eq _ v (List.Nodup.sublist List.filter_sublist ha.nodup)
    intro x hx
    simp only [List.mem_filter, Bool.not_eq_true', decide_eq_false_iff_not] at hx
    rcases (h x).mp hx.1 with e | e
    · exact e
    · exact absurd e hx.2
  have h2 : b.filter (fun x => !decide (x ∈ a)) = [] := by
    apply List.filter_eq_nil_iff.mpr
    intro x hx
    simp [(h x).mpr (Or.inr hx)]
  rw [h2]; simp; exact h1

/-- trackers satisfying the invariant are determined by the members of their four sets and the flag -/
theorem tracker_ext {t₁ t₂ : Tracker} (h₁ : CfgInv t₁) (h₂ : CfgInv t₂)
    (hi : ∀ x, x ∈ t₁.conf.incoming ↔ x ∈ t₂.conf.incoming)
    (ho : ∀ x, x ∈ t₁.conf.outgoing ↔ x ∈ t₂.conf.outgoing)
    (hl : ∀ x, x ∈ t₁.conf.learners ↔ x ∈ t₂.conf.learners)
    (hn : ∀ x, x ∈ t₁.conf.learnersNext ↔ x ∈ t₂.conf.learnersNext)
    (ha : t₁.conf.autoLeave = t₂.conf.autoLeave) : t₁ = t₂ := by
  obtain ⟨⟨i1, o1, l1, n1, a1⟩, p1⟩ := t₁
  obtain ⟨⟨i2, o2, l2, n2, a2⟩, p2⟩ := t₂
  have e1 := sorted_ext h₁.1.sInc h₂.1.sInc hi
  have e2 := sorted_ext h₁.1.sOut h₂.1.sOut ho
  have e3 := sorted_ext h₁.1.sL h₂.1.sL hl
  have e4 := sorted_ext h₁.1.sLN h₂.1.sLN hn
  simp only at e1 e2 e3 e4 ha
  subst e1 e2 e3 e4 ha
  have e5 : p1 = p2 := sorted_ext h₁.1.sP h₂.1.sP (fun x => by
    rw [h₁.1.exact x, h₂.1.exact x])
  subst e5
  rfl

theorem restoreLoop_append (t : Tracker) (a b : List ConfChangeSingle) :
    restoreLoop t (a ++ b) =
      match restoreLoop t a with
      | .error e => .error e
      | .ok t' => restoreLoop t' b := by
  induction a generalizing t with
  | nil => rfl
  | cons c a ih =>
    simp only [List.cons_append, restoreLoop]
    cases simple t [c] with
    | error e => rfl
    | ok r => obtain ⟨cfg, ch⟩ := r; exact ih _

/-- `restoreLoop` keeps the invariant -/
theorem restoreLoop_inv {t t' : Tracker} (h : CfgInv t) {ccs : List ConfChangeSingle}
    (hr : restoreLoop t ccs = .ok t') : CfgInv t' := by
  induction ccs generalizing t with
  | nil => simp only [restoreLoop, Except.ok.injEq] at hr; subst hr; exact h
  | cons c ccs ih =>
    simp only [restoreLoop] at hr
    cases hs : simple t [c] with
    | error e => simp [hs] at hr
    | ok r =>
      obtain ⟨cfg, ch⟩ := r
      simp only [hs] at hr
      exact ih (simple_inv h hs).1 hr

/-- a single change passes `simple` on a non-joint tracker if it leaves a voter and changes at most
one -/
theorem simple_single {t : Tracker} (h : CfgInv t) (ho : t.conf.outgoing = []) (cc : ConfChangeSingle)
    {x : Nat} (hx : x ∈ (applyOne (t.conf, { changes := [], base := t.progress }) cc).1.incoming)
    (hd : NatSet.symmDiffCount
      (applyOne (t.conf, { changes := [], base := t.progress }) cc).1.incoming t.conf.incoming ≤ 1) :
    simple t [cc] = .ok ((applyOne (t.conf, { changes := [], base := t.progress }) cc).1,
      (applyOne (t.conf, { changes := [], base := t.progress }) cc).2.changes) := by
  rw [simple_eq h]
  simp only [joint, ho, List.isEmpty_nil, Bool.not_true, Bool.false_eq_true, if_false,
    List.foldl_cons, List.foldl_nil, isEmpty_false_of_mem hx]
  exact if_neg (Nat.not_lt.mpr hd)

/-- one `simple(&[add v])` step of `restore` on a non-joint tracker -/
theorem simple_addVoter {t : Tracker} (h : CfgInv t) (ho : t.conf.outgoing = []) {v : Nat} (hv : v ≠ 0) :
    ∃ cfg ch, simple t [⟨.addNode, v⟩] = .ok (cfg, ch) ∧
      (∀ x, x ∈ cfg.incoming ↔ x = v ∨ x ∈ t.conf.incoming) ∧
      (∀ x, x ∈ cfg.learners ↔ x ∈ t.conf.learners ∧ x ≠ v) := by
  obtain ⟨m, _⟩ := @applyOne_moves t.conf { changes := [], base := t.progress } h.1 .addNode v hv
  have s1 := m.incoming.mem_of_true rfl
  exact ⟨_, _, simple_single h ho _ ((s1 v).mpr (Or.inl rfl))
      (symmDiffCount_insert_le (m.incoming.1 h.1.sInc) s1),
    s1, m.learners.mem_of_false (by simp)⟩

/-- one `simple(&[add-learner l])` step of `restore` on a non-joint tracker, `l` not a voter -/
theorem simple_addLearner {t : Tracker} (h : CfgInv t) (ho : t.conf.outgoing = [])
    (hne : t.conf.incoming ≠ []) {l : Nat} (hl : l ≠ 0) (hli : l ∉ t.conf.incoming) :
    ∃ cfg ch, simple t [⟨.addLearnerNode, l⟩] = .ok (cfg, ch) ∧
      cfg.incoming = t.conf.incoming ∧
      (∀ x, x ∈ cfg.learners ↔ x ∈ t.conf.learners ∨ x = l) := by
  obtain ⟨m, _⟩ := @applyOne_moves t.conf { changes := [], base := t.progress } h.1 .addLearnerNode l hl
  have hinc : (applyOne (t.conf, { changes := [], base := t.progress }) ⟨.addLearnerNode, l⟩).1.incoming
      = t.conf.incoming :=
    sorted_ext (m.incoming.1 h.1.sInc) h.1.sInc (fun x => by
      rw [m.incoming.mem_of_false (by simp)]
      exact and_iff_left_of_imp (fun hx e => hli (e ▸ hx)))
  obtain ⟨w, hw⟩ := List.exists_mem_of_ne_nil _ hne
  refine ⟨_, _, simple_single h ho _ (hinc ▸ hw) (by rw [hinc, symmDiffCount_self]; omega), hinc,
    fun x => ?_⟩
  rw [m.learners.mem_of_true ⟨rfl, by simp [ho]⟩, or_comm]

/-- the first loop of `restore` (and the voter part of the single loop): adding voters one by one -/
theorem restoreLoop_addVoters {t : Tracker} (h : CfgInv t) (ho : t.conf.outgoing = [])
    (vs : List Nat) (hz : 0 ∉ vs) :
    ∃ t', restoreLoop t (vs.map (fun id => (⟨.addNode, id⟩ : ConfChangeSingle))) = .ok t' ∧
      CfgInv t' ∧ t'.conf.outgoing = [] ∧
      (∀ x, x ∈ t'.conf.incoming ↔ x ∈ t.conf.incoming ∨ x ∈ vs) ∧
      (∀ x, x ∈ t'.conf.learners ↔ x ∈ t.conf.learners ∧ x ∉ vs) := by
  induction vs generalizing t with
  | nil => exact ⟨t, rfl, h, ho, by simp, by simp⟩
  | cons v vs ih =>
    have hv : v ≠ 0 := fun e => hz (by simp [e])
    have hz' : 0 ∉ vs := fun e => hz (List.mem_cons_of_mem _ e)
    obtain ⟨cfg, ch, hs, s1, s2⟩ := simple_addVoter h ho hv
    obtain ⟨hi, _, _, ho'⟩ := simple_inv h hs
    obtain ⟨t', hr, hi', ho'', m1, m2⟩ := @ih (t.applyConf cfg ch) hi ho' hz'
    refine ⟨t', ?_, hi', ho'', ?_, ?_⟩
    · simp only [List.map_cons, restoreLoop, hs]; exact hr
    · intro x
      rw [m1 x, show x ∈ (t.applyConf cfg ch).conf.incoming ↔ _ from s1 x, List.mem_cons, or_assoc]
      exact or_left_comm
    · intro x
      rw [m2 x, show x ∈ (t.applyConf cfg ch).conf.learners ↔ _ from s2 x, List.mem_cons, and_assoc,
        not_or]

/-- the learner part of the single loop of `restore` (non-joint ConfState) -/
theorem restoreLoop_addLearners {t : Tracker} (h : CfgInv t) (ho : t.conf.outgoing = [])
    (hne : t.conf.incoming ≠ []) (ls : List Nat) (hz : 0 ∉ ls) (hd : ∀ l ∈ ls, l ∉ t.conf.incoming) :
    ∃ t', restoreLoop t (ls.map (fun id => (⟨.addLearnerNode, id⟩ : ConfChangeSingle))) = .ok t' ∧
      CfgInv t' ∧ t'.conf.outgoing = [] ∧ t'.conf.incoming = t.conf.incoming ∧
      (∀ x, x ∈ t'.conf.learners ↔ x ∈ t.conf.learners ∨ x ∈ ls) := by
  induction ls generalizing t with
  | nil => exact ⟨t, rfl, h, ho, rfl, by simp⟩
  | cons l ls ih =>
    have hl : l ≠ 0 := fun e => hz (by simp [e])
    have hz' : 0 ∉ ls := fun e => hz (List.mem_cons_of_mem _ e)
    obtain ⟨cfg, ch, hs, s1, s2⟩ := simple_addLearner h ho hne hl (hd l (by simp))
    obtain ⟨hi, _, _, ho'⟩ := simple_inv h hs
    have hinc : (t.applyConf cfg ch).conf.incoming = t.conf.incoming := s1
    obtain ⟨t', hr, hi', ho'', m1, m2⟩ := @ih (t.applyConf cfg ch) hi ho' (by rw [hinc]; exact hne) hz'
      (fun l' hl' => by rw [hinc]; exact hd l' (List.mem_cons_of_mem _ hl'))
    refine ⟨t', ?_, hi', ho'', m1.trans hinc, ?_⟩
    · simp only [List.map_cons, restoreLoop, hs]; exact hr
    · intro x
      rw [m2 x, show x ∈ (t.applyConf cfg ch).conf.learners ↔ _ from s2 x, List.mem_cons, or_assoc]

/-! ## `restore`: the batches of the `enter_joint` change list -/

/-- the whole change list `restore` hands to `enter_joint`, from any consistent loop state -/
theorem fold_restore_joint {cfg : Configuration} {prs : IncrChangeMap} (h : LI cfg (eff prs))
    (os vs ls ns : List Nat) (hzo : 0 ∉ os) (hzv : 0 ∉ vs) (hzl : 0 ∉ ls) (hzn : 0 ∉ ns) :
    ∃ st, (ccsOf .removeNode os ++ ccsOf .addNode vs ++ ccsOf .addLearnerNode ls ++
            ccsOf .addLearnerNode ns).foldl applyOne (cfg, prs) = st ∧
      LI st.1 (eff st.2) ∧ st.2.base = prs.base ∧ st.1.outgoing = cfg.outgoing ∧
      (∀ x, x ∈ st.1.incoming ↔
        (((x ∈ cfg.incoming ∧ x ∉ os) ∧ x ∉ vs ∨ x ∈ vs) ∧ x ∉ ls) ∧ x ∉ ns) ∧
      (∀ x, x ∈ st.1.learners ↔
        (((x ∈ cfg.learners ∧ x ∉ os) ∧ x ∉ vs) ∧ x ∉ ls ∨ x ∈ ls ∧ x ∉ cfg.outgoing) ∧ x ∉ ns ∨
          x ∈ ns ∧ x ∉ cfg.outgoing) ∧
      (∀ x, x ∈ st.1.learnersNext ↔
        (((x ∈ cfg.learnersNext ∧ x ∉ os) ∧ x ∉ vs) ∧ x ∉ ls ∨ x ∈ ls ∧ x ∈ cfg.outgoing) ∧ x ∉ ns ∨
          x ∈ ns ∧ x ∈ cfg.outgoing) := by
  simp only [List.foldl_append]
  -- removes
  obtain ⟨a1, a2, a3, _⟩ := applyFold_spec h (ccsOf .removeNode os)
  have r := applyFold_moves h .removeNode os hzo
  generalize (ccsOf .removeNode os).foldl applyOne (cfg, prs) = st1 at *
  obtain ⟨c1, p1⟩ := st1
  -- adds
  obtain ⟨b1, b2, b3, _⟩ := applyFold_spec a1 (ccsOf .addNode vs)
  have s := applyFold_moves a1 .addNode vs hzv
  generalize (ccsOf .addNode vs).foldl applyOne (c1, p1) = st2 at *
  obtain ⟨c2, p2⟩ := st2
  -- learners
  obtain ⟨d1, d2, d3, _⟩ := applyFold_spec b1 (ccsOf .addLearnerNode ls)
  have t := applyFold_moves b1 .addLearnerNode ls hzl
  generalize (ccsOf .addLearnerNode ls).foldl applyOne (c2, p2) = st3 at *
  obtain ⟨c3, p3⟩ := st3
  -- learners_next
  obtain ⟨e1, e2, e3, _⟩ := applyFold_spec d1 (ccsOf .addLearnerNode ns)
  have u := applyFold_moves d1 .addLearnerNode ns hzn
  generalize (ccsOf .addLearnerNode ns).foldl applyOne (c3, p3) = st4 at *
  obtain ⟨c4, p4⟩ := st4
  simp only at *
  refine ⟨_, rfl, e1, ?_, ?_, fun x => ?_, fun x => ?_, fun x => ?_⟩
  · rw [e2, d2, b2, a2]
  · rw [e3, d3, b3, a3]
  · rw [u.incoming.2 x, t.incoming.2 x, s.incoming.2 x, r.incoming.2 x]
    simp only [reduceCtorEq, and_false, or_false, and_true]
  · rw [u.learners.2 x, t.learners.2 x, s.learners.2 x, r.learners.2 x, d3, b3, a3]
    simp only [reduceCtorEq, and_false, or_false, false_and, true_and]
  · rw [u.learnersNext.2 x, t.learnersNext.2 x, s.learnersNext.2 x, r.learnersNext.2 x, d3, b3, a3]
    simp only [reduceCtorEq, and_false, or_false, false_and, true_and]

/-! ## `restore (to_conf_state c) = c` -/

theorem eqWithoutOrder_iff {l r : List Nat} : eqWithoutOrder l r = true ↔ ∀ x, x ∈ l ↔ x ∈ r := by
  simp only [eqWithoutOrder, Bool.and_eq_true, List.all_eq_true, decide_eq_true_eq]
  constructor
  · rintro ⟨h1, h2⟩ x; exact ⟨h1 x, h2 x⟩
  · intro h; exact ⟨fun x => (h x).mp, fun x => (h x).mpr⟩

/-- what `conf_state_eq` decides: equal as sets, field by field -/
theorem confStateEq_iff {a b : ConfState} :
    confStateEq a b = true ↔
      (∀ x, x ∈ a.voters ↔ x ∈ b.voters) ∧ (∀ x, x ∈ a.learners ↔ x ∈ b.learners) ∧
      (∀ x, x ∈ a.votersOutgoing ↔ x ∈ b.votersOutgoing) ∧
      (∀ x, x ∈ a.learnersNext ↔ x ∈ b.learnersNext) ∧ a.autoLeave = b.autoLeave := by
  unfold confStateEq
  split
  · rename_i h
    obtain ⟨h1, h2, h3, h4, h5⟩ := h
    simp [h1, h2, h3, h4, h5]
  · simp only [Bool.and_eq_true, eqWithoutOrder_iff, beq_iff_eq]
    constructor
    · rintro ⟨⟨⟨⟨h1, h2⟩, h3⟩, h4⟩, h5⟩; exact ⟨h1, h2, h3, h4, h5⟩
    · rintro ⟨h1, h2, h3, h4, h5⟩; exact ⟨⟨⟨⟨h1, h2⟩, h3⟩, h4⟩, h5⟩

theorem map_isEmpty_ccs (ty : ConfChangeType) (ids : List Nat) :
    (ids.map (fun id => (⟨ty, id⟩ : ConfChangeSingle))).isEmpty = ids.isEmpty := by
  cases ids <;> rfl

/-- **Restoring the `ConfState` of a consistent tracker reproduces the tracker**, whatever the order
(and multiplicity) in which the `ConfState` lists its ids. -/
theorem restore_roundtrip {t : Tracker} (h : CfgInv t) (hv : t.conf.incoming ≠ [] ∨ t = Tracker.empty)
    (cs : ConfState) (hcs : confStateEq cs t.conf.toConfState = true) :
    restore Tracker.empty cs = .ok t := by
  obtain ⟨eV, eL, eO, eN, eA⟩ := confStateEq_iff.mp hcs
  simp only [Configuration.toConfState] at eV eL eO eN eA
  obtain ⟨h1, h2, h3, h4, h5, h6, h7, h8, h9, h10, h11⟩ := h.1
  have z : ∀ x, (x ∈ t.conf.incoming ∨ x ∈ t.conf.outgoing ∨ x ∈ t.conf.learners ∨ x ∈ t.conf.learnersNext) → x ≠ 0 :=
    fun x hx e => h11 (e ▸ (h6 x).mpr hx)
  have zV : 0 ∉ cs.voters := fun hx => z 0 (Or.inl ((eV 0).mp hx)) rfl
  have zO : 0 ∉ cs.votersOutgoing := fun hx => z 0 (Or.inr (Or.inl ((eO 0).mp hx))) rfl
  have zL : 0 ∉ cs.learners := fun hx => z 0 (Or.inr (Or.inr (Or.inl ((eL 0).mp hx)))) rfl
  have zN : 0 ∉ cs.learnersNext := fun hx => z 0 (Or.inr (Or.inr (Or.inr ((eN 0).mp hx)))) rfl
  have hE : CfgInv Tracker.empty := by
    refine ⟨⟨sorted_nil, sorted_nil, sorted_nil, sorted_nil, sorted_nil, ?_, ?_, ?_, ?_, ?_, ?_⟩, fun _ => ⟨rfl, rfl⟩⟩ <;>
      simp [Tracker.empty]
  simp only [restore, toConfChangeSingle, map_isEmpty_ccs]
  by_cases ho : t.conf.outgoing = []
  · -- non-joint
    have hcO : cs.votersOutgoing = [] := eq_nil_of_subset_nil (fun x hx => (eO x).mp hx) ho
    have hcN : cs.learnersNext = [] :=
      eq_nil_of_subset_nil (fun x hx => (eN x).mp hx) (h.2 ho).1
    simp only [hcO, hcN, List.isEmpty_nil, ↓reduceIte, List.map_nil, List.nil_append, List.append_nil]
    rw [restoreLoop_append]
    obtain ⟨t1, r1, i1, o1, m1, m1'⟩ := restoreLoop_addVoters hE rfl cs.voters zV
    rw [r1]
    simp only
    by_cases hne : t.conf.incoming = []
    · -- the empty tracker
      have ht : t = Tracker.empty := by
        rcases hv with hv | hv
        · exact absurd hne hv
        · exact hv
      subst ht
      have hcV : cs.voters = [] := eq_nil_of_subset_nil (fun x hx => (eV x).mp hx) rfl
      have hcL : cs.learners = [] := eq_nil_of_subset_nil (fun x hx => (eL x).mp hx) rfl
      rw [hcV] at r1
      simp only [List.map_nil, restoreLoop, Except.ok.injEq] at r1
      subst r1
      simp [hcL, restoreLoop]
    · obtain ⟨w, hw⟩ := List.exists_mem_of_ne_nil _ hne
      have hne1 : t1.conf.incoming ≠ [] := by
        intro e
        have := (m1 w).mpr (Or.inr ((eV w).mpr hw))
        rw [e] at this; simp at this
      have hd : ∀ l ∈ cs.learners, l ∉ t1.conf.incoming := by
        intro l hl hl1
        rcases (m1 l).mp hl1 with e | e
        · simp [Tracker.empty] at e
        · exact h7 l ((eL l).mp hl) ((eV l).mp e)
      obtain ⟨t2, r2, i2, o2, m2, m2'⟩ := restoreLoop_addLearners i1 o1 hne1 cs.learners zL hd
      rw [r2]
      congr 1
      apply tracker_ext i2 h
      · intro x; rw [m2, m1 x, ← eV x]; simp [Tracker.empty]
      · intro x; rw [o2, ho]
      · intro x; rw [m2' x, m1' x, ← eL x]; simp [Tracker.empty]
      · intro x; rw [(i2.2 o2).1, (h.2 ho).1]
      · rw [(i2.2 o2).2, (h.2 ho).2]
  · -- joint
    obtain ⟨wo, hwo⟩ := List.exists_mem_of_ne_nil _ ho
    have hne : t.conf.incoming ≠ [] := by
      rcases hv with hv | hv
      · exact hv
      · subst hv; exact absurd rfl ho
    obtain ⟨wi, hwi⟩ := List.exists_mem_of_ne_nil _ hne
    have hcO : cs.votersOutgoing.isEmpty = false := isEmpty_false_of_mem ((eO wo).mpr hwo)
    simp only [hcO, Bool.false_eq_true, ↓reduceIte]
    obtain ⟨t1, r1, i1, o1, m1, m1'⟩ := restoreLoop_addVoters hE rfl cs.votersOutgoing zO
    rw [r1]
    simp only
    have hinc1 : ∀ x, x ∈ t1.conf.incoming ↔ x ∈ t.conf.outgoing := by
      intro x; rw [m1 x, ← eO x]; simp [Tracker.empty]
    have hl1 : t1.conf.learners = [] :=
      eq_nil_of_subset_nil (fun x hx => ((m1' x).mp hx).1) rfl
    have hn1 : t1.conf.learnersNext = [] := (i1.2 o1).1
    have hj1 : joint t1.conf = false := by simp [joint, o1]
    have hne1 : t1.conf.incoming.isEmpty = false := isEmpty_false_of_mem ((hinc1 wo).mpr hwo)
    obtain ⟨st, hst, f1, f2, f3, fi, fl, fn⟩ :=
      fold_restore_joint (enter_LI i1 o1) cs.votersOutgoing cs.voters cs.learners cs.learnersNext zO zV zL zN
    simp only [hl1, hn1, List.not_mem_nil, false_and, false_or] at fi fl fn
    have hi4 : ∀ x, x ∈ st.1.incoming ↔ x ∈ t.conf.incoming := by
      intro x; rw [fi x, hinc1 x, eO x, eV x, eL x, eN x]
      constructor
      · rintro ⟨⟨(⟨⟨ha, hb⟩, _⟩ | hh), _⟩, _⟩
        · exact absurd ha hb
        · exact hh
      · intro hx
        exact ⟨⟨Or.inr hx, fun hl => h7 x hl hx⟩, fun hn => h10 x hn hx⟩
    have hne4 : st.1.incoming.isEmpty = false := isEmpty_false_of_mem ((hi4 wi).mpr hwi)
    have henter : enterJoint t1 cs.autoLeave
        (ccsOf .removeNode cs.votersOutgoing ++ ccsOf .addNode cs.voters ++
          ccsOf .addLearnerNode cs.learners ++ ccsOf .addLearnerNode cs.learnersNext) =
        .ok ({ st.1 with autoLeave := cs.autoLeave }, st.2.changes) := by
      rw [enterJoint_eq i1]
      simp only [hj1, Bool.false_eq_true, ↓reduceIte, hne1, hst, hne4]
    have henter' := henter
    simp only [ccsOf] at henter'
    rw [henter']
    simp only
    congr 1
    have i2 := (enterJoint_inv i1 henter).1
    apply tracker_ext i2 h
    · exact hi4
    · intro x
      show x ∈ st.1.outgoing ↔ _
      rw [f3]; exact hinc1 x
    · intro x
      show x ∈ st.1.learners ↔ _
      rw [fl x]
      simp only [hinc1, eL, eN]
      constructor
      · rintro (⟨⟨hh, _⟩, _⟩ | ⟨hh, hh'⟩)
        · exact hh
        · exact absurd (h9 x hh) hh'
      · intro hx; exact Or.inl ⟨⟨hx, h8 x hx⟩, fun hn => h8 x hx (h9 x hn)⟩
    · intro x
      show x ∈ st.1.learnersNext ↔ _
      rw [fn x]
      simp only [hinc1, eL, eN]
      constructor
      · rintro (⟨⟨hh, hh'⟩, _⟩ | ⟨hh, _⟩)
        · exact absurd hh' (h8 x hh)
        · exact hh
      · intro hx; exact Or.inr ⟨hx, h9 x hx⟩
    · exact eA

theorem restoreLoop_nonempty {t t' : Tracker} (h : CfgInv t) {ccs : List ConfChangeSingle}
    (hr : restoreLoop t ccs = .ok t') : t'.conf.incoming ≠ [] ∨ t' = t := by
  induction ccs generalizing t with
  | nil => simp only [restoreLoop, Except.ok.injEq] at hr; exact Or.inr hr.symm
  | cons c ccs ih =>
    simp only [restoreLoop] at hr
    cases hs : simple t [c] with
    | error e => simp [hs] at hr
    | ok r =>
      obtain ⟨cfg, ch⟩ := r
      simp only [hs] at hr
      obtain ⟨hi, hne, _⟩ := simple_inv h hs
      rcases ih hi hr with h' | h'
      · exact Or.inl h'
      · subst h'; exact Or.inl hne

/-- `restore` establishes the invariant (from a consistent tracker, in particular the empty one), and
what it builds has a voter unless nothing was done -/
theorem restore_inv {t0 t : Tracker} (h : CfgInv t0) {cs : ConfState} (hr : restore t0 cs = .ok t) :
    CfgInv t ∧ (t.conf.incoming ≠ [] ∨ t = t0) := by
  simp only [restore, toConfChangeSingle] at hr
  simp only [map_isEmpty_ccs] at hr
  by_cases hc : cs.votersOutgoing.isEmpty = true
  · simp only [hc, ↓reduceIte] at hr
    exact ⟨restoreLoop_inv h hr, restoreLoop_nonempty h hr⟩
  · have hc' : cs.votersOutgoing.isEmpty = false := by simpa using hc
    simp only [hc', Bool.false_eq_true, ↓reduceIte] at hr
    cases h1 : restoreLoop t0 (cs.votersOutgoing.map (fun id => ({ ctype := .addNode, nodeId := id } : ConfChangeSingle))) with
    | error e => rw [h1] at hr; simp at hr
    | ok t1 =>
      rw [h1] at hr
      simp only at hr
      have i1 := restoreLoop_inv h h1
      generalize (cs.votersOutgoing.map (fun id => ({ ctype := .removeNode, nodeId := id } : ConfChangeSingle)) ++
        cs.voters.map (fun id => ({ ctype := .addNode, nodeId := id } : ConfChangeSingle)) ++
        cs.learners.map (fun id => ({ ctype := .addLearnerNode, nodeId := id } : ConfChangeSingle)) ++
        cs.learnersNext.map (fun id => ({ ctype := .addLearnerNode, nodeId := id } : ConfChangeSingle))) = ccs at hr
      cases he : enterJoint t1 cs.autoLeave ccs with
      | error e => rw [he] at hr; simp at hr
      | ok r =>
        obtain ⟨cfg, ch⟩ := r
        rw [he] at hr
        simp only [Except.ok.injEq] at hr
        subst hr
        have := enterJoint_inv i1 he
        exact ⟨this.1, Or.inl this.2.1⟩

end RaftProofs.ConfChange
