import RaftProofs.RaftHandlers

/-!
Frame lemmas about the node model (`RaftModel.Raft*`) used by `RaftProps.C16`: which functions of
`src/raft.rs` leave `term`, `vote`, `state`, `leader_id` (and the configuration flags) untouched.
-/
namespace RaftModel

namespace Raft

/-- the part of the node state that the property C16 talks about: `term`, `vote`, role, known
leader, and the static identity / configuration flags -/
structure Frame (r r' : Raft) : Prop where
  term : r'.term = r.term
  vote : r'.vote = r.vote
  state : r'.state = r.state
  leaderId : r'.leaderId = r.leaderId
  id : r'.id = r.id
  checkQuorum : r'.checkQuorum = r.checkQuorum
  preVote : r'.preVote = r.preVote

theorem Frame.rfl {r : Raft} : Frame r r := ⟨Eq.refl _, Eq.refl _, Eq.refl _, Eq.refl _, Eq.refl _, Eq.refl _, Eq.refl _⟩

theorem Frame.trans {a b c : Raft} (h1 : Frame a b) (h2 : Frame b c) : Frame a c :=
  ⟨h2.term.trans h1.term, h2.vote.trans h1.vote, h2.state.trans h1.state,
   h2.leaderId.trans h1.leaderId, h2.id.trans h1.id, h2.checkQuorum.trans h1.checkQuorum,
   h2.preVote.trans h1.preVote⟩

theorem Frame.upd {a r r' : Raft} (h : Frame r r') (h0 : Frame a r) : Frame a r' := h0.trans h

/-- any structure update of the fields outside the frame keeps the frame -/
theorem Frame.mk' {a r : Raft} {x4 : List ReadState} {x5 : RaftLog} {x6 x7 x8 : Nat} {x10 : Bool}
    {x12 : Option Nat} {x13 : Nat} {x14 : ReadOnly} {x15 x16 : Nat} {x19 x20 x21 : Bool}
    {x22 x23 x24 x25 x26 : Nat} {x27 : Int} {x28 : UncommittedState} {x29 : Nat}
    {x30 : ProgressTracker} {x31 : List Message} {x32 : Option Nat} (h0 : Frame a r) :
    Frame a { term := r.term, vote := r.vote, id := r.id, readStates := x4, raftLog := x5,
              maxInflight := x6, maxMsgSize := x7, pendingRequestSnapshot := x8, state := r.state,
              promotable := x10, leaderId := r.leaderId, leadTransferee := x12,
              pendingConfIndex := x13, readOnly := x14, electionElapsed := x15,
              heartbeatElapsed := x16, checkQuorum := r.checkQuorum, preVote := r.preVote,
              skipBcastCommit := x19, batchAppend := x20, disableProposalForwarding := x21,
              heartbeatTimeout := x22, electionTimeout := x23, randomizedElectionTimeout := x24,
              minElectionTimeout := x25, maxElectionTimeout := x26, priority := x27,
              uncommittedState := x28, maxCommittedSizePerReady := x29, prs := x30, msgs := x31,
              nextRand := x32 } :=
  h0.trans ⟨Eq.refl _, Eq.refl _, Eq.refl _, Eq.refl _, Eq.refl _, Eq.refl _, Eq.refl _⟩

/-- closes `Frame r r'` when `r'` is (after `cases h`) a structure update of `r` on other fields -/
macro "frame_triv" : tactic =>
  `(tactic| first
    | exact Frame.rfl
    | exact ⟨Eq.refl _, Eq.refl _, Eq.refl _, Eq.refl _, Eq.refl _, Eq.refl _, Eq.refl _⟩)

/-- split the hypothesis `h : f … = .ok …` along every `if` / `match` of the unfolded body and close
the branches that end in a plain structure update (or are impossible) -/
macro "frame_split" h:ident : tactic =>
  `(tactic| ((repeat' (first | split at $h:ident | (simp only at $h:ident; split at $h:ident))) <;>
      (try (first | (cases $h:ident; done) | (cases $h:ident; frame_triv)))))

/-- decompose `h : f … = .ok …` recursively: case-split every `if` / `match`, turn `x.bind f = .ok b`
into `x = .ok a` and `f a = .ok b` (decomposing both), discard impossible branches and substitute
`.ok a = .ok b` -/
syntax "frame_dec " ident : tactic
macro_rules
  | `(tactic| frame_dec $h:ident) => `(tactic|
      first
      | (split at $h:ident <;> frame_dec $h:ident)
      | (rw [Res.bind_eq_ok_iff] at $h:ident; refine Exists.elim $h:ident ?_; clear $h:ident;
         intro _ hx; refine And.elim ?_ hx; clear hx; intro hx $h:ident;
         (frame_dec hx <;> frame_dec $h:ident))
      | (simp only at $h:ident; split at $h:ident <;> frame_dec $h:ident)
      | (rw [ite_eq_iff_or] at $h:ident; refine Or.elim $h:ident ?_ ?_ <;> clear $h:ident <;>
         intro hx <;> refine And.elim ?_ hx <;> clear hx <;> intro _ $h:ident <;> frame_dec $h:ident)
      | (cases $h:ident; done)
      | (cases $h:ident)
      | skip)

macro "frame_pre" h:ident : tactic =>
  `(tactic| (frame_dec $h:ident <;> (iterate 2 (try (apply Frame.mk')))))

/-- `frame_pre`, then chaining the anchored frame lemmas given in the list over the hypotheses
collected on the way -/
macro "frame_auto" h:ident "[" ls:Lean.Parser.Tactic.SolveByElim.arg,* "]" : tactic =>
  `(tactic| (frame_pre $h:ident <;> (solve_by_elim (maxDepth := 14) [Frame.rfl, $ls,*, Frame.mk'])))

/-! Every lemma below is *anchored*: from `Frame a r` and `f r = .ok r'` conclude `Frame a r'`, so that
`solve_by_elim` can chain them backwards from the final state without a free transitivity rule. -/

theorem send_frame {a r r' : Raft} {m : Message} (h : r.send m = .ok r') (h0 : Frame a r) :
    Frame a r' := by
  rw [send_eq r r' m h]; exact h0.trans (by frame_triv)

theorem prepareSendSnapshot_frame {a r r' : Raft} {m m' : Message} {pr pr' : Progress} {to : Nat}
    {b : Bool} (h : r.prepareSendSnapshot m pr to = .ok (r', m', pr', b)) (h0 : Frame a r) :
    Frame a r' := by
  refine h0.trans ?_
  unfold Raft.prepareSendSnapshot at h
  frame_split h

theorem tryBatching_frame {a r r' : Raft} {to : Nat} {pr pr' : Progress} {ents : List Entry} {b : Bool}
    (h : r.tryBatching to pr ents = .ok (r', pr', b)) (h0 : Frame a r) : Frame a r' := by
  refine h0.trans ?_
  unfold Raft.tryBatching at h
  frame_split h

theorem maybeSendAppend_frame {a r r' : Raft} {to : Nat} {pr pr' : Progress} {ae b : Bool}
    (h : r.maybeSendAppend to pr ae = .ok (r', pr', b)) (h0 : Frame a r) : Frame a r' :=
  maybeSendAppend_parts h h0 (prepareSendSnapshot_frame · h0) (tryBatching_frame · h0) (fun hs _ => send_frame hs)

theorem sendAppendPr_frame {a r r' : Raft} {to : Nat} {pr pr' : Progress}
    (h : r.sendAppendPr to pr = .ok (r', pr')) (h0 : Frame a r) : Frame a r' :=
  sendAppendPr_parts h (maybeSendAppend_frame · h0)

theorem sendAppendAggressivelyPr_frame {a r' : Raft} {to : Nat} {pr' : Progress} :
    ∀ (fuel : Nat) (r : Raft) (pr : Progress),
      sendAppendAggressivelyPr fuel r to pr = .ok (r', pr') → Frame a r → Frame a r' :=
  sendAppendAggressivelyPr_parts maybeSendAppend_frame

theorem sendHeartbeat_frame {a r r' : Raft} {to : Nat} {pr : Progress} {ctx : Option Bytes}
    (h : r.sendHeartbeat to pr ctx = .ok r') (h0 : Frame a r) : Frame a r' := by
  unfold Raft.sendHeartbeat at h
  exact send_frame h h0

theorem sendAppend_frame {a r r' : Raft} {to : Nat}
    (h : r.sendAppend to = .ok r') (h0 : Frame a r) : Frame a r' :=
  sendAppend_parts h (sendAppendPr_frame · h0) fun _ => Frame.mk'

theorem sendAppendAggressively_frame {a r r' : Raft} {to : Nat}
    (h : r.sendAppendAggressively to = .ok r') (h0 : Frame a r) : Frame a r' :=
  sendAppendAggressively_parts h (sendAppendAggressivelyPr_frame _ _ _ · h0) fun _ => Frame.mk'

theorem sendTimeoutNow_frame {a r r' : Raft} {to : Nat}
    (h : r.sendTimeoutNow to = .ok r') (h0 : Frame a r) : Frame a r' := by
  unfold Raft.sendTimeoutNow at h
  exact send_frame h h0

theorem foldl_frame {α : Type} {a r' : Raft} (step : Res Raft → α → Res Raft)
    (hstep : ∀ acc x r1, step acc x = .ok r1 → ∃ r0, acc = .ok r0 ∧ (Frame a r0 → Frame a r1)) :
    ∀ (l : List α) (acc : Res Raft), l.foldl step acc = .ok r' →
      (∀ r, acc = .ok r → Frame a r) → Frame a r' :=
  foldl_parts step hstep

theorem forEachPeer_frame {a r r' : Raft} {f : Raft → Nat → Progress → Res (Raft × Progress)}
    (hf : ∀ r id pr r' pr', f r id pr = .ok (r', pr') → Frame a r → Frame a r')
    (h : r.forEachPeer f = .ok r') (h0 : Frame a r) : Frame a r' :=
  forEachPeer_parts h h0 (hf _ _ _ _ _) fun _ _ => Frame.mk'

theorem bcastAppend_frame {a r r' : Raft} (h : r.bcastAppend = .ok r') (h0 : Frame a r) :
    Frame a r' :=
  bcastAppend_parts h h0 sendAppendPr_frame fun _ _ => Frame.mk'

theorem bcastHeartbeatWithCtx_frame {a r r' : Raft} {ctx : Option Bytes}
    (h : r.bcastHeartbeatWithCtx ctx = .ok r') (h0 : Frame a r) : Frame a r' :=
  bcastHeartbeatWithCtx_parts h h0 sendHeartbeat_frame fun _ _ => Frame.mk'

theorem bcastHeartbeat_frame {a r r' : Raft} (h : r.bcastHeartbeat = .ok r') (h0 : Frame a r) :
    Frame a r' := by
  unfold Raft.bcastHeartbeat at h
  exact bcastHeartbeatWithCtx_frame h h0

theorem maybeCommit_frame {a r r' : Raft} {b : Bool} (h : r.maybeCommit = .ok (r', b))
    (h0 : Frame a r) : Frame a r' :=
  maybeCommit_parts h h0 (fun _ => Frame.mk' h0) fun _ => Frame.mk'

theorem maybeIncreaseUncommittedSize_frame {a r r' : Raft} {es : List Entry} {b : Bool}
    (h : r.maybeIncreaseUncommittedSize es = (r', b)) (h0 : Frame a r) : Frame a r' := by
  unfold Raft.maybeIncreaseUncommittedSize at h
  split at h
  cases h
  exact Frame.mk' h0

theorem appendEntry_frame {a r r' : Raft} {es : List Entry} {b : Bool}
    (h : r.appendEntry es = .ok (r', b)) (h0 : Frame a r) : Frame a r' :=
  appendEntry_parts h h0 (maybeIncreaseUncommittedSize_frame · h0) fun _ => Frame.mk'

theorem handleReadyReadIndex_frame {a r r' : Raft} {req : Message} {i : Nat} {om : Option Message}
    (h : r.handleReadyReadIndex req i = .ok (r', om)) (h0 : Frame a r) : Frame a r' :=
  handleReadyReadIndex_parts h h0 fun _ => Frame.mk' h0

theorem respondReadStates_frame {a r r' : Raft} {rss : List ReadIndexStatus}
    (h : r.respondReadStates rss = .ok r') (h0 : Frame a r) : Frame a r' :=
  respondReadStates_parts h h0 handleReadyReadIndex_frame fun h _ => send_frame h

/-! ### leader side -/

theorem checkQuorumActive_frame {a r r' : Raft} {b : Bool} (h : r.checkQuorumActive = (r', b))
    (h0 : Frame a r) : Frame a r' := by
  unfold Raft.checkQuorumActive at h
  split at h
  cases h
  exact Frame.mk' h0

theorem handleAppendResponseAccepted_frame {a r r' : Raft} {m : Message} {pr : Progress} {op : Bool}
    (h : r.handleAppendResponseAccepted m pr op = .ok r') (h0 : Frame a r) : Frame a r' :=
  handleAppendResponseAccepted_parts h (fun _ => Frame.mk' h0) maybeCommit_frame bcastAppend_frame
    sendAppend_frame sendAppendAggressively_frame fun _ => sendTimeoutNow_frame

theorem handleAppendResponse_frame {a r r' : Raft} {m : Message}
    (h : r.handleAppendResponse m = .ok r') (h0 : Frame a r) : Frame a r' :=
  handleAppendResponse_parts h h0 (fun _ => Frame.mk' h0) sendAppend_frame
    (handleAppendResponseAccepted_frame · h0)

theorem handleHeartbeatResponse_frame {a r r' : Raft} {m : Message}
    (h : r.handleHeartbeatResponse m = .ok r') (h0 : Frame a r) : Frame a r' :=
  handleHeartbeatResponse_parts h h0 (sendAppendPr_frame · h0) (fun _ => Frame.mk')
    (fun _ => Frame.mk') respondReadStates_frame

theorem handleTransferLeader_cont_frame {a r r' : Raft} {frm : Nat}
    (h : (if frm = r.id then Res.ok r
          else
            let r : Raft := { r with electionElapsed := 0, leadTransferee := some frm }
            match r.prs.get frm with
            | none => .panic "raft.handle_transfer_leader.unwrap"
            | some pr =>
              if pr.matched = r.raftLog.lastIndex then r.sendTimeoutNow frm
              else (r.sendAppendPr frm pr).bind
                (fun (r, pr) => .ok { r with prs := r.prs.set frm pr })) = .ok r')
    (h0 : Frame a r) : Frame a r' := by
  by_cases hf : frm = r.id
  · rw [if_pos hf] at h; cases h; exact h0
  rw [if_neg hf] at h
  dsimp only at h
  split at h
  · cases h
  · rename_i pr _
    have h1 : Frame a { r with electionElapsed := 0, leadTransferee := some frm } := Frame.mk' h0
    by_cases hm : pr.matched = r.raftLog.lastIndex
    · rw [if_pos hm] at h; exact sendTimeoutNow_frame h h1
    · rw [if_neg hm] at h
      obtain ⟨⟨r2, pr2⟩, hs, he⟩ := Res.bind_eq_ok h
      cases he
      exact Frame.mk' (sendAppendPr_frame hs h1)

theorem handleTransferLeader_frame {a r r' : Raft} {m : Message}
    (h : r.handleTransferLeader m = .ok r') (h0 : Frame a r) : Frame a r' :=
  handleTransferLeader_parts h h0 Frame.mk' Frame.mk' (fun _ => sendTimeoutNow_frame)
    (fun _ => sendAppendPr_frame)
    fun _ => Frame.mk'

theorem handleSnapshotStatus_frame {a r : Raft} {m : Message} (h0 : Frame a r) :
    Frame a (r.handleSnapshotStatus m) := by
  unfold Raft.handleSnapshotStatus
  split
  · exact h0
  · split
    · exact h0
    · exact Frame.mk' h0

theorem handleUnreachable_frame {a r : Raft} {m : Message} (h0 : Frame a r) :
    Frame a (r.handleUnreachable m) := by
  unfold Raft.handleUnreachable
  split
  · exact h0
  · split
    · exact Frame.mk' h0
    · exact h0

theorem filterProposalEntry_frame {a r r' : Raft} {i : Nat} {e e' : Entry}
    (h : r.filterProposalEntry i e = some (r', e')) (h0 : Frame a r) : Frame a r' :=
  filterProposalEntry_parts h h0 fun _ => Frame.mk' h0

theorem filterProposal_frame {a : Raft} : ∀ (es : List Entry) (r r' : Raft) (i : Nat)
    (oes : Option (List Entry)), r.filterProposal i es = (r', oes) → Frame a r → Frame a r' :=
  filterProposal_parts filterProposalEntry_frame

/-! ### follower side -/

theorem sendRequestSnapshot_frame {a r r' : Raft} (h : r.sendRequestSnapshot = .ok r')
    (h0 : Frame a r) : Frame a r' :=
  sendRequestSnapshot_parts h h0 fun hs _ => send_frame hs

theorem handleAppendEntries_frame {a r r' : Raft} {m : Message}
    (h : r.handleAppendEntries m = .ok r') (h0 : Frame a r) : Frame a r' :=
  handleAppendEntries_parts h h0 sendRequestSnapshot_frame (fun _ => Frame.mk' h0)
    fun hs _ => send_frame hs

theorem handleHeartbeat_frame {a r r' : Raft} {m : Message}
    (h : r.handleHeartbeat m = .ok r') (h0 : Frame a r) : Frame a r' :=
  handleHeartbeat_parts h (fun _ => Frame.mk' h0) sendRequestSnapshot_frame
    fun hs _ => send_frame hs

/-- away from the leader role `post_conf_change` only recomputes `promotable` -/
theorem postConfChange_nonleader {a r r' : Raft} {cs : ConfState} (hs : r.state ≠ .leader)
    (h : r.postConfChange = .ok (r', cs)) (h0 : Frame a r) : Frame a r' :=
  postConfChange_parts h (Frame.mk' h0) (fun hl => absurd hl hs) (fun hl => absurd hl hs)
    (fun hl => absurd hl hs) (fun hl => absurd hl hs) (fun _ _ => Frame.mk') (fun _ => Frame.mk')
    respondReadStates_frame Frame.mk'

/-- a follower's `restore`: the node it hands to `post_conf_change` is still a follower -/
theorem restore_frame {a r r' : Raft} {snap : Snapshot} {b : Bool} (hs : r.state = .follower)
    (h : r.restore snap = .ok (r', b)) (h0 : Frame a r) : Frame a r' :=
  restore_parts h h0 (fun hn => absurd hs hn) (fun _ _ => Frame.mk' h0) (fun _ _ _ => Frame.mk' h0)
    (fun _ => fun hp f1 =>
      postConfChange_nonleader (by rw [f1.state, ← h0.state, hs]; intro hc; cases hc) hp f1)
    fun _ => Frame.mk'

theorem handleSnapshot_frame {a r r' : Raft} {m : Message} (hs : r.state = .follower)
    (h : r.handleSnapshot m = .ok r') (h0 : Frame a r) : Frame a r' :=
  handleSnapshot_parts h (fun hr => restore_frame hs hr h0) fun hx _ => send_frame hx

end Raft
end RaftModel
