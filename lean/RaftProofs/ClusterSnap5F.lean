import RaftProofs.ClusterSnap5E

/-!
Commit safety of `ClusterSem` with compaction and snapshots, part 5F: **the ghost-log invariant with
snapshots** (`ghost_inv`): in every state of a history under `GHyp2w q`

* the logical log and the stored log of every node have uncompacted versions (`FL` / `FS`), which —
  when no snapshot is pending — share the prefix below the node's snapshot point, and the uncompacted
  stored log holds an entry of the recorded term at the storage's snapshot index (`NodeFull`);
* every `MsgSnapshot` that is queued or in the transport names a point `(index, term)` of an
  uncompacted log derived from the chains of the history (`SnapMsgOk`) — so a node that restores it
  gets an uncompacted version, too.
-/
namespace RaftModel
namespace Cluster
namespace Snap5
open Node Raft Raft.CC RaftProps.C02 RaftProps.C05 Snap

variable {q : Prop} {cfg : JointConfig} {c0 : Nat} {h : List Sys}

/-! ### the prefix of an uncompacted log as the uncompacted version of a snapshot -/

/-- the prefix of `F` up to index `i` -/
def pre (F : LLog) (i : Nat) : LLog := { F with ents := F.ents.take (i - F.snapIdx) }

theorem pre_entryAt (F : LLog) (i k : Nat) :
    (pre F i).entryAt k = if k ≤ i then F.entryAt k else none := by
  unfold pre LLog.entryAt
  dsimp only
  by_cases hk0 : k ≤ F.snapIdx
  · rw [if_pos hk0, if_pos hk0]; split <;> rfl
  · rw [if_neg hk0, if_neg hk0, List.getElem?_take]
    by_cases hk : k ≤ i
    · rw [if_pos hk, if_pos (by omega)]
    · rw [if_neg hk, if_neg (by omega)]

theorem pre_prevTerm (F : LLog) (i k : Nat) (hk : k ≤ i) :
    (pre F i).prevTerm k = F.prevTerm k := by
  unfold LLog.prevTerm
  have hs : (pre F i).snapIdx = F.snapIdx := rfl
  have hst : (pre F i).snapTerm = F.snapTerm := rfl
  rw [hs, hst]
  by_cases hk1 : k = F.snapIdx + 1
  · rw [if_pos hk1, if_pos hk1]
  · rw [if_neg hk1, if_neg hk1, pre_entryAt, if_pos (by omega)]

/-- **the uncompacted version of a restored snapshot** `(i, t)`: the prefix up to `i` of an uncompacted
log that holds an entry of term `t` at `i` -/
theorem full_ofSnap {C : LLog → Prop} {F : LLog} (hs : F.snapIdx = c0) (hc : F.Contig)
    (hd : DerivedFrom C F) {i t : Nat} (hi0 : c0 < i) {e : Entry} (he : F.entryAt i = some e)
    (het : e.term = t) :
    Full C c0 { snapIdx := i, snapTerm := some t, ents := [] } (pre F i) := by
  have hil := (F.entryAt_lt he).2
  refine ⟨hs, Nat.le_of_lt hi0, ?_, ?_, fun k hk => ?_, fun h0 => ?_, fun t' ht' _ => ?_,
    fun hn => ?_, ?_⟩
  · intro k x hk
    have hk' : (F.ents.take (i - F.snapIdx))[k]? = some x := hk
    rw [List.getElem?_take] at hk'
    split at hk'
    · exact hc k x hk'
    · cases hk'
  · unfold LLog.lastIndex at hil ⊢
    show F.snapIdx + (F.ents.take (i - F.snapIdx)).length = i + 0
    rw [List.length_take]; omega
  · have hk' : i < k := hk
    rw [pre_entryAt, if_neg (by omega)]
    unfold LLog.entryAt
    rw [if_neg (by show ¬ k ≤ i; omega)]
    rfl
  · have : i = c0 := h0
    omega
  · cases ht'
    exact ⟨e, by rw [pre_entryAt, if_pos (Nat.le_refl _)]; exact he, het⟩
  · cases hn
  · intro k x hk
    rw [pre_entryAt] at hk
    split at hk
    · rename_i hki
      obtain ⟨y, hy, h1, h2⟩ := hd k x hk
      exact ⟨y, hy, h1, fun p hp => h2 p (by rw [← pre_prevTerm F i k hki]; exact hp)⟩
    · cases hk

/-- the stored log of a storage that holds nothing but a snapshot -/
theorem storeLog_snap {s : MemStorage} {md : SnapshotMetadata} (he : s.entries = [])
    (hm : s.snapshotMetadata = md) :
    storeLog s = { snapIdx := md.index, snapTerm := some md.term, ents := [] } := by
  have hf : s.firstIndex = md.index + 1 := by unfold MemStorage.firstIndex; rw [he, hm]; rfl
  unfold storeLog
  rw [hf, he, hm]
  simp

/-- the stored snapshot point after a restart -/
theorem boot_meta (c : Config) (store : MemStorage) (rnd : Option Nat) (st : NState)
    (hw : store.WF) (h : Node.boot c store rnd = .ok (.ok st)) :
    st.raft.raftLog.store.snapshotMetadata = store.snapshotMetadata := by
  unfold Node.boot at h
  split at h
  · rename_i raft hn
    cases h
    unfold RawNode.new at hn
    split at hn
    · cases hn
    · exact (raftNew_log c store rnd raft hw hn).2.2.2
  · cases h
  · cases h
  · cases h

/-- `MemStorage::append` keeps the snapshot point -/
theorem append_meta {s s' : MemStorage} {ents : List Entry} (h : s.append ents = .ok s') :
    s'.snapshotMetadata = s.snapshotMetadata := by
  unfold MemStorage.append at h
  split at h
  · cases h; rfl
  · split at h
    · cases h
    · split at h
      · cases h
      · simp only [] at h
        split at h
        · cases h
        · cases h; rfl

/-- `stabilize` keeps the stored snapshot point -/
theorem stabilize_meta {st st' : NState} {rnd : Option Nat} {res : OpRes}
    (h : Node.call st rnd .stabilize = .ok (res, st')) :
    st'.raft.raftLog.store.snapshotMetadata = st.raft.raftLog.store.snapshotMetadata := by
  unfold Node.call at h
  simp only [applyOp] at h
  unfold Node.stabilize at h
  simp only [] at h
  split at h
  · rename_i l hl
    cases h
    show l.store.snapshotMetadata = _
    split at hl
    · cases hl; rfl
    · split at hl
      · rename_i store ha
        rw [RaftModel.C06.stableEntries_store hl]
        exact append_meta ha
      · cases hl
      · cases hl
  · cases h
  · cases h

/-- `compact` keeps the stored snapshot point -/
theorem compact_meta {st st' : NState} {rnd : Option Nat} {k : Nat} {res : OpRes}
    (h : Node.call st rnd (.compact k) = .ok (res, st')) :
    st'.raft.raftLog.store.snapshotMetadata = st.raft.raftLog.store.snapshotMetadata := by
  unfold Node.call at h
  simp only [applyOp] at h
  split at h
  · rename_i store hc
    cases h
    show store.snapshotMetadata = _
    have hc' : st.raft.raftLog.store.compact k = .ok store := hc
    unfold MemStorage.compact at hc'
    split at hc'
    · cases hc'; rfl
    · split at hc'
      · cases hc'
      · split at hc'
        · cases hc'; rfl
        · split at hc'
          · cases hc'
          · split at hc'
            · cases hc'
            · cases hc'; rfl
  · cases h
  · cases h

/-! ### the invariant -/

/-- the entry `e` at index `k` sits in a chain of a state `h[m]`, `m ≤ n` -/
def Past (h : List Sys) (n k : Nat) (e : Entry) : Prop :=
  ∃ (m : Nat) (s : Sys) (loc : Loc) (g : LLog), m ≤ n ∧ h[m]? = some s ∧ At s loc g ∧
    g.entryAt k = some e

/-- every entry of `F` sits in a chain of a state up to `h[n]` -/
def PastLog (h : List Sys) (n : Nat) (F : LLog) : Prop := ∀ k e, F.entryAt k = some e → Past h n k e

theorem PastLog.mono {h : List Sys} {n n' : Nat} {F : LLog} (hp : PastLog h n F) (hle : n ≤ n') :
    PastLog h n' F := by
  intro k e he
  obtain ⟨m, s, loc, g, h1, h2⟩ := hp k e he
  exact ⟨m, s, loc, g, Nat.le_trans h1 hle, h2⟩

theorem PastLog.of_eq {h : List Sys} {n : Nat} {F G : LLog} (hp : PastLog h n G)
    (heq : ∀ k, F.entryAt k = G.entryAt k) : PastLog h n F :=
  fun k e he => hp k e (by rw [← heq]; exact he)

/-- the ghost logs of a node (of the state `h[n]`) -/
structure NodeFull (h : List Sys) (c0 n : Nat) (st : NState) : Prop where
  log : Full (HistChain h) c0 st.raft.raftLog.abs (FL h c0 st)
  sto : Full (HistChain h) c0 (storeLog st.raft.raftLog.store) (FS h c0 st)
  pre : st.raft.raftLog.unstable.snapshot = none →
    ∀ k, k ≤ st.raft.raftLog.abs.snapIdx → (FL h c0 st).entryAt k = (FS h c0 st).entryAt k
  smeta : c0 < st.raft.raftLog.store.snapshotMetadata.index →
    ∃ e, (FS h c0 st).entryAt st.raft.raftLog.store.snapshotMetadata.index = some e ∧
      e.term = st.raft.raftLog.store.snapshotMetadata.term
  pastL : PastLog h n (FL h c0 st)
  pastS : PastLog h n (FS h c0 st)

theorem NodeFull.of (H : GHyp2w q cfg c0 h) {st : NState} {F G : LLog}
    (h1 : Full (HistChain h) c0 st.raft.raftLog.abs F)
    (h2 : Full (HistChain h) c0 (storeLog st.raft.raftLog.store) G)
    {n : Nat} (h5 : PastLog h n F) (h6 : PastLog h n G)
    (h3 : st.raft.raftLog.unstable.snapshot = none →
      ∀ k, k ≤ st.raft.raftLog.abs.snapIdx → F.entryAt k = G.entryAt k)
    (h4 : c0 < st.raft.raftLog.store.snapshotMetadata.index →
      ∃ e, G.entryAt st.raft.raftLog.store.snapshotMetadata.index = some e ∧
        e.term = st.raft.raftLog.store.snapshotMetadata.term) : NodeFull h c0 n st :=
  ⟨fl_spec h1, fl_spec h2, fun hp k hk => by
    unfold FL FS
    rw [fl_eq (hist_agree H) h1, fl_eq (hist_agree H) h2]; exact h3 hp k hk,
   fun hc => by
    unfold FS
    obtain ⟨e, he, het⟩ := h4 hc
    exact ⟨e, by rw [fl_eq (hist_agree H) h2]; exact he, het⟩,
   h5.of_eq (fl_eq (hist_agree H) h1), h6.of_eq (fl_eq (hist_agree H) h2)⟩

/-- a `MsgSnapshot` names a point of an uncompacted log derived from the chains of the history -/
def SnapMsgOk (h : List Sys) (c0 n : Nat) (x : Message) : Prop :=
  x.snapshot.metadata.index ≤ c0 ∨
  ∃ F e, F.snapIdx = c0 ∧ F.Contig ∧ DerivedFrom (HistChain h) F ∧
    F.entryAt x.snapshot.metadata.index = some e ∧ e.term = x.snapshot.metadata.term ∧ PastLog h n F

theorem SnapMsgOk.mono {h : List Sys} {c0 n n' : Nat} {x : Message} (hx : SnapMsgOk h c0 n x)
    (hle : n ≤ n') : SnapMsgOk h c0 n' x := by
  rcases hx with c | ⟨F, e, h1, h2, h3, h4, h5, h6⟩
  · exact .inl c
  · exact .inr ⟨F, e, h1, h2, h3, h4, h5, h6.mono hle⟩

theorem past_abs {n : Nat} {s : Sys} (hn : h[n]? = some s) {i : Nat} {st : NState}
    (hi : s.node i = some st) : PastLog h n st.raft.raftLog.abs :=
  fun _ _ he => ⟨n, s, .log i, _, Nat.le_refl _, hn, ⟨st, hi, rfl⟩, he⟩

theorem past_store {n : Nat} {s : Sys} (hn : h[n]? = some s) {i : Nat} {st : NState}
    (hi : s.node i = some st) : PastLog h n (storeLog st.raft.raftLog.store) :=
  fun _ _ he => ⟨n, s, .store i, _, Nat.le_refl _, hn, ⟨st, hi, rfl⟩, he⟩

theorem past_pre {n : Nat} {F : LLog} (hp : PastLog h n F) (i : Nat) : PastLog h n (pre F i) := by
  intro k e he
  rw [pre_entryAt] at he
  split at he
  · exact hp k e he
  · cases he

theorem past_splice {n : Nat} {F g : LLog} (h1 : F.snapIdx ≤ g.snapIdx) (h2 : g.snapIdx ≤ F.lastIndex)
    (hF : PastLog h n F) (hg : PastLog h n g) : PastLog h n (splice F g) := by
  intro k e he
  by_cases hk : k ≤ g.snapIdx
  · rw [splice_low h1 h2 hk] at he; exact hF k e he
  · rw [splice_high h1 h2 (by omega)] at he; exact hg k e he

/-- the ghost invariant of a state; what is queued matters only under `q`, when it may be sent -/
structure GhostInv (q : Prop) (h : List Sys) (c0 n : Nat) (s : Sys) : Prop where
  node : ∀ v st, s.node v = some st → NodeFull h c0 n st
  que : q → ∀ v st, s.node v = some st → ∀ x ∈ st.raft.msgs, x.msgType = .msgSnapshot →
    SnapMsgOk h c0 n x
  net : ∀ x ∈ s.net, x.msgType = .msgSnapshot → SnapMsgOk h c0 n x

/-- the snapshot of a storage names a point of the uncompacted stored log -/
theorem snapshotCore_ok {n : Nat} {st : NState} (I : NodeFull h c0 n st) (hw : st.raft.raftLog.store.WF)
    {sn : Snapshot} (hsn : st.raft.raftLog.store.snapshotCore = .ok sn) (hi : c0 < sn.metadata.index) :
    ∃ e, (FS h c0 st).entryAt sn.metadata.index = some e ∧ e.term = sn.metadata.term := by
  unfold MemStorage.snapshotCore at hsn
  dsimp only at hsn
  split at hsn
  · rename_i heq
    cases hsn
    dsimp only at hi ⊢
    rw [heq] at hi ⊢
    exact I.smeta hi
  · split at hsn
    · rename_i hlt
      split at hsn
      · cases hsn
      · rename_i e0 he0
        split at hsn
        · cases hsn
        · rename_i hge
          split at hsn
          · cases hsn
          · rename_i e he
            cases hsn
            dsimp only at hi ⊢
            -- the stored entry at the recorded commit index
            have hfirst : st.raft.raftLog.store.firstIndex = e0.index := by
              unfold MemStorage.firstIndex; rw [he0]
            have hent : (storeLog st.raft.raftLog.store).entryAt
                st.raft.raftLog.store.hardState.commit = some e := by
              rw [LLog.entryAt_some_iff]
              have hp := hw.first_pos
              refine ⟨by show st.raft.raftLog.store.firstIndex - 1 < _; omega, ?_⟩
              show st.raft.raftLog.store.entries[_ - (st.raft.raftLog.store.firstIndex - 1) - 1]? = _
              rw [← he]; congr 1; omega
            exact ⟨e, I.sto.entry hent, rfl⟩
    · cases hsn

theorem ghost_inv (H : GHyp2w q cfg c0 h) : ∀ (n : Nat) (s : Sys), h[n]? = some s →
    GhostInv q h c0 n s := by
  refine hist_induct h (fun n s => GhostInv q h c0 n s) ?_ ?_
  · intro s h0
    have hinit := hist_init H.hist s h0
    refine ⟨fun v st hv => ?_, fun _ v st hv x hx => ?_, fun x hx => ?_⟩
    · obtain ⟨_, sto, hboot, hwf, _, _⟩ := H.init s h0
      obtain ⟨c, rnd, hb⟩ := hboot v st hv
      obtain ⟨hinv, habs, hsl⟩ := boot_log c _ rnd st (hwf v st hv).1 hb
      have habs' : st.raft.raftLog.abs = storeLog st.raft.raftLog.store := habs.trans hsl.symm
      have hf0 := H.first0 s h0 v st hv
      have hs : (storeLog st.raft.raftLog.store).snapIdx = c0 := by
        show st.raft.raftLog.store.firstIndex - 1 = c0
        rw [hf0]; rfl
      have hF : Full (HistChain h) c0 (storeLog st.raft.raftLog.store)
          (storeLog st.raft.raftLog.store) :=
        Full.self hs (storeLog_contig hinv.storeWF) (hist_store h0 hv)
      refine NodeFull.of H (hF.congr habs') hF (past_store h0 hv) (past_store h0 hv)
        (fun _ _ _ => rfl) (fun hc => ?_)
      have := hinv.storeWF.snap_lt
      omega
    · rw [init_queue hinit v st hv] at hx; cases hx
    · rw [hinit.1] at hx; cases hx
  · intro n a b ha hb ih
    obtain ⟨s0, _, hall⟩ := H.inv_at
    have Ia := hall a (mem_of_get ha)
    obtain ⟨k, stk, stk', hka, hkb, hoth, hs⟩ := H.stp ha hb
    have I := ih.node k stk hka
    have oa := node_ok H ha hka
    have ob := node_ok H hb hkb
    -- the messages: old ones, or queued by an ordinary call from the node's own storage
    have pl := I.pastL.mono (Nat.le_succ n)
    have ps := I.pastS.mono (Nat.le_succ n)
    have hq' : q → ∀ x ∈ stk'.raft.msgs, x.msgType = .msgSnapshot → SnapMsgOk h c0 (n + 1) x := by
      intro hq x hx hty
      have old : x ∈ stk.raft.msgs → SnapMsgOk h c0 (n + 1) x :=
        fun g => (ih.que hq k stk hka x g hty).mono (Nat.le_succ n)
      cases hs with
      | call rnd op res hop hco _ hns hpn hss hcall _ _ =>
        by_cases hold : x ∈ stk.raft.msgs
        · exact old hold
        · have hsn := hss hq x hx hold hty
          by_cases hi : x.snapshot.metadata.index ≤ c0
          · exact .inl hi
          · obtain ⟨e, he, het⟩ := snapshotCore_ok I oa.inv.storeWF hsn (by omega)
            exact .inr ⟨_, e, I.sto.snap, I.sto.contig, I.sto.der, he, het, ps⟩
      | snap rnd m _ _ _ _ hout _ =>
        rcases hout.msgs x hx with g | g
        · exact old g
        · rw [g.1] at hty; cases hty
      | psnap rnd _ hout _ _ => rw [hout.msgs] at hx; exact old hx
      | send _ _ hq _ _ _ => rw [hq] at hx; cases hx
      | restart c rnd hboot _ => rw [(CV.boot_booted c _ rnd stk' hboot).msgs] at hx; cases hx
    refine ⟨fun v st hv => ?_, fun hq v st hv x hx hty => ?_, fun x hx hty => ?_⟩
    · by_cases hvk : v = k
      · subst hvk
        rw [hkb] at hv; cases hv
        cases hs with
        | restart c rnd hboot hnet =>
          obtain ⟨_, habs, hsl⟩ := boot_log c _ rnd stk' oa.inv.storeWF hboot
          have hmeta := boot_meta c _ rnd stk' oa.inv.storeWF hboot
          refine NodeFull.of H (I.sto.congr habs) (I.sto.congr hsl) ps ps (fun _ _ _ => rfl)
            (fun hc => ?_)
          rw [hmeta] at hc ⊢
          exact I.smeta hc
        | send hp hu hq hsame hnet _ =>
          refine NodeFull.of H (I.log.congr (by rw [hsame.1])) (I.sto.congr (by rw [hsame.1])) pl ps
            (fun hp j hj => I.pre (by rw [← hsame.1]; exact hp) j (by rw [hsame.1] at hj; exact hj))
            (fun hc => ?_)
          rw [hsame.1] at hc ⊢
          exact I.smeta hc
        | psnap rnd _ hout hpend _ =>
          cases hout with
          | noop hr =>
            have e1 : stk'.raft.raftLog = stk.raft.raftLog := by rw [hr]
            refine NodeFull.of H (I.log.congr (by rw [e1])) (I.sto.congr (by rw [e1])) pl ps
              (fun hp j hj => I.pre (by rw [← e1]; exact hp) j (by rw [e1] at hj; exact hj))
              (fun hc => ?_)
            rw [e1] at hc ⊢
            exact I.smeta hc
          | done sn L hp0 hr hinvL habs hcm hper hus hue hents hmeta hhs =>
            have e1 : stk'.raft.raftLog = L := by rw [hr]
            have habs1 : stk'.raft.raftLog.abs = stk.raft.raftLog.abs := by rw [e1]; exact habs
            have hsl : storeLog stk'.raft.raftLog.store =
                { snapIdx := sn.metadata.index, snapTerm := some sn.metadata.term, ents := [] } := by
              rw [e1]; exact storeLog_snap hents hmeta
            have habsk : stk.raft.raftLog.abs =
                { snapIdx := sn.metadata.index, snapTerm := some sn.metadata.term,
                  ents := stk.raft.raftLog.unstable.entries } := RaftLog.abs_some hp0
            have hidx : stk.raft.raftLog.abs.snapIdx = sn.metadata.index := by rw [habsk]
            have hterm : stk.raft.raftLog.abs.snapTerm = some sn.metadata.term := by rw [habsk]
            have hle := I.log.le
            rw [hidx] at hle
            have hm1 : stk'.raft.raftLog.store.snapshotMetadata = sn.metadata := by rw [e1]; exact hmeta
            by_cases hi0 : c0 < sn.metadata.index
            · obtain ⟨e, he, het⟩ := I.log.sT _ hterm (by rw [hidx]; exact hi0)
              rw [hidx] at he
              have hF2 := full_ofSnap (C := HistChain h) I.log.snap I.log.contig I.log.der hi0 he het
              refine NodeFull.of H (I.log.congr habs1) (hF2.congr hsl) pl (past_pre pl _)
                (fun _ j hj => ?_)
                (fun _ => ?_)
              · rw [habs1, hidx] at hj
                rw [pre_entryAt, if_pos hj]
              · rw [hm1]
                exact ⟨e, by rw [pre_entryAt, if_pos (Nat.le_refl _)]; exact he, het⟩
            · have heq : sn.metadata.index = c0 := by omega
              have hself : Full (HistChain h) c0 (storeLog stk'.raft.raftLog.store)
                  (storeLog stk'.raft.raftLog.store) :=
                Full.self (by rw [hsl]; exact heq) (storeLog_contig ob.inv.storeWF) (hist_store hb hkb)
              refine NodeFull.of H (I.log.congr habs1) hself pl (past_store hb hkb)
                (fun _ j hj => ?_) (fun hc => ?_)
              · rw [habs1, hidx, heq] at hj
                unfold LLog.entryAt
                rw [if_pos (by rw [I.log.snap]; exact hj),
                  if_pos (by rw [hsl]; show j ≤ sn.metadata.index; omega)]
              · rw [hm1] at hc; omega
        | snap rnd m hm hto hty hpn hout hnet =>
          cases hout with
          | skip hr =>
            have e1 : stk'.raft.raftLog = stk.raft.raftLog := by rw [hr]
            refine NodeFull.of H (I.log.congr (by rw [e1])) (I.sto.congr (by rw [e1])) pl ps
              (fun hp j hj => I.pre (by rw [← e1]; exact hp) j (by rw [e1] at hj; exact hj))
              (fun hc => ?_)
            rw [e1] at hc ⊢
            exact I.smeta hc
          | handled x hsf ht _ _ _ _ _ _ _ hsto hcase =>
            have hsto' : storeLog stk'.raft.raftLog.store = storeLog stk.raft.raftLog.store := by
              rw [hsto]
            have hsm : c0 < stk'.raft.raftLog.store.snapshotMetadata.index →
                ∃ e, (FS h c0 stk).entryAt stk'.raft.raftLog.store.snapshotMetadata.index = some e ∧
                  e.term = stk'.raft.raftLog.store.snapshotMetadata.term := by
              intro hc; rw [hsto] at hc ⊢; exact I.smeta hc
            have keep : stk'.raft.raftLog.unstable = stk.raft.raftLog.unstable →
                NodeFull h c0 (n + 1) stk' := by
              intro hu
              have habs1 := RaftLog.abs_congr hsto hu
              exact NodeFull.of H (I.log.congr habs1) (I.sto.congr hsto') pl ps
                (fun hp j hj => I.pre hpn j (by rw [habs1] at hj; exact hj)) hsm
            cases hcase with
            | kept hu _ _ _ => exact keep hu
            | ffwd hu _ _ _ _ _ _ => exact keep hu
            | restored hle hnm hu hc _ _ =>
              have hpend' : stk'.raft.raftLog.unstable.snapshot = some m.snapshot := by rw [hu]; rfl
              have habs1 : stk'.raft.raftLog.abs =
                  { snapIdx := m.snapshot.metadata.index, snapTerm := some m.snapshot.metadata.term,
                    ents := [] } := by
                rw [RaftLog.abs_some hpend', hu]; rfl
              have hnp : ∀ {P : Prop}, stk'.raft.raftLog.unstable.snapshot = none → P := by
                intro P hp; rw [hpend'] at hp; cases hp
              rcases ih.net m hm hty with c | ⟨F, e, f1, f2, f3, f4, f5, f6⟩
              · -- a snapshot at the common snapshot point
                have hge : c0 ≤ m.snapshot.metadata.index := by
                  have := Snap5.NodeOk.snap_le oa
                  have := I.log.le
                  omega
                have heq : m.snapshot.metadata.index = c0 := by omega
                have hself : Full (HistChain h) c0 stk'.raft.raftLog.abs stk'.raft.raftLog.abs :=
                  Full.self (by rw [habs1]; exact heq) (abs_Contig ob.inv) (hist_log hb hkb)
                exact NodeFull.of H hself (I.sto.congr hsto') (past_abs hb hkb) ps
                  (fun hp => hnp hp) hsm
              · by_cases hi0 : c0 < m.snapshot.metadata.index
                · have hF1 := full_ofSnap (C := HistChain h) f1 f2 f3 hi0 f4 f5
                  exact NodeFull.of H (hF1.congr habs1) (I.sto.congr hsto')
                    (past_pre (f6.mono (Nat.le_succ n)) _) ps (fun hp => hnp hp) hsm
                · have hge : c0 ≤ m.snapshot.metadata.index := by
                    have := Snap5.NodeOk.snap_le oa
                    have := I.log.le
                    omega
                  have heq : m.snapshot.metadata.index = c0 := by omega
                  have hself : Full (HistChain h) c0 stk'.raft.raftLog.abs stk'.raft.raftLog.abs :=
                    Full.self (by rw [habs1]; exact heq) (abs_Contig ob.inv) (hist_log hb hkb)
                  exact NodeFull.of H hself (I.sto.congr hsto') (past_abs hb hkb) ps
                    (fun hp => hnp hp) hsm
        | call rnd op res hop hco hca hns hpn hss hcall hnet hpn' =>
          obtain ⟨_, hse, _⟩ := call_more H ha hka hop hco hns hpn hcall
          have hmlt : stk.raft.raftLog.store.snapshotMetadata.index ≤ stk.raft.raftLog.abs.snapIdx := by
            have := oa.inv.storeWF.snap_lt
            rw [← oa.sidx hpn]
            show _ ≤ stk.raft.raftLog.store.firstIndex - 1
            omega
          by_cases hcomp : ∃ j, op = .compact j
          · -- a compaction: the ghost logs stay
            obtain ⟨j, rfl⟩ := hcomp
            have ho := compact_out oa.inv hpn (hco j rfl) hcall
            obtain ⟨l1, l2⟩ := ho.lt oa.inv
            have hF1 := (I.log.compact l1).congr ho.abs
            have hF2 := (I.sto.compact l2).congr ho.sto
            refine NodeFull.of H hF1 hF2 pl ps (fun _ i hi => ?_) (fun hc => ?_)
            · rw [ho.abs, compactTo_snapIdx] at hi
              by_cases hi0 : i ≤ stk.raft.raftLog.abs.snapIdx
              · exact I.pre hpn i hi0
              · rw [I.log.ents i (by omega), I.sto.ents i (by rw [oa.sidx hpn]; omega)]
                exact oa.inv.abs_store_persisted hpn (by have := ho.ok.2; omega)
            · rw [compact_meta hcall] at hc ⊢
              exact I.smeta hc
          · have hnc : ∀ j, op ≠ .compact j := fun j hj => hcomp ⟨j, hj⟩
            have hcs0 := H.facts0.call_step0 ha hb hka hkb hnet hop hnc hns hpn hcall
            obtain ⟨k1, k2, k3⟩ := callstep_keeps (c0 := c0) hcs0
              ⟨oa.inv, hpn, oa.sidx hpn, oa.sterm hpn, oa.id, oa.nb⟩ I.log.ne
            have hne' : stk'.raft.raftLog.abs.snapTerm = none → c0 < stk'.raft.raftLog.abs.snapIdx →
                stk'.raft.raftLog.abs.ents ≠ [] := by
              intro hn hp hnil
              rw [k2] at hn
              rw [k1] at hp
              have hne0 := I.log.ne hn hp
              have hlen : 0 < stk.raft.raftLog.abs.ents.length := List.length_pos_iff.2 hne0
              obtain ⟨f, hf⟩ := stk.raft.raftLog.abs.entryAt_exists
                (i := stk.raft.raftLog.abs.snapIdx + 1) (by omega) (by unfold LLog.lastIndex; omega)
              rw [← k3 hn hp] at hf
              have := stk'.raft.raftLog.abs.entryAt_mem hf
              rw [hnil] at this
              cases this
            have hF1 := I.log.splice k1 k2 (abs_Contig ob.inv) (hist_log hb hkb) k3 hne'
            have hlo1 : (FL h c0 stk).snapIdx ≤ stk'.raft.raftLog.abs.snapIdx := by
              rw [I.log.snap, k1]; exact I.log.le
            have hlo2 : stk'.raft.raftLog.abs.snapIdx ≤ (FL h c0 stk).lastIndex := by
              rw [I.log.last, k1]; exact snap_le_last _
            rcases hse with c | c | ⟨j, c, _⟩
            · refine NodeFull.of H hF1 (I.sto.congr c.storeLog)
                (past_splice hlo1 hlo2 pl (past_abs hb hkb)) ps (fun _ i hi => ?_) (fun hc => ?_)
              · rw [splice_low hlo1 hlo2 hi]
                exact I.pre hpn i (by rw [← k1]; exact hi)
              · rw [c.2] at hc ⊢
                exact I.smeta hc
            · subst c
              obtain ⟨u1, _⟩ := stabilize_out oa.inv hpn hcall
              have heq := abs_eq_storeLog ob.inv hpn' u1
              refine NodeFull.of H hF1 (hF1.congr heq.symm)
                (past_splice hlo1 hlo2 pl (past_abs hb hkb))
                (past_splice hlo1 hlo2 pl (past_abs hb hkb)) (fun _ _ _ => rfl) (fun hc => ?_)
              rw [stabilize_meta hcall] at hc ⊢
              obtain ⟨e, he, het⟩ := I.smeta hc
              refine ⟨e, ?_, het⟩
              rw [splice_low hlo1 hlo2 (by rw [k1]; exact hmlt), I.pre hpn _ hmlt]
              exact he
            · exact absurd c (hnc j)
      · rw [hoth v hvk] at hv
        have J := ih.node v st hv
        exact ⟨J.log, J.sto, J.pre, J.smeta, J.pastL.mono (Nat.le_succ n), J.pastS.mono (Nat.le_succ n)⟩
    · by_cases hvk : v = k
      · subst hvk
        rw [hkb] at hv; cases hv
        exact hq' hq x hx hty
      · rw [hoth v hvk] at hv
        exact (ih.que hq v st hv x hx hty).mono (Nat.le_succ n)
    · rcases hs.net_sub x hx with g | g
      · exact (ih.net x g hty).mono (Nat.le_succ n)
      · exact (ih.que (H.q_of_net hb hx hty) k stk hka x g hty).mono (Nat.le_succ n)

end Snap5
end Cluster
end RaftModel
