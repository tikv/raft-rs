import RaftProofs.ClusterCommitB

/-!
Cluster-level commit safety, the sending helpers that may batch: the relation `BatOf y x` ("`x` is `y`
with entries glued on and another commit index": what `try_batching` does to a queued `MsgAppend`), and
the anchored relation of `ClusterCommitA` in three strengths.  `SFx a r`: a queued message may also be
a batched version of a message of the start queue, and then batching is on (`batch` is a field of the
send core, so no helper has to carry the flag).  `maybe_send_append`, its callers and the two handlers
that call them are taken through `SFx`; `SFb` forgets the flag, `SF` follows when the flag is off.
-/
namespace RaftModel
namespace Raft
namespace CB
open CC

/-- `x` is `y` with entries glued on and another commit index (what `try_batching` does to a queued
append) -/
def BatOf (y x : Message) : Prop :=
  y.msgType = .msgAppend ∧ ∃ es c, x = { y with entries := y.entries ++ es, commit := c }

theorem BatOf.msgType {y x : Message} (h : BatOf y x) : x.msgType = .msgAppend := by
  obtain ⟨h1, es, c, rfl⟩ := h; exact h1
theorem BatOf.src {y x : Message} (h : BatOf y x) : y.msgType = .msgAppend := h.1
theorem BatOf.to {y x : Message} (h : BatOf y x) : x.to = y.to := by
  obtain ⟨_, es, c, rfl⟩ := h; rfl
theorem BatOf.frm {y x : Message} (h : BatOf y x) : x.frm = y.frm := by
  obtain ⟨_, es, c, rfl⟩ := h; rfl
theorem BatOf.term {y x : Message} (h : BatOf y x) : x.term = y.term := by
  obtain ⟨_, es, c, rfl⟩ := h; rfl
theorem BatOf.index {y x : Message} (h : BatOf y x) : x.index = y.index := by
  obtain ⟨_, es, c, rfl⟩ := h; rfl
theorem BatOf.logTerm {y x : Message} (h : BatOf y x) : x.logTerm = y.logTerm := by
  obtain ⟨_, es, c, rfl⟩ := h; rfl

theorem BatOf.trans {z y x : Message} (h1 : BatOf z y) (h2 : BatOf y x) : BatOf z x := by
  obtain ⟨t1, es1, c1, rfl⟩ := h1
  obtain ⟨_, es2, c2, rfl⟩ := h2
  exact ⟨t1, es1 ++ es2, c2, by simp only [List.append_assoc]⟩

/-- the glued message of `try_batching` -/
theorem BatOf.batched (c : Nat) (msg : Message) (es : List Entry) (h : msg.msgType = .msgAppend) :
    BatOf msg (RaftProps.C13.batchedMsg c msg es) := ⟨h, es, c, rfl⟩

/-- batching onto a message that was `Sent` leaves it `Sent`, if the commit index is the node's -/
theorem sent_bat {c : SCore} {y x : Message} (hy : Sent c y) (hb : BatOf y x)
    (hc : x.commit = c.committed) : Sent c x := by
  refine ⟨hb.frm.trans hy.frm, hb.term.trans hy.term, by rw [hb.msgType]; rfl, fun _ => ?_, fun hh => ?_⟩
  · rw [hb.index, hb.logTerm]; exact ⟨hc, (hy.app hb.src).2⟩
  · rw [hb.msgType] at hh; cases hh

/-- anchored: `r` has the core of `a`, and every queued message was queued in `a`, is `Sent`, or is a
batched version (with the node's commit index) of a message queued in `a` -/
structure SFPb (a : Raft) (c : SCore) (ms : List Message) : Prop where
  core : c = score a
  q : ∀ x ∈ ms, x ∈ a.msgs ∨ Sent (score a) x ∨
    (∃ y ∈ a.msgs, BatOf y x ∧ x.commit = (score a).committed)

def SFb (a r : Raft) : Prop := SFPb a (score r) r.msgs

theorem SFb.core {a r : Raft} (h : SFb a r) : score r = score a := SFPb.core h
theorem SFb.q {a r : Raft} (h : SFb a r) : ∀ x ∈ r.msgs, x ∈ a.msgs ∨ Sent (score a) x ∨
    (∃ y ∈ a.msgs, BatOf y x ∧ x.commit = (score a).committed) := SFPb.q h

theorem SFb.rfl {r : Raft} : SFb r r := ⟨Eq.refl _, fun _ hx => .inl hx⟩

/-- `CC.SF` is a special case -/
theorem SFb.of_sf {a r : Raft} (h : SF a r) : SFb a r :=
  ⟨h.core, fun x hx => (h.q x hx).imp (fun g => g) (fun g => .inl g)⟩

theorem SFb.term {a r : Raft} (h : SFb a r) : r.term = a.term := congrArg SCore.term h.core
theorem SFb.id {a r : Raft} (h : SFb a r) : r.id = a.id := congrArg SCore.id h.core
theorem SFb.state {a r : Raft} (h : SFb a r) : r.state = a.state := congrArg SCore.state h.core
theorem SFb.committed {a r : Raft} (h : SFb a r) : r.raftLog.committed = a.raftLog.committed :=
  congrArg SCore.committed h.core
theorem SFb.persisted {a r : Raft} (h : SFb a r) : r.raftLog.persisted = a.raftLog.persisted :=
  congrArg SCore.persisted h.core
theorem SFb.mtab {a r : Raft} (h : SFb a r) : mfun r.prs = mfun a.prs := congrArg SCore.mtab h.core
theorem SFb.conf {a r : Raft} (h : SFb a r) : r.prs.conf = a.prs.conf := congrArg SCore.conf h.core
theorem SFb.batch {a r : Raft} (h : SFb a r) : r.batchAppend = a.batchAppend :=
  congrArg SCore.batch h.core
theorem SFb.tm {a r : Raft} (h : SFb a r) : r.raftLog.term = a.raftLog.term := congrArg SCore.tm h.core
theorem SFb.last {a r : Raft} (h : SFb a r) : r.raftLog.lastIndex = a.raftLog.lastIndex :=
  congrArg SCore.last h.core
theorem SFb.lterm {a r : Raft} (h : SFb a r) : r.raftLog.lastTerm = a.raftLog.lastTerm :=
  congrArg SCore.lterm h.core
theorem SFb.vote {a r : Raft} (h : SFb a r) : r.vote = a.vote := congrArg SCore.vote h.core

theorem SFb.trans {a b c : Raft} (h1 : SFb a b) (h2 : SFb b c) : SFb a c := by
  refine ⟨h2.core.trans h1.core, fun x hx => ?_⟩
  rcases h2.q x hx with g | g | ⟨y, hy, hb, hc⟩
  · exact h1.q x g
  · right; left; rw [← h1.core]; exact g
  · rw [h1.core] at hc
    rcases h1.q y hy with g | g | ⟨z, hz, hb2, _⟩
    · exact .inr (.inr ⟨y, g, hb, hc⟩)
    · exact .inr (.inl (sent_bat g hb hc))
    · exact .inr (.inr ⟨z, hz, hb2.trans hb, hc⟩)

/-- any structure update that keeps `term`, `vote`, `id`, `state`, `raftLog`, `batchAppend`, `prs` and
`msgs` keeps `SFb` -/
theorem SFb.mk' {a r : Raft} {x4 : List ReadState} {x6 x7 x8 : Nat}
    {x10 : Bool} {x11 : Nat}
    {x12 : Option Nat} {x13 : Nat} {x14 : ReadOnly} {x15 x16 : Nat} {x17 x18 x19 x21 : Bool}
    {x22 x23 x24 x25 x26 : Nat} {x27 : Int} {x28 : UncommittedState} {x29 : Nat}
    {x32 : Option Nat} (h0 : SFb a r) :
    SFb a {term := r.term, vote := r.vote, id := r.id, readStates := x4, raftLog := r.raftLog,
           maxInflight := x6, maxMsgSize := x7, pendingRequestSnapshot := x8, state := r.state,
           promotable := x10, leaderId := x11, leadTransferee := x12,
           pendingConfIndex := x13, readOnly := x14, electionElapsed := x15,
           heartbeatElapsed := x16, checkQuorum := x17, preVote := x18,
           skipBcastCommit := x19, batchAppend := r.batchAppend, disableProposalForwarding := x21,
           heartbeatTimeout := x22, electionTimeout := x23, randomizedElectionTimeout := x24,
           minElectionTimeout := x25, maxElectionTimeout := x26, priority := x27,
           uncommittedState := x28, maxCommittedSizePerReady := x29, prs := r.prs, msgs := r.msgs,
           nextRand := x32 } := h0.trans (.of_sf (SF.mk' SF.rfl))

theorem SFb.setPr {a r : Raft} {id : Nat} {pr : Progress} (h0 : SFb a r)
    (h : ∀ old, r.prs.get id = some old → pr.matched = old.matched) :
    SFb a { r with prs := r.prs.set id pr } :=
  h0.trans (.of_sf (SF.rfl.setPr h))

/-- write-back after a sending helper that ran on the progress entry of `to` -/
theorem SFb.writeBack {a r r1 : Raft} {to : Nat} {pr pr1 : Progress} (h0 : SFb a r) (h1 : SFb a r1)
    (hg : r.prs.get to = some pr) (hm : pr1.matched = pr.matched) :
    SFb a { r1 with prs := r1.prs.set to pr1 } := by
  refine h1.setPr (fun old ho => ?_)
  have e1 : mfun r1.prs to = mfun r.prs to := by rw [h1.mtab, h0.mtab]
  rw [mfun_of_get ho, mfun_of_get hg] at e1
  injection e1 with e1
  rw [hm, e1]

theorem forEachPeer_sfb {a r r' : Raft} {f : Raft → Nat → Progress → Res (Raft × Progress)}
    (hf : ∀ r id pr r' pr', f r id pr = .ok (r', pr') → r.prs.get id = some pr → id ≠ r.id →
      SFb a r → SFb a r' ∧ pr'.matched = pr.matched)
    (h : r.forEachPeer f = .ok r') (h0 : SFb a r) : SFb a r' :=
  forEachPeer_wb SFb.writeBack hf h h0

theorem send_sfb {a r r' : Raft} {m : Message} (h : r.send m = .ok r')
    (hs : Sent (score r) (r.sendFill m)) (h0 : SFb a r) : SFb a r' :=
  h0.trans (.of_sf (send_sf h hs SF.rfl))

end CB

namespace CX
open CC CB

/-- as `CB.SFb`; a batched message records that batching is on -/
structure SFx (a r : Raft) : Prop where
  core : score r = score a
  q : ∀ x ∈ r.msgs, x ∈ a.msgs ∨ Sent (score a) x ∨
    (a.batchAppend = true ∧ ∃ y ∈ a.msgs, BatOf y x ∧ x.commit = a.raftLog.committed)

theorem SFx.rfl {r : Raft} : SFx r r := ⟨Eq.refl _, fun _ hx => .inl hx⟩

theorem SFx.batch {a r : Raft} (h : SFx a r) : r.batchAppend = a.batchAppend :=
  congrArg SCore.batch h.core

theorem SFx.state {a r : Raft} (h : SFx a r) : r.state = a.state := congrArg SCore.state h.core

theorem SFx.of_sf {a r : Raft} (h : SF a r) : SFx a r :=
  ⟨h.core, fun x hx => (h.q x hx).imp (fun g => g) .inl⟩

theorem SFx.sfb {a r : Raft} (h : SFx a r) : SFb a r :=
  ⟨h.core, fun x hx => (h.q x hx).imp (fun g => g) (Or.imp (fun g => g) And.right)⟩

theorem SFx.sf {a r : Raft} (hnb : a.batchAppend = false) (h : SFx a r) : SF a r :=
  ⟨h.core, fun x hx => (h.q x hx).imp (fun g => g)
    (Or.rec (fun g => g) fun g => by rw [hnb] at g; cases g.1)⟩

theorem SFx.trans {a b c : Raft} (h1 : SFx a b) (h2 : SFx b c) : SFx a c := by
  refine ⟨h2.core.trans h1.core, fun x hx => ?_⟩
  have ec : b.raftLog.committed = a.raftLog.committed := congrArg SCore.committed h1.core
  rcases h2.q x hx with g | g | ⟨hf, y, hy, hb, hc⟩
  · exact h1.q x g
  · right; left; rw [← h1.core]; exact g
  · rw [ec] at hc
    rw [h1.batch] at hf
    rcases h1.q y hy with g | g | ⟨_, z, hz, hb2, _⟩
    · exact .inr (.inr ⟨hf, y, g, hb, hc⟩)
    · exact .inr (.inl (sent_bat g hb hc))
    · exact .inr (.inr ⟨hf, z, hz, hb2.trans hb, hc⟩)

/-- the send core and the queue are kept -/
theorem SFx.of_eq {a r r' : Raft} (h0 : SFx a r) (hc : score r' = score r) (hq : r'.msgs = r.msgs) :
    SFx a r' :=
  ⟨hc.trans h0.core, fun x hx => h0.q x (hq ▸ hx)⟩

/-- write-back after a sending helper that ran on the progress entry of `to` -/
theorem SFx.writeBack {a r r1 : Raft} {to : Nat} {pr pr1 : Progress} (h0 : SFx a r) (h1 : SFx a r1)
    (hg : r.prs.get to = some pr) (hm : pr1.matched = pr.matched) :
    SFx a { r1 with prs := r1.prs.set to pr1 } := by
  refine h1.trans (.of_sf (SF.rfl.setPr fun old ho => ?_))
  have e1 : mfun r1.prs to = mfun r.prs to :=
    congrFun ((congrArg SCore.mtab h1.core).trans (congrArg SCore.mtab h0.core).symm) to
  rw [mfun_of_get ho, mfun_of_get hg] at e1
  injection e1 with e1
  rw [hm, e1]

/-- **`maybe_send_append`**: the one place where a queued message is batched onto -/
theorem maybeSendAppend_sfx {a r r' : Raft} {to : Nat} {pr pr' : Progress} {ae b : Bool}
    (h : r.maybeSendAppend to pr ae = .ok (r', pr', b)) (h0 : SFx a r) :
    SFx a r' ∧ pr'.matched = pr.matched := by
  rcases RaftProps.C13.C13_send_classification r r' to pr pr' ae b h with
    ⟨_, he, hp, _⟩ | ⟨_, _, hn, t, es, ht, hes, _, _, hsu, hcase⟩ | ⟨_, _, he, hp, _⟩ | ⟨_, _, hv⟩
  · rw [he, hp]; exact ⟨h0, rfl⟩
  · have hm : pr'.matched = pr.matched := by
      unfold RaftProps.C13.SentUpdate at hsu
      split at hsu
      · rw [hsu]
      · exact updateState_matched hsu
    refine ⟨h0.trans ⟨?_, fun x hx => ?_⟩, hm⟩
    · rcases hcase with ⟨_, htb⟩ | ⟨_, he⟩
      · rw [(RaftProps.C13.C13_batching r r' to pr pr' es true htb).1]; rfl
      · rw [he]; rfl
    rcases hcase with ⟨hon, htb⟩ | ⟨_, he⟩
    · -- batched: one queued append is replaced by a glued version of itself
      obtain ⟨_, hb1, _⟩ := RaftProps.C13.C13_batching r r' to pr pr' es true htb
      obtain ⟨pre, msg, post, hms, _, hto, _, hms', _⟩ := hb1 rfl
      rw [hms'] at hx
      rw [hms]
      rcases List.mem_append.1 hx with hx | hx
      · exact .inl (List.mem_append_left _ hx)
      · rcases List.mem_cons.1 hx with hx | hx
        · exact .inr (.inr ⟨hon, msg, List.mem_append_right _ List.mem_cons_self,
            by rw [hx]; exact BatOf.batched _ _ _ hto.1, by rw [hx]; rfl⟩)
        · exact .inl (List.mem_append_right _ (List.mem_cons_of_mem _ hx))
    · rw [he] at hx
      rcases List.mem_append.1 hx with hx | hx
      · exact .inl hx
      · rw [List.mem_singleton.1 hx]
        exact .inr (.inl ⟨rfl, rfl, rfl, fun _ => ⟨rfl, ht⟩, fun hc => by cases hc⟩)
  · rw [he, hp]; exact ⟨h0, rfl⟩
  · obtain ⟨g1, g2⟩ := viaSnapshot_sf hv SF.rfl
    exact ⟨h0.trans (.of_sf g1), g2⟩

theorem sendAppendPr_sfx {a r r' : Raft} {to : Nat} {pr pr' : Progress}
    (h : r.sendAppendPr to pr = .ok (r', pr')) (h0 : SFx a r) :
    SFx a r' ∧ pr'.matched = pr.matched := by
  unfold Raft.sendAppendPr at h
  obtain ⟨⟨r1, pr1, b⟩, h1, h2⟩ := Res.bind_eq_ok h
  cases h2
  exact maybeSendAppend_sfx h1 h0

theorem sendAppendAggressivelyPr_sfx {a r' : Raft} {to : Nat} {pr' : Progress} (fuel : Nat)
    (r : Raft) (pr : Progress) (h : sendAppendAggressivelyPr fuel r to pr = .ok (r', pr'))
    (h0 : SFx a r) : SFx a r' ∧ pr'.matched = pr.matched :=
  sendAppendAggressivelyPr_parts2 (Q := fun r1 _ p1 => SFx a r1 ∧ p1.matched = pr.matched)
    (fun hm q => (maybeSendAppend_sfx hm q.1).imp (fun g => g) fun g => g.trans q.2) fuel r pr h
    ⟨h0, rfl⟩

theorem sendAppend_sfx {a r r' : Raft} {to : Nat}
    (h : r.sendAppend to = .ok r') (h0 : SFx a r) : SFx a r' :=
  sendAppend_parts2 (Q := Held (SFx a)) h
    (fun hg ha => (Held.of_get h0 hg).step (sendAppendPr_sfx ha h0)) (Held.set SFx.writeBack)

theorem sendAppendAggressively_sfx {a r r' : Raft} {to : Nat}
    (h : r.sendAppendAggressively to = .ok r') (h0 : SFx a r) : SFx a r' :=
  sendAppendAggressively_parts2 (Q := Held (SFx a)) h
    (fun hg ha => (Held.of_get h0 hg).step (sendAppendAggressivelyPr_sfx _ _ _ ha h0))
    (Held.set SFx.writeBack)

theorem bcastAppend_sfx {a r r' : Raft} (h : r.bcastAppend = .ok r') (h0 : SFx a r) : SFx a r' :=
  bcastAppend_parts2 (Q := Held (SFx a)) h h0
    (fun _ hg ha p => (Held.of_get p hg).step (sendAppendPr_sfx ha p)) (Held.set SFx.writeBack)

theorem handleHeartbeatResponse_sfx {a r r' : Raft} {m : Message}
    (h : r.handleHeartbeatResponse m = .ok r') (h0 : SFx a r) : SFx a r' := by
  refine handleHeartbeatResponse_parts2 (Q := Held (SFx a)) h h0 (fun hg ht => ?_)
    (fun q ha => q.step (sendAppendPr_sfx ha q.1)) (Held.set SFx.writeBack)
    (fun p => p.of_eq rfl rfl) (fun _ p => p.of_eq rfl rfl)
    fun _ hr _ p => p.trans (.of_sf (respondReadStates_sf hr SF.rfl))
  refine ⟨h0, r, _, h0, hg, ?_⟩
  rcases ht with rfl | ⟨ins, _, rfl⟩ <;> exact updateCommitted_matched _ _

theorem handleTransferLeader_sfx {a r r' : Raft} {m : Message}
    (h : r.handleTransferLeader m = .ok r') (h0 : SFx a r) : SFx a r' :=
  handleTransferLeader_parts2 (R := SFx a) (Q := Held (SFx a)) h h0 h0 (fun p => p.of_eq rfl rfl)
    (fun p => p.of_eq rfl rfl) (fun p => p)
    (fun _ _ _ hs p => p.trans (.of_sf (sendTimeoutNow_sf hs SF.rfl)))
    (fun _ hg ha p => (Held.of_get p hg).step (sendAppendPr_sfx ha p)) (Held.set SFx.writeBack)

end CX

/-! ### without batching -/
namespace CC
open CX

theorem maybeSendAppend_sf {a r r' : Raft} {to : Nat} {pr pr' : Progress} {ae b : Bool}
    (hnb : a.batchAppend = false)
    (h : r.maybeSendAppend to pr ae = .ok (r', pr', b)) (h0 : SF a r) :
    SF a r' ∧ pr'.matched = pr.matched :=
  (maybeSendAppend_sfx h SFx.rfl).imp (fun g => h0.trans (g.sf (h0.batch.trans hnb))) fun g => g

theorem sendAppendPr_sf {a r r' : Raft} {to : Nat} {pr pr' : Progress} (hnb : a.batchAppend = false)
    (h : r.sendAppendPr to pr = .ok (r', pr')) (h0 : SF a r) :
    SF a r' ∧ pr'.matched = pr.matched :=
  (sendAppendPr_sfx h SFx.rfl).imp (fun g => h0.trans (g.sf (h0.batch.trans hnb))) fun g => g

theorem sendAppend_sf {a r r' : Raft} {to : Nat} (hnb : a.batchAppend = false)
    (h : r.sendAppend to = .ok r') (h0 : SF a r) : SF a r' :=
  h0.trans ((sendAppend_sfx h SFx.rfl).sf (h0.batch.trans hnb))

theorem sendAppendAggressively_sf {a r r' : Raft} {to : Nat} (hnb : a.batchAppend = false)
    (h : r.sendAppendAggressively to = .ok r') (h0 : SF a r) : SF a r' :=
  h0.trans ((sendAppendAggressively_sfx h SFx.rfl).sf (h0.batch.trans hnb))

theorem bcastAppend_sf {a r r' : Raft} (hnb : a.batchAppend = false)
    (h : r.bcastAppend = .ok r') (h0 : SF a r) : SF a r' :=
  h0.trans ((bcastAppend_sfx h SFx.rfl).sf (h0.batch.trans hnb))

theorem handleHeartbeatResponse_sf {a r r' : Raft} {m : Message} (hnb : a.batchAppend = false)
    (h : r.handleHeartbeatResponse m = .ok r') (h0 : SF a r) : SF a r' :=
  h0.trans ((handleHeartbeatResponse_sfx h SFx.rfl).sf (h0.batch.trans hnb))

theorem handleTransferLeader_sf {a r r' : Raft} {m : Message} (hnb : a.batchAppend = false)
    (h : r.handleTransferLeader m = .ok r') (h0 : SF a r) : SF a r' :=
  h0.trans ((handleTransferLeader_sfx h SFx.rfl).sf (h0.batch.trans hnb))

end CC

/-! ### with batching, the flag forgotten -/
namespace CB
open CC CX

theorem maybeSendAppend_sfb {a r r' : Raft} {to : Nat} {pr pr' : Progress} {ae b : Bool}
    (h : r.maybeSendAppend to pr ae = .ok (r', pr', b)) (h0 : SFb a r) :
    SFb a r' ∧ pr'.matched = pr.matched :=
  (maybeSendAppend_sfx h SFx.rfl).imp (fun g => h0.trans g.sfb) fun g => g

theorem sendAppendPr_sfb {a r r' : Raft} {to : Nat} {pr pr' : Progress}
    (h : r.sendAppendPr to pr = .ok (r', pr')) (h0 : SFb a r) :
    SFb a r' ∧ pr'.matched = pr.matched :=
  (sendAppendPr_sfx h SFx.rfl).imp (fun g => h0.trans g.sfb) fun g => g

theorem sendAppend_sfb {a r r' : Raft} {to : Nat}
    (h : r.sendAppend to = .ok r') (h0 : SFb a r) : SFb a r' :=
  h0.trans (sendAppend_sfx h SFx.rfl).sfb

theorem sendAppendAggressively_sfb {a r r' : Raft} {to : Nat}
    (h : r.sendAppendAggressively to = .ok r') (h0 : SFb a r) : SFb a r' :=
  h0.trans (sendAppendAggressively_sfx h SFx.rfl).sfb

theorem bcastAppend_sfb {a r r' : Raft}
    (h : r.bcastAppend = .ok r') (h0 : SFb a r) : SFb a r' :=
  h0.trans (bcastAppend_sfx h SFx.rfl).sfb

theorem handleHeartbeatResponse_sfb {a r r' : Raft} {m : Message}
    (h : r.handleHeartbeatResponse m = .ok r') (h0 : SFb a r) : SFb a r' :=
  h0.trans (handleHeartbeatResponse_sfx h SFx.rfl).sfb

theorem handleTransferLeader_sfb {a r r' : Raft} {m : Message}
    (h : r.handleTransferLeader m = .ok r') (h0 : SFb a r) : SFb a r' :=
  h0.trans (handleTransferLeader_sfx h SFx.rfl).sfb

theorem sendHeartbeat_sfb {a r r' : Raft} {to : Nat} {pr : Progress} {ctx : Option Bytes}
    (h : r.sendHeartbeat to pr ctx = .ok r') (hg : mfun r.prs to = some pr.matched)
    (hid : to ≠ r.id) (h0 : SFb a r) : SFb a r' :=
  h0.trans (.of_sf (sendHeartbeat_sf h hg hid SF.rfl))

theorem sendTimeoutNow_sfb {a r r' : Raft} {to : Nat}
    (h : r.sendTimeoutNow to = .ok r') (h0 : SFb a r) : SFb a r' :=
  h0.trans (.of_sf (sendTimeoutNow_sf h SF.rfl))

theorem bcastHeartbeatWithCtx_sfb {a r r' : Raft} {ctx : Option Bytes}
    (h : r.bcastHeartbeatWithCtx ctx = .ok r') (h0 : SFb a r) : SFb a r' :=
  h0.trans (.of_sf (bcastHeartbeatWithCtx_sf h SF.rfl))

theorem bcastHeartbeat_sfb {a r r' : Raft} (h : r.bcastHeartbeat = .ok r') (h0 : SFb a r) :
    SFb a r' :=
  h0.trans (.of_sf (bcastHeartbeat_sf h SF.rfl))

theorem ping_sfb {a r r' : Raft} (h : r.ping = .ok r') (h0 : SFb a r) : SFb a r' :=
  h0.trans (.of_sf (ping_sf h SF.rfl))

theorem handleReadyReadIndex_sfb {a r r' : Raft} {req : Message} {i : Nat} {om : Option Message}
    (h : r.handleReadyReadIndex req i = .ok (r', om)) (h0 : SFb a r) :
    SFb a r' ∧ ∀ m', om = some m' → m'.msgType = .msgReadIndexResp ∧ m'.frm = 0 :=
  (handleReadyReadIndex_sf h SF.rfl).imp (fun g => h0.trans (.of_sf g)) fun g => g

theorem respondReadStates_sfb {a r r' : Raft} {rss : List ReadIndexStatus}
    (h : r.respondReadStates rss = .ok r') (h0 : SFb a r) : SFb a r' :=
  h0.trans (.of_sf (respondReadStates_sf h SF.rfl))

theorem checkQuorumActive_sfb {a r r' : Raft} {b : Bool} (h : r.checkQuorumActive = (r', b))
    (h0 : SFb a r) : SFb a r' :=
  h0.trans (.of_sf (checkQuorumActive_sf h SF.rfl))

theorem handleSnapshotStatus_sfb {a r : Raft} {m : Message} (h0 : SFb a r) :
    SFb a (r.handleSnapshotStatus m) :=
  h0.trans (.of_sf (handleSnapshotStatus_sf SF.rfl))

theorem handleUnreachable_sfb {a r : Raft} {m : Message} (h0 : SFb a r) :
    SFb a (r.handleUnreachable m) :=
  h0.trans (.of_sf (handleUnreachable_sf SF.rfl))

theorem filterProposal_sfb {a : Raft} (es : List Entry) (r r' : Raft) (i : Nat)
    (o : Option (List Entry)) (h : r.filterProposal i es = (r', o)) (h0 : SFb a r) : SFb a r' :=
  h0.trans (.of_sf (filterProposal_sf es r r' i o h SF.rfl))

end CB
end Raft
end RaftModel
