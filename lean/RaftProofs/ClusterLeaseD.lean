import RaftProofs.ClusterLeaseC

/-!
Cluster-level lease theorem (C16, second half), helper lemmas part D: `LInv` through the vote arm of
`step` and through `apply_conf_change`, and then through every call: `Run.linv`, by induction on what a
call goes through (`RaftProofs.CallRun`).
-/
namespace RaftModel
namespace Raft
namespace LS

/-! ### the vote arm -/

theorem stepVote_linv {a r r' : Raft} {m : Message} (h : LInv a m r) (hnd : ¬ Dropped a m)
    (hrv : m.msgType = .msgRequestVote → m.term ≤ r.term) (hc : r.stepVote m = .ok r') :
    LInv a m r' := by
  unfold stepVote at hc
  split at hc
  · cases hc
  · rename_i t ht
    have hty : (m.msgType = .msgRequestVote ∧ t = .msgRequestVoteResponse) ∨
        (m.msgType = .msgRequestPreVote ∧ t = .msgRequestPreVoteResponse) := by
      cases hmt : m.msgType <;> rw [hmt] at ht <;> simp [voteRespMsgType] at ht
      · exact Or.inl ⟨rfl, ht.symm⟩
      · exact Or.inr ⟨rfl, ht.symm⟩
    have hm : ¬ isTA m := by
      rintro (g | g) <;> rcases hty with ⟨q, _⟩ | ⟨q, _⟩ <;> rw [q] at g <;> cases g
    have htr : t = .msgRequestVoteResponse ∨ t = .msgRequestPreVoteResponse :=
      hty.imp (fun g => g.2) (fun g => g.2)
    have htn : t ≠ .msgTimeoutNow := by rcases htr with g | g <;> rw [g] <;> decide
    have hnr : ∀ x : Message, x.msgType = t →
        ¬ (x.msgType = .msgRequestVote ∨ x.msgType = .msgRequestPreVote) := by
      intro x hx hy
      rw [hx] at hy
      rcases htr with g | g <;> rw [g] at hy <;> rcases hy with hy | hy <;> cases hy
    split at hc
    · -- granted
      unfold stepVoteGrant at hc
      split at hc
      · rename_i r1 hs
        have hx := CV.sendFill_resp_fields r
          { msgType := t, to := m.frm, reject := false, term := m.term } htr rfl
        have h1 : LInv a m r1 := by
          refine send_linv h hs htn ⟨fun hy => absurd hy (hnr _ hx.1), ?_⟩
          rcases hty with ⟨q1, q2⟩ | ⟨q1, q2⟩
          · left; rw [hx.2.2.2.1]; exact hrv q1
          · right; right
            exact ⟨hx.1.trans q2, hx.2.2.2.2, hx.2.1.trans h.id, q1, hx.2.2.2.1, hnd⟩
        split at hc
        · cases hc; exact h1.mf (MF.mk' MF.rf)
        · cases hc; exact h1
      · cases hc
      · cases hc
    · -- refused
      unfold stepVoteReject at hc
      split at hc
      · cases hc
      · cases hc
      · rename_i c ct _
        split at hc
        · rename_i r1 hs
          have hx := CV.sendFill_resp_fields r
            { msgType := t, to := m.frm, reject := true, term := r.term, commit := c, commitTerm := ct }
            htr rfl
          have h1 : LInv a m r1 :=
            send_linv h hs htn ⟨fun hy => absurd hy (hnr _ hx.1),
              Or.inl (by rw [hx.2.2.2.1]; exact Nat.le_refl _)⟩
          split at hc
          · exact (maybeCommitByVote_linv hm m h1 hc).1
          · cases hc; exact h1
        · cases hc
        · cases hc
    · cases hc
    · cases hc

/-! ### `apply_conf_change` -/

theorem applyConfChange_linv {a r' : Raft} {cc : ConfChangeV2} {x : Except ErrKind ConfState}
    (hc : a.applyConfChange cc = .ok (r', x)) : LInv a CV.mLocal r' ∧ r'.term = a.term := by
  unfold applyConfChange at hc
  simp only at hc
  split at hc
  · cases hc; exact ⟨LInv.refl _ _, rfl⟩
  · rename_i cfg changes _
    rw [Res.bind_eq_ok_iff] at hc
    obtain ⟨⟨r1, cs⟩, h1, h2⟩ := hc
    cases h2
    have L1 : LInv a CV.mLocal
        ({ a with prs := a.prs.applyConf cfg changes a.raftLog.lastIndex } : Raft) := by
      refine (LInv.refl a CV.mLocal).mf ?_
      unfold ProgressTracker.applyConf
      exact MF.mk' MF.rf
    obtain ⟨q1, q2⟩ := postConfChange_linv (by unfold isTA CV.mLocal; simp) L1 h1
    exact ⟨q1, q2⟩

/-- the call started from `a` with the random draw set -/
theorem LInv.rebaseRand {a r : Raft} {m : Message} {rnd : Option Nat}
    (h : LInv ({ a with nextRand := rnd } : Raft) m r) : LInv a m r :=
  ⟨h.id, h.tm, h.msgs, h.tn, h.pc, h.ld⟩

/-! ### every call -/

end LS
open LS

/-- **the per-call invariant holds along every call** -/
theorem Run.linv {a r : Raft} {m : Message} (h : Run a m r) : LInv a m r := by
  induction h with
  | start => exact LInv.refl a m
  | plain _ hf ih => exact ih.mf hf.mf
  | follow t l _ ht hld hp ih =>
    refine becomeFollower_linv ih ?_ t l ht hld
    rcases hp with g | g
    · exact ih.nt g
    · intro x hx _; rw [g] at hx; exact Old.of_mem hx
  | @reject r r' _ hty hs ih =>
    have hx := CV.sendFill_resp_fields r
      { msgType := .msgRequestPreVoteResponse, to := m.frm, term := r.term, reject := true }
      (Or.inr rfl) rfl
    refine send_linv ih hs (by simp) ⟨fun hy => ?_, Or.inl (by rw [hx.2.2.2.1]; exact Nat.le_refl _)⟩
    rw [hx.1] at hy
    rcases hy with hy | hy <;> cases hy
  | hup b _ hty hb _ _ hc ih =>
    exact (hup_linv (by rintro (g | g) <;> rcases hty with q | q <;> rw [q] at g <;> cases g)
      ih hb hc).1
  | vote _ _ hnd hmt hc ih =>
    refine stepVote_linv ih hnd (fun hq => ?_) hc
    rcases hmt hq with g | g <;> omega
  | @poll r r1 r' res _ hg _ hp hb ih =>
    have hm : ¬ isTA m := by
      rintro (g | g) <;> rcases hg with q | q <;> rw [q.2.1] at g <;> cases g
    have hfv : r.state = .preCandidate → (!m.reject) = true →
        m.frm = a.id ∨ PBack m r.term m.frm := by
      intro hs hv
      rcases hg with g | g
      · rw [g.1] at hs; cases hs
      · have hrj : m.reject = false := by simpa using hv
        exact .inr ⟨g.2.1, hrj, rfl, g.2.2.resolve_left (by rw [hrj]; decide)⟩
    exact (maybeCommitByVote_linv hm m (poll_linv hm ih hfv hp).1 hb).1
  | snapshot _ hs _ hc ih => exact (handleSnapshot_linv m ih hs hc).1
  | heard _ hs hnl ih =>
    refine ih.upd rfl (Nat.le_refl _) rfl ih.tn ?_ ?_
    · intro hx; rw [hs] at hx; cases hx
    · intro hl; exact Or.inr (Or.inl (hnl hl))
  | abort _ hq ih =>
    refine ih.upd rfl (Nat.le_refl _) rfl (Or.inl ?_) ih.pc ih.ld
    rcases hq with hq | hq
    · exact ih.nt hq
    · intro x hx _; rw [hq] at hx; exact Old.of_mem hx
  | transferee _ hta ih =>
    exact ih.upd rfl (Nat.le_refl _) rfl (Or.inr ⟨hta, by simp⟩) ih.pc ih.ld
  | timeoutNow _ hta hlt hs ih => exact sendTimeoutNow_linv ih hta hlt hs

namespace LS

/-- **`Raft::step`**, from the state the call started in -/
theorem step_linv {a r' : Raft} {m : Message} {e : Option RaftError}
    (hc : a.step m = .ok (r', e)) : LInv a m r' := (step_run a.nextRand hc).linv

/-- **`RawNode::step`** -/
theorem rawStep_linv {a r' : Raft} {m : Message} {e : Option RaftError}
    (hc : RawNode.step a m = .ok (r', e)) : LInv a m r' :=
  (RawNode.step_inv hc).elim (fun e => e ▸ LInv.refl _ m) fun hs => step_linv hs.2

theorem tick_linv {a r' : Raft} {b : Bool} (hc : a.tick = .ok (r', b)) : LInv a CV.mLocal r' :=
  (tick_run a.nextRand rfl hc).linv

end LS
end Raft
end RaftModel
