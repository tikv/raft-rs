import RaftProofs.ProtoCDefs
import RaftProofs.ProtoVol

/-!
The clause group `InvC1` of the commit layer (acknowledgement truth `atr`, retention of acknowledged
prefixes `ret` / `reti` / `retd`) holds initially and is preserved by every event of P.

Structure: `NC1 s n` is the clause group for one node `n` against the ghost history of `s`;
`NC1.grow` transports it along `Grow s s'`.  `invC1_step` proves `NC1 s` of every node after the step,
clause by clause: the clauses about pending and durable images for all events at once (`stages_step`);
acknowledgement truth because a known acknowledgement was known before or is generated now
(`held_step`), and a generated one is true (`genAck_true`: the four events that generate one);
retention in the volatile log by cases on what the step does to that log (`vol_step`) — only
`recvApp`, `installSnap` need an argument of their own.
-/
namespace RaftModel.P

/-- the clauses of `InvC1` for one node, against the ghost history of `s` -/
structure NC1 (s : PSys) (n : PNode) : Prop where
  atr : ∀ t f idx pre, nodeAcks n (.ack t f idx pre) →
          idx ≤ (s.llog t).length ∧ pre = (s.llog t).take idx ∧ Elected s t
  ret : ∀ t0 f idx pre, OMsg.ack t0 f idx pre ∈ n.outbox → ∀ c, c ≤ idx →
          NCle s t0 c n.term → n.log.take c = (s.llog t0).take c
  reti : ∀ im ∈ n.pending, ∀ t0 f idx pre, OMsg.ack t0 f idx pre ∈ im.acks → ∀ c, c ≤ idx →
          NCle s t0 c im.term → im.log.take c = (s.llog t0).take c
  retd : ∀ t0 f idx pre, OMsg.ack t0 f idx pre ∈ n.dacks → ∀ c, c ≤ idx →
          NCle s t0 c n.dterm → n.dlog.take c = (s.llog t0).take c

theorem InvC1.of_nodes {s : PSys} (h : ∀ i, NC1 s (s.nodes i)) : InvC1 s :=
  ⟨fun i => (h i).atr, fun i => (h i).ret, fun i => (h i).reti, fun i => (h i).retd⟩

/-- transport: the clauses of an unchanged node survive any growth of the ghost history -/
theorem NC1.grow {s s' : PSys} (g : Grow s s') (hlt : ∀ t e, e ∈ s.llog t → e.term ≤ t) {n : PNode}
    (h : NC1 s n) : NC1 s' n := by
  have key : ∀ t0 f idx pre, nodeAcks n (.ack t0 f idx pre) → ∀ c, c ≤ idx → ∀ T, NCle s' t0 c T →
      NCle s t0 c T ∧ (s'.llog t0).take c = (s.llog t0).take c := by
    intro t0 f idx pre hm c hc T hN
    obtain ⟨h1, _, h3⟩ := h.atr t0 f idx pre hm
    exact ⟨g.ncle h3 (by omega) (hlt t0) hN, g.take_eq h3 (by omega)⟩
  constructor
  · intro t f idx pre hm
    obtain ⟨h1, h2, h3⟩ := h.atr t f idx pre hm
    refine ⟨Nat.le_trans h1 (g.len_le h3), ?_, g.el t h3⟩
    rw [g.take_eq h3 h1]; exact h2
  · intro t0 f idx pre hm c hc hN
    obtain ⟨k1, k2⟩ := key t0 f idx pre (Or.inl hm) c hc _ hN
    rw [k2]; exact h.ret t0 f idx pre hm c hc k1
  · intro im him t0 f idx pre hm c hc hN
    obtain ⟨k1, k2⟩ := key t0 f idx pre (Or.inr (Or.inl ⟨im, him, hm⟩)) c hc _ hN
    rw [k2]; exact h.reti im him t0 f idx pre hm c hc k1
  · intro t0 f idx pre hm c hc hN
    obtain ⟨k1, k2⟩ := key t0 f idx pre (Or.inr (Or.inr hm)) c hc _ hN
    rw [k2]; exact h.retd t0 f idx pre hm c hc k1

/-- the leader of the node's current term holds what the leader of an earlier acknowledged term
held, when all the leaders in between do -/
theorem ncle_cur {s : PSys} {t0 c t : Nat} (hN : NCle s t0 c t) (hle : t0 ≤ t) (hel : Elected s t) :
    (s.llog t).take c = (s.llog t0).take c := by
  by_cases h0 : t0 = t
  · rw [h0]
  · exact hN t (by omega) (Nat.le_refl _) hel

theorem invC1_init : InvC1 init :=
  InvC1.of_nodes fun _ => by
    constructor
    · rintro t f idx pre (hm | ⟨im, him, _⟩ | hm)
      · cases hm
      · cases him
      · cases hm
    · intro t0 f idx pre hm; cases hm
    · intro im him; cases him
    · intro t0 f idx pre hm; cases hm

/-- a generated acknowledgement is true: it is of the node's term, which has a leader, its index lies
inside the ghost log of that term, and the node's log after the event agrees with that log up to it -/
theorem genAck_true {s s' : PSys} {e : Event} (h : applyEvent s e = .ok s')
    (hV : InvV (vsys s)) (hL : InvL s) (hB : InvB s) (hC : InvC s) {j t f idx : Nat} {pre : List LEntry}
    (hg : Gen s j (s'.nodes j).log e (.ack t f idx pre)) :
    t = (s.nodes j).term ∧ Elected s t ∧ idx ≤ (s.llog t).length ∧ pre = (s.llog t).take idx ∧
    (s'.nodes j).log.take idx = (s.llog t).take idx := by
  cases hg with
  | ackApp m =>
    obtain ⟨⟨_, hm, hmt, _, hprev, hpt, _⟩, rfl⟩ := of_guard_ok h
    simp only [upd_same]
    obtain ⟨ok, hpre, _⟩ := recvApp_sem hL (List.contains_iff_mem.1 hm) hprev hpt
    have htake := mergeAt_take s.llog _ (hL.pfl _ (listsOf_llog s m.term)) m.es _ m.prev (keep_log s hL j)
      hprev hpre ok.slice ok.len
    rw [← hmt]
    exact ⟨trivial, ok.hl, ok.len, htake, htake⟩
  | ackCommitted =>
    obtain ⟨hg, rfl⟩ := of_guard_ok h
    simp only [upd_same]
    have hel : Elected s (s.nodes j).term := by
      obtain ⟨m, hm, hmt⟩ := List.any_eq_true.1 hg.2.2
      rw [← of_decide_eq_true hmt]; exact (hL.msg m hm).hl
    have key : (s.nodes j).commit ≤ (s.llog (s.nodes j).term).length ∧
        (s.nodes j).log.take (s.nodes j).commit = (s.llog (s.nodes j).term).take (s.nodes j).commit := by
      rcases hC.c3.cm j with h0 | ⟨p, hp, h1, h2, h3⟩
      · rw [h0]; simp
      · have h4 := cmt_prefix_le hB hC.c3 hC.lc hp h2 hel h1
        have h5 := (hC.c3.cq p hp).2.1
        exact ⟨len_of_take_eq h4 (by omega), by rw [h4]; exact h3⟩
    exact ⟨trivial, hel, key.1, key.2, key.2⟩
  | ackSelf idx =>
    obtain ⟨hg, rfl⟩ := of_guard_ok h
    simp only [upd_same]
    have hll := hL.ll j hg.2.1
    exact ⟨trivial, leader_elected hV hg.2.1, hll ▸ hg.2.2, by rw [← hll], by rw [← hll]⟩
  | ackSnap t idx st =>
    obtain ⟨m, hmem, ⟨_, rfl, _⟩, hg, rfl⟩ := installSnap_ok h
    simp only [upd_same]
    obtain ⟨hel, _, hlen, hpre, _⟩ := hC.c3.csn m hmem
    rw [hg.2.1] at hel hlen hpre
    have e : m.pre.take m.idx = m.pre := by rw [← hg.2.2.2.2.1, List.take_length]
    exact ⟨trivial, hel, hlen, e.trans hpre, e.trans hpre⟩

/-! ### the step theorem -/

theorem invC1_step (s s' : PSys) (e : Event) (h : applyEvent s e = .ok s')
    (hV : InvV (vsys s)) (hR : InvR s) (hL : InvL s) (hB : InvB s) (hC : InvC s) (g : Grow s s') : InvC1 s' := by
  have hC1 := hC.c1
  obtain ⟨hreti, hretd⟩ := stages_step (Q := fun _ im => ∀ t0 f idx pre, OMsg.ack t0 f idx pre ∈ im.acks →
      ∀ c, c ≤ idx → NCle s t0 c im.term → im.log.take c = (s.llog t0).take c) h
    (fun j t0 f idx pre hm => hC1.ret j t0 f idx pre (List.mem_filter.1 hm).1) hC1.reti hC1.retd (by
      rintro i d idx rfl
      obtain ⟨hf, _, _, _, _, rfl⟩ := bootstrap_ok h
      simp only [upd_same, dimage, hf.dacks]; exact fun _ _ _ _ hm => nomatch hm)
  refine InvC1.of_nodes fun j => NC1.grow g (fun t x hx => (hL.lterm t x hx).2) ⟨?_, ?_, hreti j, hretd j⟩
  · intro t f idx pre hm
    rcases held_step h j _ hm with ho | hg
    · exact hC1.atr j t f idx pre ho
    · obtain ⟨_, h2, h3, h4, _⟩ := genAck_true h hV hL hB hC hg
      exact ⟨h3, h4, h2⟩
  · intro t0 f idx pre hm c hc hN
    rcases outbox_step h j with ⟨hs, ht, hne⟩ | ⟨_, hs, ht, hl⟩
    · rcases hs _ hm with ho | hg
      · -- an acknowledgement generated earlier: the step keeps what the log held
        have h0 := hC1.atr j t0 f idx pre (Or.inl ho)
        have h1 := hC1.ret j t0 f idx pre ho c hc (NCle_mono hN ht)
        cases vol_step h j with
        | keep _ _ hl | role0 _ _ hl | cand _ _ _ _ hl | win _ _ _ _ _ _ hl | bump _ _ hl => rw [hl]; exact h1
        | append x _ _ _ _ hl => rw [hl, List.take_append_of_le_length (len_of_take_eq h1 (by omega))]; exact h1
        | restart he => exact absurd he hne
        | boot _ _ _ hf => rw [hf.outbox] at ho; cases ho
        | merge m he =>
          subst he
          obtain ⟨⟨_, hma, hmt, _, hprev, hpt, _⟩, rfl⟩ := of_guard_ok h
          simp only [upd_same] at hN ⊢
          obtain ⟨ok, _, _⟩ := recvApp_sem hL (List.contains_iff_mem.1 hma) hprev hpt
          have heq := ncle_cur hN ((hR.own j _ ho).2 rfl) (hmt ▸ ok.hl)
          rw [← heq] at h1 ⊢
          exact mergeAt_keep _ c m.es _ m.prev hprev (hmt ▸ ok.slice) (hmt ▸ ok.len) h1
        | install t idx' st he =>
          subst he
          obtain ⟨m, hmem, _, hg, rfl⟩ := installSnap_ok h
          simp only [upd_same] at hN ⊢
          obtain ⟨hel, _, hlen, hpre, hst⟩ := hC.c3.csn m hmem
          rw [hg.2.1] at hel hlen hpre hst
          have heq := ncle_cur hN ((hR.own j _ ho).2 rfl) hel
          have hcL : c ≤ (s.llog (s.nodes j).term).length := len_of_take_eq heq (by omega)
          rw [← heq] at h1 ⊢
          have hcm : c ≤ m.idx := by
            by_cases hle : c ≤ m.idx
            · exact hle
            · exfalso
              have hcl : c ≤ (s.nodes j).log.length := len_of_take_eq h1 hcL
              rcases hg.2.2.2.2.2 with h2 | h2
              · omega
              · apply h2; rw [hst]; exact termAt_of_take_eq h1 (by omega)
          rw [hpre, List.take_take, Nat.min_eq_left hcm]
      · exact take_of_take_eq (genAck_true h hV hL hB hC hg).2.2.2.2 hc
    · rw [hl]; exact hC1.retd j t0 f idx pre (hs _ hm).2 c hc (ht ▸ hN)

end RaftModel.P
