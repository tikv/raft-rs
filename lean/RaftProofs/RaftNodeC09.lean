import RaftProofs.RaftNodeC05
import RaftProofs.RaftNodeC10

/-!
Helper lemmas for C09 on the node model (`RaftProps/C09b.lean`): which functions of `src/raft.rs`
leave `pending_conf_index` and the apply cursor `raft_log.applied` alone (`CF`, an anchored relation
in the style of `RaftNodeC16.Frame` / `RaftNodeC05.LS`).
-/
namespace RaftModel

theorem c09_commitTo_applied {l l' : RaftLog} {to : Nat} (h : l.commitTo to = .ok l') :
    l'.applied = l.applied := by
  rcases RaftLog.commitTo_inv h with ⟨_, rfl⟩ | ⟨_, _, rfl⟩ <;> rfl

theorem c09_maybeCommit_applied {l l' : RaftLog} {mi t : Nat} {b : Bool}
    (h : l.maybeCommit mi t = .ok (l', b)) : l'.applied = l.applied := by
  rcases RaftLog.maybeCommit_inv h with ⟨_, _, _, _, rfl⟩ | ⟨_, rfl⟩ <;> rfl

theorem c09_snapshot_applied (l : RaftLog) (ri : Nat) : (l.snapshot ri).1.applied = l.applied := by
  unfold RaftLog.snapshot
  split
  · split
    · rfl
    · rfl
  · rfl

theorem c09_append_applied {l l' : RaftLog} {es : List Entry} {n : Nat}
    (h : l.append es = .ok (l', n)) : l'.applied = l.applied := by
  rcases RaftLog.append_inv h with ⟨_, rfl⟩ | ⟨u, _, rfl⟩ <;> rfl

namespace Raft

/-- anchored: the node `r` has the same `pending_conf_index` and the same apply cursor as `a` -/
def CF (a r : Raft) : Prop :=
  r.pendingConfIndex = a.pendingConfIndex ∧ r.raftLog.applied = a.raftLog.applied

theorem CF.rfl {r : Raft} : CF r r := ⟨Eq.refl _, Eq.refl _⟩

theorem CF.trans {a b c : Raft} (h1 : CF a b) (h2 : CF b c) : CF a c :=
  ⟨h2.1.trans h1.1, h2.2.trans h1.2⟩

/-- any structure update that keeps `raftLog` and `pendingConfIndex` keeps `CF` -/
theorem CF.mk' {a r : Raft} {x1 x2 x3 : Nat} {x4 : List ReadState} {x6 x7 x8 : Nat}
    {x9 : StateRole} {x10 : Bool} {x11 : Nat}
    {x12 : Option Nat} {x14 : ReadOnly} {x15 x16 : Nat} {x17 x18 x19 x20 x21 : Bool}
    {x22 x23 x24 x25 x26 : Nat} {x27 : Int} {x28 : UncommittedState} {x29 : Nat}
    {x30 : ProgressTracker} {x31 : List Message} {x32 : Option Nat} (h0 : CF a r) :
    CF a { term := x1, vote := x2, id := x3, readStates := x4, raftLog := r.raftLog,
           maxInflight := x6, maxMsgSize := x7, pendingRequestSnapshot := x8, state := x9,
           promotable := x10, leaderId := x11, leadTransferee := x12,
           pendingConfIndex := r.pendingConfIndex, readOnly := x14, electionElapsed := x15,
           heartbeatElapsed := x16, checkQuorum := x17, preVote := x18,
           skipBcastCommit := x19, batchAppend := x20, disableProposalForwarding := x21,
           heartbeatTimeout := x22, electionTimeout := x23, randomizedElectionTimeout := x24,
           minElectionTimeout := x25, maxElectionTimeout := x26, priority := x27,
           uncommittedState := x28, maxCommittedSizePerReady := x29, prs := x30, msgs := x31,
           nextRand := x32 } := h0

/-- a structure update of `raftLog` by a log with the same apply cursor -/
theorem CF.log {a r : Raft} {l : RaftLog} (hl : l.applied = r.raftLog.applied) (h0 : CF a r) :
    CF a { r with raftLog := l } := ⟨h0.1, hl.trans h0.2⟩

theorem send_cf {a r r' : Raft} {m : Message} (h : r.send m = .ok r') (h0 : CF a r) :
    CF a r' := by
  rw [send_eq r r' m h]; exact h0

theorem prepareSendSnapshot_cf {a r r' : Raft} {m m' : Message} {pr pr' : Progress} {to : Nat}
    {b : Bool} (h : r.prepareSendSnapshot m pr to = .ok (r', m', pr', b)) (h0 : CF a r) :
    CF a r' :=
  prepareSendSnapshot_parts h h0 (CF.log (c09_snapshot_applied _ _) h0)

theorem tryBatching_cf {a r r' : Raft} {to : Nat} {pr pr' : Progress} {ents : List Entry} {b : Bool}
    (h : r.tryBatching to pr ents = .ok (r', pr', b)) (h0 : CF a r) : CF a r' :=
  tryBatching_parts h fun _ => CF.mk' h0

theorem maybeSendAppend_cf {a r r' : Raft} {to : Nat} {pr pr' : Progress} {ae b : Bool}
    (h : r.maybeSendAppend to pr ae = .ok (r', pr', b)) (h0 : CF a r) : CF a r' :=
  maybeSendAppend_parts h h0 (prepareSendSnapshot_cf · h0) (tryBatching_cf · h0) (fun hs _ => send_cf hs)

theorem sendAppendPr_cf {a r r' : Raft} {to : Nat} {pr pr' : Progress}
    (h : r.sendAppendPr to pr = .ok (r', pr')) (h0 : CF a r) : CF a r' :=
  sendAppendPr_parts h (maybeSendAppend_cf · h0)

theorem sendHeartbeat_cf {a r r' : Raft} {to : Nat} {pr : Progress} {ctx : Option Bytes}
    (h : r.sendHeartbeat to pr ctx = .ok r') (h0 : CF a r) : CF a r' := by
  unfold Raft.sendHeartbeat at h
  exact send_cf h h0

theorem sendAppend_cf {a r r' : Raft} {to : Nat}
    (h : r.sendAppend to = .ok r') (h0 : CF a r) : CF a r' :=
  sendAppend_parts h (sendAppendPr_cf · h0) fun _ => CF.mk'

theorem sendAppendAggressively_cf {a r r' : Raft} {to : Nat}
    (h : r.sendAppendAggressively to = .ok r') (h0 : CF a r) : CF a r' :=
  sendAppendAggressively_parts h (sendAppendAggressivelyPr_parts maybeSendAppend_cf _ _ _ · h0)
    fun _ => CF.mk'

theorem sendTimeoutNow_cf {a r r' : Raft} {to : Nat}
    (h : r.sendTimeoutNow to = .ok r') (h0 : CF a r) : CF a r' := by
  unfold Raft.sendTimeoutNow at h
  exact send_cf h h0

theorem bcastAppend_cf {a r r' : Raft} (h : r.bcastAppend = .ok r') (h0 : CF a r) :
    CF a r' :=
  bcastAppend_parts h h0 sendAppendPr_cf fun _ _ => CF.mk'

theorem bcastHeartbeatWithCtx_cf {a r r' : Raft} {ctx : Option Bytes}
    (h : r.bcastHeartbeatWithCtx ctx = .ok r') (h0 : CF a r) : CF a r' :=
  bcastHeartbeatWithCtx_parts h h0 sendHeartbeat_cf fun _ _ => CF.mk'

theorem bcastHeartbeat_cf {a r r' : Raft} (h : r.bcastHeartbeat = .ok r') (h0 : CF a r) :
    CF a r' := by
  unfold Raft.bcastHeartbeat at h
  exact bcastHeartbeatWithCtx_cf h h0

theorem maybeCommit_cf {a r r' : Raft} {b : Bool} (h : r.maybeCommit = .ok (r', b))
    (h0 : CF a r) : CF a r' :=
  maybeCommit_parts h h0 (fun hl => CF.log (c09_maybeCommit_applied hl) h0) fun _ p => p

theorem maybeIncreaseUncommittedSize_cf {a r r' : Raft} {es : List Entry} {b : Bool}
    (h : r.maybeIncreaseUncommittedSize es = (r', b)) (h0 : CF a r) : CF a r' := by
  unfold Raft.maybeIncreaseUncommittedSize at h
  split at h
  cases h
  exact h0

/-- `append_entry` keeps `pending_conf_index` and the apply cursor -/
theorem appendEntry_cf {a r r' : Raft} {es : List Entry} {b : Bool}
    (h : r.appendEntry es = .ok (r', b)) (h0 : CF a r) : CF a r' :=
  appendEntry_parts h h0 (maybeIncreaseUncommittedSize_cf · h0)
    fun hl p => CF.log (c09_append_applied hl) p

theorem handleReadyReadIndex_cf {a r r' : Raft} {req : Message} {i : Nat} {om : Option Message}
    (h : r.handleReadyReadIndex req i = .ok (r', om)) (h0 : CF a r) : CF a r' :=
  handleReadyReadIndex_parts h h0 fun _ => CF.mk' h0

theorem respondReadStates_cf {a r r' : Raft} {rss : List ReadIndexStatus}
    (h : r.respondReadStates rss = .ok r') (h0 : CF a r) : CF a r' :=
  respondReadStates_parts h h0 handleReadyReadIndex_cf fun h _ => send_cf h

/-! ### leader side -/

theorem checkQuorumActive_cf {a r r' : Raft} {b : Bool} (h : r.checkQuorumActive = (r', b))
    (h0 : CF a r) : CF a r' := by
  unfold Raft.checkQuorumActive at h
  split at h
  cases h
  exact h0

theorem handleAppendResponseAccepted_cf {a r r' : Raft} {m : Message} {pr : Progress} {op : Bool}
    (h : r.handleAppendResponseAccepted m pr op = .ok r') (h0 : CF a r) : CF a r' :=
  handleAppendResponseAccepted_parts h (fun _ => CF.mk' h0) maybeCommit_cf bcastAppend_cf
    sendAppend_cf sendAppendAggressively_cf fun _ => sendTimeoutNow_cf

theorem handleAppendResponse_cf {a r r' : Raft} {m : Message}
    (h : r.handleAppendResponse m = .ok r') (h0 : CF a r) : CF a r' :=
  handleAppendResponse_parts h h0 (fun _ => CF.mk' h0) sendAppend_cf
    (handleAppendResponseAccepted_cf · h0)

theorem handleHeartbeatResponse_cf {a r r' : Raft} {m : Message}
    (h : r.handleHeartbeatResponse m = .ok r') (h0 : CF a r) : CF a r' :=
  handleHeartbeatResponse_parts h h0 (sendAppendPr_cf · h0) (fun _ => CF.mk') (fun _ => CF.mk')
    respondReadStates_cf

theorem handleTransferLeader_cf {a r r' : Raft} {m : Message}
    (h : r.handleTransferLeader m = .ok r') (h0 : CF a r) : CF a r' :=
  handleTransferLeader_parts h h0 CF.mk' CF.mk' (fun _ => sendTimeoutNow_cf)
    (fun _ => sendAppendPr_cf) fun _ => CF.mk'

theorem handleSnapshotStatus_cf {a r : Raft} {m : Message} (h0 : CF a r) :
    CF a (r.handleSnapshotStatus m) := by
  unfold Raft.handleSnapshotStatus
  split
  · exact h0
  · split
    · exact h0
    · exact h0

theorem handleUnreachable_cf {a r : Raft} {m : Message} (h0 : CF a r) :
    CF a (r.handleUnreachable m) := by
  unfold Raft.handleUnreachable
  split
  · exact h0
  · split
    · exact h0
    · exact h0

end Raft

/-! ### the tracker's configuration and key set (`ProgressTracker.toCC`) -/

theorem c09_natmap_insert_keys {α : Type} (k : Nat) (v : α) (m : List (Nat × α)) :
    (NatMap.insert k v m).map (·.1) = NatSet.insert k (m.map (·.1)) := by
  induction m with
  | nil => rfl
  | cons p rest ih =>
    obtain ⟨k', v'⟩ := p
    simp only [NatMap.insert, List.map_cons, NatSet.insert]
    split
    · rfl
    · split
      · rename_i h2; simp [h2]
      · simp [ih]

theorem c09_natmap_erase_keys {α : Type} (k : Nat) (m : List (Nat × α)) :
    (NatMap.erase k m).map (·.1) = NatSet.erase k (m.map (·.1)) := by
  unfold NatMap.erase NatSet.erase
  induction m with
  | nil => rfl
  | cons p rest ih =>
    simp only [List.map_cons, List.filter_cons]
    split
    · simp [ih]
    · exact ih

/-- **`ProgressTracker::apply_conf` is `Tracker.applyConf` on the changer's view of the tracker** -/
theorem c09_applyConf_toCC (t : ProgressTracker) (cfg : Configuration) (changes : MapChange)
    (n : Nat) : (t.applyConf cfg changes n).toCC = t.toCC.applyConf cfg changes := by
  unfold ProgressTracker.applyConf ProgressTracker.toCC Tracker.applyConf applyChanges
  simp only [Tracker.mk.injEq, true_and]
  generalize t.progress = m
  induction changes generalizing m with
  | nil => rfl
  | cons c rest ih =>
    simp only [List.foldl_cons]
    rw [ih]
    congr 1
    cases c.2 with
    | add => exact c09_natmap_insert_keys _ _ _
    | remove => exact c09_natmap_erase_keys _ _

theorem c09_set_toCC (t : ProgressTracker) (id : Nat) (p : Progress) :
    (t.set id p).toCC = t.toCC := by
  unfold ProgressTracker.set ProgressTracker.toCC
  simp only [NatMap.keys_modify]

namespace Raft

/-- anchored: same configuration and same key set of the progress map -/
def TC (a r : Raft) : Prop := r.prs.toCC = a.prs.toCC

theorem TC.rfl {r : Raft} : TC r r := Eq.refl _

/-- any structure update that keeps `prs` keeps `TC` -/
theorem TC.mk' {a r : Raft} {x1 x2 x3 : Nat} {x4 : List ReadState} {x5 : RaftLog} {x6 x7 x8 : Nat}
    {x9 : StateRole} {x10 : Bool} {x11 : Nat}
    {x12 : Option Nat} {x13 : Nat} {x14 : ReadOnly} {x15 x16 : Nat} {x17 x18 x19 x20 x21 : Bool}
    {x22 x23 x24 x25 x26 : Nat} {x27 : Int} {x28 : UncommittedState} {x29 : Nat}
    {x31 : List Message} {x32 : Option Nat} (h0 : TC a r) :
    TC a { term := x1, vote := x2, id := x3, readStates := x4, raftLog := x5,
           maxInflight := x6, maxMsgSize := x7, pendingRequestSnapshot := x8, state := x9,
           promotable := x10, leaderId := x11, leadTransferee := x12,
           pendingConfIndex := x13, readOnly := x14, electionElapsed := x15,
           heartbeatElapsed := x16, checkQuorum := x17, preVote := x18,
           skipBcastCommit := x19, batchAppend := x20, disableProposalForwarding := x21,
           heartbeatTimeout := x22, electionTimeout := x23, randomizedElectionTimeout := x24,
           minElectionTimeout := x25, maxElectionTimeout := x26, priority := x27,
           uncommittedState := x28, maxCommittedSizePerReady := x29, prs := r.prs, msgs := x31,
           nextRand := x32 } := h0

theorem TC.set {a r : Raft} (id : Nat) (p : Progress) (h0 : TC a r) :
    TC a { r with prs := r.prs.set id p } := by
  show (r.prs.set id p).toCC = _
  rw [c09_set_toCC]; exact h0

theorem send_tc {a r r' : Raft} {m : Message} (h : r.send m = .ok r') (h0 : TC a r) :
    TC a r' := by
  rw [send_eq r r' m h]; exact h0

theorem prepareSendSnapshot_tc {a r r' : Raft} {m m' : Message} {pr pr' : Progress} {to : Nat}
    {b : Bool} (h : r.prepareSendSnapshot m pr to = .ok (r', m', pr', b)) (h0 : TC a r) :
    TC a r' :=
  prepareSendSnapshot_parts h h0 (TC.mk' h0)

theorem tryBatching_tc {a r r' : Raft} {to : Nat} {pr pr' : Progress} {ents : List Entry} {b : Bool}
    (h : r.tryBatching to pr ents = .ok (r', pr', b)) (h0 : TC a r) : TC a r' :=
  tryBatching_parts h fun _ => TC.mk' h0

theorem maybeSendAppend_tc {a r r' : Raft} {to : Nat} {pr pr' : Progress} {ae b : Bool}
    (h : r.maybeSendAppend to pr ae = .ok (r', pr', b)) (h0 : TC a r) : TC a r' :=
  maybeSendAppend_parts h h0 (prepareSendSnapshot_tc · h0) (tryBatching_tc · h0) (fun hs _ => send_tc hs)

theorem sendAppendPr_tc {a r r' : Raft} {to : Nat} {pr pr' : Progress}
    (h : r.sendAppendPr to pr = .ok (r', pr')) (h0 : TC a r) : TC a r' :=
  sendAppendPr_parts h (maybeSendAppend_tc · h0)

theorem bcastAppend_tc {a r r' : Raft} (h : r.bcastAppend = .ok r') (h0 : TC a r) :
    TC a r' :=
  bcastAppend_parts h h0 sendAppendPr_tc TC.set

theorem c09_modifyProgress_toCC (r : Raft) (id : Nat) (f : Progress → Progress) :
    (r.modifyProgress id f).prs.toCC = r.prs.toCC := by
  unfold Raft.modifyProgress ProgressTracker.toCC
  simp only [NatMap.keys_modify]

theorem c09_mapProgress_toCC (r : Raft) (f : Nat → Progress → Progress) :
    (r.mapProgress f).prs.toCC = r.prs.toCC := by
  unfold Raft.mapProgress ProgressTracker.toCC
  simp only [List.map_map, Tracker.mk.injEq, true_and]
  rfl

theorem maybeCommit_tc {a r r' : Raft} {b : Bool} (h : r.maybeCommit = .ok (r', b))
    (h0 : TC a r) : TC a r' :=
  maybeCommit_parts h h0 (fun _ => TC.mk' h0) fun _ p => by
    show (Raft.modifyProgress _ _ _).prs.toCC = _
    rw [c09_modifyProgress_toCC]; exact p

theorem handleReadyReadIndex_tc {a r r' : Raft} {req : Message} {i : Nat} {om : Option Message}
    (h : r.handleReadyReadIndex req i = .ok (r', om)) (h0 : TC a r) : TC a r' :=
  handleReadyReadIndex_parts h h0 fun _ => TC.mk' h0

theorem respondReadStates_tc {a r r' : Raft} {rss : List ReadIndexStatus}
    (h : r.respondReadStates rss = .ok r') (h0 : TC a r) : TC a r' :=
  respondReadStates_parts h h0 handleReadyReadIndex_tc fun h _ => send_tc h

theorem c09_reset_toCC (r : Raft) (t : Nat) : (r.reset t).prs.toCC = r.prs.toCC := by
  unfold Raft.reset
  simp only [Raft.abortLeaderTransfer, Raft.resetRandomizedElectionTimeout]
  rw [c09_mapProgress_toCC]
  by_cases h : r.term ≠ t <;> simp [h, ProgressTracker.resetVotes, ProgressTracker.toCC]

theorem reset_tc {a r : Raft} (t : Nat) (h0 : TC a r) : TC a (r.reset t) := by
  unfold TC; rw [c09_reset_toCC]; exact h0

theorem becomeFollower_tc {a r : Raft} (t l : Nat) (h0 : TC a r) : TC a (r.becomeFollower t l) :=
  TC.mk' (reset_tc t h0)

/-- the `ConfState` that `post_conf_change` returns is that of the configuration it is called with -/
theorem postConfChange_cs {r r' : Raft} {cs : ConfState} (h : r.postConfChange = .ok (r', cs)) :
    cs = r.prs.conf.toConfState := by
  unfold Raft.postConfChange at h
  dsimp only at h
  rcases Res.ite_cases h with ⟨_, h⟩ | ⟨_, h⟩
  · cases h; rfl
  rcases Res.ite_cases h with ⟨_, h⟩ | ⟨_, h⟩
  · cases h; rfl
  obtain ⟨r1, -, h⟩ := Res.bind_eq_ok h
  obtain ⟨r2, -, h⟩ := Res.bind_eq_ok h
  cases h; rfl

/-- `post_conf_change` keeps the configuration and the key set of the progress map -/
theorem postConfChange_tc {a r r' : Raft} {cs : ConfState} (h : r.postConfChange = .ok (r', cs))
    (h0 : TC a r) : TC a r' ∧ cs = r.prs.conf.toConfState :=
  ⟨postConfChange_parts h (TC.mk' h0) (fun _ _ => becomeFollower_tc _ _) (fun _ => maybeCommit_tc)
    (fun _ => bcastAppend_tc) (fun _ => maybeSendAppend_tc) TC.set (fun _ => TC.mk')
    respondReadStates_tc TC.mk', postConfChange_cs h⟩

end Raft
end RaftModel
