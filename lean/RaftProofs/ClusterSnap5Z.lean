import RaftProofs.ClusterSnap5X
import RaftProofs.ClusterSnap5V

/-!
Commit safety of `ClusterSem` with compaction, snapshots **and `request_snapshot`**, part 5Z: **a
concrete history in which a follower requests a snapshot and the leader serves it** (kernel-evaluated)
that satisfies every hypothesis of this development (`Snap5.Hyp3`, hence `Snap5.Hyp3w`).

The 34-state history `sx_hist` of `ClusterSnap5V`, continued by eight
steps: node 2 (follower of term 1, log `[1, 2]`, commit index 1) is delivered the empty `MsgAppend` of
node 1 that carries commit index 2; its application **calls `request_snapshot`**
(`pending_request_snapshot = 2`, a rejecting `MsgAppendResponse` with `request_snapshot = 2` is queued)
and sends; node 1 (leader) is delivered that response, records the request in the progress of node 2
(`Progress.pending_request_snapshot = 2`), **queues a `MsgSnapshot` (index 2, term 1)** — the progress of
node 2 goes to the `Snapshot` state — and sends it; node 2 is delivered the snapshot and, because the
request is pending and the snapshot is not older than the requested index, **restores it although its
log holds the snapshot's last entry** (the second alternative of `Raft.CC.SnapCase.restored`), installs it
(`persist_snap`) and sends its acknowledgement.
-/
namespace RaftModel
namespace Cluster
namespace Snap5
open Node Raft Raft.CC RaftProps.C02 RaftProps.C05 Snap

/-! ### the states -/

/-- the empty `MsgAppend` of node 1 for node 2 that carries commit index 2 -/
def rx_app := sx_t11.net[9]!
def rx_b10 := c02x_st (Node.call cx_b9 none (.step rx_app))
/-- node 2 with a pending snapshot request -/
def rx_b11 := c02x_st (Node.call rx_b10 none .requestSnapshot)
def rx_b12 := c02x_st (Node.call rx_b11 none .drain)
/-- the `MsgAppendResponse` of node 2 that carries the request (`request_snapshot = 2`) -/
def rx_req := rx_b11.raft.msgs[1]!
/-- node 1 with the request recorded and the `MsgSnapshot` queued -/
def rx_a19 := c02x_st (Node.call sx_a18 none (.step rx_req))
def rx_a20 := c02x_st (Node.call rx_a19 none .drain)
/-- the `MsgSnapshot` (index 2, term 1) of node 1 for node 2 -/
def rx_snap := rx_a19.raft.msgs.head!
/-- node 2 with the requested snapshot pending -/
def rx_b13 := c02x_st (Node.call rx_b12 none (.step rx_snap))
/-- node 2 with the snapshot installed -/
def rx_b14 := c02x_st (Node.call rx_b13 none .persistSnap)
def rx_b15 := c02x_st (Node.call rx_b14 none .drain)

def rx_t1 : Sys := sx_t11.setNode 2 rx_b10
def rx_t2 : Sys := rx_t1.setNode 2 rx_b11
def rx_t3 : Sys := { (rx_t2.setNode 2 rx_b12) with net := rx_t2.net ++ rx_b11.raft.msgs }
def rx_t4 : Sys := rx_t3.setNode 1 rx_a19
def rx_t5 : Sys := { (rx_t4.setNode 1 rx_a20) with net := rx_t4.net ++ rx_a19.raft.msgs }
def rx_t6 : Sys := rx_t5.setNode 2 rx_b13
def rx_t7 : Sys := rx_t6.setNode 2 rx_b14
def rx_t8 : Sys := { (rx_t7.setNode 2 rx_b15) with net := rx_t7.net ++ rx_b14.raft.msgs }

def rx_tail : List Sys := [rx_t1, rx_t2, rx_t3, rx_t4, rx_t5, rx_t6, rx_t7, rx_t8]
/-- the history: 34 + 8 states -/
def rx_hist : List Sys := sx_hist ++ rx_tail

def rx_moves : List Move :=
  [-- node 2 is delivered the empty append with commit index 2; its application requests a snapshot
   .deliver 2 cx_b9 rx_app, .call 2 rx_b10 .requestSnapshot, .send 2 rx_b11,
   -- node 1 is delivered the request and queues the snapshot of its storage
   .deliver 1 sx_a18 rx_req, .send 1 rx_a19,
   -- node 2 is delivered the snapshot it asked for, restores and installs it
   .deliver 2 rx_b12 rx_snap, .call 2 rx_b13 .persistSnap, .send 2 rx_b14]

/-- the check of `sx_chk` with `ReqOk` in place of "no pending request" -/
def rx_chk (s : Sys) : Bool :=
  c02x_fixed s && c05x_nobatch s && s.net.all (fun x => decide (sx_msgOk x)) &&
  s.nodes.all (fun p => decide (p.2.raft.pendingRequestSnapshot ≠ 0 →
    p.2.raft.raftLog.lastIndex ≤ p.2.raft.pendingRequestSnapshot))

theorem rx_chk_ok (s : Sys) (h : rx_chk s = true) :
    FixedCfg c02x_cfg s ∧ NoBatch s ∧ (∀ x ∈ s.net, sx_msgOk x) ∧ ReqOk s := by
  unfold rx_chk at h
  simp only [Bool.and_eq_true] at h
  obtain ⟨⟨⟨h1, h2⟩, h3⟩, h4⟩ := h
  refine ⟨c02x_fixed_ok s h1, c05x_nobatch_ok s h2, fun x hx => ?_, fun i st hi => ?_⟩
  · rw [List.all_eq_true] at h3
    exact of_decide_eq_true (h3 x hx)
  · rw [List.all_eq_true] at h4
    exact of_decide_eq_true (h4 _ (c02_lookup_mem s.nodes i st hi))

/-- some node of `s` has a pending snapshot request -/
def reqPendingIn (s : Sys) : Bool :=
  s.nodes.any (fun p => decide (p.2.raft.pendingRequestSnapshot ≠ 0))

/-- some node of `s` is leader and has a progress that records a follower's request and is in the
`Snapshot` state, with a `MsgSnapshot` for that follower in its queue -/
def reqServedIn (s : Sys) : Bool :=
  s.nodes.any (fun p => p.2.raft.state == .leader &&
    p.2.raft.prs.progress.any (fun q => q.2.state == .snapshot &&
      decide (q.2.pendingRequestSnapshot ≠ 0) &&
      p.2.raft.msgs.any (fun x => x.msgType == .msgSnapshot && x.to == q.1)))

/-- **the tail of the history, evaluated once**: the moves are steps, the check holds in every state,
what `rx_exercised` reads off, and node 2 with its request pending -/
theorem rx_eval :
    Move.all (fun s mv => mv.ok s && mv.okC && mv.okPersist && mv.okSnap) sx_t11 rx_moves = true ∧
    (∀ s ∈ rx_tail, rx_chk s = true) ∧
    (c02x_ok (Node.call rx_b10 none .requestSnapshot) = true ∧
      rx_b10.raft.pendingRequestSnapshot = 0 ∧ rx_b11.raft.pendingRequestSnapshot = 2 ∧
      rx_hist.any reqPendingIn = true ∧
      rx_hist.any (fun s => s.net.any (fun x => x.msgType == .msgAppendResponse && x.reject &&
        decide (x.requestSnapshot ≠ 0))) = true ∧
      rx_hist.any reqServedIn = true ∧
      rx_hist.any (fun s => s.net.any (fun x => x.msgType == .msgSnapshot && x.to == 2)) = true ∧
      rx_b12.raft.raftLog.matchTerm rx_snap.snapshot.metadata.index rx_snap.snapshot.metadata.term =
        .ok true ∧
      rx_b12.raft.raftLog.unstable.snapshot = none ∧
      rx_b13.raft.raftLog.unstable.snapshot = some rx_snap.snapshot ∧
      rx_b13.raft.pendingRequestSnapshot = 0) ∧
    rx_b11.raft.pendingRequestSnapshot = 2 ∧ rx_b11.raft.raftLog.lastIndex = 2 ∧
    rx_b11.raft.state = .follower := by decide +kernel

theorem rx_tail_steps : Chained KStep (sx_t11 :: rx_tail) :=
  Move.ksteps5 sx_t11 rx_moves rfl rx_eval.1

theorem rx_ksteps : Chained KStep rx_hist :=
  chained_append_last (s := sx_t11) rfl sx_ksteps rx_tail_steps

theorem rx_history : History rx_hist := history_of_chained (fun _ _ hc => hc.step) _ rx_ksteps

/-! ### the hypotheses -/

theorem rx_all (s : Sys) (hs : s ∈ rx_hist) :
    FixedCfg c02x_cfg s ∧ NoBatch s ∧ (∀ x ∈ s.net, sx_msgOk x) ∧ ReqOk s := by
  rcases List.mem_append.1 hs with c | c
  · obtain ⟨h1, h2, h3, h4⟩ := sx_chk_ok s (sx_chk_all s c)
    exact ⟨h1, h2, h3, fun i st hi hne => absurd (h4 i st hi) hne⟩
  · exact rx_chk_ok s (rx_eval.2.1 s c)

/-- **the history satisfies every hypothesis of the commit layer with compaction, snapshots and
`request_snapshot`** -/
theorem rx_hyp3 : Hyp3 c02x_cfg 0 rx_hist := by
  have h0 : rx_hist[0]? = some c02x_s0 := rfl
  have H := sx_hyp3
  have h0' : sx_hist[0]? = some c02x_s0 := rfl
  refine ⟨⟨⟨rx_history, fun s hs => (rx_all s hs).1, H.ne, H.nd1, H.nd2, ?_,
    chained_at _ rx_ksteps, fun s hs => (rx_all s hs).2.1, fun s hs => (rx_all s hs).2.2.2⟩,
    H.nolone, ?_, ?_, fun s hs x hx => ((rx_all s hs).2.2.1 x hx).1, ?_⟩,
    fun s hs x hx => ((rx_all s hs).2.2.1 x hx).2.1, ?_,
    fun s hs x hx => ((rx_all s hs).2.2.1 x hx).2.2⟩
  · intro s hs
    rw [h0] at hs; cases hs
    exact H.init _ h0'
  · intro s hs
    rw [h0] at hs; cases hs
    exact H.first0 _ h0'
  · intro s hs
    rw [h0] at hs; cases hs
    exact H.initc _ h0'
  · intro s hs
    rw [h0] at hs; cases hs
    exact H.pend0 _ h0'
  · intro s hs
    rw [h0] at hs; cases hs
    exact H.snapt0 _ h0'

/-- **the history really exercises `request_snapshot`** (kernel-evaluated): the call of node 2 succeeds
and sets `pending_request_snapshot = 2`; the transport then holds a rejecting `MsgAppendResponse`
with `request_snapshot = 2`; the leader, delivered it, records the request, puts the progress in the
`Snapshot` state and queues a `MsgSnapshot` for node 2; node 2 restores that snapshot **although its log
holds the snapshot's last entry** (`match_term = true`), which clears the request. -/
theorem rx_exercised :
    (∃ res, Node.call rx_b10 none .requestSnapshot = .ok (res, rx_b11)) ∧
    rx_b10.raft.pendingRequestSnapshot = 0 ∧ rx_b11.raft.pendingRequestSnapshot = 2 ∧
    rx_hist.any reqPendingIn = true ∧
    rx_hist.any (fun s => s.net.any (fun x => x.msgType == .msgAppendResponse && x.reject &&
      decide (x.requestSnapshot ≠ 0))) = true ∧
    rx_hist.any reqServedIn = true ∧
    rx_hist.any (fun s => s.net.any (fun x => x.msgType == .msgSnapshot && x.to == 2)) = true ∧
    rx_b12.raft.raftLog.matchTerm rx_snap.snapshot.metadata.index rx_snap.snapshot.metadata.term =
      .ok true ∧
    rx_b12.raft.raftLog.unstable.snapshot = none ∧
    rx_b13.raft.raftLog.unstable.snapshot = some rx_snap.snapshot ∧
    rx_b13.raft.pendingRequestSnapshot = 0 :=
  ⟨⟨_, c02x_out _ rx_eval.2.2.1.1⟩, rx_eval.2.2.1.2⟩

end Snap5
end Cluster
end RaftModel
