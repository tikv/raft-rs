import RaftProofs.ClusterSnap5S

/-!
Commit safety of `ClusterSem` with compaction and snapshots, part 5T:
the invariant `Sm` holds initially (`sm_init`) and in every state of the history (`sall`, `sm_all`); the
ghost-log forms of the final statements (`ev_logs_agree`, `sms_ghost`); and what the main induction says
about **snapshots** —
* `commit_step_pend`: a node that is leader after a step that moved its commit index has no pending
  snapshot;
* `snap_msg_committed`: every `MsgSnapshot` of the transport names an index and a term that a leader
  has committed (**a released snapshot is a committed prefix**);
* `snap_point_agree`: the snapshot point of every node — after a compaction, after the restoration of
  a snapshot, pending or installed — carries the term every other node whose commit index reaches it
  holds (or has compacted away) there.
-/

namespace RaftModel
namespace Cluster
namespace Snap5
open Node Raft Raft.CC RaftProps.C02 RaftProps.C05 Snap

variable {q : Prop} {cfg : JointConfig} {c0 : Nat} {h : List Sys}

theorem sm_init (F : Facts3 q cfg c0 h) {s : Sys} (h0 : h[0]? = some s) : Sm h c0 0 s := by
  have F2 := F.toFacts
  have hinit := hist_init F.hist s h0
  obtain ⟨hnet, sto, hboot, _⟩ := F.init s h0
  have hq : ∀ v st, s.node v = some st → st.raft.msgs = [] := init_queue hinit
  have noMem : ∀ E : Ev, ∀ v st, s.node v = some st → ¬ AckedMem s 0 E v st := by
    intro E v st hv hk
    rcases hk with ⟨x, hx, _⟩ | ⟨_, h2, _⟩
    · rcases hx with c | c
      · rw [hnet] at c; cases c
      · rw [hq v st hv] at c; cases c
    · omega
  have hcm : ∀ v st, s.node v = some st →
      st.raft.raftLog.store.hardState.commit ≤ c0 ∧ st.raft.raftLog.committed = c0 := by
    intro v st hv
    obtain ⟨c, rnd, hb⟩ := hboot v st hv
    have hbt := CV.boot_booted c _ rnd st hb
    have hc := F.initc s h0 v st hv
    refine ⟨?_, hc⟩
    rw [hbt.hs]
    rcases boot_committed c _ rnd st hb with e | ⟨e, _⟩
    · rw [← e, hc]; exact Nat.le_refl _
    · rw [e]; exact Nat.zero_le _
  refine ⟨?_, ?_, ?_, ?_, ?_, ?_, ?_, ?_, ?_⟩
  · intro E _ l st hl hs
    obtain ⟨c, rnd, hb⟩ := hboot l st hl
    rw [(CV.boot_booted c _ rnd st hb).state] at hs; cases hs
  · intro E _ v st hv hk
    exact absurd hk (noMem E v st hv)
  · intro E _ v st hv hk
    exact absurd hk.mem (noMem E v st hv)
  · intro v st hv x hx
    rcases hx with c | c
    · rw [hnet] at c; cases c
    · rw [hq v st hv] at c; cases c
  · intro v st hv x hx
    rw [hnet] at hx; cases hx
  · intro E _ v st g hv hg
    rcases hg with c | c
    · rw [hnet] at c; cases c
    · rw [hq v st hv] at c; cases c
  · intro v st hv
    exact .inl (Nat.le_of_eq (hcm v st hv).2)
  · intro v st hv
    exact .inl (hcm v st hv).1
  · intro v st hv
    rw [(hcm v st hv).2]; exact (hcm v st hv).1

/-- **the main induction** -/
theorem sall (F : Facts3 q cfg c0 h) : ∀ n, SAll h c0 n := by
  intro n
  induction n with
  | zero =>
    intro m s hm hs
    have : m = 0 := by omega
    subst this
    exact sm_init F hs
  | succ n ih =>
    intro m s hm hs
    by_cases hle : m ≤ n
    · exact ih m s hle hs
    · have hmn : m = n + 1 := by omega
      subst hmn
      have hlt : n + 1 < h.length := by
        rcases Nat.lt_or_ge (n + 1) h.length with c | c
        · exact c
        · rw [List.getElem?_eq_none c] at hs; cases hs
      have ha : h[n]? = some h[n] := List.getElem?_eq_some_iff.2 ⟨by omega, rfl⟩
      exact ⟨lc_step F ih ha hs, retm_step F ih ha hs, rets_step F ih ha hs, a2m_step F ih ha hs,
        a2s_step F ih ha hs, g1_step F ih ha hs, nctm_step F ih ha hs, ncts_step F ih ha hs,
        scm_step F ih ha hs⟩

theorem sm_all (F : Facts3 q cfg c0 h) {n : Nat} {s : Sys} (hn : h[n]? = some s) : Sm h c0 n s :=
  sall F n n s (Nat.le_refl _) hn

/-- the logs of two commit events agree up to the smaller commit index (ghost logs) -/
theorem ev_logs_agree (F : Facts3 q cfg c0 h) {E1 E2 : Ev} (h1 : E1.ok h) (h2 : E2.ok h)
    (hle : E1.c ≤ E2.c) : EqUpTo (EvF h c0 E1) (EvF h c0 E2) E1.c := by
  have F2 := F.toFacts
  obtain ⟨l1, hh1, _⟩ := F2.leaderLog h1
  obtain ⟨l2, _, _⟩ := F2.leaderLog h2
  have S := sall F (E1.nE + E2.nE + 2)
  have := ctf F2 S h2 h1 (by omega) hle (fun _ => ⟨EvF h c0 E1, l1.mono (by omega)⟩)
  exact ll_eq_below F2 l1 l2 hh1 this

/-- **State-Machine Safety for the ghost logs**: the uncompacted logs of any two nodes, in any two
states of the history, hold the same entry at every index both commit indexes cover -/
theorem sms_ghost (F : Facts3 q cfg c0 h)
    {m1 : Nat} {s1 : Sys} (hm1 : h[m1]? = some s1) {v1 : Nat} {st1 : NState}
    (hv1 : s1.node v1 = some st1)
    {m2 : Nat} {s2 : Sys} (hm2 : h[m2]? = some s2) {v2 : Nat} {st2 : NState}
    (hv2 : s2.node v2 = some st2)
    {k : Nat} (hk1 : k ≤ st1.raft.raftLog.committed) (hk2 : k ≤ st2.raft.raftLog.committed) :
    (FL h c0 st1).entryAt k = (FL h c0 st2).entryAt k := by
  have F2 := F.toFacts
  have I1 := (F2.ghost_inv m1 s1 hm1).node v1 st1 hv1
  have I2 := (F2.ghost_inv m2 s2 hm2).node v2 st2 hv2
  by_cases hk0 : k ≤ c0
  · unfold LLog.entryAt
    rw [if_pos (by rw [I1.log.snap]; exact hk0), if_pos (by rw [I2.log.snap]; exact hk0)]
  rcases (sm_all F hm1).nctm v1 st1 hv1 with c | ⟨E1, hE1, _, a3, _, a5⟩
  · omega
  rcases (sm_all F hm2).nctm v2 st2 hv2 with c | ⟨E2, hE2, _, b3, _, b5⟩
  · omega
  rw [a5 k hk1, b5 k hk2]
  rcases Nat.le_total E1.c E2.c with hle | hle
  · exact ev_logs_agree F hE1 hE2 hle k (by omega)
  · exact (ev_logs_agree F hE2 hE1 hle k (by omega)).symm

/-! ### accepting append responses -/

/-- the last index of a node is at least the common initial snapshot point -/
theorem c0_le_last (F : Facts q cfg c0 h) {n : Nat} {s : Sys} (hn : h[n]? = some s) {v : Nat}
    {st : NState} (hv : s.node v = some st) : c0 ≤ st.raft.raftLog.lastIndex :=
  Nat.le_trans (c0_le_committed F hn hv) (F.node_inv hn hv).committed_le_last

/-- **an accepted acknowledgement for the term of a leader lies within that leader's log** -/
theorem ack_bound (F : Facts3 q cfg c0 h) {n : Nat} {a : Sys} (ha : h[n]? = some a) {k : Nat}
    {st : NState} (hk : a.node k = some st) (hs : st.raft.state = .leader) {x : Message}
    (hx : x ∈ a.net) (hack : isAck x) (ht : x.term = 0 ∨ x.term = st.raft.term) :
    x.index ≤ st.raft.raftLog.lastIndex := by
  have F2 := F.toFacts
  by_cases hc : x.index ≤ c0
  · exact Nat.le_trans hc (c0_le_last F2 ha hk)
  · have hx0 : x.index ≠ 0 := by omega
    have htnz := ((F2.ack_inv n a ha).2 x hx hack hx0).2
    have hterm : x.term = st.raft.term := by
      rcases ht with c | c
      · exact absurd c htnz
      · exact c
    obtain ⟨i, n0, hn0, s0, st0, h1, h2, h3, h4, h5⟩ := (F2.ack_prov n a ha).2 x hx ⟨hack, hx0⟩
    obtain ⟨L, hL, hle, _⟩ := (sm_all F h1).a2m i st0 h2 x (.inr h3) hack h5 (by omega) h4
    obtain ⟨m, s', l, stl, hm, a2, a3, a4, a5, rfl⟩ := hL
    obtain ⟨d, rfl⟩ := Nat.exists_eq_add_of_le (Nat.le_trans hm hn0)
    obtain ⟨_, hlast, _⟩ := F2.leader_log_ext a2 ha a3 hk a4 hs a5 hterm.symm
    rw [fl_last F2 a2 a3, ← (F2.node_inv a2 a3).lastIndex_abs] at hle
    exact Nat.le_trans hle hlast

/-- a node that is leader after a step that moved its commit index has no pending snapshot -/
theorem commit_step_pend (H : GHyp2w q cfg c0 h) {n : Nat} {a b : Sys} (ha : h[n]? = some a)
    (hb : h[n + 1]? = some b) {l : Nat} {sta stb : NState} (hla : a.node l = some sta)
    (hlb : b.node l = some stb) (hs : stb.raft.state = .leader)
    (hc : sta.raft.raftLog.committed < stb.raft.raftLog.committed) :
    stb.raft.raftLog.unstable.snapshot = none := by
  obtain ⟨k, stk, stk', hka, hkb, hoth, hst⟩ := H.stp ha hb
  by_cases hlk : l = k
  · subst hlk
    rw [hka] at hla; cases hla
    rw [hkb] at hlb; cases hlb
    cases hst with
    | call rnd op res hop hco hca hns hpn hss hcall hnet hpn' _ => exact hpn'
    | snap rnd m hm hto hty hpn hout hnet =>
      cases hout with
      | skip hr => rw [hr] at hc; exact absurd hc (Nat.lt_irrefl _)
      | handled x hsf => rw [hsf] at hs; cases hs
    | psnap rnd hp hout hpend hnet =>
      rw [(persist_same hout).1] at hc; exact absurd hc (Nat.lt_irrefl _)
    | send hp hu hq hsame hnet _ => rw [hsame.1] at hc; exact absurd hc (Nat.lt_irrefl _)
    | restart c rnd hboot hnet hpn' => exact hpn'
  · rw [hoth l hlk, hla] at hlb; cases hlb
    exact absurd hc (Nat.lt_irrefl _)

/-- **a released snapshot is a committed prefix**: a `MsgSnapshot` of the transport of `h[n]` names an
index above `c0` that is covered by a commit event before `n` of a term not above the message's term,
whose ghost log holds an entry of the snapshot's term at the snapshot's index -/
theorem snap_msg_committed (H : GHyp3a q cfg c0 h) {n : Nat} {a : Sys} (ha : h[n]? = some a)
    {x : Message} (hx : x ∈ a.net) (hty : x.msgType = .msgSnapshot) :
    c0 < x.snapshot.metadata.index ∧
    ∃ E : Ev, E.ok h ∧ E.nE < n ∧ x.snapshot.metadata.index ≤ E.c ∧ E.t ≤ x.term ∧
      Has (EvF h c0 E) x.snapshot.metadata.index x.snapshot.metadata.term := by
  obtain ⟨L, src⟩ := snap_src H.facts (sall H.facts n) ha hx hty
  refine ⟨src.hi, ?_⟩
  rcases src.cov with c | ⟨E, h1, h2, h3, h4, h5⟩
  · have := src.hi; omega
  · exact ⟨E, h1, h2, h3, h4, Has.of_eq (h5 _ (Nat.le_refl _)).symm src.has⟩

/-- **snapshot-point agreement** (ghost form): if the log of a node (in any state) starts at a snapshot
point `i > c0` whose term `t` it knows — after the restoration of a snapshot, pending or installed, or
after a restart —, then every node, in any state, whose commit index reaches `i` holds an entry of term
`t` at `i` in its uncompacted log -/
theorem snap_point_agree (H : GHyp3a q cfg c0 h)
    {m1 : Nat} {s1 : Sys} (hm1 : h[m1]? = some s1) {v1 : Nat} {st1 : NState}
    (hv1 : s1.node v1 = some st1) {t : Nat} (ht : st1.raft.raftLog.abs.snapTerm = some t)
    (hi : c0 < st1.raft.raftLog.abs.snapIdx)
    {m2 : Nat} {s2 : Sys} (hm2 : h[m2]? = some s2) {v2 : Nat} {st2 : NState}
    (hv2 : s2.node v2 = some st2)
    (hk2 : st1.raft.raftLog.abs.snapIdx ≤ st2.raft.raftLog.committed) :
    Has (FL h c0 st2) st1.raft.raftLog.abs.snapIdx t := by
  have H2 := H.toGHyp2w
  have I1 := (ghost_inv H2 m1 s1 hm1).node v1 st1 hv1
  have o1 := node_ok H2 hm1 hv1
  obtain ⟨e, he, het⟩ := I1.log.sT t ht hi
  exact ⟨e, by rw [← sms_ghost H.facts hm1 hv1 hm2 hv2 o1.snap_le hk2]; exact he, het⟩

/-- what an entry of term `t` at `i` in the uncompacted log says about the real log: the entry, if the
index is retained; the term of the snapshot point, if `i` is the snapshot point and its term is known -/
theorem has_real (H : GHyp2w q cfg c0 h) {m : Nat} {s : Sys} (hm : h[m]? = some s) {v : Nat} {st : NState}
    (hv : s.node v = some st) {i t : Nat} (hh : Has (FL h c0 st) i t) :
    (st.raft.raftLog.abs.snapIdx < i → Has st.raft.raftLog.abs i t) ∧
    (st.raft.raftLog.abs.snapIdx = i → c0 < i → ∀ t', st.raft.raftLog.abs.snapTerm = some t' → t' = t) := by
  have I := (ghost_inv H m s hm).node v st hv
  obtain ⟨e, he, het⟩ := hh
  refine ⟨fun hlt => ⟨e, by rw [← I.log.ents i hlt]; exact he, het⟩, fun heq hi t' ht' => ?_⟩
  obtain ⟨e', he', het'⟩ := I.log.sT t' ht' (by omega)
  rw [heq, he] at he'
  cases he'
  omega

end Snap5
end Cluster
end RaftModel
