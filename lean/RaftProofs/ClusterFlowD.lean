import RaftProofs.ClusterFlowB
import RaftProofs.ClusterStep

/-!
Cluster-level flow control (C13), part D: the window invariant `TOk r.prs` through the leader side
(`RaftModel/RaftLeader.lean`), the follower / candidate side (`RaftModel/RaftFollower.lean`), `step`,
`tick`, `Raft::new`, `post_conf_change` / `apply_conf_change`, the group-commit switches and the
`RawNode` wrappers (`RaftModel/RaftStep.lean`); then through **every** `NodeOp` (`call_tok`:
`Node.call`, every way a call ends, `step` / `rstep` / `drain` included), through `Node.boot`
(`boot_tok`), and along every history of `ClusterSem` (`flow_inv`: plain `History`, no further
hypothesis).
-/
namespace RaftModel
namespace Raft
namespace FL
open Node

/-! ### leader side -/

theorem checkQuorumActive_tok (r : Raft) (h : TOk r.prs) : TOk r.checkQuorumActive.1.prs := by
  unfold checkQuorumActive
  exact h.quorumRecentlyActive r.id

theorem filterProposal_tok (es : List Entry) (r : Raft) (i : Nat) (h : TOk r.prs) :
    TOk (r.filterProposal i es).1.prs := by
  rw [RaftProps.C13.filterProposal_frame es r i]; exact h

theorem handleHeartbeatResponse_tok (r : Raft) (m : Message) (h : TOk r.prs) :
    Res.Post RQ (r.handleHeartbeatResponse m) :=
  Res.post_intro fun _ hs => handleHeartbeatResponse_parts2 (P := RQ) (Q := QT) hs h
    (fun hg ht => ⟨h, by
      have hp : PI _ := (h.get hg).updateCommitted m.commit
      rcases ht with rfl | ⟨ins, hi, rfl⟩
      · exact hp
      · exact freeFirstOne_inv (s := Progress.ins _) hp hi⟩)
    (fun q ha => (sendAppendPr_tok _ _ _ q.1 q.2).of_eq ha) QT.set (fun p => p) (fun _ p => p)
    fun _ hr _ p => (respondReadStates_tok _ _ p).of_eq hr

theorem handleSnapshotStatus_tok (r : Raft) (m : Message) (h : TOk r.prs) :
    TOk (r.handleSnapshotStatus m).prs := by
  unfold handleSnapshotStatus
  split
  · exact h
  · rename_i pr hg
    have hp : PI pr := h.get hg
    split
    · exact h
    · refine h.set _ ?_
      show PI (if m.reject then pr.snapshotFailure.becomeProbe else pr.becomeProbe)
      split
      · exact PI.becomeProbe (p := pr.snapshotFailure) hp
      · exact hp.becomeProbe

theorem handleUnreachable_tok (r : Raft) (m : Message) (h : TOk r.prs) :
    TOk (r.handleUnreachable m).prs := by
  unfold handleUnreachable
  split
  · exact h
  · rename_i pr hg
    split
    · exact h.set _ (h.get hg).becomeProbe
    · exact h

theorem handleAppendResponseAccepted_tok (r : Raft) (m : Message) (pr : Progress) (op : Bool)
    (h : TOk r.prs) (hp : PI pr) : Res.Post RQ (r.handleAppendResponseAccepted m pr op) :=
  Res.post_intro fun _ hs => handleAppendResponseAccepted_parts2 (P := RQ) (R := RQ) hs
    (fun hp1 => h.set _ (by
      rcases hp1 with ⟨_, rfl⟩ | ⟨_, rfl⟩ | ⟨_, ins, hi, rfl⟩
      · exact hp.becomeReplicate
      · exact PI.ite hp.becomeProbe hp
      · exact freeTo_inv (s := pr.ins) hp hi))
    (fun hc p => (maybeCommit_tok _ p).of_eq hc) (fun hx p => (bcastAppend_tok _ p).of_eq hx)
    (fun hx p => (sendAppend_tok _ _ p).of_eq hx)
    (fun hx p => (sendAppendAggressively_tok _ _ p).of_eq hx) (fun p => p)
    fun _ _ _ hx p => (sendTimeoutNow_tok _ _ p).of_eq hx

theorem handleAppendResponse_tok (r : Raft) (m : Message) (h : TOk r.prs) :
    Res.Post RQ (r.handleAppendResponse m) := by
  have hp0 : ∀ {pr0}, r.prs.get m.frm = some pr0 →
      PI (({ pr0 with recentActive := true } : Progress).updateCommitted m.commit) := fun {pr0} hg =>
    have hp : PI pr0 := h.get hg
    PI.updateCommitted (p := { pr0 with recentActive := true }) hp _
  have decr : ∀ {pr0 hint pr1 b}, r.prs.get m.frm = some pr0 →
      (({ pr0 with recentActive := true } : Progress).updateCommitted m.commit).maybeDecrTo
        m.index hint m.requestSnapshot = .ok (pr1, b) → PI pr1 := fun hg hd =>
    (Res.Post.of_eq ((hp0 hg).maybeDecrTo _ _ _) hd :)
  have upd : ∀ {pr0 pr1 b}, r.prs.get m.frm = some pr0 →
      (({ pr0 with recentActive := true } : Progress).updateCommitted m.commit).maybeUpdate m.index
        = .ok (pr1, b) → PI pr1 := fun hg hu => (Res.Post.of_eq ((hp0 hg).maybeUpdate _) hu :)
  exact Res.post_intro fun _ hs => handleAppendResponse_parts2 (P := RQ) (R := RQ) hs h
    (fun hg _ hd => h.set _ (PI.ite (decr hg hd).becomeProbe (decr hg hd)))
    (fun hx p => (sendAppend_tok _ _ p).of_eq hx) (fun hg _ hd => h.set _ (decr hg hd))
    (fun hg _ hu => h.set _ (upd hg hu))
    fun hg _ hu ha => (handleAppendResponseAccepted_tok r m _ _ h (upd hg hu)).of_eq ha

theorem handleTransferLeader_tok (r : Raft) (m : Message) (h : TOk r.prs) :
    Res.Post RQ (r.handleTransferLeader m) :=
  Res.post_intro fun _ hs => handleTransferLeader_parts2 (P := RQ) (R := RQ) (Q := QT) hs h h
    (fun p => p) (fun p => p) (fun p => p) (fun _ _ _ hx p => (sendTimeoutNow_tok _ _ p).of_eq hx)
    (fun _ hg ha p => (sendAppendPr_tok _ _ _ p (TOk.get p hg)).of_eq ha) QT.set

theorem stepLeader_tok (r : Raft) (m : Message) (h : TOk r.prs) :
    Res.Post (fun x => TOk x.1.prs) (r.stepLeader m) :=
  Res.post_intro fun _ hs => stepLeader_parts (P := RQ) hs h
    (fun hb _ => (bcastHeartbeat_tok r h).of_eq hb)
    (fun hq _ => by have := checkQuorumActive_tok r h; rwa [hq] at this)
    (fun _ p => becomeFollower_tok _ _ _ p)
    (fun hf _ => by have := filterProposal_tok m.entries r 0 h; rwa [hf] at this)
    (fun ha _ p => (appendEntry_tok _ _ p).of_eq ha)
    (fun hb _ p => (bcastAppend_tok _ p).of_eq hb)
    (fun hr _ => (handleReadyReadIndex_tok r _ _ h).of_eq hr)
    (fun hs _ p => (send_tok _ _ p).of_eq hs)
    (fun _ _ => h)
    (fun hb _ p => (bcastHeartbeatWithCtx_tok _ _ p).of_eq hb)
    (fun ha _ => (handleAppendResponse_tok r m h).of_eq ha)
    (fun hh _ => (handleHeartbeatResponse_tok r m h).of_eq hh)
    (fun _ => handleSnapshotStatus_tok r m h)
    (fun _ => handleUnreachable_tok r m h)
    (fun ht _ => (handleTransferLeader_tok r m h).of_eq ht)

/-! ### configuration changes, group commit -/

theorem postConfChange_tok (r : Raft) (h : TOk r.prs) :
    Res.Post (fun x => TOk x.1.prs) r.postConfChange :=
  Res.post_intro fun _ hs => postConfChange_parts2 (P := RQ) (R := RQ) (Q := QT) hs
    (fun _ _ => becomeFollower_tok _ _ _ h) h (fun _ => h)
    (fun hc p => (maybeCommit_tok _ p).of_eq hc) (fun hx p => (bcastAppend_tok _ p).of_eq hx)
    (fun _ hg ha p => (maybeSendAppend_tok _ _ _ _ p (TOk.get p hg)).of_eq ha) QT.set (fun _ p => p)
    (fun _ p => p) (fun _ hr _ p => (respondReadStates_tok _ _ p).of_eq hr) (fun _ _ p => p)
    fun _ _ p => p

theorem applyConfChange_tok (r : Raft) (cc : ConfChangeV2) (h : TOk r.prs) :
    Res.Post (fun x => TOk x.1.prs) (r.applyConfChange cc) := by
  unfold applyConfChange
  simp only []
  split
  · exact h
  · exact Res.post_bind (postConfChange_tok _ (h.applyConf _ _ _)) (fun a ha => ha)

theorem enableGroupCommit_tok (r : Raft) (b : Bool) (h : TOk r.prs) :
    Res.Post RQ (r.enableGroupCommit b) := by
  unfold enableGroupCommit
  simp only []
  split
  · exact commitThenBcast_tok _ h
  · exact h

theorem assignCommitGroups_tok (r : Raft) (ids : List (Nat × Nat)) (h : TOk r.prs) :
    Res.Post RQ (r.assignCommitGroups ids) := by
  unfold assignCommitGroups
  simp only []
  refine Res.post_bind (P := RQ) ?_ (fun r1 h1 => ?_)
  · refine foldl_tok _ ?_ _ _ h
    intro r1 p h1
    split
    · trivial
    · exact modifyProgress_tok _ _ _ (fun pr hp => hp) h1
  · split
    · exact commitThenBcast_tok _ h1
    · exact h1

theorem adjustMaxInflightMsgs_tok (r : Raft) (t c : Nat) (h : TOk r.prs) :
    Res.Post RQ (r.adjustMaxInflightMsgs t c) := by
  unfold adjustMaxInflightMsgs
  split
  · exact h
  · rename_i pr hg
    split
    · rename_i ins heq
      exact h.set _ (setCap_inv (s := pr.ins) (h.get hg) heq)
    · trivial

theorem maybeFreeInflightBuffers_tok (r : Raft) (h : TOk r.prs) :
    TOk r.maybeFreeInflightBuffers.prs := by
  unfold maybeFreeInflightBuffers
  exact mapProgress_tok _ _ (fun _ pr hp => maybeFreeBuffer_inv hp) h

theorem clearCommitGroup_tok (r : Raft) (h : TOk r.prs) : TOk r.clearCommitGroup.prs := by
  unfold clearCommitGroup
  exact mapProgress_tok _ _ (fun _ pr hp => hp) h

theorem reduceUncommittedSize_tok (r : Raft) (ents : List Entry) (h : TOk r.prs) :
    TOk (r.reduceUncommittedSize ents).prs := by
  unfold reduceUncommittedSize
  split <;> exact h

/-! ### follower / candidate side -/

theorem maybeCommitByVote_tok (r : Raft) (m : Message) (h : TOk r.prs) :
    Res.Post RQ (r.maybeCommitByVote m) :=
  Res.post_intro fun _ hc => maybeCommitByVote_parts (P := RQ) hc h
    (fun _ => h) (fun p => becomeFollower_tok _ _ _ p)

theorem sendRequestSnapshot_tok (r : Raft) (h : TOk r.prs) :
    Res.Post RQ r.sendRequestSnapshot :=
  Res.post_intro fun _ hs => sendRequestSnapshot_parts (P := RQ) hs h
    (fun hs _ p => (send_tok _ _ p).of_eq hs)

theorem requestSnapshot_tok (r : Raft) (h : TOk r.prs) :
    Res.Post (fun x => TOk x.1.prs) r.requestSnapshot :=
  Res.post_intro fun _ hr => requestSnapshot_parts (P := RQ) hr h
    (fun _ p => p) (fun hq p => (sendRequestSnapshot_tok _ p).of_eq hq)

theorem handleAppendEntries_tok (r : Raft) (m : Message) (h : TOk r.prs) :
    Res.Post RQ (r.handleAppendEntries m) :=
  Res.post_intro fun _ ha => handleAppendEntries_parts (P := RQ) ha h
    (fun hq p => (sendRequestSnapshot_tok _ p).of_eq hq)
    (fun _ => h)
    (fun hs _ p => (send_tok _ _ p).of_eq hs)

theorem handleHeartbeat_tok (r : Raft) (m : Message) (h : TOk r.prs) :
    Res.Post RQ (r.handleHeartbeat m) :=
  Res.post_intro fun _ hb => handleHeartbeat_parts (P := RQ) hb
    (fun _ => h)
    (fun hq p => (sendRequestSnapshot_tok _ p).of_eq hq)
    (fun hs _ p => (send_tok _ _ p).of_eq hs)

theorem restore_tok (r : Raft) (snap : Snapshot) (h : TOk r.prs) :
    Res.Post (fun x => TOk x.1.prs) (r.restore snap) := by
  apply Res.post_intro
  rintro ⟨r', b⟩ hr
  rcases restore_cases hr with ⟨_, rfl⟩ | ⟨_, _, rfl⟩ | ⟨_, _, _, l, _, rfl⟩ |
    ⟨_, _, _, l, prs, r2, cs, pr, pr', u, _, hp, hc, hg, hu, rfl⟩
  · exact h
  · exact becomeFollower_tok _ _ _ h
  · exact h
  · -- the restored tracker is built from the cleared one; the own progress is advanced by `maybe_update`
    have h2 : TOk r2.prs := (postConfChange_tok _ (TOk.restore (TOk.clear r.prs) hp)).of_eq hc
    exact h2.set _ ((PI.maybeUpdate (h2.get hg) _).of_eq hu)

theorem handleSnapshot_tok (r : Raft) (m : Message) (h : TOk r.prs) :
    Res.Post RQ (r.handleSnapshot m) :=
  Res.post_intro fun _ hs => handleSnapshot_parts (P := RQ) hs
    (fun hr => (restore_tok r _ h).of_eq hr)
    (fun hs _ p => (send_tok _ _ p).of_eq hs)

theorem hup_tok (r : Raft) (tl : Bool) (h : TOk r.prs) : Res.Post RQ (r.hup tl) :=
  Res.post_intro fun _ hh => hup_parts (P := RQ) hh h
    fun _ hc => (campaign_tok r _ h).of_eq hc

theorem stepCandidate_tok (r : Raft) (m : Message) (h : TOk r.prs) :
    Res.Post (fun x => TOk x.1.prs) (r.stepCandidate m) :=
  Res.post_intro fun _ hs => stepCandidate_parts (P := RQ) hs h
    (fun _ => becomeFollower_tok r _ _ h)
    (fun ha _ p => (handleAppendEntries_tok _ m p).of_eq ha)
    (fun hb _ p => (handleHeartbeat_tok _ m p).of_eq hb)
    (fun hs _ p => (handleSnapshot_tok _ m p).of_eq hs)
    (fun hp _ _ => (poll_tok r _ _ _ h).of_eq hp)
    (fun hb p => (maybeCommitByVote_tok _ m p).of_eq hb)

theorem stepFollower_tok (r : Raft) (m : Message) (h : TOk r.prs) :
    Res.Post (fun x => TOk x.1.prs) (r.stepFollower m) :=
  Res.post_intro fun _ hs => stepFollower_parts (P := RQ) hs h
    (fun hs _ => (send_tok r _ h).of_eq hs)
    h
    (fun ha _ p => (handleAppendEntries_tok _ m p).of_eq ha)
    (fun hb _ p => (handleHeartbeat_tok _ m p).of_eq hb)
    (fun hs _ p => (handleSnapshot_tok _ m p).of_eq hs)
    (fun hh _ _ => (hup_tok r true h).of_eq hh)
    (fun _ _ => h)

/-! ### `step`, `tick`, `Raft::new` -/

theorem stepTerm_tok (r : Raft) (m : Message) (h : TOk r.prs) :
    Res.Post (fun x => TOk x.1.prs) (r.stepTerm m) :=
  Res.post_intro fun _ hs => stepTerm_parts (P := RQ) hs h
    (fun _ _ p => becomeFollower_tok _ _ _ p)
    (fun hs _ p => (send_tok _ _ p).of_eq hs)
    (fun hs _ p => (send_tok _ _ p).of_eq hs)

theorem stepVote_tok (r : Raft) (m : Message) (h : TOk r.prs) : Res.Post RQ (r.stepVote m) :=
  Res.post_intro fun _ hs => stepVote_parts (P := RQ) hs
    (fun hs _ => (send_tok r _ h).of_eq hs)
    (fun p => p)
    (fun hb p => (maybeCommitByVote_tok _ m p).of_eq hb)

theorem step_tok (r : Raft) (m : Message) (h : TOk r.prs) :
    Res.Post (fun x => TOk x.1.prs) (r.step m) :=
  Res.post_intro fun _ hs => step_parts (P := RQ) hs
    (fun ht => (stepTerm_tok r m h).of_eq ht)
    (fun hh _ p => (hup_tok _ false p).of_eq hh)
    (fun hv p => (stepVote_tok _ m p).of_eq hv)
    (fun hc _ p => (stepCandidate_tok _ m p).of_eq hc)
    (fun hf _ p => (stepFollower_tok _ m p).of_eq hf)
    (fun hl _ p => (stepLeader_tok _ m p).of_eq hl)

theorem stepIgnore_tok (r : Raft) (m : Message) (h : TOk r.prs) : Res.Post RQ (r.stepIgnore m) := by
  unfold stepIgnore
  exact Res.post_bind (step_tok r m h) (fun a ha => ha)

theorem tick_tok (r : Raft) (h : TOk r.prs) : Res.Post (fun x => TOk x.1.prs) r.tick :=
  have step : ∀ {r1 : Raft} {m : Message} {r2 : Raft}, r1.stepIgnore m = .ok r2 → RQ r1 → RQ r2 :=
    fun hs p => (stepIgnore_tok _ _ p).of_eq hs
  Res.post_intro fun _ ht => tick_parts (P := RQ) ht
    (fun he => tickElection_parts (P := RQ) he (fun _ => h) fun hs _ _ => step hs)
    (fun hb => tickHeartbeat_parts (P := RQ) hb (fun _ _ p => p) h (fun hs _ _ _ => step hs)
      (fun hs _ _ _ => step hs) (fun p => p))

/-- what `Raft::new` yields -/
def NewOk : Except RaftError Raft → Prop
  | .ok r => TOk r.prs
  | .error _ => True

theorem new_tok (c : Config) (store : MemStorage) (rnd : Option Nat) :
    Res.Post NewOk (Raft.new c store rnd) := by
  refine Res.post_intro fun a ha => ?_
  cases a with
  | error _ => trivial
  | ok r =>
    obtain ⟨_, log, prs, _, hprs, _, _, rfl⟩ := raftNew_inv ha
    exact becomeFollower_tok _ _ _ (TOk.restore (TOk.new _) hprs)

/-! ### every `NodeOp` -/

theorem rawStep_tok (r : Raft) (m : Message) (h : TOk r.prs) :
    Res.Post (fun y => TOk y.1.prs) (RawNode.step r m) := by
  unfold RawNode.step
  split
  · exact h
  · split
    · exact step_tok r m h
    · exact h

/-- **one call of a node, any `NodeOp`, keeps every in-flight window well-formed** -/
theorem call_tok {st st' : NState} {rnd : Option Nat} {op : NodeOp} {res : OpRes}
    (h : TOk st.raft.prs) (hc : Node.call st rnd op = .ok (res, st')) : TOk st'.raft.prs := by
  -- storing the random draw leaves the tracker alone
  have h0 : TOk ({ st.raft with nextRand := rnd } : Raft).prs := h
  cases applyOp_parts hc with
  | tick hx => exact (tick_tok _ h0).of_eq hx
  | step hx => exact (rawStep_tok _ _ h0).of_eq hx
  | rstep hx | propose hx | proposeCc hx | campaign hx => exact (step_tok _ _ h0).of_eq hx
  | readIndex hx | transferLeader hx | reportUnreachable hx | reportSnapshot hx =>
    exact (stepIgnore_tok _ _ h0).of_eq hx
  | ping hx => exact (ping_tok _ h0).of_eq hx
  | requestSnapshot hx => exact (requestSnapshot_tok _ h0).of_eq hx
  | confChanged hx | confRefused hx => exact (applyConfChange_tok _ _ h0).of_eq hx
  | stabilize hx => exact stabilize_parts (Q := fun a => TOk a.raft.prs) hx fun _ => h0
  | onPersistEntries hx => exact (onPersistEntries_tok _ _ _ h0).of_eq hx
  | persistSnap hx =>
    exact persistSnap_parts (Q := fun a => TOk a.raft.prs) hx h0
      fun _ _ _ hp => (onPersistSnap_tok _ _ (by exact h0)).of_eq hp
  | commitApply hx =>
    exact commitApply_parts (Q := fun a => TOk a.raft.prs) hx h0
      (fun _ => reduceUncommittedSize_tok _ _ h0)
      (fun ha p => (commitApply_tok _ _ p).of_eq ha) (fun p => p)
  | compact | drain | triggerSnap | triggerLog | setPriority | setBatchAppend | skipBcastCommit
  | setCheckQuorum | setMaxApplyUnpersistedLogLimit | setMaxCommittedSizePerReady
  | checkGroupCommitConsistent | staleFetch => exact h0
  | adjustMaxInflight hx => exact (adjustMaxInflightMsgs_tok _ _ _ h0).of_eq hx
  | maybeFreeInflightBuffers => exact maybeFreeInflightBuffers_tok _ h0
  | clearCommitGroup => exact clearCommitGroup_tok _ h0
  | enableGroupCommit hx => exact (enableGroupCommit_tok _ _ h0).of_eq hx
  | assignCommitGroups hx => exact (assignCommitGroups_tok _ _ h0).of_eq hx
  | fetched _ _ _ hx => exact (sendAppend_tok _ _ h0).of_eq hx
  | fetchedAll _ _ _ hx => exact (sendAppendAggressively_tok _ _ h0).of_eq hx

/-- **a freshly booted node has well-formed in-flight windows** -/
theorem boot_tok {c : Config} {store : MemStorage} {rnd : Option Nat} {st : NState}
    (hb : Node.boot c store rnd = .ok (.ok st)) : TOk st.raft.prs :=
  (Res.Post.of_eq (new_tok c store rnd) (Node.boot_inv hb).2.1 :)

end FL
end Raft

namespace Cluster
open Raft.FL

/-- every progress of every node has a well-formed in-flight window -/
def FlowInv (s : Sys) : Prop := ∀ i st, s.node i = some st → TOk st.raft.prs

/-- **the window invariant in every state of every history** -/
theorem flow_inv {h : List Sys} (hh : History h) : ∀ s ∈ h, FlowInv s := fun s hs =>
  have ⟨n, hn⟩ := List.mem_iff_getElem?.1 hs
  node_hist (C := .free) (P := fun _ st => TOk st.raft.prs) h hh
    (fun _ a b ha hb => (hist_step_at hh _ a b ha hb).moved) (fun g => g)
    (fun _ _ _ _ _ _ hb => boot_tok hb) (fun _ _ _ _ _ _ _ _ _ _ ih _ hcall => call_tok ih hcall) n s hn

end Cluster
end RaftModel
