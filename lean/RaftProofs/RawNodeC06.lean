import RaftProofs.RawNode

/-!
Helper lemmas for C06b ("persist before send" on the RawNode model):

* the order `ple` on `(term, vote)` pairs that Raft's term / vote discipline induces, the numbering
  of the handed-out Readies (`NumsOk`), the **pure** invariant `Inv` over the ten numbers / lists
  the property depends on, and its preservation by the five abstract moves (`Inv.env`, `Inv.ready`,
  `Inv.write`, `Inv.persisted`, `Inv.commit`);
* what each `RawNodeM` call does to the fields the invariant reads (`Fr`, `*_shape`);
* the storage side: which calls touch `log.store` at all, and what `storageWrite` does to the stored
  hard state.
-/
namespace RaftModel
namespace C06

/-! ### the order on (term, vote) pairs -/

/-- `(t, v) ⊑ (t', v')`: a later term, or the same term and the vote either unchanged or cast in
between (`0` = no vote).  This is what `Raft` allows between two points in time
(`C02_term_monotone`, `C02_vote_changes_only_from_none`). -/
def ple (t v t' v' : Nat) : Prop := t < t' ∨ (t = t' ∧ (v = v' ∨ v = 0))

theorem ple_refl (t v : Nat) : ple t v t v := by unfold ple; omega

theorem ple_trans {t1 v1 t2 v2 t3 v3 : Nat} (h1 : ple t1 v1 t2 v2) (h2 : ple t2 v2 t3 v3) :
    ple t1 v1 t3 v3 := by unfold ple at *; omega

theorem ple_antisymm {t1 v1 t2 v2 : Nat} (h1 : ple t1 v1 t2 v2) (h2 : ple t2 v2 t1 v1) :
    t1 = t2 ∧ v1 = v2 := by unfold ple at *; omega

/-! ### numbering of the handed-out Readies (newest first) -/

/-- `handed` (newest first) carries the numbers `m, m-1, …, 1` -/
def NumsOk : List Ready → Nat → Prop
  | [], m => m = 0
  | rd :: rest, m => rd.number = m ∧ m ≠ 0 ∧ NumsOk rest (m - 1)

theorem NumsOk.mem {l : List Ready} {m : Nat} (h : NumsOk l m) {rd : Ready} (hm : rd ∈ l) :
    1 ≤ rd.number ∧ rd.number ≤ m := by
  induction l generalizing m with
  | nil => cases hm
  | cons a t ih =>
    obtain ⟨h1, h2, h3⟩ := h
    rcases List.mem_cons.1 hm with rfl | hm
    · omega
    · have := ih h3 hm; omega

theorem NumsOk.unique {l : List Ready} {m : Nat} (h : NumsOk l m) {a b : Ready} (ha : a ∈ l)
    (hb : b ∈ l) (hab : a.number = b.number) : a = b := by
  induction l generalizing m with
  | nil => cases ha
  | cons x t ih =>
    obtain ⟨h1, h2, h3⟩ := h
    rcases List.mem_cons.1 ha with ha' | ha' <;> rcases List.mem_cons.1 hb with hb' | hb'
    · rw [ha', hb']
    · have := h3.mem hb'; subst ha'; omega
    · have := h3.mem ha'; subst hb'; omega
    · exact ih h3 ha' hb'

theorem NumsOk.cons {l : List Ready} {m : Nat} (h : NumsOk l m) {rd : Ready}
    (hn : rd.number = m + 1) : NumsOk (rd :: l) (m + 1) :=
  ⟨hn, by omega, by simpa using h⟩

theorem NumsOk.head {rd : Ready} {rest : List Ready} {m : Nat} (h : NumsOk (rd :: rest) m) :
    rd.number = m ∧ m ≠ 0 := ⟨h.1, h.2.1⟩

/-! ### the invariant, on the bare data

`t v` current term / vote, `pt pv` the pair in `prev_hs`, `u` = `unpersisted_hs_number`,
`m` = `max_number`, `H` the Readies handed out (newest first), `w` the number of the newest Ready
written to stable storage, `dT dV` the pair in stable storage. -/
structure Inv (t v pt pv u m : Nat) (H : List Ready) (w dT dV : Nat) : Prop where
  nums : NumsOk H m
  wr : w ≤ m
  uhnLe : u ≤ m
  prevLe : ple pt pv t v
  durLe : ple dT dV t v
  /-- a hard state handed out is a past hard state of the node -/
  hsLe : ∀ rd ∈ H, ∀ h, rd.hs = some h → ple h.term h.vote t v
  /-- … and they were handed out in order -/
  ord : ∀ r1 ∈ H, ∀ r2 ∈ H, r1.number ≤ r2.number → ∀ h1 h2, r1.hs = some h1 → r2.hs = some h2 →
    ple h1.term h1.vote h2.term h2.vote
  /-- the durable pair sits between the written and the unwritten ones -/
  d1 : ∀ rd ∈ H, rd.number ≤ w → ∀ h, rd.hs = some h → ple h.term h.vote dT dV
  d2 : ∀ rd ∈ H, w < rd.number → ∀ h, rd.hs = some h → ple dT dV h.term h.vote
  /-- the newest Ready: if it carries a (term, vote) that `prev_hs` does not have yet, it is still
  the unpersisted one, or it has been reported persisted — hence written -/
  newest : ∀ rd rest, H = rd :: rest → ∀ h, rd.hs = some h → (h.term ≠ pt ∨ h.vote ≠ pv) →
    u = rd.number ∨ (u = 0 ∧ w = rd.number)
  /-- the unpersisted number names a Ready that carries a hard state at least `prev_hs` -/
  uhs : u ≠ 0 → ∃ rd ∈ H, rd.number = u ∧ ∃ h, rd.hs = some h ∧ ple pt pv h.term h.vote
  /-- **the key clause**: `ready()` releases immediate messages only in this situation -/
  key : t = pt → v = pv → u = 0 → dT = t ∧ dV = v

theorem Inv.init (t v : Nat) : Inv t v t v 0 0 [] 0 t v where
  nums := rfl
  wr := Nat.le_refl _
  uhnLe := Nat.le_refl _
  prevLe := ple_refl _ _
  durLe := ple_refl _ _
  hsLe := fun _ h => by cases h
  ord := fun _ h => by cases h
  d1 := fun _ h => by cases h
  d2 := fun _ h => by cases h
  newest := fun _ _ h => by cases h
  uhs := fun h => absurd rfl h
  key := fun _ _ _ => ⟨rfl, rfl⟩

/-- `Raft::step / tick / …`: the pair moves up -/
theorem Inv.env {t v pt pv u m : Nat} {H : List Ready} {w dT dV : Nat}
    (i : Inv t v pt pv u m H w dT dV) {t' v' : Nat} (hle : ple t v t' v') :
    Inv t' v' pt pv u m H w dT dV where
  nums := i.nums
  wr := i.wr
  uhnLe := i.uhnLe
  prevLe := ple_trans i.prevLe hle
  durLe := ple_trans i.durLe hle
  hsLe := fun rd hm h hh => ple_trans (i.hsLe rd hm h hh) hle
  ord := i.ord
  d1 := i.d1
  d2 := i.d2
  newest := i.newest
  uhs := i.uhs
  key := by
    intro h1 h2 h3
    subst h1 h2
    obtain ⟨e1, e2⟩ := ple_antisymm hle i.prevLe
    subst e1 e2
    exact i.key rfl rfl h3

/-- `ready()` -/
theorem Inv.ready {t v pt pv u m : Nat} {H : List Ready} {w dT dV : Nat}
    (i : Inv t v pt pv u m H w dT dV) {rd : Ready} {u' : Nat} (hnum : rd.number = m + 1)
    (hhs : ∀ h, rd.hs = some h → h.term = t ∧ h.vote = v)
    (hch : (v ≠ pv ∨ t ≠ pt) → u' = m + 1 ∧ ∃ h, rd.hs = some h)
    (hsame : ¬ (v ≠ pv ∨ t ≠ pt) → u' = u) :
    Inv t v pt pv u' (m + 1) (rd :: H) w dT dV where
  nums := i.nums.cons hnum
  wr := Nat.le_succ_of_le i.wr
  uhnLe := by
    by_cases hc : v ≠ pv ∨ t ≠ pt
    · rw [(hch hc).1]; exact Nat.le_refl _
    · rw [hsame hc]; exact Nat.le_succ_of_le i.uhnLe
  prevLe := i.prevLe
  durLe := i.durLe
  hsLe := by
    intro r hm h hh
    rcases List.mem_cons.1 hm with rfl | hm
    · obtain ⟨e1, e2⟩ := hhs h hh; rw [e1, e2]; exact ple_refl _ _
    · exact i.hsLe r hm h hh
  ord := by
    intro r1 hm1 r2 hm2 hle h1 h2 hh1 hh2
    rcases List.mem_cons.1 hm1 with e1 | hm1' <;> rcases List.mem_cons.1 hm2 with e2 | hm2'
    · subst e1 e2; rw [hh1] at hh2; cases hh2; exact ple_refl _ _
    · subst e1; have := i.nums.mem hm2'; omega
    · subst e2; obtain ⟨e1, e2⟩ := hhs h2 hh2; rw [e1, e2]; exact i.hsLe r1 hm1' h1 hh1
    · exact i.ord r1 hm1' r2 hm2' hle h1 h2 hh1 hh2
  d1 := by
    intro r hm hle h hh
    rcases List.mem_cons.1 hm with rfl | hm
    · have := i.wr; omega
    · exact i.d1 r hm hle h hh
  d2 := by
    intro r hm hlt h hh
    rcases List.mem_cons.1 hm with rfl | hm
    · obtain ⟨e1, e2⟩ := hhs h hh; rw [e1, e2]; exact i.durLe
    · exact i.d2 r hm hlt h hh
  newest := by
    intro r rest he h hh hne
    injection he with e1 e2
    subst e1
    obtain ⟨e1, e2⟩ := hhs h hh
    left
    rw [(hch (by omega)).1, hnum]
  uhs := by
    intro hne
    by_cases hc : v ≠ pv ∨ t ≠ pt
    · obtain ⟨e, h, hh⟩ := hch hc
      obtain ⟨e1, e2⟩ := hhs h hh
      exact ⟨rd, List.mem_cons_self, by rw [e, hnum], h, hh, by rw [e1, e2]; exact i.prevLe⟩
    · rw [hsame hc] at hne
      obtain ⟨r, hm, hn, h, hh, hp⟩ := i.uhs hne
      exact ⟨r, List.mem_cons_of_mem _ hm, by rw [hsame hc]; exact hn, h, hh, hp⟩
  key := by
    intro h1 h2 h3
    rw [hsame (by omega)] at h3
    exact i.key h1 h2 h3

/-- the application writes Ready `w + 1` to stable storage -/
theorem Inv.write {t v pt pv u m : Nat} {H : List Ready} {w dT dV : Nat}
    (i : Inv t v pt pv u m H w dT dV) {rd : Ready} (hm : rd ∈ H) (hnum : rd.number = w + 1)
    {dT' dV' : Nat} (hnone : rd.hs = none → dT' = dT ∧ dV' = dV)
    (hsome : ∀ h, rd.hs = some h → dT' = h.term ∧ dV' = h.vote) :
    Inv t v pt pv u m H (w + 1) dT' dV' := by
  have hb := i.nums.mem hm
  cases hh : rd.hs with
  | none =>
    obtain ⟨e1, e2⟩ := hnone hh
    subst e1 e2
    refine { i with wr := by omega, d1 := ?_, d2 := ?_, newest := ?_ }
    · intro r hr hle h hrh
      rcases Nat.lt_or_ge r.number (w + 1) with hlt | hge
      · exact i.d1 r hr (by omega) h hrh
      · have := i.nums.unique hr hm (by omega)
        subst this
        rw [hh] at hrh; cases hrh
    · intro r hr hlt h hrh
      exact i.d2 r hr (by omega) h hrh
    · intro r rest he h hrh hne
      rcases i.newest r rest he h hrh hne with h1 | ⟨h1, h2⟩
      · exact .inl h1
      · have := (i.nums.mem (he ▸ List.mem_cons_self : r ∈ H)).2
        have := (he ▸ i.nums : NumsOk (r :: rest) m).head.1
        omega
  | some h0 =>
    obtain ⟨e1, e2⟩ := hsome h0 hh
    subst e1 e2
    have hd : ple dT dV h0.term h0.vote := i.d2 rd hm (by omega) h0 hh
    refine { i with wr := by omega, durLe := i.hsLe rd hm h0 hh, d1 := ?_, d2 := ?_, newest := ?_,
                    key := ?_ }
    · intro r hr hle h hrh
      exact i.ord r hr rd hm (by omega) h h0 hrh hh
    · intro r hr hlt h hrh
      exact i.ord rd hm r hr (by omega) h0 h hh hrh
    · intro r rest he h hrh hne
      rcases i.newest r rest he h hrh hne with h1 | ⟨h1, h2⟩
      · exact .inl h1
      · have := (he ▸ i.nums : NumsOk (r :: rest) m).head.1
        omega
    · intro h1 h2 h3
      obtain ⟨e1, e2⟩ := i.key h1 h2 h3
      subst e1 e2
      obtain ⟨e1, e2⟩ := ple_antisymm hd (i.hsLe rd hm h0 hh)
      exact ⟨e1.symm, e2.symm⟩

/-- `on_persist_ready(k)` for a `k` the application has written -/
theorem Inv.persisted {t v pt pv u m : Nat} {H : List Ready} {w dT dV : Nat}
    (i : Inv t v pt pv u m H w dT dV) {k : Nat} (hk : k ≤ w) :
    Inv t v pt pv (if u ≤ k then 0 else u) m H w dT dV := by
  by_cases hc : u ≤ k
  · rw [if_pos hc]
    refine { i with uhnLe := Nat.zero_le _, newest := ?_, uhs := fun h => absurd rfl h, key := ?_ }
    · intro r rest he h hrh hne
      right
      refine ⟨rfl, ?_⟩
      have hhead := (he ▸ i.nums : NumsOk (r :: rest) m).head.1
      have := i.wr
      rcases i.newest r rest he h hrh hne with h1 | ⟨_, h2⟩
      · omega
      · exact h2
    · intro h1 h2 _
      by_cases hu : u = 0
      · exact i.key h1 h2 hu
      · obtain ⟨r, hm, hn, h, hh, hp⟩ := i.uhs hu
        subst h1 h2
        obtain ⟨e1, e2⟩ := ple_antisymm hp (i.hsLe r hm h hh)
        have h1 := i.d1 r hm (by omega) h hh
        rw [← e1, ← e2] at h1
        obtain ⟨e3, e4⟩ := ple_antisymm h1 i.durLe
        exact ⟨e3.symm, e4.symm⟩
  · rw [if_neg hc]; exact i

/-- `commit_ready(rd)` of the newest Ready -/
theorem Inv.commit {t v pt pv u m : Nat} {H : List Ready} {w dT dV : Nat}
    (i : Inv t v pt pv u m H w dT dV) {rd : Ready} {rest : List Ready} (hH : H = rd :: rest)
    {pt' pv' : Nat} (hnone : rd.hs = none → pt' = pt ∧ pv' = pv)
    (hsome : ∀ h, rd.hs = some h → pt' = h.term ∧ pv' = h.vote) :
    Inv t v pt' pv' u m H w dT dV := by
  have hm : rd ∈ H := hH ▸ List.mem_cons_self
  cases hh : rd.hs with
  | none =>
    obtain ⟨e1, e2⟩ := hnone hh
    subst e1 e2
    exact i
  | some h0 =>
    obtain ⟨e1, e2⟩ := hsome h0 hh
    subst e1 e2
    by_cases hsame : h0.term = pt ∧ h0.vote = pv
    · obtain ⟨e1, e2⟩ := hsame
      rw [e1, e2]; exact i
    · have hnew := i.newest rd rest hH h0 hh (by omega)
      have hhead := (hH ▸ i.nums : NumsOk (rd :: rest) m).head
      refine { i with prevLe := i.hsLe rd hm h0 hh, newest := ?_, uhs := ?_, key := ?_ }
      · intro r rest' he h hrh hne
        rw [hH] at he
        injection he with e1 _
        subst e1
        rw [hh] at hrh; cases hrh
        omega
      · intro hu
        rcases hnew with h1 | ⟨h1, _⟩
        · exact ⟨rd, hm, h1.symm, h0, hh, ple_refl _ _⟩
        · exact absurd h1 hu
      · intro h1 h2 h3
        rcases hnew with h4 | ⟨_, h4⟩
        · omega
        · have h5 := i.d1 rd hm (by omega) h0 hh
          rw [← h1, ← h2] at h5
          obtain ⟨e3, e4⟩ := ple_antisymm h5 i.durLe
          exact ⟨e3.symm, e4.symm⟩

/-! ### what the `RawNodeM` calls do to the fields the invariant reads -/

open RawNodeM

/-- the fields C06b reads are untouched -/
structure Fr (n n' : RawNodeM) : Prop where
  term : n'.term = n.term
  vote : n'.vote = n.vote
  role : n'.role = n.role
  pterm : n'.prevHs.term = n.prevHs.term
  pvote : n'.prevHs.vote = n.prevHs.vote
  uhn : n'.unpersistedHsNumber = n.unpersistedHsNumber
  maxNumber : n'.maxNumber = n.maxNumber
  store : n'.log.store = n.log.store

theorem Fr.refl (n : RawNodeM) : Fr n n := ⟨rfl, rfl, rfl, rfl, rfl, rfl, rfl, rfl⟩

theorem Fr.trans {a b c : RawNodeM} (h1 : Fr a b) (h2 : Fr b c) : Fr a c :=
  ⟨h2.term.trans h1.term, h2.vote.trans h1.vote, h2.role.trans h1.role, h2.pterm.trans h1.pterm,
    h2.pvote.trans h1.pvote, h2.uhn.trans h1.uhn, h2.maxNumber.trans h1.maxNumber,
    h2.store.trans h1.store⟩

/-! #### the `RaftLog` operations never touch the storage -/

theorem commitTo_store {l l' : RaftLog} {i : Nat} (h : l.commitTo i = .ok l') :
    l'.store = l.store := by
  rcases RaftLog.commitTo_inv h with ⟨_, rfl⟩ | ⟨_, _, rfl⟩ <;> rfl

theorem appliedTo_store {l l' : RaftLog} {i : Nat} (h : l.appliedTo i = .ok l') :
    l'.store = l.store := by
  rcases RaftLog.appliedTo_inv h with ⟨_, rfl⟩ | ⟨_, _, rfl⟩ <;> rfl

theorem append_store {l l' : RaftLog} {ents : List Entry} {k : Nat}
    (h : l.append ents = .ok (l', k)) : l'.store = l.store := by
  rcases RaftLog.append_inv h with ⟨_, rfl⟩ | ⟨u, _, rfl⟩ <;> rfl

theorem restore_store {l l' : RaftLog} {sn : Snapshot} (h : l.restore sn = .ok l') :
    l'.store = l.store := by
  rw [(RaftLog.restore_inv h).2]

theorem stableSnap_store {l l' : RaftLog} {i : Nat} (h : l.stableSnap i = .ok l') :
    l'.store = l.store := by
  obtain ⟨u, _, rfl⟩ := RaftLog.stableSnap_inv h; rfl

theorem stableEntries_store {l l' : RaftLog} {i t : Nat} (h : l.stableEntries i t = .ok l') :
    l'.store = l.store := by
  obtain ⟨u, _, rfl⟩ := RaftLog.stableEntries_inv h; rfl

theorem maybePersist_store {l l' : RaftLog} {i t : Nat} {b : Bool}
    (h : l.maybePersist i t = .ok (l', b)) : l'.store = l.store := by
  rcases RaftLog.maybePersist_inv h with ⟨_, rfl, _⟩ | ⟨_, rfl⟩ <;> rfl

theorem maybePersistSnap_store {l l' : RaftLog} {i : Nat} {b : Bool}
    (h : l.maybePersistSnap i = .ok (l', b)) : l'.store = l.store := by
  rcases RaftLog.maybePersistSnap_inv h with ⟨_, _, _, _, rfl⟩ | ⟨_, rfl⟩ <;> rfl

theorem applyLogOp_store {l l' : RaftLog} {op : LogOp} (h : applyLogOp l op = .ok l') :
    l'.store = l.store := by
  cases op with
  | restore sn => exact restore_store h
  | commitTo i => exact commitTo_store h
  | tappend ents =>
    unfold applyLogOp at h
    cases ents with
    | nil => injection h with h; subst h; rfl
    | cons e0 es =>
      simp only [] at h
      cases ha : l.append (e0 :: es) with
      | ok p =>
        obtain ⟨l1, k⟩ := p
        rw [ha] at h
        simp only [] at h
        injection h with h
        have := append_store ha
        subst h
        split <;> exact this
      | err e => rw [ha] at h; cases h
      | panic s => rw [ha] at h; cases h

theorem applyLogOps_store {l l' : RaftLog} {ops : List LogOp} (h : applyLogOps l ops = .ok l') :
    l'.store = l.store := by
  induction ops generalizing l with
  | nil => unfold applyLogOps at h; injection h with h; subst h; rfl
  | cons op ops ih =>
    unfold applyLogOps at h
    cases ho : applyLogOp l op with
    | ok l1 => rw [ho] at h; exact (ih h).trans (applyLogOp_store ho)
    | err e => rw [ho] at h; cases h
    | panic s => rw [ho] at h; cases h

/-! #### the calls -/

/-- `env`: term, vote, role as given; nothing else of what C06b reads -/
theorem env_shape {n n' : RawNodeM} {e : EnvEffect} (h : n.env e = .ok n') :
    n'.term = e.term ∧ n'.vote = e.vote ∧ n'.role = e.role ∧ n'.prevHs = n.prevHs ∧
    n'.unpersistedHsNumber = n.unpersistedHsNumber ∧ n'.maxNumber = n.maxNumber ∧
    n'.log.store = n.log.store := by
  obtain ⟨l, ha, rfl⟩ := env_ok h
  exact ⟨rfl, rfl, rfl, rfl, rfl, rfl, (applyLogOps_store ha : l.store = n.log.store)⟩

theorem genLightReady_fr {n n' : RawNodeM} {l : LightReady} (h : n.genLightReady = .ok (n', l)) :
    Fr n n' ∧ l.messages = n.msgs := by
  obtain ⟨_, _, hl, hn, _⟩ := genLightReady_ok h
  subst hn hl; exact ⟨⟨rfl, rfl, rfl, rfl, rfl, rfl, rfl, rfl⟩, rfl⟩

/-- `ready()`: the number, the hard state, `is_persisted_msg`, the new bookkeeping -/
theorem ready_shape {n n' : RawNodeM} {rd : Ready} (h : n.ready = .ok (n', rd)) :
    n'.term = n.term ∧ n'.vote = n.vote ∧ n'.role = n.role ∧ n'.prevHs = n.prevHs ∧
    n'.log = n.log ∧ n'.maxNumber = n.maxNumber + 1 ∧ n'.unpersistedHsNumber = n.readyUhn ∧
    rd.number = n.maxNumber + 1 ∧
    rd.hs = (if n.readyHsChanged then some n.hardState else none) ∧
    rd.isPersistedMsg = (decide (n.role ≠ ROLE_LEADER) || decide (n.readyUhn ≠ 0)) ∧
    rd.light.messages = n.msgs := by
  obtain ⟨recs, csi, n2, light, _, _, hg, hn', hrd⟩ := ready_ok h
  obtain ⟨_, _, hl, hn2, _⟩ := genLightReady_ok hg
  subst hn' hrd hn2 hl
  exact ⟨rfl, rfl, rfl, rfl, rfl, rfl, rfl, rfl, rfl, rfl, rfl⟩

/-- the new `unpersisted_hs_number`, case by case -/
theorem readyUhn_cases (n : RawNodeM) :
    ((n.vote ≠ n.prevHs.vote ∨ n.term ≠ n.prevHs.term) →
      n.readyUhn = n.maxNumber + 1 ∧ n.readyHsChanged = true) ∧
    (¬ (n.vote ≠ n.prevHs.vote ∨ n.term ≠ n.prevHs.term) → n.readyUhn = n.unpersistedHsNumber) := by
  constructor
  · intro hc
    have h1 := (readyTv_iff n).2 hc
    have h2 := readyTv_changed n h1
    unfold readyUhn
    rw [h1, h2]
    exact ⟨rfl, rfl⟩
  · intro hc
    have h1 : n.readyTv = false := by
      cases hb : n.readyTv with
      | false => rfl
      | true => exact absurd ((readyTv_iff n).1 hb) hc
    unfold readyUhn
    rw [h1, Bool.and_false]
    rfl

/-- `commit_ready`: `prev_hs` (and `prev_ss`, the unstable part of the log) only -/
theorem commitReady_shape {n n' : RawNodeM} {rd : Ready} (h : n.commitReady rd = .ok n') :
    n'.term = n.term ∧ n'.vote = n.vote ∧ n'.role = n.role ∧ n'.prevHs = rd.hs.getD n.prevHs ∧
    n'.unpersistedHsNumber = n.unpersistedHsNumber ∧ n'.maxNumber = n.maxNumber ∧
    n'.log.store = n.log.store := by
  obtain ⟨l2, rfl, hst⟩ := commitReady_ok h
  exact ⟨rfl, rfl, rfl, rfl, rfl, rfl, hst⟩

theorem onPersistSnap_fr {n n' : RawNodeM} {i : Nat} (h : n.onPersistSnap i = .ok n') :
    Fr n n' := by
  unfold onPersistSnap at h
  cases hm : n.log.maybePersistSnap i with
  | ok p =>
    obtain ⟨l, b⟩ := p
    simp only [hm] at h
    injection h with h; subst h
    exact ⟨rfl, rfl, rfl, rfl, rfl, rfl, rfl, maybePersistSnap_store hm⟩
  | err e => simp only [hm] at h; cases h
  | panic s => simp only [hm] at h; cases h

theorem onPersistEntries_fr {n n' : RawNodeM} {i t : Nat} {eff : Effect}
    (h : n.onPersistEntries i t eff = .ok n') : Fr n n' := by
  unfold onPersistEntries at h
  cases hm : n.log.maybePersist i t with
  | ok p =>
    obtain ⟨l, b⟩ := p
    simp only [hm] at h
    have hs := maybePersist_store hm
    split at h
    · cases hc : l.commitTo eff.commit with
      | ok l' =>
        simp only [hc] at h
        injection h with h; subst h
        exact ⟨rfl, rfl, rfl, rfl, rfl, rfl, rfl, (commitTo_store hc).trans hs⟩
      | err e => simp only [hc] at h; cases h
      | panic s => simp only [hc] at h; cases h
    · injection h with h; subst h
      exact ⟨rfl, rfl, rfl, rfl, rfl, rfl, rfl, hs⟩
  | err e => simp only [hm] at h; cases h
  | panic s => simp only [hm] at h; cases h

/-- `on_persist_ready(k)`: resets `unpersisted_hs_number` when it is `≤ k` -/
theorem onPersistReady_shape {n n' : RawNodeM} {k : Nat} {eff : Effect}
    (h : n.onPersistReady k eff = .ok n') :
    n'.term = n.term ∧ n'.vote = n.vote ∧ n'.role = n.role ∧ n'.prevHs.term = n.prevHs.term ∧
    n'.prevHs.vote = n.prevHs.vote ∧
    n'.unpersistedHsNumber = (if n.unpersistedHsNumber ≤ k then 0 else n.unpersistedHsNumber) ∧
    n'.maxNumber = n.maxNumber ∧ n'.log.store = n.log.store :=
  let f := onPersistReady_rel (R := Fr) Fr.refl Fr.trans onPersistSnap_fr onPersistEntries_fr h
  ⟨f.term, f.vote, f.role, f.pterm, f.pvote, f.uhn, f.maxNumber, f.store⟩

theorem commitApply_fr {n n' : RawNodeM} {a : Nat} {eff : Effect}
    (h : n.commitApply a eff = .ok n') : Fr n n' := by
  obtain ⟨l1, l2, h1, h2, rfl⟩ := commitApply_ok h
  refine ⟨rfl, rfl, rfl, rfl, rfl, rfl, rfl, ?_⟩
  rcases h2 with rfl | ⟨k, _, hp⟩
  · exact appliedTo_store h1
  · exact (append_store hp).trans (appliedTo_store h1)

/-- `advance_append` in pieces, with what its assertions establish: a non-leader hands out no
messages, and on return `prev_hs` is the current hard state -/
theorem advanceAppend_shape {n n' : RawNodeM} {rd : Ready} {eff : Effect} {light : LightReady}
    (h : n.advanceAppend rd eff = .ok (n', light)) :
    ∃ n1 n2 n3 l3, n.commitReady rd = .ok n1 ∧ n1.onPersistReady n1.maxNumber eff = .ok n2 ∧
      n2.genLightReady = .ok (n3, l3) ∧ light.messages = l3.messages ∧
      (n3.role = ROLE_LEADER ∨ l3.messages = []) ∧ Fr n3 n' ∧
      n'.term = n'.prevHs.term ∧ n'.vote = n'.prevHs.vote := by
  obtain ⟨n1, n2, n3, l3, h1, h2, h3, _, hm, hr, hn', hhs⟩ := advanceAppend_ok h
  refine ⟨n1, n2, n3, l3, h1, h2, h3, hm, hr, ?_, congrArg HardState.term hhs,
    congrArg HardState.vote hhs⟩
  rcases hn' with rfl | rfl
  · exact Fr.refl _
  · exact ⟨rfl, rfl, rfl, rfl, rfl, rfl, rfl, rfl⟩

/-! #### the storage write -/

theorem storeAppend_hardState {s s' : MemStorage} {ents : List Entry}
    (h : s.append ents = .ok s') : s'.hardState = s.hardState := by
  rw [MemStorage.append_entries_only h]

/-- `storageWrite rd`: only the storage changes; the stored hard state becomes `rd.hs` when the
Ready carries one; otherwise its vote is kept and its term is kept or — `MemStorage::apply_snapshot`
storage.rs:250 — raised to the term of the snapshot of the Ready -/
theorem storageWrite_shape {n n' : RawNodeM} {rd : Ready} (h : n.storageWrite rd = .ok n') :
    Fr n { n' with log := { n'.log with store := n.log.store } } ∧
    (∀ hs, rd.hs = some hs → n'.log.store.hardState = hs) ∧
    (rd.hs = none → n'.log.store.hardState.vote = n.log.store.hardState.vote ∧
      ((rd.snapshot = none ∧ n'.log.store.hardState.term = n.log.store.hardState.term) ∨
        ∃ sn, rd.snapshot = some sn ∧ n'.log.store.hardState.term =
          max n.log.store.hardState.term sn.metadata.term)) := by
  obtain ⟨st1, st2, h1, h2, rfl⟩ := storageWrite_parts h
  have e2 := storeAppend_hardState h2
  refine ⟨⟨rfl, rfl, rfl, rfl, rfl, rfl, rfl, rfl⟩, ?_, ?_⟩
  · intro hs hh; simp only [hh]; rfl
  · intro hh
    simp only [hh]
    rcases h1 with ⟨hsn, rfl⟩ | ⟨sn, hsn, h1⟩
    · exact ⟨congrArg HardState.vote e2, .inl ⟨hsn, congrArg HardState.term e2⟩⟩
    · obtain ⟨_, e, rfl, _⟩ := MemStorage.applySnapshot_ok _ sn (MemStorage.applySnapshot_inv h1)
      rw [h1] at e; injection e with e; subst e
      exact ⟨(congrArg HardState.vote e2 :), .inr ⟨sn, hsn, (congrArg HardState.term e2 :)⟩⟩

/-- `MemStorage::compact` leaves the hard state alone -/
theorem storeCompact_hardState {s s' : MemStorage} {k : Nat} (h : s.compact k = .ok s') :
    s'.hardState = s.hardState := by
  rw [MemStorage.compact_entries_only h]

theorem compactStore_shape {l l' : RaftLog} {k : Nat} (h : l.compactStore k = .ok l') :
    l'.store.hardState = l.store.hardState := by
  unfold RaftLog.compactStore at h
  cases hc : l.store.compact k with
  | ok st => simp only [hc] at h; injection h with h; subst h; exact storeCompact_hardState hc
  | err e => simp only [hc] at h; cases h
  | panic s => simp only [hc] at h; cases h

/-- `RawNode::new`: term and vote are the stored ones, `prev_hs` agrees, no Ready yet -/
theorem new_shape {st : MemStorage} {limit applied maxc : Nat} {n : RawNodeM}
    (h : RawNodeM.new st limit applied maxc = .ok n) :
    n.term = st.hardState.term ∧ n.vote = st.hardState.vote ∧ n.prevHs.term = n.term ∧
    n.prevHs.vote = n.vote ∧ n.unpersistedHsNumber = 0 ∧ n.maxNumber = 0 ∧ n.records = [] ∧
    n.role = ROLE_FOLLOWER ∧ n.log.store = st := by
  obtain ⟨log, c, hl, _, hlog, a1, a2, a3, a4, a5, a6, a7, a8, _⟩ := new_ok h
  refine ⟨a1, a2, a3, a4, a5, a6, a7, a8, ?_⟩
  rw [hlog]
  unfold RaftLog.new at hl
  split at hl
  · cases hl
  · injection hl with hl; subst hl; rfl

end C06
end RaftModel
