import RaftProofs.ClusterCommitVocab

/-!
Commit safety of `ClusterSem` with log compaction: **ghost full logs**.

A compacted logical log `g` (snapshot point `p = g.snapIdx > c0`) has forgotten its entries up to `p`
(and, after a `MemStorage` compaction, the term at `p`).  The commit layer compares logs of different
nodes at different times, and a node that compacted further than another one cannot be compared with
it by its retained entries alone.  `Full C c0 g F` says that `F` is *the uncompacted version* of `g`:

* `F` starts at the common initial snapshot point `c0`, is gap-free, ends where `g` ends and holds `g`'s
  entries above `p`;
* when `g` knows the term of its snapshot point, `F` holds an entry of that term there;
* every link of `F` (entry plus the term of its predecessor) is a link of a chain of the class `C`
  (`DerivedFrom C F`; `C` will be "the chains of all states of the history"), whose members agree
  pairwise — so `F` agrees with every chain and with every other ghost log.

Because of the last clause `F` is unique (`Full.uniq`), as soon as `g` has a first entry or knows the
term of its snapshot point (`Full.ne`, guaranteed by the compaction contract `k ≤ persisted`).
The theory is pure (no cluster, no history): `C` is a parameter.
-/
namespace RaftModel
namespace Cluster
namespace Snap

/-- the uncompacted version of `g` -/
structure Full (C : LLog → Prop) (c0 : Nat) (g F : LLog) : Prop where
  snap : F.snapIdx = c0
  le : c0 ≤ g.snapIdx
  contig : F.Contig
  last : F.lastIndex = g.lastIndex
  ents : ∀ k, g.snapIdx < k → F.entryAt k = g.entryAt k
  sT0 : g.snapIdx = c0 → F.snapTerm = g.snapTerm
  sT : ∀ t, g.snapTerm = some t → c0 < g.snapIdx → ∃ e, F.entryAt g.snapIdx = some e ∧ e.term = t
  ne : g.snapTerm = none → c0 < g.snapIdx → g.ents ≠ []
  der : DerivedFrom C F

variable {C : LLog → Prop} {c0 : Nat}

theorem snap_le_last (g : LLog) : g.snapIdx ≤ g.lastIndex := by
  unfold LLog.lastIndex; omega

/-- an entry of `g` is an entry of `F` -/
theorem Full.entry {g F : LLog} (hF : Full C c0 g F) {k : Nat} {e : Entry}
    (he : g.entryAt k = some e) : F.entryAt k = some e := by
  rw [hF.ents k (g.entryAt_lt he).1]; exact he

/-- below the snapshot point of `g`, down to `c0`, `F` holds entries -/
theorem Full.exists_entry {g F : LLog} (hF : Full C c0 g F) {k : Nat} (h1 : c0 < k)
    (h2 : k ≤ g.lastIndex) : ∃ e, F.entryAt k = some e :=
  F.entryAt_exists (by rw [hF.snap]; exact h1) (by rw [hF.last]; exact h2)

/-- a log that starts at `c0` is its own uncompacted version -/
theorem Full.self {g : LLog} (hs : g.snapIdx = c0) (hc : g.Contig) (hC : C g) : Full C c0 g g :=
  ⟨hs, Nat.le_of_eq hs.symm, hc, rfl, fun _ _ => rfl, fun _ => rfl,
    fun _ _ h => absurd h (by omega), fun _ h => absurd h (by omega), DerivedFrom.of_mem hC⟩

/-- **uniqueness**: two uncompacted versions of one log hold the same entries -/
theorem Full.uniq (hC : ∀ g h, C g → C h → Agree g h) {g F F' : LLog} (h1 : Full C c0 g F)
    (h2 : Full C c0 g F') : ∀ k, F.entryAt k = F'.entryAt k := by
  intro k
  by_cases hk : g.snapIdx < k
  · rw [h1.ents k hk, h2.ents k hk]
  · by_cases hk0 : k ≤ c0
    · unfold LLog.entryAt
      rw [if_pos (by rw [h1.snap]; exact hk0), if_pos (by rw [h2.snap]; exact hk0)]
    · have hp : c0 < g.snapIdx := by omega
      have hag : Agree F F' := agree_of_derived hC h1.der h2.der
      have hs : F.snapIdx = F'.snapIdx := h1.snap.trans h2.snap.symm
      cases hst : g.snapTerm with
      | some t =>
        obtain ⟨e, he, het⟩ := h1.sT t hst hp
        obtain ⟨e', he', het'⟩ := h2.sT t hst hp
        exact eq_below hag hs he he' (het.trans het'.symm) k (by omega)
      | none =>
        have hne := h1.ne hst hp
        have hlen : 0 < g.ents.length := List.length_pos_iff.2 hne
        obtain ⟨f, hf⟩ := g.entryAt_exists (i := g.snapIdx + 1) (by omega)
          (by unfold LLog.lastIndex; omega)
        exact eq_below hag hs (h1.entry hf) (h2.entry hf) rfl k (by omega)

/-- the uncompacted versions of equal logs -/
theorem Full.congr {g g' F : LLog} (h : Full C c0 g F) (he : g' = g) : Full C c0 g' F := by
  rw [he]; exact h

theorem Full.mono {D : LLog → Prop} {g F : LLog} (h : Full C c0 g F) (hcd : ∀ x, C x → D x) :
    Full D c0 g F :=
  ⟨h.snap, h.le, h.contig, h.last, h.ents, h.sT0, h.sT, h.ne, h.der.mono hcd⟩

/-! ### the term queries of `g`, answered by `F` -/

/-- a term `g` answers with a real term, above `c0`, is the term of an entry of `F` -/
theorem Full.entry_of_term {g F : LLog} (hF : Full C c0 g F) {i t : Nat}
    (h : g.term i = .ok t) (ht : t ≠ 0) (hi : c0 < i) : ∃ e, F.entryAt i = some e ∧ e.term = t := by
  by_cases hs : g.snapIdx < i
  · obtain ⟨e, he, het⟩ := g.entry_of_term h ht hs
    exact ⟨e, hF.entry he, het⟩
  · unfold LLog.term at h
    split at h
    · injection h with h; exact absurd h.symm ht
    · rename_i hin
      have heq : i = g.snapIdx := by omega
      rw [if_pos heq] at h
      cases hst : g.snapTerm with
      | none => rw [hst] at h; cases h
      | some t' =>
        rw [hst] at h
        injection h with h
        subst h
        rw [heq]
        exact hF.sT t' hst (by omega)

theorem Full.has_of_match {g F : LLog} (hF : Full C c0 g F) {i t : Nat}
    (h : g.matchTerm i t = true) (ht : t ≠ 0) (hi : c0 < i) :
    ∃ e, F.entryAt i = some e ∧ e.term = t := by
  unfold LLog.matchTerm at h
  split at h
  · rename_i t' ht'
    have : t' = t := by simpa using h
    subst this
    exact hF.entry_of_term ht' ht hi
  · cases h

/-- the term query of `F` at and above the snapshot point of `g` -/
theorem Full.term_eq {g F : LLog} (hF : Full C c0 g F) {i : Nat} (hi : g.snapIdx ≤ i)
    (hk : g.snapTerm ≠ none ∨ g.snapIdx < i) : F.term i = g.term i := by
  by_cases hl : g.lastIndex < i
  · unfold LLog.term
    rw [if_pos (.inr (by rw [hF.last]; exact hl)), if_pos (.inr hl)]
  · by_cases hs : g.snapIdx < i
    · obtain ⟨e, he⟩ := g.entryAt_exists hs (by omega)
      rw [F.term_of_entry (hF.entry he), g.term_of_entry he]
    · have heq : i = g.snapIdx := by omega
      have hst : g.snapTerm ≠ none := by
        rcases hk with c | c
        · exact c
        · omega
      cases hst' : g.snapTerm with
      | none => exact absurd hst' hst
      | some t =>
        have hg : g.term i = .ok t := by
          unfold LLog.term
          rw [if_neg (by omega), if_pos heq, hst']
        rw [hg]
        by_cases hc : c0 < g.snapIdx
        · obtain ⟨e, he, het⟩ := hF.sT t hst' hc
          rw [heq, F.term_of_entry he, het]
        · have hc' : g.snapIdx = c0 := by have := hF.le; omega
          unfold LLog.term
          rw [if_neg (by rw [hF.snap, hF.last]; omega), if_pos (by rw [hF.snap]; omega),
            hF.sT0 hc', hst']

theorem Full.matchTerm_eq {g F : LLog} (hF : Full C c0 g F) {i t : Nat} (hi : g.snapIdx ≤ i)
    (h : g.matchTerm i t = true) : F.matchTerm i t = true := by
  have hk : g.snapTerm ≠ none ∨ g.snapIdx < i := by
    by_cases hs : g.snapIdx < i
    · exact .inr hs
    · left
      intro hn
      have heq : i = g.snapIdx := by omega
      unfold LLog.matchTerm LLog.term at h
      rw [if_neg (by have := snap_le_last g; omega), if_pos heq, hn] at h
      cases h
  unfold LLog.matchTerm
  rw [hF.term_eq hi hk]
  exact h

/-- the last term: the term of the last entry of `F` -/
theorem Full.lastTerm {g F : LLog} (hF : Full C c0 g F) {lt : Nat} (h : g.lastTerm = .ok lt)
    (hc : c0 < g.lastIndex) : ∃ e, F.entryAt g.lastIndex = some e ∧ e.term = lt := by
  rcases g.lastTerm_cases with ⟨_, e, he, helt⟩ | ⟨c1, c2⟩
  · rw [helt] at h
    injection h with h
    exact ⟨e, hF.entry he, h⟩
  · have hst := c2 lt h
    rw [c1]
    exact hF.sT lt hst (by omega)

/-! ### splicing: the uncompacted version after a change above the snapshot point -/

/-- the prefix of `F` up to the snapshot point of `g`, continued by `g` -/
def splice (F g : LLog) : LLog :=
  { snapIdx := F.snapIdx, snapTerm := F.snapTerm,
    ents := F.ents.take (g.snapIdx - F.snapIdx) ++ g.ents }

theorem splice_low {F g : LLog} (h1 : F.snapIdx ≤ g.snapIdx) (h2 : g.snapIdx ≤ F.lastIndex) {k : Nat}
    (hk : k ≤ g.snapIdx) : (splice F g).entryAt k = F.entryAt k := by
  unfold splice LLog.entryAt
  unfold LLog.lastIndex at h2
  dsimp only
  by_cases hk0 : k ≤ F.snapIdx
  · rw [if_pos hk0, if_pos hk0]
  · rw [if_neg hk0, if_neg hk0, List.getElem?_append_left (by rw [List.length_take]; omega),
      List.getElem?_take, if_pos (by omega)]

theorem splice_high {F g : LLog} (h1 : F.snapIdx ≤ g.snapIdx) (h2 : g.snapIdx ≤ F.lastIndex) {k : Nat}
    (hk : g.snapIdx < k) : (splice F g).entryAt k = g.entryAt k := by
  unfold splice LLog.entryAt
  unfold LLog.lastIndex at h2
  dsimp only
  rw [if_neg (by omega), if_neg (by omega),
    List.getElem?_append_right (by rw [List.length_take]; omega), List.length_take]
  congr 1
  omega

theorem splice_last {F g : LLog} (h1 : F.snapIdx ≤ g.snapIdx) (h2 : g.snapIdx ≤ F.lastIndex) :
    (splice F g).lastIndex = g.lastIndex := by
  unfold splice LLog.lastIndex
  unfold LLog.lastIndex at h2
  dsimp only
  rw [List.length_append, List.length_take]
  omega

theorem splice_contig {F g : LLog} (h1 : F.snapIdx ≤ g.snapIdx) (h2 : g.snapIdx ≤ F.lastIndex)
    (hF : F.Contig) (hg : g.Contig) : (splice F g).Contig := by
  unfold LLog.lastIndex at h2
  unfold LLog.Contig splice
  dsimp only
  refine ContigFrom.append ?_ ?_
  · intro k e hk
    rw [List.getElem?_take] at hk
    split at hk
    · exact hF k e hk
    · cases hk
  · rw [List.length_take]
    have : F.snapIdx + 1 + min (g.snapIdx - F.snapIdx) F.ents.length = g.snapIdx + 1 := by omega
    rw [this]
    exact hg

theorem splice_prev_low {F g : LLog} (h1 : F.snapIdx ≤ g.snapIdx) (h2 : g.snapIdx ≤ F.lastIndex)
    {k : Nat} (hk : k ≤ g.snapIdx + 1) : (splice F g).prevTerm k = F.prevTerm k := by
  unfold LLog.prevTerm
  have hs : (splice F g).snapIdx = F.snapIdx := rfl
  have hst : (splice F g).snapTerm = F.snapTerm := rfl
  rw [hs, hst]
  by_cases hk1 : k = F.snapIdx + 1
  · rw [if_pos hk1, if_pos hk1]
  · rw [if_neg hk1, if_neg hk1]
    by_cases hk0 : k = 0
    · subst hk0
      unfold LLog.entryAt
      rw [if_pos (Nat.zero_le _), if_pos (Nat.zero_le _)]
    · rw [splice_low h1 h2 (by omega)]

theorem splice_prev_high {F g : LLog} (h1 : F.snapIdx ≤ g.snapIdx) (h2 : g.snapIdx ≤ F.lastIndex)
    {k : Nat} (hk : g.snapIdx + 1 < k) : (splice F g).prevTerm k = g.prevTerm k := by
  unfold LLog.prevTerm
  have hs : (splice F g).snapIdx = F.snapIdx := rfl
  rw [hs, if_neg (by omega), if_neg (by omega), splice_high h1 h2 (by omega)]

/-- **the uncompacted version after a change that keeps the snapshot point**: the old prefix, then the
new log.  The first entry of a log that does not know the term of its snapshot point must be kept. -/
theorem Full.splice {g g' F : LLog} (hF : Full C c0 g F) (hs : g'.snapIdx = g.snapIdx)
    (hst : g'.snapTerm = g.snapTerm) (hc : g'.Contig) (hC : C g')
    (hkeep : g.snapTerm = none → c0 < g.snapIdx →
      g'.entryAt (g.snapIdx + 1) = g.entryAt (g.snapIdx + 1))
    (hne : g'.snapTerm = none → c0 < g'.snapIdx → g'.ents ≠ []) :
    Full C c0 g' (Snap.splice F g') := by
  have h1 : F.snapIdx ≤ g'.snapIdx := by rw [hF.snap, hs]; exact hF.le
  have h2 : g'.snapIdx ≤ F.lastIndex := by rw [hF.last, hs]; exact snap_le_last g
  refine ⟨hF.snap, by rw [hs]; exact hF.le, splice_contig h1 h2 hF.contig hc, splice_last h1 h2,
    fun k hk => splice_high h1 h2 hk, ?_, ?_, hne, ?_⟩
  · intro h0
    show F.snapTerm = g'.snapTerm
    rw [hst]; exact hF.sT0 (by rw [← hs]; exact h0)
  · intro t ht hp
    rw [splice_low h1 h2 (Nat.le_refl _), hs]
    exact hF.sT t (by rw [← hst]; exact ht) (by rw [← hs]; exact hp)
  · intro i e he
    by_cases hi : i ≤ g'.snapIdx
    · rw [splice_low h1 h2 hi] at he
      obtain ⟨x, hx, hxe, hxp⟩ := hF.der i e he
      exact ⟨x, hx, hxe, fun p hp => hxp p (by rw [← splice_prev_low h1 h2 (by omega)]; exact hp)⟩
    · have hi' : g'.snapIdx < i := by omega
      rw [splice_high h1 h2 hi'] at he
      by_cases hi2 : g'.snapIdx + 1 < i
      · exact ⟨g', hC, he, fun p hp => by rw [← splice_prev_high h1 h2 hi2]; exact hp⟩
      · have heq : i = g'.snapIdx + 1 := by omega
        subst heq
        -- the seam
        rw [splice_prev_low h1 h2 (Nat.le_refl _)]
        have hgp : g'.prevTerm (g'.snapIdx + 1) = g'.snapTerm := by
          unfold LLog.prevTerm; rw [if_pos rfl]
        by_cases hc0 : g'.snapIdx = c0
        · refine ⟨g', hC, he, fun p hp => ?_⟩
          rw [hgp, hst, ← hF.sT0 (by rw [← hs]; exact hc0)]
          unfold LLog.prevTerm at hp
          rw [if_pos (by rw [hF.snap, hc0])] at hp
          exact hp
        · have hp0 : c0 < g.snapIdx := by rw [← hs]; have := hF.le; rw [← hs] at this; omega
          have hFp : F.prevTerm (g'.snapIdx + 1) = (F.entryAt g'.snapIdx).map (·.term) := by
            unfold LLog.prevTerm
            rw [if_neg (by rw [hF.snap]; omega)]
            rfl
          cases hgt : g.snapTerm with
          | some t =>
            obtain ⟨ep, hep, hept⟩ := hF.sT t hgt hp0
            refine ⟨g', hC, he, fun p hp => ?_⟩
            rw [hFp, hs, hep] at hp
            rw [hgp, hst, hgt, ← hept]
            exact hp
          | none =>
            have hk := hkeep hgt hp0
            rw [← hs] at hk
            have heF : F.entryAt (g'.snapIdx + 1) = some e := by
              rw [hF.ents _ (by rw [← hs]; omega), ← hk]; exact he
            exact hF.der _ e heF

/-! ### compaction: the uncompacted version stays -/

theorem compactTo_snapIdx (g : LLog) (k : Nat) :
    (g.compactTo k).snapIdx = max g.snapIdx k := by
  unfold LLog.compactTo
  split
  · omega
  · dsimp only; omega

theorem compactTo_lastIndex (g : LLog) (k : Nat) (hk : k ≤ g.lastIndex) :
    (g.compactTo k).lastIndex = g.lastIndex := by
  unfold LLog.compactTo
  split
  · rfl
  · unfold LLog.lastIndex at *
    dsimp only
    rw [List.length_drop]
    omega

/-- **compaction keeps the uncompacted version** (at least one entry must stay: `k < lastIndex`) -/
theorem Full.compact {g F : LLog} (hF : Full C c0 g F) {k : Nat}
    (hk' : g.snapIdx < k → k < g.lastIndex) : Full C c0 (g.compactTo k) F := by
  by_cases hle : k ≤ g.snapIdx
  · have : g.compactTo k = g := by unfold LLog.compactTo; rw [if_pos hle]
    rw [this]; exact hF
  · have hk : k < g.lastIndex := hk' (by omega)
    have hsi : (g.compactTo k).snapIdx = k := by unfold LLog.compactTo; rw [if_neg hle]
    have hst : (g.compactTo k).snapTerm = none := by unfold LLog.compactTo; rw [if_neg hle]
    have hl := compactTo_lastIndex g k (Nat.le_of_lt hk)
    have := hF.le
    refine ⟨hF.snap, by rw [hsi]; omega, hF.contig, by rw [hl]; exact hF.last, ?_, ?_, ?_, ?_, hF.der⟩
    · intro j hj
      rw [hsi] at hj
      rw [LLog.compactTo_entryAt g k j, if_neg (by omega)]
      exact hF.ents j (by omega)
    · intro h0; rw [hsi] at h0; omega
    · intro t ht; rw [hst] at ht; cases ht
    · intro _ _ hnil
      have : (g.compactTo k).lastIndex = k := by
        unfold LLog.lastIndex; rw [hsi, hnil]; rfl
      omega

/-! ### the prefix of an uncompacted version (for a log that was cut) -/

/-- two logs with the same snapshot point, the same knowledge of its term and the same entries have
the same uncompacted versions -/
theorem Full.of_same {g g' F : LLog} (hF : Full C c0 g F) (h1 : g'.snapIdx = g.snapIdx)
    (h2 : g'.snapTerm = g.snapTerm) (h3 : g'.ents = g.ents) : Full C c0 g' F := by
  have : g' = g := by
    cases g; cases g'; simp only [LLog.mk.injEq]; exact ⟨h1, h2, h3⟩
  rw [this]; exact hF

/-! ### the choice of an uncompacted version -/

open Classical in
/-- an uncompacted version of `g` (if there is one; `g` itself otherwise) -/
noncomputable def fl (C : LLog → Prop) (c0 : Nat) (g : LLog) : LLog :=
  if hx : ∃ F, Full C c0 g F then Classical.choose hx else g

theorem fl_spec {g F : LLog} (hF : Full C c0 g F) : Full C c0 g (fl C c0 g) := by
  have hx : ∃ F, Full C c0 g F := ⟨F, hF⟩
  unfold fl
  rw [dif_pos hx]
  exact Classical.choose_spec hx

/-- the chosen version holds the entries of any other one -/
theorem fl_eq (hC : ∀ g h, C g → C h → Agree g h) {g F : LLog} (hF : Full C c0 g F) :
    ∀ k, (fl C c0 g).entryAt k = F.entryAt k :=
  (fl_spec hF).uniq hC hF

/-- an uncompacted version of a log that starts at `c0` is that log -/
theorem Full.eq_self {C : LLog → Prop} {c0 : Nat} {g F : LLog} (hF : Full C c0 g F)
    (hs : g.snapIdx = c0) : F = g := by
  have h1 : F.snapIdx = g.snapIdx := hF.snap.trans hs.symm
  have h3 : F.ents = g.ents := by
    apply List.ext_getElem?
    intro i
    have := hF.ents (g.snapIdx + i + 1) (by omega)
    unfold LLog.entryAt at this
    rw [if_neg (by omega), if_neg (by omega), h1] at this
    rw [show g.snapIdx + i + 1 - g.snapIdx - 1 = i by omega] at this
    exact this
  cases F; cases g
  cases h1; cases h3; cases hF.sT0 hs
  rfl

theorem fl_self {C : LLog → Prop} {c0 : Nat} {g : LLog} (hs : g.snapIdx = c0) : fl C c0 g = g := by
  unfold fl
  split
  · rename_i hx; exact (Classical.choose_spec hx).eq_self hs
  · rfl

end Snap
end Cluster
end RaftModel
