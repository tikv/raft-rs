import RaftProofs.ClusterSnap2B
import RaftProofs.ClusterSnapGhost

/-!
Commit safety of `ClusterSem` **with log compaction and snapshots**, part 5C: the contract-abiding
steps `Snap5.KStep` and the steps `GStep q`, which owe the two clauses that protect a node restoring a
snapshot (`SnapSend`, `compact k → k ≤ hard_state.commit`) only under `q` ("snapshots travel"); one
step seen from the stepping node (`Snap5.Stp`: an ordinary call, the delivery of a `MsgSnapshot`, the
installation of a pending snapshot, a `send`, a restart); the standing hypotheses `Snap5.Hyp` and
their general form `GHyp q` (`quiet`: without `q` no `MsgSnapshot` is in the transport); and the first
cluster invariants.

The development `ClusterSnap5C–5X` is stated and proved once, for the bundles `GHyp q`, `GHyp2w q`,
`GHyp3a q`, `GHyp3w q`.  With `q := True` they are the bundles `Snap5.Hyp…` of the layer with snapshots
(`Hyp.g`, `Hyp2w.g`, `Hyp3a.g`, `Hyp3w.g`; the bundles `Snap2.Hyp…` imply those, `ClusterSnap2C`); with
`q := False` they hold of the histories of the compaction layer `Snap.Hyp2w…`, whose theorems are read
off in `ClusterSnapCompaction`.  Everything lives in the namespace `RaftModel.Cluster.Snap5`; a name
that is not redefined here refers to the declaration of `RaftModel.Cluster.Snap` (`ClusterSnapHyp`,
`ClusterSnapGhost`: steps, bundles and the ghost-log vocabulary of the compaction layer) or of
`RaftModel.Cluster`.
-/
namespace RaftModel
namespace Cluster
namespace Snap5
open Node Raft Raft.CC Snap

/-- **what a node may queue as `MsgSnapshot`**: the snapshot its storage holds — at the storage's
recorded commit index, with the term of that index, *not relabelled*: the storage answers
`snapshot(request_index)` only when its snapshot index is at least `request_index` (what
`MemStorage::snapshot` does not enforce, see `C01e_snapshot_request_index_counterexample`) -/
def SnapSend (st st' : NState) : Prop :=
  ∀ x ∈ st'.raft.msgs, x ∉ st.raft.msgs → x.msgType = .msgSnapshot →
    st.raft.raftLog.store.snapshotCore = .ok x.snapshot

/-- **a step of `ClusterSem` whose application obeys the storage and Ready contracts, snapshots
included**: the rules of `Snap.KStep` with these extra premises —
* `call` / `deliver`: `SnapSend` (no relabelled snapshots);
* a snapshot is installed at once: while a snapshot is pending (`unstable.snapshot`), the only call the
  application makes is `persist_snap`, and no message is offered to the node (**simplification**, see
  the report);
* `persist_snap` installs a pending snapshot only when term and vote are persisted (the `HardState` —
  term, vote, commit — is written as a whole: `apply_snapshot` writes the commit index);
* a call that is not the delivery of a `MsgSnapshot` leaves no snapshot pending (**proof gap**: a fact
  of the model — only `restore` sets `unstable.snapshot` — that is not derived here);
* `compact k` only up to the commit index **the storage records** (`k ≤ hard_state.commit`, the applied
  index the application wrote: "compact only what has been applied").  Needed with snapshots: a node
  that compacts beyond its recorded commit index, crashes and restarts has a snapshot point *at* its
  commit index whose term it has forgotten; a snapshot at that index then replaces its log — and drops
  entries it has acknowledged. -/
inductive KStep : Sys → Sys → Prop where
  | call (s : Sys) (i : Nat) (st st' : NState) (rnd : Option Nat) (op : NodeOp) (res : OpRes) :
      s.node i = some st → appOp op = true → (∀ k, op = .compact k → CompactOk st.raft.raftLog k) →
      (∀ k, op = .commitApply k → k ≤ st.raft.raftLog.persisted ∧ hsPersisted st) →
      (op = .persistSnap → st.raft.raftLog.unstable.snapshot ≠ none → hsPersisted st) →
      (st.raft.raftLog.unstable.snapshot ≠ none → op = .persistSnap) →
      (st.raft.raftLog.unstable.snapshot = none → st'.raft.raftLog.unstable.snapshot = none) →
      (∀ k, op = .compact k → k ≤ st.raft.raftLog.store.hardState.commit) →
      SnapSend st st' →
      Node.call st rnd op = .ok (res, st') →
      KStep s (s.setNode i st')
  | deliver (s : Sys) (i : Nat) (st st' : NState) (rnd : Option Nat) (m : Message) (res : OpRes) :
      s.node i = some st → m ∈ s.net → m.to = i →
      st.raft.raftLog.unstable.snapshot = none →
      (m.msgType ≠ .msgSnapshot → st'.raft.raftLog.unstable.snapshot = none) → SnapSend st st' →
      Node.call st rnd (.step m) = .ok (res, st') →
      KStep s (s.setNode i st')
  | send (s : Sys) (i : Nat) (st st' : NState) :
      s.node i = some st → hsPersisted st →
      (st.raft.state ≠ .leader →
        st.raft.raftLog.unstable.entries = [] ∧ st.raft.raftLog.unstable.snapshot = none) →
      Node.call st none .drain = .ok (.ok, st') →
      KStep s { (s.setNode i st') with net := s.net ++ st.raft.msgs }
  | restart (s : Sys) (i : Nat) (st st' : NState) (c : Config) (rnd : Option Nat) :
      s.node i = some st → c.id = i → Node.boot c st.raft.raftLog.store rnd = .ok (.ok st') →
      st'.raft.raftLog.unstable.snapshot = none →
      KStep s (s.setNode i st')

/-- **a step of `ClusterSem` that obeys the contracts as far as they matter**: the rules of `KStep`,
with the two clauses that only protect a node that *restores* a snapshot — `SnapSend` and
`compact k → k ≤ hard_state.commit` — asked for only under `q` ("snapshots travel").  With `q` it is
`KStep`; without, a step of `Snap.KStep` in a history where no snapshot is ever pending -/
inductive GStep (q : Prop) : Sys → Sys → Prop where
  | call (s : Sys) (i : Nat) (st st' : NState) (rnd : Option Nat) (op : NodeOp) (res : OpRes) :
      s.node i = some st → appOp op = true → (∀ k, op = .compact k → CompactOk st.raft.raftLog k) →
      (∀ k, op = .commitApply k → k ≤ st.raft.raftLog.persisted ∧ hsPersisted st) →
      (op = .persistSnap → st.raft.raftLog.unstable.snapshot ≠ none → hsPersisted st) →
      (st.raft.raftLog.unstable.snapshot ≠ none → op = .persistSnap) →
      (st.raft.raftLog.unstable.snapshot = none → st'.raft.raftLog.unstable.snapshot = none) →
      (q → ∀ k, op = .compact k → k ≤ st.raft.raftLog.store.hardState.commit) →
      (q → SnapSend st st') →
      Node.call st rnd op = .ok (res, st') →
      GStep q s (s.setNode i st')
  | deliver (s : Sys) (i : Nat) (st st' : NState) (rnd : Option Nat) (m : Message) (res : OpRes) :
      s.node i = some st → m ∈ s.net → m.to = i →
      st.raft.raftLog.unstable.snapshot = none →
      (m.msgType ≠ .msgSnapshot → st'.raft.raftLog.unstable.snapshot = none) →
      (q → SnapSend st st') →
      Node.call st rnd (.step m) = .ok (res, st') →
      GStep q s (s.setNode i st')
  | send (s : Sys) (i : Nat) (st st' : NState) :
      s.node i = some st → hsPersisted st →
      (st.raft.state ≠ .leader →
        st.raft.raftLog.unstable.entries = [] ∧ st.raft.raftLog.unstable.snapshot = none) →
      Node.call st none .drain = .ok (.ok, st') →
      GStep q s { (s.setNode i st') with net := s.net ++ st.raft.msgs }
  | restart (s : Sys) (i : Nat) (st st' : NState) (c : Config) (rnd : Option Nat) :
      s.node i = some st → c.id = i → Node.boot c st.raft.raftLog.store rnd = .ok (.ok st') →
      st'.raft.raftLog.unstable.snapshot = none →
      GStep q s (s.setNode i st')

theorem KStep.g {q : Prop} {a b : Sys} (hs : KStep a b) : GStep q a b := by
  cases hs with
  | call i st st' rnd op res h1 h2 h3 h4 h5 h6 h7 h8 h9 h10 =>
    exact .call a i st st' rnd op res h1 h2 h3 h4 h5 h6 h7 (fun _ => h8) (fun _ => h9) h10
  | deliver i st st' rnd m res h1 h2 h3 h4 h5 h6 h7 =>
    exact .deliver a i st st' rnd m res h1 h2 h3 h4 h5 (fun _ => h6) h7
  | send i st st' h1 h2 h3 h4 => exact .send a i st st' h1 h2 h3 h4
  | restart i st st' c rnd h1 h2 h3 h4 => exact .restart a i st st' c rnd h1 h2 h3 h4

/-- a step of the compaction layer between two states without pending snapshots -/
theorem GStep.of_snap {q : Prop} (hq : ¬ q) {a b : Sys} (hs : Snap.KStep a b)
    (ha : ∀ i st, a.node i = some st → st.raft.raftLog.unstable.snapshot = none)
    (hb : ∀ i st, b.node i = some st → st.raft.raftLog.unstable.snapshot = none) : GStep q a b := by
  cases hs with
  | call i st st' rnd op res h1 h2 h3 h4 h5 =>
    exact .call a i st st' rnd op res h1 h2 h3 h4 (fun _ hc => absurd (ha i st h1) hc)
      (fun hc => absurd (ha i st h1) hc) (fun _ => hb i st' (node_setNode_self a i st'))
      (fun c => absurd c hq) (fun c => absurd c hq) h5
  | deliver i st st' rnd m res h1 h2 h3 h4 =>
    exact .deliver a i st st' rnd m res h1 h2 h3 (ha i st h1)
      (fun _ => hb i st' (node_setNode_self a i st')) (fun c => absurd c hq) h4
  | send i st st' h1 h2 h3 h4 => exact .send a i st st' h1 h2 h3 h4
  | restart i st st' c rnd h1 h2 h3 =>
    exact .restart a i st st' c rnd h1 h2 h3 (hb i st' (node_setNode_self a i st'))

theorem GStep.cstep {q : Prop} {s s' : Sys} (h : GStep q s s') : CStep s s' := by
  cases h with
  | call i st st' rnd op res h1 h2 h3 _ _ _ _ _ _ h4 =>
    exact CStep.call s i st st' rnd op res h1 h2 h3 h4
  | deliver i st st' rnd m res h1 h2 h3 _ _ _ h4 => exact CStep.deliver s i st st' rnd m res h1 h2 h3 h4
  | send i st st' h1 h2 _ h3 => exact CStep.send s i st st' h1 h2 h3
  | restart i st st' c rnd h1 h2 h3 _ => exact CStep.restart s i st st' c rnd h1 h2 h3

theorem GStep.step {q : Prop} {s s' : Sys} (h : GStep q s s') : Step s s' := h.cstep.step

theorem KStep.cstep {s s' : Sys} (h : KStep s s') : CStep s s' := (h.g (q := True)).cstep

theorem KStep.step {s s' : Sys} (h : KStep s s') : Step s s' := h.cstep.step

/-- the contract of `GStep q` -/
def _root_.RaftModel.Cluster.Contract.g (q : Prop) : Contract where
  call st op st' :=
    (∀ k, op = .compact k → CompactOk st.raft.raftLog k) ∧ (q → SnapSend st st') ∧
    (appOp op = true →
      (∀ k, op = .commitApply k → k ≤ st.raft.raftLog.persisted ∧ hsPersisted st) ∧
      (op = .persistSnap → st.raft.raftLog.unstable.snapshot ≠ none → hsPersisted st) ∧
      (st.raft.raftLog.unstable.snapshot ≠ none → op = .persistSnap) ∧
      (st.raft.raftLog.unstable.snapshot = none → st'.raft.raftLog.unstable.snapshot = none) ∧
      (q → ∀ k, op = .compact k → k ≤ st.raft.raftLog.store.hardState.commit)) ∧
    (∀ m, op = .step m → st.raft.raftLog.unstable.snapshot = none ∧
      (m.msgType ≠ .msgSnapshot → st'.raft.raftLog.unstable.snapshot = none))
  send st := st.raft.state ≠ .leader →
    st.raft.raftLog.unstable.entries = [] ∧ st.raft.raftLog.unstable.snapshot = none
  restart _ st' := st'.raft.raftLog.unstable.snapshot = none

theorem GStep.moved {q : Prop} {a b : Sys} (h : GStep q a b) :
    ∃ k st st', Moved (.g q) a b k st st' := by
  cases h with
  | call k st st' rnd op res h1 h2 h3 h4 h5 h6 h7 h8 h9 h10 =>
    exact ⟨k, st, st', h1, rfl, .call rnd op res (.inl h2)
      ⟨h3, h9, fun _ => ⟨h4, h5, h6, h7, h8⟩, fun m hm => by rw [hm] at h2; cases h2⟩ h10 rfl⟩
  | deliver k st st' rnd m res h1 h2 h3 h4 h5 h6 h7 =>
    exact ⟨k, st, st', h1, rfl, .call rnd (.step m) res (.inr ⟨m, rfl, h2, h3⟩)
      ⟨fun _ hc => (by cases hc), h6, fun hc => (by cases hc), fun m' hm => by cases hm; exact ⟨h4, h5⟩⟩
      h7 rfl⟩
  | send k st st' h1 h2 h3 h4 =>
    exact ⟨k, st, st', h1, rfl, .send h2 h3 (drain_state h4) rfl⟩
  | restart k st st' c rnd h1 h2 h3 h4 =>
    exact ⟨k, st, st', h1, rfl, .restart c rnd h2 h3 h4 rfl⟩

theorem KStep.moved {a b : Sys} (h : KStep a b) : ∃ k st st', Moved (.g True) a b k st st' :=
  (h.g (q := True)).moved

/-- a node that has asked for a snapshot (`request_snapshot`) has a log that ends at or before the
requested index (an invariant: the requested index is the last index at the time of the request and the
log of a node with a pending request does not grow; derived in `ClusterSnap6D`, `Hyp3r.reqok`) -/
def ReqOk (s : Sys) : Prop := ∀ i st, s.node i = some st →
  st.raft.pendingRequestSnapshot ≠ 0 → st.raft.raftLog.lastIndex ≤ st.raft.pendingRequestSnapshot

/-- one step `a → b`, node `k` going from `st` to `st'` -/
inductive Stp (q : Prop) (a b : Sys) (k : Nat) (st st' : NState) : Prop
  /-- a call of the application, or the delivery of a message that is not a `MsgSnapshot`; no snapshot
  is pending -/
  | call (rnd : Option Nat) (op : NodeOp) (res : OpRes)
      (hop : appOp op = true ∨ ∃ m, op = .step m ∧ m ∈ a.net ∧ m.to = k)
      (hco : ∀ j, op = .compact j → CompactOk st.raft.raftLog j)
      (hca : ∀ j, op = .commitApply j → j ≤ st.raft.raftLog.persisted ∧ hsPersisted st)
      (hns : ∀ m, op = .step m → m.msgType ≠ .msgSnapshot)
      (hpn : st.raft.raftLog.unstable.snapshot = none)
      (hss : q → SnapSend st st')
      (hcall : Node.call st rnd op = .ok (res, st')) (hnet : b.net = a.net)
      (hpn' : st'.raft.raftLog.unstable.snapshot = none)
      (hcs : q → ∀ j, op = .compact j → j ≤ st.raft.raftLog.store.hardState.commit)
  /-- the delivery of a `MsgSnapshot` -/
  | snap (rnd : Option Nat) (m : Message) (hm : m ∈ a.net) (hto : m.to = k)
      (hty : m.msgType = .msgSnapshot) (hpn : st.raft.raftLog.unstable.snapshot = none)
      (hout : SnapOut st st' rnd m) (hnet : b.net = a.net)
  /-- the installation of the pending snapshot -/
  | psnap (rnd : Option Nat) (hp : hsPersisted st) (hout : PersistOut st st' rnd)
      (hpend : st.raft.raftLog.unstable.snapshot ≠ none) (hnet : b.net = a.net)
  | send (hp : hsPersisted st)
      (hu : st.raft.state ≠ .leader →
        st.raft.raftLog.unstable.entries = [] ∧ st.raft.raftLog.unstable.snapshot = none)
      (hq : st'.raft.msgs = [])
      (hsame : st'.raft.raftLog = st.raft.raftLog ∧ st'.raft.term = st.raft.term ∧
        st'.raft.state = st.raft.state)
      (hnet : b.net = a.net ++ st.raft.msgs)
      (hr : st'.raft = { st.raft with nextRand := none, msgs := [], readStates := [] })
  | restart (c : Config) (rnd : Option Nat)
      (hboot : Node.boot c st.raft.raftLog.store rnd = .ok (.ok st')) (hnet : b.net = a.net)
      (hpn' : st'.raft.raftLog.unstable.snapshot = none)

/-- every contract-abiding step is such a step -/
theorem stp_of_gstep {q : Prop} {a b : Sys} (hstep : GStep q a b) (hreq : ReqOk a)
    (hinv : ∀ i st, a.node i = some st → st.raft.raftLog.Inv) :
    ∃ k st st', a.node k = some st ∧ b.node k = some st' ∧ (∀ v, v ≠ k → b.node v = a.node v) ∧
      Stp q a b k st st' := by
  cases hstep with
  | call k st st' rnd op res h1 h2 h3 h5 h6 h7 h9 h10 h8 h4 =>
    refine ⟨k, st, st', h1, node_setNode_self a k st', fun v hv => node_setNode_ne a k v st' hv, ?_⟩
    by_cases hpend : st.raft.raftLog.unstable.snapshot = none
    · exact .call rnd op res (.inl h2) h3 h5 (fun m hm => by rw [hm] at h2; cases h2) hpend h8 h4 rfl
        (h9 hpend) h10
    · have hop := h7 hpend
      subst hop
      exact .psnap rnd (h6 rfl hpend) (persist_out (hinv k st h1) h4) hpend rfl
  | deliver k st st' rnd m res h1 h2 h3 h5 h9 h6 h4 =>
    refine ⟨k, st, st', h1, node_setNode_self a k st', fun v hv => node_setNode_ne a k v st' hv, ?_⟩
    by_cases hty : m.msgType = .msgSnapshot
    · exact .snap rnd m h2 h3 hty h5 (snap_call hty (hreq k st h1) h4) rfl
    · exact .call rnd (.step m) res (.inr ⟨m, rfl, h2, h3⟩) (fun j hc => by cases hc)
        (fun j hc => by cases hc) (fun m' hm' => by cases hm'; exact hty) h5 h6 h4 rfl (h9 hty)
        (fun _ j hc => by cases hc)
  | send k st st' h1 h2 h2' h3 =>
    have hf : st'.raft.msgs = [] ∧ st'.raft.raftLog = st.raft.raftLog ∧
        st'.raft.term = st.raft.term ∧ st'.raft.state = st.raft.state ∧
        st'.raft = { st.raft with nextRand := none, msgs := [], readStates := [] } := by
      unfold Node.call at h3
      simp only [applyOp] at h3
      cases h3; exact ⟨rfl, rfl, rfl, rfl, rfl⟩
    exact ⟨k, st, st', h1, node_setNode_self a k st', fun v hv => node_setNode_ne a k v st' hv,
      .send h2 h2' hf.1 ⟨hf.2.1, hf.2.2.1, hf.2.2.2.1⟩ rfl hf.2.2.2.2⟩
  | restart k st st' c rnd h1 h2 h3 h4 =>
    exact ⟨k, st, st', h1, node_setNode_self a k st', fun v hv => node_setNode_ne a k v st' hv,
      .restart c rnd h3 rfl h4⟩

/-- the transport after the step: what was there, plus (for a `send`) the queue of the stepping node -/
theorem Stp.net_sub {q : Prop} {a b : Sys} {k : Nat} {st st' : NState} (hs : Stp q a b k st st') :
    ∀ x ∈ b.net, x ∈ a.net ∨ x ∈ st.raft.msgs := by
  intro x hx
  cases hs with
  | call _ _ _ _ _ _ _ _ _ _ hnet _ => rw [hnet] at hx; exact .inl hx
  | snap _ _ _ _ _ _ _ hnet => rw [hnet] at hx; exact .inl hx
  | psnap _ _ _ _ hnet => rw [hnet] at hx; exact .inl hx
  | send _ _ _ _ hnet _ => rw [hnet] at hx; exact List.mem_append.1 hx
  | restart _ _ _ hnet _ => rw [hnet] at hx; exact .inl hx

/-- a message that enters the transport does so together with the whole queue of the stepping node -/
theorem Stp.net_sent {q : Prop} {a b : Sys} {k : Nat} {st st' : NState} (hs : Stp q a b k st st')
    {x : Message} (hx : x ∈ b.net) (hn : x ∉ a.net) : ∀ y ∈ st.raft.msgs, y ∈ b.net := by
  intro y hy
  cases hs with
  | call _ _ _ _ _ _ _ _ _ _ hnet _ => rw [hnet] at hx; exact absurd hx hn
  | snap _ _ _ _ _ _ _ hnet => rw [hnet] at hx; exact absurd hx hn
  | psnap _ _ _ _ hnet => rw [hnet] at hx; exact absurd hx hn
  | send _ _ _ _ hnet _ => rw [hnet]; exact List.mem_append_right _ hy
  | restart _ _ _ hnet _ => rw [hnet] at hx; exact absurd hx hn

theorem Stp.net_mono {q : Prop} {a b : Sys} {k : Nat} {st st' : NState} (hs : Stp q a b k st st') :
    ∀ x ∈ a.net, x ∈ b.net := by
  intro x hx
  cases hs with
  | call _ _ _ _ _ _ _ _ _ _ hnet _ => rw [hnet]; exact hx
  | snap _ _ _ _ _ _ _ hnet => rw [hnet]; exact hx
  | psnap _ _ _ _ hnet => rw [hnet]; exact hx
  | send _ _ _ _ hnet _ => rw [hnet]; exact List.mem_append_left _ hx
  | restart _ _ _ hnet _ => rw [hnet]; exact hx

/-- the per-call relation of a `call` step that is not the delivery of a snapshot -/
theorem kstep_g {s : Sys} {i : Nat} {st st' : NState} {rnd : Option Nat} {op : NodeOp} {res : OpRes}
    (hm : MOKc s) (hnb : NoBatch s) (hi : s.node i = some st)
    (hop : appOp op = true ∨ ∃ m, op = .step m ∧ m ∈ s.net)
    (hns : ∀ m, op = .step m → m.msgType ≠ .msgSnapshot)
    (h : Node.call st rnd op = .ok (res, st')) :
    G (Anet s.net) st.raft (CV.opMsg op) st'.raft := by
  have hop' : op ≠ .drain ∧ ∀ m, op ≠ .rstep m := by
    rcases hop with h1 | ⟨m, h1, _⟩
    · constructor
      · intro hc; rw [hc] at h1; cases h1
      · intro m hc; rw [hc] at h1; cases h1
    · rw [h1]
      exact ⟨(by intro hc; cases hc), (by intro m' hc; cases hc)⟩
  refine call_g (Anet s.net) Anet.anti st st' rnd op res (hnb i st hi) (hm i st hi) hop' hns ?_ h
  intro m hm' t hack
  rcases hop with h1 | ⟨m', h1, h2⟩
  · rw [hm'] at h1; cases h1
  · rw [hm'] at h1; cases h1
    exact ⟨m, h2, ⟨hack.1, hack.2.1⟩, rfl, hack.2.2, Nat.le_refl _⟩

/-- the matched tables stay backed by the transport -/
theorem mokc_step {q : Prop} {a b : Sys} (hm : MOKc a) (hnb : NoBatch a) {k : Nat} {st st' : NState}
    (hka : a.node k = some st) (hkb : b.node k = some st')
    (hoth : ∀ v, v ≠ k → b.node v = a.node v) (hs : Stp q a b k st st') : MOKc b := by
  have hsub := hs.net_mono
  intro j stj hj
  by_cases hjk : j = k
  · subst hjk
    rw [hkb] at hj; cases hj
    cases hs with
    | call rnd op res hop _ _ hns _ _ hcall hnet _ =>
      have hop1 : appOp op = true ∨ ∃ m, op = .step m ∧ m ∈ a.net := by
        rcases hop with g | ⟨m, g1, g2, _⟩
        · exact .inl g
        · exact .inr ⟨m, g1, g2⟩
      rw [hnet]
      exact (kstep_g hm hnb hka hop1 hns hcall).mok
    | snap rnd m _ _ _ _ hout hnet =>
      rw [hnet]
      cases hout with
      | skip hr =>
        constructor
        rw [hr]
        exact (hm j st hka).h
      | handled x hsf _ _ _ _ _ _ _ _ _ _ => exact ⟨fun hl => by rw [hsf] at hl; cases hl⟩
    | psnap rnd _ hout _ hnet =>
      rw [hnet]
      have h0 := hm j st hka
      cases hout with
      | noop hr => constructor; rw [hr]; exact h0.h
      | done sn L _ hr _ _ _ hp _ _ _ _ _ =>
        constructor
        rw [hr]
        intro hl v x hx
        rcases h0.h hl v x hx with c | ⟨c1, c2⟩ | c
        · exact .inl c
        · exact .inr (.inl ⟨c1, by show x ≤ L.persisted; rw [hp]; omega⟩)
        · exact .inr (.inr c)
    | send _ _ _ _ hnet hr =>
      have h0 := (hm j st hka).mono (fun _ _ _ => Anet.mono (net' := b.net) hsub)
      constructor
      rw [hr]
      exact h0.h
    | restart c rnd hboot _ _ =>
      have hb := CV.boot_booted c _ rnd st' hboot
      exact ⟨fun hs => by rw [hb.state] at hs; cases hs⟩
  · rw [hoth j hjk] at hj
    exact (hm j stj hj).mono (fun _ _ _ => Anet.mono hsub)

/-- **the standing hypotheses** on a history of `ClusterSem` (all explicit, see the report): those of
`Snap.Hyp` with `Snap5.KStep` steps, **without** "no `MsgSnapshot` in the transport", and with
`reqok`: the log of a node with a pending snapshot request ends at or before the requested index
(`Snap2.Hyp` has `noreq` here; `reqok` is an invariant, discharged in `ClusterSnap6D`) -/
structure Hyp (cfg : JointConfig) (h : List Sys) : Prop where
  hist : History h
  fix : ∀ s ∈ h, FixedCfg cfg s
  ne : cfg.incoming ≠ []
  nd1 : cfg.incoming.Nodup
  nd2 : cfg.outgoing.Nodup
  init : ∀ s : Sys, h[0]? = some s → InitOk s
  steps : ∀ (n : Nat) (a b : Sys), h[n]? = some a → h[n + 1]? = some b → KStep a b
  nb : ∀ s ∈ h, NoBatch s
  reqok : ∀ s ∈ h, ReqOk s

/-- **the standing hypotheses, as far as they matter**: those of `Hyp` above with `GStep q` steps — the
clauses `SnapSend` and `compact k → k ≤ hard_state.commit` are owed only under `q` — and `quiet`:
without `q` no `MsgSnapshot` is ever in the transport.  Every lemma of this development is proved
under this bundle; `Hyp` implies it with `q := True` (`Hyp.g`), `Snap.Hyp` for a history without
pending snapshots with `q := False` -/
structure GHyp (q : Prop) (cfg : JointConfig) (h : List Sys) : Prop where
  hist : History h
  fix : ∀ s ∈ h, FixedCfg cfg s
  ne : cfg.incoming ≠ []
  nd1 : cfg.incoming.Nodup
  nd2 : cfg.outgoing.Nodup
  init : ∀ s : Sys, h[0]? = some s → InitOk s
  steps : ∀ (n : Nat) (a b : Sys), h[n]? = some a → h[n + 1]? = some b → GStep q a b
  nb : ∀ s ∈ h, NoBatch s
  reqok : ∀ s ∈ h, ReqOk s
  quiet : ¬ q → ∀ s ∈ h, NoSnapNet s

variable {q : Prop} {cfg : JointConfig} {h : List Sys}

theorem Hyp.g (H : Hyp cfg h) : GHyp True cfg h :=
  { hist := H.hist, fix := H.fix, ne := H.ne, nd1 := H.nd1, nd2 := H.nd2, init := H.init,
    steps := fun n a b ha hb => (H.steps n a b ha hb).g, nb := H.nb, reqok := H.reqok,
    quiet := fun nq => absurd trivial nq }

/-- a `MsgSnapshot` in the transport of a state of the history: the snapshot clauses are in force -/
theorem GHyp.q_of_net (H : GHyp q cfg h) {n : Nat} {s : Sys} (hn : h[n]? = some s) {x : Message}
    (hx : x ∈ s.net) (hty : x.msgType = .msgSnapshot) : q :=
  Classical.byContradiction fun nq => H.quiet nq s (mem_of_get hn) x hx hty

theorem GHyp.csteps (H : GHyp q cfg h) :
    ∀ (n : Nat) (a b : Sys), h[n]? = some a → h[n + 1]? = some b → CStep a b :=
  fun n a b ha hb => (H.steps n a b ha hb).cstep

/-- the Log Matching invariant in every state -/
theorem GHyp.invL (H : GHyp q cfg h) :
    ∃ s0, h[0]? = some s0 ∧ ∀ s ∈ h, InvL (Owner h) (EntriesOf s0) s :=
  RaftProps.C05.cluster_inv cfg H.ne H.nd1 H.nd2 h H.hist H.fix H.init H.csteps H.nb

/-- every step of the history, seen from the stepping node -/
theorem GHyp.stp (H : GHyp q cfg h) {n : Nat} {a b : Sys} (ha : h[n]? = some a)
    (hb : h[n + 1]? = some b) :
    ∃ k st st', a.node k = some st ∧ b.node k = some st' ∧ (∀ v, v ≠ k → b.node v = a.node v) ∧
      Stp q a b k st st' := by
  obtain ⟨s0, _, hall⟩ := H.invL
  exact stp_of_gstep (H.steps n a b ha hb) (H.reqok a (mem_of_get ha))
    (hall a (mem_of_get ha)).inv

/-- the matched tables are backed by the transport in every state -/
theorem GHyp.mokc (H : GHyp q cfg h) : ∀ (n : Nat) (s : Sys), h[n]? = some s → MOKc s := by
  refine hist_induct h (fun _ s => MOKc s) (fun s h0 => MOKc.init (hist_init H.hist s h0)) ?_
  intro n a b ha hb ih
  obtain ⟨k, st, st', hka, hkb, hoth, hs⟩ := H.stp ha hb
  exact mokc_step ih (H.nb a (mem_of_get ha)) hka hkb hoth hs

/-- **provenance** (as `Snap.provenance`): `K` selects a kind of message that is not an append
response; `hfresh` says what an ordinary call establishes for every message of that kind it queues -/
theorem GHyp.provenance (H : GHyp q cfg h) (K : Message → Prop)
    (hK : ∀ x, K x → x.msgType ≠ .msgAppendResponse)
    (Φ : Nat → Nat → Message → Prop)
    (hfresh : ∀ n a b i st st' rnd op res, h[n]? = some a → h[n + 1]? = some b →
      a.node i = some st → b.node i = some st' → Node.call st rnd op = .ok (res, st') →
      (appOp op = true ∨ ∃ m, op = .step m ∧ m ∈ a.net ∧ m.to = i) →
      (∀ j, op = .compact j → CompactOk st.raft.raftLog j) →
      (∀ m, op = .step m → m.msgType ≠ .msgSnapshot) →
      st.raft.raftLog.unstable.snapshot = none → (q → SnapSend st st') →
      b.net = a.net →
      ∀ x ∈ st'.raft.msgs, K x → x ∈ st.raft.msgs ∨ Φ (n + 1) i x) :
    ∀ n s, h[n]? = some s →
      (∀ i st, s.node i = some st → ∀ x ∈ st.raft.msgs, K x → Gen Φ n i x) ∧
      (∀ x ∈ s.net, K x → ∃ i, Gen Φ n i x) := by
  refine hist_provenance h H.hist (fun n a b ha hb => (H.steps n a b ha hb).moved) K Φ ?_
  intro n a b i st st' _ _ _ ha hb hi hi' _ _ _ _ x hx hk
  -- the step as the towers see it: an ordinary call, or one that queues nothing of kind `K`
  obtain ⟨k, s0, s0', hka, hkb, hoth, hs⟩ := H.stp ha hb
  by_cases hik : i = k
  · subst hik
    rw [hka] at hi; cases hi
    rw [hkb] at hi'; cases hi'
    cases hs with
    | call rnd op res hop hco _ hns hpn hss hcall hnet _ =>
      exact hfresh n a b i st st' rnd op res ha hb hka hkb hcall hop hco hns hpn hss hnet x hx hk
    | snap rnd m _ _ _ _ hout _ => exact (hout.msgs x hx).imp_right fun g => absurd g.1 (hK x hk)
    | psnap rnd _ hout _ _ => rw [hout.msgs] at hx; exact .inl hx
    | send _ _ hq _ _ _ => rw [hq] at hx; cases hx
    | restart c rnd hboot _ _ => rw [(CV.boot_booted c _ rnd st' hboot).msgs] at hx; cases hx
  · rw [hoth i hik, hi] at hi'; cases hi'; exact .inl hx

theorem provenance (H : Hyp cfg h) (K : Message → Prop)
    (hK : ∀ x, K x → x.msgType ≠ .msgAppendResponse)
    (Φ : Nat → Nat → Message → Prop)
    (hfresh : ∀ n a b i st st' rnd op res, h[n]? = some a → h[n + 1]? = some b →
      a.node i = some st → b.node i = some st' → Node.call st rnd op = .ok (res, st') →
      (appOp op = true ∨ ∃ m, op = .step m ∧ m ∈ a.net ∧ m.to = i) →
      (∀ j, op = .compact j → CompactOk st.raft.raftLog j) →
      (∀ m, op = .step m → m.msgType ≠ .msgSnapshot) →
      st.raft.raftLog.unstable.snapshot = none → SnapSend st st' →
      b.net = a.net →
      ∀ x ∈ st'.raft.msgs, K x → x ∈ st.raft.msgs ∨ Φ (n + 1) i x) :
    ∀ n s, h[n]? = some s →
      (∀ i st, s.node i = some st → ∀ x ∈ st.raft.msgs, K x → Gen Φ n i x) ∧
      (∀ x ∈ s.net, K x → ∃ i, Gen Φ n i x) :=
  H.g.provenance K hK Φ fun n a b i st st' rnd op res ha hb hi hi' hcall hop hco hns hpn hss =>
    hfresh n a b i st st' rnd op res ha hb hi hi' hcall hop hco hns hpn (hss trivial)

/-- **the leader's commit step** (as `Snap.Hyp.commit_step`) -/
theorem GHyp.commit_step (H : GHyp q cfg h) (n : Nat) (a b : Sys)
    (ha : h[n]? = some a) (hb : h[n + 1]? = some b) (l : Nat) (sta stb : NState)
    (hla : a.node l = some sta) (hlb : b.node l = some stb) (hs : stb.raft.state = .leader)
    (hc : sta.raft.raftLog.committed < stb.raft.raftLog.committed) :
    stb.raft.raftLog.term stb.raft.raftLog.committed = .ok stb.raft.term ∧
    ∃ Q, IsJointQuorum cfg Q ∧ ∀ j ∈ Q,
      (j = l ∧ stb.raft.raftLog.committed ≤ stb.raft.raftLog.persisted) ∨
      Anet a.net j stb.raft.term stb.raft.raftLog.committed := by
  have hm := H.mokc n a ha
  have hnb := H.nb a (mem_of_get ha)
  have hfix := H.fix b (mem_of_get hb) l stb hlb
  obtain ⟨hid, _⟩ := ((hist_all H.hist).1 b (mem_of_get hb)).ids l stb hlb
  obtain ⟨k, st, st', hka, hkb, hoth, hstp⟩ := H.stp ha hb
  -- the relation of the step at node `l`
  have key : (∃ m, G (Anet a.net) sta.raft m stb.raft) ∨
      stb.raft.raftLog.committed = sta.raft.raftLog.committed ∨ stb.raft.state ≠ .leader := by
    by_cases hlk : l = k
    · subst hlk
      rw [hka] at hla; cases hla
      rw [hkb] at hlb; cases hlb
      cases hstp with
      | call rnd op res hop _ _ hns _ _ hcall _ _ =>
        have hop1 : appOp op = true ∨ ∃ m, op = .step m ∧ m ∈ a.net := by
          rcases hop with g | ⟨m, g1, g2, _⟩
          · exact .inl g
          · exact .inr ⟨m, g1, g2⟩
        exact .inl ⟨_, kstep_g hm hnb hka hop1 hns hcall⟩
      | snap rnd m _ _ _ _ hout _ =>
        cases hout with
        | skip hr => exact .inr (.inl (by rw [hr]))
        | handled x hsf _ _ _ _ _ _ _ _ _ _ => exact .inr (.inr (by rw [hsf]; intro hc; cases hc))
      | psnap rnd _ hout _ _ =>
        cases hout with
        | noop hr => exact .inr (.inl (by rw [hr]))
        | done sn L _ hr _ _ hcm _ _ _ _ _ _ => exact .inr (.inl (by rw [hr]; exact hcm))
      | send _ _ _ hsame _ _ => exact .inr (.inl (by rw [hsame.1]))
      | restart c rnd hboot _ _ =>
        exact .inr (.inr (by rw [(CV.boot_booted c _ rnd stb hboot).state]; intro hcc; cases hcc))
    · rw [hoth l hlk, hla] at hlb; cases hlb
      exact .inr (.inl rfl)
  rcases key with ⟨_, g⟩ | g | g
  · exact commit_of_lc g.lc g.mok hfix hid hs hc
  · omega
  · exact absurd hs g

end Snap5
end Cluster
end RaftModel
