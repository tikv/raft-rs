import RaftModel.Proto

/-!
List-level lemmas of the log layer: the *prefix-from-leader* property `PFL` and the follower-side
merge rule `mergeAt` (`maybe_append`: keep while terms agree, truncate at the first conflict).
-/
namespace RaftModel.P

/-- prefix-from-leader: every prefix of `l` ending in an entry of term `t` is a prefix of the (ghost)
log of the leader of `t` -/
def PFL (llog : Nat → List LEntry) (l : List LEntry) : Prop :=
  ∀ i e, l[i]? = some e → l.take (i + 1) = (llog e.term).take (i + 1)

theorem PFL_nil (llog : Nat → List LEntry) : PFL llog [] := by
  intro i e h; simp at h

theorem PFL_take {llog l} (h : PFL llog l) (n : Nat) : PFL llog (l.take n) := by
  intro i e hi
  rw [List.getElem?_take] at hi
  split at hi
  · rename_i hlt
    have := h i e hi
    rw [List.take_take, Nat.min_eq_left (by omega)]
    exact this
  · cases hi

/-- two lists satisfying PFL that carry the same term at position `i` agree up to `i` -/
theorem PFL_agree {llog l L} (hl : PFL llog l) (hL : PFL llog L) {i : Nat} {x e : LEntry}
    (hx : l[i]? = some x) (he : L[i]? = some e) (ht : x.term = e.term) :
    l.take (i + 1) = L.take (i + 1) := by
  rw [hl i x hx, hL i e he, ht]

/-- under PFL the leader log of the entry's term is long enough -/
theorem PFL_len {llog} {l : List LEntry} (h : PFL llog l) :
    ∀ (i : Nat) (e : LEntry), l[i]? = some e → i < (llog e.term).length := by
  intro i e hi
  have h1 := h i e hi
  have h2 : (l.take (i + 1)).length = i + 1 := by
    have := (List.getElem?_eq_some_iff.mp hi).1
    rw [List.length_take]; omega
  rw [h1, List.length_take] at h2
  omega

/-- under PFL an entry sits at the same position in the leader log of its term -/
theorem PFL_mem {llog} {l : List LEntry} (h : PFL llog l) :
    ∀ (i : Nat) (e : LEntry), l[i]? = some e → (llog e.term)[i]? = some e := by
  intro i e hi
  have h1 := h i e hi
  have hlt := (List.getElem?_eq_some_iff.mp hi).1
  have : (l.take (i + 1))[i]? = some e := by rw [List.getElem?_take]; simp [hi]
  rw [h1, List.getElem?_take] at this
  simpa using this

/-- PFL is stable when ghost leader logs only grow by extension -/
theorem PFL_mono {llog llog' : Nat → List LEntry} {l}
    (hext : ∀ t, ∃ r, llog' t = llog t ++ r) (h : PFL llog l) : PFL llog' l := by
  intro i e hi
  obtain ⟨r, hr⟩ := hext e.term
  rw [h i e hi, hr, List.take_append_of_le_length]
  have := PFL_len h i e hi; omega

theorem PFL_snoc {llog : Nat → List LEntry} {l : List LEntry} {n : LEntry} (h : PFL llog l)
    (hn : (llog n.term).take (l.length + 1) = l ++ [n]) : PFL llog (l ++ [n]) := by
  intro i e hi
  by_cases hlt : i < l.length
  · rw [List.getElem?_append_left hlt] at hi
    rw [List.take_append_of_le_length (by omega)]
    exact h i e hi
  · have hge : l.length ≤ i := by omega
    rw [List.getElem?_append_right hge] at hi
    have hi0 : i - l.length = 0 := by
      cases hk : i - l.length with
      | zero => rfl
      | succ k => rw [hk] at hi; simp at hi
    rw [hi0] at hi
    simp at hi
    subst hi
    have : i = l.length := by omega
    subst this
    rw [hn]
    exact List.take_of_length_le (by simp)

theorem termAt_pos {l : List LEntry} {k : Nat} (hk : 0 < k) (e : LEntry) (h : l[k - 1]? = some e) :
    termAt l k = e.term := by
  unfold termAt
  rw [if_neg (by omega), h]

theorem termAt_append_left (l r : List LEntry) {k : Nat} (hk : k ≤ l.length) :
    termAt (l ++ r) k = termAt l k := by
  unfold termAt
  by_cases h0 : k = 0
  · simp [h0]
  · rw [if_neg h0, if_neg h0, List.getElem?_append_left (by omega)]

/-- equal anchor terms (at a position inside both lists) give equal prefixes -/
theorem anchor_take {llog l L} {prev : Nat} (hl : PFL llog l) (hL : PFL llog L)
    (h1 : prev ≤ l.length) (h2 : prev ≤ L.length) (ht : termAt l prev = termAt L prev) :
    l.take prev = L.take prev := by
  by_cases h0 : prev = 0
  · subst h0; simp
  have hp : 0 < prev := by omega
  have hx : ∃ x, l[prev - 1]? = some x := ⟨l[prev - 1]'(by omega), List.getElem?_eq_getElem (by omega)⟩
  have hy : ∃ y, L[prev - 1]? = some y := ⟨L[prev - 1]'(by omega), List.getElem?_eq_getElem (by omega)⟩
  obtain ⟨x, hx⟩ := hx
  obtain ⟨y, hy⟩ := hy
  rw [termAt_pos hp x hx, termAt_pos hp y hy] at ht
  have := PFL_agree hl hL hx hy ht
  have e : prev - 1 + 1 = prev := by omega
  rw [e] at this
  exact this

/-- a non-empty slice of `L` at `pos`: its head is `L[pos]`, its tail the slice at `pos + 1` -/
theorem slice_cons {L : List LEntry} {pos : Nat} {e : LEntry} {es : List LEntry}
    (hes : e :: es = (L.drop pos).take (e :: es).length) :
    L[pos]? = some e ∧ es = (L.drop (pos + 1)).take es.length := by
  have hLe : L[pos]? = some e := by
    have h0 : (e :: es)[0]? = some e := rfl
    rw [hes, List.getElem?_take] at h0
    simp at h0
    exact h0
  refine ⟨hLe, ?_⟩
  have hposL : pos < L.length := (List.getElem?_eq_some_iff.mp hLe).1
  rw [List.drop_eq_getElem_cons hposL] at hes
  simp only [List.length_cons, List.take_succ_cons] at hes
  injection hes

/-- `maybe_append` of a slice of the leader's log `L`, anchored in `L`: either every entry of the slice
was there already (the log is unchanged and agrees with `L` up to the end of the slice), or the log
becomes the prefix of `L` up to the end of the slice -/
theorem mergeAt_cases (llog : Nat → List LEntry) (L : List LEntry) (hL : PFL llog L) :
    ∀ (es : List LEntry) (l : List LEntry) (pos : Nat), PFL llog l → pos ≤ l.length →
      l.take pos = L.take pos → es = (L.drop pos).take es.length → pos + es.length ≤ L.length →
      (mergeAt l pos es = l ∧ l.take (pos + es.length) = L.take (pos + es.length)) ∨
      mergeAt l pos es = L.take (pos + es.length) := by
  intro es
  induction es with
  | nil => intro l pos _ _ hpre _ _; exact Or.inl ⟨rfl, hpre⟩
  | cons e es ih =>
    intro l pos hl hpos hpre hes hlen
    obtain ⟨hLe, hes'⟩ := slice_cons hes
    have hconf : l.take pos ++ (e :: es) = L.take (pos + (e :: es).length) := by
      rw [hpre, hes, List.length_take]
      have : min (e :: es).length (L.drop pos).length = (e :: es).length := by
        rw [List.length_drop]; simp only [List.length_cons] at hlen ⊢; omega
      rw [this, List.take_add]
    have e1 : pos + (e :: es).length = pos + 1 + es.length := by simp only [List.length_cons]; omega
    unfold mergeAt
    cases hx : l[pos]? with
    | none => right; simpa using hconf
    | some x =>
      simp only
      by_cases ht : x.term = e.term
      · simp only [ht, if_true]
        have hpos' : pos + 1 ≤ l.length := by
          have := (List.getElem?_eq_some_iff.mp hx).1; omega
        rw [e1]
        exact ih l (pos + 1) hl hpos' (PFL_agree hl hL hx hLe ht) hes' (by omega)
      · simp only [ht, if_false]; right; exact hconf

theorem mergeAt_spec (llog : Nat → List LEntry) (L : List LEntry) (hL : PFL llog L) :
    ∀ (es : List LEntry) (l : List LEntry) (pos : Nat), PFL llog l → pos ≤ l.length →
      l.take pos = L.take pos → es = (L.drop pos).take es.length → pos + es.length ≤ L.length →
      mergeAt l pos es = l ∨ mergeAt l pos es = L.take (pos + es.length) :=
  fun es l pos hl hpos hpre hes hlen => (mergeAt_cases llog L hL es l pos hl hpos hpre hes hlen).imp And.left id

/-- after `maybe_append` the log agrees with the leader's log up to the last index of the message -/
theorem mergeAt_take (llog : Nat → List LEntry) (L : List LEntry) (hL : PFL llog L) :
    ∀ (es : List LEntry) (l : List LEntry) (pos : Nat), PFL llog l → pos ≤ l.length →
      l.take pos = L.take pos → es = (L.drop pos).take es.length → pos + es.length ≤ L.length →
      (mergeAt l pos es).take (pos + es.length) = L.take (pos + es.length) := by
  intro es l pos hl hpos hpre hes hlen
  rcases mergeAt_cases llog L hL es l pos hl hpos hpre hes hlen with ⟨h1, h2⟩ | h
  · rw [h1]; exact h2
  · rw [h, List.take_take, Nat.min_self]

/-- `mergeAt` never touches the part of the log before the first conflict, and leaves the log alone
when there is none -/
theorem mergeAt_prefix : ∀ (es : List LEntry) (l : List LEntry) (pos : Nat), pos ≤ l.length →
    (conflictAt l pos es = 0 → mergeAt l pos es = l) ∧
    (0 < conflictAt l pos es → pos < conflictAt l pos es ∧
      (mergeAt l pos es).take (conflictAt l pos es - 1) = l.take (conflictAt l pos es - 1)) := by
  intro es
  induction es with
  | nil => intro l pos _; simp [conflictAt, mergeAt]
  | cons e es ih =>
    intro l pos hpos
    unfold conflictAt mergeAt
    cases hx : l[pos]? with
    | none =>
      simp only
      refine ⟨by omega, fun _ => ⟨by omega, ?_⟩⟩
      simp only [Nat.add_sub_cancel]
      have hge := List.getElem?_eq_none_iff.mp hx
      have hp : pos = l.length := by omega
      subst hp
      rw [List.take_of_length_le (Nat.le_refl _), List.take_left']
      rfl
    | some x =>
      simp only
      have hlt := (List.getElem?_eq_some_iff.mp hx).1
      by_cases ht : x.term = e.term
      · simp only [ht, if_true]
        have := ih l (pos + 1) (by omega)
        refine ⟨this.1, fun h => ⟨by have := (this.2 h).1; omega, (this.2 h).2⟩⟩
      · simp only [ht, if_false]
        refine ⟨by omega, fun _ => ⟨by omega, ?_⟩⟩
        simp only [Nat.add_sub_cancel]
        rw [List.take_append_of_le_length (by simp [List.length_take]; omega)]
        rw [List.take_take]; simp

end RaftModel.P
