import RaftProofs.ProtoCDefs
import RaftProofs.ProtoVol

/-!
The **commit layer** of P, clause group `InvC3`: quorum evidence of every leader commit (`cq`), commit
soundness of every node's volatile / pending-image / durable state (`cm`, `cmi`, `cmd`) and of the
carriers of commit indexes (`capp`, `chb`, `csn`, `ccl`) hold initially and are preserved by every
event of P, given the full invariant of the pre-state.

The step is proved by family of clauses, each by the events that concern it: the ghost clauses `cq`,
`cc`, `gd` change at `commitLeader` and `win` (`commit_frame`, `election_frame`); the carriers at the four
sending events (`net_frame`); `cmi`, `cmd` are about old images (`stages_step`); `cm` is the one that
looks at every event that moves a log or a commit index (`cm_step`).
-/
namespace RaftModel.P

/-! ### small helpers -/

theorem termAt_gt_len {l : List LEntry} {k : Nat} (h : l.length < k) : termAt l k = 0 := by
  unfold termAt
  split
  · rfl
  · rw [List.getElem?_eq_none (by omega)]

theorem termAt_ge_one {l : List LEntry} {k : Nat} (h0 : 0 < k) (hk : k ≤ l.length)
    (hl : ∀ e ∈ l, 1 ≤ e.term) : 1 ≤ termAt l k := by
  have hx : l[k - 1]? = some (l[k - 1]'(by omega)) := List.getElem?_eq_getElem (by omega)
  rw [termAt_pos h0 _ hx]
  exact hl _ (List.getElem_mem _)

/-- `maybe_append` under the guard of `recvApp` keeps the committed prefix -/
theorem mergeAt_take_commit (l es : List LEntry) (pos c : Nat) (hpos : pos ≤ l.length)
    (hg : conflictAt l pos es = 0 ∨ c < conflictAt l pos es) : (mergeAt l pos es).take c = l.take c := by
  have hp := mergeAt_prefix es l pos hpos
  rcases hg with h0 | hgt
  · rw [hp.1 h0]
  · exact take_of_take_eq (hp.2 (by omega)).2 (by omega)

theorem CmtPre.mono_term {s : PSys} {t t' k : Nat} {l : List LEntry} (h : CmtPre s t k l) (ht : t ≤ t') :
    CmtPre s t' k l := by
  rcases h with h | ⟨p, hp, h1, h2, h3⟩
  · exact Or.inl h
  · exact Or.inr ⟨p, hp, h1, by omega, h3⟩

/-! ### transport along a step: `cmts`/`acks` only grow, ghost logs change by `Grow` -/

theorem CmtPre.grow {s s' : PSys} {t k : Nat} {l : List LEntry} (h : CmtPre s t k l)
    (h3 : InvC3 s) (g : Grow s s') (hcs : ∀ p ∈ s.cmts, p ∈ s'.cmts) : CmtPre s' t k l := by
  rcases h with h | ⟨p, hp, h1, h2, h4⟩
  · exact Or.inl h
  · have hq := h3.cq p hp
    have hlen := hq.2.1
    refine Or.inr ⟨p, hcs p hp, h1, h2, ?_⟩
    rw [g.take_eq hq.2.2.2.1 (by omega)]; exact h4

/-! ### initial state -/

theorem invC3_init : InvC3 init := by
  constructor
  · intro p hp; simp [init] at hp
  · rfl
  · intro pc hpc; simp [init] at hpc
  · intro i; exact Or.inl rfl
  · intro i im him; simp [init] at him
  · intro i; exact Or.inl rfl
  · intro m hm; simp [init] at hm
  · intro m hm; simp [init] at hm
  · intro m hm; simp [init] at hm
  · intro m hm; simp [init] at hm

/-! ### `cm`: every event that moves a log, a term or a commit index -/

theorem cm_step (s s' : PSys) (e : Event) (h : applyEvent s e = .ok s')
    (hL : InvL s) (hA : InvA s) (hB : InvB s) (hC : InvC s) (g : Grow s s') (j : Nat) :
    CmtPre s' (s'.nodes j).term (s'.nodes j).commit (s'.nodes j).log := by
  have h3 := hC.c3
  have hcs := cmts_step s s' e h
  -- an event replaces one node record: it is enough to show the new one sound, against the pre-state
  have one : ∀ (i : Nat) (n' : PNode), CmtPre s n'.term n'.commit n'.log →
      CmtPre s (upd s.nodes i n' j).term (upd s.nodes i n' j).commit (upd s.nodes i n' j).log := by
    intro i n' hi
    by_cases hj : j = i
    · subst hj; rw [upd_same]; exact hi
    · rw [upd_other _ _ _ _ hj]; exact h3.cm j
  cases e with
  | read r => obtain ⟨rd, rfl⟩ := read_frame h; exact (h3.cm j).grow h3 g hcs
  | sendApp i m | sendHB i to c | claim i idx | sendSnap i idx =>
    obtain ⟨_, rfl⟩ := of_guard_ok h; exact (h3.cm j).grow h3 g hcs
  | campaign i | stepDown i | ackCommitted i | ackSelf i idx | rdy i | crash i | win i cfg q =>
    obtain ⟨_, rfl⟩ := of_guard_ok h; refine (one i _ ?_).grow h3 g hcs; exact h3.cm i
  | grant i c => obtain ⟨_, _, _, _, rfl⟩ := grant_ok h; refine (one i _ ?_).grow h3 g hcs; exact h3.cm i
  | persist i k => obtain ⟨_, _, _, rfl⟩ := persist_ok h; refine (one i _ ?_).grow h3 g hcs; exact h3.cm i
  | release i key =>
    rcases release_ok h with ⟨_, ⟨_, _, _, _, _, rfl⟩ | ⟨_, _, _, _, _, _, _, rfl⟩ | ⟨_, _, _, _, _, _, _, rfl⟩⟩
    · exact (h3.cm j).grow h3 g hcs
    · refine (one i _ ?_).grow h3 g hcs; exact h3.cm i
    · refine (one i _ ?_).grow h3 g hcs; exact h3.cm i
  | bump i t =>
    obtain ⟨hg, rfl⟩ := of_guard_ok h
    refine (one i _ ?_).grow h3 g hcs; exact ((h3.cm i).mono_term (Nat.le_of_lt hg.2))
  | restart i => obtain ⟨_, rfl⟩ := of_guard_ok h; refine (one i _ ?_).grow h3 g hcs; exact h3.cmd i
  | leaderAppend i x =>
    obtain ⟨_, rfl⟩ := of_guard_ok h
    refine (one i _ ?_).grow h3 g hcs
    rcases h3.cm i with h0 | ⟨p, hp, p1, p2, p3⟩
    · exact Or.inl h0
    · have hq := (h3.cq p hp).2.1
      have hlen := len_of_take_eq p3 (by omega)
      exact Or.inr ⟨p, hp, p1, p2, by rw [List.take_append_of_le_length hlen]; exact p3⟩
  | recvApp i m =>
    obtain ⟨⟨_, _, _, _, hprev, _, hconf⟩, rfl⟩ := of_guard_ok h
    refine (one i _ ?_).grow h3 g hcs
    rcases h3.cm i with h0 | ⟨p, hp, p1, p2, p3⟩
    · exact Or.inl h0
    · exact Or.inr ⟨p, hp, p1, p2, by rw [mergeAt_take_commit _ _ _ _ hprev hconf]; exact p3⟩
  | commitLeader i c cfg q =>
    obtain ⟨_, hrole, _, _, _, _, _, _, _, rfl⟩ := commitLeader_guard h
    by_cases hj : j = i
    · subst hj
      simp only [upd_same]
      exact Or.inr ⟨((s.nodes j).term, c), List.mem_cons_self, Nat.le_refl _, Nat.le_refl _, by
        rw [hL.ll j hrole]⟩
    · simp only [upd_other _ _ _ _ hj]; exact (h3.cm j).grow h3 g hcs
  | commitApp i c m =>
    obtain ⟨⟨_, hm, hmt, _, hcm, hce, _, hpt, hconf⟩, rfl⟩ := of_guard_ok h
    have hm : m ∈ s.apps := List.contains_iff_mem.1 hm
    have hlen := (hL.msg m hm).len
    have hprev : m.prev ≤ (s.nodes i).log.length := by
      by_cases hp : m.prev ≤ (s.nodes i).log.length
      · exact hp
      · exfalso
        have h0 := termAt_gt_len (l := (s.nodes i).log) (k := m.prev) (by omega)
        have h1 := termAt_ge_one (l := s.llog m.term) (k := m.prev) (by omega) (by omega)
          (fun e he => (hL.lterm _ e he).1)
        have := (hL.msg m hm).anchor
        omega
    obtain ⟨ok, hpre, _⟩ := recvApp_sem hL hm hprev hpt
    have htk := noconflict_take s.llog (s.llog m.term) (hL.pfl _ (listsOf_llog s m.term)) m.es (s.nodes i).log
      m.prev (keep_log s hL i) hprev hpre ok.slice ok.len hconf
    have hcm : CmtPre s m.term c (s.nodes i).log :=
      CmtPre.of_cmtd hB hC ((h3.capp m hm).mono_idx hcm) ok.hl (take_of_take_eq htk hce)
    refine (one i _ ?_).grow h3 g hcs; exact (hmt ▸ hcm)
  | commitHB i c m =>
    obtain ⟨⟨hup, hm, hmt, hto, hlt, hle, _⟩, rfl⟩ := of_guard_ok h
    obtain ⟨hel, hcd, hak⟩ := h3.chb m (List.contains_iff_mem.1 hm)
    rcases hak with hak | ⟨a, ha, a1, a2, a3⟩
    · omega
    · have hd := hA.sub a ha
      rw [a2, hto] at hd
      have hret := hC.c1.ret i _ _ _ _ (hA.o1 i hup _ hd rfl) c (by omega) (by rw [a1, hmt]; exact NCle_self _ _ _)
      have hcm : CmtPre s m.term c (s.nodes i).log :=
        CmtPre.of_cmtd hB hC (hcd.mono_idx hle) hel (by rw [hret, a1])
      refine (one i _ ?_).grow h3 g hcs; exact (hmt ▸ hcm)
  | commitClaim i m =>
    obtain ⟨hg, rfl⟩ := of_guard_ok h
    obtain ⟨cl, hcl, hc⟩ := List.any_eq_true.1 hg.2.1
    obtain ⟨c1, c2, c3⟩ := of_decide_eq_true hc
    rcases h3.ccl cl hcl with h0 | ⟨p, hp, p1, p2, p3⟩
    · have := hg.2.2.1; omega
    · have hq := (h3.cq p hp).2.1
      have hta : termAt (s.nodes i).log m.idx = termAt (s.llog p.1) m.idx := by
        rw [hg.2.2.2.2, ← c2, p3, c1]
      have htk := anchor_take (keep_log s hL i) (hL.pfl _ (listsOf_llog s p.1)) hg.2.2.2.1 (by omega) hta
      have hcm : CmtPre s (s.nodes i).term m.idx (s.nodes i).log := Or.inr ⟨p, hp, by omega, by omega, htk⟩
      refine (one i _ ?_).grow h3 g hcs; exact hcm
  | installSnap i t idx sterm =>
    obtain ⟨m, hmem, _, hg, rfl⟩ := installSnap_ok h
    refine (one i _ ?_).grow h3 g hcs; exact (hg.2.1 ▸ snap_cmtPre hB hC hmem)
  | commitSnap i t idx sterm =>
    obtain ⟨m, hmem, _, hg, rfl⟩ := commitSnap_ok h
    obtain ⟨e1, e2, e3, _, e5⟩ := h3.csn m hmem
    have htk := anchor_take (keep_log s hL i) (hL.pfl _ (listsOf_llog s m.term)) hg.2.2.2.1 e3
      (hg.2.2.2.2.trans e5)
    refine (one i _ ?_).grow h3 g hcs; exact (hg.2.1 ▸ CmtPre.of_cmtd hB hC e2 e1 htk)
  | bootstrap i donor idx =>
    obtain ⟨_, _, h13, h14, _, rfl⟩ := bootstrap_ok h
    have hcm : CmtPre s (s.nodes donor).dterm idx ((s.nodes donor).dlog.take idx) := by
      rcases h3.cmd donor with h0 | ⟨p, hp, p1, p2, p3⟩
      · exact Or.inl (by omega)
      · exact Or.inr ⟨p, hp, by omega, p2, by rw [List.take_take, Nat.min_self]; exact take_of_take_eq p3 h14⟩
    refine (one i _ ?_).grow h3 g hcs; exact hcm

/-! ### the carriers of commit indexes: the four sending events -/

theorem carriers_step (s s' : PSys) (e : Event) (h : applyEvent s e = .ok s')
    (hV : InvV (vsys s)) (hL : InvL s) (h3 : InvC3 s) (g : Grow s s') :
    (∀ m ∈ s'.apps, Cmtd s' m.term m.commit) ∧
    (∀ m ∈ s'.hbs, Elected s' m.term ∧ Cmtd s' m.term m.commit ∧
      (m.commit = 0 ∨ ∃ a ∈ s'.acks, a.term = m.term ∧ a.frm = m.to ∧ m.commit ≤ a.idx)) ∧
    (∀ m ∈ s'.snaps, Elected s' m.term ∧ Cmtd s' m.term m.idx ∧ m.idx ≤ (s'.llog m.term).length ∧
      m.pre = (s'.llog m.term).take m.idx ∧ m.sterm = termAt (s'.llog m.term) m.idx) ∧
    (∀ m ∈ s'.claims, m.idx = 0 ∨ ∃ p ∈ s'.cmts, m.idx ≤ p.2 ∧ p.1 ≤ m.cterm ∧
      m.term = termAt (s'.llog p.1) m.idx) := by
  have hcs := cmts_step s s' e h
  have has : ∀ a ∈ s.acks, a ∈ s'.acks := fun a ha => released_mono h (.ack a.term a.frm a.idx a.pre) ha
  -- what holds of a carrier stays true: commits and acknowledgements are kept, ghost logs only extended
  have kapp : ∀ m ∈ s.apps, Cmtd s' m.term m.commit := fun m hm => (h3.capp m hm).mono hcs
  have khb : ∀ m ∈ s.hbs, Elected s' m.term ∧ Cmtd s' m.term m.commit ∧
      (m.commit = 0 ∨ ∃ a ∈ s'.acks, a.term = m.term ∧ a.frm = m.to ∧ m.commit ≤ a.idx) := by
    intro m hm
    obtain ⟨e1, e2, e3⟩ := h3.chb m hm
    exact ⟨g.el _ e1, e2.mono hcs, e3.imp id fun ⟨a, ha, e3⟩ => ⟨a, has a ha, e3⟩⟩
  have ksn : ∀ m ∈ s.snaps, Elected s' m.term ∧ Cmtd s' m.term m.idx ∧ m.idx ≤ (s'.llog m.term).length ∧
      m.pre = (s'.llog m.term).take m.idx ∧ m.sterm = termAt (s'.llog m.term) m.idx := by
    intro m hm
    obtain ⟨e1, e2, e3, e4, e5⟩ := h3.csn m hm
    exact ⟨g.el _ e1, e2.mono hcs, Nat.le_trans e3 (g.len_le e1), by rw [g.take_eq e1 e3]; exact e4,
      by rw [g.termAt_eq e1 e3]; exact e5⟩
  have kcl : ∀ m ∈ s.claims, m.idx = 0 ∨ ∃ p ∈ s'.cmts, m.idx ≤ p.2 ∧ p.1 ≤ m.cterm ∧
      m.term = termAt (s'.llog p.1) m.idx := by
    intro m hm
    rcases h3.ccl m hm with e0 | ⟨p, hp, e1, e2, e3⟩
    · exact Or.inl e0
    · have hq := h3.cq p hp
      exact Or.inr ⟨p, hcs p hp, e1, e2, by rw [g.termAt_eq hq.2.2.2.1 (by have := hq.2.1; omega)]; exact e3⟩
  rcases net_frame h with ⟨i, m, rfl, rfl⟩ | ⟨i, to, c, rfl, rfl⟩ | ⟨i, idx, rfl, rfl⟩ | ⟨i, idx, rfl, rfl⟩ |
    ⟨e1, e2, e3, e4⟩
  · obtain ⟨⟨_, _, hmt, _, _, _, _, hmc⟩, _⟩ := of_guard_ok h
    refine ⟨fun m' hm' => ?_, khb, ksn, kcl⟩
    rcases List.mem_cons.1 hm' with rfl | hm'
    · exact hmt ▸ (h3.cm i).cmtd.mono_idx hmc
    · exact kapp m' hm'
  · obtain ⟨hg, _⟩ := of_guard_ok h
    refine ⟨kapp, fun m' hm' => ?_, ksn, kcl⟩
    rcases List.mem_cons.1 hm' with rfl | hm'
    · refine ⟨leader_elected hV hg.2.1, (h3.cm i).cmtd.mono_idx hg.2.2.1, hg.2.2.2.imp id fun h1 => ?_⟩
      obtain ⟨a, ha, h2⟩ := List.any_eq_true.1 h1
      exact ⟨a, ha, of_decide_eq_true h2⟩
    · exact khb m' hm'
  · obtain ⟨hg, _⟩ := of_guard_ok h
    refine ⟨kapp, khb, ksn, fun m' hm' => ?_⟩
    rcases List.mem_cons.1 hm' with rfl | hm'
    · rcases h3.cm i with h0 | ⟨p, hp, p1, p2, p3⟩
      · exact Or.inl (show idx = 0 by have := hg.2.1; omega)
      · exact Or.inr ⟨p, hp, show idx ≤ p.2 by have := hg.2.1; omega, p2, termAt_of_take_eq p3 hg.2.1⟩
    · exact kcl m' hm'
  · obtain ⟨hg, _⟩ := of_guard_ok h
    refine ⟨kapp, khb, fun m' hm' => ?_, kcl⟩
    rcases List.mem_cons.1 hm' with rfl | hm'
    · have hll := hL.ll i hg.2.1
      exact ⟨leader_elected hV hg.2.1, (h3.cm i).cmtd.mono_idx hg.2.2.1, hll ▸ hg.2.2.2, by rw [← hll],
        by rw [← hll]⟩
    · exact ksn m' hm'
  · rw [e1, e2, e3, e4]; exact ⟨kapp, khb, ksn, kcl⟩

/-! ### the ghost clauses: `commitLeader` and `win` -/

theorem commits_step (s s' : PSys) (e : Event) (h : applyEvent s e = .ok s')
    (hV : InvV (vsys s)) (hL : InvL s) (hB : InvB s) (h3 : InvC3 s) (g : Grow s s') :
    (∀ p ∈ s'.cmts, 0 < p.2 ∧ p.2 ≤ (s'.llog p.1).length ∧ termAt (s'.llog p.1) p.2 = p.1 ∧ Elected s' p.1 ∧
      ∃ cfg q, (p, cfg) ∈ s'.ccfgs ∧ cfg.isQuorum q = true ∧
        ∀ v ∈ q, ∃ a ∈ s'.acks, a.term = p.1 ∧ a.frm = v ∧ p.2 ≤ a.idx) ∧
    s'.ccfgs.map (·.1) = s'.cmts ∧
    (∀ pc ∈ s'.ccfgs, ∀ ec ∈ s'.ecfgs, pc.1.1 < ec.1 →
      adjOk pc.2 ec.2 = true ∨ (s'.elog ec.1).take pc.1.2 = (s'.llog pc.1.1).take pc.1.2) := by
  have has : ∀ a ∈ s.acks, a ∈ s'.acks := fun a ha => released_mono h (.ack a.term a.frm a.idx a.pre) ha
  -- what holds of a recorded commit stays true
  have kcq : ∀ p ∈ s.cmts, (∀ x ∈ s.ccfgs, x ∈ s'.ccfgs) →
      0 < p.2 ∧ p.2 ≤ (s'.llog p.1).length ∧ termAt (s'.llog p.1) p.2 = p.1 ∧ Elected s' p.1 ∧
      ∃ cfg q, (p, cfg) ∈ s'.ccfgs ∧ cfg.isQuorum q = true ∧
        ∀ v ∈ q, ∃ a ∈ s'.acks, a.term = p.1 ∧ a.frm = v ∧ p.2 ≤ a.idx := by
    intro p hp hccs
    obtain ⟨a1, a2, a3, a4, cfg, q, hpc, hq, hall⟩ := h3.cq p hp
    refine ⟨a1, Nat.le_trans a2 (g.len_le a4), by rw [g.termAt_eq a4 a2]; exact a3, g.el _ a4, cfg, q, hccs _ hpc,
      hq, fun v hv => ?_⟩
    obtain ⟨a, ha, h1⟩ := hall v hv
    exact ⟨a, has a ha, h1⟩
  have kgd : ∀ pc ∈ s.ccfgs, ∀ ec ∈ s.ecfgs, pc.1.1 < ec.1 → s'.elog ec.1 = s.elog ec.1 →
      adjOk pc.2 ec.2 = true ∨ (s'.elog ec.1).take pc.1.2 = (s'.llog pc.1.1).take pc.1.2 := by
    intro pc hpc ec hec hlt he
    refine (h3.gd pc hpc ec hec hlt).imp id fun a => ?_
    have hq := h3.cq pc.1 (h3.cc ▸ List.mem_map.2 ⟨pc, hpc, rfl⟩)
    rw [he, g.take_eq hq.2.2.2.1 hq.2.1]; exact a
  rcases commit_frame h with ⟨i, c, cfg, q, rfl⟩ | ⟨hc, hcc⟩
  · obtain ⟨_, hrole, hlt, hlen, hta, hq, hall, _, hlater, rfl⟩ := commitLeader_guard h
    have hll := hL.ll i hrole
    refine ⟨fun p hp => ?_, congrArg (List.cons ((s.nodes i).term, c)) h3.cc, fun pc hpc ec hec hlt' => ?_⟩
    · rcases List.mem_cons.1 hp with rfl | hp
      · exact ⟨by omega, hll ▸ hlen, hll ▸ hta, leader_elected hV hrole, cfg, q, List.mem_cons_self, hq, hall⟩
      · exact kcq p hp fun x hx => List.mem_cons_of_mem _ hx
    · rcases List.mem_cons.1 hpc with rfl | hpc
      · exact (hlater ec hec hlt').imp id fun a => a.trans (congrArg (List.take c) hll)
      · exact kgd pc hpc ec hec hlt' rfl
  · have hcc' : s'.ccfgs.map (·.1) = s'.cmts := by rw [hc, hcc]; exact h3.cc
    rcases election_frame h with ⟨i, cfg, q, rfl⟩ | ⟨_, helog, hecfgs, _⟩
    · have hf := win_fresh hV hL h
      obtain ⟨_, _, _, _, rfl, _, _, hw⟩ := win_guard h
      refine ⟨fun p hp => kcq p hp fun x hx => hx, hcc', fun pc hpc ec hec hlt => ?_⟩
      rcases List.mem_cons.1 hec with rfl | hec
      · have hlt' : pc.1.1 < (s.nodes i).term := hlt
        refine (hw pc hpc hlt').imp id fun a => ?_
        show (updT s.elog (s.nodes i).term (s.nodes i).log (s.nodes i).term).take pc.1.2 =
          (updT s.llog (s.nodes i).term (s.nodes i).log pc.1.1).take pc.1.2
        simp only [updT, if_true, Nat.ne_of_lt hlt', if_false]; exact a
      · refine kgd pc hpc ec hec hlt ?_
        have hne : ec.1 ≠ (s.nodes i).term := fun he => hf (he ▸ hB.ee ec hec)
        show updT s.elog (s.nodes i).term (s.nodes i).log ec.1 = s.elog ec.1
        simp [updT, hne]
    · exact ⟨fun p hp => kcq p (hc ▸ hp) (hcc ▸ fun x hx => hx), hcc',
        fun pc hpc ec hec hlt => kgd pc (hcc ▸ hpc) ec (hecfgs ▸ hec) hlt (by rw [helog])⟩

/-! ### the step theorem -/

theorem invC3_step (s s' : PSys) (e : Event) (h : applyEvent s e = .ok s')
    (hV : InvV (vsys s)) (hL : InvL s) (hA : InvA s) (hB : InvB s) (hC : InvC s) (g : Grow s s') : InvC3 s' := by
  have h3 := hC.c3
  have hcs := cmts_step s s' e h
  obtain ⟨hcmi, hcmd⟩ := stages_step (Q := fun _ im => CmtPre s im.term im.commit im.log) h h3.cm h3.cmi h3.cmd (by
    rintro i d idx rfl
    obtain ⟨_, _, _, h14, _, rfl⟩ := bootstrap_ok h
    simp only [upd_same, dimage]
    rcases h3.cmd d with h0 | ⟨p, hp, p1, p2, p3⟩
    · exact Or.inl (by omega)
    · exact Or.inr ⟨p, hp, by omega, p2, by rw [List.take_take, Nat.min_self]; exact take_of_take_eq p3 h14⟩)
  obtain ⟨hcq, hcc, hgd⟩ := commits_step s s' e h hV hL hB h3 g
  obtain ⟨happ, hhb, hsn, hcl⟩ := carriers_step s s' e h hV hL h3 g
  exact ⟨hcq, hcc, hgd, cm_step s s' e h hL hA hB hC g, fun j im him => (hcmi j im him).grow h3 g hcs,
    fun j => (hcmd j).grow h3 g hcs, happ, hhb, hsn, hcl⟩

end RaftModel.P
