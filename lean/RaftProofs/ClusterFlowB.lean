import RaftProofs.ClusterFlowA
import RaftProps.C13b

/-!
Cluster-level flow control (C13), part B: the window invariant `TOk r.prs` through the functions of
`RaftModel/RaftCore.lean` (sending / replication helpers, commit, reset, role changes, campaign,
configuration changes, group commit), in the Hoare style of `RaftProofs.RaftNodeC17`.
-/
namespace RaftModel
namespace Raft
namespace FL
open RaftProps.C13

/-- the postcondition used throughout -/
abbrev RQ : Raft → Prop := fun x => TOk x.prs

theorem PI.ite {c : Prop} [Decidable c] {a b : Progress} (ha : PI a) (hb : PI b) :
    PI (if c then a else b) := by
  split <;> assumption

/-- a node whose tracker is sound with a sound progress in hand (the `Q` of the `_parts2` lemmas) -/
abbrev QT : Raft → Nat → Progress → Prop := fun r _ pr => TOk r.prs ∧ PI pr

theorem QT.set {r : Raft} {id : Nat} {pr : Progress} (q : QT r id pr) :
    RQ { r with prs := r.prs.set id pr } := q.1.set _ q.2

theorem send_tok (r : Raft) (m : Message) (h : TOk r.prs) : Res.Post RQ (r.send m) := by
  unfold send
  split
  · trivial
  · split
    · trivial
    · exact h

/-- `maybe_send_append` leaves the tracker alone; the progress comes back as it was, advanced over
the entries sent (`update_state`), or put into the snapshot state -/
theorem maybeSendAppend_tok (r : Raft) (to : Nat) (pr : Progress) (ae : Bool) (h : TOk r.prs)
    (hp : PI pr) :
    Res.Post (fun x => TOk x.1.prs ∧ PI x.2.1) (r.maybeSendAppend to pr ae) := by
  apply Res.post_intro
  rintro ⟨r', pr', sent⟩ hs
  have hprs : r'.prs = r.prs :=
    maybeSendAppend_parts (P := fun x => x.prs = r.prs) hs rfl
      (fun hq => prepareSendSnapshot_parts (P := fun x => x.prs = r.prs) hq rfl rfl)
      (fun hb => tryBatching_parts (P := fun x => x.prs = r.prs) hb fun _ => rfl)
      (fun hq _ p => by rw [send_eq _ _ _ hq]; exact p)
  refine ⟨hprs ▸ h, ?_⟩
  rcases C13_send_classification r r' to pr pr' ae sent hs with
    ⟨_, _, e, _⟩ | ⟨_, _, _, _, es, _, _, _, _, hu, _⟩ | ⟨_, _, _, e, _⟩ | ⟨_, _, hv⟩
  · rw [e]; exact hp
  · unfold SentUpdate at hu
    split at hu
    · rw [hu]; exact hp
    · exact (hp.updateState _).of_eq hu
  · rw [e]; exact hp
  · have hv := viaSnapshot_spec r r' to pr pr' sent hv
    cases sent with
    | true =>
      obtain ⟨_, sn, _, _, _, e⟩ := hv.1 rfl
      rw [e]; exact hp.becomeSnapshot _
    | false => rw [(hv.2 rfl).1]; exact hp

theorem sendAppendPr_tok (r : Raft) (to : Nat) (pr : Progress) (h : TOk r.prs) (hp : PI pr) :
    Res.Post (fun x => TOk x.1.prs ∧ PI x.2) (r.sendAppendPr to pr) := by
  unfold sendAppendPr
  exact Res.post_bind (maybeSendAppend_tok r to pr true h hp) (fun a ha => ha)

theorem sendAppendAggressivelyPr_tok (fuel : Nat) : ∀ (r : Raft) (to : Nat) (pr : Progress),
    TOk r.prs → PI pr →
    Res.Post (fun x => TOk x.1.prs ∧ PI x.2) (sendAppendAggressivelyPr fuel r to pr) := by
  induction fuel with
  | zero => intro r to pr _ _; unfold sendAppendAggressivelyPr; trivial
  | succ n ih =>
    intro r to pr h hp
    unfold sendAppendAggressivelyPr
    split
    · rename_i r1 pr1 heq
      have h1 := (Res.Post.of_eq (maybeSendAppend_tok _ _ _ _ h hp) heq :)
      exact ih r1 to pr1 h1.1 h1.2
    · rename_i r1 pr1 heq
      exact (Res.Post.of_eq (maybeSendAppend_tok _ _ _ _ h hp) heq :)
    · trivial
    · trivial

theorem sendHeartbeat_tok (r : Raft) (to : Nat) (pr : Progress) (ctx : Option Bytes)
    (h : TOk r.prs) : Res.Post RQ (r.sendHeartbeat to pr ctx) := by
  unfold sendHeartbeat
  exact send_tok r _ h

theorem sendAppend_tok (r : Raft) (to : Nat) (h : TOk r.prs) : Res.Post RQ (r.sendAppend to) := by
  unfold sendAppend
  split
  · trivial
  · rename_i pr hg
    exact Res.post_bind (sendAppendPr_tok r to _ h (h.get hg)) (fun a ha => ha.1.set _ ha.2)

theorem sendAppendAggressively_tok (r : Raft) (to : Nat) (h : TOk r.prs) :
    Res.Post RQ (r.sendAppendAggressively to) := by
  unfold sendAppendAggressively
  split
  · trivial
  · rename_i pr hg
    exact Res.post_bind (sendAppendAggressivelyPr_tok _ r to _ h (h.get hg))
      (fun a ha => ha.1.set _ ha.2)

theorem sendTimeoutNow_tok (r : Raft) (to : Nat) (h : TOk r.prs) :
    Res.Post RQ (r.sendTimeoutNow to) := by
  unfold sendTimeoutNow
  exact send_tok r _ h

theorem foldl_tok {β : Type} (g : Raft → β → Res Raft)
    (hg : ∀ r b, TOk r.prs → Res.Post RQ (g r b)) :
    ∀ (l : List β) (acc : Res Raft), Res.Post RQ acc →
      Res.Post RQ (l.foldl (fun acc b => acc.bind (fun r => g r b)) acc) := by
  intro l
  induction l with
  | nil => intro acc h; exact h
  | cons b rest ih =>
    intro acc h
    simp only [List.foldl_cons]
    apply ih
    exact Res.post_bind h (fun a ha => hg a b ha)

theorem forEachPeer_tok (r : Raft) (f : Raft → Nat → Progress → Res (Raft × Progress))
    (hf : ∀ r id pr, TOk r.prs → PI pr → Res.Post (fun x => TOk x.1.prs ∧ PI x.2) (f r id pr))
    (h : TOk r.prs) : Res.Post RQ (r.forEachPeer f) :=
  Res.post_intro fun _ hs => forEachPeer_parts2 (P := RQ) (Q := QT) hs h
    (fun _ hg hx p => (hf _ _ _ p (p.get hg)).of_eq hx) QT.set

theorem bcastAppend_tok (r : Raft) (h : TOk r.prs) : Res.Post RQ r.bcastAppend := by
  unfold bcastAppend
  exact forEachPeer_tok r _ (fun r id pr h1 hp => sendAppendPr_tok r id pr h1 hp) h

theorem bcastHeartbeatWithCtx_tok (r : Raft) (ctx : Option Bytes) (h : TOk r.prs) :
    Res.Post RQ (r.bcastHeartbeatWithCtx ctx) := by
  unfold bcastHeartbeatWithCtx
  exact forEachPeer_tok r _ (fun r id pr h1 hp =>
    Res.post_bind (sendHeartbeat_tok r id pr ctx h1) (fun a ha => ⟨ha, hp⟩)) h

theorem bcastHeartbeat_tok (r : Raft) (h : TOk r.prs) : Res.Post RQ r.bcastHeartbeat := by
  unfold bcastHeartbeat
  exact bcastHeartbeatWithCtx_tok r _ h

theorem ping_tok (r : Raft) (h : TOk r.prs) : Res.Post RQ r.ping := by
  unfold ping
  split
  · exact bcastHeartbeat_tok r h
  · exact h

theorem modifyProgress_tok (r : Raft) (id : Nat) (f : Progress → Progress)
    (hf : ∀ pr, PI pr → PI (f pr)) (h : TOk r.prs) : TOk (r.modifyProgress id f).prs :=
  h.modify id f hf

theorem mapProgress_tok (r : Raft) (f : Nat → Progress → Progress)
    (hf : ∀ id pr, PI pr → PI (f id pr)) (h : TOk r.prs) : TOk (r.mapProgress f).prs :=
  h.map f hf

theorem maybeCommit_tok (r : Raft) (h : TOk r.prs) :
    Res.Post (fun x => TOk x.1.prs) r.maybeCommit := by
  unfold maybeCommit
  split
  · trivial
  · trivial
  · split
    · trivial
    · trivial
    · rename_i log hmc
      exact modifyProgress_tok _ _ _ (fun pr hp => hp.updateCommitted _) h
    · exact h

theorem appendEntry_tok (r : Raft) (es : List Entry) (h : TOk r.prs) :
    Res.Post (fun x => TOk x.1.prs) (r.appendEntry es) := by
  unfold appendEntry
  split
  · exact h
  · rename_i r1 heq
    have h1 : TOk r1.prs := by
      unfold maybeIncreaseUncommittedSize at heq
      simp only [Prod.mk.injEq] at heq
      rw [← heq.1]; exact h
    simp only
    split
    · exact h1
    · trivial
    · trivial

theorem handleReadyReadIndex_tok (r : Raft) (req : Message) (index : Nat) (h : TOk r.prs) :
    Res.Post (fun x => TOk x.1.prs) (r.handleReadyReadIndex req index) := by
  unfold handleReadyReadIndex
  split
  · split
    · trivial
    · exact h
  · exact h

theorem respondReadStates_tok (r : Raft) (rss : List ReadIndexStatus) (h : TOk r.prs) :
    Res.Post RQ (r.respondReadStates rss) := by
  unfold respondReadStates
  apply foldl_tok (fun (r : Raft) (rs : ReadIndexStatus) =>
      (r.handleReadyReadIndex rs.req rs.index).bind (fun (r, om) =>
        match om with
        | some m => r.send m
        | none => .ok r))
  · intro r1 rs h1
    exact Res.post_bind (handleReadyReadIndex_tok r1 _ _ h1) (fun a ha => by
      obtain ⟨r2, om⟩ := a
      dsimp only at ha ⊢
      split
      · exact send_tok r2 _ ha
      · exact ha)
  · exact h

/-- the recurring "commit, then broadcast" tail -/
theorem commitThenBcast_tok (r : Raft) (h : TOk r.prs) :
    Res.Post RQ
      (match r.maybeCommit with
        | .ok (r, true) => r.bcastAppend
        | .ok (r, false) => .ok r
        | .err e => .err e
        | .panic s => .panic s : Res Raft) := by
  split
  · rename_i r1 heq
    exact bcastAppend_tok r1 ((Res.Post.of_eq (maybeCommit_tok r h) heq :))
  · rename_i r1 heq
    exact (Res.Post.of_eq (maybeCommit_tok r h) heq :)
  · trivial
  · trivial

theorem commitApplyInternal_tok (r : Raft) (applied : Nat) (sc : Bool) (h : TOk r.prs) :
    Res.Post RQ (r.commitApplyInternal applied sc) :=
  Res.post_intro fun _ hs => commitApplyInternal_parts (P := RQ) hs (fun _ => h)
    (fun _ _ _ _ _ ha p => (appendEntry_tok _ _ p).of_eq ha) fun _ p => p

theorem commitApply_tok (r : Raft) (applied : Nat) (h : TOk r.prs) :
    Res.Post RQ (r.commitApply applied) := by
  unfold commitApply
  exact commitApplyInternal_tok r applied false h

theorem reset_tok (r : Raft) (term : Nat) (h : TOk r.prs) : TOk (r.reset term).prs := by
  unfold reset
  simp only []
  apply mapProgress_tok
  · intro id pr hp
    apply PI.ite <;> exact reset_inv hp
  · split <;> exact h

theorem onPersistSnap_tok (r : Raft) (index : Nat) (h : TOk r.prs) :
    Res.Post RQ (r.onPersistSnap index) := by
  unfold onPersistSnap
  split
  · exact h
  · trivial
  · trivial

theorem onPersistEntries_tok (r : Raft) (index term : Nat) (h : TOk r.prs) :
    Res.Post RQ (r.onPersistEntries index term) :=
  Res.post_intro fun _ hs => onPersistEntries_parts2 (P := RQ) hs (fun _ => h)
    (fun _ _ _ _ _ _ _ hg hu p => p.set _ (Res.Post.of_eq ((TOk.get p hg).maybeUpdate _) hu :))
    (fun _ _ _ _ hc p => (maybeCommit_tok _ p).of_eq hc)
    fun _ _ _ hx p => (bcastAppend_tok _ p).of_eq hx

theorem becomeFollower_tok (r : Raft) (term lead : Nat) (h : TOk r.prs) :
    TOk (r.becomeFollower term lead).prs := by
  unfold becomeFollower
  exact reset_tok r term h

theorem becomeCandidate_tok (r : Raft) (h : TOk r.prs) : Res.Post RQ r.becomeCandidate :=
  Res.post_intro fun _ hb => becomeCandidate_parts (P := RQ) hb h
    (fun t p => reset_tok _ t p) (fun p => p)

theorem becomePreCandidate_tok (r : Raft) (h : TOk r.prs) : Res.Post RQ r.becomePreCandidate := by
  unfold becomePreCandidate
  split
  · trivial
  · exact h

theorem becomeLeader_tok (r : Raft) (h : TOk r.prs) : Res.Post RQ r.becomeLeader :=
  Res.post_intro fun _ hs => becomeLeader_parts2 (P := RQ) (R := RQ) hs (reset_tok r _ h)
    (fun _ _ _ hg p => p.set _ (TOk.get p hg).becomeReplicate)
    fun ha p => (appendEntry_tok _ _ p).of_eq ha

theorem sendVoteRequests_tok (r : Raft) (ct : CampaignType) (vm : MsgType) (term : Nat)
    (h : TOk r.prs) : Res.Post RQ (r.sendVoteRequests ct vm term) := by
  unfold sendVoteRequests
  split
  · trivial
  · trivial
  · split
    · trivial
    · trivial
    · refine foldl_tok _ ?_ _ _ h
      · intro r1 id h1
        split
        · exact h1
        · exact send_tok r1 _ h1

theorem pollWith_tok (onPreWin : Raft → Res Raft)
    (hw : ∀ r, TOk r.prs → Res.Post RQ (onPreWin r)) (r : Raft) (frm : Nat) (t : MsgType)
    (vote : Bool) (h : TOk r.prs) :
    Res.Post (fun x => TOk x.1.prs) (pollWith onPreWin r frm t vote) := by
  unfold pollWith
  simp only []
  have h1 : TOk (r.prs.recordVote frm vote) := h.recordVote frm vote
  split
  · split
    · exact Res.post_bind (hw _ h1) (fun a ha => ha)
    · exact Res.post_bind
        (Res.post_bind (becomeLeader_tok _ h1) (fun a ha => bcastAppend_tok a ha))
        (fun a ha => ha)
  · exact becomeFollower_tok _ _ _ h1
  · exact h1

theorem campaignWith_tok (poll : Raft → Nat → MsgType → Bool → Res (Raft × VoteResult))
    (hpoll : ∀ r frm t v, TOk r.prs → Res.Post (fun x => TOk x.1.prs) (poll r frm t v))
    (r : Raft) (ct : CampaignType) (h : TOk r.prs) : Res.Post RQ (campaignWith poll r ct) := by
  unfold campaignWith
  simp only []
  have hstart : Res.Post (fun x : Raft × MsgType × Nat => TOk x.1.prs)
      (if ct = .preElection then
        r.becomePreCandidate.bind (fun r =>
          if U64_MAX ≤ r.term then .panic "raft.campaign.overflow"
          else .ok (r, .msgRequestPreVote, r.term + 1))
      else r.becomeCandidate.bind (fun r => .ok (r, .msgRequestVote, r.term))) := by
    split
    · exact Res.post_bind (becomePreCandidate_tok r h) (fun a ha => by
        split
        · trivial
        · exact ha)
    · exact Res.post_bind (becomeCandidate_tok r h) (fun a ha => ha)
  exact Res.post_bind hstart (fun a ha => by
    obtain ⟨r1, vm, term⟩ := a
    dsimp only at ha ⊢
    exact Res.post_bind (hpoll r1 r1.id vm true ha) (fun b hb => by
      obtain ⟨r2, res⟩ := b
      dsimp only at hb ⊢
      split
      · exact hb
      · exact sendVoteRequests_tok r2 _ _ _ hb))

theorem campaignAfterPreVote_tok (r : Raft) (h : TOk r.prs) :
    Res.Post RQ r.campaignAfterPreVote := by
  unfold campaignAfterPreVote
  exact campaignWith_tok _ (fun r frm t v h1 =>
    pollWith_tok (fun _ => .panic "model.poll.depth") (fun _ _ => trivial) r frm t v h1) r _ h

theorem poll_tok (r : Raft) (frm : Nat) (t : MsgType) (vote : Bool) (h : TOk r.prs) :
    Res.Post (fun x => TOk x.1.prs) (r.poll frm t vote) := by
  unfold poll
  exact pollWith_tok _ (fun r h1 => campaignAfterPreVote_tok r h1) r frm t vote h

theorem campaign_tok (r : Raft) (ct : CampaignType) (h : TOk r.prs) :
    Res.Post RQ (r.campaign ct) := by
  unfold campaign
  exact campaignWith_tok _ (fun r frm t v h1 => poll_tok r frm t v h1) r ct h

end FL
end Raft
end RaftModel
