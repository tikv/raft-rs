import RaftProofs.ClusterStep

/-!
One node over a stretch of a history in which it is not restarted: a step seen from any node relates
its states before and after, or restarts it (`Moved.rel_or_restart`); a reflexive and transitive
relation that every such step keeps holds between the ends of the stretch (`hist_stretch`).
-/
namespace RaftModel
namespace Cluster
open Node RaftProps.C02

/-- **one step, one node**: node `i` is restarted by the step, or its states before and after are
related by `R` — which holds for a node that does not move, across a call (or delivery) and across
handing the queue over -/
theorem Moved.rel_or_restart {C : Contract} {a b : Sys} {k : Nat} {st st' : NState}
    (M : Moved C a b k st st') {R : NState → NState → Prop} {i : Nat} {sta stb : NState}
    (hia : a.node i = some sta) (hib : b.node i = some stb) (refl : R sta sta)
    (drain : R st { st with raft := { st.raft with nextRand := none, msgs := [], readStates := [] } })
    (call : ∀ rnd op res, b = a.setNode k st' →
      (appOp op = true ∨ ∃ m, op = .step m ∧ m ∈ a.net ∧ m.to = k) → C.call st op st' →
      Node.call st rnd op = .ok (res, st') → R st st') :
    R sta stb ∨ IsRestart i a b := by
  rcases M.node_at hia hib with ⟨rfl, rfl, rfl⟩ | ⟨_, rfl⟩
  · cases M.act with
    | call rnd op res hop hc hcall hnet =>
      exact .inl (call rnd op res (M.eq_setNode hnet) hop hc hcall)
    | send _ _ hst _ => exact .inl (hst ▸ drain)
    | restart c rnd hid hboot _ hnet =>
      exact .inr ⟨sta, stb, c, rnd, M.hk, hid, hboot, M.eq_setNode hnet⟩
  · exact .inl refl

/-- **a stretch without restart of node `i`**: what every step that does not restart `i` keeps of
`i`'s state holds between the two ends -/
theorem hist_stretch {h : List Sys}
    (steps : ∀ (n : Nat) (a b : Sys), h[n]? = some a → h[n + 1]? = some b → Step a b) (i : Nat)
    {R : NState → NState → Prop}
    (refl : ∀ st, R st st) (trans : ∀ {x y z}, R x y → R y z → R x z)
    (step : ∀ (n : Nat) (a b : Sys) sta stb, h[n]? = some a → h[n + 1]? = some b →
      a.node i = some sta → b.node i = some stb → ¬ IsRestart i a b → R sta stb) :
    ∀ (d n : Nat) (s s' : Sys) (st st' : NState), h[n]? = some s → h[n + d]? = some s' →
      (∀ m a b, n ≤ m → m < n + d → h[m]? = some a → h[m + 1]? = some b → ¬ IsRestart i a b) →
      s.node i = some st → s'.node i = some st' → R st st' := by
  intro d
  induction d with
  | zero =>
    intro n s s' st st' hn hn' _ hi hi'
    rw [Nat.add_zero, hn] at hn'; cases hn'
    rw [hi] at hi'; cases hi'
    exact refl _
  | succ d ih =>
    intro n s s' st st' hn hn' hnr hi hi'
    have hn1 : h[n + 1 + d]? = some s' := by rw [← hn']; congr 1; omega
    obtain ⟨b, h1⟩ := get_of_get_later hn1
    obtain ⟨k, sk, sk', M⟩ := (steps n s b hn h1).moved
    obtain ⟨st1, hi1⟩ : ∃ st1, b.node i = some st1 := by
      by_cases hik : i = k
      · exact ⟨sk', hik ▸ M.hk'⟩
      · exact ⟨st, (M.oth i hik).trans hi⟩
    exact trans (step n s b st st1 hn h1 hi hi1 (hnr n s b (Nat.le_refl _) (by omega) hn h1))
      (ih (n + 1) b s' st1 st' h1 hn1 (fun m a b g1 g2 => hnr m a b (by omega) (by omega)) hi1 hi')

end Cluster
end RaftModel
