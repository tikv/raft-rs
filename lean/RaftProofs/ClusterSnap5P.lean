import RaftProofs.ClusterSnap5O

/-!
Commit safety of `ClusterSem` with compaction and snapshots, part 5P: the induction
steps for **what a node has marked committed** (`nctm_step`) and for the stored commit index (`scm_step`,
`ncts_step`).
-/
namespace RaftModel
namespace Cluster
namespace Snap5
open Node Raft Raft.CC RaftProps.C02 RaftProps.C05 RaftProps.C04 Snap

variable {q : Prop} {cfg : JointConfig} {c0 : Nat} {h : List Sys}

/-- the commit index is never below the common snapshot point -/
theorem c0_le_committed (F : Facts q cfg c0 h) {n : Nat} {s : Sys} (hn : h[n]? = some s) {v : Nat}
    {st : NState} (hv : s.node v = some st) : c0 ≤ st.raft.raftLog.committed :=
  Nat.le_trans (F.c0_le_snap hn hv) (snapIdx_le_committed (F.node_inv hn hv))

/-- a `call` / `deliver` step keeps the ghost entries up to the commit index -/
theorem call_keeps_committed (F : Facts q cfg c0 h) {n : Nat} {a : Sys} (ha : h[n]? = some a)
    {k : Nat} {st st' : NState} (hk : a.node k = some st)
    (hs : FCallStep h c0 a k st st') :
    EqUpTo (FL h c0 st') (FL h c0 st) st.raft.raftLog.committed := by
  have o := F.node_inv ha hk
  intro j hj
  cases hs with
  | same hl _ => exact hl j
  | grew es hg hl _ =>
    refine hl j ?_
    have := o.committed_le_last
    rw [o.lastIndex_abs] at this
    omega
  | acc m _ _ _ hacc _ _ hci _ _ => exact hacc.low j (by omega)

/-- a commit index taken over from a sender whose own commit index is covered -/
theorem covered_of_src {n cL τ τ' c' : Nat} {L g : LLog} (hcov : Covered h c0 n cL τ L)
    (hle : c' ≤ cL) (hτ : τ ≤ τ') (heq : EqUpTo g L c') : Covered h c0 (n + 1) c' τ' g := by
  rcases hcov with c | ⟨E0, h1, h2, h3, h4, h5⟩
  · exact .inl (by omega)
  · exact .inr ⟨E0, h1, by omega, by omega, by omega, heq.trans (h5.mono hle)⟩

theorem nctm_step (F : Facts3 q cfg c0 h) {n : Nat} (S : SAll h c0 n) {a b : Sys}
    (ha : h[n]? = some a) (hb : h[n + 1]? = some b) :
    ∀ v st', b.node v = some st' →
      Covered h c0 (n + 1) st'.raft.raftLog.committed st'.raft.term (FL h c0 st') := by
  intro v st' hvb
  have F2 := F.toFacts
  have Sa := S n a (Nat.le_refl _) ha
  obtain ⟨k, stk, stk', hka, hkb, hoth, hs⟩ := F2.stp ha hb
  by_cases hvk : v = k
  · subst hvk
    rw [hkb] at hvb; cases hvb
    cases hs with
    | restart c rnd hboot hnet _ =>
      have hbt := CV.boot_booted c _ rnd st' hboot
      have o := F2.node_inv ha hka
      obtain ⟨_, habs, _⟩ := boot_log c _ rnd st' o.storeWF hboot
      rw [FL_restart habs, hbt.term]
      rcases boot_committed c _ rnd st' hboot with e | ⟨e0, e⟩
      · rw [e]; exact (Sa.ncts v stk hka).mono (Nat.le_succ _) (Nat.le_refl _)
      · -- no hard state stored: the stored term is `0`, so the uncompacted stored log holds nothing
        -- above `c0`
        left
        rw [e]
        apply Classical.byContradiction
        intro hgt
        have I := (F2.ghost_inv n a ha).node v stk hka
        obtain ⟨f, hf⟩ := I.sto.exists_entry
          (k := (storeLog stk.raft.raftLog.store).snapIdx)
          (by show c0 < stk.raft.raftLog.store.firstIndex - 1; omega) (snap_le_last _)
        have hle := F.term_sto n a ha v stk hka f ((FS h c0 stk).entryAt_mem hf)
        rw [e0] at hle
        exact (F2.ghost_nz ha hka).2 _ f hf (Nat.le_zero.1 hle)
    | send hp hu hq hsame hnet _ =>
      rw [FL_same (st := stk) (by rw [hsame.1]), hsame.1, hsame.2.1]
      exact (Sa.nctm v stk hka).mono (Nat.le_succ _) (Nat.le_refl _)
    | psnap rnd hp hout hpend hnet =>
      rw [FL_same (persist_abs hout), (persist_same hout).1, (persist_same hout).2.1]
      exact (Sa.nctm v stk hka).mono (Nat.le_succ _) (Nat.le_refl _)
    | snap rnd m hm hto hty hpn hout hnet =>
      cases hout with
      | skip hr =>
        rw [FL_same (st := stk) (by rw [hr]), hr]
        exact (Sa.nctm v stk hka).mono (Nat.le_succ _) (Nat.le_refl _)
      | handled x hsf ht hle hid hq hack hxto hxfrm hxt hsto hcase =>
        have hmt := F2.snap_term_ne_zero ha hm hty
        have hmterm : m.term = st'.raft.term := by
          rcases ht with c | c
          · exact c
          · exact absurd c hmt
        cases hcase with
        | kept hu _ hc _ =>
          rw [FL_same (RaftLog.abs_congr hsto hu), hc]
          exact (Sa.nctm v stk hka).mono (Nat.le_succ _) hle
        | ffwd hu _ _ hc hmt' _ _ =>
          obtain ⟨L, src, heq⟩ := ffwd_src F S ha hka hm hty hmt'
          rw [FL_same (RaftLog.abs_congr hsto hu), hc]
          exact covered_of_src src.cov (Nat.le_refl _) (Nat.le_of_eq hmterm) heq
        | restored _ _ hu hc _ _ =>
          have hl : st'.raft.raftLog.abs = LLog.ofSnapshot m.snapshot := by
            rw [RaftLog.abs_some (sn := m.snapshot) (by rw [hu]; rfl), hu]; rfl
          obtain ⟨L, src, heq, _⟩ := restored_src F S ha hb hkb hm hty hl
          rw [hc]
          exact covered_of_src src.cov (Nat.le_refl _) (Nat.le_of_eq hmterm) heq
    | call rnd op res hop hnc hca hns hpn hss hcall hnet hpn' _ =>
      have hL := (F2.call_out ha hb hka hkb hnet hop hnc hns hpn hcall).rt
      obtain ⟨hsrc, _, _⟩ := F2.call_more ha hb hka hkb hnet hop hnc hns hpn hcall
      have hcs := F2.fcall_step ha hb hka hkb hnet hop hnc hns hpn hcall
      have hkeep := call_keeps_committed F2 ha hka hcs
      have hc0 := c0_le_committed F2 ha hka
      by_cases hch : st'.raft.raftLog.committed = stk.raft.raftLog.committed
      · rw [hch]
        rcases Sa.nctm v stk hka with c | ⟨E0, h1, h2, h3, h4, h5⟩
        · exact .inl c
        · exact .inr ⟨E0, h1, by omega, h3, Nat.le_trans h4 hL.le, hkeep.trans h5⟩
      have hgt : stk.raft.raftLog.committed < st'.raft.raftLog.committed := by
        have := hsrc.1; omega
      by_cases hlead : st'.raft.state = .leader
      · -- the step is a commit event of this node
        right
        refine ⟨⟨n, v, st'.raft.term, st'.raft.raftLog.committed, st'.raft.raftLog.abs,
          st'.raft.raftLog.persisted⟩, ?_, Nat.lt_succ_self _, Nat.le_refl _, Nat.le_refl _,
          fun _ _ => rfl⟩
        exact ⟨a, b, stk, st', ha, hb, hka, hkb, hlead, rfl, hgt, rfl, rfl, rfl⟩
      rcases hop with h2 | ⟨m, rfl, hm, hto⟩
      · rcases hsrc.2 with c | c | ⟨m, r1, c, _⟩
        · exact absurd c hch
        · exact absurd c hlead
        · rw [c] at h2; cases h2
      · by_cases hty : m.msgType = .msgAppend
        · obtain ⟨hok, hag'⟩ := F2.msg_ok ha hm hty
          have hag := hag' v stk hka
          obtain ⟨L, cL, src⟩ := app_src F S ha hm hty
          cases append_call (F2.node_inv ha hka) hty hok hag hcall with
          | noacc _ hc _ => exact absurd hc hch
          | acc hacc hc hci _ ht _ =>
            have hanc := anchor_eq F ha hka hm hty src hacc.anchor
            have hagr := (F2.facc_call ha hb hka hkb hnet hm hto (hns m rfl) hpn hcall hacc).agree src.contig
              src.ents hanc
            have hmt : m.term = st'.raft.term := by
              rcases ht with c | c
              · exact c
              · exact absurd c src.tnz
            refine covered_of_src src.cov (c' := st'.raft.raftLog.committed) ?_
              (Nat.le_of_eq hmt) (fun j hj => hagr j ?_)
            · have := src.commit; omega
            · omega
        · by_cases hhb : m.msgType = .msgHeartbeat
          · obtain ⟨L, cL, src⟩ := hb_src F S ha hm hhb
            rcases hb_call (F2.node_inv ha hka) hhb hcall with c | ⟨c1, c2, c3, c4, _⟩
            · exact absurd c hch
            · have hceq : st'.raft.raftLog.committed = m.commit := by omega
              have htnz : m.term ≠ 0 := by
                obtain ⟨m0, s, l, st0, _, a2, a3, a4, a5, _⟩ := src.ll
                rw [← a5]
                exact F2.lead_tz a2 a3 a4
              have hmt : m.term = st'.raft.term := by
                rcases c2 with c | c
                · exact c
                · exact absurd c htnz
              rcases src.ack with c | ⟨x, hx, hack, hfrm, hxt, hxi⟩
              · omega
              · have hx0 : x.index ≠ 0 := by omega
                have hfrm' : x.frm = v := hfrm.trans hto
                have hle := ack_term_le F2 ha hka (.inl hx) hack hfrm' hx0
                have hxt' : x.term = stk.raft.term := by omega
                obtain ⟨L1, hl1, hreach, heq1⟩ :=
                  Sa.a2m v stk hka x (.inl hx) hack hfrm' (by omega) hxt'
                refine covered_of_src src.cov (c' := st'.raft.raftLog.committed)
                  (by have := src.commit; omega) (Nat.le_of_eq hmt) (fun j hj => ?_)
                rw [FL_same c4, heq1 j (by omega)]
                exact ll_eq F2 hl1 (by rw [hxt]; exact src.ll) (by omega)
                  (by have := src.cle; have := src.commit; omega)
          · rcases hsrc.2 with c | c | ⟨m', r1, c, hls, ev, hrecv⟩
            · exact absurd c hch
            · exact absurd c hlead
            · cases c
              cases ev with
              | append ht _ _ => exact absurd ht hty
              | heartbeat ht _ _ => exact absurd ht hhb
              | snapshot ht _ => exact absurd ht (hns m rfl)
              | byVote ht hz hterm hc' _ =>
                -- the commit point of a (pre-)vote message: the sender's log holds it, covered
                have hq := (F2.call_out ha hb hka hkb hnet (.inr ⟨m, rfl, hm, hto⟩) hnc hns hpn hcall).log
                have hlog : st'.raft.raftLog.abs = stk.raft.raftLog.abs := by
                  rcases hq with (c | ⟨es, c⟩ | c) | ⟨j, c, _⟩
                  · exact c
                  · exact absurd c.leader hlead
                  · have c' : m.msgType = .msgAppend := c
                    rw [c'] at ht; cases ht
                  · cases c
                have oa := F2.node_inv ha hka
                have hterm' : stk.raft.raftLog.abs.term m.commit = .ok m.commitTerm := by
                  rw [← hls.abs, ← (hls.inv oa).term_abs]; exact hterm
                rcases vote_src F2 S ha hm ht with c | ⟨n0, s0, w, stw, hn0, hs0, hw, d1, d2, d3, d4⟩
                · omega
                · have Ik := (F2.ghost_inv n a ha).node v stk hka
                  have Iw := (F2.ghost_inv n0 s0 hs0).node w stw hw
                  obtain ⟨e1, he1, ht1⟩ := Ik.log.entry_of_term hterm' hz (by omega)
                  obtain ⟨e2, he2, ht2⟩ := Iw.log.entry_of_term d2 hz (by omega)
                  have heq := F2.flogs_eq_below ha hs0 hka hw he1 he2 (ht1.trans ht2.symm)
                  have hτ : stw.raft.term ≤ st'.raft.term := by
                    rcases hrecv with c | ⟨c1, c2⟩ | ⟨c1, c2⟩
                    · by_cases hp : m.msgType = .msgRequestPreVote
                      · have := d3.1 hp; omega
                      · have := d3.2.1 hp; omega
                    · have := d3.1 c1; omega
                    · have := d3.2.2 (.inl c1)
                      rw [c2] at this; cases this
                  refine covered_of_src d4 (c' := st'.raft.raftLog.committed) (by omega) hτ
                    (fun j hj => ?_)
                  rw [FL_same hlog]
                  exact heq j (by omega)
              | readIndexResp ht hterm hc' _ =>
                -- a read index of a leader of the message's term: the sender's commit index covered it
                have hq := (F2.call_out ha hb hka hkb hnet (.inr ⟨m, rfl, hm, hto⟩) hnc hns hpn hcall).log
                have hlog : st'.raft.raftLog.abs = stk.raft.raftLog.abs := by
                  rcases hq with (c | ⟨es, c⟩ | c) | ⟨j, c, _⟩
                  · exact c
                  · exact absurd c.leader hlead
                  · have c' : m.msgType = .msgAppend := c
                    rw [c'] at ht; cases ht
                  · cases c
                have oa := F2.node_inv ha hka
                have hterm' : stk.raft.raftLog.abs.term m.index = .ok m.term := by
                  rw [← hls.abs, ← (hls.inv oa).term_abs]; exact hterm
                obtain ⟨n0, s0, w, stw, hn0, hs0, hw, hwl, hwt, hwi⟩ := F.rirs n a ha m hm ht
                have ow := F2.node_inv hs0 hw
                have htnz : m.term ≠ 0 := by
                  rw [← hwt]; exact F2.lead_tz hs0 hw hwl
                have Ik := (F2.ghost_inv n a ha).node v stk hka
                have hci : c0 < m.index := by omega
                -- the term answered above `c0` is the term of an entry of the ghost log (a retained
                -- entry, or the entry a restored snapshot point stands for)
                obtain ⟨e1, he1, ht1⟩ := Ik.log.entry_of_term hterm' htnz hci
                have hLw : LeaderLog h c0 n m.term (FL h c0 stw) :=
                  ⟨n0, s0, w, stw, hn0, hs0, hw, hwl, hwt, rfl⟩
                have hreach : m.index ≤ (FL h c0 stw).lastIndex := by
                  rw [fl_last F2 hs0 hw, ← ow.lastIndex_abs]
                  exact Nat.le_trans hwi ow.committed_le_last
                have hhas : Has (FL h c0 stw) m.index m.term := by
                  obtain ⟨si, hsi, hprov⟩ := F2.fentry_prov
                  rcases hprov n a ha v stk hka m.index e1 he1 with c | c
                  · have := F2.init_entry_term hsi c hs0 (l := w) (t := m.term) ⟨stw, hw, hwl, hwt⟩
                    omega
                  · obtain ⟨m', s', l', stl, c1, c2, c3, c4, c5, c6, _⟩ := c
                    have Il := (F2.ghost_inv m' s' c2).node l' stl c3
                    have hL' : LeaderLog h c0 n m.term (FL h c0 stl) :=
                      ⟨m', s', l', stl, c1, c2, c3, c4, c5.trans ht1, rfl⟩
                    have := ll_eq F2 hL' hLw ((FL h c0 stl).entryAt_lt (Il.log.entry c6)).2 hreach
                    exact ⟨e1, this.symm.trans (Il.log.entry c6), ht1⟩
                have heq := eq_ll F2 ha hka hLw ⟨e1, he1, ht1⟩ hhas
                have hτ : stw.raft.term ≤ st'.raft.term := by
                  rw [hwt]
                  rcases hrecv with c | ⟨c1, _⟩ | ⟨c1, _⟩
                  · exact c
                  · rw [c1] at ht; cases ht
                  · rw [c1] at ht; cases ht
                refine covered_of_src (((S n0 s0 hn0 hs0).nctm w stw hw).mono hn0 (Nat.le_refl _))
                  (c' := st'.raft.raftLog.committed) (by omega) hτ (fun j hj => ?_)
                rw [FL_same hlog]
                exact heq j (by omega)
  · have hva : a.node v = some st' := by rw [← hoth v hvk]; exact hvb
    exact (Sa.nctm v st' hva).mono (Nat.le_succ _) (Nat.le_refl _)


theorem Covered.le {m cm cm' term : Nat} {g : LLog} (hc : Covered h c0 m cm term g)
    (hle : cm' ≤ cm) : Covered h c0 m cm' term g := by
  rcases hc with c | ⟨E, h1, h2, h3, h4, h5⟩
  · exact .inl (by omega)
  · exact .inr ⟨E, h1, h2, by omega, h4, h5.mono hle⟩

theorem Covered.eq {m cm term : Nat} {g g' : LLog} (hc : Covered h c0 m cm term g)
    (he : EqUpTo g' g cm) : Covered h c0 m cm term g' := by
  rcases hc with c | ⟨E, h1, h2, h3, h4, h5⟩
  · exact .inl c
  · exact .inr ⟨E, h1, h2, h3, h4, he.trans h5⟩

theorem scm_step (F : Facts3 q cfg c0 h) {n : Nat} (S : SAll h c0 n) {a b : Sys}
    (ha : h[n]? = some a) (hb : h[n + 1]? = some b) :
    ∀ v st', b.node v = some st' →
      st'.raft.raftLog.store.hardState.commit ≤ st'.raft.raftLog.committed := by
  intro v st' hvb
  have F2 := F.toFacts
  have Sa := S n a (Nat.le_refl _) ha
  obtain ⟨k, stk, stk', hka, hkb, hoth, hs⟩ := F2.stp ha hb
  by_cases hvk : v = k
  · subst hvk
    rw [hkb] at hvb; cases hvb
    cases hs with
    | restart c rnd hboot hnet _ =>
      have hbt := CV.boot_booted c _ rnd st' hboot
      rw [hbt.hs]
      rcases boot_committed c _ rnd st' hboot with e | ⟨e1, _⟩
      · rw [e]; exact Nat.le_refl _
      · rw [e1]; exact Nat.zero_le _
    | send hp hu hq hsame hnet _ =>
      rw [hsame.1]; exact Sa.scm v stk hka
    | psnap rnd hp hout hpend hnet =>
      cases hout with
      | noop hr => rw [hr]; exact Sa.scm v stk hka
      | done sn L hp0 hr _ _ hcm _ _ _ _ _ hhs =>
        rw [hr]
        show L.store.hardState.commit ≤ L.committed
        rw [hhs, hcm, (F.pend_ok n a ha v stk sn hka hp0).2.1]
        exact Nat.le_refl _
    | snap rnd m hm hto hty hpn hout hnet =>
      cases hout with
      | skip hr => rw [hr]; exact Sa.scm v stk hka
      | handled x _ _ _ _ _ _ _ _ _ hsto hcase =>
        rw [hsto]
        have h0 := Sa.scm v stk hka
        cases hcase with
        | kept _ _ hc _ => rw [hc]; exact h0
        | ffwd _ _ hle hc _ _ _ => rw [hc]; omega
        | restored hle _ _ hc _ _ => rw [hc]; omega
    | call rnd op res hop hnc hca hns hpn hss hcall hnet hpn' _ =>
      obtain ⟨hsrc, _, hhs⟩ := F2.call_more ha hb hka hkb hnet hop hnc hns hpn hcall
      have h0 := Sa.scm v stk hka
      rcases hhs with c | ⟨j, rfl, c⟩ | ⟨_, c⟩
      · rw [c]; exact Nat.le_trans h0 hsrc.1
      · rw [c]
        show j ≤ _
        rcases commitApply_call_le hcall with d | d
        · omega
        · exact Nat.le_trans d hsrc.1
      · rw [c]; exact Nat.le_trans h0 hsrc.1
  · have hva : a.node v = some st' := by rw [← hoth v hvk]; exact hvb
    exact Sa.scm v st' hva

theorem ncts_step (F : Facts3 q cfg c0 h) {n : Nat} (S : SAll h c0 n) {a b : Sys}
    (ha : h[n]? = some a) (hb : h[n + 1]? = some b) :
    ∀ v st', b.node v = some st' →
      Covered h c0 (n + 1) st'.raft.raftLog.store.hardState.commit
        st'.raft.raftLog.store.hardState.term (FS h c0 st') := by
  intro v st' hvb
  have F2 := F.toFacts
  have Sa := S n a (Nat.le_refl _) ha
  obtain ⟨k, stk, stk', hka, hkb, hoth, hs⟩ := F2.stp ha hb
  by_cases hvk : v = k
  · subst hvk
    have hkb' := hkb
    rw [hkb] at hvb; cases hvb
    have oa := F2.node_inv ha hka
    have ob := F2.node_inv hb hkb'
    cases hs with
    | restart c rnd hboot hnet _ =>
      have hbt := CV.boot_booted c _ rnd st' hboot
      obtain ⟨_, _, hsl⟩ := boot_log c _ rnd st' oa.storeWF hboot
      rw [hbt.hs, FS_same hsl]
      exact (Sa.ncts v stk hka).mono (Nat.le_succ _) (Nat.le_refl _)
    | send hp hu hq hsame hnet _ =>
      rw [FS_same (st := stk) (by rw [hsame.1]), hsame.1]
      exact (Sa.ncts v stk hka).mono (Nat.le_succ _) (Nat.le_refl _)
    | psnap rnd hp hout hpend hnet =>
      cases hout with
      | noop hr =>
        rw [FS_same (st := stk) (by rw [hr]), hr]
        exact (Sa.ncts v stk hka).mono (Nat.le_succ _) (Nat.le_refl _)
      | done sn L hp0 hr hinvL habs hcm hper hus hue hents hmeta hhs =>
        have Ib := (F2.ghost_inv (n + 1) b hb).node v st' hkb'
        have hpk := F.pend_ok n a ha v stk sn hka hp0
        have hpnone : st'.raft.raftLog.unstable.snapshot = none := by rw [hr]; exact hus
        have hidx : st'.raft.raftLog.abs.snapIdx = sn.metadata.index := by
          rw [hr]; show L.abs.snapIdx = _; rw [habs, RaftLog.abs_some hp0]
        have hfl : FL h c0 st' = FL h c0 stk := FL_same (by rw [hr]; exact habs)
        have hc1 : st'.raft.raftLog.store.hardState.commit = sn.metadata.index := by rw [hr, hhs]
        have hc2 : st'.raft.raftLog.store.hardState.term =
            max stk.raft.raftLog.store.hardState.term sn.metadata.term := by rw [hr, hhs]
        rw [hc1, hc2]
        have hcov := ((Sa.nctm v stk hka).le (Nat.le_of_eq hpk.2.1.symm)).mono (Nat.le_succ n)
          (show stk.raft.term ≤ max stk.raft.raftLog.store.hardState.term sn.metadata.term by
            rw [hp.1]; exact Nat.le_max_left _ _)
        refine hcov.eq (fun j hj => ?_)
        rw [← Ib.pre hpnone j (by rw [hidx]; exact hj), hfl]
    | snap rnd m hm hto hty hpn hout hnet =>
      cases hout with
      | skip hr =>
        rw [FS_same (st := stk) (by rw [hr]), hr]
        exact (Sa.ncts v stk hka).mono (Nat.le_succ _) (Nat.le_refl _)
      | handled x _ _ _ _ _ _ _ _ _ hsto _ =>
        rw [FS_same (st := stk) (by rw [hsto]), hsto]
        exact (Sa.ncts v stk hka).mono (Nat.le_succ _) (Nat.le_refl _)
    | call rnd op res hop hnc hca hns hpn hss hcall hnet hpn' _ =>
      obtain ⟨hsrc, hse, hhs⟩ := F2.call_more ha hb hka hkb hnet hop hnc hns hpn hcall
      by_cases hst : op = .stabilize
      · subst hst
        obtain ⟨k1, k2, k3, _, k5, _, _, _⟩ := stabilize_out oa hpn hcall
        have hcm : st'.raft.raftLog.store.hardState.commit =
            stk.raft.raftLog.store.hardState.commit := by
          rcases hhs with c | ⟨j, c, _⟩ | ⟨_, c⟩
          · rw [c]
          · cases c
          · exact c
        rw [hcm, k2.1, k5]
        refine (((Sa.nctm v stk hka).le (Sa.scm v stk hka)).eq (fun j _ => ?_)).mono
          (Nat.le_succ _) (Nat.le_refl _)
        rw [← FL_eq_FS ob hpn' k1, FL_same k3]
      · have Ia := (F2.ghost_inv n a ha).node v stk hka
        have hfs : ∀ j, (FS h c0 st').entryAt j = (FS h c0 stk).entryAt j := by
          rcases hse with c | c | ⟨j, _, ho⟩
          · intro j; rw [FS_same c.storeLog]
          · exact absurd c hst
          · exact F2.fs_compact ha hb hka hkb ho
        rcases hhs with c | ⟨j, rfl, c⟩ | ⟨c, _⟩
        · rw [c]
          exact ((Sa.ncts v stk hka).eq (fun j _ => hfs j)).mono (Nat.le_succ _) (Nat.le_refl _)
        · rw [c]
          show Covered h c0 (n + 1) j stk.raft.raftLog.store.hardState.term _
          obtain ⟨hj1, hj2⟩ := hca j rfl
          rw [hj2.1]
          have hjc : j ≤ stk.raft.raftLog.committed := by
            rcases commitApply_call_le hcall with d | d
            · omega
            · exact d
          refine (((Sa.nctm v stk hka).le hjc).eq (fun i hi => ?_)).mono
            (Nat.le_succ _) (Nat.le_refl _)
          exact (hfs i).trans (Ia.persisted_of oa hpn (by omega)).symm
        · exact absurd c hst
  · have hva : a.node v = some st' := by rw [← hoth v hvk]; exact hvb
    exact (Sa.ncts v st' hva).mono (Nat.le_succ _) (Nat.le_refl _)

end Snap5
end Cluster
end RaftModel
