import RaftProofs.ClusterRead4M

/-!
Cluster-level ReadIndex safety for **forwarded** reads, part 4N: the assembly.  The step that adds a read
state answers a request of the node's own queue or delivers a `MsgReadIndexResp` (`rs_step`); so every
read state has a release behind it (`rs_src`, with `rir_prov`).  Every read state for the context of a
forwarding `read_index` call (`FwdAt h nf f ctx`) sits on the forwarding node, appears after the call,
and its index is at least every commit index of the state in which the call was made (`fwd_read_ok`).
-/
namespace RaftModel
namespace Cluster
namespace R4
open Node Raft.RD.R4
open Raft.RD (reqCtx boot_fresh)

variable {cfg : JointConfig} {c0 : Nat} {h : List Sys}

/-- a `read_index` call that registers its context is not a forwarding one -/
theorem regAt_not_fwdAt (F : ReadFacts cfg c0 h)
    (safe : ∀ s ∈ h, ∀ i st, s.node i = some st → st.raft.readOnly.option = .safe)
    {n i f : Nat} {K K' : Bytes} (hr : RegAt h n i K) (hf : FwdAt h n f K') : False := by
  obtain ⟨a, b, st, st', rnd, res, h1, h2, h3, hcall, h5, hnot, rs, hin⟩ := hr
  obtain ⟨a', b', st2, st2', _, _, p1, p2, p3, _, p5, hfo, _⟩ := hf
  rw [h1] at p1; cases p1
  rw [h2] at p2; cases p2
  have e := setNode_head_inj (h5.symm.trans p5)
  subst e
  rw [h3] at p3; cases p3
  cases call_riOut hcall with
  | frame hf => rw [hf.ro] at hin; exact hnot rs hin
  | fwd _ _ hcore _ =>
    have e1 : st'.raft.readOnly = st.raft.readOnly := congrArg RCore.ro hcore
    rw [e1] at hin; exact hnot rs hin
  | now hs => exact absurd hs (F.not_now safe (mem_of_get h1) h3)
  | reg hl _ _ _ _ _ => rw [hfo] at hl; cases hl

/-- two forwarding calls at one step are made on the same node -/
theorem fwdAt_node {n f1 f2 : Nat} {K1 K2 : Bytes} (h1 : FwdAt h n f1 K1) (h2 : FwdAt h n f2 K2) :
    f1 = f2 := by
  obtain ⟨a, b, _, _, _, _, p1, p2, _, _, p5, _⟩ := h1
  obtain ⟨a', b', _, _, _, _, q1, q2, _, _, q5, _⟩ := h2
  rw [p1] at q1; cases q1
  rw [p2] at q2; cases q2
  exact setNode_head_inj (p5.symm.trans q5)

/-- **the step that adds a read state to a node** answers a request of the node's own queue, or delivers
a `MsgReadIndexResp` of the transport to a follower -/
theorem rs_step (F : ReadFacts cfg c0 h)
    (safe : ∀ s ∈ h, ∀ i st, s.node i = some st → st.raft.readOnly.option = .safe)
    {n : Nat} {a b : Sys} (ha : h[n]? = some a) (hb : h[n + 1]? = some b) {j : Nat} {st st' : NState}
    (hja : a.node j = some st) (hjb : b.node j = some st') {x : ReadState}
    (hx : x ∈ st'.raft.readStates) (hnew : x ∉ st.raft.readStates) :
    (∃ m, (m.msgType = .msgHup ∨ (m ∈ a.net ∧ m.to = j)) ∧ Ans cfg st.raft m x) ∨
    (∃ y, y ∈ a.net ∧ y.to = j ∧ y.msgType = .msgReadIndexResp ∧ b = a.setNode j st' ∧
      (∃ rnd res, Node.call st rnd (.step y) = .ok (res, st')) ∧
      st'.raft.state = .follower ∧ (y.term = 0 ∨ y.term = st'.raft.term) ∧
      ∃ en, y.entries = [en] ∧ x = { index := y.index, requestCtx := en.data }) := by
  -- the moved node is `j`, and its read states have changed
  have same : ∀ k stk stk', a.node k = some stk → (a.setNode k stk').node j = some st' →
      j = k ∧ stk = st ∧ stk' = st' := by
    intro k stk stk' hk hv
    rcases node_cases hv with ⟨e1, e2⟩ | ⟨_, e2⟩
    · subst e1
      rw [hja] at hk; cases hk
      exact ⟨rfl, rfl, e2.symm⟩
    · rw [hja] at e2; cases e2
      exact absurd hx hnew
  have kept : ∀ k stk stk', a.node k = some stk → (a.setNode k stk').node j = some st' →
      stk'.raft.readStates = stk.raft.readStates → False := by
    intro k stk stk' hk hv hrs
    obtain ⟨_, rfl, rfl⟩ := same k stk stk' hk hv
    rw [hrs] at hx; exact hnew hx
  cases F.rd n a b ha hb with
  | call k stk stk' m hk hbe hm ho hrir =>
    subst hbe
    obtain ⟨rfl, rfl, rfl⟩ := same k stk stk' hk hjb
    rcases ho.rst x hx with c | c | c
    · exact absurd c hnew
    · rcases hm with q | ⟨q, hto⟩
      · rw [c] at q; cases q
      · rcases (hrir c).2 x hx with g | g
        · exact absurd g hnew
        · exact .inr ⟨m, q, hto, c, rfl, (hrir c).1, g⟩
    · exact .inl ⟨m, hm, c⟩
  | read k stk stk' K' rnd res hk hbe hcall ho =>
    subst hbe
    refine (kept k stk stk' hk hjb ?_).elim
    cases ho with
    | frame hf => exact hf.rs
    | fwd _ _ hcore _ => exact congrArg RCore.rs hcore
    | now hs => exact absurd hs (F.not_now safe (mem_of_get ha) hk)
    | reg _ _ _ _ hcore _ => exact congrArg RCore.rs hcore
  | ri k stk stk' m rnd res hk hbe hm hto hty hcall ho =>
    subst hbe
    refine (kept k stk stk' hk hjb ?_).elim
    cases ho with
    | keep hs _ => exact hs.rs
    | fwd r1 hs _ hcore _ _ _ =>
      have : stk'.raft.readStates = r1.readStates := congrArg RCore.rs hcore
      exact this.trans hs.rs
    | now hs => exact absurd hs (F.not_now safe (mem_of_get ha) hk)
    | reg _ _ _ _ hcore _ => exact congrArg RCore.rs hcore
  | send k stk stk' hk hbe hst =>
    subst hbe
    obtain ⟨rfl, rfl, rfl⟩ := same k stk stk' hk hjb
    rw [hst] at hx; cases hx
  | restart k stk stk' hk hbe hf hq =>
    subst hbe
    obtain ⟨rfl, rfl, rfl⟩ := same k stk stk' hk hjb
    rw [hf.2.2] at hx; cases hx

/-- the release behind the read state `x` of node `j`: at a step before `k`, node `v` held the request
pending and a joint quorum had acknowledged a request not before it in the queue; the answer stayed at
`v = j`, or a `MsgReadIndexResp` travelled -/
def RsSrc (cfg : JointConfig) (h : List Sys) (k j : Nat) (x : ReadState) : Prop :=
  ∃ (n : Nat) (a : Sys) (v : Nat) (st : NState) (m : Message) (rs0 : ReadIndexStatus) (Kack : Bytes)
    (acks : List Nat) (p i : Nat),
    n < k ∧ h[n]? = some a ∧ a.node v = some st ∧ (m.msgType = .msgHup ∨ (m ∈ a.net ∧ m.to = v)) ∧
    (x.requestCtx, rs0) ∈ st.raft.readOnly.pendingReadIndex ∧ x.index = rs0.index ∧
    (rs0.req.frm = 0 ∨ rs0.req.frm = j) ∧
    (v = j ∨ ∃ (n' : Nat) (a' : Sys) (y : Message),
      h[n']? = some a' ∧ y ∈ a'.net ∧ y.msgType = .msgReadIndexResp) ∧
    st.raft.readOnly.readIndexQueue[p]? = some x.requestCtx ∧
    st.raft.readOnly.readIndexQueue[i]? = some Kack ∧ p ≤ i ∧
    Tracker.hasQuorum cfg acks = true ∧ ∀ u ∈ acks, AckOk st.raft m Kack u

theorem RsSrc.mono {k k' j : Nat} {x : ReadState} (hs : RsSrc cfg h k j x) (hle : k ≤ k') :
    RsSrc cfg h k' j x := by
  obtain ⟨n, a, v, st, m, rs0, Kack, acks, p, i, h1, h2⟩ := hs
  exact ⟨n, a, v, st, m, rs0, Kack, acks, p, i, by omega, h2⟩

/-- **every read state, in every state of the history, has a release behind it** -/
theorem rs_src (F : ReadFacts cfg c0 h)
    (safe : ∀ s ∈ h, ∀ i st, s.node i = some st → st.raft.readOnly.option = .safe) :
    ∀ (k : Nat) (s : Sys), h[k]? = some s → ∀ j st, s.node j = some st →
      ∀ x ∈ st.raft.readStates, RsSrc cfg h k j x := by
  refine hist_induct h _ ?_ ?_
  · intro s h0 v st hv x hx
    have hinit := hist_init F.hist s h0
    obtain ⟨c, store, rnd, _, hb⟩ := hinit.2 v st hv
    rw [(boot_fresh c store rnd st hb).2.2] at hx; cases hx
  · intro n a b ha hb ih j st' hvb x hx
    obtain ⟨st, hva⟩ := F.node_back ha hb hvb
    by_cases hold : x ∈ st.raft.readStates
    · exact (ih j st hva x hold).mono (Nat.le_succ n)
    · rcases rs_step F safe ha hb hva hvb hx hold with
        ⟨m, hm, K, rs0, Kack, acks, p, i, c1, c2, c3, c4, c5, c6, c7, c8, c9⟩ |
        ⟨y, q, hto, c, _, _, _, _, en, he, hxe⟩
      · -- a request of the node's own queue
        have hK : K = x.requestCtx := by
          have := (pend_ok F safe n a ha).req j st hva K rs0 c1
          rw [c2] at this
          injection this with this
          exact this.symm
        subst hK
        exact ⟨n, a, j, st, m, rs0, Kack, acks, p, i, Nat.lt_succ_self n, ha, hva, hm, c1, c3,
          by rw [← F.id (mem_of_get ha) hva]; exact c4, .inl rfl, c5, c6, c7, c8, c9⟩
      · -- a delivered `MsgReadIndexResp`
        obtain ⟨n1, a1, v, st1, m1, hlt, ha1, hv1, hm1, _, K, rs0, Kack, acks, p, i,
          c1, c2, c3, c4, c5, c6, c7, c8, c9⟩ := (rir_prov F safe n a ha).net y q c
        have hK : K = x.requestCtx := by
          have := (pend_ok F safe n1 a1 ha1).req v st1 hv1 K rs0 c1
          unfold reqCtx at this
          rw [← c2, he] at this
          injection this with this
          rw [← this, hxe]
        subst hK
        exact ⟨n1, a1, v, st1, m1, rs0, Kack, acks, p, i, by omega, ha1, hv1, hm1, c1,
          by rw [hxe]; exact c3, .inr (c4.symm.trans hto), .inr ⟨n, a, y, ha, q, c⟩, c5, c6, c7, c8, c9⟩

/-- **a release of the request that a forwarding call filed**: it happens after the call, answers the
forwarding node, and the read index covers every commit index of the state of the call -/
theorem release_final (H : RdHypF2 cfg c0 h) {nf f : Nat} {ctx : Bytes} (hfwd : FwdAt h nf f ctx)
    {sn : Sys} (hn : h[nf]? = some sn)
    {n : Nat} {a : Sys} (ha : h[n]? = some a) {v : Nat} {st : NState} (hva : a.node v = some st)
    {m : Message} (hm : m.msgType = .msgHup ∨ (m ∈ a.net ∧ m.to = v))
    {rs0 : ReadIndexStatus} {Kack : Bytes} {acks : List Nat} {p i : Nat}
    (c1 : (ctx, rs0) ∈ st.raft.readOnly.pendingReadIndex)
    (c5 : st.raft.readOnly.readIndexQueue[p]? = some ctx)
    (c6 : st.raft.readOnly.readIndexQueue[i]? = some Kack) (c7 : p ≤ i)
    (c8 : Tracker.hasQuorum cfg acks = true) (c9 : ∀ u ∈ acks, AckOk st.raft m Kack u)
    {j : Nat} (hdst : rs0.req.frm = 0 ∨ rs0.req.frm = j) :
    j = f ∧ nf < n ∧ ∀ u stu, sn.node u = some stu → stu.raft.raftLog.committed ≤ rs0.index := by
  have HF := H.toRdHypF
  have F := ReadFacts.of_hyp3w H.toHyp3w
  have hne : ctx ≠ [] := H.nonempty nf f ctx hfwd.call
  obtain ⟨n0, i0, hlt, hreg⟩ := occ_issued F H.safe n a ha ctx hne (.inl ⟨v, st, hva, .inl ⟨rs0, c1⟩⟩)
  obtain ⟨_, hafter, hb⟩ := rel_bound H.toBase hreg ha hva hm c1 c5 c6 c7 c8 c9
  have hnf : nf < n0 := by
    rcases hreg with c | ⟨m0, idx, c⟩
    · have e := H.uniqc n0 nf i0 f ctx c.call hfwd.call
      subst e
      exact (regAt_not_fwdAt F H.safe c hfwd).elim
    · obtain ⟨n2, g1, g2⟩ := fwdReg_src HF c
      have e := H.uniqc n2 nf _ f ctx g2.call hfwd.call
      omega
  refine ⟨?_, by omega, hb nf sn (by omega) hn⟩
  rcases pend_src HF n a ha v st hva ctx rs0 c1 with ⟨_, n2, i2, _, g2⟩ | ⟨n2, _, g2⟩
  · have e := H.uniqc n2 nf i2 f ctx g2.call hfwd.call
    subst e
    exact (regAt_not_fwdAt F H.safe g2 hfwd).elim
  · have e := H.uniqc n2 nf _ f ctx g2.call hfwd.call
    subst e
    have e2 := fwdAt_node g2 hfwd
    have hf0 : f ≠ 0 := by
      obtain ⟨a', _, st0, _, _, _, p1, _, p3, _⟩ := hfwd
      exact (((hist_all F.hist).1 a' (mem_of_get p1)).ids f st0 p3).2
    rcases hdst with c | c
    · rw [e2] at c; exact absurd c hf0
    · rw [← c, e2]

/-- **every read state for the context of a forwarding `read_index` call, in every state of the
history, sits on the forwarding node, appears after the call, and its index is at least every commit
index of the state in which the call was made** -/
theorem fwd_read_ok (H : RdHypF2 cfg c0 h) {nf f : Nat} {ctx : Bytes} (hfwd : FwdAt h nf f ctx)
    {sn : Sys} (hn : h[nf]? = some sn) :
    ∀ (k : Nat) (s : Sys), h[k]? = some s → ∀ j st, s.node j = some st →
      ∀ x ∈ st.raft.readStates, x.requestCtx = ctx →
        j = f ∧ nf < k ∧ ∀ u stu, sn.node u = some stu → stu.raft.raftLog.committed ≤ x.index := by
  intro k s hk j st hj x hx hctx
  obtain ⟨n, a, v, stv, m, rs0, Kack, acks, p, i, hlt, ha, hva, hm, c1, c3, hdst, _, c5, c6, c7, c8, c9⟩ :=
    rs_src (.of_hyp3w H.toHyp3w) H.safe k s hk j st hj x hx
  rw [hctx] at c1 c5
  obtain ⟨q1, q2, q3⟩ := release_final H hfwd hn ha hva hm c1 c5 c6 c7 c8 c9 (j := j) hdst
  exact ⟨q1, by omega, fun u stu hu => by rw [c3]; exact q3 u stu hu⟩

end R4

open Node in
/-- **follower side**: the step that adds a read state to a node delivers a `MsgReadIndexResp` of the
transport to a follower, or answers a request filed at this node -/
theorem read_state_source {cfg : JointConfig} {c0 : Nat} {h : List Sys} (H : Hyp3w cfg c0 h)
    (safe : ∀ s ∈ h, ∀ i st, s.node i = some st → st.raft.readOnly.option = .safe) {n : Nat} {a b : Sys} (ha : h[n]? = some a)
    (hb : h[n + 1]? = some b) {j : Nat} {st st' : NState} (hja : a.node j = some st)
    (hjb : b.node j = some st') {x : ReadState} (hx : x ∈ st'.raft.readStates)
    (hnew : x ∉ st.raft.readStates) :
    (∃ y, y ∈ a.net ∧ y.to = j ∧ y.msgType = .msgReadIndexResp ∧ DeliverAt h n j y ∧
      st'.raft.state = .follower ∧ (y.term = 0 ∨ y.term = st'.raft.term) ∧
      ∃ en, y.entries = [en] ∧ x = { index := y.index, requestCtx := en.data }) ∨
    (∃ m, Raft.RD.Ans cfg st.raft m x) := by
  rcases R4.rs_step (.of_hyp3w H) safe ha hb hja hjb hx hnew with ⟨m, _, g⟩ | ⟨y, q, hto, c, hbe, ⟨rnd, res, hc⟩, g⟩
  · exact .inr ⟨m, g⟩
  · exact .inl ⟨y, q, hto, c, ⟨a, b, st, st', rnd, res, ha, hb, hja, q, hto, hc, hbe⟩, g⟩

end Cluster
end RaftModel
