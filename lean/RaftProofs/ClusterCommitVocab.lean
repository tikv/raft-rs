import RaftProofs.ClusterCommitKStep
import RaftProofs.ClusterCommit2L
import RaftProps.C05c

/-!
Cluster-level commit safety: **the vocabulary the commit layers share** — the predicates on states and
histories in which the invariants of the commit layer are stated, with the lemmas that need no
hypothesis bundle.  The layers without compaction (`ClusterCommitPlain`), with compaction
(`ClusterSnap*`, namespace `Snap`), with snapshots (`Snap5`), with batching (`ClusterB.M`) and the
partial layer `Snap.J` state their invariants in these terms.

* term floors (`TermFloor`, `FloorAt`: a lower bound of a node's in-memory and stored term, never lost)
  and `Dead s l t`: node `l` can no longer lead term `t`;
* Log Matching across time: the transition a step induces (`trans_of_cstep`), where an entry was created
  (`Born`);
* logs: `Has g c t`, `EqUpTo g g' i`;
* what is recorded about a message when it is queued (`AppGen`, `HbGen`, `VoteGen`, `AckGen`: the `Φ` of
  `provenance`);
* accepting append responses and vote requests in queues and transport (`AckQ`, `AckN`, `Pending`,
  `ReqInv`, `CandQ`);
* commit events (`CommitEv`, bundled `Ev`), a node that has acknowledged one (`AckedMem`, `AckedDur`),
  `UpTo`, `LedBy`, `isGrant`;
* what a `call` / `deliver` step does to the logical log of its node (`CallStep`).
-/
namespace RaftModel
namespace Cluster
open Node Raft Raft.CC RaftProps.C02 RaftProps.C05

variable {cfg : JointConfig} {c0 : Nat} {h : List Sys}

/-! ### term floors; a node that can no longer lead a term -/

/-- `τ` is a lower bound of the in-memory and of the stored term of node `k` -/
def TermFloor (s : Sys) (k τ : Nat) : Prop :=
  ∃ st, s.node k = some st ∧ τ ≤ st.raft.term ∧ τ ≤ st.raft.raftLog.store.hardState.term

theorem TermFloor.step {s s' : Sys} {k τ : Nat} (hstep : Step s s') (h : TermFloor s k τ) :
    TermFloor s' k τ := by
  obtain ⟨st, hk, h1, h2⟩ := h
  obtain ⟨st', hk', hmem, hrel⟩ := C06_cluster_step_term_vote s s' hstep k st hk
  refine ⟨st', hk', ?_, ?_⟩
  · rcases hmem with g | ⟨_, g, _⟩
    · rcases g with g | ⟨g, _⟩ <;> omega
    · omega
  · rcases hrel with ⟨g, _⟩ | ⟨g1, _, g3, _⟩ | ⟨g, _⟩ <;> omega

theorem TermFloor.steps {s s' : Sys} {k τ : Nat} (hs : Steps s s') (h : TermFloor s k τ) :
    TermFloor s' k τ := by
  induction hs with
  | refl => exact h
  | tail b c _ hbc ih => exact ih.step hbc

theorem TermFloor.later {h : List Sys} (hh : History h) {n n' : Nat} {s s' : Sys} {k τ : Nat}
    (hn : h[n]? = some s) (hn' : h[n']? = some s') (hle : n ≤ n') (hf : TermFloor s k τ) :
    TermFloor s' k τ :=
  hf.steps ((hist_all hh).2.2 n n' s s' hle hn hn')

theorem step_node_back {s s' : Sys} (hs : Step s s') (i : Nat) (st' : NState)
    (hn : s'.node i = some st') : ∃ st, s.node i = some st := by
  obtain ⟨k, st, stk, M⟩ := hs.moved
  rcases M.node_after hn with ⟨rfl, _⟩ | ⟨_, c⟩
  · exact ⟨st, M.hk⟩
  · exact ⟨st', c⟩

theorem node_back_steps {s s' : Sys} (hs : Steps s s') (l : Nat) :
    ∀ st', s'.node l = some st' → ∃ st, s.node l = some st := by
  induction hs with
  | refl => intro st' h; exact ⟨st', h⟩
  | tail b c _ hbc ih =>
    intro st' h
    obtain ⟨stb, hb⟩ := step_node_back hbc l st' h
    exact ih stb hb

/-- `τ` is a lower bound of the in-memory and of the stored term of node `k`, if it runs -/
def FloorAt (s : Sys) (k τ : Nat) : Prop :=
  ∀ st, s.node k = some st → τ ≤ st.raft.term ∧ τ ≤ st.raft.raftLog.store.hardState.term

theorem FloorAt.step {s s' : Sys} {k τ : Nat} (hstep : Step s s') (hf : FloorAt s k τ) :
    FloorAt s' k τ := by
  intro st' hk'
  obtain ⟨st, hk⟩ := step_node_back hstep k st' hk'
  obtain ⟨h1, h2⟩ := hf st hk
  obtain ⟨st2, hk2, h3, h4⟩ := (TermFloor.step hstep ⟨st, hk, h1, h2⟩ : TermFloor s' k τ)
  rw [hk'] at hk2; cases hk2
  exact ⟨h3, h4⟩

theorem FloorAt.steps {s s' : Sys} {k τ : Nat} (hs : Steps s s') (hf : FloorAt s k τ) :
    FloorAt s' k τ := by
  induction hs with
  | refl => exact hf
  | tail b c _ hbc ih => exact ih.step hbc

/-- node `l` can no longer lead term `t`: its term floor is `t`, and it is beyond `t` or in the
follower / pre-candidate role at `t` -/
def Dead (s : Sys) (l t : Nat) : Prop :=
  ∃ st, s.node l = some st ∧ t ≤ st.raft.raftLog.store.hardState.term ∧
    (t < st.raft.term ∨ (st.raft.term = t ∧ (st.raft.state = .follower ∨ st.raft.state = .preCandidate)))

theorem Dead.not_leads {s : Sys} {l t : Nat} (h : Dead s l t) : ¬ leads s l t := by
  obtain ⟨st, hk, _, hd⟩ := h
  rintro ⟨st', hk', hs, ht⟩
  rw [hk] at hk'; cases hk'
  rcases hd with c | ⟨_, c | c⟩
  · omega
  · rw [hs] at c; cases c
  · rw [hs] at c; cases c

/-! ### Log Matching across time -/

/-- the transition a contract-abiding step induces -/
theorem trans_of_cstep {own : Nat → Nat → Prop} {ini : Entry → Prop} {a b : Sys}
    (I : InvL own ini a) (hnb : NoBatch a) (hstep : CStep a b) :
    ∃ k st st' pers crash, Trans a b k st st' pers crash := by
  cases hstep with
  | call i st st' rnd op res h1 h2 h3 h4 =>
    exact ⟨i, st, st', _, _, trans_call I hnb h1 (.inl h2) h3 h4⟩
  | deliver i st st' rnd m res h1 h2 _ h4 =>
    exact ⟨i, st, st', _, _, trans_call I hnb h1 (.inr ⟨m, rfl, h2⟩) (fun j hc => by cases hc) h4⟩
  | send i st st' h1 h2 h3 => exact ⟨i, st, st', _, _, trans_send I h1 h2 h3⟩
  | restart i st st' c rnd h1 _ h3 => exact ⟨i, st, st', _, _, trans_restart I h1 h3⟩

/-- a log of the history: the logical log of node `i` in `h[n]` -/
theorem at_log {s : Sys} {i : Nat} {st : NState} (hi : s.node i = some st) :
    At s (.log i) st.raft.raftLog.abs := ⟨st, hi, rfl⟩

/-- the entry `e` at index `q` was created by the leader of its term: at `h[m]` that leader's log
holds it, followed only by entries of the same term -/
def Born (h : List Sys) (N q : Nat) (e : Entry) : Prop :=
  ∃ m s l st, m ≤ N ∧ h[m]? = some s ∧ s.node l = some st ∧ st.raft.state = .leader ∧
    st.raft.term = e.term ∧ st.raft.raftLog.abs.entryAt q = some e ∧
    ∀ k e', st.raft.raftLog.abs.entryAt k = some e' → q ≤ k → e'.term = e.term

/-! ### logs -/

/-- `g` holds an entry of term `t` at index `c` -/
def Has (g : LLog) (c t : Nat) : Prop := ∃ e, g.entryAt c = some e ∧ e.term = t

/-- two agreeing logs with the same snapshot point that hold entries of the same term at `q` are
equal up to `q` -/
theorem eq_below {g1 g2 : LLog} (hag : Agree g1 g2) (hs : g1.snapIdx = g2.snapIdx) {q : Nat}
    {e1 e2 : Entry} (h1 : g1.entryAt q = some e1) (h2 : g2.entryAt q = some e2)
    (ht : e1.term = e2.term) : ∀ k, k ≤ q → g1.entryAt k = g2.entryAt k := by
  intro k hk
  by_cases hks : k ≤ g1.snapIdx
  · unfold LLog.entryAt
    rw [if_pos hks, if_pos (by omega)]
  · have l1 := g1.entryAt_lt h1
    have l2 := g2.entryAt_lt h2
    obtain ⟨a, ha⟩ := g1.entryAt_exists (i := k) (by omega) (by omega)
    obtain ⟨b, hb⟩ := g2.entryAt_exists (i := k) (by omega) (by omega)
    rw [ha, hb, agree_matching hag (q - k) q e1 e2 h1 h2 ht k a b (by omega) ha hb]

theorem Has.of_eq {g g' : LLog} {c t : Nat} (h : g'.entryAt c = g.entryAt c) (hh : Has g c t) :
    Has g' c t := by
  obtain ⟨e, he, ht⟩ := hh
  exact ⟨e, h.trans he, ht⟩

/-- a leader's appended entries leave the old ones alone -/
theorem appended_old {a r : Raft} {es : List Entry} (h : Appended a r es) {k : Nat} {e : Entry}
    (he : a.raftLog.abs.entryAt k = some e) : r.raftLog.abs.entryAt k = some e :=
  (h.sub k e he).1

theorem Has.appended {a r : Raft} {es : List Entry} (h : Appended a r es) {c t : Nat}
    (hh : Has a.raftLog.abs c t) : Has r.raftLog.abs c t := by
  obtain ⟨e, he, ht⟩ := hh
  exact ⟨e, appended_old h he, ht⟩

/-- the two logs hold the same entries up to `i` -/
def EqUpTo (g g' : LLog) (i : Nat) : Prop := ∀ k, k ≤ i → g.entryAt k = g'.entryAt k

theorem EqUpTo.mono {g g' : LLog} {i j : Nat} (h : EqUpTo g g' i) (hle : j ≤ i) : EqUpTo g g' j :=
  fun k hk => h k (Nat.le_trans hk hle)

theorem EqUpTo.symm {g g' : LLog} {i : Nat} (h : EqUpTo g g' i) : EqUpTo g' g i :=
  fun k hk => (h k hk).symm

theorem EqUpTo.trans {g1 g2 g3 : LLog} {i : Nat} (h1 : EqUpTo g1 g2 i) (h2 : EqUpTo g2 g3 i) :
    EqUpTo g1 g3 i := fun k hk => (h1 k hk).trans (h2 k hk)

theorem EqUpTo.has {g g' : LLog} {i c t : Nat} (h : EqUpTo g g' i) (hc : c ≤ i) (hh : Has g' c t) :
    Has g c t := Has.of_eq (h c hc) hh

/-! ### what is recorded about a message when it is queued -/

/-- what is recorded about a `MsgAppend` when it is queued -/
def AppGen (h : List Sys) (n i : Nat) (x : Message) : Prop :=
  ∃ s st, h[n]? = some s ∧ s.node i = some st ∧ st.raft.state = .leader ∧
    st.raft.term = x.term ∧ x.frm = i ∧ x.commit ≤ st.raft.raftLog.committed ∧
    st.raft.raftLog.term x.index = .ok x.logTerm ∧ SubW x st.raft.raftLog.abs

/-- what is recorded about a `MsgHeartbeat` when it is queued -/
def HbGen (h : List Sys) (n i : Nat) (x : Message) : Prop :=
  ∃ s st, h[n]? = some s ∧ s.node i = some st ∧ st.raft.state = .leader ∧
    st.raft.term = x.term ∧ x.frm = i ∧ x.commit ≤ st.raft.raftLog.committed ∧
    (x.commit = 0 ∨ Anet s.net x.to x.term x.commit)

/-- what is recorded about a (pre-)vote message when it is queued -/
def VoteGen (h : List Sys) (n i : Nat) (x : Message) : Prop :=
  ∃ s st, h[n]? = some s ∧ s.node i = some st ∧ VkOK st.raft x

/-- what is recorded about an accepting append response with a positive index when it is queued -/
def AckGen (h : List Sys) (n i : Nat) (x : Message) : Prop :=
  ∃ s st, h[n]? = some s ∧ s.node i = some st ∧ x ∈ st.raft.msgs ∧ x.term = st.raft.term ∧
    x.frm = i

/-! ### accepting append responses and vote requests, queued or in the transport -/

/-- the accepting append responses with a positive index in the queue of `v` -/
def AckQ (s : Sys) : Prop :=
  ∀ v st, s.node v = some st → ∀ a ∈ st.raft.msgs, isAck a → a.index ≠ 0 →
    a.frm = v ∧ a.term ≤ st.raft.term ∧ a.term ≠ 0

/-- … and in the transport -/
def AckN (s : Sys) : Prop :=
  ∀ a ∈ s.net, isAck a → a.index ≠ 0 → FloorAt s a.frm a.term ∧ a.term ≠ 0

/-- `x` is in the transport or in the queue of `v` -/
def Pending (s : Sys) (v : Nat) (x : Message) : Prop :=
  x ∈ s.net ∨ ∃ st, s.node v = some st ∧ x ∈ st.raft.msgs

def ReqInv (s : Sys) : Prop :=
  ∀ x st, s.node x = some st → st.raft.state = .candidate →
    ∀ q, (q ∈ s.net ∨ q ∈ st.raft.msgs) → q.msgType = .msgRequestVote → q.frm = x →
      q.term = st.raft.term →
      q.index = st.raft.raftLog.lastIndex ∧ st.raft.raftLog.lastTerm = .ok q.logTerm

def CandQ (s : Sys) : Prop :=
  ∀ x st, s.node x = some st → (st.raft.state = .candidate ∨ st.raft.state = .leader) →
    (∃ q ∈ s.net, q.msgType = .msgRequestVote ∧ q.frm = x ∧ q.term = st.raft.term) →
    ∀ a ∈ st.raft.msgs, isAck a → a.index = 0

/-! ### commit events -/

/-- **a commit event**: the step `h[nE] → h[nE + 1]` takes the commit index of node `l`, leader of
term `t` after the step, up to `c`; `gE` is its logical log and `pE` its `persisted` after the step -/
def CommitEv (h : List Sys) (nE l t c : Nat) (gE : LLog) (pE : Nat) : Prop :=
  ∃ a b sta stb, h[nE]? = some a ∧ h[nE + 1]? = some b ∧ a.node l = some sta ∧
    b.node l = some stb ∧ stb.raft.state = .leader ∧ stb.raft.term = t ∧
    sta.raft.raftLog.committed < stb.raft.raftLog.committed ∧ c = stb.raft.raftLog.committed ∧
    gE = stb.raft.raftLog.abs ∧ pE = stb.raft.raftLog.persisted

/-- a commit event, bundled -/
structure Ev where
  nE : Nat
  l : Nat
  t : Nat
  c : Nat
  gE : LLog
  pE : Nat

def Ev.ok (h : List Sys) (E : Ev) : Prop := CommitEv h E.nE E.l E.t E.c E.gE E.pE

/-- a commit event happens at the stepping node -/
theorem ev_at_step {E : Ev} (hE : E.ok h) {a b : Sys} (ha : h[E.nE]? = some a)
    (hb : h[E.nE + 1]? = some b) {k : Nat} (hoth : ∀ v, v ≠ k → b.node v = a.node v) : E.l = k := by
  obtain ⟨a', b', sta, stb, ha', hb', hla, hlb, _, _, hc, _⟩ := hE
  rw [ha] at ha'; cases ha'
  rw [hb] at hb'; cases hb'
  apply Classical.byContradiction
  intro hne
  rw [hoth E.l hne, hla] at hlb
  cases hlb
  omega

/-- a step that leaves the commit index of every node alone is not a commit event -/
theorem not_ev_of_same {E : Ev} (hE : E.ok h) {n : Nat} {a b : Sys} (ha : h[n]? = some a)
    (hb : h[n + 1]? = some b)
    (hsame : ∀ v sta stb, a.node v = some sta → b.node v = some stb →
      stb.raft.state = .leader → stb.raft.raftLog.committed ≤ sta.raft.raftLog.committed) :
    E.nE ≠ n := by
  intro he
  obtain ⟨a', b', sta, stb, ha', hb', hla, hlb, hsl, _, hc, _⟩ := hE
  rw [he] at ha' hb'
  rw [ha] at ha'; cases ha'
  rw [hb] at hb'; cases hb'
  have := hsame E.l sta stb hla hlb hsl
  omega

/-- node `v` (state `st` in `s = h[n]`) has acknowledged the event's index for the event's term — the
response is in the transport or still queued —, or is the committing leader itself, after the event,
with the index persisted -/
def AckedMem (s : Sys) (n : Nat) (E : Ev) (v : Nat) (st : NState) : Prop :=
  (∃ a, (a ∈ s.net ∨ a ∈ st.raft.msgs) ∧ isAck a ∧ a.frm = v ∧ a.term = E.t ∧ E.c ≤ a.index) ∨
  (v = E.l ∧ E.nE < n ∧ E.c ≤ E.pE)

/-- … durably: the response is in the transport -/
def AckedDur (s : Sys) (n : Nat) (E : Ev) (v : Nat) : Prop :=
  (∃ a, a ∈ s.net ∧ isAck a ∧ a.frm = v ∧ a.term = E.t ∧ E.c ≤ a.index) ∨
  (v = E.l ∧ E.nE < n ∧ E.c ≤ E.pE)

theorem AckedDur.mem {s : Sys} {n : Nat} {E : Ev} {v : Nat} {st : NState} (h : AckedDur s n E v) :
    AckedMem s n E v st :=
  h.imp (fun ⟨a, h1, h2⟩ => ⟨a, .inl h1, h2⟩) (fun g => g)

/-- `AckedMem` before the step, from `AckedMem` after it, for a node that did not queue the
acknowledgement in this step and is not the leader committing in this step -/
theorem acked_back {n : Nat} {a b : Sys} {E : Ev} {v : Nat} {st st' : NState}
    (hnet : ∀ x ∈ b.net, x ∈ a.net ∨ x ∈ st.raft.msgs)
    (hq : ∀ x ∈ st'.raft.msgs, x ∈ st.raft.msgs) (hne : E.nE ≠ n)
    (hk : AckedMem b (n + 1) E v st') : AckedMem a n E v st := by
  rcases hk with ⟨x, hx, h2⟩ | ⟨h1, h2, h3⟩
  · left
    refine ⟨x, ?_, h2⟩
    rcases hx with c | c
    · rcases hnet x c with d | d
      · exact .inl d
      · exact .inr d
    · exact .inr (hq x c)
  · exact .inr ⟨h1, by omega, h3⟩

/-- the request's `(log_term, index)` is at least `(t, c)` -/
def UpTo (q : Message) (c t : Nat) : Prop := t < q.logTerm ∨ (q.logTerm = t ∧ c ≤ q.index)

/-- some node leads term `T` in a state `h[m']`, `m' ≤ m` -/
def LedBy (h : List Sys) (m T : Nat) : Prop := ∃ m' s l, m' ≤ m ∧ h[m']? = some s ∧ leads s l T

theorem LedBy.mono {h : List Sys} {m m' T : Nat} (hl : LedBy h m T) (hle : m ≤ m') :
    LedBy h m' T := by
  obtain ⟨x, s, l, h1, h2⟩ := hl
  exact ⟨x, s, l, Nat.le_trans h1 hle, h2⟩

/-- a granted real vote -/
def isGrant (g : Message) : Prop := g.msgType = .msgRequestVoteResponse ∧ g.reject = false

/-! ### one `call` / `deliver` step and the log of its node -/

/-- what a `call` / `deliver` step does to the logical log of its node -/
inductive CallStep (a : Sys) (v : Nat) (sta stb : NState) : Prop
  | same (hl : stb.raft.raftLog.abs = sta.raft.raftLog.abs)
  | grew (es : List Entry) (hg : Appended sta.raft stb.raft es)
  | acc (m : Message) (hm : m ∈ a.net) (hty : m.msgType = .msgAppend) (hto : m.to = v)
      (ha : Accepted sta.raft.raftLog.abs stb.raft.raftLog.abs m)
      (hc : stb.raft.raftLog.committed =
        max sta.raft.raftLog.committed (min m.commit (m.index + m.entries.length)))
      (hci : sta.raft.raftLog.committed ≤ m.index)
      (hs : stb.raft.state = .follower) (ht : m.term = stb.raft.term ∨ m.term = 0)

end Cluster
end RaftModel
