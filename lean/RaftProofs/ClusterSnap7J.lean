import RaftProofs.ClusterSnap7C

/-!
Commit safety of `ClusterSem` with log compaction AND `batch_append`, part 7J (C01n): **why the
clean-queue invariant of the batching layer does not transfer to histories with compaction** — a
concrete history (kernel-evaluated) under the joined bundle `Snap7.Hyp3wB`, with `batch_append = true`
at the leader, in which a compaction overtakes a queued `MsgAppend`:

the history of `ClusterCommit5c4M` (`c01w_hist`: node 1 leads term 1 with commit index 3, batching on;
node 3 has never been reached) continued by seven steps — node 1 ticks (heartbeats are queued) and
sends; node 3 is delivered the heartbeat, persists and sends its response; node 1 is delivered the
response and queues a `MsgAppend` for node 3 **anchored at index 0** with entry 1; before sending it, the
application of node 1 **compacts its log up to index 3** (snapshot point 2).  Now the leader's queue
holds a `MsgAppend` whose entry 1 is no longer in the leader's log: the conclusion `SubW x log` of
`ClusterB.leader_queueB` (C01f; used by `append_prov` for messages that `try_batching` glued onto) fails.
The invariant has to be restated over the uncompacted ghost logs (`Snap.FL`) before the batching layer
can be joined with the compaction layer.
-/
namespace RaftModel
namespace Cluster
namespace Snap7
open Node Raft Raft.CC ClusterB RaftProps.C02 RaftProps.C05

def sx_a16 := c02x_st (Node.call c01w_a15 none .tick)
def sx_a17 := c02x_st (Node.call sx_a16 none .drain)
/-- the heartbeat for node 3 -/
def sx_hb := sx_a16.raft.msgs.getLast!
def sx_c0 : NState := (c01w_s24.node 3).get!
def sx_c1 := c02x_st (Node.call sx_c0 none (.step sx_hb))
def sx_c2 := c02x_st (Node.call sx_c1 none .stabilize)
def sx_c3 := c02x_st (Node.call sx_c2 none .drain)
/-- node 3's heartbeat response -/
def sx_hbr := sx_c2.raft.msgs.head!
def sx_a18 := c02x_st (Node.call sx_a17 none (.step sx_hbr))
def sx_a19 := c02x_st (Node.call sx_a18 none (.compact 3))
/-- the `MsgAppend` for node 3 that the compaction overtakes: anchor 0, entry 1 -/
def sx_app := sx_a19.raft.msgs.head!

def sx_s25 : Sys := c01w_s24.setNode 1 sx_a16
def sx_s26 : Sys := { (sx_s25.setNode 1 sx_a17) with net := sx_s25.net ++ sx_a16.raft.msgs }
def sx_s27 : Sys := sx_s26.setNode 3 sx_c1
def sx_s28 : Sys := sx_s27.setNode 3 sx_c2
def sx_s29 : Sys := { (sx_s28.setNode 3 sx_c3) with net := sx_s28.net ++ sx_c2.raft.msgs }
def sx_s30 : Sys := sx_s29.setNode 1 sx_a18
def sx_s31 : Sys := sx_s30.setNode 1 sx_a19

def sx_tail : List Sys := [sx_s25, sx_s26, sx_s27, sx_s28, sx_s29, sx_s30, sx_s31]
def sx_hist : List Sys := c01w_hist ++ sx_tail

def sx_moves : List Move :=
  [.call 1 c01w_a15 .tick, .send 1 sx_a16, .deliver 3 sx_c0 sx_hb, .call 3 sx_c1 .stabilize,
   .send 3 sx_c2, .deliver 1 sx_a17 sx_hbr, .call 1 sx_a18 (.compact 3)]

/-- **the history, run once**: the step tests of the seven moves and the test of every new state; the
leader and its queued `MsgAppend` in the last state -/
theorem sx_eval :
    (Move.all (fun s mv => mv.ok s && mv.okC && mv.okPersist && nx_chk (mv.next s)) c01w_s24 sx_moves &&
      nx_chk c01w_s24) = true ∧
    sx_a19.raft.msgs ≠ [] ∧ sx_app.msgType = .msgAppend ∧
    sx_a19.raft.state = .leader ∧ sx_a19.raft.batchAppend = true ∧
    sx_a19.raft.raftLog.abs.snapIdx = 2 ∧ sx_app.index = 0 ∧
    ((msgLog sx_app).entryAt 1).isSome = true ∧
    (sx_a19.raft.raftLog.abs.entryAt 1).isSome = false := by
  decide +kernel

theorem sx_checked : Chained Snap.KStep (c01w_s24 :: sx_tail) ∧
    ∀ s ∈ c01w_s24 :: sx_tail, nx_chk s = true :=
  Move.checked Move.kstepS c01w_s24 sx_moves rfl sx_eval.1

/-- **the history satisfies every hypothesis of the joined bundle** -/
theorem sx_hyp3wB : Hyp3wB c02x_cfg 0 sx_hist := c01w_extend sx_checked

/-- in the last state the leader's queue holds a `MsgAppend` that is not a sub-log of the leader's log -/
theorem sx_not_sub : sx_app ∈ sx_a19.raft.msgs ∧ sx_app.msgType = .msgAppend ∧
    sx_a19.raft.state = .leader ∧ sx_a19.raft.batchAppend = true ∧
    sx_a19.raft.raftLog.abs.snapIdx = 2 ∧ sx_app.index = 0 ∧
    ¬ SubW sx_app sx_a19.raft.raftLog.abs := by
  obtain ⟨hne, a1, a2, a3, a4, a5, h1, h2⟩ := sx_eval.2
  refine ⟨c02x_head_mem _ hne, a1, a2, a3, a4, a5, ?_⟩
  intro hs
  cases he : (msgLog sx_app).entryAt 1 with
  | none => rw [he] at h1; cases h1
  | some e =>
    have := (hs.2 1 e he).1
    rw [this] at h2; cases h2

end Snap7
end Cluster
end RaftModel
