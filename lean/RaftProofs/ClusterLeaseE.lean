import RaftProofs.ClusterLeaseD
import RaftProofs.NodeHandlers

/-!
Cluster-level lease theorem (C16, second half), helper lemmas part E: what ONE call of `Node.call`
(any `NodeOp` of the cluster semantics) does — the invariant `LInv` between the states before and
after, and the complete list of the ways the call can raise the term (`Rise`).
-/
namespace RaftModel
namespace Raft
namespace LS
open Node RaftProps.C16

/-- a message the application builds: no transfer trigger, no pre-vote traffic -/
def NoReq (m : Message) : Prop :=
  m.msgType ≠ .msgTimeoutNow ∧ m.msgType ≠ .msgRequestPreVote ∧ m.msgType ≠ .msgRequestPreVoteResponse

/-- the tag of a call: the delivered message, or a message built by the application -/
def Tag (op : NodeOp) (m' : Message) : Prop := op = .step m' ∨ ((∀ m, op ≠ .step m) ∧ NoReq m')

/-- every way a call can raise the node's term -/
def Rise (r : Raft) (op : NodeOp) (r' : Raft) : Prop :=
  (∃ m, op = .step m ∧
    ((r.term < m.term ∧ m.msgType ≠ .msgRequestPreVote ∧
        ¬ (m.msgType = .msgRequestPreVoteResponse ∧ m.reject = false) ∧
        (r'.term = m.term ∨ m.msgType = .msgTimeoutNow)) ∨
     (r.state = .preCandidate ∧ m.msgType = .msgRequestPreVoteResponse ∧ r'.term = r.term + 1 ∧
        (r.prs.recordVote m.frm (!m.reject)).tallyVotes.2.2 = .won ∧
        (m.reject = true ∨ m.term = r.term + 1)) ∨
     m.msgType = .msgTimeoutNow)) ∨
  (r'.term = r.term + 1 ∧ (r.preVote = false ∨ selfQuorum r))

/-- what a call gives: the invariant under some tag, and the causes of a term rise -/
def CallOut (st : NState) (op : NodeOp) (st' : NState) : Prop :=
  (∃ m', LInv st.raft m' st'.raft ∧ Tag op m') ∧
  (st.raft.term < st'.raft.term → Rise st.raft op st'.raft)

theorem noReq_local : NoReq CV.mLocal := by unfold NoReq CV.mLocal; simp

/-- the random draw a call starts by storing is not read by `LInv` or `Rise` -/
theorem CallOut.rebaseRand {st st' : NState} {op : NodeOp} {rnd : Option Nat}
    (h : CallOut { st with raft := { st.raft with nextRand := rnd } } op st') : CallOut st op st' :=
  ⟨h.1.imp fun _ hm => ⟨hm.1.rebaseRand, hm.2⟩, h.2⟩

/-- a call that only runs plain helpers -/
theorem callOut_mf {st st' : NState} {op : NodeOp} (hop : ∀ m, op ≠ .step m)
    (hf : MF st.raft st'.raft) : CallOut st op st' := by
  refine ⟨⟨CV.mLocal, (LInv.refl _ CV.mLocal).mf hf, Or.inr ⟨hop, noReq_local⟩⟩, fun hlt => ?_⟩
  have : st'.raft.term = st.raft.term := hf.term
  omega

/-- a call that steps a message the application built -/
theorem callOut_local {st st' : NState} {op : NodeOp} {m : Message}
    {e : Option RaftError} (hop : ∀ m, op ≠ .step m) (hz : m.term = 0) (hq : NoReq m)
    (hc : st.raft.step m = .ok (st'.raft, e)) : CallOut st op st' := by
  refine ⟨⟨m, step_linv hc, Or.inr ⟨hop, hq⟩⟩, fun hlt => ?_⟩
  rcases step_not_higher (by rw [hz]; exact Nat.not_lt_zero _) hc with c | ⟨_, c2, _⟩ |
    ⟨c1, c2, _, _, c5⟩
  · have : st'.raft.term = st.raft.term := c
    omega
  · exact absurd c2 hq.2.2
  · right
    refine ⟨c2, ?_⟩
    rcases c5 with c5 | c5 | c5
    · exact absurd c5 hq.1
    · exact Or.inl c5
    · exact Or.inr c5

theorem callOut_localIgnore {st st' : NState} {op : NodeOp} {m : Message}
    (hop : ∀ m, op ≠ .step m) (hz : m.term = 0) (hq : NoReq m)
    (hc : st.raft.stepIgnore m = .ok st'.raft) : CallOut st op st' :=
  stepIgnore_parts (P := fun _ => CallOut st op st') hc (callOut_local hop hz hq)

/-- the term over a leader's `tick` -/
theorem tickHeartbeat_term {a r' : Raft} {b : Bool} (hc : a.tickHeartbeat = .ok (r', b)) :
    r'.term = a.term := by
  -- a local message other than `MsgHup`, `MsgTimeoutNow` or a pre-vote response keeps the term
  have key : ∀ {r : Raft} {m : Message} {r2 : Raft}, r.stepIgnore m = .ok r2 → m.term = 0 →
      m.msgType ≠ .msgHup → m.msgType ≠ .msgTimeoutNow → m.msgType ≠ .msgRequestPreVoteResponse →
      r2.term = r.term := by
    intro r m r2 hs hz h1 h2 h3
    refine stepIgnore_parts (P := fun x => x.term = r.term) hs fun h4 => ?_
    rcases step_not_higher (by rw [hz]; exact Nat.not_lt_zero _) h4 with c | ⟨_, c2, _⟩ | ⟨c1, _⟩
    · exact c
    · exact absurd c2 h3
    · rcases c1 with c1 | ⟨c1, _⟩
      · exact absurd c1 h1
      · exact absurd c1 h2
  exact tickHeartbeat_parts (P := fun x => x.term = a.term) hc (fun _ _ p => p) rfl
    (fun hx ty hz _ p =>
      (key hx hz (by rw [ty]; decide) (by rw [ty]; decide) (by rw [ty]; decide)).trans p)
    (fun hx ty hz _ p =>
      (key hx hz (by rw [ty]; decide) (by rw [ty]; decide) (by rw [ty]; decide)).trans p)
    fun p => p

theorem tickElection_rise {a r' : Raft} {b : Bool} (hc : a.tickElection = .ok (r', b))
    (hlt : a.term < r'.term) : r'.term = a.term + 1 ∧ (a.preVote = false ∨ selfQuorum a) := by
  unfold tickElection at hc
  simp only at hc
  split at hc
  · cases hc; exact absurd hlt (Nat.lt_irrefl _)
  · rw [Res.bind_eq_ok_iff] at hc
    obtain ⟨r1, h1, h2⟩ := hc
    cases h2
    obtain ⟨_, h3⟩ := stepIgnore_inv h1
    rcases step_not_higher (by simp [newMessage]) h3 with c | ⟨_, c2, _⟩ | ⟨_, c2, _, _, c5⟩
    · have : r'.term = a.term := c
      exact absurd hlt (by rw [this]; exact Nat.lt_irrefl _)
    · cases c2
    · refine ⟨c2, ?_⟩
      rcases c5 with c5 | c5 | c5
      · cases c5
      · exact Or.inl c5
      · exact Or.inr c5

/-- **one call of a node** — every `NodeOp` of the cluster semantics (`step` for a delivered message,
and the application's calls; `drain` is the `send` step of the cluster) -/
theorem call_out (st st' : NState) (rnd : Option Nat) (op : NodeOp) (res : OpRes)
    (hop : op ≠ .drain ∧ ∀ m, op ≠ .rstep m)
    (h : Node.call st rnd op = .ok (res, st')) : CallOut st op st' := by
  by_cases hp : plainOp op = true
  · exact callOut_mf (fun m e => by rw [e] at hp; cases hp) (call_plain hp h).mf
  unfold Node.call at h
  generalize hst0 : ({ st with raft := { st.raft with nextRand := rnd } } : NState) = st0 at h
  suffices CallOut st0 op st' by rw [← hst0] at this; exact this.rebaseRand
  cases applyOp_parts h with
  | tick hx =>
    refine ⟨⟨CV.mLocal, tick_linv hx, Or.inr ⟨fun _ => nofun, noReq_local⟩⟩, fun hlt => ?_⟩
    unfold tick at hx
    split at hx
    · exact Or.inr (tickElection_rise hx hlt)
    · exact Or.inr (tickElection_rise hx hlt)
    · exact Or.inr (tickElection_rise hx hlt)
    · exact absurd hlt (by rw [tickHeartbeat_term hx]; exact Nat.lt_irrefl _)
  | @step m r e hx =>
    refine ⟨⟨m, rawStep_linv hx, Or.inl rfl⟩, fun hlt => ?_⟩
    rcases RawNode.step_inv hx with hr | ⟨hloc, hx⟩
    · rw [hr] at hlt; exact absurd hlt (Nat.lt_irrefl _)
    · left
      refine ⟨m, rfl, ?_⟩
      rcases C16_term_raised_only_by_higher_term_message_or_won_prevote _ _ _ _ hx hlt with
        ⟨c1, c2, c3, c4⟩ | c | ⟨c1, _, _, _, c5⟩
      · refine Or.inl ⟨c1, c2, c3, ?_⟩
        rcases c4 with c4 | ⟨c4 | c4, _⟩
        · exact Or.inl c4
        · rw [c4] at hloc; exact absurd rfl hloc
        · exact Or.inr c4
      · exact Or.inr (Or.inl c)
      · right; right
        rcases c1 with c1 | ⟨c1, _⟩
        · rw [c1] at hloc; exact absurd rfl hloc
        · exact c1
  | rstep hx => exact absurd rfl (hop.2 _)
  | propose hx | proposeCc hx | campaign hx =>
    exact callOut_local (fun _ => nofun) rfl (by unfold NoReq; simp) hx
  | readIndex hx | transferLeader hx | reportUnreachable hx | reportSnapshot hx =>
    exact callOut_localIgnore (fun _ => nofun) rfl (by unfold NoReq; simp) hx
  | confChanged hx | confRefused hx =>
    obtain ⟨q1, q2⟩ := applyConfChange_linv hx
    exact ⟨⟨CV.mLocal, q1, Or.inr ⟨fun _ => nofun, noReq_local⟩⟩,
      fun hlt => absurd hlt (by rw [q2]; exact Nat.lt_irrefl _)⟩
  | stabilize hx =>
    exact callOut_mf (fun _ => nofun)
      (stabilize_parts (Q := fun s => MF st0.raft s.raft) hx fun _ => MF.mk' MF.rf)
  | persistSnap hx =>
    exact callOut_mf (fun _ => nofun)
      (persistSnap_parts (Q := fun s => MF st0.raft s.raft) hx MF.rf fun _ _ _ hp =>
        (MF.mk' MF.rf).trans (onPersistSnap_hf hp HF.rf).mf)
  | commitApply hx =>
    exact callOut_mf (fun _ => nofun)
      (commitApply_parts (Q := fun s => MF st0.raft s.raft) hx MF.rf
        (fun _ => (reduceUncommittedSize_hf HF.rf).mf)
        (fun h2 p => p.trans (commitApply_hf h2 HF.rf).mf) MF.mk')
  | drain => exact absurd rfl hop.1
  | compact | triggerSnap | triggerLog => exact callOut_mf (fun _ => nofun) (MF.mk' MF.rf)
  | _ => exact absurd rfl hp

end LS
end Raft
end RaftModel
