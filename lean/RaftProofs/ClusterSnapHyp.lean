import RaftProofs.ClusterCommitKStep
import RaftProofs.ClusterCommitHyp
import RaftProofs.ClusterCommitAppendCall
import RaftProofs.ClusterCommitStored
import RaftProofs.ClusterCommitEvidence

/-!
Commit safety of `ClusterSem` **with log compaction** (namespace `RaftModel.Cluster.Snap`), the
hypotheses: the contract-abiding steps `Snap.KStep` (compaction allowed under the storage contract
`CompactOk`), the bundles on histories — `Snap.Hyp` (with what holds under it alone: `MOKc`, provenance
of messages, the leader's commit step), `Snap.Hyp2w` / `Hyp2` (`nopend`: no node ever has a pending
snapshot), `Snap.Hyp3a` (the bundle of the main induction), `Hyp3w` (without the gaps `anch`, `rirs`),
`Hyp3` (as first stated, `RaftProps/C01e.lean`) — and the maps between them and from the bundles of
the development without compaction (`KStep.of_old`, `Hyp3.of_old`, `Hyp3w.of_old`: a step that never
compacts obeys the compaction contract).

What holds under `Hyp2w` and above is read off the development with snapshots in
`ClusterSnapCompaction`.  A name that is not redefined in this namespace refers to the declaration of
`RaftModel.Cluster` (`RaftProofs/ClusterCommit*.lean`).
-/
namespace RaftModel
namespace Cluster
namespace Snap
open Node Raft Raft.CC RaftProps.C02 RaftProps.C05

/-- **a step of `ClusterSem` whose application obeys the storage and Ready contracts**: the four rules
of `Cluster.Step` with these extra premises —
* `call`: `compact k` is called only with `k ≤ committed` and `k ≤ persisted` (`CompactOk`, the
  contract of the Log Matching layer; implied by the documented contract `k ≤ applied ≤ committed`,
  `k ≤ persisted`), and
  `commit_apply k` is called only for `k ≤ persisted` (the application records an applied index in its
  storage only for entries that are in that storage: `Ready` hands out committed entries up to
  `persisted + max_apply_unpersisted_log_limit`, default `0`) and only when term and vote are
  persisted (the `HardState` — term, vote, commit — is written as a whole: a commit index is never
  stored next to an older term);
* `send` (*persist before send*, the Ready contract for `persisted_messages`): a node that is not the
  leader hands its queue to the transport only when it has no unstable entries and no unstable
  snapshot — everything it may have acknowledged is in its storage; a leader's messages are sent
  immediately (its own acknowledgement is `on_persist_entries`). -/
inductive KStep : Sys → Sys → Prop where
  | call (s : Sys) (i : Nat) (st st' : NState) (rnd : Option Nat) (op : NodeOp) (res : OpRes) :
      s.node i = some st → appOp op = true → (∀ k, op = .compact k → CompactOk st.raft.raftLog k) →
      (∀ k, op = .commitApply k → k ≤ st.raft.raftLog.persisted ∧ hsPersisted st) →
      Node.call st rnd op = .ok (res, st') →
      KStep s (s.setNode i st')
  | deliver (s : Sys) (i : Nat) (st st' : NState) (rnd : Option Nat) (m : Message) (res : OpRes) :
      s.node i = some st → m ∈ s.net → m.to = i → Node.call st rnd (.step m) = .ok (res, st') →
      KStep s (s.setNode i st')
  | send (s : Sys) (i : Nat) (st st' : NState) :
      s.node i = some st → hsPersisted st →
      (st.raft.state ≠ .leader →
        st.raft.raftLog.unstable.entries = [] ∧ st.raft.raftLog.unstable.snapshot = none) →
      Node.call st none .drain = .ok (.ok, st') →
      KStep s { (s.setNode i st') with net := s.net ++ st.raft.msgs }
  | restart (s : Sys) (i : Nat) (st st' : NState) (c : Config) (rnd : Option Nat) :
      s.node i = some st → c.id = i → Node.boot c st.raft.raftLog.store rnd = .ok (.ok st') →
      KStep s (s.setNode i st')

theorem KStep.cstep {s s' : Sys} (h : KStep s s') : CStep s s' := by
  cases h with
  | call i st st' rnd op res h1 h2 h3 _ h4 =>
    exact CStep.call s i st st' rnd op res h1 h2 h3 h4
  | deliver i st st' rnd m res h1 h2 h3 h4 => exact CStep.deliver s i st st' rnd m res h1 h2 h3 h4
  | send i st st' h1 h2 _ h3 => exact CStep.send s i st st' h1 h2 h3
  | restart i st st' c rnd h1 h2 h3 => exact CStep.restart s i st st' c rnd h1 h2 h3

theorem KStep.step {s s' : Sys} (h : KStep s s') : Step s s' := h.cstep.step

/-- **provenance**: `K` selects the kind of message; the hypothesis `hfresh` says what a `call` /
`deliver` step establishes for every message of that kind it queues -/
theorem provenance (h : List Sys) (hh : History h)
    (hk : ∀ (n : Nat) (a b : Sys), h[n]? = some a → h[n + 1]? = some b → KStep a b)
    (K : Message → Prop)
    (Φ : Nat → Nat → Message → Prop)
    (hfresh : ∀ n a b i st st' rnd op res, h[n]? = some a → h[n + 1]? = some b →
      a.node i = some st → b.node i = some st' → Node.call st rnd op = .ok (res, st') →
      (appOp op = true ∨ ∃ m, op = .step m ∧ m ∈ a.net ∧ m.to = i) →
      (∀ j, op = .compact j → CompactOk st.raft.raftLog j) →
      b.net = a.net →
      ∀ x ∈ st'.raft.msgs, K x → x ∈ st.raft.msgs ∨ Φ (n + 1) i x) :
    ∀ n s, h[n]? = some s →
      (∀ i st, s.node i = some st → ∀ x ∈ st.raft.msgs, K x → Gen Φ n i x) ∧
      (∀ x ∈ s.net, K x → ∃ i, Gen Φ n i x) :=
  hist_provenance h hh (fun n a b ha hb => (hk n a b ha hb).cstep.moved) K Φ hfresh

/-- **the standing hypotheses** on a history of `ClusterSem` (all explicit, see the report):
fixed voter configuration (as for Election Safety), the initial states and the absence of batching of
the Log Matching layer, contract-abiding steps (`KStep`), and no snapshot traffic -/
structure Hyp (cfg : JointConfig) (h : List Sys) : Prop where
  hist : History h
  fix : ∀ s ∈ h, FixedCfg cfg s
  ne : cfg.incoming ≠ []
  nd1 : cfg.incoming.Nodup
  nd2 : cfg.outgoing.Nodup
  init : ∀ s : Sys, h[0]? = some s → InitOk s
  steps : ∀ (n : Nat) (a b : Sys), h[n]? = some a → h[n + 1]? = some b → KStep a b
  nb : ∀ s ∈ h, NoBatch s
  nosnap : ∀ s ∈ h, NoSnapNet s

theorem Hyp.csteps {cfg : JointConfig} {h : List Sys} (H : Hyp cfg h) :
    ∀ (n : Nat) (a b : Sys), h[n]? = some a → h[n + 1]? = some b → CStep a b :=
  fun n a b ha hb => (H.steps n a b ha hb).cstep

/-- the Log Matching invariant in every state -/
theorem Hyp.invL {cfg : JointConfig} {h : List Sys} (H : Hyp cfg h) :
    ∃ s0, h[0]? = some s0 ∧ ∀ s ∈ h, InvL (Owner h) (EntriesOf s0) s :=
  RaftProps.C05.cluster_inv cfg H.ne H.nd1 H.nd2 h H.hist H.fix H.init H.csteps H.nb

/-- the matched tables are backed by the transport in every state -/
theorem Hyp.mokc {cfg : JointConfig} {h : List Sys} (H : Hyp cfg h) :
    ∀ (n : Nat) (s : Sys), h[n]? = some s → MOKc s :=
  mokc_hist h H.hist (fun n a b ha hb => (H.steps n a b ha hb).cstep.moved)
    fun _ a _ _ _ _ _ _ ha hm hk hop _ hcall =>
      (kstep_g hm (H.nb a (mem_of_get ha)) (H.nosnap a (mem_of_get ha)) hk hop hcall).mok

/-- **the leader's commit step**: when a step moves the commit index of a node that is leader after
the step, the entry at the new commit index carries the leader's term, and a joint quorum of the
leader's voters has `matched` at least the new commit index, each of them accounted for: the leader
itself with `persisted`, or an accepting append response in the transport -/
theorem Hyp.commit_step {cfg : JointConfig} {h : List Sys} (H : Hyp cfg h) (n : Nat) (a b : Sys)
    (ha : h[n]? = some a) (hb : h[n + 1]? = some b) (l : Nat) (sta stb : NState)
    (hla : a.node l = some sta) (hlb : b.node l = some stb) (hs : stb.raft.state = .leader)
    (hc : sta.raft.raftLog.committed < stb.raft.raftLog.committed) :
    stb.raft.raftLog.term stb.raft.raftLog.committed = .ok stb.raft.term ∧
    ∃ Q, IsJointQuorum cfg Q ∧ ∀ j ∈ Q,
      (j = l ∧ stb.raft.raftLog.committed ≤ stb.raft.raftLog.persisted) ∨
      Anet a.net j stb.raft.term stb.raft.raftLog.committed := by
  obtain ⟨k, st, st', M⟩ := (H.steps n a b ha hb).cstep.moved
  obtain ⟨rfl, rfl, rfl, rnd, op, res, hop, _, hcall⟩ := M.call_of_commit hla hlb hs hc
  have g := kstep_g (H.mokc n a ha) (H.nb a (mem_of_get ha)) (H.nosnap a (mem_of_get ha)) hla
    (hop.imp (fun g => g) fun ⟨m, h1, h2, _⟩ => ⟨m, h1, h2⟩) hcall
  exact commit_of_lc g.lc g.mok (H.fix b (mem_of_get hb) l stb hlb)
    (((hist_all H.hist).1 b (mem_of_get hb)).ids l stb hlb).1 hs hc

variable {cfg : JointConfig} {c0 : Nat} {h : List Sys}

/-- **the hypotheses of the commit layer** on top of `Hyp` without the proof gap `norir`
(cf. `Cluster.Hyp2w`; `shape` is gone) — the bundle every lemma of this development takes:
* `nolone`: no joint quorum of `cfg` fits into a single node;
* `nopend` (**proof gap** of the compaction-only stage, goes together with `nosnap`): no node ever has a
  pending snapshot;
* `first0`: in the initial state every storage has the first index `c0 + 1` (the common snapshot point;
  later states may have compacted further);
* `initc`: in the initial state every commit index is `c0`. -/
structure Hyp2w (cfg : JointConfig) (c0 : Nat) (h : List Sys) : Prop extends Hyp cfg h where
  nolone : ∀ i Q, IsJointQuorum cfg Q → ∃ k ∈ Q, k ≠ i
  nopend : ∀ s ∈ h, ∀ i st, s.node i = some st → st.raft.raftLog.unstable.snapshot = none
  first0 : ∀ s : Sys, h[0]? = some s → ∀ i st, s.node i = some st →
    st.raft.raftLog.store.firstIndex = c0 + 1
  initc : ∀ s : Sys, h[0]? = some s → ∀ i st, s.node i = some st → st.raft.raftLog.committed = c0

/-- **the hypotheses of the commit layer as first stated** (`RaftProps/C01e.lean`) on top of `Hyp`
(cf. `Cluster.Hyp2`; `shape` is gone) — `Hyp2w` and `norir`, discharged in `RaftProps/C01g.lean`:
* `nolone`: no joint quorum of `cfg` fits into a single node;
* `nopend` (**proof gap** of the compaction-only stage, goes together with `nosnap`): no node ever has a
  pending snapshot;
* `first0`: in the initial state every storage has the first index `c0 + 1` (the common snapshot point;
  later states may have compacted further);
* `initc`: in the initial state every commit index is `c0`;
* `norir` (**proof gap**): no `MsgReadIndexResp` is ever in the transport. -/
structure Hyp2 (cfg : JointConfig) (c0 : Nat) (h : List Sys) : Prop extends Hyp cfg h where
  nolone : ∀ i Q, IsJointQuorum cfg Q → ∃ k ∈ Q, k ≠ i
  nopend : ∀ s ∈ h, ∀ i st, s.node i = some st → st.raft.raftLog.unstable.snapshot = none
  first0 : ∀ s : Sys, h[0]? = some s → ∀ i st, s.node i = some st →
    st.raft.raftLog.store.firstIndex = c0 + 1
  initc : ∀ s : Sys, h[0]? = some s → ∀ i st, s.node i = some st → st.raft.raftLog.committed = c0
  norir : ∀ s ∈ h, ∀ x ∈ s.net, x.msgType ≠ .msgReadIndexResp

theorem Hyp2.toHyp2w {cfg : JointConfig} {c0 : Nat} {h : List Sys} (H : Hyp2 cfg c0 h) :
    Hyp2w cfg c0 h :=
  { toHyp := H.toHyp, nolone := H.nolone, nopend := H.nopend, first0 := H.first0, initc := H.initc }

/-- **the hypotheses of the main induction** on top of `Hyp2w` (as `Cluster.Hyp3a`) — two facts about
the messages of the transport that the induction uses (both are *derived* from the other hypotheses in
`RaftProofs/ClusterSnapCompaction.lean`: `Hyp3w → Hyp3a`), and one hypothesis on the initial state:
* `anch`: a `MsgAppend` is anchored inside its sender's log (`log_term ≠ 0` unless the anchor is not
  above the common initial snapshot point);
* `rirs`: a `MsgReadIndexResp` was sent by a leader of its term whose commit index covered its index;
* `snapt0`: the term an initial storage records for the common snapshot point `c0` is not above the
  initial term of any node. -/
structure Hyp3a (cfg : JointConfig) (c0 : Nat) (h : List Sys) : Prop extends Hyp2w cfg c0 h where
  anch : ∀ s ∈ h, ∀ x ∈ s.net, x.msgType = .msgAppend → x.logTerm ≠ 0 ∨ x.index ≤ c0
  rirs : ∀ n s, h[n]? = some s → ∀ x ∈ s.net, x.msgType = .msgReadIndexResp → RirSrc h n x
  snapt0 : ∀ s0, h[0]? = some s0 → ∀ i sti, s0.node i = some sti → ∀ t0,
    sti.raft.raftLog.abs.snapTerm = some t0 → ∀ j stj, s0.node j = some stj → t0 ≤ stj.raft.term

/-- **the hypotheses of the commit layer with compaction, without proof gaps about the transport**:
`Hyp2w` and the hypothesis `snapt0` on the initial state (`anch` and `rirs` of `Hyp3a` are derived) -/
structure Hyp3w (cfg : JointConfig) (c0 : Nat) (h : List Sys) : Prop extends Hyp2w cfg c0 h where
  snapt0 : ∀ s0, h[0]? = some s0 → ∀ i sti, s0.node i = some sti → ∀ t0,
    sti.raft.raftLog.abs.snapTerm = some t0 → ∀ j stj, s0.node j = some stj → t0 ≤ stj.raft.term

/-- **the hypotheses of the main induction as first stated** (`RaftProps/C01e.lean`) on top of `Hyp2`
(as `Cluster.Hyp3`), with the two proof gaps `norir` (in `Hyp2`) and `anch`:
* `anch` (**proof gap**): a `MsgAppend` is anchored inside its sender's log (`log_term ≠ 0` unless the
  anchor is not above the common initial snapshot point);
* `snapt0` (a hypothesis on the initial state): the term an initial storage records for the common
  snapshot point `c0` is not above the initial term of any node. -/
structure Hyp3 (cfg : JointConfig) (c0 : Nat) (h : List Sys) : Prop extends Hyp2 cfg c0 h where
  anch : ∀ s ∈ h, ∀ x ∈ s.net, x.msgType = .msgAppend → x.logTerm ≠ 0 ∨ x.index ≤ c0
  snapt0 : ∀ s0, h[0]? = some s0 → ∀ i sti, s0.node i = some sti → ∀ t0,
    sti.raft.raftLog.abs.snapTerm = some t0 → ∀ j stj, s0.node j = some stj → t0 ≤ stj.raft.term

theorem Hyp3.toHyp2w (H : Hyp3 cfg c0 h) : Hyp2w cfg c0 h := H.toHyp2.toHyp2w

theorem Hyp3.toHyp3a (H : Hyp3 cfg c0 h) : Hyp3a cfg c0 h :=
  { toHyp2w := H.toHyp2w, anch := H.anch, snapt0 := H.snapt0,
    rirs := fun n s hn x hx hty => absurd hty (H.norir s (mem_of_get hn) x hx) }

theorem Hyp3.toHyp3w (H : Hyp3 cfg c0 h) : Hyp3w cfg c0 h :=
  { toHyp2w := H.toHyp2w, snapt0 := H.snapt0 }

/-! ### from the hypotheses without compaction -/

theorem KStep.of_old {a b : Sys} (hs : Cluster.KStep a b) : KStep a b := by
  cases hs with
  | call i st st' rnd op res h1 h2 h3 h4 h5 =>
    exact .call a i st st' rnd op res h1 h2 (fun k hk => absurd hk (h3 k)) h4 h5
  | deliver i st st' rnd m res h1 h2 h3 h4 => exact .deliver a i st st' rnd m res h1 h2 h3 h4
  | send i st st' h1 h2 h3 h4 => exact .send a i st st' h1 h2 h3 h4
  | restart i st st' c rnd h1 h2 h3 => exact .restart a i st st' c rnd h1 h2 h3

/-- the hypotheses of the development without compaction imply those with compaction -/
theorem Hyp3.of_old (H : Cluster.Hyp3 cfg c0 h) : Hyp3 cfg c0 h :=
  { hist := H.hist, fix := H.fix, ne := H.ne, nd1 := H.nd1, nd2 := H.nd2, init := H.init,
    steps := fun n a b ha hb => KStep.of_old (H.steps n a b ha hb),
    nb := H.nb, nosnap := H.nosnap, nolone := H.nolone,
    nopend := fun s hs i st hi => (H.shape s hs i st hi).1,
    first0 := fun s h0 i st hi => (H.shape s (mem_of_get h0) i st hi).2,
    initc := H.initc, norir := H.norir, anch := H.anch, snapt0 := H.snapt0 }

/-- the hypotheses of the development without compaction and without the gaps (`Cluster.Hyp3w`,
`RaftProps/C01d.lean`) imply those with compaction -/
theorem Hyp3w.of_old (H : Cluster.Hyp3w cfg c0 h) : Hyp3w cfg c0 h :=
  { hist := H.hist, fix := H.fix, ne := H.ne, nd1 := H.nd1, nd2 := H.nd2, init := H.init,
    steps := fun n a b ha hb => KStep.of_old (H.steps n a b ha hb),
    nb := H.nb, nosnap := H.nosnap, nolone := H.nolone,
    nopend := fun s hs i st hi => (H.shape s hs i st hi).1,
    first0 := fun s h0 i st hi => (H.shape s (mem_of_get h0) i st hi).2,
    initc := H.initc, snapt0 := H.snapt0 }

end Snap
end Cluster
end RaftModel
