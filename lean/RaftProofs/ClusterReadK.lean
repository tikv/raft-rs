import RaftProofs.ClusterReadG
import RaftProofs.ClusterCommitPlain
import RaftProofs.ClusterStretch

/-!
Cluster-level ReadIndex safety, the vocabulary of the cluster level.

`read_index` calls and registrations as steps of a history, and the hypotheses of the read layer for
reads issued at the leader (`RdHyp`: those of the commit layer, `ReadOnlyOption::Safe` on every node, no
forwarded `MsgReadIndex` in the transport, unique non-empty request contexts); `add_request`; small
facts about a group of nodes the read layer uses throughout.

Late contexts (`Late`, `FloorOK`), the commit index of one node over a stretch without restart
(`commit_mono`), **the read index recorded at registration covers every earlier commit of a term not
above the leader's** (`IdxOK`, `idx_ok_reg`), such an index covers every commit index of the moment when
no later term was led (`good_ofA`), and the statement forms for one registered request (`TgtInv`) and for
the quorum behind an answer (`Backer`).

The invariants are those of the layer with forwarded reads (`ClusterRead4I–4N`, over `ReadFacts`);
`ClusterReadLocal` reads the theorems for reads at the leader off them.
-/
namespace RaftModel
namespace Cluster
open Node Raft Raft.RD RaftProps.C02

/-- the step `h[n] → h[n+1]` is a `read_index(K)` call of the application of node `i` -/
def ReadCallAt (h : List Sys) (n i : Nat) (K : Bytes) : Prop :=
  ∃ (a b : Sys) (st st' : NState) (rnd : Option Nat) (res : OpRes),
    h[n]? = some a ∧ h[n + 1]? = some b ∧ a.node i = some st ∧
    Node.call st rnd (.readIndex K) = .ok (res, st') ∧ b = a.setNode i st'

/-- … and this call **registers** the request: `K` was not pending on node `i` before the call and is
pending afterwards -/
def RegAt (h : List Sys) (n i : Nat) (K : Bytes) : Prop :=
  ∃ (a b : Sys) (st st' : NState) (rnd : Option Nat) (res : OpRes),
    h[n]? = some a ∧ h[n + 1]? = some b ∧ a.node i = some st ∧
    Node.call st rnd (.readIndex K) = .ok (res, st') ∧ b = a.setNode i st' ∧
    (∀ rs, (K, rs) ∉ st.raft.readOnly.pendingReadIndex) ∧
    ∃ rs, (K, rs) ∈ st'.raft.readOnly.pendingReadIndex

theorem RegAt.call {h : List Sys} {n i : Nat} {K : Bytes} (hr : RegAt h n i K) :
    ReadCallAt h n i K := by
  obtain ⟨a, b, st, st', rnd, res, h1, h2, h3, h4, h5, _⟩ := hr
  exact ⟨a, b, st, st', rnd, res, h1, h2, h3, h4, h5⟩

/-- **the hypotheses of the read layer**, on top of those of the commit layer without proof gaps about
the transport (`Hyp3w`, `RaftProofs/ClusterCommitHyp.lean`; `Hyp3a`, the bundle the main induction of the
commit layer uses, follows: `Hyp3w.toHyp3a`):
* `norir`: no `MsgReadIndexResp` is ever in the transport (no read is forwarded, so no answer travels
  back) — the read layer uses it in two places (`read_state_ok`, `read_state_term` of
  `ClusterReadLocal`); the commit layer does not need it;
* `safe`: every node runs with `ReadOnlyOption::Safe` (the option is set by `Config` in `Raft::new` and
  never changes afterwards — `reset` keeps it);
* `nori`: no `MsgReadIndex` is ever in the transport — reads are issued at the leader (a follower's
  `read_index` queues a forwarded `MsgReadIndex`; with `norir` its answer could not travel
  back anyway).  Without this hypothesis the theorems are FALSE: see the report;
* `uniq` / `nonempty`: request contexts are unique and not empty — stated for the calls that register
  a request (the weakest form; `RdHyp.of_calls` derives it from uniqueness over all `read_index`
  calls). -/
structure RdHyp (cfg : JointConfig) (c0 : Nat) (h : List Sys) : Prop extends Hyp3w cfg c0 h where
  norir : ∀ s ∈ h, ∀ x ∈ s.net, x.msgType ≠ .msgReadIndexResp
  safe : ∀ s ∈ h, ∀ i st, s.node i = some st → st.raft.readOnly.option = .safe
  nori : ∀ s ∈ h, ∀ x ∈ s.net, x.msgType ≠ .msgReadIndex
  uniq : ∀ n1 n2 i1 i2 K, RegAt h n1 i1 K → RegAt h n2 i2 K → n1 = n2
  nonempty : ∀ n i K, RegAt h n i K → K ≠ []

theorem setNode_head_inj {a : Sys} {i j : Nat} {st1 st2 : NState}
    (h : a.setNode i st1 = a.setNode j st2) : i = j := by
  have := congrArg Sys.nodes h
  simp only [Sys.setNode] at this
  injection this with h1 _
  injection h1

/-- two registrations of one context are the same step on the same node -/
theorem RdHyp.uniq_node {cfg : JointConfig} {c0 : Nat} {h : List Sys} (H : RdHyp cfg c0 h)
    {n1 n2 i1 i2 : Nat} {K : Bytes} (h1 : RegAt h n1 i1 K) (h2 : RegAt h n2 i2 K) :
    n1 = n2 ∧ i1 = i2 := by
  have e := H.uniq n1 n2 i1 i2 K h1 h2
  subst e
  refine ⟨rfl, ?_⟩
  obtain ⟨a, b, st, st', _, _, p1, p2, _, _, p5, _⟩ := h1
  obtain ⟨a', b', st2, st2', _, _, q1, q2, _, _, q5, _⟩ := h2
  rw [p1] at q1; cases q1
  rw [p2] at q2; cases q2
  exact setNode_head_inj (p5.symm.trans q5)

/-! ### `add_request` -/

theorem addRequest_spec {ro ro' : ReadOnly} {idx id : Nat} {K : Bytes}
    (h : ro.addRequest idx (riMsg K) id = .ok ro') :
    (ro' = ro ∧ ∃ rs, (K, rs) ∈ ro.pendingReadIndex) ∨
    ((∀ rs, (K, rs) ∉ ro.pendingReadIndex) ∧ ro'.option = ro.option ∧
      ro'.pendingReadIndex = ro.pendingReadIndex ++
        [(K, { req := riMsg K, index := idx, acks := [id] })] ∧
      ro'.readIndexQueue = ro.readIndexQueue ++ [K]) := by
  unfold ReadOnly.addRequest at h
  simp only [riMsg, List.head?_cons] at h
  split at h
  · rename_i hs
    cases h
    left
    refine ⟨rfl, ?_⟩
    cases hl : ro.pendingReadIndex.lookup K with
    | none => rw [hl] at hs; cases hs
    | some rs => exact ⟨rs, rd_lookup_mem _ _ _ hl⟩
  · rename_i hs
    cases h
    right
    refine ⟨?_, rfl, rfl, rfl⟩
    cases hl : ro.pendingReadIndex.lookup K with
    | none => exact rd_lookup_none _ _ hl
    | some rs => rw [hl] at hs; exact absurd rfl hs

/-! ### acknowledgements backed by the transport; the nodes after a step -/

variable {cfg : JointConfig} {c0 : Nat} {h : List Sys}

/-- a heartbeat response of `u` for the context `K` and the term `t` (or without term) is in `net` -/
def HbrIn (net : List Message) (u : Nat) (K : Bytes) (t : Nat) : Prop :=
  ∃ x ∈ net, x.msgType = .msgHeartbeatResponse ∧ x.frm = u ∧ x.context = K ∧ (x.term = t ∨ x.term = 0)

theorem HbrIn.mono {net net' : List Message} (hsub : ∀ x ∈ net, x ∈ net') {u t : Nat} {K : Bytes}
    (h : HbrIn net u K t) : HbrIn net' u K t := by
  obtain ⟨x, h1, h2⟩ := h
  exact ⟨x, hsub x h1, h2⟩

/-- a group in which no quorum fits into one node is not a singleton -/
theorem not_singleton {s : Sys} (hfix : FixedCfg cfg s)
    (nolone : ∀ (i : Nat) (Q : List Nat), IsJointQuorum cfg Q → ∃ k ∈ Q, k ≠ i) {i : Nat} {st : NState}
    (hi : s.node i = some st) : st.raft.prs.isSingleton = false := by
  have hv := hfix i st hi
  cases hsing : st.raft.prs.isSingleton with
  | false => rfl
  | true =>
    exfalso
    unfold ProgressTracker.isSingleton at hsing
    simp only [Bool.and_eq_true, List.isEmpty_iff, beq_iff_eq] at hsing
    obtain ⟨h1, h2⟩ := hsing
    have e1 : cfg.outgoing = [] := by rw [← hv]; exact h1
    have e2 : cfg.incoming.length = 1 := by rw [← hv]; exact h2
    obtain ⟨x, hx⟩ : ∃ x, cfg.incoming = [x] := by
      cases hc : cfg.incoming with
      | nil => rw [hc] at e2; cases e2
      | cons x t =>
        cases t with
        | nil => exact ⟨x, rfl⟩
        | cons y t' => rw [hc] at e2; simp at e2
    have hQ : IsJointQuorum cfg [x] := by
      refine ⟨fun _ => ?_, fun hne => absurd e1 hne⟩
      unfold IsQuorum
      rw [hx]
      simp [majority]
    obtain ⟨k, hk, hne⟩ := nolone x [x] hQ
    exact hne (List.mem_singleton.1 hk)

/-! ### late contexts -/

/-- the context `K` is not empty and is not registered by any step before index `n0` -/
def Late (h : List Sys) (n0 : Nat) (K : Bytes) : Prop := K ≠ [] ∧ ∀ n i, RegAt h n i K → n0 ≤ n

/-- the sender of `x` was not below any of its term floors of `s0` when it sent `x` -/
def FloorOK (s0 : Sys) (x : Message) : Prop := ∀ τ, TermFloor s0 x.frm τ → τ ≤ x.term

/-! ### the commit index of one node over a stretch without restart -/

theorem commit_mono (H : Hyp2w cfg c0 h) (v : Nat) : ∀ (d n : Nat) (s s' : Sys) (st st' : NState),
    h[n]? = some s → h[n + d]? = some s' →
    (∀ m a b, n ≤ m → m < n + d → h[m]? = some a → h[m + 1]? = some b → ¬ IsRestart v a b) →
    s.node v = some st → s'.node v = some st' →
    st.raft.raftLog.committed ≤ st'.raft.raftLog.committed :=
  hist_stretch (hist_step_at H.hist) v (R := fun x y => x.raft.raftLog.committed ≤ y.raft.raftLog.committed)
    (fun _ => Nat.le_refl _) Nat.le_trans fun n a b sta stb ha hb hva hvb hnr => by
      obtain ⟨k, st, st', M⟩ := (H.steps n a b ha hb).moved
      refine (M.rel_or_restart (R := fun x y => x.raft.raftLog.committed ≤ y.raft.raftLog.committed)
        hva hvb (Nat.le_refl _) (Nat.le_refl _) ?_).resolve_right hnr
      intro rnd op res _ hop hc hcall
      exact (call_more H ha M.hk hop hc.1 hcall).1.1

/-! ### the read index recorded at registration -/

/-- the read index `r` is not below the common snapshot point and covers every commit event before
`h[n0]` of a term at most `t` -/
def IdxOK (h : List Sys) (c0 n0 t r : Nat) : Prop :=
  c0 ≤ r ∧ ∀ E : Ev, E.ok h → E.nE < n0 → E.t ≤ t → E.c ≤ r

/-- **a leader that has committed an entry of its own term has a commit index that covers every
earlier commit event of its own and of all earlier terms** (its own: the commit index of a leader only
grows; earlier terms: Leader Completeness — the committed entry of an earlier term cannot lie behind
an entry of the leader's term) -/
theorem idx_ok_reg (H : Hyp3a cfg c0 h) {n0 : Nat} {a : Sys} (ha : h[n0]? = some a) {v : Nat}
    {st : NState} (hv : a.node v = some st) (hl : st.raft.state = .leader)
    (hc : st.raft.commitToCurrentTerm = .ok true) :
    IdxOK h c0 n0 st.raft.term st.raft.raftLog.committed := by
  have H2 := H.toHyp2w
  have o := node_ok H2 ha hv
  obtain ⟨s0, h0, hall⟩ := H2.inv_at
  have htz : st.raft.term ≠ 0 := (hall a (mem_of_get ha)).tz v st hv (.inr hl)
  have hterm : st.raft.raftLog.term st.raft.raftLog.committed = .ok st.raft.term := by
    unfold commitToCurrentTerm at hc
    split at hc
    · rename_i t ht
      injection hc with hc
      have : t = st.raft.term := by simpa using hc
      rw [ht, this]
    · cases hc
    · cases hc
  refine ⟨c0_le_committed H2 ha hv, fun E hE hlt hle => ?_⟩
  obtain ⟨a', b', sta, stb, ea, eb, hla, hlb, hs, ht, hcE, hg, _, _, _, _, _⟩ := Ev.facts H2 hE
  by_cases heq : E.t = st.raft.term
  · -- the leader's own earlier commit
    have hll : E.l = v :=
      C02_cluster_election_safety cfg H2.ne H2.nd1 H2.nd2 h H2.hist H2.fix b' a (mem_of_get eb)
        (mem_of_get ha) E.l v E.t ⟨stb, hlb, hs, ht⟩ ⟨st, hv, hl, heq.symm⟩
    rw [hll] at hlb
    obtain ⟨d, hd⟩ : ∃ d, n0 = E.nE + 1 + d := ⟨n0 - (E.nE + 1), by omega⟩
    have ha' : h[E.nE + 1 + d]? = some a := by rw [← hd]; exact ha
    have hnr := no_restart_between H2 eb ha' ⟨stb, hlb, hs, ht⟩ ⟨st, hv, hl, heq.symm⟩
    have := commit_mono H2 v d (E.nE + 1) b' a stb st eb ha' hnr hlb hv
    rw [hcE]; exact this
  · have hlt2 : E.t < st.raft.term := by omega
    apply Classical.byContradiction
    intro hgt
    have hgt : st.raft.raftLog.committed < E.c := by omega
    have hhas : Has st.raft.raftLog.abs E.c E.t := (sm_all H ha).lc E hE v st hv hl hlt2
    obtain ⟨hEl, hEh, _⟩ := Ev.leaderLog H2 hE
    have hequ := eq_ll H2 ha hv hEl hhas hEh
    rw [o.inv.term_abs] at hterm
    unfold LLog.term at hterm
    split at hterm
    · injection hterm with hterm; exact htz hterm.symm
    · split at hterm
      · split at hterm
        · rename_i t0 hst
          injection hterm with hterm
          rw [hterm] at hst
          obtain ⟨st0, hv0⟩ := node_back_steps
            ((hist_all H2.hist).2.2 0 n0 s0 a (Nat.zero_le _) h0 ha) v st hv
          have h1 := H.snapt a (mem_of_get ha) v st hv _ hst s0 h0 v st0 hv0
          have h2 := lead_above_init H2 h0 hv0 ha ⟨st, hv, hl, rfl⟩
          omega
        · cases hterm
      · split at hterm
        · rename_i e he
          injection hterm with hterm
          have he' : E.gE.entryAt st.raft.raftLog.committed = some e := by
            rw [← hequ _ (by omega)]; exact he
          have hmem := E.gE.entryAt_mem he'
          rw [hg] at hmem
          have := (term_le H2 (E.nE + 1) b' eb).log E.l stb hlb e hmem
          omega
        · injection hterm with hterm; exact htz hterm.symm

theorem IdxOK.mono {n k t r : Nat} (hi : IdxOK h c0 k t r) (hle : n ≤ k) : IdxOK h c0 n t r :=
  ⟨hi.1, fun E hE h1 h2 => hi.2 E hE (by omega) h2⟩

/-- a read index that covers the earlier commits of terms up to `t`, when no term above `t` was led
before, covers every commit index of `h[n0]` -/
theorem good_ofA (H3 : Hyp3a cfg c0 h) {n0 : Nat} {s0 : Sys} (hn0 : h[n0]? = some s0) {t r : Nat}
    (hidx : IdxOK h c0 n0 t r)
    (hno : ∀ n1 s1 l' t', h[n1]? = some s1 → n1 ≤ n0 → leads s1 l' t' → t' ≤ t) :
    ∀ u stu, s0.node u = some stu → stu.raft.raftLog.committed ≤ r := by
  have H2 := H3.toHyp2w
  intro u stu hu
  rcases (sm_all H3 hn0).nctm u stu hu with c | ⟨E, hE, e1, e2, _, _⟩
  · exact Nat.le_trans c hidx.1
  · obtain ⟨_, b', _, stb, _, eb, _, hlb, hs, ht, _⟩ := Ev.facts H2 hE
    have := hno (E.nE + 1) b' E.l E.t eb (by omega) ⟨stb, hlb, hs, ht⟩
    exact Nat.le_trans e2 (hidx.2 E hE e1 this)

/-! ### one registered request -/

theorem late_ctx (H : RdHyp cfg c0 h) {n0 i0 : Nat} {ctx : Bytes} (hreg : RegAt h n0 i0 ctx) :
    Late h n0 ctx :=
  ⟨H.nonempty n0 i0 ctx hreg, fun _ _ hr => Nat.le_of_eq (H.uniq_node hr hreg).1.symm⟩

structure TgtInv (h : List Sys) (c0 n0 i0 : Nat) (ctx : Bytes) (s : Sys) : Prop where
  /-- whatever is queued at or behind `ctx` is late -/
  behind : ∀ v st, s.node v = some st → ∀ (p p' : Nat) (K' : Bytes),
    st.raft.readOnly.readIndexQueue[p]? = some ctx → p ≤ p' →
    st.raft.readOnly.readIndexQueue[p']? = some K' → Late h n0 K'
  /-- `ctx` is pending only on `i0`, with a read index that covers the earlier commits -/
  pend : ∀ v st, s.node v = some st → ∀ rs, (ctx, rs) ∈ st.raft.readOnly.pendingReadIndex →
    v = i0 ∧ IdxOK h c0 n0 st.raft.term rs.index

/-- the acknowledgements behind an answer: `u` is the answering node `v`, or a heartbeat response of
`u` with a late context for the term `t` (or without term) is in `net` -/
def Backer (h : List Sys) (n0 : Nat) (net : List Message) (v t u : Nat) : Prop :=
  u = v ∨ ∃ y ∈ net, y.msgType = .msgHeartbeatResponse ∧ y.frm = u ∧ Late h n0 y.context ∧
    (y.term = t ∨ y.term = 0)

end Cluster
end RaftModel
