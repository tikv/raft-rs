import RaftProofs.ClusterBatchE
import RaftProofs.ClusterLogC

/-!
Cluster-level Log Matching, helper lemmas part E: the effect `Eff r r' m` of one call on the log-related parts of
a node in the vocabulary of the layer without batching (a queued `MsgAppend` was queued before or is a sub-log of
the old or the new logical log), and the entry points of the node model for `K`: what `EffX`, `N` and `X` of
`RaftProofs/ClusterBatchE.lean` say with batching off.
-/
namespace RaftModel
namespace Raft

/-- the effect of one call (input message `m`; only a delivered `MsgAppend` matters) -/
structure Eff (r r' : Raft) (m : Message) : Prop where
  inv : r'.raftLog.Inv
  /-- the stored entries: kept (or compacted), or replaced by the logical log (`stabilize`, which also
  writes the current term) -/
  sto : Sub (storeLog r'.raftLog.store) (storeLog r.raftLog.store) ∨
    (Sub (storeLog r'.raftLog.store) r.raftLog.abs ∧ r'.raftLog.store.hardState.term = r'.term)
  log : Sub r'.raftLog.abs r.raftLog.abs ∨ Grew r r' ∨
    (m.msgType = .msgAppend ∧ r'.state ≠ .leader ∧
      DerivedFrom (fun g => g = r.raftLog.abs ∨ g = msgLog m) r'.raftLog.abs)
  q : ∀ x ∈ r'.msgs, x.msgType = .msgAppend →
    x ∈ r.msgs ∨ SubW x r.raftLog.abs ∨ SubW x r'.raftLog.abs
  /-- a leader that stays leader of its term only appends -/
  keep : r.state = .leader → r'.state = .leader → r'.term = r.term →
    r.raftLog.lastIndex ≤ r'.raftLog.lastIndex ∧
    ∀ i e, r.raftLog.abs.entryAt i = some e → r'.raftLog.abs.snapIdx < i →
      r'.raftLog.abs.entryAt i = some e

/-- batching off, `Eff` -/
theorem Bt.EffX.eff {r r' : Raft} {m : Message} (h : Bt.EffX r r' m) (hb : r.batchAppend = false) :
    Eff r r' m :=
  ⟨h.inv, h.sto, h.log, fun x hx hty => by
    rcases h.q x hx hty with c | ⟨_, c⟩
    · exact .inl c
    · rcases (hb ▸ c).k with d | d
      · exact .inl d
      · exact .inr (.inr d), h.keep⟩

theorem K0.eff {r r' : Raft} {m : Message} (h : K0 r r') (hinv : r.raftLog.Inv) : Eff r r' m :=
  ⟨h.inv hinv, .inl (storeLog_same h.ls.ents h.ls.smeta), .inl (by rw [h.abs]; exact Sub.refl _),
    fun x hx hty => by
      rcases h.q x hx hty with c | c
      · exact .inl c
      · exact .inr (.inl c),
    fun _ _ _ => ⟨by rw [h.ls.same.last]; exact Nat.le_refl _, fun i e he _ => by rw [h.abs]; exact he⟩⟩

theorem AppendedK.eff {r r' : Raft} {m : Message} {es : List Entry} (h : AppendedK r r' es) :
    Eff r r' m :=
  ⟨h.app.inv, .inl (storeLog_same h.qs.ents h.qs.smeta), .inr (.inl ⟨es, h.app⟩),
    fun x hx hty => by
      rcases h.qs.q x hx hty with c | c
      · exact .inl c
      · exact .inr (.inr c),
    fun _ _ _ => ⟨by rw [h.app.last]; omega, fun i e he _ => by
      rw [h.app.abs]
      have hl := (r.raftLog.abs.entryAt_lt he).2
      rw [RaftProps.C05.c05_append_entryAt _ _ _ hl]; exact he⟩⟩

/-- **`Raft::step` as an effect** (batching off; a delivered `MsgAppend` is well-numbered with real
terms) -/
theorem step_eff {r r' : Raft} {m : Message} {e : Option RaftError} (hinv : r.raftLog.Inv)
    (hnb : r.batchAppend = false) (hw : m.msgType = .msgAppend → MsgOk m)
    (h : r.step m = .ok (r', e)) : Eff r r' m :=
  (Bt.step_effx hinv (fun c => by rw [hnb] at c; cases c) hw h).eff hnb

/-- the same effect seen from a start state that differs in fields the effect does not read -/
theorem Eff.rebase {a r r' : Raft} {m : Message} (h : Eff r r' m) (hl : r.raftLog = a.raftLog)
    (hm : r.msgs = a.msgs) (hs : r.state = a.state) (ht : r.term = a.term) : Eff a r' m :=
  ⟨h.inv, by rw [← hl]; exact h.sto, by
    rcases h.log with c | ⟨es, c⟩ | c
    · exact .inl (by rw [← hl]; exact c)
    · exact .inr (.inl ⟨es, ⟨c.ne, by rw [← hl]; exact c.abs, by rw [← hl]; exact c.contig, c.terms,
        by rw [← hl]; exact c.last, c.inv, by rw [← hl]; exact c.commit, c.leader⟩⟩)
    · exact .inr (.inr (by rw [← hl]; exact c)),
    by rw [← hl, ← hm]; exact h.q, by rw [← hl, ← hs, ← ht]; exact h.keep⟩

theorem stepIgnore_eff {r r' : Raft} {m : Message} (hinv : r.raftLog.Inv)
    (hnb : r.batchAppend = false) (hw : m.msgType = .msgAppend → MsgOk m)
    (h : r.stepIgnore m = .ok r') : Eff r r' m := by
  obtain ⟨_, hs⟩ := stepIgnore_inv h
  exact step_eff hinv hnb hw hs

theorem Eff.retag {r r' : Raft} {m m' : Message} (h : Eff r r' m) (hm : m.msgType ≠ .msgAppend) :
    Eff r r' m' :=
  ⟨h.inv, h.sto, by
    rcases h.log with c | c | ⟨c, _⟩
    · exact .inl c
    · exact .inr (.inl c)
    · exact absurd c hm, h.q, h.keep⟩

/-! ### the entry points that keep the logical log -/

theorem Bt.SX.k {r r' : Raft} (h : Bt.SX r r') : K r r' := by
  rcases h with c | ⟨_, c⟩
  · exact fun _ _ => c.k0
  · exact c.k

theorem applyConfChange_k {a r r' : Raft} {cc : ConfChangeV2} {res : Except ErrKind ConfState}
    (h : r.applyConfChange cc = .ok (r', res)) (h0 : K a r) : K a r' :=
  fun hi hb => (h0 hi hb).then hi hb (Bt.applyConfChange_x h ((h0 hi hb).inv hi)).k

theorem ping_k {a r r' : Raft} (h : r.ping = .ok r') (h0 : K a r) : K a r' :=
  h0.trans (.of_n (Bt.ping_n h Bt.N.rfl))

theorem requestSnapshot_k {a r r' : Raft} {e : Option RaftError}
    (h : r.requestSnapshot = .ok (r', e)) (h0 : K a r) : K a r' :=
  h0.trans (.of_n (Bt.requestSnapshot_n h Bt.N.rfl))

theorem enableGroupCommit_k {a r r' : Raft} {b : Bool}
    (h : r.enableGroupCommit b = .ok r') (h0 : K a r) : K a r' :=
  fun hi hb => (h0 hi hb).then hi hb (Bt.enableGroupCommit_x h ((h0 hi hb).inv hi)).k

theorem adjustMaxInflightMsgs_k {a r r' : Raft} {t c : Nat}
    (h : r.adjustMaxInflightMsgs t c = .ok r') (h0 : K a r) : K a r' :=
  h0.trans (.of_n (Bt.adjustMaxInflightMsgs_n h Bt.N.rfl))

theorem assignCommitGroups_k {a r r' : Raft} {ids : List (Nat × Nat)}
    (h : r.assignCommitGroups ids = .ok r') (h0 : K a r) : K a r' :=
  fun hi hb => (h0 hi hb).then hi hb (Bt.assignCommitGroups_x h ((h0 hi hb).inv hi)).k

/-- `on_persist_entries`: only `persisted` (and on a leader possibly the commit index) moves -/
theorem onPersistEntries_k {r r' : Raft} {index term : Nat} (hinv : r.raftLog.Inv)
    (hnb : r.batchAppend = false) (h : r.onPersistEntries index term = .ok r') : K0 r r' :=
  (Bt.onPersistEntries_x hinv h).k hinv hnb

/-- `tick` on a leader keeps the logical log -/
theorem tick_leader_k {r r' : Raft} {b : Bool} (hinv : r.raftLog.Inv) (_hnb : r.batchAppend = false)
    (hs : r.state = .leader) (h : r.tick = .ok (r', b)) : K0 r r' :=
  (Bt.tick_leader_n hinv hs h).k0

/-- **`tick` as an effect** -/
theorem tick_eff {r r' : Raft} {b : Bool} {m : Message} (hinv : r.raftLog.Inv) (hnb : r.batchAppend = false)
    (h : r.tick = .ok (r', b)) : Eff r r' m :=
  (Bt.tick_effx hinv (fun c => by rw [hnb] at c; cases c) h).eff hnb

end Raft
end RaftModel
