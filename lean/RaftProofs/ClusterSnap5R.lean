import RaftProofs.ClusterSnap5Q

/-!
Commit safety of `ClusterSem` with compaction and snapshots, part 5R: the last term of
a log is not below the term of any entry of a led term its ghost log holds (`has_le_lastTerm`; the last
entry of the ghost log was, by `NodeFull.pastL`, an entry of a real log of the past), a node that led a
term is never candidate of it afterwards (`led_not_cand`), and the induction step for **granted votes**
(`g1_step`).
-/
namespace RaftModel
namespace Cluster
namespace Snap5
open Node Raft Raft.CC RaftProps.C02 RaftProps.C05 Snap

variable {q : Prop} {cfg : JointConfig} {c0 : Nat} {h : List Sys}

/-- **the last term of a log is not below the term of an entry of a led term it holds** (in its
ghost log) -/
theorem has_le_lastTerm (F : Facts3 q cfg c0 h) {n : Nat} {a : Sys} (ha : h[n]? = some a) {v : Nat}
    {st : NState} (hv : a.node v = some st) {c t : Nat} (hh : Has (FL h c0 st) c t)
    {n' : Nat} {s' : Sys} {l' : Nat} (hn' : h[n']? = some s') (hl' : leads s' l' t) {lt : Nat}
    (hlt : st.raft.raftLog.lastTerm = .ok lt) : t ≤ lt := by
  have F2 := F.toFacts
  have o := F2.node_inv ha hv
  have I := (F2.ghost_inv n a ha).node v st hv
  rw [o.lastTerm_abs] at hlt
  obtain ⟨ec, hec, hect⟩ := hh
  have hcl := (FL h c0 st).entryAt_lt hec
  rw [I.log.last, I.log.snap] at hcl
  -- the last entry of the ghost log carries the last term, and was an entry of a real log
  obtain ⟨e, he, helt⟩ := I.log.lastTerm hlt (by omega)
  subst helt
  obtain ⟨s0, h0, hprov⟩ := F2.fentry_prov
  rcases hprov n a ha v st hv _ e he with hini | hborn
  · -- an entry of the initial state: then the entry of term `t` below it is initial, too
    exfalso
    have := F2.init_entry_term h0 (F2.init_below h0 ha hv he hini hcl.2 hec) hn' hl'
    omega
  · -- created by the leader of its term, whose log holds the entry of term `t`, too
    obtain ⟨m, s, l, stl, hm, hs, hl, hsl, htl, hel, _⟩ := hborn
    have Il := (F2.ghost_inv m s hs).node l stl hl
    have heq := F2.flogs_eq_below ha hs hv hl he (Il.log.entry hel) rfl c hcl.2
    have hmem : ec ∈ (FL h c0 stl).ents :=
      (FL h c0 stl).entryAt_mem (by rw [← heq]; exact hec)
    have := F.term_log m s hs l stl hl ec hmem
    omega

/-- **a node that led a term is never candidate of that term afterwards** -/
theorem led_not_cand (F : Facts q cfg c0 h) {m' : Nat} {s' : Sys} {l T : Nat} (hm' : h[m']? = some s')
    (hl : leads s' l T) :
    ∀ (d : Nat) (s : Sys), h[m' + d]? = some s → ∀ st, s.node l = some st →
      ¬ (st.raft.state = .candidate ∧ st.raft.term = T) := by
  intro d
  induction d with
  | zero =>
    intro s hs st hst ⟨hc, _⟩
    rw [Nat.add_zero, hm'] at hs; cases hs
    obtain ⟨st2, h2, h3, _⟩ := hl
    rw [hst] at h2; cases h2
    rw [hc] at h3; cases h3
  | succ d ih =>
    intro b hb st' hst' ⟨hc, ht⟩
    have hlt : m' + d < h.length := by
      rcases Nat.lt_or_ge (m' + d) h.length with c | c
      · exact c
      · have : h.length ≤ m' + (d + 1) := by omega
        rw [List.getElem?_eq_none this] at hb; cases hb
    have ha : h[m' + d]? = some h[m' + d] := List.getElem?_eq_some_iff.2 ⟨hlt, rfl⟩
    have hfl := (F.leader_floor (mem_of_get hm') hl).later F.hist hm' ha (Nat.le_add_right _ _)
    obtain ⟨st, hst, hf1, _⟩ := hfl
    obtain ⟨k, stk, stk', hka, hkb, hoth, hs⟩ := F.stp ha (by rw [← hb]; rfl)
    by_cases hlk : l = k
    · subst hlk
      have hstk : st = stk := by rw [hst] at hka; exact Option.some.inj hka
      subst hstk
      rw [hkb] at hst'; cases hst'
      cases hs with
      | restart c rnd hboot _ _ =>
        rw [(CV.boot_booted c _ rnd st' hboot).state] at hc; cases hc
      | send _ _ _ hsame _ _ =>
        exact ih _ ha st hst ⟨by rw [← hsame.2.2]; exact hc, by rw [← hsame.2.1]; exact ht⟩
      | snap rnd m hm hto hty hpn hout hnet =>
        cases hout with
        | skip hr => exact ih _ ha st hst ⟨by rw [hr] at hc; exact hc, by rw [hr] at ht; exact ht⟩
        | handled x hsf => rw [hsf] at hc; cases hc
      | psnap rnd hp hout hpend hnet =>
        obtain ⟨_, p2, p3⟩ := persist_same hout
        exact ih _ ha st hst ⟨by rw [← p3]; exact hc, by rw [← p2]; exact ht⟩
      | call rnd op res hop hnc _ hns hpn _ hcall hnet _ _ =>
        have hL := (F.call_out ha (by rw [← hb]; rfl) hst hkb hnet hop hnc hns hpn hcall).rt
        rcases hL.cand hc with c | ⟨c1, c2⟩
        · omega
        · exact ih _ ha st hst ⟨c2, by rw [c1]; exact ht⟩
    · have : b.node l = (h[m' + d]).node l := hoth l hlk
      rw [this, hst] at hst'; cases hst'
      exact ih _ ha _ hst ⟨hc, ht⟩

/-- a granted vote that is around carries a term its sender has reached -/
theorem grant_term_le (F : Facts q cfg c0 h) {n : Nat} {a : Sys} (ha : h[n]? = some a) {v : Nat}
    {st : NState} (hv : a.node v = some st) {g : Message} (hg : g ∈ a.net ∨ g ∈ st.raft.msgs)
    (hig : isGrant g) (hfrm : g.frm = v) : g.term ≤ st.raft.term := by
  have I1 := (hist_all F.hist).1 a (mem_of_get ha)
  have hrv : CV.isRVm g = true := by simp [CV.isRVm, hig.1, hig.2]
  have hge : CV.Ge st.raft g.term (tgt g) := by
    rcases hg with c | c
    · obtain ⟨stq, h1, hok, _⟩ := I1.net g c hrv
      rw [hfrm, hv] at h1; cases h1
      exact hok.2.2.2.1
    · exact (I1.queue v st hv g c hrv).2.2.2.1
  rcases hge with c | ⟨c, _⟩ <;> omega

theorem g1_step (F : Facts3 q cfg c0 h) {n : Nat} (S : SAll h c0 n) {a b : Sys}
    (ha : h[n]? = some a) (hb : h[n + 1]? = some b) :
    ∀ E : Ev, E.ok h → ∀ v st' g, b.node v = some st' → (g ∈ b.net ∨ g ∈ st'.raft.msgs) →
      isGrant g → g.frm = v → E.t < g.term → AckedMem b (n + 1) E v st' →
      ¬ LedBy h (n + 1) g.term →
      ∃ q ∈ b.net, q.msgType = .msgRequestVote ∧ q.frm = g.to ∧ q.term = g.term ∧
        UpTo q E.c E.t := by
  intro E hE v st' g hvb hg hig hfrm hEt hk hnl
  have F2 := F.toFacts
  have Sa := S n a (Nat.le_refl _) ha
  have hnl' : ¬ LedBy h n g.term := fun hc => hnl (hc.mono (Nat.le_succ _))
  obtain ⟨_, _, hc0⟩ := F2.leaderLog hE
  obtain ⟨k, stk, stk', hka, hkb, hoth, hs⟩ := F2.stp ha hb
  -- from the situation before the step
  have fromOld : ∀ st, a.node v = some st → (g ∈ a.net ∨ g ∈ st.raft.msgs) → AckedMem a n E v st →
      ∃ q ∈ b.net, q.msgType = .msgRequestVote ∧ q.frm = g.to ∧ q.term = g.term ∧
        UpTo q E.c E.t := by
    intro st hst hg' hk'
    obtain ⟨q, hq, h2⟩ := Sa.g1 E hE v st g hst hg' hig hfrm hEt hk' hnl'
    exact ⟨q, hs.net_mono q hq, h2⟩
  by_cases hvk : v = k
  · subst hvk
    have hkb' := hkb
    rw [hkb] at hvb; cases hvb
    cases hs with
    | restart c rnd hboot hnet _ =>
      have hbt := CV.boot_booted c _ rnd st' hboot
      have hne : E.nE ≠ n := by
        refine not_ev_of_same hE ha hb (fun w sta stb hwa hwb hl => ?_)
        by_cases hw : w = v
        · subst hw
          rw [hkb'] at hwb; cases hwb
          rw [hbt.state] at hl; cases hl
        · rw [hoth w hw, hwa] at hwb; cases hwb; exact Nat.le_refl _
      refine fromOld stk hka ?_ (acked_back (fun x hx => by rw [hnet] at hx; exact .inl hx)
        (fun x hx => by rw [hbt.msgs] at hx; cases hx) hne hk)
      rcases hg with c | c
      · rw [hnet] at c; exact .inl c
      · rw [hbt.msgs] at c; cases c
    | send hp hu hq hsame hnet _ =>
      have hne : E.nE ≠ n := by
        refine not_ev_of_same hE ha hb (fun w sta stb hwa hwb _ => ?_)
        by_cases hw : w = v
        · subst hw
          rw [hkb'] at hwb; cases hwb
          rw [hka] at hwa; cases hwa
          rw [hsame.1]; exact Nat.le_refl _
        · rw [hoth w hw, hwa] at hwb; cases hwb; exact Nat.le_refl _
      refine fromOld stk hka ?_ (acked_back (fun x hx => by
        rw [hnet] at hx; exact List.mem_append.1 hx) (fun x hx => by rw [hq] at hx; cases hx) hne hk)
      rcases hg with c | c
      · rw [hnet] at c; exact List.mem_append.1 c
      · rw [hq] at c; cases c
    | psnap rnd hp hout hpend hnet =>
      have hne := not_ev_at hE ha hb hka hkb' hoth (.inr (Nat.le_of_eq (persist_same hout).1))
      have hq := PersistOut.msgs hout
      refine fromOld stk hka ?_ (acked_back (fun x hx => by rw [hnet] at hx; exact .inl hx)
        (fun x hx => by rw [hq] at hx; exact hx) hne hk)
      rcases hg with c | c
      · rw [hnet] at c; exact .inl c
      · rw [hq] at c; exact .inr c
    | snap rnd m hm hto hty hpn hout hnet =>
      cases hout with
      | skip hr =>
        have hne := not_ev_at hE ha hb hka hkb' hoth (.inr (by rw [hr]; exact Nat.le_refl _))
        refine fromOld stk hka ?_ (acked_back (fun x hx => by rw [hnet] at hx; exact .inl hx)
          (fun x hx => by rw [hr] at hx; exact hx) hne hk)
        rcases hg with c | c
        · rw [hnet] at c; exact .inl c
        · rw [hr] at c; exact .inr c
      | handled x hsf _ hle _ hq hack _ _ hxt _ _ =>
        -- the only new message is an acknowledgement of the node's (new) term
        have hne := not_ev_at hE ha hb hka hkb' hoth (.inl (by rw [hsf]; intro hc; cases hc))
        have hgold : g ∈ a.net ∨ g ∈ stk.raft.msgs := by
          rcases hg with c | c
          · rw [hnet] at c; exact .inl c
          · rw [hq] at c
            rcases List.mem_append.1 c with d | d
            · exact .inr d
            · exfalso
              have e := List.mem_singleton.1 d
              subst e
              have h1 := hig.1
              rw [hack.1] at h1; cases h1
        have hgt := grant_term_le F2 ha hka hgold hig hfrm
        have hkold : AckedMem a n E v stk := by
          rcases hk with ⟨y, hy, hyack, hyf, hyt, hyi⟩ | ⟨h1, h2, h3⟩
          · rcases hy with c | c
            · rw [hnet] at c; exact .inl ⟨y, .inl c, hyack, hyf, hyt, hyi⟩
            · rw [hq] at c
              rcases List.mem_append.1 c with d | d
              · exact .inl ⟨y, .inr d, hyack, hyf, hyt, hyi⟩
              · exfalso
                have e := List.mem_singleton.1 d
                subst e
                omega
          · exact .inr ⟨h1, by omega, h3⟩
        exact fromOld stk hka hgold hkold
    | call rnd op res hop hnc hca hns hpn hss hcall hnet _ _ =>
      have hL := (F2.call_out ha hb hka hkb hnet hop hnc hns hpn hcall).rt
      have I1b := (hist_all F.hist).1 b (mem_of_get hb)
      -- the granted vote binds the node to a term beyond the event's
      have hgt' : g.term ≤ st'.raft.term := grant_term_le F2 hb hkb' hg hig hfrm
      -- so the acknowledgement is not new, and the event is not this step
      have hkold : AckedMem a n E v stk := by
        rcases hk with ⟨x, hx, hack, hxf, hxt, hxi⟩ | ⟨h1, h2, h3⟩
        · have hx0 : x.index ≠ 0 := by omega
          by_cases hold : x ∈ a.net ∨ x ∈ stk.raft.msgs
          · exact .inl ⟨x, hold, hack, hxf, hxt, hxi⟩
          · exfalso
            have hxq : x ∈ st'.raft.msgs ∧ x ∉ stk.raft.msgs := by
              rcases hx with c | c
              · rw [hnet] at c; exact absurd (.inl c) hold
              · exact ⟨c, fun d => hold (.inr d)⟩
            obtain ⟨_, f2, _⟩ := F2.fresh_ack2 ha hb hka hkb' hnet hop hnc hns hpn hcall hxq.1 hxq.2 hack hx0
            omega
        · by_cases hne : E.nE = n
          · exfalso
            obtain ⟨a', b', sta, stb, ha', hb', hla, hlb, _, ht, _⟩ := id hE
            rw [hne, hb] at hb'; cases hb'
            rw [← h1, hkb'] at hlb; cases hlb
            omega
          · exact .inr ⟨h1, by omega, h3⟩
      by_cases hgold : g ∈ a.net ∨ g ∈ stk.raft.msgs
      · exact fromOld stk hka hgold hkold
      · -- a fresh grant: it answers a delivered request that is at least as up-to-date as the log
        have hgq : g ∈ st'.raft.msgs ∧ g ∉ stk.raft.msgs := by
          rcases hg with c | c
          · rw [hnet] at c; exact absurd (.inl c) hgold
          · exact ⟨c, fun d => hgold (.inr d)⟩
        have hop' : appOp op = true ∨ ∃ m, op = .step m := by
          rcases hop with c | ⟨m, c, _⟩
          · exact .inl c
          · exact .inr ⟨m, c⟩
        obtain ⟨m, hopm, hty, hto, hterm, lt, hlt, hup⟩ :=
          fresh_grant hcall hop' hgq.1 hgq.2 hig
        have hm : m ∈ a.net := by
          rcases hop with c | ⟨m', c, c2, _⟩
          · rw [hopm] at c; cases c
          · rw [hopm] at c; cases c; exact c2
        have hh := Sa.retm E hE v stk hka hkold
        obtain ⟨a', b', sta, stb, _, hb', _, hlb, hsl, htl, _⟩ := id hE
        have hle := has_le_lastTerm F ha hka hh hb' ⟨stb, hlb, hsl, htl⟩ hlt
        have o := F2.node_inv ha hka
        refine ⟨m, by rw [hnet]; exact hm, hty, hto.symm, hterm.symm, ?_⟩
        obtain ⟨ec, hec, _⟩ := hh
        have hcl := ((FL h c0 stk).entryAt_lt hec).2
        rw [fl_last F2 ha hka, ← o.lastIndex_abs] at hcl
        rcases hup with c | ⟨c1, c2⟩
        · exact .inl (by omega)
        · by_cases hlt2 : E.t < lt
          · exact .inl (by omega)
          · exact .inr ⟨by omega, by omega⟩
  · have hva : a.node v = some st' := by rw [← hoth v hvk]; exact hvb
    obtain ⟨o1, _, o3⟩ := sm_other F2 ha hka hs hvk (st := st')
    refine fromOld st' hva (o3 g hg hig hfrm) ?_
    rcases hk with ⟨x, hx, hack, hxf, hxt, hxi⟩ | ⟨h1, h2, h3⟩
    · exact .inl ⟨x, o1 x hx hack (by omega) hxf, hack, hxf, hxt, hxi⟩
    · by_cases he : E.nE = n
      · have := ev_at_step hE (by rw [he]; exact ha) (by rw [he]; exact hb) hoth
        exact absurd (h1.trans this) hvk
      · exact .inr ⟨h1, by omega, h3⟩


end Snap5
end Cluster
end RaftModel
