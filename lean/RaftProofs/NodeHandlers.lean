import RaftProofs.RaftHandlers
import RaftModel.NodeOps

/-!
The calls of one node (`RaftModel/NodeOps.lean`), taken apart once.

`Node.applyOp` dispatches a `NodeOp` to one method of the node model and wraps what the method
returns.  `Ran st op st'` lists the ways a call can end, one constructor per method outcome, and
`applyOp_parts` says that a successful call ended in one of them.  `Node.call` is `applyOp` on the
state with the random draw stored, so the lemma applies to it as it stands.  A fact about every call
of a node (`call_x` in the cluster files) is proved by `cases applyOp_parts h`, then per constructor
by what is known about that method; hypotheses about `op` or `st'` specialise by themselves.  The
three steps of the emulated application that are more than one method (`stabilize`, `persistSnap`,
`commitApply`) come out whole and are taken apart by closure lemmas of their own, in the style of
`RaftHandlers.lean`.
-/
namespace RaftModel
namespace Node

theorem unitRes_parts {Q : NState → Prop} {st st' : NState} {x : Res (Raft × Option RaftError)}
    {res : OpRes} (h : unitRes st x = .ok (res, st'))
    (ok : ∀ {r e}, x = .ok (r, e) → Q { st with raft := r }) : Q st' := by
  unfold unitRes at h
  split at h
  · cases h; exact ok rfl
  · cases h; exact ok rfl
  · cases h
  · cases h

theorem okRes_parts {Q : NState → Prop} {st st' : NState} {x : Res Raft} {res : OpRes}
    (h : okRes st x = .ok (res, st')) (ok : ∀ {r}, x = .ok r → Q { st with raft := r }) : Q st' := by
  unfold okRes at h
  split at h
  · cases h; exact ok rfl
  · cases h
  · cases h

/-- `Ran st op st'`: the call `op` on `st` succeeded and left `st'`.  One constructor per way a call
can end: the method it runs on `st.raft` (or on the storage inside it) and where the result is
stored; `persistSnap` and a successful `applyConfChange` also set the application's configuration. -/
inductive Ran (st : NState) : NodeOp → NState → Prop
  | tick {r b} : st.raft.tick = .ok (r, b) → Ran st .tick { st with raft := r }
  | step {m r e} : RawNode.step st.raft m = .ok (r, e) → Ran st (.step m) { st with raft := r }
  | rstep {m r e} : st.raft.step m = .ok (r, e) → Ran st (.rstep m) { st with raft := r }
  | propose {c d r e} : RawNode.propose st.raft c d = .ok (r, e) →
      Ran st (.propose c d) { st with raft := r }
  | proposeCc {t c d r e} : RawNode.proposeConfChange st.raft c t d = .ok (r, e) →
      Ran st (.proposeCc t c d) { st with raft := r }
  | readIndex {c r} : RawNode.readIndex st.raft c = .ok r → Ran st (.readIndex c) { st with raft := r }
  | transferLeader {x r} : RawNode.transferLeader st.raft x = .ok r →
      Ran st (.transferLeader x) { st with raft := r }
  | campaign {r e} : RawNode.campaign st.raft = .ok (r, e) → Ran st .campaign { st with raft := r }
  | ping {r} : st.raft.ping = .ok r → Ran st .ping { st with raft := r }
  | requestSnapshot {r e} : st.raft.requestSnapshot = .ok (r, e) →
      Ran st .requestSnapshot { st with raft := r }
  | reportUnreachable {x r} : RawNode.reportUnreachable st.raft x = .ok r →
      Ran st (.reportUnreachable x) { st with raft := r }
  | reportSnapshot {x f r} : RawNode.reportSnapshot st.raft x f = .ok r →
      Ran st (.reportSnapshot x f) { st with raft := r }
  | confChanged {cc r cs} : st.raft.applyConfChange cc = .ok (r, .ok cs) →
      Ran st (.applyConfChange cc) { raft := r, appCs := cs }
  | confRefused {cc r e} : st.raft.applyConfChange cc = .ok (r, .error e) →
      Ran st (.applyConfChange cc) { st with raft := r }
  | stabilize {res s} : Node.stabilize st = .ok (res, s) → Ran st .stabilize s
  | onPersistEntries {i t r} : st.raft.onPersistEntries i t = .ok r →
      Ran st (.onPersistEntries i t) { st with raft := r }
  | persistSnap {res s} : Node.persistSnap st = .ok (res, s) → Ran st .persistSnap s
  | commitApply {k res s} : Node.commitApply st k = .ok (res, s) → Ran st (.commitApply k) s
  | compact {k store} : st.raft.raftLog.store.compact k = .ok store →
      Ran st (.compact k) { st with raft := withStore st.raft (fun _ => store) }
  | drain : Ran st .drain { st with raft := { st.raft with msgs := [], readStates := [] } }
  | triggerSnap : Ran st .triggerSnap
      { st with raft := withStore st.raft (fun s => s.triggerSnapUnavailableOn) }
  | triggerLog b : Ran st (.triggerLog b)
      { st with raft := withStore st.raft (fun s => s.setTriggerLogUnavailable b) }
  | setPriority p : Ran st (.setPriority p) { st with raft := st.raft.setPriority p }
  | setBatchAppend b : Ran st (.setBatchAppend b) { st with raft := st.raft.setBatchAppend b }
  | skipBcastCommit b : Ran st (.skipBcastCommit b) { st with raft := st.raft.setSkipBcastCommit b }
  | setCheckQuorum b : Ran st (.setCheckQuorum b) { st with raft := st.raft.setCheckQuorum b }
  | adjustMaxInflight {id cap r} : st.raft.adjustMaxInflightMsgs id cap = .ok r →
      Ran st (.adjustMaxInflight id cap) { st with raft := r }
  | maybeFreeInflightBuffers : Ran st .maybeFreeInflightBuffers
      { st with raft := st.raft.maybeFreeInflightBuffers }
  | enableGroupCommit {b r} : st.raft.enableGroupCommit b = .ok r →
      Ran st (.enableGroupCommit b) { st with raft := r }
  | assignCommitGroups {v r} : st.raft.assignCommitGroups v = .ok r →
      Ran st (.assignCommitGroups v) { st with raft := r }
  | clearCommitGroup : Ran st .clearCommitGroup { st with raft := st.raft.clearCommitGroup }
  | checkGroupCommitConsistent : Ran st .checkGroupCommitConsistent st
  | setMaxApplyUnpersistedLogLimit x : Ran st (.setMaxApplyUnpersistedLogLimit x)
      { st with raft := st.raft.setMaxApplyUnpersistedLogLimit x }
  | setMaxCommittedSizePerReady x : Ran st (.setMaxCommittedSizePerReady x)
      { st with raft := st.raft.setMaxCommittedSizePerReady x }
  | staleFetch to term aggr : Ran st (.onEntriesFetched to term aggr) st
  | fetched {to term r} : st.raft.term = term → st.raft.state = .leader →
      (st.raft.prs.get to).isSome = true → st.raft.sendAppend to = .ok r →
      Ran st (.onEntriesFetched to term false) { st with raft := r }
  | fetchedAll {to term r} : st.raft.term = term → st.raft.state = .leader →
      (st.raft.prs.get to).isSome = true → st.raft.sendAppendAggressively to = .ok r →
      Ran st (.onEntriesFetched to term true) { st with raft := r }

theorem applyOp_parts {st st' : NState} {op : NodeOp} {res : OpRes}
    (h : applyOp st op = .ok (res, st')) : Ran st op st' := by
  cases op with
  | tick =>
    simp only [applyOp] at h
    split at h
    · rename_i hx; cases h; exact .tick hx
    · cases h
    · cases h
  | step m => exact unitRes_parts h .step
  | rstep m => exact unitRes_parts h .rstep
  | propose c d => exact unitRes_parts h .propose
  | proposeCc t c d => exact unitRes_parts h .proposeCc
  | readIndex c => exact okRes_parts h .readIndex
  | transferLeader x => exact okRes_parts h .transferLeader
  | campaign => exact unitRes_parts h .campaign
  | ping => exact okRes_parts h .ping
  | requestSnapshot => exact unitRes_parts h .requestSnapshot
  | reportUnreachable x => exact okRes_parts h .reportUnreachable
  | reportSnapshot x f => exact okRes_parts h .reportSnapshot
  | applyConfChange cc =>
    simp only [applyOp] at h
    split at h
    · rename_i hx; cases h; exact .confChanged hx
    · rename_i hx; cases h; exact .confRefused hx
    · cases h
    · cases h
  | stabilize => exact .stabilize h
  | onPersistEntries i t => exact okRes_parts h .onPersistEntries
  | persistSnap => exact .persistSnap h
  | commitApply k => exact .commitApply h
  | compact k =>
    simp only [applyOp] at h
    split at h
    · rename_i hx; cases h; exact .compact hx
    · cases h
    · cases h
  | drain => cases h; exact .drain
  | triggerSnap => cases h; exact .triggerSnap
  | triggerLog b => cases h; exact .triggerLog b
  | setPriority p => cases h; exact .setPriority p
  | setBatchAppend b => cases h; exact .setBatchAppend b
  | skipBcastCommit b => cases h; exact .skipBcastCommit b
  | setCheckQuorum b => cases h; exact .setCheckQuorum b
  | adjustMaxInflight id cap => exact okRes_parts h .adjustMaxInflight
  | maybeFreeInflightBuffers => cases h; exact .maybeFreeInflightBuffers
  | enableGroupCommit b => exact okRes_parts h .enableGroupCommit
  | assignCommitGroups v => exact okRes_parts h .assignCommitGroups
  | clearCommitGroup => cases h; exact .clearCommitGroup
  | checkGroupCommitConsistent =>
    simp only [applyOp] at h
    split at h
    · cases h; exact .checkGroupCommitConsistent
    · cases h; exact .checkGroupCommitConsistent
    · cases h
    · cases h
  | setMaxApplyUnpersistedLogLimit x => cases h; exact .setMaxApplyUnpersistedLogLimit x
  | setMaxCommittedSizePerReady x => cases h; exact .setMaxCommittedSizePerReady x
  | onEntriesFetched to term aggr =>
    simp only [applyOp] at h
    split at h
    · cases h; exact .staleFetch _ _ _
    · rename_i hg
      split at h
      · cases h; exact .staleFetch _ _ _
      · rename_i hp
        have ht : st.raft.term = term := Classical.byContradiction fun hc => hg (.inl hc)
        have hl : st.raft.state = .leader := Classical.byContradiction fun hc => hg (.inr hc)
        have hs : (st.raft.prs.get to).isSome = true := by
          cases hq : st.raft.prs.get to with
          | none => rw [hq] at hp; exact absurd rfl hp
          | some _ => rfl
        cases aggr with
        | false => exact okRes_parts h (.fetched ht hl hs)
        | true => exact okRes_parts h (.fetchedAll ht hl hs)

/-- `drain` hands over the queue and the read states and changes nothing else -/
theorem drain_raft {st st' : NState} {rnd : Option Nat} {res : OpRes}
    (h : Node.call st rnd .drain = .ok (res, st')) :
    st'.raft = { st.raft with nextRand := rnd, msgs := [], readStates := [] } := by
  cases applyOp_parts h with
  | drain => rfl

/-- `stabilize`: the unstable entries go to the storage (`RaftLog.stabilise`), then the term and the
vote are written to the storage's hard state -/
theorem stabilize_parts {Q : NState → Prop} {st st' : NState} {res : OpRes}
    (h : Node.stabilize st = .ok (res, st'))
    (stable : ∀ {l}, st.raft.raftLog.stabilise = .ok l →
      Q { st with raft := { st.raft with raftLog :=
        { l with store := l.store.setHardState
                   { l.store.hardState with term := st.raft.term, vote := st.raft.vote } } } }) :
    Q st' := by
  unfold Node.stabilize at h
  simp only at h
  split at h
  · rename_i hl; cases h; exact stable hl
  · cases h
  · cases h

/-- `persistSnap`: nothing without a pending snapshot or when the storage already has a newer one;
otherwise the storage applies it, the log forgets it (`stable_snap`), `on_persist_snap` runs and
the application takes over the snapshot's configuration -/
theorem persistSnap_parts {Q : NState → Prop} {st st' : NState} {res : OpRes}
    (h : Node.persistSnap st = .ok (res, st')) (h0 : Q st)
    (snap : ∀ {s store l r}, st.raft.raftLog.unstable.snapshot = some s →
      st.raft.raftLog.store.applySnapshot s = .ok store →
      ({ st.raft.raftLog with store := store } : RaftLog).stableSnap s.metadata.index = .ok l →
      ({ st.raft with raftLog := l } : Raft).onPersistSnap s.metadata.index = .ok r →
      Q { raft := r, appCs := s.metadata.confState }) : Q st' := by
  unfold Node.persistSnap at h
  simp only at h
  split at h
  · cases h; exact h0
  · rename_i hs
    split at h
    · cases h; exact h0
    · cases h
    · rename_i ha
      split at h
      · cases h
      · cases h
      · rename_i hl
        split at h
        · rename_i hp; cases h; exact snap hs ha hl hp
        · cases h
        · cases h

/-- `commitApply k`: the uncommitted size is reduced by the entries being applied,
`commit_apply(k)` runs, and the application records `k` and its configuration in the storage when `k`
is still there -/
theorem commitApply_parts {Q : NState → Prop} {st st' : NState} {k : Nat} {res : OpRes}
    (h : Node.commitApply st k = .ok (res, st')) (h0 : Q st)
    (reduce : ∀ ents, Q { st with raft := st.raft.reduceUncommittedSize ents })
    (apply : ∀ {r1 r2}, r1.commitApply k = .ok r2 → Q { st with raft := r1 } →
      Q { st with raft := r2 })
    (record : ∀ {r}, Q { st with raft := r } → Q { st with raft := withStore r (fun s =>
      { s with hardState := { s.hardState with commit := k }, confState := st.appCs }) }) :
    Q st' := by
  unfold Node.commitApply at h
  simp only at h
  split at h
  · rename_i hb
    obtain ⟨r1, h1, h2⟩ := Res.bind_eq_ok hb
    have q1 : Q { st with raft := r1 } := by
      split at h1
      · split at h1
        · cases h1; exact reduce _
        · cases h1; exact h0
        · cases h1
      · cases h1; exact h0
    cases h
    split
    · exact record (apply h2 q1)
    · exact apply h2 q1
  · cases h
  · cases h

end Node
end RaftModel
