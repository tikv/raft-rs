import RaftProofs.ClusterCommitBatchVocab
import RaftProofs.ClusterCommitBatchQueue

/-!
Cluster-level commit safety **with `batch_append`**: the bundle and the components of the main induction.

* `RirSrc`, the bundles `Hyp3aB`, `Hyp3wB`, `M.Hyp3aB`; the snapshot term of every node is constant
  (`M.snapTerm_const`, `M.Hyp3aB.snapt`);
* **no entry is ahead of its holder's term** (`M.TermLe`, `M.term_le`): every entry of a node's logical log has a
  term at most the node's term, every stored entry a term at most the stored term, every entry of a `MsgAppend` a
  term at most the message's term;
* `LeaderLog`, `EqUpTo`, `Covered`, `Promise`, **the components of the main induction** `Sm` and `SAll`, with
  `Ev.leaderLog`, `M.eq_ll`;
* what is known about the sender of a `MsgAppend` / `MsgHeartbeat` (`AppSrc`, `HbSrc`), and the provenance of the
  (pre-)vote messages (`VoteGen`, `M.vote_prov`).

For a history `h` under `Hyp3aB`, `Sm h c0 m s` collects what is known about the state `s = h[m]`, for
**every** commit event `E` of the history (past or future — the events are a prophecy, like the owners
of the terms in the Log Matching layer):

* `lc` (Leader Completeness): a leader of a later term holds the committed entry;
* `retm` / `rets` (retention): a node that acknowledged the committed index for the event's term (or is
  the committing leader, with the index persisted) holds the committed entry — in its logical log, and
  in its storage once the acknowledgement is in the transport;
* `a2m` / `a2s` (the promise of an acknowledgement): while the node is in the term of its
  acknowledgement, its log (its storage, once the acknowledgement is in the transport and its stored
  term is that term) equals a log of that term's leader up to the acknowledged index;
* `g1`: a granted vote of a node that acknowledged an event, for a later term that has not been led
  yet, answers a request whose `(log_term, index)` is at least `(t, c)`;
* `nctm` / `ncts`: what a node has marked committed (what its storage records as committed) was
  committed by a past event of a term not above the node's (stored) term, with these entries;
* `scm`: the stored commit index is not ahead of the commit index.
-/

namespace RaftModel
namespace ClusterB
section
open Node Raft Raft.CC RaftProps.C02 RaftProps.C05 Raft.CB Raft.Bt Cluster

/-- **the hypotheses of the main induction** on top of `Hyp2wB` — two facts about the messages of the
transport that the induction uses (both are *derived* from the other hypotheses in
`RaftProofs/ClusterCommit6A.lean`: `Hyp3wB.toHyp3aB`, `M.Hyp3wQ.toHyp3aB`), and one hypothesis on the initial state
(`snapt0`):
* `anch`: a `MsgAppend` is anchored inside its sender's log (`log_term ≠ 0` unless the anchor is the
  common snapshot point) — follows from `next_idx ≤ last_index + 1` for every progress of a leader;
* `rirs`: a `MsgReadIndexResp` was sent by a leader of its term whose commit index covered its index —
  follows from "every pending read index is at most the commit index";
* `snapt0` (a hypothesis on the initial state, like `InitOk`'s bound on the terms of the initial
  entries): the term an initial storage records for the common snapshot point `c0` is not above the
  initial term of any node. -/
structure Hyp3aB (cfg : JointConfig) (c0 : Nat) (h : List Sys) : Prop extends Hyp2wB cfg c0 h where
  anch : ∀ s ∈ h, ∀ x ∈ s.net, x.msgType = .msgAppend → x.logTerm ≠ 0 ∨ x.index ≤ c0
  rirs : ∀ n s, h[n]? = some s → ∀ x ∈ s.net, x.msgType = .msgReadIndexResp → RirSrc h n x
  snapt0 : ∀ s0, h[0]? = some s0 → ∀ i sti, s0.node i = some sti → ∀ t0,
    sti.raft.raftLog.abs.snapTerm = some t0 → ∀ j stj, s0.node j = some stj → t0 ≤ stj.raft.term

/-- **the hypotheses of the commit layer without proof gaps about the transport and without
`NoBatch`**: a flat bundle (it does *not* contain `sane` of `HypB`, which is derived): the fields of
`HypB` without `sane`, the fields of `Hyp2wB`, `snapt0`, and
* `nosq`: no `MsgSnapshot` is ever queued (it replaces the alternative "a `MsgSnapshot` is queued next
  to it" of the clauses about queued appends, because `SaneAnchors` has no such alternative). -/
structure Hyp3wB (cfg : JointConfig) (c0 : Nat) (h : List Sys) : Prop where
  hist : History h
  fix : ∀ s ∈ h, FixedCfg cfg s
  ne : cfg.incoming ≠ []
  nd1 : cfg.incoming.Nodup
  nd2 : cfg.outgoing.Nodup
  init : ∀ s : Sys, h[0]? = some s → InitOk s
  steps : ∀ (n : Nat) (a b : Sys), h[n]? = some a → h[n + 1]? = some b → KStep a b
  nosnap : ∀ s ∈ h, NoSnapNet s
  mv : MultiVoter cfg
  nolone : ∀ i Q, IsJointQuorum cfg Q → ∃ k ∈ Q, k ≠ i
  shape : ∀ s ∈ h, ∀ i st, s.node i = some st →
    st.raft.raftLog.unstable.snapshot = none ∧ st.raft.raftLog.store.firstIndex = c0 + 1
  initc : ∀ s : Sys, h[0]? = some s → ∀ i st, s.node i = some st → st.raft.raftLog.committed = c0
  c0z : c0 = 0
  snapt0 : ∀ s0, h[0]? = some s0 → ∀ i sti, s0.node i = some sti → ∀ t0,
    sti.raft.raftLog.abs.snapTerm = some t0 → ∀ j stj, s0.node j = some stj → t0 ≤ stj.raft.term
  nosq : ∀ s ∈ h, ∀ i st, s.node i = some st → ∀ y ∈ st.raft.msgs, y.msgType ≠ .msgSnapshot

variable {cfg : JointConfig} {c0 : Nat} {h : List Sys}

/-- the hypotheses without gaps (and without `NoBatch`) are closed under taking a non-empty prefix
(`History.take`, `get_take` of `ClusterCommitCI`) -/
theorem Hyp3wB.take (H : Hyp3wB cfg c0 h) {k : Nat} (hk : 0 < k) : Hyp3wB cfg c0 (h.take k) where
  hist := History.take H.hist k hk
  fix := fun s hs => H.fix s (List.mem_of_mem_take hs)
  ne := H.ne
  nd1 := H.nd1
  nd2 := H.nd2
  init := fun s h0 => H.init s (get_take h0).1
  steps := fun n a b ha hb => H.steps n a b (get_take ha).1 (get_take hb).1
  nosnap := fun s hs => H.nosnap s (List.mem_of_mem_take hs)
  mv := H.mv
  nolone := H.nolone
  shape := fun s hs => H.shape s (List.mem_of_mem_take hs)
  initc := fun s h0 => H.initc s (get_take h0).1
  c0z := H.c0z
  snapt0 := fun s0 h0 => H.snapt0 s0 (get_take h0).1
  nosq := fun s hs => H.nosq s (List.mem_of_mem_take hs)
end

namespace M
open Node Raft Raft.CC RaftProps.C02
open RaftProps.C05
open Raft.CB Raft.Bt
open Cluster hiding At Prov InvL Trans EntriesOf SaneAnchors
open Cluster.M
/-- **the hypotheses of the main induction** on top of `M.Hyp2wB`: the fields `anch`, `rirs`, `snapt0` of
`Hyp3aB` above -/
structure Hyp3aB (cfg : JointConfig) (c0 : Nat) (h : List Sys) : Prop extends Hyp2wB cfg c0 h where
  anch : ∀ s ∈ h, ∀ x ∈ s.net, x.msgType = .msgAppend → x.logTerm ≠ 0 ∨ x.index ≤ c0
  rirs : ∀ n s, h[n]? = some s → ∀ x ∈ s.net, x.msgType = .msgReadIndexResp → RirSrc h n x
  snapt0 : ∀ s0, h[0]? = some s0 → ∀ i sti, s0.node i = some sti → ∀ t0,
    sti.raft.raftLog.abs.snapTerm = some t0 → ∀ j stj, s0.node j = some stj → t0 ≤ stj.raft.term

variable {cfg : JointConfig} {c0 : Nat} {h : List Sys}

/-- the term recorded for the snapshot point never changes -/
theorem snapTerm_const (H : Hyp2wB cfg c0 h) : ∀ (n : Nat) (s : Sys), h[n]? = some s →
    ∀ v st, s.node v = some st → ∃ s0 st0, h[0]? = some s0 ∧ s0.node v = some st0 ∧
      st.raft.raftLog.abs.snapTerm = st0.raft.raftLog.abs.snapTerm := by
  refine hist_induct h _ ?_ ?_
  · intro s h0 v st hv
    exact ⟨s, st, h0, hv, rfl⟩
  · intro n a b ha hb ih v stb hvb
    obtain ⟨sta, hva⟩ := step_node_back (H.steps n a b ha hb).step v stb hvb
    obtain ⟨s0, st0, h0, hv0, he⟩ := ih v sta hva
    refine ⟨s0, st0, h0, hv0, ?_⟩
    rw [← he]
    cases node_step H ha hb hva hvb with
    | same hl => rw [hl]
    | grew es hg => rw [hg.abs]
    | acc m _ _ _ hacc _ _ _ _ => exact hacc.snap.2
    | restart hl _ _ =>
      rw [hl, RaftLog.abs_none (node_okB H ha hva).snap]
      rfl

/-- the term of the common snapshot point is not above the initial term of any node, in every state -/
theorem Hyp3aB.snapt (H : Hyp3aB cfg c0 h) : ∀ s ∈ h, ∀ i st, s.node i = some st → ∀ t0,
    st.raft.raftLog.abs.snapTerm = some t0 →
    ∀ s0, h[0]? = some s0 → ∀ j st0, s0.node j = some st0 → t0 ≤ st0.raft.term := by
  intro s hs i st hi t0 ht0 s0 h0 j st0 hj
  obtain ⟨n, hn⟩ := List.mem_iff_getElem?.1 hs
  obtain ⟨s0', sti, h0', hi0, he⟩ := snapTerm_const H.toHyp2wB n s hn i st hi
  rw [h0] at h0'; cases h0'
  exact H.snapt0 s0 h0 i sti hi0 t0 (by rw [← he]; exact ht0) j st0 hj

structure TermLe (s : Sys) : Prop where
  log : ∀ i st, s.node i = some st → ∀ e ∈ st.raft.raftLog.abs.ents, e.term ≤ st.raft.term
  sto : ∀ i st, s.node i = some st → ∀ e ∈ st.raft.raftLog.store.entries,
    e.term ≤ st.raft.raftLog.store.hardState.term
  que : ∀ i st, s.node i = some st → ¬ Raft.CP.QSnap st.raft.msgs →
    ∀ x ∈ st.raft.msgs, x.msgType = .msgAppend → ∀ e ∈ x.entries, e.term ≤ x.term
  net : ∀ x ∈ s.net, x.msgType = .msgAppend → ∀ e ∈ x.entries, e.term ≤ x.term

theorem term_le (H : Hyp2wB cfg c0 h) : ∀ (n : Nat) (s : Sys), h[n]? = some s → TermLe s := by
  refine hist_induct h _ ?_ ?_
  · intro s h0
    have hinit := hist_init H.hist s h0
    obtain ⟨hnet, sto, hboot, hwf, _, hbound⟩ := H.init s h0
    have key : ∀ i st, s.node i = some st →
        st.raft.term = (sto i).hardState.term ∧
        st.raft.raftLog.store.hardState = (sto i).hardState ∧
        st.raft.raftLog.abs.ents = (sto i).entries ∧
        st.raft.raftLog.store.entries = (sto i).entries := by
      intro i st hi
      obtain ⟨c, rnd, hb⟩ := hboot i st hi
      have hbt := CV.boot_booted c _ rnd st hb
      obtain ⟨_, h2, h3⟩ := boot_log c _ rnd st (hwf i st hi).1 hb
      refine ⟨hbt.term, hbt.hs, by rw [h2]; rfl, ?_⟩
      have : (storeLog st.raft.raftLog.store).ents = (storeLog (sto i)).ents := by rw [h3]
      exact this
    refine ⟨fun i st hi e he => ?_, fun i st hi e he => ?_, fun i st hi _ x hx => ?_,
      fun x hx => ?_⟩
    · obtain ⟨k1, _, k3, _⟩ := key i st hi
      rw [k3] at he
      rw [k1]; exact hbound i i st st hi hi e he
    · obtain ⟨_, k2, _, k4⟩ := key i st hi
      rw [k4] at he
      rw [k2]; exact hbound i i st st hi hi e he
    · rw [init_queue hinit i st hi] at hx; cases hx
    · rw [hnet] at hx; cases hx
  · intro n a b ha hb ih
    obtain ⟨s0, _, hall⟩ := H.inv_at
    have I := hall a (mem_of_get ha)
    have hstep := H.steps n a b ha hb
    -- the stepping node `k`; every other node is untouched
    have other : ∀ (k : Nat) (stk' : NState) (net' : List Message),
        (∀ x ∈ net', x ∈ a.net ∨ ∃ st, a.node k = some st ∧ x ∈ st.raft.msgs ∧
          ¬ Raft.CP.QSnap st.raft.msgs) →
        (∀ st, a.node k = some st →
          (∀ e ∈ stk'.raft.raftLog.abs.ents, e.term ≤ stk'.raft.term) ∧
          (∀ e ∈ stk'.raft.raftLog.store.entries,
            e.term ≤ stk'.raft.raftLog.store.hardState.term) ∧
          (¬ Raft.CP.QSnap stk'.raft.msgs →
            ∀ x ∈ stk'.raft.msgs, x.msgType = .msgAppend → ∀ e ∈ x.entries, e.term ≤ x.term)) →
        a.node k ≠ none →
        TermLe { (a.setNode k stk') with net := net' } := by
      intro k stk' net' hnet hk hne
      obtain ⟨stk, hstk⟩ := Option.ne_none_iff_exists'.1 hne
      obtain ⟨k1, k2, k3⟩ := hk stk hstk
      have hnode : ∀ i st, ({ (a.setNode k stk') with net := net' } : Sys).node i = some st →
          (i = k ∧ st = stk') ∨ (i ≠ k ∧ a.node i = some st) := by
        intro i st hi
        have hi' : (a.setNode k stk').node i = some st := hi
        by_cases hik : i = k
        · subst hik
          rw [node_setNode_self] at hi'; cases hi'
          exact .inl ⟨rfl, rfl⟩
        · rw [node_setNode_ne a k i stk' hik] at hi'
          exact .inr ⟨hik, hi'⟩
      refine ⟨fun i st hi => ?_, fun i st hi => ?_, fun i st hi => ?_, fun x hx => ?_⟩
      · rcases hnode i st hi with ⟨_, rfl⟩ | ⟨_, c⟩
        · exact k1
        · exact ih.log i st c
      · rcases hnode i st hi with ⟨_, rfl⟩ | ⟨_, c⟩
        · exact k2
        · exact ih.sto i st c
      · rcases hnode i st hi with ⟨_, rfl⟩ | ⟨_, c⟩
        · exact k3
        · exact ih.que i st c
      · rcases hnet x hx with c | ⟨st, c1, c2, c3⟩
        · exact ih.net x c
        · exact ih.que k st c1 c3 x c2
    -- a `call` / `deliver` step at node `k`
    have callCase : ∀ (k : Nat) (st st' : NState) (rnd : Option Nat) (op : NodeOp) (res : OpRes),
        a.node k = some st → (appOp op = true ∨ ∃ m, op = .step m ∧ m ∈ a.net ∧ m.to = k) →
        (∀ j, op ≠ .compact j) → Node.call st rnd op = .ok (res, st') → b = a.setNode k st' →
        TermLe b := by
      intro k st st' rnd op res h1 hop hnc h4 hbe
      have hkb : b.node k = some st' := by rw [hbe]; exact node_setNode_self a k st'
      have hnetb : b.net = a.net := by rw [hbe]; rfl
      obtain ⟨g, hL, hq, hid⟩ := call_factsB H ha hb h1 hkb hnetb hop hnc h4
      obtain ⟨_, hse, hhs⟩ := call_moreB H ha hb h1 hkb hnetb hop hnc h4
      have oa := node_okB H ha h1
      have ob := node_okB H hb hkb
      -- the logical log
      have hlog : ∀ e ∈ st'.raft.raftLog.abs.ents, e.term ≤ st'.raft.term := by
        intro e he
        have hold : ∀ e ∈ st.raft.raftLog.abs.ents, e.term ≤ st'.raft.term :=
          fun e he => Nat.le_trans (ih.log k st h1 e he) hL.rt.le
        cases node_step H ha hb h1 hkb with
        | same hl => rw [hl] at he; exact hold e he
        | grew es hg =>
          rw [hg.abs] at he
          rcases List.mem_append.1 he with c | c
          · exact hold e c
          · exact Nat.le_of_eq (hg.terms e c)
        | acc m hm hty hto hacc _ _ _ ht =>
          rcases hacc.cases with c | ⟨_, _, c⟩
          · rw [c] at he; exact hold e he
          · have hc' : st'.raft.raftLog.abs.Contig := abs_Contig ob.inv
            rcases c e.index e (hc'.entryAt_of_mem he) with d | d
            · exact hold e (st.raft.raftLog.abs.entryAt_mem d)
            · have := ih.net m hm hty e d
              rcases ht with t1 | t1 <;> omega
        | restart _ hs' _ =>
          -- a `call` never ends like a restart with a different log; use the stored bound anyway
          rename_i hl' ht'
          rw [hl'] at he
          rw [ht']
          exact ih.sto k st h1 e he
      -- the stored entries
      have hsto : ∀ e ∈ st'.raft.raftLog.store.entries,
          e.term ≤ st'.raft.raftLog.store.hardState.term := by
        intro e he
        by_cases hst : op = .stabilize
        · subst hst
          obtain ⟨k1, k2, k3, _, k5, _⟩ := stabilize_out oa.inv oa.snap h4
          rw [k2.1, k5]
          have hc' : (storeLog st'.raft.raftLog.store).Contig := storeLog_contig ob.inv.storeWF
          have he' : (storeLog st'.raft.raftLog.store).entryAt e.index = some e :=
            hc'.entryAt_of_mem he
          rw [← ob.inv.abs_store_all ob.snap k1 e.index, k3] at he'
          exact ih.log k st h1 e (st.raft.raftLog.abs.entryAt_mem he')
        · rcases hse with c | c
          · rw [c.se.1] at he
            have h0 := ih.sto k st h1 e he
            rcases hhs with d | ⟨j, _, d⟩ | ⟨d, _⟩
            · rw [d]; exact h0
            · rw [d]; exact h0
            · exact absurd d hst
          · exact absurd c hst
      -- the queue
      have hque : ¬ Raft.CP.QSnap st'.raft.msgs →
          ∀ x ∈ st'.raft.msgs, x.msgType = .msgAppend → ∀ e ∈ x.entries, e.term ≤ x.term := by
        intro hnq' x hx hty e he
        have hnq : ¬ Raft.CP.QSnap st.raft.msgs := fun hq0 =>
          (H.mono n a b ha hb k st st' h1 hkb hq0).elim hnq' (fun he0 => by rw [he0] at hx; cases hx)
        have hlead : x ∈ st.raft.msgs ∨ st'.raft.state = .leader := by
          rcases g.qlk x hx (by rw [hty]; rfl) with c | c | c
          · exact .inl c
          · exact .inr c.lead
          · exact .inr c.1
        rcases hlead with c | c
        · exact ih.que k st h1 hnq x c hty e he
        · -- a leader's queued append (fresh or batched) is a slice of its log
          obtain ⟨hterm, _, _, hsub⟩ := leader_queueB H hb hkb c hx hty hnq'
          rw [hterm]
          exact hlog e (st'.raft.raftLog.abs.entryAt_mem (subw_entries hsub e he))
      have := other k st' a.net (fun x hx => .inl hx) (fun _ _ => ⟨hlog, hsto, hque⟩)
        (by rw [h1]; intro hc; cases hc)
      rw [hbe]
      exact this
    cases hstep with
    | call k st st' rnd op res h1 h2 h3 _ h4 =>
      exact callCase k st st' rnd op res h1 (.inl h2) h3 h4 rfl
    | deliver k st st' rnd m res h1 h2 h3 h4 =>
      exact callCase k st st' rnd (.step m) res h1 (.inr ⟨m, rfl, h2, h3⟩)
        (fun j hc => by cases hc) h4 rfl
    | send k st st' h1 h2 _ h3 =>
      have hf : st'.raft.msgs = [] ∧ st'.raft.raftLog = st.raft.raftLog ∧
          st'.raft.term = st.raft.term := by
        unfold Node.call at h3
        simp only [applyOp] at h3
        cases h3; exact ⟨rfl, rfl, rfl⟩
      obtain ⟨f1, f2, f3⟩ := hf
      refine other k st' (a.net ++ st.raft.msgs) (fun x hx => ?_) (fun st2 h2' => ?_)
        (by rw [h1]; intro hc; cases hc)
      · rcases List.mem_append.1 hx with c | c
        · exact .inl c
        · exact .inr ⟨st, h1, c, fun ⟨y, hy, hyt⟩ =>
            H.nosnap _ (mem_of_get hb) y (List.mem_append_right _ hy) hyt⟩
      · rw [h1] at h2'; cases h2'
        refine ⟨by rw [f2, f3]; exact ih.log k st h1, by rw [f2]; exact ih.sto k st h1, ?_⟩
        intro _ x hx; rw [f1] at hx; cases hx
    | restart k st st' c rnd h1 h2 h3 =>
      have hbt := CV.boot_booted c _ rnd st' h3
      obtain ⟨_, habs, hsl⟩ := boot_log c _ rnd st' (I.inv k st h1).storeWF h3
      refine other k st' a.net (fun x hx => .inl hx) (fun st2 h2' => ?_)
        (by rw [h1]; intro hc; cases hc)
      rw [h1] at h2'; cases h2'
      have e1 : (storeLog st'.raft.raftLog.store).ents = (storeLog st.raft.raftLog.store).ents := by
        rw [hsl]
      refine ⟨?_, ?_, ?_⟩
      · rw [habs, hbt.term]; exact ih.sto k st h1
      · intro e he
        rw [hbt.hs]
        exact ih.sto k st h1 e (by
          have : e ∈ (storeLog st'.raft.raftLog.store).ents := he
          rw [e1] at this; exact this)
      · intro _ x hx; rw [hbt.msgs] at hx; cases hx

end M

section
open Node Raft Raft.CC RaftProps.C02 RaftProps.C05 Raft.CB Raft.Bt Cluster

/-- `L` is the logical log of the leader of term `t` at some point `h[m]`, `m ≤ N` -/
def LeaderLog (h : List Sys) (N t : Nat) (L : LLog) : Prop :=
  ∃ m s l st, m ≤ N ∧ h[m]? = some s ∧ s.node l = some st ∧ st.raft.state = .leader ∧
    st.raft.term = t ∧ L = st.raft.raftLog.abs

theorem LeaderLog.mono {h : List Sys} {N N' t : Nat} {L : LLog} (hl : LeaderLog h N t L)
    (hle : N ≤ N') : LeaderLog h N' t L := by
  obtain ⟨m, s, l, st, h1, h2⟩ := hl
  exact ⟨m, s, l, st, Nat.le_trans h1 hle, h2⟩

/-- the two logs hold the same entries up to `i` -/
def EqUpTo (g g' : LLog) (i : Nat) : Prop := ∀ k, k ≤ i → g.entryAt k = g'.entryAt k

/-- the prefix up to `cm` of `g` is covered by a past commit event of a term at most `term` -/
def Covered (h : List Sys) (c0 m cm term : Nat) (g : LLog) : Prop :=
  cm ≤ c0 ∨ ∃ E : Ev, E.ok h ∧ E.nE < m ∧ cm ≤ E.c ∧ E.t ≤ term ∧ EqUpTo g E.gE cm

/-- what an accepting append response promises about the log `g` of its sender -/
def Promise (h : List Sys) (m : Nat) (a : Message) (g : LLog) : Prop :=
  ∃ L, LeaderLog h m a.term L ∧ a.index ≤ L.lastIndex ∧ EqUpTo g L a.index

structure Sm (h : List Sys) (c0 m : Nat) (s : Sys) : Prop where
  lc : ∀ E : Ev, E.ok h → ∀ l st, s.node l = some st → st.raft.state = .leader →
    E.t < st.raft.term → Has st.raft.raftLog.abs E.c E.t
  retm : ∀ E : Ev, E.ok h → ∀ v st, s.node v = some st → AckedMem s m E v st →
    Has st.raft.raftLog.abs E.c E.t
  rets : ∀ E : Ev, E.ok h → ∀ v st, s.node v = some st → AckedDur s m E v →
    Has (storeLog st.raft.raftLog.store) E.c E.t
  a2m : ∀ v st, s.node v = some st → ∀ a, (a ∈ s.net ∨ a ∈ st.raft.msgs) → isAck a → a.frm = v →
    c0 < a.index → a.term = st.raft.term → Promise h m a st.raft.raftLog.abs
  a2s : ∀ v st, s.node v = some st → ∀ a ∈ s.net, isAck a → a.frm = v → c0 < a.index →
    a.term = st.raft.raftLog.store.hardState.term →
    Promise h m a (storeLog st.raft.raftLog.store)
  g1 : ∀ E : Ev, E.ok h → ∀ v st g, s.node v = some st → (g ∈ s.net ∨ g ∈ st.raft.msgs) →
    isGrant g → g.frm = v → E.t < g.term → AckedMem s m E v st → ¬ LedBy h m g.term →
    ∃ q ∈ s.net, q.msgType = .msgRequestVote ∧ q.frm = g.to ∧ q.term = g.term ∧ UpTo q E.c E.t
  nctm : ∀ v st, s.node v = some st →
    Covered h c0 m st.raft.raftLog.committed st.raft.term st.raft.raftLog.abs
  ncts : ∀ v st, s.node v = some st →
    Covered h c0 m st.raft.raftLog.store.hardState.commit st.raft.raftLog.store.hardState.term
      (storeLog st.raft.raftLog.store)
  scm : ∀ v st, s.node v = some st →
    st.raft.raftLog.store.hardState.commit ≤ st.raft.raftLog.committed

/-- everything up to index `n` -/
def SAll (h : List Sys) (c0 n : Nat) : Prop := ∀ m s, m ≤ n → h[m]? = some s → Sm h c0 m s

variable {cfg : JointConfig} {c0 : Nat} {h : List Sys}

/-- the log of a commit event is a leader's log (under the anchor hypothesis on every queue) -/
theorem Ev.leaderLog (H : Hyp2wB cfg c0 h) {E : Ev} (hE : E.ok h) :
    LeaderLog h (E.nE + 1) E.t E.gE ∧ Has E.gE E.c E.t ∧ c0 < E.c := by
  obtain ⟨_, _, hall⟩ :=
    cluster_invB_batch cfg H.ne H.nd1 H.nd2 h H.hist H.fix H.init H.csteps H.mv H.sane
  obtain ⟨a, b, sta, stb, ha, hb, hla, hlb, hs, ht, hc, hg, _, _, hc0, hh, _⟩ :=
    Ev.facts_of H.hist H.fix H.steps H.nosnap
      (fun {n s i st} hn hi => .of H.hist (mem_of_get hn) hi ((hall s (mem_of_get hn)).1.inv i st hi)
        (H.shape s (mem_of_get hn) i st hi)) hE
  exact ⟨⟨E.nE + 1, b, E.l, stb, Nat.le_refl _, hb, hlb, hs, ht, hg⟩, hh, hc0⟩
end

namespace M
open Node Raft Raft.CC RaftProps.C02
open RaftProps.C05
open Raft.CB Raft.Bt
open Cluster hiding At Prov InvL Trans EntriesOf SaneAnchors
open Cluster.M
variable {cfg : JointConfig} {c0 : Nat} {h : List Sys}

/-- the log of a commit event is a leader's log -/
theorem Ev.leaderLog (H : Hyp2wB cfg c0 h) {E : Ev} (hE : E.ok h) :
    LeaderLog h (E.nE + 1) E.t E.gE ∧ Has E.gE E.c E.t ∧ c0 < E.c := by
  obtain ⟨a, b, sta, stb, ha, hb, hla, hlb, hs, ht, hc, hg, _, _, hc0, hh, _⟩ := Ev.facts H hE
  exact ⟨⟨E.nE + 1, b, E.l, stb, Nat.le_refl _, hb, hlb, hs, ht, hg⟩, hh, hc0⟩

/-- a node's log that holds an entry of a leader's log at `c` equals that log up to `c` -/
theorem eq_ll (H : Hyp2wB cfg c0 h) {n : Nat} {s : Sys} (hn : h[n]? = some s) {v : Nat}
    {st : NState} (hv : s.node v = some st) {N t : Nat} {L : LLog} (hL : LeaderLog h N t L)
    {c τ : Nat} (h1 : Has st.raft.raftLog.abs c τ) (h2 : Has L c τ) :
    EqUpTo st.raft.raftLog.abs L c := by
  obtain ⟨m', s', l', st', _, b2, b3, _, _, rfl⟩ := hL
  obtain ⟨e1, he1, ht1⟩ := h1
  obtain ⟨e2, he2, ht2⟩ := h2
  exact logs_eq_below H hn b2 hv b3 he1 he2 (ht1.trans ht2.symm)

end M

section
open Node Raft Raft.CC RaftProps.C02 RaftProps.C05 Raft.CB Raft.Bt Cluster

variable {cfg : JointConfig} {c0 : Nat} {h : List Sys}

/-- what is known about the sender of a `MsgAppend` -/
structure AppSrc (h : List Sys) (c0 n : Nat) (m : Message) (L : LLog) (cL : Nat) : Prop where
  ll : LeaderLog h n m.term L
  snap : L.snapIdx = c0
  ents : ∀ e ∈ m.entries, L.entryAt e.index = some e
  contig : ContigFrom (m.index + 1) m.entries
  anchor : L.term m.index = .ok m.logTerm
  last : m.index + m.entries.length ≤ L.lastIndex
  commit : m.commit ≤ cL
  cle : cL ≤ L.lastIndex
  cov : Covered h c0 n cL m.term L
  tnz : m.term ≠ 0

/-- what is known about the sender of a `MsgHeartbeat` -/
structure HbSrc (h : List Sys) (c0 n : Nat) (net : List Message) (m : Message) (L : LLog)
    (cL : Nat) : Prop where
  ll : LeaderLog h n m.term L
  commit : m.commit ≤ cL
  cle : cL ≤ L.lastIndex
  cov : Covered h c0 n cL m.term L
  ack : m.commit = 0 ∨ ∃ x ∈ net, isAck x ∧ x.frm = m.to ∧ x.term = m.term ∧ m.commit ≤ x.index

end

namespace M
open Node Raft Raft.CC RaftProps.C02
open RaftProps.C05
open Raft.CB Raft.Bt
open Cluster hiding At Prov InvL Trans EntriesOf SaneAnchors
open Cluster.M
variable {cfg : JointConfig} {c0 : Nat} {h : List Sys}

/-- **provenance of the (pre-)vote messages** -/
theorem vote_prov (H : Hyp2wB cfg c0 h) : ∀ (n : Nat) (s : Sys), h[n]? = some s →
    (∀ i st, s.node i = some st → ∀ x ∈ st.raft.msgs, isVoteMsg x.msgType = true →
      Gen (VoteGen h) n i x) ∧
    (∀ x ∈ s.net, isVoteMsg x.msgType = true → ∃ i, Gen (VoteGen h) n i x) := by
  refine provenance h H.hist H.steps (fun x => isVoteMsg x.msgType = true) (VoteGen h) ?_
  intro n a b i st st' rnd op res ha hb hi hi' hcall hop hnc hnet x hx hty
  obtain ⟨g, _, _, _⟩ := call_factsB H ha hb hi hi' hnet hop hnc hcall
  rcases g.qvk x hx hty with c | c
  · exact .inl c
  · exact .inr ⟨b, st', hb, hi', c⟩

end M
end ClusterB
end RaftModel
