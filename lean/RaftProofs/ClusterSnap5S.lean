import RaftProofs.ClusterSnap5R

/-!
Commit safety of `ClusterSem` with compaction and snapshots, part 5S: an up-to-date
log holds the committed entry in its ghost log (`upto_has`), and the induction step for **leader
completeness** (`lc_step`).  A log that ends at a snapshot point beyond the common initial one has, as its
last term, the term of the ghost entry at that point, which was an entry of a real log of the past
(`NodeFull.pastL`).
-/
namespace RaftModel
namespace Cluster
namespace Snap5
open Node Raft Raft.CC RaftProps.C02 RaftProps.C05 Snap

variable {q : Prop} {cfg : JointConfig} {c0 : Nat} {h : List Sys}

/-- **an up-to-date log holds the committed entry** (in its ghost log) -/
theorem upto_has (F : Facts3 q cfg c0 h) {n : Nat} (S : SAll h c0 n) {a : Sys} (ha : h[n]? = some a)
    {v : Nat} {st : NState} (hv : a.node v = some st) {E : Ev} (hE : E.ok h) {lt : Nat}
    (hlt : st.raft.raftLog.lastTerm = .ok lt)
    (hup : E.t < lt ∨ (lt = E.t ∧ E.c ≤ st.raft.raftLog.lastIndex)) :
    Has (FL h c0 st) E.c E.t := by
  have F2 := F.toFacts
  have o := F2.node_inv ha hv
  have I := (F2.ghost_inv n a ha).node v st hv
  obtain ⟨_, _, hc0⟩ := F2.leaderLog hE
  obtain ⟨aE, bE, staE, stbE, _, hbE, _, hlbE, hslE, htlE, _⟩ := id hE
  have hleads : leads bE E.l E.t := ⟨stbE, hlbE, hslE, htlE⟩
  rw [o.lastTerm_abs] at hlt
  rw [o.lastIndex_abs] at hup
  by_cases hc : c0 < st.raft.raftLog.abs.lastIndex
  · obtain ⟨e, he, helt⟩ := I.log.lastTerm hlt hc
    subst helt
    obtain ⟨s0, h0, hprov⟩ := F2.fentry_prov
    rcases hprov n a ha v st hv _ e he with hini | hborn
    · have := F2.init_entry_term h0 hini hbE hleads
      omega
    · obtain ⟨m, s, l, stl, hm', hs, hl, hsl, htl, hel, htail⟩ := hborn
      have hm : m ≤ n := hm'
      have Il := (F2.ghost_inv m s hs).node l stl hl
      have heq := F2.flogs_eq_below ha hs hv hl he (Il.log.entry hel) rfl
      have hLl : LeaderLog h c0 n e.term (FL h c0 stl) := ⟨m, s, l, stl, hm, hs, hl, hsl, htl, rfl⟩
      have hreachL := (stl.raft.raftLog.abs.entryAt_lt hel)
      rcases hup with c | ⟨c1, c2⟩
      · have hLh := (S m s hm hs).lc E hE l stl hl hsl (by rw [htl]; exact c)
        obtain ⟨ec, hec, hect⟩ := id hLh
        have hle : E.c ≤ st.raft.raftLog.abs.lastIndex := by
          apply Classical.byContradiction
          intro hnle
          rw [Il.log.ents E.c (by omega)] at hec
          have := htail E.c ec hec (by omega)
          omega
        exact Has.of_eq (heq E.c hle) hLh
      · have hLh : Has (FL h c0 stl) E.c E.t :=
          ll_has F2 S (by rw [← c1]; exact hLl) hE (Nat.le_refl _)
            (fun _ => by rw [Il.log.last]; omega)
        exact Has.of_eq (heq E.c c2) hLh
  · -- an empty log at the common snapshot point: its last term is below every led term
    exfalso
    rcases st.raft.raftLog.abs.lastTerm_cases with ⟨_, e, he, _⟩ | ⟨c1, c2⟩
    · have := st.raft.raftLog.abs.entryAt_lt he
      have := I.log.le
      omega
    · have hst := c2 lt hlt
      have hsi : st.raft.raftLog.abs.snapIdx = c0 := by
        have := I.log.le
        omega
      obtain ⟨s0, h0, _⟩ := F2.fentry_prov
      have hex : ∃ st0, s0.node E.l = some st0 :=
        node_back_steps ((hist_all F.hist).2.2 0 (E.nE + 1) s0 bE (Nat.zero_le _) h0 hbE) E.l stbE
          hlbE
      obtain ⟨st0, hl0⟩ := hex
      have h1 := F.snapt a (mem_of_get ha) v st hv hsi lt hst s0 h0 E.l st0 hl0
      have h2 := F2.lead_above_init h0 hl0 hbE hleads
      omega

theorem lc_step (F : Facts3 q cfg c0 h) {n : Nat} (S : SAll h c0 n) {a b : Sys}
    (ha : h[n]? = some a) (hb : h[n + 1]? = some b) :
    ∀ E : Ev, E.ok h → ∀ l st', b.node l = some st' → st'.raft.state = .leader →
      E.t < st'.raft.term → Has (FL h c0 st') E.c E.t := by
  intro E hE l st' hlb hlead hEt
  have F2 := F.toFacts
  have Sa := S n a (Nat.le_refl _) ha
  obtain ⟨k, stk, stk', hka, hkb, hoth, hs⟩ := F2.stp ha hb
  by_cases hlk : l = k
  · subst hlk
    have hkb' := hkb
    rw [hkb] at hlb; cases hlb
    cases hs with
    | restart c rnd hboot hnet _ =>
      rw [(CV.boot_booted c _ rnd st' hboot).state] at hlead; cases hlead
    | snap rnd m hm hto hty hpn hout hnet =>
      cases hout with
      | skip hr =>
        rw [FL_same (st := stk) (by rw [hr])]
        exact Sa.lc E hE l stk hka (by rw [hr] at hlead; exact hlead) (by rw [hr] at hEt; exact hEt)
      | handled x hsf => rw [hsf] at hlead; cases hlead
    | psnap rnd hp hout hpend hnet =>
      obtain ⟨_, p2, p3⟩ := persist_same hout
      rw [FL_same (persist_abs hout)]
      exact Sa.lc E hE l stk hka (by rw [← p3]; exact hlead) (by rw [← p2]; exact hEt)
    | send hp hu hq hsame hnet _ =>
      rw [FL_same (st := stk) (by rw [hsame.1])]
      exact Sa.lc E hE l stk hka (by rw [← hsame.2.2]; exact hlead) (by rw [← hsame.2.1]; exact hEt)
    | call rnd op res hop hnc hca hns hpn hss hcall hnet _ _ =>
      have hL := (F2.call_out ha hb hka hkb hnet hop hnc hns hpn hcall).rt
      have hcs := F2.fcall_step ha hb hka hkb' hnet hop hnc hns hpn hcall
      have keepHas : Has (FL h c0 stk) E.c E.t → Has (FL h c0 st') E.c E.t := by
        intro hh
        cases hcs with
        | same hl _ => exact Has.of_eq (hl _) hh
        | grew es hg hl _ =>
          refine Has.of_eq (hl _ ?_) hh
          obtain ⟨e, he, _⟩ := hh
          rw [← fl_last F2 ha hka]; exact ((FL h c0 stk).entryAt_lt he).2
        | acc m _ _ _ _ _ _ _ hsf _ => rw [hsf] at hlead; cases hlead
      have hall := hist_all F.hist
      have I1a := hall.1 a (mem_of_get ha)
      have I1b := hall.1 b (mem_of_get hb)
      have I2b := hall.2.1 cfg F.fix b (mem_of_get hb)
      obtain ⟨Q1, hQ1, hq1⟩ := I2b.lead l st' hkb' hlead
      -- the new leader's own vote request for its term is in the transport
      have hreq : ∃ q ∈ a.net, q.msgType = .msgRequestVote ∧ q.frm = l ∧ q.term = st'.raft.term := by
        obtain ⟨j, hj, hjl⟩ := F.nolone l Q1 hQ1
        rcases hq1 j hj with c | ⟨g, hg, g1, g2, g3, g4, g5⟩
        · exact absurd c hjl
        · have hrv : CV.isRVm g = true := by simp [CV.isRVm, g1, g2]
          obtain ⟨stj, _, hok, _⟩ := I1b.net g hg hrv
          obtain ⟨q, hq, q1, q2, q3⟩ := hok.2.2.2.2 g1
          rw [hnet] at hq
          exact ⟨q, hq, q1, by rw [q2, g4], by rw [q3, g5]⟩
      obtain ⟨q0, hq0, q0ty, q0frm, q0term⟩ := hreq
      have hq0le := F2.req_term_le ha hka (.inl hq0) q0ty q0frm
      rcases hL.lead hlead with c | ⟨c1, c2⟩
      · omega
      rcases c2 with c2 | c2
      · -- the candidate of term `T` wins the election in this step
        obtain ⟨aE, bE, staE, stbE, haE, hbE, hlaE, hlbE, hslE, htlE, _, _, _, _, _, hc0, _, _, Q2, hQ2,
            hq2⟩ :=
          F2.ev_facts hE
        obtain ⟨v, _, hv1, hv2⟩ := joint_quorums_intersect cfg Q1 Q2 (.inl F.ne) hQ1 hQ2
        -- the voter `v` is bound to the term
        have hfloor : ∃ stv, a.node v = some stv ∧ FloorAt a v st'.raft.term := by
          rcases hq1 v hv1 with c | ⟨g, hg, g1, g2, g3, g4, g5⟩
          · subst c
            refine ⟨stk, hka, fun st2 h2 => ?_⟩
            rw [hka] at h2; cases h2
            have hrv : CV.isRVm q0 = true := by simp [CV.isRVm, q0ty]
            obtain ⟨stq, h1, _, hges⟩ := I1a.net q0 hq0 hrv
            rw [q0frm, hka] at h1; cases h1
            refine ⟨Nat.le_of_eq c1.symm, ?_⟩
            rcases hges with d | ⟨d, _⟩ <;> omega
          · rw [hnet] at hg
            have hrv : CV.isRVm g = true := by simp [CV.isRVm, g1, g2]
            obtain ⟨stv, h1, hok, hges⟩ := I1a.net g hg hrv
            rw [g3] at h1
            refine ⟨stv, h1, fun st2 h2 => ?_⟩
            rw [h1] at h2; cases h2
            constructor
            · rcases hok.2.2.2.1 with d | ⟨d, _⟩ <;> omega
            · rcases hges with d | ⟨d, _⟩ <;> omega
        obtain ⟨stv, hva, hfl⟩ := hfloor
        -- `v` has acknowledged the event by now
        have hacked : AckedMem a n E v stv := by
          rcases hq2 v hv2 with ⟨c1', c2'⟩ | ⟨x, hx, hack, hxf, hxt, hxi⟩
          · right
            refine ⟨c1', ?_, c2'⟩
            apply Classical.byContradiction
            intro hnlt
            have hsteps := hall.2.2 n (E.nE + 1) a bE (by omega) ha hbE
            have := (hfl.steps hsteps) stbE (by rw [c1']; exact hlbE)
            omega
          · have hx0 : x.index ≠ 0 := by omega
            have hxt' : x.term = E.t := by
              rcases hxt with d | d
              · exact d
              · exact absurd d ((F2.ack_inv E.nE aE haE).2 x hx hack hx0).2
            left
            rcases Nat.le_total E.nE n with hle | hle
            · exact ⟨x, .inl (steps_net (hall.2.2 E.nE n aE a hle haE ha) x hx), hack, hxf, hxt', hxi⟩
            · obtain ⟨d, hd⟩ := Nat.exists_eq_add_of_le hle
              rw [hd] at haE
              have := F2.ack_fwd hack hx0 hxf (by rw [hxt']; exact hEt) d n a aE ha haE hfl (.inl hx)
              rcases this with c | ⟨st2, h2, c⟩
              · exact ⟨x, .inl c, hack, hxf, hxt', hxi⟩
              · rw [hva] at h2; cases h2
                exact ⟨x, .inr c, hack, hxf, hxt', hxi⟩
        by_cases hvl : v = l
        · subst hvl
          rw [hka] at hva; cases hva
          exact keepHas (Sa.retm E hE v stk hka hacked)
        · -- a granted vote of `v`
          rcases hq1 v hv1 with c | ⟨g, hg, g1, g2, g3, g4, g5⟩
          · exact absurd c hvl
          · rw [hnet] at hg
            have hnl : ¬ LedBy h n g.term := by
              rintro ⟨m', s', l'', hm'le, hs', hl''⟩
              obtain ⟨stl, h1, h2, h3⟩ := id hl''
              obtain ⟨d, hd⟩ := Nat.exists_eq_add_of_le hm'le
              have hb' : h[m' + (d + 1)]? = some b := by rw [← hb]; congr 1; omega
              have := (F2.leader_log_ext hs' hb' h1 hkb' h2 hlead h3 g5.symm).1
              subst this
              have ha' : h[m' + d]? = some a := by rw [← hd]; exact ha
              exact led_not_cand F2 hs' hl'' d a ha' stk hka ⟨c2, by rw [c1, g5]⟩
            obtain ⟨q, hq, q1, q2, q3, hup⟩ :=
              Sa.g1 E hE v stv g hva (.inl hg) ⟨g1, g2⟩ g3 (by rw [g5]; exact hEt) hacked hnl
            have hri := F2.req_inv n a ha l stk hka c2 q (.inl hq) q1 (by rw [q2, g4])
              (by rw [q3, g5, c1])
            refine keepHas (upto_has F S ha hka hE hri.2 ?_)
            rcases hup with d | ⟨d1, d2⟩
            · exact .inl d
            · exact .inr ⟨d1, by rw [← hri.1]; exact d2⟩
      · exact keepHas (Sa.lc E hE l stk hka c2 (by rw [c1]; exact hEt))
  · have hla : a.node l = some st' := by rw [← hoth l hlk]; exact hlb
    exact Sa.lc E hE l st' hla hlead hEt


end Snap5
end Cluster
end RaftModel
