import RaftProofs.RaftLog
import RaftProofs.Storage

/-!
The reads of `RaftLog` under the representation invariant: the logical range `abs.range lo hi` in
terms of the stored and the unstable entries, and `slice` inside the log as one equation
(`RaftLog.Inv.slice_eq`).  What the property files say about `slice`, `entries` and
`next_entries_since` (C14b, C07, C20b) is read off that equation.
-/
namespace RaftModel

/-! ### `limit_size`: the two-phase argument -/

/-- if the `take_while` of `limit_size` stops inside `a`, what follows `a` is irrelevant -/
theorem limitCount_append_early (m : Nat) (a b : List Entry) :
    ∀ size, limitCount m size a < a.length → limitCount m size (a ++ b) = limitCount m size a := by
  induction a with
  | nil => intro size h; simp at h
  | cons e es ih =>
    intro size h
    simp only [List.cons_append, limitCount] at h ⊢
    by_cases h0 : size = 0
    · simp only [h0, if_true] at h ⊢
      rw [ih _ (by simp only [List.length_cons] at h; omega)]
    · simp only [h0, if_false] at h ⊢
      by_cases hle : size + e.computeSize ≤ m
      · simp only [hle, if_true] at h ⊢
        rw [ih _ (by simp only [List.length_cons] at h; omega)]
      · simp only [hle, if_false]

/-- phase one cut something off: phase two (on the concatenation) returns the same -/
theorem limitSize_append_early (a b : List Entry) (mx : Option Nat)
    (h : (limitSize a mx).length < a.length) : limitSize (a ++ b) mx = limitSize a mx := by
  unfold limitSize at h ⊢
  by_cases h1 : a.length ≤ 1
  · rw [if_pos h1] at h; omega
  · rw [if_neg h1] at h ⊢
    rw [if_neg (by rw [List.length_append]; omega)]
    cases mx with
    | none => simp at h
    | some m =>
      simp only [] at h ⊢
      by_cases hm : m = NO_LIMIT
      · rw [if_pos hm] at h; omega
      · rw [if_neg hm] at h
        rw [if_neg hm, if_neg hm]
        have hle := limitCount_le m 0 a
        rw [List.length_take] at h
        rw [limitCount_append_early m a b 0 (by omega), List.take_append_of_le_length hle]

/-- phase one cut nothing off -/
theorem limitSize_full (a : List Entry) (mx : Option Nat)
    (h : ¬ (limitSize a mx).length < a.length) : limitSize a mx = a := by
  obtain ⟨k, hk⟩ := (limitSize_spec a mx).1
  rw [hk] at h ⊢
  rw [List.length_take] at h
  exact List.take_of_length_le (by omega)

/-! ### the logical range -/

/-- storage part followed by unstable part of a range, as lists -/
theorem range_split (E U : List Entry) (d p n : Nat) (hd : d ≤ E.length) (hp : p ≤ d) :
    ((E.take d ++ U).drop p).take n =
      (E.drop p).take (min n (d - p)) ++ U.take (n - (d - p)) := by
  have hlen : ((E.drop p).take (d - p)).length = d - p := by
    rw [List.length_take, List.length_drop]
    exact Nat.min_eq_left (Nat.sub_le_sub_right hd p)
  have h0 : p - (E.take d).length = 0 := by
    rw [List.length_take, Nat.min_eq_left hd]
    exact Nat.sub_eq_zero_of_le hp
  rw [List.drop_append, h0, List.drop_zero, List.drop_take, List.take_append, hlen, List.take_take]

/-- the unstable part of a range, as lists: dropping past the storage part -/
theorem range_unstable (S U : List Entry) (q n : Nat) (hq : S.length ≤ q) :
    ((S ++ U).drop q).take n = (U.drop (q - S.length)).take n := by
  rw [List.drop_append, List.drop_of_length_le hq, List.nil_append]

/-- the `k`-th entry of the range `[lo, hi)` is the entry at index `lo + k` -/
theorem LLog.range_getElem? (g : LLog) {lo : Nat} (hi k : Nat) (h : g.firstIndex ≤ lo) :
    (g.range lo hi)[k]? = if k < hi - lo then g.entryAt (lo + k) else none := by
  unfold LLog.range LLog.entryAt LLog.firstIndex at *
  rw [List.getElem?_take]
  by_cases hk : k < hi - lo
  · rw [if_pos hk, if_pos hk, if_neg (by omega), List.getElem?_drop]
    congr 1; omega
  · rw [if_neg hk, if_neg hk]

namespace RaftLog

theorem Inv.first_le_last_succ {l : RaftLog} (h : l.Inv) : l.firstIndex ≤ l.lastIndex + 1 := by
  have := h.last_succ
  have := h.off_ge_first
  omega

theorem Inv.mustCheck_ok {l : RaftLog} (h : l.Inv) (lo hi : Nat) (h1 : l.firstIndex ≤ lo)
    (h2 : lo ≤ hi) (h3 : hi ≤ l.lastIndex + 1) : l.mustCheckOutOfBounds lo hi = .ok none := by
  have := h.first_le_last_succ
  unfold RaftLog.mustCheckOutOfBounds
  rw [if_neg (by omega), if_neg (by omega), if_neg (by omega), if_neg (by omega)]

theorem Inv.unstable_slice_ok {l : RaftLog} (h : l.Inv) (a hi : Nat) (h1 : l.unstable.offset ≤ a)
    (h2 : a ≤ hi) (h3 : hi ≤ l.lastIndex + 1) :
    l.unstable.slice a hi =
      .ok ((l.unstable.entries.drop (a - l.unstable.offset)).take (hi - a)) := by
  have := h.last_succ
  unfold Unstable.slice Unstable.mustCheckOutOfBounds
  rw [if_neg (by omega), if_neg (by omega)]

/-- the logical range `[lo, hi)` split at `unstable.offset` (no pending snapshot, `lo` in storage) -/
theorem Inv.range_store {l : RaftLog} (h : l.Inv) (hs : l.unstable.snapshot = none) (lo hi : Nat)
    (h1 : l.store.firstIndex ≤ lo) (h2 : lo < l.unstable.offset) :
    l.abs.range lo hi =
      (l.store.entries.drop (lo - l.store.firstIndex)).take (min hi l.unstable.offset - lo) ++
        l.unstable.entries.take (hi - l.unstable.offset) := by
  have hp := h.storeWF.first_pos
  have hl := h.storeWF.last_succ
  have hol := h.off_le_last hs
  have hd : l.unstable.offset - l.store.firstIndex ≤ l.store.entries.length := by omega
  rw [RaftLog.abs_none hs]
  show ((l.store.entries.take (l.unstable.offset - l.store.firstIndex) ++ l.unstable.entries).drop
    (lo - (l.store.firstIndex - 1 + 1))).take (hi - lo) = _
  rw [Nat.sub_add_cancel hp, range_split _ _ _ _ _ hd (Nat.sub_le_sub_right (Nat.le_of_lt h2) _),
    Nat.sub_sub_sub_cancel_right h1, Nat.sub_sub_sub_cancel_right (Nat.le_of_lt h2),
    Nat.sub_min_sub_right]

/-- … and when `lo` is at or above `unstable.offset` -/
theorem Inv.range_unst {l : RaftLog} (h : l.Inv) (lo hi : Nat) (h1 : l.unstable.offset ≤ lo) :
    l.abs.range lo hi = (l.unstable.entries.drop (lo - l.unstable.offset)).take (hi - lo) := by
  cases hs : l.unstable.snapshot with
  | none =>
    have hp := h.storeWF.first_pos
    have hfo := h.first_le_off hs
    have htl := h.take_len hs
    rw [RaftLog.abs_none hs]
    simp only [LLog.range, LLog.firstIndex]
    rw [range_unstable _ _ _ _ (by omega)]
    congr 2; omega
  | some sn =>
    have ho := h.unstWF.snap sn hs
    rw [RaftLog.abs_some hs]
    simp only [LLog.range, LLog.firstIndex]
    congr 2; omega

/-- the logical log is numbered consecutively from `first_index` -/
theorem Inv.abs_contig {l : RaftLog} (h : l.Inv) : ContigFrom l.abs.firstIndex l.abs.ents := by
  cases hs : l.unstable.snapshot with
  | none =>
    have hp := h.storeWF.first_pos
    have hfo := h.first_le_off hs
    have htl := h.take_len hs
    rw [RaftLog.abs_none hs]
    simp only [LLog.firstIndex]
    rw [show l.store.firstIndex - 1 + 1 = l.store.firstIndex by omega]
    apply ContigFrom.append (ContigFrom.take h.storeWF.contig _)
    rw [htl, show l.store.firstIndex + (l.unstable.offset - l.store.firstIndex) =
      l.unstable.offset by omega]
    exact h.unstWF.contig
  | some sn =>
    have ho := h.unstWF.snap sn hs
    rw [RaftLog.abs_some hs]
    simp only [LLog.firstIndex]
    rw [← ho]
    exact h.unstWF.contig

/-- the range `[lo, hi)` inside the log has exactly `hi - lo` entries, numbered `lo, lo+1, …` -/
theorem Inv.range_contig {l : RaftLog} (h : l.Inv) (lo hi : Nat) (h1 : l.firstIndex ≤ lo)
    (h2 : lo ≤ hi) (h3 : hi ≤ l.lastIndex + 1) :
    ContigFrom lo (l.abs.range lo hi) ∧ (l.abs.range lo hi).length = hi - lo := by
  have hfi := h.firstIndex_abs
  have hla := h.lastIndex_abs
  constructor
  · unfold LLog.range
    have := (ContigFrom.drop h.abs_contig (lo - l.abs.firstIndex)).take (hi - lo)
    rw [show l.abs.firstIndex + (lo - l.abs.firstIndex) = lo by omega] at this
    exact this
  · unfold LLog.range
    simp only [LLog.lastIndex, LLog.firstIndex] at hla hfi ⊢
    rw [List.length_take, List.length_drop]
    omega

/-! ### `slice` -/

/-- **`slice` inside the log**, `lo ≤ hi ≤ last_index + 1`: `Compacted` below `first_index`;
`LogTemporarilyUnavailable` when the storage is consulted (a non-empty range starting below
`unstable.offset`) with its trigger armed for an async-capable caller; otherwise the size-limited
logical range — the two-phase limit (storage part first, then the concatenation) is the single
`limit_size` of the range. -/
theorem Inv.slice_eq {l : RaftLog} (h : l.Inv) (lo hi : Nat) (mx : Option Nat) (ca : Bool)
    (h2 : lo ≤ hi) (h3 : hi ≤ l.lastIndex + 1) :
    l.slice lo hi mx ca =
      if lo < l.firstIndex then .err .compacted
      else if (l.store.triggerLogUnavailable && ca) = true ∧ lo < hi ∧ lo < l.unstable.offset then
        .err .logTemporarilyUnavailable
      else .ok (limitSize (l.abs.range lo hi) mx) := by
  by_cases h1 : lo < l.firstIndex
  · rw [if_pos h1]
    unfold RaftLog.slice RaftLog.mustCheckOutOfBounds
    rw [if_neg (by omega), if_pos h1]
  rw [if_neg h1]
  have h1 : l.firstIndex ≤ lo := Nat.le_of_not_lt h1
  have hls := h.last_succ
  unfold RaftLog.slice
  rw [h.mustCheck_ok lo hi h1 h2 h3]
  simp only []
  by_cases heq : lo = hi
  · rw [if_pos heq, if_neg (by omega)]; subst heq; simp [LLog.range, limitSize]
  rw [if_neg heq]
  have hlt : lo < hi := by omega
  by_cases hlo : lo < l.unstable.offset
  · -- the range starts in the storage: no snapshot is pending
    have hs : l.unstable.snapshot = none := by
      cases hs : l.unstable.snapshot with
      | none => rfl
      | some sn => have := h.unstWF.snap sn hs; have := firstIndex_some hs; omega
    have hfn := firstIndex_none hs
    have hol := h.off_le_last hs
    have hl := h.storeWF.last_succ
    unfold RaftLog.sliceStore
    rw [if_pos hlo]
    simp only []
    cases hav : (l.store.triggerLogUnavailable && ca) with
    | true =>
      rw [if_pos ⟨rfl, hlt, hlo⟩]
      have he : l.store.entriesQ lo (min hi l.unstable.offset) mx ca =
          .err .logTemporarilyUnavailable := by
        unfold MemStorage.entriesQ
        rw [if_neg (by omega), if_neg (by omega), hav]; rfl
      rw [he]
    | false =>
      rw [if_neg (by simp)]
      have hq := h.storeWF.entriesQ_in (low := lo) (high := min hi l.unstable.offset) mx ca
        (by omega) (by omega) (by omega) hav
      have hrange := h.range_store hs lo hi (by omega) hlo
      have hlen : ((l.store.entries.drop (lo - l.store.firstIndex)).take
          (min hi l.unstable.offset - lo)).length = min hi l.unstable.offset - lo := by
        rw [List.length_take, List.length_drop]; omega
      rw [hq]
      simp only []
      by_cases hearly : (limitSize ((l.store.entries.drop (lo - l.store.firstIndex)).take
          (min hi l.unstable.offset - lo)) mx).length < min hi l.unstable.offset - lo
      · rw [decide_eq_true hearly]
        simp only []
        rw [hrange, limitSize_append_early _ _ _ (by rw [hlen]; exact hearly)]
      · rw [decide_eq_false hearly]
        simp only []
        rw [limitSize_full _ _ (by rw [hlen]; exact hearly)]
        by_cases hoh : l.unstable.offset < hi
        · rw [if_pos hoh, Nat.max_eq_right (by omega),
            h.unstable_slice_ok _ hi (Nat.le_refl _) (by omega) h3]
          simp only [Nat.sub_self, List.drop_zero]
          rw [hrange]
        · rw [if_neg hoh, hrange, show hi - l.unstable.offset = 0 by omega]
          simp
  · rw [if_neg (fun hc => hlo hc.2.2)]
    unfold RaftLog.sliceStore
    rw [if_neg hlo]
    simp only []
    rw [if_pos (by omega), Nat.max_eq_left (by omega), h.unstable_slice_ok lo hi (by omega) h2 h3]
    simp only [List.nil_append]
    rw [h.range_unst lo hi (by omega)]

/-- `slice` with the storage available (the trigger not armed, or a caller that cannot wait) -/
theorem Inv.slice_ok {l : RaftLog} (h : l.Inv) (lo hi : Nat) (mx : Option Nat) (ca : Bool)
    (hav : (l.store.triggerLogUnavailable && ca) = false)
    (h1 : l.firstIndex ≤ lo) (h2 : lo ≤ hi) (h3 : hi ≤ l.lastIndex + 1) :
    l.slice lo hi mx ca = .ok (limitSize (l.abs.range lo hi) mx) := by
  rw [h.slice_eq lo hi mx ca h2 h3, if_neg (by omega), if_neg (by rw [hav]; simp)]

/-- **a non-empty range inside the log, read synchronously**: `slice` returns a non-empty prefix of
the range, each entry the entry of the logical log at its index (context `GenReady` of
`next_entries_since` is never asynchronous, so the storage's trigger is not consulted) -/
theorem Inv.slicePrefix {l : RaftLog} (h : l.Inv) (lo hi : Nat) (mx : Option Nat)
    (h1 : l.firstIndex ≤ lo) (h2 : lo < hi) (h3 : hi ≤ l.lastIndex + 1) :
    ∃ es, l.slice lo hi mx false = .ok es ∧ es ≠ [] ∧ es.length ≤ hi - lo ∧
      ∀ k e, es[k]? = some e → l.abs.entryAt (lo + k) = some e ∧ e.index = lo + k := by
  obtain ⟨hcon, hlen⟩ := h.range_contig lo hi h1 (Nat.le_of_lt h2) h3
  obtain ⟨⟨n, hn⟩, hne, _⟩ := limitSize_spec (l.abs.range lo hi) mx
  refine ⟨_, h.slice_ok lo hi mx false (by simp) h1 (Nat.le_of_lt h2) h3,
    hne (fun hnil => by rw [hnil] at hlen; simp at hlen; omega),
    by rw [hn, List.length_take, hlen]; exact Nat.min_le_right _ _, fun k e hk => ?_⟩
  rw [hn, List.getElem?_take] at hk
  split at hk
  · refine ⟨?_, hcon k e hk⟩
    rw [l.abs.range_getElem? hi k (h.firstIndex_abs ▸ h1)] at hk
    split at hk
    · exact hk
    · cases hk
  · cases hk

/-- **`entries`, as one equation** -/
theorem Inv.entries_eq {l : RaftLog} (h : l.Inv) (idx : Nat) (mx : Option Nat) (ca : Bool) :
    l.entries idx mx ca =
      if l.lastIndex < idx then .ok []
      else if idx < l.firstIndex then .err .compacted
      else if (l.store.triggerLogUnavailable && ca) = true ∧ idx < l.unstable.offset then
        .err .logTemporarilyUnavailable
      else .ok (limitSize (l.abs.range idx (l.lastIndex + 1)) mx) := by
  unfold RaftLog.entries
  by_cases h1 : l.lastIndex < idx
  · rw [if_pos h1, if_pos h1]
  · rw [if_neg h1, if_neg h1, h.slice_eq idx (l.lastIndex + 1) mx ca (by omega) (Nat.le_refl _)]
    by_cases h2 : idx < l.firstIndex
    · rw [if_pos h2, if_pos h2]
    · rw [if_neg h2, if_neg h2]
      have : idx < l.lastIndex + 1 := by omega
      simp only [this, true_and]

/-- a successful `entries idx`: nothing beyond the log, otherwise a size-limited prefix of the range
from `idx` to the end, read within the log -/
theorem Inv.entries_inv {l : RaftLog} (h : l.Inv) {idx : Nat} {mx : Option Nat} {ca : Bool}
    {es : List Entry} (he : l.entries idx mx ca = .ok es) :
    (l.lastIndex < idx ∧ es = []) ∨
    (l.firstIndex ≤ idx ∧ idx ≤ l.lastIndex ∧
      es = limitSize (l.abs.range idx (l.lastIndex + 1)) mx) := by
  rw [h.entries_eq] at he
  by_cases h1 : l.lastIndex < idx
  · rw [if_pos h1] at he; cases he; exact .inl ⟨h1, rfl⟩
  · rw [if_neg h1] at he
    by_cases h2 : idx < l.firstIndex
    · rw [if_pos h2] at he; cases he
    · rw [if_neg h2] at he
      split at he
      · cases he
      · cases he; exact .inr ⟨by omega, by omega, rfl⟩

/-- **what `entries` returns are the log's own entries**, numbered from `idx` -/
theorem Inv.entries_own {l : RaftLog} (h : l.Inv) {idx : Nat} {mx : Option Nat} {ca : Bool}
    {es : List Entry} (he : l.entries idx mx ca = .ok es) :
    ContigFrom idx es ∧ ∀ e ∈ es, l.abs.entryAt e.index = some e := by
  rcases h.entries_inv he with ⟨_, rfl⟩ | ⟨h1, h2, rfl⟩
  · exact ⟨fun _ _ hk => (by cases hk), fun _ hm => (by cases hm)⟩
  · obtain ⟨hc, _⟩ := h.range_contig idx (l.lastIndex + 1) h1 (by omega) (Nat.le_refl _)
    obtain ⟨n, hn⟩ := (limitSize_spec (l.abs.range idx (l.lastIndex + 1)) mx).1
    rw [hn]
    refine ⟨hc.take n, fun e hm => ?_⟩
    obtain ⟨k, hk⟩ := List.mem_iff_getElem?.1 (List.mem_of_mem_take hm)
    have hi := hc k e hk
    rw [l.abs.range_getElem? _ k (by rw [← h.firstIndex_abs]; exact h1)] at hk
    split at hk
    · rw [hi]; exact hk
    · cases hk

/-- `entries idx` answers with entries only from the first index on -/
theorem Inv.entries_first_le {l : RaftLog} (h : l.Inv) {idx : Nat} {mx : Option Nat} {ca : Bool}
    {es : List Entry} (he : l.entries idx mx ca = .ok es) : l.abs.snapIdx < idx := by
  have hf := h.firstIndex_abs
  have hl := h.first_le_last_succ
  simp only [LLog.firstIndex] at hf
  rcases h.entries_inv he with ⟨h1, _⟩ | ⟨h1, _, _⟩ <;> omega

end RaftLog
end RaftModel
