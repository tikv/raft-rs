import RaftProofs.ProtoCDefs

/-!
**Leader Completeness** — the core argument and its preservation.

`lc_core` (`lc_core_bound` with a bound on the terms of the entries of `E` as a parameter): let `(t0, c)` be backed by a quorum of released acknowledgements (term `t0`, index ≥ `c`,
entry `c` of the log of the leader of `t0` is of term `t0`), let `E` be a log whose holder gathered
a quorum of grant records of term `t > t0` (decided before `t` had a leader, against the tail of
`E`), and let every leader of a term strictly between `t0` and `t` hold the first `c` entries of the
log of the leader of `t0`.  Then `E` holds them too.  (Quorum intersection gives a voter that
acknowledged and granted; its recorded log retains the prefix (`InvC2.rgr`); the up-to-date rule
and the shape of prefix-from-leader logs do the rest.)
-/
namespace RaftModel.P

theorem termAt_some {l : List LEntry} {k : Nat} (h0 : 0 < k) (hk : k ≤ l.length) :
    ∃ x, l[k - 1]? = some x ∧ termAt l k = x.term := by
  have hlt : k - 1 < l.length := by omega
  refine ⟨l[k - 1], List.getElem?_eq_getElem hlt, ?_⟩
  unfold termAt
  rw [if_neg (by omega), List.getElem?_eq_getElem hlt]

/-- the core argument, with a bound `T` on the terms of the entries of `E`: the leaders of the terms
in `(t0, t)` hold the acknowledged prefix (for the voter's recorded log), and so do those up to `T`
(for the leader of the last term of `E`) -/
theorem lc_core_bound (cp ce : Cfg) (hadj : adjOk cp ce = true) (s : PSys) (hL : InvL s) (hA : InvA s)
    (hll : ∀ t, ∃ r, s.llog t = s.elog t ++ r ∧ (∀ e ∈ r, e.term = t) ∧ (∀ e ∈ s.elog t, e.term < t))
    (h2 : InvC2 s)
    (t0 c : Nat) (hc : 0 < c) (hlen : c ≤ (s.llog t0).length) (hterm : termAt (s.llog t0) c = t0)
    (q : List Nat) (hq : cp.isQuorum q = true)
    (hacks : ∀ v ∈ q, ∃ a ∈ s.acks, a.term = t0 ∧ a.frm = v ∧ c ≤ a.idx)
    (t : Nat) (ht : t0 < t) (j : Nat) (E : List LEntry) (hE : PFL s.llog E)
    (T : Nat) (hEt : ∀ e ∈ E, e.term ≤ T)
    (Q : List Nat) (hQ : ce.isQuorum Q = true)
    (hgr : ∀ v ∈ Q, ∃ gh, ((⟨t, v, j⟩ : Grant), gh) ∈ s.rgv ∧ gh.early = true ∧
        upToDate (lastTerm E) E.length gh.vlog = true)
    (hlt : NClt s t0 c t) (hnc : NCle s t0 c T) : E.take c = (s.llog t0).take c := by
  obtain ⟨w, hw1, hw2⟩ := adj_intersect cp ce hadj q Q hq hQ
  obtain ⟨a, ha, hat, haf, hai⟩ := hacks w hw1
  obtain ⟨gh, hgh, hearly, hup⟩ := hgr w hw2
  have hsub := hA.sub a ha
  rw [haf, hat] at hsub
  -- the voter's recorded log retains the acknowledged prefix
  have hV : gh.vlog.take c = (s.llog t0).take c :=
    h2.rgr (⟨t, w, j⟩, gh) hgh hearly t0 w a.idx a.pre (Or.inr (Or.inr hsub)) ht c hai hlt
  have hVp : PFL s.llog gh.vlog :=
    hL.pfl _ (Or.inr (Or.inr (Or.inr (Or.inr (Or.inl ⟨(⟨t, w, j⟩, gh), hgh, rfl⟩)))))
  have hcV : c ≤ gh.vlog.length := len_of_take_eq hV hlen
  -- the voter's last term is at least t0
  have hVt : termAt gh.vlog c = t0 := by rw [termAt_of_take_eq hV (Nat.le_refl _)]; exact hterm
  obtain ⟨x, hx, hxt⟩ := termAt_some hc hcV
  have hVlast : t0 ≤ lastTerm gh.vlog := by
    rw [lastTerm_eq_termAt]
    obtain ⟨y, hy, hyt⟩ := termAt_some (show 0 < gh.vlog.length by omega) (Nat.le_refl _)
    rw [hyt, ← hVt, hxt]
    exact pfl_sorted hll hVp (by omega) hx hy
  have ht0pos : 1 ≤ t0 := by
    obtain ⟨z, hz, hzt⟩ := termAt_some hc hlen
    rw [← hterm, hzt]
    exact (hL.lterm t0 z (List.mem_of_getElem? hz)).1
  -- the up-to-date rule
  simp only [upToDate, Bool.or_eq_true, Bool.and_eq_true, decide_eq_true_eq] at hup
  have hT : t0 ≤ lastTerm E := by rcases hup with h | ⟨h, _⟩ <;> omega
  have hEne : E ≠ [] := by
    intro he; rw [he] at hT; simp [lastTerm] at hT; omega
  have hElast := pfl_last hE hEne
  by_cases hTe : lastTerm E = t0
  · -- same last term: E is at least as long as the voter's log
    have hlenE : c ≤ E.length := by rcases hup with h | ⟨_, h⟩ <;> omega
    rw [hTe] at hElast
    rw [hElast, List.take_take, Nat.min_eq_left hlenE]
  · have hTgt : t0 < lastTerm E := by omega
    have hEpos : 0 < E.length := List.length_pos_iff.mpr hEne
    obtain ⟨y, hy, hyt⟩ := termAt_some hEpos (Nat.le_refl _)
    rw [← lastTerm_eq_termAt] at hyt
    have hyE : y ∈ E := List.mem_of_getElem? hy
    have hTle : lastTerm E ≤ T := by rw [hyt]; exact hEt y hyE
    have hel : Elected s (lastTerm E) := by
      apply Classical.byContradiction
      intro hno
      have : s.llog (lastTerm E) = [] := hL.nole _ (fun j hj => hno ⟨j, hj⟩)
      rw [this] at hElast
      simp at hElast
      exact hEne hElast
    have hncT := hnc (lastTerm E) hTgt hTle hel
    have hlenE : c ≤ E.length := by
      apply Classical.byContradiction
      intro hlt
      have hk : E.length - 1 < c := by omega
      have h1 : (s.llog (lastTerm E))[E.length - 1]? = some y := by
        have : (E.take E.length)[E.length - 1]? = ((s.llog (lastTerm E)).take E.length)[E.length - 1]? := by
          rw [List.take_length]; rw [← hElast]
        rw [List.take_length, hy, List.getElem?_take] at this
        simp only [show E.length - 1 < E.length by omega, if_true] at this
        exact this.symm
      have h2' := getElem?_of_take_eq hncT hk
      rw [h1] at h2'
      have := (hL.lterm t0 y (List.mem_of_getElem? h2'.symm)).2
      omega
    rw [hElast, List.take_take, Nat.min_eq_left hlenE]; exact hncT

theorem lc_core (cp ce : Cfg) (hadj : adjOk cp ce = true) (s : PSys) (hL : InvL s) (hA : InvA s)
    (hll : ∀ t, ∃ r, s.llog t = s.elog t ++ r ∧ (∀ e ∈ r, e.term = t) ∧ (∀ e ∈ s.elog t, e.term < t))
    (h2 : InvC2 s)
    (t0 c : Nat) (hc : 0 < c) (hlen : c ≤ (s.llog t0).length) (hterm : termAt (s.llog t0) c = t0)
    (q : List Nat) (hq : cp.isQuorum q = true)
    (hacks : ∀ v ∈ q, ∃ a ∈ s.acks, a.term = t0 ∧ a.frm = v ∧ c ≤ a.idx)
    (t : Nat) (ht : t0 < t) (j : Nat) (E : List LEntry) (hE : PFL s.llog E) (hEt : ∀ e ∈ E, e.term < t)
    (Q : List Nat) (hQ : ce.isQuorum Q = true)
    (hgr : ∀ v ∈ Q, ∃ gh, ((⟨t, v, j⟩ : Grant), gh) ∈ s.rgv ∧ gh.early = true ∧
        upToDate (lastTerm E) E.length gh.vlog = true)
    (hnc : NClt s t0 c t) : E.take c = (s.llog t0).take c :=
  lc_core_bound cp ce hadj s hL hA hll h2 t0 c hc hlen hterm q hq hacks t ht j E hE (t - 1)
    (fun e he => Nat.le_sub_one_of_lt (hEt e he)) Q hQ hgr hnc
    (fun t' h1 h2 h3 => hnc t' h1 (by omega) h3)

/-- **Leader Completeness** for the recorded leader commits, in any state that satisfies the shape of
the ghost logs, the election records, the retention of acknowledged prefixes in the voters' recorded
logs and the quorum evidence of the commits: by induction on the later leader's term.  For a commit
and an election decided under configurations whose quorums meet (`adjOk`: equal configurations,
consecutive configurations of a membership change) this is the classical argument (`lc_core`); for
any other pair P's guards have validated the conclusion when the later of the two events happened
(`InvC3.gd`). -/
theorem invLC_of (s : PSys) (hL : InvL s) (hA : InvA s)
    (hB : InvB s) (h2 : InvC2 s) (h3 : InvC3 s) : InvLC s := by
  intro p hp t
  induction t using Nat.strongRecOn with
  | _ t ih =>
    intro hlt hel
    obtain ⟨hc, hlen, hterm, _, cp, q, hcp, hq, hacks⟩ := h3.cq p hp
    obtain ⟨j, hj⟩ := hel
    obtain ⟨ce, Q, hce, hQ, hgr⟩ := hB.eq (t, j) hj
    rcases h3.gd (p, cp) hcp (t, ce) hce hlt with hadj | hdirect
    · have hnc : NClt s p.1 p.2 t := by
        intro t' h1 h2' h3'
        have := ih t' h2' h1 h3'
        obtain ⟨r, hr, _, _⟩ := hB.ll t'
        rw [hr, List.take_append_of_le_length (len_of_take_eq this hlen)]; exact this
      exact lc_core cp ce hadj s hL hA hB.ll h2 p.1 p.2 hc hlen hterm q hq hacks t hlt j (s.elog t)
        (hL.pfl _ (Or.inr (Or.inr (Or.inr (Or.inr (Or.inr ⟨t, rfl⟩))))))
        (by obtain ⟨r, _, _, h⟩ := hB.ll t; exact h) Q hQ hgr hnc
    · exact hdirect

end RaftModel.P
