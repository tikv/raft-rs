import RaftProofs.ClusterBatchK
import RaftProofs.ClusterStretch

/-!
Leader Append-Only along a history.

* `Extends g g'`, `NodeRel a b`: what one contract-abiding step does to the log of a node that it does not
  restart.  A call gives it from the log half of its effect (`NodeRel.of_eff`).
* `nodeRel_of_cstep_x`: one step of `ClusterSem`, one node (`Moved.rel_or_restart`), from the two
  facts the argument uses of the Log Matching invariant (every log satisfies `RaftLog.Inv`, every transported
  `MsgAppend` is well formed) and whatever gives the proviso `ProvX` of `call_lstep_x`; `cstep_nodeRel` (batching
  off: the proviso is void), `nodeRel_of_cstep` (the proviso from `InvB`) and `cstep_nodeRel_batch` are its
  instances.
* `NodeRels h`: every step of the history relates the states of every node by `NodeRel` unless it restarts it;
  `NodeRels.rt_path` (role / term transitions compose along a stretch without restart) and
  `NodeRels.leader_extends` (a leader's log only grows while it leads) are `hist_stretch` of
  `RaftProofs/ClusterStretch.lean` for `RT` and for `PathRel`.
-/
namespace RaftProps.C05
open RaftModel RaftModel.Cluster RaftModel.Node RaftModel.Raft RaftModel.Raft.Bt RaftProps.C02

/-- the later log extends the earlier one: the last index does not decrease, no entry appears at an
old index, and every old entry at an index the later log still retains is unchanged -/
structure Extends (g g' : LLog) : Prop where
  last : g.lastIndex ≤ g'.lastIndex
  old : ∀ k e', g'.entryAt k = some e' → k ≤ g.lastIndex → g.entryAt k = some e'
  kept : ∀ k e, g.entryAt k = some e → g'.snapIdx < k → g'.entryAt k = some e

theorem Extends.rfl (g : LLog) : Extends g g :=
  ⟨Nat.le_refl _, fun _ _ h _ => h, fun _ _ h _ => h⟩

theorem Extends.trans {a b c : LLog} (h1 : Extends a b) (h2 : Extends b c) : Extends a c := by
  refine ⟨Nat.le_trans h1.last h2.last, fun k e' he hk => ?_, fun k e he hk => ?_⟩
  · exact h1.old k e' (h2.old k e' he (by have := h1.last; omega)) hk
  · have hka := (a.entryAt_lt he).2
    by_cases hb : b.snapIdx < k
    · exact h2.kept k e (h1.kept k e he hb) hk
    · -- compacted in between: it cannot come back
      obtain ⟨e2, he2⟩ := c.entryAt_exists hk (by have := h1.last; have := h2.last; omega)
      have hbl : b.snapIdx ≤ b.lastIndex := by unfold LLog.lastIndex; omega
      have := h2.old k e2 he2 (by omega)
      have := (b.entryAt_lt this).1
      omega

/-- what one contract-abiding step does to node `i` (unless it restarts it): role / term transitions
`RT`, a leader that stays leader of its term only appends, and what a leader holds beyond its
previous last index carries its term -/
structure NodeRel (a b : NState) : Prop where
  rt : RT a.raft b.raft
  ext : a.raft.state = .leader → b.raft.state = .leader → b.raft.term = a.raft.term →
    Extends a.raft.raftLog.abs b.raft.raftLog.abs
  own : b.raft.state = .leader → ∀ k e, b.raft.raftLog.abs.entryAt k = some e →
    a.raft.raftLog.abs.lastIndex < k → e.term = b.raft.term

theorem NodeRel.rfl (a : NState) : NodeRel a a :=
  ⟨RT.rfl, fun _ _ _ => Extends.rfl _, fun _ k e he hk => by
    have := (a.raft.raftLog.abs.entryAt_lt he).2; omega⟩

/-- **a call**: `NodeRel` from the role / term transitions and the log half of the effect -/
theorem NodeRel.of_eff {a b : NState} {m : Message} (hinv : a.raft.raftLog.Inv)
    (rt : RT a.raft b.raft) (inv' : b.raft.raftLog.Inv)
    (log : Sub b.raft.raftLog.abs a.raft.raftLog.abs ∨ Grew a.raft b.raft ∨
      (m.msgType = .msgAppend ∧ b.raft.state ≠ .leader ∧
        DerivedFrom (fun g => g = a.raft.raftLog.abs ∨ g = msgLog m) b.raft.raftLog.abs))
    (keep : a.raft.state = .leader → b.raft.state = .leader → b.raft.term = a.raft.term →
      a.raft.raftLog.lastIndex ≤ b.raft.raftLog.lastIndex ∧
      ∀ i e, a.raft.raftLog.abs.entryAt i = some e → b.raft.raftLog.abs.snapIdx < i →
        b.raft.raftLog.abs.entryAt i = some e) : NodeRel a b := by
  have hla := hinv.lastIndex_abs
  have hlb := inv'.lastIndex_abs
  refine ⟨rt, fun h1 h2 h3 => ?_, fun h1 k e he hk => ?_⟩
  · obtain ⟨k1, k2⟩ := keep h1 h2 h3
    refine ⟨by rw [← hla, ← hlb]; exact k1, fun k e' he hk => ?_, k2⟩
    rcases log with c | ⟨es, c⟩ | ⟨_, c, _⟩
    · exact (c k e' he).1
    · rw [c.abs] at he
      rw [(LLog.append_old_link _ es k hk).1] at he
      exact he
    · exact absurd h2 c
  · rcases log with c | ⟨es, c⟩ | ⟨_, c, _⟩
    · have := (a.raft.raftLog.abs.entryAt_lt (c k e he).1).2; omega
    · rw [c.abs, LLog.append_entryAt_new _ _ _ hk] at he
      exact c.terms e (List.mem_of_getElem? he)
    · exact absurd h1 c

theorem nodeRel_of_lstepx {a b : NState} {m : Message} (hinv : a.raft.raftLog.Inv)
    (h : LStepX a.raft b.raft m) : NodeRel a b :=
  .of_eff hinv h.rt h.eff.inv h.eff.log h.eff.keep

/-- **one step, one node**: the node is restarted by the step, or `NodeRel` holds — from `RaftLog.Inv` on
every log, `MsgOk` on the transport, and whatever gives the proviso of the per-call layer for the node that moves -/
theorem nodeRel_of_cstep_x {a b : Sys}
    (hinv : ∀ i st, a.node i = some st → st.raft.raftLog.Inv)
    (hok : ∀ m ∈ a.net, m.msgType = .msgAppend → MsgOk m)
    (hprov : ∀ i st st', a.node i = some st → b.node i = some st' → b.net = a.net →
      RT st.raft st'.raft → ProvX st.raft st'.raft)
    (hstep : CStep a b) (i : Nat) (sta stb : NState)
    (ha : a.node i = some sta) (hb : b.node i = some stb) :
    NodeRel sta stb ∨ IsRestart i a b := by
  obtain ⟨k, st, st', M⟩ := hstep.moved
  refine M.rel_or_restart ha hb (NodeRel.rfl _)
    ⟨RT.rfl.ts rfl rfl, fun _ _ _ => Extends.rfl _, fun _ j e he hj => ?_⟩ ?_
  · have := (st.raft.raftLog.abs.entryAt_lt he).2; omega
  · intro rnd op res hs' hop hc h
    have hop' := not_drain_of_hop hop
    have hw : ∀ m, op = .step m → m.msgType = .msgAppend → MsgOk m := by
      intro m hm hty
      rcases hop with h1 | ⟨m', h1, h2, _⟩
      · rw [hm] at h1; cases h1
      · rw [hm] at h1; cases h1
        exact hok m h2 hty
    have hinvk := hinv k st M.hk
    have rt := call_rt st st' rnd op res hinvk hop' h
    have hcl := hprov k st st' M.hk (by rw [hs']; exact node_setNode_self a k st') (by rw [hs']; rfl) rt
    exact nodeRel_of_lstepx hinvk (call_lstep_x st st' rnd op res hinvk hcl hop' hw hc h)

/-- **one step, one node**, batching off -/
theorem cstep_nodeRel {own : Nat → Nat → Prop} {ini : Entry → Prop} {a b : Sys}
    (I : InvL own ini a) (hnb : NoBatch a) (hstep : CStep a b) (i : Nat) (sta stb : NState)
    (ha : a.node i = some sta) (hb : b.node i = some stb) :
    NodeRel sta stb ∨ IsRestart i a b :=
  nodeRel_of_cstep_x I.inv (fun _ => I.msgOk)
    (fun j st _ hj _ _ _ c => by rw [hnb j st hj] at c; cases c) hstep i sta stb ha hb

/-- **one step, one node**, batching allowed: from `RaftLog.Inv` on every log and `MsgOk` on the transport -/
theorem nodeRel_of_cstep {cfg : JointConfig} (hnd1 : cfg.incoming.Nodup)
    (hnd2 : cfg.outgoing.Nodup) (hmv : MultiVoter cfg) {a b : Sys}
    (hinv : ∀ i st, a.node i = some st → st.raft.raftLog.Inv)
    (hok : ∀ m ∈ a.net, m.msgType = .msgAppend → MsgOk m)
    (B : InvB a) (I1 : Inv1 a) (I1' : Inv1 b) (I2' : Inv2 cfg b)
    (hstep : CStep a b) (i : Nat) (sta stb : NState)
    (ha : a.node i = some sta) (hb : b.node i = some stb) :
    NodeRel sta stb ∨ IsRestart i a b :=
  nodeRel_of_cstep_x hinv hok
    (fun _ _ _ hj hj' hn rt _ => (prov0_of_inv hnd1 hnd2 hmv B I1 I1' I2' hj hj' hn rt).2)
    hstep i sta stb ha hb

/-- … from the Log Matching invariant -/
theorem cstep_nodeRel_batch {cfg : JointConfig} (hnd1 : cfg.incoming.Nodup)
    (hnd2 : cfg.outgoing.Nodup) (hmv : MultiVoter cfg)
    {own : Nat → Nat → Prop} {ini : Entry → Prop} {a b : Sys}
    (I : InvL own ini a) (B : InvB a) (I1 : Inv1 a) (I1' : Inv1 b) (I2' : Inv2 cfg b)
    (hstep : CStep a b) (i : Nat) (sta stb : NState)
    (ha : a.node i = some sta) (hb : b.node i = some stb) :
    NodeRel sta stb ∨ IsRestart i a b :=
  nodeRel_of_cstep hnd1 hnd2 hmv I.inv (fun _ => I.msgOk) B I1 I1' I2' hstep i sta stb ha hb

/-- a history each of whose steps relates the states of every node by `NodeRel` unless it restarts it -/
def NodeRels (h : List Sys) : Prop :=
  ∀ (n : Nat) (a b : Sys), h[n]? = some a → h[n + 1]? = some b → Step a b ∧
    ∀ i sta stb, a.node i = some sta → b.node i = some stb → NodeRel sta stb ∨ IsRestart i a b

/-- along a stretch of the history without a restart of node `i`, `RT` composes -/
theorem NodeRels.rt_path {h : List Sys} (H : NodeRels h) (i : Nat) :
    ∀ (d n : Nat) (s s' : Sys) (st st' : NState), h[n]? = some s → h[n + d]? = some s' →
      (∀ m a b, n ≤ m → m < n + d → h[m]? = some a → h[m + 1]? = some b → ¬ IsRestart i a b) →
      s.node i = some st → s'.node i = some st' → RT st.raft st'.raft :=
  hist_stretch (fun n a b ha hb => (H n a b ha hb).1) i (R := fun x y => RT x.raft y.raft)
    (fun _ => RT.rfl) RT.trans fun n a b sta stb ha hb hia hib hnr =>
      (((H n a b ha hb).2 i sta stb hia hib).resolve_right hnr).rt

/-- what holds of a node across a stretch without restart: role / term transitions, and a node that leads the
same term at both ends only extended its log -/
structure PathRel (a b : NState) : Prop where
  rt : RT a.raft b.raft
  ext : a.raft.state = .leader → b.raft.state = .leader → b.raft.term = a.raft.term →
    Extends a.raft.raftLog.abs b.raft.raftLog.abs

/-- a node that leads term `t` at both ends of two stretches leads it in between: once it has left the leader role
of a term it cannot return to it -/
theorem PathRel.trans {x y z : NState} (h1 : PathRel x y) (h2 : PathRel y z) : PathRel x z := by
  refine ⟨h1.rt.trans h2.rt, fun hl hl' ht => ?_⟩
  have hty : y.raft.term = x.raft.term := by
    have := h1.rt.le; have := h2.rt.le; omega
  have hly : y.raft.state = .leader := by
    rcases h2.rt.lead hl' with c1 | ⟨_, c2 | c2⟩
    · omega
    · rcases h1.rt.cand c2 with c3 | ⟨_, c4⟩
      · omega
      · rw [hl] at c4; cases c4
    · exact c2
  exact (h1.ext hl hly hty).trans (h2.ext hly hl' (ht.trans hty.symm))

/-- **a leader's log only grows while it leads without a restart**: between two states `h[n]`, `h[n + d]`
in which node `i` is leader of the same term, with no restart of `i` in between, the later logical log
extends the earlier one -/
theorem NodeRels.leader_extends {h : List Sys} (H : NodeRels h) (i : Nat) :
    ∀ (d n : Nat) (s s' : Sys) (st st' : NState), h[n]? = some s → h[n + d]? = some s' →
      (∀ m a b, n ≤ m → m < n + d → h[m]? = some a → h[m + 1]? = some b → ¬ IsRestart i a b) →
      s.node i = some st → s'.node i = some st' →
      st.raft.state = .leader → st'.raft.state = .leader → st'.raft.term = st.raft.term →
      Extends st.raft.raftLog.abs st'.raft.raftLog.abs :=
  fun d n s s' st st' hn hn' hnr hi hi' =>
    (hist_stretch (fun n a b ha hb => (H n a b ha hb).1) i (R := PathRel)
      (fun _ => ⟨RT.rfl, fun _ _ _ => Extends.rfl _⟩) PathRel.trans
      (fun n a b sta stb ha hb hia hib hnr =>
        have c := ((H n a b ha hb).2 i sta stb hia hib).resolve_right hnr
        ⟨c.rt, c.ext⟩) d n s s' st st' hn hn' hnr hi hi').ext

/-- the histories of the layer without batching are `NodeRels` -/
theorem nodeRels_of_nobatch {own : Nat → Nat → Prop} {ini : Entry → Prop} {h : List Sys}
    (hinv : ∀ s ∈ h, InvL own ini s) (hnb : ∀ s ∈ h, NoBatch s)
    (hcon : ∀ (n : Nat) (a b : Sys), h[n]? = some a → h[n + 1]? = some b → CStep a b) :
    NodeRels h := fun n a b ha hb =>
  have ham : a ∈ h := List.mem_iff_getElem?.2 ⟨n, ha⟩
  ⟨(hcon n a b ha hb).step, cstep_nodeRel (hinv a ham) (hnb a ham) (hcon n a b ha hb)⟩

/-- along a stretch of the history without a restart of node `i`, `RT` composes -/
theorem rt_path {own : Nat → Nat → Prop} {ini : Entry → Prop} (h : List Sys)
    (hinv : ∀ s ∈ h, InvL own ini s) (hnb : ∀ s ∈ h, NoBatch s)
    (hcon : ∀ (n : Nat) (a b : Sys), h[n]? = some a → h[n + 1]? = some b → CStep a b) (i : Nat) :
    ∀ (d n : Nat) (s s' : Sys) (st st' : NState), h[n]? = some s → h[n + d]? = some s' →
      (∀ m a b, n ≤ m → m < n + d → h[m]? = some a → h[m + 1]? = some b → ¬ IsRestart i a b) →
      s.node i = some st → s'.node i = some st' → RT st.raft st'.raft :=
  (nodeRels_of_nobatch hinv hnb hcon).rt_path i

/-- everything the path arguments need of a history with two voters and sane anchors -/
structure HistB (cfg : JointConfig) (h : List Sys) (own : Nat → Nat → Prop) (ini : Entry → Prop) :
    Prop where
  nd1 : cfg.incoming.Nodup
  nd2 : cfg.outgoing.Nodup
  mv : MultiVoter cfg
  inv : ∀ s ∈ h, InvL own ini s ∧ InvB s
  i1 : ∀ s ∈ h, Inv1 s
  i2 : ∀ s ∈ h, Inv2 cfg s
  con : ∀ (n : Nat) (a b : Sys), h[n]? = some a → h[n + 1]? = some b → CStep a b

theorem HistB.nodeRel {cfg : JointConfig} {h : List Sys} {own : Nat → Nat → Prop}
    {ini : Entry → Prop} (H : HistB cfg h own ini) (n : Nat) (a b : Sys) (ha : h[n]? = some a)
    (hb : h[n + 1]? = some b) (i : Nat) (sta stb : NState) (hia : a.node i = some sta)
    (hib : b.node i = some stb) : NodeRel sta stb ∨ IsRestart i a b := by
  have ham : a ∈ h := List.mem_iff_getElem?.2 ⟨n, ha⟩
  have hbm : b ∈ h := List.mem_iff_getElem?.2 ⟨n + 1, hb⟩
  exact cstep_nodeRel_batch H.nd1 H.nd2 H.mv (H.inv a ham).1 (H.inv a ham).2 (H.i1 a ham)
    (H.i1 b hbm) (H.i2 b hbm) (H.con n a b ha hb) i sta stb hia hib

theorem HistB.nodeRels {cfg : JointConfig} {h : List Sys} {own : Nat → Nat → Prop}
    {ini : Entry → Prop} (H : HistB cfg h own ini) : NodeRels h := fun n a b ha hb =>
  ⟨(H.con n a b ha hb).step, H.nodeRel n a b ha hb⟩

end RaftProps.C05
