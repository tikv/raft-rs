import RaftProofs.RaftNodeEffects

/-!
Cluster-level commit safety, part 4A: the per-call relation `PW E a r` ("`r` is an intermediate state
of a call that started in `a`"): two invariants that the commit layer takes as hypotheses, and a
record of what the call has queued:

* **progress within the log** (`po`): on a leader every progress has `matched ≤ last_index` and
  `next_idx ≤ last_index + 1`;
* **pending reads are committed** (`rd`): on a leader every pending read index is at most the commit
  index;
* what the call has queued so far: every new `MsgAppend` is anchored at an index within the log
  (`qa`) and at or above the snapshot point (`qf`), every new `MsgReadIndexResp` carries an index that
  is at most the commit index (`qr`), and no `MsgSnapshot` that was queued is lost (`sn`).

The layers above need this relation in four variants, which differ in three choices.  They are the
parameter `E : Rule`; the handlers of the node model are gone through once, for any `E`.

* A snapshot on its way to a peer.  `E.mute ms`: the queue `ms` excuses the node from `po`, `qa` and
  `qf`.  `E.pend ms li i`: a progress in the `Snapshot` state may have `i` as its pending snapshot when
  the queue is `ms` and the log ends at `li`.  The commit layer (`Raft.CP`, `ClusterCommit4CP`)
  assumes that no snapshot ever reaches the transport: a node with a `MsgSnapshot` in its queue is
  mute, because `send` hands over the whole queue, and no pending snapshot is admissible.  Where
  snapshots are really sent (`Raft.CS`, `ClusterSnap4A`) nothing mutes a node, and a pending snapshot
  lies within the log or is the index of a queued `MsgSnapshot` (the storage decides what index a
  snapshot has).
* `batch_append`.  `E.flag b` is what the relation demands of the flag, `E.old ms x` says when a
  queued `MsgAppend` `x` counts as queued before a call that started with the queue `ms`.  `Raft.CP`
  and `Raft.CS` demand that batching is off and take `x ∈ ms`.  `Raft.PB` (`ClusterCommitBatchPerCall`) demands
  nothing and takes "some `MsgAppend` of `ms` has the anchor `(index, log_term)` of `x`":
  `try_batching` replaces a queued append by one with the same type, anchor and addressee (more
  entries, a newer commit index) and keeps every other message verbatim.
* The snapshot point.  `E.floor l`, for the log `l` the call started with, is the index below which no
  new `MsgAppend` is anchored: the first index of `l`, or `0` where this is not tracked (`Raft.PB`;
  `Raft.PB.F`, `ClusterSnapBatchPerCall`, is `Raft.PB` with the first index).

This file: the definitions, the frame lemmas, `send` and the progress bookkeeping.
-/
namespace RaftModel
namespace Raft
namespace PerCall

/-- the message types the relation speaks about -/
def wqT : MsgType → Bool
  | .msgAppend | .msgSnapshot | .msgReadIndexResp => true
  | _ => false

/-- what the variants of the relation choose differently -/
structure Rule where
  /-- the queue excuses the node from the clauses on progress and on queued `MsgAppend`s -/
  mute : List Message → Prop
  /-- an admissible pending snapshot, given the queue and the last index of the log -/
  pend : List Message → Nat → Nat → Prop
  /-- the `MsgAppend` counts as queued before a call that started with this queue -/
  old : List Message → Message → Prop
  /-- what is demanded of `batch_append` -/
  flag : Bool → Prop
  /-- the index below which no new `MsgAppend` is anchored, for the log the call started with -/
  floor : RaftLog → Nat
  /-- of the queue only the `MsgSnapshot`s matter to `mute` and `pend` -/
  mute_mono : ∀ {ms ms' : List Message}, mute ms →
    (∀ x ∈ ms, x.msgType = .msgSnapshot → x ∈ ms') → mute ms'
  pend_mono : ∀ {ms ms' : List Message} {li li' i : Nat}, pend ms li i → li ≤ li' →
    (∀ x ∈ ms, x.msgType = .msgSnapshot → x ∈ ms') → pend ms' li' i
  /-- `maybe_send_append` on the snapshot path queues the `MsgSnapshot` whose index becomes the
  pending snapshot -/
  queued : ∀ {ms : List Message} {x : Message} (li : Nat), x ∈ ms → x.msgType = .msgSnapshot →
    mute ms ∨ pend ms li x.snapshot.metadata.index
  old_mem : ∀ {ms : List Message} {x : Message}, x ∈ ms → x.msgType = .msgAppend → old ms x
  /-- where batching may run, a `MsgAppend` with the anchor of an old one is old -/
  old_batch : flag true → ∀ {ms : List Message} {x y : Message}, old ms y →
    x.index = y.index → x.logTerm = y.logTerm → old ms x
  floor_le : ∀ l : RaftLog, floor l ≤ l.firstIndex

theorem Rule.mute_app (E : Rule) {ms : List Message} (h : E.mute ms) (l : List Message) :
    E.mute (ms ++ l) :=
  E.mute_mono h (fun _ hx _ => List.mem_append_left _ hx)

variable {E : Rule}

/-- a progress within a log whose last index is `li` -/
def POk (E : Rule) (ms : List Message) (li : Nat) (pr : Progress) : Prop :=
  pr.matched ≤ li ∧ pr.nextIdx ≤ li + 1 ∧ (pr.state = .snapshot → E.pend ms li pr.pendingSnapshot)

theorem POk.mono {ms ms' : List Message} {li li' : Nat} {pr : Progress}
    (h : POk E ms li pr) (hle : li ≤ li')
    (hs : ∀ x ∈ ms, x.msgType = .msgSnapshot → x ∈ ms') : POk E ms' li' pr :=
  ⟨Nat.le_trans h.1 hle, by have := h.2.1; omega, fun hst => E.pend_mono (h.2.2 hst) hle hs⟩

theorem POk.app {ms : List Message} {li : Nat} {pr : Progress}
    (h : POk E ms li pr) (l : List Message) : POk E (ms ++ l) li pr :=
  h.mono (Nat.le_refl _) (fun _ hx _ => List.mem_append_left _ hx)

/-- only `matched`, `next_idx`, the state and the pending snapshot matter -/
theorem POk.congr {ms : List Message} {li : Nat} {pr pr' : Progress} (h : POk E ms li pr)
    (h1 : pr'.matched = pr.matched)
    (h2 : pr'.nextIdx = pr.nextIdx) (h3 : pr'.state = pr.state)
    (h4 : pr'.pendingSnapshot = pr.pendingSnapshot := by rfl) : POk E ms li pr' := by
  unfold POk at *
  rw [h1, h2, h3, h4]; exact h

/-- a progress outside the `Snapshot` state only has to be within the log -/
theorem POk.of_ns {ms : List Message} {li : Nat} {pr : Progress} (h1 : pr.matched ≤ li)
    (h2 : pr.nextIdx ≤ li + 1) (h3 : pr.state ≠ .snapshot) : POk E ms li pr :=
  ⟨h1, h2, fun hc => absurd hc h3⟩

/-- every progress of the tracker is within the log -/
def PAll (E : Rule) (ms : List Message) (li : Nat) (t : ProgressTracker) : Prop :=
  ∀ p ∈ t.progress, POk E ms li p.2

theorem PAll.mono {ms ms' : List Message} {li li' : Nat} {t : ProgressTracker}
    (h : PAll E ms li t) (hle : li ≤ li')
    (hs : ∀ x ∈ ms, x.msgType = .msgSnapshot → x ∈ ms') :
    PAll E ms' li' t := fun p hp => (h p hp).mono hle hs

theorem PAll.app {ms : List Message} {li : Nat} {t : ProgressTracker}
    (h : PAll E ms li t) (l : List Message) : PAll E (ms ++ l) li t :=
  h.mono (Nat.le_refl _) (fun _ hx _ => List.mem_append_left _ hx)

theorem PAll.get {ms : List Message} {li : Nat} {t : ProgressTracker} (h : PAll E ms li t)
    {id : Nat} {pr : Progress} (hg : t.get id = some pr) : POk E ms li pr :=
  h (id, pr) (RaftProps.C02.c02_lookup_mem _ _ _ hg)

theorem PAll.set {ms : List Message} {li : Nat} {t : ProgressTracker} (h : PAll E ms li t)
    (id : Nat) {pr : Progress} (hp : POk E ms li pr) : PAll E ms li (t.set id pr) := by
  intro p hp'
  simp only [ProgressTracker.set, NatMap.modify, List.mem_map] at hp'
  obtain ⟨q, hq, rfl⟩ := hp'
  split
  · exact hp
  · exact h q hq

theorem PAll.modify {ms : List Message} {li : Nat} {t : ProgressTracker} (h : PAll E ms li t)
    (id : Nat) (f : Progress → Progress) (hf : ∀ pr, POk E ms li pr → POk E ms li (f pr)) :
    PAll E ms li { t with progress := NatMap.modify id f t.progress } := by
  intro p hp'
  simp only [NatMap.modify, List.mem_map] at hp'
  obtain ⟨q, hq, rfl⟩ := hp'
  split
  · exact hf _ (h q hq)
  · exact h q hq

theorem PAll.map {ms : List Message} {li : Nat} {t : ProgressTracker} (h : PAll E ms li t)
    (f : Nat → Progress → Progress) (hf : ∀ id pr, POk E ms li pr → POk E ms li (f id pr)) :
    PAll E ms li { t with progress := t.progress.map (fun p => (p.1, f p.1 p.2)) } := by
  intro p hp'
  simp only [List.mem_map] at hp'
  obtain ⟨q, hq, rfl⟩ := hp'
  exact hf _ _ (h q hq)

/-- the relation on the fields it reads -/
structure PWP (E : Rule) (a : Raft) (st : StateRole) (l : RaftLog) (t : ProgressTracker)
    (ro : ReadOnly) (b : Bool) (ms : List Message) : Prop where
  inv : l.Inv
  nb : E.flag b
  po : st = .leader → E.mute ms ∨ PAll E ms l.lastIndex t
  rd : st = .leader → ∀ p ∈ ro.pendingReadIndex, p.2.index ≤ l.committed
  qa : ∀ x ∈ ms, x.msgType = .msgAppend → E.old a.msgs x ∨ E.mute ms ∨ x.index ≤ l.lastIndex
  qr : ∀ x ∈ ms, x.msgType = .msgReadIndexResp → x ∈ a.msgs ∨ x.index ≤ l.committed
  sn : ∀ x ∈ a.msgs, x.msgType = .msgSnapshot → x ∈ ms
  /-- the first index of the log has not moved down since the start of the call … -/
  fi : E.floor a.raftLog ≤ l.firstIndex
  /-- … and every new `MsgAppend` is anchored at or above the snapshot point (its entries were read
  from the log: below the first index `RaftLog::entries` answers `Compacted`, and a `MsgSnapshot` is
  queued instead) -/
  qf : ∀ x ∈ ms, x.msgType = .msgAppend →
    E.old a.msgs x ∨ E.mute ms ∨ E.floor a.raftLog ≤ x.index + 1

/-- **the per-call relation** -/
def PW (E : Rule) (a r : Raft) : Prop :=
  PWP E a r.state r.raftLog r.prs r.readOnly r.batchAppend r.msgs

theorem PW.inv {a r : Raft} (h : PW E a r) : r.raftLog.Inv := PWP.inv h
theorem PW.nb {a r : Raft} (h : PW E a r) : E.flag r.batchAppend := PWP.nb h
theorem PW.po {a r : Raft} (h : PW E a r) :
    r.state = .leader → E.mute r.msgs ∨ PAll E r.msgs r.raftLog.lastIndex r.prs := PWP.po h
theorem PW.rd {a r : Raft} (h : PW E a r) :
    r.state = .leader → ∀ p ∈ r.readOnly.pendingReadIndex, p.2.index ≤ r.raftLog.committed :=
  PWP.rd h
theorem PW.qa {a r : Raft} (h : PW E a r) : ∀ x ∈ r.msgs, x.msgType = .msgAppend →
    E.old a.msgs x ∨ E.mute r.msgs ∨ x.index ≤ r.raftLog.lastIndex := PWP.qa h
theorem PW.qr {a r : Raft} (h : PW E a r) : ∀ x ∈ r.msgs, x.msgType = .msgReadIndexResp →
    x ∈ a.msgs ∨ x.index ≤ r.raftLog.committed := PWP.qr h
theorem PW.sn {a r : Raft} (h : PW E a r) : ∀ x ∈ a.msgs, x.msgType = .msgSnapshot → x ∈ r.msgs :=
  PWP.sn h
theorem PW.fi {a r : Raft} (h : PW E a r) : E.floor a.raftLog ≤ r.raftLog.firstIndex := PWP.fi h
theorem PW.qf {a r : Raft} (h : PW E a r) : ∀ x ∈ r.msgs, x.msgType = .msgAppend →
    E.old a.msgs x ∨ E.mute r.msgs ∨ E.floor a.raftLog ≤ x.index + 1 := PWP.qf h

/-- the start of a call -/
theorem PW.start {a : Raft} (hinv : a.raftLog.Inv) (hnb : E.flag a.batchAppend)
    (hpo : a.state = .leader → E.mute a.msgs ∨ PAll E a.msgs a.raftLog.lastIndex a.prs)
    (hrd : a.state = .leader → ∀ p ∈ a.readOnly.pendingReadIndex, p.2.index ≤ a.raftLog.committed) :
    PW E a a :=
  ⟨hinv, hnb, hpo, hrd, fun _ hx hty => .inl (E.old_mem hx hty), fun _ hx _ => .inl hx,
    fun _ hx _ => hx, E.floor_le _, fun _ hx hty => .inl (E.old_mem hx hty)⟩

/-- any structure update that keeps the role, the log, the tracker, the pending reads, the batching
flag and the queue keeps `PW` -/
theorem PW.mk' {a r : Raft} {x1 x2 x3 : Nat} {x4 : List ReadState} {x6 x7 x8 : Nat}
    {x10 : Bool} {x11 : Nat}
    {x12 : Option Nat} {x13 : Nat} {x15 x16 : Nat} {x17 x18 x19 x21 : Bool}
    {x22 x23 x24 x25 x26 : Nat} {x27 : Int} {x28 : UncommittedState} {x29 : Nat}
    {x32 : Option Nat} (h0 : PW E a r) :
    PW E a { term := x1, vote := x2, id := x3, readStates := x4, raftLog := r.raftLog,
             maxInflight := x6, maxMsgSize := x7, pendingRequestSnapshot := x8, state := r.state,
             promotable := x10, leaderId := x11, leadTransferee := x12,
             pendingConfIndex := x13, readOnly := r.readOnly, electionElapsed := x15,
             heartbeatElapsed := x16, checkQuorum := x17, preVote := x18,
             skipBcastCommit := x19, batchAppend := r.batchAppend, disableProposalForwarding := x21,
             heartbeatTimeout := x22, electionTimeout := x23, randomizedElectionTimeout := x24,
             minElectionTimeout := x25, maxElectionTimeout := x26, priority := x27,
             uncommittedState := x28, maxCommittedSizePerReady := x29, prs := r.prs, msgs := r.msgs,
             nextRand := x32 } := h0

/-- replacing the log by one that represents the same logical log -/
theorem PW.log {a r : Raft} {l : RaftLog} (hl : LogSame r.raftLog l) (h0 : PW E a r) :
    PW E a { r with raftLog := l } := by
  have hfi : l.firstIndex = r.raftLog.firstIndex := by
    rw [(hl.inv h0.inv).firstIndex_abs, h0.inv.firstIndex_abs, hl.abs]
  refine ⟨hl.inv h0.inv, h0.nb, fun hs => ?_, fun hs p hp => ?_, fun x hx hty => ?_,
    fun x hx hty => ?_, h0.sn, by rw [hfi]; exact h0.fi, h0.qf⟩
  · show E.mute r.msgs ∨ PAll E r.msgs l.lastIndex r.prs
    rw [hl.last]; exact h0.po hs
  · exact Nat.le_trans (h0.rd hs p hp) hl.commit
  · show E.old a.msgs x ∨ E.mute r.msgs ∨ x.index ≤ l.lastIndex
    rw [hl.last]; exact h0.qa x hx hty
  · rcases h0.qr x hx hty with c | c
    · exact .inl c
    · exact .inr (Nat.le_trans c hl.commit)

/-- replacing the tracker -/
theorem PW.prs {a r : Raft} {t : ProgressTracker} (h0 : PW E a r)
    (ht : r.state = .leader → E.mute r.msgs ∨ PAll E r.msgs r.raftLog.lastIndex t) :
    PW E a { r with prs := t } :=
  ⟨h0.inv, h0.nb, ht, h0.rd, h0.qa, h0.qr, h0.sn, h0.fi, h0.qf⟩

/-- writing back one progress -/
theorem PW.setPr {a r : Raft} {id : Nat} {pr : Progress} (h0 : PW E a r)
    (hp : E.mute r.msgs ∨ POk E r.msgs r.raftLog.lastIndex pr) :
    PW E a { r with prs := r.prs.set id pr } := by
  refine h0.prs (fun hs => ?_)
  rcases hp with c | c
  · exact .inl c
  · rcases h0.po hs with d | d
    · exact .inl d
    · exact .inr (d.set id c)

/-- leaving the leader role (or staying outside it) with log, queue and flag untouched -/
theorem PW.nonleader {a r : Raft} (h0 : PW E a r) {st : StateRole} {t : ProgressTracker}
    {ro : ReadOnly} (hst : st ≠ .leader) :
    PWP E a st r.raftLog t ro r.batchAppend r.msgs :=
  ⟨h0.inv, h0.nb, fun h => absurd h hst, fun h => absurd h hst, h0.qa, h0.qr, h0.sn, h0.fi, h0.qf⟩

/-! ### `send` -/

/-- appending one message to the queue: a `MsgAppend` has to be anchored within the log and at or
above the snapshot point of the call, a `MsgReadIndexResp` has to carry a committed index -/
theorem PW.push {a r : Raft} (h0 : PW E a r) (x : Message)
    (ha : x.msgType = .msgAppend → E.mute r.msgs ∨ x.index ≤ r.raftLog.lastIndex)
    (hr : x.msgType = .msgReadIndexResp → x.index ≤ r.raftLog.committed)
    (hf : x.msgType = .msgAppend → E.mute r.msgs ∨ E.floor a.raftLog ≤ x.index + 1) :
    PW E a { r with msgs := r.msgs ++ [x] } := by
  refine ⟨h0.inv, h0.nb, fun hs => ?_, h0.rd, fun y hy hy' => ?_, fun y hy hy' => ?_,
    fun y hy hy' => List.mem_append_left _ (h0.sn y hy hy'), h0.fi, fun y hy hy' => ?_⟩
  rotate_right
  · rcases List.mem_append.1 hy with hy | hy
    · rcases h0.qf y hy hy' with c | c | c
      · exact .inl c
      · exact .inr (.inl (E.mute_app c _))
      · exact .inr (.inr c)
    · rw [List.mem_singleton.1 hy] at hy' ⊢
      rcases hf hy' with c | c
      · exact .inr (.inl (E.mute_app c _))
      · exact .inr (.inr c)
  · rcases h0.po hs with c | c
    · exact .inl (E.mute_app c _)
    · exact .inr (c.app _)
  · rcases List.mem_append.1 hy with hy | hy
    · rcases h0.qa y hy hy' with c | c | c
      · exact .inl c
      · exact .inr (.inl (E.mute_app c _))
      · exact .inr (.inr c)
    · rw [List.mem_singleton.1 hy] at hy' ⊢
      rcases ha hy' with c | c
      · exact .inr (.inl (E.mute_app c _))
      · exact .inr (.inr c)
  · rcases List.mem_append.1 hy with hy | hy
    · exact h0.qr y hy hy'
    · rw [List.mem_singleton.1 hy] at hy' ⊢
      exact .inr (hr hy')

/-- appending a message of a type on which the relation puts no condition -/
theorem PW.pushFree {a r : Raft} (h0 : PW E a r) (x : Message) (hna : x.msgType ≠ .msgAppend)
    (hnr : x.msgType ≠ .msgReadIndexResp) : PW E a { r with msgs := r.msgs ++ [x] } :=
  h0.push x (fun hc => absurd hc hna) (fun hc => absurd hc hnr) (fun hc => absurd hc hna)

/-- replacing the queue by one in which some `MsgAppend`s were replaced by `MsgAppend`s with the same
anchor (what `try_batching` does), every other message being kept -/
theorem PW.batch {a r : Raft} (h0 : PW E a r) (hb : E.flag true) {ms : List Message}
    (hsn : ∀ x ∈ r.msgs, x.msgType = .msgSnapshot → x ∈ ms)
    (hnew : ∀ x ∈ ms, x ∈ r.msgs ∨ ∃ y ∈ r.msgs, y.msgType = .msgAppend ∧ x.msgType = .msgAppend ∧
      x.index = y.index ∧ x.logTerm = y.logTerm) :
    PW E a { r with msgs := ms } := by
  have hq : E.mute r.msgs → E.mute ms := fun c => E.mute_mono c hsn
  -- `qa` and `qf` bound the index of a `MsgAppend`, which a replacement keeps
  have key : ∀ (P : Nat → Prop),
      (∀ x ∈ r.msgs, x.msgType = .msgAppend → E.old a.msgs x ∨ E.mute r.msgs ∨ P x.index) →
      ∀ x ∈ ms, x.msgType = .msgAppend → E.old a.msgs x ∨ E.mute ms ∨ P x.index := by
    intro P hP x hx hty
    rcases hnew x hx with c | ⟨y, hy, hyt, _, hi, ht⟩
    · exact (hP x c hty).imp (fun c => c) (Or.imp hq (fun c => c))
    · rcases hP y hy hyt with d | d | d
      · exact .inl (E.old_batch hb d hi ht)
      · exact .inr (.inl (hq d))
      · exact .inr (.inr (by rw [hi]; exact d))
  refine ⟨h0.inv, h0.nb, fun hs => (h0.po hs).imp hq (fun c => c.mono (Nat.le_refl _) hsn), h0.rd,
    key (· ≤ r.raftLog.lastIndex) h0.qa, fun x hx hty => ?_,
    fun x hx hty => hsn x (h0.sn x hx hty) hty, h0.fi,
    key (fun i => E.floor a.raftLog ≤ i + 1) h0.qf⟩
  rcases hnew x hx with c | ⟨y, _, _, hxt, _, _⟩
  · exact h0.qr x c hty
  · rw [hxt] at hty; cases hty

/-- queueing a message of a type the relation does not speak about -/
theorem send_pw {a r r' : Raft} {m : Message} (h : r.send m = .ok r')
    (hm : wqT m.msgType = false) (h0 : PW E a r) : PW E a r' := by
  rw [send_eq r r' m h]
  refine h0.pushFree _ (fun hc => ?_) (fun hc => ?_)
  · rw [sendFill_msgType] at hc; rw [hc] at hm; cases hm
  · rw [sendFill_msgType] at hc; rw [hc] at hm; cases hm

end PerCall
end Raft
end RaftModel
