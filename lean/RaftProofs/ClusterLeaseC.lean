import RaftProofs.ClusterLeaseB

/-!
Cluster-level lease theorem (C16, second half), helper lemmas part C: `LInv` through the queueing of one
message, `post_conf_change`, `restore` and `handle_snapshot`.
-/
namespace RaftModel
namespace Raft
namespace LS

/-! ### queueing one message -/

/-- `send` of any message but a `MsgTimeoutNow`, given what the queued message looks like -/
theorem send_linv {a r r' : Raft} {m x : Message} (h : LInv a m r) (hs : r.send x = .ok r')
    (hne : x.msgType ≠ .msgTimeoutNow) (he : Emit a m r.term (r.sendFill x)) : LInv a m r' := by
  rw [send_eq r r' x hs]
  refine ⟨h.id, h.tm, ?_, ?_, h.pc, h.ld⟩
  · intro y hy
    rcases List.mem_append.1 hy with g | g
    · exact h.msgs y g
    · rw [List.mem_singleton.1 g]; exact Or.inr he
  · rcases h.tn with hn | hn
    · left
      intro y hy ht
      rcases List.mem_append.1 hy with g | g
      · exact hn y g ht
      · rw [List.mem_singleton.1 g, sendFill_msgType] at ht
        exact absurd ht hne
    · exact Or.inr hn

/-- `send_timeout_now` while a transfer is pending, in a call stepping a `MsgTransferLeader` or a
`MsgAppendResponse` -/
theorem sendTimeoutNow_linv {a r r' : Raft} {m : Message} {to : Nat} (h : LInv a m r)
    (hta : isTA m) (hlt : r.leadTransferee ≠ none) (hs : r.sendTimeoutNow to = .ok r') :
    LInv a m r' := by
  unfold sendTimeoutNow at hs
  rw [send_eq r r' _ hs]
  refine ⟨h.id, h.tm, ?_, Or.inr ⟨hta, hlt⟩, h.pc, h.ld⟩
  intro y hy
  rcases List.mem_append.1 hy with g | g
  · exact h.msgs y g
  · rw [List.mem_singleton.1 g]
    right
    refine ⟨fun hx => ?_, Or.inl ?_⟩
    · rw [sendFill_msgType] at hx
      rcases hx with hx | hx <;> cases hx
    · show (r.sendFill (newMessage to .msgTimeoutNow none)).term ≤ r.term
      unfold sendFill newMessage
      simp [isVoteMsg]

/-! ### `post_conf_change` -/

theorem postConfChange_lcases {r r' : Raft} {cs : ConfState} (h : r.postConfChange = .ok (r', cs)) :
    r' = ({ r with promotable := Joint.contains r.prs.voters r.id } : Raft).becomeFollower r.term 0 ∨
    r' = { r with promotable := Joint.contains r.prs.voters r.id } ∨
    ∃ r2, MF r r2 ∧ (r' = r2 ∨ r' = r2.abortLeaderTransfer) :=
  postConfChange_split (Q := MF r)
    (P := fun x => x = _ ∨ x = _ ∨ ∃ r2, MF r r2 ∧ (x = r2 ∨ x = r2.abortLeaderTransfer))
    h (fun _ _ => .inl rfl) (.inr (.inl rfl)) (fun _ => MF.mk' MF.rf)
    maybeCommit_mf bcastAppend_mf maybeSendAppend_mf (fun _ _ => MF.mk') (fun _ => MF.mk')
    respondReadStates_mf (fun _ {_} q => .inr (.inr ⟨_, q, .inr rfl⟩))
    (fun _ {_} q => .inr (.inr ⟨_, q, .inl rfl⟩))

theorem postConfChange_linv {a r r' : Raft} {m : Message} {cs : ConfState} (hm : ¬ isTA m)
    (h : LInv a m r) (hc : r.postConfChange = .ok (r', cs)) : LInv a m r' ∧ r'.term = r.term := by
  rcases postConfChange_lcases hc with e | e | ⟨r2, hf, e⟩
  · subst e
    have h1 : LInv a m ({ r with promotable := Joint.contains r.prs.voters r.id } : Raft) :=
      h.mf (MF.mk' MF.rf)
    exact ⟨becomeFollower_linv h1 (h1.nt hm) r.term 0 (Nat.le_refl _) (fun _ => Or.inr rfl),
      (becomeFollower_all _ _ _).2.1⟩
  · subst e
    exact ⟨h.mf (MF.mk' MF.rf), rfl⟩
  · have h2 := h.mf hf
    rcases e with e | e
    · subst e; exact ⟨h2, hf.term⟩
    · subst e
      exact ⟨h2.upd rfl (Nat.le_refl _) rfl (Or.inl (h2.nt hm)) h2.pc h2.ld, hf.term⟩

/-! ### `restore`, `handle_snapshot` (a follower) -/

/-- the frame of `restore` on a follower: everything but the log and the tracker -/
structure FF (a r : Raft) : Prop where
  term : r.term = a.term
  state : r.state = a.state
  id : r.id = a.id
  leaderId : r.leaderId = a.leaderId
  lt : r.leadTransferee = a.leadTransferee
  msgs : r.msgs = a.msgs

theorem FF.rf {r : Raft} : FF r r := ⟨Eq.refl _, Eq.refl _, Eq.refl _, Eq.refl _, Eq.refl _, Eq.refl _⟩

theorem FF.trans {a b c : Raft} (h1 : FF a b) (h2 : FF b c) : FF a c :=
  ⟨h2.term.trans h1.term, h2.state.trans h1.state, h2.id.trans h1.id,
    h2.leaderId.trans h1.leaderId, h2.lt.trans h1.lt, h2.msgs.trans h1.msgs⟩

theorem FF.mk' {a r : Raft} {x2 : Nat} {x4 : List ReadState} {x5 : RaftLog} {x6 x7 x8 : Nat} {x10 : Bool}
    {x13 : Nat} {x14 : ReadOnly} {x15 x16 : Nat} {x17 x18 x19 x20 x21 : Bool}
    {x22 x23 x24 x25 x26 : Nat} {x27 : Int} {x28 : UncommittedState} {x29 : Nat}
    {x30 : ProgressTracker} {x32 : Option Nat} (h0 : FF a r) :
    FF a { term := r.term, vote := x2, id := r.id, readStates := x4, raftLog := x5,
           maxInflight := x6, maxMsgSize := x7, pendingRequestSnapshot := x8, state := r.state,
           promotable := x10, leaderId := r.leaderId, leadTransferee := r.leadTransferee,
           pendingConfIndex := x13, readOnly := x14, electionElapsed := x15,
           heartbeatElapsed := x16, checkQuorum := x17, preVote := x18,
           skipBcastCommit := x19, batchAppend := x20, disableProposalForwarding := x21,
           heartbeatTimeout := x22, electionTimeout := x23, randomizedElectionTimeout := x24,
           minElectionTimeout := x25, maxElectionTimeout := x26, priority := x27,
           uncommittedState := x28, maxCommittedSizePerReady := x29, prs := x30,
           msgs := r.msgs, nextRand := x32 } :=
  h0.trans ⟨Eq.refl _, Eq.refl _, Eq.refl _, Eq.refl _, Eq.refl _, Eq.refl _⟩

theorem restore_ff {a r r' : Raft} {snap : Snapshot} {b : Bool} (hs : r.state = .follower)
    (h : r.restore snap = .ok (r', b)) (h0 : FF a r) : FF a r' := by
  refine restore_parts h h0 (fun hn => absurd hs hn) (fun _ _ => FF.mk' h0) (fun _ _ _ => FF.mk' h0)
    (fun _ => fun hp p => ?_) (fun _ => FF.mk')
  -- `post_conf_change` on a follower only recomputes `promotable`
  rw [CV.postConfChange_follower_eq _ (p.state.trans (h0.state.symm.trans hs))] at hp
  cases hp
  exact FF.mk' p

/-- a step of a follower that keeps term, role, identity, known leader, transferee and queue -/
theorem LInv.ff {a r r' : Raft} {m : Message} (h : LInv a m r) (hs : r.state = .follower)
    (hf : FF r r') : LInv a m r' := by
  refine h.upd hf.id (by rw [hf.term]; exact Nat.le_refl _) hf.msgs ?_ ?_ ?_
  · rcases h.tn with hn | hn
    · exact Or.inl hn
    · exact Or.inr ⟨hn.1, by rw [hf.lt]; exact hn.2⟩
  · intro hc; rw [hf.state, hs] at hc; cases hc
  · rw [hf.state, hf.term, hf.leaderId]; exact h.ld

theorem handleSnapshot_linv {a r r' : Raft} {m : Message} (m' : Message) (h : LInv a m r)
    (hs : r.state = .follower) (hc : r.handleSnapshot m' = .ok r') :
    LInv a m r' ∧ r'.term = r.term := by
  unfold handleSnapshot at hc
  rw [Res.bind_eq_ok_iff] at hc
  obtain ⟨⟨r1, ok⟩, h1, h2⟩ := hc
  have hf := restore_ff hs h1 FF.rf
  have hl := h.ff hs hf
  dsimp only at h2
  split at h2
  · have hm := send_mf h2 rfl MF.rf
    exact ⟨hl.mf hm, hm.term.trans hf.term⟩
  · have hm := send_mf h2 rfl MF.rf
    exact ⟨hl.mf hm, hm.term.trans hf.term⟩

end LS
end Raft
end RaftModel
