import RaftProofs.ClusterSnap5P

/-!
Commit safety of `ClusterSem` with compaction and snapshots, part 5Q: the induction
steps for **retention in the storage** (`rets_step`) and for **the promise of an acknowledgement in the
storage** (`a2s_step`).
-/
namespace RaftModel
namespace Cluster
namespace Snap5
open Node Raft Raft.CC RaftProps.C02 RaftProps.C05 Snap

variable {q : Prop} {cfg : JointConfig} {c0 : Nat} {h : List Sys}

theorem rets_step (F : Facts3 q cfg c0 h) {n : Nat} (S : SAll h c0 n) {a b : Sys}
    (ha : h[n]? = some a) (hb : h[n + 1]? = some b) :
    ∀ E : Ev, E.ok h → ∀ v st', b.node v = some st' → AckedDur b (n + 1) E v →
      Has (FS h c0 st') E.c E.t := by
  intro E hE v st' hvb hk
  have F2 := F.toFacts
  have Sa := S n a (Nat.le_refl _) ha
  obtain ⟨_, hEh, hc0⟩ := F2.leaderLog hE
  obtain ⟨k, stk, stk', hka, hkb, hoth, hs⟩ := F2.stp ha hb
  by_cases hvk : v = k
  · subst hvk
    have hkb' := hkb
    rw [hkb] at hvb; cases hvb
    have oa := F2.node_inv ha hka
    have ob := F2.node_inv hb hkb'
    -- in a step that is not a commit, `AckedDur` comes from before or from the queue
    have back : E.nE ≠ n → (∀ x ∈ b.net, x ∈ a.net ∨ x ∈ stk.raft.msgs) →
        AckedDur a n E v ∨ ∃ x ∈ stk.raft.msgs, isAck x ∧ x.frm = v ∧ x.term = E.t ∧ E.c ≤ x.index := by
      intro hne hnet
      rcases hk with ⟨x, hx, h2⟩ | ⟨h1, h2, h3⟩
      · rcases hnet x hx with c | c
        · exact .inl (.inl ⟨x, c, h2⟩)
        · exact .inr ⟨x, c, h2⟩
      · exact .inl (.inr ⟨h1, by omega, h3⟩)
    cases hs with
    | restart c rnd hboot hnet _ =>
      have hbt := CV.boot_booted c _ rnd st' hboot
      obtain ⟨_, _, hsl⟩ := boot_log c _ rnd st' oa.storeWF hboot
      have hne : E.nE ≠ n := by
        refine not_ev_of_same hE ha hb (fun w sta stb hwa hwb hl => ?_)
        by_cases hw : w = v
        · subst hw
          rw [hkb'] at hwb; cases hwb
          rw [hbt.state] at hl; cases hl
        · rw [hoth w hw, hwa] at hwb; cases hwb; exact Nat.le_refl _
      rw [FS_same hsl]
      rcases back hne (fun x hx => by rw [hnet] at hx; exact .inl hx) with c | ⟨x, hx, _⟩
      · exact Sa.rets E hE v stk hka c
      · exact Sa.rets E hE v stk hka (by
          rcases hk with ⟨y, hy, h2⟩ | ⟨h1, h2, h3⟩
          · rw [hnet] at hy; exact .inl ⟨y, hy, h2⟩
          · exact .inr ⟨h1, by omega, h3⟩)
    | send hp hu hq hsame hnet _ =>
      have hne : E.nE ≠ n := by
        refine not_ev_of_same hE ha hb (fun w sta stb hwa hwb _ => ?_)
        by_cases hw : w = v
        · subst hw
          rw [hkb'] at hwb; cases hwb
          rw [hka] at hwa; cases hwa
          rw [hsame.1]; exact Nat.le_refl _
        · rw [hoth w hw, hwa] at hwb; cases hwb; exact Nat.le_refl _
      rw [FS_same (st := stk) (by rw [hsame.1])]
      rcases back hne (fun x hx => by rw [hnet] at hx; exact List.mem_append.1 hx) with
        c | ⟨x, hx, hack, hfrm, hterm, hidx⟩
      · exact Sa.rets E hE v stk hka c
      · -- the acknowledgement leaves the queue: nothing of the log is unstable
        have hh := Sa.retm E hE v stk hka (.inl ⟨x, .inr hx, hack, hfrm, hterm, hidx⟩)
        by_cases hl : stk.raft.state = .leader
        · have := F2.leader_no_ack ha hka hl x hx hack
          omega
        · obtain ⟨u1, u2⟩ := hu hl
          rw [← FL_eq_FS oa u2 u1]; exact hh
    | psnap rnd hp hout hpend hnet =>
      have hne := not_ev_at hE ha hb hka hkb' hoth (.inr (Nat.le_of_eq (persist_same hout).1))
      have hdur : AckedDur a n E v := by
        rcases hk with ⟨y, hy, h2⟩ | ⟨h1, h2, h3⟩
        · rw [hnet] at hy; exact .inl ⟨y, hy, h2⟩
        · exact .inr ⟨h1, by omega, h3⟩
      cases hout with
      | noop hr =>
        rw [FS_same (st := stk) (by rw [hr])]
        exact Sa.rets E hE v stk hka hdur
      | done sn L hp0 hr hinvL habs hcm hper hus hue hents hmeta hhs =>
        have Ib := (F2.ghost_inv (n + 1) b hb).node v st' hkb'
        have Ia := (F2.ghost_inv n a ha).node v stk hka
        have hpk := F.pend_ok n a ha v stk sn hka hp0
        have hpnone : st'.raft.raftLog.unstable.snapshot = none := by rw [hr]; exact hus
        have hidx : st'.raft.raftLog.abs.snapIdx = sn.metadata.index := by
          rw [hr]; show L.abs.snapIdx = _; rw [habs, RaftLog.abs_some hp0]
        have hfl : FL h c0 st' = FL h c0 stk := FL_same (by rw [hr]; exact habs)
        have hh := Sa.retm E hE v stk hka hdur.mem
        obtain ⟨e, he, het⟩ := hh
        have hlast : E.c ≤ sn.metadata.index := by
          have h1 := ((FL h c0 stk).entryAt_lt he).2
          rw [Ia.log.last, RaftLog.abs_some hp0, hpk.1] at h1
          exact h1
        exact ⟨e, by rw [← Ib.pre hpnone E.c (by rw [hidx]; exact hlast), hfl]; exact he, het⟩
    | snap rnd m hm hto hty hpn hout hnet =>
      have hdur : E.nE ≠ n → AckedDur a n E v := by
        intro hne
        rcases hk with ⟨y, hy, h2⟩ | ⟨h1, h2, h3⟩
        · rw [hnet] at hy; exact .inl ⟨y, hy, h2⟩
        · exact .inr ⟨h1, by omega, h3⟩
      cases hout with
      | skip hr =>
        have hne := not_ev_at hE ha hb hka hkb' hoth (.inr (by rw [hr]; exact Nat.le_refl _))
        rw [FS_same (st := stk) (by rw [hr])]
        exact Sa.rets E hE v stk hka (hdur hne)
      | handled x hsf _ _ _ _ _ _ _ _ hsto _ =>
        have hne := not_ev_at hE ha hb hka hkb' hoth (.inl (by rw [hsf]; intro hc; cases hc))
        rw [FS_same (st := stk) (by rw [hsto])]
        exact Sa.rets E hE v stk hka (hdur hne)
    | call rnd op res hop hnc hca hns hpn hss hcall hnet hpn' _ =>
      obtain ⟨_, hse, _⟩ := F2.call_more ha hb hka hkb hnet hop hnc hns hpn hcall
      have hmem : Has (FL h c0 st') E.c E.t :=
        retm_step F S ha hb E hE v st' hkb' hk.mem
      by_cases hst : op = .stabilize
      · subst hst
        obtain ⟨k1, _⟩ := stabilize_out oa hpn hcall
        rw [← FL_eq_FS ob hpn' k1]; exact hmem
      · have Ia := (F2.ghost_inv n a ha).node v stk hka
        have Ib := (F2.ghost_inv (n + 1) b hb).node v st' hkb'
        have hfs : ∀ j, (FS h c0 st').entryAt j = (FS h c0 stk).entryAt j := by
          rcases hse with c | c | ⟨j, _, ho⟩
          · intro j; rw [FS_same c.storeLog]
          · exact absurd c hst
          · exact F2.fs_compact ha hb hka hkb ho
        rcases hk with ⟨x, hx, h2⟩ | ⟨h1, h2, h3⟩
        · rw [hnet] at hx
          exact Has.of_eq (hfs _) (Sa.rets E hE v stk hka (.inl ⟨x, hx, h2⟩))
        · by_cases hne : E.nE = n
          · -- the commit event of this step: the index is persisted
            obtain ⟨a', b', sta, stb, ha', hb', hla, hlb, _, _, _, _, _, hp⟩ := id hE
            rw [hne, hb] at hb'; cases hb'
            rw [← h1, hkb'] at hlb; cases hlb
            rw [hp] at h3
            exact Has.of_eq (Ib.persisted_of ob hpn' h3).symm hmem
          · exact Has.of_eq (hfs _) (Sa.rets E hE v stk hka (.inr ⟨h1, by omega, h3⟩))
  · have hva : a.node v = some st' := by rw [← hoth v hvk]; exact hvb
    obtain ⟨_, o2, _⟩ := sm_other F2 ha hka hs hvk (st := st')
    refine Sa.rets E hE v st' hva ?_
    rcases hk with ⟨x, hx, hack, hfrm, hterm, hidx⟩ | ⟨h1, h2, h3⟩
    · exact .inl ⟨x, o2 x hx hack (by omega) hfrm, hack, hfrm, hterm, hidx⟩
    · by_cases he : E.nE = n
      · have := ev_at_step hE (by rw [he]; exact ha) (by rw [he]; exact hb) hoth
        exact absurd (h1.trans this) hvk
      · exact .inr ⟨h1, by omega, h3⟩

theorem a2s_step (F : Facts3 q cfg c0 h) {n : Nat} (S : SAll h c0 n) {a b : Sys}
    (ha : h[n]? = some a) (hb : h[n + 1]? = some b) :
    ∀ v st', b.node v = some st' → ∀ x ∈ b.net, isAck x → x.frm = v → c0 < x.index →
      x.term = st'.raft.raftLog.store.hardState.term →
      Promise h c0 (n + 1) x (FS h c0 st') := by
  intro v st' hvb x hx hack hfrm hidx hterm
  have F2 := F.toFacts
  have Sa := S n a (Nat.le_refl _) ha
  have hx0 : x.index ≠ 0 := by omega
  obtain ⟨k, stk, stk', hka, hkb, hoth, hs⟩ := F2.stp ha hb
  by_cases hvk : v = k
  · subst hvk
    have hkb' := hkb
    rw [hkb] at hvb; cases hvb
    have oa := F2.node_inv ha hka
    have ob := F2.node_inv hb hkb'
    cases hs with
    | restart c rnd hboot hnet _ =>
      have hbt := CV.boot_booted c _ rnd st' hboot
      obtain ⟨_, _, hsl⟩ := boot_log c _ rnd st' oa.storeWF hboot
      rw [hnet] at hx
      rw [FS_same hsl]
      exact (Sa.a2s v stk hka x hx hack hfrm hidx (by rw [hterm, hbt.hs])).mono (Nat.le_succ _)
    | send hp hu hq hsame hnet _ =>
      rw [hnet] at hx
      rw [hsame.1] at hterm
      rw [FS_same (st := stk) (by rw [hsame.1])]
      rcases List.mem_append.1 hx with c | c
      · exact (Sa.a2s v stk hka x c hack hfrm hidx hterm).mono (Nat.le_succ _)
      · obtain ⟨L, hl, hreach, heq⟩ :=
          Sa.a2m v stk hka x (.inr c) hack hfrm hidx (by rw [hterm, hp.1])
        by_cases hl' : stk.raft.state = .leader
        · have := F2.leader_no_ack ha hka hl' x c hack
          omega
        · obtain ⟨u1, u2⟩ := hu hl'
          exact ⟨L, hl.mono (Nat.le_succ _), hreach,
            fun j hj => by rw [← FL_eq_FS oa u2 u1]; exact heq j hj⟩
    | psnap rnd hp hout hpend hnet =>
      rw [hnet] at hx
      cases hout with
      | noop hr =>
        rw [FS_same (st := stk) (by rw [hr])]
        exact (Sa.a2s v stk hka x hx hack hfrm hidx (by rw [hterm, hr])).mono (Nat.le_succ _)
      | done sn L hp0 hr hinvL habs hcm hper hus hue hents hmeta hhs =>
        have Ib := (F2.ghost_inv (n + 1) b hb).node v st' hkb'
        have Ia := (F2.ghost_inv n a ha).node v stk hka
        have hpk := F.pend_ok n a ha v stk sn hka hp0
        have hpnone : st'.raft.raftLog.unstable.snapshot = none := by rw [hr]; exact hus
        have hidx' : st'.raft.raftLog.abs.snapIdx = sn.metadata.index := by
          rw [hr]; show L.abs.snapIdx = _; rw [habs, RaftLog.abs_some hp0]
        have hfl : FL h c0 st' = FL h c0 stk := FL_same (by rw [hr]; exact habs)
        -- the stored term is the node's term
        have hst : st'.raft.raftLog.store.hardState.term = stk.raft.term := by
          have h1 := F.term_sle hpk.2.2.2.2 (n + 1) b hb v st' hkb'
          have h2 : st'.raft.raftLog.store.hardState.term =
              max stk.raft.raftLog.store.hardState.term sn.metadata.term := by rw [hr, hhs]
          have h3 : st'.raft.term = stk.raft.term := by rw [hr]
          rw [h2, h3] at h1
          rw [h2, hp.1]
          have := Nat.le_max_left stk.raft.term sn.metadata.term
          rw [hp.1] at h1
          omega
        obtain ⟨L1, hl1, hreach, heq1⟩ :=
          Sa.a2m v stk hka x (.inl hx) hack hfrm hidx (by rw [hterm, hst])
        refine ⟨L1, hl1.mono (Nat.le_succ _), hreach, fun j hj => ?_⟩
        -- the acknowledged index lies within the snapshot
        have hxl : x.index ≤ sn.metadata.index := by
          obtain ⟨e, he⟩ := L1.entryAt_exists (i := x.index) (by rw [hl1.snap F2]; exact hidx) hreach
          rw [← heq1 x.index (Nat.le_refl _)] at he
          have h1 := ((FL h c0 stk).entryAt_lt he).2
          rw [Ia.log.last, RaftLog.abs_some hp0, hpk.1] at h1
          exact h1
        rw [← Ib.pre hpnone j (by rw [hidx']; omega), hfl]
        exact heq1 j hj
    | snap rnd m hm hto hty hpn hout hnet =>
      rw [hnet] at hx
      cases hout with
      | skip hr =>
        rw [FS_same (st := stk) (by rw [hr])]
        exact (Sa.a2s v stk hka x hx hack hfrm hidx (by rw [hterm, hr])).mono (Nat.le_succ _)
      | handled y _ _ _ _ _ _ _ _ _ hsto _ =>
        rw [FS_same (st := stk) (by rw [hsto])]
        exact (Sa.a2s v stk hka x hx hack hfrm hidx (by rw [hterm, hsto])).mono (Nat.le_succ _)
    | call rnd op res hop hnc hca hns hpn hss hcall hnet hpn' _ =>
      obtain ⟨_, hse, hhs⟩ := F2.call_more ha hb hka hkb hnet hop hnc hns hpn hcall
      rw [hnet] at hx
      by_cases hst : op = .stabilize
      · subst hst
        obtain ⟨k1, k2, k3, _, k5, _⟩ := stabilize_out oa hpn hcall
        obtain ⟨L, hl, hreach, heq⟩ :=
          Sa.a2m v stk hka x (.inl hx) hack hfrm hidx (by rw [hterm, k2.1, k5])
        refine ⟨L, hl.mono (Nat.le_succ _), hreach, fun j hj => ?_⟩
        rw [← FL_eq_FS ob hpn' k1, FL_same k3]
        exact heq j hj
      · have Ia := (F2.ghost_inv n a ha).node v stk hka
        have hfs : ∀ j, (FS h c0 st').entryAt j = (FS h c0 stk).entryAt j := by
          rcases hse with c | c | ⟨j, _, ho⟩
          · intro j; rw [FS_same c.storeLog]
          · exact absurd c hst
          · exact F2.fs_compact ha hb hka hkb ho
        have hterm' : x.term = stk.raft.raftLog.store.hardState.term := by
          rcases hhs with c | ⟨j, _, c⟩ | ⟨c, _⟩
          · rw [hterm, c]
          · rw [hterm, c]
          · exact absurd c hst
        obtain ⟨L, q1, q2, q3⟩ := (Sa.a2s v stk hka x hx hack hfrm hidx hterm').mono (Nat.le_succ n)
        exact ⟨L, q1, q2, fun j hj => (hfs j).trans (q3 j hj)⟩
  · have hva : a.node v = some st' := by rw [← hoth v hvk]; exact hvb
    obtain ⟨_, o2, _⟩ := sm_other F2 ha hka hs hvk (st := st')
    exact (Sa.a2s v st' hva x (o2 x hx hack hx0 hfrm) hack hfrm hidx hterm).mono (Nat.le_succ _)



end Snap5
end Cluster
end RaftModel
