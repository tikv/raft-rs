import RaftProofs.ClusterFlowD
import RaftProofs.ClusterFlowM
import RaftProofs.ClusterCommit3H
import RaftProofs.ClusterTestHyp
import RaftProofs.ClusterCommit6C

/-!
Cluster-level flow control (C13), part X: **a concrete history** (kernel-evaluated) for the
non-vacuity of `RaftProps/C13c.lean`: the 15-state history of `C01_cluster_nonvacuous`
(`RaftProofs/ClusterCommit3H.lean`: node 1 is elected leader of term 1, replicates its empty entry to
node 2, receives node 2's acknowledgement — which moves node 2's progress to `Replicate` — and
commits index 1) continued by three steps:

* the application of node 1 proposes an entry, which the leader appends and sends to node 2 as an
  entry-carrying `MsgAppend`, **recording index 2 in the in-flight window of node 2's progress**
  (`count = 1`, `cap = 256`);
* `ping` at node 1: the leader queues heartbeats, the one to node 2 advertising
  `min(matched, committed) = 1`;
* node 1 hands its queue to the transport.

The history satisfies `Hyp3` (hence `Hyp`, `Hyp3w`).
-/
namespace RaftModel
namespace Cluster
open Node Raft Raft.CC RaftProps.C02 RaftProps.C05

def c13x_a9 := c02x_st (Node.call c01x_a8 none (.propose [] [1]))
def c13x_s15 : Sys := c01x_s14.setNode 1 c13x_a9
def c13x_a10 := c02x_st (Node.call c13x_a9 none .ping)
def c13x_s16 : Sys := c13x_s15.setNode 1 c13x_a10
def c13x_a11 := c02x_st (Node.call c13x_a10 none .drain)
def c13x_s17 : Sys :=
  { (c13x_s16.setNode 1 c13x_a11) with net := c13x_s16.net ++ c13x_a10.raft.msgs }
/-- the heartbeat of node 1 to node 2 -/
def c13x_hb :=
  (c13x_a10.raft.msgs.filter (fun x => x.msgType == .msgHeartbeat && x.to == 2)).head!
def c13x_hist : List Sys := c01x_hist ++ [c13x_s15] ++ [c13x_s16] ++ [c13x_s17]

theorem Chained.snoc {R : Sys → Sys → Prop} {a b : Sys} (hab : R a b) :
    ∀ l : List Sys, Chained R (l ++ [a]) → Chained R (l ++ [a, b]) := by
  intro l
  induction l with
  | nil => intro _; exact ⟨hab, trivial⟩
  | cons x t ih =>
    intro hc
    cases t with
    | nil => exact ⟨hc.1, hab, trivial⟩
    | cons y t' => exact ⟨hc.1, ih hc.2⟩

theorem Chained.snoc' {R : Sys → Sys → Prop} {a b : Sys} (hab : R a b) (l : List Sys)
    (hc : Chained R (l ++ [a])) : Chained R (l ++ [a] ++ [b]) := by
  rw [List.append_assoc]; exact Chained.snoc hab l hc

def c13x_moves : List Move :=
  [.call 1 c01x_a8 (.propose [] [1]), .call 1 c13x_a9 .ping, .send 1 c13x_a10]

/-- the progress node 1 keeps for node 2 in the last state -/
def c13x_pr2 : Progress := (c13x_a9.raft.prs.progress.lookup 2).getD default

/-- **the history, run once**: the step tests of the three moves and the test of the new states, and
everything the three statements at the end read off the last states -/
theorem c13x_eval :
    (Move.all (fun s mv => mv.ok s && mv.okK && c01x_chk (mv.next s)) c01x_s14 c13x_moves &&
      c01x_chk c01x_s14) = true ∧
    (c13x_a9.raft.state = .leader ∧ c13x_a9.raft.prs.get 2 = some c13x_pr2 ∧
      c13x_pr2.state = .replicate ∧ c13x_pr2.ins.count = 1 ∧ c13x_pr2.ins.cap = 256 ∧
      c13x_pr2.ins.contents = [2]) ∧
    (c05x_a5.raft.msgs ≠ [] ∧ c05x_app.msgType = .msgAppend ∧ c05x_app.entries ≠ [] ∧
      c05x_app.frm = 1 ∧ c05x_app.term = 1) ∧
    (∃ x ∈ c13x_a9.raft.msgs, x.msgType = .msgAppend ∧ x.entries ≠ [] ∧ x.to = 2 ∧ x.commit = 1) ∧
    (c13x_a10.raft.msgs.filter (fun x => x.msgType == .msgHeartbeat && x.to == 2) ≠ [] ∧
      c13x_hb.msgType = .msgHeartbeat ∧ c13x_hb.frm = 1 ∧ c13x_hb.to = 2 ∧ c13x_hb.term = 1 ∧
      c13x_hb.commit = 1) := by
  decide +kernel

theorem c13x_checked : Chained KStep [c01x_s14, c13x_s15, c13x_s16, c13x_s17] ∧
    ∀ s ∈ [c01x_s14, c13x_s15, c13x_s16, c13x_s17], c01x_chk s = true :=
  Move.checked Move.kstep c01x_s14 c13x_moves rfl c13x_eval.1

theorem c13x_tail_steps : Chained KStep [c01x_s14, c13x_s15, c13x_s16, c13x_s17] := c13x_checked.1

theorem c13x_ksteps : Chained KStep c13x_hist :=
  Chained.snoc' c13x_tail_steps.2.2.1 _ (Chained.snoc' c13x_tail_steps.2.1 _
    (Chained.snoc' c13x_tail_steps.1 (c05x_hist ++ [c01x_s11, c01x_s12, c01x_s13]) c01x_ksteps))

theorem c13x_history : History c13x_hist := history_of_chained (fun _ _ hc => hc.step) _ c13x_ksteps

theorem c13x_chk_all : ∀ s ∈ c13x_hist, c01x_chk s = true := by
  intro s hs
  simp only [c13x_hist, List.mem_append, List.mem_singleton] at hs
  rcases hs with ((c | c) | c) | c
  · exact c01x_chk_all s c
  · rw [c]; exact c13x_checked.2 _ (.tail _ (.head _))
  · rw [c]; exact c13x_checked.2 _ (.tail _ (.tail _ (.head _)))
  · rw [c]; exact c13x_checked.2 _ (.tail _ (.tail _ (.tail _ (.head _))))

/-- **the extended history satisfies every hypothesis of the commit layer** -/
theorem c13x_hyp3 : Hyp3 c02x_cfg 0 c13x_hist :=
  c01x_hyp3_of c13x_history c13x_ksteps rfl c13x_chk_all

theorem c13x_window :
    c13x_hist[15]? = some c13x_s15 ∧ c13x_s15.node 1 = some c13x_a9 ∧
    c13x_a9.raft.state = .leader ∧ c13x_a9.raft.prs.get 2 = some c13x_pr2 ∧
    c13x_pr2.state = .replicate ∧ c13x_pr2.ins.count = 1 ∧ c13x_pr2.ins.cap = 256 ∧
    c13x_pr2.ins.contents = [2] :=
  ⟨rfl, rfl, c13x_eval.2.1⟩

/-- the transport of the last state holds an entry-carrying `MsgAppend` of node 1 for term 1 (the one
node 2 acknowledged), and the queue of node 1 holds the entry-carrying `MsgAppend` of the proposal,
advertising commit index 1 -/
theorem c13x_appends :
    (c05x_app ∈ c13x_s15.net ∧ c05x_app.msgType = .msgAppend ∧ c05x_app.entries ≠ [] ∧
      c05x_app.frm = 1 ∧ c05x_app.term = 1) ∧
    (∃ x ∈ c13x_a9.raft.msgs, x.msgType = .msgAppend ∧ x.entries ≠ [] ∧ x.to = 2 ∧ x.commit = 1) :=
  ⟨⟨List.mem_append_left _ (List.mem_append_right _ (c02x_head_mem _ c13x_eval.2.2.1.1)),
    c13x_eval.2.2.1.2⟩, c13x_eval.2.2.2.1⟩

/-- the transport of the last state holds the heartbeat of node 1 (term 1) to node 2, advertising
commit index 1 — the index node 2 acknowledged -/
theorem c13x_heartbeat :
    c13x_hist[17]? = some c13x_s17 ∧ c13x_hb ∈ c13x_s17.net ∧ c13x_hb.msgType = .msgHeartbeat ∧
    c13x_hb.frm = 1 ∧ c13x_hb.to = 2 ∧ c13x_hb.term = 1 ∧ c13x_hb.commit = 1 := by
  refine ⟨rfl, ?_, c13x_eval.2.2.2.2.2⟩
  apply List.mem_append_right
  have : c13x_hb ∈ c13x_a10.raft.msgs.filter (fun x => x.msgType == .msgHeartbeat && x.to == 2) :=
    c02x_head_mem _ c13x_eval.2.2.2.2.1
  exact (List.mem_filter.1 this).1

end Cluster
end RaftModel
