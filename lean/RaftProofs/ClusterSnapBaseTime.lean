import RaftProofs.ClusterSnapBaseAck

/-!
Commit safety of `ClusterSem`: **Log Matching across time**, once for the chains that count
(`Live.At live`: the queue of a node counts only if it is `live`; `allQ` for a history without
`batch_append`, `Cluster.M.live` — the queues of the nodes that are not mute — for one with it).
`FactsT live cfg h` adds to `FactsR` the invariant of the Log Matching layer and the transition a step
induces; from it: the term floor of the owner of an entry (`entry_floor`), what a state knows about the
chains of all earlier states (`past_all`), `agree_all`, and where entries come from (`entry_prov`).
-/
namespace RaftModel
namespace Cluster
namespace Snap5
open Node Raft Raft.CC RaftProps.C02 RaftProps.C05 Snap

variable {live : List Message → Prop} {cfg : JointConfig} {h : List Sys}

/-- what the state `sN = h[N]` knows about the chains of all earlier states -/
structure PastL (live : List Message → Prop) (h : List Sys) (N : Nat) (sN : Sys) : Prop where
  agree : ∀ m sm, m ≤ N → h[m]? = some sm → ∀ l1 g1 l2 g2, Live.At live sm l1 g1 → Live.At live sN l2 g2 →
    Agree g1 g2
  lead : ∀ m sm, m ≤ N → h[m]? = some sm → ∀ loc g, Live.At live sm loc g → ∀ q e, g.entryAt q = some e →
    ∀ k st, sN.node k = some st → st.raft.state = .leader → st.raft.term = e.term →
      q ≤ st.raft.raftLog.lastIndex
  fresh : ∀ m sm, m ≤ N → h[m]? = some sm → ∀ loc g, Live.At live sm loc g → ∀ q e, g.entryAt q = some e →
    ∀ k st, Owner h k e.term → sN.node k = some st → CanLead st.raft e.term → False

/-- **what Log Matching across time rests on** -/
structure FactsT (live : List Message → Prop) (cfg : JointConfig) (h : List Sys) : Prop
    extends FactsR cfg h where
  inv_at : ∃ s0, h[0]? = some s0 ∧
    ∀ s ∈ h, Live.InvL live (Owner h) (Live.EntriesOf live s0) s
  trans {n : Nat} {a b : Sys} (ha : h[n]? = some a) (hb : h[n + 1]? = some b) :
    ∃ k st st' pers crash, Live.Trans live a b k st st' pers crash

/-- a term has one owner -/
theorem FactsT.owner_uniq (B : FactsT live cfg h) : ∀ i j t, Owner h i t → Owner h j t → i = j :=
  owner_unique cfg B.ne B.nd1 B.nd2 h B.hist B.fix

/-- **the term floor of the owner**: wherever an entry of term `τ` sits, the node that leads `τ` (somewhere in the history) has `τ` as a floor of its term, in memory and in the storage -/
theorem FactsT.entry_floor (B : FactsT live cfg h) :
    ∀ (n : Nat) (s : Sys), h[n]? = some s → ∀ loc g, Live.At live s loc g → ∀ i e, g.entryAt i = some e →
      ∀ k, Owner h k e.term → FloorAt s k e.term := by
  obtain ⟨s0, h0, hall⟩ := B.inv_at
  refine hist_induct h _ ?_ ?_
  · intro s hs loc g hat i e he k hown st hk
    rw [h0] at hs; cases hs
    have I := hall s0 (mem_of_get h0)
    obtain ⟨_, sto, hboot, _, _, _⟩ := B.init s0 h0
    obtain ⟨c, rnd, hb⟩ := hboot k st hk
    have hbt := CV.boot_booted c _ rnd st hb
    have hnc : ¬ CanLead st.raft e.term := fun hc => I.fresh k e.term st hown hk hc loc g hat i e he rfl
    have hge : e.term ≤ st.raft.term := by
      apply Classical.byContradiction
      intro hlt
      exact hnc (.inl (by omega))
    exact ⟨hge, by rw [hbt.hs, ← hbt.term]; exact hge⟩
  · intro n a b ha hb ih loc' g' hat i e he k hown
    have I := hall a (mem_of_get ha)
    have hstep := (B.rels n a b ha hb).1
    obtain ⟨κ, st, st', pers, crash, T⟩ := B.trans ha hb
    rcases T.prov loc' g' hat i e he with ⟨loc, g, hA, hE, _⟩ | ⟨_, hl, ht, _⟩
    · exact (ih loc g hA i e hE k hown).step hstep
    · -- a fresh entry: its owner is the node that just appended it, which leads the term
      have hlead : leads b κ e.term := ⟨st', T.hk', hl, ht.symm⟩
      have hk : k = κ := B.owner_uniq k κ e.term hown ⟨b, mem_of_get hb, hlead⟩
      subst hk
      obtain ⟨st2, h1, h2, h3⟩ := B.leader_floor (mem_of_get hb) hlead
      intro st3 hk3
      rw [h1] at hk3; cases hk3
      exact ⟨h2, h3⟩



/-- the induction for Log Matching across time -/
theorem FactsT.past_all (B : FactsT live cfg h) : ∀ (n : Nat) (s : Sys), h[n]? = some s → PastL live h n s := by
  obtain ⟨s0, h0, hall⟩ := B.inv_at
  have hfloor := B.entry_floor
  refine hist_induct h _ ?_ ?_
  · intro s hs
    have I := hall s (mem_of_get hs)
    refine ⟨?_, ?_, ?_⟩
    · intro m sm hm hsm l1 g1 l2 g2 h1 h2
      have : m = 0 := by omega
      subst this
      rw [hs] at hsm; cases hsm
      exact I.agree l1 g1 l2 g2 h1 h2
    · intro m sm hm hsm loc g hat q e he k st hk hl ht
      have : m = 0 := by omega
      subst this
      rw [hs] at hsm; cases hsm
      exact I.lead k st hk hl loc g hat q e he ht.symm
    · intro m sm hm hsm loc g hat q e he k st hown hk hc
      have : m = 0 := by omega
      subst this
      rw [hs] at hsm; cases hsm
      exact I.fresh k e.term st hown hk hc loc g hat q e he rfl
  · intro n a b ha hb ih
    have Ia := hall a (mem_of_get ha)
    have Ib := hall b (mem_of_get hb)
    have hstep := (B.rels n a b ha hb).1
    obtain ⟨κ, st, st', pers, crash, T⟩ := B.trans ha hb
    have hownb : ∀ i t, leads b i t → Owner h i t := fun i t hl => ⟨b, mem_of_get hb, hl⟩
    -- a node of `b` is the stepping node or an untouched one
    have node' : ∀ j stj', b.node j = some stj' →
        (j = κ ∧ st' = stj') ∨ (j ≠ κ ∧ a.node j = some stj') := by
      intro j stj' hj
      by_cases hjk : j = κ
      · subst hjk
        rw [T.hk'] at hj
        cases hj
        exact .inl ⟨rfl, rfl⟩
      · exact .inr ⟨hjk, by rw [← T.oth j hjk]; exact hj⟩
    -- the `fresh` clause first (the other two use it at `n`)
    have hfresh : ∀ m sm, m ≤ n + 1 → h[m]? = some sm → ∀ loc g, Live.At live sm loc g → ∀ q e,
        g.entryAt q = some e → ∀ k stk, Owner h k e.term → b.node k = some stk →
        CanLead stk.raft e.term → False := by
      intro m sm hm hsm loc g hat q e he k stk hown hk hc
      by_cases hmn : m = n + 1
      · subst hmn
        rw [hb] at hsm; cases hsm
        exact Ib.fresh k e.term stk hown hk hc loc g hat q e he rfl
      · have hm' : m ≤ n := by omega
        rcases node' k stk hk with ⟨rfl, rfl⟩ | ⟨_, hka⟩
        · rcases T.rt with ⟨rt, _⟩ | ⟨hf, hte, _, _⟩
          · exact ih.fresh m sm hm' hsm loc g hat q e he k st hown T.hk (hc.back rt)
          · -- restarted: its term is the stored one, which is at least the entry's term
            have hfl := (hfloor m sm hsm loc g hat q e he k hown).steps
              ((hist_all B.hist).2.2 m n sm a hm' hsm ha) st T.hk
            rcases hc with c | ⟨_, c⟩
            · omega
            · rw [hf] at c; cases c
        · exact ih.fresh m sm hm' hsm loc g hat q e he k stk hown hka hc
    have hlead : ∀ m sm, m ≤ n + 1 → h[m]? = some sm → ∀ loc g, Live.At live sm loc g → ∀ q e,
        g.entryAt q = some e → ∀ k stk, b.node k = some stk → stk.raft.state = .leader →
        stk.raft.term = e.term → q ≤ stk.raft.raftLog.lastIndex := by
      intro m sm hm hsm loc g hat q e he k stk hk hl ht
      by_cases hmn : m = n + 1
      · subst hmn
        rw [hb] at hsm; cases hsm
        exact Ib.lead k stk hk hl loc g hat q e he ht.symm
      · have hm' : m ≤ n := by omega
        rcases node' k stk hk with ⟨rfl, rfl⟩ | ⟨_, hka⟩
        · have hown : Owner h k e.term := by
            rw [← ht]; exact hownb k _ ⟨st', T.hk', hl, rfl⟩
          rcases T.rt with ⟨rt, _⟩ | ⟨hf, _⟩
          · rcases rt.lead hl with c | ⟨c1, c2 | c2⟩
            · exact (ih.fresh m sm hm' hsm loc g hat q e he k st hown T.hk (.inl (by omega))).elim
            · exact (ih.fresh m sm hm' hsm loc g hat q e he k st hown T.hk
                (.inr ⟨by omega, c2⟩)).elim
            · have := ih.lead m sm hm' hsm loc g hat q e he k st T.hk c2 (by omega)
              have := T.keep c2 hl c1.symm
              omega
          · rw [hf] at hl; cases hl
        · exact ih.lead m sm hm' hsm loc g hat q e he k stk hka hl ht
    refine ⟨?_, hlead, hfresh⟩
    intro m sm hm hsm l1 g1 l2 g2 h1 h2
    by_cases hmn : m = n + 1
    · subst hmn
      rw [hb] at hsm; cases hsm
      exact Ib.agree l1 g1 l2 g2 h1 h2
    · have hm' : m ≤ n := by omega
      intro i e1 e2 he1 he2 hterm
      rcases T.prov l2 g2 h2 i e2 he2 with ⟨loc, x, hA, hE, hP, _⟩ | ⟨_, hl, ht, hi, _, _⟩
      · obtain ⟨heq, hpp⟩ := ih.agree m sm hm' hsm l1 g1 loc x h1 hA i e1 e2 he1 hE hterm
        exact ⟨heq, fun p p' hp hp' => hpp p p' hp (hP p' hp')⟩
      · -- a fresh link: nothing of its index and term existed before
        exfalso
        have hown : Owner h κ e1.term := by
          rw [hterm, ht]; exact hownb κ _ ⟨st', T.hk', hl, rfl⟩
        rcases T.rt with ⟨rt, _⟩ | ⟨hf, _⟩
        · rcases rt.lead hl with c | ⟨c1, c2 | c2⟩
          · exact ih.fresh m sm hm' hsm l1 g1 h1 i e1 he1 κ st hown T.hk (.inl (by omega))
          · exact ih.fresh m sm hm' hsm l1 g1 h1 i e1 he1 κ st hown T.hk (.inr ⟨by omega, c2⟩)
          · have := ih.lead m sm hm' hsm l1 g1 h1 i e1 he1 κ st T.hk c2 (by omega)
            omega
        · rw [hf] at hl; cases hl

/-- **Log Matching across time**: any two chains of any two states of the history agree -/
theorem FactsT.agree_all (B : FactsT live cfg h) (n n' : Nat) (s s' : Sys) (hn : h[n]? = some s)
    (hn' : h[n']? = some s') (l1 l2 : Loc) (g1 g2 : LLog) (h1 : Live.At live s l1 g1) (h2 : Live.At live s' l2 g2) :
    Agree g1 g2 := by
  rcases Nat.le_total n n' with hle | hle
  · exact (B.past_all n' s' hn').agree n s hle hn l1 g1 l2 g2 h1 h2
  · exact ((B.past_all n s hn).agree n' s' hle hn' l2 g2 l1 g1 h2 h1).symm

/-- **where entries come from**: an entry of the initial state, or created by the leader of its term -/
theorem FactsT.entry_prov (B : FactsT live cfg h) :
    ∃ s0, h[0]? = some s0 ∧ ∀ (n : Nat) (s : Sys), h[n]? = some s → ∀ loc g, Live.At live s loc g →
      ∀ q e, g.entryAt q = some e → Live.EntriesOf live s0 e ∨ Born h n q e := by
  obtain ⟨s0, h0, hall⟩ := B.inv_at
  refine ⟨s0, h0, ?_⟩
  refine hist_induct h _ ?_ ?_
  · intro s hs loc g hat q e he
    rw [h0] at hs; cases hs
    exact .inl ⟨loc, g, q, hat, he⟩
  · intro n a b ha hb ih loc' g' hat q e he
    have I := hall a (mem_of_get ha)
    have hstep := (B.rels n a b ha hb).1
    obtain ⟨κ, st, st', pers, crash, T⟩ := B.trans ha hb
    rcases T.prov loc' g' hat q e he with ⟨loc, g, hA, hE, _⟩ | ⟨_, hl, ht, hi, hL, _⟩
    · rcases ih loc g hA q e hE with c | ⟨m, s, l, stl, c1, c2⟩
      · exact .inl c
      · exact .inr ⟨m, s, l, stl, Nat.le_succ_of_le c1, c2⟩
    · right
      refine ⟨n + 1, b, κ, st', Nat.le_refl _, hb, T.hk', hl, ht.symm, hL, fun k e' hk hqk => ?_⟩
      rcases (B.rels n a b ha hb).2 κ st st' T.hk T.hk' with c | c
      · rw [ht]
        refine c.own hl k e' hk ?_
        rw [← (I.inv κ st T.hk).lastIndex_abs]; omega
      · obtain ⟨_, st2, cf, rnd, _, _, h3, h4⟩ := c
        have := T.hk'
        rw [h4, node_setNode_self] at this
        cases this
        rw [(CV.boot_booted cf _ rnd st' h3).state] at hl; cases hl


/-- an entry of the initial state has a term below every term that is ever led -/
theorem FactsT.init_entry_term (B : FactsT live cfg h) {s0 : Sys} (h0 : h[0]? = some s0) {e : Entry}
    (he : Live.EntriesOf live s0 e) {n : Nat} {s : Sys} (hn : h[n]? = some s) {l t : Nat}
    (hl : leads s l t) : e.term < t := by
  obtain ⟨hnet, sto, hboot, hwf, _, hbound⟩ := B.init s0 h0
  -- the leader already ran in the initial state
  have hex : ∃ st0, s0.node l = some st0 := by
    obtain ⟨st, hk, _⟩ := hl
    exact node_back_steps ((hist_all B.hist).2.2 0 n s0 s (Nat.zero_le _) h0 hn) l st hk
  obtain ⟨st0, hl0⟩ := hex
  have hlt := B.lead_above_init h0 hl0 hn hl
  obtain ⟨c, rnd, hb⟩ := hboot l st0 hl0
  have hbt := CV.boot_booted c _ rnd st0 hb
  obtain ⟨loc, g, i, hat, hge⟩ := he
  -- every chain of the initial state is a stored log
  have hchain : ∃ j stj, s0.node j = some stj ∧ g = storeLog (sto j) := by
    cases loc with
    | log j =>
      obtain ⟨stj, h1, h2⟩ := hat
      obtain ⟨cj, rj, hbj⟩ := hboot j stj h1
      exact ⟨j, stj, h1, h2.trans (boot_log cj _ rj stj (hwf j stj h1).1 hbj).2.1⟩
    | store j =>
      obtain ⟨stj, h1, h2⟩ := hat
      obtain ⟨cj, rj, hbj⟩ := hboot j stj h1
      exact ⟨j, stj, h1, h2.trans (boot_log cj _ rj stj (hwf j stj h1).1 hbj).2.2⟩
    | queue j =>
      obtain ⟨stj, x, h1, hx, _⟩ := hat
      obtain ⟨cj, rj, hbj⟩ := hboot j stj h1
      rw [(CV.boot_booted cj _ rj stj hbj).msgs] at hx
      cases hx.1
    | net =>
      obtain ⟨x, hx, _⟩ := hat
      rw [hnet] at hx
      cases hx
  obtain ⟨j, stj, hj, hg⟩ := hchain
  subst hg
  have := hbound j l stj st0 hj hl0 e ((storeLog (sto j)).entryAt_mem hge)
  rw [hbt.term] at hlt
  omega

end Snap5
end Cluster
end RaftModel
