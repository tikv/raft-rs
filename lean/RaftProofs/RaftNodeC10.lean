import RaftProofs.RaftHandlers
import RaftProofs.Inflights

/-!
Helper lemmas for C10 (`RaftProps/C10.lean`): what `free_first_one` does to a window that satisfies
the ring invariant; `get`/`set` on the progress map; and what the sending path
(`maybe_send_append` and everything it calls) can and cannot do to a `Progress` and to the node.
-/
namespace RaftModel.Inflights

theorem full_count_pos (s : Inflights) (h : Inv s) (hf : s.full = true)
    (hc : 0 < s.cap) : 0 < s.count := by
  unfold full at hf
  cases hi : s.incomingCap with
  | none => simp [hi] at hf; omega
  | some c => exact (h.pend c hi).1

theorem abs_count (s : Inflights) : s.abs.items.length = s.count := by simp [abs]

theorem drained_items (f : Fifo) : f.drained.items = f.items := by
  unfold Fifo.drained; split <;> simp_all

/-- `free_first_one` on a non-empty window: no panic, invariant kept, strictly fewer in flight -/
theorem freeFirstOne_count_lt (s : Inflights) (h : Inv s) (hc : 0 < s.count) :
    ∃ s', s.freeFirstOne = .ok s' ∧ Inv s' ∧ s'.count < s.count := by
  obtain ⟨s', e, i, a⟩ := freeFirstOne_refines s h
  refine ⟨s', e, i, ?_⟩
  have hl := congrArg (fun f => f.items.length) a
  simp only [abs_count] at hl
  rw [hl]
  cases hit : s.abs.items with
  | nil => have := abs_count s; rw [hit] at this; simp at this; omega
  | cons b l =>
    have hcnt : s.count = l.length + 1 := by rw [← abs_count s, hit]; rfl
    simp only [Fifo.freeFirstOne, hit, Fifo.freeTo, drained_items, List.dropWhile_cons,
      Nat.le_refl, decide_true, if_true]
    have := (List.dropWhile_sublist (fun b_1 => decide (b_1 ≤ b)) (l := l)).length_le
    omega

theorem dropWhile_all_false {α} (p : α → Bool) (l : List α) (h : ∀ x ∈ l, p x = false) :
    l.dropWhile p = l := by
  cases l with
  | nil => rfl
  | cons a l => simp [h a (by simp)]

/-- for the strictly increasing windows the leader builds, exactly one slot is freed -/
theorem freeFirstOne_count_exact (s : Inflights) (h : Inv s) (hc : 0 < s.count)
    (hinc : s.contents.Pairwise (· < ·)) :
    ∃ s', s.freeFirstOne = .ok s' ∧ Inv s' ∧ s'.count + 1 = s.count ∧
      s'.contents = s.contents.tail := by
  obtain ⟨s', e, i, a⟩ := freeFirstOne_refines s h
  refine ⟨s', e, i, ?_⟩
  rw [← items_eq_contents s h] at hinc
  rw [← items_eq_contents s h, ← items_eq_contents s' i]
  have hit' : s'.items = s'.abs.items := rfl
  have hit0 : s.items = s.abs.items := rfl
  rw [hit', a, ← items_length s', hit', a]
  cases hit : s.abs.items with
  | nil => have := abs_count s; rw [hit] at this; simp at this; omega
  | cons b l =>
    have hcnt : s.count = l.length + 1 := by rw [← abs_count s, hit]; rfl
    rw [hit0, hit, List.pairwise_cons] at hinc
    have hd : l.dropWhile (fun x => decide (x ≤ b)) = l :=
      dropWhile_all_false _ l (by intro x hx; have := hinc.1 x hx; simp; omega)
    simp only [Fifo.freeFirstOne, hit, Fifo.freeTo, drained_items, List.dropWhile_cons,
      Nat.le_refl, decide_true, if_true, hd, hit0, List.tail_cons]
    exact ⟨by omega, trivial⟩

/-- without a pending capacity reduction, freeing the first slot of a non-empty window leaves it
not full -/
theorem freeFirstOne_not_full (s : Inflights) (hs : Inv s) (hc : 0 < s.count)
    (hp : s.incomingCap = none) :
    ∃ s', s.freeFirstOne = .ok s' ∧ Inv s' ∧ s'.count < s.count ∧ s'.full = false := by
  obtain ⟨s', e, i, hlt⟩ := freeFirstOne_count_lt s hs hc
  obtain ⟨s'', e', _, a⟩ := freeFirstOne_refines s hs
  rw [e] at e'; cases e'
  refine ⟨s', e, i, hlt, ?_⟩
  have hcl := hs.count_le
  have hcap' : s'.cap = s.cap ∧ s'.incomingCap = none := by
    have h1 := congrArg Fifo.cap a
    have h2 := congrArg Fifo.pending a
    simp only [abs] at h1 h2
    revert h1 h2
    simp only [Fifo.freeFirstOne, Fifo.freeTo, Fifo.drained, hp]
    split <;> (try split) <;> simp_all
  simp [full, hcap'.1, hcap'.2]; omega
end RaftModel.Inflights

namespace RaftModel

theorem NatMap.lookup_modify_self {α : Type} (k : Nat) (f : α → α) (m : List (Nat × α)) :
    (NatMap.modify k f m).lookup k = (m.lookup k).map f := by
  induction m with
  | nil => rfl
  | cons a m ih =>
    obtain ⟨k', v⟩ := a
    by_cases h : k' = k
    · subst h; simp [NatMap.modify]
    · have h2 : (k == k') = false := by simp; omega
      simp only [NatMap.modify, List.map_cons, h, if_false, List.lookup_cons, h2]
      exact ih

theorem NatMap.lookup_modify_ne {α : Type} (k j : Nat) (hj : j ≠ k) (f : α → α)
    (m : List (Nat × α)) : (NatMap.modify k f m).lookup j = m.lookup j := by
  induction m with
  | nil => rfl
  | cons a m ih =>
    obtain ⟨k', v⟩ := a
    by_cases h : k' = k
    · subst h
      have h2 : (j == k') = false := by simp; omega
      simp only [NatMap.modify, List.map_cons, if_true, List.lookup_cons, h2]
      exact ih
    · simp only [NatMap.modify, List.map_cons, h, if_false, List.lookup_cons]
      split
      · rfl
      · exact ih

theorem NatMap.keys_modify {α : Type} (k : Nat) (f : α → α) (m : List (Nat × α)) :
    (NatMap.modify k f m).map (·.1) = m.map (·.1) := by
  induction m with
  | nil => rfl
  | cons a m ih =>
    simp only [NatMap.modify, List.map_cons] at ih ⊢
    rw [ih]; split <;> rfl

namespace ProgressTracker
theorem get_set_self (t : ProgressTracker) (id : Nat) (p q : Progress) (h : t.get id = some q) :
    (t.set id p).get id = some p := by
  simp only [get, set] at *
  rw [NatMap.lookup_modify_self, h]; rfl

theorem get_set_ne (t : ProgressTracker) (id j : Nat) (p : Progress) (h : j ≠ id) :
    (t.set id p).get j = t.get j := by
  simp only [get, set]
  exact NatMap.lookup_modify_ne id j h _ _

theorem keys_set (t : ProgressTracker) (id : Nat) (p : Progress) :
    (t.set id p).progress.map (·.1) = t.progress.map (·.1) := by
  simp only [set]; exact NatMap.keys_modify _ _ _
end ProgressTracker

/-- what the sending path (`update_state`, `become_snapshot`) and `update_committed` may do to a
`Progress`: `matched` is kept, the state is kept or becomes `Snapshot`, and a progress already in
`Snapshot` keeps its pending snapshot index -/
def SendRel (p p' : Progress) : Prop :=
  p'.matched = p.matched ∧ (p'.state = p.state ∨ p'.state = .snapshot) ∧
  (p.state = .snapshot → p'.pendingSnapshot = p.pendingSnapshot)

theorem SendRel.refl (p : Progress) : SendRel p p := ⟨rfl, Or.inl rfl, fun _ => rfl⟩

theorem SendRel.trans {p q s : Progress} (h1 : SendRel p q) (h2 : SendRel q s) : SendRel p s := by
  obtain ⟨a1, b1, c1⟩ := h1
  obtain ⟨a2, b2, c2⟩ := h2
  refine ⟨a2.trans a1, ?_, ?_⟩
  · rcases b2 with b2 | b2
    · rw [b2]; exact b1
    · exact Or.inr b2
  · intro hp
    have hq : q.state = .snapshot := by rcases b1 with b1 | b1 <;> simp_all
    rw [c2 hq, c1 hp]

theorem updateState_rel (p p' : Progress) (last : Nat) (h : p.updateState last = .ok p') :
    SendRel p p' := by
  unfold Progress.updateState at h
  split at h
  · rename_i hs
    split at h
    · cases h
    · split at h
      · cases h; exact ⟨rfl, Or.inl rfl, fun hh => by simp [hs] at hh⟩
      · cases h
  · cases h; exact ⟨rfl, Or.inl rfl, fun _ => rfl⟩
  · cases h

namespace Raft

theorem send_frameP (r r' : Raft) (m : Message) (h : r.send m = .ok r') :
    r'.prs = r.prs ∧ r'.raftLog = r.raftLog ∧ r'.msgs = r.msgs ++ [r.sendFill m] := by
  rw [send_eq r r' m h]; exact ⟨rfl, rfl, rfl⟩

theorem prepareSendSnapshot_rel (r r' : Raft) (m m' : Message) (pr pr' : Progress) (to : Nat)
    (b : Bool) (h : r.prepareSendSnapshot m pr to = .ok (r', m', pr', b)) :
    r'.prs = r.prs ∧ r'.msgs = r.msgs ∧ pr'.matched = pr.matched ∧ m'.to = m.to ∧
    (b = true → m'.msgType = .msgSnapshot ∧ pr'.state = .snapshot) ∧ (b = false → pr' = pr) ∧
    (b = false → pr.recentActive = false ∨
      (r.raftLog.snapshot pr.pendingRequestSnapshot).2 = .err .snapshotTemporarilyUnavailable) := by
  unfold Raft.prepareSendSnapshot at h
  split at h
  · rename_i hra
    cases h
    exact ⟨rfl, rfl, rfl, rfl, by simp, by simp, fun _ => Or.inl (by simpa using hra)⟩
  · simp only at h
    split at h
    · rename_i heq
      cases h; exact ⟨rfl, rfl, rfl, rfl, by simp, by simp, fun _ => Or.inr heq⟩
    · cases h
    · cases h
    · split at h
      · cases h
      · cases h
        exact ⟨rfl, rfl, rfl, rfl, fun _ => ⟨rfl, rfl⟩, by simp, by simp⟩

theorem prepareSendEntries_rel (r : Raft) (m m' : Message) (pr pr' : Progress) (term : Nat)
    (ents : List Entry) (h : r.prepareSendEntries m pr term ents = .ok (m', pr')) :
    SendRel pr pr' ∧ m'.to = m.to ∧ m'.msgType = .msgAppend := by
  unfold Raft.prepareSendEntries at h
  split at h
  · cases h
  · simp only at h
    split at h
    · cases h; exact ⟨SendRel.refl _, rfl, rfl⟩
    · split at h
      · rename_i pr1 hu
        cases h; exact ⟨updateState_rel _ _ _ hu, rfl, rfl⟩
      · cases h
      · cases h

theorem tryBatchingLoop_rel (committed to : Nat) (pr : Progress) (ents : List Entry)
    (msgs msgs' : List Message) (pr' : Progress) (b : Bool)
    (h : tryBatchingLoop committed to pr ents msgs = .ok (msgs', pr', b)) :
    SendRel pr pr' ∧ (b = false → pr' = pr) ∧
    (b = true → ∃ m ∈ msgs', m.msgType = .msgAppend ∧ m.to = to) := by
  induction msgs generalizing msgs' with
  | nil => simp only [tryBatchingLoop] at h; cases h; exact ⟨SendRel.refl _, by simp, by simp⟩
  | cons msg rest ih =>
    simp only [tryBatchingLoop] at h
    split at h
    · rename_i hm
      split at h
      · split at h
        · cases h; exact ⟨SendRel.refl _, by simp, by simp⟩
        · split at h
          · cases h
          · split at h
            · rename_i pr1 hu
              cases h
              exact ⟨updateState_rel _ _ _ hu, by simp, fun _ => ⟨_, List.mem_cons_self, hm.1, hm.2⟩⟩
            · cases h
            · cases h
      · cases h
        exact ⟨SendRel.refl _, by simp, fun _ => ⟨_, List.mem_cons_self, hm.1, hm.2⟩⟩
    · split at h
      · rename_i rest' pr1 b1 hrec
        cases h
        obtain ⟨h1, h2, h3⟩ := ih rest' hrec
        refine ⟨h1, h2, ?_⟩
        intro hb
        obtain ⟨m, hm, hx⟩ := h3 hb
        exact ⟨m, List.mem_cons_of_mem _ hm, hx⟩
      · cases h
      · cases h

theorem tryBatching_rel (r r' : Raft) (to : Nat) (pr pr' : Progress) (ents : List Entry) (b : Bool)
    (h : r.tryBatching to pr ents = .ok (r', pr', b)) :
    r'.prs = r.prs ∧ r'.raftLog = r.raftLog ∧ SendRel pr pr' ∧ (b = false → pr' = pr) ∧
    (b = true → ∃ m ∈ r'.msgs, m.msgType = .msgAppend ∧ m.to = to) := by
  unfold Raft.tryBatching at h
  split at h
  · rename_i msgs pr1 b1 hl
    cases h
    obtain ⟨h1, h2, h3⟩ := tryBatchingLoop_rel _ _ _ _ _ _ _ _ hl
    exact ⟨rfl, rfl, h1, h2, h3⟩
  · cases h
  · cases h


/-- `send` fills in sender, term and priority in turn, each time as `if c then { x with … } else x`;
none of the three steps touches the addressee or the type -/
theorem sendFill_to_type (r : Raft) (m : Message) :
    (r.sendFill m).to = m.to ∧ (r.sendFill m).msgType = m.msgType := by
  have step : ∀ {c : Prop} [Decidable c] {a b : Message},
      (a.to = m.to ∧ a.msgType = m.msgType) → (b.to = m.to ∧ b.msgType = m.msgType) →
      (if c then a else b).to = m.to ∧ (if c then a else b).msgType = m.msgType := by
    intro c _ a b ha hb
    split
    · exact ha
    · exact hb
  have sender := step (c := m.frm = 0) (a := { m with frm := r.id }) (b := m) ⟨rfl, rfl⟩ ⟨rfl, rfl⟩
  unfold Raft.sendFill
  exact step (step sender sender) (step sender sender)

theorem SendRel.of_state_ne {p p' : Progress} (hs : p.state ≠ .snapshot)
    (h1 : p'.matched = p.matched) (h2 : p'.state = p.state ∨ p'.state = .snapshot) : SendRel p p' :=
  ⟨h1, h2, fun h => absurd h hs⟩

/-- the snapshot arm shared by the two places `maybe_send_append` falls back to a snapshot -/
theorem sendSnapshotArm (r r' : Raft) (to : Nat) (pr pr' : Progress) (b : Bool)
    (hs : pr.state ≠ .snapshot) (h : r.sendSnapshotTo to pr = .ok (r', pr', b)) :
    r'.prs = r.prs ∧ SendRel pr pr' ∧
    (b = false → pr' = pr ∧ (pr.recentActive = false ∨
      (r.raftLog.snapshot pr.pendingRequestSnapshot).2 = .err .snapshotTemporarilyUnavailable)) ∧
    (b = true → ∃ m ∈ r'.msgs, m.to = to ∧ (m.msgType = .msgAppend ∨ m.msgType = .msgSnapshot)) := by
  unfold sendSnapshotTo at h
  split at h
  · rename_i r1 m1 pr1 hp
    obtain ⟨a1, a2, a3, a4, a5, a6, a7⟩ := prepareSendSnapshot_rel _ _ _ _ _ _ _ _ hp
    obtain ⟨r2, hsd, h⟩ := Res.bind_eq_ok h
    cases h
    obtain ⟨b1, b2, b3⟩ := send_frameP _ _ _ hsd
    refine ⟨b1.trans a1, SendRel.of_state_ne hs a3 (Or.inr (a5 rfl).2), by simp, ?_⟩
    intro _
    refine ⟨r1.sendFill m1, by rw [b3]; simp, ?_, ?_⟩
    · rw [(sendFill_to_type r1 m1).1, a4]
    · rw [(sendFill_to_type r1 m1).2, (a5 rfl).1]; exact Or.inr rfl
  · rename_i r1 m1 pr1 hp
    obtain ⟨a1, a2, a3, a4, a5, a6, a7⟩ := prepareSendSnapshot_rel _ _ _ _ _ _ _ _ hp
    cases h
    have := a6 rfl
    subst this
    exact ⟨a1, SendRel.refl _, fun _ => ⟨rfl, a7 rfl⟩, by simp⟩
  · cases h
  · cases h


/-- the entries arm of `maybe_send_append`: batch into a queued `MsgAppend` or queue a new one -/
theorem sendEntriesArm (r r' : Raft) (to : Nat) (pr pr' : Progress) (term : Nat) (ents : List Entry)
    (b : Bool) (h : r.sendEntriesTo to pr term ents = .ok (r', pr', b)) :
    r'.prs = r.prs ∧ SendRel pr pr' ∧ b = true ∧
    ∃ m ∈ r'.msgs, m.to = to ∧ (m.msgType = .msgAppend ∨ m.msgType = .msgSnapshot) := by
  unfold sendEntriesTo at h
  split at h
  · rename_i r1 pr1 hb
    cases h
    split at hb
    · obtain ⟨a1, a2, a3, a4, a5⟩ := tryBatching_rel _ _ _ _ _ _ _ hb
      obtain ⟨m, hm, hx⟩ := a5 rfl
      exact ⟨a1, a3, rfl, m, hm, hx.2, Or.inl hx.1⟩
    · cases hb
  · rename_i r1 pr1 hb
    have hb' : r1.prs = r.prs ∧ SendRel pr pr1 := by
      split at hb
      · obtain ⟨a1, a2, a3, a4, a5⟩ := tryBatching_rel _ _ _ _ _ _ _ hb
        exact ⟨a1, a3⟩
      · cases hb; exact ⟨rfl, SendRel.refl _⟩
    split at h
    · rename_i m1 pr2 he
      obtain ⟨c1, c2, c3⟩ := prepareSendEntries_rel _ _ _ _ _ _ _ he
      obtain ⟨r2, hsd, h⟩ := Res.bind_eq_ok h
      cases h
      obtain ⟨b1, b2, b3⟩ := send_frameP _ _ _ hsd
      refine ⟨b1.trans hb'.1, hb'.2.trans c1, rfl, r1.sendFill m1, by rw [b3]; simp, ?_, ?_⟩
      · rw [(sendFill_to_type r1 m1).1, c2]
      · rw [(sendFill_to_type r1 m1).2, c3]; exact Or.inl rfl
    · cases h
    · cases h
  · cases h
  · cases h

/-- why `maybe_send_append` may decline to send: the progress is paused; the caller does not want
an empty append; the storage fetches the entries asynchronously; the follower has not been heard
from (snapshot only); the snapshot is still being generated -/
def SendBlocked (r : Raft) (pr : Progress) (ae : Bool) : Prop :=
  pr.isPaused = true ∨ ae = false ∨
  r.raftLog.entries pr.nextIdx (some r.maxMsgSize) true = .err .logTemporarilyUnavailable ∨
  pr.recentActive = false ∨
  (r.raftLog.snapshot pr.pendingRequestSnapshot).2 = .err .snapshotTemporarilyUnavailable

theorem maybeSendAppend_rel (r r' : Raft) (to : Nat) (pr pr' : Progress) (ae b : Bool)
    (h : r.maybeSendAppend to pr ae = .ok (r', pr', b)) :
    r'.prs = r.prs ∧ SendRel pr pr' ∧ (b = false → pr' = pr ∧ SendBlocked r pr ae) ∧
    (b = true → pr.isPaused = false ∧
      ∃ m ∈ r'.msgs, m.to = to ∧ (m.msgType = .msgAppend ∨ m.msgType = .msgSnapshot)) := by
  have viaSnap : pr.isPaused = false → r.sendSnapshotTo to pr = .ok (r', pr', b) →
      r'.prs = r.prs ∧ SendRel pr pr' ∧ (b = false → pr' = pr ∧ SendBlocked r pr ae) ∧
      (b = true → pr.isPaused = false ∧
        ∃ m ∈ r'.msgs, m.to = to ∧ (m.msgType = .msgAppend ∨ m.msgType = .msgSnapshot)) := by
    intro hp hs
    have hst : pr.state ≠ .snapshot := by
      intro hh; simp [Progress.isPaused, hh] at hp
    obtain ⟨a, b1, c, d⟩ := sendSnapshotArm _ _ _ _ _ _ hst hs
    exact ⟨a, b1, fun hb => ⟨(c hb).1, .inr (.inr (.inr (c hb).2))⟩, fun hb => ⟨hp, d hb⟩⟩
  cases maybeSendAppend_inv h with
  | paused hp => exact ⟨rfl, SendRel.refl _, fun _ => ⟨rfl, .inl hp⟩, nofun⟩
  | idle _ _ hae => exact ⟨rfl, SendRel.refl _, fun _ => ⟨rfl, .inr (.inl hae)⟩, nofun⟩
  | fetching _ _ _ _ he =>
    exact ⟨rfl, SendRel.refl _, fun _ => ⟨rfl, .inr (.inr (.inl he))⟩, nofun⟩
  | requested hp _ hs => exact viaSnap hp hs.symm
  | fallback hp _ _ _ hs => exact viaSnap hp hs.symm
  | entries hp _ _ _ _ _ hs =>
    obtain ⟨a, b1, c, d⟩ := sendEntriesArm _ _ _ _ _ _ _ _ hs.symm
    subst c
    exact ⟨a, b1, nofun, fun _ => ⟨hp, d⟩⟩

end Raft
end RaftModel

namespace RaftModel

/-- every progress of `t` is still there in `t'`, related by `SendRel` -/
def TRel (t t' : ProgressTracker) : Prop :=
  ∀ id pr, t.get id = some pr → ∃ pr', t'.get id = some pr' ∧ SendRel pr pr'

theorem TRel.refl (t : ProgressTracker) : TRel t t := fun _ pr h => ⟨pr, h, SendRel.refl _⟩

theorem TRel.of_eq {t t' : ProgressTracker} (h : t' = t) : TRel t t' := h ▸ TRel.refl t

theorem TRel.trans {a b c : ProgressTracker} (h1 : TRel a b) (h2 : TRel b c) : TRel a c := by
  intro id pr hg
  obtain ⟨p1, g1, r1⟩ := h1 id pr hg
  obtain ⟨p2, g2, r2⟩ := h2 id p1 g1
  exact ⟨p2, g2, r1.trans r2⟩

theorem TRel.set (t : ProgressTracker) (id : Nat) (pr pr' : Progress) (hg : t.get id = some pr)
    (h : SendRel pr pr') : TRel t (t.set id pr') := by
  intro j q hq
  by_cases hj : j = id
  · subst hj
    rw [hg] at hq; cases hq
    exact ⟨pr', ProgressTracker.get_set_self t j pr' pr hg, h⟩
  · exact ⟨q, by rw [ProgressTracker.get_set_ne t id j pr' hj]; exact hq, SendRel.refl _⟩

namespace Raft

/-- the progress in hand of peer `id` is `SendRel`-related to the stored one, in a tracker that is
`TRel`-related to `t`: what the `_parts2` lemmas carry for `TRel t` -/
def RelHeld (t : ProgressTracker) (x : Raft) (id : Nat) (p' : Progress) : Prop :=
  TRel t x.prs ∧ ∃ p, x.prs.get id = some p ∧ SendRel p p'

theorem RelHeld.set {t : ProgressTracker} {x : Raft} {id : Nat} {p' : Progress}
    (h : RelHeld t x id p') : TRel t (x.prs.set id p') :=
  let ⟨t1, _, hg, s⟩ := h
  t1.trans (TRel.set _ _ _ _ hg s)

theorem sendAppendPr_rel (r r' : Raft) (to : Nat) (pr pr' : Progress)
    (h : r.sendAppendPr to pr = .ok (r', pr')) : r'.prs = r.prs ∧ SendRel pr pr' := by
  obtain ⟨b, hm⟩ := sendAppendPr_inv h
  obtain ⟨a, b1, _, _⟩ := maybeSendAppend_rel _ _ _ _ _ _ _ hm
  exact ⟨a, b1⟩

theorem sendAppendPr_held {t : ProgressTracker} {r r' : Raft} {to : Nat} {pr pr' : Progress}
    (hg : r.prs.get to = some pr) (h : r.sendAppendPr to pr = .ok (r', pr')) (ht : TRel t r.prs) :
    RelHeld t r' to pr' := by
  obtain ⟨a, b⟩ := sendAppendPr_rel _ _ _ _ _ h
  rw [RelHeld, a]; exact ⟨ht, pr, hg, b⟩

theorem sendAppend_trel (r r' : Raft) (to : Nat) (h : r.sendAppend to = .ok r') :
    TRel r.prs r'.prs :=
  sendAppend_parts2 (P := fun x => TRel r.prs x.prs) (Q := RelHeld r.prs) h
    (fun hg hs => sendAppendPr_held hg hs (TRel.refl _)) RelHeld.set

theorem sendAppendAggressivelyPr_rel (fuel : Nat) (r r' : Raft) (to : Nat) (pr pr' : Progress)
    (h : sendAppendAggressivelyPr fuel r to pr = .ok (r', pr')) :
    r'.prs = r.prs ∧ SendRel pr pr' :=
  sendAppendAggressivelyPr_parts2 (Q := fun x _ p => x.prs = r.prs ∧ SendRel pr p)
    (fun hm ⟨a, b⟩ =>
      let ⟨a1, b1, _, _⟩ := maybeSendAppend_rel _ _ _ _ _ _ _ hm
      ⟨a1.trans a, b.trans b1⟩) fuel r pr h ⟨rfl, SendRel.refl _⟩

theorem sendAppendAggressively_trel (r r' : Raft) (to : Nat)
    (h : r.sendAppendAggressively to = .ok r') : TRel r.prs r'.prs :=
  sendAppendAggressively_parts2 (P := fun x => TRel r.prs x.prs) (Q := RelHeld r.prs) h
    (fun hg hs => by
      obtain ⟨a, b⟩ := sendAppendAggressivelyPr_rel _ _ _ _ _ _ hs
      rw [RelHeld, a]; exact ⟨TRel.refl _, _, hg, b⟩) RelHeld.set

theorem bcastAppend_trel (r r' : Raft) (h : r.bcastAppend = .ok r') : TRel r.prs r'.prs :=
  bcastAppend_parts2 (P := fun x => TRel r.prs x.prs) (Q := RelHeld r.prs) h (TRel.refl _)
    (fun _ hg hs p => sendAppendPr_held hg hs p) RelHeld.set

theorem updateCommitted_rel (p : Progress) (ci : Nat) : SendRel p (p.updateCommitted ci) := by
  unfold Progress.updateCommitted; split
  · exact ⟨rfl, Or.inl rfl, fun _ => rfl⟩
  · exact SendRel.refl _

theorem modifyProgress_trel (r : Raft) (id : Nat) (f : Progress → Progress)
    (hf : ∀ p, SendRel p (f p)) : TRel r.prs (r.modifyProgress id f).prs := by
  intro j q hq
  simp only [Raft.modifyProgress, ProgressTracker.get] at *
  by_cases hj : j = id
  · subst hj
    rw [NatMap.lookup_modify_self, hq]
    exact ⟨f q, rfl, hf q⟩
  · rw [NatMap.lookup_modify_ne id j hj]
    exact ⟨q, hq, SendRel.refl _⟩

theorem maybeCommit_trel (r r' : Raft) (b : Bool) (h : r.maybeCommit = .ok (r', b)) :
    TRel r.prs r'.prs :=
  maybeCommit_parts2 (P := fun x => TRel r.prs x.prs) h (TRel.refl _)
    fun _ => modifyProgress_trel _ _ _ (fun p => updateCommitted_rel p _)

theorem sendTimeoutNow_prs (r r' : Raft) (to : Nat) (h : r.sendTimeoutNow to = .ok r') :
    r'.prs = r.prs := (send_frameP _ _ _ h).1

theorem handleAppendResponseAccepted_trel (r r' : Raft) (m : Message) (pr : Progress) (op : Bool)
    (h : r.handleAppendResponseAccepted m pr op = .ok r') :
    ∃ pr1, (match pr.state with
        | .probe => pr1 = pr.becomeReplicate
        | .snapshot => pr1 = (if pr.isSnapshotCaughtUp then pr.becomeProbe else pr)
        | .replicate => ∃ ins, pr.ins.freeTo m.index = .ok ins ∧ pr1 = { pr with ins := ins }) ∧
      TRel (r.prs.set m.frm pr1) r'.prs := by
  refine handleAppendResponseAccepted_parts2 (m := m)
    (P := fun x => ∃ pr1, (match pr.state with
        | .probe => pr1 = pr.becomeReplicate
        | .snapshot => pr1 = (if pr.isSnapshotCaughtUp then pr.becomeProbe else pr)
        | .replicate => ∃ ins, pr.ins.freeTo m.index = .ok ins ∧ pr1 = { pr with ins := ins }) ∧
      TRel (r.prs.set m.frm pr1) x.prs)
    (R := fun x => ∃ pr1, (match pr.state with
        | .probe => pr1 = pr.becomeReplicate
        | .snapshot => pr1 = (if pr.isSnapshotCaughtUp then pr.becomeProbe else pr)
        | .replicate => ∃ ins, pr.ins.freeTo m.index = .ok ins ∧ pr1 = { pr with ins := ins }) ∧
      TRel (r.prs.set m.frm pr1) x.prs) h ?_
    (fun hc ⟨p, hp, t⟩ => ⟨p, hp, t.trans (maybeCommit_trel _ _ _ hc)⟩)
    (fun hb ⟨p, hp, t⟩ => ⟨p, hp, t.trans (bcastAppend_trel _ _ hb)⟩)
    (fun hs ⟨p, hp, t⟩ => ⟨p, hp, t.trans (sendAppend_trel _ _ _ hs)⟩)
    (fun hs ⟨p, hp, t⟩ => ⟨p, hp, t.trans (sendAppendAggressively_trel _ _ _ hs)⟩)
    (fun q => q)
    (fun _ _ _ hs ⟨p, hp, t⟩ => ⟨p, hp, t.trans (TRel.of_eq (sendTimeoutNow_prs _ _ _ hs))⟩)
  intro pr1 hc
  refine ⟨pr1, ?_, TRel.refl _⟩
  rcases hc with ⟨hs, e⟩ | ⟨hs, e⟩ | ⟨hs, e⟩
  · rw [hs]; exact e
  · rw [hs]; exact e
  · rw [hs] at e ⊢; exact e

theorem handleReadyReadIndex_prs (r r' : Raft) (req : Message) (index : Nat) (om : Option Message)
    (h : r.handleReadyReadIndex req index = .ok (r', om)) : r'.prs = r.prs := by
  unfold Raft.handleReadyReadIndex at h
  split at h
  · split at h
    · cases h
    · cases h; rfl
  · cases h; rfl

theorem respondReadStates_prs (r r' : Raft) (rss : List ReadIndexStatus)
    (h : r.respondReadStates rss = .ok r') : r'.prs = r.prs :=
  respondReadStates_parts (P := fun x => x.prs = r.prs) h rfl
    (fun hr p => (handleReadyReadIndex_prs _ _ _ _ _ hr).trans p)
    fun hs _ p => (send_frameP _ _ _ hs).1.trans p

theorem heartbeatAck_prs (r r' : Raft) (m : Message) (h : r.heartbeatAck m = .ok r') :
    r'.prs = r.prs :=
  heartbeatAck_parts (P := fun x => x.prs = r.prs) h rfl (fun p => p) (fun _ p => p)
    fun _ hr _ p => (respondReadStates_prs _ _ _ hr).trans p

end Raft
end RaftModel
