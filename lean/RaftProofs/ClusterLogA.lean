import RaftProofs.LLog
import RaftProofs.RaftLogStore
import RaftModel.RaftMessage

/-!
Cluster-level Log Matching, helper lemmas part A: the *link* view of a logical log.

A logical log (`LLog`: snapshot point + contiguous entries) is read as a set of **links**: an entry
together with the term of its predecessor (`prevTerm`; the predecessor of the first entry is the
snapshot point, whose term may be unknown after a compaction).  The lists of entries that travel
(`MsgAppend`) and that sit in a storage are logical logs too (`msgLog`, `storeLog`).

* `Sub g h`: every link of `g` is a link of `h`;
* `Agree g h`: links of `g` and `h` with the same (index, term) carry the same entry and — where both
  know it — the same predecessor term.  `Agree` on two gap-free logs is Log Matching
  (`agree_matching`);
* `DerivedFrom C g`: every link of `g` is (at least as informative as) a link of some member of `C`;
  pairwise agreement of `C` is inherited by everything derived from it (`agree_of_derived`).

Links are read position by position: `prevTerm_first` / `prevTerm_succ` give the predecessor term of the
first position and of a successor, `term_ok_iff` ties it to `term` (and so to `matchTerm`); in a gap-free
log the position of an entry is its index (`Contig.entryAt_iff`, whence `Sub.of_contig`).  A log that reads
one log below a position and another from it on is a `Splice`; its links are links of the two once the
junction is one (`Splice.derived`).  Appending at the end and cutting at a conflict are its instances.
-/
namespace RaftModel

/-- the entries of `g` are numbered consecutively after the snapshot point -/
def LLog.Contig (g : LLog) : Prop := ContigFrom (g.snapIdx + 1) g.ents

/-- term of the predecessor of position `i`: the snapshot term (if known) for the first entry, the
term of the entry at `i - 1` otherwise -/
def LLog.prevTerm (g : LLog) (i : Nat) : Option Nat :=
  if i = g.snapIdx + 1 then g.snapTerm else (g.entryAt (i - 1)).map (·.term)

/-- the entries of a `MsgAppend`, anchored at `(index, log_term)` -/
def msgLog (m : Message) : LLog := { snapIdx := m.index, snapTerm := some m.logTerm, ents := m.entries }

/-- the entries of a storage, anchored at its snapshot point (exactly what `RaftLog::new` over that
storage represents) -/
def storeLog (s : MemStorage) : LLog :=
  { snapIdx := s.firstIndex - 1,
    snapTerm := if s.firstIndex - 1 = s.snapshotMetadata.index then some s.snapshotMetadata.term
                else none,
    ents := s.entries }

theorem LLog.Contig.index {g : LLog} (hc : g.Contig) {i : Nat} {e : Entry}
    (h : g.entryAt i = some e) : e.index = i := by
  obtain ⟨h1, h2⟩ := (g.entryAt_some_iff i e).1 h
  have := hc _ _ h2
  omega

theorem LLog.Contig.entryAt_of_mem {g : LLog} (hc : g.Contig) {e : Entry} (he : e ∈ g.ents) :
    g.entryAt e.index = some e :=
  RaftProps.C05.c05_entryAt_of_mem g hc e he

/-- in a gap-free log the position of an entry is its index -/
theorem LLog.Contig.entryAt_iff {g : LLog} (hc : g.Contig) {i : Nat} {e : Entry} :
    g.entryAt i = some e ↔ e ∈ g.ents ∧ e.index = i :=
  ⟨fun h => ⟨g.entryAt_mem h, hc.index h⟩, fun ⟨h1, h2⟩ => h2 ▸ hc.entryAt_of_mem h1⟩

/-! ### the predecessor term, position by position -/

theorem LLog.prevTerm_first (g : LLog) : g.prevTerm (g.snapIdx + 1) = g.snapTerm := if_pos rfl

theorem LLog.prevTerm_succ (g : LLog) {i : Nat} (h : g.snapIdx < i) :
    g.prevTerm (i + 1) = (g.entryAt i).map (·.term) :=
  if_neg fun hc => Nat.ne_of_lt h (Nat.succ.inj hc).symm

/-- only positions above the snapshot point have a predecessor term -/
theorem LLog.prevTerm_lt (g : LLog) {i p : Nat} (h : g.prevTerm i = some p) : g.snapIdx < i := by
  unfold LLog.prevTerm at h
  by_cases h1 : i = g.snapIdx + 1
  · omega
  · rw [if_neg h1] at h
    cases ha : g.entryAt (i - 1) with
    | none => rw [ha] at h; cases h
    | some a => have := (g.entryAt_lt ha).1; omega

/-- in a gap-free log the predecessor term of a position whose predecessor is an entry -/
theorem LLog.prevTerm_of_entry (g : LLog) {i : Nat} {a : Entry} (h : g.entryAt (i - 1) = some a)
    (hi : 0 < i) : g.prevTerm i = some a.term := by
  cases i with
  | zero => cases hi
  | succ j => exact (g.prevTerm_succ (g.entryAt_lt h).1).trans (congrArg _ h)

/-- **`term` and the predecessor term**: inside the log, `term i` answers the predecessor term of
position `i + 1` -/
theorem LLog.term_ok_iff (g : LLog) {i t : Nat} (hs : g.snapIdx ≤ i) (hl : i ≤ g.lastIndex) :
    g.term i = .ok t ↔ g.prevTerm (i + 1) = some t := by
  rcases Nat.lt_or_eq_of_le hs with hs | rfl
  · obtain ⟨a, ha⟩ := g.entryAt_exists hs hl
    rw [g.term_of_entry ha, g.prevTerm_succ hs, ha]
    exact ⟨fun h => (by cases h; rfl), fun h => (by cases h; rfl)⟩
  · rw [g.prevTerm_first]
    unfold LLog.term
    rw [if_neg (fun h => h.elim (Nat.lt_irrefl _) (Nat.not_lt_of_le hl)), if_pos rfl]
    cases g.snapTerm with
    | none => exact ⟨fun h => (by cases h), fun h => (by cases h)⟩
    | some t' => exact ⟨fun h => (by cases h; rfl), fun h => (by cases h; rfl)⟩

/-- `term (n - 1) = ok t` for a position `n` that holds an entry gives the predecessor term -/
theorem LLog.prevTerm_of_term (g : LLog) {n t : Nat} {e : Entry} (hn : g.entryAt n = some e)
    (ht : g.term (n - 1) = .ok t) : g.prevTerm n = some t := by
  have hl := g.entryAt_lt hn
  cases n with
  | zero => cases hl.1
  | succ j => exact (g.term_ok_iff (Nat.le_of_lt_succ hl.1) (Nat.le_of_succ_le hl.2)).1 ht

/-- the matched anchor of an append gives the predecessor term of the position after it -/
theorem LLog.prevTerm_of_match (g : LLog) {i t : Nat} (hm : g.matchTerm i t = true)
    (hs : g.snapIdx ≤ i) (hl : i ≤ g.lastIndex) : g.prevTerm (i + 1) = some t :=
  (g.term_ok_iff hs hl).1 (g.matchTerm_iff.1 hm)

/-! ### links -/

/-- every link of `g` is a link of `h` -/
def Sub (g h : LLog) : Prop :=
  ∀ i e, g.entryAt i = some e →
    h.entryAt i = some e ∧ ∀ p, g.prevTerm i = some p → h.prevTerm i = some p

theorem Sub.refl (g : LLog) : Sub g g := fun _ _ h => ⟨h, fun _ hp => hp⟩

theorem Sub.trans {a b c : LLog} (h1 : Sub a b) (h2 : Sub b c) : Sub a c := by
  intro i e he
  obtain ⟨hb, hpb⟩ := h1 i e he
  obtain ⟨hc, hpc⟩ := h2 i e hb
  exact ⟨hc, fun p hp => hpc p (hpb p hp)⟩

theorem Sub.of_no_entries {g h : LLog} (hg : g.ents = []) : Sub g h := by
  intro i e he
  have := g.entryAt_mem he
  rw [hg] at this
  cases this

/-- links with the same (index, term) agree -/
def Agree (g h : LLog) : Prop :=
  ∀ i e e', g.entryAt i = some e → h.entryAt i = some e' → e.term = e'.term →
    e = e' ∧ ∀ p p', g.prevTerm i = some p → h.prevTerm i = some p' → p = p'

theorem Agree.self (g : LLog) : Agree g g := by
  intro i e e' h1 h2 _
  rw [h1] at h2
  cases h2
  exact ⟨rfl, fun p p' hp hp' => by rw [hp] at hp'; cases hp'; rfl⟩

theorem Agree.symm {g h : LLog} (ha : Agree g h) : Agree h g := by
  intro i e e' h1 h2 ht
  obtain ⟨he, hp⟩ := ha i e' e h2 h1 ht.symm
  exact ⟨he.symm, fun p p' hp1 hp2 => (hp p' p hp2 hp1).symm⟩

/-- every link of `g` is at most as informative as a link of a member of `C` -/
def DerivedFrom (C : LLog → Prop) (g : LLog) : Prop :=
  ∀ i e, g.entryAt i = some e →
    ∃ h, C h ∧ h.entryAt i = some e ∧ ∀ p, g.prevTerm i = some p → h.prevTerm i = some p

theorem DerivedFrom.of_sub {C : LLog → Prop} {g h : LLog} (hs : Sub g h) (hh : C h) :
    DerivedFrom C g := fun i e he => ⟨h, hh, (hs i e he).1, (hs i e he).2⟩

theorem DerivedFrom.of_mem {C : LLog → Prop} {g : LLog} (hg : C g) : DerivedFrom C g :=
  DerivedFrom.of_sub (Sub.refl g) hg

theorem DerivedFrom.mono {C D : LLog → Prop} {g : LLog} (h : DerivedFrom C g)
    (hcd : ∀ x, C x → D x) : DerivedFrom D g := by
  intro i e he
  obtain ⟨x, hx, h1, h2⟩ := h i e he
  exact ⟨x, hcd x hx, h1, h2⟩

theorem agree_of_derived {C : LLog → Prop} (hC : ∀ g h, C g → C h → Agree g h) {g1 g2 : LLog}
    (h1 : DerivedFrom C g1) (h2 : DerivedFrom C g2) : Agree g1 g2 := by
  intro i e e' he he' ht
  obtain ⟨x, hx, hxe, hxp⟩ := h1 i e he
  obtain ⟨y, hy, hye, hyp⟩ := h2 i e' he'
  obtain ⟨heq, hpp⟩ := hC x y hx hy i e e' hxe hye ht
  exact ⟨heq, fun p p' hp hp' => hpp p p' (hxp p hp) (hyp p' hp')⟩

/-- **Log Matching from agreement**: two gap-free logs that agree and hold entries with the same
term at `k` hold the same entry at every `k' ≤ k` at which both still hold one -/
theorem agree_matching {g h : LLog} (ha : Agree g h) :
    ∀ (d k : Nat) (e e' : Entry), g.entryAt k = some e → h.entryAt k = some e' → e.term = e'.term →
      ∀ k' a b, k' + d = k → g.entryAt k' = some a → h.entryAt k' = some b → a = b := by
  intro d
  induction d with
  | zero =>
    intro k e e' he he' ht k' a b hk ha' hb'
    subst hk
    cases he.symm.trans ha'
    cases he'.symm.trans hb'
    exact (ha k' _ _ he he' ht).1
  | succ n ih =>
    intro k e e' he he' ht k' a b hk ha' hb'
    subst hk
    have hg := Nat.lt_of_lt_of_le (g.entryAt_lt ha').1 (Nat.le_add_right k' n)
    have hh := Nat.lt_of_lt_of_le (h.entryAt_lt hb').1 (Nat.le_add_right k' n)
    obtain ⟨x, hx⟩ := g.entryAt_below he hg (Nat.le_succ _)
    obtain ⟨y, hy⟩ := h.entryAt_below he' hh (Nat.le_succ _)
    have hp := (ha _ e e' he he' ht).2 x.term y.term
      ((g.prevTerm_succ hg).trans (congrArg _ hx)) ((h.prevTerm_succ hh).trans (congrArg _ hy))
    exact ih (k' + n) x y hx hy hp k' a b rfl ha' hb'

theorem Agree.matching {g h : LLog} (ha : Agree g h) {k k' : Nat} {e e' a b : Entry}
    (he : g.entryAt k = some e) (he' : h.entryAt k = some e') (ht : e.term = e'.term) (hk : k' ≤ k)
    (ha' : g.entryAt k' = some a) (hb' : h.entryAt k' = some b) : a = b :=
  agree_matching ha (k - k') k e e' he he' ht k' a b (Nat.add_sub_cancel' hk) ha' hb'

/-- … down to the snapshot point of `g`: if its term is known, what `h` holds there has that term -/
theorem Agree.anchor {g h : LLog} (ha : Agree g h) {k : Nat} {e e' : Entry}
    (he : g.entryAt k = some e) (he' : h.entryAt k = some e') (ht : e.term = e'.term) {t : Nat}
    (hst : g.snapTerm = some t) {b : Entry} (hb : h.entryAt g.snapIdx = some b) : b.term = t := by
  have hk := (g.entryAt_lt he).1
  obtain ⟨a, ha'⟩ := g.entryAt_below he (Nat.lt_succ_self _) hk
  obtain ⟨c, hc⟩ := h.entryAt_below he' (Nat.lt_succ_of_lt (h.entryAt_lt hb).1) hk
  cases ha.matching he he' ht hk ha' hc
  exact ((ha _ a a ha' hc rfl).2 t b.term (g.prevTerm_first.trans hst)
    ((h.prevTerm_succ (h.entryAt_lt hb).1).trans (congrArg _ hb))).symm

/-! ### a log that reads one log below a position and another from it on -/

/-- `k` has the snapshot point of `a`, reads `a` below `c` and `b` from `c` on -/
structure LLog.Splice (k a b : LLog) (c : Nat) : Prop where
  snapIdx : k.snapIdx = a.snapIdx
  snapTerm : k.snapTerm = a.snapTerm
  below : ∀ i, i < c → k.entryAt i = a.entryAt i
  above : ∀ i, c ≤ i → k.entryAt i = b.entryAt i
  lo : a.snapIdx < c
  hi : b.snapIdx < c

namespace LLog.Splice
variable {k a b : LLog} {c : Nat}

/-- the predecessor terms up to the junction are those of `a` -/
theorem prev_below (h : Splice k a b c) {i : Nat} (hi : i ≤ c) : k.prevTerm i = a.prevTerm i := by
  unfold LLog.prevTerm
  rw [h.snapIdx, h.snapTerm]
  by_cases h1 : i = a.snapIdx + 1
  · rw [if_pos h1, if_pos h1]
  · rw [if_neg h1, if_neg h1, h.below (i - 1) (by have := h.lo; omega)]

/-- … above it those of `b` -/
theorem prev_above (h : Splice k a b c) {i : Nat} (hi : c < i) : k.prevTerm i = b.prevTerm i := by
  cases i with
  | zero => cases hi
  | succ j =>
    have hj := Nat.le_of_lt_succ hi
    rw [k.prevTerm_succ (h.snapIdx ▸ Nat.lt_of_lt_of_le h.lo hj),
      b.prevTerm_succ (Nat.lt_of_lt_of_le h.hi hj), h.above j hj]

/-- every link of a spliced log is a link of one of the two, once the junction is one -/
theorem derived (h : Splice k a b c)
    (hj : ∀ e p, b.entryAt c = some e → a.prevTerm c = some p → b.prevTerm c = some p) :
    DerivedFrom (fun x => x = a ∨ x = b) k := by
  intro i e he
  rcases Nat.lt_or_ge i c with hi | hi
  · rw [h.below i hi] at he
    exact ⟨a, .inl rfl, he, fun p hp => by rw [h.prev_below (Nat.le_of_lt hi)] at hp; exact hp⟩
  · rw [h.above i hi] at he
    refine ⟨b, .inr rfl, he, fun p hp => ?_⟩
    rcases Nat.lt_or_eq_of_le hi with hi | rfl
    · rw [h.prev_above hi] at hp; exact hp
    · rw [h.prev_below (Nat.le_refl _)] at hp; exact hj e p he hp

end LLog.Splice

/-! ### operations on a log -/

/-- the extended log reads the old log up to its end and the new entries after it -/
theorem LLog.splice_append (g : LLog) (es : List Entry) (q : Option Nat) :
    Splice { g with ents := g.ents ++ es } g { snapIdx := g.lastIndex, snapTerm := q, ents := es }
      (g.lastIndex + 1) where
  snapIdx := rfl
  snapTerm := rfl
  below i hi := RaftProps.C05.c05_append_entryAt g es i (Nat.le_of_lt_succ hi)
  above i hi := (g.append_entryAt_new es i hi).trans (if_neg (Nat.not_le_of_lt hi)).symm
  lo := Nat.lt_succ_of_le (Nat.le_add_right _ _)
  hi := Nat.lt_succ_self _

/-- appending at the end keeps every link -/
theorem Sub.append (g : LLog) (es : List Entry) : Sub g { g with ents := g.ents ++ es } :=
  fun i e he =>
    have hs := g.splice_append es none
    have hi := Nat.lt_succ_of_le (g.entryAt_lt he).2
    ⟨(hs.below i hi).trans he, fun _ hp => (hs.prev_below (Nat.le_of_lt hi)).trans hp⟩

/-- … and the links at the old positions of the extended log are the old links -/
theorem LLog.append_old_link (g : LLog) (es : List Entry) (i : Nat) (hi : i ≤ g.lastIndex) :
    ({ g with ents := g.ents ++ es } : LLog).entryAt i = g.entryAt i ∧
    ({ g with ents := g.ents ++ es } : LLog).prevTerm i = g.prevTerm i :=
  ⟨RaftProps.C05.c05_append_entryAt g es i hi,
    (g.splice_append es none).prev_below (Nat.le_succ_of_le hi)⟩

/-- a compacted log knows no predecessor term the log did not know -/
theorem LLog.compactTo_prevTerm (g : LLog) (k : Nat) {i p : Nat}
    (h : (g.compactTo k).prevTerm i = some p) : g.prevTerm i = some p := by
  by_cases hk : k ≤ g.snapIdx
  · have : g.compactTo k = g := if_pos hk
    rw [this] at h; exact h
  · have hsi : (g.compactTo k).snapIdx = k := by unfold LLog.compactTo; rw [if_neg hk]
    have hst : (g.compactTo k).snapTerm = none := by unfold LLog.compactTo; rw [if_neg hk]
    rcases above_cases (LLog.prevTerm_lt _ h) with rfl | ⟨j, hj, rfl⟩
    · rw [LLog.prevTerm_first, hst] at h; cases h
    · have hj' : k < j := hsi ▸ hj
      rw [LLog.prevTerm_succ _ hj, g.compactTo_entryAt, if_neg (Nat.not_le_of_lt hj')] at h
      rw [g.prevTerm_succ (by omega)]; exact h

/-- compaction only forgets links -/
theorem Sub.compactTo (g : LLog) (k : Nat) (hk : k ≤ g.lastIndex) : Sub (g.compactTo k) g := by
  have _ := hk
  intro i e he
  rw [g.compactTo_entryAt k i] at he
  by_cases h2 : i ≤ k
  · rw [if_pos h2] at he; cases he
  · rw [if_neg h2] at he
    exact ⟨he, fun _ hp => g.compactTo_prevTerm k hp⟩

/-! ### a slice of a log with its anchor -/

/-- a gap-free log whose entries are entries of `h` at their indices, and whose anchor `h` confirms, is
a sub-log of `h` -/
theorem Sub.of_contig {k h : LLog} (hc : k.Contig) (hes : ∀ e ∈ k.ents, h.entryAt e.index = some e)
    (h0 : ∀ e p, h.entryAt (k.snapIdx + 1) = some e → k.snapTerm = some p →
      h.prevTerm (k.snapIdx + 1) = some p) : Sub k h := by
  have hin : ∀ {i e}, k.entryAt i = some e → h.entryAt i = some e := fun he => by
    have := hc.entryAt_iff.1 he
    rw [← this.2]; exact hes _ this.1
  intro i e he
  refine ⟨hin he, fun p hp => ?_⟩
  rcases above_cases (k.entryAt_lt he).1 with rfl | ⟨j, hj, rfl⟩
  · rw [k.prevTerm_first] at hp; exact h0 e p (hin he) hp
  · obtain ⟨a, ha⟩ := k.entryAt_below he hj (Nat.le_succ j)
    rw [k.prevTerm_succ hj, ha] at hp
    rw [h.prevTerm_succ (h.entryAt_lt (hin ha)).1, hin ha]; exact hp

/-- entries numbered from `n + 1`, each the log's own entry at its index, anchored at `(n, term n)` -/
theorem Sub.of_slice (g : LLog) (n t : Nat) (es : List Entry) (hc : ContigFrom (n + 1) es)
    (hes : ∀ e ∈ es, g.entryAt e.index = some e) (ht : g.term n = .ok t) :
    Sub { snapIdx := n, snapTerm := some t, ents := es } g :=
  Sub.of_contig hc hes fun _ _ he hp => by
    cases hp
    have := g.entryAt_lt he
    exact (g.term_ok_iff (Nat.le_of_lt_succ this.1) (Nat.le_of_succ_le this.2)).1 ht

/-- **a slice is a sub-log**: entries numbered from `n`, each the log's own entry at its index,
anchored at `(n - 1, term (n - 1))` -/
theorem sub_of_slice (g : LLog) (n t : Nat) (es : List Entry) (hn : 0 < n)
    (hc : ContigFrom n es) (hes : ∀ e ∈ es, g.entryAt e.index = some e)
    (ht : g.term (n - 1) = .ok t) :
    Sub { snapIdx := n - 1, snapTerm := some t, ents := es } g :=
  Sub.of_slice g (n - 1) t es (by rw [Nat.sub_add_cancel hn]; exact hc) hes ht

/-! ### the follower's `maybe_append` -/

/-- the log cut before index `c` and continued with the entries of index `≥ c` of a batch numbered
from `n + 1` reads the log below `c` and the batch from `c` on -/
theorem LLog.splice_truncateAppend (g : LLog) (es : List Entry) {n c : Nat} (q : Option Nat)
    (hs : g.snapIdx ≤ n) (hc1 : n < c) (hc2 : c ≤ g.lastIndex + 1) :
    Splice (g.truncateAppend (c - 1) (es.drop (c - (n + 1)))) g
      { snapIdx := n, snapTerm := q, ents := es } c where
  snapIdx := rfl
  snapTerm := rfl
  below i hi := g.truncateAppend_entryAt _ _ i (by omega) (by omega)
  above i hi := (g.truncateAppend_batch es hs hc1 hc2 hi).trans
    (if_neg (Nat.not_le_of_lt (Nat.lt_of_lt_of_le hc1 hi))).symm
  lo := Nat.lt_of_le_of_lt hs hc1
  hi := hc1

/-- the log cut before the first conflict `c` of the batch of `m` and continued with the rest of the
batch reads the message from `c` on -/
theorem LLog.truncateAppend_msgLog (g : LLog) (m : Message) {c i : Nat} (hs : g.snapIdx ≤ m.index)
    (hc1 : m.index < c) (hc2 : c ≤ g.lastIndex + 1) (hi : c ≤ i) :
    (g.truncateAppend (c - 1) (m.entries.drop (c - (m.index + 1)))).entryAt i =
      (msgLog m).entryAt i :=
  (g.splice_truncateAppend m.entries (some m.logTerm) hs hc1 hc2).above i hi

/-- **the truncated-and-continued log is derived from the old log and the message**: `c` is the
first conflicting index (`m.index < c ≤ last + 1`), every entry of the batch below `c` matches the
log by term, the anchor matches -/
theorem derived_truncateAppend (g : LLog) (m : Message) (c : Nat) (C : LLog → Prop)
    (hg : C g) (hmC : C (msgLog m))
    (hc : ContigFrom (m.index + 1) m.entries) (hterms : ∀ e ∈ m.entries, e.term ≠ 0)
    (hsnap : g.snapIdx ≤ m.index) (hanchor : g.matchTerm m.index m.logTerm = true)
    (hc1 : m.index < c) (hc2 : c ≤ g.lastIndex + 1)
    (hall : ∀ e ∈ m.entries.take (c - (m.index + 1)), g.matchTerm e.index e.term = true) :
    DerivedFrom C (g.truncateAppend (c - 1) (m.entries.drop (c - (m.index + 1)))) := by
  have _ := hterms
  refine ((g.splice_truncateAppend m.entries (some m.logTerm) hsnap hc1 hc2).derived ?_).mono
    (by rintro x (rfl | rfl)
        · exact hg
        · exact hmC)
  -- the junction: the batch's entry just below `c` (or its anchor) matches the log by term
  intro e p he hp
  have hmc : (msgLog m).Contig := hc
  rcases above_cases hc1 with rfl | ⟨j, hj, rfl⟩
  · rw [g.prevTerm_of_match hanchor hsnap (Nat.le_of_succ_le_succ hc2)] at hp
    exact (LLog.prevTerm_first _).trans hp
  · obtain ⟨a, ha⟩ := (msgLog m).entryAt_below he hj (Nat.le_succ j)
    obtain ⟨hmem, hidx⟩ := hmc.entryAt_iff.1 ha
    have hmt := hall a (hc.mem_take hmem (by omega))
    rw [hidx] at hmt
    rw [g.prevTerm_of_match hmt (Nat.le_trans hsnap (Nat.le_of_lt hj))
      (Nat.le_of_succ_le_succ hc2)] at hp
    exact ((msgLog m).prevTerm_succ hj).trans ((congrArg _ ha).trans hp)

/-! ### storages -/

theorem storeLog_eq_of_core {s s' : MemStorage} (he : s'.entries = s.entries)
    (hm : s'.snapshotMetadata = s.snapshotMetadata) : storeLog s' = storeLog s := by
  have hf : s'.firstIndex = s.firstIndex := by unfold MemStorage.firstIndex; rw [he, hm]
  unfold storeLog
  rw [he, hm, hf]

theorem Raft.storeLog_same {l l' : RaftLog} (he : l'.store.entries = l.store.entries)
    (hm : l'.store.snapshotMetadata = l.store.snapshotMetadata) :
    Sub (storeLog l'.store) (storeLog l.store) := by
  rw [storeLog_eq_of_core he hm]; exact Sub.refl _

theorem storeLog_contig {s : MemStorage} (h : s.WF) : (storeLog s).Contig := by
  unfold LLog.Contig storeLog
  dsimp only
  have := h.first_pos
  rw [show s.firstIndex - 1 + 1 = s.firstIndex by omega]
  exact h.contig

/-- what `RaftLog::new` over a storage represents is the storage's own log -/
theorem abs_new {s : MemStorage} {limit : Nat} {l : RaftLog} (hw : s.WF)
    (h : RaftLog.new s limit = .ok l) : l.abs = storeLog s := by
  unfold RaftLog.new at h
  split at h
  · cases h
  · cases h
    unfold RaftLog.abs storeLog Unstable.new
    dsimp only
    have := hw.last_succ
    rw [List.take_of_length_le (by omega), List.append_nil]

end RaftModel
