import RaftProofs.ClusterLogA
import RaftProofs.ClusterVoteA
import RaftProps.PDGuards

/-!
Cluster-level Log Matching, helper lemmas part D: what `maybe_append` / `handle_append_entries` do to
the logical log in terms of links (`DerivedFrom`), for a batch that is numbered from its anchor and
carries non-zero terms — *without* the anchor condition of `AppendWF` (an append whose anchor lies
beyond the log is either empty, and then changes nothing, or runs into the gap panic of
`truncate_and_append`).
-/
namespace RaftModel

/-- a well-numbered batch with real terms (what the cluster invariant knows of every `MsgAppend`) -/
def MsgOk (m : Message) : Prop :=
  ContigFrom (m.index + 1) m.entries ∧ ∀ e ∈ m.entries, e.term ≠ 0

namespace RaftLog

/-- an append anchored beyond the log with a non-empty batch does not return -/
theorem maybeAppend_gap {l : RaftLog} (h : l.Inv) {idx t c : Nat} {e0 : Entry} {es : List Entry}
    (hgap : l.lastIndex < idx) (hidx : e0.index = idx + 1) (hterm : e0.term ≠ 0)
    {l' : RaftLog} {p : Nat × Nat} : l.maybeAppend idx t c (e0 :: es) ≠ .ok (l', some p) := by
  intro hm
  have hcl := h.committed_le_last
  have hls := h.last_succ
  have hmt : l.matchTerm e0.index e0.term = .ok false := by
    rw [h.matchTerm_abs]
    congr 1
    unfold LLog.matchTerm LLog.term
    rw [if_pos (by right; rw [← h.lastIndex_abs]; omega)]
    simp only [beq_eq_false_iff_ne, ne_eq]
    exact fun hc => hterm hc.symm
  have hfc : l.findConflict (e0 :: es) = .ok e0.index := by
    unfold RaftLog.findConflict; rw [hmt]
  have happ : ∃ s, l.append (e0 :: es) = .panic s := by
    unfold RaftLog.append
    simp only []
    rw [if_neg (by omega), if_neg (by omega)]
    obtain ⟨s, hs⟩ := (RaftProps.C14.C14_truncateAndAppend_spec l.unstable h.unstWF e0 es).2.2.2
      (by omega)
    rw [hs]; exact ⟨s, rfl⟩
  obtain ⟨s, happ⟩ := happ
  rcases maybeAppend_inv hm with ⟨_, _, hn⟩ | ⟨ci, l1, _, hf, hc, _, _⟩
  · cases hn
  · rw [hfc] at hf
    cases hf
    rcases hc with ⟨hz, _⟩ | ⟨_, _, ha⟩
    · omega
    · obtain ⟨_, _, ha, _⟩ := appendConflict_inv ha
      rw [show e0.index - (idx + 1) = 0 by omega, List.drop_zero, happ] at ha
      cases ha

/-- an accepted `maybe_append` of an empty batch only moves the commit index -/
theorem maybeAppend_nil {l l' : RaftLog} {idx t c : Nat} {p : Nat × Nat}
    (hm : l.maybeAppend idx t c [] = .ok (l', some p)) : LogSame l l' ∧ l'.store = l.store := by
  rcases maybeAppend_inv hm with ⟨_, _, hn⟩ | ⟨ci, l1, _, hf, hc, hct, _⟩
  · cases hn
  · have : l.findConflict [] = .ok 0 := rfl
    rw [this] at hf
    cases hf
    rcases hc with ⟨_, rfl⟩ | ⟨hz, _⟩
    · exact ⟨c05_commitTo_same hct, RaftModel.C06.commitTo_store hct⟩
    · exact absurd rfl hz

/-- **an accepted `maybe_append`, in links**: the invariant is kept, the storage is untouched, and
every link of the new logical log is a link of the old one or of the batch anchored at
`(idx, term)` -/
theorem maybeAppend_eff {l l' : RaftLog} (h : l.Inv) {m : Message} {c : Nat} {p : Nat × Nat}
    (hok : MsgOk m) (hci : l.committed ≤ m.index)
    (hm : l.maybeAppend m.index m.logTerm c m.entries = .ok (l', some p)) :
    l'.Inv ∧ l'.store = l.store ∧
    DerivedFrom (fun g => g = l.abs ∨ g = msgLog m) l'.abs := by
  have hsto := Raft.CV.maybeAppend_store hm
  have hsame : LogSame l l' → l'.Inv ∧ l'.store = l.store ∧
      DerivedFrom (fun g => g = l.abs ∨ g = msgLog m) l'.abs := fun hs =>
    ⟨hs.inv h, hsto, by rw [hs.abs]; exact DerivedFrom.of_mem (.inl rfl)⟩
  have hmt : l.abs.matchTerm m.index m.logTerm = true := by
    rcases c04_maybeAppend_spec hm with ⟨hn, _⟩ | ⟨_, _, hmt, _⟩
    · cases hn
    · rw [h.matchTerm_abs] at hmt
      injection hmt
  have hsnap : l.abs.snapIdx ≤ m.index := by
    have h1 := h.dummy_le_committed
    rw [h.firstIndex_abs] at h1
    simp only [LLog.firstIndex] at h1
    omega
  rcases Nat.lt_or_ge l.lastIndex m.index with hgap | hidx
  · -- anchored beyond the log: the batch is empty
    cases hE : m.entries with
    | nil => rw [hE] at hm; exact hsame (maybeAppend_nil hm).1
    | cons e0 es =>
      rw [hE] at hm
      have hi0 : e0.index = m.index + 1 := by
        have := hok.1 0 e0 (by rw [hE]; rfl); omega
      exact absurd hm (maybeAppend_gap h hgap hi0 (hok.2 e0 (by rw [hE]; exact List.mem_cons_self)))
  · obtain ⟨_, hspec⟩ := RaftProps.C14.C14_maybeAppend_spec l h m.index m.logTerm c m.entries
      hok.1 hidx hok.2
    obtain ⟨hnc, hpan, hcf⟩ := hspec hmt
    rcases Nat.eq_zero_or_pos (l.abs.findConflict m.entries) with hz | hpos
    · obtain ⟨hres, hinv'⟩ := hnc hz
      rw [hres] at hm
      cases hm
      exact ⟨hinv', rfl, DerivedFrom.of_mem (.inl rfl)⟩
    · rcases Nat.lt_or_ge l.committed (l.abs.findConflict m.entries) with hgt | hle
      · obtain ⟨l2, hres, habs, _, _, _, _, hinv'⟩ := hcf hgt
        rw [hres] at hm
        cases hm
        refine ⟨hinv', hsto, ?_⟩
        rw [habs]
        rcases l.abs.findConflict_char m.entries (m.index + 1) hok.1 with ⟨h0, _⟩ | ⟨k, hk, hf, hall⟩
        · omega
        · have hle := l.abs.matched_prefix_le_last hok.1 hok.2 (h.lastIndex_abs ▸ hidx) (Nat.le_of_lt hk) hall
          refine derived_truncateAppend l.abs m (l.abs.findConflict m.entries) _ (.inl rfl) (.inr rfl)
            hok.1 hok.2 hsnap hmt (by omega) (by omega) ?_
          rw [hf, show m.index + 1 + k - (m.index + 1) = k by omega]
          exact hall
      · obtain ⟨s, hp⟩ := hpan hpos hle
        rw [hp] at hm
        cases hm

end RaftLog

namespace Raft

/-- the queue after `handle_append_entries`: one `MsgAppendResponse` more -/
theorem handleAppendEntries_msgs {r r' : Raft} {m : Message} (h : r.handleAppendEntries m = .ok r') :
    (∃ resp, r'.msgs = r.msgs ++ [resp] ∧ resp.msgType = .msgAppendResponse) ∧
    r'.batchAppend = r.batchAppend := by
  have key : ∀ (r0 : Raft) (x : Message), x.msgType = .msgAppendResponse → r0.send x = .ok r' →
      (∃ resp, r'.msgs = r0.msgs ++ [resp] ∧ resp.msgType = .msgAppendResponse) ∧
      r'.batchAppend = r0.batchAppend := by
    intro r0 x hx hs
    rw [send_eq _ _ _ hs]
    exact ⟨⟨_, rfl, by rw [sendFill_msgType]; exact hx⟩, rfl⟩
  cases handleAppendEntries_inv h with
  | waiting _ hs => obtain ⟨_, _, hs⟩ := sendRequestSnapshot_inv hs; exact key _ _ rfl hs
  | stale _ _ hs => exact key _ _ rfl hs
  | accepted _ _ _ hs => have := key _ _ rfl hs; exact this
  | rejected _ _ _ _ hs => have := key _ _ rfl hs; exact this

/-- **`handle_append_entries` in links** -/
theorem handleAppendEntries_eff {r r' : Raft} {m : Message} (hinv : r.raftLog.Inv) (hok : MsgOk m)
    (h : r.handleAppendEntries m = .ok r') :
    r'.raftLog.Inv ∧ r'.raftLog.store = r.raftLog.store ∧
    DerivedFrom (fun g => g = r.raftLog.abs ∨ g = msgLog m) r'.raftLog.abs ∧
    (∀ x ∈ r'.msgs, x.msgType = .msgAppend → x ∈ r.msgs) ∧
    r'.batchAppend = r.batchAppend ∧ Frame r r' := by
  obtain ⟨⟨resp, hms, hty⟩, hba⟩ := handleAppendEntries_msgs h
  have hq : ∀ x ∈ r'.msgs, x.msgType = .msgAppend → x ∈ r.msgs := by
    intro x hx hxt
    rw [hms] at hx
    rcases List.mem_append.1 hx with hx | hx
    · exact hx
    · rw [List.mem_singleton.1 hx, hty] at hxt; cases hxt
  have hfr := handleAppendEntries_frame h Frame.rfl
  rcases RaftProps.PDGuards.PD_recvAppC r r' m h with ⟨_, hci, _, ⟨ci, hma⟩, _⟩ | ⟨_, hl⟩
  · obtain ⟨h1, h2, h3⟩ := RaftLog.maybeAppend_eff hinv hok hci hma
    exact ⟨h1, h2, h3, hq, hba, hfr⟩
  · rw [hl]
    exact ⟨hinv, rfl, DerivedFrom.of_mem (.inl rfl), hq, hba, hfr⟩

end Raft
end RaftModel
