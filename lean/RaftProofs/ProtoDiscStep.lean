import RaftProofs.ProtoDiscInv
import RaftProofs.ProtoVol
import RaftProofs.ProtoFlow

/-!
`InvD` is preserved by every event of PD.
-/
namespace RaftModel.P

/-- an event of P that PD does not refine preserves the invariant: by `vol_step` the node it acts on
keeps its log, role and term with a commit index not below the old one, or becomes a follower (whose log,
where it changes, is all committed); pending and durable images are old ones (`stages_step`) -/
theorem invD_base (D : DSys) (b : PSys) (e : Event) (hb : applyEvent D.pc.base e = .ok b)
    (hr : refined (.base e) = false) (hw : isWinOrCommit e = false) (hD : InvD D) (hL : InvL D.pc.base)
    (g : Grow D.pc.base b) : InvD { D with pc := { D.pc with base := b } } := by
  obtain ⟨hp, hd⟩ := stages_step (Q := fun _ im => One im.log im.commit) hb hD.v hD.p hD.d (by
    rintro i d idx rfl
    obtain ⟨_, _, _, _, _, rfl⟩ := bootstrap_ok hb
    simp only [upd_same, dimage]
    exact One.of_len (by rw [List.length_take]; omega))
  have happs : b.apps = D.pc.base.apps := (apps_frame hb).resolve_left (by rintro ⟨i, m, rfl⟩; cases hr)
  have key : ∀ j, D.applied j ≤ (b.nodes j).commit ∧ One (b.nodes j).log (b.nodes j).commit ∧
      ((b.nodes j).role ≠ 0 → (b.nodes j).role = (D.pc.base.nodes j).role ∧
        (b.nodes j).term = (D.pc.base.nodes j).term ∧ (b.nodes j).log = (D.pc.base.nodes j).log) := by
    intro j
    have ha := hD.appl j
    have hv := hD.v j
    cases vol_step hb j with
    | keep ht hr' hl hc => exact ⟨Nat.le_trans ha hc, hl ▸ hv.mono hc, fun _ => ⟨hr', ht, hl⟩⟩
    | role0 hr' _ hl hc | bump _ hr' hl hc => exact ⟨hc ▸ ha, hl ▸ hc ▸ hv, fun h => absurd hr' h⟩
    | install _ _ _ _ hr' _ hc hlen => exact ⟨Nat.le_trans ha hc, One.of_len hlen, fun h => absurd hr' h⟩
    | boot _ _ _ hf hr' hlen =>
      exact ⟨by rw [hf.commit] at ha; omega, One.of_len hlen, fun h => absurd hr' h⟩
    | cand he | append _ he | merge _ he | restart he => subst he; cases hr
    | win _ _ he => subst he; cases hw
  refine ⟨fun j => (key j).1, fun j => (key j).2.1, hp, hd,
    minv_keep hL g hD.m (fun m hm => happs ▸ hm), fun j h2 => ?_, fun j h0 => ?_, fun j h2 => ?_⟩
  · obtain ⟨e1, _, e3⟩ := (key j).2.2 (by rw [h2]; decide)
    show confCount (b.nodes j).log = _ ∧ _ ≤ (b.nodes j).log.length
    rw [e3]; exact hD.pc j (e1 ▸ h2)
  · obtain ⟨e1, _, e3⟩ := (key j).2.2 h0
    show One (b.nodes j).log _
    rw [e3]; exact hD.hup j (e1 ▸ h0)
  · obtain ⟨e1, e2, e3⟩ := (key j).2.2 (by rw [h2]; decide)
    show verMono D.pc (b.nodes j).term (confCount ((b.nodes j).log.take _)) = true
    rw [e2, e3]; exact hD.lver j (e1 ▸ h2)

/-- the events of PC that PD does not refine -/
theorem invD_pc (D D' : DSys) (e : CEvent) (h : applyEventD D (.pc e) = .ok D') (hI : InvAll D.pc.base)
    (hD : InvD D) : InvD D' := by
  obtain ⟨hr, S, hS, hD'⟩ := stepD_pc h
  subst hD'
  cases e with
  | base e =>
    obtain ⟨hw, b, hb, hS'⟩ := baseC_ok hS
    subst hS'
    exact invD_base D b e hb hr hw hD hI.l (grow_step _ _ e hI.v hI.l hb)
  | cfgInit cfg =>
    obtain ⟨_, rfl⟩ := of_guard_ok hS
    exact invD_congr D _ hD rfl rfl rfl rfl rfl hD.m
  | applyConf i idx cfg =>
    rcases applyConfC_ok hS with rfl | ⟨_, _, _, _, rfl⟩
    · exact hD
    · exact invD_congr D _ hD rfl rfl rfl rfl rfl hD.m
  | win i cfg q applied | commitLeader i c cfg q applied | resp i rid idx cfg applied
  | rstate j rid idx cfg applied => cases hr

/-- `apply`: the application reports progress -/
theorem invD_apply (D D' : DSys) (i k : Nat) (h : applyEventD D (.apply i k) = .ok D') (hD : InvD D) : InvD D' := by
  obtain ⟨_, h1, h2, hD'⟩ := stepD_apply h
  subst hD'
  have e : updN D.applied i k i = k := by simp [updN]
  refine invD_frame D _ hD i (fun _ _ => rfl) (fun j hj => by simp [updN, hj]) (fun _ _ => rfl) hD.m
    (fun _ _ _ _ h => h) ?_ (hD.v i) (hD.p i) (hD.d i) (hD.pc i) ?_ ?_
  · show updN D.applied i k i ≤ _
    rw [e]; exact h2
  · intro hr
    show One _ (updN D.applied i k i)
    rw [e]; exact (hD.hup i hr).mono h1
  · intro hr
    show verMono D.pc _ (confCount (List.take (updN D.applied i k i) _)) = true
    rw [e]
    exact verMono_mono (hD.lver i hr) (confCount_take_mono _ h1)

/-- the read answers: only the read bookkeeping changes -/
theorem invD_read_like (D : DSys) (S : CSys) (r : REvent) (hD : InvD D)
    (hS : ∃ b, applyEvent D.pc.base (.read r) = .ok b ∧ S = { D.pc with base := b }) : InvD { D with pc := S } := by
  obtain ⟨b, hb, rfl⟩ := hS
  obtain ⟨rd, rfl⟩ := read_frame hb
  exact invD_congr D _ hD rfl rfl rfl rfl rfl hD.m

theorem invD_resp (D D' : DSys) (i rid idx : Nat) (cfg : Cfg) (applied : Nat)
    (h : applyEventD D (.resp i rid idx cfg applied) = .ok D') (hD : InvD D) : InvD D' := by
  obtain ⟨_, S, hS, hD'⟩ := stepD_resp h
  subst hD'
  exact invD_read_like D S (.resp i rid idx cfg) hD (respC_ok hS).2

theorem invD_rstate (D D' : DSys) (j rid idx : Nat) (cfg : Cfg) (applied : Nat)
    (h : applyEventD D (.rstate j rid idx cfg applied) = .ok D') (hD : InvD D) : InvD D' := by
  obtain ⟨_, S, hS, hD'⟩ := stepD_rstate h
  subst hD'
  exact invD_read_like D S (.rstate j rid idx cfg) hD (rstateC_ok hS).2

/-- `restart`: the node resumes from its durable image, with an applied index not beyond the durable
commit index -/
theorem invD_restart (D D' : DSys) (i a : Nat) (h : applyEventD D (.restart i a) = .ok D') (hD : InvD D) :
    InvD D' := by
  obtain ⟨ha, S, hS, hD'⟩ := stepD_restart h
  subst hD'
  obtain ⟨_, b, hb, hS'⟩ := baseC_ok hS
  subst hS'
  obtain ⟨_, rfl⟩ := of_guard_ok hb
  exact invD_frame_upd D _ hD i _ a (D.pconf i) rfl rfl (updN_self _ _).symm hD.m (fun _ _ _ _ h => h)
    ha (hD.d i) (fun im him => nomatch him) (hD.d i) (fun hr => nomatch hr) (fun hr => absurd rfl hr)
    (fun hr => nomatch hr)

/-- `campaign` (`Raft::hup`): no membership-change entry in `(applied, committed]`, at most one beyond
the commit index — so at most one beyond the applied index -/
theorem invD_campaign (D D' : DSys) (i : Nat) (h : applyEventD D (.campaign i) = .ok D') (hD : InvD D) : InvD D' := by
  obtain ⟨_, hcc, S, hS, hD'⟩ := stepD_campaign h
  subst hD'
  obtain ⟨_, b, hb, hS'⟩ := baseC_ok hS
  subst hS'
  obtain ⟨_, rfl⟩ := of_guard_ok hb
  refine invD_frame_upd D _ hD i _ (D.applied i) (D.pconf i) rfl (updN_self _ _).symm (updN_self _ _).symm hD.m
    (fun _ _ _ _ h => h) (hD.appl i) (hD.v i) (hD.p i) (hD.d i) (fun hr => nomatch hr) ?_
    (fun hr => nomatch hr)
  intro _
  have := hD.v i
  unfold One at this ⊢
  show confCount (D.pc.base.nodes i).log ≤ confCount ((D.pc.base.nodes i).log.take (D.applied i)) + 1
  omega

/-- `sendApp`: a `MsgAppend` carries the leader's commit index, so the prefix it denotes holds at most
one membership-change entry beyond its commit field (the leader's own INV1) -/
theorem invD_sendApp (D D' : DSys) (i : Nat) (m : App) (h : applyEventD D (.sendApp i m) = .ok D')
    (hI : InvAll D.pc.base) (hD : InvD D) : InvD D' := by
  obtain ⟨hc, S, hS, hD'⟩ := stepD_sendApp h
  subst hD'
  obtain ⟨_, b, hb, hS'⟩ := baseC_ok hS
  subst hS'
  obtain ⟨hg, rfl⟩ := of_guard_ok hb
  refine invD_congr D _ hD rfl rfl rfl rfl rfl ?_
  intro m' hm'
  rcases List.mem_cons.1 hm' with hm' | hm'
  · subst hm'
    show One ((D.pc.base.llog m'.term).take (m'.prev + m'.es.length)) m'.commit
    rw [hg.2.2.1, ← hI.l.ll i hg.2.1, hc]
    exact (hD.v i).take _
  · exact hD.m m' hm'

/-- `leaderAppend`: a membership-change entry is appended only when `pending_conf_index ≤ applied`,
i.e. when the log holds no membership-change entry beyond the applied index -/
theorem invD_leaderAppend (D D' : DSys) (i : Nat) (e : LEntry) (h : applyEventD D (.leaderAppend i e) = .ok D')
    (hI : InvAll D.pc.base) (hD : InvD D) : InvD D' := by
  obtain ⟨S, hS, hcase⟩ := stepD_leaderAppend h
  obtain ⟨_, b, hb, hS'⟩ := baseC_ok hS
  subst hS'
  have g := grow_step _ _ _ hI.v hI.l hb
  have hcl := commit_le_len hI.c.c3 i
  have happl := hD.appl i
  obtain ⟨hg, rfl⟩ := of_guard_ok hb
  have htc : ((D.pc.base.nodes i).log ++ [e]).take (D.pc.base.nodes i).commit =
      (D.pc.base.nodes i).log.take (D.pc.base.nodes i).commit := List.take_append_of_le_length hcl
  have hta : ((D.pc.base.nodes i).log ++ [e]).take (D.applied i) =
      (D.pc.base.nodes i).log.take (D.applied i) := List.take_append_of_le_length (by omega)
  obtain ⟨hp1, hp2⟩ := hD.pc i hg.2.1
  have hm := minv_keep hI.l g hD.m (fun m hm => hm)
  rcases hcase with ⟨hc, hpa, hD'⟩ | ⟨hc, hD'⟩
  · subst hD'
    have hca : confCount ((D.pc.base.nodes i).log.take (D.applied i)) = confCount (D.pc.base.nodes i).log :=
      confCount_take_ge hp1 hpa
    have hcc : confCount ((D.pc.base.nodes i).log.take (D.pc.base.nodes i).commit) =
        confCount (D.pc.base.nodes i).log := confCount_take_ge hp1 (by omega)
    refine invD_frame_upd D _ hD i _ (D.applied i) ((D.pc.base.nodes i).log.length + 1) rfl (updN_self _ _).symm rfl
      hm (fun _ _ _ _ h => h) happl ?_ (hD.p i) (hD.d i) ?_ ?_ ?_
    · show One ((D.pc.base.nodes i).log ++ [e]) (D.pc.base.nodes i).commit
      unfold One
      rw [htc, confCount_snoc, hc, hcc]
      simp
    · intro _
      show confCount ((D.pc.base.nodes i).log ++ [e]) =
        confCount (((D.pc.base.nodes i).log ++ [e]).take ((D.pc.base.nodes i).log.length + 1)) ∧
        (D.pc.base.nodes i).log.length + 1 ≤ ((D.pc.base.nodes i).log ++ [e]).length
      rw [List.take_of_length_le (by simp)]
      exact ⟨rfl, by simp⟩
    · intro _
      show One ((D.pc.base.nodes i).log ++ [e]) (D.applied i)
      unfold One
      rw [hta, confCount_snoc, hc, hca]
      simp
    · intro _
      show verMono D.pc (D.pc.base.nodes i).term
        (confCount (((D.pc.base.nodes i).log ++ [e]).take (D.applied i))) = true
      rw [hta]; exact hD.lver i hg.2.1
  · subst hD'
    have hcs : confCount ((D.pc.base.nodes i).log ++ [e]) = confCount (D.pc.base.nodes i).log := by
      rw [confCount_snoc, hc]; simp
    refine invD_frame_upd D _ hD i _ (D.applied i) (D.pconf i) rfl (updN_self _ _).symm (updN_self _ _).symm
      hm (fun _ _ _ _ h => h) happl ?_ (hD.p i) (hD.d i) ?_ ?_ ?_
    · show One ((D.pc.base.nodes i).log ++ [e]) (D.pc.base.nodes i).commit
      unfold One
      rw [htc, hcs]; exact hD.v i
    · intro _
      show confCount ((D.pc.base.nodes i).log ++ [e]) =
        confCount (((D.pc.base.nodes i).log ++ [e]).take (D.pconf i)) ∧
        D.pconf i ≤ ((D.pc.base.nodes i).log ++ [e]).length
      rw [List.take_append_of_le_length hp2, hcs]
      exact ⟨hp1, by simp; omega⟩
    · intro _
      show One ((D.pc.base.nodes i).log ++ [e]) (D.applied i)
      unfold One
      rw [hta, hcs]; exact hD.hup i (by rw [hg.2.1]; decide)
    · intro _
      show verMono D.pc (D.pc.base.nodes i).term
        (confCount (((D.pc.base.nodes i).log ++ [e]).take (D.applied i))) = true
      rw [hta]; exact hD.lver i hg.2.1

/-- `win`: the winner's term is fresh, so no version is recorded for it yet; `pending_conf_index` is
set to the last index -/
theorem invD_win (D D' : DSys) (i : Nat) (cfg : Cfg) (q : List Nat) (applied : Nat)
    (h : applyEventD D (.win i cfg q applied) = .ok D') (hI : InvAll D.pc.base) (hC : InvCfg D.pc)
    (hD : InvD D) : InvD D' := by
  obtain ⟨happ, S, hS, hD'⟩ := stepD_win h
  subst hD'
  obtain ⟨_, hcore, hadj, hS'⟩ := (winC_split D.pc i cfg q applied S).1 hS
  subst hS'
  subst happ
  have hb := (win_split D.pc.base i cfg q _).2 ⟨hcore, hadj, rfl⟩
  have g := grow_step _ _ _ hI.v hI.l hb
  have hrole := (win_guard hb).1
  have hf := win_fresh hI.v hI.l hb
  have hne : ∀ e ∈ D.pc.evs, e.1 ≠ (D.pc.base.nodes i).term := fun e he heq => hf (heq ▸ (hC.e2 e he).1)
  have hnc : ∀ p ∈ D.pc.cvs, p.1.1 ≠ (D.pc.base.nodes i).term :=
    fun p hp heq => hf (heq ▸ (hI.c.c3.cq p.1 (cvs_mem_cmts hC hp)).2.2.2.1)
  refine invD_frame_upd D _ hD i { D.pc.base.nodes i with role := 2 } (D.applied i) (D.pc.base.nodes i).log.length
    rfl (updN_self _ _).symm rfl (minv_keep hI.l g hD.m (fun m hm => hm)) ?_ (hD.appl i) (hD.v i) (hD.p i) (hD.d i)
    ?_ ?_ ?_
  · intro j _ hr x hx
    obtain ⟨h1, h2⟩ := verMono_unpack hx
    refine verMono_pack ⟨?_, h2⟩
    intro e he ht
    rcases List.mem_cons.1 he with he | he
    · exfalso
      subst he
      have hel := leader_elected hI.v hr
      rw [← show (D.pc.base.nodes i).term = (D.pc.base.nodes j).term from ht] at hel
      exact hf hel
    · exact h1 e he ht
  · intro _
    exact ⟨by rw [List.take_length], Nat.le_refl _⟩
  · intro _
    exact hD.hup i (by rw [hrole]; decide)
  · intro _
    refine verMono_pack ⟨?_, ?_⟩
    · intro e he ht
      rcases List.mem_cons.1 he with he | he
      · subst he; exact Nat.le_refl _
      · exact absurd ht (hne e he)
    · intro p hp ht
      exact absurd ht (hnc p hp)

/-- `commitLeader`: the version recorded is the leader's current one; nobody else leads this term -/
theorem invD_commitLeader (D D' : DSys) (i c : Nat) (cfg : Cfg) (q : List Nat) (applied : Nat)
    (h : applyEventD D (.commitLeader i c cfg q applied) = .ok D') (hI : InvAll D.pc.base)
    (hD : InvD D) : InvD D' := by
  obtain ⟨happ, S, hS, hD'⟩ := stepD_commitLeader h
  subst hD'
  obtain ⟨_, hcore, _, hS'⟩ := (commitC_split D.pc i c cfg q applied S).1 hS
  subst hS'
  subst happ
  obtain ⟨_, hrole, hlt, _⟩ := commitCore_unpack hcore
  refine invD_frame_upd D _ hD i { D.pc.base.nodes i with commit := c } (D.applied i) (D.pconf i)
    rfl (updN_self _ _).symm (updN_self _ _).symm hD.m ?_ (Nat.le_trans (hD.appl i) (Nat.le_of_lt hlt))
    ((hD.v i).mono (Nat.le_of_lt hlt)) (hD.p i) (hD.d i) (hD.pc i) (hD.hup i) ?_
  · intro j hj hr x hx
    obtain ⟨h1, h2⟩ := verMono_unpack hx
    refine verMono_pack ⟨h1, ?_⟩
    intro p hp ht
    rcases List.mem_cons.1 hp with hp | hp
    · exfalso
      subst hp
      exact hj (leader_unique (vsys D.pc.base) hI.v i j hrole hr ht.symm)
    · exact h2 p hp ht
  · intro hr
    obtain ⟨h1, h2⟩ := verMono_unpack (hD.lver i hr)
    refine verMono_pack ⟨h1, ?_⟩
    intro p hp ht
    rcases List.mem_cons.1 hp with hp | hp
    · subst hp; exact Nat.le_refl _
    · exact h2 p hp ht

theorem upd_upd (f : Nat → PNode) (i : Nat) (a b : PNode) : upd (upd f i a) i b = upd f i b := by
  funext j; by_cases hj : j = i <;> simp [upd, hj]

theorem One.min_len {l : List LEntry} {c K : Nat} (h : One l c) (hK : l.length ≤ K) : One l (min c K) := by
  by_cases hc : c ≤ K
  · rw [Nat.min_eq_left hc]; exact h
  · rw [Nat.min_eq_right (by omega)]; exact One.of_len hK

/-- `recvAppC` (`handle_append_entries`): the log is unchanged, or becomes the prefix of the leader's
log that the message denotes — which holds at most one membership-change entry beyond the commit
field (MINV) — and the commit index advances to `min(m.commit, last new index)` in the same call -/
theorem invD_recvAppC (D D' : DSys) (i : Nat) (m : App) (h : applyEventD D (.recvAppC i m) = .ok D')
    (hI : InvAll D.pc.base) (hD : InvD D) : InvD D' := by
  obtain ⟨S, hS, hcase⟩ := stepD_recvAppC h
  obtain ⟨_, b, hb, hS'⟩ := baseC_ok hS
  subst hS'
  obtain ⟨hg, rfl⟩ := of_guard_ok hb
  have hmem : m ∈ D.pc.base.apps := by simpa using hg.2.1
  obtain ⟨ok, _, hspec⟩ := recvApp_sem hI.l hmem hg.2.2.2.2.1 hg.2.2.2.2.2.1
  have hpre : One ((D.pc.base.llog m.term).take (m.prev + m.es.length)) (min m.commit (m.prev + m.es.length)) :=
    (hD.m m hmem).min_len (by rw [List.length_take]; omega)
  have hlog : ∀ c', (D.pc.base.nodes i).commit ≤ c' → min m.commit (m.prev + m.es.length) ≤ c' →
      One (mergeAt (D.pc.base.nodes i).log m.prev m.es) c' := by
    intro c' h1 h2
    rcases hspec with ⟨h3, _⟩ | h3
    · rw [h3]; exact (hD.v i).mono h1
    · rw [h3]; exact hpre.mono h2
  rcases hcase with ⟨hlt, S2, hS2, hD'⟩ | ⟨hnlt, hD'⟩
  · subst hD'
    obtain ⟨_, b2, hb2, hS2'⟩ := baseC_ok hS2
    subst hS2'
    obtain ⟨_, rfl⟩ := of_guard_ok hb2
    have hlt' : (D.pc.base.nodes i).commit < min m.commit (m.prev + m.es.length) := by
      simpa [upd_same] using hlt
    refine invD_frame_upd D _ hD i _ (D.applied i) (D.pconf i)
      (by show upd (upd D.pc.base.nodes i _) i _ = _; rw [upd_upd]) (updN_self _ _).symm (updN_self _ _).symm
      hD.m (fun _ _ _ _ h => h) ?_ ?_ ?_ ?_ ?_ ?_ ?_
    · show D.applied i ≤ min m.commit (m.prev + m.es.length)
      exact Nat.le_trans (hD.appl i) (Nat.le_of_lt hlt')
    · simp only [upd_same]
      exact hlog _ (Nat.le_of_lt hlt') (Nat.le_refl _)
    · simp only [upd_same]; exact hD.p i
    · simp only [upd_same]; exact hD.d i
    · simp only [upd_same]; intro hr; simp at hr
    · simp only [upd_same]; intro hr; simp at hr
    · simp only [upd_same]; intro hr; simp at hr
  · subst hD'
    have hnlt' : min m.commit (m.prev + m.es.length) ≤ (D.pc.base.nodes i).commit := by
      have : ¬ (D.pc.base.nodes i).commit < min m.commit (m.prev + m.es.length) := by
        simpa [upd_same] using hnlt
      omega
    refine invD_frame_upd D _ hD i _ (D.applied i) (D.pconf i) rfl (updN_self _ _).symm (updN_self _ _).symm
      hD.m (fun _ _ _ _ h => h) (hD.appl i) (hlog _ (Nat.le_refl _) hnlt') (hD.p i) (hD.d i)
      (fun hr => by simp at hr) (fun hr => by simp at hr) (fun hr => by simp at hr)

/-- **every event of PD preserves the invariant** -/
theorem invD_step (D D' : DSys) (e : DEvent) (h : applyEventD D e = .ok D') (hI : InvAll D.pc.base)
    (hC : InvCfg D.pc) (hD : InvD D) : InvD D' := by
  cases e with
  | pc e => exact invD_pc D D' e h hI hD
  | apply i k => exact invD_apply D D' i k h hD
  | restart i a => exact invD_restart D D' i a h hD
  | campaign i => exact invD_campaign D D' i h hD
  | win i cfg q applied => exact invD_win D D' i cfg q applied h hI hC hD
  | leaderAppend i e => exact invD_leaderAppend D D' i e h hI hD
  | sendApp i m => exact invD_sendApp D D' i m h hI hD
  | recvAppC i m => exact invD_recvAppC D D' i m h hI hD
  | commitLeader i c cfg q applied => exact invD_commitLeader D D' i c cfg q applied h hI hD
  | resp i rid idx cfg applied => exact invD_resp D D' i rid idx cfg applied h hD
  | rstate j rid idx cfg applied => exact invD_rstate D D' j rid idx cfg applied h hD

/-- **`InvD` holds in every reachable state of PD** -/
theorem invD_reach {D : DSys} (h : ReachPD D) : InvD D := by
  induction h with
  | init => exact invD_init
  | step e hr hs ih =>
    have hpc := reach_pc hr
    exact invD_step _ _ e hs (invAll_reachPC _ hpc) (invCfg_reach hpc) ih

end RaftModel.P
