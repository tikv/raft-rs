import RaftProofs.ClusterLogG

/-!
Cluster-level Log Matching, part H: `compact` as an effect, and **one call of a node as an effect**
(`call_lstep_x`: every `NodeOp` the cluster semantics uses, batching on or off, under the proviso `ProvX`);
`call_rt`: the role and term transitions of a call, without any proviso (the cluster layer derives the proviso
from them); `call_lstep_b`: the call in the vocabulary of leader mode.  `call_lstep` of
`RaftProofs/ClusterLogH.lean` is the call with batching off.
-/
namespace RaftModel
namespace Raft
namespace Bt
open Node

theorem stabilize_abs {st st' : NState} {res : OpRes} (hinv : st.raft.raftLog.Inv)
    (h : Node.stabilize st = .ok (res, st')) :
    st'.raft.raftLog.abs = st.raft.raftLog.abs ∧ st'.raft.msgs = st.raft.msgs :=
  ⟨(stabilize_same hinv h).1.abs, (stabilize_same hinv h).1.msgs⟩

/-! ### `compact` -/

theorem compact_effx {r : Raft} {k : Nat} {store : MemStorage} {m : Message} (hinv : r.raftLog.Inv)
    (hc : CompactOk r.raftLog k) (h : r.raftLog.store.compact k = .ok store) :
    EffX r (withStore r (fun _ => store)) m := by
  have hps := hinv.persisted_le_store
  obtain ⟨l', hcs, hinv', habs1, habs2, hun, _, _, _, _, hsl⟩ :=
    RaftProps.C14.compactStore_ok hinv k hc.1 (by have := hc.2; omega) (.inl (by have := hc.2; omega))
  have hl' : l' = { r.raftLog with store := store } := by
    unfold RaftLog.compactStore at hcs
    rw [h] at hcs
    cases hcs; rfl
  subst hl'
  have hlast : ({ r.raftLog with store := store } : RaftLog).lastIndex = r.raftLog.lastIndex := by
    unfold RaftLog.lastIndex
    dsimp only
    rw [show store.lastIndex = r.raftLog.store.lastIndex from hsl]
  have hsub : (Sub ({ r.raftLog with store := store } : RaftLog).abs r.raftLog.abs ∧
      ∀ i e, r.raftLog.abs.entryAt i = some e →
        ({ r.raftLog with store := store } : RaftLog).abs.snapIdx < i →
        ({ r.raftLog with store := store } : RaftLog).abs.entryAt i = some e) ∧
      PrevKeep r.raftLog.abs ({ r.raftLog with store := store } : RaftLog).abs := by
    cases hs : r.raftLog.unstable.snapshot with
    | none =>
      rw [habs1 hs]
      have hkl : k - 1 ≤ r.raftLog.abs.lastIndex := by
        rw [← hinv.lastIndex_abs]; have := hinv.committed_le_last; have := hc.1; omega
      refine ⟨⟨Sub.compactTo _ _ hkl, ?_⟩, PrevKeep.compactTo _ _ hkl⟩
      intro i e he hi
      rw [LLog.compactTo_entryAt _ _ _]
      by_cases hle : k - 1 ≤ r.raftLog.abs.snapIdx
      · have hl := (r.raftLog.abs.entryAt_lt he).1
        rw [if_neg (by omega)]; exact he
      · have : (r.raftLog.abs.compactTo (k - 1)).snapIdx = k - 1 := by
          unfold LLog.compactTo; rw [if_neg hle]
        rw [this] at hi
        rw [if_neg (by omega)]; exact he
    | some sn =>
      rw [habs2 sn hs]
      exact ⟨⟨Sub.refl _, fun i e he _ => he⟩, PrevKeep.rfl _⟩
  exact ⟨hinv', .inl (storeLog_compact hinv.storeWF k (by have := hc.2; omega) h), .inl hsub.1.1,
    fun x hx _ => .inl hx,
    fun _ _ _ => ⟨Nat.le_of_eq hlast.symm, hsub.1.2⟩, fun _ _ _ => hsub.2⟩

/-! ### one call of a node -/

/-- the effect of one call on a node: log / storage / queue (`Eff`) and role / term (`RT`) -/
structure LStepX (a r : Raft) (m : Message) : Prop where
  eff : EffX a r m
  rt : RT a r

theorem LStepX.rebaseRand {a r : Raft} {m : Message} {rnd : Option Nat}
    (h : LStepX ({ a with nextRand := rnd } : Raft) r m) : LStepX a r m :=
  ⟨h.eff.rebase rfl rfl rfl rfl rfl, h.rt.rebase rfl rfl⟩

theorem LStepX.of_n0 {a r : Raft} {m : Message} (hinv : a.raftLog.Inv) (h : N0 a r)
    (ht : r.term = a.term) (hs : r.state = a.state) : LStepX a r m :=
  ⟨h.effx hinv, RT.rfl.ts ht hs⟩

theorem LStepX.of_sl {a r : Raft} {m : Message} (hinv : a.raftLog.Inv) (hcl : ProvX a r)
    (h : SX a r) (ht : r.term = a.term) (hs : r.state = a.state) : LStepX a r m :=
  ⟨h.effx hinv hcl, RT.rfl.ts ht hs⟩

theorem LStepX.of_fields {a r : Raft} {m : Message} (hinv : a.raftLog.Inv)
    (hl : r.raftLog = a.raftLog) (hm : r.msgs = a.msgs) (ht : r.term = a.term)
    (hs : r.state = a.state) : LStepX a r m :=
  ⟨EffX.of_fields hinv hl hm, RT.rfl.ts ht hs⟩

theorem rawStep_lstep_x {r r' : Raft} {m : Message} {e : Option RaftError} (hinv : r.raftLog.Inv)
    (hcl : ProvX r r') (hw : m.msgType = .msgAppend → MsgOk m)
    (h : RawNode.step r m = .ok (r', e)) : LStepX r r' m := by
  rcases RawNode.step_inv h with rfl | ⟨_, h⟩
  · exact LStepX.of_fields hinv rfl rfl rfl rfl
  · exact ⟨step_effx hinv hcl hw h, step_rt h⟩

/-- a call that steps a message built by the application (never a `MsgAppend`) -/
theorem localStep_lstep_x {r r' : Raft} {m m' : Message} {e : Option RaftError}
    (hinv : r.raftLog.Inv) (hcl : ProvX r r') (hm : m.msgType ≠ .msgAppend)
    (h : r.step m = .ok (r', e)) : LStepX r r' m' :=
  ⟨(step_effx hinv hcl (fun hc => absurd hc hm) h).retag hm, step_rt h⟩

theorem localStepIgnore_lstep_x {r r' : Raft} {m m' : Message}
    (hinv : r.raftLog.Inv) (hcl : ProvX r r') (hm : m.msgType ≠ .msgAppend)
    (h : r.stepIgnore m = .ok r') : LStepX r r' m' :=
  ⟨(stepIgnore_effx hinv hcl (fun hc => absurd hc hm) h).retag hm, stepIgnore_rt h⟩

/-- **one call of a node** — every `NodeOp` the cluster semantics uses (`step` for a delivered
message, and the application's calls), for a node whose log satisfies the representation invariant
batching on or off, under the proviso `ProvX`; a delivered `MsgAppend` is well-numbered with real terms; `compact` obeys
the storage contract -/
theorem call_lstep_x (st st' : NState) (rnd : Option Nat) (op : NodeOp) (res : OpRes)
    (hinv : st.raft.raftLog.Inv) (hcl : ProvX st.raft st'.raft)
    (hop : op ≠ .drain ∧ ∀ m, op ≠ .rstep m)
    (hw : ∀ m, op = .step m → m.msgType = .msgAppend → MsgOk m)
    (hc : ∀ k, op = .compact k → CompactOk st.raft.raftLog k)
    (h : Node.call st rnd op = .ok (res, st')) : LStepX st.raft st'.raft (CV.opMsg op) := by
  unfold Node.call at h
  generalize hst0 : ({ st with raft := { st.raft with nextRand := rnd } } : NState) = st0 at h
  have hinv0 : st0.raft.raftLog.Inv := by rw [← hst0]; exact hinv
  have hcl0 : ProvX st0.raft st'.raft := by rw [← hst0]; exact hcl.rebase rfl rfl rfl rfl
  have hc0 : ∀ k, op = .compact k → CompactOk st0.raft.raftLog k := by rw [← hst0]; exact hc
  suffices LStepX st0.raft st'.raft (CV.opMsg op) by
    rw [← hst0] at this; exact this.rebaseRand
  cases applyOp_parts h with
  | tick hx => exact ⟨tick_effx hinv0 hcl0 hx, tick_rt hx⟩
  | step hx => exact rawStep_lstep_x hinv0 hcl0 (hw _ rfl) hx
  | rstep hx => exact absurd rfl (hop.2 _)
  | propose hx | proposeCc hx | campaign hx =>
    exact localStep_lstep_x hinv0 hcl0 (by intro hc; cases hc) hx
  | readIndex hx | transferLeader hx | reportUnreachable hx | reportSnapshot hx =>
    exact localStepIgnore_lstep_x hinv0 hcl0 (by intro hc; cases hc) hx
  | ping hx =>
    have hvf := Res.Post.of_eq (CV.ping_vf _) hx
    exact LStepX.of_n0 hinv0 (ping_n hx N.rfl hinv0) hvf.term hvf.state
  | requestSnapshot hx =>
    have hvf := Res.Post.of_eq (P := fun x => CV.VF _ x.1) (CV.requestSnapshot_vf _) hx
    exact LStepX.of_n0 hinv0 (requestSnapshot_n hx N.rfl hinv0) hvf.term hvf.state
  | confChanged hx | confRefused hx =>
    exact ⟨(applyConfChange_x hx hinv0).effx hinv0 hcl0, applyConfChange_rt hx⟩
  | stabilize hx => exact And.elim LStepX.mk (stabilize_effx hinv0 hx)
  | onPersistEntries hx =>
    have hvf := Res.Post.of_eq (CV.onPersistEntries_vf _ _ _) hx
    exact LStepX.of_sl hinv0 hcl0 (onPersistEntries_x hinv0 hx) hvf.term hvf.state
  | persistSnap hx => exact And.elim LStepX.mk (persistSnap_effx hinv0 hx)
  | commitApply hx =>
    exact ⟨(commitApply_effx hinv0 hx).1.1, (commitApply_effx (m := default) hinv0 hx).2⟩
  | compact hx => exact ⟨compact_effx hinv0 (hc0 _ rfl) hx, RT.rfl.ts rfl rfl⟩
  | drain => exact absurd rfl hop.1
  | triggerSnap | triggerLog =>
    exact ⟨EffX.of_store_core hinv0 _ rfl rfl rfl rfl, RT.rfl.ts rfl rfl⟩
  | setPriority | setBatchAppend | skipBcastCommit | setCheckQuorum | maybeFreeInflightBuffers
  | clearCommitGroup | checkGroupCommitConsistent | setMaxCommittedSizePerReady | staleFetch =>
    exact LStepX.of_fields hinv0 rfl rfl rfl rfl
  | adjustMaxInflight hx =>
    have hvf := Res.Post.of_eq (CV.adjustMaxInflightMsgs_vf _ _ _) hx
    exact LStepX.of_n0 hinv0 (adjustMaxInflightMsgs_n hx N.rfl hinv0) hvf.term hvf.state
  | enableGroupCommit hx =>
    have hvf := Res.Post.of_eq (CV.enableGroupCommit_vf _ _) hx
    exact LStepX.of_sl hinv0 hcl0 (enableGroupCommit_x hx hinv0) hvf.term hvf.state
  | assignCommitGroups hx =>
    have hvf := Res.Post.of_eq (CV.assignCommitGroups_vf _ _) hx
    exact LStepX.of_sl hinv0 hcl0 (assignCommitGroups_x hx hinv0) hvf.term hvf.state
  | setMaxApplyUnpersistedLogLimit x =>
    exact LStepX.of_n0 hinv0 ⟨logS_limit _ x, rfl, fun y hy _ => hy⟩ rfl rfl
  | fetched _ hld _ hx =>
    have hvf := Res.Post.of_eq (CV.sendAppend_vf _ _) hx
    exact LStepX.of_sl hinv0 hcl0 (.inr ⟨hld, sendAppend_x hx (X.rfl)⟩) hvf.term hvf.state
  | fetchedAll _ hld _ hx =>
    have hvf := Res.Post.of_eq (CV.sendAppendAggressively_vf _ _) hx
    exact LStepX.of_sl hinv0 hcl0 (.inr ⟨hld, sendAppendAggressively_x hx (X.rfl)⟩) hvf.term
      hvf.state

/-! ### role and term transitions of one call, without any proviso -/

theorem rawStep_rt {r r' : Raft} {m : Message} {e : Option RaftError}
    (h : RawNode.step r m = .ok (r', e)) : RT r r' := by
  rcases RawNode.step_inv h with rfl | ⟨_, h⟩
  · exact RT.rfl
  · exact step_rt h

theorem call_rt (st st' : NState) (rnd : Option Nat) (op : NodeOp) (res : OpRes)
    (hinv : st.raft.raftLog.Inv)
    (hop : op ≠ .drain ∧ ∀ m, op ≠ .rstep m)
    (h : Node.call st rnd op = .ok (res, st')) : RT st.raft st'.raft := by
  unfold Node.call at h
  generalize hst0 : ({ st with raft := { st.raft with nextRand := rnd } } : NState) = st0 at h
  have hinv0 : st0.raft.raftLog.Inv := by rw [← hst0]; exact hinv
  suffices RT st0.raft st'.raft by
    rw [← hst0] at this; exact this.rebase rfl rfl
  -- a call that keeps the term and the role
  have quiet : ∀ {r2 : Raft}, CV.VF st0.raft r2 → RT st0.raft r2 :=
    fun hvf => RT.rfl.ts hvf.term hvf.state
  cases applyOp_parts h with
  | tick hx => exact tick_rt hx
  | step hx => exact rawStep_rt hx
  | rstep hx => exact absurd rfl (hop.2 _)
  | propose hx | proposeCc hx | campaign hx => exact step_rt hx
  | readIndex hx | transferLeader hx | reportUnreachable hx | reportSnapshot hx =>
    exact stepIgnore_rt hx
  | ping hx => exact quiet (Res.Post.of_eq (CV.ping_vf _) hx)
  | requestSnapshot hx =>
    exact quiet (Res.Post.of_eq (P := fun x => CV.VF _ x.1) (CV.requestSnapshot_vf _) hx)
  | confChanged hx | confRefused hx => exact applyConfChange_rt hx
  | stabilize hx => exact (stabilize_same hinv0 hx).2
  | onPersistEntries hx => exact quiet (Res.Post.of_eq (CV.onPersistEntries_vf _ _ _) hx)
  | persistSnap hx => exact (persistSnap_same hinv0 hx).2
  | commitApply hx => exact (commitApply_effx (m := default) hinv0 hx).2
  | drain => exact absurd rfl hop.1
  | compact | triggerSnap | triggerLog | setPriority | setBatchAppend | skipBcastCommit
  | setCheckQuorum | maybeFreeInflightBuffers | clearCommitGroup | checkGroupCommitConsistent
  | setMaxApplyUnpersistedLogLimit | setMaxCommittedSizePerReady | staleFetch =>
    exact RT.rfl.ts rfl rfl
  | adjustMaxInflight hx => exact quiet (Res.Post.of_eq (CV.adjustMaxInflightMsgs_vf _ _ _) hx)
  | enableGroupCommit hx => exact quiet (Res.Post.of_eq (CV.enableGroupCommit_vf _ _) hx)
  | assignCommitGroups hx => exact quiet (Res.Post.of_eq (CV.assignCommitGroups_vf _ _) hx)
  | fetched _ _ _ hx => exact quiet (Res.Post.of_eq (CV.sendAppend_vf _ _) hx)
  | fetchedAll _ _ _ hx => exact quiet (Res.Post.of_eq (CV.sendAppendAggressively_vf _ _) hx)

/-! ### one call of a node, from a clean queue -/

/-- the effect of one call on a node: log / storage / queue (`Eff`) and role / term (`RT`) -/
structure LStepB (a r : Raft) (m : Message) : Prop where
  eff : EffB a r m
  rt : RT a r

/-- **one call of a node**, in the vocabulary of leader mode, under the proviso `Prov0` -/
theorem call_lstep_b (st st' : NState) (rnd : Option Nat) (op : NodeOp) (res : OpRes)
    (hinv : st.raft.raftLog.Inv) (hcl : Prov0 st.raft st'.raft)
    (hop : op ≠ .drain ∧ ∀ m, op ≠ .rstep m)
    (hw : ∀ m, op = .step m → m.msgType = .msgAppend → MsgOk m)
    (hc : ∀ k, op = .compact k → CompactOk st.raft.raftLog k)
    (h : Node.call st rnd op = .ok (res, st')) : LStepB st.raft st'.raft (CV.opMsg op) :=
  have hx := call_lstep_x st st' rnd op res hinv (fun _ => hcl) hop hw hc h
  ⟨hx.eff.effb, hx.rt⟩

end Bt
end Raft
end RaftModel
