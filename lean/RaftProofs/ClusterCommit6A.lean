import RaftProofs.ClusterCommitBatchFacts
import RaftProofs.ClusterCommitBatchPerCall

/-!
Cluster-level commit safety with `batch_append`, **with queued `MsgSnapshot`s allowed**, part 6A: the cluster
invariant `CI` holds in every state of a history, and the hypotheses `Hyp3aB` of the main induction follow from
the hypotheses without gaps about the transport.

The cluster invariant `CI` carries C01d's alternative "… or a `MsgSnapshot` is queued next to it" (`CI.qa`,
`NodeI.po`) for a queued `MsgAppend`, so it yields C05d's anchor hypothesis exactly at the nodes that have no
`MsgSnapshot` queued — the nodes that are not **mute** (under `nosnap` a mute node can never `send` again before
a restart).  That is all the Log Matching layer that skips mute queues needs (`Cluster.M.SaneAnchors`):

* `M.Hyp3wQ`: the hypotheses, **with nothing assumed about queues**; `M.ci_allK`: `CI`, and with it the frame
  fact `MonoS` (a queued `MsgSnapshot` stays queued within a call, `Raft.PB.PWb.sn`), in every state — by
  induction along the history, where the step from `h[n]` to `h[n+1]` uses the whole commit layer (`M.Hyp3aB`,
  main induction `sm_all`) on the prefix `h[0..n]`; `M.Hyp3wQ.toHyp3aB`.
* `SaneQ s`: every node of `s` **that has a `MsgSnapshot` queued** has no `MsgAppend` anchored in the void in its
  queue; `Hyp3wQ` = `M.Hyp3wQ` + `saneq`; `Hyp3wB` (no `MsgSnapshot` is ever queued, `nosq`) makes `SaneQ`
  vacuous.  Under them C05d's `SaneAnchors` holds of *every* queue (`Hyp3wQ.toHyp3aB`, `Hyp3wB.toHyp3aB`).
-/
namespace RaftModel
namespace ClusterB
section
open Node Raft Raft.CC Raft.CP RaftProps.C02 RaftProps.C05 Raft.CB Raft.Bt Cluster

/-- **the mute nodes queue no append anchored in the void**: a node that has a `MsgSnapshot` in its
queue has no `MsgAppend` with `log_term = 0` at an anchor `≠ 0` in its queue.  (For the nodes *without* a
queued `MsgSnapshot` this is a theorem — `CI.qa`.) -/
def SaneQ (s : Sys) : Prop :=
  ∀ i st, s.node i = some st → QSnap st.raft.msgs →
    ∀ x ∈ st.raft.msgs, x.msgType = .msgAppend → x.logTerm = 0 → x.index = 0

/-- no `MsgSnapshot` queued: `SaneQ` is vacuous -/
theorem SaneQ.of_nosq {s : Sys}
    (h : ∀ i st, s.node i = some st → ∀ y ∈ st.raft.msgs, y.msgType ≠ .msgSnapshot) : SaneQ s := by
  intro i st hi ⟨y, hy, hyt⟩
  exact absurd hyt (h i st hi y hy)

/-- **`Hyp3wB` with `nosq` weakened to `saneq`** -/
structure Hyp3wQ (cfg : JointConfig) (c0 : Nat) (h : List Sys) : Prop where
  hist : History h
  fix : ∀ s ∈ h, FixedCfg cfg s
  ne : cfg.incoming ≠ []
  nd1 : cfg.incoming.Nodup
  nd2 : cfg.outgoing.Nodup
  init : ∀ s : Sys, h[0]? = some s → InitOk s
  steps : ∀ (n : Nat) (a b : Sys), h[n]? = some a → h[n + 1]? = some b → KStep a b
  nosnap : ∀ s ∈ h, NoSnapNet s
  mv : MultiVoter cfg
  nolone : ∀ i Q, IsJointQuorum cfg Q → ∃ k ∈ Q, k ≠ i
  shape : ∀ s ∈ h, ∀ i st, s.node i = some st →
    st.raft.raftLog.unstable.snapshot = none ∧ st.raft.raftLog.store.firstIndex = c0 + 1
  initc : ∀ s : Sys, h[0]? = some s → ∀ i st, s.node i = some st → st.raft.raftLog.committed = c0
  c0z : c0 = 0
  snapt0 : ∀ s0, h[0]? = some s0 → ∀ i sti, s0.node i = some sti → ∀ t0,
    sti.raft.raftLog.abs.snapTerm = some t0 → ∀ j stj, s0.node j = some stj → t0 ≤ stj.raft.term
  saneq : ∀ s ∈ h, SaneQ s

theorem Hyp3wQ.of_hyp3wB {cfg : JointConfig} {c0 : Nat} {h : List Sys} (H : Hyp3wB cfg c0 h) :
    Hyp3wQ cfg c0 h :=
  { hist := H.hist, fix := H.fix, ne := H.ne, nd1 := H.nd1, nd2 := H.nd2, init := H.init,
    steps := H.steps, nosnap := H.nosnap, mv := H.mv, nolone := H.nolone, shape := H.shape,
    initc := H.initc, c0z := H.c0z, snapt0 := H.snapt0,
    saneq := fun s hs => SaneQ.of_nosq (H.nosq s hs) }

variable {cfg : JointConfig} {c0 : Nat} {h : List Sys}

/-- the hypotheses without gaps (and without `NoBatch`) are closed under taking a non-empty prefix
(`History.take`, `get_take`, `take_get` are those of `ClusterCommitCI.lean`) -/
theorem Hyp3wQ.take (H : Hyp3wQ cfg c0 h) {k : Nat} (hk : 0 < k) : Hyp3wQ cfg c0 (h.take k) where
  hist := History.take H.hist k hk
  fix := fun s hs => H.fix s (List.mem_of_mem_take hs)
  ne := H.ne
  nd1 := H.nd1
  nd2 := H.nd2
  init := fun s h0 => H.init s (get_take h0).1
  steps := fun n a b ha hb => H.steps n a b (get_take ha).1 (get_take hb).1
  nosnap := fun s hs => H.nosnap s (List.mem_of_mem_take hs)
  mv := H.mv
  nolone := H.nolone
  shape := fun s hs => H.shape s (List.mem_of_mem_take hs)
  initc := fun s h0 => H.initc s (get_take h0).1
  c0z := H.c0z
  snapt0 := fun s0 h0 => H.snapt0 s0 (get_take h0).1
  saneq := fun s hs => H.saneq s (List.mem_of_mem_take hs)

end

namespace M
open Node Raft Raft.CC Raft.CP RaftProps.C02
open RaftProps.C05
open Raft.CB Raft.Bt
open Cluster hiding At Prov InvL Trans EntriesOf SaneAnchors
open Cluster.M
/-- **the cluster invariant `CI` together with the frame property of the step that led to the state**
(a queued `MsgSnapshot` stays queued or the queue is emptied; from `Raft.PB.PWb.sn` in `ci_callK`) -/
def CIM (h : List Sys) (c0 m : Nat) (s : Sys) : Prop :=
  CI h c0 m s ∧ ∀ m' a, m = m' + 1 → h[m']? = some a → MonoS a s

/-- **the hypotheses of the commit layer without proof gaps about the transport, without `NoBatch` and with
nothing assumed about queues**: the fields of `Hyp3wB` without `nosq` -/
structure Hyp3wQ (cfg : JointConfig) (c0 : Nat) (h : List Sys) : Prop where
  hist : History h
  fix : ∀ s ∈ h, FixedCfg cfg s
  ne : cfg.incoming ≠ []
  nd1 : cfg.incoming.Nodup
  nd2 : cfg.outgoing.Nodup
  init : ∀ s : Sys, h[0]? = some s → InitOk s
  steps : ∀ (n : Nat) (a b : Sys), h[n]? = some a → h[n + 1]? = some b → KStep a b
  nosnap : ∀ s ∈ h, NoSnapNet s
  mv : MultiVoter cfg
  nolone : ∀ i Q, IsJointQuorum cfg Q → ∃ k ∈ Q, k ≠ i
  shape : ∀ s ∈ h, ∀ i st, s.node i = some st →
    st.raft.raftLog.unstable.snapshot = none ∧ st.raft.raftLog.store.firstIndex = c0 + 1
  initc : ∀ s : Sys, h[0]? = some s → ∀ i st, s.node i = some st → st.raft.raftLog.committed = c0
  c0z : c0 = 0
  snapt0 : ∀ s0, h[0]? = some s0 → ∀ i sti, s0.node i = some sti → ∀ t0,
    sti.raft.raftLog.abs.snapTerm = some t0 → ∀ j stj, s0.node j = some stj → t0 ≤ stj.raft.term

variable {cfg : JointConfig} {c0 : Nat} {h : List Sys}

/-- **`SaneAnchors` from the cluster invariant**: at a node without a queued `MsgSnapshot` a queued
`MsgAppend` is anchored (`CI.qa`, and `c0 = 0`) -/
theorem sane_of_ciK (H : Hyp3wQ cfg c0 h) {s : Sys} {m : Nat} (hci : CI h c0 m s) :
    SaneAnchors s := by
  intro i st hi hnq x hx hty hz
  rcases hci.qa i st hi x hx hty with q | c | c
  · exact absurd q hnq
  · exact absurd hz c
  · have := H.c0z; omega

/-- `Hyp2wB` for a prefix all of whose states satisfy `CI` -/
theorem hyp2wB_takeK (H : Hyp3wQ cfg c0 h) {k : Nat} (hk : 0 < k)
    (hci : ∀ m s, m < k → h[m]? = some s → CIM h c0 m s) : Hyp2wB cfg c0 (h.take k) where
  hist := History.take H.hist k hk
  fix := fun s hs => H.fix s (List.mem_of_mem_take hs)
  ne := H.ne
  nd1 := H.nd1
  nd2 := H.nd2
  init := fun s h0 => H.init s (get_take h0).1
  steps := fun n a b ha hb => H.steps n a b (get_take ha).1 (get_take hb).1
  nosnap := fun s hs => H.nosnap s (List.mem_of_mem_take hs)
  mv := H.mv
  sane := by
    intro s hs
    obtain ⟨m, hm⟩ := List.mem_iff_getElem?.1 hs
    obtain ⟨hm', hlt⟩ := get_take hm
    exact sane_of_ciK H (hci m s hlt hm').1
  mono := by
    intro n a b ha hb
    obtain ⟨ha', _⟩ := get_take ha
    obtain ⟨hb', hlt⟩ := get_take hb
    exact (hci (n + 1) b hlt hb').2 n a rfl ha'
  nolone := H.nolone
  shape := fun s hs => H.shape s (List.mem_of_mem_take hs)
  initc := fun s h0 => H.initc s (get_take h0).1
  c0z := H.c0z

/-- the hypotheses of the main induction for a prefix all of whose states satisfy `CI` -/
theorem hyp3a_takeK (H : Hyp3wQ cfg c0 h) {k : Nat} (hk : 0 < k)
    (hci : ∀ m s, m < k → h[m]? = some s → CIM h c0 m s) : Hyp3aB cfg c0 (h.take k) where
  toHyp2wB := hyp2wB_takeK H hk hci
  anch := by
    intro s hs x hx hty
    obtain ⟨m, hm⟩ := List.mem_iff_getElem?.1 hs
    obtain ⟨hm', hlt⟩ := get_take hm
    exact (hci m s hlt hm').1.na x hx hty
  rirs := by
    intro n s hn x hx hty
    obtain ⟨hn', hlt⟩ := get_take hn
    obtain ⟨n0, s0, w, stw, h1, h2, h3⟩ := (hci n s hlt hn').1.nr x hx hty
    exact ⟨n0, s0, w, stw, h1, by rw [take_get (by omega)]; exact h2, h3⟩
  snapt0 := fun s0 h0 => H.snapt0 s0 (get_take h0).1

theorem ci_initK (H : Hyp3wQ cfg c0 h) {s : Sys} (h0 : h[0]? = some s) : CI h c0 0 s := by
  have hinit := hist_init H.hist s h0
  have hq : ∀ i st, s.node i = some st → NodeI st ∧ st.raft.msgs = [] := by
    intro i st hi
    obtain ⟨c, store, rnd, _, hb⟩ := hinit.2 i st hi
    exact NodeI.boot hb
  refine ⟨fun i st hi => (hq i st hi).1, fun i st hi x hx => ?_, fun i st hi x hx => ?_,
    fun x hx => ?_, fun x hx => ?_⟩
  · rw [(hq i st hi).2] at hx; cases hx
  · rw [(hq i st hi).2] at hx; cases hx
  · rw [hinit.1] at hx; cases hx
  · rw [hinit.1] at hx; cases hx

/-- a `call` / `deliver` step keeps the cluster invariant -/
theorem ci_callK (H : Hyp3wQ cfg c0 h) {n : Nat} {a : Sys} (ha : h[n]? = some a)
    (H' : Hyp3aB cfg c0 (h.take (n + 1))) (ca : CI h c0 n a)
    {k : Nat} {st st' : NState} {rnd : Option Nat} {op : NodeOp} {res : OpRes}
    (h1 : a.node k = some st)
    (hop : appOp op = true ∨ ∃ m, op = .step m ∧ m ∈ a.net ∧ m.to = k)
    (hnc : ∀ j, op ≠ .compact j) (h4 : Node.call st rnd op = .ok (res, st'))
    (hb : h[n + 1]? = some (a.setNode k st')) :
    CI h c0 (n + 1) (a.setNode k st') ∧ MonoS a (a.setNode k st') := by
  -- everything about the state `a` comes from the prefix; the successor state is not in it
  have H2 := H'.toHyp2wB
  obtain ⟨s0, _, hall⟩ := H2.toHypB.invLB
  have ha' : (h.take (n + 1))[n]? = some a := by rw [take_get (Nat.lt_succ_self n)]; exact ha
  have I := (hall a (mem_of_get ha')).1
  have B := (hall a (mem_of_get ha')).2
  have hkb : (a.setNode k st').node k = some st' := node_setNode_self a k st'
  have hop' := not_drain_of_hop hop
  have hms : ∀ m, op = .step m → m.msgType ≠ .msgSnapshot := by
    intro m hm
    rcases hop with g1 | ⟨m', g1, g2, _⟩
    · rw [hm] at g1; cases g1
    · rw [hm] at g1; cases g1; exact H.nosnap a (mem_of_get ha) m g2
  have hB : ∀ m, op = .step m → st.raft.state = .leader → m.msgType = .msgAppendResponse →
      m.reject = false → (m.term = 0 ∨ m.term = st.raft.term) →
      m.index ≤ st.raft.raftLog.lastIndex := by
    intro m hm hs hty hrej ht
    rcases hop with g1 | ⟨m', g1, g2, _⟩
    · rw [hm] at g1; cases g1
    · rw [hm] at g1; cases g1
      exact ack_bound H' ha' h1 hs g2 ⟨hty, hrej⟩ ht
  have hinv := I.inv k st h1
  have hpr := PB.call_prb st st' rnd op res hinv hop' hnc
    (H.shape a (mem_of_get ha) k st h1).1 hms (ca.node k st h1).po (ca.node k st h1).rd hB h4
  have hop1 : appOp op = true ∨ ∃ m, op = .step m ∧ m ∈ a.net := by
    rcases hop with g1 | ⟨m, g1, g2, _⟩
    · exact .inl g1
    · exact .inr ⟨m, g1, g2⟩
  have g := kstep_gb (mokc H2.hist H2.steps H2.nosnap n a ha') (H.nosnap a (mem_of_get ha)) h1 hop1 h4
  -- the per-call layer of the Log Matching proof with batching; its proviso needs the Election
  -- Safety invariants only, which hold along the whole history
  obtain ⟨all1, all2, _⟩ := hist_all H.hist
  have rt := call_rt st st' rnd op res hinv hop' h4
  have hp0 := prov0_of_inv H.nd1 H.nd2 H.mv B (all1 a (mem_of_get ha)) (all1 _ (mem_of_get hb))
    (all2 cfg H.fix _ (mem_of_get hb)) h1 hkb rfl rt
  have hw : ∀ m, op = .step m → m.msgType = .msgAppend → MsgOk m := by
    intro m hm hty
    rcases hop with g1 | ⟨m', g1, g2, _⟩
    · rw [hm] at g1; cases g1
    · rw [hm] at g1; cases g1
      exact I.msgOk g2 hty
  have hL := call_lstep_b st st' rnd op res hinv hp0.2 hop' hw (fun j hj => absurd hj (hnc j)) h4
  have hinv' : st'.raft.raftLog.Inv := hL.eff.inv
  have hsnap' : st'.raft.raftLog.abs.snapIdx = c0 := by
    obtain ⟨s1, s2⟩ := H.shape _ (mem_of_get hb) k st' hkb
    rw [RaftLog.abs_none s1]; show st'.raft.raftLog.store.firstIndex - 1 = c0; omega
  -- no entry of term 0 in the log of a node that is leader after the call
  have hnz : st'.raft.state = .leader → ∀ i e, st'.raft.raftLog.abs.entryAt i = some e →
      e.term ≠ 0 := by
    intro hs i e he
    rcases hL.eff.log with c | ⟨es, c⟩ | ⟨_, c, _⟩
    · exact I.nz (.log k) _ (at_log h1) i e (c i e he).1
    · rw [c.abs] at he
      have hmem : e ∈ st.raft.raftLog.abs.ents ++ es := LLog.entryAt_mem _ he
      rcases List.mem_append.1 hmem with d | d
      · exact I.nz (.log k) _ (at_log h1) e.index e ((abs_Contig hinv).entryAt_of_mem d)
      · rw [c.terms e d]
        obtain ⟨ht, hc⟩ := hp0.1 hs
        rw [← ht]
        exact I.tz k st h1 (hc.elim (fun c => .inl c.1) .inr)
    · exact absurd hs c
  have hsnq : QSnap st.raft.msgs → QSnap st'.raft.msgs := by
    rintro ⟨y, hy, hty⟩
    exact ⟨y, hpr.sn y hy hty, hty⟩
  -- the nodes
  refine ⟨⟨fun i sti hi => ?_, fun i sti hi x hx hty => ?_, fun i sti hi x hx hty => ?_,
    ca.na, fun x hx hty => (ca.nr x hx hty).mono (Nat.le_succ n)⟩, ?_⟩
  · rcases node_cases hi with ⟨_, rfl⟩ | ⟨_, c⟩
    · exact ⟨hpr.po, hpr.rd⟩
    · exact ca.node i sti c
  · rcases node_cases hi with ⟨_, rfl⟩ | ⟨_, c⟩
    · have hold : ∀ y ∈ st.raft.msgs, y.msgType = .msgAppend → y.index = x.index →
          y.logTerm = x.logTerm → QSnap sti.raft.msgs ∨ Anch c0 x := by
        intro y hy hyt hi hl
        rcases ca.qa k st h1 y hy hyt with d | d
        · exact .inl (hsnq d)
        · right; unfold Anch at d ⊢; rw [← hi, ← hl]; exact d
      rcases hpr.qa x hx hty with ⟨y, hy, hyt, hi, hl⟩ | c | c
      · exact hold y hy hyt hi hl
      · exact .inl c
      · rcases g.qlk x hx (by rw [hty]; rfl) with d | d | ⟨_, _, y, hy, hyt, es, cc, hxe⟩
        · exact hold x d hty rfl rfl
        · right
          by_cases hc0 : x.index ≤ c0
          · exact .inr hc0
          · left
            have hterm := (d.app hty).2
            rw [hinv'.term_abs] at hterm
            obtain ⟨e, he⟩ := sti.raft.raftLog.abs.entryAt_exists (i := x.index)
              (by rw [hsnap']; omega) (by rw [← hinv'.lastIndex_abs]; exact c)
            rw [sti.raft.raftLog.abs.term_of_entry he] at hterm
            injection hterm with hterm
            rw [← hterm]
            exact hnz d.lead x.index e he
        · -- a message of the start queue that was batched onto keeps its anchor
          exact hold y hy hyt (by rw [hxe]) (by rw [hxe])
    · exact ca.qa i sti c x hx hty
  · rcases node_cases hi with ⟨_, rfl⟩ | ⟨_, c⟩
    · have hold : x ∈ st.raft.msgs → RirSrc h (n + 1) x :=
        fun hxo => (ca.qr k st h1 x hxo hty).mono (Nat.le_succ n)
      rcases hpr.qr x hx hty with c | c
      · exact hold c
      · rcases g.qlk x hx (by rw [hty]; rfl) with d | d | ⟨_, _, y, _, hbat⟩
        · exact hold d
        · exact ⟨n + 1, _, k, sti, Nat.le_refl _, hb, hkb, d.lead, d.term.symm, c⟩
        · rw [hbat.msgType] at hty; cases hty
    · exact (ca.qr i sti c x hx hty).mono (Nat.le_succ n)

  · -- the frame property of the step
    intro i sti sti' hi hi' hq
    rcases node_cases hi' with ⟨hik, hst⟩ | ⟨_, c⟩
    · subst hik; subst hst
      rw [h1] at hi; cases hi
      exact .inl (hsnq hq)
    · rw [c] at hi; cases hi
      exact .inl hq

/-- **one step of the history keeps the cluster invariant** -/
theorem ci_stepK (H : Hyp3wQ cfg c0 h) {n : Nat} {a b : Sys} (ha : h[n]? = some a)
    (hb : h[n + 1]? = some b) (H' : Hyp3aB cfg c0 (h.take (n + 1))) (ca : CI h c0 n a) :
    CI h c0 (n + 1) b := by
  have hnosnap := H.nosnap b (mem_of_get hb)
  cases H.steps n a b ha hb with
  | call k st st' rnd op res h1 h2 h3 _ h4 =>
    exact (ci_callK H ha H' ca h1 (.inl h2) h3 h4 hb).1
  | deliver k st st' rnd m res h1 h2 h3 h4 =>
    exact (ci_callK H ha H' ca h1 (.inr ⟨m, rfl, h2, h3⟩) (fun j hc => by cases hc) h4 hb).1
  | send k st st' h1 h2 _ h3 =>
    have hf : st'.raft.msgs = [] ∧ st'.raft.raftLog = st.raft.raftLog ∧
        st'.raft.state = st.raft.state ∧ st'.raft.prs = st.raft.prs ∧
        st'.raft.readOnly = st.raft.readOnly := by
      unfold Node.call at h3
      simp only [applyOp] at h3
      cases h3; exact ⟨rfl, rfl, rfl, rfl, rfl⟩
    obtain ⟨f1, f2, f3, f4, f5⟩ := hf
    -- the queue that is handed over holds no `MsgSnapshot`
    have hns : ¬ QSnap st.raft.msgs := by
      rintro ⟨y, hy, hty⟩
      exact hnosnap y (List.mem_append_right _ hy) hty
    refine ⟨fun i sti hi => ?_, fun i sti hi x hx hty => ?_, fun i sti hi x hx hty => ?_,
      fun x hx hty => ?_, fun x hx hty => ?_⟩
    · rcases node_cases hi with ⟨_, rfl⟩ | ⟨_, c⟩
      · refine ⟨fun hs => ?_, fun hs => ?_⟩
        · rw [f3] at hs
          rcases (ca.node k st h1).po hs with d | d
          · exact absurd d hns
          · right; rw [f2, f4]; exact d
        · rw [f3] at hs
          rw [f2, f5]; exact (ca.node k st h1).rd hs
      · exact ca.node i sti c
    · rcases node_cases hi with ⟨_, rfl⟩ | ⟨_, c⟩
      · rw [f1] at hx; cases hx
      · exact ca.qa i sti c x hx hty
    · rcases node_cases hi with ⟨_, rfl⟩ | ⟨_, c⟩
      · rw [f1] at hx; cases hx
      · exact (ca.qr i sti c x hx hty).mono (Nat.le_succ n)
    · have hx' : x ∈ a.net ++ st.raft.msgs := hx
      rcases List.mem_append.1 hx' with c | c
      · exact ca.na x c hty
      · rcases ca.qa k st h1 x c hty with d | d
        · exact absurd d hns
        · exact d
    · have hx' : x ∈ a.net ++ st.raft.msgs := hx
      rcases List.mem_append.1 hx' with c | c
      · exact (ca.nr x c hty).mono (Nat.le_succ n)
      · exact (ca.qr k st h1 x c hty).mono (Nat.le_succ n)
  | restart k st st' c rnd h1 h2 h3 =>
    obtain ⟨g1, g2⟩ := NodeI.boot h3
    refine ⟨fun i sti hi => ?_, fun i sti hi x hx hty => ?_, fun i sti hi x hx hty => ?_,
      ca.na, fun x hx hty => (ca.nr x hx hty).mono (Nat.le_succ n)⟩
    · rcases node_cases hi with ⟨_, rfl⟩ | ⟨_, c⟩
      · exact g1
      · exact ca.node i sti c
    · rcases node_cases hi with ⟨_, rfl⟩ | ⟨_, c⟩
      · rw [g2] at hx; cases hx
      · exact ca.qa i sti c x hx hty
    · rcases node_cases hi with ⟨_, rfl⟩ | ⟨_, c⟩
      · rw [g2] at hx; cases hx
      · exact (ca.qr i sti c x hx hty).mono (Nat.le_succ n)

/-- **the frame property of one step of the history** -/
theorem mono_stepK (H : Hyp3wQ cfg c0 h) {n : Nat} {a b : Sys} (ha : h[n]? = some a)
    (hb : h[n + 1]? = some b) (H' : Hyp3aB cfg c0 (h.take (n + 1))) (ca : CI h c0 n a) :
    MonoS a b := by
  cases H.steps n a b ha hb with
  | call k st st' rnd op res h1 h2 h3 _ h4 =>
    exact (ci_callK H ha H' ca h1 (.inl h2) h3 h4 hb).2
  | deliver k st st' rnd m res h1 h2 h3 h4 =>
    exact (ci_callK H ha H' ca h1 (.inr ⟨m, rfl, h2, h3⟩) (fun j hc => by cases hc) h4 hb).2
  | send k st st' h1 h2 _ h3 =>
    have f1 : st'.raft.msgs = [] := by
      unfold Node.call at h3
      simp only [applyOp] at h3
      cases h3; rfl
    intro i sti sti' hi hi' hq
    have hi'' : (a.setNode k st').node i = some sti' := hi'
    by_cases hik : i = k
    · subst hik
      rw [node_setNode_self] at hi''; cases hi''
      exact .inr f1
    · rw [node_setNode_ne a k i st' hik, hi] at hi''; cases hi''
      exact .inl hq
  | restart k st st' c rnd h1 h2 h3 =>
    obtain ⟨_, g2⟩ := NodeI.boot h3
    intro i sti sti' hi hi' hq
    by_cases hik : i = k
    · subst hik
      rw [node_setNode_self] at hi'; cases hi'
      exact .inr g2
    · rw [node_setNode_ne a k i st' hik, hi] at hi'; cases hi'
      exact .inl hq

/-- **the cluster invariant (and the frame property) holds in every state of a history** -/
theorem ci_allK (H : Hyp3wQ cfg c0 h) : ∀ (n : Nat) (s : Sys), h[n]? = some s → CIM h c0 n s := by
  intro n
  induction n using Nat.strongRecOn with
  | _ n ih =>
    intro s hn
    cases n with
    | zero => exact ⟨ci_initK H hn, fun m' a hm => by omega⟩
    | succ n =>
      have hlt : n + 1 < h.length := by
        rcases Nat.lt_or_ge (n + 1) h.length with c | c
        · exact c
        · rw [List.getElem?_eq_none c] at hn; cases hn
      have ha : h[n]? = some h[n] := List.getElem?_eq_some_iff.2 ⟨by omega, rfl⟩
      have H' : Hyp3aB cfg c0 (h.take (n + 1)) :=
        hyp3a_takeK H (Nat.succ_pos n) (fun m s hm hs => ih m hm s hs)
      have ca := (ih n (Nat.lt_succ_self n) _ ha).1
      refine ⟨ci_stepK H ha hn H' ca, fun m' a' hm ha' => ?_⟩
      have hmn : m' = n := by omega
      subst hmn
      rw [ha] at ha'; cases ha'
      exact mono_stepK H ha hn H' ca

/-- **the proof gaps `anch` and `norir` are theorems**: the hypotheses of the main induction
follow from the hypotheses without gaps about the transport -/
theorem Hyp3wQ.toHyp3aB (H : Hyp3wQ cfg c0 h) : Hyp3aB cfg c0 h := by
  have hpos : 0 < h.length := List.length_pos_iff.2 (History.ne_nil H.hist)
  have := hyp3a_takeK H hpos (fun m s _ hs => ci_allK H m s hs)
  rw [List.take_length] at this
  exact this

end M

section
open Node Raft Raft.CC Raft.CP RaftProps.C02 RaftProps.C05 Raft.CB Raft.Bt Cluster
variable {cfg : JointConfig} {c0 : Nat} {h : List Sys}

theorem Hyp3wQ.toM (H : Hyp3wQ cfg c0 h) : M.Hyp3wQ cfg c0 h :=
  ⟨H.hist, H.fix, H.ne, H.nd1, H.nd2, H.init, H.steps, H.nosnap, H.mv, H.nolone, H.shape, H.initc, H.c0z,
    H.snapt0⟩

theorem Hyp3wB.toM (H : Hyp3wB cfg c0 h) : M.Hyp3wQ cfg c0 h := (Hyp3wQ.of_hyp3wB H).toM

/-- the bundle of the main induction contains the hypotheses without gaps -/
theorem Hyp3aB.toM (H : Hyp3aB cfg c0 h) : M.Hyp3wQ cfg c0 h :=
  ⟨H.hist, H.fix, H.ne, H.nd1, H.nd2, H.init, H.steps, H.nosnap, H.mv, H.nolone, H.shape, H.initc, H.c0z,
    H.snapt0⟩

/-- **the cluster invariant holds in every state of a history** -/
theorem ci_allK (H : Hyp3wQ cfg c0 h) (n : Nat) (s : Sys) (hn : h[n]? = some s) : CI h c0 n s :=
  (M.ci_allK H.toM n s hn).1

/-- **the proof gaps `anch` and `norir` are theorems**: the hypotheses of the main induction
follow from the hypotheses without gaps about the transport; `SaneAnchors` holds of every queue — at the
mute nodes by `saneq`, at the others by `M.sane_of_ciK` -/
theorem Hyp3wQ.toHyp3aB (H : Hyp3wQ cfg c0 h) : Hyp3aB cfg c0 h :=
  have Ha := H.toM.toHyp3aB
  { hist := H.hist, fix := H.fix, ne := H.ne, nd1 := H.nd1, nd2 := H.nd2, init := H.init,
    steps := H.steps, nosnap := H.nosnap, mv := H.mv, nolone := H.nolone, shape := H.shape,
    initc := H.initc, c0z := H.c0z, snapt0 := H.snapt0, anch := Ha.anch, rirs := Ha.rirs,
    sane := fun s hs i st hi x hx hty hz =>
      Classical.byCases (fun hq : QSnap st.raft.msgs => H.saneq s hs i st hi hq x hx hty hz)
        (fun hq => Ha.sane s hs i st hi hq x hx hty hz) }

theorem Hyp3wB.toHyp3aB (H : Hyp3wB cfg c0 h) : Hyp3aB cfg c0 h := (Hyp3wQ.of_hyp3wB H).toHyp3aB

/-- **the clean-queue invariant at every leader, mute or not**: where C05d's `SaneAnchors` holds of every queue,
every `MsgAppend` in the queue of a leader carries the leader's term and id, is anchored inside the leader's
log, and is a slice of the leader's log (`M.leader_queue` with every queue live) -/
theorem leader_queue_all (H : Hyp3wQ cfg c0 h) {n : Nat} {s : Sys} (hn : h[n]? = some s) {i : Nat}
    {st : NState} (hi : s.node i = some st) (hl : st.raft.state = .leader) {x : Message}
    (hx : x ∈ st.raft.msgs) (hty : x.msgType = .msgAppend) :
    x.term = st.raft.term ∧ x.frm = i ∧ st.raft.raftLog.term x.index = .ok x.logTerm ∧
    SubW x st.raft.raftLog.abs := by
  have Ha := H.toHyp3aB
  obtain ⟨s0, _, hall⟩ :=
    cluster_invB_batch cfg H.ne H.nd1 H.nd2 h H.hist H.fix H.init Ha.csteps H.mv Ha.sane
  exact M.leader_queue (live := allQ) H.toM.toHyp3aB.toHyp2wB (fun s hs => invL_live.1 (hall s hs).1)
    (fun s hs => saneAnchors_live.1 (Ha.sane s hs)) (fun _ _ _ _ _ _ st st' _ _ => mono_allQ st st')
    hn hi hl hx hty trivial

/-- **the components of the main induction hold in every state**, from the hypotheses without gaps
about the transport and without `NoBatch` -/
theorem sm_all_wK (H : Hyp3wQ cfg c0 h) {n : Nat} {s : Sys} (hn : h[n]? = some s) : Sm h c0 n s :=
  M.sm_all H.toM.toHyp3aB hn

/-- **the components of the main induction hold in every state**, from the hypotheses without gaps
about the transport and without `NoBatch` -/
theorem sm_all_w (H : Hyp3wB cfg c0 h) {n : Nat} {s : Sys} (hn : h[n]? = some s) : Sm h c0 n s :=
  sm_all_wK (.of_hyp3wB H) hn
end

end ClusterB
end RaftModel
