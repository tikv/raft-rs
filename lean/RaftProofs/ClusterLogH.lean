import RaftProofs.ClusterBatchH

/-!
Cluster-level Log Matching, helper lemmas part H: `RawNode::new`, and **one call of a node (any `NodeOp` the
cluster semantics uses) as an effect** in the vocabulary of the layer without batching (`call_lstep`:
`call_lstep_x` of `RaftProofs/ClusterBatchH.lean` with batching off).
-/
namespace RaftModel
namespace Raft
open Node

/-! ### `RawNode::new` -/

/-- **what a freshly booted node's log is**: the storage's own log, over the same storage -/
theorem raftNew_log (c : Config) (store : MemStorage) (rnd : Option Nat) (r : Raft)
    (hw : store.WF) (h : Raft.new c store rnd = .ok (.ok r)) :
    r.raftLog.Inv ∧ r.raftLog.abs = storeLog store ∧ r.raftLog.store.entries = store.entries ∧
    r.raftLog.store.snapshotMetadata = store.snapshotMetadata := by
  obtain ⟨_, log, prs, hnew, _, _, hr, rfl⟩ := raftNew_inv h
  obtain ⟨l0, e0, hinv0, _, hst0⟩ := RaftLog.Inv.new hw c.maxApplyUnpersistedLogLimit
  rw [hnew] at e0
  cases e0
  rw [RaftProps.C20.becomeFollower_raftLog]
  -- the commit index `load_state` sets lies within the log
  have hc : log.committed ≤ (if store.hardState ≠ {} then store.hardState.commit else log.committed) ∧
      (if store.hardState ≠ {} then store.hardState.commit else log.committed) ≤ log.lastIndex := by
    by_cases hh : store.hardState ≠ {}
    · rw [if_pos hh]; have := hr hh; omega
    · rw [if_neg hh]; exact ⟨Nat.le_refl _, hinv0.committed_le_last⟩
  have hs : LogSameS log (loadedNode c log rnd prs store.hardState).raftLog :=
    ⟨⟨rfl, rfl, fun _ => hinv0.set_cursors _ log.persisted _
        (by have := hinv0.dummy_le_committed; omega) hc.2 hinv0.persisted_lt_off
        hinv0.persisted_le_store, hc.1⟩, rfl, rfl⟩
  have hall := hs.trans (logS_limit _ 0)
  exact ⟨hall.same.inv hinv0, hall.same.abs.trans (abs_new hw hnew), by rw [hall.ents, hst0],
    by rw [hall.smeta, hst0]⟩

theorem boot_log (c : Config) (store : MemStorage) (rnd : Option Nat) (st : NState)
    (hw : store.WF) (h : Node.boot c store rnd = .ok (.ok st)) :
    st.raft.raftLog.Inv ∧ st.raft.raftLog.abs = storeLog store ∧
    storeLog st.raft.raftLog.store = storeLog store := by
  obtain ⟨h1, h2, h3, h4⟩ := raftNew_log c store rnd st.raft hw (Node.boot_inv h).2.1
  exact ⟨h1, h2, storeLog_eq_of_core h3 h4⟩

/-! ### one call of a node -/

/-- the effect of one call on a node: log / storage / queue (`Eff`) and role / term (`RT`) -/
structure LStep (a r : Raft) (m : Message) : Prop where
  eff : Eff a r m
  rt : RT a r

/-- **one call of a node** — every `NodeOp` the cluster semantics uses (`step` for a delivered
message, and the application's calls), for a node whose log satisfies the representation invariant
and that does not batch; a delivered `MsgAppend` is well-numbered with real terms; `compact` obeys
the storage contract -/
theorem call_lstep (st st' : NState) (rnd : Option Nat) (op : NodeOp) (res : OpRes)
    (hinv : st.raft.raftLog.Inv) (hnb : st.raft.batchAppend = false)
    (hop : op ≠ .drain ∧ ∀ m, op ≠ .rstep m)
    (hw : ∀ m, op = .step m → m.msgType = .msgAppend → MsgOk m)
    (hc : ∀ k, op = .compact k → CompactOk st.raft.raftLog k)
    (h : Node.call st rnd op = .ok (res, st')) : LStep st.raft st'.raft (CV.opMsg op) :=
  have hx := Bt.call_lstep_x st st' rnd op res hinv (fun c => by rw [hnb] at c; cases c) hop hw hc h
  ⟨hx.eff.eff hnb, hx.rt⟩

end Raft
end RaftModel
