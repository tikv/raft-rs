import RaftProofs.ClusterCommitAppendCall
import RaftProps.C04b
import RaftProofs.ClusterCommitM
import RaftProofs.ClusterCommitVocab
import RaftProps.C03b

/-!
Cluster-level commit safety: **the evidence behind what one call of a node does**.

* **why the commit index of one `Raft::step` moved, with the log the evidence was checked against**
  (`step_src`): `C04_step_commit_sources` where the intermediate state is known to hold the logical log of
  the start state.
* **why the commit index of one call moved** (`call_src`): it never decreases; if it grew, the node is the
  leader after the call, or the call delivered a message that carries the evidence (`CommitEvidence`,
  checked against a state holding the logical log of the start state).
* **a vote is granted only to an up-to-date log** (`fresh_grant`): a granted real vote response queued by a
  call answers the delivered `MsgRequestVote`, whose `(log_term, index)` is at least the
  `(last_term, last_index)` of the voter's log before the call.
-/

namespace RaftModel
namespace Raft
namespace CC
open RaftProps.C04

theorem SameLog.ls {r r0 : Raft} (h : SameLog r r0) : LS r r0 := by
  show LogSame r.raftLog r0.raftLog
  rcases h.2.2.2 with e | e <;> rw [e]
  · exact LogSame.rfl
  · exact c05_limit_same _ _

/-- what the receiver knows about the term of a (pre-)vote message whose commit point it used -/
def VRecv (m : Message) (r' : Raft) : Prop :=
  m.term ≤ r'.term ∨ (m.msgType = .msgRequestPreVote ∧ m.term ≤ r'.term + 1) ∨
  (m.msgType = .msgRequestPreVoteResponse ∧ m.reject = false)

/-- the vote arm moves the commit index only under the term guard of a pre-vote request (fix F12);
it keeps the term -/
theorem stepVote_cond {r r' : Raft} {m : Message} (h : r.stepVote m = .ok r')
    (hch : r'.raftLog.committed ≠ r.raftLog.committed) :
    (m.msgType ≠ .msgRequestPreVote ∨ m.term ≤ r.term + 1) ∧ r'.term = r.term := by
  refine ⟨?_, (RaftProps.C16.stepVote_outcome h).1.term⟩
  have h0 : CP (fun x => x = r.raftLog.committed) r := ⟨rfl⟩
  unfold Raft.stepVote at h
  split at h
  · cases h
  · split at h
    · exfalso
      unfold Raft.stepVoteGrant at h
      have : CP (fun x => x = r.raftLog.committed) r' := by
        c04_auto h [send_cp]
      exact hch this.h
    · unfold Raft.stepVoteReject at h
      split at h
      · cases h
      · cases h
      · split at h
        · rename_i r1 hs
          have e1 := send_eq r r1 _ hs
          split at h
          · rename_i hc
            rw [e1] at hc
            exact hc
          · cases h
            exfalso
            apply hch
            rw [e1]
        · cases h
        · cases h
    · cases h
    · cases h

/-- **`Raft::step`: why the commit index moved** -/
theorem step_src {r r' : Raft} {m : Message} {e : Option RaftError} (hinv : r.raftLog.Inv)
    (h : r.step m = .ok (r', e)) :
    r'.raftLog.committed = r.raftLog.committed ∨
    (r.raftLog.committed < r'.raftLog.committed ∧
      ((r.state = .leader ∧ r'.state = .leader ∧ m.msgType = .msgAppendResponse) ∨
       ∃ r1 : Raft, LS r r1 ∧ r1.state ≠ .leader ∧
         CommitEvidence r1.raftLog m r'.raftLog.committed ∧ VRecv m r')) := by
  have hmono := C04_commit_monotone_step r r' m e h
  by_cases hch : r'.raftLog.committed = r.raftLog.committed
  · exact Or.inl hch
  right
  refine ⟨by omega, ?_⟩
  cases step_inv h with
  | consumed hst =>
    exact absurd (stepTerm_cp (P := fun x => x = r.raftLog.committed) hst ⟨rfl⟩).h hch
  | dispatched hst hd =>
    rename_i r0
    have e0 : r0.raftLog.committed = r.raftLog.committed :=
      (stepTerm_cp (P := fun x => x = r.raftLog.committed) hst ⟨rfl⟩).h
    have hls : LS r r0 := (stepTerm_sameLog hst).ls
    have nochange : r'.raftLog.committed = r0.raftLog.committed → False :=
      fun hh => hch (hh.trans e0)
    have htc : m.term ≤ r0.term ∨ m.msgType = .msgRequestPreVote ∨
        (m.msgType = .msgRequestPreVoteResponse ∧ m.reject = false) :=
      (stepTerm_true_term hst).elim (fun c => .inl (by omega))
        (fun c => c.elim (fun c => .inl (Nat.le_of_eq c)) .inr)
    -- the role arms keep or raise the term
    have recv : m.msgType ≠ .msgRequestPreVote → r0.term ≤ r'.term → VRecv m r' := by
      intro hnpv hle
      rcases htc with c | c | c
      · exact .inl (Nat.le_trans c hle)
      · exact absurd c hnpv
      · exact .inr (.inr c)
    cases hd with
    | hup _ h2 =>
      exact absurd (hup_cp (P := fun x => x = r0.raftLog.committed) h2 ⟨rfl⟩).h nochange
    | vote _ hv =>
      rcases C04_vote_request_commit_source r0 _ m hv with e2 | ⟨_, hs, ev⟩
      · exact absurd e2 nochange
      · refine .inr ⟨r0, hls, hs, ev, ?_⟩
        obtain ⟨hcond, hterm⟩ := stepVote_cond hv (fun hc => nochange hc)
        rcases htc with c | c | c
        · exact .inl (by rw [hterm]; exact c)
        · rcases hcond with d | d
          · exact absurd c d
          · exact .inr (.inl ⟨c, by rw [hterm]; exact d⟩)
        · exact .inr (.inr c)
    | candidate ty hs hc =>
      have hs : r0.state ≠ .leader := by rcases hs with hs | hs <;> rw [hs] <;> simp
      have hv := recv ty.2.2 (stepCandidate_rt hc RT.rfl).le
      rcases C04_candidate_commit_sources r0 r' m e hc with
        e2 | ⟨_, ev | ⟨r1, res, hp, _, hs1, ev⟩⟩
      · exact absurd e2 nochange
      · exact .inr ⟨r0, hls, hs, ev, hv⟩
      · rcases poll_grew (hls.inv hinv) LS.rfl hp with c | c
        · exact .inr ⟨r1, hls.trans c, hs1, ev, hv⟩
        · exact absurd c.leader hs1
    | follower ty hs hx =>
      rcases C04_follower_commit_sources r0 r' m e hx with e2 | ⟨_, ev⟩
      · exact absurd e2 nochange
      · exact .inr ⟨r0, hls, by rw [hs]; simp, ev, recv ty.2.2 (stepFollower_rt hs hx RT.rfl).le⟩
    | leader _ hs hx =>
      left
      have hr0 : r0 = r := by
        rcases stepTerm_passed hst with g | ⟨_, _, _, l, g⟩
        · exact g
        · rw [g, (RaftProps.C16.becomeFollower_proj _ _ _).1] at hs; cases hs
      subst hr0
      refine ⟨hs, ?_⟩
      rcases stepLeader_commit hx with e2 | ⟨hm, _⟩
      · exact absurd e2 nochange
      · refine ⟨?_, hm⟩
        unfold Raft.stepLeader at hx
        rw [hm] at hx
        simp only [] at hx
        obtain ⟨r1, h1, hx⟩ := Res.bind_eq_ok hx
        cases hx
        rw [(handleAppendResponse_frame h1 Frame.rfl).state]; exact hs

open Node CV

/-! ### one call -/

/-- message types that carry no commit evidence and are not an append response -/
def quietTy : MsgType → Bool
  | .msgAppend | .msgHeartbeat | .msgSnapshot | .msgReadIndexResp | .msgAppendResponse => false
  | t => !isVoteMsg t

theorem quietTy_not_vote {t : MsgType} (h : quietTy t = true) : isVoteMsg t = false := by
  cases t <;> first | rfl | exact absurd h (by decide)

theorem step_quiet_ceq {r r' : Raft} {m : Message} {e : Option RaftError}
    (hq : quietTy m.msgType = true) (h : r.step m = .ok (r', e)) :
    r'.raftLog.committed = r.raftLog.committed := by
  rcases C04_step_commit_sources r r' m e h with c | ⟨_, r1, _, ⟨_, c, _⟩ | ⟨_, ev⟩⟩
  · exact c
  · rw [c] at hq; cases hq
  · cases ev with
    | append ht _ _ => rw [ht] at hq; cases hq
    | heartbeat ht _ _ => rw [ht] at hq; cases hq
    | snapshot ht _ => rw [ht] at hq; cases hq
    | byVote ht _ _ _ _ => rw [quietTy_not_vote hq] at ht; cases ht
    | readIndexResp ht _ _ _ => rw [ht] at hq; cases hq

theorem stepIgnore_quiet_ceq {r r' : Raft} {m : Message} (hq : quietTy m.msgType = true)
    (h : r.stepIgnore m = .ok r') : r'.raftLog.committed = r.raftLog.committed :=
  stepIgnore_parts (P := fun r1 => r1.raftLog.committed = r.raftLog.committed) h
    fun hs => step_quiet_ceq hq hs

/-- `tick` never moves the commit index: the local messages it steps are quiet -/
theorem tick_ceq {r r' : Raft} {b : Bool} (h : r.tick = .ok (r', b)) :
    r'.raftLog.committed = r.raftLog.committed := by
  have quiet : ∀ {r1 r2 : Raft} {m : Message} {t : MsgType}, r1.stepIgnore m = .ok r2 →
      m.msgType = t → quietTy t = true → r1.raftLog.committed = r.raftLog.committed →
      r2.raftLog.committed = r.raftLog.committed :=
    fun hs hty hq p => (stepIgnore_quiet_ceq (by rw [hty]; exact hq) hs).trans p
  refine tick_parts (P := fun r1 => r1.raftLog.committed = r.raftLog.committed) h
    (fun he => ?_) (fun hh => ?_)
  · exact tickElection_parts (P := fun r1 => r1.raftLog.committed = r.raftLog.committed) he
      (fun _ => rfl) fun hs hty _ p => quiet hs hty rfl p
  · exact tickHeartbeat_parts (P := fun r1 => r1.raftLog.committed = r.raftLog.committed) hh
      (fun _ _ p => p) rfl (fun hs hty _ _ p => quiet hs hty rfl p)
      (fun hs hty _ _ p => quiet hs hty rfl p) fun p => p

/-! ### what only a leader does to the commit index -/

theorem onPersistEntries_nl {r r' : Raft} {i t : Nat} (hs : r.state ≠ .leader)
    (h : r.onPersistEntries i t = .ok r') : r'.raftLog.committed = r.raftLog.committed :=
  onPersistEntries_parts (P := fun r1 => r1.raftLog.committed = r.raftLog.committed) h
    (fun hp => (maybePersist_shape hp).elim (fun g => by rw [g.2.1]) (fun g => by rw [g.2]))
    (fun _ p => p) (fun hl => absurd hl hs) (fun hl => absurd hl hs)

theorem applyConfChange_nl {r r' : Raft} {cc : ConfChangeV2} {res : Except ErrKind ConfState}
    (hs : r.state ≠ .leader) (h : r.applyConfChange cc = .ok (r', res)) :
    r'.raftLog.committed = r.raftLog.committed := by
  unfold Raft.applyConfChange at h
  simp only at h
  split at h
  · cases h; rfl
  · obtain ⟨⟨r1, cs⟩, h1, h⟩ := Res.bind_eq_ok h
    cases h
    refine postConfChange_nonleader_lp (Q := fun l => l.committed = r.raftLog.committed) ?_ h1 rfl
    exact hs

theorem enableGroupCommit_nl {r r' : Raft} {b : Bool} (hs : r.state ≠ .leader)
    (h : r.enableGroupCommit b = .ok r') : r'.raftLog.committed = r.raftLog.committed :=
  enableGroupCommit_parts (P := fun r1 => r1.raftLog.committed = r.raftLog.committed) h rfl
    (fun hl => absurd hl hs) (fun hl => absurd hl hs)

theorem assignCommitGroups_nl {r r' : Raft} {ids : List (Nat × Nat)} (hs : r.state ≠ .leader)
    (h : r.assignCommitGroups ids = .ok r') : r'.raftLog.committed = r.raftLog.committed :=
  assignCommitGroups_parts (P := fun r1 => r1.raftLog.committed = r.raftLog.committed) h rfl
    (fun _ _ p => p) (fun hl => absurd hl hs) (fun hl => absurd hl hs)

theorem applyConfChange_src {r r' : Raft} {cc : ConfChangeV2} {res : Except ErrKind ConfState}
    (h : r.applyConfChange cc = .ok (r', res)) :
    r'.raftLog.committed = r.raftLog.committed ∨ r'.state = .leader ∨ r.state ≠ .leader := by
  unfold Raft.applyConfChange at h
  simp only at h
  split at h
  · cases h; exact .inl rfl
  · obtain ⟨⟨r1, cs⟩, h1, h⟩ := Res.bind_eq_ok h
    cases h
    rcases Res.Post.of_eq (postConfChange_cases _) h1 with ⟨_, _, e⟩ | e | ⟨r2, hf, e⟩
    · left
      have e' : r1 = _ := e
      rw [e', becomeFollower_committed]
    · left
      have e' : r1 = _ := e
      rw [e']
    · by_cases hs : r.state = .leader
      · right; left
        have e' : r1 = _ := e
        have h2 : r2.state = .leader := hf.state.trans hs
        rw [e']
        split
        · split
          · exact h2
          · exact h2
        · exact h2
      · exact .inr (.inr hs)

/-- the shape of the conclusion of `call_src` -/
def Src (st st' : NState) (op : NodeOp) : Prop :=
  st.raft.raftLog.committed ≤ st'.raft.raftLog.committed ∧
  (st'.raft.raftLog.committed = st.raft.raftLog.committed ∨ st'.raft.state = .leader ∨
    ∃ m r1, op = .step m ∧ LS st.raft r1 ∧
      CommitEvidence r1.raftLog m st'.raft.raftLog.committed ∧ VRecv m st'.raft)

theorem Src.of_eq {st st' : NState} {op : NodeOp}
    (h : st'.raft.raftLog.committed = st.raft.raftLog.committed) : Src st st' op :=
  ⟨Nat.le_of_eq h.symm, .inl h⟩

/-- a call whose effect keeps the role, commits only as leader, and never un-commits -/
theorem Src.of_nl {st st' : NState} {op : NodeOp}
    (hle : st.raft.raftLog.committed ≤ st'.raft.raftLog.committed)
    (hst : st'.raft.state = st.raft.state)
    (hnl : st.raft.state ≠ .leader → st'.raft.raftLog.committed = st.raft.raftLog.committed) :
    Src st st' op := by
  refine ⟨hle, ?_⟩
  by_cases hs : st.raft.state = .leader
  · exact .inr (.inl (hst.trans hs))
  · exact .inl (hnl hs)

theorem adjustMaxInflightMsgs_raftLog {r r' : Raft} {id cap : Nat}
    (h : r.adjustMaxInflightMsgs id cap = .ok r') : r'.raftLog = r.raftLog := by
  unfold Raft.adjustMaxInflightMsgs at h
  split at h
  · cases h; rfl
  · split at h
    · cases h; rfl
    · cases h

/-- **the commit index over one call** -/
theorem call_src (st st' : NState) (rnd : Option Nat) (op : NodeOp) (res : OpRes)
    (hinv : st.raft.raftLog.Inv) (hop : op ≠ .drain ∧ ∀ m, op ≠ .rstep m)
    (hc : ∀ k, op ≠ .compact k) (hsn : st.raft.raftLog.unstable.snapshot = none)
    (h : Node.call st rnd op = .ok (res, st')) : Src st st' op := by
  -- the call runs on the state with the random draw stored
  unfold Node.call at h
  generalize hst0 : ({ st with raft := { st.raft with nextRand := rnd } } : NState) = st0 at h
  have hinv' : st0.raft.raftLog.Inv := by rw [← hst0]; exact hinv
  have hsn' : st0.raft.raftLog.unstable.snapshot = none := by rw [← hst0]; exact hsn
  have hlog : st.raft.raftLog = st0.raft.raftLog := by rw [← hst0]
  have hstate : st.raft.state = st0.raft.state := by rw [← hst0]
  have ofEq : ∀ {st1 : NState}, st1.raft.raftLog.committed = st0.raft.raftLog.committed →
      Src st st1 op := fun he => Src.of_eq (by rw [hlog]; exact he)
  have ofNl : ∀ {st1 : NState}, st0.raft.raftLog.committed ≤ st1.raft.raftLog.committed →
      st1.raft.state = st0.raft.state →
      (st0.raft.state ≠ .leader → st1.raft.raftLog.committed = st0.raft.raftLog.committed) →
      Src st st1 op := fun h1 h2 h3 => Src.of_nl (by rw [hlog]; exact h1) (by rw [hstate]; exact h2)
        (by rw [hlog, hstate]; exact h3)
  cases applyOp_parts h with
  | tick hx => exact ofEq (tick_ceq hx)
  | step hx =>
    rcases RawNode.step_inv hx with rfl | ⟨_, hx⟩
    · exact ofEq rfl
    · rcases step_src hinv' hx with c | ⟨hlt, ⟨_, c, _⟩ | ⟨r1, c1, _, c3, c4⟩⟩
      · exact ofEq c
      · exact ⟨by rw [hlog]; exact Nat.le_of_lt hlt, .inr (.inl c)⟩
      · exact ⟨by rw [hlog]; exact Nat.le_of_lt hlt,
          .inr (.inr ⟨_, r1, rfl, by rw [LS, hlog]; exact c1, c3, c4⟩)⟩
  | rstep => exact absurd rfl (hop.2 _)
  | propose hx | proposeCc hx | campaign hx => exact ofEq (step_quiet_ceq rfl hx)
  | readIndex hx | transferLeader hx | reportUnreachable hx | reportSnapshot hx =>
    exact ofEq (stepIgnore_quiet_ceq rfl hx)
  | ping hx => exact ofEq (ping_lp (Q := fun l => l.committed = st0.raft.raftLog.committed) hx rfl)
  | requestSnapshot hx =>
    exact ofEq (requestSnapshot_lp (Q := fun l => l.committed = st0.raft.raftLog.committed) hx rfl)
  | confChanged hx | confRefused hx =>
    refine ⟨by rw [hlog]; exact C04_commit_monotone_applyConfChange _ _ _ _ hx, ?_⟩
    rw [hlog]
    rcases applyConfChange_src hx with c | c | c
    · exact .inl c
    · exact .inr (.inl c)
    · exact .inl (applyConfChange_nl c hx)
  | stabilize hx =>
    obtain ⟨L, e1, e2, _⟩ := stabilize_shape hx
    exact ofEq (by rw [e1]; exact e2)
  | onPersistEntries hx =>
    exact ofNl (C04_commit_monotone_onPersistEntries _ _ _ _ hx)
      (Res.Post.of_eq (onPersistEntries_vf _ _ _) hx).state (onPersistEntries_nl · hx)
  | persistSnap hx =>
    refine persistSnap_parts (Q := fun s => Src st s .persistSnap) hx (ofEq rfl) fun hs _ _ _ => ?_
    rw [hsn'] at hs; cases hs
  | commitApply hx =>
    refine ofEq (commitApply_parts
      (Q := fun s => s.raft.raftLog.committed = st0.raft.raftLog.committed) hx rfl (fun ents => ?_)
      (fun h2 q => (C04_commitApply_keeps_commit _ _ _ h2).trans q) (fun q => q))
    unfold Raft.reduceUncommittedSize; split <;> rfl
  | compact => exact absurd rfl (hc _)
  | drain => exact absurd rfl hop.1
  | triggerSnap | triggerLog | setPriority | setBatchAppend | skipBcastCommit | setCheckQuorum
  | maybeFreeInflightBuffers | clearCommitGroup | checkGroupCommitConsistent
  | setMaxApplyUnpersistedLogLimit | setMaxCommittedSizePerReady | staleFetch =>
    exact ofEq rfl
  | adjustMaxInflight hx => exact ofEq (by rw [adjustMaxInflightMsgs_raftLog hx])
  | enableGroupCommit hx =>
    exact ofNl (enableGroupCommit_lp (CP.keepsAll _) hx (Nat.le_refl _))
      (Res.Post.of_eq (enableGroupCommit_vf _ _) hx).state (enableGroupCommit_nl · hx)
  | assignCommitGroups hx =>
    exact ofNl (assignCommitGroups_lp (CP.keepsAll _) hx (Nat.le_refl _))
      (Res.Post.of_eq (assignCommitGroups_vf _ _) hx).state (assignCommitGroups_nl · hx)
  | fetched _ _ _ hx =>
    exact ofEq (sendAppend_cp (P := (· = st0.raft.raftLog.committed)) hx ⟨rfl⟩).h
  | fetchedAll _ _ _ hx =>
    exact ofEq (sendAppendAggressively_cp (P := (· = st0.raft.raftLog.committed)) hx ⟨rfl⟩).h

/-! ### a vote is granted only to an up-to-date log -/

theorem fresh_grant {st st' : NState} {rnd : Option Nat} {op : NodeOp} {res : OpRes}
    (hcall : Node.call st rnd op = .ok (res, st')) (hop : Cluster.appOp op = true ∨ ∃ m, op = .step m)
    {g : Message} (hg : g ∈ st'.raft.msgs) (hold : g ∉ st.raft.msgs) (hig : Cluster.isGrant g) :
    ∃ m, op = .step m ∧ m.msgType = .msgRequestVote ∧ g.to = m.frm ∧ g.term = m.term ∧
      ∃ lt, st.raft.raftLog.lastTerm = .ok lt ∧
        (lt < m.logTerm ∨ (lt = m.logTerm ∧ st.raft.raftLog.lastIndex ≤ m.index)) := by
  have hN := call_nstep st st' rnd op res hcall
  have hrv : isRVm g = true := by simp [isRVm, hig.1, hig.2]
  rcases hN.msgs g hg hrv with c | c
  · exact absurd c hold
  obtain ⟨hty, hto, hterm, _⟩ := c.2.2.2 hig.1
  rcases hop with h1 | ⟨m, rfl⟩
  · cases op <;> first | (cases h1; done) | (cases hty; done)
  · refine ⟨m, rfl, hty, hto, hterm, ?_⟩
    unfold Node.call at hcall
    simp only [applyOp] at hcall
    obtain ⟨raft, e, hx, hr⟩ := unitRes_ok hcall
    rcases RawNode.step_inv hx with he | ⟨_, hx⟩
    · rw [hr, he] at hg
      exact absurd hg hold
    · rcases RaftProps.C03.C03_grant_only_if_up_to_date _ _ m e (.inl hty) hx with c1 | ⟨x, c1, _, _, c4⟩
      · rw [hr, c1] at hg
        exact absurd hg hold
      · rw [hr, c1] at hg
        rcases List.mem_append.1 hg with d | d
        · exact absurd d hold
        · rw [List.mem_singleton.1 d] at hig
          obtain ⟨_, _, _, _, _, hlt, _⟩ := c4 hig.2
          exact hlt

end CC
end Raft
end RaftModel
