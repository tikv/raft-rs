import RaftProofs.ClusterSnap5W

/-!
Commit safety of `ClusterSem` with compaction **and snapshots**, part 5X: **the cluster
invariant `Snap5.CI2 q` holds in every state of a history under `GHyp3w q`** (`ci_all`) — by induction
along the history, where the step from `h[n]` to `h[n+1]` uses the whole commit layer (`GHyp3a q`, main
induction `Snap5.sm_all`) on the prefix `h[0..n]` — and hence **the two proof gaps `anch` and `rirs` are
discharged**: `GHyp3w.toGHyp3a`, `Snap5.Hyp3w.toHyp3a`.

A muted node (`¬ q`, a `MsgSnapshot` queued) stays muted over a call (`PR.sn`) and never sends: its
`MsgSnapshot` would reach the transport (`Stp.net_sent`, `GHyp.q_of_net`).

What is new with snapshots between nodes: a leader's progress may be in the `Snapshot` state — its
pending snapshot is the index of a `MsgSnapshot` the leader queued, which is the commit index its
storage recorded (`SnapSend`, `snapshotCore_index`, `Sm.scm`), hence within the log, so `become_probe`
resumes within the log —; the delivery of a `MsgSnapshot` and the installation of a pending snapshot
are described completely by `SnapOut` / `PersistOut` (the node is a follower, resp. nothing but the
storage changes); and an anchor at a restored snapshot point carries that point's term, which is the
term of a real entry (`Full.sT`, `Full.der`), hence not `0` (`snap_point_term_ne_zero`).
-/
namespace RaftModel
namespace Cluster
namespace Snap5
open Node Raft Raft.CC Raft.CS RaftProps.C02 RaftProps.C05 Snap

variable {q : Prop} {cfg : JointConfig} {c0 : Nat} {h : List Sys}

/-- **snapshot terms are non-zero**: the term a node knows for a snapshot point above `c0` is the
term of a real entry -/
theorem snap_point_term_ne_zero (H : GHyp2w q cfg c0 h) {n : Nat} {s : Sys} (hn : h[n]? = some s)
    {v : Nat} {st : NState} (hv : s.node v = some st) {t : Nat}
    (ht : st.raft.raftLog.abs.snapTerm = some t) (hi : c0 < st.raft.raftLog.abs.snapIdx) :
    t ≠ 0 := by
  obtain ⟨sx, _, hall⟩ := H.inv_at
  have I := (ghost_inv H n s hn).node v st hv
  obtain ⟨e, he, het⟩ := I.log.sT t ht hi
  obtain ⟨g, ⟨m1, s1, loc, hs1, hat⟩, hg, _⟩ := I.log.der _ e he
  rw [← het]
  exact (hall s1 (mem_of_get hs1)).nz loc g hat _ e hg

theorem NodeI2.boot {c : Config} {store : MemStorage} {rnd : Option Nat} {st : NState}
    (hb : Node.boot c store rnd = .ok (.ok st)) : NodeI2 q st ∧ st.raft.msgs = [] := by
  have hbt := CV.boot_booted c store rnd st hb
  refine ⟨⟨fun hs => ?_, fun hs => ?_, fun _ x hx => ?_⟩, hbt.msgs⟩
  · rw [hbt.state] at hs; cases hs
  · rw [hbt.state] at hs; cases hs
  · rw [hbt.msgs] at hx; cases hx

/-- a node whose role, tracker, pending reads and queue are untouched, and whose log did not shrink -/
theorem NodeI2.congr {st st' : NState} (hI : NodeI2 q st) (hs : st'.raft.state = st.raft.state)
    (hp : st'.raft.prs = st.raft.prs) (hro : st'.raft.readOnly = st.raft.readOnly)
    (hm : st'.raft.msgs = st.raft.msgs)
    (hl : st.raft.raftLog.lastIndex ≤ st'.raft.raftLog.lastIndex)
    (hc : st.raft.raftLog.committed ≤ st'.raft.raftLog.committed) : NodeI2 q st' := by
  refine ⟨fun c => ?_, fun c p hp' => ?_, fun hq x hx hty => ?_⟩
  · rw [hs] at c
    refine (hI.po c).imp (fun m => by unfold Mute; rw [hm]; exact m) (fun g p hp' => ?_)
    rw [hp] at hp'
    obtain ⟨h1, h2, h3⟩ := g p hp'
    exact ⟨Nat.le_trans h1 hl, by omega, fun hst => ⟨(h3 hst).1, Nat.le_trans (h3 hst).2 hl⟩⟩
  · rw [hs] at c; rw [hro] at hp'
    exact Nat.le_trans (hI.rd c p hp') hc
  · exact Nat.le_trans (hI.qs hq x (by rw [← hm]; exact hx) hty) hc

theorem NodeI2.nonleader {st : NState} (hs : st.raft.state ≠ .leader)
    (hq : q → ∀ x ∈ st.raft.msgs, x.msgType = .msgSnapshot →
      x.snapshot.metadata.index ≤ st.raft.raftLog.committed) : NodeI2 q st :=
  ⟨fun c => absurd c hs, fun c => absurd c hs, hq⟩

theorem ci_init (H : GHyp3w q cfg c0 h) {s : Sys} (h0 : h[0]? = some s) : CI2 q h c0 0 s := by
  have hinit := hist_init H.hist s h0
  have hq : ∀ i st, s.node i = some st → NodeI2 q st ∧ st.raft.msgs = [] := by
    intro i st hi
    obtain ⟨c, store, rnd, _, hb⟩ := hinit.2 i st hi
    exact NodeI2.boot hb
  refine ⟨fun i st hi => (hq i st hi).1, fun i st hi x hx => ?_, fun i st hi x hx => ?_,
    fun x hx => ?_, fun x hx => ?_⟩
  · rw [(hq i st hi).2] at hx; cases hx
  · rw [(hq i st hi).2] at hx; cases hx
  · rw [hinit.1] at hx; cases hx
  · rw [hinit.1] at hx; cases hx

/-- a `call` / `deliver` step that is not the delivery of a snapshot, without a pending snapshot:
what it leaves at the stepping node -/
theorem ci_call (H : GHyp3w q cfg c0 h) {n : Nat} {a b : Sys} (ha : h[n]? = some a)
    (hb : h[n + 1]? = some b)
    (H' : GHyp3a q cfg c0 (h.take (n + 1))) (ca : CI2 q h c0 n a)
    {k : Nat} {st st' : NState} {rnd : Option Nat} {op : NodeOp} {res : OpRes}
    (hka : a.node k = some st) (hkb : b.node k = some st') (hnet : b.net = a.net)
    (hop : appOp op = true ∨ ∃ m, op = .step m ∧ m ∈ a.net ∧ m.to = k)
    (hco : ∀ j, op = .compact j → CompactOk st.raft.raftLog j)
    (hns : ∀ m, op = .step m → m.msgType ≠ .msgSnapshot)
    (hpn : st.raft.raftLog.unstable.snapshot = none)
    (hss : q → SnapSend st st')
    (hcall : Node.call st rnd op = .ok (res, st')) :
    NodeI2 q st' ∧ (∀ x ∈ st'.raft.msgs, x.msgType = .msgAppend → Mute q st' ∨ Anch c0 x) ∧
    (∀ x ∈ st'.raft.msgs, x.msgType = .msgReadIndexResp → RirSrc h (n + 1) x) := by
  have H2 := H.toGHyp2w
  obtain ⟨s0, _, hall⟩ := H2.inv_at
  have Ib := hall _ (mem_of_get hb)
  have ha' : (h.take (n + 1))[n]? = some a := by rw [take_get (Nat.lt_succ_self n)]; exact ha
  have oa := node_ok H2 ha hka
  have ob := node_ok H2 hb hkb
  have hop' : op ≠ .drain ∧ ∀ m, op ≠ .rstep m := by
    rcases hop with g1 | ⟨m, g1, _⟩
    · constructor
      · intro hc; rw [hc] at g1; cases g1
      · intro m hc; rw [hc] at g1; cases g1
    · rw [g1]
      exact ⟨(by intro hc; cases hc), (by intro m' hc; cases hc)⟩
  have hB : ∀ m, op = .step m → st.raft.state = .leader → m.msgType = .msgAppendResponse →
      m.reject = false → (m.term = 0 ∨ m.term = st.raft.term) →
      m.index ≤ st.raft.raftLog.lastIndex := by
    intro m hm hs hty hrej ht
    rcases hop with g1 | ⟨m', g1, g2, _⟩
    · rw [hm] at g1; cases g1
    · rw [hm] at g1; cases g1
      exact ack_bound H'.facts ha' hka hs g2 ⟨hty, hrej⟩ ht
  have hpr := call_pr2 st st' rnd op res oa.inv oa.nb hop' hco hpn hns (ca.node k st hka) hB hcall
  have g := (call_facts H2 ha hka hop hco hns hpn hcall).1
  have hcm := call_commit_le oa.inv hop' hco hpn hcall
  have hscm : st.raft.raftLog.store.hardState.commit ≤ st.raft.raftLog.committed :=
    (sm_all (H').facts ha').scm k st hka
  -- every queued `MsgSnapshot` names an index within the commit index
  have hqs : q → ∀ x ∈ st'.raft.msgs, x.msgType = .msgSnapshot →
      x.snapshot.metadata.index ≤ st'.raft.raftLog.committed := by
    intro hq x hx hty
    by_cases hold : x ∈ st.raft.msgs
    · exact Nat.le_trans ((ca.node k st hka).qs hq x hold hty) hcm
    · rw [snapshotCore_index (hss hq x hx hold hty)]
      exact Nat.le_trans hscm hcm
  refine ⟨⟨fun hs => (hpr.po hs).imp id (fun c p hp => ?_), hpr.rd, hqs⟩, fun x hx hty => ?_,
    fun x hx hty => ?_⟩
  · obtain ⟨h1, h2, h3⟩ := c p hp
    refine ⟨h1, h2, fun hst => ?_⟩
    obtain ⟨hq, d | ⟨y, hy, hyt, hyi⟩⟩ := h3 hst
    · exact ⟨hq, d⟩
    · rw [← hyi]
      exact ⟨hq, Nat.le_trans (hqs hq y hy hyt) ob.inv.committed_le_last⟩
  · -- a queued `MsgSnapshot` stays queued
    have hold : x ∈ st.raft.msgs → Mute q st' ∨ Anch c0 x := fun hxo =>
      (ca.qa k st hka x hxo hty).imp (fun ⟨nq, y, hy, hyt⟩ => ⟨nq, y, hpr.sn y hy hyt, hyt⟩) id
    by_cases hcomp : ∃ j, op = .compact j
    · obtain ⟨j, rfl⟩ := hcomp
      have ho := compact_out oa.inv hpn (hco j rfl) hcall
      exact hold (by rw [← ho.msgs]; exact hx)
    have hnc : ∀ j, op ≠ .compact j := fun j hj => hcomp ⟨j, hj⟩
    have hsi : st'.raft.raftLog.abs.snapIdx = st.raft.raftLog.abs.snapIdx := by
      cases H2.facts0.call_step0 ha hb hka hkb hnet hop hnc hns hpn hcall with
      | same hl => rw [hl]
      | grew es hg => rw [hg.abs]
      | acc m _ _ _ hacc _ _ _ _ => exact hacc.snap.1
    rcases hpr.qa x hx hty with c | c | c
    · exact hold c
    · exact .inl c
    · rcases hpr.qf x hx hty with f | f | f
      · exact hold f
      · exact .inl f
      · rcases g.qlk x hx (by rw [hty]; rfl) with d | d
        · exact hold d
        · right
          by_cases hc0 : x.index ≤ c0
          · exact .inr hc0
          · left
            have hterm := (d.app hty).2
            rw [ob.inv.term_abs] at hterm
            have hfi : st'.raft.raftLog.abs.snapIdx ≤ x.index := by
              change st.raft.raftLog.firstIndex ≤ x.index + 1 at f
              rw [oa.inv.firstIndex_abs] at f
              simp only [LLog.firstIndex] at f
              omega
            have hli : x.index ≤ st'.raft.raftLog.abs.lastIndex := by
              rw [← ob.inv.lastIndex_abs]; exact c
            by_cases hlt : st'.raft.raftLog.abs.snapIdx < x.index
            · obtain ⟨e, he⟩ := st'.raft.raftLog.abs.entryAt_exists (i := x.index) hlt hli
              rw [st'.raft.raftLog.abs.term_of_entry he] at hterm
              injection hterm with hterm
              rw [← hterm]
              exact Ib.nz (.log k) _ (at_log hkb) x.index e he
            · -- the anchor is the snapshot point: its term is the term of a real entry
              have heq : x.index = st'.raft.raftLog.abs.snapIdx := by omega
              unfold LLog.term at hterm
              split at hterm
              · omega
              · try rw [if_pos heq] at hterm
                cases hst : st'.raft.raftLog.abs.snapTerm with
                | none => rw [hst] at hterm; cases hterm
                | some t' =>
                  rw [hst] at hterm
                  injection hterm with hterm
                  rw [← hterm]
                  exact snap_point_term_ne_zero H2 hb hkb hst (by omega)
  · have hold : x ∈ st.raft.msgs → RirSrc h (n + 1) x :=
      fun hxo => (ca.qr k st hka x hxo hty).mono (Nat.le_succ n)
    rcases hpr.qr x hx hty with c | c
    · exact hold c
    · rcases g.qlk x hx (by rw [hty]; rfl) with d | d
      · exact hold d
      · exact ⟨n + 1, _, k, st', Nat.le_refl _, hb, hkb, d.lead, d.term.symm, c⟩

/-- **one step of the history keeps the cluster invariant** -/
theorem ci_step (H : GHyp3w q cfg c0 h) {n : Nat} {a b : Sys} (ha : h[n]? = some a)
    (hb : h[n + 1]? = some b) (H' : GHyp3a q cfg c0 (h.take (n + 1))) (ca : CI2 q h c0 n a) :
    CI2 q h c0 (n + 1) b := by
  have H2 := H.toGHyp2w
  obtain ⟨k, st, st', hka, hkb, hoth, hs⟩ := H2.toGHyp.stp ha hb
  have oa := node_ok H2 ha hka
  have ob := node_ok H2 hb hkb
  -- it suffices to look at the stepping node
  have key : NodeI2 q st' →
      (∀ x ∈ st'.raft.msgs, x.msgType = .msgAppend → Mute q st' ∨ Anch c0 x) →
      (∀ x ∈ st'.raft.msgs, x.msgType = .msgReadIndexResp → RirSrc h (n + 1) x) →
      CI2 q h c0 (n + 1) b := by
    intro hN hA hR
    refine ⟨fun i sti hi => ?_, fun i sti hi x hx hty => ?_, fun i sti hi x hx hty => ?_,
      fun x hx hty => ?_, fun x hx hty => ?_⟩
    · by_cases hik : i = k
      · subst hik; rw [hkb] at hi; cases hi; exact hN
      · rw [hoth i hik] at hi; exact ca.node i sti hi
    · by_cases hik : i = k
      · subst hik; rw [hkb] at hi; cases hi; exact hA x hx hty
      · rw [hoth i hik] at hi; exact ca.qa i sti hi x hx hty
    · by_cases hik : i = k
      · subst hik; rw [hkb] at hi; cases hi; exact hR x hx hty
      · rw [hoth i hik] at hi; exact (ca.qr i sti hi x hx hty).mono (Nat.le_succ n)
    · by_cases hxa : x ∈ a.net
      · exact ca.na x hxa hty
      · -- the queue of a muted node is not sent: its `MsgSnapshot` would reach the transport
        refine ((ca.qa k st hka x ((hs.net_sub x hx).resolve_left hxa) hty).resolve_left ?_)
        rintro ⟨nq, y, hy, hyt⟩
        exact nq (H2.q_of_net hb (hs.net_sent hx hxa y hy) hyt)
    · rcases hs.net_sub x hx with c | c
      · exact (ca.nr x c hty).mono (Nat.le_succ n)
      · exact (ca.qr k st hka x c hty).mono (Nat.le_succ n)
  have same : st'.raft.state = st.raft.state → st'.raft.prs = st.raft.prs →
      st'.raft.readOnly = st.raft.readOnly → st'.raft.msgs = st.raft.msgs →
      st.raft.raftLog.lastIndex ≤ st'.raft.raftLog.lastIndex →
      st.raft.raftLog.committed ≤ st'.raft.raftLog.committed → CI2 q h c0 (n + 1) b := by
    intro e1 e2 e3 e4 e5 e6
    refine key ((ca.node k st hka).congr e1 e2 e3 e4 e5 e6)
      (fun x hx hty => (ca.qa k st hka x (by rw [← e4]; exact hx) hty).imp
        (fun m => by unfold Mute; rw [e4]; exact m) id)
      (fun x hx hty => (ca.qr k st hka x (by rw [← e4]; exact hx) hty).mono (Nat.le_succ n))
  cases hs with
  | call rnd op res hop hco _ hns hpn hss hcall hnet _ _ =>
    obtain ⟨g1, g2, g3⟩ := ci_call H ha hb H' ca hka hkb hnet hop hco hns hpn hss hcall
    exact key g1 g2 g3
  | snap rnd m hm _ hty _ hout _ =>
    cases hout with
    | skip hr =>
      exact same (by rw [hr]) (by rw [hr]) (by rw [hr]) (by rw [hr]) (by rw [hr]; exact Nat.le_refl _)
        (by rw [hr]; exact Nat.le_refl _)
    | handled y hsf _ _ _ hq hack _ _ _ _ hcase =>
      have hcm : st.raft.raftLog.committed ≤ st'.raft.raftLog.committed := by
        cases hcase with
        | kept _ _ hc _ => exact Nat.le_of_eq hc.symm
        | ffwd _ _ hle hc _ _ _ => rw [hc]; exact hle
        | restored hle _ _ hc _ _ => rw [hc]; exact hle
      have hmem : ∀ x ∈ st'.raft.msgs, x.msgType ≠ .msgAppendResponse → x ∈ st.raft.msgs := by
        intro x hx hne
        rw [hq] at hx
        rcases List.mem_append.1 hx with c | c
        · exact c
        · rw [List.mem_singleton.1 c] at hne; exact absurd hack.1 hne
      have hsq : q := H2.q_of_net ha hm hty
      refine key (NodeI2.nonleader (by rw [hsf]; intro hc; cases hc) (fun _ x hx hty => ?_))
        (fun x hx hty => .inr ((ca.qa k st hka x (hmem x hx (by rw [hty]; intro hc; cases hc))
          hty).resolve_left (Mute.not hsq)))
        (fun x hx hty => (ca.qr k st hka x (hmem x hx (by rw [hty]; intro hc; cases hc))
          hty).mono (Nat.le_succ n))
      exact Nat.le_trans
        ((ca.node k st hka).qs hsq x (hmem x hx (by rw [hty]; intro hc; cases hc)) hty) hcm
  | psnap rnd _ hout _ _ =>
    cases hout with
    | noop hr =>
      exact same (by rw [hr]) (by rw [hr]) (by rw [hr]) (by rw [hr]) (by rw [hr]; exact Nat.le_refl _)
        (by rw [hr]; exact Nat.le_refl _)
    | done sn L _ hr hinv habs hc _ _ _ _ _ _ =>
      refine same (by rw [hr]) (by rw [hr]) (by rw [hr]) (by rw [hr]) ?_ ?_
      · rw [hr]
        show st.raft.raftLog.lastIndex ≤ L.lastIndex
        rw [hinv.lastIndex_abs, oa.inv.lastIndex_abs, habs]
        exact Nat.le_refl _
      · rw [hr]
        show st.raft.raftLog.committed ≤ L.committed
        rw [hc]; exact Nat.le_refl _
  | send _ _ hq hsame hnet hr =>
    refine key ⟨fun c => .inr fun p hp => ?_, fun c p hp => ?_,
        fun _ x hx => by rw [hq] at hx; cases hx⟩
      (fun x hx => by rw [hq] at hx; cases hx) (fun x hx => by rw [hq] at hx; cases hx)
    · rw [hsame.2.2] at c
      rw [hr] at hp
      rw [hsame.1]
      -- a muted node does not send: its `MsgSnapshot` would reach the transport
      refine (((ca.node k st hka).po c).resolve_left ?_) p hp
      rintro ⟨nq, y, hy, hyt⟩
      exact nq (H2.q_of_net hb (by rw [hnet]; exact List.mem_append_right _ hy) hyt)
    · rw [hsame.2.2] at c
      rw [hr] at hp
      rw [hsame.1]
      exact (ca.node k st hka).rd c p hp
  | restart c rnd hboot _ _ =>
    obtain ⟨g1, g2⟩ := NodeI2.boot hboot
    exact key g1 (fun x hx => by rw [g2] at hx; cases hx) (fun x hx => by rw [g2] at hx; cases hx)

/-- **the cluster invariant holds in every state of a history** -/
theorem ci_all (H : GHyp3w q cfg c0 h) :
    ∀ (n : Nat) (s : Sys), h[n]? = some s → CI2 q h c0 n s := by
  intro n
  induction n using Nat.strongRecOn with
  | _ n ih =>
    intro s hn
    cases n with
    | zero => exact ci_init H hn
    | succ n =>
      have hlt : n + 1 < h.length := by
        rcases Nat.lt_or_ge (n + 1) h.length with c | c
        · exact c
        · rw [List.getElem?_eq_none c] at hn; cases hn
      have ha : h[n]? = some h[n] := List.getElem?_eq_some_iff.2 ⟨by omega, rfl⟩
      have H' : GHyp3a q cfg c0 (h.take (n + 1)) :=
        hyp3a_take H (Nat.succ_pos n) (fun m s hm hs => ih m hm s hs)
      exact ci_step H ha hn H' (ih n (Nat.lt_succ_self n) _ ha)

/-- **the proof gaps `anch` and `rirs` of the snapshot layer are theorems**: the hypotheses of
the main induction follow from the hypotheses without gaps about the appends and read-index responses
of the transport -/
theorem GHyp3w.toGHyp3a (H : GHyp3w q cfg c0 h) : GHyp3a q cfg c0 h := by
  have hpos : 0 < h.length := List.length_pos_iff.2 (History.ne_nil H.hist)
  have := hyp3a_take H hpos (fun m s _ hs => ci_all H m s hs)
  rw [List.take_length] at this
  exact this

theorem Hyp3w.toHyp3a (H : Hyp3w cfg c0 h) : Hyp3a cfg c0 h :=
  { toHyp2w := H.toHyp2w, anch := H.g.toGHyp3a.anch, rirs := H.g.toGHyp3a.rirs,
    snapt0 := H.snapt0, snapidx := H.snapidx }

end Snap5
end Cluster
end RaftModel
