import RaftProofs.ClusterSnap2A

/-!
Commit safety of `ClusterSem`, towards snapshots, part 2B: **one delivery of a `MsgSnapshot` at a
node, completely** (`snap_call`): the message is not handled (nothing changes), or `handle_snapshot`
runs on a follower of the message's term — the storage is untouched, exactly one accepting
`MsgAppendResponse` is queued, and the log is kept (commit index unchanged, or fast-forwarded to the
snapshot index the log holds with the snapshot's term) or replaced by the snapshot
(`RaftLog::restore`): then the log does not hold the snapshot's last entry **or it ends at or before the
snapshot index**.  The latter is what a follower with a pending request guarantees (`Snap5.ReqOk`,
`ClusterSnap5C`: `pending_request_snapshot ≠ 0 → last_index ≤ pending_request_snapshot`), since the
request index is the last index at the time of the request, the log does not grow while the request is
pending, and the served snapshot is not older than the request (fix F10 in `Raft::restore`).
-/
namespace RaftModel
namespace Raft
namespace CC
open Node

/-- the three things `handle_snapshot` can do to the log of a follower whose pending snapshot request
is `p` -/
inductive SnapCase (p : Nat) (l l' : RaftLog) (sn : Snapshot) (x : Message) : Prop
  /-- a stale snapshot, or one that does not name this node: nothing changes -/
  | kept (hu : l'.unstable = l.unstable) (hp : l'.persisted = l.persisted)
      (hc : l'.committed = l.committed) (hx : x.index = l'.committed)
  /-- the log holds the snapshot's last entry: the commit index is fast-forwarded -/
  | ffwd (hu : l'.unstable = l.unstable) (hp : l'.persisted = l.persisted)
      (hle : l.committed ≤ sn.metadata.index) (hc : l'.committed = sn.metadata.index)
      (hm : l.matchTerm sn.metadata.index sn.metadata.term = .ok true)
      (hl : sn.metadata.index ≤ l.lastIndex) (hx : x.index = l'.committed)
  /-- the log is replaced by the snapshot: it does not hold the snapshot's last entry, or a request is
  pending and the snapshot is not older than it (`hpr`, the test of `Raft::restore`); in the second case
  the log ends at or before the snapshot index (`hm`, see `snap_call`) -/
  | restored (hle : l.committed ≤ sn.metadata.index)
      (hm : l.matchTerm sn.metadata.index sn.metadata.term ≠ .ok true ∨
        l.lastIndex ≤ sn.metadata.index)
      (hu : l'.unstable = l.unstable.restore sn) (hc : l'.committed = sn.metadata.index)
      (hp : l'.persisted = if l.committed < l.persisted then l.committed else l.persisted)
      (hx : x.index = sn.metadata.index)
      (hpr : l.matchTerm sn.metadata.index sn.metadata.term ≠ .ok true ∨
        (p ≠ 0 ∧ p ≤ sn.metadata.index))

/-- the outcome of delivering the `MsgSnapshot` `m` to a node (`st → st'`); `hprs`: the pending
snapshot request is cleared, or kept together with the unstable part of the log -/
inductive SnapOut (st st' : NState) (rnd : Option Nat) (m : Message) : Prop
  /-- not handled -/
  | skip (hr : st'.raft = { st.raft with nextRand := rnd })
  /-- handled by a follower of the message's term -/
  | handled (x : Message)
      (hs : st'.raft.state = .follower) (ht : m.term = st'.raft.term ∨ m.term = 0)
      (hle : st.raft.term ≤ st'.raft.term) (hid : st'.raft.id = st.raft.id)
      (hq : st'.raft.msgs = st.raft.msgs ++ [x]) (hack : isAck x) (hto : x.to = m.frm)
      (hfrm : x.frm = st'.raft.id) (hxt : x.term = st'.raft.term)
      (hsto : st'.raft.raftLog.store = st.raft.raftLog.store)
      (hcase : SnapCase st.raft.pendingRequestSnapshot st.raft.raftLog st'.raft.raftLog m.snapshot x)
      (hprs : st'.raft.pendingRequestSnapshot = 0 ∨
        (st'.raft.pendingRequestSnapshot = st.raft.pendingRequestSnapshot ∧
          st'.raft.raftLog.unstable = st.raft.raftLog.unstable))

theorem restore_eq {l l' : RaftLog} {sn : Snapshot} (h : l.restore sn = .ok l') :
    l'.unstable = l.unstable.restore sn ∧ l'.committed = sn.metadata.index ∧
    l'.persisted = (if l.committed < l.persisted then l.committed else l.persisted) ∧
    l'.store = l.store ∧ l'.applied = l.applied := by
  unfold RaftLog.restore at h
  split at h
  · cases h
  · cases h; exact ⟨rfl, rfl, rfl, rfl, rfl⟩

/-- **one delivery of a `MsgSnapshot` at a node whose pending request (if any) is not below its last
index** -/
theorem snap_call {st st' : NState} {rnd : Option Nat} {m : Message} {res : OpRes}
    (hm : m.msgType = .msgSnapshot)
    (hreq : st.raft.pendingRequestSnapshot ≠ 0 →
      st.raft.raftLog.lastIndex ≤ st.raft.pendingRequestSnapshot)
    (h : Node.call st rnd (.step m) = .ok (res, st')) : SnapOut st st' rnd m := by
  unfold Node.call at h
  simp only [applyOp] at h
  obtain ⟨raft, e, hx, hr⟩ := CV.unitRes_ok h
  unfold RawNode.step at hx
  split at hx
  · cases hx; exact .skip hr
  · split at hx
    · rcases step_snap_unfold hm hx with ⟨r0, h0, hs0, hsl, htm, hprs⟩ | h1
      · have hsl' : SameLog ({ st.raft with nextRand := rnd } : Raft) r0 := hsl
        have hprs' : r0.pendingRequestSnapshot = st.raft.pendingRequestSnapshot := hprs
        unfold Raft.handleSnapshot at h0
        obtain ⟨⟨r1, b⟩, hres, h2⟩ := Res.bind_eq_ok h0
        obtain ⟨f1, f2, f3, f4, f5, fcase⟩ := restore_full hs0 hres
        -- the log of `r0` is the log of `st`, up to the apply limit
        have hlog : r0.raftLog.store = st.raft.raftLog.store ∧
            r0.raftLog.unstable = st.raft.raftLog.unstable ∧
            r0.raftLog.committed = st.raft.raftLog.committed ∧
            r0.raftLog.persisted = st.raft.raftLog.persisted ∧
            (∀ i t, r0.raftLog.matchTerm i t = st.raft.raftLog.matchTerm i t) ∧
            r0.raftLog.lastIndex = st.raft.raftLog.lastIndex := by
          rcases hsl'.2.2.2 with e1 | e1
          · rw [e1]; exact ⟨rfl, rfl, rfl, rfl, fun _ _ => rfl, rfl⟩
          · rw [e1]
            exact ⟨rfl, rfl, rfl, rfl, (c04_log_limit_irrelevant _ 0).2.1, rfl⟩
        obtain ⟨g1, g2, g3, g4, g5, g6⟩ := hlog
        have key : ∀ (x0 : Message), x0.msgType = .msgAppendResponse → x0.frm = 0 →
            x0.reject = false → x0.to = m.frm →
            r1.send x0 = .ok raft →
            SnapCase st.raft.pendingRequestSnapshot st.raft.raftLog r1.raftLog m.snapshot
              (r1.sendFill x0) →
            (r1.pendingRequestSnapshot = 0 ∨
              (r1.pendingRequestSnapshot = st.raft.pendingRequestSnapshot ∧
                r1.raftLog.unstable = st.raft.raftLog.unstable)) →
            SnapOut st st' rnd m := by
          intro x0 hty hfr hrej hto hsend hcase hp
          have heq := send_eq _ _ _ hsend
          obtain ⟨k1, k2, k3, k4, k5⟩ := sendFill_ack r1 x0 hty hfr
          refine .handled (r1.sendFill x0) ?_ ?_ ?_ ?_ ?_ ⟨by rw [sendFill_msgType]; exact hty,
            by rw [k5]; exact hrej⟩ (by rw [k4]; exact hto) ?_ ?_ ?_ ?_ ?_
          · rw [hr, heq]; show r1.state = _; rw [f3]; exact hs0
          · rw [hr, heq]; show m.term = r1.term ∨ _; rw [f2]; exact htm
          · rw [hr, heq]; show _ ≤ r1.term; rw [f2]; exact hsl'.2.2.1
          · rw [hr, heq]; show r1.id = _; rw [f4]; exact hsl'.2.1
          · rw [hr, heq]; show r1.msgs ++ _ = _; rw [f1, hsl'.1]
          · rw [hr, heq]; exact k1
          · rw [hr, heq]; exact k2
          · rw [hr, heq]; show r1.raftLog.store = _; rw [f5]; exact g1
          · rw [hr, heq]; exact hcase
          · rw [hr, heq]; exact hp
        rcases fcase with ⟨hb, c1, c2, _, c4, c5⟩ | ⟨hb, c1, c2, c3, c5⟩
        · subst hb
          simp only [Bool.false_eq_true, if_false] at h2
          refine key _ rfl rfl rfl rfl h2 ?_ (.inr ⟨by rw [c5, hprs'], by rw [c1, g2]⟩)
          obtain ⟨_, _, k3, _, _⟩ := sendFill_ack r1
            ({ msgType := .msgAppendResponse, to := m.frm, index := r1.raftLog.committed } : Message)
            rfl rfl
          rcases c4 with c | ⟨d1, d2, d3, d4⟩
          · exact .kept (by rw [c1, g2]) (by rw [c2, g4]) (by rw [c, g3]) k3
          · exact .ffwd (by rw [c1, g2]) (by rw [c2, g4]) (by rw [← g3]; exact d1) d2
              (by rw [← g5]; exact d3) (by rw [← g6]; exact d4) k3
        · subst hb
          simp only [if_true] at h2
          refine key _ rfl rfl rfl rfl h2 ?_ (.inl c5)
          obtain ⟨_, _, k3, _, _⟩ := sendFill_ack r1
            ({ msgType := .msgAppendResponse, to := m.frm, index := r1.raftLog.lastIndex } : Message)
            rfl rfl
          obtain ⟨q1, q2, q3, _, _⟩ := restore_eq c3
          have hlast : r1.raftLog.lastIndex = m.snapshot.metadata.index :=
            RaftProps.C20.restore_lastIndex _ _ _ c3
          have hpr : st.raft.raftLog.matchTerm m.snapshot.metadata.index m.snapshot.metadata.term ≠
              .ok true ∨ (st.raft.pendingRequestSnapshot ≠ 0 ∧
                st.raft.pendingRequestSnapshot ≤ m.snapshot.metadata.index) := by
            rw [← g5, ← hprs']; exact c2
          exact .restored (by rw [← g3]; exact c1)
            (hpr.imp_right fun c => Nat.le_trans (hreq c.1) c.2) (by rw [q1, g2]) q2
            (by rw [q3, g3, g4]) (by rw [k3]; exact hlast) hpr
      · exact .skip (by rw [hr, h1])
    · cases hx; exact .skip hr

/-- **the effect of `persist_snap`**: nothing (no pending snapshot, or a snapshot the storage refuses
as out of date), or the pending snapshot `sn` is installed: the storage holds nothing but the
snapshot — with commit index `sn.index` and term `max` of the stored term and the snapshot's —, the
snapshot is no longer pending, `persisted` is at least the snapshot index; the logical log, the commit
index and everything else of the node are untouched -/
inductive PersistOut (st st' : NState) (rnd : Option Nat) : Prop
  | noop (hr : st'.raft = { st.raft with nextRand := rnd })
  | done (sn : Snapshot) (L : RaftLog) (hpend : st.raft.raftLog.unstable.snapshot = some sn)
      (hr : st'.raft = { st.raft with nextRand := rnd, raftLog := L })
      (hinv : L.Inv) (habs : L.abs = st.raft.raftLog.abs)
      (hc : L.committed = st.raft.raftLog.committed)
      (hp : L.persisted = max st.raft.raftLog.persisted sn.metadata.index)
      (hus : L.unstable.snapshot = none) (hue : L.unstable.entries = st.raft.raftLog.unstable.entries)
      (hents : L.store.entries = []) (hmeta : L.store.snapshotMetadata = sn.metadata)
      (hhs : L.store.hardState = { st.raft.raftLog.store.hardState with
        term := max st.raft.raftLog.store.hardState.term sn.metadata.term,
        commit := sn.metadata.index })

theorem persist_out {st st' : NState} {rnd : Option Nat} {res : OpRes}
    (hinv : st.raft.raftLog.Inv) (h : Node.call st rnd .persistSnap = .ok (res, st')) :
    PersistOut st st' rnd := by
  unfold Node.call at h
  simp only [applyOp] at h
  unfold Node.persistSnap at h
  simp only [] at h
  split at h
  · cases h; exact .noop rfl
  · rename_i sn hsn
    have hsn' : st.raft.raftLog.unstable.snapshot = some sn := hsn
    split at h
    · cases h; exact .noop rfl
    · cases h
    · rename_i store hap
      have hap' : st.raft.raftLog.store.applySnapshot sn = .ok store := hap
      split at h
      · cases h
      · cases h
      · rename_i l hl
        split at h
        · rename_i raft hop
          cases h
          have hge : st.raft.raftLog.store.firstIndex ≤ sn.metadata.index := by
            unfold MemStorage.applySnapshot at hap'
            dsimp only at hap'
            split at hap'
            · cases hap'
            · omega
          have hstore : store = { st.raft.raftLog.store with
              snapshotMetadata := sn.metadata,
              hardState := { st.raft.raftLog.store.hardState with
                term := max st.raft.raftLog.store.hardState.term sn.metadata.term,
                commit := sn.metadata.index },
              entries := [], confState := sn.metadata.confState } := by
            unfold MemStorage.applySnapshot at hap'
            dsimp only at hap'
            split at hap'
            · cases hap'
            · cases hap'; rfl
          unfold Raft.onPersistSnap at hop
          split at hop
          · rename_i l2 b hmp
            cases hop
            have hps : st.raft.raftLog.persistSnapshot = .ok l2 := by
              unfold RaftLog.persistSnapshot
              rw [hsn']
              simp only []
              rw [hap']
              simp only []
              have hl' : ({ st.raft.raftLog with store := store } : RaftLog).stableSnap
                  sn.metadata.index = .ok l := hl
              rw [hl']
              simp only []
              have hmp' : l.maybePersistSnap sn.metadata.index = .ok (l2, b) := hmp
              rw [hmp']
            obtain ⟨l3, e3, i3, a3, c3, _, p3, u3, ue3⟩ :=
              RaftProps.C14.persistSnapshot_ok hinv sn hsn' hge
            rw [hps] at e3
            cases e3
            have hst2 : l2.store = store := by
              rw [RaftModel.C06.maybePersistSnap_store hmp, RaftModel.C06.stableSnap_store hl]
            exact .done sn l2 hsn' rfl i3 a3 c3 p3 u3 ue3 (by rw [hst2, hstore])
              (by rw [hst2, hstore]) (by rw [hst2, hstore])
          · cases hop
          · cases hop
        · cases h
        · cases h

/-- what the delivery of a `MsgSnapshot` queues: at most one accepting append response -/
theorem SnapOut.msgs {st st' : NState} {rnd : Option Nat} {m : Message} (h : SnapOut st st' rnd m) :
    ∀ x ∈ st'.raft.msgs, x ∈ st.raft.msgs ∨ isAck x := by
  intro x hx
  cases h with
  | skip hr => rw [hr] at hx; exact .inl hx
  | handled y _ _ _ _ hq hack _ _ _ _ _ _ =>
    rw [hq] at hx
    rcases List.mem_append.1 hx with c | c
    · exact .inl c
    · rw [List.mem_singleton.1 c]; exact .inr hack

/-- `persist_snap` leaves the queue alone -/
theorem PersistOut.msgs {st st' : NState} {rnd : Option Nat} (h : PersistOut st st' rnd) :
    st'.raft.msgs = st.raft.msgs := by
  cases h with
  | noop hr => rw [hr]
  | done _ _ _ hr _ _ _ _ _ _ _ _ _ => rw [hr]

end CC
end Raft
end RaftModel
