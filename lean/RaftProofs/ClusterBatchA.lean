import RaftProofs.ClusterLogA

/-!
Cluster-level Log Matching **with `batch_append`**, helper lemmas part A: the link view of a
`MsgAppend` that `try_batching` glued new entries onto.

`try_batching` checks index continuity only (`is_continuous_ents`).  The glued message is a chain whose
links are the links of the queued message, the links of the new entries (a slice of the sender's
log), and ONE junction link: the first new entry with the term of the *last position of the queued
message* as predecessor term.  That junction is a link of the sender's log iff the queued message is
*tail-compatible* with the log:

* `TailC g h`: the chain `g` ends within `h` and the predecessor term of the position after `g`'s end is
  the same in both (where both know it);
* `PrevKeep h h'`: the predecessor terms of `h'` at the positions up to one past the end of `h` are those of
  `h` (appending at the end and compacting keep them) — `TailC g h` then gives `TailC g h'`;
* `glue`: the chain glued from a tail-compatible `g` and a slice of `h` starting right after `g` is
  derived from `g` and `h` and is tail-compatible again.
-/
namespace RaftModel

/-- predecessor terms are kept (or forgotten) at the positions up to one past the end of `h` -/
def PrevKeep (h h' : LLog) : Prop :=
  ∀ i p, h'.prevTerm i = some p → i ≤ h.lastIndex + 1 → h.prevTerm i = some p

theorem PrevKeep.rfl (h : LLog) : PrevKeep h h := fun _ _ hp _ => hp

theorem PrevKeep.of_eq {h h' : LLog} (e : h' = h) : PrevKeep h h' := by
  subst e; exact PrevKeep.rfl _

theorem PrevKeep.append (g : LLog) (es : List Entry) :
    PrevKeep g { g with ents := g.ents ++ es } :=
  fun _ _ hp hi => ((g.splice_append es none).prev_below hi).symm.trans hp

theorem PrevKeep.compactTo (g : LLog) (k : Nat) (hk : k ≤ g.lastIndex) :
    PrevKeep g (g.compactTo k) :=
  have _ := hk
  fun _ _ hp _ => g.compactTo_prevTerm k hp

/-- **tail compatibility**: `g` ends within `h`, and the predecessor term of the position after the
end of `g` is the same in both where both know it -/
def TailC (g h : LLog) : Prop :=
  g.lastIndex ≤ h.lastIndex ∧
  ∀ p q, h.prevTerm (g.lastIndex + 1) = some p → g.prevTerm (g.lastIndex + 1) = some q → p = q

theorem TailC.mono {g h h' : LLog} (ht : TailC g h) (hl : h.lastIndex ≤ h'.lastIndex)
    (hk : PrevKeep h h') : TailC g h' :=
  ⟨Nat.le_trans ht.1 hl, fun p q hp hq =>
    ht.2 p q (hk _ p hp (Nat.succ_le_succ ht.1)) hq⟩

/-- a chain whose last entry is an entry of `h` at its position is tail-compatible with `h` -/
theorem TailC.of_last_in {g h : LLog} {e : Entry} (hg : g.entryAt g.lastIndex = some e)
    (hh : h.entryAt g.lastIndex = some e) : TailC g h := by
  refine ⟨(h.entryAt_lt hh).2, fun p q hp hq => ?_⟩
  rw [h.prevTerm_succ (h.entryAt_lt hh).1, hh] at hp
  rw [g.prevTerm_succ (g.entryAt_lt hg).1, hg] at hq
  cases hp; cases hq; rfl

/-- a non-empty sub-log of `h` ends in an entry of `h` -/
theorem TailC.of_sub {g h : LLog} (hs : Sub g h) (hne : g.ents ≠ []) : TailC g h := by
  obtain ⟨e, he⟩ := g.entryAt_exists (i := g.lastIndex)
    (Nat.lt_add_of_pos_right (List.length_pos_iff.2 hne)) (Nat.le_refl _)
  exact TailC.of_last_in he (hs _ _ he).1

theorem LLog.lastIndex_append (g : LLog) (es : List Entry) :
    ({ g with ents := g.ents ++ es } : LLog).lastIndex = g.lastIndex + es.length := by
  unfold LLog.lastIndex
  simp only [List.length_append]
  omega

theorem DerivedFrom.trans' {C D : LLog → Prop} {g : LLog} (h : DerivedFrom C g)
    (hcd : ∀ x, C x → DerivedFrom D x) : DerivedFrom D g := by
  intro i e he
  obtain ⟨x, hx, h1, h2⟩ := h i e he
  obtain ⟨y, hy, h3, h4⟩ := hcd x hx i e h1
  exact ⟨y, hy, h3, fun p hp => h4 p (h2 p hp)⟩

/-- **gluing**: `g` is gap-free and tail-compatible with `h`; `es` is a non-empty slice of `h` that
starts right after the end of `g`, and `h` answers `t` for the term of the position before the
slice.  Then `g ++ es` is gap-free, every link of it is a link of `g` or of `h`, and it is
tail-compatible with `h`. -/
theorem glue (g h : LLog) (e0 : Entry) (es : List Entry) (t : Nat) (hgc : g.Contig) (htc : TailC g h)
    (hc : ContigFrom (g.lastIndex + 1) (e0 :: es))
    (hes : ∀ e ∈ e0 :: es, h.entryAt e.index = some e)
    (ht : h.term (g.lastIndex + 1 - 1) = .ok t) :
    ({ g with ents := g.ents ++ e0 :: es } : LLog).Contig ∧
    DerivedFrom (fun k => k = g ∨ k = h) { g with ents := g.ents ++ e0 :: es } ∧
    TailC { g with ents := g.ents ++ e0 :: es } h := by
  -- the slice with its anchor is a sub-log of `h`; the glued log reads `g`, then the slice
  have hsub := Sub.of_slice h g.lastIndex t (e0 :: es) hc hes ht
  have hsp := g.splice_append (e0 :: es) (some t)
  obtain ⟨e, he⟩ := LLog.entryAt_exists { snapIdx := g.lastIndex, snapTerm := some t, ents := e0 :: es }
    (i := g.lastIndex + (e0 :: es).length) (Nat.lt_add_of_pos_right (Nat.succ_pos _)) (Nat.le_refl _)
  have hl := g.lastIndex_append (e0 :: es)
  refine ⟨ContigFrom.append hgc (by rw [Nat.add_right_comm]; exact hc),
    (hsp.derived fun e p he hp => ?_).trans' ?_, TailC.of_last_in (e := e) ?_ ?_⟩
  · -- the junction
    cases htc.2 t p ((hsub _ _ he).2 t (LLog.prevTerm_first _)) hp
    exact LLog.prevTerm_first _
  · rintro x (rfl | rfl)
    · exact DerivedFrom.of_mem (.inl rfl)
    · exact DerivedFrom.of_sub hsub (.inr rfl)
  · rw [hl]; exact (hsp.above _ (Nat.add_le_add_left (Nat.succ_pos es.length) _)).trans he
  · rw [hl]; exact (hsub _ _ he).1

/-- a slice of `h` with its anchor — what `prepare_send_entries` builds — is tail-compatible with
`h` -/
theorem tc_of_slice (h : LLog) (n t : Nat) (es : List Entry) (hn : 0 < n)
    (hc : ContigFrom n es) (hes : ∀ e ∈ es, h.entryAt e.index = some e)
    (ht : h.term (n - 1) = .ok t) (hs : h.snapIdx < n) (hl : n ≤ h.lastIndex + 1) :
    TailC { snapIdx := n - 1, snapTerm := some t, ents := es } h := by
  cases es with
  | cons e0 es => exact TailC.of_sub (sub_of_slice h n t _ hn hc hes ht) (List.cons_ne_nil _ _)
  | nil =>
    have hp := (h.term_ok_iff (Nat.le_sub_one_of_lt hs) (Nat.sub_le_of_le_add hl)).1 ht
    refine ⟨Nat.sub_le_of_le_add hl, fun p q hp' hq => ?_⟩
    cases hp.symm.trans hp'
    cases (LLog.prevTerm_first _).symm.trans hq
    rfl

end RaftModel
