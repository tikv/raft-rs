import RaftProofs.ClusterCommitE

/-!
Cluster-level commit safety, part Z: **what an accepted `MsgAppend` does to the logical log**
(`Accepted`): the anchor matched, the batch is in the new log, everything up to the anchor is kept,
and either nothing changed or the log was cut at the first conflicting index and continued by the
batch.
-/
namespace RaftModel

structure Accepted (g g' : LLog) (m : Message) : Prop where
  anchor : g.matchTerm m.index m.logTerm = true
  snap : g'.snapIdx = g.snapIdx ∧ g'.snapTerm = g.snapTerm
  ents : ∀ e ∈ m.entries, g'.entryAt e.index = some e
  low : ∀ k, k ≤ m.index → g'.entryAt k = g.entryAt k
  cases : g' = g ∨
    (¬ (∀ e ∈ m.entries, g.matchTerm e.index e.term = true) ∧
      g'.lastIndex = m.index + m.entries.length ∧
      ∀ k e, g'.entryAt k = some e → g.entryAt k = some e ∨ e ∈ m.entries)

theorem LLog.matchTerm_entry (g : LLog) {i t : Nat} (hm : g.matchTerm i t = true) (ht : t ≠ 0)
    (hs : g.snapIdx < i) : ∃ e, g.entryAt i = some e ∧ e.term = t :=
  RaftProps.C05.c05_matchTerm_entryAt g i t hm ht hs

theorem LLog.findConflict_zero (g : LLog) : ∀ (ents : List Entry),
    (∀ e ∈ ents, g.matchTerm e.index e.term = true) → g.findConflict ents = 0 := by
  intro ents
  induction ents with
  | nil => intro _; rfl
  | cons e es ih =>
    intro hall
    simp only [LLog.findConflict]
    rw [if_pos (hall e List.mem_cons_self)]
    exact ih (fun x hx => hall x (List.mem_cons_of_mem _ hx))

/-- an entry of the batch of `m` whose term the log has at that index is the log's entry there -/
theorem Agree.batch_entry {g : LLog} {m : Message} (hag : Agree (msgLog m) g) (hok : MsgOk m)
    (hsnap : g.snapIdx ≤ m.index) {e : Entry} (he : e ∈ m.entries)
    (hme : g.matchTerm e.index e.term = true) : g.entryAt e.index = some e := by
  have hb : (msgLog m).entryAt e.index = some e := LLog.Contig.entryAt_of_mem (g := msgLog m) hok.1 he
  have hidx : m.index < e.index := ((msgLog m).entryAt_lt hb).1
  obtain ⟨e0, he0, ht0⟩ := g.matchTerm_entry hme (hok.2 e he) (by omega)
  rw [he0, (hag e.index e e0 hb he0 ht0.symm).1]

/-- every entry of the batch matches: nothing changes -/
theorem Accepted.of_noConflict {g : LLog} {m : Message} (hag : Agree (msgLog m) g) (hok : MsgOk m)
    (hsnap : g.snapIdx ≤ m.index) (hmt : g.matchTerm m.index m.logTerm = true)
    (hall : ∀ e ∈ m.entries, g.matchTerm e.index e.term = true) : Accepted g g m :=
  ⟨hmt, ⟨rfl, rfl⟩, fun e he => hag.batch_entry hok hsnap he (hall e he), fun _ _ => rfl, .inl rfl⟩

/-- the first `k` entries of the batch match and the next one, at index `c`, does not: the log is cut
before `c` and continued with the rest of the batch -/
theorem Accepted.of_conflict {g : LLog} {m : Message} {c k : Nat} (hag : Agree (msgLog m) g)
    (hok : MsgOk m) (hsnap : g.snapIdx ≤ m.index) (hmt : g.matchTerm m.index m.logTerm = true)
    (hidx : m.index ≤ g.lastIndex) (hk : k < m.entries.length) (hc : c = m.index + 1 + k)
    (hfc : g.findConflict m.entries = c)
    (hall : ∀ e ∈ m.entries.take k, g.matchTerm e.index e.term = true) :
    Accepted g (g.truncateAppend (c - 1) (m.entries.drop (c - (m.index + 1)))) m := by
  have hlast : g.lastIndex = g.snapIdx + g.ents.length := rfl
  -- the matching part of the batch lies inside the log
  have hle : m.index + k ≤ g.lastIndex :=
    g.matched_prefix_le_last hok.1 hok.2 hidx (by omega) hall
  -- positions below `c` are the old ones, positions from `c` on are the batch's
  have hlow : ∀ i, i < c →
      (g.truncateAppend (c - 1) (m.entries.drop (c - (m.index + 1)))).entryAt i = g.entryAt i :=
    fun i hi => g.truncateAppend_entryAt _ _ i (by omega) (by omega)
  have hhigh : ∀ i, c ≤ i →
      (g.truncateAppend (c - 1) (m.entries.drop (c - (m.index + 1)))).entryAt i =
        (msgLog m).entryAt i :=
    fun i hi => g.truncateAppend_msgLog m hsnap (by omega) (by omega) hi
  refine ⟨hmt, ⟨rfl, rfl⟩, fun e he => ?_, fun i hi => hlow i (by omega), .inr ⟨?_, ?_, ?_⟩⟩
  · by_cases hlt : e.index < c
    · rw [hlow _ hlt]
      apply hag.batch_entry hok hsnap he
      obtain ⟨j, hj, rfl⟩ := List.getElem_of_mem he
      have hj' := hok.1 j _ (List.getElem?_eq_some_iff.2 ⟨hj, rfl⟩)
      apply hall
      rw [List.mem_take_iff_getElem]
      exact ⟨j, by omega, rfl⟩
    · rw [hhigh _ (by omega)]; exact LLog.Contig.entryAt_of_mem (g := msgLog m) hok.1 he
  · intro hcall
    have := g.findConflict_zero m.entries hcall
    omega
  · -- `c - 1 - snapIdx` entries are kept, `k` entries of the batch are dropped
    have hkeep : (g.ents.take (c - 1 - g.snapIdx)).length = c - 1 - g.snapIdx := by
      rw [List.length_take]
      exact Nat.min_eq_left (by omega)
    have hdrop : (m.entries.drop (c - (m.index + 1))).length = m.entries.length - k := by
      rw [List.length_drop, hc, Nat.add_sub_cancel_left]
    show g.snapIdx + (g.ents.take (c - 1 - g.snapIdx) ++ m.entries.drop (c - (m.index + 1))).length = _
    rw [List.length_append, hkeep, hdrop]
    omega
  · intro i e he
    by_cases hlt : i < c
    · rw [hlow _ hlt] at he; exact .inl he
    · rw [hhigh _ (by omega)] at he
      exact .inr ((msgLog m).entryAt_mem he)

namespace RaftLog

/-- **an accepted `maybe_append`** -/
theorem maybeAppend_accepted {l l' : RaftLog} (h : l.Inv) {m : Message} {c : Nat} {p : Nat × Nat}
    (hok : MsgOk m) (hag : Agree (msgLog m) l.abs) (hci : l.committed ≤ m.index)
    (hm : l.maybeAppend m.index m.logTerm c m.entries = .ok (l', some p)) :
    Accepted l.abs l'.abs m ∧ l'.Inv ∧
    l'.committed = max l.committed (min c (m.index + m.entries.length)) := by
  -- an answer `some p`: the anchor matched and the commit index moved as `maybe_append` says
  obtain ⟨hmt, hcm⟩ : l.abs.matchTerm m.index m.logTerm = true ∧
      l'.committed = max l.committed (min c (m.index + m.entries.length)) := by
    rcases c04_maybeAppend_spec hm with ⟨hn, _⟩ | ⟨_, _, hmt, hc⟩
    · cases hn
    · rw [h.matchTerm_abs] at hmt
      exact ⟨by injection hmt, hc⟩
  have hsnap : l.abs.snapIdx ≤ m.index := by
    have h1 := h.dummy_le_committed
    rw [h.firstIndex_abs] at h1
    simp only [LLog.firstIndex] at h1
    omega
  rcases Nat.lt_or_ge l.lastIndex m.index with hgap | hidx
  · -- anchored beyond the log: the batch is empty
    by_cases hE : m.entries = []
    · have hm' := hm
      rw [hE] at hm'
      have hs := (maybeAppend_nil hm').1
      refine ⟨?_, hs.inv h, hcm⟩
      rw [hs.abs]
      exact Accepted.of_noConflict hag hok hsnap hmt (by rw [hE]; intro e he; cases he)
    · obtain ⟨e0, es, hE'⟩ := List.exists_cons_of_ne_nil hE
      have hm' := hm
      rw [hE'] at hm'
      have hi0 : e0.index = m.index + 1 := by
        have := hok.1 0 e0 (by rw [hE']; rfl); omega
      exact absurd hm' (maybeAppend_gap h hgap hi0 (hok.2 e0 (by rw [hE']; exact List.mem_cons_self)))
  · obtain ⟨_, hspec⟩ := RaftProps.C14.C14_maybeAppend_spec l h m.index m.logTerm c m.entries
      hok.1 hidx hok.2
    obtain ⟨hnc, hpan, hcf⟩ := hspec hmt
    rcases l.abs.findConflict_char m.entries (m.index + 1) hok.1 with ⟨hz, hall⟩ | ⟨k, hk, hf, hall⟩
    · obtain ⟨hres, hinv'⟩ := hnc hz
      rw [hres] at hm
      cases hm
      exact ⟨Accepted.of_noConflict hag hok hsnap hmt hall, hinv', hcm⟩
    · rcases Nat.lt_or_ge l.committed (l.abs.findConflict m.entries) with hgt | hle
      · obtain ⟨l2, hres, habs, _, _, _, _, hinv'⟩ := hcf hgt
        rw [hres] at hm
        cases hm
        refine ⟨?_, hinv', hcm⟩
        rw [habs]
        exact Accepted.of_conflict hag hok hsnap hmt (by rw [← h.lastIndex_abs]; exact hidx) hk hf rfl
          hall
      · obtain ⟨s, hp⟩ := hpan (by omega) hle
        rw [hp] at hm
        cases hm

end RaftLog

namespace Raft
namespace CC

/-- **`handle_append_entries`, completely**: nothing is accepted — the log is untouched and the reply
is a rejection or acknowledges the commit index —, or the batch is accepted (`Accepted`) and the reply
acknowledges its last index -/
theorem handleAppendEntries_full {r r' : Raft} {m : Message} (hinv : r.raftLog.Inv) (hok : MsgOk m)
    (hag : Agree (msgLog m) r.raftLog.abs) (h : r.handleAppendEntries m = .ok r') :
    (∃ resp, r'.msgs = r.msgs ++ [resp] ∧ resp.msgType = .msgAppendResponse ∧ r'.term = r.term ∧
      r'.state = r.state ∧ r'.id = r.id) ∧
    ((r'.raftLog = r.raftLog ∧
        ∀ x ∈ r'.msgs, x ∈ r.msgs ∨ x.reject = true ∨ x.index = r.raftLog.committed) ∨
     (Accepted r.raftLog.abs r'.raftLog.abs m ∧ r'.raftLog.Inv ∧
        (r'.raftLog.committed =
          max r.raftLog.committed (min m.commit (m.index + m.entries.length)) ∧
          r.raftLog.committed ≤ m.index) ∧
        ∀ x ∈ r'.msgs, x ∈ r.msgs ∨ (x.reject = false ∧ x.index = m.index + m.entries.length))) := by
  have key : ∀ (r0 : Raft) (x : Message), x.msgType = .msgAppendResponse → x.frm = 0 →
      r0.send x = .ok r' →
      (∃ resp, r'.msgs = r0.msgs ++ [resp] ∧ resp.msgType = .msgAppendResponse ∧ r'.term = r0.term ∧
        r'.state = r0.state ∧ r'.id = r0.id) ∧ r'.raftLog = r0.raftLog ∧
      ∀ y ∈ r'.msgs, y ∈ r0.msgs ∨ (y.reject = x.reject ∧ y.index = x.index) := by
    intro r0 x hx hf hs
    rw [send_eq _ _ _ hs]
    obtain ⟨_, _, f3, _, f5⟩ := sendFill_ack r0 x hx hf
    refine ⟨⟨_, rfl, by rw [sendFill_msgType]; exact hx, rfl, rfl, rfl⟩, rfl, fun y hy => ?_⟩
    rcases List.mem_append.1 hy with g | g
    · exact .inl g
    · rw [List.mem_singleton.1 g]; exact .inr ⟨f5, f3⟩
  cases handleAppendEntries_inv h with
  | waiting _ hs =>
    obtain ⟨_, _, hs⟩ := sendRequestSnapshot_inv hs
    obtain ⟨k1, k2, k3⟩ := key _ _ rfl rfl hs
    exact ⟨k1, .inl ⟨k2, fun x hx => (k3 x hx).imp (fun g => g) (fun g => .inl g.1)⟩⟩
  | stale _ _ hs =>
    obtain ⟨k1, k2, k3⟩ := key _ _ rfl rfl hs
    exact ⟨k1, .inl ⟨k2, fun x hx => (k3 x hx).imp (fun g => g) (fun g => .inr g.2)⟩⟩
  | @accepted log ci last _ _ hci hma hs =>
    have hlast : last = m.index + m.entries.length := by
      rcases RaftLog.maybeAppend_inv hma with ⟨_, _, hn⟩ | ⟨_, _, _, _, _, _, hn⟩
      · cases hn
      · cases hn; rfl
    obtain ⟨a1, a2, a3⟩ := RaftLog.maybeAppend_accepted hinv hok hag (by omega) hma
    obtain ⟨k1, k2, k3⟩ := key ({ r with raftLog := log } : Raft) _ rfl rfl hs
    exact ⟨k1, .inr ⟨by rw [k2]; exact a1, by rw [k2]; exact a2,
      ⟨by rw [k2]; exact a3, by omega⟩,
      fun x hx => (k3 x hx).imp (fun g => g) (fun g => ⟨g.1, by rw [g.2]; exact hlast⟩)⟩⟩
  | @rejected log _ _ _ _ _ hma _ hs =>
    have hl : log = r.raftLog := by
      rcases RaftLog.maybeAppend_inv hma with ⟨_, hl, _⟩ | ⟨_, _, _, _, _, _, hn⟩
      · exact hl
      · cases hn
    subst hl
    obtain ⟨k1, k2, k3⟩ := key ({ r with raftLog := r.raftLog } : Raft) _ rfl rfl hs
    exact ⟨k1, .inl ⟨k2, fun x hx => (k3 x hx).imp (fun g => g) (fun g => .inl g.1)⟩⟩

end CC
end Raft
end RaftModel
