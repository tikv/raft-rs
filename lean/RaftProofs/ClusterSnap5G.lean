import RaftProofs.ClusterSnap5F

/-!
Commit safety of `ClusterSem` with compaction and snapshots, part 5G: **what one step does to the
ghost logs** (`fcall_step`, `fnode_step`): the cases of `Snap.FCallStep`, a restart, and the restoration
of a snapshot — the new ghost log is the uncompacted version of the snapshot point.
-/
namespace RaftModel
namespace Cluster
namespace Snap5
open Node Raft Raft.CC RaftProps.C02 RaftProps.C05 Snap

variable {q : Prop} {cfg : JointConfig} {c0 : Nat} {h : List Sys}

/-- with nothing unstable the two ghost logs of a node coincide -/
theorem FL_eq_FS {st : NState} (hinv : st.raft.raftLog.Inv)
    (hp : st.raft.raftLog.unstable.snapshot = none)
    (he : st.raft.raftLog.unstable.entries = []) : FL h c0 st = FS h c0 st := by
  unfold FL FS; rw [abs_eq_storeLog hinv hp he]

/-- the two ghost logs of a node hold the same entries up to `persisted` (no snapshot pending) -/
theorem NodeFull.persisted_of {n : Nat} {st : NState} (I : NodeFull h c0 n st)
    (hinv : st.raft.raftLog.Inv) (hp : st.raft.raftLog.unstable.snapshot = none) {k : Nat}
    (hk : k ≤ st.raft.raftLog.persisted) : (FL h c0 st).entryAt k = (FS h c0 st).entryAt k := by
  by_cases hpk : k ≤ st.raft.raftLog.abs.snapIdx
  · exact I.pre hp k hpk
  · rw [I.log.ents k (by omega), I.sto.ents k (by rw [storeLog_snapIdx hp]; omega)]
    exact hinv.abs_store_persisted hp hk

theorem NodeFull.persisted {i n : Nat} {st : NState} (I : NodeFull h c0 n st) (o : NodeOk i st)
    (hp : st.raft.raftLog.unstable.snapshot = none) {k : Nat}
    (hk : k ≤ st.raft.raftLog.persisted) : (FL h c0 st).entryAt k = (FS h c0 st).entryAt k :=
  I.persisted_of o.inv hp hk

/-- what one step does to the ghost log of one node -/
inductive FNodeStep (h : List Sys) (c0 : Nat) (a : Sys) (v : Nat) (sta stb : NState) : Prop
  /-- untouched (another node stepped, a `send`, a call that keeps the log, a compaction, the
  installation of the pending snapshot) -/
  | same (hl : ∀ k, (FL h c0 stb).entryAt k = (FL h c0 sta).entryAt k)
      (hli : stb.raft.raftLog.abs.lastIndex = sta.raft.raftLog.abs.lastIndex)
  /-- a leader appended entries of its term -/
  | grew (es : List Entry) (hg : Appended sta.raft stb.raft es)
      (hl : ∀ k, k ≤ sta.raft.raftLog.abs.lastIndex →
        (FL h c0 stb).entryAt k = (FL h c0 sta).entryAt k)
      (hnew : ∀ k e, (FL h c0 stb).entryAt k = some e → sta.raft.raftLog.abs.lastIndex < k → e ∈ es)
  /-- a `MsgAppend` of the transport was accepted -/
  | acc (m : Message) (hm : m ∈ a.net) (hty : m.msgType = .msgAppend) (hto : m.to = v)
      (ha : FAcc (FL h c0 sta) (FL h c0 stb) m)
      (hanc : sta.raft.raftLog.abs.matchTerm m.index m.logTerm = true)
      (hc : stb.raft.raftLog.committed =
        max sta.raft.raftLog.committed (min m.commit (m.index + m.entries.length)))
      (hci : sta.raft.raftLog.committed ≤ m.index)
      (hs : stb.raft.state = .follower) (ht : m.term = stb.raft.term ∨ m.term = 0)
  /-- crash and restart: the log is the stored one -/
  | restart (hl : FL h c0 stb = FS h c0 sta)
      (hs : stb.raft.state = .follower)
      (ht : stb.raft.term = sta.raft.raftLog.store.hardState.term)
  /-- the snapshot of a `MsgSnapshot` of the transport replaced the log -/
  | restored (m : Message) (hm : m ∈ a.net) (hty : m.msgType = .msgSnapshot) (hto : m.to = v)
      (hl : stb.raft.raftLog.abs = LLog.ofSnapshot m.snapshot)
      (hc : stb.raft.raftLog.committed = m.snapshot.metadata.index)
      (hle : sta.raft.raftLog.committed ≤ m.snapshot.metadata.index)
      (hnm : sta.raft.raftLog.matchTerm m.snapshot.metadata.index m.snapshot.metadata.term ≠
        .ok true ∨ sta.raft.raftLog.lastIndex ≤ m.snapshot.metadata.index)
      (hs : stb.raft.state = .follower) (ht : m.term = stb.raft.term ∨ m.term = 0)

theorem fcall_node {a : Sys} {v : Nat} {sta stb : NState} (hs : FCallStep h c0 a v sta stb) :
    FNodeStep h c0 a v sta stb := by
  cases hs with
  | same hl hli => exact .same hl hli
  | grew es hg hl hnew => exact .grew es hg hl hnew
  | acc m hm hty hto ha hanc hc hci hs ht => exact .acc m hm hty hto ha hanc hc hci hs ht

/-- a call that is not a compaction keeps the ghost log up to the snapshot point -/
theorem ghost_low (H : GHyp2w q cfg c0 h) {n : Nat} {a b : Sys} (ha : h[n]? = some a)
    (hb : h[n + 1]? = some b) {k : Nat} {st st' : NState} {rnd : Option Nat} {op : NodeOp}
    {res : OpRes} (hka : a.node k = some st) (hkb : b.node k = some st') (hnet : b.net = a.net)
    (hop : appOp op = true ∨ ∃ m, op = .step m ∧ m ∈ a.net ∧ m.to = k)
    (hnc : ∀ j, op ≠ .compact j) (hns : ∀ m, op = .step m → m.msgType ≠ .msgSnapshot)
    (hpn : st.raft.raftLog.unstable.snapshot = none)
    (hcall : Node.call st rnd op = .ok (res, st')) :
    st'.raft.raftLog.abs.snapIdx = st.raft.raftLog.abs.snapIdx ∧
    ∀ i, i ≤ st.raft.raftLog.abs.snapIdx → (FL h c0 st').entryAt i = (FL h c0 st).entryAt i := by
  have Ia := (ghost_inv H n a ha).node k st hka
  have Ib := (ghost_inv H (n + 1) b hb).node k st' hkb
  have oa := node_ok H ha hka
  have ob := node_ok H hb hkb
  have hcs0 := H.facts0.call_step0 ha hb hka hkb hnet hop hnc hns hpn hcall
  obtain ⟨k1, k2, k3⟩ := callstep_keeps (c0 := c0) hcs0
    ⟨oa.inv, hpn, oa.sidx hpn, oa.sterm hpn, oa.id, oa.nb⟩ Ia.log.ne
  have hF1 := Ia.log.splice k1 k2 (abs_Contig ob.inv) (hist_log hb hkb) k3 Ib.log.ne
  have hlo1 : (FL h c0 st).snapIdx ≤ st'.raft.raftLog.abs.snapIdx := by
    rw [Ia.log.snap, k1]; exact Ia.log.le
  have hlo2 : st'.raft.raftLog.abs.snapIdx ≤ (FL h c0 st).lastIndex := by
    rw [Ia.log.last, k1]; exact snap_le_last _
  refine ⟨k1, fun i hi => ?_⟩
  have := fl_eq (hist_agree H) hF1 i
  rw [splice_low hlo1 hlo2 (by rw [k1]; exact hi)] at this
  exact this

/-- the ghost version of a batch accepted in a step of the history -/
theorem facc_call (H : GHyp2w q cfg c0 h) {n : Nat} {a b : Sys} (ha : h[n]? = some a)
    (hb : h[n + 1]? = some b) {k : Nat} {st st' : NState} {rnd : Option Nat} {m : Message}
    {res : OpRes} (hka : a.node k = some st) (hkb : b.node k = some st') (hnet : b.net = a.net)
    (hm : m ∈ a.net) (hto : m.to = k) (hty : m.msgType ≠ .msgSnapshot)
    (hpn : st.raft.raftLog.unstable.snapshot = none)
    (hcall : Node.call st rnd (.step m) = .ok (res, st'))
    (hacc : Accepted st.raft.raftLog.abs st'.raft.raftLog.abs m) :
    FAcc (FL h c0 st) (FL h c0 st') m := by
  have Ia := (ghost_inv H n a ha).node k st hka
  have Ib := (ghost_inv H (n + 1) b hb).node k st' hkb
  obtain ⟨_, hlow⟩ := ghost_low H ha hb hka hkb hnet (.inr ⟨m, rfl, hm, hto⟩)
    (fun j hc => by cases hc) (fun m' hm' => by cases hm'; exact hty) hpn hcall
  exact facc_of Ia.log Ib.log hacc hlow

/-- **what a `call` / `deliver` step does to the ghost log of its node** -/
theorem fcall_step (H : GHyp2w q cfg c0 h) {n : Nat} {a b : Sys} (ha : h[n]? = some a)
    (hb : h[n + 1]? = some b) {k : Nat} {st st' : NState} {rnd : Option Nat} {op : NodeOp}
    {res : OpRes} (hka : a.node k = some st) (hkb : b.node k = some st') (hnet : b.net = a.net)
    (hop : appOp op = true ∨ ∃ m, op = .step m ∧ m ∈ a.net ∧ m.to = k)
    (hco : ∀ j, op = .compact j → CompactOk st.raft.raftLog j)
    (hns : ∀ m, op = .step m → m.msgType ≠ .msgSnapshot)
    (hpn : st.raft.raftLog.unstable.snapshot = none)
    (hcall : Node.call st rnd op = .ok (res, st')) : FCallStep h c0 a k st st' := by
  have Ia := (ghost_inv H n a ha).node k st hka
  have Ib := (ghost_inv H (n + 1) b hb).node k st' hkb
  have oa := node_ok H ha hka
  have ob := node_ok H hb hkb
  by_cases hcomp : ∃ j, op = .compact j
  · obtain ⟨j, rfl⟩ := hcomp
    have ho := compact_out oa.inv hpn (hco j rfl) hcall
    obtain ⟨l1, _⟩ := ho.lt oa.inv
    have hF1 := (Ia.log.compact l1).congr ho.abs
    refine .same (fl_eq (hist_agree H) hF1) ?_
    rw [ho.abs]
    by_cases hle : j - 1 ≤ st.raft.raftLog.abs.snapIdx
    · unfold LLog.compactTo; rw [if_pos hle]
    · exact compactTo_lastIndex _ _ (Nat.le_of_lt (l1 (by omega)))
  · have hnc : ∀ j, op ≠ .compact j := fun j hj => hcomp ⟨j, hj⟩
    have hcs0 := H.facts0.call_step0 ha hb hka hkb hnet hop hnc hns hpn hcall
    obtain ⟨k1, hlow⟩ := ghost_low H ha hb hka hkb hnet hop hnc hns hpn hcall
    cases hcs0 with
    | same hl => exact .same (fun _ => by rw [FL_same hl]) (by rw [hl])
    | grew es hg =>
      refine .grew es hg (fun i hi => ?_) (fun i e he hi => ?_)
      · by_cases hip : i ≤ st.raft.raftLog.abs.snapIdx
        · exact hlow i hip
        · rw [Ib.log.ents i (by rw [k1]; omega), Ia.log.ents i (by omega), hg.abs]
          exact RaftProps.C05.c05_append_entryAt _ _ _ hi
      · have hsl := snap_le_last st.raft.raftLog.abs
        rw [Ib.log.ents i (by rw [k1]; omega), hg.abs, LLog.append_entryAt_new _ _ _ hi] at he
        exact List.mem_of_getElem? he
    | acc m hm hty hto hacc hc hci hs ht =>
      exact .acc m hm hty hto (facc_of Ia.log Ib.log hacc hlow) hacc.anchor hc hci hs ht


/-- **what one step does to the ghost log of one node** -/
theorem fnode_step (H : GHyp2w q cfg c0 h) {n : Nat} {a b : Sys} (ha : h[n]? = some a)
    (hb : h[n + 1]? = some b) {v : Nat} {sta stb : NState} (hva : a.node v = some sta)
    (hvb : b.node v = some stb) : FNodeStep h c0 a v sta stb := by
  obtain ⟨k, stk, stk', hka, hkb, hoth, hs⟩ := H.stp ha hb
  by_cases hvk : v = k
  · subst hvk
    rw [hka] at hva; cases hva
    rw [hkb] at hvb; cases hvb
    have same : stb.raft.raftLog.abs = sta.raft.raftLog.abs → FNodeStep h c0 a v sta stb :=
      fun hl => .same (fun _ => by rw [FL_same hl]) (by rw [hl])
    cases hs with
    | call rnd op res hop hco _ hns hpn _ hcall hnet _ =>
      exact fcall_node (fcall_step H ha hb hka hkb hnet hop hco hns hpn hcall)
    | snap rnd m hm hto hty _ hout _ =>
      cases hout with
      | skip hr => exact same (by rw [hr])
      | handled x hsf ht _ _ _ _ _ _ _ hsto hcase =>
        cases hcase with
        | kept hu _ _ _ => exact same (RaftLog.abs_congr hsto hu)
        | ffwd hu _ _ _ _ _ _ => exact same (RaftLog.abs_congr hsto hu)
        | restored hle hnm hu hc _ _ =>
          refine .restored m hm hty hto ?_ hc hle hnm hsf ht
          rw [RaftLog.abs_some (sn := m.snapshot) (by rw [hu]; rfl), hu]
          rfl
    | psnap rnd _ hout _ _ =>
      cases hout with
      | noop hr => exact same (by rw [hr])
      | done sn L _ hr _ habs _ _ _ _ _ _ _ => exact same (by rw [hr]; exact habs)
    | send _ _ _ hsame _ _ => exact same (by rw [hsame.1])
    | restart c rnd hboot _ =>
      have hbt := CV.boot_booted c _ rnd stb hboot
      obtain ⟨_, habs, _⟩ := boot_log c _ rnd stb (node_ok H ha hka).inv.storeWF hboot
      exact .restart (FL_restart habs) hbt.state hbt.term
  · rw [hoth v hvk, hva] at hvb
    cases hvb
    exact .same (fun _ => rfl) rfl

end Snap5
end Cluster
end RaftModel
