import RaftProofs.ClusterVoteA
import RaftProps.C02b

/-!
Cluster-level election safety, helper lemmas part C: the anchored per-call invariant `VInv a m r`
("`r` is an intermediate state of a call that started in `a` with input message `m`") and its
preservation by the role changes, `poll`, `campaign`, `hup`.
-/
namespace RaftModel
namespace Raft
namespace CV
open VoteOb

/-- lower bound of the in-memory `(term, vote)`: a later term, or term `t` with the vote cast for `v` -/
def Ge (r : Raft) (t v : Nat) : Prop := t < r.term ∨ (r.term = t ∧ r.vote = v)

/-- … for an actual candidate id (`0` is "no vote") -/
def GeV (r : Raft) (t v : Nat) : Prop := v ≠ 0 → Ge r t v

/-- what a call may do to `(term, vote)`: raise the term, or keep it and keep the vote or cast it -/
def TV (a r : Raft) : Prop := a.term < r.term ∨ (r.term = a.term ∧ (r.vote = a.vote ∨ a.vote = 0))

theorem TV.refl (r : Raft) : TV r r := Or.inr ⟨rfl, Or.inl rfl⟩

theorem TV.trans {a b c : Raft} (h1 : TV a b) (h2 : TV b c) : TV a c := by
  unfold TV at *
  rcases h1 with h1 | ⟨h1, h1'⟩ <;> rcases h2 with h2 | ⟨h2, h2'⟩
  · left; omega
  · left; omega
  · left; omega
  · right
    refine ⟨h2.trans h1, ?_⟩
    rcases h1' with e | e
    · rcases h2' with f | f
      · exact Or.inl (f.trans e)
      · right; rw [← e]; exact f
    · exact Or.inr e

theorem TV.le {a r : Raft} (h : TV a r) : a.term ≤ r.term := by
  rcases h with h | ⟨h, _⟩ <;> omega

theorem TV.of_eq {a r : Raft} (h1 : r.term = a.term) (h2 : r.vote = a.vote) : TV a r :=
  Or.inr ⟨h1, Or.inl h2⟩

theorem VF.tv {r r' : Raft} (h : VF r r') : TV r r' := TV.of_eq h.term h.vote

theorem GeV.mono {r r' : Raft} {t v : Nat} (h : GeV r t v) (htv : TV r r') : GeV r' t v := by
  intro hv
  have := h hv
  unfold Ge TV at *
  rcases htv with h1 | ⟨h1, h2⟩
  · rcases this with g | ⟨g, _⟩
    · left; omega
    · left; omega
  · rcases this with g | ⟨g, g'⟩
    · left; omega
    · right
      refine ⟨h1.trans g, ?_⟩
      rcases h2 with e | e
      · exact e.trans g'
      · exact absurd (g'.symm.trans e) hv

/-- the delivered message is a granted real-vote response of `j` for term `t` (or carries no term) -/
def MBack (m : Message) (t j : Nat) : Prop :=
  m.msgType = .msgRequestVoteResponse ∧ m.reject = false ∧ m.frm = j ∧ (m.term = t ∨ m.term = 0)

/-- where a recorded grant of `j` for a candidate of term `t` comes from: the own vote, the message of
this call, or the record the call started with -/
def Backed (a : Raft) (m : Message) (t j : Nat) : Prop :=
  j = a.id ∨ MBack m t j ∨ (a.state = .candidate ∧ a.term = t ∧ (j, true) ∈ a.prs.votes)

/-- a real-vote message queued during the call -/
def Fresh (a : Raft) (m : Message) (r : Raft) (x : Message) : Prop :=
  x.frm = a.id ∧ x.term ≠ 0 ∧
  (x.msgType = .msgRequestVote →
    m.msgType ≠ .msgRequestVote ∧ a.term < x.term ∧ GeV r x.term a.id) ∧
  (x.msgType = .msgRequestVoteResponse →
    m.msgType = .msgRequestVote ∧ x.to = m.frm ∧ x.term = m.term ∧
    (a.term < x.term ∨ (a.term = x.term ∧ (a.vote = 0 ∨ a.vote = x.to))) ∧ GeV r x.term x.to)

theorem Fresh.mono {a r r' : Raft} {m x : Message} (h : Fresh a m r x) (htv : TV r r') :
    Fresh a m r' x :=
  ⟨h.1, h.2.1, fun hx => ⟨(h.2.2.1 hx).1, (h.2.2.1 hx).2.1, (h.2.2.1 hx).2.2.mono htv⟩,
    fun hx => ⟨(h.2.2.2 hx).1, (h.2.2.2 hx).2.1, (h.2.2.2 hx).2.2.1, (h.2.2.2 hx).2.2.2.1,
      (h.2.2.2 hx).2.2.2.2.mono htv⟩⟩

/-- the per-call invariant: `r` is reached from `a` inside one call with input message `m` -/
structure VInv (a : Raft) (m : Message) (r : Raft) : Prop where
  id : r.id = a.id
  hs : r.raftLog.store.hardState = a.raftLog.store.hardState
  tv : TV a r
  pk : r.promotable = a.promotable ∨ r.promotable = Joint.contains r.prs.voters r.id
  nf : r.state ≠ .follower → a.state ≠ .follower ∨ r.promotable = true
  msgs : ∀ x ∈ r.msgs, isRVm x = true → x ∈ a.msgs ∨ Fresh a m r x
  cand : r.state = .candidate → ∀ j, (j, true) ∈ r.prs.votes → Backed a m r.term j
  lead : r.state = .leader →
    (a.state = .leader ∧ a.term = r.term) ∨
    ∃ Q, IsJointQuorum r.prs.voters Q ∧ ∀ j ∈ Q, Backed a m r.term j

theorem VInv.refl (a : Raft) (m : Message) : VInv a m a :=
  ⟨rfl, rfl, TV.refl a, Or.inl rfl, fun h => Or.inl h, fun _ hx _ => Or.inl hx,
   fun hc _ hj => Or.inr (Or.inr ⟨hc, rfl, hj⟩),
   fun hl => Or.inl ⟨hl, rfl⟩⟩

theorem VInv.vf {a r r' : Raft} {m : Message} (h : VInv a m r) (hf : VF r r') : VInv a m r' := by
  refine ⟨hf.id.trans h.id, hf.hs.trans h.hs, h.tv.trans hf.tv, ?_, ?_, ?_, ?_, ?_⟩
  · rw [hf.promotable, hf.voters, hf.id]; exact h.pk
  · rw [hf.state, hf.promotable]; exact h.nf
  · intro x hx hrv
    have : x ∈ rvOf r'.msgs := mem_rvOf.2 ⟨hx, hrv⟩
    rw [hf.rv] at this
    rcases h.msgs x (mem_rvOf.1 this).1 hrv with g | g
    · exact Or.inl g
    · exact Or.inr (g.mono hf.tv)
  · rw [hf.state, hf.term, hf.votes]; exact h.cand
  · rw [hf.state, hf.term, hf.voters]; exact h.lead

/-- lifting a `VF` postcondition -/
theorem VInv.post_vf {a r : Raft} {m : Message} {x : Res Raft} (h : VInv a m r)
    (hx : Res.Post (fun r' => VF r r') x) : Res.Post (fun r' => VInv a m r') x :=
  Res.post_mono hx (fun _ hf => h.vf hf)

/-- the messages of `r'` are those of `r`, after a step that keeps or raises `(term, vote)` -/
theorem VInv.msgs_keep {a r r' : Raft} {m : Message} (h : VInv a m r) (htv : TV r r')
    (hm : r'.msgs = r.msgs) : ∀ x ∈ r'.msgs, isRVm x = true → x ∈ a.msgs ∨ Fresh a m r' x := by
  intro x hx hrv
  rw [hm] at hx
  rcases h.msgs x hx hrv with g | g
  · exact Or.inl g
  · exact Or.inr (g.mono htv)

/-! ### `reset` and the role changes -/

theorem reset_promotable (r : Raft) (t : Nat) : (r.reset t).promotable = r.promotable := by
  unfold reset
  simp only [mapProgress, abortLeaderTransfer, resetRandomizedElectionTimeout,
    ProgressTracker.resetVotes]
  split <;> rfl

theorem becomeFollower_promotable (r : Raft) (t l : Nat) :
    (r.becomeFollower t l).promotable = r.promotable := by
  unfold becomeFollower; exact reset_promotable r t

theorem becomeFollower_tv (r : Raft) (t l : Nat) (ht : r.term ≤ t) : TV r (r.becomeFollower t l) := by
  obtain ⟨h1, h2⟩ := becomeFollower_term_vote r t l
  unfold TV
  by_cases e : r.term = t
  · right; refine ⟨h1.trans e.symm, Or.inl ?_⟩
    rw [h2]; simp [e]
  · left; rw [h1]; omega

/-- `become_follower(t, l)` with `t` not below the current term -/
theorem VInv.becomeFollower {a r : Raft} {m : Message} (h : VInv a m r) (t l : Nat)
    (ht : r.term ≤ t) : VInv a m (r.becomeFollower t l) := by
  have hk := c02_becomeFollower_keep r t l
  obtain ⟨f1, _, _, _, _⟩ := c02_becomeFollower_fields r t l
  have htv := becomeFollower_tv r t l ht
  refine ⟨hk.id.trans h.id, ?_, h.tv.trans htv, ?_, ?_, h.msgs_keep htv hk.msgs, ?_, ?_⟩
  · rw [hk.log.store]; exact h.hs
  · rw [becomeFollower_promotable]
    unfold ProgressTracker.voters; rw [hk.conf, hk.id]; exact h.pk
  · intro hne; exact absurd f1 hne
  · intro hc; rw [f1] at hc; cases hc
  · intro hc; rw [f1] at hc; cases hc

theorem becomeCandidate_vinv {a r : Raft} {m : Message} (h : VInv a m r)
    (hp : a.state ≠ .follower ∨ r.promotable = true) :
    Res.Post (fun r' => VInv a m r' ∧ TV r r' ∧ r'.state = .candidate ∧ r'.term = r.term + 1 ∧
      r'.vote = a.id ∧ r'.prs.votes = [] ∧ r'.promotable = r.promotable) r.becomeCandidate := by
  apply Res.post_intro
  intro r' hb
  obtain ⟨hk, e1, e2, e3, e4, _⟩ := c02_becomeCandidate_spec hb
  have hpr : r'.promotable = r.promotable :=
    becomeCandidate_parts (P := fun x => x.promotable = r.promotable) hb rfl
      (fun t p => (reset_promotable _ t).trans p) (fun p => p)
  have htv : TV r r' := Or.inl (by omega)
  refine ⟨⟨hk.id.trans h.id, ?_, h.tv.trans htv, ?_, ?_, h.msgs_keep htv hk.msgs, ?_, ?_⟩,
    htv, e3, e1, e2.trans h.id, e4, hpr⟩
  · rw [hk.log.store]; exact h.hs
  · rw [hpr]; unfold ProgressTracker.voters; rw [hk.conf, hk.id]; exact h.pk
  · intro _; rw [hpr]; exact hp
  · intro _ j hj
    rw [e4] at hj; cases hj
  · intro hc; rw [e3] at hc; cases hc

theorem becomePreCandidate_vinv {a r : Raft} {m : Message} (h : VInv a m r)
    (hp : a.state ≠ .follower ∨ r.promotable = true) :
    Res.Post (fun r' => VInv a m r' ∧ TV r r' ∧ r'.state = .preCandidate ∧ r'.term = r.term ∧
      r'.prs.votes = [] ∧ r'.promotable = r.promotable) r.becomePreCandidate := by
  apply Res.post_intro
  intro r' hb
  obtain ⟨hk, e1, e2, e3, e4, _⟩ := c02_becomePreCandidate_spec hb
  have hpr : r'.promotable = r.promotable := by
    unfold Raft.becomePreCandidate at hb
    split at hb
    · cases hb
    · cases hb; rfl
  have htv : TV r r' := TV.of_eq e1 e2
  refine ⟨⟨hk.id.trans h.id, ?_, h.tv.trans htv, ?_, ?_, h.msgs_keep htv hk.msgs, ?_, ?_⟩,
    htv, e3, e1, e4, hpr⟩
  · rw [hk.log.store]; exact h.hs
  · rw [hpr]; unfold ProgressTracker.voters; rw [hk.conf, hk.id]; exact h.pk
  · intro _; rw [hpr]; exact hp
  · intro hc; rw [e3] at hc; cases hc
  · intro hc; rw [e3] at hc; cases hc

/-- `become_leader`, given a joint quorum of backed grants for the candidate's term -/
theorem becomeLeader_vinv {a r : Raft} {m : Message} (h : VInv a m r)
    (hQ : ∃ Q, IsJointQuorum r.prs.voters Q ∧ ∀ j ∈ Q, Backed a m r.term j) :
    Res.Post (fun r' => VInv a m r' ∧ TV r r') r.becomeLeader := by
  have key : ∀ (r1 r2 : Raft) (b : Bool), r1.appendEntry [{}] = .ok (r2, b) →
      r.state ≠ .follower → r1.id = r.id → r1.raftLog = r.raftLog →
      r1.term = r.term → r1.vote = r.vote → r1.state = .leader → r1.promotable = r.promotable →
      r1.prs.conf = r.prs.conf → r1.msgs = r.msgs → VInv a m r2 ∧ TV r r2 := by
    intro r1 r2 b heq hnf c1 c2 c3 c4 c5 c6 c7 c8
    have cv : r1.prs.voters = r.prs.voters := by unfold ProgressTracker.voters; rw [c7]
    have htv : TV r r1 := TV.of_eq c3 c4
    have h1 : VInv a m r1 := by
      refine ⟨c1.trans h.id, by rw [c2]; exact h.hs, h.tv.trans htv, ?_, ?_,
        h.msgs_keep htv c8, ?_, ?_⟩
      · rw [c6, cv, c1]; exact h.pk
      · intro _; rw [c6]; exact h.nf hnf
      · intro hc; rw [c5] at hc; cases hc
      · intro _
        right
        obtain ⟨Q, q1, q2⟩ := hQ
        exact ⟨Q, by rw [cv]; exact q1, by rw [c3]; exact q2⟩
    have hf := Res.Post.of_eq (P := fun x => VF r1 x.1) (appendEntry_vf _ _) heq
    exact ⟨h1.vf hf, htv.trans hf.tv⟩
  unfold Raft.becomeLeader
  split
  · trivial
  · rename_i hnf
    dsimp only
    split
    · trivial
    · split
      · trivial
      · rename_i pr _
        obtain ⟨k1, k2, _, k4, k5, _, k7, _⟩ := c02_reset_fields r r.term
        obtain ⟨t1, t2⟩ := reset_term_vote r r.term
        have t2' : (r.reset r.term).vote = r.vote := by rw [t2]; simp
        have hpr := reset_promotable r r.term
        split
        · rename_i r2 heq
          exact key _ _ _ heq hnf k1 k2 t1 t2' rfl hpr k5 k7
        · trivial
        · trivial
        · trivial

/-! ### the vote record -/

theorem mem_insert {α : Type} (k : Nat) (v : α) :
    ∀ (l : List (Nat × α)) (p : Nat × α), p ∈ NatMap.insert k v l → p = (k, v) ∨ p ∈ l := by
  intro l
  induction l with
  | nil => intro p hp; simp [NatMap.insert] at hp; exact Or.inl hp
  | cons q rest ih =>
    intro p hp
    obtain ⟨k', v'⟩ := q
    unfold NatMap.insert at hp
    split at hp
    · rcases List.mem_cons.1 hp with e | e
      · exact Or.inl e
      · exact Or.inr e
    · split at hp
      · rcases List.mem_cons.1 hp with e | e
        · exact Or.inl e
        · exact Or.inr (List.mem_cons_of_mem _ e)
      · rcases List.mem_cons.1 hp with e | e
        · exact Or.inr (by rw [e]; exact List.mem_cons_self)
        · rcases ih p e with f | f
          · exact Or.inl f
          · exact Or.inr (List.mem_cons_of_mem _ f)

theorem mem_recordVote (t : ProgressTracker) (id : Nat) (v : Bool) (j : Nat)
    (h : (j, true) ∈ (t.recordVote id v).votes) : (j, true) ∈ t.votes ∨ (j = id ∧ v = true) := by
  unfold ProgressTracker.recordVote at h
  split at h
  · exact Or.inl h
  · rcases mem_insert id v t.votes (j, true) h with e | e
    · right
      injection e with e1 e2
      exact ⟨e1, e2.symm⟩
    · exact Or.inl e

theorem mem_granters {votes : List (Nat × Bool)} {j : Nat}
    (h : j ∈ RaftProps.C02.granters votes) : (j, true) ∈ votes := by
  unfold RaftProps.C02.granters at h
  simp only [List.mem_map, List.mem_filter] at h
  obtain ⟨⟨j', b⟩, ⟨h1, h2⟩, h3⟩ := h
  simp only at h2 h3
  subst h2 h3
  exact h1

/-- recording a vote: a `VF`-like step that only touches the vote record -/
theorem VInv.voted {a r : Raft} {m : Message} (h : VInv a m r) (frm : Nat) (v : Bool)
    (hfv : r.state = .candidate → v = true → Backed a m r.term frm) : VInv a m (voted r frm v) := by
  have hconf : (VoteOb.voted r frm v).prs.conf = r.prs.conf := c02_recordVote_conf _ _ _
  have hvoters : (VoteOb.voted r frm v).prs.voters = r.prs.voters := by
    unfold ProgressTracker.voters; rw [hconf]
  refine ⟨h.id, h.hs, h.tv, ?_, h.nf, h.msgs, ?_, ?_⟩
  · rw [hvoters]; exact h.pk
  · intro hc j hj
    rcases mem_recordVote r.prs frm v j hj with e | ⟨e1, e2⟩
    · exact h.cand hc j e
    · rw [e1]; exact hfv hc e2
  · intro hl
    rw [hvoters]; exact h.lead hl

end CV
end Raft
end RaftModel
