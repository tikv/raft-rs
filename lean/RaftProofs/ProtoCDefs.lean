import RaftProofs.ProtoA
import RaftProofs.ProtoFlow
import RaftProofs.ProtoLStep

/-!
The **commit layer** of P — definitions and list-level lemmas.

* `InvB`: shape of the ghost logs (`llog t = elog t ++ entries of term t`, `elog t` older than `t`),
  every election is backed by a quorum of grant records decided before the term had a leader, against
  the log the winner was elected with.
* `InvC`: acknowledgement truth, retention of acknowledged prefixes (conditional on the leaders in
  between holding them), the voters' logs recorded with grants, quorum evidence of every leader
  commit, **Leader Completeness** (`lc`) and **commit soundness** (`cm`, `cmi`, `cmd` and the
  carriers of commit indexes: appends, heartbeats, snapshots, (index, term) evidence).
-/
namespace RaftModel.P

def Elected (s : PSys) (t : Nat) : Prop := ∃ j, (t, j) ∈ s.elected

/-- a leader's term is an elected term -/
theorem leader_elected {s : PSys} (hV : InvV (vsys s)) {i : Nat} (h : (s.nodes i).role = 2) :
    Elected s (s.nodes i).term := ⟨i, (hV.ld i h).1⟩

/-- every elected leader of a term in `(t0, t]` holds the first `c` entries of the log of the leader of `t0` -/
def NCle (s : PSys) (t0 c t : Nat) : Prop :=
  ∀ t', t0 < t' → t' ≤ t → Elected s t' → (s.llog t').take c = (s.llog t0).take c

/-- the same for the terms in `(t0, t)` -/
def NClt (s : PSys) (t0 c t : Nat) : Prop :=
  ∀ t', t0 < t' → t' < t → Elected s t' → (s.llog t').take c = (s.llog t0).take c

/-- index `k` is covered by a leader commit of a term not beyond `t` -/
def Cmtd (s : PSys) (t k : Nat) : Prop := k = 0 ∨ ∃ p ∈ s.cmts, k ≤ p.2 ∧ p.1 ≤ t

/-- the first `k` entries of `l` are entries committed by a leader of a term not beyond `t` -/
def CmtPre (s : PSys) (t k : Nat) (l : List LEntry) : Prop :=
  k = 0 ∨ ∃ p ∈ s.cmts, k ≤ p.2 ∧ p.1 ≤ t ∧ l.take k = (s.llog p.1).take k

structure InvB (s : PSys) : Prop where
  ll : ∀ t, ∃ r, s.llog t = s.elog t ++ r ∧ (∀ e ∈ r, e.term = t) ∧ (∀ e ∈ s.elog t, e.term < t)
  eq : ∀ p ∈ s.elected, ∃ cfg q, (p.1, cfg) ∈ s.ecfgs ∧ cfg.isQuorum q = true ∧ ∀ v ∈ q, ∃ gh, ((⟨p.1, v, p.2⟩ : Grant), gh) ∈ s.rgv ∧
          gh.early = true ∧ upToDate (lastTerm (s.elog p.1)) (s.elog p.1).length gh.vlog = true
  gto : ∀ i t v c gh, OMsg.grant t v c gh ∈ (s.nodes i).outbox → upToDate gh.clt gh.cli gh.vlog = true
  gt : ∀ p ∈ s.rgv, upToDate p.2.clt p.2.cli p.2.vlog = true
  /-- a configuration is recorded for a term only when somebody was elected for it -/
  ee : ∀ ec ∈ s.ecfgs, Elected s ec.1

/-- acknowledgement truth and retention of acknowledged prefixes -/
structure InvC1 (s : PSys) : Prop where
  /-- acknowledgement truth: the acknowledged prefix is a prefix of the log of the leader of its term -/
  atr : ∀ i t f idx pre, nodeAcks (s.nodes i) (.ack t f idx pre) →
          idx ≤ (s.llog t).length ∧ pre = (s.llog t).take idx ∧ Elected s t
  /-- retention (volatile / pending images / durable) -/
  ret : ∀ i t0 f idx pre, OMsg.ack t0 f idx pre ∈ (s.nodes i).outbox → ∀ c, c ≤ idx →
          NCle s t0 c (s.nodes i).term → (s.nodes i).log.take c = (s.llog t0).take c
  reti : ∀ i, ∀ im ∈ (s.nodes i).pending, ∀ t0 f idx pre, OMsg.ack t0 f idx pre ∈ im.acks → ∀ c, c ≤ idx →
          NCle s t0 c im.term → im.log.take c = (s.llog t0).take c
  retd : ∀ i t0 f idx pre, OMsg.ack t0 f idx pre ∈ (s.nodes i).dacks → ∀ c, c ≤ idx →
          NCle s t0 c (s.nodes i).dterm → (s.nodes i).dlog.take c = (s.llog t0).take c

/-- the voter's log recorded with a grant (generated / released) retains what the voter had acknowledged -/
structure InvC2 (s : PSys) : Prop where
  rgo : ∀ i t v cd gh, OMsg.grant t v cd gh ∈ (s.nodes i).outbox → gh.early = true →
          ∀ t0 f idx pre, OMsg.ack t0 f idx pre ∈ (s.nodes i).outbox → t0 < t → ∀ c, c ≤ idx →
          NClt s t0 c t → gh.vlog.take c = (s.llog t0).take c
  rgr : ∀ p ∈ s.rgv, p.2.early = true →
          ∀ t0 f idx pre, nodeAcks (s.nodes p.1.voter) (.ack t0 f idx pre) → t0 < p.1.term → ∀ c, c ≤ idx →
          NClt s t0 c p.1.term → p.2.vlog.take c = (s.llog t0).take c

/-- quorum evidence of every leader commit, commit soundness of every node and of every carrier of a
commit index -/
structure InvC3 (s : PSys) : Prop where
  cq : ∀ p ∈ s.cmts, 0 < p.2 ∧ p.2 ≤ (s.llog p.1).length ∧ termAt (s.llog p.1) p.2 = p.1 ∧ Elected s p.1 ∧
          ∃ cfg q, (p, cfg) ∈ s.ccfgs ∧ cfg.isQuorum q = true ∧ ∀ v ∈ q, ∃ a ∈ s.acks, a.term = p.1 ∧ a.frm = v ∧ p.2 ≤ a.idx
  /-- the configuration ghosts of the leader commits are in step with `cmts` -/
  cc : s.ccfgs.map (·.1) = s.cmts
  /-- configurations of a leader commit and of a later-term election: their quorums meet, or the later
  leader was demonstrably elected with the committed prefix (guards of `win` / `commitLeader`) -/
  gd : ∀ pc ∈ s.ccfgs, ∀ ec ∈ s.ecfgs, pc.1.1 < ec.1 →
          adjOk pc.2 ec.2 = true ∨ (s.elog ec.1).take pc.1.2 = (s.llog pc.1.1).take pc.1.2
  cm : ∀ i, CmtPre s (s.nodes i).term (s.nodes i).commit (s.nodes i).log
  cmi : ∀ i, ∀ im ∈ (s.nodes i).pending, CmtPre s im.term im.commit im.log
  cmd : ∀ i, CmtPre s (s.nodes i).dterm (s.nodes i).dcommit (s.nodes i).dlog
  capp : ∀ m ∈ s.apps, Cmtd s m.term m.commit
  chb : ∀ m ∈ s.hbs, Elected s m.term ∧ Cmtd s m.term m.commit ∧
          (m.commit = 0 ∨ ∃ a ∈ s.acks, a.term = m.term ∧ a.frm = m.to ∧ m.commit ≤ a.idx)
  csn : ∀ m ∈ s.snaps, Elected s m.term ∧ Cmtd s m.term m.idx ∧ m.idx ≤ (s.llog m.term).length ∧
          m.pre = (s.llog m.term).take m.idx ∧ m.sterm = termAt (s.llog m.term) m.idx
  ccl : ∀ m ∈ s.claims, m.idx = 0 ∨ ∃ p ∈ s.cmts, m.idx ≤ p.2 ∧ p.1 ≤ m.cterm ∧
          m.term = termAt (s.llog p.1) m.idx

/-- **Leader Completeness**: the log a later leader is elected with holds every committed prefix -/
def InvLC (s : PSys) : Prop :=
  ∀ p ∈ s.cmts, ∀ t, p.1 < t → Elected s t → (s.elog t).take p.2 = (s.llog p.1).take p.2

structure InvC (s : PSys) : Prop where
  c1 : InvC1 s
  c2 : InvC2 s
  c3 : InvC3 s
  lc : InvLC s

/-! ### list lemmas -/

theorem take_of_take_eq {l L : List LEntry} {a b : Nat} (h : l.take a = L.take a) (hb : b ≤ a) :
    l.take b = L.take b := by
  have : (l.take a).take b = (L.take a).take b := by rw [h]
  rwa [List.take_take, List.take_take, Nat.min_eq_left hb] at this

theorem len_of_take_eq {l L : List LEntry} {c : Nat} (h : l.take c = L.take c) (hc : c ≤ L.length) :
    c ≤ l.length := by
  have : (l.take c).length = (L.take c).length := by rw [h]
  rw [List.length_take, List.length_take] at this
  omega

theorem getElem?_of_take_eq {l L : List LEntry} {c k : Nat} (h : l.take c = L.take c) (hk : k < c) :
    l[k]? = L[k]? := by
  have : (l.take c)[k]? = (L.take c)[k]? := by rw [h]
  rw [List.getElem?_take, List.getElem?_take] at this
  simpa [hk] using this

theorem termAt_of_take_eq {l L : List LEntry} {c k : Nat} (h : l.take c = L.take c) (hk : k ≤ c) :
    termAt l k = termAt L k := by
  unfold termAt
  by_cases h0 : k = 0
  · simp [h0]
  · rw [if_neg h0, if_neg h0, getElem?_of_take_eq h (by omega)]

theorem termAt_take {l : List LEntry} {c k : Nat} (hk : k ≤ c) : termAt (l.take c) k = termAt l k :=
  termAt_of_take_eq (by rw [List.take_take]; simp) hk

theorem lastTerm_eq_termAt (l : List LEntry) : lastTerm l = termAt l l.length := by
  unfold lastTerm termAt
  rw [List.getLast?_eq_getElem?]
  by_cases h : l.length = 0
  · have : l = [] := List.length_eq_zero_iff.mp h
    subst this; rfl
  · rw [if_neg h]

/-- a conflict found by `find_conflict` lies beyond any prefix on which the two logs agree -/
theorem conflictAt_beyond (L : List LEntry) (c : Nat) : ∀ (es l : List LEntry) (pos : Nat),
    es = (L.drop pos).take es.length → pos + es.length ≤ L.length → l.take c = L.take c →
    conflictAt l pos es = 0 ∨ c < conflictAt l pos es := by
  intro es
  induction es with
  | nil => intro l pos _ _ _; left; rfl
  | cons e es ih =>
    intro l pos hes hlen hpre
    obtain ⟨hLe, hes'⟩ := slice_cons hes
    unfold conflictAt
    cases hx : l[pos]? with
    | none =>
      simp only
      right
      by_cases hc : pos < c
      · have := getElem?_of_take_eq hpre hc
        rw [hx, hLe] at this; cases this
      · omega
    | some x =>
      simp only
      by_cases ht : x.term = e.term
      · simp only [ht, if_true]
        exact ih l (pos + 1) hes' (by simp only [List.length_cons] at hlen; omega) hpre
      · simp only [ht, if_false]
        right
        by_cases hc : pos < c
        · have := getElem?_of_take_eq hpre hc
          rw [hx, hLe] at this
          injection this with this
          rw [this] at ht; exact absurd rfl ht
        · omega

/-- `maybe_append` keeps every prefix on which the follower already agreed with the leader -/
theorem mergeAt_keep (L : List LEntry) (c : Nat) (es l : List LEntry) (pos : Nat) (hpos : pos ≤ l.length)
    (hes : es = (L.drop pos).take es.length) (hlen : pos + es.length ≤ L.length)
    (hpre : l.take c = L.take c) : (mergeAt l pos es).take c = L.take c := by
  have hp := mergeAt_prefix es l pos hpos
  rcases conflictAt_beyond L c es l pos hes hlen hpre with h0 | hgt
  · rw [hp.1 h0]; exact hpre
  · have := (hp.2 (by omega)).2
    rw [take_of_take_eq this (by omega)]; exact hpre

/-- no conflict and a matching anchor: the follower's log agrees with the leader's up to the end of the message -/
theorem noconflict_take (llog : Nat → List LEntry) (L : List LEntry) (hL : PFL llog L)
    (es l : List LEntry) (pos : Nat) (hl : PFL llog l) (hpos : pos ≤ l.length)
    (hpre : l.take pos = L.take pos) (hes : es = (L.drop pos).take es.length)
    (hlen : pos + es.length ≤ L.length) (h0 : conflictAt l pos es = 0) :
    l.take (pos + es.length) = L.take (pos + es.length) := by
  have := mergeAt_take llog L hL es l pos hl hpos hpre hes hlen
  rwa [(mergeAt_prefix es l pos hpos).1 h0] at this

/-- a non-empty prefix-from-leader list is a prefix of the log of the leader of its last term -/
theorem pfl_last {llog : Nat → List LEntry} {l : List LEntry} (h : PFL llog l) (hne : l ≠ []) :
    l = (llog (lastTerm l)).take l.length := by
  have hpos : 0 < l.length := List.length_pos_iff.mpr hne
  have hx : l[l.length - 1]? = some (l[l.length - 1]'(by omega)) := List.getElem?_eq_getElem (by omega)
  have := h (l.length - 1) _ hx
  have e : l.length - 1 + 1 = l.length := by omega
  rw [e, List.take_length] at this
  have hlt : lastTerm l = (l[l.length - 1]'(by omega)).term := by
    unfold lastTerm
    rw [List.getLast?_eq_getElem?, hx]
  rw [hlt]; exact this

/-- terms are non-decreasing along every prefix-from-leader list, given the shape of the ghost logs -/
theorem pfl_sorted {llog elog : Nat → List LEntry}
    (hll : ∀ t, ∃ r, llog t = elog t ++ r ∧ (∀ e ∈ r, e.term = t) ∧ (∀ e ∈ elog t, e.term < t))
    {l : List LEntry} (h : PFL llog l) {i j : Nat} {x y : LEntry} (hij : i ≤ j)
    (hx : l[i]? = some x) (hy : l[j]? = some y) : x.term ≤ y.term := by
  have hj := h j y hy
  have hxi : (llog y.term)[i]? = some x := by
    have := getElem?_of_take_eq hj (show i < j + 1 by omega)
    rw [← this]; exact hx
  obtain ⟨r, hr, hrt, het⟩ := hll y.term
  rw [hr] at hxi
  by_cases hlt : i < (elog y.term).length
  · rw [List.getElem?_append_left hlt] at hxi
    exact Nat.le_of_lt (het x (List.mem_of_getElem? hxi))
  · rw [List.getElem?_append_right (by omega)] at hxi
    exact Nat.le_of_eq (hrt x (List.mem_of_getElem? hxi))

/-! ### the "leaders in between" condition only gets harder to meet -/

theorem NCle_mono {s : PSys} {t0 c t t' : Nat} (h : NCle s t0 c t) (ht : t' ≤ t) : NCle s t0 c t' :=
  fun u h1 h2 h3 => h u h1 (by omega) h3

theorem NCle_of_lt {s : PSys} {t0 c t : Nat} (h : NClt s t0 c t) (hne : ¬ Elected s t) : NCle s t0 c t := by
  intro u h1 h2 h3
  by_cases hu : u = t
  · subst hu; exact absurd h3 hne
  · exact h u h1 (by omega) h3

theorem NClt_of_le {s : PSys} {t0 c t : Nat} (h : NCle s t0 c t) : NClt s t0 c t :=
  fun u h1 h2 h3 => h u h1 (by omega) h3

theorem NCle_self (s : PSys) (t c : Nat) : NCle s t c t := fun u h1 h2 _ => by omega

/-! ### ghost logs and elections only grow -/

/-- what every step does to the ghost history: elections are added, the ghost log of an elected term
is extended by entries of that term -/
structure Grow (s s' : PSys) : Prop where
  el : ∀ t, Elected s t → Elected s' t
  ext : ∀ t, Elected s t → ∃ r, s'.llog t = s.llog t ++ r ∧ ∀ e ∈ r, e.term = t

theorem Grow.refl' {s s' : PSys} (h1 : s'.llog = s.llog) (h2 : s'.elected = s.elected) : Grow s s' :=
  ⟨fun t ⟨j, hj⟩ => ⟨j, by rw [h2]; exact hj⟩, fun t _ => ⟨[], by rw [h1]; simp, by simp⟩⟩

/-- a prefix inside the ghost log of an elected term is stable -/
theorem Grow.take_eq {s s' : PSys} (g : Grow s s') {t c : Nat} (ht : Elected s t)
    (hc : c ≤ (s.llog t).length) : (s'.llog t).take c = (s.llog t).take c := by
  obtain ⟨r, hr, _⟩ := g.ext t ht
  rw [hr, List.take_append_of_le_length hc]

theorem Grow.len_le {s s' : PSys} (g : Grow s s') {t : Nat} (ht : Elected s t) :
    (s.llog t).length ≤ (s'.llog t).length := by
  obtain ⟨r, hr, _⟩ := g.ext t ht
  rw [hr, List.length_append]; omega

theorem Grow.termAt_eq {s s' : PSys} (g : Grow s s') {t c : Nat} (ht : Elected s t)
    (hc : c ≤ (s.llog t).length) : termAt (s'.llog t) c = termAt (s.llog t) c := by
  obtain ⟨r, hr, _⟩ := g.ext t ht
  rw [hr, termAt_append_left _ _ hc]

/-- the condition on the leaders in between can only be lost, never gained, along a step -/
theorem Grow.ncle {s s' : PSys} (g : Grow s s') {t0 c T : Nat} (ht0 : Elected s t0)
    (hc : c ≤ (s.llog t0).length) (hlt : ∀ e ∈ s.llog t0, e.term ≤ t0)
    (h : NCle s' t0 c T) : NCle s t0 c T := by
  intro t' h1 h2 h3
  have h' := h t' h1 h2 (g.el t' h3)
  rw [g.take_eq ht0 hc] at h'
  obtain ⟨r, hr, hrt⟩ := g.ext t' h3
  rw [hr] at h'
  by_cases hle : c ≤ (s.llog t').length
  · rwa [List.take_append_of_le_length hle] at h'
  · exfalso
    have hk : (s.llog t').length < c := by omega
    have hlen : ((s.llog t' ++ r).take c).length = c := by
      rw [h', List.length_take]; omega
    have hlt2 : (s.llog t').length < (s.llog t' ++ r).length := by
      rw [List.length_take] at hlen; omega
    have hx := getElem?_of_take_eq h' hk
    rw [List.getElem?_append_right (Nat.le_refl _), Nat.sub_self] at hx
    have hr0 : 0 < r.length := by rw [List.length_append] at hlt2; omega
    have hx0 : r[0]? = some (r[0]'hr0) := List.getElem?_eq_getElem hr0
    rw [hx0] at hx
    have hm1 : r[0]'hr0 ∈ r := List.getElem_mem hr0
    have hm2 : r[0]'hr0 ∈ s.llog t0 := List.mem_of_getElem? hx.symm
    have := hrt _ hm1
    have := hlt _ hm2
    omega

theorem Grow.nclt {s s' : PSys} (g : Grow s s') {t0 c T : Nat} (ht0 : Elected s t0)
    (hc : c ≤ (s.llog t0).length) (hlt : ∀ e ∈ s.llog t0, e.term ≤ t0)
    (h : NClt s' t0 c T) : NClt s t0 c T := by
  intro t' h1 h2 h3
  have : NCle s' t0 c t' := fun u a b d => h u a (by omega) d
  exact (g.ncle ht0 hc hlt this) t' h1 (Nat.le_refl _) h3

theorem Cmtd.mono {s s' : PSys} {t k : Nat} (h : Cmtd s t k) (hc : ∀ p ∈ s.cmts, p ∈ s'.cmts) : Cmtd s' t k := by
  rcases h with h | ⟨p, hp, h1, h2⟩
  · exact Or.inl h
  · exact Or.inr ⟨p, hc p hp, h1, h2⟩

theorem Cmtd.mono_term {s : PSys} {t t' k : Nat} (h : Cmtd s t k) (ht : t ≤ t') : Cmtd s t' k := by
  rcases h with h | ⟨p, hp, h1, h2⟩
  · exact Or.inl h
  · exact Or.inr ⟨p, hp, h1, by omega⟩

theorem Cmtd.mono_idx {s : PSys} {t k k' : Nat} (h : Cmtd s t k) (hk : k' ≤ k) : Cmtd s t k' := by
  rcases h with h | ⟨p, hp, h1, h2⟩
  · exact Or.inl (by omega)
  · exact Or.inr ⟨p, hp, by omega, h2⟩

theorem CmtPre.cmtd {s : PSys} {t k : Nat} {l : List LEntry} (h : CmtPre s t k l) : Cmtd s t k := by
  rcases h with h | ⟨p, hp, h1, h2, _⟩
  · exact Or.inl h
  · exact Or.inr ⟨p, hp, h1, h2⟩

/-- nobody was elected before for the term a candidate wins -/
theorem win_fresh {s s' : PSys} {i : Nat} {cfg : Cfg} {q : List Nat} (hV : InvV (vsys s)) (hL : InvL s)
    (h : applyEvent s (.win i cfg q) = .ok s') : ¬ Elected s (s.nodes i).term :=
  fun ⟨j, hj⟩ => win_fresh_elected hV hL h j hj

theorem grow_step (s s' : PSys) (e : Event)
    (hV : InvV (vsys s)) (hL : InvL s) (h : applyEvent s e = .ok s') : Grow s s' := by
  rcases election_frame h with ⟨i, cfg, q, rfl⟩ | ⟨hel, _, _, ⟨i, x, rfl⟩ | hll⟩
  · have hf := win_fresh hV hL h
    obtain ⟨_, _, _, _, rfl, _⟩ := win_guard h
    constructor
    · rintro t ⟨j, hj⟩; exact ⟨j, List.mem_cons_of_mem _ hj⟩
    · intro t ht
      have : t ≠ (s.nodes i).term := by intro he; rw [he] at ht; exact hf ht
      exact ⟨[], by simp [updT, this], by simp⟩
  · obtain ⟨hg, rfl⟩ := of_guard_ok h
    constructor
    · intro t ht; exact ht
    · intro t _
      by_cases ht : t = (s.nodes i).term
      · subst ht
        refine ⟨[x], ?_, ?_⟩
        · simp only [updT, if_true]; rw [hL.ll i hg.2.1]
        · intro y hy; rw [List.mem_singleton.1 hy]; exact hg.2.2
      · exact ⟨[], by simp [updT, ht], by simp⟩
  · exact Grow.refl' hll hel

/-- the log of every leader of a term not before a leader commit holds the committed prefix -/
theorem cmt_prefix {s : PSys} (hB : InvB s) (h3 : InvC3 s) (hlc : InvLC s)
    {p : Nat × Nat} (hp : p ∈ s.cmts) {t : Nat} (ht : p.1 ≤ t) (hel : Elected s t) :
    (s.llog t).take p.2 = (s.llog p.1).take p.2 := by
  by_cases he : p.1 = t
  · rw [he]
  · have h1 := hlc p hp t (by omega) hel
    obtain ⟨r, hr, _, _⟩ := hB.ll t
    have hlen := len_of_take_eq h1 (h3.cq p hp).2.1
    rw [hr, List.take_append_of_le_length hlen]; exact h1

/-- ... and any shorter prefix of it -/
theorem cmt_prefix_le {s : PSys} (hB : InvB s) (h3 : InvC3 s) (hlc : InvLC s)
    {p : Nat × Nat} (hp : p ∈ s.cmts) {t : Nat} (ht : p.1 ≤ t) (hel : Elected s t) {k : Nat} (hk : k ≤ p.2) :
    (s.llog t).take k = (s.llog p.1).take k :=
  take_of_take_eq (cmt_prefix hB h3 hlc hp ht hel) hk

/-- a prefix that agrees with the log of an elected leader of `t` up to an index covered by a commit of
a term not beyond `t` is a committed prefix -/
theorem CmtPre.of_cmtd {s : PSys} (hB : InvB s) (hC : InvC s) {t k : Nat} {l : List LEntry}
    (hc : Cmtd s t k) (hel : Elected s t) (hl : l.take k = (s.llog t).take k) : CmtPre s t k l := by
  rcases hc with h | ⟨p, hp, h1, h2⟩
  · exact Or.inl h
  · exact Or.inr ⟨p, hp, h1, h2, by rw [hl]; exact cmt_prefix_le hB hC.c3 hC.lc hp h2 hel h1⟩

/-- the prefix carried by a released snapshot is a committed prefix -/
theorem snap_cmtPre {s : PSys} (hB : InvB s) (hC : InvC s) {m : Snap} (hm : m ∈ s.snaps) :
    CmtPre s m.term m.idx m.pre := by
  obtain ⟨e1, e2, _, e4, _⟩ := hC.c3.csn m hm
  exact CmtPre.of_cmtd hB hC e2 e1 (by rw [e4, List.take_take, Nat.min_self])

end RaftModel.P
