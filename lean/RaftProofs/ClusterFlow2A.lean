import RaftProofs.ClusterFlowI
import RaftProofs.ClusterSnap6D

/-!
Cluster-level flow control and leadership transfer with **compaction, snapshots between nodes and
`request_snapshot`** (C13d, C17d): the histories of the snapshot layer provide `ProvFacts` (`GHyp q`, any
`q`) and `AckFacts` for the ghost logs `Snap.FL` / `Snap.FS` (`GHyp3w q`), so the theorems of
`ClusterFlowI/M` and `ClusterXferB` apply to them; equal ghost logs agree as logical logs above both
snapshot points (`real_of_ghost`).

The bundle of the `Hyp` halves of C13d / C17d is `Flow2.HypR` = `Snap5.Hyp` (`ClusterSnap5C.lean`, the
weakest bundle of the snapshot layer) **minus its invariant-shaped field `reqok`**, which is derived
(`HypR.reqInv`: it needs `History`, the fixed configuration, `InitOk`, `Snap5.KStep` and `NoBatch` only).
`Snap5.Hyp3r` (the bundle of `RaftProps/C01j.lean`) implies it (`Hyp3r.toHypR`).
-/
namespace RaftModel
namespace Cluster
namespace Snap5
namespace Flow2
open Node Snap

/-- **the hypotheses of `RaftProps/C13d.lean` / `C17d.lean`, `Hyp` halves**: `Snap5.Hyp` without
`reqok` — a history of `ClusterSem` with a fixed non-empty duplicate-free voter configuration, `InitOk`,
the step contract `Snap5.KStep` (compaction under `CompactOk`, snapshots between nodes, free use of
`request_snapshot`), no batching -/
structure HypR (cfg : JointConfig) (h : List Sys) : Prop where
  hist : History h
  fix : ∀ s ∈ h, FixedCfg cfg s
  ne : cfg.incoming ≠ []
  nd1 : cfg.incoming.Nodup
  nd2 : cfg.outgoing.Nodup
  init : ∀ s : Sys, h[0]? = some s → InitOk s
  steps : ∀ (n : Nat) (a b : Sys), h[n]? = some a → h[n + 1]? = some b → KStep a b
  nb : ∀ s ∈ h, NoBatch s

variable {cfg : JointConfig} {c0 : Nat} {h : List Sys}

/-- `RQ.ReqInv` in every state -/
theorem HypR.reqInv (H : HypR cfg h) : ∀ (n : Nat) (s : Sys), h[n]? = some s → ReqInvS s :=
  reqInv_of_gsteps H.hist H.fix H.ne H.nd1 H.nd2 H.init
    (fun n a b ha hb => (H.steps n a b ha hb).g (q := True)) H.nb

/-- **`reqok` derived**: the bundle implies `Snap5.Hyp` -/
theorem HypR.toHyp (H : HypR cfg h) : Hyp cfg h :=
  { hist := H.hist, fix := H.fix, ne := H.ne, nd1 := H.nd1, nd2 := H.nd2, init := H.init,
    steps := H.steps, nb := H.nb,
    reqok := fun s hs => by
      obtain ⟨n, hn⟩ := List.mem_iff_getElem?.1 hs
      exact (H.reqInv n s hn).reqOk }

theorem _root_.RaftModel.Cluster.Snap5.Hyp.toHypR (H : Hyp cfg h) : HypR cfg h :=
  { hist := H.hist, fix := H.fix, ne := H.ne, nd1 := H.nd1, nd2 := H.nd2, init := H.init,
    steps := H.steps, nb := H.nb }

/-- the bundle of `RaftProps/C01j.lean` implies it -/
theorem _root_.RaftModel.Cluster.Snap5.Hyp3r.toHypR (H : Hyp3r cfg c0 h) : HypR cfg h :=
  { hist := H.hist, fix := H.fix, ne := H.ne, nd1 := H.nd1, nd2 := H.nd2, init := H.init,
    steps := H.steps, nb := H.nb }

/-! ### the facts the layers above use -/

/-- ordinary calls establish the recorded fact; the delivery of a `MsgSnapshot` queues only an append
response; the installation of a pending snapshot, a `send` and a restart queue nothing -/
theorem _root_.RaftModel.Cluster.ProvFacts.of_ghyp {q : Prop} (H : GHyp q cfg h) : ProvFacts h := by
  refine ⟨H.hist, fun K hK Φ hfresh => H.provenance K hK Φ ?_⟩
  intro n a b i st st' rnd op res ha hb hi hi' hcall hop _ hns _ _ hnet
  exact hfresh n a b i st st' rnd op res ha hb hi hi' hcall hnet
    (kstep_g (H.mokc n a ha) (H.nb a (mem_of_get ha)) hi
      (hop.imp (fun g => g) fun ⟨m, h1, h2, _⟩ => ⟨m, h1, h2⟩) hns hcall)

theorem _root_.RaftModel.Cluster.AckFacts.of_ghyp3w {q : Prop} (H : GHyp3w q cfg c0 h) :
    AckFacts h c0 (FL h c0) (FS h c0) := by
  have H2 := H.toGHyp2w
  have Ha := H.toGHyp3a
  refine ⟨fun n s i st hn hi => (node_ok H2 hn hi).id,
    fun n s i st hn hi => (fl_last H2.facts hn hi).trans (node_ok H2 hn hi).inv.lastIndex_abs.symm,
    H2.toGHyp.mokc, fun n s hn a ha hack h0 => ((ack_inv H2 n s hn).2 a ha hack h0).2, ?_,
    fun n s v st hn hv => (sm_all Ha.facts hn).a2m v st hv, fun n s v st hn hv => (sm_all Ha.facts hn).a2s v st hv,
    fun h1 h2 _ hk hk' => Snap5.ll_eq H2.facts h1 h2 hk hk'⟩
  intro n s hn a ha hack h0
  obtain ⟨i, n1, hn1, s1, st1, h1, h2, h3, h4, h5⟩ := (ack_prov H2 n s hn).2 a ha ⟨hack, h0⟩
  subst h5
  exact ⟨n1, s1, st1, hn1, h1, h2, h3, h4⟩

/-- equal ghost logs up to `i` give equal logical logs at the indexes `≤ i` that both retain -/
theorem real_of_ghost (H : Hyp2w cfg c0 h) {n m : Nat} {s s' : Sys} (hn : h[n]? = some s)
    (hm : h[m]? = some s') {v w : Nat} {st st' : NState} (hv : s.node v = some st)
    (hw : s'.node w = some st') {i : Nat}
    (heq : ∀ k, k ≤ i → (FL h c0 st).entryAt k = (FL h c0 st').entryAt k) :
    ∀ k, k ≤ i → st.raft.raftLog.abs.snapIdx < k → st'.raft.raftLog.abs.snapIdx < k →
      st.raft.raftLog.abs.entryAt k = st'.raft.raftLog.abs.entryAt k := by
  intro k hk h1 h2
  have I := (ghost_inv H.g n s hn).node v st hv
  have I' := (ghost_inv H.g m s' hm).node w st' hw
  rw [← I.log.ents k h1, ← I'.log.ents k h2]
  exact heq k hk

/-- the same for the stored log of the first node -/
theorem real_of_ghost_store (H : Hyp2w cfg c0 h) {n m : Nat} {s s' : Sys} (hn : h[n]? = some s)
    (hm : h[m]? = some s') {v w : Nat} {st st' : NState} (hv : s.node v = some st)
    (hw : s'.node w = some st') {i : Nat}
    (heq : ∀ k, k ≤ i → (FS h c0 st).entryAt k = (FL h c0 st').entryAt k) :
    ∀ k, k ≤ i → (storeLog st.raft.raftLog.store).snapIdx < k →
      st'.raft.raftLog.abs.snapIdx < k →
      (storeLog st.raft.raftLog.store).entryAt k = st'.raft.raftLog.abs.entryAt k := by
  intro k hk h1 h2
  have I := (ghost_inv H.g n s hn).node v st hv
  have I' := (ghost_inv H.g m s' hm).node w st' hw
  rw [← I.sto.ents k h1, ← I'.log.ents k h2]
  exact heq k hk

end Flow2
end Snap5
end Cluster
end RaftModel
