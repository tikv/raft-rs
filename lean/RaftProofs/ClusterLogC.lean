import RaftProofs.ClusterBatchC

/-!
Cluster-level Log Matching, helper lemmas part C: the vocabulary of the layer without batching for what
`append_entry`, `become_leader`, the elections, `restore` and `Raft::step` do to the logical log, the queue of
`MsgAppend`s and the stored entries (`QS`, `QN`, `AppendedK`, `WonK`, `RestoredK`), and `step_k`: the case
analysis `step_x` of `RaftProofs/ClusterBatchC.lean` with batching off.
-/
namespace RaftModel
namespace Raft

theorem SubW.mono {x : Message} {g h : LLog} (hx : SubW x g) (hs : Sub g h) : SubW x h :=
  ⟨hx.1, hx.2.trans hs⟩

/-- the queue / storage half of a call whose final logical log is `r`'s: same stored entries, same
batching flag, and every queued `MsgAppend` was queued in `a` or is a sub-log of `r`'s logical log -/
structure QS (a r : Raft) : Prop where
  ents : r.raftLog.store.entries = a.raftLog.store.entries
  smeta : r.raftLog.store.snapshotMetadata = a.raftLog.store.snapshotMetadata
  ba : r.batchAppend = a.batchAppend
  q : ∀ x ∈ r.msgs, x.msgType = .msgAppend → x ∈ a.msgs ∨ SubW x r.raftLog.abs

/-- … for a call that replaced the logical log: every queued `MsgAppend` was queued in `a` or is a
sub-log of the logical log of `a` -/
structure QN (a r : Raft) : Prop where
  ents : r.raftLog.store.entries = a.raftLog.store.entries
  smeta : r.raftLog.store.snapshotMetadata = a.raftLog.store.snapshotMetadata
  ba : r.batchAppend = a.batchAppend
  q : ∀ x ∈ r.msgs, x.msgType = .msgAppend → x ∈ a.msgs ∨ SubW x a.raftLog.abs

theorem K0.qs {a r : Raft} (h : K0 a r) : QS a r :=
  ⟨h.ls.ents, h.ls.smeta, h.ba, fun x hx hty => by rw [h.abs]; exact h.q x hx hty⟩

theorem QS.anchor {a r r' : Raft} (h0 : K0 a r) (hext : Sub r.raftLog.abs r'.raftLog.abs)
    (h : QS r r') : QS a r' := by
  refine ⟨h.ents.trans h0.ls.ents, h.smeta.trans h0.ls.smeta, h.ba.trans h0.ba, fun x hx hty => ?_⟩
  rcases h.q x hx hty with c | c
  · rcases h0.q x c hty with d | d
    · exact .inl d
    · right; rw [← h0.abs] at d; exact d.mono hext
  · exact .inr c

theorem K0.qn {a r : Raft} (h : K0 a r) : QN a r := ⟨h.ls.ents, h.ls.smeta, h.ba, h.q⟩

/-- `Appended` with the queue facts -/
structure AppendedK (a r : Raft) (es : List Entry) : Prop where
  app : Appended a r es
  qs : QS a r

theorem AppendedK.anchor {a r r' : Raft} {es : List Entry} (h0 : K0 a r)
    (h : AppendedK r r' es) : AppendedK a r' es :=
  ⟨Appended.anchor h0.ls.same h.app, QS.anchor h0 h.app.sub h.qs⟩

/-- `Won` with the queue facts -/
def WonK (a r : Raft) : Prop := AppendedK a r [leaderNoop r.term (a.raftLog.lastIndex + 1)]

theorem WonK.won {a r : Raft} (h : WonK a r) : Won a r := h.app

/-- `Restored` with the queue facts: nothing but non-`MsgAppend` messages were queued -/
structure RestoredK (a r : Raft) (sn : Snapshot) : Prop where
  res : Restored a r sn
  qn : QN a r

/-! ### the relations of part B with batching off -/

theorem Bt.N0.k0 {a r : Raft} (h : Bt.N0 a r) : K0 a r :=
  ⟨h.ls, h.ba, fun x hx hty => .inl (h.q x hx hty)⟩

theorem Bt.RestoredN.k {a r : Raft} {sn : Snapshot} (h : Bt.RestoredN a r sn) : RestoredK a r sn :=
  ⟨h.res, h.qn.ents, h.qn.smeta, h.qn.ba, fun x hx hty => .inl (h.qn.q x hx hty)⟩

/-- batching off, `AppendedK` -/
theorem Bt.AppendedX.k {a r : Raft} {es : List Entry} (h : Bt.AppendedX a r es)
    (hb : a.batchAppend = false) : AppendedK a r es :=
  ⟨h.app, h.qs.ents, h.qs.smeta, h.qs.ba,
    fun x hx hty => (hb ▸ h.qs.q (fun c => by rw [hb] at c; cases c) x hx hty).k⟩

/-! ### the helpers that keep `N`, for `K` -/

theorem K.of_n {r r' : Raft} (h : Bt.N r r') : K r r' := fun hi _ => (h hi).k0

theorem Bt.AppendedN.k {a r : Raft} {es : List Entry} (h : Bt.AppendedN a r es) : AppendedK a r es :=
  ⟨h.app, h.qs.ents, h.qs.smeta, h.qs.ba, fun x hx hty => .inl (h.qs.q x hx hty)⟩

/-- queueing a message that is not a `MsgAppend` -/
theorem send_k {a r r' : Raft} {m : Message} (h : r.send m = .ok r')
    (hm : m.msgType ≠ .msgAppend) (h0 : K a r) : K a r' :=
  h0.trans (.of_n (Bt.send_n h hm Bt.N.rfl))

theorem handleReadyReadIndex_k {a r r' : Raft} {req : Message} {i : Nat} {om : Option Message}
    (h : r.handleReadyReadIndex req i = .ok (r', om)) (h0 : K a r) :
    K a r' ∧ ∀ m', om = some m' → m'.msgType = .msgReadIndexResp :=
  ⟨h0.trans (.of_n (Bt.handleReadyReadIndex_n h Bt.N.rfl).1), (Bt.handleReadyReadIndex_n h Bt.N.rfl).2⟩

theorem sendRequestSnapshot_k {a r r' : Raft} (h : r.sendRequestSnapshot = .ok r')
    (h0 : K a r) : K a r' :=
  h0.trans (.of_n (Bt.sendRequestSnapshot_n h Bt.N.rfl))

theorem bcastHeartbeatWithCtx_k {a r r' : Raft} {ctx : Option Bytes}
    (h : r.bcastHeartbeatWithCtx ctx = .ok r') (h0 : K a r) : K a r' :=
  h0.trans (.of_n (Bt.bcastHeartbeatWithCtx_n h Bt.N.rfl))

theorem bcastHeartbeat_k {a r r' : Raft} (h : r.bcastHeartbeat = .ok r') (h0 : K a r) :
    K a r' :=
  h0.trans (.of_n (Bt.bcastHeartbeat_n h Bt.N.rfl))

theorem maybeCommit_k {a r r' : Raft} {b : Bool} (h : r.maybeCommit = .ok (r', b))
    (h0 : K a r) : K a r' :=
  h0.trans (.of_n (Bt.maybeCommit_n h Bt.N.rfl))

theorem respondReadStates_k {a r r' : Raft} {rss : List ReadIndexStatus}
    (h : r.respondReadStates rss = .ok r') (h0 : K a r) : K a r' :=
  h0.trans (.of_n (Bt.respondReadStates_n h Bt.N.rfl))

theorem checkQuorumActive_k {a r r' : Raft} {b : Bool} (h : r.checkQuorumActive = (r', b))
    (h0 : K a r) : K a r' :=
  h0.trans (.of_n (Bt.checkQuorumActive_n h Bt.N.rfl))

theorem handleSnapshotStatus_k {a r : Raft} {m : Message} (h0 : K a r) :
    K a (r.handleSnapshotStatus m) :=
  h0.trans (.of_n (Bt.handleSnapshotStatus_n Bt.N.rfl))

theorem handleUnreachable_k {a r : Raft} {m : Message} (h0 : K a r) :
    K a (r.handleUnreachable m) :=
  h0.trans (.of_n (Bt.handleUnreachable_n Bt.N.rfl))

theorem filterProposal_k {a : Raft} : ∀ (es : List Entry) (r r' : Raft) (i : Nat)
    (oes : Option (List Entry)), r.filterProposal i es = (r', oes) → K a r → K a r' :=
  fun es r r' i oes h h0 => h0.trans (.of_n (Bt.filterProposal_n es r r' i oes h Bt.N.rfl))

theorem handleHeartbeat_k {a r r' : Raft} {m : Message}
    (h : r.handleHeartbeat m = .ok r') (h0 : K a r) : K a r' :=
  h0.trans (.of_n (Bt.handleHeartbeat_n h Bt.N.rfl))

theorem becomeFollower_k {a r : Raft} (t l : Nat) (h0 : K a r) : K a (r.becomeFollower t l) :=
  h0.trans (.of_n (Bt.becomeFollower_n t l Bt.N.rfl))

theorem becomeCandidate_k {a r r' : Raft} (h : r.becomeCandidate = .ok r') (h0 : K a r) :
    K a r' :=
  h0.trans (.of_n (Bt.becomeCandidate_n h Bt.N.rfl))

theorem becomePreCandidate_k {a r r' : Raft} (h : r.becomePreCandidate = .ok r') (h0 : K a r) :
    K a r' :=
  h0.trans (.of_n (Bt.becomePreCandidate_n h Bt.N.rfl))

theorem sendVoteRequests_k {a r r' : Raft} {ct : CampaignType} {vm : MsgType} {t : Nat}
    (hvm : vm ≠ .msgAppend)
    (h : r.sendVoteRequests ct vm t = .ok r') (h0 : K a r) : K a r' :=
  h0.trans (.of_n (Bt.sendVoteRequests_n hvm h Bt.N.rfl))

theorem maybeCommitByVote_k {a r r' : Raft} {m : Message} (h : r.maybeCommitByVote m = .ok r')
    (h0 : K a r) : K a r' :=
  h0.trans (.of_n (Bt.maybeCommitByVote_n h Bt.N.rfl))

theorem stepVote_k {a r r' : Raft} {m : Message} (h : r.stepVote m = .ok r') (h0 : K a r) :
    K a r' :=
  h0.trans (.of_n (Bt.stepVote_n h Bt.N.rfl))

theorem stepTerm_k {a r r' : Raft} {m : Message} {b : Bool} (h : r.stepTerm m = .ok (r', b))
    (h0 : K a r) : K a r' :=
  h0.trans (.of_n (Bt.stepTerm_n h Bt.N.rfl))

theorem appendEntry_k {r r' : Raft} {es : List Entry} {b : Bool} (hinv : r.raftLog.Inv)
    (hs : r.state = .leader) (h : r.appendEntry es = .ok (r', b)) :
    (b = false ∧ r' = r) ∨
    (b = true ∧ es = [] ∧ K0 r r' ∧ Frame r r') ∨
    (b = true ∧ AppendedK r r' (stampFrom r.term (r.raftLog.lastIndex + 1) es) ∧ Frame r r') :=
  (Bt.appendEntry_n hinv hs h).imp (fun c => c) fun c => c.imp (fun ⟨c1, c2, c3, c4⟩ => ⟨c1, c2, c3.k0, c4⟩)
    fun ⟨c1, c2, c3⟩ => ⟨c1, c2.k, c3⟩

/-- **`Raft::step`: every way the logical log, the queue of `MsgAppend`s and the stored entries can
change** (batching off).  `step_log` with the queue facts. -/
theorem step_k {r r' : Raft} {m : Message} {e : Option RaftError} (hinv : r.raftLog.Inv)
    (hnb : r.batchAppend = false) (h : r.step m = .ok (r', e)) :
    K0 r r' ∨
    (m.msgType = .msgPropose ∧ r.state = .leader ∧ r'.term = r.term ∧ e = none ∧
      ∃ es, es.length = m.entries.length ∧
        AppendedK r r' (stampFrom r.term (r.raftLog.lastIndex + 1) es)) ∨
    ((m.msgType = .msgHup ∨ m.msgType = .msgTimeoutNow ∨ m.msgType = .msgRequestVoteResponse ∨
        m.msgType = .msgRequestPreVoteResponse) ∧
      (r.state ≠ .leader ∨ (r.term < m.term ∧ m.term ≤ r'.term)) ∧ WonK r r') ∨
    (m.msgType = .msgAppend ∧ (r.state ≠ .leader ∨ (r.term < m.term ∧ m.term ≤ r'.term)) ∧
      ∃ r0, K0 r r0 ∧ r0.state = .follower ∧ r0.handleAppendEntries m = .ok r') ∨
    (m.msgType = .msgSnapshot ∧ (r.state ≠ .leader ∨ (r.term < m.term ∧ m.term ≤ r'.term)) ∧
      RestoredK r r' m.snapshot) := by
  rcases Bt.step_x hinv h with c | ⟨c1, c2, c3, c4, es, c5, c⟩ | ⟨c1, c2, c⟩ | ⟨c1, c2, r0, c3, c4⟩ |
    ⟨c1, c2, c⟩ | ⟨_, _, c⟩
  · exact .inl c.k0
  · exact .inr (.inl ⟨c1, c2, c3, c4, es, c5, c.k hnb⟩)
  · exact .inr (.inr (.inl ⟨c1, c2, Bt.AppendedX.k c hnb⟩))
  · exact .inr (.inr (.inr (.inl ⟨c1, c2, r0, c3.k0, c4⟩)))
  · exact .inr (.inr (.inr (.inr ⟨c1, c2, c.k⟩)))
  · exact .inl (c.k hinv hnb)

end Raft
end RaftModel
