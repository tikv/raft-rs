import RaftProofs.Inflights
import RaftProofs.Quorum
import RaftProofs.ConfChange
import RaftProofs.Contig
import RaftProofs.RaftLog
import RaftProofs.Storage
import RaftProofs.RaftLogReads
import RaftProofs.RaftLogStore
import RaftProofs.LLog
import RaftProofs.ProtoEvents
import RaftProofs.ProtoVol
import RaftProofs.ProtoFlow
import RaftProofs.ProtoV
import RaftProofs.ProtoVStep
import RaftProofs.ProtoQuorum
import RaftProofs.ProtoR
import RaftProofs.ProtoLog
import RaftProofs.ProtoL
import RaftProofs.ProtoLStep
import RaftProofs.ProtoA
import RaftProofs.ProtoCDefs
import RaftProofs.ProtoB
import RaftProofs.ProtoC1
import RaftProofs.ProtoC2
import RaftProofs.ProtoC3
import RaftProofs.ProtoC4
import RaftProofs.ProtoSafety
import RaftProofs.ProtoC
import RaftProofs.ProtoReadDefs
import RaftProofs.ProtoRead
import RaftProofs.RawNode
import RaftProofs.Res
import RaftProofs.RaftNode
import RaftProofs.RaftGuards
import RaftProofs.RaftNodeC16
import RaftProofs.RaftNodeC17
import RaftProofs.RaftNodeC10
import RaftProofs.RaftNodeC02
import RaftProofs.RaftNodeC05
import RaftProofs.RaftNodeC04
import RaftProofs.RawNodeC06
import RaftProofs.RaftNodeC09
import RaftProofs.ProtoCfgDefs
import RaftProofs.ProtoCfgE
import RaftProofs.ProtoCfgK
import RaftProofs.ProtoCfgInv
import RaftProofs.ProtoCfgRead
import RaftProofs.ProtoCfg
import RaftProofs.ProtoDiscDefs
import RaftProofs.ProtoDiscInv
import RaftProofs.ProtoDiscStep
import RaftProofs.ProtoDisc
import RaftProofs.RaftNodePD
import RaftProofs.HelperFrame
import RaftProofs.CallRun
import RaftProofs.ClusterVoteA
import RaftProofs.ClusterVoteC
import RaftProofs.ClusterVoteD
import RaftProofs.ClusterVoteE
import RaftProofs.ClusterVoteF
import RaftProofs.ClusterVoteG
import RaftProofs.ClusterVoteH
import RaftProofs.ClusterLogA
import RaftProofs.ClusterLogB
import RaftProofs.ClusterLogC
import RaftProofs.ClusterLogD
import RaftProofs.ClusterLogE
import RaftProofs.ClusterLogF
import RaftProofs.ClusterLogG
import RaftProofs.ClusterLogH
import RaftProofs.ClusterLogI
import RaftProofs.ClusterLogJ
import RaftProofs.ClusterLogK
import RaftProofs.ClusterBatchA
import RaftProofs.ClusterBatchB
import RaftProofs.ClusterBatchC
import RaftProofs.ClusterBatchE
import RaftProofs.ClusterBatchH
import RaftProofs.ClusterBatchK
import RaftProofs.ClusterHistory
import RaftProofs.ClusterStep
import RaftProofs.ClusterStretch
import RaftProofs.ClusterCommitA
import RaftProofs.ClusterCommitB
import RaftProofs.ClusterCommitD
import RaftProofs.ClusterCommitE
import RaftProofs.ClusterCommitM
import RaftProofs.ClusterCommitP
import RaftProofs.ClusterCommitKStep
import RaftProofs.ClusterCommitHyp
import RaftProofs.ClusterCommitVocab
import RaftProofs.ClusterCommitX
import RaftProofs.ClusterCommitZ
import RaftProofs.ClusterCommitAppendCall
import RaftProofs.ClusterCommitStored
import RaftProofs.ClusterCommitEvidence
import RaftProofs.ClusterCommit2L
import RaftProofs.ClusterCommit3H
import RaftProofs.RaftNodeEffects
import RaftProofs.ClusterCommit4A
import RaftProofs.ClusterCommit4B
import RaftProofs.ClusterCommit4C
import RaftProofs.ClusterCommit4D
import RaftProofs.ClusterCommit4E
import RaftProofs.ClusterCommit4F
import RaftProofs.ClusterCommit4G
import RaftProofs.ClusterCommit4H
import RaftProofs.ClusterCommit4I
import RaftProofs.ClusterCommit4CP
import RaftProofs.ClusterCommitCI
import RaftProofs.ClusterCommit4M
import RaftProofs.ClusterReadA
import RaftProofs.ClusterReadG
import RaftProofs.ClusterReadK
import RaftProofs.ClusterReadN
import RaftProofs.ClusterReadO
import RaftProofs.ClusterSnapHyp
import RaftProofs.ClusterSnapFull
import RaftProofs.ClusterSnapGhost
import RaftProofs.ClusterSnapExamples
import RaftProofs.ClusterSnap2A
import RaftProofs.ClusterSnap2B
import RaftProofs.ClusterLeaseA
import RaftProofs.ClusterLeaseB
import RaftProofs.ClusterLeaseC
import RaftProofs.ClusterLeaseD
import RaftProofs.ClusterLeaseE
import RaftProofs.ClusterLeaseF
import RaftProofs.ClusterSnap4A
import RaftProofs.ClusterCommit5A
import RaftProofs.ClusterCommit5C
import RaftProofs.ClusterCommit5D
import RaftProofs.ClusterCommit5E
import RaftProofs.ClusterCommit5F
import RaftProofs.ClusterCommit5G
import RaftProofs.ClusterCommit5H
import RaftProofs.ClusterCommit5M
import RaftProofs.ClusterCommitBatchHyp
import RaftProofs.ClusterCommitBatchPerCall
import RaftProofs.ClusterCommitBatchQueue
import RaftProofs.ClusterCommitBatchStep
import RaftProofs.ClusterCommitBatchVocab
import RaftProofs.ClusterCommitBatchInd
import RaftProofs.ClusterCommitBatchFacts
import RaftProofs.ClusterCommit5c4M
import RaftProofs.ClusterXferA
import RaftProofs.ClusterXferB
import RaftProofs.ClusterXferC
import RaftProofs.ClusterXferD
import RaftProofs.ClusterSnap5C
import RaftProofs.ClusterSnapBase
import RaftProofs.ClusterSnapBaseAck
import RaftProofs.ClusterSnapBaseTime
import RaftProofs.ClusterSnap5E
import RaftProofs.ClusterSnap5F
import RaftProofs.ClusterSnap5G
import RaftProofs.ClusterSnap5J
import RaftProofs.ClusterSnap5K
import RaftProofs.ClusterSnap5L
import RaftProofs.ClusterSnapFacts
import RaftProofs.ClusterSnap5M
import RaftProofs.ClusterSnap5N
import RaftProofs.ClusterSnap5O
import RaftProofs.ClusterSnap5P
import RaftProofs.ClusterSnap5Q
import RaftProofs.ClusterSnap5R
import RaftProofs.ClusterSnap5S
import RaftProofs.ClusterSnap5T
import RaftProofs.ClusterSnap5V
import RaftProofs.ClusterSnap5W
import RaftProofs.ClusterSnap5X
import RaftProofs.ClusterSnap2C
import RaftProofs.ClusterSnap5Z
import RaftProofs.ClusterSnap5B
import RaftProofs.ClusterSnap5Y
import RaftProofs.ClusterFacts
import RaftProofs.ClusterFlowM
import RaftProofs.ClusterFlowA
import RaftProofs.ClusterFlowB
import RaftProofs.ClusterFlowD
import RaftProofs.ClusterTestHyp
import RaftProofs.ClusterFlowX
import RaftProofs.ClusterFlowH
import RaftProofs.ClusterFlowI
import RaftProofs.ClusterSnap6A
import RaftProofs.ClusterSnap6B
import RaftProofs.ClusterSnap6C
import RaftProofs.ClusterSnap6D
import RaftProofs.ClusterSnapCompaction
import RaftProofs.ClusterCommitPlain
import RaftProofs.ClusterRead2A
import RaftProofs.ClusterRead2B
import RaftProofs.ClusterRead2G
import RaftProofs.ClusterFlow2A
import RaftProofs.ClusterFlow2X
import RaftProofs.ClusterCommit6A
import RaftProofs.ClusterCommitBatchBundles
import RaftProofs.ClusterCommit6C
import RaftProofs.ClusterReadFacts
import RaftProofs.ClusterRead3B
import RaftProofs.ClusterCommit7B
import RaftProofs.ClusterReadOps
import RaftProofs.ClusterRead4A
import RaftProofs.ClusterRead4C
import RaftProofs.ClusterRead4D
import RaftProofs.ClusterRead4E
import RaftProofs.ClusterRead4F
import RaftProofs.ClusterRead4G
import RaftProofs.ClusterRead4H
import RaftProofs.ClusterRead4I
import RaftProofs.ClusterRead4J
import RaftProofs.ClusterRead4L
import RaftProofs.ClusterRead4M
import RaftProofs.ClusterRead4N
import RaftProofs.ClusterReadLocal
import RaftProofs.ClusterRead4O
import RaftProofs.ClusterRead4P
import RaftProofs.ClusterRead4Q
import RaftProofs.ClusterRead4R
import RaftProofs.ClusterConfA
import RaftProofs.ClusterConfB
import RaftProofs.ClusterConfD
import RaftProofs.ClusterConfE
import RaftProofs.ClusterConfF
import RaftProofs.ClusterConfG
import RaftProofs.ClusterConfH
import RaftProofs.ClusterConfI
import RaftProofs.ClusterConfJ
import RaftProofs.ClusterConf2A
import RaftProofs.ClusterConf2B
import RaftProofs.ClusterConf2C
import RaftProofs.ClusterConf2E
import RaftProofs.ClusterSnapBatchBundle
import RaftProofs.ClusterSnap7C
import RaftProofs.ClusterSnapBatchPerCall
import RaftProofs.ClusterSnapBatchGateways
import RaftProofs.ClusterSnapBatchSane
import RaftProofs.ClusterSnap7J
import RaftProofs.ClusterFlow3A
import RaftProofs.ClusterFlow3B
