import RaftProps.C14b
import RaftProofs.LLog
import RaftProps.C13b
import RaftProofs.RaftNode
import RaftProofs.ClusterBatchC
import RaftProofs.RaftNodeC10

/-!
# C05, node level — the log obligations of the cluster proof, on the model of `src/raft.rs`

C05: "If two logs hold an entry with the same index and term they are identical up to that index;
a leader never deletes or overwrites entries of its own log, only appends; a follower truncates only
from the first conflicting entry on; no entry at or below a node's commit index is ever changed."

`RaftProps/C05.lean` proves this for the abstract protocol P, whose events `leaderAppend`,
`recvApp`, `sendApp`, `installSnap` *assume* that a node's log changes only in certain ways.  This
file proves those assumptions for the executable node model (`RaftModel/Raft*.lean`, tied to the
Rust code by differential testing), through the abstraction `RaftLog.abs` (`RaftProps/C14*.lean`),
for ALL states and messages under the named hypotheses (`RaftLogInv r.raftLog`, and `AppendWF m`
for a `MsgAppend`).  Helper lemmas: `RaftProofs/RaftNodeC05.lean` (`LS` = "same logical log",
`Appended`, `Won`, `Restored`), `RaftProofs/ClusterBatchC.lean` (`step_log`: what the case analysis `step_x` of
`Raft::step` says about the logical log).

| # | theorem | content |
|---|---|---|
| 1 | `C05_log_changes_only_by`, `C05_other_messages_keep_log`, `C05_leader_log_changes_only_by_propose`, `C05_nonleader_log_changes_only_by` | the five ways `step` changes `raftLog.abs`; every other message type keeps it |
| 2 | `C05_leader_append_only_node` | a leader that keeps its term only appends, entries of its own term |
| 3 | `C05_follower_append_rule` (+ `FollowerAppend`, `C05_wellformed_append_conflicts_above_commit`) | `handle_append_entries`: stale / reject with hint / accept = truncate from the first conflict |
| 4 | `C05_append_message_is_log_slice` | the `MsgAppend` of `maybe_send_append` is a slice of the leader's log |
| 5 | `C05_commit_prefix_kept_node` | entries at or below `committed` survive every `step` (or a snapshot covers them) |
| 6 | `example`s | concrete states and messages, by `decide` |

Deviations from the informal statements, all explained at the theorems: (1) besides `MsgPropose`
and the vote response, a *non-leader*'s `MsgHup` / `MsgTimeoutNow` can append `become_leader`'s
empty entry (single-voter configuration wins on the spot), and a leader that receives a
higher-term `MsgAppend` / `MsgSnapshot` / `MsgHup` … is first made a follower by the term preamble
and then behaves as one; (2) needs only `r'.term = r.term`, not `r'.state = leader`;
(3) "matches the message's entries" is by *term* below the first conflict (identity there is Log
Matching, a cluster-level fact) and by identity from the conflict on; a fourth outcome exists
(pending snapshot request: always a rejection); (4) is stated for `batch_append = false` and an
available storage (with batching the entries are merged into an earlier queued `MsgAppend`);
(5) the panic `conflict_committed` turns out to be unreachable for well-formed appends.
-/
namespace RaftProps.C05
open RaftModel RaftModel.Raft
open RaftProps.C14 RaftProps.C20

/-! ## helpers on the sequence model -/

theorem c05_sendFill_resp (r : Raft) (m : Message) (h : m.msgType = .msgAppendResponse) :
    r.sendFill m = { m with frm := if m.frm = 0 then r.id else m.frm, term := r.term } := by
  unfold Raft.sendFill
  by_cases hf : m.frm = 0 <;> simp [hf, h, isVoteMsg]

/-- the loop of `find_conflict_by_term` answers an index at or below where it starts, with the
term stored there, which is at most the probe term -/
theorem c05_fcbtLoop_le (l : RaftLog) (term : Nat) : ∀ (j i : Nat) (ot : Option Nat),
    l.findConflictByTermLoop term j = .ok (i, ot) →
    i ≤ j ∧ ∀ t, ot = some t → l.term i = .ok t ∧ t ≤ term := by
  intro j
  induction j with
  | zero =>
    intro i ot h
    unfold RaftLog.findConflictByTermLoop at h
    split at h
    · rename_i t ht
      split at h
      · cases h
      · cases h
        exact ⟨Nat.le_refl _, fun t' e => by cases e; exact ⟨ht, by omega⟩⟩
    · cases h; exact ⟨Nat.le_refl _, fun t' e => by cases e⟩
    · cases h
  | succ n ih =>
    intro i ot h
    unfold RaftLog.findConflictByTermLoop at h
    split at h
    · rename_i t ht
      split at h
      · obtain ⟨h1, h2⟩ := ih i ot h
        exact ⟨by omega, h2⟩
      · cases h
        exact ⟨Nat.le_refl _, fun t' e => by cases e; exact ⟨ht, by omega⟩⟩
    · cases h; exact ⟨Nat.le_refl _, fun t' e => by cases e⟩
    · cases h

/-- **the follower rule on the sequence model**: what an accepted `maybe_append` of the batch of
`m` (entries numbered from `m.index + 1`) does to the logical log `g` of a node whose commit index
is `c`, giving `g'`.  `conflict := g.findConflict m.entries` is the index of the first entry of the
batch whose (index, term) is not in `g` (0: none). -/
structure FollowerAppend (g g' : LLog) (c : Nat) (m : Message) : Prop where
  /-- no conflict: the log is unchanged (even if the batch is shorter than the log) -/
  noConflict : g.findConflict m.entries = 0 → g' = g
  /-- a conflict lies above the commit index and inside the batch, and the log is truncated exactly
  there and continued with the rest of the batch -/
  conflict : g.findConflict m.entries ≠ 0 →
    c < g.findConflict m.entries ∧ m.index < g.findConflict m.entries ∧
    g.findConflict m.entries ≤ g.lastIndex + 1 ∧
    g' = g.truncateAppend (g.findConflict m.entries - 1)
      (m.entries.drop (g.findConflict m.entries - (m.index + 1)))
  /-- the new log equals the old one up to the first conflicting index -/
  upToConflict : ∀ i, (g.findConflict m.entries = 0 ∨ i < g.findConflict m.entries) →
    g'.entryAt i = g.entryAt i
  /-- nothing at or below the commit index changed -/
  committed : ∀ i, i ≤ c → g'.entryAt i = g.entryAt i
  /-- afterwards the log holds, at the index of every entry of the batch, an entry of that term -/
  holds : ∀ e ∈ m.entries, ∃ e', g'.entryAt e.index = some e' ∧ e'.term = e.term
  /-- … and from the conflict on, the entries of the batch themselves -/
  fromConflict : ∀ e ∈ m.entries, g.findConflict m.entries ≠ 0 →
    g.findConflict m.entries ≤ e.index → g'.entryAt e.index = some e

theorem c05_followerAppend_same (g : LLog) (c : Nat) (m : Message) (hw : AppendWF m)
    (hsnap : g.snapIdx ≤ m.index) (h0 : g.findConflict m.entries = 0) :
    FollowerAppend g g c m := by
  refine ⟨fun _ => rfl, fun h => absurd h0 h, fun _ _ => rfl, fun _ _ => rfl, ?_,
    fun _ _ h => absurd h0 h⟩
  intro e he
  rcases g.findConflict_char m.entries (m.index + 1) hw.contig with ⟨_, hall⟩ | ⟨k, hk, hf, _⟩
  · have := (hw.contig.mem he).1
    exact c05_matchTerm_entryAt g _ _ (hall _ he) (hw.terms _ he) (by omega)
  · omega

theorem c05_followerAppend_conflict (g : LLog) (c : Nat) (m : Message) (hw : AppendWF m)
    (hsnap : g.snapIdx ≤ m.index) (hidx : m.index ≤ g.lastIndex)
    (hc : c < g.findConflict m.entries) :
    FollowerAppend g (g.truncateAppend (g.findConflict m.entries - 1)
      (m.entries.drop (g.findConflict m.entries - (m.index + 1)))) c m := by
  rcases g.findConflict_char m.entries (m.index + 1) hw.contig with ⟨h0, _⟩ | ⟨k, hk, hf, hall⟩
  · omega
  · have hle : m.index + k ≤ g.lastIndex :=
      g.matched_prefix_le_last hw.contig hw.terms hidx (by omega) hall
    have hup : ∀ i, i < g.findConflict m.entries →
        (g.truncateAppend (g.findConflict m.entries - 1)
          (m.entries.drop (g.findConflict m.entries - (m.index + 1)))).entryAt i = g.entryAt i :=
      fun i hi => g.truncateAppend_entryAt _ _ i (by omega) (by omega)
    have hmc : (msgLog m).Contig := hw.contig
    have hfrom : ∀ e ∈ m.entries, g.findConflict m.entries ≤ e.index →
        (g.truncateAppend (g.findConflict m.entries - 1)
          (m.entries.drop (g.findConflict m.entries - (m.index + 1)))).entryAt e.index = some e :=
      fun e he hge => (g.truncateAppend_msgLog m hsnap (by omega) (by omega) hge).trans
        (hmc.entryAt_of_mem he)
    refine ⟨fun h => by omega, fun _ => ⟨hc, by omega, by omega, rfl⟩, ?_, ?_, ?_, ?_⟩
    · intro i hi
      rcases hi with hi | hi
      · omega
      · exact hup i hi
    · intro i hi
      exact hup i (by omega)
    · intro e he
      have hlo := (hw.contig.mem he).1
      by_cases hge : g.findConflict m.entries ≤ e.index
      · exact ⟨e, hfrom e he hge, rfl⟩
      · rw [hup _ (by omega)]
        exact c05_matchTerm_entryAt g _ _ (hall _ (hw.contig.mem_take he (by omega))) (hw.terms _ he)
          (by omega)
    · intro e he _ hge
      exact hfrom e he hge

/-! ## 3. the follower's append rule -/

/-- **C05 (3) `follower_append_rule`** — `handle_append_entries` (raft.rs:2528) on a node whose log
satisfies `RaftLogInv`, for a well-formed `MsgAppend` (`AppendWF`: entries numbered from
`m.index + 1`, non-zero terms, `log_term = 0` only with `index = 0`).  Whenever it returns, exactly
one `MsgAppendResponse` to the sender is queued, the invariant is kept, the commit index does not
decrease, and one of four things happened:

* **snapshot request pending**: a rejection carrying the request; the log is untouched;
* **stale** (`m.index < committed`): the answer is "index = committed", not a rejection; the log is
  untouched;
* **rejection** (`(m.index, m.log_term)` is not in the log): the log is untouched and the answer
  carries the hint `(reject_hint, log_term)` of `find_conflict_by_term`:
  `reject_hint ≤ min(m.index, last_index)`, the term stored at `reject_hint` is `log_term`, and
  `log_term ≤ m.log_term`;
* **accepted**: the answer acknowledges `m.index + m.entries.length`; the log follows
  `FollowerAppend` (`maybe_append`'s characterisation `C14_maybeAppend_spec`): unchanged when no
  entry conflicts; otherwise truncated from the first conflicting index on, which lies above the
  commit index, and continued with the rest of the batch; equal to the old log below the conflict;
  entries at or below `committed` unchanged; afterwards every entry of the batch is matched (by
  term, and from the conflict on by identity) at its index; the new commit index is
  `max(committed, min(m.commit, m.index + m.entries.length))`.

(`maybe_append` itself turns a conflict at or below `committed` into the panic
`raft_log.maybe_append.conflict_committed`; from `handle_append_entries` with a well-formed batch
that site is unreachable — the first conflict lies above `m.index ≥ committed`,
`C05_wellformed_append_conflicts_above_commit` — so what protects the committed prefix here is the
`m.index < committed` guard together with Log Matching below `m.index`.) -/
theorem C05_follower_append_rule (r r' : Raft) (m : Message) (hinv : RaftLogInv r.raftLog)
    (hw : AppendWF m) (h : r.handleAppendEntries m = .ok r') :
    ∃ resp, r'.msgs = r.msgs ++ [resp] ∧ resp.msgType = .msgAppendResponse ∧
      RaftLogInv r'.raftLog ∧ r.raftLog.committed ≤ r'.raftLog.committed ∧
      ((r.pendingRequestSnapshot ≠ 0 ∧ r'.raftLog = r.raftLog ∧ resp.reject = true ∧
          resp.requestSnapshot = r.pendingRequestSnapshot ∧ resp.to = r.leaderId) ∨
       (r.pendingRequestSnapshot = 0 ∧ m.index < r.raftLog.committed ∧ r'.raftLog = r.raftLog ∧
          resp.to = m.frm ∧ resp.reject = false ∧ resp.index = r.raftLog.committed) ∨
       (r.pendingRequestSnapshot = 0 ∧ r.raftLog.committed ≤ m.index ∧
          r.raftLog.abs.matchTerm m.index m.logTerm = false ∧ r'.raftLog = r.raftLog ∧
          resp.to = m.frm ∧ resp.reject = true ∧ resp.index = m.index ∧
          resp.rejectHint ≤ min m.index r.raftLog.lastIndex ∧
          r.raftLog.abs.term resp.rejectHint = .ok resp.logTerm ∧ resp.logTerm ≤ m.logTerm) ∨
       (r.pendingRequestSnapshot = 0 ∧ r.raftLog.committed ≤ m.index ∧
          r.raftLog.abs.matchTerm m.index m.logTerm = true ∧
          resp.to = m.frm ∧ resp.reject = false ∧ resp.index = m.index + m.entries.length ∧
          FollowerAppend r.raftLog.abs r'.raftLog.abs r.raftLog.committed m ∧
          r'.raftLog.committed =
            max r.raftLog.committed (min m.commit (m.index + m.entries.length)))) := by
  unfold Raft.handleAppendEntries at h
  split at h
  · rename_i hpend
    obtain ⟨_, _, h⟩ := sendRequestSnapshot_inv h
    rw [send_eq _ _ _ h, c05_sendFill_resp _ _ rfl]
    exact ⟨_, rfl, rfl, hinv, Nat.le_refl _, .inl ⟨hpend, rfl, rfl, rfl, rfl⟩⟩
  · rename_i hpend
    have hp0 : r.pendingRequestSnapshot = 0 := Classical.byContradiction (fun hc => hpend hc)
    split at h
    · rename_i hlt
      have he := send_eq _ _ _ h
      rw [he, c05_sendFill_resp _ _ rfl]
      exact ⟨_, rfl, rfl, hinv, Nat.le_refl _, .inr (.inl ⟨hp0, hlt, rfl, rfl, rfl, rfl⟩)⟩
    · rename_i hge
      have hci : r.raftLog.committed ≤ m.index := by omega
      have hsnap : r.raftLog.abs.snapIdx ≤ m.index := by
        have h1 := hinv.dummy_le_committed
        rw [hinv.firstIndex_abs] at h1
        simp only [LLog.firstIndex] at h1
        omega
      cases hm : r.raftLog.abs.matchTerm m.index m.logTerm with
      | false =>
        rw [hinv.maybeAppend_nomatch m.index m.logTerm m.commit m.entries hm] at h
        simp only [] at h
        split at h
        · cases h
        · cases h
        · cases h
        · rename_i hi ht hf
          have he := send_eq _ _ _ h
          unfold RaftLog.findConflictByTerm at hf
          rw [if_neg (by omega)] at hf
          obtain ⟨hle, hterm⟩ := c05_fcbtLoop_le _ _ _ _ _ hf
          obtain ⟨ht1, ht2⟩ := hterm ht rfl
          rw [hinv.term_abs] at ht1
          rw [he, c05_sendFill_resp _ _ rfl]
          exact ⟨_, rfl, rfl, hinv, Nat.le_refl _,
            .inr (.inr (.inl ⟨hp0, hci, rfl, rfl, rfl, rfl, rfl, hle, ht1, ht2⟩))⟩
      | true =>
        have hidx : m.index ≤ r.raftLog.lastIndex := by
          by_cases ht : m.logTerm = 0
          · rw [hw.anchor ht]; exact Nat.zero_le _
          · rw [hinv.lastIndex_abs]; exact r.raftLog.abs.matchTerm_le_last _ _ hm ht
        obtain ⟨_, hspec⟩ := C14_maybeAppend_spec r.raftLog hinv m.index m.logTerm m.commit
          m.entries hw.contig hidx hw.terms
        obtain ⟨hnc, hpan, hcf⟩ := hspec hm
        rcases Nat.eq_zero_or_pos (r.raftLog.abs.findConflict m.entries) with hz | hpos
        · obtain ⟨hres, hinv'⟩ := hnc hz
          rw [hres] at h
          simp only [] at h
          have he := send_eq _ _ _ h
          rw [he, c05_sendFill_resp _ _ rfl]
          refine ⟨_, rfl, rfl, hinv', Nat.le_max_left _ _,
            .inr (.inr (.inr ⟨hp0, hci, rfl, rfl, rfl, rfl, ?_, rfl⟩))⟩
          exact c05_followerAppend_same _ _ _ hw hsnap hz
        · rcases Nat.lt_or_ge r.raftLog.committed (r.raftLog.abs.findConflict m.entries) with hgt | hle
          · obtain ⟨l', hres, habs, _, hcm, _, _, hinv'⟩ := hcf hgt
            rw [hres] at h
            simp only [] at h
            have he := send_eq _ _ _ h
            rw [he, c05_sendFill_resp _ _ rfl]
            refine ⟨_, rfl, rfl, hinv', by show _ ≤ l'.committed; omega,
              .inr (.inr (.inr ⟨hp0, hci, rfl, rfl, rfl, rfl, ?_, hcm⟩))⟩
            show FollowerAppend _ l'.abs _ _
            rw [habs]
            exact c05_followerAppend_conflict _ _ _ hw hsnap
              (by rw [← hinv.lastIndex_abs]; exact hidx) hgt
          · obtain ⟨s, hp⟩ := hpan hpos hle
            rw [hp] at h
            cases h

/-! ## 1. which messages can change the logical log -/

/-- the message types through which `step` can change the logical log -/
def logChanging (t : MsgType) : Bool :=
  match t with
  | .msgPropose | .msgAppend | .msgSnapshot | .msgHup | .msgTimeoutNow
  | .msgRequestVoteResponse | .msgRequestPreVoteResponse => true
  | _ => false

/-- **C05 (1) `log_changes_only_by`** — every way `Raft::step` can change the logical log
`raftLog.abs` (entries + snapshot point), for every state whose log satisfies `RaftLogInv` and
every message.  When `step` returns, one of:

* (a) **unchanged**: same entries, same snapshot point (the commit index may have advanced, the
  invariant is kept);
* (b) **a leader appended a proposal**: `MsgPropose` at a leader that stays leader of the same
  term; the log grew at its end by as many entries as proposed, with `term = r.term` and
  consecutive indexes after `last_index` (`append_entry`);
* (c) **a campaign was won on the spot**: `MsgHup`, `MsgTimeoutNow` or a (pre-)vote response, at a
  non-leader (or at a leader first deposed by the higher term of the message); the node is leader
  afterwards and the log grew by exactly the empty entry of its new term (`become_leader`);
* (d) **`MsgAppend`** at a non-leader (or a leader deposed by the message's higher term): the
  effect of `handle_append_entries` on a follower state with the same logical log
  (`C05_follower_append_rule` describes it);
* (e) **`MsgSnapshot`**, likewise: the log is replaced by the snapshot, whose index is at or above
  the old commit index (`restore`).

Every other message type — `MsgBeat`, `MsgCheckQuorum`, `MsgHeartbeat`, all responses but the
vote responses, `MsgUnreachable`, `MsgSnapStatus`, `MsgTransferLeader`, `MsgReadIndex(Resp)`, the
vote requests — leaves the logical log unchanged in every role (`C05_other_messages_keep_log`). -/
theorem C05_log_changes_only_by (r r' : Raft) (m : Message) (res : Option RaftError)
    (hinv : RaftLogInv r.raftLog) (h : r.step m = .ok (r', res)) :
    (r'.raftLog.abs = r.raftLog.abs ∧ RaftLogInv r'.raftLog ∧
      r.raftLog.committed ≤ r'.raftLog.committed) ∨
    (m.msgType = .msgPropose ∧ r.state = .leader ∧ r'.state = .leader ∧ r'.term = r.term ∧
      ∃ es, es ≠ [] ∧ es.length = m.entries.length ∧
        r'.raftLog.abs = { r.raftLog.abs with ents := r.raftLog.abs.ents ++ es } ∧
        ContigFrom (r.raftLog.lastIndex + 1) es ∧ (∀ e ∈ es, e.term = r.term) ∧
        RaftLogInv r'.raftLog) ∨
    ((m.msgType = .msgHup ∨ m.msgType = .msgTimeoutNow ∨ m.msgType = .msgRequestVoteResponse ∨
        m.msgType = .msgRequestPreVoteResponse) ∧
      (r.state ≠ .leader ∨ (r.term < m.term ∧ m.term ≤ r'.term)) ∧ r'.state = .leader ∧
      r'.raftLog.abs = { r.raftLog.abs with ents := r.raftLog.abs.ents ++
        [leaderNoop r'.term (r.raftLog.lastIndex + 1)] } ∧ RaftLogInv r'.raftLog) ∨
    (m.msgType = .msgAppend ∧ (r.state ≠ .leader ∨ (r.term < m.term ∧ m.term ≤ r'.term)) ∧
      ∃ r0 : Raft, r0.raftLog.abs = r.raftLog.abs ∧ RaftLogInv r0.raftLog ∧
        r.raftLog.committed ≤ r0.raftLog.committed ∧ r0.state = .follower ∧
        r0.handleAppendEntries m = .ok r') ∨
    (m.msgType = .msgSnapshot ∧ (r.state ≠ .leader ∨ (r.term < m.term ∧ m.term ≤ r'.term)) ∧
      r'.raftLog.abs = LLog.ofSnapshot m.snapshot ∧
      r.raftLog.committed ≤ m.snapshot.metadata.index ∧ RaftLogInv r'.raftLog) := by
  rcases step_log hinv h with c | ⟨hm, hs, ht, _, es, hlen, c⟩ | ⟨hm, hr, c⟩ | ⟨hm, hr, r0, c1, c2, c3⟩ |
    ⟨hm, hr, c⟩
  · exact .inl ⟨c.abs, c.inv hinv, c.commit⟩
  · refine .inr (.inl ⟨hm, hs, c.leader, ht, _, c.ne, ?_, c.abs, c.contig, ?_, c.inv⟩)
    · rw [stampFrom_length]; exact hlen
    · intro e he; rw [← ht]; exact c.terms e he
  · exact .inr (.inr (.inl ⟨hm, hr, c.leader, c.abs, c.inv⟩))
  · exact .inr (.inr (.inr (.inl ⟨hm, hr, r0, c1.abs, c1.inv hinv, c1.commit, c2, c3⟩)))
  · exact .inr (.inr (.inr (.inr ⟨hm, hr, c.abs, c.ge, c.inv⟩)))

/-- **C05 (1), the negative half**: a message of any type other than `MsgPropose`, `MsgAppend`,
`MsgSnapshot`, `MsgHup`, `MsgTimeoutNow`, `MsgRequestVoteResponse`, `MsgRequestPreVoteResponse`
leaves the logical log unchanged, whatever the role -/
theorem C05_other_messages_keep_log (r r' : Raft) (m : Message) (res : Option RaftError)
    (hinv : RaftLogInv r.raftLog) (hm : logChanging m.msgType = false)
    (h : r.step m = .ok (r', res)) : r'.raftLog.abs = r.raftLog.abs := by
  rcases C05_log_changes_only_by r r' m res hinv h with c | ⟨c, _⟩ | ⟨c, _⟩ | ⟨c, _⟩ | ⟨c, _⟩
  · exact c.1
  · rw [c] at hm; cases hm
  · rcases c with c | c | c | c <;> rw [c] at hm <;> cases hm
  · rw [c] at hm; cases hm
  · rw [c] at hm; cases hm

/-- **C05 (1), leader**: at a leader, a message whose term is not above the leader's changes the
logical log only if it is a `MsgPropose` -/
theorem C05_leader_log_changes_only_by_propose (r r' : Raft) (m : Message) (res : Option RaftError)
    (hinv : RaftLogInv r.raftLog) (hs : r.state = .leader) (ht : m.term ≤ r.term)
    (hm : m.msgType ≠ .msgPropose) (h : r.step m = .ok (r', res)) :
    r'.raftLog.abs = r.raftLog.abs := by
  rcases C05_log_changes_only_by r r' m res hinv h with c | ⟨c, _⟩ | ⟨_, c, _⟩ | ⟨_, c, _⟩ | ⟨_, c, _⟩
  · exact c.1
  · exact absurd c hm
  all_goals
    rcases c with c | ⟨c, _⟩
    · exact absurd hs c
    · omega

/-- **C05 (1), follower / candidate**: at a non-leader, only `MsgAppend`, `MsgSnapshot` and a won
campaign (`MsgHup`, `MsgTimeoutNow`, a vote response — the node is leader afterwards) change the
logical log; in particular a `MsgPropose` never does -/
theorem C05_nonleader_log_changes_only_by (r r' : Raft) (m : Message) (res : Option RaftError)
    (hinv : RaftLogInv r.raftLog) (hs : r.state ≠ .leader) (h : r.step m = .ok (r', res))
    (hch : r'.raftLog.abs ≠ r.raftLog.abs) :
    m.msgType = .msgAppend ∨ m.msgType = .msgSnapshot ∨
    ((m.msgType = .msgHup ∨ m.msgType = .msgTimeoutNow ∨ m.msgType = .msgRequestVoteResponse ∨
        m.msgType = .msgRequestPreVoteResponse) ∧ r'.state = .leader) := by
  rcases C05_log_changes_only_by r r' m res hinv h with c | ⟨_, c, _⟩ | ⟨c1, _, c2, _⟩ | ⟨c, _⟩ | ⟨c, _⟩
  · exact absurd c.1 hch
  · exact absurd c hs
  · exact .inr (.inr ⟨c1, c2⟩)
  · exact .inl c
  · exact .inr (.inl c)

/-! ## 2. a leader only appends -/

/-- **C05 (2) `leader_append_only_node`** — a leader never deletes or overwrites entries of its own
log.  If `r` is leader, `step` returns and the term is unchanged (the hypothesis `r'.state = leader`
of the informal statement is not needed: a leader stepping down at its own term — check-quorum —
does not touch the log either), then the new logical log is the old one followed by new entries
`es`: same snapshot point, `entryAt` unchanged at every index up to the old `last_index`, and every
new entry carries the leader's term and the consecutive indexes after the old `last_index`. -/
theorem C05_leader_append_only_node (r r' : Raft) (m : Message) (res : Option RaftError)
    (hinv : RaftLogInv r.raftLog) (hs : r.state = .leader) (h : r.step m = .ok (r', res))
    (hterm : r'.term = r.term) :
    ∃ es, r'.raftLog.abs = { r.raftLog.abs with ents := r.raftLog.abs.ents ++ es } ∧
      (∀ i, i ≤ r.raftLog.lastIndex → r'.raftLog.abs.entryAt i = r.raftLog.abs.entryAt i) ∧
      (∀ e ∈ es, e.term = r.term) ∧ ContigFrom (r.raftLog.lastIndex + 1) es ∧
      r'.raftLog.abs.lastIndex = r.raftLog.lastIndex + es.length ∧
      (es ≠ [] → m.msgType = .msgPropose) := by
  have hla := hinv.lastIndex_abs
  have key : ∀ es, r'.raftLog.abs = { r.raftLog.abs with ents := r.raftLog.abs.ents ++ es } →
      (∀ i, i ≤ r.raftLog.lastIndex → r'.raftLog.abs.entryAt i = r.raftLog.abs.entryAt i) ∧
      r'.raftLog.abs.lastIndex = r.raftLog.lastIndex + es.length := by
    intro es he
    rw [he]
    refine ⟨fun i hi => c05_append_entryAt _ _ _ (by omega), ?_⟩
    simp only [LLog.lastIndex, List.length_append] at hla ⊢
    omega
  rcases C05_log_changes_only_by r r' m res hinv h with c | ⟨hm, _, _, _, es, _, _, c1, c2, c3, _⟩ |
    ⟨_, c, _⟩ | ⟨_, c, _⟩ | ⟨_, c, _⟩
  · have he : r'.raftLog.abs = { r.raftLog.abs with ents := r.raftLog.abs.ents ++ [] } := by
      rw [c.1]; simp
    obtain ⟨k1, k2⟩ := key [] he
    exact ⟨[], he, k1, (fun _ hx => by cases hx), (fun k e hk => by rw [List.getElem?_nil] at hk; cases hk), k2,
      (fun hne => absurd rfl hne)⟩
  · obtain ⟨k1, k2⟩ := key es c1
    exact ⟨es, c1, k1, c3, c2, k2, fun _ => hm⟩
  all_goals
    rcases c with c | ⟨c, c'⟩
    · exact absurd hs c
    · omega

/-! ## 5. the committed prefix through `step` -/

/-- **C05 (5) `commit_prefix_kept_node`** — no entry at or below a node's commit index is ever
changed by `Raft::step`.  For a log satisfying `RaftLogInv` and any message (a `MsgAppend`
well-formed, `AppendWF`): if `step` returns, then either every index `i ≤ committed` holds the same
entry as before and the commit index did not decrease, or the step restored a snapshot
(`MsgSnapshot`) whose index is at or above the old commit index — the committed prefix is then
covered by the snapshot point.  If `step` does not return normally it panicked at one of the sites
characterised in `C20_step_panics_only_if`; `raft_log.maybe_append.conflict_committed` ("a conflict
at or below the commit index is a panic, never a truncation") is among them only for malformed
batches (`C05_wellformed_append_conflicts_above_commit`, and the last-but-two example below). -/
theorem C05_commit_prefix_kept_node (r r' : Raft) (m : Message) (res : Option RaftError)
    (hinv : RaftLogInv r.raftLog) (hw : m.msgType = .msgAppend → AppendWF m)
    (h : r.step m = .ok (r', res)) :
    ((∀ i, i ≤ r.raftLog.committed → r'.raftLog.abs.entryAt i = r.raftLog.abs.entryAt i) ∧
      r.raftLog.committed ≤ r'.raftLog.committed ∧ RaftLogInv r'.raftLog) ∨
    (m.msgType = .msgSnapshot ∧ r'.raftLog.abs = LLog.ofSnapshot m.snapshot ∧
      r.raftLog.committed ≤ r'.raftLog.abs.snapIdx ∧ RaftLogInv r'.raftLog) := by
  have hcl := hinv.committed_le_last
  have hla := hinv.lastIndex_abs
  rcases step_log hinv h with c | ⟨_, _, _, _, es, _, c⟩ | ⟨_, _, c⟩ | ⟨hm, _, r0, c1, _, c3⟩ | ⟨hm, _, c⟩
  · exact .inl ⟨fun i _ => by rw [c.abs], c.commit, c.inv hinv⟩
  · refine .inl ⟨fun i hi => ?_, c.commit, c.inv⟩
    rw [c.abs]; exact c05_append_entryAt _ _ _ (by omega)
  · refine .inl ⟨fun i hi => ?_, c.commit, c.inv⟩
    rw [c.abs]; exact c05_append_entryAt _ _ _ (by omega)
  · have hinv0 := c1.inv hinv
    obtain ⟨resp, _, _, hinv', hcm, hcase⟩ := C05_follower_append_rule r0 r' m hinv0 (hw hm) c3
    have hc0 := c1.commit
    refine .inl ⟨fun i hi => ?_, by omega, hinv'⟩
    rcases hcase with ⟨_, c, _⟩ | ⟨_, _, c, _⟩ | ⟨_, _, _, c, _⟩ | ⟨_, _, _, _, _, _, c, _⟩
    · rw [c, c1.abs]
    · rw [c, c1.abs]
    · rw [c, c1.abs]
    · rw [c.committed i (by omega), c1.abs]
  · refine .inr ⟨hm, c.abs, ?_, c.inv⟩
    rw [c.abs]; exact c.ge

/-! ## 4. the `MsgAppend` a leader builds is a slice of its own log -/

theorem c05_prepareSendSnapshot_msg {r r1 : Raft} {m m1 : Message} {pr pr1 : Progress} {to : Nat}
    (h : r.prepareSendSnapshot m pr to = .ok (r1, m1, pr1, true)) :
    r1.msgs = r.msgs ∧ m1.to = m.to ∧ m1.msgType = .msgSnapshot := by
  unfold Raft.prepareSendSnapshot at h
  split at h
  · cases h
  · simp only [] at h
    split at h
    · cases h
    · cases h
    · cases h
    · split at h
      · cases h
      · cases h; exact ⟨rfl, rfl, rfl⟩

/-- the snapshot fallback of `maybe_send_append`: what is queued is a `MsgSnapshot` -/
theorem c05_snapSend (r : Raft) (m : Message) (pr : Progress) (to : Nat) (r' : Raft)
    (pr' : Progress)
    (h : (match r.prepareSendSnapshot m pr to with
        | .ok (r, m, pr, true) => (r.send m).bind (fun r => .ok (r, pr, true))
        | .ok (r, _, pr, false) => .ok (r, pr, false)
        | .err e => .err e
        | .panic s => .panic s : Res (Raft × Progress × Bool)) = .ok (r', pr', true)) :
    ∃ msg, r'.msgs = r.msgs ++ [msg] ∧ msg.to = m.to ∧ msg.msgType = .msgSnapshot := by
  split at h
  · rename_i r1 m1 pr1 heq
    obtain ⟨h1, h2, h3⟩ := c05_prepareSendSnapshot_msg heq
    rw [Res.bind_eq_ok_iff] at h
    obtain ⟨r2, hs, h4⟩ := h
    cases h4
    rw [send_eq _ _ _ hs]
    obtain ⟨h5, h6⟩ := sendFill_to_type r1 m1
    exact ⟨_, by rw [← h1], h5.trans h2, h6.trans h3⟩
  · cases h
  · cases h
  · cases h

theorem c05_prepareSendEntries_msg {r : Raft} {m m' : Message} {pr pr' : Progress} {term : Nat}
    {ents : List Entry} (h : r.prepareSendEntries m pr term ents = .ok (m', pr')) :
    pr.nextIdx ≠ 0 ∧
    m' = { m with msgType := .msgAppend, index := pr.nextIdx - 1, logTerm := term,
                  entries := ents, commit := r.raftLog.committed } := by
  unfold Raft.prepareSendEntries at h
  split at h
  · cases h
  · rename_i hn
    simp only [] at h
    split at h
    · cases h; exact ⟨hn, rfl⟩
    · split at h
      · cases h; exact ⟨hn, rfl⟩
      · cases h
      · cases h

/-- **C05 (4) `append_message_is_log_slice`** — the node-level counterpart of the guard of P's
`sendApp`.  When `maybe_send_append(to, pr)` of a leader whose log satisfies `RaftLogInv` sends
something (result flag `true`; batching off so that the message is queued on its own rather than
merged into an earlier `MsgAppend` for the same peer, storage available), the queued message goes
to `to` and is either a `MsgSnapshot` (the entries or the term before `next_idx` are compacted
away, or a snapshot was requested) or a `MsgAppend` with
* `index = next_idx - 1` and `log_term = term(next_idx - 1)` in the leader's own logical log,
* `entries` = the size-limited slice of the leader's logical log from `next_idx` to `last_index`
  (`C14_entries_cases`): numbered consecutively from `next_idx`, and each one is the leader's own
  entry at its index,
* `commit` = the leader's commit index (`send` then stamps `term = r.term`). -/
theorem C05_append_message_is_log_slice (r r' : Raft) (to : Nat) (pr pr' : Progress) (ae : Bool)
    (hinv : RaftLogInv r.raftLog) (hav : r.raftLog.store.triggerLogUnavailable = false)
    (hb : r.batchAppend = false) (h : r.maybeSendAppend to pr ae = .ok (r', pr', true)) :
    ∃ msg, r'.msgs = r.msgs ++ [msg] ∧ msg.to = to ∧
      (msg.msgType = .msgSnapshot ∨
       (msg.msgType = .msgAppend ∧ msg.index + 1 = pr.nextIdx ∧
        r.raftLog.abs.term msg.index = .ok msg.logTerm ∧
        msg.entries = (if r.raftLog.lastIndex < pr.nextIdx then []
          else limitSize (r.raftLog.abs.range pr.nextIdx (r.raftLog.lastIndex + 1))
            (some r.maxMsgSize)) ∧
        ContigFrom pr.nextIdx msg.entries ∧
        (∀ e ∈ msg.entries, r.raftLog.abs.entryAt e.index = some e) ∧
        msg.commit = r.raftLog.committed)) := by
  -- of the four ways `maybe_send_append` ends, two send: the append on its own and the snapshot
  rcases RaftProps.C13.C13_send_classification r r' to pr pr' ae true h with
    ⟨_, _, _, hf⟩ | ⟨_, _, hn, term, ents, hT, hE, _, _, _, hq⟩ | ⟨_, _, _, _, hf, _⟩ | ⟨_, _, hv⟩
  · cases hf
  · rcases hq with ⟨hbt, _⟩ | ⟨_, hr'⟩
    · rw [hb] at hbt; cases hbt
    · have hents := C14_entries_cases r.raftLog hinv pr.nextIdx (some r.maxMsgSize) true
        (by rw [hav]; rfl)
      rw [hinv.term_abs] at hT
      have hfirst : r.raftLog.firstIndex ≤ pr.nextIdx := by
        rcases Nat.lt_or_ge pr.nextIdx r.raftLog.firstIndex with hlt | hge
        · rw [hents.2.1 hlt] at hE; cases hE
        · exact hge
      have hentsEq : ents = (if r.raftLog.lastIndex < pr.nextIdx then []
          else limitSize (r.raftLog.abs.range pr.nextIdx (r.raftLog.lastIndex + 1))
            (some r.maxMsgSize)) := by
        by_cases hlt : r.raftLog.lastIndex < pr.nextIdx
        · rw [if_pos hlt]
          rw [hents.1 hlt] at hE
          cases hE; rfl
        · rw [if_neg hlt]
          rw [hents.2.2 hfirst (by omega)] at hE
          cases hE; rfl
      have hsub : ∃ k, ents = (r.raftLog.abs.range pr.nextIdx (r.raftLog.lastIndex + 1)).take k := by
        rw [hentsEq]
        by_cases hlt : r.raftLog.lastIndex < pr.nextIdx
        · rw [if_pos hlt]; exact ⟨0, List.take_zero.symm⟩
        · rw [if_neg hlt]; exact (limitSize_spec _ _).1
      obtain ⟨k, hk⟩ := hsub
      have hfl := first_le_last_succ hinv
      refine ⟨RaftProps.C13.appendMsg r to pr term ents, by rw [hr'], rfl,
        .inr ⟨rfl, ?_, hT, hentsEq, ?_, ?_, rfl⟩⟩
      · show pr.nextIdx - 1 + 1 = pr.nextIdx
        omega
      · show ContigFrom pr.nextIdx ents
        rw [hk]
        by_cases hlt : r.raftLog.lastIndex < pr.nextIdx
        · have : r.raftLog.abs.range pr.nextIdx (r.raftLog.lastIndex + 1) = [] := by
            unfold LLog.range
            rw [show r.raftLog.lastIndex + 1 - pr.nextIdx = 0 by omega]; rfl
          rw [this]; intro j e hj; simp at hj
        · exact (range_contig hinv pr.nextIdx (r.raftLog.lastIndex + 1) hfirst (by omega)
            (Nat.le_refl _)).1.take k
      · show ∀ e ∈ ents, _
        intro e he
        rw [hk] at he
        have he2 : e ∈ r.raftLog.abs.ents := by
          unfold LLog.range at he
          exact List.mem_of_mem_drop (List.mem_of_mem_take (List.mem_of_mem_take he))
        exact c05_entryAt_of_mem _ (abs_contig hinv) e he2
  · cases hf
  · obtain ⟨msg, h1, h2, h3⟩ := c05_snapSend r { to := to } pr to r' pr' hv
    exact ⟨msg, h1, h2, .inl h3⟩

/-- for a well-formed append the first conflict lies above `m.index`, hence — past the guard
`m.index < committed` of `handle_append_entries` — above the commit index: the panic
`raft_log.maybe_append.conflict_committed` is unreachable from `handle_append_entries` with
well-formed input (it guards `maybe_append` against malformed batches only) -/
theorem C05_wellformed_append_conflicts_above_commit (r : Raft) (m : Message)
    (hinv : RaftLogInv r.raftLog) (hw : AppendWF m) :
    r.handleAppendEntries m ≠ .panic "raft_log.maybe_append.conflict_committed" := by
  intro hp
  rcases handleAppendEntries_panics_only_if r m hinv hw _ hp with ⟨c, _⟩ | ⟨_, c1, _, c2, c3⟩ |
    ⟨c, _⟩ | ⟨c, _⟩
  · exact absurd c (by decide)
  · rcases r.raftLog.abs.findConflict_char m.entries (m.index + 1) hw.contig with ⟨h0, _⟩ | ⟨k, _, hf, _⟩
    · omega
    · omega
  · exact absurd c (by decide)
  · exact absurd c (by decide)

/-! ## 6. non-vacuity: concrete states and messages (evaluated by `decide`)

The log `l0` (`RaftProps/C14b.lean`): snapshot point (2, term 1), entries 3 (term 1) and
4 (term 2), `committed = 2`, `persisted = 4`; it satisfies `RaftLogInv` (`l0_inv`). -/

/-- a single-voter configuration {1} -/
def prs1 : ProgressTracker := { conf := { incoming := [1] }, progress := [(1, Progress.new 5 8)] }

/-- leader of term 2 over `l0` -/
def leaderA : Raft :=
  { raftLog := l0, id := 1, term := 2, state := .leader, leaderId := 1, promotable := true,
    prs := prs1 }

/-- follower of node 2 in term 3 over `l0` -/
def followerA : Raft := { raftLog := l0, id := 1, term := 3, leaderId := 2, prs := prs1 }

def appendA : Message :=
  { msgType := .msgAppend, term := 3, frm := 2, index := 3, logTerm := 1, commit := 4,
    entries := [ent 4 3 1, ent 5 3 1] }

def csA : ConfState := { voters := [1, 2] }
def mdA : SnapshotMetadata := { index := 10, term := 3, confState := csA }
def snapA : Message := { msgType := .msgSnapshot, term := 3, frm := 2, snapshot := { metadata := mdA } }

/-- the hypotheses of the theorems hold of these -/
example : RaftLogInv leaderA.raftLog ∧ RaftLogInv followerA.raftLog ∧ AppendWF appendA :=
  ⟨l0_inv, l0_inv, ⟨contigFrom_getElem? (by decide +kernel), by decide +kernel, by decide +kernel⟩⟩

set_option maxRecDepth 100000 in
/-- (1b)/(2): a proposal at the leader appends one entry with the leader's term at
`last_index + 1`; the node stays leader of term 2 -/
example :
    (match leaderA.step { msgType := .msgPropose, frm := 1, entries := [{ data := [7] }] } with
     | .ok (r', res) => (r'.raftLog.abs.ents.map (fun e => (e.index, e.term, e.data)),
         r'.state, r'.term, res)
     | _ => default) = ([(3, 1, List.replicate 5 0), (4, 2, List.replicate 200 0), (5, 2, [7])],
       .leader, 2, none) := by decide +kernel

set_option maxRecDepth 100000 in
/-- (1a): a heartbeat response at the leader, or a heartbeat at the follower (which advances the
commit index to 4), leaves the entries alone -/
example :
    (match leaderA.step { msgType := .msgHeartbeatResponse, term := 2, frm := 1 } with
     | .ok (r', _) => decide (r'.raftLog.abs = leaderA.raftLog.abs)
     | _ => false) = true ∧
    (match followerA.step { msgType := .msgHeartbeat, term := 3, frm := 2, commit := 4 } with
     | .ok (r', _) => (decide (r'.raftLog.abs = followerA.raftLog.abs), r'.raftLog.committed)
     | _ => default) = (true, 4) := by decide +kernel

set_option maxRecDepth 100000 in
/-- (1c): `MsgHup` at a promotable single voter: it wins on the spot, is leader of term 4 and its
log grew by the empty entry (5, term 4) -/
example :
    (match ({ followerA with promotable := true } : Raft).step { msgType := .msgHup } with
     | .ok (r', _) => (r'.raftLog.abs.ents.map (fun e => (e.index, e.term, e.data)),
         r'.state, r'.term)
     | _ => default) = ([(3, 1, List.replicate 5 0), (4, 2, List.replicate 200 0), (5, 4, [])],
       .leader, 4) := by decide +kernel

set_option maxRecDepth 100000 in
/-- (3) accepted with a conflict: entry 4 (term 2) conflicts with (4, term 3); the log is truncated
from index 4 on and continued with the batch, entry 3 is kept, the answer acknowledges
`3 + 2 = 5`, the commit index becomes `min(4, 5) = 4` -/
example :
    (match followerA.step appendA with
     | .ok (r', _) => (r'.raftLog.abs.ents.map (fun e => (e.index, e.term)),
         r'.raftLog.committed, r'.msgs.map (fun x => (x.msgType, x.to, x.index, x.reject)))
     | _ => default) =
      ([(3, 1), (4, 3), (5, 3)], 4, [(.msgAppendResponse, 2, 5, false)]) := by decide +kernel

set_option maxRecDepth 100000 in
/-- (3) rejection: `(4, term 5)` is not in the log; nothing changes and the hint is
`(reject_hint, log_term) = (4, 2)` -/
example :
    (match followerA.step { appendA with index := 4, logTerm := 5, entries := [ent 5 5 1] } with
     | .ok (r', _) => (decide (r'.raftLog = followerA.raftLog),
         r'.msgs.map (fun x => (x.index, x.reject, x.rejectHint, x.logTerm)))
     | _ => default) = (true, [(4, true, 4, 2)]) := by decide +kernel

set_option maxRecDepth 100000 in
/-- (3) stale: `m.index = 1 < committed = 2`: the answer is "index = committed" -/
example :
    (match followerA.step { appendA with index := 1, logTerm := 1, entries := [] } with
     | .ok (r', _) => (decide (r'.raftLog = followerA.raftLog),
         r'.msgs.map (fun x => (x.index, x.reject)))
     | _ => default) = (true, [(2, false)]) := by decide +kernel

set_option maxRecDepth 100000 in
/-- (5) only a *malformed* append (entry 3 listed after `index = 4`) can conflict at or below the
commit index, and that is a panic, not a truncation; a well-formed one cannot
(`C05_wellformed_append_conflicts_above_commit`) -/
example :
    (match ({ followerA with raftLog := { l0 with committed := 4 } } : Raft).step
        { appendA with index := 4, logTerm := 2, entries := [ent 3 9 1] } with
     | .panic s => s
     | _ => "") = "raft_log.maybe_append.conflict_committed" := by decide +kernel

set_option maxRecDepth 100000 in
/-- (1e)/(5): a snapshot at (10, term 3) replaces the log -/
example :
    (match followerA.step snapA with
     | .ok (r', _) => (r'.raftLog.abs.snapIdx, r'.raftLog.abs.snapTerm, r'.raftLog.abs.ents.length,
         r'.raftLog.committed)
     | _ => default) = (10, some 3, 0, 10) := by decide +kernel

set_option maxRecDepth 100000 in
/-- (4) the `MsgAppend` for a peer with `next_idx = 4`: `index = 3`, `log_term = 1` (the term of
entry 3), the entries from 4 on, the leader's commit index -/
example :
    (match leaderA.maybeSendAppend 2 (Progress.new 4 8) true with
     | .ok (r', _, b) => (b, r'.msgs.map (fun x => (x.msgType, x.to, x.index, x.logTerm, x.commit)))
     | _ => default) = (true, [(.msgAppend, 2, 3, 1, 2)]) ∧
    (match leaderA.maybeSendAppend 2 (Progress.new 4 8) true with
     | .ok (r', _, _) => r'.msgs.flatMap (fun x => x.entries.map (fun e => (e.index, e.term)))
     | _ => []) = [(4, 2)] := by decide +kernel

end RaftProps.C05
