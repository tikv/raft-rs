import RaftProofs.Quorum

/-!
# C11 — quorum arithmetic: commit index and vote tallies are exact

Property theorems only (helper lemmas live in `RaftProofs/Quorum.lean`).  The model
`RaftModel.Majority / Joint / Tracker` mirrors `src/quorum/majority.rs`, `src/quorum/joint.rs`,
`src/util.rs:majority` and the quorum wrappers of `src/tracker.rs` function by function.

A voter set is a `List Nat` in ARBITRARY order (the Rust code iterates a `HashSet`); all theorems
hold for voter lists of any length, and the counting ones need no duplicate-freeness at all
(`ackCount`/`yesCount` count list positions; on a duplicate-free list — what a `HashSet` yields —
that is the number of voters, see `ackCount_eq_card`).  The acknowledgement map `ack` is any
function `id ↦ Option (index, group)`; a missing entry counts as index 0 / group 0, exactly like
`unwrap_or_default` in the code.

Specification vocabulary (`RaftProofs/Quorum.lean`): `ackIdx ack v`, `ackGrp ack v`,
`ackCount vs ack i = #{v ∈ vs | i ≤ ackIdx ack v}`, `QuorumAcked vs ack i ↔ majority |vs| ≤ ackCount vs ack i`,
`JointQuorumAcked` (each non-empty half), `TwoGroups vs ack i` (voters with `ackIdx ≥ i` span two
distinct non-zero groups), `yesCount`, `missingCount`, `IsQuorum vs A`, `IsJointQuorum c A`.
-/
namespace RaftProps.C11
open RaftModel List

/-! ### no panic: the index/unwrap sites of `committed_index` are unreachable, for every input -/

theorem committedIndex_never_panics (vs : List Nat) (ack : Nat → Option Index) (gc : Bool) :
    Majority.committedIndexR vs ack gc = .ok (Majority.committedIndex vs ack gc) :=
  Majority.committedIndexR_eq vs ack gc

theorem joint_committedIndex_never_panics (c : JointConfig) (ack : Nat → Option Index) (gc : Bool) :
    Joint.committedIndexR c ack gc = .ok (Joint.committedIndex c ack gc) := by
  simp only [Joint.committedIndexR, Joint.committedIndex, Majority.committedIndexR_eq]

/-- `majority n` is the least number of voters such that two such groups must overlap -/
theorem majority_exact (n : Nat) :
    n < majority n + majority n ∧ (majority n - 1) + (majority n - 1) ≤ n ∧
    (0 < n → majority n ≤ n) := by
  refine ⟨two_majorities n, ?_, majority_le n⟩
  simp only [majority]; omega

theorem ackCount_eq_card (vs : List Nat) (ack : Nat → Option Index) (i : Nat) :
    ackCount vs ack i = (vs.filter (fun v => decide (i ≤ ackIdx ack v))).length :=
  countP_eq_length_filter

/-! ### the commit index of a majority configuration -/

/-- an empty configuration reports "+∞, group-commit ok", so that a half-populated joint
configuration behaves like its other half -/
theorem committedIndex_empty (ack : Nat → Option Index) (gc : Bool) :
    Majority.committedIndex [] ack gc = (U64_MAX, true) := by
  simp [Majority.committedIndex]

/-- **The computed commit index is the largest index acknowledged by a majority**: a majority
acknowledged `r`, and no larger index is acknowledged by a majority.  (Also: `r` is the
acknowledged index of some voter, and the group-commit flag is `false`.) -/
theorem committedIndex_is_max_quorum_acked (vs : List Nat) (ack : Nat → Option Index)
    (hne : vs ≠ []) :
    let r := (Majority.committedIndex vs ack false).1
    majority vs.length ≤ ackCount vs ack r ∧
    (∀ i, r < i → ackCount vs ack i < majority vs.length) ∧
    (∃ v ∈ vs, ackIdx ack v = r) ∧
    (Majority.committedIndex vs ack false).2 = false := by
  intro r
  obtain ⟨h1, h2, h3, h4⟩ := Majority.quorumIndex_spec vs ack hne
  refine ⟨h1, ?_, h3, h4⟩
  intro i hi
  have := h2 i hi
  simp only [QuorumAcked] at this
  omega

/-- the characterisation determines the value: any `r` with these two properties is the result -/
theorem committedIndex_unique (vs : List Nat) (ack : Nat → Option Index) (hne : vs ≠ []) (r : Nat)
    (h1 : majority vs.length ≤ ackCount vs ack r)
    (h2 : ∀ i, r < i → ackCount vs ack i < majority vs.length) :
    (Majority.committedIndex vs ack false).1 = r := by
  obtain ⟨g1, g2, _, _⟩ := Majority.quorumIndex_spec vs ack hne
  apply Majority.quorumIndex_unique vs ack _ _ g1 g2 h1
  intro i hi hq
  have := h2 i hi
  simp only [QuorumAcked] at hq
  omega

/-- **What group commit computes**, in terms of the voter *set* only.  With `q` the plain quorum
index and `r` the group-commit result:
* if the voters span two distinct non-zero groups at all, `r` is the largest index `≤ q` such that
  the voters with acknowledged index `≥ r` span two groups, flag `true`;
* otherwise, if every voter has a (non-zero) group — i.e. all are in ONE group — `r = q`, flag `false`;
* otherwise (some voter has no group, the others at most one group) `r` is the smallest
  acknowledged index (what is replicated on every voter), flag `false`. -/
theorem groupCommit_spec (vs : List Nat) (ack : Nat → Option Index) (hne : vs ≠ []) :
    let q := (Majority.committedIndex vs ack false).1
    let r := Majority.committedIndex vs ack true
    (TwoGroups vs ack 0 → r.2 = true ∧ r.1 ≤ q ∧ TwoGroups vs ack r.1 ∧
      ∀ i, r.1 < i → i ≤ q → ¬ TwoGroups vs ack i) ∧
    (¬ TwoGroups vs ack 0 → (∀ v ∈ vs, ackGrp ack v ≠ 0) → r = (q, false)) ∧
    (¬ TwoGroups vs ack 0 → (∃ v ∈ vs, ackGrp ack v = 0) →
      r.2 = false ∧ (∃ v ∈ vs, ackIdx ack v = r.1) ∧ ∀ w ∈ vs, r.1 ≤ ackIdx ack w) :=
  Majority.groupCommit_spec vs ack hne

/-- with group commit the result never exceeds the plain quorum index (every configuration, every
group assignment, empty configuration included) -/
theorem groupCommit_le_quorum (vs : List Nat) (ack : Nat → Option Index) :
    (Majority.committedIndex vs ack true).1 ≤ (Majority.committedIndex vs ack false).1 := by
  by_cases hne : vs = []
  · subst hne; simp [Majority.committedIndex]
  obtain ⟨s1, s2, s3⟩ := Majority.groupCommit_spec vs ack hne
  obtain ⟨_, _, ⟨u, hu, hq⟩, _⟩ := Majority.quorumIndex_spec vs ack hne
  by_cases ht : TwoGroups vs ack 0
  · exact (s1 ht).2.1
  · by_cases hall : ∀ v ∈ vs, ackGrp ack v ≠ 0
    · rw [s2 ht hall]; exact Nat.le_refl _
    · have hex : ∃ v ∈ vs, ackGrp ack v = 0 := by
        apply Classical.byContradiction
        intro hno
        apply hall
        intro v hv hz
        exact hno ⟨v, hv, hz⟩
      have := (s3 ht hex).2.2 u hu
      omega

/-- **every voter has a group**: the result is the plain quorum index with flag `false` when all
voters are in one group; otherwise it is the largest index `≤` the quorum index such that the voters
that acknowledged at least it span two groups, with flag `true`. -/
theorem groupCommit_all_grouped (vs : List Nat) (ack : Nat → Option Index) (hne : vs ≠ [])
    (hall : ∀ v ∈ vs, ackGrp ack v ≠ 0) :
    let q := (Majority.committedIndex vs ack false).1
    let r := Majority.committedIndex vs ack true
    ((∀ v ∈ vs, ∀ w ∈ vs, ackGrp ack v = ackGrp ack w) → r = (q, false)) ∧
    ((∃ v ∈ vs, ∃ w ∈ vs, ackGrp ack v ≠ ackGrp ack w) →
      r.2 = true ∧ r.1 ≤ q ∧ TwoGroups vs ack r.1 ∧
      ∀ i, r.1 < i → i ≤ q → ¬ TwoGroups vs ack i) := by
  intro q r
  obtain ⟨s1, s2, _⟩ := Majority.groupCommit_spec vs ack hne
  refine ⟨?_, ?_⟩
  · intro hone
    apply s2 _ hall
    rintro ⟨v, hv, w, hw, _, _, _, _, hne'⟩
    exact hne' (hone v hv w hw)
  · rintro ⟨v, hv, w, hw, hvw⟩
    exact s1 ⟨v, hv, w, hw, Nat.zero_le _, Nat.zero_le _, hall v hv, hall w hw, hvw⟩

/-- group commit switched on but no voter has a group: the result is the smallest acknowledged
index, flag `false` -/
theorem groupCommit_no_groups (vs : List Nat) (ack : Nat → Option Index) (hne : vs ≠ [])
    (hnone : ∀ v ∈ vs, ackGrp ack v = 0) :
    let r := Majority.committedIndex vs ack true
    r.2 = false ∧ (∃ v ∈ vs, ackIdx ack v = r.1) ∧ ∀ w ∈ vs, r.1 ≤ ackIdx ack w := by
  intro r
  obtain ⟨_, _, s3⟩ := Majority.groupCommit_spec vs ack hne
  obtain ⟨v, hv⟩ := exists_mem_of_ne_nil vs hne
  apply s3
  · rintro ⟨a, ha, _, _, _, _, hz, _⟩
    exact hz (hnone a ha)
  · exact ⟨v, hv, hnone v hv⟩

/-- **Iteration order is irrelevant** (the Rust code iterates a hash set and then uses a stable sort
that compares indexes only, so ties keep hash order; the group-commit scan reads groups in that
order): the result — index AND flag, with and without group commit — is the same for every
permutation of the voter list. -/
theorem committedIndex_perm (vs vs' : List Nat) (h : vs ~ vs') (ack : Nat → Option Index)
    (gc : Bool) : Majority.committedIndex vs ack gc = Majority.committedIndex vs' ack gc := by
  by_cases hne : vs = []
  · subst hne
    have : vs' = [] := by simpa using h.symm.eq_nil
    subst this; rfl
  have hne' : vs' ≠ [] := fun e => hne (by subst e; exact h.eq_nil)
  obtain ⟨a1, a2, a3, a4⟩ := Majority.quorumIndex_spec vs ack hne
  obtain ⟨b1, b2, b3, b4⟩ := Majority.quorumIndex_spec vs' ack hne'
  have hq : (Majority.committedIndex vs ack false).1 = (Majority.committedIndex vs' ack false).1 :=
    Majority.quorumIndex_unique vs ack _ _ a1 a2 ((Majority.QuorumAcked.perm h).2 b1)
      (fun i hi hc => b2 i hi ((Majority.QuorumAcked.perm h).1 hc))
  cases gc with
  | false => exact Prod.ext hq (by rw [a4, b4])
  | true =>
    obtain ⟨s1, s2, s3⟩ := Majority.groupCommit_spec vs ack hne
    obtain ⟨t1, t2, t3⟩ := Majority.groupCommit_spec vs' ack hne'
    by_cases ht : TwoGroups vs ack 0
    · obtain ⟨sf, sle, stg, smax⟩ := s1 ht
      obtain ⟨tf, tle, ttg, tmax⟩ := t1 (ht.perm h)
      apply Prod.ext _ (by rw [sf, tf])
      rcases Nat.lt_trichotomy (Majority.committedIndex vs ack true).1
          (Majority.committedIndex vs' ack true).1 with hlt | heq | hgt
      · exact absurd (ttg.perm h.symm) (smax _ hlt (by omega))
      · exact heq
      · exact absurd (stg.perm h) (tmax _ hgt (by omega))
    · have ht' : ¬ TwoGroups vs' ack 0 := fun t => ht (t.perm h.symm)
      by_cases hall : ∀ v ∈ vs, ackGrp ack v ≠ 0
      · rw [s2 ht hall, t2 ht' (fun v hv => hall v (h.mem_iff.2 hv)), hq]
      · have hex : ∃ v ∈ vs, ackGrp ack v = 0 := by
          apply Classical.byContradiction
          intro hno
          exact hall (fun v hv hz => hno ⟨v, hv, hz⟩)
        obtain ⟨v, hv, hz⟩ := hex
        obtain ⟨sf, ⟨u, hu, hue⟩, smin⟩ := s3 ht ⟨v, hv, hz⟩
        obtain ⟨tf, ⟨w, hw, hwe⟩, tmin⟩ := t3 ht' ⟨v, h.mem_iff.1 hv, hz⟩
        apply Prod.ext _ (by rw [sf, tf])
        have := smin w (h.mem_iff.2 hw)
        have := tmin u (h.mem_iff.1 hu)
        omega

/-! ### the commit index of a joint configuration -/

theorem joint_committedIndex_empty (ack : Nat → Option Index) (gc : Bool) :
    Joint.committedIndex ⟨[], []⟩ ack gc = (U64_MAX, true) := by
  simp [Joint.committedIndex, Majority.committedIndex]

/-- **The joint result is the largest index acknowledged by a majority of each non-empty half**
(`hb`: acknowledged indexes are u64 values — needed only because the empty half reports
`u64::MAX` as "+∞"). -/
theorem joint_committedIndex (c : JointConfig) (ack : Nat → Option Index)
    (hne : c.incoming ≠ [] ∨ c.outgoing ≠ [])
    (hb : ∀ v, (v ∈ c.incoming ∨ v ∈ c.outgoing) → ackIdx ack v ≤ U64_MAX) :
    let r := (Joint.committedIndex c ack false).1
    JointQuorumAcked c ack r ∧ (∀ i, r < i → ¬ JointQuorumAcked c ack i) ∧
    (Joint.committedIndex c ack false).2 = false := by
  intro r
  have hr : r = min (Majority.committedIndex c.incoming ack false).1
      (Majority.committedIndex c.outgoing ack false).1 := rfl
  have hflag : (Joint.committedIndex c ack false).2 =
      ((Majority.committedIndex c.incoming ack false).2 &&
       (Majority.committedIndex c.outgoing ack false).2) := rfl
  have mono : ∀ vs : List Nat, vs ≠ [] → r ≤ (Majority.committedIndex vs ack false).1 →
      QuorumAcked vs ack r := by
    intro vs hvs hle
    have := (Majority.quorumIndex_spec vs ack hvs).1
    simp only [QuorumAcked] at this ⊢
    have := ackCount_anti vs ack hle
    omega
  by_cases hi : c.incoming = []
  · have ho : c.outgoing ≠ [] := by rcases hne with h | h; exact absurd hi h; exact h
    obtain ⟨_, o2, ⟨u, hu, hue⟩, o4⟩ := Majority.quorumIndex_spec c.outgoing ack ho
    have hle : (Majority.committedIndex c.outgoing ack false).1 ≤ U64_MAX := by
      rw [← hue]; exact hb u (Or.inr hu)
    have hr' : r = (Majority.committedIndex c.outgoing ack false).1 := by
      rw [hr, hi, committedIndex_empty]; exact Nat.min_eq_right hle
    refine ⟨⟨fun h => absurd hi h, fun _ => mono _ ho (by omega)⟩, ?_, ?_⟩
    · intro i hlt hq
      exact o2 i (by omega) (hq.2 ho)
    · rw [hflag, o4]; simp
  · obtain ⟨_, i2, ⟨u, hu, hue⟩, i4⟩ := Majority.quorumIndex_spec c.incoming ack hi
    by_cases ho : c.outgoing = []
    · have hle : (Majority.committedIndex c.incoming ack false).1 ≤ U64_MAX := by
        rw [← hue]; exact hb u (Or.inl hu)
      have hr' : r = (Majority.committedIndex c.incoming ack false).1 := by
        rw [hr, ho, committedIndex_empty]; exact Nat.min_eq_left hle
      refine ⟨⟨fun _ => mono _ hi (by omega), fun h => absurd ho h⟩, ?_, ?_⟩
      · intro i hlt hq
        exact i2 i (by omega) (hq.1 hi)
      · rw [hflag, i4]; simp
    · obtain ⟨_, o2, _, _⟩ := Majority.quorumIndex_spec c.outgoing ack ho
      refine ⟨⟨fun _ => mono _ hi (by rw [hr]; exact Nat.min_le_left _ _),
               fun _ => mono _ ho (by rw [hr]; exact Nat.min_le_right _ _)⟩, ?_, ?_⟩
      · intro i hlt hq
        rw [hr] at hlt
        rcases Nat.le_total (Majority.committedIndex c.incoming ack false).1
            (Majority.committedIndex c.outgoing ack false).1 with h | h
        · rw [Nat.min_eq_left h] at hlt; exact i2 i hlt (hq.1 hi)
        · rw [Nat.min_eq_right h] at hlt; exact o2 i hlt (hq.2 ho)
      · rw [hflag, i4]; simp

/-- the joint result does not depend on the iteration order of either half, nor on which half is
called incoming -/
theorem joint_committedIndex_perm (c c' : JointConfig) (hi : c.incoming ~ c'.incoming)
    (ho : c.outgoing ~ c'.outgoing) (ack : Nat → Option Index) (gc : Bool) :
    Joint.committedIndex c ack gc = Joint.committedIndex c' ack gc := by
  simp only [Joint.committedIndex, committedIndex_perm _ _ hi, committedIndex_perm _ _ ho]

theorem joint_committedIndex_symm (i o : List Nat) (ack : Nat → Option Index) (gc : Bool) :
    Joint.committedIndex ⟨i, o⟩ ack gc = Joint.committedIndex ⟨o, i⟩ ack gc := by
  simp only [Joint.committedIndex, Nat.min_comm, Bool.and_comm]

/-- with group commit the joint result never exceeds the plain joint quorum index -/
theorem joint_groupCommit_le_quorum (c : JointConfig) (ack : Nat → Option Index) :
    (Joint.committedIndex c ack true).1 ≤ (Joint.committedIndex c ack false).1 := by
  have h1 := groupCommit_le_quorum c.incoming ack
  have h2 := groupCommit_le_quorum c.outgoing ack
  simp only [Joint.committedIndex]
  exact Nat.le_min.2 ⟨Nat.le_trans (Nat.min_le_left _ _) h1, Nat.le_trans (Nat.min_le_right _ _) h2⟩

/-- `ProgressTracker::maximal_committed_index` is the joint computation over the progress map -/
theorem maximalCommittedIndex_eq (c : JointConfig) (progress : List (Nat × Index)) (gc : Bool) :
    Tracker.maximalCommittedIndex c progress gc =
      Joint.committedIndex c (fun id => progress.lookup id) gc := rfl

/-! ### vote tallies -/

/-- **won exactly when a majority granted** (or the configuration is empty) -/
theorem voteResult_won_iff (vs : List Nat) (check : Nat → Option Bool) :
    Majority.voteResult vs check = .won ↔ vs = [] ∨ majority vs.length ≤ yesCount vs check := by
  rw [Majority.voteResult_eq]
  by_cases h0 : vs = []
  · simp [h0]
  · by_cases h1 : majority vs.length ≤ yesCount vs check
    · simp [h0, h1]
    · by_cases h2 : majority vs.length ≤ yesCount vs check + missingCount vs check <;>
        simp [h0, h1, h2]

/-- **lost exactly when a majority can no longer be reached**: even if every voter that has not
answered yet granted, the grants would stay below a majority -/
theorem voteResult_lost_iff (vs : List Nat) (check : Nat → Option Bool) :
    Majority.voteResult vs check = .lost ↔
      vs ≠ [] ∧ yesCount vs check + missingCount vs check < majority vs.length := by
  rw [Majority.voteResult_eq]
  by_cases h0 : vs = []
  · simp [h0]
  · by_cases h1 : majority vs.length ≤ yesCount vs check
    · simp [h0, h1]; omega
    · by_cases h2 : majority vs.length ≤ yesCount vs check + missingCount vs check
      · simp [h0, h1, h2]
      · simp [h0, h1, h2]; omega

/-- **pending otherwise** -/
theorem voteResult_pending_iff (vs : List Nat) (check : Nat → Option Bool) :
    Majority.voteResult vs check = .pending ↔
      vs ≠ [] ∧ yesCount vs check < majority vs.length ∧
      majority vs.length ≤ yesCount vs check + missingCount vs check := by
  rw [Majority.voteResult_eq]
  by_cases h0 : vs = []
  · simp [h0]
  · by_cases h1 : majority vs.length ≤ yesCount vs check
    · simp [h0, h1]; omega
    · by_cases h2 : majority vs.length ≤ yesCount vs check + missingCount vs check
      · simp [h0, h1, h2]; omega
      · simp [h0, h1, h2]

/-- the vote result does not depend on iteration order -/
theorem voteResult_perm (vs vs' : List Nat) (h : vs ~ vs') (check : Nat → Option Bool) :
    Majority.voteResult vs check = Majority.voteResult vs' check := by
  have hnil : vs = [] ↔ vs' = [] :=
    ⟨fun e => by subst e; simpa using h.symm.eq_nil, fun e => by subst e; exact h.eq_nil⟩
  by_cases h0 : vs = []
  · rw [Majority.voteResult_eq, Majority.voteResult_eq, if_pos h0, if_pos (hnil.1 h0)]
  · rw [Majority.voteResult_eq, Majority.voteResult_eq, if_neg h0, if_neg (fun e => h0 (hnil.2 e))]
    have e1 : yesCount vs check = yesCount vs' check := h.countP_eq _
    have e2 : missingCount vs check = missingCount vs' check := h.countP_eq _
    rw [e1, e2, h.length_eq]

/-- the joint table: won in both halves -/
theorem joint_voteResult_won_iff (c : JointConfig) (check : Nat → Option Bool) :
    Joint.voteResult c check = .won ↔
      Majority.voteResult c.incoming check = .won ∧ Majority.voteResult c.outgoing check = .won := by
  cases h1 : Majority.voteResult c.incoming check <;>
    cases h2 : Majority.voteResult c.outgoing check <;> simp [Joint.voteResult, h1, h2]

/-- … lost in either half -/
theorem joint_voteResult_lost_iff (c : JointConfig) (check : Nat → Option Bool) :
    Joint.voteResult c check = .lost ↔
      Majority.voteResult c.incoming check = .lost ∨ Majority.voteResult c.outgoing check = .lost := by
  cases h1 : Majority.voteResult c.incoming check <;>
    cases h2 : Majority.voteResult c.outgoing check <;> simp [Joint.voteResult, h1, h2]

/-- … pending otherwise -/
theorem joint_voteResult_pending_iff (c : JointConfig) (check : Nat → Option Bool) :
    Joint.voteResult c check = .pending ↔
      ¬ (Majority.voteResult c.incoming check = .won ∧ Majority.voteResult c.outgoing check = .won) ∧
      ¬ (Majority.voteResult c.incoming check = .lost ∨ Majority.voteResult c.outgoing check = .lost) := by
  cases h1 : Majority.voteResult c.incoming check <;>
    cases h2 : Majority.voteResult c.outgoing check <;> simp [Joint.voteResult, h1, h2]

/-- the joint table spelled out in counts: won exactly when a majority of each non-empty half
granted; lost exactly when some non-empty half can no longer reach a majority -/
theorem joint_voteResult_counts (c : JointConfig) (check : Nat → Option Bool) :
    (Joint.voteResult c check = .won ↔
      (c.incoming = [] ∨ majority c.incoming.length ≤ yesCount c.incoming check) ∧
      (c.outgoing = [] ∨ majority c.outgoing.length ≤ yesCount c.outgoing check)) ∧
    (Joint.voteResult c check = .lost ↔
      (c.incoming ≠ [] ∧ yesCount c.incoming check + missingCount c.incoming check
          < majority c.incoming.length) ∨
      (c.outgoing ≠ [] ∧ yesCount c.outgoing check + missingCount c.outgoing check
          < majority c.outgoing.length)) := by
  rw [joint_voteResult_won_iff, joint_voteResult_lost_iff, voteResult_won_iff, voteResult_won_iff,
    voteResult_lost_iff, voteResult_lost_iff]
  exact ⟨Iff.rfl, Iff.rfl⟩

/-- `has_quorum(S)` is true exactly when `S` contains a majority of each non-empty half -/
theorem hasQuorum_iff (c : JointConfig) (S : List Nat) :
    Tracker.hasQuorum c S = true ↔ IsJointQuorum c S := by
  have hy : ∀ vs : List Nat,
      yesCount vs (fun id => if S.contains id then some true else none) =
        vs.countP (fun v => decide (v ∈ S)) := by
    intro vs
    apply countP_congr
    intro v _
    by_cases hv : v ∈ S <;> simp [hv]
  simp only [Tracker.hasQuorum, beq_iff_eq, joint_voteResult_won_iff, voteResult_won_iff, hy,
    IsJointQuorum, IsQuorum]
  constructor
  · rintro ⟨h1, h2⟩
    exact ⟨fun hn => h1.resolve_left hn, fun hn => h2.resolve_left hn⟩
  · rintro ⟨h1, h2⟩
    refine ⟨?_, ?_⟩
    · by_cases h : c.incoming = []
      · exact Or.inl h
      · exact Or.inr (h1 h)
    · by_cases h : c.outgoing = []
      · exact Or.inl h
      · exact Or.inr (h2 h)

/-- `tally_votes`: the result is the joint vote result over the recorded votes; the two counters
count recorded votes of configuration members only -/
theorem tallyVotes_spec (c : JointConfig) (votes : List (Nat × Bool)) :
    (Tracker.tallyVotes c votes).2.2 = Joint.voteResult c (fun id => votes.lookup id) ∧
    (Tracker.tallyVotes c votes).1 =
      votes.countP (fun p => (c.incoming.contains p.1 || c.outgoing.contains p.1) && p.2) ∧
    (Tracker.tallyVotes c votes).2.1 =
      votes.countP (fun p => (c.incoming.contains p.1 || c.outgoing.contains p.1) && !p.2) :=
  ⟨rfl, rfl, rfl⟩

/-! ### quorum intersection -/

/-- pigeonhole on duplicate-free lists: two duplicate-free sub-lists of a duplicate-free list, each
of size at least `majority`, share an element -/
theorem majorities_intersect :
    ∀ (vs A B : List Nat), vs.Nodup → A ⊆ vs → B ⊆ vs → A.Nodup → B.Nodup →
      majority vs.length ≤ A.length → majority vs.length ≤ B.length → ∃ v, v ∈ A ∧ v ∈ B :=
  RaftModel.majorities_intersect

/-- counting form (no duplicate-freeness needed; `A`, `B` may contain non-voters): two id sets that
each contain a majority of `vs` share a voter of `vs` -/
theorem quorums_intersect (vs A B : List Nat) (hA : IsQuorum vs A) (hB : IsQuorum vs B) :
    ∃ v ∈ vs, v ∈ A ∧ v ∈ B :=
  RaftModel.quorums_intersect vs A B hA hB

/-- joint version: two joint quorums of a configuration with at least one voter share a voter -/
theorem joint_majorities_intersect (c : JointConfig) (A B : List Nat)
    (hne : c.incoming ≠ [] ∨ c.outgoing ≠ [])
    (hA : IsJointQuorum c A) (hB : IsJointQuorum c B) :
    ∃ v, (v ∈ c.incoming ∨ v ∈ c.outgoing) ∧ v ∈ A ∧ v ∈ B :=
  RaftModel.joint_quorums_intersect c A B hne hA hB

/-- … in particular any two sets accepted by `has_quorum` intersect, and so do the voters behind two
commit decisions: whoever acknowledged the commit index and whoever granted a won election share a
voter -/
theorem hasQuorum_intersect (c : JointConfig) (A B : List Nat)
    (hne : c.incoming ≠ [] ∨ c.outgoing ≠ [])
    (hA : Tracker.hasQuorum c A = true) (hB : Tracker.hasQuorum c B = true) :
    ∃ v, (v ∈ c.incoming ∨ v ∈ c.outgoing) ∧ v ∈ A ∧ v ∈ B :=
  joint_majorities_intersect c A B hne ((hasQuorum_iff c A).1 hA) ((hasQuorum_iff c B).1 hB)

/-! ### Non-vacuity: concrete configurations meeting the hypotheses, with the computed values -/

/-- the repo's `joint_group_commit.txt` case `cfg=(1,2,3,4) cfgj=(3,4,5,6)
idx=(101,99,100,102,103,1) gid=(1,_,1,1,_,2)` -/
def witnessAck : Nat → Option Index
  | 1 => some ⟨101, 1⟩ | 2 => some ⟨99, 0⟩ | 3 => some ⟨100, 1⟩
  | 4 => some ⟨102, 1⟩ | 5 => some ⟨103, 0⟩ | 6 => some ⟨1, 2⟩
  | _ => none

def witnessCfg : JointConfig := ⟨[4, 2, 1, 3], [6, 3, 5, 4]⟩

example : witnessCfg.incoming ≠ [] ∨ witnessCfg.outgoing ≠ [] := by decide +kernel
example : ∀ v, (v ∈ witnessCfg.incoming ∨ v ∈ witnessCfg.outgoing) → ackIdx witnessAck v ≤ U64_MAX := by
  intro v hv
  simp only [witnessCfg, mem_cons, not_mem_nil, or_false] at hv
  rcases hv with (h | h | h | h) | (h | h | h | h) <;> subst h <;> decide +kernel
example : Joint.committedIndex witnessCfg witnessAck false = (100, false) := by decide +kernel
example : Joint.committedIndex witnessCfg witnessAck true = (1, false) := by decide +kernel
example : Majority.committedIndex [4, 2, 1, 3] witnessAck true = (99, false) := by decide +kernel
example : Majority.committedIndex [6, 3, 5, 4] witnessAck true = (1, true) := by decide +kernel
example : TwoGroups [6, 3, 5, 4] witnessAck 1 := ⟨6, by decide +kernel, 3, by decide +kernel, by decide +kernel⟩
example : [4, 2, 1, 3] ~ [1, 2, 3, 4] := by decide +kernel
/-- all voters grouped, two groups: result below the quorum index, flag true -/
example : Majority.committedIndex [1, 2, 3]
    (fun v => match v with | 1 => some ⟨100, 1⟩ | 2 => some ⟨101, 1⟩ | 3 => some ⟨99, 2⟩ | _ => none)
    true = (99, true) := by decide +kernel
example : Joint.voteResult ⟨[1, 2, 3], [3, 4, 5]⟩
    (fun v => match v with | 1 => some true | 3 => some true | 4 => some false | _ => none)
    = .pending := by decide +kernel
example : Tracker.hasQuorum ⟨[1, 2, 3], [3, 4, 5]⟩ [2, 3, 5, 9] = true := by decide +kernel
example : majority 9 ≤ [1, 2, 3, 4, 5].length ∧ [1, 2, 3, 4, 5] ⊆ [1, 2, 3, 4, 5, 6, 7, 8, 9] ∧
    [1, 2, 3, 4, 5].Nodup := by decide +kernel

end RaftProps.C11
