import RaftProofs.ClusterCommit4M
import RaftProofs.ClusterCommitPlain

/-!
# C01 / C03 / C04, cluster level, **without the proof gaps `anch` and `norir`**

`RaftProps/C01c.lean` proved the commit layer of `ClusterSem` (the leader's commit rule with durable
acknowledgements, Leader Completeness, State-Machine Safety, soundness of every commit index) under
the bundle `Hyp3`, which contained two *proof gaps* — facts about the transport that should follow
from the other hypotheses:

* `anch`: every `MsgAppend` of the transport is anchored inside its sender's log;
* `norir`: no `MsgReadIndexResp` is ever in the transport.

This file states the same theorems under **`Hyp3w`** = `Hyp3` without `anch` and without `norir`
(`RaftProofs/ClusterCommitHyp.lean`: `Hyp` + `nolone` + `shape` + `initc` + `snapt0`), and the two
discharged gaps as theorems of their own:

* `C01d_appends_anchored` — `anch` holds in every state of a history under `Hyp3w`; it follows from the
  cluster invariant "every progress of a leader has `matched ≤ last_index`, `next_idx ≤ last_index + 1`
  and is not in the `Snapshot` state, **or a `MsgSnapshot` sits in the node's queue**" (`CI.node.po`).
  The second alternative is needed: under `nosnap` / `shape` a leader can still *queue* a `MsgSnapshot`
  (after a follower's `request_snapshot`, or after being probed below the snapshot point), which puts
  the progress into the `Snapshot` state (`C01d_snapshot_state_reachable`, kernel-checked); a later
  `report_snapshot` then sets `next_idx = pending_snapshot + 1`, where `pending_snapshot` is an index
  `MemStorage::snapshot` copies from the request — bounding it by `last_index` would need an invariant
  about `request_snapshot` indices, which is not needed: such a node is *mute* — `send` would hand the
  `MsgSnapshot` to the transport, which `nosnap` excludes — so whatever it queues never leaves its queue.
* `C01d_read_index_resp_source` — every `MsgReadIndexResp` of the transport was queued by a node that
  led the message's term with a commit index that covered the message's index (from "every pending
  read index of a leader is at most its commit index"); `MsgReadIndexResp`s **may** be in the transport
  now, and `C04_cluster_follower_commit_sound` covers the commit index a follower takes from one
  (`maybe_commit(m.index, m.term)`).

Proof: node level `RaftProofs/ClusterCommit4A … 4I` (a per-call relation `PW` through every function of
the node model, `call_pr`), cluster level `4J … 4L`: the cluster invariant `CI` is proved by induction
along the history, where the step from `h[n]` uses the *whole* commit layer on the prefix `h[0..n]`
(`Hyp3a` for the prefix follows from `CI` on the prefix) — in particular `Sm.a2m` and the growth of a
leader's log to bound an accepted acknowledgement by the leader's last index (`ack_bound`).
-/
namespace RaftProps.C01d
open RaftModel RaftModel.Cluster RaftModel.Node RaftModel.Raft RaftModel.Raft.CC

/-- **the gap `anch`, as a theorem**: in every state of a history under `Hyp3w`, every
`MsgAppend` in the transport is anchored inside its sender's log (`log_term ≠ 0`, or the anchor is at
or below the common snapshot point) — and so is every queued one unless a `MsgSnapshot` is queued with
it. -/
theorem C01d_appends_anchored (cfg : JointConfig) (c0 : Nat) (h : List Sys) (H : Hyp3w cfg c0 h)
    (n : Nat) (s : Sys) (hn : h[n]? = some s) :
    (∀ x ∈ s.net, x.msgType = .msgAppend → x.logTerm ≠ 0 ∨ x.index ≤ c0) ∧
    (∀ i st, s.node i = some st → ∀ x ∈ st.raft.msgs, x.msgType = .msgAppend →
      (∃ y ∈ st.raft.msgs, y.msgType = .msgSnapshot) ∨ x.logTerm ≠ 0 ∨ x.index ≤ c0) :=
  ⟨(ci_all H n s hn).na, (ci_all H n s hn).qa⟩

/-- **progress within the log**: every progress of a leader has `matched ≤ last_index`,
`next_idx ≤ last_index + 1` and is not in the `Snapshot` state — unless a `MsgSnapshot` is queued at
that leader (which `nosnap` never lets reach the transport). -/
theorem C01d_progress_within_log (cfg : JointConfig) (c0 : Nat) (h : List Sys) (H : Hyp3w cfg c0 h)
    (n : Nat) (s : Sys) (hn : h[n]? = some s) (i : Nat) (st : NState) (hi : s.node i = some st)
    (hl : st.raft.state = .leader) :
    (∃ y ∈ st.raft.msgs, y.msgType = .msgSnapshot) ∨
    ∀ id pr, st.raft.prs.get id = some pr →
      pr.matched ≤ st.raft.raftLog.lastIndex ∧ pr.nextIdx ≤ st.raft.raftLog.lastIndex + 1 ∧
      pr.state ≠ .snapshot :=
  ((ci_all H n s hn).node i st hi).po hl |>.imp (fun x => x) (fun c _ _ hg => c.get hg)

/-- **the gap `norir`, lifted**: a `MsgReadIndexResp` in the transport (or in a queue) was queued
by a node that led the message's term, at a moment when its commit index covered the message's index;
and every pending read index of a leader is at most its commit index. -/
theorem C01d_read_index_resp_source (cfg : JointConfig) (c0 : Nat) (h : List Sys)
    (H : Hyp3w cfg c0 h) (n : Nat) (s : Sys) (hn : h[n]? = some s) :
    (∀ x, (x ∈ s.net ∨ ∃ i st, s.node i = some st ∧ x ∈ st.raft.msgs) →
      x.msgType = .msgReadIndexResp →
      ∃ n0 s0 w stw, n0 ≤ n ∧ h[n0]? = some s0 ∧ s0.node w = some stw ∧
        stw.raft.state = .leader ∧ stw.raft.term = x.term ∧
        x.index ≤ stw.raft.raftLog.committed) ∧
    (∀ i st, s.node i = some st → st.raft.state = .leader →
      ∀ p ∈ st.raft.readOnly.pendingReadIndex, p.2.index ≤ st.raft.raftLog.committed) := by
  have c := ci_all H n s hn
  refine ⟨fun x hx hty => ?_, fun i st hi hl => (c.node i st hi).rd hl⟩
  rcases hx with hx | ⟨i, st, hi, hx⟩
  · exact c.nr x hx hty
  · exact c.qr i st hi x hx hty

/-- **`SaneAnchors` of `RaftProps/C05d.lean` is a theorem here** (for `c0 = 0`, i.e. nodes that start
without a snapshot point): no `MsgAppend` in the transport is anchored in the void (`log_term = 0` at an
anchor `≠ 0`), and none queued at a node — unless a `MsgSnapshot` is queued there too.  This is the
state predicate the Log Matching layer with batching (`BatchOk`) takes as a hypothesis; C05d's report
conjectured it follows from Leader Completeness under the acknowledge-after-persist rule. -/
theorem C01d_sane_anchors (cfg : JointConfig) (h : List Sys) (H : Hyp3w cfg 0 h)
    (n : Nat) (s : Sys) (hn : h[n]? = some s) :
    (∀ x ∈ s.net, x.msgType = .msgAppend → x.logTerm = 0 → x.index = 0) ∧
    (∀ i st, s.node i = some st → (∀ y ∈ st.raft.msgs, y.msgType ≠ .msgSnapshot) →
      ∀ x ∈ st.raft.msgs, x.msgType = .msgAppend → x.logTerm = 0 → x.index = 0) := by
  obtain ⟨h1, h2⟩ := C01d_appends_anchored cfg 0 h H n s hn
  refine ⟨fun x hx hty hz => ?_, fun i st hi hns x hx hty hz => ?_⟩
  · rcases h1 x hx hty with c | c
    · exact absurd hz c
    · omega
  · rcases h2 i st hi x hx hty with ⟨y, hy, hys⟩ | c | c
    · exact absurd hys (hns y hy)
    · exact absurd hz c
    · omega

/-- **C04 `cluster_leader_commit_rule`** — the commit rule with **durable acknowledgements**: whenever
a step `h[n] → h[n+1]` takes the commit index of a node `l` that is leader of term `t` after the step
from `c` to `c' > c`, the entry at `c'` in its log carries term `t`, and there is a joint quorum `Q` of
`cfg` such that every `j ∈ Q` is

* `l` itself, with `persisted ≥ c'` — and its storage holds its log up to `c'`; or
* the sender of an accepting `MsgAppendResponse` `x` for term `t` with `index ≥ c'` that is in the
  transport before the step, **and in every state of the history whose transport holds `x` — from the
  moment `x` entered the transport on — the storage of `j` holds `l`'s log up to `c'`**. -/
theorem C04_cluster_leader_commit_rule (cfg : JointConfig) (c0 : Nat) (h : List Sys)
    (H : Hyp3w cfg c0 h)
    (n : Nat) (a b : Sys) (ha : h[n]? = some a) (hb : h[n + 1]? = some b)
    (l : Nat) (sta stb : NState) (hla : a.node l = some sta) (hlb : b.node l = some stb)
    (t : Nat) (hs : stb.raft.state = .leader) (ht : stb.raft.term = t)
    (hc : sta.raft.raftLog.committed < stb.raft.raftLog.committed) :
    stb.raft.raftLog.term stb.raft.raftLog.committed = .ok t ∧
    ∃ Q, IsJointQuorum cfg Q ∧ ∀ j ∈ Q,
      (j = l ∧ stb.raft.raftLog.committed ≤ stb.raft.raftLog.persisted ∧
        ∀ k, k ≤ stb.raft.raftLog.committed →
          (storeLog stb.raft.raftLog.store).entryAt k = stb.raft.raftLog.abs.entryAt k) ∨
      ∃ x ∈ a.net, x.msgType = .msgAppendResponse ∧ x.reject = false ∧ x.frm = j ∧ x.term = t ∧
        stb.raft.raftLog.committed ≤ x.index ∧
        ∀ (m : Nat) (s : Sys) (stj : NState), h[m]? = some s → x ∈ s.net → s.node j = some stj →
          ∀ k, k ≤ stb.raft.raftLog.committed →
            (storeLog stj.raft.raftLog.store).entryAt k = stb.raft.raftLog.abs.entryAt k := by
  have H2 := H.toHyp2w
  have Ha := H.toHyp3a
  obtain ⟨h1, Q, hQ, hq⟩ := H2.toHyp.commit_step n a b ha hb l sta stb hla hlb hs hc
  subst ht
  have hE := Snap5.ev_of_step ha hb hla hlb hs hc
  obtain ⟨_, hEh, hc0⟩ := Ev.leaderLog H2 hE
  have ob := node_ok H2 hb hlb
  refine ⟨h1, Q, hQ, fun j hj => ?_⟩
  rcases hq j hj with ⟨g1, g2⟩ | ⟨x, hx, hack, hfrm, hterm, hidx⟩
  · exact .inl ⟨g1, g2, fun k hk => (ob.inv.abs_store_persisted ob.snap (by omega)).symm⟩
  · right
    have hx0 : x.index ≠ 0 := by
      have : c0 < stb.raft.raftLog.committed := hc0
      omega
    have hterm' : x.term = stb.raft.term := by
      rcases hterm with d | d
      · exact d
      · exact absurd d ((ack_inv H2 n a ha).2 x hx hack hx0).2
    refine ⟨x, hx, hack.1, hack.2, hfrm, hterm', hidx, fun m s stj hm hxs hj k hk => ?_⟩
    have hh := (sm_all Ha hm).rets _ hE j stj hj (.inl ⟨x, hxs, hack, hfrm, hterm', hidx⟩)
    obtain ⟨e1, he1, ht1⟩ := hh
    obtain ⟨e2, he2, ht2⟩ := hEh
    have oj := node_ok H2 hm hj
    have hag := agree_all H2 m (n + 1) s b hm hb (.store j) (.log l) _ _ ⟨stj, hj, rfl⟩ (at_log hlb)
    exact eq_below hag (oj.ssnap.trans ob.snapIdx.symm) he1 he2 (ht1.trans ht2.symm) k hk

/-- **C03 `cluster_leader_completeness`** — every entry a leader has committed is in the log of every
leader of a later term: if a step `h[n] → h[n+1]` takes the commit index of `l`, leader of term `t`
after the step, to `c'`, then any node that leads a term `t' > t` in any state `h[m]` of the history
holds, at every index up to `c'`, the entry `l` held there. -/
theorem C03_cluster_leader_completeness (cfg : JointConfig) (c0 : Nat) (h : List Sys)
    (H : Hyp3w cfg c0 h)
    (n : Nat) (a b : Sys) (ha : h[n]? = some a) (hb : h[n + 1]? = some b)
    (l : Nat) (sta stb : NState) (hla : a.node l = some sta) (hlb : b.node l = some stb)
    (hs : stb.raft.state = .leader)
    (hc : sta.raft.raftLog.committed < stb.raft.raftLog.committed)
    (m : Nat) (s : Sys) (hm : h[m]? = some s) (l' : Nat) (st' : NState)
    (hl' : s.node l' = some st') (hs' : st'.raft.state = .leader)
    (ht : stb.raft.term < st'.raft.term) :
    ∀ k, k ≤ stb.raft.raftLog.committed →
      st'.raft.raftLog.abs.entryAt k = stb.raft.raftLog.abs.entryAt k := by
  have H2 := H.toHyp2w
  have Ha := H.toHyp3a
  have hE := Snap5.ev_of_step ha hb hla hlb hs hc
  obtain ⟨hEl, hEh, _⟩ := Ev.leaderLog H2 hE
  have hh := (sm_all Ha hm).lc _ hE l' st' hl' hs' ht
  exact eq_ll H2 hm hl' hEl hh hEh

/-- the logs of two commit events agree up to the smaller commit index -/
theorem ev_logs_agree {cfg : JointConfig} {c0 : Nat} {h : List Sys} (H : Hyp3w cfg c0 h)
    {E1 E2 : Ev} (h1 : E1.ok h) (h2 : E2.ok h) (hle : E1.c ≤ E2.c) : EqUpTo E1.gE E2.gE E1.c := by
  have H2 := H.toHyp2w
  have Ha := H.toHyp3a
  obtain ⟨l1, hh1, _⟩ := Ev.leaderLog H2 h1
  obtain ⟨l2, _, _⟩ := Ev.leaderLog H2 h2
  have S := sall Ha (E1.nE + E2.nE + 2)
  have := ctf H2 S h2 h1 (by omega) hle (fun _ => ⟨E1.gE, l1.mono (by omega)⟩)
  exact ll_eq_below H2 l1 l2 hh1 this

/-- **C04 `cluster_follower_commit_sound`** — *every* commit index is sound: in every state `h[m]`,
what a node `v` has marked committed is at most the common snapshot point `c0`, or it was committed by
a leader: there is an earlier step `h[n] → h[n+1]` (`n < m`) that took the commit index of a node `l`,
leader of a term `t ≤ term(v)` after the step, to some `c' ≥ committed(v)`, and the log of `v` equals
the log `l` had then up to `committed(v)`. -/
theorem C04_cluster_follower_commit_sound (cfg : JointConfig) (c0 : Nat) (h : List Sys)
    (H : Hyp3w cfg c0 h) (m : Nat) (s : Sys) (hm : h[m]? = some s) (v : Nat) (st : NState)
    (hv : s.node v = some st) :
    st.raft.raftLog.committed ≤ c0 ∨
    ∃ (n : Nat) (a b : Sys) (l : Nat) (sta stb : NState), n < m ∧ h[n]? = some a ∧
      h[n + 1]? = some b ∧ a.node l = some sta ∧ b.node l = some stb ∧
      stb.raft.state = .leader ∧ sta.raft.raftLog.committed < stb.raft.raftLog.committed ∧
      st.raft.raftLog.committed ≤ stb.raft.raftLog.committed ∧ stb.raft.term ≤ st.raft.term ∧
      ∀ k, k ≤ st.raft.raftLog.committed →
        st.raft.raftLog.abs.entryAt k = stb.raft.raftLog.abs.entryAt k := by
  have Ha := H.toHyp3a
  rcases (sm_all Ha hm).nctm v st hv with c | ⟨E, hE, h2, h3, h4, h5⟩
  · exact .inl c
  · right
    obtain ⟨a, b, sta, stb, ha, hb, hla, hlb, hs, ht, hc, e1, e2, _⟩ := hE
    exact ⟨E.nE, a, b, E.l, sta, stb, h2, ha, hb, hla, hlb, hs, hc, by rw [← e1]; exact h3,
      by rw [ht]; exact h4, by rw [← e2]; exact h5⟩

/-- … and so is every **stored** commit index (what a restarted node starts from): it is not ahead of
the commit index, and it is covered by a leader's commit of a term not above the stored term, with the
stored entries. -/
theorem C04_cluster_stored_commit_sound (cfg : JointConfig) (c0 : Nat) (h : List Sys)
    (H : Hyp3w cfg c0 h) (m : Nat) (s : Sys) (hm : h[m]? = some s) (v : Nat) (st : NState)
    (hv : s.node v = some st) :
    st.raft.raftLog.store.hardState.commit ≤ st.raft.raftLog.committed ∧
    (st.raft.raftLog.store.hardState.commit ≤ c0 ∨
     ∃ (n : Nat) (a b : Sys) (l : Nat) (sta stb : NState), n < m ∧ h[n]? = some a ∧
      h[n + 1]? = some b ∧ a.node l = some sta ∧ b.node l = some stb ∧
      stb.raft.state = .leader ∧ sta.raft.raftLog.committed < stb.raft.raftLog.committed ∧
      st.raft.raftLog.store.hardState.commit ≤ stb.raft.raftLog.committed ∧
      stb.raft.term ≤ st.raft.raftLog.store.hardState.term ∧
      ∀ k, k ≤ st.raft.raftLog.store.hardState.commit →
        (storeLog st.raft.raftLog.store).entryAt k = stb.raft.raftLog.abs.entryAt k) := by
  have Ha := H.toHyp3a
  refine ⟨(sm_all Ha hm).scm v st hv, ?_⟩
  rcases (sm_all Ha hm).ncts v st hv with c | ⟨E, hE, h2, h3, h4, h5⟩
  · exact .inl c
  · right
    obtain ⟨a, b, sta, stb, ha, hb, hla, hlb, hs, ht, hc, e1, e2, _⟩ := hE
    exact ⟨E.nE, a, b, E.l, sta, stb, h2, ha, hb, hla, hlb, hs, hc, by rw [← e1]; exact h3,
      by rw [ht]; exact h4, by rw [← e2]; exact h5⟩

/-- **C01 `cluster_state_machine_safety`** — any two nodes, in any two states of the history (the same
node before and after a restart included), hold the same entry at every index both have marked
committed. -/
theorem C01_cluster_state_machine_safety (cfg : JointConfig) (c0 : Nat) (h : List Sys)
    (H : Hyp3w cfg c0 h)
    (m1 : Nat) (s1 : Sys) (hm1 : h[m1]? = some s1) (v1 : Nat) (st1 : NState)
    (hv1 : s1.node v1 = some st1)
    (m2 : Nat) (s2 : Sys) (hm2 : h[m2]? = some s2) (v2 : Nat) (st2 : NState)
    (hv2 : s2.node v2 = some st2)
    (k : Nat) (hk1 : k ≤ st1.raft.raftLog.committed) (hk2 : k ≤ st2.raft.raftLog.committed) :
    st1.raft.raftLog.abs.entryAt k = st2.raft.raftLog.abs.entryAt k := by
  have H2 := H.toHyp2w
  have Ha := H.toHyp3a
  have o1 := node_ok H2 hm1 hv1
  have o2 := node_ok H2 hm2 hv2
  by_cases hk0 : k ≤ c0
  · unfold LLog.entryAt
    rw [if_pos (by rw [o1.snapIdx]; exact hk0), if_pos (by rw [o2.snapIdx]; exact hk0)]
  rcases (sm_all Ha hm1).nctm v1 st1 hv1 with c | ⟨E1, hE1, _, a3, _, a5⟩
  · omega
  rcases (sm_all Ha hm2).nctm v2 st2 hv2 with c | ⟨E2, hE2, _, b3, _, b5⟩
  · omega
  rw [a5 k hk1, b5 k hk2]
  rcases Nat.le_total E1.c E2.c with hle | hle
  · exact ev_logs_agree H hE1 hE2 hle k (by omega)
  · exact (ev_logs_agree H hE2 hE1 hle k (by omega)).symm

/-- … in particular for the **applied** entries of two nodes whose applied index is within their
commit index (`AppliedOk`, which holds outside the restart window — `raft_log.rs:44-46`). -/
theorem C01_cluster_state_machine_safety_applied (cfg : JointConfig) (c0 : Nat) (h : List Sys)
    (H : Hyp3w cfg c0 h)
    (m1 : Nat) (s1 : Sys) (hm1 : h[m1]? = some s1) (v1 : Nat) (st1 : NState)
    (hv1 : s1.node v1 = some st1) (ha1 : st1.raft.raftLog.AppliedOk)
    (m2 : Nat) (s2 : Sys) (hm2 : h[m2]? = some s2) (v2 : Nat) (st2 : NState)
    (hv2 : s2.node v2 = some st2) (ha2 : st2.raft.raftLog.AppliedOk)
    (k : Nat) (hk1 : k ≤ st1.raft.raftLog.applied) (hk2 : k ≤ st2.raft.raftLog.applied) :
    st1.raft.raftLog.abs.entryAt k = st2.raft.raftLog.abs.entryAt k :=
  C01_cluster_state_machine_safety cfg c0 h H m1 s1 hm1 v1 st1 hv1 m2 s2 hm2 v2 st2 hv2 k
    (Nat.le_trans hk1 ha1) (Nat.le_trans hk2 ha2)


/-! ## Non-vacuity: a follower commits an entry by a `MsgReadIndexResp` (kernel-evaluated)

`RaftProofs/ClusterCommit4M.lean`: the history of `C01_cluster_nonvacuous` continued by a read-index
round trip (node 3 asks, node 1 confirms its leadership with node 2's heartbeat response and answers). -/

section Examples
open RaftProps.C02 RaftProps.C05

/-- **non-vacuity without `norir`**: there is a history of `ClusterSem` that satisfies `Hyp3w` (voters
`{1, 2, 3}`, `c0 = 0`) in which a `MsgReadIndexResp(index = 1, term = 1)` for node 3 **is in the
transport**, and the step that delivers it takes the commit index of the follower node 3 from 0 to 1. -/
theorem C01d_cluster_nonvacuous :
    ∃ h : List Sys, Hyp3w c02x_cfg 0 h ∧
      ∃ (n : Nat) (a b : Sys) (sta stb : NState) (x : Message),
        h[n]? = some a ∧ h[n + 1]? = some b ∧ a.node 3 = some sta ∧ b.node 3 = some stb ∧
        x ∈ a.net ∧ x.msgType = .msgReadIndexResp ∧ x.frm = 1 ∧ x.to = 3 ∧ x.index = 1 ∧
        x.term = 1 ∧ (∃ res, Node.call sta none (.step x) = .ok (res, stb)) ∧
        stb.raft.state = .follower ∧ sta.raft.raftLog.committed = 0 ∧
        stb.raft.raftLog.committed = 1 :=
  have ⟨hne, hty, hfrm, hto, hidx, htm, hok, hrest⟩ := c01y_eval.2.1
  ⟨c01y_hist, c01y_hyp3w, 24, c01y_s24, c01y_s25, c01y_c4, c01y_c5, c01y_rir, rfl, rfl, rfl, rfl,
    List.mem_append_right _ (c02x_head_mem _ hne), hty, hfrm, hto, hidx, htm, ⟨_, c02x_out _ hok⟩,
    hrest⟩

/-- … and the theorems apply to it: what node 3 has marked committed after that step was committed by
a leader — the commit event of node 1 — with the same entries -/
example (st : NState) (h3 : c01y_s25.node 3 = some st) :
    st.raft.raftLog.committed ≤ 0 ∨
    ∃ (n : Nat) (a b : Sys) (l : Nat) (sta stb : NState), n < 25 ∧ c01y_hist[n]? = some a ∧
      c01y_hist[n + 1]? = some b ∧ a.node l = some sta ∧ b.node l = some stb ∧
      stb.raft.state = .leader ∧ sta.raft.raftLog.committed < stb.raft.raftLog.committed ∧
      st.raft.raftLog.committed ≤ stb.raft.raftLog.committed ∧ stb.raft.term ≤ st.raft.term ∧
      ∀ k, k ≤ st.raft.raftLog.committed →
        st.raft.raftLog.abs.entryAt k = stb.raft.raftLog.abs.entryAt k :=
  C04_cluster_follower_commit_sound c02x_cfg 0 c01y_hist c01y_hyp3w 25 c01y_s25 rfl 3 st h3

/-- **the `Snapshot` progress state is reachable under `Hyp3w`** (why `C01d_progress_within_log` has its
first alternative): there is a history satisfying `Hyp3w` whose last state has a leader with a progress
in the `Snapshot` state — and a `MsgSnapshot` in its queue, which it can never hand to the transport. -/
theorem C01d_snapshot_state_reachable :
    ∃ h : List Sys, Hyp3w c02x_cfg 0 h ∧
      ∃ (n : Nat) (s : Sys) (st : NState) (pr : Progress) (y : Message),
        h[n]? = some s ∧ s.node 1 = some st ∧ st.raft.state = .leader ∧
        st.raft.prs.get 2 = some pr ∧ pr.state = .snapshot ∧
        y ∈ st.raft.msgs ∧ y.msgType = .msgSnapshot :=
  have ⟨hl, hpr, hst, hne, hty⟩ := c01y_eval.2.2
  ⟨c01z_hist, c01z_hyp3w, 28, c01z_s28, c01z_a13, (c01z_a13.raft.prs.get 2).get!,
    c01z_a13.raft.msgs.head!, rfl, rfl, hl, hpr, hst, c02x_head_mem _ hne, hty⟩

end Examples

end RaftProps.C01d
