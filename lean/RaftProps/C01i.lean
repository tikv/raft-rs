import RaftProps.C01h
import RaftProofs.ClusterSnap5Y

/-!
# C01 / C03 / C04, cluster level, with compaction, snapshots between nodes **and `request_snapshot`** (partial: `noreq` replaced by the invariant `reqok`)

The statements of `RaftProps/C01h.lean` under the bundle **`Snap5.Hyp3r_partial`** (= `Snap5.Hyp3w`,
`RaftProofs/ClusterSnap5W.lean` / `5Y.lean`) = `Snap2.Hyp3w` with the proof gap

    noreq : ∀ s ∈ h, ∀ i st, s.node i = some st → st.raft.pendingRequestSnapshot = 0

**replaced by the strictly weaker, invariant-shaped**

    reqok : ∀ s ∈ h, ∀ i st, s.node i = some st →
      st.raft.pendingRequestSnapshot ≠ 0 → st.raft.raftLog.lastIndex ≤ st.raft.pendingRequestSnapshot

so the histories covered include those in which followers call `request_snapshot`
(`NodeOp.requestSnapshot`), send `MsgAppendResponse`s that carry `request_snapshot ≠ 0`, leaders record
the request in `Progress.pending_request_snapshot` and serve it with a `MsgSnapshot`, and the follower
restores the served snapshot **even though its log holds the snapshot's last entry**
(`C01i_request_snapshot_nonvacuous`, `C01i_request_snapshot_exercised`: a kernel-evaluated 42-state
history in which all of this happens; `C01i_reqok_strictly_weaker`).

**Where a pending request matters, and what replaces `noreq`.**  The only place of the snapshot layer
where a pending request makes a difference is `Raft::restore`: without one, a snapshot whose last entry
the log holds is *never* restored, which the main induction needs twice (`ClusterSnap5O`: an
acknowledged entry beyond the snapshot index would be dropped); with one, `Raft::restore` (with fix
F10: only for a snapshot **not older than the requested index**) does replace a matching log.
`Raft.CC.restore_full` / `Raft.CC.snap_call` (`ClusterSnap2A/2B`) describe `Raft::restore` for every
value of `pending_request_snapshot`; `Raft.CC.SnapCase.restored` carries `match_term ≠ true ∨ last_index ≤
snapshot index`, and under `reqok` the second alternative is what a pending request yields
(`last_index ≤ pending_request_snapshot ≤ snapshot index`); the two places of the induction then argue
"the acknowledged entry lies within the log, hence within the snapshot".  Everything else — the
per-call relations for `handle_append_response` with `request_snapshot ≠ 0`, `maybe_send_append` /
`prepare_send_snapshot` with a pending request, `handle_append_entries` / `handle_heartbeat` of a
follower with a pending request — do not depend on `noreq`.  So the development `Snap5`
(`ClusterSnap5C–5X`) takes `reqok` throughout, and the statements under the bundles of `Snap2`
(`ClusterSnap2C`; C01e part 2, C01g2, C01h) are instances of its statements.

**No new storage hypothesis is needed**: `SnapSend` (unchanged) already pins a queued `MsgSnapshot` to
the storage's own snapshot (`snapshotCore`, not relabelled to `request_index`); that a served snapshot
is not older than the request is *not* assumed — an older one is fast-forwarded or ignored by
`Raft::restore` (fix F10), which is what `Raft.CC.restore_full` proves.  Without fix F10 (upstream
`raft-rs`) the theorems would need the storage contract "`snapshot(request_index).index ≥
request_index`" *and* freshness of the request message.

**Partial**: `reqok` is still a hypothesis.  It is an invariant of the model (the request index is
`last_index` at the time of the call; `handle_append_entries` refuses to append while a request is
pending; `become_candidate` / `become_leader` clear the request, so no node with a pending request
appends as leader; a successful restore clears it), checked state by state on the example history, but
deriving it needs a per-call relation that tracks `pending_request_snapshot` and `last_index` through
every `NodeOp` (the analogue of `Raft.CS.call_pr`, est. 1–1.5 k lines).  All other hypotheses are
those of C01h.
-/
namespace RaftProps.C01i
open RaftModel RaftModel.Cluster RaftModel.Node RaftModel.Raft RaftModel.Raft.CC

/-- **the ghost logs**: in every state of a history, the logical log and the stored log of every node
have uncompacted versions `FL` / `FS` (`Snap.Full`), which hold the same entries up to the node's
snapshot point unless a snapshot is pending (restored, not yet installed in the storage); any two
uncompacted versions of one log hold the same entries. -/
theorem C01i_ghost_log_partial (cfg : JointConfig) (c0 : Nat) (h : List Sys) (H : Snap5.Hyp3r_partial cfg c0 h)
    (m : Nat) (s : Sys) (hm : h[m]? = some s) (v : Nat) (st : NState) (hv : s.node v = some st) :
    Snap.Full (Snap.HistChain h) c0 st.raft.raftLog.abs (Snap.FL h c0 st) ∧
    Snap.Full (Snap.HistChain h) c0 (storeLog st.raft.raftLog.store) (Snap.FS h c0 st) ∧
    (st.raft.raftLog.unstable.snapshot = none → ∀ k, k ≤ st.raft.raftLog.abs.snapIdx →
      (Snap.FL h c0 st).entryAt k = (Snap.FS h c0 st).entryAt k) ∧
    (∀ g F F', Snap.Full (Snap.HistChain h) c0 g F → Snap.Full (Snap.HistChain h) c0 g F' →
      ∀ k, F.entryAt k = F'.entryAt k) :=
  RaftProps.C01i.Aux.C01i_ghost_log cfg c0 h H.toHyp3a m s hm v st hv

/-- **C04 `cluster_leader_commit_rule`** with compaction and snapshots — the commit rule with **durable
acknowledgements**: whenever a step `h[n] → h[n+1]` takes the commit index of a node `l` that is leader
of term `t` after the step from `c` to `c' > c`, the entry at `c'` in its log carries term `t`, and
there is a joint quorum `Q` of `cfg` such that every `j ∈ Q` is

* `l` itself, with `persisted ≥ c'` — and its storage holds its log up to `c'`; or
* the sender of an accepting `MsgAppendResponse` `x` for term `t` with `index ≥ c'` that is in the
  transport before the step, **and in every state of the history whose transport holds `x` the
  storage of `j` reaches `c'` and holds `l`'s log up to `c'`** — the uncompacted versions are equal up
  to `c'`, hence so are the logs at every index both still retain. -/
theorem C04_cluster_leader_commit_rule_partial (cfg : JointConfig) (c0 : Nat) (h : List Sys)
    (H : Snap5.Hyp3r_partial cfg c0 h)
    (n : Nat) (a b : Sys) (ha : h[n]? = some a) (hb : h[n + 1]? = some b)
    (l : Nat) (sta stb : NState) (hla : a.node l = some sta) (hlb : b.node l = some stb)
    (t : Nat) (hs : stb.raft.state = .leader) (ht : stb.raft.term = t)
    (hc : sta.raft.raftLog.committed < stb.raft.raftLog.committed) :
    stb.raft.raftLog.term stb.raft.raftLog.committed = .ok t ∧
    ∃ Q, IsJointQuorum cfg Q ∧ ∀ j ∈ Q,
      (j = l ∧ stb.raft.raftLog.committed ≤ stb.raft.raftLog.persisted ∧
        ∀ k, k ≤ stb.raft.raftLog.committed →
          (storeLog stb.raft.raftLog.store).entryAt k = stb.raft.raftLog.abs.entryAt k) ∨
      ∃ x ∈ a.net, x.msgType = .msgAppendResponse ∧ x.reject = false ∧ x.frm = j ∧ x.term = t ∧
        stb.raft.raftLog.committed ≤ x.index ∧
        ∀ (m : Nat) (s : Sys) (stj : NState), h[m]? = some s → x ∈ s.net → s.node j = some stj →
          stb.raft.raftLog.committed ≤ (storeLog stj.raft.raftLog.store).lastIndex ∧
          (∀ k, k ≤ stb.raft.raftLog.committed →
            (Snap.FS h c0 stj).entryAt k = (Snap.FL h c0 stb).entryAt k) ∧
          ∀ k, k ≤ stb.raft.raftLog.committed →
            (storeLog stj.raft.raftLog.store).snapIdx < k → stb.raft.raftLog.abs.snapIdx < k →
            (storeLog stj.raft.raftLog.store).entryAt k = stb.raft.raftLog.abs.entryAt k :=
  RaftProps.C01i.Aux.C04_cluster_leader_commit_rule cfg c0 h H.toHyp3a n a b ha hb l sta stb hla hlb t hs ht hc

/-- **C03 `cluster_leader_completeness`** with compaction and snapshots — every entry a leader has committed is in
the log of every leader of a later term: if a step `h[n] → h[n+1]` takes the commit index of `l`, leader
of term `t` after the step, to `c'`, then the log of any node that leads a term `t' > t` in any state
`h[m]` of the history reaches `c'` and holds, at every index up to `c'`, the entry `l` held there — in
the uncompacted versions, hence wherever both logs retain the index. -/
theorem C03_cluster_leader_completeness_partial (cfg : JointConfig) (c0 : Nat) (h : List Sys)
    (H : Snap5.Hyp3r_partial cfg c0 h)
    (n : Nat) (a b : Sys) (ha : h[n]? = some a) (hb : h[n + 1]? = some b)
    (l : Nat) (sta stb : NState) (hla : a.node l = some sta) (hlb : b.node l = some stb)
    (hs : stb.raft.state = .leader)
    (hc : sta.raft.raftLog.committed < stb.raft.raftLog.committed)
    (m : Nat) (s : Sys) (hm : h[m]? = some s) (l' : Nat) (st' : NState)
    (hl' : s.node l' = some st') (hs' : st'.raft.state = .leader)
    (ht : stb.raft.term < st'.raft.term) :
    stb.raft.raftLog.committed ≤ st'.raft.raftLog.abs.lastIndex ∧
    (∀ k, k ≤ stb.raft.raftLog.committed →
      (Snap.FL h c0 st').entryAt k = (Snap.FL h c0 stb).entryAt k) ∧
    ∀ k, k ≤ stb.raft.raftLog.committed →
      st'.raft.raftLog.abs.snapIdx < k → stb.raft.raftLog.abs.snapIdx < k →
      st'.raft.raftLog.abs.entryAt k = stb.raft.raftLog.abs.entryAt k :=
  RaftProps.C01i.Aux.C03_cluster_leader_completeness cfg c0 h H.toHyp3a n a b ha hb l sta stb hla hlb hs hc m s hm l' st' hl' hs' ht

/-- **C04 `cluster_follower_commit_sound`** with compaction and snapshots — *every* commit index is sound: in every
state `h[m]`, what a node `v` has marked committed is at most the common initial snapshot point `c0`,
or it was committed by a leader: there is an earlier step `h[n] → h[n+1]` (`n < m`) that took the commit
index of a node `l`, leader of a term `t ≤ term(v)` after the step, to some `c' ≥ committed(v)`, and the
log of `v` equals the log `l` had then up to `committed(v)` — in the uncompacted versions, hence
wherever both retain the index. -/
theorem C04_cluster_follower_commit_sound_partial (cfg : JointConfig) (c0 : Nat) (h : List Sys)
    (H : Snap5.Hyp3r_partial cfg c0 h) (m : Nat) (s : Sys) (hm : h[m]? = some s) (v : Nat) (st : NState)
    (hv : s.node v = some st) :
    st.raft.raftLog.committed ≤ c0 ∨
    ∃ (n : Nat) (a b : Sys) (l : Nat) (sta stb : NState), n < m ∧ h[n]? = some a ∧
      h[n + 1]? = some b ∧ a.node l = some sta ∧ b.node l = some stb ∧
      stb.raft.state = .leader ∧ sta.raft.raftLog.committed < stb.raft.raftLog.committed ∧
      st.raft.raftLog.committed ≤ stb.raft.raftLog.committed ∧ stb.raft.term ≤ st.raft.term ∧
      (∀ k, k ≤ st.raft.raftLog.committed →
        (Snap.FL h c0 st).entryAt k = (Snap.FL h c0 stb).entryAt k) ∧
      ∀ k, k ≤ st.raft.raftLog.committed →
        st.raft.raftLog.abs.snapIdx < k → stb.raft.raftLog.abs.snapIdx < k →
        st.raft.raftLog.abs.entryAt k = stb.raft.raftLog.abs.entryAt k :=
  RaftProps.C01i.Aux.C04_cluster_follower_commit_sound cfg c0 h H.toHyp3a m s hm v st hv

/-- … and so is every **stored** commit index (what a restarted node starts from): it is not ahead of
the commit index, and it is covered by a leader's commit of a term not above the stored term, with the
stored entries. -/
theorem C04_cluster_stored_commit_sound_partial (cfg : JointConfig) (c0 : Nat) (h : List Sys)
    (H : Snap5.Hyp3r_partial cfg c0 h) (m : Nat) (s : Sys) (hm : h[m]? = some s) (v : Nat) (st : NState)
    (hv : s.node v = some st) :
    st.raft.raftLog.store.hardState.commit ≤ st.raft.raftLog.committed ∧
    (st.raft.raftLog.store.hardState.commit ≤ c0 ∨
     ∃ (n : Nat) (a b : Sys) (l : Nat) (sta stb : NState), n < m ∧ h[n]? = some a ∧
      h[n + 1]? = some b ∧ a.node l = some sta ∧ b.node l = some stb ∧
      stb.raft.state = .leader ∧ sta.raft.raftLog.committed < stb.raft.raftLog.committed ∧
      st.raft.raftLog.store.hardState.commit ≤ stb.raft.raftLog.committed ∧
      stb.raft.term ≤ st.raft.raftLog.store.hardState.term ∧
      (∀ k, k ≤ st.raft.raftLog.store.hardState.commit →
        (Snap.FS h c0 st).entryAt k = (Snap.FL h c0 stb).entryAt k) ∧
      ∀ k, k ≤ st.raft.raftLog.store.hardState.commit →
        (storeLog st.raft.raftLog.store).snapIdx < k → stb.raft.raftLog.abs.snapIdx < k →
        (storeLog st.raft.raftLog.store).entryAt k = stb.raft.raftLog.abs.entryAt k) :=
  RaftProps.C01i.Aux.C04_cluster_stored_commit_sound cfg c0 h H.toHyp3a m s hm v st hv

/-- **C01 `cluster_state_machine_safety`, ghost form** — the uncompacted logs of any two nodes, in any
two states of the history (the same node before and after a restart or a compaction included), hold the
same entry at every index both have marked committed. -/
theorem C01_cluster_state_machine_safety_ghost_partial (cfg : JointConfig) (c0 : Nat) (h : List Sys)
    (H : Snap5.Hyp3r_partial cfg c0 h)
    (m1 : Nat) (s1 : Sys) (hm1 : h[m1]? = some s1) (v1 : Nat) (st1 : NState)
    (hv1 : s1.node v1 = some st1)
    (m2 : Nat) (s2 : Sys) (hm2 : h[m2]? = some s2) (v2 : Nat) (st2 : NState)
    (hv2 : s2.node v2 = some st2)
    (k : Nat) (hk1 : k ≤ st1.raft.raftLog.committed) (hk2 : k ≤ st2.raft.raftLog.committed) :
    (Snap.FL h c0 st1).entryAt k = (Snap.FL h c0 st2).entryAt k :=
  RaftProps.C01i.Aux.C01_cluster_state_machine_safety_ghost cfg c0 h H.toHyp3a m1 s1 hm1 v1 st1 hv1 m2 s2 hm2 v2 st2 hv2 k hk1 hk2

/-- **C01 `cluster_state_machine_safety`** with compaction and snapshots — any two nodes, in any two
states of the history (the same node before and after a restart or a compaction included), hold the same entry at
every index both have marked committed **and both still retain** (`snapIdx < k`; a compacted log
answers `none` below its snapshot point). -/
theorem C01_cluster_state_machine_safety_partial (cfg : JointConfig) (c0 : Nat) (h : List Sys)
    (H : Snap5.Hyp3r_partial cfg c0 h)
    (m1 : Nat) (s1 : Sys) (hm1 : h[m1]? = some s1) (v1 : Nat) (st1 : NState)
    (hv1 : s1.node v1 = some st1)
    (m2 : Nat) (s2 : Sys) (hm2 : h[m2]? = some s2) (v2 : Nat) (st2 : NState)
    (hv2 : s2.node v2 = some st2)
    (k : Nat) (hk1 : k ≤ st1.raft.raftLog.committed) (hk2 : k ≤ st2.raft.raftLog.committed)
    (hr1 : st1.raft.raftLog.abs.snapIdx < k) (hr2 : st2.raft.raftLog.abs.snapIdx < k) :
    st1.raft.raftLog.abs.entryAt k = st2.raft.raftLog.abs.entryAt k :=
  RaftProps.C01i.Aux.C01_cluster_state_machine_safety cfg c0 h H.toHyp3a m1 s1 hm1 v1 st1 hv1 m2 s2 hm2 v2 st2 hv2 k hk1 hk2 hr1 hr2

/-- … in particular for the **applied** entries of two nodes whose applied index is within their
commit index (`AppliedOk`, which holds outside the restart window — `raft_log.rs:44-46`). -/
theorem C01_cluster_state_machine_safety_applied_partial (cfg : JointConfig) (c0 : Nat) (h : List Sys)
    (H : Snap5.Hyp3r_partial cfg c0 h)
    (m1 : Nat) (s1 : Sys) (hm1 : h[m1]? = some s1) (v1 : Nat) (st1 : NState)
    (hv1 : s1.node v1 = some st1) (ha1 : st1.raft.raftLog.AppliedOk)
    (m2 : Nat) (s2 : Sys) (hm2 : h[m2]? = some s2) (v2 : Nat) (st2 : NState)
    (hv2 : s2.node v2 = some st2) (ha2 : st2.raft.raftLog.AppliedOk)
    (k : Nat) (hk1 : k ≤ st1.raft.raftLog.applied) (hk2 : k ≤ st2.raft.raftLog.applied)
    (hr1 : st1.raft.raftLog.abs.snapIdx < k) (hr2 : st2.raft.raftLog.abs.snapIdx < k) :
    st1.raft.raftLog.abs.entryAt k = st2.raft.raftLog.abs.entryAt k :=
  RaftProps.C01i.Aux.C01_cluster_state_machine_safety_applied cfg c0 h H.toHyp3a m1 s1 hm1 v1 st1 hv1 ha1 m2 s2 hm2 v2 st2 hv2 ha2 k hk1 hk2 hr1 hr2

/-- **a compacted prefix is a committed prefix** (`C15`-style, for compaction points): in every state,
the snapshot point of every node — of its logical log and of its storage, which coincide unless a
snapshot is pending — is not below the common initial snapshot point `c0` and not above the node's
commit index; and every other
node, in any state, whose commit index reaches an index `k` up to that snapshot point holds, in its
uncompacted log, exactly the entry the compacting node's uncompacted log holds at `k`. -/
theorem C01_cluster_compacted_prefix_committed_partial (cfg : JointConfig) (c0 : Nat) (h : List Sys)
    (H : Snap5.Hyp3r_partial cfg c0 h)
    (m1 : Nat) (s1 : Sys) (hm1 : h[m1]? = some s1) (v1 : Nat) (st1 : NState)
    (hv1 : s1.node v1 = some st1) :
    c0 ≤ st1.raft.raftLog.abs.snapIdx ∧
    (st1.raft.raftLog.unstable.snapshot = none →
      (storeLog st1.raft.raftLog.store).snapIdx = st1.raft.raftLog.abs.snapIdx) ∧
    st1.raft.raftLog.abs.snapIdx ≤ st1.raft.raftLog.committed ∧
    ∀ (m2 : Nat) (s2 : Sys) (v2 : Nat) (st2 : NState), h[m2]? = some s2 → s2.node v2 = some st2 →
      ∀ k, k ≤ st1.raft.raftLog.abs.snapIdx → k ≤ st2.raft.raftLog.committed →
        (Snap.FL h c0 st1).entryAt k = (Snap.FL h c0 st2).entryAt k :=
  RaftProps.C01i.Aux.C01_cluster_compacted_prefix_committed cfg c0 h H.toHyp3a m1 s1 hm1 v1 st1 hv1

/-- **a released snapshot is a committed prefix**: every `MsgSnapshot` `x` in the transport of a state
`h[m]` names an index `i > c0` and a term `t` such that there is an earlier step `h[n] → h[n+1]`
(`n < m`) that took the commit index of a node `l`, leader of a term `≤ x.term` after the step, to some
`c' ≥ i`, and the uncompacted log of `l` after that step holds an entry of term `t` at `i` — in its real
log, if that still retains `i`. -/
theorem C01_cluster_snapshot_committed_prefix_partial (cfg : JointConfig) (c0 : Nat) (h : List Sys)
    (H : Snap5.Hyp3r_partial cfg c0 h) (m : Nat) (s : Sys) (hm : h[m]? = some s) (x : Message)
    (hx : x ∈ s.net) (hty : x.msgType = .msgSnapshot) :
    c0 < x.snapshot.metadata.index ∧
    ∃ (n : Nat) (a b : Sys) (l : Nat) (sta stb : NState), n < m ∧ h[n]? = some a ∧
      h[n + 1]? = some b ∧ a.node l = some sta ∧ b.node l = some stb ∧
      stb.raft.state = .leader ∧ sta.raft.raftLog.committed < stb.raft.raftLog.committed ∧
      x.snapshot.metadata.index ≤ stb.raft.raftLog.committed ∧ stb.raft.term ≤ x.term ∧
      Has (Snap.FL h c0 stb) x.snapshot.metadata.index x.snapshot.metadata.term ∧
      (stb.raft.raftLog.abs.snapIdx < x.snapshot.metadata.index →
        Has stb.raft.raftLog.abs x.snapshot.metadata.index x.snapshot.metadata.term) :=
  RaftProps.C01i.Aux.C01_cluster_snapshot_committed_prefix cfg c0 h H.toHyp3a m s hm x hx hty

/-- **snapshot-point term agreement**: if the log of a node `v1` (in any state) starts at a snapshot
point `i > c0` whose term `t` it knows — after it restored a snapshot (pending or installed), or after
a restart —, then `i` is within `v1`'s commit index, and every node `v2`, in any state, whose commit
index reaches `i` holds an entry of term `t` at `i` in its uncompacted log: in its real log if that
retains `i`, and as the term of its own snapshot point if that is `i` and it knows the term.  (With
`C01_cluster_state_machine_safety_ghost`: the prefix a snapshot stands for is the committed prefix of
every node.) -/
theorem C01_cluster_snapshot_point_agreement_partial (cfg : JointConfig) (c0 : Nat) (h : List Sys)
    (H : Snap5.Hyp3r_partial cfg c0 h)
    (m1 : Nat) (s1 : Sys) (hm1 : h[m1]? = some s1) (v1 : Nat) (st1 : NState)
    (hv1 : s1.node v1 = some st1) (t : Nat) (ht : st1.raft.raftLog.abs.snapTerm = some t)
    (hi : c0 < st1.raft.raftLog.abs.snapIdx) :
    st1.raft.raftLog.abs.snapIdx ≤ st1.raft.raftLog.committed ∧
    ∀ (m2 : Nat) (s2 : Sys) (v2 : Nat) (st2 : NState), h[m2]? = some s2 → s2.node v2 = some st2 →
      st1.raft.raftLog.abs.snapIdx ≤ st2.raft.raftLog.committed →
      Has (Snap.FL h c0 st2) st1.raft.raftLog.abs.snapIdx t ∧
      (st2.raft.raftLog.abs.snapIdx < st1.raft.raftLog.abs.snapIdx →
        Has st2.raft.raftLog.abs st1.raft.raftLog.abs.snapIdx t) ∧
      (st2.raft.raftLog.abs.snapIdx = st1.raft.raftLog.abs.snapIdx →
        ∀ t', st2.raft.raftLog.abs.snapTerm = some t' → t' = t) :=
  RaftProps.C01i.Aux.C01_cluster_snapshot_point_agreement cfg c0 h H.toHyp3a m1 s1 hm1 v1 st1 hv1 t ht hi

/-- **a restored snapshot never drops a committed entry, and installs a committed prefix**: in every
state, a node with a pending snapshot `sn` (restored from a `MsgSnapshot`, not yet installed in its
storage) has commit index `sn.index > c0`, an empty unstable log, and nothing persisted beyond
`sn.index`; and its stored commit index never exceeds its commit index. -/
theorem C01_cluster_pending_snapshot_partial (cfg : JointConfig) (c0 : Nat) (h : List Sys)
    (H : Snap5.Hyp3r_partial cfg c0 h) (m : Nat) (s : Sys) (hm : h[m]? = some s) (v : Nat) (st : NState)
    (hv : s.node v = some st) (sn : Snapshot) (hp : st.raft.raftLog.unstable.snapshot = some sn) :
    st.raft.raftLog.unstable.entries = [] ∧ st.raft.raftLog.committed = sn.metadata.index ∧
    c0 < sn.metadata.index ∧ st.raft.raftLog.persisted ≤ sn.metadata.index ∧
    st.raft.raftLog.store.hardState.commit ≤ st.raft.raftLog.committed :=
  RaftProps.C01i.Aux.C01_cluster_pending_snapshot cfg c0 h H.toHyp3a m s hm v st hv sn hp

/-- **every `MsgAppend` is anchored inside its sender's log** (the gap `anch`): in every state
of a history, every `MsgAppend` in the transport, and every one queued at a node, has `log_term ≠ 0` or
`index ≤ c0` -/
theorem C01i_appends_anchored_partial (cfg : JointConfig) (c0 : Nat) (h : List Sys)
    (H : Snap5.Hyp3r_partial cfg c0 h) (n : Nat) (s : Sys) (hn : h[n]? = some s) :
    (∀ x ∈ s.net, x.msgType = .msgAppend → x.logTerm ≠ 0 ∨ x.index ≤ c0) ∧
    (∀ i st, s.node i = some st → ∀ x ∈ st.raft.msgs, x.msgType = .msgAppend →
      x.logTerm ≠ 0 ∨ x.index ≤ c0) :=
  ⟨(Snap5.ci_all H.g n s hn).na, (Snap5.ci_all H.g n s hn).anch trivial⟩

/-- **a leader's progress lies within its log, the `Snapshot` state included**: in every state of a
history, every progress of a leader has `matched ≤ last_index`, `next_idx ≤ last_index + 1`, and — in
the `Snapshot` state — `pending_snapshot ≤ last_index`; and every `MsgSnapshot` a node has queued names
an index within that node's commit index -/
theorem C01i_progress_within_log_partial (cfg : JointConfig) (c0 : Nat) (h : List Sys)
    (H : Snap5.Hyp3r_partial cfg c0 h) (n : Nat) (s : Sys) (hn : h[n]? = some s) (i : Nat) (st : NState)
    (hi : s.node i = some st) :
    (st.raft.state = .leader → ∀ p ∈ st.raft.prs.progress,
      p.2.matched ≤ st.raft.raftLog.lastIndex ∧ p.2.nextIdx ≤ st.raft.raftLog.lastIndex + 1 ∧
      (p.2.state = .snapshot → p.2.pendingSnapshot ≤ st.raft.raftLog.lastIndex)) ∧
    (∀ x ∈ st.raft.msgs, x.msgType = .msgSnapshot →
      x.snapshot.metadata.index ≤ st.raft.raftLog.committed) :=
  ⟨((Snap5.ci_all H.g n s hn).node i st hi).within trivial,
    ((Snap5.ci_all H.g n s hn).node i st hi).qs trivial⟩

/-- **where a `MsgReadIndexResp` comes from** (the gap `norir` / `rirs`): in every state `h[n]`,
every `MsgReadIndexResp` in the transport or queued at a node carries the term of a node that led that
term in some state `h[n0]`, `n0 ≤ n`, with `committed ≥ index`; and every pending read index of a
leader is at most its commit index -/
theorem C01i_read_index_resp_source_partial (cfg : JointConfig) (c0 : Nat) (h : List Sys)
    (H : Snap5.Hyp3r_partial cfg c0 h) (n : Nat) (s : Sys) (hn : h[n]? = some s) :
    (∀ x, (x ∈ s.net ∨ ∃ i st, s.node i = some st ∧ x ∈ st.raft.msgs) →
      x.msgType = .msgReadIndexResp →
      ∃ n0 s0 w stw, n0 ≤ n ∧ h[n0]? = some s0 ∧ s0.node w = some stw ∧
        stw.raft.state = .leader ∧ stw.raft.term = x.term ∧ x.index ≤ stw.raft.raftLog.committed) ∧
    (∀ i st, s.node i = some st → st.raft.state = .leader →
      ∀ p ∈ st.raft.readOnly.pendingReadIndex, p.2.index ≤ st.raft.raftLog.committed) := by
  have c := Snap5.ci_all H.g n s hn
  refine ⟨fun x hx hty => ?_, fun i st hi => (c.node i st hi).rd⟩
  rcases hx with d | ⟨i, st, hi, d⟩
  · exact c.nr x d hty
  · exact c.qr i st hi x d hty


/-- the hypotheses of this file imply those of `RaftProps/C01g2.lean` for the development `Snap5`:
`anch` and `rirs` are theorems -/
theorem C01i_derives_anch_rirs_partial (cfg : JointConfig) (c0 : Nat) (h : List Sys)
    (H : Snap5.Hyp3r_partial cfg c0 h) : Snap5.Hyp3a cfg c0 h := Snap5.Hyp3w.toHyp3a H

/-- **the hypotheses of `RaftProps/C01h.lean` imply the hypotheses of this file**: `Snap5.KStep` is
`Snap2.KStep`, and a node without a pending request satisfies `reqok` -/
theorem C01i_subsumes_C01h (cfg : JointConfig) (c0 : Nat) (h : List Sys)
    (H : Snap2.Hyp3w cfg c0 h) : Snap5.Hyp3r_partial cfg c0 h := Snap5.Hyp3w.of_snap2 H

/-- the bundle, field by field: the hypotheses of C01h with `noreq` replaced by `reqok` -/
theorem C01i_bundle_partial (cfg : JointConfig) (c0 : Nat) (h : List Sys) :
    Snap5.Hyp3r_partial cfg c0 h ↔
    (History h ∧ (∀ s ∈ h, FixedCfg cfg s) ∧ cfg.incoming ≠ [] ∧ cfg.incoming.Nodup ∧
      cfg.outgoing.Nodup ∧ (∀ s : Sys, h[0]? = some s → InitOk s) ∧
      (∀ (n : Nat) (a b : Sys), h[n]? = some a → h[n + 1]? = some b → Snap2.KStep a b) ∧
      (∀ s ∈ h, NoBatch s) ∧
      (∀ s ∈ h, ∀ i st, s.node i = some st → st.raft.pendingRequestSnapshot ≠ 0 →
        st.raft.raftLog.lastIndex ≤ st.raft.pendingRequestSnapshot)) ∧
    (∀ i Q, IsJointQuorum cfg Q → ∃ k ∈ Q, k ≠ i) ∧
    (∀ s : Sys, h[0]? = some s → ∀ i st, s.node i = some st →
      st.raft.raftLog.store.firstIndex = c0 + 1) ∧
    (∀ s : Sys, h[0]? = some s → ∀ i st, s.node i = some st → st.raft.raftLog.committed = c0) ∧
    (∀ s : Sys, h[0]? = some s → ∀ i st, s.node i = some st →
      st.raft.raftLog.unstable.snapshot = none) ∧
    (∀ s0, h[0]? = some s0 → ∀ i sti, s0.node i = some sti → ∀ t0,
      sti.raft.raftLog.abs.snapTerm = some t0 → ∀ j stj, s0.node j = some stj → t0 ≤ stj.raft.term) ∧
    (∀ s ∈ h, ∀ x ∈ s.net, x.msgType = .msgSnapshot → c0 < x.snapshot.metadata.index) := by
  constructor
  · intro H
    exact ⟨⟨H.hist, H.fix, H.ne, H.nd1, H.nd2, H.init,
      fun n a b ha hb => (H.steps n a b ha hb).to_snap2, H.nb, H.reqok⟩,
      H.nolone, H.first0, H.initc, H.pend0, H.snapt0, H.snapidx⟩
  · rintro ⟨⟨h1, h2, h3, h4, h5, h6, h7, h8, h9⟩, g1, g2, g3, g4, g5, g6⟩
    exact { hist := h1, fix := h2, ne := h3, nd1 := h4, nd2 := h5, init := h6,
            steps := fun n a b ha hb => Snap5.KStep.of_snap2 (h7 n a b ha hb), nb := h8, reqok := h9,
            nolone := g1, first0 := g2, initc := g3, pend0 := g4, snapt0 := g5, snapidx := g6 }

/-- **`Raft::restore` on a follower, whatever its pending snapshot request** (the per-call fact that
replaces the only use of `noreq`): the snapshot is not applied (`b = false`: the log is kept, the commit
index stays or is fast-forwarded to a snapshot index the log holds with the snapshot's term, and the
pending request stays), or the log is replaced by the snapshot (`b = true`) — then the snapshot is not
below the commit index, **the log does not hold the snapshot's last entry or a request is pending and
the snapshot is not older than the requested index**, and the request is cleared. -/
theorem C01i_restore_any_request (r r' : Raft) (snap : Snapshot) (b : Bool)
    (hf : r.state = .follower) (h : r.restore snap = .ok (r', b)) :
    r'.msgs = r.msgs ∧ r'.term = r.term ∧ r'.state = r.state ∧ r'.id = r.id ∧
    r'.raftLog.store = r.raftLog.store ∧
    ((b = false ∧ r'.raftLog.unstable = r.raftLog.unstable ∧
        r'.raftLog.persisted = r.raftLog.persisted ∧ r'.raftLog.applied = r.raftLog.applied ∧
        (r'.raftLog.committed = r.raftLog.committed ∨
          (r.raftLog.committed ≤ snap.metadata.index ∧
            r'.raftLog.committed = snap.metadata.index ∧
            r.raftLog.matchTerm snap.metadata.index snap.metadata.term = .ok true ∧
            snap.metadata.index ≤ r.raftLog.lastIndex)) ∧
        r'.pendingRequestSnapshot = r.pendingRequestSnapshot) ∨
     (b = true ∧ r.raftLog.committed ≤ snap.metadata.index ∧
        (r.raftLog.matchTerm snap.metadata.index snap.metadata.term ≠ .ok true ∨
          (r.pendingRequestSnapshot ≠ 0 ∧ r.pendingRequestSnapshot ≤ snap.metadata.index)) ∧
        r.raftLog.restore snap = .ok r'.raftLog ∧ r'.pendingRequestSnapshot = 0)) :=
  restore_full hf h

/-- towards `reqok` (1): **`Raft::request_snapshot`, completely** — dropped (nothing changes), or, on a
non-leader without a pending request, the request index is the last index of the (untouched) log and
one message is queued -/
theorem C01i_request_snapshot_call (r r' : Raft) (e : Option RaftError)
    (h : r.requestSnapshot = .ok (r', e)) :
    r' = r ∨
    (r.state ≠ .leader ∧ r.pendingRequestSnapshot = 0 ∧
      r'.pendingRequestSnapshot = r.raftLog.lastIndex ∧ r'.raftLog = r.raftLog ∧
      r'.state = r.state ∧ ∃ x, r'.msgs = r.msgs ++ [x]) :=
  Snap5.requestSnapshot_out h

/-- towards `reqok` (2): **a follower with a pending snapshot request does not append** -/
theorem C01i_pending_request_blocks_append (r r' : Raft) (m : Message)
    (hp : r.pendingRequestSnapshot ≠ 0) (h : r.handleAppendEntries m = .ok r') :
    r'.raftLog = r.raftLog ∧ r'.pendingRequestSnapshot = r.pendingRequestSnapshot ∧
    r'.state = r.state ∧ ∃ x, r'.msgs = r.msgs ++ [x] :=
  Snap5.handleAppendEntries_req hp h

/-- non-vacuity: the 42-state history `Snap5.rx_hist` — the 34-state snapshot history of C01e / C01h,
continued by: follower 2 learns commit index 2, **calls `request_snapshot`**, sends; leader 1 is
delivered the `MsgAppendResponse` that carries the request, **queues a `MsgSnapshot`**, sends; follower
2 restores the snapshot, installs it, sends — satisfies the new bundle -/
theorem C01i_request_snapshot_nonvacuous :
    Snap5.Hyp3r_partial RaftProps.C02.c02x_cfg 0 Snap5.rx_hist :=
  Snap5.Hyp3a.toHyp3w (Snap5.Hyp3.toHyp3a Snap5.rx_hyp3)

/-- … and that history really exercises `request_snapshot` (kernel-evaluated): the call at node 2
succeeds and sets `pending_request_snapshot = 2`; some state has a node with a pending request; the
transport holds a rejecting `MsgAppendResponse` with `request_snapshot ≠ 0`; a leader has a progress
with `pending_request_snapshot ≠ 0` in the `Snapshot` state and a `MsgSnapshot` for that follower in its
queue; a `MsgSnapshot` for node 2 is in the transport; node 2 restores it **although its log holds the
snapshot's last entry** (`match_term = true`; no snapshot pending before, this one after), and the
request is cleared. -/
theorem C01i_request_snapshot_exercised :
    (∃ res, Node.call Snap5.rx_b10 none .requestSnapshot = .ok (res, Snap5.rx_b11)) ∧
    Snap5.rx_b10.raft.pendingRequestSnapshot = 0 ∧ Snap5.rx_b11.raft.pendingRequestSnapshot = 2 ∧
    Snap5.rx_hist.any Snap5.reqPendingIn = true ∧
    Snap5.rx_hist.any (fun s => s.net.any (fun x => x.msgType == .msgAppendResponse && x.reject &&
      decide (x.requestSnapshot ≠ 0))) = true ∧
    Snap5.rx_hist.any Snap5.reqServedIn = true ∧
    Snap5.rx_hist.any (fun s => s.net.any (fun x => x.msgType == .msgSnapshot && x.to == 2)) = true ∧
    Snap5.rx_b12.raft.raftLog.matchTerm Snap5.rx_snap.snapshot.metadata.index
      Snap5.rx_snap.snapshot.metadata.term = .ok true ∧
    Snap5.rx_b12.raft.raftLog.unstable.snapshot = none ∧
    Snap5.rx_b13.raft.raftLog.unstable.snapshot = some Snap5.rx_snap.snapshot ∧
    Snap5.rx_b13.raft.pendingRequestSnapshot = 0 :=
  Snap5.rx_exercised

/-- `reqok` is strictly weaker than `noreq`: `Snap5.rx_hist` satisfies the new bundle but not `noreq`
(so it is outside the scope of `RaftProps/C01h.lean`) -/
theorem C01i_reqok_strictly_weaker :
    Snap5.Hyp3r_partial RaftProps.C02.c02x_cfg 0 Snap5.rx_hist ∧
    ¬ Snap2.Hyp3w RaftProps.C02.c02x_cfg 0 Snap5.rx_hist :=
  ⟨C01i_request_snapshot_nonvacuous, fun H => Snap5.rx_not_noReq H.noreq⟩

end RaftProps.C01i
