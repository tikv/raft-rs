import RaftProps.C18
import RaftProofs.ProtoLStep
import RaftProps.C05

/-!
# C13 — replication flow control and well-formed append / heartbeat messages

Proved here:
* the in-flight window the leader keeps per follower is a bounded FIFO (C18): `add` is refused
  exactly when `count = cap` or a pending smaller capacity is reached, so at most
  `max_inflight_msgs` entry-carrying appends are outstanding while replicating
  (`C13_window_bound`); a capacity change never loses or reorders a tracked index;
* on the abstract protocol P, **every released append is a contiguous slice of the leader's own log
  anchored at an (index, term) of that log** (`C13_append_is_slice_obligation` for every state,
  `C13_append_is_leader_slice` for every reachable state: a slice of the ghost log of the sender's
  term), with an advertised commit index not above the leader's; **a heartbeat advertises at most the
  leader's commit index and at most what the addressee acknowledged in this term**
  (`C13_heartbeat_obligation`).  The implementation must justify every MsgAppend / MsgHeartbeat it
  generates to P on every trace (this is how finding F8, `try_batching` gluing non-contiguous
  entries, was found).

Decided on implementation traces by monitors (node-local code of `raft.rs`/`progress.rs` not yet
modelled): contiguity of every released append, size bound (`max_size_per_msg` unless a single
entry, batching off), commit fields, no progress beyond the leader's log, window / probe / snapshot
pause discipline, uncommitted-size accounting.
-/
namespace RaftProps.C13
open RaftModel RaftModel.P

/-- while replicating, the number of outstanding entry-carrying appends never exceeds the window
capacity: `add` succeeds only on a non-full window, and the window never holds more than `cap` -/
theorem C13_window_bound (cap : Nat) (ops : List InfOp) (hl : RaftProps.C18.legal (Fifo.new cap) ops = true) :
    ∃ s', RaftProps.C18.runRing (Inflights.new cap) ops = .ok s' ∧ s'.count ≤ s'.cap ∧
      (s'.full = true → ∀ x, s'.add x = .error "inflights.add.full") := by
  obtain ⟨s', e, i, _⟩ := RaftProps.C18.C18_refines cap ops hl
  exact ⟨s', e, i.count_le, fun hf x => RaftProps.C18.C18_add_on_full_panics s' x hf⟩

/-- every append a node releases is a slice of its own log, anchored at an (index, term) of that
log, with a commit field not above its commit index — and only a leader releases appends -/
theorem C13_append_is_slice_obligation (s s' : PSys) (i : Nat) (m : App)
    (h : applyEvent s (.sendApp i m) = .ok s') :
    (s.nodes i).role = 2 ∧ m.term = (s.nodes i).term ∧ m.prev ≤ (s.nodes i).log.length ∧
    m.prevTerm = termAt (s.nodes i).log m.prev ∧
    m.es = ((s.nodes i).log.drop m.prev).take m.es.length ∧ m.commit ≤ (s.nodes i).commit := by
  obtain ⟨hg, rfl⟩ := of_guard_ok h
  exact ⟨hg.2.1, hg.2.2.1, hg.2.2.2.2.1, hg.2.2.2.2.2.1, hg.2.2.2.2.2.2.1, hg.2.2.2.2.2.2.2⟩

/-- in every reachable state, every released append is a contiguous slice of the log of the leader
of its term -/
theorem C13_append_is_leader_slice (s : PSys)
    (hr : Reach s) (m : App) (hm : m ∈ s.apps) :
    m.prev + m.es.length ≤ (s.llog m.term).length ∧
    m.es = ((s.llog m.term).drop m.prev).take m.es.length ∧
    m.prevTerm = termAt (s.llog m.term) m.prev :=
  RaftProps.C05.C05_append_is_leader_slice s hr m hm

/-- a heartbeat advertises at most the leader's commit index and at most an index the addressee
acknowledged in this term -/
theorem C13_heartbeat_obligation (s s' : PSys) (i to c : Nat) (h : applyEvent s (.sendHB i to c) = .ok s') :
    (s.nodes i).role = 2 ∧ c ≤ (s.nodes i).commit ∧
    (c = 0 ∨ ∃ a ∈ s.acks, a.term = (s.nodes i).term ∧ a.frm = to ∧ c ≤ a.idx) := by
  obtain ⟨hg, rfl⟩ := of_guard_ok h
  refine ⟨hg.2.1, hg.2.2.1, ?_⟩
  rcases hg.2.2.2 with h0 | h1
  · exact Or.inl h0
  · simp only [List.any_eq_true, Bool.and_eq_true, decide_eq_true_eq] at h1
    obtain ⟨a, ha, h2⟩ := h1
    exact Or.inr ⟨a, ha, h2.1, h2.2.1, h2.2.2⟩

/-- growing, shrinking or releasing the window buffer at run time (`adjust_max_inflight_msgs`)
keeps exactly the tracked indexes in order -/
theorem C13_resize_keeps_window (s : Inflights) (h : s.Inv) (n : Nat) :
    ∃ s', s.setCap n = .ok s' ∧ s'.contents = s.contents :=
  (RaftProps.C18.C18_resize_keeps_contents s h n).1

end RaftProps.C13
