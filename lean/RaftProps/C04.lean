import RaftProofs.ProtoC
import RaftProofs.ProtoVol
import RaftProps.C13
import RaftProps.C03

/-!
# C04 — commit rule: only own-term entries that are durable on a quorum

What is proved here are the **commit obligations of P**, read off its step function: which evidence
every commit-index advance of a leader and of a non-leader needs, for every state and every event.
The implementation is held to exactly these obligations on every trace (each commit advance of the
real code must be justified to P by one of the five commit events; what every event does to the commit
index of a node is `vol_step` in `RaftProofs/ProtoVol.lean`, and except at a restart it never
decreases, `C04_commit_monotone`).

The global consequences are proved for every reachable state of every history (the voter
configuration may change along it): every commit index of every node lies within an index some
leader of a term not beyond the node's committed by the quorum rule (`C04_commit_within_leader_commit`),
every such leader commit is backed by a deciding quorum of released acknowledgements of an own-term
entry (`C04_leader_commit_evidence`), and the committed prefix is held in the **durable** log of
every member of such a quorum in that state and in every later one (`C04_committed_durable_on_quorum`)
— so it survives the simultaneous crash of all nodes, and the loss of any set of nodes that leaves
one member of each deciding quorum.  On implementation traces the monitors `C04` (durable on a
majority of each voter set at the moment of the advance, own-term entry) and `C01` (agreement)
check the same directly.  Membership changes are covered: the configuration in force is part of the
`commitLeader` event and recorded with the commit.
-/
namespace RaftProps.C04
open RaftModel.P

/-- **Leader commit rule**: a leader's commit index moves to `c` only if the entry at `c` carries
the leader's current term and every member of a deciding quorum has *released* an acknowledgement
for this term that covers `c` — the leader itself included: its own acknowledgement is generated by
`ackSelf` and, like every acknowledgement, released only once an image taken after its generation
is durable (`C04_ack_release_obligation`), i.e. the leader counts itself only for what it has
itself persisted. -/
theorem C04_leader_commit_obligation (s s' : PSys) (i c : Nat) (cfg : Cfg) (q : List Nat)
    (h : applyEvent s (.commitLeader i c cfg q) = .ok s') :
    (s.nodes i).role = 2 ∧ (s.nodes i).commit < c ∧ c ≤ (s.nodes i).log.length ∧
    termAt (s.nodes i).log c = (s.nodes i).term ∧ cfg.isQuorum q = true ∧
    ∀ v ∈ q, ∃ a ∈ s.acks, a.term = (s.nodes i).term ∧ a.frm = v ∧ c ≤ a.idx := by
  obtain ⟨_, h2, h3, h4, h5, h6, h7, _⟩ := commitLeader_guard h
  exact ⟨h2, h3, h4, h5, h6, h7⟩

/-- an acknowledgement (a follower's or the leader's own) is released only if it is covered by the
durable image: it was generated before an image that has since been made durable -/
theorem C04_ack_release_obligation (s s' : PSys) (i t f idx : Nat) (pre : List LEntry)
    (h : applyEvent s (.release i (.ack t f idx pre)) = .ok s') :
    ∃ pre', OMsg.ack t f idx pre' ∈ (s.nodes i).dacks ∧ s'.acks = ⟨t, f, idx, pre'⟩ :: s.acks := by
  simp only [applyEvent, ok] at h
  split at h
  · split at h
    · rename_i m hm
      split at h
      · rename_i hg
        have hmem : m ∈ (s.nodes i).dacks := List.mem_of_find?_eq_some hm
        have hk := List.find?_some hm
        cases m with
        | ack t' f' idx' pre' =>
          simp only [sameKey, Bool.and_eq_true, beq_iff_eq] at hk
          obtain ⟨⟨h1, h2⟩, h3⟩ := hk
          subst h1; subst h2; subst h3
          simp only [addReleased] at h
          cases h
          exact ⟨pre', hmem, rfl⟩
        | voteReq a b c d => simp [OMsg.isAck] at hg
        | grant a b c d => simp [OMsg.isAck] at hg
      · cases h
    · cases h
  · rename_i hk; simp [OMsg.isAck] at hk

/-- the leader's own acknowledgement is generated only by a leader, for a prefix of its own log -/
theorem C04_ackSelf_obligation (s s' : PSys) (i idx : Nat) (h : applyEvent s (.ackSelf i idx) = .ok s') :
    (s.nodes i).role = 2 ∧ idx ≤ (s.nodes i).log.length ∧
    (s'.nodes i).outbox = (s.nodes i).outbox ++ [.ack (s.nodes i).term i idx ((s.nodes i).log.take idx)] := by
  obtain ⟨hg, rfl⟩ := of_guard_ok h
  exact ⟨hg.2.1, hg.2.2, by simp [upd]⟩

/-- the new commit index after a leader commit is exactly `c`, and nothing else of the node changes -/
theorem C04_leader_commit_effect (s s' : PSys) (i c : Nat) (cfg : Cfg) (q : List Nat)
    (h : applyEvent s (.commitLeader i c cfg q) = .ok s') :
    (s'.nodes i).commit = c ∧ (s'.nodes i).log = (s.nodes i).log ∧ (s'.nodes i).term = (s.nodes i).term := by
  obtain ⟨_, rfl⟩ := of_guard_ok h
  simp [upd]

/-- **Follower commit rule (append)**: the commit index follows a released append of the current
term, never beyond the append's commit field nor beyond the last entry that append matched. -/
theorem C04_follower_commit_by_append (s s' : PSys) (i c : Nat) (m : App)
    (h : applyEvent s (.commitApp i c m) = .ok s') :
    m ∈ s.apps ∧ m.term = (s.nodes i).term ∧ c ≤ m.commit ∧ c ≤ m.prev + m.es.length ∧
    c ≤ (s.nodes i).log.length ∧ conflictAt (s.nodes i).log m.prev m.es = 0 := by
  obtain ⟨hg, rfl⟩ := of_guard_ok h
  exact ⟨by simpa [List.contains_iff_mem] using hg.2.1, hg.2.2.1, hg.2.2.2.2.1, hg.2.2.2.2.2.1,
    hg.2.2.2.2.2.2.1, hg.2.2.2.2.2.2.2.2⟩

/-- **Follower commit rule (heartbeat)**: only up to the commit field of a released heartbeat of the
current term addressed to this node, and never beyond the local log. -/
theorem C04_follower_commit_by_heartbeat (s s' : PSys) (i c : Nat) (m : HB)
    (h : applyEvent s (.commitHB i c m) = .ok s') :
    m ∈ s.hbs ∧ m.term = (s.nodes i).term ∧ m.to = i ∧ c ≤ m.commit ∧ c ≤ (s.nodes i).log.length := by
  obtain ⟨hg, rfl⟩ := of_guard_ok h
  exact ⟨by simpa [List.contains_iff_mem] using hg.2.1, hg.2.2.1, hg.2.2.2.1, hg.2.2.2.2.2.1, hg.2.2.2.2.2.2⟩

/-- a heartbeat never advertises more than the leader's commit index nor more than the addressee
acknowledged in this term -/
theorem C04_heartbeat_obligation (s s' : PSys) (i to c : Nat) (h : applyEvent s (.sendHB i to c) = .ok s') :
    (s.nodes i).role = 2 ∧ c ≤ (s.nodes i).commit ∧
    (c = 0 ∨ ∃ a ∈ s.acks, a.term = (s.nodes i).term ∧ a.frm = to ∧ c ≤ a.idx) :=
  RaftProps.C13.C13_heartbeat_obligation s s' i to c h

/-- **Commit by (index, term) evidence** (vote traffic, read-index responses): only to an index whose
local entry carries the advertised term, the evidence having been released by a node whose own
commit index covered it and whose term is not beyond the committing node's (finding F12). -/
theorem C04_follower_commit_by_claim (s s' : PSys) (i : Nat) (m : Claim)
    (h : applyEvent s (.commitClaim i m) = .ok s') :
    (∃ c ∈ s.claims, c.idx = m.idx ∧ c.term = m.term ∧ c.cterm ≤ (s.nodes i).term) ∧
    m.idx ≤ (s.nodes i).log.length ∧ termAt (s.nodes i).log m.idx = m.term := by
  obtain ⟨hg, rfl⟩ := of_guard_ok h
  refine ⟨?_, hg.2.2.2.1, hg.2.2.2.2⟩
  have := hg.2.1
  simp only [List.any_eq_true, decide_eq_true_eq] at this
  exact this

theorem C04_claim_obligation (s s' : PSys) (i idx : Nat) (h : applyEvent s (.claim i idx) = .ok s') :
    idx ≤ (s.nodes i).commit ∧ s'.claims = ⟨idx, termAt (s.nodes i).log idx, (s.nodes i).term⟩ :: s.claims := by
  obtain ⟨hg, rfl⟩ := of_guard_ok h
  exact ⟨hg.2.1, rfl⟩

/-- the commit index of a node moves only by one of the commit events, a snapshot install, a
restart (back to the durable commit index) or a bootstrap; and except for a restart it never
decreases -/
theorem C04_commit_monotone (s s' : PSys) (e : Event) (h : applyEvent s e = .ok s')
    (hnr : ∀ i, e ≠ .restart i) (j : Nat) : (s.nodes j).commit ≤ (s'.nodes j).commit := by
  cases vol_step h j with
  | keep _ _ _ hc | install _ _ _ _ _ _ hc => exact hc
  | role0 _ _ _ hc | cand _ _ _ _ _ hc | win _ _ _ _ _ _ _ hc | bump _ _ _ hc | append _ _ _ _ _ _ hc
  | merge _ _ _ _ hc => exact Nat.le_of_eq hc.symm
  | restart he => exact absurd he (hnr j)
  | boot _ _ _ hf => rw [hf.commit]; exact Nat.zero_le _

/-- every commit index of every node, leader or not, lies within an index committed by some leader
(of a term not beyond the node's) under the quorum rule -/
theorem C04_commit_within_leader_commit (s : PSys)
    (hr : Reach s) (i : Nat) (h0 : 0 < (s.nodes i).commit) :
    ∃ p ∈ s.cmts, (s.nodes i).commit ≤ p.2 ∧ p.1 ≤ (s.nodes i).term ∧
      (s.nodes i).log.take (s.nodes i).commit = (s.llog p.1).take (s.nodes i).commit := by
  rcases (invAll_reachR s hr).c.c3.cm i with h | ⟨p, hp, h1, h2, h3⟩
  · omega
  · exact ⟨p, hp, h1, h2, h3⟩

/-- every recorded leader commit is of an own-term entry acknowledged (released = durably covered)
by every member of a deciding quorum -/
theorem C04_leader_commit_evidence (s : PSys)
    (hr : Reach s) (p : Nat × Nat) (hp : p ∈ s.cmts) :
    0 < p.2 ∧ termAt (s.llog p.1) p.2 = p.1 ∧
    ∃ cfg q, (p, cfg) ∈ s.ccfgs ∧ cfg.isQuorum q = true ∧
      ∀ v ∈ q, ∃ a ∈ s.acks, a.term = p.1 ∧ a.frm = v ∧ p.2 ≤ a.idx :=
  RaftProps.C03.C03_commit_evidence s hr p hp

/-- **a committed prefix is durable on a deciding quorum, in the state of the commit and ever after** -/
theorem C04_committed_durable_on_quorum (s : PSys)
    (hr : Reach s) (p : Nat × Nat) (hp : p ∈ s.cmts) :
    ∃ cfg q, (p, cfg) ∈ s.ccfgs ∧ cfg.isQuorum q = true ∧
      ∀ v ∈ q, (s.nodes v).dlog.take p.2 = (s.llog p.1).take p.2 := by
  have I := invAll_reachR s hr
  exact committed_durable_on_quorum I.a I.b I.c p hp

/-- ... hence any set of nodes that meets every deciding quorum (e.g. what is left after the crash of a
minority of each voter set) contains a node whose durable log holds the committed prefix -/
theorem C04_survives_minority_crash (s : PSys)
    (hr : Reach s) (p : Nat × Nat) (hp : p ∈ s.cmts) :
    ∃ cfg, (p, cfg) ∈ s.ccfgs ∧ ∀ (c' : Cfg) (alive : List Nat), adjOk c' cfg = true → c'.isQuorum alive = true →
      ∃ v ∈ alive, (s.nodes v).dlog.take p.2 = (s.llog p.1).take p.2 := by
  obtain ⟨cfg, q, hc, hq', h⟩ := C04_committed_durable_on_quorum s hr p hp
  refine ⟨cfg, hc, ?_⟩
  intro c' alive hadj hq
  obtain ⟨v, hv1, hv2⟩ := adj_intersect c' cfg hadj alive q hq hq'
  exact ⟨v, hv1, h v hv2⟩

/-- agreement of the committed prefixes of any two nodes (C01) -/
theorem C04_agreement (s : PSys) (hr : Reach s)
    (i j k : Nat) (hi : k ≤ (s.nodes i).commit) (hj : k ≤ (s.nodes j).commit) :
    (s.nodes i).log.take k = (s.nodes j).log.take k := by
  have I := invAll_reachR s hr
  exact sm_safety I.b I.c i j k hi hj

/-- the full statement of the property as the design wrote it down (`C04_full_statement`), for histories in which the voter
configuration changes -/
theorem C04_full : ∀ (s : PSys), Reach s → ∀ i j k,
    k ≤ (s.nodes i).commit → k ≤ (s.nodes j).commit →
      (s.nodes i).log.take k = (s.nodes j).log.take k :=
  fun s hr i j k hi hj => C04_agreement s hr i j k hi hj

/-! ### non-vacuity: a leader of term 1 in a 3-voter group commits its entry once a follower's
acknowledgement is released, and not before -/

def c3 : Cfg := ⟨[1, 2, 3], []⟩
def e1 : LEntry := ⟨1, 0, 7⟩

def elect : List Event :=
  [.bump 1 1, .campaign 1, .rdy 1, .persist 1 1, .release 1 (.grant 1 1 1 {}), .release 1 (.voteReq 1 1 0 0),
   .bump 2 1, .grant 2 1, .rdy 2, .persist 2 1, .release 2 (.grant 1 2 1 {}), .win 1 c3 [1, 2],
   .leaderAppend 1 e1, .ackSelf 1 1, .rdy 1, .persist 1 1, .release 1 (.ack 1 1 1 []), .sendApp 1 ⟨1, 1, 0, 0, [e1], 0⟩,
   .recvApp 2 ⟨1, 1, 0, 0, [e1], 0⟩]

example : (match run init (elect ++ [.commitLeader 1 1 c3 [1, 2]]) with
    | .ok _ => "committed" | .error _ => "refused") = "refused" := by decide +kernel

example : (match run init (elect ++ [.rdy 2, .persist 2 1, .release 2 (.ack 1 2 1 []),
      .commitLeader 1 1 c3 [1, 2]]) with
    | .ok s => (s.nodes 1).commit | .error _ => 99) = 1 := by decide +kernel

end RaftProps.C04
