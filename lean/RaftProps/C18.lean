import RaftProofs.Inflights

/-!
# C18 — the in-flight window is a bounded FIFO under resizing

Property theorems only (helper lemmas live in `RaftProofs/Inflights.lean`).  The model
`RaftModel.Inflights` mirrors `src/tracker/inflights.rs` method by method; `RaftModel.Fifo` is the
specification ("a bounded FIFO of indexes with a deferred capacity reduction").

All theorems quantify over every initial capacity (0 included), every operation sequence of every
length, every argument value.  An operation sequence is *legal* when `add` is only called while the
window is not full (the documented precondition: "Calling it between `self.full()` and `self.add()`
can cause a panic"); the behaviour of `add` on a full window is settled separately
(`C18_add_on_full_panics`).
-/
namespace RaftProps.C18
open RaftModel

/-- run the ring over an operation list; stops at the first panic -/
def runRing : Inflights → List InfOp → Except String Inflights
  | s, [] => .ok s
  | s, op :: ops => match s.step op with
    | .ok s' => runRing s' ops
    | .error e => .error e

def runFifo : Fifo → List InfOp → Fifo
  | f, [] => f
  | f, op :: ops => runFifo (f.step op) ops

/-- `add` is only issued while the specification says "not full" -/
def legal : Fifo → List InfOp → Bool
  | _, [] => true
  | f, op :: ops =>
    (match op with
      | .add _ => !f.full
      | _ => true) && legal (f.step op) ops

theorem step_refines (s : Inflights) (h : s.Inv) (op : InfOp)
    (hl : ∀ x, op = .add x → s.abs.full = false) :
    ∃ s', s.step op = .ok s' ∧ s'.Inv ∧ s'.abs = s.abs.step op := by
  cases op with
  | add x =>
    have hf : s.full = false := by rw [Inflights.full_abs]; exact hl x rfl
    exact Inflights.add_refines s h x hf
  | freeTo t => exact Inflights.freeTo_refines s h t
  | freeFirstOne => exact Inflights.freeFirstOne_refines s h
  | reset => exact ⟨_, rfl, (Inflights.reset_refines s h).1, (Inflights.reset_refines s h).2⟩
  | setCap n => exact Inflights.setCap_refines s h n
  | maybeFreeBuffer =>
    exact ⟨_, rfl, (Inflights.maybeFreeBuffer_refines s h).1, (Inflights.maybeFreeBuffer_refines s h).2⟩

/-- **Main refinement theorem.**  From any state satisfying the ring invariant, every legal operation
sequence runs without panic, re-establishes the invariant and ends in a ring whose meaning is the
state the FIFO specification reaches. -/
theorem C18_refines_from (s : Inflights) (h : s.Inv) (ops : List InfOp)
    (hl : legal s.abs ops = true) :
    ∃ s', runRing s ops = .ok s' ∧ s'.Inv ∧ s'.abs = runFifo s.abs ops := by
  induction ops generalizing s with
  | nil => exact ⟨s, rfl, h, rfl⟩
  | cons op ops ih =>
    simp only [legal, Bool.and_eq_true] at hl
    obtain ⟨s1, e1, i1, a1⟩ := step_refines s h op (by
      intro x hx; subst hx; simpa using hl.1)
    obtain ⟨s2, e2, i2, a2⟩ := ih s1 i1 (by rw [a1]; exact hl.2)
    refine ⟨s2, ?_, i2, ?_⟩
    · simp only [runRing, e1]; exact e2
    · rw [a2, a1]; rfl

/-- every reachable window: from `Inflights::new(cap)` with any capacity -/
theorem C18_refines (cap : Nat) (ops : List InfOp) (hl : legal (Fifo.new cap) ops = true) :
    ∃ s', runRing (Inflights.new cap) ops = .ok s' ∧ s'.Inv ∧
      s'.abs = runFifo (Fifo.new cap) ops := by
  have := C18_refines_from (Inflights.new cap) (Inflights.inv_new cap) ops
    (by simpa [Inflights.abs, Inflights.new, Inflights.items, Fifo.new] using hl)
  simpa [Inflights.abs, Inflights.new, Inflights.items, Fifo.new] using this

/-- the observables of a ring in a state satisfying the invariant are those of its FIFO meaning:
`count()`, `full()`, and the window contents read through the ring indexes with `% cap`. -/
theorem C18_observables (s : Inflights) (h : s.Inv) :
    s.count = s.abs.items.length ∧ s.full = s.abs.full ∧ s.contents = s.abs.items := by
  refine ⟨by simp [Inflights.abs], Inflights.full_abs s, ?_⟩
  rw [← Inflights.items_eq_contents s h]; rfl

/-- `add` succeeds whenever the window is not full (and appends at the back). -/
theorem C18_add_succeeds (s : Inflights) (h : s.Inv) (x : Nat) (hf : s.full = false) :
    ∃ s', s.add x = .ok s' ∧ s'.contents = s.contents ++ [x] ∧ s'.count = s.count + 1 := by
  obtain ⟨s', e, i, a⟩ := Inflights.add_refines s h x hf
  refine ⟨s', e, ?_, ?_⟩
  · rw [← Inflights.items_eq_contents s' i, ← Inflights.items_eq_contents s h]
    have := congrArg Fifo.items a
    simpa [Inflights.abs, Fifo.add] using this
  · have := congrArg (fun f => f.items.length) a
    simpa [Inflights.abs, Fifo.add] using this

/-- `add` on a full window is the documented panic, in every state. -/
theorem C18_add_on_full_panics (s : Inflights) (x : Nat) (hf : s.full = true) :
    s.add x = .error "inflights.add.full" := Inflights.add_full s x hf

/-- freeing removes exactly the longest prefix of indexes not greater than `to` … -/
theorem C18_freeTo_prefix (s : Inflights) (h : s.Inv) (to : Nat) :
    ∃ s', s.freeTo to = .ok s' ∧
      s'.contents = s.contents.dropWhile (fun b => decide (b ≤ to)) := by
  obtain ⟨s', e, i, a⟩ := Inflights.freeTo_refines s h to
  refine ⟨s', e, ?_⟩
  rw [← Inflights.items_eq_contents s' i, ← Inflights.items_eq_contents s h]
  have := congrArg Fifo.items a
  simp only [Inflights.abs, Fifo.freeTo, Fifo.drained] at this
  rw [this]
  split <;> simp_all

/-- … which, for the strictly increasing windows the leader produces, is *every* tracked index
`≤ to` and nothing else. -/
theorem C18_freeTo_exact (l : List Nat) (hs : l.Pairwise (· < ·)) (to : Nat) :
    l.dropWhile (fun b => decide (b ≤ to)) = l.filter (fun b => decide (to < b)) := by
  induction l with
  | nil => rfl
  | cons a l ih =>
    rw [List.pairwise_cons] at hs
    by_cases ha : a ≤ to
    · have hna : ¬ to < a := by omega
      simp [List.dropWhile_cons, List.filter_cons, ha, hna, ih hs.2]
    · have ha' : to < a := by omega
      simp only [List.dropWhile_cons, ha, decide_false, Bool.false_eq_true, if_false,
        List.filter_cons, ha', decide_true, if_true]
      congr 1
      symm
      rw [List.filter_eq_self]
      intro b hb
      have := hs.1 b hb
      simp; omega

/-- invariant of the specification: the window never holds more than `cap` indexes, and a deferred
(reduced) capacity exists only while the window is non-empty and is smaller than `cap`. -/
def FifoInv (f : Fifo) : Prop :=
  f.items.length ≤ f.cap ∧ ∀ c, f.pending = some c → f.items ≠ [] ∧ c < f.cap

theorem fifoInv_of_inv (s : Inflights) (h : s.Inv) : FifoInv s.abs := by
  refine ⟨by simpa [Inflights.abs] using h.count_le, ?_⟩
  intro c hc
  have := h.pend c (by simpa [Inflights.abs] using hc)
  refine ⟨?_, this.2⟩
  intro hn
  have := (Inflights.items_eq_nil_iff s).1 (by simpa [Inflights.abs] using hn)
  omega

/-- **Bounded**: in every reachable state the window holds at most `cap` indexes. -/
theorem C18_bounded (cap : Nat) (ops : List InfOp) (hl : legal (Fifo.new cap) ops = true) :
    FifoInv (runFifo (Fifo.new cap) ops) := by
  obtain ⟨s', _, i, a⟩ := C18_refines cap ops hl
  rw [← a]; exact fifoInv_of_inv s' i

/-- **A reduced capacity takes effect no later than when the window drains**: while a reduction to
`c` is pending, `full` already honours it, and any operation (other than a further `set_cap`) that
leaves the window empty installs `c` as the capacity. -/
theorem C18_shrink_takes_effect (f : Fifo) (hi : FifoInv f) (c : Nat) (hp : f.pending = some c) :
    (c ≤ f.items.length → f.full = true) ∧
    ∀ op, (∀ n, op ≠ .setCap n) → (f.step op).items = [] →
      (f.step op).cap = c ∧ (f.step op).pending = none := by
  obtain ⟨_, hpend⟩ := hi
  have hne := (hpend c hp).1
  refine ⟨?_, ?_⟩
  · intro hc; simp [Fifo.full, hp, hc]
  · intro op hop hnil
    cases op with
    | add x => simp [Fifo.step, Fifo.add] at hnil
    | freeTo t =>
      simp only [Fifo.step, Fifo.freeTo, Fifo.drained] at hnil ⊢
      split at hnil <;> simp_all
    | freeFirstOne =>
      simp only [Fifo.step, Fifo.freeFirstOne] at hnil ⊢
      cases hit : f.items with
      | nil => exact absurd hit hne
      | cons b l =>
        simp only [hit, Fifo.freeTo, Fifo.drained] at hnil ⊢
        split at hnil <;> simp_all
    | reset => simp [Fifo.step, Fifo.reset, hp]
    | setCap n => exact absurd rfl (hop n)
    | maybeFreeBuffer => simp [Fifo.step] at hnil; exact absurd hnil hne

/-- growing, shrinking or releasing the buffer loses, duplicates and reorders nothing. -/
theorem C18_resize_keeps_contents (s : Inflights) (h : s.Inv) (n : Nat) :
    (∃ s', s.setCap n = .ok s' ∧ s'.contents = s.contents) ∧
    s.maybeFreeBuffer.contents = s.contents := by
  refine ⟨?_, ?_⟩
  · obtain ⟨s', e, i, a⟩ := Inflights.setCap_refines s h n
    refine ⟨s', e, ?_⟩
    rw [← Inflights.items_eq_contents s' i, ← Inflights.items_eq_contents s h]
    have := congrArg Fifo.items a
    simp only [Inflights.abs, Fifo.setCap] at this
    rw [this]
    by_cases h1 : s.cap ≤ n
    · simp [h1]
    · by_cases h2 : s.items = [] <;> simp [h1, h2]
  · have := Inflights.maybeFreeBuffer_refines s h
    rw [← Inflights.items_eq_contents _ this.1, ← Inflights.items_eq_contents s h]
    exact congrArg Fifo.items this.2

/-- no ring operation can hit an index-out-of-bounds / assertion site from a state satisfying the
invariant; the only reachable panic is `add` on a full window. -/
theorem C18_no_internal_panic (s : Inflights) (h : s.Inv) (op : InfOp) :
    (∃ s', s.step op = .ok s') ∨ (∃ x, op = .add x ∧ s.full = true) := by
  by_cases hf : ∃ x, op = .add x ∧ s.full = true
  · exact Or.inr hf
  · left
    obtain ⟨s', e, _, _⟩ := step_refines s h op (by
      intro x hx
      rw [← Inflights.full_abs]
      cases hfs : s.full
      · rfl
      · exact absurd ⟨x, hx, hfs⟩ hf)
    exact ⟨s', e⟩

/-! ### Non-vacuity: a wrapped ring with a pending capacity reduction satisfies the hypotheses -/

/-- capacity 3, two frees and two more adds: the window [3,4,5] lies wrapped in the buffer
`[4,5,3]`, and a reduction to 1 is pending. -/
def witness : Inflights :=
  { start := 2, count := 3, buffer := [4, 5, 3], cap := 3, incomingCap := some 1, alloc := true }

example : witness.Inv := by
  constructor <;> simp [witness]

example : witness.contents = [3, 4, 5] := by decide +kernel

example : runRing (Inflights.new 3)
    [.add 1, .add 2, .add 3, .freeTo 2, .add 4, .add 5, .setCap 1] = .ok witness := by rfl

example : legal (Fifo.new 3) [.add 1, .add 2, .add 3, .freeTo 2, .add 4, .add 5, .setCap 1] = true := by
  decide +kernel

end RaftProps.C18
