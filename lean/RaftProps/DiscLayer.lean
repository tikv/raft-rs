import RaftProofs.ProtoDisc
import RaftProps.CfgLayer

/-!
# The discipline layer PD: the headline theorems from single-call facts

PC (`RaftModel/ProtoCfg.lean`) checks, at a `win`, a `commitLeader` and a read answer, *local*
conditions that mention the node's applied index.  PD (`RaftModel/ProtoDisc.lean`) tracks the applied
index and the leader's `pending_conf_index` and enforces only what single library calls of raft-rs
enforce (`advance_apply_to`, `Raft::new`, `hup`, the `pending_conf_index` gate of `step_leader`,
`become_leader`, the commit field of `MsgAppend`, `handle_append_entries`).
`RaftProofs/ProtoDisc.lean` proves that on every reachable state of PD the local conditions of PC —
all but the lookup of the configuration in the version table — are implied
(`win_local_redundant`, `commit_local_redundant`, `read_local_redundant`), so every PD history is a PC
history (`reach_pc`), hence a P history.

Here: the headline theorems (C01, C02, C03, C04, C08, C15) restated over PD — one-line corollaries
through `reach_pc` — and concrete PD histories: a membership change carried through with `apply`, a
later `campaign` / `win` / `commitLeader` under version 1, and the single-call guards refusing.
-/
namespace RaftProps.DiscLayer
open RaftModel.P RaftProps.CfgLayer
open RaftProps.C01 (Reports)

/-! ### PD histories are PC histories -/

/-- continuations of a PD history -/
inductive StepsD : DSys → DSys → Prop where
  | refl (D : DSys) : StepsD D D
  | tail {D D' D'' : DSys} (e : DEvent) : StepsD D D' → applyEventD D' e = .ok D'' → StepsD D D''

theorem reachPD_of_stepsD {D D' : DSys} (hr : ReachPD D) (h : StepsD D D') : ReachPD D' := by
  induction h with
  | refl => exact hr
  | tail e _ hs ih => exact .step e ih hs

theorem stepsD_pc {D D' : DSys} (h : StepsD D D') : StepsC D.pc D'.pc := by
  induction h with
  | refl => exact .refl _
  | tail e _ hs ih =>
    rcases stepD_steps hs with h1 | ⟨e', h1⟩ | ⟨e1, e2, S, h1, h2⟩
    · rw [h1]; exact ih
    · exact .tail e' ih h1
    · exact .tail e2 (.tail e1 ih h1) h2

/-- a run of PD projects to a run of PC -/
theorem runD_pc : ∀ (es : List DEvent) (D D' : DSys), runD D es = .ok D' →
    ∃ es', runC D.pc es' = .ok D'.pc := by
  intro es
  induction es with
  | nil => intro D D' h; simp only [runD] at h; cases h; exact ⟨[], rfl⟩
  | cons e es ih =>
    intro D D' h
    simp only [runD] at h
    split at h
    · rename_i D1 h1
      obtain ⟨es1, hes1⟩ := ih D1 D' h
      rcases stepD_steps h1 with hb | ⟨e', hb⟩ | ⟨e1, e2, S, hb1, hb2⟩
      · rw [hb] at hes1; exact ⟨es1, hes1⟩
      · refine ⟨e' :: es1, ?_⟩
        simp only [runC, hb]; exact hes1
      · refine ⟨e1 :: e2 :: es1, ?_⟩
        simp only [runC, hb1, hb2]; exact hes1
    · cases h

theorem reachPD_runD : ∀ (es : List DEvent) (D D' : DSys), ReachPD D → runD D es = .ok D' → ReachPD D' := by
  intro es
  induction es with
  | nil => intro D D' hr h; simp only [runD] at h; cases h; exact hr
  | cons e es ih =>
    intro D D' hr h
    simp only [runD] at h
    split at h
    · rename_i D1 h1; exact ih D1 D' (.step e hr h1) h
    · cases h

/-! ### PC's local conditions are implied -/

/-- the local condition of PC's `win`, for the tracked applied index: only the table lookup is left -/
theorem win_local (D : DSys) (hr : ReachPD D) (i : Nat) (cfg : Cfg) (q : List Nat)
    (hcore : winCore D.pc.base i cfg q = true)
    (htab : D.pc.vtab[confCount ((D.pc.base.nodes i).log.take (D.applied i))]? = some cfg) :
    winLocal D.pc i cfg (D.applied i) :=
  (winLocalB_iff _ _ _ _).1 (win_local_redundant D hr i cfg q hcore htab)

theorem commit_local (D : DSys) (hr : ReachPD D) (i c : Nat) (cfg : Cfg) (q : List Nat)
    (hcore : commitCore D.pc.base i c cfg q = true)
    (htab : D.pc.vtab[confCount ((D.pc.base.nodes i).log.take (D.applied i))]? = some cfg) :
    commitLocal D.pc i c cfg (D.applied i) :=
  (commitLocalB_iff _ _ _ _ _).1 (commit_local_redundant D hr i c cfg q hcore htab)

theorem read_local (D : DSys) (hr : ReachPD D) (i rid idx : Nat) (cfg : Cfg)
    (hcore : respCore D.pc.base i rid idx cfg = true)
    (htab : D.pc.vtab[confCount ((D.pc.base.nodes i).log.take (D.applied i))]? = some cfg) :
    readLocal D.pc i cfg (D.applied i) :=
  ⟨(read_local_redundant D hr i rid idx cfg hcore htab).1, htab,
    (read_local_redundant D hr i rid idx cfg hcore htab).2⟩

/-- PD refuses a `win` only for a wrong applied index, a wrong configuration, or P's own local guard -/
theorem win_accepts (D : DSys) (hr : ReachPD D) (i : Nat) (cfg : Cfg) (q : List Nat) (applied : Nat) :
    (∃ D', applyEventD D (.win i cfg q applied) = .ok D') ↔
      (applied = D.applied i ∧
       D.pc.vtab[confCount ((D.pc.base.nodes i).log.take (D.applied i))]? = some cfg ∧
       winCore D.pc.base i cfg q = true) :=
  winD_accepts_iff D hr i cfg q applied

theorem commit_accepts (D : DSys) (hr : ReachPD D) (i c : Nat) (cfg : Cfg) (q : List Nat) (applied : Nat) :
    (∃ D', applyEventD D (.commitLeader i c cfg q applied) = .ok D') ↔
      (applied = D.applied i ∧
       D.pc.vtab[confCount ((D.pc.base.nodes i).log.take (D.applied i))]? = some cfg ∧
       commitCore D.pc.base i c cfg q = true) :=
  commitD_accepts_iff D hr i c cfg q applied

theorem resp_accepts (D : DSys) (hr : ReachPD D) (i rid idx : Nat) (cfg : Cfg) (applied : Nat) :
    (∃ D', applyEventD D (.resp i rid idx cfg applied) = .ok D') ↔
      (applied = D.applied i ∧
       D.pc.vtab[confCount ((D.pc.base.nodes i).log.take (D.applied i))]? = some cfg ∧
       respCore D.pc.base i rid idx cfg = true) :=
  respD_accepts_iff D hr i rid idx cfg applied

/-! ### C01 — state-machine safety -/

theorem C01_state_machine_safety (D : DSys) (hr : ReachPD D) (i j k : Nat) (hk : 0 < k)
    (hi : k ≤ (D.pc.base.nodes i).commit) (hj : k ≤ (D.pc.base.nodes j).commit) :
    (D.pc.base.nodes i).log[k - 1]? = (D.pc.base.nodes j).log[k - 1]? :=
  CfgLayer.C01_state_machine_safety D.pc (reach_pc hr) i j k hk hi hj

theorem C01_committed_prefixes_agree (D : DSys) (hr : ReachPD D) (i j : Nat) :
    (D.pc.base.nodes i).log.take (min (D.pc.base.nodes i).commit (D.pc.base.nodes j).commit) =
      (D.pc.base.nodes j).log.take (min (D.pc.base.nodes i).commit (D.pc.base.nodes j).commit) :=
  CfgLayer.C01_committed_prefixes_agree D.pc (reach_pc hr) i j

theorem C01_agree_durable (D : DSys) (hr : ReachPD D) (i j k : Nat)
    (hi : k ≤ (D.pc.base.nodes i).commit) (hj : k ≤ (D.pc.base.nodes j).dcommit) :
    (D.pc.base.nodes i).log.take k = (D.pc.base.nodes j).dlog.take k :=
  CfgLayer.C01_agree_durable D.pc (reach_pc hr) i j k hi hj

/-- what the application has applied is committed, so any two nodes agree on every applied index -/
theorem C01_applied_agree (D : DSys) (hr : ReachPD D) (i j k : Nat) (hk : 0 < k)
    (hi : k ≤ D.applied i) (hj : k ≤ D.applied j) :
    (D.pc.base.nodes i).log[k - 1]? = (D.pc.base.nodes j).log[k - 1]? :=
  C01_state_machine_safety D hr i j k hk (Nat.le_trans hi (applied_le_commit D hr i))
    (Nat.le_trans hj (applied_le_commit D hr j))

theorem C01_never_reports_differently (D D' : DSys) (hr : ReachPD D) (hs : StepsD D D') (k : Nat)
    (e e' : LEntry) (h : Reports D.pc.base k e) (h' : Reports D'.pc.base k e') : e = e' :=
  CfgLayer.C01_never_reports_differently D.pc D'.pc (reach_pc hr) (stepsD_pc hs) k e e' h h'

theorem C01_full : ∀ (D D' : DSys), ReachPD D → (∃ es, runD D es = .ok D') → ∀ k e e',
    Reports D.pc.base k e → Reports D'.pc.base k e' → e = e' := by
  intro D D' hr ⟨es, hes⟩ k e e' h h'
  exact CfgLayer.C01_full D.pc D'.pc (reach_pc hr) (runD_pc es D D' hes) k e e' h h'

/-! ### C02 — election safety -/

theorem C02_election_safety (D : DSys) (hr : ReachPD D) (t a b : Nat)
    (ha : (t, a) ∈ D.pc.base.elected) (hb : (t, b) ∈ D.pc.base.elected) : a = b :=
  CfgLayer.C02_election_safety D.pc (reach_pc hr) t a b ha hb

theorem C02_one_leader_per_term (D : DSys) (hr : ReachPD D) (i j : Nat)
    (hi : (D.pc.base.nodes i).role = 2) (hj : (D.pc.base.nodes j).role = 2)
    (ht : (D.pc.base.nodes i).term = (D.pc.base.nodes j).term) : i = j :=
  CfgLayer.C02_one_leader_per_term D.pc (reach_pc hr) i j hi hj ht

theorem C02_one_vote_per_term_ever (D : DSys) (hr : ReachPD D) (g1 g2 : Grant) (h1 : g1 ∈ D.pc.base.grants)
    (h2 : g2 ∈ D.pc.base.grants) (ht : g1.term = g2.term) (hv : g1.voter = g2.voter) : g1.cand = g2.cand :=
  CfgLayer.C02_one_vote_per_term_ever D.pc (reach_pc hr) g1 g2 h1 h2 ht hv

theorem C02_full : ∀ (D : DSys), ReachPD D → ∀ t a b, (t, a) ∈ D.pc.base.elected → (t, b) ∈ D.pc.base.elected → a = b :=
  fun D hr => CfgLayer.C02_full D.pc (reach_pc hr)

/-! ### C03 — leader completeness -/

theorem C03_leader_completeness (D : DSys) (hr : ReachPD D) (p : Nat × Nat) (hp : p ∈ D.pc.base.cmts) (t' : Nat)
    (hlt : p.1 < t') (hel : ∃ j, (t', j) ∈ D.pc.base.elected) :
    (D.pc.base.llog t').take p.2 = (D.pc.base.llog p.1).take p.2 :=
  CfgLayer.C03_leader_completeness D.pc (reach_pc hr) p hp t' hlt hel

theorem C03_leader_holds_committed (D : DSys) (hr : ReachPD D) (i : Nat) (hi : (D.pc.base.nodes i).role = 2)
    (p : Nat × Nat) (hp : p ∈ D.pc.base.cmts) (ht : p.1 ≤ (D.pc.base.nodes i).term) :
    (D.pc.base.nodes i).log.take p.2 = (D.pc.base.llog p.1).take p.2 :=
  CfgLayer.C03_leader_holds_committed D.pc (reach_pc hr) i hi p hp ht

theorem C03_elected_with_committed (D : DSys) (hr : ReachPD D) (p : Nat × Nat) (hp : p ∈ D.pc.base.cmts) (t : Nat)
    (ht : p.1 < t) (hel : ∃ j, (t, j) ∈ D.pc.base.elected) :
    (D.pc.base.elog t).take p.2 = (D.pc.base.llog p.1).take p.2 :=
  CfgLayer.C03_elected_with_committed D.pc (reach_pc hr) p hp t ht hel

theorem C03_full : ∀ (D : DSys), ReachPD D → ∀ i, (D.pc.base.nodes i).role = 2 → ∀ p ∈ D.pc.base.cmts,
    p.1 ≤ (D.pc.base.nodes i).term → (D.pc.base.nodes i).log.take p.2 = (D.pc.base.llog p.1).take p.2 :=
  fun D hr => CfgLayer.C03_full D.pc (reach_pc hr)

theorem C03_commit_evidence_versioned (D : DSys) (hr : ReachPD D) (x : (Nat × Nat) × Nat) (hx : x ∈ D.pc.cvs) :
    x.1 ∈ D.pc.base.cmts ∧ ∃ cfg q, D.pc.vtab[x.2]? = some cfg ∧ cfg.isQuorum q = true ∧
      ∀ v ∈ q, ∃ a ∈ D.pc.base.acks, a.term = x.1.1 ∧ a.frm = v ∧ x.1.2 ≤ a.idx :=
  CfgLayer.C03_commit_evidence_versioned D.pc (reach_pc hr) x hx

/-! ### C04 — commit soundness and durability -/

theorem C04_commit_within_leader_commit (D : DSys) (hr : ReachPD D) (i : Nat) (h0 : 0 < (D.pc.base.nodes i).commit) :
    ∃ p ∈ D.pc.base.cmts, (D.pc.base.nodes i).commit ≤ p.2 ∧ p.1 ≤ (D.pc.base.nodes i).term ∧
      (D.pc.base.nodes i).log.take (D.pc.base.nodes i).commit = (D.pc.base.llog p.1).take (D.pc.base.nodes i).commit :=
  CfgLayer.C04_commit_within_leader_commit D.pc (reach_pc hr) i h0

theorem C04_committed_durable_on_quorum (D : DSys) (hr : ReachPD D) (p : Nat × Nat) (hp : p ∈ D.pc.base.cmts) :
    ∃ cfg q, (p, cfg) ∈ D.pc.base.ccfgs ∧ cfg.isQuorum q = true ∧
      ∀ v ∈ q, (D.pc.base.nodes v).dlog.take p.2 = (D.pc.base.llog p.1).take p.2 :=
  CfgLayer.C04_committed_durable_on_quorum D.pc (reach_pc hr) p hp

theorem C04_survives_minority_crash (D : DSys) (hr : ReachPD D) (p : Nat × Nat) (hp : p ∈ D.pc.base.cmts) :
    ∃ cfg, (p, cfg) ∈ D.pc.base.ccfgs ∧ ∀ (c' : Cfg) (alive : List Nat), adjOk c' cfg = true →
      c'.isQuorum alive = true → ∃ v ∈ alive, (D.pc.base.nodes v).dlog.take p.2 = (D.pc.base.llog p.1).take p.2 :=
  CfgLayer.C04_survives_minority_crash D.pc (reach_pc hr) p hp

theorem C04_full : ∀ (D : DSys), ReachPD D → ∀ i j k,
    k ≤ (D.pc.base.nodes i).commit → k ≤ (D.pc.base.nodes j).commit →
      (D.pc.base.nodes i).log.take k = (D.pc.base.nodes j).log.take k :=
  fun D hr => CfgLayer.C04_full D.pc (reach_pc hr)

/-! ### C08 — read index -/

theorem C08_read_state_safe (D : DSys) (hr : ReachPD D) (d : ReadResp) (hd : d ∈ D.pc.base.rd.done) :
    SafeAnswer D.pc.base d :=
  CfgLayer.C08_read_state_safe D.pc (reach_pc hr) d hd

theorem C08_response_safe (D : DSys) (hr : ReachPD D) (d : ReadResp) (hd : d ∈ D.pc.base.rd.resps) :
    SafeAnswer D.pc.base d :=
  CfgLayer.C08_response_safe D.pc (reach_pc hr) d hd

/-- linearizability of Safe ReadIndex over PD runs -/
theorem C08_full : ∀ (D0 D1 D2 : DSys), ReachPD D0 → ∀ i rid,
    applyEventD D0 (.pc (.base (.read (.issue i rid)))) = .ok D1 →
    ∀ es, runD D1 es = .ok D2 → ∀ d ∈ D2.pc.base.rd.done, d.rid = rid →
      d.to = i ∧ ∀ j, (D0.pc.base.nodes j).commit ≤ d.idx := by
  intro D0 D1 D2 hr i rid hissue es hrun d hd hrid
  obtain ⟨_, S, hS, hD1⟩ := stepD_pc hissue
  subst hD1
  obtain ⟨es', hes'⟩ := runD_pc es _ D2 hrun
  exact CfgLayer.C08_full D0.pc S D2.pc (reach_pc hr) i rid hS es' hes' d hd hrid

/-! ### C15 — snapshots -/

theorem C15_snapshot_is_committed_prefix (D : DSys) (hr : ReachPD D) (m : Snap) (hm : m ∈ D.pc.base.snaps) (i : Nat)
    (hi : m.idx ≤ (D.pc.base.nodes i).commit) : (D.pc.base.nodes i).log.take m.idx = m.pre :=
  CfgLayer.C15_snapshot_is_committed_prefix D.pc (reach_pc hr) m hm i hi

theorem C15_snapshot_entries_committed (D : DSys) (hr : ReachPD D) (m : Snap) (hm : m ∈ D.pc.base.snaps) (k : Nat)
    (hk : 0 < k) (hi : k ≤ m.idx) : ∃ e, m.pre[k - 1]? = some e ∧ Committed D.pc.base k e :=
  CfgLayer.C15_snapshot_entries_committed D.pc (reach_pc hr) m hm k hk hi

theorem C15_full : ∀ (D : DSys), ReachPD D → ∀ m ∈ D.pc.base.snaps, ∀ i,
    m.idx ≤ (D.pc.base.nodes i).commit → (D.pc.base.nodes i).log.take m.idx = m.pre :=
  fun D hr => CfgLayer.C15_full D.pc (reach_pc hr)

/-! ### the configuration table -/

theorem versions_adjacent (D : DSys) (hr : ReachPD D) (a b : Nat) (ca cb : Cfg) (ha : D.pc.vtab[a]? = some ca)
    (hb : D.pc.vtab[b]? = some cb) (h1 : a ≤ b + 1) (h2 : b ≤ a + 1) (qa qb : List Nat)
    (hqa : ca.isQuorum qa = true) (hqb : cb.isQuorum qb = true) : ∃ v, v ∈ qa ∧ v ∈ qb :=
  CfgLayer.versions_adjacent D.pc (reach_pc hr) a b ca cb ha hb h1 h2 qa qb hqa hqb

/-! ### non-vacuity: a three-voter group elects node 1, which appends and commits a membership-change
entry adding a fourth voter; nodes 1 and 2 apply it (`apply`, then `applyConf`: version 1); the leader
commits under version 1; node 2 campaigns (its committed membership change is applied), wins under
version 1 (three of four voters), appends an entry of term 2 and commits it under version 1 -/

def e3 : LEntry := ⟨2, 0, 8⟩

/-- an event of P that PD does not refine -/
def b (e : Event) : DEvent := .pc (.base e)

def histD : List DEvent :=
  [.pc (.cfgInit c3),
   b (.bump 1 1), .campaign 1, b (.rdy 1), b (.persist 1 1), b (.release 1 (.grant 1 1 1 {})),
   b (.release 1 (.voteReq 1 1 0 0)),
   b (.bump 2 1), b (.grant 2 1), b (.rdy 2), b (.persist 2 1), b (.release 2 (.grant 1 2 1 {})),
   .win 1 c3 [1, 2] 0,
   .leaderAppend 1 eC, b (.ackSelf 1 1), b (.rdy 1), b (.persist 1 1), b (.release 1 (.ack 1 1 1 [])),
   .sendApp 1 ⟨1, 1, 0, 0, [eC], 0⟩,
   .recvAppC 2 ⟨1, 1, 0, 0, [eC], 0⟩, b (.rdy 2), b (.persist 2 1), b (.release 2 (.ack 1 2 1 [])),
   .commitLeader 1 1 c3 [1, 2] 0,
   .apply 1 1, .pc (.applyConf 1 1 c4),
   .leaderAppend 1 e2, b (.ackSelf 1 2), b (.rdy 1), b (.persist 1 1), b (.release 1 (.ack 1 1 2 [])),
   .sendApp 1 ⟨1, 1, 1, 1, [e2], 1⟩,
   .recvAppC 2 ⟨1, 1, 1, 1, [e2], 1⟩,
   b (.rdy 2), b (.persist 2 1), b (.release 2 (.ack 1 2 2 [])),
   .apply 2 1, .pc (.applyConf 2 1 c4),
   .sendApp 1 ⟨1, 1, 0, 0, [eC, e2], 1⟩,
   b (.bump 3 1), .recvAppC 3 ⟨1, 1, 0, 0, [eC, e2], 1⟩, b (.rdy 3), b (.persist 3 1),
   b (.release 3 (.ack 1 3 2 [])),
   .commitLeader 1 2 c4 [1, 2, 3] 1,
   b (.bump 2 2), .campaign 2, b (.rdy 2), b (.persist 2 1), b (.release 2 (.grant 2 2 2 {})),
   b (.release 2 (.voteReq 2 2 0 0)),
   b (.bump 3 2), b (.grant 3 2), b (.rdy 3), b (.persist 3 1), b (.release 3 (.grant 2 3 2 {})),
   b (.bump 1 2), b (.grant 1 2), b (.rdy 1), b (.persist 1 1), b (.release 1 (.grant 2 1 2 {})),
   .win 2 c4 [2, 3, 1] 1,
   .leaderAppend 2 e3, b (.ackSelf 2 3), b (.rdy 2), b (.persist 2 1), b (.release 2 (.ack 2 2 3 [])),
   .sendApp 2 ⟨2, 2, 2, 1, [e3], 1⟩,
   .recvAppC 3 ⟨2, 2, 2, 1, [e3], 1⟩, b (.rdy 3), b (.persist 3 1), b (.release 3 (.ack 2 3 3 [])),
   .recvAppC 1 ⟨2, 2, 2, 1, [e3], 1⟩, b (.rdy 1), b (.persist 1 1), b (.release 1 (.ack 2 1 3 [])),
   .commitLeader 2 3 c4 [2, 3, 1] 1]

/-- the history is accepted: the table holds versions 0 and 1; the elections were decided under
versions 0 and 1, the commits under versions 0, 1 and 1; nodes 1 and 2 have applied index 1; the
`pending_conf_index` of node 1 is the index of its membership-change entry, that of node 2 its last
index when it won; `recvAppC` advanced the followers' commit indexes -/
example : (match runD dinit histD with
    | .ok D => decide (D.pc.vtab = [c3, c4]) && decide (D.pc.evs = [(2, 1), (1, 0)]) &&
        decide (D.pc.cvs = [((2, 3), 1), ((1, 2), 1), ((1, 1), 0)]) &&
        decide ((List.range 5).map D.applied = [0, 1, 1, 0, 0]) &&
        decide ((List.range 5).map D.pconf = [0, 1, 2, 0, 0]) &&
        decide ((List.range 5).map (fun i => (D.pc.base.nodes i).commit) = [0, 2, 3, 1, 0]) &&
        decide ((D.pc.base.nodes 2).role = 2) && decide (D.pc.base.elected = [(2, 2), (1, 1)]) &&
        decide (D.pc.base.ecfgs = [(2, c4), (1, c3)])
    | .error _ => false) = true := by decide +kernel

/-- so the final state is a reachable state of PD, and everything above applies to it -/
theorem histD_reach : ∀ D, runD dinit histD = .ok D → ReachPD D :=
  fun D h => reachPD_runD histD dinit D .init h

/-! ### the single-call guards bite -/

/-- (a) `Raft::hup`: node 2 holds the committed membership-change entry (commit index 1) but has not
applied it: `campaign` is refused — PC itself would let the node campaign — and accepted after `apply` -/
example : (match runD dinit (histD.take 33 ++ [b (.bump 2 2), .campaign 2]) with
    | .ok _ => "campaigns" | .error _ => "refused") = "refused" := by decide +kernel
example : (match runD dinit (histD.take 33 ++ [b (.bump 2 2)]) with
    | .ok D => (D.applied 2, (D.pc.base.nodes 2).commit, confCount ((D.pc.base.nodes 2).log.take 1),
                (match applyEventC D.pc (.base (.campaign 2)) with | .ok _ => true | .error _ => false))
    | .error _ => (9, 9, 9, false)) = (0, 1, 1, true) := by decide +kernel
example : (match runD dinit (histD.take 33 ++ [b (.bump 2 2), .apply 2 1, .campaign 2]) with
    | .ok _ => "campaigns" | .error _ => "refused") = "campaigns" := by decide +kernel

/-- (b) `pending_conf_index`: a second membership-change entry is refused while the first is not
applied — right after the first was appended, and still after it was committed — and accepted once
it is applied; PC itself would accept the second entry (cf. `histB` of `CfgLayer`) -/
example : (match runD dinit (histD.take 14 ++ [.leaderAppend 1 eC']) with
    | .ok _ => "appended" | .error _ => "refused") = "refused" := by decide +kernel
example : (match runD dinit (histD.take 24 ++ [.leaderAppend 1 eC']) with
    | .ok _ => "appended" | .error _ => "refused") = "refused" := by decide +kernel
example : (match runD dinit (histD.take 14) with
    | .ok D => (D.pconf 1, D.applied 1,
                (match applyEventC D.pc (.base (.leaderAppend 1 eC')) with | .ok _ => true | .error _ => false))
    | .error _ => (9, 9, false)) = (1, 0, true) := by decide +kernel
example : (match runD dinit (histD.take 25 ++ [.leaderAppend 1 eC']) with
    | .ok D => D.pconf 1 | .error _ => 99) = 2 := by decide +kernel
/-- an ordinary entry is not gated -/
example : (match runD dinit (histD.take 14 ++ [.leaderAppend 1 e2]) with
    | .ok D => D.pconf 1 | .error _ => 99) = 1 := by decide +kernel

/-- (c) `prepare_send_entries`: a `MsgAppend` with a stale commit field (0 while the leader's commit
index is 1) is refused; P and PC allow any commit field up to the leader's -/
example : (match runD dinit (histD.take 31 ++ [.sendApp 1 ⟨1, 1, 1, 1, [e2], 0⟩]) with
    | .ok _ => "sent" | .error _ => "refused") = "refused" := by decide +kernel
example : (match runD dinit (histD.take 31) with
    | .ok D => ((D.pc.base.nodes 1).commit,
                (match applyEventC D.pc (.base (.sendApp 1 ⟨1, 1, 1, 1, [e2], 0⟩)) with | .ok _ => true | .error _ => false))
    | .error _ => (9, false)) = (1, true) := by decide +kernel

/-- (d) `advance_apply_to`: the applied index cannot pass the commit index, nor go backwards -/
example : (match runD dinit (histD.take 24 ++ [.apply 1 2]) with
    | .ok _ => "applied" | .error _ => "refused") = "refused" := by decide +kernel
example : (match runD dinit (histD.take 14 ++ [.apply 1 1]) with
    | .ok _ => "applied" | .error _ => "refused") = "refused" := by decide +kernel
example : (match runD dinit (histD.take 25 ++ [.apply 1 0]) with
    | .ok _ => "applied" | .error _ => "refused") = "refused" := by decide +kernel

/-- `Raft::new`: a node is not restarted with an applied index beyond its durable commit index -/
example : (match runD dinit (histD.take 24 ++ [b (.crash 1), .restart 1 1]) with
    | .ok _ => "restarted" | .error _ => "refused") = "refused" := by decide +kernel
example : (match runD dinit (histD.take 24 ++ [b (.crash 1), .restart 1 0]) with
    | .ok D => (D.applied 1, (D.pc.base.nodes 1).commit) | .error _ => (9, 9)) = (0, 0) := by decide +kernel

/-- `win` must report the tracked applied index; the refined events of PC / P are not events of PD -/
example : (match runD dinit (histD.take 12 ++ [.win 1 c3 [1, 2] 1]) with
    | .ok _ => "elected" | .error _ => "refused") = "refused" := by decide +kernel
example : (match runD dinit (histD.take 12 ++ [.pc (.win 1 c3 [1, 2] 0)]) with
    | .ok _ => "elected" | .error _ => "refused") = "refused" := by decide +kernel
example : (match runD dinit (histD.take 19 ++ [b (.recvApp 2 ⟨1, 1, 0, 0, [eC], 0⟩)]) with
    | .ok _ => "received" | .error _ => "refused") = "refused" := by decide +kernel

/-- the configuration of the tracked version is still checked at run time: after `apply` the leader
commits under version 1, not under version 0 -/
example : (match runD dinit (histD.take 44 ++ [.commitLeader 1 2 c3 [1, 2] 1]) with
    | .ok _ => "committed" | .error _ => "refused") = "refused" := by decide +kernel

end RaftProps.DiscLayer
