import RaftProofs.ClusterVoteH
import RaftProofs.ClusterStretch

/-!
# C02c — Election Safety of the cluster semantics built from the executable node model

`RaftModel/Cluster.lean` (`ClusterSem`) puts nodes that move only through `Node.call` (the function the
free-running correspondence ties to `/repo` call by call) around a lossy / duplicating / reordering
transport, an application that may call every entry point in any order but sends only with term and
vote persisted, and crashes that restart a node from its own storage.  Here: for every history of
`ClusterSem` whose states all have the voter configuration `cfg`,

* `C02_cluster_election_safety` — no two different nodes are ever leader of the same term;
* `C06_cluster_one_vote_per_term` — a node's granted vote responses of one term in the transport all
  go to the same candidate (no hypothesis on the configuration);
* `C06_cluster_grant_durable` — a granted response in the transport is backed by the sender's *stored*
  hard state, then and in every later state;
* `C06_cluster_step_term_vote`, `C06_cluster_promise_stable` — the `(term, vote)` discipline of every
  step, in memory and in the storage.

The proof is in `RaftProofs/ClusterVote{A,C..H}.lean` over `HelperFrame.lean` and `CallRun.lean`: a
per-call invariant `VInv` by induction on what a call goes through (A–F), the cluster invariants
`Inv1` / `Inv2` (G, H).
-/
namespace RaftProps.C02
open RaftModel RaftModel.Cluster RaftModel.Raft.CV RaftModel.Node

/-! ### one vote per term -/

/-- **C06 `cluster_one_vote_per_term`.**  In every state of every history of `ClusterSem` — whatever
the configurations of the nodes are —, two granted real-vote responses in the transport with the same
sender and the same term have the same addressee. -/
theorem C06_cluster_one_vote_per_term (h : List Sys) (hh : History h) (s : Sys) (hs : s ∈ h)
    (g g' : Message) (hg : g ∈ s.net) (hg' : g' ∈ s.net)
    (ht : g.msgType = .msgRequestVoteResponse) (ht' : g'.msgType = .msgRequestVoteResponse)
    (hr : g.reject = false) (hr' : g'.reject = false)
    (hfrm : g.frm = g'.frm) (hterm : g.term = g'.term) : g.to = g'.to := by
  have hinv := (hist_all hh).1 s hs
  have hrv : isRVm g = true := by unfold isRVm; simp [ht, hr]
  have hrv' : isRVm g' = true := by unfold isRVm; simp [ht', hr']
  obtain ⟨st, hn, _, _⟩ := hinv.net g hg hrv
  have := hinv.once g.frm st hn g g' (Or.inl hg) (Or.inl hg') hrv hrv' rfl hfrm.symm hterm
  rw [tgt_resp ht, tgt_resp ht'] at this
  exact this

/-! ### durability of a grant -/

/-- **C06 `cluster_grant_durable`.**  A granted vote response `j → i` of term `t` in the transport of
the `n`-th state of a history implies that, in that state and in every later one (`n ≤ n'`), node `j`
exists and both its **stored** hard state and its in-memory state hold `term > t`, or `term = t` and
`vote = i` (the promise survives every crash: persist-before-send). -/
theorem C06_cluster_grant_durable (h : List Sys) (hh : History h) (n n' : Nat) (s s' : Sys)
    (hn : h[n]? = some s) (hn' : h[n']? = some s') (hle : n ≤ n')
    (g : Message) (hg : g ∈ s.net) (ht : g.msgType = .msgRequestVoteResponse)
    (hr : g.reject = false) :
    ∃ st', s'.node g.frm = some st' ∧
      (g.term < st'.raft.raftLog.store.hardState.term ∨
        (st'.raft.raftLog.store.hardState.term = g.term ∧
          st'.raft.raftLog.store.hardState.vote = g.to)) ∧
      (g.term < st'.raft.term ∨ (st'.raft.term = g.term ∧ st'.raft.vote = g.to)) := by
  obtain ⟨all1, _, all3⟩ := hist_all hh
  have hsteps := all3 n n' s s' hle hn hn'
  have hg' := steps_net hsteps g hg
  have hrv : isRVm g = true := by unfold isRVm; simp [ht, hr]
  obtain ⟨st', h1, h2, h3⟩ := (all1 s' (List.mem_of_getElem? hn')).net g hg' hrv
  refine ⟨st', h1, ?_, ?_⟩
  · have := h3; unfold GeS at this; rw [tgt_resp ht] at this; exact this
  · have := h2.2.2.2.1; unfold Ge at this; rw [tgt_resp ht] at this; exact this

/-! ### the `(term, vote)` discipline of a step -/

/-- `(t, v) ⊑ (t', v')`: a later term, or the same term with the vote kept or cast -/
def LexLe (t v t' v' : Nat) : Prop := t < t' ∨ (t' = t ∧ (v' = v ∨ v = 0))

/-- **C06 `cluster_step_term_vote`** (the per-step form of `cluster_term_monotone`).  In every step
of `ClusterSem`, every node `k` is still there, and

* **in memory** its `(term, vote)` does not decrease lexicographically (`LexLe`: the term rises, or
  it is kept and the vote is kept or goes from 0 to a value) — unless the step is a restart of `k`, in
  which case the in-memory pair becomes the stored one;
* **in the storage** the pair is unchanged, or becomes the current in-memory pair (`stabilize`), or
  its term is raised with the vote kept (`persist_snap` of a snapshot whose term is later than the
  stored one: `MemStorage::apply_snapshot` writes `max(term, snapshot term)`). -/
theorem C06_cluster_step_term_vote (s s' : Sys) (hstep : Step s s') (k : Nat) (st : NState)
    (hn : s.node k = some st) :
    ∃ st', s'.node k = some st' ∧
      (LexLe st.raft.term st.raft.vote st'.raft.term st'.raft.vote ∨
        (IsRestart k s s' ∧ st'.raft.term = st.raft.raftLog.store.hardState.term ∧
          st'.raft.vote = st.raft.raftLog.store.hardState.vote)) ∧
      HsRel st.raft st'.raft := by
  have hsame : ∀ (i : Nat) (sti : NState), k ≠ i → ∃ st', (s.setNode i sti).node k = some st' ∧
      (LexLe st.raft.term st.raft.vote st'.raft.term st'.raft.vote ∨
        (IsRestart k s (s.setNode i sti) ∧ st'.raft.term = st.raft.raftLog.store.hardState.term ∧
          st'.raft.vote = st.raft.raftLog.store.hardState.vote)) ∧
      HsRel st.raft st'.raft := by
    intro i sti hki
    refine ⟨st, by rw [node_setNode_ne s i k sti hki]; exact hn, Or.inl (Or.inr ⟨rfl, Or.inl rfl⟩),
      Or.inl ⟨rfl, rfl⟩⟩
  have hcall : ∀ (i : Nat) (sti sti' : NState) (m : Message), s.node i = some sti →
      NStep sti.raft m sti'.raft → ∃ st', (s.setNode i sti').node k = some st' ∧
      (LexLe st.raft.term st.raft.vote st'.raft.term st'.raft.vote ∨
        (IsRestart k s (s.setNode i sti') ∧ st'.raft.term = st.raft.raftLog.store.hardState.term ∧
          st'.raft.vote = st.raft.raftLog.store.hardState.vote)) ∧
      HsRel st.raft st'.raft := by
    intro i sti sti' m hni hns
    by_cases hki : k = i
    · subst hki
      rw [hn] at hni; cases hni
      exact ⟨sti', node_setNode_self s k sti', Or.inl hns.tv, hns.hs⟩
    · exact hsame i sti' hki
  cases hstep with
  | call i sti sti' rnd op res hni hop hc => exact hcall i sti sti' _ hni (call_nstep _ _ _ _ _ hc)
  | deliver i sti sti' rnd m res hni hm hto hc =>
    exact hcall i sti sti' _ hni (call_nstep _ _ _ _ _ hc)
  | send i sti sti' hni hp hc =>
    obtain ⟨hcore, _⟩ := drain_eq sti sti' hc
    have hnode : ({ (s.setNode i sti') with net := s.net ++ sti.raft.msgs } : Sys).node k =
        (s.setNode i sti').node k := rfl
    rw [hnode]
    by_cases hki : k = i
    · subst hki
      rw [hn] at hni; cases hni
      have e1 : sti'.raft.term = st.raft.term := congrArg NCore.term hcore
      have e2 : sti'.raft.vote = st.raft.vote := congrArg NCore.vote hcore
      have e8 : sti'.raft.raftLog.store.hardState = st.raft.raftLog.store.hardState :=
        congrArg NCore.hs hcore
      exact ⟨sti', node_setNode_self s k sti', Or.inl (Or.inr ⟨e1, Or.inl e2⟩),
        Or.inl ⟨by rw [e8], by rw [e8]⟩⟩
    · refine ⟨st, by rw [node_setNode_ne s i k sti' hki]; exact hn, Or.inl (Or.inr ⟨rfl, Or.inl rfl⟩),
        Or.inl ⟨rfl, rfl⟩⟩
  | restart i sti sti' c rnd hni hci hb =>
    by_cases hki : k = i
    · subst hki
      rw [hn] at hni; cases hni
      have hbt := boot_booted c _ rnd sti' hb
      exact ⟨sti', node_setNode_self s k sti',
        Or.inr ⟨⟨st, sti', c, rnd, hn, hci, hb, rfl⟩, hbt.term, hbt.vote⟩,
        Or.inl ⟨by rw [hbt.hs], by rw [hbt.hs]⟩⟩
    · exact hsame i sti' hki

/-- the storage part in the order `LexLe`: the stored pair does not decrease in a step whenever it
is not ahead of the in-memory pair before the step.  (It *can* be ahead — after `persist_snap` of a
snapshot whose term is later than the node's term — and the next `stabilize` then writes the smaller
in-memory pair: see the report; no promise is lost by that, `C06_cluster_promise_stable`.) -/
theorem C06_cluster_step_storage_monotone (s s' : Sys) (hstep : Step s s') (k : Nat)
    (st st' : NState) (hn : s.node k = some st) (hn' : s'.node k = some st')
    (hle : LexLe st.raft.raftLog.store.hardState.term st.raft.raftLog.store.hardState.vote
      st.raft.term st.raft.vote) :
    LexLe st.raft.raftLog.store.hardState.term st.raft.raftLog.store.hardState.vote
      st'.raft.raftLog.store.hardState.term st'.raft.raftLog.store.hardState.vote := by
  obtain ⟨st2, h1, _, h3⟩ := C06_cluster_step_term_vote s s' hstep k st hn
  rw [hn'] at h1; cases h1
  rcases h3 with ⟨e1, e2⟩ | ⟨e1, e2, e3, e4⟩ | ⟨e1, e2⟩
  · exact Or.inr ⟨e1, Or.inl e2⟩
  · rw [e1, e2, e3, e4]; exact hle
  · exact Or.inl e1

/-- a promise `(t, v)` (`v ≠ 0`) held by node `k` both in memory and in the storage -/
def Promised (s : Sys) (k t v : Nat) : Prop :=
  ∃ st, s.node k = some st ∧ Ge st.raft t v ∧ GeS st t v

theorem promised_step {s s' : Sys} (hstep : Step s s') {k t v : Nat} (hv : v ≠ 0)
    (hp : Promised s k t v) : Promised s' k t v := by
  obtain ⟨st, hn, h1, h2⟩ := hp
  obtain ⟨st', hn', hm, hs⟩ := C06_cluster_step_term_vote s s' hstep k st hn
  have hge : Ge st'.raft t v := by
    rcases hm with g | ⟨_, g1, g2⟩
    · exact Ge.mono h1 hv g
    · unfold Ge; rw [g1, g2]; exact h2
  exact ⟨st', hn', hge, GeS.mono h2 hs hge⟩

/-- **C06 `cluster_promise_stable`** (the history form of `cluster_term_monotone`).  Once node `k`
holds `term > t ∨ (term = t ∧ vote = v)` (`v ≠ 0`) both in memory and in its storage, it does so in
every later state of the history — across every call, `stabilize`, `persist_snap`, and restart. -/
theorem C06_cluster_promise_stable (h : List Sys) (hh : History h) (n n' : Nat) (s s' : Sys)
    (hn : h[n]? = some s) (hn' : h[n']? = some s') (hle : n ≤ n') (k t v : Nat) (hv : v ≠ 0)
    (hp : Promised s k t v) : Promised s' k t v := by
  have hsteps := (hist_all hh).2.2 n n' s s' hle hn hn'
  have key : ∀ a b, Steps a b → Promised a k t v → Promised b k t v := by
    intro a b hab
    induction hab with
    | refl => exact id
    | tail b c _ hs ih => exact fun hp => promised_step hs hv (ih hp)
  exact key s s' hsteps hp

theorem LexLe.refl (t v : Nat) : LexLe t v t v := Or.inr ⟨rfl, Or.inl rfl⟩

theorem LexLe.trans {t1 v1 t2 v2 t3 v3 : Nat} (h1 : LexLe t1 v1 t2 v2) (h2 : LexLe t2 v2 t3 v3) :
    LexLe t1 v1 t3 v3 := by
  unfold LexLe at *
  rcases h1 with h1 | ⟨h1, h1'⟩ <;> rcases h2 with h2 | ⟨h2, h2'⟩
  · left; omega
  · left; omega
  · left; omega
  · right
    refine ⟨h2.trans h1, ?_⟩
    rcases h1' with e | e
    · rcases h2' with f | f
      · exact Or.inl (f.trans e)
      · right; rw [← e]; exact f
    · exact Or.inr e

/-- **C06 `cluster_term_monotone`.**  Along a history, between the `n`-th and the `n'`-th state
(`n ≤ n'`) with no restart of node `k` in between, the in-memory `(term, vote)` of node `k` does not
decrease lexicographically: the term does not decrease, and while it stays the same the vote is kept
or goes from 0 to a value.  (For the stored pair see `C06_cluster_step_term_vote`,
`C06_cluster_step_storage_monotone`, `C06_cluster_promise_stable`.) -/
theorem C06_cluster_term_monotone (h : List Sys) (hh : History h) (k : Nat) :
    ∀ (d n : Nat) (s s' : Sys) (st st' : NState), h[n]? = some s → h[n + d]? = some s' →
      (∀ m a b, n ≤ m → m < n + d → h[m]? = some a → h[m + 1]? = some b → ¬ IsRestart k a b) →
      s.node k = some st → s'.node k = some st' →
      st.raft.term ≤ st'.raft.term ∧
      LexLe st.raft.term st.raft.vote st'.raft.term st'.raft.vote := by
  have hle_of : ∀ {t v t' v' : Nat}, LexLe t v t' v' → t ≤ t' := by
    intro t v t' v' hl
    rcases hl with g | ⟨g, _⟩ <;> omega
  exact hist_stretch (hist_step_at hh) k
    (R := fun x y => x.raft.term ≤ y.raft.term ∧ LexLe x.raft.term x.raft.vote y.raft.term y.raft.vote)
    (fun _ => ⟨Nat.le_refl _, LexLe.refl _ _⟩)
    (fun h1 h2 => ⟨Nat.le_trans h1.1 h2.1, h1.2.trans h2.2⟩)
    fun n a b sta stb ha hb hka hkb hnr => by
      obtain ⟨st2, e1, e2, _⟩ := C06_cluster_step_term_vote a b (hist_step_at hh n a b ha hb) k sta hka
      rw [hkb] at e1; cases e1
      have h2 := e2.resolve_right fun hc => hnr hc.1
      exact ⟨hle_of h2, h2⟩

/-! ### Election Safety -/

theorem countP_eq_le_one (i : Nat) : ∀ vs : List Nat, vs.Nodup → vs.countP (fun v => v == i) ≤ 1 := by
  intro vs
  induction vs with
  | nil => intro _; simp
  | cons v rest ih =>
    intro hnd
    rw [List.nodup_cons] at hnd
    rw [List.countP_cons]
    by_cases hvi : v = i
    · subst hvi
      have : rest.countP (fun x => x == v) = 0 := by
        rw [List.countP_eq_zero]
        intro x hx
        have : x ≠ v := fun e => hnd.1 (e ▸ hx)
        simpa using this
      simp [this]
    · have : (v == i) = false := by simpa using hvi
      simp only [this]
      have := ih hnd.2
      simp
      exact this

/-- a quorum inside `{i}` of a duplicate-free voter list: `i` is the only voter -/
theorem lone_quorum_only_voter (vs Q : List Nat) (i j : Nat) (hnd : vs.Nodup) (hq : IsQuorum vs Q)
    (hQ : ∀ k ∈ Q, k = i) (hj : j ∈ vs) : j = i := by
  unfold IsQuorum at hq
  have h1 : vs.countP (fun v => decide (v ∈ Q)) ≤ vs.countP (fun v => v == i) := by
    apply List.countP_mono_left
    intro v _ hv
    have : v ∈ Q := by simpa using hv
    simpa using hQ v this
  have h2 := countP_eq_le_one i vs hnd
  have hlen : vs.length ≤ 1 := by
    unfold majority at hq; omega
  have hpos : 0 < vs.countP (fun v => decide (v ∈ Q)) := by
    have := majority_pos vs.length; omega
  obtain ⟨v, hv, hvq⟩ := List.countP_pos_iff.1 hpos
  have hvq' : v ∈ Q := by simpa using hvq
  have hvi := hQ v hvq'
  match vs, hlen, hj, hv with
  | [x], _, hj, hv =>
    simp only [List.mem_singleton] at hj hv
    rw [hj, ← hv, hvi]

theorem lone_joint_quorum_only_voter (cfg : JointConfig) (Q : List Nat) (i j : Nat)
    (hnd1 : cfg.incoming.Nodup) (hnd2 : cfg.outgoing.Nodup) (hq : IsJointQuorum cfg Q)
    (hQ : ∀ k ∈ Q, k = i) (hj : Joint.contains cfg j = true) : j = i := by
  unfold Joint.contains at hj
  simp only [Bool.or_eq_true, List.contains_eq_mem, decide_eq_true_eq] at hj
  rcases hj with g | g
  · exact lone_quorum_only_voter _ Q i j hnd1 (hq.1 (List.ne_nil_of_mem g)) hQ g
  · exact lone_quorum_only_voter _ Q i j hnd2 (hq.2 (List.ne_nil_of_mem g)) hQ g

/-- a leader `i` of term `t` (quorum `Q` backed in the transport) and a grant `i → j` of term `t` in
the transport, `j` a voter: `j = i` -/
theorem leader_grants_itself (cfg : JointConfig) (hnd1 : cfg.incoming.Nodup)
    (hnd2 : cfg.outgoing.Nodup) (s : Sys) (hinv : Inv1 s) (Q : List Nat) (i j t : Nat)
    (hq : IsJointQuorum cfg Q) (hQ : ∀ k ∈ Q, k = i ∨ Grant s.net k i t)
    (hg : Grant s.net i j t) (hjv : Joint.contains cfg j = true) : i = j := by
  by_cases hlone : ∀ k ∈ Q, k = i
  · exact (lone_joint_quorum_only_voter cfg Q i j hnd1 hnd2 hq hlone hjv).symm
  · -- somebody else granted `i`: the request of `i` for term `t` is in the transport
    have hex : ∃ k, k ∈ Q ∧ k ≠ i := by
      apply Classical.byContradiction
      intro hc
      apply hlone
      intro k hk
      apply Classical.byContradiction
      intro hne
      exact hc ⟨k, hk, hne⟩
    obtain ⟨k, hk, hki⟩ := hex
    obtain ⟨g1, m1, t1, r1, f1, to1, tm1⟩ := (hQ k hk).resolve_left hki
    have hrv1 : isRVm g1 = true := by unfold isRVm; simp [t1, r1]
    obtain ⟨_, _, hok1, _⟩ := hinv.net g1 m1 hrv1
    obtain ⟨q, mq, tq, fq, tmq⟩ := hok1.2.2.2.2 t1
    -- the request `q` of `i` and the grant `g2 : i → j`, both of term `t`
    obtain ⟨g2, m2, t2, r2, f2, to2, tm2⟩ := hg
    have hrvq : isRVm q = true := by unfold isRVm; simp [tq]
    have hrv2 : isRVm g2 = true := by unfold isRVm; simp [t2, r2]
    have hqi : q.frm = i := by rw [fq, to1]
    obtain ⟨sti, hni, _, _⟩ := hinv.net q mq hrvq
    rw [hqi] at hni
    have := hinv.once i sti hni q g2 (Or.inl mq) (Or.inl m2) hrvq hrv2 hqi f2
      (by rw [tmq, tm1, tm2])
    rw [tgt_req tq, tgt_resp t2, hqi, to2] at this
    exact this

/-- two leaders of one term, seen in two states whose transports are both contained in that of `s` -/
theorem two_leaders_core (cfg : JointConfig) (hne : cfg.incoming ≠ []) (hnd1 : cfg.incoming.Nodup)
    (hnd2 : cfg.outgoing.Nodup) (sa sb s : Sys) (hinv : Inv1 s) (ha : Inv2 cfg sa) (hb : Inv2 cfg sb)
    (hsa : ∀ x ∈ sa.net, x ∈ s.net) (hsb : ∀ x ∈ sb.net, x ∈ s.net) (i j t : Nat)
    (hi : leads sa i t) (hj : leads sb j t) : i = j := by
  obtain ⟨sti, hni, hli, hti⟩ := hi
  obtain ⟨stj, hnj, hlj, htj⟩ := hj
  obtain ⟨Q, q1, q2⟩ := ha.lead i sti hni hli
  obtain ⟨Q', q1', q2'⟩ := hb.lead j stj hnj hlj
  rw [hti] at q2; rw [htj] at q2'
  have hQ : ∀ k ∈ Q, k = i ∨ Grant s.net k i t := fun k hk => (q2 k hk).imp id (fun g => g.mono hsa)
  have hQ' : ∀ k ∈ Q', k = j ∨ Grant s.net k j t := fun k hk => (q2' k hk).imp id (fun g => g.mono hsb)
  have hiv : Joint.contains cfg i = true := ha.nonfol i sti hni (by rw [hli]; decide)
  have hjv : Joint.contains cfg j = true := hb.nonfol j stj hnj (by rw [hlj]; decide)
  obtain ⟨k, _, hk, hk'⟩ := joint_quorums_intersect cfg Q Q' (Or.inl hne) q1 q1'
  rcases hQ k hk with e | g <;> rcases hQ' k hk' with e' | g'
  · exact e.symm.trans e'
  · subst e
    exact leader_grants_itself cfg hnd1 hnd2 s hinv Q k j t q1 hQ g' hjv
  · subst e'
    exact (leader_grants_itself cfg hnd1 hnd2 s hinv Q' k i t q1' hQ' g hiv).symm
  · obtain ⟨g1, m1, t1, r1, f1, to1, tm1⟩ := g
    obtain ⟨g2, m2, t2, r2, f2, to2, tm2⟩ := g'
    have hrv1 : isRVm g1 = true := by unfold isRVm; simp [t1, r1]
    have hrv2 : isRVm g2 = true := by unfold isRVm; simp [t2, r2]
    obtain ⟨stk, hnk, _, _⟩ := hinv.net g1 m1 hrv1
    rw [f1] at hnk
    have := hinv.once k stk hnk g1 g2 (Or.inl m1) (Or.inl m2) hrv1 hrv2 f1 f2 (by rw [tm1, tm2])
    rw [tgt_resp t1, tgt_resp t2, to1, to2] at this
    exact this

/-- **C02 `cluster_leader_has_quorum`** (the invariant behind election safety).  In every state of a
history with the fixed voter configuration `cfg`, a node `i` in the leader role for term `t` is a voter
of `cfg`, and there is a joint quorum `Q` of `cfg` each member of which is `i` itself or has a granted
real-vote response `→ i` of term `t` **in the transport** (hence, by `C06_cluster_grant_durable`, a
persisted promise). -/
theorem C02_cluster_leader_has_quorum (cfg : JointConfig) (h : List Sys) (hh : History h)
    (hfix : ∀ s ∈ h, FixedCfg cfg s) (s : Sys) (hs : s ∈ h) (i t : Nat) (hi : leads s i t) :
    Joint.contains cfg i = true ∧
    ∃ Q, IsJointQuorum cfg Q ∧ ∀ j ∈ Q, j = i ∨
      ∃ g ∈ s.net, g.msgType = .msgRequestVoteResponse ∧ g.reject = false ∧ g.frm = j ∧ g.to = i ∧
        g.term = t := by
  obtain ⟨st, hn, hl, ht⟩ := hi
  have hinv := (hist_all hh).2.1 cfg hfix s hs
  refine ⟨hinv.nonfol i st hn (by rw [hl]; decide), ?_⟩
  obtain ⟨Q, q1, q2⟩ := hinv.lead i st hn hl
  rw [ht] at q2
  exact ⟨Q, q1, q2⟩

/-- **C02 `cluster_election_safety`.**  For every history of `ClusterSem` all of whose states have
the voter configuration `cfg` (a joint configuration with duplicate-free halves, the incoming half
non-empty): if node `i` is in the leader role for term `t` in some state of the history and node `j`
is in the leader role for term `t` in some (other, earlier or later) state of the same history, then
`i = j` — across crashes and restarts, message loss / duplication / reordering, and every behaviour
of the applications that `Step` allows. -/
theorem C02_cluster_election_safety (cfg : JointConfig) (hne : cfg.incoming ≠ [])
    (hnd1 : cfg.incoming.Nodup) (hnd2 : cfg.outgoing.Nodup)
    (h : List Sys) (hh : History h) (hfix : ∀ s ∈ h, FixedCfg cfg s)
    (s1 s2 : Sys) (h1 : s1 ∈ h) (h2 : s2 ∈ h) (i j t : Nat)
    (hi : leads s1 i t) (hj : leads s2 j t) : i = j := by
  obtain ⟨all1, all2, all3⟩ := hist_all hh
  obtain ⟨n1, hn1⟩ := List.mem_iff_getElem?.1 h1
  obtain ⟨n2, hn2⟩ := List.mem_iff_getElem?.1 h2
  have ha := all2 cfg hfix s1 h1
  have hb := all2 cfg hfix s2 h2
  by_cases hle : n1 ≤ n2
  · have hst := all3 n1 n2 s1 s2 hle hn1 hn2
    exact two_leaders_core cfg hne hnd1 hnd2 s1 s2 s2 (all1 s2 h2) ha hb (steps_net hst)
      (fun _ hx => hx) i j t hi hj
  · have hst := all3 n2 n1 s2 s1 (by omega) hn2 hn1
    exact two_leaders_core cfg hne hnd1 hnd2 s1 s2 s1 (all1 s1 h1) ha hb (fun _ hx => hx)
      (steps_net hst) i j t hi hj

/-! ### Non-vacuity: a concrete 3-node cluster that elects a leader (kernel-evaluated) -/

section Examples

/-- storage of the example nodes: empty log, voters 1, 2, 3 -/
def c02x_store : MemStorage := { confState := { voters := [1, 2, 3] } }
def c02x_config (i : Nat) : Config := { id := i, electionTick := 10, heartbeatTick := 1 }
def c02x_cfg : JointConfig := { incoming := [1, 2, 3], outgoing := [] }
/-- `RawNode::new` of node `i` -/
def c02x_boot (i : Nat) : NState :=
  match Node.boot (c02x_config i) c02x_store none with
  | .ok (.ok st) => st
  | _ => default
def c02x_st (x : Out) : NState := match x with | .ok (_, st) => st | _ => default
def c02x_res (x : Out) : OpRes := match x with | .ok (r, _) => r | _ => default
def c02x_ok (x : Out) : Bool := match x with | .ok _ => true | _ => false
theorem c02x_out (x : Out) (h : c02x_ok x = true) : x = .ok (c02x_res x, c02x_st x) := by
  cases x with
  | ok p => rfl
  | err e => cases h
  | panic s => cases h
/-- the test that `RawNode::new` answers `ok`; the state it answers with is then named by unfolding
the definition (`c02x_boot` …) and rewriting with the equation -/
theorem c02x_booted {c : Config} {sto : MemStorage}
    (h : (match Node.boot c sto none with | .ok (.ok _) => true | _ => false) = true) :
    ∃ st, Node.boot c sto none = .ok (.ok st) := by
  split at h
  · exact ⟨_, by assumption⟩
  · cases h
def c02x_fixed (s : Sys) : Bool := s.nodes.all (fun p => decide (p.2.raft.prs.voters = c02x_cfg))
theorem c02x_fixed_ok (s : Sys) (h : c02x_fixed s = true) : FixedCfg c02x_cfg s := by
  intro i st hn
  have hm := c02_lookup_mem s.nodes i st hn
  unfold c02x_fixed at h
  rw [List.all_eq_true] at h
  simpa using h _ hm

/-- node 1 campaigns, persists term 1 / vote 1, and sends its two vote requests -/
def c02x_a1 := c02x_st (Node.call (c02x_boot 1) none .campaign)
def c02x_a2 := c02x_st (Node.call c02x_a1 none .stabilize)
def c02x_a3 := c02x_st (Node.call c02x_a2 none .drain)
def c02x_req := c02x_a2.raft.msgs.head!
/-- node 2 is offered the request, grants, persists term 1 / vote 1, sends the response -/
def c02x_b1 := c02x_st (Node.call (c02x_boot 2) none (.step c02x_req))
def c02x_b2 := c02x_st (Node.call c02x_b1 none .stabilize)
def c02x_b3 := c02x_st (Node.call c02x_b2 none .drain)
def c02x_resp := c02x_b2.raft.msgs.head!
/-- node 1 is offered the response: leader of term 1 -/
def c02x_a4 := c02x_st (Node.call c02x_a3 none (.step c02x_resp))

def c02x_s0 : Sys := { nodes := [(1, c02x_boot 1), (2, c02x_boot 2), (3, c02x_boot 3)], net := [] }
def c02x_s1 : Sys := c02x_s0.setNode 1 c02x_a1
def c02x_s2 : Sys := c02x_s1.setNode 1 c02x_a2
def c02x_s3 : Sys := { (c02x_s2.setNode 1 c02x_a3) with net := c02x_s2.net ++ c02x_a2.raft.msgs }
def c02x_s4 : Sys := c02x_s3.setNode 2 c02x_b1
def c02x_s5 : Sys := c02x_s4.setNode 2 c02x_b2
def c02x_s6 : Sys := { (c02x_s5.setNode 2 c02x_b3) with net := c02x_s5.net ++ c02x_b2.raft.msgs }
def c02x_s7 : Sys := c02x_s6.setNode 1 c02x_a4

theorem c02x_head_mem (l : List Message) (h : l ≠ []) : l.head! ∈ l := by
  cases l with
  | nil => exact absurd rfl h
  | cons a t => exact List.mem_cons_self

theorem c02x_boots (k : Nat) (hk : k ∈ [1, 2, 3]) :
    Node.boot (c02x_config k) c02x_store none = .ok (.ok (c02x_boot k)) := by
  obtain ⟨st, h⟩ := c02x_booted ((by decide +kernel : ∀ k ∈ [1, 2, 3],
    (match Node.boot (c02x_config k) c02x_store none with | .ok (.ok _) => true | _ => false) = true)
    k hk)
  unfold c02x_boot; rw [h]

theorem c02x_s0_node {i : Nat} {st : NState} (hn : c02x_s0.node i = some st) :
    i ∈ [1, 2, 3] ∧ st = c02x_boot i := by
  have hm := c02_lookup_mem _ i st hn
  simp only [c02x_s0, List.mem_cons, Prod.mk.injEq, List.not_mem_nil, or_false] at hm
  rcases hm with ⟨rfl, rfl⟩ | ⟨rfl, rfl⟩ | ⟨rfl, rfl⟩ <;> exact ⟨by decide, rfl⟩

theorem c02x_s0_committed {i : Nat} {st : NState} (hn : c02x_s0.node i = some st) :
    st.raft.raftLog.committed = 0 := by
  obtain ⟨hi, rfl⟩ := c02x_s0_node hn
  exact (by decide +kernel : ∀ k ∈ [1, 2, 3], (c02x_boot k).raft.raftLog.committed = 0) i hi

theorem c02x_init : Init c02x_s0 := by
  refine ⟨rfl, fun i st hn => ?_⟩
  obtain ⟨hi, rfl⟩ := c02x_s0_node hn
  exact ⟨c02x_config i, c02x_store, none, rfl, c02x_boots i hi⟩

theorem c02x_steps :
    Step c02x_s0 c02x_s1 ∧ Step c02x_s1 c02x_s2 ∧ Step c02x_s2 c02x_s3 ∧ Step c02x_s3 c02x_s4 ∧
    Step c02x_s4 c02x_s5 ∧ Step c02x_s5 c02x_s6 ∧ Step c02x_s6 c02x_s7 := by
  refine ⟨?_, ?_, ?_, ?_, ?_, ?_, ?_⟩
  · exact Step.call _ 1 (c02x_boot 1) c02x_a1 none .campaign _ rfl rfl (c02x_out _ (by decide))
  · exact Step.call _ 1 c02x_a1 c02x_a2 none .stabilize _ rfl rfl (c02x_out _ (by decide))
  · exact Step.send _ 1 c02x_a2 c02x_a3 rfl ⟨by decide, by decide⟩ rfl
  · exact Step.deliver _ 2 (c02x_boot 2) c02x_b1 none c02x_req _ rfl
      (c02x_head_mem _ (by decide)) (by decide) (c02x_out _ (by decide))
  · exact Step.call _ 2 c02x_b1 c02x_b2 none .stabilize _ rfl rfl (c02x_out _ (by decide))
  · exact Step.send _ 2 c02x_b2 c02x_b3 rfl ⟨by decide, by decide⟩ rfl
  · exact Step.deliver _ 1 c02x_a3 c02x_a4 none c02x_resp _ rfl
      (List.mem_append_right _ (c02x_head_mem _ (by decide))) (by decide) (c02x_out _ (by decide))


/-- the history `s0 … s7`: boot; node 1 campaigns, persists, sends; node 2 is offered the request,
grants, persists, sends; node 1 is offered the response -/
def c02x_hist : List Sys :=
  [c02x_s0, c02x_s1, c02x_s2, c02x_s3, c02x_s4, c02x_s5, c02x_s6, c02x_s7]

theorem c02x_history : History c02x_hist := by
  obtain ⟨k1, k2, k3, k4, k5, k6, k7⟩ := c02x_steps
  have h0 : History [c02x_s0] := History.init _ c02x_init
  have h1 : History [c02x_s0, c02x_s1] := History.step [] _ _ h0 k1
  have h2 : History [c02x_s0, c02x_s1, c02x_s2] := History.step [c02x_s0] _ _ h1 k2
  have h3 : History [c02x_s0, c02x_s1, c02x_s2, c02x_s3] :=
    History.step [c02x_s0, c02x_s1] _ _ h2 k3
  have h4 : History [c02x_s0, c02x_s1, c02x_s2, c02x_s3, c02x_s4] :=
    History.step [c02x_s0, c02x_s1, c02x_s2] _ _ h3 k4
  have h5 : History [c02x_s0, c02x_s1, c02x_s2, c02x_s3, c02x_s4, c02x_s5] :=
    History.step [c02x_s0, c02x_s1, c02x_s2, c02x_s3] _ _ h4 k5
  have h6 : History [c02x_s0, c02x_s1, c02x_s2, c02x_s3, c02x_s4, c02x_s5, c02x_s6] :=
    History.step [c02x_s0, c02x_s1, c02x_s2, c02x_s3, c02x_s4] _ _ h5 k6
  exact History.step [c02x_s0, c02x_s1, c02x_s2, c02x_s3, c02x_s4, c02x_s5] _ _ h6 k7

theorem c02x_fixed_all : ∀ s ∈ c02x_hist, FixedCfg c02x_cfg s := by
  have h : c02x_hist.all c02x_fixed = true := by decide +kernel
  intro s hs
  exact c02x_fixed_ok s (List.all_eq_true.1 h s hs)

/-- **non-vacuity of `C02_cluster_election_safety`**: there is a history of `ClusterSem` over three
nodes, all of whose states have the voter configuration `{1, 2, 3}` (duplicate-free, non-empty), that
starts in an `Init` state with an empty transport and in whose last state node 1 is leader of term 1,
elected by the granted response of node 2 that the transport carries. -/
theorem C02_cluster_nonvacuous :
    ∃ h : List Sys, History h ∧ (∀ s ∈ h, FixedCfg c02x_cfg s) ∧
      c02x_cfg.incoming ≠ [] ∧ c02x_cfg.incoming.Nodup ∧ c02x_cfg.outgoing.Nodup ∧
      (∃ s ∈ h, leads s 1 1) ∧
      (∃ s ∈ h, ∃ g ∈ s.net, g.msgType = .msgRequestVoteResponse ∧ g.reject = false ∧
        g.frm = 2 ∧ g.to = 1 ∧ g.term = 1) :=
  ⟨c02x_hist, c02x_history, c02x_fixed_all, by decide, by decide, by decide,
    ⟨c02x_s7, by simp [c02x_hist], c02x_a4, rfl, by decide +kernel⟩,
    ⟨c02x_s7, by simp [c02x_hist], c02x_resp,
      List.mem_append_right _ (c02x_head_mem _ (by decide +kernel)), by decide +kernel⟩⟩

/-- … and the theorem applies to it: whoever leads term 1 anywhere in this history is node 1 -/
example (s : Sys) (hs : s ∈ c02x_hist) (j : Nat) (hj : leads s j 1) : j = 1 :=
  (C02_cluster_election_safety c02x_cfg (by decide +kernel) (by decide +kernel) (by decide +kernel) c02x_hist c02x_history
    c02x_fixed_all c02x_s7 s (by simp [c02x_hist]) hs 1 j 1
    ⟨c02x_a4, rfl, by decide +kernel⟩ hj).symm

/-! ### The stored pair is not monotone: `persist_snap` of a snapshot of a later term, then `stabilize` -/

/-- a follower of term 2 that voted for node 1 (both persisted) and holds a pending snapshot of term 7
(reachable: the storage of an `Init` state is arbitrary, so a leader may ship a snapshot whose term
is later than every term of the cluster) -/
def c02x_snap7 : Snapshot := { metadata := { index := 5, term := 7, confState := { voters := [1, 2] } } }
def c02x_snapStore : MemStorage := { hardState := { term := 2, vote := 1 }, confState := { voters := [1, 2] } }
def c02x_snapLog : RaftLog :=
  { store := c02x_snapStore, unstable := { snapshot := some c02x_snap7, offset := 6 }, committed := 5,
    persisted := 0, applied := 0, maxApplyUnpersistedLogLimit := 0 }
def c02x_snapNode : NState :=
  { raft := { id := 2, term := 2, vote := 1, raftLog := c02x_snapLog }, appCs := { voters := [1, 2] } }

set_option maxRecDepth 100000 in
/-- `persist_snap` raises the *stored* term to the snapshot's term 7 and keeps the stored vote 1
(`MemStorage::apply_snapshot`: `term = max(term, snapshot term)`), the in-memory pair stays `(2, 1)`;
the next `stabilize` writes `(2, 1)` back: the stored pair went `(2, 1) → (7, 1) → (2, 1)`. -/
example :
    let p1 := c02x_st (Node.call c02x_snapNode none .persistSnap)
    let p2 := c02x_st (Node.call p1 none .stabilize)
    c02x_ok (Node.call c02x_snapNode none .persistSnap) = true ∧
    c02x_ok (Node.call p1 none .stabilize) = true ∧
    (p1.raft.raftLog.store.hardState.term, p1.raft.raftLog.store.hardState.vote) = (7, 1) ∧
    (p1.raft.term, p1.raft.vote) = (2, 1) ∧
    (p2.raft.raftLog.store.hardState.term, p2.raft.raftLog.store.hardState.vote) = (2, 1) := by
  decide +kernel

end Examples

end RaftProps.C02
