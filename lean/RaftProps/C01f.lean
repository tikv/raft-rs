import RaftProofs.ClusterCommit5c4M
import RaftProofs.ClusterCommit6D

/-!
# C01 / C03 / C04, cluster level, **with `batch_append` allowed** (`NoBatch` removed from C01d)

`RaftProps/C01d.lean` proves the commit layer of `ClusterSem` (the leader's commit rule with durable
acknowledgements, Leader Completeness, State-Machine Safety, soundness of every commit index) under the
bundle `Hyp3w`, which contains `NoBatch` (`batch_append = false` on every node of every state).  This
file states **the same theorems under `Hyp3wB`** (`RaftProofs/ClusterCommitBatchInd.lean`), which does not
mention `batch_append` at all: the flag may be on, off, or switched by `set_batch_append` at any time.

`Hyp3wB cfg c0 h` = the fields of `Hyp3w` except `nb`, and instead
* `nosq`: no `MsgSnapshot` is ever *queued* (under `nosnap` — no `MsgSnapshot` in the transport — a node
  that queues one can never `send` again; C01d carried the alternative "a `MsgSnapshot` is queued next to
  it" through its invariants, which C05d's `SaneAnchors` does not have);
* `c0z : c0 = 0`: the nodes start without a snapshot point (C05d's `SaneAnchors` — an anchor with
  `log_term = 0` is at index 0 — coincides with "anchored inside the log" only then);
* `mv : MultiVoter cfg` — redundant: `multiVoter_of_nolone` derives it from `nolone`
  (`Hyp3wB.of_nolone` below builds the bundle without it).

C05d's hypothesis **`SaneAnchors` is not assumed but derived** (`C01f_sane_anchors`), inside the same
induction along the history that discharges `anch` and `rirs` (`M.ci_allK`, `Hyp3wB.toHyp3aB` in
`RaftProofs/ClusterCommit6A.lean`): the circularity "`SaneAnchors` needs progress-within-the-log needs
Leader Completeness needs Log Matching with batching needs `SaneAnchors`" is broken by applying the whole
layer to the prefix `h[0..n]` and a per-call argument for the step `n → n+1`.

What the layer adds to C01d's (`RaftProofs/ClusterCommit5A.lean` … `5P`, `ClusterCommitBatch*.lean`):
* per-call layer without `batchAppend = false`: `CB.call_gb` (`SF`/`G` → `SFb`/`Gb`, third alternative
  "batched onto an old queued append" `BkOK`), `PB.call_prb` (`PW` → `PWb`), `Bt.call_stob` (`call_sto` and
  the log half of `call_q`, on C05d's `N`/`L` relations);
* cluster level (`ClusterCommitBatchHyp.lean` … `ClusterCommit6D.lean`, developed once under the weaker hypotheses of
  `RaftProps/C01m.lean`, namespace `RaftModel.ClusterB.M`; `Hyp3wB` contains them, so the theorems below are
  instances): `HypB`/`Hyp2wB`/`Hyp3aB`/`Hyp3wB`, `M.HypB.invLB` (Log Matching + clean queue of C05d),
  `M.HypB.prov0`, the gateways `M.call_factsB`/`M.call_moreB`, **the clean-queue invariant of the commit layer**
  `M.leader_queue` (its instance over every queue, `leader_queue_all`, gives `C01f_leader_queue_clean` below), and the main induction of C01c/C01d over these
  bundles (`ClusterCommitBatchVocab.lean`, `ClusterCommitBatchInd.lean`, `ClusterCommitBatchFacts.lean`).
-/
namespace RaftProps.C01f
open RaftModel RaftModel.Cluster RaftModel.ClusterB RaftModel.Node RaftModel.Raft RaftModel.Raft.CC

/-- the bundle without the redundant field `mv` -/
theorem Hyp3wB.of_nolone {cfg : JointConfig} {h : List Sys} (hist : History h)
    (fix : ∀ s ∈ h, FixedCfg cfg s) (ne : cfg.incoming ≠ []) (nd1 : cfg.incoming.Nodup)
    (nd2 : cfg.outgoing.Nodup) (init : ∀ s : Sys, h[0]? = some s → InitOk s)
    (steps : ∀ (n : Nat) (a b : Sys), h[n]? = some a → h[n + 1]? = some b → KStep a b)
    (nosnap : ∀ s ∈ h, NoSnapNet s)
    (nolone : ∀ i Q, IsJointQuorum cfg Q → ∃ k ∈ Q, k ≠ i)
    (shape : ∀ s ∈ h, ∀ i st, s.node i = some st →
      st.raft.raftLog.unstable.snapshot = none ∧ st.raft.raftLog.store.firstIndex = 0 + 1)
    (initc : ∀ s : Sys, h[0]? = some s → ∀ i st, s.node i = some st → st.raft.raftLog.committed = 0)
    (snapt0 : ∀ s0, h[0]? = some s0 → ∀ i sti, s0.node i = some sti → ∀ t0,
      sti.raft.raftLog.abs.snapTerm = some t0 → ∀ j stj, s0.node j = some stj → t0 ≤ stj.raft.term)
    (nosq : ∀ s ∈ h, ∀ i st, s.node i = some st → ∀ y ∈ st.raft.msgs, y.msgType ≠ .msgSnapshot) :
    Hyp3wB cfg 0 h :=
  { hist := hist, fix := fix, ne := ne, nd1 := nd1, nd2 := nd2, init := init, steps := steps,
    nosnap := nosnap, mv := multiVoter_of_nolone nolone, nolone := nolone, shape := shape,
    initc := initc, c0z := rfl, snapt0 := snapt0, nosq := nosq }

/-- **the old bundle is a special case**: a history under C01d's `Hyp3w` (nobody batches) with `c0 = 0`
in which no `MsgSnapshot` is ever queued satisfies `Hyp3wB` -/
theorem Hyp3w.toHyp3wB {cfg : JointConfig} {h : List Sys} (H : Hyp3w cfg 0 h)
    (nosq : ∀ s ∈ h, ∀ i st, s.node i = some st → ∀ y ∈ st.raft.msgs, y.msgType ≠ .msgSnapshot) :
    Hyp3wB cfg 0 h :=
  Hyp3wB.of_nolone H.hist H.fix H.ne H.nd1 H.nd2 H.init H.steps H.nosnap H.nolone H.shape H.initc
    H.snapt0 nosq

/-- **C05d's hypothesis `SaneAnchors`, derived**: in every state of a history under `Hyp3wB` no queued
`MsgAppend` is anchored in the void — with batching on, this is what the Log Matching layer
(`RaftProps/C05d.lean`, `BatchOk`) takes as a hypothesis. -/
theorem C01f_sane_anchors (cfg : JointConfig) (c0 : Nat) (h : List Sys) (H : Hyp3wB cfg c0 h) :
    MultiVoter cfg ∧ ∀ s ∈ h, SaneAnchors s :=
  ⟨H.mv, H.toHyp3aB.sane⟩

/-- … hence every theorem of `RaftProps/C05d.lean` (Log Matching with batching) applies: `BatchOk`. -/
theorem C01f_batchOk (cfg : JointConfig) (c0 : Nat) (h : List Sys) (H : Hyp3wB cfg c0 h) :
    RaftProps.C05.BatchOk cfg h := .inr ⟨H.mv, H.toHyp3aB.sane⟩

/-- **the clean-queue invariant of the commit layer**: every `MsgAppend` in the queue of a leader —
queued on its own or glued together by `try_batching` — carries the leader's term and id, is anchored
inside the leader's log, and is a slice of the leader's log. -/
theorem C01f_leader_queue_clean (cfg : JointConfig) (c0 : Nat) (h : List Sys) (H : Hyp3wB cfg c0 h)
    (n : Nat) (s : Sys) (hn : h[n]? = some s) (i : Nat) (st : NState) (hi : s.node i = some st)
    (hl : st.raft.state = .leader) (x : Message) (hx : x ∈ st.raft.msgs)
    (hty : x.msgType = .msgAppend) :
    x.term = st.raft.term ∧ x.frm = i ∧ st.raft.raftLog.term x.index = .ok x.logTerm ∧
    ContigFrom (x.index + 1) x.entries ∧ Sub (msgLog x) st.raft.raftLog.abs :=
  leader_queue_all (.of_hyp3wB H) hn hi hl hx hty

/-- **the gap `anch`, with batching**: every `MsgAppend` in the transport or in a queue is
anchored inside its sender's log. -/
theorem C01f_appends_anchored (cfg : JointConfig) (c0 : Nat) (h : List Sys) (H : Hyp3wB cfg c0 h)
    (n : Nat) (s : Sys) (hn : h[n]? = some s) :
    (∀ x ∈ s.net, x.msgType = .msgAppend → x.logTerm ≠ 0 ∨ x.index ≤ c0) ∧
    (∀ i st, s.node i = some st → ∀ x ∈ st.raft.msgs, x.msgType = .msgAppend →
      x.logTerm ≠ 0 ∨ x.index ≤ c0) := by
  have hci := ci_allK (.of_hyp3wB H) n s hn
  refine ⟨hci.na, fun i st hi x hx hty => ?_⟩
  rcases hci.qa i st hi x hx hty with ⟨y, hy, hys⟩ | c
  · exact absurd hys (H.nosq s (mem_of_get hn) i st hi y hy)
  · exact c

end RaftProps.C01f

namespace RaftModel.ClusterB
open RaftModel RaftModel.Cluster RaftModel.Node RaftModel.Raft RaftModel.Raft.CC RaftProps.C01f

/-- **C04 `cluster_leader_commit_rule`** — the commit rule with **durable acknowledgements**: whenever
a step `h[n] → h[n+1]` takes the commit index of a node `l` that is leader of term `t` after the step
from `c` to `c' > c`, the entry at `c'` in its log carries term `t`, and there is a joint quorum `Q` of
`cfg` such that every `j ∈ Q` is

* `l` itself, with `persisted ≥ c'` — and its storage holds its log up to `c'`; or
* the sender of an accepting `MsgAppendResponse` `x` for term `t` with `index ≥ c'` that is in the
  transport before the step, **and in every state of the history whose transport holds `x` — from the
  moment `x` entered the transport on — the storage of `j` holds `l`'s log up to `c'`**. -/
theorem _root_.RaftProps.C01f.C04_cluster_leader_commit_rule (cfg : JointConfig) (c0 : Nat) (h : List Sys)
    (H : Hyp3wB cfg c0 h)
    (n : Nat) (a b : Sys) (ha : h[n]? = some a) (hb : h[n + 1]? = some b)
    (l : Nat) (sta stb : NState) (hla : a.node l = some sta) (hlb : b.node l = some stb)
    (t : Nat) (hs : stb.raft.state = .leader) (ht : stb.raft.term = t)
    (hc : sta.raft.raftLog.committed < stb.raft.raftLog.committed) :
    stb.raft.raftLog.term stb.raft.raftLog.committed = .ok t ∧
    ∃ Q, IsJointQuorum cfg Q ∧ ∀ j ∈ Q,
      (j = l ∧ stb.raft.raftLog.committed ≤ stb.raft.raftLog.persisted ∧
        ∀ k, k ≤ stb.raft.raftLog.committed →
          (storeLog stb.raft.raftLog.store).entryAt k = stb.raft.raftLog.abs.entryAt k) ∨
      ∃ x ∈ a.net, x.msgType = .msgAppendResponse ∧ x.reject = false ∧ x.frm = j ∧ x.term = t ∧
        stb.raft.raftLog.committed ≤ x.index ∧
        ∀ (m : Nat) (s : Sys) (stj : NState), h[m]? = some s → x ∈ s.net → s.node j = some stj →
          ∀ k, k ≤ stb.raft.raftLog.committed →
            (storeLog stj.raft.raftLog.store).entryAt k = stb.raft.raftLog.abs.entryAt k :=
  M.leader_commit_rule cfg c0 h H.toM n a b ha hb l sta stb hla hlb t hs ht hc

/-- **C03 `cluster_leader_completeness`** — every entry a leader has committed is in the log of every
leader of a later term: if a step `h[n] → h[n+1]` takes the commit index of `l`, leader of term `t`
after the step, to `c'`, then any node that leads a term `t' > t` in any state `h[m]` of the history
holds, at every index up to `c'`, the entry `l` held there. -/
theorem _root_.RaftProps.C01f.C03_cluster_leader_completeness (cfg : JointConfig) (c0 : Nat) (h : List Sys)
    (H : Hyp3wB cfg c0 h)
    (n : Nat) (a b : Sys) (ha : h[n]? = some a) (hb : h[n + 1]? = some b)
    (l : Nat) (sta stb : NState) (hla : a.node l = some sta) (hlb : b.node l = some stb)
    (hs : stb.raft.state = .leader)
    (hc : sta.raft.raftLog.committed < stb.raft.raftLog.committed)
    (m : Nat) (s : Sys) (hm : h[m]? = some s) (l' : Nat) (st' : NState)
    (hl' : s.node l' = some st') (hs' : st'.raft.state = .leader)
    (ht : stb.raft.term < st'.raft.term) :
    ∀ k, k ≤ stb.raft.raftLog.committed →
      st'.raft.raftLog.abs.entryAt k = stb.raft.raftLog.abs.entryAt k :=
  M.leader_completeness cfg c0 h H.toM n a b ha hb l sta stb hla hlb hs hc m s hm l' st' hl' hs' ht

/-- **C04 `cluster_follower_commit_sound`** — *every* commit index is sound: in every state `h[m]`,
what a node `v` has marked committed is at most the common snapshot point `c0`, or it was committed by
a leader: there is an earlier step `h[n] → h[n+1]` (`n < m`) that took the commit index of a node `l`,
leader of a term `t ≤ term(v)` after the step, to some `c' ≥ committed(v)`, and the log of `v` equals
the log `l` had then up to `committed(v)`. -/
theorem _root_.RaftProps.C01f.C04_cluster_follower_commit_sound (cfg : JointConfig) (c0 : Nat) (h : List Sys)
    (H : Hyp3wB cfg c0 h) (m : Nat) (s : Sys) (hm : h[m]? = some s) (v : Nat) (st : NState)
    (hv : s.node v = some st) :
    st.raft.raftLog.committed ≤ c0 ∨
    ∃ (n : Nat) (a b : Sys) (l : Nat) (sta stb : NState), n < m ∧ h[n]? = some a ∧
      h[n + 1]? = some b ∧ a.node l = some sta ∧ b.node l = some stb ∧
      stb.raft.state = .leader ∧ sta.raft.raftLog.committed < stb.raft.raftLog.committed ∧
      st.raft.raftLog.committed ≤ stb.raft.raftLog.committed ∧ stb.raft.term ≤ st.raft.term ∧
      ∀ k, k ≤ st.raft.raftLog.committed →
        st.raft.raftLog.abs.entryAt k = stb.raft.raftLog.abs.entryAt k :=
  M.follower_commit_sound cfg c0 h H.toM m s hm v st hv

/-- … and so is every **stored** commit index (what a restarted node starts from): it is not ahead of
the commit index, and it is covered by a leader's commit of a term not above the stored term, with the
stored entries. -/
theorem _root_.RaftProps.C01f.C04_cluster_stored_commit_sound (cfg : JointConfig) (c0 : Nat) (h : List Sys)
    (H : Hyp3wB cfg c0 h) (m : Nat) (s : Sys) (hm : h[m]? = some s) (v : Nat) (st : NState)
    (hv : s.node v = some st) :
    st.raft.raftLog.store.hardState.commit ≤ st.raft.raftLog.committed ∧
    (st.raft.raftLog.store.hardState.commit ≤ c0 ∨
     ∃ (n : Nat) (a b : Sys) (l : Nat) (sta stb : NState), n < m ∧ h[n]? = some a ∧
      h[n + 1]? = some b ∧ a.node l = some sta ∧ b.node l = some stb ∧
      stb.raft.state = .leader ∧ sta.raft.raftLog.committed < stb.raft.raftLog.committed ∧
      st.raft.raftLog.store.hardState.commit ≤ stb.raft.raftLog.committed ∧
      stb.raft.term ≤ st.raft.raftLog.store.hardState.term ∧
      ∀ k, k ≤ st.raft.raftLog.store.hardState.commit →
        (storeLog st.raft.raftLog.store).entryAt k = stb.raft.raftLog.abs.entryAt k) :=
  M.stored_commit_sound cfg c0 h H.toM m s hm v st hv

/-- **C01 `cluster_state_machine_safety`** — any two nodes, in any two states of the history (the same
node before and after a restart included), hold the same entry at every index both have marked
committed. -/
theorem _root_.RaftProps.C01f.C01_cluster_state_machine_safety (cfg : JointConfig) (c0 : Nat) (h : List Sys)
    (H : Hyp3wB cfg c0 h)
    (m1 : Nat) (s1 : Sys) (hm1 : h[m1]? = some s1) (v1 : Nat) (st1 : NState)
    (hv1 : s1.node v1 = some st1)
    (m2 : Nat) (s2 : Sys) (hm2 : h[m2]? = some s2) (v2 : Nat) (st2 : NState)
    (hv2 : s2.node v2 = some st2)
    (k : Nat) (hk1 : k ≤ st1.raft.raftLog.committed) (hk2 : k ≤ st2.raft.raftLog.committed) :
    st1.raft.raftLog.abs.entryAt k = st2.raft.raftLog.abs.entryAt k :=
  M.state_machine_safety cfg c0 h H.toM m1 s1 hm1 v1 st1 hv1 m2 s2 hm2 v2 st2 hv2 k hk1 hk2

/-- … in particular for the **applied** entries of two nodes whose applied index is within their
commit index (`AppliedOk`, which holds outside the restart window — `raft_log.rs:44-46`). -/
theorem _root_.RaftProps.C01f.C01_cluster_state_machine_safety_applied (cfg : JointConfig) (c0 : Nat) (h : List Sys)
    (H : Hyp3wB cfg c0 h)
    (m1 : Nat) (s1 : Sys) (hm1 : h[m1]? = some s1) (v1 : Nat) (st1 : NState)
    (hv1 : s1.node v1 = some st1) (ha1 : st1.raft.raftLog.AppliedOk)
    (m2 : Nat) (s2 : Sys) (hm2 : h[m2]? = some s2) (v2 : Nat) (st2 : NState)
    (hv2 : s2.node v2 = some st2) (ha2 : st2.raft.raftLog.AppliedOk)
    (k : Nat) (hk1 : k ≤ st1.raft.raftLog.applied) (hk2 : k ≤ st2.raft.raftLog.applied) :
    st1.raft.raftLog.abs.entryAt k = st2.raft.raftLog.abs.entryAt k :=
  C01_cluster_state_machine_safety cfg c0 h H m1 s1 hm1 v1 st1 hv1 m2 s2 hm2 v2 st2 hv2 k
    (Nat.le_trans hk1 ha1) (Nat.le_trans hk2 ha2)

/-! ## Non-vacuity: a leader commits entries that `try_batching` glued onto a queued append

`RaftProofs/ClusterCommit5c4M.lean` (kernel-evaluated): the history of `C01_cluster_nonvacuous` continued by
`set_batch_append(true)`, two proposals (both glued onto the queued `MsgAppend` for node 2), and the round
trip of the batched message. -/

section Examples
open RaftProps.C02 RaftProps.C05

/-- **non-vacuity with batching on**: there is a history of `ClusterSem` that satisfies `Hyp3wB` (voters
`{1, 2, 3}`) and not `NoBatch`, in which (1) a step of the leader node 1 replaces the queued `MsgAppend`
`y` by `{ y with entries := y.entries ++ es, commit := c }` with `es ≠ []` (`try_batching`), and (2) a
later step — the delivery of node 2's acknowledgement of the batched message — takes the commit index
of node 1, leader with `batch_append = true`, from 1 to 3. -/
theorem _root_.RaftProps.C01f.C01f_cluster_batch_nonvacuous :
    ∃ h : List Sys, Hyp3wB c02x_cfg 0 h ∧ ¬ (∀ s ∈ h, NoBatch s) ∧
      (∃ (n : Nat) (a b : Sys) (sta stb : NState) (y x : Message) (es : List Entry) (c : Nat),
        h[n]? = some a ∧ h[n + 1]? = some b ∧ a.node 1 = some sta ∧ b.node 1 = some stb ∧
        y ∈ sta.raft.msgs ∧ x ∈ stb.raft.msgs ∧ y.msgType = .msgAppend ∧ es ≠ [] ∧
        x = { y with entries := y.entries ++ es, commit := c }) ∧
      ∃ (n : Nat) (a b : Sys) (sta stb : NState),
        h[n]? = some a ∧ h[n + 1]? = some b ∧ a.node 1 = some sta ∧ b.node 1 = some stb ∧
        stb.raft.state = .leader ∧ stb.raft.batchAppend = true ∧
        sta.raft.raftLog.committed = 1 ∧ stb.raft.raftLog.committed = 3 := by
  obtain ⟨-, ⟨y1, y2, y3, y4, y5⟩, l1, l2, l3, l4⟩ := c01w_eval
  refine ⟨c01w_hist, c01w_hyp3wB, ?_, ?_, ?_⟩
  · intro hnb
    have := hnb c01w_s24 (by simp [c01w_hist, c01w_tail]) 1 c01w_a15 rfl
    rw [l2] at this; cases this
  · exact ⟨15, c01w_s15, c01w_s16, c01w_a9, c01w_a10, c01w_a9.raft.msgs.head!,
      c01w_a10.raft.msgs.head!, c01w_a10.raft.msgs.head!.entries, 1, rfl, rfl, rfl, rfl,
      c02x_head_mem _ y1, c02x_head_mem _ y2, y3, y4, y5⟩
  · exact ⟨23, c01w_s23, c01w_s24, c01w_a14, c01w_a15, rfl, rfl, rfl, rfl, l1, l2, l3, l4⟩

/-- State-Machine Safety applies to that history -/
example (m1 : Nat) (s1 : Sys) (hm1 : c01w_hist[m1]? = some s1) (v1 : Nat) (st1 : NState)
    (hv1 : s1.node v1 = some st1) (m2 : Nat) (s2 : Sys) (hm2 : c01w_hist[m2]? = some s2) (v2 : Nat)
    (st2 : NState) (hv2 : s2.node v2 = some st2) (k : Nat)
    (hk1 : k ≤ st1.raft.raftLog.committed) (hk2 : k ≤ st2.raft.raftLog.committed) :
    st1.raft.raftLog.abs.entryAt k = st2.raft.raftLog.abs.entryAt k :=
  C01_cluster_state_machine_safety c02x_cfg 0 c01w_hist c01w_hyp3wB m1 s1 hm1 v1 st1 hv1 m2 s2 hm2
    v2 st2 hv2 k hk1 hk2

end Examples

end RaftModel.ClusterB
