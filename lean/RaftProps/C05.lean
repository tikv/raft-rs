import RaftProofs.ProtoLStep
import RaftProofs.ProtoVol

/-!
# C05 — log matching; leaders append-only; committed prefix immutable

Theorems about the abstract protocol P, for every reachable state of every history (the voter
configuration may change along it): any number of nodes, any schedule, message
loss / duplication / reordering (monotone released-message sets), crash at any point and restart from
the durable image — including a leader that crashes after sending entries it had not persisted, and
stale appends from successive leaders (any released append of any term may be delivered at any
later time to a node whose term equals the append's).

Logs are the *logical* logs (from index 1); compaction does not exist in P and the comparison with
the implementation is on the retained suffix.  The tie to the code: every `append` /
`maybe_append` / snapshot install of a real node must be justified to P as `leaderAppend` /
`recvApp` (whose result `mergeAt` is `maybe_append`'s truncate-at-first-conflict rule) /
`installSnap`, and the node's log is compared with P's after every call.
-/
namespace RaftProps.C05
open RaftModel.P

/-- **Log Matching** (volatile logs, i.e. including entries not yet persisted): if the logs of two
nodes hold an entry with the same index and term, the logs are identical up to that index. -/
theorem C05_logMatching (s : PSys)
    (hr : Reach s) (a b k : Nat) (x y : LEntry)
    (hx : (s.nodes a).log[k]? = some x) (hy : (s.nodes b).log[k]? = some y) (ht : x.term = y.term) :
    (s.nodes a).log.take (k + 1) = (s.nodes b).log.take (k + 1) :=
  logMatching_of_invL (invL_reachR s hr) _ _ (listsOf_log s a) (listsOf_log s b) k x y hx hy ht

/-- the same between any two lists of entries that exist anywhere: volatile logs, durable logs,
pending images, acknowledged prefixes, snapshots, ghost leader logs -/
theorem C05_logMatching_all (s : PSys)
    (hr : Reach s) (l1 l2 : List LEntry) (h1 : listsOf s l1) (h2 : listsOf s l2) (k : Nat)
    (x y : LEntry) (hx : l1[k]? = some x) (hy : l2[k]? = some y) (ht : x.term = y.term) :
    l1.take (k + 1) = l2.take (k + 1) :=
  logMatching_of_invL (invL_reachR s hr) l1 l2 h1 h2 k x y hx hy ht

/-- in particular an entry is determined by its index and term -/
theorem C05_entry_determined (s : PSys)
    (hr : Reach s) (a b k : Nat) (x y : LEntry)
    (hx : (s.nodes a).log[k]? = some x) (hy : (s.nodes b).log[k]? = some y) (ht : x.term = y.term) :
    x = y := by
  have h := C05_logMatching s hr a b k x y hx hy ht
  have h1 : ((s.nodes a).log.take (k + 1))[k]? = some x := by rw [List.getElem?_take]; simp [hx]
  have h2 : ((s.nodes b).log.take (k + 1))[k]? = some y := by rw [List.getElem?_take]; simp [hy]
  rw [h] at h1
  rw [h1] at h2
  exact Option.some.inj h2

/-- every released append is a slice of the log of the leader of its term, anchored in it -/
theorem C05_append_is_leader_slice (s : PSys)
    (hr : Reach s) (m : App) (hm : m ∈ s.apps) :
    m.prev + m.es.length ≤ (s.llog m.term).length ∧
    m.es = ((s.llog m.term).drop m.prev).take m.es.length ∧
    m.prevTerm = termAt (s.llog m.term) m.prev := by
  have := (invL_reachR s hr).msg m hm
  exact ⟨this.len, this.slice, this.anchor⟩

/-- a leader's log is the ghost log of its term, and entries carry positive terms not above the
term of the log that holds them -/
theorem C05_leader_log (s : PSys)
    (hr : Reach s) (i : Nat) :
    ((s.nodes i).role = 2 → (s.nodes i).log = s.llog (s.nodes i).term) ∧
    (∀ e ∈ (s.nodes i).log, 1 ≤ e.term ∧ e.term ≤ (s.nodes i).term) := by
  have I := invL_reachR s hr
  refine ⟨I.ll i, fun e he => ⟨pfl_term_pos I (keep_log s I i) he, (I.tle i).1 e he⟩⟩

/-- **Leaders are append-only**: whatever happens, as long as a node is in the leader role before
and after a step, its log after the step extends its log before the step. -/
theorem C05_leader_append_only (s s' : PSys) (e : Event) (h : applyEvent s e = .ok s') (j : Nat)
    (h1 : (s.nodes j).role = 2) (h2 : (s'.nodes j).role = 2) :
    ∃ r, (s'.nodes j).log = (s.nodes j).log ++ r := by
  cases vol_step h j with
  | keep _ _ hl | role0 _ _ hl | cand _ _ _ _ hl | win _ _ _ _ _ _ hl | bump _ _ hl =>
    exact ⟨[], by rw [hl, List.append_nil]⟩
  | append x _ _ _ _ hl => exact ⟨[x], hl⟩
  | merge _ _ hr' | install _ _ _ _ hr' | restart _ hr' | boot _ _ _ _ hr' => rw [h2] at hr'; cases hr'

/-- **The committed prefix is immutable** under every step that is not a restart, a snapshot
install or a bootstrap: no entry at or below the commit index is replaced.  (A restart resumes from
the durable image, a snapshot install replaces the log by the snapshot's prefix; that these agree
with the committed prefix is the commit layer's state-machine safety, C01.)  `hcl`: the commit index
is inside the log, which every commit event of P checks. -/
theorem C05_commit_prefix_immutable (s s' : PSys) (e : Event) (h : applyEvent s e = .ok s')
    (hne : (∀ i, e ≠ .restart i) ∧ (∀ i t idx st, e ≠ .installSnap i t idx st) ∧
           (∀ i d idx, e ≠ .bootstrap i d idx)) (j : Nat)
    (hcl : (s.nodes j).commit ≤ (s.nodes j).log.length) :
    (s'.nodes j).log.take (s.nodes j).commit = (s.nodes j).log.take (s.nodes j).commit := by
  cases vol_step h j with
  | keep _ _ hl | role0 _ _ hl | cand _ _ _ _ hl | win _ _ _ _ _ _ hl | bump _ _ hl => rw [hl]
  | append x _ _ _ _ hl => rw [hl, List.take_append_of_le_length hcl]
  | merge _ _ _ _ _ hl => exact hl
  | install t idx st he => exact absurd he (hne.2.1 j t idx st)
  | restart he => exact absurd he (hne.1 j)
  | boot d idx he => exact absurd he (hne.2.2 j d idx)

/-! ### non-vacuity: two followers with diverging unpersisted tails are repaired by a new leader -/

def c3 : Cfg := ⟨[1, 2, 3], []⟩
def e (t d : Nat) : LEntry := ⟨t, 0, d⟩

/-- node 1 leads term 1 and replicates entry a to node 2 only; node 3 then wins term 2 with the
votes of 3 and ... (it needs node 2, whose log is longer: refused) -/
def hist : List Event :=
  [.bump 1 1, .campaign 1, .rdy 1, .persist 1 1, .release 1 (.grant 1 1 1 {}), .release 1 (.voteReq 1 1 0 0),
   .bump 2 1, .grant 2 1, .rdy 2, .persist 2 1, .release 2 (.grant 1 2 1 {}), .win 1 c3 [1, 2],
   .leaderAppend 1 (e 1 7), .sendApp 1 ⟨1, 1, 0, 0, [e 1 7], 0⟩, .recvApp 2 ⟨1, 1, 0, 0, [e 1 7], 0⟩,
   .leaderAppend 1 (e 1 8)]

example : (match run init hist with
    | .ok s => ((s.nodes 1).log, (s.nodes 2).log, (s.nodes 3).log) | .error _ => ([], [], [])) =
    ([e 1 7, e 1 8], [e 1 7], []) := by decide +kernel

/-- node 3 (empty log) cannot get node 2's vote in term 2: its log is not up to date -/
example : (match run init (hist ++ [.bump 3 2, .campaign 3, .rdy 3, .persist 3 1,
      .release 3 (.voteReq 2 3 0 0), .bump 2 2, .grant 2 3]) with
    | .ok _ => "granted" | .error _ => "refused") = "refused" := by decide +kernel

end RaftProps.C05
