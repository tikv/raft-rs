import RaftProps.C14
import RaftProofs.RaftLogReads
import RaftProofs.RaftLogStore

/-!
# C14, continued — size-limited reads and the storage-side steps

The four statements left unproved at the end of `RaftProps/C14.lean`:

* `C14_entries_spec : C14_entries_full_statement` and
  `C14_nextEntriesSince_spec : C14_nextEntriesSince_full_statement` — proved as written.
* `C14_slice_full_statement` is false as written only because a `Res.panic` carries the name of its
  site (`C14_slice_full_statement_false`); `C14_slice_spec` proves "same outcome", with plain
  equality whenever no panic is involved (the two-phase `limit_size` is one `limit_size` of the
  logical range), and `C14_slice_limit` what that means for the caller (non-empty gap-free prefix,
  within the limit unless a single entry, maximal).
* `C14_storage_steps_full_statement` is false in each of its three clauses
  (`stabilise_clause_false`, `persistSnapshot_clause_false`, `compactStore_clause_false`);
  `C14_storage_steps_spec` proves it with one added hypothesis per clause and
  `C14_storage_steps_outside` says what the code does outside them (panic / `SnapshotOutOfDate` /
  drained storage, finding F5 seen from `RaftLog`).
-/

namespace RaftProps.C14
open RaftModel

/-! ### `slice` -/

theorem first_le_last_succ {l : RaftLog} (h : l.Inv) : l.firstIndex ≤ l.lastIndex + 1 :=
  h.first_le_last_succ

/-- **`slice` inside the log**: the size-limited logical range (`RaftLog.Inv.slice_eq` with the
storage available) -/
theorem slice_ok {l : RaftLog} (h : l.Inv) (lo hi : Nat) (mx : Option Nat) (ca : Bool)
    (hav : (l.store.triggerLogUnavailable && ca) = false)
    (h1 : l.firstIndex ≤ lo) (h2 : lo ≤ hi) (h3 : hi ≤ l.lastIndex + 1) :
    l.slice lo hi mx ca = .ok (limitSize (l.abs.range lo hi) mx) :=
  h.slice_ok lo hi mx ca hav h1 h2 h3

theorem slice_order_panics (l : RaftLog) (lo hi : Nat) (mx : Option Nat) (ca : Bool)
    (h : hi < lo) : l.slice lo hi mx ca = .panic "raft_log.must_check_outofbounds.order" := by
  unfold RaftLog.slice RaftLog.mustCheckOutOfBounds
  rw [if_pos h]

theorem slice_compacted (l : RaftLog) (lo hi : Nat) (mx : Option Nat) (ca : Bool)
    (h1 : lo ≤ hi) (h2 : lo < l.firstIndex) : l.slice lo hi mx ca = .err .compacted := by
  unfold RaftLog.slice RaftLog.mustCheckOutOfBounds
  rw [if_neg (by omega), if_pos h2]

theorem slice_range_panics {l : RaftLog} (h : l.Inv) (lo hi : Nat) (mx : Option Nat) (ca : Bool)
    (h1 : lo ≤ hi) (h2 : l.firstIndex ≤ lo) (h3 : l.lastIndex + 1 < hi) :
    l.slice lo hi mx ca = .panic "raft_log.must_check_outofbounds.range" := by
  have := first_le_last_succ h
  unfold RaftLog.slice RaftLog.mustCheckOutOfBounds
  rw [if_neg (by omega), if_neg (by omega), if_neg (by omega), if_pos (by omega)]

/-- two results are the same outcome: equal, or both a panic (the model names the panic site of the
code, `raft_log.must_check_outofbounds.*`; the sequence model names its own) -/
def SameOutcome {α : Type} (a b : Res α) : Prop := a = b ∨ ∃ s s', a = .panic s ∧ b = .panic s'

/-- the state `RaftLog::new` builds over `st0` (snapshot point (2,1), entries 3 and 4) -/
def l0 : RaftLog :=
  { store := st0, unstable := Unstable.new 5, committed := 2, persisted := 4, applied := 2,
    maxApplyUnpersistedLogLimit := 0 }

theorem l0_inv : RaftLogInv l0 := by
  obtain ⟨l, e, hi, _, _⟩ := C14_new_inv st0 st0_wf 0
  have : RaftLog.new st0 0 = .ok l0 := rfl
  rw [this] at e; cases e; exact hi

/-- **`C14_slice_full_statement` is false as written**, but only because a panic carries the name of
its site: `slice(5, 3)` panics in both, at `raft_log.must_check_outofbounds.order` in the model of
the code and at `spec.slice.order` in the sequence model. -/
theorem C14_slice_full_statement_false : ¬ C14_slice_full_statement := by
  intro hall
  have h := hall l0 l0_inv 5 3 none false rfl
  have h1 : l0.slice 5 3 none false = .panic "raft_log.must_check_outofbounds.order" := rfl
  have h2 : l0.abs.slice 5 3 none = .panic "spec.slice.order" := rfl
  rw [h1, h2] at h
  exact absurd h (by decide)

/-- **`slice(lo, hi, max_size)` agrees with the sequence model** (corrected
`C14_slice_full_statement`: same outcome instead of equality, because panic sites are named
differently; plain equality wherever no panic is involved).  For every state satisfying the
invariant, all arguments, storage available (`MemStorage`'s test trigger for
`LogTemporarilyUnavailable` not armed for an async-capable caller):
* `hi < lo`, or `first ≤ lo` and `last + 1 < hi`: both panic;
* otherwise the results are equal: `Compacted` when `lo < first_index`, else
  `limit_size(log[lo, hi), max_size)` — the two-phase limit (storage part first, then the
  concatenation) is the single `limit_size` of the logical range. -/
theorem C14_slice_spec : ∀ (l : RaftLog), RaftLogInv l → ∀ lo hi mx ca,
    (l.store.triggerLogUnavailable && ca) = false →
    SameOutcome (l.slice lo hi mx ca) (l.abs.slice lo hi mx) ∧
    (lo ≤ hi → (hi ≤ l.lastIndex + 1 ∨ lo < l.firstIndex) →
      l.slice lo hi mx ca = l.abs.slice lo hi mx) ∧
    (lo ≤ hi → l.firstIndex ≤ lo → hi ≤ l.lastIndex + 1 →
      l.slice lo hi mx ca = .ok (limitSize (l.abs.range lo hi) mx)) ∧
    (hi < lo ∨ (l.firstIndex ≤ lo ∧ l.lastIndex + 1 < hi) →
      ∃ s, l.slice lo hi mx ca = .panic s) := by
  intro l h lo hi mx ca hav
  have hfi := h.firstIndex_abs
  have hla := h.lastIndex_abs
  have heq : lo ≤ hi → (hi ≤ l.lastIndex + 1 ∨ lo < l.firstIndex) →
      l.slice lo hi mx ca = l.abs.slice lo hi mx := by
    intro h1 h2
    unfold LLog.slice
    rw [if_neg (by omega), ← hfi, ← hla]
    by_cases hc : lo < l.firstIndex
    · rw [if_pos hc]; exact slice_compacted l lo hi mx ca h1 hc
    · rw [if_neg hc, if_neg (by omega)]
      exact slice_ok h lo hi mx ca hav (by omega) h1 (by omega)
  refine ⟨?_, heq, fun a b c => slice_ok h lo hi mx ca hav b a c, ?_⟩
  · by_cases h1 : hi < lo
    · right
      exact ⟨_, "spec.slice.order", slice_order_panics l lo hi mx ca h1, by
        unfold LLog.slice; rw [if_pos h1]⟩
    · by_cases h2 : hi ≤ l.lastIndex + 1 ∨ lo < l.firstIndex
      · left; exact heq (by omega) h2
      · right
        exact ⟨_, "spec.slice.range", slice_range_panics h lo hi mx ca (by omega) (by omega)
          (by omega), by
          unfold LLog.slice; rw [if_neg h1, ← hfi, ← hla, if_neg (by omega), if_pos (by omega)]⟩
  · intro hp
    rcases hp with hp | ⟨hp1, hp2⟩
    · exact ⟨_, slice_order_panics l lo hi mx ca hp⟩
    · by_cases h1 : hi < lo
      · exact ⟨_, slice_order_panics l lo hi mx ca h1⟩
      · exact ⟨_, slice_range_panics h lo hi mx ca (by omega) hp1 hp2⟩

/-! ### `entries`, `next_entries_since` -/

/-- **`entries(idx, max_size)` agrees with the sequence model** (`C14_entries_full_statement` as
written: `entries` never reaches a panic site of `slice`) -/
theorem C14_entries_spec : C14_entries_full_statement := by
  intro l h i mx ca hav
  unfold RaftLog.entries LLog.entries
  rw [← h.lastIndex_abs]
  by_cases hlt : l.lastIndex < i
  · rw [if_pos hlt, if_pos hlt]
  · rw [if_neg hlt, if_neg hlt]
    exact (C14_slice_spec l h i (l.lastIndex + 1) mx ca hav).2.1 (by omega) (.inl (Nat.le_refl _))

/-- `entries` spelled out: nothing above `last_index`, `Compacted` below `first_index`, otherwise
the size-limited suffix of the logical log from `idx` -/
theorem C14_entries_cases (l : RaftLog) (h : RaftLogInv l) (i : Nat) (mx : Option Nat) (ca : Bool)
    (hav : (l.store.triggerLogUnavailable && ca) = false) :
    (l.lastIndex < i → l.entries i mx ca = .ok []) ∧
    (i < l.firstIndex → l.entries i mx ca = .err .compacted) ∧
    (l.firstIndex ≤ i → i ≤ l.lastIndex →
      l.entries i mx ca = .ok (limitSize (l.abs.range i (l.lastIndex + 1)) mx)) := by
  have h : l.Inv := h
  have := h.first_le_last_succ
  rw [h.entries_eq]
  refine ⟨fun hlt => by rw [if_pos hlt], fun hlt => by rw [if_neg (by omega), if_pos hlt],
    fun h1 h2 => by rw [if_neg (by omega), if_neg (by omega), if_neg (by rw [hav]; simp)]⟩

/-- **`next_entries_since(since, max_size)`** (`C14_nextEntriesSince_full_statement` as written):
the size-limited logical range from `max(since + 1, first_index)` up to and including
`min(committed, persisted + max_apply_unpersisted_log_limit)`, `None` when that range is empty;
never a panic, never `Compacted` -/
theorem C14_nextEntriesSince_spec : C14_nextEntriesSince_full_statement := by
  intro l h since mx hsince hub
  have hcl := h.committed_le_last
  unfold RaftLog.nextEntriesSince RaftLog.appliedIndexUpperBound
  rw [if_neg (by omega)]
  simp only []
  rw [Nat.min_eq_right hub, ← h.firstIndex_abs]
  by_cases hlt : max (since + 1) l.firstIndex <
      min l.committed (l.persisted + l.maxApplyUnpersistedLogLimit) + 1
  · rw [if_pos hlt, if_pos hlt]
    rw [slice_ok h _ _ mx false (by simp) (by omega) (by omega) (by omega)]
  · rw [if_neg hlt, if_neg hlt]

/-! ### the storage-side steps -/

/-- **stabilise** (no pending snapshot): the unstable entries move to the storage, the logical log
and all cursors are unchanged, the invariant is kept, nothing is left unstable -/
theorem stabilise_ok {l : RaftLog} (h : l.Inv) (hs : l.unstable.snapshot = none) :
    ∃ l', l.stabilise = .ok l' ∧ l'.Inv ∧ l'.abs = l.abs ∧ l'.committed = l.committed ∧
      l'.persisted = l.persisted ∧ l'.applied = l.applied ∧ l'.unstable.entries = [] ∧
      l'.unstable.snapshot = none ∧ l'.store.lastIndex = l.lastIndex :=
  h.stabilise_ok hs

/-- **stabilise with a pending snapshot and unstable entries panics**: either `MemStorage::append`
refuses the batch (it starts at `snapshot.index + 1`, which may be below `first_index` or leave a
gap), or `stable_entries` hits `assert!(self.snapshot.is_none())` (log_unstable.rs:100, "The
snapshot must be stabled before entries") -/
theorem stabilise_pending_panics {l : RaftLog} (h : l.Inv) (sn : Snapshot)
    (hs : l.unstable.snapshot = some sn) (hne : l.unstable.entries ≠ []) :
    ∃ s, l.stabilise = .panic s := by
  obtain ⟨u0, us, hU⟩ : ∃ u0 us, l.unstable.entries = u0 :: us := by
    cases hU : l.unstable.entries with
    | nil => exact absurd hU hne
    | cons a t => exact ⟨a, t, rfl⟩
  obtain ⟨e, hg⟩ : ∃ e, l.unstable.entries.getLast? = some e := by
    rw [hU]; exact ⟨_, List.getLast?_eq_some_getLast (by simp)⟩
  have hsl := h.storeWF.last_succ
  unfold RaftLog.stabilise
  rw [hg]
  simp only []
  rw [hU]
  unfold MemStorage.append
  simp only []
  by_cases h1 : u0.index < l.store.firstIndex
  · rw [if_pos h1]; exact ⟨_, rfl⟩
  · rw [if_neg h1]
    by_cases h2 : l.store.lastIndex + 1 < u0.index
    · rw [if_pos h2]; exact ⟨_, rfl⟩
    · rw [if_neg h2, if_neg (by omega)]
      simp only [RaftLog.stableEntries, Unstable.stableEntries, hs, Option.isSome_some, if_true]
      exact ⟨_, rfl⟩

/-- **persist the pending snapshot** (`apply_snapshot`, `stable_snap`, `maybe_persist_snap`), for
a snapshot at or above the storage's `first_index`: the logical log is unchanged, `persisted`
becomes at least the snapshot index, no snapshot is pending afterwards, the invariant is kept -/
theorem persistSnapshot_ok {l : RaftLog} (h : l.Inv) (sn : Snapshot)
    (hs : l.unstable.snapshot = some sn) (hge : l.store.firstIndex ≤ sn.metadata.index) :
    ∃ l', l.persistSnapshot = .ok l' ∧ l'.Inv ∧ l'.abs = l.abs ∧ l'.committed = l.committed ∧
      l'.applied = l.applied ∧ l'.persisted = max l.persisted sn.metadata.index ∧
      l'.unstable.snapshot = none ∧ l'.unstable.entries = l.unstable.entries :=
  h.persistSnapshot_ok sn hs hge

/-- a pending snapshot below the storage's `first_index` is refused by `MemStorage::apply_snapshot`
(`SnapshotOutOfDate`, storage.rs:246); nothing is written -/
theorem persistSnapshot_out_of_date (l : RaftLog) (sn : Snapshot)
    (hs : l.unstable.snapshot = some sn) (hlt : sn.metadata.index < l.store.firstIndex) :
    l.persistSnapshot = .err .snapshotOutOfDate := by
  unfold RaftLog.persistSnapshot
  rw [hs]
  simp only [MemStorage.applySnapshot]
  rw [if_pos hlt]

/-- `MemStorage::compact(ci)` for `ci ≤ last_index` (or a no-op `ci ≤ first_index`):
`MemStorage.WF.compact_ok`, field by field -/
theorem store_compact_ok {s : MemStorage} (hw : s.WF) (ci : Nat)
    (hci : ci ≤ s.lastIndex ∨ ci ≤ s.firstIndex) :
    ∃ s', s.compact ci = .ok s' ∧ s'.WF ∧ s'.firstIndex = max s.firstIndex ci ∧
      s'.lastIndex = s.lastIndex ∧ s'.snapshotMetadata = s.snapshotMetadata ∧
      s'.entries = s.entries.drop (ci - s.firstIndex) := by
  obtain ⟨s', e, he, hw', hf, hl⟩ := hw.compact_ok ci hci
  exact ⟨s', e, hw', hf, hl, by rw [he], by rw [he]⟩

/-- **compaction** of the storage up to `index` (`index ≤ committed`, `index ≤ persisted + 1`, and
`index ≤ storage.last_index` unless it is a no-op): the invariant is kept, cursors and the unstable
part are untouched, and without a pending snapshot the logical log is cut below `index` -/
theorem compactStore_ok {l : RaftLog} (h : l.Inv) (index : Nat) (h1 : index ≤ l.committed)
    (h2 : index ≤ l.persisted + 1)
    (h3 : index ≤ l.store.lastIndex ∨ index ≤ l.store.firstIndex) :
    ∃ l', l.compactStore index = .ok l' ∧ l'.Inv ∧
      (l.unstable.snapshot = none → l'.abs = l.abs.compactTo (index - 1)) ∧
      (∀ sn, l.unstable.snapshot = some sn → l'.abs = l.abs) ∧
      l'.unstable = l.unstable ∧ l'.committed = l.committed ∧ l'.persisted = l.persisted ∧
      l'.applied = l.applied ∧ l'.store.firstIndex = max l.store.firstIndex index ∧
      l'.store.lastIndex = l.store.lastIndex :=
  h.compactStore_ok index h1 h2 h3

/-- **F5 at the `RaftLog` level**: compacting at `storage.last_index + 1` (which
`MemStorage::compact` accepts, and which `index ≤ applied ≤ committed`, `index ≤ persisted + 1`
allow when everything stored is applied) drains the storage; `first_index` / `last_index` fall back
to the old snapshot point, so `persisted` now points above the storage and the invariant is lost -/
theorem compactStore_drains {l : RaftLog} (h : l.Inv) (index : Nat)
    (h1 : index = l.store.lastIndex + 1) (h2 : l.store.firstIndex < index)
    (h3 : index ≤ l.persisted + 1) :
    ∃ l', l.compactStore index = .ok l' ∧ ¬ l'.Inv ∧ l'.store.entries = [] ∧
      l'.store.lastIndex = l.store.snapshotMetadata.index ∧
      l'.store.firstIndex = l.store.snapshotMetadata.index + 1 := by
  have hsl := h.storeWF.last_succ
  have hsn := h.storeWF.snap_lt
  obtain ⟨e0, he0, hi0⟩ := MemStorage.head?_of_lt (s := l.store) (k := 0) (by omega)
  have hdrop : l.store.entries.drop (index - l.store.firstIndex) = [] :=
    List.drop_eq_nil_iff.2 (by omega)
  refine ⟨{ l with store := { l.store with entries := [] } }, ?_, ?_, rfl, rfl, rfl⟩
  · unfold RaftLog.compactStore MemStorage.compact
    rw [if_neg (by omega), if_neg (by omega), he0]
    simp only []
    rw [if_neg (by omega), if_neg (by omega), hi0, hdrop]
  · intro hinv
    have := hinv.persisted_le_store
    have : l.persisted ≤ l.store.snapshotMetadata.index := this
    omega

/-! #### the statement as written is false, clause by clause -/

/-- pending snapshot (5, term 2) with an unstable entry 6 behind it, over the storage `st0` -/
def lA : RaftLog :=
  { store := st0,
    unstable := { snapshot := some { metadata := { index := 5, term := 2 } },
                  entries := [ent 6 2 1], entriesSize := 13, offset := 6 },
    committed := 5, persisted := 2, applied := 2, maxApplyUnpersistedLogLimit := 0 }

theorem lA_inv : RaftLogInv lA :=
  ⟨st0_wf, ⟨contigFrom_getElem? (by decide), by decide, by intro sn hs; cases hs; rfl⟩,
    by decide, by decide, by decide, by decide, by decide, by decide, by decide⟩

/-- pending snapshot at the storage's own snapshot point (index 2 = `first_index - 1`): what
`RaftLog::restore` builds from `l0` for a snapshot with index `committed = 2` -/
def lB : RaftLog :=
  { store := st0,
    unstable := { snapshot := some { metadata := { index := 2, term := 7 } },
                  entries := [], entriesSize := 0, offset := 3 },
    committed := 2, persisted := 2, applied := 2, maxApplyUnpersistedLogLimit := 0 }

theorem lB_inv : RaftLogInv lB := by
  obtain ⟨l', e, hi, _⟩ :=
    (C14_restore_spec l0 l0_inv { metadata := { index := 2, term := 7 } }).1 (by decide)
  have : l0.restore { metadata := { index := 2, term := 7 } } = .ok lB := rfl
  rw [this] at e; cases e; exact hi

/-- storage entries 3, 4 persisted, unstable entry 5 committed and applied (a follower that applies
unpersisted entries): `index = 5` satisfies `index ≤ applied ≤ committed`, `index ≤ persisted + 1` -/
def lC : RaftLog :=
  { store := st0,
    unstable := { snapshot := none, entries := [ent 5 2 1], entriesSize := 13, offset := 5 },
    committed := 5, persisted := 4, applied := 5, maxApplyUnpersistedLogLimit := 1 }

theorem lC_inv : RaftLogInv lC :=
  ⟨st0_wf, ⟨contigFrom_getElem? (by decide), by decide, by intro sn hs; cases hs⟩,
    by decide, by decide, by decide, by decide, by decide, by decide, by decide⟩

/-- clause 1 fails: stabilising behind a pending snapshot panics -/
theorem stabilise_clause_false :
    ¬ ∀ (l : RaftLog), RaftLogInv l → ∃ l', l.stabilise = .ok l' ∧ RaftLogInv l' ∧ l'.abs = l.abs := by
  intro hall
  obtain ⟨l', e, _⟩ := hall lA lA_inv
  have : lA.stabilise = .panic "storage.append.gap" := rfl
  rw [this] at e; cases e

/-- clause 2 fails: `apply_snapshot` refuses a snapshot at `first_index - 1` -/
theorem persistSnapshot_clause_false :
    ¬ ∀ (l : RaftLog), RaftLogInv l →
      ∃ l', l.persistSnapshot = .ok l' ∧ RaftLogInv l' ∧ l'.abs = l.abs := by
  intro hall
  obtain ⟨l', e, _⟩ := hall lB lB_inv
  have : lB.persistSnapshot = .err .snapshotOutOfDate := rfl
  rw [this] at e; cases e

/-- clause 3 fails: compaction at `storage.last_index + 1` is accepted and breaks the invariant -/
theorem compactStore_clause_false :
    ¬ ∀ (l : RaftLog), RaftLogInv l → ∀ index, index ≤ l.applied → l.applied ≤ l.committed →
      index ≤ l.persisted + 1 → ∃ l', l.compactStore index = .ok l' ∧ RaftLogInv l' ∧
        (l.unstable.snapshot = none → l'.abs = l.abs.compactTo (index - 1)) := by
  intro hall
  obtain ⟨l', e, hinv, _⟩ := hall lC lC_inv 5 (by decide) (by decide) (by decide)
  obtain ⟨l'', e', hbad, _⟩ := compactStore_drains lC_inv 5 (by decide) (by decide) (by decide)
  rw [e] at e'; cases e'
  exact hbad hinv

theorem C14_storage_steps_full_statement_false : ¬ C14_storage_steps_full_statement := by
  intro hall
  exact stabilise_clause_false (fun l h => (hall l h).1)

/-- **The storage-side steps keep the invariant and the logical log** (corrected
`C14_storage_steps_full_statement`; each clause of the original is false for some state satisfying
the invariant, see `stabilise_clause_false`, `persistSnapshot_clause_false`,
`compactStore_clause_false`).  Added hypotheses, each one a part of the Ready contract:
* stabilise: no snapshot is pending (or nothing is unstable) — "the snapshot must be stabled before
  entries"; otherwise it panics (`stabilise_pending_panics`);
* persist snapshot: the pending snapshot is not below the storage's `first_index` (raft.rs only
  restores snapshots above the commit index, or at it when the term there is unknown/different);
  otherwise `MemStorage::apply_snapshot` answers `SnapshotOutOfDate` (`persistSnapshot_out_of_date`);
* compaction: `index ≤ storage.last_index` (or `index ≤ storage.first_index`, a no-op) — the
  remaining case `index = storage.last_index + 1`, allowed by `index ≤ persisted + 1`, drains
  `MemStorage` and loses the invariant (finding F5, `compactStore_drains`). -/
theorem C14_storage_steps_spec : ∀ (l : RaftLog), RaftLogInv l →
    ((l.unstable.snapshot = none ∨ l.unstable.entries = []) →
      ∃ l', l.stabilise = .ok l' ∧ RaftLogInv l' ∧ l'.abs = l.abs) ∧
    ((∀ sn, l.unstable.snapshot = some sn → l.store.firstIndex ≤ sn.metadata.index) →
      ∃ l', l.persistSnapshot = .ok l' ∧ RaftLogInv l' ∧ l'.abs = l.abs) ∧
    (∀ index, index ≤ l.applied → l.applied ≤ l.committed → index ≤ l.persisted + 1 →
      (index ≤ l.store.lastIndex ∨ index ≤ l.store.firstIndex) →
      ∃ l', l.compactStore index = .ok l' ∧ RaftLogInv l' ∧
        (l.unstable.snapshot = none → l'.abs = l.abs.compactTo (index - 1))) := by
  intro l h
  refine ⟨?_, ?_, ?_⟩
  · intro hc
    cases hs : l.unstable.snapshot with
    | none =>
      obtain ⟨l', e, hi, ha, _⟩ := stabilise_ok h hs
      exact ⟨l', e, hi, ha⟩
    | some sn =>
      rcases hc with hc | hc
      · rw [hs] at hc; cases hc
      · refine ⟨l, ?_, h, rfl⟩
        unfold RaftLog.stabilise; rw [hc]; rfl
  · intro hc
    cases hs : l.unstable.snapshot with
    | none =>
      refine ⟨l, ?_, h, rfl⟩
      unfold RaftLog.persistSnapshot; rw [hs]
    | some sn =>
      obtain ⟨l', e, hi, ha, _⟩ := persistSnapshot_ok h sn hs (hc sn hs)
      exact ⟨l', e, hi, ha⟩
  · intro index h1 h2 h3 h4
    obtain ⟨l', e, hi, ha, _⟩ := compactStore_ok h index (by omega) h3 h4
    exact ⟨l', e, hi, ha⟩

/-- what the three steps do outside the added hypotheses -/
theorem C14_storage_steps_outside (l : RaftLog) (h : RaftLogInv l) :
    (∀ sn, l.unstable.snapshot = some sn → l.unstable.entries ≠ [] →
      ∃ s, l.stabilise = .panic s) ∧
    (∀ sn, l.unstable.snapshot = some sn → sn.metadata.index < l.store.firstIndex →
      l.persistSnapshot = .err .snapshotOutOfDate) ∧
    (∀ index, index = l.store.lastIndex + 1 → l.store.firstIndex < index →
      index ≤ l.persisted + 1 →
      ∃ l', l.compactStore index = .ok l' ∧ ¬ RaftLogInv l' ∧ l'.store.entries = [] ∧
        l'.store.lastIndex = l.store.snapshotMetadata.index) :=
  ⟨fun sn hs hne => stabilise_pending_panics h sn hs hne,
   fun sn hs hlt => persistSnapshot_out_of_date l sn hs hlt,
   fun index h1 h2 h3 => by
     obtain ⟨l', e, hb, hn, hl, _⟩ := compactStore_drains h index h1 h2 h3
     exact ⟨l', e, hb, hn, hl⟩⟩

/-! ### what a size-limited read returns: a gap-free, non-empty, maximal prefix within the limit -/

theorem abs_contig {l : RaftLog} (h : l.Inv) : ContigFrom l.abs.firstIndex l.abs.ents :=
  h.abs_contig

theorem range_contig {l : RaftLog} (h : l.Inv) (lo hi : Nat) (h1 : l.firstIndex ≤ lo)
    (h2 : lo ≤ hi) (h3 : hi ≤ l.lastIndex + 1) :
    ContigFrom lo (l.abs.range lo hi) ∧ (l.abs.range lo hi).length = hi - lo :=
  h.range_contig lo hi h1 h2 h3

/-- **a size-limited `slice` honours the limit while returning at least one entry**: for a
non-empty range inside the log and a finite limit `m`, the answer is non-empty, a prefix of the
logical range (so consecutive indices starting at `lo`: no gap), within `m` bytes unless it is a
single entry, and maximal (the next entry of the range would exceed `m`) -/
theorem C14_slice_limit (l : RaftLog) (h : RaftLogInv l) (lo hi m : Nat) (ca : Bool)
    (hav : (l.store.triggerLogUnavailable && ca) = false)
    (h1 : l.firstIndex ≤ lo) (h2 : lo < hi) (h3 : hi ≤ l.lastIndex + 1) (hm : m ≠ NO_LIMIT) :
    ∃ r, l.slice lo hi (some m) ca = .ok r ∧ r ≠ [] ∧
      (∃ k, r = (l.abs.range lo hi).take k) ∧ ContigFrom lo r ∧
      (totalSize r ≤ m ∨ r.length = 1) ∧
      (∀ e rest, l.abs.range lo hi = r ++ e :: rest → m < totalSize r + e.computeSize) := by
  obtain ⟨hcon, hlen⟩ := range_contig h lo hi h1 (by omega) h3
  have hne : l.abs.range lo hi ≠ [] := by
    intro hn; rw [hn] at hlen; simp at hlen; omega
  obtain ⟨hpre, hnon, _, hwithin, hmaxi⟩ := limitSize_spec (l.abs.range lo hi) (some m)
  have hfp : 1 ≤ l.firstIndex := by rw [h.firstIndex_abs]; simp [LLog.firstIndex]
  have hpos : ∀ e ∈ limitSize (l.abs.range lo hi) (some m), 0 < e.computeSize := by
    intro e he
    obtain ⟨k, hk⟩ := hpre
    rw [hk] at he
    obtain ⟨i, hi', rfl⟩ := List.getElem_of_mem (List.mem_of_mem_take he)
    have := hcon i _ (List.getElem?_eq_some_iff.2 ⟨hi', rfl⟩)
    exact computeSize_pos _ (by omega)
  refine ⟨_, slice_ok h lo hi (some m) ca hav h1 (by omega) h3, hnon hne, hpre, ?_, ?_, ?_⟩
  · obtain ⟨k, hk⟩ := hpre
    rw [hk]; exact hcon.take k
  · rcases hwithin m rfl hm with hw | hw
    · exact Or.inl hw
    · right
      have hd := totalSize_eq_zero _ (fun e he => hpos e ((List.dropLast_sublist _).subset he)) hw
      have hl := congrArg List.length hd
      simp only [List.length_dropLast, List.length_nil] at hl
      have : (limitSize (l.abs.range lo hi) (some m)).length ≠ 0 := by
        intro h0; exact hnon hne (List.length_eq_zero_iff.1 h0)
      omega
  · intro e rest he
    exact (hmaxi m rfl e rest he).2

/-- `next_entries_since` without the no-overflow hypothesis: the hand-out bound saturates at
`u64::MAX` (finding F6, repaired) -/
theorem C14_nextEntriesSince_saturating (l : RaftLog) (h : RaftLogInv l) (since : Nat)
    (mx : Option Nat) (hsince : since < U64_MAX) :
    l.nextEntriesSince since mx =
      (let hi := min l.committed (min U64_MAX (l.persisted + l.maxApplyUnpersistedLogLimit)) + 1
       let lo := max (since + 1) l.abs.firstIndex
       if lo < hi then .ok (some (limitSize (l.abs.range lo hi) mx)) else .ok none) := by
  have hcl := h.committed_le_last
  unfold RaftLog.nextEntriesSince RaftLog.appliedIndexUpperBound
  rw [if_neg (by omega)]
  simp only []
  rw [← h.firstIndex_abs]
  by_cases hlt : max (since + 1) l.firstIndex <
      min l.committed (min U64_MAX (l.persisted + l.maxApplyUnpersistedLogLimit)) + 1
  · rw [if_pos hlt, if_pos hlt]
    rw [slice_ok h _ _ mx false (by simp) (by omega) (by omega) (by omega)]
  · rw [if_neg hlt, if_neg hlt]

/-! ### non-vacuity: concrete size-limited reads across the storage / unstable boundary -/

set_option maxRecDepth 20000 in
/-- `lC` holds 3, 4 in storage (sizes 11 and 207) and 5 unstable (size 7): a limit that cuts inside
the storage part returns early; one that admits the storage part goes on into the unstable part;
a limit of 0 still returns one entry -/
example : lC.slice 3 6 (some 100) false = .ok [ent 3 1 5] ∧
    lC.slice 3 6 (some 218) false = .ok [ent 3 1 5, ent 4 2 200] ∧
    lC.slice 3 6 (some 224) false = .ok [ent 3 1 5, ent 4 2 200] ∧
    lC.slice 3 6 (some 225) false = .ok [ent 3 1 5, ent 4 2 200, ent 5 2 1] ∧
    lC.slice 4 6 (some 0) false = .ok [ent 4 2 200] ∧
    lC.entries 4 none false = .ok [ent 4 2 200, ent 5 2 1] ∧
    lC.nextEntriesSince 2 (some 218) = .ok (some [ent 3 1 5, ent 4 2 200]) := by
  refine ⟨?_, ?_, ?_, ?_, ?_, ?_, ?_⟩ <;> rfl

end RaftProps.C14
