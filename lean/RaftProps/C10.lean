import RaftProofs.RaftNode
import RaftProofs.RaftNodeC10
import RaftProofs.RaftGuards

/-!
# C10 — Progress after stabilisation: the "no permanent stall" lemmas

Property C10: *from any state reachable under faults, once faults stop — crashed nodes restarted,
messages delivered, every node ticked regularly, a majority of each voter set running — then within
a bounded number of election timeouts exactly one leader exists, every running member's log and
commit index reach the leader's, and a newly proposed entry is committed and handed to the
application on every running member.  Replication to a lagging, probing, snapshot-receiving or
flow-controlled follower never stalls permanently.*

The cluster-level liveness statement is `C10_full_statement` at the end of this file and is **not
proved**.  What is proved here, on the executable node model (`RaftModel.Raft*`, tied line by line
to `src/raft.rs`, `src/tracker/progress.rs`, `src/tracker/inflights.rs` by differential testing),
is the last sentence, per follower: for every way a follower's `Progress` can look stuck, the event
that a fair fault-free suffix delivers (a heartbeat response, an append response, a rejection, a
snapshot status report, an election tick) un-sticks it, and well-founded measures bound the repair.
Every theorem holds for ALL node states and messages unless a hypothesis is named.

Three places where the text of the property had to be sharpened are marked **Restated**.
Two behaviours of the real code that a liveness argument must treat as assumptions are marked
**Assumption**.
-/
namespace RaftProps.C10
open RaftModel RaftModel.Raft

/-! ## 1. `Progress` level (`src/tracker/progress.rs`) -/

/-- the replication invariant of one follower's `Progress`: `next_idx > matched` -/
def WF (p : Progress) : Prop := p.matched + 1 ≤ p.nextIdx

/-- the probing measure: how far `next_idx` is above its floor `matched + 1` -/
def probeGap (p : Progress) : Nat := p.nextIdx - (p.matched + 1)

/-- **1a `is_paused` (progress.rs:203), Probe.**  A probing follower is held back exactly by the
`paused` flag. -/
theorem isPaused_probe (p : Progress) (h : p.state = .probe) : p.isPaused = p.paused := by
  simp [Progress.isPaused, h]

/-- **1a, Replicate.**  A replicating follower is held back exactly by a full in-flight window. -/
theorem isPaused_replicate (p : Progress) (h : p.state = .replicate) : p.isPaused = p.ins.full := by
  simp [Progress.isPaused, h]

/-- **1a, Snapshot.**  A follower receiving a snapshot is always held back. -/
theorem isPaused_snapshot (p : Progress) (h : p.state = .snapshot) : p.isPaused = true := by
  simp [Progress.isPaused, h]

/-- **1a.**  The complete list of the ways `maybe_send_append` gets past its `is_paused` gate. -/
theorem isPaused_false_iff (p : Progress) :
    p.isPaused = false ↔
      (p.state = .probe ∧ p.paused = false) ∨ (p.state = .replicate ∧ p.ins.full = false) := by
  unfold Progress.isPaused
  cases h : p.state <;> simp

theorem ite_max (a b : Nat) : (if a < b then b else a) = max a b := by
  split <;> omega

/-- **1c `maybe_decr_to` (progress.rs:166), Probe/Snapshot, genuine rejection.**  A rejection of the
probe that is in flight (`rejected = next_idx - 1`) sets
`next_idx := max(min(rejected, match_hint + 1), matched + 1)` and un-pauses.

**Restated:** the floor is `matched + 1`, not `1` as in the task text (and in etcd): progress.rs:195
reads `if self.next_idx < self.matched + 1 { self.next_idx = self.matched + 1 }`. -/
theorem maybeDecrTo_probe_genuine (p : Progress) (rejected matchHint : Nat)
    (hs : p.state ≠ .replicate) (hn : p.nextIdx ≠ 0) (hr : p.nextIdx - 1 = rejected)
    (hh : matchHint < U64_MAX) :
    p.maybeDecrTo rejected matchHint 0 =
      .ok ({ p with nextIdx := max (min rejected (matchHint + 1)) (p.matched + 1), paused := false },
           true) := by
  unfold Progress.maybeDecrTo
  have h1 : ¬ (U64_MAX ≤ matchHint) := by omega
  simp only [hs, if_false, hn, hr, false_or, ne_eq, not_true_eq_false, false_and, h1]
  simp only [if_true, ite_max]

/-- **1c, Probe/Snapshot, stale rejection** (`rejected ≠ next_idx - 1`, no snapshot request):
nothing changes. -/
theorem maybeDecrTo_probe_stale (p : Progress) (rejected matchHint : Nat)
    (hs : p.state ≠ .replicate) (hr : p.nextIdx = 0 ∨ p.nextIdx - 1 ≠ rejected) :
    p.maybeDecrTo rejected matchHint 0 = .ok (p, false) := by
  unfold Progress.maybeDecrTo
  simp [hs, hr]

/-- **1c, Replicate, genuine rejection** (`rejected > matched`): `next_idx := matched + 1`. -/
theorem maybeDecrTo_replicate_genuine (p : Progress) (rejected matchHint : Nat)
    (hs : p.state = .replicate) (hr : p.matched < rejected) :
    p.maybeDecrTo rejected matchHint 0 = .ok ({ p with nextIdx := p.matched + 1 }, true) := by
  unfold Progress.maybeDecrTo
  have h1 : ¬ rejected < p.matched := by omega
  have h2 : ¬ rejected = p.matched := by omega
  simp [hs, h1, h2]

/-- **1c, Replicate, stale rejection** (`rejected ≤ matched`): nothing changes. -/
theorem maybeDecrTo_replicate_stale (p : Progress) (rejected matchHint : Nat)
    (hs : p.state = .replicate) (hr : rejected ≤ p.matched) :
    p.maybeDecrTo rejected matchHint 0 = .ok (p, false) := by
  unfold Progress.maybeDecrTo
  have h1 : rejected < p.matched ∨ rejected = p.matched := by omega
  simp [hs, h1]

/-- **1c.**  Whenever `maybe_decr_to` answers `false` the progress is untouched (any arguments,
including snapshot requests). -/
theorem maybeDecrTo_false_unchanged (p p' : Progress) (rejected matchHint rs : Nat)
    (h : p.maybeDecrTo rejected matchHint rs = .ok (p', false)) : p' = p := by
  cases Progress.maybeDecrTo_inv h <;> rfl

/-- **1c.**  What every outcome of `maybe_decr_to` keeps: `matched`, the state, the window, the
pending snapshot, `recent_active`. -/
theorem maybeDecrTo_frame (p p' : Progress) (rejected matchHint rs : Nat) (b : Bool)
    (h : p.maybeDecrTo rejected matchHint rs = .ok (p', b)) :
    p'.matched = p.matched ∧ p'.state = p.state ∧ p'.ins = p.ins ∧
    p'.pendingSnapshot = p.pendingSnapshot ∧ p'.recentActive = p.recentActive := by
  cases Progress.maybeDecrTo_inv h <;> exact ⟨rfl, rfl, rfl, rfl, rfl⟩

/-- **1c.**  Outside `Replicate`, a rejection that is accepted (`true`) always un-pauses. -/
theorem maybeDecrTo_true_unpauses (p p' : Progress) (rejected matchHint rs : Nat)
    (hs : p.state ≠ .replicate)
    (h : p.maybeDecrTo rejected matchHint rs = .ok (p', true)) : p'.paused = false := by
  cases Progress.maybeDecrTo_inv h with
  | repDecr hr | repSnap hr => exact absurd hr hs
  | probeDecr | snapFirst | snapAgain => rfl

/-- **1c, measure.**  `next_idx ≥ matched + 1` is preserved by every rejection, `next_idx` never
grows, `matched` is untouched. -/
theorem maybeDecrTo_measure (p p' : Progress) (rejected matchHint rs : Nat) (b : Bool)
    (hwf : WF p) (h : p.maybeDecrTo rejected matchHint rs = .ok (p', b)) :
    WF p' ∧ p'.nextIdx ≤ p.nextIdx ∧ p'.matched = p.matched := by
  unfold WF at *
  cases Progress.maybeDecrTo_inv h with
  | repStale | repSnap | stale | snapFirst | snapAgain => exact ⟨hwf, Nat.le_refl _, rfl⟩
  | repDecr => exact ⟨Nat.le_refl _, hwf, rfl⟩
  | probeDecr _ hg h0 =>
    -- the rejected index is that of the probe in flight, `next_idx - 1`
    have hrej : p.nextIdx ≠ 0 ∧ p.nextIdx - 1 = rejected := by
      refine ⟨fun hc => hg ⟨.inl hc, h0⟩, ?_⟩
      apply Classical.byContradiction
      exact fun hc => hg ⟨.inr hc, h0⟩
    refine ⟨?_, ?_, rfl⟩ <;> (dsimp only; split <;> omega)

/-- **1c, strict decrease.**  While `next_idx` is above the floor `matched + 1`, a genuine rejection
in `Probe` (or `Snapshot`) state is accepted, strictly decreases `next_idx`, keeps it `≥ matched + 1`
and un-pauses: the measure `probeGap` strictly decreases. -/
theorem maybeDecrTo_probe_strict (p p' : Progress) (rejected matchHint : Nat) (b : Bool)
    (hs : p.state ≠ .replicate) (hr : p.nextIdx - 1 = rejected) (hgap : p.matched + 1 < p.nextIdx)
    (h : p.maybeDecrTo rejected matchHint 0 = .ok (p', b)) :
    b = true ∧ p'.nextIdx < p.nextIdx ∧ p.matched + 1 ≤ p'.nextIdx ∧ p'.paused = false := by
  by_cases hh : matchHint < U64_MAX
  · rw [maybeDecrTo_probe_genuine p rejected matchHint hs (by omega) hr hh] at h
    cases h
    refine ⟨rfl, ?_, ?_, rfl⟩ <;> simp only <;> omega
  · unfold Progress.maybeDecrTo at h
    have h1 : U64_MAX ≤ matchHint := by omega
    have h2 : p.nextIdx ≠ 0 := by omega
    simp [hs, hr, h1, h2] at h

/-- **1c, the floor (Restated / Assumption).**  At the floor (`next_idx = matched + 1`) a rejection
of index `matched` itself is *accepted* (`true`: the leader sends the same probe again) but cannot
move `next_idx`.  Under the protocol invariants this rejection never arrives (`matched` was
acknowledged by this follower in this leader's term, and `reset` zeroes `matched` at every
election); for a follower that lost acknowledged entries it is an endless probe/reject exchange —
the etcd floor `1` would let probing continue below `matched`. -/
theorem maybeDecrTo_probe_floor (p : Progress) (matchHint : Nat)
    (hs : p.state ≠ .replicate) (hfl : p.nextIdx = p.matched + 1) (hh : matchHint < U64_MAX) :
    p.maybeDecrTo p.matched matchHint 0 = .ok ({ p with paused := false }, true) := by
  rw [maybeDecrTo_probe_genuine p p.matched matchHint hs (by omega) (by omega) hh]
  have : max (min p.matched (matchHint + 1)) (p.matched + 1) = p.nextIdx := by omega
  rw [this]

/-- a run of rejections (`(rejected, match_hint)` pairs, no snapshot request) handled one after the
other; the count is the number of those that moved `next_idx` -/
def applyRejections : Progress → List (Nat × Nat) → Res (Progress × Nat)
  | p, [] => .ok (p, 0)
  | p, (rej, hint) :: rest =>
    match p.maybeDecrTo rej hint 0 with
    | .ok (p', _) =>
      (match applyRejections p' rest with
        | .ok (q, k) => .ok (q, if p'.nextIdx < p.nextIdx then k + 1 else k)
        | .err e => .err e
        | .panic s => .panic s)
    | .err e => .err e
    | .panic s => .panic s

/-- **1c, probing terminates.**  Along any run of rejections the number that moved `next_idx` plus
the final gap is at most the initial gap `next_idx - (matched + 1)`: after at most `probeGap p`
effective rejections the follower is probed at `matched + 1`. -/
theorem probing_terminates (p q : Progress) (rs : List (Nat × Nat)) (k : Nat) (hwf : WF p)
    (h : applyRejections p rs = .ok (q, k)) :
    WF q ∧ q.matched = p.matched ∧ k + probeGap q ≤ probeGap p := by
  induction rs generalizing p q k with
  | nil => simp [applyRejections] at h; obtain ⟨rfl, rfl⟩ := h; exact ⟨hwf, rfl, by omega⟩
  | cons a rest ih =>
    obtain ⟨rej, hint⟩ := a
    simp only [applyRejections] at h
    split at h
    · rename_i p' b hd
      obtain ⟨hwf', hle, hm⟩ := maybeDecrTo_measure p p' rej hint 0 b hwf hd
      split at h
      · rename_i q' k' hrec
        obtain ⟨hq, hqm, hk⟩ := ih p' q' k' hwf' hrec
        cases h
        refine ⟨hq, hqm.trans hm, ?_⟩
        unfold probeGap WF at *
        split <;> omega
      · cases h
      · cases h
    · cases h
    · cases h

/-- **1d `maybe_update` (progress.rs:136).**  For `n < u64::MAX` (the only case that does not
overflow): the answer is `matched < n`; `matched := max(matched, n)`; `next_idx := max(next_idx, n+1)`;
an advancing acknowledgement un-pauses; everything else is kept. -/
theorem maybeUpdate_spec (p : Progress) (n : Nat) (hn : n < U64_MAX) :
    ∃ p', p.maybeUpdate n = .ok (p', decide (p.matched < n)) ∧
      p'.matched = max p.matched n ∧ p'.nextIdx = max p.nextIdx (n + 1) ∧
      (p.matched < n → p'.paused = false) ∧ (¬ p.matched < n → p'.paused = p.paused) ∧
      p'.state = p.state ∧ p'.ins = p.ins ∧ p'.pendingSnapshot = p.pendingSnapshot ∧
      p'.pendingRequestSnapshot = p.pendingRequestSnapshot ∧ p'.recentActive = p.recentActive := by
  rw [Progress.maybeUpdate_eq, if_neg (by omega)]
  exact ⟨_, rfl, rfl, rfl, fun h => if_pos h, fun h => if_neg h, rfl, rfl, rfl, rfl, rfl⟩

/-- **1d, corollaries.**  `matched` never decreases, `next_idx ≥ n + 1` afterwards, the invariant
`next_idx > matched` is preserved, the answer is `true` exactly when `matched` strictly increases,
and then `matched = n` and the progress is un-paused (`resume`). -/
theorem maybeUpdate_mono (p p' : Progress) (n : Nat) (b : Bool)
    (h : p.maybeUpdate n = .ok (p', b)) :
    p.matched ≤ p'.matched ∧ n + 1 ≤ p'.nextIdx ∧ n ≤ p'.matched ∧ (WF p → WF p') ∧
    (b = true ↔ p.matched < n) ∧ (b = true → p'.matched = n ∧ p'.paused = false) := by
  rw [Progress.maybeUpdate_eq] at h
  obtain ⟨-, h⟩ := Res.of_guard h
  cases h
  unfold WF
  refine ⟨Nat.le_max_left .., Nat.le_max_right .., Nat.le_max_right .., fun _ => ?_,
    decide_eq_true_iff, fun hb => ?_⟩
  · dsimp only; omega
  · have hb := of_decide_eq_true hb
    exact ⟨Nat.max_eq_right (Nat.le_of_lt hb), if_pos hb⟩

theorem maybeUpdate_ok_lt (p p' : Progress) (n : Nat) (b : Bool)
    (h : p.maybeUpdate n = .ok (p', b)) : n < U64_MAX := by
  rw [Progress.maybeUpdate_eq] at h
  exact Nat.lt_of_not_le (Res.of_guard h).1

/-- **1e `become_probe` (progress.rs:94) from `Snapshot`:** `next_idx = max(matched+1,
pending_snapshot+1)`, un-paused, window and pending snapshot cleared. -/
theorem becomeProbe_from_snapshot (p : Progress) (h : p.state = .snapshot) :
    p.becomeProbe = { p with state := .probe, paused := false, pendingSnapshot := 0,
                             ins := p.ins.reset,
                             nextIdx := max (p.matched + 1) (p.pendingSnapshot + 1) } := by
  simp [Progress.becomeProbe, h, Progress.resetState]

/-- **1e `become_probe` from `Probe`/`Replicate`:** `next_idx = matched + 1`. -/
theorem becomeProbe_not_snapshot (p : Progress) (h : p.state ≠ .snapshot) :
    p.becomeProbe = { p with state := .probe, paused := false, pendingSnapshot := 0,
                             ins := p.ins.reset, nextIdx := p.matched + 1 } := by
  simp [Progress.becomeProbe, h, Progress.resetState]

/-- **1e.**  After `become_probe`, whatever the state before: `Probe`, not paused, invariant holds. -/
theorem becomeProbe_props (p : Progress) :
    p.becomeProbe.state = .probe ∧ p.becomeProbe.paused = false ∧ p.becomeProbe.isPaused = false ∧
    p.becomeProbe.matched = p.matched ∧ p.becomeProbe.pendingSnapshot = 0 ∧ WF p.becomeProbe := by
  unfold WF Progress.becomeProbe Progress.isPaused
  split <;> simp [Progress.resetState] <;> omega

/-- **1e `become_replicate` (progress.rs:110).** -/
theorem becomeReplicate_props (p : Progress) :
    p.becomeReplicate.state = .replicate ∧ p.becomeReplicate.nextIdx = p.matched + 1 ∧
    p.becomeReplicate.matched = p.matched ∧ p.becomeReplicate.ins = p.ins.reset ∧
    p.becomeReplicate.pendingSnapshot = 0 ∧ WF p.becomeReplicate := by
  simp [WF, Progress.becomeReplicate, Progress.resetState]

/-- **1e `become_snapshot` (progress.rs:117):** held back until the snapshot is reported or
acknowledged. -/
theorem becomeSnapshot_props (p : Progress) (i : Nat) :
    (p.becomeSnapshot i).state = .snapshot ∧ (p.becomeSnapshot i).pendingSnapshot = i ∧
    (p.becomeSnapshot i).matched = p.matched ∧ (p.becomeSnapshot i).nextIdx = p.nextIdx ∧
    (p.becomeSnapshot i).isPaused = true := by
  simp [Progress.becomeSnapshot, Progress.resetState, Progress.isPaused]

/-- the window after `reset` is empty, hence not full unless the (pending) capacity is 0 -/
theorem reset_not_full (s : Inflights) (h : 0 < s.incomingCap.getD s.cap) : s.reset.full = false := by
  simp [Inflights.reset, Inflights.full]; omega

/-- **1e / 4.**  A follower that has just entered `Replicate` is not flow-controlled, provided its
window capacity is not 0 (see `zero_capacity_stalls`). -/
theorem becomeReplicate_not_paused (p : Progress) (h : 0 < p.ins.incomingCap.getD p.ins.cap) :
    p.becomeReplicate.isPaused = false := by
  simp only [Progress.isPaused, Progress.becomeReplicate, Progress.resetState]
  exact reset_not_full p.ins h

theorem updateCommitted_frame (p : Progress) (ci : Nat) :
    (p.updateCommitted ci).state = p.state ∧ (p.updateCommitted ci).matched = p.matched ∧
    (p.updateCommitted ci).nextIdx = p.nextIdx ∧ (p.updateCommitted ci).ins = p.ins ∧
    (p.updateCommitted ci).pendingSnapshot = p.pendingSnapshot ∧
    (p.updateCommitted ci).pendingRequestSnapshot = p.pendingRequestSnapshot ∧
    (p.updateCommitted ci).recentActive = p.recentActive ∧
    (p.updateCommitted ci).paused = p.paused := by
  rw [Progress.updateCommitted_eq]
  exact ⟨rfl, rfl, rfl, rfl, rfl, rfl, rfl, rfl⟩


/-! ## 2. Leader level (`src/raft.rs`) -/

/-- the only reasons an un-paused, recently active follower is not sent anything by
`maybe_send_append(.., allow_empty = true)`: the storage answers `LogTemporarilyUnavailable`
(asynchronous entry fetch) or `SnapshotTemporarilyUnavailable` (snapshot still being generated).
**Assumption:** both are storage conditions that a fair suffix must eventually lift. -/
theorem sendBlocked_unpaused (r : Raft) (pr : Progress) (hp : pr.isPaused = false)
    (ha : pr.recentActive = true) (h : SendBlocked r pr true) :
    r.raftLog.entries pr.nextIdx (some r.maxMsgSize) true = .err .logTemporarilyUnavailable ∨
    (r.raftLog.snapshot pr.pendingRequestSnapshot).2 = .err .snapshotTemporarilyUnavailable := by
  rcases h with h | h | h | h | h
  · rw [hp] at h; cases h
  · cases h
  · exact Or.inl h
  · rw [ha] at h; cases h
  · exact Or.inr h

/-- **1b / 4 heartbeat response (raft.rs `handle_heartbeat_response`).**  When the leader handles a
`MsgHeartbeatResponse` from `x = m.from`, the progress `prH` it works with is `x`'s progress
*resumed* (`paused = false`, `recent_active = true`), with one call of `free_first_one` if it was
`Replicate` with a full window; and if `matched < last_index` or a snapshot request is pending,
exactly one `maybe_send_append(x, prH, allow_empty = true)` is made and its result is what is stored
for `x`; otherwise `prH` is stored.

**Restated:** "afterwards `paused = false`" holds for `prH`, the progress handed to `send_append`,
not for the stored progress: a probe that is sent pauses the progress again (`update_state`), which
is the one-probe-per-heartbeat throttle, not a stall. -/
theorem handleHeartbeatResponse_spec (r r' : Raft) (m : Message) (pr0 : Progress)
    (hg : r.prs.get m.frm = some pr0) (h : r.handleHeartbeatResponse m = .ok r') :
    ∃ prH : Progress,
      prH.paused = false ∧ prH.recentActive = true ∧ prH.state = pr0.state ∧
      prH.matched = pr0.matched ∧ prH.nextIdx = pr0.nextIdx ∧
      prH.pendingRequestSnapshot = pr0.pendingRequestSnapshot ∧
      prH.pendingSnapshot = pr0.pendingSnapshot ∧
      (if pr0.state = .replicate ∧ pr0.ins.full = true then pr0.ins.freeFirstOne = .ok prH.ins
       else prH.ins = pr0.ins) ∧
      (if prH.matched < r.raftLog.lastIndex ∨ prH.pendingRequestSnapshot ≠ 0 then
         ∃ r1 pr1 sent, r.maybeSendAppend m.frm prH true = .ok (r1, pr1, sent) ∧
           r'.prs.get m.frm = some pr1
       else r'.prs.get m.frm = some prH) := by
  have key : ∀ {prH : Progress},
      (¬ (pr0.state = .replicate ∧ pr0.ins.full = true) ∧
          prH = ({ pr0.updateCommitted m.commit with recentActive := true } : Progress).resume ∨
        (pr0.state = .replicate ∧ pr0.ins.full = true) ∧ ∃ ins, pr0.ins.freeFirstOne = .ok ins ∧
          prH = { ({ pr0.updateCommitted m.commit with recentActive := true } : Progress).resume with
            ins := ins }) →
      prH.paused = false ∧ prH.recentActive = true ∧ prH.state = pr0.state ∧
      prH.matched = pr0.matched ∧ prH.nextIdx = pr0.nextIdx ∧
      prH.pendingRequestSnapshot = pr0.pendingRequestSnapshot ∧
      prH.pendingSnapshot = pr0.pendingSnapshot ∧
      (if pr0.state = .replicate ∧ pr0.ins.full = true then pr0.ins.freeFirstOne = .ok prH.ins
       else prH.ins = pr0.ins) := by
    rw [Progress.updateCommitted_eq]
    rintro prH (⟨hc, rfl⟩ | ⟨hc, ins, hi, rfl⟩)
    · exact ⟨rfl, rfl, rfl, rfl, rfl, rfl, rfl, by rw [if_neg hc]; rfl⟩
    · exact ⟨rfl, rfl, rfl, rfl, rfl, rfl, rfl, by rw [if_pos hc]; exact hi⟩
  cases handleHeartbeatResponse_inv h with
  | unknown hn => rw [hg] at hn; cases hn
  | @stored _ prH _ hg' ht hc ha =>
    rw [hg] at hg'; cases hg'
    obtain ⟨k1, k2, k3, k4, k5, k6, k7, k8⟩ := key ht
    refine ⟨prH, k1, k2, k3, k4, k5, k6, k7, k8, ?_⟩
    rw [if_neg hc, heartbeatAck_prs _ _ _ ha]
    exact ProgressTracker.get_set_self _ _ _ _ hg
  | @sent _ prH r2 pr2 _ hg' ht hc hs ha =>
    rw [hg] at hg'; cases hg'
    obtain ⟨k1, k2, k3, k4, k5, k6, k7, k8⟩ := key ht
    refine ⟨prH, k1, k2, k3, k4, k5, k6, k7, k8, ?_⟩
    obtain ⟨sent, hy⟩ := sendAppendPr_inv hs
    rw [if_pos hc, heartbeatAck_prs _ _ _ ha]
    refine ⟨r2, pr2, sent, hy, ?_⟩
    show (r2.prs.set m.frm pr2).get m.frm = some pr2
    rw [(maybeSendAppend_rel _ _ _ _ _ _ _ hy).1]
    exact ProgressTracker.get_set_self _ _ _ _ hg

/-- **1b / 4 flow control: no "window full forever while acks were lost".**  A `Replicate`
follower whose window is full (ring invariant `Inv`, capacity ≥ 1, no capacity reduction pending)
and that lags behind the leader's log: the heartbeat response frees at least one slot
(`free_first_one`), the progress handed to `send_append` is therefore *not* paused, exactly one
`maybe_send_append` is made, and it either queues a message for the follower or is held back by the
storage (`…TemporarilyUnavailable`).  So every answered heartbeat yields one more append. -/
theorem full_window_heartbeat_sends (r r' : Raft) (m : Message) (pr0 : Progress)
    (hg : r.prs.get m.frm = some pr0) (hs : pr0.state = .replicate) (hf : pr0.ins.full = true)
    (hinv : pr0.ins.Inv) (hcap : 0 < pr0.ins.cap) (hpend : pr0.ins.incomingCap = none)
    (hlag : pr0.matched < r.raftLog.lastIndex)
    (h : r.handleHeartbeatResponse m = .ok r') :
    ∃ (prH : Progress) (r1 : Raft) (pr1 : Progress) (sent : Bool),
      pr0.ins.freeFirstOne = .ok prH.ins ∧ prH.ins.Inv ∧ prH.ins.count < pr0.ins.count ∧
      prH.state = .replicate ∧ prH.isPaused = false ∧
      r.maybeSendAppend m.frm prH true = .ok (r1, pr1, sent) ∧ r'.prs.get m.frm = some pr1 ∧
      (sent = true → ∃ msg ∈ r1.msgs, msg.to = m.frm ∧
        (msg.msgType = .msgAppend ∨ msg.msgType = .msgSnapshot)) ∧
      (sent = false → pr1 = prH ∧
        (r.raftLog.entries prH.nextIdx (some r.maxMsgSize) true = .err .logTemporarilyUnavailable ∨
         (r.raftLog.snapshot prH.pendingRequestSnapshot).2 =
           .err .snapshotTemporarilyUnavailable)) := by
  obtain ⟨prH, k1, k2, k3, k4, k5, k6, k7, k8, k9⟩ := handleHeartbeatResponse_spec r r' m pr0 hg h
  rw [if_pos ⟨hs, hf⟩] at k8
  have hc := Inflights.full_count_pos _ hinv hf hcap
  obtain ⟨s', e, i, hlt, hnf⟩ := Inflights.freeFirstOne_not_full _ hinv hc hpend
  rw [k8] at e; cases e
  have hst : prH.state = .replicate := by rw [k3, hs]
  have hnp : prH.isPaused = false := by rw [isPaused_replicate _ hst]; exact hnf
  rw [if_pos (Or.inl (by rw [k4]; exact hlag))] at k9
  obtain ⟨r1, pr1, sent, hy, hg'⟩ := k9
  obtain ⟨_, _, e3, e4⟩ := maybeSendAppend_rel _ _ _ _ _ _ _ hy
  refine ⟨prH, r1, pr1, sent, k8, i, hlt, hst, hnp, hy, hg', fun hs' => (e4 hs').2, ?_⟩
  intro hs'
  exact ⟨(e3 hs').1, sendBlocked_unpaused _ _ hnp k2 (e3 hs').2⟩

/-- **1b, exactly one slot.**  For the strictly increasing windows the leader builds (each
`MsgAppend` records the index of its last entry), `free_first_one` frees exactly one slot: the
oldest in-flight message.

**Restated:** without the monotonicity hypothesis `free_first_one` (= `free_to(first)`) frees *at
least* one slot (`Inflights.freeFirstOne_count_lt`), not exactly one. -/
theorem freeFirstOne_frees_exactly_one (s : Inflights) (h : s.Inv) (hc : 0 < s.count)
    (hinc : s.contents.Pairwise (· < ·)) :
    ∃ s', s.freeFirstOne = .ok s' ∧ s'.Inv ∧ s'.count + 1 = s.count ∧
      s'.contents = s.contents.tail :=
  Inflights.freeFirstOne_count_exact s h hc hinc

/-- **4, with a capacity reduction pending.**  While `adjust_max_inflight_msgs` has a smaller
capacity pending the window may stay "full" after one slot is freed, but every heartbeat response
on a full, non-empty window strictly decreases the number in flight, so the measure `ins.count`
bounds the number of heartbeat rounds without an append. -/
theorem full_window_heartbeat_drains (r r' : Raft) (m : Message) (pr0 : Progress)
    (hg : r.prs.get m.frm = some pr0) (hs : pr0.state = .replicate) (hf : pr0.ins.full = true)
    (hinv : pr0.ins.Inv) (hc : 0 < pr0.ins.count)
    (h : r.handleHeartbeatResponse m = .ok r') :
    ∃ prH : Progress,
      pr0.ins.freeFirstOne = .ok prH.ins ∧ prH.ins.Inv ∧ prH.ins.count < pr0.ins.count := by
  obtain ⟨prH, k1, k2, k3, k4, k5, k6, k7, k8, k9⟩ := handleHeartbeatResponse_spec r r' m pr0 hg h
  rw [if_pos ⟨hs, hf⟩] at k8
  obtain ⟨s', e, i, hlt⟩ := Inflights.freeFirstOne_count_lt _ hinv hc
  rw [k8] at e; cases e
  exact ⟨prH, k8, i, hlt⟩

/-- **4, Assumption (`max_inflight_msgs ≥ 1`).**  A window of capacity 0 is full while empty, and
`free_first_one` has nothing to free: such a `Replicate` follower is paused for ever.
`Config::validate` rejects `max_inflight_msgs = 0`, but `adjust_max_inflight_msgs(target, 0)`
(raft.rs:3007) is not guarded and installs capacity 0 as soon as the window drains. -/
theorem zero_capacity_stalls :
    (Inflights.new 0).full = true ∧ (Inflights.new 0).freeFirstOne = .ok (Inflights.new 0) ∧
    (Inflights.new 0).Inv ∧
    (∃ s, (Inflights.new 3).setCap 0 = .ok s ∧ s.full = true ∧ s.count = 0) := by
  refine ⟨by decide, rfl, Inflights.inv_new 0, _, rfl, by decide, by decide⟩

/-- **Probe, paused.**  A heartbeat response lets a paused probing follower through the
`is_paused` gate: the progress handed to `send_append` is not paused, and if the follower lags,
exactly one `maybe_send_append` is made, which queues a message or is held back by the storage. -/
theorem paused_probe_heartbeat_sends (r r' : Raft) (m : Message) (pr0 : Progress)
    (hg : r.prs.get m.frm = some pr0) (hs : pr0.state = .probe)
    (hlag : pr0.matched < r.raftLog.lastIndex)
    (h : r.handleHeartbeatResponse m = .ok r') :
    ∃ prH r1 pr1 sent, prH.state = .probe ∧ prH.isPaused = false ∧ prH.nextIdx = pr0.nextIdx ∧
      r.maybeSendAppend m.frm prH true = .ok (r1, pr1, sent) ∧ r'.prs.get m.frm = some pr1 ∧
      (sent = true → ∃ msg ∈ r1.msgs, msg.to = m.frm ∧
        (msg.msgType = .msgAppend ∨ msg.msgType = .msgSnapshot)) ∧
      (sent = false → pr1 = prH ∧
        (r.raftLog.entries prH.nextIdx (some r.maxMsgSize) true = .err .logTemporarilyUnavailable ∨
         (r.raftLog.snapshot prH.pendingRequestSnapshot).2 =
           .err .snapshotTemporarilyUnavailable)) := by
  obtain ⟨prH, k1, k2, k3, k4, k5, k6, k7, k8, k9⟩ := handleHeartbeatResponse_spec r r' m pr0 hg h
  have hst : prH.state = .probe := by rw [k3, hs]
  have hnp : prH.isPaused = false := by rw [isPaused_probe _ hst]; exact k1
  rw [if_pos (Or.inl (by rw [k4]; exact hlag))] at k9
  obtain ⟨r1, pr1, sent, hy, hg'⟩ := k9
  obtain ⟨_, _, e3, e4⟩ := maybeSendAppend_rel _ _ _ _ _ _ _ hy
  refine ⟨prH, r1, pr1, sent, hst, hnp, k5, hy, hg', fun hs' => (e4 hs').2, ?_⟩
  intro hs'
  exact ⟨(e3 hs').1, sendBlocked_unpaused _ _ hnp k2 (e3 hs').2⟩

/-- **Snapshot state, Assumption (`report_snapshot`).**  A heartbeat response does *not* move a
follower out of `Snapshot`: the state, the pending snapshot index and `matched` are unchanged and
nothing is sent.  The only exits are a snapshot status report (`handleSnapshotStatus_spec`), an
append response that reaches the pending snapshot index (`handleAppendResponse_accept`), or a
leader change.  If the `MsgSnapshot` was lost while faults were active, the follower never sends
that append response, so liveness rests on the application calling `report_snapshot` for every
snapshot it was asked to send. -/
theorem heartbeat_does_not_leave_snapshot (r r' : Raft) (m : Message) (pr0 : Progress)
    (hg : r.prs.get m.frm = some pr0) (hs : pr0.state = .snapshot)
    (h : r.handleHeartbeatResponse m = .ok r') :
    ∃ pr', r'.prs.get m.frm = some pr' ∧ pr'.state = .snapshot ∧
      pr'.pendingSnapshot = pr0.pendingSnapshot ∧ pr'.matched = pr0.matched ∧
      pr'.nextIdx = pr0.nextIdx := by
  obtain ⟨prH, k1, k2, k3, k4, k5, k6, k7, k8, k9⟩ := handleHeartbeatResponse_spec r r' m pr0 hg h
  have hst : prH.state = .snapshot := by rw [k3, hs]
  split at k9
  · obtain ⟨r1, pr1, sent, hy, hg'⟩ := k9
    obtain ⟨_, _, e3, e4⟩ := maybeSendAppend_rel _ _ _ _ _ _ _ hy
    cases sent with
    | true =>
      have := (e4 rfl).1
      rw [isPaused_snapshot _ hst] at this; cases this
    | false =>
      have := (e3 rfl).1
      subst this
      exact ⟨pr1, hg', hst, k7, k4, k5⟩
  · exact ⟨prH, k9, hst, k7, k4, k5⟩

/-- **2a successful append response (raft.rs `handle_append_response`, accept path).**  When the
leader handles a non-reject `MsgAppendResponse` from `x` whose index advances `matched`, the
progress `pr1` written back before anything is sent has `matched = index` and
* `Probe` ⇒ `Replicate` with `next_idx = index + 1`;
* `Snapshot`, caught up (`pending_snapshot ≤ index`) ⇒ `Probe`, un-paused, `next_idx = index + 1`,
  pending snapshot cleared;
* `Snapshot`, not caught up ⇒ stays `Snapshot` with the same pending snapshot;
* `Replicate` ⇒ the window is `free_to(index)`.
The rest of the handler (commit, broadcast / resend, `send_append_aggressively`, transfer) only
sends, so the stored progress `pr'` is related to `pr1` by `SendRel`: same `matched`, same state or
`Snapshot` (when the entries to send are compacted), and a `Snapshot` progress keeps its pending
index.

**Restated:** "Snapshot caught up ⇒ Probe then Replicate as the code does": in this code base the
caught-up follower becomes `Probe` and is sent a probe at once (`old_paused` is true); it becomes
`Replicate` on the *next* append response (first bullet), not in the same handler. -/
theorem handleAppendResponse_accept (r r' : Raft) (m : Message) (pr0 : Progress)
    (hg : r.prs.get m.frm = some pr0) (hrej : m.reject = false) (hadv : pr0.matched < m.index)
    (h : r.handleAppendResponse m = .ok r') :
    ∃ pr1 pr', r'.prs.get m.frm = some pr' ∧ SendRel pr1 pr' ∧ pr1.matched = m.index ∧
      pr1.recentActive = true ∧
      (pr0.state = .probe → pr1.state = .replicate ∧ pr1.nextIdx = m.index + 1) ∧
      (pr0.state = .snapshot → pr0.pendingSnapshot ≤ m.index →
        pr1.state = .probe ∧ pr1.paused = false ∧ pr1.nextIdx = m.index + 1 ∧
        pr1.pendingSnapshot = 0) ∧
      (pr0.state = .snapshot → m.index < pr0.pendingSnapshot →
        pr1.state = .snapshot ∧ pr1.pendingSnapshot = pr0.pendingSnapshot) ∧
      (pr0.state = .replicate → pr1.state = .replicate ∧ pr0.ins.freeTo m.index = .ok pr1.ins) := by
  obtain ⟨f1, f2, f3, f4, f5, f6, f7, f8⟩ :=
    updateCommitted_frame { pr0 with recentActive := true } m.commit
  cases handleAppendResponse_inv h with
  | unknown hn => rw [hg] at hn; cases hn
  | stale _ hr | probe _ hr => rw [hrej] at hr; cases hr
  | kept hg' _ hu =>
    -- `maybe_update` answering `false` contradicts `matched < index`
    rw [hg] at hg'; cases hg'
    cases (maybeUpdate_mono _ _ _ _ hu).2.2.2.2.1.2 (by rw [f2]; exact hadv)
  | @advanced _ prU _ hg' _ hu ha =>
    rw [hg] at hg'; cases hg'
    generalize hA : ({ pr0 with recentActive := true } : Progress).updateCommitted m.commit = prA at *
    dsimp only at f1 f2 f3 f4 f5 f6 f7 f8
    have hd : decide (prA.matched < m.index) = true := by rw [f2]; simpa using hadv
    have hlt := maybeUpdate_ok_lt _ _ _ _ hu
    obtain ⟨q, hq, g1, g2, g3, g4, g5, g6, g7, g8, g9⟩ := maybeUpdate_spec prA m.index hlt
    rw [hq, hd] at hu
    cases hu
    obtain ⟨pr1, hpr1, ht⟩ := handleAppendResponseAccepted_trel _ _ _ _ _ ha
    obtain ⟨pr', hg', hrel⟩ := ht m.frm pr1 (ProgressTracker.get_set_self _ _ _ _ hg)
    have hm : prU.matched = m.index := by rw [g1, f2]; omega
    refine ⟨pr1, pr', hg', hrel, ?_⟩
    have hra : prU.recentActive = true := g9.trans f7
    cases hst : pr0.state
    · -- probe
      rw [g5, f1, hst] at hpr1
      dsimp only at hpr1
      subst hpr1
      obtain ⟨b1, b2, b3, _⟩ := becomeReplicate_props prU
      exact ⟨b3.trans hm, hra, fun _ => ⟨b1, b2.trans (by rw [hm])⟩, nofun, nofun, nofun⟩
    · -- replicate
      rw [g5, f1, hst] at hpr1
      dsimp only at hpr1
      obtain ⟨ins, hi, rfl⟩ := hpr1
      exact ⟨hm, hra, nofun, nofun, nofun,
        fun _ => ⟨rfl, by rw [g6, f4] at hi; exact hi⟩⟩
    · -- snapshot
      rw [g5, f1, hst] at hpr1
      dsimp only at hpr1
      have hsn : prU.state = .snapshot := g5.trans (f1.trans hst)
      have hps : prU.pendingSnapshot = pr0.pendingSnapshot := g7.trans f5
      have hcu : prU.isSnapshotCaughtUp = decide (pr0.pendingSnapshot ≤ m.index) := by
        unfold Progress.isSnapshotCaughtUp
        rw [hsn, hps, hm]; rfl
      by_cases hle : pr0.pendingSnapshot ≤ m.index
      · rw [if_pos (hcu.trans (decide_eq_true hle)), becomeProbe_from_snapshot prU hsn] at hpr1
        have e3 : pr1.nextIdx = m.index + 1 := by
          refine (congrArg Progress.nextIdx hpr1).trans ?_
          show max (prU.matched + 1) (prU.pendingSnapshot + 1) = m.index + 1
          rw [hm, hps]; omega
        exact ⟨(congrArg Progress.matched hpr1).trans hm, (congrArg Progress.recentActive hpr1).trans hra,
          nofun, fun _ _ => ⟨congrArg Progress.state hpr1, congrArg Progress.paused hpr1, e3,
            congrArg Progress.pendingSnapshot hpr1⟩,
          fun _ hlt' => absurd hle (Nat.not_le_of_lt hlt'), nofun⟩
      · rw [if_neg (by rw [hcu]; exact fun hc => hle (of_decide_eq_true hc))] at hpr1
        exact ⟨(congrArg Progress.matched hpr1).trans hm, (congrArg Progress.recentActive hpr1).trans hra,
          nofun, fun _ hle' => absurd hle' hle,
          fun _ _ => ⟨(congrArg Progress.state hpr1).trans hsn,
            (congrArg Progress.pendingSnapshot hpr1).trans hps⟩, nofun⟩

/-- **2a, corollary.**  After an advancing acknowledgement from a probing follower the stored
progress is never `Probe` again: it replicates (or, if the log it needs was compacted, is sent a
snapshot), with `matched` equal to the acknowledged index. -/
theorem probe_ack_leaves_probe (r r' : Raft) (m : Message) (pr0 : Progress)
    (hg : r.prs.get m.frm = some pr0) (hrej : m.reject = false) (hadv : pr0.matched < m.index)
    (hs : pr0.state = .probe) (h : r.handleAppendResponse m = .ok r') :
    ∃ pr', r'.prs.get m.frm = some pr' ∧ pr'.matched = m.index ∧
      (pr'.state = .replicate ∨ pr'.state = .snapshot) := by
  obtain ⟨pr1, pr', hg', hrel, hm, _, hp, _⟩ := handleAppendResponse_accept r r' m pr0 hg hrej hadv h
  refine ⟨pr', hg', hrel.1.trans hm, ?_⟩
  rcases hrel.2.1 with e | e
  · left; rw [e]; exact (hp hs).1
  · right; exact e

/-- **2a, corollary (the stall the snapshot report removes).**  An acknowledgement below the pending
snapshot index leaves the follower in `Snapshot` with the same pending index. -/
theorem snapshot_ack_below_pending_stays (r r' : Raft) (m : Message) (pr0 : Progress)
    (hg : r.prs.get m.frm = some pr0) (hrej : m.reject = false) (hadv : pr0.matched < m.index)
    (hs : pr0.state = .snapshot) (hlt : m.index < pr0.pendingSnapshot)
    (h : r.handleAppendResponse m = .ok r') :
    ∃ pr', r'.prs.get m.frm = some pr' ∧ pr'.state = .snapshot ∧
      pr'.pendingSnapshot = pr0.pendingSnapshot := by
  obtain ⟨pr1, pr', hg', hrel, _, _, _, _, hsn, _⟩ :=
    handleAppendResponse_accept r r' m pr0 hg hrej hadv h
  obtain ⟨s1, s2⟩ := hsn hs hlt
  refine ⟨pr', hg', ?_, ?_⟩
  · rcases hrel.2.1 with e | e
    · rw [e]; exact s1
    · exact e
  · rw [hrel.2.2 s1]; exact s2

/-- **2a, the converse (Assumption `report_snapshot`, and a finding).**  An append response that does
not advance `matched` (`index ≤ matched`) changes nothing but `recent_active` / `committed_index`
and sends nothing — `handle_append_response` returns right after `maybe_update` answers `false`,
*before* the caught-up test.  So a follower in `Snapshot` with `pending_snapshot ≤ matched` (caught
up) is **not** released by the follower's acknowledgement of that very snapshot.  This state is
reachable: a fully caught-up follower calls `request_snapshot`; the leader's snapshot gets index
`request_index = matched`; the follower installs it and acknowledges `matched`
(`requested_snapshot_ack_does_not_release` below replays it on the model).  The leader then leaves
`Snapshot` only through `report_snapshot` (or a leader change); until then the follower receives no
entries. -/
theorem ack_not_advancing_changes_nothing (r : Raft) (m : Message) (pr0 : Progress)
    (hg : r.prs.get m.frm = some pr0) (hrej : m.reject = false) (hle : m.index ≤ pr0.matched)
    (hlt : m.index < U64_MAX) :
    ∃ pr', r.handleAppendResponse m = .ok { r with prs := r.prs.set m.frm pr' } ∧
      pr'.state = pr0.state ∧ pr'.pendingSnapshot = pr0.pendingSnapshot ∧
      pr'.matched = pr0.matched ∧ pr'.paused = pr0.paused ∧ pr'.ins = pr0.ins := by
  rw [handleAppendResponse_ack hg hrej, Progress.updateCommitted_eq, Progress.maybeUpdate_eq,
    if_neg (Nat.not_le_of_lt hlt), decide_eq_false (Nat.not_lt_of_le hle)]
  exact ⟨_, rfl, rfl, rfl, Nat.max_eq_left hle, if_neg (Nat.not_lt_of_le hle), rfl⟩

/-- **2b rejection (raft.rs `handle_append_response`, reject path)**, for a follower in `Probe` or
`Replicate`.  With `hint` the probe index computed from the rejection (`find_conflict_by_term`) and
`(prD, b)` the outcome of `maybe_decr_to`:
* `b = false` (stale): `prD` (unchanged but for `recent_active` / `committed_index`) is stored and
  nothing is sent;
* `b = true`: the progress `pr2` handed to `send_append` is `Probe` (a `Replicate` follower is moved
  by `become_probe`), **not paused**, and exactly one `maybe_send_append(allow_empty = true)` is
  made, which either queues an `MsgAppend`/`MsgSnapshot` for the follower or is held back by the
  storage (`…TemporarilyUnavailable`).
So a genuine rejection is always answered by a new probe: repair never waits for a heartbeat. -/
theorem handleAppendResponse_reject (r r' : Raft) (m : Message) (pr0 : Progress)
    (hg : r.prs.get m.frm = some pr0) (hrej : m.reject = true) (hs : pr0.state ≠ .snapshot)
    (h : r.handleAppendResponse m = .ok r') :
    ∃ hint prD b,
      (({ pr0 with recentActive := true } : Progress).updateCommitted m.commit).maybeDecrTo
        m.index hint m.requestSnapshot = .ok (prD, b) ∧
      (b = false → r'.prs.get m.frm = some prD ∧ r'.msgs = r.msgs) ∧
      (b = true → ∃ pr2 pr3 sent,
        pr2 = (if prD.state = .replicate then prD.becomeProbe else prD) ∧
        pr2.state = .probe ∧ pr2.isPaused = false ∧ pr2.matched = pr0.matched ∧
        r'.prs.get m.frm = some pr3 ∧ SendRel pr2 pr3 ∧
        (sent = true → ∃ msg ∈ r'.msgs, msg.to = m.frm ∧
          (msg.msgType = .msgAppend ∨ msg.msgType = .msgSnapshot)) ∧
        (sent = false → pr3 = pr2 ∧
          (r.raftLog.entries pr2.nextIdx (some r.maxMsgSize) true = .err .logTemporarilyUnavailable ∨
           (r.raftLog.snapshot pr2.pendingRequestSnapshot).2 =
             .err .snapshotTemporarilyUnavailable))) := by
  cases handleAppendResponse_inv h with
  | unknown hn => rw [hg] at hn; cases hn
  | kept _ hr | advanced _ hr => rw [hrej] at hr; cases hr
  | stale hg' _ hd =>
    rw [hg] at hg'; cases hg'
    exact ⟨_, _, false, hd, fun _ => ⟨ProgressTracker.get_set_self _ _ _ _ hg, rfl⟩, nofun⟩
  | @probe _ hint prD _ hg' _ hd hsa =>
    rw [hg] at hg'; cases hg'
    refine ⟨hint, prD, true, hd, nofun, fun _ => ?_⟩
    obtain ⟨d1, d2, d3, d4, d5⟩ := maybeDecrTo_frame _ _ _ _ _ _ hd
    rw [Progress.updateCommitted_eq] at d1 d2 d5 hd
    -- the progress handed to `send_append`
    generalize hp2 : (if prD.state = .replicate then prD.becomeProbe else prD) = pr2 at hsa
    have hp2s : pr2.state = .probe ∧ pr2.isPaused = false ∧ pr2.matched = pr0.matched ∧
        pr2.recentActive = true := by
      rw [← hp2]
      by_cases hrep : prD.state = .replicate
      · rw [if_pos hrep]
        obtain ⟨b1, _, b3, b4, _⟩ := becomeProbe_props prD
        refine ⟨b1, b3, b4.trans d1, ?_⟩
        unfold Progress.becomeProbe
        split <;> exact d5
      · rw [if_neg hrep]
        have hpr : prD.state = .probe := by
          cases hst : prD.state with
          | probe => rfl
          | replicate => exact absurd hst hrep
          | snapshot => exact absurd (d2.symm.trans hst) hs
        refine ⟨hpr, ?_, d1, d5⟩
        simp only [Progress.isPaused, hpr]
        exact maybeDecrTo_true_unpauses _ _ _ _ _ (d2 ▸ hrep) hd
    obtain ⟨s1, s2, s3, s4⟩ := hp2s
    have hg2 : (r.prs.set m.frm pr2).get m.frm = some pr2 := ProgressTracker.get_set_self _ _ _ _ hg
    obtain ⟨p, r1, pr3, hg3, hx, rfl⟩ := sendAppend_inv hsa
    rw [show ({ r with prs := r.prs.set m.frm pr2 } : Raft).prs.get m.frm = some pr2 from hg2] at hg3
    cases hg3
    obtain ⟨sent, hy⟩ := sendAppendPr_inv hx
    obtain ⟨e1, e2, e3, e4⟩ := maybeSendAppend_rel _ _ _ _ _ _ _ hy
    refine ⟨pr2, pr3, sent, rfl, s1, s2, s3, ?_, e2, fun hs' => (e4 hs').2, fun hs' =>
      ⟨(e3 hs').1, sendBlocked_unpaused _ _ s2 s4 (e3 hs').2⟩⟩
    dsimp only
    rw [e1]
    exact ProgressTracker.get_set_self _ _ _ _ hg2

/-- **2c snapshot status report (raft.rs `handle_snapshot_status`).**  For a follower in `Snapshot`:
`Finish` ⇒ `become_probe` (`next_idx = max(matched+1, pending_snapshot+1)`), `Failure` ⇒
`snapshot_failure` then `become_probe` (`next_idx = matched + 1`); in both cases the pending snapshot
and the pending snapshot request are cleared and the progress is `Probe`, *paused* — it waits for
the next heartbeat response (`paused_probe_heartbeat_sends`) or the follower's append response
(`handleAppendResponse_accept`).  A reported snapshot never leaves the follower in `Snapshot`. -/
theorem handleSnapshotStatus_spec (r : Raft) (m : Message) (pr0 : Progress)
    (hg : r.prs.get m.frm = some pr0) (hs : pr0.state = .snapshot) :
    ∃ pr', (r.handleSnapshotStatus m).prs.get m.frm = some pr' ∧
      pr'.state = .probe ∧ pr'.paused = true ∧ pr'.pendingSnapshot = 0 ∧
      pr'.pendingRequestSnapshot = 0 ∧ pr'.matched = pr0.matched ∧
      pr'.nextIdx = (if m.reject then pr0.matched + 1
                     else max (pr0.matched + 1) (pr0.pendingSnapshot + 1)) := by
  unfold Raft.handleSnapshotStatus
  rw [hg]
  simp only [hs, ne_eq, not_true_eq_false, if_false]
  refine ⟨_, ProgressTracker.get_set_self _ _ _ _ hg, ?_⟩
  cases hr : m.reject <;>
    simp [Progress.becomeProbe, Progress.snapshotFailure, Progress.pause, Progress.resetState, hs]

/-- **2c.**  A status report for a follower that is not in `Snapshot` is ignored. -/
theorem handleSnapshotStatus_noop (r : Raft) (m : Message) (pr0 : Progress)
    (hg : r.prs.get m.frm = some pr0) (hs : pr0.state ≠ .snapshot) :
    r.handleSnapshotStatus m = r := by
  unfold Raft.handleSnapshotStatus
  rw [hg]; simp [hs]

/-- **2d `MsgUnreachable` (raft.rs `handle_unreachable`).**  `Replicate` ⇒ `Probe` at
`matched + 1`, un-paused: optimistic sends stop as soon as the transport reports a loss. -/
theorem handleUnreachable_spec (r : Raft) (m : Message) (pr0 : Progress)
    (hg : r.prs.get m.frm = some pr0) (hs : pr0.state = .replicate) :
    ∃ pr', (r.handleUnreachable m).prs.get m.frm = some pr' ∧
      pr'.state = .probe ∧ pr'.paused = false ∧ pr'.nextIdx = pr0.matched + 1 ∧
      pr'.matched = pr0.matched := by
  unfold Raft.handleUnreachable
  rw [hg]
  simp only [hs, if_true]
  refine ⟨_, ProgressTracker.get_set_self _ _ _ _ hg, ?_⟩
  simp [Progress.becomeProbe, Progress.resetState, hs]


/-! ## 3. Election timer (`tick_election`, `hup`) and check-quorum step-down -/

/-- **3, quiet tick.**  Below the randomized timeout a non-leader's tick only counts
(`election_elapsed + 1`): the measure `randomized_election_timeout - election_elapsed` decreases by
one per tick without a message from a leader. -/
theorem tick_quiet (r : Raft) (hs : r.state ≠ .leader)
    (h : r.electionElapsed + 1 < r.randomizedElectionTimeout) :
    r.tick = .ok ({ r with electionElapsed := r.electionElapsed + 1 }, false) := by
  have h1 : r.tickElection = .ok ({ r with electionElapsed := r.electionElapsed + 1 }, false) := by
    unfold Raft.tickElection
    have : ¬ (r.randomizedElectionTimeout ≤ r.electionElapsed + 1) := by omega
    simp [Raft.passElectionTimeout, this]
  unfold Raft.tick
  cases hst : r.state <;> simp_all

/-- `MsgHup` carries term 0: the term preamble of `step` lets it through to `hup(false)` -/
theorem step_hup (r : Raft) (m : Message) (hm : m.msgType = .msgHup) (ht : m.term = 0) :
    r.step m = (r.hup false).bind (fun r => .ok (r, none)) :=
  Raft.step_hup (stepTerm_same (.inl ht)) hm

theorem bind_hup_tick (x : Res Raft) :
    ((x.bind (fun r => Res.ok (r, (none : Option RaftError)))).bind
        (fun (y : Raft × Option RaftError) => Res.ok y.1)).bind (fun r => Res.ok (r, true)) =
      x.bind (fun r => Res.ok (r, true)) := by
  cases x <;> rfl

/-- **3, the firing tick.**  A promotable non-leader whose `election_elapsed + 1` reaches the
randomized timeout resets `election_elapsed` to 0 and performs `hup(false)` on that tick. -/
theorem tick_timeout_hups (r : Raft) (hs : r.state ≠ .leader) (hp : r.promotable = true)
    (h : r.randomizedElectionTimeout ≤ r.electionElapsed + 1) :
    r.tick = (({ r with electionElapsed := 0 } : Raft).hup false).bind (fun r => .ok (r, true)) := by
  have h1 : r.tickElection =
      (({ r with electionElapsed := 0 } : Raft).hup false).bind (fun r => .ok (r, true)) := by
    unfold Raft.tickElection
    have hcond : (!({ r with electionElapsed := r.electionElapsed + 1 } : Raft).passElectionTimeout ||
        !({ r with electionElapsed := r.electionElapsed + 1 } : Raft).promotable) = false := by
      simp [Raft.passElectionTimeout, h, hp]
    dsimp only
    rw [hcond]
    simp only [Bool.false_eq_true, if_false]
    unfold Raft.stepIgnore
    rw [step_hup _ _ rfl rfl]
    exact bind_hup_tick _
  unfold Raft.tick
  cases hst : r.state <;> simp_all

/-- **3, exact enabling condition of `hup`.**  On a promotable non-leader `hup(false)` *is* a
campaign (`PreElection` with `pre_vote`, `Election` otherwise) exactly when (i) no configuration
change sits between `applied` and `committed` and (ii) not (unpersisted entries ∧ the node's own
vote is a quorum).  The two blocked cases are `RN.hup_blocked_by_unapplied_conf` and
`hup_blocked_by_unpersisted_singleton`; both are lifted by the application making progress
(applying the committed change, persisting the entries), which a fair suffix provides. -/
theorem hup_enabled (r : Raft) (hs : r.state ≠ .leader) (hp : r.promotable = true)
    (hc : r.hasUnappliedConfChanges r.hupScanLow (r.raftLog.committed + 1) = .ok false)
    (hq : ¬ (r.raftLog.persisted < r.raftLog.lastIndex ∧ r.prs.hasQuorum [r.id] = true)) :
    r.hup false = r.campaign (if r.preVote then .preElection else .election) := by
  unfold Raft.hup
  simp only [hs, if_false, hp, Bool.not_true, Bool.false_eq_true, hc, hq]
  split <;> rfl

/-- **3.**  A node whose own vote is a quorum does not campaign while it has unpersisted entries
(repo commit 667635b; otherwise it would win at once and hit `become_leader`'s `assert persisted`). -/
theorem hup_blocked_by_unpersisted_singleton (r : Raft) (transfer : Bool)
    (hc : r.hasUnappliedConfChanges r.hupScanLow (r.raftLog.committed + 1) = .ok false)
    (hq : r.raftLog.persisted < r.raftLog.lastIndex ∧ r.prs.hasQuorum [r.id] = true) :
    r.hup transfer = .ok r := by
  unfold Raft.hup
  split
  · rfl
  · split
    · rfl
    · rw [hc]

/-- `n` ticks in a row (the "has ready" flag is dropped) -/
def tickN : Nat → Raft → Res Raft
  | 0, r => .ok r
  | n + 1, r => r.tick.bind (fun x => tickN n x.1)

/-- **3.**  `k` quiet ticks only add `k` to `election_elapsed`. -/
theorem quiet_ticks (k : Nat) (r : Raft) (hs : r.state ≠ .leader)
    (h : r.electionElapsed + k < r.randomizedElectionTimeout) :
    tickN k r = .ok { r with electionElapsed := r.electionElapsed + k } := by
  induction k generalizing r with
  | zero => rfl
  | succ n ih =>
    simp only [tickN]
    rw [tick_quiet r hs (by omega)]
    simp only [Res.bind]
    have := ih { r with electionElapsed := r.electionElapsed + 1 } hs (by simp only; omega)
    rw [this]
    simp only [Nat.add_assoc, Nat.add_comm 1 n]

/-- **3, bound.**  A promotable non-leader that hears nothing performs `hup` (with
`election_elapsed` reset) on exactly the `(randomized_election_timeout - election_elapsed)`-th tick:
within one randomized election timeout it campaigns (pre-campaigns with `pre_vote`) unless `hup` is
blocked as described at `hup_enabled`. -/
theorem election_timer_fires (r : Raft) (hs : r.state ≠ .leader) (hp : r.promotable = true)
    (h : r.electionElapsed < r.randomizedElectionTimeout) :
    tickN (r.randomizedElectionTimeout - r.electionElapsed) r =
      ({ r with electionElapsed := 0 } : Raft).hup false := by
  obtain ⟨k, hk⟩ : ∃ k, r.randomizedElectionTimeout - r.electionElapsed = k + 1 :=
    ⟨r.randomizedElectionTimeout - r.electionElapsed - 1, by omega⟩
  rw [hk]
  have hq := quiet_ticks k r hs (by omega)
  have hstep : ∀ (n : Nat) (r0 r1 : Raft), tickN n r0 = .ok r1 →
      tickN (n + 1) r0 = r1.tick.bind (fun x => .ok x.1) := by
    intro n
    induction n with
    | zero =>
      intro r0 r1 h0
      simp only [tickN] at h0 ⊢
      cases h0
      cases r0.tick <;> rfl
    | succ n ih =>
      intro r0 r1 h0
      simp only [tickN] at h0 ⊢
      cases ht : r0.tick with
      | ok x =>
        rw [ht] at h0
        simp only [Res.bind] at h0 ⊢
        have := ih x.1 r1 h0
        simp only [tickN] at this
        exact this
      | err e => rw [ht] at h0; cases h0
      | panic s => rw [ht] at h0; cases h0
  have ht := tick_timeout_hups { r with electionElapsed := r.electionElapsed + k } hs hp
    (by simp only; omega)
  rw [hstep k r _ hq, ht]
  show ((({ r with electionElapsed := 0 } : Raft).hup false).bind (fun r => Res.ok (r, true))).bind
    (fun x => Res.ok x.1) = _
  cases ({ r with electionElapsed := 0 } : Raft).hup false <;> rfl

/-- **check_quorum step-down (raft.rs:2087, `step_leader`, `MsgCheckQuorum`).**  A leader that has not heard from a
quorum during the last election timeout becomes a follower of its own term: a leader cut off during
the fault period does not linger as a second leader. -/
theorem checkQuorum_stepdown (r : Raft) (m : Message) (hm : m.msgType = .msgCheckQuorum)
    (h : r.checkQuorumActive.2 = false) :
    r.stepLeader m = .ok (r.checkQuorumActive.1.becomeFollower r.term 0, none) := by
  unfold Raft.stepLeader
  simp only [hm]
  cases hc : r.checkQuorumActive with
  | mk r1 b =>
    rw [hc] at h
    simp only at h
    subst h
    have : r1.term = r.term := by
      have := congrArg (fun x => x.1.term) hc
      simpa [Raft.checkQuorumActive] using this.symm
    simp [this]

/-! ## 5. Non-vacuity: the hypotheses of the main lemmas are satisfiable, on concrete values -/

/-- a probing follower, paused, probe in flight at index 8 -/
def exProbe : Progress := { matched := 3, nextIdx := 9, state := .probe, paused := true }

example : exProbe.isPaused = true := by decide +kernel
example : exProbe.resume.isPaused = false := by decide +kernel
example : WF exProbe ∧ probeGap exProbe = 5 := by simp [WF, probeGap, exProbe]
/-- a rejection of the probe at 8 with hint 5: `next_idx` 9 → 6, un-paused -/
example : exProbe.maybeDecrTo 8 5 0 = .ok ({ exProbe with nextIdx := 6, paused := false }, true) := by
  decide +kernel
/-- a stale rejection changes nothing -/
example : exProbe.maybeDecrTo 6 5 0 = .ok (exProbe, false) := by decide +kernel
/-- the floor is `matched + 1 = 4`, not 1 (hint 0) -/
example : exProbe.maybeDecrTo 8 0 0 = .ok ({ exProbe with nextIdx := 4, paused := false }, true) := by
  decide +kernel
/-- at the floor a rejection of `matched` is accepted but moves nothing -/
example : ({ exProbe with nextIdx := 4 } : Progress).maybeDecrTo 3 0 0 =
    .ok ({ exProbe with nextIdx := 4, paused := false }, true) := by decide +kernel
/-- three rejections, two effective: 2 + final gap 0 ≤ initial gap 5 -/
example : applyRejections exProbe [(8, 5), (1, 0), (5, 0)] =
    .ok ({ exProbe with nextIdx := 4, paused := false }, 2) := by decide +kernel
/-- an acknowledgement of 7 -/
example : exProbe.maybeUpdate 7 = .ok ({ exProbe with matched := 7, paused := false }, true) := by
  decide +kernel
/-- a follower receiving the snapshot at index 20 -/
def exSnap : Progress := { matched := 3, nextIdx := 4, state := .snapshot, pendingSnapshot := 20 }
example : exSnap.isPaused = true ∧ exSnap.resume.isPaused = true := by decide +kernel
example : exSnap.becomeProbe.nextIdx = 21 ∧ exSnap.snapshotFailure.becomeProbe.nextIdx = 4 := by decide +kernel

/-- a full window of capacity 2 holding the appends that ended at 4 and 7 -/
def exWin : Inflights :=
  { start := 0, count := 2, buffer := [4, 7], cap := 2, incomingCap := none, alloc := true }
example : exWin.Inv := by constructor <;> simp [exWin]
example : exWin.full = true ∧ exWin.contents.Pairwise (· < ·) := by decide +kernel

/-- a leader (id 1, term 2) with 9 entries and a flow-controlled follower 2 that has matched 3 -/
def exRepl : Progress :=
  { matched := 3, nextIdx := 8, state := .replicate, ins := exWin, recentActive := true }
def exLeader : Raft :=
  { raftLog :=
      { store := {}, unstable := { entries := (List.range 9).map (fun i => { term := 2, index := i + 1 }),
                                   offset := 1 },
        committed := 3, persisted := 0, applied := 0, maxApplyUnpersistedLogLimit := 0 },
    id := 1, term := 2, state := .leader, maxMsgSize := 1000,
    prs := { progress := [(1, { matched := 0, nextIdx := 1, state := .replicate }), (2, exRepl)] } }
def exHbResp : Message := { msgType := .msgHeartbeatResponse, frm := 2, to := 1, term := 2 }

/-- the hypotheses of `full_window_heartbeat_sends` hold and the handler succeeds: one slot is
freed (2 → 1), one `MsgAppend` with entries 8..9 is queued and takes the slot again (1 → 2),
`next_idx` moves from 8 to 10 -/
example : exLeader.prs.get exHbResp.frm = some exRepl ∧ exRepl.state = .replicate ∧
    exRepl.ins.full = true ∧ exRepl.matched < exLeader.raftLog.lastIndex := by decide +kernel
example : ∃ r', exLeader.handleHeartbeatResponse exHbResp = .ok r' ∧
    ((r'.prs.get 2).map (fun p => (p.ins.count, p.nextIdx))) = some (2, 10) ∧
    r'.msgs.map (fun m => (m.msgType, m.to, m.index, m.entries.length)) = [(.msgAppend, 2, 7, 2)] := by
  refine ⟨_, rfl, ?_, ?_⟩ <;> decide +kernel

/-- a snapshot report for follower 2 in `Snapshot` state -/
def exLeaderSnap : Raft := { exLeader with prs := { progress := [(1, {}), (2, exSnap)] } }
example : (((exLeaderSnap.handleSnapshotStatus { msgType := .msgSnapStatus, frm := 2 }).prs.get 2).map
    (fun p => (p.state, p.paused, p.nextIdx))) = some (.probe, true, 21) := by decide +kernel
example : (((exLeaderSnap.handleSnapshotStatus { msgType := .msgSnapStatus, frm := 2, reject := true }).prs.get 2).map
    (fun p => (p.state, p.paused, p.nextIdx))) = some (.probe, true, 4) := by decide +kernel

/-- a rejection from follower 2 (probe at 7 rejected, follower's log ends at 5 in term 2) -/
def exLeaderProbe : Raft :=
  { exLeader with prs := { progress := [(1, {}), (2, { exProbe with nextIdx := 8 })] } }
example : ∃ r', exLeaderProbe.handleAppendResponse
      { msgType := .msgAppendResponse, frm := 2, term := 2, index := 7, reject := true,
        rejectHint := 5, logTerm := 2 } = .ok r' ∧
    ((r'.prs.get 2).map (fun p => (p.state, p.paused, p.nextIdx))) = some (.probe, true, 6) ∧
    r'.msgs.map (fun m => (m.msgType, m.to, m.index)) = [(.msgAppend, 2, 5)] := by
  refine ⟨_, rfl, ?_, ?_⟩ <;> decide +kernel

/-- an election timeout: a promotable follower (voters 1, 2, 3) at `election_elapsed = 9` of 10
campaigns on the tick -/
example : ∃ r', ({ exLeader with state := .follower, promotable := true, electionElapsed := 9,
                                 randomizedElectionTimeout := 10,
                                 prs := { exLeader.prs with conf := { incoming := [1, 2, 3] } },
                                 raftLog := { exLeader.raftLog with persisted := 9 } } : Raft).tick
      = .ok (r', true) ∧ r'.state = .candidate ∧ r'.term = 3 ∧ r'.electionElapsed = 0 ∧
      r'.msgs.map (fun m => (m.msgType, m.to)) = [(.msgRequestVote, 2), (.msgRequestVote, 3)] := by
  refine ⟨_, rfl, ?_, ?_, ?_, ?_⟩ <;> decide +kernel

/-- the scenario of `ack_not_advancing_changes_nothing`: leader and follower 2 both at index 9, all
committed; follower 2 requests a snapshot at 9 -/
def exCaughtUp : Raft :=
  { exLeader with
    raftLog := { exLeader.raftLog with committed := 9, persisted := 9 },
    prs := { progress :=
      [(1, ({ matched := 9, nextIdx := 10, state := .replicate } : Progress)),
       (2, ({ matched := 9, nextIdx := 10, state := .replicate, recentActive := true,
              ins := Inflights.new 2 } : Progress))] } }
def exSnapRequest : Message :=
  { msgType := .msgAppendResponse, frm := 2, term := 2, index := 9, reject := true,
    rejectHint := 9, logTerm := 2, requestSnapshot := 9 }

/-- the leader answers the request with a snapshot at index 9 = `matched` and enters `Snapshot`;
the follower's acknowledgement of index 9 leaves it there although it is caught up -/
theorem requested_snapshot_ack_does_not_release :
    ∃ r1 r2, exCaughtUp.handleAppendResponse exSnapRequest = .ok r1 ∧
      r1.msgs.map (fun m => (m.msgType, m.to, m.snapshot.metadata.index)) = [(.msgSnapshot, 2, 9)] ∧
      r1.handleAppendResponse { msgType := .msgAppendResponse, frm := 2, term := 2, index := 9 }
        = .ok r2 ∧
      (r2.prs.get 2).map (fun p => (p.state, p.matched, p.pendingSnapshot, p.isSnapshotCaughtUp))
        = some (.snapshot, 9, 9, true) ∧ r2.msgs = r1.msgs := by
  refine ⟨_, _, rfl, ?_, rfl, ?_, ?_⟩ <;> decide

/-! ## 6. The cluster-level statement — NOT PROVED -/

/-- what a cluster-level model has to provide for the statement of C10 (the protocol model `P` of
`RaftProofs/Proto*.lean` extended with ticks, restarts and a delivery schedule would be one) -/
structure ClusterModel where
  State : Type
  /-- reachable from an initial state under crashes, message loss / duplication / reordering,
  partitions and arbitrary tick schedules -/
  reachableUnderFaults : State → Prop
  /-- `fairRun s n s'`: from `s` the cluster runs without faults for `n` election timeouts — every
  crashed node restarted, every message delivered, every node ticked regularly, every storage
  request (`…TemporarilyUnavailable`) eventually served, every snapshot sent reported
  (`report_snapshot`), every `Ready` processed — ending in `s'` -/
  fairRun : State → Nat → State → Prop
  members : State → List Nat
  running : State → Nat → Bool
  /-- a majority of each voter set (both halves of a joint configuration) is running -/
  quorumRunning : State → Prop
  node : State → Nat → Option Raft
  /-- index up to which node `i` has handed committed entries to its application -/
  appliedTo : State → Nat → Nat
  /-- `s'` is `s` after a client proposes one new entry at the leader -/
  propose : State → State → Prop

/-- **UNPROVED — the cluster-level liveness statement of C10.**  For some bound `B` (a number of
election timeouts depending only on the configuration): from any state reachable under faults in
which a quorum is running, after `B` fault-free fair election timeouts exactly one running member
is leader, every running member's log end and commit index equal the leader's, and an entry
proposed then is, `B` timeouts later, committed and applied on every running member.  The lemmas of
this file are the per-follower ingredients ("replication never stalls permanently"); the election
part additionally needs randomized-timeout symmetry breaking, which no lemma here provides. -/
def C10_full_statement (M : ClusterModel) : Prop :=
  ∃ B : Nat, ∀ s, M.reachableUnderFaults s → M.quorumRunning s → ∀ s1, M.fairRun s B s1 →
    (∃ l ld, l ∈ M.members s1 ∧ M.running s1 l = true ∧ M.node s1 l = some ld ∧
      ld.state = .leader ∧
      (∀ l', l' ∈ M.members s1 → M.running s1 l' = true →
        (∀ n', M.node s1 l' = some n' → n'.state = .leader → l' = l)) ∧
      (∀ i ni, i ∈ M.members s1 → M.running s1 i = true → M.node s1 i = some ni →
        ni.raftLog.lastIndex = ld.raftLog.lastIndex ∧
        ni.raftLog.committed = ld.raftLog.committed) ∧
      (∀ s2 s3, M.propose s1 s2 → M.fairRun s2 B s3 →
        ∀ i ni, i ∈ M.members s3 → M.running s3 i = true → M.node s3 i = some ni →
          ld.raftLog.lastIndex + 1 ≤ ni.raftLog.committed ∧
          ld.raftLog.lastIndex + 1 ≤ M.appliedTo s3 i))

end RaftProps.C10
