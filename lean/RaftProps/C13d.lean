import RaftProofs.ClusterFlow2A
import RaftProofs.ClusterFlow2X

/-!
# C13d — advertised commit indexes on ClusterSem, **with log compaction, snapshots between nodes and `request_snapshot`**

`RaftProps/C13c.lean` proves `C13_cluster_advertised_commit_le` and
`C13_cluster_heartbeat_commit_le_matched` under `Cluster.Hyp` and
`C13_cluster_heartbeat_commit_acknowledged` under `Cluster.Hyp3w` — bundles that describe histories
**without** compaction and **without** `MsgSnapshot`s in the transport.  This file proves the same
statements for the histories of the snapshot layer (`RaftProps/C01j.lean`): step contract
`Snap5.KStep` (compaction under the storage contract, snapshots between nodes, free use of
`request_snapshot`).

* `C13_cluster_advertised_commit_le`, `C13_cluster_heartbeat_commit_le_matched`: under
  **`Snap5.Hyp3r`** (the bundle of C01j) — and, more generally (`…_of_hypR`), under
  `Snap5.Flow2.HypR` = the weakest bundle `Snap5.Hyp` of the snapshot layer minus its
  invariant-shaped field `reqok` (which is derived): `History`, fixed non-empty duplicate-free voter
  configuration, `InitOk`, `Snap5.KStep`, no batching.  The conclusions are word for word those of
  C13c.
* `C13_cluster_heartbeat_commit_acknowledged`: under `Snap5.Hyp3r`.  The agreement between the
  follower's log (when it acknowledged) and the leader's log is stated for the **ghost (uncompacted)
  logs** `Snap.FL` of C01e–C01j and, derived from it, for the logical logs at every index that both
  still retain (above both snapshot points).
* non-vacuity: the 46-state history `Snap5.Flow2.fx_hist` (`Snap5.rx_hist` — compaction, two
  snapshots, `request_snapshot` — continued by `ping`, `send`, `transfer_leader(2)`, `send` at the
  leader) satisfies `Snap5.Hyp3r`; its transport holds `MsgAppend`s and a `MsgHeartbeat` with commit
  index `2 > c0 = 0`; the theorems are applied to them.

The `inflights` half of C13c (`C13_cluster_inflights_invariant`) needs only `History` and therefore
already covers these histories.
-/
namespace RaftProps.C13d
open RaftModel RaftModel.Cluster RaftModel.Node
open RaftModel.Cluster.Flow RaftModel.Cluster.Snap5.Flow2

/-! ## 1. advertised commit indexes (the `Hyp` halves of C13c) -/

/-- `C13_cluster_advertised_commit_le` under the weakest bundle (`Snap5.Hyp` without `reqok`) -/
theorem C13_cluster_advertised_commit_le_of_hypR (cfg : JointConfig) (h : List Sys)
    (H : Snap5.Flow2.HypR cfg h)
    (n : Nat) (s : Sys) (hn : h[n]? = some s) (x : Message)
    (hx : x ∈ s.net ∨ ∃ i st, s.node i = some st ∧ x ∈ st.raft.msgs)
    (hty : x.msgType = .msgAppend ∨ x.msgType = .msgHeartbeat) :
    ∃ n0 s0 st0, n0 ≤ n ∧ h[n0]? = some s0 ∧ s0.node x.frm = some st0 ∧
      st0.raft.state = .leader ∧ st0.raft.term = x.term ∧
      x.commit ≤ st0.raft.raftLog.committed := by
  obtain ⟨n0, s0, st0, h1, h2, h3, h4, h5, h6, _⟩ := flow_point (.of_ghyp H.toHyp.g) hn hx hty
  exact ⟨n0, s0, st0, h1, h2, h3, h4, h5, h6⟩

/-- **C13 `advertised_commit_le` (ClusterSem, with compaction, snapshots and `request_snapshot`).**
In every state `h[n]` of every history that satisfies `Snap5.Hyp3r` (the bundle of
`RaftProps/C01j.lean`), every `MsgAppend` and every `MsgHeartbeat` `x` that is in the transport or
queued at any node was queued by node `x.frm` in a step that ended in a state `h[n0]`, `n0 ≤ n`, in
which `x.frm` was **leader of term `x.term`** with a commit index **at least `x.commit`**. -/
theorem C13_cluster_advertised_commit_le (cfg : JointConfig) (c0 : Nat) (h : List Sys)
    (H : Snap5.Hyp3r cfg c0 h)
    (n : Nat) (s : Sys) (hn : h[n]? = some s) (x : Message)
    (hx : x ∈ s.net ∨ ∃ i st, s.node i = some st ∧ x ∈ st.raft.msgs)
    (hty : x.msgType = .msgAppend ∨ x.msgType = .msgHeartbeat) :
    ∃ n0 s0 st0, n0 ≤ n ∧ h[n0]? = some s0 ∧ s0.node x.frm = some st0 ∧
      st0.raft.state = .leader ∧ st0.raft.term = x.term ∧
      x.commit ≤ st0.raft.raftLog.committed :=
  C13_cluster_advertised_commit_le_of_hypR cfg h H.toHypR n s hn x hx hty

/-- `C13_cluster_heartbeat_commit_le_matched` under the weakest bundle (`Snap5.Hyp` without `reqok`) -/
theorem C13_cluster_heartbeat_commit_le_matched_of_hypR (cfg : JointConfig) (h : List Sys)
    (H : Snap5.Flow2.HypR cfg h) (n : Nat) (s : Sys) (hn : h[n]? = some s) (x : Message)
    (hx : x ∈ s.net ∨ ∃ i st, s.node i = some st ∧ x ∈ st.raft.msgs)
    (hty : x.msgType = .msgHeartbeat) :
    ∃ n0 s0 stL pr, n0 ≤ n ∧ h[n0]? = some s0 ∧ s0.node x.frm = some stL ∧
      stL.raft.state = .leader ∧ stL.raft.term = x.term ∧ x.commit ≤ stL.raft.raftLog.committed ∧
      stL.raft.prs.get x.to = some pr ∧ x.commit ≤ pr.matched ∧
      (x.commit = 0 ∨ ∃ a ∈ s0.net, a.msgType = .msgAppendResponse ∧ a.reject = false ∧
        a.frm = x.to ∧ (a.term = x.term ∨ a.term = 0) ∧ x.commit ≤ a.index) := by
  obtain ⟨n0, s0, st0, pr, h1, h2, h3, h4, h5, h6, h7, h8, h9⟩ :=
    hbm_point (.of_ghyp H.toHyp.g) hn hx hty
  refine ⟨n0, s0, st0, pr, h1, h2, h3, h4, h5, h6, h7, h8, ?_⟩
  rcases h9 with c | ⟨a, a1, a2, a3, a4, a5⟩
  · exact .inl c
  · exact .inr ⟨a, a1, a2.1, a2.2, a3, a4, a5⟩

/-- **C13 `heartbeat_commit ≤ matched` (ClusterSem, with compaction, snapshots and
`request_snapshot`)**.  A `MsgHeartbeat` `x` in the transport or in a queue of `h[n]` was queued by a
step that ended in a state `h[n0]`, `n0 ≤ n`, in which its sender `x.frm` led `x.term`, had commit index
`≥ x.commit`, and **held for the addressee `x.to` a progress `pr` with `x.commit ≤ pr.matched`**
(whatever the state of that progress — `Probe`, `Replicate` or `Snapshot`); moreover `x.commit = 0` or
the transport of `h[n0]` held an accepting `MsgAppendResponse` of `x.to` for that term (or without
term) with an index `≥ x.commit`. -/
theorem C13_cluster_heartbeat_commit_le_matched (cfg : JointConfig) (c0 : Nat) (h : List Sys)
    (H : Snap5.Hyp3r cfg c0 h) (n : Nat) (s : Sys) (hn : h[n]? = some s) (x : Message)
    (hx : x ∈ s.net ∨ ∃ i st, s.node i = some st ∧ x ∈ st.raft.msgs)
    (hty : x.msgType = .msgHeartbeat) :
    ∃ n0 s0 stL pr, n0 ≤ n ∧ h[n0]? = some s0 ∧ s0.node x.frm = some stL ∧
      stL.raft.state = .leader ∧ stL.raft.term = x.term ∧ x.commit ≤ stL.raft.raftLog.committed ∧
      stL.raft.prs.get x.to = some pr ∧ x.commit ≤ pr.matched ∧
      (x.commit = 0 ∨ ∃ a ∈ s0.net, a.msgType = .msgAppendResponse ∧ a.reject = false ∧
        a.frm = x.to ∧ (a.term = x.term ∨ a.term = 0) ∧ x.commit ≤ a.index) :=
  C13_cluster_heartbeat_commit_le_matched_of_hypR cfg h H.toHypR n s hn x hx hty

/-! ## 3. the acknowledged index (the `Hyp3w` half of C13c) -/

/-- **C13 `heartbeat_commit_acknowledged` (ClusterSem, with compaction, snapshots and
`request_snapshot`)** under `Snap5.Hyp3r`.  A `MsgHeartbeat` `x` to follower `j = x.to`, in the
transport or in a queue of `h[n]`, carries `commit ≤ c0` (the common initial snapshot point), or

* at a point `h[n0]`, `n0 ≤ n`, its sender led `x.term` with commit index `≥ x.commit` and **held
  `matched ≥ x.commit` for `j`**, and the transport held an accepting `MsgAppendResponse` `a` of `j`
  for term `x.term` with `x.commit ≤ a.index` (**the follower's acknowledged index**; `a` may be the
  answer to a `MsgAppend` or to a `MsgSnapshot`), and
* `j` queued `a` in a state `h[n1]`, `n1 ≤ n0`, being in term `x.term`, and at a point `h[m]`, `m ≤ n1`,
  the sender `x.frm` led `x.term` with a log that reaches `a.index`, and the **ghost (uncompacted) logs**
  `Snap.FL` of `j` (at `h[n1]`) and of the leader (at `h[m]`) agree up to `a.index` (hence up to
  `x.commit`) — and so do the logical logs at every index `≤ a.index` above both snapshot points.

(In C13c the agreement is between the logical logs themselves; with compaction either log may have
dropped a prefix, so the statement is made for the ghost logs of C01e–C01j, of which the logical logs
are the suffixes — `C01j_ghost_log`.) -/
theorem C13_cluster_heartbeat_commit_acknowledged (cfg : JointConfig) (c0 : Nat) (h : List Sys)
    (H : Snap5.Hyp3r cfg c0 h) (n : Nat) (s : Sys) (hn : h[n]? = some s) (x : Message)
    (hx : x ∈ s.net ∨ ∃ i st, s.node i = some st ∧ x ∈ st.raft.msgs)
    (hty : x.msgType = .msgHeartbeat) :
    x.commit ≤ c0 ∨
    ∃ n0 s0 stL pr a, n0 ≤ n ∧ h[n0]? = some s0 ∧ s0.node x.frm = some stL ∧
      stL.raft.state = .leader ∧ stL.raft.term = x.term ∧ x.commit ≤ stL.raft.raftLog.committed ∧
      stL.raft.prs.get x.to = some pr ∧ x.commit ≤ pr.matched ∧
      a ∈ s0.net ∧ a.msgType = .msgAppendResponse ∧ a.reject = false ∧ a.frm = x.to ∧
      a.term = x.term ∧ x.commit ≤ a.index ∧
      ∃ n1 s1 stj, n1 ≤ n0 ∧ h[n1]? = some s1 ∧ s1.node x.to = some stj ∧ a ∈ stj.raft.msgs ∧
        stj.raft.term = x.term ∧
        ∃ m sm stl, m ≤ n1 ∧ h[m]? = some sm ∧ sm.node x.frm = some stl ∧
          stl.raft.state = .leader ∧ stl.raft.term = x.term ∧
          a.index ≤ stl.raft.raftLog.lastIndex ∧
          (∀ k, k ≤ a.index → (Snap.FL h c0 stj).entryAt k = (Snap.FL h c0 stl).entryAt k) ∧
          (∀ k, k ≤ a.index → stj.raft.raftLog.abs.snapIdx < k →
            stl.raft.raftLog.abs.snapIdx < k →
            stj.raft.raftLog.abs.entryAt k = stl.raft.raftLog.abs.entryAt k) := by
  by_cases hc : x.commit ≤ c0
  · exact .inl hc
  right
  have H2 := H.toHyp3w.toHyp2w
  have F := AckFacts.of_ghyp3w H.toHyp3w.g
  obtain ⟨n0, s0, st0, pr, a, h1, h2, h3, h4, h5, h6, p1, p2, a1, a2, a3, hterm, a5,
      n1, s1, stj, _, b1, b2, b3, b4, b5, ⟨m, sm, l, stl, d1, d2, d3, d4, d5, rfl⟩, d6, d7⟩ :=
    hb_acknowledged (.of_ghyp H2.toHyp.g) F hn hx hty (by omega)
  have hl : l = x.frm :=
    RaftProps.C02.C02_cluster_election_safety cfg H.ne H.nd1 H.nd2 h H.hist H.fix sm s0
      (mem_of_get d2) (mem_of_get h2) l x.frm x.term ⟨stl, d3, d4, d5⟩ ⟨st0, h3, h4, h5⟩
  rw [F.last m sm l stl d2 d3] at d6
  subst hl
  exact ⟨n0, s0, st0, pr, a, h1, h2, h3, h4, h5, h6, p1, p2, a1, a2.1, a2.2, a3, hterm, a5,
    n1, s1, stj, b1, b2, b3, b4, b5, m, sm, stl, d1, d2, d3, d4, d5, d6, d7,
    Snap5.Flow2.real_of_ghost H2 b2 d2 b3 d3 d7⟩

/-! ## 4. non-vacuity (kernel-evaluated, `RaftProofs/ClusterFlow2X.lean`) -/

section Examples
open RaftProps.C02 RaftModel.Cluster.Snap5

/-- **non-vacuity**: the 46-state history `fx_hist` — in which node 1 compacts its log, node 3 is
brought up to date by a `MsgSnapshot`, node 2 calls `request_snapshot` and restores the snapshot it is
served (`Snap5.rx_hist`, `C01j_request_snapshot_nonvacuous`), and the leader then pings, sends, is asked
to transfer its leadership to node 2 and sends — satisfies `Snap5.Hyp3r` (voters `{1, 2, 3}`,
`c0 = 0`), and

* the transport of `h[33]` holds a `MsgAppend` of node 1 (term 1) for node 2 advertising commit index
  2, and an entry-carrying `MsgAppend` of node 1 advertising commit index 1;
* the transport of `h[43]` holds a `MsgHeartbeat` of node 1 (term 1) for node 2 advertising commit
  index `2 > c0`;
* a `MsgSnapshot` for node 2 is in the transport of the history (so `NoSnapNet` of C13c fails), and
  node 1's log is compacted (snapshot point 1) when it sends the heartbeat. -/
theorem C13_cluster_snapshot_nonvacuous :
    ∃ h : List Sys, Snap5.Hyp3r c02x_cfg 0 h ∧
      (∃ (s : Sys) (x y : Message), h[33]? = some s ∧ x ∈ s.net ∧ x.msgType = .msgAppend ∧
        x.frm = 1 ∧ x.to = 2 ∧ x.term = 1 ∧ x.commit = 2 ∧
        y ∈ s.net ∧ y.msgType = .msgAppend ∧ y.entries ≠ [] ∧ y.frm = 1 ∧ y.commit = 1) ∧
      (∃ (s : Sys) (x : Message), h[43]? = some s ∧ x ∈ s.net ∧ x.msgType = .msgHeartbeat ∧
        x.frm = 1 ∧ x.to = 2 ∧ x.term = 1 ∧ x.commit = 2) ∧
      (∃ s ∈ h, ∃ x ∈ s.net, x.msgType = .msgSnapshot ∧ x.to = 2) ∧
      (∃ (s : Sys) (st : NState), h[43]? = some s ∧ s.node 1 = some st ∧
        st.raft.raftLog.abs.snapIdx = 1) := by
  obtain ⟨a1, a2, a3, a4, a5⟩ := fx_app_facts
  obtain ⟨b0, b1, b2, b3, b4⟩ := fx_app1_facts
  obtain ⟨e1, e2, e3, e4, e5⟩ := fx_hb_facts
  obtain ⟨f1, f2, f3, f4⟩ := fx_snap_facts
  refine ⟨fx_hist, fx_hyp3r, ⟨sx_t11, rx_app, _, fx_s33, fx_app_mem, a1, a2, a3, a4, a5,
    b0, b1, b2, b3, b4⟩, ⟨fx_t2, fx_hb, fx_s43, fx_hb_mem, e1, e2, e3, e4, e5⟩, ?_,
    ⟨fx_t2, fx_a22, fx_s43, rfl, f1⟩⟩
  refine ⟨rx_t8, ?_, rx_snap, f2, f3, f4⟩
  unfold fx_hist rx_hist rx_tail
  refine List.mem_append_left _ (List.mem_append_right _ ?_)
  simp

/-- … and the theorems apply to it: the `MsgAppend` with commit index 2 in the transport of `h[33]`
was queued by node 1 as leader of term 1 with commit index `≥ 2`, -/
example : ∃ n0 s0 st0, n0 ≤ 33 ∧ fx_hist[n0]? = some s0 ∧ s0.node rx_app.frm = some st0 ∧
    st0.raft.state = .leader ∧ st0.raft.term = rx_app.term ∧
    rx_app.commit ≤ st0.raft.raftLog.committed :=
  C13_cluster_advertised_commit_le c02x_cfg 0 fx_hist fx_hyp3r 33 sx_t11 fx_s33 rx_app
    (.inl fx_app_mem) (.inl fx_app_facts.1)

/-- and the heartbeat in the transport of `h[43]` (commit index 2): node 1 held `matched ≥ 2` for
node 2, and — `commit ≠ 0` — an acknowledgement of node 2 with index `≥ 2` was in the transport. -/
example : ∃ n0 s0 stL pr, n0 ≤ 43 ∧ fx_hist[n0]? = some s0 ∧ s0.node fx_hb.frm = some stL ∧
      stL.raft.state = .leader ∧ stL.raft.term = fx_hb.term ∧
      fx_hb.commit ≤ stL.raft.raftLog.committed ∧
      stL.raft.prs.get fx_hb.to = some pr ∧ fx_hb.commit ≤ pr.matched ∧
      ∃ a ∈ s0.net, a.msgType = .msgAppendResponse ∧ a.reject = false ∧
        a.frm = fx_hb.to ∧ (a.term = fx_hb.term ∨ a.term = 0) ∧ fx_hb.commit ≤ a.index := by
  obtain ⟨n0, s0, stL, pr, h1, h2, h3, h4, h5, h6, h7, h8, h9⟩ :=
    C13_cluster_heartbeat_commit_le_matched c02x_cfg 0 fx_hist fx_hyp3r 43 fx_t2 fx_s43 fx_hb
      (.inl fx_hb_mem) fx_hb_facts.1
  refine ⟨n0, s0, stL, pr, h1, h2, h3, h4, h5, h6, h7, h8, ?_⟩
  rcases h9 with c | c
  · have := fx_hb_facts.2.2.2.2
    omega
  · exact c

/-- and the non-trivial alternative of `C13_cluster_heartbeat_commit_acknowledged` for that heartbeat
(commit index `2 > c0 = 0`): node 2's acknowledgement was in the transport, and when node 2 queued it
its (ghost) log agreed with the leader's up to the acknowledged index. -/
example : ∃ n0 s0 stL pr a, n0 ≤ 43 ∧ fx_hist[n0]? = some s0 ∧ s0.node fx_hb.frm = some stL ∧
      stL.raft.state = .leader ∧ stL.raft.term = fx_hb.term ∧
      fx_hb.commit ≤ stL.raft.raftLog.committed ∧
      stL.raft.prs.get fx_hb.to = some pr ∧ fx_hb.commit ≤ pr.matched ∧
      a ∈ s0.net ∧ a.msgType = .msgAppendResponse ∧ a.reject = false ∧ a.frm = fx_hb.to ∧
      a.term = fx_hb.term ∧ fx_hb.commit ≤ a.index ∧
      ∃ n1 s1 stj, n1 ≤ n0 ∧ fx_hist[n1]? = some s1 ∧ s1.node fx_hb.to = some stj ∧
        a ∈ stj.raft.msgs ∧ stj.raft.term = fx_hb.term ∧
        ∃ m sm stl, m ≤ n1 ∧ fx_hist[m]? = some sm ∧ sm.node fx_hb.frm = some stl ∧
          stl.raft.state = .leader ∧ stl.raft.term = fx_hb.term ∧
          a.index ≤ stl.raft.raftLog.lastIndex ∧
          (∀ k, k ≤ a.index →
            (Snap.FL fx_hist 0 stj).entryAt k = (Snap.FL fx_hist 0 stl).entryAt k) ∧
          (∀ k, k ≤ a.index → stj.raft.raftLog.abs.snapIdx < k →
            stl.raft.raftLog.abs.snapIdx < k →
            stj.raft.raftLog.abs.entryAt k = stl.raft.raftLog.abs.entryAt k) := by
  rcases C13_cluster_heartbeat_commit_acknowledged c02x_cfg 0 fx_hist fx_hyp3r 43 fx_t2 fx_s43
    fx_hb (.inl fx_hb_mem) fx_hb_facts.1 with c | c
  · have := fx_hb_facts.2.2.2.2
    omega
  · exact c

end Examples

end RaftProps.C13d
