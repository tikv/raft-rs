import RaftProps.C05c
import RaftProofs.ClusterLogMute

/-!
# C05 Leader Append-Only, stated with the hypotheses of the Log Matching layer that skips mute queues
-/
namespace RaftProps.C05
open RaftModel RaftModel.Cluster RaftModel.Node RaftModel.Raft RaftProps.C02

namespace M
open RaftModel.Cluster.M

/-- **C05 `cluster_leader_append_only`** with the two hypotheses of the Log Matching layer that skips mute
queues (`NoSnapNet` in every state, the frame fact `MonoS` of every step) in the statement; they are not needed:
this is `C05_cluster_leader_append_only`. -/
theorem C05_cluster_leader_append_only (cfg : JointConfig) (hne : cfg.incoming ≠ [])
    (hnd1 : cfg.incoming.Nodup) (hnd2 : cfg.outgoing.Nodup)
    (h : List Sys) (hh : History h) (hfix : ∀ s ∈ h, FixedCfg cfg s)
    (hinit : ∀ s : Sys, h[0]? = some s → InitOk s)
    (hcon : ∀ (n : Nat) (a b : Sys), h[n]? = some a → h[n + 1]? = some b → CStep a b)
    (hnb : ∀ s ∈ h, NoBatch s)
    (hns : ∀ s ∈ h, ∀ x ∈ s.net, x.msgType ≠ .msgSnapshot)
    (hmono : ∀ (n : Nat) (a b : Sys), h[n]? = some a → h[n + 1]? = some b → MonoS a b) (i : Nat) :
    ∀ (d n : Nat) (s s' : Sys) (st st' : NState), h[n]? = some s → h[n + d]? = some s' →
      (∀ m a b, n ≤ m → m < n + d → h[m]? = some a → h[m + 1]? = some b → ¬ IsRestart i a b) →
      s.node i = some st → s'.node i = some st' →
      st.raft.state = .leader → st'.raft.state = .leader → st'.raft.term = st.raft.term →
      st.raft.raftLog.lastIndex ≤ st'.raft.raftLog.lastIndex ∧
      (∀ k e, st.raft.raftLog.abs.entryAt k = some e → st'.raft.raftLog.abs.snapIdx < k →
        st'.raft.raftLog.abs.entryAt k = some e) ∧
      (∀ k e', st'.raft.raftLog.abs.entryAt k = some e' → k ≤ st.raft.raftLog.lastIndex →
        st.raft.raftLog.abs.entryAt k = some e') :=
  _root_.RaftProps.C05.C05_cluster_leader_append_only cfg hne hnd1 hnd2 h hh hfix hinit hcon hnb i

end M

end RaftProps.C05
