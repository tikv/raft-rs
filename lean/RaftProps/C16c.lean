import RaftProofs.ClusterLeaseF
import RaftProps.C05c

/-!
# C16c — the lease theorem of C16 (PreVote + CheckQuorum) for `ClusterSem`

Property C16, second half: *With pre-vote and check-quorum enabled on all nodes, while a leader and a
majority exchange heartbeats on schedule, no behaviour of the remaining nodes — partition, rejoin,
campaigning, crash and restart — makes that leader step down or any member of that majority change
its term, except an explicitly requested leadership transfer.*

Setting: `RaftModel/Cluster.lean` (`ClusterSem`: nodes that move only through `Node.call`, a lossy /
duplicating / reordering transport, applications that call every entry point in any order, crashes
that restart a node from its own storage).  "A leader and a majority exchange heartbeats on schedule"
is a hypothesis on a **window** `[a, b]` of a history `h`: a set `M` of node ids, a joint quorum of the
fixed voter configuration `cfg`, containing the leader `l` of term `t`, every member of which is
**in lease** (`InLease`) in every state of the window — its term is `t` and it passes the lease test
of `Raft::step` (raft.rs:1363-1384): `check_quorum ∧ leader_id ≠ 0 ∧ election_elapsed <
election_timeout`.  This is what on-schedule heartbeats give (every heartbeat / append of the leader
resets `election_elapsed` and sets `leader_id`; the leader's own `election_elapsed` is reset at every
check-quorum round and `leader_id` is its own id as long as it leads).

`C16_cluster_lease_protects`: in every state of the window `l` still leads term `t`, and NO node of
the cluster — inside or outside `M` — has a term above `t` (and the transport and all queues stay
*calm*, `C16_cluster_lease_window_calm`).  The proof is in `RaftProofs/ClusterLease{A..F}.lean`.
-/
namespace RaftProps.C16
open RaftModel RaftModel.Cluster RaftModel.Node RaftProps.C02

/-- node `j` is at term `t` and passes the lease test of `Raft::step` -/
def InLease (s : Sys) (j t : Nat) : Prop :=
  ∃ st, s.node j = some st ∧ st.raft.term = t ∧ st.raft.checkQuorum = true ∧
    st.raft.leaderId ≠ 0 ∧ st.raft.electionElapsed < st.raft.electionTimeout

/-- the message `x` cannot disturb term `t` (`RaftModel.Cluster.ls_Calm`): `x.term ≤ t` — except that
a pre-vote request may carry any term, and a *granted* pre-vote response may carry any term provided
that, if it answers a pre-campaign of term `t` (`x.term = t + 1`), it does not come from a member of
`M` —; `x` is not a `MsgTimeoutNow`; and if `x` is a vote or pre-vote request it does not carry the
`CampaignTransfer` context -/
abbrev Calm (t : Nat) (M : List Nat) (x : Message) : Prop := ls_Calm t M x

theorem calm_iff (t : Nat) (M : List Nat) (x : Message) :
    Calm t M x ↔
      ((x.term ≤ t ∨ x.msgType = .msgRequestPreVote ∨
        (x.msgType = .msgRequestPreVoteResponse ∧ x.reject = false ∧ (x.term = t + 1 → x.frm ∉ M))) ∧
      x.msgType ≠ .msgTimeoutNow ∧
      ((x.msgType = .msgRequestVote ∨ x.msgType = .msgRequestPreVote) → x.context ≠ campaignTransfer)) :=
  Iff.rfl

/-- the bundled form: window hypotheses `ls_Hyp` on every state, `ls_WInv` at the start -/
theorem lease_window_core (cfg : JointConfig) (hne : cfg.incoming ≠ [] ∨ cfg.outgoing ≠ [])
    (h : List Sys) (hh : History h) (a b t l : Nat) (M : List Nat) (hlM : l ∈ M)
    (hM : IsJointQuorum cfg M)
    (hwin : ∀ n s, a ≤ n → n ≤ b → h[n]? = some s → ls_Hyp t M cfg s)
    (hrs : ∀ n s s', a ≤ n → n < b → h[n]? = some s → h[n + 1]? = some s' →
      ∀ k st, s.node k = some st → IsRestart k s s' → st.raft.raftLog.store.hardState.term ≤ t)
    (s0 : Sys) (h0 : h[a]? = some s0) (hlead : leads s0 l t) (hw0 : ls_WInv t M s0) :
    ∀ d s, a + d ≤ b → h[a + d]? = some s → ls_WInv t M s ∧ leads s l t := by
  intro d
  induction d with
  | zero =>
    intro s _ hs
    rw [Nat.add_zero, h0] at hs
    cases hs
    exact ⟨hw0, hlead⟩
  | succ d ih =>
    intro s' hle hs'
    have hlt : a + d < h.length := by
      have := (List.getElem?_eq_some_iff.1 hs').1
      omega
    obtain ⟨s, hs⟩ : ∃ s, h[a + d]? = some s := ⟨h[a + d], List.getElem?_eq_getElem hlt⟩
    obtain ⟨hw, hl⟩ := ih s (by omega) hs
    have hs'' : h[a + d + 1]? = some s' := by rw [Nat.add_assoc]; exact hs'
    have hstep := hist_step_at hh (a + d) s s' hs hs''
    have hinv1 := (hist_all hh).1 s (List.mem_of_getElem? hs)
    have hy := hwin (a + d) s (by omega) (by omega) hs
    have hy' := hwin (a + d + 1) s' (by omega) (by omega) hs''
    have hw' := hw.step hM hne hinv1 hy hy' hstep
      (hrs (a + d) s s' (by omega) (by omega) hs hs'')
    exact ⟨hw', ls_lead_step hlM hw' hy' hstep hl⟩

/-- **C16 `cluster_lease_protects`.**  Let `h` be a history of `ClusterSem`, `[a, b]` a window of it,
`cfg` a joint voter configuration with a non-empty half, `M` a joint quorum of `cfg` containing `l`.
Assume that

* **(heartbeats on schedule)** in every state of the window every member of `M` — the leader `l`
  included — is in lease at term `t` (`hlease`, `InLease`);
* **(pre-vote on)** in every state of the window every node outside `M` has `pre_vote` (`hpv`; the
  members of `M` need `check_quorum`, which is part of `InLease`; the nodes outside `M` need no
  `check_quorum`) and every node has the voter configuration `cfg` (`hfix`);
* **(no explicitly requested leadership transfer)** in every state of the window no node has a pending
  transfer, `lead_transferee = None` (`hnt`), and at the start of the window no `MsgTimeoutNow` and no
  vote request with the `CampaignTransfer` context is in the transport or in a queue (part of `Calm`);
* **(restart)** a node restarted inside the window comes back from a storage whose stored term is at
  most `t` (`hrs`; the stored term can exceed the node's term only after `persist_snap` of a snapshot
  of a later term, see the example below);
* **(start of the window)** in the state `h[a]`: `l` leads term `t` (`hlead`); no node is ahead of
  `t` (`hterm0`); every message in the transport and in every node's queue is `Calm` (`hnet0`,
  `hque0`); and no pre-candidate of term `t` outside `M` has already recorded a granted pre-vote of a
  member of `M` (`hvotes0`).

Then in EVERY state of the window `l` is still in the leader role for term `t`, and no node of the
cluster has a term above `t` — whatever the nodes outside `M` and the transport do: partition,
rejoin, any number of (pre-)campaigns, crashes and restarts, any delivery order, loss and
duplication.  (Every member of `M` has term `t` throughout by `hlease`.) -/
theorem C16_cluster_lease_protects (cfg : JointConfig) (hne : cfg.incoming ≠ [] ∨ cfg.outgoing ≠ [])
    (h : List Sys) (hh : History h) (a b t l : Nat) (M : List Nat) (hlM : l ∈ M)
    (hM : IsJointQuorum cfg M)
    (hfix : ∀ n s, a ≤ n → n ≤ b → h[n]? = some s → FixedCfg cfg s)
    (hlease : ∀ n s, a ≤ n → n ≤ b → h[n]? = some s → ∀ j ∈ M, InLease s j t)
    (hpv : ∀ n s, a ≤ n → n ≤ b → h[n]? = some s →
      ∀ i st, s.node i = some st → i ∉ M → st.raft.preVote = true)
    (hnt : ∀ n s, a ≤ n → n ≤ b → h[n]? = some s →
      ∀ i st, s.node i = some st → st.raft.leadTransferee = none)
    (hrs : ∀ n s s', a ≤ n → n < b → h[n]? = some s → h[n + 1]? = some s' →
      ∀ k st, s.node k = some st → IsRestart k s s' → st.raft.raftLog.store.hardState.term ≤ t)
    (s0 : Sys) (h0 : h[a]? = some s0) (hlead : leads s0 l t)
    (hterm0 : ∀ i st, s0.node i = some st → st.raft.term ≤ t)
    (hnet0 : ∀ x ∈ s0.net, Calm t M x)
    (hque0 : ∀ i st, s0.node i = some st → ∀ x ∈ st.raft.msgs, Calm t M x)
    (hvotes0 : ∀ i st, s0.node i = some st → i ∉ M → st.raft.state = .preCandidate →
      st.raft.term = t → ∀ j ∈ M, (j, true) ∉ st.raft.prs.votes) :
    ∀ n s, a ≤ n → n ≤ b → h[n]? = some s →
      leads s l t ∧ ∀ i st, s.node i = some st → st.raft.term ≤ t := by
  intro n s han hnb hs
  have hwin : ∀ n s, a ≤ n → n ≤ b → h[n]? = some s → ls_Hyp t M cfg s := fun n s h1 h2 h3 =>
    ⟨hlease n s h1 h2 h3, hpv n s h1 h2 h3, hnt n s h1 h2 h3, hfix n s h1 h2 h3⟩
  obtain ⟨hw, hl⟩ := lease_window_core cfg hne h hh a b t l M hlM hM hwin hrs s0 h0 hlead
    ⟨hterm0, hnet0, hque0, hvotes0⟩ (n - a) s (by omega) (by rw [show a + (n - a) = n by omega]; exact hs)
  exact ⟨hl, hw.term⟩

/-- … and the transport and every queue stay `Calm` throughout the window: nothing that could
disturb term `t` is ever produced — in particular no member of `M` ever grants a pre-vote for term
`t + 1`, and no `MsgTimeoutNow` / transfer vote request appears -/
theorem C16_cluster_lease_window_calm (cfg : JointConfig) (hne : cfg.incoming ≠ [] ∨ cfg.outgoing ≠ [])
    (h : List Sys) (hh : History h) (a b t l : Nat) (M : List Nat) (hlM : l ∈ M)
    (hM : IsJointQuorum cfg M)
    (hfix : ∀ n s, a ≤ n → n ≤ b → h[n]? = some s → FixedCfg cfg s)
    (hlease : ∀ n s, a ≤ n → n ≤ b → h[n]? = some s → ∀ j ∈ M, InLease s j t)
    (hpv : ∀ n s, a ≤ n → n ≤ b → h[n]? = some s →
      ∀ i st, s.node i = some st → i ∉ M → st.raft.preVote = true)
    (hnt : ∀ n s, a ≤ n → n ≤ b → h[n]? = some s →
      ∀ i st, s.node i = some st → st.raft.leadTransferee = none)
    (hrs : ∀ n s s', a ≤ n → n < b → h[n]? = some s → h[n + 1]? = some s' →
      ∀ k st, s.node k = some st → IsRestart k s s' → st.raft.raftLog.store.hardState.term ≤ t)
    (s0 : Sys) (h0 : h[a]? = some s0) (hlead : leads s0 l t)
    (hterm0 : ∀ i st, s0.node i = some st → st.raft.term ≤ t)
    (hnet0 : ∀ x ∈ s0.net, Calm t M x)
    (hque0 : ∀ i st, s0.node i = some st → ∀ x ∈ st.raft.msgs, Calm t M x)
    (hvotes0 : ∀ i st, s0.node i = some st → i ∉ M → st.raft.state = .preCandidate →
      st.raft.term = t → ∀ j ∈ M, (j, true) ∉ st.raft.prs.votes) :
    ∀ n s, a ≤ n → n ≤ b → h[n]? = some s →
      (∀ x ∈ s.net, Calm t M x) ∧ (∀ i st, s.node i = some st → ∀ x ∈ st.raft.msgs, Calm t M x) := by
  intro n s han hnb hs
  have hwin : ∀ n s, a ≤ n → n ≤ b → h[n]? = some s → ls_Hyp t M cfg s := fun n s h1 h2 h3 =>
    ⟨hlease n s h1 h2 h3, hpv n s h1 h2 h3, hnt n s h1 h2 h3, hfix n s h1 h2 h3⟩
  obtain ⟨hw, _⟩ := lease_window_core cfg hne h hh a b t l M hlM hM hwin hrs s0 h0 hlead
    ⟨hterm0, hnet0, hque0, hvotes0⟩ (n - a) s (by omega) (by rw [show a + (n - a) = n by omega]; exact hs)
  exact ⟨hw.net, hw.que⟩

/-! ### Non-vacuity: a kernel-evaluated window in which node 3 campaigns against a leader in lease -/

section Examples
open RaftProps.C05 (Move Chained chained_history)

def c16x_store : MemStorage := { confState := { voters := [1, 2, 3] } }
def c16x_config (i : Nat) : Config :=
  { id := i, electionTick := 10, heartbeatTick := 1, checkQuorum := true, preVote := true }
def c16x_boot (i : Nat) : NState :=
  match Node.boot (c16x_config i) c16x_store none with
  | .ok (.ok st) => st
  | _ => default
def c16x_stp (st : NState) (op : NodeOp) : NState := c02x_st (Node.call st none op)
def c16x_to (l : List Message) (to : Nat) : Message := (l.filter (fun m => m.to == to)).head!

def c16x_a1 := c16x_stp (c16x_boot 1) .campaign
def c16x_pv12 := c16x_to c16x_a1.raft.msgs 2
def c16x_a2 := c16x_stp c16x_a1 .drain
def c16x_b1 := c16x_stp (c16x_boot 2) (.step c16x_pv12)
def c16x_pvr21 := c16x_to c16x_b1.raft.msgs 1
def c16x_b2 := c16x_stp c16x_b1 .drain
def c16x_a3 := c16x_stp c16x_a2 (.step c16x_pvr21)
def c16x_a4 := c16x_stp c16x_a3 .stabilize
def c16x_rv12 := c16x_to c16x_a4.raft.msgs 2
def c16x_rv13 := c16x_to c16x_a4.raft.msgs 3
def c16x_a5 := c16x_stp c16x_a4 .drain
def c16x_b3 := c16x_stp c16x_b2 (.step c16x_rv12)
def c16x_b4 := c16x_stp c16x_b3 .stabilize
def c16x_vr21 := c16x_to c16x_b4.raft.msgs 1
def c16x_b5 := c16x_stp c16x_b4 .drain
def c16x_c1 := c16x_stp (c16x_boot 3) (.step c16x_rv13)
def c16x_c2 := c16x_stp c16x_c1 .stabilize
def c16x_a6 := c16x_stp c16x_a5 (.step c16x_vr21)
def c16x_app12 := c16x_to c16x_a6.raft.msgs 2
def c16x_a7 := c16x_stp c16x_a6 .drain
def c16x_b6 := c16x_stp c16x_b5 (.step c16x_app12)
def c16x_c3 := c16x_stp c16x_c2 .campaign
def c16x_pv32 := c16x_to (c16x_c3.raft.msgs.filter (fun m => m.msgType == .msgRequestPreVote)) 2
def c16x_pv31 := c16x_to (c16x_c3.raft.msgs.filter (fun m => m.msgType == .msgRequestPreVote)) 1
def c16x_c4 := c16x_stp c16x_c3 .drain
def c16x_b7 := c16x_stp c16x_b6 (.step c16x_pv32)
def c16x_a8 := c16x_stp c16x_a7 (.step c16x_pv31)

def c16x_send (s : Sys) (i : Nat) (st st' : NState) : Sys :=
  { (s.setNode i st') with net := s.net ++ st.raft.msgs }

def c16x_s0 : Sys := { nodes := [(1, c16x_boot 1), (2, c16x_boot 2), (3, c16x_boot 3)], net := [] }
def c16x_s1 := c16x_s0.setNode 1 c16x_a1
def c16x_s2 := c16x_send c16x_s1 1 c16x_a1 c16x_a2
def c16x_s3 := c16x_s2.setNode 2 c16x_b1
def c16x_s4 := c16x_send c16x_s3 2 c16x_b1 c16x_b2
def c16x_s5 := c16x_s4.setNode 1 c16x_a3
def c16x_s6 := c16x_s5.setNode 1 c16x_a4
def c16x_s7 := c16x_send c16x_s6 1 c16x_a4 c16x_a5
def c16x_s8 := c16x_s7.setNode 2 c16x_b3
def c16x_s9 := c16x_s8.setNode 2 c16x_b4
def c16x_s10 := c16x_send c16x_s9 2 c16x_b4 c16x_b5
def c16x_s11 := c16x_s10.setNode 3 c16x_c1
def c16x_s12 := c16x_s11.setNode 3 c16x_c2
def c16x_s13 := c16x_s12.setNode 1 c16x_a6
def c16x_s14 := c16x_send c16x_s13 1 c16x_a6 c16x_a7
def c16x_s15 := c16x_s14.setNode 2 c16x_b6
def c16x_s16 := c16x_s15.setNode 3 c16x_c3
def c16x_s17 := c16x_send c16x_s16 3 c16x_c3 c16x_c4
def c16x_s18 := c16x_s17.setNode 2 c16x_b7
def c16x_s19 := c16x_s18.setNode 1 c16x_a8

theorem c16x_init : Init c16x_s0 := by
  have hb : ∀ k ∈ [1, 2, 3], (match Node.boot (c16x_config k) c16x_store none with
      | .ok (.ok _) => true | _ => false) = true := by decide +kernel
  have hk : ∀ k ∈ [1, 2, 3],
      Node.boot (c16x_config k) c16x_store none = .ok (.ok (c16x_boot k)) := by
    intro k hk
    obtain ⟨x, hx⟩ := c02x_booted (hb k hk)
    unfold c16x_boot; rw [hx]
  refine ⟨rfl, fun i st hn => ?_⟩
  have hm := c02_lookup_mem _ i st hn
  simp only [c16x_s0, List.mem_cons, Prod.mk.injEq, List.not_mem_nil, or_false] at hm
  rcases hm with ⟨rfl, rfl⟩ | ⟨rfl, rfl⟩ | ⟨rfl, rfl⟩
  · exact ⟨c16x_config 1, c16x_store, none, rfl, hk 1 (by decide)⟩
  · exact ⟨c16x_config 2, c16x_store, none, rfl, hk 2 (by decide)⟩
  · exact ⟨c16x_config 3, c16x_store, none, rfl, hk 3 (by decide)⟩

def c16x_hist : List Sys :=
  [c16x_s0, c16x_s1, c16x_s2, c16x_s3, c16x_s4, c16x_s5, c16x_s6, c16x_s7, c16x_s8, c16x_s9, c16x_s10, c16x_s11, c16x_s12, c16x_s13, c16x_s14, c16x_s15, c16x_s16, c16x_s17, c16x_s18, c16x_s19]

def c16x_moves : List Move :=
  [.call 1 (c16x_boot 1) .campaign, .send 1 c16x_a1, .deliver 2 (c16x_boot 2) c16x_pv12,
   .send 2 c16x_b1, .deliver 1 c16x_a2 c16x_pvr21, .call 1 c16x_a3 .stabilize, .send 1 c16x_a4,
   .deliver 2 c16x_b2 c16x_rv12, .call 2 c16x_b3 .stabilize, .send 2 c16x_b4,
   .deliver 3 (c16x_boot 3) c16x_rv13, .call 3 c16x_c1 .stabilize, .deliver 1 c16x_a5 c16x_vr21,
   .send 1 c16x_a6, .deliver 2 c16x_b5 c16x_app12, .call 3 c16x_c2 .campaign, .send 3 c16x_c3,
   .deliver 2 c16x_b6 c16x_pv32, .deliver 1 c16x_a7 c16x_pv31]

theorem c16x_history : History c16x_hist :=
  chained_history [] c16x_s0 (History.init _ c16x_init) _
    (Chained.mono (fun _ _ hc => hc.step) _ (Move.csteps c16x_s0 c16x_moves rfl (by decide +kernel)))

/-! the hypotheses of `C16_cluster_lease_protects` on the window `[15, 19]`, by evaluation -/

def c16x_inLease (s : Sys) (j : Nat) : Bool :=
  match s.node j with
  | some st => decide (st.raft.term = 1) && st.raft.checkQuorum && decide (st.raft.leaderId ≠ 0) &&
      decide (st.raft.electionElapsed < st.raft.electionTimeout)
  | none => false

theorem c16x_inLease_ok {s : Sys} {j : Nat} (h : c16x_inLease s j = true) : InLease s j 1 := by
  unfold c16x_inLease at h
  split at h
  · rename_i st hn
    simp only [Bool.and_eq_true, decide_eq_true_eq] at h
    exact ⟨st, hn, h.1.1.1, h.1.1.2, h.1.2, h.2⟩
  · cases h

def c16x_nodeOk (st : NState) : Bool :=
  decide (st.raft.prs.voters = c02x_cfg) && st.raft.preVote && decide (st.raft.leadTransferee = none) &&
    decide (st.raft.term ≤ 1) && decide (st.raft.raftLog.store.hardState.term ≤ 1)

def c16x_nodesOk (s : Sys) : Bool := s.nodes.all (fun p => c16x_nodeOk p.2)

theorem c16x_nodesOk_ok {s : Sys} (h : c16x_nodesOk s = true) (i : Nat) (st : NState)
    (hn : s.node i = some st) :
    st.raft.prs.voters = c02x_cfg ∧ st.raft.preVote = true ∧ st.raft.leadTransferee = none ∧
    st.raft.term ≤ 1 ∧ st.raft.raftLog.store.hardState.term ≤ 1 := by
  have hm := c02_lookup_mem s.nodes i st hn
  unfold c16x_nodesOk at h
  rw [List.all_eq_true] at h
  have := h _ hm
  unfold c16x_nodeOk at this
  simp only [Bool.and_eq_true, decide_eq_true_eq] at this
  exact ⟨this.1.1.1.1, this.1.1.1.2, this.1.1.2, this.1.2, this.2⟩

def c16x_msgOk (x : Message) : Bool :=
  decide (x.term ≤ 1) && (x.msgType != .msgTimeoutNow) && decide (x.context ≠ campaignTransfer)

theorem c16x_msgOk_ok {x : Message} (h : c16x_msgOk x = true) : Calm 1 [1, 2] x := by
  unfold c16x_msgOk at h
  simp only [Bool.and_eq_true, decide_eq_true_eq, bne_iff_ne, ne_eq] at h
  exact ⟨Or.inl h.1.1, h.1.2, fun _ => h.2⟩

def c16x_startOk (s : Sys) : Bool :=
  s.net.all c16x_msgOk &&
    s.nodes.all (fun p => p.2.raft.msgs.all c16x_msgOk && (p.2.raft.state != .preCandidate))

theorem c16x_window (n : Nat) (s : Sys) (h1 : 15 ≤ n) (hs : c16x_hist[n]? = some s) :
    s ∈ c16x_hist.drop 15 := by
  apply List.mem_of_getElem? (i := n - 15)
  rw [List.getElem?_drop, Nat.add_sub_cancel' h1, hs]

theorem c16x_window_ok : ∀ s ∈ c16x_hist.drop 15,
    c16x_nodesOk s = true ∧ c16x_inLease s 1 = true ∧ c16x_inLease s 2 = true := by
  decide +kernel

theorem c16x_start_ok : c16x_startOk c16x_s15 = true := by decide +kernel

/-- **non-vacuity of `C16_cluster_lease_protects`**: a history of `ClusterSem` over three nodes with
`pre_vote` and `check_quorum` on (voters `{1, 2, 3}`).  States 0–15: node 1 wins a pre-vote and an
election for term 1 with the vote of node 2 (node 3 votes too and learns term 1) and replicates its
first entry to node 2, which is then in lease.  Window `[15, 19]`, `M = {1, 2}`, `l = 1`, `t = 1`:
node 3 calls `campaign`, becomes a pre-candidate of term 1 and sends pre-vote requests of term 2,
which are delivered to node 2 and to the leader.  All hypotheses hold; the theorem gives: node 1
leads term 1 and nobody is beyond term 1 in every state of the window. -/
theorem C16_cluster_lease_nonvacuous :
    ∀ n s, 15 ≤ n → n ≤ 19 → c16x_hist[n]? = some s →
      leads s 1 1 ∧ ∀ i st, s.node i = some st → st.raft.term ≤ 1 := by
  have hq : IsJointQuorum c02x_cfg [1, 2] := by
    unfold IsJointQuorum IsQuorum; decide
  have hwin := fun n s h1 (_ : n ≤ 19) hs => c16x_window_ok s (c16x_window n s h1 hs)
  have hstart := c16x_start_ok
  unfold c16x_startOk at hstart
  simp only [Bool.and_eq_true, List.all_eq_true, bne_iff_ne, ne_eq] at hstart
  refine C16_cluster_lease_protects c02x_cfg (Or.inl (by decide)) c16x_hist c16x_history 15 19 1 1 [1, 2]
    (by simp) hq ?_ ?_ ?_ ?_ ?_ c16x_s15 rfl ⟨c16x_a7, rfl, by decide +kernel⟩ ?_ ?_ ?_ ?_
  · intro n s h1 h2 hs i st hn
    exact (c16x_nodesOk_ok (hwin n s h1 h2 hs).1 i st hn).1
  · intro n s h1 h2 hs j hj
    simp only [List.mem_cons, List.not_mem_nil, or_false] at hj
    rcases hj with rfl | rfl
    · exact c16x_inLease_ok (hwin n s h1 h2 hs).2.1
    · exact c16x_inLease_ok (hwin n s h1 h2 hs).2.2
  · intro n s h1 h2 hs i st hn _
    exact (c16x_nodesOk_ok (hwin n s h1 h2 hs).1 i st hn).2.1
  · intro n s h1 h2 hs i st hn
    exact (c16x_nodesOk_ok (hwin n s h1 h2 hs).1 i st hn).2.2.1
  · intro n s s' h1 h2 hs _ k st hn _
    exact (c16x_nodesOk_ok (hwin n s h1 (by omega) hs).1 k st hn).2.2.2.2
  · intro i st hn
    exact (c16x_nodesOk_ok (c16x_window_ok _ (by simp [c16x_hist])).1 i st hn).2.2.2.1
  · intro x hx
    exact c16x_msgOk_ok (hstart.1 x hx)
  · intro i st hn x hx
    exact c16x_msgOk_ok ((hstart.2 _ (c02_lookup_mem _ i st hn)).1 x hx)
  · intro i st hn _ hpc
    exact absurd hpc (hstart.2 _ (c02_lookup_mem _ i st hn)).2


/-- … and the campaign of node 3 did take place inside the window: in state 16 node 3 is a
pre-candidate of term 1 with only its own pre-vote; its pre-vote requests of term 2 are in the transport
from state 17 on; node 2 (state 18) and the leader (state 19) were offered them and queued no answer -/
theorem c16x_disruption :
    c16x_c3.raft.state = .preCandidate ∧ c16x_c3.raft.term = 1 ∧ c16x_c3.raft.prs.votes = [(3, true)] ∧
    c16x_pv32 ∈ c16x_s17.net ∧ c16x_pv31 ∈ c16x_s17.net ∧
    c16x_pv32.msgType = .msgRequestPreVote ∧ c16x_pv32.term = 2 ∧ c16x_pv32.frm = 3 ∧ c16x_pv32.to = 2 ∧
    c16x_pv31.msgType = .msgRequestPreVote ∧ c16x_pv31.term = 2 ∧ c16x_pv31.frm = 3 ∧ c16x_pv31.to = 1 ∧
    c16x_b7.raft.msgs = c16x_b6.raft.msgs ∧ c16x_a8.raft.msgs = c16x_a7.raft.msgs := by
  decide +kernel


/-! ### Why `hrs` is there: a restart can come back ahead of the node's own term

`persist_snap` of a snapshot whose term is later than the node's term raises the *stored* term
(`MemStorage::apply_snapshot` writes `max(term, snapshot term)`) while the in-memory term stays; a
crash and restart then rebuilds the node at the stored term.  (The node of `C02c`: follower of term 2
holding a pending snapshot of term 7.)  With `t = 2` this node — outside `M` — would be at term 7
after its restart without any vote: the hypothesis `hrs` excludes exactly this. -/

set_option maxRecDepth 100000 in
example :
    let p1 := c02x_st (Node.call c02x_snapNode none .persistSnap)
    c02x_ok (Node.call c02x_snapNode none .persistSnap) = true ∧
    (p1.raft.term, p1.raft.raftLog.store.hardState.term) = (2, 7) ∧
    (match Node.boot (c16x_config 2) p1.raft.raftLog.store none with
      | .ok (.ok st) => st.raft.term
      | _ => 0) = 7 := by
  decide +kernel

/-! ### Why the start conditions on pre-vote grants are there (`hnet0`, `hque0`, `hvotes0`)

Same cluster, but node 3 pre-campaigns *before* node 2 has heard from the new leader: node 2 (term 1,
`leader_id = 0`, not in lease) grants the pre-vote of term 2.  Then node 2 receives the leader's append
and is in lease — a window could start here —, and the grant, still in flight, reaches node 3, which
now has a pre-vote quorum `{3, 2}` and starts a real election at term 2.  `Calm` excludes exactly such
a message (a granted pre-vote response of term `t + 1` from a member of `M`) at the start of the
window; inside the window no member of `M` produces one (`C16_cluster_lease_window_calm`). -/

set_option maxRecDepth 100000 in
example :
    let b5g := c16x_stp c16x_b5 (.step c16x_pv32)
    let grant := c16x_to (b5g.raft.msgs.filter (fun m => m.msgType == .msgRequestPreVoteResponse)) 3
    let b6g := c16x_stp (c16x_stp b5g .drain) (.step c16x_app12)
    let c5 := c16x_stp c16x_c4 (.step grant)
    (grant.msgType, grant.reject, grant.term, grant.frm, grant.to) =
      (.msgRequestPreVoteResponse, false, 2, 2, 3) ∧
    (b6g.raft.term, b6g.raft.leaderId, b6g.raft.checkQuorum, b6g.raft.electionElapsed) = (1, 1, true, 0) ∧
    (c16x_c4.raft.state, c16x_c4.raft.term) = (.preCandidate, 1) ∧
    (c5.raft.state, c5.raft.term) = (.candidate, 2) := by
  decide +kernel

/-! ### "… except an explicitly requested leadership transfer" (`hnt`, and `Calm` on `MsgTimeoutNow` / the
transfer context)

From the first state of the window: the leader processes node 2's append response, the application
calls `transfer_leader(2)`; the leader records `lead_transferee = Some(2)` — which `hnt` excludes — and,
node 2 being caught up, sends `MsgTimeoutNow`; node 2, *in lease*, campaigns at once for term 2
(no pre-vote) with vote requests carrying the `CampaignTransfer` context, which the lease does not
stop: the leader steps down to term 2. -/

set_option maxRecDepth 100000 in
example :
    let ar21 := c16x_to c16x_b6.raft.msgs 1
    let a7t := c16x_stp (c16x_stp c16x_a7 (.step ar21)) (.transferLeader 2)
    let tn := c16x_to (a7t.raft.msgs.filter (fun m => m.msgType == .msgTimeoutNow)) 2
    let b6t := c16x_stp (c16x_stp c16x_b6 .drain) (.step tn)
    let rvt := c16x_to (b6t.raft.msgs.filter (fun m => m.msgType == .msgRequestVote)) 1
    let a7x := c16x_stp (c16x_stp a7t .drain) (.step rvt)
    a7t.raft.leadTransferee = some 2 ∧ (tn.msgType, tn.term, tn.to) = (.msgTimeoutNow, 1, 2) ∧
    (b6t.raft.state, b6t.raft.term) = (.candidate, 2) ∧
    (rvt.msgType, rvt.term) = (.msgRequestVote, 2) ∧ rvt.context = campaignTransfer ∧
    (a7x.raft.state, a7x.raft.term) = (.follower, 2) := by
  decide +kernel

end Examples

end RaftProps.C16
