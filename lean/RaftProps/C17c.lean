import RaftProofs.ClusterXferD
import RaftProps.C01d

/-!
# C17c — leadership transfer, cluster level (`ClusterSem`)

`RaftProps/C17.lean` proves, for ONE call on ONE node, that a leader queues a `MsgTimeoutNow` only for a
peer whose progress has `matched = last_index`.  Here the statement is lifted to every history of the
cluster semantics `RaftModel/Cluster.lean` (nodes that move only through `Node.call`, a lossy /
duplicating / reordering transport, crashes and restarts) under the hypotheses of the commit layer
(`Hyp3w`, `RaftProofs/ClusterCommitHyp.lean`; the weaker `Hyp` where it suffices):

* `C17_cluster_timeout_now_target_caught_up` — every `MsgTimeoutNow` in the transport or in a queue, in
  every state of the history, was queued by its sender `L` while `L` led the message's term `t`, at a
  point `h[n0]` at which `L`'s progress for the addressee `j` had `matched = last_index`; and that
  `matched` is backed: an accepting `MsgAppendResponse` of `j` for term `t` that covers `L`'s last index
  is in the transport at `h[n0]`, `j` queued it at some `h[n1]`, `n1 ≤ n0`, in term `t` with a log that
  held **the whole of `L`'s log** (as it is at `h[n0]`), and the **storage** of `j` holds the whole of
  `L`'s log in every state in which that response is in the transport and `j`'s stored term is `t`
  (`…_storage`: in particular in the state in which the `MsgTimeoutNow` is delivered, if `j` is still in
  term `t`).  The unconditional "the storage of `j` held it at some point" is **false** for
  `ClusterSem`: a follower may acknowledge in memory, be truncated by a leader of a later term before it
  persists, and then persist and send both responses (finding of `C01c.REPORT.md`); the stale leader
  `L` then counts an acknowledgement whose entries never reached `j`'s storage —
  `C17_cluster_timeout_now_target_storage_conditional` is such a history, kernel-evaluated, under `Hyp3w`.
* `C17_cluster_timeout_now_target_caught_up_partial` — the `matched = last_index` half under the
  weaker bundle `Hyp` (no `nolone`, `shape`, `initc`, `snapt0`).
* `C17_cluster_transfer_winner_holds_committed` — Leader Completeness for the transfer: if the
  addressee of a `MsgTimeoutNow` of term `t` leads a term `t' > t` anywhere in the history, it holds
  every entry that a leader of a term `≤ t` (in particular the old leader) has committed anywhere in the
  history.
* `C17_cluster_one_leader_per_term` — Election Safety for the transfer: the old leader and the
  transferee are never both leader of the same term, and the transferee never leads the term of the
  `MsgTimeoutNow`.
* `C17_cluster_transfer_nonvacuous` — a 25-state kernel-evaluated history satisfying `Hyp3w` in which
  `transfer_leader(2)` makes leader 1 queue a `MsgTimeoutNow` for the caught-up node 2, the message is in
  the transport, node 2 campaigns on receiving it and wins term 2.

Proof: `RaftProofs/ClusterXferA.lean` (`XF.call_tn`: what one `Node.call` — every `NodeOp` — does to the
`MsgTimeoutNow`s of the queue, from `RaftProps.C17.step_tn`), `ClusterXferB.lean` (`tn_prov` by the
provenance induction of the commit layer; `matched_backed` from the invariants `MOKc`, `ack_inv`,
`ack_prov`, `Sm.a2m`, `Sm.a2s`, `ll_eq`), `ClusterXferC.lean` (the example), `ClusterXferD.lean` (the five-node history of
`C17_cluster_timeout_now_target_storage_conditional`).
-/
namespace RaftProps.C17c
open RaftModel RaftModel.Cluster RaftModel.Node

/-- **C17 `cluster_timeout_now_target_caught_up`, the `matched = last_index` half** (under `Hyp`: a
history of `ClusterSem` with a fixed voter configuration, `KStep`s, no batching, no snapshot traffic).
In every state `h[n]`, every `MsgTimeoutNow` `x` in the transport or in some node's queue was queued by
its sender `x.from` at an earlier-or-equal point `h[n0]` at which that node was leader of term `x.term`
and its progress for `x.to` had `matched = last_index` of its log. -/
theorem C17_cluster_timeout_now_target_caught_up_partial (cfg : JointConfig) (h : List Sys)
    (H : Hyp cfg h) (n : Nat) (s : Sys) (hn : h[n]? = some s) (x : Message)
    (hx : x ∈ s.net ∨ ∃ i st, s.node i = some st ∧ x ∈ st.raft.msgs)
    (hty : x.msgType = .msgTimeoutNow) :
    ∃ (n0 : Nat) (s0 : Sys) (stL : NState) (pr : Progress), n0 ≤ n ∧ h[n0]? = some s0 ∧
      s0.node x.frm = some stL ∧ stL.raft.state = .leader ∧ stL.raft.term = x.term ∧
      stL.raft.prs.get x.to = some pr ∧ pr.matched = stL.raft.raftLog.lastIndex :=
  tn_source (.of_hyp H) hn hx hty

/-- **C17 `cluster_timeout_now_target_caught_up`** (property text: *"A leader tells a transfer target to
campaign immediately only once the target has acknowledged the leader's entire log"*).  In every state
`h[n]` of a history under `Hyp3w`, for every `MsgTimeoutNow` `x` in the transport or in a queue there is
a point `n0 ≤ n` at which `L = x.from` was leader of term `t = x.term` with `matched = last_index` for
`j = x.to`, and — unless the leader's log is empty above the common snapshot point `c0`, or `j = L` (then
`last_index ≤ persisted`) — an accepting `MsgAppendResponse` `a` of `j` for term `t` with
`index ≥ last_index` is in the transport at `h[n0]` such that

* `j` queued `a` at some `h[n1]`, `n1 ≤ n0`, being in term `t`, **with a log equal to `L`'s log (of
  `h[n0]`) at every index up to `L`'s last index** — the whole of the leader's log;
* in every state of the history whose transport holds `a` and in which the **stored** term of `j` is
  `t`, the **storage** of `j` equals `L`'s log at every index up to `L`'s last index. -/
theorem C17_cluster_timeout_now_target_caught_up (cfg : JointConfig) (c0 : Nat) (h : List Sys)
    (H : Hyp3w cfg c0 h) (n : Nat) (s : Sys) (hn : h[n]? = some s) (x : Message)
    (hx : x ∈ s.net ∨ ∃ i st, s.node i = some st ∧ x ∈ st.raft.msgs)
    (hty : x.msgType = .msgTimeoutNow) :
    ∃ (n0 : Nat) (s0 : Sys) (stL : NState) (pr : Progress), n0 ≤ n ∧ h[n0]? = some s0 ∧
      s0.node x.frm = some stL ∧ stL.raft.state = .leader ∧ stL.raft.term = x.term ∧
      stL.raft.prs.get x.to = some pr ∧ pr.matched = stL.raft.raftLog.lastIndex ∧
      (stL.raft.raftLog.lastIndex ≤ c0 ∨
       (x.to = x.frm ∧ stL.raft.raftLog.lastIndex ≤ stL.raft.raftLog.persisted) ∨
       ∃ a ∈ s0.net, a.msgType = .msgAppendResponse ∧ a.reject = false ∧ a.frm = x.to ∧
        a.term = x.term ∧ stL.raft.raftLog.lastIndex ≤ a.index ∧
        (∃ (n1 : Nat) (s1 : Sys) (stj : NState), n1 ≤ n0 ∧ h[n1]? = some s1 ∧
          s1.node x.to = some stj ∧ a ∈ stj.raft.msgs ∧ stj.raft.term = x.term ∧
          ∀ k, k ≤ stL.raft.raftLog.lastIndex →
            stj.raft.raftLog.abs.entryAt k = stL.raft.raftLog.abs.entryAt k) ∧
        (∀ (m : Nat) (s' : Sys) (stj : NState), h[m]? = some s' → a ∈ s'.net →
          s'.node x.to = some stj → stj.raft.raftLog.store.hardState.term = x.term →
          ∀ k, k ≤ stL.raft.raftLog.lastIndex →
            (storeLog stj.raft.raftLog.store).entryAt k = stL.raft.raftLog.abs.entryAt k)) := by
  obtain ⟨n0, s0, stL, pr, hle, hn0, hL, hs, ht, hg, hm⟩ :=
    tn_source (.of_hyp H.toHyp2w.toHyp) hn hx hty
  refine ⟨n0, s0, stL, pr, hle, hn0, hL, hs, ht, hg, hm, ?_⟩
  rcases matched_backed (.of_hyp3w H) hn0 hL hs hg hm with c | c | ⟨a, a1, a2, a3, a4, a5, a6, a7, a8⟩
  · exact .inl c
  · exact .inr (.inl c)
  · rw [ht] at a5 a7 a8
    exact .inr (.inr ⟨a, a1, a2, a3, a4, a5, a6, a7, a8⟩)

/-- … in particular **when the `MsgTimeoutNow` is delivered**: in the state `h[n]` whose transport holds
the `MsgTimeoutNow` `x` (of leader `L ≠ j`, term `t`), if the stored term of the addressee `j` is still
`t`, then the **storage** of `j` holds the whole log that `L` had when it queued `x`. -/
theorem C17_cluster_timeout_now_target_storage (cfg : JointConfig) (c0 : Nat) (h : List Sys)
    (H : Hyp3w cfg c0 h) (n : Nat) (s : Sys) (hn : h[n]? = some s) (x : Message)
    (hx : x ∈ s.net ∨ ∃ i st, s.node i = some st ∧ x ∈ st.raft.msgs)
    (hty : x.msgType = .msgTimeoutNow) (hne : x.to ≠ x.frm) :
    ∃ (n0 : Nat) (s0 : Sys) (stL : NState), n0 ≤ n ∧ h[n0]? = some s0 ∧
      s0.node x.frm = some stL ∧ stL.raft.state = .leader ∧ stL.raft.term = x.term ∧
      ∀ stj, s.node x.to = some stj → stj.raft.raftLog.store.hardState.term = x.term →
        ∀ k, k ≤ stL.raft.raftLog.lastIndex →
          (storeLog stj.raft.raftLog.store).entryAt k = stL.raft.raftLog.abs.entryAt k := by
  obtain ⟨n0, s0, stL, pr, hle, hn0, hL, hs, ht, _, _, hb⟩ :=
    C17_cluster_timeout_now_target_caught_up cfg c0 h H n s hn x hx hty
  refine ⟨n0, s0, stL, hle, hn0, hL, hs, ht, fun stj hj hst k hk => ?_⟩
  have H2 := H.toHyp2w
  rcases hb with c | ⟨c, _⟩ | ⟨a, ha, _, _, _, _, _, _, hdur⟩
  · have o1 := node_ok H2 hn hj
    have o2 := node_ok H2 hn0 hL
    unfold LLog.entryAt
    rw [if_pos (by rw [o1.ssnap]; omega), if_pos (by rw [o2.snapIdx]; omega)]
  · exact absurd c hne
  · exact hdur n s stj hn (hist_net_mono H2.hist hn0 hn hle a ha) hj hst k hk

/-- **C17 `cluster_transfer_winner_holds_committed`** (property text: *"when a transfer completes … the
target leads a higher term holding every committed entry"*).  Let `x` be a `MsgTimeoutNow` of term `t`
found anywhere in the history.  If its addressee `j = x.to` is leader of a term `t' > t` in any state
`h[m]`, then `j` holds, at every index up to the committed one, the entries of every commit step
`h[nc] → h[nc+1]` of a leader of a term `≤ t` — in particular everything the old leader `x.from` (which
did lead `t`, first conjunct) ever committed.  An application of Leader Completeness
(`C03_cluster_leader_completeness`). -/
theorem C17_cluster_transfer_winner_holds_committed (cfg : JointConfig) (c0 : Nat) (h : List Sys)
    (H : Hyp3w cfg c0 h) (n : Nat) (s : Sys) (hn : h[n]? = some s) (x : Message)
    (hx : x ∈ s.net ∨ ∃ i st, s.node i = some st ∧ x ∈ st.raft.msgs)
    (hty : x.msgType = .msgTimeoutNow)
    (m : Nat) (sm : Sys) (hm : h[m]? = some sm) (stj : NState) (hj : sm.node x.to = some stj)
    (hsj : stj.raft.state = .leader) (htj : x.term < stj.raft.term) :
    (∃ n0 s0, n0 ≤ n ∧ h[n0]? = some s0 ∧ leads s0 x.frm x.term) ∧
    ∀ (nc : Nat) (a b : Sys) (l : Nat) (sta stb : NState), h[nc]? = some a →
      h[nc + 1]? = some b → a.node l = some sta → b.node l = some stb →
      stb.raft.state = .leader → stb.raft.term ≤ x.term →
      sta.raft.raftLog.committed < stb.raft.raftLog.committed →
      ∀ k, k ≤ stb.raft.raftLog.committed →
        stj.raft.raftLog.abs.entryAt k = stb.raft.raftLog.abs.entryAt k := by
  obtain ⟨n0, s0, stL, _, hle, hn0, hL, hs, ht, _, _⟩ := tn_source (.of_hyp H.toHyp2w.toHyp) hn hx hty
  refine ⟨⟨n0, s0, hle, hn0, stL, hL, hs, ht⟩, ?_⟩
  intro nc a b l sta stb ha hb hla hlb hsl htl hc
  exact RaftProps.C01d.C03_cluster_leader_completeness cfg c0 h H nc a b ha hb l sta stb hla hlb hsl
    hc m sm hm x.to stj hj hsj (Nat.lt_of_le_of_lt htl htj)

/-- **C17 `cluster_one_leader_per_term`** (Election Safety, `C02_cluster_election_safety`, for the
transfer): for a `MsgTimeoutNow` `x` found anywhere in the history with `x.to ≠ x.from`, the old leader
`x.from` and the transferee `x.to` are never both leader of the same term (in any two states of the
history), and the transferee never leads the term `x.term` of the message — that term was led by
`x.from`. -/
theorem C17_cluster_one_leader_per_term (cfg : JointConfig) (h : List Sys) (H : Hyp cfg h)
    (n : Nat) (s : Sys) (hn : h[n]? = some s) (x : Message)
    (hx : x ∈ s.net ∨ ∃ i st, s.node i = some st ∧ x ∈ st.raft.msgs)
    (hty : x.msgType = .msgTimeoutNow) (hne : x.to ≠ x.frm) :
    (∀ s1 ∈ h, ∀ s2 ∈ h, ∀ T, leads s1 x.frm T → ¬ leads s2 x.to T) ∧
    (∀ s2 ∈ h, ¬ leads s2 x.to x.term) := by
  have es := RaftProps.C02.C02_cluster_election_safety cfg H.ne H.nd1 H.nd2 h H.hist H.fix
  refine ⟨fun s1 h1 s2 h2 T hl1 hl2 => hne (es s1 s2 h1 h2 x.frm x.to T hl1 hl2).symm, ?_⟩
  intro s2 h2 hl2
  obtain ⟨n0, s0, stL, _, _, hn0, hL, hs, ht, _, _⟩ := tn_source (.of_hyp H) hn hx hty
  exact hne (es s0 s2 (mem_of_get hn0) h2 x.frm x.to x.term ⟨stL, hL, hs, ht⟩ hl2).symm

/-! ## Non-vacuity: a completed transfer (kernel-evaluated, `RaftProofs/ClusterXferC.lean`) -/

section Examples
open RaftProps.C02

/-- **non-vacuity**: there is a history of `ClusterSem` that satisfies `Hyp3w` (voters `{1, 2, 3}`,
`c0 = 0`) in which the application of leader 1 (term 1) calls `transfer_leader(2)` for the caught-up
follower 2 (`matched = last_index = 1`) and the call queues a `MsgTimeoutNow` for node 2; the message
**is in the transport** of `h[16]`; the step `h[16] → h[17]` delivers it to node 2, which campaigns
(candidate of term 2); and in the last state `h[24]` node 2 leads term 2. -/
theorem C17_cluster_transfer_nonvacuous :
    ∃ h : List Sys, Hyp3w c02x_cfg 0 h ∧
      ∃ (a b c d e : Sys) (sta stb stc std ste : NState) (pr : Progress) (x : Message),
        h[14]? = some a ∧ h[15]? = some b ∧ h[16]? = some c ∧ h[17]? = some d ∧ h[24]? = some e ∧
        a.node 1 = some sta ∧ b.node 1 = some stb ∧ c.node 2 = some stc ∧ d.node 2 = some std ∧
        e.node 2 = some ste ∧
        -- the transfer request at the caught-up leader queues the `MsgTimeoutNow`
        sta.raft.state = .leader ∧ sta.raft.term = 1 ∧ sta.raft.prs.get 2 = some pr ∧
        pr.matched = sta.raft.raftLog.lastIndex ∧ sta.raft.raftLog.lastIndex = 1 ∧
        (∃ res, Node.call sta none (.transferLeader 2) = .ok (res, stb)) ∧
        x ∉ sta.raft.msgs ∧ x ∈ stb.raft.msgs ∧
        -- it is in the transport
        x ∈ c.net ∧ x.msgType = .msgTimeoutNow ∧ x.frm = 1 ∧ x.to = 2 ∧ x.term = 1 ∧
        -- it is delivered and the target campaigns
        (∃ res, Node.call stc none (.step x) = .ok (res, std)) ∧
        stc.raft.state = .follower ∧ stc.raft.term = 1 ∧
        std.raft.state = .candidate ∧ std.raft.term = 2 ∧
        -- and wins
        ste.raft.state = .leader ∧ ste.raft.term = 2 :=
  have ⟨_, ⟨l1, l2, l3, l4, l5, lok, lnew, lne⟩, ⟨x1, x2, x3, x4⟩, ⟨dok, d1, d2, d3, d4, d5, d6⟩, _⟩ :=
    c17x_eval
  ⟨c17x_hist, c17x_hyp3w, c01x_s14, c17x_s15, c17x_s16, c17x_s17, c17x_s24,
    c01x_a8, c17x_a9, c01x_b6, c17x_b7, c17x_b11, (c01x_a8.raft.prs.get 2).get!, c17x_tn,
    rfl, rfl, rfl, rfl, rfl, rfl, rfl, rfl, rfl, rfl,
    l1, l2, l3, l4, l5, ⟨_, c02x_out _ lok⟩, lnew, tail_head_mem _ lne,
    List.mem_append_right _ (tail_head_mem _ lne), x1, x2, x3, x4, ⟨_, c02x_out _ dok⟩,
    d1, d2, d3, d4, d5, d6⟩

/-- … and the theorems apply to it: the `MsgTimeoutNow` in the transport of `h[16]` has a source -/
example : ∃ (n0 : Nat) (s0 : Sys) (stL : NState) (pr : Progress), n0 ≤ 16 ∧
    c17x_hist[n0]? = some s0 ∧ s0.node c17x_tn.frm = some stL ∧ stL.raft.state = .leader ∧
    stL.raft.term = c17x_tn.term ∧ stL.raft.prs.get c17x_tn.to = some pr ∧
    pr.matched = stL.raft.raftLog.lastIndex :=
  C17_cluster_timeout_now_target_caught_up_partial c02x_cfg c17x_hist c17x_hyp3w.toHyp2w.toHyp 16
    c17x_s16 rfl c17x_tn (.inl (List.mem_append_right _ (tail_head_mem _ c17x_eval.2.1.2.2.2.2.2.2.2)))
    c17x_eval.2.2.1.1

/-- … and the winner of the transfer (node 2, leader of term 2 in `h[24]`) holds the entry that node 1
committed in term 1 by the step `h[13] → h[14]` -/
example (k : Nat) (hk : k ≤ c01x_a8.raft.raftLog.committed) :
    c17x_b11.raft.raftLog.abs.entryAt k = c01x_a8.raft.raftLog.abs.entryAt k :=
  have ⟨l1, l2, _, _, _, _, _, lne⟩ := c17x_eval.2.1
  have ⟨x1, _, x3, x4⟩ := c17x_eval.2.2.1
  have ⟨_, _, _, _, _, d5, d6⟩ := c17x_eval.2.2.2.1
  (C17_cluster_transfer_winner_holds_committed c02x_cfg 0 c17x_hist c17x_hyp3w 16 c17x_s16 rfl
    c17x_tn (.inl (List.mem_append_right _ (tail_head_mem _ lne))) x1
    24 c17x_s24 rfl c17x_b11 (by rw [x3]; rfl) d5 (by rw [x4, d6]; decide)).2
    13 c01x_s13 c01x_s14 1 c01x_a7 c01x_a8 rfl rfl rfl rfl l1 (by rw [l2, x4]; decide)
    c17x_eval.2.2.2.2 k hk

/-- **the durable half of `C17_cluster_timeout_now_target_caught_up` cannot be unconditional**
(kernel-evaluated, `RaftProofs/ClusterXferD.lean`): there is a history of `ClusterSem` satisfying `Hyp3w`
(five voters, `c0 = 0`) with a `MsgTimeoutNow` of leader 1 (term 1) for node 2 **in the transport**,
queued while node 1 led term 1 with `matched = last_index = 1` for node 2 and the entry `(1, term 1)` at
its last index — and **in no state of the history does the storage of node 2 hold an entry of term 1 at
index 1**.  (Node 2 acknowledged `(1, term 1)` in memory, was truncated by the leader of term 2 before it
persisted, then persisted `(1, term 2)` and sent both acknowledgements; node 1 never heard of term 2.)
So "the storage of the target held the leader's last entry at some point" is false without the premise
"the stored term of the target is the leader's term". -/
theorem C17_cluster_timeout_now_target_storage_conditional :
    ∃ (cfg : JointConfig) (h : List Sys), Hyp3w cfg 0 h ∧
      ∃ (n n0 : Nat) (s s0 : Sys) (x : Message) (stL : NState) (pr : Progress) (e : Entry),
        h[n]? = some s ∧ x ∈ s.net ∧ x.msgType = .msgTimeoutNow ∧ x.frm = 1 ∧ x.to = 2 ∧
        x.term = 1 ∧ n0 ≤ n ∧ h[n0]? = some s0 ∧ s0.node 1 = some stL ∧
        stL.raft.state = .leader ∧ stL.raft.term = 1 ∧ stL.raft.prs.get 2 = some pr ∧
        pr.matched = stL.raft.raftLog.lastIndex ∧ stL.raft.raftLog.lastIndex = 1 ∧
        stL.raft.raftLog.abs.entryAt 1 = some e ∧ e.term = 1 ∧
        ∀ s' ∈ h, ∀ stj, s'.node 2 = some stj →
          ∀ e', (storeLog stj.raft.raftLog.store).entryAt 1 = some e' → e'.term ≠ 1 :=
  have ⟨⟨hne, x1, x2, x3, x4⟩, l1, l2, l3, l4, l5, l6, l7⟩ := c17y_eval.2.2
  ⟨c17y_cfg, c17y_hist, c17y_hyp3w, 33, 32, c17y_s33, c17y_s32, c17y_tn, c17y_a9,
    (c17y_a9.raft.prs.get 2).get!, (c17y_a9.raft.raftLog.abs.entryAt 1).get!,
    rfl, List.mem_append_right _ (tail_head_mem _ hne), x1, x2, x3, x4, by decide, rfl, rfl,
    l1, l2, l3, l4, l5, l6, l7, c17y_never_stored⟩

end Examples

end RaftProps.C17c
