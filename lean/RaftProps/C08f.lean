import RaftProofs.ClusterRead4R

/-!
# C08, cluster level — Safe ReadIndex for FORWARDED reads (`ClusterSem`): the end-to-end theorem

`RaftProps/C08c.lean` proves Safe-ReadIndex linearizability for reads issued AT THE LEADER (bundle `RdHyp`,
whose fields `nori` / `norir` exclude forwarded reads); `RaftProps/C08e.lean` states the bundle for forwarded
reads, `RdHypF cfg c0 h` (`Hyp3w`, `safe`, `once`: one `MsgReadIndex` value is delivered at most once,
`uniqc` / `nonempty`: unique non-empty contexts over ALL `read_index` calls) and proves two halves.

This file proves the end-to-end statement **under `RdHypF` itself — no hypothesis is added**:

* `C08_cluster_forwarded_read_index_safe`: if the step `h[n] → h[n+1]` is a `read_index(ctx)` call on
  follower `f` that forwards the request (`FwdAt h n f ctx`) and a `ReadState` with `request_ctx = ctx`
  sits in the read states of any node `j` in any state `h[m]`, then `j = f`, `n < m`, and the index of the
  read state is at least the commit index of EVERY node in `h[n]`.

The proof (helpers `RaftProofs/ClusterRead4A–4O.lean`; see `C08f.REPORT.md`):
1. the per-call read layer (`ClusterReadOps`, `ClusterRead4A–4H`, namespace `RD.R4`), in which the
   projection `rdT` covers `MsgReadIndex` / `MsgReadIndexResp` as well as the heartbeats and their
   responses, and `RInv` / `ROut` carry a clause `RirOk` for every queued `MsgReadIndexResp` (`index` /
   `entries` / `to` of a request that was pending, released by a joint quorum of acknowledgements for a
   request not before it in the queue);
2. generalised registration `R4.Reg` (= `RegAt ∨ FwdRegAt`) and the cluster invariants `pend_ok`,
   `occ_issued`, `hbr_floor`, `tgt_inv`, `quorum_no_higher` over it (`4I–4M`);
3. provenance of `MsgReadIndex` (`ri_prov`: context of a `FwdAt` call of the node named in `from`) and of
   `MsgReadIndexResp` (`rir_prov`: queued by a call that released a pending request), and of pending
   requests (`pend_src`);
4. **`once` + `uniqc` ⇒ a context is registered at most once in the whole cluster**
   (`C08_cluster_forwarded_unique_registration`, `4O`: the `MsgReadIndex` values carrying one context form
   a chain in which at most one value is undelivered, and none once the context has been registered);
5. the assembly (`4N`).

**Non-vacuity** (`C08_cluster_forwarded_nonvacuous`, `4P–4R`): a 24-state kernel-evaluated history that
satisfies the WHOLE bundle `RdHypF` — `once` / `uniqc` / `nonempty` included — in which follower 2
forwards `read_index([9])` (step 14), leader 1 registers it (step 16), answers it, and node 2 ends with the
read state `([9], 1)`; the theorem applies to it.
-/
namespace RaftProps.C08
open RaftModel RaftModel.Cluster RaftModel.Node
open RaftProps.C02

/-- **C08 `cluster_forwarded_read_index_safe`** — Safe ReadIndex is linearizable for reads forwarded by a
follower.

Let the step `h[n] → h[n+1]` be a `read_index(ctx)` call on node `f`, a follower with a known leader,
which queues a `MsgReadIndex` carrying `ctx` (`FwdAt`).  If in any state `h[m]` of the history a
`ReadState` with `request_ctx = ctx` sits in the read states of some node `j`, then `j = f`, `n < m`, and
`x.index` is at least the commit index of **every** node in `h[n]` — the highest commit index any node
had reached when the request was issued.  Hypotheses: `RdHypF` only. -/
theorem C08_cluster_forwarded_read_index_safe (cfg : JointConfig) (c0 : Nat) (h : List Sys)
    (H : RdHypF cfg c0 h) (n f : Nat) (ctx : Bytes) (hfwd : FwdAt h n f ctx)
    (sn : Sys) (hn : h[n]? = some sn)
    (m : Nat) (s : Sys) (hm : h[m]? = some s) (j : Nat) (stj : NState) (hj : s.node j = some stj)
    (x : ReadState) (hx : x ∈ stj.raft.readStates) (hctx : x.requestCtx = ctx) :
    j = f ∧ n < m ∧
    ∀ u stu, sn.node u = some stu → stu.raft.raftLog.committed ≤ x.index :=
  R4.fwd_read_ok (R4.RdHypF.toF2 H) hfwd hn m s hm j stj hj x hx hctx

/-- **`once` + `uniqc` give unique registration**: under `RdHypF` a context is made pending (by a local
`read_index` call, `RegAt`, or by a delivered `MsgReadIndex`, `FwdRegAt`) by at most one step of the
history, on one node.  (F17 is exactly a second registration, by a second delivery.) -/
theorem C08_cluster_forwarded_unique_registration (cfg : JointConfig) (c0 : Nat) (h : List Sys)
    (H : RdHypF cfg c0 h) (n1 n2 i1 i2 : Nat) (K : Bytes)
    (h1 : R4.Reg h n1 i1 K) (h2 : R4.Reg h n2 i2 K) : n1 = n2 ∧ i1 = i2 :=
  (R4.RdHypF.toF2 H).uniq_node h1 h2

/-- **provenance of the forwarded request**: a `MsgReadIndex` found in the transport (or in a queue) of
`h[k]` carries the context of a forwarding `read_index` call that the node named in `from` made at an
earlier step. -/
theorem C08_cluster_forwarded_msg_provenance (cfg : JointConfig) (c0 : Nat) (h : List Sys)
    (H : RdHypF cfg c0 h) (k : Nat) (s : Sys) (hk : h[k]? = some s) (x : Message)
    (hx : x ∈ s.net ∨ ∃ v st, s.node v = some st ∧ x ∈ st.raft.msgs)
    (hty : x.msgType = .msgReadIndex) :
    ∃ n ctx, n < k ∧ FwdAt h n x.frm ctx ∧ Raft.RD.reqCtx x = some ctx := by
  have P := R4.ri_prov H k s hk
  have : R4.RiSrc h k x := by
    rcases hx with c | ⟨v, st, hv, c⟩
    · exact P.net x c hty
    · exact P.q v st hv x c hty
  obtain ⟨n, f, ctx, g1, g2, g3, g4⟩ := this
  subst g4
  exact ⟨n, ctx, g1, g2, g3⟩

/-- **the registration behind a forwarded read, and its bound**: a delivered `MsgReadIndex` that
registers its context `K` at step `k` on node `l` (`FwdRegAt`) was forwarded by a `read_index(K)` call of
node `m.from` at an earlier step `n`, and whenever node `l` later releases the request (a joint quorum has
acknowledged a request not before `K` in its queue) the recorded read index is at least every commit
index of every state up to `h[k]` — this discharges the proviso of C08e's leader-side half. -/
theorem C08_cluster_forwarded_registration_bound (cfg : JointConfig) (c0 : Nat) (h : List Sys)
    (H : RdHypF cfg c0 h) (k l : Nat) (m : Message) (K : Bytes) (idx : Nat)
    (hreg : FwdRegAt h k l m K idx) :
    (∃ n, n < k ∧ FwdAt h n m.frm K) ∧
    ∀ (n' : Nat) (a : Sys) (v : Nat) (st : NState) (m' : Message) (rs0 : ReadIndexStatus)
      (Kack : Bytes) (acks : List Nat) (p i : Nat),
      h[n']? = some a → a.node v = some st →
      (m'.msgType = .msgHup ∨ (m' ∈ a.net ∧ m'.to = v)) →
      (K, rs0) ∈ st.raft.readOnly.pendingReadIndex →
      st.raft.readOnly.readIndexQueue[p]? = some K →
      st.raft.readOnly.readIndexQueue[i]? = some Kack → p ≤ i →
      Tracker.hasQuorum cfg acks = true → (∀ u ∈ acks, Raft.RD.R4.AckOk st.raft m' Kack u) →
      v = l ∧ k < n' ∧ ∀ nf sf, nf ≤ k → h[nf]? = some sf →
        ∀ u stu, sf.node u = some stu → stu.raft.raftLog.committed ≤ rs0.index :=
  ⟨R4.fwdReg_src H hreg, fun _ _ _ _ _ _ _ _ _ _ ha hva hm' c1 c5 c6 c7 c8 c9 =>
    R4.rel_bound (R4.RdHypF.toF2 H).toBase (.inr ⟨m, idx, hreg⟩) ha hva hm' c1 c5 c6 c7 c8 c9⟩

/-- **non-vacuity** (kernel-evaluated): the history `c08z_hist` (24 states; voters 1, 2, 3) satisfies the
whole bundle `RdHypF`; step 14 is a forwarding `read_index([9])` call on follower 2; step 16 delivers the
forwarded `MsgReadIndex` to leader 1, which registers `[9]` with read index 1; in the last state node 2
holds the read state `([9], 1)`; and (the theorem applied) every node's commit index in `h[14]` is `≤ 1`. -/
theorem C08_cluster_forwarded_nonvacuous :
    RdHypF c02x_cfg 0 c08z_hist ∧ FwdAt c08z_hist 14 2 [9] ∧
    (∃ m, FwdRegAt c08z_hist 16 1 m [9] 1 ∧ m.frm = 2) ∧
    (∃ s st, c08z_hist[23]? = some s ∧ s.node 2 = some st ∧
      ({ index := 1, requestCtx := [9] } : ReadState) ∈ st.raft.readStates) ∧
    (∀ sn, c08z_hist[14]? = some sn → ∀ u stu, sn.node u = some stu →
      stu.raft.raftLog.committed ≤ 1) := by
  refine ⟨c08z_rdHypF, c08z_fwdAt, ⟨c08y_fwd, c08z_fwdRegAt, c08y_eval.2.1.2.2.2.2.1⟩, c08z_read_state, ?_⟩
  intro sn hsn u stu hu
  obtain ⟨s, st, h1, h2, h3⟩ := c08z_read_state
  exact (C08_cluster_forwarded_read_index_safe c02x_cfg 0 c08z_hist c08z_rdHypF 14 2 [9] c08z_fwdAt
    sn hsn 23 s h1 2 st h2 _ h3 rfl).2.2 u stu hu

end RaftProps.C08
