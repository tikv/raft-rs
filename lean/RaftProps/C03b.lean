import RaftProofs.RaftNodeC02

/-!
# C03b — the election restriction, on the node model

The cluster-level proof of C03 (`RaftProps/C03.lean`, abstract protocol P) rests on three obligations
of every node: *a vote or pre-vote is granted only to a candidate whose last (term, index) is at least
the voter's own* (P's `grant` needs `upToDate`), *a request advertises the candidate's true log tail*
(P's `campaign`), and *the log of a node does not change while it is a candidate* (so the log a winner
leads with is the log it advertised).  Here they are theorems about the executable model of
`src/raft.rs` (`RaftModel.Raft*`, tied to the code by differential testing), for ALL states and ALL
messages unless a hypothesis is named.
-/
namespace RaftProps.C03
open RaftModel RaftModel.Raft RaftModel.Raft.VoteOb

/-! ### 1. A (pre-)vote is granted only to an up-to-date candidate -/

/-- `RaftLog::is_up_to_date` (raft_log.rs:440) in arithmetic form: the advertised
`(term, last_index)` is lexicographically at least the log's own `(last_term, last_index)` -/
theorem C03_isUpToDate_iff (l : RaftLog) (i t : Nat) :
    l.isUpToDate i t = .ok true ↔
      ∃ lt, l.lastTerm = .ok lt ∧ (lt < t ∨ (lt = t ∧ l.lastIndex ≤ i)) := by
  unfold RaftLog.isUpToDate
  cases hl : l.lastTerm with
  | ok lt =>
    simp only [Res.ok.injEq, Bool.or_eq_true, Bool.and_eq_true, decide_eq_true_eq, beq_iff_eq]
    constructor
    · rintro (h | ⟨h1, h2⟩)
      · exact ⟨lt, rfl, Or.inl h⟩
      · exact ⟨lt, rfl, Or.inr ⟨h1.symm, h2⟩⟩
    · rintro ⟨lt', e, h⟩
      subst e
      rcases h with h | ⟨h1, h2⟩
      · exact Or.inl h
      · exact Or.inr ⟨h1.symm, h2⟩
  | err e => simp
  | panic s => simp

/-- the grant condition of raft.rs:1497-1499, all three parts -/
theorem C03_voteGranted_iff (r : Raft) (m : Message) :
    r.voteGranted m = .ok true ↔
      r.canVote m = true ∧
      (∃ lt, r.raftLog.lastTerm = .ok lt ∧
        (lt < m.logTerm ∨ (lt = m.logTerm ∧ r.raftLog.lastIndex ≤ m.index))) ∧
      (r.raftLog.lastIndex < m.index ∨ r.priority ≤ getPriority m) := by
  rw [c02_voteGranted_iff, C03_isUpToDate_iff]

/-- **C03 (1), the vote arm.**  The `MsgRequestVote | MsgRequestPreVote` arm of `step`
(raft.rs:1489-1533) queues exactly one message, the response to `m.from`.  It carries
`reject = false` **only if** `can_vote` held, the request's `(log_term, index)` is at least the
voter's `(last_term, last_index)` (`is_up_to_date`), and the priority condition
`m.index > last_index ∨ priority ≤ priority(m)` held; the response then carries `m.term`.  Conversely,
whenever that condition is false the response carries `reject = true` (with the voter's term and
commit point). -/
theorem C03_grant_only_if_up_to_date_arm (r r' : Raft) (m : Message) (h : r.stepVote m = .ok r') :
    ∃ x, r'.msgs = r.msgs ++ [x] ∧ x.to = m.frm ∧ some x.msgType = voteRespMsgType m.msgType ∧
      (x.reject = false →
        r.canVote m = true ∧ r.raftLog.isUpToDate m.index m.logTerm = .ok true ∧
        (∃ lt, r.raftLog.lastTerm = .ok lt ∧
          (lt < m.logTerm ∨ (lt = m.logTerm ∧ r.raftLog.lastIndex ≤ m.index))) ∧
        (r.raftLog.lastIndex < m.index ∨ r.priority ≤ getPriority m) ∧ x.term = m.term) ∧
      (x.reject = true →
        r.voteGranted m = .ok false ∧ x.term = r.term ∧
        r.raftLog.commitInfo = .ok (x.commit, x.commitTerm)) ∧
      (r.voteGranted m = .ok false → x.reject = true) := by
  obtain ⟨t, x, h1, h2, h3, h4, h5, h6, h7, h8⟩ := (c02_stepVote_spec h).resp
  refine ⟨x, h2, h4, by rw [h3, h1], fun hr => ?_, fun hr => ?_, fun hf => h6.2 hf⟩
  · have hg := h5.1 hr
    obtain ⟨a, b, c⟩ := (c02_voteGranted_iff r m).1 hg
    exact ⟨a, b, (C03_isUpToDate_iff _ _ _).1 b, c, h7 hr⟩
  · exact ⟨h6.1 hr, h8 hr⟩

/-- **C03 (1) `grant_only_if_up_to_date`.**  For every state and every `MsgRequestVote` /
`MsgRequestPreVote`: `step` queues at most one message, a response to `m.from`; nothing is queued when
the request is ignored (lease, raft.rs:1356-1384; a real vote request of a lower term).  If the
response carries `reject = false`, then the request passed the term preamble (`r1` is the state after
it: `r` itself, or `r.become_follower(m.term, _)` for a higher-term real vote request — same log, same
priority), and

* `can_vote` held in `r1`,
* `r.raftLog.isUpToDate m.index m.logTerm = Ok(true)`, i.e. `(m.logTerm, m.index) ≥ (last_term,
  last_index)` of the voter's log lexicographically,
* `m.index > last_index ∨ r.priority ≤ priority(m)`.

(The rejection a lower-term pre-vote request gets from the preamble, raft.rs:1466-1478, has
`reject = true`.) -/
theorem C03_grant_only_if_up_to_date (r r' : Raft) (m : Message) (res : Option RaftError)
    (hty : m.msgType = .msgRequestVote ∨ m.msgType = .msgRequestPreVote)
    (h : r.step m = .ok (r', res)) :
    r'.msgs = r.msgs ∨
    ∃ x, r'.msgs = r.msgs ++ [x] ∧ x.to = m.frm ∧ some x.msgType = voteRespMsgType m.msgType ∧
      (x.reject = false →
        ∃ r1, r.stepTerm m = .ok (r1, true) ∧ (r1 = r ∨ ∃ l, r1 = r.becomeFollower m.term l) ∧
          r1.canVote m = true ∧ r.raftLog.isUpToDate m.index m.logTerm = .ok true ∧
          (∃ lt, r.raftLog.lastTerm = .ok lt ∧
            (lt < m.logTerm ∨ (lt = m.logTerm ∧ r.raftLog.lastIndex ≤ m.index))) ∧
          (r.raftLog.lastIndex < m.index ∨ r.priority ≤ getPriority m) ∧ x.term = m.term) := by
  obtain ⟨r1, b, ht, hb⟩ := c02_step_cases h
  -- the preamble: queue, log and priority of `r1`
  have hpre : (r1 = r ∨ ∃ l, r1 = r.becomeFollower m.term l) ∨
      (b = false ∧ ∃ x, r1.msgs = r.msgs ++ [x] ∧ x.to = m.frm ∧
        some x.msgType = voteRespMsgType m.msgType ∧ x.reject = true) := by
    rcases c02_stepTerm_cases ht with ⟨e, _⟩ | ⟨hbf, _, _, x, hs, hx⟩ | ⟨_, _, _, _, l, e⟩
    · exact Or.inl (Or.inl e)
    · right
      refine ⟨hbf, ?_⟩
      rcases hx with ⟨hm, hx⟩ | ⟨hm, _⟩
      · subst hx
        rw [send_eq r r1 _ hs]
        refine ⟨_, rfl, ?_, ?_, ?_⟩
        · rw [c02_sendFill_resp _ _ (Or.inr rfl)]; split <;> rfl
        · rw [c02_sendFill_resp _ _ (Or.inr rfl), hm]; split <;> rfl
        · rw [c02_sendFill_resp _ _ (Or.inr rfl)]; split <;> rfl
      · rcases hty with e | e <;> rcases hm with hm | hm <;> rw [e] at hm <;> cases hm
    · exact Or.inl (Or.inr ⟨l, e⟩)
  rcases hb with ⟨hbf, e⟩ | ⟨hbt, hd⟩
  · subst e
    rcases hpre with (e | ⟨l, e⟩) | ⟨_, x, h1, h2, h3, h4⟩
    · subst e; exact Or.inl rfl
    · subst e; exact Or.inl (c02_becomeFollower_keep r m.term l).msgs
    · exact Or.inr ⟨x, h1, h2, h3, fun hr => by rw [h4] at hr; cases hr⟩
  · subst hbt
    have hv : r1.stepVote m = .ok r' := by
      rcases hd with ⟨hm, _⟩ | ⟨_, hv⟩ | ⟨_, h1, h2, _⟩
      · rcases hty with e | e <;> rw [e] at hm <;> cases hm
      · exact hv
      · rcases hty with e | e
        · exact absurd e h1
        · exact absurd e h2
    have hk : Keep r r1 ∧ (r1 = r ∨ ∃ l, r1 = r.becomeFollower m.term l) := by
      rcases hpre with (e | ⟨l, e⟩) | ⟨c, _⟩
      · subst e; exact ⟨Keep.rfl, Or.inl rfl⟩
      · subst e; exact ⟨c02_becomeFollower_keep r m.term l, Or.inr ⟨l, rfl⟩⟩
      · cases c
    obtain ⟨x, h1, h2, h3, h4, _⟩ := C03_grant_only_if_up_to_date_arm r1 r' m hv
    right
    refine ⟨x, by rw [h1, hk.1.msgs], h2, h3, fun hr => ?_⟩
    obtain ⟨a, b, c, d, e⟩ := h4 hr
    rw [hk.1.log.isUpToDate] at b
    rw [hk.1.log.lastTerm, hk.1.log.lastIndex] at c
    rw [hk.1.log.lastIndex, hk.1.priority] at d
    exact ⟨r1, ht, hk.2, a, b, c, d, e⟩

/-! ### 2. Requests carry the candidate's true log tail -/

/-- **C03 (2) `requests_carry_true_tail`.**  `campaign` (raft.rs:1287, all three kinds) either makes
the node leader at once because its own vote is a quorum — then **no** vote request is sent
(`CampaignWon`: the queue is untouched up to `become_leader(); bcast_append()`) — or appends to the
queue exactly one request per other voter of either half, and every one of them carries

* `index = last_index`, `log_term = last_term` of the candidate's log at that moment,
* `(commit, commit_term) = commit_info()` of that log,
* the campaign's term `r.term + 1` (for a pre-vote: the term it *would* campaign at), the sender's id,
  the request type of the campaign, and the node's priority;

and the log is unchanged by the campaign (`LogSame`). -/
theorem C03_requests_carry_true_tail (r r' : Raft) (ct : CampaignType) (h : r.campaign ct = .ok r') :
    CampaignWon r r' ∨
    ∃ lt c cterm new, r.raftLog.lastTerm = .ok lt ∧ r.raftLog.commitInfo = .ok (c, cterm) ∧
      r'.msgs = r.msgs ++ new ∧ LogSame r.raftLog r'.raftLog ∧
      new.map (fun x => x.to) = c02_voteTargets r ∧
      ∀ x ∈ new, x.msgType = campaignMsgType ct ∧ x.index = r.raftLog.lastIndex ∧ x.logTerm = lt ∧
        x.commit = c ∧ x.commitTerm = cterm ∧ x.term = r.term + 1 ∧ x.frm = r.id ∧ x.to ≠ r.id ∧
        x.priority = r.priority ∧ (x.context = campaignTransfer ↔ ct = .transfer) := by
  rcases c02_campaign_cases h with w | w
  · exact Or.inl w
  · right
    obtain ⟨lt, c, cterm, h1, h2, h3⟩ := w.msgs
    refine ⟨lt, c, cterm, _, h1, h2, h3, w.log, ?_, ?_⟩
    · rw [List.map_map]
      have : ((fun x : Message => x.to) ∘ voteReq r (campaignMsgType ct) ct (r.term + 1) c cterm lt) = _root_.id := by
        funext to; rfl
      rw [this, List.map_id]
    · intro x hx
      obtain ⟨to, hto, rfl⟩ := List.mem_map.1 hx
      have hne : to ≠ r.id := by
        have := (List.mem_filter.1 hto).2
        simpa using this
      refine ⟨rfl, rfl, rfl, rfl, rfl, rfl, rfl, hne, rfl, ?_⟩
      show (if ct = .transfer then campaignTransfer else []) = campaignTransfer ↔ ct = .transfer
      by_cases hc : ct = .transfer
      · simp [hc]
      · simp only [hc, if_false, iff_false]
        decide

/-! ### 3. A candidate's log is frozen -/

theorem c03_hup_frozen {r1 r' : Raft} {tr : Bool} (h : r1.hup tr = .ok r')
    (hc : r'.state = .candidate ∨ r'.state = .preCandidate) : LogFrozen r1.raftLog r'.raftLog := by
  rcases c02_hup_cases h with e | ⟨_, _, ct, hcm, _⟩
  · subst e; exact LogFrozen.rfl
  · rcases c02_campaign_cases hcm with w | w
    · obtain ⟨r0, _, _, _, _, _, k6⟩ := w.path
      have := (c02_wonBy_spec k6).1
      rcases hc with hc | hc <;> rw [hc] at this <;> cases this
    · exact w.log.frozen

/-- everything `step` does after the term preamble -/
theorem c03_dispatch_frozen {r1 r' : Raft} {m : Message} {res : Option RaftError}
    (hd : (m.msgType = .msgHup ∧ r1.hup false = .ok r') ∨
      ((m.msgType = .msgRequestVote ∨ m.msgType = .msgRequestPreVote) ∧ r1.stepVote m = .ok r') ∨
      (m.msgType ≠ .msgHup ∧ m.msgType ≠ .msgRequestVote ∧ m.msgType ≠ .msgRequestPreVote ∧
        (((r1.state = .candidate ∨ r1.state = .preCandidate) ∧ r1.stepCandidate m = .ok (r', res)) ∨
         (r1.state = .follower ∧ r1.stepFollower m = .ok (r', res)) ∨
         (r1.state = .leader ∧ r1.stepLeader m = .ok (r', res)))))
    (hc : r'.state = .candidate ∨ r'.state = .preCandidate) : LogFrozen r1.raftLog r'.raftLog := by
  have notF : r'.state ≠ .follower := by rcases hc with hc | hc <;> rw [hc] <;> decide
  have notL : r'.state ≠ .leader := by rcases hc with hc | hc <;> rw [hc] <;> decide
  rcases hd with ⟨_, hh⟩ | ⟨_, hv⟩ | ⟨_, _, _, hr⟩
  · exact c03_hup_frozen hh hc
  · exact (c02_stepVote_spec hv).log
  · rcases hr with ⟨hsc, hcd⟩ | ⟨hsf, hf⟩ | ⟨hsl, hl⟩
    · rcases c02_stepCandidate_cases hsc hcd with e | ⟨_, _, hf⟩ | ⟨_, r2, res2, hp, hmc⟩
      · subst e; exact LogFrozen.rfl
      · exact absurd hf.state notF
      · obtain ⟨_, q2, _, _, _, _, q7⟩ := c02_maybeCommitByVote_spec hmc
        have hq : r'.state = r2.state := by
          rcases q7 with ⟨a, _⟩ | ⟨_, a, _⟩
          · exact a
          · exact absurd a notF
        refine LogFrozen.trans ?_ q2
        unfold Raft.poll at hp
        obtain ⟨_, p2⟩ := c02_pollWith_cases hp
        rcases p2 with ⟨_, _, c⟩ | ⟨_, _, c⟩ | ⟨_, c⟩ | ⟨_, c⟩
        · unfold Raft.campaignAfterPreVote at c
          rcases c02_campaignWith_election (by decide) c with w | w
          · obtain ⟨r0, _, _, _, _, _, k6⟩ := w.path
            exact absurd (hq.trans (c02_wonBy_spec k6).1) notL
          · exact w.log.frozen
        · exact absurd (hq.trans (c02_wonBy_spec c).1) notL
        · subst c; exact (c02_becomeFollower_keep (voted r1 m.frm (!m.reject)) r1.term 0).log.frozen
        · subst c; exact LogFrozen.rfl
    · rcases c02_stepFollower_cases hsf hf with t | ⟨_, _, hh⟩
      · exact absurd (t.state.trans hsf) notF
      · exact c03_hup_frozen hh hc
    · rcases c02_stepLeader_cases hl with t | ⟨t, _⟩
      · exact absurd (t.state.trans hsl) notL
      · exact absurd t notF

/-- **C03 (3) `candidate_log_frozen`** (node-model version; the name `C03_candidate_log_frozen` is
taken by the statement about P in `RaftProps/C03.lean`).  The precise version that is true, and it
needs no hypothesis on the state *before* the step: **whenever `step` leaves the node a candidate or a
pre-candidate, its log entries are the ones it had before the step** — stable storage, unstable
entries and pending snapshot, `persisted` and `applied` are unchanged (hence `last_index`, `last_term`
and every `term(i)`).  Every handler that changes entries (`handle_append_entries`, `handle_snapshot`
→ `restore`, `append_entry` in `become_leader` / `MsgPropose`) runs on a follower or a leader and
leaves it a follower or a leader.  In particular a node that is a (pre-)candidate before and after
`step` keeps its entries.

What is **not** frozen is the commit index: a candidate advances `committed` through
`maybe_commit_by_vote` (the commit point carried by a rejection, raft.rs:2248) — `LogFrozen` says
`committed` can only grow.  (And if that reveals an unapplied configuration change the candidate steps
down.) -/
theorem C03_candidate_log_frozen_node (r r' : Raft) (m : Message) (res : Option RaftError)
    (h : r.step m = .ok (r', res)) (hc : r'.state = .candidate ∨ r'.state = .preCandidate) :
    LogFrozen r.raftLog r'.raftLog := by
  obtain ⟨r1, b, ht, hb⟩ := c02_step_cases h
  have hpre : LogFrozen r.raftLog r1.raftLog := by
    rcases c02_stepTerm_cases ht with ⟨e, _⟩ | ⟨_, _, _, x, hs, _⟩ | ⟨_, _, _, _, l, e⟩
    · subst e; exact LogFrozen.rfl
    · rw [send_eq r r1 _ hs]; exact LogFrozen.rfl
    · subst e; exact (c02_becomeFollower_keep r m.term l).log.frozen
  rcases hb with ⟨_, e⟩ | ⟨_, hd⟩
  · subst e; exact hpre
  · exact hpre.trans (c03_dispatch_frozen hd hc)

/-- the consequences spelled out: same `last_index`, `last_term`, same answer to `is_up_to_date`,
same term at every index -/
theorem C03_candidate_log_frozen_tail (r r' : Raft) (m : Message) (res : Option RaftError)
    (h : r.step m = .ok (r', res)) (hc : r'.state = .candidate ∨ r'.state = .preCandidate) :
    r'.raftLog.lastIndex = r.raftLog.lastIndex ∧ r'.raftLog.lastTerm = r.raftLog.lastTerm ∧
    (∀ i, r'.raftLog.term i = r.raftLog.term i) ∧
    (∀ i t, r'.raftLog.isUpToDate i t = r.raftLog.isUpToDate i t) ∧
    r.raftLog.committed ≤ r'.raftLog.committed := by
  have hf := C03_candidate_log_frozen_node r r' m res h hc
  exact ⟨hf.lastIndex, hf.lastTerm, hf.term, hf.isUpToDate, hf.committed⟩

/-! ### Non-vacuity: concrete states and messages (evaluated by `decide`) -/

section Examples

/-- the voter's log ends at (term 2, index 1), nothing committed -/
example : c02_exFollower.raftLog.lastIndex = 1 ∧ c02_exFollower.raftLog.lastTerm = .ok 2 ∧
    c02_exFollower.raftLog.commitInfo = .ok (0, 0) := by decide +kernel

/-- (1) a real vote request of term 3 advertising (term 2, index 1) — exactly the voter's tail — is
granted: one response, `reject = false`, carrying the request's term -/
example : c02_okAnd (c02_exFollower.step
      { msgType := .msgRequestVote, frm := 2, term := 3, logTerm := 2, index := 1 })
    (fun x => x.1.msgs.map (fun q => (q.msgType, q.to, q.term, q.reject)) ==
      [(.msgRequestVoteResponse, 2, 3, false)] && x.1.vote == 2 && x.1.term == 3) = true := by decide +kernel

/-- (1) the same request advertising (term 2, index 0) or (term 1, index 5) is refused, with the
voter's commit point -/
example : c02_okAnd (c02_exFollower.step
      { msgType := .msgRequestVote, frm := 2, term := 3, logTerm := 2, index := 0 })
    (fun x => x.1.msgs.map (fun q => (q.msgType, q.to, q.term, q.reject)) ==
      [(.msgRequestVoteResponse, 2, 3, true)] && x.1.vote == 0) = true ∧
    c02_okAnd (c02_exFollower.step
      { msgType := .msgRequestVote, frm := 2, term := 3, logTerm := 1, index := 5 })
    (fun x => x.1.msgs.map (fun q => (q.msgType, q.to, q.term, q.reject)) ==
      [(.msgRequestVoteResponse, 2, 3, true)] && x.1.vote == 0) = true := by decide +kernel

/-- (1) a longer log wins whatever the priorities; an equal log is refused by a voter of higher
priority; a pre-vote request (term 3 = future term) of an up-to-date candidate is granted without
touching term or vote -/
example : c02_okAnd (({ c02_exFollower with priority := 5 } : Raft).step
      { msgType := .msgRequestVote, frm := 2, term := 3, logTerm := 2, index := 2 })
    (fun x => x.1.msgs.map (fun q => q.reject) == [false]) = true ∧
    c02_okAnd (({ c02_exFollower with priority := 5 } : Raft).step
      { msgType := .msgRequestVote, frm := 2, term := 3, logTerm := 2, index := 1 })
    (fun x => x.1.msgs.map (fun q => q.reject) == [true]) = true ∧
    c02_okAnd (c02_exFollower.step
      { msgType := .msgRequestPreVote, frm := 2, term := 3, logTerm := 2, index := 1 })
    (fun x => x.1.msgs.map (fun q => (q.msgType, q.reject, q.term)) ==
      [(.msgRequestPreVoteResponse, false, 3)] && x.1.vote == 0 && x.1.term == 2) = true := by decide +kernel

/-- (2) an election campaign of node 1: two requests, each with index 1, log term 2, commit (0, 0),
term 3 -/
example : c02_okAnd (c02_exFollower.campaign .election)
    (fun r => r.msgs.map (fun q => (q.msgType, q.to, q.frm, q.term, q.index, q.logTerm, q.commit, q.commitTerm)) ==
      [(.msgRequestVote, 2, 1, 3, 1, 2, 0, 0), (.msgRequestVote, 3, 1, 3, 1, 2, 0, 0)] &&
      r.state == .candidate) = true ∧
    c02_okAnd (c02_exFollower.campaign .preElection)
    (fun r => r.msgs.map (fun q => (q.msgType, q.to, q.term, q.index, q.logTerm)) ==
      [(.msgRequestPreVote, 2, 3, 1, 2), (.msgRequestPreVote, 3, 3, 1, 2)] &&
      r.state == .preCandidate && r.term == 2) = true := by decide +kernel

/-- (2) the only voter of its configuration wins at once and sends no request -/
example : selfWins c02_exSingle ∧
    c02_okAnd (c02_exSingle.campaign .election) (fun r => r.state == .leader && r.term == 3 &&
      r.msgs.all (fun q => q.msgType != .msgRequestVote)) = true := by
  constructor
  · unfold selfWins; decide +kernel
  · decide +kernel

/-- (3) the commit index of a candidate is NOT frozen: a rejection carrying the commit point (1, term 2)
advances `committed` from 0 to 1 while the node stays a candidate with the same entries -/
example : c02_exCandidate.raftLog.committed = 0 ∧
    c02_okAnd (c02_exCandidate.step
      { msgType := .msgRequestVoteResponse, frm := 2, term := 3, reject := true, commit := 1, commitTerm := 2 })
    (fun x => x.1.state == .candidate && x.1.raftLog.committed == 1 &&
      x.1.raftLog.lastIndex == 1 && x.1.raftLog.store == c02_exCandidate.raftLog.store &&
      x.1.raftLog.unstable == c02_exCandidate.raftLog.unstable) = true := by decide +kernel

/-- (3) the message of a leader of the candidate's term that appends an entry makes it a follower -/
example : c02_okAnd (c02_exCandidate.step
      { msgType := .msgAppend, frm := 2, term := 3, logTerm := 2, index := 1,
        entries := [{ term := 3, index := 2 }] })
    (fun x => x.1.state == .follower && x.1.raftLog.lastIndex == 2) = true := by decide +kernel

end Examples

end RaftProps.C03
