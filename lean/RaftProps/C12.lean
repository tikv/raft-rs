import RaftProofs.ConfChange

/-!
# C12 — the configuration-change algebra keeps its invariants and quorum overlap

Property theorems only (helper lemmas live in `RaftProofs/ConfChange.lean`).  The model
`RaftModel.{simple, enterJoint, leaveJoint, restore, Tracker.applyConf, Configuration.toConfState}`
mirrors `src/confchange/{changer,restore}.rs` and `src/tracker.rs` function by function; a `Tracker`
is the configuration plus the key set of the progress map.

All theorems quantify over every tracker satisfying the invariant `CfgInv` (and `CfgInv` is proved
for every tracker reachable from the empty one / from `restore` by operation sequences of any
length), every change list (any ids, including 0, unknown ids, duplicates, the empty list) and every
`auto_leave` flag.
-/
namespace RaftProps.C12
open RaftModel RaftProofs.ConfChange

/-! ## the invariant, spelled out -/

/-- `CfgInv t` (defined in RaftProofs/ConfChange.lean as `LI t.conf t.progress ∧ …`) says exactly
this: the five sets are sorted duplicate-free lists; **progress is tracked for exactly the
members**; learners are disjoint from both voter halves; staged learners are outgoing voters, are
not incoming voters and (hence) not learners; id 0 is never a member; a non-joint configuration has
no staged learners and no auto-leave flag. -/
theorem C12_CfgInv_iff (t : Tracker) :
    CfgInv t ↔
      (Sorted t.conf.incoming ∧ Sorted t.conf.outgoing ∧ Sorted t.conf.learners ∧
        Sorted t.conf.learnersNext ∧ Sorted t.progress) ∧
      (∀ x, x ∈ t.progress ↔
        x ∈ t.conf.incoming ∨ x ∈ t.conf.outgoing ∨ x ∈ t.conf.learners ∨ x ∈ t.conf.learnersNext) ∧
      (∀ x, x ∈ t.conf.learners → x ∉ t.conf.incoming ∧ x ∉ t.conf.outgoing) ∧
      (∀ x, x ∈ t.conf.learnersNext →
        x ∈ t.conf.outgoing ∧ x ∉ t.conf.incoming ∧ x ∉ t.conf.learners) ∧
      0 ∉ t.progress ∧
      (t.conf.outgoing = [] → t.conf.learnersNext = [] ∧ t.conf.autoLeave = false) := by
  constructor
  · rintro ⟨⟨h1, h2, h3, h4, h5, h6, h7, h8, h9, h10, h11⟩, hj⟩
    exact ⟨⟨h1, h2, h3, h4, h5⟩, h6, fun x hx => ⟨h7 x hx, h8 x hx⟩,
      fun x hx => ⟨h9 x hx, h10 x hx, fun hl => h8 x hl (h9 x hx)⟩, h11, hj⟩
  · rintro ⟨⟨h1, h2, h3, h4, h5⟩, h6, h7, h8, h11, hj⟩
    exact ⟨⟨h1, h2, h3, h4, h5, h6, fun x hx => (h7 x hx).1, fun x hx => (h7 x hx).2,
      fun x hx => (h8 x hx).1, fun x hx => (h8 x hx).2.1, h11⟩, hj⟩

/-- a sorted list has no duplicates -/
theorem C12_sorted_nodup {s : List Nat} (h : Sorted s) : s.Nodup := h.nodup

/-- boolean form of `Sorted` -/
def sortedB : List Nat → Bool
  | [] => true
  | [_] => true
  | a :: b :: l => decide (a < b) && sortedB (b :: l)

theorem sorted_of_sortedB : ∀ {l : List Nat}, sortedB l = true → Sorted l
  | [], _ => List.Pairwise.nil
  | [a], _ => by simp [Sorted]
  | a :: b :: l, h => by
    simp only [sortedB, Bool.and_eq_true, decide_eq_true_eq] at h
    have ih := sorted_of_sortedB h.2
    have ih' := List.pairwise_cons.mp ih
    refine List.pairwise_cons.mpr ⟨?_, ih⟩
    intro c hc
    rcases List.mem_cons.mp hc with hc | hc
    · subst hc; exact h.1
    · exact Nat.lt_trans h.1 (ih'.1 c hc)

/-- decidable form of `CfgInv` (sufficient), used for the non-vacuity examples and usable as a
run-time check -/
def cfgInvB (t : Tracker) : Bool :=
  let c := t.conf
  sortedB c.incoming && sortedB c.outgoing && sortedB c.learners && sortedB c.learnersNext &&
  sortedB t.progress &&
  t.progress.all (fun x => decide (x ∈ c.incoming) || decide (x ∈ c.outgoing) ||
    decide (x ∈ c.learners) || decide (x ∈ c.learnersNext)) &&
  c.incoming.all (fun x => decide (x ∈ t.progress)) &&
  c.outgoing.all (fun x => decide (x ∈ t.progress)) &&
  c.learners.all (fun x => decide (x ∈ t.progress) && !decide (x ∈ c.incoming) && !decide (x ∈ c.outgoing)) &&
  c.learnersNext.all (fun x => decide (x ∈ t.progress) && decide (x ∈ c.outgoing) && !decide (x ∈ c.incoming)) &&
  !decide (0 ∈ t.progress) &&
  (!c.outgoing.isEmpty || (c.learnersNext.isEmpty && !c.autoLeave))

theorem cfgInv_of_cfgInvB {t : Tracker} (h : cfgInvB t = true) : CfgInv t := by
  simp only [cfgInvB, Bool.and_eq_true, List.all_eq_true, Bool.or_eq_true, decide_eq_true_eq,
    Bool.not_eq_true', decide_eq_false_iff_not, List.isEmpty_iff] at h
  obtain ⟨⟨⟨⟨⟨⟨⟨⟨⟨⟨⟨s1, s2⟩, s3⟩, s4⟩, s5⟩, e1⟩, e2⟩, e3⟩, e4⟩, e5⟩, z⟩, j⟩ := h
  refine ⟨⟨sorted_of_sortedB s1, sorted_of_sortedB s2, sorted_of_sortedB s3, sorted_of_sortedB s4,
    sorted_of_sortedB s5, ?_, ?_, ?_, ?_, ?_, z⟩, ?_⟩
  · intro x
    constructor
    · intro hx
      rcases e1 x hx with ((h | h) | h) | h
      · exact Or.inl h
      · exact Or.inr (Or.inl h)
      · exact Or.inr (Or.inr (Or.inl h))
      · exact Or.inr (Or.inr (Or.inr h))
    · rintro (h | h | h | h)
      · exact e2 x h
      · exact e3 x h
      · exact (e4 x h).1.1
      · exact (e5 x h).1.1
  · exact fun x hx => (e4 x hx).1.2
  · exact fun x hx => (e4 x hx).2
  · exact fun x hx => (e5 x hx).1.2
  · exact fun x hx => (e5 x hx).2
  · intro ho
    rcases j with j | j
    · exact absurd ho (by simpa using j)
    · simpa using j

/-! ## operations and reachability -/

/-- the three changer methods -/
inductive Op where
  | simple (ccs : List ConfChangeSingle)
  | enterJoint (autoLeave : Bool) (ccs : List ConfChangeSingle)
  | leaveJoint
  deriving Repr

/-- run a changer method on (a borrow of) the tracker -/
def Op.run (t : Tracker) : Op → Except ErrKind (Configuration × MapChange)
  | .simple ccs => RaftModel.simple t ccs
  | .enterJoint al ccs => RaftModel.enterJoint t al ccs
  | .leaveJoint => RaftModel.leaveJoint t

/-- what the callers do (`Raft::apply_conf_change`, `restore`, the data-driven test): on success
`apply_conf`, on error nothing -/
def step (t : Tracker) (op : Op) : Tracker :=
  match op.run t with
  | .ok (cfg, changes) => t.applyConf cfg changes
  | .error _ => t

def runOps (t : Tracker) (ops : List Op) : Tracker := ops.foldl step t

/-- the empty tracker (`ProgressTracker::new`) satisfies the invariant -/
theorem C12_inv_empty : CfgInv Tracker.empty := cfgInv_of_cfgInvB rfl

/-! ## preservation -/

/-- **`simple` preserves the invariant**, and what it returns has at least one voter and differs
from the old incoming voters by at most one member. -/
theorem C12_inv_simple {t : Tracker} (h : CfgInv t) {ccs : List ConfChangeSingle}
    {cfg : Configuration} {ch : MapChange} (hr : simple t ccs = .ok (cfg, ch)) :
    CfgInv (t.applyConf cfg ch) ∧ cfg.incoming ≠ [] ∧
    NatSet.symmDiffCount cfg.incoming t.conf.incoming ≤ 1 ∧ cfg.outgoing = [] :=
  simple_inv h hr

/-- **`enter_joint` preserves the invariant**; the result has at least one incoming voter, its
outgoing half is the old incoming half, and `auto_leave` is as requested. -/
theorem C12_inv_enterJoint {t : Tracker} (h : CfgInv t) {al : Bool} {ccs : List ConfChangeSingle}
    {cfg : Configuration} {ch : MapChange} (hr : enterJoint t al ccs = .ok (cfg, ch)) :
    CfgInv (t.applyConf cfg ch) ∧ cfg.incoming ≠ [] ∧ cfg.outgoing = t.conf.incoming ∧
    t.conf.incoming ≠ [] ∧ t.conf.outgoing = [] ∧ cfg.autoLeave = al :=
  enterJoint_inv h hr

/-- **`leave_joint` preserves the invariant**; the incoming voters are untouched, the outgoing half
is dropped, the staged learners become learners. -/
theorem C12_inv_leaveJoint {t : Tracker} (h : CfgInv t)
    {cfg : Configuration} {ch : MapChange} (hr : leaveJoint t = .ok (cfg, ch)) :
    CfgInv (t.applyConf cfg ch) ∧ cfg.incoming = t.conf.incoming ∧ cfg.outgoing = [] ∧
    t.conf.outgoing ≠ [] ∧ cfg.learnersNext = [] ∧ cfg.autoLeave = false ∧
    (∀ x, x ∈ cfg.learners ↔ x ∈ t.conf.learners ∨ x ∈ t.conf.learnersNext) :=
  leaveJoint_inv h hr

/-- every operation, accepted or rejected, preserves the invariant -/
theorem C12_inv_step {t : Tracker} (h : CfgInv t) (op : Op) : CfgInv (step t op) := by
  unfold step
  cases hr : op.run t with
  | error e => exact h
  | ok r =>
    obtain ⟨cfg, ch⟩ := r
    cases op with
    | simple ccs => exact (C12_inv_simple h hr).1
    | enterJoint al ccs => exact (C12_inv_enterJoint h hr).1
    | leaveJoint => exact (C12_inv_leaveJoint h hr).1

/-- **the invariant holds in every reachable tracker**: from any consistent tracker (in particular
the empty one), after any sequence of changer operations of any length -/
theorem C12_inv_reachable {t : Tracker} (h : CfgInv t) (ops : List Op) : CfgInv (runOps t ops) := by
  induction ops generalizing t with
  | nil => exact h
  | cons op ops ih => exact ih (C12_inv_step h op)

/-- a configuration with no voter is only ever the untouched empty start: once an operation has
been accepted there is at least one (incoming) voter, forever -/
theorem C12_voters_nonempty_step {t : Tracker} (h : CfgInv t) (op : Op)
    (hv : t.conf.incoming ≠ [] ∨ t = Tracker.empty) :
    (step t op).conf.incoming ≠ [] ∨ step t op = Tracker.empty := by
  unfold step
  cases hr : op.run t with
  | error e => exact hv
  | ok r =>
    obtain ⟨cfg, ch⟩ := r
    left
    cases op with
    | simple ccs => exact (C12_inv_simple h hr).2.1
    | enterJoint al ccs => exact (C12_inv_enterJoint h hr).2.1
    | leaveJoint =>
      have := C12_inv_leaveJoint h hr
      rcases hv with hv | hv
      · show cfg.incoming ≠ []
        rw [this.2.1]; exact hv
      · subst hv; exact absurd rfl this.2.2.2.1

theorem C12_voters_nonempty_reachable (ops : List Op) :
    (runOps Tracker.empty ops).conf.incoming ≠ [] ∨ runOps Tracker.empty ops = Tracker.empty := by
  suffices ∀ t, CfgInv t → (t.conf.incoming ≠ [] ∨ t = Tracker.empty) →
      (runOps t ops).conf.incoming ≠ [] ∨ runOps t ops = Tracker.empty from
    this _ C12_inv_empty (Or.inr rfl)
  induction ops with
  | nil => exact fun t _ hv => hv
  | cons op ops ih =>
    exact fun t h hv => ih (step t op) (C12_inv_step h op) (C12_voters_nonempty_step h op hv)

/-- **a simple change alters the voter set by at most one member** (no invariant needed: this is the
check in `simple` itself) -/
theorem C12_simple_symmdiff_le_one {t : Tracker} {ccs : List ConfChangeSingle}
    {cfg : Configuration} {ch : MapChange} (hr : simple t ccs = .ok (cfg, ch)) :
    NatSet.symmDiffCount cfg.incoming t.conf.incoming ≤ 1 := by
  unfold simple at hr
  split at hr
  · simp at hr
  · split at hr
    · simp at hr
    · split at hr
      · simp at hr
      · split at hr
        · simp at hr
        · split at hr
          · simp at hr
          · simp only [Except.ok.injEq, Prod.mk.injEq] at hr
            obtain ⟨rfl, _⟩ := hr
            omega

/-- **a rejected change leaves everything untouched**: the changer methods only borrow the tracker
and return the new configuration and the progress changes; on an error nothing is returned and the
caller's tracker is the one it had (the Rust side of this is compared by the tie: after an `err`
the whole observable state is re-read and must be unchanged) -/
theorem C12_error_no_change (t : Tracker) (op : Op) (e : ErrKind) (hr : op.run t = .error e) :
    step t op = t := by
  simp [step, hr]

/-- from a consistent tracker the changer never reports a broken internal invariant: the only
rejections are the documented ones (wrong mode, no voter left, more than one voter changed) -/
theorem C12_no_invariant_error {t : Tracker} (h : CfgInv t) (op : Op) :
    op.run t ≠ .error .invariant ∧ op.run t ≠ .error .notJointCopy := by
  cases op with
  | simple ccs =>
    simp only [Op.run, simple_eq h]
    constructor <;> (repeat' split) <;> simp
  | enterJoint al ccs =>
    simp only [Op.run, enterJoint_eq h]
    constructor <;> (repeat' split) <;> simp
  | leaveJoint =>
    simp only [Op.run, leaveJoint_eq h]
    constructor <;> (repeat' split) <;> simp

/-! ## quorum overlap across a change -/

/-- `q` is a *deciding quorum* of `c`: it contains a majority (`n/2+1` of `n`) of the incoming voters
and, if the configuration is joint, also a majority of the outgoing voters.  (A configuration
without voters has no deciding quorum under this definition; the code's convention that an empty
majority config "wins" only concerns bootstrap from the empty tracker.) -/
def Deciding (c : Configuration) (q : List Nat) : Prop :=
  HasMajority q c.incoming ∧ (c.outgoing ≠ [] → HasMajority q c.outgoing)

instance (c : Configuration) (q : List Nat) : Decidable (Deciding c q) := by
  unfold Deciding; exact inferInstance

/-- two majorities of one duplicate-free voter list share a voter (pigeonhole) -/
theorem C12_majorities_intersect {v q₁ q₂ : List Nat}
    (h₁ : HasMajority q₁ v) (h₂ : HasMajority q₂ v) : ∃ x ∈ v, x ∈ q₁ ∧ x ∈ q₂ :=
  majorities_intersect h₁ h₂

/-- **simple change**: any deciding quorum before intersects any deciding quorum after (in a voter
of the old configuration) -/
theorem C12_quorums_overlap_simple {t : Tracker} (h : CfgInv t) {ccs : List ConfChangeSingle}
    {cfg : Configuration} {ch : MapChange} (hr : simple t ccs = .ok (cfg, ch))
    {q₁ q₂ : List Nat} (hq₁ : Deciding t.conf q₁) (hq₂ : Deciding cfg q₂) :
    ∃ x ∈ t.conf.incoming, x ∈ q₁ ∧ x ∈ q₂ := by
  obtain ⟨hi, _, hd, _⟩ := C12_inv_simple h hr
  exact majorities_intersect_symmdiff h.1.sInc.nodup hi.1.sInc.nodup hd hq₁.1 hq₂.1

/-- **entering a joint configuration**: the new configuration still needs a majority of the old
voters, so any deciding quorum before intersects any after -/
theorem C12_quorums_overlap_enterJoint {t : Tracker} (h : CfgInv t) {al : Bool}
    {ccs : List ConfChangeSingle} {cfg : Configuration} {ch : MapChange}
    (hr : enterJoint t al ccs = .ok (cfg, ch))
    {q₁ q₂ : List Nat} (hq₁ : Deciding t.conf q₁) (hq₂ : Deciding cfg q₂) :
    ∃ x ∈ t.conf.incoming, x ∈ q₁ ∧ x ∈ q₂ := by
  obtain ⟨_, _, ho, hne, _, _⟩ := C12_inv_enterJoint h hr
  have := hq₂.2 (by rw [ho]; exact hne)
  rw [ho] at this
  exact majorities_intersect hq₁.1 this

/-- **leaving a joint configuration**: the incoming voters, a majority of which was already needed,
stay; any deciding quorum before intersects any after -/
theorem C12_quorums_overlap_leaveJoint {t : Tracker} (h : CfgInv t)
    {cfg : Configuration} {ch : MapChange} (hr : leaveJoint t = .ok (cfg, ch))
    {q₁ q₂ : List Nat} (hq₁ : Deciding t.conf q₁) (hq₂ : Deciding cfg q₂) :
    ∃ x ∈ t.conf.incoming, x ∈ q₁ ∧ x ∈ q₂ := by
  obtain ⟨_, hi, _⟩ := C12_inv_leaveJoint h hr
  have := hq₂.1
  rw [hi] at this
  exact majorities_intersect hq₁.1 this

/-- all three at once, along any operation sequence: consecutive configurations of a reachable
history have intersecting deciding quorums -/
theorem C12_quorums_overlap_step {t : Tracker} (h : CfgInv t) (op : Op)
    {q₁ q₂ : List Nat} (hq₁ : Deciding t.conf q₁) (hq₂ : Deciding (step t op).conf q₂) :
    ∃ x, x ∈ q₁ ∧ x ∈ q₂ := by
  unfold step at hq₂
  cases hr : op.run t with
  | error e =>
    rw [hr] at hq₂
    obtain ⟨x, _, hx⟩ := majorities_intersect hq₁.1 hq₂.1
    exact ⟨x, hx⟩
  | ok r =>
    obtain ⟨cfg, ch⟩ := r
    rw [hr] at hq₂
    have hq₂' : Deciding cfg q₂ := hq₂
    cases op with
    | simple ccs => obtain ⟨x, _, hx⟩ := C12_quorums_overlap_simple h hr hq₁ hq₂'; exact ⟨x, hx⟩
    | enterJoint al ccs => obtain ⟨x, _, hx⟩ := C12_quorums_overlap_enterJoint h hr hq₁ hq₂'; exact ⟨x, hx⟩
    | leaveJoint => obtain ⟨x, _, hx⟩ := C12_quorums_overlap_leaveJoint h hr hq₁ hq₂'; exact ⟨x, hx⟩

/-! ## classification of a `ConfChangeV2` -/

/-- **`classification_total`**: the two predicates `Raft::apply_conf_change` consults are mutually
exclusive, and a `ConfChangeV2` is exactly one of: *leave* (transition Auto, no changes), *enter
joint with auto-leave* (Implicit, or Auto with more than one change), *enter joint, explicit leave*
(Explicit), *simple* (Auto with exactly one change). -/
theorem C12_classification_total (cc : ConfChangeV2) :
    (cc.leaveJoint = true → cc.enterJoint = none) ∧
    (cc.classify = .leave ↔ cc.transition = .auto ∧ cc.changes = []) ∧
    (cc.classify = .enter true ↔
      cc.transition = .implicit ∨ (cc.transition = .auto ∧ cc.changes.length > 1)) ∧
    (cc.classify = .enter false ↔ cc.transition = .explicit) ∧
    (cc.classify = .simple ↔ cc.transition = .auto ∧ cc.changes.length = 1) := by
  obtain ⟨tr, changes, ctx⟩ := cc
  cases tr <;> cases changes with
  | nil => simp [ConfChangeV2.classify, ConfChangeV2.leaveJoint, ConfChangeV2.enterJoint]
  | cons a l =>
    cases l <;> simp [ConfChangeV2.classify, ConfChangeV2.leaveJoint, ConfChangeV2.enterJoint]

/-- a legacy `ConfChange` always converts to a *simple* V2 change with the same single change -/
theorem C12_v1_is_simple (c : ConfChange) :
    c.intoV2.classify = .simple ∧ c.intoV2.changes = [⟨c.ctype, c.nodeId⟩] ∧
    c.intoV2.context = c.context := by
  simp [ConfChange.intoV2, ConfChangeV2.classify, ConfChangeV2.leaveJoint, ConfChangeV2.enterJoint]

/-! ## restoring a `ConfState` -/

/-- **`restore` establishes the invariant** from any `ConfState` it accepts (whatever the lists
contain: overlaps, id 0, duplicates), and the result has at least one voter unless the `ConfState`
was empty -/
theorem C12_restore_inv {cs : ConfState} {t : Tracker} (hr : restore Tracker.empty cs = .ok t) :
    CfgInv t ∧ (t.conf.incoming ≠ [] ∨ t = Tracker.empty) :=
  restore_inv C12_inv_empty hr

/-- **`restore (to_conf_state c) = c`**, order-insensitive: restoring any `ConfState` that
`conf_state_eq` identifies with the `ConfState` of a consistent tracker (any permutation of the id
lists, even with repetitions) reproduces that tracker — configuration *and* progress key set. -/
theorem C12_restore_toConfState {t : Tracker} (h : CfgInv t)
    (hv : t.conf.incoming ≠ [] ∨ t = Tracker.empty)
    (cs : ConfState) (hcs : confStateEq cs t.conf.toConfState = true) :
    restore Tracker.empty cs = .ok t :=
  restore_roundtrip h hv cs hcs

/-- …in particular for every reachable tracker and its own `ConfState` -/
theorem C12_restore_toConfState_reachable (ops : List Op) :
    restore Tracker.empty (runOps Tracker.empty ops).conf.toConfState = .ok (runOps Tracker.empty ops) := by
  apply C12_restore_toConfState (C12_inv_reachable C12_inv_empty ops) (C12_voters_nonempty_reachable ops)
  simp [confStateEq]

/-- …and for every tracker built by `restore` followed by any operation sequence -/
theorem C12_restore_toConfState_restored {cs : ConfState} {t : Tracker}
    (hr : restore Tracker.empty cs = .ok t) (ops : List Op) :
    CfgInv (runOps t ops) ∧
    restore Tracker.empty (runOps t ops).conf.toConfState = .ok (runOps t ops) := by
  obtain ⟨hi, hv⟩ := C12_restore_inv hr
  have hi' := C12_inv_reachable hi ops
  refine ⟨hi', ?_⟩
  have hv' : (runOps t ops).conf.incoming ≠ [] ∨ runOps t ops = Tracker.empty := by
    clear hr
    induction ops generalizing t with
    | nil => exact hv
    | cons op ops ih =>
      exact ih (C12_inv_step hi op) (C12_voters_nonempty_step hi op hv) (C12_inv_reachable (C12_inv_step hi op) ops)
  apply C12_restore_toConfState hi' hv'
  simp [confStateEq]

/-! ## non-vacuity: concrete states meeting the hypotheses -/

/-- a joint configuration `(1 2 3)&&(1 2 4 6)`, learner 5, staged learner 4, auto-leave (the example
of restore.rs) -/
def exJoint : Tracker :=
  { conf := { incoming := [1, 2, 3], outgoing := [1, 2, 4, 6], learners := [5], learnersNext := [4],
              autoLeave := true },
    progress := [1, 2, 3, 4, 5, 6] }

example : CfgInv exJoint := cfgInv_of_cfgInvB rfl
example : exJoint.conf.incoming ≠ [] := by decide +kernel

/-- it is reachable from the empty tracker … -/
example : runOps Tracker.empty
    [.simple [⟨.addNode, 1⟩], .simple [⟨.addNode, 2⟩], .simple [⟨.addNode, 4⟩], .simple [⟨.addNode, 6⟩],
     .enterJoint true [⟨.removeNode, 6⟩, ⟨.addLearnerNode, 4⟩, ⟨.addNode, 3⟩, ⟨.addLearnerNode, 5⟩]] = exJoint := by
  decide +kernel

/-- … `restore` rebuilds it from a shuffled `ConfState` with a repeated id … -/
example : restore Tracker.empty
    { voters := [3, 1, 2, 3], votersOutgoing := [6, 4, 2, 1], learners := [5], learnersNext := [4],
      autoLeave := true } = .ok exJoint := rfl

/-- … a simple change on a 3-voter configuration, a quorum before and a quorum after -/
def exThree : Tracker := { conf := { incoming := [1, 2, 3] }, progress := [1, 2, 3] }
example : CfgInv exThree := cfgInv_of_cfgInvB rfl
example : simple exThree [⟨.addNode, 4⟩] = .ok ({ incoming := [1, 2, 3, 4] }, [(4, .add)]) := rfl
example : Deciding exThree.conf [2, 3] := by decide +kernel
example : Deciding { incoming := [1, 2, 3, 4] } [1, 2, 4] := by decide +kernel
example : Deciding exJoint.conf [1, 2, 4] := by decide +kernel
example : ¬ Deciding exJoint.conf [1, 2, 3] := by decide +kernel
/-- leaving the joint configuration of `exJoint` -/
example : leaveJoint exJoint =
    .ok ({ incoming := [1, 2, 3], learners := [4, 5] }, [(6, .remove)]) := rfl
/-- rejected changes -/
example : simple exThree [⟨.addNode, 4⟩, ⟨.addNode, 5⟩] = .error .multiVoter := rfl
example : simple exJoint [⟨.addNode, 7⟩] = .error .simpleInJoint := rfl
example : enterJoint exThree false [⟨.removeNode, 1⟩, ⟨.removeNode, 2⟩, ⟨.removeNode, 3⟩] = .error .removedAll := rfl

end RaftProps.C12
