import RaftProofs.ProtoVStep
import RaftProofs.ProtoQuorum

/-!
# C02 — election safety: at most one leader per term

Theorems about the abstract protocol P (`RaftModel/Proto.lean`), for **every** reachable state of
**every** history of P — the voter configuration in force is part of each `win` event and may differ
from election to election (simple and joint membership changes): any number of nodes, any interleaving, any loss / duplication / delay / reordering of messages (the
released-message sets are monotone and a receiver may consume any element any number of times), any
crash point and restart (volatile state := durable image), pre-vote / check-quorum / priority /
transfer on or off (they only *restrict* when the implementation takes a `grant` or `campaign`
step, and P allows all of them).

The tie to the code: every implementation history produced by the cluster harness is checked, event
by event, to be a history of P (`applyEvent` accepts every event; the P state equals the node's
view after every call).

Membership changes: P does not derive a node's configuration from its log (that is the component
theorem C09/C12); it takes the configuration from the event and demands of every `win` that all
elections of the same term so far were decided under configurations whose quorums meet the winner's
(`adjOk`: equal configurations, or one membership-change step apart — a decidable check proved to
imply quorum intersection, `adj_intersect`).  The implementation has to meet that demand on every
trace; the monitor "one effective leader per term" checks the conclusion directly as well.
-/
namespace RaftProps.C02
open RaftModel.P

/-- **One vote per (term, voter), ever**: across crashes and restarts, every node's released grants
name at most one candidate per term. -/
theorem C02_one_vote_per_term_ever (s : PSys) (hr : Reach s)
    (g1 g2 : Grant) (h1 : g1 ∈ s.grants) (h2 : g2 ∈ s.grants)
    (ht : g1.term = g2.term) (hv : g1.voter = g2.voter) : g1.cand = g2.cand := by
  have I := invV_reachR s hr
  exact I.gc g1.voter g1 g2 (Or.inr ⟨h1, rfl⟩) (Or.inr ⟨h2, hv.symm⟩) ht

/-- every election that ever happened was decided by a quorum — of the configuration recorded for it —
of released grants -/
theorem C02_elected_by_quorum (s : PSys) (hr : Reach s) (t l : Nat)
    (h : (t, l) ∈ s.elected) :
    ∃ cfg q, (t, cfg) ∈ s.ecfgs ∧ cfg.isQuorum q = true ∧ ∀ x ∈ q, (⟨t, x, l⟩ : Grant) ∈ s.grants :=
  ((invV_reachR s hr).el (t, l) h).2

/-- **Election safety**, for every history — the voter configuration may change from election to
election (joint and simple membership changes): `elected` records every election that ever
happened; no two distinct nodes are ever elected for the same term.  (Two elections of one term are
decided under configurations whose quorums meet — `win` demands it of the implementation — so they
share a voter, who votes once.) -/
theorem C02_election_safety (s : PSys) (hr : Reach s) (t a b : Nat)
    (ha : (t, a) ∈ s.elected) (hb : (t, b) ∈ s.elected) : a = b :=
  (invV_reachR s hr).eu (t, a) ha (t, b) hb rfl

/-- a node in the leader role was elected for its current term -/
theorem C02_leader_was_elected (s : PSys) (hr : Reach s) (i : Nat)
    (h : (s.nodes i).role = 2) : ((s.nodes i).term, i) ∈ s.elected :=
  ((invV_reachR s hr).ld i h).1

/-- **At most one leader per term** in every reachable state. -/
theorem C02_one_leader_per_term (s : PSys) (hr : Reach s) (i j : Nat)
    (hi : (s.nodes i).role = 2) (hj : (s.nodes j).role = 2)
    (ht : (s.nodes i).term = (s.nodes j).term) : i = j := by
  have h1 := C02_leader_was_elected s hr i hi
  have h2 := C02_leader_was_elected s hr j hj
  rw [ht] at h1
  exact C02_election_safety s hr _ i j h1 h2

/-- the full statement of the property as the design wrote it down (`C02_full_statement`), for histories in which the voter
configuration changes -/
theorem C02_full : ∀ (s : PSys), Reach s → ∀ t a b, (t, a) ∈ s.elected → (t, b) ∈ s.elected → a = b :=
  fun s hr t a b ha hb => C02_election_safety s hr t a b ha hb

/-- the local obligation behind it, read off the step function: a `win` step needs a candidate
that voted for itself, its own *released* (= durable) self-vote, and released grants from a quorum -/
theorem C02_win_obligation (s s' : PSys) (i : Nat) (cfg : Cfg) (q : List Nat)
    (h : applyEvent s (.win i cfg q) = .ok s') :
    (s.nodes i).up = true ∧ (s.nodes i).role = 1 ∧ (s.nodes i).vote = i ∧ cfg.isQuorum q = true ∧
    (⟨(s.nodes i).term, i, i⟩ : Grant) ∈ s.grants ∧
    ∀ x ∈ q, (⟨(s.nodes i).term, x, i⟩ : Grant) ∈ s.grants := by
  obtain ⟨hg, rfl⟩ := of_guard_ok h
  refine ⟨hg.1, hg.2.1, hg.2.2.1, hg.2.2.2.1, ?_, ?_⟩
  · simpa [List.contains_iff_mem] using hg.2.2.2.2.1
  · have := hg.2.2.2.2.2.1
    simp only [List.all_eq_true, List.contains_iff_mem] at this
    exact this

/-- a vote is decided only for a released, up-to-date request of the voter's current term, and only
if the voter has not voted for someone else in that term -/
theorem C02_grant_obligation (s s' : PSys) (i c : Nat) (h : applyEvent s (.grant i c) = .ok s') :
    ((s.nodes i).vote = 0 ∨ (s.nodes i).vote = c) ∧
    ∃ r ∈ s.reqs, r.term = (s.nodes i).term ∧ r.cand = c ∧
      upToDate r.lastTerm r.lastIdx (s.nodes i).log = true := by
  obtain ⟨r, hr, hp, hg, _⟩ := grant_ok h
  exact ⟨hg.2.2.2.1, r, hr, hp⟩

/-! ### non-vacuity: a three-voter history with a crash in which node 1 is elected for term 1 -/

def c3 : Cfg := ⟨[1, 2, 3], []⟩

def history : List Event :=
  [.bump 1 1, .campaign 1, .rdy 1, .persist 1 1, .release 1 (.grant 1 1 1 {}), .release 1 (.voteReq 1 1 0 0),
   .bump 2 1, .grant 2 1, .rdy 2, .crash 3, .persist 2 1, .release 2 (.grant 1 2 1 {}), .restart 3,
   .win 1 c3 [1, 2]]

example : (match run init history with | .ok s => s.elected | .error _ => []) = [(1, 1)] := by decide +kernel

example : (match run init history with | .ok s => (s.nodes 1).role | .error _ => 0) = 2 := by decide +kernel

/-- a second candidate cannot win the same term: node 2 already granted node 1 -/
example : (match run init (history ++ [.bump 3 1, .campaign 3, .rdy 3, .persist 3 1,
    .release 3 (.grant 1 3 3 {}), .release 3 (.voteReq 1 3 0 0), .grant 2 3]) with
    | .ok _ => "accepted" | .error _ => "rejected") = "rejected" := by decide +kernel

end RaftProps.C02
