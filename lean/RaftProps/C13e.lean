import RaftProofs.ClusterFlow3B
import RaftProofs.ClusterConfD
import RaftProofs.ClusterSnap2C

/-!
# C13e — flow control per STEP of a cluster history (partial)

C13: "Toward each follower the leader keeps at most `max_inflight_msgs` unacknowledged entry-carrying appends
while replicating, keeps at most one outstanding while probing, sends none while a snapshot is outstanding".

Here, for plain histories (`History h`, no bundle, no fixed configuration), per step `h[n] → h[n+1]`:

* `C13_cluster_no_append_while_snapshot_outstanding_partial`: if node `i` is leader before the step and its
  progress for `j` is in the `Snapshot` state, then the `MsgAppend`s addressed to `j` in the queue of `i`
  after the step are a **sublist of those before** (`apOf j` = the `to = j ∧ msgType = MsgAppend` projection
  of `raft.msgs`, in order): no append to `j` was queued, none was modified by batching.  The projection is
  in fact unchanged, except by the `send` step, which empties the queue.
* `C13_cluster_probe_sends_at_most_one_partial`: the same for a progress in the `Probe` state with
  `paused = true` (the one probe is outstanding), for `j ≠ i`.

**Partial**: the steps covered (`coveredLabel t l`, `t` = the term of the acting leader before the step) are
* the `send` steps and every step of another node;
* the `call` steps of every `NodeOp` the application may call except `apply_conf_change` (`tick`, `propose`,
  `propose_conf_change`, `read_index`, `transfer_leader`, `campaign`, `ping`, `request_snapshot`,
  `report_unreachable`, `report_snapshot`, `stabilize`, `on_persist_entries`, `persist_snap`, `commit_apply`,
  `compact`, the knobs, the group-commit calls, `on_entries_fetched`);
* the `deliver` steps of a message that carries no term or the leader's term and is neither a
  `MsgAppendResponse` nor a `MsgHeartbeatResponse` (forwarded proposals / read requests, vote requests of the
  same term, `MsgTransferLeader`, stray messages).
NOT covered: the delivery of `MsgAppendResponse` / `MsgHeartbeatResponse` (the handlers that legitimately leave
the `Snapshot` / paused state and then send), the delivery of a message of another term (`become_follower`,
then the follower / candidate handlers), the `restart` steps and the call `apply_conf_change`.  For the covered
steps the hypothesis "the progress is still held after the step" is not needed (none of them resolves the
snapshot and then sends an append: `report_snapshot` resolves it and sends nothing), so it is not assumed.

Two cautions for the uncovered steps, from reading the model (not machine-checked here).  (a) For `Probe` +
`paused`, the shape "held before and after ⇒ no new append" is FALSE at the delivery of a `MsgHeartbeatResponse`
from `j`: `handle_heartbeat_response` resumes the progress and `send_append` queues one `MsgAppend`, after which
the progress is `Probe` + `paused` again (that is raft-rs' behaviour: one probe per heartbeat round).  (b) At
the delivery of a message of a higher term the node can go leader → follower → candidate → leader within one call
(`MsgTimeoutNow`, a single voter with learners): `become_leader` + `bcast_append` queue appends to peers whose
progress was re-created; a full statement needs "same term after the step" or "the progress was never reset".

Non-vacuity: `C13_cluster_snapshot_nonvacuous` — the snapshot history `Snap2.sx_hist` (34 states) extended by
one `propose` at the leader (node 1) while its snapshot for node 3 is outstanding: the step queues a
`MsgAppend` for node 2 and none for node 3.
-/
namespace RaftProps.C13e
open RaftModel RaftModel.Cluster RaftModel.Node RaftModel.Raft.F3

/-- the steps covered -/
def coveredLabel (t : Nat) : Label → Bool
  | .call _ _ op => covered t op
  | .send _ => true
  | .deliver _ _ m => covered t (.step m)
  | .restart _ _ _ => false

/-- one labelled step, any held kind (`pb = false`: `Snapshot` only; `pb = true`: also `Probe` + `paused`) -/
theorem lstep_na {pb : Bool} {s s' : Sys} {l : Label} (hs : LStep s l s')
    (i j : Nat) (st st' : NState) (pr : Progress)
    (hn : s.node i = some st) (hc : i = l.node → coveredLabel st.raft.term l = true) (hn' : s'.node i = some st') (hl : st.raft.state = .leader)
    (hj : pb = false ∨ j ≠ st.raft.id)
    (hg : st.raft.prs.get j = some pr) (hh : Held pb pr) :
    (apOf j st'.raft.msgs).Sublist (apOf j st.raft.msgs) := by
  by_cases hk : i = l.node
  · have hc := hc hk
    cases hs with
    | call k stx stx' rnd op res g1 g2 g3 =>
      have hk' : i = k := hk
      subst hk'
      rw [hn] at g1; cases g1
      rw [node_setNode_self] at hn'; cases hn'
      exact call_na_partial j st st' rnd op res g3 hc hl hj pr hg hh
    | deliver k stx stx' rnd m res g1 g2 g3 g4 =>
      have hk' : i = k := hk
      subst hk'
      rw [hn] at g1; cases g1
      rw [node_setNode_self] at hn'; cases hn'
      exact call_na_partial j st st' rnd (.step m) res g4 hc hl hj pr hg hh
    | send k stx stx' g1 g2 g3 =>
      have hk' : i = k := hk
      subst hk'
      rw [hn] at g1; cases g1
      have : ({ (s.setNode i stx') with net := s.net ++ st.raft.msgs } : Sys).node i = some stx' :=
        node_setNode_self s i stx'
      rw [this] at hn'; cases hn'
      exact call_na_partial j st st' none .drain .ok g3 rfl hl hj pr hg hh
    | restart k stx stx' c rnd => cases hc
  · have := lstep_other hs i hk
    rw [this, hn] at hn'
    cases hn'
    exact List.Sublist.refl _

/-- **C13, snapshot outstanding, per step (partial)**: at a covered step of a history, a node that is leader
before the step and whose progress for `j` is in the `Snapshot` state queues no `MsgAppend` for `j` -/
theorem C13_cluster_no_append_while_snapshot_outstanding_partial (h : List Sys) (hh : History h)
    (n : Nat) (s s' : Sys) (hs : h[n]? = some s) (hs' : h[n + 1]? = some s') :
    ∃ l, LStep s l s' ∧
      ∀ (i j : Nat) (st st' : NState) (pr : Progress),
        s.node i = some st → s'.node i = some st' → st.raft.state = .leader →
        (i = l.node → coveredLabel st.raft.term l = true) →
        st.raft.prs.get j = some pr → pr.state = .snapshot →
        (apOf j st'.raft.msgs).Sublist (apOf j st.raft.msgs) ∧
        ∀ m ∈ st'.raft.msgs, m.to = j → m.msgType = .msgAppend → m ∈ st.raft.msgs := by
  obtain ⟨l, hl⟩ := step_iff_lstep.1 (hist_step_at hh n s s' hs hs')
  refine ⟨l, hl, fun i j st st' pr hn hn' hlead hc hg hsnap => ?_⟩
  have hsub := lstep_na (pb := false) hl i j st st' pr hn hc hn' hlead (Or.inl rfl) hg (Or.inl hsnap)
  refine ⟨hsub, fun m hm h1 h2 => ?_⟩
  have hin : m ∈ apOf j st'.raft.msgs := by simp [apOf, hm, h1, h2]
  have := hsub.subset hin
  simp [apOf] at this
  exact this.1

/-- **C13, one probe outstanding, per step (partial)**: at a covered step of a history, a node that is leader
before the step and whose progress for `j ≠ i` is in the `Probe` state with `paused` queues no `MsgAppend`
for `j` -/
theorem C13_cluster_probe_sends_at_most_one_partial (h : List Sys) (hh : History h)
    (n : Nat) (s s' : Sys) (hs : h[n]? = some s) (hs' : h[n + 1]? = some s') :
    ∃ l, LStep s l s' ∧
      ∀ (i j : Nat) (st st' : NState) (pr : Progress),
        s.node i = some st → s'.node i = some st' → st.raft.state = .leader →
        (i = l.node → coveredLabel st.raft.term l = true) → j ≠ st.raft.id →
        st.raft.prs.get j = some pr → pr.state = .probe → pr.paused = true →
        (apOf j st'.raft.msgs).Sublist (apOf j st.raft.msgs) ∧
        ∀ m ∈ st'.raft.msgs, m.to = j → m.msgType = .msgAppend → m ∈ st.raft.msgs := by
  obtain ⟨l, hl⟩ := step_iff_lstep.1 (hist_step_at hh n s s' hs hs')
  refine ⟨l, hl, fun i j st st' pr hn hn' hlead hc hne hg hp1 hp2 => ?_⟩
  have hsub := lstep_na (pb := true) hl i j st st' pr hn hc hn' hlead (Or.inr hne) hg
    (Or.inr ⟨rfl, hp1, hp2⟩)
  refine ⟨hsub, fun m hm h1 h2 => ?_⟩
  have hin : m ∈ apOf j st'.raft.msgs := by simp [apOf, hm, h1, h2]
  have := hsub.subset hin
  simp [apOf] at this
  exact this.1

/-! ### non-vacuity -/

open RaftModel.Cluster.Snap2 RaftProps.C02

/-- the leader (node 1) of the snapshot history after one more proposal, made while its snapshot for node 3 is
outstanding -/
def ex_a19 : NState := c02x_st (Node.call sx_a18 none (.propose [] [7]))
def ex_t12 : Sys := sx_t11.setNode 1 ex_a19
def ex_hist : List Sys := sx_hist ++ [ex_t12]

/-- the proposal, evaluated once: the call succeeds on a leader with an empty queue whose progress for node 3
is in the `Snapshot` state with `pending_snapshot = 2`, before and after; an append for node 2 is queued -/
theorem ex_eval :
    c02x_ok (Node.call sx_a18 none (.propose [] [7])) = true ∧ sx_a18.raft.state = .leader ∧
    sx_a18.raft.msgs = [] ∧
    (sx_a18.raft.prs.get 3).map (fun p => (p.state, p.pendingSnapshot)) = some (.snapshot, 2) ∧
    (ex_a19.raft.prs.get 3).map (fun p => (p.state, p.pendingSnapshot)) = some (.snapshot, 2) ∧
    ex_a19.raft.msgs.any (fun m => decide (m.to = 2 ∧ m.msgType = .msgAppend)) = true := by
  decide +kernel

theorem ex_lstep : LStep sx_t11 (.call 1 none (.propose [] [7])) ex_t12 :=
  LStep.call _ 1 sx_a18 ex_a19 none (.propose [] [7]) _ rfl rfl (c02x_out _ ex_eval.1)

theorem ex_history : History ex_hist := by
  have h0 : sx_hist = sx_hist.dropLast ++ [sx_t11] := by rfl
  have h1 : History (sx_hist.dropLast ++ [sx_t11]) := h0 ▸ sx_history
  have h2 := History.step _ _ ex_t12 h1 (step_iff_lstep.2 ⟨_, ex_lstep⟩)
  have h3 : ex_hist = sx_hist.dropLast ++ [sx_t11, ex_t12] := by
    show sx_hist ++ [ex_t12] = _
    rw [h0]; simp
  rw [h3]; exact h2

/-- the step `ex_hist[33] → ex_hist[34]` is a covered step (a `propose` at node 1) at which node 1 is leader, its
progress for node 3 is in the `Snapshot` state with `pending_snapshot = 2` before and after; the step queues an
append for node 2 and — by the theorem — none for node 3 -/
theorem C13_cluster_snapshot_nonvacuous :
    History ex_hist ∧ ex_hist[33]? = some sx_t11 ∧ ex_hist[34]? = some ex_t12 ∧
    LStep sx_t11 (.call 1 none (.propose [] [7])) ex_t12 ∧
    coveredLabel sx_a18.raft.term (.call 1 none (.propose [] [7])) = true ∧
    sx_t11.node 1 = some sx_a18 ∧ ex_t12.node 1 = some ex_a19 ∧ sx_a18.raft.state = .leader ∧
    (∃ pr pr', sx_a18.raft.prs.get 3 = some pr ∧ pr.state = .snapshot ∧ pr.pendingSnapshot = 2 ∧
      ex_a19.raft.prs.get 3 = some pr' ∧ pr'.state = .snapshot ∧ pr'.pendingSnapshot = 2) ∧
    (∃ m ∈ ex_a19.raft.msgs, m.to = 2 ∧ m.msgType = .msgAppend) ∧
    apOf 3 ex_a19.raft.msgs = [] := by
  obtain ⟨-, hlead, hq, h1, h2, happ⟩ := ex_eval
  refine ⟨ex_history, rfl, rfl, ex_lstep, rfl, rfl, rfl, hlead, ?_, ?_, ?_⟩
  · cases ha : sx_a18.raft.prs.get 3 with
    | none => rw [ha] at h1; cases h1
    | some pr =>
      cases hb : ex_a19.raft.prs.get 3 with
      | none => rw [hb] at h2; cases h2
      | some pr' =>
        rw [ha] at h1; rw [hb] at h2
        simp only [Option.map_some, Option.some.injEq, Prod.mk.injEq] at h1 h2
        exact ⟨pr, pr', rfl, h1.1, h1.2, rfl, h2.1, h2.2⟩
  · obtain ⟨m, hm, hd⟩ := List.any_eq_true.1 happ
    exact ⟨m, hm, of_decide_eq_true hd⟩
  · -- by the theorem (`lstep_na`): the queue of `sx_a18` is empty
    cases hx : apOf 3 ex_a19.raft.msgs with
    | nil => rfl
    | cons m t =>
      exfalso
      have hsub := lstep_na (pb := false) ex_lstep 1 3 sx_a18 ex_a19
      cases ha : sx_a18.raft.prs.get 3 with
      | none => rw [ha] at h1; cases h1
      | some pr =>
        rw [ha] at h1
        simp only [Option.map_some, Option.some.injEq, Prod.mk.injEq] at h1
        have := hsub pr rfl (fun _ => rfl) rfl hlead (Or.inl rfl) ha (Or.inl h1.1)
        rw [hq, hx] at this
        simp [apOf] at this

end RaftProps.C13e

#print axioms RaftProps.C13e.lstep_na
#print axioms RaftProps.C13e.C13_cluster_no_append_while_snapshot_outstanding_partial
#print axioms RaftProps.C13e.C13_cluster_probe_sends_at_most_one_partial
#print axioms RaftProps.C13e.ex_lstep
#print axioms RaftProps.C13e.ex_history
#print axioms RaftProps.C13e.C13_cluster_snapshot_nonvacuous
