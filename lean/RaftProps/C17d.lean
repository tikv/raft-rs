import RaftProofs.ClusterXferB
import RaftProofs.ClusterFlow2A
import RaftProofs.ClusterFlow2X
import RaftProps.C17c
import RaftProps.C01j

/-!
# C17d — leadership transfer on ClusterSem, **with log compaction, snapshots between nodes and `request_snapshot`**

`RaftProps/C17c.lean` proves the cluster-level statements of C17 under `Cluster.Hyp` / `Cluster.Hyp3w`
— histories **without** compaction and **without** `MsgSnapshot`s.  This file proves them for the
histories of the snapshot layer (`RaftProps/C01j.lean`; step contract `Snap5.KStep`: compaction under
the storage contract, snapshots between nodes, free use of `request_snapshot`), under
**`Snap5.Hyp3r`**, the bundle of C01j:

* `C17_cluster_timeout_now_target_caught_up_partial` (the `matched = last_index` half) and
  `C17_cluster_one_leader_per_term` — conclusions word for word those of C17c; also under the weaker
  `Snap5.Flow2.HypR` (`…_of_hypR`: `Snap5.Hyp` without `reqok`);
* `C17_cluster_transfer_winner_holds_committed` — from `C03_cluster_leader_completeness` of C01j; the
  equality of the winner's log and the committing leader's log is stated for the ghost (uncompacted)
  logs `Snap.FL` and for the logical logs at every index both retain;
* `C17_cluster_timeout_now_target_caught_up` and `C17_cluster_timeout_now_target_storage` — the
  acknowledgement that backs `matched = last_index`, with the agreement of the target's log / storage
  and the leader's log stated for the ghost logs `Snap.FL` / `Snap.FS` and for the real logs above both
  snapshot points;
* non-vacuity: in the 46-state history `Snap5.Flow2.fx_hist` (compaction, two snapshots,
  `request_snapshot`, then `ping`, `send`, `transfer_leader(2)`, `send`) the transport of the last
  state holds a `MsgTimeoutNow` of the leader 1 — whose log is compacted — for node 2, which restored
  a snapshot earlier in the history.
-/
namespace RaftProps.C17d
open RaftModel RaftModel.Cluster RaftModel.Node

/-! ## the `Hyp` halves -/

/-- `C17_cluster_timeout_now_target_caught_up_partial` under the weakest bundle (`Snap5.Hyp` without
`reqok`) -/
theorem C17_cluster_timeout_now_target_caught_up_partial_of_hypR (cfg : JointConfig)
    (h : List Sys) (H : Snap5.Flow2.HypR cfg h) (n : Nat) (s : Sys) (hn : h[n]? = some s)
    (x : Message) (hx : x ∈ s.net ∨ ∃ i st, s.node i = some st ∧ x ∈ st.raft.msgs)
    (hty : x.msgType = .msgTimeoutNow) :
    ∃ (n0 : Nat) (s0 : Sys) (stL : NState) (pr : Progress), n0 ≤ n ∧ h[n0]? = some s0 ∧
      s0.node x.frm = some stL ∧ stL.raft.state = .leader ∧ stL.raft.term = x.term ∧
      stL.raft.prs.get x.to = some pr ∧ pr.matched = stL.raft.raftLog.lastIndex :=
  tn_source (.of_ghyp H.toHyp.g) hn hx hty

/-- **C17 `cluster_timeout_now_target_caught_up`, the `matched = last_index` half, with compaction,
snapshots and `request_snapshot`** (under `Snap5.Hyp3r`, the bundle of `RaftProps/C01j.lean`).  In
every state `h[n]`, every `MsgTimeoutNow` `x` in the transport or in some node's queue was queued by
its sender `x.from` at an earlier-or-equal point `h[n0]` at which that node was leader of term `x.term`
and its progress for `x.to` had `matched = last_index` of its log. -/
theorem C17_cluster_timeout_now_target_caught_up_partial (cfg : JointConfig) (c0 : Nat)
    (h : List Sys) (H : Snap5.Hyp3r cfg c0 h) (n : Nat) (s : Sys) (hn : h[n]? = some s)
    (x : Message) (hx : x ∈ s.net ∨ ∃ i st, s.node i = some st ∧ x ∈ st.raft.msgs)
    (hty : x.msgType = .msgTimeoutNow) :
    ∃ (n0 : Nat) (s0 : Sys) (stL : NState) (pr : Progress), n0 ≤ n ∧ h[n0]? = some s0 ∧
      s0.node x.frm = some stL ∧ stL.raft.state = .leader ∧ stL.raft.term = x.term ∧
      stL.raft.prs.get x.to = some pr ∧ pr.matched = stL.raft.raftLog.lastIndex :=
  C17_cluster_timeout_now_target_caught_up_partial_of_hypR cfg h H.toHypR n s hn x hx hty

/-- `C17_cluster_one_leader_per_term` under the weakest bundle (`Snap5.Hyp` without `reqok`) -/
theorem C17_cluster_one_leader_per_term_of_hypR (cfg : JointConfig) (h : List Sys)
    (H : Snap5.Flow2.HypR cfg h)
    (n : Nat) (s : Sys) (hn : h[n]? = some s) (x : Message)
    (hx : x ∈ s.net ∨ ∃ i st, s.node i = some st ∧ x ∈ st.raft.msgs)
    (hty : x.msgType = .msgTimeoutNow) (hne : x.to ≠ x.frm) :
    (∀ s1 ∈ h, ∀ s2 ∈ h, ∀ T, leads s1 x.frm T → ¬ leads s2 x.to T) ∧
    (∀ s2 ∈ h, ¬ leads s2 x.to x.term) := by
  have es := RaftProps.C02.C02_cluster_election_safety cfg H.ne H.nd1 H.nd2 h H.hist H.fix
  refine ⟨fun s1 h1 s2 h2 T hl1 hl2 => hne (es s1 s2 h1 h2 x.frm x.to T hl1 hl2).symm, ?_⟩
  intro s2 h2 hl2
  obtain ⟨n0, s0, stL, _, _, hn0, hL, hs, ht, _, _⟩ := tn_source (.of_ghyp H.toHyp.g) hn hx hty
  exact hne (es s0 s2 (mem_of_get hn0) h2 x.frm x.to x.term ⟨stL, hL, hs, ht⟩ hl2).symm

/-- **C17 `cluster_one_leader_per_term`** (Election Safety for the transfer) **with compaction,
snapshots and `request_snapshot`**: for a `MsgTimeoutNow` `x` found anywhere in the history with
`x.to ≠ x.from`, the old leader `x.from` and the transferee `x.to` are never both leader of the same
term (in any two states of the history), and the transferee never leads the term `x.term` of the
message — that term was led by `x.from`. -/
theorem C17_cluster_one_leader_per_term (cfg : JointConfig) (c0 : Nat) (h : List Sys)
    (H : Snap5.Hyp3r cfg c0 h)
    (n : Nat) (s : Sys) (hn : h[n]? = some s) (x : Message)
    (hx : x ∈ s.net ∨ ∃ i st, s.node i = some st ∧ x ∈ st.raft.msgs)
    (hty : x.msgType = .msgTimeoutNow) (hne : x.to ≠ x.frm) :
    (∀ s1 ∈ h, ∀ s2 ∈ h, ∀ T, leads s1 x.frm T → ¬ leads s2 x.to T) ∧
    (∀ s2 ∈ h, ¬ leads s2 x.to x.term) :=
  C17_cluster_one_leader_per_term_of_hypR cfg h H.toHypR n s hn x hx hty hne

/-! ## the `Hyp3w` halves -/

/-- **C17 `cluster_timeout_now_target_caught_up`** (*"A leader tells a transfer target to campaign
immediately only once the target has acknowledged the leader's entire log"*) **with compaction,
snapshots and `request_snapshot`**, under `Snap5.Hyp3r`.  For every `MsgTimeoutNow` `x` in the
transport or in a queue of `h[n]` there is a point `n0 ≤ n` at which `L = x.from` was leader of term
`t = x.term` with `matched = last_index` for `j = x.to`, and — unless the leader's log ends at or below
the common initial snapshot point `c0`, or `j = L` (then `last_index ≤ persisted`) — an accepting
`MsgAppendResponse` `a` of `j` for term `t` with `index ≥ last_index` (the answer to a `MsgAppend` or to
a `MsgSnapshot`) is in the transport at `h[n0]` such that

* `j` queued `a` at some `h[n1]`, `n1 ≤ n0`, being in term `t`, **with a log that held the whole of `L`'s
  log (of `h[n0]`)**: the ghost (uncompacted) logs `Snap.FL` agree at every index up to `L`'s last
  index, hence the logical logs agree at every such index above both snapshot points;
* in every state of the history whose transport holds `a` and in which the **stored** term of `j` is
  `t`, the **storage** of `j` holds the whole of `L`'s log: the ghost stored log `Snap.FS` of `j` agrees
  with `Snap.FL` of `L` up to `L`'s last index, hence the stored log agrees with `L`'s logical log at
  every such index above both snapshot points. -/
theorem C17_cluster_timeout_now_target_caught_up (cfg : JointConfig) (c0 : Nat) (h : List Sys)
    (H : Snap5.Hyp3r cfg c0 h) (n : Nat) (s : Sys) (hn : h[n]? = some s) (x : Message)
    (hx : x ∈ s.net ∨ ∃ i st, s.node i = some st ∧ x ∈ st.raft.msgs)
    (hty : x.msgType = .msgTimeoutNow) :
    ∃ (n0 : Nat) (s0 : Sys) (stL : NState) (pr : Progress), n0 ≤ n ∧ h[n0]? = some s0 ∧
      s0.node x.frm = some stL ∧ stL.raft.state = .leader ∧ stL.raft.term = x.term ∧
      stL.raft.prs.get x.to = some pr ∧ pr.matched = stL.raft.raftLog.lastIndex ∧
      (stL.raft.raftLog.lastIndex ≤ c0 ∨
       (x.to = x.frm ∧ stL.raft.raftLog.lastIndex ≤ stL.raft.raftLog.persisted) ∨
       ∃ a ∈ s0.net, a.msgType = .msgAppendResponse ∧ a.reject = false ∧ a.frm = x.to ∧
        a.term = x.term ∧ stL.raft.raftLog.lastIndex ≤ a.index ∧
        (∃ (n1 : Nat) (s1 : Sys) (stj : NState), n1 ≤ n0 ∧ h[n1]? = some s1 ∧
          s1.node x.to = some stj ∧ a ∈ stj.raft.msgs ∧ stj.raft.term = x.term ∧
          (∀ k, k ≤ stL.raft.raftLog.lastIndex →
            (Snap.FL h c0 stj).entryAt k = (Snap.FL h c0 stL).entryAt k) ∧
          (∀ k, k ≤ stL.raft.raftLog.lastIndex → stj.raft.raftLog.abs.snapIdx < k →
            stL.raft.raftLog.abs.snapIdx < k →
            stj.raft.raftLog.abs.entryAt k = stL.raft.raftLog.abs.entryAt k)) ∧
        (∀ (m : Nat) (s' : Sys) (stj : NState), h[m]? = some s' → a ∈ s'.net →
          s'.node x.to = some stj → stj.raft.raftLog.store.hardState.term = x.term →
          (∀ k, k ≤ stL.raft.raftLog.lastIndex →
            (Snap.FS h c0 stj).entryAt k = (Snap.FL h c0 stL).entryAt k) ∧
          (∀ k, k ≤ stL.raft.raftLog.lastIndex →
            (storeLog stj.raft.raftLog.store).snapIdx < k → stL.raft.raftLog.abs.snapIdx < k →
            (storeLog stj.raft.raftLog.store).entryAt k = stL.raft.raftLog.abs.entryAt k))) := by
  obtain ⟨n0, s0, stL, pr, hle, hn0, hL, hs, ht, hg, hm⟩ :=
    tn_source (.of_ghyp H.toHypR.toHyp.g) hn hx hty
  refine ⟨n0, s0, stL, pr, hle, hn0, hL, hs, ht, hg, hm, ?_⟩
  have H2 := H.toHyp3w.toHyp2w
  rcases matched_backed (.of_ghyp3w H.toHyp3w.g) hn0 hL hs hg hm with
    c | c | ⟨a, a1, a2, a3, a4, a5, a6, ⟨n1, s1, stj, g1, g2, g3, g4, g5, g6⟩, a8⟩
  · exact .inl c
  · exact .inr (.inl c)
  · rw [ht] at a5 g5 a8
    exact .inr (.inr ⟨a, a1, a2, a3, a4, a5, a6,
      ⟨n1, s1, stj, g1, g2, g3, g4, g5, g6, Snap5.Flow2.real_of_ghost H2 g2 hn0 g3 hL g6⟩,
      fun m s' stj' hm' has hj hst => ⟨a8 m s' stj' hm' has hj hst,
        Snap5.Flow2.real_of_ghost_store H2 hm' hn0 hj hL (a8 m s' stj' hm' has hj hst)⟩⟩)

/-- … in particular **when the `MsgTimeoutNow` is delivered**: in the state `h[n]` whose transport (or
a queue) holds the `MsgTimeoutNow` `x` (of leader `L ≠ j`, term `t`), if the stored term of the addressee
`j` is still `t`, then the **storage** of `j` holds the whole log that `L` had when it queued `x` (ghost
logs; real logs above both snapshot points). -/
theorem C17_cluster_timeout_now_target_storage (cfg : JointConfig) (c0 : Nat) (h : List Sys)
    (H : Snap5.Hyp3r cfg c0 h) (n : Nat) (s : Sys) (hn : h[n]? = some s) (x : Message)
    (hx : x ∈ s.net ∨ ∃ i st, s.node i = some st ∧ x ∈ st.raft.msgs)
    (hty : x.msgType = .msgTimeoutNow) (hne : x.to ≠ x.frm) :
    ∃ (n0 : Nat) (s0 : Sys) (stL : NState), n0 ≤ n ∧ h[n0]? = some s0 ∧
      s0.node x.frm = some stL ∧ stL.raft.state = .leader ∧ stL.raft.term = x.term ∧
      ∀ stj, s.node x.to = some stj → stj.raft.raftLog.store.hardState.term = x.term →
        (∀ k, k ≤ stL.raft.raftLog.lastIndex →
          (Snap.FS h c0 stj).entryAt k = (Snap.FL h c0 stL).entryAt k) ∧
        (∀ k, k ≤ stL.raft.raftLog.lastIndex →
          (storeLog stj.raft.raftLog.store).snapIdx < k → stL.raft.raftLog.abs.snapIdx < k →
          (storeLog stj.raft.raftLog.store).entryAt k = stL.raft.raftLog.abs.entryAt k) := by
  obtain ⟨n0, s0, stL, pr, hle, hn0, hL, hs, ht, _, _, hb⟩ :=
    C17_cluster_timeout_now_target_caught_up cfg c0 h H n s hn x hx hty
  refine ⟨n0, s0, stL, hle, hn0, hL, hs, ht, fun stj hj hst => ?_⟩
  have H2 := H.toHyp3w.toHyp2w
  rcases hb with c | ⟨c, _⟩ | ⟨a, ha, _, _, _, _, _, _, hdur⟩
  · have I := (Snap5.ghost_inv H2.g n s hn).node x.to stj hj
    have I' := (Snap5.ghost_inv H2.g n0 s0 hn0).node x.frm stL hL
    have key : ∀ k, k ≤ stL.raft.raftLog.lastIndex →
        (Snap.FS h c0 stj).entryAt k = (Snap.FL h c0 stL).entryAt k := by
      intro k hk
      unfold LLog.entryAt
      rw [if_pos (by rw [I.sto.snap]; omega), if_pos (by rw [I'.log.snap]; omega)]
    exact ⟨key, Snap5.Flow2.real_of_ghost_store H2 hn hn0 hj hL key⟩
  · exact absurd c hne
  · exact hdur n s stj hn (hist_net_mono H2.hist hn0 hn hle a ha) hj hst

/-- **C17 `cluster_transfer_winner_holds_committed`** (Leader Completeness for the transfer) **with
compaction, snapshots and `request_snapshot`**.  Let `x` be a `MsgTimeoutNow` of term `t` found anywhere
in the history.  If its addressee `j = x.to` is leader of a term `t' > t` in any state `h[m]`, then for
every commit step `h[nc] → h[nc+1]` of a leader of a term `≤ t` — in particular everything the old
leader `x.from` (which did lead `t`, first conjunct) ever committed — the log of `j` reaches the
committed index and holds the committed entries: the ghost (uncompacted) logs `Snap.FL` are equal up to
the committed index, hence so are the logical logs at every index both still retain.  An application of
`C03_cluster_leader_completeness` of `RaftProps/C01j.lean`. -/
theorem C17_cluster_transfer_winner_holds_committed (cfg : JointConfig) (c0 : Nat) (h : List Sys)
    (H : Snap5.Hyp3r cfg c0 h) (n : Nat) (s : Sys) (hn : h[n]? = some s) (x : Message)
    (hx : x ∈ s.net ∨ ∃ i st, s.node i = some st ∧ x ∈ st.raft.msgs)
    (hty : x.msgType = .msgTimeoutNow)
    (m : Nat) (sm : Sys) (hm : h[m]? = some sm) (stj : NState) (hj : sm.node x.to = some stj)
    (hsj : stj.raft.state = .leader) (htj : x.term < stj.raft.term) :
    (∃ n0 s0, n0 ≤ n ∧ h[n0]? = some s0 ∧ leads s0 x.frm x.term) ∧
    ∀ (nc : Nat) (a b : Sys) (l : Nat) (sta stb : NState), h[nc]? = some a →
      h[nc + 1]? = some b → a.node l = some sta → b.node l = some stb →
      stb.raft.state = .leader → stb.raft.term ≤ x.term →
      sta.raft.raftLog.committed < stb.raft.raftLog.committed →
      stb.raft.raftLog.committed ≤ stj.raft.raftLog.abs.lastIndex ∧
      (∀ k, k ≤ stb.raft.raftLog.committed →
        (Snap.FL h c0 stj).entryAt k = (Snap.FL h c0 stb).entryAt k) ∧
      ∀ k, k ≤ stb.raft.raftLog.committed →
        stj.raft.raftLog.abs.snapIdx < k → stb.raft.raftLog.abs.snapIdx < k →
        stj.raft.raftLog.abs.entryAt k = stb.raft.raftLog.abs.entryAt k := by
  obtain ⟨n0, s0, stL, _, hle, hn0, hL, hs, ht, _, _⟩ :=
    tn_source (.of_ghyp H.toHypR.toHyp.g) hn hx hty
  refine ⟨⟨n0, s0, hle, hn0, stL, hL, hs, ht⟩, ?_⟩
  intro nc a b l sta stb ha hb hla hlb hsl htl hc
  exact RaftProps.C01j.C03_cluster_leader_completeness cfg c0 h H nc a b ha hb l sta stb hla hlb hsl
    hc m sm hm x.to stj hj hsj (Nat.lt_of_le_of_lt htl htj)

/-! ## Non-vacuity (kernel-evaluated, `RaftProofs/ClusterFlow2X.lean`) -/

section Examples
open RaftProps.C02 RaftModel.Cluster.Snap5.Flow2

/-- **non-vacuity**: the 46-state history `fx_hist` (compaction at node 1, a `MsgSnapshot` for node 3,
`request_snapshot` at node 2 served by a second `MsgSnapshot`, then `ping`, `send`,
`transfer_leader(2)`, `send` at the leader) satisfies `Snap5.Hyp3r` (voters `{1, 2, 3}`, `c0 = 0`); the
call `transfer_leader(2)` at leader 1 (term 1, log compacted to index 1, last index 2, `matched = 2`
for node 2) queues a `MsgTimeoutNow` for node 2, and the message is in the transport of `h[45]`. -/
theorem C17_cluster_transfer_snapshot_nonvacuous :
    ∃ h : List Sys, Snap5.Hyp3r c02x_cfg 0 h ∧
      ∃ (s : Sys) (x : Message) (stL : NState), h[45]? = some s ∧ x ∈ s.net ∧
        x.msgType = .msgTimeoutNow ∧ x.frm = 1 ∧ x.to = 2 ∧ x.term = 1 ∧
        (∃ res, Node.call fx_a22 none (.transferLeader 2) = .ok (res, stL)) ∧
        x ∈ stL.raft.msgs ∧ stL.raft.state = .leader ∧ stL.raft.term = 1 ∧
        stL.raft.raftLog.lastIndex = 2 ∧ stL.raft.raftLog.abs.snapIdx = 1 ∧
        (stL.raft.prs.get 2).map (·.matched) = some 2 := by
  obtain ⟨t1, t2, t3, t4⟩ := fx_tn_facts
  obtain ⟨a1, a2, a3, a4, a5⟩ := fx_a23_facts
  exact ⟨fx_hist, fx_hyp3r, fx_t4, fx_tn, fx_a23, fx_s45, fx_tn_mem, t1, t2, t3, t4,
    fx_tn_call.2, fx_tn_call.1, a1, a2, a3, a4, a5⟩

/-- … and the theorems apply to it: the `MsgTimeoutNow` in the transport of `h[45]` has a source -/
example : ∃ (n0 : Nat) (s0 : Sys) (stL : NState) (pr : Progress), n0 ≤ 45 ∧
    fx_hist[n0]? = some s0 ∧ s0.node fx_tn.frm = some stL ∧ stL.raft.state = .leader ∧
    stL.raft.term = fx_tn.term ∧ stL.raft.prs.get fx_tn.to = some pr ∧
    pr.matched = stL.raft.raftLog.lastIndex :=
  C17_cluster_timeout_now_target_caught_up_partial c02x_cfg 0 fx_hist fx_hyp3r 45 fx_t4 fx_s45
    fx_tn (.inl fx_tn_mem) fx_tn_facts.1

/-- … and node 2 never leads term 1 in it -/
example : ∀ s2 ∈ fx_hist, ¬ leads s2 fx_tn.to fx_tn.term :=
  (C17_cluster_one_leader_per_term c02x_cfg 0 fx_hist fx_hyp3r 45 fx_t4 fx_s45 fx_tn
    (.inl fx_tn_mem) fx_tn_facts.1
    (by rw [fx_tn_facts.2.2.1, fx_tn_facts.2.1]; decide)).2

/-- … and behind `matched = last_index = 2 > c0` stands an acknowledgement of node 2 (here: its answer
to the `MsgSnapshot` it asked for, or to an earlier `MsgAppend`) that covers the leader's log -/
example : ∃ (n0 : Nat) (s0 : Sys) (stL : NState), n0 ≤ 45 ∧ fx_hist[n0]? = some s0 ∧
    s0.node fx_tn.frm = some stL ∧ stL.raft.state = .leader ∧ stL.raft.term = fx_tn.term ∧
    ∀ stj, fx_t4.node fx_tn.to = some stj → stj.raft.raftLog.store.hardState.term = fx_tn.term →
      (∀ k, k ≤ stL.raft.raftLog.lastIndex →
        (Snap.FS fx_hist 0 stj).entryAt k = (Snap.FL fx_hist 0 stL).entryAt k) ∧
      (∀ k, k ≤ stL.raft.raftLog.lastIndex →
        (storeLog stj.raft.raftLog.store).snapIdx < k → stL.raft.raftLog.abs.snapIdx < k →
        (storeLog stj.raft.raftLog.store).entryAt k = stL.raft.raftLog.abs.entryAt k) :=
  C17_cluster_timeout_now_target_storage c02x_cfg 0 fx_hist fx_hyp3r 45 fx_t4 fx_s45 fx_tn
    (.inl fx_tn_mem) fx_tn_facts.1
    (by rw [fx_tn_facts.2.2.1, fx_tn_facts.2.1]; decide)

end Examples

end RaftProps.C17d
