import RaftProofs.ClusterRead2B
import RaftProofs.ClusterRead2G

/-!
# C08, cluster level, **with log compaction, snapshots between nodes and `request_snapshot`** —
# ReadIndex (Safe mode) is linearizable for `ClusterSem`, for reads issued at the leader

`RaftProps/C08c.lean` proves the two theorems below under `RdHyp`, which extends `Hyp3w`: the commit
layer **without** compaction and **without** snapshots.  This file proves the same conclusions for
histories in which the application compacts its logs, leaders send `MsgSnapshot`s to lagging followers,
followers restore and install them, and `request_snapshot` is used.

## Hypotheses (`Snap5.Rd.RdHypS cfg c0 h`, `RaftProofs/ClusterRead2B.lean`)

* `Snap5.Hyp3r cfg c0 h` — the strongest bundle of the snapshot layer (`RaftProps/C01j.lean`,
  `RaftProofs/ClusterSnap6D.lean`): fixed multi-voter configuration, the `Snap5.KStep` storage / Ready
  contract (compaction up to the recorded commit index, `SnapSend`, atomic installation of a pending
  snapshot), batching off, `first0`, `initc`, `pend0`, `snapt0`, `snapidx`;
* the read-specific fields of `RdHyp`, unchanged: `norir` (no `MsgReadIndexResp` in the transport: every
  read state then answers a request of the node's own queue — `read_state_ok`, `read_state_term` of
  `ClusterReadLocal`), `safe`, `nori` (reads are issued at the leader; without it the statement is false,
  `C08_cluster_forwarded_read_counterexample`), `uniq`, `nonempty`.

## What is specific to compaction and snapshots (`RaftProofs/ClusterRead2{A,B}.lean`)

* `snapStep_rd` (2A): the delivery of a `MsgSnapshot` — excluded by `call_rd` — satisfies the per-call
  relation `ROut` of the read path: `Raft::restore` replaces the progress tracker but touches neither
  `read_only` nor `read_states`; `handle_snapshot` queues one `MsgAppendResponse`;
* `step_commit_le` / `commit_mono` (2B): a node's commit index does not decrease over calls,
  compactions, delivered snapshots (kept / fast-forwarded / restored) and the installation of a pending
  snapshot;
* `idx_ok_reg` (2B): the read index recorded at registration bounds every earlier commit — Election
  Safety + `commit_mono` for the leader's own term; for earlier terms Leader Completeness **over the ghost
  (uncompacted) logs** (`Snap5.Sm.lc`), `Snap5.eq_ll`, and — when the leader's commit index is its
  snapshot point — the ghost entry of the snapshot term there (`Full.sT`), then `Snap5.term_le`;
* `ReadFacts.of_snap5` (2B) collects them, with `Snap5.Sm.nctm` (every commit index is covered by a
  leader's commit event), into what the read layer uses of the layers below (`R4.ReadFacts`);
* everything else is the read layer itself (`ClusterRead4I–4N`, `ClusterReadLocal`), stated once over
  `R4.ReadFacts`: the vote-layer facts (`C02_cluster_leader_has_quorum`, `C06_cluster_grant_durable`,
  `TermFloor`) only need `History` and the fixed configuration.
-/
namespace RaftProps.C08d
open RaftModel RaftModel.Cluster RaftModel.Node RaftModel.Raft.RD
open RaftModel.Cluster.Snap5 RaftModel.Cluster.Snap5.Rd

/-- the bundle, spelt out -/
theorem C08d_bundle (cfg : JointConfig) (c0 : Nat) (h : List Sys) :
    RdHypS cfg c0 h ↔
      (Snap5.Hyp3r cfg c0 h ∧
       (∀ s ∈ h, ∀ x ∈ s.net, x.msgType ≠ .msgReadIndexResp) ∧
       (∀ s ∈ h, ∀ i st, s.node i = some st → st.raft.readOnly.option = .safe) ∧
       (∀ s ∈ h, ∀ x ∈ s.net, x.msgType ≠ .msgReadIndex) ∧
       (∀ n1 n2 i1 i2 K, RegAt h n1 i1 K → RegAt h n2 i2 K → n1 = n2) ∧
       (∀ n i K, RegAt h n i K → K ≠ [])) :=
  ⟨fun H => ⟨H.toHyp3r, H.norir, H.safe, H.nori, H.uniq, H.nonempty⟩,
   fun ⟨a, b, c, d, e, f⟩ =>
     { toHyp3r := a, norir := b, safe := c, nori := d, uniq := e, nonempty := f }⟩

/-- **C08 `cluster_read_index_safe`, with compaction and snapshots** — Safe ReadIndex is linearizable for
reads issued at the leader.

Let the step `h[n] → h[n+1]` be a `read_index(ctx)` call on node `i` that registers the request
(`RegAt`).  If in any state `h[m]` of the history a `ReadState` with `request_ctx = ctx` and index
`x.index` sits in the read states of some node `j`, then `j = i`, `n < m`, and `x.index` is at least the
commit index of **every** node in `h[n]` — also of nodes whose commit index was set by restoring a
snapshot or by fast-forwarding to one. -/
theorem C08_cluster_read_index_safe (cfg : JointConfig) (c0 : Nat) (h : List Sys)
    (H : RdHypS cfg c0 h) (n i : Nat) (ctx : Bytes) (hreg : RegAt h n i ctx)
    (sn : Sys) (hn : h[n]? = some sn)
    (m : Nat) (s : Sys) (hm : h[m]? = some s) (j : Nat) (stj : NState) (hj : s.node j = some stj)
    (x : ReadState) (hx : x ∈ stj.raft.readStates) (hctx : x.requestCtx = ctx) :
    j = i ∧ n < m ∧
    ∀ u stu, sn.node u = some stu → stu.raft.raftLog.committed ≤ x.index :=
  read_state_ok H.toBase H.norir hreg hn hm hj hx hctx

/-- **C08 `cluster_superseded_leader_does_not_answer`, with compaction and snapshots** — let the request
`ctx` be registered by the step `h[n] → h[n+1]`, and let some node lead term `t'` in a state `h[n1]`,
`n1 ≤ n`.  Then whichever node adds a read state for `ctx` to its read states, in whichever step
`h[k] → h[k+1]`, has a term at least `t'` when it does so (`st` is its state before that step). -/
theorem C08_cluster_superseded_leader_does_not_answer (cfg : JointConfig) (c0 : Nat) (h : List Sys)
    (H : RdHypS cfg c0 h) (n i : Nat) (ctx : Bytes) (hreg : RegAt h n i ctx)
    (n1 : Nat) (s1 : Sys) (hn1 : h[n1]? = some s1) (hle : n1 ≤ n) (l' t' : Nat)
    (hl' : leads s1 l' t')
    (k : Nat) (a b : Sys) (ha : h[k]? = some a) (hb : h[k + 1]? = some b) (j : Nat)
    (st st' : NState) (hja : a.node j = some st) (hjb : b.node j = some st')
    (x : ReadState) (hx : x ∈ st'.raft.readStates) (hnew : x ∉ st.raft.readStates)
    (hctx : x.requestCtx = ctx) :
    t' ≤ st.raft.term :=
  read_state_term H.toBase H.norir hreg ha hb hja hjb hx hnew hctx hn1 hle hl'

/-- uniqueness and non-emptiness of the contexts of **all** `read_index` calls give the two hypotheses
`uniq` / `nonempty` of `RdHypS` -/
theorem RdHypS.of_calls {cfg : JointConfig} {c0 : Nat} {h : List Sys} (H3 : Snap5.Hyp3r cfg c0 h)
    (norir : ∀ s ∈ h, ∀ x ∈ s.net, x.msgType ≠ .msgReadIndexResp)
    (safe : ∀ s ∈ h, ∀ i st, s.node i = some st → st.raft.readOnly.option = .safe)
    (nori : ∀ s ∈ h, ∀ x ∈ s.net, x.msgType ≠ .msgReadIndex)
    (uniqc : ∀ n1 n2 i1 i2 K, ReadCallAt h n1 i1 K → ReadCallAt h n2 i2 K → n1 = n2)
    (nec : ∀ n i K, ReadCallAt h n i K → K ≠ []) : RdHypS cfg c0 h :=
  { toHyp3r := H3, norir := norir, safe := safe, nori := nori,
    uniq := fun n1 n2 i1 i2 K h1 h2 => uniqc n1 n2 i1 i2 K h1.call h2.call,
    nonempty := fun n i K hr => nec n i K hr.call }

/-- **C08 `cluster_read_index_safe`, stated for `read_index` calls**, with compaction and snapshots -/
theorem C08_cluster_read_index_safe_calls (cfg : JointConfig) (c0 : Nat) (h : List Sys)
    (H3 : Snap5.Hyp3r cfg c0 h)
    (norir : ∀ s ∈ h, ∀ x ∈ s.net, x.msgType ≠ .msgReadIndexResp)
    (safe : ∀ s ∈ h, ∀ i st, s.node i = some st → st.raft.readOnly.option = .safe)
    (nori : ∀ s ∈ h, ∀ x ∈ s.net, x.msgType ≠ .msgReadIndex)
    (uniqc : ∀ n1 n2 i1 i2 K, ReadCallAt h n1 i1 K → ReadCallAt h n2 i2 K → n1 = n2)
    (nec : ∀ n i K, ReadCallAt h n i K → K ≠ [])
    (n i : Nat) (ctx : Bytes) (hcall : ReadCallAt h n i ctx) (sn : Sys) (hn : h[n]? = some sn)
    (m : Nat) (s : Sys) (hm : h[m]? = some s) (j : Nat) (stj : NState) (hj : s.node j = some stj)
    (x : ReadState) (hx : x ∈ stj.raft.readStates) (hctx : x.requestCtx = ctx) :
    j = i ∧ n < m ∧
    ∀ u stu, sn.node u = some stu → stu.raft.raftLog.committed ≤ x.index := by
  have H := RdHypS.of_calls H3 norir safe nori uniqc nec
  subst hctx
  obtain ⟨n1, i1, _, hr⟩ := read_state_reg H.toBase.toReadFacts safe nori hm hj hx (nec n i _ hcall)
  have e := uniqc n1 n i1 i _ hr.call hcall
  subst e
  have ei : i1 = i := by
    obtain ⟨a, b, _, _, _, _, p1, p2, _, _, p5⟩ := hr.call
    obtain ⟨a', b', _, _, _, _, q1, q2, _, _, q5⟩ := hcall
    rw [p1] at q1; cases q1
    rw [p2] at q2; cases q2
    exact setNode_head_inj (p5.symm.trans q5)
  subst ei
  exact C08_cluster_read_index_safe cfg c0 h H n1 i1 _ hr sn hn m s hm j stj hj x hx rfl

/-- the read index a leader records covers every earlier commit of a term not above its own — with
compaction and snapshots (the lemma behind the first theorem, `Rd.idx_ok_reg`): for every commit event
`E` (a step in which a leader's commit index moves, `Ev.ok`) before `h[n0]` whose term is at most the
leader's, `E.c ≤ committed` -/
theorem C08d_leader_commit_covers_earlier_commits (cfg : JointConfig) (c0 : Nat) (h : List Sys)
    (H : Snap5.Hyp3r cfg c0 h) (n0 : Nat) (a : Sys) (ha : h[n0]? = some a) (v : Nat) (st : NState)
    (hv : a.node v = some st) (hl : st.raft.state = .leader)
    (hc : st.raft.commitToCurrentTerm = .ok true) :
    c0 ≤ st.raft.raftLog.committed ∧
    ∀ E : Ev, E.ok h → E.nE < n0 → E.t ≤ st.raft.term → E.c ≤ st.raft.raftLog.committed :=
  Rd.idx_ok_reg (Snap5.Hyp3w.toHyp3a H.toHyp3w) ha hv hl hc

/-- a node's commit index does not decrease over a step that is not its restart — calls, compactions,
delivered snapshots and the installation of a pending snapshot included -/
theorem C08d_commit_index_monotone_step (cfg : JointConfig) (c0 : Nat) (h : List Sys)
    (H : Snap5.Hyp3r cfg c0 h) (n : Nat) (a b : Sys) (ha : h[n]? = some a) (hb : h[n + 1]? = some b)
    (v : Nat) (st st' : NState) (hv : a.node v = some st) (hv' : b.node v = some st')
    (hnr : ¬ RaftProps.C02.IsRestart v a b) :
    st.raft.raftLog.committed ≤ st'.raft.raftLog.committed :=
  Rd.step_commit_le H.toHyp3w.toHyp2w ha hb hv hv' hnr

/-- the delivery of a `MsgSnapshot` neither answers nor registers a read: the read states, the pending
requests and the heartbeats / heartbeat responses of the queue are those of before (`ROut`, the per-call
relation of the read path, holds for it) -/
theorem C08d_snapshot_delivery_read_path (st st' : NState) (rnd : Option Nat) (m : Message)
    (res : OpRes) (hsn : m.msgType = .msgSnapshot)
    (h : Node.call st rnd (.step m) = .ok (res, st')) :
    ROut st.raft.prs.voters st.raft m st'.raft :=
  snapStep_rd st st' rnd m res hsn h

/-- the bundle of C08c implies this one?  No: `RdHyp` allows no compaction under *weaker* contract
clauses; what holds is that the snapshot bundle `Snap5.Hyp3r` with the read fields gives `RdHypS`
(`C08d_bundle`), and that the read fields are literally those of `RdHyp`: -/
theorem C08d_read_fields_of_RdHyp {cfg : JointConfig} {c0 : Nat} {h : List Sys}
    (H3 : Snap5.Hyp3r cfg c0 h) (H : RdHyp cfg c0 h) : RdHypS cfg c0 h :=
  { toHyp3r := H3, norir := H.norir, safe := H.safe, nori := H.nori, uniq := H.uniq,
    nonempty := H.nonempty }

/-! ## Non-vacuity: a leader that has compacted, sent snapshots and served a `request_snapshot` answers a
`read_index` request (kernel-evaluated)

`RaftProofs/ClusterRead2G.lean`: the 42-state history `Snap5.rx_hist` of `C01j_request_snapshot_nonvacuous`
(node 1 leads term 1, commits index 2, compacts its log, sends a `MsgSnapshot` to node 3, which restores
and installs it; node 2 calls `request_snapshot`, is served a `MsgSnapshot`, restores it and installs it)
continued by `read_index([7])` on node 1, `send` at node 1, the delivery of the heartbeat that carries
the context to node 2 (whose log is the restored snapshot), `send` at node 2, and the delivery of node 2's
`MsgHeartbeatResponse` to node 1, which produces the read state `([7], 2)`. -/

section Examples
open RaftProps.C02

/-- **non-vacuity of the read layer with compaction and snapshots**: there is a 47-state history of
`ClusterSem` that satisfies every hypothesis of the theorems above (`RdHypS`, voters `{1, 2, 3}`,
`c0 = 0`), in which a log is really compacted (node 1's first index is above 1 when the read is issued),
`MsgSnapshot`s really are in the transport, node 2's log at that moment is a restored snapshot (its
snapshot point is its commit index 2), step 41 is a `read_index([7])` call on node 1 that registers the
request while node 1 leads term 1 with commit index 2, and node 1 ends with the read state `([7], 2)`. -/
theorem C08d_cluster_nonvacuous :
    ∃ h : List Sys, RdHypS c02x_cfg 0 h ∧ RegAt h 41 1 [7] ∧
      ∃ (sn s : Sys) (st1 st2 stj : NState),
        h[41]? = some sn ∧ sn.node 1 = some st1 ∧ st1.raft.state = .leader ∧ st1.raft.term = 1 ∧
        st1.raft.raftLog.committed = 2 ∧ 1 < st1.raft.raftLog.store.firstIndex ∧
        sn.node 2 = some st2 ∧ st2.raft.raftLog.committed = 2 ∧
        st2.raft.raftLog.store.snapshotMetadata.index = 2 ∧
        (sn.net.any (fun x => x.msgType == .msgSnapshot)) = true ∧
        h[46]? = some s ∧ s.node 1 = some stj ∧
        stj.raft.readStates = [{ index := 2, requestCtx := [7] }] :=
  have ⟨⟨h1, h2, h3, h4⟩, ⟨h5, h6, h7⟩, h8⟩ := rdx_eval.2.2.2.2.2.2.2.2
  ⟨rdx_hist, rdx_rdhyp, rdx_regAt, rx_t8, rdx_t5, rx_a20, rx_b15, rdx_a23,
    rfl, rfl, h1, h2, h3, h4, rfl, h5, h6, h7, rfl, rfl, h8⟩

/-- … and the theorem applies to it: whatever read state for `[7]` any node holds in any state of that
history, it is node 1's, and its index covers the commit index of every node at step 41 -/
example (m : Nat) (s : Sys) (hm : rdx_hist[m]? = some s) (j : Nat) (stj : NState)
    (hj : s.node j = some stj) (x : ReadState) (hx : x ∈ stj.raft.readStates)
    (hctx : x.requestCtx = [7]) :
    j = 1 ∧ 41 < m ∧ ∀ u stu, rx_t8.node u = some stu → stu.raft.raftLog.committed ≤ x.index :=
  C08_cluster_read_index_safe c02x_cfg 0 rdx_hist rdx_rdhyp 41 1 [7] rdx_regAt rx_t8 rfl
    m s hm j stj hj x hx hctx

end Examples

end RaftProps.C08d
