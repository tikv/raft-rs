import RaftProofs.ClusterSnapCompaction
import RaftProps.C01g
import RaftProofs.ClusterSnap5B
import RaftProofs.ClusterSnap2C

/-!
# C01 / C03 / C04, cluster level, **with log compaction** — the commit rule, Leader Completeness and
State-Machine Safety for `ClusterSem` histories in which the applications compact their logs

`RaftProps/C01c.lean` proves the commit layer of `ClusterSem` for histories without compaction and
without snapshots.  This file re-proves its statements for histories **with compaction**
(`NodeOp.compact`), under the storage contract of the Log Matching layer (`CompactOk`: `compact k` only
with `k ≤ committed` and `k ≤ persisted`; the documented application contract — compact only what is
applied, `applied ≤ committed`, and what is persisted — implies it).

**Part 1** (namespace `RaftProps.C01e`) covers compaction alone: snapshots *between nodes* are excluded
(`nosnap`, `nopend`): a leader that has compacted away what a follower needs queues a `MsgSnapshot`, and
the histories covered are those in which no such message reaches the transport.  **Part 2** (namespace
`RaftProps.C01e.Snapshots`, at the end of the file) admits them: leaders send the snapshot of their
storage, followers restore and install it.

## Hypotheses of part 1 (`Snap.Hyp3 cfg c0 h`, all explicit; `RaftProofs/ClusterSnapHyp.lean`)

As `Hyp3` of C01c, with these differences:
* `Snap.KStep.call` **allows `compact k`** under `CompactOk` (C01c: no compaction);
* `shape` is gone.  Instead: `first0` — in the *initial* state every storage has first index `c0 + 1` —
  and `nopend` (**gap**, goes with `nosnap`) — no node ever has a pending snapshot.
Everything else (`History`, fixed voters, `InitOk`, `NoBatch`, persist-before-send, `commit_apply`
contract, `nolone`, `initc`, `norir` (**gap**), `anch` (**gap**), `snapt0`, `nosnap` (**gap**)) is
unchanged.  `Snap.Hyp3.of_old`: the hypotheses of C01c imply these.

Relation to C01d, C01g and C01h: the gaps `norir` and `anch` are discharged for the layer *without*
compaction in `RaftProps/C01d.lean`, for part 1 in `RaftProps/C01g.lean` (the statements of part 1 under
`Snap.Hyp3w` = `Snap.Hyp3` without `anch` and `norir`; the theorems of part 1 below are corollaries of the ones
there, `Snap.Hyp3.toHyp3w`) and for part 2 in `RaftProps/C01h.lean` (`Snap2.Hyp3w`).  The bundles of this file
(`Snap.Hyp2/3`, `Snap2.Hyp2/3`) are modelled on `Cluster.Hyp2/3` of C01c and carry both as fields.

## Statements

Entries are compared **where both logs retain the index** (`snapIdx < k`): a compacted log answers
`none` below its snapshot point.  Behind the statements is a stronger one about *ghost logs*: every
logical log `g` and every stored log of every node, in every state, has an **uncompacted version**
(`Snap.Full`: starts at `c0`, gap-free, holds `g`'s entries above `g`'s snapshot point, every link is a
link of a chain that sits somewhere in some state of the history); it is unique entry by entry, is not
changed by a compaction, and all statements of C01c hold verbatim for the uncompacted versions
(`C01e_ghost_log`, `C01_cluster_state_machine_safety_ghost`): *what a node has compacted away is the committed
prefix every other node holds or has compacted away*.

The main induction is `RaftModel.Cluster.Snap.sm_all` (`RaftProofs/ClusterSnapCompaction.lean`: the main
induction `Snap5.sm_all` of the development with snapshots, `ClusterSnap5M–5T`, for a history in which no
snapshot travels).
-/
namespace RaftProps.C01e
open RaftModel RaftModel.Cluster RaftModel.Node RaftModel.Raft RaftModel.Raft.CC

/-- an accepting `MsgAppendResponse` of node `j` for term `t` with index at least `c` is in `net` -/
def AckInNet (net : List Message) (j t c : Nat) : Prop :=
  ∃ a ∈ net, a.msgType = .msgAppendResponse ∧ a.reject = false ∧ a.frm = j ∧
    (a.term = t ∨ a.term = 0) ∧ c ≤ a.index

/-- **C04 `cluster_leader_commit_rule`** (quorum part, under `Snap.Hyp` alone), with compaction —
whenever a step of a history takes the commit index of a node `l` that is leader of term `t` after the
step from `c` to `c' > c`, the entry at `c'` in its log carries term `t`, and there is a joint quorum
`Q` of `cfg` such that every `j ∈ Q` is `l` itself with `persisted ≥ c'`, or has an accepting
`MsgAppendResponse` for term `t` with `index ≥ c'` in the transport (already before the step). -/
theorem C04_cluster_leader_commit_rule_quorum (cfg : JointConfig) (h : List Sys) (H : Snap.Hyp cfg h)
    (n : Nat) (a b : Sys) (ha : h[n]? = some a) (hb : h[n + 1]? = some b)
    (l : Nat) (sta stb : NState) (hla : a.node l = some sta) (hlb : b.node l = some stb)
    (t : Nat) (hs : stb.raft.state = .leader) (ht : stb.raft.term = t)
    (hc : sta.raft.raftLog.committed < stb.raft.raftLog.committed) :
    stb.raft.raftLog.term stb.raft.raftLog.committed = .ok t ∧
    ∃ Q, IsJointQuorum cfg Q ∧ ∀ j ∈ Q,
      (j = l ∧ stb.raft.raftLog.committed ≤ stb.raft.raftLog.persisted) ∨
      AckInNet a.net j t stb.raft.raftLog.committed := by
  obtain ⟨h1, Q, hQ, hq⟩ := H.commit_step n a b ha hb l sta stb hla hlb hs hc
  subst ht
  refine ⟨h1, Q, hQ, fun j hj => (hq j hj).imp (fun g => g) (fun g => ?_)⟩
  obtain ⟨x, hx, hack, h2, h3, h4⟩ := g
  exact ⟨x, hx, hack.1, hack.2, h2, h3, h4⟩

/-- the ghost log of the commit event of a step is the ghost log of the leader after the step -/
theorem evF_of_step {h : List Sys} {c0 n l : Nat} {stb : NState} :
    Snap.EvF h c0 ⟨n, l, stb.raft.term, stb.raft.raftLog.committed, stb.raft.raftLog.abs,
      stb.raft.raftLog.persisted⟩ = Snap.FL h c0 stb := rfl

/-- **the ghost logs**: in every state of a history, the logical log and the stored log of every node
have uncompacted versions `FL` / `FS` (`Snap.Full`), which hold the same entries up to the node's
snapshot point; any two uncompacted versions of one log hold the same entries. -/
theorem C01e_ghost_log (cfg : JointConfig) (c0 : Nat) (h : List Sys) (H : Snap.Hyp3 cfg c0 h)
    (m : Nat) (s : Sys) (hm : h[m]? = some s) (v : Nat) (st : NState) (hv : s.node v = some st) :
    Snap.Full (Snap.HistChain h) c0 st.raft.raftLog.abs (Snap.FL h c0 st) ∧
    Snap.Full (Snap.HistChain h) c0 (storeLog st.raft.raftLog.store) (Snap.FS h c0 st) ∧
    (∀ k, k ≤ st.raft.raftLog.abs.snapIdx →
      (Snap.FL h c0 st).entryAt k = (Snap.FS h c0 st).entryAt k) ∧
    (∀ g F F', Snap.Full (Snap.HistChain h) c0 g F → Snap.Full (Snap.HistChain h) c0 g F' →
      ∀ k, F.entryAt k = F'.entryAt k) :=
  RaftProps.C01g.C01g_ghost_log cfg c0 h H.toHyp3w m s hm v st hv

/-- **C04 `cluster_leader_commit_rule`** with compaction — the commit rule with **durable
acknowledgements**: whenever a step `h[n] → h[n+1]` takes the commit index of a node `l` that is leader
of term `t` after the step from `c` to `c' > c`, the entry at `c'` in its log carries term `t`, and
there is a joint quorum `Q` of `cfg` such that every `j ∈ Q` is

* `l` itself, with `persisted ≥ c'` — and its storage holds its log up to `c'`; or
* the sender of an accepting `MsgAppendResponse` `x` for term `t` with `index ≥ c'` that is in the
  transport before the step, **and in every state of the history whose transport holds `x` the
  storage of `j` reaches `c'` and holds `l`'s log up to `c'`** — the uncompacted versions are equal up
  to `c'`, hence so are the logs at every index both still retain. -/
theorem C04_cluster_leader_commit_rule (cfg : JointConfig) (c0 : Nat) (h : List Sys)
    (H : Snap.Hyp3 cfg c0 h)
    (n : Nat) (a b : Sys) (ha : h[n]? = some a) (hb : h[n + 1]? = some b)
    (l : Nat) (sta stb : NState) (hla : a.node l = some sta) (hlb : b.node l = some stb)
    (t : Nat) (hs : stb.raft.state = .leader) (ht : stb.raft.term = t)
    (hc : sta.raft.raftLog.committed < stb.raft.raftLog.committed) :
    stb.raft.raftLog.term stb.raft.raftLog.committed = .ok t ∧
    ∃ Q, IsJointQuorum cfg Q ∧ ∀ j ∈ Q,
      (j = l ∧ stb.raft.raftLog.committed ≤ stb.raft.raftLog.persisted ∧
        ∀ k, k ≤ stb.raft.raftLog.committed →
          (storeLog stb.raft.raftLog.store).entryAt k = stb.raft.raftLog.abs.entryAt k) ∨
      ∃ x ∈ a.net, x.msgType = .msgAppendResponse ∧ x.reject = false ∧ x.frm = j ∧ x.term = t ∧
        stb.raft.raftLog.committed ≤ x.index ∧
        ∀ (m : Nat) (s : Sys) (stj : NState), h[m]? = some s → x ∈ s.net → s.node j = some stj →
          stb.raft.raftLog.committed ≤ (storeLog stj.raft.raftLog.store).lastIndex ∧
          (∀ k, k ≤ stb.raft.raftLog.committed →
            (Snap.FS h c0 stj).entryAt k = (Snap.FL h c0 stb).entryAt k) ∧
          ∀ k, k ≤ stb.raft.raftLog.committed →
            (storeLog stj.raft.raftLog.store).snapIdx < k → stb.raft.raftLog.abs.snapIdx < k →
            (storeLog stj.raft.raftLog.store).entryAt k = stb.raft.raftLog.abs.entryAt k :=
  RaftProps.C01g.C04_cluster_leader_commit_rule cfg c0 h H.toHyp3w n a b ha hb l sta stb hla hlb t
    hs ht hc

/-- **C03 `cluster_leader_completeness`** with compaction — every entry a leader has committed is in
the log of every leader of a later term: if a step `h[n] → h[n+1]` takes the commit index of `l`, leader
of term `t` after the step, to `c'`, then the log of any node that leads a term `t' > t` in any state
`h[m]` of the history reaches `c'` and holds, at every index up to `c'`, the entry `l` held there — in
the uncompacted versions, hence wherever both logs retain the index. -/
theorem C03_cluster_leader_completeness (cfg : JointConfig) (c0 : Nat) (h : List Sys)
    (H : Snap.Hyp3 cfg c0 h)
    (n : Nat) (a b : Sys) (ha : h[n]? = some a) (hb : h[n + 1]? = some b)
    (l : Nat) (sta stb : NState) (hla : a.node l = some sta) (hlb : b.node l = some stb)
    (hs : stb.raft.state = .leader)
    (hc : sta.raft.raftLog.committed < stb.raft.raftLog.committed)
    (m : Nat) (s : Sys) (hm : h[m]? = some s) (l' : Nat) (st' : NState)
    (hl' : s.node l' = some st') (hs' : st'.raft.state = .leader)
    (ht : stb.raft.term < st'.raft.term) :
    stb.raft.raftLog.committed ≤ st'.raft.raftLog.abs.lastIndex ∧
    (∀ k, k ≤ stb.raft.raftLog.committed →
      (Snap.FL h c0 st').entryAt k = (Snap.FL h c0 stb).entryAt k) ∧
    ∀ k, k ≤ stb.raft.raftLog.committed →
      st'.raft.raftLog.abs.snapIdx < k → stb.raft.raftLog.abs.snapIdx < k →
      st'.raft.raftLog.abs.entryAt k = stb.raft.raftLog.abs.entryAt k :=
  RaftProps.C01g.C03_cluster_leader_completeness cfg c0 h H.toHyp3w n a b ha hb l sta stb hla hlb
    hs hc m s hm l' st' hl' hs' ht

/-- **C04 `cluster_follower_commit_sound`** with compaction — *every* commit index is sound: in every
state `h[m]`, what a node `v` has marked committed is at most the common initial snapshot point `c0`,
or it was committed by a leader: there is an earlier step `h[n] → h[n+1]` (`n < m`) that took the commit
index of a node `l`, leader of a term `t ≤ term(v)` after the step, to some `c' ≥ committed(v)`, and the
log of `v` equals the log `l` had then up to `committed(v)` — in the uncompacted versions, hence
wherever both retain the index. -/
theorem C04_cluster_follower_commit_sound (cfg : JointConfig) (c0 : Nat) (h : List Sys)
    (H : Snap.Hyp3 cfg c0 h) (m : Nat) (s : Sys) (hm : h[m]? = some s) (v : Nat) (st : NState)
    (hv : s.node v = some st) :
    st.raft.raftLog.committed ≤ c0 ∨
    ∃ (n : Nat) (a b : Sys) (l : Nat) (sta stb : NState), n < m ∧ h[n]? = some a ∧
      h[n + 1]? = some b ∧ a.node l = some sta ∧ b.node l = some stb ∧
      stb.raft.state = .leader ∧ sta.raft.raftLog.committed < stb.raft.raftLog.committed ∧
      st.raft.raftLog.committed ≤ stb.raft.raftLog.committed ∧ stb.raft.term ≤ st.raft.term ∧
      (∀ k, k ≤ st.raft.raftLog.committed →
        (Snap.FL h c0 st).entryAt k = (Snap.FL h c0 stb).entryAt k) ∧
      ∀ k, k ≤ st.raft.raftLog.committed →
        st.raft.raftLog.abs.snapIdx < k → stb.raft.raftLog.abs.snapIdx < k →
        st.raft.raftLog.abs.entryAt k = stb.raft.raftLog.abs.entryAt k :=
  RaftProps.C01g.C04_cluster_follower_commit_sound cfg c0 h H.toHyp3w m s hm v st hv

/-- … and so is every **stored** commit index (what a restarted node starts from): it is not ahead of
the commit index, and it is covered by a leader's commit of a term not above the stored term, with the
stored entries. -/
theorem C04_cluster_stored_commit_sound (cfg : JointConfig) (c0 : Nat) (h : List Sys)
    (H : Snap.Hyp3 cfg c0 h) (m : Nat) (s : Sys) (hm : h[m]? = some s) (v : Nat) (st : NState)
    (hv : s.node v = some st) :
    st.raft.raftLog.store.hardState.commit ≤ st.raft.raftLog.committed ∧
    (st.raft.raftLog.store.hardState.commit ≤ c0 ∨
     ∃ (n : Nat) (a b : Sys) (l : Nat) (sta stb : NState), n < m ∧ h[n]? = some a ∧
      h[n + 1]? = some b ∧ a.node l = some sta ∧ b.node l = some stb ∧
      stb.raft.state = .leader ∧ sta.raft.raftLog.committed < stb.raft.raftLog.committed ∧
      st.raft.raftLog.store.hardState.commit ≤ stb.raft.raftLog.committed ∧
      stb.raft.term ≤ st.raft.raftLog.store.hardState.term ∧
      (∀ k, k ≤ st.raft.raftLog.store.hardState.commit →
        (Snap.FS h c0 st).entryAt k = (Snap.FL h c0 stb).entryAt k) ∧
      ∀ k, k ≤ st.raft.raftLog.store.hardState.commit →
        (storeLog st.raft.raftLog.store).snapIdx < k → stb.raft.raftLog.abs.snapIdx < k →
        (storeLog st.raft.raftLog.store).entryAt k = stb.raft.raftLog.abs.entryAt k) :=
  RaftProps.C01g.C04_cluster_stored_commit_sound cfg c0 h H.toHyp3w m s hm v st hv

/-- **C01 `cluster_state_machine_safety`, ghost form** — the uncompacted logs of any two nodes, in any
two states of the history (the same node before and after a restart or a compaction included), hold the
same entry at every index both have marked committed. -/
theorem C01_cluster_state_machine_safety_ghost (cfg : JointConfig) (c0 : Nat) (h : List Sys)
    (H : Snap.Hyp3 cfg c0 h)
    (m1 : Nat) (s1 : Sys) (hm1 : h[m1]? = some s1) (v1 : Nat) (st1 : NState)
    (hv1 : s1.node v1 = some st1)
    (m2 : Nat) (s2 : Sys) (hm2 : h[m2]? = some s2) (v2 : Nat) (st2 : NState)
    (hv2 : s2.node v2 = some st2)
    (k : Nat) (hk1 : k ≤ st1.raft.raftLog.committed) (hk2 : k ≤ st2.raft.raftLog.committed) :
    (Snap.FL h c0 st1).entryAt k = (Snap.FL h c0 st2).entryAt k :=
  RaftProps.C01g.C01_cluster_state_machine_safety_ghost cfg c0 h H.toHyp3w m1 s1 hm1 v1 st1 hv1
    m2 s2 hm2 v2 st2 hv2 k hk1 hk2

/-- **C01 `cluster_state_machine_safety`** with compaction — any two nodes, in any two states of the
history (the same node before and after a restart or a compaction included), hold the same entry at
every index both have marked committed **and both still retain** (`snapIdx < k`; a compacted log
answers `none` below its snapshot point). -/
theorem C01_cluster_state_machine_safety (cfg : JointConfig) (c0 : Nat) (h : List Sys)
    (H : Snap.Hyp3 cfg c0 h)
    (m1 : Nat) (s1 : Sys) (hm1 : h[m1]? = some s1) (v1 : Nat) (st1 : NState)
    (hv1 : s1.node v1 = some st1)
    (m2 : Nat) (s2 : Sys) (hm2 : h[m2]? = some s2) (v2 : Nat) (st2 : NState)
    (hv2 : s2.node v2 = some st2)
    (k : Nat) (hk1 : k ≤ st1.raft.raftLog.committed) (hk2 : k ≤ st2.raft.raftLog.committed)
    (hr1 : st1.raft.raftLog.abs.snapIdx < k) (hr2 : st2.raft.raftLog.abs.snapIdx < k) :
    st1.raft.raftLog.abs.entryAt k = st2.raft.raftLog.abs.entryAt k :=
  RaftProps.C01g.C01_cluster_state_machine_safety cfg c0 h H.toHyp3w m1 s1 hm1 v1 st1 hv1 m2 s2
    hm2 v2 st2 hv2 k hk1 hk2 hr1 hr2

/-- … in particular for the **applied** entries of two nodes whose applied index is within their
commit index (`AppliedOk`, which holds outside the restart window — `raft_log.rs:44-46`). -/
theorem C01_cluster_state_machine_safety_applied (cfg : JointConfig) (c0 : Nat) (h : List Sys)
    (H : Snap.Hyp3 cfg c0 h)
    (m1 : Nat) (s1 : Sys) (hm1 : h[m1]? = some s1) (v1 : Nat) (st1 : NState)
    (hv1 : s1.node v1 = some st1) (ha1 : st1.raft.raftLog.AppliedOk)
    (m2 : Nat) (s2 : Sys) (hm2 : h[m2]? = some s2) (v2 : Nat) (st2 : NState)
    (hv2 : s2.node v2 = some st2) (ha2 : st2.raft.raftLog.AppliedOk)
    (k : Nat) (hk1 : k ≤ st1.raft.raftLog.applied) (hk2 : k ≤ st2.raft.raftLog.applied)
    (hr1 : st1.raft.raftLog.abs.snapIdx < k) (hr2 : st2.raft.raftLog.abs.snapIdx < k) :
    st1.raft.raftLog.abs.entryAt k = st2.raft.raftLog.abs.entryAt k :=
  C01_cluster_state_machine_safety cfg c0 h H m1 s1 hm1 v1 st1 hv1 m2 s2 hm2 v2 st2 hv2 k
    (Nat.le_trans hk1 ha1) (Nat.le_trans hk2 ha2) hr1 hr2

/-- **a compacted prefix is a committed prefix** (`C15`-style, for compaction points): in every state,
the snapshot point of every node — of its logical log and of its storage, which coincide — is not
below the common initial snapshot point `c0` and not above the node's commit index; and every other
node, in any state, whose commit index reaches an index `k` up to that snapshot point holds, in its
uncompacted log, exactly the entry the compacting node's uncompacted log holds at `k`. -/
theorem C01_cluster_compacted_prefix_committed (cfg : JointConfig) (c0 : Nat) (h : List Sys)
    (H : Snap.Hyp3 cfg c0 h)
    (m1 : Nat) (s1 : Sys) (hm1 : h[m1]? = some s1) (v1 : Nat) (st1 : NState)
    (hv1 : s1.node v1 = some st1) :
    c0 ≤ st1.raft.raftLog.abs.snapIdx ∧
    (storeLog st1.raft.raftLog.store).snapIdx = st1.raft.raftLog.abs.snapIdx ∧
    st1.raft.raftLog.abs.snapIdx ≤ st1.raft.raftLog.committed ∧
    ∀ (m2 : Nat) (s2 : Sys) (v2 : Nat) (st2 : NState), h[m2]? = some s2 → s2.node v2 = some st2 →
      ∀ k, k ≤ st1.raft.raftLog.abs.snapIdx → k ≤ st2.raft.raftLog.committed →
        (Snap.FL h c0 st1).entryAt k = (Snap.FL h c0 st2).entryAt k :=
  RaftProps.C01g.C01_cluster_compacted_prefix_committed cfg c0 h H.toHyp3w m1 s1 hm1 v1 st1 hv1

/-! ## Relation to C01c, and non-vacuity -/

/-- the hypotheses of C01c (no compaction) imply the hypotheses of this file -/
theorem C01e_subsumes_C01c (cfg : JointConfig) (c0 : Nat) (h : List Sys) (H : Cluster.Hyp3 cfg c0 h) :
    Snap.Hyp3 cfg c0 h := Snap.Hyp3.of_old H

section Examples
open RaftProps.C02 RaftProps.C05

/-- **non-vacuity, with a real compaction** (kernel-evaluated, `RaftProofs/ClusterSnapExamples.lean`): there
is a history of `ClusterSem` that satisfies every hypothesis of the theorems above (`Snap.Hyp3`, voters
`{1, 2, 3}`, `c0 = 0`) and whose last step is `compact 2` at node 1 — leader of term 1 with commit
index 2 —: the snapshot point of node 1 moves from 0 to 1, its term is forgotten, entry 1 is gone from
the logical log — and still there in the uncompacted version `FL`. -/
theorem C01e_cluster_nonvacuous :
    ∃ h : List Sys, Snap.Hyp3 c02x_cfg 0 h ∧
      ∃ (n : Nat) (a b : Sys) (sta stb : NState) (e : Entry),
        h[n]? = some a ∧ h[n + 1]? = some b ∧ a.node 1 = some sta ∧ b.node 1 = some stb ∧
        Node.call sta none (.compact 2) = .ok (.ok, stb) ∧
        stb.raft.state = .leader ∧ stb.raft.raftLog.committed = 2 ∧
        sta.raft.raftLog.abs.snapIdx = 0 ∧ stb.raft.raftLog.abs.snapIdx = 1 ∧
        stb.raft.raftLog.abs.snapTerm = none ∧
        sta.raft.raftLog.abs.entryAt 1 = some e ∧ stb.raft.raftLog.abs.entryAt 1 = none ∧
        (Snap.FL h 0 stb).entryAt 1 = some e := by
  have H := Snap.cx_hyp3
  have ha : Snap.cx_hist[22]? = some Snap.cx_s22 := rfl
  have hb : Snap.cx_hist[22 + 1]? = some Snap.cx_s23 := rfl
  have hla : Snap.cx_s22.node 1 = some Snap.cx_a13 := rfl
  have hlb : Snap.cx_s23.node 1 = some Snap.cx_a14 := rfl
  have ⟨⟨hcall, hs, hc, hi1, hi2, hst⟩, he, hn, hca, hcb, hsa⟩ := Snap.cx_eval.2.2
  have I := Snap.node_full H.toHyp2w 22 _ ha 1 _ hla
  have hg : (Snap.FL Snap.cx_hist 0 Snap.cx_a14).entryAt 1 = some c05x_app.entries.head! := by
    rw [Snap.sms_ghost H.toHyp3a hb hlb ha hla (k := 1) hcb hca, I.log.ents 1 hsa]
    exact he
  exact ⟨Snap.cx_hist, H, 22, Snap.cx_s22, Snap.cx_s23, Snap.cx_a13, Snap.cx_a14, _, ha, hb, hla,
    hlb, Snap.c02x_out' _ hcall, hs, hc, hi1, hi2, hst, he, hn, hg⟩

/-- … and the theorems apply to it: State-Machine Safety between the last two states -/
example (v1 v2 : Nat) (st1 st2 : NState) (h1 : Snap.cx_s22.node v1 = some st1)
    (h2 : Snap.cx_s23.node v2 = some st2) (k : Nat) (hk1 : k ≤ st1.raft.raftLog.committed)
    (hk2 : k ≤ st2.raft.raftLog.committed) (hr1 : st1.raft.raftLog.abs.snapIdx < k)
    (hr2 : st2.raft.raftLog.abs.snapIdx < k) :
    st1.raft.raftLog.abs.entryAt k = st2.raft.raftLog.abs.entryAt k :=
  C01_cluster_state_machine_safety c02x_cfg 0 Snap.cx_hist Snap.cx_hyp3 22 Snap.cx_s22 rfl v1 st1 h1
    23 Snap.cx_s23 rfl v2 st2 h2 k hk1 hk2 hr1 hr2

/-- **snapshots need one more clause of the storage contract** (kernel-evaluated counterexample,
`RaftProofs/ClusterSnapExamples.lean`; finding (a) of the C01c report made concrete).  There is a history of
`ClusterSem` whose steps all obey `Snap.KStep` (fixed voters `{1, 2, 3}`, `InitOk` start, no batching)
in which

* the storage of node 1 — leader of term 1, commit index 1, recorded commit index 1 — answers
  `snapshot(request_index = 2)` with a snapshot **relabelled to index 2** (`MemStorage::snapshot` sets
  the metadata index to `request_index` when that exceeds the real one), so a `MsgSnapshot` with
  metadata `(index 2, term 1)` reaches the transport, and
* node 2, which had asked for the snapshot (`request_snapshot`), restores it: **its commit index is
  2, although no leader has a commit index above 1 in any state of the history** — commit-index
  soundness (`C04_cluster_follower_commit_sound`) fails.

The clause that excludes it (documented for `Storage::snapshot`, not enforced by `MemStorage`): *a
storage answers `snapshot(request_index)` only when its snapshot index is at least `request_index`*,
and reports `SnapshotTemporarilyUnavailable` otherwise. -/
theorem C01e_snapshot_request_index_counterexample :
    ∃ h : List Sys, History h ∧
      (∀ (n : Nat) (a b : Sys), h[n]? = some a → h[n + 1]? = some b → Snap.KStep a b) ∧
      (∀ s ∈ h, FixedCfg c02x_cfg s ∧ NoBatch s) ∧ (∀ s, h[0]? = some s → InitOk s) ∧
      -- no leader ever has a commit index above 1
      (∀ s ∈ h, ∀ l st, s.node l = some st → st.raft.state = .leader →
        st.raft.raftLog.committed ≤ 1) ∧
      ∃ (m : Nat) (s : Sys) (st1 st2 : NState) (x : Message), h[m]? = some s ∧
        s.node 1 = some st1 ∧ s.node 2 = some st2 ∧
        -- the relabelled snapshot of node 1, whose storage records commit index 1
        x ∈ s.net ∧ x.msgType = .msgSnapshot ∧ x.frm = 1 ∧ x.snapshot.metadata.index = 2 ∧
        st1.raft.raftLog.store.hardState.commit = 1 ∧ st1.raft.raftLog.committed = 1 ∧
        -- node 2 has restored it
        st2.raft.raftLog.committed = 2 ∧
        st2.raft.raftLog.unstable.snapshot = some x.snapshot := by
  have hall := fun s hs => Snap.dx_chk_ok s (Snap.dx_chk_all s hs)
  have ⟨hne, hty, hfrm, hidx, hhs, hc1, hc2, hpend⟩ := Snap.dx_eval.2.2
  refine ⟨Snap.dx_hist, Snap.dx_history, chained_at _ Snap.dx_ksteps,
    fun s hs => ⟨(hall s hs).1, (hall s hs).2.1⟩, ?_, fun s hs => (hall s hs).2.2,
    27, Snap.dx_s27, Snap.dx_a15, Snap.dx_b12, Snap.dx_snap, rfl, rfl, rfl,
    List.mem_append_right _ (c02x_head_mem _ hne), hty, hfrm, hidx, hhs, hc1, hc2, hpend⟩
  intro s hs
  have h0 : Snap.dx_hist[0]? = some c02x_s0 := rfl
  rw [h0] at hs; cases hs
  exact c05x_initOk

end Examples

/-! # Part 2: compaction **and snapshots between nodes**

The statements above for histories in which leaders send `MsgSnapshot`s and followers restore and
install them (`Snap2.Hyp3`, `RaftProofs/ClusterSnap2C.lean`), plus the snapshot-point statements
`C01_cluster_snapshot_committed_prefix`, `C01_cluster_snapshot_point_agreement`,
`C01_cluster_pending_snapshot`.  They are the statements of `RaftProofs/ClusterSnap5B.lean` (bundle
`Snap5.Hyp3a`, main induction `Snap5.sm_all`), which `Snap2.Hyp3` implies: `norir` gives `rirs`, `noreq`
gives `reqok`.

## Hypotheses (`Snap2.Hyp3 cfg c0 h`)

As `Snap.Hyp3`, **without `nosnap` and `nopend`**, and with these contract clauses and gaps:
* `Snap2.KStep` (per step): `CompactOk`, the `commit_apply` contract, persist-before-send as before, and
  - `SnapSend` (**contract**): a `MsgSnapshot` a node queues carries the snapshot its storage holds
    (`snapshotCore`: at the recorded commit index, with the term of that index) — *not relabelled*: the
    storage answers `snapshot(request_index)` only when its snapshot index is `≥ request_index` (see
    `C01e_snapshot_request_index_counterexample`);
  - `compact k` only with `k ≤ hard_state.commit` (**contract**: compact only what has been applied and
    recorded; otherwise a crash leaves a snapshot point *at* the commit index with a forgotten term, and
    a snapshot at that index replaces the log and drops acknowledged entries);
  - `persist_snap` installs a pending snapshot only when term and vote are persisted (**contract**: the
    `HardState` is written as a whole);
  - atomic installation (**simplification**): while a snapshot is pending the only call is
    `persist_snap`, and no message is delivered to the node;
  - no-new-pending premises (**gap**, facts of the model not derived): a call that is not the delivery
    of a `MsgSnapshot`, and a restart, leave no snapshot pending; likewise `pend0` for the initial state;
* `noreq` (**gap**): `request_snapshot` is not used (`pendingRequestSnapshot = 0`);
* `snapidx`: a `MsgSnapshot` of the transport names an index above `c0` (for `c0 = 0` a fact of the
  model);
* unchanged: `History`, fixed voters, `InitOk`, `NoBatch`, `nolone`, `first0`, `initc`, `norir` (**gap**),
  `anch` (**gap**), `snapt0`.
-/
namespace Snapshots

/-- **C04 `cluster_leader_commit_rule`** (quorum part, under `Snap2.Hyp` alone), with compaction and
snapshots — whenever a step of a history takes the commit index of a node `l` that is leader of term `t` after the
step from `c` to `c' > c`, the entry at `c'` in its log carries term `t`, and there is a joint quorum
`Q` of `cfg` such that every `j ∈ Q` is `l` itself with `persisted ≥ c'`, or has an accepting
`MsgAppendResponse` for term `t` with `index ≥ c'` in the transport (already before the step). -/
theorem C04_cluster_leader_commit_rule_quorum (cfg : JointConfig) (h : List Sys) (H : Snap2.Hyp cfg h)
    (n : Nat) (a b : Sys) (ha : h[n]? = some a) (hb : h[n + 1]? = some b)
    (l : Nat) (sta stb : NState) (hla : a.node l = some sta) (hlb : b.node l = some stb)
    (t : Nat) (hs : stb.raft.state = .leader) (ht : stb.raft.term = t)
    (hc : sta.raft.raftLog.committed < stb.raft.raftLog.committed) :
    stb.raft.raftLog.term stb.raft.raftLog.committed = .ok t ∧
    ∃ Q, IsJointQuorum cfg Q ∧ ∀ j ∈ Q,
      (j = l ∧ stb.raft.raftLog.committed ≤ stb.raft.raftLog.persisted) ∨
      AckInNet a.net j t stb.raft.raftLog.committed := by
  obtain ⟨h1, Q, hQ, hq⟩ :=
    (Snap5.Hyp.of_snap2 H).g.commit_step n a b ha hb l sta stb hla hlb hs hc
  subst ht
  refine ⟨h1, Q, hQ, fun j hj => (hq j hj).imp (fun g => g) (fun g => ?_)⟩
  obtain ⟨x, hx, hack, h2, h3, h4⟩ := g
  exact ⟨x, hx, hack.1, hack.2, h2, h3, h4⟩

/-- **the ghost logs**: in every state of a history, the logical log and the stored log of every node
have uncompacted versions `FL` / `FS` (`Snap.Full`), which hold the same entries up to the node's
snapshot point unless a snapshot is pending (restored, not yet installed in the storage); any two
uncompacted versions of one log hold the same entries. -/
theorem C01e_ghost_log (cfg : JointConfig) (c0 : Nat) (h : List Sys) (H : Snap2.Hyp3 cfg c0 h)
    (m : Nat) (s : Sys) (hm : h[m]? = some s) (v : Nat) (st : NState) (hv : s.node v = some st) :
    Snap.Full (Snap.HistChain h) c0 st.raft.raftLog.abs (Snap.FL h c0 st) ∧
    Snap.Full (Snap.HistChain h) c0 (storeLog st.raft.raftLog.store) (Snap.FS h c0 st) ∧
    (st.raft.raftLog.unstable.snapshot = none → ∀ k, k ≤ st.raft.raftLog.abs.snapIdx →
      (Snap.FL h c0 st).entryAt k = (Snap.FS h c0 st).entryAt k) ∧
    (∀ g F F', Snap.Full (Snap.HistChain h) c0 g F → Snap.Full (Snap.HistChain h) c0 g F' →
      ∀ k, F.entryAt k = F'.entryAt k) :=
  RaftProps.C01i.Aux.C01i_ghost_log cfg c0 h (.of_snap2 H.toHyp3a) m s hm v st hv

/-- **C04 `cluster_leader_commit_rule`** with compaction and snapshots — the commit rule with **durable
acknowledgements**: whenever a step `h[n] → h[n+1]` takes the commit index of a node `l` that is leader
of term `t` after the step from `c` to `c' > c`, the entry at `c'` in its log carries term `t`, and
there is a joint quorum `Q` of `cfg` such that every `j ∈ Q` is

* `l` itself, with `persisted ≥ c'` — and its storage holds its log up to `c'`; or
* the sender of an accepting `MsgAppendResponse` `x` for term `t` with `index ≥ c'` that is in the
  transport before the step, **and in every state of the history whose transport holds `x` the
  storage of `j` reaches `c'` and holds `l`'s log up to `c'`** — the uncompacted versions are equal up
  to `c'`, hence so are the logs at every index both still retain. -/
theorem C04_cluster_leader_commit_rule (cfg : JointConfig) (c0 : Nat) (h : List Sys)
    (H : Snap2.Hyp3 cfg c0 h)
    (n : Nat) (a b : Sys) (ha : h[n]? = some a) (hb : h[n + 1]? = some b)
    (l : Nat) (sta stb : NState) (hla : a.node l = some sta) (hlb : b.node l = some stb)
    (t : Nat) (hs : stb.raft.state = .leader) (ht : stb.raft.term = t)
    (hc : sta.raft.raftLog.committed < stb.raft.raftLog.committed) :
    stb.raft.raftLog.term stb.raft.raftLog.committed = .ok t ∧
    ∃ Q, IsJointQuorum cfg Q ∧ ∀ j ∈ Q,
      (j = l ∧ stb.raft.raftLog.committed ≤ stb.raft.raftLog.persisted ∧
        ∀ k, k ≤ stb.raft.raftLog.committed →
          (storeLog stb.raft.raftLog.store).entryAt k = stb.raft.raftLog.abs.entryAt k) ∨
      ∃ x ∈ a.net, x.msgType = .msgAppendResponse ∧ x.reject = false ∧ x.frm = j ∧ x.term = t ∧
        stb.raft.raftLog.committed ≤ x.index ∧
        ∀ (m : Nat) (s : Sys) (stj : NState), h[m]? = some s → x ∈ s.net → s.node j = some stj →
          stb.raft.raftLog.committed ≤ (storeLog stj.raft.raftLog.store).lastIndex ∧
          (∀ k, k ≤ stb.raft.raftLog.committed →
            (Snap.FS h c0 stj).entryAt k = (Snap.FL h c0 stb).entryAt k) ∧
          ∀ k, k ≤ stb.raft.raftLog.committed →
            (storeLog stj.raft.raftLog.store).snapIdx < k → stb.raft.raftLog.abs.snapIdx < k →
            (storeLog stj.raft.raftLog.store).entryAt k = stb.raft.raftLog.abs.entryAt k :=
  RaftProps.C01i.Aux.C04_cluster_leader_commit_rule cfg c0 h (.of_snap2 H.toHyp3a) n a b ha hb l
    sta stb hla hlb t hs ht hc

/-- **C03 `cluster_leader_completeness`** with compaction and snapshots — every entry a leader has committed is in
the log of every leader of a later term: if a step `h[n] → h[n+1]` takes the commit index of `l`, leader
of term `t` after the step, to `c'`, then the log of any node that leads a term `t' > t` in any state
`h[m]` of the history reaches `c'` and holds, at every index up to `c'`, the entry `l` held there — in
the uncompacted versions, hence wherever both logs retain the index. -/
theorem C03_cluster_leader_completeness (cfg : JointConfig) (c0 : Nat) (h : List Sys)
    (H : Snap2.Hyp3 cfg c0 h)
    (n : Nat) (a b : Sys) (ha : h[n]? = some a) (hb : h[n + 1]? = some b)
    (l : Nat) (sta stb : NState) (hla : a.node l = some sta) (hlb : b.node l = some stb)
    (hs : stb.raft.state = .leader)
    (hc : sta.raft.raftLog.committed < stb.raft.raftLog.committed)
    (m : Nat) (s : Sys) (hm : h[m]? = some s) (l' : Nat) (st' : NState)
    (hl' : s.node l' = some st') (hs' : st'.raft.state = .leader)
    (ht : stb.raft.term < st'.raft.term) :
    stb.raft.raftLog.committed ≤ st'.raft.raftLog.abs.lastIndex ∧
    (∀ k, k ≤ stb.raft.raftLog.committed →
      (Snap.FL h c0 st').entryAt k = (Snap.FL h c0 stb).entryAt k) ∧
    ∀ k, k ≤ stb.raft.raftLog.committed →
      st'.raft.raftLog.abs.snapIdx < k → stb.raft.raftLog.abs.snapIdx < k →
      st'.raft.raftLog.abs.entryAt k = stb.raft.raftLog.abs.entryAt k :=
  RaftProps.C01i.Aux.C03_cluster_leader_completeness cfg c0 h (.of_snap2 H.toHyp3a) n a b ha hb l
    sta stb hla hlb hs hc m s hm l' st' hl' hs' ht

/-- **C04 `cluster_follower_commit_sound`** with compaction and snapshots — *every* commit index is sound: in every
state `h[m]`, what a node `v` has marked committed is at most the common initial snapshot point `c0`,
or it was committed by a leader: there is an earlier step `h[n] → h[n+1]` (`n < m`) that took the commit
index of a node `l`, leader of a term `t ≤ term(v)` after the step, to some `c' ≥ committed(v)`, and the
log of `v` equals the log `l` had then up to `committed(v)` — in the uncompacted versions, hence
wherever both retain the index. -/
theorem C04_cluster_follower_commit_sound (cfg : JointConfig) (c0 : Nat) (h : List Sys)
    (H : Snap2.Hyp3 cfg c0 h) (m : Nat) (s : Sys) (hm : h[m]? = some s) (v : Nat) (st : NState)
    (hv : s.node v = some st) :
    st.raft.raftLog.committed ≤ c0 ∨
    ∃ (n : Nat) (a b : Sys) (l : Nat) (sta stb : NState), n < m ∧ h[n]? = some a ∧
      h[n + 1]? = some b ∧ a.node l = some sta ∧ b.node l = some stb ∧
      stb.raft.state = .leader ∧ sta.raft.raftLog.committed < stb.raft.raftLog.committed ∧
      st.raft.raftLog.committed ≤ stb.raft.raftLog.committed ∧ stb.raft.term ≤ st.raft.term ∧
      (∀ k, k ≤ st.raft.raftLog.committed →
        (Snap.FL h c0 st).entryAt k = (Snap.FL h c0 stb).entryAt k) ∧
      ∀ k, k ≤ st.raft.raftLog.committed →
        st.raft.raftLog.abs.snapIdx < k → stb.raft.raftLog.abs.snapIdx < k →
        st.raft.raftLog.abs.entryAt k = stb.raft.raftLog.abs.entryAt k :=
  RaftProps.C01i.Aux.C04_cluster_follower_commit_sound cfg c0 h (.of_snap2 H.toHyp3a) m s hm v st hv

/-- … and so is every **stored** commit index (what a restarted node starts from): it is not ahead of
the commit index, and it is covered by a leader's commit of a term not above the stored term, with the
stored entries. -/
theorem C04_cluster_stored_commit_sound (cfg : JointConfig) (c0 : Nat) (h : List Sys)
    (H : Snap2.Hyp3 cfg c0 h) (m : Nat) (s : Sys) (hm : h[m]? = some s) (v : Nat) (st : NState)
    (hv : s.node v = some st) :
    st.raft.raftLog.store.hardState.commit ≤ st.raft.raftLog.committed ∧
    (st.raft.raftLog.store.hardState.commit ≤ c0 ∨
     ∃ (n : Nat) (a b : Sys) (l : Nat) (sta stb : NState), n < m ∧ h[n]? = some a ∧
      h[n + 1]? = some b ∧ a.node l = some sta ∧ b.node l = some stb ∧
      stb.raft.state = .leader ∧ sta.raft.raftLog.committed < stb.raft.raftLog.committed ∧
      st.raft.raftLog.store.hardState.commit ≤ stb.raft.raftLog.committed ∧
      stb.raft.term ≤ st.raft.raftLog.store.hardState.term ∧
      (∀ k, k ≤ st.raft.raftLog.store.hardState.commit →
        (Snap.FS h c0 st).entryAt k = (Snap.FL h c0 stb).entryAt k) ∧
      ∀ k, k ≤ st.raft.raftLog.store.hardState.commit →
        (storeLog st.raft.raftLog.store).snapIdx < k → stb.raft.raftLog.abs.snapIdx < k →
        (storeLog st.raft.raftLog.store).entryAt k = stb.raft.raftLog.abs.entryAt k) :=
  RaftProps.C01i.Aux.C04_cluster_stored_commit_sound cfg c0 h (.of_snap2 H.toHyp3a) m s hm v st hv

/-- **C01 `cluster_state_machine_safety`, ghost form** — the uncompacted logs of any two nodes, in any
two states of the history (the same node before and after a restart or a compaction included), hold the
same entry at every index both have marked committed. -/
theorem C01_cluster_state_machine_safety_ghost (cfg : JointConfig) (c0 : Nat) (h : List Sys)
    (H : Snap2.Hyp3 cfg c0 h)
    (m1 : Nat) (s1 : Sys) (hm1 : h[m1]? = some s1) (v1 : Nat) (st1 : NState)
    (hv1 : s1.node v1 = some st1)
    (m2 : Nat) (s2 : Sys) (hm2 : h[m2]? = some s2) (v2 : Nat) (st2 : NState)
    (hv2 : s2.node v2 = some st2)
    (k : Nat) (hk1 : k ≤ st1.raft.raftLog.committed) (hk2 : k ≤ st2.raft.raftLog.committed) :
    (Snap.FL h c0 st1).entryAt k = (Snap.FL h c0 st2).entryAt k :=
  RaftProps.C01i.Aux.C01_cluster_state_machine_safety_ghost cfg c0 h (.of_snap2 H.toHyp3a) m1 s1
    hm1 v1 st1 hv1 m2 s2 hm2 v2 st2 hv2 k hk1 hk2

/-- **C01 `cluster_state_machine_safety`** with compaction and snapshots — any two nodes, in any two
states of the history (the same node before and after a restart or a compaction included), hold the same entry at
every index both have marked committed **and both still retain** (`snapIdx < k`; a compacted log
answers `none` below its snapshot point). -/
theorem C01_cluster_state_machine_safety (cfg : JointConfig) (c0 : Nat) (h : List Sys)
    (H : Snap2.Hyp3 cfg c0 h)
    (m1 : Nat) (s1 : Sys) (hm1 : h[m1]? = some s1) (v1 : Nat) (st1 : NState)
    (hv1 : s1.node v1 = some st1)
    (m2 : Nat) (s2 : Sys) (hm2 : h[m2]? = some s2) (v2 : Nat) (st2 : NState)
    (hv2 : s2.node v2 = some st2)
    (k : Nat) (hk1 : k ≤ st1.raft.raftLog.committed) (hk2 : k ≤ st2.raft.raftLog.committed)
    (hr1 : st1.raft.raftLog.abs.snapIdx < k) (hr2 : st2.raft.raftLog.abs.snapIdx < k) :
    st1.raft.raftLog.abs.entryAt k = st2.raft.raftLog.abs.entryAt k :=
  RaftProps.C01i.Aux.C01_cluster_state_machine_safety cfg c0 h (.of_snap2 H.toHyp3a) m1 s1 hm1 v1
    st1 hv1 m2 s2 hm2 v2 st2 hv2 k hk1 hk2 hr1 hr2

/-- … in particular for the **applied** entries of two nodes whose applied index is within their
commit index (`AppliedOk`, which holds outside the restart window — `raft_log.rs:44-46`). -/
theorem C01_cluster_state_machine_safety_applied (cfg : JointConfig) (c0 : Nat) (h : List Sys)
    (H : Snap2.Hyp3 cfg c0 h)
    (m1 : Nat) (s1 : Sys) (hm1 : h[m1]? = some s1) (v1 : Nat) (st1 : NState)
    (hv1 : s1.node v1 = some st1) (ha1 : st1.raft.raftLog.AppliedOk)
    (m2 : Nat) (s2 : Sys) (hm2 : h[m2]? = some s2) (v2 : Nat) (st2 : NState)
    (hv2 : s2.node v2 = some st2) (ha2 : st2.raft.raftLog.AppliedOk)
    (k : Nat) (hk1 : k ≤ st1.raft.raftLog.applied) (hk2 : k ≤ st2.raft.raftLog.applied)
    (hr1 : st1.raft.raftLog.abs.snapIdx < k) (hr2 : st2.raft.raftLog.abs.snapIdx < k) :
    st1.raft.raftLog.abs.entryAt k = st2.raft.raftLog.abs.entryAt k :=
  RaftProps.C01i.Aux.C01_cluster_state_machine_safety_applied cfg c0 h (.of_snap2 H.toHyp3a) m1 s1
    hm1 v1 st1 hv1 ha1 m2 s2 hm2 v2 st2 hv2 ha2 k hk1 hk2 hr1 hr2

/-- **a compacted prefix is a committed prefix** (`C15`-style, for compaction points): in every state,
the snapshot point of every node — of its logical log and of its storage, which coincide unless a
snapshot is pending — is not below the common initial snapshot point `c0` and not above the node's
commit index; and every other
node, in any state, whose commit index reaches an index `k` up to that snapshot point holds, in its
uncompacted log, exactly the entry the compacting node's uncompacted log holds at `k`. -/
theorem C01_cluster_compacted_prefix_committed (cfg : JointConfig) (c0 : Nat) (h : List Sys)
    (H : Snap2.Hyp3 cfg c0 h)
    (m1 : Nat) (s1 : Sys) (hm1 : h[m1]? = some s1) (v1 : Nat) (st1 : NState)
    (hv1 : s1.node v1 = some st1) :
    c0 ≤ st1.raft.raftLog.abs.snapIdx ∧
    (st1.raft.raftLog.unstable.snapshot = none →
      (storeLog st1.raft.raftLog.store).snapIdx = st1.raft.raftLog.abs.snapIdx) ∧
    st1.raft.raftLog.abs.snapIdx ≤ st1.raft.raftLog.committed ∧
    ∀ (m2 : Nat) (s2 : Sys) (v2 : Nat) (st2 : NState), h[m2]? = some s2 → s2.node v2 = some st2 →
      ∀ k, k ≤ st1.raft.raftLog.abs.snapIdx → k ≤ st2.raft.raftLog.committed →
        (Snap.FL h c0 st1).entryAt k = (Snap.FL h c0 st2).entryAt k :=
  RaftProps.C01i.Aux.C01_cluster_compacted_prefix_committed cfg c0 h (.of_snap2 H.toHyp3a) m1 s1
    hm1 v1 st1 hv1

/-- **a released snapshot is a committed prefix**: every `MsgSnapshot` `x` in the transport of a state
`h[m]` names an index `i > c0` and a term `t` such that there is an earlier step `h[n] → h[n+1]`
(`n < m`) that took the commit index of a node `l`, leader of a term `≤ x.term` after the step, to some
`c' ≥ i`, and the uncompacted log of `l` after that step holds an entry of term `t` at `i` — in its real
log, if that still retains `i`. -/
theorem C01_cluster_snapshot_committed_prefix (cfg : JointConfig) (c0 : Nat) (h : List Sys)
    (H : Snap2.Hyp3 cfg c0 h) (m : Nat) (s : Sys) (hm : h[m]? = some s) (x : Message)
    (hx : x ∈ s.net) (hty : x.msgType = .msgSnapshot) :
    c0 < x.snapshot.metadata.index ∧
    ∃ (n : Nat) (a b : Sys) (l : Nat) (sta stb : NState), n < m ∧ h[n]? = some a ∧
      h[n + 1]? = some b ∧ a.node l = some sta ∧ b.node l = some stb ∧
      stb.raft.state = .leader ∧ sta.raft.raftLog.committed < stb.raft.raftLog.committed ∧
      x.snapshot.metadata.index ≤ stb.raft.raftLog.committed ∧ stb.raft.term ≤ x.term ∧
      Has (Snap.FL h c0 stb) x.snapshot.metadata.index x.snapshot.metadata.term ∧
      (stb.raft.raftLog.abs.snapIdx < x.snapshot.metadata.index →
        Has stb.raft.raftLog.abs x.snapshot.metadata.index x.snapshot.metadata.term) :=
  RaftProps.C01i.Aux.C01_cluster_snapshot_committed_prefix cfg c0 h (.of_snap2 H.toHyp3a) m s hm x
    hx hty

/-- **snapshot-point term agreement**: if the log of a node `v1` (in any state) starts at a snapshot
point `i > c0` whose term `t` it knows — after it restored a snapshot (pending or installed), or after
a restart —, then `i` is within `v1`'s commit index, and every node `v2`, in any state, whose commit
index reaches `i` holds an entry of term `t` at `i` in its uncompacted log: in its real log if that
retains `i`, and as the term of its own snapshot point if that is `i` and it knows the term.  (With
`C01_cluster_state_machine_safety_ghost`: the prefix a snapshot stands for is the committed prefix of
every node.) -/
theorem C01_cluster_snapshot_point_agreement (cfg : JointConfig) (c0 : Nat) (h : List Sys)
    (H : Snap2.Hyp3 cfg c0 h)
    (m1 : Nat) (s1 : Sys) (hm1 : h[m1]? = some s1) (v1 : Nat) (st1 : NState)
    (hv1 : s1.node v1 = some st1) (t : Nat) (ht : st1.raft.raftLog.abs.snapTerm = some t)
    (hi : c0 < st1.raft.raftLog.abs.snapIdx) :
    st1.raft.raftLog.abs.snapIdx ≤ st1.raft.raftLog.committed ∧
    ∀ (m2 : Nat) (s2 : Sys) (v2 : Nat) (st2 : NState), h[m2]? = some s2 → s2.node v2 = some st2 →
      st1.raft.raftLog.abs.snapIdx ≤ st2.raft.raftLog.committed →
      Has (Snap.FL h c0 st2) st1.raft.raftLog.abs.snapIdx t ∧
      (st2.raft.raftLog.abs.snapIdx < st1.raft.raftLog.abs.snapIdx →
        Has st2.raft.raftLog.abs st1.raft.raftLog.abs.snapIdx t) ∧
      (st2.raft.raftLog.abs.snapIdx = st1.raft.raftLog.abs.snapIdx →
        ∀ t', st2.raft.raftLog.abs.snapTerm = some t' → t' = t) :=
  RaftProps.C01i.Aux.C01_cluster_snapshot_point_agreement cfg c0 h (.of_snap2 H.toHyp3a) m1 s1 hm1
    v1 st1 hv1 t ht hi

/-- **a restored snapshot never drops a committed entry, and installs a committed prefix**: in every
state, a node with a pending snapshot `sn` (restored from a `MsgSnapshot`, not yet installed in its
storage) has commit index `sn.index > c0`, an empty unstable log, and nothing persisted beyond
`sn.index`; and its stored commit index never exceeds its commit index. -/
theorem C01_cluster_pending_snapshot (cfg : JointConfig) (c0 : Nat) (h : List Sys)
    (H : Snap2.Hyp3 cfg c0 h) (m : Nat) (s : Sys) (hm : h[m]? = some s) (v : Nat) (st : NState)
    (hv : s.node v = some st) (sn : Snapshot) (hp : st.raft.raftLog.unstable.snapshot = some sn) :
    st.raft.raftLog.unstable.entries = [] ∧ st.raft.raftLog.committed = sn.metadata.index ∧
    c0 < sn.metadata.index ∧ st.raft.raftLog.persisted ≤ sn.metadata.index ∧
    st.raft.raftLog.store.hardState.commit ≤ st.raft.raftLog.committed :=
  RaftProps.C01i.Aux.C01_cluster_pending_snapshot cfg c0 h (.of_snap2 H.toHyp3a) m s hm v st hv sn
    hp

/-- the hypotheses of C01c (no compaction, no snapshots) imply the hypotheses of this part for the
histories in which no node queues a `MsgSnapshot` and `request_snapshot` is not used.  (The hypotheses
of part 1 do not: part 2 asks `compact k` to stay within the *recorded* commit index.) -/
theorem C01e_snapshots_subsume_C01c (cfg : JointConfig) (c0 : Nat) (h : List Sys)
    (H : Cluster.Hyp3 cfg c0 h)
    (hq : ∀ s ∈ h, ∀ i st, s.node i = some st → ∀ x ∈ st.raft.msgs, x.msgType ≠ .msgSnapshot)
    (hr : ∀ s ∈ h, Snap2.NoReq s) : Snap2.Hyp3 cfg c0 h := Snap2.Hyp3.of_old H hq hr

section Examples
open RaftProps.C02 RaftProps.C05

/-- **non-vacuity, with a real snapshot** (kernel-evaluated, `RaftProofs/ClusterSnap5V.lean`): there is a
history of `ClusterSem` that satisfies every hypothesis of the theorems of this part (`Snap2.Hyp3`, voters
`{1, 2, 3}`, `c0 = 0`) in which node 1 — leader of term 1, commit index 2, log compacted up to index 2 —
has sent a `MsgSnapshot` (index 2, term 1) to node 3, whose log holds entry 1 only (commit index 0); node 3
is delivered the message and **restores the snapshot** (the snapshot is pending, the commit index is 2,
entry 1 is gone), and then **installs it** in its storage (`persist_snap`: snapshot metadata (2, 1),
recorded commit index 2, nothing pending). -/
theorem C01e_cluster_snapshot_nonvacuous :
    ∃ h : List Sys, Snap2.Hyp3 c02x_cfg 0 h ∧
      ∃ (n : Nat) (a b c : Sys) (x : Message) (sta stb stc : NState) (e : Entry) (r1 r2 : OpRes),
        h[n]? = some a ∧ h[n + 1]? = some b ∧ h[n + 2]? = some c ∧
        x ∈ a.net ∧ x.msgType = .msgSnapshot ∧ x.frm = 1 ∧ x.to = 3 ∧
        x.snapshot.metadata.index = 2 ∧ x.snapshot.metadata.term = 1 ∧
        a.node 3 = some sta ∧ b.node 3 = some stb ∧ c.node 3 = some stc ∧
        Node.call sta none (.step x) = .ok (r1, stb) ∧
        Node.call stb none .persistSnap = .ok (r2, stc) ∧
        sta.raft.raftLog.abs.entryAt 1 = some e ∧ sta.raft.raftLog.committed = 0 ∧
        stb.raft.raftLog.unstable.snapshot = some x.snapshot ∧ stb.raft.raftLog.committed = 2 ∧
        stb.raft.raftLog.abs.entryAt 1 = none ∧
        stc.raft.raftLog.unstable.snapshot = none ∧
        stc.raft.raftLog.store.snapshotMetadata.index = 2 ∧
        stc.raft.raftLog.store.snapshotMetadata.term = 1 ∧
        stc.raft.raftLog.store.hardState.commit = 2 := by
  have ⟨hne, hty, hfrm, hto, hidx, htm, hok1, hok2, he, hc0, hpend, hc2, hgone, hnone, hmi, hmt, hhs⟩ :=
    Snap5.sx_eval.2.2.2.1
  exact ⟨Snap5.sx_hist, Snap2.sx_hist_eq ▸ Snap2.sx_hyp3, 30, Snap5.sx_t8, Snap5.sx_t9, Snap5.sx_t10,
    Snap5.sx_snap, Snap5.sx_c3, Snap5.sx_c4, Snap5.sx_c5, c05x_app.entries.head!, _, _, rfl, rfl, rfl,
    List.mem_append_right _ (c02x_head_mem _ hne), hty, hfrm, hto, hidx, htm, rfl, rfl, rfl,
    c02x_out _ hok1, c02x_out _ hok2, he, hc0, hpend, hc2, hgone, hnone, hmi, hmt, hhs⟩

/-- … and the theorems apply to it: whoever has marked index 2 committed holds an entry of term 1
there (in its uncompacted log), as the snapshot says -/
example (m2 : Nat) (s2 : Sys) (v2 : Nat) (st2 : NState) (hm2 : Snap2.sx_hist[m2]? = some s2)
    (hv2 : s2.node v2 = some st2) (hk : 2 ≤ st2.raft.raftLog.committed) :
    Has (Snap.FL Snap2.sx_hist 0 st2) 2 1 := by
  have ⟨ht, hidx⟩ := Snap5.sx_eval.2.2.2.2.1
  rw [Snap2.sx_hist_eq] at hm2 ⊢
  have h := ((C01_cluster_snapshot_point_agreement c02x_cfg 0 Snap5.sx_hist
    (Snap2.sx_hist_eq ▸ Snap2.sx_hyp3) 31
    Snap5.sx_t9 rfl 3 Snap5.sx_c4 rfl 1 ht (by rw [hidx]; decide)).2 m2 s2 v2 st2 hm2 hv2
    (by rw [hidx]; exact hk)).1
  rw [hidx] at h
  exact h

end Examples

end Snapshots

end RaftProps.C01e
