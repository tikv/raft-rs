import RaftProofs.ClusterFlowM
import RaftProofs.ClusterFlowI
import RaftProofs.ClusterFlowD
import RaftProofs.ClusterFlowX

/-!
# C13 (ClusterSem) — replication flow control and advertised commit indexes, in every state of every history

`RaftProps/C13b.lean` proves the node-local, single-call half of C13 on the executable model.  This
file lifts it to `ClusterSem` (`RaftModel/Cluster.lean`): statements about **every state of every
history** of a cluster of node models with the monotone transport.

* `C13_cluster_inflights_invariant` — in every state of every history (plain `History`, no further
  hypothesis) every progress of every node's tracker has a well-formed in-flight window
  (`Inflights.Inv`, the ring invariant of C18) that holds at most `cap` indexes; with the initial-state
  clause `C13_boot_inflights` and the per-call preservation `C13_call_inflights_preserved` (all
  `NodeOp`s, `adjust_max_inflight_msgs` and `maybe_free_inflight_buffers` included);
* `C13_cluster_advertised_commit_le` — every `MsgAppend` / `MsgHeartbeat` in the transport or in a
  node's queue carries a commit index that its sender had reached as leader of the message's term at
  some earlier point of the history (hypotheses: `Hyp`, the weakest bundle of the commit layer);
* `C13_cluster_heartbeat_commit_le_matched` — a `MsgHeartbeat` to `j` carries a commit index that is at
  most the `matched` index its sender held for `j` when the queueing step ended (hypotheses: `Hyp`);
* `C13_cluster_heartbeat_commit_acknowledged` — … and `commit ≤ c0` (the common initial commit index)
  or a commit index covered by an accepting `MsgAppendResponse` of `j` for the leader's term that was in
  the transport when the heartbeat was queued; and when `j` queued that acknowledgement its log agreed,
  up to the acknowledged index, with a log of that term's leader (hypotheses: `Hyp3w`).
-/
namespace RaftProps.C13
open RaftModel RaftModel.Cluster RaftModel.Node
open RaftModel.Cluster.Flow RaftModel.Raft.FL

/-! ## 1. the in-flight windows -/

/-- **initial-state clause**: every progress of a node just built by `RawNode::new` (`Node.boot`,
from any storage under any `Config`) has a well-formed in-flight window. -/
theorem C13_boot_inflights (c : Config) (store : MemStorage) (rnd : Option Nat) (st : NState)
    (hb : Node.boot c store rnd = .ok (.ok st)) :
    ∀ q ∈ st.raft.prs.progress, q.2.ins.Inv ∧ q.2.ins.count ≤ q.2.ins.cap :=
  fun q hq => ⟨boot_tok hb q hq, (boot_tok hb q hq).count_le⟩

/-- **per-call preservation, for ALL `NodeOp`s** (the 35 constructors of `RaftModel/NodeOps.lean`:
`tick`, `step`, `Raft::step`, proposals, `read_index`, `transfer_leader`, `campaign`, `ping`,
`request_snapshot`, the reports, `apply_conf_change`, the persistence / apply / compaction steps of the
emulated application, draining, the run-time knobs, **`adjust_max_inflight_msgs`**,
**`maybe_free_inflight_buffers`**, the group-commit calls, `on_entries_fetched`): a call that returns
(does not panic) takes a node all of whose in-flight windows are well-formed to such a node.  The bound
is stated with the capacity the window itself carries (`Inflights.cap`: `max_inflight_msgs` at creation,
whatever `adjust_max_inflight_msgs` set since — a reduction below the current count is deferred,
`incoming_cap`, and `Inflights.Inv` says it only exists while the window is non-empty). -/
theorem C13_call_inflights_preserved (st st' : NState) (rnd : Option Nat) (op : NodeOp) (res : OpRes)
    (h : ∀ q ∈ st.raft.prs.progress, q.2.ins.Inv)
    (hc : Node.call st rnd op = .ok (res, st')) :
    ∀ q ∈ st'.raft.prs.progress, q.2.ins.Inv ∧ q.2.ins.count ≤ q.2.ins.cap :=
  fun q hq => ⟨call_tok h hc q hq, (call_tok h hc q hq).count_le⟩

/-- **C13 `inflights_invariant` (ClusterSem).**  In every state `h[n]` of **every history** of
`ClusterSem` (no hypothesis besides `History h`: any configuration, any application behaviour, loss /
duplication / reordering, crashes and restarts), for every node `i` and every progress `p` its tracker
holds for a peer `id`:

* the in-flight window is well-formed — `p.ins.Inv`, the ring-buffer invariant of
  `RaftProofs/Inflights.lean` under which the window *is* the bounded FIFO of C18
  (`C18_observables`: `count`, `full` and the contents are those of the FIFO);
* it holds at most `cap` indexes: `p.ins.count ≤ p.ins.cap`, and the FIFO contents have exactly
  `count` elements.

Together with `C13_no_send_when_paused` / `C13_isPaused_char` (a replicating follower whose window is
full is paused and gets nothing) this is "at most `cap` unacknowledged entry-carrying appends while
replicating". -/
theorem C13_cluster_inflights_invariant (h : List Sys) (hh : History h) (n : Nat) (s : Sys)
    (hn : h[n]? = some s) (i : Nat) (st : NState) (hi : s.node i = some st) (id : Nat)
    (p : Progress) (hp : (id, p) ∈ st.raft.prs.progress) :
    p.ins.Inv ∧ p.ins.count ≤ p.ins.cap ∧ p.ins.contents.length = p.ins.count := by
  have hI : p.ins.Inv := flow_inv hh s (mem_of_get hn) i st hi (id, p) hp
  refine ⟨hI, hI.count_le, ?_⟩
  simp [Inflights.contents]

/-- … in the form `prs.get id = some p` -/
theorem C13_cluster_inflights_invariant_get (h : List Sys) (hh : History h) (n : Nat) (s : Sys)
    (hn : h[n]? = some s) (i : Nat) (st : NState) (hi : s.node i = some st) (id : Nat)
    (p : Progress) (hp : st.raft.prs.get id = some p) :
    p.ins.Inv ∧ p.ins.count ≤ p.ins.cap :=
  have := C13_cluster_inflights_invariant h hh n s hn i st hi id p (RaftProps.C02.c02_lookup_mem _ _ _ hp)
  ⟨this.1, this.2.1⟩

/-! ## 2 and 3. advertised commit indexes -/

/-- **C13 `advertised_commit_le` (ClusterSem).**  In every state `h[n]` of every history (under the
Ready contract `Hyp`: fixed non-empty duplicate-free voter configuration, `InitOk`, `KStep`, no
batching, no `MsgSnapshot` in the transport), every `MsgAppend` and every `MsgHeartbeat` `x` that is in
the transport or queued at any node was queued by node `x.frm` in a step that ended in a state
`h[n0]`, `n0 ≤ n`, in which `x.frm` was **leader of term `x.term`** with a commit index **at least
`x.commit`**.  (Stated with the existential point: the sender may have moved on, stepped down or
restarted since.) -/
theorem C13_cluster_advertised_commit_le (cfg : JointConfig) (h : List Sys) (H : Hyp cfg h)
    (n : Nat) (s : Sys) (hn : h[n]? = some s) (x : Message)
    (hx : x ∈ s.net ∨ ∃ i st, s.node i = some st ∧ x ∈ st.raft.msgs)
    (hty : x.msgType = .msgAppend ∨ x.msgType = .msgHeartbeat) :
    ∃ n0 s0 st0, n0 ≤ n ∧ h[n0]? = some s0 ∧ s0.node x.frm = some st0 ∧
      st0.raft.state = .leader ∧ st0.raft.term = x.term ∧
      x.commit ≤ st0.raft.raftLog.committed := by
  obtain ⟨n0, s0, st0, h1, h2, h3, h4, h5, h6, _⟩ := flow_point (.of_hyp H) hn hx hty
  exact ⟨n0, s0, st0, h1, h2, h3, h4, h5, h6⟩

/-- **C13 `heartbeat_commit ≤ matched` (ClusterSem)** — the first half of
`heartbeat_commit_acknowledged`; `Hyp` suffices.  A `MsgHeartbeat` `x` in the transport or in a queue
of `h[n]` was queued by a step that ended in a state `h[n0]`, `n0 ≤ n`, in which its sender `x.frm` led
`x.term`, had commit index `≥ x.commit`, and **held for the addressee `x.to` a progress `pr` with
`x.commit ≤ pr.matched`** (node level: `C13_heartbeat_commit_le`, `min(matched, committed)`); moreover
`x.commit = 0` or the transport of `h[n0]` held an accepting `MsgAppendResponse` of `x.to` for that term
(or without term) with an index `≥ x.commit`. -/
theorem C13_cluster_heartbeat_commit_le_matched (cfg : JointConfig) (h : List Sys)
    (H : Hyp cfg h) (n : Nat) (s : Sys) (hn : h[n]? = some s) (x : Message)
    (hx : x ∈ s.net ∨ ∃ i st, s.node i = some st ∧ x ∈ st.raft.msgs)
    (hty : x.msgType = .msgHeartbeat) :
    ∃ n0 s0 stL pr, n0 ≤ n ∧ h[n0]? = some s0 ∧ s0.node x.frm = some stL ∧
      stL.raft.state = .leader ∧ stL.raft.term = x.term ∧ x.commit ≤ stL.raft.raftLog.committed ∧
      stL.raft.prs.get x.to = some pr ∧ x.commit ≤ pr.matched ∧
      (x.commit = 0 ∨ ∃ a ∈ s0.net, a.msgType = .msgAppendResponse ∧ a.reject = false ∧
        a.frm = x.to ∧ (a.term = x.term ∨ a.term = 0) ∧ x.commit ≤ a.index) := by
  obtain ⟨n0, s0, st0, pr, h1, h2, h3, h4, h5, h6, h7, h8, h9⟩ := hbm_point (.of_hyp H) hn hx hty
  refine ⟨n0, s0, st0, pr, h1, h2, h3, h4, h5, h6, h7, h8, ?_⟩
  rcases h9 with c | ⟨a, a1, a2, a3, a4, a5⟩
  · exact .inl c
  · exact .inr ⟨a, a1, a2.1, a2.2, a3, a4, a5⟩

/-- **C13 `heartbeat_commit_acknowledged` (ClusterSem)** under `Hyp3w` (the hypotheses of the commit
layer: `Hyp` + no joint quorum inside one node + no pending snapshot / constant first index `c0 + 1` +
initial commit indexes `c0` + the initial snapshot-point term bound).  A `MsgHeartbeat` `x` to follower
`j = x.to`, in the transport or in a queue of `h[n]`, carries `commit ≤ c0`, or

* at a point `h[n0]`, `n0 ≤ n`, its sender led `x.term` with commit index `≥ x.commit` and **held
  `matched ≥ x.commit` for `j`**, and the transport held an accepting `MsgAppendResponse` `a` of `j`
  for term `x.term` with `x.commit ≤ a.index` (**the follower's acknowledged index**), and
* `j` queued `a` in a state `h[n1]`, `n1 ≤ n0`, being in term `x.term`, in which its logical log
  **agreed up to `a.index` (hence up to `x.commit`) with a log `L` that the leader of `x.term` held at
  a point `≤ n1`**, `L` reaching `a.index`.

So the commit index a heartbeat advertises never exceeds the follower's acknowledged index, which is
an index up to which the follower's log matched the leader's.  (The agreement is stated for the
follower's log when it acknowledged, not for its storage at a later time: an acknowledged suffix may be
truncated by a later leader — cf. `RaftProps/C01c.REPORT.md`.) -/
theorem C13_cluster_heartbeat_commit_acknowledged (cfg : JointConfig) (c0 : Nat) (h : List Sys)
    (H : Hyp3w cfg c0 h) (n : Nat) (s : Sys) (hn : h[n]? = some s) (x : Message)
    (hx : x ∈ s.net ∨ ∃ i st, s.node i = some st ∧ x ∈ st.raft.msgs)
    (hty : x.msgType = .msgHeartbeat) :
    x.commit ≤ c0 ∨
    ∃ n0 s0 stL pr a, n0 ≤ n ∧ h[n0]? = some s0 ∧ s0.node x.frm = some stL ∧
      stL.raft.state = .leader ∧ stL.raft.term = x.term ∧ x.commit ≤ stL.raft.raftLog.committed ∧
      stL.raft.prs.get x.to = some pr ∧ x.commit ≤ pr.matched ∧
      a ∈ s0.net ∧ a.msgType = .msgAppendResponse ∧ a.reject = false ∧ a.frm = x.to ∧
      a.term = x.term ∧ x.commit ≤ a.index ∧
      ∃ n1 s1 stj L, n1 ≤ n0 ∧ h[n1]? = some s1 ∧ s1.node x.to = some stj ∧ a ∈ stj.raft.msgs ∧
        stj.raft.term = x.term ∧ LeaderLog h n1 x.term L ∧ a.index ≤ L.lastIndex ∧
        EqUpTo stj.raft.raftLog.abs L a.index ∧ EqUpTo stj.raft.raftLog.abs L x.commit := by
  by_cases hc : x.commit ≤ c0
  · exact .inl hc
  right
  obtain ⟨n0, s0, st0, pr, a, h1, h2, h3, h4, h5, h6, p1, p2, a1, a2, a3, hterm, a5,
      n1, s1, stj, L, b1, b2, b3, b4, b5, b6, b7, b8⟩ :=
    hb_acknowledged (.of_hyp H.toHyp2w.toHyp) (.of_hyp3w H) hn hx hty (by omega)
  exact ⟨n0, s0, st0, pr, a, h1, h2, h3, h4, h5, h6, p1, p2, a1, a2.1, a2.2, a3, hterm, a5,
    n1, s1, stj, L, b1, b2, b3, b4, b5, b6, b7, b8, b8.mono a5⟩

/-! ## 4. non-vacuity (kernel-evaluated) -/

section Examples
open RaftProps.C02 RaftProps.C05

/-- **non-vacuity**: there is a history of `ClusterSem` (`RaftProofs/ClusterFlowX.lean`: the 15-state
history of `C01_cluster_nonvacuous` continued by a proposal at the leader, a `ping` and the hand-over of
the leader's queue; voters `{1, 2, 3}`, `c0 = 0`) that satisfies the premises of every theorem of this
file (`History`, `Hyp`, `Hyp3w`) and in which

* the transport holds an entry-carrying `MsgAppend` of node 1 for term 1, and the queue of node 1 holds
  an entry-carrying `MsgAppend` to node 2 advertising commit index 1;
* the transport of the last state holds a `MsgHeartbeat` of node 1 (term 1) to node 2 advertising
  commit index `1 > c0`;
* node 1, leader, keeps a **non-empty in-flight window** for the replicating follower 2:
  `count = 1 ≤ cap = 256`, contents `[2]`. -/
theorem C13_cluster_nonvacuous :
    ∃ h : List Sys, History h ∧ Hyp c02x_cfg h ∧ Hyp3w c02x_cfg 0 h ∧
      (∃ (n : Nat) (s : Sys) (x : Message), h[n]? = some s ∧ x ∈ s.net ∧ x.msgType = .msgAppend ∧
        x.entries ≠ [] ∧ x.frm = 1 ∧ x.term = 1) ∧
      (∃ (n : Nat) (s : Sys) (st : NState) (x : Message), h[n]? = some s ∧ s.node 1 = some st ∧
        x ∈ st.raft.msgs ∧ x.msgType = .msgAppend ∧ x.entries ≠ [] ∧ x.to = 2 ∧ x.commit = 1) ∧
      (∃ (n : Nat) (s : Sys) (x : Message), h[n]? = some s ∧ x ∈ s.net ∧
        x.msgType = .msgHeartbeat ∧ x.frm = 1 ∧ x.to = 2 ∧ x.term = 1 ∧ x.commit = 1) ∧
      (∃ (n : Nat) (s : Sys) (st : NState) (p : Progress), h[n]? = some s ∧ s.node 1 = some st ∧
        st.raft.state = .leader ∧ st.raft.prs.get 2 = some p ∧ p.state = .replicate ∧
        p.ins.count = 1 ∧ p.ins.cap = 256 ∧ p.ins.contents = [2]) := by
  obtain ⟨w1, w2, w3, w4, w5, w6, w7, w8⟩ := c13x_window
  obtain ⟨⟨a1, a2, a3, a4, a5⟩, x, b1, b2, b3, b4, b5⟩ := c13x_appends
  obtain ⟨e1, e2, e3, e4, e5, e6, e7⟩ := c13x_heartbeat
  exact ⟨c13x_hist, c13x_history, c13x_hyp3.toHyp3w.toHyp2w.toHyp, c13x_hyp3.toHyp3w,
    ⟨15, c13x_s15, c05x_app, w1, a1, a2, a3, a4, a5⟩,
    ⟨15, c13x_s15, c13x_a9, x, w1, w2, b1, b2, b3, b4, b5⟩,
    ⟨17, c13x_s17, c13x_hb, e1, e2, e3, e4, e5, e6, e7⟩,
    ⟨15, c13x_s15, c13x_a9, c13x_pr2, w1, w2, w3, w4, w5, w6, w7, w8⟩⟩

/-- … and the theorems apply to it: the window invariant in any of its states, -/
example (i : Nat) (st : NState) (hi : c13x_s15.node i = some st) (id : Nat) (p : Progress)
    (hp : (id, p) ∈ st.raft.prs.progress) : p.ins.Inv ∧ p.ins.count ≤ p.ins.cap :=
  have := C13_cluster_inflights_invariant c13x_hist c13x_history 15 c13x_s15 c13x_window.1 i st hi
    id p hp
  ⟨this.1, this.2.1⟩

/-- the advertised commit index of the acknowledged `MsgAppend` in the transport, -/
example : ∃ n0 s0 st0, n0 ≤ 15 ∧ c13x_hist[n0]? = some s0 ∧ s0.node c05x_app.frm = some st0 ∧
    st0.raft.state = .leader ∧ st0.raft.term = c05x_app.term ∧
    c05x_app.commit ≤ st0.raft.raftLog.committed :=
  C13_cluster_advertised_commit_le c02x_cfg c13x_hist c13x_hyp3.toHyp3w.toHyp2w.toHyp 15 c13x_s15
    c13x_window.1 c05x_app (.inl c13x_appends.1.1) (.inl c13x_appends.1.2.1)

/-- and, for the heartbeat of the last state (commit index `1 > c0 = 0`), the non-trivial alternative
of `C13_cluster_heartbeat_commit_acknowledged`: the leader held `matched ≥ 1` for node 2, node 2's
acknowledgement was in the transport, and node 2's log agreed with the leader's up to it. -/
example : ∃ n0 s0 stL pr a, n0 ≤ 17 ∧ c13x_hist[n0]? = some s0 ∧ s0.node c13x_hb.frm = some stL ∧
      stL.raft.state = .leader ∧ stL.raft.term = c13x_hb.term ∧
      c13x_hb.commit ≤ stL.raft.raftLog.committed ∧
      stL.raft.prs.get c13x_hb.to = some pr ∧ c13x_hb.commit ≤ pr.matched ∧
      a ∈ s0.net ∧ a.msgType = .msgAppendResponse ∧ a.reject = false ∧ a.frm = c13x_hb.to ∧
      a.term = c13x_hb.term ∧ c13x_hb.commit ≤ a.index ∧
      ∃ n1 s1 stj L, n1 ≤ n0 ∧ c13x_hist[n1]? = some s1 ∧ s1.node c13x_hb.to = some stj ∧
        a ∈ stj.raft.msgs ∧ stj.raft.term = c13x_hb.term ∧ LeaderLog c13x_hist n1 c13x_hb.term L ∧
        a.index ≤ L.lastIndex ∧ EqUpTo stj.raft.raftLog.abs L a.index ∧
        EqUpTo stj.raft.raftLog.abs L c13x_hb.commit := by
  obtain ⟨e1, e2, e3, _, _, _, e7⟩ := c13x_heartbeat
  rcases C13_cluster_heartbeat_commit_acknowledged c02x_cfg 0 c13x_hist c13x_hyp3.toHyp3w 17
    c13x_s17 e1 c13x_hb (.inl e2) e3 with c | c
  · omega
  · exact c

end Examples

end RaftProps.C13
