import RaftProps.C07
import RaftProps.C14b
import RaftProofs.RaftGuards

/-!
# C07 (continued) — the trace-level statements

* `C07_records_ordered : C07_records_ordered_full_statement` — proved as stated.
* `C07_handout_exact_full_statement` and `C07_no_panic_full_statement` are **false on the model as
  written** (and the real code behaves the same): `Sys.step` / `EnvOk` leave out four obligations
  of the documented contract.  Counterexample runs: `C07_handout_exact_needs_write`,
  `C07_no_panic_needs_order`, `C07_no_panic_needs_monotone_apply`.  The obligations are stated as
  `AppOk`; `ContractTrace2` = `ContractTrace` + `AppOk` on every call.
* `C07_handout_exact` — the statement of `C07_handout_exact_full_statement` over `ContractTrace2`,
  proved from the explicit trace invariant `TraceInv` (`init_inv`, `step_inv`; a successful step is a
  case of the relation `Sys.Steps`).  The storage-side steps (`write`, `compact`) are carried through
  the `RaftLog` invariant by `RaftProofs/RaftLogStore.lean` (`Inv.write_log`, `Inv.stable_log`,
  `Inv.compactStore_logStep`), the callbacks here (`onPersistReady_log`, `commitApply_log`), from what
  each call is (`RaftProofs/RawNode.lean`).
* `C07_no_panic_quiet` — no panic, over `ContractTrace2`, for every call except the three that
  hand entries out.  `C07_no_panic_handout_statement` (those three, under the named environment
  hypothesis `ReadyEnvOk`) is kept as an unproved definition.
-/
namespace RaftProps.C07
open RaftModel RaftModel.RawNodeM

/-! ### the successful steps of the trace system, as a relation

One constructor per call: the guard of the contract and the `RawNodeM` call that succeeded.  The
theorems about single steps (`step_recOk`, `step_inv`, …) go by cases on it. -/

inductive Sys.Steps (s : Sys) : Call → Sys → Prop
  | env {e n} : s.pending = none → s.n.env e = .ok n → Steps s (.env e) { s with n := n }
  | ready {n rd} : s.pending = none → s.n.ready = .ok (n, rd) → Steps s .ready (s.afterReady n rd)
  | write {rd n} : s.pending = some rd → s.n.storageWrite rd = .ok n → Steps s .write { s with n := n }
  | advanceAppendAsync {rd n} : s.pending = some rd → s.n.commitReady rd = .ok n →
      Steps s .advanceAppendAsync { s with n := n, pending := none }
  | advanceAppend {rd eff n l} : s.pending = some rd → s.n.advanceAppend rd eff = .ok (n, l) →
      Steps s (.advanceAppend eff)
        { s with n := n, pending := none, handed := s.handed ++ l.committedEntries }
  | advance {rd eff1 eff2 n l} : s.pending = some rd → s.n.advance rd eff1 eff2 = .ok (n, l) →
      Steps s (.advance eff1 eff2)
        { s with n := n, pending := none, handed := s.handed ++ l.committedEntries }
  | onPersistReady {k eff n} : k ≤ s.n.maxNumber → s.n.onPersistReady k eff = .ok n →
      Steps s (.onPersistReady k eff) { s with n := n }
  | advanceApply {eff n} : s.n.commitApply s.n.commitSinceIndex eff = .ok n →
      Steps s (.advanceApply eff) { s with n := n }
  | advanceApplyTo {k eff n} : k ≤ s.n.commitSinceIndex → s.n.commitApply k eff = .ok n →
      Steps s (.advanceApplyTo k eff) { s with n := n }
  | compact {k l} : s.n.log.compactStore k = .ok l →
      Steps s (.compact k) { s with n := { s.n with log := l } }

theorem Sys.step_ok {s s' : Sys} {c : Call} (h : s.step c = some (.ok s')) : s.Steps c s' := by
  cases c with
  | env e =>
    simp only [Sys.step] at h
    split at h
    · rename_i hp; injection h with h
      cases he : s.n.env e with
      | ok n => simp only [he] at h; injection h with h; subst h; exact .env hp he
      | err e => simp only [he] at h; cases h
      | panic p => simp only [he] at h; cases h
    · cases h
  | ready =>
    simp only [Sys.step] at h
    split at h
    · rename_i hp; injection h with h
      cases he : s.n.ready with
      | ok p => obtain ⟨n, rd⟩ := p; simp only [he] at h; injection h with h; subst h; exact .ready hp he
      | err e => simp only [he] at h; cases h
      | panic p => simp only [he] at h; cases h
    · cases h
  | write =>
    simp only [Sys.step] at h
    split at h
    · rename_i rd hp; injection h with h
      cases he : s.n.storageWrite rd with
      | ok n => simp only [he] at h; injection h with h; subst h; exact .write hp he
      | err e => simp only [he] at h; cases h
      | panic p => simp only [he] at h; cases h
    · cases h
  | advanceAppendAsync =>
    simp only [Sys.step] at h
    split at h
    · rename_i rd hp; injection h with h
      cases he : s.n.advanceAppendAsync rd with
      | ok n => simp only [he] at h; injection h with h; subst h; exact .advanceAppendAsync hp he
      | err e => simp only [he] at h; cases h
      | panic p => simp only [he] at h; cases h
    · cases h
  | advanceAppend eff =>
    simp only [Sys.step] at h
    split at h
    · rename_i rd hp; injection h with h
      cases he : s.n.advanceAppend rd eff with
      | ok p => obtain ⟨n, l⟩ := p; simp only [he] at h; injection h with h; subst h; exact .advanceAppend hp he
      | err e => simp only [he] at h; cases h
      | panic p => simp only [he] at h; cases h
    · cases h
  | advance eff1 eff2 =>
    simp only [Sys.step] at h
    split at h
    · rename_i rd hp; injection h with h
      cases he : s.n.advance rd eff1 eff2 with
      | ok p => obtain ⟨n, l⟩ := p; simp only [he] at h; injection h with h; subst h; exact .advance hp he
      | err e => simp only [he] at h; cases h
      | panic p => simp only [he] at h; cases h
    · cases h
  | onPersistReady k eff =>
    simp only [Sys.step] at h
    split at h
    · rename_i hk; injection h with h
      cases he : s.n.onPersistReady k eff with
      | ok n => simp only [he] at h; injection h with h; subst h; exact .onPersistReady hk he
      | err e => simp only [he] at h; cases h
      | panic p => simp only [he] at h; cases h
    · cases h
  | advanceApply eff =>
    simp only [Sys.step] at h
    injection h with h
    cases he : s.n.advanceApply eff with
    | ok n => simp only [he] at h; injection h with h; subst h; exact .advanceApply he
    | err e => simp only [he] at h; cases h
    | panic p => simp only [he] at h; cases h
  | advanceApplyTo k eff =>
    simp only [Sys.step] at h
    split at h
    · rename_i hk; injection h with h
      cases he : s.n.advanceApplyTo k eff with
      | ok n => simp only [he] at h; injection h with h; subst h; exact .advanceApplyTo hk he
      | err e => simp only [he] at h; cases h
      | panic p => simp only [he] at h; cases h
    · cases h
  | compact k =>
    simp only [Sys.step] at h
    injection h with h
    cases he : s.n.log.compactStore k with
    | ok l => simp only [he] at h; injection h with h; subst h; exact .compact he
    | err e => simp only [he] at h; cases h
    | panic p => simp only [he] at h; cases h

/-! ### records_ordered -/

/-- `records` and `max_number` untouched -/
def RFrame (n n' : RawNodeM) : Prop := n'.records = n.records ∧ n'.maxNumber = n.maxNumber

theorem recOk_of_frame {n n' : RawNodeM} (h : RecOk n) (f : RFrame n n') : RecOk n' := by
  unfold RecOk at *
  rw [f.1, f.2]; exact h

theorem genLightReady_rframe {n n' : RawNodeM} {l : LightReady}
    (h : n.genLightReady = .ok (n', l)) : RFrame n n' := by
  obtain ⟨_, _, _, hn, _⟩ := genLightReady_ok h
  subst hn; exact ⟨rfl, rfl⟩

theorem advanceAppend_recOk {n n' : RawNodeM} {rd : Ready} {eff : Effect} {light : LightReady}
    (hok : RecOk n) (h : n.advanceAppend rd eff = .ok (n', light)) : RecOk n' := by
  obtain ⟨n1, n2, n3, l3, h1, h2, h3, _, _, _, hn', _⟩ := advanceAppend_ok h
  obtain ⟨l2, hn1, _⟩ := commitReady_ok h1
  have r1 : RecOk n1 := recOk_of_frame hok (by subst hn1; exact ⟨rfl, rfl⟩)
  have r2 : RecOk n2 := (C07_on_persist_ready_pops n1 n2 _ eff r1 h2).1
  have r3 : RecOk n3 := recOk_of_frame r2 (genLightReady_rframe h3)
  rcases hn' with hn' | hn'
  · subst hn'; exact r3
  · subst hn'; exact recOk_of_frame r3 ⟨rfl, rfl⟩

/-- one call keeps the queue ordered -/
theorem step_recOk {s s' : Sys} {c : Call} (hok : RecOk s.n) (h : s.step c = some (.ok s')) :
    RecOk s'.n := by
  cases Sys.step_ok h with
  | env _ he => obtain ⟨l, _, rfl⟩ := env_ok he; exact recOk_of_frame hok ⟨rfl, rfl⟩
  | ready _ he => exact (C07_records_ordered_ready s.n _ _ hok he).1
  | write _ he => obtain ⟨st, rfl⟩ := storageWrite_ok he; exact recOk_of_frame hok ⟨rfl, rfl⟩
  | advanceAppendAsync _ he =>
    obtain ⟨l2, rfl, _⟩ := commitReady_ok he; exact recOk_of_frame hok ⟨rfl, rfl⟩
  | advanceAppend _ he => exact advanceAppend_recOk hok he
  | advance _ he =>
    obtain ⟨n1, h1, h2⟩ := advance_ok he
    obtain ⟨_, l2, _, _, rfl⟩ := commitApply_ok h2
    exact recOk_of_frame (advanceAppend_recOk hok h1) ⟨rfl, rfl⟩
  | onPersistReady _ he => exact (C07_on_persist_ready_pops s.n _ _ _ hok he).1
  | advanceApply he =>
    obtain ⟨_, l2, _, _, rfl⟩ := commitApply_ok he; exact recOk_of_frame hok ⟨rfl, rfl⟩
  | advanceApplyTo _ he =>
    obtain ⟨_, l2, _, _, rfl⟩ := commitApply_ok he; exact recOk_of_frame hok ⟨rfl, rfl⟩
  | compact _ => exact recOk_of_frame hok ⟨rfl, rfl⟩

theorem init_recOk {s : Sys} (h : Init s) : RecOk s.n := by
  obtain ⟨st, limit, applied, maxc, n, _, hn, _, _, hs⟩ := h
  subst hs
  have hr : n.records = [] := by obtain ⟨_, _, _, _, _, _, _, _, _, _, _, hr, _⟩ := new_ok hn; exact hr
  unfold RecOk
  show (n.records.map (·.number)).Pairwise (· < ·) ∧ ∀ r ∈ n.records, r.number ≤ n.maxNumber
  rw [hr]; simp

/-- **records_ordered**, trace level: over every contract trace from a fresh node the queue of
`ReadyRecord`s is strictly increasing in `number` and bounded by `max_number`. -/
theorem C07_records_ordered : C07_records_ordered_full_statement := by
  intro s0 calls s hi ht
  have h0 := init_recOk hi
  clear hi
  induction ht with
  | nil s => exact h0
  | cons _ hstep _ ih => exact ih (step_recOk h0 hstep)

/-! ### the storage write -/

theorem applySnapshot_spec {s s' : MemStorage} {sn : Snapshot} (h : s.applySnapshot sn = .ok s') :
    s'.entries = [] ∧ s'.snapshotMetadata = sn.metadata ∧ s.firstIndex ≤ sn.metadata.index := by
  have hle := MemStorage.applySnapshot_inv h
  obtain ⟨_, e, rfl, _⟩ := MemStorage.applySnapshot_ok s sn hle
  rw [h] at e; injection e with e; subst e
  exact ⟨rfl, rfl, hle⟩

/-! ### persistence notices -/

/-- only the cursors changed, the invariant is kept, the commit index did not decrease -/
structure CursorStep (l l' : RaftLog) : Prop where
  inv : l'.Inv
  store : l'.store = l.store
  unst : l'.unstable = l.unstable
  applied : l'.applied = l.applied
  limit : l'.maxApplyUnpersistedLogLimit = l.maxApplyUnpersistedLogLimit
  comm : l.committed ≤ l'.committed
  pers : l.persisted ≤ l'.persisted

theorem CursorStep.refl {l : RaftLog} (h : l.Inv) : CursorStep l l :=
  ⟨h, rfl, rfl, rfl, rfl, Nat.le_refl _, Nat.le_refl _⟩

theorem CursorStep.trans {a b c : RaftLog} (h1 : CursorStep a b) (h2 : CursorStep b c) :
    CursorStep a c :=
  ⟨h2.inv, h2.store.trans h1.store, h2.unst.trans h1.unst, h2.applied.trans h1.applied,
    h2.limit.trans h1.limit, Nat.le_trans h1.comm h2.comm, Nat.le_trans h1.pers h2.pers⟩

theorem CursorStep.logStep {l l' : RaftLog} (h : CursorStep l l') : LogStep l l' :=
  LogStep.of_cursors h.inv h.store h.unst h.comm

theorem CursorStep.lastIndex {l l' : RaftLog} (h : CursorStep l l') : l'.lastIndex = l.lastIndex :=
  RaftLog.lastIndex_congr h.store h.unst

theorem CursorStep.firstIndex {l l' : RaftLog} (h : CursorStep l l') :
    l'.firstIndex = l.firstIndex := RaftLog.firstIndex_congr h.store h.unst

theorem CursorStep.abs {l l' : RaftLog} (h : CursorStep l l') : l'.abs = l.abs :=
  RaftLog.abs_congr h.store h.unst

theorem maybePersistSnap_step {l l' : RaftLog} {b : Bool} {i : Nat} (h : l.Inv)
    (hi : i ≤ l.store.lastIndex) (hm : l.maybePersistSnap i = .ok (l', b)) : CursorStep l l' := by
  rcases RaftLog.maybePersistSnap_inv hm with ⟨_, h1, _, h3, rfl⟩ | ⟨_, rfl⟩
  · exact ⟨h.of_cursors rfl rfl h.dummy_le_committed h.committed_le_last h3 hi,
      rfl, rfl, rfl, rfl, Nat.le_refl _, Nat.le_of_lt h1⟩
  · exact CursorStep.refl h

theorem maybePersist_step {l l' : RaftLog} {b : Bool} {i t : Nat} (h : l.Inv)
    (hm : l.maybePersist i t = .ok (l', b)) : CursorStep l l' := by
  obtain ⟨l'', b'', e, hinv, _, hcm, hap, hpers, _⟩ := h.maybePersist i t
  rw [hm] at e
  injection e with e; injection e with e1 e2
  subst e1
  rcases RaftLog.maybePersist_inv hm with ⟨_, hs, _⟩ | ⟨_, hs⟩
  · refine ⟨hinv, ?_, ?_, hap, ?_, by omega, hpers⟩ <;> rw [hs]
  · rw [hs]; exact CursorStep.refl h

theorem onPersistSnap_log {n n' : RawNodeM} {i : Nat} (hinv : n.log.Inv)
    (hi : i ≤ n.log.store.lastIndex) (h : n.onPersistSnap i = .ok n') :
    CursorStep n.log n'.log := by
  unfold onPersistSnap at h
  cases hm : n.log.maybePersistSnap i with
  | ok p =>
    obtain ⟨l, b⟩ := p
    simp only [hm] at h
    injection h with h; subst h
    exact maybePersistSnap_step hinv hi hm
  | err e => simp only [hm] at h; cases h
  | panic s => simp only [hm] at h; cases h

theorem onPersistEntries_log {n n' : RawNodeM} {i t : Nat} {eff : Effect} (hinv : n.log.Inv)
    (hc : eff.commit ≤ n.log.lastIndex) (h : n.onPersistEntries i t eff = .ok n') :
    CursorStep n.log n'.log := by
  unfold onPersistEntries at h
  cases hm : n.log.maybePersist i t with
  | ok p =>
    obtain ⟨l, b⟩ := p
    simp only [hm] at h
    have s1 := maybePersist_step hinv hm
    by_cases hb : (b && n.isLeader) = true
    · rw [if_pos hb] at h
      obtain ⟨hct, hci⟩ := s1.inv.commitTo eff.commit (by rw [s1.lastIndex]; exact hc)
      rw [hct] at h
      simp only [] at h
      injection h with h; subst h
      refine s1.trans ⟨hci, rfl, rfl, rfl, rfl, ?_, Nat.le_refl _⟩
      show l.committed ≤ max l.committed eff.commit
      omega
    · rw [if_neg hb] at h
      injection h with h; subst h
      exact s1
  | err e => simp only [hm] at h; cases h
  | panic s => simp only [hm] at h; cases h

theorem mem_takeWhile {α : Type} {p : α → Bool} {l : List α} {a : α}
    (h : a ∈ l.takeWhile p) : a ∈ l ∧ p a = true := by
  induction l with
  | nil => simp at h
  | cons x xs ih =>
    rw [List.takeWhile_cons] at h
    by_cases hp : p x = true
    · rw [if_pos hp] at h
      rcases List.mem_cons.1 h with rfl | h
      · exact ⟨List.mem_cons_self, hp⟩
      · exact ⟨List.mem_cons_of_mem _ (ih h).1, (ih h).2⟩
    · rw [if_neg hp] at h; simp at h

theorem recStep_snap (acc : Nat × Nat × Nat) (r : ReadyRecord) :
    ((recStep acc r).2.2 = acc.2.2 ∧ r.snapshot = none) ∨
      ∃ t, r.snapshot = some ((recStep acc r).2.2, t) := by
  unfold recStep
  cases hs : r.snapshot with
  | none => cases hl : r.lastEntry with
    | none => exact .inl ⟨rfl, rfl⟩
    | some q => exact .inl ⟨rfl, rfl⟩
  | some p =>
    obtain ⟨i, t⟩ := p
    cases hl : r.lastEntry with
    | none => exact .inr ⟨t, rfl⟩
    | some q => exact .inr ⟨t, rfl⟩

/-- the snapshot index forwarded by `on_persist_ready` is the one of a popped record -/
theorem persistTarget_snap (l : List ReadyRecord) (acc : Nat × Nat × Nat) :
    (persistTarget l acc).2.2 = acc.2.2 ∨
      ∃ r ∈ l, ∃ t, r.snapshot = some ((persistTarget l acc).2.2, t) := by
  induction l generalizing acc with
  | nil => exact .inl rfl
  | cons r rs ih =>
    show (persistTarget rs (recStep acc r)).2.2 = _ ∨ _
    rcases ih (recStep acc r) with h | ⟨r', hr', t, ht⟩
    · rcases recStep_snap acc r with ⟨h2, _⟩ | ⟨t, ht⟩
      · left; rw [h, h2]
      · right
        refine ⟨r, List.mem_cons_self, t, ?_⟩
        show r.snapshot = some ((persistTarget rs (recStep acc r)).2.2, t)
        rw [h]; exact ht
    · exact .inr ⟨r', List.mem_cons_of_mem _ hr', t, ht⟩

/-- `on_persist_ready`: only cursors of the log change, under the `RaftLog` invariant, when the
snapshot of every record it pops has been applied to the storage, and for a raft effect within
the log -/
theorem onPersistReady_log {n n' : RawNodeM} {number : Nat} {eff : Effect} (hinv : n.log.Inv)
    (hrs : ∀ r ∈ n.records, r.number ≤ number → ∀ i t, r.snapshot = some (i, t) →
      i < n.log.store.firstIndex)
    (hc : eff.commit ≤ n.log.lastIndex) (h : n.onPersistReady number eff = .ok n') :
    CursorStep n.log n'.log := by
  obtain ⟨idx, tm, sidx, n2, htg, h1, h2⟩ := onPersistReady_inv h
  have htgt := persistTarget_snap (n.records.takeWhile (fun r => decide (r.number ≤ number)))
    (0, 0, 0)
  rw [htg] at htgt
  simp only [] at htgt
  -- the snapshot notice, then the entries notice
  have s1 : CursorStep n.log n2.log := by
    by_cases hsn : sidx ≠ 0
    · rw [if_pos hsn] at h1
      have hle : sidx ≤ n.log.store.lastIndex := by
        rcases htgt with h0 | ⟨r, hr, t, ht⟩
        · exact absurd h0 hsn
        · obtain ⟨hm, hp⟩ := mem_takeWhile hr
          have := hrs r hm (of_decide_eq_true hp) _ _ ht
          have := hinv.storeWF.last_succ
          omega
      exact onPersistSnap_log (n := { n with
        unpersistedHsNumber := if n.unpersistedHsNumber ≤ number then 0 else n.unpersistedHsNumber,
        records := n.records.dropWhile (fun r => decide (r.number ≤ number)) }) hinv hle h1
    · rw [if_neg hsn] at h1
      injection h1 with h1; subst h1
      exact CursorStep.refl hinv
  by_cases hi : idx ≠ 0
  · rw [if_pos hi] at h2
    exact s1.trans (onPersistEntries_log s1.inv (by rw [s1.lastIndex]; exact hc) h2)
  · rw [if_neg hi] at h2
    injection h2 with h2; subst h2
    exact s1

/-! ### apply notices, compaction, the environment -/

/-- the auto-leave entry a leader may append inside `commit_apply` goes right after the last index
(`Raft::append_entry` raft.rs:1046 numbers it `last_index + 1`) -/
def AppendedOk (l : RaftLog) (eff : Effect) : Prop :=
  ∀ e0 es, eff.appended = e0 :: es → ContigFrom e0.index (e0 :: es) ∧ e0.index = l.lastIndex + 1

theorem commitApply_log {n n' : RawNodeM} {a : Nat} {eff : Effect} (hinv : n.log.Inv)
    (hap : AppendedOk n.log eff) (h : n.commitApply a eff = .ok n') :
    LogStep n.log n'.log ∧ n'.log.store = n.log.store ∧ n'.log.committed = n.log.committed ∧
    n'.log.unstable.snapshot = n.log.unstable.snapshot ∧
    (n'.log.applied = n.log.applied ∨ (n'.log.applied = a ∧ a ≤ n.log.committed)) ∧
    ((n.isLeader && !eff.appended.isEmpty) = false → n'.log.unstable = n.log.unstable) := by
  obtain ⟨l1, l2, h1, h2, rfl⟩ := commitApply_ok h
  -- the log after `applied_to`
  have k1 : l1.store = n.log.store ∧ l1.unstable = n.log.unstable ∧
      l1.committed = n.log.committed ∧ l1.persisted = n.log.persisted ∧
      (l1.applied = n.log.applied ∨ (l1.applied = a ∧ a ≤ n.log.committed)) := by
    rcases RaftLog.appliedTo_inv h1 with ⟨_, rfl⟩ | ⟨_, hle, rfl⟩
    · exact ⟨rfl, rfl, rfl, rfl, .inl rfl⟩
    · exact ⟨rfl, rfl, rfl, rfl, .inr ⟨rfl, hle⟩⟩
  obtain ⟨hs1, hu1, hc1, hp1, ha1⟩ := k1
  have hinv1 : l1.Inv := hinv.of_cursors hs1 hu1 (by rw [hc1]; exact hinv.dummy_le_committed)
    (by rw [hc1]; exact hinv.committed_le_last) (by rw [hp1]; exact hinv.persisted_lt_off)
    (by rw [hp1]; exact hinv.persisted_le_store)
  have hl1 : l1.lastIndex = n.log.lastIndex := RaftLog.lastIndex_congr hs1 hu1
  have st1 : LogStep n.log l1 := .of_cursors hinv1 hs1 hu1 (Nat.le_of_eq hc1.symm)
  rcases h2 with rfl | ⟨k, hb, happ'⟩
  · exact ⟨st1, hs1, hc1, by show l2.unstable.snapshot = _; rw [hu1], ha1,
      fun _ => hu1⟩
  · cases hents : eff.appended with
    | nil => rw [hents] at hb; simp at hb
    | cons e0 es =>
      -- the auto-leave entry goes right behind the log
      obtain ⟨hc, h0⟩ := hap e0 es hents
      have hcl := hinv1.committed_le_last
      obtain ⟨l', happ, _, habs, hst, hcm, hper, happl, _, hsn, hi⟩ :=
        hinv1.append e0 es hc (by rw [h0, ← hl1]; exact Nat.lt_succ_of_le hcl)
          (by rw [h0, hl1]; exact Nat.le_refl _)
      rw [hents, happ] at happ'
      injection happ' with happ'; injection happ' with happ' _; subst happ'
      have hpo := hinv1.persisted_lt_off
      have hls := hinv1.last_succ
      have hinv' := hi l1.persisted (Nat.le_refl _)
        (by rw [h0, ← hl1, hls]; exact Nat.lt_of_lt_of_le hpo (Nat.le_add_right _ _))
      rw [← hper] at hinv'
      exact ⟨st1.trans (.of_truncateAppend hinv1 hinv' (Nat.le_of_eq hcm.symm) habs
            (by rw [h0, ← hl1]; exact hcl)),
        hst.trans hs1, hcm.trans hc1, by show l'.unstable.snapshot = _; rw [hsn, hu1],
        by show l'.applied = _ ∨ l'.applied = a ∧ _; rw [happl]; exact ha1,
        fun hf => by rw [hents] at hb; rw [hf] at hb; cases hb⟩

/-- what the `RaftLog` operations of an environment step never do: touch the storage or the
applied index, lower the commit index, install a snapshot below the commit index -/
structure OpsFrame (l l' : RaftLog) : Prop where
  store : l'.store = l.store
  applied : l'.applied = l.applied
  comm : l.committed ≤ l'.committed
  snap : ∀ sn, l'.unstable.snapshot = some sn →
    l.unstable.snapshot = some sn ∨ l.committed ≤ sn.metadata.index

theorem OpsFrame.refl (l : RaftLog) : OpsFrame l l :=
  ⟨rfl, rfl, Nat.le_refl _, fun _ h => .inl h⟩

theorem OpsFrame.trans {a b c : RaftLog} (h1 : OpsFrame a b) (h2 : OpsFrame b c) : OpsFrame a c := by
  refine ⟨h2.store.trans h1.store, h2.applied.trans h1.applied, Nat.le_trans h1.comm h2.comm, ?_⟩
  intro sn hsn
  rcases h2.snap sn hsn with h | h
  · exact h1.snap sn h
  · right; have := h1.comm; omega

theorem append_frame {l l' : RaftLog} {ents : List Entry} {x : Nat}
    (h : l.append ents = .ok (l', x)) : OpsFrame l l' ∧ l'.committed = l.committed := by
  rcases RaftLog.append_inv h with ⟨_, rfl⟩ | ⟨u, ht, rfl⟩
  · exact ⟨OpsFrame.refl _, rfl⟩
  · have := Unstable.truncateAndAppend_snapshot ht
    exact ⟨⟨rfl, rfl, Nat.le_refl _, fun sn hsn => .inl (by rw [← this]; exact hsn)⟩, rfl⟩

theorem applyLogOp_frame {l l' : RaftLog} {op : LogOp} (h : applyLogOp l op = .ok l') :
    OpsFrame l l' := by
  cases op with
  | restore sn =>
    obtain ⟨hc, rfl⟩ := RaftLog.restore_inv (show l.restore sn = .ok l' from h)
    refine ⟨rfl, rfl, hc, ?_⟩
    intro sn' hsn'
    simp only [Unstable.restore, Option.some.injEq] at hsn'
    subst hsn'
    exact .inr hc
  | tappend ents =>
    simp only [applyLogOp] at h
    cases ents with
    | nil => simp only [] at h; injection h with h; subst h; exact OpsFrame.refl _
    | cons e0 es =>
      simp only [] at h
      cases ha : l.append (e0 :: es) with
      | ok p =>
        obtain ⟨l1, x⟩ := p
        rw [ha] at h
        simp only [] at h
        injection h with h
        obtain ⟨f, _⟩ := append_frame ha
        subst h
        split
        · exact ⟨f.store, f.applied, f.comm, f.snap⟩
        · exact f
      | err e => rw [ha] at h; cases h
      | panic s => rw [ha] at h; cases h
  | commitTo i =>
    rcases RaftLog.commitTo_inv (show l.commitTo i = .ok l' from h) with ⟨_, rfl⟩ | ⟨hc, _, rfl⟩
    · exact OpsFrame.refl _
    · exact ⟨rfl, rfl, Nat.le_of_lt hc, fun _ hs => .inl hs⟩

theorem applyLogOps_frame {ops : List LogOp} : ∀ {l l' : RaftLog},
    applyLogOps l ops = .ok l' → OpsFrame l l' := by
  induction ops with
  | nil => intro l l' h; simp only [applyLogOps] at h; injection h with h; subst h; exact OpsFrame.refl _
  | cons op ops ih =>
    intro l l' h
    simp only [applyLogOps] at h
    cases h1 : applyLogOp l op with
    | ok l1 => rw [h1] at h; exact (applyLogOp_frame h1).trans (ih h)
    | err e => rw [h1] at h; cases h
    | panic s => rw [h1] at h; cases h

/-! ### the corrected contract, and the trace invariant -/

/-- the record `ready()` queues for a Ready numbered `num` computed from the log `l` -/
def recordOf (num : Nat) (l : RaftLog) : ReadyRecord :=
  { number := num,
    snapshot := l.unstable.snapshot.map (fun sn => (sn.metadata.index, sn.metadata.term)),
    lastEntry := l.unstable.entries.getLast?.map (fun e => (e.index, e.term)) }

/-- **What `Sys.step` / `EnvOk` leave out of the documented contract** (each clause is needed:
`C07_handout_exact_needs_write`, `C07_no_panic_needs_order` below are runs of the model, inside
`ContractTrace`, that violate the unproved `…_full_statement`s without it):

* `advance*` only after the storage write of the Ready (`Written`, raw_node.rs:708-714: "it's still
  required that the updates can be read by raft from the `Storage` trait before calling
  `advance_append_async`");
* `on_persist_ready(number)` only for a Ready that has been passed to `advance_append_async`
  already, i.e. not for the one still held;
* `compact(k)` inside the storage (`k ≤ last_index`; `MemStorage::compact(last_index + 1)` drains
  every entry and `first_index` falls back to the old snapshot point, storage.rs:294);
* `advance_apply_to(k)` does not go backwards (`applied ≤ k`, or `k = 0` which is ignored):
  `RaftLog::applied_to` is `fatal!` otherwise (raft_log.rs:322);
* raft effect: the auto-leave entry of `commit_apply` is numbered `last_index + 1`
  (`Raft::append_entry`), and `advance_apply*` does not append it while a Ready is held (if it
  did, the held Ready's record no longer matches the unstable tail and `commit_ready` hits
  `fatal!` in `Unstable::stable_entries`, log_unstable.rs:98 — see the report). -/
def AppOk (s : Sys) : Call → Prop
  | .advanceAppendAsync => Written s.n.log
  | .advanceAppend _ => Written s.n.log
  | .advance _ eff2 => Written s.n.log ∧ AppendedOk s.n.log eff2
  | .onPersistReady number _ => ∀ rd, s.pending = some rd → number < rd.number
  | .advanceApply eff => AppendedOk s.n.log eff ∧
      (s.pending ≠ none → (s.n.isLeader && !eff.appended.isEmpty) = false)
  | .advanceApplyTo k eff => (k = 0 ∨ s.n.log.applied ≤ k) ∧ AppendedOk s.n.log eff ∧
      (s.pending ≠ none → (s.n.isLeader && !eff.appended.isEmpty) = false)
  | .compact k => k ≤ s.n.log.store.lastIndex
  | _ => True

/-- `ContractTrace` with the application-side obligations `AppOk` on every call -/
inductive ContractTrace2 : Sys → List Call → Sys → Prop where
  | nil (s : Sys) : ContractTrace2 s [] s
  | cons {s s1 s2 : Sys} {c : Call} {cs : List Call} :
      EnvOk s c → AppOk s c → s.step c = some (.ok s1) → ContractTrace2 s1 cs s2 →
      ContractTrace2 s (c :: cs) s2

theorem ContractTrace2.toContractTrace {s s' : Sys} {cs : List Call} (h : ContractTrace2 s cs s') :
    ContractTrace s cs s' := by
  induction h with
  | nil s => exact .nil s
  | cons he _ hs _ ih => exact .cons he hs ih

/-- **The trace invariant.** -/
structure TraceInv (s : Sys) : Prop where
  inv : s.n.log.Inv
  applied_comm : s.n.log.applied ≤ s.n.log.committed
  applied_csi : s.n.log.applied ≤ s.n.commitSinceIndex
  csi_comm : s.n.commitSinceIndex ≤ s.n.log.committed
  first_csi : s.n.log.store.firstIndex ≤ s.n.commitSinceIndex + 1
  snap_csi : ∀ sn, s.n.log.unstable.snapshot = some sn →
    (s.pending = none → s.n.commitSinceIndex ≤ sn.metadata.index) ∧
    (s.pending ≠ none → sn.metadata.index = s.n.commitSinceIndex)
  recOk : RecOk s.n
  recSnap : ∀ r ∈ s.n.records, ∀ i t, r.snapshot = some (i, t) →
    i < s.n.log.store.firstIndex ∨
    (s.pending ≠ none ∧ r.number = s.n.maxNumber ∧
      ∃ sn, s.n.log.unstable.snapshot = some sn ∧ sn.metadata.index = i)
  pend : ∀ rd, s.pending = some rd → rd.number = s.n.maxNumber ∧
    rd.entries = s.n.log.unstable.entries ∧ rd.snapshot = s.n.log.unstable.snapshot ∧
    s.n.records.getLast? = some (recordOf rd.number s.n.log)
  contig : ContigFrom (s.start + 1) s.handed
  len : s.n.commitSinceIndex = s.start + s.handed.length
  handedOk : ∀ k e, s.handed[k]? = some e →
    s.n.log.abs.entryAt (s.start + 1 + k) = some e ∨ s.start + 1 + k ≤ s.n.log.abs.snapIdx

/-- a call that hands nothing out -/
theorem TraceInv.quiet {s s' : Sys} (h : TraceInv s) (hh : s'.handed = s.handed)
    (hs : s'.start = s.start) (hcsi : s'.n.commitSinceIndex = s.n.commitSinceIndex)
    (st : LogStep s.n.log s'.n.log)
    (ha1 : s'.n.log.applied ≤ s'.n.log.committed)
    (ha2 : s'.n.log.applied ≤ s'.n.commitSinceIndex)
    (hf : s'.n.log.store.firstIndex ≤ s'.n.commitSinceIndex + 1)
    (hsn : ∀ sn, s'.n.log.unstable.snapshot = some sn →
      (s'.pending = none → s'.n.commitSinceIndex ≤ sn.metadata.index) ∧
      (s'.pending ≠ none → sn.metadata.index = s'.n.commitSinceIndex))
    (hr : RecOk s'.n)
    (hrs : ∀ r ∈ s'.n.records, ∀ i t, r.snapshot = some (i, t) →
      i < s'.n.log.store.firstIndex ∨
      (s'.pending ≠ none ∧ r.number = s'.n.maxNumber ∧
        ∃ sn, s'.n.log.unstable.snapshot = some sn ∧ sn.metadata.index = i))
    (hp : ∀ rd, s'.pending = some rd → rd.number = s'.n.maxNumber ∧
      rd.entries = s'.n.log.unstable.entries ∧ rd.snapshot = s'.n.log.unstable.snapshot ∧
      s'.n.records.getLast? = some (recordOf rd.number s'.n.log)) : TraceInv s' := by
  have hc := h.csi_comm
  have hcm := st.comm
  refine ⟨st.inv, ha1, ha2, by omega, hf, hsn, hr, hrs, hp, ?_, ?_, ?_⟩
  · rw [hh, hs]; exact h.contig
  · rw [hh, hs, hcsi]; exact h.len
  · intro k e hk
    rw [hh] at hk
    rw [hs]
    have hlt : k < s.handed.length := (List.getElem?_eq_some_iff.1 hk).1
    have hl := h.len
    exact st.keeps (by omega) (h.handedOk k e hk)

theorem getLast?_dropWhile {α : Type} (p : α → Bool) {l : List α} {a : α}
    (h : l.getLast? = some a) (hp : p a = false) : (l.dropWhile p).getLast? = some a := by
  induction l with
  | nil => simp at h
  | cons x xs ih =>
    rw [List.dropWhile_cons]
    by_cases hx : p x = true
    · rw [if_pos hx]
      cases xs with
      | nil =>
        simp only [List.getLast?_singleton, Option.some.injEq] at h
        subst h; rw [hp] at hx; cases hx
      | cons y ys =>
        rw [List.getLast?_cons_cons] at h
        exact ih h
    · rw [if_neg hx]; exact h

/-! ### preservation, call by call -/

theorem inv_env {s : Sys} {e : EnvEffect} {n' : RawNodeM} (h : TraceInv s)
    (hp : s.pending = none) (hok : EnvOk s (.env e)) (he : s.n.env e = .ok n') :
    TraceInv { s with n := n' } := by
  obtain ⟨l, hl, hn⟩ := env_ok he
  obtain ⟨l', hl', hinv', happ', hcm', hpre', _, _⟩ := hok
  rw [hl] at hl'
  injection hl' with hl'
  subst hl'
  have fr := applyLogOps_frame hl
  subst hn
  have hinv2 : RaftLog.Inv { l with maxApplyUnpersistedLogLimit := e.limit } :=
    hinv'.of_cursors rfl rfl hinv'.dummy_le_committed hinv'.committed_le_last
      hinv'.persisted_lt_off hinv'.persisted_le_store
  refine h.quiet rfl rfl rfl ⟨hinv2, hcm', fun i hi => hpre' i hi⟩ happ' ?_ ?_ ?_
    (recOk_of_frame h.recOk ⟨rfl, rfl⟩) ?_ ?_
  · show l.applied ≤ s.n.commitSinceIndex
    rw [fr.applied]; exact h.applied_csi
  · show l.store.firstIndex ≤ _
    rw [fr.store]; exact h.first_csi
  · intro sn hsn
    refine ⟨fun _ => ?_, fun hne => absurd hp hne⟩
    rcases fr.snap sn hsn with h1 | h1
    · exact (h.snap_csi sn h1).1 hp
    · have := h.csi_comm
      show s.n.commitSinceIndex ≤ _
      omega
  · intro r hr i t hs
    rcases h.recSnap r hr i t hs with h1 | ⟨h1, _⟩
    · left; show i < l.store.firstIndex; rw [fr.store]; exact h1
    · exact absurd hp h1
  · intro rd hrd
    rw [hp] at hrd; cases hrd

theorem inv_write {s : Sys} {rd : Ready} {n' : RawNodeM} (h : TraceInv s)
    (hp : s.pending = some rd) (he : s.n.storageWrite rd = .ok n') :
    TraceInv { s with n := n' } ∧ Written n'.log := by
  obtain ⟨hnum, hre, hrs, hlast⟩ := h.pend rd hp
  obtain ⟨st1, st2, h1, h2, he⟩ := storageWrite_parts he
  obtain ⟨e3, m3⟩ := applyHs_congr st2 rd.hs
  rw [hrs] at h1
  rw [hre] at h2
  obtain ⟨hinv', habs, hw, hfle, hfn, hfs⟩ := h.inv.write_log h1 h2 e3 m3
  subst he
  refine ⟨?_, hw⟩
  have hne : s.pending ≠ none := by rw [hp]; exact fun hc => by cases hc
  refine h.quiet rfl rfl rfl ⟨hinv', Nat.le_refl _, fun i _ => .inl (by rw [habs])⟩
    h.applied_comm h.applied_csi ?_ h.snap_csi (recOk_of_frame h.recOk ⟨rfl, rfl⟩) ?_ ?_
  · cases hs : s.n.log.unstable.snapshot with
    | none =>
      have := hfn hs
      have := h.first_csi
      simp only [] at *
      omega
    | some sn =>
      have := hfs sn hs
      have := (h.snap_csi sn hs).2 hne
      simp only [] at *
      omega
  · intro r hr i t hs
    rcases h.recSnap r hr i t hs with h1 | h1
    · left; simp only [] at *; omega
    · exact .inr h1
  · intro rd' hrd'
    exact h.pend rd' hrd'

theorem inv_onPersistReady {s : Sys} {number : Nat} {eff : Effect} {n' : RawNodeM}
    (h : TraceInv s) (hc : eff.commit ≤ s.n.log.lastIndex)
    (ha : ∀ rd, s.pending = some rd → number < rd.number)
    (he : s.n.onPersistReady number eff = .ok n') :
    TraceInv { s with n := n' } ∧ CursorStep s.n.log n'.log := by
  obtain ⟨hrec, hmax, hcsi⟩ := onPersistReady_records he
  have hpops := C07_on_persist_ready_pops s.n n' number eff h.recOk he
  have hrs : ∀ r ∈ s.n.records, r.number ≤ number → ∀ i t, r.snapshot = some (i, t) →
      i < s.n.log.store.firstIndex := by
    intro r hr hle i t hs
    rcases h.recSnap r hr i t hs with h1 | ⟨h1, h2, _⟩
    · exact h1
    · exfalso
      cases hp : s.pending with
      | none => exact h1 hp
      | some rd =>
        have := ha rd hp
        have := (h.pend rd hp).1
        omega
  have cs := onPersistReady_log h.inv hrs hc he
  have hcm := cs.comm
  have hac := h.applied_comm
  refine ⟨?_, cs⟩
  refine h.quiet rfl rfl hcsi cs.logStep ?_ ?_ ?_ ?_ hpops.1 ?_ ?_
  · show n'.log.applied ≤ n'.log.committed
    rw [cs.applied]; omega
  · show n'.log.applied ≤ n'.commitSinceIndex
    rw [cs.applied, hcsi]; exact h.applied_csi
  · show n'.log.store.firstIndex ≤ n'.commitSinceIndex + 1
    rw [cs.store, hcsi]; exact h.first_csi
  · intro sn hsn
    have hsn' : s.n.log.unstable.snapshot = some sn := by rw [← cs.unst]; exact hsn
    show (s.pending = none → n'.commitSinceIndex ≤ _) ∧ (s.pending ≠ none → _ = n'.commitSinceIndex)
    rw [hcsi]; exact h.snap_csi sn hsn'
  · intro r hr i t hs
    have hr' := ((hpops.2.1 r).1 hr).1
    show i < n'.log.store.firstIndex ∨ (s.pending ≠ none ∧ r.number = n'.maxNumber ∧
      ∃ sn, n'.log.unstable.snapshot = some sn ∧ _)
    rw [cs.store, cs.unst, hmax]
    exact h.recSnap r hr' i t hs
  · intro rd hrd
    obtain ⟨p1, p2, p3, p4⟩ := h.pend rd hrd
    show rd.number = n'.maxNumber ∧ rd.entries = n'.log.unstable.entries ∧
      rd.snapshot = n'.log.unstable.snapshot ∧ n'.records.getLast? = some (recordOf rd.number n'.log)
    rw [cs.unst, hmax, hrec]
    refine ⟨p1, p2, p3, ?_⟩
    have : recordOf rd.number n'.log = recordOf rd.number s.n.log := by
      unfold recordOf; rw [cs.unst]
    rw [this]
    apply getLast?_dropWhile _ p4
    have := ha rd hrd
    show decide ((recordOf rd.number s.n.log).number ≤ number) = false
    exact decide_eq_false (by show ¬ rd.number ≤ number; omega)

theorem inv_commitApply {s : Sys} {a : Nat} {eff : Effect} {n' : RawNodeM} (h : TraceInv s)
    (hle : a ≤ s.n.commitSinceIndex) (hap : AppendedOk s.n.log eff)
    (hpe : s.pending ≠ none → (s.n.isLeader && !eff.appended.isEmpty) = false)
    (he : s.n.commitApply a eff = .ok n') : TraceInv { s with n := n' } := by
  obtain ⟨_, l2, _, _, hn⟩ := commitApply_ok he
  obtain ⟨st, hst, hcm, hsn, happ, hun⟩ := commitApply_log h.inv hap he
  subst hn
  simp only [] at st hst hcm hsn happ hun
  have hac := h.applied_comm
  have hacs := h.applied_csi
  refine h.quiet rfl rfl rfl st ?_ ?_ ?_ ?_ (recOk_of_frame h.recOk ⟨rfl, rfl⟩) ?_ ?_
  · show l2.applied ≤ l2.committed
    rcases happ with h1 | ⟨h1, h2⟩ <;> omega
  · show l2.applied ≤ s.n.commitSinceIndex
    rcases happ with h1 | ⟨h1, h2⟩ <;> omega
  · show l2.store.firstIndex ≤ _
    rw [hst]; exact h.first_csi
  · intro sn hs
    exact h.snap_csi sn (by rw [← hsn]; exact hs)
  · intro r hr i t hs
    show i < l2.store.firstIndex ∨ (s.pending ≠ none ∧ r.number = s.n.maxNumber ∧
      ∃ sn, l2.unstable.snapshot = some sn ∧ _)
    rw [hst, hsn]
    exact h.recSnap r hr i t hs
  · intro rd hrd
    have hne : s.pending ≠ none := by rw [hrd]; exact fun hc => by cases hc
    have hu := hun (hpe hne)
    obtain ⟨p1, p2, p3, p4⟩ := h.pend rd hrd
    show rd.number = s.n.maxNumber ∧ rd.entries = l2.unstable.entries ∧
      rd.snapshot = l2.unstable.snapshot ∧ s.n.records.getLast? = some (recordOf rd.number l2)
    have : recordOf rd.number l2 = recordOf rd.number s.n.log := by
      unfold recordOf; rw [hu]
    rw [this, hu]
    exact ⟨p1, p2, p3, p4⟩

theorem inv_compact {s : Sys} {k : Nat} {l' : RaftLog} (h : TraceInv s)
    (hok : EnvOk s (.compact k)) (ha : k ≤ s.n.log.store.lastIndex)
    (he : s.n.log.compactStore k = .ok l') : TraceInv { s with n := { s.n with log := l' } } := by
  obtain ⟨hk1, hk2⟩ := hok
  obtain ⟨st, hu, hcm, hap, hf1, hf2⟩ := h.inv.compactStore_logStep h.applied_comm hk1 hk2 ha he
  have hac := h.applied_comm
  have hacs := h.applied_csi
  have hfc := h.first_csi
  refine h.quiet rfl rfl rfl st ?_ ?_ ?_ ?_ (recOk_of_frame h.recOk ⟨rfl, rfl⟩) ?_ ?_
  · show l'.applied ≤ l'.committed; omega
  · show l'.applied ≤ s.n.commitSinceIndex; omega
  · show l'.store.firstIndex ≤ s.n.commitSinceIndex + 1; omega
  · intro sn hs
    exact h.snap_csi sn (by rw [← hu]; exact hs)
  · intro r hr i t hs
    show i < l'.store.firstIndex ∨ (s.pending ≠ none ∧ r.number = s.n.maxNumber ∧
      ∃ sn, l'.unstable.snapshot = some sn ∧ _)
    rw [hu]
    rcases h.recSnap r hr i t hs with h1 | h1
    · left; omega
    · exact .inr h1
  · intro rd hrd
    obtain ⟨p1, p2, p3, p4⟩ := h.pend rd hrd
    show rd.number = s.n.maxNumber ∧ rd.entries = l'.unstable.entries ∧
      rd.snapshot = l'.unstable.snapshot ∧ s.n.records.getLast? = some (recordOf rd.number l')
    have : recordOf rd.number l' = recordOf rd.number s.n.log := by
      unfold recordOf; rw [hu]
    rw [this, hu]
    exact ⟨p1, p2, p3, p4⟩

/-- a node that differs outside the fields the invariant talks about -/
theorem TraceInv.congr_node {s : Sys} {n' : RawNodeM} (h : TraceInv s) (hl : n'.log = s.n.log)
    (hc : n'.commitSinceIndex = s.n.commitSinceIndex) (hr : n'.records = s.n.records)
    (hm : n'.maxNumber = s.n.maxNumber) : TraceInv { s with n := n' } := by
  refine h.quiet rfl rfl hc (by rw [hl]; exact LogStep.refl h.inv) ?_ ?_ ?_ ?_
    (recOk_of_frame h.recOk ⟨hr, hm⟩) ?_ ?_
  · show n'.log.applied ≤ n'.log.committed; rw [hl]; exact h.applied_comm
  · show n'.log.applied ≤ n'.commitSinceIndex; rw [hl, hc]; exact h.applied_csi
  · show n'.log.store.firstIndex ≤ n'.commitSinceIndex + 1; rw [hl, hc]; exact h.first_csi
  · show ∀ sn, n'.log.unstable.snapshot = some sn →
      (s.pending = none → n'.commitSinceIndex ≤ _) ∧ (s.pending ≠ none → _ = n'.commitSinceIndex)
    rw [hl, hc]; exact h.snap_csi
  · show ∀ r ∈ n'.records, ∀ i t, r.snapshot = some (i, t) → i < n'.log.store.firstIndex ∨
      (s.pending ≠ none ∧ r.number = n'.maxNumber ∧ ∃ sn, n'.log.unstable.snapshot = some sn ∧ _)
    rw [hl, hr, hm]; exact h.recSnap
  · show ∀ rd, s.pending = some rd → rd.number = n'.maxNumber ∧
      rd.entries = n'.log.unstable.entries ∧ rd.snapshot = n'.log.unstable.snapshot ∧
      n'.records.getLast? = some (recordOf rd.number n'.log)
    rw [hl, hr, hm]; exact h.pend

/-- `commit_ready` (= `advance_append_async`) of the held, written Ready -/
theorem inv_commitReady {s : Sys} {rd : Ready} {n1 : RawNodeM} (h : TraceInv s)
    (hp : s.pending = some rd) (hw : Written s.n.log) (he : s.n.commitReady rd = .ok n1) :
    TraceInv { s with n := n1, pending := none } ∧ n1.log.unstable.snapshot = none ∧
    n1.log.lastIndex = s.n.log.lastIndex ∧ n1.commitSinceIndex = s.n.commitSinceIndex ∧
    n1.maxNumber = s.n.maxNumber := by
  obtain ⟨hnum, hre, hrs, hlast⟩ := h.pend rd hp
  obtain ⟨l2, hc, he2, hz2, hs2, hst2, hcm2, hp2, ha2, _, ho2⟩ :=
    commitReady_stable s.n rd (recordOf rd.number s.n.log) h.inv hlast rfl rfl rfl
  rw [he] at hc
  injection hc with hc
  obtain ⟨hinv2, habs2, hfi, hli, hF⟩ := h.inv.stable_log hw he2 hz2 hs2 hst2 hcm2 hp2 ho2
  subst hc
  refine ⟨?_, hs2, hli, rfl, rfl⟩
  refine h.quiet rfl rfl rfl ⟨hinv2, by show s.n.log.committed ≤ l2.committed; omega,
    fun i _ => .inl (by rw [habs2])⟩ ?_ ?_ ?_ ?_ (recOk_of_frame h.recOk ⟨rfl, rfl⟩) ?_ ?_
  · show l2.applied ≤ l2.committed; rw [ha2, hcm2]; exact h.applied_comm
  · show l2.applied ≤ s.n.commitSinceIndex; rw [ha2]; exact h.applied_csi
  · show l2.store.firstIndex ≤ _; rw [hst2]; exact h.first_csi
  · intro sn hsn
    have : l2.unstable.snapshot = some sn := hsn
    rw [hs2] at this; cases this
  · intro r hr i t hs
    left
    show i < l2.store.firstIndex
    rw [hst2]
    rcases h.recSnap r hr i t hs with h1 | ⟨_, _, sn, hsn, hi⟩
    · exact h1
    · have := (hw.snap sn hsn).1; omega
  · intro rd' hrd'
    cases hrd'

theorem handed_append {l : RaftLog} {start csi : Nat} {handed ces : List Entry}
    (hc : ContigFrom (start + 1) handed) (hl : csi = start + handed.length)
    (ho : ∀ k e, handed[k]? = some e →
      l.abs.entryAt (start + 1 + k) = some e ∨ start + 1 + k ≤ l.abs.snapIdx)
    (hc2 : ContigFrom (csi + 1) ces)
    (hm : ∀ k e, ces[k]? = some e → l.abs.entryAt (csi + 1 + k) = some e) :
    ContigFrom (start + 1) (handed ++ ces) ∧
    csi + ces.length = start + (handed ++ ces).length ∧
    ∀ k e, (handed ++ ces)[k]? = some e →
      l.abs.entryAt (start + 1 + k) = some e ∨ start + 1 + k ≤ l.abs.snapIdx := by
  refine ⟨hc.append (by rw [show start + 1 + handed.length = csi + 1 by omega]; exact hc2),
    by rw [List.length_append]; omega, ?_⟩
  intro k e hk
  rcases Nat.lt_or_ge k handed.length with hlt | hge
  · rw [List.getElem?_append_left hlt] at hk; exact ho k e hk
  · rw [List.getElem?_append_right hge] at hk
    left
    have := hm _ e hk
    rw [show csi + 1 + (k - handed.length) = start + 1 + k by omega] at this
    exact this

/-- one hand-out outside `ready()` (the `gen_light_ready` of `advance_append`) -/
theorem inv_genLightReady {s : Sys} {n3 : RawNodeM} {l3 : LightReady} (h : TraceInv s)
    (hp : s.pending = none) (hsn : s.n.log.unstable.snapshot = none)
    (he : s.n.genLightReady = .ok (n3, l3)) :
    TraceInv { s with n := n3, handed := s.handed ++ l3.committedEntries } ∧
    s.n.commitSinceIndex ≤ n3.commitSinceIndex ∧ n3.log = s.n.log := by
  obtain ⟨o, _, _, hn3, _⟩ := genLightReady_ok he
  have hfirst : s.n.log.firstIndex ≤ s.n.commitSinceIndex + 1 := by
    rw [RaftLog.firstIndex_none hsn]; exact h.first_csi
  obtain ⟨hc, hm, hlen, hb, _⟩ := C07_handout_step s.n n3 l3 h.inv hfirst he
  have hlog : n3.log = s.n.log := by rw [hn3]
  have hrec : n3.records = s.n.records := by rw [hn3]
  have hmax : n3.maxNumber = s.n.maxNumber := by rw [hn3]
  obtain ⟨a1, a2, a3⟩ := handed_append h.contig h.len h.handedOk hc hm
  have hcc := h.csi_comm
  have hacs := h.applied_csi
  have hfc := h.first_csi
  refine ⟨⟨?_, ?_, ?_, ?_, ?_, ?_, recOk_of_frame h.recOk ⟨hrec, hmax⟩, ?_, ?_, a1, ?_, ?_⟩,
    by omega, hlog⟩
  · show n3.log.Inv; rw [hlog]; exact h.inv
  · show n3.log.applied ≤ n3.log.committed; rw [hlog]; exact h.applied_comm
  · show n3.log.applied ≤ n3.commitSinceIndex; rw [hlog]; omega
  · show n3.commitSinceIndex ≤ n3.log.committed
    rw [hlog]
    by_cases hne : l3.committedEntries = []
    · rw [hne] at hlen; simp at hlen; omega
    · exact (hb hne).1
  · show n3.log.store.firstIndex ≤ n3.commitSinceIndex + 1; rw [hlog]; omega
  · intro sn hs
    have : n3.log.unstable.snapshot = some sn := hs
    rw [hlog, hsn] at this; cases this
  · show ∀ r ∈ n3.records, ∀ i t, r.snapshot = some (i, t) → i < n3.log.store.firstIndex ∨
      (s.pending ≠ none ∧ r.number = n3.maxNumber ∧ ∃ sn, n3.log.unstable.snapshot = some sn ∧ _)
    rw [hlog, hrec, hmax]; exact h.recSnap
  · intro rd hrd
    have : s.pending = some rd := hrd
    rw [hp] at this; cases this
  · show n3.commitSinceIndex = s.start + (s.handed ++ l3.committedEntries).length
    omega
  · show ∀ k e, (s.handed ++ l3.committedEntries)[k]? = some e →
      n3.log.abs.entryAt (s.start + 1 + k) = some e ∨ s.start + 1 + k ≤ n3.log.abs.snapIdx
    rw [hlog]; exact a3

/-- `advance_append` of the held, written Ready -/
theorem inv_advanceAppend {s : Sys} {rd : Ready} {eff : Effect} {n' : RawNodeM} {l : LightReady}
    (h : TraceInv s) (hp : s.pending = some rd) (hw : Written s.n.log)
    (hc : eff.commit ≤ s.n.log.lastIndex) (he : s.n.advanceAppend rd eff = .ok (n', l)) :
    TraceInv { s with n := n', pending := none, handed := s.handed ++ l.committedEntries } ∧
    n'.log.lastIndex = s.n.log.lastIndex ∧ s.n.commitSinceIndex ≤ n'.commitSinceIndex := by
  obtain ⟨n1, n2, n3, l3, h1, h2, h3, hl, _, _, hn', _⟩ := advanceAppend_ok he
  obtain ⟨t1, hs1, hli1, hcsi1, _⟩ := inv_commitReady h hp hw h1
  obtain ⟨t2, cs2⟩ := inv_onPersistReady (s := { s with n := n1, pending := none }) t1
    (by show eff.commit ≤ n1.log.lastIndex; rw [hli1]; exact hc)
    (fun rd' hrd' => by cases hrd') h2
  have hs2 : n2.log.unstable.snapshot = none := by rw [cs2.unst]; exact hs1
  obtain ⟨t3, hcsi3, hlog3⟩ := inv_genLightReady (s := { s with n := n2, pending := none }) t2 rfl
    hs2 h3
  have hcsi2 : n2.commitSinceIndex = n1.commitSinceIndex := (onPersistReady_records h2).2.2
  have hli : n3.log.lastIndex = s.n.log.lastIndex := by
    rw [hlog3]; show n2.log.lastIndex = _; rw [cs2.lastIndex]; exact hli1
  rw [hl]
  rcases hn' with hn' | hn'
  · subst hn'
    exact ⟨t3, hli, by simp only [] at hcsi3; omega⟩
  · subst hn'
    refine ⟨t3.congr_node rfl rfl rfl rfl, hli, by simp only [] at hcsi3; show _ ≤ n3.commitSinceIndex; omega⟩

/-- `ready()` -/
theorem inv_ready {s : Sys} {n' : RawNodeM} {rd : Ready} (h : TraceInv s) (hp : s.pending = none)
    (he : s.n.ready = .ok (n', rd)) : TraceInv (s.afterReady n' rd) := by
  obtain ⟨hlog, _, _, _, _, _, _, hmax, hnum, hlast, _, _, _⟩ := ready_state he
  obtain ⟨hrec', _, _, recs, hrecs, hrc⟩ := C07_records_ordered_ready s.n n' rd h.recOk he
  have hre : rd.entries = s.n.log.unstable.entries ∧ rd.snapshot = s.n.log.unstable.snapshot := by
    obtain ⟨_, _, _, light, _, _, _, _, hrd⟩ := ready_ok he
    subst hrd; exact ⟨rfl, rfl⟩
  obtain ⟨hre1, hre2⟩ := hre
  have hrsnap : ∀ r ∈ n'.records, ∀ i t, r.snapshot = some (i, t) →
      i < n'.log.store.firstIndex ∨ ((some rd : Option Ready) ≠ none ∧ r.number = n'.maxNumber ∧
        ∃ sn, n'.log.unstable.snapshot = some sn ∧ sn.metadata.index = i) := by
    intro r hr i t hs
    rw [hrecs] at hr
    rw [hlog]
    rcases List.mem_append.1 hr with hr | hr
    · rcases hrc with hrc | hrc
      · rw [hrc] at hr
        rcases h.recSnap r hr i t hs with h1 | ⟨h1, _⟩
        · exact .inl h1
        · exact absurd hp h1
      · rw [hrc] at hr; cases hr
    · simp only [List.mem_singleton] at hr
      subst hr
      right
      refine ⟨(fun hc => by cases hc), by rw [hmax]; rfl, ?_⟩
      simp only [readyRecord, Option.map_eq_some_iff] at hs
      obtain ⟨sn, hsn, hq⟩ := hs
      injection hq with hq1 _
      exact ⟨sn, hsn, hq1⟩
  have hpend : ∀ rd', (some rd : Option Ready) = some rd' → rd'.number = n'.maxNumber ∧
      rd'.entries = n'.log.unstable.entries ∧ rd'.snapshot = n'.log.unstable.snapshot ∧
      n'.records.getLast? = some (recordOf rd'.number n'.log) := by
    intro rd' hrd'
    injection hrd' with hrd'
    subst hrd'
    rw [hlog, hmax, hnum]
    exact ⟨rfl, hre1, hre2, hlast⟩
  have hinv : n'.log.Inv := by rw [hlog]; exact h.inv
  have hac : n'.log.applied ≤ n'.log.committed := by rw [hlog]; exact h.applied_comm
  have hacs := h.applied_csi
  have hfc := h.first_csi
  have hcc := h.csi_comm
  cases hs : s.n.log.unstable.snapshot with
  | some sn =>
    have hrs : rd.snapshot = some sn := by rw [hre2, hs]
    obtain ⟨hces, hcsi, hle⟩ := C07_snapshot_ready_no_entries s.n n' rd sn he hrs
    have hdc := h.inv.dummy_le_committed
    rw [RaftLog.firstIndex_some hs] at hdc
    have hhanded : (s.afterReady n' rd).handed = [] := by
      simp only [Sys.afterReady, hrs, hces, Option.isSome_some, if_true, List.append_nil]
    have hstart : (s.afterReady n' rd).start = sn.metadata.index := by
      simp only [Sys.afterReady, hrs]
    refine ⟨hinv, hac, ?_, ?_, ?_, ?_, hrec', hrsnap, hpend, ?_, ?_, ?_⟩
    · show n'.log.applied ≤ n'.commitSinceIndex
      rw [hlog, hcsi]
      exact Nat.le_trans hacs hle
    · show n'.commitSinceIndex ≤ n'.log.committed
      rw [hlog, hcsi]
      exact Nat.le_of_succ_le_succ hdc
    · show n'.log.store.firstIndex ≤ n'.commitSinceIndex + 1
      rw [hlog, hcsi]
      exact Nat.le_trans hfc (Nat.succ_le_succ hle)
    · intro sn' hsn'
      have : n'.log.unstable.snapshot = some sn' := hsn'
      rw [hlog, hs] at this
      injection this with this
      subst this
      refine ⟨(fun hc => by cases hc), fun _ => ?_⟩
      exact hcsi.symm
    · rw [hhanded]; intro k e hk; simp at hk
    · rw [hhanded, hstart]
      exact hcsi
    · rw [hhanded]; intro k e hk; simp at hk
  | none =>
    have hrs : rd.snapshot = none := by rw [hre2, hs]
    have hfirst : s.n.log.firstIndex ≤ s.n.commitSinceIndex + 1 := by
      rw [RaftLog.firstIndex_none hs]; exact hfc
    obtain ⟨hc, hlen, hb, hm⟩ := C07_handout_persisted s.n n' rd h.inv hfirst hs he
    have hhanded : (s.afterReady n' rd).handed = s.handed ++ rd.committedEntries := by
      simp only [Sys.afterReady, hrs, Option.isSome_none, Bool.false_eq_true, if_false]
    have hstart : (s.afterReady n' rd).start = s.start := by
      simp only [Sys.afterReady, hrs]
    obtain ⟨a1, a2, a3⟩ := handed_append h.contig h.len h.handedOk hc hm
    refine ⟨hinv, hac, ?_, ?_, ?_, ?_, hrec', hrsnap, hpend, ?_, ?_, ?_⟩
    · show n'.log.applied ≤ n'.commitSinceIndex
      rw [hlog, hlen]
      exact Nat.le_trans hacs (Nat.le_add_right _ _)
    · show n'.commitSinceIndex ≤ n'.log.committed
      rw [hlog, hlen]
      by_cases hne : rd.committedEntries.length = 0
      · rw [hne]
        exact hcc
      · have hlt : rd.committedEntries.length - 1 < rd.committedEntries.length :=
          Nat.sub_one_lt hne
        have hget := List.getElem?_eq_some_iff.2
          ⟨hlt, (rfl : rd.committedEntries[rd.committedEntries.length - 1] = _)⟩
        have h1 := hc _ _ hget
        have h2 := (hb _ (List.getElem_mem hlt)).1
        rw [Nat.add_assoc, Nat.add_sub_cancel' (Nat.one_le_iff_ne_zero.2 hne)] at h1
        rw [← h1]
        exact h2
    · show n'.log.store.firstIndex ≤ n'.commitSinceIndex + 1
      rw [hlog, hlen]
      exact Nat.le_trans hfc (Nat.succ_le_succ (Nat.le_add_right _ _))
    · intro sn' hsn'
      have : n'.log.unstable.snapshot = some sn' := hsn'
      rw [hlog, hs] at this; cases this
    · rw [hhanded, hstart]; exact a1
    · rw [hhanded, hstart]
      show n'.commitSinceIndex = _
      rw [hlen, h.len, List.length_append, Nat.add_assoc]
    · rw [hhanded, hstart]; show ∀ k e, _ → n'.log.abs.entryAt _ = _ ∨ _ ≤ n'.log.abs.snapIdx
      rw [hlog]; exact a3

/-! ### a fresh node -/

theorem new_spec {st : MemStorage} {limit applied maxc : Nat} {n : RawNodeM} (hwf : st.WF)
    (h : RawNodeM.new st limit applied maxc = .ok n) :
    n.log.Inv ∧ n.log.store = st ∧ n.log.unstable.snapshot = none ∧
    n.commitSinceIndex = applied ∧ n.records = [] ∧ n.maxNumber = 0 ∧
    (n.log.applied = applied ∨ (applied = 0 ∧ n.log.applied = st.firstIndex - 1)) := by
  obtain ⟨l, hl, hinv, _, hst⟩ := RaftLog.Inv.new hwf limit
  have hl2 : l.applied = st.firstIndex - 1 ∧ l.unstable.snapshot = none := by
    unfold RaftLog.new at hl
    split at hl
    · cases hl
    · injection hl with hl; subst hl; exact ⟨rfl, rfl⟩
  obtain ⟨log, c, hl', hc, hlog, _, _, _, _, _, hm, hr, _, hcsi⟩ := new_ok h
  rw [hl] at hl'; injection hl' with hl'; subst hl'
  have hdc := hinv.dummy_le_committed
  have hcl := hinv.committed_le_last
  rw [hlog]
  refine ⟨hinv.of_cursors rfl rfl ?_ ?_ hinv.persisted_lt_off hinv.persisted_le_store, hst, hl2.2,
    hcsi, hr, hm, ?_⟩
  · show l.firstIndex ≤ c + 1; rcases hc with rfl | ⟨h1, _⟩ <;> omega
  · show c ≤ l.lastIndex; rcases hc with rfl | ⟨_, h2⟩ <;> omega
  · show (if 0 < applied then applied else l.applied) = applied ∨ _
    by_cases h0 : 0 < applied
    · rw [if_pos h0]; exact .inl rfl
    · rw [if_neg h0]; exact .inr ⟨by omega, hl2.1⟩

theorem init_inv {s : Sys} (h : Init s) : TraceInv s := by
  obtain ⟨st, limit, applied, maxc, n, hwf, hn, hfa, hac, hs⟩ := h
  subst hs
  obtain ⟨hinv, hst, hsn, hcsi, hrec, hmax, happ⟩ := new_spec hwf hn
  have hfp := hwf.first_pos
  refine ⟨hinv, ?_, ?_, ?_, ?_, ?_, init_recOk ⟨st, limit, applied, maxc, n, hwf, hn, hfa, hac, rfl⟩,
    ?_, ?_, ?_, ?_, ?_⟩
  · show n.log.applied ≤ n.log.committed
    rcases happ with h1 | ⟨h1, h2⟩ <;> omega
  · show n.log.applied ≤ n.commitSinceIndex
    rcases happ with h1 | ⟨h1, h2⟩ <;> omega
  · show n.commitSinceIndex ≤ n.log.committed; omega
  · show n.log.store.firstIndex ≤ n.commitSinceIndex + 1; rw [hst]; omega
  · intro sn hs
    have : n.log.unstable.snapshot = some sn := hs
    rw [hsn] at this; cases this
  · intro r hr
    have : r ∈ n.records := hr
    rw [hrec] at this; cases this
  · intro rd hrd; cases hrd
  · intro k e hk; simp at hk
  · show n.commitSinceIndex = applied + 0; omega
  · intro k e hk; simp at hk

/-! ### every call keeps the invariant -/

theorem step_inv {s s' : Sys} {c : Call} (hinv : TraceInv s) (hok : EnvOk s c) (hap : AppOk s c)
    (h : s.step c = some (.ok s')) : TraceInv s' := by
  cases Sys.step_ok h with
  | env hp he => exact inv_env hinv hp hok he
  | ready hp he => exact inv_ready hinv hp he
  | write hp he => exact (inv_write hinv hp he).1
  | advanceAppendAsync hp he => exact (inv_commitReady hinv hp hap he).1
  | advanceAppend hp he => exact (inv_advanceAppend hinv hp hap hok he).1
  | advance hp he =>
    obtain ⟨n1, h1, h2⟩ := advance_ok he
    obtain ⟨t1, hli, hcsi⟩ := inv_advanceAppend hinv hp hap.1 hok h1
    exact inv_commitApply t1 hcsi (fun e0 es hes => hli ▸ hap.2 e0 es hes)
      (fun hne => absurd rfl hne) h2
  | onPersistReady _ he => exact (inv_onPersistReady hinv hok hap he).1
  | advanceApply he => exact inv_commitApply hinv (Nat.le_refl _) hap.1 hap.2 he
  | advanceApplyTo hk he => exact inv_commitApply hinv hk hap.2.1 hap.2.2 he
  | compact he => exact inv_compact hinv hok hap he

theorem trace_inv {s0 s : Sys} {calls : List Call} (h0 : TraceInv s0)
    (ht : ContractTrace2 s0 calls s) : TraceInv s := by
  induction ht with
  | nil s => exact h0
  | cons he ha hs _ ih => exact ih (step_inv h0 he ha hs)

/-- **handout_exact**, trace level, for an application that follows the whole documented contract
(`ContractTrace2` = `ContractTrace` + `AppOk`): over the lifetime of a node, the entries handed
out since the start / the last snapshot Ready are consecutively numbered from `start + 1`, end at
`commit_since_index`, never run past the commit index, and each is the entry of the logical log
at its index (or has been compacted away since) — no entry is handed out twice, skipped or
altered.  The statement without `AppOk` (`C07_handout_exact_full_statement`) is false on the
model, see `C07_handout_exact_needs_write`. -/
theorem C07_handout_exact :
    ∀ s0 calls s, Init s0 → ContractTrace2 s0 calls s →
      ContigFrom (s.start + 1) s.handed ∧
      s.n.commitSinceIndex = s.start + s.handed.length ∧
      s.n.commitSinceIndex ≤ s.n.log.committed ∧
      ∀ k e, s.handed[k]? = some e →
        s.n.log.abs.entryAt (s.start + 1 + k) = some e ∨
          s.start + 1 + k ≤ s.n.log.abs.snapIdx := by
  intro s0 calls s hi ht
  have t := trace_inv (init_inv hi) ht
  exact ⟨t.contig, t.len, t.csi_comm, t.handedOk⟩

/-- the write establishes what `advance*` requires: right after the storage write of the held
Ready, `AppOk` holds for `advance_append_async` / `advance_append` -/
theorem C07_write_establishes_written {s s' : Sys} (hinv : TraceInv s)
    (h : s.step .write = some (.ok s')) :
    AppOk s' .advanceAppendAsync ∧ ∀ eff, AppOk s' (.advanceAppend eff) := by
  cases Sys.step_ok h with
  | write hp he => exact ⟨(inv_write hinv hp he).2, fun _ => (inv_write hinv hp he).2⟩

/-! ### why `AppOk` is needed: runs of the model inside `ContractTrace`'s step function -/

/-- environment step of a leader with apply-before-persist switched on -/
def envLeader (commit : Nat) (ents : List Entry) : Call :=
  .env { term := 1, vote := 1, role := ROLE_LEADER, leaderId := 1, msgs := [], readStates := [],
         limit := U64_MAX, ops := [.tappend ents, .commitTo commit] }

/-- **`C07_handout_exact_full_statement` is false on the model without the storage write.**
A leader with `max_apply_unpersisted_log_limit = u64::MAX` appends entries 3, 4 and commits them;
`ready()` hands out 1..4 (3, 4 are still unstable); the application calls `advance_append_async`
*without* writing the Ready to the storage: `commit_ready` drops the unstable entries, the log
now ends at 2 while `commit_since_index = committed = 4` and entries 3, 4 — handed out — are in
no log.  `Sys.step` allows this call sequence (it never forces `.write`), every step is `.ok`.
The real code behaves the same (raw_node.rs:613-616 only moves `unstable.offset`); the
documentation makes the write the application's duty, `AppOk` states it. -/
theorem C07_handout_exact_needs_write :
    (match RawNodeM.new st0 0 0 NO_LIMIT with
     | .ok n =>
       (run { n := n } [envLeader 4 [ent 3 1 1, ent 4 1 1], .ready, .advanceAppendAsync]).map
        (fun s => s.handed.map (·.index) == [1, 2, 3, 4] && s.n.commitSinceIndex == 4 &&
          s.n.log.committed == 4 && s.n.log.abs.snapIdx == 0 &&
          s.n.log.abs.ents.map (·.index) == [1, 2] && (s.n.log.abs.entryAt 3).isNone)
     | _ => none) = some true := by decide +kernel

/-- **`C07_no_panic_full_statement` is false on the model**: `Sys.step` allows
`on_persist_ready(number)` for the Ready that is still held (`number ≤ max_number` is its only
guard); that pops the Ready's record, and the following `advance_append_async` panics at
`self.records.back().unwrap()` (raw_node.rs:611; with an older record left in the queue it is the
`assert!(rd_record.number == rd.number)` of the next line).  Same in the real code; an
application must report a Ready persisted only after it passed it to `advance_append_async`. -/
theorem C07_no_panic_needs_order :
    (match RawNodeM.new st0 0 0 NO_LIMIT with
     | .ok n =>
       (run { n := n } [envE 1 2 [ent 3 1 1, ent 4 1 1], .ready, .onPersistReady 1 {}]).map
        (fun s => (s.n.records.length, match s.step .advanceAppendAsync with
          | some (.panic p) => p
          | _ => ""))
     | _ => none) = some (0, "raw_node.commit_ready.unwrap") := by decide +kernel

/-- a second way to break `C07_no_panic_full_statement`: `advance_apply_to` with an index below the
applied index (`Sys.step` only asks `k ≤ commit_since_index`) is `fatal!` in
`RaftLog::applied_to` (raft_log.rs:322) -/
theorem C07_no_panic_needs_monotone_apply :
    (match RawNodeM.new st0 0 0 NO_LIMIT with
     | .ok n =>
       (run { n := n } [envE 1 2 [], .ready, .write, .advance {} {}]).map
        (fun s => (s.n.log.applied, s.n.commitSinceIndex, match s.step (.advanceApplyTo 1 {}) with
          | some (.panic p) => p
          | _ => ""))
     | _ => none) = some (2, 2, "raft_log.applied_to.out_of_range") := by decide +kernel

/-! ### no_panic: the calls that hand nothing out -/

theorem np_env {s : Sys} {e : EnvEffect} (hok : EnvOk s (.env e)) : ∃ n', s.n.env e = .ok n' := by
  obtain ⟨l', hl', _⟩ := hok
  unfold RawNodeM.env
  rw [hl']
  exact ⟨_, rfl⟩

theorem np_commitReady {s : Sys} {rd : Ready} (h : TraceInv s) (hp : s.pending = some rd) :
    ∃ n', s.n.commitReady rd = .ok n' := by
  obtain ⟨_, _, _, hlast⟩ := h.pend rd hp
  obtain ⟨l2, hc, _⟩ :=
    commitReady_stable s.n rd (recordOf rd.number s.n.log) h.inv hlast rfl rfl rfl
  exact ⟨_, hc⟩

theorem np_compact {s : Sys} {k : Nat} (h : TraceInv s) (ha : k ≤ s.n.log.store.lastIndex) :
    ∃ l', s.n.log.compactStore k = .ok l' := by
  obtain ⟨s', hs', _⟩ := h.inv.storeWF.compact_ok k (.inl ha)
  unfold RaftLog.compactStore
  rw [hs']
  exact ⟨_, rfl⟩

theorem np_commitApply {n : RawNodeM} {a : Nat} {eff : Effect} (hinv : n.log.Inv)
    (ha : a = 0 ∨ (n.log.applied ≤ a ∧ a ≤ n.log.committed)) (hap : AppendedOk n.log eff) :
    ∃ n', n.commitApply a eff = .ok n' := by
  have k1 : ∃ l1, n.log.appliedTo a = .ok l1 ∧ l1.Inv ∧ l1.lastIndex = n.log.lastIndex := by
    by_cases h0 : a = 0
    · refine ⟨n.log, ?_, hinv, rfl⟩
      unfold RaftLog.appliedTo; rw [if_pos h0]
    · rcases ha with ha | ⟨h1, h2⟩
      · exact absurd ha h0
      · refine ⟨{ n.log with applied := a }, ?_, ?_, ?_⟩
        · unfold RaftLog.appliedTo; rw [if_neg h0, if_neg (by omega)]
        · exact hinv.of_cursors rfl rfl hinv.dummy_le_committed hinv.committed_le_last
            hinv.persisted_lt_off hinv.persisted_le_store
        · exact RaftLog.lastIndex_congr rfl rfl
  obtain ⟨l1, h1, hinv1, hl1⟩ := k1
  unfold commitApply
  rw [h1]
  simp only []
  by_cases hb : (n.isLeader && !eff.appended.isEmpty) = true
  · rw [if_pos hb]
    cases hents : eff.appended with
    | nil => rw [hents] at hb; simp at hb
    | cons e0 es =>
      obtain ⟨hc, h0⟩ := hap e0 es hents
      have hcl := hinv1.committed_le_last
      obtain ⟨l', happ, _⟩ := hinv1.append e0 es hc (by omega) (by omega)
      rw [happ]
      exact ⟨_, rfl⟩
  · rw [if_neg hb]; exact ⟨_, rfl⟩

theorem np_write {s : Sys} {rd : Ready} (h : TraceInv s) (hp : s.pending = some rd) :
    ∀ p, s.n.storageWrite rd ≠ .panic p := by
  obtain ⟨_, hre, hrs, _⟩ := h.pend rd hp
  intro p hpanic
  have hinv := h.inv
  have hls := hinv.last_succ
  -- the append after the (possible) snapshot never panics
  have happ : ∀ st1 : MemStorage, st1.WF → st1.firstIndex ≤ s.n.log.unstable.offset →
      s.n.log.unstable.offset ≤ st1.lastIndex + 1 →
      ∃ st2, st1.append s.n.log.unstable.entries = .ok st2 := by
    intro st1 hwf1 h1 h2
    cases he : s.n.log.unstable.entries with
    | nil => exact ⟨_, rfl⟩
    | cons e0 es =>
      have hc : ContigFrom s.n.log.unstable.offset (e0 :: es) := he ▸ hinv.unstWF.contig
      have h0 : e0.index = s.n.log.unstable.offset := hc.head
      obtain ⟨s', hs', _⟩ := hwf1.append_ok e0.index e0 es (h0 ▸ hc) (by omega) (by omega)
      exact ⟨s', hs'⟩
  unfold storageWrite at hpanic
  simp only [] at hpanic
  rw [hre] at hpanic
  cases hs : s.n.log.unstable.snapshot with
  | none =>
    rw [hrs, hs] at hpanic
    simp only [] at hpanic
    obtain ⟨st2, h2⟩ := happ s.n.log.store hinv.storeWF (hinv.first_le_off hs) (hinv.off_le_last hs)
    rw [h2] at hpanic
    cases hpanic
  | some sn =>
    rw [hrs, hs] at hpanic
    simp only [] at hpanic
    cases h1 : s.n.log.store.applySnapshot sn with
    | ok st1 =>
      rw [h1] at hpanic
      simp only [] at hpanic
      obtain ⟨_, _, hle⟩ := applySnapshot_spec h1
      have ho := hinv.unstWF.snap sn hs
      obtain ⟨st1', h1', _, hwf1, hfi, hli⟩ := MemStorage.applySnapshot_ok s.n.log.store sn hle
      rw [h1] at h1'; injection h1' with h1'; subst h1'
      obtain ⟨st2, h2⟩ := happ st1 hwf1 (by omega) (by omega)
      rw [h2] at hpanic
      cases hpanic
    | err e => rw [h1] at hpanic; cases hpanic
    | panic q =>
      unfold MemStorage.applySnapshot at h1
      simp only [] at h1
      split at h1 <;> cases h1

theorem np_onPersistSnap {n : RawNodeM} {i : Nat} (h1 : i ≤ n.log.committed)
    (h2 : i < n.log.unstable.offset) : ∃ n', n.onPersistSnap i = .ok n' := by
  unfold onPersistSnap RaftLog.maybePersistSnap
  by_cases hp : n.log.persisted < i
  · rw [if_pos hp, if_neg (by omega), if_neg (by omega)]; exact ⟨_, rfl⟩
  · rw [if_neg hp]; exact ⟨_, rfl⟩

theorem np_onPersistEntries {n : RawNodeM} {i t : Nat} {eff : Effect} (hinv : n.log.Inv)
    (hc : eff.commit ≤ n.log.lastIndex) : ∃ n', n.onPersistEntries i t eff = .ok n' := by
  obtain ⟨l', b, e, _⟩ := hinv.maybePersist i t
  have s1 := maybePersist_step hinv e
  unfold onPersistEntries
  rw [e]
  simp only []
  by_cases hb : (b && n.isLeader) = true
  · rw [if_pos hb]
    obtain ⟨hct, _⟩ := s1.inv.commitTo eff.commit (by rw [s1.lastIndex]; exact hc)
    rw [hct]
    exact ⟨_, rfl⟩
  · rw [if_neg hb]; exact ⟨_, rfl⟩

theorem np_onPersistReady {n : RawNodeM} {number : Nat} {eff : Effect} (hinv : n.log.Inv)
    (hrs : ∀ r ∈ n.records, r.number ≤ number → ∀ i t, r.snapshot = some (i, t) →
      i < n.log.store.firstIndex ∧ i ≤ n.log.committed ∧ i < n.log.unstable.offset)
    (hc : eff.commit ≤ n.log.lastIndex) : ∃ n', n.onPersistReady number eff = .ok n' := by
  rw [onPersistReady_eq]
  have htgt := persistTarget_snap (n.records.takeWhile (fun r => decide (r.number ≤ number)))
    (0, 0, 0)
  generalize persistTarget (n.records.takeWhile (fun r => decide (r.number ≤ number))) (0, 0, 0)
    = tgt at htgt
  obtain ⟨idx, tm, sidx⟩ := tgt
  simp only [] at htgt ⊢
  generalize hn1 : ({ n with
      unpersistedHsNumber := if n.unpersistedHsNumber ≤ number then 0 else n.unpersistedHsNumber,
      records := n.records.dropWhile (fun r => decide (r.number ≤ number)) } : RawNodeM) = n1
  have f1 : n1.log = n.log := by rw [← hn1]
  -- the snapshot notice goes through and moves cursors only; then the entries notice
  have k1 : ∃ n2, (if sidx ≠ 0 then n1.onPersistSnap sidx else Res.ok n1) = .ok n2 ∧
      CursorStep n.log n2.log := by
    by_cases hsn : sidx ≠ 0
    · rw [if_pos hsn]
      have hfacts : sidx < n.log.store.firstIndex ∧ sidx ≤ n.log.committed ∧
          sidx < n.log.unstable.offset := by
        rcases htgt with h0 | ⟨r, hr, t, ht⟩
        · exact absurd h0 hsn
        · obtain ⟨hm, hp⟩ := mem_takeWhile hr
          exact hrs r hm (of_decide_eq_true hp) _ _ ht
      obtain ⟨n2, hp⟩ := np_onPersistSnap (n := n1) (i := sidx) (by rw [f1]; exact hfacts.2.1)
        (by rw [f1]; exact hfacts.2.2)
      have hls := hinv.storeWF.last_succ
      have := onPersistSnap_log (n := n1) (by rw [f1]; exact hinv)
        (by rw [f1]; have := hfacts.1; omega) hp
      rw [f1] at this
      exact ⟨n2, hp, this⟩
    · rw [if_neg hsn]; exact ⟨n1, rfl, by rw [f1]; exact CursorStep.refl hinv⟩
  obtain ⟨n2, e2, s2⟩ := k1
  rw [e2]
  simp only []
  by_cases hi : idx ≠ 0
  · rw [if_pos hi]
    exact np_onPersistEntries s2.inv (by rw [s2.lastIndex]; exact hc)
  · rw [if_neg hi]; exact ⟨_, rfl⟩

theorem np_onPersistReady_sys {s : Sys} {number : Nat} {eff : Effect} (h : TraceInv s)
    (hc : eff.commit ≤ s.n.log.lastIndex)
    (ha : ∀ rd, s.pending = some rd → number < rd.number) :
    ∃ n', s.n.onPersistReady number eff = .ok n' := by
  refine np_onPersistReady h.inv ?_ hc
  intro r hr hle i t hs
  have hfc := h.first_csi
  have hcc := h.csi_comm
  have h1 : i < s.n.log.store.firstIndex := by
    rcases h.recSnap r hr i t hs with h1 | ⟨h1, h2, _⟩
    · exact h1
    · exfalso
      cases hp : s.pending with
      | none => exact h1 hp
      | some rd =>
        have := ha rd hp
        have := (h.pend rd hp).1
        omega
  refine ⟨h1, by omega, ?_⟩
  cases hsn : s.n.log.unstable.snapshot with
  | none => have := h.inv.first_le_off hsn; omega
  | some sn =>
    have ho := h.inv.unstWF.snap sn hsn
    obtain ⟨a, b⟩ := h.snap_csi sn hsn
    cases hp : s.pending with
    | none => have := a hp; omega
    | some rd => have := b (by rw [hp]; exact fun hc => by cases hc); omega

/-- the calls covered by `C07_no_panic_quiet`: every call except the three that hand entries out -/
def QuietCall : Call → Prop
  | .ready => False
  | .advanceAppend _ => False
  | .advance _ _ => False
  | _ => True

/-- **no_panic**, trace level, for the calls that hand nothing out: in every state reached by an
application that follows the whole documented contract (`ContractTrace2`), none of `step & co.`
(`env`), the storage write, `advance_append_async`, `on_persist_ready`, `advance_apply`,
`advance_apply_to`, `compact` panics, whatever the environment within `EnvOk` / `AppOk` does.
(The statement without `AppOk`, `C07_no_panic_full_statement`, is false on the model:
`C07_no_panic_needs_order`, `C07_no_panic_needs_monotone_apply`.) -/
theorem C07_no_panic_quiet :
    ∀ s0 calls s c, Init s0 → ContractTrace2 s0 calls s → EnvOk s c → AppOk s c → QuietCall c →
      ∀ p, s.step c ≠ some (.panic p) := by
  intro s0 calls s c hi ht hok hap hq p hstep
  have t := trace_inv (init_inv hi) ht
  cases c with
  | env e =>
    obtain ⟨n', hn'⟩ := np_env hok
    simp only [Sys.step] at hstep
    split at hstep
    · rw [hn'] at hstep; cases hstep
    · cases hstep
  | ready => exact hq
  | write =>
    simp only [Sys.step] at hstep
    split at hstep
    · rename_i rd hp
      injection hstep with hstep
      cases he : s.n.storageWrite rd with
      | ok n => rw [he] at hstep; cases hstep
      | err e => rw [he] at hstep; cases hstep
      | panic q => exact np_write t hp q he
    · cases hstep
  | advanceAppendAsync =>
    simp only [Sys.step] at hstep
    split at hstep
    · rename_i rd hp
      obtain ⟨n', hn'⟩ := np_commitReady t hp
      unfold advanceAppendAsync at hstep
      rw [hn'] at hstep; cases hstep
    · cases hstep
  | advanceAppend eff => exact hq
  | advance eff1 eff2 => exact hq
  | onPersistReady number eff =>
    obtain ⟨n', hn'⟩ := np_onPersistReady_sys t hok hap
    simp only [Sys.step] at hstep
    split at hstep
    · rw [hn'] at hstep; cases hstep
    · cases hstep
  | advanceApply eff =>
    have hcc := t.csi_comm
    have hac := t.applied_csi
    obtain ⟨n', hn'⟩ := np_commitApply (a := s.n.commitSinceIndex) t.inv (.inr ⟨hac, hcc⟩) hap.1
    simp only [Sys.step] at hstep
    unfold advanceApply at hstep
    rw [hn'] at hstep; cases hstep
  | advanceApplyTo k eff =>
    simp only [Sys.step] at hstep
    split at hstep
    · rename_i hk
      have hcc := t.csi_comm
      obtain ⟨n', hn'⟩ := np_commitApply (a := k) t.inv
        (by rcases hap.1 with h0 | h0
            · exact .inl h0
            · exact .inr ⟨h0, by omega⟩) hap.2.1
      unfold advanceApplyTo at hstep
      rw [hn'] at hstep; cases hstep
    · cases hstep
  | compact k =>
    obtain ⟨l', hl'⟩ := np_compact t hap
    simp only [Sys.step] at hstep
    rw [hl'] at hstep; cases hstep

/-! ### what remains open -/

/-- what `ready()` / the hand-out inside `advance_append` need from `Raft` beyond `EnvOk` — facts
about the protocol that this model (which abstracts `Raft` to the fields `RawNode` touches) cannot
derive:
* the drain assertion of `ready()` (raw_node.rs:504-512): when the node became leader since the
  last Ready, the records still queued carry neither entries nor a snapshot (they were generated
  while it was a candidate);
* a node holding a not-yet-handed-out snapshot does not apply before persist (a leader never
  restores a snapshot, and `EnvOk` already puts `limit = 0` on non-leaders): otherwise
  raw_node.rs:537 fires, `C07_follower_limit_panics`;
* indexes stay below `u64::MAX` (`since_idx + 1` in `next_entries_since`). -/
def ReadyEnvOk (s : Sys) : Prop :=
  (s.n.prevSs.role ≠ ROLE_LEADER ∧ s.n.role = ROLE_LEADER →
    ∀ r ∈ s.n.records, r.lastEntry = none ∧ r.snapshot = none) ∧
  (∀ sn, s.n.log.unstable.snapshot = some sn → s.n.log.maxApplyUnpersistedLogLimit = 0) ∧
  s.n.log.lastIndex < U64_MAX

/-- **no_panic** for the three calls that hand entries out (`ready`, `advance_append`, `advance`)
— NOT proved.  Under `ReadyEnvOk` the assertions of `ready()` and of `gen_light_ready` follow from
`TraceInv` (`slice` succeeds by `RaftLog.Inv.slicePrefix`, `commit_since_index < e.index` by
`C07_handout_step`); what is missing for `advance_append` is a further invariant on the hard-state
bookkeeping while a Ready is held (`term`, `vote` unchanged, `prev_hs` = the hard state the Ready
carried, commit index monotone, `msgs` empty on a non-leader) for its three closing assertions
(raw_node.rs:692-705). -/
def C07_no_panic_handout_statement : Prop :=
  ∀ s0 calls s c, Init s0 → ContractTrace2 s0 calls s → EnvOk s c → AppOk s c → ReadyEnvOk s →
    ∀ p, s.step c ≠ some (.panic p)

end RaftProps.C07
