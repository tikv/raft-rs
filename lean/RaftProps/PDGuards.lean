import RaftProps.C09b
import RaftProps.C04b
import RaftProps.C14b
import RaftProofs.RaftNodePD
import RaftModel.RawNode

/-!
# PDGuards — the guards of the discipline layer PD, on the executable node model

`RaftModel/ProtoDisc.lean` (layer **PD** over the abstract protocol) has guards that say what *single
library calls* of raft-rs enforce.  This file proves each of them on the executable node model
(`RaftModel/Raft*.lean`, a line-by-line model of `raft.rs` / `raft_log.rs`, tied to the code by the
differential check), for **every** node state unless a hypothesis is named.  The only state
hypotheses used are
* `RaftLogInv r.raftLog` (the representation invariant of C14) wherever a statement talks about the
  *logical log* `raftLog.abs` (the existing theorems `C14_slice_spec`, `appendEntry_cases`,
  `step_log` need it), and
* `r.raftLog.applied ≤ r.raftLog.lastIndex` in `PD_leaderAppend_proposal` (needed by
  `C09_proposal_filter_shape`: an accepted membership entry must block the rest of its batch).

## guard ↦ theorem(s)

| PD guard (`applyEventD`) | raft-rs call | theorem(s) |
|---|---|---|
| `campaign i`: no membership-change entry in `(applied, committed]` | `Raft::hup`, `has_unapplied_conf_changes` | `PD_campaign` (= `C09_no_campaign_with_unapplied_change` + scan), `PD_campaign_only_when_applied`, `PD_campaign_scan`, `PD_hasUnappliedConfChanges_spec`, `PD_hupScanLow`, `PD_snapshot_covers` |
| `leaderAppend i e`, `isConf e`: `pconf ≤ applied`, then `pconf := index of e` — proposals | `step_leader` proposal filter | `PD_leaderAppend_filter_entry`, `PD_leaderAppend_filter_blocked` (from `C09_proposal_filter_entry`, `Refused`), `PD_leaderAppend_proposal` |
| … — auto-leave | `commit_apply_internal` | `PD_leaderAppend_autoLeave` |
| `win`: `pconf := log.length` | `become_leader` | `PD_win_pendingConfIndex` (= `C09_become_leader_blocks_changes` + `becomeLeader_won`) |
| … — no other writer of a leader's log | `append_entry` has three callers | `PD_leaderLog_step`, `PD_leaderLog_tick`, `PD_leaderLog_onPersistEntries`, `PD_leaderLog_onPersistSnap`, `PD_leaderLog_applyConfChange`, `PD_leaderLog_ping` |
| `sendApp i m`: `m.commit = commit` | `prepare_send_entries`, `try_batching`, `maybe_send_append`, `send_append`, `bcast_append` | `PD_sendApp_prepareSendEntries`, `PD_sendApp_send`, `PD_sendApp_tryBatching`, `PD_sendApp_maybeSendAppend`, `PD_sendApp_sendAppend`, `PD_sendApp_sendAppendAggressively`, `PD_sendApp_bcastAppend` |
| `recvAppC i m`: append and commit to `min(m.commit, last new)` in one call | `handle_append_entries` | `PD_recvAppC` |
| `apply i k`: `applied ≤ k ≤ commit` | `RaftLog::applied_to`, `commit_apply` | `PD_apply_appliedTo`, `PD_apply_appliedTo_ok`, `PD_apply_commitApply`, `PD_apply_advanceApplyTo` (+ `C14_appliedTo_spec`) |
| `restart i a`: `a ≤ dcommit` | `Raft::new`, `RawNode::new` | `PD_restart_new` — **NOT enforced**: `decide`-checked `PD_restart_gap`, `PD_restart_gap_inside_log`, `PD_restart_gap_rawnode` |
| `win i cfg …`: `cfg` is the tracker's configuration | `poll`, `tally_votes` | `PD_own_config`, `PD_win_tally_own_config`, `PD_win_iff_tally` |
| `commitLeader i c cfg …`: likewise | `maybe_commit`, `maximal_committed_index` | `PD_commitLeader_own_config` (= `C04_leader_commit_rule`), `PD_commitLeader_no_commit` |

## not enforced by the model (real gaps, see the examples at the end)

1. **restart**: `Raft::new` applies `Config.applied` through `commit_apply_internal(applied, true)`
   = `applied_to_unchecked`: there is **no** check `applied ≤ committed` (only `applied > 0`).  A node
   can be constructed with `applied` beyond the restored commit index, even beyond its log
   (`PD_restart_gap`).  PD's `restart` guard is a contract on the application, not something the
   library call enforces.
2. **apply**: `applied_to` checks `applied ≤ idx ≤ committed` only; the hand-out bound
   `min(committed, persisted + max_apply_unpersisted_log_limit)` is *not* checked there (the model of
   raft_log.rs:322 has no such test) — harmless for PD, whose guard is `k ≤ commit`
   (`PD_apply_not_bounded_by_persisted`).  `applied_to(0)` is a no-op, not a panic, whatever `applied`
   (`PD_apply_zero_is_noop`).

Non-vacuity of the campaign guard on a concrete node: `PD_campaign_example`.
-/
namespace RaftProps.PDGuards
open RaftModel RaftModel.Raft RaftProps.C09 RaftProps.C14

/-! ## 1. campaign (`Raft::hup`) -/

theorem isConfEntry_iff (e : Entry) : isConfEntry e = true ↔ isConf e := by
  unfold isConfEntry isConf; simp

/-- PD `campaign` / `hup`: where the scan starts — behind the applied index and behind a snapshot
(`max(applied + 1, first_index)`) -/
theorem PD_hupScanLow (r : Raft) :
    r.hupScanLow = max (r.raftLog.applied + 1) r.raftLog.firstIndex := rfl

/-- PD `campaign` / `hup`: below `first_index` the logical log holds no entry — those indexes are
covered by a snapshot, whose configuration is already in force, so they need no scan -/
theorem PD_snapshot_covers (l : RaftLog) (hinv : RaftLogInv l) (i : Nat) (h : i < l.firstIndex) :
    l.abs.entryAt i = none := by
  rw [hinv.firstIndex_abs] at h
  simp only [LLog.firstIndex] at h
  unfold LLog.entryAt
  rw [if_pos (by omega)]

/-- PD `campaign` / `has_unapplied_conf_changes(lo, hi)` (raft.rs:1610): for a log satisfying the
representation invariant and a range inside the log it never fails, and it answers `true` exactly when
`applied < committed` and some entry with index in `[lo, hi)` is a membership-change entry -/
theorem PD_hasUnappliedConfChanges_spec (r : Raft) (hinv : RaftLogInv r.raftLog) (lo hi : Nat)
    (hlo : r.raftLog.firstIndex ≤ lo) (hhi : hi ≤ r.raftLog.lastIndex + 1) :
    ∃ b, r.hasUnappliedConfChanges lo hi = .ok b ∧
      (b = true ↔ r.raftLog.applied < r.raftLog.committed ∧
        ∃ i e, lo ≤ i ∧ i < hi ∧ r.raftLog.abs.entryAt i = some e ∧ isConf e) := by
  unfold Raft.hasUnappliedConfChanges
  by_cases hc : r.raftLog.committed ≤ r.raftLog.applied
  · rw [if_pos hc]
    refine ⟨false, rfl, ?_⟩
    simp only [Bool.false_eq_true, false_iff]
    rintro ⟨h, _⟩
    omega
  · rw [if_neg hc]
    obtain ⟨b, hb, hiff⟩ := scanConf_spec r.raftLog hinv hi r.maxCommittedSizePerReady hhi
      (hi - lo + 1) lo hlo (by omega)
    refine ⟨b, hb, hiff.trans ⟨?_, ?_⟩⟩
    · rintro ⟨i, e, h1, h2, h3, h4⟩
      exact ⟨by omega, i, e, h1, h2, h3, (isConfEntry_iff e).1 h4⟩
    · rintro ⟨_, i, e, h1, h2, h3, h4⟩
      exact ⟨i, e, h1, h2, h3, (isConfEntry_iff e).2 h4⟩

/-- PD `campaign` / the scan of `hup` (raft.rs:1543): it answers `true` exactly when a
membership-change entry lies in `(applied, committed]` -/
theorem PD_campaign_scan (r : Raft) (hinv : RaftLogInv r.raftLog) :
    ∃ b, r.hasUnappliedConfChanges r.hupScanLow (r.raftLog.committed + 1) = .ok b ∧
      (b = true ↔ ∃ i e, r.raftLog.applied < i ∧ i ≤ r.raftLog.committed ∧
        r.raftLog.abs.entryAt i = some e ∧ isConf e) := by
  have hlo : r.raftLog.firstIndex ≤ r.hupScanLow := Nat.le_max_right _ _
  have hlo2 : r.raftLog.applied + 1 ≤ r.hupScanLow := Nat.le_max_left _ _
  obtain ⟨b, hb, hiff⟩ := PD_hasUnappliedConfChanges_spec r hinv r.hupScanLow
    (r.raftLog.committed + 1) hlo (by have := hinv.committed_le_last; omega)
  refine ⟨b, hb, hiff.trans ⟨?_, ?_⟩⟩
  · rintro ⟨_, i, e, h1, h2, h3, h4⟩
    exact ⟨i, e, by omega, by omega, h3, h4⟩
  · rintro ⟨i, e, h1, h2, h3, h4⟩
    refine ⟨by omega, i, e, ?_, by omega, h3, h4⟩
    have hfi : r.raftLog.firstIndex ≤ i := by
      apply Classical.byContradiction
      intro hn
      rw [PD_snapshot_covers r.raftLog hinv i (by omega)] at h3
      cases h3
    exact Nat.max_le.2 ⟨by omega, hfi⟩

/-- **PD guard `campaign`** (`Raft::hup`, raft.rs:1543; timeout, explicit campaign and transfer
alike): while a membership-change entry lies in `(applied, committed]`, `hup` returns the node
unchanged — it does not become (pre-)candidate.  (`C09_no_campaign_with_unapplied_change` + the scan.) -/
theorem PD_campaign (r : Raft) (transfer : Bool) (hinv : RaftLogInv r.raftLog)
    (h : ∃ i e, r.raftLog.applied < i ∧ i ≤ r.raftLog.committed ∧
      r.raftLog.abs.entryAt i = some e ∧ isConf e) :
    r.hup transfer = .ok r := by
  obtain ⟨b, hb, hiff⟩ := PD_campaign_scan r hinv
  have : b = true := hiff.2 h
  subst this
  exact C09_no_campaign_with_unapplied_change r transfer hb

/-- **PD guard `campaign`**, contrapositive: whenever `hup` changes the node at all (in particular
whenever it becomes pre-candidate, candidate or leader), no membership-change entry lies in
`(applied, committed]` -/
theorem PD_campaign_only_when_applied (r r' : Raft) (transfer : Bool) (hinv : RaftLogInv r.raftLog)
    (h : r.hup transfer = .ok r') (hne : r' ≠ r) :
    ∀ i e, r.raftLog.applied < i → i ≤ r.raftLog.committed →
      r.raftLog.abs.entryAt i = some e → ¬ isConf e := by
  intro i e h1 h2 h3 h4
  rw [PD_campaign r transfer hinv ⟨i, e, h1, h2, h3, h4⟩] at h
  cases h
  exact hne rfl

/-! ## 2. leaderAppend of a membership change -/

/-- **PD guard `leaderAppend` (proposals, per entry)** — the proposal filter of `step_leader`
(raft.rs:2111-2159): a membership-change entry that *survives* the filter was seen with
`¬ (applied < pending_conf_index)`, is the proposed entry itself, and the filter sets
`pending_conf_index` to its future index `last_index + i + 1` (nothing else is written).
From `C09_proposal_filter_entry` / `Refused`. -/
theorem PD_leaderAppend_filter_entry (r r1 : Raft) (i : Nat) (e e' : Entry)
    (h : r.filterProposalEntry i e = some (r1, e')) (hc : isConf e') :
    ¬ r.raftLog.applied < r.pendingConfIndex ∧ e' = e ∧
      r1 = { r with pendingConfIndex := r.raftLog.lastIndex + i + 1 } := by
  rw [C09_proposal_filter_entry] at h
  cases hp : payload e with
  | normal =>
    rw [hp] at h
    simp only [Option.some.injEq, Prod.mk.injEq] at h
    rw [← h.2] at hc
    exact absurd hc ((c09_payload_normal_iff e).1 hp)
  | malformed => rw [hp] at h; cases h
  | change cc =>
    rw [hp] at h
    simp only at h
    by_cases hr : Refused r cc
    · rw [if_pos hr] at h
      simp only [Option.some.injEq, Prod.mk.injEq] at h
      rw [← h.2] at hc
      exact absurd hc c09_emptyNormal_not_conf
    · rw [if_neg hr] at h
      simp only [Option.some.injEq, Prod.mk.injEq] at h
      exact ⟨fun hlt => hr (Or.inl hlt), h.2.symm, h.1.symm⟩

/-- **PD guard `leaderAppend` (proposals), the blocking direction**: while
`applied < pending_conf_index`, no membership-change entry survives the filter -/
theorem PD_leaderAppend_filter_blocked (r r1 : Raft) (i : Nat) (e e' : Entry)
    (hp : r.raftLog.applied < r.pendingConfIndex)
    (h : r.filterProposalEntry i e = some (r1, e')) : ¬ isConf e' ∧ r1 = r := by
  refine ⟨fun hc => (PD_leaderAppend_filter_entry r r1 i e e' h hc).1 hp, ?_⟩
  rw [C09_proposal_filter_entry] at h
  cases hpe : payload e with
  | normal => rw [hpe] at h; simp only [Option.some.injEq, Prod.mk.injEq] at h; exact h.1.symm
  | malformed => rw [hpe] at h; cases h
  | change cc =>
    rw [hpe] at h
    simp only at h
    have hr : Refused r cc := Or.inl hp
    rw [if_pos hr] at h
    simp only [Option.some.injEq, Prod.mk.injEq] at h
    exact h.1.symm

/-- beyond its last index the logical log holds nothing -/
theorem entryAt_beyond_last (l : RaftLog) (hinv : RaftLogInv l) (i : Nat) (h : l.lastIndex < i) :
    l.abs.entryAt i = none := by
  rw [hinv.lastIndex_abs] at h
  simp only [LLog.lastIndex] at h
  unfold LLog.entryAt
  rw [if_neg (by omega), List.getElem?_eq_none_iff]
  omega

/-- **PD guard `leaderAppend` (proposals, the whole call)** — `step_leader` on `MsgPropose`
(raft.rs:2097-2170), for a leader whose log satisfies `RaftLogInv` and whose apply cursor is within
its log: the apply cursor is not moved, and **every membership-change entry the call appends**
(index beyond the old last index) was appended with `pending_conf_index ≤ applied` in the state the
call started in, and `pending_conf_index` is that entry's index afterwards — hence at most one per
call.  (`c09_stepLeader_propose`, `c09_filterOut` = `C09_proposal_filter_shape`.) -/
theorem PD_leaderAppend_proposal (r r' : Raft) (m : Message) (e : Option RaftError)
    (hinv : RaftLogInv r.raftLog) (hap : r.raftLog.applied ≤ r.raftLog.lastIndex)
    (hs : r.state = .leader) (hm : m.msgType = .msgPropose) (h : r.stepLeader m = .ok (r', e)) :
    r'.raftLog.applied = r.raftLog.applied ∧
    ∀ i en, r.raftLog.lastIndex < i → r'.raftLog.abs.entryAt i = some en → isConf en →
      ¬ r.raftLog.applied < r.pendingConfIndex ∧ r'.pendingConfIndex = i := by
  have none_new : ∀ (x : Raft), x.raftLog.abs = r.raftLog.abs →
      ∀ i en, r.raftLog.lastIndex < i → x.raftLog.abs.entryAt i = some en → False := by
    intro x hx i en hi hen
    rw [hx, entryAt_beyond_last r.raftLog hinv i hi] at hen
    cases hen
  rcases c09_stepLeader_propose hinv hs hm h with ⟨h1, _⟩ | ⟨r1, oes, hf, hc⟩
  · subst h1
    exact ⟨rfl, fun i en hi hen _ => (none_new r' rfl i en hi hen).elim⟩
  · obtain ⟨hF, hlog⟩ := c09_filterOut hap hf
    rcases hc with ⟨h1, _⟩ | ⟨es, ho, _, hcf, hl | hA⟩
    · subst h1
      exact ⟨by rw [hlog], fun i en hi hen _ => (none_new r' (by rw [hlog]) i en hi hen).elim⟩
    · exact ⟨by rw [hcf.2, hlog],
        fun i en hi hen _ => (none_new r' (by rw [hl.abs, hlog]) i en hi hen).elim⟩
    · subst ho
      refine ⟨by rw [hcf.2, hlog], ?_⟩
      intro i en hi hen hcen
      have hinv1 : r1.raftLog.Inv := by rw [hlog]; exact hinv
      rcases c09_appended_entryAt hinv1 hA i en hen with ⟨hle, _⟩ | ⟨_, h2⟩
      · rw [hlog] at hle; omega
      · rw [hlog] at h2
        obtain ⟨e0, he0, hc0⟩ := c09_stamp_conf h2 hcen
        rcases hF with ⟨_, hno⟩ | ⟨h0, k, hk1, hk2⟩
        · exact absurd hc0 (hno es rfl e0 (List.mem_of_getElem? he0))
        · have hk := hk2 es rfl _ e0 he0 hc0
          refine ⟨h0, ?_⟩
          rw [hcf.1, hk1]
          omega

/-- where the apply cursor is after the first half of `commit_apply_internal` -/
theorem applyCursor_cases (l l' : RaftLog) (applied : Nat) (skip : Bool)
    (h : (if (!skip) = true then l.appliedTo applied
          else if applied = 0 then Res.panic "raft.commit_apply_internal.assert"
          else Res.ok { l with applied := applied }) = .ok l') :
    ∃ a', l' = { l with applied := a' } ∧ (applied ≠ 0 → a' = applied) ∧
      (applied = 0 → a' = l.applied) := by
  cases skip with
  | false =>
    simp only [Bool.not_false, if_true] at h
    rcases RaftLog.appliedTo_inv h with ⟨h0, e⟩ | ⟨_, _, e⟩
    · exact ⟨l.applied, e, fun hne => absurd h0 hne, fun _ => rfl⟩
    · exact ⟨applied, e, fun _ => rfl, fun hz => by omega⟩
  | true =>
    simp only [Bool.not_true, Bool.false_eq_true, if_false] at h
    split at h
    · cases h
    · rename_i h0
      cases h
      exact ⟨applied, rfl, fun _ => rfl, fun hz => absurd hz h0⟩

/-- the auto-leave entry `commit_apply_internal` appends: an empty `ConfChangeV2` (`etype = 2`) -/
def autoLeaveEntry (t i : Nat) : Entry := { etype := 2, term := t, index := i }

theorem autoLeaveEntry_isConf (t i : Nat) : isConf (autoLeaveEntry t i) := Or.inr rfl

/-- **PD guard `leaderAppend` (auto-leave)** — `commit_apply_internal` (raft.rs:973; `commit_apply`
and the `skip_check` call of `Raft::new` alike), for a log satisfying `RaftLogInv`: either the
logical log and `pending_conf_index` are unchanged, or the node is leader, its configuration is an
auto-leave joint one, `pending_conf_index ≤ applied` **for the new apply cursor**, exactly the
auto-leave entry is appended at `last_index + 1`, and `pending_conf_index` becomes that index. -/
theorem PD_leaderAppend_autoLeave (r r' : Raft) (applied : Nat) (skip : Bool)
    (hinv : RaftLogInv r.raftLog) (h : r.commitApplyInternal applied skip = .ok r') :
    (r'.raftLog.abs = r.raftLog.abs ∧ r'.pendingConfIndex = r.pendingConfIndex) ∨
    (r.state = .leader ∧ r.prs.conf.autoLeave = true ∧
      r.pendingConfIndex ≤ r'.raftLog.applied ∧
      r'.raftLog.abs = { r.raftLog.abs with ents := r.raftLog.abs.ents ++
        [autoLeaveEntry r.term (r.raftLog.lastIndex + 1)] } ∧
      r'.pendingConfIndex = r.raftLog.lastIndex + 1) := by
  unfold Raft.commitApplyInternal at h
  simp only [] at h
  split at h
  · cases h
  · cases h
  · rename_i log hlog
    obtain ⟨a', hl, ha1, ha0⟩ := applyCursor_cases _ _ _ _ hlog
    have habs : log.abs = r.raftLog.abs := by rw [hl]; rfl
    have hinv1 : log.Inv := by
      rw [hl]
      exact hinv.set_cursors r.raftLog.committed r.raftLog.persisted a' hinv.dummy_le_committed
        hinv.committed_le_last hinv.persisted_lt_off hinv.persisted_le_store
    have hli : log.lastIndex = r.raftLog.lastIndex := by rw [hl]; rfl
    have happ : log.applied = a' := by rw [hl]
    split at h
    · rename_i hcond
      obtain ⟨hal, hc1, hc2, hc3⟩ := hcond
      have hpa : r.pendingConfIndex ≤ a' := by
        by_cases h0 : applied = 0
        · have : r.pendingConfIndex ≤ applied := hc2
          omega
        · rw [ha1 h0]; exact hc2
      split at h
      · rename_i r2 happe
        cases h
        have hcf : CF _ r2 := appendEntry_cf happe CF.rfl
        rcases appendEntry_cases (r := { r with raftLog := log }) hinv1 hc3 happe with
          ⟨hb, _⟩ | ⟨_, he, _⟩ | ⟨_, hA, _⟩
        · cases hb
        · cases he
        · right
          have hlast : r2.raftLog.lastIndex = r.raftLog.lastIndex + 1 := by
            rw [hA.last]; simp only [stampFrom, List.length_cons, List.length_nil]
            show log.lastIndex + _ = _
            rw [hli]
          refine ⟨hc3, by simpa using hal, ?_, ?_, hlast⟩
          · show r.pendingConfIndex ≤ r2.raftLog.applied
            rw [hcf.2]
            show r.pendingConfIndex ≤ log.applied
            rw [happ]; exact hpa
          · show r2.raftLog.abs = _
            rw [hA.abs]
            show ({ log.abs with ents := log.abs.ents ++ stampFrom r.term (log.lastIndex + 1) [{ etype := 2 }] } : LLog) = _
            rw [habs, hli]
            rfl
      · cases h
      · cases h
      · cases h
    · cases h
      exact .inl ⟨habs, rfl⟩

/-- **PD `win`: `pending_conf_index := last index`** — `become_leader` (raft.rs:1230), every state:
`pending_conf_index` is the last index of the log the node was elected with, the apply cursor is not
moved, the node is leader (`C09_become_leader_blocks_changes`); and for a log satisfying `RaftLogInv`
the only entry it appends is the empty entry of the new term, which is not a membership change
(`becomeLeader_won`). -/
theorem PD_win_pendingConfIndex (r r' : Raft) (h : r.becomeLeader = .ok r') :
    r'.pendingConfIndex = r.raftLog.lastIndex ∧ r'.raftLog.applied = r.raftLog.applied ∧
    r'.state = .leader ∧
    (RaftLogInv r.raftLog →
      r'.raftLog.abs = { r.raftLog.abs with ents := r.raftLog.abs.ents ++
        [leaderNoop r'.term (r.raftLog.lastIndex + 1)] } ∧
      ¬ isConf (leaderNoop r'.term (r.raftLog.lastIndex + 1))) := by
  obtain ⟨h1, h2, h3, _⟩ := C09_become_leader_blocks_changes r r' h
  refine ⟨h1, h2, h3, fun hinv => ⟨?_, by unfold isConf leaderNoop; simp⟩⟩
  exact (becomeLeader_won hinv LS.rfl h).abs

/-! ### (d) nobody else writes a leader's log

`RaftLog::append` is reached from `Raft::append_entry` and from `RaftLog::maybe_append`
(`handle_append_entries`, follower side only: `step_follower`, and `step_candidate` after
`become_follower`).  `append_entry` has exactly three callers in the model (`grep appendEntry
RaftModel/`): `stepLeader` (`MsgPropose`, after the filter — `PD_leaderAppend_proposal`),
`commitApplyInternal` (auto-leave — `PD_leaderAppend_autoLeave`) and `becomeLeader` (the empty
entry — `PD_win_pendingConfIndex`).  The theorems below say so entry point by entry point. -/

/-- `Raft::step` at a leader (message term not above the leader's: a higher term deposes it first):
only `MsgPropose` changes the logical log (`C05_leader_log_changes_only_by_propose`) -/
theorem PD_leaderLog_step (r r' : Raft) (m : Message) (res : Option RaftError)
    (hinv : RaftLogInv r.raftLog) (hs : r.state = .leader) (ht : m.term ≤ r.term)
    (hm : m.msgType ≠ .msgPropose) (h : r.step m = .ok (r', res)) :
    r'.raftLog.abs = r.raftLog.abs :=
  RaftProps.C05.C05_leader_log_changes_only_by_propose r r' m res hinv hs ht hm h

/-- `Raft::tick` at a leader (`tick_heartbeat`: `MsgCheckQuorum`, `MsgBeat`) keeps the logical log -/
theorem PD_leaderLog_tick (r r' : Raft) (b : Bool) (hinv : RaftLogInv r.raftLog)
    (hs : r.state = .leader) (h : r.tick = .ok (r', b)) : r'.raftLog.abs = r.raftLog.abs :=
  (tick_leader_ls hinv hs h).abs

/-- `Raft::on_persist_entries` (may commit and broadcast) keeps the logical log,
`pending_conf_index` and the apply cursor -/
theorem PD_leaderLog_onPersistEntries (r r' : Raft) (index term : Nat)
    (h : r.onPersistEntries index term = .ok r') :
    r'.raftLog.abs = r.raftLog.abs ∧ r'.pendingConfIndex = r.pendingConfIndex ∧
    r'.raftLog.applied = r.raftLog.applied :=
  ⟨(onPersistEntries_abs h).1, (onPersistEntries_abs h).2.2.1, (onPersistEntries_abs h).2.2.2⟩

/-- `Raft::on_persist_snap` keeps the logical log, `pending_conf_index` and the apply cursor -/
theorem PD_leaderLog_onPersistSnap (r r' : Raft) (index : Nat) (h : r.onPersistSnap index = .ok r') :
    r'.raftLog.abs = r.raftLog.abs ∧ r'.pendingConfIndex = r.pendingConfIndex ∧
    r'.raftLog.applied = r.raftLog.applied :=
  ⟨(onPersistSnap_abs h).1, (onPersistSnap_abs h).2.2.1, (onPersistSnap_abs h).2.2.2⟩

/-- `Raft::apply_conf_change` (→ `post_conf_change`: may commit, broadcast, step down) keeps the
logical log -/
theorem PD_leaderLog_applyConfChange (r r' : Raft) (cc : ConfChangeV2)
    (res : Except ErrKind ConfState) (h : r.applyConfChange cc = .ok (r', res)) :
    r'.raftLog.abs = r.raftLog.abs :=
  (applyConfChange_ls h LS.rfl).abs

/-- `Raft::ping` keeps the logical log -/
theorem PD_leaderLog_ping (r r' : Raft) (h : r.ping = .ok r') : r'.raftLog.abs = r.raftLog.abs :=
  (ping_ls h LS.rfl).abs


/-! ## 3. sendApp: a `MsgAppend` carries the leader's commit index -/

/-- **PD guard `sendApp`** — `prepare_send_entries` (raft.rs:729), with or without entries: the
message it builds is a `MsgAppend` with `commit = raft_log.committed` -/
theorem PD_sendApp_prepareSendEntries (r : Raft) (m m' : Message) (pr pr' : Progress) (term : Nat)
    (ents : List Entry) (h : r.prepareSendEntries m pr term ents = .ok (m', pr')) :
    m'.msgType = .msgAppend ∧ m'.commit = r.raftLog.committed := by
  obtain ⟨_, hm⟩ := RaftProps.C05.c05_prepareSendEntries_msg h
  rw [hm]; exact ⟨rfl, rfl⟩

/-- **PD guard `sendApp`** — `send` (raft.rs:614) queues the message with its commit index, type and
receiver untouched, and does not touch the log -/
theorem PD_sendApp_send (r r' : Raft) (m : Message) (h : r.send m = .ok r') :
    r'.raftLog = r.raftLog ∧ ∃ m', r'.msgs = r.msgs ++ [m'] ∧ m'.commit = m.commit ∧
      m'.msgType = m.msgType ∧ m'.to = m.to := by
  rw [send_eq r r' m h]
  exact ⟨rfl, _, rfl, sendFill_commit r m, (Raft.sendFill_to_type r m).2,
    (Raft.sendFill_to_type r m).1⟩

/-- **PD guard `sendApp`** — `try_batching` (raft.rs:747) when it extends a queued message: exactly
one queued `MsgAppend` is rewritten, and it gets `commit = raft_log.committed` (`C13_batching`) -/
theorem PD_sendApp_tryBatching (r r' : Raft) (to : Nat) (pr pr' : Progress) (ents : List Entry)
    (h : r.tryBatching to pr ents = .ok (r', pr', true)) :
    r'.raftLog = r.raftLog ∧ ∃ pre msg post, r.msgs = pre ++ msg :: post ∧
      r'.msgs = pre ++ { msg with entries := msg.entries ++ ents, commit := r.raftLog.committed } :: post := by
  obtain ⟨h1, h2, _⟩ := RaftProps.C13.C13_batching r r' to pr pr' ents true h
  obtain ⟨pre, msg, post, h3, _, _, _, h4, _⟩ := h2 rfl
  refine ⟨by rw [h1], pre, msg, post, h3, h4⟩

/-- **PD guard `sendApp`** — `maybe_send_append` (raft.rs:794; every path: entries, the empty append
of `send_append`, batching on or off, snapshot fallback): the commit index is not moved, and every
`MsgAppend` in the queue afterwards either was queued before the call or carries
`commit = raft_log.committed` — the commit index **at that moment** -/
theorem PD_sendApp_maybeSendAppend (r r' : Raft) (to : Nat) (pr pr' : Progress) (ae sent : Bool)
    (h : r.maybeSendAppend to pr ae = .ok (r', pr', sent)) :
    r'.raftLog.committed = r.raftLog.committed ∧
    ∀ m ∈ r'.msgs, m.msgType = .msgAppend → m ∈ r.msgs ∨ m.commit = r.raftLog.committed :=
  maybeSendAppend_aq h AQ.rfl

/-- **PD guard `sendApp`** — `Raft::send_append` (raft.rs:892) -/
theorem PD_sendApp_sendAppend (r r' : Raft) (to : Nat) (h : r.sendAppend to = .ok r') :
    r'.raftLog.committed = r.raftLog.committed ∧
    ∀ m ∈ r'.msgs, m.msgType = .msgAppend → m ∈ r.msgs ∨ m.commit = r.raftLog.committed :=
  sendAppend_aq h AQ.rfl

/-- **PD guard `sendApp`** — `Raft::send_append_aggressively` (raft.rs:897) -/
theorem PD_sendApp_sendAppendAggressively (r r' : Raft) (to : Nat)
    (h : r.sendAppendAggressively to = .ok r') :
    r'.raftLog.committed = r.raftLog.committed ∧
    ∀ m ∈ r'.msgs, m.msgType = .msgAppend → m ∈ r.msgs ∨ m.commit = r.raftLog.committed :=
  sendAppendAggressively_aq h AQ.rfl

/-- **PD guard `sendApp`** — `Raft::bcast_append` (raft.rs:904): every `MsgAppend` the broadcast
queues or extends carries the commit index the leader has during the broadcast -/
theorem PD_sendApp_bcastAppend (r r' : Raft) (h : r.bcastAppend = .ok r') :
    r'.raftLog.committed = r.raftLog.committed ∧
    ∀ m ∈ r'.msgs, m.msgType = .msgAppend → m ∈ r.msgs ∨ m.commit = r.raftLog.committed :=
  bcastAppend_aq h AQ.rfl

/-! ## 4. recvAppC: append and commit in one call -/

/-- **PD guard `recvAppC`** — `handle_append_entries` (raft.rs:2528), every state and message.
Either the append is **accepted** (no snapshot request pending, `m.index` not below the commit
index, `maybe_append` succeeds, i.e. the local entry at `m.index` has term `m.log_term`): then the
new log is the one `maybe_append` returned **and in the same call** the commit index becomes
`max committed (min m.commit (m.index + |m.entries|))`; or it is **not accepted** (snapshot request
pending, `m.index` below the commit index, or the anchor does not match) and the whole `RaftLog` —
entries and commit index — is left alone. -/
theorem PD_recvAppC (r r' : Raft) (m : Message) (h : r.handleAppendEntries m = .ok r') :
    (r.pendingRequestSnapshot = 0 ∧ r.raftLog.committed ≤ m.index ∧
      r.raftLog.matchTerm m.index m.logTerm = .ok true ∧
      (∃ ci, r.raftLog.maybeAppend m.index m.logTerm m.commit m.entries =
        .ok (r'.raftLog, some (ci, m.index + m.entries.length))) ∧
      r'.raftLog.committed =
        max r.raftLog.committed (min m.commit (m.index + m.entries.length))) ∨
    ((r.pendingRequestSnapshot ≠ 0 ∨ m.index < r.raftLog.committed ∨
        r.raftLog.matchTerm m.index m.logTerm = .ok false) ∧ r'.raftLog = r.raftLog) := by
  cases handleAppendEntries_inv h with
  | waiting hp hs =>
    obtain ⟨_, _, hs⟩ := sendRequestSnapshot_inv hs
    exact .inr ⟨.inl hp, by rw [send_eq _ _ _ hs]⟩
  | stale _ hlt hs => exact .inr ⟨.inr (.inl hlt), by rw [send_eq _ _ _ hs]⟩
  | @accepted log ci last _ hp0 hge hm hs =>
    have hlog : r'.raftLog = log := by rw [send_eq _ _ _ hs]
    rcases RaftLog.c04_maybeAppend_spec hm with ⟨hn, _⟩ | ⟨ci', hres, hmt, hc⟩
    · cases hn
    · simp only [Option.some.injEq, Prod.mk.injEq] at hres
      refine .inl ⟨hp0, by omega, hmt, ⟨ci, ?_⟩, by rw [hlog]; exact hc⟩
      rw [hlog, hm, hres.2]
  | @rejected log _ _ _ _ _ hm _ hs =>
    rcases RaftLog.c04_maybeAppend_spec hm with ⟨_, hl, hmt⟩ | ⟨ci', hn, _⟩
    · subst hl
      exact .inr ⟨.inr (.inr hmt), by rw [send_eq _ _ _ hs]⟩
    · cases hn

/-! ## 5. apply: `applied ≤ idx ≤ committed` -/

/-- **PD guard `apply`** — `RaftLog::applied_to(idx)` (raft_log.rs:322; what `commit_apply` /
`advance_apply_to` call), `idx ≠ 0`: it moves the apply cursor to `idx` iff
`applied ≤ idx ≤ committed`, and panics otherwise -/
theorem PD_apply_appliedTo (l : RaftLog) (idx : Nat) (h0 : idx ≠ 0) :
    (l.applied ≤ idx ∧ idx ≤ l.committed → l.appliedTo idx = .ok { l with applied := idx }) ∧
    (¬ (l.applied ≤ idx ∧ idx ≤ l.committed) →
      l.appliedTo idx = .panic "raft_log.applied_to.out_of_range") := by
  unfold RaftLog.appliedTo
  rw [if_neg h0]
  constructor
  · intro h; rw [if_neg (by omega)]
  · intro h; rw [if_pos (by omega)]

/-- **PD guard `apply`** — every successful `applied_to(idx)`: `idx = 0` is a no-op, otherwise
`applied ≤ idx ≤ committed` held and only the apply cursor changed.  (With the representation
invariant: `C14_appliedTo_spec`.) -/
theorem PD_apply_appliedTo_ok (l l' : RaftLog) (idx : Nat) (h : l.appliedTo idx = .ok l') :
    (idx = 0 ∧ l' = l) ∨
    (l.applied ≤ idx ∧ idx ≤ l.committed ∧ l' = { l with applied := idx }) :=
  RaftLog.appliedTo_inv h

/-- **PD guard `apply`** — `Raft::commit_apply(idx)` (raft.rs:960, called by
`RawNode::advance_apply_to` / `advance_apply`): when it returns, `idx = 0` (nothing moved) or
`applied ≤ idx ≤ committed`, the apply cursor is `idx`, and the commit index is unchanged — so
`applied ≤ committed` afterwards -/
theorem PD_apply_commitApply (r r' : Raft) (idx : Nat) (h : r.commitApply idx = .ok r') :
    r'.raftLog.committed = r.raftLog.committed ∧
    ((idx = 0 ∧ r'.raftLog.applied = r.raftLog.applied) ∨
     (r.raftLog.applied ≤ idx ∧ idx ≤ r.raftLog.committed ∧ r'.raftLog.applied = idx)) := by
  refine ⟨RaftProps.C04.C04_commitApply_keeps_commit r r' idx h, ?_⟩
  unfold Raft.commitApply Raft.commitApplyInternal at h
  simp only [Bool.not_false, if_true] at h
  split at h
  · cases h
  · cases h
  · rename_i log hl
    have happ : r'.raftLog.applied = log.applied := by
      split at h
      · split at h
        · rename_i r2 happe
          cases h
          exact (appendEntry_cf happe CF.rfl).2
        · cases h
        · cases h
        · cases h
      · cases h; rfl
    rcases PD_apply_appliedTo_ok _ _ _ hl with ⟨h0, hl'⟩ | ⟨h1, h2, hl'⟩
    · exact .inl ⟨h0, by rw [happ, hl']⟩
    · exact .inr ⟨h1, h2, by rw [happ, hl']⟩

/-- **PD guard `apply`** — the Ready layer: `RawNode::advance_apply_to(idx)` (raw_node.rs:728) goes
through the same `applied_to` -/
theorem PD_apply_advanceApplyTo (n n' : RawNodeM) (idx : Nat) (eff : Effect)
    (h : n.advanceApplyTo idx eff = .ok n') :
    idx = 0 ∨ (n.log.applied ≤ idx ∧ idx ≤ n.log.committed) := by
  unfold RawNodeM.advanceApplyTo RawNodeM.commitApply at h
  split at h
  · rename_i l hl
    rcases PD_apply_appliedTo_ok _ _ _ hl with ⟨h0, _⟩ | ⟨h1, h2, _⟩
    · exact .inl h0
    · exact .inr ⟨h1, h2⟩
  · cases h
  · cases h

/-! ## 6. restart: what `Raft::new` does with `Config.applied` -/

/-- **PD `restart`** — `Raft::new` (raft.rs:322), exactly what the model does with the apply cursor
and the commit index: `committed` is the commit index of the stored hard state (or `first_index - 1`
when the hard state is the default one; `load_state` panics unless it lies in
`[first_index - 1, last_index]`), and `applied` is `Config.applied` when that is positive
(`commit_apply_internal(applied, true)` = `applied_to_unchecked`), else `first_index - 1`.
**No comparison between the two is made**: see `PD_restart_gap`. -/
theorem PD_restart_new (c : Config) (store : MemStorage) (rnd : Option Nat) (r : Raft)
    (h : Raft.new c store rnd = .ok (.ok r)) :
    r.raftLog.applied = (if c.applied > 0 then c.applied else store.firstIndex - 1) ∧
    r.raftLog.committed =
      (if store.hardState ≠ {} then store.hardState.commit else store.firstIndex - 1) ∧
    (store.hardState ≠ {} → store.firstIndex - 1 ≤ store.hardState.commit ∧
      store.hardState.commit ≤ store.lastIndex) := by
  obtain ⟨_, log, prs, hnew, _, _, hr, rfl⟩ := raftNew_inv h
  obtain ⟨_, hlog⟩ := RaftLog.new_inv hnew
  have h1 : log.applied = store.firstIndex - 1 := by rw [hlog]
  have h2 : log.committed = store.firstIndex - 1 := by rw [hlog]
  have h3 : log.lastIndex = store.lastIndex := by
    rw [hlog]; simp [RaftLog.lastIndex, Unstable.new, Unstable.maybeLastIndex]
  rw [becomeFollower_raftLog]
  refine ⟨by rw [← h1]; rfl, by rw [← h2]; rfl, fun hh => ?_⟩
  have := hr hh
  omega

/-! ## 7. win / commitLeader: the configuration is the node's own tracker configuration -/

/-- recording a vote does not touch the configuration -/
theorem recordVote_voters (t : ProgressTracker) (id : Nat) (v : Bool) :
    (t.recordVote id v).voters = t.voters ∧ (t.recordVote id v).conf = t.conf := by
  unfold ProgressTracker.recordVote
  split <;> exact ⟨rfl, rfl⟩

/-- the tracker's voter configuration is the two halves of `prs.conf` -/
theorem PD_own_config (r : Raft) :
    r.prs.voters = { incoming := r.prs.conf.incoming, outgoing := r.prs.conf.outgoing } := rfl

/-- **PD `win`: the `cfg` parameter** — `Raft::poll` (raft.rs:2281) decides with `tally_votes`
(tracker.rs:303) over the node's **own tracker configuration at that moment** (`r.prs.voters`, which
recording the vote does not change) and the votes recorded so far: the result it returns is that
tally -/
theorem PD_win_tally_own_config (r r' : Raft) (frm : Nat) (t : MsgType) (vote : Bool)
    (res : VoteResult) (h : r.poll frm t vote = .ok (r', res)) :
    res = (RaftModel.Tracker.tallyVotes r.prs.voters (r.prs.recordVote frm vote).votes).2.2 := by
  have hv : (RaftModel.Tracker.tallyVotes r.prs.voters (r.prs.recordVote frm vote).votes) =
      (r.prs.recordVote frm vote).tallyVotes := by
    unfold ProgressTracker.tallyVotes
    rw [(recordVote_voters r.prs frm vote).1]
  rw [hv]
  unfold Raft.poll Raft.pollWith at h
  simp only at h
  generalize hres : (r.prs.recordVote frm vote).tallyVotes.2.2 = res0 at h
  cases res0 with
  | won =>
    simp only at h
    split at h
    · obtain ⟨r2, _, h2⟩ := Res.bind_eq_ok h
      cases h2; rfl
    · obtain ⟨r2, _, h2⟩ := Res.bind_eq_ok h
      cases h2; rfl
  | lost => simp only at h; cases h; rfl
  | pending => simp only at h; cases h; rfl

/-- **PD `win`: a candidate becomes leader exactly when its own configuration says so** — for a
node in state `Candidate`, `poll` ends in state `Leader` iff the tally over its own tracker
configuration is `Won` (then `become_leader` runs: `PD_win_pendingConfIndex`) -/
theorem PD_win_iff_tally (r r' : Raft) (frm : Nat) (t : MsgType) (vote : Bool) (res : VoteResult)
    (hs : r.state = .candidate) (h : r.poll frm t vote = .ok (r', res)) :
    r'.state = .leader ↔
      (RaftModel.Tracker.tallyVotes r.prs.voters (r.prs.recordVote frm vote).votes).2.2 = .won := by
  rw [← PD_win_tally_own_config r r' frm t vote res h]
  unfold Raft.poll Raft.pollWith at h
  simp only at h
  generalize hres : (r.prs.recordVote frm vote).tallyVotes.2.2 = res0 at h
  cases res0 with
  | won =>
    simp only at h
    rw [if_neg (by rw [hs]; decide)] at h
    obtain ⟨r2, h1, h2⟩ := Res.bind_eq_ok h
    cases h2
    obtain ⟨r3, h3, h4⟩ := Res.bind_eq_ok h1
    have hl : r3.state = .leader := (C09_become_leader_blocks_changes _ _ h3).2.2.1
    have hf := bcastAppend_frame h4 Frame.rfl
    exact ⟨fun _ => rfl, fun _ => hf.state.trans hl⟩
  | lost =>
    simp only at h
    cases h
    constructor
    · intro hx
      rw [RaftProps.C20.becomeFollower_state] at hx
      cases hx
    · intro hx; cases hx
  | pending =>
    simp only at h
    cases h
    constructor
    · intro hx
      change r.state = .leader at hx
      rw [hs] at hx; cases hx
    · intro hx; cases hx

/-- **PD `commitLeader`: the `cfg` parameter** — `Raft::maybe_commit` (raft.rs:939) computes the
index with `maximal_committed_index` (tracker.rs:284) = the joint committed index over the node's
**own tracker configuration** `r.prs.voters` and its own progress map; when it commits, the new
commit index is that index, it is acknowledged by a majority of each non-empty half of that
configuration, and the entry there carries the current term (`C04_leader_commit_rule`) -/
theorem PD_commitLeader_own_config (r r' : Raft) (h : r.maybeCommit = .ok (r', true)) :
    (∃ gc, Joint.committedIndexR r.prs.voters r.prs.acked r.prs.groupCommit =
      .ok (r'.raftLog.committed, gc)) ∧
    RaftModel.JointQuorumAcked r.prs.voters r.prs.acked r'.raftLog.committed ∧
    r.raftLog.term r'.raftLog.committed = .ok r.term ∧
    r.raftLog.committed < r'.raftLog.committed := by
  obtain ⟨mci, gc, hm, hc, hlt, _, hterm, hq, _⟩ := RaftProps.C04.C04_leader_commit_rule r r' h
  rw [hc]
  exact ⟨⟨gc, hm⟩, hq, hterm, hlt⟩

/-- … and when it does not commit it still has only consulted that configuration: the node is
unchanged -/
theorem PD_commitLeader_no_commit (r r' : Raft) (h : r.maybeCommit = .ok (r', false)) : r' = r := by
  obtain ⟨_, _, _, hh | hh⟩ := maybeCommit_spec h
  · cases hh.1
  · exact hh.2

/-! ## what the model does NOT enforce: concrete witnesses -/

/-- a durable state: snapshot point (2, 1), entries 3 and 4 of term 1, hard state `commit = 2`,
single voter 1 -/
def gapStore : MemStorage :=
  { hardState := { term := 1, commit := 2 }, confState := { voters := [1] },
    snapshotMetadata := { index := 2, term := 1, confState := { voters := [1] } },
    entries := [{ term := 1, index := 3 }, { term := 1, index := 4 }] }

/-- **GAP (PD `restart`)**: `Raft::new` with `Config.applied = 100` over a storage whose commit index
is 2 and whose last index is 4 **succeeds**, and the node starts with `applied = 100 > committed = 2`
(`commit_apply_internal(applied, skip_check = true)` = `applied_to_unchecked`).  The guard
`a ≤ dcommit` of PD's `restart` is therefore a contract on the application (restart with an applied
index that was reported by `advance_apply_to` earlier, hence `≤` the durable commit index only if
the hard state was persisted before applying), not something the constructor enforces. -/
theorem PD_restart_gap :
    (match Raft.new { id := 1, applied := 100 } gapStore none with
      | .ok (.ok r) => some (r.raftLog.applied, r.raftLog.committed, r.raftLog.lastIndex)
      | _ => none) = some (100, 2, 4) := by decide

/-- … `applied = 3`, inside the log but beyond the commit index, likewise -/
theorem PD_restart_gap_inside_log :
    (match Raft.new { id := 1, applied := 3 } gapStore none with
      | .ok (.ok r) => some (r.raftLog.applied, r.raftLog.committed)
      | _ => none) = some (3, 2) := by decide

/-- **GAP (PD `restart`)**, the Ready layer: `RawNode::new` likewise -/
theorem PD_restart_gap_rawnode :
    (match RawNodeM.new gapStore 0 100 NO_LIMIT with
      | .ok n => some (n.log.applied, n.log.committed)
      | _ => none) = some (100, 2) := by decide

/-- **not enforced (harmless for PD)**: `applied_to` is bounded by `committed` only, not by
`persisted + max_apply_unpersisted_log_limit` — here `persisted = 2`, limit 0, `committed = 4`, and
`applied_to(4)` succeeds -/
theorem PD_apply_not_bounded_by_persisted :
    (match ({ store := gapStore, unstable := Unstable.new 5, committed := 4, persisted := 2,
              applied := 2, maxApplyUnpersistedLogLimit := 0 } : RaftLog).appliedTo 4 with
      | .ok l => some l.applied
      | _ => none) = some 4 := by decide

/-- `applied_to(0)` is a no-op (not a panic) even when the apply cursor is positive -/
theorem PD_apply_zero_is_noop (l : RaftLog) : l.appliedTo 0 = .ok l := by
  unfold RaftLog.appliedTo; rfl

/-- non-vacuity of `PD_campaign`: a promotable follower with the membership-change entry 3 committed
but not applied does not campaign -/
theorem PD_campaign_example :
    let st : MemStorage :=
      { hardState := { term := 1, commit := 3 }, confState := { voters := [1] },
        snapshotMetadata := { index := 2, term := 1, confState := { voters := [1] } },
        entries := [{ etype := 2, term := 1, index := 3 }, { term := 1, index := 4 }] }
    let r : Raft :=
      { raftLog := { store := st, unstable := Unstable.new 5, committed := 3, persisted := 4,
                     applied := 2, maxApplyUnpersistedLogLimit := 0 },
        id := 1, term := 1, promotable := true, maxCommittedSizePerReady := NO_LIMIT,
        prs := { conf := { incoming := [1] }, progress := [(1, Progress.new 5 8)] } }
    r.hasUnappliedConfChanges r.hupScanLow (r.raftLog.committed + 1) = .ok true ∧
    r.hup false = .ok r ∧
    (({ r with raftLog := { r.raftLog with applied := 3 } } : Raft).hup false ≠
      .ok { r with raftLog := { r.raftLog with applied := 3 } }) := by decide

end RaftProps.PDGuards
