import RaftProofs.RaftHandlers
import RaftProofs.RaftGuards
import RaftProofs.RaftLogReads
import RaftProps.C14

/-!
# C20b — the panic sites of the node model's message handlers, characterised

C20: "No sequence of contract-abiding API calls and well-formed messages from group members makes
the library panic; malformed or unexpected input from the network yields an error or is ignored."

`RaftModel/Raft*.lean` is a line-by-line model of `src/raft.rs` in which every `fatal!`, `panic!`,
`assert!`, `unwrap`, index site and modelled u64 overflow is an explicit `Res.panic "<site>"`
(differential testing ties the sites to the code).  This file proves the **"only if" direction**
for the handlers reachable from `Raft::step`: *if the result is `.panic s`, then `s` is one of an
explicit list and an explicit precondition on state/message held*.

## 1. Enumeration of the panic sites (grep `.panic "` / `.error "` over the model), by function

node level (`RaftCore`, `RaftLeader`, `RaftFollower`, `RaftStep`)
| function | sites |
|---|---|
| `send` | `raft.send.term_not_set`, `raft.send.term_set` |
| `prepareSendSnapshot` | `raft.prepare_send_snapshot.unexpected_error`, `….empty_snapshot` |
| `prepareSendEntries` | `raft.prepare_send_entries.underflow` |
| `tryBatchingLoop` | `raft.try_batching.last` |
| `maybeSendAppend` | `raft.maybe_send_append.underflow` |
| `sendAppendAggressivelyPr` | `model.send_append_aggressively.fuel` (model artefact) |
| `sendAppend` / `sendAppendAggressively` | `raft.send_append.unwrap` / `raft.send_append_aggressively.unwrap` |
| `appendEntry` | `raft.append_entry.unexpected_error` |
| `commitApplyInternal` | `raft.commit_apply_internal.{assert,unexpected_error,dropped}` (not reachable from `step`) |
| `onPersistSnap` / `onPersistEntries` | `raft.on_persist_snap.unexpected_error` / `raft.on_persist_entries.unexpected_error` (not from `step`) |
| `becomeCandidate` | `raft.become_candidate.{leader,overflow}` |
| `becomePreCandidate` | `raft.become_pre_candidate.leader` |
| `becomeLeader` | `raft.become_leader.{follower,assert_persisted,unwrap,dropped}` |
| `sendVoteRequests` | `raft.campaign.{commit_info,last_term}` |
| `campaignWith` | `raft.campaign.overflow` |
| `campaignAfterPreVote` | `model.poll.depth` (model artefact) |
| `handleReadyReadIndex` | `raft.handle_ready_read_index.index` |
| `loadState`, `assignCommitGroups`, `new` | `raft.load_state.out_of_range`, `raft.assign_commit_groups.assert`, `raft.new.{unexpected_error,invalid_restore}`, `raw_node.new.assert_id` (not from `step`) |
| `handleAppendResponseAccepted` / `handleAppendResponse` | `raft.handle_append_response.unwrap` / `….unexpected_error` |
| `handleTransferLeader` | `raft.handle_transfer_leader.unwrap` |
| `stepLeader` | `raft.step_leader.empty_propose`, `raft.step_leader.read_index.index` |
| `scanConf` | `raft.has_unapplied_conf_changes.scan_error` |
| `sendRequestSnapshot` / `requestSnapshot` | `raft.send_request_snapshot.unwrap` / `raft.request_snapshot.unwrap` |
| `handleAppendEntries` | `raft.handle_append_entries.{unexpected_error,hint_term}` |
| `handleHeartbeat` | `raft.handle_heartbeat.unexpected_error` |
| `restore` | `raft.restore.{overflow,unexpected_error,unable_to_restore_config,invalid_restore,unwrap,underflow}` |
| `stepCandidate` | `raft.step_candidate.debug_assert_term` |
| `voteGranted` / `stepVoteReject` / `stepVote` | `raft.step.is_up_to_date` / `raft.step.commit_info` / `raft.vote_resp_msg_type` |

components called by the handlers
| function | sites |
|---|---|
| `Progress.maybeUpdate` / `maybeDecrTo` / `updateState` | `progress.maybe_update.overflow` / `progress.maybe_decr_to.overflow` / `progress.optimistic_update.overflow`, `progress.update_state.snapshot` |
| `ReadOnly.addRequest` / `findPos` / `popN` | `read_only.add_request.index` / `read_only.advance.missing` / `read_only.advance.{pop_front,remove}` |
| `RaftLog.term` / `lastTerm` / `commitInfo` | `raft_log.term.{underflow,unexpected_error}` / `raft_log.last_term.error` / `raft_log.commit_info.missing` |
| `RaftLog.findConflictByTermLoop` | `raft_log.find_conflict_by_term.underflow` |
| `RaftLog.commitTo` / `appliedTo` / `restore` | `raft_log.commit_to.out_of_range` / `raft_log.applied_to.out_of_range` / `raft_log.restore.assert` |
| `RaftLog.append` / `appendConflict` / `maybeAppend` | `raft_log.append.{underflow,before_committed}` / `raft_log.maybe_append.{underflow,slice}` / `raft_log.maybe_append.conflict_committed` |
| `RaftLog.mustCheckOutOfBounds` / `sliceStore` | `raft_log.must_check_outofbounds.{order,underflow,range}` / `raft_log.slice.unexpected_error` |
| `RaftLog.nextEntriesSince`, `maybePersistSnap`, `scanLoop`, `new` | `raft_log.next_entries_since.{overflow,slice_error}`, `raft_log.maybe_persist_snap.{gt_committed,ge_offset}`, `raft_log.scan.empty_page`, `raft_log.new.underflow` (not from `step`) |
| `Unstable.maybeTerm` / `mustCheckOutOfBounds` / `truncateAndAppend` | `unstable.maybe_term.index` / `unstable.must_check_outofbounds.{order,range}` / `unstable.truncate_and_append.{index,size_underflow}` |
| `Unstable.stableEntries` / `stableSnap` | `unstable.stable_entries.{assert_snapshot,mismatch,empty}` / `unstable.stable_snap.{mismatch,none}` (not from `step`) |
| `MemStorage.term` / `entriesQ` / `snapshotCore` | `storage.term.index` / `storage.entries.{out_of_bound,index,underflow,slice_order,slice_end}` / `storage.snapshot.{index,underflow,commit_lt_snapshot}` |
| `MemStorage.commitTo` / `compact` / `append` | `storage.commit_to.*`, `storage.compact.*`, `storage.append.*` (application-side calls, C19) |
| `Inflights.add` / `freeTo` / `freeFirstOne` / `setCap` | `inflights.add.{full,debug_assert,assert_next}` / `inflights.free_to.index` / `inflights.free_first_one.index` / `inflights.set_cap.*` |
| `Majority.committedIndexR`, `Joint.committedIndexR` | `quorum.majority.committed_index.{index,last}`, `unreachable` (never: `RaftProps.C11.joint_committedIndex_never_panics`) |

## 2. Coverage of this file (handler × remaining sites)

| handler | hypothesis | theorem | sites that remain (with their precondition) |
|---|---|---|---|
| `send` | – | `send_panics_only_if` | `term_not_set` ⇔ vote-type message with term 0 (not a rejected pre-vote response); `term_set` ⇔ non-vote message with term ≠ 0 |
| `stepTerm` (term preamble) | – | `stepTerm_never_panics` | none |
| stale message `0 < m.term < r.term` | – | `C20_stale_term_harmless` | none; state unchanged, ≤ 1 response queued |
| `stepVote` | `RaftLogInv` / `NodeOk` | `stepVote_panics_only_if`, `C20_vote_panics_only_if`, `C20_vote_wellformed` | `raft.send.term_not_set` (request with term 0, or a real vote request rejected by a node at term 0); `scan_error` (only as (pre-)candidate); under `RaftLogInv` alone also `last_term.error` / `commit_info.missing` (term compacted away) |
| `handleAppendEntries` | `RaftLogInv`, `AppendWF m` / `NodeOk` | `handleAppendEntries_panics_only_if`, `C20_append_panics_only_on_protocol_violation` | `raft_log.maybe_append.conflict_committed` (conflict at or below commit) and `raft.handle_append_entries.hint_term` (`log_term` below the term of the committed entry): both = Log Matching / Leader Completeness violated by the sender |
| `handleHeartbeat` | `RaftLogInv` / `NodeOk` | `handleHeartbeat_panics_only_if`, `C20_heartbeat_panics_only_on_commit_beyond_log` | `raft_log.commit_to.out_of_range` (advertised commit beyond the follower's log) |
| `restore` / `handleSnapshot` | `RaftLogInv` | `restore_panics_only_if`, `handleSnapshot_panics_only_if` | `raft.restore.overflow` (non-follower at `u64::MAX`), `commit_to.out_of_range` (snapshot term 0, index beyond log), `unable_to_restore_config` (ConfState rejected), `invalid_restore`/`unwrap`/`underflow`/`maybe_update.overflow` (only after a successful conf restore; not analysed further) |
| `stepFollower` (all message types) | `RaftLogInv`, `AppendWF` | `stepFollower_panics_only_if` | the three above + `raft.send.term_set` for a forwarded `MsgPropose`/`MsgReadIndex`/`MsgTransferLeader` that carries a term + `commit_to.out_of_range` for a `MsgReadIndexResp` with term 0 + the campaign of `MsgTimeoutNow` (`hup`, not characterised) |
| `stepCandidate`, `MsgAppend`/`MsgHeartbeat`/`MsgSnapshot` | `NodeOk` | `stepCandidate_leader_msgs_panic_only_if`, `stepTerm_term_eq` | `debug_assert_term` (unreachable through `step` for `m.term ≠ 0`) + the follower handler's sites |
| `stepCandidate`, vote responses (`poll` → `becomeLeader`/`campaign`) | | not covered | |
| `maybeCommitByVote` | `RaftLogInv` | `maybeCommitByVote_panics_only_if` | `scan_error`, only as (pre-)candidate |
| `RaftLog.slice` / `entries` / `term` / `scanConf` | `RaftLogInv` | `slice_never_panics`, `entries_never_panics`, `term_never_panics`, `scanConf_panics_only_if` | none / none / none / `scan_error` |
| `maybeSendAppend`, `sendAppend(Aggressively)`, `bcastAppend` | `RaftLogInv` | `maybeSendAppend_spec`, `sendAppend_spec`, `sendAppendAggressively_spec`, `bcastAppend_spec` | `sendAppendSites` (10: `next_idx` underflow, empty snapshot, 3 `storage.snapshot.*`, 2 `progress.*`, 3 `inflights.add.*`) (+ the two `unwrap`s and the model's fuel site); no log-read, no `send` site; invariant kept |
| `bcastHeartbeat(WithCtx)` | – | `bcastHeartbeat_never_panics` | none |
| `stepLeader`: `MsgBeat`, `MsgCheckQuorum`, `MsgSnapStatus`, `MsgUnreachable`, ignored types | – | `stepLeader_local_never_panics` | none |
| `stepLeader`: `MsgPropose` | | `stepLeader_propose_empty` (if direction only) | `empty_propose`; rest not covered |
| `stepLeader`: `MsgAppendResponse`, `MsgHeartbeatResponse`, `MsgTransferLeader`, `MsgReadIndex` | | not covered (their send tails are: §7) | |
| `hup` / `campaign` / `becomeLeader`, `tick` | | not covered | |
| `Raft.step` | `NodeOk`, `AppendWF` | `C20_step_panics_only_if` | preamble: none; dispatch on `r1` (`NodeOk` again): `DispatchPanic` = vote arm / follower arm characterised, candidate / leader / `hup` arms by the partial theorems above |

## 3. Panics reachable by *malformed network input* (C20's second clause fails; see the witnesses at
the end of the file, all through `RawNode::step`)

* `MsgRequestVote`/`MsgRequestPreVote` with `term = 0` that would be granted: `raft.send.term_not_set`.
* `MsgPropose` / `MsgReadIndex` / `MsgTransferLeader` with `term = receiver's term` delivered to a
  follower that knows a leader: the forward hits `raft.send.term_set`.  For `MsgTransferLeader` a
  non-zero term is the *normal* wire format (the forwarding follower's `send` stamps it), so this
  needs only a mis-routed message; for the other two a forged term.
* `MsgReadIndexResp` with `term = 0` and an index beyond the log: `raft_log.commit_to.out_of_range`.
* `MsgAppend` with `log_term = 0` and `index` beyond the log: `unstable.must_check_outofbounds.range`
  (this is why `AppendWF.anchor` is a hypothesis).
* `MsgSnapshot` whose metadata has `term = 0` and an index beyond the log: `commit_to.out_of_range`.
-/

namespace RaftProps.C20
open RaftModel RaftModel.Raft

/-! ## 1. `send` -/

/-- **`send`** panics exactly on the two "term should (not) be set" `fatal!`s. -/
theorem send_panics_only_if (r : Raft) (m : Message) (s : String) (h : r.send m = .panic s) :
    (s = "raft.send.term_not_set" ∧ isVoteMsg m.msgType = true ∧ m.term = 0 ∧
        ¬ (m.msgType = .msgRequestPreVoteResponse ∧ m.reject = true)) ∨
    (s = "raft.send.term_set" ∧ isVoteMsg m.msgType = false ∧ m.term ≠ 0) := by
  unfold Raft.send at h
  split at h
  · rename_i hc
    cases h
    left
    simp at hc
    refine ⟨rfl, hc.1.1, hc.1.2, ?_⟩
    intro ⟨h1, h2⟩
    rcases hc.2 with h3 | h3
    · exact h3 h1
    · rw [h2] at h3; cases h3
  · split at h
    · rename_i hc
      cases h
      right
      simp at hc
      exact ⟨rfl, hc.1, hc.2⟩
    · cases h

/-- a message of a non-vote type built by the library (term left 0) is always queued -/
theorem send_nonvote_ok (r : Raft) (m : Message) (h1 : isVoteMsg m.msgType = false)
    (h2 : m.term = 0) : r.send m = .ok { r with msgs := r.msgs ++ [r.sendFill m] } := by
  simp [Raft.send, h1, h2]

theorem send_nonvote_never_panics (r : Raft) (m : Message) (s : String)
    (h1 : isVoteMsg m.msgType = false) (h2 : m.term = 0) : r.send m ≠ .panic s := by
  rw [send_nonvote_ok r m h1 h2]; intro h; cases h

/-- a (pre-)vote message with a term is always queued -/
theorem send_vote_ok (r : Raft) (m : Message) (h1 : isVoteMsg m.msgType = true)
    (h2 : m.term ≠ 0) : r.send m = .ok { r with msgs := r.msgs ++ [r.sendFill m] } := by
  simp [Raft.send, h1, h2]

/-! ## 2. the term preamble -/

/-- **The term preamble of `step` never panics**, for any state and any message. -/
theorem stepTerm_never_panics (r : Raft) (m : Message) (s : String) : r.stepTerm m ≠ .panic s := by
  intro h
  unfold Raft.stepTerm at h
  obtain ⟨_, h⟩ := Res.of_guard h
  by_cases hgt : r.term < m.term
  · rw [if_pos hgt] at h
    dsimp only at h
    obtain ⟨_, h⟩ := Res.of_guard h
    obtain ⟨_, h⟩ := Res.of_guard h
    obtain ⟨_, h⟩ := Res.of_guard h
    cases h
  rw [if_neg hgt] at h
  obtain ⟨_, h⟩ := Res.of_guard' h
  by_cases hc : (r.checkQuorum = true ∨ r.preVote = true) ∧
      (m.msgType = .msgHeartbeat ∨ m.msgType = .msgAppend)
  · rw [if_pos hc] at h
    cases hs : r.send (newMessage m.frm .msgAppendResponse none) with
    | ok r1 => rw [hs] at h; cases h
    | err e => rw [hs] at h; cases h
    | panic s' => exact send_nonvote_never_panics r _ s' rfl rfl hs
  rw [if_neg hc] at h
  obtain ⟨_, h⟩ := Res.of_guard' h
  cases hs : r.send
      { msgType := .msgRequestPreVoteResponse, to := m.frm, term := r.term, reject := true } with
  | ok r1 => rw [hs] at h; cases h
  | err e => rw [hs] at h; cases h
  | panic s' =>
    have := send_panics_only_if r _ s' hs
    simp [isVoteMsg] at this

/-- **Stale-term messages are harmless.**  A message from an older term (`0 < m.term < r.term`)
never panics and never changes the node — term, vote, log, role, progress are untouched; at most
one response is queued (the `MsgAppendResponse` that lets a deposed leader step down under
check-quorum / pre-vote, or the rejection of a stale pre-vote). -/
theorem C20_stale_term_harmless (r : Raft) (m : Message) (h0 : m.term ≠ 0) (hlt : m.term < r.term) :
    ∃ out, r.step m = .ok ({ r with msgs := r.msgs ++ out }, none) ∧ out.length ≤ 1 := by
  have hnl : ¬ r.term < m.term := by omega
  have key : ∃ out, r.stepTerm m = .ok ({ r with msgs := r.msgs ++ out }, false) ∧ out.length ≤ 1 := by
    unfold Raft.stepTerm
    rw [if_neg h0, if_neg hnl, if_pos hlt]
    split
    · rw [send_nonvote_ok r _ rfl rfl]
      exact ⟨[_], rfl, Nat.le_refl _⟩
    · split
      · rw [send_vote_ok r _ rfl (by show r.term ≠ 0; omega)]
        exact ⟨[_], rfl, Nat.le_refl _⟩
      · exact ⟨[], by simp, by simp⟩
  obtain ⟨out, hk, hl⟩ := key
  exact ⟨out, by unfold Raft.step; rw [hk], hl⟩

/-! ## 3. `RaftLog` operations under the representation invariant -/

open RaftProps.C14 in
theorem term_never_panics {l : RaftLog} (h : RaftLogInv l) (i : Nat) (s : String) :
    l.term i ≠ .panic s := by
  rw [h.term_abs]
  rcases l.abs.term_cases i with ⟨t, ht⟩ | ht <;> rw [ht] <;> intro hc <;> cases hc

theorem term_ok_or_compacted {l : RaftLog} (h : l.Inv) (i : Nat) :
    (∃ t, l.term i = .ok t ∧ l.abs.term i = .ok t) ∨
    (l.term i = .err .compacted ∧ l.abs.term i = .err .compacted) := by
  rw [h.term_abs]
  rcases l.abs.term_cases i with ⟨t, ht⟩ | ht
  · exact .inl ⟨t, ht, ht⟩
  · exact .inr ⟨ht, ht⟩

/-- `commit_to` panics exactly on "to_commit out of range" -/
theorem commitTo_panics_only_if (l : RaftLog) (to : Nat) (s : String)
    (h : l.commitTo to = .panic s) :
    s = "raft_log.commit_to.out_of_range" ∧ l.committed < to ∧ l.lastIndex < to := by
  unfold RaftLog.commitTo at h
  split at h
  · cases h
  · split at h
    · cases h; exact ⟨rfl, by omega, by assumption⟩
    · cases h

theorem commitTo_never_err (l : RaftLog) (to : Nat) (e : StorageError) : l.commitTo to ≠ .err e := by
  unfold RaftLog.commitTo
  split
  · intro h; cases h
  · split <;> (intro h; cases h)

theorem commitTo_ok_abs (l l' : RaftLog) (to : Nat) (h : l.commitTo to = .ok l') :
    l' = { l with committed := l'.committed } ∧ l.committed ≤ l'.committed := by
  rcases RaftLog.commitTo_inv h with ⟨_, rfl⟩ | ⟨hlt, _, rfl⟩
  · exact ⟨rfl, Nat.le_refl _⟩
  · exact ⟨rfl, Nat.le_of_lt hlt⟩

/-- `last_term` fails only when the term at the last index is unknown: an empty log whose dummy
position was compacted away by the storage -/
theorem lastTerm_panics_only_if {l : RaftLog} (h : l.Inv) (s : String)
    (hp : l.lastTerm = .panic s) :
    s = "raft_log.last_term.error" ∧ l.abs.term l.lastIndex = .err .compacted := by
  unfold RaftLog.lastTerm at hp
  rcases term_ok_or_compacted h l.lastIndex with ⟨t, ht, _⟩ | ⟨ht, ha⟩
  · rw [ht] at hp; cases hp
  · rw [ht] at hp; cases hp; exact ⟨rfl, ha⟩

theorem lastTerm_never_err (l : RaftLog) (e : StorageError) : l.lastTerm ≠ .err e := by
  unfold RaftLog.lastTerm
  split <;> (intro h; cases h)

/-- `commit_info` fails only when the term of the commit index is unknown -/
theorem commitInfo_panics_only_if {l : RaftLog} (h : l.Inv) (s : String)
    (hp : l.commitInfo = .panic s) :
    s = "raft_log.commit_info.missing" ∧ l.abs.term l.committed = .err .compacted := by
  unfold RaftLog.commitInfo at hp
  rcases term_ok_or_compacted h l.committed with ⟨t, ht, _⟩ | ⟨ht, ha⟩
  · rw [ht] at hp; cases hp
  · rw [ht] at hp; cases hp; exact ⟨rfl, ha⟩

theorem commitInfo_never_err (l : RaftLog) (e : StorageError) : l.commitInfo ≠ .err e := by
  unfold RaftLog.commitInfo
  split <;> (intro h; cases h)

/-- `maybe_commit(max_index, term)` panics only for `term = 0` with `max_index` beyond the log -/
theorem maybeCommit_panics_only_if {l : RaftLog} (h : l.Inv) (mi t : Nat) (s : String)
    (hp : l.maybeCommit mi t = .panic s) :
    s = "raft_log.commit_to.out_of_range" ∧ t = 0 ∧ l.lastIndex < mi := by
  unfold RaftLog.maybeCommit at hp
  split at hp
  · split at hp
    · rename_i t' ht
      split at hp
      · split at hp
        · cases hp
        · cases hp
        · rename_i s' hc
          cases hp
          obtain ⟨h1, _, h3⟩ := commitTo_panics_only_if l mi s hc
          refine ⟨h1, ?_, h3⟩
          rw [h.term_abs] at ht
          unfold LLog.term at ht
          rw [if_pos (Or.inr (by rw [← h.lastIndex_abs]; exact h3))] at ht
          cases ht; omega
      · cases hp
    · cases hp
    · rename_i s' ht
      exact absurd ht (term_never_panics h mi s')
  · cases hp

theorem maybeCommit_never_err (l : RaftLog) (mi t : Nat) (e : StorageError) :
    l.maybeCommit mi t ≠ .err e := by
  unfold RaftLog.maybeCommit
  intro h
  split at h
  · split at h
    · split at h
      · split at h
        · cases h
        · rename_i e' hc; exact commitTo_never_err l mi e' hc
        · cases h
      · cases h
    · cases h
    · cases h
  · cases h

/-- **the backward scan of `find_conflict_by_term`, every outcome**: it never answers an error; it
panics only on the u64 underflow at position 0, which needs a dummy entry 0 with a term above the probed
term; it answers "term unknown" only at the compacted dummy position, after having seen a term above
the probed one at every index on the way down -/
theorem fcbtLoop_spec {l : RaftLog} (h : l.Inv) (term : Nat) :
    ∀ ci, match l.findConflictByTermLoop term ci with
      | .ok (_, some _) => True
      | .ok (j, none) => j ≤ ci ∧ l.abs.term j = .err .compacted ∧
          ∀ i, j < i → i ≤ ci → ∃ t, l.abs.term i = .ok t ∧ term < t
      | .err _ => False
      | .panic s => s = "raft_log.find_conflict_by_term.underflow" ∧
          ∃ t0, l.abs.term 0 = .ok t0 ∧ term < t0 := by
  intro ci
  induction ci with
  | zero =>
    unfold RaftLog.findConflictByTermLoop
    rcases term_ok_or_compacted h 0 with ⟨t, ht, ha⟩ | ⟨ht, ha⟩
    · rw [ht]
      dsimp only
      by_cases hlt : term < t
      · rw [if_pos hlt]; exact ⟨rfl, t, ha, hlt⟩
      · rw [if_neg hlt]; trivial
    · rw [ht]; exact ⟨Nat.le_refl _, ha, fun i h1 h2 => by omega⟩
  | succ n ih =>
    unfold RaftLog.findConflictByTermLoop
    rcases term_ok_or_compacted h (n + 1) with ⟨t, ht, ha⟩ | ⟨ht, ha⟩
    · rw [ht]
      dsimp only
      by_cases hlt : term < t
      · rw [if_pos hlt]
        revert ih
        cases l.findConflictByTermLoop term n with
        | panic s => exact fun ih => ih
        | err e => exact fun ih => ih
        | ok x =>
          obtain ⟨j, _ | t'⟩ := x
          · rintro ⟨h1, h2, h3⟩
            refine ⟨Nat.le_succ_of_le h1, h2, fun i hi1 hi2 => ?_⟩
            by_cases hi : i = n + 1
            · subst hi; exact ⟨t, ha, hlt⟩
            · exact h3 i hi1 (by omega)
          · exact fun _ => trivial
      · rw [if_neg hlt]; trivial
    · rw [ht]; exact ⟨Nat.le_refl _, ha, fun i h1 h2 => by omega⟩

theorem LLog_term_err_only_at_dummy (g : LLog) (i : Nat) (e : StorageError)
    (h : g.term i = .err e) : i = g.snapIdx ∧ g.snapTerm = none := by
  unfold LLog.term at h
  split at h
  · cases h
  · split at h
    · rename_i hi
      split at h
      · cases h
      · rename_i hn; exact ⟨hi, hn⟩
    · split at h <;> cases h

/-- a well-formed `MsgAppend`: the entries are numbered consecutively after `index`, carry real
terms, and `log_term = 0` is used only for the anchor before the first entry of the log -/
structure AppendWF (m : Message) : Prop where
  contig : ContigFrom (m.index + 1) m.entries
  terms : ∀ e ∈ m.entries, e.term ≠ 0
  anchor : m.logTerm = 0 → m.index = 0

/-- the three outcomes of `maybe_append` on a well-formed batch (from `C14_maybeAppend_spec`); the
only panic is the conflict at or below the commit index -/
theorem maybeAppend_cases {l : RaftLog} (h : l.Inv) (idx term committed : Nat) (ents : List Entry)
    (hc : ContigFrom (idx + 1) ents) (hterms : ∀ e ∈ ents, e.term ≠ 0) (ha : term = 0 → idx = 0) :
    (l.abs.matchTerm idx term = false ∧ l.maybeAppend idx term committed ents = .ok (l, none)) ∨
    (l.abs.matchTerm idx term = true ∧
      ∃ l' p, l.maybeAppend idx term committed ents = .ok (l', some p) ∧ l'.Inv) ∨
    (l.abs.matchTerm idx term = true ∧ 0 < l.abs.findConflict ents ∧
      l.abs.findConflict ents ≤ l.committed ∧
      l.maybeAppend idx term committed ents = .panic "raft_log.maybe_append.conflict_committed") := by
  cases hm : l.abs.matchTerm idx term with
  | false => exact .inl ⟨rfl, h.maybeAppend_nomatch idx term committed ents hm⟩
  | true =>
    right
    have hidx : idx ≤ l.lastIndex := by
      by_cases ht : term = 0
      · rw [ha ht]; exact Nat.zero_le _
      · rw [h.lastIndex_abs]; exact l.abs.matchTerm_le_last idx term hm ht
    rcases Nat.eq_zero_or_pos (l.abs.findConflict ents) with h0 | hpos
    · left
      obtain ⟨e, hinv⟩ := h.maybeAppend_noconflict idx term committed ents hc hidx hterms hm h0
      exact ⟨rfl, _, _, e, hinv⟩
    · rcases Nat.lt_or_ge l.committed (l.abs.findConflict ents) with hgt | hle
      · left
        obtain ⟨l', e, _, _, _, _, _, hinv⟩ :=
          h.maybeAppend_conflict idx term committed ents hc hidx hterms hm hgt
        exact ⟨rfl, l', _, e, hinv⟩
      · right
        refine ⟨rfl, hpos, hle, ?_⟩
        unfold RaftLog.maybeAppend
        rw [h.matchTerm_abs, hm]
        simp only []
        rw [h.findConflict_abs]
        simp only []
        rw [if_neg (by omega), if_pos hle]

/-! ### reads: `slice` / `entries` never panic inside the log -/

/-- **`slice(lo, hi)` never panics** for `lo ≤ hi ≤ last_index + 1` under `RaftLogInv` (whatever the
size limit and whether or not the storage answers "temporarily unavailable"): each of the three
outcomes of `RaftLog.Inv.slice_eq` is `Ok` or a storage error -/
theorem slice_never_panics {l : RaftLog} (h : l.Inv) (lo hi : Nat) (mx : Option Nat) (ca : Bool)
    (h1 : lo ≤ hi) (h2 : hi ≤ l.lastIndex + 1) (s : String) : l.slice lo hi mx ca ≠ .panic s := by
  rw [h.slice_eq lo hi mx ca h1 h2]
  split
  · intro hc; cases hc
  · split <;> (intro hc; cases hc)

/-- `entries(idx, max_size)` never panics under `RaftLogInv` -/
theorem entries_never_panics {l : RaftLog} (h : l.Inv) (idx : Nat) (mx : Option Nat) (ca : Bool)
    (s : String) : l.entries idx mx ca ≠ .panic s := by
  intro hp
  unfold RaftLog.entries at hp
  split at hp
  · cases hp
  · exact slice_never_panics h idx _ mx ca (by omega) (Nat.le_refl _) s hp

/-- the scan of `has_unapplied_conf_changes` up to `hi ≤ last_index + 1` panics only at its own
`fatal!` (a page came back empty, or `slice` answered `Compacted`/`Unavailable`) -/
theorem scanConf_panics_only_if {l : RaftLog} (h : l.Inv) (hi ps : Nat) (hhi : hi ≤ l.lastIndex + 1)
    (s : String) : ∀ fuel lo, RaftModel.Raft.scanConf l hi ps fuel lo = .panic s →
      s = "raft.has_unapplied_conf_changes.scan_error" := by
  intro fuel
  induction fuel with
  | zero => intro lo hp; simp [Raft.scanConf] at hp
  | succ n ih =>
    intro lo hp
    simp only [Raft.scanConf] at hp
    split at hp
    · rename_i hlt
      split at hp
      · cases hp; rfl
      · split at hp
        · cases hp
        · exact ih _ hp
      · cases hp; rfl
      · rename_i s' hsl
        exact absurd hsl (slice_never_panics h lo hi _ _ (by omega) hhi s')
    · cases hp

theorem hasUnappliedConfChanges_panics_only_if (r : Raft) (h : r.raftLog.Inv) (lo hi : Nat)
    (hhi : hi ≤ r.raftLog.lastIndex + 1) (s : String)
    (hp : r.hasUnappliedConfChanges lo hi = .panic s) :
    s = "raft.has_unapplied_conf_changes.scan_error" ∧ r.raftLog.applied < r.raftLog.committed := by
  unfold Raft.hasUnappliedConfChanges at hp
  split at hp
  · cases hp
  · exact ⟨scanConf_panics_only_if h hi _ hhi s _ _ hp, by omega⟩

/-! ## 4. follower-side handlers -/

/-- `send_request_snapshot` panics only at its `unwrap` of `term(last_index)`: the log is empty and
the storage has forgotten the term of the dummy position -/
theorem sendRequestSnapshot_panics_only_if (r : Raft) (h : r.raftLog.Inv) (s : String)
    (hp : r.sendRequestSnapshot = .panic s) :
    s = "raft.send_request_snapshot.unwrap" ∧
      r.raftLog.abs.term r.raftLog.lastIndex = .err .compacted := by
  unfold Raft.sendRequestSnapshot at hp
  simp only [] at hp
  split at hp
  · exact absurd hp (send_nonvote_never_panics r _ s rfl rfl)
  · rename_i e ht
    cases hp
    rcases term_ok_or_compacted h r.raftLog.lastIndex with ⟨t, ht', _⟩ | ⟨_, ha⟩
    · rw [ht'] at ht; cases ht
    · exact ⟨rfl, ha⟩
  · rename_i s' ht
    exact absurd ht (term_never_panics h _ s')

/-- what a panic of `handle_append_entries` means, site by site -/
def AppendPanic (r : Raft) (m : Message) (s : String) : Prop :=
  (s = "raft.send_request_snapshot.unwrap" ∧ r.pendingRequestSnapshot ≠ 0 ∧
    r.raftLog.abs.term r.raftLog.lastIndex = .err .compacted) ∨
  (s = "raft_log.maybe_append.conflict_committed" ∧ r.raftLog.committed ≤ m.index ∧
    r.raftLog.abs.matchTerm m.index m.logTerm = true ∧
    0 < r.raftLog.abs.findConflict m.entries ∧
    r.raftLog.abs.findConflict m.entries ≤ r.raftLog.committed) ∨
  (s = "raft_log.find_conflict_by_term.underflow" ∧
    ∃ t0, r.raftLog.abs.term 0 = .ok t0 ∧ m.logTerm < t0) ∨
  (s = "raft.handle_append_entries.hint_term" ∧ r.raftLog.committed ≤ m.index ∧
    r.raftLog.abs.matchTerm m.index m.logTerm = false ∧
    ∃ j, j ≤ min m.index r.raftLog.lastIndex ∧ r.raftLog.abs.term j = .err .compacted ∧
      ∀ i, j < i → i ≤ min m.index r.raftLog.lastIndex →
        ∃ t, r.raftLog.abs.term i = .ok t ∧ m.logTerm < t)

/-- **`handle_append_entries`**, for a log satisfying `RaftLogInv` and a well-formed append: the
only panics are (1) the snapshot-request reply on an empty compacted log, (2) **a conflict at or
below the commit index** (Log Matching / Leader Completeness violated by the sender), (3) the u64
underflow of the hint scan when position 0 carries a non-zero term, (4) the hint scan running into
the compacted dummy position having seen only terms above the leader's `log_term`. -/
theorem handleAppendEntries_panics_only_if (r : Raft) (m : Message) (h : r.raftLog.Inv)
    (hw : AppendWF m) (s : String) (hp : r.handleAppendEntries m = .panic s) :
    AppendPanic r m s := by
  unfold Raft.handleAppendEntries at hp
  split at hp
  · rename_i hpend
    obtain ⟨h1, h2⟩ := sendRequestSnapshot_panics_only_if r h s hp
    exact .inl ⟨h1, hpend, h2⟩
  · split at hp
    · exact absurd hp (send_nonvote_never_panics r _ s rfl rfl)
    · rename_i hidx
      have hci : r.raftLog.committed ≤ m.index := by omega
      rcases maybeAppend_cases h m.index m.logTerm m.commit m.entries hw.contig hw.terms hw.anchor
        with ⟨hm, hres⟩ | ⟨hm, l', p, hres, _⟩ | ⟨hm, h0, hle, hres⟩
      · -- reject: the hint scan
        rw [hres] at hp
        simp only [] at hp
        have hscan := fcbtLoop_spec h m.logTerm (min m.index r.raftLog.lastIndex)
        split at hp
        · rename_i s' hf
          cases hp
          unfold RaftLog.findConflictByTerm at hf
          rw [if_neg (by omega)] at hf
          rw [hf] at hscan
          exact .inr (.inr (.inl hscan))
        · rename_i e hf
          unfold RaftLog.findConflictByTerm at hf
          rw [if_neg (by omega)] at hf
          rw [hf] at hscan
          exact hscan.elim
        · rename_i j hf
          cases hp
          unfold RaftLog.findConflictByTerm at hf
          rw [if_neg (by omega)] at hf
          rw [hf] at hscan
          exact .inr (.inr (.inr ⟨rfl, hci, hm, j, hscan⟩))
        · exact absurd hp (send_nonvote_never_panics _ _ s rfl rfl)
      · rw [hres] at hp
        obtain ⟨c, li⟩ := p
        simp only [] at hp
        exact absurd hp (send_nonvote_never_panics _ _ s rfl rfl)
      · rw [hres] at hp
        cases hp
        exact .inr (.inl ⟨rfl, hci, hm, h0, hle⟩)

/-- **`handle_heartbeat`**: the only panics are "to_commit out of range" — the leader advertised a
commit index beyond what this follower holds (the leader sends `min(matched, committed)`, so
this means `matched` was wrong: finding F8 was exactly that) — and the snapshot-request reply on an
empty compacted log. -/
theorem handleHeartbeat_panics_only_if (r : Raft) (m : Message) (h : r.raftLog.Inv) (s : String)
    (hp : r.handleHeartbeat m = .panic s) :
    (s = "raft_log.commit_to.out_of_range" ∧ r.raftLog.committed < m.commit ∧
      r.raftLog.lastIndex < m.commit) ∨
    (s = "raft.send_request_snapshot.unwrap" ∧ r.pendingRequestSnapshot ≠ 0 ∧
      m.commit ≤ r.raftLog.lastIndex ∧
      r.raftLog.abs.term r.raftLog.lastIndex = .err .compacted) := by
  unfold Raft.handleHeartbeat at hp
  by_cases hle : m.commit ≤ r.raftLog.lastIndex
  · obtain ⟨hct, hinv⟩ := h.commitTo m.commit hle
    rw [hct] at hp
    simp only [] at hp
    split at hp
    · rename_i hpend
      obtain ⟨h1, h2⟩ := sendRequestSnapshot_panics_only_if _ hinv s hp
      exact .inr ⟨h1, hpend, hle, h2⟩
    · exact absurd hp (send_nonvote_never_panics _ _ s rfl rfl)
  · have hc := h.committed_le_last
    split at hp
    · rename_i s' hc'
      cases hp
      obtain ⟨h1, h2, h3⟩ := commitTo_panics_only_if _ _ _ hc'
      exact .inl ⟨h1, h2, h3⟩
    · rename_i e hc'; exact absurd hc' (commitTo_never_err _ _ _)
    · rename_i l' hc'
      unfold RaftLog.commitTo at hc'
      rw [if_neg (by omega), if_pos (by omega)] at hc'
      cases hc'

theorem maybeUpdate_panics_only_if (p : Progress) (n : Nat) (s : String)
    (h : p.maybeUpdate n = .panic s) : s = "progress.maybe_update.overflow" ∧ U64_MAX ≤ n := by
  rw [Progress.maybeUpdate_eq] at h
  by_cases hn : U64_MAX ≤ n
  · rw [if_pos hn] at h; cases h; exact ⟨rfl, hn⟩
  · rw [if_neg hn] at h; cases h

/-- on a node that is not the leader `post_conf_change` only recomputes `promotable` -/
theorem postConfChange_nonleader (r : Raft) (hs : r.state ≠ .leader) :
    r.postConfChange = .ok ({ r with promotable := Joint.contains r.prs.voters r.id },
      r.prs.conf.toConfState) :=
  postConfChange_eq hs

/-- what a panic of `restore` (the body of `handle_snapshot`) means -/
def RestorePanic (r : Raft) (snap : Snapshot) (s : String) : Prop :=
  (s = "raft.restore.overflow" ∧ r.state ≠ .follower ∧ U64_MAX ≤ r.term) ∨
  (s = "raft_log.commit_to.out_of_range" ∧ snap.metadata.term = 0 ∧
    r.raftLog.lastIndex < snap.metadata.index) ∨
  (s = "raft.restore.unable_to_restore_config" ∧
    ∃ e, r.prs.clear.restore snap.metadata.index snap.metadata.confState = .error e) ∨
  (s = "raft.restore.invalid_restore" ∨ s = "raft.restore.unwrap" ∨
    s = "raft.restore.underflow" ∨ s = "progress.maybe_update.overflow") ∧
    ∃ prs, r.prs.clear.restore snap.metadata.index snap.metadata.confState = .ok prs

theorem restore_lastIndex (l l' : RaftLog) (sn : Snapshot) (h : l.restore sn = .ok l') :
    l'.lastIndex = sn.metadata.index := by
  obtain ⟨_, rfl⟩ := RaftLog.restore_inv h
  simp [RaftLog.lastIndex, Unstable.maybeLastIndex, Unstable.restore]

/-- **`restore`** under `RaftLogInv`: besides the u64 overflow of `term + 1` on a non-follower
(`handle_snapshot` is only reached as follower), a snapshot panics the node only if it is
malformed — term 0 with an index beyond the log, or a `ConfState` that `confchange::restore`
rejects / does not reproduce / does not contain a usable progress for this node. -/
theorem restore_panics_only_if (r : Raft) (snap : Snapshot) (h : r.raftLog.Inv) (s : String)
    (hp : r.restore snap = .panic s) : RestorePanic r snap s := by
  unfold Raft.restore at hp
  dsimp only at hp
  -- a stale snapshot is ignored
  obtain ⟨hci, hp⟩ := Res.of_guard hp
  by_cases hst : r.state ≠ .follower
  · -- not a follower: the only panic is the overflow of `term + 1`
    rw [if_pos hst] at hp
    obtain ⟨hov, hp⟩ := Res.of_guard' hp
    cases hp
    exact .inl ⟨rfl, hst, hov⟩
  rw [if_neg hst] at hp
  have hfol : r.state = .follower := Classical.not_not.1 hst
  -- a snapshot whose configuration lacks this node is ignored
  obtain ⟨_, hp⟩ := Res.of_guard hp
  -- the fast-forward test never panics: it answers `matchTerm` of the logical log or `false`
  have hmt := h.matchTerm_abs snap.metadata.index snap.metadata.term
  rw [hmt] at hp
  dsimp only at hp
  have hff : ∃ b, (if r.pendingRequestSnapshot = 0 ∨ snap.metadata.index < r.pendingRequestSnapshot
        then Res.ok (r.raftLog.abs.matchTerm snap.metadata.index snap.metadata.term)
        else Res.ok false) = .ok b ∧
      (b = true → r.raftLog.abs.matchTerm snap.metadata.index snap.metadata.term = true) := by
    by_cases hreq : r.pendingRequestSnapshot = 0 ∨ snap.metadata.index < r.pendingRequestSnapshot
    · rw [if_pos hreq]; exact ⟨_, rfl, fun hb => hb⟩
    · rw [if_neg hreq]; exact ⟨false, rfl, fun hb => by cases hb⟩
  obtain ⟨b, hffe, hffm⟩ := hff
  rw [hffe] at hp
  cases b with
  | true =>
    -- fast forward: `commit_to` goes out of range only for term 0 beyond the log
    dsimp only at hp
    cases hc : r.raftLog.commitTo snap.metadata.index with
    | ok log => rw [hc] at hp; cases hp
    | err e => exact absurd hc (commitTo_never_err _ _ _)
    | panic s' =>
      rw [hc] at hp
      cases hp
      obtain ⟨h1, _, h3⟩ := commitTo_panics_only_if _ _ _ hc
      refine .inr (.inl ⟨h1, ?_, h3⟩)
      apply Classical.byContradiction
      intro hne
      have hle := r.raftLog.abs.matchTerm_le_last _ _ (hffm rfl) hne
      rw [← h.lastIndex_abs] at hle
      omega
  | false =>
    -- full restore: the log's `restore` answers (the snapshot is not stale)
    dsimp only at hp
    have hr : r.raftLog.restore snap = .ok { r.raftLog with
        persisted := if r.raftLog.committed < r.raftLog.persisted then r.raftLog.committed
          else r.raftLog.persisted,
        committed := snap.metadata.index,
        unstable := r.raftLog.unstable.restore snap } := by
      unfold RaftLog.restore
      rw [if_neg hci]
    rw [hr] at hp
    dsimp only at hp
    rw [restore_lastIndex _ _ _ hr] at hp
    cases hre : r.prs.clear.restore snap.metadata.index snap.metadata.confState with
    | error e =>
      rw [hre] at hp
      cases hp
      exact .inr (.inr (.inl ⟨rfl, e, hre⟩))
    | ok prs =>
      rw [hre] at hp
      dsimp only at hp
      refine .inr (.inr (.inr ⟨?_, prs, hre⟩))
      rw [postConfChange_nonleader _ (by show r.state ≠ .leader; rw [hfol]; intro hc; cases hc),
        Res.bind_ok] at hp
      dsimp only at hp
      -- the three checks after `post_conf_change`, then `maybe_update`
      rcases Res.ite_cases hp with ⟨_, hp⟩ | ⟨_, hp⟩
      · cases hp; exact .inl rfl
      · cases hg : prs.get r.id with
        | none => rw [hg] at hp; cases hp; exact .inr (.inl rfl)
        | some pr =>
          rw [hg] at hp
          dsimp only at hp
          rcases Res.ite_cases hp with ⟨_, hp⟩ | ⟨_, hp⟩
          · cases hp; exact .inr (.inr (.inl rfl))
          · rcases Res.bind_eq_panic hp with h1 | ⟨a, _, h2⟩
            · exact .inr (.inr (.inr (maybeUpdate_panics_only_if _ _ _ h1).1))
            · cases h2

/-- **`handle_snapshot`** panics exactly when `restore` does (the two replies are always queued) -/
theorem handleSnapshot_panics_only_if (r : Raft) (m : Message) (h : r.raftLog.Inv) (s : String)
    (hp : r.handleSnapshot m = .panic s) : RestorePanic r m.snapshot s := by
  unfold Raft.handleSnapshot at hp
  rcases Res.bind_eq_panic hp with h1 | ⟨⟨r', ok⟩, _, h2⟩
  · exact restore_panics_only_if r _ h s h1
  · simp only [] at h2
    split at h2 <;> exact absurd h2 (send_nonvote_never_panics _ _ s rfl rfl)

/-! ## 5. the vote arm of `step` -/

theorem commitTo_ok_inv {l l' : RaftLog} (h : l.Inv) (to : Nat) (hc : l.commitTo to = .ok l') :
    l'.Inv ∧ l'.lastIndex = l.lastIndex := by
  by_cases hle : to ≤ l.lastIndex
  · obtain ⟨e, hinv⟩ := h.commitTo to hle
    rw [e] at hc
    injection hc with hc
    subst hc
    exact ⟨hinv, rfl⟩
  · have := h.committed_le_last
    unfold RaftLog.commitTo at hc
    rw [if_neg (by omega), if_pos (by omega)] at hc
    cases hc

theorem maybeCommit_ok_inv {l l' : RaftLog} (h : l.Inv) (mi t : Nat) (b : Bool)
    (hc : l.maybeCommit mi t = .ok (l', b)) : l'.Inv ∧ l'.lastIndex = l.lastIndex := by
  unfold RaftLog.maybeCommit at hc
  split at hc
  · split at hc
    · split at hc
      · split at hc
        · rename_i l2 hct
          injection hc with hc
          injection hc with hc1 hc2
          subst hc1
          exact commitTo_ok_inv h mi hct
        · cases hc
        · cases hc
      · injection hc with hc; injection hc with hc1 _; subst hc1; exact ⟨h, rfl⟩
    · injection hc with hc; injection hc with hc1 _; subst hc1; exact ⟨h, rfl⟩
    · cases hc
  · injection hc with hc; injection hc with hc1 _; subst hc1; exact ⟨h, rfl⟩

/-- **`maybe_commit_by_vote`**: the commit evidence of a vote message is used only with a non-zero
term, so `commit_to` cannot go out of range; the only panic left is the `fatal!` of the
configuration-change scan a (pre-)candidate runs afterwards -/
theorem maybeCommitByVote_panics_only_if (r : Raft) (m : Message) (h : r.raftLog.Inv) (s : String)
    (hp : r.maybeCommitByVote m = .panic s) :
    s = "raft.has_unapplied_conf_changes.scan_error" ∧
      (r.state = .candidate ∨ r.state = .preCandidate) := by
  unfold Raft.maybeCommitByVote at hp
  obtain ⟨h0, hp⟩ := Res.of_guard hp
  dsimp only at hp
  obtain ⟨_, hp⟩ := Res.of_guard hp
  cases hmc : r.raftLog.maybeCommit m.commit m.commitTerm with
  | panic s' =>
    obtain ⟨_, h2, _⟩ := maybeCommit_panics_only_if h _ _ _ hmc
    omega
  | err e => rw [hmc] at hp; cases hp
  | ok x =>
    obtain ⟨log, b⟩ := x
    rw [hmc] at hp
    cases b with
    | false => cases hp
    | true =>
      obtain ⟨hinv, hli⟩ := maybeCommit_ok_inv h _ _ _ hmc
      dsimp only at hp
      obtain ⟨hst, hp⟩ := Res.of_guard hp
      cases hu : ({ r with raftLog := log } : Raft).hasUnappliedConfChanges (r.raftLog.committed + 1)
          (log.committed + 1) with
      | panic s' =>
        rw [hu] at hp
        cases hp
        have hcl := hinv.committed_le_last
        obtain ⟨h1, _⟩ := hasUnappliedConfChanges_panics_only_if
          ({ r with raftLog := log } : Raft) hinv _ _
          (by show log.committed + 1 ≤ log.lastIndex + 1; omega) s hu
        refine ⟨h1, ?_⟩
        cases hs : r.state with
        | candidate => exact .inl rfl
        | preCandidate => exact .inr rfl
        | follower => exact absurd ⟨by rw [hs]; nofun, by rw [hs]; nofun⟩ hst
        | leader => exact absurd ⟨by rw [hs]; nofun, by rw [hs]; nofun⟩ hst
      | err e => rw [hu] at hp; cases hp
      | ok c => rw [hu] at hp; cases c <;> cases hp

theorem isUpToDate_panics_only_if {l : RaftLog} (h : l.Inv) (i t : Nat) (s : String)
    (hp : l.isUpToDate i t = .panic s) :
    s = "raft_log.last_term.error" ∧ l.abs.term l.lastIndex = .err .compacted := by
  unfold RaftLog.isUpToDate at hp
  split at hp
  · cases hp
  · cases hp
  · rename_i s' hl; cases hp; exact lastTerm_panics_only_if h s hl

theorem isUpToDate_never_err (l : RaftLog) (i t : Nat) (e : StorageError) :
    l.isUpToDate i t ≠ .err e := by
  intro hp
  unfold RaftLog.isUpToDate at hp
  split at hp
  · cases hp
  · rename_i e' hl; exact lastTerm_never_err l e' hl
  · cases hp

theorem voteRespMsgType_isVote (t rt : MsgType) (h : voteRespMsgType t = some rt) :
    isVoteMsg rt = true ∧ (rt = .msgRequestPreVoteResponse ↔ t = .msgRequestPreVote) ∧
      (t = .msgRequestVote ∨ t = .msgRequestPreVote) := by
  cases t <;> simp [voteRespMsgType] at h <;> subst h <;> simp [isVoteMsg]

/-- what a panic of the `MsgRequestVote | MsgRequestPreVote` arm means -/
def VotePanic (r : Raft) (m : Message) (s : String) : Prop :=
  (s = "raft.vote_resp_msg_type" ∧ voteRespMsgType m.msgType = none) ∨
  (s = "raft_log.last_term.error" ∧
    r.raftLog.abs.term r.raftLog.lastIndex = .err .compacted) ∨
  (s = "raft.send.term_not_set" ∧ m.term = 0) ∨
  (s = "raft.send.term_not_set" ∧ r.term = 0 ∧ m.msgType = .msgRequestVote) ∨
  (s = "raft_log.commit_info.missing" ∧
    r.raftLog.abs.term r.raftLog.committed = .err .compacted) ∨
  (s = "raft.has_unapplied_conf_changes.scan_error" ∧
    (r.state = .candidate ∨ r.state = .preCandidate))

/-- **the vote arm** under `RaftLogInv`: a (pre-)vote request panics the node only if it carries
term 0 (granted) or the node itself is still at term 0 and rejects a real vote request — both are
the "term should be set" `fatal!` of `send` —, if the term of the last / commit index was compacted
away, or in the configuration-change scan of a (pre-)candidate that adopts the sender's commit. -/
theorem stepVote_panics_only_if (r : Raft) (m : Message) (h : r.raftLog.Inv) (s : String)
    (hp : r.stepVote m = .panic s) : VotePanic r m s := by
  unfold Raft.stepVote at hp
  split at hp
  · rename_i hv; cases hp; exact .inl ⟨rfl, hv⟩
  · rename_i rt hv
    obtain ⟨hiv, hpre, _⟩ := voteRespMsgType_isVote _ _ hv
    split at hp
    · -- grant
      unfold Raft.stepVoteGrant at hp
      split at hp
      · split at hp <;> cases hp
      · cases hp
      · rename_i s' hs
        cases hp
        rcases send_panics_only_if r _ s hs with ⟨h1, _, h3, _⟩ | ⟨_, h2, _⟩
        · exact .inr (.inr (.inl ⟨h1, h3⟩))
        · simp only [] at h2; rw [hiv] at h2; cases h2
    · -- reject
      unfold Raft.stepVoteReject at hp
      split at hp
      · rename_i s' hci
        cases hp
        obtain ⟨h1, h2⟩ := commitInfo_panics_only_if h s hci
        exact .inr (.inr (.inr (.inr (.inl ⟨h1, h2⟩))))
      · rename_i e hci; exact absurd hci (commitInfo_never_err _ _)
      · split at hp
        · rename_i r1 hs
          have hr1 := send_eq r r1 _ hs
          split at hp
          · have hinv1 : r1.raftLog.Inv := by rw [hr1]; exact h
            obtain ⟨h1, h2⟩ := maybeCommitByVote_panics_only_if r1 m hinv1 s hp
            refine .inr (.inr (.inr (.inr (.inr ⟨h1, ?_⟩))))
            rw [hr1] at h2; exact h2
          · cases hp
        · cases hp
        · rename_i s' hs
          cases hp
          rcases send_panics_only_if r _ s hs with ⟨h1, _, h3, h4⟩ | ⟨_, h2, _⟩
          · refine .inr (.inr (.inr (.inl ⟨h1, h3, ?_⟩)))
            simp only [] at h4
            rcases (voteRespMsgType_isVote _ _ hv).2.2 with ht | ht
            · exact ht
            · exact absurd ⟨hpre.2 ht, trivial⟩ h4
          · simp only [] at h2; rw [hiv] at h2; cases h2
    · cases hp
    · rename_i s' hvg
      cases hp
      unfold Raft.voteGranted at hvg
      split at hvg
      · split at hvg
        · cases hvg
        · rename_i e hu; exact absurd hu (isUpToDate_never_err _ _ _ _)
        · rename_i s' hu
          cases hvg
          obtain ⟨h1, h2⟩ := isUpToDate_panics_only_if h _ _ _ hu
          exact .inr (.inl ⟨h1, h2⟩)
      · cases hvg

/-! ## 6. `step_follower` -/

/-- what a panic of `handle_heartbeat` means -/
def HeartbeatPanic (r : Raft) (m : Message) (s : String) : Prop :=
  (s = "raft_log.commit_to.out_of_range" ∧ r.raftLog.committed < m.commit ∧
    r.raftLog.lastIndex < m.commit) ∨
  (s = "raft.send_request_snapshot.unwrap" ∧ r.pendingRequestSnapshot ≠ 0 ∧
    m.commit ≤ r.raftLog.lastIndex ∧
    r.raftLog.abs.term r.raftLog.lastIndex = .err .compacted)

/-- what a panic of `step_follower` means, per message type; the campaign started by
`MsgTimeoutNow` is left as the panic of `hup` (not characterised here) -/
def FollowerPanic (r : Raft) (m : Message) (s : String) : Prop :=
  (m.msgType = .msgAppend ∧ AppendPanic r m s) ∨
  (m.msgType = .msgHeartbeat ∧ HeartbeatPanic r m s) ∨
  (m.msgType = .msgSnapshot ∧ RestorePanic r m.snapshot s) ∨
  ((m.msgType = .msgPropose ∨ m.msgType = .msgTransferLeader ∨ m.msgType = .msgReadIndex) ∧
    s = "raft.send.term_set" ∧ m.term ≠ 0 ∧ r.leaderId ≠ 0) ∨
  (m.msgType = .msgReadIndexResp ∧ s = "raft_log.commit_to.out_of_range" ∧ m.term = 0 ∧
    r.raftLog.lastIndex < m.index) ∨
  (m.msgType = .msgTimeoutNow ∧ r.promotable = true ∧ r.hup true = .panic s)

theorem forward_panics_only_if (r : Raft) (m : Message) (s : String)
    (hv : isVoteMsg m.msgType = false)
    (hp : (r.send { m with to := r.leaderId }).bind (fun r => Res.ok (r, (none : Option RaftError))) = .panic s) :
    s = "raft.send.term_set" ∧ m.term ≠ 0 := by
  rcases Res.bind_eq_panic hp with h1 | ⟨a, _, h2⟩
  · rcases send_panics_only_if r _ s h1 with ⟨_, h2, _⟩ | ⟨h1, _, h3⟩
    · simp only [] at h2; rw [hv] at h2; cases h2
    · exact ⟨h1, h3⟩
  · cases h2

/-- **`step_follower`** under `RaftLogInv`, for a well-formed `MsgAppend` -/
theorem stepFollower_panics_only_if (r : Raft) (m : Message) (h : r.raftLog.Inv)
    (hw : m.msgType = .msgAppend → AppendWF m) (s : String)
    (hp : r.stepFollower m = .panic s) : FollowerPanic r m s := by
  unfold Raft.stepFollower at hp
  split at hp
  · -- MsgPropose
    rename_i hm
    split at hp
    · cases hp
    · rename_i hl
      split at hp
      · cases hp
      · obtain ⟨h1, h2⟩ := forward_panics_only_if r m s (by rw [hm]; rfl) hp
        exact .inr (.inr (.inr (.inl ⟨.inl hm, h1, h2, hl⟩)))
  · -- MsgAppend
    rename_i hm
    rcases Res.bind_eq_panic hp with h1 | ⟨a, _, h2⟩
    · have := handleAppendEntries_panics_only_if _ m (by exact h) (hw hm) s h1
      exact .inl ⟨hm, this⟩
    · cases h2
  · -- MsgHeartbeat
    rename_i hm
    rcases Res.bind_eq_panic hp with h1 | ⟨a, _, h2⟩
    · have := handleHeartbeat_panics_only_if _ m (by exact h) s h1
      exact .inr (.inl ⟨hm, this⟩)
    · cases h2
  · -- MsgSnapshot
    rename_i hm
    rcases Res.bind_eq_panic hp with h1 | ⟨a, _, h2⟩
    · have := handleSnapshot_panics_only_if _ m (by exact h) s h1
      exact .inr (.inr (.inl ⟨hm, this⟩))
    · cases h2
  · -- MsgTransferLeader
    rename_i hm
    split at hp
    · cases hp
    · rename_i hl
      obtain ⟨h1, h2⟩ := forward_panics_only_if r m s (by rw [hm]; rfl) hp
      exact .inr (.inr (.inr (.inl ⟨.inr (.inl hm), h1, h2, hl⟩)))
  · -- MsgTimeoutNow
    rename_i hm
    split at hp
    · rename_i hpr
      rcases Res.bind_eq_panic hp with h1 | ⟨a, _, h2⟩
      · exact .inr (.inr (.inr (.inr (.inr ⟨hm, hpr, h1⟩))))
      · cases h2
    · cases hp
  · -- MsgReadIndex
    rename_i hm
    split at hp
    · cases hp
    · rename_i hl
      obtain ⟨h1, h2⟩ := forward_panics_only_if r m s (by rw [hm]; rfl) hp
      exact .inr (.inr (.inr (.inl ⟨.inr (.inr hm), h1, h2, hl⟩)))
  · -- MsgReadIndexResp
    rename_i hm
    split at hp
    · simp only [] at hp
      split at hp
      · cases hp
      · cases hp
      · rename_i s' hmc
        cases hp
        obtain ⟨h1, h2, h3⟩ := maybeCommit_panics_only_if (l := r.raftLog) h _ _ _ hmc
        exact .inr (.inr (.inr (.inr (.inl ⟨hm, h1, h2, h3⟩))))
    · cases hp
  · cases hp

/-! ## 7. the leader's send path (`maybe_send_append`, `bcast_append`, `bcast_heartbeat`) -/

/-- outcome specification: a successful result satisfies `Q`, a panic site lies in `L` -/
def ResSpec {α : Type} (x : Res α) (Q : α → Prop) (L : List String) : Prop :=
  match x with
  | .ok a => Q a
  | .err _ => True
  | .panic s => s ∈ L

theorem ResSpec.bind {α β : Type} {x : Res α} {f : α → Res β} {Q : α → Prop} {Q' : β → Prop}
    {L : List String} (hx : ResSpec x Q L) (hf : ∀ a, Q a → ResSpec (f a) Q' L) :
    ResSpec (x.bind f) Q' L := by
  cases x with
  | ok a => exact hf a hx
  | err e => trivial
  | panic s => exact hx

theorem ResSpec.panic_mem {α : Type} {x : Res α} {Q : α → Prop} {L : List String} {s : String}
    (h : ResSpec x Q L) (hp : x = .panic s) : s ∈ L := by rw [hp] at h; exact h

theorem ResSpec.ok_prop {α : Type} {x : Res α} {Q : α → Prop} {L : List String} {a : α}
    (h : ResSpec x Q L) (hp : x = .ok a) : Q a := by rw [hp] at h; exact h

theorem ResSpec.mono {α : Type} {x : Res α} {Q Q' : α → Prop} {L L' : List String}
    (h : ResSpec x Q L) (hq : ∀ a, Q a → Q' a) (hl : ∀ s, s ∈ L → s ∈ L') : ResSpec x Q' L' := by
  cases x with
  | ok a => exact hq a h
  | err e => trivial
  | panic s => exact hl s h

/-- the panic sites left on the leader's send path once `RaftLogInv` holds: the `next_idx - 1`
underflow, an empty snapshot from the storage, the storage's own `snapshot()` index sites
(its `hard_state.commit` must lie inside its entries), and the progress / in-flight window sites
(`RaftProps.C18` shows the window sites unreachable under the window invariant) -/
def sendAppendSites : List String :=
  ["raft.maybe_send_append.underflow", "raft.prepare_send_snapshot.empty_snapshot",
   "storage.snapshot.index", "storage.snapshot.underflow", "storage.snapshot.commit_lt_snapshot",
   "progress.optimistic_update.overflow", "progress.update_state.snapshot",
   "inflights.add.full", "inflights.add.debug_assert", "inflights.add.assert_next"]

theorem snapshotCore_spec (st : MemStorage) :
    (∀ s, st.snapshotCore = .panic s → s ∈ sendAppendSites) ∧ ∀ e, st.snapshotCore ≠ .err e := by
  unfold MemStorage.snapshotCore
  simp only []
  constructor
  · intro s hp
    split at hp
    · cases hp
    · split at hp
      · split at hp
        · cases hp; simp [sendAppendSites]
        · split at hp
          · cases hp; simp [sendAppendSites]
          · split at hp
            · cases hp; simp [sendAppendSites]
            · cases hp
      · cases hp; simp [sendAppendSites]
  · intro e hp
    split at hp
    · cases hp
    · split at hp
      · split at hp
        · cases hp
        · split at hp
          · cases hp
          · split at hp <;> cases hp
      · cases hp

theorem storeSnapshot_spec (st : MemStorage) (ri : Nat) :
    ((st.snapshot ri).1 = st ∨ (st.snapshot ri).1 = { st with triggerSnapUnavailable := false }) ∧
    (∀ s, (st.snapshot ri).2 = .panic s → s ∈ sendAppendSites) ∧
    (∀ e, (st.snapshot ri).2 = .err e → e = .snapshotTemporarilyUnavailable) := by
  unfold MemStorage.snapshot
  split
  · exact ⟨.inr rfl, fun s h => (by cases h), fun e h => (by cases h; rfl)⟩
  · split
    · exact ⟨.inl rfl, fun s h => (by cases h), fun e h => (by cases h)⟩
    · rename_i e he; exact absurd he ((snapshotCore_spec st).2 e)
    · rename_i p hp
      exact ⟨.inl rfl, fun s h => (by cases h; exact (snapshotCore_spec st).1 _ hp),
        fun e h => (by cases h)⟩

theorem Inv_store_trigger {l : RaftLog} (h : l.Inv) (b : Bool) :
    RaftLog.Inv { l with store := { l.store with triggerSnapUnavailable := b } } :=
  ⟨⟨h.storeWF.contig, h.storeWF.snap_lt⟩, h.unstWF, h.first_le_off, h.off_le_last, h.ents_empty,
    h.dummy_le_committed, h.committed_le_last, h.persisted_lt_off, h.persisted_le_store⟩

theorem logSnapshot_spec {l : RaftLog} (h : l.Inv) (ri : Nat) :
    (l.snapshot ri).1.Inv ∧
    (∀ s, (l.snapshot ri).2 = .panic s → s ∈ sendAppendSites) ∧
    (∀ e, (l.snapshot ri).2 = .err e → e = .snapshotTemporarilyUnavailable) := by
  have hst := storeSnapshot_spec l.store ri
  have key : (({ l with store := (l.store.snapshot ri).1 } : RaftLog)).Inv := by
    rcases hst.1 with h1 | h1
    · rw [h1]; exact h
    · rw [h1]; exact Inv_store_trigger h false
  unfold RaftLog.snapshot
  split
  · split
    · exact ⟨h, fun s hp => (by cases hp), fun e hp => (by cases hp)⟩
    · exact ⟨key, hst.2.1, hst.2.2⟩
  · exact ⟨key, hst.2.1, hst.2.2⟩

/-- `prepare_send_snapshot` -/
theorem prepareSendSnapshot_spec (r : Raft) (m : Message) (pr : Progress) (to : Nat)
    (h : r.raftLog.Inv) (hv : isVoteMsg m.msgType = false) :
    ResSpec (r.prepareSendSnapshot m pr to)
      (fun x => x.1.raftLog.Inv ∧ isVoteMsg x.2.1.msgType = false ∧ x.2.1.term = m.term)
      sendAppendSites := by
  unfold Raft.prepareSendSnapshot
  split
  · exact ⟨h, hv, rfl⟩
  · simp only []
    obtain ⟨hinv, hpan, herr⟩ := logSnapshot_spec h pr.pendingRequestSnapshot
    split
    · exact ⟨hinv, rfl, rfl⟩
    · rename_i e hne he
      exact absurd (herr e he) hne
    · rename_i s hs; exact hpan s hs
    · split
      · show _ ∈ sendAppendSites; simp [sendAppendSites]
      · exact ⟨hinv, rfl, rfl⟩

theorem inflightsAdd_sites (w : Inflights) (x : Nat) (e : String) (h : w.add x = .error e) :
    e ∈ sendAppendSites := by
  unfold Inflights.add at h
  rcases ite_eq_iff_or.1 h with ⟨_, h⟩ | ⟨_, h⟩
  · cases h; simp [sendAppendSites]
  rcases ite_eq_iff_or.1 h with ⟨_, h⟩ | ⟨_, h⟩
  · cases h; simp [sendAppendSites]
  rcases ite_eq_iff_or.1 h with ⟨_, h⟩ | ⟨_, h⟩
  · cases h; simp [sendAppendSites]
  · cases h

theorem updateState_spec (pr : Progress) (last : Nat) :
    ResSpec (pr.updateState last) (fun _ => True) sendAppendSites := by
  unfold Progress.updateState
  split
  · split
    · show _ ∈ sendAppendSites; simp [sendAppendSites]
    · split
      · trivial
      · rename_i e he
        exact inflightsAdd_sites _ _ e he
  · trivial
  · show _ ∈ sendAppendSites; simp [sendAppendSites]

theorem tryBatchingLoop_spec (c to : Nat) (pr : Progress) (ents : List Entry) :
    ∀ msgs, ResSpec (Raft.tryBatchingLoop c to pr ents msgs)
      (fun x => x.2.2 = false → x.2.1 = pr) sendAppendSites := by
  intro msgs
  induction msgs with
  | nil => intro _; rfl
  | cons msg rest ih =>
    simp only [Raft.tryBatchingLoop]
    split
    · split
      · rename_i hne
        split
        · intro _; rfl
        · try simp only []
          split
          · rename_i hl
            exfalso
            rw [List.getLast?_eq_none_iff] at hl
            have : ents = [] := (List.append_eq_nil_iff.1 hl).2
            simp [this] at hne
          · have hu := updateState_spec pr (by assumption : Entry).index
            split
            · intro hc; cases hc
            · trivial
            · rename_i heq; exact hu.panic_mem heq
      · intro hc; cases hc
    · split
      · rename_i rest' pr' b heq
        have := ih.ok_prop heq
        exact this
      · trivial
      · rename_i heq; exact ih.panic_mem heq

theorem tryBatching_spec (r : Raft) (to : Nat) (pr : Progress) (ents : List Entry) :
    ResSpec (r.tryBatching to pr ents)
      (fun x => x.1.raftLog = r.raftLog ∧ (x.2.2 = false → x.2.1 = pr)) sendAppendSites := by
  unfold Raft.tryBatching
  have hl := tryBatchingLoop_spec r.raftLog.committed to pr ents r.msgs
  split
  · rename_i heq; exact ⟨rfl, hl.ok_prop heq⟩
  · trivial
  · rename_i heq; exact hl.panic_mem heq

theorem prepareSendEntries_spec (r : Raft) (m : Message) (pr : Progress) (term : Nat)
    (ents : List Entry) (hn : pr.nextIdx ≠ 0) :
    ResSpec (r.prepareSendEntries m pr term ents)
      (fun x => x.1.msgType = .msgAppend ∧ x.1.term = m.term) sendAppendSites := by
  unfold Raft.prepareSendEntries
  rw [if_neg hn]
  simp only []
  split
  · exact ⟨rfl, rfl⟩
  · rename_i last _
    have hu := updateState_spec pr last.index
    split
    · exact ⟨rfl, rfl⟩
    · trivial
    · rename_i heq; exact hu.panic_mem heq

/-- the snapshot arm of `maybe_send_append`: the prepared `MsgSnapshot` is always queued -/
theorem sendSnapshotTo_spec (r : Raft) (to : Nat) (pr : Progress) (h : r.raftLog.Inv) :
    ResSpec (r.sendSnapshotTo to pr) (fun x => x.1.raftLog.Inv) sendAppendSites := by
  have hs := prepareSendSnapshot_spec r { to := to } pr to h rfl
  unfold Raft.sendSnapshotTo
  split
  · rename_i r' m' pr' heq
    obtain ⟨hi, hv, ht⟩ := hs.ok_prop heq
    rw [send_nonvote_ok r' m' hv ht]
    exact hi
  · rename_i heq; exact (hs.ok_prop heq).1
  · trivial
  · rename_i heq; exact hs.panic_mem heq

/-- the entries arm: `try_batching` leaves the log alone, `prepare_send_entries` builds a `MsgAppend`
without a term, which is always queued -/
theorem sendEntriesTo_spec (r : Raft) (to : Nat) (pr : Progress) (term : Nat) (ents : List Entry)
    (h : r.raftLog.Inv) (hn : pr.nextIdx ≠ 0) :
    ResSpec (r.sendEntriesTo to pr term ents) (fun x => x.1.raftLog.Inv) sendAppendSites := by
  have hb : ResSpec (if r.batchAppend = true then r.tryBatching to pr ents
        else Res.ok (r, pr, false))
      (fun x => x.1.raftLog = r.raftLog ∧ (x.2.2 = false → x.2.1 = pr)) sendAppendSites := by
    split
    · exact tryBatching_spec r to pr ents
    · exact ⟨rfl, fun _ => rfl⟩
  unfold Raft.sendEntriesTo
  split
  · rename_i heq
    show RaftLog.Inv _
    rw [(hb.ok_prop heq).1]; exact h
  · rename_i r' pr' heq
    obtain ⟨hl, hpr⟩ := hb.ok_prop heq
    have hpr' : pr' = pr := hpr rfl
    subst hpr'
    have he := prepareSendEntries_spec r' { to := to } pr' term ents hn
    split
    · rename_i m' pr2 heq2
      obtain ⟨hv, ht⟩ := he.ok_prop heq2
      rw [send_nonvote_ok r' m' (by rw [hv]; rfl) ht]
      show RaftLog.Inv r'.raftLog
      rw [hl]; exact h
    · trivial
    · rename_i heq2; exact he.panic_mem heq2
  · trivial
  · rename_i heq; exact hb.panic_mem heq

/-- **`maybe_send_append`** under `RaftLogInv`: keeps the invariant, panics only at `sendAppendSites`
(no `RaftLog` read site, no `send` site) -/
theorem maybeSendAppend_spec (r : Raft) (to : Nat) (pr : Progress) (ae : Bool)
    (h : r.raftLog.Inv) :
    ResSpec (r.maybeSendAppend to pr ae) (fun x => x.1.raftLog.Inv) sendAppendSites := by
  have hc := maybeSendAppend_case r to pr ae
  generalize r.maybeSendAppend to pr ae = res at hc ⊢
  cases hc with
  | paused | idle | fetching => exact h
  | requested _ _ hs | fallback _ _ _ _ hs => rw [hs]; exact sendSnapshotTo_spec r to pr h
  | entries _ _ hn _ _ _ hs => rw [hs]; exact sendEntriesTo_spec r to pr _ _ h hn
  | readPanic _ _ he => exact absurd he (entries_never_panics h _ _ _ _)
  | termPanic _ _ _ ht => exact absurd ht (term_never_panics h _ _)
  | underflow => show _ ∈ sendAppendSites; simp [sendAppendSites]

/-- `send_append(to)`, `send_append_aggressively(to)` add their `unwrap` of the progress; the
fuel site is an artefact of the model's bounded `while` loop -/
def leaderSendSites : List String :=
  sendAppendSites ++ ["raft.send_append.unwrap", "raft.send_append_aggressively.unwrap",
    "model.send_append_aggressively.fuel"]

theorem sendAppendSites_sub (s : String) (h : s ∈ sendAppendSites) : s ∈ leaderSendSites :=
  List.mem_append_left _ h

theorem sendAppendPr_spec (r : Raft) (to : Nat) (pr : Progress) (h : r.raftLog.Inv) :
    ResSpec (r.sendAppendPr to pr) (fun x => x.1.raftLog.Inv) sendAppendSites := by
  unfold Raft.sendAppendPr
  exact (maybeSendAppend_spec r to pr true h).bind (fun a ha => ha)

theorem sendAppendAggressivelyPr_spec : ∀ (fuel : Nat) (r : Raft) (to : Nat) (pr : Progress),
    r.raftLog.Inv →
    ResSpec (Raft.sendAppendAggressivelyPr fuel r to pr) (fun x => x.1.raftLog.Inv)
      leaderSendSites := by
  intro fuel
  induction fuel with
  | zero => intro r to pr _; show _ ∈ leaderSendSites; simp [leaderSendSites]
  | succ n ih =>
    intro r to pr h
    simp only [Raft.sendAppendAggressivelyPr]
    have hm := maybeSendAppend_spec r to pr false h
    split
    · rename_i heq; exact ih _ _ _ (hm.ok_prop heq)
    · rename_i heq; exact hm.ok_prop heq
    · trivial
    · rename_i heq; exact sendAppendSites_sub _ (hm.panic_mem heq)

theorem sendAppend_spec (r : Raft) (to : Nat) (h : r.raftLog.Inv) :
    ResSpec (r.sendAppend to) (fun x => x.raftLog.Inv) leaderSendSites := by
  unfold Raft.sendAppend
  split
  · show _ ∈ leaderSendSites; simp [leaderSendSites]
  · exact ((sendAppendPr_spec r to _ h).mono (fun _ ha => ha) sendAppendSites_sub).bind
      (fun a ha => ha)

theorem sendAppendAggressively_spec (r : Raft) (to : Nat) (h : r.raftLog.Inv) :
    ResSpec (r.sendAppendAggressively to) (fun x => x.raftLog.Inv) leaderSendSites := by
  unfold Raft.sendAppendAggressively
  split
  · show _ ∈ leaderSendSites; simp [leaderSendSites]
  · exact (sendAppendAggressivelyPr_spec _ r to _ h).bind (fun a ha => ha)

/-- the per-peer loop: an invariant `I` that does not depend on `prs` and a site list `L` that hold
for the body hold for the loop -/
theorem forEachPeer_spec (I : Raft → Prop) (L : List String)
    (f : Raft → Nat → Progress → Res (Raft × Progress))
    (hI : ∀ (r : Raft) (prs : ProgressTracker), I r → I { r with prs := prs })
    (hf : ∀ r id pr, I r → ResSpec (f r id pr) (fun x => I x.1) L) (r : Raft) (h : I r) :
    ResSpec (r.forEachPeer f) I L := by
  unfold Raft.forEachPeer
  have hacc : ResSpec (Res.ok r) I L := h
  generalize Res.ok r = acc at hacc
  generalize r.prs.progress.map (·.1) = ids
  induction ids generalizing acc with
  | nil => exact hacc
  | cons id rest ih =>
    simp only [List.foldl]
    apply ih
    apply hacc.bind
    intro r1 h1
    split
    · exact h1
    · split
      · exact h1
      · exact (hf r1 id _ h1).bind (fun a ha => hI _ _ ha)

/-- **`bcast_append`** under `RaftLogInv` -/
theorem bcastAppend_spec (r : Raft) (h : r.raftLog.Inv) :
    ResSpec r.bcastAppend (fun x => x.raftLog.Inv) sendAppendSites := by
  unfold Raft.bcastAppend
  exact forEachPeer_spec (fun r => r.raftLog.Inv) _ _ (fun _ _ hr => hr)
    (fun r id pr hr => sendAppendPr_spec r id pr hr) r h

/-- **`bcast_heartbeat` never panics** (any state, any context) and leaves the log alone -/
theorem bcastHeartbeatWithCtx_spec (r : Raft) (ctx : Option Bytes) (I : RaftLog → Prop)
    (h : I r.raftLog) : ResSpec (r.bcastHeartbeatWithCtx ctx) (fun x => I x.raftLog) [] := by
  unfold Raft.bcastHeartbeatWithCtx
  apply forEachPeer_spec (fun r => I r.raftLog) _ _ (fun _ _ hr => hr) _ r h
  intro r id pr hr
  unfold Raft.sendHeartbeat
  rw [send_nonvote_ok r _ rfl rfl]
  exact hr

theorem bcastHeartbeat_never_panics (r : Raft) (s : String) : r.bcastHeartbeat ≠ .panic s := by
  intro hp
  have := (bcastHeartbeatWithCtx_spec r r.readOnly.lastPendingRequestCtx (fun _ => True)
    trivial).panic_mem hp
  cases this

/-! ## 8. the easy arms of `step_leader` -/

/-- the leader's `MsgBeat`, `MsgCheckQuorum`, `MsgSnapStatus`, `MsgUnreachable` arms never panic, and
neither does any message type `step_leader` ignores -/
theorem stepLeader_local_never_panics (r : Raft) (m : Message) (s : String)
    (hm : m.msgType = .msgBeat ∨ m.msgType = .msgCheckQuorum ∨ m.msgType = .msgSnapStatus ∨
      m.msgType = .msgUnreachable ∨ m.msgType = .msgAppend ∨ m.msgType = .msgHeartbeat ∨
      m.msgType = .msgSnapshot ∨ m.msgType = .msgRequestVoteResponse ∨
      m.msgType = .msgRequestPreVoteResponse ∨ m.msgType = .msgTimeoutNow ∨
      m.msgType = .msgReadIndexResp ∨ m.msgType = .msgHup) :
    r.stepLeader m ≠ .panic s := by
  intro hp
  unfold Raft.stepLeader at hp
  rcases hm with hm | hm | hm | hm | hm | hm | hm | hm | hm | hm | hm | hm <;> rw [hm] at hp <;>
    simp only [] at hp
  · rcases Res.bind_eq_panic hp with h1 | ⟨a, _, h2⟩
    · exact bcastHeartbeat_never_panics r s h1
    · cases h2
  · split at hp <;> cases hp
  all_goals cases hp

/-- `MsgPropose` at the leader: an empty proposal is the `fatal!` of raft.rs:2097 (`RawNode::propose`
always wraps one entry; only a forged forward can be empty); otherwise the entries are appended at
`last_index + 1` and broadcast -/
theorem stepLeader_propose_empty (r : Raft) (m : Message) (hm : m.msgType = .msgPropose)
    (he : m.entries = []) : r.stepLeader m = .panic "raft.step_leader.empty_propose" := by
  unfold Raft.stepLeader
  rw [hm]
  simp [he]

/-! ## 9. the node invariant and the summary -/

/-- the node-level facts the remaining sites depend on -/
structure NodeOk (r : Raft) : Prop where
  /-- the representation invariant of the log (C14) -/
  logInv : RaftProps.C14.RaftLogInv r.raftLog
  /-- the term of the commit index is known (what `commit_info` needs): storage compaction stays
  below the commit index or keeps the term of the dummy position -/
  commitTermKnown : ∃ t, r.raftLog.abs.term r.raftLog.committed = .ok t
  /-- the term of the last index is known (`last_term`) -/
  lastTermKnown : ∃ t, r.raftLog.abs.term r.raftLog.lastIndex = .ok t
  /-- position 0, if it is still the dummy position, carries term 0 -/
  zeroTerm : ∀ t0, r.raftLog.abs.term 0 = .ok t0 → t0 = 0

theorem becomeFollower_raftLog (r : Raft) (t l : Nat) :
    (r.becomeFollower t l).raftLog = { r.raftLog with maxApplyUnpersistedLogLimit := 0 } := by
  unfold Raft.becomeFollower
  rw [reset_eq]

theorem becomeFollower_state (r : Raft) (t l : Nat) : (r.becomeFollower t l).state = .follower := by
  unfold Raft.becomeFollower; rfl

theorem Inv_limit {l : RaftLog} (h : l.Inv) (n : Nat) :
    RaftLog.Inv { l with maxApplyUnpersistedLogLimit := n } :=
  ⟨h.storeWF, h.unstWF, h.first_le_off, h.off_le_last, h.ents_empty,
    h.dummy_le_committed, h.committed_le_last, h.persisted_lt_off, h.persisted_le_store⟩

/-- `become_follower` keeps `NodeOk` (it does not touch the log) -/
theorem NodeOk.becomeFollower {r : Raft} (h : NodeOk r) (t l : Nat) :
    NodeOk (r.becomeFollower t l) := by
  have hl := becomeFollower_raftLog r t l
  constructor
  · show RaftLog.Inv _; rw [hl]; exact Inv_limit h.logInv 0
  · rw [hl]; exact h.commitTermKnown
  · rw [hl]; exact h.lastTermKnown
  · rw [hl]; exact h.zeroTerm

/-- where the dispatch of `step` starts from: the state itself, or the state after the
`become_follower` of a higher-term message -/
theorem stepTerm_ok_cases (r r1 : Raft) (m : Message) (h : r.stepTerm m = .ok (r1, true)) :
    r1 = r ∨ (r.term < m.term ∧ ∃ l, r1 = r.becomeFollower m.term l) := by
  rcases stepTerm_passed h with c | ⟨hlt, _, _, l, c⟩
  · exact .inl c
  · exact .inr ⟨hlt, l, c⟩

/-- the panic cases of the role dispatch -/
def DispatchPanic (r1 : Raft) (m : Message) (s : String) : Prop :=
  (m.msgType = .msgHup ∧ r1.hup false = .panic s) ∨
  ((m.msgType = .msgRequestVote ∨ m.msgType = .msgRequestPreVote) ∧ VotePanic r1 m s) ∨
  (r1.state = .follower ∧ FollowerPanic r1 m s) ∨
  ((r1.state = .candidate ∨ r1.state = .preCandidate) ∧ r1.stepCandidate m = .panic s) ∨
  (r1.state = .leader ∧ r1.stepLeader m = .panic s)

/-- **Summary: `Raft::step` panics only if …**  For a node satisfying `NodeOk` and any message
(appends well-formed): the term preamble never panics; the dispatch runs on `r1 = r` or on
`r1 = become_follower(m.term, _)` of a higher-term message, `r1` satisfies `NodeOk` again, and the
panic is one of: the campaign of `MsgHup` (the panic of `hup`, not characterised), the vote arm
(`VotePanic`), `step_follower` (`FollowerPanic`, every site tied to a condition on the message and
the log), `step_candidate`,
`step_leader` (characterised by the theorems of §7, §8, §10). -/
theorem C20_step_panics_only_if (r : Raft) (m : Message) (s : String) (hn : NodeOk r)
    (hw : m.msgType = .msgAppend → AppendWF m) (hp : r.step m = .panic s) :
    ∃ r1, NodeOk r1 ∧ (r1 = r ∨ (r.term < m.term ∧ ∃ l, r1 = r.becomeFollower m.term l)) ∧
      DispatchPanic r1 m s := by
  unfold Raft.step at hp
  split at hp
  · rename_i s' ht; exact absurd ht (stepTerm_never_panics r m s')
  · cases hp
  · cases hp
  · rename_i r1 ht
    have hc := stepTerm_ok_cases r r1 m ht
    have hn1 : NodeOk r1 := by
      rcases hc with h1 | ⟨_, l, h1⟩
      · rw [h1]; exact hn
      · rw [h1]; exact hn.becomeFollower _ _
    refine ⟨r1, hn1, hc, ?_⟩
    split at hp
    · rename_i hm
      rcases Res.bind_eq_panic hp with h1 | ⟨a, _, h2⟩
      · exact .inl ⟨hm, h1⟩
      · cases h2
    · rename_i hm
      split at hp
      · cases hp
      · cases hp
      · rename_i s' hv
        cases hp
        exact .inr (.inl ⟨.inl hm, stepVote_panics_only_if r1 m hn1.logInv s hv⟩)
    · rename_i hm
      split at hp
      · cases hp
      · cases hp
      · rename_i s' hv
        cases hp
        exact .inr (.inl ⟨.inr hm, stepVote_panics_only_if r1 m hn1.logInv s hv⟩)
    · split at hp
      · rename_i hst; exact .inr (.inr (.inr (.inl ⟨.inr hst, hp⟩)))
      · rename_i hst; exact .inr (.inr (.inr (.inl ⟨.inl hst, hp⟩)))
      · rename_i hst
        exact .inr (.inr (.inl ⟨hst, stepFollower_panics_only_if r1 m hn1.logInv hw s hp⟩))
      · rename_i hst; exact .inr (.inr (.inr (.inr ⟨hst, hp⟩)))

/-! ## 10. what is left of each follower-side site under `NodeOk` -/

/-- under `NodeOk`, **`handle_append_entries` panics only on a protocol violation by the sender**:
either an entry of the message conflicts with the local log at or below the commit index
(`"raft_log.maybe_append.conflict_committed"`), or the message's `log_term` is below the term of
the local *committed* entry although its `index` is at or above the commit index
(`"raft.handle_append_entries.hint_term"`, reached through a compacted dummy position).  Both
contradict Log Matching + Leader Completeness for a sender that is the leader of the term; the
cluster checker validates exactly this on every trace (`C20_append_never_conflicts_below_commit_obligation`). -/
theorem C20_append_panics_only_on_protocol_violation (r : Raft) (m : Message) (s : String)
    (hn : NodeOk r) (hw : AppendWF m) (hp : r.handleAppendEntries m = .panic s) :
    (s = "raft_log.maybe_append.conflict_committed" ∧ r.raftLog.committed ≤ m.index ∧
      r.raftLog.abs.matchTerm m.index m.logTerm = true ∧
      0 < r.raftLog.abs.findConflict m.entries ∧
      r.raftLog.abs.findConflict m.entries ≤ r.raftLog.committed) ∨
    (s = "raft.handle_append_entries.hint_term" ∧ r.raftLog.committed ≤ m.index ∧
      ∃ t, r.raftLog.abs.term r.raftLog.committed = .ok t ∧ m.logTerm < t) := by
  have h := hn.logInv
  rcases handleAppendEntries_panics_only_if r m h hw s hp with
    ⟨_, _, h3⟩ | h2 | ⟨_, t0, h2, h3⟩ | ⟨h1, h2, _, j, hj, hterm, hall⟩
  · obtain ⟨t, ht⟩ := hn.lastTermKnown
    rw [ht] at h3; cases h3
  · exact .inl h2
  · have := hn.zeroTerm t0 h2
    omega
  · right
    refine ⟨h1, h2, ?_⟩
    obtain ⟨t, ht⟩ := hn.commitTermKnown
    obtain ⟨hjs, _⟩ := LLog_term_err_only_at_dummy _ _ _ hterm
    have hd := h.dummy_le_committed
    have hcl := h.committed_le_last
    rw [h.firstIndex_abs] at hd
    simp only [LLog.firstIndex] at hd
    have hne : j ≠ r.raftLog.committed := by
      intro hc; rw [hc, ht] at hterm; cases hterm
    obtain ⟨t', ht', hlt⟩ := hall r.raftLog.committed (by omega) (by omega)
    exact ⟨t', ht', hlt⟩

/-- under `NodeOk`, **`handle_heartbeat` panics only on "to_commit out of range"**: the leader
advertised a commit index this follower does not hold -/
theorem C20_heartbeat_panics_only_on_commit_beyond_log (r : Raft) (m : Message) (s : String)
    (hn : NodeOk r) (hp : r.handleHeartbeat m = .panic s) :
    s = "raft_log.commit_to.out_of_range" ∧ r.raftLog.committed < m.commit ∧
      r.raftLog.lastIndex < m.commit := by
  rcases handleHeartbeat_panics_only_if r m hn.logInv s hp with h1 | ⟨_, _, _, h4⟩
  · exact h1
  · obtain ⟨t, ht⟩ := hn.lastTermKnown
    rw [ht] at h4; cases h4

/-- under `NodeOk`, **the vote arm panics only on the `send` term check** (a vote request with term 0,
or a real vote request rejected by a node that is itself still at term 0) or in the
configuration-change scan of a (pre-)candidate -/
theorem C20_vote_panics_only_if (r : Raft) (m : Message) (s : String) (hn : NodeOk r)
    (hm : m.msgType = .msgRequestVote ∨ m.msgType = .msgRequestPreVote)
    (hp : r.stepVote m = .panic s) :
    (s = "raft.send.term_not_set" ∧ (m.term = 0 ∨ (r.term = 0 ∧ m.msgType = .msgRequestVote))) ∨
    (s = "raft.has_unapplied_conf_changes.scan_error" ∧
      (r.state = .candidate ∨ r.state = .preCandidate)) := by
  rcases stepVote_panics_only_if r m hn.logInv s hp with
    ⟨_, h2⟩ | ⟨_, h2⟩ | ⟨h1, h2⟩ | ⟨h1, h2⟩ | ⟨_, h2⟩ | h2
  · rcases hm with hm | hm <;> rw [hm] at h2 <;> cases h2
  · obtain ⟨t, ht⟩ := hn.lastTermKnown
    rw [ht] at h2; cases h2
  · exact .inl ⟨h1, .inl h2⟩
  · exact .inl ⟨h1, .inr h2⟩
  · obtain ⟨t, ht⟩ := hn.commitTermKnown
    rw [ht] at h2; cases h2
  · exact .inr h2

/-- a well-formed vote request (`term ≠ 0`) to a node that has a term never trips the `send` check -/
theorem C20_vote_wellformed (r : Raft) (m : Message) (s : String) (hn : NodeOk r)
    (hm : m.msgType = .msgRequestVote ∨ m.msgType = .msgRequestPreVote)
    (ht : m.term ≠ 0) (hr : r.term ≠ 0) (hs : r.state = .follower ∨ r.state = .leader) :
    r.stepVote m ≠ .panic s := by
  intro hp
  rcases C20_vote_panics_only_if r m s hn hm hp with ⟨_, h | ⟨h, _⟩⟩ | ⟨_, h | h⟩
  · exact ht h
  · exact hr h
  · rcases hs with hs | hs <;> rw [hs] at h <;> cases h
  · rcases hs with hs | hs <;> rw [hs] at h <;> cases h

/-! ## 11. `step_candidate`: the three leader-message arms -/

/-- the `MsgAppend` / `MsgHeartbeat` / `MsgSnapshot` arms of `step_candidate`: the
`debug_assert_eq!(self.term, m.term)`, then the follower handler on `become_follower(m.term, from)` -/
theorem stepCandidate_leader_msgs_panic_only_if (r : Raft) (m : Message) (s : String)
    (hn : NodeOk r) (hw : m.msgType = .msgAppend → AppendWF m)
    (hm : m.msgType = .msgAppend ∨ m.msgType = .msgHeartbeat ∨ m.msgType = .msgSnapshot)
    (hp : r.stepCandidate m = .panic s) :
    (s = "raft.step_candidate.debug_assert_term" ∧ r.term ≠ m.term) ∨
    (r.term = m.term ∧ FollowerPanic (r.becomeFollower m.term m.frm) m s) := by
  have hn1 := hn.becomeFollower m.term m.frm
  unfold Raft.stepCandidate at hp
  rcases hm with hm | hm | hm <;> rw [hm] at hp <;> simp only [] at hp <;> split at hp
  · cases hp; exact .inl ⟨rfl, by assumption⟩
  · rename_i ht
    rcases Res.bind_eq_panic hp with h1 | ⟨a, _, h2⟩
    · exact .inr ⟨by omega, .inl ⟨hm,
        handleAppendEntries_panics_only_if _ m hn1.logInv (hw hm) s h1⟩⟩
    · cases h2
  · cases hp; exact .inl ⟨rfl, by assumption⟩
  · rename_i ht
    rcases Res.bind_eq_panic hp with h1 | ⟨a, _, h2⟩
    · exact .inr ⟨by omega, .inr (.inl ⟨hm, handleHeartbeat_panics_only_if _ m hn1.logInv s h1⟩)⟩
    · cases h2
  · cases hp; exact .inl ⟨rfl, by assumption⟩
  · rename_i ht
    rcases Res.bind_eq_panic hp with h1 | ⟨a, _, h2⟩
    · exact .inr ⟨by omega, .inr (.inr (.inl ⟨hm,
        handleSnapshot_panics_only_if _ m hn1.logInv s h1⟩))⟩
    · cases h2

/-- through `step`, the `debug_assert_eq!` of `step_candidate` is unreachable for `m.term ≠ 0`: the
term preamble has made the terms equal (or consumed the message) -/
theorem stepTerm_term_eq (r r1 : Raft) (m : Message) (h0 : m.term ≠ 0)
    (hm : m.msgType = .msgAppend ∨ m.msgType = .msgHeartbeat ∨ m.msgType = .msgSnapshot)
    (h : r.stepTerm m = .ok (r1, true)) : r1.term = m.term := by
  cases Raft.stepTerm_inv h with
  | zero hz => exact absurd hz h0
  | prevote _ _ _ hc =>
    rcases hc with hc | ⟨hc, _⟩ <;> rcases hm with hm | hm | hm <;> rw [hm] at hc <;> cases hc
  | follow => exact (becomeFollower_term_vote r m.term _).1
  | same _ he => exact he.symm

/-! ## 12. witnesses: malformed network input that panics a healthy node (`RawNode::step`) -/

/-- a freshly started node: empty log over an empty `MemStorage` -/
def freshLog : RaftLog :=
  { store := {}, unstable := { offset := 1 }, committed := 0, persisted := 0, applied := 0,
    maxApplyUnpersistedLogLimit := 0 }

/-- a follower of node 2 in term 3 -/
def follower3 : Raft := { raftLog := freshLog, id := 1, term := 3, leaderId := 2 }

/-- a vote request with term 0 is granted and the response trips "term should be set" -/
example : RawNode.step { raftLog := freshLog, id := 1 } { msgType := .msgRequestVote, term := 0, frm := 2 }
    = .panic "raft.send.term_not_set" := by decide +kernel

/-- a `MsgTransferLeader` of the current term reaching a follower is re-forwarded with its term set -/
example : RawNode.step follower3 { msgType := .msgTransferLeader, term := 3, frm := 3 }
    = .panic "raft.send.term_set" := by decide +kernel

/-- a proposal carrying a term -/
example : RawNode.step follower3 { msgType := .msgPropose, term := 3, frm := 3, entries := [{}] }
    = .panic "raft.send.term_set" := by decide +kernel

/-- a read-index response without a term and with an index beyond the log -/
example : RawNode.step follower3
    { msgType := .msgReadIndexResp, term := 0, frm := 2, index := 7, entries := [{}] }
    = .panic "raft_log.commit_to.out_of_range" := by decide +kernel

/-- an append anchored beyond the log with `log_term = 0` -/
example : RawNode.step follower3
    { msgType := .msgAppend, term := 3, frm := 2, index := 5, logTerm := 0,
      entries := [{ index := 6, term := 3 }] }
    = .panic "unstable.must_check_outofbounds.range" := by decide +kernel

/-- a snapshot with term 0 "matches" the (absent) entry at its index and is fast-forwarded to -/
example : RawNode.step follower3
    { msgType := .msgSnapshot, term := 3, frm := 2,
      snapshot := { metadata := { index := 5, term := 0, confState := { voters := [1, 2] } } } }
    = .panic "raft_log.commit_to.out_of_range" := by decide +kernel

end RaftProps.C20
