import RaftProofs.RawNodeC06

/-!
# C06 (continued) — "persist before send" as a theorem on the RawNode model

C06: *every message that carries a promise — … anything sent as leader of a term — is released for
sending only after the hard state it depends on has been reported persisted.*

At the `RawNode` level (`RaftModel/RawNode.lean`, model of `src/raw_node.rs`): `Ready.messages` are
released immediately, before the application persists the Ready; `Ready.persistedMessages` only
after it has; `advance_append` hands out a `LightReady` with messages.  Proved here, over every run
of the transition system `applyOp` below (the node, the Readies handed out, and the application's
stable storage as a ghost pair `(durTerm, durVote)`), under the application contract of the
documentation (`on_persist_ready(k)` only after everything up to Ready `k` is durable,
`advance_append` only after the Ready is durable) and Raft's term / vote discipline on `env` steps:

* `C06b_immediate_release` — `ready()` hands out immediate messages only on a leader whose current
  `(term, vote)` is the durable one;
* `C06b_light_release` — the same for the `LightReady` of `advance_append`;
* `C06b_non_leader_never_immediate`, `C06b_unpersisted_tv_never_immediate` (any state, no
  reachability): a non-leader, or a node whose `(term, vote)` differs from `prev_hs`, releases
  nothing immediately;
* `C06b_release_partition` — every message of a Ready is either immediate under the conditions
  above or a `persisted_message`;
* `C06b_store_tie` — the ghost pair is the `(term, vote)` of `n.log.store.hardState` along every
  run (with the proviso `SnapTermOk`, see there: `MemStorage::apply_snapshot` raises the stored term
  to the snapshot's, `C06b_snapshot_raises_stored_term`).

Steps of the system: `env` (under `EnvDiscipline`), `ready`, `write` (the oldest unwritten Ready,
in order of numbers), `persisted k` (only `k ≤ written`), `commitAsync` / `advanceAppend` (newest
Ready; `advanceAppend` only when it is written), `applyTo`, and two storage-side steps of the
application that cannot touch `(term, vote)`: `writeCommit`, `compact`.

The invariant is `RaftModel.C06.Inv` (`RaftProofs/RawNodeC06.lean`), `AInv` here (`init_inv`,
`step_inv`, `reach_inv`).  Non-vacuity: `C06b_example_immediate`, `C06b_example_F1`,
`C06b_example_async`, `C06b_example_light`.
`C06b_contract_needed` shows that without the contract on `on_persist_ready` the property fails.
-/
namespace RaftProps.C06b
open RaftModel RaftModel.RawNodeM RaftModel.C06

/-! ### the transition system -/

/-- the node, every Ready handed out so far (newest first), the number of the newest Ready the
application has written to stable storage, and the `(term, vote)` in that storage (ghost) -/
structure App where
  n : RawNodeM
  handed : List Ready := []
  written : Nat := 0
  durTerm : Nat
  durVote : Nat

inductive Op where
  /-- `Raft::step / tick / propose / campaign …` between RawNode calls -/
  | env (e : EnvEffect)
  /-- `ready()` -/
  | ready
  /-- the application writes the oldest not-yet-written Ready to stable storage -/
  | write
  /-- `on_persist_ready(k)` -/
  | persisted (k : Nat) (eff : Effect)
  /-- `advance_append_async(rd)`, `rd` the newest Ready -/
  | commitAsync
  /-- `advance_append(rd)`, `rd` the newest Ready -/
  | advanceAppend (eff : Effect)
  /-- `advance_apply_to(applied)` -/
  | applyTo (applied : Nat) (eff : Effect)
  /-- the application persists the commit index of a `LightReady` (hard-state-only write) -/
  | writeCommit (commit : Nat)
  /-- the application compacts its storage -/
  | compact (index : Nat)
  deriving DecidableEq

/-- Raft's term / vote discipline, the hypothesis on `env` steps: the term does not decrease, and
within a term a vote, once cast, stays.  The node model proves it for `Raft::step`:
`C02_term_monotone`, `C02_vote_changes_only_from_none` (`RaftProps/C02b.lean`). -/
def EnvDiscipline (n : RawNodeM) (e : EnvEffect) : Prop :=
  n.term ≤ e.term ∧ (e.term = n.term → n.vote ≠ 0 → e.vote = n.vote)

instance (n : RawNodeM) (e : EnvEffect) : Decidable (EnvDiscipline n e) := by
  unfold EnvDiscipline; infer_instance

/-- the Ready the application writes next: number `written + 1` -/
def nextToWrite (a : App) : Option Ready := a.handed.find? (fun rd => rd.number == a.written + 1)

/-- the durable `(term, vote)` after `rd` has been written: `set_hardstate(rd.hs)` if present -/
def durAfter (a : App) (rd : Ready) : Nat × Nat :=
  match rd.hs with
  | some hs => (hs.term, hs.vote)
  | none => (a.durTerm, a.durVote)

/-- one step; `none`: the call is not allowed by the contract in this state, or it does not return
`Ok`.  (`advance(rd)` is `advance_append(rd)` followed by `advance_apply_to`, `advance_apply` is
`advance_apply_to(commit_since_index)`: no separate steps.  The `write` step performs the model's
`storageWrite` on `n.log.store` as well, so that the ghost pair can be compared with the stored hard
state, `C06b_store_tie`; the invariant and the release theorems do not read the storage.) -/
def applyOp (a : App) : Op → Option App
  | .env e =>
    if EnvDiscipline a.n e then
      match a.n.env e with
      | .ok n' => some { a with n := n' }
      | .err _ => none
      | .panic _ => none
    else none
  | .ready =>
    match a.n.ready with
    | .ok (n', rd) => some { a with n := n', handed := rd :: a.handed }
    | .err _ => none
    | .panic _ => none
  | .write =>
    match nextToWrite a with
    | some rd =>
      match a.n.storageWrite rd with
      | .ok n' => some { n := n', handed := a.handed, written := a.written + 1,
                         durTerm := (durAfter a rd).1, durVote := (durAfter a rd).2 }
      | .err _ => none
      | .panic _ => none
    | none => none
  | .persisted k eff =>
    -- the contract: "call it after everything up to Ready k is durable"
    if k ≤ a.written then
      match a.n.onPersistReady k eff with
      | .ok n' => some { a with n := n' }
      | .err _ => none
      | .panic _ => none
    else none
  | .commitAsync =>
    match a.handed with
    | rd :: _ =>
      match a.n.advanceAppendAsync rd with
      | .ok n' => some { a with n := n' }
      | .err _ => none
      | .panic _ => none
    | [] => none
  | .advanceAppend eff =>
    match a.handed with
    | rd :: _ =>
      -- the contract of the synchronous API: the Ready has been written
      if a.written = rd.number then
        match a.n.advanceAppend rd eff with
        | .ok (n', _) => some { a with n := n' }
        | .err _ => none
        | .panic _ => none
      else none
    | [] => none
  | .applyTo k eff =>
    match a.n.advanceApplyTo k eff with
    | .ok n' => some { a with n := n' }
    | .err _ => none
    | .panic _ => none
  | .writeCommit c => some { a with n := a.n.storageCommit c }
  | .compact k =>
    match a.n.log.compactStore k with
    | .ok l => some { a with n := { a.n with log := l } }
    | .err _ => none
    | .panic _ => none

/-- initial states: nothing handed out, `prev_hs` and the storage agree with the node on
`(term, vote)` — what `RawNode::new` produces (`new_init`) -/
def Init (a : App) : Prop :=
  a.n.prevHs.term = a.n.term ∧ a.n.prevHs.vote = a.n.vote ∧ a.n.unpersistedHsNumber = 0 ∧
  a.n.maxNumber = 0 ∧ a.n.records = [] ∧ a.handed = [] ∧ a.written = 0 ∧
  a.durTerm = a.n.term ∧ a.durVote = a.n.vote

inductive Reach : App → Prop where
  | init {a : App} : Init a → Reach a
  | step {a b : App} {op : Op} : Reach a → applyOp a op = some b → Reach b

def run : App → List Op → Option App
  | a, [] => some a
  | a, op :: ops => match applyOp a op with
    | some b => run b ops
    | none => none

theorem reach_run {a b : App} {ops : List Op} (h : Reach a) (hr : run a ops = some b) :
    Reach b := by
  induction ops generalizing a with
  | nil => unfold run at hr; injection hr with hr; subst hr; exact h
  | cons op ops ih =>
    unfold run at hr
    cases ho : applyOp a op with
    | some c => rw [ho] at hr; exact ih (.step h ho) hr
    | none => rw [ho] at hr; cases hr

/-- the ghost pair is what the model's storage holds -/
def Tie (a : App) : Prop :=
  a.durTerm = a.n.log.store.hardState.term ∧ a.durVote = a.n.log.store.hardState.vote

/-- `RawNode::new` over a storage gives an initial state whose durable pair is the stored one -/
theorem new_init {store : MemStorage} {limit applied maxc : Nat} {n : RawNodeM}
    (h : RawNodeM.new store limit applied maxc = .ok n) :
    Init { n := n, durTerm := store.hardState.term, durVote := store.hardState.vote } ∧
    Tie { n := n, durTerm := store.hardState.term, durVote := store.hardState.vote } := by
  obtain ⟨h1, h2, h3, h4, h5, h6, h7, _, h9⟩ := new_shape h
  refine ⟨⟨h3, h4, h5, h6, h7, rfl, rfl, h1.symm, h2.symm⟩, ?_, ?_⟩
  · show store.hardState.term = n.log.store.hardState.term; rw [h9]
  · show store.hardState.vote = n.log.store.hardState.vote; rw [h9]

/-! ### the successful steps, as a relation -/

/-- `Applies a op b`: one constructor per step — the clause of the contract that lets it through
and the `RawNodeM` call that succeeded -/
inductive Applies (a : App) : Op → App → Prop
  | env {e n'} : EnvDiscipline a.n e → a.n.env e = .ok n' → Applies a (.env e) { a with n := n' }
  | ready {n' rd} : a.n.ready = .ok (n', rd) →
      Applies a .ready { a with n := n', handed := rd :: a.handed }
  | write {rd n'} : nextToWrite a = some rd → a.n.storageWrite rd = .ok n' →
      Applies a .write { n := n', handed := a.handed, written := a.written + 1,
                         durTerm := (durAfter a rd).1, durVote := (durAfter a rd).2 }
  | persisted {k eff n'} : k ≤ a.written → a.n.onPersistReady k eff = .ok n' →
      Applies a (.persisted k eff) { a with n := n' }
  | commitAsync {rd rest n'} : a.handed = rd :: rest → a.n.commitReady rd = .ok n' →
      Applies a .commitAsync { a with n := n' }
  | advanceAppend {rd rest eff n' l} : a.handed = rd :: rest → a.written = rd.number →
      a.n.advanceAppend rd eff = .ok (n', l) → Applies a (.advanceAppend eff) { a with n := n' }
  | applyTo {k eff n'} : a.n.commitApply k eff = .ok n' → Applies a (.applyTo k eff) { a with n := n' }
  | writeCommit {c} : Applies a (.writeCommit c) { a with n := a.n.storageCommit c }
  | compact {k l} : a.n.log.compactStore k = .ok l →
      Applies a (.compact k) { a with n := { a.n with log := l } }

theorem applyOp_ok {a b : App} {op : Op} (h : applyOp a op = some b) : Applies a op b := by
  cases op with
  | env e =>
    simp only [applyOp] at h
    split at h
    · rename_i hd
      cases he : a.n.env e with
      | ok n' => simp only [he] at h; injection h with h; subst h; exact .env hd he
      | err e => simp only [he] at h; cases h
      | panic s => simp only [he] at h; cases h
    · cases h
  | ready =>
    simp only [applyOp] at h
    cases he : a.n.ready with
    | ok p =>
      obtain ⟨n', rd⟩ := p
      simp only [he] at h; injection h with h; subst h; exact .ready he
    | err e => simp only [he] at h; cases h
    | panic s => simp only [he] at h; cases h
  | write =>
    simp only [applyOp] at h
    cases hn : nextToWrite a with
    | some rd =>
      simp only [hn] at h
      cases he : a.n.storageWrite rd with
      | ok n' => simp only [he] at h; injection h with h; subst h; exact .write hn he
      | err e => simp only [he] at h; cases h
      | panic s => simp only [he] at h; cases h
    | none => simp only [hn] at h; cases h
  | persisted k eff =>
    simp only [applyOp] at h
    split at h
    · rename_i hk
      cases he : a.n.onPersistReady k eff with
      | ok n' => simp only [he] at h; injection h with h; subst h; exact .persisted hk he
      | err e => simp only [he] at h; cases h
      | panic s => simp only [he] at h; cases h
    · cases h
  | commitAsync =>
    simp only [applyOp] at h
    cases hH : a.handed with
    | nil => simp only [hH] at h; cases h
    | cons rd rest =>
      simp only [hH] at h
      cases he : a.n.advanceAppendAsync rd with
      | ok n' =>
        simp only [he] at h; injection h with h; subst h
        rw [← hH]; exact .commitAsync hH he
      | err e => simp only [he] at h; cases h
      | panic s => simp only [he] at h; cases h
  | advanceAppend eff =>
    simp only [applyOp] at h
    cases hH : a.handed with
    | nil => simp only [hH] at h; cases h
    | cons rd rest =>
      simp only [hH] at h
      split at h
      · rename_i hw
        cases he : a.n.advanceAppend rd eff with
        | ok p =>
          obtain ⟨n', l⟩ := p
          simp only [he] at h; injection h with h; subst h
          rw [← hH]; exact .advanceAppend hH hw he
        | err e => simp only [he] at h; cases h
        | panic s => simp only [he] at h; cases h
      · cases h
  | applyTo k eff =>
    simp only [applyOp] at h
    cases he : a.n.advanceApplyTo k eff with
    | ok n' => simp only [he] at h; injection h with h; subst h; exact .applyTo he
    | err e => simp only [he] at h; cases h
    | panic s => simp only [he] at h; cases h
  | writeCommit c =>
    simp only [applyOp] at h
    injection h with h; subst h; exact .writeCommit
  | compact k =>
    simp only [applyOp] at h
    cases he : a.n.log.compactStore k with
    | ok l => simp only [he] at h; injection h with h; subst h; exact .compact he
    | err e => simp only [he] at h; cases h
    | panic s => simp only [he] at h; cases h

/-! ### the invariant -/

/-- `RaftModel.C06.Inv` on the state -/
def AInv (a : App) : Prop :=
  Inv a.n.term a.n.vote a.n.prevHs.term a.n.prevHs.vote a.n.unpersistedHsNumber a.n.maxNumber
    a.handed a.written a.durTerm a.durVote

theorem AInv.mk' {t v pt pv u m : Nat} {H : List Ready} {w dT dV : Nat}
    (i : Inv t v pt pv u m H w dT dV) {n' : RawNodeM} (h1 : n'.term = t) (h2 : n'.vote = v)
    (h3 : n'.prevHs.term = pt) (h4 : n'.prevHs.vote = pv) (h5 : n'.unpersistedHsNumber = u)
    (h6 : n'.maxNumber = m) :
    AInv { n := n', handed := H, written := w, durTerm := dT, durVote := dV } := by
  subst h1 h2 h3 h4 h5 h6; exact i

theorem AInv.frame {a : App} (i : AInv a) {n' : RawNodeM} (f : Fr a.n n') :
    AInv { a with n := n' } :=
  AInv.mk' i f.term f.vote f.pterm f.pvote f.uhn f.maxNumber

theorem init_inv {a : App} (h : Init a) : AInv a := by
  obtain ⟨h1, h2, h3, h4, _, h6, h7, h8, h9⟩ := h
  unfold AInv
  rw [h1, h2, h3, h4, h6, h7, h8, h9]
  exact Inv.init _ _

theorem ple_of_discipline {n : RawNodeM} {e : EnvEffect} (h : EnvDiscipline n e) :
    ple n.term n.vote e.term e.vote := by
  obtain ⟨h1, h2⟩ := h
  unfold ple
  by_cases h3 : e.term = n.term
  · by_cases h4 : n.vote = 0
    · omega
    · have := h2 h3 h4; omega
  · omega

theorem inv_env {a : App} (i : AInv a) {e : EnvEffect} {n' : RawNodeM}
    (hd : EnvDiscipline a.n e) (h : a.n.env e = .ok n') : AInv { a with n := n' } := by
  obtain ⟨h1, h2, _, h4, h5, h6, _⟩ := env_shape h
  exact AInv.mk' (Inv.env i (ple_of_discipline hd)) h1 h2 (by rw [h4]) (by rw [h4]) h5 h6

theorem inv_ready {a : App} (i : AInv a) {n' : RawNodeM} {rd : Ready}
    (h : a.n.ready = .ok (n', rd)) : AInv { a with n := n', handed := rd :: a.handed } := by
  obtain ⟨h1, h2, _, h4, _, h6, h7, h8, h9, _, _⟩ := ready_shape h
  obtain ⟨c1, c2⟩ := readyUhn_cases a.n
  refine AInv.mk' (Inv.ready i (u' := a.n.readyUhn) h8 ?_ ?_ c2) h1 h2 (by rw [h4]) (by rw [h4])
    h7 h6
  · intro hs hh
    rw [h9] at hh
    split at hh
    · injection hh with hh; subst hh; exact ⟨rfl, rfl⟩
    · cases hh
  · intro hc
    obtain ⟨e1, e2⟩ := c1 hc
    exact ⟨e1, a.n.hardState, by rw [h9, e2]; rfl⟩

theorem nextToWrite_spec {a : App} {rd : Ready} (h : nextToWrite a = some rd) :
    rd ∈ a.handed ∧ rd.number = a.written + 1 := by
  unfold nextToWrite at h
  have h1 := List.find?_some h
  exact ⟨List.mem_of_find?_eq_some h, by simpa using h1⟩

theorem inv_write {a : App} (i : AInv a) {rd : Ready} {n' : RawNodeM}
    (hn : nextToWrite a = some rd) (h : a.n.storageWrite rd = .ok n') :
    AInv { n := n', handed := a.handed, written := a.written + 1,
           durTerm := (durAfter a rd).1, durVote := (durAfter a rd).2 } := by
  obtain ⟨hm, hnum⟩ := nextToWrite_spec hn
  obtain ⟨f, _, _⟩ := storageWrite_shape h
  refine AInv.mk' (Inv.write i hm hnum (dT' := (durAfter a rd).1) (dV' := (durAfter a rd).2) ?_ ?_)
    f.term f.vote f.pterm f.pvote f.uhn f.maxNumber
  · intro hh; unfold durAfter; rw [hh]; exact ⟨rfl, rfl⟩
  · intro hs hh; unfold durAfter; rw [hh]; exact ⟨rfl, rfl⟩

theorem inv_persisted {a : App} (i : AInv a) {k : Nat} {eff : Effect} {n' : RawNodeM}
    (hk : k ≤ a.written) (h : a.n.onPersistReady k eff = .ok n') : AInv { a with n := n' } := by
  obtain ⟨h1, h2, _, h4, h5, h6, h7, _⟩ := onPersistReady_shape h
  exact AInv.mk' (Inv.persisted i hk) h1 h2 h4 h5 h6 h7

theorem inv_commit {a : App} (i : AInv a) {rd : Ready} {rest : List Ready} {n' : RawNodeM}
    (hH : a.handed = rd :: rest) (h : a.n.commitReady rd = .ok n') : AInv { a with n := n' } := by
  obtain ⟨h1, h2, _, h4, h5, h6, _⟩ := commitReady_shape h
  refine AInv.mk' (Inv.commit i hH (pt' := n'.prevHs.term) (pv' := n'.prevHs.vote) ?_ ?_)
    h1 h2 rfl rfl h5 h6
  · intro hh; rw [h4, hh]; exact ⟨rfl, rfl⟩
  · intro hs hh; rw [h4, hh]; exact ⟨rfl, rfl⟩

theorem inv_advanceAppend {a : App} (i : AInv a) {rd : Ready} {rest : List Ready} {eff : Effect}
    {n' : RawNodeM} {light : LightReady} (hH : a.handed = rd :: rest)
    (hw : a.written = rd.number) (h : a.n.advanceAppend rd eff = .ok (n', light)) :
    AInv { a with n := n' } ∧ n'.unpersistedHsNumber = 0 := by
  obtain ⟨n1, n2, n3, l3, h1, h2, h3, _, _, f, _, _⟩ := advanceAppend_shape h
  have i1 : AInv { a with n := n1 } := inv_commit i hH h1
  have hmax : n1.maxNumber = rd.number := by
    have := (hH ▸ i1.nums : NumsOk (rd :: rest) n1.maxNumber).head.1
    exact this.symm
  have i2 : AInv { a with n := n2 } :=
    inv_persisted (a := { a with n := n1 }) i1 (by show n1.maxNumber ≤ a.written; omega) h2
  have f3 := (genLightReady_fr h3).1
  have i3 : AInv { a with n := n' } := AInv.frame (a := { a with n := n2 }) i2 (f3.trans f)
  refine ⟨i3, ?_⟩
  obtain ⟨_, _, _, _, _, h6, _, _⟩ := onPersistReady_shape h2
  rw [f.uhn, f3.uhn, h6, if_pos i1.uhnLe]

/-- every step keeps the invariant -/
theorem step_inv {a b : App} {op : Op} (i : AInv a) (h : applyOp a op = some b) : AInv b := by
  cases applyOp_ok h with
  | env hd he => exact inv_env i hd he
  | ready he => exact inv_ready i he
  | write hn he => exact inv_write i hn he
  | persisted hk he => exact inv_persisted i hk he
  | commitAsync hH he => exact inv_commit i hH he
  | advanceAppend hH hw he => exact (inv_advanceAppend i hH hw he).1
  | applyTo he => exact AInv.frame i (commitApply_fr he)
  | writeCommit => exact AInv.mk' i rfl rfl rfl rfl rfl rfl
  | compact _ => exact AInv.mk' i rfl rfl rfl rfl rfl rfl

theorem reach_inv {a : App} (h : Reach a) : AInv a := by
  induction h with
  | init hi => exact init_inv hi
  | step _ hs ih => exact step_inv ih hs

/-! ### the theorems -/

theorem messages_ne_nil {rd : Ready} (h : rd.messages ≠ []) : rd.isPersistedMsg = false := by
  unfold Ready.messages at h
  cases hp : rd.isPersistedMsg with
  | false => rfl
  | true => rw [hp] at h; exact absurd rfl h

/-- when `ready()` marks the messages of a Ready as immediate (`is_persisted_msg = false`), the
node is leader, its `(term, vote)` is the one of `prev_hs` and no hard state is unpersisted -/
theorem immediate_flag {n n' : RawNodeM} {rd : Ready} (h : n.ready = .ok (n', rd))
    (hp : rd.isPersistedMsg = false) :
    n.role = ROLE_LEADER ∧ n.term = n.prevHs.term ∧ n.vote = n.prevHs.vote ∧
      n.unpersistedHsNumber = 0 := by
  obtain ⟨_, _, _, _, _, _, _, _, _, h10, _⟩ := ready_shape h
  rw [h10, Bool.or_eq_false_iff] at hp
  obtain ⟨hp1, hp2⟩ := hp
  have hrole : n.role = ROLE_LEADER := Classical.not_not.1 (of_decide_eq_false hp1)
  have hu : n.readyUhn = 0 := Classical.not_not.1 (of_decide_eq_false hp2)
  obtain ⟨c1, c2⟩ := readyUhn_cases n
  by_cases hc : n.vote ≠ n.prevHs.vote ∨ n.term ≠ n.prevHs.term
  · have := (c1 hc).1; omega
  · have := c2 hc
    refine ⟨hrole, ?_, ?_, by omega⟩
    · exact Classical.not_not.1 (fun h => hc (.inr h))
    · exact Classical.not_not.1 (fun h => hc (.inl h))

/-- **C06b, immediate release.**  In every reachable state: if `ready()` hands out immediate
messages, the node is leader and its current `(term, vote)` is the one in the application's stable
storage. -/
theorem C06b_immediate_release {a : App} (hr : Reach a) {n' : RawNodeM} {rd : Ready}
    (h : a.n.ready = .ok (n', rd)) (hm : rd.messages ≠ []) :
    a.n.role = ROLE_LEADER ∧ a.n.term = a.durTerm ∧ a.n.vote = a.durVote := by
  obtain ⟨h1, h2, h3, h4⟩ := immediate_flag h (messages_ne_nil hm)
  obtain ⟨e1, e2⟩ := (reach_inv hr).key h2 h3 h4
  exact ⟨h1, e1.symm, e2.symm⟩

/-- **C06b, release by `advance_append`.**  In every reachable state, for the newest Ready `rd`,
written (the contract of the synchronous API): after `advance_append(rd)` the node's `(term, vote)`
is the durable one (which the call does not change), and if the `LightReady` carries messages the
node is leader. -/
theorem C06b_light_release {a : App} (hr : Reach a) {rd : Ready} {rest : List Ready}
    {eff : Effect} {n' : RawNodeM} {light : LightReady} (hH : a.handed = rd :: rest)
    (hw : a.written = rd.number) (h : a.n.advanceAppend rd eff = .ok (n', light)) :
    (light.messages ≠ [] → n'.role = ROLE_LEADER) ∧ n'.term = a.durTerm ∧ n'.vote = a.durVote := by
  obtain ⟨i', hu⟩ := inv_advanceAppend (reach_inv hr) hH hw h
  obtain ⟨_, _, n3, l3, _, _, _, hl, hrole, f, ht, hv⟩ := advanceAppend_shape h
  obtain ⟨e1, e2⟩ := i'.key ht hv hu
  refine ⟨?_, e1.symm, e2.symm⟩
  intro hm
  rw [hl] at hm
  rcases hrole with h1 | h1
  · rw [f.role]; exact h1
  · exact absurd h1 hm

/-- … with the premise that the `LightReady` carries messages -/
theorem C06b_light_release' {a : App} (hr : Reach a) {rd : Ready} {rest : List Ready}
    {eff : Effect} {n' : RawNodeM} {light : LightReady} (hH : a.handed = rd :: rest)
    (hw : a.written = rd.number) (h : a.n.advanceAppend rd eff = .ok (n', light))
    (hm : light.messages ≠ []) :
    n'.role = ROLE_LEADER ∧ n'.term = a.durTerm ∧ n'.vote = a.durVote :=
  let ⟨h1, h2, h3⟩ := C06b_light_release hr hH hw h
  ⟨h1 hm, h2, h3⟩

/-- **a non-leader never releases immediately** (any state) -/
theorem C06b_non_leader_never_immediate (n n' : RawNodeM) (rd : Ready)
    (h : n.ready = .ok (n', rd)) (hr : n.role ≠ ROLE_LEADER) : rd.messages = [] := by
  apply Classical.byContradiction
  intro hm
  exact hr (immediate_flag h (messages_ne_nil hm)).1

/-- **a term or vote not yet handed out for persistence blocks the immediate release** (any
state): the F1 situation — becoming leader in the step that changes the term -/
theorem C06b_unpersisted_tv_never_immediate (n n' : RawNodeM) (rd : Ready)
    (h : n.ready = .ok (n', rd)) (hc : n.term ≠ n.prevHs.term ∨ n.vote ≠ n.prevHs.vote) :
    rd.messages = [] := by
  apply Classical.byContradiction
  intro hm
  obtain ⟨_, h2, h3, _⟩ := immediate_flag h (messages_ne_nil hm)
  rcases hc with hc | hc
  · exact hc h2
  · exact hc h3

/-- … and so does a hard state handed out but not yet reported persisted (any state) -/
theorem C06b_unpersisted_number_never_immediate (n n' : RawNodeM) (rd : Ready)
    (h : n.ready = .ok (n', rd)) (hc : n.unpersistedHsNumber ≠ 0) : rd.messages = [] := by
  apply Classical.byContradiction
  intro hm
  exact hc (immediate_flag h (messages_ne_nil hm)).2.2.2

/-- **every message of a Ready is released in one of two ways**: all of them as
`persisted_messages` — which the application may send only after the `write` of that Ready, by the
documented contract — or all of them immediately, and then (reachable state) the node is leader
with a durable `(term, vote)`. -/
theorem C06b_release_partition {a : App} (hr : Reach a) {n' : RawNodeM} {rd : Ready}
    (h : a.n.ready = .ok (n', rd)) :
    rd.light.messages = a.n.msgs ∧
    ((rd.isPersistedMsg = true ∧ rd.messages = [] ∧ rd.persistedMessages = rd.light.messages) ∨
     (rd.isPersistedMsg = false ∧ rd.persistedMessages = [] ∧ rd.messages = rd.light.messages ∧
      a.n.role = ROLE_LEADER ∧ a.n.term = a.durTerm ∧ a.n.vote = a.durVote)) := by
  obtain ⟨_, _, _, _, _, _, _, _, _, _, h11⟩ := ready_shape h
  refine ⟨h11, ?_⟩
  cases hp : rd.isPersistedMsg with
  | true =>
    left
    refine ⟨rfl, ?_, ?_⟩
    · unfold Ready.messages; rw [hp]; rfl
    · unfold Ready.persistedMessages; rw [hp]; rfl
  | false =>
    right
    obtain ⟨h1, h2, h3, h4⟩ := immediate_flag h hp
    obtain ⟨e1, e2⟩ := (reach_inv hr).key h2 h3 h4
    refine ⟨rfl, ?_, ?_, h1, e1.symm, e2.symm⟩
    · unfold Ready.persistedMessages; rw [hp]; rfl
    · unfold Ready.messages; rw [hp]; rfl

/-! ### the ghost pair and the model's storage -/

/-- proviso for the storage tie.  `MemStorage::apply_snapshot` (storage.rs:250) sets the stored
term to `max(stored term, snapshot term)`.  A Ready that carries a snapshot but no hard state
therefore changes the stored term when the snapshot's term is larger — which Raft excludes (a node
restores a snapshot only at a term ≥ the snapshot's, and that term is handed out first), but the
`env` of this model does not. -/
def SnapTermOk (a : App) : Op → Prop
  | .write => ∀ rd, nextToWrite a = some rd → rd.hs = none → ∀ sn, rd.snapshot = some sn →
      sn.metadata.term ≤ a.n.log.store.hardState.term
  | _ => True

theorem Tie.frame {a : App} (t : Tie a) {n' : RawNodeM} (f : Fr a.n n') :
    Tie { a with n := n' } := by
  unfold Tie at *
  show a.durTerm = n'.log.store.hardState.term ∧ a.durVote = n'.log.store.hardState.vote
  rw [f.store]; exact t

/-- every step keeps the ghost pair equal to the stored `(term, vote)` -/
theorem step_tie {a b : App} {op : Op} (t : Tie a) (hs : SnapTermOk a op)
    (h : applyOp a op = some b) : Tie b := by
  have hstore : ∀ n' : RawNodeM, n'.log.store = a.n.log.store → Tie { a with n := n' } := by
    intro n' hn'
    unfold Tie at *
    show a.durTerm = n'.log.store.hardState.term ∧ a.durVote = n'.log.store.hardState.vote
    rw [hn']; exact t
  cases applyOp_ok h with
  | env _ he => exact hstore _ (env_shape he).2.2.2.2.2.2
  | ready he => exact hstore _ (by rw [(ready_shape he).2.2.2.2.1])
  | @write rd n' hn he =>
    obtain ⟨_, w1, w2⟩ := storageWrite_shape he
    unfold Tie at *
    show (durAfter a rd).1 = n'.log.store.hardState.term ∧
      (durAfter a rd).2 = n'.log.store.hardState.vote
    unfold durAfter
    cases hh : rd.hs with
    | some hs0 => rw [w1 hs0 hh]; exact ⟨rfl, rfl⟩
    | none =>
      obtain ⟨v1, v2⟩ := w2 hh
      refine ⟨?_, by rw [v1]; exact t.2⟩
      rcases v2 with ⟨_, v2⟩ | ⟨sn, hsn, v2⟩
      · rw [v2]; exact t.1
      · have := hs rd hn hh sn hsn
        rw [v2, Nat.max_eq_left this]; exact t.1
  | persisted _ he => exact hstore _ (onPersistReady_shape he).2.2.2.2.2.2.2
  | commitAsync _ he => exact hstore _ (commitReady_shape he).2.2.2.2.2.2
  | advanceAppend _ _ he =>
    obtain ⟨n1, n2, n3, l3, h1, h2, h3, _, _, f, _, _⟩ := advanceAppend_shape he
    refine hstore _ ?_
    rw [f.store, (genLightReady_fr h3).1.store, (onPersistReady_shape h2).2.2.2.2.2.2.2,
      (commitReady_shape h1).2.2.2.2.2.2]
  | applyTo he => exact hstore _ (commitApply_fr he).store
  | writeCommit => exact t
  | @compact k l he =>
    have := compactStore_shape he
    unfold Tie at *
    show a.durTerm = l.store.hardState.term ∧ a.durVote = l.store.hardState.vote
    rw [this]; exact t

/-- a write of a Ready that carries a hard state establishes the tie, whatever was stored before -/
theorem write_hs_tie {a b : App} {rd : Ready} {hs0 : HardState} (h : applyOp a .write = some b)
    (hn : nextToWrite a = some rd) (hh : rd.hs = some hs0) :
    Tie b ∧ b.durTerm = hs0.term ∧ b.durVote = hs0.vote := by
  simp only [applyOp, hn] at h
  cases he : a.n.storageWrite rd with
  | ok n' =>
    simp only [he] at h; injection h with h; subst h
    obtain ⟨_, w1, _⟩ := storageWrite_shape he
    unfold Tie
    show ((durAfter a rd).1 = n'.log.store.hardState.term ∧
      (durAfter a rd).2 = n'.log.store.hardState.vote) ∧ (durAfter a rd).1 = hs0.term ∧
      (durAfter a rd).2 = hs0.vote
    unfold durAfter
    rw [hh, w1 hs0 hh]
    exact ⟨⟨rfl, rfl⟩, rfl, rfl⟩
  | err e => simp only [he] at h; cases h
  | panic s => simp only [he] at h; cases h

/-- runs in which every step satisfies the proviso, from a state where the tie holds -/
inductive ReachS : App → Prop where
  | init {a : App} : Init a → Tie a → ReachS a
  | step {a b : App} {op : Op} : ReachS a → SnapTermOk a op → applyOp a op = some b → ReachS b

theorem ReachS.reach {a : App} (h : ReachS a) : Reach a := by
  induction h with
  | init hi _ => exact .init hi
  | step _ _ hs ih => exact .step ih hs

/-- **the ghost pair is the stored pair**: from `RawNode::new` (`new_init`) on, the pair of the
theorems above is `(term, vote)` of `n.log.store.hardState` -/
theorem C06b_store_tie {a : App} (h : ReachS a) : Tie a := by
  induction h with
  | init _ ht => exact ht
  | step _ hs ho ih => exact step_tie ih hs ho

/-- the two together: immediate messages only when the node's `(term, vote)` is the one in the
model's `MemStorage` -/
theorem C06b_immediate_release_store {a : App} (hr : ReachS a) {n' : RawNodeM} {rd : Ready}
    (h : a.n.ready = .ok (n', rd)) (hm : rd.messages ≠ []) :
    a.n.role = ROLE_LEADER ∧ a.n.term = a.n.log.store.hardState.term ∧
      a.n.vote = a.n.log.store.hardState.vote := by
  obtain ⟨h1, h2, h3⟩ := C06b_immediate_release hr.reach h hm
  obtain ⟨t1, t2⟩ := C06b_store_tie hr
  exact ⟨h1, h2.trans t1, h3.trans t2⟩

/-! ### non-vacuity, and why the contract is needed -/

/-- the state right after `RawNode::new` over `st` -/
def appOfNew (st : MemStorage) (n : RawNodeM) : App :=
  { n := n, durTerm := st.hardState.term, durVote := st.hardState.vote }

/-- `on_persist_ready(k)` **without** the contract `k ≤ written` (everything else as `applyOp`) -/
def applyOpNoContract (a : App) : Op → Option App
  | .persisted k eff =>
    match a.n.onPersistReady k eff with
    | .ok n' => some { a with n := n' }
    | .err _ => none
    | .panic _ => none
  | op => applyOp a op

def runNoContract : App → List Op → Option App
  | a, [] => some a
  | a, op :: ops => match applyOpNoContract a op with
    | some b => runNoContract b ops
    | none => none

/-- executable check: create a node over `st`, run `ops`, test `P` on the state reached -/
def check (runner : App → List Op → Option App) (st : MemStorage) (ops : List Op)
    (P : App → Bool) : Bool :=
  match RawNodeM.new st 0 0 NO_LIMIT with
  | .ok n => match runner (appOfNew st n) ops with
    | some a => P a
    | none => false
  | .err _ => false
  | .panic _ => false

theorem check_sound {runner : App → List Op → Option App} {st : MemStorage} {ops : List Op}
    {P : App → Bool} (h : check runner st ops P = true) :
    ∃ n a, RawNodeM.new st 0 0 NO_LIMIT = .ok n ∧ runner (appOfNew st n) ops = some a ∧
      P a = true := by
  unfold check at h
  cases hn : RawNodeM.new st 0 0 NO_LIMIT with
  | ok n =>
    simp only [hn] at h
    cases hr : runner (appOfNew st n) ops with
    | some a => simp only [hr] at h; exact ⟨n, a, rfl, hr, h⟩
    | none => simp only [hr] at h; cases h
  | err e => simp only [hn] at h; cases h
  | panic s => simp only [hn] at h; cases h

theorem check_reach {st : MemStorage} {ops : List Op} {P : App → Bool}
    (h : check run st ops P = true) : ∃ a, Reach a ∧ P a = true := by
  obtain ⟨n, a, hn, hr, hp⟩ := check_sound h
  exact ⟨a, reach_run (.init (new_init hn).1) hr, hp⟩

/-- what `ready()` would return in state `a`, tested by `Q` -/
def readyIs (Q : App → Ready → Bool) (a : App) : Bool :=
  match a.n.ready with
  | .ok (_, rd) => Q a rd
  | .err _ => false
  | .panic _ => false

theorem readyIs_sound {Q : App → Ready → Bool} {a : App} (h : readyIs Q a = true) :
    ∃ n' rd, a.n.ready = .ok (n', rd) ∧ Q a rd = true := by
  unfold readyIs at h
  cases hr : a.n.ready with
  | ok p => obtain ⟨n', rd⟩ := p; simp only [hr] at h; exact ⟨n', rd, rfl, h⟩
  | err e => simp only [hr] at h; cases h
  | panic s => simp only [hr] at h; cases h

/-- storage of a node that voted for itself (id 1) in term 1 -/
def st1 : MemStorage := { hardState := { term := 1, vote := 1, commit := 0 } }

/-- `Raft` makes the node leader of `term` with vote 1, messages `msgs` queued, log ops `ops` -/
def becomeLeader (term : Nat) (msgs : List Nat) (ops : List LogOp := []) : Op :=
  .env { term := term, vote := 1, role := ROLE_LEADER, leaderId := 1, msgs := msgs,
         readStates := [], limit := 0, ops := ops }

/-- **the hypotheses of `C06b_immediate_release` are satisfiable**: the node wins the election of
term 1, for which its own vote is durable already; the next Ready releases its messages
immediately. -/
theorem C06b_example_immediate :
    ∃ a n' rd, Reach a ∧ a.n.ready = .ok (n', rd) ∧ rd.messages = [7] ∧
      a.n.role = ROLE_LEADER ∧ a.n.term = 1 ∧ a.durTerm = 1 := by
  have h : check run st1 [becomeLeader 1 [7]]
      (readyIs fun a rd => decide (rd.messages = [7] ∧ a.n.role = ROLE_LEADER ∧ a.n.term = 1 ∧
        a.durTerm = 1)) = true := by decide +kernel
  obtain ⟨a, hr, hp⟩ := check_reach h
  obtain ⟨n', rd, hrd, hq⟩ := readyIs_sound hp
  have := of_decide_eq_true hq
  exact ⟨a, n', rd, hr, hrd, this⟩

/-- **the F1 scenario** (single-voter group): the node becomes leader in the same `env` step that
moves it to term 2.  The next Ready releases nothing immediately; the messages are
`persisted_messages`, to be sent after the hard state (term 2) is durable.  After the write and
`advance_append` the following Ready releases immediately again — and then term 2 is durable. -/
theorem C06b_example_F1 :
    (∃ a n' rd, Reach a ∧ a.n.ready = .ok (n', rd) ∧ rd.messages = [] ∧
      rd.persistedMessages = [7] ∧ a.n.role = ROLE_LEADER ∧ a.n.term = 2 ∧ a.durTerm = 1) ∧
    (∃ a n' rd, Reach a ∧ a.n.ready = .ok (n', rd) ∧ rd.messages = [8] ∧
      a.n.role = ROLE_LEADER ∧ a.n.term = 2 ∧ a.durTerm = 2) := by
  have h1 : check run st1 [becomeLeader 2 [7]]
      (readyIs fun a rd => decide (rd.messages = [] ∧ rd.persistedMessages = [7] ∧
        a.n.role = ROLE_LEADER ∧ a.n.term = 2 ∧ a.durTerm = 1)) = true := by decide +kernel
  have h2 : check run st1
      [becomeLeader 2 [7], .ready, .write, .advanceAppend {}, becomeLeader 2 [8]]
      (readyIs fun a rd => decide (rd.messages = [8] ∧ a.n.role = ROLE_LEADER ∧ a.n.term = 2 ∧
        a.durTerm = 2)) = true := by decide +kernel
  constructor
  · obtain ⟨a, hr, hp⟩ := check_reach h1
    obtain ⟨n', rd, hrd, hq⟩ := readyIs_sound hp
    exact ⟨a, n', rd, hr, hrd, of_decide_eq_true hq⟩
  · obtain ⟨a, hr, hp⟩ := check_reach h2
    obtain ⟨n', rd, hrd, hq⟩ := readyIs_sound hp
    exact ⟨a, n', rd, hr, hrd, of_decide_eq_true hq⟩

/-- the same through the asynchronous API: `write`, `advance_append_async`,
`on_persist_ready(1)` -/
theorem C06b_example_async :
    ∃ a n' rd, Reach a ∧ a.n.ready = .ok (n', rd) ∧ rd.messages = [8] ∧ a.n.term = 2 ∧
      a.durTerm = 2 := by
  have h : check run st1
      [becomeLeader 2 [7], .ready, .commitAsync, .write, .persisted 1 {}, becomeLeader 2 [8]]
      (readyIs fun a rd => decide (rd.messages = [8] ∧ a.n.term = 2 ∧ a.durTerm = 2)) = true := by
    decide +kernel
  obtain ⟨a, hr, hp⟩ := check_reach h
  obtain ⟨n', rd, hrd, hq⟩ := readyIs_sound hp
  exact ⟨a, n', rd, hr, hrd, of_decide_eq_true hq⟩

/-- **the hypotheses of `C06b_light_release` are satisfiable** with a non-empty message list: the
new leader of term 2 appends its empty entry (index 1); Ready 1 carries it together with the hard
state; after the write, `advance_append` reports it persisted, the leader commits it and broadcasts
(the raft effect `commit := 1, msgs := [9]`): the `LightReady` carries `[9]`. -/
theorem C06b_example_light :
    ∃ a rd rest eff n' light, Reach a ∧ a.handed = rd :: rest ∧ a.written = rd.number ∧
      a.n.advanceAppend rd eff = .ok (n', light) ∧ light.messages = [9] ∧ n'.term = 2 ∧
      a.durTerm = 2 := by
  have h : check run st1
      [becomeLeader 2 [7] [.tappend [{ index := 1, term := 2 }]], .ready, .write]
      (fun a => match a.handed with
        | rd :: _ => decide (a.written = rd.number) &&
          (match a.n.advanceAppend rd { commit := 1, msgs := [9] } with
           | .ok (n', light) => decide (light.messages = [9] ∧ n'.term = 2 ∧ a.durTerm = 2)
           | .err _ => false
           | .panic _ => false)
        | [] => false) = true := by decide +kernel
  obtain ⟨a, hr, hp⟩ := check_reach h
  cases hH : a.handed with
  | nil => simp only [hH] at hp; cases hp
  | cons rd rest =>
    simp only [hH, Bool.and_eq_true] at hp
    obtain ⟨hw, hp⟩ := hp
    cases ha : a.n.advanceAppend rd { commit := 1, msgs := [9] } with
    | ok p =>
      obtain ⟨n', light⟩ := p
      simp only [ha] at hp
      exact ⟨a, rd, rest, _, n', light, hr, hH, of_decide_eq_true hw, ha, of_decide_eq_true hp⟩
    | err e => simp only [ha] at hp; cases hp
    | panic s => simp only [ha] at hp; cases hp

/-- **the contract is needed.**  If the application calls `on_persist_ready(1)` *before* it has
written Ready 1 (`written = 0`), the node forgets that its hard state (term 2) is unpersisted and
the next Ready releases leader messages of term 2 immediately — while the stable storage still
says term 1: the conclusion of `C06b_immediate_release` fails. -/
theorem C06b_contract_needed :
    ∃ n a n' rd, RawNodeM.new st1 0 0 NO_LIMIT = .ok n ∧ Init (appOfNew st1 n) ∧
      runNoContract (appOfNew st1 n)
        [becomeLeader 2 [7], .ready, .commitAsync, .persisted 1 {}, becomeLeader 2 [8]] = some a ∧
      a.written = 0 ∧ a.n.ready = .ok (n', rd) ∧ rd.messages = [8] ∧ a.n.term = 2 ∧
      a.durTerm = 1 := by
  have h : check runNoContract st1
      [becomeLeader 2 [7], .ready, .commitAsync, .persisted 1 {}, becomeLeader 2 [8]]
      (readyIs fun a rd => decide (a.written = 0 ∧ rd.messages = [8] ∧ a.n.term = 2 ∧
        a.durTerm = 1)) = true := by decide +kernel
  obtain ⟨n, a, hn, hr, hp⟩ := check_sound h
  obtain ⟨n', rd, hrd, hq⟩ := readyIs_sound hp
  obtain ⟨q1, q2⟩ := of_decide_eq_true hq
  exact ⟨n, a, n', rd, hn, (new_init hn).1, hr, q1, hrd, q2⟩

/-- … and with the contract that call sequence is not a run at all -/
theorem C06b_contract_blocks :
    check run st1 [becomeLeader 2 [7], .ready, .commitAsync, .persisted 1 {}] (fun _ => true) =
      false := by decide +kernel

/-- storage with one entry, committed -/
def st2 : MemStorage :=
  { entries := [{ index := 1, term := 1 }], hardState := { term := 1, vote := 1, commit := 1 } }

/-- **the proviso `SnapTermOk` of `C06b_store_tie` is needed on this model.**  A follower of term 1
restores a snapshot at its commit index (1) whose metadata says term 9: the Ready carries the
snapshot but no hard state (nothing of `(term, vote, commit)` changed);
`MemStorage::apply_snapshot` raises the stored term to 9.  The ghost pair — and the node — stay at
term 1.  (Not a defect of `RawNode`: Raft never restores a snapshot of a term above its own, and
the test storage's `max` is there for exactly the opposite case.) -/
theorem C06b_snapshot_raises_stored_term :
    ∃ a b, Reach a ∧ Tie a ∧ applyOp a .write = some b ∧ b.durTerm = 1 ∧ b.n.term = 1 ∧
      b.n.log.store.hardState.term = 9 := by
  have h : check run st2
      [.env { term := 1, vote := 1, role := ROLE_FOLLOWER, leaderId := 2, msgs := [],
              readStates := [], limit := 0,
              ops := [.restore { metadata := { index := 1, term := 9 } }] }, .ready]
      (fun a => decide (a.durTerm = a.n.log.store.hardState.term ∧
          a.durVote = a.n.log.store.hardState.vote) &&
        (match applyOp a .write with
         | some b => decide (b.durTerm = 1 ∧ b.n.term = 1 ∧ b.n.log.store.hardState.term = 9)
         | none => false)) = true := by decide +kernel
  obtain ⟨a, hr, hp⟩ := check_reach h
  simp only [Bool.and_eq_true] at hp
  obtain ⟨ht, hp⟩ := hp
  cases hb : applyOp a .write with
  | some b =>
    simp only [hb] at hp
    have ht := of_decide_eq_true ht
    exact ⟨a, b, hr, ht, hb, of_decide_eq_true hp⟩
  | none => simp only [hb] at hp; cases hp

end RaftProps.C06b
