import RaftProofs.ClusterRead4N
import RaftProofs.ClusterReadO

/-!
# C08, cluster level — Safe ReadIndex for FORWARDED reads (`ClusterSem`): bundle, the two proved halves, F17 excluded

`RaftProps/C08c.lean` proves Safe-ReadIndex linearizability for reads issued at the leader under `RdHyp`,
whose field `nori` (no `MsgReadIndex` in the transport) excludes every read forwarded by a follower, and
shows (`C08_cluster_forwarded_read_counterexample`, finding F17) that `nori` cannot simply be dropped: a
SECOND delivery of a forwarded `MsgReadIndex` re-registers an old context behind newer requests.

This file states the bundle for forwarded reads, `RdHypF cfg c0 h` (`RaftProofs/ClusterRead3B.lean`):
`Hyp3w`, `safe`, and in place of `nori` / `norir`
* `once`: no two steps of the history deliver the same `MsgReadIndex` value to the same node
  (`DeliverAt`, an existential reading of a `KStep.deliver` step);
* `uniqc` / `nonempty`: unique non-empty contexts over ALL `read_index` calls (`ReadCallAt`).

**What is proved here (the two halves; the end-to-end `C08_cluster_forwarded_read_index_safe` is in
`RaftProps/C08f.lean`):**
* `C08_cluster_forwarded_read_leader_side_partial`: a delivered `MsgReadIndex` that registers its context at
  step `k` does so on a leader that has committed in its term, with that leader's commit index as read
  index; that index covers every commit index of every node in every earlier-or-equal state `h[n]`,
  `n ≤ k`, PROVIDED no term above the leader's is led at or before `h[n]`;
* `C08_cluster_forwarded_read_follower_side_partial`: the step that adds a read state to a node either
  delivers a `MsgReadIndexResp` of the transport to that node — a follower; the response carries no term
  or the follower's term; the read state is `(resp.index, resp.entries[0].data)` — or answers a request
  filed at that very node (`Ans`, the C08c case);
* `C08_cluster_forwarded_counterexample_violates_once`: F17's history delivers the same `MsgReadIndex` to
  node 1 at steps 16 and 40, hence is not an `RdHypF` history;
* `C08_cluster_forwarded_partial_inhabited`: the premises `FwdAt` / `FwdRegAt` of the statements are
  inhabited (steps 14 / 16 of F17's history, whose prefix up to the second delivery is an honest run).

**What the end-to-end theorem adds** (`RaftProps/C08f.lean`): the proviso of the leader-side half is
discharged (by `quorum_no_higher`, whose invariants `pend_ok` / `occ_issued` / `hbr_floor` / `tgt_inv`
cover, with `once`, the registrations caused by deliveries as well as those with `req.from = 0`), and
the link "queued `MsgReadIndexResp` ↔ released pending request" (the clause `RirOk` of the per-call
invariant `R4.RInv`).
-/
namespace RaftProps.C08
open RaftModel RaftModel.Cluster RaftModel.Node RaftModel.Raft.RD
open RaftProps.C02

/-- **C08 forwarded reads, leader side (partial).**  Let the step `h[k] → h[k+1]` deliver the
`MsgReadIndex` `m` to node `l` and register the context `K` with read index `idx` (`FwdRegAt`: `K` was not
pending on `l` before, and is pending afterwards with index `idx`).  Then `K` is the context `m` carries,
`l` is a leader in `h[k]` that has committed an entry of its term, `idx` is its commit index in `h[k]`,
`idx` covers every commit event before `h[k]` of a term up to `l`'s (`IdxOK`), and for every `n ≤ k` — in
particular the step of the follower's `read_index` call that forwarded `m` — **`idx` is at least the commit
index of every node in `h[n]`, provided no term above `l`'s is led in any state up to `h[n]`**.
Only `Hyp3w` and `safe` of `RdHypF` are used. -/
theorem C08_cluster_forwarded_read_leader_side_partial (cfg : JointConfig) (c0 : Nat) (h : List Sys)
    (H : RdHypF cfg c0 h) (k l : Nat) (m : Message) (K : Bytes) (idx : Nat)
    (hreg : FwdRegAt h k l m K idx) :
    reqCtx m = some K ∧
    ∃ a st, h[k]? = some a ∧ a.node l = some st ∧ st.raft.state = .leader ∧
      st.raft.commitToCurrentTerm = .ok true ∧
      idx = st.raft.raftLog.committed ∧ IdxOK h c0 k st.raft.term idx ∧
      ∀ n sn, n ≤ k → h[n]? = some sn →
        (∀ n1 s1 l' t', h[n1]? = some s1 → n1 ≤ n → leads s1 l' t' → t' ≤ st.raft.term) →
        ∀ u stu, sn.node u = some stu → stu.raft.raftLog.committed ≤ idx :=
  fwd_reg_covers (.of_hyp3w H.toHyp3w) H.safe hreg

/-- **C08 forwarded reads, follower side (partial).**  If the step `h[n] → h[n+1]` adds the read state `x`
to node `j`, then either the step delivers a `MsgReadIndexResp` `y` of the transport to `j`, `j` is a
follower afterwards, `y` carries no term or `j`'s term, has exactly one entry, and
`x = (y.index, y.entries[0].data)`; or node `j` answers a request of its own queue that was filed at `j`
itself (`Ans`: `req.from = 0 ∨ req.from = j`, released by a joint quorum of acknowledgements — the case
C08c covers).  Only `Hyp3w` and `safe` of `RdHypF` are used. -/
theorem C08_cluster_forwarded_read_follower_side_partial (cfg : JointConfig) (c0 : Nat) (h : List Sys)
    (H : RdHypF cfg c0 h) (n : Nat) (a b : Sys) (ha : h[n]? = some a) (hb : h[n + 1]? = some b)
    (j : Nat) (st st' : NState) (hja : a.node j = some st) (hjb : b.node j = some st')
    (x : ReadState) (hx : x ∈ st'.raft.readStates) (hnew : x ∉ st.raft.readStates) :
    (∃ y, y ∈ a.net ∧ y.to = j ∧ y.msgType = .msgReadIndexResp ∧ DeliverAt h n j y ∧
      st'.raft.state = .follower ∧ (y.term = 0 ∨ y.term = st'.raft.term) ∧
      ∃ en, y.entries = [en] ∧ x = { index := y.index, requestCtx := en.data }) ∨
    (∃ m, Ans cfg st.raft m x) :=
  read_state_source H.toHyp3w H.safe ha hb hja hjb hx hnew

/-- the hypotheses of C08c stated over calls (`RdHyp.of_calls`) give `RdHypF`: a transport without any
`MsgReadIndex` delivers none twice -/
theorem C08_cluster_rdHypF_of_nori (cfg : JointConfig) (c0 : Nat) (h : List Sys) (H3 : Hyp3w cfg c0 h)
    (safe : ∀ s ∈ h, ∀ i st, s.node i = some st → st.raft.readOnly.option = .safe)
    (nori : ∀ s ∈ h, ∀ x ∈ s.net, x.msgType ≠ .msgReadIndex)
    (uniqc : ∀ n1 n2 i1 i2 K, ReadCallAt h n1 i1 K → ReadCallAt h n2 i2 K → n1 = n2)
    (nec : ∀ n i K, ReadCallAt h n i K → K ≠ []) : RdHypF cfg c0 h :=
  RdHypF.of_nori H3 safe nori uniqc nec

/-- **F17's history violates `once`** (kernel-evaluated): the history of
`C08_cluster_forwarded_read_counterexample` (`c08y_hist`) delivers one and the same `MsgReadIndex` to
node 1 at step 16 and at step 40 -/
theorem C08_cluster_forwarded_counterexample_violates_once :
    ∃ (m : Message), m.msgType = .msgReadIndex ∧
      DeliverAt c08y_hist 16 1 m ∧ DeliverAt c08y_hist 40 1 m :=
  ⟨c08y_fwd, c08y_fwd_type, c08y_deliver16, c08y_deliver40⟩

/-- … hence it is not a history of the new bundle: `once` excludes exactly F17's mechanism -/
theorem C08_cluster_forwarded_counterexample_not_rdHypF (cfg : JointConfig) (c0 : Nat) :
    ¬ RdHypF cfg c0 c08y_hist := fun H => by
  have := H.once 16 40 1 c08y_fwd c08y_fwd_type c08y_deliver16 c08y_deliver40
  omega

/-- the premises of the statements are inhabited (kernel-evaluated, in F17's history, which satisfies
`Hyp3w` and `safe`; its steps before the second delivery are an honest run): step 14 is a forwarding
`read_index([9])` call on follower 2 (`FwdAt`), step 16 delivers the forwarded message to leader 1, which
registers `[9]` with read index 1 (`FwdRegAt`), and the leader-side half applies to it -/
theorem C08_cluster_forwarded_partial_inhabited :
    Hyp3w c02x_cfg 0 c08y_hist ∧
    (∀ s ∈ c08y_hist, ∀ i st, s.node i = some st → st.raft.readOnly.option = .safe) ∧
    FwdAt c08y_hist 14 2 [9] ∧
    ∃ m, FwdRegAt c08y_hist 16 1 m [9] 1 ∧ reqCtx m = some [9] ∧ m.frm = 2 :=
  ⟨c08y_hyp3.toHyp3w, c08y_safe, c08y_fwdAt, c08y_fwd, c08y_fwdRegAt, c08y_eval.2.1.2.2.2.1,
    c08y_eval.2.1.2.2.2.2.1⟩

end RaftProps.C08
