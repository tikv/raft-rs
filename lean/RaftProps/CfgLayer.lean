import RaftProofs.ProtoCfg
import RaftProps.C01
import RaftProps.C02
import RaftProps.C03
import RaftProps.C04
import RaftProps.C08
import RaftProps.C15

/-!
# The configuration-aware layer PC: the headline theorems without any assumption on configurations

P (`RaftModel/Proto.lean`) takes the voter configuration of every election and of every leader commit
as a parameter of the event and *demands* that configurations which have to agree are adjacent
(`adjOk`) or that the agreement is exhibited.  PC (`RaftModel/ProtoCfg.lean`) checks instead what
raft-rs enforces locally: the configuration is the one of the membership-change entries the node has
*applied*, and at most one further membership-change entry sits in the winner's log / in the prefix
a leader commits.  `RaftProofs/ProtoCfg.lean` proves that on every reachable state of PC the
cross-history demands of P are implied (`win_adj_redundant`, `commit_adj_redundant`), so PC's
`win` / `commitLeader` are refused only for local reasons (`winC_accepts_iff`,
`commitC_accepts_iff`); every PC history is a P history (`reach_base`).

The same for the read-index events: PC's `resp` / leader-local `rstate` check locally that the
configuration is the one of the applied membership changes and that the leader's version did not go
backwards (`verMono`); P's cross-history demand `rdCfgOk` is implied (`read_adj_redundant`,
`respC_accepts_iff`, `rstateC_accepts_iff`).

Here: the headline theorems (C01 state-machine safety, C02 election safety, C03 leader completeness,
C04 durability of commits, C08 read index, C15 snapshots) restated over PC — one-line corollaries —
and concrete PC histories (a membership change carried through, reads answered under the new
version, and the local guards refusing).
-/
namespace RaftProps.CfgLayer
open RaftModel.P RaftProps.C01

/-! ### PC histories are P histories -/

/-- continuations of a PC history -/
inductive StepsC : CSys → CSys → Prop where
  | refl (S : CSys) : StepsC S S
  | tail {S S' S'' : CSys} (e : CEvent) : StepsC S S' → applyEventC S' e = .ok S'' → StepsC S S''

theorem reachPC_of_stepsC {S S' : CSys} (hr : ReachPC S) (h : StepsC S S') : ReachPC S' := by
  induction h with
  | refl => exact hr
  | tail e _ hs ih => exact .step e ih hs

theorem steps_base {S S' : CSys} (h : StepsC S S') : Steps S.base S'.base := by
  induction h with
  | refl => exact .refl _
  | tail e _ hs ih =>
    rcases stepC_base hs with h1 | ⟨e', h1⟩
    · rw [h1]; exact ih
    · exact .tail e' ih h1

/-- a run of PC projects to a run of P -/
theorem runC_base : ∀ (es : List CEvent) (S S' : CSys), runC S es = .ok S' →
    ∃ es', run S.base es' = .ok S'.base := by
  intro es
  induction es with
  | nil => intro S S' h; simp only [runC] at h; cases h; exact ⟨[], rfl⟩
  | cons e es ih =>
    intro S S' h
    simp only [runC] at h
    split at h
    · rename_i S1 h1
      obtain ⟨es1, hes1⟩ := ih S1 S' h
      rcases stepC_base h1 with hb | ⟨e', hb⟩
      · rw [hb] at hes1; exact ⟨es1, hes1⟩
      · refine ⟨e' :: es1, ?_⟩
        simp only [run, hb]; exact hes1
    · cases h

theorem reachPC_runC : ∀ (es : List CEvent) (S S' : CSys), ReachPC S → runC S es = .ok S' → ReachPC S' := by
  intro es
  induction es with
  | nil => intro S S' hr h; simp only [runC] at h; cases h; exact hr
  | cons e es ih =>
    intro S S' hr h
    simp only [runC] at h
    split at h
    · rename_i S1 h1; exact ih S1 S' (.step e hr h1) h
    · cases h

/-! ### C01 — state-machine safety -/

/-- **State Machine Safety** in every reachable state of PC -/
theorem C01_state_machine_safety (S : CSys) (hr : ReachPC S) (i j k : Nat) (hk : 0 < k)
    (hi : k ≤ (S.base.nodes i).commit) (hj : k ≤ (S.base.nodes j).commit) :
    (S.base.nodes i).log[k - 1]? = (S.base.nodes j).log[k - 1]? :=
  RaftProps.C01.C01_state_machine_safety S.base (reach_base hr) i j k hk hi hj

theorem C01_committed_prefixes_agree (S : CSys) (hr : ReachPC S) (i j : Nat) :
    (S.base.nodes i).log.take (min (S.base.nodes i).commit (S.base.nodes j).commit) =
      (S.base.nodes j).log.take (min (S.base.nodes i).commit (S.base.nodes j).commit) :=
  RaftProps.C01.C01_committed_prefixes_agree S.base (reach_base hr) i j

theorem C01_agree_durable (S : CSys) (hr : ReachPC S) (i j k : Nat)
    (hi : k ≤ (S.base.nodes i).commit) (hj : k ≤ (S.base.nodes j).dcommit) :
    (S.base.nodes i).log.take k = (S.base.nodes j).dlog.take k :=
  RaftProps.C01.C01_agree_durable S.base (reach_base hr) i j k hi hj

/-- **No index is ever reported with two different entries**, along PC steps -/
theorem C01_never_reports_differently (S S' : CSys) (hr : ReachPC S) (hs : StepsC S S') (k : Nat)
    (e e' : LEntry) (h : Reports S.base k e) (h' : Reports S'.base k e') : e = e' :=
  RaftProps.C01.C01_never_reports_differently S.base S'.base (reach_base hr) (steps_base hs) k e e' h h'

/-- the full statement of C01 over PC runs -/
theorem C01_full : ∀ (S S' : CSys), ReachPC S → (∃ es, runC S es = .ok S') → ∀ k e e',
    Reports S.base k e → Reports S'.base k e' → e = e' := by
  intro S S' hr ⟨es, hes⟩ k e e' h h'
  exact RaftProps.C01.C01_full S.base S'.base (reach_base hr) (runC_base es S S' hes) k e e' h h'

/-! ### C02 — election safety -/

theorem C02_election_safety (S : CSys) (hr : ReachPC S) (t a b : Nat)
    (ha : (t, a) ∈ S.base.elected) (hb : (t, b) ∈ S.base.elected) : a = b :=
  RaftProps.C02.C02_election_safety S.base (reach_base hr) t a b ha hb

theorem C02_one_leader_per_term (S : CSys) (hr : ReachPC S) (i j : Nat)
    (hi : (S.base.nodes i).role = 2) (hj : (S.base.nodes j).role = 2)
    (ht : (S.base.nodes i).term = (S.base.nodes j).term) : i = j :=
  RaftProps.C02.C02_one_leader_per_term S.base (reach_base hr) i j hi hj ht

theorem C02_one_vote_per_term_ever (S : CSys) (hr : ReachPC S) (g1 g2 : Grant) (h1 : g1 ∈ S.base.grants)
    (h2 : g2 ∈ S.base.grants) (ht : g1.term = g2.term) (hv : g1.voter = g2.voter) : g1.cand = g2.cand :=
  RaftProps.C02.C02_one_vote_per_term_ever S.base (reach_base hr) g1 g2 h1 h2 ht hv

theorem C02_full : ∀ (S : CSys), ReachPC S → ∀ t a b, (t, a) ∈ S.base.elected → (t, b) ∈ S.base.elected → a = b :=
  fun S hr => RaftProps.C02.C02_election_safety S.base (reach_base hr)

/-- in PC the election of a term is *fresh* without looking at other elections: the same-term part of
P's guard is implied, so a second `win` in a term is impossible for local reasons alone -/
theorem C02_win_fresh (S : CSys) (hr : ReachPC S) (i : Nat) (cfg : Cfg) (q : List Nat) (applied : Nat)
    (hloc : winLocal S i cfg applied) (hcore : winCore S.base i cfg q = true) :
    ¬ Elected S.base (S.base.nodes i).term := by
  have hI := invAll_reachR _ (reach_base hr)
  exact win_fresh hI.v hI.l (win_accepted_by_P S hr i cfg q applied hloc hcore)

/-! ### C03 — leader completeness -/

theorem C03_leader_completeness (S : CSys) (hr : ReachPC S) (p : Nat × Nat) (hp : p ∈ S.base.cmts) (t' : Nat)
    (hlt : p.1 < t') (hel : ∃ j, (t', j) ∈ S.base.elected) :
    (S.base.llog t').take p.2 = (S.base.llog p.1).take p.2 :=
  RaftProps.C03.C03_leader_completeness S.base (reach_base hr) p hp t' hlt hel

theorem C03_leader_holds_committed (S : CSys) (hr : ReachPC S) (i : Nat) (hi : (S.base.nodes i).role = 2)
    (p : Nat × Nat) (hp : p ∈ S.base.cmts) (ht : p.1 ≤ (S.base.nodes i).term) :
    (S.base.nodes i).log.take p.2 = (S.base.llog p.1).take p.2 :=
  RaftProps.C03.C03_leader_holds_committed S.base (reach_base hr) i hi p hp ht

theorem C03_elected_with_committed (S : CSys) (hr : ReachPC S) (p : Nat × Nat) (hp : p ∈ S.base.cmts) (t : Nat)
    (ht : p.1 < t) (hel : ∃ j, (t, j) ∈ S.base.elected) : (S.base.elog t).take p.2 = (S.base.llog p.1).take p.2 :=
  RaftProps.C03.C03_elected_with_committed S.base (reach_base hr) p hp t ht hel

theorem C03_full : ∀ (S : CSys), ReachPC S → ∀ i, (S.base.nodes i).role = 2 → ∀ p ∈ S.base.cmts,
    p.1 ≤ (S.base.nodes i).term → (S.base.nodes i).log.take p.2 = (S.base.llog p.1).take p.2 :=
  fun S hr => RaftProps.C03.C03_leader_holds_committed S.base (reach_base hr)

/-- the evidence behind a recorded leader commit, in PC terms: a quorum **of the configuration of the
version the leader had applied** acknowledged it durably -/
theorem C03_commit_evidence_versioned (S : CSys) (hr : ReachPC S) (x : (Nat × Nat) × Nat) (hx : x ∈ S.cvs) :
    x.1 ∈ S.base.cmts ∧ ∃ cfg q, S.vtab[x.2]? = some cfg ∧ cfg.isQuorum q = true ∧
      ∀ v ∈ q, ∃ a ∈ S.base.acks, a.term = x.1.1 ∧ a.frm = v ∧ x.1.2 ≤ a.idx :=
  ⟨cvs_mem_cmts (invCfg_reach hr) hx, (invCfg_reach hr).cq x hx⟩

/-! ### C04 — commit soundness and durability -/

theorem C04_commit_within_leader_commit (S : CSys) (hr : ReachPC S) (i : Nat) (h0 : 0 < (S.base.nodes i).commit) :
    ∃ p ∈ S.base.cmts, (S.base.nodes i).commit ≤ p.2 ∧ p.1 ≤ (S.base.nodes i).term ∧
      (S.base.nodes i).log.take (S.base.nodes i).commit = (S.base.llog p.1).take (S.base.nodes i).commit :=
  RaftProps.C04.C04_commit_within_leader_commit S.base (reach_base hr) i h0

theorem C04_committed_durable_on_quorum (S : CSys) (hr : ReachPC S) (p : Nat × Nat) (hp : p ∈ S.base.cmts) :
    ∃ cfg q, (p, cfg) ∈ S.base.ccfgs ∧ cfg.isQuorum q = true ∧
      ∀ v ∈ q, (S.base.nodes v).dlog.take p.2 = (S.base.llog p.1).take p.2 :=
  RaftProps.C04.C04_committed_durable_on_quorum S.base (reach_base hr) p hp

theorem C04_survives_minority_crash (S : CSys) (hr : ReachPC S) (p : Nat × Nat) (hp : p ∈ S.base.cmts) :
    ∃ cfg, (p, cfg) ∈ S.base.ccfgs ∧ ∀ (c' : Cfg) (alive : List Nat), adjOk c' cfg = true →
      c'.isQuorum alive = true → ∃ v ∈ alive, (S.base.nodes v).dlog.take p.2 = (S.base.llog p.1).take p.2 :=
  RaftProps.C04.C04_survives_minority_crash S.base (reach_base hr) p hp

theorem C04_full : ∀ (S : CSys), ReachPC S → ∀ i j k,
    k ≤ (S.base.nodes i).commit → k ≤ (S.base.nodes j).commit →
      (S.base.nodes i).log.take k = (S.base.nodes j).log.take k :=
  fun S hr => RaftProps.C04.C04_agreement S.base (reach_base hr)

/-! ### C08 — read index -/

theorem C08_read_state_safe (S : CSys) (hr : ReachPC S) (d : ReadResp) (hd : d ∈ S.base.rd.done) :
    SafeAnswer S.base d :=
  RaftProps.C08.C08_read_state_safe S.base (reach_base hr) d hd

theorem C08_response_safe (S : CSys) (hr : ReachPC S) (d : ReadResp) (hd : d ∈ S.base.rd.resps) :
    SafeAnswer S.base d :=
  RaftProps.C08.C08_response_safe S.base (reach_base hr) d hd

/-- linearizability of Safe ReadIndex over PC runs -/
theorem C08_full : ∀ (S0 S1 S2 : CSys), ReachPC S0 → ∀ i rid,
    applyEventC S0 (.base (.read (.issue i rid))) = .ok S1 →
    ∀ es, runC S1 es = .ok S2 → ∀ d ∈ S2.base.rd.done, d.rid = rid →
      d.to = i ∧ ∀ j, (S0.base.nodes j).commit ≤ d.idx := by
  intro S0 S1 S2 hr i rid hissue es hrun d hd hrid
  have hissue' : applyEvent S0.base (.read (.issue i rid)) = .ok S1.base := by
    simp only [applyEventC, isWinOrCommit, Bool.false_eq_true, if_false] at hissue
    split at hissue
    · rename_i b hb; cases hissue; exact hb
    · simp at hissue
  obtain ⟨es', hes'⟩ := runC_base es S1 S2 hrun
  exact RaftProps.C08.C08_linearizable S0.base S1.base S2.base (reach_base hr) i rid hissue' es' hes' d hd hrid

/-- in PC a remote read is answered for local reasons alone: the leader acts under the configuration
of the membership changes it has applied, its version has not gone backwards, it registered the
request with this index and a quorum of that configuration confirmed its leadership since -/
theorem C08_resp_local (S : CSys) (hr : ReachPC S) (i rid idx : Nat) (cfg : Cfg) (applied : Nat) :
    (∃ S', applyEventC S (.resp i rid idx cfg applied) = .ok S') ↔
      (readLocal S i cfg applied ∧ respCore S.base i rid idx cfg = true) :=
  respC_accepts_iff S hr i rid idx cfg applied

/-- ... and so is a read state handed to the application -/
theorem C08_rstate_local (S : CSys) (hr : ReachPC S) (j rid idx : Nat) (cfg : Cfg) (applied : Nat) :
    (∃ S', applyEventC S (.rstate j rid idx cfg applied) = .ok S') ↔
      (∃ r, S.base.rd.issued.find? (fun r => r.rid = rid) = some r ∧ (S.base.nodes j).up = true ∧ r.node = j ∧
        (S.base.rd.resps.contains ⟨rid, j, idx⟩ = true ∨
          (readLocal S j cfg applied ∧ respCore S.base j rid idx cfg = true))) :=
  rstateC_accepts_iff S hr j rid idx cfg applied

/-- every answer PC lets through is safe, whatever configurations the history went through -/
theorem C08_answer_safe_step (S S' : CSys) (hr : ReachPC S) (e : CEvent) (h : applyEventC S e = .ok S')
    (d : ReadResp) (hd : d ∈ S'.base.rd.resps ∨ d ∈ S'.base.rd.done) : SafeAnswer S'.base d :=
  (invRd_reachR _ (reach_base (.step e hr h))).safe d hd

/-! ### C15 — snapshots -/

theorem C15_snapshot_is_committed_prefix (S : CSys) (hr : ReachPC S) (m : Snap) (hm : m ∈ S.base.snaps) (i : Nat)
    (hi : m.idx ≤ (S.base.nodes i).commit) : (S.base.nodes i).log.take m.idx = m.pre :=
  RaftProps.C15.C15_snapshot_is_committed_prefix S.base (reach_base hr) m hm i hi

theorem C15_snapshot_entries_committed (S : CSys) (hr : ReachPC S) (m : Snap) (hm : m ∈ S.base.snaps) (k : Nat)
    (hk : 0 < k) (hi : k ≤ m.idx) : ∃ e, m.pre[k - 1]? = some e ∧ Committed S.base k e :=
  RaftProps.C15.C15_snapshot_entries_committed S.base (reach_base hr) m hm k hk hi

theorem C15_full : ∀ (S : CSys), ReachPC S → ∀ m ∈ S.base.snaps, ∀ i,
    m.idx ≤ (S.base.nodes i).commit → (S.base.nodes i).log.take m.idx = m.pre :=
  fun S hr => RaftProps.C15.C15_snapshot_is_committed_prefix S.base (reach_base hr)

/-! ### the configuration table -/

/-- versions at distance at most one have meeting quorums (hence: the configuration a node acts under
meets the configuration of every node that is at most one membership change ahead or behind) -/
theorem versions_adjacent (S : CSys) (hr : ReachPC S) (a b : Nat) (ca cb : Cfg) (ha : S.vtab[a]? = some ca)
    (hb : S.vtab[b]? = some cb) (h1 : a ≤ b + 1) (h2 : b ≤ a + 1) (qa qb : List Nat)
    (hqa : ca.isQuorum qa = true) (hqb : cb.isQuorum qb = true) : ∃ v, v ∈ qa ∧ v ∈ qb :=
  adj_intersect ca cb ((invCfg_reach hr).adj ha hb h1 h2) qa qb hqa hqb

/-! ### non-vacuity (a): a three-voter group elects a leader, which commits a membership-change entry
adding a fourth voter; nodes 1 and 2 apply it (same configuration: version 1); the leader then
commits under version 1 (quorum 3 of 4) and a new leader is elected under version 1 -/

def c3 : Cfg := ⟨[1, 2, 3], []⟩
def c4 : Cfg := ⟨[1, 2, 3, 4], []⟩
/-- a membership-change entry (`EntryConfChange`) -/
def eC : LEntry := ⟨1, 1, 42⟩
def eC' : LEntry := ⟨1, 1, 43⟩
def e2 : LEntry := ⟨1, 0, 7⟩

def histA : List CEvent :=
  [.cfgInit c3,
   .base (.bump 1 1), .base (.campaign 1), .base (.rdy 1), .base (.persist 1 1), .base (.release 1 (.grant 1 1 1 {})),
   .base (.release 1 (.voteReq 1 1 0 0)),
   .base (.bump 2 1), .base (.grant 2 1), .base (.rdy 2), .base (.persist 2 1), .base (.release 2 (.grant 1 2 1 {})),
   .win 1 c3 [1, 2] 0,
   .base (.leaderAppend 1 eC), .base (.ackSelf 1 1), .base (.rdy 1), .base (.persist 1 1), .base (.release 1 (.ack 1 1 1 [])),
   .base (.sendApp 1 ⟨1, 1, 0, 0, [eC], 0⟩),
   .base (.recvApp 2 ⟨1, 1, 0, 0, [eC], 0⟩), .base (.rdy 2), .base (.persist 2 1), .base (.release 2 (.ack 1 2 1 [])),
   .commitLeader 1 1 c3 [1, 2] 0,
   .applyConf 1 1 c4,
   .base (.leaderAppend 1 e2), .base (.ackSelf 1 2), .base (.rdy 1), .base (.persist 1 1), .base (.release 1 (.ack 1 1 2 [])),
   .base (.sendApp 1 ⟨1, 1, 1, 1, [e2], 1⟩),
   .base (.recvApp 2 ⟨1, 1, 1, 1, [e2], 1⟩), .base (.commitApp 2 1 ⟨1, 1, 1, 1, [e2], 1⟩),
   .base (.rdy 2), .base (.persist 2 1), .base (.release 2 (.ack 1 2 2 [])),
   .applyConf 2 1 c4,
   .base (.sendApp 1 ⟨1, 1, 0, 0, [eC, e2], 1⟩),
   .base (.bump 3 1), .base (.recvApp 3 ⟨1, 1, 0, 0, [eC, e2], 1⟩), .base (.rdy 3), .base (.persist 3 1),
   .base (.release 3 (.ack 1 3 2 [])),
   .commitLeader 1 2 c4 [1, 2, 3] 1,
   .base (.bump 2 2), .base (.campaign 2), .base (.rdy 2), .base (.persist 2 1), .base (.release 2 (.grant 2 2 2 {})),
   .base (.release 2 (.voteReq 2 2 0 0)),
   .base (.bump 3 2), .base (.grant 3 2), .base (.rdy 3), .base (.persist 3 1), .base (.release 3 (.grant 2 3 2 {})),
   .base (.bump 1 2), .base (.grant 1 2), .base (.rdy 1), .base (.persist 1 1), .base (.release 1 (.grant 2 1 2 {})),
   .win 2 c4 [2, 3, 1] 1]

/-- the history is accepted; the table holds versions 0 and 1, the elections were decided under
versions 0 and 1, the commits under versions 0 and 1; node 2 is the leader of term 2 -/
example : (match runC cinit histA with
    | .ok S => decide (S.vtab = [c3, c4]) && decide (S.evs = [(2, 1), (1, 0)]) &&
        decide (S.cvs = [((1, 2), 1), ((1, 1), 0)]) && decide ((S.base.nodes 1).commit = 2) &&
        decide ((S.base.nodes 2).role = 2) && decide (S.base.elected = [(2, 2), (1, 1)]) &&
        decide (S.base.ecfgs = [(2, c4), (1, c3)]) && decide (S.base.ccfgs = [((1, 2), c4), ((1, 1), c3)])
    | .error _ => false) = true := by decide +kernel

/-- a second node applying the same entry must obtain the same configuration -/
example : (match runC cinit (histA.take 36 ++ [.applyConf 2 1 ⟨[1, 2, 3, 5], []⟩]) with
    | .ok _ => "applied" | .error _ => "refused") = "refused" := by decide +kernel

/-- the new configuration must be one membership-change step from its predecessor -/
example : (match runC cinit (histA.take 24 ++ [.applyConf 1 1 ⟨[4, 5, 6], []⟩]) with
    | .ok _ => "applied" | .error _ => "refused") = "refused" := by decide +kernel

/-- after applying the change the leader may not commit under the old configuration any more
(version 0 is not the version of its applied index 1), nor with a majority of the old voter set only -/
example : (match runC cinit (histA.take 43 ++ [.commitLeader 1 2 c3 [1, 2] 1]) with
    | .ok _ => "committed" | .error _ => "refused") = "refused" := by decide +kernel
example : (match runC cinit (histA.take 43 ++ [.commitLeader 1 2 c4 [1, 2] 1]) with
    | .ok _ => "committed" | .error _ => "refused") = "refused" := by decide +kernel

/-! ### non-vacuity (a'): reads after the membership change — the leader of term 1, having applied the
change (version 1, four voters), answers a remote read of node 2 and a local read, its leadership
confirmed by three of the four voters -/

def histR : List CEvent :=
  histA.take 44 ++
  [.base (.read (.issue 2 7)), .base (.read (.start 1 7)), .base (.read (.hback 2)), .base (.read (.hback 3)),
   .resp 1 7 2 c4 1, .rstate 2 7 2 c4 0,
   .base (.read (.issue 1 8)), .base (.read (.start 1 8)), .base (.read (.hback 2)), .base (.read (.hback 3)),
   .rstate 1 8 2 c4 1]

/-- the history is accepted: the response to request 7 was released to node 2 and handed out there,
request 8 was answered locally; both requests saw the two leader commits (of versions 0 and 1) -/
example : (match runC cinit histR with
    | .ok S => decide (S.base.rd.resps = [⟨7, 2, 2⟩]) && decide (S.base.rd.done = [⟨8, 1, 2⟩, ⟨7, 2, 2⟩]) &&
        decide (S.base.rd.issued = [⟨8, 1, 2, 5⟩, ⟨7, 2, 2, 5⟩]) && decide (S.vtab = [c3, c4]) &&
        decide (S.cvs = [((1, 2), 1), ((1, 1), 0)])
    | .error _ => false) = true := by decide +kernel

/-- the local read guard bites: a leader whose applied index went backwards (version 0 after it has
committed under version 1) is refused (`verMono` is false) — for that local reason only: the
configuration-free part of P's guard holds and P itself would accept the answer -/
example : (match runC cinit (histR.take 48 ++ [.resp 1 7 2 c3 0]) with
    | .ok _ => "answered" | .error _ => "refused") = "refused" := by decide +kernel
example : (match runC cinit (histR.take 48) with
    | .ok S => (verMono S 1 0, respCore S.base 1 7 2 c3, rdCfgOk S.base c3 1 2,
                (match applyEvent S.base (.read (.resp 1 7 2 c3)) with | .ok _ => true | .error _ => false))
    | .error _ => (true, false, false, false)) = (false, true, true, true) := by decide +kernel
/-- the same for a leader-local read state -/
example : (match runC cinit (histR.take 54 ++ [.rstate 1 8 2 c3 0]) with
    | .ok _ => "answered" | .error _ => "refused") = "refused" := by decide +kernel

/-- the old configuration is not the one of the applied index any more -/
example : (match runC cinit (histR.take 48 ++ [.resp 1 7 2 c3 1]) with
    | .ok _ => "answered" | .error _ => "refused") = "refused" := by decide +kernel

/-- two confirmations (the leader and node 2) are not a quorum of the four voters of version 1 -/
example : (match runC cinit (histR.take 47 ++ [.resp 1 7 2 c4 1]) with
    | .ok _ => "answered" | .error _ => "refused") = "refused" := by decide +kernel

/-- P's own read events are not events of PC -/
example : (match runC cinit (histR.take 48 ++ [.base (.read (.resp 1 7 2 c4))]) with
    | .ok _ => "answered" | .error _ => "refused") = "refused" := by decide +kernel

/-! ### non-vacuity (b): the local guard bites — a candidate whose log holds two membership-change
entries beyond its applied index is refused by PC, although P (whose guard only looks at the recorded
elections and commits, none of which is in the way here) would accept the election -/

def histB : List CEvent :=
  [.cfgInit c3,
   .base (.bump 1 1), .base (.campaign 1), .base (.rdy 1), .base (.persist 1 1), .base (.release 1 (.grant 1 1 1 {})),
   .base (.release 1 (.voteReq 1 1 0 0)),
   .base (.bump 2 1), .base (.grant 2 1), .base (.rdy 2), .base (.persist 2 1), .base (.release 2 (.grant 1 2 1 {})),
   .win 1 c3 [1, 2] 0,
   .base (.leaderAppend 1 eC), .base (.leaderAppend 1 eC'),
   .base (.sendApp 1 ⟨1, 1, 0, 0, [eC, eC'], 0⟩),
   .base (.recvApp 2 ⟨1, 1, 0, 0, [eC, eC'], 0⟩),
   .base (.bump 2 2), .base (.campaign 2), .base (.rdy 2), .base (.persist 2 1), .base (.release 2 (.grant 2 2 2 {})),
   .base (.release 2 (.voteReq 2 2 0 0)),
   .base (.bump 3 2), .base (.grant 3 2), .base (.rdy 3), .base (.persist 3 1), .base (.release 3 (.grant 2 3 2 {}))]

example : (match runC cinit (histB ++ [.win 2 c3 [2, 3] 0]) with
    | .ok _ => "elected" | .error _ => "refused") = "refused" := by decide +kernel

/-- ... for the local reason only: the candidate has its quorum of grants and P's guard is satisfied -/
example : (match runC cinit histB with
    | .ok S => (confCount (S.base.nodes 2).log, winCore S.base 2 c3 [2, 3], winAdj S.base 2 c3,
                (match applyEvent S.base (.win 2 c3 [2, 3]) with | .ok _ => true | .error _ => false))
    | .error _ => (0, false, false, false)) = (2, true, true, true) := by decide +kernel

/-- the leader of term 1 itself may not commit both membership changes at once either -/
example : (match runC cinit (histB.take 15 ++ [.base (.ackSelf 1 2), .base (.rdy 1), .base (.persist 1 1),
      .base (.release 1 (.ack 1 1 2 [])), .base (.sendApp 1 ⟨1, 1, 0, 0, [eC, eC'], 0⟩),
      .base (.recvApp 2 ⟨1, 1, 0, 0, [eC, eC'], 0⟩), .base (.rdy 2), .base (.persist 2 1),
      .base (.release 2 (.ack 1 2 2 [])), .commitLeader 1 2 c3 [1, 2] 0]) with
    | .ok _ => "committed" | .error _ => "refused") = "refused" := by decide +kernel

/-- ... but one at a time is fine -/
example : (match runC cinit (histB.take 15 ++ [.base (.ackSelf 1 2), .base (.rdy 1), .base (.persist 1 1),
      .base (.release 1 (.ack 1 1 2 [])), .base (.sendApp 1 ⟨1, 1, 0, 0, [eC, eC'], 0⟩),
      .base (.recvApp 2 ⟨1, 1, 0, 0, [eC, eC'], 0⟩), .base (.rdy 2), .base (.persist 2 1),
      .base (.release 2 (.ack 1 2 2 [])), .commitLeader 1 1 c3 [1, 2] 0]) with
    | .ok S => (S.base.nodes 1).commit | .error _ => 99) = 1 := by decide +kernel

end RaftProps.CfgLayer
