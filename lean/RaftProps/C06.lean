import RaftProofs.ProtoR
import RaftProofs.ProtoQuorum
import RaftProofs.ProtoVol

/-!
# C06 — promises survive crashes: persist-before-send, one vote per term

Theorems about the abstract protocol P for every reachable state of every history (any schedule,
any crash point — `crash` may occur between any two events, in particular between `rdy`
(`ready()`), `persist` (the application's fsync) and `release` (sending); `restart` reloads the
durable image).  The tie to the code: the harness emits `rdy`/`persist`/`release` exactly where
the real `RawNode` and the application do these things, P rejects a `release` whose promise is not
covered by the durable image and a leader message from a node whose self-vote is not durable, and
the durable image P tracks is compared with the application's after every persist.

The log part of "never behind what it told" (an acknowledged prefix stays in the durable log while
the durable term is the acknowledging term) is stated at release time here
(`C06_release_obligation`); its stability is part of the log-layer invariants (C05/C04).
-/
namespace RaftProps.C06
open RaftModel.P

/-- **Within one incarnation the term never decreases**: every event other than a restart leaves
every node's term at least where it was. -/
theorem C06_term_monotone (s s' : PSys) (e : Event) (h : applyEvent s e = .ok s')
    (hnr : ∀ i, e ≠ .restart i) (j : Nat) : (s.nodes j).term ≤ (s'.nodes j).term := by
  cases vol_step h j with
  | keep ht | role0 _ ht | cand _ _ _ ht | win _ _ _ _ _ ht | append _ _ _ _ ht | merge _ _ _ ht
  | install _ _ _ _ _ ht => exact Nat.le_of_eq ht.symm
  | bump ht => exact Nat.le_of_lt ht
  | restart he => exact absurd he (hnr j)
  | boot _ _ _ hf => rw [hf.term]; exact Nat.zero_le _

/-- a restart resumes from exactly the durable image -/
theorem C06_restart_from_durable (s s' : PSys) (i : Nat) (h : applyEvent s (.restart i) = .ok s') :
    (s'.nodes i).term = (s.nodes i).dterm ∧ (s'.nodes i).vote = (s.nodes i).dvote ∧
    (s'.nodes i).log = (s.nodes i).dlog ∧ (s'.nodes i).commit = (s.nodes i).dcommit := by
  obtain ⟨_, rfl⟩ := of_guard_ok h
  simp [upd]

/-- **Persist before send**: a vote request or a vote grant is released only if the durable image
covers it — the durable term is beyond the message's term, or equals it with the durable vote being
the promised one; an append acknowledgement is released only if it is covered by the durable image,
i.e. it was generated before an image (the Ready's writes) that has since been made durable. -/
theorem C06_release_obligation (s s' : PSys) (i : Nat) (key : OMsg)
    (h : applyEvent s (.release i key) = .ok s') :
    (key.isAck = true ∧ ∃ m ∈ (s.nodes i).dacks, sameKey key m = true) ∨
    (key.isAck = false ∧ ∃ m ∈ (s.nodes i).outbox, sameKey key m = true ∧ releasable (s.nodes i) m = true) := by
  simp only [applyEvent, ok] at h
  split at h
  · rename_i hk
    split at h
    · rename_i m hm
      exact Or.inl ⟨hk, m, List.mem_of_find?_eq_some hm, List.find?_some hm⟩
    · cases h
  · rename_i hk
    split at h
    · rename_i k hfk
      split at h
      · rename_i m hm
        split at h
        · rename_i hg
          refine Or.inr ⟨by simpa using hk, m, List.mem_of_getElem? hm, ?_, hg.2.1⟩
          have := List.findIdx?_eq_some_iff_getElem.mp hfk
          obtain ⟨hlt, hp, _⟩ := this
          have : (s.nodes i).outbox[k] = m := by
            have := List.getElem?_eq_getElem hlt
            rw [this] at hm
            exact Option.some.inj hm
          rw [← this]; exact hp
        · cases h
      · cases h
    · cases h

/-- what "covered by the durable image" means: the acknowledgements of an image are those generated
before the image was taken, and they become `dacks` exactly when that image is persisted -/
theorem C06_image_covers_generated_acks (s s' : PSys) (i : Nat) (h : applyEvent s (.rdy i) = .ok s') :
    ∃ im, (s'.nodes i).pending = (s.nodes i).pending ++ [im] ∧ im.log = (s.nodes i).log ∧
      im.term = (s.nodes i).term ∧ im.vote = (s.nodes i).vote ∧
      ∀ m, m ∈ im.acks ↔ (m ∈ (s.nodes i).outbox ∧ m.isAck = true) := by
  obtain ⟨_, rfl⟩ := of_guard_ok h
  refine ⟨image (s.nodes i), by simp [upd], rfl, rfl, rfl, ?_⟩
  intro m; simp [image, List.mem_filter]

/-- **A released vote stays covered by the durable state forever** (in particular after any crash
and restart): the voter's durable term is beyond the vote's term, or equals it with the durable
vote naming the same candidate. -/
theorem C06_vote_promise_durable (s : PSys) (hr : Reach s) (g : Grant)
    (hg : g ∈ s.grants) :
    g.term < (s.nodes g.voter).dterm ∨
      (g.term = (s.nodes g.voter).dterm ∧ (s.nodes g.voter).dvote = g.cand) :=
  ((invV_reachR s hr).g1 g hg).2

/-- **At most one candidate per term, ever**, per voter (across incarnations). -/
theorem C06_one_vote_per_term_ever (s : PSys) (hr : Reach s)
    (g1 g2 : Grant) (h1 : g1 ∈ s.grants) (h2 : g2 ∈ s.grants)
    (ht : g1.term = g2.term) (hv : g1.voter = g2.voter) : g1.cand = g2.cand := by
  have I := invV_reachR s hr
  exact I.gc g1.voter g1 g2 (Or.inr ⟨h1, rfl⟩) (Or.inr ⟨h2, hv.symm⟩) ht

/-- the durable term is never behind a released vote request or acknowledgement, at any later time -/
theorem C06_term_promise_durable (s : PSys) (hr : Reach s) :
    (∀ r ∈ s.reqs, r.term ≤ (s.nodes r.cand).dterm) ∧ (∀ a ∈ s.acks, a.term ≤ (s.nodes a.frm).dterm) :=
  ⟨(invR_reachR s hr).rq, (invR_reachR s hr).ak⟩

/-- the volatile state is never behind the durable one, and a node that restarts is therefore never
behind any vote it released: its term is at least the vote's term and, if equal, its vote is that
candidate -/
theorem C06_restart_not_behind_votes (s s' : PSys) (hr : Reach s) (i : Nat)
    (h : applyEvent s (.restart i) = .ok s') (g : Grant) (hg : g ∈ s.grants) (hv : g.voter = i) :
    g.term < (s'.nodes i).term ∨ (g.term = (s'.nodes i).term ∧ (s'.nodes i).vote = g.cand) := by
  have hd := C06_restart_from_durable s s' i h
  have := C06_vote_promise_durable s hr g hg
  rw [hv] at this
  rw [hd.1, hd.2.1]
  exact this

/-- **A leader's term and self-vote are durable**: whatever a node sends as leader of a term is
sent while `(term, vote = self)` is in its durable image. -/
theorem C06_leader_durable (s : PSys) (hr : Reach s) (i : Nat)
    (h : (s.nodes i).role = 2) :
    (s.nodes i).dterm = (s.nodes i).term ∧ (s.nodes i).dvote = i := by
  have := (invV_reachR s hr).ld i h
  exact ⟨this.2.1, this.2.2.1⟩

/-- leader traffic (append, heartbeat, snapshot) is released only by a node in the leader role -/
theorem C06_leader_traffic_obligation (s s' : PSys) (i : Nat) :
    (∀ m, applyEvent s (.sendApp i m) = .ok s' → (s.nodes i).role = 2 ∧ m.term = (s.nodes i).term) ∧
    (∀ to c, applyEvent s (.sendHB i to c) = .ok s' → (s.nodes i).role = 2) ∧
    (∀ idx, applyEvent s (.sendSnap i idx) = .ok s' → (s.nodes i).role = 2) := by
  exact ⟨fun m h => ⟨(of_guard_ok h).1.2.1, (of_guard_ok h).1.2.2.1⟩,
    fun to c h => (of_guard_ok h).1.2.1, fun idx h => (of_guard_ok h).1.2.1⟩

/-! ### non-vacuity: a grant is generated, refused release before the fsync, released after it,
and survives a crash -/

def h0 : List Event :=
  [.bump 1 1, .campaign 1, .rdy 1, .persist 1 1, .release 1 (.voteReq 1 1 0 0), .bump 2 1, .grant 2 1, .rdy 2]

example : (match run init (h0 ++ [.release 2 (.grant 1 2 1 {})]) with
    | .ok _ => "released" | .error _ => "refused") = "refused" := by decide +kernel

example : (match run init (h0 ++ [.persist 2 1, .release 2 (.grant 1 2 1 {}), .crash 2, .restart 2]) with
    | .ok s => ((s.nodes 2).term, (s.nodes 2).vote, s.grants.length) | .error _ => (0, 0, 0)) = (1, 1, 1) := by
  decide +kernel

/-- a crash before the fsync loses the vote: the node restarts at term 0 and never released it -/
example : (match run init (h0 ++ [.crash 2, .restart 2]) with
    | .ok s => ((s.nodes 2).term, (s.nodes 2).vote, s.grants.length) | .error _ => (9, 9, 9)) = (0, 0, 0) := by
  decide +kernel

end RaftProps.C06
