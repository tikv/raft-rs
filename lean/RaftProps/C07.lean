import RaftProofs.RawNode

/-!
# C07 — Ready contract: exact, ordered, persisted-only hand-off of entries

Property theorems only (helper lemmas: `RaftProofs/RawNode.lean`).  The model
`RaftModel.RawNodeM` mirrors the Ready layer of `src/raw_node.rs` function by function over the
`RaftLog` model of C14; what `Raft` does underneath is an explicit input (`Effect`, `EnvEffect`),
see the header of `RaftModel/RawNode.lean`.

Proved at full strength, for every state / every input: `C07_must_sync_iff`, `C07_hs_latest`,
`C07_hs_once`, `C07_snapshot_ready_no_entries`, `C07_entries_are_unstable_suffix`,
`C07_entries_once` (with: `commit_ready` after `ready` never panics), `C07_has_ready_iff`,
`C07_records_ordered_ready` / `C07_on_persist_ready_pops` (the two calls that change the queue),
`C07_handout_step` / `C07_handout_persisted` (one hand-out: contiguous, numbered from
`commit_since_index+1`, exactly the entries of the logical log, below `committed` and
`persisted + limit`; uses `RaftLog.Inv.slicePrefix`, a corollary of the equation for `slice`,
`RaftLog.Inv.slice_eq` in `RaftProofs/RaftLogReads.lean`).
The trace-level statements are written down here as `…_full_statement` and settled in
`RaftProps/C07b.lean`: `records_ordered` holds as stated (`C07_records_ordered`); `handout_exact` and
`no_panic` are false as stated (runs of the model there) and are proved for applications that follow
the whole documented contract (`C07_handout_exact`, `C07_no_panic_quiet` over `ContractTrace2`).
-/
namespace RaftProps.C07
open RaftModel RaftModel.RawNodeM

/-! ### must_sync, hard state -/

/-- **must_sync_iff.**  `must_sync` is set exactly when the Ready carries entries, a snapshot, or a
term / vote change with respect to the last hard state handed out. -/
theorem C07_must_sync_iff (n n' : RawNodeM) (rd : Ready) (h : n.ready = .ok (n', rd)) :
    rd.mustSync = true ↔
      (rd.entries ≠ [] ∨ rd.snapshot.isSome = true ∨ n.term ≠ n.prevHs.term ∨
        n.vote ≠ n.prevHs.vote) := by
  obtain ⟨_, _, _, light, _, _, _, _, hrd⟩ := ready_ok h
  subst hrd
  exact readyRd_mustSync n light

/-- **hs_latest.**  The hard state of a Ready is present exactly when (term, vote, commit) differs
from the last one handed out, and it is the *current* (term, vote, commit). -/
theorem C07_hs_latest (n n' : RawNodeM) (rd : Ready) (h : n.ready = .ok (n', rd)) :
    (n.hardState ≠ n.prevHs → rd.hs = some { term := n.term, vote := n.vote,
                                               commit := n.log.committed }) ∧
    (n.hardState = n.prevHs → rd.hs = none) := by
  obtain ⟨_, _, _, light, _, _, _, _, hrd⟩ := ready_ok h
  subst hrd
  exact ⟨fun hne => readyRd_hs_changed n light hne, fun he => readyRd_hs_same n light he⟩

/-- **hs_once.**  After `ready`, the storage write and `advance_append_async` (= `commit_ready`),
the recorded previous hard / soft state is the current one: the next Ready carries a hard state
only if term, vote or commit changed again.  In particular `commit_ready` does not panic. -/
theorem C07_hs_once (n n1 n2 : RawNodeM) (rd : Ready) (h : n.ready = .ok (n1, rd))
    (hw : n1.storageWrite rd = .ok n2) :
    ∃ n3, n2.advanceAppendAsync rd = .ok n3 ∧ n3.prevHs = n3.hardState ∧
      n3.prevSs = n3.softState ∧ n3.hardState = n.hardState := by
  obtain ⟨hlog, ht, hv, hr, hl, hphs, hpss, _, hnum, hrec, _, _, _⟩ := ready_state h
  obtain ⟨_, _, _, light, _, _, _, _, hrd⟩ := ready_ok h
  obtain ⟨st, hn2⟩ := storageWrite_ok hw
  have hspec := commitReady_spec n2 rd n.readyRecord (by rw [hn2]; exact hrec)
    (by rw [hnum]; rfl) (by rw [hn2]; simp only [readyRecord, hlog])
    (by rw [hn2]; simp only [readyRecord, hlog])
  obtain ⟨l2, hc, _, _, _, hcm, _, _, _, _⟩ := hspec
  refine ⟨_, hc, ?_, ?_, ?_⟩
  · subst hrd hn2
    show (n.readyRd light).hs.getD n1.prevHs = { term := n1.term, vote := n1.vote, commit := l2.committed }
    rw [hphs, readyRd_hs_getD, hcm, ht, hv]
    simp only [hardState, hlog]
  · subst hrd hn2
    show (n.readyRd light).ss.getD n1.prevSs = { leaderId := n1.leaderId, role := n1.role }
    rw [hpss, readyRd_ss_getD, hr, hl]
    rfl
  · subst hn2
    simp only [hardState, hcm, hlog, ht, hv]

/-! ### snapshot Ready, entries -/

/-- **snapshot_ready_no_entries.**  A Ready that carries a snapshot hands out no committed entries,
and the hand-out restarts right after the snapshot index. -/
theorem C07_snapshot_ready_no_entries (n n' : RawNodeM) (rd : Ready) (sn : Snapshot)
    (h : n.ready = .ok (n', rd)) (hs : rd.snapshot = some sn) :
    rd.committedEntries = [] ∧ n'.commitSinceIndex = sn.metadata.index ∧
      n.commitSinceIndex ≤ sn.metadata.index := by
  obtain ⟨recs, csi, n2, light, _, hsnap, hg, hn', hrd⟩ := ready_ok h
  subst hrd
  simp only [readyRd] at hs
  unfold readySnapshot at hsnap
  simp only [hs] at hsnap
  by_cases hlt : sn.metadata.index < n.commitSinceIndex
  · simp only [hlt, if_true] at hsnap; cases hsnap
  · simp only [hlt, if_false] at hsnap
    cases hh : n.log.hasNextEntriesSince sn.metadata.index with
    | ok b =>
      cases b with
      | true => simp only [hh] at hsnap; cases hsnap
      | false =>
        simp only [hh] at hsnap
        injection hsnap with hcsi
        obtain ⟨o, ho, hl, hn2, _⟩ := genLightReady_ok hg
        have hnone := hasNext_false_next_none (some n.maxCommittedSizePerReady) hh
        simp only [readyN1] at ho
        rw [← hcsi, hnone] at ho
        injection ho with ho
        subst ho
        subst hn' hn2 hl
        refine ⟨rfl, ?_, by omega⟩
        simp only [readyN1, csiAfter, Option.getD_none, List.getLast?_nil]
        exact hcsi.symm
    | err e => simp only [hh] at hsnap; cases hsnap
    | panic s => simp only [hh] at hsnap; cases hsnap

/-- **entries_are_unstable_suffix.**  The entries of a Ready are the whole current unstable part:
under the `RaftLog` invariant they are exactly the entries of the logical log from
`unstable.offset` to the last index, consecutively numbered. -/
theorem C07_entries_are_unstable_suffix (n n' : RawNodeM) (rd : Ready)
    (h : n.ready = .ok (n', rd)) :
    rd.entries = n.log.unstable.entries ∧
    (n.log.Inv →
      ContigFrom n.log.unstable.offset rd.entries ∧
      (∀ i, n.log.unstable.offset ≤ i → n.log.abs.entryAt i = rd.entries[i - n.log.unstable.offset]?) ∧
      (rd.entries ≠ [] → n.log.unstable.offset + rd.entries.length = n.log.lastIndex + 1)) := by
  obtain ⟨_, _, _, light, _, _, _, _, hrd⟩ := ready_ok h
  subst hrd
  refine ⟨rfl, fun hinv => ⟨hinv.unstWF.contig, fun i hi => hinv.entryAt_unstable hi, ?_⟩⟩
  intro hne
  simp only [readyRd] at hne ⊢
  unfold RaftLog.lastIndex Unstable.maybeLastIndex
  have : n.log.unstable.entries.length ≠ 0 := by
    intro h0; exact hne (List.eq_nil_of_length_eq_zero h0)
  simp only [this, if_false]
  omega

/-- **entries_once.**  After `ready`, the storage write and `commit_ready` (any of `advance`,
`advance_append`, `advance_append_async` starts with it) the unstable part is empty — entries and
snapshot of that Ready are never handed out again unless `Raft` appends them again — and the
call cannot panic.  The rest of the log (storage, cursors) is untouched by `commit_ready`. -/
theorem C07_entries_once (n n1 n2 : RawNodeM) (rd : Ready) (h : n.ready = .ok (n1, rd))
    (hw : n1.storageWrite rd = .ok n2) :
    ∃ n3, n2.advanceAppendAsync rd = .ok n3 ∧
      n3.log.unstable.entries = [] ∧ n3.log.unstable.snapshot = none ∧
      n3.log.store = n2.log.store ∧ n3.log.committed = n.log.committed ∧
      n3.log.persisted = n.log.persisted ∧ n3.records = n1.records ∧
      ∀ n4 rd', n3.ready = .ok (n4, rd') → rd'.entries = [] ∧ rd'.snapshot = none := by
  obtain ⟨hlog, _, _, _, _, _, _, _, hnum, hrec, _, _, _⟩ := ready_state h
  obtain ⟨st, hn2⟩ := storageWrite_ok hw
  have hspec := commitReady_spec n2 rd n.readyRecord (by rw [hn2]; exact hrec)
    (by rw [hnum]; rfl) (by rw [hn2]; simp only [readyRecord, hlog])
    (by rw [hn2]; simp only [readyRecord, hlog])
  obtain ⟨l2, hc, he, hs, hst, hcm, hp, _, _, _⟩ := hspec
  refine ⟨_, hc, he, hs, hst, ?_, ?_, ?_, ?_⟩
  · rw [hcm, hn2]; simp only [hlog]
  · rw [hp, hn2]; simp only [hlog]
  · rw [hn2]
  · intro n4 rd' h4
    obtain ⟨_, _, _, light, _, _, _, _, hrd'⟩ := ready_ok h4
    subst hrd'
    exact ⟨he, hs⟩

/-! ### has_ready -/

/-- emptiness of a Ready: nothing to persist, apply, send or notice -/
def ReadyEmpty (rd : Ready) : Prop :=
  rd.ss = none ∧ rd.hs = none ∧ rd.readStates = [] ∧ rd.entries = [] ∧ rd.snapshot = none ∧
  rd.committedEntries = [] ∧ rd.light.messages = []

/-- **has_ready_iff.**  Under the `RaftLog` invariant (a pending snapshot never has index 0:
`restore` is only called with an index above the commit index of a log that matched nothing at
that index), `has_ready()` is true exactly when `ready()` returns a non-empty Ready. -/
theorem C07_has_ready_iff (n n' : RawNodeM) (rd : Ready) (hinv : n.log.Inv)
    (hsn : ∀ sn, n.log.unstable.snapshot = some sn → sn.metadata.index ≠ 0)
    (h : n.ready = .ok (n', rd)) :
    ∃ b, n.hasReady = .ok b ∧ (b = true ↔ ¬ ReadyEmpty rd) := by
  obtain ⟨recs, csi, n2, light, _, hsnap, hg, _, hrd⟩ := ready_ok h
  subst hrd
  obtain ⟨o, ho, hl, _, _⟩ := genLightReady_ok hg
  have hmsgs : light.messages = n.msgs := by rw [hl]; rfl
  unfold hasReady
  by_cases h1 : n.msgs ≠ []
  · rw [if_pos h1]
    refine ⟨true, rfl, ?_⟩
    simp only [true_iff]
    intro he; exact h1 (hmsgs ▸ he.2.2.2.2.2.2)
  rw [if_neg h1]
  by_cases h2 : n.softState ≠ n.prevSs
  · rw [if_pos h2]
    refine ⟨true, rfl, ?_⟩
    simp only [true_iff]
    intro he; exact h2 ((readyRd_ss_none_iff n light).1 he.1)
  rw [if_neg h2]
  by_cases h3 : n.hardState ≠ n.prevHs
  · rw [if_pos h3]
    refine ⟨true, rfl, ?_⟩
    simp only [true_iff]
    intro he; exact h3 ((readyRd_hs_none_iff n light).1 he.2.1)
  rw [if_neg h3]
  by_cases h4 : n.readStates ≠ []
  · rw [if_pos h4]
    refine ⟨true, rfl, ?_⟩
    simp only [true_iff]
    intro he; exact h4 he.2.2.1
  rw [if_neg h4]
  by_cases h5 : n.log.unstable.entries ≠ []
  · rw [if_pos h5]
    refine ⟨true, rfl, ?_⟩
    simp only [true_iff]
    intro he; exact h5 he.2.2.2.1
  rw [if_neg h5]
  cases hs : n.log.unstable.snapshot with
  | some sn =>
    have := hsn sn hs
    simp only [this, ne_eq, not_false_eq_true, decide_true, if_true]
    refine ⟨true, rfl, ?_⟩
    simp only [true_iff]
    intro he
    have : n.log.unstable.snapshot = none := he.2.2.2.2.1
    rw [hs] at this; cases this
  | none =>
    simp only [Bool.false_eq_true, if_false]
    -- the hand-out starts from the unchanged `commit_since_index`
    have hcsi : csi = n.commitSinceIndex := by
      unfold readySnapshot at hsnap
      simp only [hs] at hsnap
      injection hsnap with hsnap; exact hsnap.symm
    subst hcsi
    have hiff := genLightReady_nonempty_iff (n := n.readyN1 n.commitSinceIndex) hinv hg
    have hu : n.commitSinceIndex < U64_MAX :=
      genLightReady_csi_lt (n := n.readyN1 n.commitSinceIndex) hg
    rw [hasNext_eq n.log n.commitSinceIndex hu]
    refine ⟨_, rfl, ?_⟩
    have hiff' : light.committedEntries ≠ [] ↔
        n.log.hasNextEntriesSince n.commitSinceIndex = .ok true := hiff
    rw [hasNext_eq n.log n.commitSinceIndex hu] at hiff'
    have h1' : n.msgs = [] := by simpa using h1
    have h2' : n.softState = n.prevSs := by simpa using h2
    have h3' : n.hardState = n.prevHs := by simpa using h3
    have h4' : n.readStates = [] := by simpa using h4
    have h5' : n.log.unstable.entries = [] := by simpa using h5
    constructor
    · intro hb he
      have : light.committedEntries ≠ [] := hiff'.2 (by rw [hb])
      exact this he.2.2.2.2.2.1
    · intro hne
      apply Classical.byContradiction
      intro hb
      apply hne
      refine ⟨(readyRd_ss_none_iff n light).2 h2', (readyRd_hs_none_iff n light).2 h3', h4', h5',
        hs, ?_, hmsgs.trans h1'⟩
      apply Classical.byContradiction
      intro hce
      have := hiff'.1 hce
      injection this with this
      exact hb this

/-! ### one hand-out of committed entries -/

/-- **handout_step** (the inductive step of `handout_exact`) and **handout_persisted**.  Under the
`RaftLog` invariant and `first_index ≤ commit_since_index + 1` (nothing not yet handed out has
been compacted), the committed entries of one `gen_light_ready` (the one inside `ready()` and the
one inside `advance_append`) are consecutively numbered from `commit_since_index + 1`, are exactly
the entries of the logical log at those positions (no gap, duplicate or altered entry),
`commit_since_index` advances by their number, and every entry handed out is at or below the
commit index and at or below `persisted + max_apply_unpersisted_log_limit` at that moment
(for every `max_committed_size_per_ready`; it hands out at least one entry whenever one is due). -/
theorem C07_handout_step (n n' : RawNodeM) (light : LightReady) (hinv : n.log.Inv)
    (hcsi : n.log.firstIndex ≤ n.commitSinceIndex + 1)
    (h : n.genLightReady = .ok (n', light)) :
    ContigFrom (n.commitSinceIndex + 1) light.committedEntries ∧
    (∀ k e, light.committedEntries[k]? = some e →
      n.log.abs.entryAt (n.commitSinceIndex + 1 + k) = some e) ∧
    n'.commitSinceIndex = n.commitSinceIndex + light.committedEntries.length ∧
    (light.committedEntries ≠ [] →
      n'.commitSinceIndex ≤ n.log.committed ∧
      n'.commitSinceIndex ≤ n.log.persisted + n.log.maxApplyUnpersistedLogLimit) ∧
    (light.committedEntries ≠ [] ↔ n.log.hasNextEntriesSince n.commitSinceIndex = .ok true) :=
  genLightReady_handout hinv hcsi h

/-- **handout_persisted** for a whole `ready()`: every committed entry in the Ready has an index
`≤ committed` and `≤ persisted + limit` of the log at that moment, and they continue the
hand-out without gap from the previous `commit_since_index` (no pending snapshot) -/
theorem C07_handout_persisted (n n' : RawNodeM) (rd : Ready) (hinv : n.log.Inv)
    (hcsi : n.log.firstIndex ≤ n.commitSinceIndex + 1)
    (hs : n.log.unstable.snapshot = none) (h : n.ready = .ok (n', rd)) :
    ContigFrom (n.commitSinceIndex + 1) rd.committedEntries ∧
    n'.commitSinceIndex = n.commitSinceIndex + rd.committedEntries.length ∧
    (∀ e ∈ rd.committedEntries, e.index ≤ n.log.committed ∧
      e.index ≤ n.log.persisted + n.log.maxApplyUnpersistedLogLimit) ∧
    (∀ k e, rd.committedEntries[k]? = some e →
      n.log.abs.entryAt (n.commitSinceIndex + 1 + k) = some e) := by
  obtain ⟨recs, csi, n2, light, _, hsnap, hg, hn', hrd⟩ := ready_ok h
  have hcsi' : csi = n.commitSinceIndex := by
    unfold readySnapshot at hsnap
    simp only [hs] at hsnap
    injection hsnap with hsnap; exact hsnap.symm
  subst hcsi'
  obtain ⟨hc, hm, hlen, hb, _⟩ :=
    genLightReady_handout (n := n.readyN1 n.commitSinceIndex) hinv hcsi hg
  subst hrd hn'
  refine ⟨hc, hlen, ?_, hm⟩
  intro e he
  obtain ⟨k, hk, hke⟩ := List.getElem_of_mem he
  have hk0 : k < light.committedEntries.length := hk
  have hke' : light.committedEntries[k]? = some e := by
    rw [List.getElem?_eq_some_iff]; exact ⟨hk0, hke⟩
  have hidx := hc k e hke'
  have hne : light.committedEntries ≠ [] := by
    intro hnil; rw [hnil] at hk0; simp at hk0
  have := hb hne
  simp only [readyN1] at this hidx hlen
  have hk' : k < light.committedEntries.length := hk
  omega

/-! ### the record queue -/

/-- **records_ordered** (step `ready`): the queue stays strictly increasing in `number` and
bounded by `max_number`; `ready` appends exactly one record, numbered `max_number + 1`, carrying
the last entry of the Ready's entries and its snapshot -/
theorem C07_records_ordered_ready (n n' : RawNodeM) (rd : Ready) (hok : RecOk n)
    (h : n.ready = .ok (n', rd)) :
    RecOk n' ∧ n'.maxNumber = n.maxNumber + 1 ∧ rd.number = n'.maxNumber ∧
    ∃ recs, n'.records = recs ++ [n.readyRecord] ∧ (recs = n.records ∨ recs = []) := by
  obtain ⟨recs, csi, n2, light, hd, _, hg, hn', hrd⟩ := ready_ok h
  obtain ⟨o, _, _, hn2, _⟩ := genLightReady_ok hg
  have hrecs : recs = n.records ∨ recs = [] := by
    unfold drainRecords at hd
    split at hd
    · split at hd
      · injection hd with hd; exact .inr hd.symm
      · cases hd
    · injection hd with hd; exact .inl hd.symm
  subst hn' hrd hn2
  refine ⟨?_, rfl, rfl, recs, rfl, hrecs⟩
  constructor
  · show ((recs ++ [n.readyRecord]).map (·.number)).Pairwise (· < ·)
    rw [List.map_append, List.pairwise_append]
    refine ⟨?_, by simp, ?_⟩
    · rcases hrecs with hr | hr
      · rw [hr]; exact hok.1
      · rw [hr]; simp
    · intro a ha b hb
      simp only [List.map_cons, List.map_nil, List.mem_singleton] at hb
      subst hb
      obtain ⟨r, hr, hra⟩ := List.mem_map.1 ha
      rcases hrecs with hr' | hr'
      · rw [hr'] at hr
        have := hok.2 r hr
        simp only [readyRecord]; omega
      · rw [hr'] at hr; cases hr
  · intro r hr
    show r.number ≤ n.maxNumber + 1
    rcases List.mem_append.1 hr with hr | hr
    · rcases hrecs with hr' | hr'
      · rw [hr'] at hr; have := hok.2 r hr; omega
      · rw [hr'] at hr; cases hr
    · simp only [List.mem_singleton] at hr
      subst hr; simp [readyRecord]

/-- **records_ordered** (step `on_persist_ready(number)`): it pops exactly the records with
`number' ≤ number` (any batching), keeps the order, and the persistence notice it forwards is the
left fold `persistTarget` of the popped records: the last snapshot record resets the entry target,
the last entry record after it wins (`recStep`) -/
theorem C07_on_persist_ready_pops (n n' : RawNodeM) (number : Nat) (eff : Effect) (hok : RecOk n)
    (h : n.onPersistReady number eff = .ok n') :
    RecOk n' ∧ (∀ r, r ∈ n'.records ↔ r ∈ n.records ∧ number < r.number) ∧
    popRecords number n.records (0, 0, 0) =
      (n'.records, persistTarget (n.records.takeWhile (fun r => decide (r.number ≤ number))) (0, 0, 0)) := by
  obtain ⟨hr, hm, _⟩ := onPersistReady_records h
  refine ⟨⟨?_, ?_⟩, ?_, ?_⟩
  · rw [hr]; exact pairwise_dropWhile _ hok.1
  · intro r hrm
    rw [hr] at hrm
    rw [hm]
    exact hok.2 r ((mem_dropWhile_of_sorted number hok.1 r).1 hrm).1
  · intro r; rw [hr]; exact mem_dropWhile_of_sorted number hok.1 r
  · rw [popRecords_eq, hr]

/-! ### contract traces, and the trace-level statements that remain open -/

/-- a RawNode-layer call or an environment step (what `Raft` / the application do in between) -/
inductive Call where
  | env (e : EnvEffect)
  | ready
  | write
  | advanceAppendAsync
  | advanceAppend (eff : Effect)
  | advance (eff1 eff2 : Effect)
  | onPersistReady (number : Nat) (eff : Effect)
  | advanceApply (eff : Effect)
  | advanceApplyTo (applied : Nat) (eff : Effect)
  | compact (index : Nat)

/-- the node, the Ready the application currently holds, and the ghost hand-out history:
`handed` = concatenation of the `committed_entries` of every Ready / LightReady since the start or
the last snapshot Ready, `start` = `Config.applied` or the index of that snapshot -/
structure Sys where
  n : RawNodeM
  pending : Option Ready := none
  handed : List Entry := []
  start : Nat := 0
  deriving DecidableEq

/-- the system after `ready()` returned `rd`: the ghost history restarts at a snapshot Ready -/
def Sys.afterReady (s : Sys) (n : RawNodeM) (rd : Ready) : Sys :=
  { n := n, pending := some rd,
    handed := (if rd.snapshot.isSome then [] else s.handed) ++ rd.committedEntries,
    start := match rd.snapshot with
      | some sn => sn.metadata.index
      | none => s.start }

/-- one call; `none` when the call is not allowed by the documented contract in this state
(`step` & co. between `ready` and `advance*`, `advance*` without a Ready, a second `ready`,
`on_persist_ready` for a number never issued, `advance_apply_to` beyond the hand-out) -/
def Sys.step (s : Sys) : Call → Option (Res Sys)
  | .env e => match s.pending with
    | none => some (match s.n.env e with
      | .ok n => .ok { s with n := n } | .err e => .err e | .panic p => .panic p)
    | some _ => none
  | .ready => match s.pending with
    | none => some (match s.n.ready with
      | .ok (n, rd) => .ok (s.afterReady n rd)
      | .err e => .err e | .panic p => .panic p)
    | some _ => none
  | .write => match s.pending with
    | some rd => some (match s.n.storageWrite rd with
      | .ok n => .ok { s with n := n } | .err e => .err e | .panic p => .panic p)
    | none => none
  | .advanceAppendAsync => match s.pending with
    | some rd => some (match s.n.advanceAppendAsync rd with
      | .ok n => .ok { s with n := n, pending := none } | .err e => .err e | .panic p => .panic p)
    | none => none
  | .advanceAppend eff => match s.pending with
    | some rd => some (match s.n.advanceAppend rd eff with
      | .ok (n, l) => .ok { s with n := n, pending := none, handed := s.handed ++ l.committedEntries }
      | .err e => .err e | .panic p => .panic p)
    | none => none
  | .advance eff1 eff2 => match s.pending with
    | some rd => some (match s.n.advance rd eff1 eff2 with
      | .ok (n, l) => .ok { s with n := n, pending := none, handed := s.handed ++ l.committedEntries }
      | .err e => .err e | .panic p => .panic p)
    | none => none
  | .onPersistReady number eff =>
    if number ≤ s.n.maxNumber then
      some (match s.n.onPersistReady number eff with
        | .ok n => .ok { s with n := n } | .err e => .err e | .panic p => .panic p)
    else none
  | .advanceApply eff => some (match s.n.advanceApply eff with
      | .ok n => .ok { s with n := n } | .err e => .err e | .panic p => .panic p)
  | .advanceApplyTo k eff =>
    if k ≤ s.n.commitSinceIndex then
      some (match s.n.advanceApplyTo k eff with
        | .ok n => .ok { s with n := n } | .err e => .err e | .panic p => .panic p)
    else none
  | .compact k => some (match s.n.log.compactStore k with
      | .ok l => .ok { s with n := { s.n with log := l } } | .err e => .err e | .panic p => .panic p)

/-- what the environment guarantees (C14 proves it for every contract-abiding sequence of
`RaftLog` operations, `C14_run`): the invariant is kept, the committed prefix is immutable, a
restored snapshot has a non-zero index, apply-before-persist is off on non-leaders, the storage
write has happened before a persistence notice, compaction stays at or below the applied index -/
def EnvOk (s : Sys) : Call → Prop
  | .env e => ∃ l', applyLogOps s.n.log e.ops = .ok l' ∧ l'.Inv ∧ l'.AppliedOk ∧
      s.n.log.committed ≤ l'.committed ∧
      (∀ i, i ≤ s.n.log.committed → l'.abs.entryAt i = s.n.log.abs.entryAt i ∨ i ≤ l'.abs.snapIdx) ∧
      (∀ sn, l'.unstable.snapshot = some sn → sn.metadata.index ≠ 0) ∧
      (e.role ≠ ROLE_LEADER → e.limit = 0)
  | .compact k => k ≤ s.n.log.applied ∧ k ≤ s.n.log.persisted + 1
  | .onPersistReady _ eff => eff.commit ≤ s.n.log.lastIndex
  | .advanceAppend eff => eff.commit ≤ s.n.log.lastIndex
  | .advance eff _ => eff.commit ≤ s.n.log.lastIndex
  | _ => True

/-- `ContractTrace s calls s'`: the call sequence is allowed by the contract from `s` and runs
without panic to `s'` -/
inductive ContractTrace : Sys → List Call → Sys → Prop where
  | nil (s : Sys) : ContractTrace s [] s
  | cons {s s1 s2 : Sys} {c : Call} {cs : List Call} :
      EnvOk s c → s.step c = some (.ok s1) → ContractTrace s1 cs s2 →
      ContractTrace s (c :: cs) s2

/-- a freshly created node over a conforming storage -/
def Init (s : Sys) : Prop :=
  ∃ st limit applied maxc n, st.WF ∧ RawNodeM.new st limit applied maxc = .ok n ∧
    st.firstIndex ≤ applied + 1 ∧ applied ≤ n.log.committed ∧
    s = { n := n, pending := none, handed := [], start := applied }

/-- **handout_exact**, trace level, as first written down: over a node's lifetime the entries handed
out since the start / last snapshot are exactly the logical log from `start+1` to
`commit_since_index`.  False on the model (and in the code) as it stands, because `Sys.step` never
forces the storage write before `advance*`: `C07_handout_exact_needs_write` in `RaftProps/C07b.lean`.
Proved there with the application-side obligations `AppOk` added (`C07_handout_exact`); the inductive
step is `C07_handout_step` / `C07_snapshot_ready_no_entries`, the storage-side steps are carried
through the `RaftLog` invariant by `RaftProofs/RaftLogStore.lean`. -/
def C07_handout_exact_full_statement : Prop :=
  ∀ s0 calls s, Init s0 → ContractTrace s0 calls s →
    ContigFrom (s.start + 1) s.handed ∧
    s.n.commitSinceIndex = s.start + s.handed.length ∧
    s.n.commitSinceIndex ≤ s.n.log.committed ∧
    ∀ k e, s.handed[k]? = some e →
      s.n.log.abs.entryAt (s.start + 1 + k) = some e ∨ s.start + 1 + k ≤ s.n.log.abs.snapIdx

/-- **no_panic**, trace level, as first written down: no RawNode call of a contract trace panics.
False on the model as it stands (`C07_no_panic_needs_order`, `C07_no_panic_needs_monotone_apply` in
`RaftProps/C07b.lean`); proved there over `ContractTrace2` for every call that hands nothing out
(`C07_no_panic_quiet`).  For `ready` / `advance_append` / `advance` it needs facts about `Raft` that
this model does not carry (`ReadyEnvOk`, `C07_no_panic_handout_statement`, not proved). -/
def C07_no_panic_full_statement : Prop :=
  ∀ s0 calls s c, Init s0 → ContractTrace s0 calls s → EnvOk s c →
    ∀ p, s.step c ≠ some (.panic p)

/-- **records_ordered**, trace level; proved as stated, `C07_records_ordered` in
`RaftProps/C07b.lean` (the two calls that change the queue are `C07_records_ordered_ready` and
`C07_on_persist_ready_pops`, every other call leaves `records` and `max_number` alone) -/
def C07_records_ordered_full_statement : Prop :=
  ∀ s0 calls s, Init s0 → ContractTrace s0 calls s → RecOk s.n

/-! ### non-vacuity -/

def ent (i t d : Nat) : Entry := { index := i, term := t, data := List.replicate d 0 }

/-- storage: entries 1, 2 of term 1, hard state (term 1, vote 0, commit 1) -/
def st0 : MemStorage :=
  { entries := [ent 1 1 3, ent 2 1 3], hardState := { term := 1, vote := 0, commit := 1 } }

def run : Sys → List Call → Option Sys
  | s, [] => some s
  | s, c :: cs => match s.step c with
    | some (.ok s1) => run s1 cs
    | _ => none

def envE (term commit : Nat) (ents : List Entry) : Call :=
  .env { term := term, vote := 0, role := ROLE_FOLLOWER, leaderId := 2, msgs := [7], readStates := [],
         limit := 0, ops := [.tappend ents, .commitTo commit] }

/-- a concrete async-persistence run with a truncation between two Readies:
Ready 1 carries entries 3,4 (term 1) and hands out 1,2; before it is reported persisted a new
leader overwrites entry 4 (term 2) and appends 5, commit 3; Ready 2 carries 4,5 (term 2) and
hands out nothing (entry 3 is not reported persisted yet: the notice for Ready 1 is stale after
the truncation); after `on_persist_ready(2)` Ready 3 hands out entry 3.  The hand-out is
1,2,3 without gap or duplicate, `commit_since_index = 3`. -/
theorem C07_example_async_truncation :
    (match RawNodeM.new st0 0 0 NO_LIMIT with
     | .ok n =>
       (run { n := n } [envE 1 2 [ent 3 1 1, ent 4 1 1], .ready, .write, .advanceAppendAsync,
          envE 2 3 [ent 4 2 1, ent 5 2 1], .ready, .write, .advanceAppendAsync,
          .onPersistReady 1 {}, .onPersistReady 2 {}, .ready, .write, .advanceAppendAsync]).map
        (fun s => (s.handed.map (fun e => (e.index, e.term)), s.n.commitSinceIndex,
          s.n.log.persisted, s.n.records.length, s.n.maxNumber))
     | _ => none) = some ([(1, 1), (2, 1), (3, 1)], 3, 5, 1, 3) := by decide +kernel

def l0 : RaftLog :=
  { store := st0, unstable := Unstable.new 3, committed := 0, persisted := 2, applied := 0,
    maxApplyUnpersistedLogLimit := 0 }

/-- the hypotheses of the step theorems hold on a concrete non-trivial state (after the first env
step of the run above): the invariant, `first_index ≤ commit_since_index + 1`, an ordered queue -/
example : ∃ n, RawNodeM.new st0 0 0 NO_LIMIT = .ok n ∧ n.log.Inv ∧
    n.log.firstIndex ≤ n.commitSinceIndex + 1 ∧ RecOk n := by
  have hwf : st0.WF := by
    refine ⟨?_, by decide +kernel⟩
    intro k e hk
    match k, hk with
    | 0, hk => simp [st0] at hk; subst hk; rfl
    | 1, hk => simp [st0] at hk; subst hk; rfl
    | n + 2, hk => simp [st0] at hk
  obtain ⟨l, hl, hinv, _, _⟩ := RaftLog.Inv.new hwf 0
  have hl' : RaftLog.new st0 0 = .ok l0 := rfl
  rw [hl'] at hl
  injection hl with hl
  subst hl
  refine ⟨_, rfl, ?_, by decide +kernel, ⟨by simp [RawNodeM.new, st0], by simp [RawNodeM.new, st0]⟩⟩
  -- `load_state` moved the commit index to 1
  exact { hinv with
    dummy_le_committed := by decide +kernel
    committed_le_last := by decide +kernel }

/-- **finding (apply-before-persist on a follower).**  `set_max_apply_unpersisted_log_limit` may be
called on a follower; a snapshot followed by committed appends before the next `ready()` then
makes `ready()` panic at raw_node.rs:537 ("has snapshot but also has committed entries").  The
model reproduces it; the no-panic statement therefore assumes `limit = 0` on non-leaders. -/
theorem C07_follower_limit_panics :
    (match RawNodeM.new st0 0 0 NO_LIMIT with
     | .ok n =>
       match n.env { term := 1, vote := 0, role := ROLE_FOLLOWER, leaderId := 2, msgs := [],
                     readStates := [], limit := U64_MAX,
                     ops := [.restore { metadata := { index := 5, term := 1 } },
                             .tappend [ent 6 1 1], .commitTo 6] } with
       | .ok n1 => (match n1.ready with
         | .panic _ => true
         | _ => false)
       | _ => false
     | _ => false) = true := by decide

end RaftProps.C07
