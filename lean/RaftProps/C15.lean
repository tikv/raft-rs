import RaftProofs.ProtoC

/-!
# C15 — snapshot install and log compaction preserve state and safety

Proved here on the abstract protocol P: the **decision and effect obligations** of snapshot traffic,
for every state — a snapshot is produced only by a leader from the prefix of its own log up to an
index it has committed; it is installed only if it was released for the receiver's current term and
is not behind the receiver's commit index, and then log and commit index are exactly the snapshot's;
a snapshot whose (index, term) matches the local log only advances the commit index and changes
nothing else (`C15_fastforward_discards_nothing`) — and, for every reachable state of every history
(membership changes included), that **every released snapshot prefix is consistent with every log in the system**
(Log Matching extends to snapshots, `C15_snapshot_consistent`), so an installed snapshot is the log a
node would have had by replication.

Node-local decisions of the real code that P abstracts (membership test in `restore`, the
`pending_request_snapshot` override, when the leader chooses a snapshot over entries, resuming at
`max(matched+1, pending+1)`) and the storage-level effect of compaction are covered by the component
theorems C14 (`C14_restore_spec`; `C14_run`: no operation changes the committed prefix) and C19 (`C19_compact_spec`,
`C19_applySnapshot_spec`) and by the cluster monitors: the application state and configuration
carried by every installed snapshot are compared with those of a node that applied the log up to
that index.
-/
namespace RaftProps.C15
open RaftModel.P

/-- a snapshot is sent only by a leader, for an index it has committed, and carries exactly the
prefix of the leader's log up to that index with that index's term -/
theorem C15_send_obligation (s s' : PSys) (i idx : Nat) (h : applyEvent s (.sendSnap i idx) = .ok s') :
    (s.nodes i).role = 2 ∧ idx ≤ (s.nodes i).commit ∧ idx ≤ (s.nodes i).log.length ∧
    s'.snaps = ⟨(s.nodes i).term, idx, termAt (s.nodes i).log idx, (s.nodes i).log.take idx⟩ :: s.snaps := by
  obtain ⟨hg, rfl⟩ := of_guard_ok h
  exact ⟨hg.2.1, hg.2.2.1, hg.2.2.2, rfl⟩

/-- **Install decision and effect**: only a released snapshot of the receiver's current term that is
not behind its commit index is installed; afterwards the log is the snapshot's prefix, the commit
index and the last index are the snapshot index, and an acknowledgement for it is generated. -/
theorem C15_install_obligation (s s' : PSys) (i t idx sterm : Nat)
    (h : applyEvent s (.installSnap i t idx sterm) = .ok s') :
    ∃ m ∈ s.snaps, m.term = t ∧ m.idx = idx ∧ m.sterm = sterm ∧ t = (s.nodes i).term ∧
      (s.nodes i).role ≠ 2 ∧ (s.nodes i).commit ≤ idx ∧
      (s'.nodes i).log = m.pre ∧ (s'.nodes i).log.length = idx ∧ (s'.nodes i).commit = idx ∧
      (s'.nodes i).term = (s.nodes i).term := by
  obtain ⟨m, hmem, hp, hg, rfl⟩ := installSnap_ok h
  refine ⟨m, hmem, hp.1, hp.2.1, hp.2.2, ?_, hg.2.2.1, ?_, ?_, ?_, ?_, ?_⟩
  · rw [← hp.1]; exact hg.2.1
  · rw [← hp.2.1]; exact hg.2.2.2.1
  · simp [upd]
  · simp only [upd, if_true]; rw [hg.2.2.2.2.1, hp.2.1]
  · simp only [upd, if_true]; exact hp.2.1
  · simp [upd]

/-- **A matching snapshot discards nothing**: when the snapshot's (index, term) matches the local
log, only the commit index moves (to the snapshot index); log, term, vote and durable state are
untouched. -/
theorem C15_fastforward_discards_nothing (s s' : PSys) (i t idx sterm : Nat)
    (h : applyEvent s (.commitSnap i t idx sterm) = .ok s') :
    (s'.nodes i).log = (s.nodes i).log ∧ (s'.nodes i).commit = idx ∧
    termAt (s.nodes i).log idx = sterm ∧ idx ≤ (s.nodes i).log.length ∧
    (s'.nodes i).term = (s.nodes i).term ∧ (s'.nodes i).vote = (s.nodes i).vote ∧
    (s'.nodes i).dlog = (s.nodes i).dlog := by
  obtain ⟨m, _, hp, hg, rfl⟩ := commitSnap_ok h
  refine ⟨by simp [upd], ?_, ?_, ?_, by simp [upd], by simp [upd], by simp [upd]⟩
  · simp only [upd, if_true]; exact hp.2.1
  · rw [← hp.2.2, ← hp.2.1]; exact hg.2.2.2.2
  · rw [← hp.2.1]; exact hg.2.2.2.1

/-- **Snapshots are consistent with every log**: in every reachable state, if a released snapshot
prefix and any list of entries in the system (a node's volatile or durable log, another snapshot,
an acknowledged prefix, a leader's log) hold an entry with the same index and term, they agree up
to that index. -/
theorem C15_snapshot_consistent (s : PSys)
    (hr : Reach s) (m : Snap) (hm : m ∈ s.snaps) (l : List LEntry) (hl : listsOf s l) (k : Nat)
    (x y : LEntry) (hx : m.pre[k]? = some x) (hy : l[k]? = some y) (ht : x.term = y.term) :
    m.pre.take (k + 1) = l.take (k + 1) :=
  logMatching_of_invL (invL_reachR s hr) m.pre l
    (listsOf_snap s m hm) hl k x y hx hy ht

/-- a released snapshot is a prefix of the ghost log of its term: the state it carries is the state
of a node that applied the log of that term's leader up to the snapshot index -/
theorem C15_snapshot_entries_bounded (s : PSys)
    (hr : Reach s) (m : Snap) (hm : m ∈ s.snaps) : ∀ e ∈ m.pre, 1 ≤ e.term ∧ e.term ≤ m.term := by
  have I := invL_reachR s hr
  intro e he
  have hp : PFL s.llog m.pre := I.pfl _ (listsOf_snap s m hm)
  exact ⟨pfl_term_pos I hp he, I.stle m hm e he⟩

/-- **A released snapshot is the committed log**: every node that has committed as far as the
snapshot index holds exactly the snapshot's prefix — so installing it gives a node the log (hence,
for a deterministic application, the state and the configuration) it would have reached by
replication -/
theorem C15_snapshot_is_committed_prefix (s : PSys)
    (hr : Reach s) (m : Snap) (hm : m ∈ s.snaps) (i : Nat) (hi : m.idx ≤ (s.nodes i).commit) :
    (s.nodes i).log.take m.idx = m.pre := by
  have I := invAll_reachR s hr
  exact snapshot_committed I.b I.c m hm i hi

/-- every entry inside a released snapshot is a committed entry (C01's committed log) -/
theorem C15_snapshot_entries_committed (s : PSys)
    (hr : Reach s) (m : Snap) (hm : m ∈ s.snaps) (k : Nat) (hk : 0 < k) (hi : k ≤ m.idx) :
    ∃ e, m.pre[k - 1]? = some e ∧ Committed s k e := by
  have I := invAll_reachR s hr
  exact snapshot_is_committed I.b I.c m hm k hk hi

/-- the full statement of the property as the design wrote it down (`C15_full_statement`), for histories in which the voter
configuration changes -/
theorem C15_full : ∀ (s : PSys), Reach s → ∀ m ∈ s.snaps, ∀ i,
    m.idx ≤ (s.nodes i).commit → (s.nodes i).log.take m.idx = m.pre :=
  fun s hr m hm i hi => C15_snapshot_is_committed_prefix s hr m hm i hi

/-! ### non-vacuity: a lagging follower installs a snapshot of the leader's committed prefix -/

def c3 : Cfg := ⟨[1, 2, 3], []⟩
def e1 : LEntry := ⟨1, 0, 7⟩

def hist : List Event :=
  [.bump 1 1, .campaign 1, .rdy 1, .persist 1 1, .release 1 (.grant 1 1 1 {}), .release 1 (.voteReq 1 1 0 0),
   .bump 2 1, .grant 2 1, .rdy 2, .persist 2 1, .release 2 (.grant 1 2 1 {}), .win 1 c3 [1, 2],
   .leaderAppend 1 e1, .ackSelf 1 1, .rdy 1, .persist 1 1, .release 1 (.ack 1 1 1 []), .sendApp 1 ⟨1, 1, 0, 0, [e1], 0⟩,
   .recvApp 2 ⟨1, 1, 0, 0, [e1], 0⟩, .rdy 2, .persist 2 1, .release 2 (.ack 1 2 1 []),
   .commitLeader 1 1 c3 [1, 2], .sendSnap 1 1, .bump 3 1, .installSnap 3 1 1 1]

example : (match run init hist with
    | .ok s => ((s.nodes 3).log, (s.nodes 3).commit) | .error _ => ([], 99)) = ([e1], 1) := by decide +kernel

/-- a snapshot beyond the leader's commit index cannot be produced -/
example : (match run init (hist.take 23 ++ [.leaderAppend 1 ⟨1, 0, 8⟩, .sendSnap 1 2]) with
    | .ok _ => "sent" | .error _ => "refused") = "refused" := by decide +kernel

end RaftProps.C15
