import RaftProps.C01g2

/-!
# C01 / C03 / C04, cluster level, with compaction **and snapshots between nodes**, without the gaps `anch` and `rirs`

Part 2 of `RaftProps/C01e.lean` / `RaftProps/C01g2.lean` under the weaker bundle **`Snap2.Hyp3w`**
(`RaftProofs/ClusterSnap2C.lean`) = `Snap2.Hyp3a` **minus `anch` minus `rirs`**: the two invariants
about the transport — every `MsgAppend` is anchored inside its sender's log, every `MsgReadIndexResp`
comes from a node that led its term with `committed ≥ index` — are *derived* along the history
(`Snap2.Hyp3w.toHyp3a`, from `Snap5.Hyp3w.toHyp3a`, `RaftProofs/ClusterSnap5X.lean`: `Snap2.Hyp3w`
implies `Snap5.Hyp3w`), as `RaftProps/C01g.lean` does for part 1.

How: the per-call relation of `ClusterCommit4A–4I` is taken without its escape "a `MsgSnapshot` is
queued" (`Raft.CS`, `RaftProofs/ClusterSnap4A.lean`): a leader's progress may be in the `Snapshot`
state, and then its pending snapshot lies within the log or is the index of a `MsgSnapshot` in the
queue (`POk` / `FS`); `become_probe` after a `MsgSnapStatus` needs the former, which the cluster
invariant `Snap5.CI2` provides: every queued `MsgSnapshot` names an index within the commit index
(`SnapSend`: it is the commit index the storage recorded; `Sm.scm`; the commit index never decreases
over a call, `Raft.CC.call_src`).  A delivered `MsgSnapshot` and the installation of a pending
snapshot need no per-call relation: `SnapOut` / `PersistOut` describe them completely.  An anchor at a
restored snapshot point carries the term of a real entry (`Snap5.snap_point_term_ne_zero`).

**Still hypotheses** (`Snap2.Hyp3w`): everything of C01e part 2 except `anch` / `norir` — the
`Snap2.KStep` contract (`SnapSend`, atomic installation, `compact k → k ≤ store.hardState.commit`,
`persist_snap` only with term and vote persisted, no new pending snapshot outside a delivered
`MsgSnapshot`), `noreq`, `snapidx`, `pend0`, `NoBatch`, `nolone`, `first0`, `initc`, `snapt0`.
-/
namespace RaftProps.C01h
open RaftModel RaftModel.Cluster RaftModel.Node RaftModel.Raft RaftModel.Raft.CC

/-- **the ghost logs**: in every state of a history, the logical log and the stored log of every node
have uncompacted versions `FL` / `FS` (`Snap.Full`), which hold the same entries up to the node's
snapshot point unless a snapshot is pending (restored, not yet installed in the storage); any two
uncompacted versions of one log hold the same entries. -/
theorem C01h_ghost_log (cfg : JointConfig) (c0 : Nat) (h : List Sys) (H : Snap2.Hyp3w cfg c0 h)
    (m : Nat) (s : Sys) (hm : h[m]? = some s) (v : Nat) (st : NState) (hv : s.node v = some st) :
    Snap.Full (Snap.HistChain h) c0 st.raft.raftLog.abs (Snap.FL h c0 st) ∧
    Snap.Full (Snap.HistChain h) c0 (storeLog st.raft.raftLog.store) (Snap.FS h c0 st) ∧
    (st.raft.raftLog.unstable.snapshot = none → ∀ k, k ≤ st.raft.raftLog.abs.snapIdx →
      (Snap.FL h c0 st).entryAt k = (Snap.FS h c0 st).entryAt k) ∧
    (∀ g F F', Snap.Full (Snap.HistChain h) c0 g F → Snap.Full (Snap.HistChain h) c0 g F' →
      ∀ k, F.entryAt k = F'.entryAt k) :=
  RaftProps.C01g.Snapshots.C01g_ghost_log cfg c0 h H.toHyp3a m s hm v st hv

/-- **C04 `cluster_leader_commit_rule`** with compaction and snapshots — the commit rule with **durable
acknowledgements**: whenever a step `h[n] → h[n+1]` takes the commit index of a node `l` that is leader
of term `t` after the step from `c` to `c' > c`, the entry at `c'` in its log carries term `t`, and
there is a joint quorum `Q` of `cfg` such that every `j ∈ Q` is

* `l` itself, with `persisted ≥ c'` — and its storage holds its log up to `c'`; or
* the sender of an accepting `MsgAppendResponse` `x` for term `t` with `index ≥ c'` that is in the
  transport before the step, **and in every state of the history whose transport holds `x` the
  storage of `j` reaches `c'` and holds `l`'s log up to `c'`** — the uncompacted versions are equal up
  to `c'`, hence so are the logs at every index both still retain. -/
theorem C04_cluster_leader_commit_rule (cfg : JointConfig) (c0 : Nat) (h : List Sys)
    (H : Snap2.Hyp3w cfg c0 h)
    (n : Nat) (a b : Sys) (ha : h[n]? = some a) (hb : h[n + 1]? = some b)
    (l : Nat) (sta stb : NState) (hla : a.node l = some sta) (hlb : b.node l = some stb)
    (t : Nat) (hs : stb.raft.state = .leader) (ht : stb.raft.term = t)
    (hc : sta.raft.raftLog.committed < stb.raft.raftLog.committed) :
    stb.raft.raftLog.term stb.raft.raftLog.committed = .ok t ∧
    ∃ Q, IsJointQuorum cfg Q ∧ ∀ j ∈ Q,
      (j = l ∧ stb.raft.raftLog.committed ≤ stb.raft.raftLog.persisted ∧
        ∀ k, k ≤ stb.raft.raftLog.committed →
          (storeLog stb.raft.raftLog.store).entryAt k = stb.raft.raftLog.abs.entryAt k) ∨
      ∃ x ∈ a.net, x.msgType = .msgAppendResponse ∧ x.reject = false ∧ x.frm = j ∧ x.term = t ∧
        stb.raft.raftLog.committed ≤ x.index ∧
        ∀ (m : Nat) (s : Sys) (stj : NState), h[m]? = some s → x ∈ s.net → s.node j = some stj →
          stb.raft.raftLog.committed ≤ (storeLog stj.raft.raftLog.store).lastIndex ∧
          (∀ k, k ≤ stb.raft.raftLog.committed →
            (Snap.FS h c0 stj).entryAt k = (Snap.FL h c0 stb).entryAt k) ∧
          ∀ k, k ≤ stb.raft.raftLog.committed →
            (storeLog stj.raft.raftLog.store).snapIdx < k → stb.raft.raftLog.abs.snapIdx < k →
            (storeLog stj.raft.raftLog.store).entryAt k = stb.raft.raftLog.abs.entryAt k :=
  RaftProps.C01g.Snapshots.C04_cluster_leader_commit_rule cfg c0 h H.toHyp3a n a b ha hb l sta stb hla hlb t hs ht hc

/-- **C03 `cluster_leader_completeness`** with compaction and snapshots — every entry a leader has committed is in
the log of every leader of a later term: if a step `h[n] → h[n+1]` takes the commit index of `l`, leader
of term `t` after the step, to `c'`, then the log of any node that leads a term `t' > t` in any state
`h[m]` of the history reaches `c'` and holds, at every index up to `c'`, the entry `l` held there — in
the uncompacted versions, hence wherever both logs retain the index. -/
theorem C03_cluster_leader_completeness (cfg : JointConfig) (c0 : Nat) (h : List Sys)
    (H : Snap2.Hyp3w cfg c0 h)
    (n : Nat) (a b : Sys) (ha : h[n]? = some a) (hb : h[n + 1]? = some b)
    (l : Nat) (sta stb : NState) (hla : a.node l = some sta) (hlb : b.node l = some stb)
    (hs : stb.raft.state = .leader)
    (hc : sta.raft.raftLog.committed < stb.raft.raftLog.committed)
    (m : Nat) (s : Sys) (hm : h[m]? = some s) (l' : Nat) (st' : NState)
    (hl' : s.node l' = some st') (hs' : st'.raft.state = .leader)
    (ht : stb.raft.term < st'.raft.term) :
    stb.raft.raftLog.committed ≤ st'.raft.raftLog.abs.lastIndex ∧
    (∀ k, k ≤ stb.raft.raftLog.committed →
      (Snap.FL h c0 st').entryAt k = (Snap.FL h c0 stb).entryAt k) ∧
    ∀ k, k ≤ stb.raft.raftLog.committed →
      st'.raft.raftLog.abs.snapIdx < k → stb.raft.raftLog.abs.snapIdx < k →
      st'.raft.raftLog.abs.entryAt k = stb.raft.raftLog.abs.entryAt k :=
  RaftProps.C01g.Snapshots.C03_cluster_leader_completeness cfg c0 h H.toHyp3a n a b ha hb l sta stb hla hlb hs hc m s hm l' st' hl' hs' ht

/-- **C04 `cluster_follower_commit_sound`** with compaction and snapshots — *every* commit index is sound: in every
state `h[m]`, what a node `v` has marked committed is at most the common initial snapshot point `c0`,
or it was committed by a leader: there is an earlier step `h[n] → h[n+1]` (`n < m`) that took the commit
index of a node `l`, leader of a term `t ≤ term(v)` after the step, to some `c' ≥ committed(v)`, and the
log of `v` equals the log `l` had then up to `committed(v)` — in the uncompacted versions, hence
wherever both retain the index. -/
theorem C04_cluster_follower_commit_sound (cfg : JointConfig) (c0 : Nat) (h : List Sys)
    (H : Snap2.Hyp3w cfg c0 h) (m : Nat) (s : Sys) (hm : h[m]? = some s) (v : Nat) (st : NState)
    (hv : s.node v = some st) :
    st.raft.raftLog.committed ≤ c0 ∨
    ∃ (n : Nat) (a b : Sys) (l : Nat) (sta stb : NState), n < m ∧ h[n]? = some a ∧
      h[n + 1]? = some b ∧ a.node l = some sta ∧ b.node l = some stb ∧
      stb.raft.state = .leader ∧ sta.raft.raftLog.committed < stb.raft.raftLog.committed ∧
      st.raft.raftLog.committed ≤ stb.raft.raftLog.committed ∧ stb.raft.term ≤ st.raft.term ∧
      (∀ k, k ≤ st.raft.raftLog.committed →
        (Snap.FL h c0 st).entryAt k = (Snap.FL h c0 stb).entryAt k) ∧
      ∀ k, k ≤ st.raft.raftLog.committed →
        st.raft.raftLog.abs.snapIdx < k → stb.raft.raftLog.abs.snapIdx < k →
        st.raft.raftLog.abs.entryAt k = stb.raft.raftLog.abs.entryAt k :=
  RaftProps.C01g.Snapshots.C04_cluster_follower_commit_sound cfg c0 h H.toHyp3a m s hm v st hv

/-- … and so is every **stored** commit index (what a restarted node starts from): it is not ahead of
the commit index, and it is covered by a leader's commit of a term not above the stored term, with the
stored entries. -/
theorem C04_cluster_stored_commit_sound (cfg : JointConfig) (c0 : Nat) (h : List Sys)
    (H : Snap2.Hyp3w cfg c0 h) (m : Nat) (s : Sys) (hm : h[m]? = some s) (v : Nat) (st : NState)
    (hv : s.node v = some st) :
    st.raft.raftLog.store.hardState.commit ≤ st.raft.raftLog.committed ∧
    (st.raft.raftLog.store.hardState.commit ≤ c0 ∨
     ∃ (n : Nat) (a b : Sys) (l : Nat) (sta stb : NState), n < m ∧ h[n]? = some a ∧
      h[n + 1]? = some b ∧ a.node l = some sta ∧ b.node l = some stb ∧
      stb.raft.state = .leader ∧ sta.raft.raftLog.committed < stb.raft.raftLog.committed ∧
      st.raft.raftLog.store.hardState.commit ≤ stb.raft.raftLog.committed ∧
      stb.raft.term ≤ st.raft.raftLog.store.hardState.term ∧
      (∀ k, k ≤ st.raft.raftLog.store.hardState.commit →
        (Snap.FS h c0 st).entryAt k = (Snap.FL h c0 stb).entryAt k) ∧
      ∀ k, k ≤ st.raft.raftLog.store.hardState.commit →
        (storeLog st.raft.raftLog.store).snapIdx < k → stb.raft.raftLog.abs.snapIdx < k →
        (storeLog st.raft.raftLog.store).entryAt k = stb.raft.raftLog.abs.entryAt k) :=
  RaftProps.C01g.Snapshots.C04_cluster_stored_commit_sound cfg c0 h H.toHyp3a m s hm v st hv

/-- **C01 `cluster_state_machine_safety`, ghost form** — the uncompacted logs of any two nodes, in any
two states of the history (the same node before and after a restart or a compaction included), hold the
same entry at every index both have marked committed. -/
theorem C01_cluster_state_machine_safety_ghost (cfg : JointConfig) (c0 : Nat) (h : List Sys)
    (H : Snap2.Hyp3w cfg c0 h)
    (m1 : Nat) (s1 : Sys) (hm1 : h[m1]? = some s1) (v1 : Nat) (st1 : NState)
    (hv1 : s1.node v1 = some st1)
    (m2 : Nat) (s2 : Sys) (hm2 : h[m2]? = some s2) (v2 : Nat) (st2 : NState)
    (hv2 : s2.node v2 = some st2)
    (k : Nat) (hk1 : k ≤ st1.raft.raftLog.committed) (hk2 : k ≤ st2.raft.raftLog.committed) :
    (Snap.FL h c0 st1).entryAt k = (Snap.FL h c0 st2).entryAt k :=
  RaftProps.C01g.Snapshots.C01_cluster_state_machine_safety_ghost cfg c0 h H.toHyp3a m1 s1 hm1 v1 st1 hv1 m2 s2 hm2 v2 st2 hv2 k hk1 hk2

/-- **C01 `cluster_state_machine_safety`** with compaction and snapshots — any two nodes, in any two
states of the history (the same node before and after a restart or a compaction included), hold the same entry at
every index both have marked committed **and both still retain** (`snapIdx < k`; a compacted log
answers `none` below its snapshot point). -/
theorem C01_cluster_state_machine_safety (cfg : JointConfig) (c0 : Nat) (h : List Sys)
    (H : Snap2.Hyp3w cfg c0 h)
    (m1 : Nat) (s1 : Sys) (hm1 : h[m1]? = some s1) (v1 : Nat) (st1 : NState)
    (hv1 : s1.node v1 = some st1)
    (m2 : Nat) (s2 : Sys) (hm2 : h[m2]? = some s2) (v2 : Nat) (st2 : NState)
    (hv2 : s2.node v2 = some st2)
    (k : Nat) (hk1 : k ≤ st1.raft.raftLog.committed) (hk2 : k ≤ st2.raft.raftLog.committed)
    (hr1 : st1.raft.raftLog.abs.snapIdx < k) (hr2 : st2.raft.raftLog.abs.snapIdx < k) :
    st1.raft.raftLog.abs.entryAt k = st2.raft.raftLog.abs.entryAt k :=
  RaftProps.C01g.Snapshots.C01_cluster_state_machine_safety cfg c0 h H.toHyp3a m1 s1 hm1 v1 st1 hv1 m2 s2 hm2 v2 st2 hv2 k hk1 hk2 hr1 hr2

/-- … in particular for the **applied** entries of two nodes whose applied index is within their
commit index (`AppliedOk`, which holds outside the restart window — `raft_log.rs:44-46`). -/
theorem C01_cluster_state_machine_safety_applied (cfg : JointConfig) (c0 : Nat) (h : List Sys)
    (H : Snap2.Hyp3w cfg c0 h)
    (m1 : Nat) (s1 : Sys) (hm1 : h[m1]? = some s1) (v1 : Nat) (st1 : NState)
    (hv1 : s1.node v1 = some st1) (ha1 : st1.raft.raftLog.AppliedOk)
    (m2 : Nat) (s2 : Sys) (hm2 : h[m2]? = some s2) (v2 : Nat) (st2 : NState)
    (hv2 : s2.node v2 = some st2) (ha2 : st2.raft.raftLog.AppliedOk)
    (k : Nat) (hk1 : k ≤ st1.raft.raftLog.applied) (hk2 : k ≤ st2.raft.raftLog.applied)
    (hr1 : st1.raft.raftLog.abs.snapIdx < k) (hr2 : st2.raft.raftLog.abs.snapIdx < k) :
    st1.raft.raftLog.abs.entryAt k = st2.raft.raftLog.abs.entryAt k :=
  RaftProps.C01g.Snapshots.C01_cluster_state_machine_safety_applied cfg c0 h H.toHyp3a m1 s1 hm1 v1 st1 hv1 ha1 m2 s2 hm2 v2 st2 hv2 ha2 k hk1 hk2 hr1 hr2

/-- **a compacted prefix is a committed prefix** (`C15`-style, for compaction points): in every state,
the snapshot point of every node — of its logical log and of its storage, which coincide unless a
snapshot is pending — is not below the common initial snapshot point `c0` and not above the node's
commit index; and every other
node, in any state, whose commit index reaches an index `k` up to that snapshot point holds, in its
uncompacted log, exactly the entry the compacting node's uncompacted log holds at `k`. -/
theorem C01_cluster_compacted_prefix_committed (cfg : JointConfig) (c0 : Nat) (h : List Sys)
    (H : Snap2.Hyp3w cfg c0 h)
    (m1 : Nat) (s1 : Sys) (hm1 : h[m1]? = some s1) (v1 : Nat) (st1 : NState)
    (hv1 : s1.node v1 = some st1) :
    c0 ≤ st1.raft.raftLog.abs.snapIdx ∧
    (st1.raft.raftLog.unstable.snapshot = none →
      (storeLog st1.raft.raftLog.store).snapIdx = st1.raft.raftLog.abs.snapIdx) ∧
    st1.raft.raftLog.abs.snapIdx ≤ st1.raft.raftLog.committed ∧
    ∀ (m2 : Nat) (s2 : Sys) (v2 : Nat) (st2 : NState), h[m2]? = some s2 → s2.node v2 = some st2 →
      ∀ k, k ≤ st1.raft.raftLog.abs.snapIdx → k ≤ st2.raft.raftLog.committed →
        (Snap.FL h c0 st1).entryAt k = (Snap.FL h c0 st2).entryAt k :=
  RaftProps.C01g.Snapshots.C01_cluster_compacted_prefix_committed cfg c0 h H.toHyp3a m1 s1 hm1 v1 st1 hv1

/-- **a released snapshot is a committed prefix**: every `MsgSnapshot` `x` in the transport of a state
`h[m]` names an index `i > c0` and a term `t` such that there is an earlier step `h[n] → h[n+1]`
(`n < m`) that took the commit index of a node `l`, leader of a term `≤ x.term` after the step, to some
`c' ≥ i`, and the uncompacted log of `l` after that step holds an entry of term `t` at `i` — in its real
log, if that still retains `i`. -/
theorem C01_cluster_snapshot_committed_prefix (cfg : JointConfig) (c0 : Nat) (h : List Sys)
    (H : Snap2.Hyp3w cfg c0 h) (m : Nat) (s : Sys) (hm : h[m]? = some s) (x : Message)
    (hx : x ∈ s.net) (hty : x.msgType = .msgSnapshot) :
    c0 < x.snapshot.metadata.index ∧
    ∃ (n : Nat) (a b : Sys) (l : Nat) (sta stb : NState), n < m ∧ h[n]? = some a ∧
      h[n + 1]? = some b ∧ a.node l = some sta ∧ b.node l = some stb ∧
      stb.raft.state = .leader ∧ sta.raft.raftLog.committed < stb.raft.raftLog.committed ∧
      x.snapshot.metadata.index ≤ stb.raft.raftLog.committed ∧ stb.raft.term ≤ x.term ∧
      Has (Snap.FL h c0 stb) x.snapshot.metadata.index x.snapshot.metadata.term ∧
      (stb.raft.raftLog.abs.snapIdx < x.snapshot.metadata.index →
        Has stb.raft.raftLog.abs x.snapshot.metadata.index x.snapshot.metadata.term) :=
  RaftProps.C01g.Snapshots.C01_cluster_snapshot_committed_prefix cfg c0 h H.toHyp3a m s hm x hx hty

/-- **snapshot-point term agreement**: if the log of a node `v1` (in any state) starts at a snapshot
point `i > c0` whose term `t` it knows — after it restored a snapshot (pending or installed), or after
a restart —, then `i` is within `v1`'s commit index, and every node `v2`, in any state, whose commit
index reaches `i` holds an entry of term `t` at `i` in its uncompacted log: in its real log if that
retains `i`, and as the term of its own snapshot point if that is `i` and it knows the term.  (With
`C01_cluster_state_machine_safety_ghost`: the prefix a snapshot stands for is the committed prefix of
every node.) -/
theorem C01_cluster_snapshot_point_agreement (cfg : JointConfig) (c0 : Nat) (h : List Sys)
    (H : Snap2.Hyp3w cfg c0 h)
    (m1 : Nat) (s1 : Sys) (hm1 : h[m1]? = some s1) (v1 : Nat) (st1 : NState)
    (hv1 : s1.node v1 = some st1) (t : Nat) (ht : st1.raft.raftLog.abs.snapTerm = some t)
    (hi : c0 < st1.raft.raftLog.abs.snapIdx) :
    st1.raft.raftLog.abs.snapIdx ≤ st1.raft.raftLog.committed ∧
    ∀ (m2 : Nat) (s2 : Sys) (v2 : Nat) (st2 : NState), h[m2]? = some s2 → s2.node v2 = some st2 →
      st1.raft.raftLog.abs.snapIdx ≤ st2.raft.raftLog.committed →
      Has (Snap.FL h c0 st2) st1.raft.raftLog.abs.snapIdx t ∧
      (st2.raft.raftLog.abs.snapIdx < st1.raft.raftLog.abs.snapIdx →
        Has st2.raft.raftLog.abs st1.raft.raftLog.abs.snapIdx t) ∧
      (st2.raft.raftLog.abs.snapIdx = st1.raft.raftLog.abs.snapIdx →
        ∀ t', st2.raft.raftLog.abs.snapTerm = some t' → t' = t) :=
  RaftProps.C01g.Snapshots.C01_cluster_snapshot_point_agreement cfg c0 h H.toHyp3a m1 s1 hm1 v1 st1 hv1 t ht hi

/-- **a restored snapshot never drops a committed entry, and installs a committed prefix**: in every
state, a node with a pending snapshot `sn` (restored from a `MsgSnapshot`, not yet installed in its
storage) has commit index `sn.index > c0`, an empty unstable log, and nothing persisted beyond
`sn.index`; and its stored commit index never exceeds its commit index. -/
theorem C01_cluster_pending_snapshot (cfg : JointConfig) (c0 : Nat) (h : List Sys)
    (H : Snap2.Hyp3w cfg c0 h) (m : Nat) (s : Sys) (hm : h[m]? = some s) (v : Nat) (st : NState)
    (hv : s.node v = some st) (sn : Snapshot) (hp : st.raft.raftLog.unstable.snapshot = some sn) :
    st.raft.raftLog.unstable.entries = [] ∧ st.raft.raftLog.committed = sn.metadata.index ∧
    c0 < sn.metadata.index ∧ st.raft.raftLog.persisted ≤ sn.metadata.index ∧
    st.raft.raftLog.store.hardState.commit ≤ st.raft.raftLog.committed :=
  RaftProps.C01g.Snapshots.C01_cluster_pending_snapshot cfg c0 h H.toHyp3a m s hm v st hv sn hp

/-- **every `MsgAppend` is anchored inside its sender's log** (the gap `anch`): in every state
of a history, every `MsgAppend` in the transport, and every one queued at a node, has `log_term ≠ 0` or
`index ≤ c0` -/
theorem C01h_appends_anchored (cfg : JointConfig) (c0 : Nat) (h : List Sys)
    (H : Snap2.Hyp3w cfg c0 h) (n : Nat) (s : Sys) (hn : h[n]? = some s) :
    (∀ x ∈ s.net, x.msgType = .msgAppend → x.logTerm ≠ 0 ∨ x.index ≤ c0) ∧
    (∀ i st, s.node i = some st → ∀ x ∈ st.raft.msgs, x.msgType = .msgAppend →
      x.logTerm ≠ 0 ∨ x.index ≤ c0) :=
  have c := Snap5.ci_all (Snap5.Hyp3w.of_snap2 H).g n s hn
  ⟨c.na, c.anch trivial⟩

/-- **a leader's progress lies within its log, the `Snapshot` state included**: in every state of a
history, every progress of a leader has `matched ≤ last_index`, `next_idx ≤ last_index + 1`, and — in
the `Snapshot` state — `pending_snapshot ≤ last_index`; and every `MsgSnapshot` a node has queued names
an index within that node's commit index -/
theorem C01h_progress_within_log (cfg : JointConfig) (c0 : Nat) (h : List Sys)
    (H : Snap2.Hyp3w cfg c0 h) (n : Nat) (s : Sys) (hn : h[n]? = some s) (i : Nat) (st : NState)
    (hi : s.node i = some st) :
    (st.raft.state = .leader → ∀ p ∈ st.raft.prs.progress,
      p.2.matched ≤ st.raft.raftLog.lastIndex ∧ p.2.nextIdx ≤ st.raft.raftLog.lastIndex + 1 ∧
      (p.2.state = .snapshot → p.2.pendingSnapshot ≤ st.raft.raftLog.lastIndex)) ∧
    (∀ x ∈ st.raft.msgs, x.msgType = .msgSnapshot →
      x.snapshot.metadata.index ≤ st.raft.raftLog.committed) :=
  have c := (Snap5.ci_all (Snap5.Hyp3w.of_snap2 H).g n s hn).node i st hi
  ⟨c.within trivial, c.qs trivial⟩

/-- **where a `MsgReadIndexResp` comes from** (the gap `norir` / `rirs`): in every state `h[n]`,
every `MsgReadIndexResp` in the transport or queued at a node carries the term of a node that led that
term in some state `h[n0]`, `n0 ≤ n`, with `committed ≥ index`; and every pending read index of a
leader is at most its commit index -/
theorem C01h_read_index_resp_source (cfg : JointConfig) (c0 : Nat) (h : List Sys)
    (H : Snap2.Hyp3w cfg c0 h) (n : Nat) (s : Sys) (hn : h[n]? = some s) :
    (∀ x, (x ∈ s.net ∨ ∃ i st, s.node i = some st ∧ x ∈ st.raft.msgs) →
      x.msgType = .msgReadIndexResp →
      ∃ n0 s0 w stw, n0 ≤ n ∧ h[n0]? = some s0 ∧ s0.node w = some stw ∧
        stw.raft.state = .leader ∧ stw.raft.term = x.term ∧ x.index ≤ stw.raft.raftLog.committed) ∧
    (∀ i st, s.node i = some st → st.raft.state = .leader →
      ∀ p ∈ st.raft.readOnly.pendingReadIndex, p.2.index ≤ st.raft.raftLog.committed) := by
  have c := Snap5.ci_all (Snap5.Hyp3w.of_snap2 H).g n s hn
  refine ⟨fun x hx hty => ?_, fun i st hi => (c.node i st hi).rd⟩
  rcases hx with d | ⟨i, st, hi, d⟩
  · exact c.nr x d hty
  · exact c.qr i st hi x d hty

/-- the hypotheses of this file imply those of `RaftProps/C01g2.lean`: `anch` and `rirs` are theorems -/
theorem C01h_derives_anch_rirs (cfg : JointConfig) (c0 : Nat) (h : List Sys)
    (H : Snap2.Hyp3w cfg c0 h) : Snap2.Hyp3a cfg c0 h := H.toHyp3a

/-- the hypotheses of `RaftProps/C01g2.lean` imply the hypotheses of this file -/
theorem C01h_subsumes_C01g2 (cfg : JointConfig) (c0 : Nat) (h : List Sys)
    (H : Snap2.Hyp3a cfg c0 h) : Snap2.Hyp3w cfg c0 h := H.toHyp3w

/-- … and so do the hypotheses of C01e part 2 (with the gaps `norir` and `anch`) -/
theorem C01h_subsumes_C01e (cfg : JointConfig) (c0 : Nat) (h : List Sys)
    (H : Snap2.Hyp3 cfg c0 h) : Snap2.Hyp3w cfg c0 h := H.toHyp3a.toHyp3w

/-- non-vacuity: the 34-state history of `C01e_cluster_snapshot_nonvacuous` (a leader compacts, a
lagging follower is sent a `MsgSnapshot` — the leader's progress is in the `Snapshot` state —,
restores and installs it) satisfies `Snap2.Hyp3w` -/
theorem C01h_snapshots_nonvacuous : Snap2.Hyp3w RaftProps.C02.c02x_cfg 0 Snap2.sx_hist :=
  Snap2.sx_hyp3.toHyp3a.toHyp3w

/-- some node of `s` is leader and has a progress in the `Snapshot` state with a pending snapshot -/
def snapshotStateIn (s : Sys) : Bool :=
  s.nodes.any (fun p => p.2.raft.state == .leader &&
    p.2.raft.prs.progress.any (fun q => q.2.state == .snapshot && decide (0 < q.2.pendingSnapshot)))

/-- … and that history really exercises what is new here: in some of its states a leader has a
progress in the `Snapshot` state, and a `MsgSnapshot` is in the transport (kernel-evaluated) -/
theorem C01h_snapshot_state_reached :
    Snap2.sx_hist.any snapshotStateIn = true ∧
    Snap2.sx_hist.any (fun s => s.net.any (fun x => x.msgType == .msgSnapshot)) = true := by
  rw [Snap2.sx_hist_eq]
  exact Snap5.sx_eval.2.2.2.2.2

end RaftProps.C01h
