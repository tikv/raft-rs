import RaftProps.C01i
import RaftProofs.ClusterSnap6D

/-!
# C01 / C03 / C04, cluster level, with compaction, snapshots between nodes and `request_snapshot` — `reqok` derived

The statements of `RaftProps/C01i.lean` (= those of `RaftProps/C01h.lean`) **without the `_partial`
suffix**, under the bundle **`Snap5.Hyp3r`** (`RaftProofs/ClusterSnap6D.lean`) = `Snap5.Hyp3r_partial`
of C01i *minus* its invariant-shaped hypothesis

    reqok : ∀ s ∈ h, ∀ i st, s.node i = some st →
      st.raft.pendingRequestSnapshot ≠ 0 → st.raft.raftLog.lastIndex ≤ st.raft.pendingRequestSnapshot

= the bundle of C01h (`Snap2.Hyp3w`) minus the gap `noreq`: **`request_snapshot` may be used freely**
(`C01j_bundle` spells the bundle out; `C01j_subsumes_C01i`, `C01j_subsumes_C01h`).  No field was added:
initial states are freshly booted nodes (`Cluster.Init`, part of `History`), and a booted node has no
pending request (`C01j_boot_no_request`).

**How `reqok` is derived** (`C01j_request_index_bounds_log`, the invariant itself, for every state of
a history).  The inductive form is `RQ.ReqInv`: *a node with a pending snapshot request is not leader,
and its log ends at or before the requested index*.  `RaftProofs/ClusterSnap6A–6C` prove that **every
`NodeOp`, every outcome of `Node.call`, keeps it** (`C01j_call_keeps_request_invariant`):

* `RQ.FrameP` (6A): the sending / replication helpers (`send`, `maybe_send_append`, `bcast_append`,
  `bcast_heartbeat`, `maybe_commit`, the response handlers of the leader, …) touch neither the request,
  nor the role, nor the unstable log / stored entries / snapshot metadata (hence not `last_index`);
* `RQ.Q r r'` (6B): "the request was dropped, or it is unchanged and a node that is not leader is still
  not leader and its log has not grown" — a transitive relation satisfied by all of `Raft::step` and
  `Raft::tick` (`step_q`, `tick_q`): `reset` (`become_candidate`, `become_leader`) clears the request,
  `become_follower` keeps it (role follower, log untouched), `become_pre_candidate` keeps it (role
  pre-candidate), `handle_append_entries` with a pending request only answers, without one it leaves
  no request, `handle_heartbeat` only moves the commit index, `restore` clears the request when it
  replaces the log and otherwise only moves the commit index or steps down, `append_entry` is reached
  only in the leader role (`step_leader`, `become_leader`, the auto-leave entry of `commit_apply`);
* 6C: the other entry points (`ping`, `apply_conf_change`, `on_persist_entries`, `on_persist_snap`,
  `commit_apply`, group commit, `on_entries_fetched`, knobs) satisfy `Q`; `stabilize`, `persist_snap`
  and `compact` keep `last_index` (by the representation invariant `RaftLog.Inv`, which
  `RaftProps.C05.cluster_inv` provides without any hypothesis on requests; `compact` under the storage
  contract `CompactOk` of `KStep`); `request_snapshot` — the only call that sets a request — sets it to
  `last_index` on a node that is not leader (`C01i_request_snapshot_call`); `Node.boot` starts with 0.

The cluster step (6D) is local: `call` / `deliver` / `send` are one `Node.call` of the stepping node,
`restart` is a boot; other nodes are untouched.
-/
namespace RaftProps.C01j
open RaftModel RaftModel.Cluster RaftModel.Node RaftModel.Raft RaftModel.Raft.CC

/-- **the ghost logs**: in every state of a history, the logical log and the stored log of every node
have uncompacted versions `FL` / `FS` (`Snap.Full`), which hold the same entries up to the node's
snapshot point unless a snapshot is pending (restored, not yet installed in the storage); any two
uncompacted versions of one log hold the same entries. -/
theorem C01j_ghost_log (cfg : JointConfig) (c0 : Nat) (h : List Sys) (H : Snap5.Hyp3r cfg c0 h)
    (m : Nat) (s : Sys) (hm : h[m]? = some s) (v : Nat) (st : NState) (hv : s.node v = some st) :
    Snap.Full (Snap.HistChain h) c0 st.raft.raftLog.abs (Snap.FL h c0 st) ∧
    Snap.Full (Snap.HistChain h) c0 (storeLog st.raft.raftLog.store) (Snap.FS h c0 st) ∧
    (st.raft.raftLog.unstable.snapshot = none → ∀ k, k ≤ st.raft.raftLog.abs.snapIdx →
      (Snap.FL h c0 st).entryAt k = (Snap.FS h c0 st).entryAt k) ∧
    (∀ g F F', Snap.Full (Snap.HistChain h) c0 g F → Snap.Full (Snap.HistChain h) c0 g F' →
      ∀ k, F.entryAt k = F'.entryAt k) :=
  RaftProps.C01i.Aux.C01i_ghost_log cfg c0 h H.toHyp3w.toHyp3a m s hm v st hv

/-- **C04 `cluster_leader_commit_rule`** with compaction and snapshots — the commit rule with **durable
acknowledgements**: whenever a step `h[n] → h[n+1]` takes the commit index of a node `l` that is leader
of term `t` after the step from `c` to `c' > c`, the entry at `c'` in its log carries term `t`, and
there is a joint quorum `Q` of `cfg` such that every `j ∈ Q` is

* `l` itself, with `persisted ≥ c'` — and its storage holds its log up to `c'`; or
* the sender of an accepting `MsgAppendResponse` `x` for term `t` with `index ≥ c'` that is in the
  transport before the step, **and in every state of the history whose transport holds `x` the
  storage of `j` reaches `c'` and holds `l`'s log up to `c'`** — the uncompacted versions are equal up
  to `c'`, hence so are the logs at every index both still retain. -/
theorem C04_cluster_leader_commit_rule (cfg : JointConfig) (c0 : Nat) (h : List Sys)
    (H : Snap5.Hyp3r cfg c0 h)
    (n : Nat) (a b : Sys) (ha : h[n]? = some a) (hb : h[n + 1]? = some b)
    (l : Nat) (sta stb : NState) (hla : a.node l = some sta) (hlb : b.node l = some stb)
    (t : Nat) (hs : stb.raft.state = .leader) (ht : stb.raft.term = t)
    (hc : sta.raft.raftLog.committed < stb.raft.raftLog.committed) :
    stb.raft.raftLog.term stb.raft.raftLog.committed = .ok t ∧
    ∃ Q, IsJointQuorum cfg Q ∧ ∀ j ∈ Q,
      (j = l ∧ stb.raft.raftLog.committed ≤ stb.raft.raftLog.persisted ∧
        ∀ k, k ≤ stb.raft.raftLog.committed →
          (storeLog stb.raft.raftLog.store).entryAt k = stb.raft.raftLog.abs.entryAt k) ∨
      ∃ x ∈ a.net, x.msgType = .msgAppendResponse ∧ x.reject = false ∧ x.frm = j ∧ x.term = t ∧
        stb.raft.raftLog.committed ≤ x.index ∧
        ∀ (m : Nat) (s : Sys) (stj : NState), h[m]? = some s → x ∈ s.net → s.node j = some stj →
          stb.raft.raftLog.committed ≤ (storeLog stj.raft.raftLog.store).lastIndex ∧
          (∀ k, k ≤ stb.raft.raftLog.committed →
            (Snap.FS h c0 stj).entryAt k = (Snap.FL h c0 stb).entryAt k) ∧
          ∀ k, k ≤ stb.raft.raftLog.committed →
            (storeLog stj.raft.raftLog.store).snapIdx < k → stb.raft.raftLog.abs.snapIdx < k →
            (storeLog stj.raft.raftLog.store).entryAt k = stb.raft.raftLog.abs.entryAt k :=
  RaftProps.C01i.Aux.C04_cluster_leader_commit_rule cfg c0 h H.toHyp3w.toHyp3a n a b ha hb l sta stb hla hlb t hs ht hc

/-- **C03 `cluster_leader_completeness`** with compaction and snapshots — every entry a leader has committed is in
the log of every leader of a later term: if a step `h[n] → h[n+1]` takes the commit index of `l`, leader
of term `t` after the step, to `c'`, then the log of any node that leads a term `t' > t` in any state
`h[m]` of the history reaches `c'` and holds, at every index up to `c'`, the entry `l` held there — in
the uncompacted versions, hence wherever both logs retain the index. -/
theorem C03_cluster_leader_completeness (cfg : JointConfig) (c0 : Nat) (h : List Sys)
    (H : Snap5.Hyp3r cfg c0 h)
    (n : Nat) (a b : Sys) (ha : h[n]? = some a) (hb : h[n + 1]? = some b)
    (l : Nat) (sta stb : NState) (hla : a.node l = some sta) (hlb : b.node l = some stb)
    (hs : stb.raft.state = .leader)
    (hc : sta.raft.raftLog.committed < stb.raft.raftLog.committed)
    (m : Nat) (s : Sys) (hm : h[m]? = some s) (l' : Nat) (st' : NState)
    (hl' : s.node l' = some st') (hs' : st'.raft.state = .leader)
    (ht : stb.raft.term < st'.raft.term) :
    stb.raft.raftLog.committed ≤ st'.raft.raftLog.abs.lastIndex ∧
    (∀ k, k ≤ stb.raft.raftLog.committed →
      (Snap.FL h c0 st').entryAt k = (Snap.FL h c0 stb).entryAt k) ∧
    ∀ k, k ≤ stb.raft.raftLog.committed →
      st'.raft.raftLog.abs.snapIdx < k → stb.raft.raftLog.abs.snapIdx < k →
      st'.raft.raftLog.abs.entryAt k = stb.raft.raftLog.abs.entryAt k :=
  RaftProps.C01i.Aux.C03_cluster_leader_completeness cfg c0 h H.toHyp3w.toHyp3a n a b ha hb l sta stb hla hlb hs hc m s hm l' st' hl' hs' ht

/-- **C04 `cluster_follower_commit_sound`** with compaction and snapshots — *every* commit index is sound: in every
state `h[m]`, what a node `v` has marked committed is at most the common initial snapshot point `c0`,
or it was committed by a leader: there is an earlier step `h[n] → h[n+1]` (`n < m`) that took the commit
index of a node `l`, leader of a term `t ≤ term(v)` after the step, to some `c' ≥ committed(v)`, and the
log of `v` equals the log `l` had then up to `committed(v)` — in the uncompacted versions, hence
wherever both retain the index. -/
theorem C04_cluster_follower_commit_sound (cfg : JointConfig) (c0 : Nat) (h : List Sys)
    (H : Snap5.Hyp3r cfg c0 h) (m : Nat) (s : Sys) (hm : h[m]? = some s) (v : Nat) (st : NState)
    (hv : s.node v = some st) :
    st.raft.raftLog.committed ≤ c0 ∨
    ∃ (n : Nat) (a b : Sys) (l : Nat) (sta stb : NState), n < m ∧ h[n]? = some a ∧
      h[n + 1]? = some b ∧ a.node l = some sta ∧ b.node l = some stb ∧
      stb.raft.state = .leader ∧ sta.raft.raftLog.committed < stb.raft.raftLog.committed ∧
      st.raft.raftLog.committed ≤ stb.raft.raftLog.committed ∧ stb.raft.term ≤ st.raft.term ∧
      (∀ k, k ≤ st.raft.raftLog.committed →
        (Snap.FL h c0 st).entryAt k = (Snap.FL h c0 stb).entryAt k) ∧
      ∀ k, k ≤ st.raft.raftLog.committed →
        st.raft.raftLog.abs.snapIdx < k → stb.raft.raftLog.abs.snapIdx < k →
        st.raft.raftLog.abs.entryAt k = stb.raft.raftLog.abs.entryAt k :=
  RaftProps.C01i.Aux.C04_cluster_follower_commit_sound cfg c0 h H.toHyp3w.toHyp3a m s hm v st hv

/-- … and so is every **stored** commit index (what a restarted node starts from): it is not ahead of
the commit index, and it is covered by a leader's commit of a term not above the stored term, with the
stored entries. -/
theorem C04_cluster_stored_commit_sound (cfg : JointConfig) (c0 : Nat) (h : List Sys)
    (H : Snap5.Hyp3r cfg c0 h) (m : Nat) (s : Sys) (hm : h[m]? = some s) (v : Nat) (st : NState)
    (hv : s.node v = some st) :
    st.raft.raftLog.store.hardState.commit ≤ st.raft.raftLog.committed ∧
    (st.raft.raftLog.store.hardState.commit ≤ c0 ∨
     ∃ (n : Nat) (a b : Sys) (l : Nat) (sta stb : NState), n < m ∧ h[n]? = some a ∧
      h[n + 1]? = some b ∧ a.node l = some sta ∧ b.node l = some stb ∧
      stb.raft.state = .leader ∧ sta.raft.raftLog.committed < stb.raft.raftLog.committed ∧
      st.raft.raftLog.store.hardState.commit ≤ stb.raft.raftLog.committed ∧
      stb.raft.term ≤ st.raft.raftLog.store.hardState.term ∧
      (∀ k, k ≤ st.raft.raftLog.store.hardState.commit →
        (Snap.FS h c0 st).entryAt k = (Snap.FL h c0 stb).entryAt k) ∧
      ∀ k, k ≤ st.raft.raftLog.store.hardState.commit →
        (storeLog st.raft.raftLog.store).snapIdx < k → stb.raft.raftLog.abs.snapIdx < k →
        (storeLog st.raft.raftLog.store).entryAt k = stb.raft.raftLog.abs.entryAt k) :=
  RaftProps.C01i.Aux.C04_cluster_stored_commit_sound cfg c0 h H.toHyp3w.toHyp3a m s hm v st hv

/-- **C01 `cluster_state_machine_safety`, ghost form** — the uncompacted logs of any two nodes, in any
two states of the history (the same node before and after a restart or a compaction included), hold the
same entry at every index both have marked committed. -/
theorem C01_cluster_state_machine_safety_ghost (cfg : JointConfig) (c0 : Nat) (h : List Sys)
    (H : Snap5.Hyp3r cfg c0 h)
    (m1 : Nat) (s1 : Sys) (hm1 : h[m1]? = some s1) (v1 : Nat) (st1 : NState)
    (hv1 : s1.node v1 = some st1)
    (m2 : Nat) (s2 : Sys) (hm2 : h[m2]? = some s2) (v2 : Nat) (st2 : NState)
    (hv2 : s2.node v2 = some st2)
    (k : Nat) (hk1 : k ≤ st1.raft.raftLog.committed) (hk2 : k ≤ st2.raft.raftLog.committed) :
    (Snap.FL h c0 st1).entryAt k = (Snap.FL h c0 st2).entryAt k :=
  RaftProps.C01i.Aux.C01_cluster_state_machine_safety_ghost cfg c0 h H.toHyp3w.toHyp3a m1 s1 hm1 v1 st1 hv1 m2 s2 hm2 v2 st2 hv2 k hk1 hk2

/-- **C01 `cluster_state_machine_safety`** with compaction and snapshots — any two nodes, in any two
states of the history (the same node before and after a restart or a compaction included), hold the same entry at
every index both have marked committed **and both still retain** (`snapIdx < k`; a compacted log
answers `none` below its snapshot point). -/
theorem C01_cluster_state_machine_safety (cfg : JointConfig) (c0 : Nat) (h : List Sys)
    (H : Snap5.Hyp3r cfg c0 h)
    (m1 : Nat) (s1 : Sys) (hm1 : h[m1]? = some s1) (v1 : Nat) (st1 : NState)
    (hv1 : s1.node v1 = some st1)
    (m2 : Nat) (s2 : Sys) (hm2 : h[m2]? = some s2) (v2 : Nat) (st2 : NState)
    (hv2 : s2.node v2 = some st2)
    (k : Nat) (hk1 : k ≤ st1.raft.raftLog.committed) (hk2 : k ≤ st2.raft.raftLog.committed)
    (hr1 : st1.raft.raftLog.abs.snapIdx < k) (hr2 : st2.raft.raftLog.abs.snapIdx < k) :
    st1.raft.raftLog.abs.entryAt k = st2.raft.raftLog.abs.entryAt k :=
  RaftProps.C01i.Aux.C01_cluster_state_machine_safety cfg c0 h H.toHyp3w.toHyp3a m1 s1 hm1 v1 st1 hv1 m2 s2 hm2 v2 st2 hv2 k hk1 hk2 hr1 hr2

/-- … in particular for the **applied** entries of two nodes whose applied index is within their
commit index (`AppliedOk`, which holds outside the restart window — `raft_log.rs:44-46`). -/
theorem C01_cluster_state_machine_safety_applied (cfg : JointConfig) (c0 : Nat) (h : List Sys)
    (H : Snap5.Hyp3r cfg c0 h)
    (m1 : Nat) (s1 : Sys) (hm1 : h[m1]? = some s1) (v1 : Nat) (st1 : NState)
    (hv1 : s1.node v1 = some st1) (ha1 : st1.raft.raftLog.AppliedOk)
    (m2 : Nat) (s2 : Sys) (hm2 : h[m2]? = some s2) (v2 : Nat) (st2 : NState)
    (hv2 : s2.node v2 = some st2) (ha2 : st2.raft.raftLog.AppliedOk)
    (k : Nat) (hk1 : k ≤ st1.raft.raftLog.applied) (hk2 : k ≤ st2.raft.raftLog.applied)
    (hr1 : st1.raft.raftLog.abs.snapIdx < k) (hr2 : st2.raft.raftLog.abs.snapIdx < k) :
    st1.raft.raftLog.abs.entryAt k = st2.raft.raftLog.abs.entryAt k :=
  RaftProps.C01i.Aux.C01_cluster_state_machine_safety_applied cfg c0 h H.toHyp3w.toHyp3a m1 s1 hm1 v1 st1 hv1 ha1 m2 s2 hm2 v2 st2 hv2 ha2 k hk1 hk2 hr1 hr2

/-- **a compacted prefix is a committed prefix** (`C15`-style, for compaction points): in every state,
the snapshot point of every node — of its logical log and of its storage, which coincide unless a
snapshot is pending — is not below the common initial snapshot point `c0` and not above the node's
commit index; and every other
node, in any state, whose commit index reaches an index `k` up to that snapshot point holds, in its
uncompacted log, exactly the entry the compacting node's uncompacted log holds at `k`. -/
theorem C01_cluster_compacted_prefix_committed (cfg : JointConfig) (c0 : Nat) (h : List Sys)
    (H : Snap5.Hyp3r cfg c0 h)
    (m1 : Nat) (s1 : Sys) (hm1 : h[m1]? = some s1) (v1 : Nat) (st1 : NState)
    (hv1 : s1.node v1 = some st1) :
    c0 ≤ st1.raft.raftLog.abs.snapIdx ∧
    (st1.raft.raftLog.unstable.snapshot = none →
      (storeLog st1.raft.raftLog.store).snapIdx = st1.raft.raftLog.abs.snapIdx) ∧
    st1.raft.raftLog.abs.snapIdx ≤ st1.raft.raftLog.committed ∧
    ∀ (m2 : Nat) (s2 : Sys) (v2 : Nat) (st2 : NState), h[m2]? = some s2 → s2.node v2 = some st2 →
      ∀ k, k ≤ st1.raft.raftLog.abs.snapIdx → k ≤ st2.raft.raftLog.committed →
        (Snap.FL h c0 st1).entryAt k = (Snap.FL h c0 st2).entryAt k :=
  RaftProps.C01i.Aux.C01_cluster_compacted_prefix_committed cfg c0 h H.toHyp3w.toHyp3a m1 s1 hm1 v1 st1 hv1

/-- **a released snapshot is a committed prefix**: every `MsgSnapshot` `x` in the transport of a state
`h[m]` names an index `i > c0` and a term `t` such that there is an earlier step `h[n] → h[n+1]`
(`n < m`) that took the commit index of a node `l`, leader of a term `≤ x.term` after the step, to some
`c' ≥ i`, and the uncompacted log of `l` after that step holds an entry of term `t` at `i` — in its real
log, if that still retains `i`. -/
theorem C01_cluster_snapshot_committed_prefix (cfg : JointConfig) (c0 : Nat) (h : List Sys)
    (H : Snap5.Hyp3r cfg c0 h) (m : Nat) (s : Sys) (hm : h[m]? = some s) (x : Message)
    (hx : x ∈ s.net) (hty : x.msgType = .msgSnapshot) :
    c0 < x.snapshot.metadata.index ∧
    ∃ (n : Nat) (a b : Sys) (l : Nat) (sta stb : NState), n < m ∧ h[n]? = some a ∧
      h[n + 1]? = some b ∧ a.node l = some sta ∧ b.node l = some stb ∧
      stb.raft.state = .leader ∧ sta.raft.raftLog.committed < stb.raft.raftLog.committed ∧
      x.snapshot.metadata.index ≤ stb.raft.raftLog.committed ∧ stb.raft.term ≤ x.term ∧
      Has (Snap.FL h c0 stb) x.snapshot.metadata.index x.snapshot.metadata.term ∧
      (stb.raft.raftLog.abs.snapIdx < x.snapshot.metadata.index →
        Has stb.raft.raftLog.abs x.snapshot.metadata.index x.snapshot.metadata.term) :=
  RaftProps.C01i.Aux.C01_cluster_snapshot_committed_prefix cfg c0 h H.toHyp3w.toHyp3a m s hm x hx hty

/-- **snapshot-point term agreement**: if the log of a node `v1` (in any state) starts at a snapshot
point `i > c0` whose term `t` it knows — after it restored a snapshot (pending or installed), or after
a restart —, then `i` is within `v1`'s commit index, and every node `v2`, in any state, whose commit
index reaches `i` holds an entry of term `t` at `i` in its uncompacted log: in its real log if that
retains `i`, and as the term of its own snapshot point if that is `i` and it knows the term.  (With
`C01_cluster_state_machine_safety_ghost`: the prefix a snapshot stands for is the committed prefix of
every node.) -/
theorem C01_cluster_snapshot_point_agreement (cfg : JointConfig) (c0 : Nat) (h : List Sys)
    (H : Snap5.Hyp3r cfg c0 h)
    (m1 : Nat) (s1 : Sys) (hm1 : h[m1]? = some s1) (v1 : Nat) (st1 : NState)
    (hv1 : s1.node v1 = some st1) (t : Nat) (ht : st1.raft.raftLog.abs.snapTerm = some t)
    (hi : c0 < st1.raft.raftLog.abs.snapIdx) :
    st1.raft.raftLog.abs.snapIdx ≤ st1.raft.raftLog.committed ∧
    ∀ (m2 : Nat) (s2 : Sys) (v2 : Nat) (st2 : NState), h[m2]? = some s2 → s2.node v2 = some st2 →
      st1.raft.raftLog.abs.snapIdx ≤ st2.raft.raftLog.committed →
      Has (Snap.FL h c0 st2) st1.raft.raftLog.abs.snapIdx t ∧
      (st2.raft.raftLog.abs.snapIdx < st1.raft.raftLog.abs.snapIdx →
        Has st2.raft.raftLog.abs st1.raft.raftLog.abs.snapIdx t) ∧
      (st2.raft.raftLog.abs.snapIdx = st1.raft.raftLog.abs.snapIdx →
        ∀ t', st2.raft.raftLog.abs.snapTerm = some t' → t' = t) :=
  RaftProps.C01i.Aux.C01_cluster_snapshot_point_agreement cfg c0 h H.toHyp3w.toHyp3a m1 s1 hm1 v1 st1 hv1 t ht hi

/-- **a restored snapshot never drops a committed entry, and installs a committed prefix**: in every
state, a node with a pending snapshot `sn` (restored from a `MsgSnapshot`, not yet installed in its
storage) has commit index `sn.index > c0`, an empty unstable log, and nothing persisted beyond
`sn.index`; and its stored commit index never exceeds its commit index. -/
theorem C01_cluster_pending_snapshot (cfg : JointConfig) (c0 : Nat) (h : List Sys)
    (H : Snap5.Hyp3r cfg c0 h) (m : Nat) (s : Sys) (hm : h[m]? = some s) (v : Nat) (st : NState)
    (hv : s.node v = some st) (sn : Snapshot) (hp : st.raft.raftLog.unstable.snapshot = some sn) :
    st.raft.raftLog.unstable.entries = [] ∧ st.raft.raftLog.committed = sn.metadata.index ∧
    c0 < sn.metadata.index ∧ st.raft.raftLog.persisted ≤ sn.metadata.index ∧
    st.raft.raftLog.store.hardState.commit ≤ st.raft.raftLog.committed :=
  RaftProps.C01i.Aux.C01_cluster_pending_snapshot cfg c0 h H.toHyp3w.toHyp3a m s hm v st hv sn hp

/-- **every `MsgAppend` is anchored inside its sender's log** (the gap `anch`): in every state
of a history, every `MsgAppend` in the transport, and every one queued at a node, has `log_term ≠ 0` or
`index ≤ c0` -/
theorem C01j_appends_anchored (cfg : JointConfig) (c0 : Nat) (h : List Sys)
    (H : Snap5.Hyp3r cfg c0 h) (n : Nat) (s : Sys) (hn : h[n]? = some s) :
    (∀ x ∈ s.net, x.msgType = .msgAppend → x.logTerm ≠ 0 ∨ x.index ≤ c0) ∧
    (∀ i st, s.node i = some st → ∀ x ∈ st.raft.msgs, x.msgType = .msgAppend →
      x.logTerm ≠ 0 ∨ x.index ≤ c0) :=
  ⟨(Snap5.ci_all H.toHyp3w.g n s hn).na, (Snap5.ci_all H.toHyp3w.g n s hn).anch trivial⟩

/-- **a leader's progress lies within its log, the `Snapshot` state included**: in every state of a
history, every progress of a leader has `matched ≤ last_index`, `next_idx ≤ last_index + 1`, and — in
the `Snapshot` state — `pending_snapshot ≤ last_index`; and every `MsgSnapshot` a node has queued names
an index within that node's commit index -/
theorem C01j_progress_within_log (cfg : JointConfig) (c0 : Nat) (h : List Sys)
    (H : Snap5.Hyp3r cfg c0 h) (n : Nat) (s : Sys) (hn : h[n]? = some s) (i : Nat) (st : NState)
    (hi : s.node i = some st) :
    (st.raft.state = .leader → ∀ p ∈ st.raft.prs.progress,
      p.2.matched ≤ st.raft.raftLog.lastIndex ∧ p.2.nextIdx ≤ st.raft.raftLog.lastIndex + 1 ∧
      (p.2.state = .snapshot → p.2.pendingSnapshot ≤ st.raft.raftLog.lastIndex)) ∧
    (∀ x ∈ st.raft.msgs, x.msgType = .msgSnapshot →
      x.snapshot.metadata.index ≤ st.raft.raftLog.committed) :=
  ⟨((Snap5.ci_all H.toHyp3w.g n s hn).node i st hi).within trivial,
    ((Snap5.ci_all H.toHyp3w.g n s hn).node i st hi).qs trivial⟩

/-- **where a `MsgReadIndexResp` comes from** (the gap `norir` / `rirs`): in every state `h[n]`,
every `MsgReadIndexResp` in the transport or queued at a node carries the term of a node that led that
term in some state `h[n0]`, `n0 ≤ n`, with `committed ≥ index`; and every pending read index of a
leader is at most its commit index -/
theorem C01j_read_index_resp_source (cfg : JointConfig) (c0 : Nat) (h : List Sys)
    (H : Snap5.Hyp3r cfg c0 h) (n : Nat) (s : Sys) (hn : h[n]? = some s) :
    (∀ x, (x ∈ s.net ∨ ∃ i st, s.node i = some st ∧ x ∈ st.raft.msgs) →
      x.msgType = .msgReadIndexResp →
      ∃ n0 s0 w stw, n0 ≤ n ∧ h[n0]? = some s0 ∧ s0.node w = some stw ∧
        stw.raft.state = .leader ∧ stw.raft.term = x.term ∧ x.index ≤ stw.raft.raftLog.committed) ∧
    (∀ i st, s.node i = some st → st.raft.state = .leader →
      ∀ p ∈ st.raft.readOnly.pendingReadIndex, p.2.index ≤ st.raft.raftLog.committed) := by
  have c := Snap5.ci_all H.toHyp3w.g n s hn
  refine ⟨fun x hx hty => ?_, fun i st hi => (c.node i st hi).rd⟩
  rcases hx with d | ⟨i, st, hi, d⟩
  · exact c.nr x d hty
  · exact c.qr i st hi x d hty


/-- the hypotheses of this file imply those of `RaftProps/C01g2.lean` for the development `Snap5`:
`anch` and `rirs` are theorems -/
theorem C01j_derives_anch_rirs (cfg : JointConfig) (c0 : Nat) (h : List Sys)
    (H : Snap5.Hyp3r cfg c0 h) : Snap5.Hyp3a cfg c0 h := Snap5.Hyp3w.toHyp3a H.toHyp3w

/-- **the derived invariant** (the hypothesis `reqok` of C01i, strengthened): in every state of a
history, a node with a pending snapshot request (`pending_request_snapshot ≠ 0`) is not leader and its
log ends at or before the requested index -/
theorem C01j_request_index_bounds_log (cfg : JointConfig) (c0 : Nat) (h : List Sys)
    (H : Snap5.Hyp3r cfg c0 h) (n : Nat) (s : Sys) (hn : h[n]? = some s) (i : Nat) (st : NState)
    (hi : s.node i = some st) (hp : st.raft.pendingRequestSnapshot ≠ 0) :
    st.raft.raftLog.lastIndex ≤ st.raft.pendingRequestSnapshot ∧ st.raft.state ≠ .leader :=
  ⟨(H.reqInv n s hn i st hi hp).2, (H.reqInv n s hn i st hi hp).1⟩

/-- … in the form of the field `reqok` of `Snap5.Hyp3r_partial` -/
theorem C01j_reqok (cfg : JointConfig) (c0 : Nat) (h : List Sys) (H : Snap5.Hyp3r cfg c0 h) :
    ∀ s ∈ h, ∀ i st, s.node i = some st →
      st.raft.pendingRequestSnapshot ≠ 0 → st.raft.raftLog.lastIndex ≤ st.raft.pendingRequestSnapshot :=
  H.reqok

/-- **one call of a node — every `NodeOp`, every outcome — keeps the invariant** "a node with a
pending snapshot request is not leader and its log ends at or before the requested index", for a node
whose log satisfies the representation invariant; `compact` obeys the storage contract and is not
called while a snapshot is pending -/
theorem C01j_call_keeps_request_invariant (st st' : NState) (rnd : Option Nat) (op : NodeOp)
    (res : OpRes) (hinv : st.raft.raftLog.Inv)
    (hco : ∀ k, op = .compact k →
      CompactOk st.raft.raftLog k ∧ st.raft.raftLog.unstable.snapshot = none)
    (hi : st.raft.pendingRequestSnapshot ≠ 0 →
      st.raft.state ≠ .leader ∧ st.raft.raftLog.lastIndex ≤ st.raft.pendingRequestSnapshot)
    (h : Node.call st rnd op = .ok (res, st')) :
    st'.raft.pendingRequestSnapshot ≠ 0 →
      st'.raft.state ≠ .leader ∧ st'.raft.raftLog.lastIndex ≤ st'.raft.pendingRequestSnapshot :=
  RQ.call_reqI st st' rnd op res hinv hco hi h

/-- **`Raft::step`, any state, any message**: the pending request is dropped, or it is unchanged and a
node that is not leader is still not leader and its log has not grown -/
theorem C01j_step_request (r r' : Raft) (m : Message) (e : Option RaftError)
    (h : r.step m = .ok (r', e)) :
    r'.pendingRequestSnapshot = 0 ∨
    (r'.pendingRequestSnapshot = r.pendingRequestSnapshot ∧
      (r.state ≠ .leader → r'.state ≠ .leader ∧ r'.raftLog.lastIndex ≤ r.raftLog.lastIndex)) :=
  RQ.post_fst_rq (P := fun x => RQ.Q r x) (RQ.step_q r m) h

/-- a freshly booted node (`RawNode::new`: initial states and restarts) has no pending request -/
theorem C01j_boot_no_request (c : Config) (store : MemStorage) (rnd : Option Nat) (st : NState)
    (h : Node.boot c store rnd = .ok (.ok st)) : st.raft.pendingRequestSnapshot = 0 :=
  RQ.boot_pend c store rnd st h

/-- **the bundle of `RaftProps/C01i.lean` implies the bundle of this file** (forget `reqok`) … -/
theorem C01j_subsumes_C01i (cfg : JointConfig) (c0 : Nat) (h : List Sys)
    (H : Snap5.Hyp3r_partial cfg c0 h) : Snap5.Hyp3r cfg c0 h := Snap5.Hyp3w.toHyp3r H

/-- … **and conversely: `reqok` is a theorem** -/
theorem C01j_implies_C01i (cfg : JointConfig) (c0 : Nat) (h : List Sys)
    (H : Snap5.Hyp3r cfg c0 h) : Snap5.Hyp3r_partial cfg c0 h := H.toHyp3w

/-- the hypotheses of `RaftProps/C01h.lean` (with the gap `noreq`) imply those of this file -/
theorem C01j_subsumes_C01h (cfg : JointConfig) (c0 : Nat) (h : List Sys)
    (H : Snap2.Hyp3w cfg c0 h) : Snap5.Hyp3r cfg c0 h := (Snap5.Hyp3w.of_snap2 H).toHyp3r

/-- the bundle, field by field: the hypotheses of C01h **without `noreq`** (and nothing in its place) -/
theorem C01j_bundle (cfg : JointConfig) (c0 : Nat) (h : List Sys) :
    Snap5.Hyp3r cfg c0 h ↔
    (History h ∧ (∀ s ∈ h, FixedCfg cfg s) ∧ cfg.incoming ≠ [] ∧ cfg.incoming.Nodup ∧
      cfg.outgoing.Nodup ∧ (∀ s : Sys, h[0]? = some s → InitOk s) ∧
      (∀ (n : Nat) (a b : Sys), h[n]? = some a → h[n + 1]? = some b → Snap2.KStep a b) ∧
      (∀ s ∈ h, NoBatch s)) ∧
    (∀ i Q, IsJointQuorum cfg Q → ∃ k ∈ Q, k ≠ i) ∧
    (∀ s : Sys, h[0]? = some s → ∀ i st, s.node i = some st →
      st.raft.raftLog.store.firstIndex = c0 + 1) ∧
    (∀ s : Sys, h[0]? = some s → ∀ i st, s.node i = some st → st.raft.raftLog.committed = c0) ∧
    (∀ s : Sys, h[0]? = some s → ∀ i st, s.node i = some st →
      st.raft.raftLog.unstable.snapshot = none) ∧
    (∀ s0, h[0]? = some s0 → ∀ i sti, s0.node i = some sti → ∀ t0,
      sti.raft.raftLog.abs.snapTerm = some t0 → ∀ j stj, s0.node j = some stj → t0 ≤ stj.raft.term) ∧
    (∀ s ∈ h, ∀ x ∈ s.net, x.msgType = .msgSnapshot → c0 < x.snapshot.metadata.index) := by
  constructor
  · intro H
    exact ⟨⟨H.hist, H.fix, H.ne, H.nd1, H.nd2, H.init,
      fun n a b ha hb => (H.steps n a b ha hb).to_snap2, H.nb⟩,
      H.nolone, H.first0, H.initc, H.pend0, H.snapt0, H.snapidx⟩
  · rintro ⟨⟨h1, h2, h3, h4, h5, h6, h7, h8⟩, g1, g2, g3, g4, g5, g6⟩
    exact { hist := h1, fix := h2, ne := h3, nd1 := h4, nd2 := h5, init := h6,
            steps := fun n a b ha hb => Snap5.KStep.of_snap2 (h7 n a b ha hb), nb := h8,
            nolone := g1, first0 := g2, initc := g3, pend0 := g4, snapt0 := g5, snapidx := g6 }

/-- non-vacuity: the 42-state history `Snap5.rx_hist` of `RaftProps/C01i.lean` — follower 2 **calls
`request_snapshot`**, the leader serves the request with a `MsgSnapshot`, follower 2 restores it although
its log holds the snapshot's last entry — satisfies the bundle (`C01i_request_snapshot_exercised` shows
what it exercises) -/
theorem C01j_request_snapshot_nonvacuous :
    Snap5.Hyp3r RaftProps.C02.c02x_cfg 0 Snap5.rx_hist := Snap5.rx_hyp3r

/-- … and in that history a node does have a pending request (so the derived invariant is not
vacuous): in the state `rx_t2` node 2 has `pending_request_snapshot = 2 = last_index` and is a
follower -/
theorem C01j_request_pending_in_example :
    Snap5.rx_t2 ∈ Snap5.rx_hist ∧ Snap5.rx_t2.node 2 = some Snap5.rx_b11 ∧
    Snap5.rx_b11.raft.pendingRequestSnapshot = 2 ∧ Snap5.rx_b11.raft.raftLog.lastIndex = 2 ∧
    Snap5.rx_b11.raft.state = .follower := by
  refine ⟨?_, node_setNode_self Snap5.rx_t1 2 Snap5.rx_b11, Snap5.rx_eval.2.2.2⟩
  unfold Snap5.rx_hist Snap5.rx_tail
  exact List.mem_append_right _ (List.mem_cons_of_mem _ List.mem_cons_self)

end RaftProps.C01j
