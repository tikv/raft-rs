import RaftProofs.Storage

/-!
# C19 — `MemStorage` honours the `Storage` contract

Property theorems only (helper lemmas live in `RaftProofs/Storage.lean`).  The model
`RaftModel.MemStorage` mirrors `MemStorageCore` / `impl Storage for MemStorage` (src/storage.rs:164-518)
method by method; `RaftModel.LogSpec` is the specification: a snapshot point `(snapIdx, snapTerm)`,
the first available index `firstIdx` (which `compact` moves while the snapshot point stays), the
contiguous entries from `firstIdx` on, the stored hard state and configuration.  The specification
selects by *log index* (`filter` / `find?` on the `index` field); the code computes vector positions.

All theorems quantify over every history of calls of every length (`StorageOp`: `set_hardstate`,
`set_conf_state`, `commit_to`, `apply_snapshot`, `compact`, `append`, the two triggers, and
`snapshot`, which consumes a trigger) whose calls satisfy the documented preconditions
(`LogSpec.pre`, and `LogSpec.preC` where the stored commit index matters), and over all query
arguments.  What happens outside the preconditions is settled separately (`…_panics`, and the
recorded quirks at the end).
-/
namespace RaftProps.C19
open RaftModel

/-! ## Histories: the invariant, absence of panics, refinement -/

/-- **Main refinement theorem.**  From any storage satisfying the representation invariant, every
history whose calls meet their documented preconditions runs without panic, re-establishes the
invariant, and ends in a storage whose meaning is the state the specification reaches. -/
theorem C19_refines_from (s : MemStorage) (h : s.Inv) (ops : List StorageOp)
    (hl : s.abs.legal ops = true) :
    ∃ s', s.run ops = .ok s' ∧ s'.Inv ∧ s'.abs = s.abs.run ops := by
  induction ops generalizing s with
  | nil => exact ⟨s, rfl, h, rfl⟩
  | cons op ops ih =>
    simp only [LogSpec.legal, Bool.and_eq_true] at hl
    obtain ⟨s1, e1, i1, a1⟩ := MemStorage.step_refines s h op hl.1
    obtain ⟨s2, e2, i2, a2⟩ := ih s1 i1 (by rw [a1]; exact hl.2)
    refine ⟨s2, ?_, i2, ?_⟩
    · simp only [MemStorage.run, e1]; exact e2
    · rw [a2, a1]; rfl

/-- every reachable storage: from `MemStorage::new()` -/
theorem C19_refines (ops : List StorageOp) (hl : MemStorage.new.abs.legal ops = true) :
    ∃ s', MemStorage.new.run ops = .ok s' ∧ s'.Inv ∧ s'.abs = MemStorage.new.abs.run ops :=
  C19_refines_from _ MemStorage.inv_new ops hl

/-- the specification stays well-formed and, under `preC`, the stored commit index keeps pointing at
the snapshot point or at a stored entry (what `snapshot()` needs) -/
theorem C19_commit_meaningful (s : MemStorage) (h : s.Inv) (hc : s.abs.commitOk = true)
    (ops : List StorageOp) (hl : s.abs.legalC ops = true) :
    ∃ s', s.run ops = .ok s' ∧ s'.Inv ∧ s'.abs = s.abs.run ops ∧ s'.abs.commitOk = true := by
  induction ops generalizing s with
  | nil => exact ⟨s, rfl, h, rfl, hc⟩
  | cons op ops ih =>
    simp only [LogSpec.legalC, Bool.and_eq_true] at hl
    obtain ⟨s1, e1, i1, a1⟩ := MemStorage.step_refines s h op (LogSpec.pre_of_preC _ _ hl.1)
    have c1 : s1.abs.commitOk = true := by
      rw [a1]; exact LogSpec.commitOk_step s.abs h hc op hl.1
    obtain ⟨s2, e2, i2, a2, c2⟩ := ih s1 i1 c1 (by rw [a1]; exact hl.2)
    refine ⟨s2, ?_, i2, ?_, c2⟩
    · simp only [MemStorage.run, e1]; exact e2
    · rw [a2, a1]; rfl

/-! ## Queries answer like the specification -/

/-- **first / last index and the shape of the log**: `first_index()` and `last_index()` are the
specification's, the snapshot point lies before `first_index()`, `last_index() + 1 = first_index() +
number of entries` (so an empty log answers `last = first - 1`), and the `i`-th stored entry carries
index `first_index() + i`. -/
theorem C19_index_spec (s : MemStorage) (h : s.Inv) :
    s.firstIndex = s.abs.firstIdx ∧ s.lastIndex = s.abs.lastIdx ∧
    s.abs.snapIdx < s.firstIndex ∧
    s.lastIndex + 1 = s.firstIndex + s.entries.length ∧
    (∀ i (hi : i < s.entries.length), s.entries[i].index = s.firstIndex + i) :=
  ⟨rfl, h.lastIdx.symm, h.1, h.wf.last_succ,
    fun i hi => h.wf.contig i _ (List.getElem?_eq_getElem hi)⟩

/-- **term** answers exactly like the specification … -/
theorem C19_term_spec (s : MemStorage) (h : s.Inv) (idx : Nat) : s.term idx = s.abs.term idx :=
  MemStorage.term_refines s h idx

/-- … which means: the snapshot point answers its term; `Compacted` exactly below `first_index`
(snapshot point excepted); `Unavailable` exactly above `last_index`; in between, the term of *the*
stored entry with that index; never a panic. -/
theorem C19_term_cases (s : MemStorage) (h : s.Inv) (idx : Nat) :
    (idx = s.snapshotMetadata.index → s.term idx = .ok s.snapshotMetadata.term) ∧
    (s.term idx = .err .compacted ↔ idx ≠ s.snapshotMetadata.index ∧ idx < s.firstIndex) ∧
    (s.term idx = .err .unavailable ↔ s.lastIndex < idx) ∧
    (s.firstIndex ≤ idx → idx ≤ s.lastIndex →
      ∃ e, e ∈ s.entries ∧ e.index = idx ∧ s.term idx = .ok e.term ∧
        ∀ e', e' ∈ s.entries → e'.index = idx → e' = e) ∧
    (∀ site, s.term idx ≠ .panic site) := by
  have hw := h.wf
  have hlast := hw.last_succ
  have h1 := hw.snap_lt
  refine ⟨?_, ?_, ?_, ?_, hw.term_ne_panic idx⟩
  · intro hs
    unfold MemStorage.term
    rw [if_pos hs]
  · refine hw.term_elim idx
      (fun r => r = .err .compacted ↔ idx ≠ s.snapshotMetadata.index ∧ idx < s.firstIndex)
      ?_ ?_ ?_ ?_
    · intro hs; exact ⟨fun hh => (by cases hh), fun hh => absurd hs hh.1⟩
    · intro hs hc; exact ⟨fun _ => ⟨hs, hc⟩, fun _ => rfl⟩
    · intro hu; exact ⟨fun hh => (by cases hh), fun hh => by omega⟩
    · intro e hf hl _; exact ⟨fun hh => (by cases hh), fun hh => by omega⟩
  · refine hw.term_elim idx (fun r => r = .err .unavailable ↔ s.lastIndex < idx) ?_ ?_ ?_ ?_
    · intro hs; exact ⟨fun hh => (by cases hh), fun hh => by omega⟩
    · intro hs hc; exact ⟨fun hh => (by cases hh), fun hh => by omega⟩
    · intro hu; exact ⟨fun _ => hu, fun _ => rfl⟩
    · intro e hf hl _; exact ⟨fun hh => (by cases hh), fun hh => by omega⟩
  · intro hf hl
    obtain ⟨e, hge, ht⟩ := hw.term_in hf hl
    have hie := hw.contig _ _ hge
    refine ⟨e, List.mem_of_getElem? hge, by omega, ht, ?_⟩
    intro e' he' hi'
    obtain ⟨j, hj, rfl⟩ := List.getElem_of_mem he'
    have := hw.contig j _ (List.getElem?_eq_getElem hj)
    have hj' : j = idx - s.firstIndex := by omega
    subst hj'
    rw [List.getElem?_eq_getElem hj] at hge
    exact Option.some.inj hge

/-- **entries** on an available range `first_index ≤ low ≤ high ≤ last_index + 1` (with a non-empty
range, or at least a non-empty log — see the quirks recorded at the end of this file) returns exactly the stored
entries with `low ≤ index < high`, in log order, cut by `limit_size`. -/
theorem C19_entries_spec (s : MemStorage) (h : s.Inv) (low high : Nat) (maxSize : Option Nat)
    (canAsync : Bool) (hl : s.firstIndex ≤ low) (hlh : low ≤ high) (hh : high ≤ s.lastIndex + 1)
    (hne : low < high ∨ s.entries ≠ [])
    (ht : (s.triggerLogUnavailable && canAsync) = false) :
    s.entriesQ low high maxSize canAsync =
      .ok (limitSize (s.entries.filter (fun e => decide (low ≤ e.index) && decide (e.index < high)))
        maxSize) := by
  have hne' : s.entries ≠ [] := by
    rcases hne with hlt | hne
    · intro hn
      have := h.wf.last_succ
      rw [hn] at this; simp at this; omega
    · exact hne
  exact MemStorage.entries_refines s h low high maxSize canAsync hl hlh hh hne' ht

/-- **`util::limit_size`** (see `RaftModel.limitSize_spec`): a prefix; non-empty when the input is;
everything when unlimited; within `m` unless all before its last entry has size 0; maximal. -/
theorem C19_limitSize_spec (ents : List Entry) (max : Option Nat) :
    (∃ k, limitSize ents max = ents.take k) ∧
    (ents ≠ [] → limitSize ents max ≠ []) ∧
    (max = none ∨ max = some NO_LIMIT → limitSize ents max = ents) ∧
    (∀ m, max = some m → m ≠ NO_LIMIT →
      totalSize (limitSize ents max) ≤ m ∨ totalSize (limitSize ents max).dropLast = 0) ∧
    (∀ m, max = some m → ∀ e rest, ents = limitSize ents max ++ e :: rest →
      totalSize (limitSize ents max) ≠ 0 ∧ m < totalSize (limitSize ents max) + e.computeSize) :=
  limitSize_spec ents max

/-- **range reads honour the size limit while returning at least one entry**: for a non-empty
available range and a finite limit `m`, the answer is a non-empty prefix of the exact range, its
total protobuf size is within `m` unless it is a single entry, and the next entry of the range (if
any) would exceed `m`.  (Stored entries have index ≥ 1, hence non-zero size, so the size-0 clause of
`limit_size` collapses to "a single entry".) -/
theorem C19_entries_limit (s : MemStorage) (h : s.Inv) (low high m : Nat) (canAsync : Bool)
    (hl : s.firstIndex ≤ low) (hlh : low < high) (hh : high ≤ s.lastIndex + 1)
    (ht : (s.triggerLogUnavailable && canAsync) = false) (hm : m ≠ NO_LIMIT) :
    ∃ r, s.entriesQ low high (some m) canAsync = .ok r ∧ r ≠ [] ∧
      (∃ k, r = (s.abs.range low high).take k) ∧
      (totalSize r ≤ m ∨ r.length = 1) ∧
      (∀ e rest, s.abs.range low high = r ++ e :: rest → m < totalSize r + e.computeSize) := by
  have hw := h.wf
  have hlast := hw.last_succ
  have h1 := hw.snap_lt
  have hq := C19_entries_spec s h low high (some m) canAsync hl (by omega) hh (Or.inl hlh) ht
  have hrange : s.abs.range low high =
      s.entries.filter (fun e => decide (low ≤ e.index) && decide (e.index < high)) := rfl
  rw [← hrange] at hq
  have hne : s.abs.range low high ≠ [] := by
    rw [hrange, ContigFrom.filter_range hw.contig low high hl]
    intro hn
    have := congrArg List.length hn
    simp only [List.length_take, List.length_drop, List.length_nil] at this
    omega
  obtain ⟨hpre, hnon, _, hwithin, hmaxi⟩ := limitSize_spec (s.abs.range low high) (some m)
  have hpos : ∀ e ∈ limitSize (s.abs.range low high) (some m), 0 < e.computeSize := by
    intro e he
    obtain ⟨k, hk⟩ := hpre
    rw [hk] at he
    have he2 : e ∈ s.entries := (List.mem_filter.1 (List.mem_of_mem_take he)).1
    have := ContigFrom.mem hw.contig he2
    exact computeSize_pos e (by omega)
  refine ⟨_, hq, hnon hne, hpre, ?_, ?_⟩
  · rcases hwithin m rfl hm with hw | hw
    · exact Or.inl hw
    · right
      have hd := totalSize_eq_zero _ (fun e he => hpos e ((List.dropLast_sublist _).subset he)) hw
      have hlen := congrArg List.length hd
      simp only [List.length_dropLast, List.length_nil] at hlen
      have : (limitSize (s.abs.range low high) (some m)).length ≠ 0 := by
        intro h0; exact hnon hne (List.length_eq_zero_iff.1 h0)
      omega
  · intro e rest he
    exact (hmaxi m rfl e rest he).2

/-- without a limit the whole range is returned -/
theorem C19_entries_unlimited (s : MemStorage) (h : s.Inv) (low high : Nat) (maxSize : Option Nat)
    (canAsync : Bool) (hl : s.firstIndex ≤ low) (hlh : low < high) (hh : high ≤ s.lastIndex + 1)
    (ht : (s.triggerLogUnavailable && canAsync) = false)
    (hm : maxSize = none ∨ maxSize = some NO_LIMIT) :
    s.entriesQ low high maxSize canAsync = .ok (s.abs.range low high) := by
  have hq := C19_entries_spec s h low high maxSize canAsync hl (by omega) hh (Or.inl hlh) ht
  rw [hq, (limitSize_spec _ maxSize).2.2.1 hm]; rfl

/-- **documented errors of `entries`, in every state**: below `first_index` ⇒ `Compacted`; beyond
`last_index + 1` ⇒ the documented panic; otherwise, with the async trigger set and an async-capable
caller ⇒ `LogTemporarilyUnavailable`. -/
theorem C19_entries_errors (s : MemStorage) (low high : Nat) (maxSize : Option Nat) (canAsync : Bool) :
    (low < s.firstIndex → s.entriesQ low high maxSize canAsync = .err .compacted) ∧
    (s.firstIndex ≤ low → s.lastIndex + 1 < high →
      s.entriesQ low high maxSize canAsync = .panic "storage.entries.out_of_bound") ∧
    (s.firstIndex ≤ low → high ≤ s.lastIndex + 1 → (s.triggerLogUnavailable && canAsync) = true →
      s.entriesQ low high maxSize canAsync = .err .logTemporarilyUnavailable) := by
  refine ⟨?_, ?_, ?_⟩
  · intro hc; simp only [MemStorage.entriesQ, if_pos hc]
  · intro hc hb
    simp only [MemStorage.entriesQ]
    rw [if_neg (by omega), if_pos hb]
  · intro hc hb ht
    simp only [MemStorage.entriesQ]
    rw [if_neg (by omega), if_neg (by omega), ht, if_pos rfl]

/-! ## Mutations change the meaning as specified -/

/-- **append** of a contiguous batch starting at `first_index ≤ b₀.index ≤ last_index + 1`: the
entries with index below `b₀.index` are kept, everything from the first overwritten index on is
replaced by the batch; `first_index` is unchanged and `last_index` is the batch's last index. -/
theorem C19_append_spec (s : MemStorage) (h : s.Inv) (b0 : Entry) (b : List Entry)
    (hc : contigFrom b0.index (b0 :: b) = true) (hf : s.firstIndex ≤ b0.index)
    (hl : b0.index ≤ s.lastIndex + 1) :
    ∃ s', s.append (b0 :: b) = .ok s' ∧ s'.Inv ∧
      s'.entries = s.entries.filter (fun e => decide (e.index < b0.index)) ++ b0 :: b ∧
      s'.firstIndex = s.firstIndex ∧ s'.lastIndex = b0.index + b.length ∧
      s'.snapshotMetadata = s.snapshotMetadata ∧ s'.hardState = s.hardState ∧
      s'.confState = s.confState := by
  have hw := h.wf
  obtain ⟨s', e, he, hw', hfi, hli⟩ := hw.append_ok b0.index b0 b (contigFrom_iff.1 hc) hf hl
  refine ⟨s', e, (MemStorage.inv_iff_wf s').2 hw', ?_, hfi, hli, ?_⟩
  · rw [he, ContigFrom.filter_lt hw.contig]
  · rw [he]; exact ⟨rfl, rfl, rfl⟩

/-- a batch reaching below `first_index` ("compacted entries") or leaving a gap after `last_index`
panics, in every state; an empty batch is a no-op -/
theorem C19_append_panics (s : MemStorage) (b0 : Entry) (b : List Entry) :
    (b0.index < s.firstIndex → s.append (b0 :: b) = .panic "storage.append.compacted") ∧
    (s.firstIndex ≤ b0.index → s.lastIndex + 1 < b0.index →
      s.append (b0 :: b) = .panic "storage.append.gap") ∧
    s.append [] = .ok s := by
  refine ⟨?_, ?_, rfl⟩
  · intro hc; simp only [MemStorage.append, if_pos hc]
  · intro hc hg
    simp only [MemStorage.append]
    rw [if_neg (by omega), if_pos hg]

/-- **compact** up to `compact_index ≤ last_index`: exactly the entries with index `≥ compact_index`
remain, `first_index` becomes `max first_index compact_index`, `last_index`, the snapshot point, the
hard state and the configuration are unchanged; `compact_index ≤ first_index` is a no-op. -/
theorem C19_compact_spec (s : MemStorage) (h : s.Inv) (ci : Nat) (hci : ci ≤ s.lastIndex) :
    ∃ s', s.compact ci = .ok s' ∧ s'.Inv ∧
      s'.entries = s.entries.filter (fun e => decide (ci ≤ e.index)) ∧
      s'.firstIndex = max s.firstIndex ci ∧ s'.lastIndex = s.lastIndex ∧
      s'.snapshotMetadata = s.snapshotMetadata ∧ s'.hardState = s.hardState ∧
      s'.confState = s.confState := by
  have hw := h.wf
  obtain ⟨s', e, he, hw', hfi, hli⟩ := hw.compact_ok ci (.inl hci)
  refine ⟨s', e, (MemStorage.inv_iff_wf s').2 hw', ?_, hfi, hli, ?_⟩
  · rw [he, ContigFrom.filter_ge hw.contig]
  · rw [he]; exact ⟨rfl, rfl, rfl⟩

/-- compacting beyond `last_index + 1` is the documented panic, in every state -/
theorem C19_compact_panics (s : MemStorage) (ci : Nat) (h1 : s.firstIndex < ci)
    (h2 : s.lastIndex + 1 < ci) : s.compact ci = .panic "storage.compact.not_received" := by
  simp only [MemStorage.compact]
  rw [if_neg (by omega), if_pos h2]

/-- **apply_snapshot**: a snapshot older than `first_index` is refused with `SnapshotOutOfDate` and
the storage is untouched; otherwise the snapshot point becomes the snapshot's `(index, term)`, the
log is emptied (`first_index = index + 1`, `last_index = index`), the commit index is the snapshot
index, the hard-state term does not decrease, and the configuration is the snapshot's. -/
theorem C19_applySnapshot_spec (s : MemStorage) (snap : Snapshot) :
    (snap.metadata.index < s.firstIndex →
      s.applySnapshot snap = .err .snapshotOutOfDate ∧ s.step (.applySnapshot snap) = .ok s) ∧
    (s.firstIndex ≤ snap.metadata.index →
      ∃ s', s.applySnapshot snap = .ok s' ∧ s.step (.applySnapshot snap) = .ok s' ∧ s'.Inv ∧
        s'.snapshotMetadata = snap.metadata ∧ s'.entries = [] ∧
        s'.firstIndex = snap.metadata.index + 1 ∧ s'.lastIndex = snap.metadata.index ∧
        s'.term snap.metadata.index = .ok snap.metadata.term ∧
        s'.hardState.commit = snap.metadata.index ∧
        s'.hardState.term = max s.hardState.term snap.metadata.term ∧
        s'.hardState.vote = s.hardState.vote ∧
        s'.confState = snap.metadata.confState) := by
  constructor
  · intro hlt
    simp only [MemStorage.step, MemStorage.applySnapshot, if_pos hlt, and_self]
  · intro hge
    obtain ⟨s', e, he, hw', hfi, hli⟩ := MemStorage.applySnapshot_ok s snap hge
    refine ⟨s', e, by simp only [MemStorage.step, e], (MemStorage.inv_iff_wf s').2 hw', ?_⟩
    subst he
    exact ⟨rfl, rfl, rfl, rfl, by simp [MemStorage.term], rfl, rfl, rfl, rfl⟩

/-- **snapshot**: when the stored commit index is meaningful (`C19_commit_meaningful`) and the
unavailability trigger is not set, `snapshot(request_index)` succeeds; its index is
`max commit request_index` — never below the requested one —, its term is the log's term at the
commit index (what `term(commit)` answers), it carries the stored configuration and no data, and
the storage is unchanged.  With the trigger set it answers `SnapshotTemporarilyUnavailable` once
and clears the trigger. -/
theorem C19_snapshot_spec (s : MemStorage) (h : s.Inv) (hc : s.abs.commitOk = true) (req : Nat) :
    (s.triggerSnapUnavailable = false →
      ∃ snap, s.snapshot req = (s, .ok snap) ∧
        snap.metadata.index = max s.hardState.commit req ∧ req ≤ snap.metadata.index ∧
        s.term s.hardState.commit = .ok snap.metadata.term ∧
        snap.metadata.confState = s.confState ∧ snap.data = []) ∧
    (s.triggerSnapUnavailable = true →
      s.snapshot req = ({ s with triggerSnapUnavailable := false },
        .err .snapshotTemporarilyUnavailable)) := by
  constructor
  · intro hns
    obtain ⟨snap, hsp, hsn⟩ := MemStorage.snapshot_refines s h hc req hns
    refine ⟨snap, hsn, ?_⟩
    simp only [LogSpec.snapshot] at hsp
    cases ht : s.abs.termAt s.abs.hs.commit with
    | none => rw [ht] at hsp; cases hsp
    | some t =>
      rw [ht] at hsp
      simp only [Option.map_some, Option.some.injEq] at hsp
      subst hsp
      refine ⟨rfl, Nat.le_max_right _ _, ?_, rfl, rfl⟩
      rw [MemStorage.term_refines s h]
      simp only [LogSpec.term]
      rw [show s.hardState.commit = s.abs.hs.commit from rfl, ht]
  · intro hs
    simp only [MemStorage.snapshot, hs, if_true]

/-- `commit_to` an existing entry records that index and the entry's term in the hard state;
`commit_to` anything else is the documented panic, in every state satisfying the invariant -/
theorem C19_commitTo_spec (s : MemStorage) (h : s.Inv) (i : Nat) :
    (s.firstIndex ≤ i → i ≤ s.lastIndex →
      ∃ s' e, s.commitTo i = .ok s' ∧ e ∈ s.entries ∧ e.index = i ∧
        s'.hardState = { s.hardState with commit := i, term := e.term } ∧
        s'.entries = s.entries ∧ s'.snapshotMetadata = s.snapshotMetadata ∧
        s'.confState = s.confState) ∧
    ((i < s.firstIndex ∨ s.lastIndex < i) → s.commitTo i = .panic "storage.commit_to.assert") := by
  constructor
  · intro hf hl
    obtain ⟨e, hge, hie, hc⟩ := h.wf.commitTo_ok hf hl
    exact ⟨_, e, hc, List.mem_of_getElem? hge, hie, rfl, rfl, rfl, rfl⟩
  · intro hout
    have : s.hasEntryAt i = false := by
      simp only [MemStorage.hasEntryAt, Bool.and_eq_false_iff, decide_eq_false_iff_not]
      rcases hout with ho | ho
      · exact Or.inl (Or.inr (by omega))
      · exact Or.inr (by omega)
    simp only [MemStorage.commitTo, this, Bool.not_false, if_true]

/-! ## Non-vacuity: a concrete history meets the hypotheses

Entries of different kinds and sizes (a 130-byte payload crosses the varint boundary), an overwriting
append, a compaction below the commit index, a snapshot query, then a snapshot application. -/

def ent (i t : Nat) (d : Nat := 0) : Entry :=
  { index := i, term := t, data := List.replicate d 7 }

def history : List StorageOp :=
  [ .setConfState { voters := [1, 2, 3] },
    .append [ent 1 1, ent 2 1 130, { ent 3 1 with etype := 1, context := [1, 2] }, ent 4 2, ent 5 2],
    .setHardState { term := 2, vote := 1, commit := 3 },
    .append [ent 4 3 5, ent 5 3, ent 6 3],
    .commitTo 4,
    .compact 3,
    .triggerSnapUnavailable,
    .snapshot 0,
    .snapshot 9 ]

def witness : MemStorage :=
  { hardState := { term := 3, vote := 1, commit := 4 },
    confState := { voters := [1, 2, 3] },
    entries := [{ ent 3 1 with etype := 1, context := [1, 2] }, ent 4 3 5, ent 5 3, ent 6 3],
    snapshotMetadata := {} }

example : MemStorage.new.abs.legalC history = true := by decide +kernel
example : MemStorage.new.abs.legal history = true := by decide +kernel
example : MemStorage.new.run history = .ok witness := by decide +kernel
example : witness.Inv ∧ witness.abs.commitOk = true := by decide +kernel
example : witness.firstIndex = 3 ∧ witness.lastIndex = 6 ∧ witness.snapshotMetadata.index = 0 := by
  decide +kernel
/-- after compaction the entry before `first_index` is `Compacted`, the old snapshot point still
answers -/
example : witness.term 2 = .err .compacted ∧ witness.term 0 = .ok 0 ∧ witness.term 7 = .err .unavailable
    ∧ witness.term 4 = .ok 3 := by decide +kernel
example : (witness.snapshot 9).2 =
    .ok { data := [], metadata := { index := 9, term := 3, confState := { voters := [1, 2, 3] } } } := by
  decide +kernel
/-- a size limit in the middle: entries 3 and 4 have sizes 10 and 11 -/
example : witness.entriesQ 3 7 (some 21) false = .ok [{ ent 3 1 with etype := 1, context := [1, 2] }, ent 4 3 5]
    ∧ witness.entriesQ 3 7 (some 20) false = .ok [{ ent 3 1 with etype := 1, context := [1, 2] }]
    ∧ witness.entriesQ 3 7 (some 0) false = .ok [{ ent 3 1 with etype := 1, context := [1, 2] }] := by
  decide +kernel
example : (ent 2 1 130).computeSize = 137 := by
  simp [ent, Entry.computeSize, varintLen]

/-! ## Recorded quirks outside the documented preconditions (the model mirrors the code) -/

/-- **F5**: `compact(last_index + 1)` is accepted, drains every entry, and `first_index` /
`last_index` fall back to the *old* snapshot point: here a log `1..3` compacted at 4 answers
`first_index = 1`, `last_index = 0` again, and would accept a fresh append at index 1.  Excluded from
the theorems by the documented precondition `compact_index ≤ applied ≤ last_index`. -/
example :
    ∃ s s', MemStorage.new.run [.append [ent 1 1, ent 2 1, ent 3 1]] = .ok s ∧
      s.firstIndex = 1 ∧ s.lastIndex = 3 ∧
      s.compact 4 = .ok s' ∧ s'.entries = [] ∧ s'.firstIndex = 1 ∧ s'.lastIndex = 0 ∧
      (∃ s'', s'.append [ent 1 9] = .ok s'') :=
  ⟨_, _, rfl, by decide +kernel, by decide +kernel, rfl, rfl, by decide +kernel, by decide +kernel, _, rfl⟩

/-- the empty range `[first_index, first_index)` is answered `Ok([])` on a non-empty log but hits
`core.entries[0]` (index out of bounds) on an empty one (storage.rs:469) -/
example : MemStorage.new.entriesQ 1 1 none false = .panic "storage.entries.index" ∧
    witness.entriesQ 3 3 none false = .ok [] := by decide +kernel

/-- after `compact`, `term(first_index - 1)` is `Compacted` although the `Storage` trait documents
`term` for `[first_index()-1, last_index()]` (storage.rs:136-140): the snapshot point stays behind -/
example : witness.firstIndex - 1 = 2 ∧ witness.term 2 = .err .compacted := by decide +kernel

end RaftProps.C19
