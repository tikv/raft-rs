import RaftProofs.RaftNodeC02
import RaftProps.C11

/-!
# C02b — the vote obligations of election safety, on the node model

The cluster-level proof of C02 (`RaftProps/C02.lean`, abstract protocol P) rests on two obligations of
every node: *a node grants at most one vote per term* (P's `grant` needs `vote = none ∨ vote = c`) and
*a candidate becomes leader only with the votes of a majority of every voter set* (P's `win`).  Here
they are theorems about the executable model of `src/raft.rs` (`RaftModel.Raft*`, tied to the code by
differential testing), for ALL states and ALL messages unless a hypothesis is named.

What is NOT here: that the `vote` field survives a restart is a statement about `HardState`
persistence (`RawNode::ready` / `Raft::new` + `load_state`, covered by C13/C20b), not about `step`.
-/
namespace RaftProps.C02
open RaftModel RaftModel.Raft RaftModel.Raft.VoteOb

/-! ### 4. One vote per term -/

/-- `can_vote` for a real vote (raft.rs:1491): the node voted for this candidate already, or has not
voted and knows no leader -/
theorem c02_canVote_real {r : Raft} {m : Message} (hm : m.msgType = .msgRequestVote)
    (h : r.canVote m = true) : r.vote = m.frm ∨ (r.vote = 0 ∧ r.leaderId = 0) := by
  unfold Raft.canVote at h
  simp [hm] at h
  rcases h with h | h
  · exact Or.inl h
  · exact Or.inr h

/-- **C02 (4) `real_vote_recorded_once`.**  The `MsgRequestVote | MsgRequestPreVote` arm of `step`
(raft.rs:1489-1533), for every state and request.  It never changes the term.  If a *real* vote is
granted (`vote_granted`), then beforehand `vote = m.from ∨ (vote = 0 ∧ leader_id = 0)`, and afterwards
`vote = m.from` and `election_elapsed = 0`.  A granted *pre*-vote and every refusal leave `vote`
unchanged.  Hence the arm never replaces a non-zero vote by a different one. -/
theorem C02_real_vote_recorded_once (r r' : Raft) (m : Message) (h : r.stepVote m = .ok r') :
    r'.term = r.term ∧
    (r.voteGranted m = .ok true ∧ m.msgType = .msgRequestVote →
      (r.vote = m.frm ∨ (r.vote = 0 ∧ r.leaderId = 0)) ∧ r'.vote = m.frm ∧ r'.electionElapsed = 0) ∧
    (r.voteGranted m = .ok true ∧ m.msgType ≠ .msgRequestVote →
      r'.vote = r.vote ∧ r'.electionElapsed = r.electionElapsed) ∧
    (r.voteGranted m = .ok false → r'.vote = r.vote) ∧
    (r.vote ≠ 0 → r'.vote = r.vote) := by
  have hv := c02_stepVote_spec h
  have h1 : r.voteGranted m = .ok true ∧ m.msgType = .msgRequestVote →
      (r.vote = m.frm ∨ (r.vote = 0 ∧ r.leaderId = 0)) ∧ r'.vote = m.frm ∧ r'.electionElapsed = 0 := by
    rintro ⟨hg, hm⟩
    have hc := ((c02_voteGranted_iff r m).1 hg).1
    exact ⟨c02_canVote_real hm hc, (hv.granted hg).2.2.2.2.1 hm⟩
  have h2 : r.voteGranted m = .ok true ∧ m.msgType ≠ .msgRequestVote →
      r'.vote = r.vote ∧ r'.electionElapsed = r.electionElapsed :=
    fun ⟨hg, hm⟩ => (hv.granted hg).2.2.2.2.2 hm
  refine ⟨hv.term, h1, h2, fun hf => (hv.refused hf).1, fun hnz => ?_⟩
  rcases hv.decided with hg | hf
  · by_cases hm : m.msgType = .msgRequestVote
    · obtain ⟨a, b, _⟩ := h1 ⟨hg, hm⟩
      rcases a with a | a
      · rw [b, a]
      · exact absurd a.1 hnz
    · exact (h2 ⟨hg, hm⟩).1
  · exact (hv.refused hf).1

/-- what `step` may do to (term, vote): raise the term; or keep both; or, at an unchanged term,
record a granted real vote over "no vote" -/
def VoteDiscipline (r r' : Raft) (m : Message) : Prop :=
  r.term < r'.term ∨
  (r'.term = r.term ∧
    (r'.vote = r.vote ∨
     (m.msgType = .msgRequestVote ∧ r.vote = 0 ∧ r.leaderId = 0 ∧ r'.vote = m.frm ∧
        r'.electionElapsed = 0)))

/-- a (pre-)campaign: the term rises, or term and vote are kept -/
theorem c02_campaign_tv {r r' : Raft} {ct : CampaignType} (h : r.campaign ct = .ok r') :
    r.term < r'.term ∨ (r'.term = r.term ∧ r'.vote = r.vote) := by
  rcases c02_campaign_cases h with w | w
  · obtain ⟨r0, _, k2, _, _, _, k6⟩ := w.path
    have := (c02_wonBy_spec k6).2.1
    left; omega
  · by_cases hct : ct = .preElection
    · right
      have h1 := w.term; have h2 := w.vote
      rw [if_pos hct] at h1 h2
      exact ⟨h1, h2⟩
    · left
      have h1 := w.term
      rw [if_neg hct] at h1
      omega

theorem c02_hup_tv {r r' : Raft} {tr : Bool} (h : r.hup tr = .ok r') :
    r.term < r'.term ∨ (r'.term = r.term ∧ r'.vote = r.vote) := by
  rcases c02_hup_cases h with e | ⟨_, _, ct, hc, _⟩
  · subst e; exact Or.inr ⟨rfl, rfl⟩
  · exact c02_campaign_tv hc

/-- the response arm of `step_candidate`: `poll`, then `maybe_commit_by_vote` -/
theorem c02_poll_tv {r r2 r' : Raft} {m : Message} {frm : Nat} {t : MsgType} {v : Bool}
    {res : VoteResult} (hp : r.poll frm t v = .ok (r2, res)) (hc : r2.maybeCommitByVote m = .ok r') :
    r.term < r'.term ∨ (r'.term = r.term ∧ r'.vote = r.vote) := by
  obtain ⟨_, _, q3, q4, _⟩ := c02_maybeCommitByVote_spec hc
  unfold Raft.poll at hp
  obtain ⟨_, p2⟩ := c02_pollWith_cases hp
  rcases p2 with ⟨_, _, c⟩ | ⟨_, _, c⟩ | ⟨_, c⟩ | ⟨_, c⟩
  · left
    unfold Raft.campaignAfterPreVote at c
    have : (voted r frm v).term + 1 = r2.term := by
      rcases c02_campaignWith_election (by decide) c with w | w
      · obtain ⟨r0, _, k2, _, _, _, k6⟩ := w.path
        rw [(c02_wonBy_spec k6).2.1, k2]
      · have := w.term; rw [if_neg (by decide)] at this; exact this.symm
    have e : (voted r frm v).term = r.term := rfl
    omega
  · right
    obtain ⟨_, b, c', _⟩ := c02_wonBy_spec c
    exact ⟨q3.trans b, q4.trans c'⟩
  · right
    subst c
    obtain ⟨_, _, _, f4, f5⟩ := c02_becomeFollower_fields (voted r frm v) r.term 0
    refine ⟨q3.trans f4, q4.trans ?_⟩
    rw [f5]; show (if r.term ≠ r.term then 0 else r.vote) = r.vote; simp
  · right
    subst c
    exact ⟨q3, q4⟩

/-- everything `step` does after the term preamble -/
theorem c02_dispatch_discipline {r1 r' : Raft} {m : Message} {res : Option RaftError}
    (hd : (m.msgType = .msgHup ∧ r1.hup false = .ok r') ∨
      ((m.msgType = .msgRequestVote ∨ m.msgType = .msgRequestPreVote) ∧ r1.stepVote m = .ok r') ∨
      (m.msgType ≠ .msgHup ∧ m.msgType ≠ .msgRequestVote ∧ m.msgType ≠ .msgRequestPreVote ∧
        (((r1.state = .candidate ∨ r1.state = .preCandidate) ∧ r1.stepCandidate m = .ok (r', res)) ∨
         (r1.state = .follower ∧ r1.stepFollower m = .ok (r', res)) ∨
         (r1.state = .leader ∧ r1.stepLeader m = .ok (r', res))))) :
    VoteDiscipline r1 r' m := by
  have lift : (r1.term < r'.term ∨ (r'.term = r1.term ∧ r'.vote = r1.vote)) → VoteDiscipline r1 r' m :=
    fun h => h.elim Or.inl (fun h => Or.inr ⟨h.1, Or.inl h.2⟩)
  rcases hd with ⟨_, hh⟩ | ⟨_, hv⟩ | ⟨_, _, _, hr⟩
  · exact lift (c02_hup_tv hh)
  · obtain ⟨a, b, c, d, _⟩ := C02_real_vote_recorded_once r1 r' m hv
    have hva := c02_stepVote_spec hv
    right
    refine ⟨a, ?_⟩
    rcases hva.decided with hg | hf
    · by_cases hm : m.msgType = .msgRequestVote
      · obtain ⟨x, y, z⟩ := b ⟨hg, hm⟩
        rcases x with x | x
        · left; rw [y, x]
        · exact Or.inr ⟨hm, x.1, x.2, y, z⟩
      · exact Or.inl (c ⟨hg, hm⟩).1
    · exact Or.inl (d hf)
  · rcases hr with ⟨hs, hc⟩ | ⟨hs, hf⟩ | ⟨hs, hl⟩
    · rcases c02_stepCandidate_cases hs hc with e | ⟨_, ht, hf⟩ | ⟨_, r2, res2, hp, hm⟩
      · subst e; exact lift (Or.inr ⟨rfl, rfl⟩)
      · apply lift; right
        obtain ⟨_, _, _, f4, f5⟩ := c02_becomeFollower_fields r1 m.term m.frm
        refine ⟨hf.term.trans (f4.trans ht.symm), hf.vote.trans ?_⟩
        rw [f5]; simp [ht]
      · exact lift (c02_poll_tv hp hm)
    · rcases c02_stepFollower_cases hs hf with t | ⟨_, _, hh⟩
      · exact lift (Or.inr ⟨t.term, t.vote⟩)
      · exact lift (c02_hup_tv hh)
    · rcases c02_stepLeader_cases hl with t | ⟨_, t1, t2⟩
      · exact lift (Or.inr ⟨t.term, t.vote⟩)
      · exact lift (Or.inr ⟨t1, t2⟩)

/-- **C02 (4) `vote_discipline`** — the complete list of what `Raft::step` can do to `(term, vote)`,
for every state and every message: the term rises; or term and vote are both unchanged; or the term
is unchanged, the message is a real `MsgRequestVote` that is granted, and the vote goes from "none"
(`vote = 0`, and `leader_id = 0`) to `m.from`, resetting the election timer.  (`reset` keeps the vote
when the term is unchanged — `become_leader`, a lost election, a check-quorum step-down —;
`become_candidate` raises the term; `become_follower` in the preamble is only taken for a higher
term.) -/
theorem C02_vote_discipline (r r' : Raft) (m : Message) (res : Option RaftError)
    (h : r.step m = .ok (r', res)) : VoteDiscipline r r' m := by
  obtain ⟨r1, b, ht, hb⟩ := c02_step_cases h
  have hpre : (r1.term = r.term ∧ r1.vote = r.vote ∧ r1.leaderId = r.leaderId) ∨
      (b = true ∧ r.term < r1.term) := by
    rcases c02_stepTerm_cases ht with ⟨e, _⟩ | ⟨_, _, _, x, hs, _⟩ | ⟨hb', hlt, _, _, l, e⟩
    · subst e; exact Or.inl ⟨rfl, rfl, rfl⟩
    · have hf := send_frame hs Frame.rfl
      exact Or.inl ⟨hf.term, hf.vote, hf.leaderId⟩
    · right
      subst e
      exact ⟨hb', by rw [(c02_becomeFollower_fields r m.term l).2.2.2.1]; exact hlt⟩
  rcases hb with ⟨hbf, e⟩ | ⟨_, hd⟩
  · subst e
    rcases hpre with ⟨a, b', _⟩ | ⟨c, _⟩
    · exact Or.inr ⟨a, Or.inl b'⟩
    · rw [hbf] at c; cases c
  · have hdd := c02_dispatch_discipline hd
    rcases hpre with ⟨a, b', c⟩ | ⟨_, c⟩
    · unfold VoteDiscipline at hdd ⊢
      rw [a, b', c] at hdd
      exact hdd
    · left
      rcases hdd with d | ⟨d, _⟩
      · omega
      · omega

/-- the term never decreases in `step` -/
theorem C02_term_monotone (r r' : Raft) (m : Message) (res : Option RaftError)
    (h : r.step m = .ok (r', res)) : r.term ≤ r'.term := by
  rcases C02_vote_discipline r r' m res h with d | ⟨d, _⟩ <;> omega

/-- **C02 (4) `vote_changes_only_from_none`.**  Within one term the `vote` field never changes from a
non-zero value to a different value: if `step` keeps the term and the node had voted, its vote is
unchanged. -/
theorem C02_vote_changes_only_from_none (r r' : Raft) (m : Message) (res : Option RaftError)
    (h : r.step m = .ok (r', res)) (ht : r'.term = r.term) (hv : r.vote ≠ 0) : r'.vote = r.vote := by
  rcases C02_vote_discipline r r' m res h with d | ⟨_, d | d⟩
  · omega
  · exact d
  · exact absurd d.2.1 hv

/-- **C02 (4) `vote_reset_only_with_term_rise`.**  A recorded vote is given up (reset, or replaced)
only together with a strictly higher term. -/
theorem C02_vote_reset_only_with_term_rise (r r' : Raft) (m : Message) (res : Option RaftError)
    (h : r.step m = .ok (r', res)) (hc : r'.vote ≠ r.vote) (hv : r.vote ≠ 0) : r.term < r'.term := by
  rcases C02_vote_discipline r r' m res h with d | ⟨_, d | d⟩
  · exact d
  · exact absurd d hc
  · exact absurd d.2.1 hv

/-! ### 5. A leader is made only by a quorum of recorded grants -/

/-- the tally `poll` acts on: the joint vote result, under the tracker's voter configuration, of the
recorded votes plus this one -/
theorem c02_voted_tally (r : Raft) (frm : Nat) (v : Bool) :
    (voted r frm v).prs.tallyVotes.2.2 =
      Tracker.voteResult r.prs.voters (r.prs.recordVote frm v).votes := by
  show Tracker.voteResult (r.prs.recordVote frm v).voters _ = _
  unfold ProgressTracker.voters
  rw [c02_recordVote_conf]
  rfl

/-- the voters with a recorded grant -/
def granters (votes : List (Nat × Bool)) : List Nat := (votes.filter (fun p => p.2)).map (fun p => p.1)

theorem c02_lookup_mem {α : Type} : ∀ (l : List (Nat × α)) (k : Nat) (v : α),
    l.lookup k = some v → (k, v) ∈ l := by
  intro l
  induction l with
  | nil => intro k v h; simp [List.lookup] at h
  | cons p rest ih =>
    intro k v h
    obtain ⟨k', v'⟩ := p
    unfold List.lookup at h
    by_cases hk : k = k'
    · subst hk
      simp at h
      subst h
      exact List.mem_cons_self
    · have : (k == k') = false := by simpa using hk
      simp only [this] at h
      exact List.mem_cons_of_mem _ (ih k v h)

/-- **`Won` means a majority of each voter set voted yes** (C11 `joint_voteResult_counts`): the tally
of recorded votes is `Won` exactly when, in each non-empty half of the (joint) configuration, at least
`majority` voters have a recorded grant. -/
theorem C02_won_iff_majorities (c : JointConfig) (votes : List (Nat × Bool)) :
    Tracker.voteResult c votes = .won ↔
      (c.incoming = [] ∨ majority c.incoming.length ≤ yesCount c.incoming (fun id => votes.lookup id)) ∧
      (c.outgoing = [] ∨ majority c.outgoing.length ≤ yesCount c.outgoing (fun id => votes.lookup id)) :=
  (RaftProps.C11.joint_voteResult_counts c (fun id => votes.lookup id)).1

/-- … hence the set of voters with a recorded grant is a joint quorum (`IsJointQuorum`, the notion the
C11 quorum-intersection theorems are about) -/
theorem C02_won_gives_joint_quorum (c : JointConfig) (votes : List (Nat × Bool))
    (h : Tracker.voteResult c votes = .won) : IsJointQuorum c (granters votes) := by
  have hle : ∀ vs : List Nat, yesCount vs (fun id => votes.lookup id) ≤
      vs.countP (fun v => decide (v ∈ granters votes)) := by
    intro vs
    apply List.countP_mono_left
    intro v _ hv
    have hv' : votes.lookup v = some true := by simpa using hv
    have hm := c02_lookup_mem votes v true hv'
    have : v ∈ granters votes := by
      simp only [granters, List.mem_map, List.mem_filter]
      exact ⟨(v, true), ⟨hm, rfl⟩, rfl⟩
    simpa using this
  obtain ⟨h1, h2⟩ := (C02_won_iff_majorities c votes).1 h
  refine ⟨fun hn => ?_, fun hn => ?_⟩
  · exact Nat.le_trans (h1.resolve_left hn) (hle _)
  · exact Nat.le_trans (h2.resolve_left hn) (hle _)

/-- the own vote alone is a quorum exactly when the node is a majority of each non-empty half by
itself (a single-voter configuration) -/
theorem C02_selfWins_iff (r : Raft) :
    selfWins r ↔
      (r.prs.conf.incoming = [] ∨
        majority r.prs.conf.incoming.length ≤ r.prs.conf.incoming.countP (fun v => v == r.id)) ∧
      (r.prs.conf.outgoing = [] ∨
        majority r.prs.conf.outgoing.length ≤ r.prs.conf.outgoing.countP (fun v => v == r.id)) := by
  have hy : ∀ vs : List Nat, yesCount vs (fun id => [(r.id, true)].lookup id) =
      vs.countP (fun v => v == r.id) := by
    intro vs
    apply List.countP_congr
    intro v _
    by_cases hv : v = r.id
    · simp [List.lookup, hv]
    · have : (v == r.id) = false := by simpa using hv
      simp [List.lookup, this]
  unfold selfWins
  rw [C02_won_iff_majorities, hy, hy]
  rfl

theorem c02_hup_win {r1 r' : Raft} {tr : Bool} (h : r1.hup tr = .ok r') (hs : r1.state ≠ .leader)
    (hl : r'.state = .leader) : selfWins r1 ∧ r'.term = r1.term + 1 ∧ r'.vote = r1.id := by
  rcases c02_hup_cases h with e | ⟨_, _, ct, hc, _⟩
  · subst e; exact absurd hl hs
  · rcases c02_campaign_cases hc with w | w
    · obtain ⟨r0, _, k2, k3, _, _, k6⟩ := w.path
      obtain ⟨_, b, c, _⟩ := c02_wonBy_spec k6
      exact ⟨w.self, b.trans k2, c.trans k3⟩
    · exfalso
      have a := w.state
      rw [hl] at a; split at a <;> cases a

/-- how the dispatch part of `step` can make a non-leader the leader -/
theorem c02_dispatch_win {r1 r' : Raft} {m : Message} {res : Option RaftError}
    (hd : (m.msgType = .msgHup ∧ r1.hup false = .ok r') ∨
      ((m.msgType = .msgRequestVote ∨ m.msgType = .msgRequestPreVote) ∧ r1.stepVote m = .ok r') ∨
      (m.msgType ≠ .msgHup ∧ m.msgType ≠ .msgRequestVote ∧ m.msgType ≠ .msgRequestPreVote ∧
        (((r1.state = .candidate ∨ r1.state = .preCandidate) ∧ r1.stepCandidate m = .ok (r', res)) ∨
         (r1.state = .follower ∧ r1.stepFollower m = .ok (r', res)) ∨
         (r1.state = .leader ∧ r1.stepLeader m = .ok (r', res)))))
    (hs : r1.state ≠ .leader) (hl : r'.state = .leader) :
    (r1.state = .candidate ∧ m.msgType = .msgRequestVoteResponse ∧
      Tracker.voteResult r1.prs.voters (r1.prs.recordVote m.frm (!m.reject)).votes = .won ∧
      r'.term = r1.term ∧ r'.vote = r1.vote) ∨
    (selfWins r1 ∧ r'.term = r1.term + 1 ∧ r'.vote = r1.id ∧
      (m.msgType = .msgHup ∨ m.msgType = .msgTimeoutNow ∨
       (r1.state = .preCandidate ∧ m.msgType = .msgRequestPreVoteResponse ∧
         Tracker.voteResult r1.prs.voters (r1.prs.recordVote m.frm (!m.reject)).votes = .won ∧
         (m.reject = true ∨ m.term = r1.term + 1)))) := by
  rcases hd with ⟨hm, hh⟩ | ⟨_, hv⟩ | ⟨_, _, _, hr⟩
  · obtain ⟨a, b, c⟩ := c02_hup_win hh hs hl
    exact Or.inr ⟨a, b, c, Or.inl hm⟩
  · exfalso
    have hva := c02_stepVote_spec hv
    rcases hva.decided with hg | hf
    · exact hs ((hva.granted hg).2.1 ▸ hl)
    · rcases (hva.refused hf).2 with ⟨a, _⟩ | ⟨_, a, _⟩
      · exact hs (a ▸ hl)
      · rw [hl] at a; cases a
  · rcases hr with ⟨hsc, hc⟩ | ⟨hsf, hf⟩ | ⟨hsl, _⟩
    · rcases c02_stepCandidate_cases hsc hc with e | ⟨_, _, hf⟩ | ⟨hk, r2, res2, hp, hmc⟩
      · subst e; exact absurd hl hs
      · have := hf.state; rw [hl] at this; cases this
      · obtain ⟨_, _, q3, q4, _, _, q7⟩ := c02_maybeCommitByVote_spec hmc
        have hl2 : r2.state = .leader := by
          rcases q7 with ⟨a, _⟩ | ⟨_, a, _⟩
          · rw [← a]; exact hl
          · rw [hl] at a; cases a
        unfold Raft.poll at hp
        obtain ⟨p1, p2⟩ := c02_pollWith_cases hp
        rw [c02_voted_tally] at p1
        rcases p2 with ⟨a, b, c⟩ | ⟨a, b, c⟩ | ⟨_, c⟩ | ⟨_, c⟩
        · unfold Raft.campaignAfterPreVote at c
          have hty : m.msgType = .msgRequestPreVoteResponse ∧ (m.reject = true ∨ m.term = r1.term + 1) := by
            rcases hk with ⟨k, _⟩ | ⟨_, k⟩
            · rw [b] at k; cases k
            · exact k
          rcases c02_campaignWith_election (by decide) c with w | w
          · obtain ⟨r0, _, k2, k3, _, _, k6⟩ := w.path
            obtain ⟨_, x, y, _⟩ := c02_wonBy_spec k6
            refine Or.inr ⟨(c02_selfWins_keep (c02_voted_keep _ _ _)).1 w.self, ?_, ?_,
              Or.inr (Or.inr ⟨b, hty.1, by rw [← p1]; exact a, hty.2⟩)⟩
            · rw [q3, x, k2]; rfl
            · rw [q4, y, k3]; rfl
          · exfalso
            have x := w.state
            rw [hl2] at x; cases x
        · have hty : r1.state = .candidate ∧ m.msgType = .msgRequestVoteResponse := by
            rcases hk with k | ⟨k, _⟩
            · exact k
            · exact absurd k b
          obtain ⟨_, x, y, _⟩ := c02_wonBy_spec c
          exact Or.inl ⟨hty.1, hty.2, by rw [← p1]; exact a, q3.trans x, q4.trans y⟩
        · subst c; cases hl2
        · subst c; exact absurd hl2 hs
    · rcases c02_stepFollower_cases hsf hf with t | ⟨hm, _, hh⟩
      · exact absurd (t.state ▸ hl) hs
      · obtain ⟨a, b, c⟩ := c02_hup_win hh hs hl
        exact Or.inr ⟨a, b, c, Or.inr (Or.inl hm)⟩
    · exact absurd hsl hs

/-- how `step` can make a non-leader the leader: a candidate counted a vote response that completes a
quorum of recorded grants; or the node's own vote is a quorum of its configuration -/
def WonElection (r r' : Raft) (m : Message) : Prop :=
  (r.state = .candidate ∧ m.msgType = .msgRequestVoteResponse ∧ (m.term = r.term ∨ m.term = 0) ∧
    Tracker.voteResult r.prs.voters (r.prs.recordVote m.frm (!m.reject)).votes = .won ∧
    r'.term = r.term ∧ r'.vote = r.vote) ∨
  (selfWins r ∧ r.term < r'.term ∧ r'.vote = r.id ∧
    (m.msgType = .msgHup ∨ m.msgType = .msgTimeoutNow ∨
     (r.state = .preCandidate ∧ m.msgType = .msgRequestPreVoteResponse ∧
       Tracker.voteResult r.prs.voters (r.prs.recordVote m.frm (!m.reject)).votes = .won ∧
       (m.reject = true ∨ m.term = r.term + 1))))

/-- **C02 (5) `win_needs_quorum`.**  The role `Leader` is entered only through `become_leader`, called
only from `poll` when the tally of the recorded votes is `Won` for the tracker's (joint)
configuration.  For every state and message: if `step` turns a non-leader into a leader, then

* (a) the node was a **candidate**, `m` is a `MsgRequestVoteResponse` of its own term (`m.term =
  r.term`; or the degenerate `m.term = 0`, which the preamble treats as a local message — no peer
  sends a vote response without a term, `send` refuses it), and the recorded votes
  (`r.prs.votes`, first answer of a peer wins) **plus this response** tally to `Won` under the
  tracker's voter configuration — by `C02_won_iff_majorities` a majority of each non-empty half has a
  recorded grant; term and vote are unchanged (the vote of a candidate is its own id); or
* (b) **the node's own vote is a quorum** of its configuration (`selfWins`, a single-voter
  configuration, `C02_selfWins_iff`): the step is a campaign trigger (`MsgHup`, `MsgTimeoutNow`) or the
  pre-vote response that completes a pre-candidate's pre-vote quorum — since fix F16 a *granted*
  pre-vote response is counted only if it carries the term of this pre-campaign, `m.term = r.term + 1`
  (`WonElection` now says so; a grant of any other term is ignored, `C16_stale_prevote_grant_ignored`);
  the node campaigns inside the step (`become_candidate`: term + 1, vote for itself) and wins with its
  own vote.

A pre-vote response is never counted towards leadership: in (b) the real election that follows is won
by the own vote alone. -/
theorem C02_win_needs_quorum (r r' : Raft) (m : Message) (res : Option RaftError)
    (h : r.step m = .ok (r', res)) (hs : r.state ≠ .leader) (hl : r'.state = .leader) :
    WonElection r r' m := by
  obtain ⟨r1, b, ht, hb⟩ := c02_step_cases h
  rcases c02_stepTerm_cases ht with ⟨e, hterm⟩ | ⟨hbf, _, _, x, hsd, _⟩ | ⟨hbt, hlt, _, _, l, e⟩
  · subst e
    rcases hb with ⟨_, e⟩ | ⟨hbt, hd⟩
    · subst e; exact absurd hl hs
    · rcases c02_dispatch_win hd hs hl with ⟨a, b', c, d, e⟩ | ⟨a, b', c, d⟩
      · left
        refine ⟨a, b', ?_, c, d, e⟩
        rcases hterm hbt with t | t | ⟨_, t | t⟩
        · exact Or.inr t
        · exact Or.inl t
        · rw [b'] at t; cases t
        · rw [b'] at t; cases t.1
      · exact Or.inr ⟨a, by omega, c, d⟩
  · rcases hb with ⟨_, e⟩ | ⟨hbt, _⟩
    · subst e
      exact absurd ((send_frame hsd Frame.rfl).state ▸ hl) hs
    · rw [hbf] at hbt; cases hbt
  · subst e
    rcases hb with ⟨hbf, _⟩ | ⟨_, hd⟩
    · rw [hbt] at hbf; cases hbf
    · have hk := c02_becomeFollower_keep r m.term l
      obtain ⟨f1, _, _, f4, _⟩ := c02_becomeFollower_fields r m.term l
      rcases c02_dispatch_win hd (by rw [f1]; decide) hl with ⟨a, _⟩ | ⟨a, b', c, d⟩
      · rw [f1] at a; cases a
      · refine Or.inr ⟨(c02_selfWins_keep hk).1 a, by rw [b', f4]; omega, c.trans hk.id, ?_⟩
        rcases d with d | d | ⟨d, _⟩
        · exact Or.inl d
        · exact Or.inr (Or.inl d)
        · rw [f1] at d; cases d

/-- **C02 (5), kinds are not mixed.**  `step_candidate` checks the response type against the role
(raft.rs:2352-2360): a *candidate* ignores every `MsgRequestPreVoteResponse`, a *pre-candidate*
ignores every `MsgRequestVoteResponse` — the node is left exactly as it was. -/
theorem C02_wrong_kind_response_ignored (r : Raft) (m : Message)
    (h : (r.state = .candidate ∧ m.msgType = .msgRequestPreVoteResponse) ∨
         (r.state = .preCandidate ∧ m.msgType = .msgRequestVoteResponse)) :
    r.stepCandidate m = .ok (r, none) := by
  unfold Raft.stepCandidate
  rcases h with ⟨hs, hm⟩ | ⟨hs, hm⟩ <;> simp [hs, hm]

/-- … at the level of `step`: a pre-vote response that is granted, or not from a higher term, changes
nothing at all in a candidate (a *rejected* one from a higher term makes it a follower of that term,
like any higher-term message) -/
theorem C02_candidate_ignores_prevote_response (r : Raft) (m : Message) (hs : r.state = .candidate)
    (hm : m.msgType = .msgRequestPreVoteResponse) (ht : ¬ r.term < m.term ∨ m.reject = false) :
    r.step m = .ok (r, none) := by
  rcases stepTerm_voteResp (r := r) (.inl hm) (ht.imp id (⟨hm, ·⟩)) with e | ⟨_, e⟩
  · rw [step_candidate e (.of_eq hm) (.inl hs)]
    exact C02_wrong_kind_response_ignored r m (Or.inl ⟨hs, hm⟩)
  · exact step_of_consumed e

/-- … and a pre-candidate ignores a real-vote response that is not from a higher term -/
theorem C02_precandidate_ignores_vote_response (r : Raft) (m : Message) (hs : r.state = .preCandidate)
    (hm : m.msgType = .msgRequestVoteResponse) (ht : ¬ r.term < m.term) :
    r.step m = .ok (r, none) := by
  rcases stepTerm_voteResp (r := r) (.inr hm) (.inl ht) with e | ⟨_, e⟩
  · rw [step_candidate e (.of_eq hm) (.inr hs)]
    exact C02_wrong_kind_response_ignored r m (Or.inr ⟨hs, hm⟩)
  · exact step_of_consumed e

/-- **first answer wins** (`entry(id).or_insert(vote)`, tracker.rs:297): once a peer's vote is
recorded, a second response of that peer — a duplicate, or a contradicting one — changes nothing -/
theorem C02_vote_counted_once (t : ProgressTracker) (id : Nat) (v v' : Bool) :
    (t.recordVote id v).recordVote id v' = t.recordVote id v := by
  have hins : ∀ (l : List (Nat × Bool)), (NatMap.insert id v l).lookup id = some v := by
    intro l
    induction l with
    | nil => simp [NatMap.insert]
    | cons p rest ih =>
      obtain ⟨k, w⟩ := p
      unfold NatMap.insert
      by_cases h1 : id < k
      · simp [h1]
      · by_cases h2 : id = k
        · simp [h2]
        · have : (id == k) = false := by simpa using h2
          simp [h1, h2, List.lookup, this, ih]
  cases hl : t.votes.lookup id with
  | some w =>
    have e : t.recordVote id v = t := by unfold ProgressTracker.recordVote; rw [hl]
    rw [e]; unfold ProgressTracker.recordVote; rw [hl]
  | none =>
    have e : t.recordVote id v = { t with votes := NatMap.insert id v t.votes } := by
      unfold ProgressTracker.recordVote; rw [hl]
    rw [e]
    unfold ProgressTracker.recordVote
    simp only [hins]

/-! ### 6. A campaign starts from an empty vote record -/

/-- **C02 (6) `votes_reset_on_campaign`.**  `become_candidate` and `become_pre_candidate` start from an
empty vote record (`reset` → `prs.reset_votes`, raft.rs:1020 / 1215); `campaign` then registers only
the node's own vote before any response: after `campaign`, either the node is leader already (own vote
is a quorum), or it is a (pre-)candidate and the record is exactly `[(id, true)]`.  (The own vote alone
never *loses* — `c02_self_not_lost` — so the `Lost` arm of `poll` is dead inside `campaign`.) -/
theorem C02_votes_reset_on_campaign :
    (∀ r r' : Raft, r.becomeCandidate = .ok r' →
      r'.prs.votes = [] ∧ r'.term = r.term + 1 ∧ r'.vote = r.id ∧ r'.state = .candidate) ∧
    (∀ r r' : Raft, r.becomePreCandidate = .ok r' →
      r'.prs.votes = [] ∧ r'.term = r.term ∧ r'.vote = r.vote ∧ r'.state = .preCandidate) ∧
    (∀ (r r' : Raft) (ct : CampaignType), r.campaign ct = .ok r' →
      (r'.state = .leader ∧ selfWins r) ∨
      ((r'.state = .candidate ∨ r'.state = .preCandidate) ∧ r'.prs.votes = [(r.id, true)])) := by
  refine ⟨fun r r' h => ?_, fun r r' h => ?_, fun r r' ct h => ?_⟩
  · obtain ⟨_, a, b, c, d, _⟩ := c02_becomeCandidate_spec h
    exact ⟨d, a, b, c⟩
  · obtain ⟨_, a, b, c, d, _⟩ := c02_becomePreCandidate_spec h
    exact ⟨d, a, b, c⟩
  · rcases c02_campaign_cases h with w | w
    · obtain ⟨r0, _, _, _, _, _, k6⟩ := w.path
      exact Or.inl ⟨(c02_wonBy_spec k6).1, w.self⟩
    · have a := w.state
      refine Or.inr ⟨?_, w.votes⟩
      split at a
      · exact Or.inr a
      · exact Or.inl a

theorem c02_hup_newcand {r1 r' : Raft} {tr : Bool} (h : r1.hup tr = .ok r')
    (hc : r'.state = .candidate) (ht : r1.term < r'.term) :
    r'.prs.votes = [(r1.id, true)] ∧ r'.vote = r1.id ∧ r'.term = r1.term + 1 := by
  rcases c02_hup_cases h with e | ⟨_, _, ct, hcm, _⟩
  · subst e; omega
  · rcases c02_campaign_cases hcm with w | w
    · obtain ⟨r0, _, _, _, _, _, k6⟩ := w.path
      have := (c02_wonBy_spec k6).1
      rw [hc] at this; cases this
    · have h1 := w.term; have h2 := w.vote
      by_cases hct : ct = .preElection
      · rw [if_pos hct] at h1; omega
      · rw [if_neg hct] at h1 h2
        exact ⟨w.votes, h2, h1⟩

theorem c02_dispatch_newcand {r1 r' : Raft} {m : Message} {res : Option RaftError}
    (hd : (m.msgType = .msgHup ∧ r1.hup false = .ok r') ∨
      ((m.msgType = .msgRequestVote ∨ m.msgType = .msgRequestPreVote) ∧ r1.stepVote m = .ok r') ∨
      (m.msgType ≠ .msgHup ∧ m.msgType ≠ .msgRequestVote ∧ m.msgType ≠ .msgRequestPreVote ∧
        (((r1.state = .candidate ∨ r1.state = .preCandidate) ∧ r1.stepCandidate m = .ok (r', res)) ∨
         (r1.state = .follower ∧ r1.stepFollower m = .ok (r', res)) ∨
         (r1.state = .leader ∧ r1.stepLeader m = .ok (r', res)))))
    (hc : r'.state = .candidate) (ht : r1.term < r'.term) :
    r'.prs.votes = [(r1.id, true)] ∧ r'.vote = r1.id ∧ r'.term = r1.term + 1 := by
  rcases hd with ⟨_, hh⟩ | ⟨_, hv⟩ | ⟨_, _, _, hr⟩
  · exact c02_hup_newcand hh hc ht
  · have := (c02_stepVote_spec hv).term; omega
  · rcases hr with ⟨hsc, hcd⟩ | ⟨hsf, hf⟩ | ⟨_, hl⟩
    · rcases c02_stepCandidate_cases hsc hcd with e | ⟨_, _, hf⟩ | ⟨_, r2, res2, hp, hmc⟩
      · subst e; omega
      · have := hf.state; rw [hc] at this; cases this
      · obtain ⟨_, _, q3, q4, _, _, q7⟩ := c02_maybeCommitByVote_spec hmc
        have hq : r2.state = .candidate ∧ r'.prs.votes = r2.prs.votes := by
          rcases q7 with ⟨a, b, _⟩ | ⟨_, a, _⟩
          · exact ⟨by rw [← a]; exact hc, b⟩
          · rw [hc] at a; cases a
        unfold Raft.poll at hp
        obtain ⟨_, p2⟩ := c02_pollWith_cases hp
        rcases p2 with ⟨_, _, c⟩ | ⟨_, _, c⟩ | ⟨_, c⟩ | ⟨_, c⟩
        · unfold Raft.campaignAfterPreVote at c
          rcases c02_campaignWith_election (by decide) c with w | w
          · obtain ⟨r0, _, _, _, _, _, k6⟩ := w.path
            have := (c02_wonBy_spec k6).1
            rw [hq.1] at this; cases this
          · have h1 := w.term; have h2 := w.vote
            rw [if_neg (by decide)] at h1 h2
            exact ⟨hq.2.trans w.votes, q4.trans h2, q3.trans h1⟩
        · have := (c02_wonBy_spec c).2.1
          have e : (voted r1 m.frm (!m.reject)).term = r1.term := rfl
          omega
        · subst c
          have := (c02_becomeFollower_fields (voted r1 m.frm (!m.reject)) r1.term 0).2.2.2.1
          omega
        · subst c
          have e : (voted r1 m.frm (!m.reject)).term = r1.term := rfl
          omega
    · rcases c02_stepFollower_cases hsf hf with t | ⟨_, _, hh⟩
      · have := t.term; omega
      · exact c02_hup_newcand hh hc ht
    · rcases c02_stepLeader_cases hl with t | ⟨_, t, _⟩
      · have := t.term; omega
      · omega

/-- **C02 (6), at the level of `step`.**  Whenever a step leaves the node a candidate of a higher term
than before — it started an election in this step: `MsgHup`, `MsgTimeoutNow`, or a won pre-vote —
its vote record is exactly its own grant and its `vote` is its own id: no response of an earlier
campaign (or pre-campaign) is carried over. -/
theorem C02_new_candidate_has_only_own_vote (r r' : Raft) (m : Message) (res : Option RaftError)
    (h : r.step m = .ok (r', res)) (hc : r'.state = .candidate) (ht : r.term < r'.term) :
    r'.prs.votes = [(r.id, true)] ∧ r'.vote = r.id := by
  obtain ⟨r1, b, hst, hb⟩ := c02_step_cases h
  rcases c02_stepTerm_cases hst with ⟨e, _⟩ | ⟨hbf, _, _, x, hsd, _⟩ | ⟨hbt, hlt, _, _, l, e⟩
  · subst e
    rcases hb with ⟨_, e⟩ | ⟨_, hd⟩
    · subst e; omega
    · obtain ⟨a, b', _⟩ := c02_dispatch_newcand hd hc ht
      exact ⟨a, b'⟩
  · rcases hb with ⟨_, e⟩ | ⟨hbt, _⟩
    · subst e
      have := (send_frame hsd Frame.rfl).term; omega
    · rw [hbf] at hbt; cases hbt
  · subst e
    rcases hb with ⟨hbf, _⟩ | ⟨_, hd⟩
    · rw [hbt] at hbf; cases hbf
    · have hk := c02_becomeFollower_keep r m.term l
      obtain ⟨f1, _, _, f4, _⟩ := c02_becomeFollower_fields r m.term l
      by_cases hlt2 : (r.becomeFollower m.term l).term < r'.term
      · obtain ⟨a, b', _⟩ := c02_dispatch_newcand hd hc hlt2
        rw [hk.id] at a b'
        exact ⟨a, b'⟩
      · exfalso
        -- the dispatch kept the term: a follower does not become a candidate without raising it
        rcases c02_dispatch_discipline hd with d | ⟨d, _⟩
        · exact hlt2 d
        · rcases hd with ⟨_, hh⟩ | ⟨_, hv⟩ | ⟨_, _, _, hr⟩
          · rcases c02_hup_cases hh with e | ⟨_, _, ct, hcm, _⟩
            · rw [e, f1] at hc; cases hc
            · rcases c02_campaign_cases hcm with w | w
              · obtain ⟨r0, _, _, _, _, _, k6⟩ := w.path
                have := (c02_wonBy_spec k6).1
                rw [hc] at this; cases this
              · have h1 := w.term
                by_cases hct : ct = .preElection
                · have a := w.state
                  rw [if_pos hct, hc] at a; cases a
                · rw [if_neg hct] at h1; omega
          · have hva := c02_stepVote_spec hv
            rcases hva.decided with hg | hf
            · have := (hva.granted hg).2.1; rw [hc, f1] at this; cases this
            · rcases (hva.refused hf).2 with ⟨a, _⟩ | ⟨_, a, _⟩
              · rw [hc, f1] at a; cases a
              · rw [hc] at a; cases a
          · rcases hr with ⟨hsc, _⟩ | ⟨hsf, hf⟩ | ⟨hsl, _⟩
            · rw [f1] at hsc; rcases hsc with x | x <;> cases x
            · rcases c02_stepFollower_cases hsf hf with t | ⟨_, _, hh⟩
              · have := t.state; rw [hc, f1] at this; cases this
              · rcases c02_hup_cases hh with e | ⟨_, _, ct, hcm, _⟩
                · rw [e, f1] at hc; cases hc
                · rcases c02_campaign_cases hcm with w | w
                  · obtain ⟨r0, _, _, _, _, _, k6⟩ := w.path
                    have := (c02_wonBy_spec k6).1
                    rw [hc] at this; cases this
                  · have h1 := w.term
                    by_cases hct : ct = .preElection
                    · have a := w.state
                      rw [if_pos hct, hc] at a; cases a
                    · rw [if_neg hct] at h1; omega
            · rw [f1] at hsl; cases hsl

/-! ### 7. Non-vacuity: concrete states and messages (evaluated by `decide`) -/

section Examples

/-- (4) follower 1 of {1,2,3} at term 2 has not voted; it grants node 2's request of its own term 2,
records `vote = 2` and resets the election timer … -/
example : c02_exFollower.vote = 0 ∧ c02_exFollower.leaderId = 0 ∧
    c02_okAnd (({ c02_exFollower with electionElapsed := 7 } : Raft).step
      { msgType := .msgRequestVote, frm := 2, term := 2, logTerm := 2, index := 1 })
    (fun x => x.1.vote == 2 && x.1.term == 2 && x.1.electionElapsed == 0 &&
      x.1.msgs.map (fun q => q.reject) == [false]) = true := by decide +kernel

/-- … after which node 3's equally good request of the same term is refused and the vote stays 2,
while a repeated request of node 2 is granted again (`vote = m.from`) -/
example : c02_okAnd (({ c02_exFollower with vote := 2 } : Raft).step
      { msgType := .msgRequestVote, frm := 3, term := 2, logTerm := 2, index := 1 })
    (fun x => x.1.vote == 2 && x.1.term == 2 && x.1.msgs.map (fun q => q.reject) == [true]) = true ∧
    c02_okAnd (({ c02_exFollower with vote := 2 } : Raft).step
      { msgType := .msgRequestVote, frm := 2, term := 2, logTerm := 2, index := 1 })
    (fun x => x.1.vote == 2 && x.1.term == 2 && x.1.msgs.map (fun q => q.reject) == [false]) = true := by
  decide +kernel

/-- (4) the vote is given up only with a higher term: node 3's request of term 3 resets it (and is
then granted) -/
example : c02_okAnd (({ c02_exFollower with vote := 2 } : Raft).step
      { msgType := .msgRequestVote, frm := 3, term := 3, logTerm := 2, index := 1 })
    (fun x => x.1.vote == 3 && x.1.term == 3) = true := by decide +kernel

/-- (5a) candidate 1 of {1,2,3} with its own vote recorded becomes leader on node 2's grant: two
grants of three; a rejection leaves it a candidate -/
example : c02_exCandidate.state ≠ .leader ∧
    Tracker.voteResult c02_exCandidate.prs.voters (c02_exCandidate.prs.recordVote 2 true).votes = .won ∧
    c02_okAnd (c02_exCandidate.step { msgType := .msgRequestVoteResponse, frm := 2, term := 3 })
      (fun x => x.1.state == .leader && x.1.term == 3 && x.1.vote == 1) = true ∧
    c02_okAnd (c02_exCandidate.step { msgType := .msgRequestVoteResponse, frm := 2, term := 3, reject := true })
      (fun x => x.1.state == .candidate && x.1.prs.votes == [(1, true), (2, false)]) = true := by decide +kernel

/-- (5a) the joint case: under incoming {1,2,3} / outgoing {1,4,5} the grant of node 2 is not enough
(pending: no majority of the outgoing half), the grants of 2 and 4 are -/
example :
    Tracker.voteResult { incoming := [1, 2, 3], outgoing := [1, 4, 5] } [(1, true), (2, true)] = .pending ∧
    Tracker.voteResult { incoming := [1, 2, 3], outgoing := [1, 4, 5] } [(1, true), (2, true), (4, true)] = .won ∧
    granters [(1, true), (2, true), (3, false), (4, true)] = [1, 2, 4] := by decide +kernel

/-- (5) kinds are not mixed: the candidate ignores a granted pre-vote response -/
example : c02_exCandidate.step { msgType := .msgRequestPreVoteResponse, frm := 2, term := 3 }
    = .ok (c02_exCandidate, none) := by decide +kernel

/-- (5b) the only voter of {1} becomes leader of term 3 within the `MsgHup` step -/
example : c02_exSingle.state ≠ .leader ∧
    c02_okAnd (c02_exSingle.step { msgType := .msgHup })
      (fun x => x.1.state == .leader && x.1.term == 3 && x.1.vote == 1) = true := by decide +kernel

/-- (6) after `MsgHup` node 1 of {1,2,3} is a candidate of term 3 whose record holds its own vote
only — even if a stale record was lying around -/
example : c02_okAnd (({ c02_exFollower with prs := { c02_exFollower.prs with votes := [(2, true), (3, true)] } } : Raft).step
      { msgType := .msgHup })
    (fun x => x.1.state == .candidate && x.1.term == 3 && x.1.vote == 1 &&
      x.1.prs.votes == [(1, true)]) = true := by decide +kernel

end Examples

end RaftProps.C02
