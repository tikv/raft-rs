import RaftProofs.ClusterReadLocal
import RaftProofs.ClusterReadN
import RaftProofs.ClusterReadO

/-!
# C08, cluster level — ReadIndex (Safe mode) is linearizable for `ClusterSem`, for reads issued at the leader

`ClusterSem` (`RaftModel/Cluster.lean`) is the cluster built from the executable node model;
`RaftProps/C02c.lean`, `C05c.lean`, `C01c.lean` prove Election Safety, Log Matching and the commit layer
for it.  This file proves the read path on top of them: a `ReadState` handed out for a request carries an
index at least as large as the commit index **every** node had when the request was registered, and it
is handed out on the node where the request was issued.

## Hypotheses (`RdHyp cfg c0 h`, `RaftProofs/ClusterReadK.lean`)

* `Hyp3w cfg c0 h` — the hypotheses of the commit layer without proof gaps about the transport (C01d;
  `RaftProofs/ClusterCommitHyp.lean`), i.e. `Hyp2w` and `snapt0`;
* `norir`: no `MsgReadIndexResp` is ever in the transport (the commit layer does not need it; the read
  layer uses it in `read_state_ok` and `read_state_term`).  `Hyp3` of C01c gives both: `RdHyp.of_hyp3`;
* `safe`: every node runs with `ReadOnlyOption::Safe`;
* `nori`: no `MsgReadIndex` is ever in the transport — reads are issued at the leader.  **Without it the
  statement is false in the model** (and in raft-rs under a transport that may duplicate messages): a
  duplicated forwarded `MsgReadIndex` re-registers a context that was answered before, stale heartbeat
  responses for it are accepted again, and `ReadOnly::advance` releases every request queued before it —
  see the report / the docstring of `C08_cluster_read_index_safe`;
* `uniq`, `nonempty`: the contexts of the calls that register a request are unique and not empty
  (`C08_cluster_read_index_safe_calls` states the theorem with uniqueness over all `read_index` calls).
-/
namespace RaftProps.C08
open RaftModel RaftModel.Cluster RaftModel.Node

/-- **C08 `cluster_read_index_safe`** — Safe ReadIndex is linearizable for reads issued at the leader.

Let the step `h[n] → h[n+1]` be a `read_index(ctx)` call on node `i` that registers the request
(`RegAt`).  If in any state `h[m]` of the history a `ReadState` with `request_ctx = ctx` and index
`x.index` sits in the read states of some node `j`, then `j = i`, and `x.index` is at least the commit
index of **every** node in `h[n]` — the highest commit index any node had reached when the request was
issued.

Counterexample without `nori` (voters 1, 2, 3): node 1 leads term 1 and has committed index 1.
Follower 2 calls `read_index(K)`; the forwarded `MsgReadIndex(K)` reaches node 1, which registers `K`,
broadcasts heartbeats with `K`, receives node 2's `MsgHeartbeatResponse(K, term 1)` and answers `K`
(a `MsgReadIndexResp` in its queue, never sent).  Node 3 is elected for term 2 by node 2 and commits
index 2 with node 2's acknowledgement; node 1 hears nothing of it.  Now `read_index(ctx)` is called on
node 1: still leader of term 1 in its own eyes, it registers `ctx` with read index 1.  The transport
delivers the old `MsgReadIndex(K)` a second time — `K` is no longer pending, so it is registered again,
*behind* `ctx` — and then the old `MsgHeartbeatResponse(K, term 1)` of node 2 a second time: the
acknowledgements `{1, 2}` of `K` are a quorum, `ReadOnly::advance(K)` releases `ctx` and `K`, and the
application of node 1 receives the read state `(ctx, 1)` although node 3 had commit index 2 when
`ctx` was issued.  Every context was used by one call only. -/
theorem C08_cluster_read_index_safe (cfg : JointConfig) (c0 : Nat) (h : List Sys)
    (H : RdHyp cfg c0 h) (n i : Nat) (ctx : Bytes) (hreg : RegAt h n i ctx)
    (sn : Sys) (hn : h[n]? = some sn)
    (m : Nat) (s : Sys) (hm : h[m]? = some s) (j : Nat) (stj : NState) (hj : s.node j = some stj)
    (x : ReadState) (hx : x ∈ stj.raft.readStates) (hctx : x.requestCtx = ctx) :
    j = i ∧ n < m ∧
    ∀ u stu, sn.node u = some stu → stu.raft.raftLog.committed ≤ x.index :=
  read_state_ok H.toBase H.norir hreg hn hm hj hx hctx

/-- **C08 `cluster_superseded_leader_does_not_answer`** — let the request `ctx` be registered by the
step `h[n] → h[n+1]`, and let some node lead term `t'` in a state `h[n1]`, `n1 ≤ n`.  Then whichever node
adds a read state for `ctx` to its read states, in whichever step `h[k] → h[k+1]`, has a term at least
`t'` when it does so (`st` is its state before that step): a leader of a term `t < t'` never produces a
read state for a request issued at or after `h[n1]`.  (The condition "has committed an entry of its own
term" of the abstract statement is not needed.) -/
theorem C08_cluster_superseded_leader_does_not_answer (cfg : JointConfig) (c0 : Nat) (h : List Sys)
    (H : RdHyp cfg c0 h) (n i : Nat) (ctx : Bytes) (hreg : RegAt h n i ctx)
    (n1 : Nat) (s1 : Sys) (hn1 : h[n1]? = some s1) (hle : n1 ≤ n) (l' t' : Nat)
    (hl' : leads s1 l' t')
    (k : Nat) (a b : Sys) (ha : h[k]? = some a) (hb : h[k + 1]? = some b) (j : Nat)
    (st st' : NState) (hja : a.node j = some st) (hjb : b.node j = some st')
    (x : ReadState) (hx : x ∈ st'.raft.readStates) (hnew : x ∉ st.raft.readStates)
    (hctx : x.requestCtx = ctx) :
    t' ≤ st.raft.term :=
  read_state_term H.toBase H.norir hreg ha hb hja hjb hx hnew hctx hn1 hle hl'

/-- uniqueness and non-emptiness of the contexts of **all** `read_index` calls (whether they register
the request, forward it or drop it) give the two hypotheses `uniq` / `nonempty` of `RdHyp` -/
theorem RdHyp.of_calls {cfg : JointConfig} {c0 : Nat} {h : List Sys} (H3 : Hyp3w cfg c0 h)
    (norir : ∀ s ∈ h, ∀ x ∈ s.net, x.msgType ≠ .msgReadIndexResp)
    (safe : ∀ s ∈ h, ∀ i st, s.node i = some st → st.raft.readOnly.option = .safe)
    (nori : ∀ s ∈ h, ∀ x ∈ s.net, x.msgType ≠ .msgReadIndex)
    (uniqc : ∀ n1 n2 i1 i2 K, ReadCallAt h n1 i1 K → ReadCallAt h n2 i2 K → n1 = n2)
    (nec : ∀ n i K, ReadCallAt h n i K → K ≠ []) : RdHyp cfg c0 h :=
  { toHyp3w := H3, norir := norir, safe := safe, nori := nori,
    uniq := fun n1 n2 i1 i2 K h1 h2 => uniqc n1 n2 i1 i2 K h1.call h2.call,
    nonempty := fun n i K hr => nec n i K hr.call }

/-- the hypotheses of the commit layer as first stated (`Hyp3`, C01c) give `Hyp3w` and `norir` -/
theorem RdHyp.of_hyp3 {cfg : JointConfig} {c0 : Nat} {h : List Sys} (H3 : Hyp3 cfg c0 h)
    (safe : ∀ s ∈ h, ∀ i st, s.node i = some st → st.raft.readOnly.option = .safe)
    (nori : ∀ s ∈ h, ∀ x ∈ s.net, x.msgType ≠ .msgReadIndex)
    (uniq : ∀ n1 n2 i1 i2 K, RegAt h n1 i1 K → RegAt h n2 i2 K → n1 = n2)
    (nonempty : ∀ n i K, RegAt h n i K → K ≠ []) : RdHyp cfg c0 h :=
  { toHyp3w := H3.toHyp3w, norir := H3.toHyp2.norir, safe := safe, nori := nori, uniq := uniq,
    nonempty := nonempty }

/-- **C08 `cluster_read_index_safe`, stated for `read_index` calls** (the form of the brief): no two
`read_index` calls of the history carry the same context, no context is empty; the step
`h[n] → h[n+1]` is a `read_index(ctx)` call on node `i`.  Then a read state for `ctx` only ever appears
on node `i`, after `h[n]`, with an index at least the commit index of every node in `h[n]`.  (If the call
did not register the request — the node was not a leader that has committed in its term — no read state
for `ctx` ever appears.) -/
theorem C08_cluster_read_index_safe_calls (cfg : JointConfig) (c0 : Nat) (h : List Sys)
    (H3 : Hyp3w cfg c0 h)
    (norir : ∀ s ∈ h, ∀ x ∈ s.net, x.msgType ≠ .msgReadIndexResp)
    (safe : ∀ s ∈ h, ∀ i st, s.node i = some st → st.raft.readOnly.option = .safe)
    (nori : ∀ s ∈ h, ∀ x ∈ s.net, x.msgType ≠ .msgReadIndex)
    (uniqc : ∀ n1 n2 i1 i2 K, ReadCallAt h n1 i1 K → ReadCallAt h n2 i2 K → n1 = n2)
    (nec : ∀ n i K, ReadCallAt h n i K → K ≠ [])
    (n i : Nat) (ctx : Bytes) (hcall : ReadCallAt h n i ctx) (sn : Sys) (hn : h[n]? = some sn)
    (m : Nat) (s : Sys) (hm : h[m]? = some s) (j : Nat) (stj : NState) (hj : s.node j = some stj)
    (x : ReadState) (hx : x ∈ stj.raft.readStates) (hctx : x.requestCtx = ctx) :
    j = i ∧ n < m ∧
    ∀ u stu, sn.node u = some stu → stu.raft.raftLog.committed ≤ x.index := by
  have H := RdHyp.of_calls H3 norir safe nori uniqc nec
  subst hctx
  obtain ⟨n1, i1, _, hr⟩ := read_state_reg (.of_hyp3w H3) safe nori hm hj hx (nec n i _ hcall)
  have e := uniqc n1 n i1 i _ hr.call hcall
  subst e
  have ei : i1 = i := by
    obtain ⟨a, b, _, _, _, _, p1, p2, _, _, p5⟩ := hr.call
    obtain ⟨a', b', _, _, _, _, q1, q2, _, _, q5⟩ := hcall
    rw [p1] at q1; cases q1
    rw [p2] at q2; cases q2
    exact setNode_head_inj (p5.symm.trans q5)
  subst ei
  exact C08_cluster_read_index_safe cfg c0 h H n1 i1 _ hr sn hn m s hm j stj hj x hx rfl

/-! ## Non-vacuity: a leader answers a `read_index` request after a heartbeat round (kernel-evaluated)

`RaftProofs/ClusterReadN.lean`: the history of `C01_cluster_nonvacuous` (node 1 leads term 1 and has
committed index 1) continued by `read_index([7])` on node 1, `send` at node 1, the delivery of the
heartbeat that carries the context to node 2, `send` at node 2, and the delivery of node 2's
`MsgHeartbeatResponse` to node 1, which produces the read state `([7], 1)`. -/

section Examples
open RaftProps.C02

/-- **non-vacuity of the read layer**: there is a history of `ClusterSem` that satisfies every hypothesis
of the theorems above (`RdHyp`, voters `{1, 2, 3}`, `c0 = 0`), in which step 14 is a `read_index([7])`
call on node 1 that registers the request while every node's commit index is at most 1 and node 1's is
1, the transport of the last state holds node 2's `MsgHeartbeatResponse` with the context for term 1,
and node 1 ends with the read state `([7], 1)`. -/
theorem C08_cluster_nonvacuous :
    ∃ h : List Sys, RdHyp c02x_cfg 0 h ∧ RegAt h 14 1 [7] ∧
      ∃ (sn s : Sys) (st1 stj : NState) (y : Message),
        h[14]? = some sn ∧ sn.node 1 = some st1 ∧ st1.raft.state = .leader ∧ st1.raft.term = 1 ∧
        st1.raft.raftLog.committed = 1 ∧
        h[19]? = some s ∧ s.node 1 = some stj ∧
        stj.raft.readStates = [{ index := 1, requestCtx := [7] }] ∧
        y ∈ s.net ∧ y.msgType = .msgHeartbeatResponse ∧ y.frm = 2 ∧ y.context = [7] ∧ y.term = 1 :=
  have ⟨hl, ht, hc, _, _, _⟩ := c08x_eval.2.1
  have ⟨hne, y1, y2, y3, y4, hrs⟩ := c08x_eval.2.2
  ⟨c08x_hist, c08x_rdhyp, c08x_regAt, c01x_s14, c08x_s19, c01x_a8, c08x_a11, c08x_hbr,
    rfl, rfl, hl, ht, hc, rfl, rfl, hrs, List.mem_append_right _ (c02x_head_mem _ hne), y1, y2, y3, y4⟩

/-- … and the theorem applies to it: whatever read state for `[7]` any node holds in any state of that
history, it is node 1's, and its index covers the commit index of every node at step 14 -/
example (m : Nat) (s : Sys) (hm : c08x_hist[m]? = some s) (j : Nat) (stj : NState)
    (hj : s.node j = some stj) (x : ReadState) (hx : x ∈ stj.raft.readStates)
    (hctx : x.requestCtx = [7]) :
    j = 1 ∧ 14 < m ∧ ∀ u stu, c01x_s14.node u = some stu → stu.raft.raftLog.committed ≤ x.index :=
  C08_cluster_read_index_safe c02x_cfg 0 c08x_hist c08x_rdhyp 14 1 [7] c08x_regAt c01x_s14 rfl
    m s hm j stj hj x hx hctx

/-! ## The counterexample: without `nori` the statement is false (kernel-evaluated)

`RaftProofs/ClusterReadO.lean`: a 43-state history of `ClusterSem` that satisfies every hypothesis of
`C08_cluster_read_index_safe` except `nori` (the forwarded `MsgReadIndex([9])` of follower 2 is in the
transport, and is delivered twice), in which node 1 hands out the read state `([7], 1)` for a request
that was issued — and registered — when node 3, leader of term 2, had commit index 2. -/

/-- **`C08_cluster_read_index_safe` is false without `nori`**: a history that satisfies `Hyp3`
(which gives `Hyp3w` and `norir` of `RdHyp`: `RdHyp.of_hyp3`), `safe`, `uniq` and `nonempty`; step 39 is a `read_index([7])` call on node 1 that registers the request; in
`h[39]` node 3 leads term 2 with commit index 2; in `h[42]` node 1 holds the read state `([7], 1)`.  The
only `read_index` calls of the history are `read_index([9])` on node 2 (step 14, forwarded) and
`read_index([7])` on node 1 (step 39); the transport delivers node 2's forwarded `MsgReadIndex([9])`
at steps 16 and 40 and its `MsgHeartbeatResponse([9], term 1)` at steps 20 and 41. -/
theorem C08_cluster_forwarded_read_counterexample :
    ∃ h : List Sys, Hyp3 c02x_cfg 0 h ∧
      (∀ s ∈ h, ∀ i st, s.node i = some st → st.raft.readOnly.option = .safe) ∧
      (∀ n1 n2 i1 i2 K, RegAt h n1 i1 K → RegAt h n2 i2 K → n1 = n2) ∧
      (∀ n i K, RegAt h n i K → K ≠ []) ∧
      RegAt h 39 1 [7] ∧
      ∃ (sn s : Sys) (st3 stj : NState),
        h[39]? = some sn ∧ sn.node 3 = some st3 ∧ st3.raft.state = .leader ∧ st3.raft.term = 2 ∧
        st3.raft.raftLog.committed = 2 ∧
        h[42]? = some s ∧ s.node 1 = some stj ∧
        stj.raft.readStates = [{ index := 1, requestCtx := [7] }] :=
  have ⟨hl, ht, hc, hrs⟩ := c08y_eval.2.2.2
  ⟨c08y_hist, c08y_hyp3, c08y_safe,
    fun _ _ _ _ _ h1 h2 => by rw [(c08y_reg_only h1).1, (c08y_reg_only h2).1],
    fun _ _ _ h => by rw [(c08y_reg_only h).2]; decide,
    c08y_regAt, c08y_s39, c08y_s42, c08y_c12, c08y_a14, rfl, rfl, hl, ht, hc, rfl, rfl, hrs⟩

/-- the same counterexample, with the hypotheses spelt as the fields of `RdHyp` other than `nori` -/
theorem C08_cluster_forwarded_read_counterexample_fields :
    ∃ h : List Sys, Hyp3w c02x_cfg 0 h ∧
      (∀ s ∈ h, ∀ x ∈ s.net, x.msgType ≠ .msgReadIndexResp) ∧
      (∀ s ∈ h, ∀ i st, s.node i = some st → st.raft.readOnly.option = .safe) ∧
      (∀ n1 n2 i1 i2 K, RegAt h n1 i1 K → RegAt h n2 i2 K → n1 = n2) ∧
      (∀ n i K, RegAt h n i K → K ≠ []) ∧
      RegAt h 39 1 [7] ∧
      ∃ (sn s : Sys) (st3 stj : NState),
        h[39]? = some sn ∧ sn.node 3 = some st3 ∧ st3.raft.state = .leader ∧ st3.raft.term = 2 ∧
        st3.raft.raftLog.committed = 2 ∧
        h[42]? = some s ∧ s.node 1 = some stj ∧
        stj.raft.readStates = [{ index := 1, requestCtx := [7] }] := by
  obtain ⟨h, H3, rest⟩ := C08_cluster_forwarded_read_counterexample
  exact ⟨h, H3.toHyp3w, H3.toHyp2.norir, rest⟩

end Examples

end RaftProps.C08
