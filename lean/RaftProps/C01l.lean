import RaftProofs.ClusterCommit7B
import RaftProps.C01k

/-!
# C01 / C03 / C04, cluster level, with `batch_append` allowed and **nothing assumed about queues**: `SaneQ` of C01k is **not derivable**

`RaftProps/C01k.lean` proves the commit layer of `ClusterSem` under `Hyp3wK`, whose field

    mute : (∀ s ∈ h, NoBatch s) ∨ (∀ s ∈ h, SaneQ s)

assumes, on histories in which somebody batches, that a *mute* node (a `MsgSnapshot` is queued; under
`nosnap` it never sends again before a restart) queues no `MsgAppend` anchored in the void (`log_term = 0`,
`index ≠ 0`).  The bundle of this file is **`Hyp3wL` = `Hyp3wK` without `mute`** (C01d's `Hyp3w` without
`NoBatch`, plus `c0 = 0`; `RaftProofs/ClusterCommitBatchBundles.lean`).

**Result: `Hyp3wL` does not imply `Hyp3wK`** (`C01l_saneQ_not_derivable`; `RaftProofs/ClusterCommit7B.lean`,
kernel-evaluated, 44 states, three voters, every step a `KStep`, `NoSnapNet` in every state).  The route
"bound `pending_snapshot` by the log" (`Raft.CS.PW`) is closed because the bound is false here:

* `Raft::request_snapshot` records `pending_request_snapshot = last_index` and demands that the last entry
  carries the follower's *current* term — but the request **survives a change of term**
  (`become_follower` restores it after `reset`), and the follower then answers every `MsgAppend` /
  `MsgHeartbeat` of the **new** leader with `send_request_snapshot` (`request_snapshot` = the old
  `last_index`);
* a leader may send entries it has not persisted (`KStep.send` asks non-leaders only for a stable log), so
  after a restart of the old leader the new leader's log can be **shorter** than the request;
* `MemStorage::snapshot(request_index)` relabels its snapshot to `request_index`; the leader goes to
  `Snapshot` with `pending_snapshot = 3 > last_index = 2` and queues the `MsgSnapshot` (mute from here on);
  `report_snapshot` → `become_probe`: `next_idx = 4`; a `MsgHeartbeatResponse` (the follower has restarted)
  → `send_append` queues `MsgAppend { index = 3, log_term = 0 }`; with `batch_append` on, two proposals
  later `try_batching` has glued entry 4 onto it while the log holds an entry of term 2 at index 3.

So the six theorems are stated here **conditionally** (`…_partial`, with `mute` as an explicit hypothesis —
they are C01k's).  That they hold under `Hyp3wL` alone is not contradicted by the history (no queue of a mute
node reaches the transport; commit indexes stay ≤ 1: `C01l_counterexample_commits`); it is proved in
`RaftProps/C01m.lean`, over the instance of the C05 / C05d layer whose `At` skips the queues of mute nodes
(route (1) of `RaftProps/C01k.REPORT.md`; see `RaftProps/C01l.REPORT.md`).
-/
namespace RaftProps.C01l
open RaftModel RaftModel.Cluster RaftModel.ClusterB RaftModel.Node RaftModel.Raft RaftModel.Raft.CC
  RaftModel.Raft.CP RaftProps.C02 RaftProps.C05

/-- **C01k is a special case** (forget `mute`) -/
theorem C01l_subsumes_C01k {cfg : JointConfig} {c0 : Nat} {h : List Sys} (H : Hyp3wK cfg c0 h) :
    Hyp3wL cfg c0 h := H.toHyp3wL

/-- **C01d with `c0 = 0` is a special case** -/
theorem C01l_subsumes_C01d {cfg : JointConfig} {h : List Sys} (H : Hyp3w cfg 0 h) :
    Hyp3wL cfg 0 h := Hyp3wL.of_hyp3w H

/-- **conditional**: with `mute`, a history under `Hyp3wL` is one under C01k's `Hyp3wK` -/
theorem C01l_toHyp3wK_partial {cfg : JointConfig} {c0 : Nat} {h : List Sys} (H : Hyp3wL cfg c0 h)
    (hmute : (∀ s ∈ h, NoBatch s) ∨ (∀ s ∈ h, SaneQ s)) : Hyp3wK cfg c0 h :=
  H.toHyp3wK_partial hmute

/-- `Hyp3wK` is exactly `Hyp3wL` and `mute` -/
theorem C01l_hyp3wK_iff {cfg : JointConfig} {c0 : Nat} {h : List Sys} :
    Hyp3wK cfg c0 h ↔ Hyp3wL cfg c0 h ∧ ((∀ s ∈ h, NoBatch s) ∨ (∀ s ∈ h, SaneQ s)) :=
  ⟨fun H => ⟨H.toHyp3wL, H.mute⟩, fun H => H.1.toHyp3wK_partial H.2⟩

/-- the longest prefixes on which `mute` holds are covered: `Hyp3wL` is closed under prefixes -/
theorem C01l_prefix_partial {cfg : JointConfig} {c0 : Nat} {h : List Sys} (H : Hyp3wL cfg c0 h)
    {k : Nat} (hk : 0 < k)
    (hmute : (∀ s ∈ h.take k, NoBatch s) ∨ (∀ s ∈ h.take k, SaneQ s)) : Hyp3wK cfg c0 (h.take k) :=
  (H.take hk).toHyp3wK_partial hmute

/-- **`SaneQ` is not derivable**: a history under `Hyp3wL` that is not under `Hyp3wK` — a state violates
`SaneQ`, a state violates `NoBatch` — whose last state has node 1 leading term 2 with `batch_append` on, a
`MsgSnapshot` queued, and next to it a `MsgAppend` anchored at `(3, 0)` that **carries entry 4**, while the
log of node 1 holds an entry of term 2 at index 3 (the queue is not a slice of the log: the Log Matching
invariant of C05 / C05d, which speaks about every queue, fails there).  The request that took the progress
beyond the log is an honest `MsgAppendResponse` of node 2 for term 2 with `request_snapshot = 3`, delivered
when `last_index = 2`. -/
theorem C01l_saneQ_not_derivable :
    ∃ h : List Sys, Hyp3wL c02x_cfg 0 h ∧ ¬ Hyp3wK c02x_cfg 0 h ∧
      (∃ s ∈ h, ¬ SaneQ s) ∧ (∃ s ∈ h, ¬ NoBatch s) ∧
      (∃ (s : Sys) (st : NState) (rq : Message), s ∈ h ∧ s.node 1 = some st ∧
        st.raft.state = .leader ∧ st.raft.raftLog.lastIndex = 2 ∧
        (st.raft.prs.get 2).map (·.nextIdx) = some 4 ∧
        st.raft.msgs.map (·.msgType) = [.msgSnapshot] ∧
        rq.requestSnapshot = 3 ∧ rq.term = 2 ∧ rq.frm = 2) ∧
      ∃ (s : Sys) (st : NState) (x : Message), s ∈ h ∧ s.node 1 = some st ∧
        st.raft.state = .leader ∧ st.raft.term = 2 ∧ st.raft.batchAppend = true ∧
        st.raft.msgs.head!.msgType = .msgSnapshot ∧ x ∈ st.raft.msgs ∧
        x.msgType = .msgAppend ∧ x.index = 3 ∧ x.logTerm = 0 ∧ x.entries.map (·.index) = [4] ∧
        st.raft.raftLog.term 3 = .ok 2 ∧ st.raft.raftLog.lastIndex = 4 := by
  have h36 : c01l_s36 ∈ c01l_hist := List.mem_append_right _ (by simp [c01l_tail])
  refine ⟨c01l_hist, c01l_hyp3wL, c01l_not_hyp3wK, ⟨_, c01l_s40_mem, c01l_not_saneQ⟩,
    ⟨_, c01l_s43_mem, c01l_not_noBatch⟩, ⟨c01l_s36, c01l_a20, c01l_mRq, h36, ?_⟩,
    ⟨c01l_s43, c01l_a24, c01l_glued, c01l_s43_mem, c01l_glued_facts⟩⟩
  exact c01l_progress_beyond_log

/-- `Hyp3wL` is strictly weaker than `Hyp3wK` -/
theorem C01l_strictly_weaker :
    (∀ cfg c0 h, Hyp3wK cfg c0 h → Hyp3wL cfg c0 h) ∧
    ¬ (∀ cfg c0 h, Hyp3wL cfg c0 h → Hyp3wK cfg c0 h) :=
  ⟨fun _ _ _ H => H.toHyp3wL, fun hall => c01l_not_hyp3wK (hall _ _ _ c01l_hyp3wL)⟩

/-- the history does not contradict the conclusions: every commit index in it is at most 1 (and the
first 15 states are the history of `C01d` / `C01c`'s non-vacuity example) -/
theorem C01l_counterexample_commits :
    ∀ s ∈ c01l_tail, ∀ p ∈ s.nodes, p.2.raft.raftLog.committed ≤ 1 := c01l_commits

end RaftProps.C01l

namespace RaftModel.ClusterB
open RaftModel RaftModel.Cluster RaftModel.Node RaftModel.Raft RaftModel.Raft.CC

/-! ## the six theorems of C01f / C01k under `Hyp3wL`, **conditionally** (`mute` as an explicit hypothesis) -/

/-- **C04 `cluster_leader_commit_rule`** — the commit rule with **durable acknowledgements**: whenever
a step `h[n] → h[n+1]` takes the commit index of a node `l` that is leader of term `t` after the step
from `c` to `c' > c`, the entry at `c'` in its log carries term `t`, and there is a joint quorum `Q` of
`cfg` such that every `j ∈ Q` is

* `l` itself, with `persisted ≥ c'` — and its storage holds its log up to `c'`; or
* the sender of an accepting `MsgAppendResponse` `x` for term `t` with `index ≥ c'` that is in the
  transport before the step, **and in every state of the history whose transport holds `x` — from the
  moment `x` entered the transport on — the storage of `j` holds `l`'s log up to `c'`**. -/
theorem _root_.RaftProps.C01l.C04_cluster_leader_commit_rule_partial (cfg : JointConfig) (c0 : Nat) (h : List Sys)
    (H : Hyp3wL cfg c0 h)
    (hmute : (∀ s ∈ h, NoBatch s) ∨ (∀ s ∈ h, SaneQ s))
    (n : Nat) (a b : Sys) (ha : h[n]? = some a) (hb : h[n + 1]? = some b)
    (l : Nat) (sta stb : NState) (hla : a.node l = some sta) (hlb : b.node l = some stb)
    (t : Nat) (hs : stb.raft.state = .leader) (ht : stb.raft.term = t)
    (hc : sta.raft.raftLog.committed < stb.raft.raftLog.committed) :
    stb.raft.raftLog.term stb.raft.raftLog.committed = .ok t ∧
    ∃ Q, IsJointQuorum cfg Q ∧ ∀ j ∈ Q,
      (j = l ∧ stb.raft.raftLog.committed ≤ stb.raft.raftLog.persisted ∧
        ∀ k, k ≤ stb.raft.raftLog.committed →
          (storeLog stb.raft.raftLog.store).entryAt k = stb.raft.raftLog.abs.entryAt k) ∨
      ∃ x ∈ a.net, x.msgType = .msgAppendResponse ∧ x.reject = false ∧ x.frm = j ∧ x.term = t ∧
        stb.raft.raftLog.committed ≤ x.index ∧
        ∀ (m : Nat) (s : Sys) (stj : NState), h[m]? = some s → x ∈ s.net → s.node j = some stj →
          ∀ k, k ≤ stb.raft.raftLog.committed →
            (storeLog stj.raft.raftLog.store).entryAt k = stb.raft.raftLog.abs.entryAt k :=
  RaftProps.C01k.C04_cluster_leader_commit_rule cfg c0 h (H.toHyp3wK_partial hmute) n a b ha hb l sta stb hla hlb t hs ht hc

/-- **C03 `cluster_leader_completeness`** — every entry a leader has committed is in the log of every
leader of a later term: if a step `h[n] → h[n+1]` takes the commit index of `l`, leader of term `t`
after the step, to `c'`, then any node that leads a term `t' > t` in any state `h[m]` of the history
holds, at every index up to `c'`, the entry `l` held there. -/
theorem _root_.RaftProps.C01l.C03_cluster_leader_completeness_partial (cfg : JointConfig) (c0 : Nat) (h : List Sys)
    (H : Hyp3wL cfg c0 h)
    (hmute : (∀ s ∈ h, NoBatch s) ∨ (∀ s ∈ h, SaneQ s))
    (n : Nat) (a b : Sys) (ha : h[n]? = some a) (hb : h[n + 1]? = some b)
    (l : Nat) (sta stb : NState) (hla : a.node l = some sta) (hlb : b.node l = some stb)
    (hs : stb.raft.state = .leader)
    (hc : sta.raft.raftLog.committed < stb.raft.raftLog.committed)
    (m : Nat) (s : Sys) (hm : h[m]? = some s) (l' : Nat) (st' : NState)
    (hl' : s.node l' = some st') (hs' : st'.raft.state = .leader)
    (ht : stb.raft.term < st'.raft.term) :
    ∀ k, k ≤ stb.raft.raftLog.committed →
      st'.raft.raftLog.abs.entryAt k = stb.raft.raftLog.abs.entryAt k :=
  RaftProps.C01k.C03_cluster_leader_completeness cfg c0 h (H.toHyp3wK_partial hmute) n a b ha hb l sta stb hla hlb hs hc m s hm l' st' hl' hs' ht

/-- **C04 `cluster_follower_commit_sound`** — *every* commit index is sound: in every state `h[m]`,
what a node `v` has marked committed is at most the common snapshot point `c0`, or it was committed by
a leader: there is an earlier step `h[n] → h[n+1]` (`n < m`) that took the commit index of a node `l`,
leader of a term `t ≤ term(v)` after the step, to some `c' ≥ committed(v)`, and the log of `v` equals
the log `l` had then up to `committed(v)`. -/
theorem _root_.RaftProps.C01l.C04_cluster_follower_commit_sound_partial (cfg : JointConfig) (c0 : Nat) (h : List Sys)
    (H : Hyp3wL cfg c0 h)
    (hmute : (∀ s ∈ h, NoBatch s) ∨ (∀ s ∈ h, SaneQ s)) (m : Nat) (s : Sys) (hm : h[m]? = some s) (v : Nat) (st : NState)
    (hv : s.node v = some st) :
    st.raft.raftLog.committed ≤ c0 ∨
    ∃ (n : Nat) (a b : Sys) (l : Nat) (sta stb : NState), n < m ∧ h[n]? = some a ∧
      h[n + 1]? = some b ∧ a.node l = some sta ∧ b.node l = some stb ∧
      stb.raft.state = .leader ∧ sta.raft.raftLog.committed < stb.raft.raftLog.committed ∧
      st.raft.raftLog.committed ≤ stb.raft.raftLog.committed ∧ stb.raft.term ≤ st.raft.term ∧
      ∀ k, k ≤ st.raft.raftLog.committed →
        st.raft.raftLog.abs.entryAt k = stb.raft.raftLog.abs.entryAt k :=
  RaftProps.C01k.C04_cluster_follower_commit_sound cfg c0 h (H.toHyp3wK_partial hmute) m s hm v st hv

/-- … and so is every **stored** commit index (what a restarted node starts from): it is not ahead of
the commit index, and it is covered by a leader's commit of a term not above the stored term, with the
stored entries. -/
theorem _root_.RaftProps.C01l.C04_cluster_stored_commit_sound_partial (cfg : JointConfig) (c0 : Nat) (h : List Sys)
    (H : Hyp3wL cfg c0 h)
    (hmute : (∀ s ∈ h, NoBatch s) ∨ (∀ s ∈ h, SaneQ s)) (m : Nat) (s : Sys) (hm : h[m]? = some s) (v : Nat) (st : NState)
    (hv : s.node v = some st) :
    st.raft.raftLog.store.hardState.commit ≤ st.raft.raftLog.committed ∧
    (st.raft.raftLog.store.hardState.commit ≤ c0 ∨
     ∃ (n : Nat) (a b : Sys) (l : Nat) (sta stb : NState), n < m ∧ h[n]? = some a ∧
      h[n + 1]? = some b ∧ a.node l = some sta ∧ b.node l = some stb ∧
      stb.raft.state = .leader ∧ sta.raft.raftLog.committed < stb.raft.raftLog.committed ∧
      st.raft.raftLog.store.hardState.commit ≤ stb.raft.raftLog.committed ∧
      stb.raft.term ≤ st.raft.raftLog.store.hardState.term ∧
      ∀ k, k ≤ st.raft.raftLog.store.hardState.commit →
        (storeLog st.raft.raftLog.store).entryAt k = stb.raft.raftLog.abs.entryAt k) :=
  RaftProps.C01k.C04_cluster_stored_commit_sound cfg c0 h (H.toHyp3wK_partial hmute) m s hm v st hv

/-- **C01 `cluster_state_machine_safety`** — any two nodes, in any two states of the history (the same
node before and after a restart included), hold the same entry at every index both have marked
committed. -/
theorem _root_.RaftProps.C01l.C01_cluster_state_machine_safety_partial (cfg : JointConfig) (c0 : Nat) (h : List Sys)
    (H : Hyp3wL cfg c0 h)
    (hmute : (∀ s ∈ h, NoBatch s) ∨ (∀ s ∈ h, SaneQ s))
    (m1 : Nat) (s1 : Sys) (hm1 : h[m1]? = some s1) (v1 : Nat) (st1 : NState)
    (hv1 : s1.node v1 = some st1)
    (m2 : Nat) (s2 : Sys) (hm2 : h[m2]? = some s2) (v2 : Nat) (st2 : NState)
    (hv2 : s2.node v2 = some st2)
    (k : Nat) (hk1 : k ≤ st1.raft.raftLog.committed) (hk2 : k ≤ st2.raft.raftLog.committed) :
    st1.raft.raftLog.abs.entryAt k = st2.raft.raftLog.abs.entryAt k :=
  RaftProps.C01k.C01_cluster_state_machine_safety cfg c0 h (H.toHyp3wK_partial hmute) m1 s1 hm1 v1 st1 hv1 m2 s2 hm2 v2 st2 hv2 k hk1 hk2

/-- … in particular for the **applied** entries of two nodes whose applied index is within their
commit index (`AppliedOk`, which holds outside the restart window — `raft_log.rs:44-46`). -/
theorem _root_.RaftProps.C01l.C01_cluster_state_machine_safety_applied_partial (cfg : JointConfig) (c0 : Nat)
    (h : List Sys) (H : Hyp3wL cfg c0 h)
    (hmute : (∀ s ∈ h, NoBatch s) ∨ (∀ s ∈ h, SaneQ s))
    (m1 : Nat) (s1 : Sys) (hm1 : h[m1]? = some s1) (v1 : Nat) (st1 : NState)
    (hv1 : s1.node v1 = some st1) (ha1 : st1.raft.raftLog.AppliedOk)
    (m2 : Nat) (s2 : Sys) (hm2 : h[m2]? = some s2) (v2 : Nat) (st2 : NState)
    (hv2 : s2.node v2 = some st2) (ha2 : st2.raft.raftLog.AppliedOk)
    (k : Nat) (hk1 : k ≤ st1.raft.raftLog.applied) (hk2 : k ≤ st2.raft.raftLog.applied) :
    st1.raft.raftLog.abs.entryAt k = st2.raft.raftLog.abs.entryAt k :=
  RaftProps.C01k.C01_cluster_state_machine_safety_applied cfg c0 h (H.toHyp3wK_partial hmute) m1 s1 hm1 v1 st1 hv1 ha1 m2 s2 hm2 v2 st2 hv2 ha2 k hk1 hk2

end RaftModel.ClusterB
