import RaftProofs.RaftNodeC04
import RaftProps.C11
import RaftProofs.RaftGuards

/-!
# C04 on the node model — every way the commit index (`raft_log.committed`) can change

The cluster-level proof of C04 (`RaftProps/C04.lean`, over the abstract protocol `P`) relies on
*commit obligations* of the events `commitLeader`, `commitApp`, `commitHB`, `commitClaim`,
`commitSnap`.  This file proves them on the executable node model (`RaftModel/Raft*.lean`, the
line-by-line model of `src/raft.rs`), for ALL states and messages (no invariant is assumed unless a
hypothesis is named):

1. `C04_commit_monotone_step` / `_tick` / … : no entry point ever decreases `committed`.
2. `C04_leader_commit_rule`: `maybe_commit` commits exactly `maximal_committed_index`, only if that
   entry carries the leader's *current term*, and that index is acknowledged (`matched ≥`) by a
   majority of each non-empty voter half.  `C04_leader_commit_only_by_maybeCommit`: inside `step`
   a leader's commit index moves only through that rule (on `MsgAppendResponse`).
   `C04_self_matched_from_persisted`: the leader's own `matched` is written by
   `on_persist_entries` with the persisted index; `append_entry` does not touch the tracker.
3. `C04_follower_commit_sources`, `C04_candidate_commit_sources`, `C04_vote_request_commit_source`,
   `C04_step_commit_sources`: the complete list of what moves a non-leader's commit index, with the
   local evidence each handler checks (`CommitEvidence`); every other message type leaves it alone.
4. `C04_heartbeat_commit_bounded`: the heartbeat to `x` carries `min(matched x, committed)`.
5. Non-vacuity examples (evaluated by `decide`).

Helper lemmas (the commit-index frame of every function of the model): `RaftProofs/RaftNodeC04.lean`.
-/
namespace RaftProps.C04
open RaftModel RaftModel.Raft

/-! ## 1. The commit index never decreases -/

/-- `Raft::step` never decreases the commit index (any state, any message) -/
theorem C04_commit_monotone_step (r r' : Raft) (m : Message) (e : Option RaftError)
    (h : r.step m = .ok (r', e)) : r.raftLog.committed ≤ r'.raftLog.committed :=
  (step_cle (c := r.raftLog.committed) h ⟨Nat.le_refl _⟩).h

/-- `Raft::tick` never decreases the commit index -/
theorem C04_commit_monotone_tick (r r' : Raft) (b : Bool) (h : r.tick = .ok (r', b)) :
    r.raftLog.committed ≤ r'.raftLog.committed :=
  (tick_cle (c := r.raftLog.committed) h ⟨Nat.le_refl _⟩).h

/-- `RawNode::step` (the message filter in front of `Raft::step`) -/
theorem C04_commit_monotone_rawnode_step (r r' : Raft) (m : Message) (e : Option RaftError)
    (h : RawNode.step r m = .ok (r', e)) : r.raftLog.committed ≤ r'.raftLog.committed := by
  rcases RawNode.step_inv h with rfl | ⟨_, h⟩
  · exact Nat.le_refl _
  · exact C04_commit_monotone_step r r' m e h

/-- `Raft::on_persist_entries` (raft.rs:1060) — the other place where a leader may commit -/
theorem C04_commit_monotone_onPersistEntries (r r' : Raft) (index term : Nat)
    (h : r.onPersistEntries index term = .ok r') :
    r.raftLog.committed ≤ r'.raftLog.committed := by
  refine (onPersistEntries_parts (P := CP (fun x => r.raftLog.committed ≤ x)) h (fun hp => ⟨?_⟩)
    (fun _ h1 => ⟨h1.h⟩) (fun _ => maybeCommit_cle) (fun _ => bcastAppend_cp)).h
  -- `maybe_persist` moves `persisted` only
  rcases RaftLog.maybePersist_inv hp with ⟨_, h2, _⟩ | ⟨_, h2⟩ <;> rw [h2] <;> exact Nat.le_refl _

/-- `Raft::on_persist_snap` (raft.rs:1089) does not touch the commit index -/
theorem C04_onPersistSnap_keeps_commit (r r' : Raft) (index : Nat)
    (h : r.onPersistSnap index = .ok r') : r'.raftLog.committed = r.raftLog.committed := by
  unfold Raft.onPersistSnap at h
  split at h
  · rename_i log b hp
    cases h
    unfold RaftLog.maybePersistSnap at hp
    split at hp
    · split at hp
      · cases hp
      · split at hp
        · cases hp
        · cases hp; rfl
    · cases hp; rfl
  · cases h
  · cases h

/-- `Raft::apply_conf_change` (raft.rs:2834): a leader re-evaluates `maybe_commit` under the new
configuration; the commit index does not decrease -/
theorem C04_commit_monotone_applyConfChange (r r' : Raft) (cc : ConfChangeV2)
    (res : Except ErrKind ConfState) (h : r.applyConfChange cc = .ok (r', res)) :
    r.raftLog.committed ≤ r'.raftLog.committed :=
  applyConfChange_lp (CP.keepsAll r.raftLog.committed) h (Nat.le_refl _)

/-- `Raft::commit_apply` (raft.rs:960) moves `applied`, appends the auto-leave entry, and leaves the
commit index alone -/
theorem C04_commitApply_keeps_commit (r r' : Raft) (applied : Nat)
    (h : r.commitApply applied = .ok r') : r'.raftLog.committed = r.raftLog.committed := by
  refine commitApplyInternal_parts (P := fun x => x.raftLog.committed = r.raftLog.committed) h
    (fun hl => ?_) (fun _ _ _ _ _ ha p => (appendEntry_cp (P := (· = r.raftLog.committed)) ha ⟨p⟩).h)
    (fun _ p => p)
  rcases RaftLog.appliedTo_inv hl with ⟨_, rfl⟩ | ⟨_, _, rfl⟩ <;> rfl

/-! ## 2. The leader's commit rule -/

/-- the voters of `vs` that acknowledged at least `i` -/
def ackers (vs : List Nat) (ack : Nat → Option Index) (i : Nat) : List Nat :=
  vs.filter (fun v => decide (i ≤ ackIdx ack v))

theorem c04_quorumAcked_isQuorum (vs : List Nat) (ack : Nat → Option Index) (i : Nat) (all : List Nat)
    (hsub : ∀ v ∈ vs, v ∈ all) (h : QuorumAcked vs ack i) : IsQuorum vs (ackers all ack i) := by
  unfold IsQuorum
  unfold QuorumAcked ackCount at h
  refine Nat.le_trans h ?_
  apply List.countP_mono_left
  intro v hv hd
  simp only [decide_eq_true_eq] at hd ⊢
  simp only [ackers, List.mem_filter, decide_eq_true_eq]
  exact ⟨hsub v hv, hd⟩

/-- whatever the group-commit flag, the index reported by `maximal_committed_index` is acknowledged
by a majority of each non-empty half (C11: `committedIndex_is_max_quorum_acked`,
`groupCommit_le_quorum`) -/
theorem c04_maximalCommittedIndex_acked (t : ProgressTracker) (mci : Nat) (gc : Bool)
    (h : t.maximalCommittedIndex = .ok (mci, gc)) : JointQuorumAcked t.voters t.acked mci := by
  unfold ProgressTracker.maximalCommittedIndex at h
  rw [RaftProps.C11.joint_committedIndex_never_panics] at h
  have hm : mci = (Joint.committedIndex t.voters t.acked t.groupCommit).1 := by
    cases h; rfl
  have hmin : mci = min (Majority.committedIndex t.voters.incoming t.acked t.groupCommit).1
      (Majority.committedIndex t.voters.outgoing t.acked t.groupCommit).1 := by
    rw [hm]; rfl
  have half : ∀ vs : List Nat, vs ≠ [] →
      mci ≤ (Majority.committedIndex vs t.acked t.groupCommit).1 → QuorumAcked vs t.acked mci := by
    intro vs hne hle
    have h1 : (Majority.committedIndex vs t.acked t.groupCommit).1 ≤
        (Majority.committedIndex vs t.acked false).1 := by
      cases hg : t.groupCommit with
      | false => exact Nat.le_refl _
      | true => exact RaftProps.C11.groupCommit_le_quorum vs t.acked
    have h2 := (Majority.quorumIndex_spec vs t.acked hne).1
    unfold QuorumAcked at h2 ⊢
    exact Nat.le_trans h2 (ackCount_anti vs t.acked (Nat.le_trans hle h1))
  exact ⟨fun hne => half _ hne (by rw [hmin]; exact Nat.min_le_left _ _),
         fun hne => half _ hne (by rw [hmin]; exact Nat.min_le_right _ _)⟩

/-- **The leader's commit rule** (`Raft::maybe_commit`, raft.rs:939; the only writer of `committed`
on a leader inside `step`, see `C04_leader_commit_only_by_maybeCommit`).  If `maybe_commit` returns
`true` then, with `mci = prs.maximal_committed_index().0`:
* the new commit index is exactly `mci`, strictly above the old one and inside the log;
* the entry at `mci` carries the node's **current term** (`raft_log.term(mci) == self.term`);
* `mci` is acknowledged by a majority of each non-empty voter half of the tracker's configuration —
  as a count (`JointQuorumAcked`) and as an explicit quorum `Q` whose members all have a progress
  entry with `matched ≥ mci`;
* nothing else of the log changes, and the term does not change. -/
theorem C04_leader_commit_rule (r r' : Raft) (h : r.maybeCommit = .ok (r', true)) :
    ∃ mci gc, r.prs.maximalCommittedIndex = .ok (mci, gc) ∧
      r'.raftLog.committed = mci ∧ r.raftLog.committed < mci ∧ mci ≤ r.raftLog.lastIndex ∧
      r.raftLog.term mci = .ok r.term ∧
      JointQuorumAcked r.prs.voters r.prs.acked mci ∧
      (∃ Q, IsJointQuorum r.prs.voters Q ∧
        ∀ v ∈ Q, ∃ pr, r.prs.get v = some pr ∧ mci ≤ pr.matched) ∧
      r'.raftLog = { r.raftLog with committed := mci } ∧ r'.term = r.term := by
  obtain ⟨mci, gc, hm, hh | hh⟩ := maybeCommit_spec h
  · obtain ⟨_, hlt, hli, hterm, rfl⟩ := hh
    have hq := c04_maximalCommittedIndex_acked r.prs mci gc hm
    refine ⟨mci, gc, hm, rfl, hlt, hli, hterm, hq, ?_, rfl, rfl⟩
    refine ⟨ackers (r.prs.voters.incoming ++ r.prs.voters.outgoing) r.prs.acked mci, ⟨?_, ?_⟩, ?_⟩
    · intro hne
      exact c04_quorumAcked_isQuorum _ _ _ _ (fun v hv => List.mem_append_left _ hv) (hq.1 hne)
    · intro hne
      exact c04_quorumAcked_isQuorum _ _ _ _ (fun v hv => List.mem_append_right _ hv) (hq.2 hne)
    · intro v hv
      simp only [ackers, List.mem_filter, decide_eq_true_eq] at hv
      have hle := hv.2
      unfold ackIdx ProgressTracker.acked at hle
      unfold ProgressTracker.get
      cases hl : r.prs.progress.lookup v with
      | none =>
        rw [hl] at hle
        simp at hle
        change mci ≤ 0 at hle
        omega
      | some pr =>
        rw [hl] at hle
        exact ⟨pr, rfl, hle⟩
  · cases hh.1

/-- without group commit (`hgc`), and when the acknowledged indexes are u64 values (`hb`; needed
only because an empty half reports `u64::MAX`), the committed index is moreover the *largest* index
acknowledged by a majority of each non-empty half (C11 `joint_committedIndex`) -/
theorem C04_leader_commit_rule_maximal (r r' : Raft) (h : r.maybeCommit = .ok (r', true))
    (hgc : r.prs.groupCommit = false)
    (hne : r.prs.voters.incoming ≠ [] ∨ r.prs.voters.outgoing ≠ [])
    (hb : ∀ v, (v ∈ r.prs.voters.incoming ∨ v ∈ r.prs.voters.outgoing) →
      ackIdx r.prs.acked v ≤ U64_MAX) :
    ∀ i, r'.raftLog.committed < i → ¬ JointQuorumAcked r.prs.voters r.prs.acked i := by
  obtain ⟨mci, gc, hm, hc, _⟩ := C04_leader_commit_rule r r' h
  unfold ProgressTracker.maximalCommittedIndex at hm
  rw [RaftProps.C11.joint_committedIndex_never_panics, hgc] at hm
  have e : mci = (Joint.committedIndex r.prs.voters r.prs.acked false).1 := by cases hm; rfl
  rw [hc, e]
  exact (RaftProps.C11.joint_committedIndex r.prs.voters r.prs.acked hne hb).2.1

/-- a configuration without voters cannot commit anything inside a u64 log -/
theorem C04_leader_commit_needs_voters (r r' : Raft) (h : r.maybeCommit = .ok (r', true))
    (hlast : r.raftLog.lastIndex < U64_MAX) :
    r.prs.voters.incoming ≠ [] ∨ r.prs.voters.outgoing ≠ [] := by
  obtain ⟨mci, gc, hm, _, _, hli, _⟩ := C04_leader_commit_rule r r' h
  apply Classical.byContradiction
  intro hc
  have h1 : r.prs.voters.incoming = [] := by
    apply Classical.byContradiction; intro h1; exact hc (Or.inl h1)
  have h2 : r.prs.voters.outgoing = [] := by
    apply Classical.byContradiction; intro h2; exact hc (Or.inr h2)
  unfold ProgressTracker.maximalCommittedIndex at hm
  rw [RaftProps.C11.joint_committedIndex_never_panics] at hm
  have hv : r.prs.voters = ⟨[], []⟩ := by
    cases hvv : r.prs.voters with
    | mk i o => rw [hvv] at h1 h2; simp only at h1 h2; rw [h1, h2]
  rw [hv, RaftProps.C11.joint_committedIndex_empty] at hm
  cases hm
  omega

/-- **inside `step`, a leader's commit index moves only through `maybe_commit`**, and only while
handling a `MsgAppendResponse` (after the sender's progress `pr1` has been written back): every other
message type handled by `step_leader` leaves `committed` alone -/
theorem C04_leader_commit_only_by_maybeCommit (r r' : Raft) (m : Message) (e : Option RaftError)
    (h : r.stepLeader m = .ok (r', e)) :
    r'.raftLog.committed = r.raftLog.committed ∨
    (m.msgType = .msgAppendResponse ∧
      ∃ pr1 r2, ({ r with prs := r.prs.set m.frm pr1 } : Raft).maybeCommit = .ok (r2, true) ∧
        r'.raftLog.committed = r2.raftLog.committed) :=
  stepLeader_commit h

/-- the leader's own acknowledged index (`prs[self.id].matched`) -/
def selfMatched (r : Raft) : Option Nat := (selfProgress r).map (·.matched)

/-- **The leader counts itself only for what it has persisted.**  `on_persist_entries(index, term)`
(raft.rs:1060) first asks the log (`RaftLog::maybe_persist`) whether `index` is newly persisted
(`upd`; then `persisted` becomes `index`); only then, and only on a leader, it runs
`maybe_update(index)` on the leader's *own* progress: its `matched` becomes `max(matched, index)`.
Nothing else in the function (the `maybe_commit` and `bcast_append` that follow) touches the
leader's own `matched`.  In particular `matched ≤ persisted` is preserved for the leader itself. -/
theorem C04_self_matched_from_persisted (r r' : Raft) (index term : Nat)
    (h : r.onPersistEntries index term = .ok r') :
    ∃ log upd, r.raftLog.maybePersist index term = .ok (log, upd) ∧ r'.id = r.id ∧
      (upd = true → log.persisted = index ∧ r.raftLog.persisted < index) ∧
      (upd = false → log = r.raftLog) ∧
      selfMatched r' =
        (if upd = true ∧ r.state = .leader then (selfMatched r).map (fun x => max x index)
         else selfMatched r) := by
  have hpers : ∀ {log upd}, r.raftLog.maybePersist index term = .ok (log, upd) →
      (upd = true → log.persisted = index ∧ r.raftLog.persisted < index) ∧
      (upd = false → log = r.raftLog) := by
    intro log upd hp
    rcases RaftLog.maybePersist_inv hp with ⟨h1, h2, h3⟩ | ⟨h1, h2⟩
    · exact ⟨fun _ => ⟨by rw [h2], h3⟩, fun hf => (by rw [h1] at hf; cases hf)⟩
    · exact ⟨fun ht => (by rw [h1] at ht; cases ht), fun _ => h2⟩
  -- the own progress after `maybe_update(index)` is stored
  have stored : ∀ {l : RaftLog} {pr pr' : Progress} {u : Bool}, r.prs.get r.id = some pr →
      pr.maybeUpdate index = .ok (pr', u) →
      selfMatched ({ r with raftLog := l, prs := r.prs.set r.id pr' } : Raft) =
        (selfMatched r).map (fun x => max x index) := by
    intro l pr pr' u hg hu
    rw [Progress.maybeUpdate_eq] at hu
    obtain ⟨-, hu⟩ := Res.of_guard hu
    cases hu
    show ((r.prs.set r.id _).get r.id).map _ = ((r.prs.get r.id).map _).map _
    rw [c04_get_set_self _ _ _ _ hg, hg]; rfl
  cases onPersistEntries_inv h with
  | logOnly hp hl => exact ⟨_, _, hp, rfl, (hpers hp).1, (hpers hp).2, by rw [if_neg hl]; rfl⟩
  | noSelf hp hs hg =>
    refine ⟨_, _, hp, rfl, (hpers hp).1, (hpers hp).2, ?_⟩
    rw [if_pos ⟨rfl, hs⟩]
    show (r.prs.get r.id).map _ = ((r.prs.get r.id).map _).map _
    rw [hg]; rfl
  | kept hp hs hg hu =>
    exact ⟨_, _, hp, rfl, (hpers hp).1, (hpers hp).2, by rw [if_pos ⟨rfl, hs⟩]; exact stored hg hu⟩
  | moved hp hs hg hu hc hb =>
    obtain ⟨i2, m2⟩ := maybeCommit_self hc
    have base := m2.trans (stored hg hu)
    rcases hb with ⟨_, _, hb⟩ | ⟨_, rfl⟩
    · obtain ⟨i3, s3⟩ := bcastAppend_self hb
      refine ⟨_, _, hp, i3.trans i2, (hpers hp).1, (hpers hp).2, ?_⟩
      rw [if_pos ⟨rfl, hs⟩]; unfold selfMatched; rw [s3]; exact base
    · exact ⟨_, _, hp, i2, (hpers hp).1, (hpers hp).2, by rw [if_pos ⟨rfl, hs⟩]; exact base⟩

/-- corollary: `on_persist_entries` keeps the leader's own `matched` at or below the log's
`persisted` index (`log` is the log right after `maybe_persist`; the rest of the function does not
move `persisted`) -/
theorem C04_self_matched_le_persisted (r r' : Raft) (index term x : Nat)
    (h : r.onPersistEntries index term = .ok r') (hx : selfMatched r = some x)
    (hle : x ≤ r.raftLog.persisted) :
    ∃ log upd y, r.raftLog.maybePersist index term = .ok (log, upd) ∧
      selfMatched r' = some y ∧ y ≤ log.persisted := by
  obtain ⟨log, upd, hp, _, h1, h2, hs⟩ := C04_self_matched_from_persisted r r' index term h
  cases upd with
  | true =>
    obtain ⟨e1, e2⟩ := h1 rfl
    by_cases hl : r.state = .leader
    · rw [if_pos ⟨rfl, hl⟩, hx] at hs
      exact ⟨log, true, max x index, hp, hs, by rw [e1]; omega⟩
    · rw [if_neg (fun hc => hl hc.2), hx] at hs
      exact ⟨log, true, x, hp, hs, by rw [e1]; omega⟩
  | false =>
    have e := h2 rfl
    rw [if_neg (fun hc => by cases hc.1), hx] at hs
    exact ⟨log, false, x, hp, hs, by rw [e]; exact hle⟩

/-- `append_entry` (raft.rs:1043; every proposal and the leader's own no-op entry) only appends to
the log: it does **not** raise the leader's own `matched` (nor any other progress, nor the commit
index).  The leader therefore counts towards a commit quorum only through
`on_persist_entries`.  (The two other writers of the own `matched` in the model are `reset` — on
every role change, to `raft_log.persisted` — and `restore` on a follower; a `MsgAppendResponse`
whose `from` is the leader's own id would also be taken at face value by
`handle_append_response`, which is an assumption on the transport, not checked by the code.) -/
theorem C04_appendEntry_keeps_tracker (r r' : Raft) (es : List Entry) (b : Bool)
    (h : r.appendEntry es = .ok (r', b)) :
    r'.prs = r.prs ∧ selfMatched r' = selfMatched r ∧
    r'.raftLog.committed = r.raftLog.committed := by
  obtain ⟨h1, h2, h3, _, _⟩ := appendEntry_spec h
  refine ⟨h2, ?_, h1⟩
  unfold selfMatched selfProgress
  rw [h2, h3]

/-! ## 3. What moves a non-leader's commit index -/

/-- the local evidence a non-leader has checked against its log `l` when message `m` made it move
its commit index to `c'` -/
inductive CommitEvidence (l : RaftLog) (m : Message) (c' : Nat) : Prop
  /-- `handle_append_entries`: the append matched (`maybe_append` returned `Some`: the local entry
  at `m.index` has term `m.log_term`); commit `min(m.commit, m.index + |entries|)` -/
  | append (ht : m.msgType = .msgAppend) (hm : l.matchTerm m.index m.logTerm = .ok true)
      (hc : c' = min m.commit (m.index + m.entries.length))
  /-- `handle_heartbeat`: `commit_to(m.commit)`, which panics beyond the log -/
  | heartbeat (ht : m.msgType = .msgHeartbeat) (hc : c' = m.commit) (hl : m.commit ≤ l.lastIndex)
  /-- `handle_snapshot` / `restore`: to the snapshot index (see `C04_restore_commit`) -/
  | snapshot (ht : m.msgType = .msgSnapshot) (hc : c' = m.snapshot.metadata.index)
  /-- `maybe_commit_by_vote` (a vote request we reject, or a vote response): only when the local
  entry at `m.commit` has term `m.commit_term` -/
  | byVote (ht : isVoteMsg m.msgType = true) (hz : m.commitTerm ≠ 0)
      (hterm : l.term m.commit = .ok m.commitTerm) (hc : c' = m.commit) (hl : m.commit ≤ l.lastIndex)
  /-- `MsgReadIndexResp`: `maybe_commit(m.index, m.term)` -/
  | readIndexResp (ht : m.msgType = .msgReadIndexResp) (hterm : l.term m.index = .ok m.term)
      (hc : c' = m.index) (hl : m.index ≤ l.lastIndex)

/-- the evidence does not depend on `max_apply_unpersisted_log_limit` (which `become_follower`
resets) -/
theorem CommitEvidence.of_limit {l : RaftLog} {n : Nat} {m : Message} {c' : Nat}
    (h : CommitEvidence ({ l with maxApplyUnpersistedLogLimit := n } : RaftLog) m c') :
    CommitEvidence l m c' := by
  obtain ⟨h1, h2, h3⟩ := c04_log_limit_irrelevant l n
  cases h with
  | append ht hm hc => exact .append ht (by rw [← h2]; exact hm) hc
  | heartbeat ht hc hl => exact .heartbeat ht hc (by rw [← h3]; exact hl)
  | snapshot ht hc => exact .snapshot ht hc
  | byVote ht hz hterm hc hl => exact .byVote ht hz (by rw [← h1]; exact hterm) hc (by rw [← h3]; exact hl)
  | readIndexResp ht hterm hc hl =>
    exact .readIndexResp ht (by rw [← h1]; exact hterm) hc (by rw [← h3]; exact hl)

/-- `Raft::restore` (raft.rs:2640) and the commit index: unchanged, or — on a follower, for a
snapshot not below the commit index — moved to the snapshot index, either by the fast-forward
`commit_to` (result `false`; the log already holds an entry with the snapshot's index and term) or
by the full log restore (result `true`) -/
theorem C04_restore_commit (r r' : Raft) (snap : Snapshot) (b : Bool)
    (h : r.restore snap = .ok (r', b)) :
    (b = false ∧ r'.raftLog.committed = r.raftLog.committed) ∨
    (r.state = .follower ∧ r.raftLog.committed ≤ snap.metadata.index ∧
      r'.raftLog.committed = snap.metadata.index ∧
      (b = false → r.raftLog.matchTerm snap.metadata.index snap.metadata.term = .ok true ∧
        snap.metadata.index ≤ r.raftLog.lastIndex)) :=
  restore_spec h

theorem c04_handleSnapshot_source {r r' : Raft} {m : Message} (hm : m.msgType = .msgSnapshot)
    (h : r.handleSnapshot m = .ok r') :
    r'.raftLog.committed = r.raftLog.committed ∨
    (r.raftLog.committed < r'.raftLog.committed ∧
      CommitEvidence r.raftLog m r'.raftLog.committed) := by
  obtain ⟨r1, b, hr, e⟩ := handleSnapshot_committed h
  rcases restore_spec hr with ⟨_, e1⟩ | ⟨_, hle, e1, _⟩
  · exact Or.inl (e.trans e1)
  · by_cases hlt : r.raftLog.committed < m.snapshot.metadata.index
    · exact Or.inr ⟨by rw [e, e1]; exact hlt, .snapshot hm (e.trans e1)⟩
    · left; rw [e, e1]; omega

theorem c04_handleAppendEntries_source {r r' : Raft} {m : Message} (hm : m.msgType = .msgAppend)
    (h : r.handleAppendEntries m = .ok r') :
    r'.raftLog.committed = r.raftLog.committed ∨
    (r.raftLog.committed < r'.raftLog.committed ∧
      CommitEvidence r.raftLog m r'.raftLog.committed) := by
  rcases handleAppendEntries_spec h with e | ⟨_, _, hmt, hlt, hc⟩
  · exact Or.inl e
  · exact Or.inr ⟨hlt, .append hm hmt hc⟩

theorem c04_handleHeartbeat_source {r r' : Raft} {m : Message} (hm : m.msgType = .msgHeartbeat)
    (h : r.handleHeartbeat m = .ok r') :
    r'.raftLog.committed = r.raftLog.committed ∨
    (r.raftLog.committed < r'.raftLog.committed ∧
      CommitEvidence r.raftLog m r'.raftLog.committed) := by
  obtain ⟨e, hl⟩ := handleHeartbeat_spec h
  by_cases hlt : r.raftLog.committed < m.commit
  · have e' : r'.raftLog.committed = m.commit := by rw [e]; exact Nat.max_eq_right (by omega)
    exact Or.inr ⟨by rw [e']; exact hlt, .heartbeat hm e' (hl hlt)⟩
  · left; rw [e]; exact Nat.max_eq_left (by omega)

theorem c04_maybeCommitByVote_source {r r' : Raft} {m : Message} (hm : isVoteMsg m.msgType = true)
    (h : r.maybeCommitByVote m = .ok r') :
    r'.raftLog.committed = r.raftLog.committed ∨
    (r.raftLog.committed < r'.raftLog.committed ∧ r.state ≠ .leader ∧
      CommitEvidence r.raftLog m r'.raftLog.committed) := by
  rcases maybeCommitByVote_spec h with e | ⟨hs, hz, hlt, hl, hterm, e⟩
  · exact Or.inl e
  · exact Or.inr ⟨by rw [e]; exact hlt, hs, .byVote hm hz hterm e hl⟩

/-- **`step_follower` (raft.rs:2377): the complete list of what moves a follower's commit index.**
Either `committed` is unchanged, or it strictly grew and the message is a `MsgAppend`,
`MsgHeartbeat`, `MsgSnapshot` or `MsgReadIndexResp` carrying the corresponding evidence (checked
against the follower's own log).  Every other message type (`MsgPropose`, `MsgTransferLeader`,
`MsgTimeoutNow` — which may start a whole campaign —, `MsgReadIndex`, …) leaves it alone. -/
theorem C04_follower_commit_sources (r r' : Raft) (m : Message) (e : Option RaftError)
    (h : r.stepFollower m = .ok (r', e)) :
    r'.raftLog.committed = r.raftLog.committed ∨
    (r.raftLog.committed < r'.raftLog.committed ∧
      CommitEvidence r.raftLog m r'.raftLog.committed) := by
  cases stepFollower_inv h with
  | dropped | ignored => exact .inl rfl
  | forwarded _ _ hs => exact .inl (send_cp (P := (· = r.raftLog.committed)) hs ⟨rfl⟩).h
  | append hm h1 => have hh := c04_handleAppendEntries_source hm h1; exact hh
  | heartbeat hm h1 => have hh := c04_handleHeartbeat_source hm h1; exact hh
  | snapshot hm h1 => have hh := c04_handleSnapshot_source hm h1; exact hh
  | timeoutNow _ _ hh => exact .inl (hup_cp (P := (· = r.raftLog.committed)) hh ⟨rfl⟩).h
  | readIndexResp hm _ hmc =>
    rcases RaftLog.c04_maybeCommit_spec hmc with ⟨_, h1, h2, h3, rfl⟩ | ⟨_, rfl⟩
    · exact .inr ⟨h1, .readIndexResp hm h3 rfl h2⟩
    · exact .inl rfl

/-- on a follower, a message of any other type never changes the commit index -/
theorem C04_follower_other_messages_keep_commit (r r' : Raft) (m : Message) (e : Option RaftError)
    (h : r.stepFollower m = .ok (r', e))
    (hm : m.msgType ≠ .msgAppend ∧ m.msgType ≠ .msgHeartbeat ∧ m.msgType ≠ .msgSnapshot ∧
      m.msgType ≠ .msgReadIndexResp) :
    r'.raftLog.committed = r.raftLog.committed := by
  rcases C04_follower_commit_sources r r' m e h with h1 | ⟨_, ev⟩
  · exact h1
  · cases ev with
    | append ht _ _ => exact absurd ht hm.1
    | heartbeat ht _ _ => exact absurd ht hm.2.1
    | snapshot ht _ => exact absurd ht hm.2.2.1
    | byVote ht _ _ _ _ =>
      -- a follower hands no vote message to `maybe_commit_by_vote`
      cases stepFollower_inv h with
      | dropped ty | append ty | heartbeat ty | snapshot ty | timeoutNow ty | readIndexResp ty =>
        rw [ty] at ht <;> cases ht
      | forwarded ty => rcases ty with ty | ty | ty <;> rw [ty] at ht <;> cases ht
      | ignored => exact rfl
    | readIndexResp ht _ _ _ => exact absurd ht hm.2.2.2

/-- **`step_candidate` (raft.rs:2320), candidates and pre-candidates.**  Either `committed` is
unchanged, or it strictly grew and
* the message is a `MsgAppend` / `MsgHeartbeat` / `MsgSnapshot` of the candidate's own term (it
  becomes a follower first) with the evidence checked against the candidate's log, or
* it is a vote response: after `poll` (state `r1`, same commit index) the node is not a leader and
  `maybe_commit_by_vote` found `term(m.commit) = m.commit_term` in its log.
No other message type changes the commit index. -/
theorem C04_candidate_commit_sources (r r' : Raft) (m : Message) (e : Option RaftError)
    (h : r.stepCandidate m = .ok (r', e)) :
    r'.raftLog.committed = r.raftLog.committed ∨
    (r.raftLog.committed < r'.raftLog.committed ∧
      (CommitEvidence r.raftLog m r'.raftLog.committed ∨
       ∃ r1 res, r.poll m.frm m.msgType (!m.reject) = .ok (r1, res) ∧
         r1.raftLog.committed = r.raftLog.committed ∧ r1.state ≠ .leader ∧
         CommitEvidence r1.raftLog m r'.raftLog.committed)) := by
  have hbf : ∀ t l, (r.becomeFollower t l).raftLog.committed = r.raftLog.committed :=
    becomeFollower_committed r
  have lift : ∀ (r0 : Raft) (t l : Nat), r0 = r.becomeFollower t l →
      (r'.raftLog.committed = r0.raftLog.committed ∨
        (r0.raftLog.committed < r'.raftLog.committed ∧
          CommitEvidence r0.raftLog m r'.raftLog.committed)) →
      r'.raftLog.committed = r.raftLog.committed ∨
      (r.raftLog.committed < r'.raftLog.committed ∧
        (CommitEvidence r.raftLog m r'.raftLog.committed ∨
         ∃ r1 res, r.poll m.frm m.msgType (!m.reject) = .ok (r1, res) ∧
           r1.raftLog.committed = r.raftLog.committed ∧ r1.state ≠ .leader ∧
           CommitEvidence r1.raftLog m r'.raftLog.committed)) := by
    intro r0 t l hr0 hh
    subst hr0
    rcases hh with e1 | ⟨hlt, ev⟩
    · exact Or.inl (e1.trans (hbf t l))
    · rw [hbf t l] at hlt
      rw [becomeFollower_raftLog] at ev
      exact Or.inr ⟨hlt, Or.inl ev.of_limit⟩
  cases stepCandidate_inv h with
  | dropped | ignored => exact .inl rfl
  | append hm _ h1 => exact lift _ _ _ rfl (c04_handleAppendEntries_source hm h1)
  | heartbeat hm _ h1 => exact lift _ _ _ rfl (c04_handleHeartbeat_source hm h1)
  | snapshot hm _ h1 => exact lift _ _ _ rfl (c04_handleSnapshot_source hm h1)
  | @polled r1 res _ hm _ _ hp hc =>
    have e1 : r1.raftLog.committed = r.raftLog.committed :=
      (poll_cp (P := fun x => x = r.raftLog.committed) hp ⟨rfl⟩).h
    have hv : isVoteMsg m.msgType = true := by rcases hm with hm | hm <;> rw [hm] <;> rfl
    rcases c04_maybeCommitByVote_source hv hc with e2 | ⟨hlt, hs, ev⟩
    · exact .inl (e2.trans e1)
    · exact .inr ⟨by rw [← e1]; exact hlt, .inr ⟨r1, res, hp, e1, hs, ev⟩⟩

/-- **the vote arm of `step`** (`MsgRequestVote` / `MsgRequestPreVote`, any role): granting a vote
never changes the commit index; rejecting one runs `maybe_commit_by_vote` on the request's commit
point -/
theorem C04_vote_request_commit_source (r r' : Raft) (m : Message) (h : r.stepVote m = .ok r') :
    r'.raftLog.committed = r.raftLog.committed ∨
    (r.raftLog.committed < r'.raftLog.committed ∧ r.state ≠ .leader ∧
      CommitEvidence r.raftLog m r'.raftLog.committed) := by
  cases stepVote_inv h with
  | granted _ _ hs =>
    have e1 := send_eq r _ _ hs
    left
    split <;> rw [e1]
  | @refused t c ct r1 _ hty _ _ hs hb =>
    have hv : isVoteMsg m.msgType = true := by
      unfold voteRespMsgType at hty
      split at hty
      · rename_i hm; rw [hm]; rfl
      · rename_i hm; rw [hm]; rfl
      · cases hty
    have e1 := send_eq r r1 _ hs
    split at hb
    · rcases c04_maybeCommitByVote_source hv hb with e2 | ⟨hlt, hst, ev⟩
      · left; rw [e2, e1]
      · right
        rw [e1] at hlt hst ev
        exact ⟨hlt, hst, ev⟩
    · cases hb; left; rw [e1]

/-- **`Raft::step`, all roles: why the commit index moved.**  If `step` changed `committed`, it grew,
and there is an intermediate state `r1` of the same step (after the term preamble — which may have
turned the node into a follower of the sender's term — and, for vote responses, after `poll`) with
the *same commit index as before the step* such that
* `r1` is the leader, the message is a `MsgAppendResponse`, and `maybe_commit` (the leader's commit
  rule, `C04_leader_commit_rule`) returned `true` on `r1` with the sender's progress updated; or
* `r1` is not a leader and the message carries `CommitEvidence` checked against `r1`'s log. -/
theorem C04_step_commit_sources (r r' : Raft) (m : Message) (e : Option RaftError)
    (h : r.step m = .ok (r', e)) :
    r'.raftLog.committed = r.raftLog.committed ∨
    (r.raftLog.committed < r'.raftLog.committed ∧
      ∃ r1 : Raft, r1.raftLog.committed = r.raftLog.committed ∧
        ((r1.state = .leader ∧ m.msgType = .msgAppendResponse ∧
            ∃ pr1 r2, ({ r1 with prs := r1.prs.set m.frm pr1 } : Raft).maybeCommit = .ok (r2, true) ∧
              r'.raftLog.committed = r2.raftLog.committed) ∨
         (r1.state ≠ .leader ∧ CommitEvidence r1.raftLog m r'.raftLog.committed))) := by
  have hmono := C04_commit_monotone_step r r' m e h
  by_cases hch : r'.raftLog.committed = r.raftLog.committed
  · exact Or.inl hch
  right
  refine ⟨by omega, ?_⟩
  cases step_inv h with
  | consumed hst =>
    exact absurd (stepTerm_cp (P := fun x => x = r.raftLog.committed) hst ⟨rfl⟩).h hch
  | dispatched hst hd =>
    rename_i r0
    have e0 : r0.raftLog.committed = r.raftLog.committed :=
      (stepTerm_cp (P := fun x => x = r.raftLog.committed) hst ⟨rfl⟩).h
    have nochange : r'.raftLog.committed = r0.raftLog.committed → False :=
      fun hh => hch (hh.trans e0)
    cases hd with
    | hup _ h2 =>
      exact absurd (hup_cp (P := fun x => x = r0.raftLog.committed) h2 ⟨rfl⟩).h nochange
    | vote _ hv =>
      rcases C04_vote_request_commit_source r0 _ m hv with e2 | ⟨_, hs, ev⟩
      · exact absurd e2 nochange
      · exact ⟨r0, e0, Or.inr ⟨hs, ev⟩⟩
    | candidate _ hs hc =>
      have hs : r0.state ≠ .leader := by rcases hs with hs | hs <;> rw [hs] <;> simp
      rcases C04_candidate_commit_sources r0 r' m e hc with e2 | ⟨_, ev | ⟨r1, res, _, e1, hs1, ev⟩⟩
      · exact absurd e2 nochange
      · exact ⟨r0, e0, Or.inr ⟨hs, ev⟩⟩
      · exact ⟨r1, e1.trans e0, Or.inr ⟨hs1, ev⟩⟩
    | follower _ hs hf =>
      rcases C04_follower_commit_sources r0 r' m e hf with e2 | ⟨_, ev⟩
      · exact absurd e2 nochange
      · exact ⟨r0, e0, Or.inr ⟨by rw [hs]; simp, ev⟩⟩
    | leader _ hs hl =>
      rcases stepLeader_commit hl with e2 | ⟨hm, hh⟩
      · exact absurd e2 nochange
      · exact ⟨r0, e0, Or.inl ⟨hs, hm, hh⟩⟩

/-! ## 4. The heartbeat's commit field -/

/-- `send_heartbeat` (raft.rs:855) queues exactly one `MsgHeartbeat` to `dst`, whose `commit` is
`min(matched(dst), committed)`: the leader never tells a follower to commit beyond what that
follower has acknowledged -/
theorem C04_heartbeat_commit_bounded (r r' : Raft) (dst : Nat) (pr : Progress) (ctx : Option Bytes)
    (h : r.sendHeartbeat dst pr ctx = .ok r') :
    ∃ hb, r'.msgs = r.msgs ++ [hb] ∧ hb.msgType = .msgHeartbeat ∧ hb.to = dst ∧
      hb.commit = min pr.matched r.raftLog.committed ∧ hb.term = r.term ∧
      hb.commit ≤ pr.matched ∧ hb.commit ≤ r.raftLog.committed := by
  unfold Raft.sendHeartbeat at h
  have e := send_eq r r' _ h
  let c0 : Nat := min pr.matched r.raftLog.committed
  let hb0 : Message := { msgType := MsgType.msgHeartbeat, to := dst, commit := c0, context := ctx.getD [] }
  refine ⟨r.sendFill hb0, by rw [e], ?_⟩
  have hf : r.sendFill hb0 = { hb0 with frm := r.id, term := r.term } := by
    simp [Raft.sendFill, isVoteMsg, hb0]
  rw [hf]
  exact ⟨rfl, rfl, rfl, rfl, Nat.min_le_left _ _, Nat.min_le_right _ _⟩

/-- … and a follower that obeys such a heartbeat (`handle_heartbeat`) ends with
`committed = max(old, m.commit)`: it never commits beyond `max(old, matched)` -/
theorem C04_heartbeat_obeyed_bounded (f f' : Raft) (hb : Message) (matched lc : Nat)
    (hc : hb.commit = min matched lc) (h : f.handleHeartbeat hb = .ok f') :
    f'.raftLog.committed = max f.raftLog.committed hb.commit ∧
    f'.raftLog.committed ≤ max f.raftLog.committed matched ∧
    f'.raftLog.committed ≤ max f.raftLog.committed lc := by
  obtain ⟨e, _⟩ := handleHeartbeat_spec h
  refine ⟨e, ?_, ?_⟩ <;> rw [e, hc] <;> omega

/-! ## 5. Non-vacuity: concrete states and messages, evaluated by `decide` -/

/-- three entries of term 2, the first one committed, nothing persisted yet -/
def exLog : RaftLog :=
  { store := {}, unstable := { entries := [{ term := 2, index := 1 }, { term := 2, index := 2 },
                                           { term := 2, index := 3 }], offset := 1 },
    committed := 1, persisted := 0, applied := 0, maxApplyUnpersistedLogLimit := 0 }

def exPrs : ProgressTracker :=
  { conf := { incoming := [1, 2, 3] },
    progress := [(1, { matched := 3, nextIdx := 4, state := .replicate }),
                 (2, { matched := 2, nextIdx := 3, state := .replicate }),
                 (3, { matched := 0, nextIdx := 1 })] }

/-- leader 1 of term 2: itself at 3, peer 2 at 2, peer 3 at 0 -/
def exLeader : Raft := { raftLog := exLog, id := 1, term := 2, state := .leader, prs := exPrs }

/-- the commit index after a computation -/
def committedAfter {α : Type} (f : α → Raft) (x : Res α) : Res Nat :=
  x.bind (fun a => .ok (f a).raftLog.committed)

-- (2) `maybe_commit` fires: index 2 is acknowledged by {1, 2} and carries the current term 2
example : exLeader.prs.maximalCommittedIndex = .ok (2, false) := by decide +kernel
example : exLeader.maybeCommit.bind (fun p => .ok (p.2, p.1.raftLog.committed)) = .ok (true, 2) := by
  decide +kernel
example : exLeader.raftLog.term 2 = .ok exLeader.term ∧ exLeader.raftLog.committed < 2 := by decide +kernel
-- the same acknowledgements in term 3: the entry at 2 is from term 2, nothing is committed
example : ({ exLeader with term := 3 } : Raft).maybeCommit.bind
    (fun p => .ok (p.2, p.1.raftLog.committed)) = .ok (false, 1) := by decide +kernel
-- an append response from peer 3 acknowledging index 3 lets the leader commit 3 (through `step`)
example : committedAfter (·.1) (exLeader.step
    { msgType := .msgAppendResponse, frm := 3, term := 2, index := 3 }) = .ok 3 := by decide +kernel
-- a heartbeat response does not
example : committedAfter (·.1) (exLeader.step
    { msgType := .msgHeartbeatResponse, frm := 3, term := 2, commit := 3 }) = .ok 1 := by decide +kernel

def exFollower : Raft :=
  { raftLog := exLog, id := 3, term := 2, state := .follower, leaderId := 1, prs := exPrs }
def exCandidate : Raft :=
  { raftLog := exLog, id := 3, term := 2, state := .candidate, vote := 3,
    prs := { exPrs with votes := [(3, true)] } }

-- (3) each source, and the same message with the evidence missing
example : committedAfter (·.1) (exFollower.stepFollower
    { msgType := .msgAppend, frm := 1, term := 2, index := 3, logTerm := 2, commit := 2 }) = .ok 2 := by
  decide +kernel
example : committedAfter (·.1) (exFollower.stepFollower
    { msgType := .msgAppend, frm := 1, term := 2, index := 3, logTerm := 1, commit := 2 }) = .ok 1 := by
  decide +kernel
example : committedAfter (·.1) (exFollower.stepFollower
    { msgType := .msgHeartbeat, frm := 1, term := 2, commit := 3 }) = .ok 3 := by decide +kernel
example : committedAfter (·.1) (exFollower.stepFollower
    { msgType := .msgReadIndexResp, frm := 1, term := 2, index := 2, entries := [{}] }) = .ok 2 := by
  decide +kernel
example : committedAfter (·.1) (exFollower.stepFollower
    { msgType := .msgReadIndexResp, frm := 1, term := 1, index := 2, entries := [{}] }) = .ok 1 := by
  decide +kernel
example : committedAfter (·.1) (exFollower.stepFollower
    { msgType := .msgSnapshot, frm := 1, term := 2,
      snapshot := { metadata := { index := 3, term := 2, confState := { voters := [1, 2, 3] } } } })
    = .ok 3 := by decide +kernel
example : committedAfter (·.1) (exFollower.stepFollower
    { msgType := .msgTimeoutNow, frm := 1, term := 2 }) = .ok 1 := by decide +kernel
example : committedAfter (·.1) (exCandidate.stepCandidate
    { msgType := .msgRequestVoteResponse, frm := 1, term := 2, reject := true, commit := 2,
      commitTerm := 2 }) = .ok 2 := by decide +kernel
example : committedAfter (·.1) (exCandidate.stepCandidate
    { msgType := .msgRequestVoteResponse, frm := 1, term := 2, reject := true, commit := 2,
      commitTerm := 1 }) = .ok 1 := by decide +kernel
-- a rejected vote request carries the commit point of the requester
example : committedAfter id (exFollower.stepVote
    { msgType := .msgRequestVote, frm := 2, term := 2, index := 0, logTerm := 0, commit := 2,
      commitTerm := 2 }) = .ok 2 := by decide +kernel

-- (4) the heartbeat to peer 3 (matched 0) carries commit 0, the one to peer 2 (matched 2) carries 1
example : (exLeader.sendHeartbeat 3 { matched := 0 } none).bind (fun r => .ok (r.msgs.map (·.commit)))
    = .ok [0] := by decide +kernel
example : (exLeader.sendHeartbeat 2 { matched := 2 } none).bind (fun r => .ok (r.msgs.map (·.commit)))
    = .ok [1] := by decide +kernel

-- (2b) a leader whose three entries are in stable storage, `persisted = 1`, own `matched = 1`:
-- persisting index 3 (term 2) raises `persisted` and the own `matched` to 3, and index 2 (now
-- acknowledged by {1, 2}) is committed; the same call with the wrong term changes nothing
def exLogStable : RaftLog :=
  { store := { entries := [{ term := 2, index := 1 }, { term := 2, index := 2 },
                           { term := 2, index := 3 }] },
    unstable := { offset := 4 }, committed := 1, persisted := 1, applied := 0,
    maxApplyUnpersistedLogLimit := 0 }
def exLeaderS : Raft :=
  { exLeader with raftLog := exLogStable,
                  prs := { exPrs with progress :=
                    [(1, { matched := 1, nextIdx := 4, state := .replicate }),
                     (2, { matched := 2, nextIdx := 3, state := .replicate }),
                     (3, { matched := 0, nextIdx := 1 })] } }
example : selfMatched exLeaderS = some 1 := by decide +kernel
example : (exLeaderS.onPersistEntries 3 2).bind
    (fun r => .ok (selfMatched r, r.raftLog.persisted, r.raftLog.committed)) = .ok (some 3, 3, 2) := by
  decide +kernel
example : (exLeaderS.onPersistEntries 3 1).bind
    (fun r => .ok (selfMatched r, r.raftLog.persisted, r.raftLog.committed)) = .ok (some 1, 1, 1) := by
  decide +kernel
-- a proposal appends an entry and leaves the own `matched` (and the commit index) alone
example : (exLeaderS.appendEntry [{}]).bind
    (fun p => .ok (p.2, selfMatched p.1, p.1.raftLog.lastIndex, p.1.raftLog.committed))
    = .ok (true, some 1, 4, 1) := by decide +kernel

end RaftProps.C04
