import RaftProofs.RaftLogStore
import RaftProofs.RaftGuards

/-!
# C14 — `RaftLog` behaves as one logical log over storage + unstable + pending snapshot

Property theorems only (helper lemmas: `RaftProofs/RaftLog.lean`; the step relation `LogStep` of
the logical log: `RaftProofs/RaftLogStore.lean`).  The model
`RaftModel.RaftLog` / `RaftModel.Unstable` mirrors `src/raft_log.rs` / `src/log_unstable.rs`
function by function over the `MemStorage` model; `RaftModel.LLog` is the plain sequence model and
`RaftLog.abs` the logical log a state represents.

What is proved here, for every state satisfying the representation invariant `RaftLogInv` and every
argument value: the queries `first_index, last_index, term, last_term, match_term, find_conflict,
find_conflict_by_term, is_up_to_date, commit_info` answer exactly like the sequence model; the three
cases of `truncate_and_append`; `append` and `maybe_append` as operations on the sequence model
(with the panic cases); preservation of the invariant and immutability of the committed prefix by
`append, maybe_append, commit_to, maybe_persist, applied_to, restore`, lifted to all operation
sequences (`C14_step` is `LogStep` per operation, `C14_run` its transitivity).  Stated at the end as
`…_full_statement` and settled in `RaftProps/C14b.lean`: the size-limited reads against the sequence
model (`entries`, `next_entries_since` hold as stated; `slice` up to the name of the panic site) and
invariant preservation by the storage-side steps (false as stated in each clause, proved with one
added hypothesis per clause).
-/
namespace RaftProps.C14
open RaftModel

/-- the representation invariant (see `RaftModel.RaftLog.Inv` for the clauses): conforming storage
(contiguous, snapshot point below), contiguous unstable entries with the right byte count,
`store.first ≤ offset ≤ store.last+1` (or `offset = snapshot.index+1` with a pending snapshot),
`first-1 ≤ committed ≤ last`, `persisted < offset`, `persisted ≤ store.last`. -/
abbrev RaftLogInv (l : RaftLog) : Prop := l.Inv

/-- `RaftLog::new` over any conforming storage establishes the invariant and `applied ≤ committed` -/
theorem C14_new_inv (st : MemStorage) (h : st.WF) (limit : Nat) :
    ∃ l, RaftLog.new st limit = .ok l ∧ RaftLogInv l ∧ l.AppliedOk ∧ l.store = st :=
  RaftLog.Inv.new h limit

/-! ### queries agree with the sequence model -/

theorem C14_firstIndex_spec (l : RaftLog) (h : RaftLogInv l) : l.firstIndex = l.abs.firstIndex :=
  h.firstIndex_abs

theorem C14_lastIndex_spec (l : RaftLog) (h : RaftLogInv l) : l.lastIndex = l.abs.lastIndex :=
  h.lastIndex_abs

/-- `term(i)` for every `i`: 0 outside `[first-1, last]`, the snapshot term (or `Compacted` once
`MemStorage` forgot it) at `first-1`, the entry's term inside; in particular it never panics -/
theorem C14_term_spec (l : RaftLog) (h : RaftLogInv l) (i : Nat) : l.term i = l.abs.term i :=
  h.term_abs i

theorem C14_lastTerm_spec (l : RaftLog) (h : RaftLogInv l) : l.lastTerm = l.abs.lastTerm :=
  h.lastTerm_abs

theorem C14_matchTerm_spec (l : RaftLog) (h : RaftLogInv l) (i t : Nat) :
    l.matchTerm i t = .ok (l.abs.matchTerm i t) := h.matchTerm_abs i t

theorem C14_findConflict_spec (l : RaftLog) (h : RaftLogInv l) (ents : List Entry) :
    l.findConflict ents = .ok (l.abs.findConflict ents) := h.findConflict_abs ents

/-- the meaning of the sequence model's `findConflict` on a contiguous batch: 0 iff every entry is
in the log, otherwise the index of the first entry that is not -/
theorem C14_findConflict_meaning (g : LLog) (start : Nat) (ents : List Entry)
    (hc : ContigFrom start ents) :
    (g.findConflict ents = 0 ∧ ∀ e ∈ ents, g.matchTerm e.index e.term = true) ∨
    (∃ k, k < ents.length ∧ g.findConflict ents = start + k ∧
      ∀ e ∈ ents.take k, g.matchTerm e.index e.term = true) :=
  g.findConflict_char ents start hc

/-- `find_conflict_by_term(index, term)`; `hz` says that position 0 (if it is the dummy position)
does not carry a term above `term` — position 0 carries term 0 in every real log; without it the
code would compute `0 - 1` -/
theorem C14_findConflictByTerm_spec (l : RaftLog) (h : RaftLogInv l) (index term : Nat)
    (hz : ∀ t0, l.abs.term 0 = .ok t0 → t0 ≤ term) :
    l.findConflictByTerm index term =
      .ok (if l.abs.lastIndex < index then (index, none)
           else l.abs.findConflictByTerm term index) := by
  unfold RaftLog.findConflictByTerm
  rw [h.lastIndex_abs]
  split
  · rfl
  · exact h.fcbtLoop_abs term hz index

theorem C14_isUpToDate_spec (l : RaftLog) (h : RaftLogInv l) (lastIndex term : Nat) :
    l.isUpToDate lastIndex term = l.abs.isUpToDate lastIndex term := h.isUpToDate_abs lastIndex term

theorem C14_commitInfo_spec (l : RaftLog) (h : RaftLogInv l) :
    l.commitInfo = match l.abs.term l.committed with
      | .ok t => .ok (l.committed, t)
      | _ => .panic "raft_log.commit_info.missing" := h.commitInfo_abs

/-! ### `truncate_and_append`, `append`, `maybe_append` -/

/-- the three-way split of `Unstable::truncate_and_append` (plus: a gap panics) -/
theorem C14_truncateAndAppend_spec (u : Unstable) (h : u.WF) (e0 : Entry) (es : List Entry) :
    (e0.index = u.offset + u.entries.length →
      u.truncateAndAppend (e0 :: es) = .ok { u with
        entries := u.entries ++ (e0 :: es),
        entriesSize := approxSize (u.entries ++ e0 :: es) }) ∧
    (e0.index ≤ u.offset → e0.index ≠ u.offset + u.entries.length →
      u.truncateAndAppend (e0 :: es) = .ok { u with
        offset := e0.index, entries := (e0 :: es),
        entriesSize := approxSize (e0 :: es) }) ∧
    (u.offset < e0.index → e0.index < u.offset + u.entries.length →
      u.truncateAndAppend (e0 :: es) = .ok { u with
        entries := u.entries.take (e0.index - u.offset) ++ e0 :: es,
        entriesSize := approxSize (u.entries.take (e0.index - u.offset) ++ e0 :: es) }) ∧
    (u.offset + u.entries.length < e0.index →
      ∃ s, u.truncateAndAppend (e0 :: es) = .panic s) :=
  h.truncateAndAppend e0 es

/-- `append` of a contiguous batch starting above the commit index and without a gap: the logical
log is truncated after `first_new - 1` and extended; cursors and storage untouched; the invariant
is kept when the batch also starts above `persisted` (what `append`'s only caller guarantees:
it appends at `last_index + 1`) -/
theorem C14_append_spec (l : RaftLog) (h : RaftLogInv l) (e0 : Entry) (es : List Entry)
    (hc : ContigFrom e0.index (e0 :: es))
    (h1 : l.committed < e0.index) (h2 : e0.index ≤ l.lastIndex + 1) :
    ∃ l', l.append (e0 :: es) = .ok (l', e0.index + es.length) ∧
      l'.lastIndex = e0.index + es.length ∧
      l'.abs = l.abs.truncateAppend (e0.index - 1) (e0 :: es) ∧
      l'.store = l.store ∧ l'.committed = l.committed ∧ l'.persisted = l.persisted ∧
      l'.applied = l.applied ∧ (l.persisted < e0.index → RaftLogInv l') := by
  obtain ⟨l', a, b, c, d, e, f, g, _, _, i⟩ := h.append e0 es hc h1 h2
  exact ⟨l', a, b, c, d, e, f, g, fun hp => by
    have := i l.persisted (Nat.le_refl _) hp
    rw [← f] at this; exact this⟩

/-- `append` below or at the commit index is the documented panic -/
theorem C14_append_below_commit_panics (l : RaftLog) (e0 : Entry) (es : List Entry)
    (h1 : e0.index ≤ l.committed) : ∃ s, l.append (e0 :: es) = .panic s := by
  unfold RaftLog.append
  simp only []
  by_cases h0 : e0.index = 0
  · rw [if_pos h0]; exact ⟨_, rfl⟩
  · rw [if_neg h0, if_pos (by omega)]; exact ⟨_, rfl⟩

/-- **`maybe_append`**, for a contiguous batch following `idx ≤ last_index` whose entries carry
non-zero terms.  With `conflict := abs.findConflict ents`:
* `(idx, term)` not in the log → `None`, nothing changes;
* no conflict → log unchanged, only `committed` advances to `max committed (min leaderCommit lastNew)`;
* `0 < conflict ≤ committed` → panic (and only then);
* otherwise `abs' = take (conflict-1) abs ++ suffix`, `persisted' = min persisted (conflict-1)`,
  `last_index' = lastNew`, the invariant is kept. -/
theorem C14_maybeAppend_spec (l : RaftLog) (h : RaftLogInv l) (idx term committed : Nat)
    (ents : List Entry) (hc : ContigFrom (idx + 1) ents) (hidx : idx ≤ l.lastIndex)
    (hterms : ∀ e ∈ ents, e.term ≠ 0) :
    (l.abs.matchTerm idx term = false → l.maybeAppend idx term committed ents = .ok (l, none)) ∧
    (l.abs.matchTerm idx term = true →
      (l.abs.findConflict ents = 0 →
        l.maybeAppend idx term committed ents =
          .ok ({ l with committed := max l.committed (min committed (idx + ents.length)) },
               some (0, idx + ents.length)) ∧
        RaftLogInv { l with committed := max l.committed (min committed (idx + ents.length)) }) ∧
      (0 < l.abs.findConflict ents → l.abs.findConflict ents ≤ l.committed →
        ∃ s, l.maybeAppend idx term committed ents = .panic s) ∧
      (l.committed < l.abs.findConflict ents →
        ∃ l', l.maybeAppend idx term committed ents =
            .ok (l', some (l.abs.findConflict ents, idx + ents.length)) ∧
          l'.abs = l.abs.truncateAppend (l.abs.findConflict ents - 1)
            (ents.drop (l.abs.findConflict ents - (idx + 1))) ∧
          l'.persisted = min l.persisted (l.abs.findConflict ents - 1) ∧
          l'.committed = max l.committed (min committed (idx + ents.length)) ∧
          l'.applied = l.applied ∧ l'.lastIndex = idx + ents.length ∧ RaftLogInv l')) :=
  ⟨h.maybeAppend_nomatch idx term committed ents, fun hm =>
    ⟨h.maybeAppend_noconflict idx term committed ents hc hidx hterms hm,
     h.maybeAppend_panics idx term committed ents hm,
     h.maybeAppend_conflict idx term committed ents hc hidx hterms hm⟩⟩

/-! ### cursor operations -/

theorem C14_commitTo_spec (l : RaftLog) (h : RaftLogInv l) (to : Nat) :
    (to ≤ l.lastIndex → l.commitTo to = .ok { l with committed := max l.committed to } ∧
      RaftLogInv { l with committed := max l.committed to }) ∧
    (l.committed < to → l.lastIndex < to → ∃ s, l.commitTo to = .panic s) :=
  ⟨h.commitTo to, RaftLog.commitTo_panics l to⟩

/-- a persistence notice never moves `persisted` past what the storage holds with that term, never
moves it backwards, and keeps the invariant (`persisted < unstable.offset`, `≤ storage last`) -/
theorem C14_maybePersist_spec (l : RaftLog) (h : RaftLogInv l) (index term : Nat) :
    ∃ l' b, l.maybePersist index term = .ok (l', b) ∧ RaftLogInv l' ∧ l'.abs = l.abs ∧
      l'.committed = l.committed ∧ l'.applied = l.applied ∧ l.persisted ≤ l'.persisted ∧
      (b = true → l'.persisted = index ∧ l.store.term index = .ok term) :=
  h.maybePersist index term

theorem C14_restore_spec (l : RaftLog) (h : RaftLogInv l) (sn : Snapshot) :
    (l.committed ≤ sn.metadata.index →
      ∃ l', l.restore sn = .ok l' ∧ RaftLogInv l' ∧ l'.abs = LLog.ofSnapshot sn ∧
        l'.committed = sn.metadata.index ∧ l'.applied = l.applied ∧
        l'.persisted = min l.persisted l.committed) ∧
    (sn.metadata.index < l.committed → ∃ s, l.restore sn = .panic s) :=
  ⟨h.restore sn, RaftLog.restore_panics l sn⟩

theorem C14_appliedTo_spec (l : RaftLog) (h : RaftLogInv l) (idx : Nat) (h1 : l.applied ≤ idx)
    (h2 : idx ≤ l.committed) :
    ∃ l', l.appliedTo idx = .ok l' ∧ RaftLogInv l' ∧ l'.abs = l.abs ∧
      l'.committed = l.committed ∧ l'.persisted = l.persisted ∧ l'.applied = max l.applied idx :=
  h.appliedTo idx h1 h2

/-! ### all operation sequences -/

inductive Op where
  | append (e0 : Entry) (es : List Entry)
  | maybeAppend (idx term committed : Nat) (ents : List Entry)
  | commitTo (to : Nat)
  | maybePersist (index term : Nat)
  | appliedTo (idx : Nat)
  | restore (sn : Snapshot)

def step (l : RaftLog) : Op → Res RaftLog
  | .append e0 es => match l.append (e0 :: es) with
    | .ok (l', _) => .ok l'
    | .err e => .err e
    | .panic s => .panic s
  | .maybeAppend i t c ents => match l.maybeAppend i t c ents with
    | .ok (l', _) => .ok l'
    | .err e => .err e
    | .panic s => .panic s
  | .commitTo to => l.commitTo to
  | .maybePersist i t => match l.maybePersist i t with
    | .ok (l', _) => .ok l'
    | .err e => .err e
    | .panic s => .panic s
  | .appliedTo i => l.appliedTo i
  | .restore sn => l.restore sn

/-- the contract of each operation (what raft.rs guarantees at its call sites) -/
def legal (l : RaftLog) : Op → Prop
  | .append e0 es => ContigFrom e0.index (e0 :: es) ∧ l.committed < e0.index ∧
      e0.index ≤ l.lastIndex + 1 ∧ l.persisted < e0.index
  | .maybeAppend idx term _ ents => ContigFrom (idx + 1) ents ∧ idx ≤ l.lastIndex ∧
      (∀ e ∈ ents, e.term ≠ 0) ∧
      (l.abs.matchTerm idx term = true →
        l.abs.findConflict ents = 0 ∨ l.committed < l.abs.findConflict ents)
  | .commitTo to => to ≤ l.lastIndex
  | .maybePersist _ _ => True
  | .appliedTo idx => l.applied ≤ idx ∧ idx ≤ l.committed
  | .restore sn => l.committed ≤ sn.metadata.index

/-- **One step.**  Under the invariant and the operation's contract: no panic, the invariant and
`applied ≤ committed` are kept, the commit index never decreases, and **no entry at or below the
commit index is altered** — it is either still there, identical, or covered by the snapshot point
(`restore`). -/
theorem C14_step (l : RaftLog) (h : RaftLogInv l) (ha : l.AppliedOk) (op : Op) (hl : legal l op) :
    ∃ l', step l op = .ok l' ∧ RaftLogInv l' ∧ l'.AppliedOk ∧ l.committed ≤ l'.committed ∧
      ∀ i, i ≤ l.committed → l'.abs.entryAt i = l.abs.entryAt i ∨ i ≤ l'.abs.snapIdx := by
  -- it suffices to exhibit the step of the log (`LogStep`) and `applied ≤ committed` afterwards
  suffices hx : ∃ l', step l op = .ok l' ∧ LogStep l l' ∧ l'.AppliedOk from
    let ⟨l', e, st, a⟩ := hx; ⟨l', e, st.inv, a, st.comm, st.pre⟩
  have ha' : l.applied ≤ l.committed := ha
  cases op with
  | append e0 es =>
    obtain ⟨hc, h1, h2, hp⟩ := hl
    obtain ⟨l', e, _, habs, _, hcm, hper, hap, _, _, hinv⟩ := h.append e0 es hc h1 h2
    have hinv' := hinv l.persisted (Nat.le_refl _) hp
    rw [← hper] at hinv'
    exact ⟨l', by simp only [step, e],
      .of_truncateAppend h hinv' (Nat.le_of_eq hcm.symm) habs (Nat.le_sub_one_of_lt h1),
      by show l'.applied ≤ l'.committed; rw [hap, hcm]; exact ha'⟩
  | maybeAppend idx term committed ents =>
    obtain ⟨hc, hidx, hterms, hcase⟩ := hl
    cases hm : l.abs.matchTerm idx term with
    | false =>
      have e := h.maybeAppend_nomatch idx term committed ents hm
      exact ⟨l, by simp only [step, e], .refl h, ha⟩
    | true =>
      rcases hcase hm with h0 | hgt
      · obtain ⟨e, hinv⟩ := h.maybeAppend_noconflict idx term committed ents hc hidx hterms hm h0
        exact ⟨_, by simp only [step, e], .of_cursors hinv rfl rfl (Nat.le_max_left _ _),
          Nat.le_trans ha' (Nat.le_max_left _ _)⟩
      · obtain ⟨l', e, habs, _, hcm, hap, _, hinv⟩ :=
          h.maybeAppend_conflict idx term committed ents hc hidx hterms hm hgt
        have hle : l.committed ≤ l'.committed := by rw [hcm]; exact Nat.le_max_left _ _
        exact ⟨l', by simp only [step, e],
          .of_truncateAppend h hinv hle habs (Nat.le_sub_one_of_lt hgt),
          by show l'.applied ≤ l'.committed; rw [hap]; exact Nat.le_trans ha' hle⟩
  | commitTo to =>
    obtain ⟨e, hinv⟩ := h.commitTo to hl
    exact ⟨_, by simp only [step, e], .of_cursors hinv rfl rfl (Nat.le_max_left _ _),
      Nat.le_trans ha' (Nat.le_max_left _ _)⟩
  | maybePersist index term =>
    obtain ⟨l', b, e, hinv, habs, hcm, hap, _, _⟩ := h.maybePersist index term
    exact ⟨l', by simp only [step, e], .of_abs_eq hinv (Nat.le_of_eq hcm.symm) habs,
      by show l'.applied ≤ l'.committed; rw [hap, hcm]; exact ha'⟩
  | appliedTo idx =>
    obtain ⟨l', e, hinv, habs, hcm, _, hap⟩ := h.appliedTo idx hl.1 hl.2
    exact ⟨l', by simp only [step, e], .of_abs_eq hinv (Nat.le_of_eq hcm.symm) habs,
      by show l'.applied ≤ l'.committed; rw [hap, hcm]; exact Nat.max_le.2 ⟨ha', hl.2⟩⟩
  | restore sn =>
    have hl' : l.committed ≤ sn.metadata.index := hl
    obtain ⟨l', e, hinv, habs, hcm, hap, _⟩ := h.restore sn hl'
    have hle : l.committed ≤ l'.committed := by rw [hcm]; exact hl'
    exact ⟨l', by simp only [step, e], .of_snapshot hinv hle habs hl',
      by show l'.applied ≤ l'.committed; rw [hap]; exact Nat.le_trans ha' hle⟩

def run : RaftLog → List Op → Res RaftLog
  | l, [] => .ok l
  | l, op :: ops => match step l op with
    | .ok l' => run l' ops
    | .err e => .err e
    | .panic s => .panic s

/-- every operation of the sequence is issued within its contract, in the state it is issued in -/
def legalSeq : RaftLog → List Op → Prop
  | _, [] => True
  | l, op :: ops => legal l op ∧ ∀ l', step l op = .ok l' → legalSeq l' ops

/-- **All operation sequences.**  From any state satisfying the invariant (e.g. `RaftLog::new`,
`C14_new_inv`), every contract-abiding sequence of appends, truncating appends (`maybe_append`),
commits, persistence notices, apply notices and snapshot restores runs without panic and ends in a
state that satisfies the invariant and `applied ≤ committed ≤ last_index`; every entry at or below
the *initial* commit index is unaltered or covered by a snapshot at the end. -/
theorem C14_run (ops : List Op) : ∀ (l : RaftLog), RaftLogInv l → l.AppliedOk → legalSeq l ops →
    ∃ l', run l ops = .ok l' ∧ RaftLogInv l' ∧ l'.AppliedOk ∧ l.committed ≤ l'.committed ∧
      l'.committed ≤ l'.lastIndex ∧
      ∀ i, i ≤ l.committed → l'.abs.entryAt i = l.abs.entryAt i ∨ i ≤ l'.abs.snapIdx := by
  induction ops with
  | nil =>
    intro l h ha _
    exact ⟨l, rfl, h, ha, Nat.le_refl _, h.committed_le_last, fun i _ => .inl rfl⟩
  | cons op ops ih =>
    intro l h ha hl
    obtain ⟨l1, e1, i1, a1, c1, p1⟩ := C14_step l h ha op hl.1
    obtain ⟨l2, e2, i2, a2, c2, cl2, p2⟩ := ih l1 i1 a1 (hl.2 l1 e1)
    have t := LogStep.trans ⟨i1, c1, p1⟩ ⟨i2, c2, p2⟩
    exact ⟨l2, by simp only [run, e1]; exact e2, i2, a2, t.comm, cl2, t.pre⟩

/-! ### the statements about reads and storage-side steps, as first written down (settled in
`RaftProps/C14b.lean`: `C14_slice_spec`, `C14_entries_spec`, `C14_nextEntriesSince_spec`,
`C14_storage_steps_spec`) -/

/-- size-limited reads agree with the sequence model (needs the two-phase `limit_size` argument of
`slice`: the storage part is limited first, then the concatenation) -/
def C14_slice_full_statement : Prop :=
  ∀ (l : RaftLog), RaftLogInv l → ∀ lo hi mx ca, (l.store.triggerLogUnavailable && ca) = false →
    l.slice lo hi mx ca = l.abs.slice lo hi mx

def C14_entries_full_statement : Prop :=
  ∀ (l : RaftLog), RaftLogInv l → ∀ i mx ca, (l.store.triggerLogUnavailable && ca) = false →
    l.entries i mx ca = l.abs.entries i mx

def C14_nextEntriesSince_full_statement : Prop :=
  ∀ (l : RaftLog), RaftLogInv l → ∀ since mx, since < U64_MAX →
    l.persisted + l.maxApplyUnpersistedLogLimit ≤ U64_MAX →
    l.nextEntriesSince since mx =
      (let hi := min l.committed (l.persisted + l.maxApplyUnpersistedLogLimit) + 1
       let lo := max (since + 1) l.abs.firstIndex
       if lo < hi then .ok (some (limitSize (l.abs.range lo hi) mx)) else .ok none)

/-- the storage-side steps of a Ready-contract-abiding application keep the invariant and the
logical log (compaction: cuts it below `index`) -/
def C14_storage_steps_full_statement : Prop :=
  ∀ (l : RaftLog), RaftLogInv l →
    (∃ l', l.stabilise = .ok l' ∧ RaftLogInv l' ∧ l'.abs = l.abs) ∧
    (∃ l', l.persistSnapshot = .ok l' ∧ RaftLogInv l' ∧ l'.abs = l.abs) ∧
    (∀ index, index ≤ l.applied → l.applied ≤ l.committed → index ≤ l.persisted + 1 →
      ∃ l', l.compactStore index = .ok l' ∧ RaftLogInv l' ∧
        (l.unstable.snapshot = none → l'.abs = l.abs.compactTo (index - 1)))

/-- `persisted + max_apply_unpersisted_log_limit` saturates (finding F6, repaired in /repo): the
hand-out bound never panics, is never above the commit index, and with `u64::MAX` as "no limit" it
is the commit index itself (for in-range commit indexes) -/
theorem C14_applied_upper_bound_saturates (l : RaftLog) :
    ∃ ub, l.appliedIndexUpperBound = .ok ub ∧ ub ≤ l.committed ∧
      (l.maxApplyUnpersistedLogLimit = U64_MAX → l.committed ≤ U64_MAX → ub = l.committed) := by
  refine ⟨_, rfl, Nat.min_le_left _ _, ?_⟩
  intro hl hc
  rw [hl]
  omega

/-! ### non-vacuity: concrete states and runs -/

def ent (i t d : Nat) : Entry := { index := i, term := t, data := List.replicate d 0 }

/-- a storage with a snapshot point at (2, 1) and entries 3, 4 -/
def st0 : MemStorage :=
  { snapshotMetadata := { index := 2, term := 1 }, entries := [ent 3 1 5, ent 4 2 200] }

theorem st0_wf : st0.WF := by
  refine ⟨?_, by decide⟩
  intro k e hk
  match k, hk with
  | 0, hk => simp [st0] at hk; subst hk; rfl
  | 1, hk => simp [st0] at hk; subst hk; rfl
  | n + 2, hk => simp [st0] at hk

/-- the invariant holds on a concrete non-trivial state -/
example : ∃ l, RaftLog.new st0 0 = .ok l ∧ RaftLogInv l ∧ l.abs.snapIdx = 2 ∧
    l.abs.ents.map (·.index) = [3, 4] := by
  obtain ⟨l, e, hi, _, _⟩ := C14_new_inv st0 st0_wf 0
  refine ⟨l, e, hi, ?_, ?_⟩ <;>
  · have : RaftLog.new st0 0 = .ok {
        store := st0, unstable := Unstable.new 5, committed := 2,
        persisted := 4, applied := 2, maxApplyUnpersistedLogLimit := 0 } := rfl
    rw [this] at e; cases e; rfl

/-- a concrete truncating `maybe_append`: entry 4 (term 2) is replaced by (4, term 3), (5, term 3);
the conflict index is 4, persisted drops from 4 to 3 -/
example :
    (match RaftLog.new st0 0 with
     | .ok l => match l.maybeAppend 3 1 0 [ent 4 3 1, ent 5 3 1] with
       | .ok (l', r) => some (r, l'.abs.ents.map (fun e => (e.index, e.term)), l'.persisted)
       | _ => none
     | _ => none) = some (some (4, 5), [(3, 1), (4, 3), (5, 3)], 3) := by decide +kernel

/-- … and a conflict at the commit index is the documented panic -/
example :
    (match RaftLog.new st0 0 with
     | .ok l => match l.commitTo 4 with
       | .ok l => match l.maybeAppend 3 1 0 [ent 4 3 1] with
         | .panic _ => true
         | _ => false
       | _ => false
     | _ => false) = true := by decide +kernel

end RaftProps.C14
