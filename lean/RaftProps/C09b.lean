import RaftProps.C09
import RaftProps.C13b
import RaftProps.C05b
import RaftProofs.RaftNode
import RaftProofs.RaftNodeC09
import RaftProofs.RaftStep

/-!
# C09b — membership discipline on the executable node model

Node-level part of C09 (the algebraic part — `configOf`, restore ∘ toConfState = id — is
`RaftProps/C09.lean` over `RaftProps/C12.lean`).  Everything is proved on `RaftModel.Raft*` for all
states and messages unless a hypothesis is named.

1. `C09_proposal_filter_entry` / `_cons` / `_while_pending` / `_accept` / `_refuse` / `_normal` /
   `_malformed` / `_shape`: the proposal filter of `step_leader`, exactly.
2. `C09_become_leader_blocks_changes`.
3. `PendingOk` = `ConfBounded` ∧ `AtMostOneUnapplied`; established by `become_leader`
   (`C09_one_pending_change_become_leader`), preserved by `MsgPropose` (`…_propose`), by every
   `step_leader` / `step` on a leader (`…_step_leader`, `…_step`) and by `commit_apply` including the
   auto-leave append (`…_commit_apply`).
4. `C09_apply_conf_change_is_changer`, `C09_apply_conf_change_step`, `C09_node_config_is_configOf`,
   `C09_same_changes_same_config_node`, `C09_restore_is_restore`, `C09_node_config_after_restore`,
   `C09_promotable_is_voter_after_change`.
5. `C09_no_campaign_with_unapplied_change_node`, `C09_non_voter_never_campaigns_node` (restated).
6. examples.

Deviations from the informal statement, all explained at the theorems:
* a membership entry whose payload does not decode is **not** replaced by an empty entry: the whole
  proposal is dropped (`C09_malformed_proposal_dropped`);
* while joint, **every** non-empty change is refused (not only "enter joint"); "leave" means
  "`changes` is empty", whatever the transition;
* "at most one membership entry beyond applied" is an invariant of what a leader *appends*; a new
  leader can inherit two (last example), hence the hypothesis of
  `C09_one_pending_change_become_leader`; `ConfBounded` needs no hypothesis.
-/
namespace RaftProps.C09
open RaftModel RaftModel.Raft

/-! ## 1. the proposal filter -/

/-- what the filter reads in a proposed entry (raft.rs:2119-2136) -/
inductive Payload where
  /-- neither `EntryConfChange` (1) nor `EntryConfChangeV2` (2) -/
  | normal
  /-- a membership entry whose `data` does not decode -/
  | malformed
  /-- a membership entry; a legacy `ConfChange` is converted by `into_v2` -/
  | change (cc : ConfChangeV2)
  deriving DecidableEq, Repr

/-- the decoding step of the filter, with the model's decoders -/
def payload (e : Entry) : Payload :=
  if e.etype = 1 then
    (match decodeConfChange e.data with
      | none => .malformed
      | some c => .change c.intoV2)
  else if e.etype = 2 then
    (match decodeConfChangeV2 e.data with
      | none => .malformed
      | some c => .change c)
  else .normal

/-- a membership entry (`EntryConfChange` or `EntryConfChangeV2`) -/
def isConf (e : Entry) : Prop := e.etype = 1 ∨ e.etype = 2

instance (e : Entry) : Decidable (isConf e) := by unfold isConf; infer_instance

/-- `*e = Entry::default(); e.set_entry_type(EntryNormal)`: every field at its default -/
def emptyNormal : Entry := { etype := 0 }

/-- the three reasons of raft.rs:2138-2149 -/
def Refused (r : Raft) (cc : ConfChangeV2) : Prop :=
  r.raftLog.applied < r.pendingConfIndex ∨
  (joint r.prs.conf = true ∧ cc.changes ≠ []) ∨
  (joint r.prs.conf = false ∧ cc.changes = [])

instance (r : Raft) (cc : ConfChangeV2) : Decidable (Refused r cc) := by
  unfold Refused; infer_instance

theorem c09_refuse_iff (r : Raft) (cc : ConfChangeV2) :
    (if r.hasPendingConf = true then true
      else (joint r.prs.conf && !cc.changes.isEmpty) || (!joint r.prs.conf && cc.changes.isEmpty)) = true ↔
    Refused r cc := by
  unfold Refused Raft.hasPendingConf
  by_cases hp : r.raftLog.applied < r.pendingConfIndex
  · simp [hp]
  · cases hj : joint r.prs.conf <;> cases hc : cc.changes <;> simp [hp]

/-- **C09 (1) `proposal_filter`, one entry.**  The per-entry body of the filter, for every state,
position `i` in the batch and entry: a normal entry passes unchanged; a membership entry whose
payload does not decode aborts the filter (the whole proposal is dropped, see
`C09_proposal_filter_malformed`); a membership entry is **replaced by the empty normal entry** iff
`pending_conf_index > applied`, or the tracker is joint and the change is not empty, or the tracker
is not joint and the change is empty; otherwise it is kept and `pending_conf_index` becomes its
future index `last_index + i + 1`.  Nothing else of the node is written. -/
theorem C09_proposal_filter_entry (r : Raft) (i : Nat) (e : Entry) :
    r.filterProposalEntry i e =
      match payload e with
      | .normal => some (r, e)
      | .malformed => none
      | .change cc =>
        if Refused r cc then some (r, emptyNormal)
        else some ({ r with pendingConfIndex := r.raftLog.lastIndex + i + 1 }, e) := by
  unfold Raft.filterProposalEntry payload
  by_cases h1 : e.etype = 1
  · simp only [h1, if_true]
    cases hd : decodeConfChange e.data with
    | none => rfl
    | some c =>
      simp only
      by_cases hr : Refused r c.intoV2
      · have := (c09_refuse_iff r c.intoV2).2 hr
        simp only [this, hr, if_true, Bool.not_true, Bool.false_eq_true, if_false]; rfl
      · have : _ = false := Bool.eq_false_iff.2 (fun h => hr ((c09_refuse_iff r c.intoV2).1 h))
        simp only [this, hr, if_false, Bool.not_false, if_true]
  · by_cases h2 : e.etype = 2
    · simp only [if_neg h1, if_pos h2]
      cases hd : decodeConfChangeV2 e.data with
      | none => rfl
      | some c =>
        simp only
        by_cases hr : Refused r c
        · have := (c09_refuse_iff r c).2 hr
          simp only [this, hr, if_true, Bool.not_true, Bool.false_eq_true, if_false]; rfl
        · have : _ = false := Bool.eq_false_iff.2 (fun h => hr ((c09_refuse_iff r c).1 h))
          simp only [this, hr, if_false, Bool.not_false, if_true]
    · simp only [if_neg h1, if_neg h2]

/-- put the (possibly replaced) entry in front of the filtered rest; an aborted rest stays aborted -/
def keep (e : Entry) (p : Raft × Option (List Entry)) : Raft × Option (List Entry) :=
  (p.1, p.2.map (e :: ·))

/-- **C09 (1) `proposal_filter`, the batch loop**, unfolded once: the rest of the batch is filtered
in the state the first entry left — in particular with the `pending_conf_index` an accepted
membership entry has just set. -/
theorem C09_proposal_filter_cons (r : Raft) (i : Nat) (e : Entry) (es : List Entry) :
    r.filterProposal i (e :: es) =
      match payload e with
      | .normal => keep e (r.filterProposal (i + 1) es)
      | .malformed => (r, none)
      | .change cc =>
        if Refused r cc then keep emptyNormal (r.filterProposal (i + 1) es)
        else keep e (({ r with pendingConfIndex := r.raftLog.lastIndex + i + 1 } : Raft).filterProposal
          (i + 1) es) := by
  have hk : ∀ (e' : Entry) (p : Raft × Option (List Entry)),
      (match p with
        | (r, some es') => (r, some (e' :: es'))
        | (r, none) => (r, none)) = keep e' p := by
    intro e' p
    obtain ⟨r2, o⟩ := p
    cases o <;> rfl
  rw [Raft.filterProposal, C09_proposal_filter_entry]
  cases hp : payload e with
  | normal => simp only; exact hk _ _
  | malformed => rfl
  | change cc =>
    simp only
    by_cases hr : Refused r cc
    · simp only [hr, if_true]; exact hk _ _
    · simp only [hr, if_false]; exact hk _ _

theorem c09_payload_normal_iff (e : Entry) : payload e = .normal ↔ ¬ isConf e := by
  unfold payload isConf
  by_cases h1 : e.etype = 1
  · simp only [h1, true_or, not_true, iff_false]
    cases decodeConfChange e.data <;> simp
  · by_cases h2 : e.etype = 2
    · simp only [h2, or_true, not_true, iff_false]
      cases decodeConfChangeV2 e.data <;> simp
    · simp [h1, h2]

theorem c09_emptyNormal_not_conf : ¬ isConf emptyNormal := by decide

/-- what the filter makes of an entry while a change is pending -/
def blank (e : Entry) : Entry := if isConf e then emptyNormal else e

theorem c09_blank_not_conf (e : Entry) : ¬ isConf (blank e) := by
  unfold blank
  by_cases h : isConf e
  · rw [if_pos h]; exact c09_emptyNormal_not_conf
  · rw [if_neg h]; exact h

/-- **while a change is pending** (`pending_conf_index > applied`), every membership entry of a
batch (all of whose payloads decode) is replaced by the empty normal entry, normal entries pass, and
the node is not written -/
theorem C09_proposal_filter_while_pending (es : List Entry) : ∀ (r : Raft) (i : Nat),
    r.raftLog.applied < r.pendingConfIndex → (∀ e ∈ es, payload e ≠ .malformed) →
    r.filterProposal i es = (r, some (es.map blank)) := by
  induction es with
  | nil => intro r i _ _; rfl
  | cons e es ih =>
    intro r i hp hd
    have ih' := ih r (i + 1) hp (fun x hx => hd x (List.mem_cons_of_mem _ hx))
    rw [C09_proposal_filter_cons]
    cases hpe : payload e with
    | normal =>
      have : blank e = e := by
        unfold blank; rw [if_neg ((c09_payload_normal_iff e).1 hpe)]
      simp only [ih', keep, Option.map_some, List.map_cons, this]
    | malformed => exact absurd hpe (hd e (List.mem_cons_self))
    | change cc =>
      have hc : isConf e := by
        apply Classical.byContradiction
        intro hn
        rw [(c09_payload_normal_iff e).2 hn] at hpe
        cases hpe
      have : blank e = emptyNormal := by unfold blank; rw [if_pos hc]
      have hr : Refused r cc := Or.inl hp
      simp only [hr, if_true, ih', keep, Option.map_some, List.map_cons, this]

/-- **an accepted membership entry blocks the rest of its batch**: if the entry at position `i` is
accepted (no reason to refuse it) on a node whose apply cursor is within its log, then
`pending_conf_index` is its future index and every later membership entry of the same batch is
replaced by the empty normal entry -/
theorem C09_proposal_filter_accept (r : Raft) (i : Nat) (e : Entry) (es : List Entry)
    (cc : ConfChangeV2) (hpay : payload e = .change cc) (hr : ¬ Refused r cc)
    (hle : r.raftLog.applied ≤ r.raftLog.lastIndex + i)
    (hd : ∀ x ∈ es, payload x ≠ .malformed) :
    r.filterProposal i (e :: es) =
      ({ r with pendingConfIndex := r.raftLog.lastIndex + i + 1 }, some (e :: es.map blank)) := by
  rw [C09_proposal_filter_cons, hpay]
  simp only [hr, if_false]
  rw [C09_proposal_filter_while_pending es _ (i + 1) (by show r.raftLog.applied < r.raftLog.lastIndex + i + 1; omega) hd]
  rfl

/-- a refused membership entry (any of the three reasons) is replaced and the rest of the batch is
filtered in the unchanged state -/
theorem C09_proposal_filter_refuse (r : Raft) (i : Nat) (e : Entry) (es : List Entry)
    (cc : ConfChangeV2) (hpay : payload e = .change cc) (hr : Refused r cc) :
    r.filterProposal i (e :: es) = keep emptyNormal (r.filterProposal (i + 1) es) := by
  rw [C09_proposal_filter_cons, hpay]
  simp only [hr, if_true]

/-- a normal entry passes unchanged -/
theorem C09_proposal_filter_normal (r : Raft) (i : Nat) (e : Entry) (es : List Entry)
    (hn : ¬ isConf e) :
    r.filterProposal i (e :: es) = keep e (r.filterProposal (i + 1) es) := by
  rw [C09_proposal_filter_cons, (c09_payload_normal_iff e).2 hn]

/-- **a payload that does not decode aborts the filter** — the proposal is not appended at all
(`ProposalDropped`, see `C09_malformed_proposal_dropped`); it is *not* replaced by an empty entry -/
theorem C09_proposal_filter_malformed (es : List Entry) : ∀ (r : Raft) (i : Nat),
    (r.filterProposal i es).2 = none ↔ ∃ e ∈ es, payload e = .malformed := by
  induction es with
  | nil => intro r i; simp [Raft.filterProposal]
  | cons e es ih =>
    intro r i
    rw [C09_proposal_filter_cons]
    cases hpe : payload e with
    | normal =>
      simp only [keep, Option.map_eq_none_iff, ih, List.mem_cons, exists_eq_or_imp, hpe, reduceCtorEq,
        false_or]
    | malformed => simp [hpe]
    | change cc =>
      by_cases hr : Refused r cc
      · simp only [hr, if_true, keep, Option.map_eq_none_iff, ih, List.mem_cons, exists_eq_or_imp, hpe,
          reduceCtorEq, false_or]
      · simp only [hr, if_false, keep, Option.map_eq_none_iff, ih, List.mem_cons, exists_eq_or_imp, hpe,
          reduceCtorEq, false_or]

theorem c09_keep_eq {e : Entry} {p : Raft × Option (List Entry)} {r' : Raft}
    {oes : Option (List Entry)} (h : keep e p = (r', oes)) :
    ∃ o, p = (r', o) ∧ oes = o.map (e :: ·) := by
  obtain ⟨r2, o⟩ := p
  simp only [keep, Prod.mk.injEq] at h
  exact ⟨o, by rw [h.1], h.2.symm⟩

/-- **at most one membership entry survives the filter**, and it sits where `pending_conf_index`
points.  For a node whose apply cursor is within its log: either `pending_conf_index` is unchanged
and no membership entry is left in the batch, or no change was pending before, exactly one
membership entry (position `k`) is left and `pending_conf_index = last_index + i + k + 1`. -/
theorem C09_proposal_filter_shape (es : List Entry) : ∀ (r : Raft) (i : Nat) (r' : Raft)
    (oes : Option (List Entry)), r.raftLog.applied ≤ r.raftLog.lastIndex + i →
    r.filterProposal i es = (r', oes) →
    (r'.pendingConfIndex = r.pendingConfIndex ∧ ∀ es', oes = some es' → ∀ e ∈ es', ¬ isConf e) ∨
    (¬ r.raftLog.applied < r.pendingConfIndex ∧ ∃ k, k < es.length ∧
      r'.pendingConfIndex = r.raftLog.lastIndex + i + k + 1 ∧
      ∀ es', oes = some es' → ∀ j e, es'[j]? = some e → isConf e → j = k) := by
  induction es with
  | nil =>
    intro r i r' oes _ h
    simp only [Raft.filterProposal, Prod.mk.injEq] at h
    refine .inl ⟨by rw [← h.1], ?_⟩
    intro es' he e hx
    rw [← h.2] at he; cases he; cases hx
  | cons e es ih =>
    intro r i r' oes hle h
    rw [C09_proposal_filter_cons] at h
    -- an entry `e'` that is not a membership entry in front of the filtered rest
    have front : ∀ (e' : Entry), ¬ isConf e' → keep e' (r.filterProposal (i + 1) es) = (r', oes) →
        (r'.pendingConfIndex = r.pendingConfIndex ∧ ∀ es', oes = some es' → ∀ e ∈ es', ¬ isConf e) ∨
        (¬ r.raftLog.applied < r.pendingConfIndex ∧ ∃ k, k < (e :: es).length ∧
          r'.pendingConfIndex = r.raftLog.lastIndex + i + k + 1 ∧
          ∀ es', oes = some es' → ∀ j e, es'[j]? = some e → isConf e → j = k) := by
      intro e' hn hk
      obtain ⟨o, hf, ho⟩ := c09_keep_eq hk
      rcases ih r (i + 1) r' o (by omega) hf with ⟨h1, h2⟩ | ⟨h0, k, hk1, hk2, hk3⟩
      · refine .inl ⟨h1, ?_⟩
        intro es' he x hx
        rw [ho] at he
        cases o with
        | none => cases he
        | some es0 =>
          simp only [Option.map_some, Option.some.injEq] at he
          rw [← he] at hx
          rcases List.mem_cons.1 hx with hx | hx
          · rw [hx]; exact hn
          · exact h2 es0 rfl x hx
      · refine .inr ⟨h0, k + 1, by simp only [List.length_cons]; omega, by omega, ?_⟩
        intro es' he j x hj hc
        rw [ho] at he
        cases o with
        | none => cases he
        | some es0 =>
          simp only [Option.map_some, Option.some.injEq] at he
          rw [← he] at hj
          cases j with
          | zero =>
            simp only [List.getElem?_cons_zero, Option.some.injEq] at hj
            rw [← hj] at hc; exact absurd hc hn
          | succ j =>
            simp only [List.getElem?_cons_succ] at hj
            rw [hk3 es0 rfl j x hj hc]
    cases hpe : payload e with
    | normal =>
      rw [hpe] at h
      exact front e ((c09_payload_normal_iff e).1 hpe) h
    | malformed =>
      rw [hpe] at h
      simp only [Prod.mk.injEq] at h
      refine .inl ⟨by rw [← h.1], ?_⟩
      intro es' he
      rw [← h.2] at he; cases he
    | change cc =>
      rw [hpe] at h
      simp only at h
      by_cases hr : Refused r cc
      · simp only [hr, if_true] at h
        exact front emptyNormal c09_emptyNormal_not_conf h
      · simp only [hr, if_false] at h
        have hnp : ¬ r.raftLog.applied < r.pendingConfIndex := fun hp => hr (Or.inl hp)
        obtain ⟨o, hf, ho⟩ := c09_keep_eq h
        rcases ih _ (i + 1) r' o (by show r.raftLog.applied ≤ r.raftLog.lastIndex + (i + 1); omega) hf with
          ⟨h1, h2⟩ | ⟨h0, _⟩
        · refine .inr ⟨hnp, 0, by simp, by rw [h1], ?_⟩
          intro es' he j x hj hc
          rw [ho] at he
          cases o with
          | none => cases he
          | some es0 =>
            simp only [Option.map_some, Option.some.injEq] at he
            rw [← he] at hj
            cases j with
            | zero => rfl
            | succ j =>
              simp only [List.getElem?_cons_succ] at hj
              exact absurd hc (h2 es0 rfl x (List.mem_of_getElem? hj))
        · exact absurd (by show r.raftLog.applied < r.raftLog.lastIndex + i + 1; omega) h0

/-! ## 2. `become_leader` -/

/-- **C09 (2) `become_leader_blocks_changes`.**  A new leader sets `pending_conf_index` to the last
index of the log it *inherited* (before it appends its own empty entry), and does not move its apply
cursor.  Hence, as long as it has not applied everything it inherited, **every** membership proposal
is refused (replaced by the empty normal entry), whatever the change and whatever the tracker. -/
theorem C09_become_leader_blocks_changes (r r' : Raft) (h : r.becomeLeader = .ok r') :
    r'.pendingConfIndex = r.raftLog.lastIndex ∧ r'.raftLog.applied = r.raftLog.applied ∧
    r'.state = .leader ∧
    (r.raftLog.applied < r.raftLog.lastIndex → ∀ cc, Refused r' cc) := by
  have key : r'.pendingConfIndex = r.raftLog.lastIndex ∧ r'.raftLog.applied = r.raftLog.applied ∧
      r'.state = .leader := by
    unfold Raft.becomeLeader at h
    split at h
    · cases h
    · simp only [] at h
      split at h
      · cases h
      · split at h
        · cases h
        · rename_i pr hpr
          split at h
          · rename_i r2 happ
            cases h
            have hcf := appendEntry_cf happ CF.rfl
            have hfr := appendEntry_frame happ Frame.rfl
            refine ⟨?_, ?_, ?_⟩
            · rw [hcf.1]
              show (r.reset r.term).raftLog.lastIndex = _
              rw [reset_raftLog]
            · rw [hcf.2]
              show (r.reset r.term).raftLog.applied = _
              rw [reset_raftLog]
            · rw [hfr.state]
          · cases h
          · cases h
          · cases h
  refine ⟨key.1, key.2.1, key.2.2, ?_⟩
  intro hlt cc
  exact Or.inl (by rw [key.1, key.2.1]; exact hlt)

/-! ## 3. at most one pending membership change in a leader's log -/

/-- every membership entry of the log beyond the apply cursor is at or below `pending_conf_index`
("no membership entry above `max applied pending_conf_index`") -/
def ConfBounded (r : Raft) : Prop :=
  ∀ i e, r.raftLog.abs.entryAt i = some e → isConf e → r.raftLog.applied < i →
    i ≤ r.pendingConfIndex

/-- the log holds at most one membership entry beyond the apply cursor -/
def AtMostOneUnapplied (r : Raft) : Prop :=
  ∀ i j ei ej, r.raftLog.abs.entryAt i = some ei → isConf ei → r.raftLog.applied < i →
    r.raftLog.abs.entryAt j = some ej → isConf ej → r.raftLog.applied < j → i = j

/-- the membership discipline of a leader's log -/
structure PendingOk (r : Raft) : Prop where
  bounded : ConfBounded r
  one : AtMostOneUnapplied r

/-- when no change is pending (`pending_conf_index ≤ applied`, the only situation in which the
filter lets a membership entry through), the log holds **no** unapplied membership entry -/
theorem C09_no_unapplied_change_when_not_pending (r : Raft) (hb : ConfBounded r)
    (hnp : ¬ r.raftLog.applied < r.pendingConfIndex) :
    ∀ i e, r.raftLog.abs.entryAt i = some e → isConf e → i ≤ r.raftLog.applied := by
  intro i e he hc
  apply Classical.byContradiction
  intro hgt
  have := hb i e he hc (by omega)
  omega

/-- where the entries of a log that grew by `es` come from -/
theorem c09_appended_entryAt {a r : Raft} {es : List Entry} (hinv : a.raftLog.Inv)
    (h : Appended a r es) (x : Nat) (e : Entry) (hx : r.raftLog.abs.entryAt x = some e) :
    (x ≤ a.raftLog.lastIndex ∧ a.raftLog.abs.entryAt x = some e) ∨
    (a.raftLog.lastIndex < x ∧ es[x - a.raftLog.lastIndex - 1]? = some e) := by
  rw [h.abs] at hx
  rw [hinv.lastIndex_abs]
  rcases Nat.lt_or_ge a.raftLog.abs.lastIndex x with hlt | hle
  · exact .inr ⟨hlt, (a.raftLog.abs.append_entryAt_new es x hlt).symm.trans hx⟩
  · exact .inl ⟨hle, (RaftProps.C05.c05_append_entryAt _ es x hle).symm.trans hx⟩

theorem c09_stamp_conf {t s : Nat} {es : List Entry} {k : Nat} {e : Entry}
    (h : (stampFrom t s es)[k]? = some e) (hc : isConf e) :
    ∃ e0, es[k]? = some e0 ∧ isConf e0 := by
  rw [stampFrom_getElem?] at h
  cases h0 : es[k]? with
  | none => rw [h0] at h; cases h
  | some e0 =>
    rw [h0] at h
    simp only [Option.map_some, Option.some.injEq] at h
    refine ⟨e0, rfl, ?_⟩
    rw [← h] at hc
    exact hc

/-- the conclusion of `C09_proposal_filter_shape` at position 0, as a relation between the node
before the filter (`pci`, its log) and the filter's output -/
def FilterOut (a : Raft) (pci' : Nat) (oes : Option (List Entry)) : Prop :=
  (pci' = a.pendingConfIndex ∧ ∀ es', oes = some es' → ∀ e ∈ es', ¬ isConf e) ∨
  (¬ a.raftLog.applied < a.pendingConfIndex ∧ ∃ k,
    pci' = a.raftLog.lastIndex + k + 1 ∧
    ∀ es', oes = some es' → ∀ j e, es'[j]? = some e → isConf e → j = k)

/-- the invariant survives a filter run after which nothing is appended (malformed payload, size
limit): `pending_conf_index` may have moved beyond the log, which only weakens what it promises -/
theorem c09_pending_after_drop {a r' : Raft} {oes : Option (List Entry)} (hok : PendingOk a)
    (hf : FilterOut a r'.pendingConfIndex oes) (habs : r'.raftLog.abs = a.raftLog.abs)
    (happ : r'.raftLog.applied = a.raftLog.applied) : PendingOk r' := by
  constructor
  · intro i e he hc hi
    rw [habs] at he
    rw [happ] at hi
    rcases hf with ⟨h1, _⟩ | ⟨h0, _⟩
    · rw [h1]; exact hok.bounded i e he hc hi
    · have := C09_no_unapplied_change_when_not_pending a hok.bounded h0 i e he hc
      omega
  · intro i j ei ej hi1 hi2 hi3 hj1 hj2 hj3
    rw [habs] at hi1 hj1
    rw [happ] at hi3 hj3
    exact hok.one i j ei ej hi1 hi2 hi3 hj1 hj2 hj3

/-- the invariant survives the append of a filtered batch -/
theorem c09_pending_after_append {a r1 r' : Raft} {es : List Entry}
    (hok : PendingOk a) (hf : FilterOut a r'.pendingConfIndex (some es))
    (hl1 : r1.raftLog.abs = a.raftLog.abs) (hli : r1.raftLog.lastIndex = a.raftLog.lastIndex)
    (hinv1 : r1.raftLog.Inv) {t : Nat}
    (hA : Appended r1 r' (stampFrom t (r1.raftLog.lastIndex + 1) es))
    (happ : r'.raftLog.applied = a.raftLog.applied) : PendingOk r' := by
  -- classification of the membership entries of the new log
  have cls : ∀ x e, r'.raftLog.abs.entryAt x = some e → isConf e →
      (a.raftLog.abs.entryAt x = some e) ∨
      (a.raftLog.lastIndex < x ∧ ∃ e0, es[x - a.raftLog.lastIndex - 1]? = some e0 ∧ isConf e0) := by
    intro x e hx hc
    rcases c09_appended_entryAt hinv1 hA x e hx with ⟨_, h2⟩ | ⟨h1, h2⟩
    · rw [hl1] at h2; exact .inl h2
    · rw [hli] at h1 h2
      exact .inr ⟨h1, c09_stamp_conf h2 hc⟩
  rcases hf with ⟨h1, h2⟩ | ⟨h0, k, hk1, hk2⟩
  · -- nothing accepted: all membership entries are old ones
    have old : ∀ x e, r'.raftLog.abs.entryAt x = some e → isConf e →
        a.raftLog.abs.entryAt x = some e := by
      intro x e hx hc
      rcases cls x e hx hc with h | ⟨_, e0, he0, hc0⟩
      · exact h
      · exact absurd hc0 (h2 es rfl e0 (List.mem_of_getElem? he0))
    constructor
    · intro i e he hc hi
      rw [happ] at hi
      rw [h1]; exact hok.bounded i e (old i e he hc) hc hi
    · intro i j ei ej hi1 hi2 hi3 hj1 hj2 hj3
      rw [happ] at hi3 hj3
      exact hok.one i j ei ej (old i ei hi1 hi2) hi2 hi3 (old j ej hj1 hj2) hj2 hj3
  · -- one accepted at position `k`: there was no unapplied membership entry before
    have new : ∀ x e, r'.raftLog.abs.entryAt x = some e → isConf e → a.raftLog.applied < x →
        x = a.raftLog.lastIndex + k + 1 := by
      intro x e hx hc hgt
      rcases cls x e hx hc with h | ⟨hlt, e0, he0, hc0⟩
      · have := C09_no_unapplied_change_when_not_pending a hok.bounded h0 x e h hc
        omega
      · have := hk2 es rfl _ e0 he0 hc0
        omega
    constructor
    · intro i e he hc hi
      rw [happ] at hi
      rw [hk1, new i e he hc hi]
      exact Nat.le_refl _
    · intro i j ei ej hi1 hi2 hi3 hj1 hj2 hj3
      rw [happ] at hi3 hj3
      rw [new i ei hi1 hi2 hi3, new j ej hj1 hj2 hj3]

/-- what `step_leader` does with a `MsgPropose` (raft.rs:2097-2170): dropped before the filter
(leader not in its own configuration, transfer in progress); dropped by the filter (malformed
payload) or by the uncommitted-size limit — the node is then the filter's output state, i.e. the old
one up to `pending_conf_index`; or the filtered entries are appended and broadcast -/
theorem c09_stepLeader_propose {r r' : Raft} {m : Message} {e : Option RaftError}
    (hinv : r.raftLog.Inv) (hs : r.state = .leader) (hm : m.msgType = .msgPropose)
    (h : r.stepLeader m = .ok (r', e)) :
    (r' = r ∧ e = some .proposalDropped) ∨
    ∃ r1 oes, r.filterProposal 0 m.entries = (r1, oes) ∧
      ((r' = r1 ∧ e = some .proposalDropped) ∨
       ∃ es, oes = some es ∧ e = none ∧ CF r1 r' ∧
         (LS r1 r' ∨ Appended r1 r' (stampFrom r1.term (r1.raftLog.lastIndex + 1) es))) := by
  unfold Raft.stepLeader at h
  split at h
  · rename_i hx; rw [hm] at hx; cases hx
  · rename_i hx; rw [hm] at hx; cases hx
  · split at h
    · cases h
    · split at h
      · cases h; exact .inl ⟨rfl, rfl⟩
      · split at h
        · cases h; exact .inl ⟨rfl, rfl⟩
        · split at h
          · rename_i r1 hf
            cases h
            exact .inr ⟨_, _, hf, .inl ⟨rfl, rfl⟩⟩
          · rename_i r1 es hf
            have hl1 : LS r r1 := filterProposal_ls _ _ _ _ _ hf LS.rfl
            have hf1 : Frame r r1 := RaftModel.Raft.filterProposal_frame _ _ _ _ _ hf Frame.rfl
            refine .inr ⟨_, _, hf, ?_⟩
            split at h
            · rename_i r2 happ
              cases h
              rcases appendEntry_cases (hl1.inv hinv) (hf1.state.trans hs) happ with
                ⟨_, he⟩ | ⟨hb, _⟩ | ⟨hb, _⟩
              · exact .inl ⟨he, rfl⟩
              · cases hb
              · cases hb
            · rename_i r2 happ
              rw [Res.bind_eq_ok_iff] at h
              obtain ⟨r3, hb, h3⟩ := h
              cases h3
              have hcf : CF r1 r' := bcastAppend_cf hb (appendEntry_cf happ CF.rfl)
              rcases appendEntry_cases (hl1.inv hinv) (hf1.state.trans hs) happ with
                ⟨hb', _⟩ | ⟨_, _, hl2, _⟩ | ⟨_, hA, hf2⟩
              · cases hb'
              · exact .inr ⟨es, rfl, rfl, hcf, .inl (bcastAppend_ls hb hl2)⟩
              · exact .inr ⟨es, rfl, rfl, hcf, .inr
                  (hA.right (bcastAppend_ls hb LS.rfl) (bcastAppend_frame hb Frame.rfl))⟩
            · cases h
            · cases h
  all_goals (rename_i hx; rw [hm] at hx; first | cases hx | contradiction)

/-- `step_leader` on anything but a proposal keeps `pending_conf_index` and the apply cursor — or
the leader stepped down (`MsgCheckQuorum` without an active quorum; `become_follower` resets
`pending_conf_index`) -/
theorem c09_stepLeader_other {r r' : Raft} {m : Message} {e : Option RaftError}
    (hm : m.msgType ≠ .msgPropose) (h : r.stepLeader m = .ok (r', e)) :
    CF r r' ∨ r'.state = .follower :=
  stepLeader_parts (P := fun x => CF r x ∨ x.state = .follower) h (.inl CF.rfl)
    (beat := fun hb _ => .inl (bcastHeartbeat_cf hb CF.rfl))
    (quorum := fun hq _ => .inl (checkQuorumActive_cf hq CF.rfl))
    (follower := fun _ _ => .inr rfl)
    (filter := fun _ ty => absurd ty hm)
    (append := fun _ ty _ => absurd ty hm)
    (bcast := fun _ ty _ => absurd ty hm)
    (ready := fun hr _ => .inl (handleReadyReadIndex_cf hr CF.rfl))
    (send := fun hs _ h1 => h1.elim (fun c => .inl (send_cf hs c))
      (fun f => .inr (by rw [send_eq _ _ _ hs]; exact f)))
    (ro := fun _ _ => .inl (CF.mk' CF.rfl))
    (hbctx := fun hb _ h1 => h1.elim (fun c => .inl (bcastHeartbeatWithCtx_cf hb c))
      (fun f => .inr ((bcastHeartbeatWithCtx_frame hb Frame.rfl).state.trans f)))
    (appResp := fun ha _ => .inl (handleAppendResponse_cf ha CF.rfl))
    (hbResp := fun hh _ => .inl (handleHeartbeatResponse_cf hh CF.rfl))
    (snapStatus := fun _ => .inl (handleSnapshotStatus_cf CF.rfl))
    (unreachable := fun _ => .inl (handleUnreachable_cf CF.rfl))
    (transfer := fun ht _ => .inl (handleTransferLeader_cf ht CF.rfl))

/-- the invariant only reads the logical log, the apply cursor and `pending_conf_index` -/
theorem c09_pending_of_same {a r : Raft} (hok : PendingOk a) (habs : r.raftLog.abs = a.raftLog.abs)
    (hcf : CF a r) : PendingOk r := by
  obtain ⟨hp, ha⟩ := hcf
  constructor
  · intro i e he hc hi
    rw [habs] at he; rw [ha] at hi; rw [hp]
    exact hok.bounded i e he hc hi
  · intro i j ei ej hi1 hi2 hi3 hj1 hj2 hj3
    rw [habs] at hi1 hj1; rw [ha] at hi3 hj3
    exact hok.one i j ei ej hi1 hi2 hi3 hj1 hj2 hj3

theorem c09_filterOut {r r1 : Raft} {m : Message} {oes : Option (List Entry)}
    (hap : r.raftLog.applied ≤ r.raftLog.lastIndex)
    (hf : r.filterProposal 0 m.entries = (r1, oes)) :
    FilterOut r r1.pendingConfIndex oes ∧ r1.raftLog = r.raftLog := by
  constructor
  · rcases C09_proposal_filter_shape m.entries r 0 r1 oes (by omega) hf with h | ⟨h0, k, _, hk1, hk2⟩
    · exact .inl h
    · exact .inr ⟨h0, k, by omega, hk2⟩
  · have := RaftProps.C13.filterProposal_frame m.entries r 0
    rw [hf] at this
    simp only at this
    rw [this]

/-- **C09 (3) `one_pending_change`, preservation by a proposal.**  On a leader whose log satisfies
the representation invariant and whose apply cursor is within the log, `MsgPropose` keeps
`PendingOk` — whatever the batch (several membership entries, malformed payloads) and whatever the
outcome: appended, dropped before the filter, dropped by the filter (malformed payload) or dropped
by the uncommitted-size limit.  In the last two cases `pending_conf_index` may already have moved to
an index at which no membership entry was appended; this does not break the invariant (it only
makes `pending_conf_index` an over-approximation: see the example "dropped proposal" in section 6
and the last example of `RaftProps/C13b.lean`). -/
theorem C09_one_pending_change_propose (r r' : Raft) (m : Message) (e : Option RaftError)
    (hinv : RaftProps.C14.RaftLogInv r.raftLog) (hap : r.raftLog.applied ≤ r.raftLog.lastIndex)
    (hs : r.state = .leader) (hm : m.msgType = .msgPropose) (hok : PendingOk r)
    (h : r.stepLeader m = .ok (r', e)) : PendingOk r' := by
  rcases c09_stepLeader_propose hinv hs hm h with ⟨h1, _⟩ | ⟨r1, oes, hf, hc⟩
  · rw [h1]; exact hok
  · obtain ⟨hF, hlog⟩ := c09_filterOut hap hf
    rcases hc with ⟨h1, _⟩ | ⟨es, ho, _, hcf, hl | hA⟩
    · rw [h1]
      exact c09_pending_after_drop hok hF (by rw [hlog]) (by rw [hlog])
    · refine c09_pending_after_drop (oes := oes) hok (by rw [hcf.1]; exact hF) ?_ ?_
      · rw [hl.abs, hlog]
      · rw [hcf.2, hlog]
    · subst ho
      refine c09_pending_after_append (r1 := r1) hok (by rw [hcf.1]; exact hF) (by rw [hlog])
        (by rw [hlog]) (by rw [hlog]; exact hinv) hA ?_
      rw [hcf.2, hlog]

/-- **C09 (3), every message**: `step_leader` keeps `PendingOk` as long as the node stays leader
(it changes the log only by `MsgPropose`, `C05_log_changes_only_by`, and `pending_conf_index` only
in the proposal filter) -/
theorem C09_one_pending_change_step_leader (r r' : Raft) (m : Message) (e : Option RaftError)
    (hinv : RaftProps.C14.RaftLogInv r.raftLog) (hap : r.raftLog.applied ≤ r.raftLog.lastIndex)
    (hs : r.state = .leader) (hok : PendingOk r) (h : r.stepLeader m = .ok (r', e))
    (hs' : r'.state = .leader) : PendingOk r' := by
  by_cases hm : m.msgType = .msgPropose
  · exact C09_one_pending_change_propose r r' m e hinv hap hs hm hok h
  · rcases stepLeader_log hinv LS.rfl hs h with hl | ⟨hm', _⟩
    · rcases c09_stepLeader_other hm h with hcf | hf
      · exact c09_pending_of_same hok hl.abs hcf
      · rw [hf] at hs'; cases hs'
    · exact absurd hm' hm

/-- **C09 (3) `one_pending_change`, establishment.**  `become_leader` on a log satisfying the
representation invariant yields `ConfBounded` **unconditionally** (every inherited entry is at or
below `pending_conf_index = ` the inherited last index, and the appended empty entry is not a
membership entry), and `AtMostOneUnapplied` if the inherited log had at most one unapplied
membership entry. -/
theorem C09_one_pending_change_become_leader (r r' : Raft)
    (hinv : RaftProps.C14.RaftLogInv r.raftLog) (h : r.becomeLeader = .ok r') :
    ConfBounded r' ∧ (AtMostOneUnapplied r → PendingOk r') := by
  obtain ⟨hp, ha, _, _⟩ := C09_become_leader_blocks_changes r r' h
  have hw : Won r r' := becomeLeader_won hinv LS.rfl h
  have old : ∀ x e, r'.raftLog.abs.entryAt x = some e → isConf e →
      x ≤ r.raftLog.lastIndex ∧ r.raftLog.abs.entryAt x = some e := by
    intro x e hx hc
    rcases c09_appended_entryAt hinv hw x e hx with h1 | ⟨h1, h2⟩
    · exact h1
    · have : x - r.raftLog.lastIndex - 1 = 0 := by
        cases hk : x - r.raftLog.lastIndex - 1 with
        | zero => rfl
        | succ n => rw [hk] at h2; simp at h2
      rw [this] at h2
      simp only [List.getElem?_cons_zero, Option.some.injEq] at h2
      rw [← h2] at hc
      exact absurd hc (by unfold isConf leaderNoop; simp)
  have hb : ConfBounded r' := by
    intro i e he hc _
    rw [hp]; exact (old i e he hc).1
  refine ⟨hb, fun h1 => ⟨hb, ?_⟩⟩
  intro i j ei ej hi1 hi2 hi3 hj1 hj2 hj3
  rw [ha] at hi3 hj3
  exact h1 i j ei ej (old i ei hi1 hi2).2 hi2 hi3 (old j ej hj1 hj2).2 hj2 hj3

/-! ### through `Raft::step` -/

/-- the term preamble of `step` on a message whose term is not above the node's: nothing the
invariant reads is touched, and the dispatch (if any) runs on the unchanged node -/
theorem c09_stepTerm_low {r r1 : Raft} {m : Message} {b : Bool} (ht : m.term ≤ r.term)
    (h : r.stepTerm m = .ok (r1, b)) :
    CF r r1 ∧ LS r r1 ∧ (b = true → r1 = r) := by
  refine ⟨?_, stepTerm_ls h LS.rfl, fun hb => ?_⟩
  · cases Raft.stepTerm_inv h with
    | zero | stale | same => exact CF.rfl
    | leased _ hgt | prevote _ hgt | follow _ _ hgt => omega
    | staleAck _ _ _ hs | staleReject _ _ _ hs => exact send_cf hs CF.rfl
  · subst hb
    cases Raft.stepTerm_inv h with
    | zero | same => rfl
    | prevote _ hgt | follow _ _ hgt => omega

/-- a leader answering a vote request keeps `pending_conf_index`, the apply cursor and the log -/
theorem c09_stepVote_leader {r r' : Raft} {m : Message} (hs : r.state = .leader)
    (h : r.stepVote m = .ok r') : CF r r' :=
  (stepVote_parts (P := fun x => CF r x ∧ x.state = .leader) h
    (send := fun hsend _ => ⟨send_cf hsend CF.rfl, by rw [send_eq _ _ _ hsend]; exact hs⟩)
    (voted := fun h1 => ⟨CF.mk' h1.1, h1.2⟩)
    (byVote := fun hb h1 => by
      -- a leader does not commit by vote
      unfold Raft.maybeCommitByVote at hb
      split at hb
      · cases hb; exact h1
      · simp only [h1.2, or_true, if_true] at hb
        cases hb; exact h1)).1

/-- **C09 (3) through `Raft::step`**: on a leader, any message whose term is not above the leader's
(messages of a higher term depose it) keeps `PendingOk` as long as the node is still leader
afterwards -/
theorem C09_one_pending_change_step (r r' : Raft) (m : Message) (e : Option RaftError)
    (hinv : RaftProps.C14.RaftLogInv r.raftLog) (hap : r.raftLog.applied ≤ r.raftLog.lastIndex)
    (hs : r.state = .leader) (hterm : m.term ≤ r.term) (hok : PendingOk r)
    (h : r.step m = .ok (r', e)) (hs' : r'.state = .leader) : PendingOk r' := by
  cases step_inv h with
  | consumed ht =>
    obtain ⟨hcf, hls, _⟩ := c09_stepTerm_low hterm ht
    exact c09_pending_of_same hok hls.abs hcf
  | dispatched ht hd =>
    have h1 := (c09_stepTerm_low hterm ht).2.2 rfl
    subst h1
    cases hd with
    | hup _ hh =>
      unfold Raft.hup at hh
      rw [if_pos hs] at hh
      cases hh; exact hok
    | vote _ hv =>
      exact c09_pending_of_same hok (stepVote_ls hv LS.rfl).abs (c09_stepVote_leader hs hv)
    | candidate _ st => rw [hs] at st; rcases st with st | st <;> cases st
    | follower _ st => rw [hs] at st; cases st
    | leader _ _ hl => exact C09_one_pending_change_step_leader _ r' m e hinv hap hs hok hl hs'

/-! ### the other writer: `commit_apply` (auto-leave) -/

theorem c09_applyCursor (l l' : RaftLog) (applied : Nat) (skip : Bool)
    (hsk : skip = true → l.applied ≤ applied)
    (h : (if (!skip) = true then l.appliedTo applied
          else if applied = 0 then Res.panic "raft.commit_apply_internal.assert"
          else Res.ok { l with applied := applied }) = .ok l') :
    ∃ a', l.applied ≤ a' ∧ l' = { l with applied := a' } ∧ (applied ≠ 0 → a' = applied) := by
  cases skip with
  | false =>
    simp only [Bool.not_false, if_true] at h
    rcases RaftLog.appliedTo_inv h with ⟨h0, e⟩ | ⟨hle, _, e⟩
    · exact ⟨l.applied, Nat.le_refl _, e, fun hne => absurd h0 hne⟩
    · exact ⟨applied, hle, e, fun _ => rfl⟩
  | true =>
    simp only [Bool.not_true, Bool.false_eq_true, if_false] at h
    split at h
    · cases h
    · cases h
      exact ⟨applied, hsk rfl, rfl, fun _ => rfl⟩

/-- **C09 (3), the second writer of a leader's log.**  `commit_apply` (the application reports the
new apply index; with `skip_check` the index must not go backwards) keeps `PendingOk` — including
the *auto-leave* case, in which the leader itself appends the empty `ConfChangeV2` that leaves the
joint configuration and sets `pending_conf_index` to its index: this happens only when the apply
cursor has reached the old `pending_conf_index`, i.e. when no unapplied membership entry is left.
(`C05_log_changes_only_by` is about `step`; this append happens outside `step`.) -/
theorem C09_one_pending_change_commit_apply (r r' : Raft) (applied : Nat) (skip : Bool)
    (hinv : RaftProps.C14.RaftLogInv r.raftLog)
    (hsk : skip = true → r.raftLog.applied ≤ applied) (hok : PendingOk r)
    (h : r.commitApplyInternal applied skip = .ok r') : PendingOk r' := by
  unfold Raft.commitApplyInternal at h
  simp only [] at h
  split at h
  · cases h
  · cases h
  · rename_i log hlog
    obtain ⟨a', hge, hl, ha0⟩ := c09_applyCursor _ _ _ _ hsk hlog
    have habs : log.abs = r.raftLog.abs := by rw [hl]; rfl
    have hinv1 : log.Inv := by
      rw [hl]
      exact hinv.set_cursors r.raftLog.committed r.raftLog.persisted a' hinv.dummy_le_committed
        hinv.committed_le_last hinv.persisted_lt_off hinv.persisted_le_store
    have hli : log.lastIndex = r.raftLog.lastIndex := by rw [hl]; rfl
    have happ : log.applied = a' := by rw [hl]
    -- the node with the moved apply cursor
    have hok1 : PendingOk { r with raftLog := log } := by
      constructor
      · intro i e he hc hi
        exact hok.bounded i e (by rw [← habs]; exact he) hc
          (by have : a' < i := by rw [← happ]; exact hi
              omega)
      · intro i j ei ej hi1 hi2 hi3 hj1 hj2 hj3
        have h1 : a' < i := by rw [← happ]; exact hi3
        have h2 : a' < j := by rw [← happ]; exact hj3
        exact hok.one i j ei ej (by rw [← habs]; exact hi1) hi2 (by omega)
          (by rw [← habs]; exact hj1) hj2 (by omega)
    split at h
    · rename_i hcond
      obtain ⟨_, hc1, hc2, hc3⟩ := hcond
      have hpa : r.pendingConfIndex ≤ a' := by
        by_cases h0 : applied = 0
        · have : r.pendingConfIndex ≤ applied := hc2
          omega
        · rw [ha0 h0]; exact hc2
      split at h
      · rename_i r2 happe
        cases h
        have hcf : CF _ r2 := appendEntry_cf happe CF.rfl
        rcases appendEntry_cases (r := { r with raftLog := log }) hinv1 hc3 happe with
          ⟨hb, _⟩ | ⟨_, he, _⟩ | ⟨_, hA, _⟩
        · cases hb
        · cases he
        · have hlast : r2.raftLog.lastIndex = r.raftLog.lastIndex + 1 := by
            rw [hA.last]; simp only [stampFrom, List.length_cons, List.length_nil]
            show log.lastIndex + _ = _
            rw [hli]
          have hap2 : r2.raftLog.applied = a' := by rw [hcf.2]; exact happ
          have new : ∀ x e, r2.raftLog.abs.entryAt x = some e → isConf e → a' < x →
              x = r.raftLog.lastIndex + 1 := by
            intro x e hx hc hgt
            rcases c09_appended_entryAt (a := { r with raftLog := log }) hinv1 hA x e hx with
              ⟨_, h2⟩ | ⟨h1, h2⟩
            · have h2' : r.raftLog.abs.entryAt x = some e := by rw [← habs]; exact h2
              have := hok.bounded x e h2' hc (by omega)
              omega
            · have h1' : r.raftLog.lastIndex < x := by rw [← hli]; exact h1
              cases hk : x - log.lastIndex - 1 with
              | zero => rw [hli] at hk; omega
              | succ n =>
                have h2' := h2
                change (stampFrom _ _ _)[x - log.lastIndex - 1]? = some e at h2'
                rw [hk] at h2'
                simp [stampFrom] at h2'
          constructor
          · intro i e he hc hi
            show i ≤ r2.raftLog.lastIndex
            have : a' < i := by rw [← hap2]; exact hi
            rw [hlast, new i e he hc this]
            exact Nat.le_refl _
          · intro i j ei ej hi1 hi2 hi3 hj1 hj2 hj3
            have h1 : a' < i := by rw [← hap2]; exact hi3
            have h2 : a' < j := by rw [← hap2]; exact hj3
            rw [new i ei hi1 hi2 h1, new j ej hj1 hj2 h2]
      · cases h
      · cases h
      · cases h
    · cases h
      exact hok1

/-! ## 4. `apply_conf_change` is the changer of C12 -/

open RaftProps.C12 in
/-- the changer method `Raft::apply_conf_change` picks for a change (raft.rs:2863-2869) -/
def opOf (cc : ConfChangeV2) : Op :=
  match cc.classify with
  | .leave => .leaveJoint
  | .enter al => .enterJoint al cc.changes
  | .simple => .simple cc.changes

theorem c09_opOf_run (t : Tracker) (cc : ConfChangeV2) :
    (opOf cc).run t =
      (match cc.classify with
        | .leave => leaveJoint t
        | .enter al => enterJoint t al cc.changes
        | .simple => simple t cc.changes) := by
  unfold opOf
  cases cc.classify <;> rfl

theorem c09_applyConfChange_eq (r : Raft) (cc : ConfChangeV2) :
    r.applyConfChange cc =
      match (opOf cc).run r.prs.toCC with
      | .error e => .ok (r, .error e)
      | .ok (cfg, changes) =>
        ({ r with prs := r.prs.applyConf cfg changes r.raftLog.lastIndex } : Raft).postConfChange.bind
          (fun (r, cs) => .ok (r, .ok cs)) := by
  unfold Raft.applyConfChange opOf
  cases cc.classify <;> rfl

/-- **C09 (4) `apply_conf_change_is_changer`.**  On the node, `apply_conf_change` runs exactly the
changer method of the classification (`leave_joint` / `enter_joint(auto_leave)` / `simple`) on the
changer's view of its tracker (`toCC`: configuration + key set of the progress map):
* if the changer rejects the change, the node is returned **untouched** with the error;
* otherwise, whatever `post_conf_change` then does (step down, commit, send, answer reads), the
  node's configuration and progress key set are exactly `Tracker.applyConf` of the changer's result,
  and the returned `ConfState` is `to_conf_state` of the new configuration. -/
theorem C09_apply_conf_change_is_changer (r : Raft) (cc : ConfChangeV2) :
    (∀ e, (opOf cc).run r.prs.toCC = .error e → r.applyConfChange cc = .ok (r, .error e)) ∧
    (∀ cfg changes, (opOf cc).run r.prs.toCC = .ok (cfg, changes) →
      ∀ r' res, r.applyConfChange cc = .ok (r', res) →
        r'.prs.toCC = r.prs.toCC.applyConf cfg changes ∧ res = .ok cfg.toConfState) := by
  have heq := c09_applyConfChange_eq r cc
  constructor
  · intro e he
    rw [heq, he]
  · intro cfg changes hok r' res h
    rw [heq, hok] at h
    simp only [] at h
    rw [Res.bind_eq_ok_iff] at h
    obtain ⟨⟨r2, cs⟩, hp, h2⟩ := h
    cases h2
    obtain ⟨htc, hcs⟩ := postConfChange_tc hp TC.rfl
    refine ⟨?_, by rw [hcs]; rfl⟩
    rw [htc]
    exact c09_applyConf_toCC _ _ _ _

/-- in one equation: the node's configuration after `apply_conf_change` is `C12.step` (run the
changer; on success `apply_conf`, on error nothing) of the one before -/
theorem C09_apply_conf_change_step (r r' : Raft) (cc : ConfChangeV2)
    (res : Except ErrKind ConfState) (h : r.applyConfChange cc = .ok (r', res)) :
    r'.prs.toCC = RaftProps.C12.step r.prs.toCC (opOf cc) := by
  obtain ⟨h1, h2⟩ := C09_apply_conf_change_is_changer r cc
  unfold RaftProps.C12.step
  cases hr : (opOf cc).run r.prs.toCC with
  | error e =>
    rw [h1 e hr] at h
    cases h
    rfl
  | ok p =>
    obtain ⟨cfg, changes⟩ := p
    exact (h2 cfg changes hr r' res h).1

/-- apply the membership changes of the applied entries one after the other (the application calls
`RawNode::apply_conf_change` for each; a rejected change is reported and skipped); `none` if a call
panics -/
def applyChangesNode (r : Raft) : List ConfChangeV2 → Option Raft
  | [] => some r
  | cc :: ccs =>
    match r.applyConfChange cc with
    | .ok (r', _) => applyChangesNode r' ccs
    | _ => none

/-- **the node's configuration is `configOf` of the changes it applied** (C09/C12 `configOf` = the
fold of the changer over the changes) -/
theorem C09_node_config_is_configOf (ccs : List ConfChangeV2) : ∀ (r r' : Raft),
    applyChangesNode r ccs = some r' → r'.prs.toCC = configOf r.prs.toCC (ccs.map opOf) := by
  induction ccs with
  | nil => intro r r' h; cases h; rfl
  | cons cc ccs ih =>
    intro r r' h
    unfold applyChangesNode at h
    split at h
    · rename_i r1 res hr
      rw [ih r1 r' h, C09_apply_conf_change_step r r1 cc res hr]
      rfl
    · cases h

/-- **nodes that applied the same changes from the same configuration hold the same
configuration** -/
theorem C09_same_changes_same_config_node (r1 r2 r1' r2' : Raft) (ccs : List ConfChangeV2)
    (h0 : r1.prs.toCC = r2.prs.toCC) (h1 : applyChangesNode r1 ccs = some r1')
    (h2 : applyChangesNode r2 ccs = some r2') : r1'.prs.toCC = r2'.prs.toCC := by
  rw [C09_node_config_is_configOf ccs r1 r1' h1, C09_node_config_is_configOf ccs r2 r2' h2, h0]

theorem c09_restoreLoop_toCC (n : Nat) (l : List ConfChangeSingle) : ∀ (t : ProgressTracker),
    (match t.restoreLoop n l with
      | .ok t' => Except.ok t'.toCC
      | .error e => .error e) = restoreLoop t.toCC l := by
  induction l with
  | nil => intro t; rfl
  | cons c rest ih =>
    intro t
    unfold ProgressTracker.restoreLoop RaftModel.restoreLoop
    cases hs : simple t.toCC [c] with
    | error e => rfl
    | ok p =>
      obtain ⟨cfg, changes⟩ := p
      simp only
      rw [ih, c09_applyConf_toCC]

/-- **`confchange::restore` on the node's tracker is `restore` of C12** on the changer's view -/
theorem C09_restore_is_restore (t : ProgressTracker) (n : Nat) (cs : ConfState) :
    (match t.restore n cs with
      | .ok t' => Except.ok t'.toCC
      | .error e => .error e) = restore t.toCC cs := by
  unfold ProgressTracker.restore RaftModel.restore
  simp only []
  by_cases hE : (toConfChangeSingle cs).1.isEmpty = true
  · rw [if_pos hE, if_pos hE]; exact c09_restoreLoop_toCC _ _ _
  · rw [if_neg hE, if_neg hE]
    have h1 := c09_restoreLoop_toCC n (toConfChangeSingle cs).1 t
    cases hl : t.restoreLoop n (toConfChangeSingle cs).1 with
    | error e => rw [hl] at h1; simp only at h1; rw [← h1]
    | ok t1 =>
      rw [hl] at h1
      simp only at h1
      rw [← h1]
      simp only
      cases he : enterJoint t1.toCC cs.autoLeave (toConfChangeSingle cs).2 with
      | error e => rfl
      | ok p =>
        obtain ⟨cfg, changes⟩ := p
        simp only
        rw [c09_applyConf_toCC]

/-- **also after restart / snapshot**: a node whose tracker was restored (on an empty tracker, as
`Raft::new` and `Raft::restore` do) from the `ConfState` of the configuration reached by the changes
`ops`, and which then applies the changes `ccs`, holds the configuration `configOf` of all of them —
the same as a node that applied `ops` and `ccs` without ever restarting. -/
theorem C09_node_config_after_restore (ops : List RaftProps.C12.Op) (k n : Nat)
    (pt : ProgressTracker) (r r' : Raft) (ccs : List ConfChangeV2)
    (hr : (ProgressTracker.new k).restore n (configOf Tracker.empty ops).conf.toConfState = .ok pt)
    (hprs : r.prs = pt) (h : applyChangesNode r ccs = some r') :
    r'.prs.toCC = configOf Tracker.empty (ops ++ ccs.map opOf) := by
  have h1 := C09_restore_is_restore (ProgressTracker.new k) n
    (configOf Tracker.empty ops).conf.toConfState
  rw [hr] at h1
  simp only at h1
  have h2 : (ProgressTracker.new k).toCC = Tracker.empty := rfl
  rw [h2, C09_restore_reproduces_config ops] at h1
  injection h1 with h1
  rw [C09_node_config_is_configOf ccs r r' h, hprs, h1]
  unfold configOf RaftProps.C12.runOps
  rw [List.foldl_append]

/-- the link between "voter of its own active configuration" and `promotable`: on a node that is not
leader, a successful `apply_conf_change` sets `promotable` to "`id` is a voter (either half) of the
new configuration" — the flag the two theorems of section 5 read.  (On a leader that removed itself
`post_conf_change` steps down first: fix F14.) -/
theorem C09_promotable_is_voter_after_change (r r' : Raft) (cc : ConfChangeV2) (cs : ConfState)
    (hs : r.state ≠ .leader) (h : r.applyConfChange cc = .ok (r', .ok cs)) :
    r'.promotable = Joint.contains r'.prs.voters r'.id := by
  rw [c09_applyConfChange_eq] at h
  cases hr : (opOf cc).run r.prs.toCC with
  | error e => rw [hr] at h; cases h
  | ok p =>
    obtain ⟨cfg, changes⟩ := p
    rw [hr] at h
    simp only [] at h
    rw [Res.bind_eq_ok_iff] at h
    obtain ⟨⟨r2, cs2⟩, hp, h2⟩ := h
    cases h2
    unfold Raft.postConfChange at hp
    have hne : (r.state == StateRole.leader) = false := by
      cases hst : r.state <;> first | rfl | exact absurd hst hs
    simp only [hne, Bool.and_false, Bool.false_eq_true, if_false, ne_eq, hs, not_false_eq_true,
      true_or, if_true] at hp
    cases hp
    rfl

/-! ## 5. elections (restated from `RaftProps.RN` / `RaftProps.C09` for completeness) -/

/-- no campaign — by timeout, by `campaign()`, on a transfer request — while a committed membership
change is unapplied locally: `hup` returns the node untouched -/
theorem C09_no_campaign_with_unapplied_change_node (r : Raft) (transfer : Bool)
    (h : r.hasUnappliedConfChanges r.hupScanLow (r.raftLog.committed + 1) = .ok true) :
    r.hup transfer = .ok r :=
  RaftProps.RN.hup_blocked_by_unapplied_conf r transfer h

/-- a node that is not a voter of its own configuration (`promotable = false`) never starts an
election on its own: a tick only counts, and a leader's `MsgTimeoutNow` (transfer) is ignored -/
theorem C09_non_voter_never_campaigns_node (r : Raft) (hp : r.promotable = false) :
    (r.state ≠ .leader →
      r.tick = .ok ({ r with electionElapsed := r.electionElapsed + 1 }, false)) ∧
    (∀ m : Message, m.msgType = .msgTimeoutNow → r.stepFollower m = .ok (r, none)) :=
  ⟨fun hs => RaftProps.RN.non_promotable_never_campaigns_on_tick r hs hp,
   fun m hm => RaftProps.RN.non_promotable_ignores_timeout_now r m hm hp⟩

/-! ## the malformed payload and the dropped proposal -/

/-- **a proposal with a membership entry that does not decode is dropped as a whole**
(`ProposalDropped`; raft.rs:2122, 2129) — it is not replaced by an empty entry.  The node is the
filter's output state: the old one, except that an acceptable membership entry *earlier in the same
batch* has already moved `pending_conf_index`. -/
theorem C09_malformed_proposal_dropped (r : Raft) (m : Message) (hm : m.msgType = .msgPropose)
    (hself : (r.prs.get r.id).isSome) (ht : r.leadTransferee = none)
    (hbad : ∃ e ∈ m.entries, payload e = .malformed) :
    r.stepLeader m = .ok ((r.filterProposal 0 m.entries).1, some .proposalDropped) := by
  have hnone := (C09_proposal_filter_malformed m.entries r 0).2 hbad
  have h1 : m.entries.isEmpty = false := by
    obtain ⟨e, he, _⟩ := hbad
    cases hme : m.entries with
    | nil => rw [hme] at he; cases he
    | cons _ _ => rfl
  have h2 : (r.prs.get r.id).isNone = false := by
    cases hg : r.prs.get r.id with
    | none => rw [hg] at hself; cases hself
    | some _ => rfl
  cases hf : r.filterProposal 0 m.entries with
  | mk r1 o =>
    rw [hf] at hnone
    simp only at hnone
    subst hnone
    unfold Raft.stepLeader
    simp [hm, h1, h2, ht, hf]

/-! ## 6. non-vacuity: concrete proposals -/

/-- the C13b witness leader (log 3..4 after a snapshot at 2, applied 2, `pending_conf_index` 0, a
non-joint one-voter configuration), without the uncommitted-size limit -/
def leaderC : Raft := { RaftProps.C13.leader1 with uncommittedState := {} }

/-- the same leader in a joint configuration -/
def leaderJ : Raft :=
  { leaderC with prs := { leaderC.prs with conf := { incoming := [1, 2], outgoing := [1] } } }

/-- `ConfChangeV2 { changes: [AddNode 2] }` (simple) -/
def ccAdd : Entry := { etype := 2, data := [0x12, 0x02, 0x10, 0x02] }
/-- `ConfChangeV2 { transition: Explicit, changes: [AddNode 2] }` (enters a joint configuration) -/
def ccEnter : Entry := { etype := 2, data := [0x08, 0x02, 0x12, 0x02, 0x10, 0x02] }
/-- the empty `ConfChangeV2` (leaves a joint configuration) -/
def ccLeave : Entry := { etype := 2 }
/-- a legacy `ConfChange { change_type: RemoveNode, node_id: 3 }` -/
def ccV1 : Entry := { etype := 1, data := [0x10, 0x01, 0x18, 0x03] }
/-- a `ConfChangeV2` entry whose payload is truncated -/
def ccBad : Entry := { etype := 2, data := [0x12] }
def plain : Entry := { data := [7] }

/-- what the examples look at: `pending_conf_index` after the filter and the filtered batch -/
def fview (p : Raft × Option (List Entry)) : Nat × Option (List Entry) := (p.1.pendingConfIndex, p.2)

example : payload ccAdd = .change { changes := [{ ctype := .addNode, nodeId := 2 }] } ∧
    payload ccEnter = .change { transition := .explicit, changes := [{ ctype := .addNode, nodeId := 2 }] } ∧
    payload ccLeave = .change {} ∧
    payload ccV1 = .change { changes := [{ ctype := .removeNode, nodeId := 3 }] } ∧
    payload ccBad = .malformed ∧ payload plain = .normal := by decide +kernel

/-- **accepted**: one membership entry, nothing pending (`pending_conf_index = 0 ≤ applied = 2`), not
joint, non-empty change: kept, and `pending_conf_index` becomes its future index 5 -/
example : fview (leaderC.filterProposal 0 [ccAdd]) = (5, some [ccAdd]) := by decide +kernel

/-- **a second membership entry is replaced by the empty normal entry** — in the same batch (the
second one sees `pending_conf_index = 6 > applied`; the normal entries pass) … -/
example : fview (leaderC.filterProposal 0 [plain, ccAdd, plain, ccV1, ccEnter]) =
    (6, some [plain, ccAdd, plain, emptyNormal, emptyNormal]) := by decide +kernel

/-- … and in a later proposal, as long as the first one is not applied -/
example : fview (({ leaderC with pendingConfIndex := 5 } : Raft).filterProposal 0 [ccAdd]) =
    (5, some [emptyNormal]) := by decide +kernel

/-- **entering a joint configuration (or any non-empty change) while joint: replaced** -/
example : fview (leaderJ.filterProposal 0 [ccEnter]) = (0, some [emptyNormal]) ∧
    fview (leaderJ.filterProposal 0 [ccAdd]) = (0, some [emptyNormal]) := by decide +kernel

/-- **leaving a joint configuration while not joint: replaced**; while joint: accepted -/
example : fview (leaderC.filterProposal 0 [ccLeave]) = (0, some [emptyNormal]) ∧
    fview (leaderJ.filterProposal 0 [ccLeave]) = (5, some [ccLeave]) := by decide +kernel

/-- a malformed payload aborts the filter — after the acceptable entry before it has moved
`pending_conf_index` -/
example : fview (leaderC.filterProposal 0 [ccAdd, ccBad]) = (5, none) := by decide +kernel

/-- end to end through `step_leader`: the log grows by the filtered batch (entry types 2, 0 at
indexes 5, 6), and the invariant's hypotheses hold on the witness -/
example :
    (match leaderC.stepLeader { msgType := .msgPropose, entries := [ccAdd, ccV1] } with
     | .ok (r, e) => some (e, r.pendingConfIndex, r.raftLog.lastIndex,
         (r.raftLog.abs.ents.map (fun e => (e.index, e.etype))))
     | _ => none) = some (none, 5, 6, [(3, 0), (4, 0), (5, 2), (6, 0)]) ∧
    leaderC.raftLog.applied ≤ leaderC.raftLog.lastIndex ∧ leaderC.state = .leader := by
  refine ⟨by rfl, by decide +kernel, rfl⟩

/-- the witness satisfies `PendingOk` (its log holds no membership entry at all) -/
example : PendingOk leaderC := by
  have h : ∀ i e, leaderC.raftLog.abs.entryAt i = some e → ¬ isConf e := by
    intro i e he
    have habs : leaderC.raftLog.abs =
        (⟨2, some 1, [RaftProps.C14.ent 3 1 5, RaftProps.C14.ent 4 2 20]⟩ : LLog) := by rfl
    rw [habs] at he
    unfold LLog.entryAt at he
    dsimp only at he
    split at he
    · cases he
    · have hm := List.mem_of_getElem? he
      simp only [List.mem_cons, List.not_mem_nil, or_false] at hm
      rcases hm with hm | hm <;> (rw [hm]; decide +kernel)
  exact ⟨fun i e he hc => absurd hc (h i e he), fun i j ei ej hi hc => absurd hc (h i ei hi)⟩

/-- **dropped proposal**: with the size limit of the C13b witness (10 bytes, 8 used) the 4-byte
membership proposal is dropped by `append_entry` *after* the filter has set `pending_conf_index = 5`;
nothing is appended (last index still 4), `PendingOk` is untouched
(`C09_one_pending_change_propose`), but the next membership proposal is refused although the log
holds no membership entry — until index 5, which the next accepted proposal of any kind will occupy,
is applied.  Liveness only. -/
example :
    (match RaftProps.C13.leader1.stepLeader { msgType := .msgPropose, entries := [ccAdd] } with
     | .ok (r, e) => some (e, r.pendingConfIndex, r.raftLog.lastIndex,
         fview (r.filterProposal 0 [ccAdd]))
     | _ => none) = some (some .proposalDropped, 5, 4, (5, some [emptyNormal])) := by rfl

/-- **observation** (harmless, same test as etcd/raft): the filter's "wants to leave" test is
`changes.is_empty()`, coarser than `ConfChangeV2::leave_joint()` (which also requires
`transition == Auto`).  An *explicit*-transition change without changes proposed while joint passes
the filter as a "leave" (and takes the pending slot), but `apply_conf_change` classifies it as
`enter_joint(false)`, the changer rejects it ("config is already joint") and the configuration stays
joint. -/
example :
    payload { etype := 2, data := [0x08, 0x02] } = .change { transition := .explicit } ∧
    fview (leaderJ.filterProposal 0 [{ etype := 2, data := [0x08, 0x02] }]) =
      (5, some [{ etype := 2, data := [0x08, 0x02] }]) ∧
    (opOf { transition := .explicit }).run leaderJ.prs.toCC = .error .alreadyJoint :=
  ⟨by decide +kernel, by decide +kernel, by rfl⟩

/-! ### the hypothesis of `C09_one_pending_change_become_leader` is needed

A node may win an election with **two** membership entries beyond its apply cursor in its log: the
check in `hup` only looks at `(applied, committed]`.  Here a candidate (applied = committed = 2) holds
the uncommitted membership entries 3 and 4 (both received from an earlier leader, which appended the
second after it had applied the first).  `become_leader` succeeds; `pending_conf_index = 4` blocks
every new membership proposal until index 4 is applied, so `ConfBounded` holds, but
`AtMostOneUnapplied` does not: the literal sentence "a leader's log never holds more than one
membership-change entry beyond its applied index" is true of the entries the leader *appends*, not of
those it inherits. -/

def stCC : MemStorage :=
  { snapshotMetadata := { index := 2, term := 1 }, hardState := { commit := 2 },
    entries := [{ ccAdd with term := 1, index := 3 }, { ccV1 with term := 1, index := 4 }] }

def candCC : Raft :=
  { raftLog := { store := stCC, unstable := Unstable.new 5, committed := 2, persisted := 4,
                 applied := 2, maxApplyUnpersistedLogLimit := 0 },
    id := 1, term := 2, state := .candidate,
    prs := { conf := { incoming := [1] }, progress := [(1, Progress.new 5 8)] } }

example : ∃ r', candCC.becomeLeader = .ok r' ∧ r'.pendingConfIndex = 4 ∧ r'.raftLog.applied = 2 ∧
    r'.raftLog.abs.entryAt 3 = some { ccAdd with term := 1, index := 3 } ∧
    r'.raftLog.abs.entryAt 4 = some { ccV1 with term := 1, index := 4 } ∧
    ¬ AtMostOneUnapplied r' := by
  refine ⟨_, rfl, rfl, rfl, rfl, rfl, ?_⟩
  intro h
  have := h 3 4 _ _ (by rfl) (by decide +kernel) (by decide +kernel) (by rfl) (by decide +kernel) (by decide +kernel)
  cases this

end RaftProps.C09
