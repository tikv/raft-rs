import RaftProps.C02c
import RaftProofs.ClusterLeaderAppend

/-!
# C05, cluster level — Log Matching and Leader Append-Only for `ClusterSem`

`ClusterSem` (`RaftModel/Cluster.lean`) is the cluster built from the executable node model: nodes move
only through `Node.call` (the function the correspondence check ties to `/repo`), around them a
monotone transport, applications that may call anything in any order, crashes and restarts from the
node's own storage.  `RaftProps/C02c.lean` proves Election Safety for it; this file proves the log
layer on top of it.

## Hypotheses (all explicit in every theorem)

* `History h`, `FixedCfg cfg`, `cfg.incoming ≠ []`, `Nodup` of both halves — as for Election Safety
  (one leader per term is what makes "the log of the leader of term `t`" meaningful).
* `hinit : InitOk h[0]` — `Init` allows ANY storage; the theorems need the initial storages to be
  well-formed (`MemStorage`'s own invariant: entries contiguous after the snapshot point), to hold no
  entry of term 0, to **agree pairwise** (Log Matching must hold at the start), and to hold no entry
  of a term above any node's stored term (a term that already has entries must be over: otherwise a
  node could still be elected for it and create a second entry with the same index and term).
  Fresh clusters (empty or identical storages) satisfy it.
* `hcon : CStep` between consecutive states — the step is one of the four rules of `Cluster.Step`
  whose application call obeys the storage contract; the **only** extra clause is on `compact k`:
  `k ≤ committed` and `k ≤ persisted` (`CompactOk`).  (Design assumption A5 says "compact only what
  has been applied"; `applied ≤ committed` holds outside the restart window and `applied ≤ persisted`
  with the default `max_apply_unpersisted_log_limit = 0`; the representation invariant of `RaftLog`
  genuinely needs `k ≤ committed + 1`, `k ≤ unstable.offset` and — finding F5 — `k ≤ storage last
  index`; `k ≤ applied` itself is not needed by these theorems.)
* `hnb : NoBatch` — no node has `batch_append` on.  With batching `try_batching` glues new entries
  onto a queued `MsgAppend` whatever term that message was queued in; that the glued message is still
  a slice of the sender's log is false in general and needs another hypothesis and further invariants:
  `RaftProps/C05d.lean`.

No protocol fact is assumed: that transported appends are well-numbered slices of their sender's
log, that entries carry real terms, that a leader holds every entry of its term, … are invariants
proved here (`RaftProofs/ClusterLog{A..K}.lean`, `InvL`).
-/
namespace RaftProps.C05
open RaftModel RaftModel.Cluster RaftModel.Node RaftModel.Raft RaftProps.C02

/-! ## the invariant along a history -/

theorem hist_head {h : List Sys} (hh : History h) : ∃ s0, h[0]? = some s0 := by
  cases hh with
  | init s _ => exact ⟨s, rfl⟩
  | step l s s' _ _ =>
    cases l with
    | nil => exact ⟨s, rfl⟩
    | cons a t => exact ⟨a, rfl⟩

theorem owner_unique (cfg : JointConfig) (hne : cfg.incoming ≠ [])
    (hnd1 : cfg.incoming.Nodup) (hnd2 : cfg.outgoing.Nodup)
    (h : List Sys) (hh : History h) (hfix : ∀ s ∈ h, FixedCfg cfg s) :
    ∀ i j t, Owner h i t → Owner h j t → i = j := by
  intro i j t ⟨s1, h1, l1⟩ ⟨s2, h2, l2⟩
  exact C02_cluster_election_safety cfg hne hnd1 hnd2 h hh hfix s1 s2 h1 h2 i j t l1 l2

/-- **the cluster invariant holds in every state of the history** -/
theorem cluster_inv (cfg : JointConfig) (hne : cfg.incoming ≠ [])
    (hnd1 : cfg.incoming.Nodup) (hnd2 : cfg.outgoing.Nodup)
    (h : List Sys) (hh : History h) (hfix : ∀ s ∈ h, FixedCfg cfg s)
    (hinit : ∀ s : Sys, h[0]? = some s → InitOk s)
    (hcon : ∀ (n : Nat) (a b : Sys), h[n]? = some a → h[n + 1]? = some b → CStep a b)
    (hnb : ∀ s ∈ h, NoBatch s) :
    ∃ s0, h[0]? = some s0 ∧ ∀ s ∈ h, InvL (Owner h) (EntriesOf s0) s := by
  obtain ⟨s0, h0⟩ := hist_head hh
  refine ⟨s0, h0, fun s hs => ?_⟩
  obtain ⟨n, hn⟩ := List.mem_iff_getElem?.1 hs
  exact invL_all h (owner_unique cfg hne hnd1 hnd2 h hh hfix) hinit hcon hnb s0 h0 n s hn

/-! ## what the invariant says of one state -/

/-- a `MsgAppend` that is in the transport or in some node's queue -/
def InFlight (s : Sys) (x : Message) : Prop :=
  x.msgType = .msgAppend ∧ (x ∈ s.net ∨ ∃ i st, s.node i = some st ∧ x ∈ st.raft.msgs)

theorem inv_snapshot_point {own : Nat → Nat → Prop} {ini : Entry → Prop} {s : Sys} (I : InvL own ini s)
    {i j : Nat} {sti stj : NState} (hi : s.node i = some sti) (hj : s.node j = some stj) {t : Nat}
    (hsnap : sti.raft.raftLog.abs.snapTerm = some t) {e e' : Entry}
    (he : sti.raft.raftLog.abs.entryAt (sti.raft.raftLog.abs.snapIdx + 1) = some e)
    (he' : stj.raft.raftLog.abs.entryAt (sti.raft.raftLog.abs.snapIdx + 1) = some e')
    (ht : e.term = e'.term) :
    (∀ b, stj.raft.raftLog.abs.entryAt sti.raft.raftLog.abs.snapIdx = some b → b.term = t) ∧
    (stj.raft.raftLog.abs.snapIdx = sti.raft.raftLog.abs.snapIdx →
      ∀ t', stj.raft.raftLog.abs.snapTerm = some t' → t' = t) := by
  have hag := I.agree (.log i) _ (.log j) _ ⟨sti, hi, rfl⟩ ⟨stj, hj, rfl⟩
  refine ⟨fun b hb => hag.anchor he he' ht hsnap hb, fun hsi t' ht' => ?_⟩
  exact ((hag _ e e' he he' ht).2 t t' ((LLog.prevTerm_first _).trans hsnap)
    (hsi ▸ (LLog.prevTerm_first _).trans ht')).symm

theorem inv_append_matches {own : Nat → Nat → Prop} {ini : Entry → Prop} {s : Sys} (I : InvL own ini s)
    {x : Message} (hx : InFlight s x) {j : Nat} {stj : NState} (hj : s.node j = some stj) :
    ContigFrom (x.index + 1) x.entries ∧ (∀ e ∈ x.entries, e.term ≠ 0) ∧
    ∀ e ∈ x.entries, ∀ e', stj.raft.raftLog.abs.entryAt e.index = some e' → e.term = e'.term →
      (∀ a ∈ x.entries, a.index ≤ e.index →
        ∀ b, stj.raft.raftLog.abs.entryAt a.index = some b → a = b) ∧
      (∀ b, stj.raft.raftLog.abs.entryAt x.index = some b → b.term = x.logTerm) := by
  obtain ⟨hty, hloc⟩ := hx
  -- the message as a chain
  obtain ⟨loc, hat, hc⟩ : ∃ loc, At s loc (msgLog x) ∧ ContigFrom (x.index + 1) x.entries := by
    rcases hloc with hn | ⟨i, st, hi, hq⟩
    · exact ⟨.net, ⟨x, hn, hty, rfl⟩, I.wfn x hn hty⟩
    · exact ⟨.queue i, ⟨st, x, hi, hq, hty, rfl⟩, I.wfq i st x hi hq hty⟩
  have hcg : (msgLog x).Contig := hc
  refine ⟨hc, fun e he => I.nz loc _ hat e.index e (hcg.entryAt_of_mem he), ?_⟩
  intro e he e' he' ht
  have hag := I.agree loc _ (.log j) _ hat ⟨stj, hj, rfl⟩
  have hme := hcg.entryAt_of_mem he
  exact ⟨fun a ha hle b hb => hag.matching hme he' ht hle (hcg.entryAt_of_mem ha) hb,
    fun b hb => hag.anchor hme he' ht rfl hb⟩

/-! ## 1. Log Matching -/

/-- **C05 `cluster_log_matching`** — in every state of a history of `ClusterSem` (fixed voter
configuration, `InitOk` start, contract-abiding steps, no batching) and for any two nodes `i`, `j`:
if their logical logs hold entries with the same term at index `k`, then at every index `k' ≤ k` at
which BOTH still hold an entry, the two entries are equal (term, type, data, context, index). -/
theorem C05_cluster_log_matching (cfg : JointConfig) (hne : cfg.incoming ≠ [])
    (hnd1 : cfg.incoming.Nodup) (hnd2 : cfg.outgoing.Nodup)
    (h : List Sys) (hh : History h) (hfix : ∀ s ∈ h, FixedCfg cfg s)
    (hinit : ∀ s : Sys, h[0]? = some s → InitOk s)
    (hcon : ∀ (n : Nat) (a b : Sys), h[n]? = some a → h[n + 1]? = some b → CStep a b)
    (hnb : ∀ s ∈ h, NoBatch s)
    (s : Sys) (hs : s ∈ h) (i j : Nat) (sti stj : NState)
    (hi : s.node i = some sti) (hj : s.node j = some stj)
    (k : Nat) (e e' : Entry) (he : sti.raft.raftLog.abs.entryAt k = some e)
    (he' : stj.raft.raftLog.abs.entryAt k = some e') (ht : e.term = e'.term)
    (k' : Nat) (hk : k' ≤ k) (a b : Entry) (ha : sti.raft.raftLog.abs.entryAt k' = some a)
    (hb : stj.raft.raftLog.abs.entryAt k' = some b) : a = b := by
  obtain ⟨s0, _, hall⟩ := cluster_inv cfg hne hnd1 hnd2 h hh hfix hinit hcon hnb
  have I := hall s hs
  have hag := I.agree (.log i) _ (.log j) _ ⟨sti, hi, rfl⟩ ⟨stj, hj, rfl⟩
  exact hag.matching he he' ht hk ha hb

/-- the snapshot point as an entry identity: if node `i`'s log starts right after the snapshot point
`(k, t)` (term still known) and both logs hold entries of the same term at `k + 1`, then whatever `j`
holds at `k` — an entry, or its own snapshot point with a known term — has term `t` -/
theorem C05_cluster_snapshot_point_matches (cfg : JointConfig) (hne : cfg.incoming ≠ [])
    (hnd1 : cfg.incoming.Nodup) (hnd2 : cfg.outgoing.Nodup)
    (h : List Sys) (hh : History h) (hfix : ∀ s ∈ h, FixedCfg cfg s)
    (hinit : ∀ s : Sys, h[0]? = some s → InitOk s)
    (hcon : ∀ (n : Nat) (a b : Sys), h[n]? = some a → h[n + 1]? = some b → CStep a b)
    (hnb : ∀ s ∈ h, NoBatch s)
    (s : Sys) (hs : s ∈ h) (i j : Nat) (sti stj : NState)
    (hi : s.node i = some sti) (hj : s.node j = some stj) (t : Nat)
    (hsnap : sti.raft.raftLog.abs.snapTerm = some t) (e e' : Entry)
    (he : sti.raft.raftLog.abs.entryAt (sti.raft.raftLog.abs.snapIdx + 1) = some e)
    (he' : stj.raft.raftLog.abs.entryAt (sti.raft.raftLog.abs.snapIdx + 1) = some e')
    (ht : e.term = e'.term) :
    (∀ b, stj.raft.raftLog.abs.entryAt sti.raft.raftLog.abs.snapIdx = some b → b.term = t) ∧
    (stj.raft.raftLog.abs.snapIdx = sti.raft.raftLog.abs.snapIdx →
      ∀ t', stj.raft.raftLog.abs.snapTerm = some t' → t' = t) := by
  obtain ⟨s0, _, hall⟩ := cluster_inv cfg hne hnd1 hnd2 h hh hfix hinit hcon hnb
  exact inv_snapshot_point (hall s hs) hi hj hsnap he he' ht

/-- **Log Matching for every list of entries of the state**, wherever it sits (`Loc`: the logical
log or the storage of a node, a queued or a transported `MsgAppend`): two such lists that hold
entries with the same term at `k` hold the same entry at every `k' ≤ k` at which both hold one.  (The
storage matters: a restart rebuilds the logical log from it, stale tail included.) -/
theorem C05_cluster_matching_everywhere (cfg : JointConfig) (hne : cfg.incoming ≠ [])
    (hnd1 : cfg.incoming.Nodup) (hnd2 : cfg.outgoing.Nodup)
    (h : List Sys) (hh : History h) (hfix : ∀ s ∈ h, FixedCfg cfg s)
    (hinit : ∀ s : Sys, h[0]? = some s → InitOk s)
    (hcon : ∀ (n : Nat) (a b : Sys), h[n]? = some a → h[n + 1]? = some b → CStep a b)
    (hnb : ∀ s ∈ h, NoBatch s)
    (s : Sys) (hs : s ∈ h) (l1 l2 : Loc) (g1 g2 : LLog) (h1 : At s l1 g1) (h2 : At s l2 g2)
    (k : Nat) (e e' : Entry) (he : g1.entryAt k = some e) (he' : g2.entryAt k = some e')
    (ht : e.term = e'.term)
    (k' : Nat) (hk : k' ≤ k) (a b : Entry) (ha : g1.entryAt k' = some a)
    (hb : g2.entryAt k' = some b) : a = b := by
  obtain ⟨s0, _, hall⟩ := cluster_inv cfg hne hnd1 hnd2 h hh hfix hinit hcon hnb
  exact ((hall s hs).agree l1 g1 l2 g2 h1 h2).matching he he' ht hk ha hb

/-- **C05 `cluster_append_matches`** — the same for the entries carried by any `MsgAppend` that is
in the transport or in a queue, against any node's log: the message is well-numbered (its entries
have the indexes `index + 1, index + 2, …`) and carries no entry of term 0; if the log holds an
entry with the index and term of an entry `e` of the message, then every earlier entry of the
message equals the entry the log holds at its index (where it still holds one), and what the log
holds at the anchor `x.index` has term `x.log_term`. -/
theorem C05_cluster_append_matches (cfg : JointConfig) (hne : cfg.incoming ≠ [])
    (hnd1 : cfg.incoming.Nodup) (hnd2 : cfg.outgoing.Nodup)
    (h : List Sys) (hh : History h) (hfix : ∀ s ∈ h, FixedCfg cfg s)
    (hinit : ∀ s : Sys, h[0]? = some s → InitOk s)
    (hcon : ∀ (n : Nat) (a b : Sys), h[n]? = some a → h[n + 1]? = some b → CStep a b)
    (hnb : ∀ s ∈ h, NoBatch s)
    (s : Sys) (hs : s ∈ h) (x : Message) (hx : InFlight s x) (j : Nat) (stj : NState)
    (hj : s.node j = some stj) :
    ContigFrom (x.index + 1) x.entries ∧ (∀ e ∈ x.entries, e.term ≠ 0) ∧
    ∀ e ∈ x.entries, ∀ e', stj.raft.raftLog.abs.entryAt e.index = some e' → e.term = e'.term →
      (∀ a ∈ x.entries, a.index ≤ e.index →
        ∀ b, stj.raft.raftLog.abs.entryAt a.index = some b → a = b) ∧
      (∀ b, stj.raft.raftLog.abs.entryAt x.index = some b → b.term = x.logTerm) := by
  obtain ⟨s0, _, hall⟩ := cluster_inv cfg hne hnd1 hnd2 h hh hfix hinit hcon hnb
  exact inv_append_matches (hall s hs) hx hj

/-! ## 2. Leader Append-Only

`Extends`, `NodeRel`, `cstep_nodeRel`, `NodeRels.leader_extends`: `RaftProofs/ClusterLeaderAppend.lean`. -/

/-- **C05 `cluster_leader_append_only`** — between two states `h[n]`, `h[n + d]` of the history in
which node `i` is leader of the same term, with no restart of `i` in between (the formulation of
`C06_cluster_term_monotone`), the later logical log extends the earlier one: `last_index` does not
decrease, every entry the earlier log holds at an index the later log still retains (an index above
its snapshot point) is unchanged, and the later log holds nothing else at the old indexes. -/
theorem C05_cluster_leader_append_only (cfg : JointConfig) (hne : cfg.incoming ≠ [])
    (hnd1 : cfg.incoming.Nodup) (hnd2 : cfg.outgoing.Nodup)
    (h : List Sys) (hh : History h) (hfix : ∀ s ∈ h, FixedCfg cfg s)
    (hinit : ∀ s : Sys, h[0]? = some s → InitOk s)
    (hcon : ∀ (n : Nat) (a b : Sys), h[n]? = some a → h[n + 1]? = some b → CStep a b)
    (hnb : ∀ s ∈ h, NoBatch s) (i : Nat) :
    ∀ (d n : Nat) (s s' : Sys) (st st' : NState), h[n]? = some s → h[n + d]? = some s' →
      (∀ m a b, n ≤ m → m < n + d → h[m]? = some a → h[m + 1]? = some b → ¬ IsRestart i a b) →
      s.node i = some st → s'.node i = some st' →
      st.raft.state = .leader → st'.raft.state = .leader → st'.raft.term = st.raft.term →
      st.raft.raftLog.lastIndex ≤ st'.raft.raftLog.lastIndex ∧
      (∀ k e, st.raft.raftLog.abs.entryAt k = some e → st'.raft.raftLog.abs.snapIdx < k →
        st'.raft.raftLog.abs.entryAt k = some e) ∧
      (∀ k e', st'.raft.raftLog.abs.entryAt k = some e' → k ≤ st.raft.raftLog.lastIndex →
        st.raft.raftLog.abs.entryAt k = some e') := by
  obtain ⟨s0, _, hall⟩ := cluster_inv cfg hne hnd1 hnd2 h hh hfix hinit hcon hnb
  intro d n s s' st st' hn hn' hnr hi hi' hl hl' ht
  have hx := (nodeRels_of_nobatch hall hnb hcon).leader_extends i d n s s' st st' hn hn' hnr hi hi'
    hl hl' ht
  have hs : s ∈ h := List.mem_iff_getElem?.2 ⟨n, hn⟩
  have hs' : s' ∈ h := List.mem_iff_getElem?.2 ⟨n + d, hn'⟩
  have e1 := ((hall s hs).inv i st hi).lastIndex_abs
  have e2 := ((hall s' hs').inv i st' hi').lastIndex_abs
  exact ⟨by rw [e1, e2]; exact hx.last, hx.kept, fun k e' he hk => hx.old k e' he (by rw [← e1]; exact hk)⟩

/-! ## 3. a leader's entries carry its term; entries of a term come from its one leader -/

/-- **C05 `cluster_leader_entries_own_term`** — whatever a node that is leader after a step holds
beyond the last index it had before the step carries the leader's term: a leader appends only
entries of its own term (`append_entry` stamps `term = r.term`; nothing else extends a leader's log) -/
theorem C05_cluster_leader_entries_own_term (cfg : JointConfig) (hne : cfg.incoming ≠ [])
    (hnd1 : cfg.incoming.Nodup) (hnd2 : cfg.outgoing.Nodup)
    (h : List Sys) (hh : History h) (hfix : ∀ s ∈ h, FixedCfg cfg s)
    (hinit : ∀ s : Sys, h[0]? = some s → InitOk s)
    (hcon : ∀ (n : Nat) (a b : Sys), h[n]? = some a → h[n + 1]? = some b → CStep a b)
    (hnb : ∀ s ∈ h, NoBatch s)
    (n : Nat) (a b : Sys) (ha : h[n]? = some a) (hb : h[n + 1]? = some b)
    (i : Nat) (sta stb : NState) (hia : a.node i = some sta) (hib : b.node i = some stb)
    (hl : stb.raft.state = .leader) (k : Nat) (e : Entry)
    (he : stb.raft.raftLog.abs.entryAt k = some e) (hk : sta.raft.raftLog.lastIndex < k) :
    e.term = stb.raft.term := by
  obtain ⟨s0, _, hall⟩ := cluster_inv cfg hne hnd1 hnd2 h hh hfix hinit hcon hnb
  have ham : a ∈ h := List.mem_iff_getElem?.2 ⟨n, ha⟩
  have e1 := ((hall a ham).inv i sta hia).lastIndex_abs
  rcases cstep_nodeRel (hall a ham) (hnb a ham) (hcon n a b ha hb) i sta stb hia hib with c | c
  · exact c.own hl k e he (by rw [← e1]; exact hk)
  · obtain ⟨st, st', cfg', rnd, h1, _, h3, h4⟩ := c
    rw [h4, node_setNode_self] at hib
    cases hib
    rw [(CV.boot_booted cfg' _ rnd _ h3).state] at hl
    cases hl

/-- **all entries of a term come from the one leader of that term** (ghost-free: the monotone
transport and Election Safety stand in for a ghost leader log).  For every entry `e` anywhere in a
state of the history — at index `i` of the list `g` that sits at `loc`: a node's logical log, a node's
storage, a queued or a transported `MsgAppend` —:
* `e` was already somewhere in the initial state (`EntriesOf s0 e`), or some node leads `e.term`
  somewhere in the history, and that node is the same for every entry of the term (and for every
  state in which the term is led);
* while a node leads `e.term`, its log reaches at least to `i`: the leader of a term holds (or has
  compacted) every index at which an entry of its term exists anywhere — which is why its next
  `append_entry`, at `last_index + 1`, never collides with an existing entry of its term;
* `e.term ≠ 0`. -/
theorem C05_cluster_entries_come_from_the_leader (cfg : JointConfig) (hne : cfg.incoming ≠ [])
    (hnd1 : cfg.incoming.Nodup) (hnd2 : cfg.outgoing.Nodup)
    (h : List Sys) (hh : History h) (hfix : ∀ s ∈ h, FixedCfg cfg s)
    (hinit : ∀ s : Sys, h[0]? = some s → InitOk s)
    (hcon : ∀ (n : Nat) (a b : Sys), h[n]? = some a → h[n + 1]? = some b → CStep a b)
    (hnb : ∀ s ∈ h, NoBatch s)
    (s : Sys) (hs : s ∈ h) (loc : Loc) (g : LLog) (hat : At s loc g) (i : Nat) (e : Entry)
    (hge : g.entryAt i = some e) :
    ((∃ s0, h[0]? = some s0 ∧ EntriesOf s0 e) ∨
      ∃ k, (∃ s1 ∈ h, leads s1 k e.term) ∧ ∀ k' s2, s2 ∈ h → leads s2 k' e.term → k' = k) ∧
    (∀ k st, s.node k = some st → st.raft.state = .leader → st.raft.term = e.term →
      i ≤ st.raft.raftLog.lastIndex) ∧
    e.term ≠ 0 := by
  obtain ⟨s0, h0, hall⟩ := cluster_inv cfg hne hnd1 hnd2 h hh hfix hinit hcon hnb
  have I := hall s hs
  refine ⟨?_, fun k st hk hl ht => I.lead k st hk hl loc g hat i e hge ht.symm,
    I.nz loc g hat i e hge⟩
  rcases I.orig loc g hat i e hge with c | ⟨k, c⟩
  · exact .inl ⟨s0, h0, c⟩
  · exact .inr ⟨k, c, fun k' s2 hs2 hl2 =>
      owner_unique cfg hne hnd1 hnd2 h hh hfix k' k e.term ⟨s2, hs2, hl2⟩ c⟩

/-! ## 4. Non-vacuity: a leader replicates an entry to a follower (kernel-evaluated)

The history of `C02_cluster_nonvacuous` (three nodes booted from empty storages with voters 1, 2, 3;
node 1 is elected leader of term 1 by the vote of node 2) continued by three steps: node 1 persists
its log (the empty entry of term 1 that `become_leader` appended) and hard state, hands its queue —
the two `MsgAppend`s of `bcast_append` — to the transport, and node 2 is delivered its `MsgAppend` and
appends the entry. -/

section Examples

def c05x_a5 := c02x_st (Node.call c02x_a4 none .stabilize)
def c05x_a6 := c02x_st (Node.call c05x_a5 none .drain)
/-- the `MsgAppend` of node 1 for node 2 -/
def c05x_app := c05x_a5.raft.msgs.head!
def c05x_b4 := c02x_st (Node.call c02x_b3 none (.step c05x_app))

def c05x_s8 : Sys := c02x_s7.setNode 1 c05x_a5
def c05x_s9 : Sys := { (c05x_s8.setNode 1 c05x_a6) with net := c05x_s8.net ++ c05x_a5.raft.msgs }
def c05x_s10 : Sys := c05x_s9.setNode 2 c05x_b4

def c05x_hist : List Sys := c02x_hist ++ [c05x_s8, c05x_s9, c05x_s10]

/-- consecutive states are related by `R` -/
def Chained (R : Sys → Sys → Prop) : List Sys → Prop
  | [] => True
  | [_] => True
  | a :: b :: t => R a b ∧ Chained R (b :: t)

theorem chained_at {R : Sys → Sys → Prop} : ∀ (l : List Sys), Chained R l →
    ∀ (n : Nat) (a b : Sys), l[n]? = some a → l[n + 1]? = some b → R a b := by
  intro l
  induction l with
  | nil => intro _ n a b ha; simp at ha
  | cons x t ih =>
    intro hc n a b ha hb
    cases t with
    | nil => simp at hb
    | cons y t' =>
      cases n with
      | zero =>
        simp only [List.getElem?_cons_zero, Option.some.injEq, Nat.zero_add,
          List.getElem?_cons_succ] at ha hb
        subst ha; subst hb
        exact hc.1
      | succ m =>
        simp only [List.getElem?_cons_succ] at ha hb
        exact ih hc.2 m a b ha hb

/-! ### test histories as lists of moves

A test history names every node state (`c02x_a1 := c02x_st (Node.call (c02x_boot 1) none .campaign)` …)
and every cluster state.  That it is a chain of steps has a definitional part — the node that moves is
in the state named, the next cluster state is the one named — and a part that needs the model to be
run: the call returns `ok`, the message is in the transport, term and vote are persisted.  The second
part is one Boolean per history, so that the kernel evaluates it in one go and runs every call once. -/

def cf_bootOf (i : Nat) (st : NState) : NState :=
  match Node.boot (c02x_config i) st.raft.raftLog.store none with
  | .ok (.ok x) => x
  | _ => default
def cf_bootOk (i : Nat) (st : NState) : Bool :=
  match Node.boot (c02x_config i) st.raft.raftLog.store none with
  | .ok (.ok _) => true
  | _ => false
theorem cf_bootOf_eq (i : Nat) (st : NState) (h : cf_bootOk i st = true) :
    Node.boot (c02x_config i) st.raft.raftLog.store none = .ok (.ok (cf_bootOf i st)) := by
  obtain ⟨x, hx⟩ := c02x_booted h
  unfold cf_bootOf; rw [hx]

/-- one step of a test history: the node that moves, the state it is in, and what happens to it.  The
state is named here, not looked up in the cluster state, so that `Move.next` unfolds to the very term
that defines the next named state and `rfl` finds them equal without running the model; for the same
reason `node` and `st` are reducible: the unifier then compares the named state with what the lookup
finds, and unfolds the name. -/
inductive Move where
  | call (i : Nat) (st : NState) (op : NodeOp)
  | deliver (i : Nat) (st : NState) (m : Message)
  | send (i : Nat) (st : NState)
  /-- crash and restart under `c02x_config i` -/
  | restart (i : Nat) (st : NState)

namespace Move

abbrev node : Move → Nat
  | call i _ _ | deliver i _ _ | send i _ | restart i _ => i

abbrev st : Move → NState
  | call _ st _ | deliver _ st _ | send _ st | restart _ st => st

/-- the state of the node after the step (`default` where the call fails) -/
def st' : Move → NState
  | call _ st op => c02x_st (Node.call st none op)
  | deliver _ st m => c02x_st (Node.call st none (.step m))
  | send _ st => c02x_st (Node.call st none .drain)
  | restart i st => cf_bootOf i st

def next (s : Sys) (mv : Move) : Sys :=
  match mv with
  | send i st => { (s.setNode i mv.st') with net := s.net ++ st.raft.msgs }
  | _ => s.setNode mv.node mv.st'

/-- the premises of `Cluster.Step` other than the lookup of the node, as a test -/
def ok (s : Sys) : Move → Bool
  | call _ st op => appOp op && c02x_ok (Node.call st none op)
  | deliver i st m => decide (m ∈ s.net) && decide (m.to = i) && c02x_ok (Node.call st none (.step m))
  | send _ st =>
    decide (st.raft.raftLog.store.hardState.term = st.raft.term) &&
      decide (st.raft.raftLog.store.hardState.vote = st.raft.vote) &&
      (match Node.call st none .drain with | .ok (.ok, _) => true | _ => false)
  | restart i st => cf_bootOk i st

theorem drain_eq {st : NState}
    (h : (match Node.call st none .drain with | .ok (.ok, _) => true | _ => false) = true) :
    Node.call st none .drain = .ok (.ok, c02x_st (Node.call st none .drain)) := by
  split at h
  · rename_i x heq; rw [heq]; rfl
  · cases h

/-- what `CStep` asks beyond `Step`: `compact` only within the committed, persisted part of the log -/
def okC : Move → Bool
  | call _ st (.compact k) => decide (k ≤ st.raft.raftLog.committed) && decide (k ≤ st.raft.raftLog.persisted)
  | _ => true

theorem cstep (s : Sys) (mv : Move) (hn : s.node mv.node = some mv.st)
    (h : (mv.ok s && mv.okC) = true) : CStep s (mv.next s) := by
  cases mv with
  | call i st op =>
    simp only [ok, Bool.and_eq_true] at h
    refine CStep.call s i st _ none op _ hn h.1.1 (fun k hc => ?_) (c02x_out _ h.1.2)
    subst hc
    simpa [okC, CompactOk] using h.2
  | deliver i st m =>
    simp only [ok, okC, Bool.and_eq_true, decide_eq_true_eq] at h
    exact CStep.deliver s i st _ none m _ hn h.1.1.1 h.1.1.2 (c02x_out _ h.1.2)
  | send i st =>
    simp only [ok, okC, Bool.and_eq_true, decide_eq_true_eq] at h
    exact CStep.send s i st _ hn h.1.1 (drain_eq h.1.2)
  | restart i st =>
    simp only [ok, okC, Bool.and_true] at h
    exact CStep.restart s i st _ (c02x_config i) none hn rfl (cf_bootOf_eq i st h)

/-- the cluster states a list of moves leads through -/
def run (s : Sys) : List Move → List Sys
  | [] => []
  | mv :: t => mv.next s :: run (mv.next s) t

/-- the state each move finds at its node -/
def found (s : Sys) : List Move → List (Option NState)
  | [] => []
  | mv :: t => s.node mv.node :: found (mv.next s) t

def all (p : Sys → Move → Bool) (s : Sys) : List Move → Bool
  | [] => true
  | mv :: t => p s mv && all p (mv.next s) t

/-- a list of moves is a chain of `R`-steps, if a move that finds the state it names and passes the
test `p` is an `R`-step -/
theorem chained {R : Sys → Sys → Prop} {p : Sys → Move → Bool}
    (sound : ∀ s mv, s.node mv.node = some mv.st → p s mv = true → R s (mv.next s))
    (s : Sys) (l : List Move) (hf : found s l = l.map (some ·.st)) (h : all p s l = true) :
    Chained R (s :: run s l) := by
  induction l generalizing s with
  | nil => trivial
  | cons mv t ih =>
    simp only [found, List.map_cons, List.cons.injEq] at hf
    simp only [all, Bool.and_eq_true] at h
    have := ih _ hf.2 h.2
    cases t <;> exact ⟨sound s mv hf.1 h.1, this⟩

theorem csteps (s : Sys) (l : List Move) (hf : found s l = l.map (some ·.st))
    (h : all (fun s mv => mv.ok s && mv.okC) s l = true) : Chained CStep (s :: run s l) :=
  chained cstep s l hf h

/-! ### the step test and a test of every state, in one Boolean

A history is run by the kernel once if everything that has to be run about it — the step test of every move, a
test `q` of every state (fixed configuration, no batching, what the transport holds, …) and the facts about
single states that the end theorem states — is ONE `decide +kernel`: of `all (fun s mv => p s mv && q (mv.next s))
s l && q s` here, in conjunction with the remaining facts. -/

theorem all_and (p q : Sys → Move → Bool) : ∀ (l : List Move) (s : Sys),
    all (fun s mv => p s mv && q s mv) s l = (all p s l && all q s l) := by
  intro l
  induction l with
  | nil => intro s; rfl
  | cons mv t ih =>
    intro s
    simp only [all, ih]
    cases p s mv <;> cases q s mv <;> simp

theorem all_next (q : Sys → Bool) : ∀ (l : List Move) (s : Sys),
    all (fun s mv => q (mv.next s)) s l = (run s l).all q := by
  intro l
  induction l with
  | nil => intro s; rfl
  | cons mv t ih => intro s; simp only [all, run, List.all_cons, ih]

/-- **a test history, checked**: a chain of `R`-steps through states that pass `q`, if a move that finds the
state it names and passes `p` is an `R`-step -/
theorem checked {R : Sys → Sys → Prop} {p : Sys → Move → Bool} {q : Sys → Bool}
    (sound : ∀ s mv, s.node mv.node = some mv.st → p s mv = true → R s (mv.next s))
    (s : Sys) (l : List Move) (hf : found s l = l.map (some ·.st))
    (h : (all (fun s mv => p s mv && q (mv.next s)) s l && q s) = true) :
    Chained R (s :: run s l) ∧ ∀ x ∈ s :: run s l, q x = true := by
  rw [Bool.and_eq_true, all_and, Bool.and_eq_true, all_next] at h
  refine ⟨chained sound s l hf h.1.1, fun x hx => ?_⟩
  rcases List.mem_cons.1 hx with rfl | hx
  · exact h.2
  · exact List.all_eq_true.1 h.1.2 x hx

/-- … of contract-abiding steps -/
theorem checkedC {q : Sys → Bool} (s : Sys) (l : List Move) (hf : found s l = l.map (some ·.st))
    (h : (all (fun s mv => mv.ok s && mv.okC && q (mv.next s)) s l && q s) = true) :
    Chained CStep (s :: run s l) ∧ ∀ x ∈ s :: run s l, q x = true :=
  checked cstep s l hf h

end Move

/-- node 1 campaigns, persists, sends; node 2 is delivered the request, grants, persists, sends; node 1
is delivered the response (`c02x_hist`) -/
def c02x_moves : List Move :=
  [.call 1 (c02x_boot 1) .campaign, .call 1 c02x_a1 .stabilize, .send 1 c02x_a2,
   .deliver 2 (c02x_boot 2) c02x_req, .call 2 c02x_b1 .stabilize, .send 2 c02x_b2,
   .deliver 1 c02x_a3 c02x_resp]

def c05x_moves : List Move :=
  c02x_moves ++ [.call 1 c02x_a4 .stabilize, .send 1 c05x_a5, .deliver 2 c02x_b3 c05x_app]

theorem chained_history : ∀ (l : List Sys) (s : Sys), History (l ++ [s]) → ∀ t : List Sys,
    Chained Step (s :: t) → History (l ++ s :: t) := by
  intro l s hh t
  induction t generalizing l s with
  | nil => intro _; exact hh
  | cons b t ih =>
    intro hc
    have h1 : History (l ++ [s, b]) := History.step l s b hh hc.1
    have : History ((l ++ [s]) ++ b :: t) := ih (l ++ [s]) b (by simpa using h1) hc.2
    simpa using this

theorem Chained.mono {R Q : Sys → Sys → Prop} (hrq : ∀ a b, R a b → Q a b) :
    ∀ l : List Sys, Chained R l → Chained Q l := by
  intro l
  induction l with
  | nil => intro _; trivial
  | cons x t ih =>
    intro hc
    cases t with
    | nil => trivial
    | cons y t' => exact ⟨hrq _ _ hc.1, ih hc.2⟩

def c05x_nobatch (s : Sys) : Bool := s.nodes.all (fun p => !p.2.raft.batchAppend)
theorem c05x_nobatch_ok (s : Sys) (h : c05x_nobatch s = true) : NoBatch s := by
  intro i st hn
  have hm := c02_lookup_mem s.nodes i st hn
  unfold c05x_nobatch at h
  rw [List.all_eq_true] at h
  simpa using h _ hm

/-- the test of every state of the history -/
def c05x_chk (s : Sys) : Bool := c02x_fixed s && c05x_nobatch s

/-- what `C05_cluster_nonvacuous` says of the last state -/
def c05x_last : Prop :=
  (c05x_a6.raft.state = .leader ∧ c05x_a6.raft.term = 1) ∧ c05x_a5.raft.msgs ≠ [] ∧
  c05x_app.msgType = .msgAppend ∧ c05x_app.frm = 1 ∧ c05x_app.to = 2 ∧
  c05x_app.entries = [c05x_app.entries.head!] ∧
  c05x_app.entries.head!.index = 1 ∧ c05x_app.entries.head!.term = 1 ∧
  c05x_a6.raft.raftLog.abs.entryAt 1 = some c05x_app.entries.head! ∧
  c05x_b4.raft.raftLog.abs.entryAt 1 = some c05x_app.entries.head!

instance : Decidable c05x_last := by unfold c05x_last; infer_instance

/-- **the history, run once**: every move is a contract-abiding step, every state passes `c05x_chk`, and the
last state is as stated -/
theorem c05x_eval :
    (Move.all (fun s mv => mv.ok s && mv.okC && c05x_chk (mv.next s)) c02x_s0 c05x_moves &&
      c05x_chk c02x_s0) = true ∧ c05x_last := by decide +kernel

theorem c05x_checked : Chained CStep c05x_hist ∧ ∀ s ∈ c05x_hist, c05x_chk s = true :=
  Move.checkedC c02x_s0 c05x_moves rfl c05x_eval.1

theorem c05x_csteps : Chained CStep c05x_hist := c05x_checked.1

theorem c05x_history : History c05x_hist := by
  have := chained_history [] c02x_s0 (History.init _ c02x_init) _
    (Chained.mono (fun _ _ hc => hc.step) _ c05x_csteps)
  simpa [c05x_hist, c02x_hist] using this

theorem c05x_fixed_all : ∀ s ∈ c05x_hist, FixedCfg c02x_cfg s ∧ NoBatch s := by
  intro s hs
  have := c05x_checked.2 s hs
  rw [c05x_chk, Bool.and_eq_true] at this
  exact ⟨c02x_fixed_ok s this.1, c05x_nobatch_ok s this.2⟩

theorem c05x_initOk : InitOk c02x_s0 := by
  refine ⟨rfl, fun _ => c02x_store, ?_, ?_, ?_, ?_⟩
  · intro i st hn
    obtain ⟨hi, rfl⟩ := c02x_s0_node hn
    exact ⟨c02x_config i, none, c02x_boots i hi⟩
  · intro i st _
    exact ⟨⟨fun k e hk => by simp [c02x_store] at hk,
      (by show c02x_store.snapshotMetadata.index < c02x_store.firstIndex; decide)⟩,
      fun e he => by simp [c02x_store] at he⟩
  · intro i j _ _ _ _
    exact Agree.self _
  · intro i j _ _ _ _ e he
    simp [c02x_store] at he

/-- **non-vacuity of the C05 cluster theorems**: there is a history of `ClusterSem` that satisfies
every hypothesis of the theorems above (fixed voter configuration `{1, 2, 3}`, `InitOk` start,
contract-abiding steps, no batching) and in whose last state node 1 leads term 1, the transport
carries its `MsgAppend` for node 2 with one entry — index 1, term 1 —, and the logical logs of node 1
and of node 2 both hold that entry at index 1. -/
theorem C05_cluster_nonvacuous :
    ∃ h : List Sys, History h ∧ (∀ s ∈ h, FixedCfg c02x_cfg s) ∧
      c02x_cfg.incoming ≠ [] ∧ c02x_cfg.incoming.Nodup ∧ c02x_cfg.outgoing.Nodup ∧
      (∀ s : Sys, h[0]? = some s → InitOk s) ∧
      (∀ (n : Nat) (a b : Sys), h[n]? = some a → h[n + 1]? = some b → CStep a b) ∧
      (∀ s ∈ h, NoBatch s) ∧
      ∃ s ∈ h, ∃ st1 st2 x e, leads s 1 1 ∧ s.node 1 = some st1 ∧ s.node 2 = some st2 ∧
        x ∈ s.net ∧ x.msgType = .msgAppend ∧ x.frm = 1 ∧ x.to = 2 ∧ x.entries = [e] ∧
        e.index = 1 ∧ e.term = 1 ∧
        st1.raft.raftLog.abs.entryAt 1 = some e ∧ st2.raft.raftLog.abs.entryAt 1 = some e :=
  ⟨c05x_hist, c05x_history, fun s hs => (c05x_fixed_all s hs).1, by decide, by decide, by decide,
    fun s hs => by
      have : c05x_hist[0]? = some c02x_s0 := rfl
      rw [this] at hs
      cases hs
      exact c05x_initOk,
    chained_at _ c05x_csteps, fun s hs => (c05x_fixed_all s hs).2,
    c05x_s10, by simp [c05x_hist], c05x_a6, c05x_b4, c05x_app, c05x_app.entries.head!,
    ⟨c05x_a6, rfl, c05x_eval.2.1⟩, rfl, rfl,
    List.mem_append_right _ (c02x_head_mem _ c05x_eval.2.2.1), c05x_eval.2.2.2⟩

/-- … and Log Matching applies to it -/
example (s : Sys) (hs : s ∈ c05x_hist) (i j : Nat) (sti stj : NState)
    (hi : s.node i = some sti) (hj : s.node j = some stj) (e e' : Entry)
    (he : sti.raft.raftLog.abs.entryAt 1 = some e) (he' : stj.raft.raftLog.abs.entryAt 1 = some e')
    (ht : e.term = e'.term) : e = e' :=
  C05_cluster_log_matching c02x_cfg (by decide +kernel) (by decide +kernel) (by decide +kernel) c05x_hist c05x_history
    (fun s hs => (c05x_fixed_all s hs).1)
    (fun s hs => by
      have : c05x_hist[0]? = some c02x_s0 := rfl
      rw [this] at hs
      cases hs
      exact c05x_initOk)
    (chained_at _ c05x_csteps) (fun s hs => (c05x_fixed_all s hs).2) s hs i j sti stj hi hj 1 e e'
    he he' ht 1 (Nat.le_refl _) e e' he he'

/-! ### the stale tail of a storage resurfaces after a crash (harmless for Log Matching)

A follower whose storage holds entries 1, 2, 3 of term 1 accepted an append of term 2 that conflicts
from index 2 on: the logical log is 1 (term 1), 2, 3 (term 2), the new entries are unstable, the
storage still holds the old tail (`MemStorage::append` overwrites it only at the next `stabilize`).  A
crash at that point restarts the node from the storage: `RaftLog::new` yields the OLD log 1, 2, 3 of
term 1.  Both logs are made of links that exist in the cluster, which is why the invariant counts
the stored log (`Loc.store`) among the chains and why Log Matching survives. -/

def c05x_staleStore : MemStorage :=
  { entries := [RaftProps.C14.ent 1 1 0, RaftProps.C14.ent 2 1 0, RaftProps.C14.ent 3 1 0] }

def c05x_staleLog : RaftLog :=
  { store := c05x_staleStore,
    unstable := { entries := [RaftProps.C14.ent 2 2 0, RaftProps.C14.ent 3 2 0], entriesSize := 24,
                  offset := 2 },
    committed := 1, persisted := 1, applied := 1, maxApplyUnpersistedLogLimit := 0 }

/-- the state is a legitimate one: it satisfies the representation invariant -/
example : RaftProps.C14.RaftLogInv c05x_staleLog :=
  ⟨⟨contigFrom_getElem? (by decide +kernel), by decide +kernel⟩,
    ⟨contigFrom_getElem? (by decide +kernel), by decide +kernel, by intro sn hs; cases hs⟩,
    by decide +kernel, by decide +kernel, by decide +kernel, by decide +kernel, by decide +kernel, by decide +kernel, by decide +kernel⟩

example :
    c05x_staleLog.abs.ents.map (fun e => (e.index, e.term)) = [(1, 1), (2, 2), (3, 2)] ∧
    (match RaftLog.new c05x_staleStore 0 with
     | .ok l => l.abs.ents.map (fun e => (e.index, e.term))
     | _ => []) = [(1, 1), (2, 1), (3, 1)] := by decide +kernel

/-! ### observation (outside C05): `send` does not wait for the entries to be persisted

In the last state of the history above node 2 holds the replicated entry only in its unstable log,
its storage is still empty, its queue holds the acknowledgement `MsgAppendResponse{index = 1}` for
node 1 — and `hsPersisted` holds (term and vote were written before), so `Cluster.Step.send` may
release the acknowledgement, after which a `restart` of node 2 forgets the entry.  Log Matching and
Leader Append-Only do not depend on this (they are proved above for exactly this semantics), but a
cluster-level proof of Leader Completeness / State Machine Safety over `ClusterSem` would need the
`send` rule to require the acknowledged entries to be in the storage (the Ready contract: persisted
messages are released only after the Ready's entries are persisted). -/
set_option maxRecDepth 100000 in
example : hsPersisted c05x_b4 ∧ c05x_b4.raft.raftLog.unstable.entries.length = 1 ∧
    c05x_b4.raft.raftLog.store.entries = [] ∧
    c05x_b4.raft.msgs.map (fun x => (x.msgType, x.to, x.index, x.reject)) =
      [(.msgAppendResponse, 1, 1, false)] := by
  exact ⟨by unfold hsPersisted; decide +kernel, by decide +kernel⟩

end Examples

end RaftProps.C05
