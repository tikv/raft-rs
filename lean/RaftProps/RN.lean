import RaftProps.C16
import RaftProps.C17

/-!
# RN — node-local sanity theorems about the executable model of the Raft node

`RN` is not one of the properties: it is the shared engine that ties the model of `src/raft.rs`,
`src/tracker.rs`, `src/tracker/progress.rs`, `src/read_only.rs`, `src/config.rs` and the
`RawNode::step` filter (`RaftModel.Raft*`) to the code by a free-running correspondence
(`rvh raftnode` ⇄ `rvm`, component token `rn`).  The theorems below are node-local lemmas from
DESIGN.md §7 (C16, C17, C09, C08, C15, C20, C02) that are cheap on this model; they hold for ALL
states and messages (no reachability hypothesis), which also documents that the model has the
shape the later property proofs need.
-/
namespace RaftProps.RN
open RaftModel RaftModel.Raft

/-- **C16 `prevote_request_changes_nothing`.**  Whatever the state, whatever the pre-vote request
(any term, any sender, any log position, with or without the transfer context): stepping it never
changes `term` or `vote`. -/
theorem prevote_request_changes_nothing (r r' : Raft) (m : Message) (res : Option RaftError)
    (hm : m.msgType = .msgRequestPreVote) (h : r.step m = .ok (r', res)) :
    r'.term = r.term ∧ r'.vote = r.vote :=
  have h1 := C16.C16_prevote_request_changes_nothing r r' m res hm h
  ⟨h1.1, h1.2.1⟩

/-- **C16 `lease_ignores`.**  With `check_quorum`, a known leader and an unexpired lease, a
higher-term vote or pre-vote request that is not a leadership transfer leaves the node exactly as it
was: no term change, no vote, no response. -/
theorem lease_ignores (r : Raft) (m : Message)
    (hty : m.msgType = .msgRequestVote ∨ m.msgType = .msgRequestPreVote)
    (hterm : r.term < m.term) (hcq : r.checkQuorum = true) (hl : r.leaderId ≠ 0)
    (he : r.electionElapsed < r.electionTimeout) (hctx : m.context ≠ campaignTransfer) :
    r.step m = .ok (r, none) :=
  C16.C16_lease_ignores r m hty hterm hcq hl he hctx

example : ∃ (r : Raft) (m : Message), (m.msgType = .msgRequestVote ∨ m.msgType = .msgRequestPreVote) ∧
    r.term < m.term ∧ r.checkQuorum = true ∧ r.leaderId ≠ 0 ∧
    r.electionElapsed < r.electionTimeout ∧ m.context ≠ campaignTransfer :=
  ⟨{ raftLog := default, checkQuorum := true, leaderId := 2, electionTimeout := 10, term := 3 },
   { msgType := .msgRequestVote, term := 4, frm := 3 }, by decide⟩

/-- **C20 `rawnode_step_rejects` (local messages).**  `RawNode::step` refuses the five local
message types with `StepLocalMsg` and leaves the node untouched. -/
theorem rawnode_step_rejects_local (r : Raft) (m : Message) (h : isLocalMsg m.msgType = true) :
    RawNode.step r m = .ok (r, some .stepLocalMsg) := by
  unfold RawNode.step; simp [h]

/-- **C20 `rawnode_step_rejects` (unknown peer).**  A response-type message from a peer without a
`Progress` is refused with `StepPeerNotFound` and leaves the node untouched. -/
theorem rawnode_step_rejects_unknown_peer (r : Raft) (m : Message)
    (hl : isLocalMsg m.msgType = false) (hr : isResponseMsg m.msgType = true)
    (hp : r.prs.get m.frm = none) :
    RawNode.step r m = .ok (r, some .stepPeerNotFound) := by
  unfold RawNode.step; simp [hl, hr, hp]

/-- the two tables are the ones of raw_node.rs:62-83 (19 message types, checked exhaustively) -/
theorem local_and_response_tables :
    (∀ t, isLocalMsg t = true ↔ t = .msgHup ∨ t = .msgBeat ∨ t = .msgUnreachable ∨
        t = .msgSnapStatus ∨ t = .msgCheckQuorum) ∧
    (∀ t, isResponseMsg t = true ↔ t = .msgAppendResponse ∨ t = .msgRequestVoteResponse ∨
        t = .msgHeartbeatResponse ∨ t = .msgUnreachable ∨ t = .msgRequestPreVoteResponse) := by
  constructor <;> intro t <;> cases t <;> simp [isLocalMsg, isResponseMsg]

/-- **C17 `proposals_refused_while_transferring`.**  A leader with a transfer in progress drops
every (non-empty) proposal with `ProposalDropped` and does not change. -/
theorem proposals_refused_while_transferring (r : Raft) (m : Message)
    (hm : m.msgType = .msgPropose) (hne : m.entries ≠ []) (hself : (r.prs.get r.id).isSome)
    (ht : r.leadTransferee.isSome) :
    r.stepLeader m = .ok (r, some .proposalDropped) :=
  C17.C17_proposals_refused_while_transferring r m hm hne (fun c => by rw [c] at ht; cases ht)

/-- **C17 `transfer_request_validation`.**  A transfer request naming an unknown peer, a learner,
or the target of the transfer already in progress changes nothing. -/
theorem transfer_request_validation (r : Raft) (m : Message)
    (h : r.prs.get m.frm = none ∨ r.prs.conf.learners.contains m.frm = true ∨
         r.leadTransferee = some m.frm) :
    r.handleTransferLeader m = .ok r :=
  C17.C17_transfer_request_ignored r m h

/-- **C09 `non_promotable_never_campaigns` (timeout path).**  A node that is not promotable only
counts the tick: no campaign, no message, no term change, whatever the elapsed time. -/
theorem non_promotable_never_campaigns_on_tick (r : Raft) (hs : r.state ≠ .leader)
    (hp : r.promotable = false) :
    r.tick = .ok ({ r with electionElapsed := r.electionElapsed + 1 }, false) := by
  unfold Raft.tick
  have : r.tickElection = .ok ({ r with electionElapsed := r.electionElapsed + 1 }, false) := by
    unfold Raft.tickElection; simp [hp]
  cases hst : r.state <;> simp_all

/-- **C09 (`MsgTimeoutNow` path).**  A follower that is not promotable ignores `MsgTimeoutNow`. -/
theorem non_promotable_ignores_timeout_now (r : Raft) (m : Message)
    (hm : m.msgType = .msgTimeoutNow) (hp : r.promotable = false) :
    r.stepFollower m = .ok (r, none) :=
  C17.C17_non_promotable_ignores_timeout_now r m hm hp

/-- **C09 `hup_blocked_by_unapplied_conf`.**  While a configuration change sits between `applied`
and `committed`, `hup` (timeout, explicit campaign and transfer alike) is a no-op. -/
theorem hup_blocked_by_unapplied_conf (r : Raft) (transfer : Bool)
    (h : r.hasUnappliedConfChanges r.hupScanLow (r.raftLog.committed + 1) = .ok true) :
    r.hup transfer = .ok r := by
  unfold Raft.hup
  split
  · rfl
  · split
    · rfl
    · rw [h]

/-- **C08 `readIndex_requires_own_term_commit`.**  A leader that has not committed an entry of its
own term drops `MsgReadIndex` without recording or answering anything. -/
theorem readIndex_requires_own_term_commit (r : Raft) (m : Message)
    (hm : m.msgType = .msgReadIndex) (hc : r.commitToCurrentTerm = .ok false) :
    r.stepLeader m = .ok (r, none) := by
  unfold Raft.stepLeader; simp [hm, hc]

/-- **C15 `restore_decision` (stale part).**  A snapshot below the commit index is never
installed and changes nothing. -/
theorem stale_snapshot_rejected (r : Raft) (snap : Snapshot)
    (h : snap.metadata.index < r.raftLog.committed) : r.restore snap = .ok (r, false) := by
  unfold Raft.restore; simp [h]

/-- **C02 `vote_reset_only_on_term_change`.**  `reset` keeps the vote exactly when the term does
not change (so `become_leader`, a lost election and a check-quorum step-down keep it), and the
new term is the argument. -/
theorem vote_reset_only_on_term_change (r : Raft) (t : Nat) :
    (r.reset t).term = t ∧ (r.reset t).vote = if r.term ≠ t then 0 else r.vote :=
  reset_term_vote r t

/-- **C02 `canVote_sound`.**  A real vote request (not a pre-vote) can only be granted when the
node has not voted for anyone else in its term: `can_vote` implies `vote = from ∨ vote = none`. -/
theorem canVote_sound (r : Raft) (m : Message) (hm : m.msgType = .msgRequestVote)
    (h : r.canVote m = true) : r.vote = m.frm ∨ (r.vote = 0 ∧ r.leaderId = 0) := by
  unfold Raft.canVote at h
  simp [hm] at h
  rcases h with h | h
  · exact Or.inl h
  · exact Or.inr h

/-- **Finding F13 (genuine defect of raft-rs, repaired by a `fix:` commit).**  A node at term 0 that
*rejects* a pre-vote request used to panic: the rejection carries `term = self.term = 0` and `send`
was fatal for every (pre-)vote response without a term.  With priorities this is reachable in a
fresh cluster (every node at term 0 with an empty log, the receiver's priority higher than the
candidate's).  After the repair a rejected pre-vote response is sent whatever its term
(replay: `corpus/RN/F13-prevote-reject-term0.trace`). -/
theorem prevote_reject_is_always_sent (r : Raft) (m' : Message)
    (h1 : m'.msgType = .msgRequestPreVoteResponse) (h2 : m'.reject = true) :
    r.send m' = .ok { r with msgs := r.msgs ++ [r.sendFill m'] } := by
  simp [Raft.send, isVoteMsg, h1, h2]

end RaftProps.RN
