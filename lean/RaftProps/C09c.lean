import RaftProofs.ClusterConfJ
import RaftProps.PDGuards
import RaftProps.C02c
import RaftProps.C05c

/-!
# C09 at the cluster level (plain `History`, membership free to change)

Property text (C09): *"A leader's log never holds more than one membership-change entry beyond its
applied index […]; and no node starts an election while a committed membership change is still
unapplied locally.  Every node's active configuration (voters, outgoing voters, learners, staged
learners, auto-leave) is determined by the initial configuration and the membership entries it has
applied or received by snapshot […].  A node that is not a voter of its own active configuration never
starts an election on its own, whether by timeout or on a transfer request."*

Everything here is about `ClusterSem` (`RaftModel/Cluster.lean`): clusters of node models moving by
`call` / `deliver` / `send` / `restart`, for **plain** histories — no `FixedCfg`, no commit-layer
bundle.  The facts are per step (or node-local invariants), lifted from the node-level theorems of
`RaftProps/C09.lean`, `RaftProps/C09b.lean`, `RaftProps/PDGuards.lean` to EVERY `NodeOp`
(`RaftProofs/ClusterConf{A,B,D..F}.lean`).

* **tracker view.**  `r.prs.toCC : Tracker` is the changer's view of a node's tracker: the
  configuration `prs.conf` (voters, outgoing voters, learners, staged learners, auto-leave) and the
  key set of the progress map — exactly what `confchange::Changer` reads and `C09.configOf` folds over.
* **labels.**  `Cluster.LStep s l s'` is `Cluster.Step s s'` with the constructor and its arguments
  named by `l : Label` (`step_iff_lstep`); `Cluster.Trace` is a labelled run; any two states of a
  history are joined by one (`hist_trace`).
-/
namespace RaftProps.C09c
open RaftModel RaftModel.Cluster RaftModel.Node RaftModel.Raft RaftProps.C09

/-! ## 2. the configuration changes only by `apply_conf_change`, a snapshot restore, or a restart -/

/-- **C09 `cluster_conf_changes_only_by_apply`** — one labelled step `s → s'` of the cluster, any
node `k` present before and after.  Its tracker view (configuration + progress key set) is unchanged
unless the step is
* the application's call `apply_conf_change cc` on `k`: then the new view is `C12.step` of the old one
  and the changer's method for `cc` (`C09_apply_conf_change_is_changer`: run `leave_joint` /
  `enter_joint` / `simple`; on success `apply_conf`, on error nothing);
* the delivery to `k` of a `MsgSnapshot` whose snapshot is restored: then the view is
  `confchange::restore` of the snapshot's `ConfState` on the empty tracker (`C09_restore_is_restore`);
* a restart of `k`: then the view is `confchange::restore` of the stored `ConfState` on the empty
  tracker.
Every other `NodeOp` (tick, propose, campaign, every other delivered message, persistence and apply
steps, `persist_snap`, compaction, knobs, …), `send`, and every step of another node leave it as it
was.  (`StepConf` spells these cases out by the label.) -/
theorem C09_cluster_conf_changes_only_by_apply {s s' : Sys} {l : Label} (h : LStep s l s')
    (k : Nat) (st st' : NState) (h1 : s.node k = some st) (h2 : s'.node k = some st') :
    StepConf l k st st' :=
  lstep_conf h k st st' h1 h2

/-- the same, readable without `StepConf`: for an unlabelled `Step`, the three ways the view of a
node can change -/
theorem C09_cluster_conf_changes_only_by_apply_step {s s' : Sys} (h : Step s s')
    (k : Nat) (st st' : NState) (h1 : s.node k = some st) (h2 : s'.node k = some st') :
    st'.raft.prs.toCC = st.raft.prs.toCC ∨
    (∃ cc rnd, LStep s (.call k rnd (.applyConfChange cc)) s' ∧
      st'.raft.prs.toCC = RaftProps.C12.step st.raft.prs.toCC (opOf cc)) ∨
    (∃ m rnd, LStep s (.deliver k rnd m) s' ∧ m.msgType = .msgSnapshot ∧
      RaftModel.restore Tracker.empty m.snapshot.metadata.confState = .ok st'.raft.prs.toCC) ∨
    (∃ c rnd, LStep s (.restart k c rnd) s' ∧
      RaftModel.restore Tracker.empty st.raft.raftLog.store.confState = .ok st'.raft.prs.toCC) := by
  obtain ⟨l, hl⟩ := step_iff_lstep.1 h
  have hc := lstep_conf hl k st st' h1 h2
  cases l with
  | call i rnd op =>
    cases op with
    | applyConfChange cc =>
      simp only [StepConf] at hc
      by_cases hi : i = k
      · subst hi
        rw [if_pos rfl] at hc
        exact .inr (.inl ⟨cc, rnd, hl, hc⟩)
      · rw [if_neg hi] at hc
        exact .inl hc
    | _ => exact .inl hc
  | deliver i rnd m =>
    rcases hc with hc | ⟨hi, hm, hc⟩
    · exact .inl hc
    · subst hi
      exact .inr (.inr (.inl ⟨m, rnd, hl, hm, hc⟩))
  | send i => exact .inl hc
  | restart i c rnd =>
    simp only [StepConf] at hc
    by_cases hi : i = k
    · subst hi
      rw [if_pos rfl] at hc
      exact .inr (.inr (.inr ⟨c, rnd, hl, hc⟩))
    · rw [if_neg hi] at hc
      exact .inl hc

/-- in the property's words: voters, outgoing voters, learners, staged learners and auto-leave
(`prs.conf`) of a node change in a step of a history only if the step is one of the three above -/
theorem C09_cluster_conf_fields_change_only_by_apply (h : List Sys) (hh : History h) (n : Nat)
    (s s' : Sys) (hn : h[n]? = some s) (hn' : h[n + 1]? = some s')
    (k : Nat) (st st' : NState) (h1 : s.node k = some st) (h2 : s'.node k = some st')
    (hne : st'.raft.prs.conf ≠ st.raft.prs.conf) :
    (∃ cc rnd, LStep s (.call k rnd (.applyConfChange cc)) s') ∨
    (∃ m rnd, LStep s (.deliver k rnd m) s' ∧ m.msgType = .msgSnapshot) ∨
    (∃ c rnd, LStep s (.restart k c rnd) s') := by
  rcases C09_cluster_conf_changes_only_by_apply_step (hist_step_at hh n s s' hn hn') k st st' h1 h2
    with g | ⟨cc, rnd, g, _⟩ | ⟨m, rnd, g, hm, _⟩ | ⟨c, rnd, g, _⟩
  · exact absurd (congrArg Tracker.conf g) hne
  · exact .inl ⟨cc, rnd, g⟩
  · exact .inr (.inl ⟨m, rnd, g, hm⟩)
  · exact .inr (.inr ⟨c, rnd, g⟩)

/-- **C09 `cluster_config_is_function_of_applied_changes`** — along any labelled run of the cluster
on which node `i` is neither restarted nor delivered a `MsgSnapshot`, the node's tracker view at the
end is `configOf` (the fold of the changer, `C09_node_config_is_configOf`) of its view at the start
and the list of changes it applied (`apply_conf_change` calls, accepted or rejected — a rejected one
is the identity of the fold), in order. -/
theorem C09_cluster_config_is_function_of_applied_changes {s s' : Sys} {ls : List Label}
    (ht : Trace s ls s') (i : Nat) (hfree : ReconfFree i ls) (st st' : NState)
    (h1 : s.node i = some st) (h2 : s'.node i = some st') :
    st'.raft.prs.toCC = configOf st.raft.prs.toCC ((appliedBy i ls).map opOf) :=
  trace_conf ht i hfree st st' h1 h2

/-- … between any two states of a history -/
theorem C09_cluster_config_is_function_of_applied_changes_hist (h : List Sys) (hh : History h)
    (a b : Nat) (hab : a ≤ b) (s s' : Sys) (ha : h[a]? = some s) (hb : h[b]? = some s') :
    ∃ ls, Trace s ls s' ∧ ∀ i, ReconfFree i ls → ∀ st st', s.node i = some st →
      s'.node i = some st' →
      st'.raft.prs.toCC = configOf st.raft.prs.toCC ((appliedBy i ls).map opOf) := by
  obtain ⟨ls, ht⟩ := hist_trace hh a b s s' hab ha hb
  exact ⟨ls, ht, fun i hf st st' h1 h2 => trace_conf ht i hf st st' h1 h2⟩

/-- **two nodes (of the same or of different clusters / runs) that start from the same tracker view
and apply the same changes hold identical configurations** — voters, outgoing voters, learners, staged
learners, auto-leave and progress key set -/
theorem C09_cluster_same_changes_same_config {s1 s1' s2 s2' : Sys} {ls1 ls2 : List Label}
    (ht1 : Trace s1 ls1 s1') (ht2 : Trace s2 ls2 s2') (i j : Nat)
    (hf1 : ReconfFree i ls1) (hf2 : ReconfFree j ls2)
    (sti sti' stj stj' : NState) (hi : s1.node i = some sti) (hi' : s1'.node i = some sti')
    (hj : s2.node j = some stj) (hj' : s2'.node j = some stj')
    (hstart : sti.raft.prs.toCC = stj.raft.prs.toCC)
    (hsame : appliedBy i ls1 = appliedBy j ls2) :
    sti'.raft.prs.toCC = stj'.raft.prs.toCC ∧ sti'.raft.prs.conf = stj'.raft.prs.conf := by
  have e1 := trace_conf ht1 i hf1 sti sti' hi hi'
  have e2 := trace_conf ht2 j hf2 stj stj' hj hj'
  have e : sti'.raft.prs.toCC = stj'.raft.prs.toCC := by rw [e1, e2, hstart, hsame]
  exact ⟨e, congrArg Tracker.conf e⟩

/-- a node and its restarted self: after a restart the view is `restore` of the stored `ConfState`;
from there on the fold of the applied changes again -/
theorem C09_cluster_config_after_restart {s s1 s' : Sys} {ls : List Label} {c : Config}
    {rnd : Option Nat} (i : Nat) (h0 : LStep s (.restart i c rnd) s1) (ht : Trace s1 ls s')
    (hfree : ReconfFree i ls) (st st' : NState) (h1 : s.node i = some st)
    (h2 : s'.node i = some st') :
    ∃ t, RaftModel.restore Tracker.empty st.raft.raftLog.store.confState = .ok t ∧
      st'.raft.prs.toCC = configOf t ((appliedBy i ls).map opOf) := by
  cases h0 with
  | restart _ stx stx' _ _ g1 g2 g3 =>
    rw [h1] at g1; cases g1
    have hb : ConfRestored st.raft.raftLog.store.confState stx'.raft := boot_conf c _ rnd stx' g3
    exact ⟨_, hb, trace_conf ht i hfree stx' st' (node_setNode_self _ _ _) h2⟩

/-! ## 1. the campaign guard -/

/-- the steps that can start an election on node `i`: the application's `tick` (election timeout) or
`campaign`, or the delivery of a `MsgTimeoutNow` (leader transfer).  (`MsgHup` is a local message:
`RawNode::step` refuses it, and the application's `campaign` is the only way to step one.) -/
def ElectLabel (i : Nat) : Label → Prop
  | .call j _ .tick => j = i
  | .call j _ .campaign => j = i
  | .deliver j _ m => j = i ∧ m.msgType = .msgTimeoutNow
  | _ => False

/-- **C09 `cluster_campaign_guard`, one step.**  If a labelled step takes node `i` into a
(pre-)candidacy it was not in (`Elected`: it ends up candidate or pre-candidate, and role or term
differ from before; the one exception is a pre-candidate that wins its pre-vote and goes on to the
real election of the same campaign — that campaign was guarded when the node became pre-candidate),
then in the state BEFORE the step
* the node is promotable (`promotable = true`: the flag `post_conf_change` sets to "voter of my own
  configuration"), and
* its own scan `has_unapplied_conf_changes` over `(applied, committed]` answers `false`;
and the step is `tick`, `campaign`, or the delivery of a `MsgTimeoutNow` on `i` — no other `NodeOp`,
no `send`, no `restart`, no step of another node makes `i` a candidate.  No log invariant is needed. -/
theorem C09_cluster_campaign_guard_step {s s' : Sys} {l : Label} (h : LStep s l s') (i : Nat)
    (st st' : NState) (h1 : s.node i = some st) (h2 : s'.node i = some st')
    (hel : Elected st.raft st'.raft) : HupGuard st.raft ∧ ElectLabel i l := by
  rcases lstep_at h h1 h2 with ⟨rfl, hd⟩ | ⟨_, rfl⟩
  · cases l with
    | call j rnd op =>
      obtain ⟨g2, res, g3⟩ := hd
      obtain ⟨hg, ho⟩ := call_elected st st' rnd op res g3 hel
      refine ⟨hg, ?_⟩
      cases op <;> first
        | exact rfl
        | exact ho.elim
        | (cases g2; done)
    | deliver j rnd m =>
      obtain ⟨res, g4⟩ := hd
      exact (call_elected st st' rnd (.step m) res g4 hel).imp (fun g => g) fun ho => ⟨rfl, ho⟩
    | send j => exact (call_elected st st' none .drain _ hd hel).2.elim
    | restart j c rnd => exact absurd hel (boot_not_elected st.raft hd.2)
  · exact absurd hel (not_elected_same rfl rfl)

/-- **C09 `cluster_campaign_guard`** — for every step `h[n] → h[n+1]` of a history and every node `i`
that the step takes into a (pre-)candidacy: in `h[n]` the node is promotable and its scan for an
unapplied membership change in `(applied, committed]` is negative, and the step is an election timeout
(`tick`), a `campaign` call or a delivered `MsgTimeoutNow` on `i`. -/
theorem C09_cluster_campaign_guard (h : List Sys) (hh : History h) (n : Nat) (s s' : Sys)
    (hn : h[n]? = some s) (hn' : h[n + 1]? = some s') (i : Nat) (st st' : NState)
    (h1 : s.node i = some st) (h2 : s'.node i = some st') (hel : Elected st.raft st'.raft) :
    st.raft.promotable = true ∧
    st.raft.hasUnappliedConfChanges st.raft.hupScanLow (st.raft.raftLog.committed + 1) = .ok false ∧
    ∃ l, LStep s l s' ∧ ElectLabel i l := by
  obtain ⟨l, hl⟩ := step_iff_lstep.1 (hist_step_at hh n s s' hn hn')
  obtain ⟨⟨g1, g2⟩, g3⟩ := C09_cluster_campaign_guard_step hl i st st' h1 h2 hel
  exact ⟨g1, g2, l, hl, g3⟩

/-- **every route into a candidacy, one step** (completeness of the case analysis): if after a labelled
step node `i` is candidate or pre-candidate and its (role, term) changed, then EITHER the guard held
before the step and the step is `tick` / `campaign` / a delivered `MsgTimeoutNow` on `i`, OR `i` was a
pre-candidate, is now candidate, and the step delivered a `MsgRequestPreVoteResponse` to it — it won
its pre-vote and went on to the real election (`campaign_after_pre_vote`), the one continuation that
raft-rs (and the model) does not guard a second time. -/
theorem C09_cluster_every_route_into_candidacy_step {s s' : Sys} {l : Label} (h : LStep s l s')
    (i : Nat) (st st' : NState) (h1 : s.node i = some st) (h2 : s'.node i = some st')
    (hc : st'.raft.state = .candidate ∨ st'.raft.state = .preCandidate)
    (hne : ¬ (st'.raft.state = st.raft.state ∧ st'.raft.term = st.raft.term)) :
    (HupGuard st.raft ∧ ElectLabel i l) ∨
    (st.raft.state = .preCandidate ∧ st'.raft.state = .candidate ∧
      ∃ m rnd, l = .deliver i rnd m ∧ m.msgType = .msgRequestPreVoteResponse) := by
  have hel : Elected0 st.raft st'.raft := ⟨hc, hne⟩
  rcases lstep_at h h1 h2 with ⟨rfl, hd⟩ | ⟨_, rfl⟩
  · cases l with
    | call j rnd op =>
      obtain ⟨g2, res, g3⟩ := hd
      rcases call_cand_routes st st' rnd op res g3 hel with ⟨hg, ho⟩ | ⟨_, _, m, hm, _⟩
      · refine .inl ⟨hg, ?_⟩
        cases op <;> first
          | exact rfl
          | exact ho.elim
          | (cases g2; done)
      · exfalso
        rcases hm with hm | hm <;> (subst hm; cases g2)
    | deliver j rnd m =>
      obtain ⟨res, g4⟩ := hd
      rcases call_cand_routes st st' rnd (.step m) res g4 hel with ⟨hg, ho⟩ | ⟨a1, a2, m', hm, a3⟩
      · exact .inl ⟨hg, rfl, ho⟩
      · refine .inr ⟨a1, a2, m, rnd, rfl, ?_⟩
        rcases hm with hm | hm
        · cases hm; exact a3
        · cases hm
    | send j =>
      rcases call_cand_routes st st' none .drain _ hd hel with ⟨_, ho⟩ | ⟨_, _, m, hm, _⟩
      · exact ho.elim
      · rcases hm with hm | hm <;> cases hm
    | restart j c rnd => exact absurd hel (ne0_follower (CV.boot_booted c _ rnd st' hd.2).state)
  · exact absurd hel (ne0_same rfl rfl)

/-- … for every step `h[n] → h[n+1]` of a history -/
theorem C09_cluster_every_route_into_candidacy (h : List Sys) (hh : History h) (n : Nat) (s s' : Sys)
    (hn : h[n]? = some s) (hn' : h[n + 1]? = some s') (i : Nat) (st st' : NState)
    (h1 : s.node i = some st) (h2 : s'.node i = some st')
    (hc : st'.raft.state = .candidate ∨ st'.raft.state = .preCandidate)
    (hne : ¬ (st'.raft.state = st.raft.state ∧ st'.raft.term = st.raft.term)) :
    ∃ l, LStep s l s' ∧
      ((HupGuard st.raft ∧ ElectLabel i l) ∨
       (st.raft.state = .preCandidate ∧ st'.raft.state = .candidate ∧
        ∃ m rnd, l = .deliver i rnd m ∧ m.msgType = .msgRequestPreVoteResponse)) := by
  obtain ⟨l, hl⟩ := step_iff_lstep.1 (hist_step_at hh n s s' hn hn')
  exact ⟨l, hl, C09_cluster_every_route_into_candidacy_step hl i st st' h1 h2 hc hne⟩

/-- the role changes `Elected` covers, spelled out: from follower or leader to candidate or
pre-candidate; between candidate and pre-candidate towards pre-candidate; or staying candidate with a
new term -/
theorem C09_elected_of {r r' : Raft}
    (h : ((r.state = .follower ∨ r.state = .leader) ∧
          (r'.state = .candidate ∨ r'.state = .preCandidate)) ∨
        (r.state = .candidate ∧ r'.state = .preCandidate) ∨
        (r.state = .candidate ∧ r'.state = .candidate ∧ r.term < r'.term)) : Elected r r' := by
  rcases h with ⟨h1, h2⟩ | ⟨h1, h2⟩ | ⟨h1, h2, h3⟩
  · refine ⟨h2, fun hc => ?_, fun hc => ?_⟩
    · rcases h1 with g | g <;> rcases h2 with q | q <;> (rw [hc.1, g] at q; cases q)
    · rcases h1 with g | g <;> (rw [g] at hc; cases hc.1)
  · refine ⟨.inr h2, fun hc => ?_, fun hc => ?_⟩
    · rw [hc.1, h1] at h2; cases h2
    · rw [h1] at hc; cases hc.1
  · refine ⟨.inl h2, fun hc => ?_, fun hc => ?_⟩
    · omega
    · rw [h1] at hc; cases hc.1

/-- **the entry-level reading** (conditional — `_partial`): if moreover the node's log in `h[n]`
satisfies the representation invariant `RaftLogInv` (`PD_hasUnappliedConfChanges_spec` needs it to
read the scan), then **no membership-change entry lies at any index in `(applied, committed]` of its
log** when it starts the election.  What is missing for an unconditional statement: `RaftLogInv` of
every node along plain histories — the cluster-level log invariant (`RaftProps.C05.cluster_inv`) is
proved only for `FixedCfg` histories with `InitOk` / `CStep` / `NoBatch`. -/
theorem C09_cluster_campaign_guard_entries_partial (h : List Sys) (hh : History h) (n : Nat)
    (s s' : Sys) (hn : h[n]? = some s) (hn' : h[n + 1]? = some s') (i : Nat) (st st' : NState)
    (h1 : s.node i = some st) (h2 : s'.node i = some st') (hel : Elected st.raft st'.raft)
    (hinv : RaftProps.C14.RaftLogInv st.raft.raftLog) :
    st.raft.promotable = true ∧
    ∀ k e, st.raft.raftLog.applied < k → k ≤ st.raft.raftLog.committed →
      st.raft.raftLog.abs.entryAt k = some e → ¬ isConf e := by
  obtain ⟨g1, g2, _⟩ := C09_cluster_campaign_guard h hh n s s' hn hn' i st st' h1 h2 hel
  refine ⟨g1, fun k e hk1 hk2 he hc => ?_⟩
  obtain ⟨b, hb, hiff⟩ := RaftProps.PDGuards.PD_campaign_scan st.raft hinv
  rw [g2] at hb
  cases hb
  have : false = true := hiff.2 ⟨k, e, hk1, hk2, he, hc⟩
  cases this

/-- **`promotable` is "voter of my own active configuration"** — in every state of every history
(no hypothesis): node `i` carries id `i`, and its `promotable` flag equals `i ∈ voters ∪
outgoing voters` of its own tracker.  (`post_conf_change` sets the flag whenever the configuration is
replaced — `apply_conf_change`, `restore`, `RawNode::new` —, and nothing else touches configuration, id
or flag: `C09_cluster_conf_changes_only_by_apply`.) -/
theorem C09_cluster_promotable_is_voter (h : List Sys) (hh : History h) (s : Sys) (hs : s ∈ h)
    (i : Nat) (st : NState) (hi : s.node i = some st) :
    st.raft.id = i ∧ st.raft.promotable = Joint.contains st.raft.prs.voters i := by
  obtain ⟨g1, g2⟩ := prom_hist hh s hs i st hi
  refine ⟨g1, ?_⟩
  have : st.raft.promotable = Joint.contains st.raft.prs.voters st.raft.id := g2
  rw [g1] at this
  exact this

/-- **C09 `cluster_campaign_guard`, in the property's words**: a node that starts an election in a
step of a history IS a voter (incoming or outgoing) of its own active configuration in the state before
the step, and its scan for an unapplied committed membership change is negative -/
theorem C09_cluster_campaign_guard_voter (h : List Sys) (hh : History h) (n : Nat) (s s' : Sys)
    (hn : h[n]? = some s) (hn' : h[n + 1]? = some s') (i : Nat) (st st' : NState)
    (h1 : s.node i = some st) (h2 : s'.node i = some st') (hel : Elected st.raft st'.raft) :
    Joint.contains st.raft.prs.voters i = true ∧
    st.raft.hasUnappliedConfChanges st.raft.hupScanLow (st.raft.raftLog.committed + 1) = .ok false ∧
    ∃ l, LStep s l s' ∧ ElectLabel i l := by
  obtain ⟨g1, g2, g3⟩ := C09_cluster_campaign_guard h hh n s s' hn hn' i st st' h1 h2 hel
  have hs : s ∈ h := List.mem_of_getElem? hn
  exact ⟨by rw [← (C09_cluster_promotable_is_voter h hh s hs i st h1).2]; exact g1, g2, g3⟩

/-- **a node that is not a voter of its own active configuration never starts an election on its
own** — not by timeout, not by `campaign`, not on a transfer request (`MsgTimeoutNow`), not by any
other step of the cluster -/
theorem C09_cluster_non_voter_never_campaigns (h : List Sys) (hh : History h) (n : Nat) (s s' : Sys)
    (hn : h[n]? = some s) (hn' : h[n + 1]? = some s') (i : Nat) (st st' : NState)
    (h1 : s.node i = some st) (h2 : s'.node i = some st')
    (hnv : Joint.contains st.raft.prs.voters i = false) : ¬ Elected st.raft st'.raft := by
  intro hel
  have := (C09_cluster_campaign_guard_voter h hh n s s' hn hn' i st st' h1 h2 hel).1
  rw [hnv] at this
  cases this

/-- the headline case: **a node whose role goes from follower (or leader) to candidate or pre-candidate
in a step of a history** is, in the state before the step, a voter of its own active configuration
whose scan for an unapplied committed membership change is negative; the step is an election timeout, a
`campaign` call or a delivered `MsgTimeoutNow` -/
theorem C09_cluster_campaign_guard_from_non_candidate (h : List Sys) (hh : History h) (n : Nat)
    (s s' : Sys) (hn : h[n]? = some s) (hn' : h[n + 1]? = some s') (i : Nat) (st st' : NState)
    (h1 : s.node i = some st) (h2 : s'.node i = some st')
    (hfrom : st.raft.state = .follower ∨ st.raft.state = .leader)
    (hto : st'.raft.state = .candidate ∨ st'.raft.state = .preCandidate) :
    Joint.contains st.raft.prs.voters i = true ∧
    st.raft.hasUnappliedConfChanges st.raft.hupScanLow (st.raft.raftLog.committed + 1) = .ok false ∧
    ∃ l, LStep s l s' ∧ ElectLabel i l :=
  C09_cluster_campaign_guard_voter h hh n s s' hn hn' i st st' h1 h2
    (C09_elected_of (.inl ⟨hfrom, hto⟩))

/-- … and **a node that ends up candidate with a higher term**: guarded as above, or it was a
pre-candidate that has just won its pre-vote (a delivered `MsgRequestPreVoteResponse`) -/
theorem C09_cluster_campaign_guard_term_increase (h : List Sys) (hh : History h) (n : Nat)
    (s s' : Sys) (hn : h[n]? = some s) (hn' : h[n + 1]? = some s') (i : Nat) (st st' : NState)
    (h1 : s.node i = some st) (h2 : s'.node i = some st')
    (hto : st'.raft.state = .candidate) (hterm : st.raft.term < st'.raft.term) :
    ∃ l, LStep s l s' ∧
      ((HupGuard st.raft ∧ ElectLabel i l) ∨
       (st.raft.state = .preCandidate ∧
        ∃ m rnd, l = .deliver i rnd m ∧ m.msgType = .msgRequestPreVoteResponse)) := by
  obtain ⟨l, hl, hr⟩ := C09_cluster_every_route_into_candidacy h hh n s s' hn hn' i st st' h1 h2
    (.inl hto) (fun hc => by omega)
  refine ⟨l, hl, ?_⟩
  rcases hr with g | ⟨g1, _, g3⟩
  · exact .inl g
  · exact .inr ⟨g1, g3⟩

/-! ## 3. one pending change

The strongest statement that is an invariant of a leader's log is `C09.ConfBounded`: *every
membership-change entry beyond the apply cursor is at or below `pending_conf_index`*.  The literal
"at most one membership-change entry beyond the applied index" (`C09.AtMostOneUnapplied`) is true of the
entries a leader APPENDS but not of those it INHERITS (a follower that has received two changes and
applied neither may win an election: last example of `RaftProps/C09b.lean`); what protects the
configuration then is `become_leader` setting `pending_conf_index` to the inherited last index, so that
`ConfBounded` holds at once and every membership proposal is refused until all of it is applied.

Both results are conditional (`_partial`): `C09b`'s per-function lemmas read the logical log
(`raftLog.abs`), which needs the representation invariant `RaftLogInv` of the node's log (and the apply
cursor within the log); along plain histories that invariant is not available — the cluster-level log
invariant `RaftProps.C05.cluster_inv` is proved only for `FixedCfg` histories with `InitOk` / `NoBatch`
— so it is a hypothesis here (`LogOk` of every state), together with the compaction contract
(`CStep`: `compact k` only with `k ≤ committed, persisted`), which the storage-side frame lemma for
`compact` needs.  No `FixedCfg`, no commit-layer bundle. -/

/-- **C09 `cluster_one_pending_change`** (conditional on the log invariant) — in every state of a
history, every node in the leader role has `ConfBounded`: every membership-change entry of its log
beyond its apply cursor is at or below its `pending_conf_index`.  Established by `become_leader`
(whatever the inherited log), kept by the proposal filter (`MsgPropose`, any batch, any outcome), by
`commit_apply` (auto-leave appends the leave-joint entry only when the cursor has reached
`pending_conf_index`), by every other message in every role, by `tick`, by `apply_conf_change`, by the
storage-side steps (`stabilize`, `persist_snap`, `compact`, …) and every remaining `NodeOp`; a
`restart` yields a follower. -/
theorem C09_cluster_one_pending_change_partial (h : List Sys) (hh : History h)
    (hlog : ∀ s ∈ h, LogOk s)
    (hcon : ∀ (n : Nat) (a b : Sys), h[n]? = some a → h[n + 1]? = some b → CStep a b)
    (s : Sys) (hs : s ∈ h) (i : Nat) (st : NState) (hi : s.node i = some st)
    (hl : st.raft.state = .leader) : ConfBounded st.raft := by
  obtain ⟨n, hn⟩ := List.mem_iff_getElem?.1 hs
  exact lb_hist hh hlog hcon n s hn i st hi hl

/-- … hence **whenever no change is pending on a leader (`pending_conf_index ≤ applied`, the only
situation in which the filter lets a membership entry through), its log holds no unapplied
membership-change entry at all** -/
theorem C09_cluster_no_unapplied_change_when_not_pending_partial (h : List Sys) (hh : History h)
    (hlog : ∀ s ∈ h, LogOk s)
    (hcon : ∀ (n : Nat) (a b : Sys), h[n]? = some a → h[n + 1]? = some b → CStep a b)
    (s : Sys) (hs : s ∈ h) (i : Nat) (st : NState) (hi : s.node i = some st)
    (hl : st.raft.state = .leader) (hnp : ¬ st.raft.raftLog.applied < st.raft.pendingConfIndex) :
    ∀ k e, st.raft.raftLog.abs.entryAt k = some e → isConf e → k ≤ st.raft.raftLog.applied :=
  C09_no_unapplied_change_when_not_pending st.raft
    (C09_cluster_one_pending_change_partial h hh hlog hcon s hs i st hi hl) hnp

/-- **in the property's words** (conditional on the log invariant): whenever a leader's `propose` /
`propose_conf_change` call appends a membership-change entry — an entry at an index beyond the old last
index that is still a membership change after the filter — there was NO membership-change entry above
its applied index in its log before the call.  (A proposal that would add a second one is replaced by
an empty normal entry: `C09_proposal_filter_*`.) -/
theorem C09_cluster_conf_proposal_only_when_none_pending_partial (h : List Sys) (hh : History h)
    (hlog : ∀ s ∈ h, LogOk s)
    (hcon : ∀ (n : Nat) (a b : Sys), h[n]? = some a → h[n + 1]? = some b → CStep a b)
    (s s' : Sys) (hs : s ∈ h) (i : Nat) (rnd : Option Nat) (op : NodeOp)
    (hop : (∃ c d, op = .propose c d) ∨ (∃ t c d, op = .proposeCc t c d))
    (hstep : LStep s (.call i rnd op) s') (st st' : NState)
    (h1 : s.node i = some st) (h2 : s'.node i = some st') (hlead : st.raft.state = .leader)
    (x : Nat) (e' : Entry) (hx : st.raft.raftLog.lastIndex < x)
    (hx' : st'.raft.raftLog.abs.entryAt x = some e') (hc' : isConf e') :
    ∀ k e0, st.raft.raftLog.abs.entryAt k = some e0 → isConf e0 → k ≤ st.raft.raftLog.applied := by
  have hb := C09_cluster_one_pending_change_partial h hh hlog hcon s hs i st h1 hlead
  obtain ⟨hinv, hap⟩ := hlog s hs i st h1
  cases hstep with
  | call _ stx stx' _ _ res g1 g2 g3 =>
    rw [h1] at g1; cases g1
    rw [node_setNode_self] at h2
    cases h2
    unfold Node.call at g3
    rcases hop with ⟨c, d, rfl⟩ | ⟨t, c, d, rfl⟩
    · simp only [applyOp] at g3
      obtain ⟨raft, e, hxx, hr⟩ := CV.unitRes_ok g3
      rw [hr] at hx'
      exact step_propose_appends_conf (r := { st.raft with nextRand := rnd }) hinv hap hlead rfl rfl hb
        hxx x e' hx hx' hc'
    · simp only [applyOp] at g3
      obtain ⟨raft, e, hxx, hr⟩ := CV.unitRes_ok g3
      rw [hr] at hx'
      exact step_propose_appends_conf (r := { st.raft with nextRand := rnd }) hinv hap hlead rfl rfl hb
        hxx x e' hx hx' hc'

/-- the same for ONE call, with the hypotheses on that one state only: a leader with `ConfBounded`
whose log satisfies the invariant -/
theorem C09_conf_proposal_only_when_none_pending_node (r r' : Raft) (m : Message)
    (e : Option RaftError) (hinv : RaftProps.C14.RaftLogInv r.raftLog)
    (hap : r.raftLog.applied ≤ r.raftLog.lastIndex) (hs : r.state = .leader)
    (hm : m.msgType = .msgPropose) (h0 : m.term = 0) (hb : ConfBounded r)
    (h : r.step m = .ok (r', e)) (x : Nat) (e' : Entry) (hx : r.raftLog.lastIndex < x)
    (hx' : r'.raftLog.abs.entryAt x = some e') (hc' : isConf e') :
    ∀ i e0, r.raftLog.abs.entryAt i = some e0 → isConf e0 → i ≤ r.raftLog.applied :=
  step_propose_appends_conf hinv hap hs hm h0 hb h x e' hx hx' hc'

/-! ## 4. non-vacuity: a kernel-evaluated history with a membership change

The history `c02x_hist` of `RaftProps/C02c.lean` (three nodes `{1, 2, 3}`; node 1 campaigns, node 2
grants, node 1 is leader of term 1 in `c02x_s7`) is continued: the leader's application proposes the
membership change "add voter 4" (`propose_conf_change`), persists, hands its queue to the transport,
node 2 receives the leader's first `MsgAppend`, and the leader's application applies the change
(`apply_conf_change`). -/

open RaftProps.C02

/-- `ConfChangeV2 { changes: [AddNode 4] }` and its protobuf encoding -/
def c09x_cc : ConfChangeV2 := { changes := [{ ctype := .addNode, nodeId := 4 }] }
def c09x_data : Bytes := [0x12, 0x02, 0x10, 0x04]

example : decodeConfChangeV2 c09x_data = some c09x_cc := by decide +kernel

def c09x_a5 := c02x_st (Node.call c02x_a4 none (.proposeCc 2 [] c09x_data))
def c09x_a6 := c02x_st (Node.call c09x_a5 none .stabilize)
def c09x_a7 := c02x_st (Node.call c09x_a6 none .drain)
def c09x_app := c09x_a6.raft.msgs.head!
def c09x_b4 := c02x_st (Node.call c02x_b3 none (.step c09x_app))
def c09x_a8 := c02x_st (Node.call c09x_a7 none (.applyConfChange c09x_cc))

def c09x_s8 : Sys := c02x_s7.setNode 1 c09x_a5
def c09x_s9 : Sys := c09x_s8.setNode 1 c09x_a6
def c09x_s10 : Sys := { (c09x_s9.setNode 1 c09x_a7) with net := c09x_s9.net ++ c09x_a6.raft.msgs }
def c09x_s11 : Sys := c09x_s10.setNode 2 c09x_b4
def c09x_s12 : Sys := c09x_s11.setNode 1 c09x_a8

/-- the labels of the continuation -/
def c09x_labels : List Label :=
  [.call 1 none (.proposeCc 2 [] c09x_data), .call 1 none .stabilize, .send 1,
   .deliver 2 none c09x_app, .call 1 none (.applyConfChange c09x_cc)]

theorem c09x_lsteps :
    LStep c02x_s7 (.call 1 none (.proposeCc 2 [] c09x_data)) c09x_s8 ∧
    LStep c09x_s8 (.call 1 none .stabilize) c09x_s9 ∧
    LStep c09x_s9 (.send 1) c09x_s10 ∧
    LStep c09x_s10 (.deliver 2 none c09x_app) c09x_s11 ∧
    LStep c09x_s11 (.call 1 none (.applyConfChange c09x_cc)) c09x_s12 := by
  refine ⟨?_, ?_, ?_, ?_, ?_⟩
  · exact LStep.call _ 1 c02x_a4 c09x_a5 none _ _ rfl rfl (c02x_out _ (by decide))
  · exact LStep.call _ 1 c09x_a5 c09x_a6 none .stabilize _ rfl rfl (c02x_out _ (by decide))
  · exact LStep.send _ 1 c09x_a6 c09x_a7 rfl ⟨by decide, by decide⟩ rfl
  · exact LStep.deliver _ 2 c02x_b3 c09x_b4 none c09x_app _ rfl
      (List.mem_append_right _ (c02x_head_mem _ (by decide))) (by decide) (c02x_out _ (by decide))
  · exact LStep.call _ 1 c09x_a7 c09x_a8 none _ _ rfl rfl (c02x_out _ (by decide))

theorem c09x_trace : Trace c02x_s7 c09x_labels c09x_s12 := by
  obtain ⟨k1, k2, k3, k4, k5⟩ := c09x_lsteps
  exact Trace.tail _ _ _ _ _ (Trace.tail _ _ _ _ _ (Trace.tail _ _ _ _ _ (Trace.tail _ _ _ _ _
    (Trace.tail _ _ _ [] _ (Trace.refl _) k1) k2) k3) k4) k5

/-- the continued history -/
def c09x_hist : List Sys := c02x_hist ++ [c09x_s8, c09x_s9, c09x_s10, c09x_s11, c09x_s12]

def c09x_moves : List RaftProps.C05.Move :=
  RaftProps.C05.c02x_moves ++
  [.call 1 c02x_a4 (.proposeCc 2 [] c09x_data), .call 1 c09x_a5 .stabilize, .send 1 c09x_a6,
   .deliver 2 c02x_b3 c09x_app, .call 1 c09x_a7 (.applyConfChange c09x_cc)]

theorem c09x_csteps : RaftProps.C05.Chained CStep c09x_hist :=
  RaftProps.C05.Move.csteps c02x_s0 c09x_moves rfl (by decide +kernel)

theorem c09x_history : History c09x_hist :=
  RaftProps.C05.chained_history [] c02x_s0 (History.init _ c02x_init) _
    (RaftProps.C05.Chained.mono (fun _ _ hc => hc.step) _ c09x_csteps)

theorem c09x_free : ReconfFree 1 c09x_labels := by
  intro l hl
  simp only [c09x_labels, List.mem_cons, List.not_mem_nil, or_false] at hl
  rcases hl with rfl | rfl | rfl | rfl | rfl
  · exact ⟨fun _ _ h => (by cases h), fun _ _ h => (by cases h)⟩
  · exact ⟨fun _ _ h => (by cases h), fun _ _ h => (by cases h)⟩
  · exact ⟨fun _ _ h => (by cases h), fun _ _ h => (by cases h)⟩
  · exact ⟨fun _ _ h => (by cases h), fun _ _ h => (by cases h)⟩
  · exact ⟨fun _ _ h => (by cases h), fun _ _ h => (by cases h)⟩

/-- **non-vacuity of `C09_cluster_config_is_function_of_applied_changes`**: on the continuation the
theorem applies to the leader (node 1): its tracker view in the last state is the fold of the changer
over the one change it applied … -/
example : c09x_a8.raft.prs.toCC = configOf c02x_a4.raft.prs.toCC [opOf c09x_cc] :=
  C09_cluster_config_is_function_of_applied_changes c09x_trace 1 c09x_free c02x_a4 c09x_a8 rfl rfl

set_option maxRecDepth 100000 in
/-- … the change was accepted and the configuration really moved: voters `{1, 2, 3}` before,
`{1, 2, 3, 4}` after, on a leader whose log holds the membership entry at index 2, unapplied and
uncommitted; node 2 has received the leader's first `MsgAppend` (the empty entry of term 1; the
leader probes, one message in flight) and, having applied nothing, still has `{1, 2, 3}` -/
example :
    c02x_a4.raft.prs.conf.incoming = [1, 2, 3] ∧ c09x_a8.raft.prs.conf.incoming = [1, 2, 3, 4] ∧
    c09x_a8.raft.state = .leader ∧ c09x_a8.raft.pendingConfIndex = 2 ∧
    (c09x_a8.raft.raftLog.abs.entryAt 2).map (·.etype) = some 2 ∧
    (c09x_b4.raft.raftLog.abs.entryAt 1).map (·.etype) = some 0 ∧
    c09x_b4.raft.prs.conf.incoming = [1, 2, 3] := by decide +kernel

set_option maxRecDepth 100000 in
/-- the history is a history, the step `c02x_s0 → c02x_s1` is an election start in the sense of
`Elected` (node 1: follower → candidate by `campaign`), and `C09_cluster_campaign_guard` applies to
it -/
example : History c09x_hist ∧ Elected (c02x_boot 1).raft c02x_a1.raft ∧
    HupGuard (c02x_boot 1).raft := by
  have hel : Elected (c02x_boot 1).raft c02x_a1.raft :=
    C09_elected_of (.inl ⟨.inl (by decide +kernel), .inl (by decide +kernel)⟩)
  obtain ⟨g1, g2, _⟩ := C09_cluster_campaign_guard c09x_hist c09x_history 0 c02x_s0 c02x_s1 rfl rfl 1
    (c02x_boot 1) c02x_a1 rfl rfl hel
  exact ⟨c09x_history, hel, g1, g2⟩

/-! ### the hypotheses of section 3 are satisfiable, and its theorems say something

On the prefix of the history up to the proposal (`c02x_hist ++ [c09x_s8]`: all states still have the
voter configuration `{1, 2, 3}`) the C05 cluster invariant gives `RaftLogInv` of every node's log;
the apply cursors are within the logs and no step is a `compact` (kernel-evaluated). -/

open RaftProps.C05

def c09x_pre : List Sys := c02x_hist ++ [c09x_s8]

def c09x_pre_moves : List Move := c02x_moves ++ [.call 1 c02x_a4 (.proposeCc 2 [] c09x_data)]

theorem c09x_pre_csteps : Chained CStep c09x_pre :=
  Move.csteps c02x_s0 c09x_pre_moves rfl (by decide +kernel)

theorem c09x_pre_history : History c09x_pre := by
  have := chained_history [] c02x_s0 (History.init _ c02x_init) _
    (Chained.mono (fun _ _ hc => hc.step) _ c09x_pre_csteps)
  simpa [c09x_pre, c02x_hist] using this

def c09x_appOk (s : Sys) : Bool :=
  s.nodes.all (fun p => decide (p.2.raft.raftLog.applied ≤ p.2.raft.raftLog.lastIndex))

theorem c09x_appOk_ok (s : Sys) (h : c09x_appOk s = true) :
    ∀ i st, s.node i = some st → st.raft.raftLog.applied ≤ st.raft.raftLog.lastIndex := by
  intro i st hn
  have hm := c02_lookup_mem s.nodes i st hn
  unfold c09x_appOk at h
  rw [List.all_eq_true] at h
  simpa using h _ hm

theorem c09x_pre_side : ∀ s ∈ c09x_pre, FixedCfg c02x_cfg s ∧ NoBatch s ∧
    ∀ i st, s.node i = some st → st.raft.raftLog.applied ≤ st.raft.raftLog.lastIndex := by
  have h : c09x_pre.all (fun s => c02x_fixed s && c05x_nobatch s && c09x_appOk s) = true := by
    decide +kernel
  intro s hs
  have := List.all_eq_true.1 h s hs
  simp only [Bool.and_eq_true] at this
  exact ⟨c02x_fixed_ok s this.1.1, c05x_nobatch_ok s this.1.2, c09x_appOk_ok s this.2⟩

/-- every state of the prefix satisfies `LogOk` (from the C05 cluster invariant) -/
theorem c09x_pre_logOk : ∀ s ∈ c09x_pre, LogOk s := by
  have hcon := chained_at c09x_pre c09x_pre_csteps
  obtain ⟨s0, _, hall⟩ := cluster_inv c02x_cfg (by decide) (by decide) (by decide) c09x_pre
    c09x_pre_history (fun s hs => (c09x_pre_side s hs).1)
    (fun s hs => by
      have : s = c02x_s0 := by
        simp only [c09x_pre, c02x_hist, List.cons_append, List.getElem?_cons_zero,
          Option.some.injEq] at hs
        exact hs.symm
      rw [this]; exact c05x_initOk)
    hcon (fun s hs => (c09x_pre_side s hs).2.1)
  intro s hs i st hi
  exact ⟨(hall s hs).inv i st hi, (c09x_pre_side s hs).2.2 i st hi⟩

set_option maxRecDepth 100000 in
/-- **non-vacuity of `C09_cluster_conf_proposal_only_when_none_pending_partial`** (and of
`C09_cluster_one_pending_change_partial`): every hypothesis holds on the prefix; the leader's
`propose_conf_change` call `c02x_s7 → c09x_s8` appends the membership-change entry at index 2 (beyond
the old last index 1), and the theorem yields that the leader's log held no unapplied membership-change
entry before; after the call the leader has `ConfBounded` with `pending_conf_index = 2`. -/
example :
    (∀ k e0, c02x_a4.raft.raftLog.abs.entryAt k = some e0 → isConf e0 →
      k ≤ c02x_a4.raft.raftLog.applied) ∧
    ConfBounded c09x_a5.raft ∧ c09x_a5.raft.pendingConfIndex = 2 ∧
    c09x_a5.raft.raftLog.applied = 0 := by
  have hcon := chained_at c09x_pre c09x_pre_csteps
  have hs7 : c02x_s7 ∈ c09x_pre := by simp [c09x_pre, c02x_hist]
  have hs8 : c09x_s8 ∈ c09x_pre := by simp [c09x_pre, c02x_hist]
  refine ⟨?_, ?_, by decide +kernel⟩
  · exact C09_cluster_conf_proposal_only_when_none_pending_partial c09x_pre c09x_pre_history
      c09x_pre_logOk hcon c02x_s7 c09x_s8 hs7 1 none (.proposeCc 2 [] c09x_data)
      (.inr ⟨2, [], c09x_data, rfl⟩) c09x_lsteps.1 c02x_a4 c09x_a5 rfl rfl (by decide +kernel) 2
      { etype := 2, data := c09x_data, term := 1, index := 2 } (by decide +kernel) (by decide +kernel)
      (.inr rfl)
  · exact C09_cluster_one_pending_change_partial c09x_pre c09x_pre_history c09x_pre_logOk hcon
      c09x_s8 hs8 1 c09x_a5 rfl (by decide +kernel)

/-- **a campaign REFUSED because of an unapplied committed change** (node level; the state of
`PD_campaign_example`): a promotable follower whose log holds the membership entry 3, committed but
not applied, is told to campaign — the call succeeds and the node is still a follower of the same
term; so is it after an election timeout.  Once the entry is applied the same call makes it a
candidate (here: the single voter, so leader). -/
def c09x_stuckStore : MemStorage :=
  { hardState := { term := 1, commit := 3 }, confState := { voters := [1] },
    snapshotMetadata := { index := 2, term := 1, confState := { voters := [1] } },
    entries := [{ etype := 2, term := 1, index := 3 }, { term := 1, index := 4 }] }

def c09x_stuckRaft : Raft :=
  { raftLog := { store := c09x_stuckStore, unstable := Unstable.new 5, committed := 3,
                 persisted := 4, applied := 2, maxApplyUnpersistedLogLimit := 0 },
    id := 1, term := 1, promotable := true, maxCommittedSizePerReady := NO_LIMIT,
    electionElapsed := 100, randomizedElectionTimeout := 10,
    prs := { conf := { incoming := [1] }, progress := [(1, Progress.new 5 8)] } }

def c09x_stuck : NState := { raft := c09x_stuckRaft, appCs := { voters := [1] } }

set_option maxRecDepth 100000 in
example :
    (c02x_st (Node.call c09x_stuck none .campaign)).raft.state = .follower ∧
    (c02x_st (Node.call c09x_stuck none .campaign)).raft.term = 1 ∧
    c02x_ok (Node.call c09x_stuck none .campaign) = true ∧
    (c02x_st (Node.call c09x_stuck none .tick)).raft.state = .follower ∧
    c02x_ok (Node.call c09x_stuck none .tick) = true ∧
    (c02x_st (Node.call (c02x_st (Node.call c09x_stuck none (.commitApply 3))) none .campaign)).raft.state
      = .leader := by decide +kernel

end RaftProps.C09c
