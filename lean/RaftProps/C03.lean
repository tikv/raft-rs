import RaftProofs.ProtoC
import RaftProofs.ProtoVol

/-!
# C03 — leader completeness and the election restriction

Proved here (abstract protocol P, all states / all reachable states of every history):
the **election restriction** — a vote is decided only for a released request of the voter's current
term whose advertised last (term, index) is at least the voter's own (`upToDate` is exactly
`RaftLog::is_up_to_date`; priority and lease only restrict further), requests advertise the
candidate's true log tail, a winner's log is unchanged since it campaigned — and the structural
facts leader completeness rests on (a leader's log is the ghost log of its term, which extends
its log at election time only by own-term entries; Log Matching).

**Leader completeness itself** is proved for every reachable state of every history, the voter
configuration changing along it (`C03_leader_completeness`: the ghost log of every elected term
holds, at the same indexes, every own-term entry of an earlier term that a deciding quorum has
durably acknowledged — whether or not that leader ever learned it; `C03_leader_holds_committed`: a
node in the leader role holds every prefix committed by a leader of a term not beyond its own;
`C03_elected_with_committed`: already the log it was elected with does).  The proof is in
`RaftProofs/ProtoC4.lean` (quorum intersection, the voter's log recorded with its grant retains what
it acknowledged, up-to-date rule).  On implementation traces the property is also checked directly by
the monitor "a new leader holds every entry reported committed so far" and by the
election-restriction monitor on every grant.  Membership changes are covered: the configuration in
force is part of the `win` and `commitLeader` events.
-/
namespace RaftProps.C03
open RaftModel.P

/-- `upToDate` is the lexicographic comparison of (last term, last index) -/
theorem C03_upToDate_iff (lt li : Nat) (l : List LEntry) :
    upToDate lt li l = true ↔ (lastTerm l < lt ∨ (lastTerm l = lt ∧ l.length ≤ li)) := by
  unfold upToDate
  simp only [Bool.or_eq_true, Bool.and_eq_true, decide_eq_true_eq]
  constructor
  · rintro (h | ⟨h1, h2⟩)
    · exact Or.inl h
    · exact Or.inr ⟨h1.symm, h2⟩
  · rintro (h | ⟨h1, h2⟩)
    · exact Or.inl h
    · exact Or.inr ⟨h1.symm, h2⟩

/-- **Election restriction**: a real vote for `c` is decided only if `c` released a request for the
voter's current term whose last (term, index) is at least the voter's own. -/
theorem C03_election_restriction (s s' : PSys) (i c : Nat) (h : applyEvent s (.grant i c) = .ok s') :
    ∃ r ∈ s.reqs, r.term = (s.nodes i).term ∧ r.cand = c ∧
      (lastTerm (s.nodes i).log < r.lastTerm ∨
        (lastTerm (s.nodes i).log = r.lastTerm ∧ (s.nodes i).log.length ≤ r.lastIdx)) := by
  obtain ⟨r, hr, hp, _, _⟩ := grant_ok h
  exact ⟨r, hr, hp.1, hp.2.1, (C03_upToDate_iff _ _ _).1 hp.2.2⟩

/-- a campaign advertises the candidate's true last (term, index) -/
theorem C03_campaign_advertises_truth (s s' : PSys) (i : Nat) (h : applyEvent s (.campaign i) = .ok s') :
    OMsg.voteReq (s.nodes i).term i (lastTerm (s.nodes i).log) (s.nodes i).log.length ∈ (s'.nodes i).outbox ∧
    (s'.nodes i).log = (s.nodes i).log := by
  obtain ⟨_, rfl⟩ := of_guard_ok h
  simp [upd]

/-- a node in the candidate role keeps its log: every step that changes a candidate's log also makes
it leave the candidate role (so the log a winner leads with is the log it advertised) -/
theorem C03_candidate_log_frozen (s s' : PSys) (e : Event) (h : applyEvent s e = .ok s') (j : Nat)
    (h1 : (s.nodes j).role = 1) (h2 : (s'.nodes j).role = 1) : (s'.nodes j).log = (s.nodes j).log := by
  cases vol_step h j with
  | keep _ _ hl | role0 _ _ hl | cand _ _ _ _ hl | win _ _ _ _ _ _ hl | bump _ _ hl => exact hl
  | append _ _ hr => rw [h1] at hr; cases hr
  | merge _ _ hr' | install _ _ _ _ hr' | restart _ hr' | boot _ _ _ _ hr' => rw [h2] at hr'; cases hr'

/-- at the moment of winning, the ghost leader log of the new term *is* the winner's log -/
theorem C03_leader_starts_with_own_log (s s' : PSys) (i : Nat) (cfg : Cfg) (q : List Nat)
    (h : applyEvent s (.win i cfg q) = .ok s') :
    s'.llog (s.nodes i).term = (s.nodes i).log ∧ (s'.nodes i).log = (s.nodes i).log := by
  obtain ⟨_, rfl⟩ := of_guard_ok h
  simp [upd, updT]

/-- in every reachable state a leader's log is the ghost log of its term, every entry of that log
has a term in [1, term], and every list anywhere agrees with the ghost logs (prefix-from-leader) -/
theorem C03_leader_log_is_ghost (s : PSys)
    (hr : Reach s) (i : Nat) (h : (s.nodes i).role = 2) :
    (s.nodes i).log = s.llog (s.nodes i).term ∧
    ∀ e ∈ s.llog (s.nodes i).term, 1 ≤ e.term ∧ e.term ≤ (s.nodes i).term := by
  have I := invL_reachR s hr
  exact ⟨I.ll i h, fun e he => I.lterm _ e he⟩

/-- **Leader Completeness**: in every reachable state of every history (membership changes
included), the ghost log of every elected term `t'` agrees, up to `p.2`, with the log of the leader of
every earlier term `p.1` that committed index `p.2` — i.e. whose own-term entry there was
acknowledged durably by a deciding quorum of the configuration it was acting under. -/
theorem C03_leader_completeness (s : PSys) (hr : Reach s) (p : Nat × Nat) (hp : p ∈ s.cmts) (t' : Nat)
    (hlt : p.1 < t') (hel : ∃ j, (t', j) ∈ s.elected) :
    (s.llog t').take p.2 = (s.llog p.1).take p.2 := by
  have I := invAll_reachR s hr
  exact leader_complete_ghost I.b I.c p hp t' (Nat.le_of_lt hlt) hel

/-- the evidence behind a recorded leader commit (what "committed" means here) -/
theorem C03_commit_evidence (s : PSys) (hr : Reach s) (p : Nat × Nat) (hp : p ∈ s.cmts) :
    0 < p.2 ∧ termAt (s.llog p.1) p.2 = p.1 ∧
    ∃ cfg q, (p, cfg) ∈ s.ccfgs ∧ cfg.isQuorum q = true ∧
      ∀ v ∈ q, ∃ a ∈ s.acks, a.term = p.1 ∧ a.frm = v ∧ p.2 ≤ a.idx := by
  obtain ⟨h1, _, h3, _, h5⟩ := (invAll_reachR s hr).c.c3.cq p hp
  exact ⟨h1, h3, h5⟩

/-- a node in the leader role holds every prefix committed by a leader of a term not beyond its own -/
theorem C03_leader_holds_committed (s : PSys)
    (hr : Reach s) (i : Nat) (hi : (s.nodes i).role = 2) (p : Nat × Nat) (hp : p ∈ s.cmts)
    (ht : p.1 ≤ (s.nodes i).term) : (s.nodes i).log.take p.2 = (s.llog p.1).take p.2 := by
  have I := invAll_reachR s hr
  exact leader_complete I.v I.l I.b I.c i hi p hp ht

/-- ... and so does, already, the log it was elected with (a new leader never has to be "repaired") -/
theorem C03_elected_with_committed (s : PSys)
    (hr : Reach s) (p : Nat × Nat) (hp : p ∈ s.cmts) (t : Nat) (ht : p.1 < t)
    (hel : ∃ j, (t, j) ∈ s.elected) : (s.elog t).take p.2 = (s.llog p.1).take p.2 :=
  (invAll_reachR s hr).c.lc p hp t ht hel

/-- every entry reported committed by anybody (C01's `Committed`) is held by every node in the leader
role of a term not before the committing leader's -/
theorem C03_leader_holds_every_committed_entry (s : PSys) (hr : Reach s) (i : Nat) (hi : (s.nodes i).role = 2) (p : Nat × Nat) (hp : p ∈ s.cmts)
    (ht : p.1 ≤ (s.nodes i).term) (k : Nat) (hk : 0 < k) (hkp : k ≤ p.2) :
    (s.nodes i).log[k - 1]? = (s.llog p.1)[k - 1]? :=
  getElem?_of_take_eq (C03_leader_holds_committed s hr i hi p hp ht) (by omega)

/-- the full statement of the property as the design wrote it down (`C03_full_statement`), for histories in which the voter
configuration changes -/
theorem C03_full : ∀ (s : PSys), Reach s → ∀ i, (s.nodes i).role = 2 → ∀ p ∈ s.cmts,
    p.1 ≤ (s.nodes i).term → (s.nodes i).log.take p.2 = (s.llog p.1).take p.2 :=
  fun s hr i hi p hp ht => C03_leader_holds_committed s hr i hi p hp ht

/-! ### non-vacuity -/

example : upToDate 2 5 [⟨1, 0, 0⟩, ⟨2, 0, 0⟩] = true := by decide +kernel
example : upToDate 1 9 [⟨1, 0, 0⟩, ⟨2, 0, 0⟩] = false := by decide +kernel
example : upToDate 2 1 [⟨1, 0, 0⟩, ⟨2, 0, 0⟩] = false := by decide +kernel

end RaftProps.C03
