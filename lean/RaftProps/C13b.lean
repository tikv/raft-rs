import RaftProofs.RaftNode
import RaftProps.C18
import RaftProps.C14
import RaftProps.C10
import RaftProofs.RaftLogReads

/-!
# C13 (node model) — flow control and well-formed append / heartbeat / snapshot messages

`RaftProps/C13.lean` proves C13 on the abstract protocol P and on the window (C18).  This file
proves the *leader-side, node-local* half on the executable model of `src/raft.rs` /
`src/tracker/progress.rs` (`RaftModel.Raft*`, tied to the code by the free-running correspondence):
what `maybe_send_append`, `prepare_send_entries`, `prepare_send_snapshot`, `send_heartbeat`,
`try_batching`, the `Progress` transitions and the uncommitted-size accounting do, for **all**
states (no reachability hypothesis) unless a hypothesis is named.

Contents (property text → theorem):
* paused followers get nothing — `C13_isPaused_char`, `C13_no_send_when_paused(_wrappers)`;
* heartbeat advertises `min(matched, committed)` — `C13_heartbeat_commit(_le)`;
* progress within the log — `ProgressOk`, `ProgressOk.{mono,reset,maybeUpdate,maybeDecrTo,
  optimisticUpdate,updateState,become,becomeProbe_from_snapshot}`, the necessity lemmas
  `C13_maybeUpdate_beyond_log`, `C13_optimisticUpdate_needs_lower_bound`,
  `C13_becomeProbe_needs_snapshot_in_log`, node level `C13_progress_within_log_send`,
  `C13_append_response_uses_message_index`;
* uncommitted size — `Refuses`, `C13_uncommitted_increase`, `C13_uncommitted_refuses_iff`,
  `C13_uncommitted_reduce`, `C13_appendEntry_false_iff`, `C13_appendEntry_accepted`,
  `C13_proposal_dropped_iff`;
* shape of an append — `appendMsg`, `SentUpdate`, `C13_updateState_spec`, `C13_append_shape`,
  `C13_entries_contiguous_bounded` (contiguity, within the log, size limit: read off
  `RaftLog.Inv.entries_inv` and `limitSize_bound`),
  `C13_send_classification` (every successful outcome of `maybe_send_append`, batching on or off, read
  off `Raft.SendCase`);
* snapshot instead of entries — `viaSnapshot`, `C13_prepareSendSnapshot_{inactive,empty_panics,spec}`,
  `viaSnapshot_spec`, `C13_snapshot_instead_of_entries`, `entries_compacted`;
* batching — `C13_isContinuousEnts_char`, `tryBatchingLoop_spec`, `C13_batching`,
  `C13_batching_keeps_contiguity`; **restated**: there is no
  `max_size_per_msg` bound on a batched message (`C13_batching_ignores_size_limit` and the last but
  one example);
* non-vacuity examples on a concrete leader, and one surprising behaviour of the real code
  (a dropped proposal still moves `pending_conf_index`).
-/
namespace RaftProps.C13
open RaftModel RaftModel.Raft

/-! ## 1. paused followers get nothing -/

/-- `Progress::is_paused` (progress.rs:203) per state: a probing follower is paused after one
un-acknowledged append (`paused` flag), a replicating follower when its window is full, a follower
that is being sent a snapshot always. -/
theorem C13_isPaused_char (pr : Progress) :
    pr.isPaused = true ↔
      (pr.state = .probe ∧ pr.paused = true) ∨ (pr.state = .replicate ∧ pr.ins.full = true) ∨
      pr.state = .snapshot := by
  unfold Progress.isPaused
  cases pr.state <;> simp

/-- **C13 `no_send_when_paused`** (raft.rs:801-808).  `maybe_send_append` to a paused follower
sends nothing: the message queue, the log (no storage access at all), the progress are unchanged and
the result is `false` — whatever `allow_empty`, with or without batching, with or without a pending
snapshot request. -/
theorem C13_no_send_when_paused (r : Raft) (to : Nat) (pr : Progress) (allowEmpty : Bool)
    (h : pr.isPaused = true) : r.maybeSendAppend to pr allowEmpty = .ok (r, pr, false) := by
  unfold Raft.maybeSendAppend; simp [h]

/-- … hence `send_append` and the `while maybe_send_append(..) {}` loop of
`send_append_aggressively` (raft.rs:779-787) are no-ops on a paused follower. -/
theorem C13_no_send_when_paused_wrappers (r : Raft) (to : Nat) (pr : Progress) (fuel : Nat)
    (h : pr.isPaused = true) :
    r.sendAppendPr to pr = .ok (r, pr) ∧
    sendAppendAggressivelyPr (fuel + 1) r to pr = .ok (r, pr) := by
  constructor
  · unfold Raft.sendAppendPr; rw [C13_no_send_when_paused r to pr true h]; rfl
  · unfold Raft.sendAppendAggressivelyPr; rw [C13_no_send_when_paused r to pr false h]

/-- the three instances of the characterisation, as used below -/
theorem C13_snapshot_state_is_paused (pr : Progress) (h : pr.state = .snapshot) :
    pr.isPaused = true := (C13_isPaused_char pr).2 (Or.inr (Or.inr h))

/-! ## 3. heartbeats -/

/-- the heartbeat `send_heartbeat` queues (after `send` filled in sender and term) -/
def heartbeatMsg (r : Raft) (to : Nat) (pr : Progress) (ctx : Option Bytes) : Message :=
  { msgType := .msgHeartbeat, to := to, frm := r.id, term := r.term,
    commit := min pr.matched r.raftLog.committed, context := ctx.getD [] }

/-- **C13 `heartbeat_commit`** (raft.rs:855-877).  `send_heartbeat` never fails and queues exactly one
message: a `MsgHeartbeat` to `to` from this node in its term, advertising
`min(pr.matched, committed)` (the leader must not move a follower's commit index to an index the
follower is not known to match) and carrying the given context (empty when `None`); nothing else of
the node changes. -/
theorem C13_heartbeat_commit (r : Raft) (to : Nat) (pr : Progress) (ctx : Option Bytes) :
    r.sendHeartbeat to pr ctx = .ok { r with msgs := r.msgs ++ [heartbeatMsg r to pr ctx] } := by
  simp [Raft.sendHeartbeat, Raft.send, Raft.sendFill, isVoteMsg, heartbeatMsg]

/-- the advertised commit index is at most the leader's and at most what the follower matched -/
theorem C13_heartbeat_commit_le (r : Raft) (to : Nat) (pr : Progress) (ctx : Option Bytes) :
    (heartbeatMsg r to pr ctx).commit ≤ r.raftLog.committed ∧
    (heartbeatMsg r to pr ctx).commit ≤ pr.matched :=
  ⟨Nat.min_le_right _ _, Nat.min_le_left _ _⟩

/-! ## 5. progress never runs beyond the leader's log -/

/-- progress within a log whose last index is `lastIndex`: what the follower is known to have is in
the log, and the next index to send is above it and at most one past the end -/
def ProgressOk (lastIndex : Nat) (pr : Progress) : Prop :=
  pr.matched ≤ lastIndex ∧ pr.matched < pr.nextIdx ∧ pr.nextIdx ≤ lastIndex + 1

/-- the leader's log only grows while it leads: `ProgressOk` is monotone in the last index -/
theorem ProgressOk.mono {li li' : Nat} {pr : Progress} (h : ProgressOk li pr) (hle : li ≤ li') :
    ProgressOk li' pr := by
  obtain ⟨a, b, c⟩ := h; exact ⟨by omega, b, by omega⟩

/-- `Progress::reset(last_index + 1)` (raft.rs:1027, `Raft::reset`) and a fresh
`Progress::new(last_index + 1, ..)` start within the log -/
theorem ProgressOk.reset (li : Nat) (pr : Progress) (cap : Nat) :
    ProgressOk li (pr.reset (li + 1)) ∧ ProgressOk li (Progress.new (li + 1) cap) := by
  simp [ProgressOk, Progress.reset, Progress.new]

/-- `Progress::maybe_update(n)` (progress.rs:136) keeps the progress within the log **provided
`n ≤ last_index`**; it never fails below `u64::MAX`. -/
theorem ProgressOk.maybeUpdate {li : Nat} {pr : Progress} (h : ProgressOk li pr) (n : Nat)
    (hn : n ≤ li) (hu : n < U64_MAX) :
    ∃ pr', pr.maybeUpdate n = .ok (pr', decide (pr.matched < n)) ∧ ProgressOk li pr' ∧
      pr'.matched = max pr.matched n ∧ pr'.nextIdx = max pr.nextIdx (n + 1) := by
  obtain ⟨a, b, c⟩ := h
  rw [Progress.maybeUpdate_eq, if_neg (by omega)]
  exact ⟨_, rfl, ⟨by show max _ _ ≤ _; omega, by show max _ _ < max _ _; omega,
    by show max _ _ ≤ _; omega⟩, rfl, rfl⟩

/-- the hypothesis `n ≤ last_index` of `ProgressOk.maybeUpdate` is necessary: an acknowledgement
beyond the log is taken at face value (`matched := n`) and breaks the bound. -/
theorem C13_maybeUpdate_beyond_log (li : Nat) (pr : Progress) (n : Nat) (h : ProgressOk li pr)
    (hn : li < n) (pr' : Progress) (b : Bool) (hr : pr.maybeUpdate n = .ok (pr', b)) :
    pr'.matched = n ∧ ¬ ProgressOk li pr' := by
  obtain ⟨a, _, _⟩ := h
  obtain ⟨_, rfl⟩ := Progress.maybeUpdate_inv hr
  exact ⟨by show max pr.matched n = n; omega, fun hok => by
    have : max pr.matched n ≤ li := hok.1
    omega⟩

/-- `Progress::maybe_decr_to` (progress.rs:166) keeps the progress within the log, whatever the
rejected index, the hint and the snapshot request are (it only ever moves `next_idx` down to a value
above `matched`, or leaves it alone). -/
theorem ProgressOk.maybeDecrTo {li : Nat} {pr : Progress} (h : ProgressOk li pr)
    (rejected hint req : Nat) (pr' : Progress) (b : Bool)
    (hr : pr.maybeDecrTo rejected hint req = .ok (pr', b)) :
    ProgressOk li pr' ∧ pr'.matched = pr.matched ∧ pr'.nextIdx ≤ pr.nextIdx := by
  obtain ⟨a, b1, c⟩ := h
  obtain ⟨h1, h2, h3⟩ := RaftProps.C10.maybeDecrTo_measure pr pr' rejected hint req b b1 hr
  unfold RaftProps.C10.WF at h1
  exact ⟨⟨by omega, by omega, by omega⟩, h3, h2⟩

/-- `Progress::optimistic_update(n)` (progress.rs:159) keeps the progress within the log provided
`matched ≤ n ≤ last_index` (the caller passes the index of the last entry it just sent, which is
`≥ next_idx > matched`).  *The lower bound is needed*: `optimistic_update(n)` with `n < matched`
sets `next_idx ≤ matched`. -/
theorem ProgressOk.optimisticUpdate {li : Nat} {pr : Progress} (h : ProgressOk li pr) (n : Nat)
    (hlo : pr.matched ≤ n) (hhi : n ≤ li) : ProgressOk li (pr.optimisticUpdate n) := by
  obtain ⟨a, _, _⟩ := h
  simp [ProgressOk, Progress.optimisticUpdate]; omega

/-- `optimistic_update(n)` below `matched` breaks the bound (why the lower bound is a hypothesis) -/
theorem C13_optimisticUpdate_needs_lower_bound (li : Nat) (pr : Progress) (n : Nat)
    (hn : n < pr.matched) : ¬ ProgressOk li (pr.optimisticUpdate n) := by
  intro h; have := h.2.1; simp [Progress.optimisticUpdate] at this; omega

/-- `Progress::update_state(last)` (progress.rs:225) after sending entries up to `last`
(`matched ≤ last ≤ last_index`): the optimistic update in `Replicate` stays within the log, `Probe`
does not move `next_idx`. -/
theorem ProgressOk.updateState {li : Nat} {pr : Progress} (h : ProgressOk li pr) (last : Nat)
    (hlo : pr.matched ≤ last) (hhi : last ≤ li) (pr' : Progress)
    (hr : pr.updateState last = .ok pr') : ProgressOk li pr' := by
  unfold Progress.updateState at hr
  split at hr
  · split at hr
    · cases hr
    · split at hr
      · cases hr; exact ProgressOk.optimisticUpdate h last hlo hhi
      · cases hr
  · cases hr; exact h
  · cases hr

/-- `become_replicate` (progress.rs:110) and `become_probe` outside `Snapshot` (progress.rs:94)
restart at `matched + 1`; `become_snapshot` (progress.rs:117) does not touch `matched` / `next_idx`. -/
theorem ProgressOk.become {li : Nat} {pr : Progress} (h : ProgressOk li pr) :
    ProgressOk li pr.becomeReplicate ∧
    (pr.state ≠ .snapshot → ProgressOk li pr.becomeProbe) ∧
    (∀ s, ProgressOk li (pr.becomeSnapshot s)) := by
  obtain ⟨a, b, c⟩ := h
  refine ⟨?_, ?_, ?_⟩
  · simp [ProgressOk, Progress.becomeReplicate, Progress.resetState]; omega
  · intro hs; simp [ProgressOk, Progress.becomeProbe, Progress.resetState, hs]; omega
  · intro s; exact ⟨a, b, c⟩

/-- `become_probe` out of `Snapshot` (progress.rs:97-104) restarts at
`max(matched + 1, pending_snapshot + 1)`: within the log **provided the pending snapshot index is
within the log** (`prepare_send_snapshot` records the index of a snapshot of this node's own
storage, which is `≤ committed ≤ last_index`). -/
theorem ProgressOk.becomeProbe_from_snapshot {li : Nat} {pr : Progress} (h : ProgressOk li pr)
    (hs : pr.state = .snapshot) (hp : pr.pendingSnapshot ≤ li) : ProgressOk li pr.becomeProbe := by
  obtain ⟨a, b, c⟩ := h
  simp only [ProgressOk, Progress.becomeProbe, Progress.resetState, hs, if_true]
  refine ⟨a, ?_, ?_⟩
  · exact Nat.lt_of_lt_of_le (Nat.lt_succ_self _) (Nat.le_max_left _ _)
  · exact Nat.max_le.2 ⟨by omega, by omega⟩

/-- the side condition is needed: a pending snapshot index beyond the log puts `next_idx` beyond
`last_index + 1` -/
theorem C13_becomeProbe_needs_snapshot_in_log (li : Nat) (pr : Progress)
    (hs : pr.state = .snapshot) (hp : li < pr.pendingSnapshot) : ¬ ProgressOk li pr.becomeProbe := by
  intro h
  have h3 := h.2.2
  simp only [Progress.becomeProbe, Progress.resetState, hs, if_true] at h3
  have := Nat.le_max_right (pr.matched + 1) (pr.pendingSnapshot + 1)
  omega

/-! ## 6. uncommitted-size accounting -/

/-- the refusal condition of `maybe_increase_uncommitted_size` (raft.rs:109-129): a limit is
configured, the proposal carries data, something is already uncommitted, and the sum would exceed
the limit -/
def Refuses (u : UncommittedState) (ents : List Entry) : Prop :=
  u.isNoLimit = false ∧ 0 < UncommittedState.dataSize ents ∧ 0 < u.uncommittedSize ∧
    u.maxUncommittedSize < UncommittedState.dataSize ents + u.uncommittedSize

instance (u : UncommittedState) (ents : List Entry) : Decidable (Refuses u ents) := by
  unfold Refuses; exact inferInstance

/-- **C13 `uncommitted_size` (increase).**  `maybe_increase_uncommitted_size` refuses (returns
`false`, state unchanged) exactly when `Refuses`; otherwise it accepts and — unless no limit is
configured, the fast path that does no accounting at all — adds the data size.  In particular an
entry without data (leader election, auto-leave) is never refused and a proposal is always accepted
when nothing is uncommitted, however large. -/
theorem C13_uncommitted_increase (u : UncommittedState) (ents : List Entry) :
    (Refuses u ents → u.maybeIncreaseUncommittedSize ents = (u, false)) ∧
    (¬ Refuses u ents → u.isNoLimit = false → u.maybeIncreaseUncommittedSize ents =
        ({ u with uncommittedSize := u.uncommittedSize + UncommittedState.dataSize ents }, true)) ∧
    (u.isNoLimit = true → u.maybeIncreaseUncommittedSize ents = (u, true)) := by
  unfold Refuses UncommittedState.maybeIncreaseUncommittedSize
  refine ⟨?_, ?_, ?_⟩
  · rintro ⟨h1, h2, h3, h4⟩
    have : ¬ (UncommittedState.dataSize ents = 0 ∨ u.uncommittedSize = 0 ∨
        UncommittedState.dataSize ents + u.uncommittedSize ≤ u.maxUncommittedSize) := by omega
    simp [h1, this]
  · intro hn h1
    have : (UncommittedState.dataSize ents = 0 ∨ u.uncommittedSize = 0 ∨
        UncommittedState.dataSize ents + u.uncommittedSize ≤ u.maxUncommittedSize) := by
      apply Classical.byContradiction; intro hc; apply hn; refine ⟨h1, ?_⟩; omega
    simp [h1, this]
  · intro h1; simp [h1]

/-- the refusal as an equivalence on the returned flag -/
theorem C13_uncommitted_refuses_iff (u : UncommittedState) (ents : List Entry) :
    (u.maybeIncreaseUncommittedSize ents).2 = false ↔ Refuses u ents := by
  have h := C13_uncommitted_increase u ents
  by_cases hr : Refuses u ents
  · rw [h.1 hr]; simp [hr]
  · cases hl : u.isNoLimit
    · rw [h.2.1 hr hl]; simp [hr]
    · rw [h.2.2 hl]; simp [hr]

/-- **C13 `uncommitted_size` (reduce)** (raft.rs:131-152).  `maybe_reduce_uncommitted_size` never
underflows: it subtracts the data size of the entries above `last_log_tail_index` (entries from
before this leadership were never counted) and saturates at 0, reporting `false` exactly when it
had to saturate; with no limit, or no entries, it does nothing. -/
theorem C13_uncommitted_reduce (u : UncommittedState) (ents : List Entry) :
    (u.isNoLimit = true ∨ ents = [] → u.maybeReduceUncommittedSize ents = (u, true)) ∧
    (u.isNoLimit = false → ents ≠ [] →
      u.maybeReduceUncommittedSize ents =
        ({ u with uncommittedSize := (u.uncommittedSize - UncommittedState.dataSize
            (ents.dropWhile (fun e => decide (e.index ≤ u.lastLogTailIndex)))) },
         decide (UncommittedState.dataSize
            (ents.dropWhile (fun e => decide (e.index ≤ u.lastLogTailIndex))) ≤ u.uncommittedSize))) ∧
    (u.maybeReduceUncommittedSize ents).1.uncommittedSize ≤ u.uncommittedSize := by
  unfold UncommittedState.maybeReduceUncommittedSize
  refine ⟨?_, ?_, ?_⟩
  · rintro (h | h)
    · simp [h]
    · simp [h]
  · intro h1 h2
    have h3 : ents.isEmpty = false := by cases ents <;> simp_all
    simp only [h1, h3, Bool.false_eq_true, or_self, if_false]
    split
    · rename_i hlt
      have : ¬ (UncommittedState.dataSize
        (ents.dropWhile (fun e => decide (e.index ≤ u.lastLogTailIndex))) ≤ u.uncommittedSize) := by omega
      simp only [this, decide_false]
      congr 2; omega
    · rename_i hlt
      have : (UncommittedState.dataSize
        (ents.dropWhile (fun e => decide (e.index ≤ u.lastLogTailIndex))) ≤ u.uncommittedSize) := by omega
      simp only [this, decide_true]
  · split
    · exact Nat.le_refl _
    · simp only; split
      · exact Nat.zero_le _
      · exact Nat.sub_le _ _

/-- **C13 `uncommitted_size` (`append_entry`, raft.rs:1043-1057).**  `append_entry` returns `false`
exactly when the accounting refuses, and then the node is untouched: nothing appended, no size
added. -/
theorem C13_appendEntry_false_iff (r r' : Raft) (es : List Entry) :
    r.appendEntry es = .ok (r', false) ↔ Refuses r.uncommittedState es ∧ r' = r := by
  unfold Raft.appendEntry Raft.maybeIncreaseUncommittedSize
  have hiff := C13_uncommitted_refuses_iff r.uncommittedState es
  cases hm : r.uncommittedState.maybeIncreaseUncommittedSize es with
  | mk u b =>
    rw [hm] at hiff
    cases b with
    | false =>
      have hr : Refuses r.uncommittedState es := hiff.1 rfl
      constructor
      · intro h; simp only at h; cases h; exact ⟨hr, rfl⟩
      · intro h; rw [h.2]
    | true =>
      have hn : ¬ Refuses r.uncommittedState es := fun hr => by
        have := hiff.2 hr; simp at this
      simp only [hn, false_and, iff_false]
      intro h
      split at h <;> cases h

/-- when the accounting accepts, `append_entry` does not report `false`, and the only things it
changes are the log and the uncommitted size (`+ data size`, or nothing with no limit) -/
theorem C13_appendEntry_accepted (r r' : Raft) (es : List Entry) (b : Bool)
    (hn : ¬ Refuses r.uncommittedState es) (h : r.appendEntry es = .ok (r', b)) :
    b = true ∧ r'.msgs = r.msgs ∧ r'.prs = r.prs ∧
    r'.uncommittedState = (r.uncommittedState.maybeIncreaseUncommittedSize es).1 := by
  cases b with
  | false => exact absurd ((C13_appendEntry_false_iff r r' es).1 h).1 hn
  | true =>
    unfold Raft.appendEntry Raft.maybeIncreaseUncommittedSize at h
    cases hm : r.uncommittedState.maybeIncreaseUncommittedSize es with
    | mk u b =>
      rw [hm] at h
      cases b with
      | false => simp at h
      | true =>
        simp only at h
        split at h
        · cases h; exact ⟨rfl, rfl, rfl, rfl⟩
        · cases h
        · cases h

/-- the proposal filter (raft.rs:2111-2159) only ever writes `pending_conf_index` -/
theorem filterProposalEntry_frame (r r1 : Raft) (i : Nat) (e e' : Entry)
    (h : r.filterProposalEntry i e = some (r1, e')) :
    r1 = { r with pendingConfIndex := r1.pendingConfIndex } := by
  unfold Raft.filterProposalEntry at h
  simp only at h
  split at h
  · cases h
  · cases h; rfl
  · generalize (if r.hasPendingConf = true then true else _) = refuse at h
    cases refuse
    · simp only [Bool.not_false, if_true] at h; cases h; rfl
    · simp only [Bool.not_true, Bool.false_eq_true, if_false] at h; cases h; rfl

theorem filterProposal_frame (es : List Entry) : ∀ (r : Raft) (i : Nat),
    (r.filterProposal i es).1 = { r with pendingConfIndex := (r.filterProposal i es).1.pendingConfIndex } := by
  induction es with
  | nil => intro r i; rfl
  | cons e es ih =>
    intro r i
    unfold Raft.filterProposal
    cases hf : r.filterProposalEntry i e with
    | none => rfl
    | some p =>
      obtain ⟨r1, e'⟩ := p
      have h1 := filterProposalEntry_frame r r1 i e e' hf
      have h2 := ih r1 (i + 1)
      simp only
      cases hf2 : r1.filterProposal (i + 1) es with
      | mk r2 o =>
        rw [hf2] at h2
        simp only at h2
        cases o <;> (simp only; rw [h2, h1])

/-- **C13 `uncommitted_size` (proposals, raft.rs:2097-2170).**  A proposal that reaches the
accounting on a leader (non-empty, the leader is in its own configuration, no transfer in progress,
every configuration-change payload decodes: `filterProposal` yields the entries `es` to append) is
dropped with `ProposalDropped` **iff** the accounting refuses `es`; then nothing is appended, nothing
is sent, nothing is accounted — the node differs from the one before the call at most in
`pending_conf_index` (which it does keep: see the last example of this file). -/
theorem C13_proposal_dropped_iff (r : Raft) (m : Message) (hm : m.msgType = .msgPropose)
    (hne : m.entries ≠ []) (hself : (r.prs.get r.id).isSome) (ht : r.leadTransferee = none)
    (r1 : Raft) (es : List Entry) (hf : r.filterProposal 0 m.entries = (r1, some es)) :
    r1 = { r with pendingConfIndex := r1.pendingConfIndex } ∧
    (Refuses r.uncommittedState es → r.stepLeader m = .ok (r1, some .proposalDropped)) ∧
    (¬ Refuses r.uncommittedState es → ∀ r' res, r.stepLeader m = .ok (r', res) → res = none) := by
  have hfr := filterProposal_frame m.entries r 0
  rw [hf] at hfr
  simp only at hfr
  have hu : r1.uncommittedState = r.uncommittedState := by rw [hfr]
  have h1 : m.entries.isEmpty = false := by
    cases hme : m.entries with
    | nil => exact absurd hme hne
    | cons _ _ => rfl
  have h2 : (r.prs.get r.id).isNone = false := by
    cases hg : r.prs.get r.id with
    | none => rw [hg] at hself; cases hself
    | some _ => rfl
  refine ⟨hfr, ?_, ?_⟩
  · intro href
    have ha : r1.appendEntry es = .ok (r1, false) :=
      (C13_appendEntry_false_iff r1 r1 es).2 ⟨by rw [hu]; exact href, rfl⟩
    unfold Raft.stepLeader
    simp [hm, h1, h2, ht, hf, ha]
  · intro hnr r' res hs
    unfold Raft.stepLeader at hs
    simp only [hm, h1, h2, ht, hf, Bool.false_eq_true, if_false, Option.isSome_none] at hs
    cases ha : r1.appendEntry es with
    | ok p =>
      obtain ⟨r2, b⟩ := p
      have := (C13_appendEntry_accepted r1 r2 es b (by rw [hu]; exact hnr) ha).1
      subst this
      rw [ha] at hs
      simp only at hs
      cases hb : r2.bcastAppend with
      | ok r3 => rw [hb] at hs; simp only [Res.bind] at hs; cases hs; rfl
      | err e => rw [hb] at hs; simp only [Res.bind] at hs; cases hs
      | panic s => rw [hb] at hs; simp only [Res.bind] at hs; cases hs
    | err e => rw [ha] at hs; cases hs
    | panic s => rw [ha] at hs; cases hs

/-! ## 2 and 4. what `maybe_send_append` sends -/

/-- the `MsgAppend` that `prepare_send_entries` + `send` queue -/
def appendMsg (r : Raft) (to : Nat) (pr : Progress) (t : Nat) (es : List Entry) : Message :=
  { msgType := .msgAppend, to := to, frm := r.id, term := r.term, index := pr.nextIdx - 1,
    logTerm := t, entries := es, commit := r.raftLog.committed }

/-- what `prepare_send_entries` does to the progress: nothing for an empty append, `update_state`
with the index of the last entry otherwise -/
def SentUpdate (pr : Progress) (es : List Entry) (pr' : Progress) : Prop :=
  match es.getLast? with
  | none => pr' = pr
  | some last => pr.updateState last.index = .ok pr'

/-- the snapshot path of `maybe_send_append` (raft.rs:812-815, 841-846, 849) -/
def viaSnapshot (r : Raft) (to : Nat) (pr : Progress) : Res (Raft × Progress × Bool) :=
  match r.prepareSendSnapshot { to := to } pr to with
  | .ok (r, m, pr, true) => (r.send m).bind (fun r => .ok (r, pr, true))
  | .ok (r, _, pr, false) => .ok (r, pr, false)
  | .err e => .err e
  | .panic s => .panic s

theorem viaSnapshot_eq (r : Raft) (to : Nat) (pr : Progress) :
    viaSnapshot r to pr = r.sendSnapshotTo to pr := rfl

theorem send_appendMsg (r : Raft) (to : Nat) (pr : Progress) (t : Nat) (es : List Entry) :
    r.send { to := to, msgType := .msgAppend, index := pr.nextIdx - 1, logTerm := t, entries := es,
             commit := r.raftLog.committed } =
      .ok { r with msgs := r.msgs ++ [appendMsg r to pr t es] } := by
  simp [Raft.send, Raft.sendFill, isVoteMsg, appendMsg]

theorem maybeSendAppend_entries (r : Raft) (to : Nat) (pr : Progress) (allowEmpty : Bool)
    (hp : pr.isPaused = false) (hq : pr.pendingRequestSnapshot = 0) (hb : r.batchAppend = false)
    (hn : pr.nextIdx ≠ 0) (t : Nat) (es : List Entry)
    (ht : r.raftLog.term (pr.nextIdx - 1) = .ok t)
    (he : r.raftLog.entries pr.nextIdx (some r.maxMsgSize) true = .ok es)
    (hae : allowEmpty = true ∨ es ≠ []) :
    r.maybeSendAppend to pr allowEmpty =
      match es.getLast? with
      | none => .ok ({ r with msgs := r.msgs ++ [appendMsg r to pr t es] }, pr, true)
      | some last =>
        match pr.updateState last.index with
        | .ok pr' => .ok ({ r with msgs := r.msgs ++ [appendMsg r to pr t es] }, pr', true)
        | .err e => .err e
        | .panic s => .panic s := by
  have hae' : (!allowEmpty && es.isEmpty) = false := by
    rcases hae with h | h
    · simp [h]
    · cases es with
      | nil => exact absurd rfl h
      | cons _ _ => simp
  unfold Raft.maybeSendAppend
  simp only [hp, hq, he, ht, hb, hn, hae', Raft.prepareSendEntries, Bool.false_eq_true, if_false,
    ne_eq, not_true_eq_false]
  cases hl : es.getLast? with
  | none => simp only [send_appendMsg, Res.bind, hb]
  | some last =>
    simp only
    cases hu : pr.updateState last.index with
    | ok pr' => simp only [send_appendMsg, Res.bind, hb]
    | err e => rfl
    | panic s => rfl

/-- the `MsgSnapshot` that `prepare_send_snapshot` + `send` queue -/
def snapMsg (r : Raft) (to : Nat) (sn : Snapshot) : Message :=
  { msgType := .msgSnapshot, to := to, frm := r.id, term := r.term, snapshot := sn }

theorem send_snapMsg (r : Raft) (to : Nat) (sn : Snapshot) :
    r.send { to := to, msgType := .msgSnapshot, snapshot := sn } =
      .ok { r with msgs := r.msgs ++ [snapMsg r to sn] } := by
  simp [Raft.send, Raft.sendFill, isVoteMsg, snapMsg]

theorem C13_prepareSendSnapshot_inactive (r : Raft) (m : Message) (pr : Progress) (to : Nat)
    (h : pr.recentActive = false) : r.prepareSendSnapshot m pr to = .ok (r, m, pr, false) := by
  unfold Raft.prepareSendSnapshot; simp [h]

theorem C13_prepareSendSnapshot_empty_panics (r : Raft) (m : Message) (pr : Progress) (to : Nat)
    (ha : pr.recentActive = true) (sn : Snapshot)
    (hs : (r.raftLog.snapshot pr.pendingRequestSnapshot).2 = .ok sn) (h0 : sn.metadata.index = 0) :
    r.prepareSendSnapshot m pr to = .panic "raft.prepare_send_snapshot.empty_snapshot" := by
  unfold Raft.prepareSendSnapshot
  cases hsn : r.raftLog.snapshot pr.pendingRequestSnapshot with
  | mk log sr =>
    rw [hsn] at hs
    simp only at hs
    subst hs
    simp [ha, h0]

theorem C13_prepareSendSnapshot_spec (r r1 : Raft) (m m1 : Message) (pr pr1 : Progress) (to : Nat)
    (b : Bool) (h : r.prepareSendSnapshot m pr to = .ok (r1, m1, pr1, b)) :
    (b = true → pr.recentActive = true ∧
      r.raftLog.snapshot pr.pendingRequestSnapshot = (r1.raftLog, .ok m1.snapshot) ∧
      m1.snapshot.metadata.index ≠ 0 ∧
      r1 = { r with raftLog := r1.raftLog } ∧
      m1 = { m with msgType := .msgSnapshot, snapshot := m1.snapshot } ∧
      pr1 = pr.becomeSnapshot m1.snapshot.metadata.index) ∧
    (b = false → pr1 = pr ∧ r1 = { r with raftLog := r1.raftLog } ∧
      (pr.recentActive = false ∨
        (r.raftLog.snapshot pr.pendingRequestSnapshot).2 = .err .snapshotTemporarilyUnavailable)) := by
  unfold Raft.prepareSendSnapshot at h
  cases ha : pr.recentActive with
  | false =>
    simp only [ha, Bool.not_false, if_true] at h
    cases h
    exact ⟨(fun hb => nomatch hb), fun _ => ⟨rfl, rfl, Or.inl rfl⟩⟩
  | true =>
    simp only [ha, Bool.not_true, Bool.false_eq_true, if_false] at h
    cases hsn : r.raftLog.snapshot pr.pendingRequestSnapshot with
    | mk log sr =>
      rw [hsn] at h
      simp only at h
      cases sr with
      | ok sn =>
        simp only at h
        split at h
        · cases h
        · rename_i h0
          cases h
          exact ⟨fun _ => ⟨rfl, rfl, h0, rfl, rfl, rfl⟩, (fun hb => nomatch hb)⟩
      | err e =>
        cases e <;> simp only at h <;> first
          | (cases h; exact ⟨(fun hb => nomatch hb), fun _ => ⟨rfl, rfl, Or.inr rfl⟩⟩)
          | cases h
      | panic s => cases h

/-- what the snapshot path yields -/
theorem viaSnapshot_spec (r r' : Raft) (to : Nat) (pr pr' : Progress) (sent : Bool)
    (h : viaSnapshot r to pr = .ok (r', pr', sent)) :
    (sent = true → pr.recentActive = true ∧ ∃ sn,
      r.raftLog.snapshot pr.pendingRequestSnapshot = (r'.raftLog, .ok sn) ∧
      sn.metadata.index ≠ 0 ∧
      r' = { r with raftLog := r'.raftLog, msgs := r.msgs ++ [snapMsg r to sn] } ∧
      pr' = pr.becomeSnapshot sn.metadata.index) ∧
    (sent = false → pr' = pr ∧ r' = { r with raftLog := r'.raftLog } ∧
      (pr.recentActive = false ∨
        (r.raftLog.snapshot pr.pendingRequestSnapshot).2 = .err .snapshotTemporarilyUnavailable)) := by
  unfold viaSnapshot at h
  cases hp : r.prepareSendSnapshot { to := to } pr to with
  | ok q =>
    obtain ⟨r1, m1, pr1, b⟩ := q
    have hs := C13_prepareSendSnapshot_spec r r1 _ m1 pr pr1 to b hp
    rw [hp] at h
    cases b with
    | true =>
      obtain ⟨h1, h2, h3, h4, h5, h6⟩ := hs.1 rfl
      simp only at h
      rw [h5, send_snapMsg] at h
      simp only [Res.bind] at h
      cases h
      refine ⟨fun _ => ⟨h1, m1.snapshot, h2, h3, ?_, h6⟩, (fun hb => nomatch hb)⟩
      rw [h4]; rfl
    | false =>
      simp only at h
      cases h
      exact ⟨(fun hb => nomatch hb), fun _ => hs.2 rfl⟩
  | err e => rw [hp] at h; cases h
  | panic s => rw [hp] at h; cases h


theorem maybeSendAppend_request_snapshot (r : Raft) (to : Nat) (pr : Progress) (allowEmpty : Bool)
    (hp : pr.isPaused = false) (hq : pr.pendingRequestSnapshot ≠ 0) :
    r.maybeSendAppend to pr allowEmpty = viaSnapshot r to pr := by
  unfold Raft.maybeSendAppend viaSnapshot
  simp only [hp, hq, Bool.false_eq_true, if_false, ne_eq, not_false_eq_true, if_true]
  rfl

theorem maybeSendAppend_entries_err (r : Raft) (to : Nat) (pr : Progress)
    (hp : pr.isPaused = false) (hq : pr.pendingRequestSnapshot = 0) (hn : pr.nextIdx ≠ 0)
    (e : StorageError) (he : r.raftLog.entries pr.nextIdx (some r.maxMsgSize) true = .err e)
    (hne : e ≠ .logTemporarilyUnavailable) (hnp : ∀ s, r.raftLog.term (pr.nextIdx - 1) ≠ .panic s) :
    r.maybeSendAppend to pr true = viaSnapshot r to pr := by
  unfold Raft.maybeSendAppend viaSnapshot
  simp only [hp, hq, he, hn, Bool.false_eq_true, if_false, ne_eq, not_true_eq_false,
    Bool.not_true, Bool.false_and]
  cases ht : r.raftLog.term (pr.nextIdx - 1) with
  | panic s => exact absurd ht (hnp s)
  | ok t => cases e <;> first | exact absurd rfl hne | rfl
  | err e2 => cases e <;> first | exact absurd rfl hne | rfl

theorem maybeSendAppend_term_err (r : Raft) (to : Nat) (pr : Progress) (allowEmpty : Bool)
    (hp : pr.isPaused = false) (hq : pr.pendingRequestSnapshot = 0) (hn : pr.nextIdx ≠ 0)
    (es : List Entry) (he : r.raftLog.entries pr.nextIdx (some r.maxMsgSize) true = .ok es)
    (hae : allowEmpty = true ∨ es ≠ [])
    (e : StorageError) (ht : r.raftLog.term (pr.nextIdx - 1) = .err e) :
    r.maybeSendAppend to pr allowEmpty = viaSnapshot r to pr := by
  have hae' : (!allowEmpty && es.isEmpty) = false := by
    rcases hae with h | h
    · simp [h]
    · cases es with
      | nil => exact absurd rfl h
      | cons _ _ => simp
  unfold Raft.maybeSendAppend viaSnapshot
  simp only [hp, hq, he, ht, hn, hae', Bool.false_eq_true, if_false, ne_eq, not_true_eq_false]
  rfl


/-! ## the entries handed to `maybe_send_append` are contiguous, within the log, within the size limit -/

/-- the size `util::limit_size` measures: the sum of the protobuf sizes of the entries -/
def msgSize (es : List Entry) : Nat := (es.map Entry.computeSize).sum

theorem computeSize_pos (e : Entry) (h : e.index ≠ 0) : e.computeSize ≠ 0 := by
  unfold Entry.computeSize
  simp only [h, ne_eq, not_false_eq_true, if_true]
  omega

theorem limitCount_bound (m : Nat) : ∀ (l : List Entry) (size : Nat), size ≠ 0 →
    limitCount m size l = 0 ∨ size + msgSize (l.take (limitCount m size l)) ≤ m := by
  intro l
  induction l with
  | nil => intro size _; left; rfl
  | cons e es ih =>
    intro size hs
    unfold limitCount
    simp only [hs, if_false]
    split
    · rename_i hle
      right
      have hne : size + e.computeSize ≠ 0 := by omega
      rcases ih (size + e.computeSize) hne with h0 | h1
      · rw [h0]; simp [msgSize]; omega
      · rw [Nat.add_comm 1, List.take_succ_cons]
        simp only [msgSize, List.map_cons, List.sum_cons] at h1 ⊢
        omega
    · left; rfl

/-- `util::limit_size` (util.rs:49-76): the result is a single entry (or none), or unlimited, or its
total size is within the limit — provided the first entry has a non-zero size (every entry with a
non-zero index has). -/
theorem limitSize_bound (l : List Entry) (m : Nat)
    (hpos : ∀ e, l.head? = some e → e.computeSize ≠ 0) :
    (limitSize l (some m)).length ≤ 1 ∨ m = NO_LIMIT ∨ msgSize (limitSize l (some m)) ≤ m := by
  unfold limitSize
  split
  · left; assumption
  · simp only
    split
    · right; left; assumption
    · cases l with
      | nil => left; simp
      | cons e es =>
        have hp := hpos e rfl
        unfold limitCount
        simp only [if_true, Nat.zero_add]
        rcases limitCount_bound m es e.computeSize hp with h0 | h1
        · left; rw [h0]; simp
        · right; right
          rw [Nat.add_comm 1, List.take_succ_cons]
          simp only [msgSize, List.map_cons, List.sum_cons] at h1 ⊢
          exact h1

/-- **What `RaftLog::entries(idx, max_size)` hands to `maybe_send_append`** (raft_log.rs:401-413),
under the C14 representation invariant: a contiguous run of entries numbered `idx, idx+1, …`, all
within the log, and — for `idx ≠ 0` — either at most one entry, or no limit, or of total size within
`max_size`. -/
theorem C13_entries_contiguous_bounded (l : RaftLog) (h : RaftProps.C14.RaftLogInv l) (idx : Nat)
    (mx : Option Nat) (ca : Bool) (es : List Entry) (he : l.entries idx mx ca = .ok es) :
    ContigFrom idx es ∧ (∀ e ∈ es, idx ≤ e.index ∧ e.index ≤ l.lastIndex) ∧
    (idx ≠ 0 → ∀ m, mx = some m → es.length ≤ 1 ∨ m = NO_LIMIT ∨ msgSize es ≤ m) := by
  have h : l.Inv := h
  rcases h.entries_inv he with ⟨_, rfl⟩ | ⟨h1, h2, rfl⟩
  · exact ⟨fun _ _ hk => (by cases hk), fun _ hm => (by cases hm), fun _ _ _ => .inl (Nat.zero_le _)⟩
  · obtain ⟨hc, _⟩ := h.range_contig idx (l.lastIndex + 1) h1 (by omega) (Nat.le_refl _)
    obtain ⟨n, hn⟩ := (limitSize_spec (l.abs.range idx (l.lastIndex + 1)) mx).1
    refine ⟨by rw [hn]; exact hc.take n, fun e hm => ?_, fun hi m hmx => ?_⟩
    · rw [hn] at hm
      obtain ⟨k, hk⟩ := List.mem_iff_getElem?.1 (List.mem_of_mem_take hm)
      have := hc k e hk
      have := (List.getElem?_eq_some_iff.1 hk).1
      omega
    · subst hmx
      refine limitSize_bound _ m fun e hh => computeSize_pos e ?_
      rw [List.head?_eq_getElem?] at hh
      have := hc 0 e hh
      omega


/-! ## 2. the shape of an append and of the progress afterwards -/

/-- **`Progress::update_state(last)`** (progress.rs:225-238), per state: `Probe` pauses (one
un-acknowledged append at a time); `Replicate` moves `next_idx` to `last + 1` and appends `last` to
the in-flight window (no panic when the window satisfies its invariant and is not full, i.e. when
the progress is not paused); `Snapshot` is the `panic!` arm. -/
theorem C13_updateState_spec (pr : Progress) (last : Nat) :
    (pr.state = .probe → pr.updateState last = .ok pr.pause ∧ pr.pause.isPaused = true) ∧
    (pr.state = .replicate → last < U64_MAX → pr.ins.Inv → pr.ins.full = false →
      ∃ ins', pr.ins.add last = .ok ins' ∧ ins'.Inv ∧ ins'.contents = pr.ins.contents ++ [last] ∧
        ins'.count = pr.ins.count + 1 ∧
        pr.updateState last = .ok { pr with nextIdx := last + 1, ins := ins' }) ∧
    (pr.state = .snapshot → pr.updateState last = .panic "progress.update_state.snapshot") := by
  refine ⟨?_, ?_, ?_⟩
  · intro hs
    unfold Progress.updateState
    simp [hs, Progress.isPaused, Progress.pause]
  · intro hs hl hi hf
    obtain ⟨ins', h1, h2, _⟩ := Inflights.add_refines pr.ins hi last hf
    obtain ⟨ins'', h3, h4, h5⟩ := RaftProps.C18.C18_add_succeeds pr.ins hi last hf
    rw [h1] at h3
    cases h3
    refine ⟨ins', h1, h2, h4, h5, ?_⟩
    unfold Progress.updateState
    have : ¬ U64_MAX ≤ last := by omega
    simp only [hs, this, if_false, Progress.optimisticUpdate, h1]
  · intro hs
    unfold Progress.updateState
    simp [hs]

/-- **C13 `append_shape`** (raft.rs:816-835, 729-745; batching off).  A follower that is not paused
and has no snapshot request pending, whose next entries and anchor term are available, is sent
exactly one `MsgAppend`: `index = next_idx - 1`, `log_term = term(index)`, `commit = committed`,
`entries =` what `raft_log.entries(next_idx, max_size_per_msg)` returned (contiguous from `next_idx`,
within the log and within the size limit unless a single entry: `C13_entries_contiguous_bounded`),
from this node in its term.  Afterwards: an empty append leaves the progress alone; otherwise a
probing follower is paused and a replicating follower has `next_idx = last sent + 1` with the last
index appended to its window (`hins`, `hov`: the window invariant and `last < u64::MAX` rule out the
two panic sites of `update_state`). -/
theorem C13_append_shape (r : Raft) (to : Nat) (pr : Progress) (allowEmpty : Bool)
    (hp : pr.isPaused = false) (hq : pr.pendingRequestSnapshot = 0) (hb : r.batchAppend = false)
    (hn : pr.nextIdx ≠ 0) (t : Nat) (es : List Entry)
    (ht : r.raftLog.term (pr.nextIdx - 1) = .ok t)
    (he : r.raftLog.entries pr.nextIdx (some r.maxMsgSize) true = .ok es)
    (hae : allowEmpty = true ∨ es ≠ [])
    (hins : pr.ins.Inv) (hov : ∀ e ∈ es, e.index < U64_MAX) :
    ∃ pr', r.maybeSendAppend to pr allowEmpty =
        .ok ({ r with msgs := r.msgs ++ [appendMsg r to pr t es] }, pr', true) ∧
      (es = [] → pr' = pr) ∧
      (∀ last, es.getLast? = some last →
        (pr.state = .probe → pr' = pr.pause ∧ pr'.isPaused = true) ∧
        (pr.state = .replicate → pr' = { pr with nextIdx := last.index + 1, ins := pr'.ins } ∧
          pr'.ins.contents = pr.ins.contents ++ [last.index] ∧ pr'.ins.Inv)) := by
  rw [maybeSendAppend_entries r to pr allowEmpty hp hq hb hn t es ht he hae]
  cases hl : es.getLast? with
  | none =>
    exact ⟨pr, rfl, fun _ => rfl, (fun last h => nomatch h)⟩
  | some last =>
    have hne : es ≠ [] := by intro h; subst h; simp at hl
    have hmem : last ∈ es := List.mem_of_getLast? hl
    have hspec := C13_updateState_spec pr last.index
    cases hst : pr.state with
    | probe =>
      obtain ⟨h1, h2⟩ := hspec.1 hst
      refine ⟨pr.pause, by simp only [h1], fun h => absurd h hne, ?_⟩
      intro l' hl'; cases hl'
      exact ⟨fun _ => ⟨rfl, h2⟩, (fun h => nomatch h)⟩
    | replicate =>
      have hf : pr.ins.full = false := by
        have := hp; unfold Progress.isPaused at this; rw [hst] at this; exact this
      obtain ⟨ins', h1, h2, h3, _, h5⟩ := hspec.2.1 hst (hov last hmem) hins hf
      refine ⟨{ pr with nextIdx := last.index + 1, ins := ins' }, by simp only [h5],
        fun h => absurd h hne, ?_⟩
      intro l' hl'; cases hl'
      exact ⟨(fun h => nomatch h), fun _ => ⟨by simp only [hst], h3, h2⟩⟩
    | snapshot =>
      have := C13_snapshot_state_is_paused pr hst
      rw [hp] at this; cases this


/-! ## 7. batching -/

/-- the queued `MsgAppend` after `try_batching` glued `ents` onto it and refreshed its commit index -/
def batchedMsg (committed : Nat) (msg : Message) (ents : List Entry) : Message :=
  { msg with entries := msg.entries ++ ents, commit := committed }

/-- "a queued append to `to`" -/
def IsAppendTo (to : Nat) (m : Message) : Prop := m.msgType = .msgAppend ∧ m.to = to

/-- `util::is_continuous_ents` (util.rs:78, with the repair of finding F8): an empty batch is always
continuous; otherwise its first index must be one past the last entry of the queued message, or —
when the queued message carries no entries — one past the index the message is anchored at. -/
theorem C13_isContinuousEnts_char (msg : Message) (ents : List Entry) :
    isContinuousEnts msg ents = true ↔
      ents = [] ∨ ∃ first, ents.head? = some first ∧
        first.index = (match msg.entries.getLast? with
          | some last => last.index + 1
          | none => msg.index + 1) := by
  unfold isContinuousEnts
  cases ents with
  | nil => simp
  | cons e es =>
    simp only [List.head?_cons, beq_iff_eq, reduceCtorEq, false_or, Option.some.injEq, exists_eq_left']
    constructor <;> intro h <;> exact h.symm

theorem tryBatchingLoop_spec (committed to : Nat) (pr : Progress) (ents : List Entry) :
    ∀ (msgs msgs' : List Message) (pr' : Progress) (b : Bool),
    tryBatchingLoop committed to pr ents msgs = .ok (msgs', pr', b) →
    (b = true → ∃ pre msg post, msgs = pre ++ msg :: post ∧
        (∀ m ∈ pre, ¬ IsAppendTo to m) ∧ IsAppendTo to msg ∧ isContinuousEnts msg ents = true ∧
        msgs' = pre ++ batchedMsg committed msg ents :: post ∧ SentUpdate pr ents pr') ∧
    (b = false → msgs' = msgs ∧ pr' = pr ∧
        ((∀ m ∈ msgs, ¬ IsAppendTo to m) ∨
         (ents ≠ [] ∧ ∃ pre msg post, msgs = pre ++ msg :: post ∧
            (∀ m ∈ pre, ¬ IsAppendTo to m) ∧ IsAppendTo to msg ∧
            isContinuousEnts msg ents = false))) := by
  intro msgs
  induction msgs with
  | nil =>
    intro msgs' pr' b h
    unfold tryBatchingLoop at h
    cases h
    exact ⟨(fun hb => nomatch hb), fun _ => ⟨rfl, rfl, Or.inl (by simp)⟩⟩
  | cons msg rest ih =>
    intro msgs' pr' b h
    unfold tryBatchingLoop at h
    split at h
    · rename_i hto
      have hto' : IsAppendTo to msg := hto
      cases hemp : ents.isEmpty with
      | true =>
        have hnil : ents = [] := by simpa using hemp
        subst hnil
        simp only [List.isEmpty_nil, Bool.not_true, Bool.false_eq_true, if_false] at h
        cases h
        refine ⟨fun _ => ⟨[], msg, rest, rfl, by simp, hto', rfl, ?_, ?_⟩, (fun hb => nomatch hb)⟩
        · simp [batchedMsg]
        · show pr = pr; rfl
      | false =>
        have hne : ents ≠ [] := by intro hc; subst hc; simp at hemp
        simp only [hemp, Bool.not_false, if_true] at h
        cases hc : isContinuousEnts msg ents with
        | false =>
          simp only [hc, Bool.not_false, if_true] at h
          cases h
          exact ⟨(fun hb => nomatch hb), fun _ => ⟨rfl, rfl,
            Or.inr ⟨hne, [], msg, rest, rfl, by simp, hto', hc⟩⟩⟩
        | true =>
          simp only [hc, Bool.not_true, Bool.false_eq_true, if_false] at h
          obtain ⟨x, hx⟩ : ∃ x, ents.getLast? = some x := by
            cases hg : ents.getLast? with
            | none => simp at hg; exact absurd hg hne
            | some x => exact ⟨x, rfl⟩
          have hlast : (msg.entries ++ ents).getLast? = some x := by
            rw [List.getLast?_append, hx]; rfl
          rw [hlast] at h
          simp only at h
          split at h
          · rename_i p hu
            cases h
            refine ⟨fun _ => ⟨[], msg, rest, rfl, by simp, hto', hc, rfl, ?_⟩, (fun hb => nomatch hb)⟩
            unfold SentUpdate; rw [hx]; exact hu
          · cases h
          · cases h
    · rename_i hto
      have hto' : ¬ IsAppendTo to msg := hto
      split at h
      · rename_i rest' p b' hrec
        cases h
        have := ih rest' pr' b hrec
        refine ⟨fun hb => ?_, fun hb => ?_⟩
        · obtain ⟨pre, m0, post, h1, h2, h3, h4, h5, h6⟩ := this.1 hb
          refine ⟨msg :: pre, m0, post, by rw [h1]; rfl, ?_, h3, h4, by rw [h5]; rfl, h6⟩
          intro m hm
          rcases List.mem_cons.1 hm with h | h
          · subst h; exact hto'
          · exact h2 m h
        · obtain ⟨h1, h2, h3⟩ := this.2 hb
          refine ⟨by rw [h1], h2, ?_⟩
          rcases h3 with h3 | ⟨hne, pre, m0, post, h4, h5, h6, h7⟩
          · left
            intro m hm
            rcases List.mem_cons.1 hm with h | h
            · subst h; exact hto'
            · exact h3 m h
          · right
            refine ⟨hne, msg :: pre, m0, post, by rw [h4]; rfl, ?_, h6, h7⟩
            intro m hm
            rcases List.mem_cons.1 hm with h | h
            · subst h; exact hto'
            · exact h5 m h
      · cases h
      · cases h


/-- **C13 `batching`** (raft.rs:747-774).  `try_batching` either leaves the queue and the progress
alone (`false`: no append to this peer is queued, or the first one queued is not continued by the new
entries), or rewrites **exactly one** queued message — the first `MsgAppend` to the same peer — and
only when the new entries start exactly one past that message's last entry (or, for an entry-less
message, one past its anchor `msg.index`: the repaired case of finding F8): the new entries are
appended, the commit index refreshed, everything else in the queue is untouched, and the progress is
updated as if the entries had been sent on their own (`SentUpdate`). -/
theorem C13_batching (r r' : Raft) (to : Nat) (pr pr' : Progress) (ents : List Entry) (b : Bool)
    (h : r.tryBatching to pr ents = .ok (r', pr', b)) :
    r' = { r with msgs := r'.msgs } ∧
    (b = true → ∃ pre msg post, r.msgs = pre ++ msg :: post ∧
        (∀ m ∈ pre, ¬ IsAppendTo to m) ∧ IsAppendTo to msg ∧ isContinuousEnts msg ents = true ∧
        r'.msgs = pre ++ batchedMsg r.raftLog.committed msg ents :: post ∧ SentUpdate pr ents pr') ∧
    (b = false → r' = r ∧ pr' = pr ∧
        ((∀ m ∈ r.msgs, ¬ IsAppendTo to m) ∨
         (ents ≠ [] ∧ ∃ pre msg post, r.msgs = pre ++ msg :: post ∧
            (∀ m ∈ pre, ¬ IsAppendTo to m) ∧ IsAppendTo to msg ∧
            isContinuousEnts msg ents = false))) := by
  unfold Raft.tryBatching at h
  split at h
  · rename_i msgs p b' hl
    cases h
    have := tryBatchingLoop_spec r.raftLog.committed to pr ents r.msgs msgs pr' b hl
    refine ⟨rfl, this.1, fun hb => ?_⟩
    obtain ⟨h1, h2, h3⟩ := this.2 hb
    refine ⟨?_, h2, h3⟩
    rw [h1]
  · cases h
  · cases h

/-- batching keeps a queued append a contiguous slice: if the queued message carries entries
numbered from `msg.index + 1` and the new entries are numbered consecutively, the glued message
carries entries numbered from `msg.index + 1` — the anchor `(index, log_term)` stays right. -/
theorem C13_batching_keeps_contiguity (committed : Nat) (msg : Message) (ents : List Entry)
    (s : Nat) (hm : ContigFrom (msg.index + 1) msg.entries) (he : ContigFrom s ents)
    (hc : isContinuousEnts msg ents = true) :
    ContigFrom ((batchedMsg committed msg ents).index + 1) (batchedMsg committed msg ents).entries ∧
    (batchedMsg committed msg ents).index = msg.index ∧
    (batchedMsg committed msg ents).logTerm = msg.logTerm := by
  refine ⟨?_, rfl, rfl⟩
  show ContigFrom (msg.index + 1) (msg.entries ++ ents)
  cases ents with
  | nil => simpa using hm
  | cons e es =>
    apply hm.append
    have hs : e.index = s := he.head
    rcases (C13_isContinuousEnts_char msg (e :: es)).1 hc with h | ⟨f, hf, hidx⟩
    · cases h
    · simp only [List.head?_cons, Option.some.injEq] at hf
      subst hf
      have : msg.index + 1 + msg.entries.length = s := by
        cases hl : msg.entries.getLast? with
        | none =>
          have : msg.entries = [] := by simpa using hl
          rw [hl] at hidx; simp only at hidx
          rw [this]; simp; omega
        | some last =>
          rw [hl] at hidx; simp only at hidx
          have := hm.getLast hl
          omega
      rw [this]; exact he

/-- **Restated part of `batching`: there is no size limit on a batched message.**  The property text
says "within `max_size_per_msg`"; the code does not check it: `try_batching` does not look at
`max_msg_size` at all (it is not an input of the loop, and changing it changes nothing), so every
*chunk* glued on is within the limit (`C13_entries_contiguous_bounded`) but the queued message grows
by one chunk per call (per proposal, with `send_append` after each) without bound until the
application takes the Ready.  This matches upstream behaviour (the limit bounds what is read from
the log per call, not the message). -/
theorem C13_batching_ignores_size_limit (r : Raft) (n to : Nat) (pr : Progress) (ents : List Entry) :
    ({ r with maxMsgSize := n } : Raft).tryBatching to pr ents =
      match r.tryBatching to pr ents with
      | .ok (r', pr', b) => .ok ({ r' with maxMsgSize := n }, pr', b)
      | .err e => .err e
      | .panic s => .panic s := by
  unfold Raft.tryBatching
  simp only
  cases tryBatchingLoop r.raftLog.committed to pr ents r.msgs with
  | ok p => rfl
  | err e => rfl
  | panic s => rfl


/-- `prepare_send_entries` + `send` (raft.rs:729-745, 835): `appendMsg` is queued, the progress is
updated for the last entry sent -/
theorem prepareSendEntries_sent {r r' : Raft} {to : Nat} {pr pr' : Progress} {t : Nat}
    {es : List Entry} {m : Message}
    (h : r.prepareSendEntries { to := to } pr t es = .ok (m, pr')) (hs : r.send m = .ok r') :
    SentUpdate pr es pr' ∧ r' = { r with msgs := r.msgs ++ [appendMsg r to pr t es] } := by
  unfold Raft.prepareSendEntries at h
  obtain ⟨_, h⟩ := Res.of_guard h
  unfold SentUpdate
  dsimp only at h
  cases hl : es.getLast? with
  | none =>
    rw [hl] at h; cases h
    exact ⟨rfl, Res.ok.inj (hs.symm.trans (send_appendMsg r to pr t es))⟩
  | some last =>
    rw [hl] at h
    dsimp only at h ⊢
    cases hu : pr.updateState last.index with
    | ok p =>
      rw [hu] at h; cases h
      exact ⟨rfl, Res.ok.inj (hs.symm.trans (send_appendMsg r to pr t es))⟩
    | err e => rw [hu] at h; cases h
    | panic s => rw [hu] at h; cases h

/-- **Classification of every successful `maybe_send_append`** (raft.rs:794-851): nothing for a paused
follower; an append of exactly the entries the log returned (queued on its own, or — batching on —
glued onto a queued append by `try_batching`); nothing when there is nothing to send and empty
appends are not wanted, or the storage fetches asynchronously; otherwise the snapshot path. -/
theorem C13_send_classification (r r' : Raft) (to : Nat) (pr pr' : Progress) (allowEmpty sent : Bool)
    (h : r.maybeSendAppend to pr allowEmpty = .ok (r', pr', sent)) :
    (pr.isPaused = true ∧ r' = r ∧ pr' = pr ∧ sent = false) ∨
    (pr.isPaused = false ∧ pr.pendingRequestSnapshot = 0 ∧ pr.nextIdx ≠ 0 ∧ ∃ t es,
        r.raftLog.term (pr.nextIdx - 1) = .ok t ∧
        r.raftLog.entries pr.nextIdx (some r.maxMsgSize) true = .ok es ∧
        (allowEmpty = true ∨ es ≠ []) ∧ sent = true ∧ SentUpdate pr es pr' ∧
        ((r.batchAppend = true ∧ r.tryBatching to pr es = .ok (r', pr', true)) ∨
         ((r.batchAppend = false ∨ r.tryBatching to pr es = .ok (r, pr, false)) ∧
           r' = { r with msgs := r.msgs ++ [appendMsg r to pr t es] }))) ∨
    (pr.isPaused = false ∧ pr.pendingRequestSnapshot = 0 ∧ r' = r ∧ pr' = pr ∧ sent = false ∧
        ((allowEmpty = false ∧
            (r.raftLog.entries pr.nextIdx (some r.maxMsgSize) true = .ok [] ∨
             ∃ e, r.raftLog.entries pr.nextIdx (some r.maxMsgSize) true = .err e)) ∨
         r.raftLog.entries pr.nextIdx (some r.maxMsgSize) true = .err .logTemporarilyUnavailable)) ∨
    (pr.isPaused = false ∧
        (pr.pendingRequestSnapshot ≠ 0 ∨
         (∃ e, r.raftLog.term (pr.nextIdx - 1) = .err e) ∨
         (∃ e, r.raftLog.entries pr.nextIdx (some r.maxMsgSize) true = .err e ∧
            e ≠ .logTemporarilyUnavailable)) ∧
        viaSnapshot r to pr = .ok (r', pr', sent)) := by
  cases maybeSendAppend_inv h with
  | paused hp => exact .inl ⟨hp, rfl, rfl, rfl⟩
  | idle hp hq hae he => exact .inr (.inr (.inl ⟨hp, hq, rfl, rfl, rfl, .inl ⟨hae, he⟩⟩))
  | fetching hp hq _ _ he => exact .inr (.inr (.inl ⟨hp, hq, rfl, rfl, rfl, .inr he⟩))
  | requested hp hq hs => exact .inr (.inr (.inr ⟨hp, .inl hq, (viaSnapshot_eq r to pr).trans hs.symm⟩))
  | fallback hp _ _ hc hs =>
    refine .inr (.inr (.inr ⟨hp, ?_, (viaSnapshot_eq r to pr).trans hs.symm⟩))
    rcases hc with ⟨_, e, _, _, ht⟩ | ⟨e, he, hl, _⟩
    · exact .inr (.inl ⟨e, ht⟩)
    · exact .inr (.inr ⟨e, he, hl⟩)
  | entries hp hq hn he hae ht harm =>
    rename_i t es
    refine .inr (.inl ⟨hp, hq, hn, t, es, ht, he, hae, ?_⟩)
    -- the entries arm: glued onto a queued append, or (`try_batching` off or declining, which
    -- changes nothing) sent on their own
    have hs := harm.symm
    clear harm
    unfold Raft.sendEntriesTo at hs
    split at hs
    · rename_i r1 pr1 hb
      cases hs
      split at hb
      · rename_i hba
        obtain ⟨_, _, _, _, _, _, _, _, hsu⟩ := (C13_batching r r' to pr pr' es true hb).2.1 rfl
        exact ⟨rfl, hsu, .inl ⟨hba, hb⟩⟩
      · cases hb
    · rename_i r1 pr1 hb
      have hb' : r1 = r ∧ pr1 = pr ∧
          (r.batchAppend = false ∨ r.tryBatching to pr es = .ok (r, pr, false)) := by
        split at hb
        · obtain ⟨e1, e2, _⟩ := (C13_batching r r1 to pr pr1 es false hb).2.2 rfl
          subst e1; subst e2; exact ⟨rfl, rfl, .inr hb⟩
        · rename_i hba; cases hb; exact ⟨rfl, rfl, .inl (by simpa using hba)⟩
      obtain ⟨rfl, rfl, hb'⟩ := hb'
      split at hs
      · rename_i hpe
        obtain ⟨r2, hsd, hs⟩ := Res.bind_eq_ok hs
        cases hs
        obtain ⟨hsu, e⟩ := prepareSendEntries_sent hpe hsd
        exact ⟨rfl, hsu, .inr ⟨hb', e⟩⟩
      · cases hs
      · cases hs
    · cases hs
    · cases hs

/-! ## 4. snapshots instead of entries -/

/-- `RaftLog::entries` below the first index answers `Compacted` (raft_log.rs:401-413, 501-512): the
needed entries are gone. -/
theorem entries_compacted (l : RaftLog) (idx : Nat) (mx : Option Nat) (ca : Bool)
    (h1 : idx ≤ l.lastIndex) (h2 : idx < l.firstIndex) : l.entries idx mx ca = .err .compacted := by
  unfold RaftLog.entries RaftLog.slice RaftLog.mustCheckOutOfBounds
  have h3 : ¬ l.lastIndex < idx := by omega
  have h4 : ¬ l.lastIndex + 1 < idx := by omega
  simp [h3, h4, h2]

/-- **C13 `snapshot_instead_of_entries`** (raft.rs:809-815, 836-847, 679-727).  For a follower that
is not paused, `maybe_send_append` takes the snapshot path — and never reads or sends entries —
when (a) the follower asked for a snapshot (`pending_request_snapshot ≠ 0`), or (b) reading the
entries from `next_idx` failed with anything but "temporarily unavailable" (`Compacted`: see
`entries_compacted`) and an empty append would be allowed, or (c) the anchor term
`term(next_idx - 1)` is not available (compacted away).  On that path (`viaSnapshot`):
* a follower that is not `recent_active` gets nothing, nothing changes;
* a temporarily unavailable snapshot sends nothing and leaves the progress alone;
* an empty snapshot (index 0) is the `fatal!` site (`C13_prepareSendSnapshot_empty_panics`);
* otherwise exactly one `MsgSnapshot` carrying the storage's snapshot is queued and the progress
  moves to `Snapshot` with `pending_snapshot =` the snapshot's index — which pauses it
  (`C13_snapshot_state_is_paused`) until the snapshot is acknowledged or fails; `matched` and
  `next_idx` are untouched. -/
theorem C13_snapshot_instead_of_entries (r : Raft) (to : Nat) (pr : Progress) (allowEmpty : Bool)
    (hp : pr.isPaused = false)
    (hc : pr.pendingRequestSnapshot ≠ 0 ∨
      (pr.pendingRequestSnapshot = 0 ∧ pr.nextIdx ≠ 0 ∧ allowEmpty = true ∧
        (∀ s, r.raftLog.term (pr.nextIdx - 1) ≠ .panic s) ∧
        ∃ e, r.raftLog.entries pr.nextIdx (some r.maxMsgSize) true = .err e ∧
          e ≠ .logTemporarilyUnavailable) ∨
      (pr.pendingRequestSnapshot = 0 ∧ pr.nextIdx ≠ 0 ∧
        ∃ es e, r.raftLog.entries pr.nextIdx (some r.maxMsgSize) true = .ok es ∧
          (allowEmpty = true ∨ es ≠ []) ∧ r.raftLog.term (pr.nextIdx - 1) = .err e)) :
    r.maybeSendAppend to pr allowEmpty = viaSnapshot r to pr ∧
    (pr.recentActive = false → viaSnapshot r to pr = .ok (r, pr, false)) ∧
    ∀ r' pr' sent, viaSnapshot r to pr = .ok (r', pr', sent) →
      (sent = true → pr.recentActive = true ∧ ∃ sn,
        r.raftLog.snapshot pr.pendingRequestSnapshot = (r'.raftLog, .ok sn) ∧
        sn.metadata.index ≠ 0 ∧
        r' = { r with raftLog := r'.raftLog, msgs := r.msgs ++ [snapMsg r to sn] } ∧
        pr' = pr.becomeSnapshot sn.metadata.index ∧
        pr'.state = .snapshot ∧ pr'.pendingSnapshot = sn.metadata.index ∧ pr'.isPaused = true ∧
        pr'.matched = pr.matched ∧ pr'.nextIdx = pr.nextIdx) ∧
      (sent = false → pr' = pr ∧ r' = { r with raftLog := r'.raftLog }) := by
  refine ⟨?_, ?_, ?_⟩
  · rcases hc with hq | ⟨hq, hn, ha, hnp, e, he, hne⟩ | ⟨hq, hn, es, e, he, hae, ht⟩
    · exact maybeSendAppend_request_snapshot r to pr allowEmpty hp hq
    · subst ha; exact maybeSendAppend_entries_err r to pr hp hq hn e he hne hnp
    · exact maybeSendAppend_term_err r to pr allowEmpty hp hq hn es he hae e ht
  · intro ha
    unfold viaSnapshot
    rw [C13_prepareSendSnapshot_inactive r _ pr to ha]
  · intro r' pr' sent h
    have hs := viaSnapshot_spec r r' to pr pr' sent h
    refine ⟨fun hb => ?_, fun hb => ⟨(hs.2 hb).1, (hs.2 hb).2.1⟩⟩
    obtain ⟨h1, sn, h2, h3, h4, h5⟩ := hs.1 hb
    refine ⟨h1, sn, h2, h3, h4, h5, ?_⟩
    subst h5
    exact ⟨rfl, rfl, rfl, rfl, rfl⟩

/-! ## 5 (node level). sending keeps the progress within the log -/

/-- taking a snapshot does not change the last index (only the storage's "unavailable" trigger is
consumed) -/
theorem snapshot_lastIndex (l : RaftLog) (ri : Nat) : (l.snapshot ri).1.lastIndex = l.lastIndex := by
  have hst : ∀ (s : MemStorage), (s.snapshot ri).1.lastIndex = s.lastIndex := by
    intro s
    unfold MemStorage.snapshot
    split
    · rfl
    · split <;> rfl
  unfold RaftLog.snapshot
  split
  · split
    · rfl
    · simp only [RaftLog.lastIndex]; rw [hst]
  · simp only [RaftLog.lastIndex]; rw [hst]

/-- how `maybe_send_append` can change a progress, batching on or off: not at all, or the update for
the entries the log returned, or the move to `Snapshot`. -/
theorem C13_send_progress_cases (r r' : Raft) (to : Nat) (pr pr' : Progress)
    (allowEmpty sent : Bool) (h : r.maybeSendAppend to pr allowEmpty = .ok (r', pr', sent)) :
    r'.raftLog.lastIndex = r.raftLog.lastIndex ∧
    (pr' = pr ∨
     (pr.isPaused = false ∧ ∃ es, r.raftLog.entries pr.nextIdx (some r.maxMsgSize) true = .ok es ∧
        SentUpdate pr es pr') ∨
     (pr.isPaused = false ∧ ∃ idx, pr' = pr.becomeSnapshot idx)) := by
  rcases C13_send_classification r r' to pr pr' allowEmpty sent h with
    ⟨_, h1, h2, _⟩ | ⟨hp, _, _, t, es, _, he, _, _, hsu, hr⟩ | ⟨_, _, h1, h2, _⟩ | ⟨hp, _, hv⟩
  · subst h1; exact ⟨rfl, Or.inl h2⟩
  · refine ⟨?_, Or.inr (Or.inl ⟨hp, es, he, hsu⟩)⟩
    rcases hr with ⟨_, htb⟩ | ⟨_, h2⟩
    · have := (C13_batching r r' to pr pr' es true htb).1
      rw [this]
    · rw [h2]
  · subst h1; exact ⟨rfl, Or.inl h2⟩
  · have hs := viaSnapshot_spec r r' to pr pr' sent hv
    cases sent with
    | true =>
      obtain ⟨_, sn, h2, _, _, h5⟩ := hs.1 rfl
      refine ⟨?_, Or.inr (Or.inr ⟨hp, _, h5⟩)⟩
      have := snapshot_lastIndex r.raftLog pr.pendingRequestSnapshot
      rw [h2] at this; exact this
    | false =>
      obtain ⟨h1, h2, _⟩ := hs.2 rfl
      refine ⟨?_, Or.inl h1⟩
      have hl : r'.raftLog = (r.raftLog.snapshot pr.pendingRequestSnapshot).1 ∨ r'.raftLog = r.raftLog := by
        unfold viaSnapshot at hv
        cases hps : r.prepareSendSnapshot { to := to } pr to with
        | ok q =>
          obtain ⟨r1, m1, pr1, b⟩ := q
          rw [hps] at hv
          cases b with
          | true =>
            simp only at hv
            cases hsd : r1.send m1 with
            | ok r2 => rw [hsd] at hv; simp only [Res.bind] at hv; cases hv
            | err e => rw [hsd] at hv; cases hv
            | panic s => rw [hsd] at hv; cases hv
          | false =>
            simp only at hv
            cases hv
            unfold Raft.prepareSendSnapshot at hps
            split at hps
            · cases hps; exact Or.inr rfl
            · simp only at hps
              split at hps
              · cases hps; exact Or.inl rfl
              · cases hps
              · cases hps
              · split at hps <;> cases hps
        | err e => rw [hps] at hv; cases hv
        | panic s => rw [hps] at hv; cases hv
      rcases hl with hl | hl
      · rw [hl]; exact snapshot_lastIndex _ _
      · rw [hl]

/-- **C13 `progress_within_log` (sending).**  Under the C14 representation invariant of the log,
`maybe_send_append` (batching on or off, any path) keeps a progress within the leader's log: the
optimistic `next_idx` never runs past `last_index + 1`, because the entries sent are entries of the
log (`C13_entries_contiguous_bounded`). -/
theorem C13_progress_within_log_send (r r' : Raft) (to : Nat) (pr pr' : Progress)
    (allowEmpty sent : Bool) (hinv : RaftProps.C14.RaftLogInv r.raftLog)
    (hok : ProgressOk r.raftLog.lastIndex pr)
    (h : r.maybeSendAppend to pr allowEmpty = .ok (r', pr', sent)) :
    ProgressOk r'.raftLog.lastIndex pr' := by
  obtain ⟨hl, hc⟩ := C13_send_progress_cases r r' to pr pr' allowEmpty sent h
  rw [hl]
  rcases hc with h1 | ⟨_, es, he, hsu⟩ | ⟨_, idx, h1⟩
  · rw [h1]; exact hok
  · unfold SentUpdate at hsu
    cases hg : es.getLast? with
    | none => rw [hg] at hsu; simp only at hsu; rw [hsu]; exact hok
    | some last =>
      rw [hg] at hsu; simp only at hsu
      have hm := (C13_entries_contiguous_bounded r.raftLog hinv pr.nextIdx _ true es he).2.1 last
        (List.mem_of_getLast? hg)
      have := hok.2.1
      exact ProgressOk.updateState hok last.index (by omega) hm.2 pr' hsu
  · rw [h1]; exact (ProgressOk.become hok).2.2 idx

/-- **C13 `progress_within_log` (acknowledgements).**  `handle_append_response` (raft.rs:1676) feeds
the index of an accepted `MsgAppendResponse` straight into `Progress::maybe_update`: there is no
check against `last_index` on the leader.  So the leader-level guarantee `matched ≤ last_index`
needs `m.index ≤ last_index` of every accepted response — a *cluster-level* fact (a follower only
acknowledges what a leader of that term sent it: `C13_append_is_leader_slice`), validated on traces
by the cluster-level checker; `C13_maybeUpdate_beyond_log` shows the bound does break without it.
A rejection goes through `maybe_decr_to`, which keeps the bound unconditionally
(`ProgressOk.maybeDecrTo`). -/
theorem C13_append_response_uses_message_index (r : Raft) (m : Message) (pr : Progress)
    (hg : r.prs.get m.frm = some pr) (hr : m.reject = false) :
    r.handleAppendResponse m =
      match (({ pr with recentActive := true } : Progress).updateCommitted m.commit).maybeUpdate m.index with
      | .panic s => .panic s
      | .err e => .err e
      | .ok (pr', false) => .ok { r with prs := r.prs.set m.frm pr' }
      | .ok (pr', true) => r.handleAppendResponseAccepted m pr'
          (({ pr with recentActive := true } : Progress).updateCommitted m.commit).isPaused :=
  handleAppendResponse_ack hg hr


/-! ## 8. non-vacuity: concrete states -/

/-- a storage like the C14 witness: snapshot point (2, 1); entries 3 (term 1, 5 data bytes) and 4
(term 2, 20 data bytes); the commit index 2 is recorded, so that it can produce a snapshot -/
def st1 : MemStorage :=
  { snapshotMetadata := { index := 2, term := 1 }, hardState := { commit := 2 },
    entries := [RaftProps.C14.ent 3 1 5, RaftProps.C14.ent 4 2 20] }

theorem st1_wf : st1.WF := by
  refine ⟨?_, by decide⟩
  intro k e hk
  match k, hk with
  | 0, hk => simp [st1] at hk; subst hk; rfl
  | 1, hk => simp [st1] at hk; subst hk; rfl
  | n + 2, hk => simp [st1] at hk

def log1 : RaftLog :=
  { store := st1, unstable := Unstable.new 5, committed := 2, persisted := 4, applied := 2,
    maxApplyUnpersistedLogLimit := 0 }

/-- the C14 representation invariant holds on the witness log (it is `RaftLog::new(st1)`) -/
theorem log1_inv : RaftProps.C14.RaftLogInv log1 := by
  obtain ⟨l, e, hi, _, _⟩ := RaftProps.C14.C14_new_inv st1 st1_wf 0
  have : RaftLog.new st1 0 = .ok log1 := rfl
  rw [this] at e; cases e; exact hi

/-- a leader (id 1, term 2) over that log, with an uncommitted-size limit of 10 bytes of which 8 are
used -/
def leader1 : Raft :=
  { raftLog := log1, id := 1, term := 2, state := .leader, maxMsgSize := 1000,
    prs := { progress := [(1, { matched := 4, nextIdx := 5, state := .replicate,
                                 ins := Inflights.new 2 })] },
    uncommittedState := { maxUncommittedSize := 10, uncommittedSize := 8, lastLogTailIndex := 4 } }

/-- a replicating follower that has everything up to the snapshot point, window of 2 -/
def prRep : Progress :=
  { matched := 2, nextIdx := 3, state := .replicate, ins := Inflights.new 2, recentActive := true }

/-- what a test looks at: the queued messages (type, to, from, term, index, log term, commit, entry
indexes, snapshot index) and the progress (next index, state, window, pending snapshot, paused) -/
def view (x : Res (Raft × Progress × Bool)) :
    Option (List (MsgType × Nat × Nat × Nat × Nat × Nat × Nat × List Nat × Nat) × Nat ×
      ProgressState × List Nat × Nat × Bool × Bool) :=
  match x with
  | .ok (r, pr, b) =>
    some (r.msgs.map (fun (m : Message) => (m.msgType, m.to, m.frm, m.term, m.index, m.logTerm,
        m.commit, m.entries.map (fun (e : Entry) => e.index), m.snapshot.metadata.index)),
      pr.nextIdx, pr.state, pr.ins.contents, pr.pendingSnapshot, pr.isPaused, b)
  | _ => none

/-- the hypotheses of `C13_append_shape` / `C13_progress_within_log_send` hold on the witness -/
example : prRep.isPaused = false ∧ prRep.pendingRequestSnapshot = 0 ∧ leader1.batchAppend = false ∧
    prRep.nextIdx ≠ 0 ∧ leader1.raftLog.term (prRep.nextIdx - 1) = .ok 1 ∧
    (∃ es, leader1.raftLog.entries prRep.nextIdx (some leader1.maxMsgSize) true = .ok es ∧
      es.map (·.index) = [3, 4]) ∧
    prRep.ins.Inv ∧ RaftProps.C14.RaftLogInv leader1.raftLog ∧
    ProgressOk leader1.raftLog.lastIndex prRep := by
  refine ⟨rfl, rfl, rfl, by decide +kernel, rfl, ⟨_, rfl, rfl⟩,
    Inflights.inv_new 2, log1_inv, by unfold ProgressOk; decide +kernel⟩

/-- replicate: one `MsgAppend` anchored at (2, term 1) with entries 3, 4 and commit 2; `next_idx`
moves to 5, index 4 enters the window -/
example : view (leader1.maybeSendAppend 2 prRep true) =
    some ([(.msgAppend, 2, 1, 2, 2, 1, 2, [3, 4], 0)], 5, .replicate, [4], 0, false, true) := by
  rfl

/-- the size limit: with `max_size_per_msg = 10` only entry 3 goes out — and it goes out although its
own size (11 bytes) exceeds the limit: "unless it is a single entry" -/
example : view (({ leader1 with maxMsgSize := 10 } : Raft).maybeSendAppend 2 prRep true) =
      some ([(.msgAppend, 2, 1, 2, 2, 1, 2, [3], 0)], 4, .replicate, [3], 0, false, true) ∧
    msgSize [RaftProps.C14.ent 3 1 5] = 11 := ⟨by rfl, by rfl⟩

/-- probe: the same append, and the follower is paused afterwards; a second call sends nothing -/
example : view (leader1.maybeSendAppend 2 { prRep with state := .probe } true) =
      some ([(.msgAppend, 2, 1, 2, 2, 1, 2, [3, 4], 0)], 3, .probe, [], 0, true, true) ∧
    view (leader1.maybeSendAppend 2 { prRep with state := .probe, paused := true } true) =
      some ([], 3, .probe, [], 0, true, false) := ⟨by rfl, by rfl⟩

/-- a full window pauses a replicating follower (hypothesis of `C13_no_send_when_paused`) -/
example : ({ prRep with ins := { (Inflights.new 1) with count := 1, buffer := [3], alloc := true } } :
    Progress).isPaused = true := by decide +kernel

/-- compacted: a follower that needs entry 2 (below the first index 3) gets the snapshot at index 2
and its progress moves to `Snapshot` with `pending_snapshot = 2`; one that is not recently active
gets nothing -/
example : leader1.raftLog.entries 2 (some 1000) true = .err .compacted ∧
    view (leader1.maybeSendAppend 2 { prRep with nextIdx := 2, matched := 1 } true) =
      some ([(.msgSnapshot, 2, 1, 2, 0, 0, 0, [], 2)], 2, .snapshot, [], 2, true, true) ∧
    view (leader1.maybeSendAppend 2 { prRep with nextIdx := 2, matched := 1, recentActive := false } true) =
      some ([], 2, .replicate, [], 0, false, false) := ⟨by rfl, by rfl, by rfl⟩

/-- uncommitted-size accounting: with 8 of 10 bytes used a 4-byte proposal is refused, an empty one
is not, and anything is accepted when nothing is uncommitted -/
example : Refuses leader1.uncommittedState [{ data := [1, 2, 3, 4] }] ∧
    ¬ Refuses leader1.uncommittedState [{ data := [] }] ∧
    ¬ Refuses { leader1.uncommittedState with uncommittedSize := 0 }
      [{ data := List.replicate 100 0 }] := by decide +kernel

/-- batching, the repaired case of finding F8: an entry-less append anchored at index 4 is continued
by entries starting at 5 and not by entries starting at 6 -/
example : isContinuousEnts { msgType := .msgAppend, index := 4 } [{ index := 5 }] = true ∧
    isContinuousEnts { msgType := .msgAppend, index := 4 } [{ index := 6 }] = false ∧
    isContinuousEnts { msgType := .msgAppend, index := 1, entries := [{ index := 2 }] }
      [{ index := 3 }] = true := by decide +kernel

/-- batching end to end, and *no size limit on the batched message*: with `max_size_per_msg = 10`
entry 3 (11 bytes) is queued alone; the next call glues entry 4 (26 bytes) onto it — one queued
message of 37 bytes -/
example :
    (match ({ leader1 with maxMsgSize := 10, batchAppend := true } : Raft).maybeSendAppend 2 prRep true with
     | .ok (r, pr, _) => view (r.maybeSendAppend 2 pr true)
     | _ => none) =
      some ([(.msgAppend, 2, 1, 2, 2, 1, 2, [3, 4], 0)], 5, .replicate, [3, 4], 0, true, true) ∧
    msgSize [RaftProps.C14.ent 3 1 5, RaftProps.C14.ent 4 2 20] = 37 := ⟨by rfl, by rfl⟩

/-- a proposal of one `ConfChangeV2` adding node 2 (protobuf: field 2, length 2, `node_id = 2`) -/
def ccProposal : Message :=
  { msgType := .msgPropose, entries := [{ etype := 2, data := [0x12, 0x02, 0x10, 0x02] }] }

/-- **Surprising (not a safety problem): a dropped proposal still moves `pending_conf_index`.**
`step_leader` records `pending_conf_index = last_index + i + 1` for an acceptable configuration
change *before* `append_entry` runs (raft.rs:2150 vs 2166); when the uncommitted-size limit then
drops the whole proposal nothing is appended, but `pending_conf_index` now names an index (5) that
the *next* accepted proposal of any kind will occupy, and until that index is applied every further
configuration change is silently replaced by an empty entry ("possible unapplied conf change").
The same happens in etcd/raft.  Here: limit 10, 8 used, a 4-byte `ConfChangeV2` adding node 2. -/
example :
    (match leader1.stepLeader ccProposal with
     | .ok (r, e) => some (e, r.raftLog.lastIndex, r.msgs.length, leader1.pendingConfIndex,
         r.pendingConfIndex, r.hasPendingConf)
     | _ => none) = some (some .proposalDropped, 4, 0, 0, 5, true) := by rfl


end RaftProps.C13
