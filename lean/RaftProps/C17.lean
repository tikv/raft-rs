import RaftProofs.RaftNodeC17
import RaftProofs.RaftGuards

/-!
# C17 — leadership transfer hands off safely and never wedges the leader

Property text: *"A leader tells a transfer target to campaign immediately only once the target has
acknowledged the leader's entire log; while a transfer is pending the leader refuses proposals, and
it abandons the transfer after one election timeout or when the target leaves the voters.  A request
naming a learner or an unknown node is ignored and one naming the leader itself at most cancels a
pending transfer; when a transfer completes in a healthy cluster the target leads a higher term
holding every committed entry while the old leader follows it."*

Everything here is about the executable node model `RaftModel.Raft*` (a line-by-line model of
`src/raft.rs`, tied to the code by the `rn` correspondence) and holds for ALL states and ALL
messages unless a hypothesis is named.  Main theorems (helpers are in `RaftProofs.RaftNodeC17`):

1. `C17_timeout_now_only_when_caught_up` (`Raft::step`, every state and message),
   `C17_new_timeout_now_goes_to_caught_up_transferee`, `…_rawnode`,
   `C17_other_leader_messages_send_no_timeout_now`, `C17_append_response_timeout_now`;
2. `C17_proposals_refused_while_transferring` (+ `_step`);
3. `C17_transfer_aborted_after_election_timeout`, `C17_transfer_bounded_by_election_timeout`,
   `C17_no_transfer_after_election_timeout`;
4. `C17_transfer_request_ignored`, `C17_transfer_request_to_self` (+ `_cancels`),
   `C17_transfer_request_accepted`;
5. `C17_reset_clears_transfer`, `C17_role_change_clears_transfer`,
   `C17_pre_candidate_keeps_transferee`, and the invariant `C17_non_leader_has_no_pending_transfer`
   (+ `C17_new_has_no_pending_transfer`, `C17_only_transfer_request_sets_transferee`);
6. `C17_target_removed_aborts` (+ `_apply`), `C17_removed_leader_steps_down`,
   `C17_rejected_conf_change_keeps_transfer`;
7. `C17_timeout_now_forces_campaign`, `C17_non_promotable_ignores_timeout_now`,
   `C17_transfer_vote_bypasses_lease`, `C17_old_leader_steps_down_on_transfer_vote`;
8. non-vacuity `example`s at the end.

The last clause of the property (the target wins, holds every committed entry, the old leader
follows) is a cluster-level statement: on the node level it is carried by items 1 (the target has
the leader's whole log when told to campaign), 7 (it campaigns at `term + 1` with a real vote that
the lease cannot block; the old leader becomes a follower of that term on receiving the request)
and by the election-safety properties (C01/C02).
-/
namespace RaftProps.C17
open RaftModel RaftModel.Raft

/-- the `MsgTimeoutNow` the leader `r` sends to `x` (`send_timeout_now`, raft.rs:2908, after `send`
filled in the sender and the term) -/
def timeoutNowMsg (r : Raft) (x : Nat) : Message :=
  { msgType := .msgTimeoutNow, to := x, frm := r.id, term := r.term }

theorem sendTimeoutNow_eq (r r' : Raft) (x : Nat) (h : r.sendTimeoutNow x = .ok r') :
    r' = { r with msgs := r.msgs ++ [timeoutNowMsg r x] } := by
  unfold sendTimeoutNow at h
  rw [send_eq r r' _ h]
  simp [sendFill, newMessage, isVoteMsg, timeoutNowMsg]

theorem sendTimeoutNow_ok (r : Raft) (x : Nat) :
    r.sendTimeoutNow x = .ok { r with msgs := r.msgs ++ [timeoutNowMsg r x] } := by
  unfold sendTimeoutNow
  simp [send, sendFill, newMessage, isVoteMsg, timeoutNowMsg]

/-- the body of `handle_transfer_leader` after validation (raft.rs:1958-1986): start the transfer
to `x` from a state `r` with no transfer pending -/
def transferStart (r : Raft) (x : Nat) : Res Raft :=
  if x = r.id then .ok r
  else
    let r1 : Raft := { r with electionElapsed := 0, leadTransferee := some x }
    match r.prs.get x with
    | none => .panic "raft.handle_transfer_leader.unwrap"
    | some pr =>
      if pr.matched = r.raftLog.lastIndex then r1.sendTimeoutNow x
      else (r1.sendAppendPr x pr).bind (fun (r, pr) => .ok { r with prs := r.prs.set x pr })

theorem handleTransferLeader_eq (r : Raft) (m : Message) :
    r.handleTransferLeader m =
      match r.prs.get m.frm with
      | none => .ok r
      | some _ =>
        if r.prs.conf.learners.contains m.frm then .ok r
        else match r.leadTransferee with
          | some last => if last = m.frm then .ok r else transferStart r.abortLeaderTransfer m.frm
          | none => transferStart r m.frm := rfl

/-- "`r'` is `r` after a `MsgTimeoutNow` to `x` was queued": the queue gained exactly that one
`MsgTimeoutNow`, `x` is the pending transferee, and **in the resulting state the leader's progress
for `x` has `matched = last_index` of the leader's log** -/
def TimeoutNowSent (r r' : Raft) (x : Nat) : Prop :=
  ∃ pr, tnOf r'.msgs = tnOf r.msgs ++ [timeoutNowMsg r x] ∧ r'.leadTransferee = some x ∧
    r'.prs.get x = some pr ∧ pr.matched = r'.raftLog.lastIndex ∧
    r'.state = r.state ∧ r'.term = r.term ∧ r'.id = r.id

/-- the final check shared by both sites: queue a `MsgTimeoutNow` from a state `r2` that has the queued
`MsgTimeoutNow`s, the role, the term and the id of `r` -/
theorem sendTimeoutNow_sent (r r2 r' : Raft) (x : Nat) (pr : Progress) (ht : TN r r2)
    (hs : r2.state = r.state) (htm : r2.term = r.term) (hid : r2.id = r.id)
    (hlt : r2.leadTransferee = some x) (hg : r2.prs.get x = some pr)
    (hm : pr.matched = r2.raftLog.lastIndex) (h : r2.sendTimeoutNow x = .ok r') :
    TimeoutNowSent r r' x := by
  rw [sendTimeoutNow_eq r2 r' x h]
  refine ⟨pr, ?_, hlt, hg, hm, hs, htm, hid⟩
  simp only [tnOf_append, show tnOf r2.msgs = tnOf r.msgs from ht]
  rw [tnOf_single_eq _ rfl]
  simp [timeoutNowMsg, hid, htm]

/-- `handle_transfer_leader` keeps the role; it queues no `MsgTimeoutNow` but the one to a transferee
that has caught up -/
theorem handleTransferLeader_xfer {r r' : Raft} {m : Message}
    (h : r.handleTransferLeader m = .ok r') :
    r'.state = r.state ∧ (tnOf r'.msgs = tnOf r.msgs ∨ TimeoutNowSent r r' m.frm) :=
  handleTransferLeader_parts2
    (P := fun x => x.state = r.state ∧ (tnOf x.msgs = tnOf r.msgs ∨ TimeoutNowSent r x m.frm))
    (R := fun x => TN r x ∧ x.state = r.state ∧ x.term = r.term ∧ x.id = r.id)
    (Q := fun x _ _ => TN r x ∧ x.state = r.state ∧ x.term = r.term ∧ x.id = r.id)
    h ⟨rfl, .inl rfl⟩ ⟨TN.refl r, rfl, rfl, rfl⟩ (fun q => q) (fun q => q)
    (fun q => ⟨q.2.1, .inl q.1⟩)
    (fun hl hg hm hs q => by
      obtain ⟨p, a, b, c, d, hst, e⟩ :=
        sendTimeoutNow_sent r _ _ m.frm _ q.1 q.2.1 q.2.2.1 q.2.2.2 hl hg hm hs
      exact ⟨hst, .inr ⟨p, a, b, c, d, hst, e⟩⟩)
    (fun _ _ ha q =>
      have f := (sendAppendPr_frameT _ _ _).of_eq ha
      ⟨q.1.trans f.tn, f.state.trans q.2.1, f.term.trans q.2.2.1, f.id.trans q.2.2.2⟩)
    (fun q => ⟨q.2.1, .inl q.1⟩)

theorem handleTransferLeader_tn (r r' : Raft) (m : Message)
    (h : r.handleTransferLeader m = .ok r') :
    tnOf r'.msgs = tnOf r.msgs ∨ TimeoutNowSent r r' m.frm :=
  (handleTransferLeader_xfer h).2

theorem handleAppendResponse_tn {r r' : Raft} {m : Message} (h : r.handleAppendResponse m = .ok r') :
    tnOf r'.msgs = tnOf r.msgs ∨ TimeoutNowSent r r' m.frm := by
  obtain ⟨r3, q, rfl | ⟨p, hl, hg, hm, hs⟩⟩ := handleAppendResponse_xfer h
  · exact .inl q.tn
  · exact .inr (sendTimeoutNow_sent r r3 r' m.frm p q.tn q.state q.term q.id hl hg hm hs)

/-- `step_leader` on a message that is neither `MsgTransferLeader` nor `MsgAppendResponse` queues no
`MsgTimeoutNow` and keeps the pending transfer or, stepping down, drops it. -/
theorem stepLeader_other_tr {r r' : Raft} {m : Message} {e : Option RaftError}
    (h1 : m.msgType ≠ .msgTransferLeader) (h2 : m.msgType ≠ .msgAppendResponse)
    (h : r.stepLeader m = .ok (r', e)) : TR r r' :=
  stepLeader_parts (P := TR r) h (TR.refl r)
    (beat := fun hb _ => ((bcastHeartbeat_frameT r).of_eq hb).toTR)
    (quorum := fun hq _ => by cases hq; exact (checkQuorumActive_frameT r).toTR)
    (follower := fun _ p => p.trans (becomeFollower_tr _ _ _))
    (filter := fun hf _ => by
      have := filterProposal_frameT m.entries r 0
      rw [hf] at this; exact this.toTR)
    (append := fun ha _ p => p.trans ((appendEntry_frameT _ _).of_eq ha).toTR)
    (bcast := fun hb _ p => p.trans ((bcastAppend_frameT _).of_eq hb).toTR)
    (ready := fun hr _ => ((handleReadyReadIndex_frameT _ _ _).of_eq hr).1.toTR)
    (send := fun hs ty p => p.trans (send_tr hs (by rw [ty]; decide)))
    (ro := fun _ _ => TR.of_same rfl rfl rfl)
    (hbctx := fun hb _ p => p.trans ((bcastHeartbeatWithCtx_frameT _ _).of_eq hb).toTR)
    (appResp := fun _ ty => absurd ty h2)
    (hbResp := fun hx _ => ((handleHeartbeatResponse_frameT r m).of_eq hx).toTR)
    (snapStatus := fun _ => (handleSnapshotStatus_frameT r m).toTR)
    (unreachable := fun _ => (handleUnreachable_frameT r m).toTR)
    (transfer := fun _ ty => absurd ty h1)

theorem stepLeader_append_response {r : Raft} {m : Message} (hm : m.msgType = .msgAppendResponse) :
    r.stepLeader m = (r.handleAppendResponse m).bind (fun r => .ok (r, none)) := by
  unfold Raft.stepLeader; simp only [hm]

/-- the four cases are exhaustive and through `step_leader` the request never fails with an error:
it is a leader-local decision (raft.rs:2232). -/
theorem C17_transfer_request_step_leader (r : Raft) (m : Message)
    (hm : m.msgType = .msgTransferLeader) :
    r.stepLeader m = (r.handleTransferLeader m).bind (fun r => .ok (r, none)) := by
  unfold Raft.stepLeader; simp only [hm]

/-- `step_leader`, all 19 message types: a `MsgTimeoutNow` is queued only by `MsgTransferLeader`
and `MsgAppendResponse`, only to the sender named in the message, and only with
`matched = last_index`. -/
theorem stepLeader_tn {r r' : Raft} {m : Message} {e : Option RaftError}
    (h : r.stepLeader m = .ok (r', e)) :
    tnOf r'.msgs = tnOf r.msgs ∨
      ((m.msgType = .msgTransferLeader ∨ m.msgType = .msgAppendResponse) ∧
        TimeoutNowSent r r' m.frm) := by
  by_cases h1 : m.msgType = .msgTransferLeader
  · rw [C17_transfer_request_step_leader r m h1] at h
    obtain ⟨r1, hx, h⟩ := Res.bind_eq_ok h
    cases h; exact (handleTransferLeader_tn r _ m hx).imp id fun s => ⟨.inl h1, s⟩
  · by_cases h2 : m.msgType = .msgAppendResponse
    · rw [stepLeader_append_response h2] at h
      obtain ⟨r1, hx, h⟩ := Res.bind_eq_ok h
      cases h; exact (handleAppendResponse_tn hx).imp id fun s => ⟨.inr h2, s⟩
    · exact .inl (stepLeader_other_tr h1 h2 h).tn

theorem becomeFollower_state (r : Raft) (t l : Nat) : (r.becomeFollower t l).state = .follower := rfl

theorem stepTerm_true (r r1 : Raft) (m : Message) (h : r.stepTerm m = .ok (r1, true)) :
    r1 = r ∨ r1.state = .follower := by
  rcases stepTerm_passed h with c | ⟨_, _, _, l, c⟩
  · exact .inl c
  · exact .inr (c ▸ rfl)

/-- **`Raft::step`, every state, every message.**  Stepping a message either leaves the
`MsgTimeoutNow` messages of the outgoing queue exactly as they were, or the node is (and stays) a
leader, the message is a `MsgTransferLeader` or a `MsgAppendResponse`, exactly one `MsgTimeoutNow`
was appended, it is addressed to the sender `m.from` of that message, that node is the pending
transferee, and in the resulting state its progress has `matched = last_index`. -/
theorem step_tn (r : Raft) (m : Message) :
    Res.Post (fun x => tnOf x.1.msgs = tnOf r.msgs ∨
        (r.state = .leader ∧ (m.msgType = .msgTransferLeader ∨ m.msgType = .msgAppendResponse) ∧
          TimeoutNowSent r x.1 m.frm)) (r.step m) := by
  refine Res.post_intro ?_
  rintro ⟨r', res⟩ h
  cases step_inv h with
  | consumed ht => exact .inl ((stepTerm_tn r m).of_eq ht)
  | dispatched ht hd =>
    have t : TN r _ := (stepTerm_tn r m).of_eq ht
    cases hd with
    | hup _ hx => exact .inl (t.trans ((hup_tn _ _).of_eq hx))
    | vote _ hx => exact .inl (t.trans ((stepVote_tn _ m).of_eq hx))
    | candidate _ _ hx => exact .inl (t.trans ((stepCandidate_tn _ m).of_eq hx))
    | follower _ _ hx => exact .inl (t.trans ((stepFollower_tn _ m).of_eq hx))
    | leader _ hl hx =>
      rcases stepTerm_true r _ m ht with rfl | hst
      · exact (stepLeader_tn hx).imp id fun ⟨a, s⟩ => ⟨hl, a, s⟩
      · rw [hst] at hl; cases hl

/-! ## 1. `MsgTimeoutNow` only to a caught-up transferee -/

/-- **C17 `timeout_now_only_when_caught_up`** (property text: *"A leader tells a transfer target to
campaign immediately only once the target has acknowledged the leader's entire log"*; raft.rs
`handle_transfer_leader` 1974-1977 and `handle_append_response` 1851-1863).  For EVERY state and
EVERY message: if `Raft::step` succeeds, then either the `MsgTimeoutNow` messages in the outgoing
queue are exactly those that were there before, or
* the node was and remains a leader (same term), the message is a `MsgTransferLeader` or a
  `MsgAppendResponse`,
* exactly one `MsgTimeoutNow` was added (at the end), addressed to the sender `m.from`,
* `m.from` is the pending transferee of the resulting state, and
* in the resulting state the leader's `Progress` of `m.from` has `matched = last_index` of the
  leader's log.
Both sites are covered (`handle_transfer_leader`, where the resulting `prs` and log are those of the
pre-state, see `C17_transfer_request_accepted`; and `handle_append_response`), and no other handler
of `step`, in any role, produces a `MsgTimeoutNow`. -/
theorem C17_timeout_now_only_when_caught_up (r r' : Raft) (m : Message) (e : Option RaftError)
    (h : r.step m = .ok (r', e)) :
    tnOf r'.msgs = tnOf r.msgs ∨
    (r.state = .leader ∧ r'.state = .leader ∧ r'.term = r.term ∧
      (m.msgType = .msgTransferLeader ∨ m.msgType = .msgAppendResponse) ∧
      tnOf r'.msgs = tnOf r.msgs ++ [timeoutNowMsg r m.frm] ∧
      r'.leadTransferee = some m.frm ∧
      ∃ pr, r'.prs.get m.frm = some pr ∧ pr.matched = r'.raftLog.lastIndex) := by
  have := Res.Post.of_eq (step_tn r m) h
  rcases this with h1 | ⟨hl, hty, pr, h1, h2, h3, h4, h5, h6, _⟩
  · exact Or.inl h1
  · exact Or.inr ⟨hl, by rw [h5, hl], h6, hty, h1, h2, pr, h3, h4⟩

/-- the same, message by message: every `MsgTimeoutNow` that is in the queue after a step and was
not there before is addressed to the pending transferee, whose progress is fully caught up. -/
theorem C17_new_timeout_now_goes_to_caught_up_transferee (r r' : Raft) (m : Message)
    (e : Option RaftError) (h : r.step m = .ok (r', e)) (tm : Message) (hin : tm ∈ r'.msgs)
    (hty : tm.msgType = .msgTimeoutNow) (hnew : tm ∉ r.msgs) :
    r.state = .leader ∧ r'.leadTransferee = some tm.to ∧
      ∃ pr, r'.prs.get tm.to = some pr ∧ pr.matched = r'.raftLog.lastIndex := by
  have hin' : tm ∈ tnOf r'.msgs := by simp [tnOf, hin, hty]
  rcases C17_timeout_now_only_when_caught_up r r' m e h with h1 | ⟨hl, _, _, _, h1, h2, h3⟩
  · rw [h1] at hin'
    simp [tnOf] at hin'
    exact absurd hin'.1 hnew
  · rw [h1] at hin'
    simp only [List.mem_append, List.mem_singleton] at hin'
    rcases hin' with hin' | hin'
    · simp [tnOf] at hin'
      exact absurd hin'.1 hnew
    · have hto : tm.to = m.frm := by rw [hin']; rfl
      rw [hto]; exact ⟨hl, h2, h3⟩

/-- the `RawNode::step` entry point (raw_node.rs:415) inherits the theorem: its filter either
refuses the message without touching the node or calls `Raft::step`. -/
theorem C17_timeout_now_only_when_caught_up_rawnode (r r' : Raft) (m : Message)
    (e : Option RaftError) (h : RawNode.step r m = .ok (r', e)) :
    tnOf r'.msgs = tnOf r.msgs ∨
    (r.state = .leader ∧ r'.leadTransferee = some m.frm ∧
      tnOf r'.msgs = tnOf r.msgs ++ [timeoutNowMsg r m.frm] ∧
      ∃ pr, r'.prs.get m.frm = some pr ∧ pr.matched = r'.raftLog.lastIndex) := by
  rcases RawNode.step_inv h with rfl | ⟨_, h⟩
  · exact Or.inl rfl
  · rcases C17_timeout_now_only_when_caught_up r r' m e h with h1 | ⟨hl, _, _, _, h1, h2, h3⟩
    · exact Or.inl h1
    · exact Or.inr ⟨hl, h2, h1, h3⟩

/-- (1c) per handler: `step_leader` on any message other than `MsgTransferLeader` /
`MsgAppendResponse` adds no `MsgTimeoutNow`. -/
theorem C17_other_leader_messages_send_no_timeout_now (r r' : Raft) (m : Message)
    (e : Option RaftError) (h1 : m.msgType ≠ .msgTransferLeader)
    (h2 : m.msgType ≠ .msgAppendResponse) (h : r.stepLeader m = .ok (r', e)) :
    tnOf r'.msgs = tnOf r.msgs :=
  (stepLeader_other_tr h1 h2 h).tn

/-- (1b) per handler: `handle_append_response` sends `MsgTimeoutNow` only to the pending transferee
once its `matched` equals the leader's `last_index` (raft.rs:1851-1863). -/
theorem C17_append_response_timeout_now (r r' : Raft) (m : Message)
    (h : r.handleAppendResponse m = .ok r') :
    tnOf r'.msgs = tnOf r.msgs ∨ TimeoutNowSent r r' m.frm :=
  handleAppendResponse_tn h

/-! ## 2. proposals are refused while a transfer is pending -/

/-- **C17 `proposals_refused_while_transferring`** (*"while a transfer is pending the leader refuses
proposals"*; raft.rs:2091-2099).  A leader with `lead_transferee ≠ None` answers every non-empty
`MsgPropose` with `ProposalDropped` and changes nothing: nothing is appended, nothing is sent.
(An empty `MsgPropose` is the `fatal!` of raft.rs:2078, before any other check; a leader that has
been removed from the configuration drops the proposal as well, for that reason.) -/
theorem C17_proposals_refused_while_transferring (r : Raft) (m : Message)
    (hm : m.msgType = .msgPropose) (hne : m.entries ≠ []) (ht : r.leadTransferee ≠ none) :
    r.stepLeader m = .ok (r, some .proposalDropped) := by
  unfold Raft.stepLeader
  simp only [hm]
  have h1 : m.entries.isEmpty = false := by
    cases hme : m.entries with
    | nil => exact absurd hme hne
    | cons _ _ => rfl
  have h3 : r.leadTransferee.isSome = true := by
    cases hlt : r.leadTransferee with
    | none => exact absurd hlt ht
    | some _ => rfl
  simp [h1, h3]

/-- … and through the entry point: a leader at the message's term (a local proposal has term 0)
with a pending transfer drops the proposal in `Raft::step` and is unchanged. -/
theorem C17_proposals_refused_while_transferring_step (r : Raft) (m : Message)
    (hs : r.state = .leader) (hm : m.msgType = .msgPropose) (hne : m.entries ≠ [])
    (hterm : m.term = 0) (ht : r.leadTransferee ≠ none) :
    r.step m = .ok (r, some .proposalDropped) := by
  rw [step_leader (stepTerm_same (.inl hterm)) (.of_eq hm) hs]
  exact C17_proposals_refused_while_transferring r m hm hne ht

/-! ## 4. validation of a transfer request (`handle_transfer_leader`, raft.rs:1937-1986) -/

/-- **C17 `transfer_request_validation`, ignored requests** (*"A request naming a learner or an
unknown node is ignored"*).  A request naming a node without `Progress`, a learner, or the target of
the transfer already in progress changes nothing at all (no message, no timer reset). -/
theorem C17_transfer_request_ignored (r : Raft) (m : Message)
    (h : r.prs.get m.frm = none ∨ r.prs.conf.learners.contains m.frm = true ∨
         r.leadTransferee = some m.frm) :
    r.handleTransferLeader m = .ok r := by
  rw [handleTransferLeader_eq]
  split
  · rfl
  · rename_i hg
    split
    · rfl
    · rename_i hl
      rcases h with h | h | h
      · rw [h] at hg; cases hg
      · exact absurd h hl
      · rw [h]; simp

theorem transferStart_self (r0 : Raft) : transferStart r0 r0.id = .ok r0 := by
  unfold transferStart; simp

theorem transferStart_abort (r : Raft) (x : Nat) (h : x ≠ r.id) :
    transferStart r.abortLeaderTransfer x = transferStart r x := by
  unfold transferStart
  rw [if_neg (show ¬ x = r.abortLeaderTransfer.id from h), if_neg h]
  rfl

/-- **… request naming the leader itself** (*"one naming the leader itself at most cancels a pending
transfer"*; raft.rs:1952-1968).  The result is the unchanged state, or the state with
`lead_transferee` cleared and everything else unchanged (no message, no timer reset). -/
theorem C17_transfer_request_to_self (r : Raft) (m : Message) (hself : m.frm = r.id) :
    r.handleTransferLeader m = .ok r ∨
    r.handleTransferLeader m = .ok { r with leadTransferee := none } := by
  rw [handleTransferLeader_eq, hself]
  split
  · exact Or.inl rfl
  · split
    · exact Or.inl rfl
    · split
      · split
        · exact Or.inl rfl
        · exact Or.inr (transferStart_self r.abortLeaderTransfer)
      · exact Or.inl (transferStart_self r)

/-- … and it does cancel it: when the leader is a tracked non-learner and a transfer to another
node is pending, the request naming the leader clears it (this is how an application aborts a
transfer by hand). -/
theorem C17_transfer_request_to_self_cancels (r : Raft) (m : Message) (pr : Progress) (y : Nat)
    (hself : m.frm = r.id) (hg : r.prs.get r.id = some pr)
    (hl : r.prs.conf.learners.contains r.id = false) (hp : r.leadTransferee = some y)
    (hy : y ≠ r.id) :
    r.handleTransferLeader m = .ok { r with leadTransferee := none } := by
  rw [handleTransferLeader_eq, hself, hg]
  simp only [hl, hp, hy, Bool.false_eq_true, ↓reduceIte]
  exact transferStart_self r.abortLeaderTransfer

/-- **… accepted request** (a voter or outgoing voter other than the leader, not already the
target; *"a request for a different target replaces the pending one"*, raft.rs:1952-1986).  Whatever
transfer was pending before is replaced: the target becomes the transferee and the election timer
restarts, so the transfer gets a full election timeout.  If the target is already caught up
(`matched = last_index`) the result is exactly the old state with these two fields set and one
`MsgTimeoutNow` to the target appended — `prs` and the log are those of the pre-state, so the
`matched = last_index` test is about the pre-state and the post-state alike; otherwise no
`MsgTimeoutNow` is sent (an append is, to help the target catch up). -/
theorem C17_transfer_request_accepted (r r' : Raft) (m : Message) (pr : Progress)
    (hg : r.prs.get m.frm = some pr) (hl : r.prs.conf.learners.contains m.frm = false)
    (hself : m.frm ≠ r.id) (hnew : r.leadTransferee ≠ some m.frm)
    (h : r.handleTransferLeader m = .ok r') :
    r'.leadTransferee = some m.frm ∧ r'.electionElapsed = 0 ∧
    (pr.matched = r.raftLog.lastIndex →
      r' = { r with electionElapsed := 0, leadTransferee := some m.frm,
                    msgs := r.msgs ++ [timeoutNowMsg r m.frm] }) ∧
    (pr.matched ≠ r.raftLog.lastIndex → tnOf r'.msgs = tnOf r.msgs) := by
  have h' : transferStart r m.frm = .ok r' := by
    rw [handleTransferLeader_eq, hg] at h
    simp only [hl, Bool.false_eq_true, ↓reduceIte] at h
    split at h
    · rename_i last hlt
      have hne : last ≠ m.frm := by intro hc; apply hnew; rw [hlt, hc]
      simp only [hne, if_false] at h
      rw [transferStart_abort r m.frm hself] at h
      exact h
    · exact h
  unfold transferStart at h'
  rw [if_neg hself, hg] at h'
  dsimp only at h'
  split at h'
  · rename_i hm
    rw [sendTimeoutNow_ok] at h'
    cases h'
    exact ⟨rfl, rfl, fun _ => rfl, fun hc => absurd hm hc⟩
  · rename_i hm
    have h1 := sendAppendPr_frameT { r with electionElapsed := 0, leadTransferee := some m.frm } m.frm pr
    cases hs : ({ r with electionElapsed := 0, leadTransferee := some m.frm } : Raft).sendAppendPr m.frm pr with
    | ok a =>
      rw [hs] at h' h1
      simp only [Res.bind] at h'
      cases h'
      simp only [Res.Post] at h1
      exact ⟨h1.leadTransferee, h1.electionElapsed, fun hc => absurd hc hm, fun _ => h1.tn⟩
    | err e => rw [hs] at h'; cases h'
    | panic s => rw [hs] at h'; cases h'

/-! ## 5. every role change clears the transfer -/

/-- **C17 `reset_clears_transfer`** (raft.rs:1018 `abort_leader_transfer` inside `reset`). -/
theorem C17_reset_clears_transfer (r : Raft) (t : Nat) : (r.reset t).leadTransferee = none :=
  reset_leadTransferee r t

/-- `become_follower`, `become_candidate` and `become_leader` all go through `reset`: after any of
them no transfer is pending (in particular a freshly elected leader — the transfer target — starts
without one, and a leader that steps down forgets the one it had). -/
theorem C17_role_change_clears_transfer (r : Raft) :
    (∀ t l, (r.becomeFollower t l).leadTransferee = none) ∧
    (∀ r', r.becomeCandidate = .ok r' → r'.leadTransferee = none) ∧
    (∀ r', r.becomeLeader = .ok r' → r'.leadTransferee = none) := by
  refine ⟨fun t l => ?_, fun r' h => ?_, fun r' h => ?_⟩
  · unfold becomeFollower; exact reset_leadTransferee r t
  · unfold becomeCandidate at h
    split at h
    · cases h
    · split at h
      · cases h
      · cases h; dsimp only; exact reset_leadTransferee r (r.term + 1)
  · unfold becomeLeader at h
    split at h
    · cases h
    · dsimp only at h
      split at h
      · cases h
      · split at h
        · cases h
        · split at h
          · rename_i r1 heq
            cases h
            have h1 := (Res.Post.of_eq (P := fun x => FrameT _ x.1) (appendEntry_frameT _ _)
              heq).leadTransferee
            dsimp only at h1
            exact h1.trans (reset_leadTransferee r r.term)
          · cases h
          · cases h
          · cases h

/-- `become_pre_candidate` is the one role change that does NOT call `reset` (raft.rs:1203-1215: it
"doesn't change anything else"); it keeps `lead_transferee` as it is, and it is never reached from
the leader role (`become_pre_candidate` from `Leader` is the panic of raft.rs:1204). -/
theorem C17_pre_candidate_keeps_transferee (r r' : Raft) (h : r.becomePreCandidate = .ok r') :
    r.state ≠ .leader ∧ r'.leadTransferee = r.leadTransferee := by
  unfold becomePreCandidate at h
  split at h
  · cases h
  · rename_i hs; cases h; exact ⟨hs, rfl⟩

/-! ## 6. the target leaves the voters -/

/-- **C17 `target_removed_aborts`** (*"it abandons the transfer … when the target leaves the
voters"*; `post_conf_change`, raft.rs:2776-2781).  On a leader that is itself still a voter (of
either half of a joint configuration) in a configuration with at least one incoming voter, after
`post_conf_change` the pending transferee, if any, is a voter of the current configuration:
a transferee that is in neither `incoming` nor `outgoing` has been dropped, one that still is a
voter is kept.  The configuration itself is not touched by `post_conf_change`.

The two hypotheses are the two early returns of the Rust function, which come BEFORE the abort: a
leader that has just been removed or demoted steps down there (raft.rs:2753-2770,
`C17_removed_leader_steps_down`: `reset` clears the transfer), and a node with no incoming voter
returns at once and keeps `lead_transferee`. -/
theorem C17_target_removed_aborts (r r' : Raft) (cs : ConfState)
    (hs : r.state = .leader) (hv : Joint.contains r.prs.voters r.id = true)
    (hi : r.prs.conf.incoming ≠ []) (h : r.postConfChange = .ok (r', cs)) :
    r'.prs.conf = r.prs.conf ∧
    (∀ e, r.leadTransferee = some e → Joint.contains r.prs.voters e = false →
      r'.leadTransferee = none) ∧
    (∀ e, r.leadTransferee = some e → Joint.contains r.prs.voters e = true →
      r'.leadTransferee = some e) ∧
    (r.leadTransferee = none → r'.leadTransferee = none) := by
  rcases Res.Post.of_eq (postConfChange_spec r) h with ⟨_, hc, _⟩ | ⟨hc, _⟩ | ⟨r2, hf, _, _, _, hc⟩
  · rw [hv] at hc; cases hc
  · rcases hc with hc | hc
    · exact absurd hs hc
    · exact absurd hc hi
  · have hconf : r2.prs.conf = r.prs.conf := hf.conf
    have hlt : r2.leadTransferee = r.leadTransferee := hf.leadTransferee
    have hvoters : r2.prs.voters = r.prs.voters := by
      simp [ProgressTracker.voters, hconf]
    dsimp only at hc
    rw [hc]
    refine ⟨?_, ?_, ?_, ?_⟩
    · split
      · split <;> exact hconf
      · exact hconf
    · intro e he hne
      rw [hlt, he]
      simp [hvoters, hne, abortLeaderTransfer]
    · intro e he hin
      rw [hlt, he]
      simp [hvoters, hin, hlt, he]
    · intro hn
      rw [hlt, hn]
      simp [hlt, hn]

/-- the same through `apply_conf_change` (raft.rs:2834): when the applied change takes the pending
transferee out of the voters of the NEW configuration (and the leader stays a voter), the transfer
is aborted; when the change is rejected nothing changes. -/
theorem C17_target_removed_aborts_apply (r r' : Raft) (cc : ConfChangeV2) (cs : ConfState) (e : Nat)
    (hs : r.state = .leader) (h : r.applyConfChange cc = .ok (r', .ok cs))
    (hv : Joint.contains r'.prs.voters r.id = true) (hi : r'.prs.conf.incoming ≠ [])
    (ht : r.leadTransferee = some e) (hgone : Joint.contains r'.prs.voters e = false) :
    r'.leadTransferee = none := by
  unfold applyConfChange at h
  dsimp only at h
  split at h
  · cases h
  · rename_i cfg changes _
    cases hp : ({ r with prs := r.prs.applyConf cfg changes r.raftLog.lastIndex } : Raft).postConfChange with
    | ok a =>
      rw [hp] at h
      simp only [Res.bind] at h
      obtain ⟨r1, cs1⟩ := a
      simp only [Res.ok.injEq, Prod.mk.injEq] at h
      obtain ⟨h1, _⟩ := h
      subst h1
      have hconf : r1.prs.conf = (r.prs.applyConf cfg changes r.raftLog.lastIndex).conf := by
        exact Res.Post.of_eq (P := fun x => x.1.prs.conf = _) (postConfChange_conf _) hp
      have hvot : r1.prs.voters = (r.prs.applyConf cfg changes r.raftLog.lastIndex).voters := by
        simp [ProgressTracker.voters, hconf]
      rw [hvot] at hv hgone
      rw [hconf] at hi
      exact (C17_target_removed_aborts { r with prs := r.prs.applyConf cfg changes r.raftLog.lastIndex }
        r1 cs1 hs hv hi hp).2.1 e ht hgone
    | err e => rw [hp] at h; cases h
    | panic s => rw [hp] at h; cases h

theorem C17_rejected_conf_change_keeps_transfer (r r' : Raft) (cc : ConfChangeV2) (k : ErrKind)
    (h : r.applyConfChange cc = .ok (r', .error k)) : r' = r := by
  unfold applyConfChange at h
  dsimp only at h
  split at h
  · cases h; rfl
  · cases hp : Raft.postConfChange _ with
    | ok a => rw [hp] at h; simp [Res.bind] at h
    | err e => rw [hp] at h; cases h
    | panic s => rw [hp] at h; cases h

/-- **The leader itself leaves the voters** (raft.rs:2753-2770, fix F14).  The early return for a
removed / demoted leader comes before the transferee check, but the leader steps down there
(`become_follower` at its own term), and `reset` clears the transfer: no transfer is pending
afterwards, whatever happened to the target, and the node is a follower.  (Before fix F14 this
early return left the node a leader with its `lead_transferee` intact: it kept refusing proposals
until the election-timeout abort.) -/
theorem C17_removed_leader_steps_down (r : Raft) (hs : r.state = .leader)
    (hv : Joint.contains r.prs.voters r.id = false) :
    ∃ r', r.postConfChange = .ok (r', r.prs.conf.toConfState) ∧
      r'.state = .follower ∧ r'.leadTransferee = none ∧ r'.term = r.term ∧ r'.msgs = r.msgs := by
  refine ⟨({ r with promotable := false } : Raft).becomeFollower r.term 0, ?_, rfl, ?_, ?_, ?_⟩
  · unfold postConfChange
    simp [hv, hs]
  · exact becomeFollower_leadTransferee _ _ _
  · exact (becomeFollower_term_vote _ _ _).1
  · exact becomeFollower_msgs _ _ _

/-! ## 3. the transfer is abandoned after one election timeout -/

/-- the `MsgBeat` a leader steps on itself only sends heartbeats -/
theorem stepIgnore_beat_frameT (r : Raft) (hs : r.state = .leader) (frm : Option Nat) :
    Res.Post (fun x => FrameT r x) (r.stepIgnore (newMessage 0 .msgBeat frm)) := by
  refine Res.post_intro fun x h => ?_
  obtain ⟨_, h⟩ := stepIgnore_inv h
  rw [step_leader (stepTerm_same (.inl rfl)) (.of_eq (t := .msgBeat) rfl) hs] at h
  unfold Raft.stepLeader at h
  obtain ⟨_, hb, h⟩ := Res.bind_eq_ok h
  cases h
  exact (bcastHeartbeat_frameT r).of_eq hb

/-- the `MsgCheckQuorum` a leader steps on itself: it steps down (`reset` clears the transfer) or
only the `recent_active` flags change -/
theorem stepIgnore_checkQuorum (r : Raft) (hs : r.state = .leader) (frm : Option Nat) :
    Res.Post (fun x => x.leadTransferee = none ∨ FrameT r x)
      (r.stepIgnore (newMessage 0 .msgCheckQuorum frm)) := by
  refine Res.post_intro fun x h => ?_
  obtain ⟨_, h⟩ := stepIgnore_inv h
  rw [step_leader (stepTerm_same (.inl rfl)) (.of_eq (t := .msgCheckQuorum) rfl) hs] at h
  unfold Raft.stepLeader at h
  dsimp only [newMessage] at h
  split at h
  · cases h; exact .inl (becomeFollower_leadTransferee _ _ _)
  · cases h; exact .inr (checkQuorumActive_frameT r)

theorem tickHeartbeat_spec (r : Raft) (hs : r.state = .leader) :
    Res.Post (fun x =>
      (r.electionTimeout ≤ r.electionElapsed + 1 → x.1.leadTransferee = none) ∧
      (r.electionElapsed + 1 < r.electionTimeout →
        x.1.leadTransferee = r.leadTransferee ∧ x.1.state = .leader ∧
        x.1.electionElapsed = r.electionElapsed + 1 ∧ x.1.electionTimeout = r.electionTimeout))
      r.tickHeartbeat := by
  refine Res.post_intro fun ⟨r', b⟩ h => ?_
  obtain ⟨ra, hr, hq, hbt⟩ := tickHeartbeat_inv h
  -- the second phase keeps what the statement reads
  have beat : r'.leadTransferee = ra.leadTransferee ∧ (ra.state = .leader → r'.state = .leader) ∧
      r'.electionElapsed = ra.electionElapsed ∧ r'.electionTimeout = ra.electionTimeout := by
    cases hbt with
    | deposed _ => exact ⟨rfl, id, rfl, rfl⟩
    | quiet _ _ => exact ⟨rfl, id, rfl, rfl⟩
    | beat hl _ h3 =>
      have f := (stepIgnore_beat_frameT { ra with heartbeatElapsed := 0 } hl _).of_eq h3
      exact ⟨f.leadTransferee, fun _ => f.state.trans hl, f.electionElapsed, f.electionTimeout⟩
  -- a node that is still leader gives up the transfer
  have abort : ∀ x : Raft, x.leadTransferee = none ∨ x.state = .leader →
      (if x.state = .leader ∧ x.leadTransferee.isSome then x.abortLeaderTransfer else x).leadTransferee
        = none := by
    intro x hx
    split
    · rfl
    · rename_i hc
      rcases hx with hx | hx
      · exact hx
      · cases hl : x.leadTransferee with
        | none => rfl
        | some e => exact absurd ⟨hx, by simp [hl]⟩ hc
  cases hq with
  | early hto => exact ⟨fun c => absurd c hto, fun _ => ⟨beat.1, beat.2.1 hs, beat.2.2.1, beat.2.2.2⟩⟩
  | unchecked hto _ e =>
    subst e
    exact ⟨fun _ => beat.1.trans (abort _ (.inr hs)), fun c => by omega⟩
  | checked hto _ h3 =>
    refine ⟨fun _ => beat.1.trans (abort _ ?_), fun c => by omega⟩
    exact ((stepIgnore_checkQuorum
      { r with heartbeatElapsed := r.heartbeatElapsed + 1, electionElapsed := 0 } hs _).of_eq h3).imp id
      fun f => f.state.trans hs

/-- **C17 `transfer_aborted_after_election_timeout`** (*"it abandons the transfer after one
election timeout"*; `tick_heartbeat`, raft.rs:1122-1131).  The leader tick that makes
`election_elapsed` reach `election_timeout` leaves no transfer pending — whether the leader passes
its quorum check and runs `abort_leader_transfer`, or fails it and steps down (`reset`).  A leader
tick before that keeps the transfer, stays leader and counts one tick. -/
theorem C17_transfer_aborted_after_election_timeout (r r' : Raft) (b : Bool)
    (hs : r.state = .leader) (h : r.tick = .ok (r', b)) :
    (r.electionTimeout ≤ r.electionElapsed + 1 → r'.leadTransferee = none) ∧
    (r.electionElapsed + 1 < r.electionTimeout →
      r'.leadTransferee = r.leadTransferee ∧ r'.state = .leader ∧
      r'.electionElapsed = r.electionElapsed + 1 ∧ r'.electionTimeout = r.electionTimeout) := by
  have ht : r.tick = r.tickHeartbeat := by unfold Raft.tick; rw [hs]
  rw [ht] at h
  have := Res.Post.of_eq (tickHeartbeat_spec r hs) h
  exact this

/-- `n` consecutive ticks -/
def ticks : Nat → Raft → Res Raft
  | 0, r => .ok r
  | n + 1, r => r.tick.bind (fun x => ticks n x.1)

/-- **counting corollary**: a leader whose election timer shows `election_elapsed` drops any
pending transfer within the next `election_timeout - election_elapsed` ticks.  Since an accepted
transfer request resets `election_elapsed` to 0 (`C17_transfer_request_accepted`), a pending
transfer never survives more than `election_timeout` leader ticks. -/
theorem C17_transfer_bounded_by_election_timeout : ∀ (n : Nat) (r r' : Raft),
    r.state = .leader → 0 < n → r.electionTimeout ≤ r.electionElapsed + n →
    ticks n r = .ok r' →
    ∃ k rk, 0 < k ∧ k ≤ n ∧ ticks k r = .ok rk ∧ rk.leadTransferee = none := by
  intro n
  induction n with
  | zero => intro r r' _ h; omega
  | succ n ih =>
    intro r r' hs _ hto h
    simp only [ticks] at h
    cases ht : r.tick with
    | ok a =>
      obtain ⟨r1, b⟩ := a
      rw [ht] at h
      simp only [Res.bind] at h
      have hspec := C17_transfer_aborted_after_election_timeout r r1 b hs ht
      by_cases hnow : r.electionTimeout ≤ r.electionElapsed + 1
      · refine ⟨1, r1, by omega, by omega, ?_, hspec.1 hnow⟩
        simp [ticks, ht, Res.bind]
      · obtain ⟨h1, h2, h3, h4⟩ := hspec.2 (by omega)
        obtain ⟨k, rk, hk0, hkn, hk, hnone⟩ := ih r1 r' h2 (by omega) (by omega) h
        refine ⟨k + 1, rk, by omega, by omega, ?_, hnone⟩
        simp only [ticks, ht, Res.bind]
        exact hk
    | err e => rw [ht] at h; cases h
    | panic s => rw [ht] at h; cases h

/-! ## 7. `MsgTimeoutNow` forces a real, lease-bypassing campaign on the target -/

theorem reset_fields (r : Raft) (t : Nat) :
    (r.reset t).id = r.id ∧ (r.reset t).raftLog = r.raftLog ∧ (r.reset t).priority = r.priority ∧
    (r.reset t).state = r.state ∧ (r.reset t).prs.conf = r.prs.conf ∧ (r.reset t).prs.votes = [] := by
  rw [reset_eq]; exact ⟨rfl, rfl, rfl, rfl, rfl, rfl⟩

/-- the vote request a transfer target sends (raft.rs:1303-1332 with `CAMPAIGN_TRANSFER`) -/
def transferVoteReq (r : Raft) (term c ct lt to : Nat) : Message :=
  { msgType := .msgRequestVote, to := to, frm := r.id, term := term,
    index := r.raftLog.lastIndex, logTerm := lt, commit := c, commitTerm := ct,
    context := campaignTransfer,
    deprecatedPriority := if r.priority > 0 then r.priority.toNat else 0, priority := r.priority }

/-- one iteration of the vote-request loop of `campaign` -/
def voteStep (term c ct lt : Nat) (acc : Res Raft) (id : Nat) : Res Raft :=
  acc.bind (fun r =>
    if id = r.id then .ok r
    else r.send { msgType := .msgRequestVote, to := id, term := term,
                  index := r.raftLog.lastIndex, logTerm := lt, commit := c, commitTerm := ct,
                  context := if CampaignType.transfer = .transfer then campaignTransfer else [] })

theorem voteStep_ok (r : Raft) (term c ct lt : Nat) (hterm : term ≠ 0) (ms : List Message) (id : Nat) :
    voteStep term c ct lt (.ok { r with msgs := ms }) id =
      .ok { r with msgs := ms ++ ([id].filter (fun id => id ≠ r.id)).map (transferVoteReq r term c ct lt) } := by
  unfold voteStep
  simp only [Res.bind]
  by_cases hid : id = r.id
  · simp [hid]
  · simp [hid, send, sendFill, isVoteMsg, hterm, transferVoteReq]

theorem sendVoteRequests_loop (r : Raft) (term c ct lt : Nat) (hterm : term ≠ 0) :
    ∀ (l : List Nat) (ms : List Message),
      l.foldl (voteStep term c ct lt) (.ok { r with msgs := ms }) =
      .ok { r with msgs := ms ++ (l.filter (fun id => id ≠ r.id)).map (transferVoteReq r term c ct lt) } := by
  intro l
  induction l with
  | nil => intro ms; simp
  | cons id rest ih =>
    intro ms
    rw [List.foldl_cons, voteStep_ok r term c ct lt hterm, ih]
    by_cases hid : id = r.id <;> simp [hid]

/-- everybody a campaign asks for a vote: the voters of either half except the node itself -/
def voteTargets (r : Raft) : List Nat :=
  (NatSet.union r.prs.conf.incoming r.prs.conf.outgoing).filter (fun id => id ≠ r.id)

theorem sendVoteRequests_transfer (r : Raft) (term c ct lt : Nat) (hterm : term ≠ 0)
    (hci : r.raftLog.commitInfo = .ok (c, ct)) (hlt : r.raftLog.lastTerm = .ok lt) :
    r.sendVoteRequests .transfer .msgRequestVote term =
      .ok { r with msgs := r.msgs ++ (voteTargets r).map (transferVoteReq r term c ct lt) } := by
  unfold sendVoteRequests
  rw [hci, hlt]
  exact sendVoteRequests_loop r term c ct lt hterm _ r.msgs

/-- the state `become_candidate` produces (raft.rs:1180) -/
def candOf (r : Raft) : Raft :=
  { r.reset (r.term + 1) with vote := (r.reset (r.term + 1)).id, state := .candidate }

theorem becomeCandidate_eq (r : Raft) (hs : r.state ≠ .leader) (hterm : r.term < U64_MAX) :
    r.becomeCandidate = .ok (candOf r) := by
  unfold becomeCandidate candOf
  simp [hs, Nat.not_le.mpr hterm]

/-- the candidate after recording its own vote -/
def candVoted (r : Raft) : Raft :=
  { candOf r with prs := (candOf r).prs.recordVote (candOf r).id true }

theorem candVoted_fields (r : Raft) :
    (candVoted r).state = .candidate ∧ (candVoted r).term = r.term + 1 ∧
    (candVoted r).vote = r.id ∧ (candVoted r).leadTransferee = none := by
  -- the projections are taken first: left to the unifier, `(candVoted r).term =?= (r.reset _).term`
  -- is tried as `candVoted r =?= r.reset _`
  dsimp only [candVoted, candOf]
  exact ⟨rfl, (reset_term_vote r (r.term + 1)).1, (reset_fields r (r.term + 1)).1,
    reset_leadTransferee r (r.term + 1)⟩

theorem candVoted_tally (r : Raft) :
    (candVoted r).prs.tallyVotes = Tracker.tallyVotes r.prs.voters [(r.id, true)] := by
  obtain ⟨hid, _, _, _, hconf, hvotes⟩ := reset_fields r (r.term + 1)
  have hprs : (candOf r).prs = (r.reset (r.term + 1)).prs := rfl
  have hcid : (candOf r).id = r.id := hid
  simp only [candVoted, ProgressTracker.tallyVotes, ProgressTracker.recordVote, hprs, hcid, hvotes,
    List.lookup, ProgressTracker.voters, hconf, NatMap.insert]

theorem poll_self_pending (r : Raft) (t : MsgType)
    (hp : (Tracker.tallyVotes r.prs.voters [(r.id, true)]).2.2 = .pending) :
    (candOf r).poll (candOf r).id t true = .ok (candVoted r, .pending) := by
  have h := candVoted_tally r
  unfold poll pollWith
  dsimp only
  have h' : (((candOf r).prs.recordVote (candOf r).id true).tallyVotes).2.2 = .pending := by
    have : (candVoted r).prs = (candOf r).prs.recordVote (candOf r).id true := rfl
    rw [← this, h]; exact hp
  rw [h']
  rfl

theorem campaign_transfer_eq (r : Raft) (c ct lt : Nat) (hs : r.state ≠ .leader)
    (hterm : r.term < U64_MAX)
    (hp : (Tracker.tallyVotes r.prs.voters [(r.id, true)]).2.2 = .pending)
    (hci : r.raftLog.commitInfo = .ok (c, ct)) (hlt : r.raftLog.lastTerm = .ok lt) :
    r.campaign .transfer =
      .ok { candVoted r with msgs := r.msgs ++ (voteTargets r).map (transferVoteReq r (r.term + 1) c ct lt) } := by
  obtain ⟨hid, hlog, hpri, _, hconf, _⟩ := reset_fields r (r.term + 1)
  have hmsgs := reset_msgs r (r.term + 1)
  have hrt := (reset_term_vote r (r.term + 1)).1
  unfold campaign campaignWith
  dsimp only
  rw [if_neg (by decide), becomeCandidate_eq r hs hterm]
  simp only [Res.bind]
  rw [poll_self_pending r _ hp]
  simp only [if_neg (show ¬ VoteResult.pending = VoteResult.won by decide)]
  have hterm' : (candOf r).term = r.term + 1 := hrt
  have e1 : (candVoted r).raftLog = r.raftLog := hlog
  have e2 : (candVoted r).id = r.id := hid
  have e3 : (candVoted r).priority = r.priority := hpri
  have e4 : (candVoted r).msgs = r.msgs := hmsgs
  have e5 : (candVoted r).prs.conf = r.prs.conf := by
    have : (candVoted r).prs.conf = (r.reset (r.term + 1)).prs.conf := by
      simp only [candVoted, candOf, ProgressTracker.recordVote]
      split <;> rfl
    rw [this, hconf]
  rw [sendVoteRequests_transfer (candVoted r) (candOf r).term c ct lt (by rw [hterm']; omega)
    (by rw [e1]; exact hci) (by rw [e1]; exact hlt)]
  have hvt : voteTargets (candVoted r) = voteTargets r := by
    simp only [voteTargets, e5, e2]
  have hreq : transferVoteReq (candVoted r) (candOf r).term c ct lt =
      transferVoteReq r (r.term + 1) c ct lt := by
    funext to
    simp only [transferVoteReq, e1, e2, e3, hterm']
  rw [hvt, hreq, e4]

/-- **C17 `timeout_now_forces_campaign`** (*"target campaigns with forced (lease-bypassing) real
vote"*; `step_follower` raft.rs:2398-2418 → `hup(true)` 1543 → `campaign(CAMPAIGN_TRANSFER)` 1287).
A promotable follower that steps `MsgTimeoutNow`, with nothing that blocks an election (no
committed-but-unapplied membership change; not the "own vote is a quorum but entries unpersisted"
case) and whose own vote does not already win (more than one voter), becomes a **candidate at
`term + 1` having voted for itself** and queues **one real `MsgRequestVote` per other voter of
either half, carrying the `CampaignTransfer` context** and the new term — **whether or not
`pre_vote` is configured**: the pre-vote round is skipped.  The resulting state is given exactly. -/
theorem C17_timeout_now_forces_campaign (r : Raft) (m : Message) (c ct lt : Nat)
    (hm : m.msgType = .msgTimeoutNow) (hpr : r.promotable = true) (hs : r.state ≠ .leader)
    (hterm : r.term < U64_MAX)
    (hcc : r.hasUnappliedConfChanges r.hupScanLow (r.raftLog.committed + 1) = .ok false)
    (hpers : ¬ (r.raftLog.persisted < r.raftLog.lastIndex ∧ r.prs.hasQuorum [r.id] = true))
    (hp : (Tracker.tallyVotes r.prs.voters [(r.id, true)]).2.2 = .pending)
    (hci : r.raftLog.commitInfo = .ok (c, ct)) (hlt : r.raftLog.lastTerm = .ok lt) :
    ∃ r', r.stepFollower m = .ok (r', none) ∧
      r'.state = .candidate ∧ r'.term = r.term + 1 ∧ r'.vote = r.id ∧ r'.leadTransferee = none ∧
      r'.msgs = r.msgs ++ (voteTargets r).map (transferVoteReq r (r.term + 1) c ct lt) ∧
      (∀ q ∈ (voteTargets r).map (transferVoteReq r (r.term + 1) c ct lt),
        q.msgType = .msgRequestVote ∧ q.context = campaignTransfer ∧ q.term = r.term + 1) := by
  have hhup : r.hup true = r.campaign .transfer := by
    unfold hup
    simp only [hs, hpr, hcc, hpers]
    simp
  have hstep : r.stepFollower m = (r.campaign .transfer).bind (fun r => .ok (r, none)) := by
    unfold stepFollower
    simp only [hm, hpr, if_true]
    rw [hhup]
  rw [hstep, campaign_transfer_eq r c ct lt hs hterm hp hci hlt]
  refine ⟨_, rfl, candVoted_fields r |>.1, candVoted_fields r |>.2.1, candVoted_fields r |>.2.2.1,
    candVoted_fields r |>.2.2.2, rfl, ?_⟩
  intro q hq
  simp only [List.mem_map] at hq
  obtain ⟨to, _, rfl⟩ := hq
  exact ⟨rfl, rfl, rfl⟩

/-- … and a node that is not promotable (learner, removed node) ignores `MsgTimeoutNow`. -/
theorem C17_non_promotable_ignores_timeout_now (r : Raft) (m : Message)
    (hm : m.msgType = .msgTimeoutNow) (hp : r.promotable = false) :
    r.stepFollower m = .ok (r, none) := by
  unfold Raft.stepFollower; simp [hm, hp]

/-- **the vote request of a transfer bypasses the leader lease** (raft.rs:1354-1376; compare
`RN.lease_ignores`).  Whatever the receiver's state — also with `check_quorum`, a known leader and
an unexpired lease — a higher-term `MsgRequestVote` carrying the `CampaignTransfer` context is not
dropped by the term preamble of `step`: the receiver moves to the new term as a follower with no
leader and goes on to the vote decision. -/
theorem C17_transfer_vote_bypasses_lease (r : Raft) (m : Message)
    (hm : m.msgType = .msgRequestVote) (hctx : m.context = campaignTransfer) (hterm : r.term < m.term) :
    r.stepTerm m = .ok (r.becomeFollower m.term 0, true) := by
  have h0 : m.term ≠ 0 := by omega
  unfold Raft.stepTerm
  simp [h0, hterm, hm, hctx]

/-- … so the old leader, on receiving it, follows the higher term at once: it is a follower at
`m.term` with no pending transfer (whether or not it grants the vote). -/
theorem C17_old_leader_steps_down_on_transfer_vote (r r' : Raft) (m : Message) (e : Option RaftError)
    (hm : m.msgType = .msgRequestVote) (hctx : m.context = campaignTransfer) (hterm : r.term < m.term)
    (h : r.step m = .ok (r', e)) :
    r'.term = m.term ∧ r'.leadTransferee = none ∧ r'.state = .follower := by
  have hv := (step_dispatch (C17_transfer_vote_bypasses_lease r m hm hctx hterm) h).vote_inv (.inl hm)
  -- the vote arm runs on `become_follower(m.term, 0)`; nothing it does undoes that
  refine stepVote_parts
    (P := fun x => x.term = m.term ∧ x.leadTransferee = none ∧ x.state = .follower) hv
    (fun hs _ => ?_) (fun p => p) (fun hb p => ?_)
  · rw [send_eq _ _ _ hs]
    exact ⟨(becomeFollower_term_vote r m.term 0).1, becomeFollower_leadTransferee r m.term 0, rfl⟩
  · cases maybeCommitByVote_inv hb with
    | ignored | committed => exact p
    | steppedDown =>
      exact ⟨(becomeFollower_term_vote _ _ _).1.trans p.1, becomeFollower_leadTransferee _ _ _, rfl⟩

/-! ## who may set `lead_transferee`: only `handle_transfer_leader` -/

theorem handleAppendResponse_rel {r r' : Raft} {m : Message} (h : r.handleAppendResponse m = .ok r') :
    Rel r r' := by
  obtain ⟨r3, q, rfl | ⟨p, _, _, _, hs⟩⟩ := handleAppendResponse_xfer h
  · exact q.toRel
  · rw [sendTimeoutNow_eq r3 r' m.frm hs]; exact Rel.trans q.toRel (Rel.of_same rfl rfl)

/-- `step_leader` on any message other than `MsgTransferLeader` drops the pending transfer or leaves
it (and the leader role) as it is. -/
theorem stepLeader_rel {r r' : Raft} {m : Message} {e : Option RaftError}
    (h1 : m.msgType ≠ .msgTransferLeader) (h : r.stepLeader m = .ok (r', e)) : Rel r r' := by
  by_cases h2 : m.msgType = .msgAppendResponse
  · rw [stepLeader_append_response h2] at h
    obtain ⟨r1, hx, h⟩ := Res.bind_eq_ok h
    cases h; exact handleAppendResponse_rel hx
  · exact (stepLeader_other_tr h1 h2 h).rel

/-- `Raft::step`, every state and message: the pending transfer is dropped or kept (a leader that
keeps it stays leader), unless the message is a `MsgTransferLeader` stepped by a leader, which stays
leader. -/
theorem step_rel (r : Raft) (m : Message) :
    Res.Post (fun x => Rel r x.1 ∨
        (r.state = .leader ∧ m.msgType = .msgTransferLeader ∧ x.1.state = .leader)) (r.step m) := by
  refine Res.post_intro ?_
  rintro ⟨r', res⟩ h
  cases step_inv h with
  | consumed ht => exact .inl ((stepTerm_rel r m).of_eq ht)
  | dispatched ht hd =>
    have t : Rel r _ := (stepTerm_rel r m).of_eq ht
    cases hd with
    | hup _ hx => exact .inl (t.trans ((hup_rel _ _).of_eq hx))
    | vote _ hx => exact .inl (t.trans ((stepVote_rel _ m).of_eq hx))
    | candidate _ _ hx => exact .inl (t.trans ((stepCandidate_rel _ m).of_eq hx))
    | follower _ _ hx => exact .inl (t.trans ((stepFollower_rel _ m).of_eq hx))
    | leader _ hl hx =>
      by_cases hm : m.msgType = .msgTransferLeader
      · rcases stepTerm_true r _ m ht with rfl | hst
        · rw [C17_transfer_request_step_leader _ m hm] at hx
          obtain ⟨r2, hy, e⟩ := Res.bind_eq_ok hx
          cases e; exact .inr ⟨hl, hm, (handleTransferLeader_xfer hy).1.trans hl⟩
        · rw [hst] at hl; cases hl
      · exact .inl (t.trans (stepLeader_rel hm hx))

/-- **C17: only a transfer request sets `lead_transferee`.**  For every state and every message
that is not a `MsgTransferLeader`, after `Raft::step` the pending transfer has been dropped or is
exactly the one that was pending (and then a leader is still leader). -/
theorem C17_only_transfer_request_sets_transferee (r r' : Raft) (m : Message) (e : Option RaftError)
    (hm : m.msgType ≠ .msgTransferLeader) (h : r.step m = .ok (r', e)) :
    r'.leadTransferee = none ∨
    (r'.leadTransferee = r.leadTransferee ∧ (r.state = .leader → r'.state = .leader)) := by
  rcases Res.Post.of_eq (step_rel r m) h with h1 | ⟨_, h1, _⟩
  · exact h1
  · exact absurd h1 hm

theorem stepIgnore_rel (r : Raft) (m : Message) (hm : m.msgType ≠ .msgTransferLeader) :
    Res.Post (fun x => Rel r x) (r.stepIgnore m) := by
  refine Res.post_intro fun x h => ?_
  obtain ⟨e, hs⟩ := stepIgnore_inv h
  rcases (step_rel r m).of_eq hs with ha | ⟨_, ha, _⟩
  · exact ha
  · exact absurd ha hm

/-- a tick (`tick_election` or `tick_heartbeat`) never sets `lead_transferee` -/
theorem tick_rel (r : Raft) : Res.Post (fun x => Rel r x.1) r.tick :=
  Res.post_intro fun _ h => tick_parts (P := Rel r) h
    (fun he => tickElection_parts he (fun _ => Rel.of_same rfl rfl)
      fun hs ty _ p => p.trans ((stepIgnore_rel _ _ (by rw [ty]; decide)).of_eq hs))
    (fun hh => tickHeartbeat_parts hh (fun _ _ p => p.trans (Rel.of_same rfl rfl)) (Rel.refl r)
      (fun hs ty _ _ p => p.trans ((stepIgnore_rel _ _ (by rw [ty]; decide)).of_eq hs))
      (fun hs ty _ _ p => p.trans ((stepIgnore_rel _ _ (by rw [ty]; decide)).of_eq hs))
      fun p => p.trans (Rel.of_none rfl))

/-- **C17 invariant: a node that is not leader has no pending transfer** (item 5, the "hence").
The invariant `state ≠ Leader → lead_transferee = None` holds of the state `Raft::new` returns
(it ends with `become_follower`) and is preserved by every `Raft::step` — any state, any message —
and every `tick`.  So the proposal block of `C17_proposals_refused_while_transferring` and the
`MsgTimeoutNow` of `C17_timeout_now_only_when_caught_up` only ever concern a node that is leader. -/
def NoStaleTransfer (r : Raft) : Prop := r.state ≠ .leader → r.leadTransferee = none

theorem Rel.keeps {r r' : Raft} (h : Rel r r') (hi : NoStaleTransfer r) : NoStaleTransfer r' := by
  intro hs
  rcases h with h | ⟨h1, h2⟩
  · exact h
  · rw [h1]
    apply hi
    intro hl
    exact hs (h2 hl)

theorem C17_non_leader_has_no_pending_transfer :
    (∀ (r r' : Raft) (m : Message) (e : Option RaftError),
      NoStaleTransfer r → r.step m = .ok (r', e) → NoStaleTransfer r') ∧
    (∀ (r r' : Raft) (b : Bool), NoStaleTransfer r → r.tick = .ok (r', b) → NoStaleTransfer r') ∧
    (∀ (r r' : Raft) (cs : ConfState),
      NoStaleTransfer r → r.postConfChange = .ok (r', cs) → NoStaleTransfer r') := by
  refine ⟨fun r r' m e hi h => ?_, fun r r' b hi h => ?_, fun r r' cs hi h => ?_⟩
  · rcases Res.Post.of_eq (step_rel r m) h with h1 | ⟨_, _, h1⟩
    · exact Rel.keeps h1 hi
    · intro hs; exact absurd h1 hs
  · exact Rel.keeps (Res.Post.of_eq (P := fun x => Rel r x.1) (tick_rel r) h) hi
  · exact Rel.keeps (Res.Post.of_eq (P := fun x => Rel r x.1) (postConfChange_rel r) h) hi

/-- the invariant holds initially: `Raft::new` ends with `become_follower` (raft.rs:398) -/
theorem C17_new_has_no_pending_transfer (c : Config) (store : MemStorage) (rnd : Option Nat)
    (r : Raft) (h : Raft.new c store rnd = .ok (.ok r)) :
    r.state = .follower ∧ r.leadTransferee = none := by
  obtain ⟨_, _, _, _, _, _, _, rfl⟩ := raftNew_inv h
  exact ⟨rfl, becomeFollower_leadTransferee _ _ _⟩

theorem ticks_rel : ∀ (n : Nat) (r r' : Raft), ticks n r = .ok r' → Rel r r' := by
  intro n
  induction n with
  | zero => intro r r' h; cases h; exact Rel.refl _
  | succ n ih =>
    intro r r' h
    simp only [ticks] at h
    cases ht : r.tick with
    | ok a =>
      rw [ht] at h
      simp only [Res.bind] at h
      exact Rel.trans (Res.Post.of_eq (P := fun x => Rel r x.1) (tick_rel r) ht) (ih a.1 r' h)
    | err e => rw [ht] at h; cases h
    | panic s => rw [ht] at h; cases h

theorem ticks_split : ∀ (k j : Nat) (r rk : Raft), ticks k r = .ok rk → ticks (k + j) r = ticks j rk := by
  intro k
  induction k with
  | zero => intro j r rk h; cases h; simp
  | succ k ih =>
    intro j r rk h
    have : k + 1 + j = (k + j) + 1 := by omega
    rw [this]
    simp only [ticks] at h ⊢
    cases ht : r.tick with
    | ok a =>
      rw [ht] at h
      simp only [Res.bind] at h ⊢
      exact ih j a.1 rk h
    | err e => rw [ht] at h; cases h
    | panic s => rw [ht] at h; cases h

/-- **counting corollary, strong form**: with nothing but ticks in between, `election_timeout -
election_elapsed` ticks after any point no transfer is pending any more, and it stays that way
(ticks never set `lead_transferee`).  As an accepted request resets `election_elapsed` to 0, a
transfer is pending for at most `election_timeout` leader ticks. -/
theorem C17_no_transfer_after_election_timeout (n : Nat) (r r' : Raft)
    (hs : r.state = .leader) (hn : 0 < n) (hto : r.electionTimeout ≤ r.electionElapsed + n)
    (h : ticks n r = .ok r') : r'.leadTransferee = none := by
  obtain ⟨k, rk, _, hkn, hk, hnone⟩ := C17_transfer_bounded_by_election_timeout n r r' hs hn hto h
  have hsplit := ticks_split k (n - k) r rk hk
  have : k + (n - k) = n := by omega
  rw [this, h] at hsplit
  rcases ticks_rel (n - k) rk r' hsplit.symm with h1 | ⟨h1, _⟩
  · exact h1
  · rw [h1]; exact hnone

/-! ## 8. non-vacuity: concrete states and messages satisfying the hypotheses -/

section Examples

/-- `x` succeeded with a value satisfying `p` -/
def okAnd {α : Type} (x : Res α) (p : α → Bool) : Bool :=
  match x with
  | .ok a => p a
  | _ => false

theorem okAnd_elim {α : Type} {x : Res α} {p : α → Bool} (h : okAnd x p = true) :
    ∃ a, x = .ok a ∧ p a = true := by
  cases x with
  | ok a => exact ⟨a, rfl, h⟩
  | err e => cases h
  | panic s => cases h

def pr0 : Progress := { matched := 0, nextIdx := 1, recentActive := true }

/-- leader 1 of {1,2,3} at term 2, empty log: every peer is trivially caught up -/
def exLeader : Raft :=
  { raftLog := default, id := 1, term := 2, state := .leader, leaderId := 1, promotable := true,
    electionTimeout := 10, heartbeatTimeout := 2, maxInflight := 256,
    prs := { progress := [(1, pr0), (2, pr0), (3, pr0)], conf := { incoming := [1, 2, 3] } } }

/-- a log with one persisted entry (index 1, term 2) -/
def exLog : RaftLog :=
  { (default : RaftLog) with
    store := { entries := [{ term := 2, index := 1 }] }, persisted := 1, unstable := { offset := 2 } }

/-- the same leader with one entry, node 2 lagging (matched 0) and a transfer to node 2 pending -/
def exLeaderT : Raft :=
  { exLeader with
    raftLog := exLog, leadTransferee := some 2,
    prs := { progress := [(1, { pr0 with matched := 1, nextIdx := 2 }),
                          (2, { pr0 with state := .replicate, nextIdx := 2 }), (3, pr0)],
             conf := { incoming := [1, 2, 3] } } }

/-- item 1, site `handle_transfer_leader`: the step succeeds and the second disjunct of
`C17_timeout_now_only_when_caught_up` is the one that holds (a `MsgTimeoutNow` to node 2). -/
example : ∃ r' e, exLeader.step { msgType := .msgTransferLeader, frm := 2 } = .ok (r', e) ∧
    tnOf r'.msgs = tnOf exLeader.msgs ++ [timeoutNowMsg exLeader 2] := by
  obtain ⟨a, h1, h2⟩ := okAnd_elim (x := exLeader.step { msgType := .msgTransferLeader, frm := 2 })
    (p := fun x => tnOf x.1.msgs == tnOf exLeader.msgs ++ [timeoutNowMsg exLeader 2]) (by decide +kernel)
  exact ⟨a.1, a.2, h1, by simpa using h2⟩

/-- item 1, site `handle_append_response`: node 2, the pending transferee, acknowledges index 1 =
`last_index`; the leader commits, sends the new commit index and then `MsgTimeoutNow`. -/
example : ∃ r' e, exLeaderT.step { msgType := .msgAppendResponse, frm := 2, index := 1, term := 2 }
      = .ok (r', e) ∧ tnOf r'.msgs = tnOf exLeaderT.msgs ++ [timeoutNowMsg exLeaderT 2] := by
  obtain ⟨a, h1, h2⟩ := okAnd_elim
    (x := exLeaderT.step { msgType := .msgAppendResponse, frm := 2, index := 1, term := 2 })
    (p := fun x => tnOf x.1.msgs == tnOf exLeaderT.msgs ++ [timeoutNowMsg exLeaderT 2]) (by decide +kernel)
  exact ⟨a.1, a.2, h1, by simpa using h2⟩

/-- … and while node 2 lags, a transfer request for it is recorded but sends no `MsgTimeoutNow`. -/
example : okAnd ({ exLeaderT with leadTransferee := none }.step { msgType := .msgTransferLeader, frm := 2 })
    (fun x => tnOf x.1.msgs == [] && x.1.leadTransferee == some 2) = true := by
  decide +kernel

/-- item 2: hypotheses of `C17_proposals_refused_while_transferring` -/
example : ∃ (r : Raft) (m : Message), m.msgType = .msgPropose ∧ m.entries ≠ [] ∧
    r.leadTransferee ≠ none ∧ r.state = .leader ∧ m.term = 0 :=
  ⟨exLeaderT, { msgType := .msgPropose, entries := [{ data := [1] }] }, by decide +kernel⟩

/-- item 3: the tenth tick of a leader with a pending transfer drops it; the ninth does not -/
example : okAnd ({ exLeaderT with electionElapsed := 9 } : Raft).tick
    (fun x => x.1.leadTransferee == none) = true ∧
    okAnd ({ exLeaderT with electionElapsed := 8 } : Raft).tick
    (fun x => x.1.leadTransferee == some 2) = true := by decide +kernel

/-- item 3, counting corollary: hypotheses satisfied with `n = election_timeout = 10` -/
example : exLeaderT.state = .leader ∧ 0 < 10 ∧
    exLeaderT.electionTimeout ≤ exLeaderT.electionElapsed + 10 ∧
    okAnd (ticks 10 exLeaderT) (fun r => r.leadTransferee == none) = true := by decide +kernel

/-- item 4: a learner (4), an unknown node (9) and the pending target (2) are ignored; the leader
itself (1) cancels; another voter (3) replaces the pending target -/
def exLeaderL : Raft :=
  { exLeaderT with
    prs := { progress := exLeaderT.prs.progress ++ [(4, pr0)],
             conf := { incoming := [1, 2, 3], learners := [4] } } }

example : exLeaderL.prs.get 9 = none ∧ exLeaderL.prs.conf.learners.contains 4 = true ∧
    exLeaderL.leadTransferee = some 2 := by decide +kernel

example : exLeaderL.handleTransferLeader { msgType := .msgTransferLeader, frm := 1 } =
    .ok { exLeaderL with leadTransferee := none } := by decide +kernel

example : okAnd (exLeaderL.handleTransferLeader { msgType := .msgTransferLeader, frm := 3 })
    (fun r => r.leadTransferee == some 3 && r.electionElapsed == 0) = true := by decide +kernel

/-- item 6: leader 1 of the new configuration {1,3,4}; the pending target 2 has just been removed -/
def exLeaderC : Raft :=
  { exLeader with
    leadTransferee := some 2,
    prs := { progress := [(1, pr0), (3, pr0), (4, pr0)], conf := { incoming := [1, 3, 4] } } }

example : exLeaderC.state = .leader ∧ Joint.contains exLeaderC.prs.voters exLeaderC.id = true ∧
    exLeaderC.prs.conf.incoming ≠ [] ∧ exLeaderC.leadTransferee = some 2 ∧
    Joint.contains exLeaderC.prs.voters 2 = false ∧
    okAnd exLeaderC.postConfChange (fun x => x.1.leadTransferee == none) = true := by decide +kernel

/-- item 6, the leader itself removed: hypotheses of `C17_removed_leader_steps_down` -/
example : ∃ r : Raft, r.state = .leader ∧ Joint.contains r.prs.voters r.id = false ∧
    r.leadTransferee ≠ none :=
  ⟨{ exLeaderC with prs := { exLeaderC.prs with conf := { incoming := [3, 4] } } }, by decide +kernel⟩

/-- item 7: follower 2 of {1,2,3} with `pre_vote` ON satisfies every hypothesis of
`C17_timeout_now_forces_campaign` (with `c = ct = lt = 0`), and indeed becomes a candidate at term 3
with two real vote requests carrying the transfer context -/
def exFollower : Raft := { exLeader with id := 2, state := .follower, preVote := true }

example : exFollower.promotable = true ∧ exFollower.state ≠ .leader ∧ exFollower.term < U64_MAX ∧
    exFollower.hasUnappliedConfChanges exFollower.hupScanLow (exFollower.raftLog.committed + 1)
      = .ok false ∧
    ¬ (exFollower.raftLog.persisted < exFollower.raftLog.lastIndex ∧
        exFollower.prs.hasQuorum [exFollower.id] = true) ∧
    (Tracker.tallyVotes exFollower.prs.voters [(exFollower.id, true)]).2.2 = .pending ∧
    exFollower.raftLog.commitInfo = .ok (0, 0) ∧ exFollower.raftLog.lastTerm = .ok 0 ∧
    exFollower.preVote = true := by decide +kernel

example : okAnd (exFollower.stepFollower { msgType := .msgTimeoutNow, frm := 1, term := 2 })
    (fun x => x.1.state == .candidate && x.1.term == 3 && x.1.vote == 2 &&
      x.1.msgs.map (fun q => (q.msgType, q.to, q.term, q.context)) ==
        [(.msgRequestVote, 1, 3, campaignTransfer), (.msgRequestVote, 3, 3, campaignTransfer)]) = true := by
  decide +kernel

/-- lease bypass: a leader with `check_quorum` and a fresh lease still yields to the transfer vote -/
example : ∃ (r : Raft) (m : Message), m.msgType = .msgRequestVote ∧ m.context = campaignTransfer ∧
    r.term < m.term ∧ r.checkQuorum = true ∧ r.leaderId ≠ 0 ∧ r.electionElapsed < r.electionTimeout :=
  ⟨{ exLeader with checkQuorum := true },
   { msgType := .msgRequestVote, frm := 2, term := 3, context := campaignTransfer }, by decide +kernel⟩

end Examples

end RaftProps.C17
