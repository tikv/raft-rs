import RaftProofs.ClusterCommit6C
import RaftProps.C01d
import RaftProps.C01f

/-!
# C01 / C03 / C04, cluster level, with `batch_append` allowed **and `MsgSnapshot`s queued** (`nosq` of C01f weakened)

`RaftProps/C01f.lean` proves the commit layer of `ClusterSem` with `batch_append` allowed under `Hyp3wB`,
which — compared with C01d's `Hyp3w` — adds `nosq` ("no `MsgSnapshot` is ever *queued*") and `c0 = 0`.
This file states **the same theorems under `Hyp3wK`** (`RaftProofs/ClusterCommitBatchBundles.lean`): the fields of
`Hyp3wB` without the redundant `mv`, and with `nosq` replaced by

    mute : (∀ s ∈ h, NoBatch s) ∨ (∀ s ∈ h, SaneQ s)

where `SaneQ s` says: a node of `s` **that has a `MsgSnapshot` in its queue** (a *mute* node: under `nosnap`
it cannot `send` before it restarts) has no `MsgAppend` with `log_term = 0` at an anchor `≠ 0` in its
queue.  `nosq` makes `SaneQ` vacuous (`C01k_subsumes_C01f`), and **every C01d history with `c0 = 0` is
covered, queued `MsgSnapshot`s or not** (`C01k_subsumes_C01d`, first alternative).

`nosq` in the C01f development removes the alternative "… or a `MsgSnapshot` is queued next to it" that the
cluster invariant `CI` carries (as in C01d), to hand C05d's `SaneAnchors` (which has no such alternative) to the
Log Matching layer with batching.  Here `SaneAnchors` is derived at the nodes that are not mute
(`ClusterCommit6A.lean`: `sane_of_ciK`, `ci_allK`, `Hyp3wQ.toHyp3aB`), and `SaneQ` assumes it at the mute nodes
when somebody batches: at a mute leader whose progress was taken beyond its log by `report_snapshot`
(`C01d_progress_within_log`, first alternative) a `MsgAppend` anchored in the void can be queued and glued by
`try_batching` (harmlessly: the queue never reaches the transport).  `RaftProps/C01l.lean` shows that `SaneQ` is
not derivable, `RaftProps/C01m.lean` proves the theorems without it, over a Log Matching invariant that skips the
queues of mute nodes — see `RaftProps/C01k.REPORT.md`.  `c0 = 0` is kept.
-/
namespace RaftProps.C01k
open RaftModel RaftModel.Cluster RaftModel.ClusterB RaftModel.Node RaftModel.Raft RaftModel.Raft.CC
  RaftModel.Raft.CP

/-- **C01f is a special case**: `nosq` makes `SaneQ` vacuous -/
theorem C01k_subsumes_C01f {cfg : JointConfig} {c0 : Nat} {h : List Sys} (H : Hyp3wB cfg c0 h) :
    Hyp3wK cfg c0 h := Hyp3wK.of_hyp3wB H

/-- **C01d with `c0 = 0` is a special case** — *every* history under C01d's `Hyp3w` whose nodes start
without a snapshot point, with no assumption about queued `MsgSnapshot`s (C01f's `Hyp3w.toHyp3wB` needed
`nosq`) -/
theorem C01k_subsumes_C01d {cfg : JointConfig} {h : List Sys} (H : Hyp3w cfg 0 h) :
    Hyp3wK cfg 0 h := Hyp3wK.of_hyp3w H

/-- … and with batching: C01d's bundle without `NoBatch` (`Hyp3wQ`: the fields of `Hyp3wB` with `nosq`
replaced by `SaneQ` in every state) -/
theorem C01k_of_saneQ {cfg : JointConfig} {c0 : Nat} {h : List Sys} (H : Hyp3wQ cfg c0 h) :
    Hyp3wK cfg c0 h := Hyp3wK.of_hyp3wQ H

/-- a history under `Hyp3wK` is a history of C01d (nobody batches) or one under `Hyp3wQ` -/
theorem C01k_cases {cfg : JointConfig} {c0 : Nat} {h : List Sys} (H : Hyp3wK cfg c0 h) :
    Hyp3w cfg c0 h ∨ Hyp3wQ cfg c0 h := H.cases

/-- **the gap `anch`, with batching and queued `MsgSnapshot`s**: every `MsgAppend` in the transport
is anchored inside its sender's log — and so is every queued one unless a `MsgSnapshot` is queued with
it (the statement of `C01d_appends_anchored`). -/
theorem C01k_appends_anchored (cfg : JointConfig) (c0 : Nat) (h : List Sys) (H : Hyp3wK cfg c0 h)
    (n : Nat) (s : Sys) (hn : h[n]? = some s) :
    (∀ x ∈ s.net, x.msgType = .msgAppend → x.logTerm ≠ 0 ∨ x.index ≤ c0) ∧
    (∀ i st, s.node i = some st → ∀ x ∈ st.raft.msgs, x.msgType = .msgAppend →
      (∃ y ∈ st.raft.msgs, y.msgType = .msgSnapshot) ∨ x.logTerm ≠ 0 ∨ x.index ≤ c0) := by
  have hci := (M.ci_allK H.toM n s hn).1
  exact ⟨hci.na, hci.qa⟩

/-- **C05d's `SaneAnchors`, derived wherever it is not assumed**: no `MsgAppend` in the transport is
anchored in the void, and none queued at a node that has no `MsgSnapshot` queued. -/
theorem C01k_sane_anchors (cfg : JointConfig) (c0 : Nat) (h : List Sys) (H : Hyp3wK cfg c0 h)
    (n : Nat) (s : Sys) (hn : h[n]? = some s) :
    (∀ x ∈ s.net, x.msgType = .msgAppend → x.logTerm = 0 → x.index = 0) ∧
    (∀ i st, s.node i = some st → (∀ y ∈ st.raft.msgs, y.msgType ≠ .msgSnapshot) →
      ∀ x ∈ st.raft.msgs, x.msgType = .msgAppend → x.logTerm = 0 → x.index = 0) := by
  obtain ⟨h1, h2⟩ := C01k_appends_anchored cfg c0 h H n s hn
  have hz := H.c0z
  refine ⟨fun x hx hty hz => ?_, fun i st hi hns x hx hty hz => ?_⟩
  · rcases h1 x hx hty with c | c
    · exact absurd hz c
    · omega
  · rcases h2 i st hi x hx hty with ⟨y, hy, hys⟩ | c | c
    · exact absurd hys (hns y hy)
    · exact absurd hz c
    · omega

/-- … hence every theorem of `RaftProps/C05d.lean` (Log Matching with batching) applies: `BatchOk`
(first alternative if nobody batches; otherwise `SaneAnchors` holds in every state — derived at the
nodes without a queued `MsgSnapshot`, `SaneQ` at the others). -/
theorem C01k_batchOk (cfg : JointConfig) (c0 : Nat) (h : List Sys) (H : Hyp3wK cfg c0 h) :
    RaftProps.C05.BatchOk cfg h := by
  rcases H.cases with Hd | Hq
  · exact .inl Hd.nb
  · exact .inr ⟨Hq.mv, Hq.toHyp3aB.sane⟩

/-- **the clean-queue invariant of the commit layer** (`C01f_leader_queue_clean`) under `Hyp3wQ` -/
theorem C01k_leader_queue_clean (cfg : JointConfig) (c0 : Nat) (h : List Sys) (H : Hyp3wQ cfg c0 h)
    (n : Nat) (s : Sys) (hn : h[n]? = some s) (i : Nat) (st : NState) (hi : s.node i = some st)
    (hl : st.raft.state = .leader) (x : Message) (hx : x ∈ st.raft.msgs)
    (hty : x.msgType = .msgAppend) :
    x.term = st.raft.term ∧ x.frm = i ∧ st.raft.raftLog.term x.index = .ok x.logTerm ∧
    ContigFrom (x.index + 1) x.entries ∧ Sub (msgLog x) st.raft.raftLog.abs :=
  leader_queue_all H hn hi hl hx hty

end RaftProps.C01k

namespace RaftModel.ClusterB
open RaftModel RaftModel.Cluster RaftModel.Node RaftModel.Raft RaftModel.Raft.CC RaftProps.C01f

/-! ## the theorems under `Hyp3wK` -/

/-- **C04 `cluster_leader_commit_rule`** — the commit rule with **durable acknowledgements**: whenever
a step `h[n] → h[n+1]` takes the commit index of a node `l` that is leader of term `t` after the step
from `c` to `c' > c`, the entry at `c'` in its log carries term `t`, and there is a joint quorum `Q` of
`cfg` such that every `j ∈ Q` is

* `l` itself, with `persisted ≥ c'` — and its storage holds its log up to `c'`; or
* the sender of an accepting `MsgAppendResponse` `x` for term `t` with `index ≥ c'` that is in the
  transport before the step, **and in every state of the history whose transport holds `x` — from the
  moment `x` entered the transport on — the storage of `j` holds `l`'s log up to `c'`**. -/
theorem _root_.RaftProps.C01k.C04_cluster_leader_commit_rule (cfg : JointConfig) (c0 : Nat) (h : List Sys)
    (H : Hyp3wK cfg c0 h)
    (n : Nat) (a b : Sys) (ha : h[n]? = some a) (hb : h[n + 1]? = some b)
    (l : Nat) (sta stb : NState) (hla : a.node l = some sta) (hlb : b.node l = some stb)
    (t : Nat) (hs : stb.raft.state = .leader) (ht : stb.raft.term = t)
    (hc : sta.raft.raftLog.committed < stb.raft.raftLog.committed) :
    stb.raft.raftLog.term stb.raft.raftLog.committed = .ok t ∧
    ∃ Q, IsJointQuorum cfg Q ∧ ∀ j ∈ Q,
      (j = l ∧ stb.raft.raftLog.committed ≤ stb.raft.raftLog.persisted ∧
        ∀ k, k ≤ stb.raft.raftLog.committed →
          (storeLog stb.raft.raftLog.store).entryAt k = stb.raft.raftLog.abs.entryAt k) ∨
      ∃ x ∈ a.net, x.msgType = .msgAppendResponse ∧ x.reject = false ∧ x.frm = j ∧ x.term = t ∧
        stb.raft.raftLog.committed ≤ x.index ∧
        ∀ (m : Nat) (s : Sys) (stj : NState), h[m]? = some s → x ∈ s.net → s.node j = some stj →
          ∀ k, k ≤ stb.raft.raftLog.committed →
            (storeLog stj.raft.raftLog.store).entryAt k = stb.raft.raftLog.abs.entryAt k :=
  M.leader_commit_rule cfg c0 h H.toM n a b ha hb l sta stb hla hlb t hs ht hc

/-- **C03 `cluster_leader_completeness`** — every entry a leader has committed is in the log of every
leader of a later term: if a step `h[n] → h[n+1]` takes the commit index of `l`, leader of term `t`
after the step, to `c'`, then any node that leads a term `t' > t` in any state `h[m]` of the history
holds, at every index up to `c'`, the entry `l` held there. -/
theorem _root_.RaftProps.C01k.C03_cluster_leader_completeness (cfg : JointConfig) (c0 : Nat) (h : List Sys)
    (H : Hyp3wK cfg c0 h)
    (n : Nat) (a b : Sys) (ha : h[n]? = some a) (hb : h[n + 1]? = some b)
    (l : Nat) (sta stb : NState) (hla : a.node l = some sta) (hlb : b.node l = some stb)
    (hs : stb.raft.state = .leader)
    (hc : sta.raft.raftLog.committed < stb.raft.raftLog.committed)
    (m : Nat) (s : Sys) (hm : h[m]? = some s) (l' : Nat) (st' : NState)
    (hl' : s.node l' = some st') (hs' : st'.raft.state = .leader)
    (ht : stb.raft.term < st'.raft.term) :
    ∀ k, k ≤ stb.raft.raftLog.committed →
      st'.raft.raftLog.abs.entryAt k = stb.raft.raftLog.abs.entryAt k :=
  M.leader_completeness cfg c0 h H.toM n a b ha hb l sta stb hla hlb hs hc m s hm l' st' hl' hs' ht

/-- **C04 `cluster_follower_commit_sound`** — *every* commit index is sound: in every state `h[m]`,
what a node `v` has marked committed is at most the common snapshot point `c0`, or it was committed by
a leader: there is an earlier step `h[n] → h[n+1]` (`n < m`) that took the commit index of a node `l`,
leader of a term `t ≤ term(v)` after the step, to some `c' ≥ committed(v)`, and the log of `v` equals
the log `l` had then up to `committed(v)`. -/
theorem _root_.RaftProps.C01k.C04_cluster_follower_commit_sound (cfg : JointConfig) (c0 : Nat) (h : List Sys)
    (H : Hyp3wK cfg c0 h) (m : Nat) (s : Sys) (hm : h[m]? = some s) (v : Nat) (st : NState)
    (hv : s.node v = some st) :
    st.raft.raftLog.committed ≤ c0 ∨
    ∃ (n : Nat) (a b : Sys) (l : Nat) (sta stb : NState), n < m ∧ h[n]? = some a ∧
      h[n + 1]? = some b ∧ a.node l = some sta ∧ b.node l = some stb ∧
      stb.raft.state = .leader ∧ sta.raft.raftLog.committed < stb.raft.raftLog.committed ∧
      st.raft.raftLog.committed ≤ stb.raft.raftLog.committed ∧ stb.raft.term ≤ st.raft.term ∧
      ∀ k, k ≤ st.raft.raftLog.committed →
        st.raft.raftLog.abs.entryAt k = stb.raft.raftLog.abs.entryAt k :=
  M.follower_commit_sound cfg c0 h H.toM m s hm v st hv

/-- … and so is every **stored** commit index (what a restarted node starts from): it is not ahead of
the commit index, and it is covered by a leader's commit of a term not above the stored term, with the
stored entries. -/
theorem _root_.RaftProps.C01k.C04_cluster_stored_commit_sound (cfg : JointConfig) (c0 : Nat) (h : List Sys)
    (H : Hyp3wK cfg c0 h) (m : Nat) (s : Sys) (hm : h[m]? = some s) (v : Nat) (st : NState)
    (hv : s.node v = some st) :
    st.raft.raftLog.store.hardState.commit ≤ st.raft.raftLog.committed ∧
    (st.raft.raftLog.store.hardState.commit ≤ c0 ∨
     ∃ (n : Nat) (a b : Sys) (l : Nat) (sta stb : NState), n < m ∧ h[n]? = some a ∧
      h[n + 1]? = some b ∧ a.node l = some sta ∧ b.node l = some stb ∧
      stb.raft.state = .leader ∧ sta.raft.raftLog.committed < stb.raft.raftLog.committed ∧
      st.raft.raftLog.store.hardState.commit ≤ stb.raft.raftLog.committed ∧
      stb.raft.term ≤ st.raft.raftLog.store.hardState.term ∧
      ∀ k, k ≤ st.raft.raftLog.store.hardState.commit →
        (storeLog st.raft.raftLog.store).entryAt k = stb.raft.raftLog.abs.entryAt k) :=
  M.stored_commit_sound cfg c0 h H.toM m s hm v st hv

/-- **C01 `cluster_state_machine_safety`** — any two nodes, in any two states of the history (the same
node before and after a restart included), hold the same entry at every index both have marked
committed. -/
theorem _root_.RaftProps.C01k.C01_cluster_state_machine_safety (cfg : JointConfig) (c0 : Nat) (h : List Sys)
    (H : Hyp3wK cfg c0 h)
    (m1 : Nat) (s1 : Sys) (hm1 : h[m1]? = some s1) (v1 : Nat) (st1 : NState)
    (hv1 : s1.node v1 = some st1)
    (m2 : Nat) (s2 : Sys) (hm2 : h[m2]? = some s2) (v2 : Nat) (st2 : NState)
    (hv2 : s2.node v2 = some st2)
    (k : Nat) (hk1 : k ≤ st1.raft.raftLog.committed) (hk2 : k ≤ st2.raft.raftLog.committed) :
    st1.raft.raftLog.abs.entryAt k = st2.raft.raftLog.abs.entryAt k :=
  M.state_machine_safety cfg c0 h H.toM m1 s1 hm1 v1 st1 hv1 m2 s2 hm2 v2 st2 hv2 k hk1 hk2

/-- … in particular for the **applied** entries of two nodes whose applied index is within their
commit index (`AppliedOk`, which holds outside the restart window — `raft_log.rs:44-46`). -/
theorem _root_.RaftProps.C01k.C01_cluster_state_machine_safety_applied (cfg : JointConfig) (c0 : Nat)
    (h : List Sys) (H : Hyp3wK cfg c0 h)
    (m1 : Nat) (s1 : Sys) (hm1 : h[m1]? = some s1) (v1 : Nat) (st1 : NState)
    (hv1 : s1.node v1 = some st1) (ha1 : st1.raft.raftLog.AppliedOk)
    (m2 : Nat) (s2 : Sys) (hm2 : h[m2]? = some s2) (v2 : Nat) (st2 : NState)
    (hv2 : s2.node v2 = some st2) (ha2 : st2.raft.raftLog.AppliedOk)
    (k : Nat) (hk1 : k ≤ st1.raft.raftLog.applied) (hk2 : k ≤ st2.raft.raftLog.applied) :
    st1.raft.raftLog.abs.entryAt k = st2.raft.raftLog.abs.entryAt k :=
  RaftProps.C01k.C01_cluster_state_machine_safety cfg c0 h H m1 s1 hm1 v1 st1 hv1 m2 s2 hm2 v2 st2 hv2
    k (Nat.le_trans hk1 ha1) (Nat.le_trans hk2 ha2)

/-! ## Non-vacuity -/

section Examples
open RaftProps.C02 RaftProps.C05

/-- **non-vacuity with batching on** (the history of `C01f_cluster_batch_nonvacuous`, through
`C01k_subsumes_C01f`): a history under `Hyp3wK` and not `NoBatch` in which `try_batching` really merges and
the acknowledgement of the batched message takes the leader's commit index from 1 to 3. -/
theorem _root_.RaftProps.C01k.C01k_cluster_batch_nonvacuous :
    ∃ h : List Sys, Hyp3wK c02x_cfg 0 h ∧ ¬ (∀ s ∈ h, NoBatch s) ∧
      (∃ (n : Nat) (a b : Sys) (sta stb : NState) (y x : Message) (es : List Entry) (c : Nat),
        h[n]? = some a ∧ h[n + 1]? = some b ∧ a.node 1 = some sta ∧ b.node 1 = some stb ∧
        y ∈ sta.raft.msgs ∧ x ∈ stb.raft.msgs ∧ y.msgType = .msgAppend ∧ es ≠ [] ∧
        x = { y with entries := y.entries ++ es, commit := c }) ∧
      ∃ (n : Nat) (a b : Sys) (sta stb : NState),
        h[n]? = some a ∧ h[n + 1]? = some b ∧ a.node 1 = some sta ∧ b.node 1 = some stb ∧
        stb.raft.state = .leader ∧ stb.raft.batchAppend = true ∧
        sta.raft.raftLog.committed = 1 ∧ stb.raft.raftLog.committed = 3 := by
  obtain ⟨h, H, r⟩ := RaftProps.C01f.C01f_cluster_batch_nonvacuous
  exact ⟨h, RaftProps.C01k.C01k_subsumes_C01f H, r⟩

/-- **non-vacuity with a `MsgSnapshot` really queued** (the history of `C01d_snapshot_state_reachable`,
through `C01k_subsumes_C01d`): a history under `Hyp3wK` — and *not* under C01f's `Hyp3wB` — whose last state
has a leader with a progress in the `Snapshot` state and a `MsgSnapshot` in its queue. -/
theorem _root_.RaftProps.C01k.C01k_queued_snapshot_nonvacuous :
    ∃ h : List Sys, Hyp3wK c02x_cfg 0 h ∧ ¬ Hyp3wB c02x_cfg 0 h ∧
      ∃ (n : Nat) (s : Sys) (st : NState) (pr : Progress) (y : Message),
        h[n]? = some s ∧ s.node 1 = some st ∧ st.raft.state = .leader ∧
        st.raft.prs.get 2 = some pr ∧ pr.state = .snapshot ∧
        y ∈ st.raft.msgs ∧ y.msgType = .msgSnapshot := by
  obtain ⟨h, H, n, s, st, pr, y, hn, hi, hl, hp, hps, hy, hyt⟩ :=
    RaftProps.C01d.C01d_snapshot_state_reachable
  refine ⟨h, RaftProps.C01k.C01k_subsumes_C01d H, fun HB => ?_, n, s, st, pr, y, hn, hi, hl, hp, hps,
    hy, hyt⟩
  exact HB.nosq s (mem_of_get hn) 1 st hi y hy hyt

/-- **non-vacuity of the second alternative with a `MsgSnapshot` really queued**
(`RaftProofs/ClusterCommit6C.lean`, kernel-evaluated): a history under `Hyp3wQ` — hence `Hyp3wK` — that is
neither under C01f's `Hyp3wB` nor `NoBatch`: in its last state node 1 is leader with `batch_append = true`,
a progress in the `Snapshot` state and a `MsgSnapshot` in its queue. -/
theorem _root_.RaftProps.C01k.C01k_batching_queued_snapshot_nonvacuous :
    ∃ h : List Sys, Hyp3wQ c02x_cfg 0 h ∧ Hyp3wK c02x_cfg 0 h ∧ ¬ Hyp3wB c02x_cfg 0 h ∧
      ¬ (∀ s ∈ h, NoBatch s) ∧
      ∃ (n : Nat) (s : Sys) (st : NState) (pr : Progress) (y : Message),
        h[n]? = some s ∧ s.node 1 = some st ∧ st.raft.state = .leader ∧
        st.raft.batchAppend = true ∧ st.raft.prs.get 2 = some pr ∧ pr.state = .snapshot ∧
        y ∈ st.raft.msgs ∧ y.msgType = .msgSnapshot := by
  have hmem : c01k_s30 ∈ c01k_hist := by simp [c01k_hist, c01k_tail]
  obtain ⟨-, hne, hl, hb, hp, hps, hty⟩ := c01k_eval
  have hy : c01k_a15.raft.msgs.head! ∈ c01k_a15.raft.msgs := c02x_head_mem _ hne
  refine ⟨c01k_hist, c01k_hyp3wQ, RaftProps.C01k.C01k_of_saneQ c01k_hyp3wQ, fun HB => ?_, fun hnb => ?_,
    30, c01k_s30, c01k_a15, (c01k_a15.raft.prs.get 2).get!, c01k_a15.raft.msgs.head!, rfl, rfl,
    hl, hb, hp, hps, hy, hty⟩
  · exact HB.nosq c01k_s30 hmem 1 c01k_a15 rfl _ hy hty
  · have := hnb c01k_s30 hmem 1 c01k_a15 rfl
    rw [hb] at this; cases this

/-- State-Machine Safety applies to that history -/
example (m1 : Nat) (s1 : Sys) (hm1 : c01k_hist[m1]? = some s1) (v1 : Nat) (st1 : NState)
    (hv1 : s1.node v1 = some st1) (m2 : Nat) (s2 : Sys) (hm2 : c01k_hist[m2]? = some s2) (v2 : Nat)
    (st2 : NState) (hv2 : s2.node v2 = some st2) (k : Nat)
    (hk1 : k ≤ st1.raft.raftLog.committed) (hk2 : k ≤ st2.raft.raftLog.committed) :
    st1.raft.raftLog.abs.entryAt k = st2.raft.raftLog.abs.entryAt k :=
  RaftProps.C01k.C01_cluster_state_machine_safety c02x_cfg 0 c01k_hist
    (RaftProps.C01k.C01k_of_saneQ c01k_hyp3wQ) m1 s1 hm1 v1 st1 hv1 m2 s2 hm2 v2 st2 hv2 k hk1 hk2

end Examples

end RaftModel.ClusterB
