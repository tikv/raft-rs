import RaftProofs.RaftNodeC02

/-!
# C16 — PreVote + CheckQuorum: a node that cannot win does not disrupt the cluster

Node-local theorems on the executable model of `src/raft.rs` (`RaftModel.Raft*`, tied to the code by
the free-running correspondence `rvh raftnode` ⇄ `rvm`).  They hold for ALL states and ALL messages
unless a hypothesis is named.
-/
namespace RaftProps.C16
open RaftModel RaftModel.Raft

/-! ### role changes: what `reset`, `become_*` do to the frame -/

theorem reset_proj (r : Raft) (t : Nat) :
    (r.reset t).state = r.state ∧ (r.reset t).leaderId = 0 ∧ (r.reset t).id = r.id ∧
    (r.reset t).checkQuorum = r.checkQuorum ∧ (r.reset t).preVote = r.preVote := by
  rw [reset_eq]; exact ⟨rfl, rfl, rfl, rfl, rfl⟩

theorem becomeFollower_proj (r : Raft) (t l : Nat) :
    (r.becomeFollower t l).state = .follower ∧ (r.becomeFollower t l).leaderId = l ∧
    (r.becomeFollower t l).id = r.id ∧ (r.becomeFollower t l).checkQuorum = r.checkQuorum ∧
    (r.becomeFollower t l).preVote = r.preVote := by
  obtain ⟨_, _, h3, h4, h5⟩ := reset_proj r t
  unfold Raft.becomeFollower
  exact ⟨rfl, rfl, h3, h4, h5⟩

/-- a (pre-)candidate gave up its campaign at the same term (`become_follower(self.term, INVALID_ID)`):
term and vote are kept -/
structure Stepdown (r r' : Raft) : Prop where
  role : r.state = .candidate ∨ r.state = .preCandidate
  term : r'.term = r.term
  vote : r'.vote = r.vote
  state : r'.state = .follower
  leaderId : r'.leaderId = 0
  id : r'.id = r.id
  checkQuorum : r'.checkQuorum = r.checkQuorum
  preVote : r'.preVote = r.preVote

theorem Stepdown.of_frame {a r r' : Raft} (h0 : Frame a r) (h : Stepdown r r') : Stepdown a r' :=
  ⟨by rw [← h0.state]; exact h.role, h.term.trans h0.term, h.vote.trans h0.vote, h.state, h.leaderId,
   h.id.trans h0.id, h.checkQuorum.trans h0.checkQuorum, h.preVote.trans h0.preVote⟩

theorem stepdown_becomeFollower (r : Raft) (hs : r.state = .candidate ∨ r.state = .preCandidate) :
    Stepdown r (r.becomeFollower r.term 0) := by
  obtain ⟨h1, h2, h3, h4, h5⟩ := becomeFollower_proj r r.term 0
  obtain ⟨h6, h7⟩ := becomeFollower_same_term r 0
  exact ⟨hs, h6, h7, h1, h2, h3, h4, h5⟩

/-- `maybe_commit_by_vote` (raft.rs:2248): either the frame is kept, or a (pre-)candidate that learnt
of a committed-but-unapplied configuration change steps down at the same term -/
theorem maybeCommitByVote_cases {a r r' : Raft} {m : Message} (h : r.maybeCommitByVote m = .ok r')
    (h0 : Frame a r) : Frame a r' ∨ Stepdown a r' := by
  cases maybeCommitByVote_inv h with
  | ignored => exact .inl h0
  | committed => exact .inl (Frame.mk' h0)
  | steppedDown hr =>
    exact .inr (Stepdown.of_frame (Frame.mk' h0) (stepdown_becomeFollower _ hr))

/-- a leader is never touched by `maybe_commit_by_vote` -/
theorem maybeCommitByVote_leader {r r' : Raft} {m : Message} (hs : r.state = .leader)
    (h : r.maybeCommitByVote m = .ok r') : r' = r := by
  cases maybeCommitByVote_inv h with
  | ignored => rfl
  | committed hl => exact absurd hs hl
  | steppedDown hr => rw [hs] at hr; rcases hr with c | c <;> cases c

/-! ### the term preamble of `step` -/

/-- The term preamble of `step` (raft.rs:1352-1482) changes the frame in exactly one way:
`become_follower(m.term, _)` on a higher-term message that is neither a vote request ignored under
the lease, nor a pre-vote request, nor a granted pre-vote response. -/
theorem stepTerm_cases {r r1 : Raft} {m : Message} {b : Bool} (h : r.stepTerm m = .ok (r1, b)) :
    Frame r r1 ∨
    (r.term < m.term ∧ m.msgType ≠ .msgRequestPreVote ∧
      ¬ (m.msgType = .msgRequestPreVoteResponse ∧ m.reject = false) ∧
      ¬ ((m.msgType = .msgRequestVote ∨ m.msgType = .msgRequestPreVote) ∧
          m.context ≠ campaignTransfer ∧
          (r.checkQuorum = true ∧ r.leaderId ≠ 0 ∧ r.electionElapsed < r.electionTimeout)) ∧
      b = true ∧ ∃ l, r1 = r.becomeFollower m.term l) := by
  cases stepTerm_inv h with
  | zero | leased | prevote | stale | same => exact Or.inl Frame.rfl
  | follow l _ hgt hl hpv _ =>
    exact Or.inr ⟨hgt, fun e => hpv (Or.inl e), fun e => hpv (Or.inr ⟨e.1, by simp [e.2]⟩), hl, rfl, l, rfl⟩
  | staleAck _ _ _ hs | staleReject _ _ _ hs => exact Or.inl (send_frame hs Frame.rfl)

/-- a message that is not from a higher term never changes the frame in the preamble -/
theorem stepTerm_frame_of_not_higher {r r1 : Raft} {m : Message} {b : Bool}
    (hle : ¬ r.term < m.term) (h : r.stepTerm m = .ok (r1, b)) : Frame r r1 := by
  rcases stepTerm_cases h with h1 | h1
  · exact h1
  · exact absurd h1.1 hle

/-- a pre-vote request never changes the frame in the preamble, whatever its term -/
theorem stepTerm_frame_of_prevote {r r1 : Raft} {m : Message} {b : Bool}
    (hm : m.msgType = .msgRequestPreVote) (h : r.stepTerm m = .ok (r1, b)) : Frame r r1 := by
  rcases stepTerm_cases h with h1 | h1
  · exact h1
  · exact absurd hm h1.2.1

/-! ### the vote arm of `step` -/

/-- what handling a (pre-)vote request can do to term, role and known leader: nothing, or a
(pre-)candidate steps down at the same term (only through `maybe_commit_by_vote`) -/
structure VoteOutcome (r r' : Raft) : Prop where
  term : r'.term = r.term
  id : r'.id = r.id
  checkQuorum : r'.checkQuorum = r.checkQuorum
  preVote : r'.preVote = r.preVote
  role : (r'.state = r.state ∧ r'.leaderId = r.leaderId) ∨
    ((r.state = .candidate ∨ r.state = .preCandidate) ∧ r'.state = .follower ∧ r'.leaderId = 0)

theorem VoteOutcome.of_frame {r r' : Raft} (h : Frame r r') : VoteOutcome r r' :=
  ⟨h.term, h.id, h.checkQuorum, h.preVote, Or.inl ⟨h.state, h.leaderId⟩⟩

theorem VoteOutcome.of_stepdown {r r' : Raft} (h : Stepdown r r') : VoteOutcome r r' :=
  ⟨h.term, h.id, h.checkQuorum, h.preVote, Or.inr ⟨h.role, h.state, h.leaderId⟩⟩

/-- The `MsgRequestVote | MsgRequestPreVote` arm (raft.rs:1489-1533) never changes the term; the
role changes only when a (pre-)candidate steps down at the same term; the vote changes only by
granting a real vote. -/
theorem stepVote_outcome {r r' : Raft} {m : Message} (h : r.stepVote m = .ok r') :
    VoteOutcome r r' ∧ (r'.vote = r.vote ∨ (m.msgType = .msgRequestVote ∧ r'.vote = m.frm)) := by
  cases stepVote_inv h with
  | granted _ _ hs =>
    have h1 : Frame r _ := send_frame hs Frame.rfl
    split
    · rename_i hv
      exact ⟨⟨h1.term, h1.id, h1.checkQuorum, h1.preVote, Or.inl ⟨h1.state, h1.leaderId⟩⟩,
        Or.inr ⟨hv, rfl⟩⟩
    · exact ⟨VoteOutcome.of_frame h1, Or.inl h1.vote⟩
  | refused _ _ _ hs hb =>
    have h1 : Frame r _ := send_frame hs Frame.rfl
    split at hb
    · rcases maybeCommitByVote_cases hb h1 with h2 | h2
      · exact ⟨VoteOutcome.of_frame h2, Or.inl h2.vote⟩
      · exact ⟨VoteOutcome.of_stepdown h2, Or.inl h2.vote⟩
    · cases hb; exact ⟨VoteOutcome.of_frame h1, Or.inl h1.vote⟩

/-- a leader handling a (pre-)vote request stays leader -/
theorem stepVote_leader {r r' : Raft} {m : Message} (hs : r.state = .leader)
    (h : r.stepVote m = .ok r') : r'.state = .leader ∧ r'.leaderId = r.leaderId ∧ r'.term = r.term := by
  obtain ⟨h1, _⟩ := stepVote_outcome h
  rcases h1.role with h2 | h2
  · exact ⟨h2.1.trans hs, h2.2, h1.term⟩
  · rw [hs] at h2; rcases h2.1 with h3 | h3 <;> cases h3

/-! ### 1. Handling a pre-vote request -/

/-- **C16 (1) `prevote_request_changes_nothing`.**  "Handling a pre-vote request never changes the
receiver's term or vote" — whatever the state and whatever the request (any term, sender, log
position, with or without the transfer context).  Moreover the role and the known leader do not
change either (in particular a higher-term pre-vote request never causes `become_follower`:
raft.rs:1386-1398), with ONE exception found on the model and confirmed in the code: a *candidate or
pre-candidate* that rejects the request runs `maybe_commit_by_vote` on the commit index carried by
the request (raft.rs:1522-1531, 2248-2278) and, if that fast-forwards its commit index over an
unapplied configuration change, gives up its own campaign (`become_follower(self.term,
INVALID_ID)`): same term, same vote, role `Follower`, no leader.  A leader or a follower never
changes role or leader. -/
theorem C16_prevote_request_changes_nothing (r r' : Raft) (m : Message) (res : Option RaftError)
    (hm : m.msgType = .msgRequestPreVote) (h : r.step m = .ok (r', res)) :
    r'.term = r.term ∧ r'.vote = r.vote ∧
    ((r'.state = r.state ∧ r'.leaderId = r.leaderId) ∨
     ((r.state = .candidate ∨ r.state = .preCandidate) ∧ r'.state = .follower ∧ r'.leaderId = 0)) := by
  cases step_inv h with
  | consumed ht =>
    have h1 := stepTerm_frame_of_prevote hm ht
    exact ⟨h1.term, h1.vote, Or.inl ⟨h1.state, h1.leaderId⟩⟩
  | dispatched ht hd =>
    have h1 := stepTerm_frame_of_prevote hm ht
    obtain ⟨h2, h3⟩ := stepVote_outcome (hd.vote_inv (.inr hm))
    refine ⟨h2.term.trans h1.term, ?_, ?_⟩
    · rcases h3 with h3 | h3
      · exact h3.trans h1.vote
      · rw [hm] at h3; cases h3.1
    · rcases h2.role with h4 | h4
      · exact Or.inl ⟨h4.1.trans h1.state, h4.2.trans h1.leaderId⟩
      · exact Or.inr ⟨by rw [← h1.state]; exact h4.1, h4.2⟩

/-- **C16 (1), leader / follower form.**  A leader that handles any pre-vote request is still the
leader of the same term; a follower is still a follower of the same term with the same leader. -/
theorem C16_prevote_request_keeps_leader_and_follower (r r' : Raft) (m : Message)
    (res : Option RaftError) (hm : m.msgType = .msgRequestPreVote)
    (hs : r.state = .leader ∨ r.state = .follower) (h : r.step m = .ok (r', res)) :
    r'.term = r.term ∧ r'.vote = r.vote ∧ r'.state = r.state ∧ r'.leaderId = r.leaderId := by
  obtain ⟨h1, h2, h3⟩ := C16_prevote_request_changes_nothing r r' m res hm h
  rcases h3 with h3 | h3
  · exact ⟨h1, h2, h3.1, h3.2⟩
  · rcases hs with hs | hs <;> rw [hs] at h3 <;> rcases h3.1 with h4 | h4 <;> cases h4

/-! ### 5./6. The lease -/

/-- **C16 (5) `lease_ignores`.**  With `check_quorum`, a known leader and an unexpired lease
(`election_elapsed < election_timeout`), a higher-term vote or pre-vote request that is not a
leadership transfer leaves the node *exactly* as it was: no term change, no vote, no response
(raft.rs:1356-1384). -/
theorem C16_lease_ignores (r : Raft) (m : Message)
    (hty : m.msgType = .msgRequestVote ∨ m.msgType = .msgRequestPreVote)
    (hterm : r.term < m.term) (hcq : r.checkQuorum = true) (hl : r.leaderId ≠ 0)
    (he : r.electionElapsed < r.electionTimeout) (hctx : m.context ≠ campaignTransfer) :
    r.step m = .ok (r, none) :=
  step_of_consumed (stepTerm_of (.leased (by omega) hterm ⟨hty, hctx, hcq, hl, he⟩))

example : ∃ (r : Raft) (m : Message), (m.msgType = .msgRequestVote ∨ m.msgType = .msgRequestPreVote) ∧
    r.term < m.term ∧ r.checkQuorum = true ∧ r.leaderId ≠ 0 ∧
    r.electionElapsed < r.electionTimeout ∧ m.context ≠ campaignTransfer :=
  ⟨{ raftLog := default, checkQuorum := true, leaderId := 2, electionTimeout := 10, term := 3 },
   { msgType := .msgRequestVote, term := 4, frm := 3 }, by decide +kernel⟩

/-- **C16 (6) `leader_keeps_term_under_lease`.**  "No behaviour of the remaining nodes makes that
leader step down": a leader with `check_quorum` whose lease has not expired
(`election_elapsed < election_timeout`; a leader's `leader_id` is its own id, hypothesis
`r.leaderId ≠ 0`) stays leader of the same term whatever `MsgRequestVote` / `MsgRequestPreVote` it
is sent — any term, any sender, any log position — except an explicitly requested leadership
transfer (`context = CampaignTransfer`). -/
theorem C16_leader_keeps_term_under_lease (r r' : Raft) (m : Message) (res : Option RaftError)
    (hty : m.msgType = .msgRequestVote ∨ m.msgType = .msgRequestPreVote)
    (hs : r.state = .leader) (hcq : r.checkQuorum = true) (hl : r.leaderId ≠ 0)
    (he : r.electionElapsed < r.electionTimeout) (hctx : m.context ≠ campaignTransfer)
    (h : r.step m = .ok (r', res)) :
    r'.term = r.term ∧ r'.state = .leader ∧ r'.leaderId = r.leaderId := by
  by_cases hterm : r.term < m.term
  · rw [C16_lease_ignores r m hty hterm hcq hl he hctx] at h
    cases h; exact ⟨rfl, hs, rfl⟩
  · cases step_inv h with
    | consumed ht =>
      have h1 := stepTerm_frame_of_not_higher hterm ht
      exact ⟨h1.term, h1.state.trans hs, h1.leaderId⟩
    | dispatched ht hd =>
      have h1 := stepTerm_frame_of_not_higher hterm ht
      obtain ⟨h2, h3, h4⟩ := stepVote_leader (h1.state.trans hs) (hd.vote_inv hty)
      exact ⟨h4.trans h1.term, h2, h3.trans h1.leaderId⟩

/-- **C16 (6), member of the majority.**  A follower that heard from its leader within
`election_timeout` (same lease) keeps its term, its vote and its leader whatever higher-term
non-transfer vote or pre-vote request it is sent: this is `C16_lease_ignores`; and a request that is
*not* from a higher term never changes a node's term at all. -/
theorem C16_vote_request_not_higher_keeps_term (r r' : Raft) (m : Message) (res : Option RaftError)
    (hty : m.msgType = .msgRequestVote ∨ m.msgType = .msgRequestPreVote)
    (hterm : ¬ r.term < m.term) (h : r.step m = .ok (r', res)) : r'.term = r.term := by
  cases step_inv h with
  | consumed ht => exact (stepTerm_frame_of_not_higher hterm ht).term
  | dispatched ht hd =>
    exact (stepVote_outcome (hd.vote_inv hty)).1.term.trans (stepTerm_frame_of_not_higher hterm ht).term

/-! ### 7. Check-quorum step-down -/

/-- the local `MsgCheckQuorum` stepped by a leader (raft.rs:2052-2062) -/
theorem step_checkQuorum_leader {r r' : Raft} {frm : Option Nat} (hs : r.state = .leader)
    (h : r.stepIgnore (newMessage 0 .msgCheckQuorum frm) = .ok r') :
    ((r.prs.quorumRecentlyActive r.id).2 = true ∧ Frame r r') ∨
    ((r.prs.quorumRecentlyActive r.id).2 = false ∧ r'.term = r.term ∧ r'.vote = r.vote ∧
      r'.state = .follower ∧ r'.leaderId = 0) := by
  obtain ⟨_, h⟩ := stepIgnore_inv h
  rw [step_leader (stepTerm_same (.inl rfl)) (.of_eq (t := .msgCheckQuorum) rfl) hs] at h
  unfold Raft.stepLeader at h
  simp only [newMessage, Raft.checkQuorumActive] at h
  cases hq : (r.prs.quorumRecentlyActive r.id).2
  · right
    simp only [hq, Bool.not_false, if_true] at h
    cases h
    obtain ⟨h1, h2, _⟩ := becomeFollower_proj
      ({ r with prs := (r.prs.quorumRecentlyActive r.id).1 } : Raft) r.term 0
    obtain ⟨h3, h4⟩ := becomeFollower_same_term
      ({ r with prs := (r.prs.quorumRecentlyActive r.id).1 } : Raft) 0
    exact ⟨rfl, h3, h4, h1, h2⟩
  · left
    simp only [hq, Bool.not_true, Bool.false_eq_true, if_false] at h
    cases h
    exact ⟨rfl, Frame.mk' Frame.rfl⟩

/-- the local `MsgBeat` stepped by a leader only broadcasts heartbeats -/
theorem step_beat_leader {r r' : Raft} {frm : Option Nat} (hs : r.state = .leader)
    (h : r.stepIgnore (newMessage 0 .msgBeat frm) = .ok r') : Frame r r' := by
  obtain ⟨_, h⟩ := stepIgnore_inv h
  rw [step_leader (stepTerm_same (.inl rfl)) (.of_eq (t := .msgBeat) rfl) hs] at h
  unfold Raft.stepLeader at h
  obtain ⟨_, hb, h⟩ := Res.bind_eq_ok h
  cases h
  exact bcastHeartbeat_frame hb Frame.rfl

/-- **C16 (7) `check_quorum_step_down_only_without_quorum`.**  One leader tick (`tick_heartbeat`,
raft.rs:1121-1149) never changes term or vote, and the leader is still leader with the same
`leader_id` afterwards — "while a leader and a majority exchange heartbeats on schedule … [nothing]
makes that leader step down" — unless ALL of the following hold at that tick: `check_quorum` is on,
the election timeout elapsed (`election_elapsed + 1 ≥ election_timeout`), and
`quorum_recently_active` (tracker.rs:336, evaluated by `check_quorum_active` raft.rs:2902 inside the
`MsgCheckQuorum` arm of `step_leader`, raft.rs:2052-2062) is false, i.e. the leader has NOT heard from
a quorum during the last election timeout; then it becomes a follower of the same term without a
leader. -/
theorem C16_check_quorum_step_down_only_without_quorum (r r' : Raft) (b : Bool) (hs : r.state = .leader)
    (h : r.tickHeartbeat = .ok (r', b)) :
    r'.term = r.term ∧ r'.vote = r.vote ∧
    ((r'.state = .leader ∧ r'.leaderId = r.leaderId) ∨
     (r.checkQuorum = true ∧ r.electionTimeout ≤ r.electionElapsed + 1 ∧
      (r.prs.quorumRecentlyActive r.id).2 = false ∧ r'.state = .follower ∧ r'.leaderId = 0)) := by
  obtain ⟨ra, hr, h1, h2⟩ := tickHeartbeat_inv h
  -- phase 1: the election-timeout block (check quorum, abort a stalled transfer)
  have p1 : ra.term = r.term ∧ ra.vote = r.vote ∧
      ((ra.state = .leader ∧ ra.leaderId = r.leaderId) ∨
       (r.checkQuorum = true ∧ r.electionTimeout ≤ r.electionElapsed + 1 ∧
        (r.prs.quorumRecentlyActive r.id).2 = false ∧ ra.state = .follower ∧ ra.leaderId = 0)) := by
    cases h1 with
    | early => exact ⟨rfl, rfl, Or.inl ⟨hs, rfl⟩⟩
    | unchecked _ _ e => subst e; split <;> exact ⟨rfl, rfl, Or.inl ⟨hs, rfl⟩⟩
    | checked hto hcq h5 =>
      rcases step_checkQuorum_leader (by exact hs) h5 with ⟨_, hf⟩ | ⟨hq, e1, e2, e3, e4⟩
      · split <;> exact ⟨hf.term, hf.vote, Or.inl ⟨hf.state.trans hs, hf.leaderId⟩⟩
      · split <;> exact ⟨e1, e2, Or.inr ⟨hcq, hto, hq, e3, e4⟩⟩
  -- phase 2: the heartbeat block
  cases h2 with
  | deposed | quiet => exact p1
  | beat hl _ h5 =>
    have hld : ra.leaderId = r.leaderId := by
      rcases p1.2.2 with p | p
      · exact p.2
      · rw [hl] at p; cases p.2.2.2.1
    have hf := step_beat_leader (by exact hl) h5
    exact ⟨hf.term.trans p1.1, hf.vote.trans p1.2.1, Or.inl ⟨hf.state.trans hl, hf.leaderId.trans hld⟩⟩

/-- **C16 (7), positive form.**  A leader that heard from a quorum (`quorum_recently_active`), or
without `check_quorum`, or before the election timeout, is still the leader of the same term after
its tick. -/
theorem C16_leader_with_active_quorum_survives_tick (r r' : Raft) (b : Bool) (hs : r.state = .leader)
    (hq : r.checkQuorum = false ∨ r.electionElapsed + 1 < r.electionTimeout ∨
          (r.prs.quorumRecentlyActive r.id).2 = true)
    (h : r.tickHeartbeat = .ok (r', b)) :
    r'.term = r.term ∧ r'.vote = r.vote ∧ r'.state = .leader ∧ r'.leaderId = r.leaderId := by
  obtain ⟨h1, h2, h3⟩ := C16_check_quorum_step_down_only_without_quorum r r' b hs h
  rcases h3 with h3 | ⟨c1, c2, c3, _⟩
  · exact ⟨h1, h2, h3.1, h3.2⟩
  · rcases hq with hq | hq | hq
    · rw [c1] at hq; cases hq
    · omega
    · rw [c3] at hq; cases hq

/-! ### campaigns and the role arms of `step`: what moves the term, read off the case lemmas of `RaftNodeC02` -/

theorem sendVoteRequests_frame {a r r' : Raft} {ct : CampaignType} {vm : MsgType} {t : Nat}
    (h : r.sendVoteRequests ct vm t = .ok r') (h0 : Frame a r) : Frame a r' :=
  sendVoteRequests_parts h h0 fun hs _ => send_frame hs

/-- `become_pre_candidate` (raft.rs:1203-1218) keeps term and vote: only the role, the vote tally and
the known leader change -/
theorem becomePreCandidate_proj {r r' : Raft} (h : r.becomePreCandidate = .ok r') :
    r' = { r with state := .preCandidate, prs := r.prs.resetVotes, leaderId := 0 } := by
  unfold Raft.becomePreCandidate at h
  split at h
  · cases h
  · cases h; rfl

/-- the node's own pre-vote is already a quorum (single-voter configuration) -/
def selfQuorum (r : Raft) : Prop :=
  (r.prs.resetVotes.recordVote r.id true).tallyVotes.2.2 = .won

section
open VoteOb

/-- the two ways of saying that the node's own vote is a quorum -/
theorem selfQuorum_iff (r : Raft) : selfQuorum r ↔ selfWins r := by
  have h := (c02_self_vote (r := { r with prs := r.prs.resetVotes }) rfl).2
  unfold selfQuorum selfWins
  exact ⟨fun q => h ▸ q, fun q => h.symm ▸ q⟩

/-- **`poll`** (raft.rs:2281): the term moves only when a *pre-candidate* records a vote that makes
the pre-vote tally `Won`; then the real campaign starts and the term is raised by exactly one. -/
theorem poll_term {r r' : Raft} {frm : Nat} {t : MsgType} {v : Bool} {res : VoteResult}
    (h : r.poll frm t v = .ok (r', res)) :
    res = (r.prs.recordVote frm v).tallyVotes.2.2 ∧
    ((res = .won ∧ r.state = .preCandidate ∧ r'.term = r.term + 1) ∨
     (r'.term = r.term ∧ (res ≠ .won ∨ r.state ≠ .preCandidate))) := by
  obtain ⟨p1, p2⟩ := c02_pollWith_cases h
  refine ⟨p1, ?_⟩
  rcases p2 with ⟨a, b, c⟩ | ⟨_, b, c⟩ | ⟨a, c⟩ | ⟨a, c⟩
  · -- a pre-candidate that wins campaigns for real: `term + 1`, whether or not that wins at once
    refine .inl ⟨a, b, ?_⟩
    rcases c02_campaignWith_election (by decide) c with w | w
    · exact w.term
    · exact w.term
  · exact .inr ⟨(c02_wonBy_spec c).2.1, .inr b⟩
  · subst c; exact .inr ⟨(becomeFollower_term_vote _ _ _).1, .inl (by rw [a]; decide)⟩
  · subst c; exact .inr ⟨rfl, .inl (by rw [a]; decide)⟩

/-- `campaign` (raft.rs:1287).  A pre-election keeps the term unless the node's own pre-vote is
already a quorum (single-voter configuration); an election or a transfer raises it by one. -/
theorem campaign_term {r r' : Raft} {ct : CampaignType} (h : r.campaign ct = .ok r') :
    (ct = .preElection ∧
      (r'.term = r.term ∨
       (r'.term = r.term + 1 ∧ (r.prs.resetVotes.recordVote r.id true).tallyVotes.2.2 = .won))) ∨
    (ct ≠ .preElection ∧ r'.term = r.term + 1) := by
  rcases c02_campaign_cases h with w | a
  · by_cases hct : ct = .preElection
    · exact .inl ⟨hct, .inr ⟨w.term, (selfQuorum_iff r).2 w.self⟩⟩
    · exact .inr ⟨hct, w.term⟩
  · have ht := a.term
    by_cases hct : ct = .preElection
    · rw [if_pos hct] at ht; exact .inl ⟨hct, .inl ht⟩
    · rw [if_neg hct] at ht; exact .inr ⟨hct, ht⟩

/-- **`hup`** (raft.rs:1543): the term is raised (by one) only by a promotable non-leader, and with
`pre_vote` only for a transfer or when its own pre-vote is already a quorum. -/
theorem hup_term {r r' : Raft} {transfer : Bool} (h : r.hup transfer = .ok r') :
    r'.term = r.term ∨
    (r'.term = r.term + 1 ∧ r.state ≠ .leader ∧ r.promotable = true ∧
      (transfer = true ∨ r.preVote = false ∨
       (r.prs.resetVotes.recordVote r.id true).tallyVotes.2.2 = .won)) := by
  rcases c02_hup_cases h with e | ⟨hl, hp, ct, hc, htr, hpre⟩
  · exact .inl (e ▸ rfl)
  · rcases campaign_term hc with ⟨c, t | ⟨t, q⟩⟩ | ⟨c, t⟩
    · exact .inl t
    · exact .inr ⟨t, hl, hp, .inr (.inr q)⟩
    · refine .inr ⟨t, hl, hp, ?_⟩
      cases transfer
      · cases hpv : r.preVote
        · exact .inr (.inl rfl)
        · exact absurd (hpre.2 ⟨rfl, hpv⟩) c
      · exact .inl rfl

theorem stepLeader_term {r r' : Raft} {m : Message} {e : Option RaftError}
    (h : r.stepLeader m = .ok (r', e)) : r'.term = r.term := by
  rcases c02_stepLeader_cases h with hf | ⟨_, ht, _⟩
  · exact hf.term
  · exact ht

/-- `step_follower` (raft.rs:2377): the term moves only through `MsgTimeoutNow` → `hup(true)` -/
theorem stepFollower_term {r r' : Raft} {m : Message} {e : Option RaftError}
    (hs : r.state = .follower) (h : r.stepFollower m = .ok (r', e)) :
    r'.term = r.term ∨
    (m.msgType = .msgTimeoutNow ∧ r.promotable = true ∧ r.hup true = .ok r') :=
  (c02_stepFollower_cases hs h).imp TVS.term id

/-- `step_candidate` (raft.rs:2320): the term moves only when a pre-candidate polls a pre-vote
response that makes the tally `Won`; since fix F16 a *granted* response is polled only if it carries
the term of this pre-campaign, `m.term = r.term + 1` (any other grant is ignored) -/
theorem stepCandidate_term {r r' : Raft} {m : Message} {e : Option RaftError}
    (hs : r.state = .candidate ∨ r.state = .preCandidate)
    (h : r.stepCandidate m = .ok (r', e)) :
    r'.term = r.term ∨
    (r.state = .preCandidate ∧ m.msgType = .msgRequestPreVoteResponse ∧ r'.term = r.term + 1 ∧
      (r.prs.recordVote m.frm (!m.reject)).tallyVotes.2.2 = .won ∧
      (m.reject = true ∨ m.term = r.term + 1)) := by
  rcases c02_stepCandidate_cases hs h with e1 | ⟨_, ht, hf⟩ | ⟨hty, r2, res, hp, hb⟩
  · exact .inl (e1 ▸ rfl)
  · exact .inl (hf.term.trans ((becomeFollower_term_vote r m.term m.frm).1.trans ht.symm))
  · have e2 := (maybeCommitByVote_term_vote r2 r' m hb).1
    obtain ⟨p1, p2⟩ := poll_term hp
    rcases p2 with ⟨a, b, c⟩ | ⟨c, _⟩
    · rcases hty with ⟨hc, _⟩ | ⟨_, hm, hg⟩
      · rw [b] at hc; cases hc
      · exact .inr ⟨b, hm, e2.trans c, by rw [← a]; exact p1.symm, hg⟩
    · exact .inl (e2.trans c)

end

/-- the preamble lets the dispatch run either on the unchanged state or on
`become_follower(m.term, _)` of it -/
theorem stepTerm_true {r r1 : Raft} {m : Message} (h : r.stepTerm m = .ok (r1, true)) :
    r1 = r ∨
    (r.term < m.term ∧ m.msgType ≠ .msgRequestPreVote ∧
      ¬ (m.msgType = .msgRequestPreVoteResponse ∧ m.reject = false) ∧
      ∃ l, r1 = r.becomeFollower m.term l) :=
  (stepTerm_passed h).imp id fun ⟨hgt, _, hpv, hl⟩ =>
    ⟨hgt, fun e => hpv (.inl e), fun e => hpv (.inr ⟨e.1, by simp [e.2]⟩), hl⟩

/-- the ways the dispatch part of `step` (everything after the term preamble) can move the term -/
def Campaigned (r r' : Raft) (m : Message) : Prop :=
  (r.state = .preCandidate ∧ m.msgType = .msgRequestPreVoteResponse ∧ r'.term = r.term + 1 ∧
    (r.prs.recordVote m.frm (!m.reject)).tallyVotes.2.2 = .won ∧
    (m.reject = true ∨ m.term = r.term + 1)) ∨
  ((m.msgType = .msgHup ∨ (m.msgType = .msgTimeoutNow ∧ r.state = .follower)) ∧
    r'.term = r.term + 1 ∧ r.state ≠ .leader ∧ r.promotable = true ∧
    (m.msgType = .msgTimeoutNow ∨ r.preVote = false ∨ selfQuorum r))

theorem hup_campaigned {r r' : Raft} {m : Message} {tr : Bool}
    (hm : (m.msgType = .msgHup ∧ tr = false) ∨
          (m.msgType = .msgTimeoutNow ∧ tr = true ∧ r.state = .follower))
    (h : r.hup tr = .ok r') : r'.term = r.term ∨ Campaigned r r' m := by
  rcases hup_term h with c | ⟨c1, c2, c3, c4⟩
  · exact Or.inl c
  · refine Or.inr (Or.inr ⟨?_, c1, c2, c3, ?_⟩)
    · rcases hm with hm | hm
      · exact Or.inl hm.1
      · exact Or.inr ⟨hm.1, hm.2.2⟩
    · rcases c4 with c4 | c4 | c4
      · rcases hm with hm | hm
        · rw [hm.2] at c4; cases c4
        · exact Or.inl hm.1
      · exact Or.inr (Or.inl c4)
      · exact Or.inr (Or.inr c4)

/-- everything `step` does after the term preamble keeps the term, except a campaign -/
theorem dispatch_term {r1 r' : Raft} {m : Message} {res : Option RaftError}
    (hd : Dispatch r1 m r' res) : r'.term = r1.term ∨ Campaigned r1 r' m := by
  cases hd with
  | hup ty hh => exact hup_campaigned (Or.inl ⟨ty, rfl⟩) hh
  | vote _ hv => exact Or.inl (stepVote_outcome hv).1.term
  | candidate _ hs hc => exact (stepCandidate_term hs hc).imp id Or.inl
  | follower _ hs hf =>
    rcases stepFollower_term hs hf with c | ⟨c1, _, c3⟩
    · exact Or.inl c
    · exact hup_campaigned (Or.inr ⟨c1, rfl, hs⟩) c3
  | leader _ _ hl => exact Or.inl (stepLeader_term hl)

/-- the state the dispatch runs on: a leader is the node itself; any other role comes from a node
that was no leader, or from `become_follower` at the higher term of the message, below which the
dispatch does not go -/
theorem dispatched_from {r r1 r' : Raft} {m : Message} {res : Option RaftError}
    (ht : r.stepTerm m = .ok (r1, true)) (hd : Dispatch r1 m r' res) :
    (r1.state = .leader → r1 = r) ∧
    (r1.state ≠ .leader → r.state ≠ .leader ∨ (r.term < m.term ∧ m.term ≤ r'.term)) := by
  rcases stepTerm_passed ht with c | ⟨c, _, _, l, c2⟩
  · subst c; exact ⟨fun _ => rfl, .inl⟩
  · have e1 : _ = m.term := (becomeFollower_term_vote r m.term l).1
    have e2 : _ = StateRole.follower := (becomeFollower_proj r m.term l).1
    rw [← c2] at e1 e2
    refine ⟨fun hs => (by rw [e2] at hs; cases hs), fun _ => .inr ⟨c, ?_⟩⟩
    rcases dispatch_term hd with c3 | ⟨_, _, c3, _⟩ | ⟨_, c3, _⟩ <;> omega

/-! ### 3. Every way `step` can raise the term -/

/-- **C16 (3) `term_raised_only_by_higher_term_message_or_won_prevote`.**  "A node … does not raise
its own term unless a peer tells it of a higher one" — the complete list of the ways `Raft::step`
can raise the term, for every state and every message.  If `r.step m = Ok` and the term grew, then

* (a) **a peer told it**: `m.term > r.term`, `m` is neither a pre-vote request nor a granted pre-vote
  response (raft.rs:1386-1398), and the new term is `m.term` (or `m.term + 1` when the message is itself
  a campaign trigger, `MsgTimeoutNow` / `MsgHup`, stepped after `become_follower(m.term)`); or
* (b) **it won the pre-vote**: it was a `PreCandidate`, `m` is a pre-vote response whose recording
  makes the tally `Won`, and the new term is `r.term + 1` (the real campaign, raft.rs:2281-2318);
  since fix F16 the response, if it is a grant, carries exactly `m.term = r.term + 1` — a grant of
  any other term (left over from an earlier pre-campaign) is not counted
  (`C16_stale_prevote_grant_ignored`); or
* (c) **it was asked to campaign**: `m` is `MsgHup` or `MsgTimeoutNow`, the node is a promotable
  non-leader, the new term is `r.term + 1`, and — this is the pre-vote guarantee — for `MsgHup` either
  `pre_vote` is off or the node's own pre-vote is already a quorum (single-voter configuration);
  `MsgTimeoutNow` is the explicitly requested leadership transfer, which skips the pre-vote. -/
theorem C16_term_raised_only_by_higher_term_message_or_won_prevote (r r' : Raft) (m : Message)
    (res : Option RaftError) (h : r.step m = .ok (r', res)) (hlt : r.term < r'.term) :
    (r.term < m.term ∧ m.msgType ≠ .msgRequestPreVote ∧
      ¬ (m.msgType = .msgRequestPreVoteResponse ∧ m.reject = false) ∧
      (r'.term = m.term ∨
       ((m.msgType = .msgHup ∨ m.msgType = .msgTimeoutNow) ∧ r'.term = m.term + 1))) ∨
    Campaigned r r' m := by
  cases step_inv h with
  | consumed ht =>
    rcases stepTerm_cases ht with c | ⟨_, _, _, _, c, _⟩
    · rw [c.term] at hlt; omega
    · cases c
  | dispatched ht hd =>
    have hd := dispatch_term hd
    rcases stepTerm_true ht with c | ⟨c1, c2, c3, l, c4⟩
    · subst c
      rcases hd with hd | hd
      · omega
      · exact Or.inr hd
    · left
      have e1 : _ = m.term := (becomeFollower_term_vote r m.term l).1
      have e2 : _ = StateRole.follower := (becomeFollower_proj r m.term l).1
      rw [← c4] at e1 e2
      refine ⟨c1, c2, c3, ?_⟩
      rcases hd with hd | hd | hd
      · exact Or.inl (hd.trans e1)
      · rw [e2] at hd; cases hd.1
      · exact Or.inr ⟨hd.1.imp id (·.1), by rw [hd.2.1, e1]⟩

/-! ### 2. A granted pre-vote response -/

/-- **C16 (2) `granted_prevote_response_keeps_term`.**  A granted (`reject = false`) pre-vote
response carries the *future* term `m.term = r.term + 1` of the campaign it answers; `step` never
adopts it (raft.rs:1386-1398).  Whatever the role, the term either stays, or the node is a
`PreCandidate`, the grant completes the pre-vote quorum (`tally_votes` = `Won` after recording it),
and the real campaign starts at exactly `r.term + 1`.  Since fix F16 the grant that is counted is
the answer to *this* pre-campaign, `m.term = r.term + 1` (before the fix the statement had no such
conjunct: a grant of any term `≥ r.term` was counted). -/
theorem C16_granted_prevote_response_keeps_term (r r' : Raft) (m : Message) (res : Option RaftError)
    (hm : m.msgType = .msgRequestPreVoteResponse) (hg : m.reject = false)
    (h : r.step m = .ok (r', res)) :
    r'.term = r.term ∨
    (r.state = .preCandidate ∧ r'.term = r.term + 1 ∧ m.term = r.term + 1 ∧
      (r.prs.recordVote m.frm true).tallyVotes.2.2 = .won) := by
  by_cases hlt : r.term < r'.term
  · rcases C16_term_raised_only_by_higher_term_message_or_won_prevote r r' m res h hlt with
      ⟨_, _, c, _⟩ | ⟨c1, _, c3, c4, c5⟩ | ⟨c, _⟩
    · exact absurd ⟨hm, hg⟩ c
    · right; rw [hg] at c4 c5
      exact ⟨c1, c3, c5.resolve_left (by decide), c4⟩
    · rw [hm] at c; rcases c with c | ⟨c, _⟩ <;> cases c
  · left
    -- the term never decreases here: the preamble keeps `r` (no `become_follower` for a grant)
    cases step_inv h with
    | consumed ht =>
      rcases stepTerm_cases ht with c | ⟨_, _, c, _⟩
      · exact c.term
      · exact absurd ⟨hm, hg⟩ c
    | dispatched ht hd =>
      rcases stepTerm_true ht with c | ⟨_, _, c, _⟩
      · subst c
        rcases dispatch_term hd with hd | hd | hd
        · exact hd
        · omega
        · omega
      · exact absurd ⟨hm, hg⟩ c

/-- **C16 (2), non-pre-candidates.**  A follower, candidate or leader ignores a granted pre-vote
response altogether, whatever its term. -/
theorem C16_granted_prevote_response_ignored (r : Raft) (m : Message)
    (hm : m.msgType = .msgRequestPreVoteResponse) (hg : m.reject = false)
    (hs : r.state ≠ .preCandidate) (h0 : m.term ≠ 0) (hge : r.term ≤ m.term) :
    r.step m = .ok (r, none) := by
  rcases stepTerm_voteResp (r := r) (.inl hm) (.inr ⟨hm, hg⟩) with ht | ⟨hlt, _⟩
  · cases hst : r.state with
    | follower => rw [step_follower ht (.of_eq hm) hst]; unfold Raft.stepFollower; rw [hm]
    | candidate =>
      rw [step_candidate ht (.of_eq hm) (.inl hst)]; unfold Raft.stepCandidate; simp [hm, hst]
    | preCandidate => exact absurd hst hs
    | leader => rw [step_leader ht (.of_eq hm) hst]; unfold Raft.stepLeader; rw [hm]
  · omega

/-- **C16 (2), pre-candidates: `stale_prevote_grant_ignored`** (fix F16).  A granted pre-vote
response answers the pre-campaign of a `PreCandidate` only if it carries that campaign's term,
`m.term = r.term + 1` (`checked_add`: and `r.term + 1` does not overflow).  A pre-candidate IGNORES
every other granted pre-vote response — `step` returns `Ok`, the state (votes, term, role, queue) is
unchanged, no message is sent — whatever the term of the grant: `0`; below `r.term` (dropped by the
term preamble, raft.rs:1416-1478); equal to `r.term` (the grant left over from the pre-campaign of
the previous term, the case of F16); or above `r.term + 1` (the preamble passes a granted pre-vote
response on without `become_follower`, raft.rs:1386-1398, and `step_candidate` drops it).  No
hypothesis on `m.term` other than `hne` is needed. -/
theorem C16_stale_prevote_grant_ignored (r : Raft) (m : Message)
    (hs : r.state = .preCandidate) (hm : m.msgType = .msgRequestPreVoteResponse)
    (hg : m.reject = false) (hne : ¬ (r.term < U64_MAX ∧ m.term = r.term + 1)) :
    r.step m = .ok (r, none) := by
  have hc : r.stepCandidate m = .ok (r, none) := by
    unfold Raft.stepCandidate
    simp only [hm, hs, hg]
    simp [hne]
  rcases stepTerm_voteResp (r := r) (.inl hm) (.inr ⟨hm, hg⟩) with ht | ⟨_, ht⟩
  · rw [step_candidate ht (.of_eq hm) (.inr hs), hc]
  · exact step_of_consumed ht

/-- … the instance of F16: a grant of the pre-candidate's *own* term (sent in answer to the
pre-campaign it ran one term earlier) is ignored -/
theorem C16_stale_prevote_grant_ignored_same_term (r : Raft) (m : Message)
    (hs : r.state = .preCandidate) (hm : m.msgType = .msgRequestPreVoteResponse)
    (hg : m.reject = false) (ht : m.term = r.term) : r.step m = .ok (r, none) :=
  C16_stale_prevote_grant_ignored r m hs hm hg (fun h => by omega)

/-- … and any grant whose term is not `r.term + 1` -/
theorem C16_stale_prevote_grant_ignored_of_ne (r : Raft) (m : Message)
    (hs : r.state = .preCandidate) (hm : m.msgType = .msgRequestPreVoteResponse)
    (hg : m.reject = false) (ht : m.term ≠ r.term + 1) : r.step m = .ok (r, none) :=
  C16_stale_prevote_grant_ignored r m hs hm hg (fun h => ht h.2)

/-- … conversely the grant of this pre-campaign, `m.term = r.term + 1`, is the one that is polled:
`step` is `poll(m.from, MsgRequestPreVoteResponse, true)` followed by `maybe_commit_by_vote` -/
theorem C16_fresh_prevote_grant_polled (r : Raft) (m : Message)
    (hs : r.state = .preCandidate) (hm : m.msgType = .msgRequestPreVoteResponse)
    (hg : m.reject = false) (hov : r.term < U64_MAX) (ht : m.term = r.term + 1) :
    r.step m = (r.poll m.frm .msgRequestPreVoteResponse true).bind (fun (r, _) =>
      (r.maybeCommitByVote m).bind (fun r => .ok (r, none))) := by
  have hc : r.stepCandidate m = (r.poll m.frm .msgRequestPreVoteResponse true).bind (fun (r, _) =>
      (r.maybeCommitByVote m).bind (fun r => .ok (r, none))) := by
    unfold Raft.stepCandidate
    simp only [hm, hs, hg]
    simp [hov, ht]
  rcases stepTerm_voteResp (r := r) (.inl hm) (.inr ⟨hm, hg⟩) with h1 | ⟨hlt, _⟩
  · rw [step_candidate h1 (.of_eq hm) (.inr hs), hc]
  · omega

/-! ### 4. A node that fails to gather a pre-vote quorum -/

/-- a message that is not from a higher term (local messages have term 0) moves the term only by a
campaign -/
theorem step_not_higher {r r' : Raft} {m : Message} {res : Option RaftError}
    (hle : ¬ r.term < m.term) (h : r.step m = .ok (r', res)) :
    r'.term = r.term ∨ Campaigned r r' m := by
  cases step_inv h with
  | consumed ht => exact Or.inl (stepTerm_frame_of_not_higher hle ht).term
  | dispatched ht hd =>
    rcases stepTerm_passed ht with c | ⟨c, _⟩
    · subst c; exact dispatch_term hd
    · exact absurd c hle

/-- **C16 (4) `failed_precandidate_keeps_term`.**  "A node that fails to gather a pre-vote quorum
does not raise its own term unless a peer tells it of a higher one": a `PreCandidate` with `pre_vote`
on (`become_pre_candidate` kept its term and vote, raft.rs:1199-1218) that steps ANY message not
from a higher term — rejected or granted pre-vote responses, vote requests, appends and heartbeats
of its own term, stale messages (raft.rs:1416-1478), local messages, even another `MsgHup` — keeps
its term exactly, as long as the pre-vote tally after the message is not `Won` (and its own
pre-vote alone is not a quorum).  Since fix F16 the tally hypothesis is needed for *rejected*
responses only (`hfail` now has the conjunct `m.reject = true`): a granted pre-vote response that
is not from a higher term is never counted, whatever the tally would be
(`C16_stale_prevote_grant_ignored`). -/
theorem C16_failed_precandidate_keeps_term (r r' : Raft) (m : Message) (res : Option RaftError)
    (hs : r.state = .preCandidate) (hpv : r.preVote = true) (hle : ¬ r.term < m.term)
    (hself : ¬ selfQuorum r)
    (hfail : ¬ (m.msgType = .msgRequestPreVoteResponse ∧ m.reject = true ∧
                (r.prs.recordVote m.frm false).tallyVotes.2.2 = .won))
    (h : r.step m = .ok (r', res)) : r'.term = r.term := by
  rcases step_not_higher hle h with c | ⟨_, c2, _, c4, c6⟩ | ⟨c1, _, _, _, c5⟩
  · exact c
  · rcases c6 with c6 | c6
    · rw [c6] at c4; exact absurd ⟨c2, c6, c4⟩ hfail
    · omega
  · rcases c1 with c1 | ⟨_, c1⟩
    · rcases c5 with c5 | c5 | c5
      · rw [c1] at c5; cases c5
      · rw [hpv] at c5; cases c5
      · exact absurd c5 hself
    · rw [hs] at c1; cases c1

/-- **C16 (4), rejected response.**  (Any role.)  A rejected pre-vote response of a term not above
the node's own can only make the tally `Lost` or leave it pending, unless the votes recorded
before already were a quorum; in every case the term is unchanged when the tally is not `Won`.
A rejected response from a *higher* term is "a peer telling it of a higher one": case (a) of
`C16_term_raised_only_by_higher_term_message_or_won_prevote`. -/
theorem C16_rejected_prevote_response_keeps_term (r r' : Raft) (m : Message) (res : Option RaftError)
    (hm : m.msgType = .msgRequestPreVoteResponse)
    (hrej : m.reject = true) (hle : ¬ r.term < m.term)
    (hfail : (r.prs.recordVote m.frm false).tallyVotes.2.2 ≠ .won)
    (h : r.step m = .ok (r', res)) : r'.term = r.term := by
  rcases step_not_higher hle h with c | ⟨_, _, _, c4, _⟩ | ⟨c1, _⟩
  · exact c
  · rw [hrej] at c4; exact absurd c4 hfail
  · rw [hm] at c1; rcases c1 with c1 | ⟨c1, _⟩ <;> cases c1

/-- **C16 (4), election timeout.**  With `pre_vote`, `tick` on a node that is not the leader never
changes the term: an election timeout only makes it a `PreCandidate` *at the same term*
(`tick_election` → `MsgHup` → `hup` → `campaign(CAMPAIGN_PRE_ELECTION)` → `become_pre_candidate`,
raft.rs:1107-1118, 1543-1607, 1199-1218).  The one exception, found on the model and confirmed in
the code, is a node whose own pre-vote is already a quorum (single-voter configuration): it wins the
pre-vote inside `campaign` and goes on to the real election at `term + 1` in the same tick — which
disrupts nobody.  Hence the hypothesis `¬ selfQuorum r`. -/
theorem C16_tick_prevote_never_raises_term (r r' : Raft) (b : Bool) (hs : r.state ≠ .leader)
    (hpv : r.preVote = true) (hself : ¬ selfQuorum r) (h : r.tick = .ok (r', b)) :
    r'.term = r.term := by
  have key : r.tickElection = .ok (r', b) := by
    unfold Raft.tick at h
    cases hst : r.state <;> simp only [hst] at h hs <;> first | exact h | exact absurd rfl hs
  unfold Raft.tickElection at key
  simp only at key
  split at key
  · cases key; rfl
  · rw [Res.bind_eq_ok_iff] at key
    obtain ⟨r1, h1, h2⟩ := key
    cases h2
    obtain ⟨_, h3⟩ := stepIgnore_inv h1
    rcases step_not_higher (by simp [newMessage]) h3 with c | ⟨_, c2, _⟩ | ⟨_, _, _, _, c5⟩
    · exact c
    · cases c2
    · rcases c5 with c5 | c5 | c5
      · cases c5
      · exact absurd (c5 : r.preVote = false) (by rw [hpv]; decide)
      · exact absurd c5 hself

/-! ### 8. Non-vacuity: concrete states and messages satisfying the hypotheses (evaluated by `rfl`) -/

/-- a three-voter configuration {1, 2, 3} with a progress entry per voter -/
def prs3 : ProgressTracker :=
  { conf := { incoming := [1, 2, 3] },
    progress := [(1, Progress.new 1 8), (2, Progress.new 1 8), (3, Progress.new 1 8)] }

def follower1 : Raft :=
  { raftLog := default, id := 1, term := 3, state := .follower, promotable := true, preVote := true,
    checkQuorum := true, electionTimeout := 10, randomizedElectionTimeout := 1, prs := prs3 }

def preCand1 : Raft :=
  { follower1 with state := .preCandidate, prs := { prs3 with votes := [(1, true)] } }

def leader1 : Raft :=
  { follower1 with state := .leader, leaderId := 1, electionTimeout := 1, heartbeatTimeout := 1 }

example : ¬ selfQuorum follower1 := by unfold selfQuorum; decide +kernel
example : ∃ r' b, follower1.tick = .ok (r', b) ∧ r'.state = .preCandidate ∧ r'.term = follower1.term :=
  ⟨_, _, by rfl, by rfl, by rfl⟩

-- (1) a pre-vote request from a lower, equal and higher term is handled (and changes nothing)
example : ∃ r' res, follower1.step { msgType := .msgRequestPreVote, term := 2, frm := 2 } = .ok (r', res) :=
  ⟨_, _, by rfl⟩
example : ∃ r' res, { follower1 with checkQuorum := false }.step
    { msgType := .msgRequestPreVote, term := 9, frm := 2, index := 5, logTerm := 5 } = .ok (r', res) ∧
    r'.term = 3 ∧ r'.msgs ≠ [] :=
  ⟨_, _, by rfl, by rfl, by decide +kernel⟩
-- (2)/(3b) a pre-candidate that receives the grant completing the quorum starts the real campaign
example : ∃ r' res, preCand1.step
    { msgType := .msgRequestPreVoteResponse, term := 4, frm := 2, reject := false } = .ok (r', res) ∧
    r'.term = preCand1.term + 1 ∧ r'.state = .candidate :=
  ⟨_, _, by rfl, by rfl, by rfl⟩
-- (2) fix F16: the same pre-candidate (term 3, one grant short of the quorum) ignores a stale grant —
-- of its own term 3 (left over from the pre-campaign of term 2), or of term 9 — state unchanged, no
-- message; the grant of term 4 = term + 1 from the same peer completes the quorum: candidate at term 4
example :
    preCand1.step { msgType := .msgRequestPreVoteResponse, term := 3, frm := 2, reject := false }
      = .ok (preCand1, none) ∧
    preCand1.step { msgType := .msgRequestPreVoteResponse, term := 9, frm := 2, reject := false }
      = .ok (preCand1, none) ∧
    (preCand1.step { msgType := .msgRequestPreVoteResponse, term := 4, frm := 2, reject := false }).bind
      (fun (r', res) => .ok (r'.state, r'.term, res))
      = .ok (StateRole.candidate, preCand1.term + 1, none) := by decide +kernel
-- (4) a rejection keeps it where it is
example : ∃ r' res, preCand1.step
    { msgType := .msgRequestPreVoteResponse, term := 3, frm := 2, reject := true } = .ok (r', res) ∧
    r'.term = preCand1.term ∧ r'.state = .preCandidate :=
  ⟨_, _, by rfl, by rfl, by rfl⟩
-- (6) hypotheses of the lease theorem
example : leader1.state = .leader ∧ leader1.checkQuorum = true ∧ leader1.leaderId ≠ 0 ∧
    leader1.electionElapsed < leader1.electionTimeout := by decide +kernel
-- (7) a leader that heard from nobody steps down at its check-quorum tick; one that heard from a
-- quorum does not
example : ∃ r' b, leader1.tickHeartbeat = .ok (r', b) ∧ r'.state = .follower ∧ r'.term = leader1.term :=
  ⟨_, _, by rfl, by rfl, by rfl⟩
example : ∃ r' b, ({ leader1 with prs := { prs3 with progress :=
      [(1, Progress.new 1 8), (2, { Progress.new 1 8 with recentActive := true }), (3, Progress.new 1 8)] } } : Raft).tickHeartbeat
      = .ok (r', b) ∧ r'.state = .leader :=
  ⟨_, _, by rfl, by rfl⟩
end RaftProps.C16
