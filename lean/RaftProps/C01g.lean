import RaftProofs.ClusterSnapCompaction

/-!
# C01 / C03 / C04, cluster level, with log compaction, **without the proof gaps `anch` and `norir`**

`RaftProps/C01e.lean` (part 1, namespace `RaftProps.C01e`) proves the commit layer of `ClusterSem` for
histories in which the applications compact their logs, under the bundle `Snap.Hyp3`, which contains
two *proof gaps* — facts about the transport that should follow from the other hypotheses:

* `anch`: every `MsgAppend` of the transport is anchored inside its sender's log (`log_term ≠ 0`, or the
  anchor is not above the common initial snapshot point `c0`);
* `norir`: no `MsgReadIndexResp` is ever in the transport.

`RaftProps/C01d.lean` discharged both for the layer *without* compaction.  This file does the same for
the layer **with compaction**: it states the theorems of C01e part 1 under **`Snap.Hyp3w`** =
`Snap.Hyp3` without `anch` and without `norir` (`RaftProofs/ClusterSnapHyp.lean`: `Snap.Hyp` + `nolone`
+ `nopend` + `first0` + `initc` + `snapt0`), and the two discharged gaps as theorems of their own
(`C01g_appends_anchored`, `C01g_read_index_resp_source`, `C01g_progress_within_log`).

## What is new with compaction

A leader anchors a `MsgAppend` at `next_idx - 1` with the term `term(next_idx - 1)`, and
`RaftLog::term` answers `Ok(0)` for an index *below* the snapshot point (raft_log.rs:115-118) — a
`MsgAppend` with `log_term = 0` above `c0` would be accepted by a follower whose log ends before the
anchor (`match_term(i, 0)` holds beyond the last index).  It is never sent: `maybe_send_append` first
reads the entries from `next_idx`, which answers `Compacted` below the first index, and then queues a
`MsgSnapshot` instead (under `nosnap` such a node is mute).  The per-call relation of
`RaftProofs/ClusterCommit4A–4I` was extended by this fact (`PW.fi`, `PW.qf`, `PR.qf`: *every
`MsgAppend` queued in a call is anchored at or above the snapshot point the log had when the call
started*), and by the `compact` case of `call_pr` (`Snap5.call_pr2`: a compaction touches only the
storage).  An anchor *at* the snapshot point carries a known term only while the snapshot point is `c0`
(`Snap5.snapTerm_c0`: a compaction forgets the term; `term` then answers `Compacted` and the snapshot
path is taken again).

The `readIndexResp` case of the main induction (`Snap5.nctm_step`, `RaftProofs/ClusterSnap5P.lean`) is
proved from `rirs` (the sender led the message's term with a commit index that covered the message's
index), for the ghost logs: above `c0` the term a follower answers for `m.index` is the term of a
retained entry, so `Snap5.entry_prov` applies.

Cluster level: `Snap.ci_all`, `Snap.Hyp3w.toHyp3a` (`RaftProofs/ClusterSnapCompaction.lean`) are
`Snap5.ci_all`, `Snap5.GHyp3w.toGHyp3a` (`RaftProofs/ClusterSnap5W/5X.lean`) for a history in which no
snapshot travels; the cluster invariant is `Cluster.CI` (`RaftProofs/ClusterCommitCI.lean`), the one
of C01d.

Still hypotheses: `nosnap` / `nopend` (no snapshot ever reaches the transport, no node ever has a
pending snapshot: part 2 of C01e), `NoBatch`, `nolone`, `first0`, `initc`, `snapt0`, the `Snap.KStep`
contract (`CompactOk`, `commit_apply`, persist-before-send).
-/
namespace RaftProps.C01g
open RaftModel RaftModel.Cluster RaftModel.Node RaftModel.Raft RaftModel.Raft.CC

/-! ## The two discharged gaps -/

/-- **the gap `anch` of C01e part 1, as a theorem**: in every state of a history with compaction
under `Snap.Hyp3w`, every `MsgAppend` in the transport is anchored inside its sender's log
(`log_term ≠ 0`, or the anchor is at or below the common initial snapshot point) — and so is every
queued one unless a `MsgSnapshot` is queued with it. -/
theorem C01g_appends_anchored (cfg : JointConfig) (c0 : Nat) (h : List Sys)
    (H : Snap.Hyp3w cfg c0 h) (n : Nat) (s : Sys) (hn : h[n]? = some s) :
    (∀ x ∈ s.net, x.msgType = .msgAppend → x.logTerm ≠ 0 ∨ x.index ≤ c0) ∧
    (∀ i st, s.node i = some st → ∀ x ∈ st.raft.msgs, x.msgType = .msgAppend →
      (∃ y ∈ st.raft.msgs, y.msgType = .msgSnapshot) ∨ x.logTerm ≠ 0 ∨ x.index ≤ c0) :=
  ⟨(Snap.ci_all H n s hn).na, (Snap.ci_all H n s hn).qa⟩

/-- **progress within the log**, with compaction: every progress of a leader has
`matched ≤ last_index`, `next_idx ≤ last_index + 1` and is not in the `Snapshot` state — unless a
`MsgSnapshot` is queued at that leader (which `nosnap` never lets reach the transport; with compaction
this is how a leader reacts to a follower that needs compacted entries). -/
theorem C01g_progress_within_log (cfg : JointConfig) (c0 : Nat) (h : List Sys)
    (H : Snap.Hyp3w cfg c0 h) (n : Nat) (s : Sys) (hn : h[n]? = some s) (i : Nat) (st : NState)
    (hi : s.node i = some st) (hl : st.raft.state = .leader) :
    (∃ y ∈ st.raft.msgs, y.msgType = .msgSnapshot) ∨
    ∀ id pr, st.raft.prs.get id = some pr →
      pr.matched ≤ st.raft.raftLog.lastIndex ∧ pr.nextIdx ≤ st.raft.raftLog.lastIndex + 1 ∧
      pr.state ≠ .snapshot :=
  ((Snap.ci_all H n s hn).node i st hi).po hl |>.imp (fun x => x) (fun c _ _ hg => c.get hg)

/-- **the gap `norir` of C01e part 1, lifted**: a `MsgReadIndexResp` in the transport (or in a queue)
was queued by a node that led the message's term, at a moment when its commit index covered the
message's index; and every pending read index of a leader is at most its commit index. -/
theorem C01g_read_index_resp_source (cfg : JointConfig) (c0 : Nat) (h : List Sys)
    (H : Snap.Hyp3w cfg c0 h) (n : Nat) (s : Sys) (hn : h[n]? = some s) :
    (∀ x, (x ∈ s.net ∨ ∃ i st, s.node i = some st ∧ x ∈ st.raft.msgs) →
      x.msgType = .msgReadIndexResp →
      ∃ n0 s0 w stw, n0 ≤ n ∧ h[n0]? = some s0 ∧ s0.node w = some stw ∧
        stw.raft.state = .leader ∧ stw.raft.term = x.term ∧
        x.index ≤ stw.raft.raftLog.committed) ∧
    (∀ i st, s.node i = some st → st.raft.state = .leader →
      ∀ p ∈ st.raft.readOnly.pendingReadIndex, p.2.index ≤ st.raft.raftLog.committed) := by
  have c := Snap.ci_all H n s hn
  refine ⟨fun x hx hty => ?_, fun i st hi hl => (c.node i st hi).rd hl⟩
  rcases hx with hx | ⟨i, st, hi, hx⟩
  · exact c.nr x hx hty
  · exact c.qr i st hi x hx hty

/-- **`SaneAnchors` of `RaftProps/C05d.lean` with compaction** (for `c0 = 0`): no `MsgAppend` in the
transport is anchored in the void (`log_term = 0` at an anchor `≠ 0`) — in particular not at a
compacted index —, and none queued at a node unless a `MsgSnapshot` is queued there too. -/
theorem C01g_sane_anchors (cfg : JointConfig) (h : List Sys) (H : Snap.Hyp3w cfg 0 h)
    (n : Nat) (s : Sys) (hn : h[n]? = some s) :
    (∀ x ∈ s.net, x.msgType = .msgAppend → x.logTerm = 0 → x.index = 0) ∧
    (∀ i st, s.node i = some st → (∀ y ∈ st.raft.msgs, y.msgType ≠ .msgSnapshot) →
      ∀ x ∈ st.raft.msgs, x.msgType = .msgAppend → x.logTerm = 0 → x.index = 0) := by
  obtain ⟨h1, h2⟩ := C01g_appends_anchored cfg 0 h H n s hn
  refine ⟨fun x hx hty hz => ?_, fun i st hi hns x hx hty hz => ?_⟩
  · rcases h1 x hx hty with c | c
    · exact absurd hz c
    · omega
  · rcases h2 i st hi x hx hty with ⟨y, hy, hys⟩ | c | c
    · exact absurd hys (hns y hy)
    · exact absurd hz c
    · omega

/-- **the bundle of the main induction is derived**: `Snap.Hyp3a` (with `anch` and `rirs`) follows from
`Snap.Hyp3w` -/
theorem C01g_hyp3a (cfg : JointConfig) (c0 : Nat) (h : List Sys) (H : Snap.Hyp3w cfg c0 h) :
    Snap.Hyp3a cfg c0 h := H.toHyp3a

/-! ## The statements of C01e part 1 under `Snap.Hyp3w` -/

/-- the ghost log of the commit event of a step is the ghost log of the leader after the step -/
theorem evF_of_step {h : List Sys} {c0 n l : Nat} {stb : NState} :
    Snap.EvF h c0 ⟨n, l, stb.raft.term, stb.raft.raftLog.committed, stb.raft.raftLog.abs,
      stb.raft.raftLog.persisted⟩ = Snap.FL h c0 stb := rfl

/-- **the ghost logs**: in every state of a history, the logical log and the stored log of every node
have uncompacted versions `FL` / `FS` (`Snap.Full`), which hold the same entries up to the node's
snapshot point; any two uncompacted versions of one log hold the same entries. -/
theorem C01g_ghost_log (cfg : JointConfig) (c0 : Nat) (h : List Sys) (H : Snap.Hyp3w cfg c0 h)
    (m : Nat) (s : Sys) (hm : h[m]? = some s) (v : Nat) (st : NState) (hv : s.node v = some st) :
    Snap.Full (Snap.HistChain h) c0 st.raft.raftLog.abs (Snap.FL h c0 st) ∧
    Snap.Full (Snap.HistChain h) c0 (storeLog st.raft.raftLog.store) (Snap.FS h c0 st) ∧
    (∀ k, k ≤ st.raft.raftLog.abs.snapIdx →
      (Snap.FL h c0 st).entryAt k = (Snap.FS h c0 st).entryAt k) ∧
    (∀ g F F', Snap.Full (Snap.HistChain h) c0 g F → Snap.Full (Snap.HistChain h) c0 g F' →
      ∀ k, F.entryAt k = F'.entryAt k) := by
  have I := Snap.node_full H.toHyp2w m s hm v st hv
  exact ⟨I.log, I.sto, I.pre, fun g F F' h1 h2 => h1.uniq (Snap.hist_agree H.toHyp2w) h2⟩

/-- **C04 `cluster_leader_commit_rule`** with compaction — the commit rule with **durable
acknowledgements**: whenever a step `h[n] → h[n+1]` takes the commit index of a node `l` that is leader
of term `t` after the step from `c` to `c' > c`, the entry at `c'` in its log carries term `t`, and
there is a joint quorum `Q` of `cfg` such that every `j ∈ Q` is

* `l` itself, with `persisted ≥ c'` — and its storage holds its log up to `c'`; or
* the sender of an accepting `MsgAppendResponse` `x` for term `t` with `index ≥ c'` that is in the
  transport before the step, **and in every state of the history whose transport holds `x` the
  storage of `j` reaches `c'` and holds `l`'s log up to `c'`** — the uncompacted versions are equal up
  to `c'`, hence so are the logs at every index both still retain. -/
theorem C04_cluster_leader_commit_rule (cfg : JointConfig) (c0 : Nat) (h : List Sys)
    (H : Snap.Hyp3w cfg c0 h)
    (n : Nat) (a b : Sys) (ha : h[n]? = some a) (hb : h[n + 1]? = some b)
    (l : Nat) (sta stb : NState) (hla : a.node l = some sta) (hlb : b.node l = some stb)
    (t : Nat) (hs : stb.raft.state = .leader) (ht : stb.raft.term = t)
    (hc : sta.raft.raftLog.committed < stb.raft.raftLog.committed) :
    stb.raft.raftLog.term stb.raft.raftLog.committed = .ok t ∧
    ∃ Q, IsJointQuorum cfg Q ∧ ∀ j ∈ Q,
      (j = l ∧ stb.raft.raftLog.committed ≤ stb.raft.raftLog.persisted ∧
        ∀ k, k ≤ stb.raft.raftLog.committed →
          (storeLog stb.raft.raftLog.store).entryAt k = stb.raft.raftLog.abs.entryAt k) ∨
      ∃ x ∈ a.net, x.msgType = .msgAppendResponse ∧ x.reject = false ∧ x.frm = j ∧ x.term = t ∧
        stb.raft.raftLog.committed ≤ x.index ∧
        ∀ (m : Nat) (s : Sys) (stj : NState), h[m]? = some s → x ∈ s.net → s.node j = some stj →
          stb.raft.raftLog.committed ≤ (storeLog stj.raft.raftLog.store).lastIndex ∧
          (∀ k, k ≤ stb.raft.raftLog.committed →
            (Snap.FS h c0 stj).entryAt k = (Snap.FL h c0 stb).entryAt k) ∧
          ∀ k, k ≤ stb.raft.raftLog.committed →
            (storeLog stj.raft.raftLog.store).snapIdx < k → stb.raft.raftLog.abs.snapIdx < k →
            (storeLog stj.raft.raftLog.store).entryAt k = stb.raft.raftLog.abs.entryAt k := by
  have H2 := H.toHyp2w
  obtain ⟨h1, Q, hQ, hq⟩ := H2.toHyp.commit_step n a b ha hb l sta stb hla hlb hs hc
  subst ht
  have hE := Snap5.ev_of_step ha hb hla hlb hs hc
  obtain ⟨_, hEh, hc0⟩ := Snap.Ev.leaderLog H2 hE
  have ob := Snap.node_ok H2 hb hlb
  have Ib := Snap.node_full H2 (n + 1) b hb l stb hlb
  refine ⟨h1, Q, hQ, fun j hj => ?_⟩
  rcases hq j hj with ⟨g1, g2⟩ | ⟨x, hx, hack, hfrm, hterm, hidx⟩
  · exact .inl ⟨g1, g2, fun k hk => (ob.inv.abs_store_persisted ob.snap (by omega)).symm⟩
  · right
    have hx0 : x.index ≠ 0 := by
      have : c0 < stb.raft.raftLog.committed := hc0
      omega
    have hterm' : x.term = stb.raft.term := by
      rcases hterm with d | d
      · exact d
      · exact absurd d ((Snap.ack_inv H2 n a ha).2 x hx hack hx0).2
    refine ⟨x, hx, hack.1, hack.2, hfrm, hterm', hidx, fun m s stj hm hxs hj => ?_⟩
    have hh := (Snap.sm_all H.toHyp3a hm).rets _ hE j stj hj (.inl ⟨x, hxs, hack, hfrm, hterm', hidx⟩)
    have Ij := Snap.node_full H2 m s hm j stj hj
    obtain ⟨e1, he1, ht1⟩ := hh
    obtain ⟨e2, he2, ht2⟩ := hEh
    have heq := Snap.full_eq_below H2 Ij.sto Ib.log he1 he2 (ht1.trans ht2.symm)
    refine ⟨?_, heq, fun k hk hk1 hk2 => ?_⟩
    · rw [← Ij.sto.last]; exact ((Snap.FS h c0 stj).entryAt_lt he1).2
    · rw [← Ij.sto.ents k hk1, ← Ib.log.ents k hk2]; exact heq k hk

/-- **C03 `cluster_leader_completeness`** with compaction — every entry a leader has committed is in
the log of every leader of a later term: if a step `h[n] → h[n+1]` takes the commit index of `l`, leader
of term `t` after the step, to `c'`, then the log of any node that leads a term `t' > t` in any state
`h[m]` of the history reaches `c'` and holds, at every index up to `c'`, the entry `l` held there — in
the uncompacted versions, hence wherever both logs retain the index. -/
theorem C03_cluster_leader_completeness (cfg : JointConfig) (c0 : Nat) (h : List Sys)
    (H : Snap.Hyp3w cfg c0 h)
    (n : Nat) (a b : Sys) (ha : h[n]? = some a) (hb : h[n + 1]? = some b)
    (l : Nat) (sta stb : NState) (hla : a.node l = some sta) (hlb : b.node l = some stb)
    (hs : stb.raft.state = .leader)
    (hc : sta.raft.raftLog.committed < stb.raft.raftLog.committed)
    (m : Nat) (s : Sys) (hm : h[m]? = some s) (l' : Nat) (st' : NState)
    (hl' : s.node l' = some st') (hs' : st'.raft.state = .leader)
    (ht : stb.raft.term < st'.raft.term) :
    stb.raft.raftLog.committed ≤ st'.raft.raftLog.abs.lastIndex ∧
    (∀ k, k ≤ stb.raft.raftLog.committed →
      (Snap.FL h c0 st').entryAt k = (Snap.FL h c0 stb).entryAt k) ∧
    ∀ k, k ≤ stb.raft.raftLog.committed →
      st'.raft.raftLog.abs.snapIdx < k → stb.raft.raftLog.abs.snapIdx < k →
      st'.raft.raftLog.abs.entryAt k = stb.raft.raftLog.abs.entryAt k := by
  have H2 := H.toHyp2w
  have hE := Snap5.ev_of_step ha hb hla hlb hs hc
  obtain ⟨_, hEh, _⟩ := Snap.Ev.leaderLog H2 hE
  have hh := (Snap.sm_all H.toHyp3a hm).lc _ hE l' st' hl' hs' ht
  have I' := Snap.node_full H2 m s hm l' st' hl'
  have Ib := Snap.node_full H2 (n + 1) b hb l stb hlb
  obtain ⟨e1, he1, ht1⟩ := hh
  obtain ⟨e2, he2, ht2⟩ := hEh
  have heq := Snap.full_eq_below H2 I'.log Ib.log he1 he2 (ht1.trans ht2.symm)
  refine ⟨?_, heq, fun k hk hk1 hk2 => ?_⟩
  · rw [← I'.log.last]; exact ((Snap.FL h c0 st').entryAt_lt he1).2
  · rw [← I'.log.ents k hk1, ← Ib.log.ents k hk2]; exact heq k hk

/-- **C04 `cluster_follower_commit_sound`** with compaction — *every* commit index is sound: in every
state `h[m]`, what a node `v` has marked committed is at most the common initial snapshot point `c0`,
or it was committed by a leader: there is an earlier step `h[n] → h[n+1]` (`n < m`) that took the commit
index of a node `l`, leader of a term `t ≤ term(v)` after the step, to some `c' ≥ committed(v)`, and the
log of `v` equals the log `l` had then up to `committed(v)` — in the uncompacted versions, hence
wherever both retain the index. -/
theorem C04_cluster_follower_commit_sound (cfg : JointConfig) (c0 : Nat) (h : List Sys)
    (H : Snap.Hyp3w cfg c0 h) (m : Nat) (s : Sys) (hm : h[m]? = some s) (v : Nat) (st : NState)
    (hv : s.node v = some st) :
    st.raft.raftLog.committed ≤ c0 ∨
    ∃ (n : Nat) (a b : Sys) (l : Nat) (sta stb : NState), n < m ∧ h[n]? = some a ∧
      h[n + 1]? = some b ∧ a.node l = some sta ∧ b.node l = some stb ∧
      stb.raft.state = .leader ∧ sta.raft.raftLog.committed < stb.raft.raftLog.committed ∧
      st.raft.raftLog.committed ≤ stb.raft.raftLog.committed ∧ stb.raft.term ≤ st.raft.term ∧
      (∀ k, k ≤ st.raft.raftLog.committed →
        (Snap.FL h c0 st).entryAt k = (Snap.FL h c0 stb).entryAt k) ∧
      ∀ k, k ≤ st.raft.raftLog.committed →
        st.raft.raftLog.abs.snapIdx < k → stb.raft.raftLog.abs.snapIdx < k →
        st.raft.raftLog.abs.entryAt k = stb.raft.raftLog.abs.entryAt k := by
  have H2 := H.toHyp2w
  rcases (Snap.sm_all H.toHyp3a hm).nctm v st hv with c | ⟨E, hE, h2, h3, h4, h5⟩
  · exact .inl c
  · right
    obtain ⟨a, b, sta, stb, ha, hb, hla, hlb, hs, ht, e1, e2, hev, _, hc, _⟩ := Snap.Ev.facts H2 hE
    have I := Snap.node_full H2 m s hm v st hv
    have Ib := Snap.node_full H2 (E.nE + 1) b hb E.l stb hlb
    have hg : ∀ k, k ≤ st.raft.raftLog.committed →
        (Snap.FL h c0 st).entryAt k = (Snap.FL h c0 stb).entryAt k := by
      intro k hk; rw [← hev]; exact h5 k hk
    exact ⟨E.nE, a, b, E.l, sta, stb, h2, ha, hb, hla, hlb, hs, by rw [← e1]; exact hc,
      by rw [← e1]; exact h3, by rw [ht]; exact h4, hg,
      fun k hk hk1 hk2 => by rw [← I.log.ents k hk1, ← Ib.log.ents k hk2]; exact hg k hk⟩

/-- … and so is every **stored** commit index (what a restarted node starts from): it is not ahead of
the commit index, and it is covered by a leader's commit of a term not above the stored term, with the
stored entries. -/
theorem C04_cluster_stored_commit_sound (cfg : JointConfig) (c0 : Nat) (h : List Sys)
    (H : Snap.Hyp3w cfg c0 h) (m : Nat) (s : Sys) (hm : h[m]? = some s) (v : Nat) (st : NState)
    (hv : s.node v = some st) :
    st.raft.raftLog.store.hardState.commit ≤ st.raft.raftLog.committed ∧
    (st.raft.raftLog.store.hardState.commit ≤ c0 ∨
     ∃ (n : Nat) (a b : Sys) (l : Nat) (sta stb : NState), n < m ∧ h[n]? = some a ∧
      h[n + 1]? = some b ∧ a.node l = some sta ∧ b.node l = some stb ∧
      stb.raft.state = .leader ∧ sta.raft.raftLog.committed < stb.raft.raftLog.committed ∧
      st.raft.raftLog.store.hardState.commit ≤ stb.raft.raftLog.committed ∧
      stb.raft.term ≤ st.raft.raftLog.store.hardState.term ∧
      (∀ k, k ≤ st.raft.raftLog.store.hardState.commit →
        (Snap.FS h c0 st).entryAt k = (Snap.FL h c0 stb).entryAt k) ∧
      ∀ k, k ≤ st.raft.raftLog.store.hardState.commit →
        (storeLog st.raft.raftLog.store).snapIdx < k → stb.raft.raftLog.abs.snapIdx < k →
        (storeLog st.raft.raftLog.store).entryAt k = stb.raft.raftLog.abs.entryAt k) := by
  have H2 := H.toHyp2w
  refine ⟨(Snap.sm_all H.toHyp3a hm).scm v st hv, ?_⟩
  rcases (Snap.sm_all H.toHyp3a hm).ncts v st hv with c | ⟨E, hE, h2, h3, h4, h5⟩
  · exact .inl c
  · right
    obtain ⟨a, b, sta, stb, ha, hb, hla, hlb, hs, ht, e1, e2, hev, _, hc, _⟩ := Snap.Ev.facts H2 hE
    have I := Snap.node_full H2 m s hm v st hv
    have Ib := Snap.node_full H2 (E.nE + 1) b hb E.l stb hlb
    have hg : ∀ k, k ≤ st.raft.raftLog.store.hardState.commit →
        (Snap.FS h c0 st).entryAt k = (Snap.FL h c0 stb).entryAt k := by
      intro k hk; rw [← hev]; exact h5 k hk
    exact ⟨E.nE, a, b, E.l, sta, stb, h2, ha, hb, hla, hlb, hs, by rw [← e1]; exact hc,
      by rw [← e1]; exact h3, by rw [ht]; exact h4, hg,
      fun k hk hk1 hk2 => by rw [← I.sto.ents k hk1, ← Ib.log.ents k hk2]; exact hg k hk⟩

/-- **C01 `cluster_state_machine_safety`, ghost form** — the uncompacted logs of any two nodes, in any
two states of the history (the same node before and after a restart or a compaction included), hold the
same entry at every index both have marked committed. -/
theorem C01_cluster_state_machine_safety_ghost (cfg : JointConfig) (c0 : Nat) (h : List Sys)
    (H : Snap.Hyp3w cfg c0 h)
    (m1 : Nat) (s1 : Sys) (hm1 : h[m1]? = some s1) (v1 : Nat) (st1 : NState)
    (hv1 : s1.node v1 = some st1)
    (m2 : Nat) (s2 : Sys) (hm2 : h[m2]? = some s2) (v2 : Nat) (st2 : NState)
    (hv2 : s2.node v2 = some st2)
    (k : Nat) (hk1 : k ≤ st1.raft.raftLog.committed) (hk2 : k ≤ st2.raft.raftLog.committed) :
    (Snap.FL h c0 st1).entryAt k = (Snap.FL h c0 st2).entryAt k :=
  Snap.sms_ghost H.toHyp3a hm1 hv1 hm2 hv2 hk1 hk2

/-- **C01 `cluster_state_machine_safety`** with compaction — any two nodes, in any two states of the
history (the same node before and after a restart or a compaction included), hold the same entry at
every index both have marked committed **and both still retain** (`snapIdx < k`; a compacted log
answers `none` below its snapshot point). -/
theorem C01_cluster_state_machine_safety (cfg : JointConfig) (c0 : Nat) (h : List Sys)
    (H : Snap.Hyp3w cfg c0 h)
    (m1 : Nat) (s1 : Sys) (hm1 : h[m1]? = some s1) (v1 : Nat) (st1 : NState)
    (hv1 : s1.node v1 = some st1)
    (m2 : Nat) (s2 : Sys) (hm2 : h[m2]? = some s2) (v2 : Nat) (st2 : NState)
    (hv2 : s2.node v2 = some st2)
    (k : Nat) (hk1 : k ≤ st1.raft.raftLog.committed) (hk2 : k ≤ st2.raft.raftLog.committed)
    (hr1 : st1.raft.raftLog.abs.snapIdx < k) (hr2 : st2.raft.raftLog.abs.snapIdx < k) :
    st1.raft.raftLog.abs.entryAt k = st2.raft.raftLog.abs.entryAt k := by
  have I1 := Snap.node_full H.toHyp2w m1 s1 hm1 v1 st1 hv1
  have I2 := Snap.node_full H.toHyp2w m2 s2 hm2 v2 st2 hv2
  rw [← I1.log.ents k hr1, ← I2.log.ents k hr2]
  exact Snap.sms_ghost H.toHyp3a hm1 hv1 hm2 hv2 hk1 hk2

/-- … in particular for the **applied** entries of two nodes whose applied index is within their
commit index (`AppliedOk`, which holds outside the restart window — `raft_log.rs:44-46`). -/
theorem C01_cluster_state_machine_safety_applied (cfg : JointConfig) (c0 : Nat) (h : List Sys)
    (H : Snap.Hyp3w cfg c0 h)
    (m1 : Nat) (s1 : Sys) (hm1 : h[m1]? = some s1) (v1 : Nat) (st1 : NState)
    (hv1 : s1.node v1 = some st1) (ha1 : st1.raft.raftLog.AppliedOk)
    (m2 : Nat) (s2 : Sys) (hm2 : h[m2]? = some s2) (v2 : Nat) (st2 : NState)
    (hv2 : s2.node v2 = some st2) (ha2 : st2.raft.raftLog.AppliedOk)
    (k : Nat) (hk1 : k ≤ st1.raft.raftLog.applied) (hk2 : k ≤ st2.raft.raftLog.applied)
    (hr1 : st1.raft.raftLog.abs.snapIdx < k) (hr2 : st2.raft.raftLog.abs.snapIdx < k) :
    st1.raft.raftLog.abs.entryAt k = st2.raft.raftLog.abs.entryAt k :=
  C01_cluster_state_machine_safety cfg c0 h H m1 s1 hm1 v1 st1 hv1 m2 s2 hm2 v2 st2 hv2 k
    (Nat.le_trans hk1 ha1) (Nat.le_trans hk2 ha2) hr1 hr2

/-- **a compacted prefix is a committed prefix** (`C15`-style, for compaction points): in every state,
the snapshot point of every node — of its logical log and of its storage, which coincide — is not
below the common initial snapshot point `c0` and not above the node's commit index; and every other
node, in any state, whose commit index reaches an index `k` up to that snapshot point holds, in its
uncompacted log, exactly the entry the compacting node's uncompacted log holds at `k`. -/
theorem C01_cluster_compacted_prefix_committed (cfg : JointConfig) (c0 : Nat) (h : List Sys)
    (H : Snap.Hyp3w cfg c0 h)
    (m1 : Nat) (s1 : Sys) (hm1 : h[m1]? = some s1) (v1 : Nat) (st1 : NState)
    (hv1 : s1.node v1 = some st1) :
    c0 ≤ st1.raft.raftLog.abs.snapIdx ∧
    (storeLog st1.raft.raftLog.store).snapIdx = st1.raft.raftLog.abs.snapIdx ∧
    st1.raft.raftLog.abs.snapIdx ≤ st1.raft.raftLog.committed ∧
    ∀ (m2 : Nat) (s2 : Sys) (v2 : Nat) (st2 : NState), h[m2]? = some s2 → s2.node v2 = some st2 →
      ∀ k, k ≤ st1.raft.raftLog.abs.snapIdx → k ≤ st2.raft.raftLog.committed →
        (Snap.FL h c0 st1).entryAt k = (Snap.FL h c0 st2).entryAt k := by
  have H2 := H.toHyp2w
  have o := Snap.node_ok H2 hm1 hv1
  refine ⟨Snap.c0_le_snap H2 hm1 hv1, o.sidx, o.snap_le, fun m2 s2 v2 st2 hm2 hv2 k hk1 hk2 => ?_⟩
  exact Snap.sms_ghost H.toHyp3a hm1 hv1 hm2 hv2 (Nat.le_trans hk1 o.snap_le) hk2

/-! ## Relation to C01e and C01d, and non-vacuity -/

/-- the hypotheses of C01e part 1 (with the gaps `anch` and `norir`) imply the hypotheses of this file -/
theorem C01g_subsumes_C01e (cfg : JointConfig) (c0 : Nat) (h : List Sys) (H : Snap.Hyp3 cfg c0 h) :
    Snap.Hyp3w cfg c0 h := H.toHyp3w

/-- the hypotheses of C01d (no compaction, no gaps) imply the hypotheses of this file -/
theorem C01g_subsumes_C01d (cfg : JointConfig) (c0 : Nat) (h : List Sys)
    (H : Cluster.Hyp3w cfg c0 h) : Snap.Hyp3w cfg c0 h := Snap.Hyp3w.of_old H

section Examples
open RaftProps.C02 RaftProps.C05

/-- **non-vacuity, with a real compaction** (kernel-evaluated, `RaftProofs/ClusterSnapExamples.lean`): the
history of `C01e_cluster_nonvacuous` — its last step is `compact 2` at node 1, leader of term 1 with
commit index 2; the snapshot point of node 1 moves from 0 to 1 and its term is forgotten — satisfies
`Snap.Hyp3w`. -/
theorem C01g_cluster_nonvacuous_compaction :
    ∃ h : List Sys, Snap.Hyp3w c02x_cfg 0 h ∧
      ∃ (n : Nat) (a b : Sys) (sta stb : NState),
        h[n]? = some a ∧ h[n + 1]? = some b ∧ a.node 1 = some sta ∧ b.node 1 = some stb ∧
        Node.call sta none (.compact 2) = .ok (.ok, stb) ∧
        stb.raft.state = .leader ∧ stb.raft.raftLog.committed = 2 ∧
        sta.raft.raftLog.abs.snapIdx = 0 ∧ stb.raft.raftLog.abs.snapIdx = 1 ∧
        stb.raft.raftLog.abs.snapTerm = none :=
  have ⟨hcall, hrest⟩ := Snap.cx_eval.2.2.1
  ⟨Snap.cx_hist, Snap.cx_hyp3.toHyp3w, 22, Snap.cx_s22, Snap.cx_s23, Snap.cx_a13, Snap.cx_a14, rfl, rfl,
    rfl, rfl, Snap.c02x_out' _ hcall, hrest⟩

/-- **non-vacuity without `norir`** (kernel-evaluated, `RaftProofs/ClusterCommit4M.lean`): the history
of `C01d_cluster_nonvacuous` — a `MsgReadIndexResp(index = 1, term = 1)` for node 3 is in the
transport, and the step that delivers it takes the commit index of the follower node 3 from 0 to 1 —
satisfies `Snap.Hyp3w`. -/
theorem C01g_cluster_nonvacuous_read_index :
    ∃ h : List Sys, Snap.Hyp3w c02x_cfg 0 h ∧
      ∃ (n : Nat) (a b : Sys) (sta stb : NState) (x : Message),
        h[n]? = some a ∧ h[n + 1]? = some b ∧ a.node 3 = some sta ∧ b.node 3 = some stb ∧
        x ∈ a.net ∧ x.msgType = .msgReadIndexResp ∧ x.frm = 1 ∧ x.to = 3 ∧ x.index = 1 ∧
        x.term = 1 ∧ (∃ res, Node.call sta none (.step x) = .ok (res, stb)) ∧
        stb.raft.state = .follower ∧ sta.raft.raftLog.committed = 0 ∧
        stb.raft.raftLog.committed = 1 :=
  have ⟨hne, hty, hfrm, hto, hidx, htm, hok, hrest⟩ := c01y_eval.2.1
  ⟨c01y_hist, Snap.Hyp3w.of_old c01y_hyp3w, 24, c01y_s24, c01y_s25, c01y_c4, c01y_c5, c01y_rir, rfl,
    rfl, rfl, rfl, List.mem_append_right _ (c02x_head_mem _ hne), hty, hfrm, hto, hidx, htm,
    ⟨_, c02x_out _ hok⟩, hrest⟩

/-- **non-vacuity, both at once** (kernel-evaluated, `RaftProofs/ClusterSnapExamples.lean`): there is a
history of `ClusterSem` that satisfies `Snap.Hyp3w` (voters `{1, 2, 3}`, `c0 = 0`) in which

* a `MsgReadIndexResp(index = 1, term = 1)` for node 3 is in the transport, and the step that delivers
  it takes the commit index of the follower node 3 from 0 to 1 (so `norir` fails), and
* ten steps later the application of node 1 — leader of term 1 with commit index 2 — calls `compact 2`:
  its snapshot point moves from 0 to 1 and the term of the snapshot point is forgotten. -/
theorem C01g_cluster_nonvacuous :
    ∃ h : List Sys, Snap.Hyp3w c02x_cfg 0 h ∧
      (∃ (n : Nat) (a b : Sys) (sta stb : NState) (x : Message),
        h[n]? = some a ∧ h[n + 1]? = some b ∧ a.node 3 = some sta ∧ b.node 3 = some stb ∧
        x ∈ a.net ∧ x.msgType = .msgReadIndexResp ∧ x.index = 1 ∧ x.term = 1 ∧
        (∃ res, Node.call sta none (.step x) = .ok (res, stb)) ∧
        sta.raft.raftLog.committed = 0 ∧ stb.raft.raftLog.committed = 1) ∧
      ∃ (n : Nat) (a b : Sys) (sta stb : NState),
        h[n]? = some a ∧ h[n + 1]? = some b ∧ a.node 1 = some sta ∧ b.node 1 = some stb ∧
        Node.call sta none (.compact 2) = .ok (.ok, stb) ∧
        stb.raft.state = .leader ∧ stb.raft.raftLog.committed = 2 ∧
        sta.raft.raftLog.abs.snapIdx = 0 ∧ stb.raft.raftLog.abs.snapIdx = 1 ∧
        stb.raft.raftLog.abs.snapTerm = none :=
  have ⟨hne, hty, _, _, hidx, htm, hok, _, hrir⟩ := c01y_eval.2.1
  have ⟨hcall, hcomp⟩ := Snap.gx_eval.2.2
  ⟨Snap.gx_hist, Snap.gx_hyp3w,
    ⟨24, c01y_s24, c01y_s25, c01y_c4, c01y_c5, c01y_rir, rfl, rfl, rfl, rfl,
      List.mem_append_right _ (c02x_head_mem _ hne), hty, hidx, htm, ⟨_, c02x_out _ hok⟩, hrir⟩,
    33, Snap.gx_s33, Snap.gx_s34, Snap.gx_a17, Snap.gx_a18, rfl, rfl, rfl, rfl,
    Snap.c02x_out' _ hcall, hcomp⟩

/-- … and the theorems apply to it: State-Machine Safety between the state in which node 3 has
committed index 1 by a `MsgReadIndexResp` and the state after the compaction -/
example (v1 v2 : Nat) (st1 st2 : NState) (h1 : c01y_s25.node v1 = some st1)
    (h2 : Snap.gx_s34.node v2 = some st2) (k : Nat) (hk1 : k ≤ st1.raft.raftLog.committed)
    (hk2 : k ≤ st2.raft.raftLog.committed) (hr1 : st1.raft.raftLog.abs.snapIdx < k)
    (hr2 : st2.raft.raftLog.abs.snapIdx < k) :
    st1.raft.raftLog.abs.entryAt k = st2.raft.raftLog.abs.entryAt k :=
  C01_cluster_state_machine_safety c02x_cfg 0 Snap.gx_hist Snap.gx_hyp3w 25 c01y_s25 rfl v1 st1 h1
    34 Snap.gx_s34 rfl v2 st2 h2 k hk1 hk2 hr1 hr2

end Examples

end RaftProps.C01g
