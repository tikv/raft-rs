import RaftProofs.ClusterSnapBatchSane
import RaftProofs.ClusterSnapBatchGateways
import RaftProofs.ClusterSnap7J
import RaftProps.C01e
import RaftProps.C01g

/-!
# C01n — joining `batch_append` (C01f / C01k / C01l / C01m) with log compaction (C01e / C01g): the joined
bundle, what is proved for it, and what is missing

Two lines of development prove the commit layer of `ClusterSem` (leader commit rule, Leader
Completeness, commit soundness, State-Machine Safety) and Log Matching:

* with `batch_append` on, off or switched at any time, for histories **without compaction**
  (`ClusterB.Hyp3wL`, `RaftProps/C01m.lean`);
* with log compaction (`Snap.Hyp3w`, `RaftProps/C01g.lean`) and with snapshots between nodes
  (`Snap5.Hyp3r`, `RaftProps/C01j.lean`), for histories **without batching** (field `nb`).

This file introduces the **joined bundle** `Snap7.Hyp3wB` = `Snap.Hyp3w` without `nb`, plus `c0 = 0`
(`RaftProofs/ClusterSnapBatchBundle.lean`) and proves, for histories with batching AND compaction:

* `C04_cluster_leader_commit_rule_quorum` — the quorum part of the leader commit rule (statement of
  `RaftProps/C01e.lean`, there under `Snap.Hyp`), **unconditional**;
* `C01n_matched_backed` — every `matched` value of a leader is backed by the leader's own `persisted` or
  by an accepting `MsgAppendResponse` in the transport, **unconditional**;
* `C01n_call_relation`, `C01n_new_appends_above_snapshot_point` — the per-call relation of the batching
  layer (`Raft.PB.PRb`: progress within the log, pending reads below the commit index, anchors of queued
  appends, a queued `MsgSnapshot` stays) for **every** `NodeOp`, `compact` included, **extended by the
  anchoring fact `qf` of C01g** (`Raft.PB.F.PRb`: a `MsgAppend` queued in a call is not anchored below the
  snapshot point) — the per-call layer of the join is complete;
* `C05_cluster_log_matching_batch_compaction_partial` — Log Matching, **conditional** on C05d's
  `SaneAnchors`;
* `C01n_step_gateways_partial`, `C01n_dead_stays_partial` — the cluster-level gateways of the compaction
  stack (`trans_of_cstep`, `call_facts`) re-proved from the batching layer, and the start of the joined
  stack (`Snap.J`), **conditional** on `SaneAnchors`;
* `C01n_commit_layer_partial` — the reduction to C01g, **conditional** on `NoBatch`;
* `C01n_leader_queue_overtaken_by_compaction` — a kernel-evaluated 32-state history under the joined
  bundle in which a compaction overtakes a queued `MsgAppend` of the (batching) leader: the clean-queue
  invariant `ClusterB.M.leader_queueB` of C01f is **false** with compaction, so the join is not a merge
  of the two stacks;
* `C01n_subsumes_C01g`, `C01n_subsumes_C01m`, `C01n_prefix_closed` — the bundle contains both lines and
  is closed under prefixes;
* `C01n_cluster_batch_compaction_nonvacuous` — a kernel-evaluated 28-state history under the joined
  bundle in which the leader, with `batch_append = true`, compacts its log and **afterwards**
  `try_batching` glues two proposals onto a queued `MsgAppend`.

**Level reached: below Level 1.**  The remaining statements of C01g part 1 (Leader Completeness,
follower / stored commit soundness, State-Machine Safety, compacted prefix committed, and the
durable-acknowledgement part of the leader commit rule) are NOT proved for the joined bundle; what they
need is listed in `RaftProps/C01n.REPORT.md`.
-/
namespace RaftProps.C01n
open RaftModel RaftModel.Cluster RaftModel.Node RaftModel.Raft RaftModel.Raft.CC
open RaftProps.C02 RaftProps.C05

/-! ## The bundle -/

/-- C01g's bundle (compaction, `NoBatch`) with `c0 = 0` is a special case of the joined bundle -/
theorem C01n_subsumes_C01g (cfg : JointConfig) (h : List Sys) (H : Snap.Hyp3w cfg 0 h) :
    Snap7.Hyp3wB cfg 0 h := Snap7.Hyp3wB.of_hyp3w H

/-- C01m's bundle (batching, no compaction) is a special case of the joined bundle -/
theorem C01n_subsumes_C01m (cfg : JointConfig) (c0 : Nat) (h : List Sys)
    (H : ClusterB.Hyp3wL cfg c0 h) : Snap7.Hyp3wB cfg c0 h := Snap7.Hyp3wB.of_hyp3wL H

/-- the joined bundle is closed under non-empty prefixes (the shape the circle-breaking inductions of
C01f / C01g need) -/
theorem C01n_prefix_closed (cfg : JointConfig) (c0 : Nat) (h : List Sys)
    (H : Snap7.Hyp3wB cfg c0 h) (k : Nat) (hk : 0 < k) : Snap7.Hyp3wB cfg c0 (h.take k) :=
  H.take hk

/-! ## Unconditional results for histories with batching and compaction -/

/-- **C04 `cluster_leader_commit_rule`** (quorum part; the statement of
`RaftProps.C01e.C04_cluster_leader_commit_rule_quorum`) **with compaction and batching** — whenever a
step of a history takes the commit index of a node `l` that is leader of term `t` after the step from
`c` to `c' > c`, the entry at `c'` in its log carries term `t`, and there is a joint quorum `Q` of `cfg`
such that every `j ∈ Q` is `l` itself with `persisted ≥ c'`, or has an accepting `MsgAppendResponse`
for term `t` with `index ≥ c'` in the transport (already before the step). -/
theorem C04_cluster_leader_commit_rule_quorum (cfg : JointConfig) (c0 : Nat) (h : List Sys)
    (H : Snap7.Hyp3wB cfg c0 h)
    (n : Nat) (a b : Sys) (ha : h[n]? = some a) (hb : h[n + 1]? = some b)
    (l : Nat) (sta stb : NState) (hla : a.node l = some sta) (hlb : b.node l = some stb)
    (t : Nat) (hs : stb.raft.state = .leader) (ht : stb.raft.term = t)
    (hc : sta.raft.raftLog.committed < stb.raft.raftLog.committed) :
    stb.raft.raftLog.term stb.raft.raftLog.committed = .ok t ∧
    ∃ Q, IsJointQuorum cfg Q ∧ ∀ j ∈ Q,
      (j = l ∧ stb.raft.raftLog.committed ≤ stb.raft.raftLog.persisted) ∨
      RaftProps.C01e.AckInNet a.net j t stb.raft.raftLog.committed := by
  obtain ⟨h1, Q, hQ, hq⟩ := H.commit_step n a b ha hb l sta stb hla hlb hs hc
  subst ht
  refine ⟨h1, Q, hQ, fun j hj => (hq j hj).imp (fun g => g) (fun g => ?_)⟩
  obtain ⟨x, hx, hack, h2, h3, h4⟩ := g
  exact ⟨x, hx, hack.1, hack.2, h2, h3, h4⟩

/-- **the matched tables are backed by the transport**, with compaction and batching: in every state,
for every leader, every `matched` value is `0`, or the leader's own (`≤ persisted`), or backed by an
accepting `MsgAppendResponse` of the leader's term in the transport (`Cluster.MOKc`) -/
theorem C01n_matched_backed (cfg : JointConfig) (c0 : Nat) (h : List Sys)
    (H : Snap7.Hyp3wB cfg c0 h) (n : Nat) (s : Sys) (hn : h[n]? = some s) : MOKc s :=
  H.mokc n s hn

/-- **the per-call relation of the batching layer, `compact` included, with the anchoring fact of
C01g**: one call of a node (any `NodeOp` but `drain` / `rstep`; `compact k` under the storage contract
`CompactOk`), batching on or off, keeps "progress within the log" (`po`), "pending reads at or below the
commit index" (`rd`), anchors every queued `MsgAppend` at the anchor of an old queued one or inside the
log (`qa`), keeps a queued `MsgSnapshot` queued (`sn`), and — the fact `PR.qf` that C01g added to the
non-batching relation, here for the batching relation (`Raft.PB.F.PRb`,
`RaftProofs/ClusterSnapBatchPerCall.lean`) — **anchors every `MsgAppend` it queues at or
above the snapshot point the log had when the call started**, unless the message took over the anchor of
an old queued `MsgAppend` (`try_batching`) or a `MsgSnapshot` is queued (`qf`). -/
theorem C01n_call_relation (st st' : NState) (rnd : Option Nat) (op : NodeOp) (res : OpRes)
    (hinv : st.raft.raftLog.Inv)
    (hop : op ≠ .drain ∧ ∀ m, op ≠ .rstep m)
    (hc : ∀ k, op = .compact k → CompactOk st.raft.raftLog k)
    (hsn : st.raft.raftLog.unstable.snapshot = none)
    (hms : ∀ m, op = .step m → m.msgType ≠ .msgSnapshot)
    (hpo : st.raft.state = .leader →
      CP.QSnap st.raft.msgs ∨ CP.PAll st.raft.raftLog.lastIndex st.raft.prs)
    (hrd : st.raft.state = .leader → ∀ p ∈ st.raft.readOnly.pendingReadIndex,
      p.2.index ≤ st.raft.raftLog.committed)
    (hB : ∀ m, op = .step m → st.raft.state = .leader → m.msgType = .msgAppendResponse →
      m.reject = false → (m.term = 0 ∨ m.term = st.raft.term) →
      m.index ≤ st.raft.raftLog.lastIndex)
    (h : Node.call st rnd op = .ok (res, st')) :
    PB.F.PRb st.raft st'.raft ∧ PB.PRb st.raft st'.raft :=
  have g := Snap7.call_prf' st st' rnd op res hinv hop hc hsn hms hpo hrd hB h
  ⟨g, Snap7.prb_of_prf g⟩

/-- the anchoring fact, spelled out -/
theorem C01n_new_appends_above_snapshot_point (st st' : NState) (rnd : Option Nat) (op : NodeOp)
    (res : OpRes) (hinv : st.raft.raftLog.Inv)
    (hop : op ≠ .drain ∧ ∀ m, op ≠ .rstep m)
    (hc : ∀ k, op = .compact k → CompactOk st.raft.raftLog k)
    (hsn : st.raft.raftLog.unstable.snapshot = none)
    (hms : ∀ m, op = .step m → m.msgType ≠ .msgSnapshot)
    (hpo : st.raft.state = .leader →
      CP.QSnap st.raft.msgs ∨ CP.PAll st.raft.raftLog.lastIndex st.raft.prs)
    (hrd : st.raft.state = .leader → ∀ p ∈ st.raft.readOnly.pendingReadIndex,
      p.2.index ≤ st.raft.raftLog.committed)
    (hB : ∀ m, op = .step m → st.raft.state = .leader → m.msgType = .msgAppendResponse →
      m.reject = false → (m.term = 0 ∨ m.term = st.raft.term) →
      m.index ≤ st.raft.raftLog.lastIndex)
    (h : Node.call st rnd op = .ok (res, st'))
    (x : Message) (hx : x ∈ st'.raft.msgs) (hty : x.msgType = .msgAppend) :
    (∃ y ∈ st.raft.msgs, y.msgType = .msgAppend ∧ y.index = x.index ∧ y.logTerm = x.logTerm) ∨
      (∃ y ∈ st'.raft.msgs, y.msgType = .msgSnapshot) ∨
      st.raft.raftLog.firstIndex ≤ x.index + 1 :=
  (Snap7.call_prf' st st' rnd op res hinv hop hc hsn hms hpo hrd hB h).qf x hx hty

/-! ## Conditional results -/

/-- **conditional — Log Matching with batching and compaction** (the statement of
`C05_cluster_log_matching_batch`, C05d, under the joined bundle): *provided* no `MsgAppend` is ever
queued with an anchor in the void (`hsane`: C05d's `SaneAnchors` in every state), two logs of one state
that hold entries of equal term at an index agree at every smaller index both retain.

**Missing**: the derivation of `SaneAnchors` from the joined bundle.  C01f / C01m derive it from the
commit layer for histories without compaction; C01g derives the transport form (`C01g_sane_anchors`)
with compaction but without batching. -/
theorem C05_cluster_log_matching_batch_compaction_partial (cfg : JointConfig) (c0 : Nat)
    (h : List Sys) (H : Snap7.Hyp3wB cfg c0 h) (hsane : ∀ s ∈ h, SaneAnchors s)
    (s : Sys) (hs : s ∈ h) (i j : Nat) (sti stj : NState)
    (hi : s.node i = some sti) (hj : s.node j = some stj)
    (k : Nat) (e e' : Entry) (he : sti.raft.raftLog.abs.entryAt k = some e)
    (he' : stj.raft.raftLog.abs.entryAt k = some e') (ht : e.term = e'.term)
    (k' : Nat) (hk : k' ≤ k) (a b : Entry) (ha : sti.raft.raftLog.abs.entryAt k' = some a)
    (hb' : stj.raft.raftLog.abs.entryAt k' = some b) : a = b :=
  C05_cluster_log_matching_batch cfg H.ne H.nd1 H.nd2 h H.hist H.fix H.init H.csteps
    (.inr ⟨ClusterB.multiVoter_of_nolone H.nolone, hsane⟩) s hs i j sti stj hi hj k e e' he he' ht
    k' hk a b ha hb'

/-- **conditional — the commit layer**: with `NoBatch` in every state the joined bundle is C01g's, so
every theorem of `RaftProps/C01g.lean` applies (here: State-Machine Safety, retained-index form).

**Missing** (to drop `hnb`): see `RaftProps/C01n.REPORT.md` — the Snap stack (`ClusterSnapHyp`,
`ClusterSnap5C–5X` read at `q := False`) uses `nb` of its bundle for the invariant and the transition of the Log
Matching layer, `kstep_g`, `call_pr2` and `NodeOk.nb` (`call_sto` / `call_q`); the cluster level of the batching
layer exists only over `Cluster.KStep` / `shape` (no compaction). -/
theorem C01n_commit_layer_partial (cfg : JointConfig) (c0 : Nat) (h : List Sys)
    (H : Snap7.Hyp3wB cfg c0 h) (hnb : ∀ s ∈ h, NoBatch s)
    (m1 : Nat) (s1 : Sys) (hm1 : h[m1]? = some s1) (v1 : Nat) (st1 : NState)
    (hv1 : s1.node v1 = some st1)
    (m2 : Nat) (s2 : Sys) (hm2 : h[m2]? = some s2) (v2 : Nat) (st2 : NState)
    (hv2 : s2.node v2 = some st2)
    (k : Nat) (hk1 : k ≤ st1.raft.raftLog.committed) (hk2 : k ≤ st2.raft.raftLog.committed)
    (hr1 : st1.raft.raftLog.abs.snapIdx < k) (hr2 : st2.raft.raftLog.abs.snapIdx < k) :
    st1.raft.raftLog.abs.entryAt k = st2.raft.raftLog.abs.entryAt k :=
  RaftProps.C01g.C01_cluster_state_machine_safety cfg c0 h (H.toHyp3w_partial hnb) m1 s1 hm1 v1 st1
    hv1 m2 s2 hm2 v2 st2 hv2 k hk1 hk2 hr1 hr2

/-- **conditional — the Log-Matching transition of every step, and what the node-level layers say about
a `call` / `deliver` step, with batching and compaction** (the gateways `Snap.trans_of_cstep`,
`Snap5.call_facts` of the compaction stack, re-proved without `nb` from the batching layer of C01f:
`RaftProofs/ClusterSnapBatchGateways.lean`), *provided* `SaneAnchors` holds in every state.  **Missing**: as for
`C05_cluster_log_matching_batch_compaction_partial`. -/
theorem C01n_step_gateways_partial (cfg : JointConfig) (c0 : Nat) (h : List Sys)
    (H : Snap7.Hyp3wB cfg c0 h) (hsane : ∀ s ∈ h, SaneAnchors s)
    (n : Nat) (a b : Sys) (ha : h[n]? = some a) (hb : h[n + 1]? = some b) :
    (∃ k st st' pers crash, Trans a b k st st' pers crash) ∧
    (∀ (i : Nat) (st st' : NState) (rnd : Option Nat) (op : NodeOp) (res : OpRes),
      a.node i = some st → b.node i = some st' → b.net = a.net →
      (appOp op = true ∨ ∃ m, op = .step m ∧ m ∈ a.net ∧ m.to = i) →
      (∀ j, op = .compact j → CompactOk st.raft.raftLog j) →
      Node.call st rnd op = .ok (res, st') →
      CB.Gb (Anet a.net) st.raft (CV.opMsg op) st'.raft ∧
        Bt.LStepB st.raft st'.raft (CV.opMsg op) ∧ Snap.LogRel' st st' op ∧ st.raft.id = i) :=
  ⟨Snap7.trans_of_cstepS H hsane ha hb,
    fun _ _ _ _ _ _ hi hi' hnet hop hc hcall =>
      Snap7.call_factsS H hsane ha hb hi hi' hnet hop hc hcall⟩

/-- **conditional — the start of the joined stack** (`RaftProofs/ClusterSnapBatchSane.lean`: the theorems
under `Snap.Hyp` / `Snap.Hyp2w` over bundles with `mv` + `sane` in place of `nb`): under the joined bundle and
`SaneAnchors`, "a term is led in one stretch" holds with batching and compaction — once the node that
leads term `t` is no longer its leader (`Dead`), it stays so.  **Missing**: the rest of
the stack (see the report). -/
theorem C01n_dead_stays_partial (cfg : JointConfig) (c0 : Nat) (h : List Sys)
    (H : Snap7.Hyp3wB cfg c0 h) (hsane : ∀ s ∈ h, SaneAnchors s)
    (n : Nat) (a b : Sys) (ha : h[n]? = some a) (hb : h[n + 1]? = some b) (l t : Nat)
    (hd : Dead a l t) : Dead b l t :=
  Snap.J.Dead.step
    (cfg := cfg) (c0 := c0) (h := h)
    { hist := H.hist, fix := H.fix, ne := H.ne, nd1 := H.nd1, nd2 := H.nd2, init := H.init,
      steps := H.steps, mv := ClusterB.multiVoter_of_nolone H.nolone, sane := hsane,
      nosnap := H.nosnap, nolone := H.nolone, nopend := H.nopend, first0 := H.first0,
      initc := H.initc } ha hb hd

/-! ## Non-vacuity -/

section Examples
open RaftModel.ClusterB RaftModel.Cluster.Snap7

/-- **non-vacuity with batching on AND a real compaction** (kernel-evaluated,
`RaftProofs/ClusterSnap7C.lean`): there is a history of `ClusterSem` that satisfies the joined bundle
(voters `{1, 2, 3}`, `c0 = 0`) and not `NoBatch`, in which

1. the application of node 1 — leader, `batch_append = true`, commit index 3 — calls `compact 2`: its
   snapshot point moves from 0 to 1 and the term of the snapshot point is forgotten, and
2. **after the compaction** a proposal at node 1 replaces the queued `MsgAppend` `y` (anchored at
   index 3, above the new snapshot point) by `{ y with entries := y.entries ++ es, commit := c }` with
   `es ≠ []` (`try_batching`). -/
theorem C01n_cluster_batch_compaction_nonvacuous :
    ∃ h : List Sys, Snap7.Hyp3wB c02x_cfg 0 h ∧ ¬ (∀ s ∈ h, NoBatch s) ∧
      (∃ (n : Nat) (a b : Sys) (sta stb : NState),
        h[n]? = some a ∧ h[n + 1]? = some b ∧ a.node 1 = some sta ∧ b.node 1 = some stb ∧
        Node.call sta none (.compact 2) = .ok (.ok, stb) ∧
        stb.raft.state = .leader ∧ stb.raft.batchAppend = true ∧ stb.raft.raftLog.committed = 3 ∧
        sta.raft.raftLog.abs.snapIdx = 0 ∧ stb.raft.raftLog.abs.snapIdx = 1 ∧
        stb.raft.raftLog.abs.snapTerm = none) ∧
      ∃ (n : Nat) (a b : Sys) (sta stb : NState) (y x : Message) (es : List Entry) (c : Nat),
        h[n]? = some a ∧ h[n + 1]? = some b ∧ a.node 1 = some sta ∧ b.node 1 = some stb ∧
        sta.raft.raftLog.abs.snapIdx = 1 ∧
        y ∈ sta.raft.msgs ∧ x ∈ stb.raft.msgs ∧ y.msgType = .msgAppend ∧ y.index = 3 ∧ es ≠ [] ∧
        x = { y with entries := y.entries ++ es, commit := c } := by
  obtain ⟨-, ⟨hok, a1, a2, a3, a4, a5, a6⟩, b1, b2, b3, b4, b5, b6, b7⟩ := nx_eval
  refine ⟨nx_hist, nx_hyp3wB, ?_, ?_, ?_⟩
  · intro hnb
    have := hnb nx_s25 (by simp [nx_hist, nx_tail]) 1 nx_a16 rfl
    rw [a2] at this; cases this
  · exact ⟨24, c01w_s24, nx_s25, c01w_a15, nx_a16, rfl, rfl, rfl, rfl, Snap.c02x_out' _ hok,
      a1, a2, a3, a4, a5, a6⟩
  · exact ⟨26, nx_s26, nx_s27, nx_a17, nx_a18, nx_a17.raft.msgs.head!, nx_a18.raft.msgs.head!,
      nx_a18.raft.msgs.head!.entries.drop 1, 3, rfl, rfl, rfl, rfl, b1, c02x_head_mem _ b2,
      c02x_head_mem _ b3, b4, b5, b6, b7⟩

/-- **the clean-queue invariant of the batching layer fails once compaction is allowed** (kernel-evaluated,
`RaftProofs/ClusterSnap7J.lean`): there is a history under the joined bundle in which the leader — with
`batch_append = true` — holds a queued `MsgAppend` (anchor 0, entry 1) that is **not** a sub-log of its
log, because a compaction (snapshot point 2) overtook the queued message.  `ClusterB.M.leader_queueB` /
`C01f_leader_queue_clean` conclude `SubW x log` for every queued `MsgAppend` of a leader, and C01f's
`append_prov` records exactly that for a message `try_batching` glued onto: the join needs these
invariants restated over the uncompacted ghost logs (`Snap.FL`). -/
theorem C01n_leader_queue_overtaken_by_compaction :
    ∃ h : List Sys, Snap7.Hyp3wB c02x_cfg 0 h ∧
      ∃ (n : Nat) (s : Sys) (st : NState) (x : Message),
        h[n]? = some s ∧ s.node 1 = some st ∧ st.raft.state = .leader ∧
        st.raft.batchAppend = true ∧ st.raft.raftLog.abs.snapIdx = 2 ∧
        x ∈ st.raft.msgs ∧ x.msgType = .msgAppend ∧ x.index = 0 ∧
        ¬ SubW x st.raft.raftLog.abs :=
  ⟨sx_hist, sx_hyp3wB, 31, sx_s31, sx_a19, sx_app, rfl, rfl, sx_not_sub.2.2.1, sx_not_sub.2.2.2.1,
    sx_not_sub.2.2.2.2.1, sx_not_sub.1, sx_not_sub.2.1, sx_not_sub.2.2.2.2.2.1,
    sx_not_sub.2.2.2.2.2.2⟩

/-- … and the unconditional theorem applies to it: the commit rule at any step of that history -/
example (n : Nat) (a b : Sys) (ha : nx_hist[n]? = some a) (hb : nx_hist[n + 1]? = some b)
    (l : Nat) (sta stb : NState) (hla : a.node l = some sta) (hlb : b.node l = some stb)
    (hs : stb.raft.state = .leader)
    (hc : sta.raft.raftLog.committed < stb.raft.raftLog.committed) :
    stb.raft.raftLog.term stb.raft.raftLog.committed = .ok stb.raft.term :=
  (C04_cluster_leader_commit_rule_quorum c02x_cfg 0 nx_hist nx_hyp3wB n a b ha hb l sta stb hla hlb
    stb.raft.term hs rfl hc).1

end Examples

end RaftProps.C01n
