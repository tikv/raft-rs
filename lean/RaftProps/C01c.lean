import RaftProofs.ClusterCommit3H
import RaftProps.C01d

/-!
# C01 / C03 / C04, cluster level — the commit rule, Leader Completeness and State-Machine Safety for
`ClusterSem`

`ClusterSem` (`RaftModel/Cluster.lean`) is the cluster built from the executable node model.
`RaftProps/C02c.lean` proves Election Safety for it, `RaftProps/C05c.lean` Log Matching; this file
proves the commit layer on top of both: the leader's commit rule with durable acknowledgements,
Leader Completeness, State-Machine Safety and the soundness of every commit index.

## Hypotheses (`Hyp3 cfg c0 h`, all explicit)

`Hyp` (`RaftProofs/ClusterCommitHyp.lean`):
* those of C02c / C05c: `History h`, fixed voter configuration `cfg` (non-empty, duplicate-free),
  `InitOk` start, no batching;
* `KStep` between consecutive states (`RaftProofs/ClusterCommitKStep.lean`): the four rules of
  `Cluster.Step` with the storage / Ready contract —
  a node that is not the leader hands its queue to the transport only when it has no unstable entries
  and no unstable snapshot (*persist before send*), every `send` has term and vote persisted,
  `commit_apply k` only for `k ≤ persisted` and with term and vote persisted (the `HardState` is written
  as a whole), and no log compaction (**gap**);
* no `MsgSnapshot` in the transport (**gap**).

`Hyp2` (`RaftProofs/ClusterCommitHyp.lean`):
* `nolone`: no joint quorum of `cfg` fits into a single node;
* `shape` (**gap**): no pending snapshot, every storage keeps the first index `c0 + 1`;
* `initc`: every initial commit index is `c0`;
* `norir` (**gap**): no `MsgReadIndexResp` in the transport.

`Hyp3` (`RaftProofs/ClusterCommitHyp.lean`), one more **gap** — a fact that holds in the model but is
not derived here: `anch` (a `MsgAppend` is anchored inside its sender's log); and one more hypothesis
on the initial state,
`snapt0` (the term an initial storage records for the common snapshot point is not above the initial
term of any node).

The main induction is `RaftModel.Cluster.sm_all` (`RaftProofs/ClusterCommitPlain.lean`; it is `Snap.sm_all` of
`RaftProofs/ClusterSnapCompaction.lean` for a history that never compacts).

The gaps `anch` and `norir` are discharged in `RaftProps/C01d.lean` (bundle `Hyp3w`); the theorems of this
file are corollaries of the ones there (`Hyp3.toHyp3w`).
-/
namespace RaftProps.C01
open RaftModel RaftModel.Cluster RaftModel.Node RaftModel.Raft RaftModel.Raft.CC

/-- an accepting `MsgAppendResponse` of node `j` for term `t` with index at least `c` is in `net` -/
def AckInNet (net : List Message) (j t c : Nat) : Prop :=
  ∃ a ∈ net, a.msgType = .msgAppendResponse ∧ a.reject = false ∧ a.frm = j ∧
    (a.term = t ∨ a.term = 0) ∧ c ≤ a.index

/-- **C04 `cluster_leader_commit_rule`** (quorum part, under `Hyp` alone) — whenever a step of a history
takes the commit index of a node `l` that is leader of term `t` after the step from `c` to `c' > c`,
the entry at `c'` in its log carries term `t`, and there is a joint quorum `Q` of `cfg` such that every
`j ∈ Q` is `l` itself with `persisted ≥ c'`, or has an accepting `MsgAppendResponse` for term `t` with
`index ≥ c'` in the transport (already before the step). -/
theorem C04_cluster_leader_commit_rule_quorum (cfg : JointConfig) (h : List Sys) (H : Hyp cfg h)
    (n : Nat) (a b : Sys) (ha : h[n]? = some a) (hb : h[n + 1]? = some b)
    (l : Nat) (sta stb : NState) (hla : a.node l = some sta) (hlb : b.node l = some stb)
    (t : Nat) (hs : stb.raft.state = .leader) (ht : stb.raft.term = t)
    (hc : sta.raft.raftLog.committed < stb.raft.raftLog.committed) :
    stb.raft.raftLog.term stb.raft.raftLog.committed = .ok t ∧
    ∃ Q, IsJointQuorum cfg Q ∧ ∀ j ∈ Q,
      (j = l ∧ stb.raft.raftLog.committed ≤ stb.raft.raftLog.persisted) ∨
      AckInNet a.net j t stb.raft.raftLog.committed := by
  obtain ⟨h1, Q, hQ, hq⟩ := H.commit_step n a b ha hb l sta stb hla hlb hs hc
  subst ht
  refine ⟨h1, Q, hQ, fun j hj => (hq j hj).imp (fun g => g) (fun g => ?_)⟩
  obtain ⟨x, hx, hack, h2, h3, h4⟩ := g
  exact ⟨x, hx, hack.1, hack.2, h2, h3, h4⟩

/-- the commit event of a step that moves the commit index of a node that is leader afterwards -/
theorem ev_of_step {h : List Sys} {n : Nat} {a b : Sys} (ha : h[n]? = some a)
    (hb : h[n + 1]? = some b) {l : Nat} {sta stb : NState} (hla : a.node l = some sta)
    (hlb : b.node l = some stb) (hs : stb.raft.state = .leader)
    (hc : sta.raft.raftLog.committed < stb.raft.raftLog.committed) :
    Ev.ok h ⟨n, l, stb.raft.term, stb.raft.raftLog.committed, stb.raft.raftLog.abs,
      stb.raft.raftLog.persisted⟩ :=
  ⟨a, b, sta, stb, ha, hb, hla, hlb, hs, rfl, hc, rfl, rfl, rfl⟩

/-- **C04 `cluster_leader_commit_rule`** — the commit rule with **durable acknowledgements**: whenever
a step `h[n] → h[n+1]` takes the commit index of a node `l` that is leader of term `t` after the step
from `c` to `c' > c`, the entry at `c'` in its log carries term `t`, and there is a joint quorum `Q` of
`cfg` such that every `j ∈ Q` is

* `l` itself, with `persisted ≥ c'` — and its storage holds its log up to `c'`; or
* the sender of an accepting `MsgAppendResponse` `x` for term `t` with `index ≥ c'` that is in the
  transport before the step, **and in every state of the history whose transport holds `x` — from the
  moment `x` entered the transport on — the storage of `j` holds `l`'s log up to `c'`**. -/
theorem C04_cluster_leader_commit_rule (cfg : JointConfig) (c0 : Nat) (h : List Sys)
    (H : Hyp3 cfg c0 h)
    (n : Nat) (a b : Sys) (ha : h[n]? = some a) (hb : h[n + 1]? = some b)
    (l : Nat) (sta stb : NState) (hla : a.node l = some sta) (hlb : b.node l = some stb)
    (t : Nat) (hs : stb.raft.state = .leader) (ht : stb.raft.term = t)
    (hc : sta.raft.raftLog.committed < stb.raft.raftLog.committed) :
    stb.raft.raftLog.term stb.raft.raftLog.committed = .ok t ∧
    ∃ Q, IsJointQuorum cfg Q ∧ ∀ j ∈ Q,
      (j = l ∧ stb.raft.raftLog.committed ≤ stb.raft.raftLog.persisted ∧
        ∀ k, k ≤ stb.raft.raftLog.committed →
          (storeLog stb.raft.raftLog.store).entryAt k = stb.raft.raftLog.abs.entryAt k) ∨
      ∃ x ∈ a.net, x.msgType = .msgAppendResponse ∧ x.reject = false ∧ x.frm = j ∧ x.term = t ∧
        stb.raft.raftLog.committed ≤ x.index ∧
        ∀ (m : Nat) (s : Sys) (stj : NState), h[m]? = some s → x ∈ s.net → s.node j = some stj →
          ∀ k, k ≤ stb.raft.raftLog.committed →
            (storeLog stj.raft.raftLog.store).entryAt k = stb.raft.raftLog.abs.entryAt k :=
  RaftProps.C01d.C04_cluster_leader_commit_rule cfg c0 h H.toHyp3w n a b ha hb l sta stb hla hlb t
    hs ht hc

/-- **C03 `cluster_leader_completeness`** — every entry a leader has committed is in the log of every
leader of a later term: if a step `h[n] → h[n+1]` takes the commit index of `l`, leader of term `t`
after the step, to `c'`, then any node that leads a term `t' > t` in any state `h[m]` of the history
holds, at every index up to `c'`, the entry `l` held there. -/
theorem C03_cluster_leader_completeness (cfg : JointConfig) (c0 : Nat) (h : List Sys)
    (H : Hyp3 cfg c0 h)
    (n : Nat) (a b : Sys) (ha : h[n]? = some a) (hb : h[n + 1]? = some b)
    (l : Nat) (sta stb : NState) (hla : a.node l = some sta) (hlb : b.node l = some stb)
    (hs : stb.raft.state = .leader)
    (hc : sta.raft.raftLog.committed < stb.raft.raftLog.committed)
    (m : Nat) (s : Sys) (hm : h[m]? = some s) (l' : Nat) (st' : NState)
    (hl' : s.node l' = some st') (hs' : st'.raft.state = .leader)
    (ht : stb.raft.term < st'.raft.term) :
    ∀ k, k ≤ stb.raft.raftLog.committed →
      st'.raft.raftLog.abs.entryAt k = stb.raft.raftLog.abs.entryAt k :=
  RaftProps.C01d.C03_cluster_leader_completeness cfg c0 h H.toHyp3w n a b ha hb l sta stb hla hlb
    hs hc m s hm l' st' hl' hs' ht

/-- the logs of two commit events agree up to the smaller commit index -/
theorem ev_logs_agree {cfg : JointConfig} {c0 : Nat} {h : List Sys} (H : Hyp3 cfg c0 h)
    {E1 E2 : Ev} (h1 : E1.ok h) (h2 : E2.ok h) (hle : E1.c ≤ E2.c) : EqUpTo E1.gE E2.gE E1.c :=
  RaftProps.C01d.ev_logs_agree H.toHyp3w h1 h2 hle

/-- **C04 `cluster_follower_commit_sound`** — *every* commit index is sound: in every state `h[m]`,
what a node `v` has marked committed is at most the common snapshot point `c0`, or it was committed by
a leader: there is an earlier step `h[n] → h[n+1]` (`n < m`) that took the commit index of a node `l`,
leader of a term `t ≤ term(v)` after the step, to some `c' ≥ committed(v)`, and the log of `v` equals
the log `l` had then up to `committed(v)`. -/
theorem C04_cluster_follower_commit_sound (cfg : JointConfig) (c0 : Nat) (h : List Sys)
    (H : Hyp3 cfg c0 h) (m : Nat) (s : Sys) (hm : h[m]? = some s) (v : Nat) (st : NState)
    (hv : s.node v = some st) :
    st.raft.raftLog.committed ≤ c0 ∨
    ∃ (n : Nat) (a b : Sys) (l : Nat) (sta stb : NState), n < m ∧ h[n]? = some a ∧
      h[n + 1]? = some b ∧ a.node l = some sta ∧ b.node l = some stb ∧
      stb.raft.state = .leader ∧ sta.raft.raftLog.committed < stb.raft.raftLog.committed ∧
      st.raft.raftLog.committed ≤ stb.raft.raftLog.committed ∧ stb.raft.term ≤ st.raft.term ∧
      ∀ k, k ≤ st.raft.raftLog.committed →
        st.raft.raftLog.abs.entryAt k = stb.raft.raftLog.abs.entryAt k :=
  RaftProps.C01d.C04_cluster_follower_commit_sound cfg c0 h H.toHyp3w m s hm v st hv

/-- … and so is every **stored** commit index (what a restarted node starts from): it is not ahead of
the commit index, and it is covered by a leader's commit of a term not above the stored term, with the
stored entries. -/
theorem C04_cluster_stored_commit_sound (cfg : JointConfig) (c0 : Nat) (h : List Sys)
    (H : Hyp3 cfg c0 h) (m : Nat) (s : Sys) (hm : h[m]? = some s) (v : Nat) (st : NState)
    (hv : s.node v = some st) :
    st.raft.raftLog.store.hardState.commit ≤ st.raft.raftLog.committed ∧
    (st.raft.raftLog.store.hardState.commit ≤ c0 ∨
     ∃ (n : Nat) (a b : Sys) (l : Nat) (sta stb : NState), n < m ∧ h[n]? = some a ∧
      h[n + 1]? = some b ∧ a.node l = some sta ∧ b.node l = some stb ∧
      stb.raft.state = .leader ∧ sta.raft.raftLog.committed < stb.raft.raftLog.committed ∧
      st.raft.raftLog.store.hardState.commit ≤ stb.raft.raftLog.committed ∧
      stb.raft.term ≤ st.raft.raftLog.store.hardState.term ∧
      ∀ k, k ≤ st.raft.raftLog.store.hardState.commit →
        (storeLog st.raft.raftLog.store).entryAt k = stb.raft.raftLog.abs.entryAt k) :=
  RaftProps.C01d.C04_cluster_stored_commit_sound cfg c0 h H.toHyp3w m s hm v st hv

/-- **C01 `cluster_state_machine_safety`** — any two nodes, in any two states of the history (the same
node before and after a restart included), hold the same entry at every index both have marked
committed. -/
theorem C01_cluster_state_machine_safety (cfg : JointConfig) (c0 : Nat) (h : List Sys)
    (H : Hyp3 cfg c0 h)
    (m1 : Nat) (s1 : Sys) (hm1 : h[m1]? = some s1) (v1 : Nat) (st1 : NState)
    (hv1 : s1.node v1 = some st1)
    (m2 : Nat) (s2 : Sys) (hm2 : h[m2]? = some s2) (v2 : Nat) (st2 : NState)
    (hv2 : s2.node v2 = some st2)
    (k : Nat) (hk1 : k ≤ st1.raft.raftLog.committed) (hk2 : k ≤ st2.raft.raftLog.committed) :
    st1.raft.raftLog.abs.entryAt k = st2.raft.raftLog.abs.entryAt k :=
  RaftProps.C01d.C01_cluster_state_machine_safety cfg c0 h H.toHyp3w m1 s1 hm1 v1 st1 hv1 m2 s2 hm2
    v2 st2 hv2 k hk1 hk2

/-- … in particular for the **applied** entries of two nodes whose applied index is within their
commit index (`AppliedOk`, which holds outside the restart window — `raft_log.rs:44-46`). -/
theorem C01_cluster_state_machine_safety_applied (cfg : JointConfig) (c0 : Nat) (h : List Sys)
    (H : Hyp3 cfg c0 h)
    (m1 : Nat) (s1 : Sys) (hm1 : h[m1]? = some s1) (v1 : Nat) (st1 : NState)
    (hv1 : s1.node v1 = some st1) (ha1 : st1.raft.raftLog.AppliedOk)
    (m2 : Nat) (s2 : Sys) (hm2 : h[m2]? = some s2) (v2 : Nat) (st2 : NState)
    (hv2 : s2.node v2 = some st2) (ha2 : st2.raft.raftLog.AppliedOk)
    (k : Nat) (hk1 : k ≤ st1.raft.raftLog.applied) (hk2 : k ≤ st2.raft.raftLog.applied) :
    st1.raft.raftLog.abs.entryAt k = st2.raft.raftLog.abs.entryAt k :=
  C01_cluster_state_machine_safety cfg c0 h H m1 s1 hm1 v1 st1 hv1 m2 s2 hm2 v2 st2 hv2 k
    (Nat.le_trans hk1 ha1) (Nat.le_trans hk2 ha2)

/-! ## Non-vacuity: a leader commits an entry using a follower's acknowledgement (kernel-evaluated)

`RaftProofs/ClusterCommit3H.lean`: the history of `C05_cluster_nonvacuous` continued by
`on_persist_entries(1, 1)` at node 1, `stabilize` and `send` at node 2, and the delivery of node 2's
accepting `MsgAppendResponse` to node 1, which moves node 1's commit index from 0 to 1. -/

section Examples
open RaftProps.C02 RaftProps.C05

/-- **non-vacuity of the commit layer**: there is a history of `ClusterSem` that satisfies every
hypothesis of the theorems above (`Hyp3`, voters `{1, 2, 3}`, `c0 = 0`) and in which a step takes the
commit index of node 1, leader of term 1, from 0 to 1, the entry at index 1 carrying term 1; the
transport holds the accepting `MsgAppendResponse` of node 2 for term 1 and index 1 before that step, and
the storage of node 2 holds that entry. -/
theorem C01_cluster_nonvacuous :
    ∃ h : List Sys, Hyp3 c02x_cfg 0 h ∧
      ∃ (n : Nat) (a b : Sys) (sta stb stj : NState) (x : Message) (e : Entry),
        h[n]? = some a ∧ h[n + 1]? = some b ∧ a.node 1 = some sta ∧ b.node 1 = some stb ∧
        stb.raft.state = .leader ∧ stb.raft.term = 1 ∧ sta.raft.raftLog.committed = 0 ∧
        stb.raft.raftLog.committed = 1 ∧ stb.raft.raftLog.abs.entryAt 1 = some e ∧ e.term = 1 ∧
        x ∈ a.net ∧ x.msgType = .msgAppendResponse ∧ x.reject = false ∧ x.frm = 2 ∧ x.term = 1 ∧
        x.index = 1 ∧ a.node 2 = some stj ∧
        (storeLog stj.raft.raftLog.store).entryAt 1 = some e :=
  have ⟨_, ⟨l1, l2, l3, l4, l5, l6⟩, ⟨hne, x1, x2, x3, x4, x5⟩, hst⟩ := c01x_eval
  ⟨c01x_hist, c01x_hyp3, 13, c01x_s13, c01x_s14, c01x_a7, c01x_a8, c01x_b6, c01x_ack,
    c05x_app.entries.head!, rfl, rfl, rfl, rfl, l1, l2, l3, l4, l5, l6,
    List.mem_append_right _ (c02x_head_mem _ hne), x1, x2, x3, x4, x5, rfl, hst⟩

/-- … and the theorems apply to it: State-Machine Safety between the last two states -/
example (v1 v2 : Nat) (st1 st2 : NState) (h1 : c01x_s13.node v1 = some st1)
    (h2 : c01x_s14.node v2 = some st2) (k : Nat) (hk1 : k ≤ st1.raft.raftLog.committed)
    (hk2 : k ≤ st2.raft.raftLog.committed) :
    st1.raft.raftLog.abs.entryAt k = st2.raft.raftLog.abs.entryAt k :=
  C01_cluster_state_machine_safety c02x_cfg 0 c01x_hist c01x_hyp3 13 c01x_s13 rfl v1 st1 h1
    14 c01x_s14 rfl v2 st2 h2 k hk1 hk2

end Examples

end RaftProps.C01
