import RaftProps.C11
import RaftProps.C14
import RaftProps.C18
import RaftProps.C19
import RaftProofs.ProtoLStep
import RaftProps.RN

/-!
# C20 — no panic or internal-check failure under contract-abiding use

In the Lean models every `panic!`, `fatal!`, `assert!`, `unwrap`, slice / index out of bounds and
u64 overflow of the Rust code is an explicit outcome (`Res.panic site` / `Except.error site`), so
"does not panic" is a statement one can prove.  This file collects, per modelled component, the
theorem that **no panic site is reachable from states satisfying the component's invariant under
calls that satisfy its documented contract**, for operation sequences of any length:

* in-flight window (`inflights.rs`): only `add` on a full window panics (`C20_inflights`);
* `MemStorage` (`storage.rs`): every history whose calls satisfy the documented preconditions
  runs without panic (`C20_memstorage`);
* `RaftLog`/`Unstable` (`raft_log.rs`, `log_unstable.rs`): every sequence of append / maybe_append /
  commit_to / maybe_persist / applied_to / restore under their contracts runs without panic and
  keeps `applied ≤ committed ≤ last` (`C20_raftlog`); the hand-out bound no longer overflows
  (`C20_applied_bound_total`, finding F6 repaired);
* quorum arithmetic (`majority.rs`, `joint.rs`): never panics, for every input (`C20_quorum`);
* the one cross-node input condition behind `fatal!("entry … conflict with committed entry")` and
  `to_commit out of range`: on the abstract protocol P an append is accepted only if it does not
  conflict at or below the commit index and commit indexes stay inside the log; the implementation
  is held to that on every trace (`C20_append_never_conflicts_below_commit_obligation`).

The handler code of `raft.rs` is covered in `RaftProps/C20b.lean` (for `Raft::step`: a panic is one
of an explicit list of sites and an explicit precondition on state / message held,
`C20_step_panics_only_if`) and the Ready layer of `raw_node.rs` in `RaftProps/C07b.lean`
(`C07_no_panic_quiet`: no call that hands nothing out panics along a contract-abiding trace).  What
stays outside theorems — `ready` / `advance_append` under facts about `Raft` the RawNode model does
not carry, the calls not reachable from `step` — is decided on implementation traces: every library
call of every simulated node is wrapped in `catch_unwind` and a panic is a violation with its
history (this is how findings F2, F4, F6, F7 were found and repaired).
-/
namespace RaftProps.C20
open RaftModel

theorem C20_inflights (s : Inflights) (h : s.Inv) (op : InfOp) :
    (∃ s', s.step op = .ok s') ∨ (∃ x, op = .add x ∧ s.full = true) :=
  RaftProps.C18.C18_no_internal_panic s h op

theorem C20_inflights_sequences (cap : Nat) (ops : List InfOp)
    (hl : RaftProps.C18.legal (Fifo.new cap) ops = true) :
    ∃ s', RaftProps.C18.runRing (Inflights.new cap) ops = .ok s' ∧ s'.Inv := by
  obtain ⟨s', e, i, _⟩ := RaftProps.C18.C18_refines cap ops hl
  exact ⟨s', e, i⟩

theorem C20_memstorage (ops : List StorageOp) (hl : MemStorage.new.abs.legal ops = true) :
    ∃ s', MemStorage.new.run ops = .ok s' ∧ s'.Inv := by
  obtain ⟨s', e, i, _⟩ := RaftProps.C19.C19_refines ops hl
  exact ⟨s', e, i⟩

theorem C20_raftlog (ops : List RaftProps.C14.Op) (l : RaftLog) (h : RaftProps.C14.RaftLogInv l) (ha : l.AppliedOk)
    (hl : RaftProps.C14.legalSeq l ops) :
    ∃ l', RaftProps.C14.run l ops = .ok l' ∧ RaftProps.C14.RaftLogInv l' ∧ l'.AppliedOk ∧ l'.committed ≤ l'.lastIndex := by
  obtain ⟨l', e, i, a, _, c, _⟩ := RaftProps.C14.C14_run ops l h ha hl
  exact ⟨l', e, i, a, c⟩

theorem C20_applied_bound_total (l : RaftLog) : ∃ ub, l.appliedIndexUpperBound = .ok ub := by
  obtain ⟨ub, e, _⟩ := RaftProps.C14.C14_applied_upper_bound_saturates l
  exact ⟨ub, e⟩

theorem C20_quorum (c : JointConfig) (ack : Nat → Option Index) (gc : Bool) :
    Joint.committedIndexR c ack gc = .ok (Joint.committedIndex c ack gc) :=
  RaftProps.C11.joint_committedIndex_never_panics c ack gc

/-- an append is accepted by a node of P only if it is anchored inside the node's log and its first
conflicting entry (if any) lies above the node's commit index — the two conditions whose violation
makes the real `maybe_append` fatal — and afterwards the committed prefix is unchanged -/
theorem C20_append_never_conflicts_below_commit_obligation (s s' : P.PSys) (i : Nat) (m : P.App)
    (h : P.applyEvent s (.recvApp i m) = .ok s') :
    m.prev ≤ (s.nodes i).log.length ∧
    (P.conflictAt (s.nodes i).log m.prev m.es = 0 ∨
      (s.nodes i).commit < P.conflictAt (s.nodes i).log m.prev m.es) := by
  simp only [P.applyEvent, P.ok] at h
  split at h
  · rename_i hg; exact ⟨hg.2.2.2.2.1, hg.2.2.2.2.2.2⟩
  · cases h


/-! ### the `RawNode::step` filter and the repaired panic sites, on the executable node model -/

/-- local message types are refused by `RawNode::step` (an error, not a panic) and change nothing -/
theorem C20_rawnode_step_rejects_local (r : RaftModel.Raft) (m : RaftModel.Message)
    (h : RaftModel.isLocalMsg m.msgType = true) :
    RaftModel.RawNode.step r m = .ok (r, some .stepLocalMsg) :=
  RaftProps.RN.rawnode_step_rejects_local r m h

/-- a response from a peer the node has no `Progress` for is refused and changes nothing -/
theorem C20_rawnode_step_rejects_unknown_peer (r : RaftModel.Raft) (m : RaftModel.Message)
    (hl : RaftModel.isLocalMsg m.msgType = false) (hr : RaftModel.isResponseMsg m.msgType = true)
    (hp : r.prs.get m.frm = none) :
    RaftModel.RawNode.step r m = .ok (r, some .stepPeerNotFound) :=
  RaftProps.RN.rawnode_step_rejects_unknown_peer r m hl hr hp

/-- finding F13, repaired: a rejected pre-vote response is sent whatever its term (a node that has
not seen any term yet no longer hits the "term should be set" fatal) -/
theorem C20_prevote_reject_is_always_sent (r : RaftModel.Raft) (m' : RaftModel.Message)
    (h1 : m'.msgType = .msgRequestPreVoteResponse) (h2 : m'.reject = true) :
    r.send m' = .ok { r with msgs := r.msgs ++ [r.sendFill m'] } :=
  RaftProps.RN.prevote_reject_is_always_sent r m' h1 h2

end RaftProps.C20
