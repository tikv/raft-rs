import RaftProofs.ClusterCommitBatchBundles
import RaftProps.C01l

/-!
# C01 / C03 / C04 (and C05), cluster level, with `batch_append` allowed and **nothing assumed about queues** — unconditional

`RaftProps/C01l.lean` showed that the hypothesis `mute` of C01k (`SaneQ`: the *mute* nodes — a `MsgSnapshot`
is queued, so under `nosnap` they never send again before a restart — queue no `MsgAppend` anchored in the
void) is **not derivable** from the rest of the bundle (`C01l_saneQ_not_derivable`, the 44-state history
`c01l_hist`), and stated the six theorems conditionally.  This file proves them under

    ClusterB.Hyp3wL cfg c0 h        -- C01d's `Hyp3w` without `NoBatch`, plus `c0 = 0`; no `mute` / `SaneQ` / `nosq`

by **route (1)** of `RaftProps/C01l.REPORT.md`: the Log Matching layer (C05 / C05d: `Cluster.At`, `InvL`,
`Prov`, `Trans`, `SaneAnchors`, …) is stated for a predicate `live` on message queues
(namespace `Cluster.Live` of `RaftProofs/ClusterLogI.lean` … `ClusterBatchK.lean`), so that *"every list of entries in the state"* can
**skip the message queues of mute nodes** (`Cluster.M.At`, `RaftProofs/ClusterLogMute.lean`), and the commit
layer with batching (`RaftProofs/ClusterCommitBatchHyp.lean` … `ClusterCommit6D.lean`, namespace `ClusterB.M`) is developed over
that instance.  The one new per-call fact — *a queued `MsgSnapshot` stays queued within a call*
(`Cluster.M.MonoQ` / `MonoS`) — is a hypothesis of the Log Matching layer and is **derived** in the commit-layer
induction (`ClusterB.M.ci_callK`, from `Raft.PB.PWb.sn`), together with `SaneAnchors` at the non-mute nodes
(`CI.qa`), exactly as `anch` / `rirs` were in C01f.

* the six theorems of C01f / C01k / C01l, statements verbatim, under `Hyp3wL` alone;
* `C05_cluster_log_matching_batch_unconditional` (+ `C01m_chains_agree`): Log Matching for logs, storages,
  transport and the queues of non-mute nodes, batching on, **no anchor hypothesis** (C05d's `BatchOk` /
  `SaneAnchors` is gone; the commit-layer contract `Hyp3wL` replaces it);
* `C01m_queued_snapshot_stays`, `C01m_sane_anchors`: the two derived facts;
* comparison: `C01m_subsumes_C01l`, `C01m_subsumes_C01k`, `C01m_subsumes_C01d`, `C01m_strictly_more`;
* non-vacuity **beyond C01k / C01l**: State-Machine Safety applied to `c01l_hist`, which violates `SaneQ` and
  `NoBatch` (`C01m_counterexample_history_covered`, and the `example` after it).
-/
namespace RaftProps.C01m
open RaftModel RaftModel.Cluster RaftModel.ClusterB RaftModel.Node RaftModel.Raft RaftModel.Raft.CC
  RaftModel.Raft.CP RaftProps.C02

/-- **C01l's conditional theorems are special cases**: their hypotheses `Hyp3wL` + `mute` contain `Hyp3wL` -/
theorem C01m_subsumes_C01l {cfg : JointConfig} {c0 : Nat} {h : List Sys} (H : Hyp3wL cfg c0 h)
    (_hmute : (∀ s ∈ h, NoBatch s) ∨ (∀ s ∈ h, SaneQ s)) : Hyp3wL cfg c0 h := H

/-- **C01k is a special case** (forget `mute`) -/
theorem C01m_subsumes_C01k {cfg : JointConfig} {c0 : Nat} {h : List Sys} (H : Hyp3wK cfg c0 h) :
    Hyp3wL cfg c0 h := H.toHyp3wL

/-- **C01d with `c0 = 0` is a special case** -/
theorem C01m_subsumes_C01d {cfg : JointConfig} {h : List Sys} (H : Hyp3w cfg 0 h) :
    Hyp3wL cfg 0 h := Hyp3wL.of_hyp3w H

/-- `Hyp3wL` is the bundle `M.Hyp3wQ` of the commit layer over the instance that skips mute queues -/
theorem C01m_bundle_iff {cfg : JointConfig} {c0 : Nat} {h : List Sys} :
    Hyp3wL cfg c0 h ↔ ClusterB.M.Hyp3wQ cfg c0 h :=
  ⟨Hyp3wL.toHyp3wQM, Hyp3wL.of_hyp3wQM⟩

/-- **strictly more histories than C01k / C01l's conditional theorems**: a history under `Hyp3wL` that is
not under `Hyp3wK` (a state violates `SaneQ`, a state violates `NoBatch`) -/
theorem C01m_strictly_more :
    ∃ h : List Sys, Hyp3wL c02x_cfg 0 h ∧ ¬ Hyp3wK c02x_cfg 0 h ∧
      (∃ s ∈ h, ¬ SaneQ s) ∧ (∃ s ∈ h, ¬ NoBatch s) :=
  ⟨c01l_hist, c01l_hyp3wL, c01l_not_hyp3wK, ⟨_, c01l_s40_mem, c01l_not_saneQ⟩,
    ⟨_, c01l_s43_mem, c01l_not_noBatch⟩⟩

/-! ## the two derived facts -/

/-- **a queued `MsgSnapshot` stays queued until the queue is emptied** (`send`, restart): for every step
`h[n] → h[n+1]` and every node, if a `MsgSnapshot` is queued before the step, one is queued after it or the
queue is empty -/
theorem C01m_queued_snapshot_stays (cfg : JointConfig) (c0 : Nat) (h : List Sys) (H : Hyp3wL cfg c0 h)
    (n : Nat) (a b : Sys) (ha : h[n]? = some a) (hb : h[n + 1]? = some b)
    (i : Nat) (st st' : NState) (hi : a.node i = some st) (hi' : b.node i = some st')
    (hq : ∃ x ∈ st.raft.msgs, x.msgType = .msgSnapshot) :
    (∃ x ∈ st'.raft.msgs, x.msgType = .msgSnapshot) ∨ st'.raft.msgs = [] :=
  H.mono n a b ha hb i st st' hi hi' hq

/-- **no `MsgAppend` queued at a non-mute node (and none in the transport) is anchored in the void** -/
theorem C01m_sane_anchors (cfg : JointConfig) (c0 : Nat) (h : List Sys) (H : Hyp3wL cfg c0 h)
    (s : Sys) (hs : s ∈ h) (i : Nat) (st : NState) (hi : s.node i = some st)
    (hnq : ¬ ∃ y ∈ st.raft.msgs, y.msgType = .msgSnapshot)
    (x : Message) (hx : x ∈ st.raft.msgs) (hty : x.msgType = .msgAppend) (hz : x.logTerm = 0) :
    x.index = 0 :=
  H.sane s hs i st hi hnq x hx hty hz

/-! ## Log Matching with batching, no anchor hypothesis -/

/-- **all chains agree**: in every state of a history under `Hyp3wL`, any two lists of entries of the state
— logical logs, stored logs, transported `MsgAppend`s, and the `MsgAppend`s queued **at nodes without a
queued `MsgSnapshot`** (`Cluster.M.At`) — agree: same index and term ⇒ same entry and same predecessor term.
(At the queue of a mute node this is false: `C01l_saneQ_not_derivable`.) -/
theorem C01m_chains_agree (cfg : JointConfig) (c0 : Nat) (h : List Sys) (H : Hyp3wL cfg c0 h)
    (s : Sys) (hs : s ∈ h) (l1 l2 : Loc) (g1 g2 : LLog)
    (h1 : Cluster.M.At s l1 g1) (h2 : Cluster.M.At s l2 g2) : Agree g1 g2 := by
  obtain ⟨s0, _, hall⟩ := H.invLB
  exact (hall s hs).1.agree l1 g1 l2 g2 h1 h2

/-- **C05 `cluster_log_matching`, batching allowed, unconditional** — the statement of
`C05_cluster_log_matching_batch` (`RaftProps/C05d.lean`) under the commit-layer contract `Hyp3wL` instead
of `BatchOk` (no `SaneAnchors`): in every state of the history and for any two nodes `i`, `j`: if their
logical logs hold entries with the same term at index `k`, then at every index `k' ≤ k` at which BOTH still
hold an entry, the two entries are equal. -/
theorem C05_cluster_log_matching_batch_unconditional (cfg : JointConfig) (c0 : Nat) (h : List Sys)
    (H : Hyp3wL cfg c0 h)
    (s : Sys) (hs : s ∈ h) (i j : Nat) (sti stj : NState)
    (hi : s.node i = some sti) (hj : s.node j = some stj)
    (k : Nat) (e e' : Entry) (he : sti.raft.raftLog.abs.entryAt k = some e)
    (he' : stj.raft.raftLog.abs.entryAt k = some e') (ht : e.term = e'.term)
    (k' : Nat) (hk : k' ≤ k) (a b : Entry) (ha : sti.raft.raftLog.abs.entryAt k' = some a)
    (hb' : stj.raft.raftLog.abs.entryAt k' = some b) : a = b := by
  have hag := C01m_chains_agree cfg c0 h H s hs (.log i) (.log j) _ _ ⟨sti, hi, rfl⟩ ⟨stj, hj, rfl⟩
  exact agree_matching hag (k - k') k e e' he he' ht k' a b (by omega) ha hb'

/-- … and a transported `MsgAppend` is, entry by entry, consistent with every log: if the message and the
log of node `j` hold entries with the same term at index `k`, they are the same entry -/
theorem C05_cluster_transport_matches_log_unconditional (cfg : JointConfig) (c0 : Nat) (h : List Sys)
    (H : Hyp3wL cfg c0 h) (s : Sys) (hs : s ∈ h) (x : Message) (hx : x ∈ s.net)
    (hty : x.msgType = .msgAppend) (j : Nat) (stj : NState) (hj : s.node j = some stj)
    (k : Nat) (e e' : Entry) (he : (msgLog x).entryAt k = some e)
    (he' : stj.raft.raftLog.abs.entryAt k = some e') (ht : e.term = e'.term) : e = e' :=
  (C01m_chains_agree cfg c0 h H s hs .net (.log j) _ _ ⟨x, hx, hty, rfl⟩ ⟨stj, hj, rfl⟩ k e e' he he'
    ht).1

end RaftProps.C01m

namespace RaftModel.ClusterB
open RaftModel RaftModel.Cluster RaftModel.Node RaftModel.Raft RaftModel.Raft.CC

/-! ## the six theorems of C01f / C01k / C01l under `Hyp3wL` alone — **no `mute`, `SaneQ`, `nosq` hypothesis** -/

/-- **C04 `cluster_leader_commit_rule`** — the commit rule with **durable acknowledgements**: whenever
a step `h[n] → h[n+1]` takes the commit index of a node `l` that is leader of term `t` after the step
from `c` to `c' > c`, the entry at `c'` in its log carries term `t`, and there is a joint quorum `Q` of
`cfg` such that every `j ∈ Q` is

* `l` itself, with `persisted ≥ c'` — and its storage holds its log up to `c'`; or
* the sender of an accepting `MsgAppendResponse` `x` for term `t` with `index ≥ c'` that is in the
  transport before the step, **and in every state of the history whose transport holds `x` — from the
  moment `x` entered the transport on — the storage of `j` holds `l`'s log up to `c'`**. -/
theorem _root_.RaftProps.C01m.C04_cluster_leader_commit_rule (cfg : JointConfig) (c0 : Nat) (h : List Sys)
    (H : Hyp3wL cfg c0 h)
    (n : Nat) (a b : Sys) (ha : h[n]? = some a) (hb : h[n + 1]? = some b)
    (l : Nat) (sta stb : NState) (hla : a.node l = some sta) (hlb : b.node l = some stb)
    (t : Nat) (hs : stb.raft.state = .leader) (ht : stb.raft.term = t)
    (hc : sta.raft.raftLog.committed < stb.raft.raftLog.committed) :
    stb.raft.raftLog.term stb.raft.raftLog.committed = .ok t ∧
    ∃ Q, IsJointQuorum cfg Q ∧ ∀ j ∈ Q,
      (j = l ∧ stb.raft.raftLog.committed ≤ stb.raft.raftLog.persisted ∧
        ∀ k, k ≤ stb.raft.raftLog.committed →
          (storeLog stb.raft.raftLog.store).entryAt k = stb.raft.raftLog.abs.entryAt k) ∨
      ∃ x ∈ a.net, x.msgType = .msgAppendResponse ∧ x.reject = false ∧ x.frm = j ∧ x.term = t ∧
        stb.raft.raftLog.committed ≤ x.index ∧
        ∀ (m : Nat) (s : Sys) (stj : NState), h[m]? = some s → x ∈ s.net → s.node j = some stj →
          ∀ k, k ≤ stb.raft.raftLog.committed →
            (storeLog stj.raft.raftLog.store).entryAt k = stb.raft.raftLog.abs.entryAt k :=
  M.leader_commit_rule cfg c0 h H.toHyp3wQM n a b ha hb l sta stb hla hlb t hs ht hc

/-- **C03 `cluster_leader_completeness`** — every entry a leader has committed is in the log of every
leader of a later term: if a step `h[n] → h[n+1]` takes the commit index of `l`, leader of term `t`
after the step, to `c'`, then any node that leads a term `t' > t` in any state `h[m]` of the history
holds, at every index up to `c'`, the entry `l` held there. -/
theorem _root_.RaftProps.C01m.C03_cluster_leader_completeness (cfg : JointConfig) (c0 : Nat) (h : List Sys)
    (H : Hyp3wL cfg c0 h)
    (n : Nat) (a b : Sys) (ha : h[n]? = some a) (hb : h[n + 1]? = some b)
    (l : Nat) (sta stb : NState) (hla : a.node l = some sta) (hlb : b.node l = some stb)
    (hs : stb.raft.state = .leader)
    (hc : sta.raft.raftLog.committed < stb.raft.raftLog.committed)
    (m : Nat) (s : Sys) (hm : h[m]? = some s) (l' : Nat) (st' : NState)
    (hl' : s.node l' = some st') (hs' : st'.raft.state = .leader)
    (ht : stb.raft.term < st'.raft.term) :
    ∀ k, k ≤ stb.raft.raftLog.committed →
      st'.raft.raftLog.abs.entryAt k = stb.raft.raftLog.abs.entryAt k :=
  M.leader_completeness cfg c0 h H.toHyp3wQM n a b ha hb l sta stb hla hlb hs hc m s hm l' st' hl' hs' ht

/-- **C04 `cluster_follower_commit_sound`** — *every* commit index is sound: in every state `h[m]`,
what a node `v` has marked committed is at most the common snapshot point `c0`, or it was committed by
a leader: there is an earlier step `h[n] → h[n+1]` (`n < m`) that took the commit index of a node `l`,
leader of a term `t ≤ term(v)` after the step, to some `c' ≥ committed(v)`, and the log of `v` equals
the log `l` had then up to `committed(v)`. -/
theorem _root_.RaftProps.C01m.C04_cluster_follower_commit_sound (cfg : JointConfig) (c0 : Nat) (h : List Sys)
    (H : Hyp3wL cfg c0 h) (m : Nat) (s : Sys) (hm : h[m]? = some s) (v : Nat) (st : NState)
    (hv : s.node v = some st) :
    st.raft.raftLog.committed ≤ c0 ∨
    ∃ (n : Nat) (a b : Sys) (l : Nat) (sta stb : NState), n < m ∧ h[n]? = some a ∧
      h[n + 1]? = some b ∧ a.node l = some sta ∧ b.node l = some stb ∧
      stb.raft.state = .leader ∧ sta.raft.raftLog.committed < stb.raft.raftLog.committed ∧
      st.raft.raftLog.committed ≤ stb.raft.raftLog.committed ∧ stb.raft.term ≤ st.raft.term ∧
      ∀ k, k ≤ st.raft.raftLog.committed →
        st.raft.raftLog.abs.entryAt k = stb.raft.raftLog.abs.entryAt k :=
  M.follower_commit_sound cfg c0 h H.toHyp3wQM m s hm v st hv

/-- … and so is every **stored** commit index (what a restarted node starts from): it is not ahead of
the commit index, and it is covered by a leader's commit of a term not above the stored term, with the
stored entries. -/
theorem _root_.RaftProps.C01m.C04_cluster_stored_commit_sound (cfg : JointConfig) (c0 : Nat) (h : List Sys)
    (H : Hyp3wL cfg c0 h) (m : Nat) (s : Sys) (hm : h[m]? = some s) (v : Nat) (st : NState)
    (hv : s.node v = some st) :
    st.raft.raftLog.store.hardState.commit ≤ st.raft.raftLog.committed ∧
    (st.raft.raftLog.store.hardState.commit ≤ c0 ∨
     ∃ (n : Nat) (a b : Sys) (l : Nat) (sta stb : NState), n < m ∧ h[n]? = some a ∧
      h[n + 1]? = some b ∧ a.node l = some sta ∧ b.node l = some stb ∧
      stb.raft.state = .leader ∧ sta.raft.raftLog.committed < stb.raft.raftLog.committed ∧
      st.raft.raftLog.store.hardState.commit ≤ stb.raft.raftLog.committed ∧
      stb.raft.term ≤ st.raft.raftLog.store.hardState.term ∧
      ∀ k, k ≤ st.raft.raftLog.store.hardState.commit →
        (storeLog st.raft.raftLog.store).entryAt k = stb.raft.raftLog.abs.entryAt k) :=
  M.stored_commit_sound cfg c0 h H.toHyp3wQM m s hm v st hv

/-- **C01 `cluster_state_machine_safety`** — any two nodes, in any two states of the history (the same
node before and after a restart included), hold the same entry at every index both have marked
committed. -/
theorem _root_.RaftProps.C01m.C01_cluster_state_machine_safety (cfg : JointConfig) (c0 : Nat) (h : List Sys)
    (H : Hyp3wL cfg c0 h)
    (m1 : Nat) (s1 : Sys) (hm1 : h[m1]? = some s1) (v1 : Nat) (st1 : NState)
    (hv1 : s1.node v1 = some st1)
    (m2 : Nat) (s2 : Sys) (hm2 : h[m2]? = some s2) (v2 : Nat) (st2 : NState)
    (hv2 : s2.node v2 = some st2)
    (k : Nat) (hk1 : k ≤ st1.raft.raftLog.committed) (hk2 : k ≤ st2.raft.raftLog.committed) :
    st1.raft.raftLog.abs.entryAt k = st2.raft.raftLog.abs.entryAt k :=
  M.state_machine_safety cfg c0 h H.toHyp3wQM m1 s1 hm1 v1 st1 hv1 m2 s2 hm2 v2 st2 hv2 k hk1 hk2

/-- … in particular for the **applied** entries of two nodes whose applied index is within their
commit index (`AppliedOk`, which holds outside the restart window — `raft_log.rs:44-46`). -/
theorem _root_.RaftProps.C01m.C01_cluster_state_machine_safety_applied (cfg : JointConfig) (c0 : Nat)
    (h : List Sys) (H : Hyp3wL cfg c0 h)
    (m1 : Nat) (s1 : Sys) (hm1 : h[m1]? = some s1) (v1 : Nat) (st1 : NState)
    (hv1 : s1.node v1 = some st1) (ha1 : st1.raft.raftLog.AppliedOk)
    (m2 : Nat) (s2 : Sys) (hm2 : h[m2]? = some s2) (v2 : Nat) (st2 : NState)
    (hv2 : s2.node v2 = some st2) (ha2 : st2.raft.raftLog.AppliedOk)
    (k : Nat) (hk1 : k ≤ st1.raft.raftLog.applied) (hk2 : k ≤ st2.raft.raftLog.applied) :
    st1.raft.raftLog.abs.entryAt k = st2.raft.raftLog.abs.entryAt k :=
  RaftProps.C01m.C01_cluster_state_machine_safety cfg c0 h H m1 s1 hm1 v1 st1 hv1 m2 s2 hm2 v2 st2 hv2
    k (Nat.le_trans hk1 ha1) (Nat.le_trans hk2 ha2)

end RaftModel.ClusterB

namespace RaftProps.C01m
open RaftModel RaftModel.Cluster RaftModel.ClusterB RaftModel.Node RaftModel.Raft RaftProps.C02

/-! ## Non-vacuity beyond C01k / C01l -/

/-- **State-Machine Safety holds in the history `c01l_hist`** of `RaftProofs/ClusterCommit7B.lean` (44
states; node 1 ends as a mute leader whose queue holds a `MsgAppend` anchored in the void with entry 4 glued
onto it) — a history that violates `SaneQ` and `NoBatch`, so neither C01k nor the conditional theorems of
C01l apply to it -/
theorem C01m_counterexample_history_covered :
    (¬ Hyp3wK c02x_cfg 0 c01l_hist) ∧
    ∀ (m1 : Nat) (s1 : Sys), c01l_hist[m1]? = some s1 → ∀ (v1 : Nat) (st1 : NState),
      s1.node v1 = some st1 → ∀ (m2 : Nat) (s2 : Sys), c01l_hist[m2]? = some s2 →
      ∀ (v2 : Nat) (st2 : NState), s2.node v2 = some st2 →
      ∀ k, k ≤ st1.raft.raftLog.committed → k ≤ st2.raft.raftLog.committed →
        st1.raft.raftLog.abs.entryAt k = st2.raft.raftLog.abs.entryAt k :=
  ⟨c01l_not_hyp3wK, fun m1 s1 hm1 v1 st1 hv1 m2 s2 hm2 v2 st2 hv2 k hk1 hk2 =>
    C01_cluster_state_machine_safety c02x_cfg 0 c01l_hist c01l_hyp3wL m1 s1 hm1 v1 st1 hv1 m2 s2 hm2
      v2 st2 hv2 k hk1 hk2⟩

/-- the same, as an `example`: State-Machine Safety between the last state of `c01l_hist` (state 43, where
`SaneQ`, `NoBatch` and C05d's `InvL` fail) and any other state of it -/
example (v1 : Nat) (st1 : NState) (hv1 : c01l_s43.node v1 = some st1)
    (m2 : Nat) (s2 : Sys) (hm2 : c01l_hist[m2]? = some s2) (v2 : Nat) (st2 : NState)
    (hv2 : s2.node v2 = some st2) (k : Nat) (hk1 : k ≤ st1.raft.raftLog.committed)
    (hk2 : k ≤ st2.raft.raftLog.committed) :
    st1.raft.raftLog.abs.entryAt k = st2.raft.raftLog.abs.entryAt k := by
  obtain ⟨m1, hm1⟩ := List.mem_iff_getElem?.1 c01l_s43_mem
  exact C01_cluster_state_machine_safety c02x_cfg 0 c01l_hist c01l_hyp3wL m1 _ hm1 v1 st1 hv1 m2 s2 hm2
    v2 st2 hv2 k hk1 hk2

/-- … and Log Matching (logs) holds in that last state although its queue at node 1 is not a slice of the
log -/
example (i j : Nat) (sti stj : NState) (hi : c01l_s43.node i = some sti)
    (hj : c01l_s43.node j = some stj) (k : Nat) (e e' : Entry)
    (he : sti.raft.raftLog.abs.entryAt k = some e) (he' : stj.raft.raftLog.abs.entryAt k = some e')
    (ht : e.term = e'.term) : e = e' :=
  C05_cluster_log_matching_batch_unconditional c02x_cfg 0 c01l_hist c01l_hyp3wL c01l_s43 c01l_s43_mem
    i j sti stj hi hj k e e' he he' ht k (Nat.le_refl k) e e' he he'

end RaftProps.C01m
